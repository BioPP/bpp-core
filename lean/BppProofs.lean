import BppProofs.Lemmas.Alias
import BppProofs.Lemmas.AliasCheck
import BppProofs.Lemmas.AliasCopy
import BppProofs.Lemmas.AliasFrame
import BppProofs.Lemmas.AliasHist
import BppProofs.Lemmas.AliasInv
import BppProofs.Lemmas.AliasKeepSync
import BppProofs.Lemmas.AliasLink
import BppProofs.Lemmas.AliasOk
import BppProofs.Lemmas.AliasQuery
import BppProofs.Lemmas.AliasRefuse
import BppProofs.Lemmas.AliasReturns
import BppProofs.Lemmas.AliasStep
import BppProofs.Lemmas.AliasView
import BppProofs.Lemmas.AliasViewInv
import BppProofs.Lemmas.AliasViewOps
import BppProofs.Lemmas.AliasWrites
import BppProofs.Lemmas.AttrU
import BppProofs.Lemmas.Dag
import BppProofs.Lemmas.DagObs
import BppProofs.Lemmas.Describe
import BppProofs.Lemmas.DescribeRat
import BppProofs.Lemmas.Discretize
import BppProofs.Lemmas.DiscretizeCompound
import BppProofs.Lemmas.DiscretizeCompoundHistory
import BppProofs.Lemmas.DiscretizeEqInt
import BppProofs.Lemmas.DiscretizeEqProp
import BppProofs.Lemmas.DiscretizeFamHistory
import BppProofs.Lemmas.DiscretizeFamInst
import BppProofs.Lemmas.DiscretizeFamilies
import BppProofs.Lemmas.DiscretizeHistory
import BppProofs.Lemmas.DiscretizeLookup
import BppProofs.Lemmas.DiscretizeMedian
import BppProofs.Lemmas.DiscretizeShared
import BppProofs.Lemmas.DiscretizeTermination
import BppProofs.Lemmas.DiscretizeWitness
import BppProofs.Lemmas.DistFuel
import BppProofs.Lemmas.DistGuards
import BppProofs.Lemmas.DistKernels
import BppProofs.Lemmas.DistText
import BppProofs.Lemmas.DistU
import BppProofs.Lemmas.EigenBook
import BppProofs.Lemmas.EigenGlue
import BppProofs.Lemmas.Glob
import BppProofs.Lemmas.Graph
import BppProofs.Lemmas.GraphIter
import BppProofs.Lemmas.GraphLegacy
import BppProofs.Lemmas.GraphLoops
import BppProofs.Lemmas.GraphNotify
import BppProofs.Lemmas.GraphOrient
import BppProofs.Lemmas.GraphRefine
import BppProofs.Lemmas.GraphSpec
import BppProofs.Lemmas.Hmm
import BppProofs.Lemmas.HmmAuto
import BppProofs.Lemmas.HmmCache
import BppProofs.Lemmas.HmmFlags
import BppProofs.Lemmas.HmmFullCache
import BppProofs.Lemmas.HmmFullReal
import BppProofs.Lemmas.HmmLogMarginal
import BppProofs.Lemmas.HmmMarginal
import BppProofs.Lemmas.HmmStationary
import BppProofs.Lemmas.Interval
import BppProofs.Lemmas.Keyval
import BppProofs.Lemmas.KeyvalU
import BppProofs.Lemmas.LU
import BppProofs.Lemmas.LURound
import BppProofs.Lemmas.LUSolve
import BppProofs.Lemmas.LUStore
import BppProofs.Lemmas.LUStoreFactor
import BppProofs.Lemmas.LUStoreSolve
import BppProofs.Lemmas.LUStoreVec
import BppProofs.Lemmas.Lap
import BppProofs.Lemmas.LapEasy
import BppProofs.Lemmas.LapFullArr
import BppProofs.Lemmas.LapFullBasic
import BppProofs.Lemmas.LapFullDj
import BppProofs.Lemmas.LapFullDj2
import BppProofs.Lemmas.LapFullFlip
import BppProofs.Lemmas.LapFullInit
import BppProofs.Lemmas.LapFullInv
import BppProofs.Lemmas.LapFullMain
import BppProofs.Lemmas.LapPriceWar
import BppProofs.Lemmas.LogSpace
import BppProofs.Lemmas.MatrixLoops
import BppProofs.Lemmas.MatrixMisc
import BppProofs.Lemmas.MatrixOfFn
import BppProofs.Lemmas.MatrixOps
import BppProofs.Lemmas.MatrixOps2
import BppProofs.Lemmas.MatrixReal
import BppProofs.Lemmas.MatrixReal2
import BppProofs.Lemmas.MatrixScan
import BppProofs.Lemmas.MatrixStore
import BppProofs.Lemmas.NestedRT
import BppProofs.Lemmas.NumDeriv
import BppProofs.Lemmas.NumDerivCaller
import BppProofs.Lemmas.NumDerivCross
import BppProofs.Lemmas.NumDerivDeleg
import BppProofs.Lemmas.NumDerivEntry
import BppProofs.Lemmas.NumDerivExact
import BppProofs.Lemmas.NumDerivExact5
import BppProofs.Lemmas.NumDerivExamples
import BppProofs.Lemmas.NumDerivFormulas
import BppProofs.Lemmas.NumDerivProgram
import BppProofs.Lemmas.NumDerivReach
import BppProofs.Lemmas.NumDerivSteps
import BppProofs.Lemmas.NumDerivUpdate
import BppProofs.Lemmas.NumFmt
import BppProofs.Lemmas.NumFmtArith
import BppProofs.Lemmas.Number
import BppProofs.Lemmas.NumberToInt
import BppProofs.Lemmas.Observer
import BppProofs.Lemmas.ObserverExt
import BppProofs.Lemmas.ObserverForget
import BppProofs.Lemmas.ObserverLegacy
import BppProofs.Lemmas.ObserverWorld
import BppProofs.Lemmas.Optim
import BppProofs.Lemmas.OptimBacktrack
import BppProofs.Lemmas.OptimBracket
import BppProofs.Lemmas.OptimBrent
import BppProofs.Lemmas.OptimCoord
import BppProofs.Lemmas.OptimCount
import BppProofs.Lemmas.OptimGolden
import BppProofs.Lemmas.OptimHistory
import BppProofs.Lemmas.OptimLine
import BppProofs.Lemmas.OptimLineOpt
import BppProofs.Lemmas.OptimLinePolicy
import BppProofs.Lemmas.OptimMetaProof
import BppProofs.Lemmas.OptimNewton
import BppProofs.Lemmas.OptimObjective
import BppProofs.Lemmas.OptimParam
import BppProofs.Lemmas.OptimPolicy
import BppProofs.Lemmas.OptimPolicy2
import BppProofs.Lemmas.OptimSimplex
import BppProofs.Lemmas.OptimSteps
import BppProofs.Lemmas.OptimSync
import BppProofs.Lemmas.PTree
import BppProofs.Lemmas.PTreeLine
import BppProofs.Lemmas.Param
import BppProofs.Lemmas.ParamList
import BppProofs.Lemmas.ParamListBulk
import BppProofs.Lemmas.ParamListCheck
import BppProofs.Lemmas.ParamListDelete
import BppProofs.Lemmas.ParamListExt
import BppProofs.Lemmas.ParamListFrame
import BppProofs.Lemmas.ParamListListen
import BppProofs.Lemmas.ParamListOwner
import BppProofs.Lemmas.ParamListStep
import BppProofs.Lemmas.ParamShared
import BppProofs.Lemmas.Rand
import BppProofs.Lemmas.RandGen
import BppProofs.Lemmas.RandLaw
import BppProofs.Lemmas.RandLawPred
import BppProofs.Lemmas.RandRcont
import BppProofs.Lemmas.RandWalk
import BppProofs.Lemmas.Range
import BppProofs.Lemmas.RangeInst
import BppProofs.Lemmas.RangeObj
import BppProofs.Lemmas.RecogU
import BppProofs.Lemmas.Reparam
import BppProofs.Lemmas.ReparamObj
import BppProofs.Lemmas.ScalarReal
import BppProofs.Lemmas.Simplex
import BppProofs.Lemmas.SimplexObj
import BppProofs.Lemmas.StrLite
import BppProofs.Lemmas.TableRT
import BppProofs.Lemmas.TableU
import BppProofs.Lemmas.TextToolsU
import BppProofs.Lemmas.TextU
import BppProofs.Lemmas.ToIntU
import BppProofs.Lemmas.TokBridge
import BppProofs.Lemmas.TokLoops
import BppProofs.Lemmas.TokRT
import BppProofs.Lemmas.TokenizerU
import BppProofs.Lemmas.Transform
import BppProofs.Lemmas.TreeBasic
import BppProofs.Lemmas.TreeCopy
import BppProofs.Lemmas.TreeDfs
import BppProofs.Lemmas.TreeDfsComplete
import BppProofs.Lemmas.TreeDfsSound
import BppProofs.Lemmas.TreeFamily
import BppProofs.Lemmas.TreeFuel
import BppProofs.Lemmas.TreeHistory
import BppProofs.Lemmas.TreeInd
import BppProofs.Lemmas.TreeMrca
import BppProofs.Lemmas.TreeNoUb
import BppProofs.Lemmas.TreeObs
import BppProofs.Lemmas.TreeObsCopy
import BppProofs.Lemmas.TreeObsReady
import BppProofs.Lemmas.TreePath
import BppProofs.Lemmas.TreeRefCheck
import BppProofs.Lemmas.TreeRefU
import BppProofs.Lemmas.TreeRemove
import BppProofs.Lemmas.TreeRootAt
import BppProofs.Lemmas.TreeRootAtU
import BppProofs.Lemmas.TreeRooted
import BppProofs.Lemmas.TreeSub
import BppProofs.Lemmas.TreeSwitch
import BppProofs.Lemmas.TreeValid
import BppProofs.Lemmas.TreeWalk
import BppProofs.Lemmas.Vars
import BppProofs.Lemmas.VecTools
import BppProofs.Lemmas.VecTools2
import BppProofs.Lemmas.VecToolsMaps
import BppProofs.Lemmas.VecToolsNoUb
import BppProofs.Lemmas.VecToolsOrder
import BppProofs.Lemmas.VecToolsSets
import BppProofs.Props.C01
import BppProofs.Props.C01Describe
import BppProofs.Props.C01Shared
import BppProofs.Props.C02
import BppProofs.Props.C02Audit
import BppProofs.Props.C02Complete
import BppProofs.Props.C02Listeners
import BppProofs.Props.C03
import BppProofs.Props.C03Hist
import BppProofs.Props.C03Sound
import BppProofs.Props.C04
import BppProofs.Props.C04Lap
import BppProofs.Props.C05
import BppProofs.Props.C05Rounding
import BppProofs.Props.C05Storage
import BppProofs.Props.C06
import BppProofs.Props.C06Book
import BppProofs.Props.C07
import BppProofs.Props.C07Log
import BppProofs.Props.C07More
import BppProofs.Props.C08
import BppProofs.Props.C08Kernels
import BppProofs.Props.C09
import BppProofs.Props.C09Compound
import BppProofs.Props.C09Shared
import BppProofs.Props.C10
import BppProofs.Props.C10Backtrack
import BppProofs.Props.C10Bracket
import BppProofs.Props.C10Brent
import BppProofs.Props.C10Budget
import BppProofs.Props.C10Budget2
import BppProofs.Props.C10Coord
import BppProofs.Props.C10Golden
import BppProofs.Props.C10History
import BppProofs.Props.C10Line
import BppProofs.Props.C10LinePolicy
import BppProofs.Props.C10Meta
import BppProofs.Props.C10Newton
import BppProofs.Props.C10Policy
import BppProofs.Props.C10Policy2
import BppProofs.Props.C10Simplex
import BppProofs.Props.C11
import BppProofs.Props.C11Copy
import BppProofs.Props.C11Wrapper
import BppProofs.Props.C12
import BppProofs.Props.C13
import BppProofs.Props.C14
import BppProofs.Props.C14Copy
import BppProofs.Props.C14Iter
import BppProofs.Props.C14Observer
import BppProofs.Props.C14Report
import BppProofs.Props.C14Witness
import BppProofs.Props.C15
import BppProofs.Props.C15Copy
import BppProofs.Props.C15Dag
import BppProofs.Props.C15DagObs
import BppProofs.Props.C15Fuel
import BppProofs.Props.C15NoUb
import BppProofs.Props.C15Obs
import BppProofs.Props.C15ObsCopy
import BppProofs.Props.C15ObsReady
import BppProofs.Props.C15Queries
import BppProofs.Props.C15Remove
import BppProofs.Props.C15RootAt
import BppProofs.Props.C15Unrooted
import BppProofs.Props.C15Valid
import BppProofs.Props.C15ValidU
import BppProofs.Props.C16
import BppProofs.Props.C16Attr
import BppProofs.Props.C16Dist
import BppProofs.Props.C16DistFuel
import BppProofs.Props.C16Keyval
import BppProofs.Props.C16Recog
import BppProofs.Props.C16Table
import BppProofs.Props.C16ToInt
import BppProofs.Props.C16Tokenizer
import BppProofs.Props.C17
import BppProofs.Props.C17Dist
import BppProofs.Props.C17Glob
import BppProofs.Props.C17Keyval
import BppProofs.Props.C17Nested
import BppProofs.Props.C17Number
import BppProofs.Props.C17Table
import BppProofs.Props.C17Tokenizer
import BppProofs.Props.C17Vars
import BppProofs.Props.C18
import BppProofs.Props.C18Repro
import BppProofs.Props.C19
import BppProofs.Props.C19Obj
import BppProofs.Props.C20
import BppProofs.Props.C20Inst
import BppProofs.Props.C20Measure
import BppProofs.Props.C20Obj
