import BppProofs.Lemmas.DiscretizeHistory
import BppProofs.Lemmas.DiscretizeMedian
import BppProofs.Lemmas.DiscretizeFamilies
import BppProofs.Lemmas.DiscretizeFamInst
import BppProofs.Lemmas.DiscretizeWitness
import BppProofs.Lemmas.DiscretizeTermination
/-!
# C09 — a discretised distribution is a valid partition of its continuous parent
(src/Bpp/Numeric/Prob/AbstractDiscreteDistribution.{h,cpp} and the families built on it)

All theorems are about the `ℝ` reading of the transcribed code (`BppModel/Discretize.lean`;
rounding is not modelled) and hold for every class count `n ≥ 1`, every comparator precision
`≥ 0`, every domain and every parent `pProb/qProb/Expectation` satisfying the stated hypotheses:

* `Pre s`      — the state about to be discretised: `1 ≤ n`, `0 ≤ precision`, `lower ≤ upper`;
* `ParentOK par lo hi` (= `H`, BppProofs/Lemmas/DiscretizeEqProp.lean) — `pProb` non-decreasing,
  `qProb` strictly increasing, the two mutually inverse on the domain, and
  `a·(P b − P a) ≤ E b − E a ≤ b·(P b − P a)`;
* `resolved par s` — the comparator precision does not interfere with the raw class values (no
  adjustment at the ends of the domain, values further apart than the precision): a decidable
  guard that the driver evaluates too.

Clause → theorem (equal-probability scheme `discretizeEqualProportions`):
 n_classes · probs_nonneg · probs_sum_one · equal_mass · values_strict_mono  (no hypothesis on the parent),
 bounds_in_domain (every parent), bounds_monotone_in_domain (H), value_in_domain (every parent; mean-valued classes /
 uniform fallback, resolved), value_in_own_class_partial (H, same guards; `separated_value_outside_class_witness`
 shows that `resolved` is needed),
 value_in_own_class_median_partial (median-valued: only when the medians are not rescaled;
 `median_rescaled_outside_class_witness` shows the full clause is false), class_mass (H),
 mean_preserved and class_value_is_mean (H, mean-valued, resolved), mean_preserved_median (rescaled medians);
 termination: discretize_terminates (precision > 0; `separation_zero_step_loops`: needed), resolved_terminates.
Equal-interval scheme: `equal_interval_partition` (no side condition), `equal_interval_valid` (with
value_in_own_class and class_mass), dispatch with fallback: `discretize_partition`, `when_possible_distinct_bounds`.  Look-ups: `lookup_spec`, `lookup_unique`, `lookup_outside`;
`cumulative_consistent`; `restrict_domain`; histories: `rediscretize_inv` (its hypothesis on an update's domain is
met by the gamma, beta and gaussian code: `update_keeps_domain_ordered`, `gamma_offset_refused`); families with closed
forms: `exponential_H`, `truncated_exponential_H`, `uniform_H` and the unconditional
`exponential_history_valid`, `uniform_history_valid`, `truncated_exponential_history_valid`; compounds: `compound_normalised_*` (BppProofs/Props/C09Compound.lean).
-/
namespace Bpp.C09
open Bpp Bpp.Discretize

/-- **n_classes** (equal probabilities): exactly `n` classes and `n − 1` interior bounds, for every
parent — the loop that separates equal class values never merges two classes. -/
theorem n_classes (par : Parent ℝ) (s s' : DD ℝ) (hs : Pre s) (h : eqProp par s = .ok s') :
    nClassesOk s' = true :=
  (eqProp_partition par s s' hs h).1

/-- **equal_mass**: every class has probability `1/n`. -/
theorem equal_mass (par : Parent ℝ) (s s' : DD ℝ) (hs : Pre s) (h : eqProp par s = .ok s') :
    equalMass s' = true := by
  obtain ⟨m, hf, rfl⟩ := store_ok (eqProp_eq par s ▸ h)
  -- the stored probabilities are a permutation of copies of `1/n`
  have hv := hf.vals_perm
  simp only [TMap.vals, List.map_nil, List.nil_append, List.map_map, Function.comp_def, List.map_const'] at hv
  simp only [equalMass, DD.probs, TMap.vals, List.perm_replicate.1 hv, List.all_eq_true, ScalarReal.eqb_iff, List.mem_replicate,
    ScalarReal.one_eq, nat_eq]
  exact fun p hp => hp.2

/-- **probs_nonneg** -/
theorem probs_nonneg (par : Parent ℝ) (s s' : DD ℝ) (hs : Pre s) (h : eqProp par s = .ok s') :
    probsNonneg s' = true :=
  (eqProp_partition par s s' hs h).2.1

/-- **probs_sum_one**: the class probabilities sum to one (exactly, in exact arithmetic) -/
theorem probs_sum_one (par : Parent ℝ) (s s' : DD ℝ) (hs : Pre s) (h : eqProp par s = .ok s') :
    probsSumOne 0 s' = true :=
  (eqProp_partition par s s' hs h).2.2.1

/-- **values_strict_mono**: the class values are strictly increasing (they are the keys of the
tolerance-ordered map, inserted only where no equivalent key exists), for every parent -/
theorem values_strict_mono (par : Parent ℝ) (s s' : DD ℝ) (hs : Pre s) (h : eqProp par s = .ok s') :
    valuesStrictMono s' = true :=
  (eqProp_partition par s s' hs h).2.2.2.1

/-- **bounds_monotone_in_domain**: `lower ≤ b₁ ≤ … ≤ b_{n−1} ≤ upper` -/
theorem bounds_monotone_in_domain (par : Parent ℝ) (s s' : DD ℝ) (hs : Pre s)
    (H : ParentOK par s.dom.lo s.dom.hi) (h : eqProp par s = .ok s') : boundsMonoInDom s' = true :=
  (eqProp_valid par s s' hs H h).1.bounds

/-- **bounds_in_domain**: after `discretize()` — any of the three schemes, *any* parent (no `H`: the
quantiles are clamped into the domain) — the domain is ordered and every interior bound lies in
it.  The driver judges this clause unconditionally. -/
theorem bounds_in_domain (par : Parent ℝ) (s s' : DD ℝ) (hs : Pre s) (h : discretize par s = .ok s') :
    boundsInDom s' = true := discretize_bounds_in_dom par s s' hs.n_pos hs.dom_ordered h

/-- **value_in_domain**: with mean-valued classes (or in the uniform fallback), where the comparator
precision does not interfere (`resolved`), every class value lies in the domain — for *every*
parent (no `H`: a class mean outside its bounds is replaced by their midpoint, the bounds are
clamped into the domain).  The driver judges the clause on every state; outside `resolved` and for
median-valued classes it is false of the code (known findings C09-separated-value-outside-domain,
-low-mass, C09-median-value-beyond-domain-end: a class value *above the end of the support*). -/
theorem value_in_domain (par : Parent ℝ) (s s' : DD ℝ) (hs : Pre s)
    (hm : s.median = false ∨ Scalar.eqb (par.P s.dom.hi) (par.P s.dom.lo) = true)
    (hr : resolved par s = true) (h : eqProp par s = .ok s') : valuesInDom s' = true := by
  have hl := hs.dom_ordered
  obtain ⟨hc, -, hd, -⟩ := eqProp_resolved_state par s s' hs.prec_nonneg hr h
  obtain ⟨g, hg, hraw⟩ := eqPropRaw_values par s (by simpa using hm)
  have hall : ∀ x ∈ s.dom.lo :: (eqPropRaw par s).1 ++ [s.dom.hi], s.dom.lo ≤ x ∧ x ≤ s.dom.hi := by
    intro x hx
    simp only [List.cons_append, List.mem_cons, List.mem_append, List.not_mem_nil, or_false] at hx
    rcases hx with rfl | hx | rfl
    · exact ⟨le_rfl, hl⟩
    · exact eqPropRaw_bounds_mem par s hs.n_pos hl x hx
    · exact ⟨hl, le_rfl⟩
  simp only [valuesInDom, hc, hd, hraw, List.all_eq_true, List.mem_map, Bool.and_eq_true, ScalarReal.leb_iff]
  rintro v ⟨q, hq, rfl⟩
  exact hg _ _ q (hall _ (pairs_mem _ q hq).1) (hall _ (pairs_mem _ q hq).2)

/-- **value_in_own_class** — `_partial`.  Full clause wanted: after every discretisation each class
value lies in its own class interval.  Proved: for mean-valued classes (and for the uniform fallback,
whatever the median flag) *where the comparator precision does not interfere* (`resolved`: no
adjustment at the ends of the domain, raw values further apart than the precision).  Outside the
guard the clause is false of the code: the separation loop of `insertClass_` moves class values by at
least the precision, out of their class and possibly out of the domain — on a domain narrower than
`n·precision` (`separated_value_outside_class_witness`, known finding C09-separated-value-outside-class),
and on an ordinary domain whose first classes are narrower than the precision (Gamma(0.1, ·) with
19–32 classes: known finding C09-class-narrower-than-precision);
for rescaled medians see `value_in_own_class_median_partial`.  One-step only: the clause is not
part of `Valid`, hence of no history theorem. -/
theorem value_in_own_class_partial (par : Parent ℝ) (s s' : DD ℝ) (hs : Pre s)
    (H : ParentOK par s.dom.lo s.dom.hi)
    (hm : s.median = false ∨ par.P s.dom.hi = par.P s.dom.lo)
    (hr : resolved par s = true) (h : eqProp par s = .ok s') : valuesInClass s' = true := by
  obtain ⟨hc, hb, -⟩ := eqProp_resolved_state par s s' hs.prec_nonneg hr h
  obtain ⟨g, hg, hraw⟩ := eqPropRaw_values par s hm
  rw [valuesInClass, hc, hb, hraw]
  exact zip_pairs_all _ g fun p hp =>
    have := (isChain_iff_pairs _ _).1 (eqPropRaw_bounds_chain par s hs.n_pos hs.dom_ordered H) p hp
    hg _ _ p ⟨le_rfl, this⟩ ⟨this, le_rfl⟩

/-- the guard `resolved` is needed: the uniform parent on `[1/2, 1/2 + 10⁻¹³]` (H holds), 3 classes,
precision `10⁻¹²`: the three raw class values are equivalent for the map, the separation loop puts
the first `≈ 3·10⁻¹²` below and the third `≈ 2·10⁻¹²` above the domain; `getValueCategory` of those
two class values raises "out of bounds" on the real library (same numbers). -/
theorem separated_value_outside_class_witness :
    let s : DD Rat := Witness.narrowState
    resolved Witness.unif01 s = false ∧
    (match eqProp Witness.unif01 s with
     | .ok r => nClassesOk r && valuesStrictMono r && !(valuesInClass r) && (r.cats.map (fun c => r.dom.isCorrect c) == [false, true, false])
     | .error _ => false) = true := by
  constructor <;> decide +kernel

/-- **class_mass** (equal probabilities): under `H`, when the parent has mass on the domain, every
class interval carries the parent's mass `(P upper − P lower)/n`, i.e. its own probability times
the mass of the domain. -/
theorem class_mass (par : Parent ℝ) (s s' : DD ℝ) (hs : Pre s) (H : ParentOK par s.dom.lo s.dom.hi)
    (hne : par.P s.dom.hi ≠ par.P s.dom.lo) (h : eqProp par s = .ok s') :
    ∀ p ∈ pairs s'.allBounds, par.P p.2 - par.P p.1 = (1 / (s.n : ℝ)) * (par.P s.dom.hi - par.P s.dom.lo) := by
  obtain ⟨m, -, rfl⟩ := store_ok (eqProp_eq par s ▸ h)
  intro p hp
  rw [(eqPropRaw_classes par s hs.n_pos hs.dom_ordered H hne p hp).1]; ring

/-- **mean_preserved**: with mean-valued classes the discrete mean `Σ pᵢ vᵢ` is the parent's mean
over the domain `(E upper − E lower)/(P upper − P lower)`. -/
theorem mean_preserved (par : Parent ℝ) (s s' : DD ℝ) (hs : Pre s) (H : ParentOK par s.dom.lo s.dom.hi)
    (hne : par.P s.dom.hi ≠ par.P s.dom.lo) (hmed : s.median = false) (hr : resolved par s = true)
    (h : eqProp par s = .ok s') :
    discreteMean s' = (par.E s.dom.hi - par.E s.dom.lo) / (par.P s.dom.hi - par.P s.dom.lo) := by
  have hn' : (s.n : ℝ) ≠ 0 := Nat.cast_ne_zero.2 (by have := hs.n_pos; omega)
  have hc : par.P s.dom.hi - par.P s.dom.lo ≠ 0 := sub_ne_zero.2 hne
  -- the class means `ΔE / ec` add up to `(E upper − E lower) / ec`: the sum telescopes
  rw [(eqProp_resolved_state par s s' hs.prec_nonneg hr h).2.2.2, eqPropRaw_means par s hs.n_pos hs.dom_ordered H hne hmed]
  simp only [div_eq_mul_inv _ ((par.P s.dom.hi - par.P s.dom.lo) / (s.n : ℝ)), List.sum_map_mul_right]
  rw [show s.dom.lo :: (eqPropRaw par s).1 ++ [s.dom.hi] = s.dom.lo :: ((eqPropRaw par s).1 ++ [s.dom.hi]) from rfl,
    pairs_telescope par.E, getLast_bounds]
  field_simp

/-- **class values are class means**: with mean-valued classes every stored class value is the
parent's conditional mean over its own class interval, `(E b − E a)/(P b − P a)` -/
theorem class_value_is_mean (par : Parent ℝ) (s s' : DD ℝ) (hs : Pre s) (H : ParentOK par s.dom.lo s.dom.hi)
    (hne : par.P s.dom.hi ≠ par.P s.dom.lo) (hmed : s.median = false) (hr : resolved par s = true)
    (h : eqProp par s = .ok s') :
    s'.cats = (pairs s'.allBounds).map (fun p => (par.E p.2 - par.E p.1) / (par.P p.2 - par.P p.1)) := by
  obtain ⟨hc, hb, -⟩ := eqProp_resolved_state par s s' hs.prec_nonneg hr h
  rw [hc, hb, eqPropRaw_means par s hs.n_pos hs.dom_ordered H hne hmed]
  exact List.map_congr_left fun p hpm => by rw [(eqPropRaw_classes par s hs.n_pos hs.dom_ordered H hne p hpm).1]

/-- where the precision does not interfere the discretisation returns (the model's fuel for the
separation loop is not needed) -/
theorem resolved_terminates (par : Parent ℝ) (s : DD ℝ) (hs : Pre s) (hr : resolved par s = true) :
    ∃ s', eqProp par s = .ok s' := ⟨_, eqProp_of_resolved par s hs.prec_nonneg hr⟩

/-- **discretize_terminates**: with a positive comparator precision (1e-12 for every family, 1e-20 for
beta) `discretize()` returns with any of the three schemes, for every parent, class count, domain
and whatever the class values are — the loop of `insertClass_` that separates equal class values
ends within `6·n + 1` turns: its step is at least the precision, so every key of the map is
equivalent to at most three candidates on each side (pigeonhole, `blocked_turns_bound`).  The
model's fuel (`6·size + 10⁶`) is never exhausted: `Err.fuel` is unreachable. -/
theorem discretize_terminates (par : Parent ℝ) (s : DD ℝ) (hn : 1 ≤ s.n) (hp : 0 < s.prec) :
    ∃ s', discretize par s = .ok s' := by
  unfold discretize
  have hn0 : (s.n == 0) = false := by simp; omega
  simp only [hn0, Bool.false_eq_true, if_false]
  split
  · exact eqProp_total par s hp
  · split
    · exact eqInt_total par s hp
    · obtain ⟨s1, h1⟩ := eqProp_total par s hp
      have hp1 : 0 < s1.prec := by rw [(store_cfg (eqProp_eq par s ▸ h1)).2.2.1]; exact hp
      simp only [h1, bind, Except.bind]
      split
      · exact eqInt_total par s1 hp1
      · exact ⟨s1, rfl⟩

/-- the hypothesis `0 < precision` is needed: with precision 0 and a class value 0 that is already
a key the step `max(precision, 4·ε·|v|)` is 0, every candidate is the value itself and the loop
never ends, whatever the fuel.  (Not reachable through the shipped families, whose precision is
positive; `AbstractDiscreteDistribution(n, 0., …)` is a protected constructor.) -/
theorem separation_zero_step_loops (hi : ℝ) (m : TMap ℝ) (h : (TMap.find? 0 0 m).isSome = true) (fuel : Nat) (j f : Int) :
    searchFree 0 (sepStep 0 0) hi 0 m fuel j f = none := by
  have hs : sepStep (0 : ℝ) 0 = 0 := by
    unfold sepStep Scalar.max
    simp [ScalarReal.ltb_iff, ScalarReal.abs_eq]
  rw [hs]
  induction fuel generalizing j f with
  | zero => rfl
  | succ n ih =>
    simp only [searchFree]
    have hc : (0 : ℝ) + Scalar.ofInt (f * j) * 0 = 0 := by simp
    rw [hc, if_pos h]
    exact ih _ _

/-- **equal_interval_partition**: after `discretizeEqualIntervals` (repaired: class values kept
distinct by `insertClass_`, equal probabilities on a domain without mass) the object has exactly
`n` classes with non-negative probabilities summing to one, non-decreasing bounds inside the
domain and strictly increasing class values — for *every* class count, precision and ordered
domain, and every parent with non-decreasing `pProb`; no side condition on the width of the
classes or on the mass of the domain. -/
theorem equal_interval_partition (par : Parent ℝ) (s r : DD ℝ) (hs : Pre s)
    (hmono : ∀ x y, s.dom.lo ≤ x → x ≤ y → y ≤ s.dom.hi → par.P x ≤ par.P y)
    (h : eqInt par s = .ok r) :
    nClassesOk r = true ∧ probsNonneg r = true ∧ probsSumOne 0 r = true ∧
    boundsMonoInDom r = true ∧ valuesStrictMono r = true := by
  obtain ⟨a, b, c, d, e, -⟩ := eqInt_partition par s r hs.n_pos hs.prec_nonneg hs.dom_ordered hmono h
  exact ⟨a, b, c, d, e⟩

/-- all clauses for `discretizeEqualIntervals`, for classes wider than the comparator precision
and a parent with non-decreasing `pProb` and mass on the domain: it returns, every class value
lies in its own class, and — **class_mass** — `pᵢ · (P upper − P lower) = P(b_{i+1}) − P(b_i)`. -/
theorem equal_interval_valid (par : Parent ℝ) (s : DD ℝ) (hs : Pre s)
    (hw : s.prec < (s.dom.hi - s.dom.lo) / (s.n : ℝ))
    (hmono : ∀ x y, s.dom.lo ≤ x → x ≤ y → y ≤ s.dom.hi → par.P x ≤ par.P y)
    (hcond : par.P s.dom.lo < par.P s.dom.hi) :
    ∃ r, eqInt par s = .ok r ∧
    nClassesOk r = true ∧ probsNonneg r = true ∧ probsSumOne 0 r = true ∧
    boundsMonoInDom r = true ∧ valuesStrictMono r = true ∧ valuesInClass r = true ∧
    (∀ pm ∈ r.probs.zip (pairs r.allBounds),
        pm.1 * (par.P s.dom.hi - par.P s.dom.lo) = par.P pm.2.2 - par.P pm.2.1) := by
  have hn := hs.n_pos
  have hp := hs.prec_nonneg
  have hn' : (0 : ℝ) < s.n := by exact_mod_cast hn
  have hl : s.dom.lo ≤ s.dom.hi := by
    have := (div_pos_iff_of_pos_right hn').1 (hp.trans_lt hw); linarith
  have hr := eqInt_spec par s hp hw
  obtain ⟨a, b, c, d, e, -⟩ := eqInt_partition par s _ hn hp hl hmono hr
  refine ⟨_, hr, a, b, c, d, e, ?_⟩
  have hpairs : pairs (s.dom.lo :: gridBounds s.dom.lo s.dom.hi s.n ++ [s.dom.hi]) =
      (List.range' 0 s.n).map (fun i : ℕ => (gridPt s.dom.lo s.dom.hi s.n i, gridPt s.dom.lo s.dom.hi s.n (i + 1 : ℕ))) := by
    rw [gridBounds_all _ _ _ hn, pairs_map_range']
  constructor
  · simp only [valuesInClass, DD.cats, DD.allBounds, TMap.keys, gridClasses, hpairs, List.map_map, List.zip_map', List.all_map,
      List.all_eq_true, Function.comp, Bool.and_eq_true, ScalarReal.leb_iff]
    intro i _
    obtain ⟨-, h1, h2, -⟩ := half_steps (Nat.lt_succ_self i)
    exact ⟨gridPt_mono _ hl h1, gridPt_mono _ hl h2⟩
  · intro pm hpm
    simp only [DD.probs, DD.allBounds, TMap.vals, gridClasses, hpairs, List.map_map, List.zip_map'] at hpm
    obtain ⟨i, _, rfl⟩ := List.mem_map.1 hpm
    have hc : 0 < par.P s.dom.hi - par.P s.dom.lo := sub_pos.2 hcond
    simp only [Function.comp, gridMass, hc, if_true]
    exact div_mul_cancel₀ _ hc.ne'

/-- **value_in_own_class**, median-valued classes — `_partial`: proved only when the medians are
*not* rescaled (`¬ Rescaled`: their sum is zero or has not the sign of the mean).  The full clause
(“each class value lies in its own class interval”, whatever the factor) is false of the code:
`median_rescaled_outside_class_witness`.  Missing: a bound on the rescaling factor
`mean / (mean of the medians)` in terms of the class widths. -/
theorem value_in_own_class_median_partial (par : Parent ℝ) (s s' : DD ℝ) (hs : Pre s)
    (H : ParentOK par s.dom.lo s.dom.hi) (hne : par.P s.dom.hi ≠ par.P s.dom.lo) (hmed : s.median = true)
    (hresc : ¬ Rescaled (medians par s.n s.dom.lo s.dom.hi (par.P s.dom.lo) ((par.P s.dom.hi - par.P s.dom.lo) / (s.n : ℝ)))
      (par.E s.dom.hi - par.E s.dom.lo))
    (hr : resolved par s = true) (h : eqProp par s = .ok s') : valuesInClass s' = true := by
  have hn := hs.n_pos
  have hl := hs.dom_ordered
  obtain ⟨hc, hb, -⟩ := eqProp_resolved_state par s s' hs.prec_nonneg hr h
  rw [valuesInClass, hc, hb, eqPropRaw_snd_of_ne par s hne, hmed, if_pos rfl, (rescale_cases _ _ _).2 hresc, H.medians_grid hl hn,
    eqPropRaw_bounds_grid par s hn hl H hne, pairs_map_range', List.zip_map']
  simp only [List.all_map, List.all_eq_true, Function.comp, Bool.and_eq_true, ScalarReal.leb_iff]
  exact fun i hi => H.qGrid_half_mem hl hn (by simpa using hi)

/-- under `H` the class medians (before rescaling) lie in their own classes and are strictly
increasing -/
theorem medians_in_own_class (par : Parent ℝ) (s : DD ℝ) (hs : Pre s) (H : ParentOK par s.dom.lo s.dom.hi)
    (hne : par.P s.dom.hi ≠ par.P s.dom.lo) :
    let ec := (par.P s.dom.hi - par.P s.dom.lo) / (s.n : ℝ)
    let F : ℕ → ℝ := fun i => par.Q (par.P s.dom.lo + (i : ℝ) * ec)
    let G : ℕ → ℝ := fun i => par.Q (par.P s.dom.lo + ((i : ℝ) + 1 / 2) * ec)
    s.dom.lo :: (eqPropRaw par s).1 ++ [s.dom.hi] = (List.range' 0 (s.n + 1)).map F ∧
    medians par s.n s.dom.lo s.dom.hi (par.P s.dom.lo) ec = (List.range' 0 s.n).map G ∧
    (∀ i, i < s.n → F i ≤ G i ∧ G i ≤ F (i + 1)) ∧ (∀ i j, i < j → j < s.n → G i < G j) := by
  have hn := hs.n_pos
  have hl := hs.dom_ordered
  refine ⟨eqPropRaw_bounds_grid par s hn hl H hne, H.medians_grid hl hn, fun i hi => H.qGrid_half_mem hl hn hi,
    fun i j hij hj => ?_⟩
  obtain ⟨h0, h1, -, -⟩ := half_steps (hij.trans hj)
  obtain ⟨-, -, h2, h3⟩ := half_steps hj
  exact H.qGrid_lt hl hn hne (h0.trans h1) (add_lt_add_left (Nat.cast_lt.2 hij) _) (h2.trans h3)

/-- the full clause fails for rescaled medians: on the piecewise-linear parent `plParent` (exact
rationals, precision resolved) the three class values are `1/3, 1, 5/3` while class 1 is
`[10/27, 20/27]`. -/
theorem median_rescaled_outside_class_witness :
    resolved Witness.plParent (Witness.plState true 1) = true ∧
    (match eqProp Witness.plParent (Witness.plState true 1) with
     | .ok s => s.cats == [1/3, 1, 5/3] && s.bounds == [10/27, 20/27] && !(valuesInClass s)
     | .error _ => false) = true := by
  constructor <;> decide +kernel

/-- why the finding is kept: a rescaling of the medians by a *common* factor that preserves the
parent's mean `M` (what the documentation of `setMedian` promises) has no freedom left — the
factor is `M · n / Σ medians`, the one the code uses (`mean / t / ec`).  The witness above shows that
this factor moves class values out of their classes; so no repair within "common factor + mean
preserved" exists, and clamping the values into their classes would give up the mean. -/
theorem median_common_factor_unique (ms : List ℝ) (c M : ℝ) (hn : 0 < ms.length) (ht : ms.sum ≠ 0) :
    (ms.map (fun m => (1 / (ms.length : ℝ)) * (c * m))).sum = M ↔ c = M * ms.length / ms.sum := by
  have hn' : (0 : ℝ) < ms.length := by exact_mod_cast hn
  have e : (ms.map (fun m => (1 / (ms.length : ℝ)) * (c * m))).sum = (1 / (ms.length : ℝ)) * c * ms.sum := by
    have : (fun m : ℝ => (1 / (ms.length : ℝ)) * (c * m)) = (fun m => ((1 / (ms.length : ℝ)) * c) * m) := by
      funext m; ring
    rw [this, List.sum_map_mul_left, List.map_id']
  rw [e]
  constructor
  · intro h
    field_simp at h ⊢
    linarith
  · intro h
    rw [h]; field_simp

/-- **mean_preserved**, median-valued classes: when the medians are rescaled the discrete mean is
the parent's mean over the domain, for every parent -/
theorem mean_preserved_median (par : Parent ℝ) (s s' : DD ℝ) (hs : Pre s)
    (hne : par.P s.dom.hi ≠ par.P s.dom.lo) (hmed : s.median = true)
    (hresc : Rescaled (medians par s.n s.dom.lo s.dom.hi (par.P s.dom.lo) ((par.P s.dom.hi - par.P s.dom.lo) / (s.n : ℝ)))
      (par.E s.dom.hi - par.E s.dom.lo))
    (hr : resolved par s = true) (h : eqProp par s = .ok s') :
    discreteMean s' = (par.E s.dom.hi - par.E s.dom.lo) / (par.P s.dom.hi - par.P s.dom.lo) := by
  have hn' : (s.n : ℝ) ≠ 0 := Nat.cast_ne_zero.2 (by have := hs.n_pos; omega)
  have hc : par.P s.dom.hi - par.P s.dom.lo ≠ 0 := sub_ne_zero.2 hne
  have ht := hresc.1
  rw [(eqProp_resolved_state par s s' hs.prec_nonneg hr h).2.2.2, eqPropRaw_snd_of_ne par s hne, hmed, if_pos rfl,
    (rescale_cases _ _ _).1 hresc, List.sum_map_mul_right, List.map_id']
  field_simp

/-- `discretize()` with any of the three schemes yields a valid partition (`Valid`: n classes,
non-negative probabilities summing to one, non-decreasing bounds inside the domain, strictly
increasing class values in comparator order) and leaves class count, domain, precision, median
flag and scheme as they were — for every parent satisfying `H`, whatever the scheme. -/
theorem discretize_partition (par : Parent ℝ) (s s' : DD ℝ) (hs : Pre s) (H : ParentOK par s.dom.lo s.dom.hi)
    (h : discretize par s = .ok s') : Valid s' ∧ SameCfg s s' :=
  discretize_valid par s s' hs H h

/-- EQUAL_PROB_WHEN_POSSIBLE on a domain that is not a single point: the result never has two
equal neighbouring bounds — either the equal-probability bounds are pairwise distinct, or the
equal-interval scheme took over -/
theorem when_possible_distinct_bounds (par : Parent ℝ) (s s' : DD ℝ) (hs : Pre s) (hsch : s.scheme = 3)
    (hlt : s.dom.lo < s.dom.hi) (h : discretize par s = .ok s') : hasEqualNeighbours s'.allBounds = false := by
  rcases (discretize_cases par s s' h).2 with ⟨-, h1 | h1⟩ | ⟨s1, hc, h⟩
  · omega
  · exact h1
  · obtain ⟨m, -, rfl⟩ := store_ok (eqInt_eq par s1 ▸ h)
    have hn1 : 1 ≤ s1.n := hc.n ▸ hs.n_pos
    rw [DD.allBounds, gridBounds_all _ _ _ hn1]
    exact hasEqualNeighbours_of_strict _ (pairwise_map_range' _ _ _ fun i j hij _ =>
      gridPt_lt hn1 (hc.dom ▸ hlt) (by exact_mod_cast hij)).isChain

/-- **lookup_spec**: for every value of the domain `getCategoryIndex` answers with a class `k`
whose interval contains the value (`bounds[k-1] ≤ x < bounds[k]`, the first and last class
extending to the ends of the domain), and `getValueCategory` answers with the value of that class. -/
theorem lookup_spec (s : DD ℝ) (x : ℝ) (hx : s.dom.isCorrect x = true) (hn : nClassesOk s = true) :
    ∃ k v, getCategoryIndex s x = .ok k ∧ lookupOk s x k = true ∧ k < s.n ∧
      s.cats[k]? = some v ∧ getValueCategory s x = .ok v := by
  rw [nClassesOk_iff] at hn
  have hk := classIdx_le x s.bounds
  have hlen : classIdx x s.bounds < s.cats.length := by simp [DD.cats, TMap.keys]; omega
  exact ⟨classIdx x s.bounds, s.cats[classIdx x s.bounds], by simp [getCategoryIndex, hx], inClass_classIdx x s.bounds,
    by omega, by simp [hlen], by simp [getValueCategory, hx, List.getElem?_eq_getElem hlen]⟩

/-- with non-decreasing bounds the class containing a value is unique: the look-up returns *the*
class whose interval contains the value -/
theorem lookup_unique (s : DD ℝ) (x : ℝ) (hx : s.dom.isCorrect x = true) (hb : boundsMonoInDom s = true) (k : Nat)
    (hk : lookupOk s x k = true) : getCategoryIndex s x = .ok k := by
  have hch : s.bounds.IsChain (· ≤ ·) := (List.isChain_append.1 ((boundsMonoInDom_iff s).1 hb).tail).1
  have := inClass_unique x s.bounds hch k hk
  simp [getCategoryIndex, hx, this]

/-- outside the domain both look-ups raise -/
theorem lookup_outside (s : DD ℝ) (x : ℝ) (hx : s.dom.isCorrect x = false) :
    getCategoryIndex s x = .error .bpp ∧ getValueCategory s x = .error .bpp := by
  simp [getCategoryIndex, getValueCategory, hx]

/-- the look-ups as found skipped `bounds_[0]`: in 4 classes with bounds 1, 2, 3 the value 3/2
(class 1) was mapped to class 0 and its value -/
theorem lookup_legacy_witness :
    Legacy.getValueCategory Witness.fourClasses (3/2) = .ok (1/2) ∧
    getValueCategory Witness.fourClasses (3/2) = .ok (3/2) ∧
    lookupOk Witness.fourClasses (3/2) 0 = false ∧ lookupOk Witness.fourClasses (3/2) 1 = true := by
  refine ⟨?_, ?_, ?_, ?_⟩ <;> decide +kernel

/-- `getCategoryIndex` as found answered the 1-based position of the bound and threw an integer
for the last class -/
theorem lookup_legacy_throws :
    Legacy.getCategoryIndex Witness.fourClasses (1/2) = .ok (some 1) ∧
    Legacy.getCategoryIndex Witness.fourClasses (7/2) = .ok none ∧
    getCategoryIndex Witness.fourClasses (1/2) = .ok 0 ∧ getCategoryIndex Witness.fourClasses (7/2) = .ok 3 := by
  refine ⟨?_, ?_, ?_, ?_⟩ <;> decide +kernel

/-- **cumulative_consistent**: at the value of class `i` the four queries are the partial sums
of the class probabilities, `Pr(x<c) + Pr(x≥c) = 1`, `Pr(x≤c) + Pr(x>c) = 1`, and, the
probabilities summing to one, `Pr(x≤c) = Pr(x<c) + pᵢ`. -/
theorem cumulative_consistent (s : DD ℝ) (hv : Valid s) (hp : 0 ≤ s.prec) (i : Nat) (c p : ℝ)
    (hc : s.cats[i]? = some c) (hpi : s.probs[i]? = some p) :
    cInf s c = (s.probs.take i).sum ∧ cSup s c = (s.probs.drop (i + 1)).sum ∧
    cInf s c + cSSup s c = 1 ∧ cIInf s c + cSup s c = 1 ∧ cIInf s c = cInf s c + p := by
  have hidx := findIdx?_key s.prec hp s.dist hv.sorted i c hc
  have h1 : cInf s c = (s.probs.take i).sum := by simp [cInf, hidx]
  have h2 : cSSup s c = 1 - (s.probs.take i).sum := by simp [cSSup, hidx]
  have h3 : cSup s c = (s.probs.drop (i + 1)).sum := by simp [cSup, hidx]
  have h4 : cIInf s c = 1 - (s.probs.drop (i + 1)).sum := by simp [cIInf, hidx]
  have hsum : s.probs.sum = 1 := ((normalised_iff s).2 ⟨hv.probs_nonneg, hv.probs_sum_one⟩).2
  have hsplit : (s.probs.take i).sum + (s.probs.drop i).sum = s.probs.sum := by
    rw [← List.sum_append, List.take_append_drop]
  have hdrop : (s.probs.drop i).sum = p + (s.probs.drop (i + 1)).sum := by
    have hlt : i < s.probs.length := by
      by_contra hh; rw [List.getElem?_eq_none (by omega)] at hpi; simp at hpi
    rw [List.drop_eq_getElem_cons hlt, List.sum_cons]
    rw [List.getElem?_eq_getElem hlt] at hpi; injection hpi with hpi; rw [hpi]
  refine ⟨h1, h3, by rw [h1, h2]; ring, by rw [h4, h3]; ring, ?_⟩
  rw [h4, h1]; linarith

/-- **restrict_domain**: `restrictToConstraint` never reaches the branch the model excludes;
it refuses (`Exception`, state unchanged) exactly the constraints whose intersection with the
domain is empty; otherwise the new domain accepts exactly the values accepted by both the old
domain and the constraint (C01's intersection lemma), is ordered, and lies inside the old one. -/
theorem restrict_domain (d : Dom ℝ) (c : Interval ℝ) :
    restrictDom d c ≠ .error .unreachable ∧
    (restrictDom d c = .error .bpp ↔ (d.toInterval.interAssign c).isEmpty = true) ∧
    ∀ d' ch, restrictDom d c = .ok (d', ch) →
      d'.lo ≤ d'.hi ∧ d.lo ≤ d'.lo ∧ d'.hi ≤ d.hi ∧
      (∀ v, d'.isCorrect v = true ↔ (d.isCorrect v = true ∧ c.isCorrect v = true)) := by
  have hspec := restrictDom_spec d c
  refine ⟨hspec.1, hspec.2.1, fun d' ch h => ?_⟩
  obtain ⟨_, a, b, c', e, _⟩ := hspec.2.2 d' ch h
  exact ⟨a, b, c', e⟩

/-- **rediscretize_inv**: for every history of class-count changes, median toggles,
restrictions, accepted parameter updates (a new parent satisfying `H`, possibly a new ordered
domain) and re-discretisations — of any length — every reached state is a valid partition whose
parent satisfies `H` on its domain.  Induction over the operation list; a refused restriction
leaves the state unchanged; narrowing the domain keeps `H` (`ParentOK.restrict`). -/
theorem rediscretize_inv (st st' : MSt) (ops : List Op) (hg : Good st) (ha : AllAdm st ops)
    (h : run st ops = .ok st') : Good st' := by
  induction ops generalizing st with
  | nil => simp [run] at h; subst h; exact hg
  | cons op ops ih =>
    simp only [run, bind, Except.bind] at h
    cases hs : step st op with
    | error e => simp [hs] at h
    | ok st1 =>
      simp only [hs] at h
      exact ih st1 (step_good st st1 op hg ha.1 hs) (ha.2 st1 hs) h

/-- **update_keeps_domain_ordered**: `fireParameterChanged` of the gamma (with or without the offset
parameter), beta and gaussian families never leaves an inverted domain — whatever parameter is set
to whatever value, from a state with an ordered domain: when it returns the class count, the
precision and an *ordered* domain containing every interior bound are there (so the hypothesis
"`dom.lo ≤ dom.hi`" that `rediscretize_inv` asks of an `update` is met by the code); an offset that
leaves no support inside the domain is refused (`gamma_offset_refused`).  Before the repair of audit
finding F1 an accepted offset update of a restricted gamma gave the domain `]5, 2]`. -/
theorem update_keeps_domain_ordered (oracle : Parent ℝ) (f f' : FamSt ℝ) (slot : Nat) (v : ℝ)
    (hfam : f.fam = .gamma ∨ f.fam = .beta ∨ f.fam = .gauss) (hpre : Pre f.dd) (h : fire oracle f slot v = .ok f') :
    Pre f'.dd ∧ boundsInDom f'.dd = true := by
  unfold fire at h
  rcases hfam with hf | hf | hf
  · simp -zeta only [hf] at h
    extract_lets f1 at h
    have hp1 : Pre f1.dd := by
      have : f1.dd = f.dd := by simp only [f1, setShape]; split <;> [rfl; (split <;> rfl)]
      exact this ▸ hpre
    split at h
    · split at h
      · cases h
      · rename_i supportEnd d _ _ hr
        refine famDiscretize_pre oracle _ f' ?_ h
        refine ⟨hp1.n_pos, hp1.prec_nonneg, ?_⟩
        show d.lo ≤ d.hi
        simp only [d]
        split
        · have hv : v < f1.dd.dom.hi := by simpa using hr
          exact hv.le
        · exact hp1.dom_ordered
    · exact famDiscretize_pre oracle _ f' hp1 h
  · simp -zeta only [hf] at h
    extract_lets f1 d1 d2 at h
    have hp1 : Pre f1.dd := by
      have : f1.dd = f.dd := by simp only [f1]; split <;> rfl
      exact this ▸ hpre
    have h1 : d1.lo ≤ d1.hi := by
      simp only [d1]
      split
      · rename_i hc
        simp only [Bool.and_eq_true, ScalarReal.leb_iff] at hc
        exact hc.2
      · exact hp1.dom_ordered
    refine famDiscretize_pre oracle _ f' ?_ h
    refine ⟨hp1.n_pos, hp1.prec_nonneg, ?_⟩
    show d2.lo ≤ d2.hi
    simp only [d2]
    split
    · rename_i hc
      simp only [Bool.and_eq_true, ScalarReal.leb_iff] at hc
      exact hc.2
    · exact h1
  · simp -zeta only [hf] at h
    refine famDiscretize_pre oracle _ f' ?_ h
    split <;> exact hpre

/-- a gamma with offset 1/2 restricted to `[1,2]`: the offset 5 is refused, the offset 3/2 moves the
lower end to `]3/2`, the offset 1/5 leaves the restricted lower end 1 in force -/
theorem gamma_offset_refused :
    let f : FamSt Rat := Witness.gammaRestricted
    (match fire Witness.plParent f 3 5 with | .error .constraint => true | _ => false) = true ∧
    (match fire Witness.plParent f 3 (3/2) with | .ok g => g.dd.dom.lo == 3/2 && !g.dd.dom.inclLo && boundsInDom g.dd | _ => false) = true ∧
    (match fire Witness.plParent f 3 (1/5) with | .ok g => g.dd.dom.lo == 1 && g.dd.dom.inclLo && g.p3 == 1/5 | _ => false) = true := by
  refine ⟨?_, ?_, ?_⟩ <;> decide +kernel

/-! ## families whose parent has closed forms: `H` is proved, the instances are unconditional -/

/-- **exponential_H**: the transcribed `pProb`, `qProb`, `Expectation` of
`ExponentialDiscreteDistribution` satisfy `H` on every domain, for every rate `lam > 0`
(monotone, mutually inverse, `a·ΔP ≤ ΔE ≤ b·ΔP` from `1 + t ≤ eᵗ`). -/
theorem exponential_H (lam lo hi : ℝ) (hl : 0 < lam) : ParentOK (expParent lam) lo hi :=
  exponential_parentOK lam lo hi hl

/-- **truncated_exponential_H**: likewise for `TruncatedExponentialDiscreteDistribution` on every
domain below the truncation point -/
theorem truncated_exponential_H (lam tp lo hi : ℝ) (hl : 0 < lam) (ht : 0 < tp) (hlo : lo ≤ hi) (hhi : hi ≤ tp) :
    ParentOK (texpParent lam tp (texpCond lam tp)) lo hi :=
  truncated_exponential_parentOK lam tp lo hi hl ht hlo hhi

/-- **uniform_H**: likewise for `UniformDiscreteDistribution` on every sub-interval of its support -/
theorem uniform_H (mn mx lo hi : ℝ) (hw : mn < mx) (h1 : mn ≤ lo) (h2 : hi ≤ mx) (hl : lo ≤ hi) :
    ParentOK (unifParent mn mx) lo hi :=
  uniform_parentOK mn mx lo hi hw h1 h2 hl

/-- **exponential_history_valid**: an `ExponentialDiscreteDistribution` built with `n ≥ 1` classes
and rate `> 0` is a valid partition after every history, of any length, of `setParameterValue`
(any name; values `> 0` when accepted — refused ones leave the object unchanged),
`setNumberOfCategories (≥ 1)`, `setMedian`, `restrictToConstraint` (any interval: refused when
disjoint) and `discretize`.  No hypothesis on the parent is left: `H` is `exponential_H`. -/
theorem exponential_history_valid (orc : Parent ℝ) (n : Nat) (lam : ℝ) (f : FamSt ℝ) (ops : List FOp)
    (hn : 1 ≤ n) (hl : 0 < lam) (hc : construct orc .exp n lam 0 0 false 1 = .ok f)
    (hreg : ∀ op ∈ ops, op.regular) :
    Valid (frun orc f ops).dd ∧ Pre (frun orc f ops).dd ∧ 0 < (frun orc f ops).p1 := by
  have := frun_inv orc _ (exp_step orc) f ops hreg (exp_construct orc n lam f hn hl hc)
  exact ⟨this.good.valid, this.good.pre, this.rate⟩

/-- **uniform_history_valid**: the same for `UniformDiscreteDistribution(n, a, b)`, `a ≠ b`; the
domain stays inside the support `[min(a,b), max(a,b)]`. -/
theorem uniform_history_valid (orc : Parent ℝ) (n : Nat) (a b : ℝ) (f : FamSt ℝ) (ops : List FOp)
    (hn : 1 ≤ n) (hab : a ≠ b) (hc : construct orc .unif n a b 0 false 1 = .ok f)
    (hreg : ∀ op ∈ ops, op.regular) :
    Valid (frun orc f ops).dd ∧ Pre (frun orc f ops).dd ∧
      (frun orc f ops).p1 ≤ (frun orc f ops).dd.dom.lo ∧ (frun orc f ops).dd.dom.hi ≤ (frun orc f ops).p2 := by
  have := frun_inv orc _ (unif_step orc) f ops hreg (unif_construct orc n a b f hn hab hc)
  exact ⟨this.good.valid, this.good.pre, this.lo, this.hi⟩

/-- **truncated_exponential_history_valid**: the same for
`TruncatedExponentialDiscreteDistribution(n, lambda, tp)`, `lambda, tp > 0`: updates of `lambda` and of
the truncation point (which moves the upper end of the domain and, after a restriction, is
constrained by the domain itself), class-count changes, median toggles, restrictions (refused when
they do not accept `tp`), re-discretisations; the domain stays below the truncation point. -/
theorem truncated_exponential_history_valid (orc : Parent ℝ) (n : Nat) (lam tp : ℝ) (f : FamSt ℝ) (ops : List FOp)
    (hn : 1 ≤ n) (hl : 0 < lam) (ht : 0 < tp) (hc : construct orc .texp n lam tp 0 false 1 = .ok f)
    (hreg : ∀ op ∈ ops, op.regular) :
    Valid (frun orc f ops).dd ∧ Pre (frun orc f ops).dd ∧ (frun orc f ops).dd.dom.hi ≤ (frun orc f ops).p2 ∧
      (frun orc f ops).p3 = texpCond (frun orc f ops).p1 (frun orc f ops).p2 := by
  have := frun_inv orc _ (texp_step orc) f ops hreg (texp_construct orc n lam tp f hn hl ht hc)
  exact ⟨this.good.valid, this.good.pre, this.hi, this.cond⟩

/-! ## non-vacuity: the hypotheses are met by concrete states (exact rationals, same program text) -/

/-- mean-valued classes of the piecewise-linear parent: resolved, discretisation returns, all
clauses hold, the discrete mean is the parent's mean 1 -/
example :
    resolved Witness.plParent (Witness.plState false 1) = true ∧
    (match eqProp Witness.plParent (Witness.plState false 1) with
     | .ok s => nClassesOk s && probsNonneg s && probsSumOne 0 s && boundsMonoInDom s && valuesStrictMono s &&
         valuesInClass s && equalMass s && (discreteMean s == 1)
     | .error _ => false) = true := by
  constructor <;> decide +kernel

/-- the equal-interval scheme and the scheme with fallback on the uniform parent, 5 classes -/
example :
    (match eqInt Witness.unif01 (Witness.unifState 5 false 2) with
     | .ok s => nClassesOk s && probsNonneg s && probsSumOne 0 s && boundsMonoInDom s && valuesStrictMono s && valuesInClass s
     | .error _ => false) = true ∧
    (match discretize Witness.unif01 (Witness.unifState 5 true 3) with
     | .ok s => nClassesOk s && probsSumOne 0 s && valuesInClass s && (s.cats == [1/10, 3/10, 1/2, 7/10, 9/10])
     | .error _ => false) = true := by
  constructor <;> decide +kernel

/-- the equal-interval scheme on a one-point domain (no width, no mass: the case of the repaired
finding C09-equal-interval-no-width): three classes of probability 1/3 at distinct values -/
example :
    (match eqInt Witness.unif01 { Witness.unifState 3 false 2 with dom := ⟨1/5, 1/5, true, true, 0⟩ } with
     | .ok s => nClassesOk s && probsNonneg s && probsSumOne 0 s && boundsMonoInDom s && valuesStrictMono s &&
         (s.probs == [1/3, 1/3, 1/3])
     | .error _ => false) = true := by
  decide +kernel

/-- `H` is satisfiable: the uniform parent on `[0,1]`, the exponential parent on `[0,5]` -/
example : ParentOK (unifParent 0 1) 0 1 ∧ ParentOK (expParent 2) 0 5 :=
  ⟨uniform_H 0 1 0 1 (by norm_num) le_rfl le_rfl (by norm_num), exponential_H 2 0 5 (by norm_num)⟩

/-- look-ups and cumulative queries on a concrete 4-class state -/
example :
    getCategoryIndex Witness.fourClasses 2 = .ok 2 ∧ getValueCategory Witness.fourClasses (5/2) = .ok (5/2) ∧
    cInf Witness.fourClasses (5/2) = 1/2 ∧ cIInf Witness.fourClasses (5/2) = 3/4 ∧
    cSup Witness.fourClasses (5/2) = 1/4 ∧ cSSup Witness.fourClasses (5/2) = 1/2 := by
  refine ⟨?_, ?_, ?_, ?_, ?_, ?_⟩ <;> decide +kernel

end Bpp.C09
