import BppProofs.Lemmas.DistGuards
/-!
# C08 — cumulative and quantile functions   (src/Bpp/Numeric/Random/RandomTools.{h,cpp})

Level `other`: partial proof + exploration.  What is proved here, for *all* arguments, in the
exact-arithmetic (`ℝ`) reading of the transcribed code (rounding is not modelled):

* `pNorm` (Cody's three rational ranges, transcribed exactly, `exp`/`trunc` abstract):
  `pnorm_reflect` (reflection identity on `|x| < 8.2924 ∨ 37.5193 ≤ |x|`), `pnorm_reflect_gap` and
  `pnorm_reflect_fails_in_gap` (what holds between the cut-offs: the code uses different formulas
  for the two tails there), `pnorm_ends`, `pnorm_range`, `pnorm_zero`.
* `qNorm` (Odeh–Evans, transcribed exactly): `guards_total_qNorm` (error value iff
  `p < 1e-20 ∨ p > 1 - 1e-20`), `qnorm_bounded`, `qnorm_reflect`.
* the guard / wrapper layer with the numeric kernels as abstract parameters (`Kernels`):
  `guards_total_*` — decision tables of the argument checks of `incompleteGamma`, `pGamma`,
  `pChisq`, `qChisq`, `qGamma`, `qNorm(p,μ,σ)`, `incompleteBeta`/`pBeta`, `qBeta`;
  `wrapper_*`, `pGamma_scale`, `qGamma_scale`, `normal_affine_inverts` — wrapper identities;
  `qGamma_inverts_relative` — relative inverse theorem; `affine_monotone_*`, `incompleteGamma_monotone_relative` —
  monotone kernels give monotone wrappers.
* witnesses of the defects of the snapshot that were repaired in the library:
  `qGammaOld_rescales_sentinel`, `qNorm3Old_rescales_sentinel`,
  `incompleteGammaOld_zero_shadows_check`.

NOT proved (explored numerically by the check, `coverage.search_*`): accuracy, monotonicity and
inverse relations of the kernels (incomplete gamma series / continued fraction, AS91, Cephes
incomplete beta, AS109, and `pNorm`'s / `qNorm`'s closeness to Φ, Φ⁻¹).
-/
namespace Bpp.C08
open Bpp Bpp.Scalar Bpp.PNorm Bpp.DistGuards

/-- outside the cut-offs `pNorm` is exactly 0 / 1, for every `exp` and `trunc` -/
theorem pnorm_ends (ex tr : ℝ → ℝ) (x : ℝ) :
    (x ≤ -lowCut → pNorm ex tr x = 0) ∧ (upCut ≤ x → pNorm ex tr x = 1) := by
  constructor
  · intro h
    rw [pNorm_outside ex tr (Or.inl h), if_neg (not_lt.mpr (h.trans (neg_nonpos.mpr lowCut_pos.le)))]
  · intro h
    rw [pNorm_outside ex tr (Or.inr h), if_pos (upCut_pos.trans_le h)]

/-- **Reflection.**  `pNorm (-x) = 1 - pNorm x` in exact arithmetic, for every `exp` and every odd
`trunc`, on `|x| < 8.2924` and on `37.5193 ≤ |x|`.  (Between the two cut-offs the code computes
the two tails by different formulas: see `pnorm_reflect_gap`.) -/
theorem pnorm_reflect (ex tr : ℝ → ℝ) (htr : ∀ z, tr (-z) = -tr z) (x : ℝ)
    (hx : |x| < upCut ∨ lowCut ≤ |x|) : pNorm ex tr (-x) = 1 - pNorm ex tr x := by
  have hul := upCut_lt_lowCut
  rcases hx with hx | hx
  · -- |x| < upCut : the same branch is taken at x and -x
    by_cases c1 : |x| ≤ cut1
    · rw [pNorm_central ex tr c1, pNorm_central ex tr (by rwa [abs_neg]), centralTemp_neg]
      ring
    have hx0 : x ≠ 0 := fun h => c1 (by rw [h, abs_zero]; exact cut1_pos.le)
    by_cases c2 : |x| ≤ cut2
    · rw [pNorm_middle ex tr (not_le.mp c1) c2, pNorm_middle ex tr (by rwa [abs_neg, ← not_le]) (by rwa [abs_neg]),
        abs_neg]
      exact tail_reflect (T := fun _ => middleTail ex tr |x|) rfl hx0
    · have hb := abs_lt.mp hx
      rw [pNorm_far ex tr (not_le.mp c2) (by linarith) hb.2,
        pNorm_far ex tr (by rwa [abs_neg, ← not_le]) (by linarith) (by linarith)]
      exact tail_reflect (farTail_neg ex tr htr x) hx0
  · -- both ends are exact
    rcases le_abs'.mp hx with h | h
    · rw [(pnorm_ends ex tr x).1 h, (pnorm_ends ex tr (-x)).2 (by linarith)]; ring
    · rw [(pnorm_ends ex tr x).2 (by linarith), (pnorm_ends ex tr (-x)).1 (by linarith)]; ring

/-- **What holds between the cut-offs** `8.2924 ≤ x < 37.5193`: the upper value is the constant 1
while the lower value is still computed by the asymptotic tail formula, so in exact arithmetic
`pNorm (-x) + pNorm x = 1 + farTail x`; the two agree only up to the size of the lower tail
(`< 1.2e-16` there, below the rounding unit of 1). -/
theorem pnorm_reflect_gap (ex tr : ℝ → ℝ) (htr : ∀ z, tr (-z) = -tr z) (x : ℝ)
    (h1 : upCut ≤ x) (h2 : x < lowCut) :
    pNorm ex tr x = 1 ∧ pNorm ex tr (-x) = farTail ex tr x := by
  have h2u := cut2_lt_upCut
  have hpos : 0 < x := upCut_pos.trans_le h1
  refine ⟨(pnorm_ends ex tr x).2 h1, ?_⟩
  rw [pNorm_far ex tr (by rw [abs_neg, abs_of_pos hpos]; linarith) (neg_lt_neg h2)
      ((neg_neg_of_pos hpos).trans upCut_pos),
    if_neg (not_lt.mpr (neg_nonpos.mpr hpos.le)), farTail_neg ex tr htr]

/-- … and with the real exponential the lower value is strictly positive there, so reflection
is *not* an identity of the code between the cut-offs (it holds to within the lower tail). -/
theorem pnorm_reflect_fails_in_gap (x : ℝ) (h1 : upCut ≤ x) (h2 : x < lowCut) :
    pNorm Real.exp truncR (-x) ≠ 1 - pNorm Real.exp truncR x := by
  obtain ⟨e1, e2⟩ := pnorm_reflect_gap Real.exp truncR truncR_odd x h1 h2
  rw [e1, e2, sub_self]
  have h5 := five_le_cut2
  have h2u := cut2_lt_upCut
  have hx : 5 ≤ |x| := by rw [abs_of_pos (by linarith)]; linarith
  have ht := (tailTemp_bd hx).1
  simp only [farTail]
  exact ne_of_gt (mul_pos (mul_pos (Real.exp_pos _) (Real.exp_pos _)) ht)

/-- **Range.**  `0 ≤ pNorm x ≤ 1` for every `x`, in exact arithmetic, for every `exp` with values in
`[0,1]` on the non-positive axis and every odd `trunc` with `0 ≤ trunc z ≤ z` on `z ≥ 0`
(`ExpTrunc`; `Real.exp` and the mathematical `trunc` qualify: `expTrunc_real`). -/
theorem pnorm_range (ex tr : ℝ → ℝ) (H : ExpTrunc ex tr) (x : ℝ) :
    0 ≤ pNorm ex tr x ∧ pNorm ex tr x ≤ 1 := by
  by_cases c1 : |x| ≤ cut1
  · rw [pNorm_central ex tr c1]
    have := abs_le.mp (centralTemp_bd c1)
    constructor <;> linarith
  by_cases c2 : |x| ≤ cut2
  · rw [pNorm_middle ex tr (not_le.mp c1) c2]
    exact tail_range x (middleTail_bd H (abs_nonneg x))
  by_cases c3 : -lowCut < x ∧ x < upCut
  · rw [pNorm_far ex tr (not_le.mp c2) c3.1 c3.2]
    exact tail_range x (farTail_bd H (five_le_cut2.trans (not_le.mp c2).le))
  · rw [not_and_or, not_lt, not_lt] at c3
    rw [pNorm_outside ex tr c3]
    split <;> norm_num

/-- the hypotheses of `pnorm_range` are satisfiable: the real exponential and truncation -/
example (x : ℝ) : 0 ≤ pNorm Real.exp truncR x ∧ pNorm Real.exp truncR x ≤ 1 :=
  pnorm_range _ _ expTrunc_real x

/-- `incompleteGamma(x, α, ·)` (repaired code): the error value -1 iff `x < 0 ∨ α ≤ 0`; inside the
domain 0 at `x = 0` and the kernel for `x > 0`. -/
theorem guards_total_incompleteGamma (K : Kernels ℝ) (x a g : ℝ) :
    (igSentinel x a = true → incompleteGamma K x a g = -1) ∧
    (0 < a → incompleteGamma K 0 a g = 0) ∧
    (0 < x → 0 < a → incompleteGamma K x a g = K.igCore x a g) ∧
    (igSentinel x a = true ↔ x < 0 ∨ a ≤ 0) := by
  refine ⟨fun h => ?_, fun ha => incompleteGamma_zero K ha g, fun hx ha => incompleteGamma_pos K hx ha g,
    igSentinel_iff x a⟩
  rw [incompleteGamma_real, if_pos ((igSentinel_iff x a).mp h)]

/-- under the kernel's contract (inside the domain its value is not the error value) the error
value is returned *iff* the arguments are outside the domain -/
theorem incompleteGamma_sentinel_iff (K : Kernels ℝ)
    (hK : ∀ x a g, 0 < x → 0 < a → K.igCore x a g ≠ -1) (x a g : ℝ) :
    incompleteGamma K x a g = -1 ↔ (x < 0 ∨ a ≤ 0) := by
  refine ⟨fun h => ?_, fun h => by rw [incompleteGamma_real, if_pos h]⟩
  by_contra hs
  rw [not_or, not_lt, not_le] at hs
  rcases eq_or_lt_of_le hs.1 with hx0 | hx
  · rw [← hx0, incompleteGamma_zero K hs.2] at h
    norm_num at h
  · rw [incompleteGamma_pos K hx hs.2] at h
    exact hK x a g hx hs.2 h

/-- the snapshot returned 0 at `x = 0` whatever `α`: `incompleteGamma(0, -1, ·) = 0`, a
plausible value for an argument outside the domain -/
theorem incompleteGammaOld_zero_shadows_check (K : Kernels ℝ) (g : ℝ) :
    incompleteGammaOld K 0 (-1) g = 0 := by
  simp [incompleteGammaOld]

/-- `pGamma(x, α, β)`: raises iff `α < 0 ∨ β < 0`; 1 at `α = 0`; otherwise the incomplete gamma
ratio at `β x` (so the error value -1 for `β x < 0`) -/
theorem guards_total_pGamma (K : Kernels ℝ) (x a b : ℝ) :
    (pGamma K x a b = .exc ↔ pGammaRaises a b = true) ∧
    (pGammaRaises a b = true ↔ a < 0 ∨ b < 0) ∧
    (a = 0 → 0 ≤ b → pGamma K x a b = .val 1) ∧
    (0 < a → 0 ≤ b → pGamma K x a b = .val (incompleteGamma K (b * x) a (K.lnGamma a))) := by
  refine ⟨?_, pGammaRaises_iff a b, fun h0 hb => ?_, fun ha hb => pGamma_pos K x ha hb⟩
  · rw [pGammaRaises_iff, pGamma_real]
    exact ite_ite_eq_iff (ite_ne nofun nofun)
  · rw [pGamma_real, if_neg (not_lt.mpr h0.ge), if_neg (not_lt.mpr hb), if_pos h0]

/-- `pChisq(x, v)`: 0 for `x < 0` (whatever `v`); otherwise raises iff `v < 0` -/
theorem guards_total_pChisq (K : Kernels ℝ) (x v : ℝ) :
    (x < 0 → pChisq K x v = .val 0) ∧
    (pChisq K x v = .exc ↔ pChisqRaises x v = true) ∧
    (pChisqRaises x v = true ↔ 0 ≤ x ∧ v < 0) := by
  refine ⟨fun h => by rw [pChisq_real, if_pos h], ?_, pChisqRaises_iff x v⟩
  rw [pChisqRaises_iff, pChisq_real]
  by_cases hx : x < 0
  · rw [if_pos hx]
    exact iff_of_false nofun fun h => hx.not_ge h.1
  · rw [if_neg hx, (guards_total_pGamma K x (v / 2) (1 / 2)).1, pGammaRaises_iff]
    constructor
    · rintro (h | h)
      · exact ⟨not_lt.mp hx, by linarith⟩
      · norm_num at h
    · intro h
      exact Or.inl (by linarith [h.2])

/-- `qChisq(p, v)`: the error value -1 when `p < 0.000002 ∨ p > 0.999998 ∨ v ≤ 0`, the AS91 kernel
otherwise -/
theorem guards_total_qChisq (K : Kernels ℝ) (p v : ℝ) :
    (qChisqSentinel p v = true → qChisq K p v = -1) ∧
    (qChisqSentinel p v = false → qChisq K p v = K.qChisqCore p v) ∧
    (qChisqSentinel p v = true ↔ p < chLo ∨ chHi < p ∨ v ≤ 0) :=
  ⟨qChisq_of_sentinel K p v, qChisq_of_domain K p v, qChisqSentinel_iff p v⟩

/-- `qGamma(p, α, β)` (repaired code): outside the domain of `qChisq(p, 2α)` the error value -1
itself; inside, `qChisq / (2β)` provided the kernel's value is non-negative (its contract); and
then, for `β > 0`, -1 is returned *only* outside the domain. -/
theorem guards_total_qGamma (K : Kernels ℝ) (p a b : ℝ) :
    (qChisqSentinel p (two * a) = true → qGamma K p a b = -1) ∧
    (qChisqSentinel p (two * a) = false → 0 ≤ K.qChisqCore p (two * a) →
        qGamma K p a b = K.qChisqCore p (two * a) / (2 * b)) ∧
    ((∀ p v, 0 ≤ K.qChisqCore p v) → 0 < b →
        (qGamma K p a b = -1 ↔ qChisqSentinel p (two * a) = true)) ∧
    (qChisqSentinel p (two * a) = true ↔ p < chLo ∨ chHi < p ∨ a ≤ 0) := by
  rw [two_real]
  have hsen : qChisqSentinel p (2 * a) = true → qGamma K p a b = -1 := fun h => by
    rw [qGamma_real, qChisq_of_sentinel K p _ h, if_pos (by norm_num)]
  have hdom : qChisqSentinel p (2 * a) = false → 0 ≤ K.qChisqCore p (2 * a) →
      qGamma K p a b = K.qChisqCore p (2 * a) / (2 * b) := fun h h0 => by
    rw [qGamma_real, qChisq_of_domain K p _ h, if_neg (not_lt.mpr h0)]
  refine ⟨hsen, hdom, fun hK hb => ⟨fun h => ?_, hsen⟩, ?_⟩
  · by_contra hs
    rw [hdom (Bool.eq_false_iff.mpr hs) (hK _ _)] at h
    have : 0 ≤ K.qChisqCore p (2 * a) / (2 * b) := div_nonneg (hK _ _) (by linarith)
    linarith
  · have e : 2 * a ≤ 0 ↔ a ≤ 0 := ⟨fun h => by linarith, fun h => by linarith⟩
    rw [qChisqSentinel_iff, e]

/-- the snapshot's `qGamma` divided the error value by `2β`: for `p = 0, α = 1, β = 1/10` it
returned -5, whatever the kernels -/
theorem qGammaOld_rescales_sentinel (K : Kernels ℝ) : qGammaOld K 0 1 (1 / 10) = -5 := by
  have h : qChisqSentinel (0 : ℝ) (two * 1) = true := by
    rw [qChisqSentinel_iff]; left; exact chLo_pos
  have e : qGammaOld K 0 1 (1 / 10) = qChisq K 0 (two * 1) / (2 * (1 / 10)) := by simp [qGammaOld]
  rw [e, qChisq_of_sentinel K _ _ h]; norm_num

/-- `incompleteBeta(x, α, β)` (= `pBeta`): raises iff `α ≤ 0 ∨ β ≤ 0 ∨ x < 0 ∨ x > 1`; exact end
points; the kernel strictly inside -/
theorem guards_total_incompleteBeta (K : Kernels ℝ) (x a b : ℝ) :
    (incompleteBeta K x a b = .exc ↔ ibRaises x a b = true) ∧
    (ibRaises x a b = true ↔ a ≤ 0 ∨ b ≤ 0 ∨ x < 0 ∨ 1 < x) ∧
    (0 < a → 0 < b → incompleteBeta K 0 a b = .val 0 ∧ incompleteBeta K 1 a b = .val 1) ∧
    (0 < a → 0 < b → 0 < x → x < 1 → incompleteBeta K x a b = .val (K.ibCore x a b)) ∧
    pBeta K x a b = incompleteBeta K x a b := by
  refine ⟨?_, ibRaises_iff x a b, fun ha hb => ?_, fun ha hb hx0 hx1 => ?_, rfl⟩
  · rw [ibRaises_iff, incompleteBeta_real, ← or_assoc]
    exact ite_ite_eq_iff (ite_ne nofun (ite_ne nofun nofun))
  · have h1 : ¬ (a ≤ 0 ∨ b ≤ 0) := not_or.mpr ⟨not_le.mpr ha, not_le.mpr hb⟩
    constructor
    · rw [incompleteBeta_real, if_neg h1, if_neg (by norm_num), if_pos rfl]
    · rw [incompleteBeta_real, if_neg h1, if_neg (by norm_num), if_neg one_ne_zero, if_pos rfl]
  · rw [incompleteBeta_real, if_neg (not_or.mpr ⟨not_le.mpr ha, not_le.mpr hb⟩),
      if_neg (not_or.mpr ⟨not_lt.mpr hx0.le, not_lt.mpr hx1.le⟩), if_neg hx0.ne', if_neg hx1.ne]

/-- `qBeta(p, α, β)`: raises when `p ∉ [0,1]` or a shape is negative; returns `p` at `p ∈ {0,1}`
(also for a zero shape: the check is `< 0`); the AS109 kernel otherwise — which, calling `pBeta`,
raises for a zero shape (`qBeta_zero_shape_raises` in `C08Kernels.lean`). -/
theorem guards_total_qBeta (K : Kernels ℝ) (p a b : ℝ) :
    (qBetaRaises p a b = true → qBeta K p a b = .exc) ∧
    (qBetaRaises p a b = true ↔ p < 0 ∨ 1 < p ∨ a < 0 ∨ b < 0) ∧
    (0 ≤ a → 0 ≤ b → qBeta K 0 a b = .val 0 ∧ qBeta K 1 a b = .val 1) ∧
    (0 ≤ a → 0 ≤ b → 0 < p → p < 1 → qBeta K p a b = K.qBetaCore p a b) := by
  refine ⟨fun h => ?_, qBetaRaises_iff p a b, fun ha hb => ?_, fun ha hb h0 h1 => ?_⟩
  · rw [qBetaRaises_iff, ← or_assoc] at h
    rw [qBeta_real]
    rcases h with h | h
    · rw [if_pos h]
    · rw [if_pos h, ite_self]
  · have h2 : ¬ (a < 0 ∨ b < 0) := not_or.mpr ⟨not_lt.mpr ha, not_lt.mpr hb⟩
    constructor
    · rw [qBeta_real, if_neg (by norm_num), if_neg h2, if_pos (Or.inl rfl)]
    · rw [qBeta_real, if_neg (by norm_num), if_neg h2, if_pos (Or.inr rfl)]
  · rw [qBeta_real, if_neg (not_or.mpr ⟨not_lt.mpr h0.le, not_lt.mpr h1.le⟩),
      if_neg (not_or.mpr ⟨not_lt.mpr ha, not_lt.mpr hb⟩), if_neg (not_or.mpr ⟨h0.ne', h1.ne⟩)]

/-- `qNorm(p)`: the error value -9999 **iff** `p < 1e-20 ∨ p > 1 - 1e-20` (no kernel contract is
needed: inside the domain the Odeh–Evans value lies in `[-12, 12]`) -/
theorem guards_total_qNorm (p : ℝ) :
    (qNorm p = -9999 ↔ qNormSentinel p = true) ∧
    (qNormSentinel p = true ↔ p < qEps ∨ 1 - qEps < p) := by
  refine ⟨⟨fun h => ?_, fun h => ?_⟩, qNormSentinel_iff p⟩
  · by_contra hs
    exact qNorm_ne_sentinel (Bool.eq_false_iff.mpr hs) h
  · rw [qNorm_real, if_pos ((ScalarReal.ltb_iff _ _).mp h)]

/-- `qNorm(p, μ, σ)` (repaired code): the error value itself outside the domain, the affine image
of the standard quantile inside -/
theorem guards_total_qNorm3 (p mu sigma : ℝ) :
    (qNormSentinel p = true → qNorm3 p mu sigma = -9999) ∧
    (qNormSentinel p = false → qNorm3 p mu sigma = qNorm p * sigma + mu) := by
  constructor
  · intro h
    have := (guards_total_qNorm p).1.mpr h
    rw [qNorm3_real, if_pos this, this]
  · intro h
    rw [qNorm3_real, if_neg (qNorm_ne_sentinel h)]

/-- the snapshot's `qNorm(p, μ, σ)` mapped the error value affinely: `qNorm(0, 5, 2) = -19993` -/
theorem qNorm3Old_rescales_sentinel : qNorm3Old (0 : ℝ) 5 2 = -19993 := by
  have h : qNorm (0 : ℝ) = -9999 :=
    (guards_total_qNorm 0).1.mpr ((qNormSentinel_iff 0).mpr (Or.inl qEps_pos))
  simp only [qNorm3Old, h]; norm_num

/-- symmetry of the quantile inside the domain: the two halves use the same formula.  (Outside,
both sides are the error value -9999, which is *not* antisymmetric.) -/
theorem qnorm_reflect (p : ℝ) (h0 : qEps ≤ p) (hp : p < 1 / 2) : qNorm (1 - p) = -qNorm p := by
  have h1 : ¬ (1 - p < 1 / 2) := by linarith
  have e1 : qP1 (1 - p) = p := by rw [qP1_real, if_neg h1]; ring
  have e2 : qP1 p = p := by rw [qP1_real, if_pos hp]
  rw [qNorm_real, qNorm_real, e1, e2, if_neg h1, if_pos hp, if_neg (not_lt.mpr h0), if_neg (not_lt.mpr h0), neg_neg]

/-- `pChisq x v = pGamma x (v/2) (1/2)` on the support -/
theorem wrapper_pChisq (K : Kernels ℝ) (x v : ℝ) (hx : 0 ≤ x) :
    pChisq K x v = pGamma K x (v / 2) (1 / 2) := by
  rw [pChisq_real, if_neg (not_lt.mpr hx)]

/-- `qGamma p α β = qChisq p (2α) / (2β)` whenever `qChisq` did not report an error -/
theorem wrapper_qGamma (K : Kernels ℝ) (p a b : ℝ) (h : 0 ≤ qChisq K p (2 * a)) :
    qGamma K p a b = qChisq K p (2 * a) / (2 * b) := by
  rw [qGamma_real, if_neg (not_lt.mpr h)]

/-- affine forms of the normal -/
theorem wrapper_pNorm3 (ex tr : ℝ → ℝ) (x mu sigma : ℝ) :
    pNorm3 ex tr x mu sigma = pNorm ex tr ((x - mu) / sigma) := rfl

theorem wrapper_qNorm3 (p mu sigma : ℝ) (h : qNormSentinel p = false) :
    qNorm3 p mu sigma = qNorm p * sigma + mu := (guards_total_qNorm3 p mu sigma).2 h

theorem wrapper_lnBeta (K : Kernels ℝ) (a b : ℝ) :
    lnBeta K a b = K.lnGamma a + K.lnGamma b - K.lnGamma (a + b) := rfl

theorem wrapper_pBeta (K : Kernels ℝ) (x a b : ℝ) : pBeta K x a b = incompleteBeta K x a b := rfl

/-- the location-scale wrappers of the normal are mutually inverse exactly as far as the
standard functions are: `pNorm (qNorm p μ σ) μ σ = pNorm (qNorm p)` for `σ ≠ 0` -/
theorem normal_affine_inverts (ex tr : ℝ → ℝ) (p mu sigma : ℝ) (hs : sigma ≠ 0)
    (h : qNormSentinel p = false) :
    pNorm3 ex tr (qNorm3 p mu sigma) mu sigma = pNorm ex tr (qNorm p) := by
  rw [wrapper_pNorm3, wrapper_qNorm3 p mu sigma h]
  congr 1
  field_simp
  ring

/-- **The gamma round trip *is* the chi-square round trip** — no contract on accuracy: for `α, β > 0`
and a non-negative `qChisq` value (i.e. not its error value), `pGamma (qGamma p α β) α β` and
`pChisq (qChisq p 2α) 2α` are the same `incompleteGamma` call.  Hence whatever accuracy `ε` the
chi-square pair achieves (explored: 1e-8), the gamma pair achieves the same for every rate. -/
theorem qGamma_roundtrip_eq (K : Kernels ℝ) (p a b : ℝ) (ha : 0 < a) (hb : 0 < b)
    (hc : 0 ≤ qChisq K p (2 * a)) :
    pGamma K (qGamma K p a b) a b = pChisq K (qChisq K p (2 * a)) (2 * a) := by
  rw [wrapper_qGamma K p a b hc, wrapper_pChisq K _ _ hc, pGamma_pos K _ (by linarith : 0 < 2 * a / 2) (by norm_num),
    pGamma_pos K _ ha hb.le]
  have e1 : b * (qChisq K p (2 * a) / (2 * b)) = 1 / 2 * qChisq K p (2 * a) := by
    field_simp
  have e2 : 2 * a / 2 = a := by ring
  rw [e1, e2]

/-- **Relative inverse theorem** (`_relative`: about the wrappers, *relative to* a contract the actual
kernels do not meet — AS91 inverts the chi-square cdf to about 5e-9, not exactly; see
`qGamma_roundtrip_eq` for the statement that needs no such contract).  If the chi-square pair inverts
exactly on the domain of `qChisq`, so does the gamma pair, for every rate `β > 0`. -/
theorem qGamma_inverts_relative (K : Kernels ℝ)
    (hinv : ∀ p v, qChisqSentinel p v = false → pChisq K (qChisq K p v) v = .val p)
    (p a b : ℝ) (hb : 0 < b) (hp : qChisqSentinel p (2 * a) = false) :
    pGamma K (qGamma K p a b) a b = .val p := by
  have hI := hinv p (2 * a) hp
  have hdom := qChisq_domain hp
  -- the quantile is non-negative: otherwise pChisq would be 0 ≠ p
  have hc : 0 ≤ qChisq K p (2 * a) := by
    by_contra hneg
    rw [(guards_total_pChisq K _ _).1 (not_le.mp hneg)] at hI
    have : (0 : ℝ) = p := by injection hI
    linarith [chLo_pos, hdom.1]
  rw [qGamma_roundtrip_eq K p a b (by linarith [hdom.2.2]) hb hc, hI]

/-! ## Monotone kernels give monotone wrappers (`σ, β > 0`) -/

theorem affine_monotone_pNorm3 (ex tr : ℝ → ℝ) (hmono : Monotone (pNorm ex tr)) (mu sigma : ℝ)
    (hs : 0 < sigma) : Monotone (fun x => pNorm3 ex tr x mu sigma) := by
  intro x y hxy
  simp only [wrapper_pNorm3]
  apply hmono
  exact div_le_div_of_nonneg_right (by linarith) (le_of_lt hs)

theorem affine_monotone_qNorm3 (mu sigma : ℝ) (hs : 0 < sigma) (p q : ℝ)
    (hp : qNormSentinel p = false) (hq : qNormSentinel q = false)
    (hmono : qNorm p ≤ qNorm q) : qNorm3 p mu sigma ≤ qNorm3 q mu sigma := by
  rw [wrapper_qNorm3 p mu sigma hp, wrapper_qNorm3 q mu sigma hq]
  have := mul_le_mul_of_nonneg_right hmono (le_of_lt hs)
  linarith

/-- monotone *up to `δ`*: when the kernel is non-negative and non-decreasing up to a slack `δ ≥ 0` on
`x > 0`, so is `incompleteGamma` on `x ≥ 0`.  (`δ = 0` is `incompleteGamma_monotone_relative`; the
exploration checks the antecedent for the actual kernel at `δ = 2e-8`, clause
`search_monotone_pgamma@switch`.) -/
theorem incompleteGamma_monotone_slack (K : Kernels ℝ) (a g δ : ℝ) (ha : 0 < a) (hδ : 0 ≤ δ)
    (hpos : ∀ x, 0 < x → 0 ≤ K.igCore x a g)
    (hmono : ∀ x y, 0 < x → x ≤ y → K.igCore x a g ≤ K.igCore y a g + δ)
    (x y : ℝ) (hx : 0 ≤ x) (hxy : x ≤ y) :
    incompleteGamma K x a g ≤ incompleteGamma K y a g + δ := by
  rcases eq_or_lt_of_le hx with h0 | h0
  · rw [← h0, incompleteGamma_zero K ha]
    rcases eq_or_lt_of_le (hx.trans hxy) with h1 | h1
    · rw [← h1, incompleteGamma_zero K ha]
      linarith
    · rw [incompleteGamma_pos K h1 ha]
      linarith [hpos y h1]
  · rw [incompleteGamma_pos K h0 ha, incompleteGamma_pos K (h0.trans_le hxy) ha]
    exact hmono x y h0 hxy

/-- `incompleteGamma` is non-decreasing on `x ≥ 0` when its kernel is non-decreasing and
non-negative on `x > 0` (the value at 0 is the constant 0).  `_relative`: the antecedent "kernel
non-decreasing" is **refuted for the actual kernel** by the known findings
`C08-pgamma-switch-monotone` / `C08-pchisq-switch-monotone` (it steps down by ~1e-8 at the series /
continued-fraction switch); `incompleteGamma_monotone_slack` is the version whose antecedent the
exploration supports (`δ = 2e-8`). -/
theorem incompleteGamma_monotone_relative (K : Kernels ℝ) (a g : ℝ) (ha : 0 < a)
    (hpos : ∀ x, 0 < x → 0 ≤ K.igCore x a g)
    (hmono : ∀ x y, 0 < x → x ≤ y → K.igCore x a g ≤ K.igCore y a g)
    (x y : ℝ) (hx : 0 ≤ x) (hxy : x ≤ y) :
    incompleteGamma K x a g ≤ incompleteGamma K y a g := by
  have := incompleteGamma_monotone_slack K a g 0 ha le_rfl hpos
    (fun x y hx hxy => (hmono x y hx hxy).trans_eq (add_zero _).symm) x y hx hxy
  rwa [add_zero] at this

/-- `pGamma(·, α, β)` is non-decreasing on `x ≥ 0` for `α > 0, β > 0` under the same contract
(`_relative`: a contract the actual gamma kernel fails, see `incompleteGamma_monotone_relative`) -/
theorem affine_monotone_pGamma_relative (K : Kernels ℝ) (a b : ℝ) (ha : 0 < a) (hb : 0 < b)
    (hpos : ∀ x, 0 < x → 0 ≤ K.igCore x a (K.lnGamma a))
    (hmono : ∀ x y, 0 < x → x ≤ y → K.igCore x a (K.lnGamma a) ≤ K.igCore y a (K.lnGamma a))
    (x y : ℝ) (hx : 0 ≤ x) (hxy : x ≤ y) :
    ∃ u v, pGamma K x a b = .val u ∧ pGamma K y a b = .val v ∧ u ≤ v := by
  refine ⟨_, _, pGamma_pos K x ha hb.le, pGamma_pos K y ha hb.le, ?_⟩
  exact incompleteGamma_monotone_relative K a _ ha hpos hmono _ _ (mul_nonneg hb.le hx)
    (mul_le_mul_of_nonneg_left hxy hb.le)

/-- `pChisq(·, v)` is non-decreasing on the whole line for `v > 0` (0 left of the support), under the
same contract (`_relative`: a contract the actual gamma kernel fails) -/
theorem affine_monotone_pChisq_relative (K : Kernels ℝ) (v : ℝ) (hv : 0 < v)
    (hpos : ∀ x, 0 < x → 0 ≤ K.igCore x (v / 2) (K.lnGamma (v / 2)))
    (hmono : ∀ x y, 0 < x → x ≤ y →
      K.igCore x (v / 2) (K.lnGamma (v / 2)) ≤ K.igCore y (v / 2) (K.lnGamma (v / 2)))
    (x y : ℝ) (hxy : x ≤ y) :
    ∃ u w, pChisq K x v = .val u ∧ pChisq K y v = .val w ∧ u ≤ w := by
  have hv2 : 0 < v / 2 := by linarith
  by_cases hx : x < 0
  · by_cases hy : y < 0
    · exact ⟨0, 0, (guards_total_pChisq K x v).1 hx, (guards_total_pChisq K y v).1 hy, le_refl _⟩
    · have hy' : 0 ≤ y := not_lt.mp hy
      refine ⟨0, _, (guards_total_pChisq K x v).1 hx,
        (wrapper_pChisq K y v hy').trans (pGamma_pos K y hv2 (by norm_num)), ?_⟩
      -- the value at y ≥ 0 is an incomplete gamma value, hence ≥ 0
      have := incompleteGamma_monotone_relative K (v / 2) _ hv2 hpos hmono 0 (1 / 2 * y) (le_refl _) (by positivity)
      rwa [incompleteGamma_zero K hv2] at this
  · have hx' : 0 ≤ x := not_lt.mp hx
    rw [wrapper_pChisq K x v hx', wrapper_pChisq K y v (hx'.trans hxy)]
    exact affine_monotone_pGamma_relative K (v / 2) (1 / 2) hv2 (by norm_num) hpos hmono x y hx' hxy

/-- `qGamma(·, α, β)` is non-decreasing on the domain of `qChisq` for `β > 0` when the AS91
kernel is non-decreasing and non-negative -/
theorem affine_monotone_qGamma (K : Kernels ℝ) (a b : ℝ) (hb : 0 < b)
    (hpos : ∀ p, 0 ≤ K.qChisqCore p (2 * a))
    (p q : ℝ) (hp : qChisqSentinel p (2 * a) = false) (hq : qChisqSentinel q (2 * a) = false)
    (hmono : K.qChisqCore p (2 * a) ≤ K.qChisqCore q (2 * a)) :
    qGamma K p a b ≤ qGamma K q a b := by
  have e1 := qChisq_of_domain K p _ hp
  have e2 := qChisq_of_domain K q _ hq
  rw [wrapper_qGamma K p a b (by rw [e1]; exact hpos p), wrapper_qGamma K q a b (by rw [e2]; exact hpos q),
    e1, e2]
  exact div_le_div_of_nonneg_right hmono (by linarith)

/-- special case: the median, for every `exp` and `trunc` -/
theorem pnorm_zero (ex tr : ℝ → ℝ) : pNorm ex tr 0 = 1 / 2 := by
  rw [pNorm_central ex tr (by rw [abs_zero]; exact cut1_pos.le), centralTemp, zero_mul, zero_div, add_zero]

/-- inside its domain the standard normal quantile is a number of ordinary size (so the error
value -9999 cannot be mistaken for a quantile) -/
theorem qnorm_bounded (p : ℝ) (h : qNormSentinel p = false) : |qNorm p| ≤ 12 :=
  qNorm_abs_le h

/-- rate scaling of the gamma cdf: `pGamma x α β = pGamma (β x) α 1` -/
theorem pGamma_scale (K : Kernels ℝ) (x a b : ℝ) (ha : 0 < a) (hb : 0 ≤ b) :
    pGamma K x a b = pGamma K (b * x) a 1 := by
  rw [pGamma_pos K x ha hb, pGamma_pos K (b * x) ha zero_le_one, one_mul]

/-- rate scaling of the gamma quantile: `qGamma p α β = qGamma p α 1 / β` for `β ≠ 0`, as long as
`qChisq` reported no error -/
theorem qGamma_scale (K : Kernels ℝ) (p a b : ℝ) (hb : b ≠ 0) (h : 0 ≤ qChisq K p (2 * a)) :
    qGamma K p a b = qGamma K p a 1 / b := by
  rw [wrapper_qGamma K p a b h, wrapper_qGamma K p a 1 h]
  field_simp

/-- under the AS109 kernel's contract (no exception for positive shapes) `qBeta` raises, for
positive shapes, **iff** the probability is outside `[0,1]` -/
theorem qBeta_exc_iff (K : Kernels ℝ) (hK : ∀ p a b, 0 < a → 0 < b → K.qBetaCore p a b ≠ .exc)
    (p a b : ℝ) (ha : 0 < a) (hb : 0 < b) : qBeta K p a b = .exc ↔ (p < 0 ∨ 1 < p) := by
  have hr : (if p = 0 ∨ p = 1 then Out.val p else K.qBetaCore p a b) ≠ .exc := ite_ne nofun (hK p a b ha hb)
  rw [qBeta_real, ite_ite_eq_iff hr, or_iff_left (not_or.mpr ⟨not_lt.mpr ha.le, not_lt.mpr hb.le⟩)]

/-! ## Non-vacuity: kernels meeting the contracts used above exist -/

/-- a toy kernel family: `igCore x = x`, `qChisqCore p = 2p` -/
def toyK : Kernels ℝ where
  lnGamma _ := 0
  igCore x _ _ := x
  qChisqCore p _ := 2 * p
  ibCore x _ _ := x
  qBetaCore p _ _ := .val p

example (p a b : ℝ) (hb : 0 < b) (hp : qChisqSentinel p (2 * a) = false) :
    pGamma toyK (qGamma toyK p a b) a b = .val p := by
  apply qGamma_inverts_relative toyK _ p a b hb hp
  intro p v h
  have hdom := qChisq_domain h
  have hp0 : 0 < p := lt_of_lt_of_le chLo_pos hdom.1
  have hc : qChisq toyK p v = 2 * p := qChisq_of_domain toyK p v h
  rw [hc, wrapper_pChisq toyK _ _ (by linarith), pGamma_pos toyK _ (by linarith [hdom.2.2]) (by norm_num),
    incompleteGamma_pos toyK (by linarith) (by linarith [hdom.2.2])]
  simp [toyK]

example : qChisqSentinel (1 / 2 : ℝ) (2 * 1) = false := by
  rw [Bool.eq_false_iff, Ne, qChisqSentinel_iff, chLo_real, chHi_real]
  norm_num

end Bpp.C08
