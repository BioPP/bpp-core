import BppProofs.Lemmas.Range
/-!
# C20 — range collections behave as sets of points   (src/Bpp/Numeric/Range.h)

The operation model (`Op`, `step`, `run`), the declarative semantics of a history (`addK`,
`restrictK`, `filterK`, `specStepK` on components, `specStep` on points; `C20Inst` and `C20Measure`
build on them too) and the property theorems.  Points, disjointness, the invariant `Inv` and the
lemmas about `clean_` and the merge loop are in `Lemmas/Range.lean`.  Everything in this file is
proved **once, for every coordinate type** that is a decidable linear order with a constant `0`
(`Std.IsLinearOrder`, `Std.LawfulOrderLT`), `std::min`/`std::max` (`MinMaxLaws`) and, for the
shifts only, group laws of `+`/`-` (`ShiftLaws`).  `Props/C20Inst.lean` instantiates the theorems
at `Int` (`int`), `UInt32` (`unsigned`, arithmetic modulo 2^32) and `Rat` (`double`).

No restriction on the sign of the coordinates: since the audit repair of `clean_` (empty ranges
are dropped *before* `std::sort`) the comparator is only ever applied to non-empty pairwise
disjoint ranges (`sort_input_ok`), on which it is a strict weak order whatever the sign.  Before the
repair the `[0,0[` written by `sliceWith` next to a stored range straddling 0 made it inconsistent
(`comparator_inconsistent_negative` in `C20Inst.lean`) and `std::sort` crashed.
-/
set_option linter.unusedSectionVars false
namespace Bpp.C20
open Bpp Bpp.Range Bpp.MultiRange

section
variable {α : Type} [LE α] [LT α] [DecidableLE α] [DecidableLT α] [DecidableEq α] [OfNat α 0]
  [Std.IsLinearOrder α] [Std.LawfulOrderLT α]

/-! ## Range: constructor, comparison operators -/

theorem make_wf [Min α] [Max α] [MinMaxLaws α] (a b : α) :
    (Range.make a b).b ≤ (Range.make a b).e ∧
    (Range.make a b).b = min a b ∧ (Range.make a b).e = max a b ∧
    ((Range.make a b).b = a ∧ (Range.make a b).e = b ∨ (Range.make a b).b = b ∧ (Range.make a b).e = a) := by
  simp only [Range.make, MinMaxLaws.min_def, MinMaxLaws.max_def]; grind

/-- reversed arguments give the same range -/
theorem make_comm [Min α] [Max α] [MinMaxLaws α] (a b : α) : Range.make a b = Range.make b a := by
  simp only [Range.make, Range.mk.injEq, MinMaxLaws.min_def, MinMaxLaws.max_def]; grind

/-- `Range()` is the empty range `[0,0[`; `Range(a)` is `[0,a[` in the universe `a ≥ 0` -/
theorem make_default [Min α] [Max α] [MinMaxLaws α] :
    (Range.default : Range α) = ⟨0, 0⟩ ∧ (Range.default : Range α).isEmpty = true ∧
    ∀ a : α, 0 ≤ a → Range.make1 a = ⟨0, a⟩ := by
  simp only [Range.default, Range.make1, Range.make, Range.isEmpty, Range.mk.injEq,
    MinMaxLaws.min_def, MinMaxLaws.max_def]; grind

/-- `operator==` is equality of ranges, `operator!=` its negation -/
theorem eq_ne_spec (x r : Range α) : (x.eq r = true ↔ x = r) ∧ x.ne r = !x.eq r := by
  cases x; cases r
  simp only [Range.eq, Range.ne, Range.mk.injEq]
  grind

/-- the strict-weak-order axioms of a comparator at three elements: irreflexive, asymmetric,
transitive, and incomparability is transitive -/
def StrictWeakAt (x y z : Range α) : Prop :=
  x.lt x = false ∧ (x.lt y = true → y.lt x = false) ∧
  (x.lt y = true → y.lt z = true → x.lt z = true) ∧
  (x.lt y = false → y.lt x = false → y.lt z = false → z.lt y = false →
    x.lt z = false ∧ z.lt x = false)

/-- `operator<` (`begin < r.begin || end < r.end`) is irreflexive, and on ranges that are
well-formed and pairwise disjoint — what `clean_` sorts — it is a strict weak order, so the result
of any correct `std::sort` is determined (**comparator_consistent**) -/
theorem comparator_consistent (x y z : Range α) (hx : x.b ≤ x.e) (hy : y.b ≤ y.e) (hz : z.b ≤ z.e)
    (hxy : Disj x y) (hyz : Disj y z) (hxz : Disj x z) : StrictWeakAt x y z := by
  simp only [Disj, StrictWeakAt, ← Bool.not_eq_true, lt_eq] at *
  grind

/-- of two disjoint non-empty ranges one is "less" than the other under the comparator: the sorted
order is total on what a multi-range stores -/
theorem comparator_total (x y : Range α) (hx : x.b < x.e) (hy : y.b < y.e) (hxy : Disj x y) :
    x.lt y = true ∨ y.lt x = true := by
  rw [lt_eq, lt_eq]; simp only [Disj] at hxy
  grind

/-! ## Range: predicates, expansion, slicing, shifting -/

theorem isEmpty_iff (x : Range α) (hx : x.b ≤ x.e) : x.isEmpty = true ↔ ∀ p, ¬ mem p x := by
  rw [isEmpty_eq]; unfold mem
  constructor
  · intro h p; grind
  · intro h; have := h x.b; grind

/-- two non-empty ranges overlap iff they share a point.
FULL STATEMENT (the property says "including empty ranges"):
  `∀ x r, x.b ≤ x.e → r.b ≤ r.e → (x.overlap r = true ↔ ∃ p, mem p x ∧ mem p r)`
is FALSE of the code: an empty operand lying strictly inside the other "overlaps" it
(`overlap_empty`, witness `C20Inst.overlap_empty_operand_witness`, known finding
C20-overlap-empty-operand).  What is missing here: the empty operands. -/
theorem overlap_iff_partial (x r : Range α) (hx : x.b < x.e) (hr : r.b < r.e) :
    x.overlap r = true ↔ ∃ p, mem p x ∧ mem p r := by
  rw [overlap_eq]; unfold mem
  constructor
  · intro h
    rcases Std.le_total (a := x.b) (b := r.b) with h1 | h1
    · exact ⟨r.b, by grind⟩
    · exact ⟨x.b, by grind⟩
  · rintro ⟨p, hp⟩; grind

/-- for an empty operand the code reads it as the position `b`: it "overlaps" a range iff it lies
strictly inside (stated outright so that the degenerate case is not hidden) -/
theorem overlap_empty (x r : Range α) (hr : r.b = r.e) :
    x.overlap r = true ↔ (x.b < r.b ∧ r.b < x.e) := by
  rw [overlap_eq]; grind

/-- containment of a non-empty range is set inclusion.
FULL STATEMENT: `∀ x r, r.b ≤ r.e → (x.contains r = true ↔ ∀ p, mem p r → mem p x)` is FALSE of the
code: an empty `r = [c,c[` with `c` outside `[x.b, x.e]` is "not contained" although it has no
point (`contains_endpoints`, witness `C20Inst.contains_empty_range_witness`, known finding
C20-contains-empty-range).  What is missing here: the empty argument. -/
theorem contains_iff_partial (x r : Range α) (hr : r.b < r.e) :
    x.contains r = true ↔ ∀ p, mem p r → mem p x := by
  rw [contains_eq]; unfold mem
  constructor
  · intro h p hp; grind
  · intro h
    have h1 := h r.b (by grind)
    refine ⟨h1.1, ?_⟩
    apply Classical.byContradiction
    intro hc
    have h2 := h x.e (by grind)
    grind

theorem contains_endpoints (x r : Range α) : x.contains r = true ↔ (x.b ≤ r.b ∧ r.e ≤ x.e) :=
  contains_eq x r

theorem contiguous_iff (x r : Range α) : x.isContiguous r = true ↔ (r.b = x.e ∨ r.e = x.b) := by
  simp [Range.isContiguous]

/-- `overlap` is symmetric (so `overlap_empty` also covers an empty *first* operand) -/
theorem overlap_comm (x r : Range α) : x.overlap r = r.overlap x := by
  simp only [Range.overlap]; exact Bool.and_comm _ _

/-- contiguity in interval arithmetic (not the definition restated): two non-empty ranges are
contiguous iff they share no point and their union is the whole hull `[min b, max e[` -/
theorem contiguous_spec (x r : Range α) (hx : x.b < x.e) (hr : r.b < r.e) :
    x.isContiguous r = true ↔
      (¬ ∃ p, mem p x ∧ mem p r) ∧
      ∀ p, ((x.b ≤ p ∨ r.b ≤ p) ∧ (p < x.e ∨ p < r.e)) → mem p x ∨ mem p r := by
  rw [contiguous_iff]; unfold mem
  constructor
  · intro h
    refine ⟨?_, ?_⟩
    · rintro ⟨p, hp⟩; grind
    · intro p hp; grind
  · rintro ⟨h1, h2⟩
    have a1 := h2 x.e
    have a2 := h2 r.e
    have b1 : ¬ (x.b ≤ x.b ∧ x.b < x.e ∧ r.b ≤ x.b ∧ x.b < r.e) := fun h => h1 ⟨x.b, ⟨h.1, h.2.1⟩, h.2.2⟩
    have b2 : ¬ (x.b ≤ r.b ∧ r.b < x.e ∧ r.b ≤ r.b ∧ r.b < r.e) := fun h => h1 ⟨r.b, ⟨h.1, h.2.1⟩, h.2.2⟩
    grind

/-- what the predicates of `Range` mean in interval arithmetic on half-open intervals -/
def RangePreds (x r : Range α) : Prop :=
  (x.isEmpty = true ↔ ∀ p, ¬ mem p x) ∧
  (x.b < x.e → r.b < r.e → (x.overlap r = true ↔ ∃ p, mem p x ∧ mem p r)) ∧
  (r.b = r.e → (x.overlap r = true ↔ (x.b < r.b ∧ r.b < x.e))) ∧
  (r.b < r.e → (x.contains r = true ↔ ∀ p, mem p r → mem p x)) ∧
  (x.contains r = true ↔ (x.b ≤ r.b ∧ r.e ≤ x.e)) ∧
  (x.isContiguous r = true ↔ (r.b = x.e ∨ r.e = x.b)) ∧
  (x.b < x.e → r.b < r.e → (x.isContiguous r = true ↔
    (¬ ∃ p, mem p x ∧ mem p r) ∧
    ∀ p, ((x.b ≤ p ∨ r.b ≤ p) ∧ (p < x.e ∨ p < r.e)) → mem p x ∨ mem p r)) ∧
  x.overlap r = r.overlap x

/-- **range_preds_partial**: `overlap`, `contains`, `isContiguous`, `isEmpty` agree with interval
arithmetic on half-open intervals -/
theorem range_preds_partial (x r : Range α) (hx : x.b ≤ x.e) (_hr : r.b ≤ r.e) : RangePreds x r :=
  ⟨isEmpty_iff x hx, overlap_iff_partial x r, overlap_empty x r, contains_iff_partial x r, contains_endpoints x r,
    contiguous_iff x r, contiguous_spec x r, overlap_comm x r⟩

/-- slicing is intersection, for all (possibly empty) well-formed operands -/
theorem slice_spec (x r : Range α) (hx : x.b ≤ x.e) (hr : r.b ≤ r.e) :
    (x.sliceWith r).b ≤ (x.sliceWith r).e ∧ ∀ p, mem p (x.sliceWith r) ↔ mem p x ∧ mem p r :=
  ⟨sliceWith_wf x r hx, mem_sliceWith x r hr⟩

/-- a slice is either the reset range `[0,0[` or lies inside the sliced range -/
theorem slice_bounds (x r : Range α) (hx : x.b ≤ x.e) :
    x.sliceWith r = ⟨0, 0⟩ ∨
    (x.b ≤ (x.sliceWith r).b ∧ (x.sliceWith r).b ≤ (x.sliceWith r).e ∧ (x.sliceWith r).e ≤ x.e) :=
  sliceWith_bounds x r hx

/-- the end points of a slice are end points of the operands, or the literal `0` -/
theorem slice_endpoints (x r : Range α) :
    ((x.sliceWith r).b = x.b ∨ (x.sliceWith r).b = r.b ∨ (x.sliceWith r).b = 0) ∧
    ((x.sliceWith r).e = x.e ∨ (x.sliceWith r).e = r.e ∨ (x.sliceWith r).e = 0) :=
  sliceWith_endpoints x r

/-- expansion is union whenever the union is an interval (overlapping or touching operands),
and leaves the range unchanged otherwise -/
theorem expand_spec (x r : Range α) (hx : x.b ≤ x.e) (_hr : r.b ≤ r.e) :
    (r.b ≤ x.e ∧ x.b ≤ r.e → ∀ p, mem p (x.expandWith r) ↔ mem p x ∨ mem p r) ∧
    (¬ (r.b ≤ x.e ∧ x.b ≤ r.e) → x.expandWith r = x) ∧
    ((x.expandWith r).b = x.b ∨ (x.expandWith r).b = r.b) ∧
    ((x.expandWith r).e = x.e ∨ (x.expandWith r).e = r.e) := by
  refine ⟨expand_mem x r, fun h => ?_, (expand_endpoints x r).1, (expand_endpoints x r).2⟩
  cases x
  simp only [Range.expandWith, Range.mk.injEq] at *; grind

def ShiftLength [Add α] [Sub α] (x : Range α) (v : α) : Prop :=
  (x.shift v).length = x.length ∧ (x.unshift v).length = x.length ∧
  (x.shift v).unshift v = x ∧ (x.unshift v).shift v = x

/-- **shift_length**: shifting preserves the length and `- v` undoes `+ v` — in every coordinate
type whose `+`/`-` satisfy the group laws, so also for `unsigned` when the shift wraps -/
theorem shift_length [Add α] [Sub α] [ShiftLaws α] (x : Range α) (v : α) : ShiftLength x v := by
  cases x
  simp only [ShiftLength, Range.shift, Range.unshift, Range.length, ShiftLaws.add_sub_add, ShiftLaws.sub_sub_sub,
    ShiftLaws.add_sub_cancel, ShiftLaws.sub_add_cancel, and_self]

/-! ## MultiRange: one step -/

/-- the admissible arguments: well-formed ranges, as built by the normalising constructor (a
wrapped `unsigned` shift result is not: `C20Inst.illformed_arg_uint`) -/
def Arg (r : Range α) : Prop := r.b ≤ r.e

theorem make_arg [Min α] [Max α] [MinMaxLaws α] (a b : α) : Arg (Range.make a b) :=
  (make_wf a b).1

/-- **component-level meaning of `addRange`**: the stored ranges that do not overlap `r` stay,
and — unless nothing overlaps and `r` is empty — one new non-empty range appears whose points are
exactly those of `r` and of all overlapped ranges -/
def addK (K : Range α → Prop) (r : Range α) (y : Range α) : Prop :=
  (K y ∧ y.overlap r = false) ∨
  (y.b < y.e ∧ ∀ p, mem p y ↔ (mem p r ∨ ∃ x, K x ∧ x.overlap r = true ∧ mem p x))

theorem add_spec (m : List (Range α)) (r : Range α) (hm : MultiRange.Inv m) (hr : Arg r) :
    MultiRange.Inv (addRange m r) ∧ (∀ p, pts (addRange m r) p ↔ pts m p ∨ mem p r) ∧
    (∀ y, y ∈ addRange m r ↔ addK (· ∈ m) r y) := by
  obtain ⟨M1, mg, M4, M5, M6, M2⟩ := addInput_spec r hr m hm
  have hc := clean_spec _ M1
  rw [addRange_eq]
  refine ⟨hc.1, fun p => (hc.2 p).trans (M2 p), fun y => ?_⟩
  rw [mem_clean, M4 y]
  constructor
  · rintro ⟨(⟨e, ho⟩ | rfl), hne⟩
    · exact Or.inl ⟨e, ho⟩
    · exact Or.inr ⟨Std.lt_of_le_of_ne M5 hne, M6⟩
  · rintro (⟨e, ho⟩ | ⟨hne, hp⟩)
    · exact ⟨Or.inl ⟨e, ho⟩, Std.ne_of_lt (hm.1 y e)⟩
    · exact ⟨Or.inr (ext_of_mem y mg hne fun p => by rw [hp p, M6 p]), Std.ne_of_lt hne⟩

/-- **component-level meaning of `restrictTo`**: the non-empty intersections of the stored
ranges with `r` -/
def restrictK (K : Range α → Prop) (r : Range α) (y : Range α) : Prop :=
  y.b < y.e ∧ ∃ x, K x ∧ ∀ p, mem p y ↔ mem p x ∧ mem p r

theorem restrict_spec (m : List (Range α)) (r : Range α) (hm : MultiRange.Inv m) (hr : Arg r) :
    MultiRange.Inv (restrictTo m r) ∧ (∀ p, pts (restrictTo m r) p ↔ pts m p ∧ mem p r) ∧
    (∀ y, y ∈ restrictTo m r ↔ restrictK (· ∈ m) r y) := by
  unfold restrictTo
  have hc := clean_spec _ (preClean_slice hm r)
  have hs := fun x => mem_sliceWith x r hr
  refine ⟨hc.1, ?_, ?_⟩
  · intro p; rw [hc.2 p]
    simp only [pts, List.mem_map]
    constructor
    · rintro ⟨y, ⟨x, hx, rfl⟩, hp⟩
      exact ⟨⟨x, hx, ((hs x p).mp hp).1⟩, ((hs x p).mp hp).2⟩
    · rintro ⟨⟨x, hx, hp⟩, hpr⟩
      exact ⟨_, ⟨x, hx, rfl⟩, (hs x p).mpr ⟨hp, hpr⟩⟩
  · intro y
    simp only [mem_clean, List.mem_map, restrictK]
    constructor
    · rintro ⟨⟨x, hx, rfl⟩, hne⟩
      exact ⟨Std.lt_of_le_of_ne (sliceWith_wf x r (Std.le_of_lt (hm.1 x hx))) hne, x, hx, hs x⟩
    · rintro ⟨hne, x, hx, hp⟩
      have : y = x.sliceWith r := ext_of_mem y _ hne (fun p => by rw [hp p, hs x p])
      exact ⟨⟨x, hx, this.symm⟩, Std.ne_of_lt hne⟩

/-- **component-level meaning of `filterWithin`**: keep exactly the stored ranges that lie
within `r` -/
def filterK (K : Range α → Prop) (r : Range α) (y : Range α) : Prop :=
  K y ∧ r.b ≤ y.b ∧ y.e ≤ r.e

/-- `filterWithin` keeps exactly the stored ranges that lie within `r`; on points: a point
survives iff the stored range it belongs to is a subset of `r` -/
theorem filter_spec (m : List (Range α)) (r : Range α) (hm : MultiRange.Inv m) :
    MultiRange.Inv (filterWithin m r) ∧ (∀ y, y ∈ filterWithin m r ↔ filterK (· ∈ m) r y) ∧
    (∀ p, pts (filterWithin m r) p ↔ ∃ x ∈ m, mem p x ∧ ∀ q, mem q x → mem q r) := by
  unfold filterWithin
  refine ⟨⟨fun x hx => hm.1 x (List.mem_filter.mp hx).1, hm.2.filter _⟩, ?_, ?_⟩
  · intro x; simp [List.mem_filter, contains_eq, filterK]
  · intro p
    simp only [pts, List.mem_filter]
    constructor
    · rintro ⟨x, ⟨hx, hc⟩, hp⟩
      exact ⟨x, hx, hp, (contains_iff_partial r x (hm.1 x hx)).mp hc⟩
    · rintro ⟨x, hx, hp, hq⟩
      exact ⟨x, ⟨hx, (contains_iff_partial r x (hm.1 x hx)).mpr hq⟩, hp⟩

theorem inv_nil : MultiRange.Inv ([] : List (Range α)) :=
  ⟨(fun _ hx => nomatch hx), List.Pairwise.nil⟩

/-! ## MultiRange: every history -/

variable [Min α] [Max α] [MinMaxLaws α]

inductive Op (α : Type) where
  | add (a b : α)
  | restrict (a b : α)
  | filter (a b : α)
  | clear

def step (m : List (Range α)) : Op α → List (Range α)
  | .add a b => addRange m (Range.make a b)
  | .restrict a b => restrictTo m (Range.make a b)
  | .filter a b => filterWithin m (Range.make a b)
  | .clear => RangeCollection.clear m

def run (ops : List (Op α)) : List (Range α) := ops.foldl step []

theorem step_inv (m : List (Range α)) (hm : MultiRange.Inv m) (o : Op α) :
    MultiRange.Inv (step m o) := by
  cases o with
  | add a b => exact (add_spec m _ hm (make_arg a b)).1
  | restrict a b => exact (restrict_spec m _ hm (make_arg a b)).1
  | filter a b => exact (filter_spec m _ hm).1
  | clear => exact inv_nil

/-- **mr_inv**: after any history the stored ranges are non-empty, ascending and pairwise
disjoint -/
theorem mr_inv (ops : List (Op α)) : MultiRange.Inv (run ops) :=
  List.foldlRecOn ops step inv_nil (fun m hm o _ => step_inv m hm o)

/-! ## the call of `std::sort` inside `clean_` -/

/-- what `addRange` / `restrictTo` hand to `clean_` (Range.h:456, 465) -/
def cleanInput (m : List (Range α)) : Op α → List (Range α)
  | .add a b =>
    match mergeInto (Range.make a b) m with
    | none => m ++ [(Range.make a b).clone]
    | some (_, l) => l
  | .restrict a b => m.map (·.sliceWith (Range.make a b))
  | .filter _ _ => m
  | .clear => []

/-- **sort_input_ok**: in every history, at every call of `clean_`, the vector `std::sort` is
given (the non-empty elements of what `addRange` / `restrictTo` built) consists of non-empty,
pairwise disjoint ranges — for which the comparator is a strict weak order
(`comparator_consistent`) and total (`comparator_total`): the precondition of `std::sort` holds,
whatever the sign of the coordinates.  (Before the audit repair `std::sort` also received the empty
ranges, and `[0,0[` next to `[-1,1[` violated the precondition: `comparator_inconsistent_negative`.) -/
theorem sort_input_ok (ops : List (Op α)) (o : Op α) :
    let l := cleanInput (run ops) o
    (∀ a b, o = .add a b → step (run ops) o = clean l) ∧
    (∀ a b, o = .restrict a b → step (run ops) o = clean l) ∧
    (∀ x ∈ l.filter (fun x => !x.isEmpty), x.b < x.e) ∧
    (l.filter (fun x => !x.isEmpty)).Pairwise Disj := by
  have hm := mr_inv ops
  generalize run ops = m at hm
  intro l
  have hpre : PreClean l := by
    cases o with
    -- `cleanInput m (.add a b)` unfolds to `addInput (Range.make a b) m`
    | add a b => exact (addInput_spec _ (make_arg a b) m hm).1
    | restrict a b => exact preClean_slice hm _
    | filter a b => exact hm.preClean
    | clear => exact inv_nil.preClean
  have hin := clean_sort_input l hpre
  exact ⟨fun a b e => by subst e; exact addRange_eq m _, fun a b e => by subst e; rfl, hin.1, hin.2⟩

/-- **any_sort**: the insertion sort of the model stands for *any* correct sort: whatever
permutation of the vector `std::sort` returns, if it has no inversion for the source comparator it
is the model's `clean` — so the stored vector does not depend on the sorting algorithm (libstdc++
switches from insertion sort to introsort at 17 elements) -/
theorem any_sort (l l' : List (Range α)) (h : PreClean l)
    (hp : l'.Perm (l.filter (fun x => !x.isEmpty)))
    (hs : l'.Pairwise (fun x y => y.lt x = false)) : l' = clean l := by
  have hin := clean_sort_input l h
  have hne : ∀ x ∈ l', x.b < x.e := fun x hx => hin.1 x (hp.mem_iff.mp hx)
  have hd : l'.Pairwise Disj := hp.symm.pairwise hin.2 (fun hxy => Disj.symm hxy)
  apply sorted_ext _ _ _ (clean_spec l h).1
  · intro y
    rw [mem_clean, hp.mem_iff, List.mem_filter]
    simp [Range.isEmpty]
  · exact ⟨hne, (hs.and hd).imp_of_mem fun hx hy hxy =>
      (lt_of_disj (Std.le_of_lt (hne _ hy)) (Std.le_of_lt (hne _ hx)) hxy.2.symm).2 hxy.1⟩

/-- the reference semantics on components: a set of ranges, updated declaratively -/
def specStepK (K : Range α → Prop) : Op α → (Range α → Prop)
  | .add a b => addK K (Range.make a b)
  | .restrict a b => restrictK K (Range.make a b)
  | .filter a b => filterK K (Range.make a b)
  | .clear => fun _ => False

theorem addK_congr (K K' : Range α → Prop) (h : ∀ y, K y ↔ K' y) (r y : Range α) :
    addK K r y ↔ addK K' r y := by
  have : K = K' := funext fun y => propext (h y)
  rw [this]

/-- **mr_refines**: for every history of add / restrict / **filter** / clear the set of stored
ranges is exactly what the declarative component semantics yields; with `mr_inv` (ascending
order) this determines the stored list completely (`mr_canonical`) -/
theorem mr_refines (ops : List (Op α)) :
    ∀ y, y ∈ run ops ↔ ops.foldl specStepK (fun _ => False) y := by
  refine (List.foldl_rel (r := fun (m : List (Range α)) (K : Range α → Prop) => MultiRange.Inv m ∧ ∀ y, y ∈ m ↔ K y)
    ⟨inv_nil, by simp⟩ fun o _ m K h => ?_).2
  obtain ⟨hm, hK⟩ := h
  obtain rfl : (fun y => y ∈ m) = K := funext fun y => propext (hK y)
  refine ⟨step_inv m hm o, fun y => ?_⟩
  cases o with
  | add a b => exact (add_spec m _ hm (make_arg a b)).2.2 y
  | restrict a b => exact (restrict_spec m _ hm (make_arg a b)).2.2 y
  | filter a b => exact (filter_spec m _ hm).2.1 y
  | clear => simp [step, specStepK, RangeCollection.clear]

/-- the stored list is the only ascending list of the component set: two implementations that
both satisfy `mr_inv` and `mr_refines` return the same vector -/
theorem mr_canonical (ops : List (Op α)) (l : List (Range α))
    (hl : MultiRange.Inv l) (h : ∀ y, y ∈ l ↔ ops.foldl specStepK (fun _ => False) y) :
    l = run ops :=
  sorted_ext l (run ops) hl (mr_inv ops) (fun y => by rw [h y, mr_refines ops y])

/-- the reference semantics on points: a set of points, updated by union / intersection; a
`filterWithin` is not a function of the point set alone (touching ranges are stored separately),
its point-level meaning needs the components: `mr_denotes_all` -/
def specStep (S : α → Prop) : Op α → (α → Prop)
  | .add a b => fun p => S p ∨ (min a b ≤ p ∧ p < max a b)
  | .restrict a b => fun p => S p ∧ (min a b ≤ p ∧ p < max a b)
  | .filter _ _ => S
  | .clear => fun _ => False

def Op.isFilter : Op α → Bool
  | .filter _ _ => true
  | _ => false

/-- **mr_denotes_from**: from any state satisfying the invariant (in particular any reachable
state, also after a `filterWithin`), every continuation by add / restrict / clear denotes the
set-level fold of unions and intersections applied to the points of that state -/
theorem mr_denotes_from (ops : List (Op α)) (hnf : ∀ o ∈ ops, o.isFilter = false)
    (m : List (Range α)) (S : α → Prop) (hm : MultiRange.Inv m) (hS : ∀ p, pts m p ↔ S p) :
    ∀ p, pts (ops.foldl step m) p ↔ ops.foldl specStep S p := by
  refine (List.foldl_rel (r := fun (m : List (Range α)) (S : α → Prop) => MultiRange.Inv m ∧ ∀ p, pts m p ↔ S p)
    ⟨hm, hS⟩ fun o ho m S h => ?_).2
  obtain ⟨hm, hS⟩ := h
  refine ⟨step_inv m hm o, fun p => ?_⟩
  cases o with
  | add a b => simpa [step, specStep, mem, Range.make, hS] using (add_spec m _ hm (make_arg a b)).2.1 p
  | restrict a b => simpa [step, specStep, mem, Range.make, hS] using (restrict_spec m _ hm (make_arg a b)).2.1 p
  | filter a b => cases hnf _ ho
  | clear => simp [pts, specStep, step, RangeCollection.clear]

/-- **mr_denotes**: for every history of add / restrict / clear from the empty collection the
stored ranges denote exactly the union of everything added, intersected with every restriction
applied since -/
theorem mr_denotes (ops : List (Op α)) (hnf : ∀ o ∈ ops, o.isFilter = false) :
    ∀ p, pts (run ops) p ↔ ops.foldl specStep (fun _ => False) p :=
  mr_denotes_from ops hnf [] _ inv_nil (by intro p; simp [pts])

/-- **mr_denotes_all**: for every history, *including filters*, the points of the multi-range are
the points of the components of the declarative semantics; a filter step keeps the points of
exactly those components that are subsets of the window (`filter_spec`), and the history may go
on with any operation afterwards -/
theorem mr_denotes_all (ops : List (Op α)) :
    ∀ p, pts (run ops) p ↔ ∃ y, ops.foldl specStepK (fun _ => False) y ∧ mem p y := by
  intro p
  simp only [pts]
  constructor
  · rintro ⟨y, hy, hp⟩; exact ⟨y, (mr_refines ops y).mp hy, hp⟩
  · rintro ⟨y, hy, hp⟩; exact ⟨y, (mr_refines ops y).mpr hy, hp⟩

/-! ## no new coordinates: the stored end points come from the arguments (or are the literal 0) -/

/-- the end points of all arguments of a history -/
def Op.args : Op α → List α
  | .add a b | .restrict a b | .filter a b => [a, b]
  | .clear => []

/-- **endpoints_closed**: the collection operations never compute a new coordinate: every stored
begin / end is an end point of some argument of the history, or the literal `0` written by
`sliceWith`.  (So no arithmetic overflow can occur in them, whatever the coordinate type: the
only arithmetic of the header is `length()` and the shifts.) -/
theorem endpoints_closed (P : α → Prop) (h0 : P 0) (ops : List (Op α))
    (hops : ∀ o ∈ ops, ∀ a ∈ o.args, P a) : ∀ x ∈ run ops, P x.b ∧ P x.e := by
  refine List.foldlRecOn ops step (motive := fun m => ∀ x ∈ m, P x.b ∧ P x.e) (fun _ hx => absurd hx List.not_mem_nil)
    (fun m hm o ho => ?_)
  have hr : ∀ a b, P a → P b → P (Range.make a b).b ∧ P (Range.make a b).e := fun a b ha hb => by
    rcases (make_wf a b).2.2.2 with h | h <;> rw [h.1, h.2]
    · exact ⟨ha, hb⟩
    · exact ⟨hb, ha⟩
  cases o with
  | add a b =>
    exact addRange_keeps P (hr a b (hops _ ho a (by simp [Op.args])) (hops _ ho b (by simp [Op.args]))) hm
  | restrict a b =>
    exact restrictTo_keeps P h0 (hr a b (hops _ ho a (by simp [Op.args])) (hops _ ho b (by simp [Op.args]))) hm
  | filter a b => exact fun x hx => hm x (List.mem_filter.mp hx).1
  | clear => exact fun _ hx => absurd hx List.not_mem_nil

/-! ## `getBounds`, `size`, `isEmpty`, `getRange`, `clear`, copies -/

/-- **bounds_sorted**: on every state satisfying the invariant `getBounds` is the ascending list
of all end points (each stored range contributes begin then end; equal neighbours only where two
ranges touch), of length `2 * size` -/
theorem bounds_sorted (m : List (Range α)) (hm : MultiRange.Inv m) :
    (getBounds m).Pairwise (· ≤ ·) ∧ (getBounds m).length = 2 * RangeCollection.size m ∧
    ∀ p, p ∈ getBounds m ↔ ∃ x ∈ m, p = x.b ∨ p = x.e := by
  have hmem : ∀ (m : List (Range α)) p, p ∈ getBounds m ↔ ∃ x ∈ m, p = x.b ∨ p = x.e := fun m p => by
    simp only [getBounds, List.mem_flatMap, List.mem_cons, List.not_mem_nil, or_false]
  refine ⟨?_, ?_, hmem m⟩
  · induction m with
    | nil => exact List.Pairwise.nil
    | cons x xs ih =>
      obtain ⟨hx, hR, hxs⟩ := hm.of_cons
      have hle : ∀ p ∈ getBounds xs, x.e ≤ p := by
        intro p hp
        obtain ⟨y, hy, rfl | rfl⟩ := (hmem xs p).mp hp
        · exact hR y hy
        · exact Std.le_trans (hR y hy) (Std.le_of_lt (hxs.1 y hy))
      refine List.pairwise_cons.mpr ⟨fun p hp => ?_, List.pairwise_cons.mpr ⟨hle, ih hxs⟩⟩
      rcases List.mem_cons.mp hp with rfl | hp
      · exact Std.le_of_lt hx
      · exact Std.le_trans (Std.le_of_lt hx) (hle p hp)
  · induction m with
    | nil => rfl
    | cons x xs ih =>
      have := ih hm.of_cons.2.2
      simp only [getBounds, List.flatMap_cons, List.length_append, List.length_cons, List.length_nil,
        RangeCollection.size] at this ⊢
      omega

/-- `isEmpty` ⇔ `size = 0` ⇔ no point; `getRange(i)` is defined exactly for `i < size`; `clear`
empties -/
theorem collection_observers (m : List (Range α)) (hm : MultiRange.Inv m) :
    (RangeCollection.isEmpty m = true ↔ RangeCollection.size m = 0) ∧
    (RangeCollection.isEmpty m = true ↔ ∀ p, ¬ pts m p) ∧
    (∀ i, (RangeCollection.getRange? m i).isSome ↔ i < RangeCollection.size m) ∧
    (∀ i x, RangeCollection.getRange? m i = some x → x ∈ m) ∧
    RangeCollection.size (RangeCollection.clear m) = 0 := by
  refine ⟨by simp [RangeCollection.isEmpty, RangeCollection.size], ?_, ?_, ?_, rfl⟩
  · cases m with
    | nil => simp [RangeCollection.isEmpty, pts]
    | cons x xs =>
      simp only [RangeCollection.isEmpty, List.length_cons, Nat.succ_ne_zero, beq_iff_eq, false_iff,
        Classical.not_forall, Classical.not_not]
      exact ⟨x.b, x, by simp, Std.le_refl _, hm.1 x (by simp)⟩
  · intro i; simp [RangeCollection.getRange?, RangeCollection.size]
  · intro i x h; exact List.mem_of_getElem? h

/-- **copy_deep**: the copy constructor and `operator=` produce a collection equal to the source,
whatever the target held, and self-assignment leaves the object as it is (the unguarded code as
found emptied it: `findings/C20.json`); in the model collections are values, so a later
operation on one of them cannot change the other (the tie checks this on the implementation) -/
theorem copy_deep (tgt src : List (Range α)) :
    RangeCollection.copy src = src ∧ RangeCollection.assign false tgt src = src ∧
    RangeCollection.assign true tgt tgt = tgt := by
  have : (Range.clone : Range α → Range α) = id := funext fun x => rfl
  simp [RangeCollection.copy, RangeCollection.assign, RangeCollection.clear, this]

/-! ## RangeSet -/

theorem rangeset_add (s : List (Range α)) (r : Range α) :
    RangeSet.addRange s r = if r.b = r.e then s else s ++ [r] := by
  simp [RangeSet.addRange, Range.isEmpty]

/-- every range of the set is sliced individually and kept iff the slice is non-empty -/
theorem rangeset_restrict (s : List (Range α)) (r : Range α) (y : Range α) :
    y ∈ RangeSet.restrictTo s r ↔ ∃ x ∈ s, y = x.sliceWith r ∧ y.b ≠ y.e := by
  simp only [RangeSet.restrictTo, List.mem_filter, List.mem_map, Range.isEmpty]
  constructor
  · rintro ⟨⟨x, hx, e⟩, h⟩; exact ⟨x, hx, e.symm, by simpa using h⟩
  · rintro ⟨x, hx, e, h⟩; exact ⟨⟨x, hx, e.symm⟩, by simpa using h⟩

/-- order and multiplicity: the restricted set is the list of non-empty slices, in order -/
theorem rangeset_restrict_list (s : List (Range α)) (r : Range α) :
    RangeSet.restrictTo s r = (s.map (·.sliceWith r)).filter (fun y => decide (y.b ≠ y.e)) ∧
    (RangeSet.restrictTo s r).length ≤ s.length := by
  refine ⟨by simp [RangeSet.restrictTo, Range.isEmpty], ?_⟩
  simp only [RangeSet.restrictTo]
  exact Nat.le_trans (List.length_filter_le _ _) (by simp)

theorem rangeset_filter (s : List (Range α)) (r : Range α) (y : Range α) :
    y ∈ RangeSet.filterWithin s r ↔ y ∈ s ∧ r.b ≤ y.b ∧ y.e ≤ r.e := by
  simp [RangeSet.filterWithin, List.mem_filter, contains_eq]

def rsStep (s : List (Range α)) : Op α → List (Range α)
  | .add a b => RangeSet.addRange s (Range.make a b)
  | .restrict a b => RangeSet.restrictTo s (Range.make a b)
  | .filter a b => RangeSet.filterWithin s (Range.make a b)
  | .clear => RangeCollection.clear s

/-- the independent description of a range set: the list of (begin,end) pairs, each added range
appended if non-empty, each restriction replacing every element by its intersection
`[max b b', min e e'[` and dropping it when that is empty, each filter keeping the elements inside
the window -/
def rsSpecStep (s : List (Range α)) : Op α → List (Range α)
  | .add a b => if a = b then s else s ++ [⟨min a b, max a b⟩]
  | .restrict a b => s.filterMap (fun x =>
      let lo := max x.b (min a b); let hi := min x.e (max a b)
      if lo < hi then some ⟨lo, hi⟩ else none)
  | .filter a b => s.filter (fun x => decide (min a b ≤ x.b) && decide (x.e ≤ max a b))
  | .clear => []

def RangeSetKeeps (ops : List (Op α)) : Prop :=
  ops.foldl rsStep [] = ops.foldl rsSpecStep [] ∧ ∀ x ∈ ops.foldl rsStep [], x.b < x.e

/-- **rangeset_keeps**: for every history a range set holds, in insertion order and with
multiplicity, every non-empty range that was added, restricted and filtered individually; all
its elements are non-empty well-formed ranges -/
theorem rangeset_keeps (ops : List (Op α)) : RangeSetKeeps ops := by
  refine List.foldl_rel (f := rsStep) (g := rsSpecStep) (r := fun (s t : List (Range α)) => s = t ∧ ∀ x ∈ s, x.b < x.e)
    ⟨rfl, fun _ hx => absurd hx List.not_mem_nil⟩ fun o _ s t h => ?_
  obtain ⟨rfl, hs⟩ := h
  cases o with
  | add a b =>
    have hw := make_wf a b
    simp only [rsStep, rsSpecStep, rangeset_add, Range.make_empty_iff]
    refine ⟨rfl, fun x hx => ?_⟩
    split at hx
    · exact hs x hx
    · next hab =>
      rcases List.mem_append.mp hx with e | e
      · exact hs x e
      · rw [List.mem_singleton.mp e]
        exact Std.lt_of_le_of_ne hw.1 (mt (Range.make_empty_iff a b).mp hab)
  | restrict a b =>
    have hw := make_wf a b
    refine ⟨RangeSet.restrictTo_eq_filterMap s _ hs hw.1, fun y hy => ?_⟩
    obtain ⟨x, hx, rfl, hne⟩ := (rangeset_restrict s _ y).mp hy
    exact Std.lt_of_le_of_ne (sliceWith_wf x _ (Std.le_of_lt (hs x hx))) hne
  | filter a b => exact ⟨rfl, fun x hx => hs x (List.mem_filter.mp hx).1⟩
  | clear => exact ⟨rfl, fun x hx => absurd hx List.not_mem_nil⟩

end

end Bpp.C20
