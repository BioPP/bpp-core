import BppProofs.Lemmas.TableU
/-!
C16 for the delimited-table reader DataTable::read (src/Bpp/Numeric/DataTable.cpp:554-627; model
`BppModel/Text/TableU.lean`) with FileTools::getNextLine over an `istringstream`: reading any text
ends in the dimensions of the table or in the library's exception — no dereference of `begin()` of
an empty token list, no cell index out of a row, no hang of the line loops — and the dimensions
are bounded by the input.  The last section has the input on which the code as found violated
this.
-/
namespace Bpp.C16
open Bpp.Text Bpp.Text.U

/-! ## FileTools::getNextLine -/

/-- `getNextLine` returns within the fuel `rest.length + 2` of the model (each `getline` consumes
at least the newline character or sets `eofbit`); the line is a piece of what was left; when the
line is not blank the stream advanced: fewer characters are left, or `eofbit` got set -/
theorem getNextLine_returns (st : Stream) :
    ∃ l st', getNextLine st = .ok (l, st') ∧ st'.rest.length ≤ st.rest.length ∧
      l.length ≤ st.rest.length ∧
      (isEmptyStr l = false →
        st'.rest.length < st.rest.length ∨ (st'.eof = true ∧ st.eof = false)) := by
  obtain ⟨l, st', e, n⟩ := getNextLine_spec st
  exact ⟨l, st', e, n.rest_le, n.line_le, fun hb => Stream.rest_lt_of_mu_lt (n.mu_lt_of_line hb)⟩

/-- the same with the measure `mu = rest.length + (if eof then 0 else 1)` the line loop of
`DataTable::read` is bounded by: it never increases, and strictly decreases whenever `eofbit` was
not yet set or the line returned is not blank; a blank line is only returned with `eofbit` set -/
theorem getNextLine_progress (st : Stream) :
    ∃ l st', getNextLine st = .ok (l, st') ∧ st'.mu ≤ st.mu ∧
      (st.eof = false ∨ isEmptyStr l = false → st'.mu < st.mu) ∧
      (isEmptyStr l = true → st'.eof = true) := by
  obtain ⟨l, st', e, n⟩ := getNextLine_spec st
  exact ⟨l, st', e, n.mu_le, fun h => h.elim n.mu_lt n.mu_lt_of_line, n.eof_of_blank⟩

example : getNextLine ⟨"\n  \nab\ncd".toList, false⟩ = .ok ("ab".toList, ⟨"cd".toList, false⟩) := by
  -- the literals as lists of characters: evaluating `String.toList` the kernel would decode them byte by byte
  repeat rw [String.toList_ofList]
  decide +kernel
example : getNextLine ⟨"cd".toList, false⟩ = .ok ("cd".toList, ⟨[], true⟩) := by decide +kernel
example : getNextLine ⟨" \n\n".toList, false⟩ = .ok ([], ⟨[], true⟩) := by decide +kernel
example : getNextLine ⟨[], true⟩ = .ok ([], ⟨[], true⟩) := by decide +kernel
example : (Stream.mk "cd".toList false).mu = 3 ∧ (Stream.mk [] true).mu = 0 := ⟨rfl, rfl⟩

/-! ## DataTable::read -/

/-- reading a table returns its dimensions or throws `bpp::Exception` (duplicated names, a row of
the wrong length, a separator-only line where a row name is expected, a row-name column that does
not exist): the guarded `*begin()` / `begin() + 1` are never reached on an empty token list,
`getColumn` never leaves a row (every row has `nCol` cells), the line loop ends within the fuel
`text.length + 2` -/
theorem readTable_safe (text sep : Str) (header : Bool) (rowNames : Int) (hs : StrOk text) :
    safe (readTable text sep header rowNames) = true := (readTable_spec text sep header rowNames hs).safe

example : StrOk "a,b\nr1,1,2\nr2,3,4\n".toList := by
  repeat rw [String.toList_ofList]
  decide +kernel
/-- header and row names (first column, one more cell than the header) -/
example : readTable "a,b\nr1,1,2\nr2,3,4\n".toList ",".toList true (-1) = .ok (2, 2) := by
  repeat rw [String.toList_ofList]
  decide +kernel
/-- row names taken from column 0, which is then deleted -/
example : readTable "a,b\n1,2\n3,4\n".toList ",".toList true 0 = .ok (2, 1) := by
  repeat rw [String.toList_ofList]
  decide +kernel
/-- no header, blank lines skipped, last line without newline -/
example : readTable "a,b\n1,2\n\n\n3,4".toList ",".toList false (-1) = .ok (3, 2) := by
  repeat rw [String.toList_ofList]
  decide +kernel
/-- duplicated row names in column 0 -/
example : readTable "a,b\n1,2\n1,4\n".toList ",".toList true 0 = .error .bpp := by
  repeat rw [String.toList_ofList]
  decide +kernel
/-- the row-name column does not exist -/
example : readTable "a,b\n1,2\n3,4\n".toList ",".toList true 2 = .error .bpp := by
  repeat rw [String.toList_ofList]
  decide +kernel
/-- a row with one cell too many -/
example : readTable "a,b\n1,2\n1,4,5\n".toList ",".toList true (-1) = .error .bpp := by
  repeat rw [String.toList_ofList]
  decide +kernel
/-- the second line has two cells more than the first: DimensionException -/
example : readTable "a\n1,2,3\n".toList ",".toList true (-1) = .error .bpp := by
  repeat rw [String.toList_ofList]
  decide +kernel
/-- duplicated column names -/
example : readTable "a,a\n1,2\n".toList ",".toList true (-1) = .error .bpp := by
  repeat rw [String.toList_ofList]
  decide +kernel

/-- the bound `r ≤ text.length + 1` on the number of rows fails on the empty text read without
header: both (empty) token lists of the two first `getNextLine` calls are added as rows of a table
with no column -/
theorem readTable_alloc_rows_counterexample :
    readTable [] ",".toList false (-1) = .ok (2, 0) ∧ ¬ (2 ≤ ([] : Str).length + 1) := ⟨rfl, by decide⟩

/-- what holds: the dimensions returned are bounded by the input, at most `size + 1` columns and
`size + 2` rows; `size + 1` rows unless the text is empty and read without header (above) -/
theorem readTable_alloc_partial (text sep : Str) (header : Bool) (rowNames : Int) (hs : StrOk text)
    (r c : Nat) (h : readTable text sep header rowNames = .ok (r, c)) :
    r ≤ text.length + 2 ∧ (header = true ∨ text ≠ [] → r ≤ text.length + 1) ∧
      c ≤ text.length + 1 := (readTable_spec text sep header rowNames hs).of_ok h

/-- `size + 1` rows and columns at most, for a text that is not empty -/
theorem readTable_alloc_nonempty (text sep : Str) (header : Bool) (rowNames : Int) (hs : StrOk text)
    (hne : text ≠ []) (r c : Nat) (h : readTable text sep header rowNames = .ok (r, c)) :
    r ≤ text.length + 1 ∧ c ≤ text.length + 1 :=
  have ⟨_, h2, h3⟩ := readTable_alloc_partial text sep header rowNames hs r c h
  ⟨h2 (.inr hne), h3⟩

example : readTable "\n".toList ",".toList false (-1) = .ok (2, 0) := by decide +kernel
example : readTable "a\nb\nc".toList ",".toList false (-1) = .ok (3, 1) := by decide +kernel

/-! ## the code as found -/

/-- a line of separators only where a row name is expected: the token list is empty and
`*st.begin()` (DataTable.cpp:601) is dereferenced -/
theorem readTable_old_ub : readTableOld "a,b\nr1,1,2\n,,\n".toList ",".toList true (-1) = .error .ub := by
  repeat rw [String.toList_ofList]
  decide +kernel

/-- after the repair the same text raises the library's exception -/
example : readTable "a,b\nr1,1,2\n,,\n".toList ",".toList true (-1) = .error .bpp := by
  repeat rw [String.toList_ofList]
  decide +kernel

end Bpp.C16
