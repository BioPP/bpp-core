import BppProofs.Lemmas.OptimMetaProof
/-!
# C10, part 12 — `MetaOptimizer`

The meta-optimiser in the configuration the harness builds (model in `BppModel/OptimMeta.lean`): a
`SimpleMultiDimensions` for a first group of parameter names and a `BfgsMultiDimensions` for a second
one, both making one `step` or a whole `optimize` per step of the meta-optimiser, on the objective of the
harness: any objective `obj : List ℝ → ℝ`, any derivatives, any dimension, any subset of the function's
parameters in any order, any constraints, the three constraint policies, any groups (they may overlap, be
empty, or name parameters that are not optimised), any schedule of tolerances (`log10` is arbitrary), any
cap / number of steps.  Over `ℝ`.

Hypotheses: on the list given to `init`, what `ParameterList` and the harness guarantee — precision 0 and
feasible values (`Good`), distinct names that are parameters of the function —, and **neither group of
names contains a repetition**: `doInit` builds the sub-lists with `ParameterList::addParameter`, which
raises for a name already in the list; the model (`metaSubList`) does not transcribe that exception, so
the groups are taken without repetition (as `MetaOptimizerInfos` is used by the harness).  The two groups
need *not* be disjoint: each sub-optimiser starts from a fresh copy of the meta-optimiser's values.
-/
namespace Bpp.C10
open Bpp Bpp.Optim

/-- **meta_step_descent**.  A `MetaOptimizer::doStep` from a state in which the optimiser's parameters are
good, named `ns` (distinct parameters of the function), held by the function, the sub-lists are good
parameters with distinct names among `ns` (`Meta.Sub`, what `doInit` builds), and the current value is
the objective at the function's point: the same holds afterwards, the value returned is the objective at
the point the function is left at, and it is not above the optimiser's current value.

Each sub-optimiser that has parameters gets the meta-optimiser's values (`matchParametersValues`: its list
then holds the function's coordinates, so its `init` does not move the function), runs (`step` or
`optimize`: never above where it started, function left at its list, no coordinate outside its list
moved), and its values are copied back (the meta-optimiser's list again holds the function's
coordinates). -/
theorem meta_step_descent (obj : List ℝ → ℝ) (D : Deriv ℝ) (cap : Option Nat) (fuel : Nat) (len : Nat)
    (ns : List Nat) (hns : ns.Nodup ∧ ∀ n ∈ ns, n < len) (s s' : St (Fn ℝ) (Meta ℝ) ℝ) (v : ℝ)
    (hi : Coord.Inv len ns s) (hsub : Meta.Sub ns s.ext) (hcur : s.core.cur = obj s.fn.point)
    (h : metaDoStep (Fn.iface obj D cap) fuel s = .ok (s', v)) :
    Coord.Inv len ns s' ∧ Meta.Sub ns s'.ext ∧ v = obj s'.fn.point ∧ Spec.descent v s.core.cur = true := by
  obtain ⟨a, b, c, d, -⟩ := metaDoStep_spec obj D cap fuel len ns hns s s' v hi hsub h
  exact ⟨a, b, c, Spec.descent_iff.2 (hcur ▸ d)⟩

/-- **meta_descent** (with `reported_value_consistent` and `Spec.stateAt`).  After `init` and
`optimize`:
* the value returned is not above **the objective at the function's own point when `init` was called**
  (`obj s.fn.point`).  `MetaOptimizer::doInit` does not start from the values of the list given to `init`:
  it reads the function's current point back into its list (`matchParametersValues`, which raises when a
  parameter does not accept the function's value — `hinit` says it did not) and then sets the function to
  that list, which does not move it: `s1.fn.point = s.fn.point` (see `meta_frame`).  The values of
  `params` play no role; its names, constraints and dynamic types do;
* it is the objective at the point the function has been left at, that point holds the values the
  optimiser reports, and it is the optimiser's current value.

Added hypotheses `hg1`, `hg2`: no repetition within a group of names (see the header: the C++ raises for a
repeated name, the model does not transcribe that).  Nothing is asked of the two groups together. -/
theorem meta_descent (obj : List ℝ → ℝ) (D : Deriv ℝ) (cap : Option Nat) (log10 : ℝ → ℝ) (fuel fuel' : Nat)
    (s s1 s2 : St (Fn ℝ) (Meta ℝ) ℝ) (params : PList ℝ) (v : ℝ)
    (hgood : Good params) (hnd : (names params).Nodup) (hlt : ∀ n ∈ names params, n < s.fn.point.length)
    (hg1 : s.ext.g1.Nodup) (hg2 : s.ext.g2.Nodup)
    (hinit : (metaAlgo (Fn.iface obj D cap) log10 fuel).init s params = .ok s1)
    (hopt : (metaAlgo (Fn.iface obj D cap) log10 fuel).optimize fuel' s1 = .ok (s2, v)) :
    Spec.descent v (obj s.fn.point) = true ∧
    Spec.consistent obj v s2.fn.point = true ∧
    Spec.stateAt s2.fn.point (names s2.core.params) (values s2.core.params) = true ∧
    s2.core.cur = v := by
  obtain ⟨h2, hcur, -, -⟩ := meta_run obj D cap log10 fuel fuel' s s1 s2 params v hgood hnd hlt hg1 hg2 hinit hopt
  exact h2.multi.report obj hcur

/-- **meta_frame**.  Under the hypotheses of `meta_descent`: `init` leaves the function where it found
it, and the whole run moves no coordinate of the function other than those named in the list given to
`init`; the reported list has those names. -/
theorem meta_frame (obj : List ℝ → ℝ) (D : Deriv ℝ) (cap : Option Nat) (log10 : ℝ → ℝ) (fuel fuel' : Nat)
    (s s1 s2 : St (Fn ℝ) (Meta ℝ) ℝ) (params : PList ℝ) (v : ℝ)
    (hgood : Good params) (hnd : (names params).Nodup) (hlt : ∀ n ∈ names params, n < s.fn.point.length)
    (hg1 : s.ext.g1.Nodup) (hg2 : s.ext.g2.Nodup)
    (hinit : (metaAlgo (Fn.iface obj D cap) log10 fuel).init s params = .ok s1)
    (hopt : (metaAlgo (Fn.iface obj D cap) log10 fuel).optimize fuel' s1 = .ok (s2, v)) :
    s1.fn.point = s.fn.point ∧ s1.core.cur = obj s.fn.point ∧
    s2.fn.point.length = s.fn.point.length ∧ (∀ i, i ∉ names params → s2.fn.point[i]? = s.fn.point[i]?) ∧
    names s2.core.params = names params := by
  obtain ⟨h2, -, hpt, hc1⟩ := meta_run obj D cap log10 fuel fuel' s s1 s2 params v hgood hnd hlt hg1 hg2 hinit hopt
  exact ⟨hpt, hc1, h2.off.1, h2.off.2, h2.multi.coord.names⟩

/-- non-vacuity: a list as the harness builds them (an interval constraint on the first parameter, none
on the second) and groups as it gives them to `MetaOptimizerInfos` (the first parameter to the
`SimpleMultiDimensions`, the second to the `BfgsMultiDimensions`) satisfy the hypotheses; the sub-lists
`doInit` builds from them are the two parameters, and satisfy `Meta.Sub` -/
example : let c : Interval ℝ := ⟨.fin 0, .fin 10, true, true, 0⟩
    let params : PList ℝ := [⟨0, ⟨4, 0, some c, false⟩⟩, ⟨1, ⟨-2, 0, none, false⟩⟩]
    let g1 : List Nat := [0]
    let g2 : List Nat := [1]
    Good params ∧ (names params).Nodup ∧ (∀ n ∈ names params, n < ([4, -2] : List ℝ).length) ∧ g1.Nodup ∧ g2.Nodup ∧
    names (metaSubList params params g1) = [0] ∧ names (metaSubList params params g2) = [1] ∧
    Meta.Sub (names params)
      { (default : Meta ℝ) with p1 := metaSubList params params g1, p2 := metaSubList params params g2 } := by
  intro c params g1 g2
  have hg : Good params := by
    intro q hq
    simp only [params, List.mem_cons, List.not_mem_nil, or_false] at hq
    rcases hq with rfl | rfl
    · exact ⟨rfl, closed_isCorrect (by norm_num) (by norm_num)⟩
    · exact ⟨rfl, rfl⟩
  have h1 := metaSubList_spec params params hg g1 (by simp [g1])
  have h2 := metaSubList_spec params params hg g2 (by simp [g2])
  refine ⟨hg, by simp [params, names], by simp [params, names], by simp [g1], by simp [g2], ?_, ?_,
    ⟨h1.1, h1.2.1, fun n hn => (h1.2.2 n hn).2⟩, ⟨h2.1, h2.2.1, fun n hn => (h2.2.2 n hn).2⟩⟩
  · simp [metaSubList, findNamed, params, g1, names]
  · simp [metaSubList, findNamed, params, g2, names]

end Bpp.C10
