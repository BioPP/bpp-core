import BppModel.Tree
import BppProofs.Props.C14
import BppProofs.Lemmas.TreeInd
/-!
# C15 — tree container (src/Bpp/Graph/TreeGraphImpl.h on GlobalGraph): soundness of the cached validity

Proved here, for all histories: the cached validity flag is **sound** — whenever `isValid_` is set,
the single-visit traversal from the root (`isTree`, GlobalGraph.cpp:668) answers true on the
*current* graph — hence `isValid()` always answers what the traversal answers now, "at every
moment and regardless of earlier queries".  Every mutating primitive of GlobalGraph ends with the
virtual `topologyHasChanged_()`; the model (`BppModel/Tree.lean`, `T.lift`) resets the flag exactly
when such a primitive has run; an operation that raises before touching anything leaves the graph
unchanged (C14 `raises_unchanged`), so the flag may stay.

The other clauses of the property:
* `Props/C15Valid.lean`   — `isTree_iff`, `isValid_iff`: the traversal decides "tree spanning all nodes from the root"
* `Props/C15Fuel.lean`    — the fuel of the model's recursions suffices
* `Props/C15Queries.lean` — father / sons / branches / leaves-under / subtree / path / edge path / MRCA against the reference tree
* `Props/C15RootAt.lean`  — `rootAt_spec` (rooted and unrooted trees)
* `Props/C15Dag.lean`     — the DAG container: cache soundness, `isDA_iff_acyclic`
* `Props/C15Obs.lean`, `Props/C15ObsReady.lean` — `setFather` / `addSon` with an edge object, `rootAt` keeps the associations
* `Props/C15ValidU.lean`  — `isUnrootedTree_iff`: the reference decision for unrooted validity; `isValid_eq_ref`
* `Props/C15Unrooted.lean` — the queries that need a rooted tree refuse an unrooted one (`*_refuses_unrooted`)
* `Props/C15Copy.lean`    — copies of the tree / DAG containers: `copy_same_relations`, `copy_independent`, `heap_cache_sound`
* `Props/C15ObsCopy.lean` — copies of the tree observer, `removeSon(s)` and the object-level queries over all histories
* `Props/C15DagObs.lean`  — the DAG observer's wrappers; `Props/C15Remove.lean` — removals remove exactly the relation
* `Props/C15NoUb.lean`    — the path and MRCA queries have no undefined behaviour on any graph
-/
namespace Bpp.C15
open Bpp Bpp.Graph Bpp.Graph.T

/-- the cache never lies: when `isValid_` is set, the traversal answers true on the current graph -/
def CacheSound (t : T) : Prop := t.valid = true → T.isTree t.g = .ok true

theorem cacheSound_empty (d : Bool) : CacheSound (T.empty d) := by intro h; cases h

theorem cacheSound_invalid {g : G} : CacheSound { g := g, valid := false } := by intro h; cases h

/-- the traversal only reads the node table, the directed flag and the root -/
theorem metOnce_congr {g1 g2 : G} (hn : g1.nodes = g2.nodes) (hd : g1.directed = g2.directed) :
    ∀ fuel node origin met, T.metOnce g1 fuel node origin met = T.metOnce g2 fuel node origin met := by
  intro fuel
  induction fuel with
  | zero => intro _ _ _; rfl
  | succ n ih =>
    intro node origin met
    simp only [T.metOnce]
    have ho : g1.outNeighbors node = g2.outNeighbors node := by simp [G.outNeighbors, G.rowOf, hn]
    rw [ho, hd]
    split
    · rfl
    · split
      · rfl
      · congr 1
        funext acc nb
        split
        · rw [ih]
        · rfl

theorem isTree_congr {g1 g2 : G} (hn : g1.nodes = g2.nodes) (hd : g1.directed = g2.directed) (hr : g1.root = g2.root) :
    T.isTree g1 = T.isTree g2 := by
  unfold T.isTree
  rw [metOnce_congr hn hd, hn, hr]

theorem cacheSound_lift {α : Type} (t : T) (h : CacheSound t) (r : GOut α) : CacheSound (t.lift r).2 := by
  unfold T.lift
  cases r with
  | ok a g' => exact cacheSound_invalid
  | exc g' =>
    simp only
    by_cases hg : g' = t.g
    · subst hg
      simp only [if_true]
      intro hv
      have := h hv
      rw [← this]
      exact isTree_congr rfl rfl rfl
    · simp only [hg, if_false]; exact cacheSound_invalid

theorem cacheSound_isValid (t : T) (h : CacheSound t) : CacheSound t.isValid.2 := by
  unfold T.isValid
  split
  · exact h
  · rcases hr : T.isTree t.g with b | _ | _ | _ <;> simp only
    · intro hv
      simp only at hv
      subst hv
      exact hr
    · exact h
    · exact h
    · exact h

theorem cacheSound_makeDirected (t : T) (h : CacheSound t) : CacheSound t.makeDirected := by
  unfold T.makeDirected; split
  · exact h
  · exact cacheSound_invalid

theorem cacheSound_orientate (t : T) (h : CacheSound t) : CacheSound t.orientate.2 :=
  T.orientate_snd t ▸ cacheSound_lift t h _

/-- one operation keeps the cache sound -/
theorem cacheSound_step (t : T) (h : CacheSound t) (op : TOp) : CacheSound (t.step op) :=
  T.step_ind CacheSound (fun t _ h => cacheSound_lift t h _) (fun _ _ => cacheSound_invalid) cacheSound_isValid
    cacheSound_makeDirected cacheSound_orientate t h op

theorem cacheSound_makeUndirected (t : T) (h : CacheSound t) : CacheSound t.makeUndirected.2 :=
  cacheSound_step t h .makeUndirected

theorem cacheSound_touch (r : GOut Unit × T) (h : CacheSound r.2) : CacheSound (T.touch r).2 :=
  T.touch_ind CacheSound (fun _ _ => cacheSound_invalid) r h

theorem cacheSound_andThen {α β : Type} (r : GOut α × T) (f : α → T → GOut β × T) (h : CacheSound r.2)
    (hf : ∀ a t', CacheSound t' → CacheSound (f a t').2) : CacheSound (T.andThen r f).2 :=
  T.andThen_ind CacheSound r f h hf

theorem cacheSound_setFather (t : T) (h : CacheSound t) (n f : Nat) : CacheSound (t.setFather n f).2 :=
  cacheSound_step t h (.setFather n f)

theorem cacheSound_propagate (fuel : Nat) : ∀ (t : T) (n : Nat) (r : GOut Unit × T), CacheSound t →
    T.propagate fuel t n = .ok r → CacheSound r.2 :=
  T.propagate_ind CacheSound (fun t _ _ h => cacheSound_lift t h _) fuel

theorem cacheSound_orientStep (r : GOut Unit × T) (p : Nat × Nat) (h : CacheSound r.2) : CacheSound (T.orientStep r p).2 :=
  T.orientStep_ind CacheSound (fun t _ _ h => cacheSound_lift t h _) r p h

theorem cacheSound_orientFold (rel : List (Nat × Nat)) : ∀ (r : GOut Unit × T), CacheSound r.2 →
    CacheSound (rel.foldl T.orientStep r).2 :=
  foldl_ind (fun r : GOut Unit × T => CacheSound r.2) _ cacheSound_orientStep rel

theorem cacheSound_rootAt (t : T) (h : CacheSound t) (n : Nat) (r : GOut Unit × T) (hr : t.rootAt n = .ok r) :
    CacheSound r.2 :=
  T.rootAt_ind CacheSound cacheSound_isValid (fun t _ h => cacheSound_lift t h _) cacheSound_makeDirected
    (fun t _ _ h => cacheSound_lift t h _) t n r h hr

theorem cacheSound_unit {α : Type} (r : GOut α × T) (h : CacheSound r.2) : CacheSound (T.unit r).2 := h

theorem cacheSound_unRoot (t : T) (h : CacheSound t) (j : Bool) : CacheSound (t.unRoot j).2 :=
  cacheSound_step t h (.unRoot j)

theorem cacheSound_setFatherE (t : T) (h : CacheSound t) (n f e : Nat) : CacheSound (t.setFatherE n f e).2 :=
  cacheSound_step t h (.setFatherE n f e)

theorem cacheSound_removeSonsFold (n : Nat) (sons : List Nat) : ∀ (r : GOut Unit × T), CacheSound r.2 →
    CacheSound (sons.foldl (fun acc s => T.andThen acc (fun _ t' => t'.removeSon n s)) r).2 :=
  foldl_ind (fun r : GOut Unit × T => CacheSound r.2) _
    (fun acc s hacc => cacheSound_andThen acc _ hacc (fun _ t' h' => cacheSound_step t' h' (.removeSon n s))) sons

theorem cacheSound_removeSons (t : T) (h : CacheSound t) (n : Nat) : CacheSound (t.removeSons n).2 :=
  cacheSound_step t h (.removeSons n)

theorem cacheSound_getSubtree (t : T) (h : CacheSound t) (e : Bool) (n : Nat) : CacheSound (t.getSubtree e n).2 :=
  cacheSound_step t h (.getSubtree e n)

/-- **cache_sound**: after any history of topology edits (node creations, links, unlinks, deletions,
add son, set father, remove son, re-root, un-root, set root, direction changes, the inherited `createNodeFromNode` /
`createNodeOnEdge` / `createNodeFromEdge` / `orientate`) and validity
queries, each call succeeding or raising, a set validity flag means the traversal answers true on
the graph as it is now.  (`T.step (.rootAt n)` falls back to "no step" when the model's `rootAt` has no answer: that never
happens on a reachable state, `rootAt_total` in `Props/C15RootAt.lean`.) -/
theorem cache_sound (d : Bool) (ops : List TOp) : CacheSound ((T.empty d).run ops) :=
  T.run_ind CacheSound (fun t op h => cacheSound_step t h op) ops _ (cacheSound_empty d)

/-- … hence `isValid()` answers exactly what the traversal answers on the current graph (or raises
exactly when it raises), whatever was asked or edited before -/
theorem isValid_is_isTree (d : Bool) (ops : List TOp) :
    ((T.empty d).run ops).isValid.1 = T.isTree ((T.empty d).run ops).g :=
  T.isValid_fst (cache_sound d ops)

/-- the check's predicate `cache_sound` is this definition, evaluated on the reported flag and graph -/
theorem cacheSound_decidable (t : T) : CacheSound t ↔ (!t.valid || (T.isTree t.g == .ok true)) = true := by
  unfold CacheSound
  cases t.valid <;> simp

end Bpp.C15
