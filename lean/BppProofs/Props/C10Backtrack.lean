import BppProofs.Lemmas.OptimBacktrack
import BppProofs.Lemmas.OptimObjective
/-!
# C10, part 4 — NewtonBacktrackOneDimension (the line search of `lineSearch` / BFGS) in full

Model in `BppModel/OptimOneDim.lean` (the code after the `fix:` commit of findings/C10.json), over `ℝ`,
for every function object whose evaluation step computes a function `g` of the step length.
-/
namespace Bpp.C10
open Bpp Bpp.Optim

variable {F : Type} {J : F → PList ℝ → Prop}

/-- **backtrack_descent**.  `init` evaluates the function at the parameter's starting value `x0`
(`fold_`); when `optimize` then returns with the tolerance flag set — the optimiser's way of saying
"done" — and the slope it was given is that of a descent direction (`slope ≤ 0`), the value returned
is not above `fold_`, or the search gave up and went back to the step length 0 (which is where
`lineSearch` starts it: then `g 0 = fold_` too).  The value is the function at what the optimiser's
parameter holds, and the optimiser's current value.

Full statement of the clause ("the point reported after optimisation has a value no greater than the
starting value") is not true of this optimiser without the two hypotheses: it reports the *last
trial* when the evaluation cap stops it (flag not set), and for an ascent slope the acceptance test
`f ≤ fold + 1e-4 λ slope` accepts an increase.  Both are explored by the driver (clause `descent`,
evaluated for Newton backtracking only when the flag is set and the slope is ≤ 0). -/
theorem backtrack_descent (I : FunI F ℝ) (g : ℝ → ℝ) (hd : Det I g J) (fuel : Nat)
    (s s1 s2 : St F (NBack ℝ) ℝ) (params : PList ℝ) (x0 v : ℝ)
    (hJ : J s.fn (applyPolicy s.core.policy params))
    (hx0 : value0 (applyPolicy s.core.policy params) = some x0)
    (hinit : (nbackAlgo I).init s params = .ok s1)
    (hopt : (nbackAlgo I).optimize fuel s1 = .ok (s2, v))
    (htol : s2.core.tol = true) (hslope : s.ext.slope ≤ 0) :
    s1.ext.fold = g x0 ∧ (Spec.descent v (g x0) = true ∨ v = g 0) ∧ s2.core.cur = v ∧
    ∃ x, v = g x ∧ value0 s2.core.params = some x := by
  have hi := nbackInit_spec I g hd s s1 params x0 hinit hJ hx0
  obtain ⟨h1, h2, x, h3, h4, -⟩ := nbackOptimize_spec I g hd _ _ hslope fuel s1 s2 v hi hopt htol
  exact ⟨hi.fold, h1.imp_left Spec.descent_iff.2, h2, x, h3, h4⟩

/-- `backtrack_descent` as `lineSearch` uses the optimiser (step length starting at 0), for the
objective of the harness along one unconstrained coordinate -/
theorem backtrack_descent_objective (obj : List ℝ → ℝ) (D : Deriv ℝ) (cap : Option Nat) (pt0 : List ℝ) (k : Nat) (hk : k < pt0.length)
    (q : NP ℝ) (hq : q.name = k) (hp : q.p.precision = 0) (hc : q.p.constraint = none) (hq0 : q.p.value = 0)
    (fuel : Nat) (s s1 s2 : St (Fn ℝ) (NBack ℝ) ℝ) (v : ℝ) (hpt : s.fn.point = pt0)
    (hinit : (nbackAlgo (Fn.iface obj D cap)).init s [q] = .ok s1)
    (hopt : (nbackAlgo (Fn.iface obj D cap)).optimize fuel s1 = .ok (s2, v))
    (htol : s2.core.tol = true) (hslope : s.ext.slope ≤ 0) :
    v ≤ obj (pt0.set k 0) ∧ ∃ x, value0 s2.core.params = some x ∧ v = obj (pt0.set k x) := by
  obtain ⟨hJ, hx0⟩ := along_start s.core.policy hk hq hp hc hpt
  obtain ⟨-, h2, -, x, hvx, hxs⟩ :=
    backtrack_descent _ _ (objective_det obj D cap pt0 k) fuel s s1 s2 [q] 0 v hJ (hq0 ▸ hx0) hinit hopt htol hslope
  exact ⟨h2.elim Spec.descent_iff.1 le_of_eq, x, hxs, hvx⟩

end Bpp.C10
