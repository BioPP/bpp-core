import BppProofs.Lemmas.OptimPolicy2
import BppProofs.Props.C10Policy
/-!
# C10, part 5d — the constraint policy of the remaining optimisers

"Under the automatic-constraint policy the objective is never evaluated outside its parameters'
constraints and the reported point is feasible", end to end (`init`, any number of steps, the
redefined `optimize` where there is one; however the run ends — exceptions carry the function, and
`ROk` demands the feasibility of its log too) for `NewtonOneDimension`, `SimpleMultiDimensions`,
`SimpleNewtonMultiDimensions`, `DownhillSimplexMethod` and `MetaOptimizer` on the objective of the
harness.  With `C10Policy` (golden section, Brent) and `C10LinePolicy` (Powell, conjugate gradient,
BFGS) all the modelled optimisers are covered (the Newton backtracking search only ever runs on a
`DirectionFunction`: `lineSearch_safe`).

What these optimisers do besides evaluating at lists tied to `init`'s constraints:
* `NewtonOneDimension` undoes a trial that increased the function with `setParameters(bck)`, `bck` being
  the *function's own* list (no constraints) saved when the step began: the point restored is the point
  the step found the function at, which was feasible;
* the coordinate-wise optimisers run a one-dimensional optimiser (under their own constraint policy,
  which the theorem follows through every `init` / `optimize` of that optimiser) on the sub-list of each
  coordinate and copy the function's point back into their list with `matchParametersValues`, which
  checks and then goes through `setValue`;
* the simplex method keeps an *unconstrained* list of coordinate sums, and evaluates the function at it
  in the contraction, where it holds the midpoints of two vertices: an interval constraint accepts the
  midpoint of two values it accepts.  This needs parameters of **precision 0** (hypothesis `hprec` of
  `simplex_auto_policy_feasible_partial`, what the harness and the other simplex theorems assume): with a
  positive precision `Parameter::setValue` ignores a request within `precision/2` of the stored value,
  so the list of sums can keep a stored *sum* (in general outside the constraint) instead of taking the
  midpoint, and the function is evaluated there — `simplex_policy_needs_precision0` is such a run.
As in `C10Policy`, the theorems only need `policy ≠ ignore`.
-/
namespace Bpp.C10
open Bpp Bpp.Optim

/-- **newton1d_auto_policy_feasible**: `NewtonOneDimension` — `init` (one evaluation), any number of steps
(the Newton trial, and the Felsenstein-Churchill corrections: the function is put back where the step
found it with its own unconstrained list, the halved movement is tried) — on the objective of the
harness: however the run ends, every point logged was feasible, and the reported parameter is feasible. -/
theorem newton1d_auto_policy_feasible (obj : List ℝ → ℝ) (D : Deriv ℝ) (cap : Option Nat)
    (params : PList ℝ) (s : St (Fn ℝ) (Newton1 ℝ) ℝ) (hpol : s.core.policy ≠ .ignore)
    (hfeas : feasibleList params = true) (hnd : (params.map (·.name)).Nodup)
    (hs0 : FeasFn (consOf params) s.fn) :
    ROk (FeasFn (consOf params))
      (fun s1 => Spec.feasibleLog (consOf params) s1.fn.log = true ∧ Spec.feasibleReport s1.core.params = true ∧
        ∀ fuel', ROk (FeasFn (consOf params))
          (fun r => Spec.feasibleLog (consOf params) r.1.fn.log = true ∧ Spec.feasibleReport r.1.core.params = true)
          ((newtonAlgo (Fn.iface obj D cap)).optimize fuel' s1))
      ((newtonAlgo (Fn.iface obj D cap)).init s params) :=
  have ha := newton_safeAlgo (objective_safeL obj D cap (consOf params) s.fn.point.length)
    (objective_restore obj D cap (consOf params) s.fn.point.length)
  feasible_run (fun _ h => h.feas) (fun _ h => h)
    (init_safe ha s params ⟨hs0, rfl⟩ (applyPolicy_tied params s.core.policy hpol hfeas hnd))
    (fun fuel' s1 h1 => optimize_safeS ha.toStep fuel' s1 h1.1 h1.2)

/-- **simple_multi_auto_policy_feasible**: `SimpleMultiDimensions` — `init` (the function is set to the
optimiser's list), any number of steps (for each coordinate: Brent's method, bracketing included,
initialised with the sub-list of that coordinate under the optimiser's policy and run to its end; the
function's point copied back into the optimiser's list). -/
theorem simple_multi_auto_policy_feasible (obj : List ℝ → ℝ) (D : Deriv ℝ) (cap : Option Nat) (fuel : Nat)
    (params : PList ℝ) (s : St (Fn ℝ) (Simple ℝ) ℝ) (hpol : s.core.policy ≠ .ignore)
    (hfeas : feasibleList params = true) (hnd : (params.map (·.name)).Nodup)
    (hs0 : FeasFn (consOf params) s.fn) :
    ROk (FeasFn (consOf params))
      (fun s1 => Spec.feasibleLog (consOf params) s1.fn.log = true ∧ Spec.feasibleReport s1.core.params = true ∧
        ∀ fuel', ROk (FeasFn (consOf params))
          (fun r => Spec.feasibleLog (consOf params) r.1.fn.log = true ∧ Spec.feasibleReport r.1.core.params = true)
          ((simpleAlgo (Fn.iface obj D cap) fuel).optimize fuel' s1))
      ((simpleAlgo (Fn.iface obj D cap) fuel).init s params) :=
  have hsafe := objective_safeL obj D cap (consOf params) s.fn.point.length
  have hset := objective_safeSetL obj D cap (consOf params) s.fn.point.length
  feasible_run (fun _ h => h.feas) (fun _ h => ⟨h.1, h.2.1⟩)
    (simple_init_inv hsafe hset fuel s params ⟨hs0, rfl⟩ (applyPolicy_tied params s.core.policy hpol hfeas hnd) hpol)
    (optimize_invS (simple_invStep hsafe fuel))

/-- **simple_newton_auto_policy_feasible**: the same for `SimpleNewtonMultiDimensions` (Newton's method,
with its restorations, along each coordinate in turn). -/
theorem simple_newton_auto_policy_feasible (obj : List ℝ → ℝ) (D : Deriv ℝ) (cap : Option Nat) (fuel : Nat)
    (params : PList ℝ) (s : St (Fn ℝ) (SNewton ℝ) ℝ) (hpol : s.core.policy ≠ .ignore)
    (hfeas : feasibleList params = true) (hnd : (params.map (·.name)).Nodup)
    (hs0 : FeasFn (consOf params) s.fn) :
    ROk (FeasFn (consOf params))
      (fun s1 => Spec.feasibleLog (consOf params) s1.fn.log = true ∧ Spec.feasibleReport s1.core.params = true ∧
        ∀ fuel', ROk (FeasFn (consOf params))
          (fun r => Spec.feasibleLog (consOf params) r.1.fn.log = true ∧ Spec.feasibleReport r.1.core.params = true)
          ((snewtonAlgo (Fn.iface obj D cap) fuel).optimize fuel' s1))
      ((snewtonAlgo (Fn.iface obj D cap) fuel).init s params) :=
  have hsafe := objective_safeL obj D cap (consOf params) s.fn.point.length
  have hset := objective_safeSetL obj D cap (consOf params) s.fn.point.length
  have hres := objective_restore obj D cap (consOf params) s.fn.point.length
  feasible_run (fun _ h => h.feas) (fun _ h => ⟨h.1, h.2.1⟩)
    (snewton_init_inv hsafe hset hres fuel s params ⟨hs0, rfl⟩ (applyPolicy_tied params s.core.policy hpol hfeas hnd) hpol)
    (optimize_invS (snewton_invStep hsafe hres fuel))

/-- **simplex_auto_policy_feasible_partial**: `DownhillSimplexMethod` — `init` (the `nDim + 1` vertices), any
number of steps (reflection, expansion, contraction — trial points are the optimiser's list moved by
`setValue` —, and the contraction of the whole simplex, where the function is evaluated at the
*unconstrained* list of sums holding the midpoints of a vertex and the lowest one), the final evaluation
of its `optimize` at the best vertex.

*Partial*: with the four hypotheses of the other theorems alone the statement is **false** for the simplex
as modelled (`simplex_policy_needs_precision0` below: an evaluation outside the constraint).  Extra
hypothesis `hprec`: the parameters have precision 0 (as in the harness, and in `C10Simplex`); on that
domain this is the full statement.  Precision 0 is what makes the list of sums take the midpoints it is
given: `Parameter::setValue` ignores a request within `precision/2` of the stored value, and what the list
of sums stores otherwise — sums of `nDim + 1` coordinates — need not satisfy any constraint. -/
theorem simplex_auto_policy_feasible_partial (obj : List ℝ → ℝ) (D : Deriv ℝ) (cap : Option Nat)
    (params : PList ℝ) (s : St (Fn ℝ) (Simplex ℝ) ℝ) (hpol : s.core.policy ≠ .ignore)
    (hfeas : feasibleList params = true) (hnd : (params.map (·.name)).Nodup)
    (hprec : ∀ q ∈ params, q.p.precision = 0)
    (hs0 : FeasFn (consOf params) s.fn) :
    ROk (FeasFn (consOf params))
      (fun s1 => Spec.feasibleLog (consOf params) s1.fn.log = true ∧ Spec.feasibleReport s1.core.params = true ∧
        ∀ fuel', ROk (FeasFn (consOf params))
          (fun r => Spec.feasibleLog (consOf params) r.1.fn.log = true ∧ Spec.feasibleReport r.1.core.params = true)
          (simplexOptimize (Fn.iface obj D cap) fuel' s1))
      ((simplexAlgo (Fn.iface obj D cap)).init s params) :=
  have hsafe := objective_safeL obj D cap (consOf params) s.fn.point.length
  have hw := objective_safeW obj D cap (consOf params) s.fn.point.length
  have hV0 : Vert (consOf params) (names (applyPolicy s.core.policy params)) (applyPolicy s.core.policy params) :=
    ⟨applyPolicy_tied params s.core.policy hpol hfeas hnd, applyPolicy_prec0 _ _ hprec, rfl⟩
  feasible_run (fun _ h => h.feas) (fun _ h => ⟨h.fn, h.params.1⟩)
    (simplex_init_inv hsafe hw s params ⟨hs0, rfl⟩ hV0) (simplexOptimize_inv hsafe hw)

/-- **simplex_policy_needs_precision0**: the counterexample that makes `hprec` necessary, machine-checked
in exact rational arithmetic (the model is one program text for every scalar type; the run uses `+ - * /`
and comparisons only).  One parameter of value `1/10`, precision `6/25`, constraint `[-7/100, 1/4]`; a
fresh `DownhillSimplexMethod` under the **automatic** policy; the function at `(1/10)` with an empty log;
the objective a table on the visited points (`SimplexCex` in `Lemmas/OptimPolicy2.lean`, where the run is
narrated).  All four hypotheses of the theorems hold, yet after `init` and `optimize` the log contains
`-1/10`, outside the constraint: in the second step's contraction the list of sums held `-1/10` (a sum of
coordinates, not a point), was told to take the midpoint `-1/20`, ignored the request (within
`precision/2 = 3/25`), and the function was evaluated at it. -/
theorem simplex_policy_needs_precision0 :
    SimplexCex.s0.core.policy = .auto ∧ feasibleList SimplexCex.params = true ∧
    (SimplexCex.params.map (·.name)).Nodup ∧
    Spec.feasibleLog SimplexCex.cons SimplexCex.s0.fn.log = true ∧
    Spec.feasiblePoint SimplexCex.cons SimplexCex.s0.fn.point = true ∧
    SimplexCex.log.contains [-1/10] = true ∧
    Spec.feasibleLog SimplexCex.cons SimplexCex.log = false := by
  decide +kernel

/-- **meta_auto_policy_feasible**: `MetaOptimizer` (a `SimpleMultiDimensions` for a first group of
parameters, a `BfgsMultiDimensions` for a second one; iteration type `step` or `full`; any schedule of
tolerances, whatever `log10` is) — `init` (the two sub-lists, the function's point copied into the
optimiser's list, the function set to it), any number of steps (each optimiser in turn: its sub-list
updated from the optimiser's list, `init` under the `MetaOptimizer`'s policy, one step or a whole
`optimize`, the result copied back). -/
theorem meta_auto_policy_feasible (obj : List ℝ → ℝ) (D : Deriv ℝ) (cap : Option Nat) (log10 : ℝ → ℝ) (fuel : Nat)
    (params : PList ℝ) (s : St (Fn ℝ) (Meta ℝ) ℝ) (hpol : s.core.policy ≠ .ignore)
    (hfeas : feasibleList params = true) (hnd : (params.map (·.name)).Nodup)
    (hs0 : FeasFn (consOf params) s.fn) :
    ROk (FeasFn (consOf params))
      (fun s1 => Spec.feasibleLog (consOf params) s1.fn.log = true ∧ Spec.feasibleReport s1.core.params = true ∧
        ∀ fuel', ROk (FeasFn (consOf params))
          (fun r => Spec.feasibleLog (consOf params) r.1.fn.log = true ∧ Spec.feasibleReport r.1.core.params = true)
          ((metaAlgo (Fn.iface obj D cap) log10 fuel).optimize fuel' s1))
      ((metaAlgo (Fn.iface obj D cap) log10 fuel).init s params) :=
  have hsafe := objective_safeL obj D cap (consOf params) s.fn.point.length
  have hset := objective_safeSetL obj D cap (consOf params) s.fn.point.length
  feasible_run (fun _ h => h.feas) (fun _ h => ⟨h.1, h.2.1⟩)
    (meta_init_inv hsafe hset log10 fuel s params ⟨hs0, rfl⟩ (applyPolicy_tied params s.core.policy hpol hfeas hnd) hpol)
    (optimize_invS (meta_invStep hsafe hset log10 fuel))

/-- non-vacuity: the hypotheses of the theorems (those of `simplex_auto_policy_feasible_partial`, which has one
more, included) hold for a two-parameter list of precision 0 (parameter 0 constrained to `[0, 10]`,
parameter 1 free), a simplex optimiser under the automatic policy and a function at the feasible point
`(4, 1)` with an empty log -/
example : let c : Interval ℝ := ⟨.fin 0, .fin 10, true, true, 0⟩
    let params : PList ℝ := [⟨0, ⟨4, 0, some c, false⟩⟩, ⟨1, ⟨1, 0, none, false⟩⟩]
    let s : St (Fn ℝ) (Simplex ℝ) ℝ := ⟨{ freshCore 100 0 0 with policy := .auto }, ⟨[4, 1], []⟩, Simplex.fresh⟩
    s.core.policy ≠ .ignore ∧ feasibleList params = true ∧ (params.map (·.name)).Nodup ∧
      (∀ q ∈ params, q.p.precision = 0) ∧ FeasFn (consOf params) s.fn := by
  intro c params s
  have h4 : c.isCorrect 4 = true := closed_isCorrect (by norm_num) (by norm_num)
  refine ⟨by simp [s], ?_, by simp [params], ?_, rfl, ?_⟩
  · simp only [params, feasibleList, List.all_cons, List.all_nil, Param.invOk, Param.accepts, h4, Bool.and_self]
  · intro q hq
    simp only [params, List.mem_cons, List.not_mem_nil, or_false] at hq
    rcases hq with rfl | rfl <;> rfl
  · simp only [s, params, consOf, Spec.feasiblePoint, Spec.accepts, List.map_cons, List.map_nil, List.all_cons, List.all_nil,
      List.getElem?_cons_zero, List.getElem?_cons_succ, h4, Bool.and_self]

end Bpp.C10
