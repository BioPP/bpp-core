import BppProofs.Props.C01
import BppProofs.Lemmas.ParamShared
/-!
# C01 — the invariant when constraints are what they are in the code: shared mutable objects
(src/Bpp/Numeric/Parameter.h:104, 196-231, Parameter.cpp:34-64, 94-109, Constraints.h:171-172, 250, 331)

`Props/C01.lean` proves the invariant on the by-value model.  Here the constraint of a parameter
is a pointer into a heap of constraint objects (`BppModel/ParamShared.lean`): the constructor and
`setConstraint` attach the caller's pointer, copies share it, `getConstraint()` hands it out, and
`setLowerBound` / `setUpperBound` / `operator&=` / `readDescription` change the object in place.

* `shared_simulates`, `shared_refines`: every call on a parameter does to the dereferenced views
  exactly what the by-value call does; in a history without in-place mutation the by-value model
  is exact, so every theorem of `Props/C01.lean` applies to the pointer model.
* `shared_param_step_inv`: every call on a parameter (and every allocation) keeps the invariant.
* `shared_mutate_inv_iff`: an in-place mutation keeps it iff the new interval accepts the value of
  every parameter attached to the object.
* `shared_inv_partial`: the invariant over all histories in which every in-place mutation meets
  that guard.  The full statement (no guard) is false of the code: `shared_mutation_witness`
  (known finding C01-shared-constraint-mutation).
-/
namespace Bpp.C01
open Bpp Bpp.Interval Bpp.Param Bpp.SWorld

/-- the invariant of C01 on the pointer model: the heap is well formed and every parameter's
view (pointer dereferenced *now*) holds a value its constraint accepts -/
def SInv (w : SWorld ℝ) : Prop := w.WF ∧ StoreInv w.viewStore

theorem sinv_empty : SInv SWorld.empty :=
  ⟨SWorld.wf_empty, storeInv_empty⟩

/-- the executable predicate of the driver is this invariant -/
theorem sinv_invOk (w : SWorld ℝ) (hs : SInv w) (k : Nat) (p : SParam ℝ) (h : w.ps k = some p) :
    (w.view p).invOk = true :=
  (Param.invOk_iff _).2 (forall_viewStore.1 hs.2 k p h).1

/-! ## calls on parameters: simulation of the by-value model -/

/-- **shared_simulates**: a call on a parameter whose pointer arguments are live has the same
outcome and the same effect on the views as the by-value call with the pointers dereferenced,
and does not touch the heap -/
theorem shared_simulates (w : SWorld ℝ) (op : SOp ℝ) (e : POp ℝ) (he : op.erase w = some e) (hr : op.refsOk w = true) :
    (SOp.step w op).1.viewStore = (POp.step w.viewStore e).1 ∧ (SOp.step w op).2 = (POp.step w.viewStore e).2 ∧
    (SOp.step w op).1.heap = w.heap :=
  SOp.sim_step w op e he hr

/-- is the call an in-place mutation of a constraint object? -/
def isMutate : SOp ℝ → Prop
  | .mutate _ _ => True
  | _ => False

/-- a call that names a dangling address is refused by the model (`.absent`) and changes nothing -/
theorem step_refs_bad (w : SWorld ℝ) (op : SOp ℝ) (hr : op.refsOk w = false) : (SOp.step w op).1 = w := by
  cases he : op.erase w with
  | some e =>
    have h := SOp.step_cases w op e he
    generalize SOp.step w op = r, POp.step w.viewStore e = r' at h ⊢
    cases h with
    | dangling => rfl
    | skip => rfl
    | write h => cases hr.symm.trans h
  | none => cases op <;> first | cases hr | cases he

/-- **shared_param_step_inv**: construct (attaching the caller's pointer) / copy (sharing it) /
convert / assign / setValue (plain or auto-correcting) / setPrecision / setConstraint /
removeConstraint, and the creation of a constraint object, keep the invariant — whether the call
raises or not -/
theorem shared_param_step_inv (w : SWorld ℝ) (op : SOp ℝ) (hs : SInv w) (hm : ¬ isMutate op) :
    SInv (SOp.step w op).1 := by
  refine ⟨SOp.wf_step w hs.1 op, ?_⟩
  cases he : op.erase w with
  | none =>
    cases op with
    | alloc c => rw [SOp.alloc_viewStore w hs.1 c]; exact hs.2
    | mutate a m => exact absurd trivial hm
    | _ => cases he
  | some e =>
    cases hr : op.refsOk w with
    | false => rw [step_refs_bad w op hr]; exact hs.2
    | true =>
      rw [(SOp.sim_step w op e he hr).1]
      exact step_inv _ e hs.2

/-- a raising call changes nothing: neither the parameter, nor any other, nor any constraint object -/
theorem shared_reject_unchanged (w : SWorld ℝ) (op : SOp ℝ) (e : PErr) (h : (SOp.step w op).2 = .raised e) :
    (SOp.step w op).1 = w := by
  cases he : op.erase w with
  | some e' =>
    have hc := SOp.step_cases w op e' he
    generalize SOp.step w op = r, POp.step w.viewStore e' = r' at hc h ⊢
    cases hc with
    | dangling => rfl
    | skip => rfl
    | write => cases h
  | none =>
    -- a constraint object is created or mutated without raising
    cases op with
    | alloc c => cases h
    | mutate a m => simp only [SOp.step] at h; split at h <;> cases h
    | _ => cases he

/-- copies share the constraint object: after `Parameter q(p)` both hold the same pointer -/
theorem shared_copy_shares (w : SWorld ℝ) (s d : Nat) (p : SParam ℝ) (h : w.ps s = some p) :
    ∃ q, (SOp.step w (.copy s d)).1.ps d = some q ∧ q.cref = p.cref := by
  refine ⟨p, ?_, rfl⟩
  simp [SOp.step, h, SWorld.setP]

/-! ## in-place mutation of a constraint object -/

/-- **shared_mutate_inv_iff**: after `setLowerBound` / `setUpperBound` / `operator&=` /
`readDescription` on the object at `a`, the invariant holds iff the new interval accepts the value
of every parameter attached to that object -/
theorem shared_mutate_inv_iff (w : SWorld ℝ) (hs : SInv w) (a : CRef) (m : CMut ℝ) (c : Interval ℝ)
    (hc : w.heap a = some c) :
    SInv (SOp.step w (.mutate a m)).1 ↔
      ∀ k p, w.ps k = some p → p.cref = some a → (m.apply c).isCorrect p.value = true := by
  unfold SInv StoreInv
  rw [and_iff_right (SOp.wf_step w hs.1 _), forall_viewStore, SOp.mutate_ps]
  refine forall₂_congr fun k p => forall_congr' fun hk => ?_
  have ho := forall_viewStore.1 hs.2 k p hk
  -- the view of a parameter attached to `a` now carries the new interval; the other views are as before
  rw [SOp.mutate_view w a m c hc p]
  by_cases hp : p.cref = some a
  · rw [if_pos hp]
    exact ⟨fun h _ => (Inv_some rfl).1 h.1, fun h => ⟨(Inv_some rfl).2 (h hp), ho.2⟩⟩
  · rw [if_neg hp]
    exact iff_of_true ho fun h => absurd h hp

/-- mutating an object that no parameter is attached to is harmless (what the harness of the
by-value check does: parameters receive clones, registers are mutated in place) -/
theorem shared_detached_mutation_inv (w : SWorld ℝ) (hs : SInv w) (a : CRef) (m : CMut ℝ)
    (hd : ∀ k p, w.ps k = some p → p.cref ≠ some a) : SInv (SOp.step w (.mutate a m)).1 := by
  cases hc : w.heap a with
  | none => simp only [SOp.step, hc]; exact hs
  | some c => exact (shared_mutate_inv_iff w hs a m c hc).2 (fun k p hk hp => absurd hp (hd k p hk))

/-- the guard of `shared_inv_partial`: an in-place mutation leaves the value of every attached
parameter accepted -/
def SafeOp (w : SWorld ℝ) : SOp ℝ → Prop
  | .mutate a m => ∀ c, w.heap a = some c → ∀ k p, w.ps k = some p → p.cref = some a → (m.apply c).isCorrect p.value = true
  | _ => True

def SafeRun (w : SWorld ℝ) : List (SOp ℝ) → Prop
  | [] => True
  | op :: rest => SafeOp w op ∧ SafeRun (SOp.step w op).1 rest

/-- The invariant over histories on the pointer model.
Full statement wanted: `∀ ops, SInv (SOp.run SWorld.empty ops)` — "at every moment of its life".
It is false of the code (`shared_mutation_witness`): `ops` may mutate an attached constraint object
in place.  Proved: the invariant holds after every history (of any length, raising calls
included) in which each in-place mutation leaves the values of the attached parameters accepted;
calls on parameters and allocations are unrestricted. -/
theorem shared_inv_partial (ops : List (SOp ℝ)) (w : SWorld ℝ) (hs : SInv w) (h : SafeRun w ops) :
    SInv (SOp.run w ops) := by
  induction ops generalizing w with
  | nil => exact hs
  | cons op rest ih =>
    refine ih _ ?_ h.2
    by_cases hm : isMutate op
    · cases op with
      | mutate a m =>
        cases hc : w.heap a with
        | none => simp only [SOp.step, hc]; exact hs
        | some c => exact (shared_mutate_inv_iff w hs a m c hc).2 (h.1 c hc)
      | _ => exact absurd hm (by simp [isMutate])
    · exact shared_param_step_inv w op hs hm

/-- the guard is needed, and the unguarded statement is false of the code: attach `[0,3]` to a
parameter holding 1 (the caller keeps its pointer), then `setLowerBound(2, false)` through that
pointer: the parameter holds 1 under the constraint `[2,3]`.  Each call is a public member used
as documented; no call raises. -/
theorem shared_mutation_witness :
    let before : List (SOp ℝ) := [.alloc (Interval.make (.fin 0) (.fin 3) true true 0), .construct 0 false 1 (some 0) 0]
    let w0 := SOp.run SWorld.empty before
    let w := (SOp.step w0 (.mutate 0 (.setLower (.fin 2) false))).1
    SInv w0 ∧ (SOp.step w0 (.mutate 0 (.setLower (.fin 2) false))).2 = .done ∧
      ∃ p, w.ps 0 = some p ∧ (w.view p).invOk = false := by
  intro before w0 w
  have hsafe : SafeRun SWorld.empty before := ⟨trivial, trivial, trivial⟩
  have h0 : SInv w0 := shared_inv_partial before _ sinv_empty hsafe
  have hw0 : w0.ps 0 = some ⟨1, 0, some 0, false⟩ ∧ w0.heap 0 = some (Interval.make (.fin 0) (.fin 3) true true 0) := by
    simp [w0, before, SOp.run, SOp.step, SWorld.empty, SWorld.validRef, SWorld.deref, SWorld.setP, Param.construct,
      Param.accepts, Param.setPrecision, Interval.make, Interval.isCorrect, Interval.isCorrectB, Bound.geb, Bound.leb]
  refine ⟨h0, ?_, ⟨1, 0, some 0, false⟩, ?_, ?_⟩
  · simp [SOp.step, hw0.2]
  · show (SOp.step w0 _).1.ps 0 = _
    rw [SOp.mutate_ps]; exact hw0.1
  · show ((SOp.step w0 _).1.view _).invOk = false
    rw [SOp.mutate_view w0 0 _ _ hw0.2]
    simp [SWorld.view, Param.invOk, Param.accepts, CMut.apply, Interval.setLowerBound, Interval.make, Interval.isCorrect,
      Interval.isCorrectB, Bound.geb, Bound.leb]

/-! ## histories without in-place mutation: the by-value model is exact -/

/-- a history of calls none of which mutates a constraint object in place or names a dangling address -/
def PlainRun (w : SWorld ℝ) : List (SOp ℝ) → Prop
  | [] => True
  | op :: rest => ¬ isMutate op ∧ op.refsOk w = true ∧ PlainRun (SOp.step w op).1 rest

/-- the history as the by-value model sees it -/
noncomputable def eraseRun (w : SWorld ℝ) : List (SOp ℝ) → List (POp ℝ)
  | [] => []
  | op :: rest => (match op.erase w with | some e => [e] | none => []) ++ eraseRun (SOp.step w op).1 rest

theorem run_append (s : PStore ℝ) (a b : List (POp ℝ)) : POp.run s (a ++ b) = POp.run (POp.run s a) b := by
  induction a generalizing s with
  | nil => rfl
  | cons x xs ih => exact ih _

/-- **shared_refines**: in a history without in-place mutation, sharing is not observable — the
views of the pointer model run exactly like the by-value model (so `param_inv`,
`reject_unchanged`, `setValue_raises_iff`, `auto_total_partial`, `auto_nearest_partial`, `auto_lands` … apply to it) -/
theorem shared_refines (ops : List (SOp ℝ)) (w : SWorld ℝ) (hw : w.WF) (hp : PlainRun w ops) :
    (SOp.run w ops).viewStore = POp.run w.viewStore (eraseRun w ops) := by
  induction ops generalizing w with
  | nil => rfl
  | cons op rest ih =>
    obtain ⟨hm, hr, hrest⟩ := hp
    have hw' := SOp.wf_step w hw op
    show (SOp.run (SOp.step w op).1 rest).viewStore = _
    rw [ih _ hw' hrest]
    show _ = POp.run w.viewStore ((match op.erase w with | some e => [e] | none => []) ++ eraseRun (SOp.step w op).1 rest)
    rw [run_append]
    congr 1
    cases he : op.erase w with
    | none =>
      cases op with
      | alloc c => exact SOp.alloc_viewStore w hw c
      | mutate a m => exact absurd trivial hm
      | _ => cases he
    | some e => exact (SOp.sim_step w op e he hr).1

/-! ## non-vacuity -/

/-- a guarded history with an in-place mutation of an attached, shared object: two parameters
(the second a copy) attached to `[0,3]`, values 1 and 1; `setLowerBound(1, false)` keeps both
accepted -/
example :
    let ops : List (SOp ℝ) := [.alloc (Interval.make (.fin 0) (.fin 3) true true 0), .construct 0 false 1 (some 0) 0,
      .copy 0 1, .mutate 0 (.setLower (.fin 1) false)]
    SafeRun SWorld.empty ops := by
  refine ⟨trivial, trivial, trivial, ?_, trivial⟩
  intro c hc k p hk hp
  simp [SOp.step, SWorld.empty, SWorld.validRef, SWorld.deref, SWorld.setP, Param.construct,
    Param.accepts, Param.setPrecision, Interval.make, Interval.isCorrect, Interval.isCorrectB, Bound.geb, Bound.leb] at hc hk
  have hval : p.value = 1 := by split_ifs at hk <;> (cases hk; rfl)
  rw [← hc, hval]
  simp [CMut.apply, Interval.setLowerBound, Interval.isCorrect, Interval.isCorrectB, Bound.geb, Bound.leb]

/-- a plain history (hypotheses of `shared_refines`) that attaches a pointer and copies the parameter -/
example : PlainRun SWorld.empty
    ([.alloc (Interval.make (.fin 0) (.fin 3) true true 0), .construct 0 false 1 (some 0) 0, .copy 0 1] : List (SOp ℝ)) := by
  refine ⟨fun h => h, rfl, fun h => h, ?_, fun h => h, rfl, trivial⟩
  simp [SOp.refsOk, SOp.step, SWorld.validRef, SWorld.empty]

end Bpp.C01
