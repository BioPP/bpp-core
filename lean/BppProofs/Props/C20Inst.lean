import BppProofs.Props.C20
import BppProofs.Lemmas.RangeInst
/-!
# C20 — the three instantiations of `Range<T>`: `int`, `unsigned`, `double`

Instance corollaries of the generic theorems of `Props/C20.lean` at `Int`, `UInt32` (arithmetic
modulo 2^32, what `unsigned` does) and `Rat` (exact on the dyadic values generated for `double`),
and the places where the coordinate types differ, each with a witness.
-/
namespace Bpp.C20
open Bpp Bpp.Range Bpp.MultiRange

/-! ## `int`  (`Int`) -/

theorem mr_inv_int (ops : List (Op Int)) : MultiRange.Inv (run ops) :=
  mr_inv ops
theorem mr_denotes_int (ops : List (Op Int)) (hnf : ∀ o ∈ ops, o.isFilter = false) :
    ∀ p, pts (run ops) p ↔ ops.foldl specStep (fun _ => False) p := mr_denotes ops hnf
theorem mr_refines_int (ops : List (Op Int)) :
    ∀ y, y ∈ run ops ↔ ops.foldl specStepK (fun _ => False) y := mr_refines ops
theorem slice_spec_int (x r : Range Int) (hx : x.b ≤ x.e) (hr : r.b ≤ r.e) :
    (x.sliceWith r).b ≤ (x.sliceWith r).e ∧ ∀ p, mem p (x.sliceWith r) ↔ mem p x ∧ mem p r :=
  slice_spec x r hx hr
theorem expand_spec_int (x r : Range Int) (hx : x.b ≤ x.e) (hr : r.b ≤ r.e) :
    (r.b ≤ x.e ∧ x.b ≤ r.e → ∀ p, mem p (x.expandWith r) ↔ mem p x ∨ mem p r) ∧
    (¬ (r.b ≤ x.e ∧ x.b ≤ r.e) → x.expandWith r = x) := ⟨(expand_spec x r hx hr).1, (expand_spec x r hx hr).2.1⟩
theorem range_preds_partial_int (x r : Range Int) (hx : x.b ≤ x.e) (hr : r.b ≤ r.e) : RangePreds x r :=
  range_preds_partial x r hx hr
theorem comparator_consistent_int (x y z : Range Int) (hx : x.b ≤ x.e) (hy : y.b ≤ y.e) (hz : z.b ≤ z.e)
    (hxy : Disj x y) (hyz : Disj y z) (hxz : Disj x z) : StrictWeakAt x y z :=
  comparator_consistent x y z hx hy hz hxy hyz hxz
theorem rangeset_keeps_int (ops : List (Op Int)) : RangeSetKeeps ops := rangeset_keeps ops
theorem shift_length_int (x : Range Int) (v : Int) : ShiftLength x v := shift_length x v

/-- for `int` (and `double`) shifts also preserve order, hence well-formedness and every predicate -/
theorem shift_mono_int (x : Range Int) (v : Int) (hx : x.b ≤ x.e) :
    (x.shift v).b ≤ (x.shift v).e ∧ (x.unshift v).b ≤ (x.unshift v).e ∧
    ∀ p, mem p (x.shift v) ↔ mem (p - v) x := by
  simp only [Range.shift, Range.unshift, mem]
  exact ⟨by omega, by omega, fun p => by omega⟩

theorem length_nonneg_int (a b : Int) : 0 ≤ (Range.make a b).length ∧
    (Range.make a b).length = (a - b).natAbs := by
  simp only [Range.make, Range.length]; omega

/-- **overlap_empty_operand_witness** (known finding): `Range(3,3).overlap(Range(1,5))` and
`Range(1,5).overlap(Range(3,3))` are true although `[3,3[` has no point — `overlap_iff_partial`
without its hypothesis that both operands are non-empty is false of the code -/
theorem overlap_empty_operand_witness :
    (⟨3, 3⟩ : Range Int).overlap ⟨1, 5⟩ = true ∧ (⟨1, 5⟩ : Range Int).overlap ⟨3, 3⟩ = true ∧
    (∀ p, ¬ mem p (⟨3, 3⟩ : Range Int)) ∧
    ¬ ((⟨3, 3⟩ : Range Int).overlap ⟨1, 5⟩ = true ↔ ∃ p, mem p (⟨3, 3⟩ : Range Int) ∧ mem p (⟨1, 5⟩ : Range Int)) := by
  have hno : ∀ p, ¬ mem p (⟨3, 3⟩ : Range Int) := by intro p; simp only [mem]; omega
  refine ⟨by decide, by decide, hno, ?_⟩
  intro h
  obtain ⟨p, hp, _⟩ := h.mp (by decide)
  exact hno p hp

/-- **contains_empty_range_witness** (known finding): `Range(1,5).contains(Range(7,7))` is false
although every point of the empty `[7,7[` is a point of `[1,5[` — the full-strength `contains_iff`
(empty argument included) is false of the code -/
theorem contains_empty_range_witness :
    (⟨1, 5⟩ : Range Int).contains ⟨7, 7⟩ = false ∧
    (∀ p, mem p (⟨7, 7⟩ : Range Int) → mem p (⟨1, 5⟩ : Range Int)) := by
  refine ⟨by decide, ?_⟩
  intro p hp; simp only [mem] at hp; omega

/-- outside the property's universe: with a negative coordinate, the `[0,0[` produced by
`sliceWith` and the range `[-2,3[` are each "less" than the other -/
theorem comparator_inconsistent_negative :
    (⟨0, 0⟩ : Range Int).lt ⟨-2, 3⟩ = true ∧ (⟨-2, 3⟩ : Range Int).lt ⟨0, 0⟩ = true := by decide

/-- `operator<` is not an order on arbitrary (overlapping) ranges: `[0,5[` and `[1,3[` are each
"less" than the other — which is why `comparator_consistent` needs disjointness, and why a
`std::set<Range*, rangeComp_>` would be ill-defined (the header declares `rangeComp_` but
`RangeSet` stores a `std::vector` and only `MultiRange::clean_` uses the comparator) -/
theorem lt_not_asymmetric :
    (⟨0, 5⟩ : Range Int).lt ⟨1, 3⟩ = true ∧ (⟨1, 3⟩ : Range Int).lt ⟨0, 5⟩ = true := by decide

def inInt32 (x : Int) : Prop := -(2 : Int) ^ 31 ≤ x ∧ x < (2 : Int) ^ 31

/-- the `size_t` accumulator of `totalLength` holds the exact sum of the lengths (no conversion
of a negative length, no wrap modulo 2^64) on every state satisfying the invariant whose end
points fit the accumulator -/
theorem totalLength_int (m : List (Range Int)) (hm : MultiRange.Inv m) (hB : ∀ x ∈ m, x.e < 2 ^ 63)
    (hL : ∀ x ∈ m, -(2 : Int) ^ 63 ≤ x.b) :
    (MultiRange.totalLength m : Int) = (m.map Range.length).sum := by
  have := fold_acc_exact (α := Int) id m (fun tot x _ h0 h1 => accLen_int tot _ h0 h1)
    (by rwa [List.map_id]) hB hL
  rwa [List.map_id] at this

/-- end points for which also every difference of two of them fits an `int` -/
def inHalfInt32 (x : Int) : Prop := -(2 : Int) ^ 30 ≤ x ∧ x < (2 : Int) ^ 30

/-- **int_no_overflow**: nothing the collection operations evaluate can overflow when the
arguments lie in `[-2^30, 2^30[` (negative coordinates included): every stored coordinate is an
argument end point or `0`, so it fits; every `length()` (`end_ - begin_`) of a stored range is
positive and fits an `int`; and the `size_t` total is the exact sum and fits too.  (Signed overflow
is undefined behaviour; the `Int` model is faithful exactly where it cannot occur.  Over the whole
`int` range the stored coordinates still fit — `endpoints_closed` — but `length()` need not:
`length_overflow_int`.) -/
theorem int_no_overflow (ops : List (Op Int))
    (hfit : ∀ o ∈ ops, ∀ a ∈ o.args, inHalfInt32 a) :
    (∀ x ∈ run ops, inHalfInt32 x.b ∧ inHalfInt32 x.e ∧ 0 < x.length ∧ inInt32 x.length) ∧
    (MultiRange.totalLength (run ops) : Int) = ((run ops).map Range.length).sum ∧
    (MultiRange.totalLength (run ops) : Int) < 2 ^ 31 := by
  have hinv := mr_inv ops
  have hcl := endpoints_closed inHalfInt32 (by unfold inHalfInt32; omega) ops hfit
  have hB : ∀ x ∈ run ops, x.e < 2 ^ 63 := by
    intro x hx; have := (hcl x hx).2; unfold inHalfInt32 at this; omega
  have hL : ∀ x ∈ run ops, -(2 : Int) ^ 63 ≤ x.b := by
    intro x hx; have := (hcl x hx).1; unfold inHalfInt32 at this; omega
  refine ⟨?_, totalLength_int _ hinv hB hL, ?_⟩
  · intro x hx
    have h1 := hcl x hx
    have h2 := hinv.1 x hx
    unfold inHalfInt32 inInt32 at *
    simp only [Range.length]
    omega
  · rw [totalLength_int _ hinv hB hL]
    have := sum_le_hull (run ops) hinv ((2:Int)^30 - 1) (-(2:Int)^30)
      (fun y hy => by have := (hcl y hy).2; unfold inHalfInt32 at this; omega)
      (fun y hy => by have := (hcl y hy).1; unfold inHalfInt32 at this; omega) (by omega)
    omega

/-- over the whole `int` range `length()` itself can overflow: `[-2^31, 2^31-1[` is a legal
`Range<int>` whose `end_ - begin_` is `2^32 - 1` -/
theorem length_overflow_int :
    inInt32 (Range.make (-(2:Int)^31) (2^31 - 1)).b ∧ inInt32 (Range.make (-(2:Int)^31) (2^31 - 1)).e ∧
    ¬ inInt32 (Range.make (-(2:Int)^31) (2^31 - 1)).length := by
  unfold inInt32; decide

/-! ## `unsigned`  (`UInt32`, arithmetic modulo 2^32) -/

theorem mr_inv_uint (ops : List (Op UInt32)) : MultiRange.Inv (run ops) :=
  mr_inv ops
theorem mr_denotes_uint (ops : List (Op UInt32)) (hnf : ∀ o ∈ ops, o.isFilter = false) :
    ∀ p, pts (run ops) p ↔ ops.foldl specStep (fun _ => False) p :=
  mr_denotes ops hnf
theorem mr_refines_uint (ops : List (Op UInt32)) :
    ∀ y, y ∈ run ops ↔ ops.foldl specStepK (fun _ => False) y := mr_refines ops
theorem slice_spec_uint (x r : Range UInt32) (hx : x.b ≤ x.e) (hr : r.b ≤ r.e) :
    (x.sliceWith r).b ≤ (x.sliceWith r).e ∧ ∀ p, mem p (x.sliceWith r) ↔ mem p x ∧ mem p r :=
  slice_spec x r hx hr
theorem expand_spec_uint (x r : Range UInt32) (hx : x.b ≤ x.e) (hr : r.b ≤ r.e) :
    (r.b ≤ x.e ∧ x.b ≤ r.e → ∀ p, mem p (x.expandWith r) ↔ mem p x ∨ mem p r) ∧
    (¬ (r.b ≤ x.e ∧ x.b ≤ r.e) → x.expandWith r = x) := ⟨(expand_spec x r hx hr).1, (expand_spec x r hx hr).2.1⟩
theorem range_preds_partial_uint (x r : Range UInt32) (hx : x.b ≤ x.e) (hr : r.b ≤ r.e) : RangePreds x r :=
  range_preds_partial x r hx hr
theorem comparator_consistent_uint (x y z : Range UInt32) (hx : x.b ≤ x.e) (hy : y.b ≤ y.e) (hz : z.b ≤ z.e)
    (hxy : Disj x y) (hyz : Disj y z) (hxz : Disj x z) : StrictWeakAt x y z :=
  comparator_consistent x y z hx hy hz hxy hyz hxz
theorem rangeset_keeps_uint (ops : List (Op UInt32)) : RangeSetKeeps ops := rangeset_keeps ops
/-- also when the shift wraps around 2^32 -/
theorem shift_length_uint (x : Range UInt32) (v : UInt32) : ShiftLength x v := shift_length x v

/-- **length_no_wrap_uint**: the subtraction of `length()` cannot wrap on a range built by the
constructor (`begin_ <= end_`), whatever the order of the arguments: it is the distance of the
arguments.  The bare `a - b` of reversed arguments would wrap (`5u - 7u = 4294967294`). -/
theorem length_no_wrap_uint (a b : UInt32) (x : Range UInt32) (hx : x.b ≤ x.e) :
    x.length.toNat = x.e.toNat - x.b.toNat ∧
    (Range.make a b).length.toNat = max a.toNat b.toNat - min a.toNat b.toNat ∧
    ((5 : UInt32) - 7 = 4294967294 ∧ (Range.make (5 : UInt32) 7).length = 2 ∧
     (Range.make (7 : UInt32) 5).length = 2) := by
  refine ⟨UInt32.toNat_sub_of_le _ _ hx, ?_, by decide⟩
  have hw := (make_wf a b)
  rw [Range.length, UInt32.toNat_sub_of_le _ _ hw.1, hw.2.1, hw.2.2.1]
  simp only [MinMaxLaws.min_def, MinMaxLaws.max_def, UInt32.le_iff_toNat_le]
  split <;> omega

/-- **shift_wrap_uint**: where `unsigned` differs.  A shift by a negative amount does not exist:
the caller's `-3` arrives as `2^32 - 3`, and `+= 2^32 - 3` is `-= 3`.  Shifting down below zero
wraps `begin_` only: the result `[2^32-1, 2[` is no longer well formed (`begin_ > end_`), its
`length()` is still 3 (`shift_length_uint`), it is not empty but contains no point, and shifting
back restores the range.  Without wrap-around (`end + v < 2^32`) a shift preserves the order. -/
theorem shift_wrap_uint :
    (∀ (x : Range UInt32) (v : UInt32), x.shift (0 - v) = x.unshift v) ∧
    (Range.make (2 : UInt32) 5).unshift 3 = ⟨4294967295, 2⟩ ∧
    ((Range.make (2 : UInt32) 5).unshift 3).length = 3 ∧
    ((Range.make (2 : UInt32) 5).unshift 3).isEmpty = false ∧
    (∀ p, ¬ mem p ((Range.make (2 : UInt32) 5).unshift 3)) ∧
    ((Range.make (2 : UInt32) 5).unshift 3).shift 3 = Range.make 2 5 ∧
    (∀ (x : Range UInt32) (v : UInt32), x.b ≤ x.e → x.e.toNat + v.toNat < 2 ^ 32 →
      (x.shift v).b ≤ (x.shift v).e ∧ (x.shift v).b.toNat = x.b.toNat + v.toNat ∧
      (x.shift v).e.toNat = x.e.toNat + v.toNat) := by
  refine ⟨?_, by decide, by decide, by decide, ?_, by decide, ?_⟩
  · intro x v; cases x; simp only [Range.shift, Range.unshift, Range.mk.injEq]
    constructor <;> grind
  · intro p
    have : (Range.make (2 : UInt32) 5).unshift 3 = ⟨4294967295, 2⟩ := by decide
    rw [this]; simp only [mem, UInt32.le_iff_toNat_le, UInt32.lt_iff_toNat_lt]
    have : (4294967295 : UInt32).toNat = 4294967295 := by decide
    have : (2 : UInt32).toNat = 2 := by decide
    omega
  · intro x v hx hv
    simp only [Range.shift, UInt32.le_iff_toNat_le, UInt32.toNat_add] at *
    omega

/-- **contains_needs_endpoints_uint**: `contains` compares end points; the "equivalent" offset
form `r.begin_ - begin_ <= length() - r.length()` agrees with it for `int` on well-formed
operands but not for `unsigned`, where `length() - r.length()` wraps when `r` is longer:
`[0,1[` does not contain `[0,4[`, yet `0 - 0 <= 1 - 4 (mod 2^32)`.  (This is the seeded change
C20-b2; the `UInt32` model reproduces the wrap-around.) -/
theorem contains_needs_endpoints_uint :
    (∀ x r : Range Int, x.b ≤ x.e → r.b ≤ r.e →
      (x.contains r = true ↔ (x.b ≤ r.b ∧ r.b - x.b ≤ x.length - r.length))) ∧
    (let x : Range UInt32 := ⟨0, 1⟩; let r : Range UInt32 := ⟨0, 4⟩
     x.contains r = false ∧ (x.b ≤ r.b ∧ r.b - x.b ≤ x.length - r.length)) := by
  refine ⟨?_, by decide⟩
  intro x r hx hr
  rw [contains_eq]; simp only [Range.length]; omega

/-- the embedding of `unsigned` coordinates into the integers -/
def uintToI (x : Range UInt32) : Range Int := ⟨x.b.toNat, x.e.toNat⟩

theorem inv_uintToI (m : List (Range UInt32)) (hm : MultiRange.Inv m) :
    MultiRange.Inv (m.map uintToI) := by
  refine hm.map (fun x _ h => ?_) (fun x _ y _ h => ?_)
  · exact Int.ofNat_lt.mpr (UInt32.lt_iff_toNat_lt.mp h)
  · exact Int.ofNat_le.mpr (UInt32.le_iff_toNat_le.mp h)

/-- on every reachable state of an `unsigned` multi-range no `length()` wraps, and the `size_t`
total is the exact sum of the distances -/
theorem totalLength_uint (m : List (Range UInt32)) (hm : MultiRange.Inv m) :
    (MultiRange.totalLength m : Int) = ((m.map uintToI).map Range.length).sum := by
  refine fold_acc_exact uintToI m (fun tot x hx _ h1 => ?_) (inv_uintToI m hm)
    (fun x _ => by have := x.e.toNat_lt; show (x.e.toNat : Int) < _; omega)
    (fun x _ => by show _ ≤ (x.b.toNat : Int); omega)
  -- `begin_ <= end_`, so the `unsigned` subtraction of `length()` does not wrap
  have hle : x.b ≤ x.e := Std.le_of_lt (hm.1 x hx)
  have hl : (uintToI x).length = x.length.toNat := by
    show (x.e.toNat : Int) - x.b.toNat = (x.e - x.b).toNat
    rw [UInt32.toNat_sub_of_le _ _ hle]; have := UInt32.le_iff_toNat_le.mp hle; omega
  rw [hl] at h1 ⊢
  exact accLen_uint tot _ h1

/-- **illformed_arg_uint** — the arguments of the collection operations are ranges as the
constructor builds them (`begin_ <= end_`; that is what `Op` feeds).  The public shift operators
can produce an ill-formed `Range<unsigned>` (`shift_wrap_uint`: `[2,5[ - 3 = [2^32-1, 2[`); added to
a multi-range it is stored as it is, and the invariant is lost (`begin_ > end_`, and it is mutually
`<` with `[1,3[`, so even its position depends on the sorting algorithm).  `mr_inv_uint` therefore
speaks of constructor-built arguments only. -/
theorem illformed_arg_uint :
    let bad : Range UInt32 := (Range.make 2 5).unshift 3
    ¬ Arg bad ∧ ¬ MultiRange.Inv (addRange (addRange [] (Range.make 1 3)) bad) ∧
    bad.lt (Range.make 1 3) = true ∧ (Range.make (1 : UInt32) 3).lt bad = true := by
  refine ⟨by unfold Arg; decide, ?_, by decide, by decide⟩
  intro h
  have hmem : (⟨4294967295, 2⟩ : Range UInt32) ∈ addRange (addRange [] (Range.make 1 3)) ((Range.make 2 5).unshift 3) := by
    decide
  have := h.1 _ hmem
  exact absurd this (by decide)

/-! ## `double`  (`Rat`: exact on the values generated; rounding is not modelled) -/

theorem mr_inv_rat (ops : List (Op Rat)) : MultiRange.Inv (run ops) :=
  mr_inv ops
theorem mr_denotes_rat (ops : List (Op Rat)) (hnf : ∀ o ∈ ops, o.isFilter = false) :
    ∀ p, pts (run ops) p ↔ ops.foldl specStep (fun _ => False) p := mr_denotes ops hnf
theorem mr_refines_rat (ops : List (Op Rat)) :
    ∀ y, y ∈ run ops ↔ ops.foldl specStepK (fun _ => False) y := mr_refines ops
theorem slice_spec_rat (x r : Range Rat) (hx : x.b ≤ x.e) (hr : r.b ≤ r.e) :
    (x.sliceWith r).b ≤ (x.sliceWith r).e ∧ ∀ p, mem p (x.sliceWith r) ↔ mem p x ∧ mem p r :=
  slice_spec x r hx hr
theorem expand_spec_rat (x r : Range Rat) (hx : x.b ≤ x.e) (hr : r.b ≤ r.e) :
    (r.b ≤ x.e ∧ x.b ≤ r.e → ∀ p, mem p (x.expandWith r) ↔ mem p x ∨ mem p r) ∧
    (¬ (r.b ≤ x.e ∧ x.b ≤ r.e) → x.expandWith r = x) := ⟨(expand_spec x r hx hr).1, (expand_spec x r hx hr).2.1⟩
theorem range_preds_partial_rat (x r : Range Rat) (hx : x.b ≤ x.e) (hr : r.b ≤ r.e) : RangePreds x r :=
  range_preds_partial x r hx hr
theorem comparator_consistent_rat (x y z : Range Rat) (hx : x.b ≤ x.e) (hy : y.b ≤ y.e) (hz : z.b ≤ z.e)
    (hxy : Disj x y) (hyz : Disj y z) (hxz : Disj x z) : StrictWeakAt x y z :=
  comparator_consistent x y z hx hy hz hxy hyz hxz
theorem rangeset_keeps_rat (ops : List (Op Rat)) : RangeSetKeeps ops := rangeset_keeps ops
theorem shift_length_rat (x : Range Rat) (v : Rat) : ShiftLength x v := shift_length x v

theorem shift_mono_rat (x : Range Rat) (v : Rat) (hx : x.b ≤ x.e) :
    (x.shift v).b ≤ (x.shift v).e ∧ (x.unshift v).b ≤ (x.unshift v).e := by
  simp only [Range.shift, Range.unshift]; constructor <;> grind

/-- the integer range a `double` range with integral end points stands for -/
def ratToI (x : Range Rat) : Range Int := ⟨x.b.floor, x.e.floor⟩
def Integral (x : Range Rat) : Prop := x.b = (x.b.floor : Rat) ∧ x.e = (x.e.floor : Rat)

/-- **totalLength_rat**: with integral end points (the property's universe) the `size_t`
accumulator of `MultiRange<double>::totalLength` — which truncates after every addition — holds
the exact sum of the lengths -/
theorem totalLength_rat (m : List (Range Rat)) (hm : MultiRange.Inv m) (hint : ∀ x ∈ m, Integral x)
    (hB : ∀ x ∈ m, x.e.floor < 2 ^ 63) (hL : ∀ x ∈ m, -(2 : Int) ^ 63 ≤ x.b.floor) :
    (MultiRange.totalLength m : Int) = ((m.map ratToI).map Range.length).sum :=
  fold_acc_exact ratToI m (fun tot x hx h0 _ => accLen_rat tot x (hint x hx).1 (hint x hx).2 h0)
    (inv_floor hm hint) hB hL

/-- **totalLength_truncates_rat** — outside the property's integer universe: with non-integral
`double` coordinates the `size_t` accumulator truncates after every addition, so two disjoint
ranges of length 1/2 have total length 0, not 1 (`tot += 0.5` twice) -/
theorem totalLength_truncates_rat :
    MultiRange.Inv [(⟨0, 1/2⟩ : Range Rat), ⟨1, 3/2⟩] ∧
    MultiRange.totalLength [(⟨0, 1/2⟩ : Range Rat), ⟨1, 3/2⟩] = 0 ∧
    MultiRange.totalLength [(⟨0, 3/2⟩ : Range Rat), ⟨2, 7/2⟩] = 2 := by
  refine ⟨⟨?_, ?_⟩, by decide +kernel, by decide +kernel⟩
  · intro x hx; simp at hx; rcases hx with h | h <;> subst h <;> decide +kernel
  · simp only [List.pairwise_cons, List.mem_singleton, forall_eq, R, List.not_mem_nil, false_imp_iff,
      implies_true, List.Pairwise.nil, and_true]
    decide +kernel

/-! ## non-vacuity: concrete states meeting the hypotheses -/

example : MultiRange.Inv [(⟨1, 3⟩ : Range Int), ⟨3, 5⟩, ⟨7, 9⟩] ∧ Arg (Range.make (8:Int) 2) := by
  refine ⟨⟨by intro x hx; simp at hx; rcases hx with h | h | h <;> subst h <;> decide, ?_⟩, by unfold Arg; decide⟩
  simp [R]
example : run [Op.add (1:Int) 5, .add 7 9, .add 4 8, .restrict 2 3] = [⟨2, 3⟩] := by decide
example : run [Op.add (1:UInt32) 5, .add 7 9, .add 9 12, .filter 6 20, .restrict 8 30] = [⟨8, 9⟩, ⟨9, 12⟩] := by decide
example : run [Op.add (1/2:Rat) 5, .add 7 9, .add 4 8, .restrict 2 (5/2)] = [⟨2, 5/2⟩] := by decide +kernel
example : Disj (⟨0, 0⟩ : Range Int) ⟨0, 3⟩ ∧ Disj (⟨0, 3⟩ : Range Int) ⟨5, 6⟩ ∧ Disj (⟨0, 0⟩ : Range Int) ⟨5, 6⟩ := by
  unfold Disj; decide
example : inInt32 3 ∧ inHalfInt32 (-7) := by unfold inInt32 inHalfInt32; decide
example : Integral ⟨2, 5⟩ := by unfold Integral; decide +kernel
-- the hypothesis of `int_no_overflow` and `mr_total_length_history`, met with a negative end point
example : ∀ a ∈ (Op.add (-3 : Int) 24).args, inHalfInt32 a := by
  intro a ha; simp [Op.args] at ha; rcases ha with h | h <;> subst h <;> (unfold inHalfInt32; decide)
-- negative coordinates: the history of the crash probe (restriction to a window straddling 0)
example : run [Op.add (-5 : Int) (-3), .add (-1) 1, .add 4 6, .restrict (-1) 1] = [⟨-1, 1⟩] := by decide
-- hypotheses of `comparator_consistent`: three well-formed pairwise disjoint ranges, one of them empty
example : Disj (⟨0, 0⟩ : Range UInt32) ⟨2, 3⟩ ∧ Disj (⟨2, 3⟩ : Range UInt32) ⟨3, 6⟩ ∧ Disj (⟨0, 0⟩ : Range UInt32) ⟨3, 6⟩ := by
  unfold Disj; decide
-- a filter history whose point set is not a function of the previous point set: touching ranges
example : run [Op.add (1:Int) 3, .add 3 5, .filter 0 4] = [⟨1, 3⟩] ∧ run [Op.add (1:Int) 5, .filter 0 4] = [] := by
  decide
-- the invariant and the total length for `unsigned` (for `int`: the examples of `C20Measure.lean`)
example : MultiRange.Inv [(⟨1, 3⟩ : Range UInt32), ⟨3, 5⟩] ∧ MultiRange.totalLength [(⟨1, 3⟩ : Range UInt32), ⟨3, 5⟩] = 4 := by
  refine ⟨⟨by intro x hx; simp at hx; rcases hx with h | h <;> subst h <;> decide, by simp [R]⟩, by decide⟩

end Bpp.C20
