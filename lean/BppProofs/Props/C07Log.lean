import BppProofs.Lemmas.LogSpace
/-!
# C07 — log-domain reductions   (VectorTools.h:637-753, NumTools.h:96-101)

Property theorems only; helper lemmas are in `Lemmas/LogSpace.lean`.  The program text of
`BppModel/LogSpace.lean` is read at `ℝ` (exact arithmetic, no infinities) and, for the statements
about log-zero, at `Ext ℝ` (reals with `+∞`, `-∞ = log 0` and NaN, IEEE rules for the special
values).  "Stays finite where the naive formula overflows" is a floating-point fact; what is proved
is its structural reason: every argument handed to `exp` is `≤ 0` (`lse_args_nonpos`), so every
term is in `(0,1]` and the shifted sum in `[1,n]`.
-/
namespace Bpp.C07
open Bpp Bpp.VecTools Bpp.LogSpace

/-! ## pairwise log-sum (NumTools::logsum, repaired) -/

/-- `logsum (ln x) (ln y) = ln (x + y)` for positive `x`, `y` -/
theorem logsum_spec (x y : ℝ) (hx : 0 < x) (hy : 0 < y) :
    logsum (Real.log x) (Real.log y) = Real.log (x + y) := by
  rw [logsum_eq, Real.exp_log hx, Real.exp_log hy]

/-- for all reals: `logsum a b = ln (eᵃ + eᵇ)` -/
theorem logsum_eq_log_add_exp (a b : ℝ) : logsum a b = Real.log (Real.exp a + Real.exp b) := logsum_eq a b

theorem logsum_comm (a b : ℝ) : logsum a b = logsum b a := by
  rw [logsum_eq, logsum_eq, add_comm]

/-- between the larger argument and the larger argument plus `ln 2` -/
theorem logsum_bounds (a b : ℝ) : max a b ≤ logsum a b ∧ logsum a b ≤ max a b + Real.log 2 := by
  wlog h : a ≤ b generalizing a b
  · rw [max_comm, logsum_comm]; exact this b a (le_of_not_ge h)
  have hpos := add_pos (Real.exp_pos a) (Real.exp_pos b)
  rw [max_eq_right h, logsum_eq, Real.le_log_iff_exp_le hpos, Real.log_le_iff_le_exp hpos, Real.exp_add,
    Real.exp_log two_pos, mul_two]
  exact ⟨le_add_of_nonneg_left (Real.exp_pos a).le, add_le_add_left (Real.exp_le_exp.mpr h) _⟩

/-- the only exponent the code ever passes to `exp` is `-|a - b| ≤ 0` -/
theorem logsum_arg_nonpos (a b : ℝ) (hab : a ≠ b) :
    logsum a b = max a b + Real.log (1 + Real.exp (-|a - b|)) := by
  rw [logsum_real, if_neg hab]
  split
  · rename_i hlt
    rw [max_eq_left hlt.le, abs_of_pos (sub_pos.mpr hlt), neg_sub]
  · rename_i hlt
    rw [max_eq_right (not_lt.mp hlt), abs_of_nonpos (sub_nonpos.mpr (not_lt.mp hlt)), neg_neg]

/-- on the reals the repair changes nothing -/
theorem logsum_repair_conservative (a b : ℝ) : logsum a b = logsumOrig a b := by
  unfold logsum logsumOrig
  by_cases hab : a = b
  · subst hab
    simp only [LogSpace.eqb_iff, if_true, LogSpace.ltb_iff, lt_irrefl, if_false, sub_self, LogSpace.exp_eq,
      Real.exp_zero, LogSpace.ofNat_eq, LogSpace.log_eq]
    norm_num
  · have h1 : LogArith.eqb a b = false := by simp [hab]
    simp only [h1, Bool.false_eq_true, if_false]

/-! ### log-zero as an explicit `-∞` -/

/-- the log-sum of two log-zeros is log-zero -/
theorem logsum_zero_zero : logsum (Ext.ninf : Ext ℝ) Ext.ninf = Ext.ninf :=
  congrArg (Ext.add Ext.ninf) (log'_fin_pos _ (Nat.cast_pos.mpr two_pos))

/-- witness of the defect: before the repair it was NaN (`-∞ - -∞`) -/
theorem logsumOrig_zero_zero_nan : logsumOrig (Ext.ninf : Ext ℝ) Ext.ninf = Ext.nan := rfl

/-- log-zero is the neutral element -/
theorem logsum_zero_neutral (b : ℝ) :
    logsum (Ext.ninf : Ext ℝ) (Ext.fin b) = Ext.fin b ∧ logsum (Ext.fin b) (Ext.ninf : Ext ℝ) = Ext.fin b := by
  -- both orders are `b + log (1 + exp (-∞ - b))`
  have h : Ext.fin b + LogArith.log (LogArith.ofNat 1 + LogArith.exp (Ext.ninf - Ext.fin b)) = Ext.fin b :=
    (congrArg (Ext.add (Ext.fin b)) (log'_fin_pos (LogArith.ofNat 1 + LogArith.ofNat 0) (by norm_num))).trans
      (congrArg Ext.fin (by simp))
  exact ⟨h, h⟩

/-- on finite values the extended reading is the real one -/
theorem logsum_finite (a b : ℝ) : logsum (Ext.fin a) (Ext.fin b) = Ext.fin (logsum a b) := logsum_fin_fin a b

theorem logsum_inf_inf : logsum (Ext.pinf : Ext ℝ) Ext.pinf = Ext.pinf :=
  congrArg (Ext.add Ext.pinf) (log'_fin_pos _ (Nat.cast_pos.mpr two_pos))

/-- commutative on all extended values, NaN included -/
theorem logsum_comm_extended (a b : Ext ℝ) : logsum a b = logsum b a := by
  -- unless both are finite, the comparisons are decided by the constructors and both orders are the same term
  cases a with
  | fin x => cases b with
    | fin y => rw [logsum_fin_fin, logsum_fin_fin, logsum_comm]
    | _ => rfl
  | _ => cases b <;> rfl

/-! ## logSumExp, logMeanExp, sumExp, logNorm -/

/-- `logSumExp v = ln Σ exp vᵢ` -/
theorem lse_spec (v : List ℝ) (hv : v ≠ []) : logSumExp v = .ok (Real.log (v.map Real.exp).sum) :=
  logSumExp_eq v hv

/-- the empty vector is reported by EmptyVectorException (raised by `max`) -/
theorem lse_empty_raises :
    logSumExp ([] : List ℝ) = .error .empty ∧ logMeanExp ([] : List ℝ) = .error .empty ∧
    sumExp ([] : List ℝ) = .error .empty ∧ logNorm ([] : List ℝ) = .error .empty ∧
    logSumExpW ([] : List ℝ) [] = .error .empty ∧ sumExpW ([] : List ℝ) [] = .error .empty := by
  refine ⟨rfl, rfl, rfl, rfl, rfl, rfl⟩

/-- witness: before the repair `sumExp` of the empty vector read `v[0]` -/
theorem sumExpOrig_empty_ub : sumExpOrig ([] : List ℝ) = .error .ub := rfl

/-- shift-equivariance: `logSumExp (v + c) = logSumExp v + c` -/
theorem lse_shift (v : List ℝ) (c : ℝ) (hv : v ≠ []) :
    ∃ r, logSumExp v = .ok r ∧ logSumExp (v.map (· + c)) = .ok (r + c) := by
  refine ⟨_, logSumExp_eq v hv, ?_⟩
  rw [logSumExp_eq _ (by simpa using hv), sum_exp_map_add, log_mul_exp (sum_exp_pos v hv)]

/-- `max v ≤ logSumExp v ≤ max v + ln n` -/
theorem lse_bounds (v : List ℝ) (hv : v ≠ []) :
    ∃ M r, vmax v = .ok M ∧ logSumExp v = .ok r ∧ M ≤ r ∧ r ≤ M + Real.log v.length := by
  obtain ⟨M, hM⟩ := vmax_defined v hv
  obtain ⟨hmem, hle⟩ := vmax_spec v M hM
  obtain ⟨hlo, hhi⟩ := sum_exp_bounds v M hmem hle
  refine ⟨M, _, hM, logSumExp_eq v hv, ?_, ?_⟩
  · have := Real.log_le_log (Real.exp_pos _) hlo
    rwa [Real.log_exp] at this
  · have := Real.log_le_log (sum_exp_pos v hv) hhi
    rwa [log_mul_exp (Nat.cast_pos.mpr (List.length_pos_iff.mpr hv)), add_comm] at this

/-- the structural reason for overflow-safety: with `M = max v` the value is computed as
`ln (Σ exp aᵢ) + M` where every argument `aᵢ = vᵢ - M` of `exp` is `≤ 0`, hence every term is in
`(0,1]` and the sum in `[1, n]` — nothing can overflow, and the logarithm's argument is `≥ 1` -/
theorem lse_args_nonpos (v : List ℝ) (hv : v ≠ []) (h1 : v.length ≠ 1) :
    ∃ M, vmax v = .ok M ∧ logSumExp v = .ok (Real.log ((shifted M v).map Real.exp).sum + M) ∧
      (∀ a ∈ shifted M v, a ≤ 0) ∧ (∀ a ∈ shifted M v, 0 < Real.exp a ∧ Real.exp a ≤ 1) ∧
      1 ≤ ((shifted M v).map Real.exp).sum ∧ ((shifted M v).map Real.exp).sum ≤ v.length := by
  obtain ⟨M, hM, hlse⟩ := logSumExp_unfold v hv h1
  obtain ⟨hmem, hle⟩ := vmax_spec v M hM
  obtain ⟨hneg, hexp⟩ := shifted_le v M hle
  obtain ⟨hlo, hhi⟩ := sum_exp_bounds (shifted M v) 0 (List.mem_map.mpr ⟨M, hmem, sub_self M⟩) hneg
  rw [Real.exp_zero, mul_one, shifted, List.length_map] at hhi
  exact ⟨M, hM, hlse, hneg, hexp, Real.exp_zero ▸ hlo, hhi⟩

/-- `sumExp v = Σ exp vᵢ` (repaired: also defined for a single element, empty raises) -/
theorem sumExp_spec (v : List ℝ) (hv : v ≠ []) : sumExp v = .ok (v.map Real.exp).sum := sumExp_eq v hv

/-- `logMeanExp v = ln ((Σ exp vᵢ)/n)` -/
theorem logMeanExp_spec (v : List ℝ) (hv : v ≠ []) :
    logMeanExp v = .ok (Real.log ((v.map Real.exp).sum / v.length)) := by
  rw [logMeanExp_of_lse (logSumExp_eq v hv),
    Real.log_div (sum_exp_pos v hv).ne' (Nat.cast_ne_zero.mpr (List.length_pos_iff.mpr hv).ne')]

/-- weighted `logSumExp (v, w) = ln Σ wᵢ·exp vᵢ` for a **positive** weighted sum (`wsum v w` is
`Σ wᵢ·exp vᵢ`).  For a sum `≤ 0` the code takes `std::log` of a non-positive number: see
`lsew_sign_outcome` — over `ℝ` alone `Real.log x = ln |x|` would hide that. -/
theorem lsew_spec (v w : List ℝ) (hv : v ≠ []) (h : v.length = w.length) (hpos : 0 < wsum v w) :
    logSumExpW v w = .ok (Real.log (wsum v w)) := by
  obtain ⟨M, -, hl⟩ := logSumExpW_unfold v w hv h
  rw [hl, sum_zipWith_shift, log_mul_exp hpos, neg_add_cancel_right]

example : logSumExpW ([0, 1] : List ℝ) [2, 3] = .ok (Real.log (2 * Real.exp 0 + 3 * Real.exp 1)) := by
  have h : wsum ([0, 1] : List ℝ) [2, 3] = 2 * Real.exp 0 + 3 * Real.exp 1 := by simp [wsum]
  rw [lsew_spec [0, 1] [2, 3] (by simp) rfl (by rw [h]; positivity), h]

/-- the complete outcome on finite inputs, in the reading with `±∞` and NaN (which is what the
double computation does with the special values): the logarithm for a positive weighted sum, **NaN
for a negative one** (`std::log` of a negative number), `-∞` for a zero one.  Weights of either
sign are allowed. -/
theorem lsew_sign_outcome (v w : List ℝ) (hv : v ≠ []) (h : v.length = w.length) :
    logSumExpW (v.map Ext.fin) (w.map Ext.fin) =
      .ok (if 0 < wsum v w then Ext.fin (Real.log (wsum v w))
           else if wsum v w < 0 then Ext.nan else Ext.ninf) := by
  obtain ⟨m, hm⟩ := vmax_defined v hv
  have hE : 0 < Real.exp (-m) := Real.exp_pos _
  have hneg : wsum v w * Real.exp (-m) < 0 ↔ wsum v w < 0 :=
    ⟨fun h => neg_of_mul_neg_left h hE.le, fun h => mul_neg_of_neg_of_pos h hE⟩
  rw [logSumExpW_of_max (by simpa using h) (by rw [vmax_map_fin, hm]; rfl), expSumW_map_fin, expSumW_eq m v w hv h,
    sum_zipWith_shift]
  refine congrArg Except.ok ?_
  -- the sign of `S·exp(-m)` is the sign of `S`
  show Ext.log' (Ext.fin (wsum v w * Real.exp (-m))) + Ext.fin m = _
  rw [log'_fin]
  simp only [mul_pos_iff_of_pos_right hE, hneg]
  split
  · exact congrArg Ext.fin (by rw [log_mul_exp ‹_›, neg_add_cancel_right])
  · split <;> rfl

/-- e.g. `logSumExp([0], [-1])` is NaN, not `ln |-1| = 0` -/
theorem lsew_negative_nan : logSumExpW [Ext.fin (0 : ℝ)] [Ext.fin (-1)] = .ok Ext.nan := by
  have := lsew_sign_outcome [0] [-1] (by simp) rfl
  simp only [wsum, List.zipWith_cons_cons, List.zipWith_nil_right, List.sum_cons, List.sum_nil, Real.exp_zero] at this
  norm_num at this
  simpa using this

/-- shift-equivariance of the weighted form: `logSumExp (v + c, w) = logSumExp (v, w) + c`
(positive weighted sum) -/
theorem lsew_shift (v w : List ℝ) (c : ℝ) (hv : v ≠ []) (h : v.length = w.length) (hpos : 0 < wsum v w) :
    ∃ r, logSumExpW v w = .ok r ∧ logSumExpW (v.map (· + c)) w = .ok (r + c) := by
  refine ⟨_, lsew_spec v w hv h hpos, ?_⟩
  have hpos' : 0 < wsum (v.map (· + c)) w := by rw [wsum_map_add]; exact mul_pos hpos (Real.exp_pos _)
  rw [lsew_spec _ _ (by simpa using hv) (by simpa using h) hpos', wsum_map_add, log_mul_exp hpos]

/-- bounds of the weighted form for non-negative weights and a positive weighted sum: with
`M = max v`, `logSumExp (v, w) ≤ M + ln Σw`, and `vᵢ + ln wᵢ ≤ logSumExp (v, w)` for every entry with
a positive weight (in particular `M + ln w_argmax` when the maximal entry carries weight) -/
theorem lsew_bounds (v w : List ℝ) (hv : v ≠ []) (h : v.length = w.length) (hw : ∀ c ∈ w, 0 ≤ c)
    (hpos : 0 < wsum v w) :
    ∃ M r, vmax v = .ok M ∧ logSumExpW v w = .ok r ∧ 0 < w.sum ∧ r ≤ M + Real.log w.sum ∧
      ∀ (i : Nat) (x c : ℝ), v[i]? = some x → w[i]? = some c → 0 < c → x + Real.log c ≤ r := by
  obtain ⟨M, hM⟩ := vmax_defined v hv
  obtain ⟨-, hle⟩ := vmax_spec v M hM
  have hup := wsum_le v w M h hw hle
  have hsw : 0 < w.sum := (mul_pos_iff_of_pos_right (Real.exp_pos M)).mp (hpos.trans_le hup)
  refine ⟨M, _, hM, lsew_spec v w hv h hpos, hsw, ?_, ?_⟩
  · have := Real.log_le_log hpos hup
    rwa [log_mul_exp hsw, add_comm] at this
  · intro i x c hx hc hcpos
    have hterm := wsum_ge_term v w hw i x c hx hc
    have := Real.log_le_log (mul_pos hcpos (Real.exp_pos x)) hterm
    rwa [log_mul_exp hcpos, add_comm] at this

example : ∃ M r, vmax ([0, 1] : List ℝ) = .ok M ∧ logSumExpW ([0, 1] : List ℝ) [2, 3] = .ok r ∧
    r ≤ M + Real.log ([2, 3] : List ℝ).sum := by
  obtain ⟨M, r, h1, h2, -, h3, -⟩ := lsew_bounds ([0, 1] : List ℝ) [2, 3] (by simp) rfl
    (by intro c hc; simp at hc; rcases hc with rfl | rfl <;> norm_num)
    (by simp only [wsum, List.zipWith_cons_cons, List.zipWith_nil_right, List.sum_cons, List.sum_nil]; positivity)
  exact ⟨M, r, h1, h2, h3⟩

/-- the structural reason for overflow-safety, weighted form: every argument of `exp` is `≤ 0`,
so every term is `wᵢ·t` with `t ∈ (0,1]` -/
theorem lsew_args_nonpos (v w : List ℝ) (hv : v ≠ []) (h : v.length = w.length) :
    ∃ M, vmax v = .ok M ∧
      logSumExpW v w = .ok (Real.log (List.zipWith (fun x c => c * Real.exp (x - M)) v w).sum + M) ∧
      (∀ a ∈ shifted M v, a ≤ 0) ∧ (∀ a ∈ shifted M v, 0 < Real.exp a ∧ Real.exp a ≤ 1) := by
  obtain ⟨M, hM, hl⟩ := logSumExpW_unfold v w hv h
  exact ⟨M, hM, hl, shifted_le v M (vmax_spec v M hM).2⟩

/-- weighted `sumExp` is shift-*multiplicative*: `sumExp (v + c, w) = sumExp (v, w)·exp c` -/
theorem sumExpW_shift (v w : List ℝ) (c : ℝ) (hv : v ≠ []) (h : v.length = w.length) :
    ∃ r, sumExpW v w = .ok r ∧ sumExpW (v.map (· + c)) w = .ok (r * Real.exp c) := by
  refine ⟨_, sumExpW_eq v w hv h, ?_⟩
  rw [sumExpW_eq _ _ (by simpa using hv) (by simpa using h)]
  exact congrArg Except.ok (wsum_map_add v w c)

/-- `sumExp (v + c) = sumExp v · exp c`, and `exp M ≤ sumExp v ≤ n·exp M` with `M = max v` -/
theorem sumExp_shift_bounds (v : List ℝ) (c : ℝ) (hv : v ≠ []) :
    ∃ M r, vmax v = .ok M ∧ sumExp v = .ok r ∧ sumExp (v.map (· + c)) = .ok (r * Real.exp c) ∧
      Real.exp M ≤ r ∧ r ≤ v.length * Real.exp M := by
  obtain ⟨M, hM⟩ := vmax_defined v hv
  obtain ⟨hmem, hle⟩ := vmax_spec v M hM
  obtain ⟨hlo, hhi⟩ := sum_exp_bounds v M hmem hle
  refine ⟨M, _, hM, sumExp_eq v hv, ?_, hlo, hhi⟩
  rw [sumExp_eq _ (by simpa using hv), sum_exp_map_add]

/-- `logMeanExp (v + c) = logMeanExp v + c`, and `M - ln n ≤ logMeanExp v ≤ M` with `M = max v` -/
theorem lme_shift_bounds (v : List ℝ) (c : ℝ) (hv : v ≠ []) :
    ∃ M r, vmax v = .ok M ∧ logMeanExp v = .ok r ∧ logMeanExp (v.map (· + c)) = .ok (r + c) ∧
      M - Real.log v.length ≤ r ∧ r ≤ M := by
  obtain ⟨M, l, hM, hl, hlo, hhi⟩ := lse_bounds v hv
  obtain ⟨l', hl', hshift⟩ := lse_shift v c hv
  cases hl.symm.trans hl'
  refine ⟨M, _, hM, logMeanExp_of_lse hl, ?_, sub_le_sub_right hlo _, sub_le_iff_le_add.mpr hhi⟩
  rw [logMeanExp_of_lse hshift, List.length_map, sub_add_eq_add_sub]

/-- the pairwise log-sum is shift-equivariant -/
theorem logsum_shift (a b c : ℝ) : logsum (a + c) (b + c) = logsum a b + c := by
  rw [logsum_eq, logsum_eq, Real.exp_add, Real.exp_add, ← add_mul,
    log_mul_exp (add_pos (Real.exp_pos a) (Real.exp_pos b))]

/-! ### infinite maxima (reading with `±∞`): documented BadNumberException / infinite answers -/

/-- weighted `logSumExp` / `sumExp` of log-zeros only raise BadNumberException (the maximum is
`-∞`) … -/
theorem lsew_all_logzero_raises (n : Nat) (w : List (Ext ℝ)) (hw : w.length = n + 1) :
    logSumExpW (List.replicate (n + 1) (Ext.ninf : Ext ℝ)) w = .error .badnumber ∧
    (n ≠ 0 → sumExpW (List.replicate (n + 1) (Ext.ninf : Ext ℝ)) w = .error .badnumber) :=
  ⟨(logSumExpW_of_max (by simp [hw]) (vmax_all_logzero n)).trans (if_pos rfl),
   fun hn => (sumExpW_of_max (by simp [hw]) (by simpa using hn) (vmax_all_logzero n)).trans (if_pos rfl)⟩

/-- … and so does any vector whose maximum is infinite (a `+∞` entry); the unweighted
`logSumExp` answers that infinite maximum -/
theorem log_inf_max (v w : List (Ext ℝ)) (M : Ext ℝ) (hM : vmax v = .ok M) (hi : Ext.isInf' M = true) :
    (v.length = w.length → logSumExpW v w = .error .badnumber) ∧
    (v.length ≠ 1 → logSumExp v = .ok M) :=
  ⟨fun h => (logSumExpW_of_max h hM).trans (if_pos hi), fun h1 => (logSumExp_of_max h1 hM).trans (if_pos hi)⟩

example : logSumExp [Ext.fin (1 : ℝ), Ext.pinf, Ext.fin 2] = .ok Ext.pinf ∧
    logSumExpW [Ext.fin (1 : ℝ), Ext.pinf] [Ext.fin 1, Ext.fin 1] = .error .badnumber := by
  have hM : vmax [Ext.fin (1 : ℝ), Ext.pinf, Ext.fin 2] = .ok Ext.pinf := by
    simp [vmax, extremum, Ext.lt]
  have hM2 : vmax [Ext.fin (1 : ℝ), Ext.pinf] = .ok Ext.pinf := by
    simp [vmax, extremum, Ext.lt]
  exact ⟨(log_inf_max _ [] _ hM rfl).2 (by simp), (log_inf_max _ _ _ hM2 rfl).1 rfl⟩

/-- weighted `sumExp (v, w) = Σ wᵢ·exp vᵢ` -/
theorem sumExpW_spec (v w : List ℝ) (hv : v ≠ []) (h : v.length = w.length) :
    sumExpW v w = .ok (wsum v w) := sumExpW_eq v w hv h

/-- the weighted reductions report a size mismatch -/
theorem log_mismatch_raises (v w : List ℝ) (h : v.length ≠ w.length) :
    logSumExpW v w = .error .dimension ∧ sumExpW v w = .error .dimension := by
  simp [logSumExpW, sumExpW, h]

/-- `logNorm` subtracts `logSumExp v`: afterwards `Σ exp vᵢ = 1` -/
theorem logNorm_spec (v : List ℝ) (hv : v ≠ []) :
    ∃ r, logNorm v = .ok r ∧ r.length = v.length ∧ (r.map Real.exp).sum = 1 := by
  unfold logNorm
  rw [logSumExp_eq v hv]
  refine ⟨_, rfl, by simp, ?_⟩
  have := sum_exp_map_add v (-(Real.log (v.map Real.exp).sum))
  simp only [← sub_eq_add_neg] at this
  rw [this, Real.exp_neg, Real.exp_log (sum_exp_pos v hv)]
  exact mul_inv_cancel₀ (sum_exp_pos v hv).ne'

/-- no log-space routine reads out of range, for any sizes -/
theorem log_no_ub (v w : List ℝ) :
    NoUb (logSumExp v) ∧ NoUb (logMeanExp v) ∧ NoUb (sumExp v) ∧ NoUb (logNorm v) ∧
    NoUb (logSumExpW v w) ∧ NoUb (sumExpW v w) := by
  rcases v with _ | ⟨x, xs⟩
  · -- the empty vector is reported by `max`, or by the size test
    refine ⟨noUb_err .empty nofun, noUb_err .empty nofun, noUb_err .empty nofun, noUb_err .empty nofun, ?_, ?_⟩ <;>
      cases w <;> exact noUb_err _ nofun
  · have hne : x :: xs ≠ [] := List.cons_ne_nil x xs
    have h1 : NoUb (logSumExp (x :: xs)) := logSumExp_eq _ hne ▸ noUb_ok _
    refine ⟨h1, noUb_map _ _ h1, sumExp_eq _ hne ▸ noUb_ok _, noUb_map _ _ h1, ?_, ?_⟩ <;>
      by_cases h : (x :: xs).length = w.length
    · obtain ⟨M, -, hl⟩ := logSumExpW_unfold _ w hne h
      exact hl ▸ noUb_ok _
    · exact (log_mismatch_raises _ w h).1 ▸ noUb_err _ nofun
    · exact sumExpW_eq _ w hne h ▸ noUb_ok _
    · exact (log_mismatch_raises _ w h).2 ▸ noUb_err _ nofun

/-! ## log-zeros inside a vector (extended reading) -/

/-- over finite values and log-zeros (`-∞`), at least one of them finite, `logSumExp` is the finite
`ln Σ exp` over the finite entries: a log-zero contributes `exp(-∞) = 0` and never produces a NaN -/
theorem lse_log_zeros (v : List (Ext ℝ)) (hv : LogVals v) (hf : finPart v ≠ []) :
    logSumExp v = .ok (Ext.fin (Real.log ((finPart v).map Real.exp).sum)) := by
  have hne : v ≠ [] := by rintro rfl; exact hf rfl
  by_cases h1 : v.length = 1
  · obtain ⟨e, rfl⟩ := List.length_eq_one_iff.mp h1
    rcases hv e List.mem_cons_self with rfl | ⟨x, rfl⟩
    · exact absurd rfl hf
    · exact congrArg (fun t => Except.ok (Ext.fin t)) (by simp [finPart])
  · obtain ⟨m, hm⟩ := vmax_defined (finPart v) hf
    have hpos := sum_exp_pos _ hf
    rw [logSumExp_of_max h1 (vmax_ext v hv m hm), expSum_ext v hv hne m, sum_exp_shift]
    refine (congrArg (fun t => Except.ok (t + Ext.fin m)) (log'_fin_pos _ (mul_pos hpos (Real.exp_pos _)))).trans ?_
    exact congrArg (fun t => Except.ok (Ext.fin t)) (by rw [log_mul_exp hpos, neg_add_cancel_right])

/-- `logSumExp` of log-zeros only is log-zero -/
theorem lse_all_log_zero (n : Nat) :
    logSumExp (List.replicate (n + 1) (Ext.ninf : Ext ℝ)) = .ok Ext.ninf := logSumExp_all_logzero n

example : logSumExp [Ext.ninf, Ext.fin 3, Ext.ninf] = .ok (Ext.fin (Real.log (Real.exp 3))) := by
  have := lse_log_zeros [Ext.ninf, Ext.fin 3, Ext.ninf]
    (by intro e he; simp at he; rcases he with rfl | rfl | rfl <;> simp) (by simp [finPart])
  simpa [finPart] using this

end Bpp.C07
