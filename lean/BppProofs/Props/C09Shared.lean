import BppProofs.Lemmas.DiscretizeShared
/-!
# C09 — a copy of a distribution is independent of its source
(src/Bpp/Numeric/Prob/AbstractDiscreteDistribution.cpp:43-80 copy constructor, `operator=`,
`tieParametersToOwnDomain_`, `shareNestedConstraints_`; TruncatedExponentialDiscreteDistribution.cpp:45-55,
ConstantDistribution.cpp:44-58, SimpleDiscreteDistribution.cpp:274-303 `restrictToConstraint`;
InvariantMixedDiscreteDistribution.h:47-68, MixtureOfDiscreteDistributions.cpp:76-106)

`restrictToConstraint` of the truncated exponential, constant and user-specified distributions
makes the distribution's own domain object the constraint of `tp` / `value` / `V<i>`: the
constraint *is* the live domain.  The model with pointers is `BppModel/DiscretizeShared.lean`:
a world of distribution objects, each leaf with the address of its domain object and the address
its tie-able parameters' constraint points to, compounds with the pointers and values of their
copies of the components' parameters.  All statements are about addresses and therefore hold for
every scalar type (`ℝ`, and the `Float` the driver runs).

* `world_owned` — after every history of constructors, `clone()`, `operator=`, wrapping into an
  invariant-mixed distribution, mixtures (whose constructor clones), parameter updates, class-count
  changes, median toggles, re-discretisations and restrictions, accepted or refused: every tie
  points to the object's *own* domain (a compound's copy: to the domain of the component it
  mirrors), and no two leaves share a domain object.  The driver evaluates it on the
  implementation (`tie_own`: pointer comparison in the harness).
* `copy_independent` — in such a world an operation on one object leaves every other object as it
  was: by-value state (classes, bounds, domain — of the object and of its components), parameters,
  and the constraints the parameters have *now* (`World.view`).  Driver: `copy_independent`.
* `clone_same_view` — a copy shows the view of its source.
* `leaf_setP_refines`, `rejectsC_own`, … — with ties to the own domain the pointer model's
  `setParameterValue` is the by-value one of `DiscretizeFamilies.lean` / `DiscretizeCompound.lean`, so
  a step of the history theorems of `Props/C09.lean` is a step of an object of the world — where the
  by-value flag (`tpTied` / `tied`) agrees with the pointer: a hypothesis of `leaf_setP_refines`, not
  part of `World.WF`.
* `legacy_copy_shares_witness` — the copy as found kept the source's pointer: after an update of
  the source the copy holds a value its constraint rejects (`param_accepted` false) and its view
  changed without having been touched.
-/
namespace Bpp.C09
open Bpp Bpp.Discretize Bpp.Discretize.SharedWitness

variable {α : Type} [Scalar α]

/-- **world_owned**: every world reachable from the empty one is well formed — for every history,
of any length, raising operations included -/
theorem world_owned (orc : Nat → Parent α) (ops : List (WOp α)) (w : World α) (hw : w.WF) :
    (WOp.run orc w ops).WF := by
  induction ops generalizing w with
  | nil => exact hw
  | cons op rest ih => exact ih _ (step_wf orc w hw op)

theorem world_owned_from_empty (orc : Nat → Parent α) (ops : List (WOp α)) :
    (WOp.run orc (World.empty : World α) ops).WF := world_owned orc ops _ wf_empty

/-- what `World.WF` (field `owned`, through `SlotOK`) says of one leaf, spelled out: the constraint of its tie-able parameters is the
constructor's or *is* the leaf's own domain (as an interval, now) -/
theorem tie_is_own_domain (w : World α) (hw : w.WF) (j : Nat) (o : TObj α) (h : w.objs[j]? = some o)
    (s : Slot α) (hs : s ∈ o.slots) :
    w.peek s.tie = none ∨ (s.tie = some s.id ∧ w.peek s.tie = o.derefLocal s.id) := by
  rcases (hw.slots h s hs).1 with ht | ht
  · left; rw [ht]; rfl
  · right
    refine ⟨ht, ?_⟩
    rw [ht]; exact deref_local w hw j o h s.id (List.mem_map_of_mem hs)

/-- **copy_independent**: in a well-formed world an operation leaves every object it does not
target — in particular the copies and the sources of the object it works on — as it was:
classes, bounds, domain, parameters, parameter constraints. -/
theorem copy_independent (orc : Nat → Parent α) (w : World α) (hw : w.WF) (op : WOp α) (j : Nat) (o : TObj α)
    (h : w.objs[j]? = some o) (hj : j ∉ op.targets) :
    (WOp.step orc w op).1.objs[j]? = some o ∧ (WOp.step orc w op).1.view o = w.view o := by
  have hf := (step_shape orc w hw op).frame h hj
  refine ⟨hf, ?_⟩
  rw [view_own _ (step_wf orc w hw op) j o hf, view_own w hw j o h]

/-- over histories: whatever is done to the other objects, object `j` keeps its view -/
theorem copy_independent_history (orc : Nat → Parent α) (ops : List (WOp α)) (w : World α) (hw : w.WF)
    (j : Nat) (o : TObj α) (h : w.objs[j]? = some o) (hj : ∀ op ∈ ops, j ∉ op.targets) :
    (WOp.run orc w ops).objs[j]? = some o ∧ (WOp.run orc w ops).view o = w.view o := by
  induction ops generalizing w with
  | nil => exact ⟨h, rfl⟩
  | cons op rest ih =>
    obtain ⟨h1, h2⟩ := copy_independent orc w hw op j o h (hj op (by simp))
    obtain ⟨h3, h4⟩ := ih _ (step_wf orc w hw op) h1 (fun x hx => hj x (by simp [hx]))
    exact ⟨h3, h4.trans h2⟩

/-- `copy_independent` at every moment of every history from the empty world -/
theorem copy_independent_reachable (orc : Nat → Parent α) (pre : List (WOp α)) (op : WOp α) (j : Nat) (o : TObj α)
    (h : (WOp.run orc (World.empty : World α) pre).objs[j]? = some o) (hj : j ∉ op.targets) :
    (WOp.step orc (WOp.run orc World.empty pre) op).1.objs[j]? = some o ∧
    (WOp.step orc (WOp.run orc World.empty pre) op).1.view o = (WOp.run orc World.empty pre).view o :=
  copy_independent orc _ (world_owned_from_empty orc pre) op j o h hj

/-- **clone_same_view**: the object made by `clone()` (and what `operator=` installs) shows the
view of its source: same classes, bounds, domain, parameters and — every tie to the source's own
domain having become a tie to the copy's own, equal, domain — the same parameter constraints -/
theorem clone_same_view (orc : Nat → Parent α) (w : World α) (hw : w.WF) (i : Nat) (o : TObj α)
    (h : w.objs[i]? = some o) :
    ∃ o', (WOp.step orc w (.clone i)).1.objs[w.objs.length]? = some o' ∧
      (WOp.step orc w (.clone i)).1.view o' = w.view o := by
  have hget : (WOp.step orc w (.clone i)).1.objs[w.objs.length]? = some ⟨o.st, cloneSlots w.next o.slots⟩ := by
    simp [WOp.step, h]
  exact ⟨_, hget, by
    rw [view_own _ (step_wf orc w hw (.clone i)) _ _ hget, view_own w hw i o h]; exact ownView_clone w.next o⟩

/-! ## the pointer model refines to the by-value model when ties are own -/

/-- with the constraint of the tie-able
parameters being the leaf's own domain, `setParameterValue` and `matchParametersValues` are the
by-value operations the history theorems of `Props/C09.lean` are about -/
theorem leaf_setPC_own (l : Leaf α) (orc : Nat → Parent α) (name : String) (v : α) :
    l.setPC (ownTc (tiedFlag l) l.top) orc name v = l.setP orc name v := by
  cases l with
  | fam slot f => simp only [Leaf.setPC, Leaf.setP, tiedFlag, Leaf.top, setParameterValueC_own]; rfl
  | const c => simp only [Leaf.setPC, Leaf.setP, tiedFlag, Leaf.top, const_setPC_own]
  | simple s => simp only [Leaf.setPC, Leaf.setP, tiedFlag, Leaf.top, simple_setPC_own]

theorem leaf_matchPC_own (l : Leaf α) (orc : Nat → Parent α) (name : String) (v : α) :
    l.matchPC (ownTc (tiedFlag l) l.top) orc name v = l.matchP orc name v := by
  cases l with
  | fam slot f => simp only [Leaf.matchPC, Leaf.matchP, tiedFlag, Leaf.top, rejectsC_own]; rfl
  | const c => simp only [Leaf.matchPC, Leaf.matchP, tiedFlag, Leaf.top, const_matchPC_own]
  | simple s => simp only [Leaf.matchPC, Leaf.matchP, tiedFlag, Leaf.top, simple_matchPC_own]

/-- on a leaf object of a well-formed world whose by-value flag agrees with its pointer,
`setParameterValue` of the world is the by-value `setParameterValue` -/
theorem leaf_setP_refines (orc : Nat → Parent α) (w : World α) (hw : w.WF) (j : Nat) (l : Leaf α) (s : Slot α)
    (h : w.objs[j]? = some ⟨.leaf l, [s]⟩) (hflag : s.tie.isSome = tiedFlag l) (name : String) (v : α) :
    (TObj.setP w ⟨.leaf l, [s]⟩ orc name v) = (⟨.leaf (l.setP orc name v).1, [s]⟩, (l.setP orc name v).2) := by
  have hok := hw.slots h s (by simp)
  have htc : w.tc s.tie = .ok (ownTc (tiedFlag l) l.top) := by
    rcases hok.1 with ht | ht
    · rw [ht] at hflag ⊢
      simp only [Option.isSome_none] at hflag
      simp [World.tc, ownTc, ← hflag]
    · have hd := deref_local w hw j _ h s.id (by simp [TObj.ids])
      rw [ht] at hflag ⊢
      simp only [Option.isSome_some] at hflag
      simp [World.tc, hd, TObj.derefLocal, CState.leaves, ownTc, ← hflag]
  simp only [TObj.setP, CState.resolve, TObj.setDirect, htc, leaf_setPC_own]

/-- **legacy_copy_shares_witness**: with the copy constructor as found (`Legacy.cloneStep`: the
copied parameter keeps the pointer to the source's domain object) the copy's `value` ends at 8
under the constraint `[2,4]` — a parameter holding a value its constraint rejects, changed by an
operation on another object.  With the repaired copy constructor the same history leaves the
copy at 8 under its own `[0,10]`. -/
theorem legacy_copy_shares_witness :
    copyStatus (afterCopy (Legacy.cloneStep wSrc 0)) = some (some (.fin 2, .fin 4), false) ∧
    copyStatus (afterCopy (WOp.step noParent wSrc (.clone 0)).1) = some (some (.fin 0, .fin 10), true) := by
  constructor <;> decide +kernel

/-- a well-formed world with a tied leaf, its copy, a compound over a tied leaf and a copy of the
compound: the hypotheses of `copy_independent` are met with ties that are not trivial -/
example :
    let w := WOp.run noParent World.empty
      [.add (.const (ConstSt.make 3)), .restrict 0 (Interval.make (.fin 0) (.fin 10) true true 0), .clone 0,
       .wrapInvar 0 (1/4) 0, .clone 0]
    w.WF ∧ (w.objs.map (fun o => o.slots.map (fun s => (s.id, s.tie, s.ctie)))) =
      [[(0, some 0, some 0)], [(1, some 1, none)], [(2, some 2, some 2)]] := by
  refine ⟨world_owned_from_empty noParent _, ?_⟩
  decide +kernel

end Bpp.C09
