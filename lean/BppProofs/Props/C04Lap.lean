import BppProofs.Lemmas.LapEasy
import BppProofs.Lemmas.LapFullMain
import BppProofs.Lemmas.LapPriceWar
/-!
# C04 — the linear-assignment solver (`MatrixTools::lap`, `MatrixTools.h:1267-1569`)

The whole Jonker–Volgenant routine is transcribed (`BppModel/LapFull.lean`: `Lap.lapFull`, compared
bit-for-bit with the implementation on every generated cost matrix).  An answer
`(rowSol, colSol, u, v, cost)` is what the property demands iff `rowSol` is a permutation with inverse
`colSol` (`permB`), the dual variables certify it (`certB`) and `cost` is the cost of the assignment
(`Lap.Certified`); the driver evaluates exactly these predicates, in `Rat`, on the implementation's
answer.  Below: a certified answer is optimal among **all** `n!` permutations (`lap_certificate`, any
`n`), and the routine returns a certified answer for every real cost matrix with `n < 2^15`, never
leaves its vectors, and needs at most `n² + n` passes through any of its open loops
(`lap_total`, `lap_full_*`).
-/
namespace Bpp.C04
open Bpp Bpp.Mx Bpp.Mx.Lap

/-- **Certified answers are optimal within `2·n·ε`.**  If `σ` is a permutation of `{0..n-1}`,
`u i + v j ≤ c i j + ε` everywhere and `c i (σ i) ≤ u i + v (σ i) + ε` on the assignment, then no
permutation `τ` is cheaper than `σ` by more than `2 n ε`. -/
theorem lap_certificate_approx (n : Nat) (c : Nat → Nat → ℝ) (σ ρ : Nat → Nat) (u v : Nat → ℝ) (eps : ℝ)
    (hperm : permB n σ ρ = true) (hcert : certTolB n c σ u v eps = true) (τ : Equiv.Perm (Fin n)) :
    cost n c σ ≤ (∑ i : Fin n, c i.val (τ i).val) + 2 * n * eps := by
  obtain ⟨π, hπ⟩ := perm_of_permB hperm
  obtain ⟨hfeas, htight⟩ := certTolB_iff.1 hcert
  have e2 : ∑ i : Fin n, c i.val (π i).val ≤ ∑ i : Fin n, (u i.val + v (π i).val + eps) :=
    Finset.sum_le_sum (fun i _ => by
      have := htight i.val i.isLt
      rw [← hπ i] at this
      exact this)
  have e3 : ∑ i : Fin n, v (π i).val = ∑ i : Fin n, v i.val := Equiv.sum_comp π (fun i : Fin n => v i.val)
  have e4 : ∑ i : Fin n, v (τ i).val = ∑ i : Fin n, v i.val := Equiv.sum_comp τ (fun i : Fin n => v i.val)
  have e5 : ∑ i : Fin n, (u i.val + v (τ i).val) ≤ ∑ i : Fin n, (c i.val (τ i).val + eps) :=
    Finset.sum_le_sum (fun i _ => hfeas i.val i.isLt (τ i).val (τ i).isLt)
  have hcard : ∑ _i : Fin n, eps = n * eps := by simp
  rw [cost_eq_sum c hπ]
  simp only [Finset.sum_add_distrib] at e2 e5
  rw [hcard] at e2 e5
  rw [e3] at e2
  rw [e4] at e5
  linarith only [e2, e5]

/-- **Certified answers are optimal.**  With an exact certificate (`u i + v j ≤ c i j` for all
`i, j`, equality on the assigned pairs) the assignment has minimal total cost among all
permutations, for every `n`. -/
theorem lap_certificate (n : Nat) (c : Nat → Nat → ℝ) (σ ρ : Nat → Nat) (u v : Nat → ℝ)
    (hperm : permB n σ ρ = true) (hcert : certB n c σ u v = true) (τ : Equiv.Perm (Fin n)) :
    cost n c σ ≤ ∑ i : Fin n, c i.val (τ i).val := by
  have := lap_certificate_approx n c σ ρ u v 0 hperm (certB_eq_certTolB_zero n c σ u v ▸ hcert) τ
  rwa [mul_zero, add_zero] at this

/-- on the assignment the certificate is tight: `u i + v (σ i) = c i (σ i)` -/
theorem lap_certificate_tight (n : Nat) (c : Nat → Nat → ℝ) (σ ρ : Nat → Nat) (u v : Nat → ℝ)
    (hperm : permB n σ ρ = true) (hcert : certB n c σ u v = true) (i : Nat) (hi : i < n) :
    u i + v (σ i) = c i (σ i) :=
  le_antisymm ((certB_iff.1 hcert).1 i hi (σ i) (permB_iff.1 hperm i hi).1) ((certB_iff.1 hcert).2 i hi)

/-- the total cost of a certified answer is the sum of the dual variables (what makes the
returned cost checkable in `O(n)`) -/
theorem lap_cost_eq_duals (n : Nat) (c : Nat → Nat → ℝ) (σ ρ : Nat → Nat) (u v : Nat → ℝ)
    (hperm : permB n σ ρ = true) (hcert : certB n c σ u v = true) :
    cost n c σ = (∑ i : Fin n, u i.val) + ∑ j : Fin n, v j.val := by
  obtain ⟨π, hπ⟩ := perm_of_permB hperm
  have : ∀ i : Fin n, c i.val (π i).val = u i.val + v (π i).val := fun i => by
    rw [hπ i]; exact (lap_certificate_tight n c σ ρ u v hperm hcert i.val i.isLt).symm
  rw [cost_eq_sum c hπ, Finset.sum_congr rfl (fun i _ => this i), Finset.sum_add_distrib,
    Equiv.sum_comp π (fun i : Fin n => v i.val)]

/-- two certified answers for the same cost matrix have the same total cost: the optimum is unique
even when the optimal assignment is not (ties) — so any tie-breaking inside the solver is admissible -/
theorem lap_certified_cost_unique (n : Nat) (c : Nat → Nat → ℝ) (σ ρ σ' ρ' : Nat → Nat) (u v u' v' : Nat → ℝ)
    (hp : permB n σ ρ = true) (hc : certB n c σ u v = true) (hp' : permB n σ' ρ' = true) (hc' : certB n c σ' u' v' = true) :
    cost n c σ = cost n c σ' := by
  obtain ⟨π, hπ⟩ := perm_of_permB hp
  obtain ⟨π', hπ'⟩ := perm_of_permB hp'
  apply le_antisymm
  · rw [cost_eq_sum c hπ']; exact lap_certificate n c σ ρ u v hp hc π'
  · rw [cost_eq_sum c hπ]; exact lap_certificate n c σ' ρ' u' v' hp' hc' π

/-! ## the routine itself -/

/-- **total correctness** (`lap_total`).  For every `n < 2^15` (the counters `matches` are `short`)
and every real `n × n` cost matrix, whatever the output vectors hold on entry, the routine — every open
loop (`while (k < previousNumFree)`, `do … while (!unassignedFound)`, `do … while (i != freeRow)`)
allowed `n² + n + 1` passes — returns; `rowSol` and `colSol` are non-negative, `rowSol` is a
permutation of `0..n-1` with inverse `colSol`, `u i + v j ≤ c i j` everywhere with equality on the
assignment, and the returned cost is the cost of the assignment. -/
theorem lap_total (n : Nat) (hn : n < 32768) (c : Nat → Nat → ℝ) (rowSol0 colSol0 : Nat → Int) (u0 v0 : Nat → ℝ) :
    ∃ a, lapFull (n * n + n + 1) n c rowSol0 colSol0 u0 v0 = .ok a ∧
      (∀ i, i < n → 0 ≤ a.rowSol i ∧ 0 ≤ a.colSol i) ∧
      permB n (fun i => (a.rowSol i).toNat) (fun j => (a.colSol j).toNat) = true ∧
      certB n c (fun i => (a.rowSol i).toNat) a.u a.v = true ∧
      a.cost = cost n c (fun i => (a.rowSol i).toNat) :=
  (lapFullG_good hn c (arrCut n) True (n * n + n + 1) (fun _ => ⟨rfl, Nat.le_refl _⟩) rowSol0 colSol0 u0 v0).total trivial

/-- **partial correctness**: whenever the routine returns (any fuel), its answer is certified -/
theorem lap_full_certified (n : Nat) (hn : n < 32768) (c : Nat → Nat → ℝ) (fuel : Nat) (rowSol0 colSol0 : Nat → Int)
    (u0 v0 : Nat → ℝ) (a : Full ℝ) (h : lapFull fuel n c rowSol0 colSol0 u0 v0 = .ok a) : Certified n c a :=
  (lapFullG_good hn c (arrCut n) False fuel (fun hb => hb.elim) rowSol0 colSol0 u0 v0).of_ok h

/-- … hence an assignment of minimal total cost among all `n!` permutations -/
theorem lap_full_optimal (n : Nat) (hn : n < 32768) (c : Nat → Nat → ℝ) (fuel : Nat) (rowSol0 colSol0 : Nat → Int)
    (u0 v0 : Nat → ℝ) (a : Full ℝ) (h : lapFull fuel n c rowSol0 colSol0 u0 v0 = .ok a) (τ : Equiv.Perm (Fin n)) :
    a.cost ≤ ∑ i : Fin n, c i.val (τ i).val := by
  obtain ⟨_, hp, hc, hcost⟩ := lap_full_certified n hn c fuel rowSol0 colSol0 u0 v0 a h
  rw [hcost]
  exact lap_certificate n c _ _ a.u a.v hp hc τ

/-- **no undefined behaviour inside the phases**, the four output vectors having length `dim` (which
the routine establishes on entry: `lap_call_no_ub` is the statement for arbitrary caller vectors): no
vector or matrix access is out of range, no variable is read before it is assigned, and the sentinel
`+inf` never enters the arithmetic — for any fuel the only outcome other than a normal return is fuel
exhaustion -/
theorem lap_full_no_ub (n : Nat) (hn : n < 32768) (c : Nat → Nat → ℝ) (fuel : Nat) (rowSol0 colSol0 : Nat → Int)
    (u0 v0 : Nat → ℝ) :
    lapFull fuel n c rowSol0 colSol0 u0 v0 ≠ .error .ub ∧ lapFull fuel n c rowSol0 colSol0 u0 v0 ≠ .error .inf :=
  (lapFullG_good hn c (arrCut n) False fuel (fun hb => hb.elim) rowSol0 colSol0 u0 v0).ne_ub

/-- **termination**: `n² + n + 1` passes through each open loop suffice (the augmenting row reduction
scans at most `prev · n + prev` rows per sweep since the repair of `findings/C04.json`; each search
scans at most `n` columns; each path has at most `n` columns) -/
theorem lap_full_fuel_suffices (n : Nat) (hn : n < 32768) (c : Nat → Nat → ℝ) (fuel : Nat) (hf : n * n + n + 1 ≤ fuel)
    (rowSol0 colSol0 : Nat → Int) (u0 v0 : Nat → ℝ) :
    lapFull fuel n c rowSol0 colSol0 u0 v0 ≠ .error .fuel := by
  obtain ⟨a, ha, _⟩ := (lapFullG_good hn c (arrCut n) True fuel (fun _ => ⟨rfl, hf⟩) rowSol0 colSol0 u0 v0).total trivial
  have ha' : lapFull fuel n c rowSol0 colSol0 u0 v0 = .ok a := ha
  rw [ha']; intro h; cases h

/-! ### the routine as called: cost matrix of any storage class, output vectors of any length

`Lap.lap` = the test for a square matrix, the four `resize(dim)` of the output vectors (repair recorded
in `findings/C04.json`: before it the routine indexed the caller's vectors up to `dim - 1` whatever
their length) and `Lap.lapFull` on the entries of the matrix. -/

/-- a non-square cost matrix raises `bpp::Exception`, whatever the vectors (so does a NaN or infinite
cost: a test that is vacuous at `ℝ`, tied on the `Float` instantiation) -/
theorem lap_nonsquare_raises (fuel : Nat) (A : Store ℝ) (rowSol colSol : Array Int) (u v : Array ℝ)
    (h : A.ncols ≠ A.nrows) : Lap.lap fuel A rowSol colSol u v = .error .bpp := by
  unfold Lap.lap; rw [if_pos h]

/-- **no undefined behaviour for arbitrary caller vectors**: whatever lengths (0, shorter or longer
than `dim`) and contents `rowSol`, `colSol`, `u`, `v` have on entry and whatever the storage class of
the cost matrix, no access is out of range -/
theorem lap_call_no_ub (fuel : Nat) (A : Store ℝ) (hn : A.nrows < 32768) (rowSol colSol : Array Int) (u v : Array ℝ) :
    Lap.lap fuel A rowSol colSol u v ≠ .error .ub ∧ Lap.lap fuel A rowSol colSol u v ≠ .error .inf := by
  by_cases hsq : A.ncols = A.nrows
  · exact (lap_good hsq hn False fuel (fun hb => hb.elim) rowSol colSol u v).ne_ub
  · rw [lap_nonsquare_raises fuel A rowSol colSol u v hsq]; exact ⟨nofun, nofun⟩

/-- **total correctness of the call**: for a square cost matrix of any storage class with
`dim < 2^15` and output vectors of any lengths the routine returns four vectors of length `dim` holding
a certified answer (`Lap.Certified`: permutation, inverse, certifying duals, cost) -/
theorem lap_call_total (A : Store ℝ) (hsq : A.ncols = A.nrows) (hn : A.nrows < 32768) (rowSol colSol : Array Int) (u v : Array ℝ) :
    ∃ a, Certified A.nrows (fun i j => A.entry i j) a ∧
      Lap.lap (A.nrows * A.nrows + A.nrows + 1) A rowSol colSol u v = .ok (LapOut.ofFull A.nrows a) ∧
      (LapOut.ofFull A.nrows a).rowSol.size = A.nrows ∧ (LapOut.ofFull A.nrows a).colSol.size = A.nrows ∧
      (LapOut.ofFull A.nrows a).u.size = A.nrows ∧ (LapOut.ofFull A.nrows a).v.size = A.nrows := by
  obtain ⟨_, ho, a, hc, rfl⟩ := (lap_good hsq hn True _ (fun _ => Nat.le_refl _) rowSol colSol u v).total trivial
  exact ⟨a, hc, ho, by simp [LapOut.ofFull], by simp [LapOut.ofFull], by simp [LapOut.ofFull], by simp [LapOut.ofFull]⟩

/-- non-vacuity: a `3 × 3` flat-stored cost matrix with four empty vectors (evaluated in `Rat`): the call
returns vectors of length 3 -/
example : (match Lap.lap (α := Rat) 13 (Store.ofFn .lin 3 3 fun i j => ((i * 7 + j * 3) % 5 : Nat)) #[] #[] #[] #[] with
    | .ok o => o.rowSol.size == 3 && o.colSol.size == 3 && o.u.size == 3 && o.v.size == 3
    | .error _ => false) = true := by decide +kernel

/-- the text before the repair (`if (uMin < uSubMin)` without the bound on the chain of
re-assignments) is partially correct and free of undefined behaviour as well … -/
theorem lap_orig_certified (n : Nat) (hn : n < 32768) (c : Nat → Nat → ℝ) (fuel : Nat) (rowSol0 colSol0 : Nat → Int)
    (u0 v0 : Nat → ℝ) :
    (∀ a, lapFullOrig fuel n c rowSol0 colSol0 u0 v0 = .ok a → Certified n c a) ∧
    lapFullOrig fuel n c rowSol0 colSol0 u0 v0 ≠ .error .ub ∧ lapFullOrig fuel n c rowSol0 colSol0 u0 v0 ≠ .error .inf :=
  have h := lapFullG_good hn c arrCutOrig False fuel (fun hb => hb.elim) rowSol0 colSol0 u0 v0
  ⟨fun _ ha => h.of_ok ha, h.ne_ub⟩

/-- the `4 × 4` cost matrix of the witness: the integers `0..2` with three entries raised by `q`, `2q`, `3q` -/
def priceWar (q : Rat) : Nat → Nat → Rat := fun i j =>
  match i, j with
  | 0, 0 => 1 + q | 0, _ => 2
  | 1, 0 => 2 | 1, 1 => 1 | 1, 2 => 0 | 1, _ => 2
  | 2, 0 => 1 | 2, 1 => 2 + 2 * q | 2, _ => 2
  | 3, 0 => 1 + 3 * q | _, _ => 2

/-- … but the number of passes through `while (k < previousNumFree)` it needs is not bounded in `n`
(witness, exact arithmetic): on the `4 × 4` matrix `priceWar q` two rows take column 0 from each
other, lowering its price by a few `q` each time; for `q = 2⁻¹⁰` 100 passes do not suffice, for
`q = 2⁻²⁰` 2000 do not — the repaired text needs at most 20 (`lap_full_fuel_suffices`) and returns
(`Lap.returns`: the outcome is `.ok _`) within 21 on both.  With `q = 2⁻⁵²` (doubles `1 + ulp`) the implementation did not return
(`corpus/C04/lap_price_war.txt`). -/
theorem lap_orig_unbounded_chain :
    lapFullOrig 100 4 (priceWar (1 / 1024)) (fun _ => -7) (fun _ => -7) (fun _ => 99) (fun _ => 99) = .error .fuel ∧
    lapFullOrig 2000 4 (priceWar (1 / 1048576)) (fun _ => -7) (fun _ => -7) (fun _ => 99) (fun _ => 99) = .error .fuel ∧
    returns (lapFull 21 4 (priceWar (1 / 1024)) (fun _ => -7) (fun _ => -7) (fun _ => 99) (fun _ => 99)) = true ∧
    returns (lapFull 21 4 (priceWar (1 / 1048576)) (fun _ => -7) (fun _ => -7) (fun _ => 99) (fun _ => 99)) = true := by
  have hr : ∀ q, WarRows q (priceWar q) := fun q => ⟨⟨rfl, rfl, rfl, rfl⟩, ⟨(add_zero _).symm, rfl, rfl, rfl⟩, ⟨rfl, rfl, rfl, rfl⟩⟩
  refine ⟨?_, ?_, ?_, ?_⟩
  · exact lapFullOrig_war (by norm_num) (hr _) 100 (by norm_num) _ _ _ _ (by decide +kernel)
  · exact lapFullOrig_war (by norm_num) (hr _) 2000 (by norm_num) _ _ _ _ (by decide +kernel)
  · decide +kernel
  · decide +kernel

/-- non-vacuity of `lap_full_certified`: on the `3 × 3` matrix `[[1,1,1],[1,1,1],[2,0,3]]` (two free
rows after the column reduction; evaluated in `Rat`) the routine returns `rowSol = (2, 0, 1)` -/
example : (match lapFull (α := Rat) 13 3 (fun i j => if i = 2 then (if j = 0 then 2 else if j = 1 then 0 else 3) else 1)
      (fun _ => -7) (fun _ => -7) (fun _ => 99) (fun _ => 99) with
    | .ok a => decide (a.rowSol 0 = 2 ∧ a.rowSol 1 = 0 ∧ a.rowSol 2 = 1 ∧ a.cost = 2)
    | .error _ => false) = true := by decide +kernel

/-! ### the part of the routine that needs no augmentation -/

/-- on inputs without free rows after the column reduction the routine returns a permutation with
its inverse, dual variables certifying it, and the cost of that assignment -/
theorem lap_partial (n : Nat) (c : Nat → Nat → ℝ) (a : Easy ℝ) (h : lapEasy n c = some a) :
    permB n a.rowSol a.colSol = true ∧ certB n c a.rowSol a.u a.v = true ∧ a.cost = cost n c a.rowSol :=
  lapEasy_certified n c a h

/-- … hence an assignment of minimal total cost among all `n!` permutations -/
theorem lap_partial_optimal (n : Nat) (c : Nat → Nat → ℝ) (a : Easy ℝ) (h : lapEasy n c = some a)
    (τ : Equiv.Perm (Fin n)) : a.cost ≤ ∑ i : Fin n, c i.val (τ i).val := by
  obtain ⟨hp, hc, hcost⟩ := lap_partial n c a h
  rw [hcost]
  exact lap_certificate n c a.rowSol a.colSol a.u a.v hp hc τ

/-- the column reduction keeps, for every column, a row holding the column's minimum (the first step
of the routine, on every input) -/
theorem lap_column_reduction (n : Nat) (c : Nat → Nat → ℝ) (j : Nat) (hn : 0 < n) :
    colMinRow n c j < n ∧ ∀ i, i < n → c (colMinRow n c j) j ≤ c i j := colMinRow_spec n c j hn

/-- non-vacuity of `lap_partial`: the `2 × 2` matrix `[[1,2],[3,1]]` has no free row (evaluated in `Rat`),
the constant matrix `[[1,1],[1,1]]` has one -/
example : (lapEasy 2 (fun i j => if i = j then (1 : Rat) else if i = 0 then 2 else 3)).isSome = true ∧
    (lapEasy 2 (fun _ _ => (1 : Rat))).isSome = false := by decide

/-- non-vacuity: the identity assignment of the `2 × 2` cost matrix `[[1,2],[3,1]]` with `u = (1,1)`,
`v = (0,0)` is a permutation and is certified -/
example : permB 2 (fun i => i) (fun j => j) = true ∧
    certB 2 (fun i j => if i = j then (1 : ℝ) else if i = 0 then 2 else 3) (fun i => i) (fun _ => 1) (fun _ => 0) = true := by
  constructor
  · simp [permB, allLt]
  · rw [certB_iff]
    constructor
    · intro i hi j hj
      split
      · norm_num
      · split <;> norm_num
    · intro i hi
      simp

end Bpp.C04
