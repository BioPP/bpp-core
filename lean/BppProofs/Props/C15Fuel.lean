import BppProofs.Props.C15Queries
import BppProofs.Props.C15RootAt
import BppProofs.Lemmas.TreeFuel
/-!
# C15 — the fuel of the model's recursions suffices

The recursive traversals of the C++ (`nodesAreMetOnlyOnce_`, `fillSubtreeMetNodes_`,
`fillSubtreeMetEdges_`, `fillListOfLeaves_`, the climbs of the path / MRCA queries,
`propagateDirection_`, `fillRelationsFrom_`) take fuel in the model (node count + 2).  Proved here:

* more fuel never changes an answer other than `fuel` (`*_fuel_mono`), for every graph;
* `isTree_fuel_suffices` — the validity traversal never runs out of fuel, on **any** graph (valid or
  not): the fuelled `isTree` is the unbounded recursion;
* on every valid rooted tree the subtree / leaves / climb recursions never run out of fuel
  (`subtree_fuel_suffices`, `subtree_edges_fuel_suffices`, `leaves_fuel_suffices`, `climb_fuel_suffices`);
  `mrca_spec`, `path_spec`, `rootAt_spec` (Props/C15Queries, C15RootAt) show the same for the composite queries
  and for `propagateDirection_` / `fillRelationsFrom_` inside `rootAt` (rooted and unrooted trees).

On directed graphs with a cycle — never valid trees — some traversals of the library genuinely do not
return; they are recorded (findings/C15.json, C15-nontermination-invalid) with the witnesses below,
where the model answers `fuel` whatever the amount: `leavesUnder_diverges_witness` (a directed 2-cycle),
`climb_diverges_witness` (the climb of the path / MRCA queries on a father cycle).
`leavesUnder_unrooted_diverges_witness` (the valid unrooted tree 0-1, 0-2, 1-3) is about the *recursion*
`fillListOfLeaves_`: as repaired, the query `getLeavesUnderNode` checks `mustBeRooted_()` first and never
enters it on an unrooted tree (`Props/C15Unrooted.lean`, `leavesUnder_refuses_unrooted`).
-/
namespace Bpp.C15
open Bpp Bpp.Graph

/-- more fuel never changes an answer of the validity traversal -/
theorem isTree_fuel_mono (g : G) (node origin : Nat) (met : List Nat) {f1 f2 : Nat} (hle : f1 ≤ f2)
    (hr : T.metOnce g f1 node origin met ≠ .fuel) : T.metOnce g f2 node origin met = T.metOnce g f1 node origin met :=
  T.metOnce_mono_le g node origin met hle hr

/-- **fuel suffices for `isTree`, on every graph**: with node count + 2 the traversal never answers
`fuel`, and any larger amount gives the same answer -/
theorem isTree_fuel_suffices (g : G) :
    T.metOnce g (g.nodes.length + 2) g.root g.root [] ≠ .fuel ∧
    ∀ f, g.nodes.length + 2 ≤ f → T.metOnce g f g.root g.root [] = T.metOnce g (g.nodes.length + 2) g.root g.root [] :=
  ⟨(T.metOnce_ne_fuel g (g.nodes.length + 2) g.root g.root [] ⟨List.nodup_nil, by simp⟩ (by simp)).1,
   fun f hf => T.isTree_fuel_suffices g f hf⟩

theorem subtree_fuel_mono (g : G) (n : Nat) (met : List Nat) {f1 f2 : Nat} (hle : f1 ≤ f2)
    (hr : T.subtreeNodes g f1 n met ≠ .fuel) : T.subtreeNodes g f2 n met = T.subtreeNodes g f1 n met :=
  T.mono_le (fun k => T.subtreeNodes g k n met) (fun k => T.subtreeNodes_le g k n met) hle hr

theorem subtree_edges_fuel_mono (g : G) (n : Nat) (met : List Nat) {f1 f2 : Nat} (hle : f1 ≤ f2)
    (hr : T.subtreeEdges g f1 n met ≠ .fuel) : T.subtreeEdges g f2 n met = T.subtreeEdges g f1 n met :=
  T.mono_le (fun k => T.subtreeEdges g k n met) (fun k => T.subtreeEdges_le g k n met) hle hr

theorem leaves_fuel_mono (g : G) (n : Nat) (found : List Nat) {f1 f2 : Nat} (hle : f1 ≤ f2)
    (hr : T.leavesUnder g f1 n found ≠ .fuel) : T.leavesUnder g f2 n found = T.leavesUnder g f1 n found :=
  T.mono_le (fun k => T.leavesUnder g k n found) (fun k => T.leavesUnder_le g k n found) hle hr

theorem climb_fuel_mono (g : G) (n : Nat) (acc : List Nat) {f1 f2 : Nat} (hle : f1 ≤ f2)
    (hr : T.climb g f1 n acc ≠ .fuel) : T.climb g f2 n acc = T.climb g f1 n acc :=
  T.mono_le (fun k => T.climb g k n acc) (fun k => T.climb_le g k n acc) hle hr

theorem joinRank_fuel_mono (g : G) (line : List Nat) (n : Nat) {f1 f2 : Nat} (hle : f1 ≤ f2)
    (hr : T.joinRank g line f1 n ≠ .fuel) : T.joinRank g line f2 n = T.joinRank g line f1 n :=
  T.mono_le (fun k => T.joinRank g line k n) (fun k => T.joinRank_le g line k n) hle hr

theorem relationsFrom_fuel_mono (g : G) (n origin : Nat) (rel : List (Nat × Nat)) {f1 f2 : Nat} (hle : f1 ≤ f2)
    (hr : T.relationsFrom g f1 n origin rel ≠ .fuel) : T.relationsFrom g f2 n origin rel = T.relationsFrom g f1 n origin rel :=
  T.mono_le (fun k => T.relationsFrom g k n origin rel) (fun k => T.relationsFrom_le g k n origin rel) hle hr

theorem propagate_fuel_mono (t : T) (n : Nat) {f1 f2 : Nat} (hle : f1 ≤ f2)
    (hr : T.propagate f1 t n ≠ .fuel) : T.propagate f2 t n = T.propagate f1 t n :=
  T.mono_le (fun k => T.propagate k t n) (fun k => T.propagate_le k t n) hle hr

/-- on a valid rooted tree the subtree recursion never runs out of fuel, and the fuel does not matter beyond node count + 2 -/
theorem subtree_fuel_suffices (g : G) (hv : ValidRooted g) (n : Nat) (hn : g.hasNode n = true) (f : Nat) (hf : g.nodes.length + 2 ≤ f) :
    (∃ l, T.subtreeNodes g f n [] = .ok l) ∧ T.subtreeNodes g f n [] = T.subtreeNodes g (g.nodes.length + 2) n [] := by
  obtain ⟨P, hd, _⟩ := hv.dtree
  obtain ⟨l, hl, _⟩ := hd.subtreeNodes (g.nodes.length + 2) n [] ((hd.nodes n).2 hn) (by omega)
  exact T.ok_of_le (fun k => T.subtreeNodes g k n []) (fun k => T.subtreeNodes_le g k n []) hl hf

theorem subtree_edges_fuel_suffices (g : G) (hv : ValidRooted g) (n : Nat) (hn : g.hasNode n = true) (f : Nat) (hf : g.nodes.length + 2 ≤ f) :
    (∃ l, T.subtreeEdges g f n [] = .ok l) ∧ T.subtreeEdges g f n [] = T.subtreeEdges g (g.nodes.length + 2) n [] := by
  obtain ⟨P, hd, _⟩ := hv.dtree
  obtain ⟨l, hl, _⟩ := hd.subtreeEdges (g.nodes.length + 2) n [] ((hd.nodes n).2 hn) (by omega)
  exact T.ok_of_le (fun k => T.subtreeEdges g k n []) (fun k => T.subtreeEdges_le g k n []) hl hf

theorem leaves_fuel_suffices (g : G) (hv : ValidRooted g) (n : Nat) (hn : g.hasNode n = true) (f : Nat) (hf : g.nodes.length + 2 ≤ f) :
    (∃ l, T.leavesUnder g f n [] = .ok l) ∧ T.leavesUnder g f n [] = T.leavesUnder g (g.nodes.length + 2) n [] := by
  obtain ⟨P, hd, _⟩ := hv.dtree
  obtain ⟨l, hl, _⟩ := hd.leavesUnder (g.nodes.length + 2) n [] ((hd.nodes n).2 hn) (by omega)
  exact T.ok_of_le (fun k => T.leavesUnder g k n []) (fun k => T.leavesUnder_le g k n []) hl hf

/-- the climb of the path and MRCA queries: the ancestor line of the reference, whatever the fuel beyond node count + 2 -/
theorem climb_fuel_suffices (g : G) (hv : ValidRooted g) (n : Nat) (hn : g.hasNode n = true) (f : Nat) (hf : g.nodes.length + 2 ≤ f) :
    T.climb g f n [] = .ok ((refRaw g).anc n) := by
  obtain ⟨P, hd, _⟩ := hv.dtree
  have hnP := (hd.nodes n).2 hn
  rw [hd.ref_anc hnP]
  have := hd.climb f n [] hnP (by have := hd.rank_lt hnP; omega)
  simpa using this

/-! ### where the library's traversals genuinely do not return (recorded findings): the model answers `fuel` for every amount -/

/-- the directed 2-cycle 0 -> 1 -> 0 -/
def cycle2 : G := ((T.empty true).run [.createNode, .createNode, .link 0 1, .link 1 0]).g

theorem leavesUnder_diverges_witness : ∀ fuel n found, n < 2 → T.leavesUnder cycle2 fuel n found = .fuel :=
  T.leavesUnder_diverges cycle2 (· < 2) (fun n hn => by
    match n, hn with
    | 0, _ => exact ⟨by decide +kernel, 1, [], by decide +kernel, by omega⟩
    | 1, _ => exact ⟨by decide +kernel, 0, [], by decide +kernel, by omega⟩)

theorem climb_diverges_witness : ∀ fuel n acc, n < 2 → T.climb cycle2 fuel n acc = .fuel :=
  T.climb_diverges cycle2 (· < 2) (fun n hn => by
    match n, hn with
    | 0, _ => exact ⟨by decide +kernel, 1, by decide +kernel, by omega⟩
    | 1, _ => exact ⟨by decide +kernel, 0, by decide +kernel, by omega⟩)

/-- the valid unrooted tree 0-1, 0-2, 1-3 -/
def unrooted4 : G := ((T.empty false).run [.createNode, .createNode, .createNode, .createNode, .link 0 1, .link 0 2, .link 1 3]).g

example : T.isTree unrooted4 = .ok true := by decide +kernel

theorem leavesUnder_unrooted_diverges_witness : ∀ fuel n found, n < 2 → T.leavesUnder unrooted4 fuel n found = .fuel :=
  T.leavesUnder_diverges unrooted4 (· < 2) (fun n hn => by
    match n, hn with
    | 0, _ => exact ⟨by decide +kernel, 1, [2], by decide +kernel, by omega⟩
    | 1, _ => exact ⟨by decide +kernel, 0, [3], by decide +kernel, by omega⟩)

end Bpp.C15
