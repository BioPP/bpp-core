import BppProofs.Lemmas.DistU
/-!
C16 — the text stage of BppODiscreteDistributionFormat::readDiscreteDistribution
(src/Bpp/Io/BppODiscreteDistributionFormat.cpp:32-267; UB-aware model `BppModel/Text/DistU.lean`):
`listContent_`, the number lists `values` / `probas`, the `ranges` items taken apart with `find` /
`substr` at positions computed in `size_t`, the dispatch on the distribution name.  Every entry
returns or raises the library's exception (`safe`): no undefined behaviour, no `std::` exception
(`std::out_of_range` of `substr`), no hang.

The chain of the main theorem `distStage_safe`: the values of the map returned by
`KeyvalTools::parseProcedure` are pieces of the description (`parseProcedure_values_len`), so they
are `std::string`s (`StrOk`); the tokenizer the list arguments go through has no empty token
(`tokenizer_tokens_nonempty`), which is what `desc.substr(1, …)` of a `ranges` item needs
(`rangeItem_safe`; on an empty item it throws `std::out_of_range`: `rangeItem_empty_std`).
-/
namespace Bpp.C16
open Bpp.Text Bpp.Text.U

/-! ## `listContent_` -/

/-- `listContent_(rf)` (:32-37) returns the text between the first and the last character or
raises the library's exception (fewer than two characters); `rf.substr(1, size - 2)` is never out
of range -/
theorem listContent_safe (rf : Str) : safe (listContent rf) = true :=
  listContent_safe' rf

example : listContent "(1,2)".toList = .ok "1,2".toList := by
  -- the literals as lists of characters: evaluating `String.toList` the kernel would decode them byte by byte
  repeat rw [String.toList_ofList]
  decide +kernel
example : listContent "()".toList = .ok [] := by decide +kernel
example : listContent "(".toList = .error .bpp := by decide +kernel

/-- what `listContent_` returns is not longer than its argument -/
theorem listContent_len (rf c : Str) (h : listContent rf = .ok c) : c.length ≤ rf.length :=
  listContent_len' rf c h

example : ∃ c, listContent "(0.5,0.5)".toList = .ok c ∧ c.length = 7 :=
  ⟨"0.5,0.5".toList, by decide +kernel, by decide +kernel⟩

/-! ## the tokens of `StringTokenizer(s, delimiters)` -/

/-- the non-solid tokenizer without empty tokens has no empty token: the loop is entered at a
character that is not a delimiter (`find_first_not_of`), so the next delimiter
(`find_first_of`) is strictly further -/
theorem tokenizer_tokens_nonempty (s d : Str) (hs : StrOk s) (t : Tokenizer)
    (h : mkTokenizer s d false false = .ok t) : ∀ tok ∈ t.tokens, tok ≠ [] :=
  tokenizer_tokens_nonempty' s d hs t h

example : mkTokenizer ",a,,b,".toList [','] false false =
    .ok ⟨["a".toList, "b".toList], [",,".toList, ",".toList], 0⟩ := by
  repeat rw [String.toList_ofList]
  decide +kernel
/-- with empty tokens allowed the statement is false (the option is the last `false`) -/
example : mkTokenizer "a,,b".toList [','] false true =
    .ok ⟨["a".toList, [], "b".toList], [",".toList, ",".toList], 0⟩ := by
  repeat rw [String.toList_ofList]
  decide +kernel

/-! ## one item `V<k>[<a>;<b>]` of `ranges` -/

/-- one item of `ranges` (:113-120) that is not empty: the three `substr` positions `1`, `po + 1`,
`ppv + 1` — computed modulo 2^64 from the results of `find`, with `npos + 1 = 0` — never exceed
the size, whatever the item contains (the brackets may be missing or in any order) -/
theorem rangeItem_safe (desc : Str) (hne : desc ≠ []) : safe (rangeItem desc) = true :=
  rangeItem_safe' desc hne

example : rangeItem "V1[0.5;1.5]".toList = .ok ("1".toList, "0.5".toList, "1.5".toList) := by
  repeat rw [String.toList_ofList]
  decide +kernel
example : rangeItem "V1".toList = .error .bpp := by decide +kernel
example : rangeItem "]".toList = .error .bpp := by decide +kernel

/-- an empty item: `desc.substr(1, …)` throws `std::out_of_range`.  The tokenizer never hands over
an empty token (`tokenizer_tokens_nonempty`); a variant of the code that trims the token before
indexing it (`" "` is a token) runs into this -/
theorem rangeItem_empty_std : rangeItem [] = .error .std := by decide +kernel

example : safe (rangeItem []) = false := by decide +kernel

/-! ## the list arguments -/

/-- the loop `while (strtok.hasMoreToken()) v.push_back(toDouble(strtok.nextToken()))` ends within
`remaining tokens + 1` rounds; `nextToken` is only called under `hasMoreToken` -/
theorem drainDoubles_safe (fuel : Nat) (st : Tokenizer) (acc : List Str)
    (hpos : st.pos ≤ st.tokens.length) (hfuel : st.tokens.length - st.pos < fuel) :
    safe (drainDoubles fuel st acc) = true :=
  drainDoubles_safe' fuel st acc hfuel

example : drainDoubles 3 ⟨["1".toList, "2.5".toList], [], 0⟩ [] = .ok ["1".toList, "2.5".toList] := by decide +kernel
example : drainDoubles 2 ⟨["1".toList, "2.5".toList], [], 0⟩ [] = .error .hang := by decide +kernel

/-- the loop over the items of `ranges` (:111-126) on a tokenizer without empty token -/
theorem drainRanges_safe (fuel : Nat) (st : Tokenizer) (acc : List (Str × Str × Str))
    (hne : ∀ tok ∈ st.tokens, tok ≠ [])
    (hpos : st.pos ≤ st.tokens.length) (hfuel : st.tokens.length - st.pos < fuel) :
    safe (drainRanges fuel st acc) = true :=
  drainRanges_safe' fuel st acc hne hfuel

example : drainRanges 2 ⟨["V1[0;1]".toList], [], 0⟩ [] = .ok [("1".toList, "0".toList, "1".toList)] := by
  repeat rw [String.toList_ofList]
  decide +kernel
/-- the hypothesis on the tokens is needed -/
example : drainRanges 2 ⟨[[]], [], 0⟩ [] = .error .std := by decide +kernel

/-- a list argument `(v1,v2,…)` of numbers (`values`, `probas`): any `std::string` -/
theorem numberList_safe (rf : Str) (hs : StrOk rf) : safe (numberList rf) = true :=
  numberList_safe' rf hs

example : numberList "(0.1,0.9)".toList = .ok ["0.1".toList, "0.9".toList] := by
  repeat rw [String.toList_ofList]
  decide +kernel
example : numberList "(0.1,,0.9,)".toList = .ok ["0.1".toList, "0.9".toList] := by
  repeat rw [String.toList_ofList]
  decide +kernel
example : numberList "(0.1,x)".toList = .error .bpp := by
  repeat rw [String.toList_ofList]
  decide +kernel
example : numberList "()".toList = .ok [] := by decide +kernel
example : numberList ")".toList = .error .bpp := by decide +kernel

/-- the `ranges` argument (:103-127): any `std::string` -/
theorem rangeList_safe (rr : Str) (hs : StrOk rr) : safe (rangeList rr) = true :=
  rangeList_safe' rr hs

example : rangeList "(V1[0;1],V2[1;2.5])".toList =
    .ok [("1".toList, "0".toList, "1".toList), ("2".toList, "1".toList, "2.5".toList)] := by
  repeat rw [String.toList_ofList]
  decide +kernel
example : rangeList "(V1[0;1],,)".toList = .ok [("1".toList, "0".toList, "1".toList)] := by
  repeat rw [String.toList_ofList]
  decide +kernel
example : rangeList "(V1[0,1])".toList = .error .bpp := by
  repeat rw [String.toList_ofList]
  decide +kernel

/-- the accepted items of a number list are disjoint pieces of the argument (no hypothesis on its
size) -/
theorem numberList_alloc (rf : Str) (items : List Str) (h : numberList rf = .ok items) :
    sumLen items ≤ rf.length :=
  numberList_alloc' rf items h

example : ∃ items, numberList "(0.1,0.9)".toList = .ok items ∧ sumLen items = 6 :=
  ⟨["0.1".toList, "0.9".toList], by decide +kernel, by decide +kernel⟩

/-! ## the `Simple` and `Mixture` branches -/

/-- the text stage of the `Simple` branch (:80-127) on a map whose values are `std::string`s -/
theorem simpleStage_safe (args : Keyval.Map) (h : ∀ kv ∈ args, StrOk kv.2) :
    safe (simpleStage args) = true :=
  simpleStage_safe' args h

example : simpleStage [("probas".toList, "(0.5,0.5)".toList), ("values".toList, "(1,2)".toList)] =
    .ok (.simple ["1".toList, "2".toList] ["0.5".toList, "0.5".toList] []) := by
  repeat rw [String.toList_ofList]
  decide +kernel
example : simpleStage [("probas".toList, "(1)".toList), ("ranges".toList, "(V1[0;3])".toList),
      ("values".toList, "(2)".toList)] =
    .ok (.simple ["2".toList] ["1".toList] [("1".toList, "0".toList, "3".toList)]) := by
  repeat rw [String.toList_ofList]
  decide +kernel
example : simpleStage [("values".toList, "(1,2)".toList)] = .error .bpp := by decide +kernel
example : simpleStage [("probas".toList, "(1)".toList), ("values".toList, "()".toList)] = .error .bpp := by
  decide +kernel

/-- the text stage of the `Mixture` branch (:138-159) on a map whose values are `std::string`s -/
theorem mixtureStage_safe (args : Keyval.Map) (h : ∀ kv ∈ args, StrOk kv.2) :
    safe (mixtureStage args) = true :=
  mixtureStage_safe' args h

example : mixtureStage [("dist1".toList, "Constant(value=1)".toList), ("dist2".toList, "Gamma(n=4)".toList),
      ("probas".toList, "(0.3,0.7)".toList)] =
    .ok (.mixture ["0.3".toList, "0.7".toList] ["Constant(value=1)".toList, "Gamma(n=4)".toList]) := by
  repeat rw [String.toList_ofList]
  decide +kernel
example : mixtureStage [("dist1".toList, "Constant(value=1)".toList), ("probas".toList, "(0.3,0.7)".toList)] =
    .error .bpp := by
  repeat rw [String.toList_ofList]
  decide +kernel

/-! ## readDiscreteDistribution -/

/-- the values of the map `KeyvalTools::parseProcedure` returns are pieces of the description:
the tokens of the NestedStringTokenizer are disjoint pieces of the text between the parentheses,
merging `name`, `=`, `value` tokens keeps the total, the value is a suffix of the merged token,
`removeSurroundingWhiteSpaces` shortens, `args[key] = value` keeps or replaces.
(`desc.length < 2^31`: the NestedStringTokenizer counts parentheses in an `int`.) -/
theorem parseProcedure_values_len (desc name : Str) (args : Keyval.Map) (hs : desc.length < 2147483648)
    (h : parseProcedure desc = .ok (name, args)) : ∀ kv ∈ args, kv.2.length ≤ desc.length :=
  parseProcedure_values_len' desc name args hs h

example : parseProcedure "f(a=1,b=g(c=2))".toList =
    .ok ("f".toList, [("a".toList, "1".toList), ("b".toList, "g(c=2)".toList)]) := by
  repeat rw [String.toList_ofList]
  decide +kernel

/-- the text stage of `readDiscreteDistribution` (:40-267) on any description shorter than 2^31
characters returns or raises the library's exception: no `substr` out of range, no index out of
range, no loop without end, in `parseProcedure`, in the presence tests, in the number lists, in
the `ranges` items, in `toInt` of the class count -/
theorem distStage_safe (desc : Str) (hs : desc.length < 2147483648) : safe (distStage desc) = true := by
  unfold distStage
  refine safe_bind (parseProcedure_safe' desc hs) (fun p hp => ?_)
  obtain ⟨name, args⟩ := p
  have hv : ∀ kv ∈ args, StrOk kv.2 := by
    intro kv hkv
    have := parseProcedure_values_len' desc name args hs hp kv hkv
    unfold StrOk maxStr; omega
  dsimp only
  refine safe_ite (safe_ite rfl rfl) (safe_ite ?_ (safe_ite (simpleStage_safe' args hv)
    (safe_ite (mixtureStage_safe' args hv) ?_)))
  · split <;> rfl
  · split
    · rfl
    · split
      · rfl
      · exact safe_ite rfl (safe_ite rfl rfl)

example : distStage "Simple(values=(1,2),probas=(0.5,0.5))".toList =
    .ok (.simple ["1".toList, "2".toList] ["0.5".toList, "0.5".toList] []) := by
  repeat rw [String.toList_ofList]
  decide +kernel
example : distStage "Simple(values=(1,2),probas=(0.5,0.5),ranges=(V1[0;3],V2[1;2]))".toList =
    .ok (.simple ["1".toList, "2".toList] ["0.5".toList, "0.5".toList]
      [("1".toList, "0".toList, "3".toList), ("2".toList, "1".toList, "2".toList)]) := by
  repeat rw [String.toList_ofList]
  decide +kernel
/-- an item that begins with a blank is refused by `toInt` (the library's exception), not by `substr` -/
example : distStage "Simple(values=(1,2),probas=(0.5,0.5),ranges=(V1[0;3], V2[1;2]))".toList =
    .error .bpp := by
  repeat rw [String.toList_ofList]
  decide +kernel
example : distStage "Mixture(probas=(0.5,0.5),dist1=Constant(value=1),dist2=Gamma(n=2))".toList =
    .ok (.mixture ["0.5".toList, "0.5".toList] ["Constant(value=1)".toList, "Gamma(n=2)".toList]) := by
  repeat rw [String.toList_ofList]
  decide +kernel
example : distStage "Invariant(dist=Gamma(n=4))".toList = .ok (.invariant "Gamma(n=4)".toList) := by
  repeat rw [String.toList_ofList]
  decide +kernel
example : distStage "Constant(value=1)".toList = .ok .constant := by
  repeat rw [String.toList_ofList]
  decide +kernel
example : distStage "Gamma(n=4,alpha=1)".toList = .ok (.standard "Gamma".toList 4) := by
  repeat rw [String.toList_ofList]
  decide +kernel
example : distStage "Gamma(n=0)".toList = .error .bpp := by
  repeat rw [String.toList_ofList]
  decide +kernel
example : distStage "Gamma(n=4".toList = .error .bpp := by
  repeat rw [String.toList_ofList]
  decide +kernel
example : distStage "Unknown(n=4)".toList = .error .bpp := by
  repeat rw [String.toList_ofList]
  decide +kernel

end Bpp.C16
