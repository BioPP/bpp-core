import BppProofs.Lemmas.KeyvalU
/-!
C16 — KeyvalTools (src/Bpp/Text/KeyvalTools.cpp) and the wildcard matcher
(src/Bpp/App/ApplicationTools.cpp:28-95) on the UB-aware string model: every entry point returns
or raises the library's exception (`safe`): no undefined behaviour, no `std::` exception, no hang.

The `…_of` theorems are stated with the facts about the tokenizer constructors (`mkKvTokenizer`,
`mkTokenizer`) as hypotheses (cursor at 0, a `size_t` token count; not the whole class invariant
`Tokenizer.WF`, which the NestedStringTokenizer as found did not establish — `nested_ctor_not_wf_old`;
the repaired constructor does, `nested_ctor_wf`); their proofs use only that the constructor is
`safe`.  The theorems without `_of` discharge it with `mkKvTokenizer_safe` (`Lemmas/KeyvalU.lean`, from
`mkTokenizer_spec` / `mkNested_spec` of `Lemmas/TokenizerU.lean`) under the size bound those need:
`desc.length < 2^31` where a NestedStringTokenizer counts parentheses in an `int`.
-/
namespace Bpp.C16
open Bpp.Text Bpp.Text.U

/-! ## singleKeyval -/

/-- KeyvalTools::singleKeyval after the repair: any description, any separator -/
theorem singleKeyval_safe (desc split : Str) : safe (singleKeyval desc split) = true :=
  singleKeyval_safe' desc split

example : singleKeyval ['a', '=', 'b'] ['='] = .ok (['a'], ['b']) := by decide +kernel
example : singleKeyval "key = some value".toList "=".toList = .ok ("key ".toList, " some value".toList) := by
  -- the literal as a list of characters first: the kernel is slow at decoding a string literal
  repeat rw [String.toList_ofList]
  decide +kernel
example : singleKeyval ['a', 'b'] ['='] = .error .bpp := by decide +kernel
example : singleKeyval [] [] = .error .bpp := by decide +kernel

/-- the code as found: `std::out_of_range` of `desc.substr(1)` on an empty description with an
empty separator -/
theorem singleKeyval_old_std : singleKeyvalOld [] [] = .error .std := by decide +kernel

/-- the two parts returned do not exceed the description (one character, the separator's first,
is dropped).  The bound `desc.length < SZ` (every `std::string` satisfies it: `StrOk`) cannot be
removed: `singleKeyval_alloc_false`. -/
theorem singleKeyval_alloc_partial (desc split k v : Str) (h : singleKeyval desc split = .ok (k, v))
    (hlen : desc.length < SZ) : k.length + v.length ≤ desc.length := by
  have := singleKeyval_alloc_of_lt desc split k v h hlen
  omega

theorem singleKeyval_alloc_strOk (desc split k v : Str) (h : singleKeyval desc split = .ok (k, v))
    (hs : StrOk desc) : k.length + v.length ≤ desc.length := by
  apply singleKeyval_alloc_partial desc split k v h
  have := maxStr_lt
  unfold StrOk at hs; unfold SZ; omega

/-- the statement without a bound on `desc` is false of the model (a description of 2^64
characters whose last one is the separator: `i + 1` wraps to 0) -/
theorem singleKeyval_alloc_false :
    ¬ ∀ desc split k v : Str, singleKeyval desc split = .ok (k, v) →
      k.length + v.length ≤ desc.length := by
  intro hall
  obtain ⟨desc, split, k, v, h, hn⟩ := singleKeyval_alloc_unbounded_false
  exact hn (hall desc split k v h)

example : singleKeyval ['a', 'b', '=', 'c', '=', 'd'] ['='] = .ok (['a', 'b'], ['c', '=', 'd']) := by decide +kernel

/-! ## the loop merging `=` tokens -/

/-- the loop terminates within `remaining tokens + 1` rounds and `tokens[tokens.size() - 1]` is
only read on a non-empty vector: no hypothesis on `acc` is needed -/
theorem mergeLoop_safe (fuel : Nat) (st : Tokenizer) (acc : List Str)
    (hpos : st.pos ≤ st.tokens.length) (hfuel : st.tokens.length - st.pos < fuel) :
    safe (mergeLoop fuel st acc) = true :=
  mergeLoop_safe' fuel st acc hfuel

example : mergeLoop 4 ⟨[['a'], ['='], ['b'], ['c']], [], 0⟩ [] = .ok [['a', '=', 'b'], ['c']] := by decide +kernel
example : mergeLoop 4 ⟨[['='], ['b']], [], 0⟩ [] = .error .bpp := by decide +kernel
example : mergeLoop 1 ⟨[['a'], ['b']], [], 0⟩ [] = .error .hang := by decide +kernel

/-! ## multipleKeyvals -/

theorem multipleKeyvals_safe_of (desc split : Str) (m0 : Keyval.Map) (nested : Bool)
    (hmk : safe (mkKvTokenizer desc split nested) = true)
    (hwf : ∀ t, mkKvTokenizer desc split nested = .ok t → t.pos = 0 ∧ t.tokens.length < SZ) :
    safe (multipleKeyvals desc m0 split nested) = true :=
  multipleKeyvals_safe_of' desc split m0 nested hmk

/-- hypothesis-free: a description shorter than 2^31 -/
theorem multipleKeyvals_safe (desc split : Str) (m0 : Keyval.Map) (nested : Bool)
    (hs : desc.length < 2147483648) : safe (multipleKeyvals desc m0 split nested) = true :=
  multipleKeyvals_safe_of' desc split m0 nested (mkKvTokenizer_safe desc split nested hs)

example : multipleKeyvals "a=1,b=2".toList [] ",".toList false =
    .ok [("a".toList, "1".toList), ("b".toList, "2".toList)] := by
  repeat rw [String.toList_ofList]
  decide +kernel
example : multipleKeyvals "a=f(x=1,y=2), b = 2".toList [] ",".toList true =
    .ok [("a".toList, "f(x=1,y=2)".toList), ("b".toList, "2".toList)] := by
  repeat rw [String.toList_ofList]
  decide +kernel
example : multipleKeyvals "a,b=2".toList [] ",".toList false = .error .bpp := by
  repeat rw [String.toList_ofList]
  decide +kernel

/-! ## splitProcedure / parseProcedure / changeKeyvals -/

theorem splitProcedure_safe (desc : Str) : safe (splitProcedure desc) = true :=
  splitProcedure_safe' desc

theorem splitProcedure_inner (desc name inner : Str)
    (h : splitProcedure desc = .ok (some (name, inner))) :
    inner.length ≤ desc.length ∧ name.length ≤ desc.length :=
  splitProcedure_inner' desc name inner h

example : splitProcedure " f(a=1)".toList = .ok (some ("f".toList, "a=1".toList)) := by
  repeat rw [String.toList_ofList]
  decide +kernel
example : splitProcedure "f".toList = .ok none := by
  rw [String.toList_ofList]
  decide +kernel
example : splitProcedure "f)".toList = .error .bpp := by
  rw [String.toList_ofList]
  decide +kernel
example : splitProcedure "f(a".toList = .error .bpp := by
  rw [String.toList_ofList]
  decide +kernel
example : splitProcedure "f(a) ".toList = .ok (some ("f".toList, "a".toList)) := by
  repeat rw [String.toList_ofList]
  decide +kernel
example : splitProcedure "f(a)b".toList = .error .bpp := by
  rw [String.toList_ofList]
  decide +kernel

theorem parseProcedure_safe_of (desc : Str)
    (hmk : ∀ inner, inner.length ≤ desc.length →
      safe (mkKvTokenizer inner [','] true) = true ∧
      ∀ t, mkKvTokenizer inner [','] true = .ok t → t.pos = 0 ∧ t.tokens.length < SZ) :
    safe (parseProcedure desc) = true :=
  parseProcedure_safe_of' desc fun inner hl => (hmk inner hl).1

/-- hypothesis-free: a description shorter than 2^31 (NestedStringTokenizer's `int` counter) -/
theorem parseProcedure_safe (desc : Str) (hs : desc.length < 2147483648) :
    safe (parseProcedure desc) = true :=
  parseProcedure_safe' desc hs

example : parseProcedure "f(a=1,b=g(c=2))".toList =
    .ok ("f".toList, [("a".toList, "1".toList), ("b".toList, "g(c=2)".toList)]) := by
  repeat rw [String.toList_ofList]
  decide +kernel
example : parseProcedure "Gamma".toList = .ok ("Gamma".toList, []) := by
  rw [String.toList_ofList]
  decide +kernel
example : parseProcedure "f(a,b=1)".toList = .error .bpp := by
  rw [String.toList_ofList]
  decide +kernel

theorem changeKeyvals_safe_of (desc split : Str) (newkv : Keyval.Map) (nested : Bool)
    (hmk : ∀ inner, inner.length ≤ desc.length →
      safe (mkKvTokenizer inner split nested) = true ∧
      ∀ t, mkKvTokenizer inner split nested = .ok t → t.pos = 0 ∧ t.tokens.length < SZ) :
    safe (changeKeyvals desc newkv split nested) = true :=
  changeKeyvals_safe_of' desc split newkv nested fun inner hl => (hmk inner hl).1

theorem changeKeyvals_safe (desc split : Str) (newkv : Keyval.Map) (nested : Bool)
    (hs : desc.length < 2147483648) : safe (changeKeyvals desc newkv split nested) = true :=
  changeKeyvals_safe_of' desc split newkv nested fun inner hl =>
    mkKvTokenizer_safe inner split nested (Nat.lt_of_le_of_lt hl hs)

example : changeKeyvals "f(a=1,b=2)".toList [("b".toList, "7".toList)] ",".toList true =
    .ok "f(a=1,b=7)".toList := by
  repeat rw [String.toList_ofList]
  decide +kernel

/-! ## the wildcard matcher -/

theorem matcherU_safe_of (pattern name : Str)
    (hmk : safe (mkTokenizer pattern ['*'] true false) = true)
    (hwf : ∀ t, mkTokenizer pattern ['*'] true false = .ok t → t.pos = 0 ∧ t.tokens.length < SZ ∧ t.tokens ≠ []) :
    safe (matcherU pattern name) = true := by
  rcases (safe_iff _).mp hmk with ⟨t, ht⟩ | he
  · obtain ⟨b, hb⟩ := matcherU_returns_of' pattern name (fun t ht => ⟨(hwf t ht).1, (hwf t ht).2.2⟩) ⟨t, ht⟩
    exact hb ▸ rfl
  · unfold matcherU
    rw [he]; rfl

/-- it never raises, not even the library's exception -/
theorem matcherU_returns_of (pattern name : Str)
    (hwf : ∀ t, mkTokenizer pattern ['*'] true false = .ok t → t.pos = 0 ∧ t.tokens.length < SZ ∧ t.tokens ≠ [])
    (hex : ∃ t, mkTokenizer pattern ['*'] true false = .ok t) :
    ∃ b, matcherU pattern name = .ok b :=
  matcherU_returns_of' pattern name (fun t ht => ⟨(hwf t ht).1, (hwf t ht).2.2⟩) hex

/-- hypothesis-free: any pattern a `std::string` can hold, any name -/
theorem matcherU_returns (pattern name : Str) (hs : StrOk pattern) :
    ∃ b, matcherU pattern name = .ok b := by
  obtain ⟨t, ht, _, hp, _⟩ := mkTokenizer_solid_spec pattern ['*'] false (List.cons_ne_nil _ _) hs
  exact matcherU_returns_of' pattern name
    (fun t' ht' => Except.ok.inj (ht.symm.trans ht') ▸ ⟨hp, mkTokenizer_solid_nonempty ht⟩) ⟨t, ht⟩

theorem matcherU_safe (pattern name : Str) (hs : StrOk pattern) :
    safe (matcherU pattern name) = true := by
  obtain ⟨b, hb⟩ := matcherU_returns pattern name hs
  rw [hb]; rfl

example : matcherU "ab*cd".toList "abxxcd".toList = .ok true := by
  repeat rw [String.toList_ofList]
  decide +kernel
example : matcherU "ab*cd".toList "abxxcde".toList = .ok false := by
  repeat rw [String.toList_ofList]
  decide +kernel
example : matcherU "*".toList "anything".toList = .ok true := by
  repeat rw [String.toList_ofList]
  decide +kernel
example : matcherU "abc".toList "abcd".toList = .ok false := by
  repeat rw [String.toList_ofList]
  decide +kernel

/-! ## refinement to C17's functional matcher -/

/-- the tokenizer the matcher builds computes the token list of the C17 model -/
theorem solid_star_tokens_eq (pattern : Str) (hs : StrOk pattern) :
    ∃ ss, mkTokenizer pattern ['*'] true false = .ok ⟨Glob.starTokens false pattern, ss, 0⟩ :=
  solid_star_tokens pattern hs

example : mkTokenizer "ab**cd*".toList ['*'] true false =
    .ok ⟨Glob.starTokens false "ab**cd*".toList, ["**".toList, "*".toList], 0⟩ := by
  repeat rw [String.toList_ofList]
  decide +kernel

/-- the UB-aware matcher returns what `Bpp.Text.Glob.matcher` (the model of C17) computes, for
every pattern and name a `std::string` can hold.  `StrOk name` cannot be removed:
`matcherU_refines_false`. -/
theorem matcherU_refines_partial (pattern name : Str) (hs : StrOk pattern) (hn : StrOk name) :
    matcherU pattern name = .ok (Glob.matcher pattern name) :=
  matcherU_refines' pattern name hs hn

/-- the requested statement, with `StrOk pattern` only, is false of the model: on a name of
2^64+1 characters (`a…a=` against `*=`) the `size_t` position `pos1` wraps -/
theorem matcherU_refines_false :
    ¬ ∀ pattern name : Str, StrOk pattern →
      matcherU pattern name = .ok (Glob.matcher pattern name) := by
  intro hall
  obtain ⟨h1, h2⟩ := matcherU_wrap SZ rfl
  have := hall ['*', '='] (List.replicate SZ 'a' ++ ['=']) (by decide)
  rw [h1, h2] at this
  cases this

example : matcherU "a*b*".toList "axxbyy".toList = .ok (Glob.matcher "a*b*".toList "axxbyy".toList) := by
  repeat rw [String.toList_ofList]
  decide +kernel
example : Glob.matcher "a*b*".toList "axxbyy".toList = true := by
  repeat rw [String.toList_ofList]
  decide +kernel

end Bpp.C16
