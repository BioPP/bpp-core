import BppProofs.Lemmas.NestedRT
import BppProofs.Lemmas.TokBridge
/-!
# C17 — "nested tokenising never splits inside balanced brackets"

Model: the UB-aware `NestedStringTokenizer` of `BppModel/Text/TokenizerU.lean`
(src/Bpp/Text/NestedStringTokenizer.cpp:15-116, both modes, after the repair
"fix: NestedStringTokenizer never recorded its separators …": the constructor fills `splits_`, the
inherited `unparseRemainingTokens` is the one that runs).  Predicates: `BppModel/Text/TokRT.lean`
(`nestedRtOk`, `nestedDepthOk`; the driver evaluates them on the implementation's tokens, separators
and unparsed text).  For every input string shorter than 2^31 (the code counts brackets in an `int`),
every delimiter string, both modes; the re-joining law for *any* bracket strings, the depth law for
single-character brackets that are not delimiter characters (the configurations the library and its
clients use: `(` `)`, `[` `]`, `{` `}`).
-/
namespace Bpp.C17
open Bpp.Text Bpp.Text.U Bpp.Text.RT

/-- **tokens concatenated with the recorded delimiters give back the input**, and
`unparseRemainingTokens()` returns it (without leading / trailing delimiters in non-solid mode): for
every (open, close, delimiter, solid) combination, whenever the constructor returns (it raises the
library's exception on an unclosed block or an empty solid delimiter) -/
theorem nested_rejoin (s op en d : Str) (solid : Bool) (hs : s.length < 2147483648) (T : Tokenizer)
    (h : mkNested s op en d solid = .ok T) :
    ∃ u, T.unparseRemainingTokens = .ok u ∧ nestedRtOk s d solid T.tokens T.splits u = true := by
  exact mkNested_rt s op en d solid hs T h

example : mkNested " f(a, b) g(c (d e)) ".toList "(".toList ")".toList " ".toList false
    = .ok ⟨["f(a, b)".toList, "g(c (d e))".toList], [" ".toList, " ".toList], 0⟩ := by
  repeat rw [String.toList_ofList]
  decide +kernel
example : mkNested "a<x::y>::b::".toList "<".toList ">".toList "::".toList true
    = .ok ⟨["a<x::y>".toList, "b".toList, []], ["::".toList, "::".toList], 0⟩ := by
  repeat rw [String.toList_ofList]
  decide +kernel

/-- reading `nestedRtOk`: re-joining -/
theorem nested_tokens_rejoin (s op en d : Str) (solid : Bool) (hs : s.length < 2147483648) (T : Tokenizer)
    (h : mkNested s op en d solid = .ok T) :
    (if solid then [] else s.takeWhile (inSet d)) ++ interleave T.tokens T.splits = s := by
  obtain ⟨u, _, hu⟩ := nested_rejoin s op en d solid hs T h
  exact (nestedRtOk_iff.mp hu).1

/-- reading `nestedRtOk`: the unparsed text -/
theorem nested_unparse (s op en d : Str) (solid : Bool) (hs : s.length < 2147483648) (T : Tokenizer)
    (h : mkNested s op en d solid = .ok T) :
    T.unparseRemainingTokens = .ok (if solid then s else stripSet d s) := by
  obtain ⟨u, e, hu⟩ := nested_rejoin s op en d solid hs T h
  rw [e, (nestedRtOk_iff.mp hu).2.1]
  cases solid <;> rfl

/-- **every cut is at bracket depth 0**: every token has as many opening as closing brackets (so the
bracket depth at every cut, the sum over the tokens before it, is 0 — separators contain no bracket),
and in non-solid mode every delimiter character inside a token is at non-zero depth (it cuts at
*every* delimiter of depth 0).  Single-character brackets `o`, `c` that are not delimiter characters;
`o = c` is allowed (then the depth is constantly 0 and every delimiter cuts). -/
theorem nested_balanced_all (s d : Str) (o c : Char) (solid : Bool) (ho : d.contains o = false)
    (hc : d.contains c = false) (hs : s.length < 2147483648) (T : Tokenizer)
    (h : mkNested s [o] [c] d solid = .ok T) : nestedDepthOk d o c solid T.tokens = true :=
  mkNested_depth s d o c solid ho hc hs T h

example : saneBrackets "[".toList "]".toList ",;".toList = some ('[', ']') := by decide
example : ∃ T, mkNested "a[1,2],b[[3;4],5];c".toList "[".toList "]".toList ",;".toList false = .ok T ∧
    T.tokens = ["a[1,2]".toList, "b[[3;4],5]".toList, "c".toList] :=
  ⟨⟨["a[1,2]".toList, "b[[3;4],5]".toList, "c".toList], [",".toList, ";".toList], 0⟩, by
    repeat rw [String.toList_ofList]
    decide +kernel, rfl⟩

/-- a bracket that is also a delimiter character is never seen by the counter (the pieces between
delimiters do not contain it): brackets must not be delimiters for the depth law to mean anything -/
theorem nested_bracket_delimiter_witness :
    mkNested "(a,b)".toList "(".toList ")".toList ",(".toList false = .error .bpp ∧
    ∃ T, mkNested "a),(b".toList "(".toList ")".toList ",()".toList false = .ok T ∧
      T.tokens = ["a".toList, "b".toList] := by
  refine ⟨?_, ⟨["a".toList, "b".toList], ["),(".toList], 0⟩, ?_, rfl⟩
  all_goals repeat rw [String.toList_ofList]
  all_goals decide +kernel

/-- **the two transcriptions of `NestedStringTokenizer(s, "(", ")", d)` agree** whenever the
constructor returns: the character-level `Keyval.nested` (on which `parse_render`,
`changeKeyvals_exact`, `nested_balanced` rest) returns the tokens of the position-level `mkNested`
(on which this file rests).  Delimiters other than the parentheses (KeyvalTools passes `,`).
FULL statement also has the converse for the raising case (`mkNested … = .error .bpp →
Keyval.nested … = none`, "Unclosed block"): not proved (the two agree on it on every run of the
differential check and on all strings over {a ( ) , space} up to length 7). -/
theorem keyval_nested_is_nested_tokenizer_partial (s d : Str) (ho : d.contains '(' = false)
    (hc : d.contains ')' = false) (hs : s.length < 2147483648) (T : Tokenizer)
    (h : mkNested s ['('] [')'] d false = .ok T) :
    Keyval.nested (fun c => d.contains c) false 0 s = some T.tokens :=
  nested_eq_mkNested s d ho hc hs T h

example : mkNested "f(a,b),g".toList ['('] [')'] [','] false
    = .ok ⟨["f(a,b)".toList, "g".toList], [",".toList], 0⟩ := by
  repeat rw [String.toList_ofList]
  decide +kernel

/-- **after `k` calls of `nextToken()`**: the same law as for the plain tokenizer -/
theorem nested_unparse_after_next (s op en d : Str) (solid : Bool) (hs : s.length < 2147483648)
    (T : Tokenizer) (h : mkNested s op en d solid = .ok T) (k : Nat) (hk : k ≤ T.tokens.length) :
    ∃ T' u0 uk, nextN k T = .ok (T.tokens.take k, T') ∧
      T.unparseRemainingTokens = .ok u0 ∧ T'.unparseRemainingTokens = .ok uk ∧
      advanceRtOk T.tokens T.splits k u0 uk = true := by
  obtain ⟨T', u0, uk, h1, h2, h3, h4, _⟩ := nextN_rt T (mkNested_built hs h).wf (mkNested_built hs h).pos k hk
  exact ⟨T', u0, uk, h1, h2, h3, h4⟩

end Bpp.C17
