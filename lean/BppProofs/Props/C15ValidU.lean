import BppProofs.Props.C15Valid
import BppProofs.Lemmas.TreeRefU
/-!
# C15 — the reference decision of the validity predicate, unrooted case

`C15Valid` connects the reference decision for *rooted* trees (`isRootedTree`) to `IsTreeFrom`.  Here the
same is done for the reference decision for *unrooted* trees, `isUnrootedTree` (`BppModel/TreeRef.lean`):
undirected, the root is a node, every entry of the edge table joins two existing distinct nodes,
|E| + 1 = |V|, and every node is reached from the root by the search `reachU` over the edge table.

* `isUnrootedTree_iff` — on consistent undirected tables it is true exactly when `IsTreeFrom g`.
  (⇒) the search builds a spanning tree of the nodes it reaches, one entry of the edge table per
  non-root node, all different; with |E| = |V| - 1 these are all the entries, so the relations of the graph are
  exactly the father-son pairs.  (⇐) in a tree the search reaches depth `k` after `k` rounds, depths are
  below |V|, and sending an entry to its son end is a bijection onto the non-root nodes
  (`Lemmas/TreeRefU.lean`).
* `isTree_eq_ref_unrooted`, `isTree_eq_ref` — whenever the root is a node, the traversal `isTree`
  (GlobalGraph.cpp:668) answers what the reference decision `isTreeRef` answers, directed or not.
* `isValid_eq_ref` — so does the cached `isValid()` after any history.
-/
namespace Bpp.C15
open Bpp Bpp.Graph

/-- the reference decision for unrooted trees (connected from the root, |E| + 1 = |V|, entries join existing
distinct nodes) accepts exactly the trees spanning all nodes from the root -/
theorem isUnrootedTree_iff (g : G) (hc : Consistent g) (hd : g.directed = false) :
    isUnrootedTree g = true ↔ IsTreeFrom g :=
  Bpp.Graph.isUnrootedTree_iff g hc hd

/-- on an undirected graph whose root is a node, `isTree` answers what the reference decision answers -/
theorem isTree_eq_ref_unrooted (g : G) (hc : Consistent g) (hd : g.directed = false) (hr : g.hasNode g.root = true) :
    T.isTree g = .ok (isTreeRef g) := by
  refine TRes.eq_ok_of_iff (T.isTree_total hc hr) ?_
  rw [isTreeRef, if_neg (by rw [hd]; nofun), Bpp.Graph.isUnrootedTree_iff g hc hd]
  exact (T.isTree_iff hc).symm

/-- for every graph whose root is a node -/
theorem isTree_eq_ref (g : G) (hc : Consistent g) (hr : g.hasNode g.root = true) : T.isTree g = .ok (isTreeRef g) := by
  cases hd : g.directed with
  | true => exact isTree_eq_ref_rooted g hc hd hr
  | false => exact isTree_eq_ref_unrooted g hc hd hr

/-- after any history, isValid() answers the reference decision whenever the root is a node -/
theorem isValid_eq_ref (d : Bool) (ops : List TOp) (hr : ((T.empty d).run ops).g.hasNode ((T.empty d).run ops).g.root = true) :
    ((T.empty d).run ops).isValid.1 = .ok (isTreeRef ((T.empty d).run ops).g) := by
  rw [isValid_is_isTree d ops]
  exact isTree_eq_ref _ (history_consistent d ops) hr

/-! non-vacuity: the unrooted tree 3 - 1 - 0 - 2; a triangle (too many edges); a triangle and an isolated
node (|E| + 1 = |V| but not connected); the empty container, where the root is no node (`hr` is needed: `isTree`
raises while the reference decision says false) -/

def exTriangle : List TOp := [.createNode, .createNode, .createNode, .link 0 1, .link 1 2, .link 2 0]
def exTrianglePlus : List TOp := exTriangle ++ [.createNode]

example : isUnrootedTree ((T.empty false).run exOps).g = true := by decide +kernel
example : IsTreeFrom ((T.empty false).run exOps).g :=
  (isUnrootedTree_iff _ (history_consistent false exOps) (by decide +kernel)).1 (by decide +kernel)
example : ((T.empty false).run exOps).isValid.1 = .ok true := by
  rw [isValid_eq_ref false exOps (by decide +kernel)]; decide

example : isUnrootedTree ((T.empty false).run exTriangle).g = false := by decide +kernel
example : ¬ IsTreeFrom ((T.empty false).run exTriangle).g :=
  fun h => by have := (isUnrootedTree_iff _ (history_consistent false _) (by decide +kernel)).2 h; revert this; decide +kernel
example : T.isTree ((T.empty false).run exTriangle).g = .ok false := by
  rw [isTree_eq_ref _ (history_consistent false _) (by decide +kernel)]; decide

example : isUnrootedTree ((T.empty false).run exTrianglePlus).g = false := by decide +kernel
example : ((T.empty false).run exTrianglePlus).g.edges.length + 1 = ((T.empty false).run exTrianglePlus).g.nodes.length := by decide +kernel
example : ((T.empty false).run exTrianglePlus).isValid.1 = .ok false := by
  rw [isValid_eq_ref false exTrianglePlus (by decide +kernel)]; decide

example : T.isTree ((T.empty false).run []).g = .exc := by decide +kernel
example : isTreeRef ((T.empty false).run []).g = false := by decide +kernel

end Bpp.C15
