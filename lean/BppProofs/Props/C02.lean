import BppProofs.Lemmas.ParamListCheck
/-!
# C02 — bulk parameter updates are atomic; names stay unique; copies are independent
(src/Bpp/Numeric/ParameterList.{h,cpp}, src/Bpp/Numeric/AbstractParametrizable.{h,cpp})

Property theorems only; helper lemmas are in `Lemmas/ParamList*.lean`.  The model
(`BppModel/ParamList.lean`) is a heap of parameter objects plus list registers holding
object ids; `step` interprets one operation, `run` a history.  `Inv` is the invariant of
every reachable state: ids valid, every object accepted by its own constraint, names
pairwise different in every list.
-/
namespace Bpp.C02
open Bpp Bpp.ParamList

/-! ## Histories: names stay unique, constraints stay satisfied -/

/-- the invariant holds along every history without `setNamespace` (all sizes, all lengths) -/
theorem inv_run (ops : List Op) (hops : ∀ op ∈ ops, op.keepsNames = true) {s : State} (inv : Inv s) :
    Inv (run s ops) := by
  induction ops generalizing s with
  | nil => exact inv
  | cons op rest ih =>
    exact ih (fun o ho => hops o (List.mem_cons_of_mem _ ho)) (inv_step inv op (hops op (List.mem_cons_self ..)))

/-- **names_unique**: after any history of add / include / share / set* / match* / delete /
sub-list / copy / assign operations (every operation of the machine except `setNamespace`),
from the empty machine, the names of every list are pairwise different. -/
theorem names_unique (ops : List Op) (hops : ∀ op ∈ ops, op.keepsNames = true) (k : Nat) :
    (names (run State.init ops).heap ((run State.init ops).lists k)).Nodup :=
  (inv_run ops hops inv_init).names k

/-- **list_param_inv**: along the same histories every object reachable from a list is
accepted by its own constraint (C01's invariant through the list-level routes). -/
theorem list_param_inv (ops : List Op) (hops : ∀ op ∈ ops, op.keepsNames = true) (k : Nat) :
    ∀ i ∈ (run State.init ops).lists k, ((run State.init ops).heap.get i).ok = true :=
  fun i hi => (inv_run ops hops inv_init).ok i ((inv_run ops hops inv_init).wf k i hi)

/-- non-vacuity: a history mixing the operation kinds -/
example : (names (run State.init [.add 0 ⟨"a", 1, none⟩, .add 0 ⟨"b", 2, none⟩, .copy 0 1,
    .setParam 1 0 ⟨"c", 0, none⟩, .shareAll 1 0]).heap
    ((run State.init [.add 0 ⟨"a", 1, none⟩, .add 0 ⟨"b", 2, none⟩, .copy 0 1,
    .setParam 1 0 ⟨"c", 0, none⟩, .shareAll 1 0]).lists 1)) = ["c", "b", "a"] := by decide

/-- **add_dup_refused**: `addParameter` refuses a name that is already present and changes nothing. -/
theorem add_dup_refused (h : Store) (l : List ObjId) (p : Par) (hp : p.name ∈ names h l) :
    (addParameter h l p).err = some .bpp ∧ (addParameter h l p).heap = h ∧ (addParameter h l p).list = l := by
  rw [addParameter_dup ((hasParameter_iff h l p.name).2 hp)]
  exact ⟨rfl, rfl, rfl⟩

/-- … and accepts a new name: one fresh object holding `p` is appended, nothing else changes. -/
theorem add_new_appends (h : Store) (l : List ObjId) (p : Par) (hp : p.name ∉ names h l) :
    (addParameter h l p).err = none ∧ (addParameter h l p).list = l ++ [h.next] ∧
    (addParameter h l p).heap.get h.next = p ∧ ∀ i, i ≠ h.next → (addParameter h l p).heap.get i = h.get i := by
  rw [addParameter_new ((hasParameter_false_iff h l p.name).2 hp)]
  exact ⟨rfl, rfl, by rw [get_alloc, if_pos rfl], fun i hi => by rw [get_alloc, if_neg hi]⟩

/-! ## Two-pass bulk setters: all or nothing

For each of `setParametersValues`, `matchParametersValues`, `setAllParametersValues`:
* `bulk_atomic_*` (no hypothesis at all — any heap, any lists, shared objects, even duplicated
  names): the call succeeds exactly when the first pass accepts every matching value; otherwise it
  raises (ConstraintException / ParameterNotFoundException) and the heap is *unchanged*;
* `bulk_applies_*` (names of the iterated list pairwise different, which `names_unique` gives for
  every reachable list): on success every matching target holds the source's value, every other
  object is untouched, no name or constraint changed, nothing was allocated. -/

theorem bulk_atomic_setParametersValues (h : Store) (l src : List ObjId) :
    let r := setParametersValues h l src
    (r.err = none ↔
      ∀ s ∈ src, ∀ t, find? h l (nameOf h s) = some t → (h.get t).rejects (h.get s).value = false) ∧
    (∀ e, r.err = some e → e = .constraint ∧ r.heap = h) :=
  setParametersValues_atomic h l src

theorem bulk_applies_setParametersValues (h : Store) (l src : List ObjId) (nd : (names h src).Nodup)
    (ok : (setParametersValues h l src).err = none) :
    let r := setParametersValues h l src
    SameShape h r.heap ∧ r.heap.next = h.next ∧
    (∀ s ∈ src, ∀ t, find? h l (nameOf h s) = some t → (r.heap.get t).value = (h.get s).value) ∧
    (∀ i, (∀ s ∈ src, find? h l (nameOf h s) ≠ some i) → r.heap.get i = h.get i) :=
  setParametersValues_full nd ok

theorem bulk_atomic_matchParametersValues (h : Store) (l src : List ObjId) :
    let r := matchParametersValues h l src
    (r.err = none ↔
      ∀ s ∈ src, ∀ t, find? h l (nameOf h s) = some t → (h.get t).rejects (h.get s).value = false) ∧
    (∀ e, r.err = some e → e = .constraint ∧ r.heap = h ∧ r.pos = []) :=
  matchParametersValues_atomic h l src

/-- `bulk_applies` for `matchParametersValues`, with the first half of **match_flag_exact**: the out-vector is
`diffPos`, i.e. exactly the source positions whose target value differed before the call
(`mem_diffPos`, `diffPos_sorted`); the returned flag is `pos ≠ []` by construction. -/
theorem bulk_applies_matchParametersValues (h : Store) (l src : List ObjId) (nd : (names h src).Nodup)
    (ok : (matchParametersValues h l src).err = none) :
    let r := matchParametersValues h l src
    r.pos = diffPos h l 0 src ∧ SameShape h r.heap ∧ r.heap.next = h.next ∧
    (∀ s ∈ src, ∀ t, find? h l (nameOf h s) = some t → (r.heap.get t).value = (h.get s).value) ∧
    (∀ i, (∀ s ∈ src, find? h l (nameOf h s) ≠ some i) → r.heap.get i = h.get i) :=
  matchParametersValues_full nd ok

/-- **match_flag_exact**, read-out: a position is reported iff it is a source position whose name
is in the target list and whose value differed from the target's before the call; positions are
reported in increasing order, each once. -/
theorem match_flag_exact (h : Store) (l src : List ObjId) (nd : (names h src).Nodup)
    (ok : (matchParametersValues h l src).err = none) :
    let r := matchParametersValues h l src
    (∀ p, p ∈ r.pos ↔ ∃ s t, src[p]? = some s ∧ find? h l (nameOf h s) = some t ∧
        (h.get t).value ≠ (h.get s).value) ∧
    r.pos.Pairwise (· < ·) := by
  dsimp only
  rw [(matchParametersValues_full nd ok).1]
  exact ⟨fun p => (mem_diffPos h l src 0 p).trans ⟨fun x => x.2, fun x => ⟨Nat.zero_le _, x⟩⟩,
    diffPos_sorted h l src 0⟩

/-- `testParametersValues` raises like the setters and otherwise answers whether some position differs -/
theorem test_flag_exact (h : Store) (l src : List ObjId) :
    testParametersValues h l src =
      match checkSome h l src with
      | some e => .error e
      | none => .ok (!(diffPos h l 0 src).isEmpty) := by
  unfold testParametersValues
  cases checkSome h l src with
  | none => simp only [testSome_eq h l src 0]
  | some e => rfl

theorem bulk_atomic_setAllParametersValues (h : Store) (l src : List ObjId) :
    let r := setAllParametersValues h l src
    (r.err = none ↔
      ∀ i ∈ l, ∃ j, find? h src (nameOf h i) = some j ∧ (h.get i).rejects (h.get j).value = false) ∧
    (∀ e, r.err = some e → (e = .notfound ∨ e = .constraint) ∧ r.heap = h) :=
  setAllParametersValues_atomic h l src

theorem bulk_applies_setAllParametersValues (h : Store) (l src : List ObjId) (nd : (names h l).Nodup)
    (ok : (setAllParametersValues h l src).err = none) :
    let r := setAllParametersValues h l src
    SameShape h r.heap ∧ r.heap.next = h.next ∧
    (∀ i ∈ l, ∀ j, find? h src (nameOf h i) = some j → (r.heap.get i).value = (h.get j).value) ∧
    (∀ i, i ∉ l → r.heap.get i = h.get i) :=
  setAllParametersValues_full nd ok

/-- non-vacuity of `bulk_atomic`: a rejected entry in second position, nothing changes -/
example :
    let s := run State.init [.add 0 ⟨"a", 1, some ⟨.fin 0, .fin 2, true, true⟩⟩, .add 0 ⟨"b", 1, some ⟨.fin 0, .fin 2, true, true⟩⟩,
                              .add 1 ⟨"a", 2, none⟩, .add 1 ⟨"b", 3, none⟩]
    (setParametersValues s.heap (s.lists 0) (s.lists 1)).err = some .constraint := by decide

/-! ## Who can write what: frame, independence of copies, aliasing of shared sub-lists -/

/-- the observable content of register `k` -/
def obs (s : State) (k : Nat) : List Par := (s.lists k).map s.heap.get

/-- **frame**: an operation writes only objects reachable through the registers `op.writes`
(the target list; for `share…` also the list the objects come from), replaces at most the list of
`op.dest`, and never shrinks the heap.  In particular parameters not in the target list — and
lists that are only *read* as a source — are never touched. -/
theorem frame (s : State) (op : Op) :
    (∀ i, i < s.heap.next → (∀ r ∈ op.writes, i ∉ s.lists r) → (step s op).1.heap.get i = s.heap.get i) ∧
    (∀ r, op.dest ≠ some r → (step s op).1.lists r = s.lists r) ∧
    s.heap.next ≤ (step s op).1.heap.next := by
  obtain ⟨f, d⟩ := frame_step s op
  refine ⟨fun i hi hw => f.same i hi ?_, d, f.next_le⟩
  simp only [List.mem_flatMap, not_exists, not_and]
  exact hw

/-- a register that shares no object with the written registers and is not the destination
shows the same content after the operation -/
theorem obs_unchanged (s : State) (inv : Inv s) (op : Op) (k : Nat)
    (disj : ∀ r ∈ op.writes, ∀ i ∈ s.lists r, i ∉ s.lists k) (hd : op.dest ≠ some k) :
    obs (step s op).1 k = obs s k := by
  obtain ⟨f1, f2, _⟩ := frame s op
  unfold obs
  rw [f2 k hd]
  apply List.map_congr_left
  intro i hi
  exact f1 i (inv.wf k i hi) (fun r hr c => disj r hr i c hi)

/-- **copy_independent**: the copy (constructor or assignment) shows the same names, values and
constraints as the source, consists of fresh objects that no other register holds, and leaves
every existing object and every other register as it was. -/
theorem copy_independent (s : State) (inv : Inv s) (k j : Nat) :
    let s' := (step s (.copy k j)).1
    obs s' j = obs s k ∧ (∀ i ∈ s'.lists j, s.heap.next ≤ i) ∧ (s'.lists j).Nodup ∧
    (∀ r, r ≠ j → ∀ i ∈ s'.lists j, i ∉ s'.lists r) ∧
    (∀ r, r ≠ j → s'.lists r = s.lists r) ∧ (∀ i, i < s.heap.next → s'.heap.get i = s.heap.get i) := by
  obtain ⟨c1, c2, c3, c4, c5⟩ := cloned_register (s' := (step s (.copy k j)).1) inv k j rfl rfl
  refine ⟨c1, c2, c3, fun r hr i hi c => ?_, c4, c5⟩
  rw [c4 r hr] at c
  exact Nat.lt_irrefl _ (Nat.lt_of_lt_of_le (inv.wf r i c) (c2 i hi))

/-- … hence a later operation that writes through the copy only cannot change what the source
shows, and vice versa (any operation, any arguments; `k ≠ j`). -/
theorem copy_then_write (s : State) (inv : Inv s) (k j : Nat) (hkj : k ≠ j) (op : Op) :
    let s' := (step s (.copy k j)).1
    ((∀ r ∈ op.writes, r = j) → op.dest ≠ some k → obs (step s' op).1 k = obs s' k) ∧
    ((∀ r ∈ op.writes, r = k) → op.dest ≠ some j → obs (step s' op).1 j = obs s' j) := by
  have inv' : Inv (step s (.copy k j)).1 := inv_step inv _ rfl
  obtain ⟨_, _, _, p4, _, _⟩ := copy_independent s inv k j
  refine ⟨fun hw hd => obs_unchanged _ inv' op k ?_ hd, fun hw hd => obs_unchanged _ inv' op j ?_ hd⟩
  · intro r hr i hi c; rw [hw r hr] at hi; exact p4 k hkj i hi c
  · intro r hr i hi c; rw [hw r hr] at hi; exact p4 k hkj i c hi

/-- **sublist_independent**: `createSubList(names)` (all names present, pairwise different)
returns fresh clones of exactly the named entries, in the requested order; nothing existing changes.
Conversely a call that succeeds found every name (`createSubListNames_found`). -/
theorem sublist_independent_names (h : Store) (l : List ObjId) (ns : List String) (v : Valid h l)
    (hns : ns.Nodup) (all : ∀ n ∈ ns, find? h l n ≠ none) :
    let r := createSubListNames h l [] ns
    let sel := ns.filterMap (find? h l)
    r.err = none ∧ r.list = List.range' h.next sel.length ∧ r.list.map r.heap.get = sel.map h.get ∧
    names h sel = ns ∧ (∀ i, i < h.next → r.heap.get i = h.get i) := by
  have hsel := names_filterMap_find? all
  obtain ⟨a, b, c, d⟩ := addParameters_nil_spec _ h (valid_filterMap_find? v ns) (hsel.symm ▸ hns)
  rw [createSubListNames_eq l ns h [] v (Valid.nil _) all]
  exact ⟨a, b, c, hsel, d⟩

/-- … and `createSubList(indices)` for pairwise different indices: fresh clones of the entries at the
in-range indices, in the requested order (out-of-range indices are skipped by the code). -/
theorem sublist_independent_idx (h : Store) (l : List ObjId) (idx : List Nat) (v : Valid h l)
    (nd : (names h l).Nodup) (hidx : idx.Nodup) :
    let r := createSubListIdx h l [] idx
    let sel := idx.filterMap (l[·]?)
    r.err = none ∧ r.list = List.range' h.next sel.length ∧ r.list.map r.heap.get = sel.map h.get ∧
    (∀ i, i < h.next → r.heap.get i = h.get i) := by
  rw [createSubListIdx_eq]
  exact addParameters_nil_spec _ h (valid_filterMap_idx v idx) (nodup_sel_idx nd hidx)

/-- **share_aliases**: `shareSubList(names)` / `shareSubList(indices)` (pairwise different
arguments) return *the very same object ids* and do not touch the heap — so a later write through
either list is a write to the one object both hold. -/
theorem share_aliases_names (h : Store) (l : List ObjId) (ns : List String) (v : Valid h l)
    (hns : ns.Nodup) (all : ∀ n ∈ ns, find? h l n ≠ none) :
    shareSubListNames h l [] ns = { heap := h, list := ns.filterMap (find? h l) } := by
  rw [shareSubListNames_eq l ns h [] v (Valid.nil _) all,
    shareParameters_spec _ h [] ((names_filterMap_find? all).symm ▸ hns)]
  rfl

theorem share_aliases_idx (h : Store) (l : List ObjId) (idx : List Nat)
    (nd : (names h l).Nodup) (hidx : idx.Nodup) :
    shareSubListIdx h l [] idx = { heap := h, list := idx.filterMap (l[·]?) } := by
  rw [shareSubListIdx_eq, shareParameters_spec _ h [] (nodup_sel_idx nd hidx)]
  rfl

/-- sharing a parameter whose name is new appends *that object*; the heap is untouched -/
theorem share_new_aliases (h : Store) (l : List ObjId) (i : ObjId) (hn : nameOf h i ∉ names h l) :
    shareParameter h l i = { heap := h, list := l ++ [i] } := by
  simp [shareParameter, (hasParameter_false_iff h l _).2 hn]

/-- **include_share_collision_updates**: sharing (or including) a parameter whose name is already
present leaves the list as it is and becomes `setParameterValue(name, value)` on the entry of that
name (`setParameterValue_exact` says what that does); hence names stay unique. -/
theorem share_collision_updates (h : Store) (l : List ObjId) (i : ObjId) (hc : nameOf h i ∈ names h l) :
    shareParameter h l i =
      { heap := (setParameterValue h l (nameOf h i) (h.get i).value).heap, list := l,
        err := (setParameterValue h l (nameOf h i) (h.get i).value).err } := by
  simp [shareParameter, (hasParameter_iff h l _).2 hc]

theorem include_collision_updates (h : Store) (l : List ObjId) (i : ObjId) (rest : List ObjId)
    (hc : nameOf h i ∈ names h l) :
    includeParameters h l (i :: rest) =
      match (setParameterValue h l (nameOf h i) (h.get i).value).err with
      | some e => { heap := (setParameterValue h l (nameOf h i) (h.get i).value).heap, list := l, err := some e }
      | none => includeParameters (setParameterValue h l (nameOf h i) (h.get i).value).heap l rest := by
  rw [includeParameters, if_pos ((hasParameter_iff h l _).2 hc)]; rfl

/-- including a parameter whose name is new appends a fresh clone -/
theorem include_new_clones (h : Store) (l : List ObjId) (i : ObjId) (rest : List ObjId)
    (hn : nameOf h i ∉ names h l) :
    includeParameters h l (i :: rest) =
      includeParameters (h.alloc (h.get i)).1 (l ++ [h.next]) rest := by
  simp [includeParameters, (hasParameter_false_iff h l _).2 hn]

/-- exact effect of `setParameterValue(name, v)`: unknown name → ParameterNotFoundException; value
rejected by the entry's constraint → ConstraintException; in both cases nothing changes; otherwise
exactly the first entry of that name holds `v`. -/
theorem setParameterValue_exact (h : Store) (l : List ObjId) (n : String) (v : Rat) :
    let r := setParameterValue h l n v
    match find? h l n with
    | none => r.err = some .notfound ∧ r.heap = h
    | some t =>
      if (h.get t).rejects v = true ∧ v ≠ (h.get t).value then r.err = some .constraint ∧ r.heap = h
      else r.err = none ∧ (r.heap.get t) = { h.get t with value := v } ∧ ∀ i, i ≠ t → r.heap.get i = h.get i :=
  setParameterValue_spec h l n v

/-! ### the bulk forms, exactly (two lists with pairwise different names)

`mergePrefix` = the source entries before the first collision whose value the target refuses
(everything, when none is refused); `mergeNews` = those of them whose name is new to the list. -/

/-- **include_exact**: `includeParameters` processes `mergePrefix`; it raises ConstraintException
iff that is not the whole source; colliding entries become value updates of their targets
(`expectedSome`), new names are appended as fresh clones in order, nothing else changes. -/
theorem include_exact (h : Store) (l src : List ObjId) (v : Valid h l) (vs : Valid h src)
    (ndl : (names h l).Nodup) (nds : (names h src).Nodup) :
    let r := includeParameters h l src
    r.err = (if (mergePrefix h l src).length = src.length then none else some .constraint) ∧
    r.list = l ++ List.range' h.next (mergeNews h l src).length ∧
    r.heap.next = h.next + (mergeNews h l src).length ∧
    (List.range' h.next (mergeNews h l src).length).map r.heap.get = (mergeNews h l src).map h.get ∧
    (∀ i, i < h.next → r.heap.get i = expectedSome h l (mergePrefix h l src) i) :=
  includeParameters_spec src h l v vs nds

/-- **share_all_exact**: the same for `shareParameters`, except that new names are appended as
*the source's own objects* and nothing is allocated. -/
theorem share_all_exact (h : Store) (l src : List ObjId) (ndl : (names h l).Nodup) (nds : (names h src).Nodup) :
    let r := shareParameters h l src
    r.err = (if (mergePrefix h l src).length = src.length then none else some .constraint) ∧
    r.list = l ++ mergeNews h l src ∧ r.heap.next = h.next ∧
    (∀ i, r.heap.get i = expectedSome h l (mergePrefix h l src) i) :=
  shareParameters_full_spec src h l nds

/-- **add_all_exact**: `addParameters` appends fresh clones of the entries before the first name
that is already present, then raises ParameterException; existing objects are untouched. -/
theorem add_all_exact (h : Store) (l src : List ObjId) (v : Valid h l) (vs : Valid h src)
    (ndl : (names h l).Nodup) (nds : (names h src).Nodup) :
    let r := addParameters h l src
    r.err = (if (addPrefix h l src).length = src.length then none else some .bpp) ∧
    r.list = l ++ List.range' h.next (addPrefix h l src).length ∧
    r.heap.next = h.next + (addPrefix h l src).length ∧
    (List.range' h.next (addPrefix h l src).length).map r.heap.get = (addPrefix h l src).map h.get ∧
    (∀ i, i < h.next → r.heap.get i = h.get i) :=
  addParameters_full_spec src h l v vs nds

/-- **whole_parameter_assignment**: `matchParameters` / `setParameters` / `setAllParameters` copy
value *and constraint* of the source entry into the target found by that name; names never change
(so they keep `names_unique`); the latter two stop with ParameterNotFoundException at the first
unknown name, keeping what was already assigned (the library before its repair; the repaired, atomic
routines are `setParametersA` / `setAllParametersA`, `whole_assignment_atomic` in `Props/C02Complete.lean`). -/
theorem whole_parameter_assignment (h : Store) (l src : List ObjId) :
    ((names h src).Nodup →
      (matchParameters h l src).err = none ∧ (∀ x, nameOf (matchParameters h l src).heap x = nameOf h x) ∧
      ∀ i, (matchParameters h l src).heap.get i = expectedPar h l src i) ∧
    ((names h src).Nodup →
      (setParameters h l src).err =
        (if (knownPrefix h l src).length = src.length then none else some .notfound) ∧
      (∀ x, nameOf (setParameters h l src).heap x = nameOf h x) ∧
      ∀ i, (setParameters h l src).heap.get i = expectedPar h l (knownPrefix h l src) i) ∧
    ((names h l).Nodup →
      (setAllParameters h src l).err =
        (if (l.takeWhile (fun i => hasParameter h src (nameOf h i))).length = l.length then none
         else some .notfound) ∧
      (∀ x, nameOf (setAllParameters h src l).heap x = nameOf h x) ∧
      ∀ i, (setAllParameters h src l).heap.get i =
        expectedAllPar h (l.takeWhile (fun i => hasParameter h src (nameOf h i))) src i) := by
  have m := fun src => matchParameters_names l src h
  refine ⟨fun nd => ⟨(m src).1, (m src).2.2, matchParameters_get l src h nd⟩, fun nd => ?_,
    fun nd => ⟨(setAllParameters_shape src l h).1, (setAllParameters_shape src l h).2.2, setAllParameters_get src l h nd⟩⟩
  rw [setParameters_eq]
  exact ⟨rfl, (m _).2.2,
    matchParameters_get l _ h ((names_sublist (List.takeWhile_sublist _)).nodup nd)⟩

/-! ## Deletion and lookups address exactly the named entries -/

/-- **delete_indices_exact**: for a repeated-free index list, if every index is in range the
survivors are exactly the entries at the other positions, in their order (`keepFrom`); if some
index is out of range, IndexOutOfBoundsException is raised before anything is erased. -/
theorem delete_indices_exact (l : List ObjId) (idx : List Nat) (nd : idx.Nodup) :
    ((∀ d ∈ idx, d < l.length) → deleteParametersIdx l idx = (keepFrom idx 0 l, none)) ∧
    ((∃ d ∈ idx, l.length ≤ d) → deleteParametersIdx l idx = (l, some .index)) :=
  ⟨deleteParametersIdx_spec l idx nd, deleteParametersIdx_out l idx⟩

/-- what `keepFrom` keeps: position `p` of the original list survives iff `p ∉ idx` -/
theorem keepFrom_mem (idx : List Nat) (l : List ObjId) (hl : l.Nodup) (x : ObjId) :
    x ∈ keepFrom idx 0 l ↔ ∃ p, l[p]? = some x ∧ p ∉ idx := by
  rw [keepFrom_eq, List.mem_map]
  constructor
  · rintro ⟨⟨y, p⟩, hm, rfl⟩
    obtain ⟨hz, hd⟩ := List.mem_filter.1 hm
    exact ⟨p, List.mk_mem_zipIdx_iff_getElem?.1 hz, of_decide_eq_true hd⟩
  · rintro ⟨p, hp, hi⟩
    exact ⟨(x, p), List.mem_filter.2 ⟨List.mk_mem_zipIdx_iff_getElem?.2 hp, decide_eq_true hi⟩, rfl⟩

/-- out-of-property behaviour kept on record: with a repeated index the loop is *not* atomic
(`[a,b]`, indices `{1,1}`: `b` is erased, then IndexOutOfBounds is raised) -/
theorem delete_indices_repeated_witness :
    deleteParametersIdx [10, 11] [1, 1] = ([10], some .index) := by decide

/-- **delete_name_exact**: `deleteParameter(name)` removes the (first) entry of that name and
nothing else, or raises ParameterNotFoundException when the name is absent. -/
theorem delete_name_exact (h : Store) (l : List ObjId) (n : String) :
    (∀ l', deleteParameter h l n = .ok l' → names h l' = (names h l).erase n ∧ l'.Sublist l ∧ n ∈ names h l) ∧
    (∀ e, deleteParameter h l n = .error e → e = .notfound ∧ n ∉ names h l) := by
  obtain ⟨a, b⟩ := deleteParameter_names h l n
  exact ⟨fun l' e => ⟨(a l' e).1, deleteParameter_sublist e, (a l' e).2⟩, b⟩

/-- **lookup_exact**: `whichParameterHasName` answers the first position carrying the name (the
only one, by `names_unique`), or raises when there is none; `hasParameter` is membership. -/
theorem lookup_exact (h : Store) (l : List ObjId) (n : String) :
    (∀ k, whichParameterHasName h l n = .ok k ↔
      (names h l)[k]? = some n ∧ ∀ j, j < k → (names h l)[j]? ≠ some n) ∧
    (whichParameterHasName h l n = .error .notfound ↔ n ∉ names h l) ∧
    (hasParameter h l n = true ↔ n ∈ names h l) :=
  ⟨which_exact h l n, which_notfound h l n, hasParameter_iff h l n⟩

/-! ## The owner (AbstractParametrizable) forwards to its list, then notifies -/

/-- **owner_forwards**: `setAllParametersValues` and `setParametersValues` of the owner have exactly
the effect and the outcome of the list-level call; `fireParameterChanged` is called iff the call
succeeded, with the source list (`matchParametersValues`: `owner_match_forwards`). -/
theorem owner_forwards (h : Store) (l src : List ObjId) :
    ((apSetAllParametersValues h l src).heap = (setAllParametersValues h l src).heap ∧
     (apSetAllParametersValues h l src).err = (setAllParametersValues h l src).err ∧
     (apSetAllParametersValues h l src).fired =
        if (setAllParametersValues h l src).err = none then some src else none) ∧
    ((apSetParametersValues h l src).heap = (setParametersValues h l src).heap ∧
     (apSetParametersValues h l src).err = (setParametersValues h l src).err ∧
     (apSetParametersValues h l src).fired =
        if (setParametersValues h l src).err = none then some src else none) :=
  ⟨apSetAllParametersValues_spec h l src, apSetParametersValues_spec h l src⟩

/-- the owner's `setParameterValue(name, v)`: outcome and effect of `setParameterValue(prefix+name, v)`
on its list; on success the notification carries one fresh object, a copy of the updated parameter -/
theorem owner_set_value_forwards (h : Store) (l : List ObjId) (pre n : String) (v : Rat) (vl : Valid h l) :
    let r := apSetParameterValue h l pre n v
    r.err = (setParameterValue h l (pre ++ n) v).err ∧
    (∀ t ∈ l, r.heap.get t = (setParameterValue h l (pre ++ n) v).heap.get t) ∧
    (r.err ≠ none → r.fired = none) ∧
    (r.err = none → ∃ t, find? h l (pre ++ n) = some t ∧ r.fired = some [h.next] ∧
      r.heap.get h.next = r.heap.get t) := by
  obtain ⟨a, b, c, d⟩ := apSetParameterValue_spec h l pre n v vl
  exact ⟨a, b, fun e => (c e).1, d⟩

/-- the owner's `matchParametersValues`: effect of the list-level call; `fireParameterChanged` is
called iff something changed, with the *shared* sub-list of the source at the updated positions -/
theorem owner_match_forwards (h : Store) (l src : List ObjId) (nd : (names h src).Nodup)
    (ok : (matchParametersValues h l src).err = none) :
    let m := matchParametersValues h l src
    let r := apMatchParametersValues h l src
    r.heap = m.heap ∧ r.err = none ∧ r.flag = decide (m.pos ≠ []) ∧
    r.fired = if m.pos = [] then none else some (m.pos.filterMap (src[·]?)) := by
  obtain ⟨a, b, c, _⟩ := apMatchParametersValues_spec h l src nd
  exact ⟨a, b.trans ok, c ok⟩

/-! ## The model passes the check that is run on the implementation

`checkStep` is what the driver evaluates on every (state before, operation, answer, state after)
reconstructed from the *implementation's* answers; the clauses are Boolean forms of the theorems
above (`clauseNames` ↔ `names_unique`, `clauseAtomic` ↔ `bulk_atomic_*`, `clauseApplies` ↔
`bulk_applies_*`, `clauseMatch` ↔ `match_flag_exact` / `owner_forwards`, `clauseFresh` ↔
`copy_independent` / `sublist_independent_*`, `clauseShare` ↔ `share_aliases_*`, `clauseDelete` ↔
`delete_indices_exact` / `delete_name_exact`, `clauseAdd` ↔ `add_dup_refused`, `clauseFrame` ↔
`frame`, `clauseLookup` ↔ `lookup_exact`, `clauseUpdate` ↔ `setParameterValue_exact` /
`share_collision_updates`, `clauseDeleteNames` ↔ `deleteParameters_spec`, `clauseMerge` ↔
`include_exact` / `share_all_exact` / `add_all_exact`, `clauseAssign` ↔ `whole_parameter_assignment`,
`clauseOk` ↔ `list_param_inv`, `clauseNotify` ↔ `owner_forwards` / `owner_set_value_forwards`). -/

/-- **check_sound**: from every state satisfying the invariant, every operation of the model
satisfies every clause, for any number `n` of observed registers. -/
theorem check_sound (n : Nat) (s : State) (inv : Inv s) (op : Op) :
    checkStep n s op (step s op).2.out (step s op).2.fired (step s op).1 = none := by
  simp only [checkStep, clauseNames_sound n inv op, clauseOk_sound n inv op, clauseAtomic_sound n inv op,
    clauseFrame_sound n s op, clauseApplies_sound inv op, clauseMatch_sound inv op, clauseFresh_sound inv op,
    clauseShare_sound inv op, clauseDelete_sound op, clauseAdd_sound op, clauseLookup_sound op,
    clauseUpdate_sound inv op, clauseDeleteNames_sound op, clauseMerge_sound inv op, clauseAssign_sound inv op,
    clauseNotify_sound inv op]
  rfl

/-- … hence along every history from the empty machine (without `setNamespace`). -/
theorem check_sound_run (n : Nat) (ops : List Op) (hops : ∀ op ∈ ops, op.keepsNames = true) (op : Op) :
    let s := run State.init ops
    checkStep n s op (step s op).2.out (step s op).2.fired (step s op).1 = none :=
  check_sound n _ (inv_run ops hops inv_init) op

/-! ## Two defects of the unchanged tree (both repaired in the library; further ones in `Props/C02Complete.lean`) -/

/-- before the repair, `setParameter(1, Parameter("a"))` on `[a, b]` gave the names `[a, a]` -/
theorem setParameter_unrepaired_dup_witness :
    let s := run State.init [.add 0 ⟨"a", 1, none⟩, .add 0 ⟨"b", 2, none⟩]
    let r := setParameterUnrepaired s.heap (s.lists 0) 1 ⟨"a", 3, none⟩
    r.err = none ∧ ¬ (names r.heap r.list).Nodup := by decide

/-- before the repair, `createSubList({0,0})` gave a sub-list with the names `[a, a]` -/
theorem createSubListIdx_unrepaired_dup_witness :
    let s := run State.init [.add 0 ⟨"a", 1, none⟩]
    let r := createSubListIdxUnrepaired s.heap (s.lists 0) [] [0, 0]
    r.err = none ∧ ¬ (names r.heap r.list).Nodup := by decide

/-- outside the property's operations, kept on record: `setNamespace` renames parameter objects
in place, so a list that *shares* such an object can end up with duplicated names (replayed on the
real code: corpus/C02/note-setNamespace-shared-object.txt).  This is why `Op.keepsNames` excludes it. -/
theorem setNamespace_breaks_unique_witness :
    let s := run State.init [.add 0 ⟨"a", 1, none⟩, .add 0 ⟨"p.a", 2, none⟩, .share 4 0 "a", .apNamespace 4 "p."]
    ¬ (names s.heap (s.lists 0)).Nodup := by decide

end Bpp.C02
