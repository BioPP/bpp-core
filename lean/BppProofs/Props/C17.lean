import BppProofs.Lemmas.Number
import BppProofs.Lemmas.NumberToInt
import Mathlib.Tactic.NormNum
/-!
# C17 — write-then-read round trips and exact grammars: numbers

Property theorems only (helper lemmas: `Lemmas/Number*.lean`).  Model: `BppModel/Text/Number.lean`,
the code of `TextTools::isDecimalNumber / isDecimalInteger / toDouble / toInt` after the repair
"fix: isDecimalNumber/isDecimalInteger require at least one mantissa digit"; `…Old` is the code as found.

`Decimal dec sci s` is the strict grammar  `-`? digits* (`dec` digits*)? (`sci` [+-]? digits+)?  with
at least one mantissa digit, given declaratively as `∃ p : DecParts, p.WF ∧ s = p.render dec sci`;
`p.value : Rat` is the value it assigns.  The final decimal→binary rounding (strtod) is not modelled.
-/
namespace Bpp.C17
open Bpp.Text Bpp.Text.Number

/-! ## defects of the code as found (negations on concrete witnesses) -/

/-- the code as found accepted a lone sign, a lone separator and a lone exponent, none of which
is in the grammar (`accepts_iff_grammar` fails for the old code) -/
theorem old_accepts_lone_sign :
    isDecimalNumberOld '.' 'e' ['-'] = true ∧ isDecimalNumberOld '.' 'e' ['.'] = true
    ∧ isDecimalNumberOld '.' 'e' ['e', '5'] = true ∧ toDoubleOld '.' 'e' ['-'] = some 0 := by
  simp [toDoubleOld, isDecimalNumberOld, decLoopOld, isEmptyStr, isSpace, streamDouble, streamUnsigned,
    streamTail, isDigit]

theorem old_witnesses_not_decimal :
    ¬ Decimal '.' 'e' ['-'] ∧ ¬ Decimal '.' 'e' ['.'] ∧ ¬ Decimal '.' 'e' ['e', '5'] := by
  have hs : SaneChars '.' 'e' := by unfold SaneChars; decide
  refine ⟨?_, ?_, ?_⟩ <;>
  · rintro ⟨p, hwf, hr⟩
    have := parseDecimal_complete hs p hwf
    rw [← hr] at this
    simp [parseDecimal, parseUnsigned, parseTail, isDigit, List.takeWhile, List.dropWhile] at this

/-! ## the repaired code -/

/-- `isDecimalNumber` accepts exactly the strings of the strict decimal grammar -/
theorem accepts_iff_grammar {dec sci : Char} (hs : SaneChars dec sci) (s : Str) :
    isDecimalNumber dec sci s = true ↔ Decimal dec sci s := by
  constructor
  · intro h
    rw [isDecimalNumber_eq_parse hs] at h
    cases hp : parseDecimal dec sci s with
    | none => rw [hp] at h; cases h
    | some p => exact ⟨p, parseDecimal_sound hs hp⟩
  · rintro ⟨p, hwf, rfl⟩
    exact isDecimalNumber_render hs p hwf

/-- the default characters are usable -/
theorem sane_default : SaneChars '.' 'e' ∧ SaneChars '.' 'E' := by unfold SaneChars; decide

/-- the grammar is unambiguous: the parts of a numeral are determined by its text -/
theorem grammar_unambiguous {dec sci : Char} (hs : SaneChars dec sci) (p q : DecParts)
    (hp : p.WF) (hq : q.WF) (h : p.render dec sci = q.render dec sci) : p = q := by
  have h1 := parseDecimal_complete hs p hp
  have h2 := parseDecimal_complete hs q hq
  rw [h] at h1; rw [h1] at h2; exact Option.some.inj h2

/-- `toDouble` returns the value the grammar assigns (as a rational, before strtod's rounding),
whatever usable decimal separator and exponent character the caller chose (the full statement,
since the repair "fix: TextTools::toDouble validated with the caller's decimal separator …") -/
theorem toDouble_value {dec sci : Char} (hs : SaneChars dec sci) (p : DecParts) (hwf : p.WF) :
    toDouble dec sci (p.render dec sci) = some p.value := by
  have hs' : SaneChars '.' 'e' := by unfold SaneChars; decide
  have hp' := parseDecimal_complete hs' p hwf
  simp [toDouble, isDecimalNumber_render hs p hwf, map_trChar_render hs p hwf,
    streamDouble_of_parse (Or.inl rfl) hp']

example : SaneChars ',' 'x' ∧ SaneChars 'e' '.' := by unfold SaneChars; decide

/-- the code before that repair handed the accepted text to the stream as it was: "1,5" with
separator `,` is accepted, its value is 3/2, the conversion gave 1 -/
theorem toDouble_custom_separator_witness :
    (⟨false, ['1'], true, ['5'], none⟩ : DecParts).WF ∧
    (⟨false, ['1'], true, ['5'], none⟩ : DecParts).render ',' 'e' = ['1', ',', '5'] ∧
    (⟨false, ['1'], true, ['5'], none⟩ : DecParts).value = 3 / 2 ∧
    toDoubleNoTr ',' 'e' ['1', ',', '5'] = some 1 := by
  have hs : SaneChars ',' 'e' := by unfold SaneChars; decide
  have hwf : (⟨false, ['1'], true, ['5'], none⟩ : DecParts).WF := by
    unfold DecParts.WF AllDigits; decide +kernel
  have hacc : isDecimalNumber ',' 'e' ['1', ',', '5'] = true :=
    (accepts_iff_grammar hs _).mpr ⟨_, hwf, rfl⟩
  refine ⟨hwf, rfl, by decide +kernel, ?_⟩
  simp only [toDoubleNoTr, hacc, if_true]
  decide +kernel

/-- … and raises for everything else -/
theorem toDouble_raises {dec sci : Char} (hs : SaneChars dec sci) (s : Str) (h : ¬ Decimal dec sci s) :
    toDouble dec sci s = none := by
  have : isDecimalNumber dec sci s = false := by
    cases hh : isDecimalNumber dec sci s
    · rfl
    · exact absurd ((accepts_iff_grammar hs s).mp hh) h
  simp [toDouble, this]

/-- non-vacuity: "-12.50e-3" is in the grammar, with value -0.0125 -/
example : (⟨true, ['1', '2'], true, ['5', '0'], some (some '-', ['3'])⟩ : DecParts).WF
    ∧ (⟨true, ['1', '2'], true, ['5', '0'], some (some '-', ['3'])⟩ : DecParts).render '.' 'e'
        = ['-', '1', '2', '.', '5', '0', 'e', '-', '3'] := by
  unfold DecParts.WF AllDigits
  decide +kernel

/-! ## integers -/

/-- `isDecimalInteger` accepts exactly  `-`? digits+ (`sci` `+`? digits+)?  -/
theorem integer_accepts_iff_grammar {sci : Char} (hs : isDigit sci = false) (s : Str) :
    isDecimalInteger sci s = true ↔ DecInteger sci s := by
  constructor
  · intro h
    rw [isDecimalInteger_eq_parse hs] at h
    cases hp : parseInteger sci s with
    | none => rw [hp] at h; cases h
    | some p => exact ⟨p, parseInteger_sound hs hp⟩
  · rintro ⟨p, hwf, rfl⟩
    exact isDecimalInteger_render hs p hwf

theorem toInt_raises {sci : Char} (hs : isDigit sci = false) (s : Str) (h : ¬ DecInteger sci s) :
    toInt sci s = none := by
  have : isDecimalInteger sci s = false := by
    cases hh : isDecimalInteger sci s
    · rfl
    · exact absurd ((integer_accepts_iff_grammar hs s).mp hh) h
  simp [toInt, this]

/-- **`toInt` returns the value the grammar assigns** (mantissa times power of ten) when it is an
`int`, and raises otherwise — the full statement, since the repair "fix: TextTools::toInt ignored the
exponent it accepts" -/
theorem toInt_value {sci : Char} (hs : isDigit sci = false) (p : IntParts) (hwf : p.WF) :
    toInt sci (p.render sci) = if intMin ≤ p.value ∧ p.value ≤ intMax then some p.value else none :=
  toInt_render hs p hwf

/-- what the code before that repair returned on a grammatical integer: the mantissa, clamped to the
`int` range (`istringstream >> int` stops at the exponent mark) -/
theorem toIntOld_reads_mantissa {sci : Char} (hs : isDigit sci = false) (p : IntParts) (hwf : p.WF) :
    toIntOld sci (p.render sci)
      = some (clampInt (if p.neg then - (digitsVal p.ip : Int) else (digitsVal p.ip : Int))) := by
  simp [toIntOld, isDecimalInteger_render hs p hwf, streamInt_of_parse hs (parseInteger_complete hs p hwf)]

/-- witness against the code as found: "1e2" is accepted, the grammar's value is 100, the old
`toInt` returned 1 -/
theorem toInt_exponent_witness :
    (⟨false, ['1'], some (false, ['2'])⟩ : IntParts).WF ∧
    (⟨false, ['1'], some (false, ['2'])⟩ : IntParts).render 'e' = ['1', 'e', '2'] ∧
    (⟨false, ['1'], some (false, ['2'])⟩ : IntParts).value = 100 ∧
    toIntOld 'e' ['1', 'e', '2'] = some 1 := by
  have hwf : (⟨false, ['1'], some (false, ['2'])⟩ : IntParts).WF := by
    unfold IntParts.WF AllDigits; decide +kernel
  refine ⟨hwf, rfl, by decide, ?_⟩
  have := toIntOld_reads_mantissa (sci := 'e') (by decide) _ hwf
  simpa [IntParts.render, digitsVal, digitVal, clampInt, intMin, intMax] using this

/-- `toInt (toString n) = n` for every `int` -/
theorem int_roundtrip {sci : Char} (hs : isDigit sci = false) (n : Int) (hlo : intMin ≤ n) (hhi : n ≤ intMax) :
    toInt sci (intToString n) = some n := by
  obtain ⟨h1, h2, h3⟩ := natDigits_spec n.natAbs
  let p : IntParts := ⟨decide (n < 0), natDigits n.natAbs, none⟩
  have hwf : p.WF := ⟨h1, h2, trivial⟩
  have hr : intToString n = p.render sci := by
    unfold intToString IntParts.render
    by_cases hn : n < 0 <;> simp [p, hn]
  have hv : p.value = n := by
    simp only [IntParts.value, p, h3]
    by_cases hn : n < 0
    · simp only [hn, decide_true, if_true]; omega
    · simp only [hn, decide_false, Bool.false_eq_true, if_false]; omega
  rw [hr, toInt_value hs p hwf, hv]
  simp [hlo, hhi]

/-- "1e2" is 100 now, and a numeral beyond the range raises (it was clamped to `INT_MAX` before) -/
example : toInt 'e' ['1', 'e', '2'] = some 100 ∧ toInt 'e' ['5', 'e', '9'] = none := by
  have hwf1 : (⟨false, ['1'], some (false, ['2'])⟩ : IntParts).WF := by
    unfold IntParts.WF AllDigits; decide +kernel
  have hwf2 : (⟨false, ['5'], some (false, ['9'])⟩ : IntParts).WF := by
    unfold IntParts.WF AllDigits; decide +kernel
  have h1 := toInt_value (sci := 'e') (by decide) _ hwf1
  have h2 := toInt_value (sci := 'e') (by decide) _ hwf2
  constructor
  · simpa [IntParts.render, IntParts.value, digitsVal, digitVal, intMin, intMax] using h1
  · simpa [IntParts.render, IntParts.value, digitsVal, digitVal, intMin, intMax] using h2

/-- non-vacuity of `int_roundtrip` at the limits -/
example : toInt 'e' (intToString intMin) = some intMin ∧ toInt 'e' (intToString intMax) = some intMax :=
  ⟨int_roundtrip (by decide) _ (by decide) (by decide), int_roundtrip (by decide) _ (by decide) (by decide)⟩

end Bpp.C17
