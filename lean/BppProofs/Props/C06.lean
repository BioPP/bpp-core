import BppProofs.Lemmas.EigenGlue
/-!
# C06 — eigen-decomposition: the logic around the iteration kernels
(src/Bpp/Numeric/Matrix/EigenValue.h, MatrixTools.h pow/exp)

Level `other`: the QL/QR iterations are not transcribed and nothing is proved about them.
-/
namespace Bpp.C06
open Bpp Bpp.EigenGlue

/-- `cdiv` inverts complex multiplication, in both branches: `(cdivr + i·cdivi)·(yr + i·yi) = xr + i·xi`
(stated as its real and imaginary parts) for every non-zero divisor. -/
theorem cdiv_spec (xr xi yr yi : ℝ) (hy : ¬ (yr = 0 ∧ yi = 0)) :
    (cdiv xr xi yr yi).1 * yr - (cdiv xr xi yr yi).2 * yi = xr ∧
    (cdiv xr xi yr yi).1 * yi + (cdiv xr xi yr yi).2 * yr = xi := by
  simp only [cdiv, nabs_eq, ScalarReal.gtb_iff]
  split
  · rename_i h
    exact (smith_div xr xi yr yi ((cdiv_branch yr yi hy).1 h) _ _ rfl rfl).2
  · rename_i h
    obtain ⟨-, h1, h2⟩ := smith_div xi xr yi yr ((cdiv_branch yr yi hy).2 h) _ _ rfl rfl
    exact ⟨by linear_combination h2, by linear_combination h1⟩

/-- no division in `cdiv` is by zero when the divisor `yr + i·yi` is non-zero (so `cdiv_spec` does not
lean on Lean's `x / 0 = 0`): in the first branch the divisors are `yr` and `d = yr + (yi/yr)·yi`, in
the second `yi` and `d = yi + (yr/yi)·yr` -/
theorem cdiv_divisors_nonzero (yr yi : ℝ) (hy : ¬ (yr = 0 ∧ yi = 0)) :
    (|yi| < |yr| → yr ≠ 0 ∧ yr + yi / yr * yi ≠ 0) ∧
    (¬ |yi| < |yr| → yi ≠ 0 ∧ yi + yr / yi * yr ≠ 0) :=
  ⟨fun h => ⟨(cdiv_branch yr yi hy).1 h, (smith_div 0 0 yr yi ((cdiv_branch yr yi hy).1 h) _ _ rfl rfl).1⟩,
   fun h => ⟨(cdiv_branch yr yi hy).2 h, (smith_div 0 0 yi yr ((cdiv_branch yr yi hy).2 h) _ _ rfl rfl).1⟩⟩

/-- both branches are reachable (non-vacuity), e.g. `1 / (2 + i)` and `1 / (1 + 2i)` -/
example : (cdiv (1 : ℝ) 0 2 1).1 * 2 - (cdiv (1 : ℝ) 0 2 1).2 * 1 = 1 := (cdiv_spec 1 0 2 1 (by norm_num)).1
example : (cdiv (1 : ℝ) 0 1 2).1 * 1 - (cdiv (1 : ℝ) 0 1 2).2 * 2 = 1 := (cdiv_spec 1 0 1 2 (by norm_num)).1

/-! ## symmetry test and dispatch (EigenValue.h:1282-1325) -/

/-- the constructor's symmetry flag is the mathematical predicate "A equals its transpose" -/
theorem symm_dispatch (n : Nat) (A : FMat ℝ) :
    isSymmetric n A = true ↔ ∀ i j, i < n → j < n → A i j = A j i := by
  simp only [isSymmetric, List.all_eq_true, List.mem_range, ScalarReal.eqb_iff]
  exact ⟨fun h i j hi hj => h j hj i hi, fun h j hj i hi => h i j hi hj⟩

/-- tred2+tql2 run exactly on symmetric input, orthes+hqr2 exactly when some pair differs -/
theorem dispatch_route (n : Nat) (A : FMat ℝ) :
    (dispatch n A = .tred2_tql2 ↔ ∀ i j, i < n → j < n → A i j = A j i) ∧
    (dispatch n A = .orthes_hqr2 ↔ ∃ i j, i < n ∧ j < n ∧ A i j ≠ A j i) := by
  have key : (∃ i j, i < n ∧ j < n ∧ A i j ≠ A j i) ↔ ¬ ∀ i j, i < n → j < n → A i j = A j i := by push Not; rfl
  rw [key, ← symm_dispatch, dispatch]
  cases isSymmetric n A <;> simp

example : isSymmetric 2 (fun i j => ((i + j : Nat) : ℝ)) = true :=
  (symm_dispatch 2 _).mpr (fun i j _ _ => by simp [Nat.add_comm])

/-! ## getD (EigenValue.h:1383-1402) -/

/-- `getD` stays inside `D_` exactly when no positive imaginary part sits in the last position and
no negative one in the first; otherwise it writes outside a row vector (undefined behaviour) -/
theorem getD_in_range_iff (n : Nat) (d e : Nat → ℝ) :
    (∃ rows, getD n d e = .ok rows) ↔ ∀ i, i < n → (0 < e i → i + 1 < n) ∧ (e i < 0 → 0 < i) := by
  refine ⟨fun ⟨rows, h⟩ => by_contra fun hne => ?_, fun h => ((getDRows_spec n d e n le_rfl).1 h).imp fun _ h => h.1⟩
  obtain ⟨i, hi⟩ := not_forall.mp hne
  obtain ⟨hi, hbad⟩ := Classical.not_imp.mp hi
  exact absurd (((getDRows_spec n d e n le_rfl).2 ⟨i, hi, hbad⟩).symm.trans h) nofun

theorem getD_ub_iff (n : Nat) (d e : Nat → ℝ) :
    getD n d e = .error .ub ↔ ∃ i, i < n ∧ ((0 < e i ∧ n ≤ i + 1) ∨ (e i < 0 ∧ i = 0)) := by
  have hbad : ∀ i, ¬ InRangeAt n e i ↔ (0 < e i ∧ n ≤ i + 1) ∨ (e i < 0 ∧ i = 0) := fun i => by
    simp only [InRangeAt, not_and_or, Classical.not_imp, not_lt, Nat.le_zero]
  simp only [← hbad]
  refine ⟨fun h => by_contra fun hne => ?_, (getDRows_spec n d e n le_rfl).2⟩
  obtain ⟨rows, hr⟩ := (getD_in_range_iff n d e).mpr fun i hi => not_not.mp fun hi' => hne ⟨i, hi, hi'⟩
  exact absurd (hr.symm.trans h) nofun

/-- when all writes are in range, `getD` returns `n` rows whose entries are exactly the documented
ones: `d i` on the diagonal, a positive `e i` to the right of it, a negative `e i` to the left -/
theorem getD_entries (n : Nat) (d e : Nat → ℝ)
    (hr : ∀ i, i < n → (0 < e i → i + 1 < n) ∧ (e i < 0 → 0 < i)) :
    ∃ rows, getD n d e = .ok rows ∧ rows.length = n ∧
      ∀ i j, i < n → j < n → entry? rows i j = some (blockEntry d e i j) :=
  (getDRows_spec n d e n le_rfl).1 hr

/-- **getD_blocks.** For well-formed `(d, e)` (a positive imaginary part is followed by its
conjugate with the same real part, a negative one is preceded by it — the shape `hqr2` produces)
`getD` writes in range and `D` is block diagonal: `[[d, e], [−e, d]]` for each conjugate pair,
`[d]` for each real eigenvalue, zero elsewhere.

Note: the hypothesis needs *both* clauses of `PairsWF`; with the forward clause alone
(`e i > 0 → …`) a negative `e 0` is still an out-of-range write, see
`getD_forward_clause_insufficient`. -/
theorem getD_blocks (n : Nat) (d e : Nat → ℝ) (hwf : PairsWF n d e) :
    ∃ rows, getD n d e = .ok rows ∧ rows.length = n ∧
      (∀ i j, i < n → j < n → entry? rows i j = some (blockEntry d e i j)) ∧
      (∀ i, i < n → 0 < e i →
        entry? rows i i = some (d i) ∧ entry? rows i (i + 1) = some (e i) ∧
        entry? rows (i + 1) i = some (-(e i)) ∧ entry? rows (i + 1) (i + 1) = some (d i)) ∧
      (∀ i, i < n → entry? rows i i = some (d i)) ∧
      (∀ i j, i < n → j < n → i ≠ j → ¬ (j = i + 1 ∧ 0 < e i) → ¬ (i = j + 1 ∧ 0 < e j) →
        entry? rows i j = some 0) := by
  obtain ⟨rows, h1, h2, h3⟩ := getD_entries n d e hwf.inRange
  refine ⟨rows, h1, h2, h3, fun i hi hp => ?_, fun i hi => by rw [h3 i i hi hi, blockEntry_self], ?_⟩
  · obtain ⟨hi1, he1, hd1⟩ := (hwf i hi).1 hp
    have hneg : e (i + 1) < 0 := he1 ▸ neg_lt_zero.mpr hp
    exact ⟨by rw [h3 i i hi hi, blockEntry_self], by rw [h3 i (i + 1) hi hi1, blockEntry_pos d e i _ hp, if_pos rfl],
      by rw [h3 (i + 1) i hi1 hi, blockEntry_neg d e _ i hneg i.succ_pos, Nat.add_sub_cancel, if_pos rfl, he1],
      by rw [h3 (i + 1) (i + 1) hi1 hi1, blockEntry_self, hd1]⟩
  · intro i j hi hj hij hup hlo
    rw [h3 i j hi hj, blockEntry_eq, if_neg (Ne.symm hij), if_neg hup, if_neg]
    rintro ⟨hj1, hneg⟩
    obtain ⟨_, he, _⟩ := (hwf i hi).2 hneg
    rw [show i - 1 = j by omega] at he
    exact hlo ⟨hj1.symm, he ▸ neg_pos.mpr hneg⟩

/-- a malformed `e`: positive imaginary part in the last position — `D_(n-1, n)` is written -/
theorem getD_malformed_last (n : Nat) (d e : Nat → ℝ) (hn : 0 < n) (h : 0 < e (n - 1)) :
    getD n d e = .error .ub :=
  (getD_ub_iff n d e).mpr ⟨n - 1, by omega, Or.inl ⟨h, by omega⟩⟩

/-- a malformed `e`: negative imaginary part in the first position — `D_(0, SIZE_MAX)` is written -/
theorem getD_malformed_first (n : Nat) (d e : Nat → ℝ) (hn : 0 < n) (h : e 0 < 0) :
    getD n d e = .error .ub :=
  (getD_ub_iff n d e).mpr ⟨0, hn, Or.inr ⟨h, rfl⟩⟩

/-- concrete witnesses (1 × 1) -/
theorem getD_witness_last : getD 1 (fun _ => (0 : ℝ)) (fun _ => 1) = .error .ub :=
  getD_malformed_last 1 _ _ Nat.one_pos one_pos
theorem getD_witness_first : getD 1 (fun _ => (0 : ℝ)) (fun _ => -1) = .error .ub :=
  getD_malformed_first 1 _ _ Nat.one_pos (by norm_num)

/-- the forward clause of well-formedness alone (as in the plan of DESIGN §7) does not exclude an
out-of-range write -/
theorem getD_forward_clause_insufficient :
    ∃ (n : Nat) (d e : Nat → ℝ),
      (∀ i, i < n → 0 < e i → i + 1 < n ∧ e (i + 1) = -e i ∧ d (i + 1) = d i) ∧
      getD n d e = .error .ub :=
  ⟨1, fun _ => 0, fun _ => -1, fun i _ hp => absurd hp (by norm_num), getD_witness_first⟩

/-- the Boolean test the driver runs on the implementation's `(d, e)` is `PairsWF` -/
theorem pairsWF_decidable (n : Nat) (d e : Nat → ℝ) : pairsWFb n d e = true ↔ PairsWF n d e :=
  pairsWFb_iff n d e

/-- non-vacuity: one conjugate pair followed by a real eigenvalue -/
example : PairsWF 3 (fun i => if i < 2 then 1 else 5) (fun i => if i = 0 then 2 else if i = 1 then -2 else 0) := by
  intro i hi
  have : i = 0 ∨ i = 1 ∨ i = 2 := by omega
  rcases this with h | h | h <;> subst h <;> norm_num

/-! ## trace and determinant are reproduced by the spectrum -/

/-- **spectrum_trace_det.** If `A·V = V·D` with `D` the block-diagonal matrix that `getD` assembles
from a well-formed `(d, e)`, and `V` is invertible, then `tr A = Σ d` and
`det A = Π_blocks` (`d` per real eigenvalue, `d² + e²` per conjugate pair) — `spectrumSum` /
`spectrumProd` are the definitions the driver evaluates on the implementation's lists. -/
theorem spectrum_trace_det (n : Nat) (A V W : FMat ℝ) (d e : Nat → ℝ) (hwf : PairsWF n d e)
    (hAV : toMatrix n A * toMatrix n V = toMatrix n V * toMatrix n (blockEntry d e))
    (hVW : toMatrix n V * toMatrix n W = 1) :
    Matrix.trace (toMatrix n A) = spectrumSum n d ∧ Matrix.det (toMatrix n A) = spectrumProd n d e := by
  constructor
  · rw [trace_of_similar _ _ _ _ hAV hVW, trace_blockEntry, spectrumSum_eq]
  · rw [det_of_similar _ _ _ _ hAV hVW, det_blockEntry n d e hwf, spectrumProd_eq]

/-- the quantity the driver's `residual` clause measures (entries of `A·V − V·D` computed with the
model's product loop and the model's `blockEntry`) vanishes exactly when the hypothesis
`A·V = V·D` of `spectrum_trace_det` holds -/
theorem residual_zero_iff (n : Nat) (A V : FMat ℝ) (d e : Nat → ℝ) :
    (∀ i j, i < n → j < n → multEntry n A V i j - multEntry n V (blockEntry d e) i j = 0) ↔
    toMatrix n A * toMatrix n V = toMatrix n V * toMatrix n (blockEntry d e) := by
  rw [← toMatrix_mult, ← toMatrix_mult]
  exact ⟨fun h => Matrix.ext fun i j => sub_eq_zero.mp (h i j i.isLt j.isLt),
    fun h i j hi hj => sub_eq_zero.mpr (congrFun (congrFun h ⟨i, hi⟩) ⟨j, hj⟩)⟩

/-- the determinant of `D` itself (no similarity needed): 2 × 2 blocks contribute `d² + e²` -/
theorem getD_det (n : Nat) (d e : Nat → ℝ) (hwf : PairsWF n d e) :
    Matrix.det (toMatrix n (blockEntry d e)) = spectrumProd n d e := by
  rw [det_blockEntry n d e hwf, spectrumProd_eq]

/-- for a real spectrum the block matrix is `diag d`, so `pow_glue`'s hypothesis is the special
case `e = 0` of `spectrum_trace_det`'s -/
theorem blockEntry_real (n : Nat) (d e : Nat → ℝ) (he : ∀ i, i < n → e i = 0) :
    toMatrix n (blockEntry d e) = Matrix.diagonal (fun i : Fin n => d i) := by
  ext i j
  show blockEntry d e i j = _
  rw [blockEntry_zero d e i j (he i i.isLt)]
  by_cases hij : i = j
  · rw [hij, if_pos rfl, Matrix.diagonal_apply_eq]
  · rw [if_neg (fun h => hij (Fin.ext h.symm)), Matrix.diagonal_apply_ne _ hij]

/-! ## pow(A, double) and exp(A) (MatrixTools.h:526-557): the wrappers are right *given* a
correct decomposition and inverse -/

theorem glue_dimension (f : ℝ → ℝ) (nr nc : Nat) (V W : FMat ℝ) (lam : Nat → ℝ) (h : nr ≠ nc) :
    glue f nr nc V lam W = .error .dimension := if_pos h

/-- the result of the glue is `V · diag(f λ) · W` -/
theorem glue_eq (f : ℝ → ℝ) (n : Nat) (V W : FMat ℝ) (lam : Nat → ℝ) :
    ∃ O, glue f n n V lam W = .ok O ∧
      toMatrix n O = toMatrix n V * Matrix.diagonal (fun k : Fin n => f (lam k)) * toMatrix n W :=
  ⟨_, if_neg (not_not_intro rfl), toMatrix_multDiag n V (fun k => f (lam k)) W⟩

/-- **pow_glue.** If `A·V = V·diag λ` and `V·W = 1` then `pow(A, k)` returns `A^k` (k-fold
product), for every natural `k` passed as a double. -/
theorem pow_glue (n : Nat) (A V W : FMat ℝ) (lam : Nat → ℝ) (k : Nat)
    (hAV : toMatrix n A * toMatrix n V = toMatrix n V * Matrix.diagonal (fun i : Fin n => lam i))
    (hVW : toMatrix n V * toMatrix n W = 1) :
    ∃ O, powGlue n n V lam W (k : ℝ) = .ok O ∧ toMatrix n O = toMatrix n A ^ k := by
  obtain ⟨O, h1, h2⟩ := glue_eq (fun x => Scalar.pow x (k : ℝ)) n V W lam
  refine ⟨O, h1, ?_⟩
  rw [h2, eq_conj_of_similar _ _ _ _ hAV hVW, conj_pow hVW]
  simp only [ScalarReal.pow_eq, Real.rpow_natCast]

/-- symmetric route: with an orthonormal `V` the inverse is the transpose, so
`V · diag(λ^k) · Vᵀ = A^k`; this is the statement for the output of tred2/tql2 -/
theorem pow_glue_orthonormal (n : Nat) (A V : FMat ℝ) (lam : Nat → ℝ) (k : Nat)
    (hAV : toMatrix n A * toMatrix n V = toMatrix n V * Matrix.diagonal (fun i : Fin n => lam i))
    (horth : (toMatrix n V).transpose * toMatrix n V = 1) :
    ∃ O, powGlue n n V lam (fun i j => V j i) (k : ℝ) = .ok O ∧ toMatrix n O = toMatrix n A ^ k := by
  have hW : toMatrix n (fun i j => V j i) = (toMatrix n V).transpose := by
    ext i j; simp [toMatrix, Matrix.transpose_apply]
  apply pow_glue n A V _ lam k hAV
  rw [hW]
  exact mul_eq_one_comm.mp horth

/-- real exponents, positive spectrum: the results form a one-parameter group through `A`
(`O_p · O_q = O_{p+q}`, `O_1 = A`, `O_0 = 1`), which is what "real matrix power" means; in
particular `O_{-1}` is the inverse and `O_{1/2}` a square root of `A`. -/
theorem pow_glue_real (n : Nat) (A V W : FMat ℝ) (lam : Nat → ℝ)
    (hAV : toMatrix n A * toMatrix n V = toMatrix n V * Matrix.diagonal (fun i : Fin n => lam i))
    (hVW : toMatrix n V * toMatrix n W = 1) (hpos : ∀ i, i < n → 0 < lam i) :
    ∃ O : ℝ → FMat ℝ, (∀ p, powGlue n n V lam W p = .ok (O p)) ∧
      (∀ p q, toMatrix n (O p) * toMatrix n (O q) = toMatrix n (O (p + q))) ∧
      toMatrix n (O 1) = toMatrix n A ∧ toMatrix n (O 0) = 1 := by
  refine ⟨fun p => multDiagEntry n V (fun k => Scalar.pow (lam k) p) W, fun p => if_neg (not_not_intro rfl), ?_, ?_, ?_⟩
  · intro p q
    simp only [toMatrix_multDiag, ScalarReal.pow_eq]
    rw [conj_mul_conj hVW]
    exact congrArg (fun D => toMatrix n V * Matrix.diagonal D * toMatrix n W)
      (funext fun i => (Real.rpow_add (hpos i i.isLt) p q).symm)
  · simp only [toMatrix_multDiag, ScalarReal.pow_eq, Real.rpow_one]
    exact (eq_conj_of_similar _ _ _ _ hAV hVW).symm
  · simp only [toMatrix_multDiag, ScalarReal.pow_eq, Real.rpow_zero]
    rw [Matrix.diagonal_one, Matrix.mul_one, hVW]

/-- **exp_glue.** If `A·V = V·diag λ` and `V·W = 1` then `exp(A)` returns the matrix exponential
`Σ A^k / k!` (Mathlib's `NormedSpace.exp`). -/
theorem exp_glue (n : Nat) (A V W : FMat ℝ) (lam : Nat → ℝ)
    (hAV : toMatrix n A * toMatrix n V = toMatrix n V * Matrix.diagonal (fun i : Fin n => lam i))
    (hVW : toMatrix n V * toMatrix n W = 1) :
    ∃ O, expGlue n n V lam W = .ok O ∧ toMatrix n O = NormedSpace.exp (toMatrix n A) := by
  obtain ⟨O, h1, h2⟩ := glue_eq Scalar.exp n V W lam
  refine ⟨O, h1, ?_⟩
  rw [h2, eq_conj_of_similar _ _ _ _ hAV hVW, conj_exp hVW]
  simp only [ScalarReal.exp_eq]

/-- the quarter-turn rotation: eigenvalues `±i`, so `getRealEigenValues()` is `(0, 0)` -/
def rot90 : FMat ℝ := fun i j => if i = 0 ∧ j = 1 then -1 else if i = 1 ∧ j = 0 then 1 else 0

/-- **Outside the property's scope, recorded as a witness.** `pow` / `exp` pass only the real
parts of the eigenvalues to the glue. For the quarter-turn rotation (real parts `0, 0`) `pow(A, 2)`
is the zero matrix whatever `V` and `W` are, while `A² = −1`: the wrappers are wrong for complex
spectra (the property restricts this clause to real spectra). -/
theorem pow_glue_drops_imaginary_parts (V W : FMat ℝ) :
    ∃ O, powGlue 2 2 V (fun _ => 0) W 2 = .ok O ∧ toMatrix 2 O = 0 ∧ toMatrix 2 rot90 ^ 2 = -1 := by
  obtain ⟨O, h1, h2⟩ := glue_eq (fun x => Scalar.pow x (2 : ℝ)) 2 V W (fun _ => 0)
  refine ⟨O, h1, ?_, ?_⟩
  · have : (fun _ : Fin 2 => Scalar.pow (0 : ℝ) (2 : ℝ)) = fun _ => 0 := funext fun _ => Real.zero_rpow two_ne_zero
    rw [h2, this, Matrix.diagonal_zero, Matrix.mul_zero, Matrix.zero_mul]
  · have h : toMatrix 2 rot90 = !![0, -1; 1, 0] := (Matrix.eta_fin_two _).trans rfl
    rw [h, pow_two, Matrix.mul_fin_two, Matrix.one_fin_two]
    norm_num

/-- non-vacuity of the hypotheses of `pow_glue` / `exp_glue`: a 2 × 2 matrix with eigenvalues 1, 3 -/
example : ∃ (A V W : FMat ℝ) (lam : Nat → ℝ),
    toMatrix 2 A * toMatrix 2 V = toMatrix 2 V * Matrix.diagonal (fun i : Fin 2 => lam i) ∧
    toMatrix 2 V * toMatrix 2 W = 1 ∧ ∀ i, i < 2 → 0 < lam i := by
  have hA : toMatrix 2 (fun i j => if i = j then (2 : ℝ) else 1) = !![2, 1; 1, 2] :=
    (Matrix.eta_fin_two _).trans rfl
  have hV : toMatrix 2 (fun i j => if i = 0 ∧ j = 0 then (-1 : ℝ) else 1) = !![-1, 1; 1, 1] :=
    (Matrix.eta_fin_two _).trans rfl
  have hW : toMatrix 2 (fun i j => if i = 0 ∧ j = 0 then (-1 / 2 : ℝ) else 1 / 2) = !![-1 / 2, 1 / 2; 1 / 2, 1 / 2] :=
    (Matrix.eta_fin_two _).trans rfl
  have hD : Matrix.diagonal (fun i : Fin 2 => if (i : ℕ) = 0 then (1 : ℝ) else 3) = !![1, 0; 0, 3] :=
    (Matrix.eta_fin_two _).trans rfl
  refine ⟨fun i j => if i = j then 2 else 1, fun i j => if i = 0 ∧ j = 0 then -1 else 1,
    fun i j => if i = 0 ∧ j = 0 then -1/2 else 1/2, fun i => if i = 0 then 1 else 3, ?_, ?_, ?_⟩
  · rw [hA, hV, hD, Matrix.mul_fin_two, Matrix.mul_fin_two]; norm_num
  · rw [hV, hW, Matrix.mul_fin_two, Matrix.one_fin_two]; norm_num
  · intro i _; beta_reduce; split <;> norm_num

end Bpp.C06
