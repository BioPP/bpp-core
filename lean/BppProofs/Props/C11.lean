import BppProofs.Lemmas.Transform
/-!
# C11 — constraint-removing reparametrisation is a faithful change of variables
(src/Bpp/Numeric/TransformedParameter.h, src/Bpp/Numeric/Function/ReparametrizationFunctionWrapper.{h,cpp})

Property theorems only; helper lemmas are in `Lemmas/Transform.lean`.
All statements are about the `Scalar`-generic model read at `ℝ` (exact arithmetic; rounding is
not modelled).  The model is the code after the `fix:` commits recorded in findings/C11.json.
-/
namespace Bpp.C11
open Bpp Bpp.Transform

/-! ## Half-line transform (RTransformedParameter), unit scale, both orientations -/

/-- `setOriginalValue` raises exactly when the value is not strictly inside the half-line -/
theorem r_setOriginal_raises_iff (t : RT ℝ) (v : ℝ) : t.setOriginal v = none ↔ ¬ t.Inside v := by
  rw [RT.setOriginal_real, RT.inside_iff]
  split <;> simp [*]

/-- original → transformed → original is the identity (both orientations) -/
theorem r_roundtrip (t : RT ℝ) (hs : t.scale = 1) (v : ℝ) (hv : t.Inside v) :
    ∃ t', t.setOriginal v = some t' ∧ t'.getOriginal = v ∧
      t'.scale = t.scale ∧ t'.bound = t.bound ∧ t'.positive = t.positive :=
  Bpp.C11aux.r_roundtrip t hs v hv

/-- transformed → original → transformed is the identity (both orientations) -/
theorem r_roundtrip_coord (t : RT ℝ) (hs : t.scale = 1) : t.setOriginal t.getOriginal = some t := by
  have hx : RT.fwdR t t.getOriginal = t.x := by
    unfold RT.fwdR
    rw [RT.getOriginal_unit t hs, add_sub_cancel_right, ← mul_assoc, RT.sgn_mul_self, one_mul, hs, RT.fp_gp]
  rw [RT.setOriginal_real, if_pos ((RT.inside_iff t _).mp (Bpp.C11aux.r_inside t (hs ▸ one_pos))), hx]

/-- every real coordinate back-transforms to a value strictly inside the half-line (any positive scale) -/
theorem r_back_in_domain (t : RT ℝ) (hs : 0 < t.scale) : t.Inside t.getOriginal :=
  Bpp.C11aux.r_inside t hs

/-- the back-transformation is strictly increasing for `]b,+inf[` and strictly decreasing for
`]-inf,b[` (the mirror image) -/
theorem r_strict_mono (t : RT ℝ) (hs : t.scale = 1) :
    if t.positive then StrictMono (fun x => (t.at x).getOriginal)
    else StrictAnti (fun x => (t.at x).getOriginal) := by
  rw [RT.getOriginal_at t hs]
  cases t.positive
  · intro x y hxy
    have := RT.gp_strictMono hxy
    simp only [RT.sgn, Bool.false_eq_true, if_false]
    linarith
  · intro x y hxy
    have := RT.gp_strictMono hxy
    simp only [RT.sgn, if_true]
    linarith

/-- `getFirstOrderDerivative` is the derivative of the back-transformation, everywhere (the two
pieces meet with equal slopes at `x = 0` when the scale is 1) -/
theorem r_d1_is_derivative (t : RT ℝ) (hs : t.scale = 1) :
    HasDerivAt (fun x => (t.at x).getOriginal) t.d1 t.x :=
  RT.hasDerivAt_at t hs

/-- Full statement (clause "second derivative agrees with finite differences of the first"):
`HasDerivAt (fun x => (t.at x).d1) t.d2 t.x` for every coordinate.  It is **false at the junction
`x = 0`** of the two pieces (`r_d2_not_derivative_at_junction`), a coordinate ordinary inputs reach
(`[a,+inf[` with the value `a + 1`).  Proved here: everywhere else.  What holds at every coordinate,
the junction included, is `r_d2_is_right_derivative`; the left slope at the junction is
`r_d2_left_derivative_at_junction`. -/
theorem r_d2_is_derivative_partial (t : RT ℝ) (hs : t.scale = 1) (hx : t.x ≠ 0) :
    HasDerivAt (fun x => (t.at x).d1) t.d2 t.x := by
  rw [RT.d1_at t hs, RT.d2_unit t hs]
  exact (RT.gp'_hasDerivAt t.x hx).const_mul _

/-- At **every** coordinate, the junction included, `getSecondOrderDerivative` is the *right*
derivative of `getFirstOrderDerivative` (this is what the code guarantees: at `x = 0` it returns the
slope of the linear piece, `0`). -/
theorem r_d2_is_right_derivative (t : RT ℝ) (hs : t.scale = 1) :
    HasDerivWithinAt (fun x => (t.at x).d1) t.d2 (Set.Ici t.x) t.x := by
  rw [RT.d1_at t hs, RT.d2_unit t hs]
  exact (RT.gp'_hasDerivWithinAt_Ici t.x).const_mul _

/-- ... and at the junction the *left* derivative of `getFirstOrderDerivative` is `1` (`-1` for the
mirror image), not the `0` that `getSecondOrderDerivative` returns there: a symmetric finite
difference of the first derivative tends to `±1/2`. -/
theorem r_d2_left_derivative_at_junction (t : RT ℝ) (hs : t.scale = 1) :
    HasDerivWithinAt (fun x => (t.at x).d1) (if t.positive then 1 else -1) (Set.Iic 0) 0 ∧
    (t.at 0).d2 = 0 := by
  refine ⟨?_, by rw [RT.d2_unit (t.at 0) hs]; simp [RT.gp'']⟩
  have := RT.gp'_left_at_zero.const_mul (RT.sgn t.positive)
  rw [mul_one] at this
  rw [RT.d1_at t hs]
  exact this

/-- the hypothesis `x ≠ 0` of `r_d2_is_derivative_partial` is forced: the transform is C¹ but not C² at the
junction (left slope of `d1` is 1, right slope 0) -/
theorem r_d2_not_derivative_at_junction (t : RT ℝ) (hs : t.scale = 1) :
    ¬ DifferentiableAt ℝ (fun x => (t.at x).d1) 0 := by
  rw [RT.d1_at t hs]
  intro h
  apply RT.gp'_not_differentiableAt_zero
  simpa [← mul_assoc, RT.sgn_mul_self] using h.const_mul (RT.sgn t.positive)

/-- why the property restricts half-lines to unit scale: at scale 2 the round trip of 0.75 in
`]0,+inf[` fails (the forward map takes the `log` branch, the inverse the linear one) -/
theorem r_roundtrip_fails_at_scale_two :
    ∃ t', (RT.mk (2 : ℝ) 0 true 0).setOriginal 0.75 = some t' ∧ t'.getOriginal ≠ 0.75 := by
  have hf : RT.fwdR (RT.mk (2 : ℝ) 0 true 0) 0.75 = Real.log 1.5 := by
    simp only [RT.fwdR, RT.fp, RT.sgn, if_true]; norm_num
  have h : (0 : ℝ) < Real.log 1.5 := Real.log_pos (by norm_num)
  rw [RT.setOriginal_real, if_pos (by norm_num [RT.sgn])]
  refine ⟨_, rfl, ?_⟩
  rw [RT.getOriginal_real]
  simp only [hf, RT.sgn, if_true]
  rw [if_neg (not_lt.mpr h.le)]
  intro hh
  have : 0 < Real.log 1.5 / 2 := by positivity
  linarith

/-! ## Interval transform (IntervalTransformedParameter), hyperbolic variant -/

/-- `setOriginalValue` raises exactly when the value is not strictly inside the interval -/
theorem interval_setOriginal_raises_iff (pi : ℝ) (t : IT ℝ) (v : ℝ) :
    IT.setOriginal pi t v = none ↔ ¬ (t.lo < v ∧ v < t.hi) := by
  rw [IT.setOriginal_real, ← not_le, ← not_le, ← not_or]
  split <;> simp [*]

/-- original → transformed → original is the identity -/
theorem interval_roundtrip_hyper (pi : ℝ) (t : IT ℝ) (hh : t.hyper = true) (hs : t.scale ≠ 0)
    (v : ℝ) (h1 : t.lo < v) (h2 : v < t.hi) :
    ∃ t', IT.setOriginal pi t v = some t' ∧ IT.getOriginal pi t' = v ∧
      t'.scale = t.scale ∧ t'.lo = t.lo ∧ t'.hi = t.hi ∧ t'.hyper = t.hyper := by
  rw [IT.setOriginal_of_mem pi t h1 h2]
  refine ⟨_, rfl, ?_, rfl, rfl, rfl, rfl⟩
  show IT.getOriginal pi (t.at _) = v
  rw [IT.getOriginal_at_hyper pi t hh (lt_trans h1 h2), hh, IT.fwd_hyper_real _ _ _ _ _ h1 h2]
  exact IT.gh_fwd hs h1 h2

/-- transformed → original → transformed is the identity -/
theorem interval_roundtrip_hyper_coord (pi : ℝ) (t : IT ℝ) (hh : t.hyper = true) (hs : t.scale ≠ 0)
    (hb : t.lo < t.hi) : IT.setOriginal pi t (IT.getOriginal pi t) = some t := by
  have ⟨m1, m2⟩ := IT.gh_mem t.scale t.lo t.hi t.x hb
  have hf : IT.fwd pi t.scale t.lo t.hi t.hyper (IT.gh t.scale t.lo t.hi t.x) = t.x := by
    rw [hh, IT.fwd_hyper_real _ _ _ _ _ m1 m2, IT.fwd_gh hs hb]
  rw [IT.getOriginal_hyper pi t hh hb, IT.setOriginal_of_mem pi t m1 m2, hf]

/-- every real coordinate back-transforms strictly inside the interval (whatever the scale) -/
theorem interval_back_in_domain_hyper (pi : ℝ) (t : IT ℝ) (hh : t.hyper = true) (hb : t.lo < t.hi) :
    t.lo < IT.getOriginal pi t ∧ IT.getOriginal pi t < t.hi :=
  IT.getOriginal_hyper_mem pi t hh hb

/-- whatever the variant, the constant used for π and the coordinate, the back-transformed value is
in the *closed* interval (this is what the final clamp of `getOriginalValue` gives) -/
theorem interval_back_in_closed_domain (pi : ℝ) (t : IT ℝ) (hb : t.lo ≤ t.hi) :
    t.lo ≤ IT.getOriginal pi t ∧ IT.getOriginal pi t ≤ t.hi := by
  rw [IT.getOriginal_real]; exact IT.clamp_mem hb _

/-! ## Interval transform, tangent variant.  `pi` is the constant the code uses for π -/

/-- round trip with any constant `0 < pi ≤ π`: this upper bound is the hypothesis the proof forces
(the angle `pi·(v-lo)/(hi-lo) - pi/2` must stay inside `]-π/2, π/2[`) -/
theorem interval_roundtrip_tan (pi : ℝ) (hpi : 0 < pi) (hle : pi ≤ Real.pi) (t : IT ℝ)
    (hh : t.hyper = false) (hs : t.scale ≠ 0) (v : ℝ) (h1 : t.lo < v) (h2 : v < t.hi) :
    ∃ t', IT.setOriginal pi t v = some t' ∧ IT.getOriginal pi t' = v ∧
      t'.scale = t.scale ∧ t'.lo = t.lo ∧ t'.hi = t.hi ∧ t'.hyper = t.hyper := by
  rw [IT.setOriginal_of_mem pi t h1 h2]
  refine ⟨_, rfl, ?_, rfl, rfl, rfl, rfl⟩
  have hb : t.lo < t.hi := lt_trans h1 h2
  -- the angle guard holds at the coordinate the forward map produces
  have ha : |Real.arctan (t.scale * Real.tan (pi * (v - t.lo) / (t.hi - t.lo) - pi / 2) / t.scale)| < pi / 2 := by
    rw [mul_div_cancel_left₀ _ hs, IT.arctan_tan_angle hpi hle h1 h2, abs_lt]
    exact IT.angle_mem hpi h1 h2
  show IT.getOriginal pi (t.at _) = v
  rw [hh, IT.fwd_tan_real, IT.getOriginal_at_tan pi t hh hb hpi _ ha]
  exact IT.gt_fwd hpi hle hs h1 h2

/-- with the exact π -/
theorem interval_roundtrip_tan_exact (t : IT ℝ) (hh : t.hyper = false) (hs : t.scale ≠ 0)
    (v : ℝ) (h1 : t.lo < v) (h2 : v < t.hi) :
    ∃ t', IT.setOriginal Real.pi t v = some t' ∧ IT.getOriginal Real.pi t' = v ∧
      t'.scale = t.scale ∧ t'.lo = t.lo ∧ t'.hi = t.hi ∧ t'.hyper = t.hyper :=
  interval_roundtrip_tan Real.pi Real.pi_pos le_rfl t hh hs v h1 h2

/-- with the library's `NumConstants::PI()` (regenerated from the source on every run): holds
because `PI() < π`; it did not for the original value `3.141593` -/
theorem interval_roundtrip_tan_lib (t : IT ℝ) (hh : t.hyper = false) (hs : t.scale ≠ 0)
    (v : ℝ) (h1 : t.lo < v) (h2 : v < t.hi) :
    ∃ t', IT.setOriginal libPI t v = some t' ∧ IT.getOriginal libPI t' = v ∧
      t'.scale = t.scale ∧ t'.lo = t.lo ∧ t'.hi = t.hi ∧ t'.hyper = t.hyper :=
  interval_roundtrip_tan libPI libPI_pos libPI_lt_pi.le t hh hs v h1 h2

/-- the hypothesis `pi ≤ π` is necessary: with any larger constant the round trip fails for some
value of every interval (this is what happened with `PI() = 3.141593`); `hlt` is not used -/
theorem interval_roundtrip_tan_fails_of_gt (pi : ℝ) (hgt : Real.pi < pi) (hlt : pi < 2 * Real.pi)
    (t : IT ℝ) (hh : t.hyper = false) (hs : t.scale ≠ 0) (hb : t.lo < t.hi) :
    ∃ v t', t.lo < v ∧ v < t.hi ∧ IT.setOriginal pi t v = some t' ∧ IT.getOriginal pi t' ≠ v :=
  IT.roundtrip_tan_fails pi hgt t hh hs hb

/-- transformed → original → transformed, under the angle guard that keeps the back-transformed
value strictly inside the interval (automatic when `π ≤ pi`; see
`interval_back_in_domain_tan_lib_partial` for the library's constant) -/
theorem interval_roundtrip_tan_coord (pi : ℝ) (hpi : 0 < pi) (t : IT ℝ) (hh : t.hyper = false)
    (hs : t.scale ≠ 0) (hb : t.lo < t.hi) (ha : |Real.arctan (t.x / t.scale)| < pi / 2) :
    IT.setOriginal pi t (IT.getOriginal pi t) = some t := by
  have ⟨m1, m2⟩ := IT.gt_mem_of_angle pi t.scale t.lo t.hi t.x hpi hb ha
  have hf : IT.fwd pi t.scale t.lo t.hi t.hyper (IT.gt pi t.scale t.lo t.hi t.x) = t.x := by
    rw [hh, IT.fwd_tan_real, IT.fwd_gt hpi hs hb]
  rw [IT.getOriginal_tan pi t hh hb hpi ha, IT.setOriginal_of_mem pi t m1 m2, hf]

/-- strictly inside the interval for every real coordinate when the constant is at least π -/
theorem interval_back_in_domain_tan (pi : ℝ) (hpi : Real.pi ≤ pi) (t : IT ℝ) (hh : t.hyper = false)
    (hb : t.lo < t.hi) : t.lo < IT.getOriginal pi t ∧ IT.getOriginal pi t < t.hi := by
  have hp : 0 < pi := lt_of_lt_of_le Real.pi_pos hpi
  have ha := IT.arctan_abs_lt_of_pi_le hpi (t.x / t.scale)
  rw [IT.getOriginal_tan pi t hh hb hp ha]; exact IT.gt_mem_of_angle pi _ _ _ _ hp hb ha

/-- with the exact π -/
theorem interval_back_in_domain_tan_exact (t : IT ℝ) (hh : t.hyper = false) (hb : t.lo < t.hi) :
    t.lo < IT.getOriginal Real.pi t ∧ IT.getOriginal Real.pi t < t.hi :=
  interval_back_in_domain_tan Real.pi le_rfl t hh hb

/-- the library's constant is (slightly) smaller than π, so `interval_back_in_domain_tan` does not
apply; what holds is the guarded form: the back-transformed value is strictly inside as long as
`|x / scale| ≤ 10^15` (the property's region is `|x / scale| ≤ 300`).  Missing for the full
statement: coordinates beyond `tan (PI()/2) ≈ 1.6·10^16`, where the value sits *on* a bound
(`interval_tan_lib_reaches_bound`; the closed interval always holds,
`interval_back_in_closed_domain`). -/
theorem interval_back_in_domain_tan_lib_partial (t : IT ℝ) (hh : t.hyper = false) (hb : t.lo < t.hi)
    (hg : |t.x / t.scale| ≤ 10 ^ 15) :
    t.lo < IT.getOriginal libPI t ∧ IT.getOriginal libPI t < t.hi := by
  have ha := arctan_abs_lt_libPI_half hg
  rw [IT.getOriginal_tan libPI t hh hb libPI_pos ha]
  exact IT.gt_mem_of_angle libPI _ _ _ _ libPI_pos hb ha

/-- the guard above cannot be dropped: for a coordinate far enough the value is the lower bound
itself (in exact arithmetic), which an open constraint rejects -/
theorem interval_tan_lib_reaches_bound (t : IT ℝ) (hh : t.hyper = false) (hs : 0 < t.scale)
    (hb : t.lo < t.hi) : ∃ x, IT.getOriginal libPI (t.at x) = t.lo := by
  -- an angle θ with -π/2 < θ < -PI()/2
  have hpos := libPI_pos
  obtain ⟨θ, h1, h2⟩ := exists_between (neg_lt_neg (div_lt_div_of_pos_right libPI_lt_pi two_pos))
  refine ⟨t.scale * Real.tan θ, ?_⟩
  rw [IT.getOriginal_at]; simp only [hh, if_false, Bool.false_eq_true]
  have hraw : IT.gt libPI t.scale t.lo t.hi (t.scale * Real.tan θ) < t.lo := by
    rw [IT.gt_eq, mul_div_cancel_left₀ _ hs.ne', Real.arctan_tan h1 (by linarith [Real.pi_pos])]
    exact lt_of_lt_of_eq (IT.aff_strictMono hpos hb h2) (IT.aff_neg _ _ _ _)
  unfold IT.clamp
  rw [if_pos hraw, if_neg (not_lt.mpr hb.le)]

/-! ## Interval transform: monotonicity and derivatives -/

/-- hyperbolic variant: strictly increasing in the coordinate -/
theorem interval_strict_mono_hyper (pi : ℝ) (t : IT ℝ) (hh : t.hyper = true) (hs : 0 < t.scale)
    (hb : t.lo < t.hi) : StrictMono (fun x => IT.getOriginal pi (t.at x)) := by
  have e : (fun x => IT.getOriginal pi (t.at x)) = IT.gh t.scale t.lo t.hi := by
    funext x; exact IT.getOriginal_at_hyper pi t hh hb x
  rw [e]; exact IT.gh_strictMono _ _ _ hs hb

/-- tangent variant with a constant `≥ π` (in particular the exact π): strictly increasing -/
theorem interval_strict_mono_tan (pi : ℝ) (hpi : Real.pi ≤ pi) (t : IT ℝ) (hh : t.hyper = false)
    (hs : 0 < t.scale) (hb : t.lo < t.hi) : StrictMono (fun x => IT.getOriginal pi (t.at x)) :=
  strictMonoOn_univ.mp ((IT.strictMonoOn_at_tan pi (lt_of_lt_of_le Real.pi_pos hpi) t hh hs hb).mono
    fun _ _ => IT.arctan_abs_lt_of_pi_le hpi _)

/-- tangent variant with the library's constant: strictly increasing on `|x / scale| ≤ 10^15`
(beyond `tan (PI()/2)` the clamp makes it constant, so the global statement is false) -/
theorem interval_strict_mono_tan_lib_partial (t : IT ℝ) (hh : t.hyper = false) (hs : 0 < t.scale)
    (hb : t.lo < t.hi) :
    StrictMonoOn (fun x => IT.getOriginal libPI (t.at x)) {x | |x / t.scale| ≤ 10 ^ 15} :=
  (IT.strictMonoOn_at_tan libPI libPI_pos t hh hs hb).mono fun _ hx => arctan_abs_lt_libPI_half hx

/-- hyperbolic variant: `getFirstOrderDerivative` is the derivative of the back-transformation
(`_hs`, and `_hs` / `_hpi` in the following derivative theorems, are not needed by the proofs — at scale 0
the statement would be about Lean's `x / 0 = 0` — and are kept to restrict the theorems to the
meaningful domain; every caller has `0 < scale`, `TPWF`.) -/
theorem interval_d1_is_derivative_hyper (pi : ℝ) (t : IT ℝ) (hh : t.hyper = true) (_hs : t.scale ≠ 0)
    (hb : t.lo < t.hi) : HasDerivAt (fun x => IT.getOriginal pi (t.at x)) (IT.d1 pi t) t.x :=
  IT.hasDerivAt_at_hyper pi t hh hb

/-- tangent variant with a constant `≥ π` -/
theorem interval_d1_is_derivative_tan (pi : ℝ) (hpi : Real.pi ≤ pi) (t : IT ℝ) (hh : t.hyper = false)
    (_hs : t.scale ≠ 0) (hb : t.lo < t.hi) :
    HasDerivAt (fun x => IT.getOriginal pi (t.at x)) (IT.d1 pi t) t.x :=
  IT.hasDerivAt_at_tan pi (lt_of_lt_of_le Real.pi_pos hpi) t hh hb (IT.arctan_abs_lt_of_pi_le hpi _)

/-- tangent variant with the library's constant, for coordinates with `|x / scale| < 10^15` -/
theorem interval_d1_is_derivative_tan_lib_partial (t : IT ℝ) (hh : t.hyper = false)
    (_hs : t.scale ≠ 0) (hb : t.lo < t.hi) (hg : |t.x / t.scale| < 10 ^ 15) :
    HasDerivAt (fun x => IT.getOriginal libPI (t.at x)) (IT.d1 libPI t) t.x :=
  IT.hasDerivAt_at_tan libPI libPI_pos t hh hb (arctan_abs_lt_libPI_half hg.le)

/-- `getSecondOrderDerivative` is the derivative of `getFirstOrderDerivative` (both variants, any
constant) -/
theorem interval_d2_is_derivative (pi : ℝ) (t : IT ℝ) (_hs : t.scale ≠ 0)
    (_hpi : t.hyper = false → pi ≠ 0) :
    HasDerivAt (fun x => IT.d1 pi (t.at x)) (IT.d2 pi t) t.x := by
  have e : (fun x => IT.d1 pi (t.at x)) =
      fun x => if t.hyper then IT.gh' t.scale t.lo t.hi x else IT.gt' pi t.scale t.lo t.hi x := by
    funext x; exact IT.d1_at pi t x
  rw [e, IT.d2_real]
  cases hh : t.hyper
  · simpa using IT.gt'_hasDerivAt pi t.scale t.lo t.hi t.x
  · simpa using IT.gh'_hasDerivAt t.scale t.lo t.hi t.x

/-! ## Placebo transform -/

/-- parameters without an interval constraint pass through unchanged, with derivative 1 and 0 -/
theorem placebo_identity (pi v : ℝ) :
    (TP.placebo v : TP ℝ).getOriginal pi = v ∧ (TP.placebo v : TP ℝ).x = v ∧
    (TP.placebo v : TP ℝ).d1 pi = 1 ∧ (TP.placebo v : TP ℝ).d2 pi = 0 ∧
    (∀ x w, ((TP.p x : TP ℝ).setOriginal pi w) = some (.p w)) ∧
    (∀ x w, ((TP.p x : TP ℝ).setX w).getOriginal pi = w) := by
  simp [TP.placebo, TP.getOriginal, TP.x, TP.d1, TP.d2, TP.setOriginal, TP.setX]

end Bpp.C11
