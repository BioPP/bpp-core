import BppProofs.Lemmas.Glob
/-!
# C17 — wildcard name matching agrees with glob semantics for `*`

Model: `BppModel/Text/Glob.lean` — the matcher that appears three times in the library
(`ParameterList::getMatchingParameterNames`, `ApplicationTools::matchingParameters` ×2), after the
repair "fix: wildcard-free pattern must equal the parameter name"; `matcherOld` is the code as found.
`globMatch` is the textbook recursive glob; `Expands` is its declarative meaning.
All statements are for every pattern and every name (no length bound).
-/
namespace Bpp.C17
open Bpp.Text Bpp.Text.Glob

/-- declarative meaning of a pattern: every `*` stands for an arbitrary string -/
inductive Expands : Str → Str → Prop
  | nil : Expands [] []
  | star (w : Str) {p n : Str} : Expands p n → Expands ('*' :: p) (w ++ n)
  | char {c : Char} {p n : Str} : c ≠ '*' → Expands p n → Expands (c :: p) (c :: n)

/-- the textbook recursive definition means what it should -/
theorem globMatch_iff_expands (p n : Str) : globMatch p n = true ↔ Expands p n := by
  induction p generalizing n with
  | nil =>
    rw [globMatch_nil]
    constructor
    · rintro rfl; exact .nil
    · intro h; cases h; rfl
  | cons c p ih =>
    by_cases hc : c = '*'
    · subst hc
      rw [globMatch_star]
      constructor
      · rintro ⟨k, _, h⟩
        have := Expands.star (n.take k) ((ih _).mp h)
        rwa [List.take_append_drop] at this
      · intro h
        cases h with
        | star w h' => exact ⟨w.length, by simp, by rw [List.drop_left]; exact (ih _).mpr h'⟩
        | char hne _ => exact absurd rfl hne
    · rw [globMatch_cons_ne hc]
      constructor
      · rintro ⟨t, rfl, h⟩; exact .char hc ((ih _).mp h)
      · intro h
        cases h with
        | star w h' => exact absurd rfl hc
        | char _ h' => exact ⟨_, rfl, (ih _).mpr h'⟩

/-! ## the code as found -/

/-- a star-free pattern was accepted as a repeated prefix+suffix, and the empty pattern matched
every name: `glob_agrees` is false of the old code -/
theorem old_matcher_not_glob :
    matcherOld ['a', 'b'] ['a', 'b', 'a', 'b'] = true ∧ globMatch ['a', 'b'] ['a', 'b', 'a', 'b'] = false
    ∧ matcherOld [] ['a', 'b', 'c'] = true ∧ globMatch [] ['a', 'b', 'c'] = false := by
  refine ⟨by decide, ?_, by decide, ?_⟩
  · have h : NoStar ['a', 'b'] := by intro c hc; simp at hc; rcases hc with rfl | rfl <;> decide
    have := globMatch_noStar h ['a', 'b', 'a', 'b']
    cases hh : globMatch ['a', 'b'] ['a', 'b', 'a', 'b']
    · rfl
    · exact absurd (this.mp hh) (by decide)
  · cases hh : globMatch [] ['a', 'b', 'c']
    · rfl
    · exact absurd ((globMatch_nil _).mp hh) (by decide)

/-! ## the repaired code -/

/-- **the matcher agrees with glob semantics**, for all patterns and all names -/
theorem glob_agrees (p n : Str) : matcher p n = globMatch p n := by
  cases h : starTokens false p with
  | nil => exact absurd h (starTokens_ne_nil false p)
  | cons g ts =>
    rw [(globMatch_tokens p).1 g ts h n]
    exact matcher_untok p n g ts h (by rw [← h]; exact starTokens_noStar false p)

/-- the matcher in declarative terms -/
theorem matcher_iff_expands (p n : Str) : matcher p n = true ↔ Expands p n := by
  rw [glob_agrees, globMatch_iff_expands]

/-- a pattern without `*` matches the identical name only (the clause the old code violated) -/
theorem matcher_star_free (p n : Str) (hp : ∀ c ∈ p, c ≠ '*') : matcher p n = true ↔ n = p := by
  rw [glob_agrees]; exact globMatch_noStar hp n

/-- `*` alone matches every name, the empty pattern only the empty name -/
theorem matcher_star_all (n : Str) : matcher ['*'] n = true := by
  rw [matcher_iff_expands]
  have := Expands.star n Expands.nil
  simpa using this

theorem matcher_empty_pattern (n : Str) : matcher [] n = true ↔ n = [] :=
  matcher_star_free [] n (by intro c hc; simp at hc)

/-- non-vacuity: a pattern with two stars and overlapping pieces -/
example : matcher ['a', '*', 'b', 'a', '*', 'a'] ['a', 'b', 'a', 'b', 'a'] = true := by decide

end Bpp.C17
