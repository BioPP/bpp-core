import BppProofs.Lemmas.TokRT
import BppProofs.Lemmas.TokBridge
/-!
# C17 — "tokenising and re-joining with the recorded separators reproduces the input"

Model: the UB-aware `StringTokenizer` of `BppModel/Text/TokenizerU.lean`
(src/Bpp/Text/StringTokenizer.cpp:10-86: constructor with every combination of `solid` and
`allowEmptyTokens`, `nextToken`, `unparseRemainingTokens`), predicates `BppModel/Text/TokRT.lean`
(the driver evaluates the same `ctorRtOk` / `advanceRtOk` on the tokens, recorded separators and
unparsed texts the implementation returns).  For every input string (`StrOk`: a `std::string` is at
most `max_size()` long) and every delimiter string.

The naive law `unparse (tokenize s) = s` is FALSE outside solid mode (`unparse_naive_witness`): the
constructor skips leading delimiters without recording them, and `unparseRemainingTokens` never
appends the separator recorded after the last token.  The law the code satisfies:
* solid (a non-empty delimiter string):            `unparse = s`;
* non-solid, empty tokens allowed:                 `unparse = s` without its leading delimiters;
* non-solid, no empty tokens:                      `unparse = s` without leading and trailing delimiters;
* always: leading delimiters ++ tokens re-joined with *all* recorded separators `= s`.
-/
namespace Bpp.C17
open Bpp.Text Bpp.Text.U Bpp.Text.RT

/-- **the round-trip law**, all four option combinations: whenever the constructor returns, the
tokens re-joined with the recorded separators reproduce the input after its leading delimiters
(the whole input in solid mode); `unparseRemainingTokens()` returns `unparseSpec`; there is exactly
one separator between two tokens and at most one after the last; tokens are free of delimiters (of
the delimiter string in solid mode), non-empty unless empty tokens are allowed / the mode is solid;
separators are non-empty runs of delimiter characters (one character when empty tokens are
allowed; the delimiter string, repeated only when empty tokens are not allowed, in solid mode) -/
theorem unparse_tokenize (s d : Str) (solid allowEmpty : Bool) (hs : StrOk s) (T : Tokenizer)
    (h : mkTokenizer s d solid allowEmpty = .ok T) :
    ∃ u, T.unparseRemainingTokens = .ok u ∧ ctorRtOk s d solid allowEmpty T.tokens T.splits u = true :=
  mkTokenizer_rt s d solid allowEmpty hs T h

/-- **totality**: the constructor raises (the library's exception) exactly when the mode is solid
and the delimiter string empty; on every other input it returns — `unparse_tokenize` is not
conditional on anything but that -/
theorem tokenizer_raises_iff (s d : Str) (solid allowEmpty : Bool) (hs : StrOk s) :
    mkTokenizer s d solid allowEmpty = .error .bpp ↔ (solid = true ∧ d = []) :=
  mkTokenizer_error_iff s d solid allowEmpty hs

/-- the round-trip law without the hypothesis "the constructor returned" -/
theorem unparse_tokenize_total (s d : Str) (solid allowEmpty : Bool) (hs : StrOk s)
    (hd : ¬ (solid = true ∧ d = [])) :
    ∃ T u, mkTokenizer s d solid allowEmpty = .ok T ∧ T.unparseRemainingTokens = .ok u ∧
      ctorRtOk s d solid allowEmpty T.tokens T.splits u = true :=
  mkTokenizer_rt_total s d solid allowEmpty hs hd

/-- **the two transcriptions of `StringTokenizer(s, d)` agree**: the character-level `Keyval.tokenize`
(the tokenizer of `Keyval.multipleKeyvals` with `nested = false`; `parse_render` /
`changeKeyvals_exact` use `nested = true`, i.e. `Keyval.nested`)
returns the tokens of the position-level `mkTokenizer` (on which this file rests) -/
theorem keyval_tokenize_is_tokenizer (s d : Str) (hs : StrOk s) :
    ∃ T, mkTokenizer s d false false = .ok T ∧ Keyval.tokenize (fun c => d.contains c) s = T.tokens := by
  obtain ⟨T, _, hT, _⟩ := mkTokenizer_rt_total s d false false hs (fun h => nomatch h.1)
  exact ⟨T, hT, tokenize_eq_mkTokenizer s d hs T hT⟩

example : StrOk ",a,;b,".toList ∧ mkTokenizer ",a,;b,".toList ",;".toList false false
    = .ok ⟨["a".toList, "b".toList], [",;".toList, ",".toList], 0⟩ := ⟨by decide, by
    repeat rw [String.toList_ofList]
    decide +kernel⟩
example : mkTokenizer ",a,;b,".toList ",;".toList false true
    = .ok ⟨["a".toList, [], "b".toList, []], [",".toList, ";".toList, ",".toList], 0⟩ := by
  repeat rw [String.toList_ofList]
  decide +kernel

/-- reading the clauses of `ctorRtOk` one by one: re-joining with the recorded separators -/
theorem tokens_rejoin (s d : Str) (solid allowEmpty : Bool) (hs : StrOk s) (T : Tokenizer)
    (h : mkTokenizer s d solid allowEmpty = .ok T) :
    (if solid then [] else s.takeWhile (inSet d)) ++ interleave T.tokens T.splits = s := by
  obtain ⟨u, _, hu⟩ := unparse_tokenize s d solid allowEmpty hs T h
  exact (ctorRtOk_iff.mp hu).1

/-- solid mode: `unparseRemainingTokens()` of the fresh tokenizer is the input, exactly -/
theorem unparse_tokenize_solid (s d : Str) (allowEmpty : Bool) (hs : StrOk s) (T : Tokenizer)
    (h : mkTokenizer s d true allowEmpty = .ok T) : T.unparseRemainingTokens = .ok s := by
  obtain ⟨u, e, hu⟩ := unparse_tokenize s d true allowEmpty hs T h
  rw [e, (ctorRtOk_iff.mp hu).2.1]; rfl

/-- non-solid mode with empty tokens: the input from the first non-delimiter on -/
theorem unparse_tokenize_allowEmpty (s d : Str) (hs : StrOk s) (T : Tokenizer)
    (h : mkTokenizer s d false true = .ok T) :
    T.unparseRemainingTokens = .ok (s.dropWhile (inSet d)) := by
  obtain ⟨u, e, hu⟩ := unparse_tokenize s d false true hs T h
  rw [e, (ctorRtOk_iff.mp hu).2.1]; rfl

/-- non-solid mode without empty tokens (the default): the input without its leading and trailing
delimiters -/
theorem unparse_tokenize_strip (s d : Str) (hs : StrOk s) (T : Tokenizer)
    (h : mkTokenizer s d false false = .ok T) :
    T.unparseRemainingTokens = .ok (stripSet d s) := by
  obtain ⟨u, e, hu⟩ := unparse_tokenize s d false false hs T h
  rw [e, (ctorRtOk_iff.mp hu).2.1]; rfl

/-- the naive form `unparse (tokenize s) = s` is false in both non-solid modes: leading delimiters
are never given back, trailing ones only when empty tokens are allowed -/
theorem unparse_naive_witness :
    (∃ T, mkTokenizer ",a,".toList ",".toList false false = .ok T ∧
      T.unparseRemainingTokens = .ok "a".toList) ∧
    (∃ T, mkTokenizer ",a,".toList ",".toList false true = .ok T ∧
      T.unparseRemainingTokens = .ok "a,".toList) ∧
    (∃ T, mkTokenizer ",a,".toList ",".toList true false = .ok T ∧
      T.unparseRemainingTokens = .ok ",a,".toList) :=
  ⟨⟨⟨["a".toList], [",".toList], 0⟩, by decide +kernel, by decide +kernel⟩,
    ⟨⟨["a".toList, []], [",".toList], 0⟩, by decide +kernel, by decide +kernel⟩,
    ⟨⟨[[], "a".toList, []], [",".toList, ",".toList], 0⟩, by decide +kernel, by decide +kernel⟩⟩

/-- **after `k` calls of `nextToken()`** (which return the first `k` tokens): the `k` tokens with
the separators recorded after them, followed by what `unparseRemainingTokens()` returns now, is what
it returned on the fresh object; after the last token it returns the empty string and `nextToken()`
raises -/
theorem unparse_after_next (s d : Str) (solid allowEmpty : Bool) (hs : StrOk s) (T : Tokenizer)
    (h : mkTokenizer s d solid allowEmpty = .ok T) (k : Nat) (hk : k ≤ T.tokens.length) :
    ∃ T' u0 uk, nextN k T = .ok (T.tokens.take k, T') ∧
      T.unparseRemainingTokens = .ok u0 ∧ T'.unparseRemainingTokens = .ok uk ∧
      advanceRtOk T.tokens T.splits k u0 uk = true ∧
      (k = T.tokens.length → T'.nextToken = .error .bpp) :=
  nextN_rt T (mkTokenizer_built hs h).wf (mkTokenizer_built hs h).pos k hk

example : ∃ T, mkTokenizer "a,b,,c".toList ",".toList false false = .ok T ∧
    nextN 1 T = .ok (["a".toList], advance T 1) ∧
    (advance T 1).unparseRemainingTokens = .ok "b,,c".toList :=
  ⟨⟨["a".toList, "b".toList, "c".toList], [",".toList, ",,".toList], 0⟩, by decide +kernel, by decide +kernel,
    by decide +kernel⟩

end Bpp.C17
