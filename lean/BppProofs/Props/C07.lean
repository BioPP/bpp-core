import BppProofs.Lemmas.VecToolsMaps
import BppProofs.Lemmas.VecToolsNoUb
import BppProofs.Lemmas.VecToolsSets
/-!
# C07 — vector reductions match their definitions
(src/Bpp/Numeric/VectorTools.h, src/Bpp/Numeric/Stat/StatTools.cpp)

Property theorems only; helper lemmas are in `Lemmas/VecTools*.lean`.  Numeric statements are
about the program text of `BppModel/VecTools.lean` read at `ℝ` (rounding is not modelled).
Routines repaired by a `fix:` commit are stated for the repaired text; the `…Orig…` theorems are
the machine-checked witnesses of the defects of the unrepaired text.
-/
namespace Bpp.C07
open Bpp Bpp.VecTools Bpp.ScalarReal

/-! ## reductions -/

/-- `sum` is the sum of the elements -/
theorem sum_spec (v : List ℝ) : VecTools.sum v = v.sum := sum_eq v

/-- `prod` is the product of the elements -/
theorem prod_spec (v : List ℝ) : VecTools.prod v = v.prod := by
  rw [VecTools.prod, one_eq, ← List.prod_eq_foldl]

/-- `cumSum` has the length of its argument and entry `i` is the sum of the first `i+1` elements -/
theorem cumSum_spec (v : List ℝ) :
    (cumSum v).length = v.length ∧ ∀ i, i < v.length → (cumSum v)[i]? = some (v.take (i + 1)).sum := by
  have := runningFold_spec (· + ·) cumSumAux (fun _ => rfl) (fun _ _ _ => rfl) 0 v
  rw [cumSum_eq]
  exact ⟨this.1, fun i hi => by rw [this.2 i hi, ← List.sum_eq_foldl]⟩

/-- `cumProd`: entry `i` is the product of the first `i+1` elements -/
theorem cumProd_spec (v : List ℝ) :
    (cumProd v).length = v.length ∧ ∀ i, i < v.length → (cumProd v)[i]? = some (v.take (i + 1)).prod := by
  have := runningFold_spec (fun a x => x * a) cumProdAux (fun _ => rfl) (fun _ _ _ => rfl) 1 v
  rw [cumProd_eq]
  exact ⟨this.1, fun i hi => by
    rw [this.2 i hi, show (fun a x : ℝ => x * a) = (· * ·) from funext₂ fun a x => mul_comm x a, ← List.prod_eq_foldl]⟩

/-- `sumProd` (repaired) is Σ v2ᵢ·v1ᵢ for equal lengths — including two empty vectors (0) -/
theorem sumProd_spec (v1 v2 : List ℝ) (h : v1.length = v2.length) :
    sumProd v1 v2 = .ok (List.zipWith (· * ·) v1 v2).sum :=
  (sumProd_out v1 v2).trans (sized_pos h)

/-- witness: before the repair `sumProd` of two empty vectors read element 0 -/
theorem sumProdOrig_empty_ub : sumProdOrig ([] : List ℝ) [] = .error .ub := by
  rfl

/-- `scalar` is Σ v1ᵢ·v2ᵢ -/
theorem scalar_spec (v1 v2 : List ℝ) (h : v1.length = v2.length) :
    scalar v1 v2 = .ok (List.zipWith (· * ·) v1 v2).sum := (scalar_out v1 v2).trans (sized_pos h)

/-! ## moments -/

/-- `mean` is Σv / n -/
theorem mean_spec (v : List ℝ) : mean v = v.sum / (v.length : ℝ) := mean_eq v

/-- weighted `mean` with normalisation is (Σ vᵢ·wᵢ)/(Σ w), for weights that do not sum to 0.
(`_hw` is not needed by the proof — in exact arithmetic both sides are the same quotient — but for
`Σw = 0` the code divides every weight by zero: the statement is deliberately restricted to the
region where the exact reading means something.) -/
theorem mean_weighted_spec (v w : List ℝ) (h : v.length = w.length) (_hw : w.sum ≠ 0) :
    meanW v w true = .ok ((List.zipWith (· * ·) v w).sum / w.sum) :=
  (meanW_out v w true).trans (sized_pos h)

example : meanW ([1, 2] : List ℝ) [1, 3] true = .ok ((1 * 1 + 2 * 3) / (1 + 3)) := by
  rw [mean_weighted_spec [1, 2] [1, 3] rfl (by norm_num)]; norm_num

/-- weighted `mean` without normalisation is Σ vᵢ·wᵢ -/
theorem mean_weighted_raw_spec (v w : List ℝ) (h : v.length = w.length) :
    meanW v w false = .ok (List.zipWith (· * ·) v w).sum :=
  (meanW_out v w false).trans (sized_pos h)

/-- `cov` is Σ (aᵢ-ā)(bᵢ-b̄) divided by `n-1` (unbiased, `n ≥ 2`) or `n` (`n ≥ 1`) -/
theorem cov_spec (v1 v2 : List ℝ) (unbiased : Bool) (h : v1.length = v2.length)
    (hn : (if unbiased then 2 else 1) ≤ v1.length) :
    cov v1 v2 unbiased = .ok
      ((List.zipWith (fun x y => (x - v1.sum / (v1.length : ℝ)) * (y - v2.sum / (v2.length : ℝ))) v1 v2).sum /
        (if unbiased then (v1.length : ℝ) - 1 else (v1.length : ℝ))) := by
  rw [cov_eq v1 v2 unbiased h hn, specCov_eq]

/-- `var` is Σ (vᵢ-v̄)² divided by `n-1` (unbiased, `n ≥ 2`) or `n` (`n ≥ 1`) -/
theorem var_spec (v : List ℝ) (unbiased : Bool) (hn : (if unbiased then 2 else 1) ≤ v.length) :
    var v unbiased = .ok
      ((v.map (fun x => (x - v.sum / (v.length : ℝ)) ^ 2)).sum /
        (if unbiased then (v.length : ℝ) - 1 else (v.length : ℝ))) := by
  rw [var, cov_spec v v unbiased rfl hn]
  rw [List.zipWith_self]
  exact congrArg (fun l : List ℝ => Except.ok (l.sum / _)) (List.map_congr_left fun x _ => (sq _).symm)

/-- the covariance is symmetric (as outcomes: both raise on a size mismatch) -/
theorem cov_symm (v1 v2 : List ℝ) (unbiased : Bool) (hn : (if unbiased then 2 else 1) ≤ v1.length) :
    cov v1 v2 unbiased = cov v2 v1 unbiased := by
  by_cases h : v1.length = v2.length
  · rw [cov_eq v1 v2 unbiased h hn, cov_eq v2 v1 unbiased h.symm (h ▸ hn), specCov_symm v1 v2 unbiased h]
  · rw [cov_out, cov_out, sized_neg h, sized_neg (Ne.symm h)]

/-- the variance is non-negative -/
theorem var_nonneg (v : List ℝ) (unbiased : Bool) (hn : (if unbiased then 2 else 1) ≤ v.length) :
    ∃ x, var v unbiased = .ok x ∧ 0 ≤ x := by
  refine ⟨_, cov_spec v v unbiased rfl hn, ?_⟩
  rw [List.zipWith_self]
  refine div_nonneg (sum_map_nonneg _ v fun x => mul_self_nonneg _) ?_
  cases unbiased
  · exact Nat.cast_nonneg _
  · exact sub_nonneg.mpr (Nat.one_le_cast.mpr (Nat.le_of_succ_le hn))

/-! ## extrema and their positions -/

/-- `max` returns an element of the vector that no element exceeds -/
theorem max_spec (v : List ℝ) (m : ℝ) (h : VecTools.max v = .ok m) : m ∈ v ∧ ∀ y ∈ v, y ≤ m := by
  obtain ⟨hm, hall⟩ := extremum_spec gt_strictWeak h
  exact ⟨hm, fun y hy => (ltb_false_iff m y).mp (hall y hy)⟩

/-- `min` returns an element of the vector that is below every element -/
theorem min_spec (v : List ℝ) (m : ℝ) (h : VecTools.min v = .ok m) : m ∈ v ∧ ∀ y ∈ v, m ≤ y := by
  obtain ⟨hm, hall⟩ := extremum_spec lt_strictWeak h
  exact ⟨hm, fun y hy => (ltb_false_iff y m).mp (hall y hy)⟩

/-- `max`/`min` of a non-empty vector succeed -/
theorem max_min_defined (v : List ℝ) (h : v ≠ []) : (∃ m, VecTools.max v = .ok m) ∧ (∃ m, VecTools.min v = .ok m) := by
  cases v with
  | nil => exact absurd rfl h
  | cons x xs => exact ⟨⟨_, rfl⟩, ⟨_, rfl⟩⟩

/-- `whichMax` returns the *first* position of a maximal element: the predicate the driver
evaluates on the implementation -/
theorem whichMax_first (v : List ℝ) (p : Nat) (h : whichMax v = .ok p) :
    IsFirstExtremum (fun y m => Scalar.gtb y m) v p :=
  whichExtremum_spec gt_strictWeak v p h

/-- … spelled out: `v[p]` exists, nothing exceeds it, everything before it is strictly smaller -/
theorem whichMax_first_iff (v : List ℝ) (p : Nat) (h : whichMax v = .ok p) :
    ∃ m, v[p]? = some m ∧ (∀ y ∈ v, y ≤ m) ∧ (∀ y ∈ v.take p, y < m) := by
  obtain ⟨m, hm, h1, h2⟩ := (isFirstExtremum_iff _ v p).mp (whichMax_first v p h)
  exact ⟨m, hm, fun y hy => by simpa [Scalar.gtb] using h1 y hy, fun y hy => by simpa [Scalar.gtb] using h2 y hy⟩

/-- `whichMin` returns the first position of a minimal element -/
theorem whichMin_first (v : List ℝ) (p : Nat) (h : whichMin v = .ok p) :
    ∃ m, v[p]? = some m ∧ (∀ y ∈ v, m ≤ y) ∧ (∀ y ∈ v.take p, m < y) := by
  obtain ⟨m, hm, h1, h2⟩ := (isFirstExtremum_iff _ v p).mp (whichExtremum_spec lt_strictWeak v p h)
  exact ⟨m, hm, fun y hy => by simpa using h1 y hy, fun y hy => by simpa using h2 y hy⟩

/-- the position answered is unique: any position with the first-maximum property is the answer -/
theorem whichMax_unique (v : List ℝ) (p q : Nat) (h : whichMax v = .ok p)
    (hq : IsFirstExtremum (fun y m => Scalar.gtb y m) v q) : q = p :=
  isFirstExtremum_unique _ v q p hq (whichMax_first v p h)

/-! ## order and median -/

/-- `order` answers a permutation of the positions along which the vector is non-decreasing
(the predicate the driver evaluates on the implementation; `std::sort` may order ties differently
from the model, every such answer satisfies the same predicate) -/
theorem order_sorted_perm (v : List ℝ) (idx : List Nat) (h : order v = .ok idx) :
    IsSortingPerm Scalar.ltb v idx := order_spec v idx h

/-- … spelled out -/
theorem order_sorted_perm_iff (v : List ℝ) (idx : List Nat) (h : order v = .ok idx) :
    idx.Perm (List.range v.length) ∧
      (idx.filterMap (fun i => v[i]?)).Pairwise (fun a b => a ≤ b) := by
  obtain ⟨hp, hs⟩ := order_spec v idx h
  exact ⟨hp, hs.imp (fun {a b} hab => by simpa using hab)⟩

/-- `order` succeeds exactly on non-empty vectors; the empty vector raises EmptyVectorException -/
theorem order_defined_iff (v : List ℝ) : (∃ idx, order v = .ok idx) ↔ v ≠ [] := by
  unfold order
  constructor
  · rintro ⟨idx, h⟩ hv; subst hv; simp at h
  · intro hv
    have : v.length ≠ 0 := by simpa using hv
    rw [if_neg this]; exact ⟨_, rfl⟩

/-- `median` of a non-empty vector never reads out of range, returns a median — at least half of
the elements are `≤ m` and at least half are `≥ m` — and leaves the vector sorted (a permutation
of the input, non-decreasing when there are at least two elements) -/
theorem median_spec (v : List ℝ) (hv : v ≠ []) :
    ∃ m s, median v = .ok (m, s) ∧ IsMedian Scalar.ltb v m ∧ s.Perm v ∧
      (2 ≤ v.length → SortedBy Scalar.ltb s) := median_spec' v hv

/-- … the counting statement spelled out -/
theorem median_spec_iff (v : List ℝ) (hv : v ≠ []) :
    ∃ m s, median v = .ok (m, s) ∧
      v.length ≤ 2 * v.countP (fun x => decide (x ≤ m)) ∧ v.length ≤ 2 * v.countP (fun x => decide (m ≤ x)) := by
  obtain ⟨m, s, h, ⟨h1, h2⟩, -, -⟩ := median_spec' v hv
  refine ⟨m, s, h, ?_, ?_⟩
  · convert h1 using 3; funext x; simp only [Scalar.ltb]
    by_cases hx : m < x
    · simp [hx, not_le.mpr hx]
    · simp [hx, not_lt.mp hx]
  · convert h2 using 3; funext x; simp only [Scalar.ltb]
    by_cases hx : x < m
    · simp [hx, not_le.mpr hx]
    · simp [hx, not_lt.mp hx]

/-- the median of the empty vector is the documented 0 -/
theorem median_empty : median ([] : List ℝ) = .ok (0, []) := by
  simp [median]

/-! ## correlation -/

/-- Cauchy–Schwarz: the Pearson correlation of two non-constant samples of equal length `≥ 2`
is defined and lies in `[-1, 1]`.  (For a constant sample the code divides by a zero standard
deviation — NaN in floating point — which is why the hypothesis is needed.) -/
theorem cor_sq_le_one (v1 v2 : List ℝ) (h : v1.length = v2.length) (hn : 2 ≤ v1.length)
    (h1 : ∃ x ∈ v1, ∃ y ∈ v1, x ≠ y) (h2 : ∃ x ∈ v2, ∃ y ∈ v2, x ≠ y) :
    ∃ r, cor v1 v2 = .ok r ∧ r ^ 2 ≤ 1 := cor_sq_le_one' v1 v2 h hn h1 h2

theorem cor_range (v1 v2 : List ℝ) (h : v1.length = v2.length) (hn : 2 ≤ v1.length)
    (h1 : ∃ x ∈ v1, ∃ y ∈ v1, x ≠ y) (h2 : ∃ x ∈ v2, ∃ y ∈ v2, x ≠ y) :
    ∃ r, cor v1 v2 = .ok r ∧ -1 ≤ r ∧ r ≤ 1 := by
  obtain ⟨r, hr, hsq⟩ := cor_sq_le_one' v1 v2 h hn h1 h2
  exact ⟨r, hr, abs_le.mp ((sq_le_one_iff_abs_le_one r).mp hsq)⟩

example : ∃ r, cor ([1, 2, 4] : List ℝ) [3, 1, 0] = .ok r ∧ r ^ 2 ≤ 1 :=
  cor_sq_le_one _ _ rfl (by decide) ⟨1, by simp, 2, by simp, by norm_num⟩ ⟨3, by simp, 1, by simp, by norm_num⟩

/-! ## set-like helpers
Stated for an arbitrary linear order `β`, with `==` and `<` read as `deq`/`dlt` (`decide (a = b)`,
`decide (a < b)`). -/
section Sets
variable {β : Type} [LinearOrder β]

/-- `contains` is membership -/
theorem contains_iff (v : List β) (x : β) : contains deq v x = true ↔ x ∈ v := contains_deq v x

/-- `unique` answers a strictly increasing (hence duplicate-free) vector with the same elements -/
theorem unique_nodup_same_set (v : List β) :
    (unique deq dlt v).Pairwise (· < ·) ∧ (unique deq dlt v).Nodup ∧ ∀ x, x ∈ unique deq dlt v ↔ x ∈ v := by
  obtain ⟨h1, h2⟩ := unique_spec v
  exact ⟨h1, h1.imp (fun {a b} h => ne_of_lt h), h2⟩

/-- witness of the defect repaired in round 2: before the repair `vectorUnion(v1, v2)` kept the
repeated elements of its first argument (documented: "duplicate element will be removed") … -/
theorem unionOrig_keeps_duplicates (x : β) (b : List β) :
    ¬ (vectorUnionOrig deq [x, x] b).Nodup := by
  rw [vectorUnionOrig_eq]; simp

/-- … and was otherwise the first vector followed by the new, pairwise distinct elements of the
second — which is what `extend` (the in-place variant, documented that way) still computes
(`IsUnion` is the predicate the driver evaluates for `extend`) -/
theorem unionOrig_shape (a b : List β) :
    (∀ x, x ∈ vectorUnionOrig deq a b ↔ x ∈ a ∨ x ∈ b) ∧
    IsUnion deq a b (vectorUnionOrig deq a b) ∧ (a.Nodup → (vectorUnionOrig deq a b).Nodup) :=
  ⟨mem_vectorUnionOrig a b, isUnion_vectorUnionOrig a b, nodup_vectorUnionOrig a b⟩

/-- `vectorIntersection` holds exactly the common elements (in the order of the first vector) -/
theorem inter_iff (a b : List β) (x : β) : x ∈ vectorIntersection deq a b ↔ x ∈ a ∧ x ∈ b := by
  rw [vectorIntersection, List.mem_filter, contains_deq]

theorem inter_sublist (a b : List β) : (vectorIntersection deq a b).Sublist a := by
  unfold vectorIntersection; exact List.filter_sublist

/-- `diff` (repaired) holds exactly the elements of the first vector that are not in the second,
strictly increasing — for every second vector, the empty one included -/
theorem diff_iff (a b : List β) :
    (∀ x, x ∈ diff deq dlt a b ↔ x ∈ a ∧ x ∉ b) ∧ (diff deq dlt a b).Pairwise (· < ·) := diff_spec a b

/-- witness: before the repair, `diff` of a non-empty vector and an empty second vector read
`v2[0]` of the empty vector -/
theorem diffOrig_empty_ub (a : List β) (ha : a ≠ []) : diffOrig deq dlt a [] = .error .ub := by
  unfold diffOrig
  have hlen : (a.mergeSort (leOfLt dlt)).length = a.length := List.length_mergeSort a
  cases hs : a.mergeSort (leOfLt dlt) with
  | nil => rw [hs] at hlen; exact absurd (List.length_eq_zero_iff.mp hlen.symm) ha
  | cons x xs => simp [diffLoop, sameAsPrev, advance]

end Sets

/-! ## false discovery rate (StatTools::computeFdr, repaired) -/

/-- `computeFdr` never reads or writes out of range and answers the Benjamini–Hochberg adjustment
along the ranking it sorted: the p-value at position `k` of the decreasing order — rank `n - k` —
is answered `p·n/(n - k)` (`IsFdrVia` is the predicate the driver evaluates on the implementation;
equal p-values may be ranked in any order) -/
theorem fdr_spec (p : List ℝ) :
    ∃ out, computeFdr p = .ok out ∧ IsFdrVia p out ((sortPValues p).map (·.2)) := computeFdr_spec p

/-- for pairwise distinct p-values: `fdrᵢ = pᵢ·n / rank(pᵢ)`, `rank(pᵢ) = #{j | pⱼ ≤ pᵢ}` -/
theorem fdr_rank_formula (p : List ℝ) (hnd : p.Nodup) :
    ∃ out, computeFdr p = .ok out ∧ out.length = p.length ∧
      ∀ (i : Nat) (x : ℝ), p[i]? = some x →
        out[i]? = some (x * (p.length : ℝ) / ((p.countP (fun y => decide (y ≤ x)) : Nat) : ℝ)) :=
  computeFdr_rank p hnd

/-- witness of the defect: before the repair every entry was `pᵢ·n/(i+1)` — the divisor is the
position in the input, not the rank -/
theorem fdrOrig_divides_by_index (p : List ℝ) :
    ∃ out, computeFdrOrig p = .ok out ∧ out.length = p.length ∧
      ∀ (i : Nat) (x : ℝ), p[i]? = some x → out[i]? = some (x * (p.length : ℝ) / ((i : ℝ) + 1)) :=
  computeFdrOrig_spec p

/-- … e.g. the larger of two p-values, listed first, was doubled although its rank is 2 -/
theorem fdrOrig_witness : ∃ out, computeFdrOrig ([4/100, 1/100] : List ℝ) = .ok out ∧ out[0]? = some (8/100) := by
  obtain ⟨out, h, -, h2⟩ := computeFdrOrig_spec [4/100, 1/100]
  refine ⟨out, h, ?_⟩
  rw [h2 0 (4/100) rfl]; norm_num

example : ∃ out, computeFdr ([4/100, 1/100] : List ℝ) = .ok out ∧ out[0]? = some (4/100) := by
  obtain ⟨out, h, -, h2⟩ := computeFdr_rank [4/100, 1/100] (by norm_num)
  refine ⟨out, h, ?_⟩
  rw [h2 0 (4/100) rfl]
  norm_num [List.countP_cons]

/-! ## element-wise operators -/

/-- the binary operators answer the element-wise results for equal lengths -/
theorem elementwise_spec (v1 v2 : List ℝ) (h : v1.length = v2.length) :
    add v1 v2 = .ok (List.zipWith (· + ·) v1 v2) ∧ sub v1 v2 = .ok (List.zipWith (· - ·) v1 v2) ∧
    mul v1 v2 = .ok (List.zipWith (· * ·) v1 v2) ∧ div v1 v2 = .ok (List.zipWith (· / ·) v1 v2) :=
  ⟨(zipOp_out ..).trans (sized_pos h), (zipOp_out ..).trans (sized_pos h), (zipOp_out ..).trans (sized_pos h),
   (zipOp_out ..).trans (sized_pos h)⟩

/-- witness: before the repair the compound operators `v1 op= v2` read `v2` out of range when it
is shorter than `v1` … -/
theorem zipAssignOrig_shorter_ub (f : ℝ → ℝ → ℝ) (x : ℝ) (xs : List ℝ) :
    zipAssignOrig f (x :: xs) [] = .error .ub := rfl

/-- … and silently ignored the tail of a longer `v2` -/
theorem zipAssignOrig_longer_truncates (f : ℝ → ℝ → ℝ) (y : ℝ) (ys : List ℝ) :
    zipAssignOrig f [] (y :: ys) = .ok [] := rfl

/-! ## size mismatches and empty inputs -/

/-- every two-vector routine reports a size mismatch by DimensionException -/
theorem mismatch_raises (v1 v2 : List ℝ) (h : v1.length ≠ v2.length) :
    add v1 v2 = .error .dimension ∧ sub v1 v2 = .error .dimension ∧ mul v1 v2 = .error .dimension ∧
    div v1 v2 = .error .dimension ∧ (∀ f, zipAssign f v1 v2 = .error .dimension) ∧
    sumProd v1 v2 = .error .dimension ∧ scalar v1 v2 = .error .dimension ∧ normW v1 v2 = .error .dimension ∧
    VecTools.cos v1 v2 = .error .dimension ∧ (∀ nw, meanW v1 v2 nw = .error .dimension) ∧
    (∀ nw, centerW v1 v2 nw = .error .dimension) ∧ (∀ u, cov v1 v2 u = .error .dimension) ∧
    cor v1 v2 = .error .dimension := by
  have out : ∀ {β : Type} {r : Res β} {x : β}, r = sized (v1.length = v2.length) x → r = .error .dimension :=
    fun e => e.trans (sized_neg h)
  refine ⟨out (zipOp_out ..), out (zipOp_out ..), out (zipOp_out ..), out (zipOp_out ..), fun f => out (zipOp_out f ..),
    out (sumProd_out ..), out (scalar_out ..), out (normW_out ..), out (cos_out ..), fun nw => out (meanW_out _ _ nw),
    fun nw => out (centerW_out _ _ nw), fun u => out (cov_out _ _ u), ?_⟩
  rw [cor, out (cov_out ..)]; rfl

/-- the weighted routines raise when either sample does not match the weights -/
theorem mismatch_raises_weighted (v1 v2 w : List ℝ) (h : v1.length ≠ w.length ∨ v2.length ≠ w.length) :
    scalarW v1 v2 w = .error .dimension ∧ (∀ u nw, covW v1 v2 w u nw = .error .dimension) ∧
    (∀ nw, corW v1 v2 w nw = .error .dimension) :=
  have hc : ¬(v1.length = w.length ∧ v2.length = w.length) := not_and_or.mpr h
  ⟨(scalarW_out ..).trans (sized_neg hc), fun u nw => (covW_out _ _ _ u nw).trans (sized_neg hc),
   fun nw => (corW_out _ _ _ nw).trans (sized_neg hc)⟩

/-- the routines documented to throw on an empty vector do so -/
theorem empty_raises :
    VecTools.max ([] : List ℝ) = .error .empty ∧ VecTools.min ([] : List ℝ) = .error .empty ∧
    whichMax ([] : List ℝ) = .error .empty ∧ whichMin ([] : List ℝ) = .error .empty ∧
    whichMaxAll ([] : List ℝ) = .error .empty ∧ whichMinAll ([] : List ℝ) = .error .empty ∧
    VecTools.range ([] : List ℝ) = .error .empty ∧ order ([] : List ℝ) = .error .empty := by
  refine ⟨rfl, rfl, rfl, rfl, rfl, rfl, rfl, rfl⟩

/-- no routine of the (repaired) model reads out of range, whatever the sizes: empty vectors,
single elements and mismatched lengths included -/
theorem empty_no_ub (v1 v2 w : List ℝ) (u nw : Bool) (f : ℝ → ℝ → ℝ) (x : ℝ) :
    NoUb (zipOp f v1 v2) ∧ NoUb (zipAssign f v1 v2) ∧ NoUb (sumProd v1 v2) ∧ NoUb (scalar v1 v2) ∧
    NoUb (scalarW v1 v2 w) ∧ NoUb (normW v1 w) ∧ NoUb (VecTools.cos v1 v2) ∧
    NoUb (VecTools.max v1) ∧ NoUb (VecTools.min v1) ∧ NoUb (whichMax v1) ∧ NoUb (whichMin v1) ∧
    NoUb (whichMaxAll v1) ∧ NoUb (whichMinAll v1) ∧ NoUb (VecTools.range v1) ∧ NoUb (order v1) ∧
    NoUb (median v1) ∧ NoUb (meanW v1 w nw) ∧ NoUb (centerW v1 w nw) ∧ NoUb (cov v1 v2 u) ∧
    NoUb (var v1 u) ∧ NoUb (sd v1 u) ∧ NoUb (cor v1 v2) ∧ NoUb (covW v1 v2 w u nw) ∧
    NoUb (varW v1 w u nw) ∧ NoUb (sdW v1 w u nw) ∧ NoUb (corW v1 v2 w nw) ∧
    NoUb (which Scalar.eqb v1 x) ∧ NoUb (computeFdr v1) :=
  ⟨zipOp_noUb _ _ _, zipOp_noUb _ _ _, sumProd_noUb _ _, scalar_noUb _ _, scalarW_noUb _ _ _, normW_noUb _ _,
   cos_noUb _ _, extremum_noUb _ _, extremum_noUb _ _, whichExtremum_noUb _ _, whichExtremum_noUb _ _,
   whichMaxAll_noUb _, whichMinAll_noUb _, range_noUb _, order_noUb _, median_noUb _, meanW_noUb _ _ _,
   centerW_noUb _ _ _, cov_noUb _ _ _, cov_noUb _ _ _, sd_noUb _ _, cor_noUb _ _, covW_noUb _ _ _ _ _,
   covW_noUb _ _ _ _ _, sdW_noUb _ _ _ _, corW_noUb _ _ _ _, which_noUb _ _ _, computeFdr_noUb _⟩

/-! ## seq (repaired) -/

/-- `seq(from, to, by)` with a positive step has `⌊(|from-to| + by/100)/by⌋ + 1` elements, starts
at `from` and advances by `by` towards `to` -/
theorem seq_spec (frm tt by_ : ℝ) (hby : 0 < by_) :
    ∃ l, seq truncR frm tt by_ = .ok l ∧
      l.length = ⌊(|frm - tt| + by_ / 100) / by_⌋₊ + 1 ∧
      ∀ i, i < l.length → l[i]? = some (frm + i * (if frm < tt then by_ else -by_)) := seq_spec' frm tt by_ hby

/-- when the end point is a whole number `k` of steps away (upwards or downwards) the sequence
has `k+1` elements, the first is `from` and the last is the end point -/
theorem seq_includes_to (frm by_ : ℝ) (k : Nat) (up : Bool) (hby : 0 < by_) :
    let tt := if up then frm + k * by_ else frm - k * by_
    ∃ l, seq truncR frm tt by_ = .ok l ∧ l.length = k + 1 ∧ l[0]? = some frm ∧ l[k]? = some tt := by
  intro tt
  refine seq_hits_to frm tt by_ k hby ?_
  have hk : (0 : ℝ) ≤ k * by_ := mul_nonneg (Nat.cast_nonneg k) hby.le
  cases up
  · rw [show tt = frm - k * by_ from rfl, sub_sub_cancel, abs_of_nonneg hk]
  · rw [show tt = frm + k * by_ from rfl, sub_add_cancel_left, abs_neg, abs_of_nonneg hk]

/-- witness: before the repair a descending sequence started at the *end* point and walked away
from the range (`seq(5,1,1) = 1 0 -1 -2 -3`) -/
theorem seqOrig_descending_wrong (trunc : ℝ → Nat) (frm tt by_ : ℝ) (hby : 0 < by_) (h : tt < frm) :
    ∃ l, seqOrig trunc frm tt by_ = .ok (tt :: l) := by
  unfold seqOrig seqWith
  have h1 : Scalar.gtb by_ Scalar.zero = true := by simp [hby]
  have h2 : Scalar.ltb frm tt = false := by simp [le_of_lt h]
  simp only [h1, Bool.not_true, Bool.false_eq_true, if_false, h2, seqFill]
  exact ⟨_, rfl⟩

/-! ## further statements (each is a clause the driver evaluates) -/

/-- `norm` is √Σxᵢ² -/
theorem norm_spec (v : List ℝ) : norm v = Real.sqrt (v.map (fun x => x * x)).sum := norm_eq v

/-- weighted `scalar` is Σ v1ᵢ·v2ᵢ·wᵢ -/
theorem scalarW_spec (v1 v2 w : List ℝ) (h1 : v1.length = w.length) (h2 : v2.length = w.length) :
    scalarW v1 v2 w = .ok (zipWith3 (fun a b c => a * b * c) v1 v2 w).sum :=
  (scalarW_out v1 v2 w).trans (sized_pos ⟨h1, h2⟩)

/-- Cauchy–Schwarz for `cos`: the cosine of two non-zero vectors lies in `[-1,1]` -/
theorem cos_range (v1 v2 : List ℝ) (h : v1.length = v2.length)
    (h1 : 0 < (v1.map (fun x => x * x)).sum) (h2 : 0 < (v2.map (fun x => x * x)).sum) :
    ∃ c, VecTools.cos v1 v2 = .ok c ∧ c ^ 2 ≤ 1 := by
  exact ⟨_, (cos_out v1 v2).trans (sized_pos h), sq_div_sqrt_le_one _ _ _ h1 h2 (cauchy_schwarz_list v1 v2)⟩

/-- `range` is (min, max) -/
theorem range_spec (v : List ℝ) (lo hi : ℝ) (h : VecTools.range v = .ok (lo, hi)) :
    VecTools.min v = .ok lo ∧ VecTools.max v = .ok hi := by
  cases v with
  | nil => simp [VecTools.range] at h
  | cons x xs =>
    simp only [VecTools.range, Except.ok.injEq] at h
    simp only [VecTools.min, VecTools.max, extremum, Except.ok.injEq]
    have key : ∀ (l : List ℝ) (a b : ℝ),
        l.foldl (fun (r : ℝ × ℝ) y => (if Scalar.ltb y r.1 then y else r.1, if Scalar.gtb y r.2 then y else r.2)) (a, b) =
        (l.foldl (fun m y => if Scalar.ltb y m then y else m) a, l.foldl (fun m y => if Scalar.gtb y m then y else m) b) := by
      intro l
      induction l with
      | nil => intro a b; rfl
      | cons y ys ih => intro a b; simp only [List.foldl_cons]; rw [ih]
    rw [key] at h
    exact ⟨congrArg Prod.fst h, congrArg Prod.snd h⟩

/-- `center` subtracts the mean: the centred sample sums to 0 -/
theorem center_spec (v : List ℝ) :
    center v = v.map (· - v.sum / (v.length : ℝ)) ∧ (v ≠ [] → (center v).sum = 0) :=
  ⟨center_eq v, sum_center v⟩

/-- `whichMaxAll` answers exactly the positions of the maximum, in increasing order -/
theorem whichMaxAll_positions (v : List ℝ) (pos : List Nat) (h : whichMaxAll v = .ok pos) :
    ∃ m, VecTools.max v = .ok m ∧ IsPositionsOf Scalar.eqb v m pos := whichMaxAll_spec v pos h

/-- `which` answers the first position of the element … -/
theorem which_first {β : Type} (eq : β → β → Bool) (v : List β) (x : β) (p : Nat) (h : which eq v x = .ok p) :
    (∃ y, v[p]? = some y ∧ eq y x = true) ∧ ∀ y ∈ v.take p, eq y x = false :=
  which_spec eq v x p h

/-- … and raises ElementNotFoundException when there is none -/
theorem which_notfound_raises {β : Type} (eq : β → β → Bool) (v : List β) (x : β)
    (h : ∀ y ∈ v, eq y x = false) : which eq v x = .error .notfound := which_absent eq v x h

/-- `shannon` is `-Σ_{x>0} x·ln x / ln base` -/
theorem shannon_spec (v : List ℝ) (base : ℝ) :
    shannon v base = - ((v.filter (fun x => decide (0 < x))).map (fun x => x * Real.log x / Real.log base)).sum :=
  shannon_eq v base

/-- the entropy of frequencies (entries `≤ 1`) to a base `> 1` is non-negative -/
theorem shannon_nonneg (v : List ℝ) (base : ℝ) (hb : 1 < base) (hv : ∀ x ∈ v, x ≤ 1) : 0 ≤ shannon v base := by
  rw [shannon_eq, neg_nonneg]
  apply list_sum_nonpos
  intro t ht
  simp only [List.mem_map, List.mem_filter, decide_eq_true_eq] at ht
  obtain ⟨x, ⟨hx, hpos⟩, rfl⟩ := ht
  have h1 : Real.log x ≤ 0 := Real.log_nonpos hpos.le (hv x hx)
  have h2 : 0 < Real.log base := Real.log_pos hb
  exact div_nonpos_of_nonpos_of_nonneg (mul_nonpos_of_nonneg_of_nonpos hpos.le h1) h2.le

section Sets2
variable {β : Type} [LinearOrder β]

/-- `isUnique` holds exactly when no element is repeated -/
theorem isUnique_iff (v : List β) : isUnique deq dlt v = true ↔ v.Nodup := by
  unfold isUnique
  have hs := sorted_mergeSort_dlt v
  have hp : (v.mergeSort (leOfLt dlt)).Perm v := List.mergeSort_perm _ _
  rw [← hp.nodup_iff]
  generalize v.mergeSort (leOfLt dlt) = s at hs hp
  cases s with
  | nil => simp
  | cons x xs =>
    simp only
    rw [noAdjDup_iff x xs hs]
    constructor
    · intro h; exact h.imp (fun {a b} hab => ne_of_lt hab)
    · intro h
      have := hs.and h
      exact this.imp (fun {a b} hab => lt_of_le_of_ne hab.1 hab.2)

/-- `haveSameElements` holds exactly for permutations (same elements with the same frequencies) -/
theorem haveSame_iff (a b : List β) : haveSameElements deq dlt a b = true ↔ a.Perm b :=
  haveSameElements_iff' a b
end Sets2

section Sets3
variable {β : Type} [LinearOrder β]

/-- `containsAll` (repaired): the first vector contains every element of the second -/
theorem containsAll_iff (a b : List β) : containsAll deq dlt a b = true ↔ ∀ x ∈ b, x ∈ a := containsAll_iff' a b

/-- witness: before the repair an empty first vector was read out of range -/
theorem containsAllOrig_empty_ub (b : List β) (hb : b ≠ []) : containsAllOrig deq dlt [] b = .error .ub := by
  unfold containsAllOrig
  have hlen : (b.mergeSort (leOfLt dlt)).length = b.length := List.length_mergeSort b
  cases hs : b.mergeSort (leOfLt dlt) with
  | nil => rw [hs] at hlen; exact absurd (List.length_eq_zero_iff.mp hlen.symm) hb
  | cons x xs => simp [containsAllLoopOrig, sameAsPrev, advance]
end Sets3

/-! ## entropy of a sample -/

open scoped BigOperators in
/-- `shannonDiscrete` is `-Σ_x (c_x/n)·ln(c_x/n)/ln base` over the distinct observed values `x`, with
`c_x` the number of occurrences (the `std::map` of counts is modelled by a sorted association
list; the theorem shows that it holds exactly the occurrence counts) -/
theorem shannonDiscrete_spec (v : List ℝ) (base : ℝ) :
    shannonDiscrete v base =
      - ∑ k ∈ v.toFinset, ((v.count k : ℝ) / v.length) * Real.log ((v.count k : ℝ) / v.length) / Real.log base := by
  rw [shannonDiscrete, foldl_add_map,
    countMap_sum v fun _ c => c / Scalar.ofInt v.length * Scalar.log (c / Scalar.ofInt v.length) / Scalar.log base]
  simp

open scoped BigOperators in
/-- `miDiscrete` is `Σ_{(a,b)} (c_ab/n)·ln(c_ab·n/(c_a·c_b))/ln base` over the distinct observed
pairs, `c_ab`, `c_a`, `c_b` the joint and marginal occurrence counts -/
theorem miDiscrete_spec (v1 v2 : List ℝ) (base : ℝ) (h : v1.length = v2.length) :
    miDiscrete v1 v2 base = .ok (∑ p ∈ (List.zip v1 v2).toFinset,
      (((List.zip v1 v2).count p : ℝ) / v1.length) *
        Real.log (((List.zip v1 v2).count p : ℝ) * v1.length / ((v1.count p.1 : ℝ) * (v2.count p.2 : ℝ))) / Real.log base) := by
  unfold miDiscrete
  rw [if_neg (by simpa using h)]
  simp only
  congr 1
  simp only [ofInt_eq, Int.cast_natCast, log_eq, zero_eq, countMap_get]
  exact countMap2_sum v1 v2 fun a b c => (c / (v1.length : ℝ)) *
    Real.log (c * (v1.length : ℝ) / ((v1.count a : ℝ) * (v2.count b : ℝ))) / Real.log base

/-- samples of different lengths are reported by DimensionException -/
theorem miDiscrete_mismatch_raises (v1 v2 : List ℝ) (base : ℝ) (h : v1.length ≠ v2.length) :
    miDiscrete v1 v2 base = .error .dimension := by
  simp [miDiscrete, h]

/-! ## weighted moments -/

/-- weighted `cov`: with `wn` the weights actually used (`w/Σw` when normalising), the weighted
means `m₁ = Σ v1ᵢ·wnᵢ`, `m₂` and `x = Σ (v1ᵢ-m₁)(v2ᵢ-m₂)·wnᵢ`, the answer is `x`, divided by
`1 - Σ wnᵢ²` for the unbiased estimate -/
theorem covW_spec (v1 v2 w : List ℝ) (u nw : Bool) (h1 : v1.length = w.length) (h2 : v2.length = w.length) :
    covW v1 v2 w u nw = .ok (
      let wn := normW' w nw
      let m1 := (List.zipWith (· * ·) v1 wn).sum
      let m2 := (List.zipWith (· * ·) v2 wn).sum
      let x := (zipWith3 (fun a b c => a * b * c) (v1.map (· - m1)) (v2.map (· - m2)) wn).sum
      if u then x / (1 - (wn.map (fun a => a * a)).sum) else x) := by
  rw [covW_out, sized_pos ⟨h1, h2⟩]
  simp only [Spec.covW, normW', specDot_eq, Spec.dotW, specSum_eq, List.zipWith_self, one_eq]

/-- weighted Cauchy–Schwarz: with non-negative weights and positive weighted variances the
weighted correlation lies in `[-1,1]` -/
theorem corW_sq_le_one (v1 v2 w : List ℝ) (nw : Bool) (h1 : v1.length = w.length) (h2 : v2.length = w.length)
    (hw : ∀ c ∈ normW' w nw, 0 ≤ c)
    (hA : ∃ a, varW v1 (normW' w nw) false false = .ok a ∧ 0 < a)
    (hB : ∃ b, varW v2 (normW' w nw) false false = .ok b ∧ 0 < b) :
    ∃ r, corW v1 v2 w nw = .ok r ∧ r ^ 2 ≤ 1 := by
  have h1' := h1.trans (normW'_length w nw).symm
  have h2' := h2.trans (normW'_length w nw).symm
  obtain ⟨a, ha, hapos⟩ := hA
  obtain ⟨b, hb, hbpos⟩ := hB
  rw [varW, covW_out, sized_pos ⟨h1', h1'⟩] at ha
  rw [varW, covW_out, sized_pos ⟨h2', h2'⟩] at hb
  cases ha; cases hb
  exact ⟨_, (corW_out v1 v2 w nw).trans (sized_pos ⟨h1, h2⟩), sq_div_sqrt_le_one _ _ _ hapos hbpos (specCovW_sq_le v1 v2 _ hw)⟩

/-! ## whichAll, append -/

/-- `whichAll` answers exactly the positions holding the element, in increasing order, and raises
ElementNotFoundException when there is none -/
theorem whichAll_spec (v : List ℝ) (x : ℝ) :
    (∀ pos, whichAll v x = .ok pos → IsPositionsOf Scalar.eqb v x pos ∧ pos ≠ []) ∧
    ((∀ y ∈ v, y ≠ x) → whichAll v x = .error .notfound) := by
  have hpos : positionsOf x 0 v = (List.range v.length).filter (holdsAt Scalar.eqb v x) := isPositionsOf_positionsOf x v
  constructor
  · intro pos h
    unfold whichAll at h
    simp only at h
    split at h
    · rename_i hne
      simp only [Except.ok.injEq] at h
      subst h
      exact ⟨hpos, fun hnil => hne (by rw [hnil]; rfl)⟩
    · cases h
  · intro hall
    unfold whichAll
    have : positionsOf x 0 v = [] := by
      rw [hpos, List.filter_eq_nil_iff]
      intro i hi
      have hi' : i < v.length := List.mem_range.mp hi
      simp only [holdsAt, List.getElem?_eq_getElem hi', ScalarReal.eqb_iff]
      exact hall _ (List.getElem_mem hi')
    simp [this]

/-- `append` of a vector of vectors (repaired) is their concatenation -/
theorem appendAll_spec {α : Type} (vs : List (List α)) : appendAll vs = vs.flatten := by
  unfold appendAll
  split
  · rfl
  · simp
  · rw [foldl_append_flatten]; simp

/-- witness: before the repair only the first vector was returned -/
theorem appendAllOrig_drops {α : Type} (v w : List α) (rest : List (List α)) (hw : w ≠ []) :
    appendAllOrig (v :: w :: rest) ≠ (v :: w :: rest).flatten := by
  simp only [appendAllOrig, List.flatten_cons]
  intro h
  have := congrArg List.length h
  simp only [List.length_append] at this
  have : w.length = 0 := by omega
  exact hw (List.length_eq_zero_iff.mp this)

end Bpp.C07
