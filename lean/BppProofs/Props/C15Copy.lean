import BppProofs.Props.C15
import BppProofs.Props.C15Dag
import BppProofs.Lemmas.TreeCopy
/-!
# C15 — copies of the tree and DAG containers (model `BppModel/TreeCopy.lean`)

`TreeGraphImpl<GlobalGraph>` and `DAGraphImpl<GlobalGraph>` have compiler-generated copy constructors
and assignment operators: the tables of `GlobalGraph` are copied, then the cached flags.  Assigning
through the base class (`GlobalGraph::operator=`) runs the first half only and — as repaired — resets
the flags.  Proved here (helper lemmas in `Lemmas/TreeCopy.lean`):

* `copy_same_relations`, `assign_same_relations`, `graphAssign_relations` (and `dag_*`): a copy has the tables,
  the root, the directedness, the id counters and the flag(s) of its source; `graphAssign` has the tables of the
  graph and reset flag(s); self-assignment changes nothing;
* `heap_step_other`, `heap_copy_get` (and `dag_heap_*`): **independence** — several containers side by side
  (`Heap`): an operation writes one slot only, all the other containers are what they were, in particular a
  container is not touched by what happens to its copy;
* `heap_cache_sound`, `dag_heap_cache_sound`: over all heap histories (operations of C15 on any container,
  copies, assignments, base-class assignments, each succeeding or raising or addressing an absent slot)
  every container has sound cached flags and consistent tables.
-/
namespace Bpp.C15
open Bpp Bpp.Graph

/-! ## a copy has the relations and the flag of its source -/

/-- **copy_same_relations**: copy construction: same node table, edge table, root, directedness, id counters, and
the flag travels with the tables it was computed from -/
theorem copy_same_relations (t : T) :
    (T.copy t).g.nodes = t.g.nodes ∧ (T.copy t).g.edges = t.g.edges ∧ (T.copy t).g.root = t.g.root ∧
    (T.copy t).g.directed = t.g.directed ∧ (T.copy t).g.nextNode = t.g.nextNode ∧
    (T.copy t).g.nextEdge = t.g.nextEdge ∧ (T.copy t).valid = t.valid :=
  ⟨rfl, rfl, rfl, rfl, rfl, rfl, rfl⟩

/-- assignment from another object: the target is a copy of the source (nothing of the target is left) -/
theorem assign_same_relations (dst src : T) :
    (T.assign dst src false).g.nodes = src.g.nodes ∧ (T.assign dst src false).g.edges = src.g.edges ∧
    (T.assign dst src false).g.root = src.g.root ∧ (T.assign dst src false).g.directed = src.g.directed ∧
    (T.assign dst src false).g.nextNode = src.g.nextNode ∧ (T.assign dst src false).g.nextEdge = src.g.nextEdge ∧
    (T.assign dst src false).valid = src.valid ∧ T.assign dst src false = T.copy src :=
  ⟨rfl, rfl, rfl, rfl, rfl, rfl, rfl, rfl⟩

/-- assignment through the base class: the tables of the graph, and the flag is reset -/
theorem graphAssign_relations (dst : T) (g : G) :
    (T.graphAssign dst g false).g.nodes = g.nodes ∧ (T.graphAssign dst g false).g.edges = g.edges ∧
    (T.graphAssign dst g false).g.root = g.root ∧ (T.graphAssign dst g false).g.directed = g.directed ∧
    (T.graphAssign dst g false).g.nextNode = g.nextNode ∧ (T.graphAssign dst g false).g.nextEdge = g.nextEdge ∧
    (T.graphAssign dst g false).valid = false :=
  ⟨rfl, rfl, rfl, rfl, rfl, rfl, rfl⟩

/-- self-assignment, either way: nothing happens -/
theorem assign_self (dst src : T) (g : G) : T.assign dst src true = dst ∧ T.graphAssign dst g true = dst := ⟨rfl, rfl⟩

/-- **dag_copy_same_relations**: the same for the DAG container, with its two flags -/
theorem dag_copy_same_relations (d : D) :
    (D.copy d).g.nodes = d.g.nodes ∧ (D.copy d).g.edges = d.g.edges ∧ (D.copy d).g.root = d.g.root ∧
    (D.copy d).g.directed = d.g.directed ∧ (D.copy d).g.nextNode = d.g.nextNode ∧
    (D.copy d).g.nextEdge = d.g.nextEdge ∧ (D.copy d).valid = d.valid ∧ (D.copy d).rooted = d.rooted :=
  ⟨rfl, rfl, rfl, rfl, rfl, rfl, rfl, rfl⟩

theorem dag_assign_same_relations (dst src : D) :
    (D.assign dst src false).g.nodes = src.g.nodes ∧ (D.assign dst src false).g.edges = src.g.edges ∧
    (D.assign dst src false).g.root = src.g.root ∧ (D.assign dst src false).g.directed = src.g.directed ∧
    (D.assign dst src false).g.nextNode = src.g.nextNode ∧ (D.assign dst src false).g.nextEdge = src.g.nextEdge ∧
    (D.assign dst src false).valid = src.valid ∧ (D.assign dst src false).rooted = src.rooted ∧
    D.assign dst src false = D.copy src :=
  ⟨rfl, rfl, rfl, rfl, rfl, rfl, rfl, rfl, rfl⟩

theorem dag_graphAssign_relations (dst : D) (g : G) :
    (D.graphAssign dst g false).g.nodes = g.nodes ∧ (D.graphAssign dst g false).g.edges = g.edges ∧
    (D.graphAssign dst g false).g.root = g.root ∧ (D.graphAssign dst g false).g.directed = g.directed ∧
    (D.graphAssign dst g false).g.nextNode = g.nextNode ∧ (D.graphAssign dst g false).g.nextEdge = g.nextEdge ∧
    (D.graphAssign dst g false).valid = false ∧ (D.graphAssign dst g false).rooted = false :=
  ⟨rfl, rfl, rfl, rfl, rfl, rfl, rfl, rfl⟩

theorem dag_assign_self (dst src : D) (g : G) : D.assign dst src true = dst ∧ D.graphAssign dst g true = dst := ⟨rfl, rfl⟩

/-! ## independence: an operation writes one container only -/

/-- reading the slot just written -/
theorem heap_get_set_same {α : Type} (h : Heap α) (k : Nat) (a : α) : (h.set k a).get k = some a :=
  Heap.get_set_same h k a

/-- … and any other slot (absent slots stay absent) -/
theorem heap_get_set_other {α : Type} (h : Heap α) (k j : Nat) (a : α) (hj : j ≠ k) : (h.set k a).get j = h.get j :=
  Heap.get_set_other h k j a hj

/-- **heap_step_other** (`copy_independent`): whatever a heap operation is — an operation of the container in slot
`k`, a copy into `k`, an assignment to `k`, either way — every container other than the target
(`THOp.target`: `.op k _`, `.copy _ k`, `.assign _ k`, `.graphAssign _ k` ↦ `k`) is what it was -/
theorem heap_step_other (h : TH) (op : THOp) (j : Nat) (hj : j ≠ op.target) : (h.step op).get j = h.get j :=
  TH.step_other h op j hj

/-- the four cases spelt out -/
theorem copy_independent (h : TH) (j k i : Nat) (o : TOp) (hj : j ≠ k) :
    (h.step (.op k o)).get j = h.get j ∧ (h.step (.copy i k)).get j = h.get j ∧
    (h.step (.assign i k)).get j = h.get j ∧ (h.step (.graphAssign i k)).get j = h.get j :=
  ⟨heap_step_other h _ j hj, heap_step_other h _ j hj, heap_step_other h _ j hj, heap_step_other h _ j hj⟩

/-- **heap_copy_get**: copying container `j` into another slot `k` puts there the copy of `copy_same_relations`
(and leaves `j` alone, `heap_step_other`) -/
theorem heap_copy_get (h : TH) (j k : Nat) (s : T) (hs : h.get j = some s) (hjk : j ≠ k) :
    (h.step (.copy j k)).get k = some s.copy :=
  TH.copy_get h j k s hs hjk

theorem dag_heap_step_other (h : DH) (op : DHOp) (j : Nat) (hj : j ≠ op.target) : (h.step op).get j = h.get j :=
  DH.step_other h op j hj

theorem dag_copy_independent (h : DH) (j k i : Nat) (o : DOp) (hj : j ≠ k) :
    (h.step (.op k o)).get j = h.get j ∧ (h.step (.copy i k)).get j = h.get j ∧
    (h.step (.assign i k)).get j = h.get j ∧ (h.step (.graphAssign i k)).get j = h.get j :=
  ⟨dag_heap_step_other h _ j hj, dag_heap_step_other h _ j hj, dag_heap_step_other h _ j hj, dag_heap_step_other h _ j hj⟩

theorem dag_heap_copy_get (h : DH) (j k : Nat) (s : D) (hs : h.get j = some s) (hjk : j ≠ k) :
    (h.step (.copy j k)).get k = some s.copy :=
  DH.copy_get h j k s hs hjk

/-! ## the caches of all the containers are sound over all heap histories -/

/-- the flag of a copy is sound when the flag of the source is: the traversal reads the tables that were copied -/
theorem cacheSound_copy (t : T) (h : CacheSound t) : CacheSound t.copy := by
  intro hv
  rw [isTree_congr (g1 := t.copy.g) (g2 := t.g) rfl rfl rfl]
  exact h hv

theorem cacheSound_assign (d s : T) (b : Bool) (hd : CacheSound d) (hs : CacheSound s) : CacheSound (d.assign s b) := by
  unfold T.assign
  split
  · exact hd
  · exact cacheSound_copy s hs

/-- the repaired base-class assignment resets the flag, so nothing is claimed about tables never traversed -/
theorem cacheSound_graphAssign (d : T) (g : G) (b : Bool) (hd : CacheSound d) : CacheSound (d.graphAssign g b) := by
  unfold T.graphAssign
  split
  · exact hd
  · exact cacheSound_invalid

/-- **heap_cache_sound**: every container of every heap history — operations of the tree container on any slot,
copy constructions, assignments, base-class assignments, in any order — has a sound cache and consistent tables -/
theorem heap_cache_sound (d : Bool) (ops : List THOp) (k : Nat) (t : T) (h : ((TH.init d).run ops).get k = some t) :
    CacheSound t ∧ Consistent t.g := by
  have key := TH.all_run (fun t => CacheSound t ∧ TInv t)
    (fun t o ht => ⟨cacheSound_step t ht.1 o, T.tinv_step t ht.2 o⟩)
    (fun t ht => ⟨cacheSound_copy t ht.1, T.tinv_copy t ht.2⟩)
    (fun d s b hd hs => ⟨cacheSound_assign d s b hd.1 hs.1, T.tinv_assign d s b hd.2 hs.2⟩)
    (fun d s b hd hs => ⟨cacheSound_graphAssign d s.g b hd.1, T.tinv_graphAssign d s.g b hd.2 hs.2.1⟩)
    ops (TH.init d) (Heap.all_single ⟨cacheSound_empty d, T.tinv_empty d⟩)
  exact ⟨(key k t h).1, (key k t h).2.1⟩

/-- … hence every container of a heap history answers `isValid()` what the traversal answers on its own tables -/
theorem heap_isValid_is_isTree (d : Bool) (ops : List THOp) (k : Nat) (t : T) (h : ((TH.init d).run ops).get k = some t) :
    t.isValid.1 = T.isTree t.g :=
  T.isValid_fst (heap_cache_sound d ops k t h).1

/-- **dag_heap_cache_sound**: the same for the DAG container: both flags sound, tables consistent and directed -/
theorem dag_heap_cache_sound (ops : List DHOp) (k : Nat) (d : D) (h : (DH.init.run ops).get k = some d) :
    DagCacheSound d ∧ Consistent d.g ∧ d.g.directed = true := by
  have key := DH.all_run D.Inv (fun t o ht => D.inv_step t ht o) D.inv_copy D.inv_assign
    (fun d s b hd hs => D.inv_graphAssign d s.g b hd hs.1) ops DH.init (Heap.all_single D.inv_empty)
  exact ⟨(key k d h).2, (key k d h).1.1, (key k d h).1.2⟩

/-! ## non-vacuity -/

/-- a valid tree 0 -> 1 whose cache is written (slot 0), copied into slot 1; the copy is edited into a non-tree
(an isolated node): the original still has its flag and still is a tree; the flag of the copy is reset and
`isValid()` answers false there -/
example :
    let h := (TH.init true).run [.op 0 .createNode, .op 0 .createNode, .op 0 (.link 0 1), .op 0 .isValid,
      .copy 0 1, .op 1 .createNode]
    (h.get 0).map (·.valid) = some true ∧ (h.get 0).map (fun t => T.isTree t.g) = some (.ok true) ∧
    (h.get 1).map (·.valid) = some false ∧ (h.get 1).map (fun t => t.isValid.1) = some (.ok false) ∧
    (h.get 2).isNone = true := by decide +kernel

/-- before the edit the copy has the flag of the original -/
example :
    let h := (TH.init true).run [.op 0 .createNode, .op 0 .createNode, .op 0 (.link 0 1), .op 0 .isValid, .copy 0 1]
    (h.get 1).map (·.valid) = some true ∧ (h.get 1).map (·.g) = (h.get 0).map (·.g) := by decide +kernel

/-- base-class assignment of a 2-node non-tree (slot 1: the copy with its relation removed) over the container
whose flag was set (slot 0): the flag is false afterwards, the tables are those of the non-tree, and `isValid()`
answers false (the unrepaired code answered true from the cache) -/
example :
    let h := (TH.init true).run [.op 0 .createNode, .op 0 .createNode, .op 0 (.link 0 1), .op 0 .isValid,
      .copy 0 1, .op 1 (.unlink 0 1), .graphAssign 1 0]
    (h.get 0).map (·.valid) = some false ∧ (h.get 0).map (·.g) = (h.get 1).map (·.g) ∧
    (h.get 0).map (fun t => t.isValid.1) = some (.ok false) := by decide +kernel

/-- the DAG container: the diamond 0 -> 1 -> 3, 0 -> 2 -> 3, both caches written, copied; the copy gets the relation
3 -> 0 (a cycle): the original keeps its flags and is acyclic, the flags of the copy are reset and it answers false -/
example :
    let h := DH.init.run [.op 0 .createNode, .op 0 .createNode, .op 0 .createNode, .op 0 .createNode,
      .op 0 (.addSon 0 1), .op 0 (.addSon 0 2), .op 0 (.addSon 1 3), .op 0 (.addSon 2 3), .op 0 .isRooted, .op 0 .isValid,
      .copy 0 1, .op 1 (.link 3 0)]
    (h.get 0).map (·.valid) = some true ∧ (h.get 0).map (·.rooted) = some true ∧
    (h.get 0).map (fun d => D.isDA d.g) = some (.ok true) ∧
    (h.get 1).map (·.valid) = some false ∧ (h.get 1).map (·.rooted) = some false ∧
    (h.get 1).map (fun d => d.isValid.1) = some (.ok false) := by decide +kernel

/-- base-class assignment of the cyclic graph over the flagged original: both flags false afterwards -/
example :
    let h := DH.init.run [.op 0 .createNode, .op 0 .createNode, .op 0 .createNode, .op 0 .createNode,
      .op 0 (.addSon 0 1), .op 0 (.addSon 0 2), .op 0 (.addSon 1 3), .op 0 (.addSon 2 3), .op 0 .isRooted, .op 0 .isValid,
      .copy 0 1, .op 1 (.link 3 0), .graphAssign 1 0]
    (h.get 0).map (·.valid) = some false ∧ (h.get 0).map (·.rooted) = some false ∧
    (h.get 0).map (·.g) = (h.get 1).map (·.g) := by decide +kernel

end Bpp.C15
