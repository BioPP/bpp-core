import BppProofs.Lemmas.VecTools2
import BppProofs.Props.C07
/-!
# C07, round 2 — the rest of VectorTools.h / VectorTools.cpp / NumTools.h
(every overload and every combination of the boolean options; see props/C07.inventory.md)

Property theorems only; helper lemmas are in `Lemmas/VecTools2.lean` and the modules it rests on.
Numeric statements are about the program text of `BppModel/VecTools2.lean` read at `ℝ` (rounding
is not modelled).
-/
namespace Bpp.C07
open Bpp Bpp.VecTools Bpp.ScalarReal

/-! ## weighted variance and standard deviation, all four option pairs -/

/-- the explicit weighted covariance `Spec.covW` (which the driver evaluates in exact arithmetic on
the implementation's answers) is what weighted `cov` computes, for each of the four combinations
of `unbiased` and `normalizeWeights` -/
theorem covW_flags_spec (v1 v2 w : List ℝ) (u nw : Bool) (h1 : v1.length = w.length) (h2 : v2.length = w.length) :
    covW v1 v2 w u nw = .ok (Spec.covW v1 v2 w u nw) :=
  (covW_out v1 v2 w u nw).trans (sized_pos ⟨h1, h2⟩)

/-- weighted `var(v, w, unbiased, normalizeWeights)` is the weighted covariance of `v` with itself
*with the options in that order* -/
theorem varW_spec (v w : List ℝ) (u nw : Bool) (h : v.length = w.length) :
    varW v w u nw = .ok (Spec.covW v v w u nw) := covW_flags_spec v v w u nw h h

/-- weighted `sd(v, w, unbiased, normalizeWeights) = sqrt(var(v, w, unbiased, normalizeWeights))`,
options in the same order, for all four pairs — for a non-negative weighted variance.  (With
negative weights, or unnormalised weights with `Σw² > 1` and `unbiased`, the variance can be
negative: the code takes `sqrt` of it and answers NaN, where `Real.sqrt` would say 0.  `_hnn` is not
used by the proof; it keeps the statement inside the region where the exact reading is faithful.) -/
theorem sdW_spec (v w : List ℝ) (u nw : Bool) (h : v.length = w.length)
    (_hnn : 0 ≤ Spec.covW v v w u nw) :
    sdW v w u nw = .ok (Real.sqrt (Spec.covW v v w u nw)) :=
  sdW_of_varW v w u nw _ (varW_spec v w u nw h)

/-- unweighted `sd(v, unbiased) = sqrt(var(v, unbiased))` -/
theorem sd_spec (v : List ℝ) (u : Bool) (hn : (if u then 2 else 1) ≤ v.length) :
    sd v u = .ok (Real.sqrt (Spec.cov v v u)) := sd_eq v u hn

/-- Pearson `cor(v1, v2)` is `cov/(sd·sd)` of the unbiased estimates:
`Σ(aᵢ-ā)(bᵢ-b̄)/(n-1)` over the product of the square roots of the two unbiased variances -/
theorem cor_spec (v1 v2 : List ℝ) (h : v1.length = v2.length) (hn : 2 ≤ v1.length) :
    cor v1 v2 = .ok (Spec.cov v1 v2 true /
      (Real.sqrt (Spec.cov v1 v1 true) * Real.sqrt (Spec.cov v2 v2 true))) := cor_eq v1 v2 h hn

/-- … spelled out with sums -/
theorem cor_spec_sums (v1 v2 : List ℝ) (h : v1.length = v2.length) (hn : 2 ≤ v1.length) :
    cor v1 v2 = .ok (
      let a := v1.sum / (v1.length : ℝ); let b := v2.sum / (v2.length : ℝ)
      ((List.zipWith (fun x y => (x - a) * (y - b)) v1 v2).sum / ((v1.length : ℝ) - 1)) /
      (Real.sqrt ((List.zipWith (fun x y => (x - a) * (y - a)) v1 v1).sum / ((v1.length : ℝ) - 1)) *
       Real.sqrt ((List.zipWith (fun x y => (x - b) * (y - b)) v2 v2).sum / ((v2.length : ℝ) - 1)))) := by
  rw [cor_spec v1 v2 h hn, specCov_eq, specCov_eq, specCov_eq]; rfl

example : cor ([1, 2, 4] : List ℝ) [3, 1, 0] =
    .ok (Spec.cov ([1, 2, 4] : List ℝ) [3, 1, 0] true /
      (Real.sqrt (Spec.cov ([1, 2, 4] : List ℝ) [1, 2, 4] true) * Real.sqrt (Spec.cov ([3, 1, 0] : List ℝ) [3, 1, 0] true))) :=
  cor_spec _ _ rfl (by decide)

/-- the two options are not interchangeable: on `v = [1,2,4]`, `w = [1,1,2]` the pair
(unbiased, not normalised) and the pair (biased, normalised) give different variances
(`-11/5` and `27/16`) -/
theorem varW_options_not_symmetric :
    Spec.covW ([1, 2, 4] : List ℝ) [1, 2, 4] [1, 1, 2] true false ≠
    Spec.covW ([1, 2, 4] : List ℝ) [1, 2, 4] [1, 1, 2] false true := by
  simp [Spec.covW, Spec.dot, Spec.dotW, zipWith3]
  norm_num

example : sdW ([1, 2, 4] : List ℝ) [1, 1, 2] false true = .ok (Real.sqrt (27 / 16)) := by
  have hval : Spec.covW ([1, 2, 4] : List ℝ) [1, 2, 4] [1, 1, 2] false true = 27 / 16 := by
    simp [Spec.covW, Spec.dot, Spec.dotW, zipWith3]; norm_num
  rw [sdW_spec [1, 2, 4] [1, 1, 2] false true rfl (by rw [hval]; norm_num), hval]

/-- weighted `mean`, both values of the option (when normalising, the weights must not sum to 0:
there the code divides every weight by zero; the hypothesis is not used by the proof, it restricts
the claim to where the exact reading is meaningful) -/
theorem meanW_flags_spec (v w : List ℝ) (nw : Bool) (h : v.length = w.length) (_hw : nw = true → w.sum ≠ 0) :
    meanW v w nw = .ok (if nw then (List.zipWith (· * ·) v w).sum / w.sum else (List.zipWith (· * ·) v w).sum) := by
  exact (meanW_out v w nw).trans (sized_pos h)

/-- weighted `center`, both values of the option: the weighted mean is subtracted -/
theorem centerW_spec (v w : List ℝ) (nw : Bool) (h : v.length = w.length) (hw : nw = true → w.sum ≠ 0) :
    centerW v w nw = .ok (v.map (· - (if nw then (List.zipWith (· * ·) v w).sum / w.sum
                                       else (List.zipWith (· * ·) v w).sum))) := by
  unfold centerW; rw [meanW_flags_spec v w nw h hw]; rfl

example : centerW ([1, 2] : List ℝ) [1, 3] true = .ok [1 - 7 / 4, 2 - 7 / 4] := by
  rw [centerW_spec [1, 2] [1, 3] true rfl (by intro _; norm_num)]; norm_num

/-- weighted `cor`, both values of the option, is `cov/(sd·sd)` of the biased estimates on the
weights actually used — for non-negative weighted variances (a negative one, possible with
negative weights, makes the code take `sqrt` of a negative number: NaN) -/
theorem corW_spec (v1 v2 w : List ℝ) (nw : Bool) (h1 : v1.length = w.length) (h2 : v2.length = w.length)
    (_hA : 0 ≤ Spec.covW v1 v1 (normW' w nw) false false)
    (_hB : 0 ≤ Spec.covW v2 v2 (normW' w nw) false false) :
    corW v1 v2 w nw = .ok (
      let wn := normW' w nw
      Spec.covW v1 v2 wn false false /
        (Real.sqrt (Spec.covW v1 v1 wn false false) * Real.sqrt (Spec.covW v2 v2 wn false false))) :=
  (corW_out v1 v2 w nw).trans (sized_pos ⟨h1, h2⟩)

/-- a call that leaves the options to their defaults computes the unbiased estimate on normalised
weights, and the default base of the entropies is the literal `2.7182818` -/
theorem defaults_spec (v w : List ℝ) (h : v.length = w.length) (hnn : 0 ≤ Spec.covW v v w true true) :
    sdW v w dfltUnbiased dfltNormalizeWeights = .ok (Real.sqrt (Spec.covW v v w true true)) ∧
    varW v w dfltUnbiased dfltNormalizeWeights = .ok (Spec.covW v v w true true) ∧
    (dfltBase : ℝ) = 27182818 / 10000000 := by
  refine ⟨sdW_spec v w true true h hnn, varW_spec v w true true h, ?_⟩
  simp [dfltBase]

/-! ## the value of the median -/

/-- `median` of an even number `n ≥ 2` of elements is the mean of the two middle elements of *the*
sorted permutation `s` of the input (unique over a linear order), and `s` is what the argument
holds afterwards -/
theorem median_even_spec (v s : List ℝ) (hp : s.Perm v) (hs : s.Pairwise (· ≤ ·)) (hn : 2 ≤ v.length)
    (he : v.length % 2 = 0) :
    ∃ a b, s[v.length / 2 - 1]? = some a ∧ s[v.length / 2]? = some b ∧ median v = .ok ((a + b) / 2, s) := by
  obtain ⟨a, b, ha, hb, h⟩ := median_eq v hn
  rw [sortVals_unique v s hp hs] at ha hb h
  exact ⟨a, b, ha, hb, by rw [h, if_pos he]⟩

/-- `median` of an odd number of elements is the middle element of the sorted permutation -/
theorem median_odd_spec (v s : List ℝ) (hp : s.Perm v) (hs : s.Pairwise (· ≤ ·)) (ho : v.length % 2 = 1) :
    ∃ b, s[v.length / 2]? = some b ∧ median v = .ok (b, s) := by
  by_cases h1 : v.length = 1
  · obtain ⟨x, rfl⟩ := List.length_eq_one_iff.mp h1
    obtain rfl : s = [x] := List.perm_singleton.mp hp
    exact ⟨x, by simp, rfl⟩
  · obtain ⟨a, b, -, hb, h⟩ := median_eq v (by omega)
    rw [sortVals_unique v s hp hs] at hb h
    exact ⟨b, hb, by rw [h, if_neg (by omega)]⟩

example : median ([4, 1, 3, 2] : List ℝ) = .ok ((2 + 3) / 2, [1, 2, 3, 4]) := by
  obtain ⟨a, b, ha, hb, h⟩ := median_even_spec [4, 1, 3, 2] [1, 2, 3, 4]
    (by
      have h1 : ([1, 2, 3, 4] : List ℝ).Perm [4, 1, 2, 3] :=
        (List.perm_append_comm (l₁ := [1, 2, 3]) (l₂ := [4]))
      have h2 : ([4, 1, 2, 3] : List ℝ).Perm [4, 1, 3, 2] :=
        List.Perm.cons _ (List.Perm.cons _ (List.Perm.swap _ _ _))
      exact h1.trans h2)
    (by norm_num) (by decide) (by decide)
  simp at ha hb; subst ha hb; exact h

/-! ## positions of the minimum, weighted norm -/

/-- `whichMinAll` answers exactly the positions of the minimum, in increasing order -/
theorem whichMinAll_positions (v : List ℝ) (pos : List Nat) (h : whichMinAll v = .ok pos) :
    ∃ m, VecTools.min v = .ok m ∧ IsPositionsOf Scalar.eqb v m pos := whichMinAll_spec v pos h

/-- weighted `norm` is `√Σ vᵢ²·wᵢ`, for a non-negative weighted sum of squares (a negative one is NaN in
the code) -/
theorem normW_spec (v w : List ℝ) (h : v.length = w.length)
    (_hq : 0 ≤ (zipWith3 (fun x y c => x * y * c) v v w).sum) :
    normW v w = .ok (Real.sqrt (zipWith3 (fun x y c => x * y * c) v v w).sum) :=
  (normW_out v w).trans (sized_pos h)

example : normW ([1, 2] : List ℝ) [3, 1] = .ok (Real.sqrt 7) := by
  rw [normW_spec [1, 2] [3, 1] rfl (by norm_num [zipWith3])]; norm_num [zipWith3]

/-! ## weighted cosine, Kronecker product -/

/-- weighted `cos` is `Σ v1ᵢv2ᵢwᵢ / (√Σ v1ᵢ²wᵢ · √Σ v2ᵢ²wᵢ)`, for non-negative weighted sums of squares
(a negative one — negative weights — is NaN in the code, not `Real.sqrt … = 0`) -/
theorem cosW_spec (v1 v2 w : List ℝ) (h1 : v1.length = w.length) (h2 : v2.length = w.length)
    (_hA : 0 ≤ (zipWith3 (fun x y c => x * y * c) v1 v1 w).sum)
    (_hB : 0 ≤ (zipWith3 (fun x y c => x * y * c) v2 v2 w).sum) :
    cosW v1 v2 w = .ok ((zipWith3 (fun a b c => a * b * c) v1 v2 w).sum /
      (Real.sqrt (zipWith3 (fun x y c => x * y * c) v1 v1 w).sum *
       Real.sqrt (zipWith3 (fun x y c => x * y * c) v2 v2 w).sum)) :=
  (cosW_out v1 v2 w).trans (sized_pos ⟨h1, h2⟩)

/-- weighted Cauchy–Schwarz: with non-negative weights and non-zero weighted norms the weighted
cosine lies in `[-1,1]` -/
theorem cosW_range (v1 v2 w : List ℝ) (h1 : v1.length = w.length) (h2 : v2.length = w.length)
    (hw : ∀ c ∈ w, 0 ≤ c)
    (hA : 0 < (zipWith3 (fun x y c => x * y * c) v1 v1 w).sum)
    (hB : 0 < (zipWith3 (fun x y c => x * y * c) v2 v2 w).sum) :
    ∃ c, cosW v1 v2 w = .ok c ∧ c ^ 2 ≤ 1 := by
  exact ⟨_, (cosW_out v1 v2 w).trans (sized_pos ⟨h1, h2⟩),
    sq_div_sqrt_le_one _ _ _ hA hB (cauchy_schwarz_weighted v1 v2 w hw)⟩

example : ∃ c, cosW ([1, 2] : List ℝ) [2, 1] [1, 3] = .ok c ∧ c ^ 2 ≤ 1 :=
  cosW_range _ _ _ rfl rfl (by intro c hc; simp at hc; rcases hc with rfl | rfl <;> norm_num)
    (by norm_num [zipWith3]) (by norm_num [zipWith3])

/-- the weighted routines of this file raise DimensionException when a sample does not match the
weights -/
theorem weighted_mismatch_raises (v1 v2 w : List ℝ) :
    (v1.length ≠ w.length ∨ v2.length ≠ w.length → cosW v1 v2 w = .error .dimension) ∧
    (v1.length ≠ w.length → ∀ u nw, varW v1 w u nw = .error .dimension ∧ sdW v1 w u nw = .error .dimension) := by
  refine ⟨fun h => (cosW_out v1 v2 w).trans (sized_neg (not_and_or.mpr h)), fun h1 u nw => ?_⟩
  have hv : varW v1 w u nw = .error .dimension := (covW_out v1 v1 w u nw).trans (sized_neg fun h => h1 h.1)
  exact ⟨hv, by rw [sdW, hv]; rfl⟩

/-- `kroneckerMult` has `n1·n2` entries and entry `i·n2 + j` is `v1ᵢ·v2ⱼ` -/
theorem kroneckerMult_spec (v1 v2 : List ℝ) :
    (kroneckerMult v1 v2).length = v1.length * v2.length ∧
    ∀ i j (hi : i < v1.length) (hj : j < v2.length),
      (kroneckerMult v1 v2)[i * v2.length + j]? = some (v1[i] * v2[j]) := by
  refine ⟨?_, fun i j hi hj => ?_⟩
  · induction v1 with
    | nil => simp [kroneckerMult]
    | cons a as ih =>
      simp only [kroneckerMult, List.flatMap_cons, List.length_append, List.length_map, List.length_cons] at *
      rw [ih]; ring
  · induction v1 generalizing i with
    | nil => cases hi
    | cons a as ih =>
      rw [kroneckerMult, List.flatMap_cons]
      cases i with
      | zero =>
        rw [Nat.zero_mul, Nat.zero_add, List.getElem?_append_left (by rwa [List.length_map]), List.getElem?_map,
          List.getElem?_eq_getElem hj]
        rfl
      | succ k =>
        -- skip the block of `a`
        rw [Nat.succ_mul, Nat.add_right_comm, List.getElem?_append_right (by rw [List.length_map]; exact Nat.le_add_left _ _),
          List.length_map, Nat.add_sub_cancel]
        exact ih k (Nat.lt_of_succ_lt_succ hi)

example : kroneckerMult ([1, 2] : List ℝ) [3, 4, 5] = [1 * 3, 1 * 4, 1 * 5, 2 * 3, 2 * 4, 2 * 5] := by
  simp [kroneckerMult]

/-! ## compound operators with a constant, element-wise functions -/

/-- `v op= c` applies the operation to every element; `v &= c` / `fill` overwrite every element -/
theorem compoundC_spec (v : List ℝ) (c : ℝ) :
    addCeq v c = v.map (· + c) ∧ subCeq v c = v.map (· - c) ∧ mulCeq v c = v.map (· * c) ∧
    divCeq v c = v.map (· / c) ∧ fillC v c = List.replicate v.length c := by
  refine ⟨rfl, rfl, rfl, rfl, ?_⟩
  unfold fillC
  induction v with
  | nil => rfl
  | cons x xs ih => simp [List.replicate_succ, ih]

/-- the binary operators with a constant on either side apply the operation to every element,
the constant on the side it was written -/
theorem constOp_spec (v : List ℝ) (c : ℝ) :
    addC v c = v.map (· + c) ∧ cAdd c v = v.map (c + ·) ∧ subC v c = v.map (· - c) ∧ cSub c v = v.map (c - ·) ∧
    mulC v c = v.map (· * c) ∧ cMul c v = v.map (c * ·) ∧ divC v c = v.map (· / c) ∧ cDiv c v = v.map (c / ·) :=
  ⟨rfl, rfl, rfl, rfl, rfl, rfl, rfl, rfl⟩

/-- the element-wise functions keep the length and apply the function at each position -/
theorem elementwise_fun_spec (v : List ℝ) (b : ℝ) (f : ℝ → ℝ) :
    vlog v = v.map Real.log ∧ vlogBase v b = v.map (fun x => Real.log x / Real.log b) ∧
    vexp v = v.map Real.exp ∧ vmap f v = v.map f ∧ vsqr v = v.map (fun x => x ^ 2) ∧
    vpow v b = v.map (fun x => x ^ b) ∧ vabs v = v.map (fun x => |x|) := by
  refine ⟨rfl, rfl, rfl, rfl, ?_, rfl, rfl⟩
  unfold vsqr; congr 1; funext x; ring

/-! ## NumTools scalar helpers -/

theorem ntAbs_spec (a : ℝ) : ntAbs a = |a| := ntAbs_eq a

theorem ntSign_spec (a : ℝ) : ntSign a = if a < 0 then -1 else if a = 0 then 0 else 1 := ntSign_eq a

theorem ntMax_spec (a b : ℝ) : ntMax a b = max a b := by
  unfold ntMax
  by_cases h : b < a
  · simp [h, max_eq_left h.le]
  · simp [h, max_eq_right (not_lt.mp h)]

theorem ntMin_spec (a b : ℝ) : ntMin a b = min a b := by
  unfold ntMin
  by_cases h : a < b
  · simp [h, min_eq_left h.le]
  · simp [h, min_eq_right (not_lt.mp h)]

/-- `sign(a, b)` is the magnitude of `a` with the sign of `b` (0 when `b = 0`) -/
theorem ntSign2_spec (a b : ℝ) :
    ntSign2 a b = |a| * (if b < 0 then -1 else if b = 0 then 0 else 1) := by
  unfold ntSign2; rw [ntAbs_eq, ntSign_eq]

theorem ntSqr_spec (a : ℝ) : ntSqr a = a ^ 2 := by unfold ntSqr; ring

/-- `fact` of a whole number is the factorial, `logFact` its logarithm -/
theorem fact_spec (n : Nat) :
    (factNat n : ℝ) = (n.factorial : ℝ) ∧ (logFactNat n : ℝ) = Real.log (n.factorial : ℝ) := by
  constructor
  · induction n with
    | zero => simp [factNat]
    | succ n ih => simp only [factNat, ih, Nat.factorial_succ, ofInt_eq]; push_cast; ring
  · induction n with
    | zero => simp [logFactNat]
    | succ n ih =>
      simp only [logFactNat, ih, Nat.factorial_succ, ofInt_eq, log_eq]
      push_cast
      rw [Real.log_mul (by positivity) (by positivity)]

/-- `swap`/`shift` move the values as documented -/
theorem ntSwap_shift_spec (a b c d : ℝ) :
    ntSwap a b = (b, a) ∧ ntShift3 a b c = (b, c) ∧ ntShift4 a b c d = (b, c, d) := ⟨rfl, rfl, rfl⟩

/-! ## breaks, nclassScott -/

/-- `breaks(v, n)`: `n` equally spaced points from the minimum, then the maximum; an empty vector
raises EmptyVectorException -/
theorem breaks_spec (v : List ℝ) (n : Nat) :
    (∀ lo hi, VecTools.range v = .ok (lo, hi) →
      breaks v n = .ok ((List.range n).map (fun (i : Nat) => lo + (hi - lo) / (n : ℝ) * (i : ℝ)) ++ [hi])) ∧
    (v = [] → breaks v n = .error .empty) := by
  constructor
  · intro lo hi h
    unfold breaks
    rw [h]
    simp [bind, Except.bind, pure, Except.pure]
  · intro hv; subst hv; rfl

example : breaks ([3, 1, 2] : List ℝ) 2 = .ok [1, 2, 3] := by
  have hr : VecTools.range ([3, 1, 2] : List ℝ) = .ok (1, 3) := by norm_num [VecTools.range]
  rw [(breaks_spec _ 2).1 1 3 hr]
  norm_num [List.range_succ]

/-- Scott's rule: `⌈(max - min) / (3.5 · sd · n^(-1/3))⌉`, for a sample with a positive standard
deviation (for a constant sample or a single element the code converts `0/0` to `size_t`, which is
undefined: see `nclassScott_constant_sd_zero`) -/
theorem nclassScott_spec (v : List ℝ) (lo hi s : ℝ) (hr : VecTools.range v = .ok (lo, hi))
    (hs : sd v true = .ok s) (_hpos : 0 < s) :
    nclassScott (fun x => some ⌈x⌉₊) v =
      .ok ⌈(hi - lo) / (3.5 * s * (v.length : ℝ) ^ (-(1 : ℝ) / 3))⌉₊ := by
  unfold nclassScott
  rw [hr, hs]
  simp only [bind, Except.bind, ofRat_eq, ofInt_eq, pow_eq]
  norm_num

example : ∃ k, nclassScott (fun x => some ⌈x⌉₊) ([1, 2, 4] : List ℝ) = .ok k := by
  have hr : VecTools.range ([1, 2, 4] : List ℝ) = .ok (1, 4) := by
    norm_num [VecTools.range]
  have hs := sd_spec ([1, 2, 4] : List ℝ) true (by decide)
  refine ⟨_, nclassScott_spec _ 1 4 _ hr hs (Real.sqrt_pos.mpr ?_)⟩
  rw [specCov_eq]; norm_num

/-- for a constant sample the standard deviation — hence the bandwidth `h` the range is divided
by — is exactly 0: the code evaluates `0/0` and converts the NaN to `size_t` -/
theorem nclassScott_constant_sd_zero (a : ℝ) (n : Nat) (hn : 2 ≤ n) :
    sd (List.replicate n a) true = .ok 0 := by
  rw [sd_spec _ true (by simpa using hn), specCov_eq]
  have hn0 : (n : ℝ) ≠ 0 := by positivity
  have hmean : (List.replicate n a).sum / ((List.replicate n a).length : ℝ) = a := by
    simp [List.sum_replicate]; field_simp
  rw [hmean]
  have : List.zipWith (fun x y => (x - a) * (y - a)) (List.replicate n a) (List.replicate n a) = List.replicate n 0 := by
    rw [List.zipWith_replicate]; simp
  rw [this]; simp

/-! ## extract, countValues -/

/-- `extract(v, positions)`: the elements at the given positions, in the order of the positions;
a position outside the vector is an out-of-range read -/
theorem extract_spec {β : Type} (v : List β) (pos : List Nat) :
    ((∀ p ∈ pos, p < v.length) → ∃ r, extract v pos = .ok r ∧ r.map some = pos.map (v[·]?)) ∧
    ((∃ p ∈ pos, v.length ≤ p) → extract v pos = .error .ub) := by
  constructor
  · intro h
    cases v with
    | nil =>
      cases pos with
      | nil => exact ⟨[], rfl, rfl⟩
      | cons p ps => exact absurd (h p (by simp)) (by simp)
    | cons x0 xs =>
      refine ⟨pos.map (fun p => ((x0 :: xs)[p]?).getD x0), ?_, ?_⟩
      · apply mapM_ok_of_forall
        intro p hp
        unfold at?
        rw [List.getElem?_eq_getElem (h p hp)]; rfl
      · rw [List.map_map]
        apply List.map_congr_left
        intro p hp
        simp [List.getElem?_eq_getElem (h p hp)]
  · intro h
    apply mapM_error_of_mem
    · intro p _
      unfold at?
      cases hv : v[p]? with
      | none => exact Or.inl rfl
      | some y => exact Or.inr ⟨y, rfl⟩
    · obtain ⟨p, hp, hle⟩ := h
      refine ⟨p, hp, ?_⟩
      unfold at?
      rw [List.getElem?_eq_none hle]

example : extract [10, 20, 30] [2, 0, 2] = .ok [30, 10, 30] := rfl
example : extract [10, 20, 30] [1, 3] = .error .ub := rfl

section Sets
variable {β : Type} [LinearOrder β]

/-- `countValues`: the keys are the distinct elements in increasing order and each is mapped to
its number of occurrences -/
theorem countValues_spec (v : List β) :
    ((countValues dlt v).map (·.1)).Pairwise (· < ·) ∧
    ∀ k c, (k, c) ∈ countValues dlt v ↔ k ∈ v ∧ c = v.count k :=
  ⟨(countValues_inv v).1, countValues_mem v⟩

example : countValues (dlt (β := Nat)) [3, 1, 3, 2, 3] = [(1, 1), (2, 1), (3, 3)] := by decide

/-! ## union / intersection of a list of vectors -/

/-- `vectorUnion(list)` holds exactly the elements of some vector of the list … -/
theorem unionList_iff (vs : List (List β)) (x : β) :
    x ∈ vectorUnionList deq vs ↔ ∃ v ∈ vs, x ∈ v := by
  rw [vectorUnionList_eq, mem_firstOcc]; simp

/-- … each once, in the order of first occurrence (`IsUnionList` is the predicate the driver
evaluates) -/
theorem unionList_shape (vs : List (List β)) :
    vectorUnionList deq vs = Spec.firstOcc deq vs.flatten ∧ (vectorUnionList deq vs).Nodup ∧
    IsUnionList deq vs (vectorUnionList deq vs) := by
  refine ⟨vectorUnionList_eq vs, ?_, ?_⟩
  · rw [vectorUnionList_eq]; exact nodup_firstOcc _
  · unfold IsUnionList; rw [vectorUnionList_eq]; exact listEq_refl _

/-- `vectorUnion(v1, v2)` (repaired) holds exactly the elements of either argument … -/
theorem union_iff (a b : List β) (x : β) : x ∈ vectorUnion deq a b ↔ x ∈ a ∨ x ∈ b := by
  rw [vectorUnion_eq, mem_firstOcc, List.mem_append]

/-- … each once, in the order of first occurrence, whatever repeats the arguments contain; it is
the union of the list `[v1, v2]` -/
theorem union_shape (a b : List β) :
    vectorUnion deq a b = Spec.firstOcc deq (a ++ b) ∧ (vectorUnion deq a b).Nodup ∧
    vectorUnion deq a b = vectorUnionList deq [a, b] ∧ IsUnionList deq [a, b] (vectorUnion deq a b) := by
  refine ⟨vectorUnion_eq a b, ?_, rfl, ?_⟩
  · rw [vectorUnion_eq]; exact nodup_firstOcc _
  · unfold IsUnionList; rw [vectorUnion_eq]; simp [listEq_refl]

example : vectorUnion (deq (β := Nat)) [1, 1, 2] [2, 3] = [1, 2, 3] := by decide

example : vectorUnionList (deq (β := Nat)) [[2, 1, 2], [], [3, 1], [4]] = [2, 1, 3, 4] := by decide

/-- `extend(v1, v2)` keeps `v1` as it is and pushes the elements of `v2` that are not yet present:
`v1` followed by new, pairwise distinct elements (`IsUnion`) -/
theorem extend_spec (v1 v2 : List β) :
    (∀ x, x ∈ extend deq v1 v2 ↔ x ∈ v1 ∨ x ∈ v2) ∧ IsUnion deq v1 v2 (extend deq v1 v2) :=
  ⟨mem_vectorUnionOrig v1 v2, isUnion_vectorUnionOrig v1 v2⟩

/-- `vectorIntersection(list)` of a non-empty list holds exactly the elements that occur in *every*
vector of the list (the first, the last and each one in between) … -/
theorem interList_iff (vs : List (List β)) (hvs : vs ≠ []) (x : β) :
    x ∈ vectorIntersectionList deq vs ↔ ∀ v ∈ vs, x ∈ v := by
  cases vs with
  | nil => exact absurd rfl hvs
  | cons v rest =>
    rw [vectorIntersectionList_cons, List.mem_filter]
    simp

/-- … in the order and with the multiplicities of the first vector; the empty list gives the
empty vector (`IsInterList` is the predicate the driver evaluates) -/
theorem interList_shape (vs : List (List β)) :
    (∀ v rest, vs = v :: rest →
      vectorIntersectionList deq vs = v.filter (fun x => decide (∀ u ∈ rest, x ∈ u))) ∧
    (vs = [] → vectorIntersectionList deq vs = []) ∧
    IsInterList deq vs (vectorIntersectionList deq vs) := by
  refine ⟨?_, ?_, ?_⟩
  · rintro v rest rfl; exact vectorIntersectionList_cons v rest
  · rintro rfl; rfl
  · cases vs with
    | nil => simp [IsInterList, vectorIntersectionList]
    | cons v rest =>
      unfold IsInterList
      simp only
      rw [listEq_iff]
      cases rest with
      | nil => simp [vectorIntersectionList]
      | cons w ws =>
        simp only [vectorIntersectionList]
        apply List.filter_congr
        intro x _
        exact inAll_eq_all _ x

/-- an element missing from a middle vector is dropped even when the last vector has it -/
example : vectorIntersectionList (deq (β := Nat)) [[1, 2, 3], [1, 3], [1, 2, 3]] = [1, 3] := by decide

/-! ## append, prepend, rep -/

omit [LinearOrder β] in
/-- `append(v1, v2)` / `prepend(v1, v2)` -/
theorem append_prepend_spec (v1 v2 : List β) :
    append2 v1 v2 = v1 ++ v2 ∧ prepend v1 v2 = v2 ++ v1 := ⟨rfl, rfl⟩

omit [LinearOrder β] in
/-- `rep(v, n)` is `n` copies of `v`, for every `n` (0 and 1 included) and every `v` (the empty
one included): no out-of-range read -/
theorem rep_spec (v : List β) (n : Nat) : rep v n = .ok (List.replicate n v).flatten := rep_eq v n

example : rep [1, 2] 3 = .ok [1, 2, 1, 2, 1, 2] := by decide
example : rep ([] : List Nat) 4 = .ok [] := by decide

/-! ## the overloads that sort their arguments in place -/

/-- non-const `haveSameElements`: the answer holds exactly for permutations; vectors of equal
sizes are left sorted, others untouched -/
theorem haveSameInPlace_spec (a b : List β) :
    ((haveSameElementsInPlace deq dlt a b).1 = true ↔ a.Perm b) ∧
    (a.length = b.length →
      (haveSameElementsInPlace deq dlt a b).2.1 = a.mergeSort (leOfLt dlt) ∧
      (haveSameElementsInPlace deq dlt a b).2.2 = b.mergeSort (leOfLt dlt)) ∧
    (a.length ≠ b.length → (haveSameElementsInPlace deq dlt a b).2 = (a, b)) := by
  refine ⟨?_, ?_, ?_⟩
  · rw [← haveSameElements_iff' a b]
    unfold haveSameElementsInPlace haveSameElements
    by_cases h : a.length = b.length <;> simp [h]
  · intro h; simp [haveSameElementsInPlace, h]
  · intro h; simp [haveSameElementsInPlace, h]

/-- the sorted copies are sorted permutations -/
theorem mergeSort_sorted_perm (a : List β) :
    (a.mergeSort (leOfLt dlt)).Perm a ∧ (a.mergeSort (leOfLt dlt)).Pairwise (· ≤ ·) :=
  ⟨List.mergeSort_perm _ _, sorted_mergeSort_dlt a⟩

/-- `diff(v1, v2, v3)` *appends* the difference to `v3` and leaves `v1`, `v2` sorted -/
theorem diff3_spec (a b c : List β) :
    ∃ d, diff3 deq dlt a b c = (a.mergeSort (leOfLt dlt), b.mergeSort (leOfLt dlt), c ++ d) ∧
      (∀ x, x ∈ d ↔ x ∈ a ∧ x ∉ b) ∧ d.Pairwise (· < ·) :=
  ⟨diff deq dlt a b, rfl, (diff_spec a b).1, (diff_spec a b).2⟩

/-- `containsAll` leaves both vectors sorted -/
theorem containsAllInPlace_spec (a b : List β) :
    ((containsAllInPlace deq dlt a b).1 = true ↔ ∀ x ∈ b, x ∈ a) ∧
    (containsAllInPlace deq dlt a b).2 = (a.mergeSort (leOfLt dlt), b.mergeSort (leOfLt dlt)) :=
  ⟨containsAll_iff' a b, rfl⟩

/-! ## the mixed-type overloads -/

/-- `contains<T,U>(vec, el)` looks for the converted element -/
theorem containsU_spec {γ : Type} (cast : γ → β) (v : List β) (el : γ) :
    containsU deq cast v el = true ↔ cast el ∈ v := contains_deq v (cast el)

omit [LinearOrder β] in
/-- `vectorIntersection<T,U>(vec1, vec2)` keeps the elements of the first vector whose *conversion
to `U`* occurs in the second -/
theorem interTU_spec {γ : Type} [LinearOrder γ] (cast : β → γ) (v1 : List β) (v2 : List γ) (x : β) :
    x ∈ vectorIntersectionTU cast deq v1 v2 ↔ x ∈ v1 ∧ cast x ∈ v2 := by
  simp [vectorIntersectionTU, List.mem_filter]

end Sets

/-! ## resize -/

/-- `resize2(vv, n1, n2)`: `n1` rows of `n2` entries; existing entries are kept, new ones are zero -/
theorem resize2_spec (vv : List (List ℝ)) (n1 n2 : Nat) :
    (resize2 0 vv n1 n2).length = n1 ∧
    ∀ i j, i < n1 → j < n2 →
      ∃ row, (resize2 0 vv n1 n2)[i]? = some row ∧ row.length = n2 ∧
        row[j]? = some (match vv[i]? with
                        | some r => (match r[j]? with | some x => x | none => 0)
                        | none => 0) := by
  refine ⟨by simp [resize2, resizeTo_length], ?_⟩
  intro i j hi hj
  unfold resize2
  rw [List.getElem?_map, resizeTo_get [] vv n1 i hi]
  refine ⟨_, rfl, resizeTo_length _ _ _, ?_⟩
  rw [resizeTo_get _ _ n2 j hj]
  cases vv[i]? with
  | none => simp
  | some r => simp only; cases r[j]? <;> rfl

/-! ## entropy / mutual information of a continuous sample, given the kernel densities -/

/-- `shannonContinuous` is `-(1/n) Σ ln(f̂(xᵢ))/ln base`, `f̂` the kernel density estimate -/
theorem shannonContinuous_spec (dens : List ℝ) (n : Nat) (base : ℝ) :
    shannonContinuousOf dens n base = -(dens.map (fun d => Real.log d / Real.log base)).sum / (n : ℝ) := by
  simp [shannonContinuousOf, foldl_add_map]

/-- `miContinuous` is `(1/n) Σ ln(f̂₁₂(xᵢ,yᵢ)/(f̂₁(xᵢ)·f̂₂(yᵢ)))/ln base`; samples of different
lengths raise DimensionException -/
theorem miContinuous_spec (n1 n2 : Nat) (d12 d1 d2 : List ℝ) (base : ℝ) :
    (n1 = n2 → miContinuousOf n1 n2 d12 d1 d2 base =
      .ok (((zipWith3 (fun a b c => (a, b, c)) d12 d1 d2).map
        (fun t => Real.log (t.1 / (t.2.1 * t.2.2)) / Real.log base)).sum / (n1 : ℝ))) ∧
    (n1 ≠ n2 → miContinuousOf n1 n2 d12 d1 d2 base = .error .dimension) := by
  constructor
  · intro h; simp [miContinuousOf, h, foldl_add_map]
  · intro h; simp [miContinuousOf, h]

end Bpp.C07
