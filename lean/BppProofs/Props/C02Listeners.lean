import BppProofs.Props.C02Complete
import BppProofs.Lemmas.ParamListListen
/-!
# C02 and parameters that carry listeners (finding F1 of `props/C02.audit.md`)

`Parameter`'s copy constructor / `operator=` / `clone()` copy the vector of
`shared_ptr<ParameterListener>`: a cloned parameter fires the listener objects of its source.
The theorems of `Props/C02.lean` and `Props/C02Complete.lean` are about parameter objects *without
listeners* (the model's `Par` has none) — this file says so formally: the listener-aware routines
of `BppModel/ParamListListen.lean` coincide with the plain ones when no listener is involved
(`listeners_free_is_base`), independence of a copy is proved when the copied parameters carry no
listener (`copy_independent_with_listeners_partial`), and both the independence of copies and the
atomicity of the bulk setters are *false* with listeners (witnesses; known findings
`C02-copied-listeners`, `C02-listener-raise-half-way`).
-/
namespace Bpp.C02
open Bpp Bpp.ParamList

/-- **listeners_free_is_base**: without listeners on the parameters that are written, the
listener-aware `setParameterValue` / `setParametersValues` are the routines of `Props/C02.lean`, and
cloning parameters that carry no listener adds none. -/
theorem listeners_free_is_base (m : Mirrors) (h : Store) (l src : List ObjId) (n : String) (v : Rat) :
    ((∀ i, find? h l n = some i → targets m i = []) →
      setParameterValueL m h l n v = some ((setParameterValue h l n v).heap, (setParameterValue h l n v).err)) ∧
    setParametersValuesL [] h l src = some ((setParametersValues h l src).heap, (setParametersValues h l src).err) ∧
    (∀ base, (∀ i ∈ src, targets m i = []) → cloneMirrors m src base = []) :=
  ⟨setParameterValueL_plain m h l n v, setParametersValuesL_nil h l src, fun b nt => cloneMirrors_nil_of m src b nt⟩

/-- **copy_independent_with_listeners_partial**.  Full statement (false of the code, known finding
`C02-copied-listeners`): *after `L[j] := ParameterList(L[k])`, a write through `L[j]` never changes
what `L[k]` shows*.  Proved here when no parameter of `L[k]` carries a listener (every listener of
the table is attached to an allocated object): then the copy is the copy of `copy_independent`, the
write is the plain `setParameterValue`, and the source shows what it showed.  What is missing: a
copied parameter that carries a listener fires it (`copy_independent_with_listeners_witness`). -/
theorem copy_independent_with_listeners_partial (L : LState) (inv : Inv L.s) (k j : Nat) (hkj : k ≠ j)
    (valid : ∀ p ∈ L.mirrors, p.1 < L.s.heap.next)
    (nolis : ∀ i ∈ L.s.lists k, targets L.mirrors i = []) (n : String) (v : Rat) :
    ∃ L1 a1 L2 a2, lstep L (.copy k j) = some (L1, a1) ∧ lstep L1 (.setValue j n v) = some (L2, a2) ∧
      L1.mirrors = L.mirrors ∧ obs L2.s k = obs L.s k := by
  have hm : cloneMirrors L.mirrors (L.s.lists k) L.s.heap.next = [] := cloneMirrors_nil_of _ _ _ nolis
  obtain ⟨c1, c2, _, _, _, _⟩ := copy_independent L.s inv k j
  have hs1 : (step L.s (.copy k j)).1 =
      (L.s.withHeap (cloneAll L.s.heap (L.s.lists k)).1).setList j (cloneAll L.s.heap (L.s.lists k)).2 := rfl
  -- the objects of the copy are fresh: no listener of the table is attached to them
  have fresh : ∀ i, find? (step L.s (.copy k j)).1.heap ((step L.s (.copy k j)).1.lists j) n = some i →
      targets L.mirrors i = [] := by
    intro i hi
    have hmem := (find?_some hi).1
    have hge := c2 i hmem
    unfold targets
    rw [List.map_eq_nil_iff, List.filter_eq_nil_iff]
    intro p hp c
    have h1 := valid p hp
    have h2 : p.1 = i := by simpa using c
    rw [h2] at h1
    exact Nat.lt_irrefl _ (Nat.lt_of_lt_of_le h1 hge)
  let L1 : LState := { s := (step L.s (.copy k j)).1, mirrors := L.mirrors }
  have e1 : lstep L (.copy k j) = some (L1, ⟨.base .ok, none⟩) := by
    simp only [lstep, hm, List.append_nil]; rfl
  have e2 : lstep L1 (.setValue j n v) =
      some ({ L1 with s := (step L1.s (.setValue j n v)).1 },
            ⟨.base (.ofErr (setParameterValue L1.s.heap (L1.s.lists j) n v).err), none⟩) := by
    simp only [lstep]
    rw [setParameterValueL_plain _ _ _ n v fresh]
    rfl
  refine ⟨L1, _, _, _, e1, e2, rfl, ?_⟩
  have w := (copy_then_write L.s inv k j hkj (.setValue j n v)).1 (by simp [Op.writes]) (by simp [Op.dest])
  have u := obs_unchanged L.s inv (.copy k j) k (by simp [Op.writes]) (by simp [Op.dest]; exact fun c => hkj c.symm)
  exact w.trans u

/-- non-vacuity: a listener somewhere else in the machine, none on the copied list -/
example :
    let s := run State.init [.add 0 ⟨"a", 1, none⟩, .add 1 ⟨"x", 1, none⟩, .add 1 ⟨"y", 1, none⟩]
    (∀ p ∈ ([(1, 2)] : Mirrors), p.1 < s.heap.next) ∧ (∀ i ∈ s.lists 0, targets [(1, 2)] i = []) := by decide

/-- known finding `C02-copied-listeners`: `[a, b]` with a listener on `a` whose target is `b`; a copy
is taken; writing `a` *of the copy* changes `b` *of the source* (and not `b` of the copy) -/
theorem copy_independent_with_listeners_witness :
    let s := run State.init [.add 0 ⟨"a", 1, none⟩, .add 0 ⟨"b", 1, none⟩]
    let L : LState := { s := s, mirrors := [(0, 1)] }
    ∃ L1 a1 L2 a2, lstep L (.copy 0 1) = some (L1, a1) ∧ lstep L1 (.setValue 1 "a" 5) = some (L2, a2) ∧
      a2.out = .base .ok ∧ (obs L2.s 0).map (·.value) = [1, 5] ∧ (obs L2.s 1).map (·.value) = [5, 1] := by
  refine ⟨_, _, _, _, rfl, rfl, ?_⟩
  decide

/-- known finding `C02-listener-raise-half-way`: `[a, b, c]`, a listener on `b` whose target `c`
accepts `[-2, 2]` only; `setParametersValues([a=5, b=100])` passes the first pass (neither `a` nor `b`
is constrained), writes `a` and `b`, and then the listener's `c.setValue(100)` raises: the call raised
and changed two values -/
theorem bulk_atomic_with_listeners_witness :
    let s := run State.init [.add 0 ⟨"a", 1, none⟩, .add 0 ⟨"b", 1, none⟩,
                              .add 0 ⟨"c", 1, some ⟨.fin (-2), .fin 2, true, true⟩⟩,
                              .add 1 ⟨"a", 5, none⟩, .add 1 ⟨"b", 100, none⟩]
    ∃ h, setParametersValuesL [(1, 2)] s.heap (s.lists 0) (s.lists 1) = some (h, some .constraint) ∧
      (s.lists 0).map (fun i => (h.get i).value) = [5, 100, 1] ∧
      (setParametersValues s.heap (s.lists 0) (s.lists 1)).err = none := by
  refine ⟨_, rfl, ?_⟩
  decide

end Bpp.C02
