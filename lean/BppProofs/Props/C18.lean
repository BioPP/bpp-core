import BppProofs.Lemmas.Rand
import BppProofs.Lemmas.RandRcont
import BppProofs.Lemmas.RandGen
import BppProofs.Lemmas.RandWalk
import BppModel.DistGuards
import BppProofs.Lemmas.RandLaw
import BppProofs.Lemmas.RandLawPred
/-!
# C18 — random draws   (RandomTools, ContingencyTableGenerator, ContingencyTableTest, discrete rand)

Property theorems only; helper lemmas are in `Lemmas/Rand*.lean`.  The model (`BppModel/Rand.lean`)
takes the results of the primitive draws as an input; every theorem quantifies over ALL of them.
The contracts of the primitives are hypotheses where needed:
  * an integer draw with entry `n` is `< n`            (`std::uniform_int_distribution(0, n-1)`)
  * a uniform draw `u` with entry 1 has `0 ≤ u < 1`     (`std::uniform_real_distribution(0, 1)`)
  * `std::shuffle` leaves a permutation.
-/
namespace Bpp.C18
open Bpp Bpp.Rand

/-! ## picks and samples without weights -/

/-- `pickOne(v, replace)`: for every admissible draw the result is an element of `v`; with
replacement `v` is unchanged, without it exactly that one occurrence is removed -/
theorem pickOne_spec {τ : Type} (v : List τ) (replace : Bool) (pos : Nat) (hpos : pos < v.length) :
    ∃ e rest, pickOne v replace pos = .ok (e, rest) ∧ e ∈ v ∧
      (replace = true → rest = v) ∧ (replace = false → v.Perm (e :: rest)) := by
  have he := List.getElem?_eq_getElem hpos
  refine ⟨v[pos], _, pickOne_eq_ok_iff.mpr ⟨he, rfl⟩, List.getElem_mem hpos, ?_, ?_⟩
  · intro h; rw [h, if_pos rfl]
  · intro h; rw [h]; exact swapPop_perm he

/-- sampling without replacement (`std::shuffle` leaves any permutation `hat` of the positions):
the output is an injective selection of source positions — hence a sub-multiset of the source —
and a permutation of the source when the sizes match -/
theorem sample_norepl_distinct {τ : Type} (vin : List τ) (k : Nat) (draws hat : List Nat)
    (hhat : hat.Perm (List.range vin.length)) (hk : k ≤ vin.length) :
    ∃ out idx, getSample vin k false draws hat = .ok out ∧ out.length = k ∧
      idx.Nodup ∧ (∀ i ∈ idx, i < vin.length) ∧ List.Forall₂ (fun o i => vin[i]? = some o) out idx ∧
      out.Subperm vin ∧ (k = vin.length → out.Perm vin) := by
  obtain ⟨out, ho, hl, hnd, hlt, hsel, hsub, hperm⟩ :=
    selectBy_subperm_range (vin := vin) ((List.take_sublist k hat).subperm.trans hhat.subperm)
  have hlen : (hat.take k).length = k := by rw [List.length_take, hhat.length_eq, List.length_range]; omega
  exact ⟨out, hat.take k, by rw [getSample_norepl, if_neg (Nat.not_lt.mpr hk), ho], hl.trans hlen, hnd, hlt, hsel, hsub,
    fun hkn => hperm (hlen.trans hkn)⟩

/-- the same for the weighted `getSample(vin, w, vout, false)`: whatever the uniform draws (even
NaN) and whatever the weights, as long as there is one weight per element -/
theorem sample_norepl_distinct_weighted {α : Type} [Scalar α] {τ : Type} (vin : List τ) (w : List α) (k : Nat)
    (draws : List α) (hw : w.length = vin.length) (hk : k ≤ vin.length) (hd : k ≤ draws.length) :
    ∃ out idx, getSampleW vin w k false draws = .ok out ∧ out.length = k ∧
      idx.Nodup ∧ (∀ i ∈ idx, i < vin.length) ∧ List.Forall₂ (fun o i => vin[i]? = some o) out idx ∧
      out.Subperm vin ∧ (k = vin.length → out.Perm vin) := by
  obtain ⟨ps, hps, hrun⟩ := pickPositionsNoRepl_run k (List.range vin.length) w draws (by simp [hw]) (by simpa using hk) hd
  have hlen : ps.length = k := by rw [hrun.length, List.length_take, Nat.min_eq_left hd]
  obtain ⟨out, ho, hl, hnd, hlt, hsel, hs, hperm⟩ := selectBy_subperm_range (vin := vin) hrun.subperm
  exact ⟨out, ps, by rw [getSampleW_norepl, if_neg (Nat.not_lt.mpr hk), hps]; exact ho, hl.trans hlen, hnd, hlt, hsel, hs,
    fun hkn => hperm (hlen.trans hkn)⟩

/-- over-long requests without replacement are refused, whatever the draws -/
theorem sample_too_long_raises {α : Type} [Scalar α] {τ : Type} (vin : List τ) (w : List α) (k : Nat)
    (draws hat : List Nat) (udraws : List α) (hk : vin.length < k) :
    getSample vin k false draws hat = .error .index ∧ getSampleW vin w k false udraws = .error .index :=
  ⟨by rw [getSample_norepl, if_pos hk], by rw [getSampleW_norepl, if_pos hk]⟩

/-- sampling with replacement returns only source elements — for every draw sequence on which
the code returns at all — and it does return when the draws respect the primitive's contract -/
theorem sample_repl_subset {τ : Type} (vin : List τ) (k : Nat) (draws hat : List Nat) :
    (∀ out, getSample vin k true draws hat = .ok out → out.length = k ∧ ∀ x ∈ out, x ∈ vin) ∧
    (k ≤ draws.length → (∀ d ∈ draws, d < vin.length) → ∃ out, getSample vin k true draws hat = .ok out) := by
  rw [getSample_repl]
  constructor
  · intro out h
    obtain ⟨hk, hs⟩ := sampleRepl_eq_ok_iff.mp h
    exact ⟨by rw [hs.length, List.length_take, Nat.min_eq_left hk], hs.mem⟩
  · intro hk hd
    obtain ⟨out, hs⟩ := Sel.exists (vin := vin) (idx := draws.take k) (fun d hd' => hd d (List.mem_of_mem_take hd'))
    exact ⟨out, sampleRepl_eq_ok_iff.mpr ⟨hk, hs⟩⟩

/-- the same for the weighted `getSample(vin, w, vout, true)`: only source elements, for all
uniform draws and all weights; and an answer exists when there is one weight per element -/
theorem sample_repl_subset_weighted {α : Type} [Scalar α] {τ : Type} (vin : List τ) (w : List α) (k : Nat) (draws : List α) :
    (∀ out, getSampleW vin w k true draws = .ok out → out.length = k ∧ ∀ x ∈ out, x ∈ vin) ∧
    (w.length = vin.length → vin ≠ [] → k ≤ draws.length → ∃ out, getSampleW vin w k true draws = .ok out) := by
  rw [getSampleW_repl]
  constructor
  · intro out h
    obtain ⟨hk, hs⟩ := (sampleWRepl_eq_ok_iff _ w).mp h
    exact ⟨by rw [hs.length_eq, List.length_take, Nat.min_eq_left hk], fun x hx =>
      let ⟨_, _, _, hv⟩ := forall₂_exists_right hs x hx
      List.mem_of_getElem? hv⟩
  · intro hw hne hk
    exact sampleWRepl_ok w hw hne k draws hk

/-- emptiness is reported by exception, whatever the draws: every pick on an empty vector and
every non-empty sample with replacement from an empty vector raises `EmptyVectorException`
(`pickFromCumSum` only after `fix:` 57b79ce — see `pickFromCumSum_unrepaired_witness`) -/
theorem empty_raises {α : Type} [Scalar α] {τ : Type} (replace : Bool) (pos k : Nat) (draws hat : List Nat)
    (w : List α) (u : α) (us : List α) :
    pickOne ([] : List τ) replace pos = .error .empty ∧
    pickOneConst ([] : List τ) pos = .error .empty ∧
    pickOneW ([] : List τ) w replace u = .error .empty ∧
    pickOneWConst ([] : List τ) w u = .error .empty ∧
    getSample ([] : List τ) (k + 1) true draws hat = .error .empty ∧
    getSampleW ([] : List τ) w (k + 1) true us = .error .empty ∧
    pickFromCumSum ([] : List α) u = .error .empty :=
  ⟨rfl, rfl, rfl, rfl, getSample_repl .., getSampleW_repl .., rfl⟩

/-- … and only emptiness: on a non-empty vector no admissible draw raises -/
theorem nonempty_no_raise {τ : Type} (v : List τ) (replace : Bool) (pos : Nat) (hpos : pos < v.length) :
    (∃ r, pickOne v replace pos = .ok r) ∧ (∃ r, pickOneConst v pos = .ok r) := by
  have he := List.getElem?_eq_getElem hpos
  exact ⟨⟨_, pickOne_eq_ok_iff.mpr ⟨he, rfl⟩⟩, ⟨_, pickOneConst_eq_ok_iff.mpr he⟩⟩

/-! The `…_law` / `…_pred` theorems about `lawPickAt`, `lawSampleUnif`, `cumSumPickOk`,
`multinomialLawOk`, `hmmStepOk` (`pick_law`, `sample_repl_law`, `cumsum_pick_law_pred`,
`multinomial_state_law_pred`, `hmm_sample_law`, `hmm_step_pred`) restate the model's algorithm as a
predicate ("the model computes what it computes"): they carry no hypotheses and little content as
theorems.  Their purpose is that the driver evaluates these predicates on the IMPLEMENTATION's
recorded draws.  The theorems with real content are the interval statements under explicit
hypotheses: `weighted_pick_law`, `weight_intervals_partition`, `weighted_sample_law`,
`weighted_sample_norepl_law`, `cumsum_pick_law_sorted`, `multinomial_state_law`, `drand_law`,
`hmm_step_law`.  For the unweighted pick the law is the primitive's (trusted) uniformity. -/

/-- the law of the unweighted picks given the integer draw (`FAIL:pick_law` in the driver): both
`pickOne(v, replace)` and `pickOne(const v)` return the element at the position the draw designates
— so a uniform draw on `0..n-1` (the primitive's contract) gives every position probability `1/n` -/
theorem pick_law {τ : Type} [BEq τ] [LawfulBEq τ] (v : List τ) (replace : Bool) (pos : Nat) :
    (∀ e rest, pickOne v replace pos = .ok (e, rest) → lawPickAt v pos e = true) ∧
    (∀ e, pickOneConst v pos = .ok e → lawPickAt v pos e = true) :=
  ⟨fun e _ h => (lawPickAt_iff v pos e).mpr (pickOne_eq_ok_iff.mp h).1,
    fun e h => (lawPickAt_iff v pos e).mpr (pickOneConst_eq_ok_iff.mp h)⟩

/-- … and of the unweighted sample with replacement (`FAIL:sample_repl_law`): element `i` of the
sample is the source element at the position integer draw `i` designates, for every size -/
theorem sample_repl_law {τ : Type} [BEq τ] [LawfulBEq τ] (vin : List τ) (k : Nat) (draws hat : List Nat) (out : List τ)
    (h : getSample vin k true draws hat = .ok out) : lawSampleUnif vin (draws.take k) out = true :=
  (lawSampleUnif_iff vin _ out).mpr (sampleRepl_eq_ok_iff.mp (getSample_repl vin k draws hat ▸ h)).2

example : lawSampleUnif [10, 20, 30] [0, 2, 2, 1] [10, 30, 30, 20] = true := by decide +kernel
example : lawSampleUnif [10, 20, 30] [0, 2] [10, 20] = false := by decide +kernel

/-- before `fix:` 57b79ce `pickFromCumSum` of an empty vector read `w[0]` (segfault on the real code,
corpus/C18/cumsum-empty.txt) instead of raising -/
theorem pickFromCumSum_unrepaired_witness :
    pickFromCumSumUnrepaired ([] : List Rat) 0 = .error .ub := rfl

/-! non-vacuity -/
example : getSample [10, 20, 30] 2 false [] [2, 0, 1] = .ok [30, 10] := rfl
example : getSample [10, 20, 30] 4 true [0, 2, 2, 1] [] = .ok [10, 30, 30, 20] := rfl
example : pickOne [1, 2, 3, 4] false 1 = .ok (2, [1, 4, 3]) := rfl

/-! ## random contingency tables (AS159) -/

/-- `rcont2_margins`: for ALL margins and ALL values the inverse-cdf walk can stop at, the table
returned by `rcont2` (after `fix:` f276286) has the requested shape, non-negative entries, and
exactly the requested row and column totals -/
theorem rcont2_margins (nrowt ncolt : List Nat) (picks : List (List Int)) (T : List (List Int))
    (h : rcont2 nrowt ncolt picks = .ok T) :
    marginsOk nrowt ncolt T = true := rcont2_marginsOk nrowt ncolt picks T h

/-- `marginsOk` spelled out -/
theorem marginsOk_iff (nrowt ncolt : List Nat) (T : List (List Int)) :
    marginsOk nrowt ncolt T = true ↔
      T.length = nrowt.length ∧ (∀ row ∈ T, row.length = ncolt.length ∧ ∀ x ∈ row, 0 ≤ x) ∧
      T.map List.sum = nrowt.map Int.ofNat ∧ colSums ncolt.length T = ncolt.map Int.ofNat := by
  simp only [marginsOk, Bool.and_eq_true, beq_iff_eq, List.all_eq_true, decide_eq_true_eq]
  tauto

/-- the repaired code never indexes the log-factorial table outside `0..ntot`, whatever the
margins and the choices (the unrepaired code did: `rcont2_unrepaired_witness`) -/
theorem rcont2_reads_in_bounds (nrowt ncolt : List Nat) (picks : List (List Int)) :
    rcont2 nrowt ncolt picks ≠ .error .ub := rcont2_no_ub nrowt ncolt picks

/-- what "any value the loops can stop at" means: from the (repaired) starting value the
increment / decrement walk reaches exactly the support of the cell's conditional hypergeometric
law, `max(0, ia+id-ie) ≤ v ≤ min(ia, id)` — so the abstraction of the float-dependent choice
neither forbids a value the code can produce nor (given `rcont2_margins`) admits a harmful one -/
theorem rcont2_cell_support (ia id ie v : Int) (ha : 0 ≤ ia) (hd : 0 ≤ id) (hie : 0 < ie) (hae : ia ≤ ie) (hde : id ≤ ie) :
    canReach ia id (ie - ia - id) (startCell ia id ie) v = true ↔
      max 0 (ia + id - ie) ≤ v ∧ v ≤ min ia id := by
  rw [canReach_startCell ha hd hie hae hde]; omega

/-- margins that are refused: fewer than two rows / columns, or different totals -/
theorem rcont2_rejects (nrowt ncolt : List Nat) (picks : List (List Int)) :
    (nrowt.length < 2 ∨ ncolt.length < 2 ∨ nrowt.sum ≠ ncolt.sum) → rcont2 nrowt ncolt picks = .error .bpp :=
  fun h => rcont2With_refused startCell h picks

/-- `rcont2_total` — the totality companion of `rcont2_margins` (which is conditional on
`rcont2 … = .ok T`).  For every interpretation `P` of the standard library — in particular of the
float-dependent inverse-cdf walk `P.rcell`, of which only "it stops at a value inside the support
`max(0, ia+id-ie) ≤ v ≤ min(ia, id)` of the cell" is assumed (`WalkInSupport`; that a walk started
inside the support can stop nowhere else is `rcont2_cell_support`, that the walk of the code does
stop is `rcont2_walk_terminates`) —, every generator state and ALL margins the constructor accepts
(at least two rows and columns, equal totals; zeros allowed): `rcont2` returns a table, and the
table has exactly the requested margins.  Never `starved`, `unreachable`, `ub`, `bpp`. -/
theorem rcont2_total {σ α : Type} (P : RandGen.Prims σ α) (hP : WalkInSupport P) (nrowt ncolt : List Nat) (g : σ)
    (h2r : 2 ≤ nrowt.length) (h2c : 2 ≤ ncolt.length) (hsum : nrowt.sum = ncolt.sum) :
    ∃ T, (RandGen.rcont2G P nrowt ncolt g).1 = .ok T ∧ marginsOk nrowt ncolt T = true := by
  obtain ⟨T, hT⟩ := rcont2G_ok P hP nrowt ncolt g h2r h2c hsum
  exact ⟨T, hT, rcont2_marginsOk nrowt ncolt _ T (rcont2G_eq P nrowt ncolt g ▸ hT)⟩

/-- in terms of the draw-taking model: for all valid margins there ARE cell values on which
`rcont2` returns a table (so `rcont2_margins` is never vacuous), e.g. the starting values -/
theorem rcont2_total_picks (nrowt ncolt : List Nat)
    (h2r : 2 ≤ nrowt.length) (h2c : 2 ≤ ncolt.length) (hsum : nrowt.sum = ncolt.sum) :
    ∃ picks T, rcont2 nrowt ncolt picks = .ok T ∧ marginsOk nrowt ncolt T = true := by
  obtain ⟨T, hT, hm⟩ := rcont2_total startWalk startWalk_inSupport nrowt ncolt () h2r h2c hsum
  rw [rcont2G_eq startWalk nrowt ncolt ()] at hT
  exact ⟨_, T, hT, hm⟩

/-- … and for ANY supplied cell values the only failures on valid margins are those of the
supply itself (too few values, or a value the walk cannot reach): never an outcome of the code -/
theorem rcont2_fails_only_on_bad_picks (nrowt ncolt : List Nat) (picks : List (List Int))
    (h2r : 2 ≤ nrowt.length) (h2c : 2 ≤ ncolt.length) (hsum : nrowt.sum = ncolt.sum) :
    (∃ T, rcont2 nrowt ncolt picks = .ok T) ∨ rcont2 nrowt ncolt picks = .error .starved ∨
      rcont2 nrowt ncolt picks = .error .unreachable :=
  (rcont2_outcome nrowt ncolt picks h2r h2c hsum).imp_left fun ⟨T, hT, _⟩ => ⟨T, hT⟩

/-- the refusal is exactly the constructor's guard (converse of `rcont2_rejects`) -/
theorem rcont2_rejects_iff (nrowt ncolt : List Nat) (picks : List (List Int)) :
    rcont2 nrowt ncolt picks = .error .bpp ↔ (nrowt.length < 2 ∨ ncolt.length < 2 ∨ nrowt.sum ≠ ncolt.sum) := by
  constructor
  · intro h
    by_contra hc
    simp only [not_or, not_lt, ne_eq, not_not] at hc
    rcases rcont2_outcome nrowt ncolt picks hc.1 hc.2.1 hc.2.2 with ⟨T, hT, _⟩ | h' | h' <;> rw [h] at * <;> contradiction
  · exact rcont2_rejects nrowt ncolt picks

/-! non-vacuity of `WalkInSupport`: the walk that stops at its starting value; any walk is allowed
to depend on the generator state -/
example : WalkInSupport startWalk := startWalk_inSupport
example : (RandGen.rcont2G startWalk [4, 6, 5] [7, 8] ()).1 = .ok [[2, 2], [3, 3], [2, 3]] := by decide +kernel

/-- `rcont2_walk_terminates` — the `do … while (true)` walk of one cell, in the terms of its
transcription `BppModel/RandWalk.lean` (control flow of ContingencyTableGenerator.cpp:99-163 over an
abstract non-negative probability mass `x0` at the starting value; real arithmetic): for every cell
the book-keeping can present (`0 ≤ ia, id ≤ ie`, `0 < ie`), every first threshold `dummy`, and ONE
further uniform draw `u ≤ 1` for the restart, the walk returns — after at most one restart, never
running into the model's iteration bound — and the value it returns is one the abstraction of
`rcont2` admits (`canReach`, i.e. inside the support of the cell: `rcont2_cell_support`).  Why one
restart suffices: an exhausted pass has added up the total `S` of its terms; the next threshold is
`S·u ≤ S`, and the next pass adds the same terms in the same order (`sweep_replay`).
Not covered: `long double` rounding (the argument only needs `fl(S·u) ≤ S` and the repeatability of
the pass, which hold in floating point too, but that is not proved here), and the tie of this
transcription to the code (reading; clause `terminates` on executions). -/
theorem rcont2_walk_terminates (ia id ie : Int) (x0 dummy u : ℝ) (us : List ℝ)
    (ha : 0 ≤ ia) (hd : 0 ≤ id) (hie : 0 < ie) (hae : ia ≤ ie) (hde : id ≤ ie) (hx0 : 0 ≤ x0) (hu : u ≤ 1) :
    ∃ v, walk ia id (ie - ia - id) (startCell ia id ie) x0 dummy (u :: us) = .ok v ∧
      canReach ia id (ie - ia - id) (startCell ia id ie) v = true := by
  obtain ⟨s0, s1, s2, s3⟩ := startCell_bound ha hd hie hae hde
  have hst : InSupp ia id (ie - ia - id) (startCell ia id ie) := ⟨s0, by omega, s2, s3⟩
  obtain ⟨v, hv, hsupp⟩ := walk_returns x0 dummy u us ha hd hst hx0 hu
  exact ⟨v, hv, (canReach_iff hst).mpr hsupp⟩

/-! non-vacuity: the cell `ia = 5, id = 3, ie = 6` (first cell of rows (5,1), columns (3,3)): start 3 -/
example : ∃ v, walk 5 3 (6 - 5 - 3) (startCell 5 3 6) (1 / 2 : ℝ) (9 / 10) [1 / 3] = .ok v ∧
    canReach 5 3 (6 - 5 - 3) (startCell 5 3 6) v = true :=
  rcont2_walk_terminates 5 3 6 (1 / 2) (9 / 10) (1 / 3) [] (by norm_num) (by norm_num) (by norm_num) (by norm_num)
    (by norm_num) (by norm_num) (by norm_num)

/-- the unrepaired starting value `ia * (size_t)(id/ie + 0.5)`: for rows (5,1) and columns (3,3)
the very first cell starts at `nlm = 5 > id = 3` and reads `fact_[id - nlm]` out of bounds, for
every choice.  On the real code: seed 39 returns the table `5 0 / 2^64-2 3`
(corpus/C18/rcont2-cast.txt). -/
theorem rcont2_unrepaired_witness (picks : List (List Int)) :
    rcont2Unrepaired [5, 1] [3, 3] picks = .error .ub := rfl

/-! non-vacuity: tables are produced, several values of a cell are reachable -/
example : rcont2 [5, 1] [3, 3] [[3]] = .ok [[3, 2], [0, 1]] := by decide +kernel
example : rcont2 [5, 1] [3, 3] [[2]] = .ok [[2, 3], [1, 0]] := by decide +kernel
example : rcont2 [5, 1] [3, 3] [[4]] = .error .unreachable := by decide +kernel
example : rcont2 [4, 6, 5] [7, 8] [[2], [3]] = .ok [[2, 2], [3, 3], [2, 3]] := by decide +kernel
example : rcont2 [0, 0] [0, 0] [] = .ok [[0, 0], [0, 0]] := by decide +kernel

/-! ## weighted picks follow the weights (given a uniform draw) — over the reals -/

/-- the weighted `pickOne` overloads return the element at the position `weightedIndex` chooses,
for every draw `u` (any scalar type, even NaN), provided there is one weight per element -/
theorem weighted_pick_is_indexed {α : Type} [Scalar α] {τ : Type} (v : List τ) (w : List α) (replace : Bool) (u : α)
    (hv : v ≠ []) (hw : w.length = v.length) :
    ∃ pos e, pos < v.length ∧ v[pos]? = some e ∧ weightedIndex v.length w u = .ok pos ∧
      pickOneW v w replace u = .ok (e, if replace then v else swapPop v pos, if replace then w else swapPop w pos) ∧
      (replace = false → v.Perm (e :: swapPop v pos)) := by
  obtain ⟨pos, e, h1, h2, h3, h4⟩ := pickOneW_ok hv hw replace u
  exact ⟨pos, e, h1, h2, h3, h4, fun _ => swapPop_perm h2⟩

/-- a weighted pick without replacement removes the picked element *together with its weight*:
the remaining (element, weight) pairs are the original ones minus the picked pair -/
theorem weighted_pick_keeps_weights_attached {α : Type} [Scalar α] {τ : Type} (v : List τ) (w : List α) (u : α)
    (hv : v ≠ []) (hw : w.length = v.length) :
    ∃ e we v' w', pickOneW v w false u = .ok (e, v', w') ∧ (v.zip w).Perm ((e, we) :: v'.zip w') := by
  obtain ⟨pos, e, hlt, hget, _, hpick⟩ := pickOneW_ok hv hw false u
  have hlw : pos < w.length := by omega
  refine ⟨e, w[pos], swapPop v pos, swapPop w pos, by simpa using hpick, ?_⟩
  have hz : (v.zip w)[pos]? = some (e, w[pos]) := by
    rw [List.getElem?_zip_eq_some]
    exact ⟨hget, List.getElem?_eq_getElem hlw⟩
  have := swapPop_perm hz
  rwa [swapPop_zip v w pos hw.symm] at this

/-- `weighted_pick_law`: for non-negative weights `w = pre ++ x :: post` with positive sum `S` and a
uniform draw `u ∈ [0,1)`, the position of `x` is picked exactly when
`Σpre / S ≤ u < (Σpre + x) / S`: the set `{u | pick u = i}` is an interval of length `wᵢ / Σw` -/
theorem weighted_pick_law (pre : List ℝ) (x : ℝ) (post : List ℝ) (u : ℝ)
    (hw : ∀ y ∈ pre ++ x :: post, 0 ≤ y) (hS : 0 < (pre ++ x :: post).sum) (hu0 : 0 ≤ u) (hu1 : u < 1) :
    weightedIndex (pre ++ x :: post).length (pre ++ x :: post) u = .ok pre.length ↔
      pre.sum / (pre ++ x :: post).sum ≤ u ∧ u < (pre.sum + x) / (pre ++ x :: post).sum :=
  weightedIndex_law pre x post u hw hS hu0 hu1

/-- the length of that interval is the normalised weight -/
theorem weighted_pick_interval_length (pre : List ℝ) (x : ℝ) (post : List ℝ) :
    (pre.sum + x) / (pre ++ x :: post).sum - pre.sum / (pre ++ x :: post).sum = x / (pre ++ x :: post).sum := by
  rw [← sub_div]; congr 1; ring

/-- `weighted_pick_support`: under the same hypotheses a picked position has positive weight -/
theorem weighted_pick_support (pre : List ℝ) (x : ℝ) (post : List ℝ) (u : ℝ)
    (hw : ∀ y ∈ pre ++ x :: post, 0 ≤ y) (hS : 0 < (pre ++ x :: post).sum) (hu0 : 0 ≤ u) (hu1 : u < 1)
    (h : weightedIndex (pre ++ x :: post).length (pre ++ x :: post) u = .ok pre.length) : 0 < x := by
  obtain ⟨h1, h2⟩ := (weighted_pick_law pre x post u hw hS hu0 hu1).mp h
  have := lt_of_le_of_lt h1 h2
  rw [div_lt_div_iff_of_pos_right hS] at this
  linarith

/-- … and for every draw whatsoever some position `< n` is picked (the default is the last one) -/
theorem weighted_pick_total {α : Type} [Scalar α] (w : List α) (u : α) (hw : w ≠ []) :
    ∃ pos, weightedIndex w.length w u = .ok pos ∧ pos < w.length :=
  weightedIndex_ok (List.length_pos_iff.mpr hw) rfl u

/-! ### the law as an executable predicate: what the driver evaluates on the implementation's
recorded draws (`FAIL:weighted_pick_law`, `FAIL:weighted_sample_law`, `FAIL:weighted_sample_norepl_law`) -/

/-- `inWeightInterval w u i` says: `Σ_{j<i} wⱼ / Σw ≤ u < Σ_{j≤i} wⱼ / Σw` -/
theorem inWeightInterval_spec (w : List ℝ) (u : ℝ) (i : Nat) (hi : i < w.length) :
    inWeightInterval w u i = true ↔ (w.take i).sum / w.sum ≤ u ∧ u < (w.take (i + 1)).sum / w.sum :=
  inWeightInterval_iff w u i hi

/-- `weighted_pick_law` in predicate form: for non-negative weights with a positive total and a
uniform draw `u ∈ [0,1)`, position `i` is chosen iff the weight interval of `i` contains `u` -/
theorem weighted_pick_law_interval (w : List ℝ) (u : ℝ) (i : Nat) (hi : i < w.length)
    (hw : weightsOk w = true) (hu0 : 0 ≤ u) (hu1 : u < 1) :
    weightedIndex w.length w u = .ok i ↔ inWeightInterval w u i = true := by
  obtain ⟨h1, h2⟩ := (weightsOk_iff w).mp hw
  exact weightedIndex_iff_interval w u i hi h1 h2 hu0 hu1

/-- the weight intervals partition `[0,1)`: every draw lies in the interval of exactly one position
(so "the element whose weight interval contains the draw" is well defined) -/
theorem weight_intervals_partition (w : List ℝ) (u : ℝ) (hw : weightsOk w = true) (hu0 : 0 ≤ u) (hu1 : u < 1) :
    ∃ i, i < w.length ∧ inWeightInterval w u i = true ∧ ∀ j, inWeightInterval w u j = true → j = i := by
  obtain ⟨h1, h2⟩ := (weightsOk_iff w).mp hw
  have hne : w ≠ [] := by intro h; subst h; simp at h2
  obtain ⟨i, hi, hlt⟩ := weighted_pick_total w u hne
  refine ⟨i, hlt, (weightedIndex_iff_interval w u i hlt h1 h2 hu0 hu1).mp hi, ?_⟩
  intro j hj
  have hjl := inWeightInterval_lt_length w u j hj
  have := (weightedIndex_iff_interval w u j hjl h1 h2 hu0 hu1).mpr hj
  rw [hi] at this
  exact (Except.ok.inj this).symm

/-- both weighted `pickOne` overloads follow the weights: the element returned is one whose weight
interval contains the draw -/
theorem weighted_pick_follows_weights {τ : Type} [BEq τ] [LawfulBEq τ] (v : List τ) (w : List ℝ) (replace : Bool) (u : ℝ)
    (hv : v ≠ []) (hwl : w.length = v.length) (hw : weightsOk w = true) (hu0 : 0 ≤ u) (hu1 : u < 1) :
    (∃ e v' w', pickOneW v w replace u = .ok (e, v', w') ∧ lawElem v w u e = true) ∧
    (∃ e, pickOneWConst v w u = .ok e ∧ lawElem v w u e = true) := by
  obtain ⟨h1, h2⟩ := (weightsOk_iff w).mp hw
  refine ⟨pickOneW_law v w replace u hv hwl h1 h2 hu0 hu1, ?_⟩
  obtain ⟨e, v', w', hp, hl⟩ := pickOneW_law v w true u hv hwl h1 h2 hu0 hu1
  exact ⟨e, by simp [pickOneWConst, hp], hl⟩

/-- `weighted_sample_law`: every element of a weighted sample WITH replacement is the element whose
weight interval (normalised by `Σw`) contains its own uniform draw — for every sample size `k`,
shorter than, equal to or longer than the source -/
theorem weighted_sample_law {τ : Type} [BEq τ] [LawfulBEq τ] (vin : List τ) (w : List ℝ) (k : Nat) (draws : List ℝ)
    (hwl : w.length = vin.length) (hw : weightsOk w = true) (hk : k ≤ draws.length)
    (hu : ∀ u ∈ draws, 0 ≤ u ∧ u < 1) :
    ∃ out, getSampleW vin w k true draws = .ok out ∧ out.length = k ∧
      lawSampleRepl vin w (draws.take k) out = true := by
  obtain ⟨h1, h2⟩ := (weightsOk_iff w).mp hw
  have hne : vin ≠ [] := by
    intro h; subst h
    have : w = [] := List.length_eq_zero_iff.mp (by simpa using hwl)
    subst this; simp at h2
  rw [getSampleW_repl]
  obtain ⟨out, ho⟩ := sampleWRepl_ok w hwl hne k draws hk
  have hs := ((sampleWRepl_eq_ok_iff _ w).mp ho).2
  exact ⟨out, ho, by rw [hs.length_eq, List.length_take, Nat.min_eq_left hk],
    sampleWRepl_law vin w hwl h1 h2 k draws out hu ho⟩

/-- `weighted_sample_norepl_law`: the same WITHOUT replacement — each element is the one whose
interval among the elements still present (with their own weights) contains its draw — as long as
the sample is not larger than the number of positive weights (beyond that the code divides 0/0 and
falls back to the last remaining element) -/
theorem weighted_sample_norepl_law {τ : Type} [BEq τ] [LawfulBEq τ] (vin : List τ) (w : List ℝ) (k : Nat) (draws : List ℝ)
    (hwl : w.length = vin.length) (hw : ∀ y ∈ w, 0 ≤ y) (hkp : k ≤ nPositive w) (hk : k ≤ draws.length)
    (hu : ∀ u ∈ draws, 0 ≤ u ∧ u < 1) :
    ∃ out, getSampleW vin w k false draws = .ok out ∧ lawSampleNoRepl (draws.take k) out vin w = true := by
  have hkl : k ≤ vin.length := by
    have : nPositive w ≤ w.length := List.length_filter_le _ _
    omega
  obtain ⟨ps, hps, hrun⟩ := pickPositionsNoRepl_run k (List.range vin.length) w draws (by simp [hwl]) (by simpa using hkl) hk
  obtain ⟨out, ho, hsel⟩ := selectBy_ok fun i hi => List.mem_range.mp (hrun.subperm.subset hi)
  refine ⟨out, by rw [getSampleW_norepl, if_neg (Nat.not_lt.mpr hkl), hps]; exact ho, ?_⟩
  cases hv : vin with
  | nil =>
    subst hv
    obtain rfl : k = 0 := by simpa using hkl
    cases hrun
    simp only [selectBy, Except.ok.injEq] at ho; subst ho
    simp [lawSampleNoRepl]
  | cons a rest =>
    have := hrun.law (fun p => vin[p]?.getD a) hw (by rwa [List.length_take, Nat.min_eq_left hk])
      (fun u hu' => hu u (List.mem_of_mem_take hu'))
    rw [range_map_getD a, ← hsel.eq_map a] at this
    rw [← hv]; exact this

/-! non-vacuity: weights 1, 3 (not normalised): `u = 0.2` lies in `[0, 1/4)`, `u = 0.5` in `[1/4, 1)`;
a sampler that compared `u` with the un-normalised cumulative sums `1, 4` would return the first
element for both draws and fail the predicate on the second -/
example : inWeightInterval ([1, 3] : List ℝ) (1 / 5) 0 = true ∧ inWeightInterval ([1, 3] : List ℝ) (1 / 2) 1 = true
    ∧ inWeightInterval ([1, 3] : List ℝ) (1 / 2) 0 = false := by
  refine ⟨?_, ?_, ?_⟩
  · rw [inWeightInterval_spec _ _ _ (by simp)]; norm_num
  · rw [inWeightInterval_spec _ _ _ (by simp)]; norm_num
  · rw [Bool.eq_false_iff]; intro h
    rw [inWeightInterval_spec _ _ _ (by simp)] at h; norm_num at h
example : weightsOk ([1, 3] : List ℝ) = true := (weightsOk_iff _).mpr ⟨by simp, by norm_num⟩
example : ∃ out, getSampleW [10, 20] ([1, 3] : List ℝ) 3 true [1 / 5, 1 / 2, 9 / 10] = .ok out ∧ out.length = 3 ∧
    lawSampleRepl [10, 20] ([1, 3] : List ℝ) [1 / 5, 1 / 2, 9 / 10] out = true :=
  weighted_sample_law [10, 20] [1, 3] 3 _ rfl ((weightsOk_iff _).mpr ⟨by simp, by norm_num⟩) (by simp)
    (by intro u hu; simp only [List.mem_cons, List.not_mem_nil, or_false] at hu; rcases hu with rfl | rfl | rfl <;> norm_num)
/-- the sample `10, 10` for the draws `0.2, 0.5` (what a pick from the un-normalised cumulative sums
returns) does not satisfy the predicate -/
example : lawSampleRepl [10, 20] ([1, 3] : List ℝ) [1 / 5, 1 / 2] [10, 10] = false := by
  rw [Bool.eq_false_iff]; intro h
  simp only [lawSampleRepl, Bool.and_eq_true, lawElem, List.any_eq_true, List.mem_range] at h
  obtain ⟨_, ⟨i, hi, h2⟩, _⟩ := h
  simp only [List.length_cons, List.length_nil] at hi
  have hi' : i = 0 ∨ i = 1 := by omega
  rcases hi' with rfl | rfl
  · rw [inWeightInterval_spec _ _ _ (by simp)] at h2; norm_num at h2
  · simp at h2

/-- `pickFromCumSum` on a cumulative vector `c = pre ++ x :: post`: the position of `x` is returned
iff every earlier entry is `< u` and (`x` is the last entry or `u ≤ x`).  For a non-decreasing `c`
this is the interval `(c_{i-1}, c_i]` (closed at 0 for `i = 0`, open-ended for the last index), of
length `c_i - c_{i-1}` within `[0,1)` when the last entry is 1. -/
theorem cumsum_pick_law (pre : List ℝ) (x : ℝ) (post : List ℝ) (u : ℝ) :
    pickFromCumSum (pre ++ x :: post) u = .ok pre.length ↔ (∀ y ∈ pre, y < u) ∧ (post = [] ∨ u ≤ x) :=
  pickFromCumSum_decomp pre x post u

/-- the same as the executable predicate the driver evaluates on the implementation's recorded
draw (`FAIL:cumsum_pick_law`) -/
theorem cumsum_pick_law_pred (w : List ℝ) (u : ℝ) (p : Nat) (hp : p < w.length) :
    pickFromCumSum w u = .ok p ↔ cumSumPickOk w u p = true := pickFromCumSum_iff_cumSumPickOk w u p hp

/-- for a non-decreasing cumulative vector "every earlier entry" is "the previous entry" -/
theorem cumsum_pick_law_sorted (pre : List ℝ) (a x : ℝ) (post : List ℝ) (u : ℝ)
    (hs : (pre ++ [a]).Pairwise (· ≤ ·)) :
    pickFromCumSum ((pre ++ [a]) ++ x :: post) u = .ok (pre.length + 1) ↔ a < u ∧ (post = [] ∨ u ≤ x) := by
  have := cumsum_pick_law (pre ++ [a]) x post u
  simp only [List.length_append, List.length_singleton] at this
  rw [this]
  constructor
  · rintro ⟨h1, h2⟩; exact ⟨h1 a (by simp), h2⟩
  · rintro ⟨h1, h2⟩
    refine ⟨?_, h2⟩
    intro y hy
    rcases List.mem_append.mp hy with hy | hy
    · have := (List.pairwise_append.mp hs).2.2 y hy a (by simp)
      linarith
    · simp at hy; subst hy; exact h1

/-- support of `pickFromCumSum`: a returned position that is not the last one carries a positive
step of the cumulative function, unless `u = 0` hit a leading zero (an event of probability
`2^-64` for `std::uniform_real_distribution`; witness below) -/
theorem cumsum_pick_support (pre : List ℝ) (a x : ℝ) (post : List ℝ) (u : ℝ) (hpost : post ≠ [])
    (hs : (pre ++ [a]).Pairwise (· ≤ ·))
    (h : pickFromCumSum ((pre ++ [a]) ++ x :: post) u = .ok (pre.length + 1)) : a < x := by
  obtain ⟨h1, h2⟩ := (cumsum_pick_law_sorted pre a x post u hs).mp h
  rcases h2 with h2 | h2
  · exact absurd h2 hpost
  · linarith

theorem cumsum_pick_support_u0_witness : pickFromCumSum ([0, 1] : List ℝ) 0 = .ok 0 := by
  have := (cumsum_pick_law [] 0 [1] 0).mpr ⟨by simp, Or.inr (le_refl _)⟩
  simpa using this

/-! ## multinomial draws by inverse cdf -/

/-- `multinomial_counts_sum`: for ALL draws, `randMultinomial(n, probs)` returns `n` states in
`0..probs.size()` (the last value being the code's "not found" state) — each the inverse-cdf image
of its own draw — and the counts of the states add up to `n` -/
theorem multinomial_counts_sum {α : Type} [Scalar α] (probs : List α) (n : Nat) (draws : List α) (hd : n ≤ draws.length)
    (hok : multinomialRaises probs n = false) :
    ∃ states, randMultinomial probs n draws = .ok states ∧ states.length = n ∧
      states = (draws.take n).map (multinomialState probs) ∧
      (∀ s ∈ states, s ≤ probs.length) ∧ (counts probs.length states).sum = n ∧
      countsOk probs.length n states = true := by
  have hle : ∀ s ∈ (draws.take n).map (multinomialState probs), s ≤ probs.length := by
    intro s hs; obtain ⟨r, _, rfl⟩ := List.mem_map.mp hs; exact multinomialState_le probs r
  have hlen : ((draws.take n).map (multinomialState probs)).length = n := by simp [hd]
  have hsum := counts_sum probs.length _ hle
  rw [hlen] at hsum
  refine ⟨_, randMultinomial_eq probs n draws hok hd, hlen, rfl, hle, hsum, ?_⟩
  simp only [countsOk, Bool.and_eq_true, List.all_eq_true, decide_eq_true_eq, beq_iff_eq]
  exact ⟨hle, hsum⟩

/-- the law of one state given its uniform draw `r` (non-negative `probs = pre ++ x :: post` with
positive sum `S`): state `pre.length` iff `Σpre / S < r ≤ (Σpre + x) / S` (closed at 0 for the first
state): an interval of length `x / S` -/
theorem multinomial_state_law (pre : List ℝ) (x : ℝ) (post : List ℝ) (r : ℝ)
    (hw : ∀ y ∈ pre ++ x :: post, 0 ≤ y) (hS : 0 < (pre ++ x :: post).sum) :
    multinomialState (pre ++ x :: post) r = pre.length ↔
      (pre = [] ∨ pre.sum / (pre ++ x :: post).sum < r) ∧ r ≤ (pre.sum + x) / (pre ++ x :: post).sum :=
  multinomialState_decomp pre x post r hw hS

/-- the executable form (`FAIL:multinomial_state_law` in the driver): for ALL draws and ALL
`probs`, every state `randMultinomial` returns lies on the step of the running sums of
`probs/Σprobs` on which its own draw falls (`c[j-1] < r ≤ c[j]`; the "not found" state above all) -/
theorem multinomial_state_law_pred (probs : List ℝ) (n : Nat) (draws : List ℝ) (hd : n ≤ draws.length)
    (hok : multinomialRaises probs n = false) :
    ∃ states, randMultinomial probs n draws = .ok states ∧
      List.Forall₂ (fun r s => multinomialLawOk probs r s = true) (draws.take n) states := by
  refine ⟨_, randMultinomial_eq probs n draws hok hd, ?_⟩
  rw [List.forall₂_map_right_iff]
  exact List.forall₂_same.mpr (fun r _ => multinomialState_lawOk probs r)

/-- without a positive sum the probabilities cannot be scaled: a non-empty request is refused
(after the `fix:` of audit round 2), whatever the draws — also for an empty `probs` -/
theorem multinomial_refuses_nonpositive_sum {α : Type} [Scalar α] (probs : List α) (n : Nat) (draws : List α)
    (h : multinomialRaises probs n = true) : randMultinomial probs n draws = .error .bpp := by
  simp [randMultinomial, h]

/-- the documented range, at full strength: for non-negative `probs` with a positive sum and draws
`≤ 1` (exact arithmetic) every returned state is one of `0 … x-1` -/
theorem multinomial_states_in_range (probs : List ℝ) (n : Nat) (draws : List ℝ) (hd : n ≤ draws.length)
    (hw : ∀ y ∈ probs, 0 ≤ y) (hS : 0 < probs.sum) (hr : ∀ r ∈ draws, r ≤ 1) :
    ∃ states, randMultinomial probs n draws = .ok states ∧ states.length = n ∧ ∀ s ∈ states, s < probs.length := by
  have hok : multinomialRaises probs n = false := by
    simp only [multinomialRaises, sumFromZero_real, ScalarReal.ofInt_eq, Int.cast_zero, Bool.and_eq_false_iff,
      Bool.not_eq_false', ScalarReal.ltb_iff]
    exact Or.inr hS
  refine ⟨_, randMultinomial_eq probs n draws hok hd, by simp [hd], ?_⟩
  intro s hs
  obtain ⟨r, hrm, rfl⟩ := List.mem_map.mp hs
  exact multinomialState_lt probs r hS (hr r (List.mem_of_mem_take hrm))

/-- before the repair: all-zero probabilities gave the out-of-range state `probs.size()`
(`multinom 4 0 0 0` answered `3 3 3 3` on the unchanged tree; corpus/C18/multinomial-zero-sum.txt).
Over the reals `0/0 = 0`, so the witness uses a draw `> 0`; in floating point `0/0` is NaN and every
draw gives this state. -/
theorem multinomial_unrepaired_witness :
    randMultinomialUnrepaired ([0, 0, 0] : List ℝ) 1 [1 / 2] = .ok [3] := by
  have h : multinomialState ([0, 0, 0] : List ℝ) (1 / 2) = 3 := by
    simp only [multinomialState, sumFromZero_real, invCdf, sadd, sdiv, ScalarReal.ofInt_eq, ScalarReal.leb_iff]
    norm_num
  simp only [randMultinomialUnrepaired, multinomialLoop, h]

/-- with a draw `r ≤ 1` the "not found" state never occurs (exact arithmetic) -/
theorem multinomial_state_range (probs : List ℝ) (r : ℝ) (hw : ∀ y ∈ probs, 0 ≤ y) (hS : 0 < probs.sum) (hr : r ≤ 1) :
    multinomialState probs r < probs.length := multinomialState_lt probs r hS hr

/-! ## the discrete draw of a distribution (`AbstractDiscreteDistribution::rand`) -/

/-- with `dist = pre ++ (c, p) :: post` (categories in ascending order, non-negative probabilities)
the category `c` is returned whenever `Σpre < r ≤ Σpre + p` (closed at 0 for the first category) -/
theorem drand_law (pre : List (ℝ × ℝ)) (c p : ℝ) (post : List (ℝ × ℝ)) (r : ℝ)
    (hpre : ∀ y ∈ pre, 0 ≤ y.2) (hlo : pre = [] ∨ (pre.map (·.2)).sum < r) (hhi : r ≤ (pre.map (·.2)).sum + p) :
    dRand (pre ++ (c, p) :: post) r = c :=
  dRandFrom_decomp r c p post pre _ hpre (by simpa using hlo) (by simpa using hhi)

/-- the executable form (`FAIL:drand_law` in the driver): the category returned is the one on
whose step of the cumulative probabilities the draw falls -/
theorem drand_law_pred (dist : List (ℝ × ℝ)) (r : ℝ) (hne : dist ≠ []) (hr : r ≤ (dist.map (·.2)).sum) :
    dRandLawOk dist r (dRand dist r) = true := dRand_lawOk dist r hr hne

/-- the "can't be reached" `return -1.` is not reached when the draw is at most the total mass:
the result is one of the categories -/
theorem drand_member (dist : List (ℝ × ℝ)) (r : ℝ) (hne : dist ≠ []) (hr : r ≤ (dist.map (·.2)).sum) :
    dRand dist r ∈ dist.map (·.1) := by
  obtain ⟨i, h, _, he⟩ := dRandFrom_found r dist (Scalar.ofInt 0) hne (by simpa using hr)
  exact List.mem_map.mpr ⟨dist[i], List.getElem_mem h, he.symm⟩

/-! ## sampling a hidden Markov chain (`AbstractHmmTransitionMatrix::sample`) -/

/-- one step: with a non-negative row `p = pre ++ x :: post` and a draw `u ≥ 0`, state `pre.length` is
chosen iff `Σpre ≤ u < Σpre + x` — an interval of length `x` -/
theorem hmm_step_law (pre : List ℝ) (x : ℝ) (post : List ℝ) (u : ℝ) (dflt : Option Nat)
    (hpre : ∀ y ∈ pre, 0 ≤ y) (hu : 0 ≤ u) (hfound : u < (pre ++ x :: post).sum) :
    hmmState (pre ++ x :: post) u dflt = .ok pre.length ↔ pre.sum ≤ u ∧ u < pre.sum + x :=
  hmmState_decomp pre x post u dflt hpre hu hfound

/-- the chain never reads the uninitialised `stb`: with probability rows (sum 1), a probability
vector `eq`, and draws in `[0,1)`, `sample(size)` returns `size` states, all `< n` -/
theorem hmm_sample_defined (n : Nat) (eq : List ℝ) (rows : List (List ℝ)) (heq : eq.length = n) (heqs : eq.sum = 1)
    (hrows : rows.length = n) (hrow : ∀ r ∈ rows, r.length = n ∧ r.sum = 1)
    (size : Nat) (draws : List ℝ) (hd : size ≤ draws.length) (hu : ∀ u ∈ draws, 0 ≤ u ∧ u < 1) :
    ∃ states, hmmSample eq rows size draws = .ok states ∧ states.length = size ∧ ∀ s ∈ states, s < n := by
  cases size with
  | zero => exact ⟨[], by cases draws <;> rfl, rfl, by simp⟩
  | succ k =>
    cases draws with
    | nil => simp at hd
    | cons u us =>
      obtain ⟨hu0, hu1⟩ := hu u List.mem_cons_self
      obtain ⟨sta, hsta, hlt⟩ := hmmState_defined eq u heqs hu0 hu1 (some 0)
      obtain ⟨l, hl, hlen, hmem⟩ := hmmChain_defined hrows hrow k us sta (heq ▸ hlt) (Nat.le_of_succ_le_succ hd)
        (fun x hx => hu x (List.mem_cons_of_mem _ hx))
      exact ⟨sta :: l, by simp only [hmmSample, hsta, hl], by rw [List.length_cons, hlen],
        List.forall_mem_cons.mpr ⟨heq ▸ hlt, hmem⟩⟩

/-- the executable form of the chain's law (`FAIL:hmm_sample_law` in the driver), for every scalar
type, all draws, all matrices: the first state lies on the step of its draw within the equilibrium
frequencies (or is the initial value 0 when no step is found), each following state on the step of
its own draw within the transition row of its predecessor (`hmmStepOk`; for a non-negative row this
is `Σ_{j<i} p_j ≤ u < Σ_{j≤i} p_j`, `hmm_step_law`) -/
theorem hmm_sample_law {α : Type} [Scalar α] (eq : List α) (rows : List (List α)) (size : Nat) (draws : List α) (l : List Nat)
    (h : hmmSample eq rows size draws = .ok l) : hmmSampleLawOk eq rows (draws.take size) l = true :=
  hmmSample_law eq rows size draws l h

/-- the step predicate is the subtractive search of the code -/
theorem hmm_step_pred {α : Type} [Scalar α] (p : List α) (u : α) (i : Nat) :
    subtractSearch u p 0 = some i ↔ hmmStepOk p u i = true := (hmmStepOk_iff p u i).symm

/-- in floating point a row can sum to slightly less than 1; a draw above the sum then leaves `stb`
uninitialised (the model's `ub`): a row `[0.5, 0.25]` and the draw `0.9` -/
theorem hmm_uninitialised_witness : hmmChain [[(1 : ℝ) / 2, 1 / 4], [1 / 2, 1 / 2]] 0 1 [9 / 10] = .error .ub := by
  simp only [hmmChain, List.getElem?_cons_zero, hmmState, subtractSearch, ssub, ScalarReal.ofInt_eq, Int.cast_zero, ScalarReal.ltb_iff]
  norm_num

/-! ## the permutation p-value of `ContingencyTableTest` -/

/-- `pvalue_range`, about the transcribed Monte-Carlo loop of the constructor
(`count = 0; for (k = 0; k < nbPermutations; ++k) { …rcont2()…; if (stat_rep >= statistic_) count++; }
pvalue_ = (count + 1) / (nbPermutations + 1)`): for every observed statistic, every number of
permutations `> 0` and every stream of replicate statistics, the loop ends with `count ≤ nbPermutations`,
hence the p-value lies in `(0, 1]` -/
-- Scope: the Monte-Carlo branch only.  The constructor takes it for `nbPermutations > 0`; the DEFAULT
-- `nbPermutations = 0` computes `1 - pChisq(statistic, df)` instead (ContingencyTableTest.cpp:100-108),
-- for which there is no theorem (C08's kernel; the range is checked on executions only).  The
-- statement below also holds of `nb = 0` (`mcPValue stat 0 sims = .ok 1`), a case the code never
-- runs through this loop.
theorem pvalue_range (stat : ℝ) (nb : Nat) (sims : List ℝ) (p : ℝ) (h : mcPValue stat nb sims = .ok p) :
    0 < p ∧ p ≤ 1 := by
  rw [mcPValue_eq] at h
  split at h
  · cases h
    exact pvalueOfCount_range _ _ (countGe_le stat _)
  · cases h

/-- the loop draws exactly `nbPermutations` tables (it consumes that many statistics of the stream,
whatever follows them) and its result is the filter form `permPValue` on them -/
theorem pvalue_loop_draws_nb_tables {α : Type} [Scalar α] (stat : α) (nb : Nat) (sims : List α) :
    (nb ≤ sims.length → mcPValue stat nb sims = .ok (permPValue stat (sims.take nb))) ∧
    (sims.length < nb → mcPValue stat nb sims = .error .starved) := by
  rw [mcPValue_eq]
  exact ⟨fun h => if_pos h, fun h => if_neg (Nat.not_le.mpr h)⟩

/-- `pvalue_range` in the filter form: whatever the simulated statistics,
`(count+1)/(nbPermutations+1)` lies in `(0, 1]` -/
theorem pvalue_range_of_sims (stat : ℝ) (sims : List ℝ) :
    0 < permPValue stat sims ∧ permPValue stat sims ≤ 1 := by
  unfold permPValue
  exact pvalueOfCount_range _ _ (countGe_le stat sims)

/-- the bound of the loop matters: with `k <= nbPermutations` (one table too many; seeded change
C18-b2) a table whose statistic no replicate undercuts gets `p = (nb+2)/(nb+1) > 1` -/
theorem pvalue_loop_le_witness : mcPValueWith "<=" (0 : ℝ) 1 [1, 1] = .ok (3 / 2) := by
  rw [mcPValueWith_eq (iters := 2) (by decide +kernel)]
  simp [countGe, Scalar.geb, pvalueOfCount]

/-- the source has `k = 0; k < nbPermutations` and `count = 0` (regenerated on every run) -/
theorem pvalue_loop_source :
    ("ContingencyTableTest.loop", "<") ∈ Generated.comparisons ∧
    ("ContingencyTableTest.count", ">=") ∈ Generated.comparisons ∧
    ("ContingencyTableTest.pvalue=(count+1)/(nbPermutations+1)", "/") ∈ Generated.comparisons :=
  ⟨List.mem_of_getElem? (i := 11) rfl, List.mem_of_getElem? (i := 10) rfl, List.mem_of_getElem? (i := 12) rfl⟩

/-! non-vacuity: two replicates, one of them at least the observed statistic: `p = 2/3` -/
example : mcPValue (2 : ℝ) 2 [1, 3, 7] = .ok (2 / 3) := by
  rw [mcPValue_eq]
  simp [permPValue, countGe, Scalar.geb, pvalueOfCount]
  norm_num

/-- replicates whose statistic ties with the observed one count (`>=`): if every simulated
statistic is at least the observed one the p-value is exactly 1 -/
theorem pvalue_all_ge (stat : ℝ) (sims : List ℝ) (h : ∀ s ∈ sims, stat ≤ s) : permPValue stat sims = 1 := by
  have hc : countGe stat sims = sims.length := by
    unfold countGe
    rw [List.filter_eq_self.mpr]
    intro s hs
    simpa [Scalar.geb] using h s hs
  unfold permPValue pvalueOfCount
  rw [hc]
  simp only [ScalarReal.ofInt_eq, sdiv]
  exact div_self (Int.cast_ne_zero.mpr (Int.natCast_ne_zero.mpr (Nat.succ_ne_zero _)))

/-- the relational form used on executions: any `count ≤ nb` gives a value in `(0, 1]` -/
theorem pvalue_range_of_count (count nb : Nat) (h : count ≤ nb) :
    0 < (pvalueOfCount count nb : ℝ) ∧ (pvalueOfCount count nb : ℝ) ≤ 1 := pvalueOfCount_range count nb h

/-! ## parameter conventions of the sampler wrappers (table regenerated from the sources) -/

/-- `wrapper_conventions` — a comparison of tables, not a statement about probability measures.
For every sampler wrapper found in RandomTools.h / RandomTools.cpp (`giveRandomNumberBetweenZeroAndEntry`,
`flipCoin`, `randGaussian`, `randGamma` (both), `randExponential`, `randBeta`; table regenerated from
the source on every run): the tagged tuple (family, canonical parameters, location) that the
hand-written table `stdLawS` assigns to "this std:: distribution with the argument expressions the
wrapper passes" equals — as real numbers, for ALL real parameter values (a variance non-negative) —
the tuple the hand-written table `libLawS` assigns to the wrapper's name.  `stdLawS` records the
parameter order of ISO C++ [rand.dist] (normal(mean, stddev), gamma(shape, scale), exponential(rate));
`libLawS` records what the library's own cumulative functions mean by the wrapper's parameter
names (`pNorm(x, mu, sigma)`, `pGamma(x, alpha, beta)` with `beta` a rate, …).  Both tables are
TRUSTED (`trusted_base`); nothing in Lean gives the tag `LawFam.exponential [r]` a mean of `1/r`.
What ties `libLawS` to the library is `libLaw_gamma_beta_is_rate` / `libLaw_norm_sigma_is_scale`
below (against C08's transcription of the cdfs) and, on executions, the KS tests.  Canonical
parametrisation: normal (mean, variance); exponential (rate); gamma (shape, rate); beta (α, β);
uniform (lo, hi); plus a location. -/
theorem wrapper_conventions : ∀ w ∈ Generated.wrappers,
    ∃ a b, stdLawS w.family w.args = some a ∧ libLawS w.name = some b ∧
      ∀ ρ : String → ℝ, (∀ n ∈ nonnegParams, 0 ≤ ρ n) → a.eval ρ = b.eval ρ := by
  intro w hw
  exact wrapperOk_sound (List.all_eq_true.mp wrappers_all_ok w hw)

/-- the same table comparison for each distribution class' `randC()` (Beta, Exponential, Gamma with
its offset, Gaussian, TruncatedExponential, Uniform): the tuple of the wrapper it calls, with the
arguments it passes and the shift it adds, equals the tuple the hand-written (trusted) table
`distLawS` records for the class' own `pProb`.  The rejection loop on the bounds and the
truncation point are not in the table. -/
theorem randC_conventions : ∀ r ∈ Generated.randCs,
    ∃ a b, randCLawS Generated.wrappers r = some a ∧ distLawS r.dist = some b ∧
      ∀ ρ : String → ℝ, (∀ n ∈ nonnegParams, 0 ≤ ρ n) → a.eval ρ = b.eval ρ := by
  intro r hr
  exact randCOk_sound (List.all_eq_true.mp randCs_all_ok r hr)

/-- semantic anchor of the hand-written table `libLawS` (1): in C08's transcription of the
library's own `pGamma(x, alpha, beta)` (`DistGuards.pGamma`, tied to the code by C08's check), `beta`
is a RATE — the cdf at `x` with rate `beta` is the unit-rate cdf at `beta · x` — for every kernel -/
theorem libLaw_gamma_beta_is_rate (K : DistGuards.Kernels ℝ) (x a b : ℝ) (hb : 0 ≤ b) :
    DistGuards.pGamma K x a b = DistGuards.pGamma K (b * x) a 1 := by
  have h1 : Scalar.ltb b (Scalar.zero : ℝ) = false := by simp [Scalar.zero]; exact hb
  have h2 : Scalar.ltb (1 : ℝ) (Scalar.zero : ℝ) = false := by simp [Scalar.zero]
  simp only [DistGuards.pGamma, h1, h2, Bool.false_eq_true, if_false, smul, one_mul]

/-- semantic anchor (2): in C08's transcription of `pNorm(x, mu, sigma)`, `mu` is a location and
`sigma` a scale (standard deviation, not variance): the cdf is the standard one at `(x - mu)/sigma` -/
theorem libLaw_norm_sigma_is_scale (ex tr : ℝ → ℝ) (x mu sigma : ℝ) :
    PNorm.pNorm3 ex tr x mu sigma = PNorm.pNorm ex tr ((x - mu) / sigma) := rfl

/-- every drawing wrapper the hand-written table knows is present in the regenerated table, and
every distribution family with a direct continuous draw -/
theorem wrapper_table_complete :
    ["giveRandomNumberBetweenZeroAndEntry/1", "flipCoin/1", "randGaussian/2", "randGamma/1", "randGamma/2",
      "randBeta/2", "randExponential/1"].all (fun n => Generated.wrappers.any (fun w => w.name == n)) = true ∧
    ["Beta", "Exponential", "Gamma", "Gaussian", "TruncatedExponential", "Uniform"].all
      (fun d => Generated.randCs.any (fun r => r.dist == d)) = true := by decide +kernel

/-- what the table says for two of them, spelled out: `UniformDiscreteDistribution::randC` draws
`U(0, max - min) + min`, which is the uniform law on `(min, max)` of its `pProb`; `Gamma…::randC`
draws `Gamma(alpha, rate beta) + offset` -/
example : randCLawS Generated.wrappers ⟨"Uniform", "giveRandomNumberBetweenZeroAndEntry/1", [.sub (.var "max") (.var "min")], .var "min"⟩
    = some ⟨.uniform, [.add (.lit 0 1) (.var "min"), .add (.sub (.var "max") (.var "min")) (.var "min")], Expr.zero⟩ := by decide +kernel
example : (LawS.norm ⟨.uniform, [.add (.lit 0 1) (.var "min"), .add (.sub (.var "max") (.var "min")) (.var "min")], Expr.zero⟩)
    = ⟨.uniform, [.var "min", .var "max"], Expr.zero⟩ := by decide +kernel

/-- which end of each interval is closed is decided by one comparison operator in the source; hitting
such an end point has probability about `2^-53` per draw, so no execution ties it.  The operators
are therefore regenerated from the sources on every run and must be the ones the model transcribes:
`prob < sumw[i]` (`searchLt`), `prob <= w[pos]` / `r <= cumprob` (`searchLe`, `invCdf`, `dRandFrom`),
`prob < 0` (`subtractSearch`), `stat_rep >= statistic_` (`countGe`), `vout.size() > vin.size()`. -/
theorem source_comparisons :
    Generated.comparisons =
      [("pickOne(v,w,replace)", "<"), ("pickOne(const v,const w)", "<"), ("pickFromCumSum", "<="),
       ("pickFromCumSum.loop", "<"), ("getSample.tooLong", ">"), ("getSampleW.tooLong", ">"),
       ("randMultinomial", "<="), ("AbstractDiscreteDistribution::rand", "<="), ("hmm.first", "<"),
       ("hmm.next", "<"), ("ContingencyTableTest.count", ">="), ("ContingencyTableTest.loop", "<"),
       ("ContingencyTableTest.pvalue=(count+1)/(nbPermutations+1)", "/")] := rfl

/-- the unrepaired sources (before `fix:` 54d504f, 5746c3e, 985f4b7): `randExponential(mean)` passed
the mean as the rate, `randGamma(alpha, beta)` the rate as the scale, and
`GaussianDiscreteDistribution::randC` the standard deviation as the variance -/
theorem wrapper_conventions_unrepaired_witness :
    wrapperOk ⟨"randExponential/1", ["mean"], .exponential, [.var "mean"]⟩ = false ∧
    wrapperOk ⟨"randGamma/2", ["alpha", "beta"], .gamma, [.var "alpha", .var "beta"]⟩ = false ∧
    randCOk Generated.wrappers ⟨"Gaussian", "randGaussian/2", [.var "mu", .var "sigma"], Expr.zero⟩ = false := by decide +kernel

/-- … and they really denote different laws: e.g. at `mean = 4` the rate was 4 instead of 1/4 -/
theorem randExponential_unrepaired_differs :
    (⟨.exponential, [.var "mean"], Expr.zero⟩ : LawS).eval (fun _ => 4) ≠ (⟨.exponential, [.div Expr.one (.var "mean")], Expr.zero⟩ : LawS).eval (fun _ => 4) := by
  simp [LawS.eval, Expr.eval, Expr.one]
  norm_num

end Bpp.C18
