import BppProofs.Lemmas.OptimGolden
import BppProofs.Lemmas.OptimObjective
import BppProofs.Lemmas.OptimSync
/-!
# C10, part 3 — GoldenSectionSearch in full

`doInit`, `doStep`, the stop condition and `optimize` of `GoldenSectionSearch` (model in
`BppModel/OptimOneDim.lean`, the code after the two `fix:` commits of findings/C10.json) driven by the
`AbstractOptimizer` template, over `ℝ`, for every function object whose evaluation step computes a
function `g` of the abscissa (`Det I g J`), every initial interval, every tolerance, every cap on
the number of evaluations, every number of steps.  Rounding is not modelled.
-/
namespace Bpp.C10
open Bpp Bpp.Optim

variable {F : Type} {J : F → PList ℝ → Prop}

/-- **golden_descent** (with `reported_value_consistent` for this optimiser; the counter's
monotonicity is `golden_monotone` below).  After `init` and `optimize`:
* the value returned is not above the function at either end of the initial interval (the golden
  section search never evaluates the starting value of its parameter: the interval is its start),
  nor above either of the two inner values it held after `init`;
* it is the function at an abscissa `x` which is what the optimiser's parameter holds, and it is the
  optimiser's current value (`getFunctionValue()`).
Holds for every objective (unimodal or not), whatever the number of steps made. -/
theorem golden_descent (I : FunI F ℝ) (g : ℝ → ℝ) (hd : Det I g J) (fuel fuel' : Nat)
    (s s1 s2 : St F (Gss ℝ) ℝ) (params : PList ℝ) (v : ℝ)
    (hJ : J s.fn (applyPolicy s.core.policy params))
    (hinit : (gssAlgo I fuel).init s params = .ok s1)
    (hopt : gssOptimize I fuel' s1 = .ok (s2, v)) :
    Spec.descent v (g s.ext.xinf) = true ∧ Spec.descent v (g s.ext.xsup) = true ∧
    v ≤ s1.ext.f1 ∧ v ≤ s1.ext.f2 ∧ s2.core.cur = v ∧
    ∃ x, v = g x ∧ value0 s2.core.params = some x ∧ J s2.fn s2.core.params := by
  obtain ⟨hi, -⟩ := gssInit_spec I g hd fuel s s1 params hinit hJ
  obtain ⟨h1, h2, h3⟩ := gssOptimize_spec I g hd fuel' _ s1 s2 v hi hopt
  have hi' : Gss.Inv g J (min s1.ext.f1 s1.ext.f2) s1 := ⟨hi.f1, hi.f2, hi.j, le_refl _⟩
  obtain ⟨h4, -, -⟩ := gssOptimize_spec I g hd fuel' _ s1 s2 v hi' hopt
  refine ⟨?_, ?_, le_trans h4 (min_le_left _ _), le_trans h4 (min_le_right _ _), h2, h3⟩
  · exact Spec.descent_iff.2 (le_trans h1 (min_le_left _ _))
  · exact Spec.descent_iff.2 (le_trans h1 (min_le_right _ _))

/-- the counter of the golden section search never goes backwards: the template theorems
`optimize_terminates` and `budget` (Props/C10.lean) apply to it -/
theorem golden_monotone (I : FunI F ℝ) (fuel : Nat) : Monotone (gssAlgo I fuel) := gssAlgo_monotone I fuel

/-- **the interval invariant**: a step keeps the four abscissae strictly ordered (in the direction
they had), the new outer interval lies within the old one and is strictly narrower.  (The factors
are `R = φ - 1` and `C = 1 - R` with `φ = (1 + √5)/2` as the code computes them: `0 < C < 1/2 < R < 1`.) -/
theorem golden_interval_invariant (I : FunI F ℝ) (s s' : St F (Gss ℝ) ℝ) (v : ℝ) (ho : s.ext.Ordered)
    (h : gssDoStep I s = .ok (s', v)) :
    s'.ext.Ordered ∧ |s'.ext.x3 - s'.ext.x0| < |s.ext.x3 - s.ext.x0| ∧
    min s.ext.x0 s.ext.x3 ≤ min s'.ext.x0 s'.ext.x3 ∧ max s'.ext.x0 s'.ext.x3 ≤ max s.ext.x0 s.ext.x3 :=
  gssDoStep_interval I s s' v ho h

/-- `golden_descent` for the objective of the harness: any objective `obj`, any point, any coordinate,
an unconstrained parameter: the value returned is the objective at the point the function is left at,
whose optimised coordinate is what the optimiser reports, and it is not above the objective with that
coordinate at either end of the initial interval. -/
theorem golden_descent_objective (obj : List ℝ → ℝ) (D : Deriv ℝ) (cap : Option Nat) (pt0 : List ℝ) (k : Nat) (hk : k < pt0.length)
    (q : NP ℝ) (hq : q.name = k) (hp : q.p.precision = 0) (hc : q.p.constraint = none)
    (fuel fuel' : Nat) (s s1 s2 : St (Fn ℝ) (Gss ℝ) ℝ) (v : ℝ) (hpt : s.fn.point = pt0)
    (hinit : (gssAlgo (Fn.iface obj D cap) fuel).init s [q] = .ok s1)
    (hopt : gssOptimize (Fn.iface obj D cap) fuel' s1 = .ok (s2, v)) :
    v ≤ obj (pt0.set k s.ext.xinf) ∧ v ≤ obj (pt0.set k s.ext.xsup) ∧
    ∃ x, value0 s2.core.params = some x ∧ v = obj (pt0.set k x) ∧ s2.core.cur = v := by
  obtain ⟨h1, h2, -, -, h5, x, hx, hv, -⟩ := golden_descent _ _ (objective_det obj D cap pt0 k) fuel fuel' s s1 s2 [q] v
    (along_start s.core.policy hk hq hp hc hpt).1 hinit hopt
  exact ⟨Spec.descent_iff.1 h1, Spec.descent_iff.1 h2, x, hv, hx, h5⟩

/-- `golden_descent` for the objective of the harness searched along a coordinate whose parameter has
**any constraint** and either dynamic type, under any policy (precision 0, feasible starting value):
with `κ x` = what `setValue(x)` stores in the parameter (`x` itself when accepted, the auto-corrected
value otherwise), the value returned is not above the objective at `κ` of either end of the initial
interval, and it is the objective at what the optimiser's parameter holds. -/
theorem golden_descent_objective_con (obj : List ℝ → ℝ) (D : Deriv ℝ) (cap : Option Nat) (pt0 : List ℝ) (k : Nat) (hk : k < pt0.length)
    (q : NP ℝ) (hq : q.name = k) (hp : q.p.precision = 0) (hi : q.p.invOk = true)
    (fuel fuel' : Nat) (s s1 s2 : St (Fn ℝ) (Gss ℝ) ℝ) (v : ℝ) (hpt : s.fn.point = pt0)
    (hinit : (gssAlgo (Fn.iface obj D cap) fuel).init s [q] = .ok s1)
    (hopt : gssOptimize (Fn.iface obj D cap) fuel' s1 = .ok (s2, v)) :
    ∃ p0 : Param ℝ, applyPolicy s.core.policy [q] = [⟨k, p0⟩] ∧
      v ≤ obj (pt0.set k (corr p0 s.ext.xinf)) ∧ v ≤ obj (pt0.set k (corr p0 s.ext.xsup)) ∧
      ∃ x, value0 s2.core.params = some x ∧ v = obj (pt0.set k x) ∧ s2.core.cur = v := by
  obtain ⟨p0, hap, hp0, hi0, hJ, -, -⟩ := alongP_start s.core.policy hk hq hp hi hpt
  obtain ⟨h1, h2, -, -, h5, x, hvx, hxs, hJ2⟩ :=
    golden_descent _ _ (objective_det_con obj D cap pt0 k p0 hp0 hi0) fuel fuel' s s1 s2 [q] v hJ hinit hopt
  exact ⟨p0, hap, Spec.descent_iff.1 h1, Spec.descent_iff.1 h2, x, hxs, by rw [hvx, hJ2.corr_held hp0 hi0 hxs], h5⟩

/-- non-vacuity of `golden_interval_invariant`'s hypothesis `Gss.Ordered` -/
example : (Gss.Ordered (⟨0, 0, 0, 1, 2, 3, 0, 3⟩ : Gss ℝ)) := Or.inl ⟨by norm_num, by norm_num, by norm_num⟩

end Bpp.C10
