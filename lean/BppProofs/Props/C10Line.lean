import BppProofs.Lemmas.OptimLineOpt
/-!
# C10, part 10 — searching along a direction, and the optimisers built on it, in full

`DirectionFunction`, `OneDimensionOptimizationTools::lineMinimization` (Brent's method along a
direction) and `lineSearch` (Newton backtracking along a direction), `PowellMultiDimensions`,
`ConjugateGradientMultiDimensions`, `BfgsMultiDimensions` — model in `BppModel/OptimLine.lean` — on the
objective of the harness: any objective `obj : List ℝ → ℝ`, any derivatives `D` (they are *not* assumed
to be the derivatives of `obj`), any dimension, any subset of the function's parameters in any order, any
constraints (interval or none), the three constraint policies, any tolerance / cap / number of steps.
Over `ℝ`.

Hypotheses on the list given to `init` (what `ParameterList` and the harness guarantee): precision 0
and feasible values (`Good`), distinct names that are parameters of the function.
-/
namespace Bpp.C10
open Bpp Bpp.Optim

/-- **line_minimization_descent**.  `lineMinimization` (Brent's method on a `DirectionFunction`, from
the initial interval `[0, 0.01]`) returns the caller's parameters up to feasible values, leaves the
function at them, and the objective there is not above the objective at the parameters the search
started from: the `DirectionFunction` computes a function of the abscissa only (`dirfn_det`), Brent's
method never loses its initial guess (the abscissa 0, where that function is the objective at the
caller's parameters), and the caller's parameters end where the `DirectionFunction`'s auto-correcting
copies were for the abscissa found (`moveAlong_spec`). -/
theorem line_minimization_descent (obj : List ℝ → ℝ) (D : Deriv ℝ) (cap : Option Nat) (fuel : Nat) (fn fn' : Fn ℝ)
    (parameters pl : PList ℝ) (xi xi' : List ℝ) (k : Nat) (hg : Good parameters)
    (h : lineMinimization (Fn.iface obj D cap) fuel fn parameters xi = .ok (fn', pl, xi', k)) :
    Like parameters pl ∧ fn'.point = matchPoint fn.point pl ∧
    Spec.descent (obj fn'.point) (obj (matchPoint fn.point parameters)) = true := by
  obtain ⟨a, b, c⟩ := lineMinimization_spec obj D cap fuel fn fn' parameters pl xi xi' k hg h
  exact ⟨a, b, Spec.descent_iff.2 c⟩

/-- **line_search_state**.  `lineSearch` (Newton backtracking on a `DirectionFunction`) returns the
caller's parameters up to feasible values and leaves the function at them.  It makes no promise about
the value (it may end on its last trial, and for a positive slope its acceptance test accepts an
increase): `BfgsMultiDimensions::doStep` compares the value itself. -/
theorem line_search_state (obj : List ℝ → ℝ) (D : Deriv ℝ) (cap : Option Nat) (fuel : Nat) (fn fn' : Fn ℝ)
    (parameters pl : PList ℝ) (xi gradient xi' : List ℝ) (k : Nat) (hg : Good parameters)
    (h : lineSearch (Fn.iface obj D cap) fuel fn parameters xi gradient = .ok (fn', pl, xi', k)) :
    Like parameters pl ∧ fn'.point = matchPoint fn.point pl :=
  lineSearch_spec obj D cap fuel fn fn' parameters pl xi gradient xi' k hg h

/-- **line_search_descent** (conditional).  When the slope `xi · gradient` handed to the Newton
backtracking search is `≤ 0` and the search ends with its tolerance flag set (a trial was accepted, or it
gave up and went back to the step length 0), `lineSearch` leaves the function at a point where the
objective is not above the objective at the parameters the search started from.  Neither hypothesis can
be dropped: stopped by its cap of 10000 steps the search reports its last, rejected, trial; for a
positive slope the acceptance test `f ≤ fold + 1e-4 λ slope` accepts an increase (`BfgsExample`). -/
theorem line_search_descent (obj : List ℝ → ℝ) (D : Deriv ℝ) (cap : Option Nat) (fuel : Nat) (fn fn' : Fn ℝ)
    (parameters pl : PList ℝ) (xi gradient xi' : List ℝ) (k : Nat) (hg : Good parameters)
    (hslope : dotFrom (0 : ℝ) xi gradient ≤ 0)
    (h : lineSearch (Fn.iface obj D cap) fuel fn parameters xi gradient = .ok (fn', pl, xi', k))
    (htol : ∀ nb nb2 v,
      (nbackAlgo (DirFn.iface (Fn.iface obj D cap))).init
        (lineNBack (DirFn.init fn .auto parameters xi) (dotFrom Scalar.zero xi gradient) (lsTest Scalar.zero parameters xi)) xParam = .ok nb →
      (nbackAlgo (DirFn.iface (Fn.iface obj D cap))).optimize fuel nb = .ok (nb2, v) → nb2.core.tol = true) :
    Spec.descent (obj fn'.point) (obj (matchPoint fn.point parameters)) = true :=
  Spec.descent_iff.2 (lineSearch_descent obj D cap fuel fn fn' parameters pl xi gradient xi' k hg hslope h htol)

/-- **powell_step_descent**.  A `PowellMultiDimensions::doStep` from a state that satisfies the
invariant of a run returns `fret_`, which it has not increased: every line minimisation and the
evaluation that follows it end no higher than they began, so the `throw` "line minimization failed"
plays no role. -/
theorem powell_step_descent (obj : List ℝ → ℝ) (D : Deriv ℝ) (cap : Option Nat) (fuel : Nat) (B : ℝ) (pt0 : List ℝ)
    (ns : List Nat) (s s' : St (Fn ℝ) (Powell ℝ) ℝ) (v : ℝ) (hi : Powell.Inv obj B pt0 ns s)
    (h : powellDoStep (Fn.iface obj D cap) fuel s = .ok (s', v)) :
    Spec.descent v s.ext.fret = true ∧ s'.ext.fret = v ∧ Powell.Base obj pt0 ns s' := by
  obtain ⟨a, b, c, -⟩ := powellDoStep_spec obj D cap pt0 ns fuel s s' v hi.base h
  exact ⟨Spec.descent_iff.2 c, b.symm, a⟩

/-- **powell_step_consistent** (the repaired `doStep`).  After *every* step the function is at the
optimiser's parameters and the value the step returns is the objective there — so
`getFunction()->getValue()` after a `step()`, which is what a `MetaOptimizer` holding a Powell optimiser in
step mode returns, is the objective at the reported parameters.  (Before the repair the branch
"extrapolated point better, direction set kept" left the function at the extrapolated point.) -/
theorem powell_step_consistent (obj : List ℝ → ℝ) (D : Deriv ℝ) (cap : Option Nat) (fuel : Nat) (B : ℝ) (pt0 : List ℝ)
    (ns : List Nat) (s s' : St (Fn ℝ) (Powell ℝ) ℝ) (v : ℝ) (hi : Powell.Inv obj B pt0 ns s)
    (h : powellDoStep (Fn.iface obj D cap) fuel s = .ok (s', v)) :
    s'.fn.point = matchPoint pt0 s'.core.params ∧ Spec.consistent obj v s'.fn.point = true ∧
    (Fn.iface obj D cap).value s'.fn = v := by
  obtain ⟨a, b, -, hat⟩ := powellDoStep_spec obj D cap pt0 ns fuel s s' v hi.base h
  have hv : v = obj s'.fn.point := by rw [b, a.fret, hat]
  exact ⟨hat, Spec.consistent_iff.2 hv, hv.symm⟩

/-- **powell_descent** (with `reported_value_consistent` and `Spec.stateAt`).  After `init` and
`optimize`:
* the value returned is not above the objective at the starting point (the function's point with the
  values of `init`'s list written into it);
* it is the objective at the point the function has been left at (`optimize` ends on an evaluation at
  the optimiser's parameters), that point holds the values the optimiser reports, and it is the
  optimiser's current value. -/
theorem powell_descent (obj : List ℝ → ℝ) (D : Deriv ℝ) (cap : Option Nat) (fuel fuel' : Nat)
    (s s1 s2 : St (Fn ℝ) (Powell ℝ) ℝ) (params : PList ℝ) (v : ℝ)
    (hgood : Good params) (hnd : (names params).Nodup) (hlt : ∀ n ∈ names params, n < s.fn.point.length)
    (hinit : (powellAlgo (Fn.iface obj D cap) fuel).init s params = .ok s1)
    (hopt : powellOptimize (Fn.iface obj D cap) fuel' s1 = .ok (s2, v)) :
    Spec.descent v (obj (matchPoint s.fn.point params)) = true ∧
    Spec.consistent obj v s2.fn.point = true ∧
    Spec.stateAt s2.fn.point (names s2.core.params) (values s2.core.params) = true ∧
    s2.core.cur = v := by
  have hi := powell_init_spec obj D cap fuel s s1 params hgood hinit
  obtain ⟨a, b, c, d, e, -⟩ := powellOptimize_spec obj D cap _ _ _ fuel' s1 s2 v hi hopt
  exact ⟨Spec.descent_iff.2 a, Spec.consistent_iff.2 b, (sync_of_matchPoint s2.fn s.fn.point s2.core.params c (by rw [e]; exact hnd)
    (fun q hq => hlt _ (by rw [← e]; exact mem_names hq))).stateAt, d⟩

/-- **cg_descent** (with `reported_value_consistent` and `Spec.stateAt`): the same for
`ConjugateGradientMultiDimensions` — `doInit` sets the function to the list given to `init`, every step
is a line minimisation followed by an evaluation at the parameters it returns. -/
theorem cg_descent (obj : List ℝ → ℝ) (D : Deriv ℝ) (cap : Option Nat) (fuel fuel' : Nat)
    (s s1 s2 : St (Fn ℝ) (Cg ℝ) ℝ) (params : PList ℝ) (v : ℝ)
    (hgood : Good params) (hnd : (names params).Nodup) (hlt : ∀ n ∈ names params, n < s.fn.point.length)
    (hinit : (cgAlgo (Fn.iface obj D cap) fuel).init s params = .ok s1)
    (hopt : (cgAlgo (Fn.iface obj D cap) fuel).optimize fuel' s1 = .ok (s2, v)) :
    Spec.descent v (obj (matchPoint s.fn.point params)) = true ∧
    Spec.consistent obj v s2.fn.point = true ∧
    Spec.stateAt s2.fn.point (names s2.core.params) (values s2.core.params) = true ∧
    s2.core.cur = v := by
  obtain ⟨hi, -⟩ := cg_init_spec obj D cap fuel s s1 params hgood ⟨hnd, hlt⟩ hinit
  obtain ⟨h2, hcur⟩ := multi_optimize_spec obj (cgAlgo (Fn.iface obj D cap) fuel) rfl _ _ _
    (fun u u' w hu _ h => cgDoStep_spec obj D cap _ _ ⟨hnd, hlt⟩ fuel u u' w hu h) fuel' s1 s2 v hi hopt
  exact h2.report obj hcur

/-- **bfgs_step_descent**.  A `BfgsMultiDimensions::doStep` (repaired) from a state in which the
optimiser's parameters are good, named `ns`, held by the function, and the current value is the objective
there: the same holds afterwards, the value returned is the objective at the point the function is left
at, and it is not above the optimiser's current value.  A trial that ends higher (possible when the
direction clipped to the bounds is not a descent direction) is given up: the step sets the parameters
back to the values it started from, evaluates there and sets the tolerance flag. -/
theorem bfgs_step_descent (obj : List ℝ → ℝ) (D : Deriv ℝ) (cap : Option Nat) (fuel : Nat) (len : Nat)
    (ns : List Nat) (hns : ns.Nodup ∧ ∀ n ∈ ns, n < len) (s s' : St (Fn ℝ) (Bfgs ℝ) ℝ) (v : ℝ)
    (hi : Coord.Inv len ns s) (hcur : s.core.cur = obj s.fn.point)
    (h : bfgsDoStep (Fn.iface obj D cap) fuel s = .ok (s', v)) :
    Coord.Inv len ns s' ∧ v = obj s'.fn.point ∧ Spec.descent v s.core.cur = true := by
  obtain ⟨a, b, c, -⟩ := bfgsDoStep_spec obj D cap len ns hns fuel s s' v hi hcur h
  exact ⟨a, b, Spec.descent_iff.2 c⟩

/-- **bfgs_descent** (with `reported_value_consistent` and `Spec.stateAt`): the same as `cg_descent`
for `BfgsMultiDimensions` — `doInit` sets the function to the list given to `init`, every step is a line
search followed by an evaluation at the parameters it returns, and a step that ends above the current
value goes back to where it started (`bfgs_step_descent`).

Before the repair (findings/C10.json, corpus/C10/bfgs_increase.txt) this was false: a step that
increased the function printed "!!! Function increase !!!", set the tolerance flag and *returned the
higher value*, so the run ended on the worse point.  The direction `-H g` is clipped to the bounds by
`setDirection` — for a parameter within `TINY` of a bound the component is replaced by `bound - p`,
whatever its sign —, which can turn a descent direction into an ascent direction (slope `xi · g > 0`), and
the Newton backtracking search then accepts a trial with `fold < f ≤ fold + 1e-4 · λ · slope`.  The input
that showed it (`Bpp.Optim.BfgsExample`: `x0 ∈ [0, 10]` at `10`, `x1` free at `0`, the objective
`-10⁶ (x0 - 10) + 5·10⁻⁴ x1 - 2.9998 x1²`) now ends back at its starting point: see the `example` below. -/
theorem bfgs_descent (obj : List ℝ → ℝ) (D : Deriv ℝ) (cap : Option Nat) (fuel fuel' : Nat)
    (s s1 s2 : St (Fn ℝ) (Bfgs ℝ) ℝ) (params : PList ℝ) (v : ℝ)
    (hgood : Good params) (hnd : (names params).Nodup) (hlt : ∀ n ∈ names params, n < s.fn.point.length)
    (hinit : (bfgsAlgo (Fn.iface obj D cap) fuel).init s params = .ok s1)
    (hopt : (bfgsAlgo (Fn.iface obj D cap) fuel).optimize fuel' s1 = .ok (s2, v)) :
    Spec.descent v (obj (matchPoint s.fn.point params)) = true ∧
    Spec.consistent obj v s2.fn.point = true ∧
    Spec.stateAt s2.fn.point (names s2.core.params) (values s2.core.params) = true ∧
    s2.core.cur = v := by
  obtain ⟨hi, -⟩ := bfgs_init_spec obj D cap fuel s s1 params hgood ⟨hnd, hlt⟩ hinit
  obtain ⟨h2, hcur⟩ := bfgs_optimize_spec obj D cap _ _ _ ⟨hnd, hlt⟩ fuel fuel' s1 s2 v hi hopt
  exact h2.report obj hcur

/-- non-vacuity: a list as the harness builds them (an interval constraint on the first parameter,
none on the second) satisfies the hypotheses of the theorems above -/
example : let c : Interval ℝ := ⟨.fin 0, .fin 10, true, true, 0⟩
    let params : PList ℝ := [⟨0, ⟨4, 0, some c, false⟩⟩, ⟨1, ⟨-2, 0, none, false⟩⟩]
    Good params ∧ (names params).Nodup ∧ ∀ n ∈ names params, n < ([4, -2] : List ℝ).length := by
  intro c params
  refine ⟨?_, by simp [params, names], by simp [params, names]⟩
  intro q hq
  simp only [params, List.mem_cons, List.not_mem_nil, or_false] at hq
  rcases hq with rfl | rfl
  · exact ⟨rfl, closed_isCorrect (by norm_num) (by norm_num)⟩
  · exact ⟨rfl, rfl⟩

/-- the input on which BFGS used to end above its starting value (see `bfgs_descent`): on the same
program text in exact rational arithmetic, from a feasible list, `init` and `optimize` return, the
increase is seen (the tolerance flag is set), and the run ends back at the starting point with a value
not above the starting value -/
example : BfgsExample.backAtStart = true := BfgsExample.backAtStart_true

end Bpp.C10
