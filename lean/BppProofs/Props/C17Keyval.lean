import BppProofs.Lemmas.Keyval
/-!
# C17 — key-value procedures: render → parse gives back name and map; substitution is exact

Model: `BppModel/Text/Keyval.lean` (KeyvalTools::singleKeyval / multipleKeyvals / changeKeyvals /
parseProcedure with the non-solid StringTokenizer / NestedStringTokenizer).
`render name [(k1,v1),…] = name(k1=v1,…)`.  Side conditions (all decidable, `Keyval.NameOk`,
`Keyval.PairOk`): the name has no parenthesis and no leading white space; keys have none of
`, = ( )` and no surrounding white space; values have no surrounding white space and every comma of
a value is inside balanced parentheses — any nesting depth, which contains the property's "one
nesting level"; a pair is not (empty key, empty value).  Any number of arguments.
-/
namespace Bpp.C17
open Bpp.Text Bpp.Text.Keyval

/-- **parse ∘ render = id** on procedures: the name and the argument map come back -/
theorem parse_render (name : Str) (kvs : List (Str × Str))
    (hn : NameOk name = true) (hk : kvs.all PairOk = true) :
    parseProcedure (render name kvs) = some (name, mapOfList kvs) := by
  obtain ⟨ht, hm⟩ := tokens_renderArgs kvs hk
  unfold parseProcedure
  rw [splitProcedure_render name kvs hn]
  simp only [multipleKeyvals, ht, hm]
  rw [foldlM_tokens kvs hk]
  rfl

/-- a procedure without parentheses is its own name, with no arguments -/
theorem parse_bare_name (name : Str) (h : name.all (fun c => c != '(' && c != ')') = true) :
    parseProcedure name = some (name, []) := by
  have hh : ∀ a ∈ name, a ≠ '(' ∧ a ≠ ')' := by
    intro a ha
    have := (List.all_eq_true.mp h) a ha
    simpa using this
  unfold parseProcedure
  rw [splitProcedure_bare name hh]

/-- the map that comes back answers lookups like the argument list (last binding wins) -/
theorem mapFind_insert (k k' v : Str) (m : Map) :
    mapFind k' (mapInsert k v m) = if k' = k then some v else mapFind k' m :=
  mapFind_mapInsert k k' v m

/-! ## substitution -/

/-- **substituting arguments changes exactly the named ones**: the result is the rendering of the
same name with the same keys in the same order, the value replaced where (and only where) the key
is in `newkv`; the new values are arbitrary strings -/
theorem changeKeyvals_exact (name : Str) (kvs : List (Str × Str)) (newkv : Map)
    (hn : NameOk name = true) (hk : kvs.all PairOk = true) :
    changeKeyvals (render name kvs) newkv [','] true = some (render name (substArgs newkv kvs)) := by
  obtain ⟨ht, hm⟩ := tokens_renderArgs kvs hk
  unfold changeKeyvals
  rw [splitProcedure_render name kvs hn]
  simp only [ht, hm]
  rw [foldlM_change newkv kvs hk true]
  exact congrArg (fun t => some (t ++ [')'])) (List.append_assoc name ['('] _)

/-- reading back after a substitution: the same name, and the map of the substituted list
(when the substituted pairs still satisfy the side conditions) -/
theorem parse_after_change (name : Str) (kvs : List (Str × Str)) (newkv : Map)
    (hn : NameOk name = true) (hk : kvs.all PairOk = true)
    (hk' : (substArgs newkv kvs).all PairOk = true) :
    (changeKeyvals (render name kvs) newkv [','] true).bind parseProcedure
      = some (name, mapOfList (substArgs newkv kvs)) := by
  rw [changeKeyvals_exact name kvs newkv hn hk]
  exact parse_render name _ hn hk'

/-! ## the nested tokenizer -/

/-- **nested tokenising never splits inside balanced brackets**: whenever
`NestedStringTokenizer(s, "(", ")", delimiters)` (non-solid) returns, every token is non-empty, has
as many `(` as `)`, and every delimiter character it contains is inside brackets — a cut is made only
where the bracket count is 0.  For every input and every delimiter set without brackets. -/
theorem nested_balanced (isD : Char → Bool) (hbr : ∀ c, isD c = true → delta c = 0) (s : Str)
    (toks : List Str) (h : nested isD false 0 s = some toks) :
    ∀ t ∈ toks, depthSum t = 0 ∧ delimsInside isD 0 t = true ∧ t ≠ [] :=
  (nested_spec isD hbr s).1 0 toks h

/-- non-vacuity: a nested value with commas and an `=` inside satisfies the side conditions -/
example : NameOk "Gamma".toList = true ∧
    PairOk ("alpha".toList, "Beta(a=1,b=g(x=2,y=3))".toList) = true ∧ PairOk ([], "z".toList) = true := by
  -- the literal as a list of characters first: the kernel is slow at decoding a string literal
  repeat rw [String.toList_ofList]
  decide +kernel

end Bpp.C17
