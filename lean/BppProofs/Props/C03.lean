import BppProofs.Lemmas.AliasKeepSync
/-!
# C03 — aliased parameters track their source through every update, copy and renaming
(src/Bpp/Numeric/AbstractParameterAliasable.{h,cpp}, ParameterAliasable.h, Parameter.{h,cpp})

The property theorems with the steps of their proofs that are specific to one clause (here `refuse_clause`);
helper lemmas are in `Lemmas/Alias*.lean`.  The model
(`BppModel/Alias.lean`) is a world of parameter objects, listener objects and owner objects;
`step` interprets one operation, `run` a history.
-/
namespace Bpp.C03
open Bpp Bpp.Alias
open Bpp.ParamList (Bnd Con Par Store ObjId nameOf find? hasParameter names)

/-- three unconstrained parameters a = 1, b = 2, c = 3 in slot 0, empty namespace -/
def abc : World :=
  run World.init [.new 0 "", .add 0 ⟨"a", 1, none⟩, .add 0 ⟨"b", 2, none⟩, .add 0 ⟨"c", 3, none⟩]

/-! ## alias_tracks — every update that changes A leaves B equal to A

Stated for *every* world (any wiring of listeners, reachable or not).  `l ∈ w.lsn a` with
`tgt w l = some b` is "a listener attached to parameter object `a` writes to parameter object
`b`", i.e. "`b` follows `a`" (what `aliasParameters(A, B)` installs: `alias_installs_link`). -/

/-- **alias_tracks, direct link**: after `setParameterValue(n, v)` returned, every parameter
object `a` whose value changed — the named one or any one reached through listeners — is
equalled by every parameter `b` that follows it. -/
theorem alias_tracks_direct (w : World) (k : Nat) (n : String) (v : Rat)
    (ok : (apSetParameterValue w k n v).err = none) {a b : ObjId} {l : Nat}
    (hl : l ∈ w.lsn a) (ht : tgt w l = some b)
    (changed : val (apSetParameterValue w k n v).w a ≠ val w a) :
    val (apSetParameterValue w k n v).w b = val (apSetParameterValue w k n v).w a := by
  simp only [apSetParameterValue, setParameterValue] at ok changed ⊢
  split at ok
  · cases ok
  · split at ok
    · cases ok
    · rename_i o _ i _
      simp only [*] at changed ⊢
      exact (setValue_step w i v ok).1.tracks_direct hl ht changed

/-- **alias_tracks, chains of any length**: `b` follows `a` through `x` and then through any
number of links each of which was in sync (both ends equal) before the call.

The literal clause ("… or through a chain … leaves B equal to A") without the sync hypothesis is
false of the code, and not by a defect that a small repair removes: an aliased parameter stays
writable by name, and `setValue` propagates only when the value changes
(`chain_needs_sync_witness`). -/
theorem alias_tracks_chain (w : World) (k : Nat) (n : String) (v : Rat)
    (ok : (apSetParameterValue w k n v).err = none) {a x b : ObjId} {l : Nat}
    (hl : l ∈ w.lsn a) (ht : tgt w l = some x) (p : SyncPath w x b)
    (changed : val (apSetParameterValue w k n v).w a ≠ val w a) :
    val (apSetParameterValue w k n v).w b = val (apSetParameterValue w k n v).w a := by
  simp only [apSetParameterValue, setParameterValue] at ok changed ⊢
  split at ok
  · cases ok
  · split at ok
    · cases ok
    · rename_i o _ i _
      simp only [*] at changed ⊢
      exact (setValue_step w i v ok).1.tracks_chain hl ht p changed

/-- **the clause evaluated on the implementation**: `Alias.tracksOk` — the executable form of the two
theorems above on the observable views (names, values, links probed through
`hasParameterListener`), which the driver evaluates on the implementation's answers — holds of
the model for every `setParameterValue` that returns in a reachable world. -/
theorem alias_tracks_clause (ops : List Op) (hw : WfRun World.init ops) (k : Nat) (o : Obj)
    (ho : (run World.init ops).objs k = some o) (n : String) (v : Rat)
    (ok : (apSetParameterValue (run World.init ops) k n v).err = none) :
    tracksOk (svOf (run World.init ops) o) (svOf (apSetParameterValue (run World.init ops) k n v).w o) = true :=
  tracksOk_setv (inv_run ops inv_init hw) ho n v ok

/-- non-vacuity: c follows b follows a, all in sync; `setParameterValue("a", 7)` gives 7, 7, 7 -/
example :
    let w := run abc [.alias 0 "a" "b", .alias 0 "b" "c", .setv 0 "a" 5]
    let w' := run w [.setv 0 "a" 7]
    (val w 0, val w 1, val w 2) = (5, 5, 5) ∧ (val w' 0, val w' 1, val w' 2) = (7, 7, 7) := by decide +kernel

/-- the literal chain clause fails when a lower link is out of sync: a = 5, b = 7, c = 1, c follows
b follows a; `setParameterValue("a", 7)` changes a, leaves b (already 7) alone, and c stays 1 -/
theorem chain_needs_sync_witness :
    let w := run World.init [.new 0 "", .add 0 ⟨"a", 5, none⟩, .add 0 ⟨"b", 7, none⟩, .add 0 ⟨"c", 1, none⟩,
      .alias 0 "a" "b", .alias 0 "b" "c"]
    let w' := run w [.setv 0 "a" 7]
    (val w' 0, val w' 1, val w' 2) = (7, 7, 1) := by decide +kernel

/-- `Parameter::setValue` re-enters itself through the listeners; it returns for every wiring
(cycles included): the model's fuel is never exhausted. -/
theorem set_value_terminates (w : World) (i : ObjId) (v : Rat) (pv : ParamsValid w) (hi : i < w.heap.next) :
    (setValue w i v).err ≠ some .hang := setValue_no_hang w i v pv hi

/-! ## alias_constraints -/

/-- **alias_constraints**: the constraints `aliasParameters(p1, p2)` leaves (`aliasConSpec`, the
function the driver compares the implementation's constraints with): a common value accepted
after the call satisfies the constraints both parameters had; when both were constrained they
share the intersection, which accepts exactly the values both accepted. -/
theorem alias_constraints (c1 c2 : Option Con) (v : Rat) :
    (accOpt (aliasConSpec c1 c2).1 v = true ∧ accOpt (aliasConSpec c1 c2).2 v = true →
      accOpt c1 v = true ∧ accOpt c2 v = true) ∧
    (c1.isSome = true → c2.isSome = true →
      (aliasConSpec c1 c2).1 = (aliasConSpec c1 c2).2 ∧
      (accOpt (aliasConSpec c1 c2).1 v = true ↔ accOpt c1 v = true ∧ accOpt c2 v = true)) := by
  refine ⟨(aliasConSpec_sem c1 c2 v).1, fun h1 h2 => ⟨?_, ?_⟩⟩
  · cases c1 <;> cases c2 <;> simp_all [aliasConSpec]
    split <;> simp_all
  · rw [((aliasConSpec_sem c1 c2 v).2 h1 h2).1]; simp

/-- **alias_constraints, what the call does**: when `aliasParameters(p1, p2)` returns in a reachable
world, the two parameters end with the constraints `aliasConSpec` computes from the ones they had
(none/none untouched; the unconstrained one takes the other's; two different ones are both replaced
by the intersection), and no other parameter object is touched. -/
theorem alias_constraints_effect {w : World} (h : Inv w) {k : Nat} {o : Obj} (ho : w.objs k = some o) {p1 p2 : String}
    (ok : (aliasPair w k p1 p2).err = none) :
    ∃ i1 i2, find? w.heap o.params (o.pre ++ p1) = some i1 ∧ find? w.heap o.params (o.pre ++ p2) = some i2 ∧ i1 ≠ i2 ∧
      ((aliasPair w k p1 p2).w.heap.get i1).con = (aliasConSpec (w.heap.get i1).con (w.heap.get i2).con).1 ∧
      ((aliasPair w k p1 p2).w.heap.get i2).con = (aliasConSpec (w.heap.get i1).con (w.heap.get i2).con).2 ∧
      ∀ j, j ≠ i1 → j ≠ i2 → (aliasPair w k p1 p2).w.heap.get j = w.heap.get j := by
  obtain ⟨dn⟩ := aliasPair_done (h.obj k o ho) ho ok
  exact ⟨dn.i1, dn.i2, dn.find1 (h.obj k o ho), dn.find2 (h.obj k o ho), dn.ne, dn.con⟩

/-- **the common value always satisfies the constraints both parameters had**: along every
well-formed history (any continuation `more` of any reachable world) every parameter object
satisfies its own constraint, and constraints never widen — so the value a parameter holds at any
later time is accepted by every constraint it (and, when they are equal, the parameter it follows)
ever had. -/
theorem values_satisfy_constraints (ops more : List Op) (hw : WfRun World.init (ops ++ more))
    (i : ObjId) (hi : i < (run World.init ops).heap.next) :
    accOpt ((run World.init ops).heap.get i).con (val (run World.init (ops ++ more)) i) = true := by
  have hrun : ∀ (a b : List Op) (w : World), run w (a ++ b) = run (run w a) b := by
    intro a; induction a with
    | nil => intro b w; rfl
    | cons x t ih => intro b w; exact ih b _
  have hwf : ∀ (a b : List Op) (w : World), WfRun w (a ++ b) → WfRun w a ∧ WfRun (run w a) b := by
    intro a; induction a with
    | nil => intro b w h; exact ⟨trivial, h⟩
    | cons x t ih => intro b w h; exact ⟨⟨h.1, (ih b _ h.2).1⟩, (ih b _ h.2).2⟩
  have hall := heapOk_run (ops ++ more) inv_init hw (fun j hj => absurd hj (Nat.not_lt_zero _))
  have hnar := narrow_run more (inv_run ops inv_init (hwf ops more _ hw).1) (hwf ops more _ hw).2
  rw [hrun] at hall ⊢
  have hlt : i < (run (run World.init ops) more).heap.next := Nat.lt_of_lt_of_le hi hnar.1
  apply hnar.2 i hi
  have := hall i hlt
  simp only [Par.ok, Par.rejects] at this
  simp only [accOpt, val]
  cases hc : ((run (run World.init ops) more).heap.get i).con with
  | none => rfl
  | some c => rw [hc] at this; simpa using this

/-- non-vacuity: `[0,2] ∩ ]1,3]` -/
example : aliasConSpec (some ⟨.fin 0, .fin 2, true, true⟩) (some ⟨.fin 1, .fin 3, false, true⟩)
    = (some ⟨.fin 1, .fin 2, false, true⟩, some ⟨.fin 1, .fin 2, false, true⟩) := by decide

/-! ## Reachable worlds

`WfRun w ops`: every `add` of the history names its parameter `<namespace of the owner><x>` with
`x` not empty and free of underscores (the listener ids `__alias_<y>_to_<x>` are then injective).
`Inv`: every object's parameters are allocated and named apart; the independent parameters are
exactly the parameters no registered listener writes to; every registered listener is attached
to the parameter its `from_` names, points at its own owner, at the position and under the name
of its target; every attached listener is registered; a parameter follows at most one parameter;
following is acyclic; parameter objects of different owners are disjoint. -/

/-- the invariant holds after every well-formed history of new / add / alias / unalias / bulk alias /
set by name / bulk set / match / set all / copy-construct / assign / setNamespace / queries,
interleaved arbitrarily, raising operations included (any length, any number of parameters) -/
theorem inv_reachable (ops : List Op) (hw : WfRun World.init ops) : Inv (run World.init ops) :=
  inv_run ops inv_init hw

/-- non-vacuity: a well-formed history mixing the operation kinds -/
example : WfRun World.init [.new 0 "m.", .add 0 ⟨"m.a", 1, none⟩, .add 0 ⟨"m.b", 2, none⟩, .alias 0 "a" "b",
    .copy 0 1, .ns 1 "", .setv 1 "a" 5, .unalias 0 "a" "b"] := by
  refine ⟨trivial, ?_, ?_, trivial, trivial, trivial, trivial, trivial, trivial⟩
  · intro o ho
    refine ⟨"a", ?_, by decide, by decide⟩
    have : o.pre = "m." := by simp [step, newObj, World.setObj, World.init] at ho; rw [← ho]
    rw [this]; decide
  · intro o ho
    refine ⟨"b", ?_, by decide, by decide⟩
    have : o.pre = "m." := by
      have h0 : ((step (step World.init (.new 0 "m.")).1 (.add 0 ⟨"m.a", 1, none⟩)).1.objs 0).map (·.pre) = some "m." := by decide
      rw [ho] at h0; simpa using h0
    rw [this]; decide

/-- **alias_tracks for reachable worlds, by names**: in every reachable world, for every registered
link "`y` follows `x`" of the object in slot `k` (`e ∈ o.reg`; `s`, `t` the two parameter objects),
`setParameterValue(n, v)` that returns and changes `s` leaves `t` equal to `s`. -/
theorem alias_tracks_registered (ops : List Op) (hw : WfRun World.init ops) (k : Nat) (o : Obj)
    (ho : (run World.init ops).objs k = some o) (e : String × Nat) (he : e ∈ o.reg) (n : String) (v : Rat)
    (ok : (apSetParameterValue (run World.init ops) k n v).err = none) :
    ∃ s t y, s ∈ o.params ∧ t ∈ o.params ∧
      nameOf (run World.init ops).heap s = o.pre ++ ((run World.init ops).lis e.2).src ∧
      nameOf (run World.init ops).heap t = o.pre ++ y ∧ e.1 = aliasId ((run World.init ops).lis e.2).src y ∧
      (val (apSetParameterValue (run World.init ops) k n v).w s ≠ val (run World.init ops) s →
        val (apSetParameterValue (run World.init ops) k n v).w t = val (apSetParameterValue (run World.init ops) k n v).w s) := by
  have hi := (inv_reachable ops hw).obj k o ho
  obtain ⟨s, t, y, hs, ht, hsn, htn, hid, hsl, htg⟩ := hi.entry_wired ho he
  exact ⟨s, t, y, hs, ht, hsn, htn, hid, fun hc => alias_tracks_direct _ k n v ok hsl htg hc⟩

/-- **what `aliasParameters(p1, p2)` installs** (reachable worlds): when it returns, the parameter
named `p1` carries a listener that writes to the parameter named `p2`; `p2` has left the
independent list (**alias_not_independent**), all other independent parameters stay, in order;
no value changed. -/
theorem alias_installs_link {w : World} (h : Inv w) {k : Nat} {o : Obj} (ho : w.objs k = some o) {p1 p2 : String}
    (ok : (aliasPair w k p1 p2).err = none) :
    ∃ i1 i2 l o', find? w.heap o.params (o.pre ++ p1) = some i1 ∧ find? w.heap o.params (o.pre ++ p2) = some i2 ∧
      (aliasPair w k p1 p2).w.objs k = some o' ∧ o'.params = o.params ∧
      l ∈ (aliasPair w k p1 p2).w.lsn i1 ∧ tgt (aliasPair w k p1 p2).w l = some i2 ∧
      i2 ∈ o.indep ∧ o'.indep = o.indep.erase i2 ∧ i2 ∉ o'.indep ∧
      (∀ j, val (aliasPair w k p1 p2).w j = val w j) := by
  have hi := h.obj k o ho
  obtain ⟨dn⟩ := aliasPair_done hi ho ok
  exact ⟨dn.i1, dn.i2, w.lnext, _, dn.find1 hi, dn.find2 hi, dn.objs, rfl, dn.wired.1, dn.wired.2, dn.hind, rfl,
    fun hm => (hi.indepNodup.mem_erase_iff.1 hm).1 rfl, dn.val⟩

/-- **alias_not_independent, invariant form**: in every reachable world the independent parameters
of an object are exactly its parameters that no registered listener writes to (each once, and they
*are* the owner's parameter objects, not copies) -/
theorem indep_exact (ops : List Op) (hw : WfRun World.init ops) (k : Nat) (o : Obj)
    (ho : (run World.init ops).objs k = some o) :
    o.indep.Nodup ∧ (∀ i ∈ o.indep, i ∈ o.params) ∧
    ∀ i ∈ o.params, (i ∈ o.indep ↔ ¬ ∃ e ∈ o.reg, o.params[((run World.init ops).lis e.2).alias]? = some i) :=
  let hi := (inv_reachable ops hw).obj k o ho
  ⟨hi.indepNodup, hi.indepSub, hi.indepIff⟩

/-! ### chains of any length along histories: links in sync stay in sync

`AllSynced w o`: both ends of every registered link of the object hold the same value.  An update
that names independent parameters only — `setParameterValue` of an independent parameter,
`setParametersValues` / `matchParametersValues` with such a source — keeps every link in sync,
whatever the shape of the forest; so along a history of such updates every parameter equals the
parameter it follows *through a chain of any length* (`synced_chain`).  What breaks sync is
writing an aliased parameter by name and aliasing two parameters that hold different values
(`chain_needs_sync_witness`); `setAllParametersValues` writes every parameter by name: it keeps the
links in sync exactly when its source is consistent with them (`alias_tracks_set_all`, and histories
of all four routes: `updates_history_keeps_sync`, in `Props/C03Sound.lean`). -/

/-- **alias_tracks, every bulk route, chains of any length** -/
theorem alias_tracks_independent_updates {w : World} (h : Inv w) {k : Nat} {o : Obj} (ho : w.objs k = some o)
    (hsy : AllSynced w o) :
    (∀ n v, (∀ t, find? w.heap o.params (o.pre ++ n) = some t → t ∈ o.indep) →
      (apSetParameterValue w k n v).err = none → AllSynced (apSetParameterValue w k n v).w o) ∧
    (∀ src, NamesIndep w o src → (apSetParametersValues w k src).err = none →
      AllSynced (apSetParametersValues w k src).w o) ∧
    (∀ src, NamesIndep w o src → (apMatchParametersValues w k src).1.err = none →
      AllSynced (apMatchParametersValues w k src).1.w o) :=
  synced_updates h ho hsy

/-- in sync link by link = equal along every chain: if position `c` follows position `p` through any
number of links, the two parameters hold the same value -/
theorem synced_chain {w : World} {k : Nat} {o : Obj} (hi : ObjInv w k o) (hsy : AllSynced w o) {c p : Nat} {tc tp : ObjId}
    (hch : Relation.ReflTransGen (Follows w o) c p) (hc : o.params[c]? = some tc) (hp : o.params[p]? = some tp) :
    val w tc = val w tp := by
  induction hch using Relation.ReflTransGen.head_induction_on generalizing tc with
  | refl => rw [hc] at hp; cases hp; rfl
  | head hfol _ ih =>
    obtain ⟨e, he, ha, s, hs, hsn⟩ := hfol
    rw [hsy e he s tc (List.mem_of_getElem? hs) hsn (by rw [ha]; exact hc)]
    exact ih hs

/-- aliasing two parameters that hold the same value keeps all links in sync -/
theorem alias_keeps_sync {w : World} (h : Inv w) {k : Nat} {o : Obj} (ho : w.objs k = some o) (hsy : AllSynced w o)
    {p1 p2 : String} (ok : (aliasPair w k p1 p2).err = none)
    (heq : ∀ i1 i2, find? w.heap o.params (o.pre ++ p1) = some i1 → find? w.heap o.params (o.pre ++ p2) = some i2 →
      val w i1 = val w i2) :
    ∀ o', (aliasPair w k p1 p2).w.objs k = some o' → AllSynced (aliasPair w k p1 p2).w o' := by
  have hi := h.obj k o ho
  obtain ⟨dn⟩ := aliasPair_done hi ho ok
  intro o' ho'
  cases dn.objs.symm.trans ho'
  exact dn.allSynced h ho hsy (heq _ _ (dn.find1 hi) (dn.find2 hi))

/-- non-vacuity: b and c follow a (all equal); bulk update of the independent parameters a and d -/
example :
    let w := run World.init [.new 0 "", .add 0 ⟨"a", 1, none⟩, .add 0 ⟨"b", 1, none⟩, .add 0 ⟨"c", 1, none⟩,
      .add 0 ⟨"d", 4, none⟩, .alias 0 "a" "b", .alias 0 "b" "c", .setvs 0 [("d", 6), ("a", 5)]]
    (val w 0, val w 1, val w 2, val w 3) = (5, 5, 5, 6) := by decide +kernel

/-! ## refuse_twice / refuse_cycle — refused requests leave everything unchanged -/

/-- **refuse_twice**: `p2` already follows somebody (it is not independent): `Exception`, and the
world is exactly as before -/
theorem refuse_twice {w : World} (h : Inv w) {k : Nat} {o : Obj} (ho : w.objs k = some o) {p1 p2 : String}
    {i1 i2 : ObjId} (h1 : find? w.heap o.params (o.pre ++ p1) = some i1) (h2 : find? w.heap o.params (o.pre ++ p2) = some i2)
    (twice : i2 ∉ o.indep) : (aliasPair w k p1 p2).err = some .bpp ∧ (aliasPair w k p1 p2).w = w :=
  ((aliasPair_spec (h.obj k o ho) ho p1 p2).2 i1 i2 h1 h2).1 twice

/-- **refuse_cycle (any length, length 1 included)**: `p2` is `p1` or is reached from `p1` by
following links upwards (`ReflTransGen (Follows w o) pos1 pos2`): `Exception`, world unchanged -/
theorem refuse_cycle {w : World} (h : Inv w) {k : Nat} {o : Obj} (ho : w.objs k = some o) {p1 p2 : String}
    {i1 i2 : ObjId} {pos1 pos2 : Nat} (h1 : find? w.heap o.params (o.pre ++ p1) = some i1)
    (h2 : find? w.heap o.params (o.pre ++ p2) = some i2) (hp1 : o.params[pos1]? = some i1) (hp2 : o.params[pos2]? = some i2)
    (cyc : Relation.ReflTransGen (Follows w o) pos1 pos2) :
    (aliasPair w k p1 p2).err = some .bpp ∧ (aliasPair w k p1 p2).w = w := by
  have hi := h.obj k o ho
  obtain ⟨a, _, c, _⟩ := (aliasPair_spec hi ho p1 p2).2 i1 i2 h1 h2
  by_cases hind : i2 ∈ o.indep
  swap
  · exact a hind
  obtain ⟨hm1, hn1⟩ := ParamList.find?_some h1
  obtain ⟨_, hn2⟩ := ParamList.find?_some h2
  have pp1 : Plain p1 := hi.plain_of hm1 hn1
  cases hf : followsLoop w o p2 (o.reg.length + 2) p1 with
  | none => exact absurd hf (cycleTest_no_hang hi h1)
  | some b =>
    cases b with
    | true => exact c hind hf
    | false => exact absurd hn2 ((followsLoop_false hi p2 _ p1 pos1 i1 hp1 hn1 pp1 hf).1 pos2 i2 cyc hp2)

/-- unknown names: `ParameterNotFoundException`, world unchanged -/
theorem refuse_unknown {w : World} (h : Inv w) {k : Nat} {o : Obj} (ho : w.objs k = some o) {p1 p2 : String}
    (unk : find? w.heap o.params (o.pre ++ p1) = none ∨ find? w.heap o.params (o.pre ++ p2) = none) :
    (aliasPair w k p1 p2).err = some .notfound ∧ (aliasPair w k p1 p2).w = w :=
  (aliasPair_spec (h.obj k o ho) ho p1 p2).1 unk

/-- **the refusal clause evaluated on the implementation**: whenever `Alias.mustRefuse` (computed from
the observable view: unknown name, `p2` already a target, `p1 = p2`, or `p2` among the parameters
`p1` follows) says the request must be refused, the model refuses it and leaves the world
untouched — in every reachable world. -/
theorem refuse_clause {w : World} (h : Inv w) {k : Nat} {o : Obj} (ho : w.objs k = some o) (p1 p2 : String)
    (must : mustRefuse p1 p2 (svOf w o) = true) :
    (aliasPair w k p1 p2).err ≠ none ∧ (aliasPair w k p1 p2).w = w := by
  have hi := h.obj k o ho
  have hshorts : (svOf w o).shorts = shortNames w o := by
    simp only [SV.shorts, SV.short, svOf, shortNames, List.map_map]; rfl
  cases h1 : find? w.heap o.params (o.pre ++ p1) with
  | none => have := refuse_unknown h ho (p2 := p2) (Or.inl h1); exact ⟨by rw [this.1]; simp, this.2⟩
  | some i1 =>
    cases h2 : find? w.heap o.params (o.pre ++ p2) with
    | none => have := refuse_unknown h ho (p1 := p1) (Or.inr h2); exact ⟨by rw [this.1]; simp, this.2⟩
    | some i2 =>
      obtain ⟨hm1, hn1⟩ := ParamList.find?_some h1
      obtain ⟨hm2, hn2⟩ := ParamList.find?_some h2
      obtain ⟨pos1, hp1⟩ := hi.exists_pos hm1
      obtain ⟨pos2, hp2⟩ := hi.exists_pos hm2
      have hs1 : p1 ∈ shortNames w o := (mem_shortNames hi).2 ⟨i1, hm1, hn1⟩
      have hs2 : p2 ∈ shortNames w o := (mem_shortNames hi).2 ⟨i2, hm2, hn2⟩
      have c1 : (shortNames w o).contains p1 = true := List.contains_iff_mem.2 hs1
      have c2 : (shortNames w o).contains p2 = true := List.contains_iff_mem.2 hs2
      simp only [mustRefuse, hshorts, c1, c2, Bool.not_true, Bool.false_or, Bool.or_eq_true, beq_iff_eq] at must
      have twice : (svOf w o).isTarget p2 = true → (aliasPair w k p1 p2).err ≠ none ∧ (aliasPair w k p1 p2).w = w := by
        intro htg
        have := refuse_twice h ho h1 h2 (fun hin => (indep_iff hi hm2 hn2).1 hin ((isTarget_svOf hi).1 htg))
        exact ⟨by rw [this.1]; simp, this.2⟩
      rcases must with ((htg | heq) | hfol) | hclash
      rotate_left 3
      · exact twice (idInUse_isTarget hi hs2 hclash)
      · exact twice htg
      · subst heq
        rw [h1] at h2; cases h2
        have := refuse_cycle h ho h1 h1 hp1 hp1 Relation.ReflTransGen.refl
        exact ⟨by rw [this.1]; simp, this.2⟩
      · simp only [SV.follows, List.contains_iff_mem] at hfol
        have htg := mem_ancestors (svOf w o) _ p1 p2 hfol
        have hlift : Relation.TransGen (Follows w o) (posOf w o p1) (posOf w o p2) :=
          Relation.TransGen.lift (posOf w o) (fun c p hcp => follows_of_link hi hcp) p1 p2 htg
        rw [posOf_spec hi hp1 hn1, posOf_spec hi hp2 hn2] at hlift
        have := refuse_cycle h ho h1 h2 hp1 hp2 hlift.to_reflTransGen
        exact ⟨by rw [this.1]; simp, this.2⟩

/-- **the invariant clause evaluated on the implementation**: `SV.inv` is true of the view of every
object of every reachable world -/
theorem inv_clause (ops : List Op) (hw : WfRun World.init ops) (k : Nat) (o : Obj)
    (ho : (run World.init ops).objs k = some o) : (svOf (run World.init ops) o).inv = true :=
  inv_view (inv_reachable ops hw) (heapOk_run ops inv_init hw (fun j hj => absurd hj (Nat.not_lt_zero _))) ho

/-- non-vacuity of `refuse_cycle`: c follows b follows a; `alias(c, a)` closes a cycle of length 3 -/
example : (step (run abc [.alias 0 "a" "b", .alias 0 "b" "c"]) (.alias 0 "c" "a")).2 = .err .bpp ∧
    (step abc (.alias 0 "a" "a")).2 = .err .bpp ∧
    (step (run abc [.alias 0 "a" "b"]) (.alias 0 "c" "b")).2 = .err .bpp := by decide +kernel

/-! ## unalias_restores -/

/-- **unalias_restores**: when `unaliasParameters(p1, p2)` returns, `p2` is independent again (appended
to the independent list), exactly the registry entry of that link is gone, the listener is detached
from `p1` and from nobody else, no parameter object changed; when it raises nothing changed at all. -/
theorem unalias_restores {w : World} (h : Inv w) {k : Nat} {o : Obj} (ho : w.objs k = some o) (p1 p2 : String) :
    ((unalias w k p1 p2).err ≠ none → (unalias w k p1 p2).w = w) ∧
    ((unalias w k p1 p2).err = none → ∃ i1 i2 o', find? w.heap o.params (o.pre ++ p1) = some i1 ∧
      find? w.heap o.params (o.pre ++ p2) = some i2 ∧ (unalias w k p1 p2).w.objs k = some o' ∧
      o'.params = o.params ∧ o'.indep = o.indep ++ [i2] ∧ i2 ∉ o.indep ∧
      o'.reg = mapErase (aliasId p1 p2) o.reg ∧ aliasId p1 p2 ∈ o.reg.map Prod.fst ∧
      (unalias w k p1 p2).w.heap = w.heap ∧ (unalias w k p1 p2).w.lis = w.lis ∧
      (∀ j, j ≠ i1 → (unalias w k p1 p2).w.lsn j = w.lsn j) ∧
      (unalias w k p1 p2).w.lsn i1 = (w.lsn i1).filter (fun l => (w.lis l).id != aliasId p1 p2)) := by
  obtain ⟨s1, s2⟩ := unalias_spec (h.obj k o ho) ho p1 p2
  refine ⟨fun he => (s1 he).1, fun ok => ?_⟩
  obtain ⟨i1, i2, l0, h1, h2, he, hnot, heq⟩ := s2 ok
  refine ⟨i1, i2, { params := o.params, indep := o.indep ++ [i2], reg := mapErase (aliasId p1 p2) o.reg, pre := o.pre },
    h1, h2, by rw [heq]; simp, rfl, rfl, hnot, rfl,
    List.mem_map.2 ⟨_, he, rfl⟩, by rw [heq]; rfl, by rw [heq]; rfl, fun j hj => by rw [heq]; simp [hj],
    by rw [heq]; simp⟩

/-- non-vacuity: b and c follow a; un-aliasing b leaves c's link alone -/
example :
    let w := run abc [.alias 0 "a" "b", .alias 0 "a" "c", .unalias 0 "a" "b", .setv 0 "a" 9]
    (val w 0, val w 1, val w 2) = (9, 2, 9) := by decide +kernel

/-! ## copy_carries / assign_carries -/

/-- **copy_carries**: copy construction of the object in slot `s` into slot `d` returns, and the copy
(a) looks exactly like the source — same namespace, names, values, constraints, links, independent
names in the same order, each independent entry *being* the copy's own parameter object at the same
position (`svOf` equal); (b) consists of fresh parameter objects and satisfies the object invariant,
in particular every listener attached to one of its parameters points at the copy itself
(`RegOk.pl`, `ObjInv.lsnOk`) — the copy's links act on the copy's own parameters only; (c) leaves
every existing parameter and listener object untouched; the world invariant holds again. -/
theorem copy_carries {w : World} (h : Inv w) {s d : Nat} {o : Obj} (ho : w.objs s = some o) :
    (copyConstruct w s d).err = none ∧
    ∃ od, (copyConstruct w s d).w.objs d = some od ∧ svOf (copyConstruct w s d).w od = svOf w o ∧
      ObjInv (copyConstruct w s d).w d od ∧ (∀ c ∈ od.params, w.heap.next ≤ c) ∧
      (∀ i, i < w.heap.next → (copyConstruct w s d).w.heap.get i = w.heap.get i ∧ (copyConstruct w s d).w.lsn i = w.lsn i) ∧
      (∀ l, l < w.lnext → (copyConstruct w s d).w.lis l = w.lis l) ∧
      Inv (copyConstruct w s d).w := by
  obtain ⟨ok, ⟨r⟩⟩ := copyConstruct_rebuilt h (d := d) ho
  exact ⟨ok, _, by rw [r.objs]; simp, svOf_copy (h.obj s o ho) r, r.inv (h.obj s o ho), rebuiltObj_fresh, r.old, r.lisOld, r.inv_world h ho⟩

/-- **assign_carries**: the same for `*objs[d] = *objs[s]` (`s ≠ d`; self-assignment is a no-op):
nothing of the former state of the target survives in its independent list or registry. -/
theorem assign_carries {w : World} (h : Inv w) {s d : Nat} {o od0 : Obj} (ho : w.objs s = some o)
    (hd : w.objs d = some od0) (hsd : s ≠ d) :
    (assign w s d).err = none ∧
    ∃ od, (assign w s d).w.objs d = some od ∧ svOf (assign w s d).w od = svOf w o ∧
      ObjInv (assign w s d).w d od ∧ (∀ c ∈ od.params, w.heap.next ≤ c) ∧
      (∀ i, i < w.heap.next → (assign w s d).w.heap.get i = w.heap.get i ∧ (assign w s d).w.lsn i = w.lsn i) ∧
      (∀ l, l < w.lnext → (assign w s d).w.lis l = w.lis l) ∧
      Inv (assign w s d).w := by
  obtain ⟨ok, ⟨r⟩⟩ := assign_rebuilt h ho hd hsd
  exact ⟨ok, _, by rw [r.objs]; simp, svOf_copy (h.obj s o ho) r, r.inv (h.obj s o ho), rebuiltObj_fresh, r.old, r.lisOld, r.inv_world h ho⟩

theorem assign_self (w : World) (s : Nat) (o : Obj) (ho : w.objs s = some o) : assign w s s = { w := w } := by
  simp [assign, ho]

/-- **acting only on the object's own parameters**: in a reachable world a value update (any of the
four routes) of the object in slot `k` changes no parameter object outside that object — in
particular nothing of a copy when the source is updated and nothing of the source when a copy is. -/
theorem update_acts_on_own_parameters {w : World} (h : Inv w) {k : Nat} {o : Obj} (ho : w.objs k = some o)
    (j : ObjId) (hj : j ∉ o.params) :
    (∀ n v, val (apSetParameterValue w k n v).w j = val w j) ∧
    (∀ src, val (apSetParametersValues w k src).w j = val w j) ∧
    (∀ src, val (apMatchParametersValues w k src).1.w j = val w j) ∧
    (∀ src, val (apSetAllParametersValues w k src).w j = val w j) := update_frame h ho j hj

/-- non-vacuity: copy, then update both sides -/
example :
    let w := run abc [.alias 0 "a" "b", .copy 0 1, .setv 0 "a" 5, .setv 1 "a" 7]
    (val w 0, val w 1, val w 2, val w 3, val w 4, val w 5) = (5, 5, 3, 7, 7, 3) := by decide +kernel

/-- the assignment operator as found kept the target's former independent objects: after
`t = u` the independent list of `t` holds an object that is not one of `t`'s parameters -/
theorem assign_legacy_stale_witness :
    let w := run World.init [.new 0 "", .add 0 ⟨"a", 1, none⟩, .add 0 ⟨"b", 2, none⟩,
      .new 1 "", .add 1 ⟨"a", 10, none⟩, .add 1 ⟨"b", 20, none⟩, .alias 0 "a" "b"]
    ((Legacy.assign w 1 0).w.objs 0).map (fun o => o.indep.all (fun i => o.params.contains i)) = some false ∧
    ((assign w 1 0).w.objs 0).map (fun o => o.indep.all (fun i => o.params.contains i)) = some true := by decide +kernel

/-! ## namespace_preserves -/

/-- **namespace_preserves**: `setNamespace(new)` returns; parameters keep their positions, values,
constraints and listeners, their names go from `<old><x>` to `<new><x>`; the registry, the
independent list (same objects, same order) and therefore every link are unchanged; every
registered listener's expected target name is renamed alike, so that the links keep firing
(`inv_renamed`: the invariant — in particular `RegOk`: name check of
`parameterValueChanged` — holds again). -/
theorem namespace_preserves {w : World} (h : Inv w) {k : Nat} {o : Obj} (ho : w.objs k = some o) (new : String) :
    (setNamespace w k new).err = none ∧
    (setNamespace w k new).w.objs k = some { params := o.params, indep := o.indep, reg := o.reg, pre := new } ∧
    (∀ i ∈ o.params, ∃ x, nameOf w.heap i = o.pre ++ x ∧ nameOf (setNamespace w k new).w.heap i = new ++ x ∧
      val (setNamespace w k new).w i = val w i ∧ ((setNamespace w k new).w.heap.get i).con = (w.heap.get i).con) ∧
    (setNamespace w k new).w.lsn = w.lsn ∧
    (∀ e ∈ o.reg, ((setNamespace w k new).w.lis e.2).id = (w.lis e.2).id ∧
      ((setNamespace w k new).w.lis e.2).alias = (w.lis e.2).alias ∧ ((setNamespace w k new).w.lis e.2).src = (w.lis e.2).src) ∧
    Inv (setNamespace w k new).w := by
  have hi := h.obj k o ho
  have hinv := inv_renamed h ho new
  rw [setNamespace_eq ho]
  obtain ⟨f1, f2, f3, f4, f5, f6⟩ := nsWorld_facts hi new
  refine ⟨rfl, by show (nsWorld w k o new).objs k = _; rw [f4]; simp, fun i him => ?_, f3, fun e he => ?_, hinv⟩
  · obtain ⟨x, hx, _⟩ := hi.plain i him
    refine ⟨x, hx, ?_, ?_, ?_⟩
    · show nameOf (nsWorld w k o new).heap i = _
      simp only [nameOf, f5 i, him, if_true]; rw [← renamed_append o.pre new x, ← hx]; rfl
    · show ((nsWorld w k o new).heap.get i).value = _
      simp only [f5 i, him, if_true]; rfl
    · show ((nsWorld w k o new).heap.get i).con = _
      simp only [f5 i, him, if_true]
  · show ((nsWorld w k o new).lis e.2).id = _ ∧ _
    rw [f6 e.2, if_pos (List.mem_map.2 ⟨e, he, rfl⟩)]
    exact ⟨rfl, rfl, rfl⟩

/-- non-vacuity: alias under "m.", rename to "x", update -/
example :
    let w := run World.init [.new 0 "m.", .add 0 ⟨"m.a", 1, none⟩, .add 0 ⟨"m.b", 2, none⟩, .alias 0 "a" "b", .ns 0 "x",
      .setv 0 "a" 5]
    (val w 0, val w 1, nameOf w.heap 1) = (5, 5, "xb") := by decide +kernel

/-! ## bulk_terminates -/

/-- **bulk_terminates**: in every reachable world `aliasParameters(map)` returns for every map
(whatever its keys, values, size and key order): the model never runs out of fuel — neither in the
outer loop, nor in the cycle test of a pair alias, nor in the final `matchParametersValues`.
It then either performed the links or raised (`Out`), and the invariant holds again. -/
theorem bulk_terminates (ops : List Op) (hw : WfRun World.init ops) (k : Nat) (entries : List (String × String)) :
    (bulkAlias (run World.init ops) k entries).err ≠ some .hang ∧ Inv (bulkAlias (run World.init ops) k entries).w :=
  ⟨fun hh => step_no_hang (inv_reachable ops hw) (.bulk k entries) trivial (congrArg Out.ofErr hh),
    inv_step (inv_reachable ops hw) (.bulk k entries) trivial⟩

/-- **… performing the links or raising**: when the bulk form returns normally in a reachable world,
every entry `key -> value` of the map is a registered link "`key` follows `value`" of the object. -/
theorem bulk_performs_links (ops : List Op) (hw : WfRun World.init ops) (k : Nat) (entries : List (String × String))
    (ok : (bulkAlias (run World.init ops) k entries).err = none) :
    ∀ e ∈ mkMap entries, Linked (bulkAlias (run World.init ops) k entries).w k (aliasId e.2 e.1) :=
  bulkAlias_linked (inv_reachable ops hw) k entries ok

/-- the other loops touched by the repairs: the pair form and the four update routes return too -/
theorem alias_and_updates_terminate (ops : List Op) (hw : WfRun World.init ops) (k : Nat) :
    (∀ p1 p2, (aliasPair (run World.init ops) k p1 p2).err ≠ some .hang) ∧
    (∀ n v, (apSetParameterValue (run World.init ops) k n v).err ≠ some .hang) ∧
    (∀ src, (apSetParametersValues (run World.init ops) k src).err ≠ some .hang) ∧
    (∀ src, (apMatchParametersValues (run World.init ops) k src).1.err ≠ some .hang) ∧
    (∀ src, (apSetAllParametersValues (run World.init ops) k src).err ≠ some .hang) :=
  have H := inv_reachable ops hw
  ⟨fun p1 p2 hh => step_no_hang H (.alias k p1 p2) trivial (congrArg Out.ofErr hh),
    fun n v hh => step_no_hang H (.setv k n v) trivial (congrArg Out.ofErr hh),
    fun src hh => step_no_hang H (.setvs k src) trivial (congrArg Out.ofErr hh),
    fun src hh => step_no_hang H (.matchvs k src) trivial
      (by show (match _ with | some e => Out.err e | none => _) = _; rw [hh]),
    fun src hh => step_no_hang H (.setallv k src) trivial (congrArg Out.ofErr hh)⟩

/-- non-vacuity: the map `{a -> b, b -> c}` (the one the code as found hung on), and a cycle -/
example : (step abc (.bulk 0 [("a", "b"), ("b", "c")])).2 = .ok ∧
    (step abc (.bulk 0 [("a", "b"), ("b", "a")])).2 = .err .bpp ∧
    (let w := run abc [.bulk 0 [("a", "b"), ("b", "c")], .setv 0 "c" 8]; (val w 0, val w 1, val w 2) = (8, 8, 8)) := by decide +kernel

/-! ## Defects of the code as found (repaired in the library, see findings/C03.json) -/

/-- the bulk form as found never returned on the map `{a -> b, b -> c}`: whatever the fuel, the
inner loop is still looking at the first entry -/
theorem bulk_legacy_hangs_witness (f : Nat) :
    (Legacy.bulkPass 0 f abc [abc.heap.get 2] [("a", "b"), ("b", "c")]).err = some .hang := by
  induction f with
  | zero => rfl
  | succ f ih =>
    have : Legacy.bulkPass 0 (f + 1) abc [abc.heap.get 2] [("a", "b"), ("b", "c")]
         = Legacy.bulkPass 0 f abc [abc.heap.get 2] [("a", "b"), ("b", "c")] := by
      have h1 : plFind? [abc.heap.get 2] "b" = none := by decide
      simp only [Legacy.bulkPass, h1]
      rfl
    rw [this]; exact ih

/-- the pair form as found accepted the link that closes a cycle of length 3 (and of length 1);
the repaired code refuses both -/
theorem cycle_legacy_accepted_witness :
    (aliasPairG false (run abc [.alias 0 "a" "b", .alias 0 "b" "c"]) 0 "c" "a").err = none ∧
    (aliasPairG false abc 0 "a" "a").err = none ∧
    (aliasPair (run abc [.alias 0 "a" "b", .alias 0 "b" "c"]) 0 "c" "a").err = some .bpp ∧
    (aliasPair abc 0 "a" "a").err = some .bpp := by decide +kernel

end Bpp.C03
