import BppProofs.Props.C14Copy
/-!
# C14 — the association layer reports end points and linking edge correctly; who deletes, forgets

`edgeEnds_unfold` / `edgeLinking_unfold` (`Props/C14Observer.lean`) only unfold the model's
definitions.  Here the clause is stated for what it has to say, in a world in order (`WInv`, i.e.
every reachable world: `assoc_bijective_ext`): the queries are *total* on live
objects, the ids they go through are *live*, they *agree with the graph's* `getNodes` / `getEdge`,
and the objects they return are exactly the objects associated to those ids.
-/
namespace Bpp.C14
open Bpp Bpp.Graph Bpp.AL

/-- **endpoints_reported**: for an edge object `x` of observer `o` (associated to edge `e`),
`getNodes(x)` does not raise; the graph has edge `e` with end points `a`, `b`, both nodes of the graph,
`e` is the relation `a → b` of the node table; the answer is the pair of look-ups of `a` and `b`;
and such a look-up returns `A` exactly when `A` is the object associated to that node.  An unknown
edge object raises. -/
theorem endpoints_reported (w : World) (hw : WInv w) (k : Nat) (o : Obs) (hk : w.getObs k = some o) (x : Obj) :
    (∀ e, find x o.Eg = some e →
      ∃ a b, w.g.getNodes e = some (a, b) ∧ w.g.hasNode a = true ∧ w.g.hasNode b = true ∧ w.g.getEdge a b = some e ∧
        World.edgeEnds w o x = some (o.nodeFromGid a, o.nodeFromGid b) ∧
        (∀ A, o.nodeFromGid a = some A ↔ find A o.Ng = some a) ∧ (∀ B, o.nodeFromGid b = some B ↔ find B o.Ng = some b)) ∧
    (find x o.Eg = none → World.edgeEnds w o x = none) := by
  have hi := hw.obs k o hk
  constructor
  · intro e hx
    have hl := hi.e_live x e hx
    simp only [G.hasEdge, has] at hl
    rcases G.find_cases e w.g.edges with hf | ⟨⟨a, b⟩, hf⟩
    · simp [hf] at hl
    · have hv := hw.graph.views.edge_listed e a b hf
      exact ⟨a, b, hf, G.outE_some_hasNode hv.1, G.inE_some_hasNode hv.2.1, hv.1,
        by simp [World.edgeEnds, hx, G.getNodes, hf], fun A => nodeFromGid_iff hi a A, fun B => nodeFromGid_iff hi b B⟩
  · intro hx; simp [World.edgeEnds, hx]

/-- **linking_edge_reported**: for two node objects `a`, `b` of observer `o` (nodes `ia`, `ib`),
`getEdgeLinking(a, b)` raises exactly when the graph has no relation `ia → ib`; otherwise the graph's
edge `e = getEdge(ia, ib)` is live, its end points are `ia`, `ib` (in that order when directed), the
answer is the look-up of `e`, which returns `X` exactly when `X` is the object associated to `e` —
and then `getNodes(X)` are `a` and `b` again -/
theorem linking_edge_reported (w : World) (hw : WInv w) (k : Nat) (o : Obs) (hk : w.getObs k = some o)
    (a b : Obj) (ia ib : Nat) (ha : find a o.Ng = some ia) (hb : find b o.Ng = some ib) :
    (World.edgeLinking w o a b = none ↔ w.g.getEdge ia ib = none) ∧
    (∀ e, w.g.getEdge ia ib = some e →
      w.g.hasEdge e = true ∧
      (w.g.getNodes e = some (ia, ib) ∨ (w.g.directed = false ∧ w.g.getNodes e = some (ib, ia))) ∧
      World.edgeLinking w o a b = some (o.edgeFromGid e) ∧
      (∀ X, o.edgeFromGid e = some X ↔ find X o.Eg = some e) ∧
      (∀ X, o.edgeFromGid e = some X →
        World.edgeEnds w o X = some (some a, some b) ∨ (w.g.directed = false ∧ World.edgeEnds w o X = some (some b, some a)))) := by
  have hi := hw.obs k o hk
  have hA : o.nodeFromGid ia = some a := (nodeFromGid_iff hi ia a).mpr ha
  have hB : o.nodeFromGid ib = some b := (nodeFromGid_iff hi ib b).mpr hb
  constructor
  · simp only [World.edgeLinking, ha, hb]
    cases w.g.getEdge ia ib <;> simp
  · intro e he
    have hoe := hw.graph.views.out_edge ia ib e he
    have hnodes : w.g.getNodes e = some (ia, ib) ∨ (w.g.directed = false ∧ w.g.getNodes e = some (ib, ia)) := hoe
    have hlive : w.g.hasEdge e = true := by
      unfold G.hasEdge has
      rcases hoe with h | ⟨_, h⟩ <;> simp [h]
    refine ⟨hlive, hnodes, by simp [World.edgeLinking, ha, hb, he], fun X => edgeFromGid_iff hi e X, ?_⟩
    intro X hX
    have hx := (edgeFromGid_iff hi e X).mp hX
    rcases hnodes with h | ⟨hd, h⟩
    · left; simp [World.edgeEnds, hx, h, hA, hB]
    · right; exact ⟨hd, by simp [World.edgeEnds, hx, h, hA, hB]⟩

/-- … after every history (operations through any observer or directly on the graph, copies, …) -/
theorem endpoints_reported_inv (d : Bool) (ops : List WOpX) (k : Nat) (o : Obs)
    (hk : ((World.init d).runX ops).getObs k = some o) (x : Obj) (e : Nat) (hx : find x o.Eg = some e) :
    ∃ a b, ((World.init d).runX ops).g.getNodes e = some (a, b) ∧
      World.edgeEnds ((World.init d).runX ops) o x = some (o.nodeFromGid a, o.nodeFromGid b) :=
  let ⟨a, b, h1, _, _, _, h5, _⟩ := (endpoints_reported _ (assoc_bijective_ext d ops) k o hk x).1 e hx
  ⟨a, b, h1, h5⟩

/-- non-vacuity: `o.link 0 1 (edge object 5)` on a directed graph: `getNodes(5) = (0, 1)`,
`getEdgeLinking(0, 1) = 5`, `getEdgeLinking(1, 0)` raises -/
example :
    World.edgeEnds ((World.init true).run [.createNode 0 0, .createNode 0 1, .link 0 0 1 (some 5)])
      { gN := [some 0, some 1], gE := [some 5], Ng := [(0, 0), (1, 1)], Eg := [(5, 0)] } 5 = some (some 0, some 1) ∧
    World.edgeLinking ((World.init true).run [.createNode 0 0, .createNode 0 1, .link 0 0 1 (some 5)])
      { gN := [some 0, some 1], gE := [some 5], Ng := [(0, 0), (1, 1)], Eg := [(5, 0)] } 0 1 = some (some 5) ∧
    World.edgeLinking ((World.init true).run [.createNode 0 0, .createNode 0 1, .link 0 0 1 (some 5)])
      { gN := [some 0, some 1], gE := [some 5], Ng := [(0, 0), (1, 1)], Eg := [(5, 0)] } 1 0 = none := by decide

/-! ## deleted items are forgotten: the observer's own `deleteNode(Nref)`, and graph `operator=` -/

/-- **observer_deleteNode_forgets**: `deleteNode(a)` through observer `j` — the ordinary way an item
is deleted through the association layer.  Every observer `k` of the graph (the deleting one and its
copies) afterwards holds the object of the deleted node, and the objects of the edges removed with
it, in none of its four maps: object→id, id→object, object→index, index→object -/
theorem observer_deleteNode_forgets (w : World) (hw : WInv w) (j a : Nat) (k : Nat) (o : Obs) (hk : w.getObs k = some o) :
    ∃ o', ((w.deleteNode j a).world w).getObs k = some o' ∧ ForgotDead ((w.deleteNode j a).world w).g o o' := by
  have same : ∃ o', w.getObs k = some o' ∧ ForgotDead w.g o o' :=
    ⟨o, hk, forgotDead_of_shrunk (Shrunk.refl o) (hw.obs k o hk)⟩
  unfold World.deleteNode
  rcases hj : w.getObs j with _ | oj
  · exact same
  · simp only
    rcases ha : find a oj.Ng with _ | id
    · exact same
    · simp only
      have hn := G.deleteNode_notified hw.graph id
      have hlive : w.g.hasNode id = true := (hw.obs j oj hj).n_live a id ha
      obtain ⟨g', hr, _, hdel⟩ := G.deleteNode_spec hw.graph hlive
      rw [hr] at hn ⊢
      simp only [GOut.state] at hn
      obtain ⟨o', h1, h2⟩ := deliver_forgets hw hn k o hk
      obtain ⟨oj', hj1, hj2⟩ := deliver_forgets hw hn j oj hj
      -- the deleting observer has forgotten `a` when told: the fallback `dissociateNode` is not taken
      have hgone : g'.hasNode id = false := by rw [hdel.hasNode]; simp
      have hnone : oj'.hasNode a = false := by
        have := ((hj2.1 a id ha hgone).1).1
        simp [Obs.hasNode, has, this]
      simp only [hj1, hnone, Bool.false_eq_true, if_false]
      exact ⟨o', h1, h2⟩

/-- **graphAssign_forgets**: another graph is assigned to the observed graph (`GlobalGraph::operator=`):
every observer holds the objects of the former nodes and edges that are not in the new content in
none of its maps -/
theorem graphAssign_forgets (w : World) (hw : WInv w) (h : G) (k : Nat) (o : Obs) (hk : w.getObs k = some o) :
    ∃ o', (w.graphAssign h).getObs k = some o' ∧ ForgotDead (w.graphAssign h).g o o' := by
  obtain ⟨o', h1, h2⟩ := deliver_forgets hw (notified_assign w.g h) k o hk
  exact ⟨o', h1, h2⟩

/-- non-vacuity: node object 7 with an index, an edge object 5 with an index on an edge of that node;
`deleteNode(7)` through the observer: all eight maps are empty of them -/
example :
    ((World.init true).run [.createNode 0 7, .createNode 0 8, .link 0 8 7 (some 5), .addNodeIndex 0 7, .addEdgeIndex 0 5,
      .deleteNode 0 7]).getObs 0 =
      some { gN := [none, some 8], gE := [none], Ng := [(8, 1)], Eg := [], iN := [none], iE := [none], Ni := [], Ei := [] } := by
  decide

/-! ## further queries agree with the reference; copies are defined -/

/-- `getLeavesFromNode` agrees with the reference multigraph (same traversal, on rows recomputed
from the edge triples) -/
theorem leavesFrom_agree (g : G) (hc : Consistent g) (n d : Nat) : g.leavesFromNode n d = g.abs.leavesFromNode n d := by
  unfold G.leavesFromNode Spec.leavesFromNode
  have : g.neighbors = g.abs.neighbors := by
    funext m; unfold G.neighbors Spec.neighbors; rw [(queries_agree g hc).1 m]; rfl
  rw [this]

/-- `containsReciprocalRelations` agrees with the reference: two different edges between the same
unordered pair of nodes -/
theorem reciprocal_agree (g : G) (hc : Consistent g) (hd : g.directed = true) :
    g.containsReciprocal = some g.abs.reciprocal := by
  unfold G.containsReciprocal
  simp [hd, G.abs_reciprocal hc hd]

/-- the copy constructor / `clone()` / `operator=` are *defined* on every observer in order: no id or
index beyond the vectors written with `operator[]` -/
theorem copyDefined_of_inv (g : G) (o : Obs) (hi : OInv g o) : World.copyDefined o = true := by
  unfold World.copyDefined
  simp only [Bool.and_eq_true, List.all_eq_true, decide_eq_true_eq]
  refine ⟨⟨⟨?_, ?_⟩, ?_⟩, ?_⟩
  · intro p hp
    exact Vec.get_eq_some_lt (hi.nodes.bwd _ _ ((mem_iff_find hi.nodes.asc p.1 p.2).mp hp))
  · intro p hp
    exact Vec.get_eq_some_lt (hi.edges.bwd _ _ ((mem_iff_find hi.edges.asc p.1 p.2).mp hp))
  · intro p _
    cases h : find p.1 o.Ni with
    | none => simp
    | some i => simp; exact Vec.get_eq_some_lt (hi.nidx.bwd _ _ h)
  · intro p _
    cases h : find p.1 o.Ei with
    | none => simp
    | some i => simp; exact Vec.get_eq_some_lt (hi.eidx.bwd _ _ h)

/-- … so after any history a copy of a live observer into another slot is made (never the `ub` outcome) -/
theorem copy_defined_inv (d : Bool) (ops : List WOpX) (j k : Nat) (o : Obs) (hjk : j ≠ k)
    (hj : ((World.init d).runX ops).getObs j = some o) :
    ((World.init d).runX ops).copy j k = .ok () (((World.init d).runX ops).setObs k (World.copyObs o)) := by
  have hi := (assoc_bijective_ext d ops).obs j o hj
  unfold World.copy
  simp [hj, hjk, copyDefined_of_inv _ o hi]

end Bpp.C14
