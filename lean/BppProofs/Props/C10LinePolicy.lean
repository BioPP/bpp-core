import BppProofs.Lemmas.OptimLinePolicy
import BppProofs.Props.C10Policy
/-!
# C10, part 5b — the constraint policy of the optimisers built on line searches

"Under the automatic-constraint policy the objective is never evaluated outside its parameters'
constraints and the reported point is feasible", end to end for `PowellMultiDimensions`,
`ConjugateGradientMultiDimensions` and `BfgsMultiDimensions` (`BppModel/OptimLine.lean`).

These optimisers evaluate the objective
* at their own parameter list (`init`'s list with the policy applied, moved by `setValue` only);
* at a copy of it moved by `setValue` (Powell's extrapolated point `ptt`);
* at the list given to `init` itself (`doInit` of the conjugate gradient and BFGS optimisers), which is
  tied to its own constraints when its values are feasible and its names distinct;
* through a `DirectionFunction` (`lineMinimization`: Brent's method with outward bracketing;
  `lineSearch`: Newton backtracking), which always runs under the *automatic* policy: it sets the
  objective to auto-correcting copies `xt` of the optimiser's parameters, moved by `setValue` to
  `p + x ξ` — whatever abscissa `x` the one-dimensional optimiser asks for (`dirfn_objective_feasible`).
All of these lists are tied to `init`'s constraints (C01: a `setValue`, plain or auto-correcting, that
returns leaves the parameter inside its constraint), hence every logged point is feasible, however
the run ends (exceptions carry the function, and `ROk` demands the feasibility of its log too).
As in `C10Policy`, the theorems only need `policy ≠ ignore`.
-/
namespace Bpp.C10
open Bpp Bpp.Optim

/-- **dirfn_objective_feasible**: one evaluation through a `DirectionFunction` wrapped around the
objective of the harness.  When the wrapped function's log and point are feasible and the copies `xt`
are tied to `cons`, `f(pl)` — for *every* one-dimensional list `pl`, whatever abscissa it holds —
leaves the wrapped function with a feasible log and point and the copies tied, also when it raises. -/
theorem dirfn_objective_feasible (obj : List ℝ → ℝ) (D : Deriv ℝ) (cap : Option Nat) (cons : Spec.Cons ℝ)
    (df : DirFn (Fn ℝ) ℝ) (pl : PList ℝ) (hQ : FeasFn cons df.inner) (hT : Tied cons df.xt) :
    ROk (fun df' : DirFn (Fn ℝ) ℝ => FeasFn cons df'.inner ∧ Tied cons df'.xt)
      (fun r => (Spec.feasibleLog cons r.1.inner.log = true ∧ Spec.feasiblePoint cons r.1.inner.point = true) ∧ Tied cons r.1.xt)
      ((DirFn.iface (Fn.iface obj D cap)).f df pl) :=
  (dirfn_safe (objective_safeSet obj D cap cons)).f ⟨hQ, hT⟩ trivial

/-- **backtrack_auto_policy_feasible**: `NewtonBacktrackOneDimension` used as an optimiser in its own right
(the quantifier lists it; inside the library it only ever runs on a `DirectionFunction`, which
`dirfn_objective_feasible` covers) — `init` (one evaluation at the optimiser's list), any number of steps
(each evaluates at the list moved by `setValue`; on giving up the function is put back with the list set
to 0 by `setValue`) — on the objective of the harness: however the run ends, every evaluation was made at
a feasible point and the reported parameter is feasible. -/
theorem backtrack_auto_policy_feasible (obj : List ℝ → ℝ) (D : Deriv ℝ) (cap : Option Nat)
    (params : PList ℝ) (s : St (Fn ℝ) (NBack ℝ) ℝ) (hpol : s.core.policy ≠ .ignore)
    (hfeas : feasibleList params = true) (hnd : (params.map (·.name)).Nodup)
    (hs0 : FeasFn (consOf params) s.fn) :
    ROk (FeasFn (consOf params))
      (fun s1 => Spec.feasibleLog (consOf params) s1.fn.log = true ∧ Spec.feasibleReport s1.core.params = true ∧
        ∀ fuel', ROk (FeasFn (consOf params))
          (fun r => Spec.feasibleLog (consOf params) r.1.fn.log = true ∧ Spec.feasibleReport r.1.core.params = true)
          ((nbackAlgo (Fn.iface obj D cap)).optimize fuel' s1))
      ((nbackAlgo (Fn.iface obj D cap)).init s params) :=
  auto_policy_feasible (nbackAlgo (Fn.iface obj D cap)) params
    (nback_safeAlgo (objective_safe obj D cap (consOf params))) s hpol hfeas hnd hs0

/-- **powell_auto_policy_feasible**: `PowellMultiDimensions` — `init` (one evaluation), any number of
steps (a line minimisation and an evaluation per direction, the extrapolated point, possibly one more
line minimisation), the final evaluation of its `optimize` — on the objective of the harness: however
the run ends, every evaluation was made at a feasible point, and the reported parameters are feasible. -/
theorem powell_auto_policy_feasible (obj : List ℝ → ℝ) (D : Deriv ℝ) (cap : Option Nat) (fuel : Nat)
    (params : PList ℝ) (s : St (Fn ℝ) (Powell ℝ) ℝ) (hpol : s.core.policy ≠ .ignore)
    (hfeas : feasibleList params = true) (hnd : (params.map (·.name)).Nodup)
    (hs0 : FeasFn (consOf params) s.fn) :
    ROk (FeasFn (consOf params))
      (fun s1 => Spec.feasibleLog (consOf params) s1.fn.log = true ∧ Spec.feasibleReport s1.core.params = true ∧
        ∀ fuel', ROk (FeasFn (consOf params))
          (fun r => Spec.feasibleLog (consOf params) r.1.fn.log = true ∧ Spec.feasibleReport r.1.core.params = true)
          (powellOptimize (Fn.iface obj D cap) fuel' s1))
      ((powellAlgo (Fn.iface obj D cap) fuel).init s params) :=
  have hsafe := objective_safe obj D cap (consOf params)
  have hset := objective_safeSet obj D cap (consOf params)
  feasible_run (fun _ h => h) (fun _ h => h)
    (init_safe (powell_safeAlgo hsafe hset fuel) s params hs0 (applyPolicy_tied params s.core.policy hpol hfeas hnd))
    (fun fuel' s1 h1 => powellOptimize_safe hsafe hset fuel' s1 h1.1 h1.2)

/-- **cg_auto_policy_feasible**: the same for `ConjugateGradientMultiDimensions` — `init` (which sets
the function to the list it is given), any number of steps (a line minimisation and an evaluation). -/
theorem cg_auto_policy_feasible (obj : List ℝ → ℝ) (D : Deriv ℝ) (cap : Option Nat) (fuel : Nat)
    (params : PList ℝ) (s : St (Fn ℝ) (Cg ℝ) ℝ) (hpol : s.core.policy ≠ .ignore)
    (hfeas : feasibleList params = true) (hnd : (params.map (·.name)).Nodup)
    (hs0 : FeasFn (consOf params) s.fn) :
    ROk (FeasFn (consOf params))
      (fun s1 => Spec.feasibleLog (consOf params) s1.fn.log = true ∧ Spec.feasibleReport s1.core.params = true ∧
        ∀ fuel', ROk (FeasFn (consOf params))
          (fun r => Spec.feasibleLog (consOf params) r.1.fn.log = true ∧ Spec.feasibleReport r.1.core.params = true)
          ((cgAlgo (Fn.iface obj D cap) fuel).optimize fuel' s1))
      ((cgAlgo (Fn.iface obj D cap) fuel).init s params) :=
  have hset := objective_safeSet obj D cap (consOf params)
  have hstep := cg_safeStep (objective_safe obj D cap (consOf params)) hset fuel
  have hTp : Tied (consOf params) params := applyPolicy_tied params .keep (by decide) hfeas hnd
  feasible_run (fun _ h => h) (fun _ h => h)
    (init_safeS hstep s params (cgDoInit_safe hset _ params hs0 (applyPolicy_tied params s.core.policy hpol hfeas hnd) hTp))
    (fun fuel' s1 h1 => optimize_safeS hstep fuel' s1 h1.1 h1.2)

/-- **bfgs_auto_policy_feasible**: the same for `BfgsMultiDimensions` — `init` (bounds, the function set
to the list it is given), any number of steps (a line search and an evaluation; on a function
increase the optimiser's list is set back by `setValue` to the point the step started from and the
function is evaluated there). -/
theorem bfgs_auto_policy_feasible (obj : List ℝ → ℝ) (D : Deriv ℝ) (cap : Option Nat) (fuel : Nat)
    (params : PList ℝ) (s : St (Fn ℝ) (Bfgs ℝ) ℝ) (hpol : s.core.policy ≠ .ignore)
    (hfeas : feasibleList params = true) (hnd : (params.map (·.name)).Nodup)
    (hs0 : FeasFn (consOf params) s.fn) :
    ROk (FeasFn (consOf params))
      (fun s1 => Spec.feasibleLog (consOf params) s1.fn.log = true ∧ Spec.feasibleReport s1.core.params = true ∧
        ∀ fuel', ROk (FeasFn (consOf params))
          (fun r => Spec.feasibleLog (consOf params) r.1.fn.log = true ∧ Spec.feasibleReport r.1.core.params = true)
          ((bfgsAlgo (Fn.iface obj D cap) fuel).optimize fuel' s1))
      ((bfgsAlgo (Fn.iface obj D cap) fuel).init s params) :=
  have hset := objective_safeSet obj D cap (consOf params)
  have hstep := bfgs_safeStep (objective_safe obj D cap (consOf params)) hset fuel
  have hTp : Tied (consOf params) params := applyPolicy_tied params .keep (by decide) hfeas hnd
  feasible_run (fun _ h => h) (fun _ h => h)
    (init_safeS hstep s params (bfgsDoInit_safe hset _ params hs0 (applyPolicy_tied params s.core.policy hpol hfeas hnd) hTp))
    (fun fuel' s1 h1 => optimize_safeS hstep fuel' s1 h1.1 h1.2)

/-- non-vacuity: the hypotheses of the `*_auto_policy_feasible` theorems hold for a two-parameter list (parameter 0
constrained to `[0, 10]`, parameter 1 free), a Powell optimiser under the automatic policy and a
function at the feasible point `(4, 1)` with an empty log -/
example : let c : Interval ℝ := ⟨.fin 0, .fin 10, true, true, 0⟩
    let params : PList ℝ := [⟨0, ⟨4, 0, some c, false⟩⟩, ⟨1, ⟨1, 0, none, false⟩⟩]
    let s : St (Fn ℝ) (Powell ℝ) ℝ := ⟨{ freshCore 100 0 0 with policy := .auto }, ⟨[4, 1], []⟩, Powell.fresh⟩
    s.core.policy ≠ .ignore ∧ feasibleList params = true ∧ (params.map (·.name)).Nodup ∧ FeasFn (consOf params) s.fn := by
  intro c params s
  have h4 : c.isCorrect 4 = true := closed_isCorrect (by norm_num) (by norm_num)
  refine ⟨by simp [s], ?_, by simp [params], rfl, ?_⟩
  · simp only [params, feasibleList, List.all_cons, List.all_nil, Param.invOk, Param.accepts, h4, Bool.and_self]
  · simp only [s, params, consOf, Spec.feasiblePoint, Spec.accepts, List.map_cons, List.map_nil, List.all_cons, List.all_nil,
      List.getElem?_cons_zero, List.getElem?_cons_succ, h4, Bool.and_self]

end Bpp.C10
