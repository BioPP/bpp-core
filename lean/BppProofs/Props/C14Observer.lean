import BppProofs.Lemmas.ObserverWorld
import BppProofs.Props.C14
/-!
# C14, association layer (src/Bpp/Graph/AssociationGraphImplObserver.h)

`OInv g o` (Lemmas/Observer.lean): in observer `o` of graph `g` the four (slot vector, map)
pairs — graph id ↔ node object, graph id ↔ edge object, index ↔ node object, index ↔ edge
object — are inverse of each other (so every object has at most one id and one index, and
back), and every associated id is live in the graph.
-/
namespace Bpp.C14
open Bpp Bpp.Graph Bpp.AL

/-- the predicate the driver evaluates on every observer state reported by the implementation -/
theorem obs_check_is_invariant (g : G) (o : Obs) : o.check g = none ↔ OInv g o := Obs.check_iff g o

theorem assoc_empty (g : G) : OInv g {} := oinv_empty g

/-- **assoc_bijective**, observer-local operations: association, dissociation, explicit and
allocated indices, `setEdgeLinking` — when they succeed the maps stay inverse of each other;
when they raise the observer is unchanged (they return no new state) -/
theorem assoc_bijective_local (g : G) (o : Obs) (hi : OInv g o) :
    (∀ a id o', World.associateNode g o a id = .ok o' → OInv g o') ∧
    (∀ x e o', World.associateEdge g o x e = .ok o' → OInv g o') ∧
    (∀ a o', World.dissociateNodeO o a = .ok o' → OInv g o') ∧
    (∀ x o', World.dissociateEdgeO o x = .ok o' → OInv g o') ∧
    (∀ a i o', World.setNodeIndexO o a i = .ok o' → OInv g o') ∧
    (∀ x i o', World.setEdgeIndexO o x i = .ok o' → OInv g o') ∧
    (∀ a i o', World.addNodeIndexO o a = .ok (i, o') → OInv g o' ∧ find a o'.Ni = some i ∧ Vec.get o.iN i = none) ∧
    (∀ x i o', World.addEdgeIndexO o x = .ok (i, o') → OInv g o' ∧ find x o'.Ei = some i ∧ Vec.get o.iE i = none) ∧
    (∀ a b x o', World.setEdgeLinkingO g o a b x = .ok o' → OInv g o') :=
  ⟨fun _ _ _ h => associateNode_inv hi h, fun _ _ _ h => associateEdge_inv hi h,
   fun _ _ h => dissociateNode_inv hi h, fun _ _ h => dissociateEdge_inv hi h,
   fun _ _ _ h => setNodeIndex_inv hi h, fun _ _ _ h => setEdgeIndex_inv hi h,
   fun _ _ _ h => addNodeIndex_inv hi h, fun _ _ _ h => addEdgeIndex_inv hi h,
   fun _ _ _ _ h => setEdgeLinking_inv hi h⟩

/-- an allocated index is the first free one -/
theorem addNodeIndex_first_free (o o' : Obs) (a i : Nat) (h : World.addNodeIndexO o a = .ok (i, o')) :
    Vec.get o.iN i = none ∧ ∀ j, j < i → (Vec.get o.iN j).isSome = true := by
  unfold World.addNodeIndexO at h
  split at h; · cases h
  injection h with h; injection h with h1 _; subst h1
  exact ⟨(Vec.firstFree_spec o.iN).2.1, (Vec.firstFree_spec o.iN).2.2⟩

/-- **assoc_bijective**, notifications: when the graph loses edge `e` (resp. node `n`) and tells
the observer, the maps stay inverse of each other and every associated id is live in the new graph -/
theorem assoc_bijective_notified (g g' : G) (o : Obs) (hi : OInv g o) :
    (∀ e, (∀ n, g.hasNode n = true → g'.hasNode n = true) →
          (∀ e', e' ≠ e → g.hasEdge e' = true → g'.hasEdge e' = true) → OInv g' (o.deletedEdge e)) ∧
    (∀ n, (∀ n', n' ≠ n → g.hasNode n' = true → g'.hasNode n' = true) →
          (∀ e, g.hasEdge e = true → g'.hasEdge e = true) → OInv g' (o.deletedNode n)) :=
  ⟨fun _ hn he => deletedEdge_inv hi hn he, fun _ hn he => deletedNode_inv hi hn he⟩

/-- **deleted_forgotten**: the object of a deleted node (edge) is afterwards in none of the four
node (edge) maps: not a key of object→id nor object→index, in no slot of id→object nor index→object -/
theorem deleted_forgotten (g : G) (o : Obs) (hi : OInv g o) :
    (∀ n a, Vec.get o.gN n = some a →
      Forgotten (o.deletedNode n).gN (o.deletedNode n).Ng a ∧ Forgotten (o.deletedNode n).iN (o.deletedNode n).Ni a) ∧
    (∀ e x, Vec.get o.gE e = some x →
      Forgotten (o.deletedEdge e).gE (o.deletedEdge e).Eg x ∧ Forgotten (o.deletedEdge e).iE (o.deletedEdge e).Ei x) :=
  ⟨fun _ _ h => deletedNode_forgets hi h, fun _ _ h => deletedEdge_forgets hi h⟩

/-- unfolding of `World.edgeEnds` (true by definition; the substantive statements — totality, live
end points, agreement with the graph, the objects returned are *the* objects of those nodes — are
`endpoints_reported` / `linking_edge_reported` in `Props/C14Report.lean`): `getNodes(edgeObject)` are the objects of the top and bottom of the
associated edge, and `getEdgeLinking(A,B)` is the object of the graph's edge between the ids of A and B -/
theorem edgeEnds_unfold (w : World) (o : Obs) (x : Obj) (e : Nat) (hx : find x o.Eg = some e) :
    World.edgeEnds w o x = (w.g.getNodes e).map (fun p => (o.nodeFromGid p.1, o.nodeFromGid p.2)) := by
  simp [World.edgeEnds, hx]

theorem edgeLinking_unfold (w : World) (o : Obs) (a b : Obj) (ia ib : Nat)
    (ha : find a o.Ng = some ia) (hb : find b o.Ng = some ib) :
    World.edgeLinking w o a b = (w.g.getEdge ia ib).map o.edgeFromGid := by
  simp [World.edgeLinking, ha, hb]

/-! ## Over all histories of a graph and its observers -/

theorem winv_init (d : Bool) : WInv (World.init d) := by
  refine ⟨consistent_empty d, rfl, ?_⟩
  intro k o hk
  simp only [World.init, World.getObs] at hk
  match k, hk with
  | 0, hk => simp at hk; subst hk; exact assoc_empty _
  | 1, hk => simp at hk
  | 2, hk => simp at hk
  | k + 3, hk => simp at hk

theorem all_world {α : Type} {w : World} {r : OOut α} (hw : WInv w) (h : r.All WInv) : WInv (r.world w) :=
  Graph.all_world hw h

theorem winv_step (w : World) (hw : WInv w) (op : WOp) : WInv (w.step op) := by
  cases op with
  | graph op => exact (G.applyR_outcome hw.graph op).winv hw
  | createNode k a => exact all_world hw ((world_createNode_step w k a).inv hw)
  | createNodeFrom k o a x => exact all_world hw ((world_createNodeFrom_step w k o a x).inv hw)
  | link k a b x => exact all_world hw ((world_link_step w k a b x).inv hw)
  | unlink k a b => exact all_world hw ((world_unlink_step w k a b).inv hw)
  | deleteNode k a => exact all_world hw ((world_deleteNode_step w k a).inv hw)
  | associateNode k a id => exact localOp_inv hw k _ fun _ _ hi h => associateNode_inv hi h
  | associateEdge k x e => exact localOp_inv hw k _ fun _ _ hi h => associateEdge_inv hi h
  | dissociateNode k a => exact localOp_inv hw k _ fun _ _ hi h => dissociateNode_inv hi h
  | dissociateEdge k x => exact localOp_inv hw k _ fun _ _ hi h => dissociateEdge_inv hi h
  | setNodeIndex k a i => exact localOp_inv hw k _ fun _ _ hi h => setNodeIndex_inv hi h
  | setEdgeIndex k x i => exact localOp_inv hw k _ fun _ _ hi h => setEdgeIndex_inv hi h
  | setEdgeLinking k a b x => exact localOp_inv hw k _ fun _ _ hi h => setEdgeLinking_inv hi h
  | addNodeIndex k a =>
    refine localOp_inv hw k _ fun o o' hi h => ?_
    rcases hr : World.addNodeIndexO o a with kd | ⟨i, o2⟩ <;> rw [hr] at h <;> cases h
    exact (addNodeIndex_inv hi hr).1
  | addEdgeIndex k x =>
    refine localOp_inv hw k _ fun o o' hi h => ?_
    rcases hr : World.addEdgeIndexO o x with kd | ⟨i, o2⟩ <;> rw [hr] at h <;> cases h
    exact (addEdgeIndex_inv hi hr).1
  | copy j k => exact all_world hw ((world_copy_step w j k).step.inv hw)
  | drop k =>
    simp only [World.step]
    split
    · exact hw
    · exact world_drop_inv hw k

/-- **assoc_bijective**, over all histories: after any sequence of operations on a graph and up to
three observers of it (creations, links, unlinks, deletions through any observer or directly on the
shared graph, direction changes, associations, explicit and allocated indices, observer copies and
destructions — each call succeeding or raising), the graph is consistent and in every observer the
object↔id and object↔index maps are inverse of each other with every associated id live in the graph -/
theorem assoc_bijective (d : Bool) (ops : List WOp) : WInv ((World.init d).run ops) :=
  foldl_ind WInv _ (fun w op hw => winv_step w hw op) ops _ (winv_init d)

/-- … in particular no object is associated to a node or edge that has been deleted, whoever
deleted it (**deleted_forgotten**, every map of every observer) -/
theorem no_dead_association (d : Bool) (ops : List WOp) (k : Nat) (o : Obs)
    (hk : ((World.init d).run ops).getObs k = some o) :
    (∀ a id, find a o.Ng = some id → ((World.init d).run ops).g.hasNode id = true) ∧
    (∀ x e, find x o.Eg = some e → ((World.init d).run ops).g.hasEdge e = true) ∧
    (∀ id a, Vec.get o.gN id = some a → ((World.init d).run ops).g.hasNode id = true) ∧
    (∀ e x, Vec.get o.gE e = some x → ((World.init d).run ops).g.hasEdge e = true) := by
  have hi := (assoc_bijective d ops).obs k o hk
  exact ⟨hi.n_live, hi.e_live, fun id a h => hi.n_live a id (hi.nodes.fwd id a h), fun e x h => hi.e_live x e (hi.edges.fwd e x h)⟩

/-- **copy_same_relations**: a copy holds the same object↔id pairs
and the same index for every registered object, and is in order against the shared graph -/
theorem copy_same_relations (g : G) (o : Obs) (hi : OInv g o) :
    OInv g (World.copyObs o) ∧ (World.copyObs o).Ng = o.Ng ∧ (World.copyObs o).Eg = o.Eg ∧
    (∀ a, find a (World.copyObs o).Ni = if (find a o.Ng).isSome then find a o.Ni else none) ∧
    (∀ x, find x (World.copyObs o).Ei = if (find x o.Eg).isSome then find x o.Ei else none) :=
  ⟨copyObs_inv hi, rfl, rfl, fun a => find_restrict o.Ng o.Ni hi.nodes.asc a, fun x => find_restrict o.Eg o.Ei hi.edges.asc x⟩

end Bpp.C14
