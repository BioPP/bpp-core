import BppProofs.Lemmas.Describe
import BppProofs.Lemmas.DescribeRat
/-!
# C01 (description syntax) — `IntervalConstraint::readDescription` / `getDescription`
(src/Bpp/Numeric/Constraints.h:234-272, repaired: blanks around the bounds are dropped)

"A description in the documented bracket syntax parses to exactly the interval it denotes":
`read_documented`.  "What `getDescription` writes is read back": `read_render`.
The value and the decimal rendering of a number are libstdc++'s (`istream >> double`,
`ostream << double`); they enter through the class `NumText`, and the theorems need only the law
`NumLaw` of it (rendering then parsing gives the number back; a rendering consists of digits,
`-` and `.`).  The model's `Rat` instance of `NumText` is tied to the C++ by correspondence only.
-/
namespace Bpp.C01
open Bpp Bpp.Describe

/-- a bound text: free of the three delimiters, no blank at either end -/
def CleanText (L : List Char) : Prop :=
  (∀ c ∈ L, (c == ';') = false ∧ isBracket c = false) ∧ NoEdgeSpace L

section
variable {α : Type} [NumText α]

/-- the lower-bound text `L` denotes the bound `lo`: `-inf`, or a number `toDouble` accepts -/
def LoText (L : List Char) (lo : Bound α) : Prop :=
  (L = ['-', 'i', 'n', 'f'] ∧ lo = .negInf) ∨
  (L ≠ ['-', 'i', 'n', 'f'] ∧ ∃ x : α, NumText.parseNum L = NumParse.ok x ∧ lo = .fin x)

/-- the upper-bound text `H` denotes the bound `hi`: `+inf`, `inf`, or a number -/
def HiText (H : List Char) (hi : Bound α) : Prop :=
  ((H = ['+', 'i', 'n', 'f'] ∨ H = ['i', 'n', 'f']) ∧ hi = .posInf) ∨
  (H ≠ ['+', 'i', 'n', 'f'] ∧ H ≠ ['i', 'n', 'f'] ∧ ∃ x : α, NumText.parseNum H = NumParse.ok x ∧ hi = .fin x)

/-- Syntax: in `b0 ws L ws ; ws H ws b1 rest` (brackets `b0`, `b1`; blanks `ws`; bound texts free of
delimiters; anything after the closing bracket) the flags are read from the brackets and the two
texts are exactly what is interpreted. -/
theorem read_syntax (d : Interval α) (b0 b1 : Char) (ws1 L ws2 ws3 H ws4 rest : List Char)
    (hb0 : b0 = '[' ∨ b0 = ']') (hb1 : b1 = '[' ∨ b1 = ']')
    (hws : ∀ c ∈ ws1 ++ ws2 ++ ws3 ++ ws4, isSpace c = true)
    (hL : CleanText L) (hH : CleanText H) :
    readDescription d (b0 :: (ws1 ++ L ++ ws2 ++ ';' :: (ws3 ++ H ++ ws4 ++ b1 :: rest))) =
      readCore d (b0 == '[') (b1 == ']') L H := by
  have w : ∀ c, c ∈ ws1 ∨ c ∈ ws2 ∨ c ∈ ws3 ∨ c ∈ ws4 → isSpace c = true := fun c h =>
    hws c (by simpa only [List.mem_append, or_assoc] using h)
  have w1 : ∀ c ∈ ws1, isSpace c = true := fun c hc => w c (Or.inl hc)
  have w2 : ∀ c ∈ ws2, isSpace c = true := fun c hc => w c (Or.inr (Or.inl hc))
  have w3 : ∀ c ∈ ws3, isSpace c = true := fun c hc => w c (Or.inr (Or.inr (Or.inl hc)))
  have w4 : ∀ c ∈ ws4, isSpace c = true := fun c hc => w c (Or.inr (Or.inr (Or.inr hc)))
  have hsp : ∀ {c}, isSpace c = true → (c == ';') = false ∧ isBracket c = false := fun h =>
    ⟨beq_false_of_ne (space_not_delim h).1, (space_not_delim h).2⟩
  have hX : ∀ c ∈ ws1 ++ L ++ ws2, (c == ';') = false ∧ isBracket c = false := fun c hc => by
    rcases List.mem_append.1 hc with hc | hc
    · rcases List.mem_append.1 hc with hc | hc
      exacts [hsp (w1 c hc), hL.1 c hc]
    · exact hsp (w2 c hc)
  have hY : ∀ c ∈ ws3 ++ H ++ ws4, isBracket c = false := fun c hc => by
    rcases List.mem_append.1 hc with hc | hc
    · rcases List.mem_append.1 hc with hc | hc
      exacts [(hsp (w3 c hc)).2, (hH.1 c hc).2]
    · exact (hsp (w4 c hc)).2
  have := read_extract d b0 b1 (ws1 ++ L ++ ws2) (ws3 ++ H ++ ws4) rest hb0
    (by rcases hb1 with rfl | rfl <;> rfl) hX hY
  rwa [trim_pad ws1 L ws2 w1 w2 hL.2, trim_pad ws3 H ws4 w3 w4 hH.2] at this

/-- interpretation of the two texts -/
theorem readCore_ok (d : Interval α) (il iu : Bool) (L H : List Char) (lo hi : Bound α)
    (hlo : LoText L lo) (hhi : HiText H hi) :
    readCore d il iu L H = .done ⟨lo, hi, il, iu, d.prec⟩ false := by
  unfold readCore
  rcases hlo with ⟨hL, rfl⟩ | ⟨hL, x, hx, rfl⟩
  · rcases hhi with ⟨hH, rfl⟩ | ⟨hH1, hH2, y, hy, rfl⟩
    · rcases hH with hH | hH <;> simp [hL, hH]
    · simp [hL, hH1, hH2, hy]
  · rcases hhi with ⟨hH, rfl⟩ | ⟨hH1, hH2, y, hy, rfl⟩
    · rcases hH with hH | hH <;> simp [hL, hH, hx]
    · simp [hL, hH1, hH2, hx, hy]

/-- **read_documented**: a description in the documented bracket syntax — opening bracket, lower
bound (`-inf` or a number), `;`, upper bound (`+inf`, `inf` or a number), closing bracket, blanks
allowed around the bounds — parses, without raising, to exactly the interval it denotes: bounds
from the two texts, a bound included iff its bracket faces inwards; the precision is kept. -/
theorem read_documented (d : Interval α) (b0 b1 : Char) (ws1 L ws2 ws3 H ws4 rest : List Char)
    (lo hi : Bound α)
    (hb0 : b0 = '[' ∨ b0 = ']') (hb1 : b1 = '[' ∨ b1 = ']')
    (hws : ∀ c ∈ ws1 ++ ws2 ++ ws3 ++ ws4, isSpace c = true)
    (hL : CleanText L) (hH : CleanText H) (hlo : LoText L lo) (hhi : HiText H hi) :
    readDescription d (b0 :: (ws1 ++ L ++ ws2 ++ ';' :: (ws3 ++ H ++ ws4 ++ b1 :: rest))) =
      .done ⟨lo, hi, b0 == '[', b1 == ']', d.prec⟩ false := by
  rw [read_syntax d b0 b1 ws1 L ws2 ws3 H ws4 rest hb0 hb1 hws hL hH]
  exact readCore_ok d _ _ L H lo hi hlo hhi

/-- a number text the lower bound raises on makes the call raise, with only the flags written
(the partial update is real) -/
theorem read_rejects (d : Interval α) (il iu : Bool) (L H : List Char)
    (hL : L ≠ ['-', 'i', 'n', 'f']) (hrej : (NumText.parseNum L : NumParse α) = .reject) :
    readCore d il iu L H = .done { d with inclLo := il, inclHi := iu } true := by
  unfold readCore; simp [hL, hrej]

/-- the law of number texts the rendering theorem needs, for the numbers satisfying `R` -/
structure NumLaw (R : α → Prop) : Prop where
  render_parse : ∀ x t, R x → NumText.renderNum? x = some t → (NumText.parseNum t : NumParse α) = .ok x
  render_chars : ∀ x t, R x → NumText.renderNum? x = some t →
    t ≠ [] ∧ ∀ c ∈ t, isDigit c = true ∨ c = '-' ∨ c = '.'

theorem numchar_clean {t : List Char} (hne : t ≠ []) (h : ∀ c ∈ t, isDigit c = true ∨ c = '-' ∨ c = '.') :
    CleanText t ∧ t ≠ ['-', 'i', 'n', 'f'] ∧ t ≠ ['+', 'i', 'n', 'f'] ∧ t ≠ ['i', 'n', 'f'] := by
  -- every character of `t` passes a test that the blanks, the delimiters and the letters fail
  have ne : ∀ {c}, c ∈ t → ∀ k, (isDigit k || k == '-' || k == '.') = false → c ≠ k := fun {c} hc k hk =>
    ne_of_true_false (f := fun x => isDigit x || x == '-' || x == '.')
      (by rcases h c hc with h | rfl | rfl <;> [(rw [h]; rfl); rfl; rfl]) hk
  have nsp : ∀ {c}, c ∈ t → isSpace c = false := fun hc => Bool.eq_false_iff.2 fun hs =>
    ne hc _ (isSpace_elim hs (P := fun k => (isDigit k || k == '-' || k == '.') = false) (by decide)) rfl
  refine ⟨⟨fun c hc => ⟨beq_false_of_ne (ne hc _ (by decide)), ?_⟩, fun c hh => nsp (List.mem_of_mem_head? hh),
    fun c hh => nsp (List.mem_of_mem_getLast? hh)⟩, ?_, ?_, ?_⟩
  · unfold isBracket
    rw [beq_false_of_ne (ne hc _ (by decide)), beq_false_of_ne (ne hc _ (by decide))]; rfl
  all_goals rintro rfl; exact ne (c := 'i') (by decide) 'i' (by decide) rfl

/-- **read_render**: what `getDescription` writes for an interval with proper bounds (lower bound
not `+inf`, upper not `-inf`) whose finite bounds have a modelled rendering is read back — by the
string constructor or by `readDescription` on any object — as the same bounds and flags. -/
theorem read_render (R : α → Prop) (law : NumLaw R) (c d : Interval α) (s : List Char)
    (hp : c.proper = true) (hR : ∀ x, (c.lo = .fin x ∨ c.hi = .fin x) → R x) (hs : render? c = some s) :
    readDescription d s = .done ⟨c.lo, c.hi, c.inclLo, c.inclHi, d.prec⟩ false := by
  unfold render? at hs
  cases hl : renderLo? c.lo with
  | none => rw [hl] at hs; cases hs
  | some L =>
    cases hh : renderHi? c.hi with
    | none => rw [hl, hh] at hs; cases hs
    | some H =>
      rw [hl, hh] at hs
      have hs' := (Option.some.inj hs).symm
      -- the two texts
      have hLo : CleanText L ∧ LoText L c.lo := by
        cases hlo : c.lo with
        | posInf => unfold Interval.proper at hp; rw [hlo] at hp; simp at hp
        | negInf =>
          rw [hlo] at hl; simp only [renderLo?] at hl; cases hl
          refine ⟨⟨by decide, by decide, by decide⟩, Or.inl ⟨rfl, rfl⟩⟩
        | fin x =>
          rw [hlo] at hl; simp only [renderLo?] at hl
          obtain ⟨hne, hch⟩ := law.render_chars x L (hR x (Or.inl hlo)) hl
          obtain ⟨hcl, h1, _, _⟩ := numchar_clean hne hch
          exact ⟨hcl, Or.inr ⟨h1, x, law.render_parse x L (hR x (Or.inl hlo)) hl, rfl⟩⟩
      have hHi : CleanText H ∧ HiText H c.hi := by
        cases hhi : c.hi with
        | negInf => unfold Interval.proper at hp; rw [hhi] at hp; simp at hp
        | posInf =>
          rw [hhi] at hh; simp only [renderHi?] at hh; cases hh
          refine ⟨⟨by decide, by decide, by decide⟩, Or.inl ⟨Or.inl rfl, rfl⟩⟩
        | fin x =>
          rw [hhi] at hh; simp only [renderHi?] at hh
          obtain ⟨hne, hch⟩ := law.render_chars x H (hR x (Or.inr hhi)) hh
          obtain ⟨hcl, _, h2, h3⟩ := numchar_clean hne hch
          exact ⟨hcl, Or.inr ⟨h2, h3, x, law.render_parse x H (hR x (Or.inr hhi)) hh, rfl⟩⟩
      -- the rendering is an instance of the documented syntax, whatever the flags
      have e : s = (if c.inclLo then '[' else ']') :: ((if c.inclLo then [' '] else []) ++ L ++ [] ++
          ';' :: ([' '] ++ H ++ [] ++ (if c.inclHi then ']' else '[') :: (if c.inclHi then [' '] else []))) := by
        rw [hs']; cases c.inclLo <;> cases c.inclHi <;> simp
      rw [e, read_documented d _ _ _ L [] [' '] H [] _ c.lo c.hi (by cases c.inclLo <;> simp)
        (by cases c.inclHi <;> simp) (by cases c.inclLo <;> decide) hLo.1 hHi.1 hLo.2 hHi.2]
      cases c.inclLo <;> cases c.inclHi <;> rfl

end

/-- `read_render` failed of the code as found: the description `getDescription` writes for `[0,1]`
(`"[ 0; 1] "`) made `readDescription` raise, after writing the flags — the text `" 0"` reached
`toDouble` with its blank -/
theorem legacy_read_render_witness (d : Interval Rat) :
    Legacy.readDescription d ['[', ' ', '0', ';', ' ', '1', ']', ' '] =
      .done { d with inclLo := true, inclHi := true } true := by
  rfl

/-- the `Rat` interpretation (the one the driver runs descriptions in) satisfies the law, for the
rationals that are doubles -/
theorem numLaw_rat : NumLaw (α := Rat) (fun q => isDouble q = true) where
  render_parse := fun x t hx h => (renderRat_parse x hx t h).1
  render_chars := fun x t hx h => (renderRat_parse x hx t h).2

/-- **read_render** at `Rat`, without hypothesis on the number texts: for every interval with
proper bounds that are doubles, whatever `getDescription` is modelled to write is read back as the
same bounds and flags -/
theorem read_render_rat (c d : Interval Rat) (s : List Char) (hp : c.proper = true)
    (hdbl : ∀ x, (c.lo = .fin x ∨ c.hi = .fin x) → isDouble x = true) (hs : render? c = some s) :
    readDescription d s = .done ⟨c.lo, c.hi, c.inclLo, c.inclHi, d.prec⟩ false :=
  read_render _ numLaw_rat c d s hp hdbl hs

/-! ## the number texts of the `Rat` interpretation -/

/-- the recogniser deciding whether a bound text makes `readDescription` raise is C17's
transcription of `TextTools::isDecimalNumber(s, '.', 'e')` (the repaired one: at least one mantissa
digit), so C17's grammar theorem (`Bpp.C17.accepts_iff_grammar`) says which texts are accepted -/
theorem isDecimalNumber_is_c17 (l : List Char) :
    isDecimalNumber l = Bpp.Text.Number.isDecimalNumber '.' 'e' l := isDecimalNumber_eq_number l

/-- a text `toDouble` refuses is refused by the model: a sign, a separator or an exponent alone
(the texts the repair of the recognisers changed), blanks inside, two separators …; the lower
bound `-` makes `readDescription` raise with only the flags written -/
theorem parseRat_rejects_digitless :
    parseRat ['-'] = .reject ∧ parseRat ['.'] = .reject ∧ parseRat ['-', '.'] = .reject ∧
    parseRat ['e', '5'] = .reject ∧ parseRat ['1', 'e'] = .reject ∧ parseRat ['1', '.', '2', '.', '3'] = .reject := by
  decide

theorem read_digitless_raises (d : Interval Rat) :
    readDescription d ['[', '-', ';', '1', ']'] = .done { d with inclLo := true, inclHi := true } true := by
  rfl

/-- beyond plain decimals: an accepted text in exponent / short form whose exact value is a double
is read to that value (`1e2` = 100, `25e-1` = 5/2, `.5` = 1/2, `-1.` = -1); one whose value is not
a double (`0.1`, `1e-3`: the library's answer is libc's rounding of it) is `unmodelled` -/
theorem parseRat_beyond_plain :
    parseRat ['1', 'e', '2'] = .ok 100 ∧ parseRat ['2', '5', 'e', '-', '1'] = .ok (5 / 2) ∧
    parseRat ['.', '5'] = .ok (1 / 2) ∧ parseRat ['-', '1', '.'] = .ok (-1) ∧
    parseRat ['0', '.', '1'] = .unmodelled ∧ parseRat ['1', 'e', '-', '3'] = .unmodelled := by
  refine ⟨?_, ?_, ?_, ?_, ?_, ?_⟩ <;> decide +kernel

end Bpp.C01
