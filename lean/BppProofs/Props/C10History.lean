import BppProofs.Lemmas.OptimHistory
import BppProofs.Props.C10LinePolicy
import BppProofs.Props.C10Policy2
/-!
# C10, part 5c — the same optimiser object used again

The property quantifies over uses of an optimiser; nothing says an object is used once.  A client may
call `setConstraintPolicy`, `setMaximumNumberOfEvaluations` and `init` with another list — other
constraints, none, another start — on an object that has already run, and the clause "under the
automatic policy the objective is never evaluated outside its parameters' constraints" is about the
constraints of the list of the run in progress.

Two things can carry state from one run into the next:

* the optimiser's own members (the template's, the class's: directions of Powell, inverse Hessian of
  BFGS, vertices of the simplex, stop-condition state, counters, the members of the one-dimensional
  optimisers and of the optimisers a `MetaOptimizer` / the coordinate-wise optimisers hold).  The per-run
  theorems (`*_auto_policy_feasible`) are stated for **every** state `s` of the object, reachable or not:
  `history_auto_policy_feasible` folds them over a history of runs;
* the `DirectionFunction` object `f1dim_` that Powell, the conjugate gradient optimiser and BFGS own and
  hand to every `lineMinimization` / `lineSearch` of every run.  The optimisers' models build a fresh one
  per search; `line_minimization_reuse` / `line_search_reuse` justify that: `DirectionFunction::init`
  rebuilds `p_`, `xi_`, `nbEval_` **and the working point `xt_`** from the list it is given — its
  constraints, its auto-correcting wrappers — whatever the object held (`dirfn_reinit_rebuilds`), and the
  one member that survives, `params_`, is overwritten by the first evaluation before anything reads it.
  (A `DirectionFunction` that kept `xt_` when the number of parameters is unchanged — constraints and
  wrappers of the *first* list it ever searched along — makes `dirfn_reinit_rebuilds` false, and with it the
  second run of an object first used under `ignore`, then under `auto` with a box.)
-/
namespace Bpp.C10
open Bpp Bpp.Optim

section reuse
set_option linter.unusedSectionVars false
variable {α : Type} [Scalar α] {F : Type}

/-- **dirfn_reinit_rebuilds** — a *transcription sentinel*: it holds by definition of `DirFn.reinit` (the
proof is `rfl` field by field) and says nothing about DirectionFunction.cpp beyond that transcription
(DirectionFunction.cpp:46-56, tied by the differential check).  It is kept because it names, in one
place, what the re-use theorems below rest on, and because a transcription of `init` that kept `xt_`
(the seeded change C10-b1) makes it false.  The theorems with content are `line_minimization_reuse` and
`line_search_reuse` (`params_`, the one member that survives, is dead).
`DirectionFunction::init(p, xi)` on an object `old` left by any earlier
searches — other lists, other constraints, another policy, another dimension: the working point `xt_`
and `p_` are the list given *now* under the policy set *now*, `xi_` the direction given now, the counter
is 0; the object differs from a fresh one by `params_` only. -/
theorem dirfn_reinit_rebuilds (old : DirFn F α) (fn : F) (pol : Policy) (p : PList α) (xi : List α) :
    (DirFn.reinit old fn pol p xi).xt = applyPolicy pol p ∧
    (DirFn.reinit old fn pol p xi).p = applyPolicy pol p ∧
    (DirFn.reinit old fn pol p xi).xi = xi ∧
    (DirFn.reinit old fn pol p xi).nbEval = 0 ∧
    DirFn.reinit old fn pol p xi = { DirFn.init fn pol p xi with params := old.params } :=
  ⟨rfl, rfl, rfl, rfl, rfl⟩

/-- **line_minimization_reuse**: `lineMinimization` with a `DirectionFunction` object that has been used
before — whatever it holds — returns what `lineMinimization` with a fresh object returns (function,
parameters, direction, number of evaluations; exceptions included), for every function, every list,
every direction. -/
theorem line_minimization_reuse (I : FunI F α) (fuel : Nat) (old : DirFn F α) (fn : F) (parameters : PList α) (xi : List α) :
    (lineMinimizationOn I fuel old fn parameters xi).map Prod.fst = lineMinimization I fuel fn parameters xi := by
  unfold lineMinimizationOn
  rw [DirFn.reinit_eq, lineMinimizationFrom_params_dead, lineMinimization_eq_from]

/-- **line_search_reuse**: the same for `lineSearch` (BFGS). -/
theorem line_search_reuse (I : FunI F α) (fuel : Nat) (old : DirFn F α) (fn : F) (parameters : PList α) (xi gradient : List α) :
    (lineSearchOn I fuel old fn parameters xi gradient).map Prod.fst = lineSearch I fuel fn parameters xi gradient := by
  unfold lineSearchOn
  rw [DirFn.reinit_eq, lineSearchFrom_params_dead, lineSearch_eq_from]

/-- **line_minimization_reuse_object**: and the object it leaves does not depend on the one it found -/
theorem line_minimization_reuse_object (I : FunI F α) (fuel : Nat) (old old' : DirFn F α) (fn : F) (parameters : PList α) (xi : List α) :
    lineMinimizationOn I fuel old fn parameters xi = lineMinimizationOn I fuel old' fn parameters xi := by
  unfold lineMinimizationOn
  rw [DirFn.reinit_eq, DirFn.reinit_eq, lineMinimizationFrom_params_dead,
    lineMinimizationFrom_params_dead I fuel (DirFn.init fn .auto parameters xi) old'.params]

end reuse

/-- non-vacuity: an object left by a search in dimension 1 with an unconstrained parameter (first use
under `ignore`) and a second search along `(1)` with the parameter constrained to `[0, 1]`: `init` makes
the working point an auto-correcting copy with that constraint -/
example : let c : Interval ℝ := ⟨.fin 0, .fin 1, true, true, 0⟩
    let old : DirFn (Fn ℝ) ℝ := { inner := ⟨[5], []⟩, params := [⟨0, ⟨2, 0, none, false⟩⟩], p := [⟨0, ⟨5, 0, none, true⟩⟩],
                                  xt := [⟨0, ⟨7, 0, none, true⟩⟩], xi := [1], nbEval := 12 }
    (DirFn.reinit old ⟨[0.5], []⟩ .auto [⟨0, ⟨0.5, 0, some c, false⟩⟩] [1]).xt = [⟨0, ⟨0.5, 0, some c, true⟩⟩] := by
  intro c old
  simp [DirFn.reinit, applyPolicy, Param.toAuto]

/-! ### histories of runs -/

/-- what the per-run theorems say of an optimiser class `O` on lists satisfying `Adm`: from **every**
state `s` of the object whose policy is not `ignore`, on a function whose log and own point are
feasible for the list's constraints, `init` and then `optimize` — however they end — leave a feasible
log -/
def PerRun {τ : Type} (O : Spec.Obj τ ℝ) (Adm : PList ℝ → Prop) : Prop :=
  ∀ (params : PList ℝ) (s : St (Fn ℝ) τ ℝ), s.core.policy ≠ .ignore → Adm params → FeasFn (consOf params) s.fn →
    ROk (FeasFn (consOf params))
      (fun s1 => Spec.feasibleLog (consOf params) s1.fn.log = true ∧ Spec.feasibleReport s1.core.params = true ∧
        ∀ fuel', ROk (FeasFn (consOf params))
          (fun r => Spec.feasibleLog (consOf params) r.1.fn.log = true ∧ Spec.feasibleReport r.1.core.params = true)
          (O.optimize fuel' s1))
      (O.init s params)

/-- one run on an existing object, in whatever state the earlier runs have left it -/
theorem run_auto_policy_feasible {τ : Type} (O : Spec.Obj τ ℝ) (Adm : PList ℝ → Prop) (h : PerRun O Adm)
    (s : St (Fn ℝ) τ ℝ) (r : Spec.Run ℝ) (hpol : r.policy ≠ .ignore) (hadm : Adm r.params)
    (hpt : Spec.feasiblePoint (consOf r.params) s.fn.point = true) :
    Spec.feasibleLog (consOf r.params) (O.run s r).2 = true := by
  unfold Spec.Obj.run
  refine (h r.params (Spec.Obj.prepare s r) hpol hadm ⟨rfl, hpt⟩).elim (fun _ he => he.1) fun s1 h1 => ?_
  dsimp only
  exact (h1.2.2 r.fuel).elim (fun _ he => he.1) fun _ h2 => h2.1

/-- **history_auto_policy_feasible** (every optimiser class with a per-run theorem): any number of runs
on the same object — each with its own policy, cap, list (constraints, start) —; for every run that
takes place under a policy other than `ignore` with an admissible list, the function being at a point
feasible for that list when the run begins, every point the objective is evaluated at *during that run*
satisfies the constraints of *that run's* list — whatever the earlier runs were (other policies, other
boxes, none; ended normally), and however this one ends. -/
theorem history_auto_policy_feasible {τ : Type} (O : Spec.Obj τ ℝ) (Adm : PList ℝ → Prop) (h : PerRun O Adm)
    (runs : List (Spec.Run ℝ)) (s0 : St (Fn ℝ) τ ℝ) :
    ∀ e ∈ O.history s0 runs, e.1.policy ≠ .ignore → Adm e.1.params →
      Spec.feasiblePoint (consOf e.1.params) e.2.1 = true →
      Spec.feasibleLog (consOf e.1.params) e.2.2 = true := by
  induction runs generalizing s0 with
  | nil => intro e he; cases he
  | cons r rs ih =>
    intro e he hpol hadm hpt
    unfold Spec.Obj.history at he
    rcases List.mem_cons.1 he with rfl | he
    · exact run_auto_policy_feasible O Adm h s0 r hpol hadm hpt
    · cases ho : (O.run s0 r).1 with
      | none => rw [ho] at he; cases he
      | some s' => rw [ho] at he; exact ih s' e he hpol hadm hpt

/-- the admissible lists of the per-run theorems: feasible values, distinct names -/
def AdmList (params : PList ℝ) : Prop := feasibleList params = true ∧ (params.map (·.name)).Nodup

section instances
variable (obj : List ℝ → ℝ) (D : Deriv ℝ) (cap : Option Nat) (fuel : Nat)

theorem golden_per_run : PerRun ⟨(gssAlgo (Fn.iface obj D cap) fuel).init, gssOptimize (Fn.iface obj D cap)⟩ AdmList :=
  fun params s hp ha hs => golden_auto_policy_feasible obj D cap fuel params s hp ha.1 ha.2 hs

theorem brent_per_run : PerRun ⟨(brentAlgo (Fn.iface obj D cap) fuel).init, brentOptimize (Fn.iface obj D cap)⟩ AdmList :=
  fun params s hp ha hs => brent_auto_policy_feasible obj D cap fuel params s hp ha.1 ha.2 hs

theorem backtrack_per_run : PerRun ⟨(nbackAlgo (Fn.iface obj D cap)).init, (nbackAlgo (Fn.iface obj D cap)).optimize⟩ AdmList :=
  fun params s hp ha hs => backtrack_auto_policy_feasible obj D cap params s hp ha.1 ha.2 hs

theorem newton1d_per_run : PerRun ⟨(newtonAlgo (Fn.iface obj D cap)).init, (newtonAlgo (Fn.iface obj D cap)).optimize⟩ AdmList :=
  fun params s hp ha hs => newton1d_auto_policy_feasible obj D cap params s hp ha.1 ha.2 hs

theorem simple_multi_per_run :
    PerRun ⟨(simpleAlgo (Fn.iface obj D cap) fuel).init, (simpleAlgo (Fn.iface obj D cap) fuel).optimize⟩ AdmList :=
  fun params s hp ha hs => simple_multi_auto_policy_feasible obj D cap fuel params s hp ha.1 ha.2 hs

theorem simple_newton_per_run :
    PerRun ⟨(snewtonAlgo (Fn.iface obj D cap) fuel).init, (snewtonAlgo (Fn.iface obj D cap) fuel).optimize⟩ AdmList :=
  fun params s hp ha hs => simple_newton_auto_policy_feasible obj D cap fuel params s hp ha.1 ha.2 hs

theorem simplex_per_run_partial :
    PerRun ⟨(simplexAlgo (Fn.iface obj D cap)).init, simplexOptimize (Fn.iface obj D cap)⟩
      (fun params => AdmList params ∧ ∀ q ∈ params, q.p.precision = 0) :=
  fun params s hp ha hs => simplex_auto_policy_feasible_partial obj D cap params s hp ha.1.1 ha.1.2 ha.2 hs

theorem powell_per_run : PerRun ⟨(powellAlgo (Fn.iface obj D cap) fuel).init, powellOptimize (Fn.iface obj D cap)⟩ AdmList :=
  fun params s hp ha hs => powell_auto_policy_feasible obj D cap fuel params s hp ha.1 ha.2 hs

theorem cg_per_run : PerRun ⟨(cgAlgo (Fn.iface obj D cap) fuel).init, (cgAlgo (Fn.iface obj D cap) fuel).optimize⟩ AdmList :=
  fun params s hp ha hs => cg_auto_policy_feasible obj D cap fuel params s hp ha.1 ha.2 hs

theorem bfgs_per_run : PerRun ⟨(bfgsAlgo (Fn.iface obj D cap) fuel).init, (bfgsAlgo (Fn.iface obj D cap) fuel).optimize⟩ AdmList :=
  fun params s hp ha hs => bfgs_auto_policy_feasible obj D cap fuel params s hp ha.1 ha.2 hs

theorem meta_per_run (log10 : ℝ → ℝ) :
    PerRun ⟨(metaAlgo (Fn.iface obj D cap) log10 fuel).init, (metaAlgo (Fn.iface obj D cap) log10 fuel).optimize⟩ AdmList :=
  fun params s hp ha hs => meta_auto_policy_feasible obj D cap log10 fuel params s hp ha.1 ha.2 hs

/-- **powell_history_auto_policy_feasible**: `PowellMultiDimensions` used for any number of runs.
(The `DirectionFunction` it owns is covered by `line_minimization_reuse`.) -/
theorem powell_history_auto_policy_feasible (runs : List (Spec.Run ℝ)) (s0 : St (Fn ℝ) (Powell ℝ) ℝ) :
    ∀ e ∈ (⟨(powellAlgo (Fn.iface obj D cap) fuel).init, powellOptimize (Fn.iface obj D cap)⟩ : Spec.Obj (Powell ℝ) ℝ).history s0 runs,
      e.1.policy ≠ .ignore → AdmList e.1.params → Spec.feasiblePoint (consOf e.1.params) e.2.1 = true →
      Spec.feasibleLog (consOf e.1.params) e.2.2 = true :=
  history_auto_policy_feasible _ _ (powell_per_run obj D cap fuel) runs s0

/-- **cg_history_auto_policy_feasible**: `ConjugateGradientMultiDimensions` used for any number of runs. -/
theorem cg_history_auto_policy_feasible (runs : List (Spec.Run ℝ)) (s0 : St (Fn ℝ) (Cg ℝ) ℝ) :
    ∀ e ∈ (⟨(cgAlgo (Fn.iface obj D cap) fuel).init, (cgAlgo (Fn.iface obj D cap) fuel).optimize⟩ : Spec.Obj (Cg ℝ) ℝ).history s0 runs,
      e.1.policy ≠ .ignore → AdmList e.1.params → Spec.feasiblePoint (consOf e.1.params) e.2.1 = true →
      Spec.feasibleLog (consOf e.1.params) e.2.2 = true :=
  history_auto_policy_feasible _ _ (cg_per_run obj D cap fuel) runs s0

/-- **bfgs_history_auto_policy_feasible**: `BfgsMultiDimensions` used for any number of runs. -/
theorem bfgs_history_auto_policy_feasible (runs : List (Spec.Run ℝ)) (s0 : St (Fn ℝ) (Bfgs ℝ) ℝ) :
    ∀ e ∈ (⟨(bfgsAlgo (Fn.iface obj D cap) fuel).init, (bfgsAlgo (Fn.iface obj D cap) fuel).optimize⟩ : Spec.Obj (Bfgs ℝ) ℝ).history s0 runs,
      e.1.policy ≠ .ignore → AdmList e.1.params → Spec.feasiblePoint (consOf e.1.params) e.2.1 = true →
      Spec.feasibleLog (consOf e.1.params) e.2.2 = true :=
  history_auto_policy_feasible _ _ (bfgs_per_run obj D cap fuel) runs s0

/-- non-vacuity: a Powell object as an earlier run under `ignore` in dimension 2 has left it (policy
`ignore`, a direction set that is not the identity, a stale `pt_`, counters, the function at `(4, 1)`),
then a run under `auto` with parameter 0 constrained to `[0, 10]`: the entry of that run in the history
satisfies the hypotheses of `powell_history_auto_policy_feasible` -/
example : let c : Interval ℝ := ⟨.fin 0, .fin 10, true, true, 0⟩
    let params : PList ℝ := [⟨0, ⟨4, 0, some c, false⟩⟩, ⟨1, ⟨1, 0, none, false⟩⟩]
    let s0 : St (Fn ℝ) (Powell ℝ) ℝ :=
      ⟨{ freshCore 100 0 0 with policy := .ignore, nbEval := 57, tol := true, initialized := true, callCount := 9,
                                 params := [⟨0, ⟨4, 0, none, false⟩⟩, ⟨1, ⟨1, 0, none, false⟩⟩] },
       ⟨[4, 1], [[4, 1], [3, 2]]⟩, { fp := 3, fret := 2, pt := [⟨0, ⟨3, 0, none, false⟩⟩], xi := [[1, 2], [0, 1]] }⟩
    let r : Spec.Run ℝ := ⟨.auto, 50, params, 1000⟩
    let O : Spec.Obj (Powell ℝ) ℝ := ⟨(powellAlgo (Fn.iface obj D cap) fuel).init, powellOptimize (Fn.iface obj D cap)⟩
    ∃ e ∈ O.history s0 [r], e.1.policy ≠ .ignore ∧ AdmList e.1.params ∧ Spec.feasiblePoint (consOf e.1.params) e.2.1 = true := by
  intro c params s0 r O
  have h4 : c.isCorrect 4 = true := closed_isCorrect (by norm_num) (by norm_num)
  refine ⟨_, List.mem_cons_self .., by simp [r], ⟨?_, by simp [r, params]⟩, ?_⟩
  · simp only [r, params, feasibleList, List.all_cons, List.all_nil, Param.invOk, Param.accepts, h4, Bool.and_self]
  · simp only [r, s0, params, consOf, Spec.feasiblePoint, Spec.accepts, List.map_cons, List.map_nil, List.all_cons,
      List.all_nil, List.getElem?_cons_zero, List.getElem?_cons_succ, h4, Bool.and_self]

end instances

end Bpp.C10
