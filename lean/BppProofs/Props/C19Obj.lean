import BppProofs.Lemmas.SimplexObj
/-!
# C19 — objects, copies, histories   (src/Bpp/Numeric/Prob/Simplex.{h,cpp})

Property theorems about the object model `BppModel/SimplexObj.lean` over `ℝ`: `Simplex` /
`OrderedSimplex` objects carrying ALL their data members (`parameters_` as addresses of `Parameter`
objects with their constraint, `dim_`, `method_`, `vProb_`, `valpha_`, `vValues_`) in a heap;
constructors, setters, `fireParameterChanged`, copy construction, `clone()`, `operator=` (same class,
ordered -> plain) transcribed member by member.  Helper lemmas: `Lemmas/SimplexObj.lean`.

* `history_inv` — after ANY history of admissible calls on any number of objects (assignments
  between objects of different coding, dimension, constraint option and class included; rejected
  calls included), EVERY object satisfies: probabilities = image of its parameters under ITS method,
  sum one, positive, parameters inside their constraint, cache of the right size, ordered values =
  tail sums of the probabilities (non-increasing, sum one).
* `history_cache_fresh` — and `valpha_` = ratios of the parameters, for histories in which no call raises;
  `rejected_setFrequencies_touches_only_cache`, `stale_cache_never_read`, `rejected_call_changes_nothing`
  say exactly what a raising call leaves behind.
* `no_parameter_shared` — separation for ALL histories (arbitrary arguments): no two objects share a
  `Parameter`; `frame`, `copy_independent`, `assign_independent` follow: later calls on either object
  never change any member of the other.
* `assign_carries`, `copy_carries`, `slice_*` — after `tgt = src` / copy construction / `clone()`
  every member of the target (probabilities, parameters with their constraints, method, dimension,
  cache, ordered values) equals the source's, whatever the target was before.

Admissible (`Adm`): constructors with arguments inside the property's quantifier; setters with such
arguments OR, on objects built with the strict constraint, with ANY values (`setFrequencies` of a
plain `Simplex`: a vector of at least `dim` entries — one of any other size than `dim` is rejected and
leaves the object untouched, `setFrequencies_rejects_wrong_size`; `OrderedSimplex::setFrequencies`: values strictly
decreasing and summing to one exactly — for a sum within 1e-6 of one the stored values and the
normalised probabilities differ by that amount, rounding territory — or a non-empty vector of another
size, which the repaired code rejects); copies: any; the assignment through a base-class reference
(`baseAssign`) is excluded: `baseAssign_breaks_values`.
-/
namespace Bpp.C19
open Bpp Bpp.Simplex Bpp.SimplexObj

/-! ## one object: what the invariant says -/

/-- the invariant, spelled out for an observer of any object -/
theorem object_inv_spec (o : Obj ℝ) (h : OK o) :
    probsOf o.method o.dim o.θ = some o.vProb ∧ o.vProb.sum = 1 ∧ AllPos o.vProb ∧
    o.vProb.length = o.dim ∧ InOpen o.θ ∧ o.params.length = o.dim - 1 ∧ ValidMethod o.method ∧
    (if o.method = 2 then o.valpha.length = o.dim - 1 else o.valpha = []) ∧
    (∀ v, o.vValues = some v →
      v = orderedValues o.vProb 1 ∧ NonIncreasing v ∧ v.sum = 1 ∧ (∀ x ∈ v, 0 ≤ x) ∧ v.length = o.dim) := by
  obtain ⟨s1, s2, s3⟩ := h.spec
  refine ⟨h.probs, s1, s2, s3, h.inOpen, h.len, h.method, h.cache, ?_⟩
  intro v hv
  obtain ⟨o1, o2, o3, o4⟩ := h.ordered_spec v hv
  exact ⟨h.values v hv, o1, o2, o3, o4⟩

/-- `fireParameterChanged` re-establishes everything from the parameters alone: whatever `vProb_`,
`valpha_` (of the right size), `vValues_` held -/
theorem notification_restores (o : Obj ℝ) (h : Shape o) : OK o.fire ∧ Fresh o.fire :=
  fire_ok o h

/-- the ratio cache is never read before it is rewritten: two objects that differ in `valpha_` only
are notified into objects that differ in `valpha_` only, and not at all under the local-ratio coding -/
theorem stale_cache_never_read (a b : Obj ℝ) (h : EqButCache a b) :
    EqButCache a.fire b.fire ∧ (b.method = 2 → b.dim ≠ 0 → a.fire = b.fire) := by
  rw [(eqButCache_iff a b).mp h, fire_eq, fire_eq b]
  have hp : firedProbs { b with valpha := a.valpha } = firedProbs b := rfl
  refine ⟨⟨rfl, rfl, rfl, hp, by rw [hp]⟩, fun hm hd => ?_⟩
  rw [hp]
  simp only [Obj.θ, hm, hd, ne_eq, not_false_eq_true, and_self, if_true]

/-- the frequency setter on an object satisfying the invariant (vector inside the quantifier, or any
vector of at least `dim` entries under the strict constraint): the invariant holds afterwards whether the call raised or
not; if it did not, the cache is fresh; if it did, every member but the cache is as before -/
theorem setFrequencies_preserves (o : Obj ℝ) (h : OK o) (p : List ℝ) (hp : SetFreqArg o p) :
    OK (o.setFrequencies p).1 ∧ SameShape o (o.setFrequencies p).1 ∧
    ((o.setFrequencies p).2 = none → Fresh (o.setFrequencies p).1) ∧
    ((o.setFrequencies p).2 ≠ none → EqButCache (o.setFrequencies p).1 o) :=
  setFrequencies_pres o h p hp

/-- round trip on the object with all its members: accepted, returned unchanged -/
theorem object_setFrequencies_roundtrip (o : Obj ℝ) (h : OK o) (p : List ℝ) (hv : ValidProbs p)
    (hl : p.length = o.dim) :
    (o.setFrequenciesBase p).2 = none ∧ (o.setFrequenciesBase p).1.vProb = p ∧
    (o.setFrequenciesBase p).1.θ = paramsOf o.method p := by
  obtain ⟨o', e, _, _, _, _, r4, r5, _⟩ :=
    setFrequenciesBase_roundtrip_gen o h.toShape p hv hl (probs_of_params h.method hv (hl ▸ h.probs))
  rw [e]; exact ⟨rfl, r4, r5⟩

/-- no member function changes the dimension, the coding, the class, the number of parameters or
the constraint of any parameter — unconditionally (any state, any argument) -/
theorem setters_keep_members (o : Obj ℝ) :
    SameShape o o.fire ∧ (∀ p, SameShape o (o.setFrequencies p).1) ∧
    (∀ req o', o.matchReq req = .ok o' → SameShape o o') ∧
    (∀ req o', o.setReq req = .ok o' → SameShape o o') ∧
    (∀ i v o', o.setOne i v = .ok o' → SameShape o o') :=
  ⟨fire_sameShape o, setFrequencies_same o, fun req o' e => matchReq_same o o' req e,
    fun req o' e => setReq_same o o' req e, fun i v o' e => setOne_same o o' i v e⟩

/-- the constructors (arguments inside the quantifier) succeed and establish the invariant, a fresh
cache, the requested dimension, coding and — on every parameter — the requested constraint -/
theorem constructors_members (m : Nat) (a : Bool) (hm : ValidMethod m) :
    (∀ p, ValidProbs p → ∃ o, SimplexObj.construct p m a = .ok o ∧ Built o p.length m a ∧ o.vProb = p ∧ o.vValues = none) ∧
    (∀ n, 0 < n → n < 2 ^ 31 → ∃ o, SimplexObj.constructDim (α := ℝ) n m a = .ok o ∧ Built o n m a ∧ o.vProb = uniform n ∧ o.vValues = none) ∧
    (∀ v, ValidOrdered v → ∃ o, SimplexObj.oConstruct v m a = .ok o ∧ Built o v.length m a ∧ o.vValues = some v) ∧
    (∀ n, 0 < n → n < 2 ^ 31 → ∃ o, SimplexObj.oConstructDim (α := ℝ) n m a = .ok o ∧ Built o n m a ∧
      o.vValues = some (orderedValues (uniform n) 1)) := by
  refine ⟨fun p hp => ?_, fun n h0 h1 => SimplexObj.constructDim_ok n m a hm h0 h1,
    fun v hv => SimplexObj.oConstruct_ok v m a hm hv, fun n h0 h1 => SimplexObj.oConstructDim_ok n m a hm h0 h1⟩
  obtain ⟨o, e, b, h1, h2, _⟩ := SimplexObj.construct_ok p m a hm hp
  exact ⟨o, e, b, h1, h2⟩

/-- the unchanged code does leave the ratios of a REJECTED vector in the cache (Simplex.cpp:234 is
executed before the validation at :268): witness, local-ratio coding, strict constraint, object
built from (1/2, 1/4, 1/4), rejected vector (1/2, -1/4, 3/4) -/
noncomputable def staleWitness : Obj ℝ :=
  ⟨[⟨2/3, false⟩, ⟨1/2, false⟩], 3, 2, [1/2, 1/4, 1/4], [1/2, 1], none⟩

theorem rejected_setFrequencies_leaves_stale_cache :
    Fresh staleWitness ∧
    (staleWitness.setFrequencies [1/2, -1/4, 3/4]).2 = some Err.constraint ∧
    (staleWitness.setFrequencies [1/2, -1/4, 3/4]).1 = { staleWitness with valpha := [-1/2, -3] } ∧
    ¬ Fresh (staleWitness.setFrequencies [1/2, -1/4, 3/4]).1 := by
  have ht : testFrom (reqOfList (paramsOf 2 ([1/2, -1/4, 3/4] : List ℝ))) 1
      ([⟨2/3, false⟩, ⟨1/2, false⟩] : List (Param ℝ)) = false := by
    norm_num [testFrom, reqOfList, paramsOf, paramsLocal, inConstraint, Scalar.gtb, Scalar.ltb]
  have hr : ratios ([1/2, -1/4, 3/4] : List ℝ) = [-1/2, -3] := by
    simp only [ratios]; norm_num
  have e : staleWitness.setFrequencies [1/2, -1/4, 3/4] =
      ({ staleWitness with valpha := [-1/2, -3] }, some Err.constraint) := by
    show staleWitness.setFrequenciesBase _ = _
    rw [setFrequenciesBase_of_good _ _ (Nat.succ_ne_zero 2) (sumOk_of _ (by norm_num)) rfl]
    show exceptToPair ({ staleWitness with valpha := ratios _ }) (Obj.matchReq _ _) = _
    rw [hr, Obj.matchReq, if_neg (by
      exact ne_true_of_eq_false ht)]
    rfl
  have ha : alphas ([2/3, 1/2] : List ℝ) = [1/2, 1] := by
    simp only [alphas, List.map_cons, List.map_nil, ScalarReal.one_eq]; norm_num
  refine ⟨fun _ => ha.symm, by rw [e], by rw [e], ?_⟩
  rw [e]
  intro hf
  have h2 : ([-1/2, -3] : List ℝ) = [1/2, 1] := (hf rfl).trans ha
  norm_num at h2

/-- the repaired `Simplex::setFrequencies` rejects every vector whose size is not the dimension
(before: a shorter one that passed the sum test was read out of bounds, of a longer one the first
`dim` entries were used) and leaves the object untouched -/
theorem setFrequencies_rejects_wrong_size (o : Obj ℝ) (p : List ℝ) (hd : o.dim ≠ 0) (h1 : p.length ≠ o.dim) :
    o.setFrequenciesBase p = (o, some Err.sum) :=
  setFrequenciesBase_of_bad o p hd (Or.inr h1)

/-- the repaired `OrderedSimplex::setFrequencies` rejects every non-empty vector whose size is not
the dimension (shorter ones, formerly read out of bounds, included) and leaves the object untouched -/
theorem ordered_setFrequencies_rejects_wrong_size (o : Obj ℝ) (v : List ℝ) (h0 : v.length ≠ 0)
    (h1 : v.length ≠ o.dim) : o.oSetFrequencies v = (o, some Err.sum) :=
  oSetFrequencies_wrong_size o v h0 h1

/-- the object built by `OrderedSimplex({7/10, 3/10}, method 1)` -/
noncomputable def longWitness : Obj ℝ :=
  ⟨[⟨2/5, false⟩], 2, 1, [2/5, 3/5], [], some [7/10, 3/10]⟩

/-- DEFECT OF THE UNCHANGED TREE (repaired, findings/C19.json): `OrderedSimplex::setFrequencies` did
not test the size of its argument.  A vector LONGER than the dimension is defined behaviour there
(the function works with the argument's size, the base class reads the first `dim_` entries): the
three values (1/2, 3/10, 1/5) given to a two-dimensional object were accepted, the probabilities
became (1/5, 4/5) and `getFrequencies()` returned three values — after the next notification
(0.625, 0.375, 0.2), sum 1.2 (corpus/C19/ordered_long_vector.txt).  The repaired setter raises. -/
theorem ordered_setFrequencies_unchecked_long_vector :
    OK longWitness ∧
    longWitness.oSetFrequenciesUnchecked [1/2, 3/10, 1/5] =
      (⟨[⟨1/5, false⟩], 2, 1, [1/5, 4/5], [], some [1/2, 3/10, 1/5]⟩, none) ∧
    ¬ OK (longWitness.oSetFrequenciesUnchecked [1/2, 3/10, 1/5]).1 ∧
    longWitness.oSetFrequencies [1/2, 3/10, 1/5] = (longWitness, some Err.sum) := by
  have hp : orderedToProbs ([1/2, 3/10, 1/5] : List ℝ) 1 = [1/5, 1/5, 3/5] := by
    norm_num [orderedToProbs]
  have hs : sumOk ([1/5, 1/5, 3/5] : List ℝ) = true := sumOk_of _ (by norm_num)
  have h3 : List.take 2 ([1/5, 1/5, 3/5] : List ℝ) = [1/5, 1/5] := rfl
  have hpar : paramsOf 1 ([1/5, 1/5] : List ℝ) = [1/5] := by
    simp [paramsOf, paramsGlobal]
  have h12 : ((1 : ℕ) = 2) = False := eq_false (by decide)
  have ht : testFrom (reqOfList ([1/5] : List ℝ)) 1 ([⟨2/5, false⟩] : List (Param ℝ)) = true := by
    norm_num [testFrom, reqOfList, inConstraint, Scalar.gtb, Scalar.ltb]
  have hc : changedFrom (reqOfList ([1/5] : List ℝ)) 1 ([⟨2/5, false⟩] : List (Param ℝ)) = true := by
    norm_num [changedFrom, reqOfList, Scalar.eqb]
  have hw : writeFrom (reqOfList ([1/5] : List ℝ)) 1 ([⟨2/5, false⟩] : List (Param ℝ)) = [⟨1/5, false⟩] := by
    simp [writeFrom, reqOfList, Scalar.eqb]
    try norm_num
  have hf : (⟨[⟨1/5, false⟩], 2, 1, [2/5, 3/5], [], some [7/10, 3/10]⟩ : Obj ℝ).fire =
      ⟨[⟨1/5, false⟩], 2, 1, [1/5, 4/5], [], some (orderedValues [1/5, 4/5] 1)⟩ := by
    norm_num [Obj.fire, Obj.fireBase, Obj.refresh, Obj.θ, probsGlobal]
  have e : longWitness.oSetFrequenciesUnchecked [1/2, 3/10, 1/5] =
      (⟨[⟨1/5, false⟩], 2, 1, [1/5, 4/5], [], some [1/2, 3/10, 1/5]⟩, none) := by
    simp only [Obj.oSetFrequenciesUnchecked, longWitness, hp, Obj.setFrequenciesBaseUnchecked, hs, Obj.cacheWrite, Obj.matchReq,
      ↓reduceIte, Bool.not_true, Bool.false_eq_true, List.length_cons, List.length_nil, Nat.reduceAdd,
      OfNat.ofNat_ne_zero, h12, h3, hpar, ht, hc, hw, hf, Nat.reduceLT]
  refine ⟨⟨⟨Or.inl rfl, by decide, by decide, rfl, ?_, rfl⟩, ?_, ?_⟩, e, ?_, ?_⟩
  · exact List.forall_mem_singleton.mpr (by norm_num)
  · norm_num [longWitness, Obj.θ, probsOf, probsGlobal]
  · intro v hv; cases hv; norm_num [longWitness, orderedValues]
  · rw [e]
    intro hok
    have := congrArg List.length (hok.values [1/2, 3/10, 1/5] rfl)
    simp [orderedValues_length] at this
  · exact oSetFrequencies_wrong_size longWitness _ (by decide) (by decide)

/-! ## the heap: all histories -/

/-- INVARIANT OVER ALL HISTORIES: starting from the empty heap, after any history of admissible
calls (accepted or rejected) on any number of objects, every object satisfies the invariant -/
theorem history_inv (n : Nat) (ops : List (HOp ℝ)) (ha : AdmRun (Heap.empty n) ops) (r : Nat) (o : Obj ℝ)
    (hg : (runH (Heap.empty n) ops).get r = some o) :
    probsOf o.method o.dim o.θ = some o.vProb ∧ o.vProb.sum = 1 ∧ AllPos o.vProb ∧
    o.vProb.length = o.dim ∧ InOpen o.θ ∧ o.params.length = o.dim - 1 ∧ ValidMethod o.method ∧
    (if o.method = 2 then o.valpha.length = o.dim - 1 else o.valpha = []) ∧
    (∀ v, o.vValues = some v →
      v = orderedValues o.vProb 1 ∧ NonIncreasing v ∧ v.sum = 1 ∧ (∀ x ∈ v, 0 ≤ x) ∧ v.length = o.dim) :=
  object_inv_spec o ((run_inv _ (inv_empty n) ops ha).2 r o hg)

/-- the same from any heap satisfying the invariant (every moment of a history is such a heap) -/
theorem history_inv_from (h : Heap ℝ) (hi : HInv h) (ops : List (HOp ℝ)) (ha : AdmRun h ops) :
    HInv (runH h ops) :=
  run_inv h hi ops ha

/-- ... and the ratio cache of every local-ratio object holds the ratios of its current parameters,
when no call of the history raises -/
theorem history_cache_fresh (n : Nat) (ops : List (HOp ℝ)) (ha : AdmRun (Heap.empty n) ops)
    (hn : NoRaise (Heap.empty n) ops) (r : Nat) (o : Obj ℝ)
    (hg : (runH (Heap.empty n) ops).get r = some o) : o.method = 2 → o.valpha = alphas o.θ :=
  run_fresh _ (inv_empty n) (fresh_empty n) ops ha hn r o hg

/-- a call that raises leaves the whole heap as it was — `setFrequencies` excepted -/
theorem rejected_call_changes_nothing (h : Heap ℝ) (hs : Sep h) (op : HOp ℝ) (hr : (applyH h op).2 ≠ none)
    (hop : ∀ k p, op ≠ .setFreq k p) : stepH h op = h := by
  rcases applyH_effect h op with ⟨e, hr'⟩ | ⟨o, _, hr'⟩ | ⟨f, _, _, hr'⟩ | ⟨k, p, e, _⟩
  · rw [stepH, hr']
  · rw [hr'] at hr; exact absurd rfl hr
  -- a member function other than `setFrequencies` that raises has left its object as it was
  · rw [stepH, hr']; rw [hr'] at hr; exact updateE_rejected h _ f hr
  · exact absurd e (hop k p)

/-- a `setFrequencies` that raises leaves every member of every object as it was, except the ratio
cache of the object it was called on (which `stale_cache_never_read` shows to be unobservable) -/
theorem rejected_setFrequencies_touches_only_cache (h : Heap ℝ) (hs : Sep h) (k : Nat) (p : List ℝ)
    (hr : (applyH h (.setFreq k p)).2 ≠ none) (r : Nat) (o : Obj ℝ) (hg : h.get r = some o) :
    ∃ o', (stepH h (.setFreq k p)).get r = some o' ∧ EqButCache o' o ∧ (r ≠ k → o' = o) := by
  obtain ⟨⟨_, u2, _⟩, u4, _⟩ := update_spec h hs k (fun o => o.setFrequencies p)
    (fun o => (setFrequencies_same o p).len)
  by_cases hrk : r = k
  · subst hrk
    obtain ⟨g1, g2⟩ := u4 o hg
    refine ⟨_, g1, ?_, fun hne => absurd rfl hne⟩
    apply setFrequencies_rejected
    intro hn
    apply hr
    have : (applyH h (.setFreq r p)).2 = Option.map HErr.exc (o.setFrequencies p).2 := g2
    rw [this, hn]; rfl
  · exact ⟨o, by rw [← hg]; exact u2 r hrk, EqButCache.refl _, fun _ => rfl⟩

/-! ## copies -/

/-- SEPARATION over ALL histories, whatever the arguments: the parameter lists of the objects point
to `Parameter` objects inside the heap, without repetition, and no `Parameter` belongs to two objects -/
theorem no_parameter_shared (n : Nat) (ops : List (HOp ℝ)) : Sep (runH (Heap.empty n) ops) :=
  run_sep _ (sep_empty n) ops

/-- FRAME: a call changes no member of any object other than its target -/
theorem frame (h : Heap ℝ) (hs : Sep h) (op : HOp ℝ) (r : Nat) (hr : r ≠ op.target) :
    (stepH h op).get r = h.get r :=
  (step_sep_frame h hs op).2.1 r hr

/-- after `*tgt = *src` (objects of the same class; any coding, dimension, constraint option of the
target) EVERY member of the target equals the source's, and the call does not raise -/
theorem assign_carries (h : Heap ℝ) (hs : Sep h) (k j : Nat) (src tgt : Obj ℝ) (hk : h.get k = some src)
    (hj : h.get j = some tgt) (hc : src.vValues.isSome = tgt.vValues.isSome) :
    (stepH h (.assign k j)).get j = some src ∧ (applyH h (.assign k j)).2 = none :=
  SimplexObj.assign_carries h hs k j src tgt hk hj hc

/-- copy construction / `clone()` -/
theorem copy_carries (h : Heap ℝ) (hs : Sep h) (k j : Nat) (src : Obj ℝ) (hk : h.get k = some src)
    (hj : j < h.regs.length) : (stepH h (.copy k j)).get j = some src :=
  SimplexObj.copy_carries h hs k j src hk hj

/-- slicing copy construction `Simplex(const Simplex&)` of an `OrderedSimplex`: a plain simplex with
the source's `Simplex` members -/
theorem slice_copy_carries (h : Heap ℝ) (hs : Sep h) (k j : Nat) (src : Obj ℝ) (hk : h.get k = some src)
    (hj : j < h.regs.length) : (stepH h (.sliceCopy k j)).get j = some { src with vValues := none } := by
  rcases sliceCopy_apply h k j with ⟨_, hn, _⟩ | ⟨src', hsrc, e1⟩
  · rw [hk] at hn; cases hn
  · cases hk.symm.trans hsrc
    rw [stepH, e1, (alloc_spec h hs j _).2.1 hj, copySimplexPart_eq]

/-- `plain = ordered` -/
theorem slice_assign_carries (h : Heap ℝ) (hs : Sep h) (k j : Nat) (src tgt : Obj ℝ)
    (hk : h.get k = some src) (hj : h.get j = some tgt) (hcs : src.vValues.isSome = true)
    (hct : tgt.vValues = none) :
    (stepH h (.sliceAssign k j)).get j = some { src with vValues := none } := by
  rcases sliceAssign_apply h k j with ⟨_, hn, _⟩ | ⟨src', tgt', hk', hj', e⟩
  · rw [hk, hj] at hn; exact hn.elim nofun nofun
  · cases hk.symm.trans hk'; cases hj.symm.trans hj'
    rw [stepH, e, if_neg (by simp [hcs, hct]), (alloc_spec h hs j _).2.1 (get_lt h j tgt hj),
      assignSimplexPart_eq, hct]

/-- A COPY IS INDEPENDENT OF ITS SOURCE: after copy construction / `clone()` of `k` into `j`, both
hold the source's state; any later calls (any arguments, any number, on any objects) none of which
targets `k` leave every member of `k` as it was, and likewise for `j` -/
theorem copy_independent (h : Heap ℝ) (hs : Sep h) (k j : Nat) (src : Obj ℝ) (hk : h.get k = some src)
    (hj : j < h.regs.length) (hkj : k ≠ j) (ops : List (HOp ℝ)) :
    (stepH h (.copy k j)).get j = some src ∧ (stepH h (.copy k j)).get k = some src ∧
    ((∀ op ∈ ops, op.target ≠ k) → (runH (stepH h (.copy k j)) ops).get k = some src) ∧
    ((∀ op ∈ ops, op.target ≠ j) → (runH (stepH h (.copy k j)) ops).get j = some src) := by
  obtain ⟨f1, f2, _⟩ := step_sep_frame h hs (.copy k j)
  have c := SimplexObj.copy_carries h hs k j src hk hj
  have ck : (stepH h (.copy k j)).get k = some src := by rw [f2 k hkj]; exact hk
  exact ⟨c, ck, fun ht => by rw [run_frame _ f1 k ops ht]; exact ck,
    fun ht => by rw [run_frame _ f1 j ops ht]; exact c⟩

/-- the same after an assignment `*j = *k` -/
theorem assign_independent (h : Heap ℝ) (hs : Sep h) (k j : Nat) (src tgt : Obj ℝ)
    (hk : h.get k = some src) (hj : h.get j = some tgt) (hc : src.vValues.isSome = tgt.vValues.isSome)
    (hkj : k ≠ j) (ops : List (HOp ℝ)) :
    (stepH h (.assign k j)).get j = some src ∧ (stepH h (.assign k j)).get k = some src ∧
    ((∀ op ∈ ops, op.target ≠ k) → (runH (stepH h (.assign k j)) ops).get k = some src) ∧
    ((∀ op ∈ ops, op.target ≠ j) → (runH (stepH h (.assign k j)) ops).get j = some src) := by
  obtain ⟨f1, f2, _⟩ := step_sep_frame h hs (.assign k j)
  have c := (SimplexObj.assign_carries h hs k j src tgt hk hj hc).1
  have ck : (stepH h (.assign k j)).get k = some src := by rw [f2 k hkj]; exact hk
  exact ⟨c, ck, fun ht => by rw [run_frame _ f1 k ops ht]; exact ck,
    fun ht => by rw [run_frame _ f1 j ops ht]; exact c⟩

/-- the assignment through a base-class reference (`static_cast<Simplex&>(ordered) = plain`, which
the language allows since `operator=` is not virtual) assigns the `Simplex` members only:
`vValues_` keeps the tail sums of the FORMER probabilities.  Witness: the ordered values stay
those of (1/2, 1/2) while the probabilities become (1/4, 3/4).  Outside the property (a caller's
slicing error), excluded from `Adm`; the next notification heals the object (`notification_restores`). -/
theorem baseAssign_breaks_values :
    let tgt : Obj ℝ := ⟨[⟨1/2, false⟩], 2, 1, [1/2, 1/2], [], some [3/4, 1/4]⟩
    let src : Obj ℝ := ⟨[⟨1/4, false⟩], 2, 1, [1/4, 3/4], [], none⟩
    OK tgt ∧ OK src ∧ ¬ OK (tgt.assignSimplexPart src) := by
  intro tgt src
  refine ⟨⟨⟨Or.inl rfl, by decide, by decide, rfl, ?_, rfl⟩, ?_, ?_⟩,
    ⟨⟨Or.inl rfl, by decide, by decide, rfl, ?_, rfl⟩, ?_, ?_⟩, ?_⟩
  · exact List.forall_mem_singleton.mpr (by norm_num)
  · norm_num [tgt, Obj.θ, probsOf, probsGlobal]
  · intro v hv; cases hv; norm_num [tgt, orderedValues]
  · exact List.forall_mem_singleton.mpr (by norm_num)
  · norm_num [src, Obj.θ, probsOf, probsGlobal]
  · intro v hv; cases hv
  · intro hok
    have := hok.values [3/4, 1/4] (by simp [assignSimplexPart_eq, tgt])
    simp [assignSimplexPart_eq, src, orderedValues] at this
    norm_num at this

/-! ## the value-level object of `BppModel/Simplex.lean` is a projection of this model

The theorems of `Props/C19.lean` on objects (`construct_roundtrip`, `setFrequencies_roundtrip`,
`invariant_all_histories_strict`, `ordered_*` …) and the models of C09 / C13 speak of `Simplex.St` /
`Simplex.OSt`: dimension, method, ONE constraint flag, parameter values, probabilities (, ordered
values).  The driver runs the full object model; these theorems say that every member function of
the value-level model is the projection (`toSt`: forget cache, heap and per-parameter constraints) of
the member function of the full model, so the correspondence check ties both. -/

/-- plain objects: constructors, `fireParameterChanged`, `matchParametersValues` (all parameters),
`setParameterValue`, `setFrequencies` -/
theorem value_model_is_projection (a : Bool) :
    (∀ p m, (SimplexObj.construct p m a).map (toSt a) = Simplex.construct p m a) ∧
    (∀ n m, (SimplexObj.constructDim (α := ℝ) n m a).map (toSt a) = Simplex.constructDim n m a) ∧
    (∀ o : Obj ℝ, toSt a o.fire = Simplex.fire (toSt a o)) ∧
    (∀ (o : Obj ℝ) θ, HasConstraint a o → θ.length = o.params.length →
      (o.matchReq (reqOfList θ)).map (toSt a) = Simplex.matchParams (toSt a o) θ) ∧
    (∀ (o : Obj ℝ) i v, HasConstraint a o → (o.setOne i v).map (toSt a) = Simplex.setOne (toSt a o) i v) ∧
    (∀ (o : Obj ℝ) p, HasConstraint a o → ValidMethod o.method → o.params.length = o.dim - 1 →
      (pairToExcept (o.setFrequenciesBase p)).map (toSt a) = Simplex.setFrequencies (toSt a o) p) :=
  ⟨fun p m => construct_refines p m a, fun n m => constructDim_refines n m a, fun o => toSt_fire a o,
    fun o θ hc hl => matchReq_refines a o θ hc hl, fun o i v hc => setOne_refines a o i v hc,
    fun o p hc hm hl => setFrequenciesBase_refines a o p hc hm hl⟩

/-- ordered objects (`ProjO a o s`: `s = ⟨toSt a o, the values of o⟩`) -/
theorem ordered_value_model_is_projection (a : Bool) :
    (∀ n m, (∀ o, SimplexObj.oConstructDim (α := ℝ) n m a = .ok o →
        ∃ s, Simplex.oConstructDim n m a = .ok s ∧ ProjO a o s) ∧
      (∀ e, SimplexObj.oConstructDim (α := ℝ) n m a = .error e → Simplex.oConstructDim (α := ℝ) n m a = .error e)) ∧
    (∀ v m, ValidMethod m →
      (∀ o, SimplexObj.oConstruct v m a = .ok o → ∃ s, Simplex.oConstruct v m a = .ok s ∧ ProjO a o s) ∧
      (∀ e, SimplexObj.oConstruct v m a = .error e → Simplex.oConstruct v m a = .error e)) ∧
    (∀ (o : Obj ℝ) w θ, HasConstraint a o → θ.length = o.params.length → o.vValues = some w →
      (∀ o', o.matchReq (reqOfList θ) = .ok o' → ∃ s', oMatchParams ⟨toSt a o, w⟩ θ = .ok s' ∧ ProjO a o' s') ∧
      (∀ e, o.matchReq (reqOfList θ) = .error e → oMatchParams ⟨toSt a o, w⟩ θ = .error e)) ∧
    (∀ (o : Obj ℝ) w i v, HasConstraint a o → o.vValues = some w →
      (∀ o', o.setOne i v = .ok o' → ∃ s', Simplex.oSetOne ⟨toSt a o, w⟩ i v = .ok s' ∧ ProjO a o' s') ∧
      (∀ e, o.setOne i v = .error e → Simplex.oSetOne ⟨toSt a o, w⟩ i v = .error e)) ∧
    (∀ (o : Obj ℝ) w v, HasConstraint a o → ValidMethod o.method → o.params.length = o.dim - 1 →
      o.vValues = some w →
      (∀ o', o.oSetFrequencies v = (o', none) →
        ∃ s', Simplex.oSetFrequencies ⟨toSt a o, w⟩ v = .ok s' ∧ ProjO a o' s') ∧
      (∀ o' e, o.oSetFrequencies v = (o', some e) → Simplex.oSetFrequencies ⟨toSt a o, w⟩ v = .error e)) :=
  ⟨fun n m => oConstructDim_refines n m a, fun v m hm => oConstruct_refines v m a hm,
    fun o w θ hc hl hw => oMatchReq_refines a o w θ hc hl hw, fun o w i v hc hw => oSetOne_refines a o w i v hc hw,
    fun o w v hc hm hl hw => oSetFrequencies_refines a o w v hc hm hl hw⟩

/-! ## acceptance of arguments inside the quantifier -/

/-- a request whose values lie in the open interval is accepted whatever the constraints, and the
object then holds exactly the requested values -/
theorem object_setParameters_ok (o : Obj ℝ) (h : OK o) (θ : List ℝ) (hl : θ.length = o.params.length)
    (ho : InOpen θ) : ∃ o', o.matchReq (reqOfList θ) = .ok o' ∧ OK o' ∧ o'.θ = θ ∧ SameShape o o' := by
  have hr : ReqOpen (reqOfList θ) 1 o.params.length := reqOfList_open θ _ ho
  obtain ⟨o', e⟩ := matchReq_accepts o _ hr
  refine ⟨o', e, (matchReq_ok o h _ (Or.inl hr) o' e).1, ?_, matchReq_same o o' _ e⟩
  rw [Obj.θ, (matchReq_gen o h.toShape _ (Or.inl hr) o' e).1]
  exact writeFrom_reqOfList o.params θ hl

/-- the ordered setter with values inside the quantifier: accepted, returned unchanged -/
theorem object_ordered_setFrequencies_roundtrip (o : Obj ℝ) (h : OK o) (v : List ℝ) (hv : ValidOrdered v)
    (hl : v.length = o.dim) :
    (o.oSetFrequencies v).2 = none ∧ OK (o.oSetFrequencies v).1 ∧ (o.oSetFrequencies v).1.vValues = some v ∧
    (o.oSetFrequencies v).1.vProb = orderedToProbs v 1 := by
  obtain ⟨c1, c2, _, c4, _, c6⟩ := oSetFrequencies_core o h.toShape h.probs v hv hl
  exact ⟨c1, c2, c4, c6⟩

/-! ## non-vacuity -/

/-- an admissible history over three registers with two codings, two dimensions and both constraint
options: constructions, an assignment across codings, notifications on both objects, a rejected-or-
accepted arbitrary value on a strict object, a clone -/
example : AdmRun (Heap.empty 3 : Heap ℝ)
    [.newVec 0 false 2 false [1/2, 1/4, 1/4], .newDim 1 false 5 3 true, .assign 0 1,
     .setOne 1 1 (1/3), .setPar 0 [1/5, 4/5], .copy 1 2, .fire 2, .setOne 2 2 (1/7)] := by
  refine ⟨⟨Or.inr (Or.inl rfl), ?_⟩, ⟨Or.inr (Or.inr rfl), by norm_num, by norm_num⟩, trivial, ?_, ?_, trivial,
    trivial, ?_, trivial⟩
  · refine ⟨?_, by simp, by norm_num, by simp⟩
    intro x hx; simp at hx; rcases hx with rfl | rfl | rfl <;> norm_num
  · intro o _; left; norm_num
  · intro o _; left
    exact reqOfList_open _ _ (inOpen_cons.mpr ⟨by norm_num, List.forall_mem_singleton.mpr (by norm_num)⟩)
  · intro o _; left; norm_num

/-- the hypotheses of `history_cache_fresh` (`AdmRun` and `NoRaise`) hold together on a history
that builds a plain global-ratio and an ordered local-ratio object with different constraints -/
example : AdmRun (Heap.empty 2 : Heap ℝ) [.newDim 0 false 3 1 false, .newDim 1 true 4 2 true] ∧
    NoRaise (Heap.empty 2 : Heap ℝ) [.newDim 0 false 3 1 false, .newDim 1 true 4 2 true] := by
  refine ⟨⟨⟨Or.inl rfl, by norm_num, by norm_num⟩, ⟨Or.inr (Or.inl rfl), by norm_num, by norm_num⟩, trivial⟩, ?_, ?_, trivial⟩
  · obtain ⟨o, e, _⟩ := SimplexObj.constructDim_ok 3 1 false (Or.inl rfl) (by norm_num) (by norm_num)
    rcases create_effect (Heap.empty 2 : Heap ℝ) 0 (SimplexObj.constructDim 3 1 false) with ⟨_, _, _, h⟩ | ⟨err, h, _⟩
    · exact h
    · rw [e] at h; cases h
  · obtain ⟨o, e, _⟩ := SimplexObj.oConstructDim_ok 4 2 true (Or.inr (Or.inl rfl)) (by norm_num) (by norm_num)
    rcases create_effect (stepH (Heap.empty 2 : Heap ℝ) (.newDim 0 false 3 1 false)) 1
      (SimplexObj.oConstructDim 4 2 true) with ⟨_, _, _, h⟩ | ⟨err, h, _⟩
    · exact h
    · rw [e] at h; cases h

/-- the hypotheses of `copy_independent` / `assign_carries` are met by a reachable heap -/
example : ∃ (h : Heap ℝ) (src : Obj ℝ), Sep h ∧ h.get 0 = some src ∧ 1 < h.regs.length ∧ OK src := by
  obtain ⟨o, e, b, _⟩ := SimplexObj.constructDim_ok 4 2 false (Or.inr (Or.inl rfl)) (by norm_num) (by norm_num)
  refine ⟨(Heap.empty 2 : Heap ℝ).allocObj 0 o, o, ?_, ?_, ?_, b.ok⟩
  · exact (alloc_spec _ (sep_empty 2) 0 o).1
  · exact (alloc_spec _ (sep_empty 2) 0 o).2.1 (by simp [Heap.empty])
  · simp [Heap.allocObj, Heap.empty]

end Bpp.C19
