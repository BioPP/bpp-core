import BppProofs.Lemmas.Interval
import BppProofs.Lemmas.Param
/-!
# C01 — a constrained parameter never holds a value its constraint rejects
(src/Bpp/Numeric/Constraints.h, Parameter.{h,cpp}, AutoParameter.cpp)

The property theorems; the invariant over histories is `StoreInv`.  The helper lemmas are in `Lemmas/Interval.lean`,
`Lemmas/Param.lean`.
The model (`BppModel/Interval.lean`, `BppModel/Param.lean`) is generic over `Scalar`; the
theorems are about its interpretation at `ℝ`.  A C++ `double` that may be infinite is a
`Bound ℝ` (extended real, `Bound.toEReal`); NaN is not modelled.  `Interval.denote c` is the set
of extended reals between the bounds of `c`, an end point belonging to it iff its flag says so.

The theorems are about the *repaired* code; `legacy_*_witness` show that each statement was
false of the code as found (the defects are listed in findings/C01.json).
-/
namespace Bpp.C01
open Bpp Bpp.Interval Bpp.Param

/-! ## IntervalConstraint: membership -/

/-- `isCorrect` accepts exactly the doubles (infinite ones included) in the denoted set -/
theorem isCorrectB_iff (c : Interval ℝ) (v : Bound ℝ) : c.isCorrectB v = true ↔ v.toEReal ∈ c.denote :=
  isCorrectB_iff_mem c v

/-- `isCorrect` accepts exactly the reals between the bounds, honouring open/closed ends
(all bound / flag combinations, infinite bounds included) -/
theorem isCorrect_iff (c : Interval ℝ) (v : ℝ) : c.isCorrect v = true ↔ (v : EReal) ∈ c.denote :=
  isCorrectB_iff_mem c (.fin v)

/-- the same, spelled out without sets -/
theorem isCorrect_iff_bounds (c : Interval ℝ) (v : ℝ) :
    c.isCorrect v = true ↔
      (if c.inclLo then c.lo.toEReal ≤ v else c.lo.toEReal < v) ∧
      (if c.inclHi then (v : EReal) ≤ c.hi.toEReal else (v : EReal) < c.hi.toEReal) :=
  isCorrect_iff_bounds' c v

/-- the four shapes -/
theorem isCorrect_closed (a b p v : ℝ) : (Interval.make (.fin a) (.fin b) true true p).isCorrect v = true ↔ a ≤ v ∧ v ≤ b :=
  (isCorrect_iff_bounds _ v).trans (and_congr EReal.coe_le_coe_iff EReal.coe_le_coe_iff)
theorem isCorrect_open (a b p v : ℝ) : (Interval.make (.fin a) (.fin b) false false p).isCorrect v = true ↔ a < v ∧ v < b :=
  (isCorrect_iff_bounds _ v).trans (and_congr EReal.coe_lt_coe_iff EReal.coe_lt_coe_iff)
theorem isCorrect_halfLine_pos (a p v : ℝ) (incl : Bool) :
    (Interval.halfLine true (.fin a) incl p).isCorrect v = true ↔ (if incl then a ≤ v else a < v) := by
  refine (isCorrect_iff_bounds _ v).trans ((and_iff_left (EReal.coe_lt_top v)).trans ?_)
  cases incl <;> [exact EReal.coe_lt_coe_iff; exact EReal.coe_le_coe_iff]
theorem isCorrect_halfLine_neg (b p v : ℝ) (incl : Bool) :
    (Interval.halfLine false (.fin b) incl p).isCorrect v = true ↔ (if incl then v ≤ b else v < b) := by
  refine (isCorrect_iff_bounds _ v).trans ((and_iff_right (EReal.bot_lt_coe v)).trans ?_)
  cases incl <;> [exact EReal.coe_lt_coe_iff; exact EReal.coe_le_coe_iff]
/-- the default interval accepts every real -/
theorem isCorrect_default (v : ℝ) : (Interval.default : Interval ℝ).isCorrect v = true :=
  (isCorrect_iff_bounds _ v).2 ⟨bot_le, le_top⟩

/-- the driver's independent formulation of membership is the same set -/
theorem memSpec_iff (c : Interval ℝ) (v : Bound ℝ) : c.memSpec v = true ↔ v.toEReal ∈ c.denote :=
  memSpec_iff_mem c v

/-- `includes(min, max)`: both ends lie inside, hence (for `min ≤ max`) the whole segment -/
theorem includes_iff (c : Interval ℝ) (mn mx : Bound ℝ) (h : mn.toEReal ≤ mx.toEReal) :
    c.includes mn mx = true ↔ Set.Icc mn.toEReal mx.toEReal ⊆ c.denote := by
  rw [includes_iff_bounds]
  constructor
  · rintro ⟨h1, h2⟩ x ⟨hx1, hx2⟩
    exact (mem_denote c x).2 ⟨ite_le_lt_of_ite_of_le h1 hx1, ite_le_lt_of_le_of_ite hx2 h2⟩
  · intro hs
    exact ⟨((mem_denote c _).1 (hs ⟨le_rfl, h⟩)).1, ((mem_denote c _).1 (hs ⟨h, le_rfl⟩)).2⟩

/-! ## intersection -/

/-- the intersection denotes the intersection: it accepts exactly the values both accept -/
theorem inter_denote (c d : Interval ℝ) : (c.inter d).denote = c.denote ∩ d.denote := by
  ext x
  rw [Set.mem_inter_iff, mem_denote, mem_denote, mem_denote]
  exact (and_congr (interLo_spec c d x) (interHi_spec c d x)).trans and_and_and_comm

theorem inter_iff (c d : Interval ℝ) (v : ℝ) :
    (c.inter d).isCorrect v = true ↔ (c.isCorrect v = true ∧ d.isCorrect v = true) := by
  simp only [isCorrect_iff, inter_denote, Set.mem_inter_iff]

theorem inter_iff_ext (c d : Interval ℝ) (v : Bound ℝ) :
    (c.inter d).isCorrectB v = true ↔ (c.isCorrectB v = true ∧ d.isCorrectB v = true) := by
  simp only [isCorrectB_iff, inter_denote, Set.mem_inter_iff]

/-- `operator&=` computes the same interval as `operator&` -/
theorem interAssign_eq (c d : Interval ℝ) : c.interAssign d = c.inter d := interAssign_eq_inter c d

theorem interAssign_iff (c d : Interval ℝ) (v : ℝ) :
    (c.interAssign d).isCorrect v = true ↔ (c.isCorrect v = true ∧ d.isCorrect v = true) := by
  rw [interAssign_eq, inter_iff]

/-- the order of the operands does not matter for what is accepted -/
theorem inter_comm_denote (c d : Interval ℝ) : (c.inter d).denote = (d.inter c).denote := by
  rw [inter_denote, inter_denote, Set.inter_comm]

/-- the precision of the intersection is the larger precision -/
theorem inter_prec (c d : Interval ℝ) : (c.inter d).prec = max c.prec d.prec :=
  (ScalarReal.max_eq d.prec c.prec).trans (max_comm _ _)

/-! ## emptiness -/

/-- **isEmpty_iff_real** (full strength, no guard): emptiness is reported iff no real number is
accepted — for every combination of bounds (finite, equal, crossed, infinite on either side,
`[+inf,+inf]` and `[-inf,-inf]` included) and flags -/
theorem isEmpty_iff_real (c : Interval ℝ) : c.isEmpty = true ↔ ∀ v : ℝ, c.isCorrect v = false := by
  rw [← Bool.not_eq_false, isEmpty_eq_false_iff_exists, not_exists]
  exact forall_congr' fun v => by rw [Bool.eq_false_iff, Ne, isCorrect_iff]

/-- the same with sets: `isEmpty` iff the denoted set contains no real number -/
theorem isEmpty_iff (c : Interval ℝ) : c.isEmpty = true ↔ c.denote ∩ Set.range ((↑) : ℝ → EReal) = ∅ := by
  rw [isEmpty_iff_real, Set.eq_empty_iff_forall_notMem]
  constructor
  · rintro h x ⟨hx, v, rfl⟩
    have := h v; rw [Bool.eq_false_iff, Ne, isCorrect_iff] at this; exact this hx
  · intro h v
    rw [Bool.eq_false_iff, Ne, isCorrect_iff]
    exact fun hv => h v ⟨hv, v, rfl⟩

/-- a non-empty interval has a real member (the witness the driver looks for among its probe
points: a bound or a point between the bounds) -/
theorem not_isEmpty_iff_exists (c : Interval ℝ) : c.isEmpty = false ↔ ∃ v : ℝ, c.isCorrect v = true := by
  exact (isEmpty_eq_false_iff_exists c).trans (exists_congr fun v => (isCorrect_iff c v).symm)

/-- an interval that accepts no double at all (infinite ones included) is reported empty; the
converse is *not* demanded by the property and does not hold: `[+inf,+inf]` accepts the infinite
double `+inf`, which is not a real number, and is reported empty (`isEmpty_infinite_point`) -/
theorem isEmpty_of_denote_empty (c : Interval ℝ) (h : c.denote = ∅) : c.isEmpty = true := by
  rw [isEmpty_iff, h, Set.empty_inter]

theorem isEmpty_infinite_point :
    let c : Interval ℝ := Interval.make .posInf .posInf true true 0
    let d : Interval ℝ := Interval.make .negInf .negInf true true 0
    c.isEmpty = true ∧ c.isCorrectB .posInf = true ∧ d.isEmpty = true ∧ d.isCorrectB .negInf = true := by
  simp [Interval.make, isEmpty, isCorrectB, finiteLowerBound, finiteUpperBound, Bound.gtb, Bound.geb, Bound.ltb,
    Bound.leb, Bound.eqb]

/-- the intersection is reported empty iff no real is accepted by both operands -/
theorem inter_isEmpty_iff (c d : Interval ℝ) :
    (c.inter d).isEmpty = true ↔ ∀ v : ℝ, ¬ (c.isCorrect v = true ∧ d.isCorrect v = true) := by
  rw [isEmpty_iff_real]
  refine forall_congr' fun v => ?_
  rw [Bool.eq_false_iff, Ne, inter_iff]

/-! ## comparisons with a value, comparisons of intervals, the bound setters -/

/-- `c < v`, `c > v`, `c <= v`, `c >= v` (Constraints.h:195-213) are sound: every accepted value
(infinite doubles included) is below / above `v` — what the driver evaluates on the
implementation's answers (clause `cmp_sound`) -/
theorem cmp_sound (c : Interval ℝ) (v : Bound ℝ) (x : EReal) (hx : x ∈ c.denote) :
    (c.ltV v = true → x < v.toEReal) ∧ (c.gtV v = true → v.toEReal < x) ∧
    (c.leV v = true → x ≤ v.toEReal) ∧ (c.geV v = true → v.toEReal ≤ x) := by
  obtain ⟨h1, h2⟩ := (mem_denote c x).1 hx
  refine ⟨fun h => ?_, fun h => ?_, fun h => (le_of_ite_le_lt h2).trans ((Bound.leb_iff _ _).1 h),
    fun h => ((Bound.geb_iff _ _).1 h).trans (le_of_ite_le_lt h1)⟩
  · unfold ltV at h
    cases hi : c.inclHi <;> rw [hi] at h h2
    · exact h2.trans_le ((Bound.leb_iff _ _).1 h)
    · exact h2.trans_lt ((Bound.ltb_iff _ _).1 h)
  · unfold gtV at h
    cases hi : c.inclLo <;> rw [hi] at h h1
    · exact ((Bound.geb_iff _ _).1 h).trans_lt h1
    · exact ((Bound.gtb_iff _ _).1 h).trans_le h1

/-- … and exact on an interval with `lo < hi`: `c < v` iff every accepted value is below `v`,
`c <= v` iff every accepted value is at most `v` (and symmetrically) -/
theorem ltV_iff (c : Interval ℝ) (v : Bound ℝ) (h : c.lo.toEReal < c.hi.toEReal) :
    c.ltV v = true ↔ ∀ x ∈ c.denote, x < v.toEReal := by
  refine ⟨fun hl x hx => (cmp_sound c v x hx).1 hl, fun hall => ?_⟩
  unfold ltV
  cases hi : c.inclHi
  · -- open at `hi`: were `v < hi`, a member above `v` would exist
    refine (Bound.leb_iff _ _).2 (not_lt.1 fun hv => ?_)
    obtain ⟨y, hy, hvy⟩ := exists_mem_gt h hv
    exact (hall y hy).not_gt hvy
  · -- closed at `hi`: `hi` itself is a member
    refine (Bound.ltb_iff _ _).2 (hall _ ((mem_denote c _).2 ⟨ite_le_lt_of_lt h, ?_⟩))
    rw [hi, if_pos rfl]

theorem leV_iff (c : Interval ℝ) (v : Bound ℝ) (h : c.lo.toEReal < c.hi.toEReal) :
    c.leV v = true ↔ ∀ x ∈ c.denote, x ≤ v.toEReal := by
  refine ⟨fun hl x hx => (cmp_sound c v x hx).2.2.1 hl, fun hall => ?_⟩
  refine (Bound.leb_iff _ _).2 (not_lt.1 fun hv => ?_)
  obtain ⟨y, hy, hvy⟩ := exists_mem_gt h hv
  exact (hall y hy).not_gt hvy

/-- `operator==` compares bounds and flags (not the precision); equal intervals accept the same
values; `operator!=` is its negation -/
theorem eqI_iff (c d : Interval ℝ) : c.eqI d = true ↔
    c.lo.toEReal = d.lo.toEReal ∧ c.inclLo = d.inclLo ∧ c.hi.toEReal = d.hi.toEReal ∧ c.inclHi = d.inclHi := by
  unfold eqI
  simp only [Bool.and_eq_true, Bound.eqb_iff, beq_iff_eq, and_assoc]

theorem eqI_denote (c d : Interval ℝ) (h : c.eqI d = true) : c.denote = d.denote := by
  obtain ⟨h1, h2, h3, h4⟩ := (eqI_iff c d).1 h
  ext x
  rw [mem_denote, mem_denote, h1, h2, h3, h4]

theorem neI_eq_not_eqI (c d : Interval ℝ) : c.neI d = !c.eqI d := by
  simp only [neI, eqI, Bool.not_and, bne]

/-- `operator<=(IntervalConstraint)` ("is included or equal in another one", Constraints.h:396)
compares the bounds only: it is inclusion of the *closures*.  It is not inclusion of the
intervals — `[0,1] <= ]0,1[` is true (`leI_flags_witness`).  No clause of C01 is about this
operator and nothing in the library calls it; the model is bug-compatible. -/
theorem leI_iff (c d : Interval ℝ) : c.leI d = true ↔ d.lo.toEReal ≤ c.lo.toEReal ∧ c.hi.toEReal ≤ d.hi.toEReal := by
  unfold leI
  rw [Bool.and_eq_true, Bound.geb_iff, Bound.leb_iff]

theorem leI_flags_witness :
    let c : Interval ℝ := Interval.make (.fin 0) (.fin 1) true true 0
    let d : Interval ℝ := Interval.make (.fin 0) (.fin 1) false false 0
    c.leI d = true ∧ c.isCorrect 0 = true ∧ d.isCorrect 0 = false := by
  simp [Interval.make, leI, isCorrect, isCorrectB, Bound.geb, Bound.gtb, Bound.leb, Bound.ltb]

/-- `setLowerBound(b, strict)` / `setUpperBound(b, strict)` replace one end and nothing else:
afterwards exactly the values above (below) the new end, and accepted at the other end, are accepted -/
theorem setLowerBound_iff (c : Interval ℝ) (b : Bound ℝ) (strict : Bool) (v : ℝ) :
    (c.setLowerBound b strict).isCorrect v = true ↔
      (if strict then b.toEReal < v else b.toEReal ≤ v) ∧ (if c.inclHi then (v : EReal) ≤ c.hi.toEReal else (v : EReal) < c.hi.toEReal) := by
  refine (isCorrect_iff_bounds _ v).trans ?_
  cases strict <;> exact Iff.rfl

theorem setUpperBound_iff (c : Interval ℝ) (b : Bound ℝ) (strict : Bool) (v : ℝ) :
    (c.setUpperBound b strict).isCorrect v = true ↔
      (if c.inclLo then c.lo.toEReal ≤ v else c.lo.toEReal < v) ∧ (if strict then (v : EReal) < b.toEReal else (v : EReal) ≤ b.toEReal) := by
  refine (isCorrect_iff_bounds _ v).trans ?_
  cases strict <;> exact Iff.rfl

/-! ## limits -/

/-- `getLimit` answers the request itself when it is accepted, otherwise the bound on the
request's side (`limitOk` is what the driver evaluates on the implementation's answers) -/
theorem getLimit_spec (c : Interval ℝ) (v : Bound ℝ) : c.limitOk v (c.getLimit v) = true := by
  unfold limitOk getLimit
  have hm : c.memSpec v = c.isCorrectB v := by
    rw [Bool.eq_iff_iff, memSpec_iff, isCorrectB_iff]
  have refl : ∀ b : Bound ℝ, Bound.eqb b b = true := fun b => (Bound.eqb_iff b b).2 rfl
  rw [hm]
  cases h : c.isCorrectB v
  · simp only [Bool.false_eq_true, if_false, geV, Bound.geb]
    by_cases h2 : Bound.leb v c.lo = true <;> simp [h2, refl]
  · simp [refl]

/-- for a rejected finite request, the limit is the nearest point of the interval's closure:
no accepted value is nearer -/
theorem getLimit_nearest (c : Interval ℝ) (v l u : ℝ) (hl : c.getLimit (.fin v) = .fin l)
    (hu : c.isCorrect u = true) : |l - v| ≤ |u - v| := by
  cases hv : c.isCorrect v with
  | true =>
    obtain rfl : v = l := Bound.fin.inj ((if_pos (show c.isCorrectB (.fin v) = true from hv)).symm.trans hl)
    rw [sub_self, abs_zero]; exact abs_nonneg _
  | false =>
    rw [getLimit_of_rejected hv] at hl
    cases hg : c.geV (.fin v) with
    | true =>
      -- `v ≤ lo = l ≤ u`
      rw [hg, if_pos rfl] at hl
      have hvl := (geV_iff c v).1 hg
      rw [hl, Bound.toEReal_fin, EReal.coe_le_coe_iff] at hvl
      exact abs_le_abs_of_nonneg (sub_nonneg.2 hvl) (sub_le_sub_right (lo_le_of_isCorrect hl hu) v)
    | false =>
      -- `u ≤ hi = l ≤ v`
      rw [hg, if_neg Bool.false_ne_true] at hl
      exact abs_le_abs_of_nonpos (sub_nonpos.2 (hi_le_of_rejected hv hg hl))
        (sub_le_sub_right (le_hi_of_isCorrect hl hu) v)

/-- `getAcceptedLimit` on a wide interval: for a rejected finite request it answers a finite
value within one precision step of the bound on the request's side, which is accepted whenever
the precision is positive or the bound is included -/
theorem getAcceptedLimit_spec (c : Interval ℝ) (v : ℝ) (hw : c.wide = true) (hrej : c.isCorrect v = false) :
    ∃ limit b : ℝ, c.getAcceptedLimit (.fin v) = .fin limit ∧ (c.lo = .fin b ∧ v ≤ b ∨ c.hi = .fin b ∧ b ≤ v) ∧
      |limit - b| ≤ c.prec ∧ (c.isCorrect limit = true ∨ limit = b) := by
  have hp0 := ((wide_iff c).1 hw).1
  rcases alimit_exact c v hw hrej with ⟨-, l, hlo, hvl, hlim, a1, a2, -⟩ | ⟨-, h, hhi, hhv, hlim, a1, a2, -⟩
  · refine ⟨_, l, hlim, Or.inl ⟨hlo, hvl⟩, ?_⟩
    cases hil : c.inclLo with
    | true => exact ⟨by rw [if_pos rfl, sub_self, abs_zero]; exact hp0, Or.inl (a1 hil)⟩
    | false =>
      rw [if_neg Bool.false_ne_true, add_sub_cancel_left, abs_of_nonneg hp0]
      exact ⟨le_rfl, hp0.eq_or_lt.elim (fun hz => Or.inr (by rw [← hz, add_zero])) (fun hpos => Or.inl (a2 hil hpos))⟩
  · refine ⟨_, h, hlim, Or.inr ⟨hhi, hhv⟩, ?_⟩
    cases hiu : c.inclHi with
    | true => exact ⟨by rw [if_pos rfl, sub_self, abs_zero]; exact hp0, Or.inl (a1 hiu)⟩
    | false =>
      rw [if_neg Bool.false_ne_true, sub_sub_cancel_left, abs_neg, abs_of_nonneg hp0]
      exact ⟨le_rfl, hp0.eq_or_lt.elim (fun hz => Or.inr (by rw [← hz, sub_zero])) (fun hpos => Or.inl (a2 hiu hpos))⟩

/-! ## Parameter: the invariant over all histories -/

/-- The invariant of C01: a parameter that carries a constraint holds a value the constraint
accepts (`Param.Inv`), stated on the executable predicate the driver evaluates -/
theorem invOk_iff_inv (p : Param ℝ) : p.invOk = true ↔ ∀ c, p.constraint = some c → (p.value : EReal) ∈ c.denote :=
  Param.invOk_iff p

/-- every object in the store satisfies the invariant (and has a non-negative precision) -/
def StoreInv (s : PStore ℝ) : Prop := ∀ k p, s k = some p → p.Inv ∧ 0 ≤ p.precision

theorem storeInv_empty : StoreInv PStore.empty := by
  intro k p h; cases h

theorem storeInv_set {s : PStore ℝ} (hs : StoreInv s) (k : Nat) {p : Param ℝ} (hp : p.Inv ∧ 0 ≤ p.precision) :
    StoreInv (s.set k p) := by
  intro i q hq
  unfold PStore.set at hq
  split_ifs at hq
  · cases hq; exact hp
  · exact hs i q hq

/-- one call of construct / copy / convert (plain → auto-correcting, and the slicing copy back) / assign / setValue (plain or auto-correcting) /
setPrecision / setConstraint / removeConstraint keeps the invariant, whether it raises or not -/
theorem step_inv (s : PStore ℝ) (op : POp ℝ) (hs : StoreInv s) : StoreInv (POp.step s op).1 := by
  have h := POp.step_cases s op
  generalize POp.step s op = r at h ⊢
  cases h with
  | skip => exact hs
  | write h => exact storeInv_set hs _ (h hs)

theorem param_inv_from (ops : List (POp ℝ)) (s : PStore ℝ) (hs : StoreInv s) : StoreInv (POp.run s ops) := by
  induction ops generalizing s with
  | nil => exact hs
  | cons op rest ih => exact ih _ (step_inv s op hs)

/-- **param_inv**: after any history of calls — of any length, raising calls included — every
parameter object holds a value its constraint accepts -/
theorem param_inv(ops : List (POp ℝ)) : StoreInv (POp.run PStore.empty ops) :=
  param_inv_from ops _ storeInv_empty

/-- the same on the executable predicate -/
theorem param_invOk (ops : List (POp ℝ)) (k : Nat) (p : Param ℝ) (h : POp.run PStore.empty ops k = some p) :
    p.invOk = true := (Param.invOk_iff p).2 (param_inv ops k p h).1

/-- **reject_unchanged**: a call that raises leaves every object as it was -/
theorem reject_unchanged (s : PStore ℝ) (op : POp ℝ) (e : PErr) (h : (POp.step s op).2 = .raised e) :
    (POp.step s op).1 = s := by
  have hc := POp.step_cases s op
  generalize POp.step s op = r at hc h ⊢
  cases hc with
  | skip => rfl
  | write => cases h

/-- a call on one register leaves the objects in all other registers as they were
(copies are independent objects) -/
theorem step_other (s : PStore ℝ) (op : POp ℝ) (i : Nat)
    (hi : match op with
      | .construct k _ _ _ _ => i ≠ k | .copy _ d => i ≠ d | .toAuto _ d => i ≠ d | .toPlain _ d => i ≠ d | .assign _ d => i ≠ d
      | .setValue k _ => i ≠ k | .setPrecision k _ => i ≠ k | .setConstraint k _ => i ≠ k | .removeConstraint k => i ≠ k) :
    (POp.step s op).1 i = s i := by
  have h := POp.step_cases s op
  generalize POp.step s op = r at h ⊢
  cases h with
  | skip => rfl
  | write => exact if_neg (by cases op <;> exact hi)

/-! ## Parameter: what each call does -/

/-- the plain setter raises iff the request is outside the precision window and the constraint
rejects it; it then raises a constraint error -/
theorem setValue_raises_iff (p : Param ℝ) (v : ℝ) (e : PErr) :
    p.setValueBase v = .error e ↔
      e = .constraint ∧ p.precision / 2 < |v - p.value| ∧ ∃ c, p.constraint = some c ∧ (v : EReal) ∉ c.denote := by
  rw [svb_err_iff, accepts_eq_false_iff]

/-- an accepted request outside the window is stored exactly; one inside the window is ignored -/
theorem setValue_ok_iff (p : Param ℝ) (v : ℝ) (p' : Param ℝ) :
    p.setValueBase v = .ok p' ↔
      (|v - p.value| ≤ p.precision / 2 ∧ p' = p) ∨
      (p.precision / 2 < |v - p.value| ∧ p.accepts v = true ∧ p' = { p with value := v }) := by
  rw [svb_ok_iff]
  exact or_congr and_comm ⟨fun h => ⟨h.2.1, h.2.2, h.1⟩, fun h => ⟨h.2.2, h.1, h.2.1⟩⟩

/-- the (repaired) constructor raises iff the constraint rejects the initial value — for every
initial value, 0 included — and otherwise builds an object holding exactly that value -/
theorem construct_raises_iff (v : ℝ) (c : Option (Interval ℝ)) (prec : ℝ) (a : Bool) (e : PErr) :
    Param.construct v c prec a = .error e ↔ e = .constraint ∧ ∃ c', c = some c' ∧ (v : EReal) ∉ c'.denote := by
  rw [construct_eq_guarded, guarded_error_iff]

theorem construct_ok_fields (v : ℝ) (c : Option (Interval ℝ)) (prec : ℝ) (a : Bool) (p : Param ℝ)
    (h : Param.construct v c prec a = .ok p) :
    p.value = v ∧ p.constraint = c ∧ p.auto = a ∧ p.precision = max prec 0 := by
  obtain ⟨rfl, -⟩ := construct_eq h
  exact ⟨rfl, rfl, rfl, rfl⟩

/-- the constraint setter raises iff the new constraint rejects the current value -/
theorem setConstraint_raises_iff (p : Param ℝ) (c : Option (Interval ℝ)) (e : PErr) :
    p.setConstraint c = .error e ↔ e = .constraint ∧ ∃ c', c = some c' ∧ (p.value : EReal) ∉ c'.denote := by
  rw [setConstraint_eq_guarded, guarded_error_iff]

/-! ## the auto-correcting parameter -/

/-- The width hypothesis in the property's own terms: an interval with proper bounds that is at
least `1e-9` wide, with a precision between 0 and `1e-10` (the default `TINY = 1e-12` included,
`default_prec_ok`), is wide.  The proof needs `TINY < 9e-10` of the generated constant. -/
theorem wide_of_width (c : Interval ℝ) (hp : c.proper = true) (h0 : 0 ≤ c.prec) (h1 : c.prec ≤ 1e-10)
    (hwid : c.lo.toEReal + ((1e-9 : ℝ) : EReal) ≤ c.hi.toEReal) : c.wide = true := by
  have hT : (Constants.TINY : ℝ) < 9e-10 := by
    simp only [Constants.TINY, ScalarReal.ofRat_eq]; norm_num
  refine (wide_iff c).2 ⟨h0, ?_⟩
  unfold proper at hp
  cases hlo : c.lo with
  | posInf => rw [hlo] at hp; simp at hp
  | negInf =>
    rw [Bound.toEReal_negInf, EReal.bot_add]
    cases hhi : c.hi with
    | negInf => rw [hhi] at hp; simp at hp
    | fin h => exact EReal.bot_lt_coe h
    | posInf => exact bot_lt_top
  | fin l =>
    rw [hlo] at hwid
    exact (EReal.add_lt_add_left_coe (EReal.coe_lt_coe_iff.2
      ((add_lt_add_of_le_of_lt h1 hT).trans_eq (by norm_num))) l).trans_le hwid

theorem default_prec_ok : (0 : ℝ) ≤ Constants.TINY ∧ (Constants.TINY : ℝ) ≤ 1e-10 := by
  refine ⟨TINY_pos.le, ?_⟩
  simp only [Constants.TINY, ScalarReal.ofRat_eq]; norm_num

/-- Full statement wanted (the property's words): for every finite request `v`, every parameter
state satisfying the invariant and every interval at least `1e-9` wide,
`∃ p', p.setValueAuto v = .ok p'`.  It is false of the code: the setter raises when the
*constraint's precision* is not small against the width (`auto_precision_witness`: `]0, 1e-9[`
with precision `2e-9`; known finding C01-auto-raises-large-constraint-precision), and on intervals
narrower than `TINY` (`auto_narrow_witness`, outside the property's quantifier).
Proved: on a *wide* interval (`0 ≤ constraint precision`, `lo + precision + TINY < hi` — implied by
width ≥ `1e-9` and constraint precision in `[0, 1e-10]`, `wide_of_width`) the auto-correcting
setter never raises, for any finite request. -/
theorem auto_total_partial (p : Param ℝ) (v : ℝ) (hp : 0 ≤ p.precision)
    (hw : ∀ c, p.constraint = some c → c.wide = true) : ∃ p', p.setValueAuto v = .ok p' := by
  rcases svb_ok_or_rejected p v with ⟨q, e⟩ | ⟨-, hr⟩
  · exact ⟨q, sva_of_ok e⟩
  · obtain ⟨c, hc, -⟩ := (accepts_eq_false_iff p v).1 hr
    rcases auto_attempt hc (hw c hc) ((accepts_some hc v).symm.trans hr) with
      ⟨-, -, -, -, p', -, h, -⟩ | ⟨-, -, -, -, p', -, h, -⟩ <;> exact ⟨p', h⟩

/-- `auto_total_partial` under the name other properties cite (C10 `auto_never_raises`); the guard
is `wide`, see there -/
theorem auto_total (p : Param ℝ) (v : ℝ) (hp : 0 ≤ p.precision)
    (hw : ∀ c, p.constraint = some c → c.wide = true) : ∃ p', p.setValueAuto v = .ok p' :=
  auto_total_partial p v hp hw

/-- in the property's own terms: width at least `1e-9` and a constraint precision in `[0, 1e-10]`
(the default `TINY` included) -/
theorem auto_total_of_width (p : Param ℝ) (v : ℝ) (c : Interval ℝ) (hc : p.constraint = some c) (hp : 0 ≤ p.precision)
    (hpr : c.proper = true) (h0 : 0 ≤ c.prec) (h1 : c.prec ≤ 1e-10)
    (hwid : c.lo.toEReal + ((1e-9 : ℝ) : EReal) ≤ c.hi.toEReal) : ∃ p', p.setValueAuto v = .ok p' :=
  auto_total_partial p v hp (fun c' hc' => by
    have : c' = c := by rw [hc] at hc'; exact (Option.some.inj hc').symm
    rw [this]; exact wide_of_width c hpr h0 h1 hwid)

/-- the result always satisfies the constraint (no width hypothesis needed) -/
theorem auto_inv (p : Param ℝ) (v : ℝ) (p' : Param ℝ) (hinv : p.Inv) (h : p.setValueAuto v = .ok p') :
    p'.Inv ∧ p'.constraint = p.constraint ∧ p'.precision = p.precision := by
  exact ⟨sva_inv hinv h, (sva_fields h).1, (sva_fields h).2.1⟩

/-- an accepted request outside the precision window is stored exactly, as by the plain setter -/
theorem auto_accepted_exact (p : Param ℝ) (v : ℝ) (h1 : p.precision / 2 < |v - p.value|) (h2 : p.accepts v = true) :
    p.setValueAuto v = .ok { p with value := v } := by
  exact sva_of_ok ((setValue_ok_iff p v _).2 (Or.inr ⟨h1, h2, rfl⟩))

/-- Full statement wanted: on every interval at least `1e-9` wide the setter "ends on the accepted
value nearest to the request (one precision step inside an open bound)".  Guarded by `wide` like
`auto_total_partial` (the unguarded statement fails with it: `auto_precision_witness`); the exact
landing point is `auto_lands`.
Proved: the value the setter ends on is accepted, and it is the accepted value
nearest to the request up to one step (`max constraint-precision TINY`: one precision step inside
an open bound) plus the parameter's own precision window -/
theorem auto_nearest_partial (p : Param ℝ) (v : ℝ) (c : Interval ℝ) (p' : Param ℝ) (hc : p.constraint = some c)
    (hp : 0 ≤ p.precision) (hw : c.wide = true) (hinv : p.Inv) (h : p.setValueAuto v = .ok p') :
    c.isCorrect p'.value = true ∧
    ∀ u, c.isCorrect u = true → |p'.value - v| ≤ |u - v| + max c.prec Constants.TINY + p.precision / 2 := by
  exact ⟨(Inv_some ((sva_fields h).1.trans hc)).1 (sva_inv hinv h),
    nearestOk_sound hc (auto_nearestOk hc hp hw hinv h 1 (le_refl _))⟩

/-- the executable form evaluated by the driver (slack 1 in exact arithmetic, 2 on doubles) -/
theorem auto_nearestOk_holds (p : Param ℝ) (v : ℝ) (c : Interval ℝ) (p' : Param ℝ) (hc : p.constraint = some c)
    (hp : 0 ≤ p.precision) (hw : c.wide = true) (hinv : p.Inv) (h : p.setValueAuto v = .ok p') (k : Int) (hk : 1 ≤ k) :
    p.nearestOk (Scalar.ofInt k) v p'.value = true := auto_nearestOk hc hp hw hinv h k hk

/-- with precision 0 on both sides of an included bound the correction is exact: the result is
the nearest accepted value itself -/
theorem auto_nearest_closed (p : Param ℝ) (v : ℝ) (c : Interval ℝ) (p' : Param ℝ) (hc : p.constraint = some c)
    (hp : p.precision = 0) (hw : c.wide = true) (hcl : c.inclLo = true ∧ c.inclHi = true)
    (h : p.setValueAuto v = .ok p') :
    ∀ u, c.isCorrect u = true → |p'.value - v| ≤ |u - v| := by
  intro u hu
  have hacc := accepts_some hc
  rcases svb_ok_or_rejected p v with ⟨q, e⟩ | ⟨e, b⟩
  · -- the request goes through and is stored exactly
    obtain rfl := Except.ok.inj ((sva_of_ok e).symm.trans h)
    rw [svb_exact hp e, sub_self, abs_zero]; exact abs_nonneg _
  · -- otherwise the setter ends on the limit, which is the bound on the request's side
    obtain ⟨b', hlim, hgl, hok⟩ := alimit_closed c v hw hcl ((hacc v).symm.trans b)
    obtain ⟨q, hq⟩ := svb_of_accepts ((hacc b').trans hok)
    obtain rfl := Except.ok.inj ((sva_limit e hc hlim hq).symm.trans h)
    rw [svb_exact hp hq]; exact getLimit_nearest c v b' u hgl hu

/-- the width hypothesis of `auto_total` is needed: on `]0, TINY/2[` (precision `TINY`) the
auto-correcting setter raises for the request 5 — limit, limit + TINY and limit - TINY are all
rejected — and, by `reject_unchanged`, leaves the parameter as it was -/
theorem auto_narrow_witness :
    let T : ℝ := Constants.TINY
    let c : Interval ℝ := Interval.make (.fin 0) (.fin (T / 2)) false false T
    let p : Param ℝ := ⟨T / 4, 0, some c, true⟩
    p.Inv ∧ p.setValueAuto 5 = .error .constraint := by
  intro T c p
  have hT : 0 < T := TINY_pos
  have hT1 : T ≤ 1e-10 := default_prec_ok.2
  have mem : ∀ x : ℝ, c.isCorrect x = true ↔ 0 < x ∧ x < T / 2 := fun x => isCorrect_open 0 (T / 2) T x
  have out : ∀ x : ℝ, x ≤ 0 ∨ T / 2 ≤ x → c.isCorrect x = false := fun x hx =>
    Bool.eq_false_iff.2 fun h => hx.elim (not_le.2 ((mem x).1 h).1) (not_le.2 ((mem x).1 h).2)
  have hval : c.isCorrect (T / 4) = true :=
    (mem _).2 ⟨div_pos hT four_pos, div_lt_div_of_pos_left hT two_pos (by norm_num)⟩
  have h5 : c.isCorrect 5 = false := out 5 (Or.inr ((half_le_self hT.le).trans (hT1.trans (by norm_num))))
  have hg : c.geV (.fin 5) = false :=
    Bool.eq_false_iff.2 fun h => absurd (EReal.coe_le_coe_iff.1 ((geV_iff c 5).1 h)) (by norm_num)
  have hlim : c.getAcceptedLimit (.fin 5) = .fin (T / 2 - T) := by
    rw [getAcceptedLimit_of_rejected h5, hg]; rfl
  -- the limit `T/2 - T` and `limit - T` lie below the interval, `limit + T = T/2` is its excluded upper bound
  have hl : T / 2 - T ≤ 0 := sub_nonpos.2 (half_le_self hT.le)
  exact ⟨(Inv_some rfl).2 hval,
    sva_raises rfl rfl hval hlim h5 (out _ (Or.inl hl)) (out _ (Or.inr (sub_add_cancel _ _).ge))
      (out _ (Or.inl ((sub_le_self _ hT.le).trans hl)))⟩

/-- **auto_lands** — "ends on the accepted value nearest to the request (one precision step inside
an open bound)", exactly: for a parameter of precision 0 satisfying the invariant, a wide interval
and a rejected request, the setter ends on the bound on the request's side when that bound is
included, one constraint-precision step inside it when it is excluded, and `TINY` inside it when
it is excluded and the constraint's precision is 0. -/
theorem auto_lands (p : Param ℝ) (v : ℝ) (c : Interval ℝ) (p' : Param ℝ) (hc : p.constraint = some c)
    (hp0 : p.precision = 0) (hw : c.wide = true) (hinv : p.Inv) (hrej : c.isCorrect v = false)
    (h : p.setValueAuto v = .ok p') :
    (c.geV (.fin v) = true ∧ ∃ l, c.lo = .fin l ∧ v ≤ l ∧
        p'.value = if c.inclLo then l else if 0 < c.prec then l + c.prec else l + Constants.TINY) ∨
    (c.geV (.fin v) = false ∧ ∃ u, c.hi = .fin u ∧ u ≤ v ∧
        p'.value = if c.inclHi then u else if 0 < c.prec then u - c.prec else u - Constants.TINY) := by
  -- with precision 0 the window swallows no rejected attempt (the stored value is accepted), and an attempt that
  -- goes through is stored exactly
  have B : ∀ {x q}, p.setValueBase x = .ok q → c.isCorrect x = false → False := fun {x q} hq hx => by
    rw [svb_rejected hp0 (fun e => by rw [e, (Inv_some hc).1 hinv] at hx; cases hx)
      ((accepts_some hc x).trans hx)] at hq
    cases hq
  rcases auto_attempt hc hw hrej with ⟨hg, l, hlo, hvl, q, x, h1, h2, hx⟩ | ⟨hg, u, hhi, huv, q, x, h1, h2, hx⟩ <;>
    obtain rfl := Except.ok.inj (h1.symm.trans h)
  · exact Or.inl ⟨hg, l, hlo, hvl, (svb_exact hp0 h2).trans (hx.resolve_right fun hr => B h2 hr.1)⟩
  · exact Or.inr ⟨hg, u, hhi, huv, (svb_exact hp0 h2).trans (hx.resolve_right fun hr => B h2 hr.1)⟩

/-- the *precision* part of the guard `wide` is needed, inside the property's quantifier: the
interval `]0, 1e-9[` is `1e-9` wide, but with the constraint precision `2e-9` (a public constructor
argument) the auto-correcting setter raises for the request −5 — `lo + precision`, and that
`± TINY`, all lie above the upper bound (known finding C01-auto-raises-large-constraint-precision) -/
theorem auto_precision_witness :
    let c : Interval ℝ := Interval.make (.fin 0) (.fin 1e-9) false false 2e-9
    let p : Param ℝ := ⟨5e-10, 0, some c, true⟩
    p.Inv ∧ c.lo.toEReal + ((1e-9 : ℝ) : EReal) ≤ c.hi.toEReal ∧ c.wide = false ∧
      p.setValueAuto (-5) = .error .constraint := by
  intro c p
  have hT : (0 : ℝ) < Constants.TINY := TINY_pos
  have hT1 : (Constants.TINY : ℝ) ≤ 1e-10 := default_prec_ok.2
  have mem : ∀ x : ℝ, c.isCorrect x = true ↔ 0 < x ∧ x < 1e-9 := fun x => isCorrect_open 0 1e-9 2e-9 x
  have out : ∀ x : ℝ, x ≤ 0 ∨ 1e-9 ≤ x → c.isCorrect x = false := fun x hx =>
    Bool.eq_false_iff.2 fun h => hx.elim (not_le.2 ((mem x).1 h).1) (not_le.2 ((mem x).1 h).2)
  have hval : c.isCorrect 5e-10 = true := (mem _).2 ⟨by norm_num, by norm_num⟩
  have h5 : c.isCorrect (-5) = false := out _ (Or.inl (by norm_num))
  have hg : c.geV (.fin (-5)) = true := (geV_iff c _).2 (EReal.coe_le_coe_iff.2 (by norm_num))
  have hlim : c.getAcceptedLimit (.fin (-5)) = .fin (0 + 2e-9) := by
    rw [getAcceptedLimit_of_rejected h5, hg]; rfl
  -- the limit `lo + precision` is `1e-9` above the upper bound, and `TINY ≤ 1e-10`
  have hl : (1e-9 : ℝ) + 1e-10 ≤ 0 + 2e-9 := by norm_num
  have hl' : (1e-9 : ℝ) ≤ 0 + 2e-9 := (le_add_of_nonneg_right (by norm_num)).trans hl
  refine ⟨(Inv_some rfl).2 hval, ?_, ?_,
    sva_raises rfl rfl hval hlim h5 (out _ (Or.inr hl')) (out _ (Or.inr (hl'.trans (le_add_of_nonneg_right hT.le))))
      (out _ (Or.inr (le_sub_iff_add_le.2 ((add_le_add_right hT1 _).trans hl))))⟩
  · show ((0 : ℝ) : EReal) + ((1e-9 : ℝ) : EReal) ≤ ((1e-9 : ℝ) : EReal)
    rw [← EReal.coe_add, zero_add]
  · refine Bool.eq_false_iff.2 fun h => ?_
    have h3 : ((0 : ℝ) : EReal) + (((2e-9 : ℝ) + Constants.TINY : ℝ) : EReal) < ((1e-9 : ℝ) : EReal) :=
      ((wide_iff c).1 h).2
    rw [← EReal.coe_add, EReal.coe_lt_coe_iff] at h3
    exact absurd (hl'.trans (add_le_add_right (le_add_of_nonneg_right hT.le) 0)) (not_le.2 h3)

/-! ## non-vacuity of the hypotheses -/

/-- `]0,1[` with the default precision is wide -/
example : (Interval.make (.fin 0) (.fin 1) false false Constants.TINY : Interval ℝ).wide = true := by
  rw [wide_iff]
  simp only [Interval.make, Constants.TINY, ScalarReal.ofRat_eq, Bound.toEReal_fin]
  refine ⟨by positivity, ?_⟩
  rw [← EReal.coe_add, EReal.coe_lt_coe_iff]; norm_num

/-- a parameter satisfying every hypothesis of `auto_nearest_partial` and of `auto_lands` (precision 0), with a rejected request -/
example : ∃ (p : Param ℝ) (c : Interval ℝ), p.constraint = some c ∧ 0 ≤ p.precision ∧ c.wide = true ∧ p.Inv ∧
    c.isCorrect 7 = false := by
  refine ⟨⟨1, 0, some (Interval.make (.fin 0) (.fin 2) true true 0), true⟩, _, rfl, le_refl _, ?_, ?_, ?_⟩
  · rw [wide_iff]
    simp only [Interval.make, Constants.TINY, ScalarReal.ofRat_eq, Bound.toEReal_fin]
    refine ⟨le_refl _, ?_⟩
    rw [← EReal.coe_add, EReal.coe_lt_coe_iff]; norm_num
  · exact (Inv_some rfl).2 ((isCorrect_closed 0 2 0 1).2 ⟨zero_le_one, one_le_two⟩)
  · rw [Bool.eq_false_iff, Ne, isCorrect_closed]; norm_num

/-- a history in which a call raises -/
example : (POp.step (POp.step PStore.empty (.construct 0 false (1 : ℝ) none 0)).1 (.setConstraint 0 (some (Interval.make (.fin 2) (.fin 3) true true 0)))).2
    = .raised .constraint := by
  simp [POp.step, Param.construct, Param.accepts, Param.setPrecision, PStore.set, Param.setConstraint,
    Interval.isCorrect, Interval.isCorrectB, Interval.make, Bound.geb, Bound.leb]

/-! ## the code as found (before the repairs listed in findings/C01.json): each full statement
above was false of it -/

/-- `isEmpty_iff` failed: `[1,1[` denotes the empty set but was not reported empty -/
theorem legacy_isEmpty_witness :
    let c : Interval ℝ := Interval.make (.fin 1) (.fin 1) true false 0
    Interval.Legacy.isEmpty c = false ∧ c.denote = ∅ := by
  refine ⟨by simp [Interval.Legacy.isEmpty, Interval.make, Bound.gtb, Bound.ltb], ?_⟩
  simp only [Interval.make]
  rw [denote_co]
  exact Set.Ico_self _

/-- `isEmpty_iff_real` still failed after that repair: `[+inf,+inf]` and `[-inf,-inf]` accept no
real number, yet were not reported empty (second repair of `isEmpty`) -/
theorem legacy_isEmpty_infinite_witness :
    let c : Interval ℝ := Interval.make .posInf .posInf true true 0
    let d : Interval ℝ := Interval.make .negInf .negInf true true 0
    Interval.Legacy.isEmpty1 c = false ∧ (∀ v : ℝ, c.isCorrect v = false) ∧
    Interval.Legacy.isEmpty1 d = false ∧ (∀ v : ℝ, d.isCorrect v = false) := by
  refine ⟨by simp [Interval.make, Interval.Legacy.isEmpty1, Bound.gtb, Bound.ltb, Bound.eqb], ?_,
    by simp [Interval.make, Interval.Legacy.isEmpty1, Bound.gtb, Bound.ltb, Bound.eqb], ?_⟩
  · intro v; simp [Interval.make, isCorrect, isCorrectB, Bound.geb, Bound.leb]
  · intro v; simp [Interval.make, isCorrect, isCorrectB, Bound.geb, Bound.leb]

/-- `inter_iff` failed: `]0,1] & [0,1]` accepted 0, which the left operand rejects
(both for `operator&` and `operator&=`) -/
theorem legacy_inter_witness :
    let a : Interval ℝ := Interval.make (.fin 0) (.fin 1) false true 0
    let b : Interval ℝ := Interval.make (.fin 0) (.fin 1) true true 0
    (Interval.Legacy.inter a b).isCorrect 0 = true ∧ (Interval.Legacy.interAssign a b).isCorrect 0 = true ∧
      a.isCorrect 0 = false := by
  simp [Interval.Legacy.inter, Interval.Legacy.interAssign, Interval.make, Interval.isCorrect, Interval.isCorrectB,
    Bound.geb, Bound.gtb, Bound.leb, Bound.ltb]

/-- `param_inv` failed at construction: `Parameter("x", 0, ]0,+inf[)` was accepted although the
constraint rejects 0; the repaired constructor raises -/
theorem legacy_construct_witness :
    let c : Interval ℝ := Interval.halfLine true (.fin 0) false 0
    (∃ p, Param.Legacy.construct (0 : ℝ) (some c) 0 false = .ok p ∧ p.invOk = false) ∧
      Param.construct (0 : ℝ) (some c) 0 false = .error .constraint := by
  constructor
  · refine ⟨⟨0, 0, some (Interval.halfLine true (.fin 0) false 0), false⟩, ?_, ?_⟩
    · simp [Param.Legacy.construct, Param.setValueBase, Param.setPrecision]
    · simp [Param.invOk, Param.accepts, Interval.halfLine, Interval.isCorrect, Interval.isCorrectB, Bound.gtb, Bound.ltb]
  · simp [Param.construct, Param.accepts, Interval.halfLine, Interval.isCorrect, Interval.isCorrectB, Bound.gtb, Bound.ltb]

end Bpp.C01
