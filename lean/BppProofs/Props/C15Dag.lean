import BppProofs.Lemmas.Dag
import BppProofs.Lemmas.TreeSwitch
/-!
# C15 — DAG container (src/Bpp/Graph/DAGraphImpl.h on GlobalGraph, model `BppModel/Dag.lean`)

Proved here (helper lemmas in `Lemmas/Dag.lean`):
* for all histories the two cached flags are **sound**: a set `isValid_` means `GlobalGraph::isDA`
  answers true on the graph as it is now, a set `isRooted_` means exactly one node is father-less
  now; hence `isValid()` / `isRooted()` answer what the computation answers on the current graph;
* `isDA` is **total** on a consistent graph (never raises, never runs out of the model's fuel) and
  its answer does not depend on the fuel;
* `isDA` **decides acyclicity**: it answers true iff no node reaches itself through one or more
  outgoing entries of the node table (`Arc`, `Acyclic` below; the transitive closure `TG` is an
  own inductive of `Lemmas/Dag.lean` with the constructors of Mathlib's `Relation.TransGen`:
  core Lean only);
* the driver's reference decision `isAcyclicRef` (transitive closure of the edge table,
  `BppModel/TreeRef.lean`) decides the same `Acyclic`, so that the check `valid_iff` compares
  `isValid()` with a proved-correct oracle;
* the histories include **re-rooting** (`rootAt`: `setRoot`, then `propagateDirection_` on a valid rooted
  DAG, `GlobalGraph::orientate()` otherwise), so all of the above holds after it as well, whether it
  succeeded or raised half way; and `rootAt` keeps the **shape**: the nodes and the undirected edge
  set with its edge ids (`dag_rootAt_shape`).
-/
namespace Bpp.C15
open Bpp Bpp.Graph Bpp.Graph.D
open Bpp.Graph.Dag (TG)

/-! ## the caches are sound over all histories -/

/-- the caches never lie: a set `isValid_` means `isDA` answers true on the current graph, a set
`isRooted_` means exactly one node of the current graph has no father -/
def DagCacheSound (d : D) : Prop :=
  (d.valid = true → D.isDA d.g = .ok true) ∧ (d.rooted = true → D.nbFatherless d.g = 1)

/-- **dag_cache_sound**: after any history of topology edits (node creations, links, unlinks,
deletions, add / remove son, add / remove father, remove all sons / fathers, set root, and
re-rooting: `rootAt` with its `setRoot`, `isRooted() && isValid()`, then `propagateDirection_` —
one `switchNodes` per relation above the new root — or `GlobalGraph::orientate()`) and queries
(`isValid`, `isRooted`, `getBelow*`), each call succeeding or raising (for `rootAt` and
`orientate`: possibly after part of the relations have been turned round), both caches are sound.
(`orientate()` resets the flags only when one of its `switchNodes` calls succeeded; when none did the
tables are as before and the flags are kept: still sound.)
A `rootAt` whose `propagateDirection_` would not return (outcome `fuel` of the model) is not a step
of a history: the state is left as it was. -/
theorem dag_cache_sound (ops : List DOp) : DagCacheSound (D.empty.run ops) :=
  (D.inv_run ops _ D.inv_empty).2

/-- … hence `isValid()` answers exactly what `isDA` answers on the current graph, whatever was
asked or edited before -/
theorem dag_isValid_is_isDA (ops : List DOp) :
    (D.empty.run ops).isValid.1 = D.isDA (D.empty.run ops).g :=
  D.isValid_fst (dag_cache_sound ops).1

/-- … and `isRooted()` answers whether at most one node of the current graph is father-less -/
theorem dag_isRooted_answer (ops : List DOp) :
    (D.empty.run ops).isRooted.1 = decide (D.nbFatherless (D.empty.run ops).g ≤ 1) := by
  have h := dag_cache_sound ops
  unfold D.isRooted
  split
  · rename_i hv; rw [h.2 hv]; rfl
  · split
    · rename_i h2
      have : ¬ D.nbFatherless (D.empty.run ops).g ≤ 1 := by omega
      simp [this]
    · rename_i h2
      have : D.nbFatherless (D.empty.run ops).g ≤ 1 := by omega
      simp [this]

/-- the check's predicates `cache_sound` / `rooted_cache` are this definition, evaluated on the
reported flags and graph -/
theorem dagCacheSound_decidable (d : D) : DagCacheSound d ↔
    ((!d.valid || (D.isDA d.g == .ok true)) && (!d.rooted || (D.nbFatherless d.g == 1))) = true := by
  unfold DagCacheSound
  cases d.valid <;> cases d.rooted <;> simp

/-- every reachable graph of the container (re-rooted or not) is consistent (the invariant of C14) and
directed -/
theorem dag_reachable_consistent (ops : List DOp) :
    Consistent (D.empty.run ops).g ∧ (D.empty.run ops).g.directed = true :=
  (D.inv_run ops _ D.inv_empty).1

/-- no notification is left pending in a reachable container (every mutator of the container drains
the queue of the graph) -/
theorem dag_reachable_quiet (ops : List DOp) : (D.empty.run ops).g.pending = [] :=
  D.pending_run ops _ rfl

/-! ## re-rooting keeps the shape of the graph -/

/-- **dag_rootAt_shape**: whatever `rootAt` does to a consistent directed DAG container (whatever its
cached flags say) — turning round the relations above the new root, or `orientate()`, succeeding or
raising half way — the nodes and the undirected edge set with its edge ids stay; when it succeeds
the node is the root; for an absent node it raises and the graph is unchanged -/
theorem dag_rootAt_shape (d : D) (hc : Consistent d.g) (hd : d.g.directed = true) (hp : d.g.pending = []) (n : Nat)
    (r : GOut Unit × D) (h : d.rootAt n = .ok r) :
    AL.keys r.2.g.nodes = AL.keys d.g.nodes ∧ uedges r.2.g = uedges d.g ∧
    (∀ u g', r.1 = .ok u g' → r.2.g.root = n) ∧ (d.g.hasNode n = false → r.2.g = d.g ∧ ∃ g', r.1 = .exc g') := by
  obtain ⟨_, hs, hroot, habs⟩ := D.rootAt_shape d ⟨hc, hd⟩ hp n r h
  refine ⟨hs.keys, hs.uedges, ?_, habs⟩
  intro u g' hr
  cases hn : d.g.hasNode n
  · obtain ⟨_, g'', hr'⟩ := habs hn
    rw [hr] at hr'; cases hr'
  · exact hroot hn

/-- the same with `SameShape` (`Lemmas/TreeSwitch.lean`: same nodes, same undirected edges with the same
ids, nothing pending), as for the tree container; and the root is the node asked for as soon as the
node exists, even when `rootAt` raised later on -/
theorem dag_rootAt_sameShape (d : D) (hc : Consistent d.g) (hd : d.g.directed = true) (hp : d.g.pending = []) (n : Nat)
    (r : GOut Unit × D) (h : d.rootAt n = .ok r) :
    SameShape d.g r.2.g ∧ (d.g.hasNode n = true → r.2.g.root = n) :=
  ⟨(D.rootAt_shape d ⟨hc, hd⟩ hp n r h).2.1, (D.rootAt_shape d ⟨hc, hd⟩ hp n r h).2.2.1⟩

/-- **dag_rootAt_shape_history**: the same on every reachable container: the hypotheses of
`dag_rootAt_shape` hold after any history -/
theorem dag_rootAt_shape_history (ops : List DOp) (n : Nat) (r : GOut Unit × D)
    (h : (D.empty.run ops).rootAt n = .ok r) :
    AL.keys r.2.g.nodes = AL.keys (D.empty.run ops).g.nodes ∧ uedges r.2.g = uedges (D.empty.run ops).g ∧
    (∀ u g', r.1 = .ok u g' → r.2.g.root = n) ∧
    ((D.empty.run ops).g.hasNode n = false → r.2.g = (D.empty.run ops).g ∧ ∃ g', r.1 = .exc g') :=
  dag_rootAt_shape _ (dag_reachable_consistent ops).1 (dag_reachable_consistent ops).2 (dag_reachable_quiet ops) n r h

/-- non-vacuity: the diamond 0 -> 1 -> 3, 0 -> 2 -> 3 (valid and rooted at 0) re-rooted at 3:
`propagateDirection_` succeeds, the result is acyclic, rooted at 3, and 3 is its only father-less node -/
example :
    let d := D.empty.run [.createNode, .createNode, .createNode, .createNode,
      .addSon 0 1, .addSon 0 2, .addSon 1 3, .addSon 2 3]
    (match d.rootAt 3 with
      | .ok (.ok _ _, d') => D.isDA d'.g == .ok true && d'.g.root == 3 && D.nbFatherless d'.g == 1
          && (uedges d'.g == uedges d.g)
      | _ => false) = true := by decide +kernel

/-- the same as a step of a history: afterwards `isValid()` and `isRooted()` answer true -/
example :
    let d := D.empty.run [.createNode, .createNode, .createNode, .createNode,
      .addSon 0 1, .addSon 0 2, .addSon 1 3, .addSon 2 3, .rootAt 3]
    d.g.root = 3 ∧ d.isValid.1 = .ok true ∧ d.isRooted.1 = true ∧ D.nbFatherless d.g = 1 := by decide +kernel

/-- a 3-cycle 0 -> 1 -> 2 -> 0 (not valid) re-rooted at 0: `orientate()` succeeds and makes it acyclic,
with 0 its only father-less node -/
example :
    let d := D.empty.run [.createNode, .createNode, .createNode, .addSon 0 1, .addSon 1 2, .addSon 2 0]
    D.isDA d.g = .ok false ∧
    (match d.rootAt 0 with
      | .ok (.ok _ _, d') => D.isDA d'.g == .ok true && d'.g.root == 0 && D.nbFatherless d'.g == 1
          && (uedges d'.g == uedges d.g)
      | _ => false) = true := by decide +kernel

/-- two isolated nodes: `rootAt 1` succeeds (through `orientate()`), and leaves two father-less nodes:
the rootedness flag is not set (the unrepaired code set it), and `isRooted()` answers false -/
example :
    let d := D.empty.run [.createNode, .createNode]
    (match d.rootAt 1 with
      | .ok (.ok _ _, d') => d'.g.root == 1 && D.nbFatherless d'.g == 2 && !d'.rooted && !d'.isRooted.1
      | _ => false) = true := by decide +kernel

/-- an absent node: `rootAt` raises and nothing changed -/
example :
    let d := D.empty.run [.createNode, .createNode, .addSon 0 1]
    (match d.rootAt 7 with
      | .ok (.exc _, d') => d' == d
      | _ => false) = true := by decide +kernel

/-! ## `isDA` is total, and the fuel of the model is enough -/

/-- **isDA_total**: on a consistent graph `isDA` answers: `deleteNode` never throws inside the loop
and the model's fuel (number of nodes + 1) is never exhausted -/
theorem isDA_total (g : G) (hc : Consistent g) : ∃ b, D.isDA g = .ok b := by
  unfold D.isDA
  split
  · exact ⟨true, rfl⟩
  · obtain ⟨b, hb, _⟩ := D.isDALoop_spec _ hc (Nat.le_refl _)
    exact ⟨b, hb _ (Nat.le_refl _)⟩

/-- **isDA_fuel_suffices**: any larger fuel gives the same answer (every round removes at least one
node) -/
theorem isDA_fuel_suffices (g : G) (hc : Consistent g) :
    ∀ f ≥ g.nodes.length + 1, D.isDALoop f g (D.sinks g) = D.isDALoop (g.nodes.length + 1) g (D.sinks g) := by
  obtain ⟨b, hb, _⟩ := D.isDALoop_spec _ hc (Nat.le_refl _)
  intro f hf
  cases f with
  | zero => exact absurd hf (Nat.not_succ_le_zero _)
  | succ f => rw [hb f (Nat.le_of_succ_le_succ hf), hb _ (Nat.le_refl _)]

/-- the hypothesis is satisfiable, and holds of every reachable state -/
example : Consistent (D.empty.run [.createNode, .createNode, .addSon 0 1]).g :=
  (dag_reachable_consistent _).1

/-- on every reachable state `isValid()` answers true or false -/
theorem dag_isValid_total (ops : List DOp) : ∃ b, (D.empty.run ops).isValid.1 = .ok b := by
  rw [dag_isValid_is_isDA]; exact isDA_total _ (dag_reachable_consistent ops).1

/-! ## `isDA` decides acyclicity -/

/-- the node table lists `b` among the outgoing neighbours of `a` -/
def Arc (g : G) (a b : Nat) : Prop := (g.outE a b).isSome = true

/-- no node reaches itself through one or more arcs (`TG R a b`: `single : R a b → TG R a b`,
`tail : TG R a b → R b c → TG R a c`) -/
def Acyclic (g : G) : Prop := ¬ ∃ n, TG (Arc g) n n

/-- these are the definitions the helper lemmas are stated with -/
theorem acyclic_eq (g : G) : Acyclic g = Dag.Acyclic g := rfl

/-- the same, without the hypothesis `directed` (in an undirected consistent graph every edge is a
cycle of length two or one, and `isDA` answers true iff there is no edge at all) -/
theorem isDA_iff_acyclic_any (g : G) (hc : Consistent g) : D.isDA g = .ok true ↔ Acyclic g :=
  D.isDA_iff hc

set_option linter.unusedVariables false in
/-- **isDA_iff_acyclic**: on a consistent directed graph `isDA` (repeated removal of the son-less
nodes on a copy) answers true iff no node reaches itself through one or more arcs -/
theorem isDA_iff_acyclic (g : G) (hc : Consistent g) (hd : g.directed = true) :
    D.isDA g = .ok true ↔ Acyclic g := isDA_iff_acyclic_any g hc

/-- … hence on a consistent graph the answer false means there is a cycle -/
theorem isDA_false_iff_cyclic (g : G) (hc : Consistent g) :
    D.isDA g = .ok false ↔ ∃ n, TG (Arc g) n n :=
  (TRes.ok_false_iff (isDA_total g hc) (isDA_iff_acyclic_any g hc)).trans Classical.not_not

/-- the hypotheses are satisfiable: a diamond 0 -> 1 -> 3, 0 -> 2 -> 3 with the chord 0 -> 3 is
consistent, directed, and `isDA` answers true; after adding 3 -> 0 it answers false -/
example :
    let g := (D.empty.run [.createNode, .createNode, .createNode, .createNode,
      .addSon 0 1, .addSon 0 2, .addSon 1 3, .addFather 3 2, .link 0 3]).g
    Consistent g ∧ g.directed = true ∧ D.isDA g = .ok true :=
  ⟨(G.check_iff _).mp (by decide +kernel), by decide +kernel, by decide +kernel⟩

example :
    let g := (D.empty.run [.createNode, .createNode, .createNode, .createNode,
      .addSon 0 1, .addSon 0 2, .addSon 1 3, .addFather 3 2, .link 0 3, .link 3 0]).g
    Consistent g ∧ g.directed = true ∧ D.isDA g = .ok false :=
  ⟨(G.check_iff _).mp (by decide +kernel), by decide +kernel, by decide +kernel⟩

/-- **dag_isValid_iff_acyclic**: after any history, `isValid()` answers true iff the current graph
has no cycle (and it answers false otherwise, `dag_isValid_total`) -/
theorem dag_isValid_iff_acyclic (ops : List DOp) :
    (D.empty.run ops).isValid.1 = .ok true ↔ Acyclic (D.empty.run ops).g := by
  rw [dag_isValid_is_isDA]
  exact isDA_iff_acyclic _ (dag_reachable_consistent ops).1 (dag_reachable_consistent ops).2

/-! ## the driver's reference decision -/

/-- **isAcyclicRef_iff**: on a consistent directed graph the transitive closure of the edge table,
computed in as many rounds as there are nodes, contains a pair `(x, x)` iff some node reaches
itself through arcs of the node table -/
theorem isAcyclicRef_iff (g : G) (hc : Consistent g) (hd : g.directed = true) :
    isAcyclicRef g = true ↔ Acyclic g := Dag.isAcyclicRef_iff_acyclic g hc hd

/-- the hypotheses are satisfiable (the diamond above), and the reference answers true there -/
example :
    let g := (D.empty.run [.createNode, .createNode, .createNode, .createNode,
      .addSon 0 1, .addSon 0 2, .addSon 1 3, .addFather 3 2, .link 0 3]).g
    Consistent g ∧ g.directed = true ∧ isAcyclicRef g = true :=
  ⟨(G.check_iff _).mp (by decide +kernel), by decide +kernel, by decide +kernel⟩

/-- … hence on a consistent directed graph `isDA` and the reference decision agree -/
theorem isDA_eq_ref (g : G) (hc : Consistent g) (hd : g.directed = true) : D.isDA g = .ok (isAcyclicRef g) :=
  TRes.eq_ok_of_iff (isDA_total g hc) ((isAcyclicRef_iff g hc hd).trans (isDA_iff_acyclic g hc hd).symm)

/-- **dag_isValid_eq_ref**: after any history `isValid()` answers what the reference decision answers
on the current graph (the driver's check `valid_iff` can never fail on the model) -/
theorem dag_isValid_eq_ref (ops : List DOp) :
    (D.empty.run ops).isValid.1 = .ok (isAcyclicRef (D.empty.run ops).g) := by
  rw [dag_isValid_is_isDA]
  exact isDA_eq_ref _ (dag_reachable_consistent ops).1 (dag_reachable_consistent ops).2

end Bpp.C15
