import BppProofs.Lemmas.TokRT
/-!
C16 for StringTokenizer / NestedStringTokenizer (src/Bpp/Text/StringTokenizer.cpp,
NestedStringTokenizer.cpp; model `BppModel/Text/TokenizerU.lean`): the constructors (every option
combination) and every history of method calls end in a value or in the library's exception —
no undefined behaviour, no other exception, no hang — and what they allocate is bounded by the
input.  The last section has the inputs on which the code as found violated this.
-/
namespace Bpp.C16
open Bpp.Text Bpp.Text.U

/-! ## the StringTokenizer constructor -/

/-- the constructor returns or throws `bpp::Exception` (empty solid delimiter) for every option
combination; in particular the fuel `size + 2` of the loops never runs out -/
theorem tokenizer_ctor_safe (s d : Str) (solid allowEmpty : Bool) (hs : StrOk s) :
    safe (mkTokenizer s d solid allowEmpty) = true := (mkTokenizer_spec s d solid allowEmpty hs).safe

example : StrOk "a,b,,c".toList := by
  -- the literals as lists of characters: evaluating `String.toList` the kernel would decode them byte by byte
  repeat rw [String.toList_ofList]
  decide +kernel
example : mkTokenizer "a,b,,c".toList ",".toList false false =
    .ok ⟨["a".toList, "b".toList, "c".toList], [",".toList, ",,".toList], 0⟩ := by
  repeat rw [String.toList_ofList]
  decide +kernel
example : mkTokenizer "a,b,,c".toList ",".toList false true =
    .ok ⟨["a".toList, "b".toList, [], "c".toList], [",".toList, ",".toList, ",".toList], 0⟩ := by
  repeat rw [String.toList_ofList]
  decide +kernel
example : mkTokenizer "a::b::::c".toList "::".toList true false =
    .ok ⟨["a".toList, "b".toList, "c".toList], ["::".toList, "::::".toList], 0⟩ := by
  repeat rw [String.toList_ofList]
  decide +kernel
example : mkTokenizer "a::b::::c".toList "::".toList true true =
    .ok ⟨["a".toList, "b".toList, [], "c".toList], ["::".toList, "::".toList, "::".toList], 0⟩ := by
  repeat rw [String.toList_ofList]
  decide +kernel
example : mkTokenizer "abc".toList [] true false = .error .bpp := by decide +kernel

/-- the constructor establishes the class invariant -/
theorem tokenizer_ctor_wf (s d : Str) (solid allowEmpty : Bool) (hs : StrOk s) (t : Tokenizer)
    (h : mkTokenizer s d solid allowEmpty = .ok t) : t.WF ∧ t.pos = 0 :=
  have b := (mkTokenizer_spec s d solid allowEmpty hs).of_ok h
  ⟨b.wf, b.pos⟩

example : mkTokenizer "a,b".toList ",".toList false false = .ok ⟨["a".toList, "b".toList], [",".toList], 0⟩ := by decide +kernel

/-- what the constructor allocates is bounded by the input: the tokens and the separators are
disjoint pieces of `s`, there are at most `size + 1` tokens -/
theorem tokenizer_ctor_alloc (s d : Str) (solid allowEmpty : Bool) (hs : StrOk s) (t : Tokenizer)
    (h : mkTokenizer s d solid allowEmpty = .ok t) :
    sumLen t.tokens + sumLen t.splits ≤ s.length ∧ t.tokens.length ≤ s.length + 1 :=
  have b := (mkTokenizer_spec s d solid allowEmpty hs).of_ok h
  ⟨b.size, b.count⟩

/-- the bound on the number of tokens is reached -/
example : ∃ t, mkTokenizer ",,".toList ",".toList true true = .ok t ∧ t.tokens.length = 3 := ⟨_, rfl, rfl⟩

/-- a solid tokenizer has at least one token (so `tokens_.size() - 1` cannot underflow there) -/
theorem tokenizer_solid_nonempty (s d : Str) (allowEmpty : Bool) (t : Tokenizer)
    (h : mkTokenizer s d true allowEmpty = .ok t) : t.tokens ≠ [] :=
  mkTokenizer_solid_nonempty h

example : mkTokenizer [] ",".toList true false = .ok ⟨[[]], [], 0⟩ := by decide +kernel
/-- … which a non-solid one does not -/
example : mkTokenizer "   ".toList " \t\n".toList false false = .ok ⟨[], [], 0⟩ := by decide +kernel

/-! ## the methods, over arbitrary histories -/

/-- every method keeps the class invariant -/
theorem call_preserves_wf (nested : Bool) (t t' : Tokenizer) (c : Call) (a : Ans) (hwf : t.WF)
    (h : callStep nested true t c = .ok (a, t')) : t'.WF := by
  obtain ⟨a', t'', e, h1, _⟩ := callStep_spec nested t hwf c
  rw [e] at h; cases h; exact h1

example : (⟨["a".toList, [], "c".toList], [",".toList, ",".toList], 1⟩ : Tokenizer).WF :=
  ⟨by decide, by decide, by decide⟩
example : callStep false true ⟨["a".toList, [], "c".toList], [",".toList, ",".toList], 1⟩ .rmEmpty =
    .ok (.unit, ⟨["a".toList, "c".toList], [",".toList, ",".toList], 1⟩) := by decide +kernel

/-- any sequence of calls on an object satisfying the invariant is safe -/
theorem tokenizer_calls_safe (nested : Bool) (t : Tokenizer) (hwf : t.WF) (calls : List Call) :
    safe (runCalls nested true t calls) = true := by
  obtain ⟨l, e⟩ := runCalls_ok nested t hwf calls
  simp [e]

example : runCalls false true ⟨["a".toList, "b".toList], [",".toList], 0⟩
      [.next, .unparse, .next, .next, .get 5, .remaining, .has, .rmEmpty, .unparse] =
    .ok [.str "a".toList, .str "b".toList, .str "b".toList, .raised, .raised, .nat 0, .bool false,
      .unit, .str []] := by decide +kernel

/-- construction followed by any sequence of calls -/
theorem tokenizer_history_safe (s d : Str) (solid allowEmpty : Bool) (hs : StrOk s) (calls : List Call) :
    safe (mkTokenizer s d solid allowEmpty >>= fun t => runCalls false true t calls) = true := by
  refine safe_bind (tokenizer_ctor_safe s d solid allowEmpty hs) (fun t ht => ?_)
  exact tokenizer_calls_safe false t (tokenizer_ctor_wf s d solid allowEmpty hs t ht).1 calls

example : (mkTokenizer "   ".toList " \t\n".toList false false >>= fun t =>
    runCalls false true t [.unparse, .next, .rmEmpty, .get 0]) = .ok [.str [], .raised, .unit, .raised] := by decide +kernel

/-- `unparseRemainingTokens` allocates no more than the object holds -/
theorem unparse_alloc (t : Tokenizer) (hwf : t.WF) (u : Str) (h : t.unparseRemainingTokens = .ok u) :
    u.length ≤ sumLen t.tokens + sumLen t.splits := by
  -- what is returned is the remaining tokens re-joined with separators recorded between them
  cases (RT.unparse_closed t hwf).symm.trans h
  exact Nat.le_trans (RT.length_interleave_le _ _) (Nat.add_le_add (sumLen_drop_le _ _)
    (Nat.le_trans (sumLen_take_le _ _) (sumLen_drop_le _ _)))

example : (⟨["a".toList, "b".toList, "c".toList], [",".toList, ";;".toList], 1⟩ : Tokenizer).unparseRemainingTokens =
    .ok "b;;c".toList := by decide +kernel

/-- `nextToken` past the end throws the library's exception -/
theorem nextToken_past_end (t : Tokenizer) (h : t.hasMoreToken = false) : t.nextToken = .error .bpp := by
  unfold Tokenizer.nextToken
  simp [h]

example : (⟨["a".toList], [], 1⟩ : Tokenizer).hasMoreToken = false := by decide +kernel

/-! ## NestedStringTokenizer -/

/-- the constructor returns or throws `bpp::Exception` ("Unclosed block.", empty solid
delimiter); the `int` counter `blocks` cannot overflow (it is bounded by the number of characters
read) and the loops end within their fuel -/
theorem nested_ctor_safe (s op en d : Str) (solid : Bool) (hs : s.length < 2147483648) :
    safe (mkNested s op en d solid) = true := (mkNested_spec s op en d solid hs).safe

example : "a(,)b,c".toList.length < 2147483648 := by decide
example : mkNested "a(,)b,c".toList "(".toList ")".toList ",".toList false =
    .ok ⟨["a(,)b".toList, "c".toList], [",".toList], 0⟩ := by
  repeat rw [String.toList_ofList]
  decide +kernel
example : mkNested "a((;;));;c".toList "(".toList ")".toList ";;".toList true =
    .ok ⟨["a((;;))".toList, "c".toList], [";;".toList], 0⟩ := by
  repeat rw [String.toList_ofList]
  decide +kernel
example : mkNested "a(,b".toList "(".toList ")".toList ",".toList false = .error .bpp := by decide +kernel
example : mkNested "abc".toList "(".toList ")".toList [] true = .error .bpp := by decide +kernel

/-- the constructor establishes the class invariant (a separator for every token but the last), since
the repair `fix: NestedStringTokenizer never recorded its separators …`.  Before it the constructor
left `splits_` empty (`nested_ctor_not_wf_old`): the object was well-formed only with one token at most. -/
theorem nested_ctor_wf (s op en d : Str) (solid : Bool) (t : Tokenizer) (hs : s.length < 2147483648)
    (h : mkNested s op en d solid = .ok t) : t.WF ∧ t.pos = 0 :=
  have b := (mkNested_spec s op en d solid hs).of_ok h
  ⟨b.wf, b.pos⟩

/-- any sequence of calls on a well-formed NestedStringTokenizer is safe — also
`unparseRemainingTokens`: since the repair the base method runs whether the object is reached through
a `NestedStringTokenizer` or a `StringTokenizer&` -/
theorem nested_calls_safe (t : Tokenizer) (hwf : t.WF) (calls : List Call) :
    safe (runCalls true true t calls) = true := by
  obtain ⟨l, e⟩ := runCalls_ok true t hwf calls
  simp [e]

/-- construction of a NestedStringTokenizer followed by any sequence of calls -/
theorem nested_history_safe (s op en d : Str) (solid : Bool) (hs : s.length < 2147483648) (calls : List Call) :
    safe (mkNested s op en d solid >>= fun t => runCalls true true t calls) = true :=
  safe_bind (nested_ctor_safe s op en d solid hs)
    (fun t ht => nested_calls_safe t (nested_ctor_wf s op en d solid t hs ht).1 calls)

example : (mkNested "a(,)b,c".toList "(".toList ")".toList ",".toList false >>= fun t =>
    runCalls true true t [.unparse, .next, .unparse, .remaining, .next, .next, .get 1, .rmEmpty]) =
    .ok [.str "a(,)b,c".toList, .str "a(,)b".toList, .str "c".toList, .nat 1, .str "c".toList, .raised,
      .str "c".toList, .unit] := by
  repeat rw [String.toList_ofList]
  decide +kernel

/-- what the constructor allocates is bounded by the input -/
theorem nested_ctor_alloc (s op en d : Str) (solid : Bool) (t : Tokenizer) (hs : s.length < 2147483648)
    (h : mkNested s op en d solid = .ok t) :
    sumLen t.tokens + sumLen t.splits ≤ s.length ∧ t.tokens.length ≤ s.length + 1 :=
  have b := (mkNested_spec s op en d solid hs).of_ok h
  ⟨b.size, b.count⟩

/-! ## the code as found -/

/-- `unparseRemainingTokens` of a tokenizer without token: `tokens_.size() - 1` wraps to `2^64-1`,
the loop reads `tokens_[0]` of an empty deque -/
theorem unparse_old_ub : (mkTokenizerOld "   ".toList " \t\n".toList false false >>= fun t =>
    runCalls false false t [.unparse]) = .error .ub := by decide +kernel

/-- an empty solid delimiter: `find("", index)` returns `index`, the index never advances -/
theorem tokenizer_old_hangs : mkTokenizerOld "abc".toList [] true false = .error .hang := by decide +kernel

theorem nested_old_hangs : mkNestedOld "abc".toList "(".toList ")".toList [] true = .error .hang := by decide +kernel

/-- NestedStringTokenizer left `splits_` empty and hid `unparseRemainingTokens()` with a
non-virtual stub returning "": through a `StringTokenizer&` (how KeyvalTools holds its nested
tokenizer) the base method runs and reads `splits_[0]` of an empty deque as soon as there are two
tokens -/
theorem nested_unparse_old_ub :
    (mkNestedNoSplits "a,b".toList "(".toList ")".toList ",".toList false >>= fun t =>
      t.unparseRemainingTokens) = .error .ub := by decide +kernel

/-- … because the constructor did not establish the class invariant -/
theorem nested_ctor_not_wf_old :
    ∃ t, mkNestedNoSplits "a,b".toList "(".toList ")".toList ",".toList false = .ok t ∧ ¬ t.WF :=
  ⟨⟨["a".toList, "b".toList], [], 0⟩, rfl, fun w => absurd w.splits (by decide)⟩

/-- `getToken(pos)` read `tokens_[pos]` without a test -/
theorem getToken_old_ub : (⟨[], [], 0⟩ : Tokenizer).getTokenOld 0 = .error .ub := by decide +kernel

end Bpp.C16
