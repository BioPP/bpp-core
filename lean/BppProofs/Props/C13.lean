import BppProofs.Lemmas.Hmm
import BppProofs.Lemmas.HmmCache
import BppProofs.Lemmas.HmmAuto
import BppProofs.Lemmas.HmmMarginal
import BppProofs.Lemmas.HmmFlags
import BppProofs.Lemmas.HmmLogMarginal
import BppProofs.Lemmas.HmmFullCache
import BppProofs.Lemmas.HmmFullReal
/-!
# C13 — HMM likelihood algorithms   (src/Bpp/Numeric/Hmm)

Property theorems only; helper lemmas are in `Lemmas/Hmm*.lean`.  All statements are about the
model `BppModel/Hmm.lean` read at `ℝ` (exact arithmetic: rounding is not modelled).

A sequence of `T` positions is given as the emissions `e0` of position 0 and the list `sites` of
the positions `1 … T-1`, each tagged with "the chain is restarted here".  The theorems hold for
**every** such tagging; `flags_of_valid_breaks` shows that for break points given as a strictly
increasing vector in `1 … T-1` the code's iterator logic (`Hmm.fwdFlags`, used by `Hmm.mkSites`)
restarts exactly at the break points.
-/
namespace Bpp.C13
open Bpp Bpp.Hmm

/-! ## The specification: sum over all hidden paths -/

/-- The unscaled forward recursion, restarted at the flagged sites, computes the sum over **all**
hidden paths of (π·P)(y₀)·Π transitions·Π emissions, for every number of states, every length and
every placement of restarts.  (No sign hypothesis is needed.) -/
theorem forward_is_path_sum (p : Params ℝ) (e0 : Emis ℝ) (sites : List (Site ℝ)) :
    fwdU p e0 sites = pathSum p e0 sites :=
  fwdU_eq_pathSum p e0 sites

/-- The code starts (and restarts) the chain with one transition from the equilibrium vector,
`Σ_k π_k·P(k,y)`.  When `π` is a stationary distribution of `P` this is `π_y`: the chain is started
from its stationary distribution, as the property says. -/
theorem init_stationary (p : Params ℝ) (hst : ∀ y, y < p.n → ∑ k ∈ Finset.range p.n, p.pi k * p.P k y = p.pi y)
    (y : Nat) (hy : y < p.n) : initW p y = p.pi y := by
  rw [initW_eq, ← hst y hy]; apply Finset.sum_congr rfl; intro k _; ring

/-- break points given as a strictly increasing vector in `1 … T-1`: the forward iterator logic of
the three classes restarts the chain exactly at the break points -/
theorem flags_of_valid_breaks (es : List (Emis ℝ)) (bps : List Nat) (hv : ValidBreaks (es.length + 1) bps) :
    (mkSites es bps).map (·.1) = (List.range es.length).map (fun k => decide (k + 1 ∈ bps)) := by
  rw [mkSites_fst, fwdFlags_eq (es.length + 1) es.length 1 bps (by omega) (ahead_iff.mpr hv), List.range'_eq_map_range, List.map_map]
  exact List.map_congr_left fun k _ => by rw [Function.comp_apply, Nat.add_comm]

/-! ## Rescaled class -/

/-- every scale factor is ≥ 0 and their product is the path sum — including when some scale is 0 -/
theorem rescaled_scales_prod (p : Params ℝ) (hp : NonNegP p) (e0 : Emis ℝ) (he0 : NonNegE e0)
    (sites : List (Site ℝ)) (hs : NonNegS sites) :
    (rescForward p e0 sites).scales.prod = pathSum p e0 sites ∧ ∀ c ∈ (rescForward p e0 sites).scales, 0 ≤ c := by
  refine ⟨by rw [scales_prod_eq_fwdU hp he0 sites hs, fwdU_eq_pathSum], ?_⟩
  rw [rescForward_scales]
  exact List.forall_mem_map.mpr
    (rescLoop_scales_nonneg hp _ (List.forall_mem_cons.mpr ⟨he0, hs⟩) p.pi fun j _ => hp.2 j)

/-- `exp (logLik_) = Σ over all hidden paths`, when every scale factor is positive -/
theorem rescaled_eq (p : Params ℝ) (hp : NonNegP p) (e0 : Emis ℝ) (he0 : NonNegE e0)
    (sites : List (Site ℝ)) (hs : NonNegS sites) (hpos : ∀ c ∈ (rescForward p e0 sites).scales, 0 < c) :
    Real.exp (rescForward p e0 sites).logLik = pathSum p e0 sites := by
  rw [rescForward_logLik, exp_sum_log _ hpos]
  exact (rescaled_scales_prod p hp e0 he0 sites hs).1

/-- the zero-scale case stated outright: some scale factor is 0 exactly when the data have
probability 0 (the code then sums a `log 0 = -inf`; in `ℝ` there is no such value, so the statement
is about the scale factors themselves) -/
theorem rescaled_zero_scale (p : Params ℝ) (hp : NonNegP p) (e0 : Emis ℝ) (he0 : NonNegE e0)
    (sites : List (Site ℝ)) (hs : NonNegS sites) :
    (∃ c ∈ (rescForward p e0 sites).scales, c = 0) ↔ pathSum p e0 sites = 0 := by
  rw [← (rescaled_scales_prod p hp e0 he0 sites hs).1, List.prod_eq_zero_iff]
  constructor
  · rintro ⟨c, hc, rfl⟩; exact hc
  · intro h; exact ⟨0, h, rfl⟩

/-- the hypothesis of `rescaled_eq` (and of the posterior theorems) holds whenever all entries are
strictly positive: every scale factor is then positive -/
theorem rescaled_scales_pos (p : Params ℝ) (hn : 0 < p.n) (hp : PosP p) (e0 : Emis ℝ) (he0 : PosE e0)
    (sites : List (Site ℝ)) (hs : PosS sites) : ∀ c ∈ (rescForward p e0 sites).scales, 0 < c := by
  rw [rescForward_scales]
  exact List.forall_mem_map.mpr
    (rescLoop_scales_pos hn hp _ (List.forall_mem_cons.mpr ⟨he0, hs⟩) p.pi hp.2)

/-! ## Low-memory class -/

/-- for **every** chunk size (also larger than the sequence), the low-memory class returns the
log-likelihood of the rescaled class -/
theorem lowmem_eq_rescaled (p : Params ℝ) (hp : NonNegP p) (maxSize : Nat) (e0 : Emis ℝ) (he0 : NonNegE e0)
    (sites : List (Site ℝ)) (hs : NonNegS sites) :
    lowForward p maxSize e0 sites = (rescForward p e0 sites).logLik := by
  have hpi := fun j (_ : j < p.n) => hp.2 j
  rw [rescForward_logLik, rescForward_scales, rescLoop_cons hp true he0 hpi]
  simp only [lowForward, restartTmp_eq p e0 p.pi, sumL_tmpF, normalize_tmpF]
  rw [lowLoop_eq hp maxSize sites hs _ fun j _ => rescStep_nonneg hp true he0 hpi j]
  simp only [List.map_map, Function.comp_def, List.map_cons, List.sum_cons, List.sum_nil,
    ScalarReal.zero_eq, ScalarReal.log_eq, zero_add, add_zero]

/-! ## Log-sum class -/

/-- for **strictly positive** transition, equilibrium and emission entries the log-sum class returns the logarithm
of the path sum.  Tables with zero entries are *not* covered for this class: `log 0 = −∞` has no counterpart in
the `ℝ` reading of the model (there `Real.log 0 = 0`, so the program text computes something else); on such tables
the class is only judged on the implementation (`path_sum`, `path_sum_zero`, `cross_algo`).  For the rescaled and
low-memory classes zero entries are covered (`rescaled_eq`, `rescaled_zero_scale`, `lowmem_eq_rescaled`). -/
theorem logsum_eq_pos (p : Params ℝ) (hn : 0 < p.n) (hp : PosP p) (e0 : Emis ℝ) (he0 : PosE e0)
    (sites : List (Site ℝ)) (hs : PosS sites) :
    (logForward p e0 sites).ll = Real.log (pathSum p e0 sites) := by
  rw [← fwdU_eq_pathSum]
  unfold logForward fwdU
  simp only [sumL_sortDesc]
  rw [logTmp_first, logTmp_vec hn hp he0 true hp.2, restartTmp_eq p e0 p.pi,
    logLoop_eq hn hp sites hs _ (tmpF_pos hn hp he0 true hp.2) _ (by rw [ScalarReal.one_eq]; exact one_pos),
    ScalarReal.one_eq, Real.log_one, zero_add]

/-! ## The three algorithms agree -/

/-- for strictly positive tables, every placement of restarts and every chunk size, the three
classes return the same log-likelihood: the logarithm of the sum over all hidden paths -/
theorem algorithms_agree_pos (p : Params ℝ) (hn : 0 < p.n) (hp : PosP p) (maxSize : Nat) (e0 : Emis ℝ) (he0 : PosE e0)
    (sites : List (Site ℝ)) (hs : PosS sites) :
    (rescForward p e0 sites).logLik = Real.log (pathSum p e0 sites)
    ∧ lowForward p maxSize e0 sites = Real.log (pathSum p e0 sites)
    ∧ (logForward p e0 sites).ll = Real.log (pathSum p e0 sites) := by
  have hnn : NonNegS sites := fun s h => (hs s h).nonneg
  have h1 : (rescForward p e0 sites).logLik = Real.log (pathSum p e0 sites) := by
    rw [← rescaled_eq p hp.nonneg e0 he0.nonneg sites hnn (rescaled_scales_pos p hn hp e0 he0 sites hs), Real.log_exp]
  exact ⟨h1, by rw [lowmem_eq_rescaled p hp.nonneg maxSize e0 he0.nonneg sites hnn, h1], logsum_eq_pos p hn hp e0 he0 sites hs⟩

/-! ## Posterior probabilities (rescaled class) -/

/-- For break points in `1 … T-1` (strictly increasing) and data of positive probability, every
row of `getHiddenStatesPosteriorProbabilities` — there is one per position — is a probability
vector over the `n` hidden states: entries ≥ 0, sum = 1. -/
theorem posterior_prob (p : Params ℝ) (hp : NonNegP p) (e0 : Emis ℝ) (he0 : NonNegE e0)
    (es : List (Emis ℝ)) (hes : ∀ e ∈ es, NonNegE e) (bps : List Nat) (hv : ValidBreaks (es.length + 1) bps)
    (hpos : ∀ c ∈ (rescForward p e0 (mkSites es bps)).scales, 0 < c) :
    (rescPosterior p e0 es bps).length = es.length + 1
    ∧ ∀ row ∈ rescPosterior p e0 es bps, (∀ x ∈ row, 0 ≤ x) ∧ row.sum = 1 ∧ row.length = p.n := by
  obtain ⟨hl, hr⟩ := rescPosterior_spec hp he0 es hes bps hv hpos
  refine ⟨hl, forall_mem_of_getElem? hl fun i hi => ?_⟩
  obtain ⟨x, hx, h0, h1, _⟩ := hr i hi
  exact ⟨_, hx, vec_prob h0 h1⟩

/-- … and the posterior of state `j` at position `i` is the exact path marginal: entry `(i, j)` of
`getHiddenStatesPosteriorProbabilities`, multiplied by the sum over all hidden paths, is the sum
over the hidden paths that are in state `j` at position `i` (`Hmm.pathMarginal`) -/
theorem posterior_is_path_marginal (p : Params ℝ) (hp : NonNegP p) (e0 : Emis ℝ) (he0 : NonNegE e0)
    (es : List (Emis ℝ)) (hes : ∀ e ∈ es, NonNegE e) (bps : List Nat) (hv : ValidBreaks (es.length + 1) bps)
    (hpos : ∀ c ∈ (rescForward p e0 (mkSites es bps)).scales, 0 < c)
    (i : Nat) (hi : i < es.length + 1) (j : Nat) (hj : j < p.n) :
    ∃ row x, (rescPosterior p e0 es bps)[i]? = some row ∧ row[j]? = some x
      ∧ x * pathSum p e0 (mkSites es bps) = pathMarginal p e0 (mkSites es bps) i j := by
  obtain ⟨x, hx, _, _, hm⟩ := (rescPosterior_spec hp he0 es hes bps hv hpos).2 i hi
  exact ⟨_, _, hx, vec_getElem? _ _ _ hj, hm j hj⟩

/-- per-position likelihoods are consistent with the posteriors: `getLikelihoodForASite` is the
posterior-weighted mean `Σ_j post(j)·e(j)` of the emissions, hence lies between the smallest and
the largest emission probability of that position -/
theorem site_likelihood_consistent (p : Params ℝ) (hp : NonNegP p) (e0 : Emis ℝ) (he0 : NonNegE e0)
    (es : List (Emis ℝ)) (hes : ∀ e ∈ es, NonNegE e) (bps : List Nat) (hv : ValidBreaks (es.length + 1) bps)
    (hpos : ∀ c ∈ (rescForward p e0 (mkSites es bps)).scales, 0 < c)
    (row : List ℝ) (hrow : row ∈ rescPosterior p e0 es bps) (e : Emis ℝ) (lo hi : ℝ)
    (he : ∀ j, j < p.n → lo ≤ e j ∧ e j ≤ hi) :
    siteLik p row e = ((List.zipWith (fun x y => x * y) row (vec p.n e)).sum) ∧ lo ≤ siteLik p row e ∧ siteLik p row e ≤ hi := by
  obtain ⟨h1, h2, h3⟩ := (posterior_prob p hp e0 he0 es hes bps hv hpos).2 row hrow
  have hs : siteLik p row e = (List.zipWith (fun x y => x * y) row (vec p.n e)).sum := sumL_eq_sum _
  have := zipWith_mul_bounds row (vec p.n e) (by rw [h3, vec_length]) h1 lo hi (forall_mem_vec.mpr he)
  rw [h2, mul_one, mul_one, ← hs] at this
  exact ⟨hs, this⟩

/-- log-sum class: for strictly positive tables and valid break points
`getHiddenStatesPosteriorProbabilities` never reads past `partialLogLikelihoods_` (the model's
`none`), returns one row per position, and each row `exp(f + b − partial)` is a probability vector -/
theorem logsum_posterior_prob_pos (p : Params ℝ) (hn : 0 < p.n) (hp : PosP p) (e0 : Emis ℝ) (he0 : PosE e0)
    (es : List (Emis ℝ)) (hes : ∀ e ∈ es, PosE e) (bps : List Nat) (hv : ValidBreaks (es.length + 1) bps)
    (dE d2E : String → Emis ℝ × List (Emis ℝ)) :
    ∃ m, logPosterior { p := p, e0 := e0, es := es, dE := dE, d2E := d2E } bps = some m
      ∧ m.length = es.length + 1
      ∧ ∀ row ∈ m, (∀ x ∈ row, 0 ≤ x) ∧ row.sum = 1 ∧ row.length = p.n := by
  obtain ⟨m, hm, hl, hr⟩ := logPosterior_spec hn hp he0 es hes bps hv dE d2E
  refine ⟨m, hm, hl, forall_mem_of_getElem? hl fun i hi => ?_⟩
  obtain ⟨x, hx, h0, h1, _⟩ := hr i hi
  exact ⟨_, hx, vec_prob h0 h1⟩

/-- … and, as for the rescaled class, the posterior of state `j` at position `i` is the exact path marginal:
entry `(i, j)` of `getHiddenStatesPosteriorProbabilities`, multiplied by the sum over all hidden paths, is the
sum over the hidden paths that are in state `j` at position `i` -/
theorem logsum_posterior_is_path_marginal_pos (p : Params ℝ) (hn : 0 < p.n) (hp : PosP p) (e0 : Emis ℝ) (he0 : PosE e0)
    (es : List (Emis ℝ)) (hes : ∀ e ∈ es, PosE e) (bps : List Nat) (hv : ValidBreaks (es.length + 1) bps)
    (dE d2E : String → Emis ℝ × List (Emis ℝ)) (i : Nat) (hi : i < es.length + 1) (j : Nat) (hj : j < p.n) :
    ∃ m row x, logPosterior { p := p, e0 := e0, es := es, dE := dE, d2E := d2E } bps = some m
      ∧ m[i]? = some row ∧ row[j]? = some x
      ∧ x * pathSum p e0 (mkSites es bps) = pathMarginal p e0 (mkSites es bps) i j := by
  obtain ⟨m, hm, _, hr⟩ := logPosterior_spec hn hp he0 es hes bps hv dE d2E
  obtain ⟨x, hx, _, _, hxm⟩ := hr i hi
  exact ⟨m, _, _, hm, hx, vec_getElem? _ _ _ hj, hxm j hj⟩

/-! ## Break points: `setBreakPoints` validates its argument (as repaired, abe9279) -/

/-- the vectors accepted by `setBreakPoints` (`Hmm.breaksOk`, the transcription of `checkBreakPoints_`) are
exactly the strictly increasing vectors of positions `1 … T-1` -/
theorem accepted_breaks_valid (T : Nat) (bps : List Nat) : breaksOk T bps = true ↔ ValidBreaks T bps :=
  (breaksOkFrom_iff T none bps).trans ahead_iff

/-- every other vector is refused by the three classes: the call raises and the object is unchanged -/
theorem invalid_breaks_refused {α : Type} [Scalar α] [HasIsInf α] (bps : List Nat) :
    (∀ o : RescObj α, breaksOk o.tab.T bps = false → o.step (.setBreaks bps) = (o, .exc))
    ∧ (∀ o : LogObj α, breaksOk o.tab.T bps = false → o.step (.setBreaks bps) = (o, .exc))
    ∧ (∀ o : LowObj α, breaksOk o.tab.T bps = false → o.step (.setBreaks bps) = (o, .exc)) :=
  ⟨fun o h => RescObj.setBreaks_refused o bps h, fun o h => LogObj.setBreaks_refused o bps h,
   fun o h => LowObj.setBreaks_refused o bps h⟩

/-- the break points of an object are valid in every history that did not raise (parameter updates keep the
number of positions, which the C++ fixes at construction): rescaled and log-sum classes -/
theorem reachable_breaks_valid {α : Type} [Scalar α] [HasIsInf α] (t : Tables α) (ops : List (Op α))
    (hvar : ∀ op ∈ ops, op ≠ Op.d1 "" ∧ op ≠ Op.d2 "") (hnm : derivNamesOk "" "" ops = true)
    (hlen : SameLength t.T ops) :
    (∀ o : RescObj α, RescObj.build t = some o → (∀ a ∈ o.run ops, a ≠ Ans.exc) → breaksOk t.T (bpsAfter [] ops) = true)
    ∧ ((∀ a ∈ (LogObj.build t).run ops, a ≠ Ans.exc) → breaksOk t.T (bpsAfter [] ops) = true) := by
  constructor
  · intro o hb hne
    obtain ⟨hc, ht, hbp, hd, hd2⟩ := RescObj.build_consistent t o hb
    have := RescObj.reachable_breaks o hc t.T (by rw [ht]) (by rw [hbp]; rfl) ops hne hvar (by rw [hd, hd2]; exact hnm) hlen
    rwa [hbp] at this
  · intro hne
    obtain ⟨hc, ht, hbp, hd, hd2⟩ := LogObj.build_consistent t
    have := LogObj.reachable_breaks _ hc t.T (by rw [ht]) (by rw [hbp]; rfl) ops hne hvar (by rw [hd, hd2]; exact hnm) hlen
    rwa [hbp] at this

/-- hence the posterior theorems hold for **every** vector of break points an object can hold: rescaled class … -/
theorem posterior_prob_accepted (p : Params ℝ) (hp : NonNegP p) (e0 : Emis ℝ) (he0 : NonNegE e0)
    (es : List (Emis ℝ)) (hes : ∀ e ∈ es, NonNegE e) (bps : List Nat) (hacc : breaksOk (es.length + 1) bps = true)
    (hpos : ∀ c ∈ (rescForward p e0 (mkSites es bps)).scales, 0 < c) :
    (rescPosterior p e0 es bps).length = es.length + 1
    ∧ ∀ row ∈ rescPosterior p e0 es bps, (∀ x ∈ row, 0 ≤ x) ∧ row.sum = 1 ∧ row.length = p.n :=
  posterior_prob p hp e0 he0 es hes bps ((accepted_breaks_valid _ _).mp hacc) hpos

/-- … and log-sum class -/
theorem logsum_posterior_prob_accepted_pos (p : Params ℝ) (hn : 0 < p.n) (hp : PosP p) (e0 : Emis ℝ) (he0 : PosE e0)
    (es : List (Emis ℝ)) (hes : ∀ e ∈ es, PosE e) (bps : List Nat) (hacc : breaksOk (es.length + 1) bps = true)
    (dE d2E : String → Emis ℝ × List (Emis ℝ)) :
    ∃ m, logPosterior { p := p, e0 := e0, es := es, dE := dE, d2E := d2E } bps = some m
      ∧ m.length = es.length + 1
      ∧ ∀ row ∈ m, (∀ x ∈ row, 0 ≤ x) ∧ row.sum = 1 ∧ row.length = p.n :=
  logsum_posterior_prob_pos p hn hp e0 he0 es hes bps ((accepted_breaks_valid _ _).mp hacc) dE d2E

/-- before the repair any vector was accepted: for `[0]` on three positions the forward pass resets at
position 1 while the backward pass never resets (witness of the former finding C13-invalid-breaks); the
vector is now refused -/
theorem invalid_breaks_flags_witness :
    fwdFlags 3 2 1 [0] = [true, false] ∧ (bwdFlags 2 [0].reverse).reverse = [false, false] ∧ breaksOk 3 [0] = false := by decide

/-! ## History independence of the cached objects

`RescObj.run` / `LogObj.run` / `LowObj.run` execute any sequence of parameter updates, break-point
changes and queries on the cached object; `…SpecRun` answers every query from scratch with the
current tables (`rescSpec` = what a freshly built object answers).  The statements are generic in
the scalar type: they also hold for the `Float` instance the driver runs. -/

/-- rescaled class: in every history in which no call raised, each answer (log-likelihood, posterior
matrix written to an empty vector / over a vector / appended to a vector, posterior of one position,
likelihood of one position and of every position, first and second derivative, and the per-position
derivative terms for the variable of the last derivative query) is the answer of a fresh object with the
current parameter values and break points.  (`d1 ""`, `d2 ""` are excluded: the empty name is the cache's
"nothing cached" marker; `derivNamesOk`: the per-position derivative accessors, which have no variable
argument, are asked only after a derivative query that followed the last update.) -/
theorem history_independent {α : Type} [Scalar α] (t : Tables α) (o : RescObj α) (hb : RescObj.build t = some o)
    (ops : List (Op α)) (hne : ∀ a ∈ o.run ops, a ≠ Ans.exc) (hvar : ∀ op ∈ ops, op ≠ Op.d1 "" ∧ op ≠ Op.d2 "")
    (hnm : derivNamesOk "" "" ops = true) :
    o.run ops = rescSpecRun t [] "" "" ops := by
  obtain ⟨hc, ht, hbp, hd, hd2⟩ := RescObj.build_consistent t o hb
  rw [RescObj.run_spec o hc ops hne hvar (by rw [hd, hd2]; exact hnm), ht, hbp, hd, hd2]

/-- log-sum class, with its derivative recursions -/
theorem history_independent_logsum {α : Type} [Scalar α] [HasIsInf α] (t : Tables α) (ops : List (Op α))
    (hne : ∀ a ∈ (LogObj.build t).run ops, a ≠ Ans.exc) (hvar : ∀ op ∈ ops, op ≠ Op.d1 "" ∧ op ≠ Op.d2 "")
    (hnm : derivNamesOk "" "" ops = true) :
    (LogObj.build t).run ops = logSpecRun t [] "" "" ops := by
  obtain ⟨hc, ht, hbp, hd, hd2⟩ := LogObj.build_consistent t
  rw [LogObj.run_spec _ hc ops hne hvar (by rw [hd, hd2]; exact hnm), ht, hbp, hd, hd2]

/-- low-memory class -/
theorem history_independent_lowmem {α : Type} [Scalar α] (t : Tables α) (maxSize : Nat) (o : LowObj α)
    (hb : LowObj.build t maxSize = some o)
    (ops : List (Op α)) (hne : ∀ a ∈ o.run ops, a ≠ Ans.exc) (hvar : ∀ op ∈ ops, op ≠ Op.d1 "" ∧ op ≠ Op.d2 "") :
    o.run ops = lowSpecRun t maxSize [] ops := by
  obtain ⟨hc, rfl, rfl, hbp⟩ := LowObj.build_spec t maxSize o hb
  rw [LowObj.run_spec_all o hc ops, hbp] at hne ⊢
  exact lowSpecRunAll_of_no_exc _ _ _ _ hne

/-- low-memory class, **every** history — raising calls included (posterior and derivative queries, which this
class does not implement, and refused break points): they answer the exception and change nothing (as repaired:
a derivative query used to leave its variable name cached and the next one answered `-0`), every other answer is
that of a fresh object -/
theorem history_independent_lowmem_all {α : Type} [Scalar α] (t : Tables α) (maxSize : Nat) (o : LowObj α)
    (hb : LowObj.build t maxSize = some o) (ops : List (Op α)) :
    o.run ops = lowSpecRunAll t maxSize [] ops := by
  obtain ⟨hc, rfl, rfl, hbp⟩ := LowObj.build_spec t maxSize o hb
  rw [LowObj.run_spec_all o hc ops, hbp]

/-! ## Options of the posterior accessors -/

/-- `getHiddenStatesPosteriorProbabilities(probs, append)`, rescaled and log-sum classes, in every state
of the object: the rows written are those of the plain call (`probs` empty, `append = false`), placed
after the former content of `probs` with `append` and replacing it without — whatever `probs` held,
however often the call is repeated on the same vector -/
theorem posterior_append {α : Type} [Scalar α] [HasIsInf α] (buf : List (List α)) (append : Bool) :
    (∀ (o : RescObj α) (m : List (List α)), (o.step .posterior).2 = .mat m →
        (o.step (.posteriorInto buf append)).2 = .mat ((if append then buf else []) ++ m))
    ∧ (∀ (o : LogObj α) (m : List (List α)), (o.step .posterior).2 = .mat m →
        (o.step (.posteriorInto buf append)).2 = .mat ((if append then buf else []) ++ m)) := by
  refine ⟨fun o m h => by cases h; rfl, fun o m h => ?_⟩
  have key : ∀ x : Option (List (List α)), (match x with | some m' => Ans.mat m' | none => Ans.ub) = Ans.mat m →
      (match x with | some m' => Ans.mat ((if append then buf else []) ++ m') | none => Ans.ub)
        = Ans.mat ((if append then buf else []) ++ m) := by
    intro x hx
    cases x with
    | none => cases hx
    | some m' => cases hx; rfl
  exact key _ h

/-- log-sum class: for valid break points `getHiddenStatesPosteriorProbabilitiesForASite(site)`, which
walks through the break points on its own, answers row `site` of `getHiddenStatesPosteriorProbabilities`
— at every position, in particular at, before and after a break point -/
theorem logsum_single_site_agrees {α : Type} [Scalar α] (fw : LogFwd α) (back : List (List α)) (bps : List Nat)
    (hlen : back.length = fw.logLik.length) (hv : ValidBreaks fw.logLik.length bps)
    (m : List (List α)) (hm : logPosteriorOf fw back bps = some m) (site : Nat) (hs : site < fw.logLik.length) :
    logPosteriorSiteOf fw back bps site = m[site]? := by
  unfold logPosteriorOf at hm
  set T := fw.logLik.length with hT
  obtain ⟨_, hget⟩ := mapM_option_get _ _ m hm
  have hzl : (List.zip (List.zip fw.logLik back) (logPostIdx T T 0 bps 0)).length = T := by
    simp [List.length_zip, hlen, logPostIdx_length, ← hT]
  rw [hget site (by rw [hzl]; exact hs)]
  have hidx := logPostIdx_getElem? T T 0 bps 0 (by omega) (ahead_iff.mpr ⟨hv.1, fun b hb => ⟨Nat.zero_le _, (hv.2 b hb).2⟩⟩) site hs
  simp only [Nat.zero_add] at hidx
  have hf : fw.logLik[site]? = some (fw.logLik[site]'hs) := List.getElem?_eq_getElem hs
  have hbk : back[site]? = some (back[site]'(by rw [hlen]; exact hs)) := List.getElem?_eq_getElem _
  have hz : (List.zip (List.zip fw.logLik back) (logPostIdx T T 0 bps 0))[site]?
      = some ((fw.logLik[site]'hs, back[site]'(by rw [hlen]; exact hs)), logPostIdx1 site bps) := by
    rw [List.getElem?_zip_eq_some]
    exact ⟨by rw [List.getElem?_zip_eq_some]; exact ⟨hf, hbk⟩, hidx⟩
  unfold logPosteriorSiteOf
  rw [hz]
  simp only [hf, hbk, Option.bind_some]

/-- the hypothesis "no call raised" cannot be dropped: after an update that raised (negative
transition probability) the rescaled object keeps answering the old log-likelihood -/
theorem history_dependent_after_exception :
    let t0 : Tables Rat := { p := { n := 1, P := fun _ _ => 1, pi := fun _ => 1 }, e0 := fun _ => 1 / 2, es := [], dE := fun _ => (fun _ => 0, []), d2E := fun _ => (fun _ => 0, []) }
    let t1 : Tables Rat := { t0 with p := { n := 1, P := fun _ _ => -1, pi := fun _ => 1 } }
    ∃ o, RescObj.build t0 = some o ∧ (o.step (.setTables t1)).2 = Ans.exc
      ∧ ((o.step (.setTables t1)).1.step .logLik).2 = (o.step .logLik).2
      ∧ (RescObj.build t1).isNone = true := by
  intro t0 t1
  have h0 : transOk t0.p = true := by decide
  have h1 : transOk t1.p = false := by decide
  have hb0 : rescCompute t0 [] = some (rescForward t0.p t0.e0 (mkSites t0.es [])) := by simp [rescCompute, h0]
  have hb1 : ∀ bps, rescCompute t1 bps = none := by intro bps; simp [rescCompute, h1]
  refine ⟨(RescObj.mk t0 [] (rescForward t0.p t0.e0 (mkSites t0.es [])) [] false "" emptyD "" emptyD2),
    by simp only [RescObj.build, hb0, Option.map_some], ?_, ?_, ?_⟩
  · simp only [RescObj.step, hb1]
  · simp only [RescObj.step, hb1]
  · simp only [RescObj.build, hb1, Option.map_none, Option.isNone_none]

/-! ## Built-in transition models: AutoCorrelationTransitionMatrix (as repaired) -/

/-- for every number of states ≥ 1 and every `λ_i ∈ [0,1]` each row of the matrix is a probability vector
(a single state: the matrix is `[1]`, as repaired) -/
theorem autocorr_row_stochastic (n : Nat) (hn : 1 ≤ n) (li : ℝ) (h0 : 0 ≤ li) (h1 : li ≤ 1) (i : Nat) (hi : i < n) :
    ∑ j ∈ Finset.range n, autoEntry n li i j = 1 ∧ ∀ j, 0 ≤ autoEntry n li i j := by
  refine ⟨?_, fun j => ?_⟩
  · exact autoEntry_row_sum n li hi
  · simp only [autoEntry, ScalarReal.one_eq, ScalarReal.ofInt_eq, sub_eq, div_eq, Int.cast_sub, Int.cast_natCast,
      Int.cast_one]
    split
    · exact zero_le_one
    · split
      · exact h0
      · exact div_nonneg (sub_nonneg.mpr h1) (sub_nonneg.mpr (Nat.one_le_cast.mpr hn))

/-- the equilibrium vector computed by `fireParameterChanged` is a genuine stationary distribution
of that matrix: `π·P = π`, `Σ π = 1`, `π > 0` (every `λ_i < 1`, which the parameter constraint ]0,1[ enforces) -/
theorem autocorr_stationary (n : Nat) (hn : 1 ≤ n) (lam : Nat → ℝ) (hl : ∀ i, i < n → lam i < 1) :
    autoEq (vec n lam) = vec n (autoPi n lam)
    ∧ (∀ j, j < n → ∑ k ∈ Finset.range n, autoPi n lam k * autoEntry n (lam k) k j = autoPi n lam j)
    ∧ ∑ i ∈ Finset.range n, autoPi n lam i = 1 ∧ ∀ i, i < n → 0 < autoPi n lam i := by
  refine ⟨?_, ?_⟩
  · unfold autoEq
    simp only [map_vec, sumL_vec, ScalarReal.one_eq, sub_eq, div_eq]
    rfl
  have hw : ∀ i, i < n → 0 < 1 / (1 - lam i) := fun i hi => one_div_pos.mpr (sub_pos.mpr (hl i hi))
  have hSpos : 0 < ∑ k ∈ Finset.range n, 1 / (1 - lam k) :=
    Finset.sum_pos (fun i hi => hw i (Finset.mem_range.mp hi)) (Finset.nonempty_range_iff.mpr (by omega))
  refine ⟨fun j hj => autoEntry_stationary n _ lam _ (fun k hk => autoPi_mul_autoOff n lam (hl k hk)) hj, ?_,
    fun i hi => div_pos (hw i hi) hSpos⟩
  · unfold autoPi; rw [← Finset.sum_div]; exact div_self (ne_of_gt hSpos)

/-- … also before the first update: the constructor's uniform vector is what `fireParameterChanged` computes for
the constructor's equal `λ`'s (so `autocorr_stationary` applies to the empty history too) -/
theorem autocorr_initial_equilibrium (n : Nat) (hn : 1 ≤ n) (c : ℝ) (hc : c < 1) :
    autoEq (List.replicate n c) = List.replicate n (1 / (n : ℝ)) := by
  unfold autoEq
  simp only [List.map_replicate, sumL_replicate, ScalarReal.one_eq, sub_eq, div_eq]
  rw [div_mul_cancel_right₀ (ne_of_gt (one_div_pos.mpr (sub_pos.mpr hc))), one_div]

/-- the lazily cached matrix and the equilibrium vector always are those of the current `λ`'s,
whatever the order of updates and queries -/
theorem autocorr_history_independent {α : Type} [Scalar α] (n : Nat) (ops : List (AutoOp α)) :
    (AutoTM.build n : AutoTM α).runA ops
      = autoSpecRun n (List.replicate n (Scalar.ofRat 95 100)) (List.replicate n (Scalar.one / Scalar.ofInt n)) ops :=
  AutoTM.runA_spec _ (by simp [AutoTM.build]) ops

/-- before the repair (3a53bfc) the single-state "matrix" was `[λ]`: the diagonal formula without the
one-state case (kept as the witness of the former finding C13-autocorr-one-state) -/
theorem autocorr_one_state_witness :
    (if (0 : Nat) == 0 then (19 / 20 : ℝ) else (1 - 19 / 20) / ((1 : ℝ) - 1)) ≠ 1 ∧ autoEntry 1 (19 / 20 : ℝ) 0 0 = 1 := by
  refine ⟨by norm_num, autoEntry_one _ _ _⟩

/-- `getPij()` agrees entry-wise with `Pij(i, j)`: entry `(i, j)` of the matrix a cache-free object
computes is the value `Pij(i, j)` computes (and by `autocorr_history_independent` the cached object answers
the same in every history) -/
theorem autocorr_pij_agree {α : Type} [Scalar α] (n : Nat) (lam : List α) (i j : Nat) (hj : j < n) :
    ((autoMatrix n lam)[i]?).bind (·[j]?) = (lam[i]?).map (fun li => autoEntry n li i j) := by
  unfold autoMatrix
  rw [List.getElem?_mapIdx]
  cases lam[i]? with
  | none => rfl
  | some li => simp [hj]

/-! ## Built-in transition models: FullHmmTransitionMatrix (rows = C19's simplices; equilibrium vector by
repeated squaring until the rows agree; as repaired) -/

/-- the two caches (`pij_`, `eqFreq_` with their up-to-date flags) never matter: in every history of
updates (`setTransitionProbabilities`, `setParameterValue`, accepted or refused) and queries (`getPij`,
`Pij`, `getEquilibriumFrequencies`) each answer is the one of the object whose caches are discarded before
every call.  Generic in the scalar type. -/
theorem full_history_independent {α : Type} [Scalar α] (n : Nat) (m : FullTM α) (hb : FullTM.build n = some m)
    (ops : List (FullOp α)) : m.run ops = m.runFresh ops :=
  FullTM.run_eq_runFresh m (FullTM.build_cacheOk n m hb) ops

/-- … and each query is answered from the simplices alone: `getPij()` = the matrix of the `Pij(i, j)`
(entry-wise agreement), `getEquilibriumFrequencies()` = `fullEqOf` of that matrix (`full_equilibrium_stationary`) -/
theorem full_queries_from_simplices {α : Type} [Scalar α] (m : FullTM α) (h : m.CacheOk) :
    (m.step .getPij).2 = .mat (fullMatrix m.rows)
    ∧ (∀ i j, (m.step (.entry i j)).2 = match fullEntry m.rows i j with | some x => .val x | none => .err .ub)
    ∧ (m.step .getEq).2 = (match fullEqOf m.n (fullMatrix m.rows) with | some e => .vec e | none => .err .ub)
    ∧ (∀ op, (m.step op).1.CacheOk) :=
  ⟨(FullTM.query_spec m h .getPij trivial).1, fun i j => (FullTM.query_spec m h (.entry i j) trivial).1,
   (FullTM.query_spec m h .getEq trivial).1,
   fun op => FullTM.step_cacheOk m h op⟩

/-- in every history from the constructor (1 ≤ n < 2^31 states; any arguments, refused calls change
nothing) the matrix has `n` rows of `n` strictly positive entries summing to one -/
theorem full_matrix_row_stochastic (n : Nat) (hn : 0 < n) (h31 : n < 2 ^ 31) (ops : List (FullOp ℝ)) :
    ∃ m, FullTM.build (α := ℝ) n = some m ∧
      ∃ Pf : Nat → Nat → ℝ, fullMatrix (m.after ops).rows = vec n (fun i => vec n (Pf i))
        ∧ (∀ i j, i < n → j < n → 0 < Pf i j) ∧ ∀ i, i < n → ∑ j ∈ Finset.range n, Pf i j = 1 := by
  obtain ⟨m, hb, hinv, hmn⟩ := FullTM.build_rowsInv n hn h31
  obtain ⟨h1, h2⟩ := FullTM.after_rowsInv m hinv ops
  obtain ⟨Pf, e, hpos, hsum⟩ := FullTM.rows_stochastic _ h1
  rw [h2, hmn] at e hpos hsum
  exact ⟨m, hb, Pf, e, hpos, hsum⟩

/-- the equilibrium vector of such a matrix, as the repaired `getEquilibriumFrequencies()` computes it (the
matrix is squared until its rows agree to `1e-14`, at most 64 times; before the repair: row 0 of `P^256`, which
is **not** a stationary distribution for a slowly mixing matrix): a probability vector, row 0 of `P^(2^K)`;
when the loop ends by convergence it is within `1e-14` of **every** stationary distribution of `P` (hence of
the unique one) and itself stationary up to `1e-14`; the loop can only run out of its 64 squarings when
`1e-14 < 2·(1 − n·δ)^(2^64)`, `δ` any lower bound of the entries (Dobrushin's contraction) — never for the
matrices a `double` can hold with `δ ≥ 1e-17/n` -/
theorem full_equilibrium_stationary (n : Nat) (hn : 0 < n) (Pf : Nat → Nat → ℝ) (δ : ℝ) (hδ0 : 0 ≤ δ)
    (hδ : ∀ i j, i < n → j < n → δ ≤ Pf i j) (hsum : ∀ i, i < n → ∑ j ∈ Finset.range n, Pf i j = 1) :
    ∃ (π : Nat → ℝ) (K : Nat), K ≤ 64 ∧ fullEqOf n (vec n (fun i => vec n (Pf i))) = some (vec n π)
      ∧ (∀ j, j < n → 0 ≤ π j) ∧ ∑ j ∈ Finset.range n, π j = 1
      ∧ (((∀ μ : Nat → ℝ, (∀ i, i < n → 0 ≤ μ i) → ∑ i ∈ Finset.range n, μ i = 1 →
              (∀ j, j < n → ∑ k ∈ Finset.range n, μ k * Pf k j = μ j) → ∀ j, j < n → |π j - μ j| ≤ (eqTol : ℝ))
          ∧ ∀ j, j < n → |∑ k ∈ Finset.range n, π k * Pf k j - π j| ≤ (eqTol : ℝ))
        ∨ (K = 64 ∧ (eqTol : ℝ) < 2 * (1 - n * δ) ^ (2 ^ 64))) := by
  have hXδ : ∀ i j, δ ≤ toM n Pf i j := fun i j => hδ i j i.isLt j.isLt
  have hXs : ∀ i, ∑ j, toM n Pf i j = 1 := fun i => (Finset.sum_range _).symm.trans (hsum i i.isLt)
  have hmem : toM n Pf ∈ Matrix.rowStochastic ℝ (Fin n) :=
    Matrix.mem_rowStochastic_iff_sum.mpr ⟨fun i j => le_trans hδ0 (hXδ i j), hXs⟩
  have hc : 0 ≤ 1 - (n : ℝ) * δ := by
    have h1 : ∑ _j : Fin n, δ ≤ ∑ j, toM n Pf ⟨0, hn⟩ j := Finset.sum_le_sum fun j _ => hXδ _ j
    rw [hXs, Finset.sum_const, Finset.card_univ, Fintype.card_fin, nsmul_eq_mul] at h1
    exact sub_nonneg.mpr h1
  obtain ⟨K, g, hK, he, hg, hconv⟩ := eqLoop_pow n 64 Pf hmem
  have hMs := Matrix.mem_rowStochastic_iff_sum.mp (hg ▸ pow_mem hmem (2 ^ K))
  have hfull : fullEqOf n (matL n Pf) = some (vec n (g 0)) := by
    obtain ⟨m, rfl⟩ : ∃ m, n = m + 1 := ⟨n - 1, by omega⟩
    rw [fullEqOf, he, matL, vec_succ']
  refine ⟨g 0, K, hK, hfull, fun j hj => hMs.1 ⟨0, hn⟩ ⟨j, hj⟩, (Finset.sum_range _).trans (hMs.2 ⟨0, hn⟩), ?_⟩
  rcases hconv with h | ⟨h1, h2⟩
  · left
    obtain ⟨r1, r2⟩ := rows_agree_stationary hn (toM n Pf) hmem (2 ^ K) _ fun i j => by
      rw [← hg]; exact le_trans ((spreadOf_matL n hn g).1 i j i.isLt j.isLt) h
    rw [← hg] at r1 r2
    refine ⟨fun μ hμ0 hμ1 hst j hj => ?_, fun j hj => ?_⟩
    · exact r1 (fun i => μ i) (fun i => hμ0 i i.isLt) ((Finset.sum_range _).symm.trans hμ1)
        (funext fun j' => (Finset.sum_range _).symm.trans (hst j' j'.isLt)) ⟨j, hj⟩
    · rw [Finset.sum_range]
      exact r2 ⟨j, hj⟩
  · right
    refine ⟨h1, lt_of_lt_of_le h2 ((spreadOf_matL n hn g).2 _ (by positivity) fun i j hi hj => ?_)⟩
    have := rows_agree_bound hn (toM n Pf) hXs δ hXδ hc (2 ^ K) ⟨i, hi⟩ ⟨j, hj⟩
    rw [← hg, h1] at this
    exact this

/-- the tolerance of the loop is `10⁻¹⁴` -/
theorem full_equilibrium_tolerance : (eqTol : ℝ) = 1 / 100000000000000 := by
  simp [eqTol]

/-! ## Non-vacuity -/

/-- a 2-state chain satisfying `PosP`, `NonNegP` and `0 < n` -/
noncomputable def exP : Params ℝ := { n := 2, P := fun _ _ => 1 / 2, pi := fun _ => 1 / 2 }
example : PosP exP ∧ NonNegP exP ∧ 0 < exP.n :=
  have h : (0 : ℝ) < 1 / 2 := one_half_pos
  ⟨⟨fun _ _ => h, fun _ => h⟩, ⟨fun _ _ => h.le, fun _ => h.le⟩, Nat.two_pos⟩
example : ValidBreaks 5 [1, 3] := ⟨by decide, by decide⟩
example : breaksOk 5 [1, 3] = true ∧ breaksOk 5 [3, 1] = false ∧ breaksOk 5 [5] = false := by decide
/-- a history satisfying `derivNamesOk` and the other hypotheses of `history_independent` that uses every operation -/
example : derivNamesOk "" "" ([.posteriorInto [] true, .d1 "e1_0", .dSite 1, .d2 "e1_0", .d2Site 0, .posteriorSite 0,
    .siteLik 0, .siteLiks, .setBreaks [1], .d2 "e0_0", .d2Site 1] : List (Op Rat)) = true := by decide
/-- a 2-state matrix satisfying the hypotheses of `full_equilibrium_stationary` with `δ = 1/4` -/
example : (∀ i j, i < 2 → j < 2 → (1 / 4 : ℝ) ≤ (fun i j => if i = j then (3 / 4 : ℝ) else 1 / 4) i j)
    ∧ ∀ i, i < 2 → ∑ j ∈ Finset.range 2, (fun i j => if i = j then (3 / 4 : ℝ) else 1 / 4) i j = 1 := by
  refine ⟨fun i j _ _ => ?_, fun i hi => ?_⟩
  · show (1 / 4 : ℝ) ≤ if i = j then 3 / 4 else 1 / 4
    split <;> norm_num
  · rw [Finset.sum_range_succ, Finset.sum_range_one]
    obtain rfl | rfl : i = 0 ∨ i = 1 := by omega
    all_goals norm_num

end Bpp.C13
