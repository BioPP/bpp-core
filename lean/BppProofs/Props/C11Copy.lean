import BppProofs.Lemmas.ReparamObj
import BppProofs.Props.C11Wrapper
/-!
# C11 — wrappers as objects: both constructors, copy construction, `clone()`, `operator=`, and the
wrapped function shared between a wrapper and its copies
(src/Bpp/Numeric/Function/ReparametrizationFunctionWrapper.h:36-97, .cpp:170-190)

Property theorems about the object-level model `BppModel/ReparamObj.lean` read at `ℝ`: a world of
function objects and wrapper objects (all three classes have the same data members: `function_`,
`parameters_`, `functionParameters_`), wrappers pointing to functions.

**What the property means when an original and its copies are used in turn.**  The transformed
parameters and `functionParameters_` are private to each wrapper; the wrapped function — hence the
point at which it stands — is common (h:63 `function_(rfw.function_)`).  From the code:
`f(parameters)` through a wrapper sets the function's parameters *named in `parameters`* to that
wrapper's back-transformed values and leaves every other parameter of the function where the last
writer — this wrapper, a copy, or the function's owner — left it.  Hence (`interleaved_eval`,
`full_update_exact`):
  * `f(all the wrapper's parameters)` through the original or through any copy is the original
    function at *that wrapper's* back-transformed point (and at the current values of the function's
    parameters the wrapper was not given), whatever was done through the other wrappers before;
  * `f(some of the parameters)`, `getValue()` and the derivatives are evaluated at the function's
    current point: the named coordinates are the wrapper's back-transformed ones, the others are
    the last writer's.  For a wrapper used alone they are its own (`all_histories*` of
    `Props/C11Wrapper.lean`, which apply to the view by `set_refines`);
  * an update through one wrapper never touches the private state of another one and never breaks
    its invariant (`interleaved_eval`), and no history of constructions, copies, assignments and
    updates raises an exception (`objects_all_histories`).
-/
namespace Bpp.C11
open Bpp Bpp.Transform Bpp.Reparam Bpp.ReparamObj

/-! ## All histories -/

/-- In every world reachable by any history of: new functions, wrappers built by either constructor
(the second one with any sub-list in any order), copies / clones, assignments between any two
wrappers (of the same or of different functions, with the same or different sub-lists), updates
through any wrapper with any real values of any of its coordinates, inherited setters, and direct
moves of a function by its owner — every function is well formed, every wrapper points to a live
function and satisfies the wrapper invariant over it (`WInv`: aligned lists, names of the function
with the function's constraints, the transform of each constraint, accepted values, private copy
within `2 tiny` of the back-transformed coordinate), and the next operation raises nothing. -/
theorem objects_all_histories (pi tiny : ℝ) (ht : 0 < tiny) {σ : World ℝ} (h : Reach pi tiny σ) :
    WorldInv pi tiny σ ∧
    ∀ op, OpOk tiny σ op → ∃ σ', σ.step pi tiny op = .ok σ' ∧ Reach pi tiny σ' := by
  refine ⟨h.inv ht, fun op hop => ?_⟩
  obtain ⟨σ', e, _⟩ := world_step_ok ht (h.inv ht) op hop
  exact ⟨σ', e, Reach.step h hop e⟩

/-- ... in particular slot i of `parameters_` and slot i of `functionParameters_` of every wrapper
carry the same name, and the driver's executable view exists (this is the predicate the driver
evaluates on the names the implementation reports after every construction, copy and assignment) -/
theorem every_wrapper_aligned (pi tiny : ℝ) (ht : 0 < tiny) {σ : World ℝ} (h : Reach pi tiny σ) :
    ∀ w ∈ σ.ws, w.aligned = true ∧ ∃ f v, σ.fns[w.fn]? = some f ∧ w.view? f = some v := by
  intro w hw
  obtain ⟨f, v, hf, hi⟩ := (h.inv ht).ws w hw
  exact ⟨hi.aligned, f, v, hf, view?_of_View hi.view⟩

/-! ## Copies -/

/-- **The copy carries the invariant and evaluates like the original.**  Copy construction /
`clone()` of any wrapper `w` of any reachable world (built by either constructor, itself a copy or
the target of an assignment, after any updates) succeeds, appends a wrapper `c` that
  * shares the wrapped function with `w` and changes no existing object,
  * is aligned, with the names of `w`, and satisfies the wrapper invariant with the *same* slots as
    `w` (same transformed parameters, same `functionParameters_`),
  * evaluates like the original at every point: from the state after the copy, an update with any
    list of values through `c` has exactly the outcome the same update through `w` has (same new
    point of the function, same new private state), and every derivative is the same;
and the world stays reachable (so everything above holds again after any further history, through
the copy and through the original).
In the model `Wr.copy w` is `w` up to eta (member-wise copy, function index shared), so the four
"evaluates like the original" conjuncts are `rfl` — they restate the transcription of h:61-64.  The
content proved here is that the copy satisfies the invariant over all histories; that the library's
copy really is member-wise is what the differential tie checks (`copy_carries` predicate on the
names and values the implementation reports). -/
theorem copy_carries (pi tiny : ℝ) (ht : 0 < tiny) {σ : World ℝ} (h : Reach pi tiny σ) (j : Nat)
    (w : Wr ℝ) (hw : σ.ws[j]? = some w) :
    ∃ σ' c, σ.step pi tiny (.copy j) = .ok σ' ∧ Reach pi tiny σ' ∧
      σ'.ws = σ.ws ++ [c] ∧ σ'.fns = σ.fns ∧ c.fn = w.fn ∧ c.aligned = true ∧ c.names = w.names ∧
      (∃ f v, σ.fns[w.fn]? = some f ∧ WInv pi tiny f w v ∧ WInv pi tiny f c v) ∧
      (∀ f pl, c.setParameters pi f pl = w.setParameters pi f pl) ∧
      (∀ dF f n, c.d1 pi dF f n = w.d1 pi dF f n) ∧
      (∀ dF d2F f n, c.d2 pi dF d2F f n = w.d2 pi dF d2F f n) ∧
      (∀ dF d2F f n m, c.d2x pi dF d2F f n m = w.d2x pi dF d2F f n m) := by
  have hop : OpOk tiny σ (.copy j) := (List.getElem_of_getElem? hw).fst
  have e : σ.step pi tiny (.copy j) = .ok { σ with ws := σ.ws ++ [w.copy] } := by
    simp [World.step, hw]
  obtain ⟨f, v, hf, hi⟩ := (h.inv ht).ws w (List.mem_of_getElem? hw)
  exact ⟨_, w.copy, e, Reach.step h hop e, rfl, rfl, rfl, hi.aligned, rfl, ⟨f, v, hf, hi, hi⟩,
    fun _ _ => rfl, fun _ _ _ => rfl, fun _ _ _ _ => rfl, fun _ _ _ _ _ => rfl⟩

/-- **Assignment carries them too.**  After `ws[i] = ws[j]` (any two wrappers of a reachable world:
same or different functions, same or different sub-lists, any of the three classes) the target
shares the *source's* function, has the source's names, slots and invariant, and evaluates like the
source at every point; nothing of the old target survives, no other object changes. -/
theorem assign_carries (pi tiny : ℝ) (ht : 0 < tiny) {σ : World ℝ} (h : Reach pi tiny σ) (i j : Nat)
    (wi wj : Wr ℝ) (hwi : σ.ws[i]? = some wi) (hwj : σ.ws[j]? = some wj) :
    ∃ σ' a, σ.step pi tiny (.assign i j) = .ok σ' ∧ Reach pi tiny σ' ∧
      σ'.ws = σ.ws.set i a ∧ σ'.fns = σ.fns ∧ a.fn = wj.fn ∧ a.aligned = true ∧ a.names = wj.names ∧
      (∃ f v, σ.fns[wj.fn]? = some f ∧ WInv pi tiny f wj v ∧ WInv pi tiny f a v) ∧
      (∀ f pl, a.setParameters pi f pl = wj.setParameters pi f pl) ∧
      (∀ dF f n, a.d1 pi dF f n = wj.d1 pi dF f n) ∧
      (∀ dF d2F f n, a.d2 pi dF d2F f n = wj.d2 pi dF d2F f n) ∧
      (∀ dF d2F f n m, a.d2x pi dF d2F f n m = wj.d2x pi dF d2F f n m) := by
  have hop : OpOk tiny σ (.assign i j) :=
    ⟨(List.getElem_of_getElem? hwi).fst, (List.getElem_of_getElem? hwj).fst⟩
  have e : σ.step pi tiny (.assign i j) = .ok { σ with ws := σ.ws.set i (wi.assign wj) } := by
    simp [World.step, hwi, hwj]
  obtain ⟨f, v, hf, hi⟩ := (h.inv ht).ws wj (List.mem_of_getElem? hwj)
  exact ⟨_, wi.assign wj, e, Reach.step h hop e, rfl, rfl, rfl, hi.aligned, rfl, ⟨f, v, hf, hi, hi⟩,
    fun _ _ => rfl, fun _ _ _ => rfl, fun _ _ _ _ => rfl, fun _ _ _ _ _ => rfl⟩

/-- the invariant is not vacuous: had the copy taken `functionParameters_` from the function (as the
first constructor does) instead of from the source wrapper, the copy of a wrapper built on the
sub-list `{p3, p1}` of a function of five parameters would not be aligned -/
theorem copy_from_function_not_aligned (f : Fn ℝ) (w : Wr ℝ) (hf : f.names = [0, 1, 2, 3, 4])
    (hw : w.names = [3, 1]) : (copyFromFunction f w).aligned = false := by
  have h1 : (copyFromFunction f w).names = [3, 1] := hw
  have h2 : (copyFromFunction f w).fpNames = [0, 1, 2, 3, 4] := hf
  simp [Wr.aligned, alignedNames, h1, h2]

/-! ## Both constructors and `setParameters` refine the slot model -/

/-- the first constructor on a well-formed function: the wrapper's view is what `Reparam.init`
builds from the function's parameters — so `wrap_preserves_values`, `wrap_nudge`, `wrap_tracks` of
`Props/C11Wrapper.lean` describe it — and the function is not touched -/
theorem newFull_refines_init (pi tiny : ℝ) (ht : 0 < tiny) (g : Nat) (f : Fn ℝ) (hf : FnOk tiny f) :
    ∃ w v, Wr.newFull pi tiny g f = .ok w ∧ WInv pi tiny f w v ∧
      Reparam.init pi tiny (f.ps.map (fun p => (p.shape, p.value))) = .ok v ∧
      w.fn = g ∧ w.names = f.names ∧ fnVals v = f.vals := by
  obtain ⟨ps, v, e, hw, hi⟩ := WInv.init pi ht f g f.ps hf.nodup hf.own
  refine ⟨{ fn := g, params := ps, fps := f.ps }, v, by simp [Wr.newFull, e], hw, hi, rfl,
    initParams_names _ _ e, ?_⟩
  obtain ⟨w0, hw0, h1, _⟩ := wrap_preserves_values pi tiny ht (f.ps.map (fun p => (p.shape, p.value)))
    (by
      intro p hp
      obtain ⟨q, hq, rfl⟩ := List.mem_map.mp hp
      exact ⟨hf.acc q hq, hf.roomy q hq⟩)
  rw [hi] at hw0; injection hw0 with hw0; subst hw0
  rw [h1]; simp [Fn.vals, List.map_map, Function.comp_def]

/-- the second constructor, given any list of (copies of) parameters of the function in any order
(a prefix, a permutation, with gaps, a single one) and any foreign parameters: the wrapper is built
on the given parameters the function has, in the order given, and its view is what `Reparam.init`
builds from them -/
theorem newSub_refines_init (pi tiny : ℝ) (ht : 0 < tiny) (g : Nat) (f : Fn ℝ) (hf : FnOk tiny f)
    (given : List (FParam ℝ)) (hnd : (given.map (·.name)).Nodup)
    (hag : ∀ q ∈ given, ∀ p, findP q.name f.ps = some p → p.shape = q.shape ∧ p.value = q.value) :
    ∃ w v, Wr.newSub pi tiny g f given = .ok w ∧ WInv pi tiny f w v ∧
      Reparam.init pi tiny ((common f given).map (fun p => (p.shape, p.value))) = .ok v ∧
      w.fn = g ∧ w.names = (given.map (·.name)).filter (fun n => f.names.contains n) := by
  obtain ⟨ps, v, e, hw, hi⟩ := WInv.init pi ht f g (common f given)
    (hnd.sublist ((List.filter_sublist (l := given)).map _)) (hf.common hag)
  refine ⟨{ fn := g, params := ps, fps := common f given }, v, by simp [Wr.newSub, e], hw, hi, rfl, ?_⟩
  · show ps.map (·.1) = _
    rw [initParams_names _ _ e, common, List.filter_map]
    congr 1
    apply List.filter_congr
    intro p _
    rw [Bool.eq_iff_iff]
    simp only [List.any_eq_true, beq_iff_eq, Function.comp_apply, List.contains_iff_mem, Fn.names,
      List.mem_map]

/-- **`setParameters` through any wrapper of any reachable world is the slot model's `set` on its
view**: the object-level update (values matched by name, copies refreshed by index, sub-list pushed
by name into the shared function) succeeds and leaves the wrapper with the view `Reparam.set`
computes from the old view — so `set_never_raises`, `set_sync`, `set_all_sync`,
`wrapper_back_in_domain` of `Props/C11Wrapper.lean` apply to every wrapper, original or copy.  The
function keeps its names and constraints and stays at an accepted point; its parameters that are
not named keep their values. -/
theorem set_refines (pi tiny : ℝ) (ht : 0 < tiny) {f : Fn ℝ} {w : Wr ℝ} {v : W ℝ} (hf : FnOk tiny f)
    (hi : WInv pi tiny f w v) (pl : List (Nat × ℝ)) (hpl : ∀ n ∈ pl.map (·.1), n ∈ w.names) :
    ∃ f' w' v', w.setParameters pi f pl = .ok (f', w') ∧
      Reparam.set pi v (updOf w.params pl) = .ok v' ∧ WInv pi tiny f' w' v' ∧
      w'.fn = w.fn ∧ w'.names = w.names ∧ SameSig f f' ∧ FnOk tiny f' ∧
      (∀ n q, findP n f.ps = some q → n ∉ pl.map (·.1) → findP n f'.ps = some q) := by
  obtain ⟨f', w', e, r⟩ := hi.setParameters ht hf pl hpl
  exact ⟨f', w', _, e, set_real ht v _ hi.inv (by rw [hi.view.length]; simp [updOf]), r⟩

/-! ## Interleaved use of an original and its copies -/

/-- **An update through one wrapper, seen from it and from any other wrapper of the same
function.**  `a` and `b` are two wrappers of `f` (an original and its copy, two copies, or wrappers
built independently on overlapping sub-lists).  `f(pl)` through `a`:
  1. succeeds; slot by slot `a` becomes `setSlot`: a named coordinate takes the given value, the
     function's parameter of that name is set to `a`'s copy, which is the back-transformed value
     when some named coordinate changed and is otherwise within `2 tiny` of it (`Priv`); a
     coordinate that is not named keeps its transformed parameter and the function's value;
  2. the function's parameters that are not named — whether `a` has them or not — keep the values
     the last writer gave them;
  3. `b`'s private state (transformed parameters, `functionParameters_`) is untouched and `b` still
     satisfies the wrapper invariant over the moved function: the next update through `b` is again
     described by 1–3. -/
theorem interleaved_eval (pi tiny : ℝ) (ht : 0 < tiny) {f : Fn ℝ} {a b : Wr ℝ} {va vb : W ℝ}
    (hf : FnOk tiny f) (ha : WInv pi tiny f a va) (hb : WInv pi tiny f b vb)
    (pl : List (Nat × ℝ)) (hpl : ∀ n ∈ pl.map (·.1), n ∈ a.names) :
    ∃ f' a' vb', a.setParameters pi f pl = .ok (f', a') ∧
      WInv pi tiny f' a' (List.zipWith (setSlot pi ((List.zipWith changed va (updOf a.params pl)).any id))
        va (updOf a.params pl)) ∧
      (∀ n q, findP n f.ps = some q → n ∉ pl.map (·.1) → findP n f'.ps = some q) ∧
      WInv pi tiny f' b vb' ∧
      List.Forall₂ (fun s s' => s'.tp = s.tp ∧ s'.shape = s.shape ∧ s'.fp = s.fp) vb vb' := by
  obtain ⟨f', a', e, ha', -, -, hsig, hfok', hframe⟩ := ha.setParameters ht hf pl hpl
  obtain ⟨vb', hb', hrel⟩ := hb.frame hsig hfok'
  exact ⟨f', a', vb', e, ha', hframe, hb', hrel⟩

/-- what `setSlot` says of a named coordinate: it takes the given value; the function is set to the
wrapper's copy, which is the back-transformed value as soon as one named coordinate changed, and
within `d` of it otherwise when the private copy was -/
theorem named_coordinate (pi d : ℝ) (ch : Bool) (s : Slot ℝ) (x : ℝ) (hp : Priv pi d s)
    (hch : ch = false → changed s (some x) = false) :
    (setSlot pi ch s (some x)).tp = s.tp.setX x ∧
    (setSlot pi ch s (some x)).fn = (setSlot pi ch s (some x)).fp ∧
    |(setSlot pi ch s (some x)).fn - (setSlot pi ch s (some x)).tp.getOriginal pi| ≤ max d 0 ∧
    (ch = true → (setSlot pi ch s (some x)).fn = (s.tp.setX x).getOriginal pi) := by
  refine ⟨rfl, rfl, ?_, ?_⟩
  · cases ch
    · have := unchanged_setX (hch rfl)
      simp only [setSlot, Bool.false_eq_true, if_false, this]
      exact le_trans hp (le_max_left _ _)
    · simp [setSlot]
  · intro h; subst h; simp [setSlot]

/-- ... and of a coordinate that is not named: nothing moves, neither in the wrapper nor in the
function -/
theorem unnamed_coordinate (pi : ℝ) (s : Slot ℝ) :
    (setSlot pi false s none) = s ∧
    (setSlot pi true s none).tp = s.tp ∧ (setSlot pi true s none).fn = s.fn ∧
    (setSlot pi true s none).fp = s.tp.getOriginal pi := by
  refine ⟨?_, rfl, rfl, ?_⟩ <;> simp [setSlot]

/-- **`f(all the parameters)` through any wrapper is the original function at that wrapper's
back-transformed point, whatever happened through the other wrappers before**: when every
coordinate of `a` is named and at least one changes, afterwards every slot of `a` is in sync — the
function's parameter equals the back-transformed value of the transformed parameter, which is the
value given — so `getValue` = `F` at the point whose coordinates named by `a` are the
back-transformed ones (the others are untouched, `interleaved_eval` 2). -/
theorem full_update_exact (pi tiny : ℝ) (ht : 0 < tiny) {f : Fn ℝ} {a : Wr ℝ} {va : W ℝ}
    (hf : FnOk tiny f) (ha : WInv pi tiny f a va) (pl : List (Nat × ℝ))
    (hpl : ∀ n ∈ pl.map (·.1), n ∈ a.names) (hall : ∀ n ∈ a.names, n ∈ pl.map (·.1))
    (hch : a.params.any (changedTP pl) = true) :
    ∃ f' a' va', a.setParameters pi f pl = .ok (f', a') ∧ WInv pi tiny f' a' va' ∧
      (∀ s ∈ va', Sync pi s) ∧
      List.Forall₂ (fun u s' => ∃ x, u = some x ∧ s'.tp.x = x) (updOf a.params pl) va' := by
  obtain ⟨f', a', e, ha', -⟩ := ha.setParameters ht hf pl hpl
  rw [← view_changed pl ha.view, hch] at ha'
  -- every coordinate is named
  have hsome : ∀ u ∈ updOf a.params pl, ∃ x, u = some x := by
    intro u hu
    obtain ⟨p, hp, rfl⟩ := List.mem_map.mp hu
    cases hl : lookupV p.1 pl with
    | none => exact absurd (hall p.1 (List.mem_map.mpr ⟨p, hp, rfl⟩)) (lookupV_none.mp hl)
    | some x => exact ⟨x, rfl⟩
  refine ⟨f', a', _, e, ha', sync_of_all_named pi va _ hsome,
    forall₂_zipWith_self va _ (by rw [ha.view.length]; simp [updOf]) (fun s u hu => ?_)⟩
  obtain ⟨x, rfl⟩ := hsome u hu
  exact ⟨x, rfl, by simp [setSlot]⟩

/-- the inherited setters (`matchParametersValues`, `setParametersValues`, `setAllParametersValues`,
`setParameterValue`) update the wrapper's private state only: the wrapped function does not move
(so `getValue()` and the derivatives still refer to the old point until `f()` / `setParameters`
names the coordinates), the private copy is refreshed, and the invariant is kept -/
theorem inherited_setters_stay_private (pi tiny : ℝ) (ht : 0 < tiny) {f : Fn ℝ} {w : Wr ℝ} {v : W ℝ}
    (hi : WInv pi tiny f w v) (pl : List (Nat × ℝ)) :
    (∃ w', w.matchValues pi pl = .ok w' ∧ w'.fn = w.fn ∧ w'.names = w.names ∧
      WInv pi tiny f w' (List.zipWith (midSlot pi ((List.zipWith changed v (updOf w.params pl)).any id))
        v (updOf w.params pl))) ∧
    (∃ w', w.setValues pi pl = .ok w' ∧ w'.fn = w.fn ∧ w'.names = w.names ∧
      WInv pi tiny f w' (List.zipWith (midSlot pi true) v (updOf w.params pl))) :=
  ⟨hi.matchValues ht pl, hi.setValues ht pl⟩

/-- `enableFirstOrderDerivatives(yn)` / `enableSecondOrderDerivatives(yn)` through a wrapper set the
switch of the (shared) wrapped function and nothing else; the wrapper's getter reads it back
(definitional in the model: a restatement of the transcription, tied to the code by the `w.en`
operation) -/
theorem enable_delegates (f : Fn ℝ) (yn : Bool) :
    ((f.enableFirst yn).d1on = yn ∧ (f.enableFirst yn).d2on = f.d2on ∧ (f.enableFirst yn).ps = f.ps) ∧
    ((f.enableSecond yn).d2on = yn ∧ (f.enableSecond yn).d1on = f.d1on ∧ (f.enableSecond yn).ps = f.ps) :=
  ⟨⟨rfl, rfl, rfl⟩, ⟨rfl, rfl, rfl⟩⟩

/-- `getValue()` through any wrapper is the wrapped function where it stands — it reads the shared
function and nothing of the wrapper (`wrap_f_eq` / `get_is_pure` of the driver; definitional in the
model, tied by `w.get`) -/
theorem getValue_reads_function (F : List ℝ → ℝ) (f : Fn ℝ) : getValue F f = F f.vals := rfl

/-! ## Derivatives through any wrapper (original or copy): the chain rule, by name

`F` is the wrapped function of the whole list of its parameters, `dF p i` / `d2F p i j` its partial
derivatives; `n` (and `m`) are parameter *names*, `i` (`j`) their positions in the function's list,
`tp` (`tn`, `tm`) the transformed parameters of those names in the wrapper.  The hypotheses say that
`dF f.vals i` is the partial derivative at the back-transformed value of the wrapper's coordinate —
where the function stands whenever that coordinate is in sync (`full_update_exact`,
`named_coordinate`). -/

/-- first order (h:153-157) -/
theorem obj_chain_rule_1 (pi : ℝ) (F : List ℝ → ℝ) (dF : List ℝ → Nat → ℝ) (f : Fn ℝ) (w : Wr ℝ)
    (n i : Nat) (tp : TP ℝ) (hi : f.indexOf n = some i) (htp : findTP n w.params = some tp)
    (hwf : TPWF tp)
    (hF : HasDerivAt (fun y => F (f.vals.set i y)) (dF f.vals i) (tp.getOriginal pi)) :
    ∃ d, w.d1 pi dF f n = .ok d ∧
      HasDerivAt (fun x => F (f.vals.set i ((tp.setX x).getOriginal pi))) d tp.x :=
  ⟨dF f.vals i * tp.d1 pi, by simp [Wr.d1, hi, htp], chain_d1 hwf hF⟩

/-- second order, same variable (h:207-213), away from the junction `x = 0` of a half-line transform
(where the full `HasDerivAt` statement is false: `r_d2_not_derivative_at_junction`; the statement that
holds at every coordinate is `obj_chain_rule_2_right`); `hsync`: the function stands at the back-transformed
value of that coordinate -/
theorem obj_chain_rule_2_partial (pi : ℝ) (dF : List ℝ → Nat → ℝ) (d2F : List ℝ → Nat → Nat → ℝ) (f : Fn ℝ)
    (w : Wr ℝ) (n i : Nat) (tp : TP ℝ) (hi : f.indexOf n = some i)
    (htp : findTP n w.params = some tp) (hwf : TPWF tp) (hx : ∀ t, tp = .r t → t.x ≠ 0)
    (hsync : f.vals[i]? = some (tp.getOriginal pi))
    (hF2 : HasDerivAt (fun y => dF (f.vals.set i y) i) (d2F f.vals i i) (tp.getOriginal pi)) :
    ∃ d, w.d2 pi dF d2F f n = .ok d ∧
      HasDerivAt (fun x => dF (f.vals.set i ((tp.setX x).getOriginal pi)) i * (tp.setX x).d1 pi) d tp.x := by
  refine ⟨d2F f.vals i i * (tp.d1 pi) ^ 2 + dF f.vals i * tp.d2 pi, by simp [Wr.d2, hi, htp], ?_⟩
  refine (chain_d2 (G := fun y => dF (f.vals.set i y) i) hwf hF2
    (tp_d2_is_derivative_partial pi tp hwf hx)).congr_deriv ?_
  simp only [set_self_of_getElem? hsync]

/-- second order, same variable (h:207-213), **at every coordinate**: the wrapper's second derivative
is the right derivative of its first derivative with respect to the transformed coordinate;
`hsync`: the function stands at the back-transformed value of that coordinate -/
theorem obj_chain_rule_2_right (pi : ℝ) (dF : List ℝ → Nat → ℝ) (d2F : List ℝ → Nat → Nat → ℝ) (f : Fn ℝ)
    (w : Wr ℝ) (n i : Nat) (tp : TP ℝ) (hi : f.indexOf n = some i)
    (htp : findTP n w.params = some tp) (hwf : TPWF tp)
    (hsync : f.vals[i]? = some (tp.getOriginal pi))
    (hF2 : HasDerivAt (fun y => dF (f.vals.set i y) i) (d2F f.vals i i) (tp.getOriginal pi)) :
    ∃ d, w.d2 pi dF d2F f n = .ok d ∧
      HasDerivWithinAt (fun x => dF (f.vals.set i ((tp.setX x).getOriginal pi)) i * (tp.setX x).d1 pi) d
        (Set.Ici tp.x) tp.x := by
  refine ⟨d2F f.vals i i * (tp.d1 pi) ^ 2 + dF f.vals i * tp.d2 pi, by simp [Wr.d2, hi, htp], ?_⟩
  refine (chain_d2_right (G := fun y => dF (f.vals.set i y) i) hwf hF2
    (tp_d2_is_right_derivative pi tp hwf)).congr_deriv ?_
  simp only [set_self_of_getElem? hsync]

/-- second order, two *different* variables (h:215-222); `hnm` is used: the same name twice is
`obj_chain_rule_2_diag` -/
theorem obj_chain_rule_2_cross (pi : ℝ) (dF : List ℝ → Nat → ℝ) (d2F : List ℝ → Nat → Nat → ℝ)
    (f : Fn ℝ) (w : Wr ℝ) (n m i j : Nat) (hnm : n ≠ m) (tn tm : TP ℝ) (hi : f.indexOf n = some i)
    (hj : f.indexOf m = some j) (htn : findTP n w.params = some tn) (htm : findTP m w.params = some tm)
    (hwf : TPWF tm)
    (hFx : HasDerivAt (fun y => dF (f.vals.set j y) i) (d2F f.vals i j) (tm.getOriginal pi)) :
    ∃ d, w.d2x pi dF d2F f n m = .ok d ∧
      HasDerivAt (fun x => dF (f.vals.set j ((tm.setX x).getOriginal pi)) i * tn.d1 pi) d tm.x :=
  ⟨d2F f.vals i j * tn.d1 pi * tm.d1 pi, by simp [Wr.d2x, hnm, hi, hj, htn, htm], chain_cross hwf hFx _⟩

/-- the two-argument overload with the same name twice is the one-argument overload, through any
wrapper (original or copy) -/
theorem obj_chain_rule_2_diag (pi : ℝ) (dF : List ℝ → Nat → ℝ) (d2F : List ℝ → Nat → Nat → ℝ)
    (f : Fn ℝ) (w : Wr ℝ) (n : Nat) : w.d2x pi dF d2F f n n = w.d2 pi dF d2F f n := by
  simp [Wr.d2x]

/-! ## Non-vacuity -/

/-- the hypotheses of `copy_carries` / `assign_carries` / `interleaved_eval` are satisfiable by the
configuration of the missed change: a function of five parameters mixing the configurations, a
wrapper built by the second constructor on the sub-list `{p3, p1}` — neither a prefix nor in the
function's order — in a reachable world -/
example : ∃ σ w f, Reach libPI libTINY σ ∧ σ.ws[0]? = some w ∧ w.names = [3, 1] ∧
    σ.fns[w.fn]? = some f ∧ f.names = [0, 1, 2, 3, 4] ∧ w.aligned = true := by
  have ht := libTINY_pos
  -- the function: every value is well inside its constraint
  have hadm : ∀ p ∈ exPs, Admits libTINY p.shape p.value := by
    intro p hp
    simp only [exPs, List.mem_cons, List.not_mem_nil, or_false] at hp
    rcases hp with rfl | rfl | rfl | rfl | rfl <;>
      exact (margin_admits ht two_libTINY_lt_margin (by norm_num [Margin, margin])).1
  have hnd : (exPs.map (·.name)).Nodup := by simp [exPs]
  have r1 : Reach libPI libTINY { fns := [{ ps := exPs }] } :=
    Reach.step (op := .newFn exPs) Reach.empty ⟨hnd, hadm⟩ rfl
  have hfok : FnOk libTINY ({ ps := exPs } : Fn ℝ) :=
    ((r1.inv ht).fns _ (by simp))
  -- the second constructor on {p3, p1}
  let given : List (FParam ℝ) := [⟨3, Shape.oo (-1) 1, 0⟩, ⟨1, Shape.cc 0 1, 1 / 2⟩]
  have hgn : (given.map (·.name)).Nodup := by simp [given]
  have hag : ∀ q ∈ given, ∀ p, findP q.name ({ ps := exPs } : Fn ℝ).ps = some p →
      p.shape = q.shape ∧ p.value = q.value := by
    intro q hq p hp
    simp only [given, List.mem_cons, List.not_mem_nil, or_false] at hq
    rcases hq with rfl | rfl <;> simp [exPs, findP] at hp <;> subst hp <;> simp
  obtain ⟨w, v, e, hi, _, hfn, hnames⟩ := newSub_refines_init libPI libTINY ht 0 _ hfok given hgn hag
  have hstep : World.step libPI libTINY { fns := [{ ps := exPs }] } (.newSub 0 given)
      = .ok { fns := [{ ps := exPs }], ws := [w] } := by
    simp [World.step, e]
  have r2 := Reach.step (op := .newSub 0 given) r1 ⟨_, rfl, hgn, hag⟩ hstep
  refine ⟨_, w, { ps := exPs }, r2, rfl, ?_, by simp [hfn], by simp [Fn.names, exPs], ?_⟩
  · rw [hnames]; simp [given, Fn.names, exPs]
  · exact ((every_wrapper_aligned libPI libTINY ht r2) w (by simp)).1

end Bpp.C11
