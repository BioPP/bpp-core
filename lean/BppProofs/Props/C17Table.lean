import BppProofs.Lemmas.TableRT
/-!
# C17 — "a table written as delimited text reads back with identical shape, names and cells"

Model: `BppModel/Text/TableRT.lean` — `DataTable::write` (src/Bpp/Numeric/DataTable.cpp:630-658) at
the textual layer and the reader `DataTable::read` (:554-627) returning the table it builds, on top
of the UB-aware line reader / tokenizer / name and dimension checks of `TableU.lean` (C16).
A table is (`nCol`, `colNames`, `rowNames`, `rows`); `[]` = no names.

`table_roundtrip : RtWF t c → read (write t [c]) [c] = t`, for tables of any size, with the side
conditions as the decidable predicate `RtWF` (the driver evaluates it and checks the table the
implementation reads back).  Each side condition is necessary: section "witnesses".
The reader tokenises with the *non-solid* StringTokenizer: the separator string is a set of
characters there while the writer writes it as a string, hence "one character".
-/
namespace Bpp.C17
open Bpp.Text Bpp.Text.U Bpp.Text.RT

/-- **write → read = identity**: under `RtWF` (class invariant of DataTable; one-character
separator other than the newline; at least one column; items free of the separator and of newlines;
every line starts with a non-empty item and is not blank; at least two lines; row names only together
with column names) `DataTable::write` returns a text, and `DataTable::read(text, sep, header =
hasColumnNames, rowNames = -1)` returns the same column count, column names, row names and cells.
Either header alignment.  (`StrOk`: the text is a `std::string`.) -/
theorem table_roundtrip (t : Tbl) (c : Char) (alignHeaders : Bool) (hwf : RtWF t c = true) :
    ∃ text, writeTable t [c] alignHeaders = .ok text ∧
      (StrOk text → readTableFull text [c] (t.colNames.length != 0) (-1) = .ok t) := by
  simp only [RtWF, Bool.and_eq_true, Bool.or_eq_true, beq_iff_eq, bne_iff_ne, ne_eq] at hwf
  exact table_rt_auto t.nCol t.colNames t.rowNames t.rows c alignHeaders hwf.1 (fun h => hwf.2.resolve_left h)

/-- non-vacuity: a 2×2 table with both kinds of names, an empty cell and cells with blanks -/
example : RtWF ⟨2, ["A".toList, "B".toList], ["r1".toList, "r2".toList],
    [["1".toList, []], [" x".toList, "y ".toList]]⟩ ',' = true := by decide +kernel
example : writeTable ⟨2, ["A".toList, "B".toList], ["r1".toList, "r2".toList],
    [["1".toList, []], [" x".toList, "y ".toList]]⟩ [','] true = .ok ",A,B\nr1,1,\nr2, x,y \n".toList := by
  repeat rw [String.toList_ofList]
  decide +kernel

/-- row names without column names: no header line tells the reader about them, but
`read(…, header = false, rowNames = 0)` gives the table back (the clause of `RtWF` about names is not
needed then) -/
theorem table_roundtrip_rownames_only (t : Tbl) (c : Char) (alignHeaders : Bool) (hwf : RtWFcore t c = true)
    (hcol : t.colNames = []) (hrow : t.rowNames ≠ []) :
    ∃ text, writeTable t [c] alignHeaders = .ok text ∧
      (StrOk text → readTableFull text [c] false 0 = .ok t) := by
  obtain ⟨nCol, colNames, rowNames, rows⟩ := t
  subst hcol
  exact table_rt_D nCol rowNames rows c alignHeaders hrow hwf

example : RtWFcore ⟨1, [], ["r1".toList, "r2".toList], [["1".toList], ["2".toList]]⟩ '\t' = true := by decide +kernel

/-- the shape, as C16's reader `TableU.readTable` reports it, is the shape of the table read -/
theorem readTable_is_shape (text sep : Str) (header : Bool) (rowNames : Int) :
    readTable text sep header rowNames = (readTableFull text sep header rowNames).map shape := by
  have hfin : ∀ t, tblFinish rowNames t = shape <$> finishFull rowNames t := by
    intro t
    unfold tblFinish finishFull
    split
    · split
      · rfl
      · cases column t.rows rowNames.toNat with
        | error e => rfl
        | ok col =>
          simp only [bind_ok]
          split
          · rfl
          · exact congrArg (fun n => Except.ok (n, t.nCol - 1)) (List.length_map ..).symm
    · rfl
  unfold readTable
  rw [readTableG_eq]
  show _ = shape <$> readTableFull text sep header rowNames
  unfold readTableFull
  simp only [map_bind, hfin]

/-! ## witnesses: every side condition is necessary -/

/-- what comes back when the table is written and read as `table_roundtrip` does -/
def wr (t : Tbl) (sep : Str) : R Tbl := do
  let text ← writeTable t sep false
  readBack t text sep

/-- a separator inside a cell: one more column in that row -/
theorem table_witness_separator_in_cell :
    wr ⟨1, [], [], [["a,b".toList], ["c".toList]]⟩ [','] = .error .bpp := by decide +kernel

/-- a newline inside a cell: one more row -/
theorem table_witness_newline_in_cell :
    wr ⟨1, [], [], [["a\nb".toList], ["c".toList]]⟩ [','] =
      .ok ⟨1, [], [], [["a".toList], ["b".toList], ["c".toList]]⟩ := by decide +kernel

/-- an empty first item: the reader skips the leading separator, the line is one item short — in the
first line this makes it a header and the next line a named row; elsewhere the row is refused -/
theorem table_witness_empty_first_item :
    wr ⟨2, [], [], [[[], "x".toList], ["a".toList, "b".toList]]⟩ [','] =
      .ok ⟨1, ["x".toList], ["a".toList], [["b".toList]]⟩ ∧
    wr ⟨2, [], [], [["a".toList, "b".toList], ["c".toList, "d".toList], [[], "x".toList]]⟩ [','] = .error .bpp :=
  ⟨by decide +kernel, by decide +kernel⟩

/-- (an empty item elsewhere is fine) -/
example : wr ⟨2, [], [], [["x".toList, []], ["a".toList, "b".toList]]⟩ [','] =
    .ok ⟨2, [], [], [["x".toList, []], ["a".toList, "b".toList]]⟩ := by decide +kernel

/-- a blank line: the reader stops there, the rows below are lost -/
theorem table_witness_blank_line :
    wr ⟨1, [], [], [["a".toList], [" ".toList], ["b".toList], ["c".toList]]⟩ [','] =
      .ok ⟨1, [], [], [["a".toList], ["b".toList], ["c".toList]]⟩ ∧
    wr ⟨1, ["A".toList], [], [[" ".toList], ["b".toList]]⟩ [','] = .ok ⟨1, ["A".toList], [], [["b".toList]]⟩ :=
  ⟨by decide +kernel, by decide +kernel⟩

/-- fewer than two lines: the reader needs a second line to count the columns against -/
theorem table_witness_one_line :
    wr ⟨2, ["A".toList, "B".toList], [], []⟩ [','] = .error .bpp ∧
    wr ⟨2, [], [], [["a".toList, "b".toList]]⟩ [','] = .error .bpp := ⟨by decide +kernel, by decide +kernel⟩

/-- row names without column names, read with `rowNames = -1`: the names become a column -/
theorem table_witness_rownames_without_header :
    readTableFull "r1,a\nr2,b\n".toList [','] false (-1) =
      .ok ⟨2, [], [], [["r1".toList, "a".toList], ["r2".toList, "b".toList]]⟩ := by
  repeat rw [String.toList_ofList]
  decide +kernel

/-- a separator of two characters: the writer writes the string, the reader splits at each of its
characters -/
theorem table_witness_two_character_separator :
    wr ⟨2, [], [], [["a".toList, "b".toList], ["c".toList, "d".toList]]⟩ ", ".toList =
      .ok ⟨3, [], [], [["a".toList, [], "b".toList], ["c".toList, [], "d".toList]]⟩ := by decide +kernel

/-- the newline as separator -/
theorem table_witness_newline_separator :
    wr ⟨2, [], [], [["a".toList, "b".toList], ["c".toList, "d".toList]]⟩ ['\n'] =
      .ok ⟨1, [], [], [["a".toList], ["b".toList], ["c".toList], ["d".toList]]⟩ := by decide +kernel

/-- no column: nothing is written, and the empty text reads as a table of two rows without column -/
theorem table_witness_no_column :
    wr ⟨0, [], [], [[]]⟩ [','] = .ok ⟨0, [], [], [[], []]⟩ ∧
    wr ⟨0, [], [], [[], [], []]⟩ [','] = .ok ⟨0, [], [], [[], []]⟩ := ⟨by decide +kernel, by decide +kernel⟩

/-- duplicated names cannot be in a DataTable (class invariant); as text they are refused -/
theorem table_witness_duplicate_names :
    readTableFull "A,A\n1,2\n".toList [','] true (-1) = .error .bpp := by
  repeat rw [String.toList_ofList]
  decide +kernel

end Bpp.C17
