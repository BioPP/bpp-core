import BppProofs.Lemmas.AttrU
import BppProofs.Props.C17Vars
/-!
# C16 — AttributesTools: removeComments, getAttributesMap, resolveVariables

Model: `BppModel/Text/AttrU.lean` (UB-aware: `.error .ub` = undefined behaviour, `.error .std` = an
exception that is not the library's, `.error .hang` = the loop does not end, `.error .bpp` = the
library's exception).  `safe x = true` means: `x` returned or raised the library's exception.
-/
namespace Bpp.C16
open Bpp.Text Bpp.Text.U

/-! ## removeComments -/

/-- **removeComments is safe and terminates for any text and ANY pair of marks** (after the repair
"fix: AttributesTools::removeComments never returned for marks that start with one another"): marks
one of which starts with the other (an empty mark, twice the same mark) are refused with the
library's exception; for all the others the end mark is found strictly after the place where the
begin mark was found, so every round erases at least one character. -/
theorem removeComments_safe (s b e : Str) (hs : StrOk s) : safe (removeComments s b e) = true :=
  removeComments_safe_lem s b e hs

example : removeComments "a=1 # c".toList "#".toList "\n".toList = .ok "a=1 ".toList := by
  -- the literals as lists of characters: evaluating `String.toList` the kernel would decode them byte by byte
  repeat rw [String.toList_ofList]
  decide +kernel
example : removeComments "a=/*x*/1/*y*/2".toList "/*".toList "*/".toList = .ok "a=*/1*/2".toList := by
  repeat rw [String.toList_ofList]
  decide +kernel
example : removeComments "ab".toList "ab".toList "a".toList = .error .bpp := by decide +kernel
example : removeComments "ab".toList [] "a".toList = .error .bpp := by decide +kernel

/-- the result is never longer than the text -/
theorem removeComments_alloc (s b e r : Str) (h : removeComments s b e = .ok r) :
    r.length ≤ s.length :=
  removeComments_alloc_lem s b e r h

/-- **the code as found did not return** for such marks: with `begin = end = "a"` the end mark is
found where the begin mark is, nothing is erased, and the next round starts from the same place;
the same with an empty mark, or with `begin = "ab"`, `end = "a"` (first characters equal) -/
theorem removeComments_old_hangs :
    removeCommentsOld "a".toList "a".toList "a".toList = .error .hang ∧
    removeCommentsOld "\n".toList [] "\n".toList = .error .hang ∧
    removeCommentsOld "ab".toList "ab".toList "a".toList = .error .hang := by decide +kernel

/-- the cleaning of one line (three `removeComments`, then `removeWhiteSpaces`) -/
theorem cleanLine_safe (line : Str) (hs : StrOk line) : safe (cleanLine line) = true :=
  cleanLine_safe_lem line hs

/-- … and it never lengthens the line -/
theorem cleanLine_alloc (line r : Str) (h : cleanLine line = .ok r) : r.length ≤ line.length :=
  cleanLine_alloc_lem line r h

example : cleanLine "a = 1 // x".toList = .ok "a=1".toList := by
  repeat rw [String.toList_ofList]
  decide +kernel
example : cleanLine " k = /* c */ v # z".toList = .ok "k=*/v".toList := by
  repeat rw [String.toList_ofList]
  decide +kernel

/-! ## getAttributesMap after the two repairs -/

/-- **the continuation-joining loop returns** (no access out of range, whatever the sizes — no
hypothesis on the lines is needed): each round removes one continuation mark from the text still to
be read (`arg` and the lines after `i`), so `fuel` larger than that text suffices; the index does
not go back and the joined line is made of characters of `arg` and of the lines consumed. -/
theorem joinLoop_safe (argv2 : List Str) (fuel : Nat) (arg : Str) (i : Nat)
    (hf : arg.length + sumLen (argv2.drop (i + 1)) < fuel) :
    safe (joinLoop 2 argv2 fuel arg i) = true ∧
    ∀ arg' i', joinLoop 2 argv2 fuel arg i = .ok (arg', i') →
      i ≤ i' ∧
      arg'.length + sumLen (argv2.drop (i' + 1)) ≤ arg.length + sumLen (argv2.drop (i + 1)) ∧
      arg'.length ≤ arg.length + sumLen (argv2.drop (i + 1)) := by
  have hj := joinLoop_spec argv2 fuel arg i
  obtain ⟨p, hp⟩ := hj.1 hf
  refine ⟨hp ▸ rfl, fun arg' i' h => ?_⟩
  obtain ⟨h1, h2⟩ := hj.2 arg' i' h
  exact ⟨h1, h2, Nat.le_trans (Nat.le_add_right _ _) h2⟩

/-- the joined line is a `std::string` when the lines together are -/
theorem joinLoop_strOk (argv2 : List Str) (fuel i : Nat) (hi : i < argv2.length)
    (hs : sumLen argv2 ≤ maxStr) (arg' : Str) (i' : Nat)
    (h : joinLoop 2 argv2 fuel argv2[i] i = .ok (arg', i')) : StrOk arg' := by
  obtain ⟨_, h2⟩ := (joinLoop_spec argv2 fuel _ i).2 arg' i' h
  have := sumLen_drop_succ hi
  have := sumLen_drop_le argv2 i
  unfold StrOk; omega

example : joinLoop 2 ["a=\\".toList, "b\\".toList, "c".toList, "d".toList] 9 "a=\\".toList 0
    = .ok ("a=bc".toList, 2) := by decide +kernel
example : joinLoop 2 ["a=b\\".toList] 9 "a=b\\".toList 0 = .ok ("a=b".toList, 1) := by decide +kernel
example : joinLoop 2 ["\\".toList, []] 9 "\\".toList 0 = .ok ([], 1) := by decide +kernel

/-- **getAttributesMap is safe and terminates** on any lines whose total size is that of a
`std::string` (cleaning, joining and parsing; any delimiter, the empty one included) -/
theorem getAttributesMap_safe (argv : List Str) (delim : Str) (hs : sumLen argv ≤ maxStr) :
    safe (getAttributesMap argv delim) = true :=
  getAttributesMapG_safe argv delim hs

example : getAttributesMap ["a = 1 # one".toList, "b = x\\".toList, "y // two".toList, [], "c".toList]
    "=".toList = .ok [("a".toList, "1".toList), ("b".toList, "xy".toList)] := by
  repeat rw [String.toList_ofList]
  decide +kernel
example : getAttributesMap ["a=b\\".toList] "=".toList = .ok [("a".toList, "b".toList)] := by decide +kernel
example : getAttributesMap ["\\".toList, []] "=".toList = .ok [] := by decide +kernel

/-- the map holds no more characters than the lines read.  Without `hs` this is not provable: the two
`range` calls of the model go through `toPtrdiff` / `wadd`, which wrap on texts longer than 2^63
characters (longer than any `std::string`), and then `name` and `value` may overlap. -/
theorem getAttributesMap_alloc_partial (argv : List Str) (delim : Str) (m : Keyval.Map)
    (hs : sumLen argv ≤ maxStr) (h : getAttributesMap argv delim = .ok m) :
    sumLen (m.map (·.1)) + sumLen (m.map (·.2)) ≤ sumLen argv :=
  getAttributesMapG_alloc argv delim m hs h

/-! ## getAttributesMap: the code as found -/

/-- a last line ending with the continuation mark: `argv[i + 1]` is read past the end -/
theorem attributes_old_ub_last_line :
    getAttributesMapOld ["a=b\\".toList] "=".toList = .error .ub := by decide +kernel

/-- a continuation mark alone followed by an empty line: the joined line is empty and
`arg[arg.size() - 1]` is `arg[npos]` -/
theorem attributes_old_ub_empty_join :
    getAttributesMapOld ["\\".toList, []] "=".toList = .error .ub := by decide +kernel

/-! ## resolveVariables -/

/-- **resolveVariables has no undefined behaviour and raises no `std::out_of_range`**, whatever the
three mark characters, the map and the number of rounds allowed: every `substr` is within bounds -/
theorem resolve_no_ub (code beg en : Char) (fuel : Nat) (am : Keyval.Map) :
    resolveVariablesU code beg en fuel am ≠ .error .ub ∧
    resolveVariablesU code beg en fuel am ≠ .error .std := by
  constructor <;> intro h <;>
    rcases resolveKeysU_err code beg en fuel _ _ _ h with h' | h' <;> cases h'

example : resolveVariablesU '$' '(' ')' 5 [("a".toList, "x$(b)".toList), ("b".toList, "1".toList)]
    = .ok [("a".toList, "x1".toList), ("b".toList, "1".toList)] := by decide +kernel
example : resolveVariablesU '%' '[' ']' 5 [("a".toList, "x%[b".toList)] = .error .bpp := by decide +kernel

/-! ### resolveVariables with the default marks and C17's functional model

The statement "`resolveVariablesU '$' '(' ')' fuel am` is `Vars.resolveVariables fuel am` with the
outcomes renamed" is FALSE, for two reasons.
* The two models do not count the same thing: `Vars.resolveOne` tests its fuel after `find` (fuel =
  substitutions allowed), `resolveOneU` before (fuel = evaluations of the `while` test allowed).
  `refines_same_fuel_false` below is the witness.  With `fuel + 1` rounds on one side and `fuel`
  substitutions on the other the models agree (`resolveU_refines_partial`).
* The `size_t` arithmetic of the UB-aware model (`wadd index1 2`, `wsub (wsub index2 index1) 2`,
  `wadd index2 1`) is the plain one only on values shorter than 2^64 characters.  A `std::string`
  is shorter (`StrOk`), but a `Str` of the model need not be, and the values grow by substitution:
  the hypothesis `runOk fuel am` says that every value to which the run applies a substitution is
  a `std::string` (decidable; for a map on which the C17 model returns, one check gives it for
  every fuel: `runOk_all`). -/

theorem refines_same_fuel_false :
    resolveVariablesU '$' '(' ')' 1 [("a".toList, "$(b)".toList)] = .error .hang ∧
    Vars.resolveVariables 1 [("a".toList, "$(b)".toList)] = .ok [("a".toList, [])] := by decide +kernel

/-- the refinement with the same fuel on both sides and no hypothesis does not hold -/
theorem resolveU_refines_false :
    ¬ ∀ (fuel : Nat) (am : Keyval.Map), resolveVariablesU '$' '(' ')' fuel am =
      (match Vars.resolveVariables fuel am with
        | .ok m => .ok m
        | .exc => .error .bpp
        | .diverge => .error .hang) := by
  intro h
  have := h 1 [("a".toList, "$(b)".toList)]
  revert this
  decide

/-- **the UB-aware model with the default marks is C17's functional model** (the strongest variant
that holds): when C17's model returns or raises with `fuel` substitutions, the UB-aware
one does the same with `fuel + 1` rounds; when C17's model runs out of fuel, so does the UB-aware
one. -/
theorem resolveU_refines_partial (fuel : Nat) (am : Keyval.Map) (hs : runOk fuel am = true) :
    match Vars.resolveVariables fuel am with
    | .ok m => resolveVariablesU '$' '(' ')' (fuel + 1) am = .ok m
    | .exc => resolveVariablesU '$' '(' ')' (fuel + 1) am = .error .bpp
    | .diverge => resolveVariablesU '$' '(' ')' fuel am = .error .hang := by
  have hs' : keysOk fuel (am.map (fun kv => kv.1)) am = true := hs
  obtain ⟨h1, h2, h3⟩ := keys_sim fuel _ am hs'
  unfold Vars.resolveVariables resolveVariablesU
  cases h : Vars.resolveKeys fuel (am.map (fun kv => kv.1)) am with
  | ok m => exact (h1 m h).1
  | exc => exact h2 h
  | diverge => exact h3 h

/-- an outcome other than `hang` does not depend on the number of rounds allowed (any marks) -/
theorem resolveU_stable (code beg en : Char) (am : Keyval.Map) (n n' : Nat) (hn : n ≤ n')
    (h : resolveVariablesU code beg en n am ≠ .error .hang) :
    resolveVariablesU code beg en n' am = resolveVariablesU code beg en n am :=
  resolveVariablesU_mono code beg en am n h n' hn

/-- the converse: what the UB-aware model returns or raises, C17's model does with the same fuel -/
theorem resolveU_refines_conv (fuel : Nat) (am : Keyval.Map) (hs : runOk fuel am = true) :
    (∀ m, resolveVariablesU '$' '(' ')' fuel am = .ok m → Vars.resolveVariables fuel am = .ok m) ∧
    (resolveVariablesU '$' '(' ')' fuel am = .error .bpp → Vars.resolveVariables fuel am = .exc) := by
  have key := resolveU_refines_partial fuel am hs
  constructor
  · intro m hm
    have hst := resolveU_stable '$' '(' ')' am fuel (fuel + 1) (by omega) (by rw [hm]; intro h; cases h)
    rw [hm] at hst
    cases h : Vars.resolveVariables fuel am with
    | ok m' => rw [h] at key; simp only [] at key; rw [key] at hst; cases hst; rfl
    | exc => rw [h] at key; simp only [] at key; rw [key] at hst; cases hst
    | diverge => rw [h] at key; simp only [] at key; rw [key] at hm; cases hm
  · intro hm
    have hst := resolveU_stable '$' '(' ')' am fuel (fuel + 1) (by omega) (by rw [hm]; intro h; cases h)
    rw [hm] at hst
    cases h : Vars.resolveVariables fuel am with
    | ok m' => rw [h] at key; simp only [] at key; rw [key] at hst; cases hst
    | exc => rfl
    | diverge => rw [h] at key; simp only [] at key; rw [key] at hm; cases hm

example : runOk 5 [("a".toList, "x$(b)".toList), ("b".toList, "$(c)$(c)".toList), ("c".toList, "1".toList)]
    = true := by
  repeat rw [String.toList_ofList]
  decide +kernel
example : resolveVariablesU '$' '(' ')' 4 [("a".toList, "x$(b)".toList), ("b".toList, "$(c)$(c)".toList),
    ("c".toList, "1".toList)]
    = .ok [("a".toList, "x11".toList), ("b".toList, "11".toList), ("c".toList, "1".toList)] := by
  repeat rw [String.toList_ofList]
  decide +kernel

/-- **the known finding** (C17-resolvevariables-cyclic-nontermination) in the UB-aware model:
`a=$(b), b=$(b)$(b)` — whatever the number of rounds allowed the loop does not end, the value of `a`
alternates between `$(b)` and `$(b)$(b)` -/
theorem resolve_hangs_witness (fuel : Nat) :
    resolveVariablesU '$' '(' ')' fuel
      [("a".toList, "$(b)".toList), ("b".toList, "$(b)$(b)".toList)] = .error .hang := by
  have e : [("a".toList, "$(b)".toList), ("b".toList, "$(b)$(b)".toList)] = cyclicMap := by decide +kernel
  rw [e]
  exact cyclic_resolve_hangs fuel

/-- **why the code has no bounded-expansion guard.**  A guard "raise after
more than `c(|map|)` substitutions in one entry" changes no terminating run only if `c` is above
what every acyclic map needs.  That need is exponential in the number of entries: the five acyclic
definitions `z0=$(z1)$(z1), z1=$(z2)$(z2), z2=$(z3)$(z3), z3=$(z4)$(z4), z4=` make the loop of
`z0` substitute 30 = 2^5 - 2 times (31 rounds of the model's loop, the last one finds no
variable) while no value ever exceeds 20 characters — with `n` entries `2^n - 2` times.  A cap
polynomial in the size of the map (or any cap on the value length: the oscillating witness above
never grows) would refuse such terminating runs, and a cap of `2^|map|` is no guard in practice.
Telling the cyclic definitions apart needs the set of variables under expansion, i.e. the real
cycle detection that was judged too costly. -/
theorem resolve_acyclic_needs_exponential_rounds :
    let m : Keyval.Map := [("z0".toList, "$(z1)$(z1)".toList), ("z1".toList, "$(z2)$(z2)".toList),
      ("z2".toList, "$(z3)$(z3)".toList), ("z3".toList, "$(z4)$(z4)".toList), ("z4".toList, [])]
    resolveVariablesU '$' '(' ')' 30 m = .error .hang ∧
    resolveVariablesU '$' '(' ')' 31 m =
      .ok [("z0".toList, []), ("z1".toList, []), ("z2".toList, []), ("z3".toList, []), ("z4".toList, [])] := by
  repeat rw [String.toList_ofList]
  decide +kernel

/-- **the allocation of resolveVariables is exponential in the number of definitions** (known finding
`C16-resolvevariables-exponential-allocation`).  There is NO `resolveVariables_alloc`
theorem with a polynomial bound, and none can exist: the acyclic definitions
`v00=x, v01=$(v00)$(v00), …, v10=$(v09)$(v09)` (11 entries, values of 121 characters in all) resolve — in the
favourable order, two substitutions per entry — to a value of 2^10 = 1024 characters for `v10`;
with 31 entries the value has 2^31 characters and the implementation ends in `std::bad_alloc`.
The true bound (the value of an entry is at most `L * w^n` characters for `n` entries holding at
most `w` references and `L` other characters each) is NOT proved here. -/
theorem resolve_alloc_doubling_witness :
    let chain : Keyval.Map := ("v00".toList, "x".toList) ::
      (List.range 10).map (fun i =>
        let k (j : Nat) : Str := 'v' :: Number.natDigits (j / 10) ++ Number.natDigits (j % 10)
        (k (i + 1), "$(".toList ++ k i ++ ")$(".toList ++ k i ++ ")".toList))
    (chain.map (fun kv => kv.2.length)).sum = 121 ∧
    (resolveVariablesU '$' '(' ')' 3 chain).map (fun m => m.map (fun kv => kv.2.length)) =
      .ok [1, 2, 4, 8, 16, 32, 64, 128, 256, 512, 1024] := by
  decide +kernel

/- The full-strength termination statement
     `∀ am, ∃ F, ∀ fuel, F ≤ fuel → resolveVariablesU '$' '(' ')' fuel am ≠ .error .hang`
   is FALSE: `resolve_hangs_witness` refutes it (`resolve_termination_false` below). -/
theorem resolve_termination_false :
    ¬ ∀ am : Keyval.Map, ∃ F, ∀ fuel, F ≤ fuel → resolveVariablesU '$' '(' ')' fuel am ≠ .error .hang := by
  intro h
  obtain ⟨F, hF⟩ := h [("a".toList, "$(b)".toList), ("b".toList, "$(b)$(b)".toList)]
  exact hF F (Nat.le_refl _) (resolve_hangs_witness F)

/-- **acyclic definitions ⇒ the loop terminates and reaches the full expansion**, in the UB-aware
model (from `Bpp.C17.resolve_fixed_point`).  `hs`: no string longer than a `std::string` is built on
the way. -/
theorem resolve_terminates_partial (env : Vars.SEnv) (h : Vars.AcyclicOk env = true)
    (hs : ∀ fuel, runOk fuel (Vars.renderEnv env) = true) :
    ∃ F, ∀ fuel, F ≤ fuel →
      resolveVariablesU '$' '(' ')' fuel (Vars.renderEnv env) = .ok (Vars.resolved env) := by
  obtain ⟨F, hF⟩ := Bpp.C17.resolve_fixed_point env h
  refine ⟨F + 1, fun fuel hfuel => ?_⟩
  obtain ⟨f, rfl⟩ : ∃ f, fuel = f + 1 := ⟨fuel - 1, by omega⟩
  have key := resolveU_refines_partial f _ (hs f)
  rw [hF f (by omega)] at key
  exact key

/-- the same without reference to acyclicity: one returning run of C17's model on which every
string is a `std::string` is enough -/
theorem resolveU_of_converged (F : Nat) (am m : Keyval.Map) (h : Vars.resolveVariables F am = .ok m)
    (hs : runOk F am = true) :
    ∀ fuel, F + 1 ≤ fuel → resolveVariablesU '$' '(' ')' fuel am = .ok m := by
  intro fuel hfuel
  have key := resolveU_refines_partial F am hs
  rw [h] at key
  simp only [] at key
  rw [resolveU_stable '$' '(' ')' am (F + 1) fuel hfuel (by rw [key]; intro h; cases h), key]

/-- non-vacuity of `resolve_terminates_partial`: definitions in the "wrong" order, two levels -/
example : ∃ F, ∀ fuel, F ≤ fuel →
    resolveVariablesU '$' '(' ')' fuel
      (Vars.renderEnv [(['a'], [.lit ['x'], .ref ['b']]), (['b'], [.ref ['c'], .ref ['u']]), (['c'], [.lit ['1']])])
    = .ok [(['a'], ['x', '1']), (['b'], ['1']), (['c'], ['1'])] :=
  resolve_terminates_partial _ (by decide)
    (runOk_all 4 _ [(['a'], ['x', '1']), (['b'], ['1']), (['c'], ['1'])] (by decide) (by decide))

end Bpp.C16
