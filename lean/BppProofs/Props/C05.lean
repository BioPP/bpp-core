import BppProofs.Lemmas.LUSolve
/-!
# C05 — LU decomposition: solve, inverse, determinant
(`src/Bpp/Numeric/Matrix/LUDecomposition.h`, `MatrixTools::inv`, `MatrixTools::det`)

The property theorems, with the witnesses `A1`, `B1` that `Props/C05Storage.lean` reuses; helper lemmas are in
`Lemmas/LU.lean`, `LURound.lean`, `LUSolve.lean`.  All statements are about the
model `Bpp.LU` instantiated at `ℝ` (exact arithmetic: rounding is not modelled), for every size.
`toMatrix` reads a model matrix as a Mathlib `Matrix (Fin m) (Fin n) ℝ`; `matMul`, `permuteRows`,
`UnitLower`, `Upper`, `PivInjective` are the executable definitions of `BppModel/LU.lean` that the
driver evaluates on the implementation's answers.
-/
namespace Bpp.C05
open Bpp Bpp.LU

/-! ## the constructor -/

/-- the constructor has defined behaviour exactly for matrices with at least as many rows as
columns (for `m < n` it reads `LU(m,m)`) -/
theorem construct_defined_iff {m n : Nat} (A : Mat ℝ m n) :
    (∃ s, construct A = .ok s) ↔ n ≤ m := by
  constructor
  · rintro ⟨s, hs⟩
    exact (construct_eq_ok hs).1
  · intro h; exact ⟨factor h A, by unfold construct; rw [dif_pos h]⟩

theorem construct_square {n : Nat} (A : Mat ℝ n n) : construct A = .ok (factor (Nat.le_refl n) A) := by
  unfold construct; rw [dif_pos (Nat.le_refl n)]

/-- `getL` is unit lower triangular, whatever the state -/
theorem getL_unitLower {m n : Nat} (s : State ℝ m n) : UnitLower (getL s) := by
  intro i j
  simp only [getL, Mat.get_ofFn]
  constructor
  · intro h; simp [h]
  · intro h
    have h1 : ¬ j.val < i.val := by omega
    have h2 : ¬ i.val = j.val := by omega
    simp [h1, h2]

/-- `getU` is upper triangular, whatever the state -/
theorem getU_upper {m n : Nat} (h : n ≤ m) (s : State ℝ m n) : Upper (getU h s) := by
  intro i j hji
  simp only [getU, Mat.get_ofFn]
  rw [if_neg (by omega)]

/-- the pivot vector is a permutation of the row numbers -/
theorem piv_is_permutation {m n : Nat} (h : n ≤ m) (A : Mat ℝ m n) :
    ∃ σ : Equiv.Perm (Fin m), ∀ i : Fin m, (factor h A).piv[i.val]'i.isLt = σ i := by
  obtain ⟨σ, h1, _⟩ := permInv_factor h A
  exact ⟨σ, h1⟩

theorem piv_injective {m n : Nat} (h : n ≤ m) (A : Mat ℝ m n) : PivInjective (factor h A).piv := by
  obtain ⟨σ, h1⟩ := piv_is_permutation h A
  intro i j hij
  rw [h1 i, h1 j] at hij
  exact σ.injective hij

/-- **P·A = L·U**: for every `m × n` matrix with `n ≤ m` (in particular every square matrix) the
rows of `A` taken in the order of the pivot vector equal the product of the accessors' `L` and `U`;
`L` is unit lower triangular, `U` upper triangular, the pivot vector has no repetition.  Includes the
iterations skipped because of a zero pivot. -/
theorem lu_factor {m n : Nat} (h : n ≤ m) (A : Mat ℝ m n) :
    permuteRows (factor h A).piv A = matMul (getL (factor h A)) (getU h (factor h A)) ∧
    UnitLower (getL (factor h A)) ∧ Upper (getU h (factor h A)) ∧ PivInjective (factor h A).piv :=
  ⟨Mat.ext (factor_entries h A), getL_unitLower _, getU_upper h _, piv_injective h A⟩

/-- the same as an equation between Mathlib matrices: `P = (permutation matrix of σ)`, i.e.
`A.submatrix σ id = L * U` where `σ i = piv[i]` -/
theorem lu_factor_matrix {m n : Nat} (h : n ≤ m) (A : Mat ℝ m n) (σ : Equiv.Perm (Fin m))
    (hσ : ∀ i : Fin m, (factor h A).piv[i.val]'i.isLt = σ i) :
    (toMatrix A).submatrix σ id = toMatrix (getL (factor h A)) * toMatrix (getU h (factor h A)) :=
  (factor_matrix h A σ hσ).2

/-- the sign kept by the constructor is the sign of the row permutation -/
theorem pivsign_eq_sign {m n : Nat} (h : n ≤ m) (A : Mat ℝ m n) (σ : Equiv.Perm (Fin m))
    (hσ : ∀ i : Fin m, (factor h A).piv[i.val]'i.isLt = σ i) :
    (factor h A).pivsign = ((Equiv.Perm.sign σ : ℤˣ) : ℤ) :=
  (factor_matrix h A σ hσ).1

/-- ... and equals the executable sign `pivSignOf` (product over position pairs of `±1`) that the
driver evaluates on the implementation's pivot vector -/
theorem pivsign_eq_pivSignOf {m n : Nat} (h : n ≤ m) (A : Mat ℝ m n) :
    (factor h A).pivsign = pivSignOf (factor h A).piv := by
  obtain ⟨σ, h1, h2⟩ := permInv_factor h A
  rw [h2, pivSignOf_eq_sign _ σ h1]

/-- pivot search (`LUDecomposition.h:185-192`): the chosen row is at or below the diagonal, carries
the largest magnitude of the column from the diagonal down, and is the first such row (strict `>`) -/
theorem pivot_search_spec {m n : Nat} (W : Mat ℝ m n) (k : Fin n) (kr : Fin m) :
    kr.val ≤ (findPivot W k kr).val ∧
    (∀ i : Fin m, kr.val ≤ i.val → |W.get i k| ≤ |W.get (findPivot W k kr) k|) ∧
    (∀ i : Fin m, kr.val ≤ i.val → i.val < (findPivot W k kr).val → |W.get i k| < |W.get (findPivot W k kr) k|) :=
  findPivot_spec W k kr

/-- partial pivoting: every stored multiplier (entry of `L` below the diagonal) has magnitude `≤ 1` -/
theorem multipliers_le_one {m n : Nat} (h : n ≤ m) (A : Mat ℝ m n) (i : Fin m) (j : Fin n) :
    |(getL (factor h A)).get i j| ≤ 1 := by
  simp only [getL, Mat.get_ofFn]
  by_cases h1 : j.val < i.val
  · rw [if_pos h1]; exact multInv_factor h A i j j.isLt h1
  · rw [if_neg h1]
    by_cases h2 : i.val = j.val
    · rw [if_pos h2]; simp
    · rw [if_neg h2]; simp

/-! ## determinant -/

/-- the object's `det()` of a square matrix is its determinant -/
theorem det_eq {n : Nat} (A : Mat ℝ n n) (s : State ℝ n n) (hc : construct A = .ok s) :
    det s = (toMatrix A).det := by
  obtain ⟨_, rfl⟩ := construct_eq_ok hc
  exact det_factor A

/-- `MatrixTools::det` returns the determinant of every square matrix -/
theorem matDet_eq {n : Nat} (A : Mat ℝ n n) : matDet A = .ok (toMatrix A).det := by
  rw [matDet_square, det_factor]

/-- `det()` of a non-square decomposition is `0` and `MatrixTools::det` refuses non-square input -/
theorem det_nonsquare {m n : Nat} (hmn : m ≠ n) (A : Mat ℝ m n) (s : State ℝ m n) :
    det s = 0 ∧ matDet A = .error .dimension := by
  constructor
  · unfold det; rw [dif_neg (fun e => hmn e.symm)]; simp
  · unfold matDet; rw [if_pos hmn]

theorem toMatrix_transpose {m n : Nat} (A : Mat ℝ m n) : toMatrix (transpose A) = (toMatrix A).transpose := by
  ext i j; simp [transpose]

/-- `det(Aᵀ) = det(A)` for the code's determinant -/
theorem det_transpose {n : Nat} (A : Mat ℝ n n) : matDet (transpose A) = matDet A := by
  rw [matDet_eq, matDet_eq, toMatrix_transpose, Matrix.det_transpose]

/-- `det(A·B) = det(A)·det(B)` for the code's determinant -/
theorem det_mul {n : Nat} (A B : Mat ℝ n n) (a b : ℝ) (ha : matDet A = .ok a) (hb : matDet B = .ok b) :
    matDet (matMul A B) = .ok (a * b) := by
  rw [matDet_eq] at ha hb
  injection ha with ha; injection hb with hb
  rw [matDet_eq, toMatrix_matMul, Matrix.det_mul, ha, hb]

/-! ## solve -/

/-- **A·X = B** whenever `solve` returns (exact arithmetic) -/
theorem solve_spec {n nx : Nat} (A : Mat ℝ n n) (s : State ℝ n n) (hc : construct A = .ok s)
    (B : Mat ℝ n nx) (d : ℝ) (X : Mat ℝ n nx) (hs : solve s B = .ok (d, X)) : matMul A X = B := by
  obtain ⟨_, rfl⟩ := construct_eq_ok hc
  exact (solve_ok A B d X hs).1

/-- the returned indicator is the smallest pivot magnitude `min_i |U(i,i)|` -/
theorem indicator_spec {n nx : Nat} (A : Mat ℝ n n) (s : State ℝ n n) (hc : construct A = .ok s)
    (B : Mat ℝ n nx) (d : ℝ) (X : Mat ℝ n nx) (hs : solve s B = .ok (d, X)) :
    (∀ i : Fin n, d ≤ |(getU (Nat.le_refl n) s).get i i|) ∧ ∃ i : Fin n, d = |(getU (Nat.le_refl n) s).get i i| := by
  obtain ⟨_, rfl⟩ := construct_eq_ok hc
  simp only [getU_diag]
  exact ⟨(solve_ok A B d X hs).2.2.1, (solve_ok A B d X hs).2.2.2.1⟩

/-- when `solve` returns, the matrix is invertible (its determinant is the non-zero product of the
pivots up to sign) and the returned `X` is *the* solution: any `Y` with `A·Y = B` equals `X` -/
theorem solve_unique {n nx : Nat} (A : Mat ℝ n n) (s : State ℝ n n) (hc : construct A = .ok s)
    (B : Mat ℝ n nx) (d : ℝ) (X : Mat ℝ n nx) (hs : solve s B = .ok (d, X)) :
    (toMatrix A).det ≠ 0 ∧ ∀ Y : Mat ℝ n nx, matMul A Y = B → Y = X := by
  obtain ⟨_, rfl⟩ := construct_eq_ok hc
  obtain ⟨hAX, hdet, _⟩ := solve_ok A B d X hs
  refine ⟨hdet, fun Y hY => toMatrix_inj ?_⟩
  have h1 := congrArg toMatrix (hY.trans hAX.symm)
  rw [toMatrix_matMul, toMatrix_matMul] at h1
  have := Matrix.invertibleOfIsUnitDet _ (isUnit_iff_ne_zero.mpr hdet)
  exact Matrix.mul_right_injective_of_invertible _ h1

/-- **which number the threshold is.**  At the reals `threshold` is the rational
`Generated.thresholdNum / Generated.thresholdDen` that `tools/gen_lu_constants.py` re-extracts on
every run: the *exact value of the double* denoted by the literal of `NumConstants::SMALL()`
(`1e-6` ↦ `4722366482869645 / 2^72`, slightly below `10⁻⁶`), not the decimal value of the literal.
The translator asserts that `num / den` is exact in binary64 and the driver checks on every `solve`
that the `Float` instantiation's threshold has this very value (`FAIL:threshold_value`), so
`singular_raises` / `solve_returns` / `solve_outcome` speak about the number the C++ compares
with.  The threshold is absolute (not scaled by `‖A‖`) and positive. -/
theorem threshold_value :
    (threshold : ℝ) = (Generated.thresholdNum : ℝ) / (Generated.thresholdDen : ℝ) ∧ (0 : ℝ) < threshold := by
  refine ⟨?_, threshold_pos⟩
  unfold threshold
  simp [ScalarReal.ofRat_eq]

/-- a pivot below the threshold makes `solve` raise `ZeroDivisionException` (never an answer),
whatever the right-hand side of the right height -/
theorem singular_raises {n nx : Nat} (s : State ℝ n n) (B : Mat ℝ n nx)
    (hsing : ∃ i : Fin n, |s.lu.get i i| < threshold) : solve s B = .error .zeroDivision := by
  obtain ⟨i, hi⟩ := hsing
  rw [solve_square s B i.pos, if_pos (belowThreshold_of_lt (lt_of_le_of_lt ((minDiag_spec s i.pos).1 i) hi))]

/-- conversely, with all pivots at or above the threshold (strictly above: the guard may be
`<` or `<=`, `Generated.thresholdStrict` in `BppModel/LU.lean`) and at least one right-hand-side column, `solve` returns -/
theorem solve_returns {n nx : Nat} (s : State ℝ n n) (B : Mat ℝ n nx) (hn : 0 < n) (hnx : 0 < nx)
    (hreg : ∀ i : Fin n, threshold < |s.lu.get i i|) : ∃ d X, solve s B = .ok (d, X) := by
  obtain ⟨i, hi⟩ := (minDiag_spec s hn).2
  rw [solve_square s B hn, not_belowThreshold_of_gt (hi ▸ hreg i), if_neg Bool.false_ne_true, if_pos hnx]
  exact ⟨_, _, rfl⟩

/-- "never a silently wrong answer": on a square decomposition with a right-hand side of the
right height and at least one column, `solve` either raises `ZeroDivisionException` (exactly when
the smallest pivot magnitude fails the guard) or returns — nothing else -/
theorem solve_outcome {n nx : Nat} (s : State ℝ n n) (B : Mat ℝ n nx) (hn : 0 < n) (hnx : 0 < nx) :
    (belowThreshold (minDiag s rfl hn) = true ∧ solve s B = .error .zeroDivision) ∨
    (belowThreshold (minDiag s rfl hn) = false ∧ ∃ X, solve s B = .ok (minDiag s rfl hn, X)) := by
  rw [solve_square s B hn]
  by_cases hb : belowThreshold (minDiag s rfl hn) = true
  · left; rw [if_pos hb]; exact ⟨hb, rfl⟩
  · right; rw [if_neg hb, if_pos hnx]
    exact ⟨by simpa using hb, _, rfl⟩

/-- a right-hand side of the wrong height is refused (`BadIntegerException`) before anything else -/
theorem wrong_height_raises {m n mb nx : Nat} (s : State ℝ m n) (B : Mat ℝ mb nx) (h : mb ≠ m) :
    solve s B = .error .badInteger := by
  unfold solve; rw [dif_neg h]

/-! ## the `std::vector` overload of `solve` (after the `fix:` commit that makes it compile) -/

/-- **A·x = b** whenever the vector `solve` returns, and the indicator is the smallest pivot magnitude -/
theorem solveVec_spec {n : Nat} (A : Mat ℝ n n) (s : State ℝ n n) (hc : construct A = .ok s)
    (b : Vector ℝ n) (d : ℝ) (x : Vector ℝ n) (hs : solveVec s b = .ok (d, x)) :
    matMul A (colMat x) = colMat b ∧
    (∀ i : Fin n, d ≤ |(getU (Nat.le_refl n) s).get i i|) ∧ ∃ i : Fin n, d = |(getU (Nat.le_refl n) s).get i i| := by
  have h1 := solveVec_as_solve s b d x hs
  exact ⟨solve_spec A s hc _ d _ h1, indicator_spec A s hc _ d _ h1⟩

theorem solveVec_singular_raises {n : Nat} (s : State ℝ n n) (b : Vector ℝ n)
    (hsing : ∃ i : Fin n, |s.lu.get i i| < threshold) : solveVec s b = .error .zeroDivision := by
  obtain ⟨i, hi⟩ := hsing
  rw [solveVec_square s b i.pos, if_pos (belowThreshold_of_lt (lt_of_le_of_lt ((minDiag_spec s i.pos).1 i) hi))]

theorem solveVec_wrong_length_raises {m n mb : Nat} (s : State ℝ m n) (b : Vector ℝ mb) (h : mb ≠ m) :
    solveVec s b = .error .badInteger := by
  unfold solveVec; rw [dif_neg h]

/-! ## inverse -/

/-- **A·inv(A) = I** whenever `MatrixTools::inv` returns; the indicator is the smallest pivot -/
theorem inv_spec {n : Nat} (A : Mat ℝ n n) (d : ℝ) (O : Mat ℝ n n) (hi : inv A = .ok (d, O)) :
    matMul A O = identity n ∧ toMatrix A * toMatrix O = 1 ∧ toMatrix O * toMatrix A = 1 := by
  rw [inv_square] at hi
  have h1 := (solve_ok A (identity n) d O hi).1
  have h2 : toMatrix A * toMatrix O = 1 := by
    rw [← toMatrix_matMul, h1]
    ext i j
    simp [identity, Matrix.one_apply, Fin.ext_iff]
  exact ⟨h1, h2, mul_eq_one_comm.mp h2⟩

/-- `MatrixTools::inv` refuses non-square input -/
theorem inv_nonsquare_raises {m n : Nat} (hmn : m ≠ n) (A : Mat ℝ m n) : inv A = .error .dimension := by
  unfold inv; rw [if_pos hmn]

/-! ## non-vacuity: the hypotheses of the theorems above are satisfiable -/
section NonVacuity

/-- the 1×1 matrix `[2]` -/
def A1 : Mat ℝ 1 1 := Mat.ofFn fun _ _ => 2
def B1 : Mat ℝ 1 2 := Mat.ofFn fun _ j => if j.val = 0 then 4 else 6

theorem A1_pivot (i : Fin 1) : (factor (Nat.le_refl 1) A1).lu.get i i = 2 := by
  have : i = 0 := Subsingleton.elim _ _
  subst this
  simp [factor, Fin.foldl_succ, step, findPivot, exchange, eliminate, init, A1]

example : ∃ s, construct A1 = .ok s := ⟨_, construct_square A1⟩

/-- `solve` returns on a regular system (so `solve_spec`, `indicator_spec` are not vacuous) -/
example : ∃ d X, solve (factor (Nat.le_refl 1) A1) B1 = .ok (d, X) := by
  apply solve_returns _ _ (by decide) (by decide)
  intro i
  rw [A1_pivot i, abs_two]
  exact threshold_lt_one.trans one_lt_two

/-- `inv` returns on a regular matrix -/
example : ∃ d O, inv A1 = .ok (d, O) := by
  rw [inv_square]
  apply solve_returns _ _ (by decide) (by decide)
  intro i
  rw [A1_pivot i, abs_two]
  exact threshold_lt_one.trans one_lt_two

/-- a singular matrix exists on which `singular_raises` applies: the 1×1 zero matrix -/
example : solve (factor (Nat.le_refl 1) (Mat.ofFn fun _ _ => (0 : ℝ))) B1 = .error .zeroDivision := by
  apply singular_raises
  refine ⟨0, ?_⟩
  have : (factor (Nat.le_refl 1) (Mat.ofFn fun _ _ => (0 : ℝ))).lu.get 0 0 = 0 := by
    simp [factor, Fin.foldl_succ, step, findPivot, exchange, eliminate, init]
  rw [this, abs_zero]
  exact threshold_pos

end NonVacuity

end Bpp.C05
