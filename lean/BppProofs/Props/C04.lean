import BppProofs.Lemmas.MatrixMisc
/-!
# C04 — matrix operations match their definitions for every shape and storage layout
(`src/Bpp/Numeric/Matrix/Matrix.h`, `src/Bpp/Numeric/Matrix/MatrixTools.h`)

Property theorems only; helper lemmas are in `Lemmas/Matrix*.lean`.  All statements are about the
model `Bpp.Mx` (`BppModel/Matrix.lean`) instantiated at `ℝ` (exact arithmetic: rounding is not
modelled), for **every** shape — `0 × 0`, `1 × n`, `n × 1`, non-square, no bound on the size — and
for **every** storage class of every operand and of the output: `A B O : Store ℝ` range over the
three classes (`Store.row`, `Store.col`, `Store.lin`), constrained only by the class invariant
`Store.WF` (all inner vectors of equal length / flat vector of `rows*cols` elements).

Vocabulary
* `S.Holds r c f` (`BppModel/Matrix.lean`): `S` is well formed, reports the dimensions its class
  reports for an `r × c` matrix (`Kind.shape`: a vector-of-rows matrix without rows has no columns)
  and `S(i,j)` returns `f i j` for all `i < r`, `j < c`.
* `A.entry i j`: the entry `A(i,j)` (`get_eq_entry`: what `get` returns for `i < nrows`, `j < ncols`).
* `Spec.*`: the executable textbook definitions that the driver evaluates in `Rat` on the
  implementation's answers; `sumTo_eq_sum`, `mult_toMat`, … identify them with Mathlib's
  `Finset.sum` and `Matrix` operations.
Every `…_spec` theorem asserts a normal return (`= .ok O'`), hence in particular the absence of any
out-of-range access (`Err.ub`) for these operands; `no_oob_*` spell that out for all operands,
conformable or not, for nine routines (for the others it is the disjunction of `…_spec` and
`…_nonconformable_raises`, whose hypotheses are complementary).  No theorem covers `covar` without rows
or columns, the extremum search on an empty matrix, and the second and third `kroneckerMult` with
`check = false`.
-/
namespace Bpp.C04
open Bpp Bpp.Mx Bpp.Mx.Store

/-! ## the three storage classes behave alike (`Matrix.h:92, 200, 318`) -/

/-- reading inside the reported dimensions is defined, for each class -/
theorem get_in_range {S : Store ℝ} (hw : S.WF) {i j : Nat} (hi : i < S.nrows) (hj : j < S.ncols) :
    S.get i j = .ok (S.entry i j) := get_eq_entry hw hi hj

/-- `M(i,j) = x` inside the reported dimensions, for each class: defined, keeps the class, the
dimensions and the invariant, is read back, and leaves every other entry alone -/
theorem get_set_law {S : Store ℝ} (hw : S.WF) {i j : Nat} (hi : i < S.nrows) (hj : j < S.ncols) (x : ℝ) :
    ∃ S', S.set i j x = .ok S' ∧ S'.WF ∧ S'.kind = S.kind ∧ S'.nrows = S.nrows ∧ S'.ncols = S.ncols ∧
      S'.get i j = .ok x ∧
      ∀ p q, p < S.nrows → q < S.ncols → (p ≠ i ∨ q ≠ j) → S'.get p q = S.get p q :=
  set_spec hw hi hj x

/-- `resize(r, c)`, for each class: the result is well formed, reports the dimensions of an
`r × c` matrix, keeps the entries of the common leading block and zero-fills the rest -/
theorem resize_law {S : Store ℝ} (hw : S.WF) (r c : Nat) :
    (S.resize r c).Holds r c (fun i j => if i < S.nrows ∧ j < S.ncols then S.entry i j else 0) :=
  ⟨resize_wf S r c, by rw [resize_dims, resize_kind], fun i j hi hj => by
    rw [resize_get hw r c hi hj]; simp⟩

/-- the reported dimensions are the requested ones, except that a vector-of-rows (-columns) matrix
without rows (columns) reports `0 × 0` -/
theorem shape_proper (k : Kind) {r c : Nat} (h : (r = 0 ↔ c = 0)) : k.shape r c = (r, c) := k.shape_eq h

/-- an operand of any class built from `r × c` entries holds them -/
theorem ofFn_spec (k : Kind) (r c : Nat) (f : Nat → Nat → ℝ) :
    (Store.ofFn k r c f).kind = k ∧ (Store.ofFn k r c f).Holds r c f := ⟨ofFn_kind k r c f, ofFn_holds k r c f⟩

/-! ## copies and constructors (`MatrixTools.h:36-193`) -/

theorem copy_spec {A : Store ℝ} (hA : A.WF) (O : Store ℝ) :
    ∃ O', copy A O = .ok O' ∧ O'.kind = O.kind ∧ O'.Holds A.nrows A.ncols A.entry := copy_holds hA O

theorem copyUp_spec {A : Store ℝ} (hA : A.WF) (O : Store ℝ) :
    ∃ O', copyUp A O = .ok O' ∧ O'.kind = O.kind ∧
      O'.Holds A.nrows A.ncols (fun i j => if i + 1 < A.nrows then A.entry (i + 1) j else 0) := by
  obtain ⟨O', e, k, h⟩ := copyUp_holds hA O
  exact ⟨O', e, k, h.congr (fun i j _ _ => by simp)⟩

theorem copyDown_spec {A : Store ℝ} (hA : A.WF) (O : Store ℝ) :
    ∃ O', copyDown A O = .ok O' ∧ O'.kind = O.kind ∧
      O'.Holds A.nrows A.ncols (fun i j => if i = 0 then 0 else A.entry (i - 1) j) := by
  obtain ⟨O', e, k, h⟩ := copyDown_holds hA O
  exact ⟨O', e, k, h.congr (fun i j _ _ => by simp)⟩

theorem getId_spec (n : Nat) (O : Store ℝ) :
    ∃ O', getId n O = .ok O' ∧ O'.kind = O.kind ∧ O'.Holds n n (fun i j => if i = j then 1 else 0) := by
  obtain ⟨O', e, k, h⟩ := getId_holds n O
  exact ⟨O', e, k, h.congr (fun i j _ _ => by simp [Spec.identity])⟩

theorem diag_spec (D : Array ℝ) (O : Store ℝ) :
    ∃ O', diagV D O = .ok O' ∧ O'.kind = O.kind ∧
      O'.Holds D.size D.size (fun i j => if i = j then D.getD i 0 else 0) := by
  obtain ⟨O', e, k, h⟩ := diagV_holds D O
  exact ⟨O', e, k, h.congr (fun i j _ _ => by simp [Spec.diag])⟩

theorem diagScalar_spec (x : ℝ) (n : Nat) (O : Store ℝ) :
    ∃ O', diagS x n O = .ok O' ∧ O'.kind = O.kind ∧ O'.Holds n n (fun i j => if i = j then x else 0) := by
  obtain ⟨O', e, k, h⟩ := diagS_holds x n O
  exact ⟨O', e, k, h.congr (fun i j _ _ => by simp [Spec.diag])⟩

theorem fill_spec {A : Store ℝ} (hA : A.WF) (x : ℝ) :
    ∃ A', fillAll A x = .ok A' ∧ A'.kind = A.kind ∧ A'.Holds A.nrows A.ncols (fun _ _ => x) := fillAll_holds hA x

/-- `fillDiag` on any shape (also with more rows than columns) -/
theorem fillDiag_spec {A : Store ℝ} (hA : A.WF) (x : ℝ) :
    ∃ A', fillDiag A x = .ok A' ∧ A'.kind = A.kind ∧
      A'.Holds A.nrows A.ncols (fun i j => if i = j then x else A.entry i j) := fillDiag_holds hA x

/-! ## products (`MatrixTools.h:225-414`) -/

/-- plain product: entry `(i,j)` is `Σ_k A(i,k)·B(k,j)`, dimensions `nrA × ncB` -/
theorem mult_spec {A B : Store ℝ} (hA : A.WF) (hB : B.WF) (O : Store ℝ) (h : A.ncols = B.nrows) :
    ∃ O', mult A B O = .ok O' ∧ O'.kind = O.kind ∧
      O'.Holds A.nrows B.ncols (fun i j => ∑ k ∈ Finset.range A.ncols, A.entry i k * B.entry k j) := by
  obtain ⟨O', e, k, hh⟩ := mult_holds hA hB O h
  exact ⟨O', e, k, hh.congr (fun i j _ _ => by simp [Spec.mult, sumTo_eq_sum])⟩

/-- the same as an equation between Mathlib matrices -/
theorem mult_spec_matrix {A B : Store ℝ} (hA : A.WF) (hB : B.WF) (O : Store ℝ) (h : A.ncols = B.nrows) :
    ∃ O', mult A B O = .ok O' ∧ ∃ g, O'.Holds A.nrows B.ncols g ∧
      toMat A.nrows B.ncols g = toMat A.nrows A.ncols A.entry * toMat A.ncols B.ncols B.entry := by
  obtain ⟨O', e, _, hh⟩ := mult_holds hA hB O h
  exact ⟨O', e, _, hh, mult_toMat _ _ _ _ _⟩

/-- diagonal middle factor: `A · diag(D) · B` -/
theorem multDiag_spec {A B : Store ℝ} (hA : A.WF) (hB : B.WF) (D : Array ℝ) (O : Store ℝ)
    (h : A.ncols = B.nrows) (hD : A.ncols = D.size) :
    ∃ O', multD A D B O = .ok O' ∧ O'.kind = O.kind ∧
      O'.Holds A.nrows B.ncols
        (Spec.mult (Spec.mult A.entry (Spec.diag fun k => D.getD k 0) A.ncols) B.entry A.ncols) := by
  obtain ⟨O', e, k, hh⟩ := multD_holds hA hB D O h hD
  refine ⟨O', e, k, hh.congr (fun i j _ _ => ?_)⟩
  rw [← multD_eq]; simp only [ScalarReal.zero_eq]

/-- tridiagonal middle factor: `A · (U + D + L) · B`, for every size `≥ 1` including `1 × 1` -/
theorem multTridiag_spec {A B : Store ℝ} (hA : A.WF) (hB : B.WF) (D U L : Array ℝ) (O : Store ℝ)
    (h : A.ncols = B.nrows) (hD : A.ncols = D.size) (hU : A.ncols = U.size + 1) (hL : A.ncols = L.size + 1) :
    ∃ O', multT A D U L B O = .ok O' ∧ O'.kind = O.kind ∧
      O'.Holds A.nrows B.ncols
        (Spec.mult (Spec.mult A.entry (Spec.tridiag (fun k => D.getD k 0) (fun k => U.getD k 0) (fun k => L.getD k 0)) A.ncols)
          B.entry A.ncols) := by
  obtain ⟨O', e, k, hh⟩ := multT_holds hA hB D U L O h hD hU hL
  refine ⟨O', e, k, hh.congr (fun i j _ _ => ?_)⟩
  rw [← triCode_eq_spec _ _ _ _ _ _ _ _ (by omega)]; simp only [ScalarReal.zero_eq]

/-- product of complex matrices given as (real, imaginary) pairs -/
theorem multComplex_spec {A iA B iB : Store ℝ} (hA : A.WF) (hiA : iA.WF) (hB : B.WF) (hiB : iB.WF) (O iO : Store ℝ)
    (h : A.ncols = B.nrows) (h1 : iA.nrows = A.nrows ∧ iA.ncols = A.ncols) (h2 : iB.nrows = B.nrows ∧ iB.ncols = B.ncols) :
    ∃ O' iO', multC A iA B iB O iO = .ok (O', iO') ∧ O'.kind = O.kind ∧ iO'.kind = iO.kind ∧
      O'.Holds A.nrows B.ncols (fun i j => ∑ k ∈ Finset.range A.ncols, (A.entry i k * B.entry k j - iA.entry i k * iB.entry k j)) ∧
      iO'.Holds A.nrows B.ncols (fun i j => ∑ k ∈ Finset.range A.ncols, (A.entry i k * iB.entry k j + iA.entry i k * B.entry k j)) := by
  obtain ⟨O', iO', e, k1, k2, H1, H2⟩ := multC_holds hA hiA hB hiB O iO h h1 h2
  exact ⟨O', iO', e, k1, k2, H1.congr (fun i j _ _ => by simp [Spec.cmulRe, sumTo_eq_sum]),
    H2.congr (fun i j _ _ => by simp [Spec.cmulIm, sumTo_eq_sum])⟩

/-- complex pairs with a complex diagonal middle factor: `(A + i·iA)(D + i·iD)(B + i·iB)`; both
outputs are sized -/
theorem multComplexDiag_spec {A iA B iB : Store ℝ} (hA : A.WF) (hiA : iA.WF) (hB : B.WF) (hiB : iB.WF)
    (D iD : Array ℝ) (O iO : Store ℝ)
    (h : A.ncols = B.nrows) (hD : A.ncols = D.size) (hiD : A.ncols = iD.size)
    (h1 : iA.nrows = A.nrows ∧ iA.ncols = A.ncols) (h2 : iB.nrows = B.nrows ∧ iB.ncols = B.ncols) :
    ∃ O' iO', multCD A iA D iD B iB O iO = .ok (O', iO') ∧ O'.kind = O.kind ∧ iO'.kind = iO.kind ∧
      O'.Holds A.nrows B.ncols
        (Spec.cmulRe (Spec.cmulRe A.entry iA.entry (Spec.diag fun k => D.getD k 0) (Spec.diag fun k => iD.getD k 0) A.ncols)
          (Spec.cmulIm A.entry iA.entry (Spec.diag fun k => D.getD k 0) (Spec.diag fun k => iD.getD k 0) A.ncols)
          B.entry iB.entry A.ncols) ∧
      iO'.Holds A.nrows B.ncols
        (Spec.cmulIm (Spec.cmulRe A.entry iA.entry (Spec.diag fun k => D.getD k 0) (Spec.diag fun k => iD.getD k 0) A.ncols)
          (Spec.cmulIm A.entry iA.entry (Spec.diag fun k => D.getD k 0) (Spec.diag fun k => iD.getD k 0) A.ncols)
          B.entry iB.entry A.ncols) := by
  obtain ⟨O', iO', e, k1, k2, H1, H2⟩ := multCD_holds hA hiA hB hiB D iD O iO h hD hiD h1 h2
  refine ⟨O', iO', e, k1, k2, H1.congr (fun i j _ _ => ?_), H2.congr (fun i j _ _ => ?_)⟩
  · rw [← multCD_re_eq]; simp only [ScalarReal.zero_eq]
  · rw [← multCD_im_eq]; simp only [ScalarReal.zero_eq]

/-! ## sums, scaling, transpose (`MatrixTools.h:205-217, 424-468, 841-851`) -/

theorem add_spec {A B : Store ℝ} (hA : A.WF) (hB : B.WF) (hr : A.nrows = B.nrows) (hc : A.ncols = B.ncols) :
    ∃ A', add A B = .ok A' ∧ A'.kind = A.kind ∧ A'.Holds A.nrows A.ncols (fun i j => A.entry i j + B.entry i j) :=
  add_holds hA hB hr hc

theorem addScaled_spec {A B : Store ℝ} (hA : A.WF) (hB : B.WF) (x : ℝ) (hr : A.nrows = B.nrows) (hc : A.ncols = B.ncols) :
    ∃ A', addS A x B = .ok A' ∧ A'.kind = A.kind ∧ A'.Holds A.nrows A.ncols (fun i j => A.entry i j + x * B.entry i j) :=
  addS_holds hA hB x hr hc

/-- `scale`: `a·A(i,j) + b`, including the shortcut taken for `a = 1`, `b = 0` -/
theorem scale_spec {A : Store ℝ} (hA : A.WF) (a b : ℝ) :
    ∃ A', scale A a b = .ok A' ∧ A'.kind = A.kind ∧ A'.Holds A.nrows A.ncols (fun i j => a * A.entry i j + b) :=
  scale_holds_real_is (LUS.Is.self hA) a b

theorem transpose_spec {A : Store ℝ} (hA : A.WF) (O : Store ℝ) :
    ∃ O', transpose A O = .ok O' ∧ O'.kind = O.kind ∧ O'.Holds A.ncols A.nrows (fun i j => A.entry j i) :=
  transpose_holds hA O

/-- transposing twice (through an intermediate of any class) gives the matrix back; for shapes that
every class can represent -/
theorem transpose_involution {A : Store ℝ} (hA : A.WF) (hshape : A.nrows = 0 ↔ A.ncols = 0) (T O : Store ℝ) :
    ∃ T' O', transpose A T = .ok T' ∧ transpose T' O = .ok O' ∧ O'.kind = O.kind ∧
      O'.Holds A.nrows A.ncols A.entry := by
  obtain ⟨T', e1, _, h1⟩ := transpose_holds hA T
  obtain ⟨O', e2, k2, h2⟩ := transpose_holds_is (h1.is (by omega)) O
  exact ⟨T', O', e1, e2, k2, h2⟩

/-! ## integer power and power series (`MatrixTools.h:482-581`) -/

/-- `pow(A, p, O)` is `A^p` for every `p` (strong induction over the halving recursion of the source);
`Spec.pow` is the textbook `A^0 = I`, `A^(p+1) = A^p·A`, tabulated at every step -/
theorem pow_spec {A : Store ℝ} (hA : A.WF) (hsq : A.nrows = A.ncols) (p : Nat) (O : Store ℝ) :
    ∃ O', pow A p O = .ok O' ∧ O'.kind = O.kind ∧ O'.Holds A.nrows A.nrows (Spec.pow A.entry A.nrows p) :=
  pow_holds hA hsq p O

/-- … and as Mathlib's monoid power of the matrix of `A` -/
theorem pow_spec_matrix {A : Store ℝ} (hA : A.WF) (hsq : A.nrows = A.ncols) (p : Nat) (O : Store ℝ) :
    ∃ O', pow A p O = .ok O' ∧ ∃ g, O'.Holds A.nrows A.nrows g ∧
      toMat A.nrows A.nrows g = (toMat A.nrows A.nrows A.entry) ^ p := by
  obtain ⟨O', e, _, g, hg, eg⟩ := pow_holdsSq p (holdsSq_self hA hsq) O
  exact ⟨O', e, g, hg, eg⟩

theorem specPow_eq_matrix_pow (a : Nat → Nat → ℝ) (n p : Nat) : toMat n n (Spec.pow a n p) = (toMat n n a) ^ p :=
  specPow_toMat a n p

/-- `Taylor(A, p, vO)`: `p + 1` matrices, `vO[q] = A^q`, for every `p` including `p = 0` -/
theorem taylor_spec {A : Store ℝ} (hA : A.WF) (hsq : A.nrows = A.ncols) (p : Nat) :
    ∃ v : Array (Store ℝ), taylor A p = .ok v ∧ v.size = p + 1 ∧
      ∀ q (h : q < v.size), v[q].kind = .row ∧ v[q].Holds A.nrows A.nrows (Spec.pow A.entry A.nrows q) :=
  taylor_holds hA hsq p

/-! ## Kronecker, Hadamard and direct sums (`MatrixTools.h:922-1209`) -/

/-- `A ⊗ B`: entry `(i,j)` is `A(i / nrB, j / ncB) · B(i % nrB, j % ncB)` -/
theorem kron_spec {A B : Store ℝ} (hA : A.WF) (hB : B.WF) (O : Store ℝ) :
    ∃ O', kron A B O true = .ok O' ∧ O'.kind = O.kind ∧
      O'.Holds (A.nrows * B.nrows) (A.ncols * B.ncols)
        (fun i j => A.entry (i / B.nrows) (j / B.ncols) * B.entry (i % B.nrows) (j % B.ncols)) := kron_holds hA hB O

/-- `check = false`: into an output at least as large, the rest of which is left alone -/
theorem kron_nocheck_spec {A B O : Store ℝ} (hA : A.WF) (hB : B.WF) (hO : O.WF)
    (hR : A.nrows * B.nrows ≤ O.nrows) (hC : A.ncols * B.ncols ≤ O.ncols) :
    ∃ O', kron A B O false = .ok O' ∧ O'.WF ∧ O'.kind = O.kind ∧ O'.nrows = O.nrows ∧ O'.ncols = O.ncols ∧
      ∀ p q, p < O.nrows → q < O.ncols →
        O'.get p q = if p < A.nrows * B.nrows ∧ q < A.ncols * B.ncols
          then .ok (A.entry (p / B.nrows) (q / B.ncols) * B.entry (p % B.nrows) (q % B.ncols)) else O.get p q := by
  obtain ⟨O', e, ⟨hw, hk, hr, hc⟩, hget⟩ := kron_nocheck hA hB hO hR hC
  refine ⟨O', e, hw, hk, hr, hc, fun p q hp hq => ?_⟩
  split
  · next h => exact (hget p q hp hq).1 h
  · next h => exact (hget p q hp hq).2 h

theorem kronDiag_spec {A : Store ℝ} (hA : A.WF) (dim : Nat) (v : ℝ) (O : Store ℝ) :
    ∃ O', kronD A dim v O true = .ok O' ∧ O'.kind = O.kind ∧
      O'.Holds (A.nrows * dim) (A.ncols * dim)
        (fun i j => A.entry (i / dim) (j / dim) * (if i % dim = j % dim then v else 0)) := by
  obtain ⟨O', e, k, h⟩ := kronD_holds hA dim v O
  exact ⟨O', e, k, h.congr (fun i j _ _ => by simp [Spec.kron, Spec.diag])⟩

theorem kronReplacedDiag_spec {A B : Store ℝ} (hA : A.WF) (hB : B.WF) (dA dB : ℝ) (O : Store ℝ) :
    ∃ O', kron2 A B dA dB O true = .ok O' ∧ O'.kind = O.kind ∧
      O'.Holds (A.nrows * B.nrows) (A.ncols * B.ncols)
        (Spec.kron (fun i j => if i = j then dA else A.entry i j) (fun i j => if i = j then dB else B.entry i j)
          B.nrows B.ncols) := kron2_holds hA hB dA dB O

theorem hadamard_spec {A B : Store ℝ} (hA : A.WF) (hB : B.WF) (O : Store ℝ) (hr : A.nrows = B.nrows) (hc : A.ncols = B.ncols) :
    ∃ O', had A B O = .ok O' ∧ O'.kind = O.kind ∧ O'.Holds A.nrows A.ncols (fun i j => A.entry i j * B.entry i j) :=
  had_holds hA hB O hr hc

theorem hadamardComplex_spec {A iA B iB : Store ℝ} (hA : A.WF) (hiA : iA.WF) (hB : B.WF) (hiB : iB.WF) (O iO : Store ℝ)
    (hr : A.nrows = B.nrows) (hc : A.ncols = B.ncols)
    (h1 : iA.nrows = A.nrows ∧ iA.ncols = A.ncols) (h2 : iB.nrows = B.nrows ∧ iB.ncols = B.ncols) :
    ∃ O' iO', hadC A iA B iB O iO = .ok (O', iO') ∧ O'.kind = O.kind ∧ iO'.kind = iO.kind ∧
      O'.Holds A.nrows A.ncols (fun i j => A.entry i j * B.entry i j - iA.entry i j * iB.entry i j) ∧
      iO'.Holds A.nrows A.ncols (fun i j => iA.entry i j * B.entry i j + A.entry i j * iB.entry i j) :=
  hadC_holds hA hiA hB hiB O iO hr hc h1 h2

theorem hadamardVector_spec {A : Store ℝ} (hA : A.WF) (v : Array ℝ) (O : Store ℝ) (row : Bool)
    (h : (if row then A.nrows else A.ncols) = v.size) :
    ∃ O', hadV A v O row = .ok O' ∧ O'.kind = O.kind ∧
      O'.Holds A.nrows A.ncols (fun i j => A.entry i j * v.getD (if row then i else j) 0) := by
  obtain ⟨O', e, k, hh⟩ := hadV_holds hA v O row h
  exact ⟨O', e, k, hh.congr (fun i j _ _ => by simp only [ScalarReal.zero_eq])⟩

/-- `A ⊕ B` for blocks of any shape (non-square included) -/
theorem directSum_spec {A B : Store ℝ} (hA : A.WF) (hB : B.WF) (O : Store ℝ) :
    ∃ O', dsum A B O = .ok O' ∧ O'.kind = O.kind ∧
      O'.Holds (A.nrows + B.nrows) (A.ncols + B.ncols)
        (fun i j =>
          if i < A.nrows then (if j < A.ncols then A.entry i j else 0)
          else if j < A.ncols then 0 else B.entry (i - A.nrows) (j - A.ncols)) := by
  obtain ⟨O', e, k, h⟩ := dsum_holds hA hB O
  refine ⟨O', e, k, h.congr (fun i j hi hj => ?_)⟩
  simp only [Spec.dsum, ScalarReal.zero_eq]
  by_cases h1 : i < A.nrows
  · simp [h1]
  · by_cases h2 : j < A.ncols
    · simp [h1, h2]
    · have : i - A.nrows < B.nrows ∧ j - A.ncols < B.ncols := by omega
      simp [h1, h2, this]

/-- the n-ary direct sum: `Spec.dsumFold` folds the binary direct sum from the left over the blocks -/
theorem directSumN_spec (vA : List (Store ℝ)) (hwf : ∀ M ∈ vA, M.WF) (O : Store ℝ) :
    ∃ O', dsumN vA O = .ok O' ∧ O'.kind = O.kind ∧
      O'.Holds (Spec.dsumFold (0, 0, fun _ _ => 0) (vA.map fun M => (M.nrows, M.ncols, M.entry))).1
        (Spec.dsumFold (0, 0, fun _ _ => 0) (vA.map fun M => (M.nrows, M.ncols, M.entry))).2.1
        (Spec.dsumFold (0, 0, fun _ _ => 0) (vA.map fun M => (M.nrows, M.ncols, M.entry))).2.2 := by
  have := dsumN_holds vA hwf O
  simp only [ScalarReal.zero_eq] at this
  exact this

/-! ## covariance (`MatrixTools.h:887-911`) -/

/-- `covar(A, O)`: `(1/n)·A·Aᵀ − μ·μᵀ` for a sample matrix with `r ≥ 1` rows and `n ≥ 1` columns -/
theorem covar_spec {A : Store ℝ} (hA : A.WF) (hr : 0 < A.nrows) (hn : 0 < A.ncols) (O : Store ℝ) :
    ∃ O', covar A O = .ok O' ∧ O'.kind = O.kind ∧
      O'.Holds A.nrows A.nrows (fun i l =>
        (1 / (A.ncols : ℝ)) * (∑ j ∈ Finset.range A.ncols, A.entry i j * A.entry l j)
          - ((∑ j ∈ Finset.range A.ncols, A.entry i j) / A.ncols) * ((∑ j ∈ Finset.range A.ncols, A.entry l j) / A.ncols)) := by
  obtain ⟨O', e, k, h⟩ := covar_holds hA hr hn O
  refine ⟨O', e, k, h.congr (fun i l _ _ => ?_)⟩
  simp only [Spec.covar, Spec.rowMean, sumTo_eq_sum, ScalarReal.one_eq, ScalarReal.ofInt_eq]
  push_cast
  ring

/-! ## extremum search and element sum (`MatrixTools.h:587-693, 1239-1250`) -/

/-- `whichMax` / `max` of a non-empty matrix: the position is inside the matrix, holds the largest
entry, and is the first such position in row-major scan order -/
theorem whichMax_spec {A : Store ℝ} (hA : A.WF) (hr : 0 < A.nrows) (hc : 0 < A.ncols) :
    ∃ s, scanMax A = .ok s ∧ s.i < A.nrows ∧ s.j < A.ncols ∧ s.cur = some (A.entry s.i s.j) ∧
      (∀ p q, p < A.nrows → q < A.ncols → A.entry p q ≤ A.entry s.i s.j) ∧
      (∀ p q, q < A.ncols → (p < s.i ∨ (p = s.i ∧ q < s.j)) → A.entry p q < A.entry s.i s.j) := by
  obtain ⟨s, e, h1, h2, h3, h4, h5⟩ := scan_nonempty (fun x c => c < x) ExtCmp.gtNegInf (fun x c => Scalar.gtb x c)
    (fun _ => rfl) (fun x c => ScalarReal.gtb_iff x c)
    (fun x c y hxc hyc => lt_of_le_of_lt (not_lt.mp hyc) hxc)
    (fun x c y hxc hyc => not_lt.mpr (le_of_lt (lt_of_le_of_lt (not_lt.mp hyc) hxc)))
    (fun x => lt_irrefl x) hA hr hc
  exact ⟨s, e, h1, h2, h3, fun p q hp hq => not_lt.mp (h4 p q hp hq), h5⟩

theorem whichMin_spec {A : Store ℝ} (hA : A.WF) (hr : 0 < A.nrows) (hc : 0 < A.ncols) :
    ∃ s, scanMin A = .ok s ∧ s.i < A.nrows ∧ s.j < A.ncols ∧ s.cur = some (A.entry s.i s.j) ∧
      (∀ p q, p < A.nrows → q < A.ncols → A.entry s.i s.j ≤ A.entry p q) ∧
      (∀ p q, q < A.ncols → (p < s.i ∨ (p = s.i ∧ q < s.j)) → A.entry s.i s.j < A.entry p q) := by
  obtain ⟨s, e, h1, h2, h3, h4, h5⟩ := scan_nonempty (fun x c => x < c) ExtCmp.ltPosInf (fun x c => Scalar.ltb x c)
    (fun _ => rfl) (fun x c => ScalarReal.ltb_iff x c)
    (fun x c y hxc hyc => lt_of_lt_of_le hxc (not_lt.mp hyc))
    (fun x c y hxc hyc => not_lt.mpr (le_of_lt (lt_of_lt_of_le hxc (not_lt.mp hyc))))
    (fun x => lt_irrefl x) hA hr hc
  exact ⟨s, e, h1, h2, h3, fun p q hp hq => not_lt.mp (h4 p q hp hq), h5⟩

/-- `sumElements`: the sum of all entries (row by row) -/
theorem sumElements_spec {M : Store ℝ} (hM : M.WF) :
    sumElements M = .ok (∑ i ∈ Finset.range M.nrows, ∑ j ∈ Finset.range M.ncols, M.entry i j) := by
  rw [sumElements_eq hM, total_eq_sum]

/-- `diag(M, O)`: the diagonal of a square matrix as a vector; a `DimensionException` otherwise -/
theorem diagOf_spec {M : Store ℝ} (hM : M.WF) :
    (M.ncols = M.nrows → ∃ v, diagM M = .ok v ∧ v.size = M.nrows ∧ ∀ i (hi : i < v.size), v[i] = M.entry i i) ∧
    (M.ncols ≠ M.nrows → diagM M = .error .dimension) :=
  ⟨fun h => diagM_ok hM h, fun h => diagM_nonsquare h⟩

/-- `toVVdouble`: `nrows` vectors of `ncols` entries -/
theorem toVVdouble_spec {M : Store ℝ} (hM : M.WF) :
    ∃ vv, toVV M = .ok vv ∧ vv.size = M.nrows ∧
      ∀ i (hi : i < vv.size), vv[i].size = M.ncols ∧ ∀ j (hj : j < vv[i].size), vv[i][j] = M.entry i j := toVV_ok hM

/-- `isSymmetric` answers `true` exactly for square matrices equal to their transpose -/
theorem isSymmetric_spec {A : Store ℝ} (hA : A.WF) :
    ∃ b, isSymmetric A = .ok b ∧
      (b = true ↔ A.ncols = A.nrows ∧ ∀ i j, i < A.nrows → j < A.nrows → A.entry i j = A.entry j i) := by
  by_cases hsq : A.ncols = A.nrows
  · refine ⟨_, isSymmetric_ok hA hsq, ?_⟩
    simp only [List.all_eq_true, List.mem_range, ScalarReal.eqb_iff]
    constructor
    · intro h
      refine ⟨hsq, ?_⟩
      have hlt : ∀ i j, i < j → j < A.nrows → A.entry i j = A.entry j i := by
        intro i j hij hj
        have := h i (by omega) (j - (i + 1)) (by omega)
        have e : i + 1 + (j - (i + 1)) = j := by omega
        rwa [e] at this
      intro i j hi hj
      rcases Nat.lt_trichotomy i j with h1 | h1 | h1
      · exact hlt i j h1 hj
      · rw [h1]
      · exact (hlt j i h1 hi).symm
    · intro h i hi t ht
      exact h.2 i (i + 1 + t) (by omega) (by omega)
  · refine ⟨false, isSymmetric_nonsquare hsq, ?_⟩
    simp [hsq]

/-! ## non-conformable operands raise a dimension error (and nothing is read) -/

theorem mult_nonconformable_raises {A B : Store ℝ} (O : Store ℝ) (h : A.ncols ≠ B.nrows) :
    mult A B O = .error .dimension := mult_nonconformable O h

theorem multDiag_nonconformable_raises {A B : Store ℝ} (D : Array ℝ) (O : Store ℝ)
    (h : A.ncols ≠ B.nrows ∨ A.ncols ≠ D.size) : multD A D B O = .error .dimension := multD_nonconformable D O h

theorem multTridiag_nonconformable_raises {A B : Store ℝ} (D U L : Array ℝ) (O : Store ℝ)
    (h : A.ncols ≠ B.nrows ∨ A.ncols ≠ D.size ∨ A.ncols ≠ U.size + 1 ∨ A.ncols ≠ L.size + 1) :
    multT A D U L B O = .error .dimension := multT_nonconformable D U L O h

/-- in particular when an imaginary part has another size than its real part -/
theorem multComplex_nonconformable_raises {A iA B iB : Store ℝ} (O iO : Store ℝ)
    (h : A.ncols ≠ B.nrows ∨ ¬ (iA.nrows = A.nrows ∧ iA.ncols = A.ncols) ∨ ¬ (iB.nrows = B.nrows ∧ iB.ncols = B.ncols)) :
    multC A iA B iB O iO = .error .dimension := multC_nonconformable O iO h

theorem multComplexDiag_nonconformable_raises {A iA B iB : Store ℝ} (D iD : Array ℝ) (O iO : Store ℝ)
    (h : A.ncols ≠ B.nrows ∨ A.ncols ≠ D.size ∨ A.ncols ≠ iD.size ∨ ¬ (iA.nrows = A.nrows ∧ iA.ncols = A.ncols) ∨
      ¬ (iB.nrows = B.nrows ∧ iB.ncols = B.ncols)) :
    multCD A iA D iD B iB O iO = .error .dimension := multCD_nonconformable D iD O iO h

/-- also when `A` is smaller than `B` -/
theorem add_nonconformable_raises {A B : Store ℝ} (h : A.nrows ≠ B.nrows ∨ A.ncols ≠ B.ncols) :
    add A B = .error .dimension := add_nonconformable h

theorem addScaled_nonconformable_raises {A B : Store ℝ} (x : ℝ) (h : A.nrows ≠ B.nrows ∨ A.ncols ≠ B.ncols) :
    addS A x B = .error .dimension := addS_nonconformable x h

theorem pow_nonconformable_raises {A : Store ℝ} (hsq : A.nrows ≠ A.ncols) (p : Nat) (O : Store ℝ) :
    pow A p O = .error .dimension := pow_nonconformable hsq p O

theorem taylor_nonconformable_raises {A : Store ℝ} (hsq : A.nrows ≠ A.ncols) (p : Nat) :
    taylor A p = .error .dimension := by
  unfold taylor; rw [if_pos hsq]

theorem hadamard_nonconformable_raises {A B : Store ℝ} (O : Store ℝ) (h : A.nrows ≠ B.nrows ∨ A.ncols ≠ B.ncols) :
    had A B O = .error .dimension := had_nonconformable O h

theorem hadamardComplex_nonconformable_raises {A iA B iB : Store ℝ} (O iO : Store ℝ)
    (h : A.nrows ≠ B.nrows ∨ A.ncols ≠ B.ncols ∨ ¬ (iA.nrows = A.nrows ∧ iA.ncols = A.ncols) ∨
      ¬ (iB.nrows = B.nrows ∧ iB.ncols = B.ncols)) :
    hadC A iA B iB O iO = .error .dimension := hadC_nonconformable O iO h

theorem hadamardVector_nonconformable_raises {A : Store ℝ} (v : Array ℝ) (O : Store ℝ) (row : Bool)
    (h : (if row then A.nrows else A.ncols) ≠ v.size) : hadV A v O row = .error .dimension :=
  hadV_nonconformable v O row h

/-! ## no access outside the operands and outputs, whatever the shapes -/

/-- for well-formed operands of any shapes and classes and any output (sized or not, stale or not)
the product either returns or raises the dimension error: never `ub` -/
theorem no_oob_mult {A B : Store ℝ} (hA : A.WF) (hB : B.WF) (O : Store ℝ) : mult A B O ≠ .error .ub := by
  by_cases h : A.ncols = B.nrows
  · obtain ⟨O', e, _⟩ := mult_holds hA hB O h
    exact ne_ub_of_ok e
  · exact ne_ub_of_dimension (mult_nonconformable O h)

theorem no_oob_multTridiag {A B : Store ℝ} (hA : A.WF) (hB : B.WF) (D U L : Array ℝ) (O : Store ℝ) :
    multT A D U L B O ≠ .error .ub := by
  by_cases h : A.ncols = B.nrows ∧ A.ncols = D.size ∧ A.ncols = U.size + 1 ∧ A.ncols = L.size + 1
  · obtain ⟨O', e, _⟩ := multT_holds hA hB D U L O h.1 h.2.1 h.2.2.1 h.2.2.2
    exact ne_ub_of_ok e
  · exact ne_ub_of_dimension (multT_nonconformable D U L O (by simpa only [not_and_or] using h))

theorem no_oob_multComplexDiag {A iA B iB : Store ℝ} (hA : A.WF) (hiA : iA.WF) (hB : B.WF) (hiB : iB.WF)
    (D iD : Array ℝ) (O iO : Store ℝ) : multCD A iA D iD B iB O iO ≠ .error .ub := by
  by_cases h : A.ncols = B.nrows ∧ A.ncols = D.size ∧ A.ncols = iD.size ∧ (iA.nrows = A.nrows ∧ iA.ncols = A.ncols) ∧
      (iB.nrows = B.nrows ∧ iB.ncols = B.ncols)
  · obtain ⟨O', iO', e, _⟩ := multCD_holds hA hiA hB hiB D iD O iO h.1 h.2.1 h.2.2.1 h.2.2.2.1 h.2.2.2.2
    exact ne_ub_of_ok e
  · exact ne_ub_of_dimension (multCD_nonconformable D iD O iO (by simpa only [not_and_or] using h))

theorem no_oob_add {A B : Store ℝ} (hA : A.WF) (hB : B.WF) : add A B ≠ .error .ub := by
  by_cases h : A.nrows = B.nrows ∧ A.ncols = B.ncols
  · obtain ⟨A', e, _⟩ := add_holds hA hB h.1 h.2
    exact ne_ub_of_ok e
  · exact ne_ub_of_dimension (add_nonconformable (by simpa only [not_and_or] using h))

theorem no_oob_directSum {A B : Store ℝ} (hA : A.WF) (hB : B.WF) (O : Store ℝ) : dsum A B O ≠ .error .ub := by
  obtain ⟨O', e, _⟩ := dsum_holds hA hB O
  exact ne_ub_of_ok e

theorem no_oob_taylor {A : Store ℝ} (hA : A.WF) (p : Nat) : taylor A p ≠ .error .ub := by
  by_cases h : A.nrows = A.ncols
  · obtain ⟨v, e, _⟩ := taylor_holds hA h p
    exact ne_ub_of_ok e
  · exact ne_ub_of_dimension (taylor_nonconformable_raises h p)

theorem no_oob_copyUp_copyDown_fillDiag {A : Store ℝ} (hA : A.WF) (O : Store ℝ) (x : ℝ) :
    copyUp A O ≠ .error .ub ∧ copyDown A O ≠ .error .ub ∧ fillDiag A x ≠ .error .ub := by
  obtain ⟨_, e1, _⟩ := copyUp_holds hA O
  obtain ⟨_, e2, _⟩ := copyDown_holds hA O
  obtain ⟨_, e3, _⟩ := fillDiag_holds hA x
  exact ⟨ne_ub_of_ok e1, ne_ub_of_ok e2, ne_ub_of_ok e3⟩

/-! ## the result does not depend on the storage classes -/

/-- product: whatever classes hold the operands `a` (`r × n`) and `b` (`n × c`) and whatever
class/size/content the output has, the output holds `a·b` -/
theorem mult_storage_independent (kA kB : Kind) (O : Store ℝ) (r n c : Nat) (a b : Nat → Nat → ℝ)
    (hr : 0 < r) (hn : 0 < n) (hc : 0 < c) :
    ∃ O', mult (Store.ofFn kA r n a) (Store.ofFn kB n c b) O = .ok O' ∧ O'.kind = O.kind ∧
      O'.nrows = r ∧ O'.ncols = c ∧
      ∀ i j, i < r → j < c → O'.get i j = .ok (∑ k ∈ Finset.range n, a i k * b k j) := by
  obtain ⟨O', e, k, h⟩ := mult_holds_is ((ofFn_holds kA r n a).is (by omega)) ((ofFn_holds kB n c b).is (by omega)) O
  obtain ⟨o1, o2⟩ := h.dims_pos hr hc
  exact ⟨O', e, k, o1, o2, fun i j hi hj => by simp only [h.2.2 i j hi hj, Spec.mult, sumTo_eq_sum]⟩

/-- every routine's result is a function of the operands' *entries* only: two operands of different
classes holding the same matrix (no dimension zero) give outputs holding the same matrix — spelled out
here for transpose, direct sum and Kronecker product; for every other routine it is the content of its
`_spec` theorem, which is stated for operands of arbitrary classes through `Holds` / `entry` -/
theorem storage_independent {A A' B B' : Store ℝ} {r c r2 c2 : Nat} {a b : Nat → Nat → ℝ}
    (hr : 0 < r) (hc : 0 < c) (hr2 : 0 < r2) (hc2 : 0 < c2)
    (hA : A.Holds r c a) (hA' : A'.Holds r c a) (hB : B.Holds r2 c2 b) (hB' : B'.Holds r2 c2 b) (O O2 : Store ℝ) :
    (∃ T T' g, transpose A O = .ok T ∧ transpose A' O2 = .ok T' ∧ T.Holds c r g ∧ T'.Holds c r g) ∧
    (∃ S S' g, dsum A B O = .ok S ∧ dsum A' B' O2 = .ok S' ∧ S.Holds (r + r2) (c + c2) g ∧ S'.Holds (r + r2) (c + c2) g) ∧
    (∃ K K' g, kron A B O true = .ok K ∧ kron A' B' O2 true = .ok K' ∧ K.Holds (r * r2) (c * c2) g ∧ K'.Holds (r * r2) (c * c2) g) := by
  -- each routine is stated for operands given by what they hold (`LUS.Is`), so both calls yield the same matrix
  have iA := hA.is (by omega)
  have iA' := hA'.is (by omega)
  have iB := hB.is (by omega)
  have iB' := hB'.is (by omega)
  obtain ⟨T, e1, _, h1⟩ := transpose_holds_is iA O
  obtain ⟨T', e1', _, h1'⟩ := transpose_holds_is iA' O2
  obtain ⟨S, e2, _, h2⟩ := dsum_holds_is iA iB O
  obtain ⟨S', e2', _, h2'⟩ := dsum_holds_is iA' iB' O2
  obtain ⟨K, e3, _, h3⟩ := kron_holds_is iA iB O
  obtain ⟨K', e3', _, h3'⟩ := kron_holds_is iA' iB' O2
  exact ⟨⟨T, T', _, e1, e1', h1, h1'⟩, ⟨S, S', _, e2, e2', h2, h2'⟩, ⟨K, K', _, e3, e3', h3, h3'⟩⟩

/-! ### … except for operands with exactly one zero dimension (known finding
`C04-degenerate-shape-storage-dependence`): the vector-of-vector classes report `0 × 0` for them and the
conformability tests see the reported dimensions, so whether the same call raises depends on the class.
The two independence theorems above assume every dimension positive; these witnesses (evaluated in `Rat`)
are the boundary. -/

/-- `(2 × 3) · (3 × 0)`: a flat- or row-stored `B` gives the `2 × 0` product, a column-stored `B`
(reporting `0 × 0`) a `DimensionException` -/
theorem mult_storage_dependent_degenerate :
    (match mult (Store.ofFn .lin 2 3 fun i j => ((i + j : Nat) : Rat)) (Store.ofFn .col 3 0 fun _ _ => 0) (Store.empty .lin) with
      | .error .dimension => true
      | _ => false) = true ∧
    (match mult (Store.ofFn .lin 2 3 fun i j => ((i + j : Nat) : Rat)) (Store.ofFn .row 3 0 fun _ _ => 0) (Store.empty .lin) with
      | .ok O => O.nrows == 2 && O.ncols == 0
      | .error _ => false) = true ∧
    (match mult (Store.ofFn .lin 2 3 fun i j => ((i + j : Nat) : Rat)) (Store.ofFn .lin 3 0 fun _ _ => 0) (Store.empty .lin) with
      | .ok O => O.nrows == 2 && O.ncols == 0
      | .error _ => false) = true := by
  refine ⟨?_, ?_, ?_⟩ <;> decide +kernel

/-- `(0 × 3) + (0 × 3)`: two flat-stored operands are added, a flat- and a row-stored one (reporting
`0 × 0`) raise a `DimensionException` -/
theorem add_storage_dependent_degenerate :
    (match add (Store.ofFn .lin 0 3 fun _ _ => (0 : Rat)) (Store.ofFn .row 0 3 fun _ _ => 0) with
      | .error .dimension => true
      | _ => false) = true ∧
    (match add (Store.ofFn .lin 0 3 fun _ _ => (0 : Rat)) (Store.ofFn .lin 0 3 fun _ _ => 0) with
      | .ok O => O.nrows == 0 && O.ncols == 3
      | .error _ => false) = true := by
  refine ⟨?_, ?_⟩ <;> decide +kernel

/-! ## non-vacuity: concrete operands of mixed classes meeting the hypotheses -/

/-- a `2 × 3` row-stored and a `3 × 1` column-stored operand are well formed and conformable -/
example : (Store.ofFn .row 2 3 (fun i j => (i + 2 * j : ℝ))).WF ∧ (Store.ofFn .col 3 1 (fun i _ => (i : ℝ))).WF ∧
    (Store.ofFn .row 2 3 (fun i j => (i + 2 * j : ℝ))).ncols = (Store.ofFn .col 3 1 (fun i _ => (i : ℝ))).nrows := by
  have h1 := ofFn_holds .row 2 3 (fun i j => (i + 2 * j : ℝ))
  have h2 := ofFn_holds .col 3 1 (fun i _ => (i : ℝ))
  exact ⟨h1.1, h2.1, by rw [(h1.dims_pos (by omega) (by omega)).2, (h2.dims_pos (by omega) (by omega)).1]⟩

/-- … the flat class with an empty shape too -/
example : (Store.ofFn .lin 0 3 (fun _ _ => (0 : ℝ))).WF ∧ (Store.ofFn .lin 0 3 (fun _ _ => (0 : ℝ))).nrows = 0 :=
  ⟨(ofFn_holds .lin 0 3 _).1, rfl⟩

/-- a `1 × 1` tridiagonal product meets the hypotheses of `multTridiag_spec` -/
example : (Store.ofFn .lin 1 1 (fun _ _ => (2 : ℝ))).WF ∧ (Store.ofFn .lin 1 1 (fun _ _ => (2 : ℝ))).ncols = (#[(5 : ℝ)]).size
    ∧ (Store.ofFn .lin 1 1 (fun _ _ => (2 : ℝ))).ncols = (#[] : Array ℝ).size + 1 :=
  ⟨(ofFn_holds .lin 1 1 _).1, rfl, rfl⟩

/-- square operands of each class (`pow_spec`, `taylor_spec`, `diagOf_spec`, `isSymmetric_spec`) -/
example (k : Kind) : (Store.ofFn k 3 3 (fun i j => (i * j : ℝ))).WF ∧
    (Store.ofFn k 3 3 (fun i j => (i * j : ℝ))).nrows = (Store.ofFn k 3 3 (fun i j => (i * j : ℝ))).ncols := by
  obtain ⟨w, r, c⟩ := ofFn_dims k (r := 3) (c := 3) (by omega) (by omega) (fun i j => (i * j : ℝ))
  exact ⟨w, by rw [r, c]⟩

/-- a `2 × 3` / `3 × 2` pair with diagonal, super- and sub-diagonal of sizes 3, 2, 2 (`multDiag_spec`,
`multTridiag_spec`), operands of different classes -/
example : ∃ A B : Store ℝ, A.WF ∧ B.WF ∧ A.kind ≠ B.kind ∧ A.ncols = B.nrows ∧ A.ncols = (#[(1 : ℝ), 2, 3]).size ∧
    A.ncols = (#[(4 : ℝ), 5]).size + 1 := by
  obtain ⟨wa, _, ca⟩ := ofFn_dims .row (r := 2) (c := 3) (by omega) (by omega) (fun i j => (i + j : ℝ))
  obtain ⟨wb, rb, _⟩ := ofFn_dims .lin (r := 3) (c := 2) (by omega) (by omega) (fun i j => (i - j : ℝ))
  exact ⟨_, _, wa, wb, by simp [ofFn_kind], by rw [ca, rb], by rw [ca]; rfl, by rw [ca]; rfl⟩

/-- four operands of the three classes with equal sizes (`multComplex_spec`, `hadamardComplex_spec`) and
a non-conformable imaginary part (`multComplex_nonconformable_raises`) -/
example : ∃ A iA B iB iA' : Store ℝ, A.WF ∧ iA.WF ∧ B.WF ∧ iB.WF ∧ A.ncols = B.nrows ∧
    (iA.nrows = A.nrows ∧ iA.ncols = A.ncols) ∧ (iB.nrows = B.nrows ∧ iB.ncols = B.ncols) ∧
    ¬ (iA'.nrows = A.nrows ∧ iA'.ncols = A.ncols) := by
  obtain ⟨w1, r1, c1⟩ := ofFn_dims .row (r := 2) (c := 2) (by omega) (by omega) (fun i j => (i + j : ℝ))
  obtain ⟨w2, r2, c2⟩ := ofFn_dims .col (r := 2) (c := 2) (by omega) (by omega) (fun i j => (i * j : ℝ))
  obtain ⟨w3, r3, c3⟩ := ofFn_dims .lin (r := 2) (c := 2) (by omega) (by omega) (fun _ _ => (1 : ℝ))
  obtain ⟨_, r4, _⟩ := ofFn_dims .row (r := 1) (c := 1) (by omega) (by omega) (fun _ _ => (2 : ℝ))
  exact ⟨_, _, _, _, _, w1, w2, w3, w2, by rw [c1, r3], ⟨by rw [r2, r1], by rw [c2, c1]⟩, ⟨by rw [r2, r3], by rw [c2, c3]⟩,
    fun h => by rw [r4, r1] at h; omega⟩

/-- a sample matrix with rows and columns (`covar_spec`, `whichMax_spec`), a pre-sized output for
`kron_nocheck_spec`, and a list of blocks for `directSumN_spec` -/
example : ∃ A B O : Store ℝ, A.WF ∧ B.WF ∧ O.WF ∧ 0 < A.nrows ∧ 0 < A.ncols ∧
    A.nrows * B.nrows ≤ O.nrows ∧ A.ncols * B.ncols ≤ O.ncols ∧ (∀ M ∈ [A, B, O], M.WF) := by
  obtain ⟨w1, r1, c1⟩ := ofFn_dims .col (r := 2) (c := 3) (by omega) (by omega) (fun i j => (i + j : ℝ))
  obtain ⟨w2, r2, c2⟩ := ofFn_dims .row (r := 2) (c := 2) (by omega) (by omega) (fun i j => (i * j : ℝ))
  obtain ⟨w3, r3, c3⟩ := ofFn_dims .lin (r := 4) (c := 6) (by omega) (by omega) (fun _ _ => (7 : ℝ))
  refine ⟨_, _, _, w1, w2, w3, by rw [r1]; omega, by rw [c1]; omega, by rw [r1, r2, r3], by rw [c1, c2, c3], ?_⟩
  intro M hM
  simp only [List.mem_cons, List.mem_nil_iff, or_false] at hM
  rcases hM with rfl | rfl | rfl <;> assumption

/-! ## the unrepaired routines violate the property (what the `fix:` commits of `findings/C04.json` repair) -/

/-- before the repair `Taylor(A, 0, vO)` wrote `vO[1]` of a one-element vector, for every square `A` -/
theorem taylor_orig_out_of_range {A : Store ℝ} (hsq : A.nrows = A.ncols) : taylorOrig A 0 = .error .ub := by
  unfold taylorOrig
  rw [if_neg (by simpa using hsq)]
  obtain ⟨v0, e0, _⟩ := getId_holds A.nrows (Store.empty .row : Store ℝ)
  simp only [e0, if_true]

/-- before the repair `add(A, B)` accepted an `A` with fewer rows and columns than `B` -/
theorem add_orig_accepts_smaller {A B : Store ℝ} (hA : A.WF) (hB : B.WF) (hr : A.nrows < B.nrows) (hc : A.ncols < B.ncols) :
    ∃ A', addOrig A B = .ok A' := by
  unfold addOrig
  rw [if_neg (by omega), if_neg (by omega)]
  obtain ⟨A', e, _⟩ := fill_holds hA (dims_shape_self A) (f := fun i j => zipAt (· + ·) A B i j)
    (g := fun i j => A.entry i j + B.entry i j)
    (fun i j hi hj => zipAt_ok _ hA hB hi hj (by omega) (by omega))
  exact ⟨A', e⟩

/-- before the repair the tridiagonal product of operands with inner dimension 1 (in particular
`1 × 1` matrices) returned **twice** the product `A·D·B`: with `A = (2)`, `D = (5)`, `B = (3)` it
answered 60 -/
theorem multTridiag_orig_doubles {A B : Store ℝ} (hA : A.WF) (hB : B.WF) (D : Array ℝ) (O : Store ℝ)
    (h : A.ncols = B.nrows) (hD : A.ncols = D.size) (h1 : A.ncols = 1) :
    ∃ O', multTOrig A D #[] #[] B O = .ok O' ∧
      O'.Holds A.nrows B.ncols (fun i j => 2 * (A.entry i 0 * D.getD 0 0 * B.entry 0 j)) := by
  obtain ⟨O', e, hh⟩ := multTOrig_one hA hB D #[] #[] O h hD (by simp [h1]) (by simp [h1]) h1
  exact ⟨O', e, hh.congr (fun i j _ _ => by simp only [ScalarReal.zero_eq]; ring)⟩

/-- before the repair `fillDiag` of a `3 × 2` matrix wrote `M(2,2)`: outside the vectors for the
row-stored class, past the end of the flat vector for the flat class (exact arithmetic, `Rat`) -/
theorem fillDiag_orig_out_of_range :
    isUb (fillDiagOrig (Store.row #[#[(0 : Rat), 0], #[0, 0], #[0, 0]]) 1) = true ∧
    isUb (fillDiagOrig (Store.lin #[(0 : Rat), 0, 0, 0, 0, 0] 3 2) 1) = true := by decide

end Bpp.C04
