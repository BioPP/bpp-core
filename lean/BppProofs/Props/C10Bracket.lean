import BppProofs.Lemmas.OptimObjective
/-!
# C10, part 2 — one-dimensional bracketing returns a triple whose middle point has the lowest value

`OneDimensionOptimizationTools::bracketMinimum` / `inwardBracketMinimum` (model in
`BppModel/Optim.lean`), over `ℝ`, for **every** function object `I` whose evaluation step
`parameters[0].setValue(x); function.f(parameters)` computes a function `g` of `x`
(`Det I g J`), every pair of starting abscissae and every number of scan intervals.
`bracket_objective` instantiates `I` with the objective of the harness (any objective
`obj : List ℝ → ℝ`, any point, any coordinate).  Rounding is not modelled.
-/
namespace Bpp.C10
open Bpp Bpp.Optim

variable {F : Type} {J : F → PList ℝ → Prop}

/-- **inward_bracket_lowest**: whenever the inward routine returns, the triple `(a, b, c)` it returns
has its ends at the given abscissae, its three values are the function at its three abscissae, and
the middle point `b` has the lowest value (`Spec.bracketOk`, the predicate the driver evaluates on
the implementation's triples).  All inputs: any `a`, `b`, any number `n` of scan intervals (`n = 0`
makes `jump` a division by zero, which this statement does not depend on). -/
theorem inward_bracket_lowest (I : FunI F ℝ) (g : ℝ → ℝ) (hd : Det I g J) (fuel : Nat) (a b : ℝ) (n : Nat)
    (fn fn' : F) (pl : PList ℝ) (k : Bracket ℝ) (hJ : J fn pl)
    (h : inwardBracketMinimum I fuel a b n fn pl = .ok (fn', k)) :
    Spec.bracketOk k = true ∧ k.a.x = a ∧ k.c.x = b ∧
    k.a.f = g k.a.x ∧ k.b.f = g k.b.x ∧ k.c.f = g k.c.x := by
  have hi := inward_spec I g hd fuel a b n fn pl hJ
  rw [h] at hi
  obtain ⟨h1, h2, h3, h4, h5, h6, h7, -⟩ := hi
  refine ⟨?_, h1, h2, h3, h4, h5⟩
  simp [Spec.bracketOk, h6, h7]

/-- the inward routine always returns when the evaluations do (it has no unbounded loop over the
reals: the `while (isnan || isinf)` loop is never entered) -/
theorem inward_bracket_returns (I : FunI F ℝ) (fuel : Nat) (a b : ℝ) (n : Nat) (fn : F) (pl : PList ℝ) (e : Exc × F)
    (h : inwardBracketMinimum I (fuel + 1) a b n fn pl = .error e) :
    ∃ fn0 pl0 x, eval0 I fn0 pl0 x = .error e := by
  unfold inwardBracketMinimum at h
  cases h1 : eval0 I fn pl a with
  | error e1 => rw [h1] at h; simp only [Except.error.injEq] at h; exact ⟨_, _, _, h ▸ h1⟩
  | ok r1 =>
    obtain ⟨fn1, pl1, fa⟩ := r1
    rw [h1] at h
    dsimp only at h
    cases h2 : eval0 I fn1 pl1 b with
    | error e2 => rw [h2] at h; simp only [Except.error.injEq] at h; exact ⟨_, _, _, h ▸ h2⟩
    | ok r2 =>
      obtain ⟨fn2, pl2, fb⟩ := r2
      rw [h2] at h
      dsimp only at h
      rw [shrinkB_real] at h
      dsimp only at h
      -- the scan
      have scan : ∀ (m : Nat) (fn0 : F) (pl0 : PList ℝ) (c : ℝ) (best : BPt ℝ) (e' : Exc × F) (j : ℝ),
          inwardScan I j m fn0 pl0 c best = .error e' → ∃ fn0 pl0 x, eval0 I fn0 pl0 x = .error e' := by
        intro m
        induction m with
        | zero => intro fn0 pl0 c best e' j hs; rw [inwardScan] at hs; cases hs
        | succ m ih =>
          intro fn0 pl0 c best e' j hs
          rw [inwardScan] at hs
          cases he : eval0 I fn0 pl0 (c + j) with
          | error e3 => rw [he] at hs; simp only [Except.error.injEq] at hs; exact ⟨_, _, _, hs ▸ he⟩
          | ok r3 => obtain ⟨f3, p3, v3⟩ := r3; rw [he] at hs; exact ih _ _ _ _ _ _ hs
      split at h
      · rename_i e4 hs4
        simp only [Except.error.injEq] at h
        exact scan _ _ _ _ _ _ _ (h ▸ hs4)
      · rename_i fn4 pl4 best hs4
        split at h
        · rename_i e5 h5
          simp only [Except.error.injEq] at h
          exact ⟨_, _, _, h ▸ h5⟩
        · cases h

/-- **bracket_partial_correct**: whenever the outward (parabolic) routine returns — fuel exhaustion
is the modelled non-termination of its `while (b.f > c.f)` loop, which a monotone objective keeps
going for ever — the middle point of the triple has the lowest value, the three values are the
function at the three abscissae, and the middle value is not above the function at either starting
abscissa (the search only goes downhill).  The abscissa proposed by the parabolic fit plays no role
in the proof: the statement holds whatever the division in it yields. -/
theorem bracket_partial_correct (I : FunI F ℝ) (g : ℝ → ℝ) (hd : Det I g J) (fuel : Nat) (a b : ℝ)
    (fn fn' : F) (pl : PList ℝ) (k : Bracket ℝ) (hJ : J fn pl)
    (h : bracketMinimum I fuel a b fn pl = .ok (fn', k)) :
    Spec.bracketOk k = true ∧ k.a.f = g k.a.x ∧ k.b.f = g k.b.x ∧ k.c.f = g k.c.x ∧
    k.b.f ≤ g a ∧ k.b.f ≤ g b := by
  have ho := outward_spec I g hd fuel a b fn pl hJ
  rw [h] at ho
  obtain ⟨hk, hbc, -⟩ := ho
  refine ⟨?_, hk.a, hk.b, hk.c, le_trans hk.bm (min_le_left _ _), le_trans hk.bm (min_le_right _ _)⟩
  simp [Spec.bracketOk, hk.ba, hbc]

/-- the same for the objective of the harness: any objective `obj`, any point `pt0` of any dimension,
any coordinate `k` of it, searched through an unconstrained parameter of precision 0 (plain or
auto-correcting): the values of the triple are the objective at `pt0` with coordinate `k` replaced -/
theorem bracket_objective (obj : List ℝ → ℝ) (D : Deriv ℝ) (cap : Option Nat) (pt0 : List ℝ) (k : Nat) (hk : k < pt0.length)
    (q : NP ℝ) (hq : q.name = k) (hp : q.p.precision = 0) (hc : q.p.constraint = none)
    (log : List (List ℝ)) (fuel : Nat) (a b : ℝ) (inward : Bool) (n : Nat) (fn' : Fn ℝ) (br : Bracket ℝ)
    (h : (if inward then inwardBracketMinimum (Fn.iface obj D cap) fuel a b n ⟨pt0, log⟩ [q]
          else bracketMinimum (Fn.iface obj D cap) fuel a b ⟨pt0, log⟩ [q]) = .ok (fn', br)) :
    Spec.bracketOk br = true ∧ br.b.f = obj (pt0.set k br.b.x) ∧
    br.a.f = obj (pt0.set k br.a.x) ∧ br.c.f = obj (pt0.set k br.c.x) := by
  have hJ : Along pt0 k (⟨pt0, log⟩ : Fn ℝ) [q] := ⟨⟨q, rfl, hq, hp, hc⟩, hk, rfl, fun _ _ => rfl⟩
  cases inward with
  | true =>
    obtain ⟨h1, -, -, h4, h5, h6⟩ := inward_bracket_lowest _ _ (objective_det obj D cap pt0 k) fuel a b n _ _ _ _ hJ h
    exact ⟨h1, h5, h4, h6⟩
  | false =>
    obtain ⟨h1, h2, h3, h4, -, -⟩ := bracket_partial_correct _ _ (objective_det obj D cap pt0 k) fuel a b _ _ _ _ hJ h
    exact ⟨h1, h3, h2, h4⟩

/-- non-vacuity: the hypotheses of the theorems above are met by the objective `x ↦ x₀ + x₁` at the
point `(3, 4)`, searched along coordinate 0 -/
example : ∃ (I : FunI (Fn ℝ) ℝ) (g : ℝ → ℝ) (J : Fn ℝ → PList ℝ → Prop),
    Det I g J ∧ J ⟨[3, 4], []⟩ [⟨0, ⟨3, 0, none, false⟩⟩] ∧ g 5 = 9 :=
  ⟨Fn.iface (fun x => x.sum) ⟨fun _ _ => 0, fun _ _ => 0⟩ none, _, _, objective_det _ _ _ [3, 4] 0,
   ⟨⟨_, rfl, rfl, rfl, rfl⟩, by simp, rfl, fun _ _ => rfl⟩, by norm_num⟩

end Bpp.C10
