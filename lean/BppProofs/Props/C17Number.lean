import BppProofs.Lemmas.NumFmtArith
import BppProofs.Props.C17
/-!
# C17 — "numbers formatted with sufficient precision parse back to the same value"

Model: `BppModel/Text/NumFmt.lean` — `TextTools::toString(double, precision)`
(src/Bpp/Text/TextTools.h:127-133: `ostringstream << setprecision(precision) << d`, the `%.{P}g`
conversion) on the exact value of the double (sign, |d| as a rational), for **every** finite double
and every precision: rounding to `P = max(precision,1)` significant digits (ties to even), fixed
notation for `-4 ≤ X < P`, scientific otherwise, trailing zeros dropped.  The driver compares the
model's text with the implementation's for doubles sampled by bit pattern, short decimals, dyadic
values, powers of ten and rounding ties, at every precision 0..20.
The reader is `toDouble` of `Number.lean`, whose value is the rational the numeral denotes (libc's
final decimal→binary rounding is not modelled).
-/
namespace Bpp.C17
open Bpp.Text Bpp.Text.Number Bpp.Text.NumFmt

/-- the text is a numeral of the strict decimal grammar, for every number and precision -/
theorem toString_in_grammar (prec : Nat) (neg : Bool) (a : Rat) :
    Decimal '.' 'e' (toStringPrec prec neg a) :=
  ⟨fmtParts prec neg a, fmtParts_wf prec neg a, rfl⟩

/-- **what `toDouble` makes of `toString(d, precision)`**: the rounding of `d` to `precision`
significant decimal digits, `±N·10^(X-P+1)` -/
theorem toString_parses_to_rounded (prec : Nat) (neg : Bool) (a : Rat) (ha : 0 ≤ a) :
    toDouble '.' 'e' (toStringPrec prec neg a) = some (roundedValue prec neg a) := by
  unfold toStringPrec
  rw [toDouble_value sane_default.1 _ (fmtParts_wf prec neg a), fmtParts_value prec neg a (digitsOk_always prec a ha)]

/-- **the round trip is exact** for every number with at most `precision` significant decimal
digits (`fitsPrec`, decidable) -/
theorem toString_roundtrip (prec : Nat) (neg : Bool) (a : Rat) (ha : 0 ≤ a) (hfit : fitsPrec prec a = true) :
    toDouble '.' 'e' (toStringPrec prec neg a) = some (if neg then -a else a) := by
  rw [toString_parses_to_rounded prec neg a ha, roundedValue_exact prec neg a ha hfit]

/-- non-vacuity: 1 fits 6 digits (`#eval`: `fitsPrec 6 (2469/2)`, `fitsPrec 4 (1/16)`,
`fitsPrec 17 (3/1048576)` are true, `fitsPrec 17` of the double nearest 0.1 is false;
`toStringPrec 6 true (2469/2) = "-1234.5"`, `toStringPrec 6 false (1/1048576) = "9.53674e-07"`,
`toStringPrec 3 false 123456 = "1.23e+05"`, `toStringPrec 2 false (1999/2) = "1e+03"` — the kernel
cannot evaluate them by `decide`: `natDigits` is a well-founded recursion, and the driver compares
them with the implementation on every run) -/
example : fitsPrec 6 1 = true := by
  unfold fitsPrec
  rw [decExp_one]
  simp [pow10]

/-- **sufficient precision**: the relative error of write-then-read is at most half a unit of the
`P`-th digit, `|read (write d) − d| ≤ |d| / (2·10^(P-1))`, for `d = ±a` of either sign. -/
theorem toString_relative_error (prec : Nat) (neg : Bool) (a : Rat) (ha : 0 < a) :
    ∃ v, toDouble '.' 'e' (toStringPrec prec neg a) = some v ∧
      |v - (if neg then -a else a)| ≤ a / (2 * (10 : ℚ) ^ ((if prec = 0 then 1 else prec) - 1)) :=
  ⟨_, toString_parses_to_rounded prec neg a (le_of_lt ha), roundedValue_error_signed prec neg a ha⟩

/-- 17 digits: the error bound is below a quarter of `2⁻⁵²·|d|` (`10¹⁶ > 2⁵³`) -/
theorem seventeen_digits_suffice (a : Rat) (ha : 0 < a) :
    a / (2 * (10 : ℚ) ^ (17 - 1)) < a / 2 ^ 53 / 2 := by
  rw [div_div, div_lt_div_iff_of_pos_left ha (by positivity) (by positivity)]
  norm_num

/-- **`toString(d, 17)` then `toDouble`**: the value read is within `2⁻⁵⁴·|d|` of `d`, strictly.
The doubles next to a normal `d` are at distance at least `2⁻⁵³·|d|` (twice the bound; attained by
the neighbour below a power of two), so `d` is the only double within that distance and the
correctly rounded conversion of the value read gives `d` back.  THAT LAST STEP IS NOT A THEOREM HERE:
the set of doubles and rounding to nearest are not modelled (strtod is libc's); the driver checks it
on the implementation for every sampled double (clause `double_roundtrip`).
FULL statement (not proved): `∀ finite double d, strtod (toString (d, 17)) = d`. -/
theorem toString17_within_quarter_ulp_partial (neg : Bool) (a : Rat) (ha : 0 < a) :
    ∃ v, toDouble '.' 'e' (toStringPrec 17 neg a) = some v ∧
      |v - (if neg then -a else a)| < a / 2 ^ 53 / 2 := by
  obtain ⟨v, hv, hb⟩ := toString_relative_error 17 neg a ha
  refine ⟨v, hv, lt_of_le_of_lt ?_ (seventeen_digits_suffice a ha)⟩
  simpa using hb

example : (0 : ℚ) < 3602879701896397 / 36028797018963968 := by norm_num

end Bpp.C17
