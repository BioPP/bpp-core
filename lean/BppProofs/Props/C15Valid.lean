import BppProofs.Props.C15
import BppProofs.Lemmas.TreeValid
import BppProofs.Lemmas.TreeHistory
import BppProofs.Lemmas.TreeRefCheck
import BppProofs.Lemmas.TreeWalk
/-!
# C15 — the validity predicate of the tree container at full strength

`isValid()` is true exactly when the current graph is a tree spanning all its nodes from the root,
at every moment and regardless of earlier queries and edits:

* `isTree_iff` — on consistent tables (C14), the single-visit traversal `isTree`
  (GlobalGraph.cpp:668) answers true iff `IsTreeFrom g`: there is a parent function, defined on the
  nodes other than the root and strictly decreasing a depth towards the root, whose father-son pairs
  are exactly the relations of the graph (each way round when the graph is undirected).  Both
  directions are proved on the traversal itself (`Lemmas/TreeDfsSound.lean`, `TreeDfsComplete.lean`).
* `isTree_iff_unique_path` — for a directed graph that is: the root is a node and every node is joined to the root by
  exactly one directed path (`UpWalk`: the path listed from the node back to the root).
* `isTree_answers`, `isTree_raises_iff` — it answers whenever the root is a node and raises exactly when it is not.
* `history_consistent` — every history of the container keeps consistent tables.
* `isValid_iff` — for every history, the (cached) `isValid()` answers true iff `IsTreeFrom` of the current graph.
* `validRooted_refOf`, `isRootedTree_iff_validRooted`, `isTree_eq_ref_rooted` — the reference decision of the check for
  rooted trees (`isRootedTree`: in-degrees read off the edge table, every ancestor line ends at the root) accepts
  exactly the valid rooted trees, so the reference tree `refOf` is defined exactly on them and, on a directed graph
  whose root is a node, `isTree` answers what the reference answers.  The reference decision for *unrooted* trees,
  `isUnrootedTree` (connected from the root and |E| = |V| - 1), is connected to `IsTreeFrom` in
  `Props/C15ValidU.lean` (`isUnrootedTree_iff`, `isTree_eq_ref`, `isValid_eq_ref`).
-/
namespace Bpp.C15
open Bpp Bpp.Graph

/-- the traversal decides "tree spanning all nodes from the root" -/
theorem isTree_iff (g : G) (hc : Consistent g) : T.isTree g = .ok true ↔ IsTreeFrom g := T.isTree_iff hc

/-- for a rooted (directed) container: `isTree` answers true iff the root is a node and every node is
joined to the root by exactly one directed path -/
theorem isTree_iff_unique_path (g : G) (hc : Consistent g) (hd : g.directed = true) :
    T.isTree g = .ok true ↔
      (g.hasNode g.root = true ∧ ∀ n, g.hasNode n = true → ∃ w, UpWalk g g.root n w ∧ ∀ w', UpWalk g g.root n w' → w' = w) :=
  (T.isTree_iff hc).trans (isTreeFrom_iff_unique_path hc hd)

/-- it answers (true or false) whenever the root is a node ... -/
theorem isTree_answers (g : G) (hc : Consistent g) (hr : g.hasNode g.root = true) : ∃ b, T.isTree g = .ok b :=
  T.isTree_total hc hr

/-- ... and raises exactly when it is not (an empty container: `getOutgoingNeighbors(root_)` throws) -/
theorem isTree_raises_iff (g : G) (hc : Consistent g) : T.isTree g = .exc ↔ g.hasNode g.root = false := by
  constructor
  · intro h
    cases hr : g.hasNode g.root with
    | false => rfl
    | true => obtain ⟨b, hb⟩ := T.isTree_total hc hr; rw [hb] at h; cases h
  · exact T.isTree_root_absent

theorem isTree_false_iff (g : G) (hc : Consistent g) : T.isTree g = .ok false ↔ (g.hasNode g.root = true ∧ ¬ IsTreeFrom g) := by
  cases hr : g.hasNode g.root with
  | false => rw [T.isTree_root_absent hr]; exact ⟨nofun, fun h => (nomatch h.1)⟩
  | true => rw [TRes.ok_false_iff (T.isTree_total hc hr) (T.isTree_iff hc), and_iff_right rfl]

/-- every history of topology edits and queries, each call succeeding or raising, leaves consistent tables -/
theorem history_consistent (d : Bool) (ops : List TOp) : Consistent ((T.empty d).run ops).g :=
  (T.tinv_run ops _ (T.tinv_empty d)).1

/-- **isValid_iff**: after any history, `isValid()` answers true exactly when the current graph is a
tree spanning all its nodes from the root — whatever was asked or edited before -/
theorem isValid_iff (d : Bool) (ops : List TOp) :
    ((T.empty d).run ops).isValid.1 = .ok true ↔ IsTreeFrom ((T.empty d).run ops).g := by
  rw [isValid_is_isTree d ops]
  exact T.isTree_iff (history_consistent d ops)

/-- it answers false exactly when the root is a node and the graph is not such a tree -/
theorem isValid_false_iff (d : Bool) (ops : List TOp) :
    ((T.empty d).run ops).isValid.1 = .ok false ↔
      (((T.empty d).run ops).g.hasNode ((T.empty d).run ops).g.root = true ∧ ¬ IsTreeFrom ((T.empty d).run ops).g) := by
  rw [isValid_is_isTree d ops]
  exact isTree_false_iff _ (history_consistent d ops)

/-- the reference tree of the check (`refOf`: parent function read off the edge table) is defined
on every valid rooted tree -/
theorem validRooted_refOf (g : G) (hv : ValidRooted g) : refOf g = some (refRaw g) := by
  obtain ⟨P, hd, hr⟩ := hv.dtree
  exact hd.refOf hr

/-- the reference test of the check accepts exactly the valid rooted trees -/
theorem isRootedTree_iff_validRooted (g : G) (hc : Consistent g) : isRootedTree g = true ↔ ValidRooted g :=
  isRootedTree_iff hc

/-- on a directed graph whose root is a node, `isTree` answers what the reference decision answers -/
theorem isTree_eq_ref_rooted (g : G) (hc : Consistent g) (hd : g.directed = true) (hr : g.hasNode g.root = true) :
    T.isTree g = .ok (isTreeRef g) := by
  refine TRes.eq_ok_of_iff (T.isTree_total hc hr) ?_
  rw [isTreeRef, if_pos hd, isRootedTree_iff hc]
  exact ⟨fun hv => hv.tree, fun ht => ⟨hc, hd, ht⟩⟩

/-! non-vacuity: a valid rooted tree (0 -> 1 -> 3, 0 -> 2), a valid unrooted one, an invalid graph -/

def exOps : List TOp := [.createNode, .createNode, .createNode, .createNode, .link 0 1, .link 0 2, .link 1 3]

example : T.isTree ((T.empty true).run exOps).g = .ok true := by decide +kernel
example : T.isTree ((T.empty false).run exOps).g = .ok true := by decide +kernel
example : IsTreeFrom ((T.empty true).run exOps).g := (isTree_iff _ (history_consistent true exOps)).1 (by decide +kernel)
example : ¬ IsTreeFrom ((T.empty true).run (exOps ++ [.link 3 0])).g :=
  fun h => by have := (isTree_iff _ (history_consistent true _)).2 h; revert this; decide +kernel

theorem exTree_valid : ValidRooted ((T.empty true).run exOps).g :=
  ⟨history_consistent true exOps, by decide +kernel, by decide +kernel⟩

end Bpp.C15
