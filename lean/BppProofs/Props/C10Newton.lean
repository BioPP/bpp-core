import BppProofs.Lemmas.OptimNewton
/-!
# C10, part 7 — NewtonOneDimension in full

`doInit`, `doStep` (with the Felsenstein-Churchill correction loop), `FunctionStopCondition` and the
template's `optimize`, on the objective of the harness (any objective `obj : List ℝ → ℝ`, any
derivatives — what the derivatives are plays no role for these clauses), over `ℝ`.
-/
namespace Bpp.C10
open Bpp Bpp.Optim

/-- **newton1d_descent** (with `reported_value_consistent` and `Spec.stateAt` for this optimiser).
After `init` and `optimize` — whatever the derivatives, the tolerance, the cap, the number of steps
and of corrections:
* the value returned is not above the objective at the starting point (the function's point with the
  values of `init`'s list written into it);
* it is the objective at the point the function has been left at (`Spec.consistent`), that point holds
  the values the optimiser reports (`Spec.stateAt`), and it is the optimiser's current value.
Each step either accepts a trial whose value is not above the current one, or — corrections
exhausted — puts the function back where the step found it and reports the current value. -/
theorem newton1d_descent (obj : List ℝ → ℝ) (D : Deriv ℝ) (cap : Option Nat) (fuel : Nat)
    (s s1 s2 : St (Fn ℝ) (Newton1 ℝ) ℝ) (params : PList ℝ) (v : ℝ)
    (hnd : (names params).Nodup) (hlt : ∀ n ∈ names params, n < s.fn.point.length)
    (hinit : (newtonAlgo (Fn.iface obj D cap)).init s params = .ok s1)
    (hopt : (newtonAlgo (Fn.iface obj D cap)).optimize fuel s1 = .ok (s2, v)) :
    Spec.descent v (obj (matchPoint s.fn.point params)) = true ∧
    Spec.consistent obj v s2.fn.point = true ∧
    Spec.stateAt s2.fn.point (names s2.core.params) (values s2.core.params) = true ∧
    s2.core.cur = v := by
  obtain ⟨hi, -⟩ := newton_init_spec obj D cap s s1 params ⟨hnd, hlt⟩ hinit
  obtain ⟨h2, hcur⟩ := newton_optimize_spec obj D cap _ _ _ ⟨hnd, hlt⟩ fuel s1 s2 v hi hopt
  exact ⟨Spec.descent_iff.2 (hcur ▸ h2.below), Spec.consistent_iff.2 (hcur ▸ h2.cur), h2.sync.stateAt, hcur⟩

/-- every step on its own: the value it returns is not above the optimiser's current value -/
theorem newton1d_step_descent (obj : List ℝ → ℝ) (D : Deriv ℝ) (cap : Option Nat) (B : ℝ) (len : Nat) (ns : List Nat)
    (hns : ns.Nodup ∧ ∀ n ∈ ns, n < len) (s s' : St (Fn ℝ) (Newton1 ℝ) ℝ) (v : ℝ)
    (hi : Newton.Inv obj B len ns s) (h : newtonDoStep (Fn.iface obj D cap) s = .ok (s', v)) :
    v ≤ s.core.cur :=
  (newtonDoStep_spec obj D cap B len ns hns s s' v hi h).2

/-- non-vacuity: the invariant `Newton.Inv` is met by a state left at the parameter of the
one-parameter list of the harness -/
example : Newton.Inv (fun x => x.sum) 7 2 [0]
    ({ core := { params := [⟨0, ⟨3, 0, none, false⟩⟩], policy := .keep, nbEvalMax := 10, nbEval := 0, cur := 7, tol := false,
                 initialized := true, tolerance := 0, callCount := 0, burnin := 0, lastF := 0, newF := 0 },
       fn := ⟨[3, 4], []⟩, ext := ⟨0, 10⟩ } : St (Fn ℝ) (Newton1 ℝ) ℝ) :=
  ⟨by norm_num, by intro q hq; simp at hq; subst hq; rfl, rfl, rfl, le_refl _⟩

end Bpp.C10
