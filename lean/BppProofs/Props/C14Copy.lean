import BppProofs.Lemmas.ObserverExt
import BppProofs.Lemmas.ObserverForget
import BppProofs.Props.C14Observer
/-!
# C14 — graph-level operations under observers, and copies by object identity

* **deleted items are forgotten in every map — whoever deletes them.**  Every mutator of
  `GlobalGraph` called directly on a graph that has registered observers (`createNodeOnEdge`,
  `createNodeFromEdge`, `createNodeFromNode`, `link`, `unlink`, `deleteNode`, `switchNodes`,
  `makeDirected`, `makeUndirected`, `setRoot`) tells the observers about every node and edge it
  removes (`graph_ops_notify`), and once told, every observer has the object of every vanished
  node / edge in none of its four maps (`graph_op_forgets`, `observer_unlink_forgets`).
  `Obs.forgotOk` — what the driver evaluates on the implementation's tables after every
  operation — is that statement (`forgotOk_is_forgot_dead`).
* **a copy is independent.**  Objects are identified by (owning observer, label)
  (`BppModel/ObserverExt.lean`).  The copy constructor / `clone()` / `operator=` store only
  freshly made objects, in all eight maps (`copy_independent`), share no object with the source
  (`copy_shares_nothing`), and — owners forgotten — are the label-level `copyObs` the other
  theorems are about (`copy_labels`).  `IObs.foreign` is what the driver evaluates on every
  observer after every operation.
* the invariant over histories that also use `clone()`, `operator=`, the constructor on an
  existing graph and `setRoot(Nref)` (`assoc_bijective_ext`).
-/
namespace Bpp.C14
open Bpp Bpp.Graph Bpp.AL

/-! ## graph-level operations on a graph with observers -/

/-- **graph_ops_notify**: whatever mutator is called on the graph itself — succeeding or raising —
the notifications it queues for its observers name every node and every edge that was in the
graph before and is not afterwards -/
theorem graph_ops_notify (g : G) (hc : Consistent g) (op : Op) :
    ∃ evs, (g.applyR op).state.pending = g.pending ++ evs ∧
      (∀ n, g.hasNode n = true → (g.applyR op).state.hasNode n = false → n ∈ notifiedNodes evs) ∧
      (∀ e, g.hasEdge e = true → (g.applyR op).state.hasEdge e = false → e ∈ notifiedEdges evs) :=
  G.applyR_notified hc op

/-- `orientate()` — the public mutator that re-orients the graph from its root through a sequence of
`switchNodes` calls steered by a copy of the graph, and may raise half-way (reciprocal relations,
a graph that is not connected): whether it succeeds or raises the three views agree afterwards,
and nothing was removed without the observers being told -/
theorem orientate_consistent (g : G) (hc : Consistent g) :
    Consistent g.orientate.state ∧
    ∃ evs, g.orientate.state.pending = g.pending ++ evs ∧
      (∀ n, g.hasNode n = true → g.orientate.state.hasNode n = false → n ∈ notifiedNodes evs) ∧
      (∀ e, g.hasEdge e = true → g.orientate.state.hasEdge e = false → e ∈ notifiedEdges evs) := by
  refine ⟨?_, G.orientate_notified hc⟩
  have := G.orientate_consistent hc
  cases h : g.orientate <;> rw [h] at this <;> exact this

/-- … along every history of the other operations -/
theorem orientate_consistent_inv (d : Bool) (ops : List Op) : Consistent ((Graph.empty d).run ops).orientate.state :=
  (orientate_consistent _ (consistent_inv d ops)).1

/-- non-vacuity: 1->0, 1->2 rooted at 0 is re-oriented into 0->1->2 (edge ids kept); with the
reciprocal pair 0<->1 the call raises -/
example : ((Graph.empty true).run [.createNode, .createNode, .createNode, .link 1 0, .link 1 2]).orientate.state.edges
    = [(0, (0, 1)), (1, (1, 2))] := by decide
example : ((Graph.empty true).run [.createNode, .createNode, .link 1 0, .link 0 1]).orientate.raised = true := by decide

/-- the graph a world is left with by a graph-level operation -/
theorem graphOp_graph (w : World) (op : Op) :
    (w.step (.graph op)).g = { (w.g.applyR op).state with pending := [] } := by
  simp only [World.step, World.graphOp]
  cases w.g.applyR op <;> rfl

/-- **graph_op_forgets** (deleted_forgotten, graph level): a mutator is called directly on the
graph of a world in order (any reachable world, `assoc_bijective`).  Every observer `k` is still
there afterwards and the object it had associated to a node (edge) that the operation removed —
e.g. the edge split by `createNodeOnEdge` / `createNodeFromEdge`, the edges of a deleted node —
is a key of neither object→id nor object→index and sits in no slot of id→object nor index→object -/
theorem graph_op_forgets (w : World) (hw : WInv w) (op : Op) (k : Nat) (o : Obs) (hk : w.getObs k = some o) :
    ∃ o', (w.step (.graph op)).getObs k = some o' ∧ ForgotDead (w.step (.graph op)).g o o' := by
  have hn := G.applyR_notified hw.graph op
  obtain ⟨o', h1, h2⟩ := deliver_forgets hw hn k o hk
  refine ⟨o', ?_, ?_⟩
  · simp only [World.step, World.graphOp]
    cases hr : w.g.applyR op <;> rw [hr] at h1 <;> exact h1
  · rw [graphOp_graph]
    exact ⟨fun a n ha hd => h2.1 a n ha hd, fun x e hx hd => h2.2 x e hx hd⟩

/-- … the same through `unlink(A, B)` of any observer: the other observers (copies) forget too -/
theorem observer_unlink_forgets (w : World) (hw : WInv w) (j a b : Nat) (k : Nat) (o : Obs) (hk : w.getObs k = some o) :
    ∃ o', ((w.unlink j a b).world w).getObs k = some o' ∧ ForgotDead ((w.unlink j a b).world w).g o o' := by
  have same : ∃ o', w.getObs k = some o' ∧ ForgotDead w.g o o' :=
    ⟨o, hk, forgotDead_of_shrunk (Shrunk.refl o) (hw.obs k o hk)⟩
  unfold World.unlink
  rcases hj : w.getObs j with _ | oj
  · exact same
  · simp only
    rcases find a oj.Ng with _ | ia
    · exact same
    · rcases find b oj.Ng with _ | ib
      · exact same
      · simp only
        have hn := G.unlink_notified hw.graph ia ib
        obtain ⟨o', h1, h2⟩ := deliver_forgets hw hn k o hk
        cases hr : G.unlink ia ib w.g <;> rw [hr] at h1 h2 <;> exact ⟨o', h1, h2⟩

/-- the executable predicate of the driver is `ForgotDead` -/
theorem forgotOk_is_forgot_dead (g : G) (o o' : Obs) (hn : Asc o.Ng) (he : Asc o.Eg) :
    Obs.forgotOk g o o' = true ↔ ForgotDead g o o' := forgotOk_iff g o o' hn he

/-- non-vacuity: an observer with an indexed edge object on edge 0; `createNodeOnEdge 0` on the
graph removes edge 0 and the observer has forgotten the object in all four edge maps -/
example :
    ((World.init true).run [.createNode 0 0, .createNode 0 1, .link 0 0 1 (some 5), .addEdgeIndex 0 5]).getObs 0 =
      some { gN := [some 0, some 1], gE := [some 5], Ng := [(0, 0), (1, 1)], Eg := [(5, 0)], iE := [some 5], Ei := [(5, 0)] } ∧
    ((World.init true).run [.createNode 0 0, .createNode 0 1, .link 0 0 1 (some 5), .addEdgeIndex 0 5,
        .graph (.createNodeOnEdge 0)]).getObs 0 =
      some { gN := [some 0, some 1], gE := [none], Ng := [(0, 0), (1, 1)], Eg := [], iE := [none], Ei := [] } := by
  decide

/-! ## a copy owns independent objects -/

/-- **copy_independent**: in the observer built by the copy constructor (`clone()`, `operator=`)
into slot `k`, every object in every one of the eight maps is one of the objects made by that
copy — whatever the source holds -/
theorem copy_independent (k : Nat) (s : IObs) :
    (IObs.copyI k s).foreign k = none ∧ ∀ a ∈ (IObs.copyI k s).objects, a.owner = k :=
  ⟨IObs.copyI_foreign k s, (IObs.foreign_none_iff k _).mp (IObs.copyI_foreign k s)⟩

/-- … so it shares no object with a source that holds none of the copy's objects (a source in
another slot that is itself in order) -/
theorem copy_shares_nothing (j k : Nat) (hjk : j ≠ k) (s : IObs) (hs : s.foreign j = none) :
    ∀ a, a ∈ s.objects → a ∉ (IObs.copyI k s).objects := by
  intro a ha hc
  have h1 := (IObs.foreign_none_iff j s).mp hs a ha
  have h2 := (copy_independent k s).2 a hc
  exact hjk (h1.symm.trans h2)

/-- **copy_labels**: with the owners forgotten the identity-level copy is the label-level
`copyObs` of `copy_same_relations` / `assoc_bijective` -/
theorem copy_labels (j k : Nat) (o : Obs) : IObs.copyI k (o.tag j) = (World.copyObs o).tag k :=
  IObs.copyI_tag j k o

/-- an observer of the label-level model holds its own objects only -/
theorem tag_owned (k : Nat) (o : Obs) : (o.tag k).foreign k = none := by
  rw [IObs.foreign_none_iff_owned, IObs.tag_eq]
  exact ⟨IObs.vecOwned_tv k _, IObs.vecOwned_tv k _, IObs.mapOwned_tm k _, IObs.mapOwned_tm k _,
    IObs.vecOwned_tv k _, IObs.vecOwned_tv k _, IObs.mapOwned_tm k _, IObs.mapOwned_tm k _⟩

/-- non-vacuity of `copy_independent`: a copy constructor that stores the source's edge object in
`indexToE_` (and the fresh one in the other three edge maps) is caught by the same predicate -/
example :
    (IObs.copyI 1 (Obs.tag 0 { gN := [some 0, some 1], gE := [some 5], Ng := [(0, 0), (1, 1)], Eg := [(5, 0)], iE := [none, some 5], Ei := [(5, 1)] })).foreign 1 = none ∧
    (IObs.copyI_aliasing 1 (Obs.tag 0 { gN := [some 0, some 1], gE := [some 5], Ng := [(0, 0), (1, 1)], Eg := [(5, 0)], iE := [none, some 5], Ei := [(5, 1)] })).foreign 1 = some "indexToE" := by
  decide

/-! ## histories with `clone()`, `operator=`, a second observer constructed on the graph, `setRoot(Nref)` -/

theorem winv_stepX (w : World) (hw : WInv w) (op : WOpX) : WInv (w.stepX op) := by
  cases op with
  | base op => exact winv_step w hw op
  | clone j k => exact all_world hw ((world_copy_step w j k).step.inv hw)
  | assign j k => exact all_world hw ((world_assign_step w j k).step.inv hw)
  | attach k => exact all_world hw (world_attach_inv hw k)
  | setRoot k a => exact all_world hw ((world_setRootObj_step w k a).inv hw)
  | orientate => exact graphOp_winv hw _ (G.orientate_consistent hw.graph).state (G.orientate_notified hw.graph)
  | notify ev => exact world_notifyDirect_inv hw ev
  | nullCall k => simp only [World.stepX, World.nullRefused]; cases w.getObs k <;> exact hw
  | graphAssign d hist =>
    have hc := consistent_inv d hist
    exact world_graphAssign_inv hw (consistent_quiet hc)

/-- **assoc_bijective**, over all histories that also copy observers with `clone()` and
`operator=`, construct further observers on the same graph, set the root through an object, and
assign another graph (any graph reachable from the empty one) to the observed graph -/
theorem assoc_bijective_ext (d : Bool) (ops : List WOpX) : WInv ((World.init d).runX ops) :=
  foldl_ind WInv _ (fun w op hw => winv_stepX w hw op) ops _ (winv_init d)

/-- `operator=` (as repaired) gives the target the relations of the source, like the copy constructor -/
theorem assign_same_relations (w w' : World) (j k : Nat) (o : Obs) (hj : w.getObs j = some o) (hjk : j ≠ k)
    (h : w.assign j k = .ok () w') : w'.getObs k = some (World.copyObs o) := by
  obtain ⟨rfl, hk⟩ := World.assign_ok hj hjk h
  rw [getObs_setObs _ _ _ _ hk]; simp

example : ((World.init true).runX [.base (.createNode 0 3), .clone 0 1, .base (.createNode 1 4), .assign 1 2, .attach 2, .assign 1 2,
    .setRoot 2 4]).getObs 2 = some { gN := [some 3, some 4], Ng := [(3, 0), (4, 1)] } := by decide

end Bpp.C14
