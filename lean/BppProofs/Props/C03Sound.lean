import BppProofs.Props.C03
import BppProofs.Lemmas.AliasCheck
/-!
# C03 — the clauses the driver evaluates are theorems of the model

`check_sound`: for every reachable world and every operation of the protocol, the model's own answer
passes every clause `Alias.checkStep` evaluates (so a clause that fails on the implementation's answer
is a deviation from a *proved* behaviour); the converse of the refusal clause; `setAllParametersValues`;
the bulk form after its repair; the queries `getAlias` / `getAliases` / `getFrom`; histories of updates.
-/
namespace Bpp.C03
open Bpp Bpp.Alias
open Bpp.ParamList (Bnd Con Par Store ObjId nameOf find? hasParameter names)

/-- **check_sound, one step**: in a world satisfying the invariants of reachable worlds, for every
operation of the protocol that reaches the library (`hneeds`: the slots it names hold objects; `hsl`:
they are among the `NSLOT` observed slots) and is well-formed (`Op.wf`: an added parameter carries the
namespace of its owner), the step the model takes passes every clause of `checkStep`:
termination, no undefined behaviour, frame, the observable invariant, and the clause of the operation
(`alias_tracks`, `update_shape`, `refuse`, `refuse_unchanged`, `alias_refused_wrongly`, `alias_raise_unchanged`, `alias_effect`,
`unalias_unchanged`, `unalias_restores`, `bulk_links`, `copy_carries`, `assign_carries`,
`namespace_preserves`). -/
theorem check_sound_step {w : World} (h : Inv w) (hok : HeapOk w) (op : Op) (hwf : op.wf w)
    (hneeds : ∀ k ∈ op.needs, (w.objs k).isSome = true) (hsl : ∀ k ∈ op.slot :: op.needs, k < NSLOT) :
    checkStep (viewOf w) op (step w op).2 (viewOf (step w op).1) = none := by
  have hslot : op.slot < NSLOT := hsl _ (List.mem_cons_self ..)
  have hobj : ∀ k ∈ op.needs, ∃ o, w.objs k = some o := fun k hk => Option.isSome_iff_exists.1 (hneeds k hk)
  refine checkStep_common (step_no_hang h op hwf) (step_no_ub h op hwf hneeds)
    (frameOk_viewOf (fun j hj => step_view_frame h op hwf j hj))
    (invB_viewOf (inv_step h op hwf) (heapOk_rel.step h op hwf hok)) ?_
  cases op with
  | setv k n v =>
    obtain ⟨o, ho⟩ := hobj k (List.mem_singleton_self _)
    have hk : k < NSLOT := hslot
    have sb := (update_sameBut w k).1 n v
    show (match (viewOf w).get k, (viewOf (apSetParameterValue w k n v).w).get k with | some sb, some sa => _ | _, _ => _) = none
    simp only [viewOf_get _ hk, sb.objs, ho, Option.map_some]
    exact upd_clause (sameShape_svOf sb o) (fun he _ => (tracksOk_updates h ho).1 n v (isErr_ofErr_none he))
  | setvs k src =>
    obtain ⟨o, ho⟩ := hobj k (List.mem_singleton_self _)
    have hk : k < NSLOT := hslot
    have sb := (update_sameBut w k).2.1 src
    show (match (viewOf w).get k, (viewOf (apSetParametersValues w k src).w).get k with | some sb, some sa => _ | _, _ => _) = none
    simp only [viewOf_get _ hk, sb.objs, ho, Option.map_some]
    exact upd_clause (sameShape_svOf sb o) (fun he htr => (tracksOk_updates h ho).2.1 src htr (isErr_ofErr_none he))
  | matchvs k src =>
    obtain ⟨o, ho⟩ := hobj k (List.mem_singleton_self _)
    have hk : k < NSLOT := hslot
    have sb := (update_sameBut w k).2.2.1 src
    show (match (viewOf w).get k, (viewOf (apMatchParametersValues w k src).1.w).get k with | some sb, some sa => _ | _, _ => _) = none
    simp only [viewOf_get _ hk, sb.objs, ho, Option.map_some]
    refine upd_clause (sameShape_svOf sb o) (fun he htr => (tracksOk_updates h ho).2.2.1 src htr ?_)
    cases hh : (apMatchParametersValues w k src).1.err with
    | none => rfl
    | some e =>
      have he' : (match (apMatchParametersValues w k src).1.err with
        | some e => Out.err e | none => Out.flag (apMatchParametersValues w k src).2).isErr = false := he
      rw [hh] at he'; cases he'
  | setallv k src =>
    obtain ⟨o, ho⟩ := hobj k (List.mem_singleton_self _)
    have hk : k < NSLOT := hslot
    have sb := (update_sameBut w k).2.2.2 src
    show (match (viewOf w).get k, (viewOf (apSetAllParametersValues w k src).w).get k with | some sb, some sa => _ | _, _ => _) = none
    simp only [viewOf_get _ hk, sb.objs, ho, Option.map_some]
    exact upd_clause (sameShape_svOf sb o) (fun he htr => (tracksOk_updates h ho).2.2.2 src htr (isErr_ofErr_none he))
  | «alias» k p1 p2 =>
    obtain ⟨o, ho⟩ := hobj k (List.mem_singleton_self _)
    have hk : k < NSLOT := hslot
    obtain ⟨o', ho'⟩ := aliasPair_slot (h.obj k o ho) ho p1 p2
    simp only [step, stepWR, viewOf_get _ hk, ho, ho', Option.map_some]
    have hsame : (aliasPair w k p1 p2).err ≠ none → svOf (aliasPair w k p1 p2).w o' = svOf w o := fun he => by
      have hw := aliasPair_err_unchanged h ho p1 p2 he
      rw [hw, ho] at ho'; cases ho'; rw [hw]
    refine alias_clause (fun hm => (refuse_clause h ho p1 p2 hm).1) (refuse_only_if h ho p1 p2) hsame (fun hh => ?_)
    obtain ⟨o'', ho'', hok'⟩ := aliasOk_model h ho hh
    rw [ho'] at ho''; cases ho''; exact hok'
  | unalias k p1 p2 =>
    obtain ⟨o, ho⟩ := hobj k (List.mem_singleton_self _)
    have hk : k < NSLOT := hslot
    cases hh : (unalias w k p1 p2).err with
    | some e =>
      have hw := ((unalias_spec (h.obj k o ho) ho p1 p2).1 (by rw [hh]; exact Option.some_ne_none e)).1
      simp only [step, stepWR, hw, viewOf_get _ hk, ho, Option.map_some]
      exact raise_clause (fun _ => rfl) (fun e0 => by rw [hh] at e0; cases e0)
    | none =>
      obtain ⟨o', ho', hok'⟩ := unaliasOk_model h ho hh
      simp only [step, stepWR, viewOf_get _ hk, ho, ho', Option.map_some]
      exact raise_clause (fun e0 => absurd hh e0) (fun _ => hok')
  | bulk k es =>
    obtain ⟨o, ho⟩ := hobj k (List.mem_singleton_self _)
    have hk : k < NSLOT := hslot
    simp only [step, stepWR, viewOf_get _ hk, ho, Option.map_some]
    cases ho' : (bulkAlias w k es).w.objs k with
    | none => rfl
    | some o' =>
      refine ok_clause (fun hh => ?_)
      obtain ⟨o'', ho'', hok'⟩ := bulkOk_model h ho es hh
      rw [ho'] at ho''; cases ho''; exact hok'
  | copy s d =>
    obtain ⟨o, ho⟩ := hobj s (List.mem_singleton_self _)
    have hd : d < NSLOT := hslot
    have hs : s < NSLOT := hsl s (List.mem_cons_of_mem _ (List.mem_singleton_self _))
    obtain ⟨_, od, hod, hsv, _⟩ := copy_carries h (d := d) ho
    simp only [step, stepWR, viewOf_get _ hd, viewOf_get _ hs, ho, hod, Option.map_some, hsv, bne_self_eq_false, Bool.false_eq_true, if_false, ite_self]
  | assign s d =>
    obtain ⟨o, ho⟩ := hobj s (List.mem_cons_self ..)
    obtain ⟨od0, hd0⟩ := hobj d (List.mem_cons_of_mem _ (List.mem_singleton_self _))
    have hd : d < NSLOT := hslot
    have hs : s < NSLOT := hsl s (List.mem_cons_of_mem _ (List.mem_cons_self ..))
    by_cases hsd : s = d
    · subst hsd
      simp only [step, stepWR, assign_self w s o ho, viewOf_get _ hd, ho, Option.map_some, bne_self_eq_false, Bool.false_eq_true, if_false, ite_self]
    · obtain ⟨_, od, hod, hsv, _⟩ := assign_carries h ho hd0 hsd
      simp only [step, stepWR, viewOf_get _ hd, viewOf_get _ hs, ho, hod, Option.map_some, hsv, bne_self_eq_false, Bool.false_eq_true, if_false, ite_self]
  | ns k pre =>
    obtain ⟨o, ho⟩ := hobj k (List.mem_singleton_self _)
    have hk : k < NSLOT := hslot
    obtain ⟨o', ho', hok'⟩ := namespaceOk_model h ho pre
    simp only [step, stepWR, viewOf_get _ hk, ho, ho', Option.map_some]
    exact ok_clause (fun _ => hok')
  | new k pre => rfl
  | add k p => rfl
  | aliases k => rfl
  | aliasOf k n => rfl
  | «from» k n => rfl

/-- **check_sound**: after every well-formed history (any length, any interleaving of the operations of
the protocol, raising ones included), whatever operation comes next, the model's answer and the views
before / after pass every clause the driver evaluates on the implementation. -/
theorem check_sound (ops : List Op) (hw : WfRun World.init ops) (op : Op) (hwf : op.wf (run World.init ops))
    (hneeds : ∀ k ∈ op.needs, ((run World.init ops).objs k).isSome = true) (hsl : ∀ k ∈ op.slot :: op.needs, k < NSLOT) :
    checkStep (viewOf (run World.init ops)) op (step (run World.init ops) op).2
      (viewOf (step (run World.init ops) op).1) = none :=
  check_sound_step (inv_reachable ops hw) (heapOk_run ops inv_init hw (fun j hj => absurd hj (Nat.not_lt_zero _))) op hwf hneeds hsl

/-- non-vacuity: the hypotheses hold of a history with links, a copy and a rename, for a bulk alias -/
example : let w := run abc [.alias 0 "a" "b", .copy 0 1, .ns 1 "m.", .setv 0 "a" 5]
    (∀ k ∈ (Op.bulk 0 [("c", "b")]).needs, (w.objs k).isSome = true) ∧
    checkStep (viewOf w) (.bulk 0 [("c", "b")]) (step w (.bulk 0 [("c", "b")])).2 (viewOf (step w (.bulk 0 [("c", "b")])).1) = none := by
  decide +kernel

/-! ## The converse of `refuse_clause` -/

/-- **a request is refused only if it must be**: when `aliasParameters(p1, p2)` raises
`ParameterNotFoundException` or `Exception` in a reachable world, then — on the observable view — a name
is unknown, `p2` already follows a parameter (**alias twice**), `p1 = p2`, or `p1` follows `p2` through a
chain of any length (**cycle**).  With `refuse_clause`: the pair form refuses exactly the requests the
property says it must refuse (the only other way it can raise is `ConstraintException`, when the value
of one parameter is outside the constraint it would take). -/
theorem refuse_clause_converse {w : World} (h : Inv w) {k : Nat} {o : Obj} (ho : w.objs k = some o) (p1 p2 : String)
    (hr : (aliasPair w k p1 p2).err = some .notfound ∨ (aliasPair w k p1 p2).err = some .bpp) :
    mustRefuse p1 p2 (svOf w o) = true := refuse_only_if h ho p1 p2 hr

/-- non-vacuity, and the third way to raise: `b = 5` does not fit `[0, 1]` -/
example : (step (run abc [.alias 0 "a" "b"]) (.alias 0 "b" "a")).2 = .err .bpp ∧
    (step (run World.init [.new 0 "", .add 0 ⟨"a", 5, none⟩, .add 0 ⟨"b", 1, some ⟨.fin 0, .fin 1, true, true⟩⟩])
      (.alias 0 "a" "b")).2 = .err .constraint := by decide +kernel

/-- **refused leaving everything unchanged, for every kind of refusal**: whatever `aliasParameters(p1, p2)`
raises in a reachable world — `ParameterNotFoundException`, `Exception` (alias twice, cycle) or
`ConstraintException` (a value outside the constraint the parameter would take) — the world afterwards
is exactly the world before. -/
theorem alias_refused_unchanged {w : World} (h : Inv w) {k : Nat} {o : Obj} (ho : w.objs k = some o) (p1 p2 : String)
    (he : (aliasPair w k p1 p2).err ≠ none) : (aliasPair w k p1 p2).w = w :=
  aliasPair_err_unchanged h ho p1 p2 he

/-- the constraint part as found narrowed `p2` and then raised from `p1`: a ∈ [0,10] = 2, b ∈ [5,20] = 6;
`alias(a, b)` raises `ConstraintException` (2 ∉ [5,10]) and left b ∈ [5,10]
(corpus/C03/witness-alias-constraint-partial.txt); the repaired code tests both values first -/
theorem alias_constraint_partial_legacy_witness :
    let w := run World.init [.new 0 "", .add 0 ⟨"a", 2, some ⟨.fin 0, .fin 10, true, true⟩⟩,
      .add 0 ⟨"b", 6, some ⟨.fin 5, .fin 20, true, true⟩⟩]
    (aliasConstraintsL w 0 1).err = some .constraint ∧
    ((aliasConstraintsL w 0 1).w.heap.get 1).con = some ⟨.fin 5, .fin 10, true, true⟩ ∧
    (step w (.alias 0 "a" "b")).2 = .err .constraint ∧
    (((step w (.alias 0 "a" "b")).1).heap.get 1).con = some ⟨.fin 5, .fin 20, true, true⟩ ∧
    mustRefuse "a" "b" (viewOf w |>.get 0 |>.getD default) = false := by decide +kernel

/-! ## `setAllParametersValues` -/

/-- **alias_tracks for `setAllParametersValues`**.  The call writes *every* parameter by name, alias
targets included, in the order of the object's parameter list, each write re-entering through the
listeners.  When the source list gives both ends of every link the same value (`SrcCons`; on the view:
`Alias.srcConsistent`) and the call returns, every parameter holds the value the list gives it and every
link is in sync — for every order of the parameters relative to the links, whether or not the links were
in sync before.  Conversely `SrcCons` is necessary for that outcome. -/
theorem alias_tracks_set_all {w : World} (h : Inv w) {k : Nat} {o : Obj} (ho : w.objs k = some o)
    (src : List (String × Rat)) (ok : (apSetAllParametersValues w k src).err = none) :
    (SrcCons w o src → (∀ i ∈ o.params, Agrees src (apSetAllParametersValues w k src).w i) ∧
      AllSynced (apSetAllParametersValues w k src).w o) ∧
    ((∀ i ∈ o.params, Agrees src (apSetAllParametersValues w k src).w i) →
      AllSynced (apSetAllParametersValues w k src).w o → SrcCons w o src) :=
  ⟨fun hc => setAll_consistent (h.obj k o ho) ho hc ok,
   fun hag hsy => setAll_consistent_conv (h.obj k o ho) ho ((update_sameBut w k).2.2.2 src) hag hsy⟩

/-- non-vacuity: c follows b follows a, all different; parameter order c, a, b; a consistent source puts
everything in sync; an inconsistent one (a = 7, b = 2) leaves b different from a: c := 9, then a := 7
propagates 7 to b and c, then b := 2 is written by name and propagates to c -/
example :
    let w := run World.init [.new 0 "", .add 0 ⟨"c", 3, none⟩, .add 0 ⟨"a", 1, none⟩, .add 0 ⟨"b", 2, none⟩,
      .alias 0 "a" "b", .alias 0 "b" "c"]
    let w1 := run w [.setallv 0 [("a", 7), ("b", 7), ("c", 7)]]
    let w2 := run w [.setallv 0 [("a", 7), ("b", 2), ("c", 9)]]
    (val w1 0, val w1 1, val w1 2) = (7, 7, 7) ∧ (val w2 0, val w2 1, val w2 2) = (2, 7, 2) := by decide +kernel

/-- **links in sync along histories of updates, all four routes**: starting from any world satisfying
the invariant (e.g. any reachable one), along every history — of any length, on any of the objects — of
`setParameterValue` of independent parameters, `setParametersValues` / `matchParametersValues` naming
independent parameters only and `setAllParametersValues` with a source consistent with the links, none
of which raises, every object whose links were in sync keeps them in sync: each parameter equals the
parameter it follows through a chain of any length (`synced_chain`). -/
theorem updates_history_keeps_sync (ops : List Op) {w : World} (h : Inv w) (hs : SafeRun w ops) {j : Nat} {o : Obj}
    (ho : w.objs j = some o) (hsy : AllSynced w o) : (run w ops).objs j = some o ∧ AllSynced (run w ops) o :=
  safeRun_synced ops h hs j o ho hsy

/-! ## The bulk form after its repair -/

/-- **bulk aliasing performs the links and leaves them in sync** (empty namespace — the one under which
the map's names are the names the pair form takes).  When `aliasParameters(map)` returns normally:
every entry `key -> val` is a wired link whose two ends hold the same value; every link the object had
before is still wired, and is in sync if it was before or if its source changed during the call — so
B = A right after the call for every pair the property speaks about. -/
theorem bulk_links_in_sync {w : World} (h : Inv w) {k : Nat} {o : Obj} (ho : w.objs k = some o) (hpre : o.pre = "")
    (es : List (String × String)) (ok : (bulkAlias w k es).err = none) :
    ∃ o', (bulkAlias w k es).w.objs k = some o' ∧ o'.params = o.params ∧ o'.pre = o.pre ∧
      (∀ e ∈ mkMap es, ∃ s t, Lk (bulkAlias w k es).w o' s t ∧ nameOf w.heap s = e.2 ∧ nameOf w.heap t = e.1 ∧
        val (bulkAlias w k es).w t = val (bulkAlias w k es).w s) ∧
      (∀ s t, Lk w o s t → Lk (bulkAlias w k es).w o' s t ∧
        ((val (bulkAlias w k es).w s ≠ val w s ∨ val w t = val w s) →
          val (bulkAlias w k es).w t = val (bulkAlias w k es).w s)) :=
  bulkAlias_synced h ho hpre es ok

/-- the end of the bulk form as found (`matchParametersValues` of values cloned before the links were
made) left a new alias different from its source: c follows a; the map makes a follow e and d follow c;
a takes 3 — and c with it —, then d was given c's *former* value 2 (corpus/C03/witness-bulk-stale.txt).
The repaired code gives 3. -/
theorem bulk_legacy_stale_witness :
    let w := run World.init [.new 0 "", .add 0 ⟨"a", 0, none⟩, .add 0 ⟨"c", 2, none⟩, .add 0 ⟨"d", 7, none⟩,
      .add 0 ⟨"e", 3, none⟩, .alias 0 "a" "c"]
    let wl := (bulkAliasG false w 0 [("a", "e"), ("d", "c")]).w
    let wr := (bulkAlias w 0 [("a", "e"), ("d", "c")]).w
    (val wl 0, val wl 1, val wl 2, val wl 3) = (3, 3, 2, 3) ∧ (val wr 0, val wr 1, val wr 2, val wr 3) = (3, 3, 3, 3) := by
  decide +kernel

/-- **known defect, not repaired** (findings/C03.json `C03-bulk-namespace`, clause `bulk_namespace` of
`Alias.checkKnown`): under a non-empty namespace the bulk form answers `ParameterNotFoundException` to a map
that names only existing parameters — it looks the names up with the namespace and the pair form adds
the namespace again.  Under the empty namespace the same map is linked (`bulk_links_in_sync`). -/
theorem bulk_namespace_witness :
    let w := run World.init [.new 0 "m.", .add 0 ⟨"m.a", 1, none⟩, .add 0 ⟨"m.b", 2, none⟩]
    (step w (.bulk 0 [("m.b", "m.a")])).2 = .err .notfound ∧ (step w (.bulk 0 [("b", "a")])).2 = .err .notfound ∧
    checkKnown (viewOf w) (.bulk 0 [("m.b", "m.a")]) (step w (.bulk 0 [("m.b", "m.a")])).2
      (viewOf (step w (.bulk 0 [("m.b", "m.a")])).1) = some "bulk_namespace" ∧
    (let w0 := run World.init [.new 0 "", .add 0 ⟨"a", 1, none⟩, .add 0 ⟨"b", 2, none⟩]
     (step w0 (.bulk 0 [("b", "a")])).2 = .ok) := by decide +kernel

/-- **known defect, not repaired** (findings/C03.json `C03-bulk-refused-partial`, clause
`bulk_refused_unchanged` of `Alias.checkKnown`): the map form refused for a cycle (or a double alias, an
unknown name, a constraint) keeps the links it had already made, and leaves them out of sync:
`{a->b, b->a, c->d}` raises, yet c now follows d with c = 3 ≠ d = 4.  The statement's "refused leaving
everything unchanged" is proved of the pair form only (`alias_refused_unchanged`). -/
theorem bulk_refused_partial_witness :
    let w := run World.init [.new 0 "", .add 0 ⟨"a", 1, none⟩, .add 0 ⟨"b", 2, none⟩, .add 0 ⟨"c", 3, none⟩, .add 0 ⟨"d", 4, none⟩]
    let r := step w (.bulk 0 [("a", "b"), ("b", "a"), ("c", "d")])
    r.2 = .err .bpp ∧ ((viewOf r.1).get 0).map (·.links) = some [("d", "c")] ∧ (val r.1 2, val r.1 3) = (3, 4) ∧
    checkKnown (viewOf w) (.bulk 0 [("a", "b"), ("b", "a"), ("c", "d")]) r.2 (viewOf r.1) = some "bulk_refused_unchanged" := by
  decide +kernel

/-! ## `getAlias`, `getAliases`, `getFrom`: what they answer, with and without namespace

The listeners know their source by its name *without* namespace (`from_`) and their target by its
full name (`name_`, `getAlias()`).  Accordingly: `getFrom` takes a full name and answers a short one;
`getAlias` takes a short name and answers full ones; `getAliases` maps full names to short ones.  Under
the empty namespace the two kinds of names coincide. -/

/-- `getAlias(n)` returns (never running out of stack) exactly the full names of the
parameters that follow — directly or through a chain of any length — the parameter whose name without
namespace is `n` -/
theorem getAlias_answers {w : World} (h : Inv w) {k : Nat} {o : Obj} (ho : w.objs k = some o) (n : String) :
    ∃ l, getAlias (o.reg.length + 1) w o n = .ok l ∧
      ∀ a, a ∈ l ↔ ∃ c p tc tp, Relation.TransGen (Follows w o) c p ∧ o.params[c]? = some tc ∧ o.params[p]? = some tp ∧
        nameOf w.heap tp = o.pre ++ n ∧ nameOf w.heap tc = a :=
  getAlias_spec (h.obj k o ho) ho n

/-- the keys of `getAliases()` are exactly the full names of the parameters that
follow a parameter, and each is mapped to the name without namespace of one of the parameters it
follows (its direct source or one further up: later listener ids overwrite earlier ones) -/
theorem getAliases_answers {w : World} (h : Inv w) {k : Nat} {o : Obj} (ho : w.objs k = some o) :
    ∃ m, getAliases w o = .ok m ∧
      (∀ a, a ∈ m.map Prod.fst ↔ ∃ e ∈ o.reg, ∃ t, o.params[(w.lis e.2).alias]? = some t ∧ nameOf w.heap t = a) ∧
      (∀ a n, (a, n) ∈ m → ∃ c p tc tp, Relation.TransGen (Follows w o) c p ∧ o.params[c]? = some tc ∧
        o.params[p]? = some tp ∧ nameOf w.heap tp = o.pre ++ n ∧ nameOf w.heap tc = a) :=
  getAliases_spec (h.obj k o ho) ho

/-- for the full name of a parameter that follows another one, `getFrom` answers the
name without namespace of that one; for every other string — in particular the name without namespace
of an aliased parameter under a non-empty namespace — it answers `""` -/
theorem getFrom_answers {w : World} (h : Inv w) {k : Nat} {o : Obj} (ho : w.objs k = some o) (name : String) :
    (∀ e ∈ o.reg, (w.lis e.2).name = name → getFrom w o name = (w.lis e.2).src) ∧
    ((∀ e ∈ o.reg, (w.lis e.2).name ≠ name) → getFrom w o name = "") :=
  getFrom_full (h.obj k o ho) name

/-- non-vacuity under a namespace: c follows b follows a -/
example :
    let w := run World.init [.new 0 "m.", .add 0 ⟨"m.a", 1, none⟩, .add 0 ⟨"m.b", 2, none⟩, .add 0 ⟨"m.c", 3, none⟩,
      .alias 0 "a" "b", .alias 0 "b" "c"]
    (step w (.aliasOf 0 "a")).2 = .strs ["m.b", "m.c"] ∧ (step w (.aliasOf 0 "m.a")).2 = .strs [] ∧
    (step w (.aliases 0)).2 = .pairs [("m.b", "a"), ("m.c", "b")] ∧
    (step w (.from 0 "m.c")).2 = .str "b" ∧ (step w (.from 0 "c")).2 = .str "" := by decide +kernel

/-- `getAlias` as found recursed on the *full* name of each alias: under a namespace it stopped after
one link, and when the full name of a parameter is the name without namespace of another one it never
returned (the model runs out of fuel; the library overflowed its stack:
corpus/C03/witness-getalias-namespace.txt).  Here p follows m.q and q follows m.p under "m.". -/
theorem getAlias_legacy_witness :
    let w := run World.init [.new 0 "m.", .add 0 ⟨"m.p", 1, none⟩, .add 0 ⟨"m.q", 2, none⟩, .add 0 ⟨"m.m.p", 3, none⟩,
      .add 0 ⟨"m.m.q", 4, none⟩, .alias 0 "m.q" "p", .alias 0 "m.p" "q"]
    (w.objs 0).map (fun o => getAliasG false (o.reg.length + 1) w o "m.q") = some (.error .hang) ∧
    (w.objs 0).map (fun o => getAlias (o.reg.length + 1) w o "m.q") = some (.ok ["m.p"]) ∧
    (let w' := run World.init [.new 0 "m.", .add 0 ⟨"m.a", 1, none⟩, .add 0 ⟨"m.b", 2, none⟩, .add 0 ⟨"m.c", 3, none⟩,
      .alias 0 "a" "b", .alias 0 "b" "c"]
     (w'.objs 0).map (fun o => getAliasG false (o.reg.length + 1) w' o "a") = some (.ok ["m.b"])) := by decide +kernel

/-! ## Chains and constraints (clause "the common value always satisfies the constraints both had")

`values_satisfy_constraints` (Props/C03.lean): no parameter ever holds a value its own constraint — or
any constraint it ever had — rejects; so the common value of `a`, `b`, `c` can never leave `c`'s
constraint.  What the pair form does not do is carry a constraint further up than the direct source:
after `alias(a, b); alias(b, c[0,1])` the parameter `a` stays unconstrained.  A value for `a` outside
`[0,1]` is then accepted by `a` and rejected by `b`: the update *raises* `ConstraintException` with `a`
already written.  The property quantifies over values inside the intersected constraints, which
excludes this update; the model transcribes it (tied), and for values every parameter below accepts the
update returns and `alias_tracks` holds. -/

/-- the partial write: a = 5 is written, b raises, c is untouched -/
theorem chain_constraint_partial_write_witness :
    let w := run World.init [.new 0 "", .add 0 ⟨"a", 0, none⟩, .add 0 ⟨"b", 0, none⟩,
      .add 0 ⟨"c", 0, some ⟨.fin 0, .fin 1, true, true⟩⟩, .alias 0 "a" "b", .alias 0 "b" "c"]
    (step w (.setv 0 "a" 5)).2 = .err .constraint ∧
    (let w' := (step w (.setv 0 "a" 5)).1; (val w' 0, val w' 1, val w' 2) = (5, 0, 0)) ∧
    (let w' := (step w (.setv 0 "a" 1)).1; (val w' 0, val w' 1, val w' 2) = (1, 1, 1)) := by decide +kernel

end Bpp.C03
