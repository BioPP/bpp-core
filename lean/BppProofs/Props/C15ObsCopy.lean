import BppProofs.Lemmas.TreeObsCopy
import BppProofs.Props.C15Obs
import BppProofs.Props.C14Copy
/-!
# C15, object level — observer copies of the tree container, removal of sons
(src/Bpp/Graph/AssociationTreeGraphImplObserver.h, model `BppModel/TreeObsCopy.lean`)

Proved here:
* over all histories of object-level calls that also **copy / clone / assign observers** and **remove sons**
  through an observer, the association invariant holds and the cached validity flag is sound
  (`tw_inv_ext`, `tw_cache_sound_ext`); the number of observer slots never changes (`obs_slots`);
* **a copy has the same relations** (`obs_copy_same_relations`, `obs_clone_same_relations`,
  `obs_assign_same_relations`): the copy constructor, `clone()` and `operator=` install in slot `k` an observer
  with the object↔id pairs of the source; the tree graph, the cached flag and the other observers are untouched;
* **a copy answers the same tree queries** (`obs_copy_same_tree`, `obs_copy_same_tree_rest`, and the same for
  `clone()` / `operator=`): father, edge to the father, leaves under a node, subtree nodes / edges, node / edge
  paths, MRCA, `hasFather`, number of sons — by label, object for object;
* **the copy holds fresh objects only** (`obs_copy_fresh_objects`): the predicate `copy_independent:<map>` the
  driver evaluates on the implementation's identity dump.
-/
set_option linter.unusedVariables false
namespace Bpp.C15
open Bpp Bpp.Graph Bpp.AL Bpp.Graph.TW

/-! ## the invariant over the extended histories -/

/-- **the association invariant over all histories** of object-level calls on the observed tree container,
including observer copies (copy constructor, `clone()`, `operator=`) and `removeSon` / `removeSons` through
an observer; each call succeeding or raising -/
theorem tw_inv_ext (d : Bool) (ops : List TWOpX) : WInv ((TW.init d).runX ops).w :=
  (runX_inv ops _ (inv_init d (C14.winv_init d))).winv

/-- **cache soundness over all those histories**: a set validity flag means the traversal answers true on
the graph as it is now (copying an observer does not touch the tree graph; removing a son resets the flag) -/
theorem tw_cache_sound_ext (d : Bool) (ops : List TWOpX) :
    ((TW.init d).runX ops).valid = true → T.isTree ((TW.init d).runX ops).w.g = .ok true :=
  (runX_inv ops _ (inv_init d (C14.winv_init d))).sound

/-- the world always has its three observer slots: the side condition `k < tw.w.obs.length` of the theorems
below is `k < 3` on every reachable state -/
theorem obs_slots (d : Bool) (ops : List TWOpX) : ((TW.init d).runX ops).w.obs.length = 3 :=
  runX_slots ops _ rfl

/-! ## a copy has the same relations -/

/-- **the copy constructor**: slot `k` (an existing slot: `hk`) holds the copy of observer `j`, with the same
object↔id pairs; the tree graph, the cached validity flag and every other observer are as before
(`hw` is not needed for this part; it is what makes the copy answer like the source, `obs_copy_same_tree`) -/
theorem obs_copy_same_relations (tw tw' : TW) (j k : Nat) (o : Obs) (hw : WInv tw.w) (hj : tw.w.getObs j = some o)
    (hk : k < tw.w.obs.length) (h : tw.copyObs j k = (.ok, tw')) :
    tw'.w.getObs k = some (World.copyObs o) ∧ (World.copyObs o).Ng = o.Ng ∧ (World.copyObs o).Eg = o.Eg ∧
    tw'.w.g = tw.w.g ∧ tw'.valid = tw.valid ∧ (∀ i, i ≠ k → tw'.w.getObs i = tw.w.getObs i) := by
  have hi := copyObs_ok hj hk h
  exact ⟨hi.slot, rfl, rfl, hi.graph, hi.valid, hi.others⟩

/-- **`clone()`** -/
theorem obs_clone_same_relations (tw tw' : TW) (j k : Nat) (o : Obs) (hw : WInv tw.w) (hj : tw.w.getObs j = some o)
    (hk : k < tw.w.obs.length) (h : tw.cloneObs j k = (.ok, tw')) :
    tw'.w.getObs k = some (World.copyObs o) ∧ (World.copyObs o).Ng = o.Ng ∧ (World.copyObs o).Eg = o.Eg ∧
    tw'.w.g = tw.w.g ∧ tw'.valid = tw.valid ∧ (∀ i, i ≠ k → tw'.w.getObs i = tw.w.getObs i) :=
  obs_copy_same_relations tw tw' j k o hw hj hk h

/-- **`operator=`** onto another observer (a successful assignment has a target, so slot `k` exists) -/
theorem obs_assign_same_relations (tw tw' : TW) (j k : Nat) (o : Obs) (hw : WInv tw.w) (hj : tw.w.getObs j = some o)
    (hjk : j ≠ k) (h : tw.assignObs j k = (.ok, tw')) :
    tw'.w.getObs k = some (World.copyObs o) ∧ (World.copyObs o).Ng = o.Ng ∧ (World.copyObs o).Eg = o.Eg ∧
    tw'.w.g = tw.w.g ∧ tw'.valid = tw.valid ∧ (∀ i, i ≠ k → tw'.w.getObs i = tw.w.getObs i) := by
  have hi := assignObs_ok hj hjk h
  exact ⟨hi.slot, rfl, rfl, hi.graph, hi.valid, hi.others⟩

/-- the copy is in order against the shared graph, like every observer of the world after the copy -/
theorem obs_copy_in_order (tw tw' : TW) (j k : Nat) (o : Obs) (hw : WInv tw.w) (hj : tw.w.getObs j = some o)
    (h : tw.copyObs j k = (.ok, tw')) : WInv tw'.w ∧ OInv tw'.w.g (World.copyObs o) := by
  obtain ⟨u, w', hr, ht⟩ := ofObsOnly_ok h
  have hs := world_copy_step tw.w j k
  have hr' : tw.w.copy j k = .ok u w' := hr
  rw [hr'] at hs
  have hg : tw'.w.g = tw.w.g := by rw [ht]; exact hs.2.1
  refine ⟨by rw [ht]; exact hs.2.2 hw, ?_⟩
  rw [hg]; exact Graph.copyObs_inv (hw.obs j o hj)

/-! ## a copy answers the same tree queries -/

/-- **the copy maps ids back to the same objects** (by label) as the source: `graphidToN_` / `graphidToE_`
rebuilt by the copy constructor agree with the source's at every id -/
theorem obs_copy_same_objects (g : G) (o : Obs) (hi : OInv g o) :
    (∀ id, (World.copyObs o).nodeFromGid id = o.nodeFromGid id) ∧
    (∀ e, (World.copyObs o).edgeFromGid e = o.edgeFromGid e) ∧
    (∀ ids, (World.copyObs o).nodesFromGids ids = o.nodesFromGids ids) ∧
    (∀ es, (World.copyObs o).edgesFromGids es = o.edgesFromGids es) :=
  ⟨copyObs_nodeFromGid hi, copyObs_edgeFromGid hi, fun ids => congrFun (copyObs_nodesFromGids hi) ids,
   fun es => congrFun (copyObs_edgesFromGids hi) es⟩

/-- **a copy answers the same tree queries**: after a successful copy of observer `j` into slot `k`, the copy
`c` answers `getFatherOfNode`, `getEdgeToFather`, `getLeavesUnderNode`, `getSubtreeNodes`,
`getNodePathBetweenTwoNodes` and `MRCA` like the source did, object for object (by label) -/
theorem obs_copy_same_tree (tw tw' : TW) (j k : Nat) (o : Obs) (hw : WInv tw.w) (hj : tw.w.getObs j = some o)
    (hk : k < tw.w.obs.length) (h : tw.copyObs j k = (.ok, tw')) (a b : Obj) :
    tw'.fatherOf (World.copyObs o) a = tw.fatherOf o a ∧
    tw'.edgeToFather (World.copyObs o) a = tw.edgeToFather o a ∧
    tw'.leavesUnderObj (World.copyObs o) a = tw.leavesUnderObj o a ∧
    tw'.subtreeNodesObj (World.copyObs o) a = tw.subtreeNodesObj o a ∧
    tw'.nodePathObj (World.copyObs o) a b = tw.nodePathObj o a b ∧
    tw'.mrcaObj (World.copyObs o) [a, b] = tw.mrcaObj o [a, b] := by
  have hi := copyObs_ok hj hk h
  have q := copy_queries (hw.obs j o hj) hi.graph hi.valid a b [a, b]
  exact ⟨q.fatherOf, q.edgeToFather, q.leavesUnder, q.subtreeNodes, q.nodePath, q.mrca⟩

/-- … and the remaining object-level queries: `getSubtreeEdges`, `getEdgePathBetweenTwoNodes`, `MRCA` of any
list of objects, `hasFather`, `getNumberOfSons` -/
theorem obs_copy_same_tree_rest (tw tw' : TW) (j k : Nat) (o : Obs) (hw : WInv tw.w) (hj : tw.w.getObs j = some o)
    (hk : k < tw.w.obs.length) (h : tw.copyObs j k = (.ok, tw')) (a b : Obj) (l : List Obj) :
    tw'.subtreeEdgesObj (World.copyObs o) a = tw.subtreeEdgesObj o a ∧
    tw'.edgePathObj (World.copyObs o) a b = tw.edgePathObj o a b ∧
    tw'.mrcaObj (World.copyObs o) l = tw.mrcaObj o l ∧
    tw'.hasFatherObj (World.copyObs o) a = tw.hasFatherObj o a ∧
    tw'.nbSonsObj (World.copyObs o) a = tw.nbSonsObj o a := by
  have hi := copyObs_ok hj hk h
  have q := copy_queries (hw.obs j o hj) hi.graph hi.valid a b l
  exact ⟨q.subtreeEdges, q.edgePath, q.mrca, q.hasFather, q.nbSons⟩

/-- the same for `clone()` -/
theorem obs_clone_same_tree (tw tw' : TW) (j k : Nat) (o : Obs) (hw : WInv tw.w) (hj : tw.w.getObs j = some o)
    (hk : k < tw.w.obs.length) (h : tw.cloneObs j k = (.ok, tw')) (a b : Obj) :
    tw'.fatherOf (World.copyObs o) a = tw.fatherOf o a ∧
    tw'.edgeToFather (World.copyObs o) a = tw.edgeToFather o a ∧
    tw'.leavesUnderObj (World.copyObs o) a = tw.leavesUnderObj o a ∧
    tw'.subtreeNodesObj (World.copyObs o) a = tw.subtreeNodesObj o a ∧
    tw'.nodePathObj (World.copyObs o) a b = tw.nodePathObj o a b ∧
    tw'.mrcaObj (World.copyObs o) [a, b] = tw.mrcaObj o [a, b] :=
  obs_copy_same_tree tw tw' j k o hw hj hk h a b

/-- the same for `operator=` -/
theorem obs_assign_same_tree (tw tw' : TW) (j k : Nat) (o : Obs) (hw : WInv tw.w) (hj : tw.w.getObs j = some o)
    (hjk : j ≠ k) (h : tw.assignObs j k = (.ok, tw')) (a b : Obj) :
    tw'.fatherOf (World.copyObs o) a = tw.fatherOf o a ∧
    tw'.edgeToFather (World.copyObs o) a = tw.edgeToFather o a ∧
    tw'.leavesUnderObj (World.copyObs o) a = tw.leavesUnderObj o a ∧
    tw'.subtreeNodesObj (World.copyObs o) a = tw.subtreeNodesObj o a ∧
    tw'.nodePathObj (World.copyObs o) a b = tw.nodePathObj o a b ∧
    tw'.mrcaObj (World.copyObs o) [a, b] = tw.mrcaObj o [a, b] := by
  have hi := assignObs_ok hj hjk h
  have q := copy_queries (hw.obs j o hj) hi.graph hi.valid a b [a, b]
  exact ⟨q.fatherOf, q.edgeToFather, q.leavesUnder, q.subtreeNodes, q.nodePath, q.mrca⟩

/-! ## the copy holds fresh objects only -/

/-- **copy_independent** at the tree observer: the copy of observer `j` built in slot `k` — objects identified
by (owning pool, label) — holds in every one of its eight maps only objects of slot `k`'s own pool -/
theorem obs_copy_fresh_objects (j k : Nat) (o : Obs) : (IObs.copyI k (o.tag j)).foreign k = none := by
  rw [C14.copy_labels j k o]
  exact C14.tag_owned k (World.copyObs o)

/-! ## the hypotheses are satisfiable

`exHist` of `Props/C15Obs.lean` (the rooted tree `10 -> 11` with edge object 100, `10 -> 12` with edge object
101, built through observer 0), then observer 0 is copied into slot 1. -/

/-- the history of the examples -/
def exHistX : List TWOpX := exHist.map .base ++ [.copy 0 1]

example : WInv ((TW.init true).runX exHistX).w := tw_inv_ext true exHistX
/-- the copy succeeds, slot 1 was empty before … -/
example : (((TW.init true).runX (exHist.map .base)).copyObs 0 1).1 = .ok ∧
    ((TW.init true).runX (exHist.map .base)).w.getObs 1 = none := by decide +kernel
/-- … and holds an observer with the same object↔id pairs afterwards -/
example : (((TW.init true).runX exHistX).w.getObs 1).map (fun c => (c.Ng, c.Eg)) =
    (((TW.init true).runX exHistX).w.getObs 0).map (fun o => (o.Ng, o.Eg)) ∧
    (((TW.init true).runX exHistX).w.getObs 1).map (·.Ng) = some [(10, 0), (11, 1), (12, 2)] ∧
    (((TW.init true).runX exHistX).w.getObs 1).map (·.Eg) = some [(100, 0), (101, 1)] := by decide +kernel
/-- the copy answers the tree queries: the father of 11 is 10 through the branch 100, the leaves under 10 are 11, 12 -/
example : (((TW.init true).runX exHistX).w.getObs 1).map
    (fun c => (((TW.init true).runX exHistX).fatherOf c 11, ((TW.init true).runX exHistX).edgeToFather c 11)) =
      some (some (some 10), some (some 100)) := by decide +kernel
/-- `setFather(11, 12, 100)` through the copy succeeds and both observers see 12 as the father of 11 -/
example : (((TW.init true).runX exHistX).setFather 1 11 12 (some 100)).1 = .ok := by decide +kernel
example :
    let tw := (TW.init true).runX (exHistX ++ [.base (.setFather 1 11 12 (some 100))])
    (tw.w.getObs 1).map (fun c => tw.fatherOf c 11) = some (some (some 12)) ∧
    (tw.w.getObs 0).map (fun o => tw.fatherOf o 11) = some (some (some 12)) ∧
    -- the source was told that the branch 100 sat on is gone; the copy carries 100 on the new branch
    (tw.w.getObs 0).map (·.Eg) = some [(101, 1)] ∧ (tw.w.getObs 1).map (·.Eg) = some [(100, 2), (101, 1)] := by decide +kernel
/-- `removeSon(10, 12)` through the copy: both observers forget the edge object 101 -/
example :
    let tw := (TW.init true).runX (exHistX ++ [.removeSon 1 10 12])
    (tw.w.getObs 0).map (·.Eg) = some [(100, 0)] ∧ (tw.w.getObs 1).map (·.Eg) = some [(100, 0)] := by decide +kernel
/-- `removeSons(10)` through the source returns the objects 11, 12 -/
example : (((TW.init true).runX exHistX).removeSons 0 10).1 = some [11, 12] := by decide +kernel
/-- `operator=`: after a further node created through the copy, the source is assigned the copy -/
example :
    let tw := (TW.init true).runX (exHistX ++ [.base (.createNode 1 13), .assign 1 0])
    (tw.w.getObs 0).map (·.Ng) = some [(10, 0), (11, 1), (12, 2), (13, 3)] := by decide +kernel
/-- a copy into a slot that does not exist changes nothing (hence `hk` in `obs_copy_same_relations`) -/
example : (((TW.init true).runX exHistX).copyObs 0 5).1 = .ok ∧
    (((TW.init true).runX exHistX).copyObs 0 5).2.w.getObs 5 = none := by decide +kernel
/-- the copy of the example holds objects of its own pool only -/
example : (((TW.init true).runX exHistX).w.getObs 0).map (fun o => (IObs.copyI 1 (o.tag 0)).foreign 1) = some none := by decide +kernel

end Bpp.C15
