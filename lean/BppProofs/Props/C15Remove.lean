import BppProofs.Lemmas.TreeRemove
import BppProofs.Props.C15ObsCopy
import BppProofs.Props.C15DagObs
/-!
# C15 — a successful removal removes exactly the relation asked for
(`GlobalGraph::unlink`, GlobalGraph.cpp:124; `removeSon` of AssociationTreeGraphImplObserver.h:260;
`removeSon` / `removeFather` of AssociationDAGraphImplObserver.h:259 / :242)

The driver evaluates the predicate `relationRemoved before after a b` (`BppModel/TreeObsCopy.lean`) on the
implementation's reports before / after a successful removal: the edge table after is the edge table before
without the entries joining `a` to `b` (either way round when the graph is undirected), in the same order, and
the node table has the same keys.  Proved here of the model (helper lemmas in `Lemmas/TreeRemove.lean`):

* `unlink_removes_relation`: of a successful `unlink(a, b)` on a consistent graph;
* `removeSon_removes_relation`: of a successful `removeSon(nodeObject, sonObject)` through an observer of the
  tree container, on the ids of the two objects (the notifications delivered to the observers leave the graph
  tables alone);
* `dag_removeSon_removes_relation`, `dag_removeFather_removes_relation`: the same through an observer of the DAG
  container; `removeFather(node, father)` removes the relation father -> node.
-/
set_option linter.unusedVariables false
namespace Bpp.C15
open Bpp Bpp.Graph Bpp.AL Bpp.Graph.TW

/-- **a successful `unlink(a, b)` removes exactly the relation `a -> b`**: from the edge table of a consistent
graph exactly the entries joining `a` to `b` are gone (either way round when the graph is undirected; by
consistency there is exactly one such entry), every other entry is kept in its place, and no node is removed -/
theorem unlink_removes_relation (g : G) (hc : Consistent g) (a b : Nat) (es : List Nat) (g' : G)
    (h : G.unlink a b g = .ok es g') : relationRemoved g g' a b = true :=
  G.unlink_ok_removed hc h

/-- **a successful `removeSon(nodeObject, sonObject)` through an observer of the tree container** removes from
the graph exactly the relation between the ids of the two objects, and no node -/
theorem removeSon_removes_relation (tw tw' : TW) (k : Nat) (a s : Obj) (o : Obs) (ia is : Nat)
    (hw : WInv tw.w) (hk : tw.w.getObs k = some o) (ha : AL.find a o.Ng = some ia) (hs : AL.find s o.Ng = some is)
    (h : tw.removeSon k a s = (.ok, tw')) : relationRemoved tw.w.g tw'.w.g ia is = true := by
  unfold TW.removeSon at h
  simp only [hk, ha, hs] at h
  obtain ⟨ht, u, gq, hfst⟩ := TW.ofG_ok h
  subst ht
  exact TW.removeSonG_removed hw.graph hfst

/-- **a successful `removeSon(nodeObject, sonObject)` through an observer of the DAG container** removes from
the graph exactly the relation node -> son, and no node -/
theorem dag_removeSon_removes_relation (dw dw' : DW) (k : Nat) (n s : Obj) (o : Obs) (inn is : Nat)
    (hw : WInv dw.w) (hk : dw.w.getObs k = some o) (hn : AL.find n o.Ng = some inn) (hs : AL.find s o.Ng = some is)
    (h : dw.removeSon k n s = (.ok, dw')) : relationRemoved dw.w.g dw'.w.g inn is = true := by
  unfold DW.removeSon DW.ids2 at h
  simp only [hk, hn, hs] at h
  obtain ⟨ht, u, gq, hfst⟩ := DW.ofG_ok h
  subst ht
  exact DW.removeSonG_removed hw.graph hfst

/-- **a successful `removeFather(nodeObject, fatherObject)` through an observer of the DAG container** removes
from the graph exactly the relation father -> node, and no node -/
theorem dag_removeFather_removes_relation (dw dw' : DW) (k : Nat) (n f : Obj) (o : Obs) (inn ifa : Nat)
    (hw : WInv dw.w) (hk : dw.w.getObs k = some o) (hn : AL.find n o.Ng = some inn) (hf : AL.find f o.Ng = some ifa)
    (h : dw.removeFather k n f = (.ok, dw')) : relationRemoved dw.w.g dw'.w.g ifa inn = true := by
  unfold DW.removeFather DW.ids2 at h
  simp only [hk, hn, hf] at h
  obtain ⟨ht, u, gq, hfst⟩ := DW.ofG_ok h
  subst ht
  exact DW.removeFatherG_removed hw.graph hfst

/-! ## the hypotheses are satisfiable, the predicate is not vacuous

On the rooted tree `10 -> 11`, `10 -> 12` of `exHist` (`Props/C15Obs.lean`; node ids 0, 1, 2, edge ids 0, 1) and
on the DAG `10 -> 11`, `10 -> 12`, `11 -> 12` of `exDagHist` (`Props/C15DagObs.lean`). -/

/-- `removeSon(10, 11)` succeeds on the example tree, rooted or not … -/
example : (((TW.init true).run exHist).removeSon 0 10 11).1 = .ok ∧
    (((TW.init false).run exHist).removeSon 0 10 11).1 = .ok := by decide +kernel
/-- … the ids of the two objects are 0 and 1, and the predicate holds between the two graphs: the edge table
`[(0, 0, 1), (1, 0, 2)]` becomes `[(1, 0, 2)]` -/
example :
    let tw := (TW.init true).run exHist
    (tw.w.getObs 0).map (fun o => (AL.find 10 o.Ng, AL.find 11 o.Ng)) = some (some 0, some 1) ∧
    tw.w.g.edges = [(0, 0, 1), (1, 0, 2)] ∧ (tw.removeSon 0 10 11).2.w.g.edges = [(1, 0, 2)] ∧
    relationRemoved tw.w.g (tw.removeSon 0 10 11).2.w.g 0 1 = true := by decide +kernel
/-- on the unrooted (undirected) tree the relation is removed whichever way round it is named -/
example :
    let tw := (TW.init false).run exHist
    relationRemoved tw.w.g (tw.removeSon 0 10 11).2.w.g 0 1 = true ∧
    relationRemoved tw.w.g (tw.removeSon 0 11 10).2.w.g 1 0 = true ∧
    (tw.removeSon 0 11 10).1 = .ok := by decide +kernel
/-- the instance of the theorem -/
example : relationRemoved ((TW.init true).run exHist).w.g (((TW.init true).run exHist).removeSon 0 10 11).2.w.g 0 1 = true :=
  removeSon_removes_relation _ _ 0 10 11 _ 0 1 (tw_inv true exHist) rfl (by decide +kernel) (by decide +kernel) rfl

/-- **not vacuous**: when the relation `0 -> 1` exists and nothing was removed the predicate is false … -/
example : relationRemoved ((TW.init true).run exHist).w.g ((TW.init true).run exHist).w.g 0 1 = false := by decide +kernel
/-- … it is false when another relation was removed instead (`removeSon(10, 12)` judged for `0 -> 1`) … -/
example :
    let tw := (TW.init true).run exHist
    relationRemoved tw.w.g (tw.removeSon 0 10 12).2.w.g 0 1 = false := by decide +kernel
/-- … when both relations were removed (`removeSons(10)`) … -/
example :
    let tw := (TW.init true).run exHist
    (tw.removeSons 0 10).2.1 = .ok ∧ relationRemoved tw.w.g (tw.removeSons 0 10).2.2.w.g 0 1 = false := by decide +kernel
/-- … when a node went with it (`deleteNode(11)` removes the relation `0 -> 1` and node 1) … -/
example :
    let tw := (TW.init true).run exHist
    (tw.deleteNode 0 11).1 = .ok ∧ (tw.deleteNode 0 11).2.w.g.edges = [(1, 0, 2)] ∧
    relationRemoved tw.w.g (tw.deleteNode 0 11).2.w.g 0 1 = false := by decide +kernel
/-- … and, on a directed graph, when the relation is named the wrong way round (on the undirected one it holds,
see above) -/
example :
    let tw := (TW.init true).run exHist
    relationRemoved tw.w.g (tw.removeSon 0 10 11).2.w.g 1 0 = false := by decide +kernel
/-- a raising `removeSon` (11 is not the father of 12) changes nothing: the conclusion is about successful calls -/
example :
    let tw := (TW.init true).run exHist
    (tw.removeSon 0 11 12).1 = .exc .bpp ∧ (tw.removeSon 0 11 12).2.w.g = tw.w.g := by decide +kernel

/-- the DAG: `removeSon(10, 12)` and `removeFather(12, 11)` succeed (objects 10, 11, 12 have ids 0, 1, 2) and the
predicate holds, for `removeFather` on the relation father -> node -/
example :
    let dw := DW.init.run exDagHist
    (dw.removeSon 0 10 12).1 = .ok ∧ relationRemoved dw.w.g (dw.removeSon 0 10 12).2.w.g 0 2 = true ∧
    (dw.removeFather 0 12 11).1 = .ok ∧ relationRemoved dw.w.g (dw.removeFather 0 12 11).2.w.g 1 2 = true ∧
    relationRemoved dw.w.g (dw.removeFather 0 12 11).2.w.g 2 1 = false ∧
    relationRemoved dw.w.g (dw.removeFather 0 12 11).2.w.g 0 2 = false := by decide +kernel
/-- the instances of the theorems -/
example : relationRemoved (DW.init.run exDagHist).w.g ((DW.init.run exDagHist).removeSon 0 10 12).2.w.g 0 2 = true :=
  dag_removeSon_removes_relation _ _ 0 10 12 _ 0 2 (dw_inv exDagHist).1 rfl (by decide +kernel) (by decide +kernel) rfl
example : relationRemoved (DW.init.run exDagHist).w.g ((DW.init.run exDagHist).removeFather 0 12 11).2.w.g 1 2 = true :=
  dag_removeFather_removes_relation _ _ 0 12 11 _ 2 1 (dw_inv exDagHist).1 rfl (by decide +kernel) (by decide +kernel) rfl

/-- `unlink` itself, on the graph of the example tree -/
example :
    let g := ((TW.init true).run exHist).w.g
    (G.unlink 0 1 g).raised = false ∧ relationRemoved g (G.unlink 0 1 g).state 0 1 = true := by decide +kernel

end Bpp.C15
