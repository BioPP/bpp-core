import BppProofs.Lemmas.EigenBook
/-!
# C06 (round 2) — the bookkeeping of the iteration kernels
(src/Bpp/Numeric/Matrix/EigenValue.h: hqr2 "Outer loop over eigenvalue index", tql2)

The QR / QL sweeps are not transcribed; they are the `sweep` events of two small state machines
(`BppModel/EigenBook.lean`), arbitrary except for the one property of a similarity transformation of
the active window that the theorems name: it preserves the window's trace.  What IS transcribed and
proved here, for every event sequence of any length:

* hqr2: `exshift` is the sum of all exceptional shifts taken so far; a deflated eigenvalue is reported
  as its diagonal entry plus that sum (one root), resp. as the roots of the 2 × 2 trailing block shifted
  by that sum (two roots: real pair / conjugate pair of the shape `getD` expects); reported values are
  never touched again; the reported real parts add up to the trace of the matrix the iteration
  started from.
* tql2: the implicit shift lowers every entry `d[l .. n-1]` by the same `h`; `f` is the sum of all
  shifts; `d[l] + f` is reported; finished entries are never touched again; the reported eigenvalues
  add up to the trace of the tridiagonal matrix; the final sort is ascending, a permutation, and moves
  the eigenvector columns with their eigenvalues (so `A·V = V·diag d` survives it).

The records of the guarded instrumentation tie these definitions to the C++ bit for bit
(Drive/C06.lean, op `trace`); the hypotheses `SweepsPreserveTrace` / `TqlEvsOK` are *explored* on the
implementation's records (verdict clauses `hqr2_sweep_trace`, `tql2_sweep_trace`, `tql2_hypot`).
-/
namespace Bpp.C06
open Bpp Bpp.EigenGlue Bpp.EigenBook

/-! ## hqr2: "Two roots found" -/

/-- real pair (`q = p² + w ≥ 0`): both imaginary parts are 0 and the two reported values are the roots of
the characteristic polynomial of the trailing block `[[a+σ, b], [c, dd+σ]]` (`σ = exshift`): their sum
is its trace, their product its determinant -/
theorem hqr2_two_roots_real (a b c dd σ : ℝ) (hq : 0 ≤ defQ a b c dd) :
    (deflate2 a b c dd σ).e1 = 0 ∧ (deflate2 a b c dd σ).e2 = 0 ∧
    (deflate2 a b c dd σ).d1 + (deflate2 a b c dd σ).d2 = (a + σ) + (dd + σ) ∧
    (deflate2 a b c dd σ).d1 * (deflate2 a b c dd σ).d2 = (a + σ) * (dd + σ) - b * c :=
  deflate2_real a b c dd σ hq _ rfl

/-- complex pair (`q < 0`): equal real parts, imaginary parts `+z, −z` with `z > 0` in this order (the
shape `PairsWF` that `getD_blocks` needs), `2·re` = trace and `re² + im²` = determinant of the shifted
trailing block -/
theorem hqr2_two_roots_complex (a b c dd σ : ℝ) (hq : defQ a b c dd < 0) :
    (deflate2 a b c dd σ).d1 = (deflate2 a b c dd σ).d2 ∧
    0 < (deflate2 a b c dd σ).e1 ∧ (deflate2 a b c dd σ).e2 = -(deflate2 a b c dd σ).e1 ∧
    (deflate2 a b c dd σ).d1 + (deflate2 a b c dd σ).d2 = (a + σ) + (dd + σ) ∧
    (deflate2 a b c dd σ).d1 * (deflate2 a b c dd σ).d2 + (deflate2 a b c dd σ).e1 * (deflate2 a b c dd σ).e1
      = (a + σ) * (dd + σ) - b * c :=
  deflate2_complex a b c dd σ hq _ rfl

/-- both cases occur: `[[2,1],[1,2]]` has the real pair 3, 1; `[[0,-1],[1,0]]` the pair `±i` -/
example : 0 ≤ defQ 2 1 1 2 := by norm_num [defQ, defP]
example : defQ 0 (-1) 1 0 < 0 := by norm_num [defQ, defP]

/-! ## hqr2: the shift / deflate bookkeeping -/

/-- *Invariant of the state machine* (audit round 1, F1: close to definitional — `shifts` is a history
variable that `applyShift` extends with the value it adds to `exshift`; the statement is that no other
transition writes `exshift`). Its content about the C++ comes from the record tie (op `trace` replays the
model's running total against the logged `exshift`); the statement with mathematical content is
`hqr2_exceptional_shift_invisible` / `hqr2_trace_bookkeeping` below.

**`exshift` is the sum of all exceptional shifts applied so far** — after any sequence of sweeps,
exceptional shifts (iter == 10, iter == 30) and deflations, from the start of the iteration -/
theorem hqr2_exshift_is_sum_of_shifts (N : Nat) (diag : Nat → ℝ) (evs : List (HqrEv ℝ)) (st : HqrSt ℝ)
    (h : hqrRun (hqrInit N diag) evs = some st) : st.exshift = st.shifts.sum :=
  (hqrRun_inv evs _ st h).2.2 (by simp [hqrInit])

/-- **an exceptional shift is invisible in the frame of the original matrix**: both exceptional shifts
(`iter == 10`, `iter == 30`, taken or not) leave `H(i,i) + exshift` unchanged for every `i` of the active
window, and change nothing else that is reported. This is where two separate statements of the C++ — the
loop `H(i,i) -= x` over `low..n` and `exshift += x` — have to agree; it is the step of
`hqr2_trace_bookkeeping` that `exshift = x` (seeded C06-b2) and a shortened loop (mutant m16) break. -/
theorem hqr2_exceptional_shift_invisible (st st' : HqrSt ℝ) (ev : HqrEv ℝ)
    (hev : ev = .ex10 ∨ ∃ w, ev = .ex30 w) (h : hqrStep st ev = some st') :
    st'.n = st.n ∧ st'.d = st.d ∧ st'.e = st.e ∧
    ∀ i, i < st.n → st'.diag i + st'.exshift = st.diag i + st.exshift := by
  rcases hqrStep_shift hev h with rfl | ⟨x, rfl⟩
  · exact ⟨rfl, rfl, rfl, fun i _ => rfl⟩
  · exact ⟨rfl, rfl, rfl, applyShift_unshifted st x⟩

/-- non-vacuity: the `iter == 10` shift of a 3 × 3 window with diagonal (1, 2, 3) -/
example : ∃ st', hqrStep (hqrInit 3 (fun i => ((i : ℝ) + 1))) .ex10 = some st' ∧ st'.exshift = 3 ∧ st'.diag 0 = -2 := by
  refine ⟨_, rfl, ?_, ?_⟩
  · show (Scalar.zero : ℝ) + (((3 - 1 : ℕ) : ℝ) + 1) = 3
    rw [ScalarReal.zero_eq]; norm_num
  · show (if 0 < 3 then ((0 : ℕ) : ℝ) + 1 - (((3 - 1 : ℕ) : ℝ) + 1) else ((0 : ℕ) : ℝ) + 1) = -2
    norm_num

/-- the cancellation is a property of the transcribed text, not of every update of this shape: with
`exshift = x` in place of `exshift += x` (`applyShiftOverwrite`, not the model) a second shift moves the
window in the original frame by the first one -/
theorem hqr2_overwriting_exshift_is_visible :
    ∃ (st : HqrSt ℝ) (x : ℝ), 0 < st.n ∧
      (applyShiftOverwrite st x).diag 0 + (applyShiftOverwrite st x).exshift ≠ st.diag 0 + st.exshift := by
  refine ⟨applyShift (hqrInit 3 (fun _ => (1 : ℝ))) 1, 1, by simp [applyShift, hqrInit], ?_⟩
  simp [applyShiftOverwrite, applyShift, hqrInit]

/-- *Invariant of the state machine* (audit F1: the `defl1` transition unfolded plus the invariant above;
content through the record tie).
**one root: the reported eigenvalue is the deflated diagonal entry plus the sum of all exceptional
shifts applied so far**, its imaginary part is 0 and the window shrinks by one — whatever happened
before (`pre` is any event sequence).  This is the clause that `exshift = x` in place of
`exshift += x` breaks from the second exceptional shift on. -/
theorem hqr2_one_root_reports_entry_plus_shifts (N : Nat) (diag : Nat → ℝ) (pre : List (HqrEv ℝ))
    (st : HqrSt ℝ) (h : hqrRun (hqrInit N diag) pre = some st) (hn : 1 ≤ st.n) :
    ∃ st', hqrStep st .defl1 = some st' ∧ st'.n = st.n - 1 ∧
      st'.d (st.n - 1) = st.diag (st.n - 1) + st.shifts.sum ∧ st'.e (st.n - 1) = 0 := by
  refine ⟨_, hqrStep_defl1_iff.mpr ⟨hn, rfl⟩, rfl, ?_, upd_same _ _ _⟩
  rw [← hqr2_exshift_is_sum_of_shifts N diag pre st h]; exact upd_same _ _ _

/-- **two roots: the reported pair are the eigenvalues of the trailing 2 × 2 block with the sum of all
exceptional shifts added to its diagonal** (trace and determinant; `im = 0` for a real pair,
`+z, −z` for a conjugate pair) -/
theorem hqr2_two_roots_report_shifted_block (N : Nat) (diag : Nat → ℝ) (pre : List (HqrEv ℝ))
    (st : HqrSt ℝ) (b c : ℝ) (h : hqrRun (hqrInit N diag) pre = some st) (hn : 2 ≤ st.n) :
    ∃ st', hqrStep st (.defl2 b c) = some st' ∧ st'.n = st.n - 2 ∧
      (let σ := st.shifts.sum
       let a := st.diag (st.n - 2)
       let dd := st.diag (st.n - 1)
       let re1 := st'.d (st.n - 2); let re2 := st'.d (st.n - 1)
       let im1 := st'.e (st.n - 2); let im2 := st'.e (st.n - 1)
       re1 + re2 = (a + σ) + (dd + σ) ∧ im2 = -im1 ∧ 0 ≤ im1 ∧ (im1 ≠ 0 → re1 = re2) ∧
       re1 * re2 + im1 * im1 = (a + σ) * (dd + σ) - b * c) := by
  refine ⟨_, hqrStep_defl2_iff.mpr ⟨hn, rfl⟩, rfl, ?_⟩
  have hne : st.n - 2 ≠ st.n - 1 := by omega
  dsimp only
  rw [← hqr2_exshift_is_sum_of_shifts N diag pre st h, upd_ne _ _ _ _ hne, upd_same, upd_same, upd_ne _ _ _ _ hne,
    upd_same, upd_same]
  by_cases hq : 0 ≤ defQ (st.diag (st.n - 2)) b c (st.diag (st.n - 1))
  · obtain ⟨r1, r2, r3, r4⟩ := hqr2_two_roots_real _ b c _ st.exshift hq
    exact ⟨r3, by rw [r1, r2, neg_zero], r1.ge, fun hne => absurd r1 hne, by rw [r1, r4, mul_zero, add_zero]⟩
  · obtain ⟨r1, r2, r3, r4, r5⟩ := hqr2_two_roots_complex _ b c _ st.exshift (not_le.mp hq)
    exact ⟨r4, r3, r2.le, fun _ => r1, r5⟩

/-- *Frame property of the state machine* (audit F1: the transitions write `d`, `e` only at the indices they
deflate; content through the record tie, which compares the model's accumulated lists with the final ones).
**a reported eigenvalue is final**: no later event changes `d[i]`, `e[i]` outside the active window,
and the window never grows -/
theorem hqr2_reported_is_final (st st' : HqrSt ℝ) (evs : List (HqrEv ℝ)) (h : hqrRun st evs = some st') :
    st'.n ≤ st.n ∧ ∀ i, st.n ≤ i → st'.d i = st.d i ∧ st'.e i = st.e i :=
  ⟨(hqrRun_inv evs st st' h).1, (hqrRun_inv evs st st' h).2.1⟩

/-- **trace bookkeeping**: when every sweep preserves the trace of the active window (an orthogonal
similarity does) and the iteration has deflated everything (`n = 0`), the reported real parts add up to
the trace of the Hessenberg matrix the iteration started from — for any number and order of exceptional
shifts, one-root and two-root deflations -/
theorem hqr2_trace_bookkeeping (N : Nat) (diag : Nat → ℝ) (evs : List (HqrEv ℝ)) (st : HqrSt ℝ)
    (h : hqrRun (hqrInit N diag) evs = some st) (hsw : SweepsPreserveTrace (hqrInit N diag) evs)
    (hdone : st.n = 0) : winSum st.d N = winSum diag N :=
  (hqrTotal_done N hdone).symm.trans ((hqrTotal_run N evs _ st le_rfl h hsw).trans (hqrTotal_init N diag))

/-- non-vacuity: a 3 × 3 run with an exceptional shift, a one-root and a two-root deflation -/
example : ∃ st, hqrRun (hqrInit 3 (fun _ => (1 : ℝ))) [.sweep (fun _ => 1), .ex10, .defl1, .defl2 0 0] = some st ∧
    st.n = 0 ∧ SweepsPreserveTrace (hqrInit 3 (fun _ => (1 : ℝ))) [.sweep (fun _ => 1), .ex10, .defl1, .defl2 0 0] := by
  refine ⟨_, rfl, rfl, ?_⟩
  simp [SweepsPreserveTrace, SweepOK, hqrInit]

/-! ## tql2: the implicit shift and its accumulation -/

/-- **the shift is uniform**: with `r = hypot(p, 1)` (`r > 0`, `r² = p² + 1`) and `e[l] ≠ 0`, the closed
formulas for `d[l]`, `d[l+1]` and the loop over `l+2 .. n-1` lower *every* entry `d[l .. n-1]` by the same
`h`, and nothing else changes.  (The loop bound `i < n` is what `i <= m` breaks: entries beyond a split
would keep their old values while `f` still accumulates `h`.) -/
theorem tql2_shift_uniform (n l : Nat) (d : Nat → ℝ) (el r : ℝ) (hl : l + 1 < n) (hel : el ≠ 0) (hr : 0 < r)
    (hrr : r * r = tqlP l d el * tqlP l d el + 1) :
    (∀ i, l ≤ i → i < n → (tqlShift n l d el r).1 i = d i - (tqlShift n l d el r).2) ∧
    (∀ i, (i < l ∨ n ≤ i) → (tqlShift n l d el r).1 i = d i) :=
  tqlShift_uniform n l d el r hl hel hrr _ rfl

example : ∃ (d : Nat → ℝ) (el r : ℝ), el ≠ 0 ∧ 0 < r ∧ r * r = tqlP 0 d el * tqlP 0 d el + 1 :=
  ⟨fun _ => 0, 1, 1, by norm_num, by norm_num, by simp [tqlP]⟩

/-- **a shift of tql2 is invisible in the frame of the tridiagonal matrix**: with `r = hypot(p, 1)` and
`e[l] ≠ 0`, one pass of the do-loop up to `f = f + h` leaves `d[i] + f` unchanged for every `i` of the
active part `l .. n-1` (closed formulas for `l`, `l+1`, the loop for the rest, and the accumulation have to
agree: `i <= m` for `i < n`, seeded C06-b1, and `f = h`, mutant m18, break it) and touches nothing else -/
theorem tql2_shift_invisible (st st' : TqlSt ℝ) (el r : ℝ) (hel : el ≠ 0) (hr : 0 < r)
    (hrr : r * r = tqlP st.l st.d el * tqlP st.l st.d el + 1) (h : tqlStep st (.shift el r) = some st') :
    st'.l = st.l ∧ st'.n = st.n ∧ (∀ i, st.l ≤ i → i < st.n → st'.d i + st'.f = st.d i + st.f) ∧
    ∀ i, (i < st.l ∨ st.n ≤ i) → st'.d i = st.d i := by
  obtain ⟨hl, rfl⟩ := tqlStep_shift_iff.mp h
  obtain ⟨u1, u2⟩ := tqlShift_uniform st.n st.l st.d el r hl hel hrr _ rfl
  refine ⟨rfl, rfl, fun i h1 h2 => ?_, u2⟩
  dsimp only
  rw [u1 i h1 h2]; ring

/-- *Invariant of the state machine* (audit F1: `shifts` is a history variable extended with the `h` added to
`f`; content through the record tie). **`f` is the sum of all shifts so far** -/
theorem tql2_f_is_sum_of_shifts (n : Nat) (d : Nat → ℝ) (evs : List (TqlEv ℝ)) (st : TqlSt ℝ)
    (h : tqlRun (tqlInit n d) evs = some st) : st.f = st.shifts.sum :=
  (tqlRun_inv evs _ st h).2.2.2.2 (by simp [tqlInit])

/-- *Invariant of the state machine* (audit F1: the `fin` transition unfolded plus the invariant above).
**the reported eigenvalue is the working entry plus the sum of all shifts so far** -/
theorem tql2_reports_entry_plus_shifts (n : Nat) (d : Nat → ℝ) (pre : List (TqlEv ℝ)) (st : TqlSt ℝ)
    (h : tqlRun (tqlInit n d) pre = some st) (hl : st.l < st.n) :
    ∃ st', tqlStep st .fin = some st' ∧ st'.l = st.l + 1 ∧ st'.d st.l = st.d st.l + st.shifts.sum := by
  refine ⟨_, tqlStep_fin_iff.mpr ⟨hl, rfl⟩, rfl, ?_⟩
  rw [← tql2_f_is_sum_of_shifts n d pre st h]; exact upd_same _ _ _

/-- *Frame property of the state machine* (audit F1). **a finished eigenvalue is final** -/
theorem tql2_reported_is_final (st st' : TqlSt ℝ) (evs : List (TqlEv ℝ)) (h : tqlRun st evs = some st') :
    st.l ≤ st'.l ∧ ∀ i, i < st.l → st'.d i = st.d i :=
  ⟨(tqlRun_inv evs st st' h).1, (tqlRun_inv evs st st' h).2.2.2.1⟩

/-- **trace bookkeeping**: when every value passed for `hypot(p, 1)` is `√(p² + 1)`, every `e[l]` used by a
shift is non-zero and every QL transformation preserves the sum of `d[l .. n-1]`, the eigenvalues
reported when the loop ends (`l = n`) add up to the trace of the tridiagonal matrix -/
theorem tql2_trace_bookkeeping (n : Nat) (d : Nat → ℝ) (evs : List (TqlEv ℝ)) (st : TqlSt ℝ)
    (h : tqlRun (tqlInit n d) evs = some st) (hok : TqlEvsOK (tqlInit n d) evs) (hdone : st.l = n) :
    winSum st.d n = winSum d n := by
  obtain rfl : st.n = n := (tqlRun_inv evs _ st h).2.1
  exact (tqlTotal_done hdone).symm.trans ((tqlTotal_run evs _ st (Nat.zero_le _) h hok).trans (tqlTotal_init _ d))

/-- non-vacuity: a 2 × 2 run `d = (0, 0)`, `e[0] = 1`: one shift (`p = 0`, `r = 1`, `h = -1`), the QL
transformation, two reports -/
example : ∃ st, tqlRun (tqlInit 2 (fun _ => (0 : ℝ))) [.shift 1 1, .sweep (fun i => if i = 0 then 2 else 0), .fin, .fin] = some st ∧
    st.l = 2 := ⟨_, rfl, rfl⟩

/-! ## tql2: the final sort -/

/-- **sorted, a permutation, and the columns move with their eigenvalues**: there is one permutation `σ` of
`[0, n)` with `d'[j] = d[σ j]` and `V'(r, j) = V(r, σ j)` for all rows, and `d'` is ascending -/
theorem tql2_sort_sorted_perm (n : Nat) (d : Nat → ℝ) (V : FMat ℝ) :
    ∃ σ : Equiv.Perm ℕ, (∀ j, n ≤ j → σ j = j) ∧ (∀ j, j < n → σ j < n) ∧
      (∀ j, (sortEig n d V).1 j = d (σ j)) ∧ (∀ r j, (sortEig n d V).2 r j = V r (σ j)) ∧
      (∀ a b, a ≤ b → b < n → (sortEig n d V).1 a ≤ (sortEig n d V).1 b) := by
  obtain ⟨σ, f1, f2, f3, f4⟩ := sortPrefix_spec n d V (n - 1) le_rfl _ rfl
  refine ⟨σ, f1, perm_lt_of_fix σ n f1, f2, f3, fun a b hab hb => ?_⟩
  rcases Nat.lt_or_ge a (n - 1) with ha | ha
  · exact f4 a b ha hab hb
  · rw [show a = b by omega]

/-- consequently the sort preserves eigenpairs: if column `j` of `V` is an eigenvector of `A` for `d[j]`
(entries of `A·V` computed with the model's product loop), the same holds after the sort -/
theorem tql2_sort_preserves_eigenpairs (n : Nat) (A : FMat ℝ) (d : Nat → ℝ) (V : FMat ℝ)
    (h : ∀ r j, j < n → multEntry n A V r j = V r j * d j) :
    ∀ r j, j < n → multEntry n A (sortEig n d V).2 r j = (sortEig n d V).2 r j * (sortEig n d V).1 j := by
  obtain ⟨σ, f1, f1', f2, f3, _⟩ := tql2_sort_sorted_perm n d V
  intro r j hj
  rw [f2 j, f3 r j, ← h r (σ j) (f1' j hj), multEntry_eq, multEntry_eq]
  apply Finset.sum_congr rfl
  intro k _
  rw [f3 k j]

end Bpp.C06
