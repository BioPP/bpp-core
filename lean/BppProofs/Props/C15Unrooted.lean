import BppProofs.Props.C15Queries
import BppProofs.Props.C15Fuel
/-!
# C15 — the queries that need a rooted tree refuse an unrooted one

`getLeavesUnderNode`, `getSubtreeNodes`, `getSubtreeEdges`, `getNodePathBetweenTwoNodes`,
`getEdgePathBetweenTwoNodes` and `MRCA` are defined through fathers and sons.  In an unrooted
(undirected) tree every neighbour is both a son and a father, and the unrepaired recursions did not
return on some *valid* unrooted trees (`leavesUnder_unrooted_diverges_witness`: between two inner
nodes; the climbs of the path queries: between two nodes joined to each other alone).  As repaired
(`mustBeRooted_()` first; `findings/C15.json`) each of them raises on every undirected graph,
valid or not, whatever the arguments — proved here — and on a rooted tree nothing changed
(`leavesUnderQ_rooted`, and the `*_spec` theorems of `Props/C15Queries.lean`).

What remains of the recorded finding `C15-nontermination-invalid`: *directed* graphs with a cycle
(`leavesUnder_diverges_witness`, `climb_diverges_witness`), which are not valid trees.
-/
namespace Bpp.C15
open Bpp Bpp.Graph

/-- `getLeavesUnderNode` raises on an unrooted tree -/
theorem leavesUnder_refuses_unrooted (g : G) (hd : g.directed = false) (n : Nat) : T.leavesUnderQ g n = .exc := by
  simp [T.leavesUnderQ, hd]

/-- `getNodePathBetweenTwoNodes` raises on an unrooted tree -/
theorem nodePath_refuses_unrooted (g : G) (hd : g.directed = false) (a b : Nat) (inc : Bool) : T.nodePath g a b inc = .exc := by
  simp [T.nodePath, hd]

/-- `getEdgePathBetweenTwoNodes` raises on an unrooted tree -/
theorem edgePath_refuses_unrooted (g : G) (hd : g.directed = false) (a b : Nat) : T.edgePath g a b = .exc := by
  simp [T.edgePath, nodePath_refuses_unrooted g hd]

/-- `MRCA` raises on an unrooted tree -/
theorem mrca_refuses_unrooted (g : G) (hd : g.directed = false) (l : List Nat) : T.mrca g l = .exc := by
  simp [T.mrca, hd]

/-- `getSubtreeNodes` / `getSubtreeEdges` never answer on an unrooted tree: when the tree is valid they raise
(`mustBeRooted_`), when it is not they raise as well (`mustBeValid_`) -/
theorem subtree_refuses_unrooted (t : T) (hd : t.g.directed = false) (edges : Bool) (n : Nat) (hr : t.g.hasNode t.g.root = true)
    (hc : Consistent t.g) : (t.getSubtree edges n).1 = .exc := by
  unfold T.getSubtree T.isValid
  obtain ⟨b, hb⟩ := T.isTree_total hc hr
  by_cases hv : t.valid = true
  · simp [hv, hd]
  · cases b <;> simp [hv, hb, hd]

/-- on a rooted tree the repaired `getLeavesUnderNode` is the recursion `leaves_under_spec` is about -/
theorem leavesUnderQ_rooted (g : G) (hd : g.directed = true) (n : Nat) :
    T.leavesUnderQ g n = T.leavesUnder g (g.nodes.length + 2) n [] := by
  simp [T.leavesUnderQ, hd]

/-- hence, on a valid rooted tree, `getLeavesUnderNode` lists each once the descendants without child -/
theorem leaves_under_query_spec (g : G) (hv : ValidRooted g) (n : Nat) (hn : g.hasNode n = true) :
    ∃ l, T.leavesUnderQ g n = .ok l ∧ (refRaw g).isLeavesUnder n l = true := by
  obtain ⟨l, hl, hs, _⟩ := leaves_under_spec g hv n hn
  exact ⟨l, by rw [leavesUnderQ_rooted g hv.dir, hl], hs⟩

/-! non-vacuity: the valid unrooted tree 0-1, 0-2, 1-3 on which the unrepaired recursion of
`getLeavesUnderNode` did not return, and the unrooted tree 0-1 on which the climbs did not -/

example : unrooted4.directed = false ∧ T.isTree unrooted4 = .ok true := by decide +kernel
example : T.leavesUnderQ unrooted4 0 = .exc := leavesUnder_refuses_unrooted _ (by decide +kernel) 0

/-- the unrooted tree 0-1 -/
def unrooted2 : G := ((T.empty false).run [.createNode, .createNode, .link 0 1]).g

example : T.isTree unrooted2 = .ok true := by decide +kernel

/-- … on which the unrepaired climb of the path queries ran for ever: each node is the other's single incoming neighbour -/
theorem climb_unrooted_diverges_witness : ∀ fuel n acc, n < 2 → T.climb unrooted2 fuel n acc = .fuel :=
  T.climb_diverges unrooted2 (· < 2) (fun n hn => by
    match n, hn with
    | 0, _ => exact ⟨by decide +kernel, 1, by decide +kernel, by omega⟩
    | 1, _ => exact ⟨by decide +kernel, 0, by decide +kernel, by omega⟩)

example : T.nodePath unrooted2 0 1 true = .exc := nodePath_refuses_unrooted _ (by decide +kernel) 0 1 true
example : (({ g := unrooted2 } : T).getSubtree false 0).1 = .exc :=
  subtree_refuses_unrooted _ (by decide +kernel) false 0 (by decide +kernel) (history_consistent false _)

end Bpp.C15
