import BppProofs.Lemmas.DistKernels
/-!
# C08 — the branch structure of the special-function kernels
(`BppModel/DistKernels.lean`; RandomTools.cpp:148-281, 430-951)

What is proved here is the *logic* of the transcribed kernels, for all arguments, in the
exact-arithmetic (`ℝ`) reading (rounding is not modelled) — or, where stated for every
`[Scalar α]`, for every interpretation of the arithmetic including `Float`:

* `incompleteGamma`: `ig_guards` (error value / 0 / which expansion), `ig_far_tail_one` (far-tail 1),
  `ig_inf_one` (every `Scalar`), `ig_never_raises`, `igSeries_terminates` (the series loop l20 returns within a
  computable number of rounds for every `x > 0`, `α > 0` outside the continued-fraction region),
  `ig_series_positive` (so the error value −1 is never produced by the series),
  `ig_fuel_irrelevant`.  The continued-fraction loop l32 has one exit (`dif ≤ 1e-8 ∧ dif ≤ 1e-8·rn`)
  and no bound: its termination is a convergence statement about the fraction and is **not proved**.
* `qChisq`: `qChisq_guard` (error value iff outside the documented domain, for the guard),
  `qcStartKind_table` (which of the three starting values), `qChisq_small_start_returns`,
  `qChisq_ig_error` (an error of `incompleteGamma` gives the error value), `qcL4_exit_not_exc` /
  `qChisq_never_raises`, `qChisq_fuel_irrelevant`.  Loops l2 and l4 have no bound in the code: termination
  **not proved**.
* `incompleteBeta`: `ib_exc_iff` (exception iff outside the domain, unconditionally), `ib_ends`,
  `ib_direct_series`, `ib_reflect_swapped` / `pBeta_reflect_partial` (on the swapped side the value *is*
  the clamped complement of the mirrored call, for every choice of the sub-kernels), `ib_swapped_le`
  (clamp), `ib_hang_only_at_series_call` / `ib_hangs_only_in_series` (pointwise: it can fail to return
  only inside a power-series call it actually makes), `betaPs_terminates_partial` (that power series
  returns for `0 < x < 1`, `α > 0`, `0 ≤ β ≤ 2`); the two continued fractions are bounded by the code's own
  300 rounds (total functions in the model).
* `qBeta`: `qbLowerTail_bad_from_query` / `qbLowerTail_ne` (an outcome of the Newton iteration that is not a
  value is the outcome of a `pBeta` call it made), `qBeta_guard_raises`, `qBeta_raises_only_through_pBeta`,
  `qBeta_zero_shape_raises`, `qBeta_raises_iff_partial` (over the transcribed `pBeta`: inside `0 ≤ prob ≤ 1`, positive shapes, it
  can raise only through a Newton iterate outside `[0,1]`; `qbInner_exit_in_unit`, `qbReset_in_unit`
  confine that to the inner loop exhausting its cap — **not excluded**, checked on every run),
  `qBeta_raises_iff_of_total_pBeta` (the iff, for a `pBeta` that never raises), `qBeta_ends`,
  `qBeta_reflect` (`qBeta(p;a,b) = 1 − qBeta(1−p;b,a)` for `1/2 < p < 1`, exactly, by construction of the
  tail swap), `qBeta_hang_only_through_pBeta` / `qBeta_terminates` / `qBeta_hangs_only_in_series` (both
  Newton loops are bounded by `niterations`: `qBeta` returns whenever the `pBeta` calls it makes do).

The decision-table theorems (`ig_guards`, `ig_far_tail_one`, `ig_inf_one`, `ig_never_raises`, `qChisq_guard`, `qcStartKind_table`, `qChisq_small_start_returns`,
`qChisq_ig_error`, `qChisq_never_raises`, `ib_ends`, `ib_direct_series`, `qBeta_ends`,
`qBeta_guard_raises`, `*_fuel_irrelevant`) restate the transcribed branch conditions; their value is
that the same Boolean definitions are evaluated on the implementation's output.  The derived
properties are the others.
-/
namespace Bpp.C08
open Bpp Bpp.Scalar Bpp.PNorm Bpp.DistKernels

/-- **Decision table.**  The error value −1 when `x < 0 ∨ α ≤ 0`; 0 at `x = 0`; on `x > 0` the
continued fraction iff `x > 1 ∧ x ≥ α`, the series otherwise. -/
theorem ig_guards (fuel : Nat) (x p g : ℝ) :
    ((x < 0 ∨ p ≤ 0) → incompleteGamma fuel x p g = .val (-1)) ∧
    (0 < p → incompleteGamma fuel 0 p g = .val 0) ∧
    (0 < x → 0 < p → ¬ (1 < x ∧ p ≤ x) →
        incompleteGamma fuel x p g = R.ofOpt (igSeries fuel x p (igFactor x p g))) ∧
    (0 < x → 0 < p → 1 < x → p ≤ x →
        incompleteGamma fuel x p g = R.ofOpt (igCF fuel x p (igFactor x p g))) := by
  have hd : 0 < x → 0 < p → ¬ (x < 0 ∨ p ≤ 0) := fun hx hp => not_or.mpr ⟨not_lt.mpr hx.le, not_le.mpr hp⟩
  refine ⟨fun h => ?_, fun hp => ?_, fun hx hp hs => ?_, fun hx hp h1x hpx => ?_⟩
  · rw [incompleteGamma_real, if_pos h]
  · rw [incompleteGamma_real, if_neg (not_or.mpr ⟨lt_irrefl 0, not_le.mpr hp⟩), if_pos rfl]
  · rw [incompleteGamma_real, if_neg (hd hx hp), if_neg hx.ne', if_neg hs]
  · rw [incompleteGamma_real, if_neg (hd hx hp), if_neg hx.ne', if_pos ⟨h1x, hpx⟩]

/-- **Far-tail guard** (cpp:169-170, the repair of the non-termination for very large `x`), for *every* interpretation of the arithmetic: inside
the domain, on the continued-fraction side, an underflowed `factor` gives exactly 1 and the
continued fraction is not entered (no fuel is consumed: the result does not depend on it). -/
theorem ig_far_tail_one {α : Type} [Scalar α] [InfTest α] (fuel : Nat) (x p g : α)
    (hdom : (ltb x zero || leb p zero) = false) (hx : eqb x zero = false)
    (hcf : igUseCF x p = true) (hf : eqb (igFactor x p g) zero = true) :
    incompleteGamma fuel x p g = .val one := by
  simp only [incompleteGamma, hdom, hx, hcf, hf, Bool.false_eq_true, if_false, if_true, ite_self]

/-- **Infinite argument** (cpp:160-161, the repair of the non-termination at `x = +∞`), for *every*
interpretation of the arithmetic: inside the domain an infinite `x` gives exactly 1; neither `factor`
(`p·log x − x` is not a number there) nor a loop is evaluated, no fuel is consumed.  Over `ℝ` the
hypothesis `isInf x` is never true (`isInf_real`); the clause speaks about the `Float` reading, where
the driver checks it on the implementation's answer (`k.ig`, clause `ig_inf_one`). -/
theorem ig_inf_one {α : Type} [Scalar α] [InfTest α] (fuel : Nat) (x p g : α)
    (hdom : (ltb x zero || leb p zero) = false) (hx : eqb x zero = false)
    (hinf : InfTest.isInf x = true) : incompleteGamma fuel x p g = .val one := by
  simp [incompleteGamma, hdom, hx, hinf]

/-- the hypotheses of `ig_inf_one` are satisfiable in an interpretation that has an infinite
element: the rationals with every number above 10^9 declared infinite -/
example : @incompleteGamma Rat _ ⟨fun x => decide (1000000000 < x)⟩ 0 2000000000 2 0 = .val 1 := by
  decide

/-- the hypotheses of `ig_far_tail_one` are satisfiable: in the `Rat` interpretation `exp` is the
constant 0, so every `factor` has "underflowed" -/
example : incompleteGamma (α := Rat) 0 5 2 0 = .val 1 := by decide

/-- `incompleteGamma` never raises -/
theorem ig_never_raises {α : Type} [Scalar α] [InfTest α] (fuel : Nat) (x p g : α) :
    incompleteGamma fuel x p g ≠ .exc :=
  -- every leaf of the routine is a value or what a loop delivered
  ite_ne nofun <| ite_ne nofun <| ite_ne nofun <| ite_ne (ite_ne nofun (R.ofOpt_ne_exc _)) (R.ofOpt_ne_exc _)

/-- **Termination of the series loop** (l20, cpp:175-180), exact arithmetic: for every `x > 0`,
`α > 0` outside the continued-fraction region there is a number of rounds `N` such that the loop has
returned for every fuel `≥ N` (whatever `factor`).  The code has no bound of its own here; the
bound comes from `term_k ≤ (x/(α+1))^k` and `x < α + 1`. -/
theorem igSeries_terminates (x p : ℝ) (hx : 0 < x) (hp : 0 < p) (hs : ¬ (1 < x ∧ p ≤ x)) :
    ∃ N : Nat, ∀ fuel, N ≤ fuel → ∀ factor : ℝ, (igSeries fuel x p factor).isSome = true := by
  have hr : x < p + 1 := by
    by_contra h
    push Not at h
    exact hs ⟨by linarith, by linarith⟩
  have hp1 : 0 < p + 1 := by linarith
  obtain ⟨m, hm⟩ := exists_mul_pow_le 1 (div_pos hx hp1).le ((div_lt_one hp1).mpr hr) accurate_pos
  refine ⟨m + 1, fun fuel hf factor => ?_⟩
  rw [igSeries, Option.isSome_map]
  exact igSeries_loop_terminates x p hx hp hr m fuel ⟨p, one, one⟩ hf le_rfl (by simp) (by simpa using hm)

/-- … hence `incompleteGamma` returns there: no `hang` for enough fuel -/
theorem ig_series_region_terminates (x p g : ℝ) (hx : 0 < x) (hp : 0 < p) (hs : ¬ (1 < x ∧ p ≤ x)) :
    ∃ N : Nat, ∀ fuel, N ≤ fuel → ∃ v, incompleteGamma fuel x p g = .val v := by
  obtain ⟨N, hN⟩ := igSeries_terminates x p hx hp hs
  refine ⟨N, fun fuel hf => ?_⟩
  obtain ⟨v, hv⟩ := Option.isSome_iff_exists.mp (hN fuel hf (igFactor x p g))
  exact ⟨v, by rw [(ig_guards fuel x p g).2.2.1 hx hp hs, hv]; rfl⟩

/-- the series never produces the error value: its value is positive -/
theorem ig_series_positive (fuel : Nat) (x p g v : ℝ) (hx : 0 < x) (hp : 0 < p) (hs : ¬ (1 < x ∧ p ≤ x))
    (h : incompleteGamma fuel x p g = .val v) : 0 < v := by
  rw [(ig_guards fuel x p g).2.2.1 hx hp hs, R.ofOpt_eq_val_iff] at h
  obtain ⟨gin, hg, rfl⟩ := igSeries_gin_ge_one hx hp h
  exact mul_pos (by linarith) (div_pos (Real.exp_pos _) hp)

/-- more fuel never changes a delivered value (the fuel is not observable) -/
theorem ig_fuel_irrelevant {α : Type} [Scalar α] [InfTest α] (n k : Nat) (x p g v : α)
    (h : incompleteGamma n x p g = .val v) : incompleteGamma (n + k) x p g = .val v :=
  incompleteGamma_fuelMono x p g n k v h

/-- **Range guard** (cpp:229): outside `0.000002 ≤ p ≤ 0.999998`, `v > 0` the error value −1, whatever
`lnGamma` and `incompleteGamma` are -/
theorem qChisq_guard (fuel : Nat) (lg : ℝ → ℝ) (ig : ℝ → ℝ → ℝ → R ℝ) (p v : ℝ) :
    (qcGuard p v = true ↔ (p < chLo ∨ chHi < p ∨ v ≤ 0)) ∧
    (qcGuard p v = true → qChisq fuel lg ig p v = .val (-1)) := by
  refine ⟨qcGuard_iff p v, ?_⟩
  intro h
  simp [qChisq, h]

/-- **Which starting value** (cpp:234, 242): the closed form iff `v < -1.24 log p`; otherwise the
`v ≤ 0.32` iteration or Wilson–Hilferty -/
theorem qcStartKind_table (p v : ℝ) :
    (qcStartKind p v = 0 ↔ v < -c1_24 * Real.log p) ∧
    (qcStartKind p v = 1 ↔ (-c1_24 * Real.log p ≤ v ∧ v ≤ c0_32)) ∧
    (qcStartKind p v = 2 ↔ (-c1_24 * Real.log p ≤ v ∧ c0_32 < v)) := by
  have e : qcStartKind p v = if -c1_24 * Real.log p ≤ v then (if c0_32 < v then 2 else 1) else 0 := by
    simp only [qcStartKind, ScalarReal.geb_iff, ScalarReal.gtb_iff, ScalarReal.log_eq]
  rw [e]
  generalize -c1_24 * Real.log p = L
  by_cases h1 : L ≤ v
  · by_cases h2 : c0_32 < v
    · simp [h1, h2, not_lt.mpr h1, not_le.mpr h2]
    · simp [h1, h2, not_lt.mpr h1, not_lt.mp h2]
  · simp [h1, not_le.mp h1]

/-- **Early return of the closed-form start** (cpp:238-239): a start below `e = 5e-7` is returned as it
is — `incompleteGamma` is never consulted (the statement holds for every `ig`, every fuel) -/
theorem qChisq_small_start_returns (fuel : Nat) (lg : ℝ → ℝ) (ig : ℝ → ℝ → ℝ → R ℝ) (p v : ℝ)
    (hg : qcGuard p v = false) (hk : qcStartKind p v = 0)
    (hs : qcStart0 p (v / 2) (lg (v / 2)) < qcE) :
    qChisq fuel lg ig p v = .val (qcStart0 p (v / 2) (lg (v / 2))) := by
  have : qcStart0 p (v / 2) (lg (v / 2)) - qcE < 0 := by linarith
  simp [qChisq, hg, hk, this]

/-- **Error exit of the refinement** (cpp:261-265): when `incompleteGamma` reports an error (a negative
value) in a round of l4, that round leaves the loop with the error value −1 -/
theorem qChisq_ig_error (ig : ℝ → ℝ → ℝ → R ℝ) (p xx g c ch t : ℝ)
    (h : ig (half * ch) xx g = .val t) (ht : t < 0) :
    qcL4Step ig p xx g c ch = .inr (.val (-1)) ∧
    ∀ fuel, flat (iter (qcL4Step ig p xx g c) (fuel + 1) ch) = .val (-1) := by
  have e : qcL4Step ig p xx g c ch = .inr (.val (-1)) := by
    simp only [qcL4Step]; rw [h]; simp [ht]
  exact ⟨e, fun fuel => by simp [iter, e, flat]⟩

/-- every exit of a round of l4 is a value or what `incompleteGamma` delivered -/
theorem qcL4_exit_not_exc (ig : ℝ → ℝ → ℝ → R ℝ) (hig : ∀ a b c, ig a b c ≠ .exc) (p xx g c : ℝ) :
    ∀ (n : Nat) (ch : ℝ), flat (iter (qcL4Step ig p xx g c) n ch) ≠ .exc := by
  intro n ch
  cases hi : iter (qcL4Step ig p xx g c) n ch with
  | none => nofun
  | some r =>
    refine iter_some_inv (qcL4Step ig p xx g c) (fun r => r ≠ .exc) ?_ n ch r hi
    rintro s b hs rfl
    rw [qcL4Step] at hs
    cases hc : ig (half * s) xx g with
    | val t =>
      rw [hc] at hs
      exact absurd hs (ite_ne nofun (ite_ne nofun nofun))
    | exc => exact hig _ _ _ hc
    | hang =>
      rw [hc] at hs
      cases hs

/-- `qChisq` never raises (given that `incompleteGamma` does not: `ig_never_raises`) -/
theorem qChisq_never_raises (fuel : Nat) (lg : ℝ → ℝ) (ig : ℝ → ℝ → ℝ → R ℝ)
    (hig : ∀ a b c, ig a b c ≠ .exc) (p v : ℝ) : qChisq fuel lg ig p v ≠ .exc := by
  unfold qChisq
  refine ite_ne nofun ?_
  simp only []
  split
  · exact ite_ne nofun (qcL4_exit_not_exc ig hig _ _ _ _ _ _)
  · split
    · exact qcL4_exit_not_exc ig hig _ _ _ _ _ _
    · nofun
  · exact qcL4_exit_not_exc ig hig _ _ _ _ _ _

/-- the hypothesis `hig` of `qChisq_never_raises` holds for the transcribed `incompleteGamma` -/
example : ∀ a b c : ℝ, incompleteGamma 1000 a b c ≠ .exc := fun a b c => ig_never_raises 1000 a b c

/-- more fuel never changes a delivered value (the fuel is not observable), for every `lnGamma` and
`incompleteGamma` -/
theorem qChisq_fuel_irrelevant {α : Type} [Scalar α] (n k : Nat) (lg : α → α) (ig : α → α → α → R α) (p v w : α)
    (h : qChisq n lg ig p v = .val w) : qChisq (n + k) lg ig p v = .val w :=
  qChisq_fuelMono lg ig p v n k w h

/-- **Guard completeness**, unconditionally (for every choice of the sub-kernels): an exception iff
`α ≤ 0 ∨ β ≤ 0 ∨ x < 0 ∨ x > 1` -/
theorem ib_exc_iff (S : BetaSub ℝ) (x a b : ℝ) :
    incompleteBeta S x a b = .exc ↔ (a ≤ 0 ∨ b ≤ 0 ∨ x < 0 ∨ 1 < x) := by
  rw [incompleteBeta_real, ← or_assoc]
  refine ite_ite_eq_iff (ite_ne nofun (ite_ne nofun (ite_ne (R.ofOpt_ne_exc _) (ite_ne (ite_ne ?_ nofun) nofun))))
  exact R.map_ne _ _ _ nofun (R.ofOpt_ne_exc _)

/-- exact end points -/
theorem ib_ends (S : BetaSub ℝ) (a b : ℝ) (ha : 0 < a) (hb : 0 < b) :
    incompleteBeta S 0 a b = .val 0 ∧ incompleteBeta S 1 a b = .val 1 := by
  have h1 : ¬ (a ≤ 0 ∨ b ≤ 0) := not_or.mpr ⟨not_le.mpr ha, not_le.mpr hb⟩
  constructor
  · rw [incompleteBeta_real, if_neg h1, if_neg (by norm_num), if_pos rfl]
  · rw [incompleteBeta_real, if_neg h1, if_neg (by norm_num), if_neg one_ne_zero, if_pos rfl]

/-- strictly inside with `β x ≤ 1 ∧ x ≤ 0.95` the direct power series is the answer -/
theorem ib_direct_series (S : BetaSub ℝ) (x a b : ℝ) (ha : 0 < a) (hb : 0 < b) (hx0 : 0 < x) (hx1 : x < 1)
    (hps : psCond b x = true) : incompleteBeta S x a b = R.ofOpt (S.ps a b x) := by
  rw [incompleteBeta_inside S ha hb hx0 hx1, if_pos hps]

/-- **Tail swap, exactly.**  Whenever the executable guard `ibReflExpected` applies (strictly
inside, `x > α/(α+β)`, not in the direct power-series region — the remaining conjuncts hold
automatically in exact arithmetic, see `ibReflExpected_applies`), `incompleteBeta(x, α, β)` is the
clamped complement of `incompleteBeta(1 - x, β, α)`: the same sub-kernel values, `1 - t` (or
`1 - VERY_TINY`).  For every choice of the sub-kernels.  The driver evaluates the same `ibReflExpected`
at `Float` on the implementation's two answers (`refl.ibeta`). -/
theorem ib_reflect_swapped (S : BetaSub ℝ) (x a b : ℝ) (r : R ℝ)
    (h : ibReflExpected x a b (incompleteBeta S (1 - x) b a) = some r) :
    incompleteBeta S x a b = r := by
  simp only [ibReflExpected, ScalarReal.one_eq] at h
  split at h
  · rename_i hg
    simp only [Bool.and_eq_true, ScalarReal.gtb_iff, ScalarReal.ltb_iff, ScalarReal.zero_eq,
      Bool.not_eq_eq_eq_not, Bool.not_true] at hg
    obtain ⟨⟨⟨⟨⟨⟨⟨⟨⟨ha, hb⟩, hx0⟩, hx1⟩, hps⟩, hsw⟩, _⟩, _⟩, _⟩, _⟩ := hg
    rw [incompleteBeta_swapped S ha hb hx0 hx1 hps ((ibSwap_iff x a b).mp hsw)]
    exact Option.some.inj h
  · cases h

/-- in exact arithmetic the guard of `ib_reflect_swapped` is just: strictly inside, swapped, not in the
direct power-series region (the mirrored call is then never swapped, and `1 - (1 - x) = x`) -/
theorem ibReflExpected_applies (x a b : ℝ) (r2 : R ℝ) (ha : 0 < a) (hb : 0 < b) (hx0 : 0 < x) (hx1 : x < 1)
    (hps : psCond b x = false) (hsw : a / (a + b) < x) :
    ibReflExpected x a b r2 = some (if psCond a (1 - x) then r2.map complLe else r2.map complLt) := by
  simp only [ibReflExpected, ScalarReal.one_eq, ScalarReal.zero_eq, Bool.and_eq_true, ScalarReal.gtb_iff,
    ScalarReal.ltb_iff, ScalarReal.eqb_iff, Bool.not_eq_eq_eq_not, Bool.not_true, hps, (ibSwap_iff x a b).mpr hsw,
    ibSwap_mirror ha hb hsw, sub_sub_cancel, ha, hb, hx0, hx1, sub_pos.mpr hx1, sub_lt_self 1 hx0, and_self, if_true]

/-- **Reflection of the beta cdf, as far as it holds by construction** (`_partial`: the full
identity `I_x(α,β) = 1 − I_{1−x}(β,α)` for all `x` is a property of the special function, not of the
branch structure; what the code guarantees outright is the swapped side).  For `x` strictly inside,
above `α/(α+β)`, outside the direct power-series region: if the mirrored call delivers `t` above the
clamp threshold, the call delivers exactly `1 − t`. -/
theorem pBeta_reflect_partial (S : BetaSub ℝ) (x a b t : ℝ) (ha : 0 < a) (hb : 0 < b) (hx0 : 0 < x) (hx1 : x < 1)
    (hps : psCond b x = false) (hsw : a / (a + b) < x)
    (hm : incompleteBeta S (1 - x) b a = .val t) (ht : tiny < t) :
    incompleteBeta S x a b = .val (1 - t) := by
  rw [incompleteBeta_swapped S ha hb hx0 hx1 hps hsw, hm]
  have h1 : ¬ (t ≤ tiny) := not_le.mpr ht
  have h2 : ¬ (t < tiny) := not_lt.mpr ht.le
  split <;> simp [R.map, complLe, complLt, h1, h2]

/-- the hypotheses of `pBeta_reflect_partial` are satisfiable: `α = β = 2`, `x = 0.97`, with
sub-kernels whose continued fractions are the constant 1 -/
example : ∃ S : BetaSub ℝ, ∃ t : ℝ, incompleteBeta S (1 - 97 / 100) 2 2 = .val t ∧
    psCond (2 : ℝ) (97 / 100) = false ∧ (2 : ℝ) / (2 + 2) < 97 / 100 := by
  refine ⟨⟨fun _ => 0, fun _ _ _ => some (1 / 2), fun _ _ _ => 1, fun _ _ _ => 1⟩, 1 / 2, ?_, ?_, by norm_num⟩
  · have : psCond (2 : ℝ) (1 - 97 / 100) = true := by
      rw [psCond_iff]; simp [c0_95]; norm_num
    rw [ib_direct_series _ _ _ _ (by norm_num) (by norm_num) (by norm_num) (by norm_num) this]
    simp [R.ofOpt]
  · rw [← Bool.not_eq_true, psCond_iff]; norm_num

/-- **Clamp of the swapped side** (cpp:617-620, 643-646, 663-666): whatever the sub-kernels deliver, on
the swapped side the value never exceeds `1 − VERY_TINY` -/
theorem ib_swapped_le (S : BetaSub ℝ) (x a b v : ℝ) (hsw : ibSwapped x a b = true)
    (h : incompleteBeta S x a b = .val v) : v ≤ 1 - tiny := by
  simp only [ibSwapped, Bool.and_eq_true, ScalarReal.gtb_iff, ScalarReal.ltb_iff, ScalarReal.zero_eq,
    ScalarReal.one_eq, Bool.not_eq_eq_eq_not, Bool.not_true] at hsw
  obtain ⟨⟨⟨⟨⟨ha, hb⟩, hx0⟩, hx1⟩, hps⟩, hs⟩ := hsw
  -- both complements are `1 - VERY_TINY` below the threshold and `1 - t` with `t ≥ VERY_TINY` above it
  have clamp : ∀ (c : Prop) [Decidable c] (t : ℝ), (¬ c → tiny ≤ t) →
      (if c then 1 - tiny else 1 - t) ≤ 1 - tiny := by
    intro c _ t h
    split
    · exact le_rfl
    · exact sub_le_sub_left (h ‹_›) 1
  have cle : ∀ t : ℝ, complLe t ≤ 1 - tiny := fun t => by
    simp only [complLe, ScalarReal.leb_iff, ScalarReal.one_eq]
    exact clamp _ t fun h => (not_le.mp h).le
  have clt : ∀ t : ℝ, complLt t ≤ 1 - tiny := fun t => by
    simp only [complLt, ScalarReal.ltb_iff, ScalarReal.one_eq]
    exact clamp _ t not_lt.mp
  rw [incompleteBeta_inside S ha hb hx0 hx1, if_neg (Bool.eq_false_iff.mp hps), if_pos hs] at h
  split at h
  · cases ho : S.ps b a (1 - x) with
    | none => rw [ho] at h; cases h
    | some t => rw [ho] at h; cases h; exact cle t
  · cases h
    exact clt _

/-- **Where `incompleteBeta` can fail to return**, pointwise: only inside a call of the power series it
actually makes — the direct one `ps(α, β, x)` when `β x ≤ 1 ∧ x ≤ 0.95`, or the one after the tail swap
`ps(β, α, 1 - x)`.  (The continued fractions are bounded by the code's own 300 rounds.) -/
theorem ib_hang_only_at_series_call (S : BetaSub ℝ) (x a b : ℝ) (h : incompleteBeta S x a b = .hang) :
    (psCond b x = true ∧ S.ps a b x = none) ∨
    (psCond b x = false ∧ ibSwap x a b = true ∧ psCond a (1 - x) = true ∧ S.ps b a (1 - x) = none) := by
  have hd : ¬ (a ≤ 0 ∨ b ≤ 0 ∨ x < 0 ∨ 1 < x) := fun hd => by
    rw [(ib_exc_iff S x a b).mpr hd] at h
    cases h
  push Not at hd
  obtain ⟨ha, hb, hx0, hx1⟩ := hd
  have hx0' : x ≠ 0 := fun e => by
    rw [e, (ib_ends S a b ha hb).1] at h
    cases h
  have hx1' : x ≠ 1 := fun e => by
    rw [e, (ib_ends S a b ha hb).2] at h
    cases h
  rw [incompleteBeta_inside S ha hb (lt_of_le_of_ne hx0 hx0'.symm) (lt_of_le_of_ne hx1 hx1')] at h
  by_cases hps : psCond b x = true
  · rw [if_pos hps] at h
    exact .inl ⟨hps, R.ofOpt_eq_hang_iff.mp h⟩
  rw [if_neg hps] at h
  by_cases hsw : ibSwap x a b = true
  · rw [if_pos hsw] at h
    by_cases hq : psCond a (1 - x) = true
    · rw [if_pos hq] at h
      exact .inr ⟨Bool.eq_false_iff.mpr hps, hsw, hq, R.ofOpt_eq_hang_iff.mp (R.map_eq_bad _ _ _ nofun h)⟩
    · rw [if_neg hq] at h
      cases h
  · rw [if_neg hsw] at h
    cases h

/-- … hence, pointwise: when the two power-series calls `incompleteBeta(x, α, β)` can make return, it
returns.  (The hypotheses are at the arguments passed: `∀ a b x, S.ps a b x ≠ none` is not satisfied by the
transcribed series with a fixed fuel outside its call region.) -/
theorem ib_hangs_only_in_series (S : BetaSub ℝ) (x a b : ℝ)
    (h1 : S.ps a b x ≠ none) (h2 : S.ps b a (1 - x) ≠ none) : incompleteBeta S x a b ≠ .hang := by
  intro h
  rcases ib_hang_only_at_series_call S x a b h with ⟨_, hh⟩ | ⟨_, _, _, hh⟩
  · exact h1 hh
  · exact h2 hh

/-- the hypotheses of `ib_hangs_only_in_series` hold for the *transcribed* power series at real
arguments: `betaPs` with `β = 1` (the series `Σ (n-β)…` is identically 0) returns with fuel 1 -/
example (lg : ℝ → ℝ) (x : ℝ) : (betaSub 1 lg).ps 2 1 x ≠ none := by
  have h : ¬ ((tiny : ℝ) * 2⁻¹ < 0) := by have := tiny_pos; linarith
  simp [betaSub, betaPs, iter, psStep, h]

/-- **Termination of the power series** (`while (fabs(v) > z)`, cpp:921-928; the code has no bound
there), exact arithmetic, for `0 < x < 1`, `α > 0`, `0 ≤ β ≤ 2` (`_partial`: for `β > 2` the first
`⌈β⌉ - 2` factors `(n-β)x/n` are negative and can exceed 1 in modulus, the geometric bound starts
later — not proved): there is a number of rounds `N` such that the transcribed `betaPs` has returned
for every fuel `≥ N`, whatever `lnGamma` is.  From `|t_k| ≤ |(1-β)x| · x^k`. -/
theorem betaPs_terminates_partial (lg : ℝ → ℝ) (a b x : ℝ) (ha : 0 < a) (hb0 : 0 ≤ b) (hb2 : b ≤ 2)
    (hx0 : 0 < x) (hx1 : x < 1) : ∃ N : Nat, ∀ fuel, N ≤ fuel → betaPs fuel lg a b x ≠ none := by
  obtain ⟨m, hm⟩ := exists_mul_pow_le |(1 - b) * x| hx0.le hx1 tiny_pos
  refine ⟨m + 1, fun fuel hf hn => ?_⟩
  have := ps_loop_terminates a b x ha hb0 hb2 hx0 hx1 m fuel
    ⟨two, (one - b) * x, (one - b) * x / (a + one), zero⟩ hf (by simp)
    (by
      show |(one - b) * x / (a + one)| ≤ |(one - b) * x| / a
      rw [ScalarReal.one_eq, abs_div, abs_of_pos (add_pos ha one_pos)]
      exact div_le_div_of_nonneg_left (abs_nonneg _) ha (le_add_of_nonneg_right zero_le_one))
    (by simpa using hm)
  rw [betaPs, Option.map_eq_none_iff] at hn
  rw [hn] at this
  cases this

/-- the hypotheses of `ib_hangs_only_in_series` / `qBeta_terminates` hold for the transcribed sub-kernels
at real, non-degenerate arguments: `incompleteBeta(x, 3/2, 1/2)` with the transcribed `betaPs` returns
for every `0 < x < 1` once the fuel is large enough (the fuel depends on `x`) -/
example (lg : ℝ → ℝ) (x : ℝ) (hx0 : 0 < x) (hx1 : x < 1) :
    ∃ N : Nat, ∀ fuel, N ≤ fuel → incompleteBeta (betaSub fuel lg) x (3 / 2) (1 / 2) ≠ .hang := by
  obtain ⟨N1, h1⟩ := betaPs_terminates_partial lg (3 / 2) (1 / 2) x (by norm_num) (by norm_num) (by norm_num) hx0 hx1
  obtain ⟨N2, h2⟩ := betaPs_terminates_partial lg (1 / 2) (3 / 2) (1 - x) (by norm_num) (by norm_num) (by norm_num)
    (by linarith) (by linarith)
  refine ⟨max N1 N2, fun fuel hf => ?_⟩
  exact ib_hangs_only_in_series _ x _ _ (h1 fuel (le_trans (le_max_left _ _) hf))
    (h2 fuel (le_trans (le_max_right _ _) hf))

/-- **Whatever the Newton iteration delivers is a value or the outcome of a `pBeta` call it made**,
pointwise: an outcome `bad` that is not a value was delivered by `pBeta(x, pp, qq)` for some queried
`x`, *at the working shapes* — the only shapes the iteration passes.  Both loops are bounded by the
code's own `niterations = 2000` (no fuel in the model). -/
theorem qbLowerTail_bad_from_query (pb : ℝ → ℝ → ℝ → R ℝ) (bad : R ℝ) (hbad : ∀ v, bad ≠ .val v)
    (a pp qq lnbeta : ℝ) (h : qbLowerTail pb a pp qq lnbeta = bad) : ∃ x, pb x pp qq = bad := by
  have key : ∀ n s r, iterCap (qbOuterStep pb a pp qq lnbeta (qbAcu a pp)) n s = .inr r →
      (∀ v, r ≠ .val v) → ∃ x, pb x pp qq = r := by
    refine iterCap_inr_inv _ (fun r => (∀ v, r ≠ .val v) → ∃ x, pb x pp qq = r) ?_
    intro s b hs hb
    rw [qbOuterStep] at hs
    cases hc : pb s.xinbta pp qq with
    | exc => rw [hc] at hs; exact ⟨s.xinbta, hc.trans (Sum.inr.inj hs)⟩
    | hang => rw [hc] at hs; exact ⟨s.xinbta, hc.trans (Sum.inr.inj hs)⟩
    | val y0 =>
      -- both exits of a round in which `pBeta` returned deliver a value
      rw [hc] at hs
      exact absurd hs (ite_ne (fun e => hb _ (Sum.inr.inj e).symm)
        (ite_ne (fun e => hb _ (Sum.inr.inj e).symm) nofun))
  unfold qbLowerTail at h
  simp only [] at h
  split at h
  · exact absurd h.symm (hbad _)
  · rename_i r hi
    exact h ▸ key _ _ _ hi (h ▸ hbad)

/-- contrapositive form: an outcome `pBeta` never has *at the working shapes* is never the outcome -/
theorem qbLowerTail_ne (pb : ℝ → ℝ → ℝ → R ℝ) (bad : R ℝ) (hbad : ∀ v, bad ≠ .val v)
    (a pp qq lnbeta : ℝ) (hpb : ∀ x, pb x pp qq ≠ bad) : qbLowerTail pb a pp qq lnbeta ≠ bad := by
  intro h
  obtain ⟨x, hx⟩ := qbLowerTail_bad_from_query pb bad hbad a pp qq lnbeta h
  exact hpb x hx

/-- the argument checks of `qBeta` (cpp:453-456): `prob ∉ [0,1]` or a negative shape raise, whatever
`pBeta` is -/
theorem qBeta_guard_raises (lg : ℝ → ℝ) (pb : ℝ → ℝ → ℝ → R ℝ) (prob p q : ℝ)
    (h : prob < 0 ∨ 1 < prob ∨ p < 0 ∨ q < 0) : qBeta lg pb prob p q = .exc := by
  rw [← or_assoc] at h
  rw [qBeta_real]
  rcases h with h | h
  · rw [if_pos h]
  · rw [if_pos h, ite_self]

/-- **Past its own checks `qBeta` raises only through a `pBeta` call it makes**, pointwise: for
`0 ≤ prob ≤ 1` and non-negative shapes an exception of `qBeta(prob, α, β)` is the exception of some
`pBeta(x, α, β)` (lower tail) or `pBeta(x, β, α)` (upper tail).  For every `pBeta`. -/
theorem qBeta_raises_only_through_pBeta (lg : ℝ → ℝ) (pb : ℝ → ℝ → ℝ → R ℝ) (prob p q : ℝ)
    (hg : ¬ (prob < 0 ∨ 1 < prob ∨ p < 0 ∨ q < 0)) (h : qBeta lg pb prob p q = .exc) :
    ∃ x, pb x p q = .exc ∨ pb x q p = .exc := by
  rcases qBeta_cases lg pb prob p q with hd | hv | hl | hu
  · exact absurd hd hg
  · rw [hv.2] at h
    cases h
  · obtain ⟨x, hx⟩ := qbLowerTail_bad_from_query pb .exc nofun _ _ _ _ (hl ▸ h)
    exact ⟨x, Or.inl hx⟩
  · obtain ⟨x, hx⟩ := qbLowerTail_bad_from_query pb .exc nofun _ _ _ _ (R.map_eq_bad _ _ _ nofun (hu ▸ h))
    exact ⟨x, Or.inr hx⟩

/-- every trial point the inner loop *accepts* (exit by `break` or `goto L_converged`, cpp:542-547) lies in
`[0,1]`, and strictly inside on `break`: a Newton iterate can leave `[0,1]` only when the inner loop
runs into its cap -/
theorem qbInner_exit_in_unit (xinbta y prev acu : ℝ) (n : Nat) (s0 st : Inn ℝ) (c : Bool)
    (h : iterCap (qbInnerStep xinbta y prev acu) n s0 = .inr (st, c)) :
    0 ≤ st.tx ∧ st.tx ≤ 1 ∧ (c = false → st.tx ≠ 0 ∧ st.tx ≠ 1) := by
  refine iterCap_inr_inv (qbInnerStep xinbta y prev acu)
    (fun r => 0 ≤ r.1.tx ∧ r.1.tx ≤ 1 ∧ (r.2 = false → r.1.tx ≠ 0 ∧ r.1.tx ≠ 1)) ?_ n s0 (st, c) h
  intro s b hs
  simp only [qbInnerStep, Bool.and_eq_true, ScalarReal.geb_iff, ScalarReal.leb_iff, ScalarReal.ltb_iff,
    ScalarReal.zero_eq, ScalarReal.one_eq, Bool.or_eq_true, Bool.not_eq_eq_eq_not, Bool.not_true,
    ScalarReal.abs_eq, DistGuards.eqb_false_iff] at hs
  by_cases h1 : |s.g * y| < prev
  · rw [if_pos h1] at hs
    by_cases h2 : 0 ≤ xinbta - s.g * y ∧ xinbta - s.g * y ≤ 1
    · rw [if_pos h2] at hs
      by_cases h3 : prev ≤ acu ∨ |y| ≤ acu
      · rw [if_pos h3] at hs
        cases hs
        exact ⟨h2.1, h2.2, nofun⟩
      · rw [if_neg h3] at hs
        by_cases h4 : xinbta - s.g * y ≠ 0 ∧ xinbta - s.g * y ≠ 1
        · rw [if_pos h4] at hs
          cases hs
          exact ⟨h2.1, h2.2, fun _ => h4⟩
        · rw [if_neg h4] at hs
          cases hs
    · rw [if_neg h2] at hs
      cases hs
  · rw [if_neg h1] at hs
    cases hs

/-- the start value after the reset (cpp:516-517) lies strictly inside `(0,1)` for the working tail
probability `0 < a ≤ 1/2` -/
theorem qbReset_in_unit (a x : ℝ) (ha : 0 < a) (ha2 : a ≤ 1 / 2) : 0 < qbReset a x ∧ qbReset a x < 1 := by
  have hl : (0 : ℝ) < qbLower := mul_pos (dy_pos (by decide) _) (dy_pos (by decide) _)
  have hu : (qbUpper : ℝ) < 1 := by
    have : (0 : ℝ) < c2_22em16 := dy_pos (by decide) _
    rw [qbUpper, ScalarReal.one_eq]
    exact sub_lt_self 1 this
  simp only [qbReset, Bool.or_eq_true, ScalarReal.leb_iff, ScalarReal.geb_iff, half_real, two_real]
  by_cases h : x ≤ qbLower ∨ qbUpper ≤ x
  · rw [if_pos h]
    constructor <;> linarith
  · rw [if_neg h]
    rw [not_or, not_le, not_le] at h
    exact ⟨hl.trans h.1, h.2.trans hu⟩

/-- **Guard completeness of `qBeta` over the transcribed `pBeta`, as far as it is proved** (`_partial`).
The full statement for positive shapes is `qBeta(prob, α, β) raises ↔ prob < 0 ∨ prob > 1`.  Proved:
`←` (`qBeta_guard_raises`) and, for `→`, that an exception inside `0 ≤ prob ≤ 1` with `α, β > 0` can
only come from a Newton iterate `x` *outside `[0,1]`* handed to `pBeta` (whose own guard is
`ib_exc_iff`).  Missing: that no iterate leaves `[0,1]`.  By `qbInner_exit_in_unit` and
`qbReset_in_unit` every accepted trial point and the start lie in `[0,1]`; the only leak is the inner
loop running into its cap of 2000 step reductions with its last trial point outside, which exact
arithmetic does not exclude.  The driver checks it on every `k.qbeta` / `qbeta` op (an exception
inside the domain with positive shapes is a `FAIL:qBeta_no_exception_inside_domain`, a concrete
failing input of the property's last clause). -/
theorem qBeta_raises_iff_partial (lg : ℝ → ℝ) (S : BetaSub ℝ) (prob p q : ℝ) (hp : 0 < p) (hq : 0 < q)
    (h0 : 0 ≤ prob) (h1 : prob ≤ 1) (h : qBeta lg (incompleteBeta S) prob p q = .exc) :
    ∃ x, (x < 0 ∨ 1 < x) ∧ (incompleteBeta S x p q = .exc ∨ incompleteBeta S x q p = .exc) := by
  have hg : ¬ (prob < 0 ∨ 1 < prob ∨ p < 0 ∨ q < 0) := by
    push Not; exact ⟨h0, h1, le_of_lt hp, le_of_lt hq⟩
  obtain ⟨x, hx⟩ := qBeta_raises_only_through_pBeta lg _ prob p q hg h
  have key : ∀ a b, 0 < a → 0 < b → incompleteBeta S x a b = .exc → x < 0 ∨ 1 < x := fun a b ha hb he =>
    (((ib_exc_iff S x a b).mp he).resolve_left (not_le.mpr ha)).resolve_left (not_le.mpr hb)
  exact ⟨x, hx.elim (key p q hp hq) (key q p hq hp), hx⟩

/-- **A zero shape raises** (the checks of `qBeta` are `< 0`, those of `pBeta` `≤ 0`): for `0 < prob < 1`
and non-negative shapes one of which is 0, `qBeta` over the transcribed `pBeta` raises — in its first
Newton round.  So the right-hand side of the guard iff for *non-negative* shapes is
`prob ∉ [0,1] ∨ (0 < prob < 1 ∧ (α = 0 ∨ β = 0))` up to the leak described at `qBeta_raises_iff_partial`. -/
theorem qBeta_zero_shape_raises (lg : ℝ → ℝ) (S : BetaSub ℝ) (prob p q : ℝ) (h0 : 0 < prob) (h1 : prob < 1)
    (hp : 0 ≤ p) (hq : 0 ≤ q) (hz : p = 0 ∨ q = 0) : qBeta lg (incompleteBeta S) prob p q = .exc := by
  have first : ∀ a pp qq l, (pp ≤ 0 ∨ qq ≤ 0) → qbLowerTail (incompleteBeta S) a pp qq l = .exc := by
    intro a pp qq l hz'
    have e : ∀ x, incompleteBeta S x pp qq = .exc := fun x =>
      (ib_exc_iff S x pp qq).mpr (hz'.elim Or.inl fun h => Or.inr (Or.inl h))
    have hn : niterations = 1999 + 1 := rfl
    simp only [qbLowerTail, hn, iterCap, qbOuterStep, e]
  have hz' : p ≤ 0 ∨ q ≤ 0 := hz.imp le_of_eq le_of_eq
  rcases qBeta_cases lg (incompleteBeta S) prob p q with hd | hv | hl | hu
  · exact qBeta_guard_raises lg _ prob p q hd
  · exact absurd hv.1 (not_or.mpr ⟨h0.ne', h1.ne⟩)
  · rw [hl]
    exact first _ _ _ _ hz'
  · rw [hu, first _ _ _ _ hz'.symm]
    rfl

/-- `qBeta(0.25, 0, 1)` raises although none of `qBeta`'s own checks fires -/
example (lg : ℝ → ℝ) (S : BetaSub ℝ) : qBeta lg (incompleteBeta S) (1 / 4) 0 1 = .exc :=
  qBeta_zero_shape_raises lg S _ _ _ (by norm_num) (by norm_num) (le_refl _) (by norm_num) (Or.inl rfl)

/-- The guard iff for a `pBeta` that **never** raises *at the working shapes* — which the transcribed
`incompleteBeta` is not: it raises outside `[0,1]` (use `qBeta_raises_iff_partial` there). -/
theorem qBeta_raises_iff_of_total_pBeta (lg : ℝ → ℝ) (pb : ℝ → ℝ → ℝ → R ℝ) (prob p q : ℝ)
    (hpq : ∀ x, pb x p q ≠ .exc) (hqp : ∀ x, pb x q p ≠ .exc) :
    qBeta lg pb prob p q = .exc ↔ (prob < 0 ∨ 1 < prob ∨ p < 0 ∨ q < 0) := by
  refine ⟨fun h => ?_, qBeta_guard_raises lg pb prob p q⟩
  by_contra hg
  obtain ⟨x, hx | hx⟩ := qBeta_raises_only_through_pBeta lg pb prob p q hg h
  · exact hpq x hx
  · exact hqp x hx

/-- a `pBeta` meeting the hypotheses of `qBeta_raises_iff_of_total_pBeta`: one that never raises
(the identity) -/
example (lg : ℝ → ℝ) (prob p q : ℝ) :
    qBeta lg (fun x _ _ => R.val x) prob p q = .exc ↔ (prob < 0 ∨ 1 < prob ∨ p < 0 ∨ q < 0) :=
  qBeta_raises_iff_of_total_pBeta lg _ prob p q (fun _ => by simp) (fun _ => by simp)

/-- **Where `qBeta` can fail to return**, pointwise: both Newton loops carry the code's own cap, so a
`hang` of `qBeta(prob, α, β)` is the `hang` of a `pBeta(x, α, β)` or `pBeta(x, β, α)` call it made -/
theorem qBeta_hang_only_through_pBeta (lg : ℝ → ℝ) (pb : ℝ → ℝ → ℝ → R ℝ) (prob p q : ℝ)
    (h : qBeta lg pb prob p q = .hang) : ∃ x, pb x p q = .hang ∨ pb x q p = .hang := by
  rcases qBeta_cases lg pb prob p q with hd | hv | hl | hu
  · rw [qBeta_guard_raises lg pb prob p q hd] at h
    cases h
  · rw [hv.2] at h
    cases h
  · obtain ⟨x, hx⟩ := qbLowerTail_bad_from_query pb .hang nofun _ _ _ _ (hl ▸ h)
    exact ⟨x, Or.inl hx⟩
  · obtain ⟨x, hx⟩ := qbLowerTail_bad_from_query pb .hang nofun _ _ _ _ (R.map_eq_bad _ _ _ nofun (hu ▸ h))
    exact ⟨x, Or.inr hx⟩

/-- **Totality**, pointwise in the shapes: `qBeta(prob, α, β)` returns whenever `pBeta(·, α, β)` and
`pBeta(·, β, α)` do (hypotheses at the two shape pairs the routine passes) -/
theorem qBeta_terminates (lg : ℝ → ℝ) (pb : ℝ → ℝ → ℝ → R ℝ) (prob p q : ℝ)
    (hpq : ∀ x, pb x p q ≠ .hang) (hqp : ∀ x, pb x q p ≠ .hang) : qBeta lg pb prob p q ≠ .hang := by
  intro h
  obtain ⟨x, hx | hx⟩ := qBeta_hang_only_through_pBeta lg pb prob p q h
  · exact hpq x hx
  · exact hqp x hx

/-- … and over the transcribed `incompleteBeta`: a `hang` of `qBeta` is a power-series call that did
not return, at shapes `(α, β)` or `(β, α)` and an argument inside the series region -/
theorem qBeta_hangs_only_in_series (lg : ℝ → ℝ) (S : BetaSub ℝ) (prob p q : ℝ)
    (h : qBeta lg (incompleteBeta S) prob p q = .hang) :
    ∃ x a b, ((a = p ∧ b = q) ∨ (a = q ∧ b = p)) ∧ psCond b x = true ∧ S.ps a b x = none := by
  obtain ⟨x, hx | hx⟩ := qBeta_hang_only_through_pBeta lg _ prob p q h
  · rcases ib_hang_only_at_series_call S x p q hx with ⟨h1, h2⟩ | ⟨_, _, h1, h2⟩
    · exact ⟨x, p, q, Or.inl ⟨rfl, rfl⟩, h1, h2⟩
    · exact ⟨1 - x, q, p, Or.inr ⟨rfl, rfl⟩, h1, h2⟩
  · rcases ib_hang_only_at_series_call S x q p hx with ⟨h1, h2⟩ | ⟨_, _, h1, h2⟩
    · exact ⟨x, q, p, Or.inr ⟨rfl, rfl⟩, h1, h2⟩
    · exact ⟨1 - x, p, q, Or.inl ⟨rfl, rfl⟩, h1, h2⟩

/-- the hypotheses of `qBeta_terminates` hold for the transcribed `incompleteBeta` with a power series
that returns at the two shape pairs (here: the transcribed `betaPs` at `β = α = 1`, fuel 1) -/
example (lg : ℝ → ℝ) (prob : ℝ) : qBeta lg (incompleteBeta (betaSub 1 lg)) prob 1 1 ≠ .hang := by
  intro h
  obtain ⟨x, a, b, hab, _, hps⟩ := qBeta_hangs_only_in_series lg _ prob 1 1 h
  have : a = 1 ∧ b = 1 := by rcases hab with h | h <;> exact h
  rw [this.1, this.2] at hps
  have h' : ¬ ((tiny : ℝ) < 0) := by have := tiny_pos; linarith
  simp [betaSub, betaPs, iter, psStep, h'] at hps

/-- end points are returned as they are (also for a zero shape: the check is `< 0`) -/
theorem qBeta_ends (lg : ℝ → ℝ) (pb : ℝ → ℝ → ℝ → R ℝ) (p q : ℝ) (hp : 0 ≤ p) (hq : 0 ≤ q) :
    qBeta lg pb 0 p q = .val 0 ∧ qBeta lg pb 1 p q = .val 1 := by
  have h2 : ¬ (p < 0 ∨ q < 0) := not_or.mpr ⟨not_lt.mpr hp, not_lt.mpr hq⟩
  constructor
  · rw [qBeta_real, if_neg (by norm_num), if_neg h2, if_pos (Or.inl rfl)]
  · rw [qBeta_real, if_neg (by norm_num), if_neg h2, if_pos (Or.inr rfl)]

/-- **Tail swap, exactly**: for `1/2 < prob < 1`, `qBeta(prob; α, β) = 1 − qBeta(1 − prob; β, α)` —
the same lower-tail iteration on the same working triple `(1 − prob, β, α)` with the same `lnBeta`
(symmetric), then the complement.  For every `lnGamma` and `pBeta`, every shapes (both sides raise
together).  The driver evaluates the same `qbReflExpected` at `Float` on the implementation's two
answers (`refl.qbeta`). -/
theorem qBeta_reflect (lg : ℝ → ℝ) (pb : ℝ → ℝ → ℝ → R ℝ) (prob p q : ℝ) (r : R ℝ)
    (h : qbReflExpected prob (qBeta lg pb (1 - prob) q p) = some r) : qBeta lg pb prob p q = r := by
  simp only [qbReflExpected, ScalarReal.one_eq] at h
  split at h
  · rename_i hg
    simp only [Bool.and_eq_true, ScalarReal.gtb_iff, ScalarReal.ltb_iff, half_real] at hg
    rw [qBeta_upper lg pb p q hg.1 hg.2]
    exact Option.some.inj h
  · cases h

/-- the guard of `qBeta_reflect` is satisfiable: `prob = 3/4` -/
example (r2 : R ℝ) : qbReflExpected (3 / 4 : ℝ) r2 = some (r2.map (fun x => 1 - x)) := by
  have h1 : (2⁻¹ : ℝ) < 3 / 4 := by norm_num
  have h2 : (3 / 4 : ℝ) < 1 := by norm_num
  simp [qbReflExpected, h1, h2]

end Bpp.C08
