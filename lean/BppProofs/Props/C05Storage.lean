import BppProofs.Props.C05
import BppProofs.Lemmas.LUStoreVec
/-!
# C05 — LU solve / inverse / determinant on the three storage classes, with in/out parameters in
# any prior state, statement by statement

`BppModel/LUStore.lean` transcribes `LUDecomposition.h` and `MatrixTools::inv`/`det` a second
time, at the level of single statements: every loop (also the innermost) in source order, every
element access through `get`/`set`/`resize` of C04's model of `RowMatrix` / `ColMatrix` /
`LinearMatrix` (`BppModel/Matrix.lean`), operands and in/out parameters being arbitrary stores.
That is the model the driver runs against the C++.

The theorems of this file say that it computes exactly what the abstract model of
`BppModel/LU.lean` computes (the subject of `Props/C05.lean`):

* for **every scalar type** (`[Scalar α]`: in particular `Float` — "each entry undergoes the same
  floating-point operations in the same order" is a theorem, not only an observation of the tie);
* for **every storage class** of the factored matrix, of the right-hand side and of the output
  (`Is A kA m n (fnOf Am)`: `A` is a well-formed store of class `kA` reporting `m × n` whose accessor
  returns the entries of the abstract matrix `Am`);
* for **every prior state of the in/out parameter** (`X` of `solve`, `O` of `inv`, `x` of the vector
  overload: any well-formed store of any class, any shape, any contents): the output keeps its
  class, reports the shape of the result and holds the abstract result — and on an exception it
  has not been touched (the model returns no new state).

The last section combines this with `Props/C05.lean` at `ℝ`: the property's equations (`P·A = L·U`,
`A·X = B`, `A·inv A = 1`, `det`) for stores.
-/
namespace Bpp.C05
open Bpp Bpp.Mx Bpp.LU Bpp.LUS

section AnyScalar
variable {α : Type} [Scalar α]

/-- **constructor**: on a store of any class holding `Am` (`n ≤ m`) the statement-level constructor
returns an object that represents `LU.factor Am`: same `m`, `n`, pivot vector, sign, and a
`RowMatrix` `LU` with the entries of the abstract packed factors -/
theorem construct_on_store {m n : Nat} (Am : Mat α m n) (h : n ≤ m) {A : Store α} {kA : Kind}
    (hA : Is A kA m n (fnOf Am)) :
    ∃ s, constructS A = .ok s ∧ Rep s (factor h Am) := constructS_refines hA h

/-- **the factorisation does not depend on the storage class**: two stores of any two classes
holding the same matrix give objects with the same pivot vector, sign and packed entries -/
theorem construct_storage_independent {m n : Nat} (Am : Mat α m n) (h : n ≤ m) {A A' : Store α} {kA kA' : Kind}
    (hA : Is A kA m n (fnOf Am)) (hA' : Is A' kA' m n (fnOf Am)) :
    ∃ s s', constructS A = .ok s ∧ constructS A' = .ok s' ∧ s'.piv = s.piv ∧ s'.pivsign = s.pivsign ∧
      s'.m = s.m ∧ s'.n = s.n ∧ ∀ i j, i < m → j < n → s'.lu.get i j = s.lu.get i j := by
  obtain ⟨s, e, r⟩ := constructS_refines hA h
  obtain ⟨s', e', r'⟩ := constructS_refines hA' h
  exact ⟨s, s', e, e', by rw [r.piv_eq, r'.piv_eq], by rw [r.pivsign_eq, r'.pivsign_eq], by rw [r.m_eq, r'.m_eq],
    by rw [r.n_eq, r'.n_eq], fun i j hi hj => r.lu_is.get_eq r'.lu_is hi hj⟩

/-- `getL`, `getU`, `det()` of the object are those of the abstract state -/
theorem accessors_on_store {m n : Nat} {s : StateS α} {t : LU.State α m n} (hr : Rep s t) (h : n ≤ m) :
    (∃ L, getLS s = .ok L ∧ Is L .row m n (fnOf (getL t))) ∧
    (∃ U, getUS s = .ok U ∧ Is U .row n n (fnOf (getU h t))) ∧
    detS s = .ok (LU.det t) ∧ s.piv = Array.ofFn (n := m) fun i => ((getPivot t)[i.val]'i.isLt).val :=
  ⟨getLS_refines hr h, getUS_refines hr h, detS_refines hr h, hr.piv_eq⟩

/-- **`solve(B, X)`**: `B` of any class holding `Bm`, `X` any well-formed store — any class, any
shape (larger, smaller, equal, empty), any contents.  If the abstract `solve` returns `(d, Y)`, the
statement-level `solve` returns `d` and leaves `X` of its own class, with the shape of `Y` and the
entries of `Y`: nothing of the prior state survives.  If the abstract `solve` raises, so does the
statement-level one (and `X` is not touched). -/
theorem solve_on_store {m n mb nx : Nat} {s : StateS α} {t : LU.State α m n} (hr : Rep s t)
    (Bm : Mat α mb nx) {B X : Store α} {kB : Kind} (hB : Is B kB mb nx (fnOf Bm)) (hX : X.WF) :
    (∀ d Y, LU.solve t Bm = .ok (d, Y) → ∃ X', solveS s B X = .ok (d, X') ∧ Is X' X.kind m nx (fnOf Y)) ∧
    (∀ e, LU.solve t Bm = .error e → e ≠ .ub → solveS s B X = .error e) :=
  ⟨fun _ _ h => solveS_ok hr Bm hB hX h, fun _ h hne => solveS_error hr Bm hB X h hne⟩

/-- in particular the outcome of `solve` does not depend on the prior state of the output: two
outputs of the same class end up holding the same matrix -/
theorem solve_output_state_irrelevant {m n mb nx : Nat} {s : StateS α} {t : LU.State α m n} (hr : Rep s t)
    (Bm : Mat α mb nx) {B B' X X' : Store α} {kB kB' : Kind} (hB : Is B kB mb nx (fnOf Bm)) (hB' : Is B' kB' mb nx (fnOf Bm))
    (hX : X.WF) (hX' : X'.WF) {d : α} {Z : Store α} (h : solveS s B X = .ok (d, Z))
    (hdef : ∀ e, LU.solve t Bm ≠ .error e) :
    ∃ Z', solveS s B' X' = .ok (d, Z') ∧ Z'.kind = X'.kind ∧ Z'.nrows = Z.nrows ∧ Z'.ncols = Z.ncols ∧
      ∀ i j, i < Z.nrows → j < Z.ncols → Z'.get i j = Z.get i j := by
  obtain ⟨Y, hs, hZ0⟩ := ok_of_refines (solve_on_store hr Bm hB hX) (hdef _) h
  obtain ⟨Z1, e1, hZ1⟩ := solveS_ok hr Bm hB' hX' hs
  exact ⟨Z1, e1, hZ1.kind_eq, by rw [hZ1.nrows_eq, hZ0.nrows_eq], by rw [hZ1.ncols_eq, hZ0.ncols_eq],
    fun i j hi hj => hZ0.get_eq hZ1 (hZ0.nrows_eq ▸ hi) (hZ0.ncols_eq ▸ hj)⟩

/-- **`solve(B, B)`** — the extreme prior state of the in/out parameter: it *is* the right-hand side.
Since the `fix:` commit of `findings/C05.json` the permuted copy is taken from a copy of `B`, and
`B` ends up, in its own class, holding the abstract result -/
theorem solve_in_place {m n mb nx : Nat} {s : StateS α} {t : LU.State α m n} (hr : Rep s t)
    (Bm : Mat α mb nx) {B : Store α} {kB : Kind} (hB : Is B kB mb nx (fnOf Bm))
    {d : α} {Y : Mat α m nx} (h : LU.solve t Bm = .ok (d, Y)) :
    ∃ X', solveSelfS s B = .ok (d, X') ∧ Is X' kB m nx (fnOf Y) := solveSelfS_ok hr Bm hB h

/-- `solve(b, b)` of the vector overload (same repair) is `solveVecS s b b` -/
theorem solve_vector_in_place {m n mb : Nat} {s : StateS α} {t : LU.State α m n} (hr : Rep s t) (b : Vector α mb)
    {d : α} {y : Vector α m} (h : LU.solveVec t b = .ok (d, y)) :
    solveVecS s b.toArray b.toArray = .ok (d, y.toArray) := solveVecS_ok hr b b.toArray h

/-- **the `std::vector` overload**: whatever the output vector contained and however long it was,
it ends up being the abstract result: `resize(piv_length)` keeps a prefix of the old contents or
appends zeros, then every element is assigned (the `X.clear()` of `permuteCopy` tests the length of the
*operand* `b` against the pivot vector, not the output, and cannot be taken: `solve` has already
refused `b.size() != m`); exceptions as in the abstract model -/
theorem solve_vector_on_store {m n mb : Nat} {s : StateS α} {t : LU.State α m n} (hr : Rep s t) (b : Vector α mb) (x : Array α) :
    (∀ d y, LU.solveVec t b = .ok (d, y) → solveVecS s b.toArray x = .ok (d, y.toArray)) ∧
    (∀ e, LU.solveVec t b = .error e → e ≠ .ub → solveVecS s b.toArray x = .error e) :=
  ⟨fun _ _ h => solveVecS_ok hr b x h, fun _ h hne => solveVecS_error hr b x h hne⟩

/-- **`MatrixTools::inv(A, O)`**: `A` of any class, `O` any well-formed store in any prior state -/
theorem inv_on_store {n : Nat} (Am : Mat α n n) {A O : Store α} {kA : Kind} (hA : Is A kA n n (fnOf Am)) (hO : O.WF) :
    (∀ d Y, LU.inv Am = .ok (d, Y) → ∃ O', invS A O = .ok (d, O') ∧ Is O' O.kind n n (fnOf Y)) ∧
    (∀ e, LU.inv Am = .error e → e ≠ .ub → invS A O = .error e) :=
  ⟨fun _ _ h => invS_ok hA hO h, fun _ h hne => invS_error hA O h hne⟩

/-- in-place inverse `MatrixTools::inv(A, A)`: the constructor has copied `A` before the output is
resized and `A` is not read afterwards, so the call is `invS A A`; the result replaces `A` -/
theorem inv_in_place {n : Nat} (Am : Mat α n n) {A : Store α} {kA : Kind} (hA : Is A kA n n (fnOf Am))
    {d : α} {Y : Mat α n n} (h : LU.inv Am = .ok (d, Y)) :
    ∃ O', invS A A = .ok (d, O') ∧ Is O' kA n n (fnOf Y) := by
  obtain ⟨O', e, hO'⟩ := invS_ok hA hA.wf h
  rw [hA.kind_eq] at hO'
  exact ⟨O', e, hO'⟩

/-- `MatrixTools::inv` / `det` refuse a non-square store of any class -/
theorem nonsquare_on_store {m n : Nat} (hmn : m ≠ n) (Am : Mat α m n) {A : Store α} {kA : Kind} (hA : Is A kA m n (fnOf Am))
    (O : Store α) : invS A O = .error .dimension ∧ matDetS A = .error .dimension := by
  have h1 : A.nrows ≠ A.ncols := by rw [hA.nrows_eq, hA.ncols_eq]; exact hmn
  exact ⟨by unfold invS; rw [if_pos h1], by unfold matDetS; rw [if_pos h1]⟩

/-- **`MatrixTools::det(A)`** on a store of any class is the abstract `matDet` -/
theorem matDet_on_store {m n : Nat} (Am : Mat α m n) {A : Store α} {kA : Kind} (hA : Is A kA m n (fnOf Am))
    (hne : LU.matDet Am ≠ .error .ub) : matDetS A = LU.matDet Am := matDetS_refines hA

end AnyScalar

/-! ## the property's equations on stores (exact arithmetic) -/

/-- **P·A = L·U on stores**: for a store of any class holding a matrix with `n ≤ m`, the constructor
returns, `getL`/`getU` return `RowMatrix`es `L`, `U`, and the rows of `A` in pivot order are `L·U` -/
theorem lu_factor_store {m n : Nat} (Am : Mat ℝ m n) (h : n ≤ m) {A : Store ℝ} {kA : Kind} (hA : Is A kA m n (fnOf Am)) :
    ∃ (s : StateS ℝ) (L U : Store ℝ) (Lm : Mat ℝ m n) (Um : Mat ℝ n n), constructS A = .ok s ∧ getLS s = .ok L ∧ getUS s = .ok U ∧
      Is L .row m n (fnOf Lm) ∧ Is U .row n n (fnOf Um) ∧
      UnitLower Lm ∧ Upper Um ∧
      ∃ piv : Vector (Fin m) m, PivInjective piv ∧ s.piv = Array.ofFn (n := m) (fun i => (piv[i.val]'i.isLt).val) ∧
        s.pivsign = pivSignOf piv ∧ permuteRows piv Am = matMul Lm Um := by
  obtain ⟨s, e, r⟩ := constructS_refines hA h
  obtain ⟨L, eL, hL⟩ := getLS_refines r h
  obtain ⟨U, eU, hU⟩ := getUS_refines r h
  obtain ⟨h1, h2, h3, h4⟩ := lu_factor h Am
  exact ⟨s, L, U, _, _, e, eL, eU, hL, hU, h2, h3, (factor h Am).piv, h4, r.piv_eq,
    by rw [r.pivsign_eq]; exact pivsign_eq_pivSignOf h Am, h1⟩

/-- **A·X = B on stores**: stores of any classes for `A`, `B`; the output `X` of any class in any
prior state.  Whenever the statement-level `solve` returns, the output has kept its class, reports
`n × nx`, and holds a matrix `Y` with `A·Y = B`; the indicator is the smallest pivot magnitude. -/
theorem solve_store_spec {n nx : Nat} (Am : Mat ℝ n n) (Bm : Mat ℝ n nx) (hn : 0 < n) (hnx : 0 < nx)
    {A B X : Store ℝ} {kA kB : Kind} (hA : Is A kA n n (fnOf Am)) (hB : Is B kB n nx (fnOf Bm)) (hX : X.WF)
    {s : StateS ℝ} {d : ℝ} {X' : Store ℝ} (hc : constructS A = .ok s) (hs : solveS s B X = .ok (d, X')) :
    ∃ Y : Mat ℝ n nx, Is X' X.kind n nx (fnOf Y) ∧ matMul Am Y = Bm ∧
      (∀ i : Fin n, d ≤ |(getU (Nat.le_refl n) (factor (Nat.le_refl n) Am)).get i i|) ∧
      ∃ i : Fin n, d = |(getU (Nat.le_refl n) (factor (Nat.le_refl n) Am)).get i i| := by
  have r := constructS_eq_ok hA (Nat.le_refl n) hc
  obtain ⟨Y, hab, hY⟩ := ok_of_refines (solve_on_store r Bm hB hX) (solve_ne_ub _ Bm hn hnx) hs
  exact ⟨Y, hY, solve_spec Am _ (construct_square Am) Bm d Y hab, indicator_spec Am _ (construct_square Am) Bm d Y hab⟩

/-- **singular / wrong height on stores**: a pivot below the threshold makes the statement-level
`solve` raise `ZeroDivisionException`, a right-hand side of the wrong height `BadIntegerException`,
for any classes and any output; the output is not touched -/
theorem solve_store_raises {n mb nx : Nat} (Am : Mat ℝ n n) (Bm : Mat ℝ mb nx)
    {A B : Store ℝ} {kA kB : Kind} (hA : Is A kA n n (fnOf Am)) (hB : Is B kB mb nx (fnOf Bm)) (X : Store ℝ)
    {s : StateS ℝ} (hc : constructS A = .ok s) :
    (mb ≠ n → solveS s B X = .error .badInteger) ∧
    (mb = n → (∃ i : Fin n, |(factor (Nat.le_refl n) Am).lu.get i i| < threshold) → solveS s B X = .error .zeroDivision) := by
  have r := constructS_eq_ok hA (Nat.le_refl n) hc
  constructor
  · intro hne
    exact solveS_error r Bm hB X (wrong_height_raises _ Bm hne) (by decide)
  · intro hmb hsing
    subst hmb
    exact solveS_error r Bm hB X (singular_raises _ Bm hsing) (by decide)

/-- **A·inv(A) = 1 on stores**: `A` of any class, the output `O` of any class in any prior state -/
theorem inv_store_spec {n : Nat} (Am : Mat ℝ n n) {A O : Store ℝ} {kA : Kind} (hA : Is A kA n n (fnOf Am)) (hO : O.WF)
    {d : ℝ} {O' : Store ℝ} (hi : invS A O = .ok (d, O')) :
    ∃ Y : Mat ℝ n n, Is O' O.kind n n (fnOf Y) ∧ matMul Am Y = identity n ∧
      toMatrix Am * toMatrix Y = 1 ∧ toMatrix Y * toMatrix Am = 1 := by
  have hn := invS_pos hA hi
  obtain ⟨Y, hab, hY⟩ := ok_of_refines (inv_on_store Am hA hO) (inv_square Am ▸ solve_ne_ub _ (identity n) hn hn) hi
  exact ⟨Y, hY, inv_spec Am d Y hab⟩

/-- **determinant on stores**: `MatrixTools::det` of a square store of any class is the determinant -/
theorem det_store_eq {n : Nat} (Am : Mat ℝ n n) {A : Store ℝ} {kA : Kind} (hA : Is A kA n n (fnOf Am)) :
    matDetS A = .ok (toMatrix Am).det := by
  rw [matDetS_refines hA, matDet_eq]

/-- **the `std::vector` overload** (`LUDecomposition.h:395-443`): for a store of any class holding
the square matrix `Am`, a right-hand side `b` and an output vector `x` **in any prior state**
(any length, any contents), whenever the call returns, the new `x` has length `n` and `A·x = b`; the
indicator is the smallest pivot magnitude -/
theorem solve_vector_spec {n : Nat} (Am : Mat ℝ n n) (hn : 0 < n) {A : Store ℝ} {kA : Kind} (hA : Is A kA n n (fnOf Am))
    (b : Vector ℝ n) (x : Array ℝ) {s : StateS ℝ} {d : ℝ} {x' : Array ℝ}
    (hc : constructS A = .ok s) (hs : solveVecS s b.toArray x = .ok (d, x')) :
    ∃ y : Vector ℝ n, x' = y.toArray ∧ matMul Am (colMat y) = colMat b ∧
      (∀ i : Fin n, d ≤ |(getU (Nat.le_refl n) (factor (Nat.le_refl n) Am)).get i i|) ∧
      ∃ i : Fin n, d = |(getU (Nat.le_refl n) (factor (Nat.le_refl n) Am)).get i i| := by
  have r := constructS_eq_ok hA (Nat.le_refl n) hc
  obtain ⟨y, hab, hy⟩ := ok_of_refines (R := fun x' (y : Vector ℝ n) => x' = y.toArray)
    ⟨fun _ _ h => ⟨_, solveVecS_ok r b x h, rfl⟩, fun _ h hne => solveVecS_error r b x h hne⟩
    (solveVec_ne_ub _ b hn) hs
  exact ⟨y, hy, solveVec_spec Am _ (construct_square Am) b d y hab⟩

/-- **witness of the repaired defect** (exact arithmetic): for `A = [[0,1],[1,0]]`, `b = (3,5)ᵀ` the
solution is `(5,3)ᵀ` — returned with separate operands and, after the repair, by `solve(B, B)`; the
text before the repair (`solveSelfOrigS`: the permuted copy reads the rows it has just overwritten)
returned `(5,5)ᵀ`, a silently wrong answer.  Replayed on the C++ in `corpus/C05/edge.txt` (`c_alias`). -/
theorem solve_in_place_witness : witAliasing = true := by decide +kernel

/-! ## non-vacuity -/
section NonVacuity

/-- for each of the three classes there is a store holding a given matrix (what the harness builds) -/
example (k : Kind) : Is (Store.ofFn k 1 1 (fnOf A1)) k 1 1 (fnOf A1) := is_ofFn k (by decide) (by decide) A1

/-- `solve_store_spec` is not vacuous: on `[2]` held by a `LinearMatrix`, with the right-hand side
in a `ColMatrix` and a stale `3 × 5` `RowMatrix` as output, the statement-level `solve` returns -/
example : ∃ s d X', constructS (Store.ofFn .lin 1 1 (fnOf A1)) = .ok s ∧
    solveS s (Store.ofFn .col 1 2 (fnOf B1)) (Store.ofFn .row 3 5 (fun _ _ => (7 : ℝ))) = .ok (d, X') := by
  obtain ⟨s, e, r⟩ := constructS_refines (is_ofFn .lin (by decide) (by decide) A1) (Nat.le_refl 1)
  have hret : ∃ d X, solve (factor (Nat.le_refl 1) A1) B1 = .ok (d, X) := by
    apply solve_returns _ _ (by decide) (by decide)
    intro i
    rw [A1_pivot i, abs_two]
    exact threshold_lt_one.trans one_lt_two
  obtain ⟨d, Y, h⟩ := hret
  obtain ⟨X', e', _⟩ := solveS_ok r B1 (is_ofFn .col (by decide) (by decide) B1)
    (ofFn_holds .row 3 5 (fun _ _ => (7 : ℝ))).1 h
  exact ⟨s, d, X', e, e'⟩

end NonVacuity

end Bpp.C05
