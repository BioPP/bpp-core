import BppProofs.Lemmas.DiscretizeCompound
import BppProofs.Lemmas.DiscretizeTermination
import BppProofs.Lemmas.DiscretizeCompoundHistory
/-!
# C09 — compound distributions obey the same normalisation
(ConstantDistribution, SimpleDiscreteDistribution, InvariantMixedDiscreteDistribution,
MixtureOfDiscreteDistributions; model `BppModel/DiscretizeCompound.lean`)

`Normalised m`: every probability of the class map is non-negative and they sum to one (exactly,
over `ℝ`).  `normalised_iff` ties it to the executable predicates `probsNonneg` / `probsSumOne` that
the driver evaluates on the implementation's state.
-/
namespace Bpp.C09
open Bpp Bpp.Discretize

/-- `Normalised` is what the driver evaluates -/
theorem compound_normalised_pred (s : DD ℝ) :
    Normalised s.dist ↔ (probsNonneg s = true ∧ probsSumOne 0 s = true) := normalised_iff s

/-- **compound_normalised** (constant): one class of probability one — after construction and
after every parameter update, restriction or median toggle, accepted or refused -/
theorem compound_normalised_constant (v : ℝ) :
    Normalised (ConstSt.make v).dd.dist ∧
    ∀ c : ConstSt ℝ, Normalised c.dd.dist →
      (∀ name w c', c.setP name w = .ok c' → Normalised c'.dd.dist) ∧
      (∀ i, Normalised (c.restrict i).1.dd.dist) ∧ (∀ b, Normalised (c.setMed b).dd.dist) :=
  ⟨by rw [const_make_dist]; exact Mass.single v zero_le_one, fun c hc =>
    ⟨fun name w c' h => by rw [(const_setP_ok c c' name w h).2]; exact Mass.single w zero_le_one,
      fun i => by rw [(const_restrict_same c i).1]; exact hc, fun _ => hc⟩⟩

/-- **compound_normalised** (user-specified): whenever the class map is rebuilt from the
parameters (`fireParameterChanged`) the probabilities are the stick-breaking image of the `theta`
parameters — non-negative and summing to one as long as the thetas lie in `[0,1]`, which their
constraint `PROP_CONSTRAINT_IN` enforces on every accepted update. -/
theorem compound_normalised_simple (s s' : SimpleSt ℝ) (hlen : s.thetas.length + 1 = s.vs.length)
    (hth : ∀ t ∈ s.thetas, 0 ≤ t ∧ t ≤ 1) (h : s.rebuild = .ok s') : Normalised s'.dd.dist :=
  simple_rebuild_normalised s s' hlen hth h

/-- **constant_class_is_value**: the one class of a constant distribution is its `value` parameter
with probability one — after construction and after every parameter update, restriction (which
must not re-discretise it generically) and median toggle, accepted or refused -/
theorem constant_class_is_value (v : ℝ) :
    (ConstSt.make v).dd.dist = [((ConstSt.make v).value, 1)] ∧
    ∀ c : ConstSt ℝ, c.dd.dist = [(c.value, 1)] →
      (∀ name w c', c.setP name w = .ok c' → c'.dd.dist = [(c'.value, 1)]) ∧
      (∀ i, (c.restrict i).1.dd.dist = [((c.restrict i).1.value, 1)]) ∧
      (∀ b, (c.setMed b).dd.dist = [((c.setMed b).value, 1)]) :=
  ⟨const_make_dist v, fun c hc =>
    ⟨fun name w c' h => by rw [(const_setP_ok c c' name w h).1, (const_setP_ok c c' name w h).2],
      fun i => by rw [(const_restrict_same c i).1, (const_restrict_same c i).2, hc], fun _ => hc⟩⟩

/-- **simple_restrict_keeps_classes**: a restriction of a user-specified distribution — accepted or
refused — leaves its classes (values and probabilities) and its parameters as they are -/
theorem simple_restrict_keeps_classes (s : SimpleSt ℝ) (c : Interval ℝ) :
    (s.restrict c).1.dd.dist = s.dd.dist ∧ (s.restrict c).1.vs = s.vs ∧ (s.restrict c).1.thetas = s.thetas :=
  simple_restrict_same s c

/-- **compound_normalised_simple_history**: a user-specified distribution built by its constructor
(at least one value) satisfies, after *every* history of parameter updates (accepted or refused),
restrictions, median toggles and re-discretisations: one theta less than values, every theta in
`[0,1]`, and probabilities summing to one up to the precision given to the constructor — the
constructor accepts `|1 − Σp| ≤ precision` and stores the given probabilities as they are (so right
after construction the normalisation is *not* exact, and the last probability may be negative by
up to the precision); from the first accepted update on the sum is exactly one and every
probability non-negative (`compound_normalised_simple_update`). -/
theorem compound_normalised_simple_history (values probas : List ℝ) (prec : ℝ) (s : SimpleSt ℝ) (ops : List SimpleOp)
    (hne : values ≠ []) (hp : 0 ≤ prec) (h : SimpleSt.make values probas prec = .ok s) :
    SimpleInv (ops.foldl simpleStep s) ∧ |1 - (TMap.vals (ops.foldl simpleStep s).dd.dist).sum| ≤ prec :=
  simpleRun_good prec hp ops s (simple_make_spec values probas prec s hne h)

/-- an accepted update of a state satisfying the invariant leaves an exactly normalised distribution
and the invariant -/
theorem compound_normalised_simple_update (s s' : SimpleSt ℝ) (name : String) (v : ℝ) (hi : SimpleInv s)
    (h : s.setP name v = .ok s') : SimpleInv s' ∧ Normalised s'.dd.dist :=
  simple_setP_inv s s' name v hi h

/-- non-vacuity: the constructor accepts probabilities that do not sum to one exactly -/
example : (match SimpleSt.make [1, 2] [1/2, 1/2 + 1/2000] (1/1000 : Rat) with
    | .ok s => s.dd.dist == [(1, 1/2), (2, 1/2 + 1/2000)] && s.thetas == [1/2]
    | .error _ => false) = true := by decide +kernel

/-- **simple_rebuild_terminates**: `fireParameterChanged` of a user-specified distribution returns
for every precision `≥ 0` (0 included: exact comparison), every domain and all parameter values —
the repaired loop that separates equal values uses a positive step that is at least the precision,
and ignores the domain once it has no room on either side (same pigeonhole as for `insertClass_`) -/
theorem simple_rebuild_terminates (s : SimpleSt ℝ) (hp : 0 ≤ s.dd.prec) : ∃ s', s.rebuild = .ok s' := by
  unfold SimpleSt.rebuild
  obtain ⟨m, hm⟩ := simple_go_some s (s.vs.zip (probsOfThetas s.thetas Scalar.one)) []
  simp only [hm]
  exact ⟨_, rfl⟩

/-- as found the loop stepped by `j · precision` inside the domain only: with precision 0 a value
equal to a key was looked for again and again — for every fuel
(`SimpleDiscreteDistribution d({1,2},{.5,.5}, 0.); d.setParameterValue("V1", 2)` never returned) -/
theorem simple_legacy_loops (lo hi v : ℝ) (m : TMap ℝ) (h : (TMap.find? 0 v m).isSome = true) (fuel : Nat) (j : Int) :
    SimpleSt.Legacy.findFree 0 lo hi v m fuel j = none := by
  induction fuel generalizing j with
  | zero => rfl
  | succ n ih =>
    simp only [SimpleSt.Legacy.findFree]
    have e1 : v + Scalar.ofInt j * (0 : ℝ) = v := by simp
    have e2 : v - Scalar.ofInt j * (0 : ℝ) = v := by simp
    rw [e1, e2]
    have hn : (TMap.find? 0 v m).isNone = false := by
      rw [Option.isNone_eq_false_iff]; exact h
    simp only [hn, Bool.and_false, Bool.false_eq_true, if_false]
    exact ih _

/-- an accepted update of a `theta` parameter keeps all thetas in `[0,1]` -/
theorem simple_theta_accepted (s : SimpleSt ℝ) (i : Nat) (v : ℝ) (hi : i < s.thetas.length)
    (hth : ∀ t ∈ s.thetas, 0 ≤ t ∧ t ≤ 1)
    (hacc : (s.thetas[i]? = some v) ∨ SimpleSt.rejects s (false, i) v = false) :
    ∀ t ∈ (SimpleSt.write s (false, i) v).thetas, 0 ≤ t ∧ t ≤ 1 :=
  simple_write_thetas s (false, i) v hth fun _ => by
    rcases hacc with h | h
    · exact hth v (List.mem_of_getElem? h)
    · simp only [SimpleSt.rejects, Bool.false_eq_true, if_false, Bool.not_eq_false'] at h
      exact (unitC_iff v).1 h

/-- **compound_normalised** (invariant-mixed): `updateDistribution()` puts `p` on the invariant and
adds `(1 − p)·probability` on every class of the nested distribution: normalised whenever the
nested distribution is and `0 ≤ p ≤ 1` (the constraint of `p`) — whatever the class values,
in particular when one of them is merged with the invariant by the tolerance of the map. -/
theorem compound_normalised_invariant (s : InvarSt ℝ) (hp : 0 ≤ s.p ∧ s.p ≤ 1)
    (hsub : Normalised s.sub.top.dist) : Normalised s.update.1.top.dist := by
  rw [invar_update_dist, InvarSt.classes]
  simp only [ScalarReal.one_eq, mul_comm (1 - s.p)]
  have := Mass.addDist s.top.prec (1 - s.p) (by linarith [hp.2]) s.sub.top hsub
    (Mass.single s.inv hp.1)
  rwa [add_sub_cancel] at this

/-- **compound_normalised** (mixture): `updateDistribution()` adds `weight · probability` on
every class value of every component: normalised whenever every component is and the weights
are non-negative with sum one. -/
theorem compound_normalised_mixture (s : MixSt ℝ) (hlen : s.subs.length = s.probas.length)
    (hw : (∀ w ∈ s.probas, 0 ≤ w) ∧ s.probas.sum = 1) (hsub : ∀ l ∈ s.subs, Normalised l.top.dist) :
    Normalised s.update.top.dist := by
  have := Mass.foldl (fun m (lw : Leaf ℝ × ℝ) =>
      (lw.1.top.cats.zip lw.1.top.probs).foldl (fun m vp => TMap.addTo s.top.prec vp.1 (vp.2 * lw.2) m) m) (·.2)
    (s.subs.zip s.probas) (mix_zeros s) fun lw hlw m t hm =>
      hm.addDist s.top.prec lw.2 (hw.1 _ (List.of_mem_zip hlw).2) lw.1.top (hsub _ (List.of_mem_zip hlw).1)
  rwa [List.map_snd_zip (by omega), hw.2, zero_add] at this

/-- the weights a mixture (and the probabilities a user-specified distribution) recomputes from
its `theta` parameters on every notification are a point of the simplex -/
theorem stick_breaking_simplex (ts : List ℝ) (h : ∀ t ∈ ts, 0 ≤ t ∧ t ≤ 1) :
    (∀ p ∈ probsOfThetas ts (1 : ℝ), 0 ≤ p) ∧ (probsOfThetas ts (1 : ℝ)).sum = 1 ∧
      (probsOfThetas ts (1 : ℝ)).length = ts.length + 1 :=
  ⟨probsOfThetas_nonneg ts 1 (by norm_num) h, probsOfThetas_sum ts 1, probsOfThetas_length ts 1⟩

/-- non-vacuity: a normalised two-class nested distribution, `p = 1/4` -/
example : Normalised ([(1, 1/2), (2, 1/2)] : TMap ℝ) ∧ ((0 : ℝ) ≤ 1/4 ∧ (1/4 : ℝ) ≤ 1) := by
  refine ⟨⟨?_, ?_⟩, by norm_num⟩
  · intro e he; simp at he; rcases he with rfl | rfl <;> norm_num
  · simp [TMap.vals]; norm_num

end Bpp.C09
