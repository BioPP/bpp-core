import BppProofs.Lemmas.Optim
/-!
# C10 — optimisers never end worse than they start, converge when convex, respect bounds

Property theorems, part 1: the `AbstractOptimizer` template (`BppModel/Optim.lean`), for **every**
optimiser `A : Algo F τ α` (every `doInit`, `doStep`, stop condition), every function object and
every scalar type.

Full statement of the clause: "the run terminates within its evaluation budget (plus the iteration in
progress) … the value returned equals the objective evaluated at the reported parameters".
What the template can guarantee is about its *counter* `nbEval_` (which each `doStep` is free to
advance by the number of evaluations it makes, or not: see findings/C10.json for optimisers that
undercount) and about a `doStep` that returns the value at the parameters it leaves.
The clause "converge when convex" of the title is explored by tests only (DESIGN.md §7 C10): no
`C10*.lean` has a theorem about it.
-/
namespace Bpp.C10
open Bpp Bpp.Optim

variable {α : Type} [Scalar α] {F τ : Type}

/-- **optimize_terminates**: for every optimiser whose `doStep` does not move the counter backwards
and, like the stop condition, leaves the cap alone, and whose stop condition leaves the counter alone
(`Monotone A`: that is all the `for` loop of `optimize` needs, because it increments the counter
itself), `nbEvalMax - 1` iterations are enough: with that much fuel the modelled loop never runs out
of it — more fuel does not change the result, and an exception that comes out of `optimize` is
either "not initialised" or was raised by one of the steps. -/
theorem optimize_terminates (A : Algo F τ α) (hm : Monotone A) (s : St F τ α) (fuel : Nat)
    (hf : s.core.nbEvalMax ≤ fuel + 1) :
    (∀ k, A.optimize (fuel + k) s = A.optimize fuel s) ∧
    (∀ e, A.optimize fuel s = .error e →
      (s.core.initialized = false ∧ e = (.bpp, s.fn)) ∨ ∃ s0, Guard s0 ∧ A.step s0 = .error e) := by
  constructor
  · intro k
    unfold Algo.optimize
    split
    · rfl
    · rw [loop_fuel_irrelevant A hm fuel _ (by simpa using hf) k]
  · intro e h
    unfold Algo.optimize at h
    by_cases hi : s.core.initialized = true
    · rw [if_neg (by simp [hi])] at h
      right
      cases hl : A.loop fuel { s with core := { s.core with tol := false, nbEval := 1 } } with
      | error e' =>
        rw [hl] at h
        simp only [Except.error.injEq] at h
        subst h
        exact loop_error_from_step A hm fuel _ e' (by simpa using hf) hl
      | ok s' => rw [hl] at h; cases h
    · have hi' : s.core.initialized = false := by simpa using hi
      rw [if_pos (by simp [hi'])] at h
      simp only [Except.error.injEq] at h
      exact Or.inl ⟨hi', h.symm⟩

/-- **budget**: "evaluations at exit ≤ max + evaluations of the step in progress".  When `optimize`
returns, either no step was made and the counter is the 1 the loop starts from, or there is a last
step, begun with the counter `before < nbEvalMax`, and the counter at exit is what that step made
of it, plus one: at most `nbEvalMax` plus what the last step added.  `Spec.budget` is the predicate
the driver evaluates on the implementation's figures. -/
theorem budget (A : Algo F τ α) (hm : Monotone A) (s s' : St F τ α) (v : α) (fuel : Nat)
    (h : A.optimize fuel s = .ok (s', v)) :
    (s'.core.nbEval = 1 ∧ Spec.budget s.core.nbEvalMax s'.core.nbEval none = true) ∨
    ∃ sb sa w, A.step sb = .ok (sa, w) ∧ sb.core.nbEval < s.core.nbEvalMax ∧
      s'.core.nbEval = sa.core.nbEval + 1 ∧
      s'.core.nbEval ≤ s.core.nbEvalMax + (sa.core.nbEval - sb.core.nbEval) ∧
      Spec.budget s.core.nbEvalMax s'.core.nbEval (some sb.core.nbEval) = true := by
  obtain ⟨hl, -⟩ := optimize_ok h
  -- a step begun within the loop sees the cap `optimize` was given
  obtain ⟨-, hc⟩ := loop_last_step_inv_bump A (fun u => u.core.nbEvalMax = s.core.nbEvalMax)
    (fun u u' w hu _ hst => (step_counter A hm u hst).2.trans hu) fuel _ s' (by exact rfl) hl
  rcases hc with rfl | ⟨sb, sa, w, hcapb, hg, hst, rfl⟩
  · exact Or.inl ⟨rfl, by simp [Spec.budget]⟩
  · right
    have hc := step_counter A hm sb hst
    have hlt : sb.core.nbEval < s.core.nbEvalMax := hcapb ▸ hg.1
    refine ⟨sb, sa, w, hst, hlt, rfl, ?_, ?_⟩
    · show sa.core.nbEval + 1 ≤ _; omega
    · simp [Spec.budget, hlt]

/-- when `optimize` returns, the loop was left for a reason: the tolerance flag is set or the
counter has reached the cap (`Spec.exitReason`, evaluated by the driver on the implementation) -/
theorem exit_reason (A : Algo F τ α) (s s' : St F τ α) (v : α) (fuel : Nat)
    (h : A.optimize fuel s = .ok (s', v)) :
    Spec.exitReason s'.core.nbEvalMax s'.core.nbEval s'.core.tol = true := by
  have hg := loop_ok_guard A fuel _ _ (optimize_ok h).1
  unfold Guard at hg
  unfold Spec.exitReason
  cases ht : s'.core.tol with
  | true => simp
  | false =>
    have : ¬ s'.core.nbEval < s'.core.nbEvalMax := fun c => hg ⟨c, ht⟩
    simp; omega

/-- **reported_value_consistent** (template form): let `val params fn` be "the objective at the
reported parameters" (any function of the optimiser's parameter list and of the function object).
If `doStep` returns `val` of the parameters and function it leaves, and the stop condition touches
neither, then `optimize` returns `val` of the parameters it reports — provided the same held of the
state it started from (which is what `init` establishes when `doInit` leaves the function at the
parameters: `currentValue_ = function_->getValue()`), because with a cap of 0 or 1, or a tolerance
already met, no step is made at all. -/
theorem reported_value_consistent (A : Algo F τ α) (val : PList α → F → α)
    (hstep : ∀ s s' v, A.doStep s = .ok (s', v) → v = val s'.core.params s'.fn)
    (hstop : ∀ s, (A.stop s).1.core.params = s.core.params ∧ (A.stop s).1.fn = s.fn ∧ (A.stop s).1.core.cur = s.core.cur)
    (s s' : St F τ α) (v : α) (fuel : Nat)
    (h0 : s.core.cur = val s.core.params s.fn)
    (h : A.optimize fuel s = .ok (s', v)) :
    v = val s'.core.params s'.fn ∧ s'.core.cur = v := by
  obtain ⟨hr, hv⟩ := optimize_invariant A (fun u => u.core.cur = val u.core.params u.fn)
    (fun u u' w _ hd => hstep u u' w hd)
    (fun u hu => by obtain ⟨a, b, c⟩ := hstop u; rw [a, b, c]; exact hu) (fun u n t hu => hu) h0 h
  exact ⟨hv ▸ hr, hv⟩

end Bpp.C10
