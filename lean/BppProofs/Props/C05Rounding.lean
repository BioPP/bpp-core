import BppProofs.Lemmas.LURound
/-!
# C05 — the factorisation in rounded arithmetic: componentwise backward error

The property's clause "… within a backward-error bound proportional to machine epsilon, the size
and the conditioning" is a statement about floating-point arithmetic.  `Float` is opaque to Lean,
so what can be stated is the classical one: the model `Bpp.LU` (generic in the scalar) is run with
the arithmetic `rndScalar fl` — the reals with **every** `/`, `*`, `−` followed by a rounding `fl`
that satisfies the standard model `|fl x − x| ≤ u·|x|` (`StdModel fl u`); comparisons are exact.
IEEE binary64 round-to-nearest satisfies it with `u = 2⁻⁵³` as long as no underflow or overflow
occurs — that is an *assumption* about the hardware, not a theorem here.

Proved: the factorisation part (`lu_factor_rounded`, Higham, *Accuracy and Stability of Numerical
Algorithms*, Thm 9.3) — exactly the predicate `factorOk` that the driver evaluates in `Rat` on the
implementation's `piv`, `L`, `U` with `u = 2⁻⁵³`.  Not proved (explored only, see
`props/C05.json`): the residual bound of `solve` / `inv` (Thm 9.4) and the determinant "to rounding".
-/
namespace Bpp.C05
open Bpp Bpp.LU

/-- **`|A(piv,:) − L̂·Û| ≤ γ_n·|L̂|·|Û|`, componentwise**, for the constructor run in rounded
arithmetic: every `m × n` matrix with `n ≤ m`, every rounding function obeying the standard model
with unit roundoff `u`, `n·u < 1`; `γ_n = n·u/(1 − n·u)`.  Row exchanges and iterations skipped
because of a zero pivot are included (the pivot search compares exactly).  The bound is in the
size of the *computed* factors, not in a condition number.  (With `|l̂_ij| ≤ 1` it is a bound in the
growth of `Û`; partial pivoting gives that in exact arithmetic, `multipliers_le_one`, and a rounding
that is monotone and leaves `±1` fixed, as round-to-nearest does, keeps it, but the standard model
alone does not: `fl x = x·(1 + u)` turns the multiplier `1` of the matrix `(1, 1)ᵀ` into `1 + u`.) -/
theorem lu_factor_rounded {m n : Nat} {fl : ℝ → ℝ} {u : ℝ} (hfl : StdModel fl u) (hu : 0 ≤ u)
    (h : n ≤ m) (hnu : (n : ℝ) * u < 1) (A : Mat ℝ m n) (i : Fin m) (j : Fin n) :
    |(permuteRows (@factor ℝ (rndScalar fl) m n h A).piv A).get i j
        - (matMul (getL (@factor ℝ (rndScalar fl) m n h A)) (getU h (@factor ℝ (rndScalar fl) m n h A))).get i j|
      ≤ gam n u * (matMul (absM (getL (@factor ℝ (rndScalar fl) m n h A)))
          (absM (getU h (@factor ℝ (rndScalar fl) m n h A)))).get i j :=
  factor_rounded_entries hfl hu h hnu A i j

/-- the recurrences of `γ` that the proof uses (`γ_k(1+u) + u ≤ γ_{k+1}`, `(γ_k + u)/(1−u) ≤ γ_{k+1}`) -/
theorem gamma_recurrences {k : Nat} {u : ℝ} (hu : 0 ≤ u) (hk : ((k + 1 : Nat) : ℝ) * u < 1) :
    gam k u * (1 + u) + u ≤ gam (k + 1) u ∧ (gam k u + u) / (1 - u) ≤ gam (k + 1) u :=
  ⟨gam_step1 hu hk, gam_step2 hu hk⟩

/-! non-vacuity: the standard model is satisfiable — trivially by exact arithmetic (`u = 0`, which
gives back `lu_factor`), and by roundings that really perturb every result -/
example : StdModel id 0 := fun x => by simp
example (u : ℝ) (hu : 0 ≤ u) : StdModel (fun x => x * (1 + u)) u := fun x => by
  have : x * (1 + u) - x = u * x := by ring
  rw [this, abs_mul, abs_of_nonneg hu]
example : ((10 : Nat) : ℝ) * (2 : ℝ)⁻¹ ^ 53 < 1 := by norm_num

end Bpp.C05
