import BppProofs.Props.C20Inst
import Mathlib.Order.Interval.Finset.Defs
import Mathlib.Data.Int.Interval
import Mathlib.Data.Finset.Card
/-!
# C20 — total length is the measure of the union
`MultiRange::totalLength` (a `size_t` accumulator over the stored lengths) equals the number of
unit cells of the denoted union, for every state satisfying the representation invariant (which
`C20.mr_inv` proves for every history) — for `int`, for `unsigned` (no `length()` wraps) and for
`double` with integral end points (the property's universe; the accumulator truncates after
every addition, see `totalLength_truncates_rat` for what happens outside).
-/
namespace Bpp.C20
open Bpp Bpp.Range Bpp.MultiRange

/-- the finite set of integer points denoted by a list of ranges -/
def cells : List (Range Int) → Finset Int
  | [] => ∅
  | x :: xs => Finset.Ico x.b x.e ∪ cells xs

theorem mem_cells (m : List (Range Int)) (p : Int) : p ∈ cells m ↔ pts m p := by
  induction m with
  | nil => simp [cells, pts]
  | cons x xs ih =>
    simp only [cells, Finset.mem_union, Finset.mem_Ico, ih, pts, List.mem_cons]
    constructor
    · rintro (h | ⟨y, hy, hp⟩)
      · exact ⟨x, Or.inl rfl, h⟩
      · exact ⟨y, Or.inr hy, hp⟩
    · rintro ⟨y, (e | e), hp⟩
      · subst e; exact Or.inl hp
      · exact Or.inr ⟨y, e, hp⟩

/-- the sum of the lengths of an ascending list of disjoint ranges is the number of its points -/
theorem sum_lengths_card (m : List (Range Int)) (h : MultiRange.Inv m) :
    (m.map Range.length).sum = ((cells m).card : Int) := by
  induction m with
  | nil => simp [cells]
  | cons x xs ih =>
    obtain ⟨hx, hR, hxs⟩ := h.of_cons
    have hdisj : Disjoint (Finset.Ico x.b x.e) (cells xs) := by
      rw [Finset.disjoint_left]
      intro p hp hq
      rw [mem_cells] at hq
      obtain ⟨y, hy, hpy⟩ := hq
      have := hR y hy
      simp only [Finset.mem_Ico] at hp
      unfold R at this; unfold mem at hpy; omega
    have ih' := ih hxs
    simp only [List.map_cons, List.sum_cons] at ih' ⊢
    rw [cells, Finset.card_union_of_disjoint hdisj, Int.card_Ico]
    simp only [Range.length]
    push_cast
    rw [← ih']
    have : ((x.e - x.b).toNat : Int) = x.e - x.b := Int.toNat_of_nonneg (by omega)
    omega

/-- **mr_total_length** (`int`): the total length is the measure (number of points) of the union -/
theorem mr_total_length (m : List (Range Int)) (h : MultiRange.Inv m) (hB : ∀ x ∈ m, x.e < 2 ^ 63)
    (hL : ∀ x ∈ m, -(2 : Int) ^ 63 ≤ x.b) :
    (MultiRange.totalLength m : Int) = ((cells m).card : Int) := by
  rw [totalLength_int m h hB hL, sum_lengths_card m h]

/-- **mr_total_length_uint** (`unsigned`): the same, the coordinates read as natural numbers -/
theorem mr_total_length_uint (m : List (Range UInt32)) (h : MultiRange.Inv m) :
    (MultiRange.totalLength m : Int) = ((cells (m.map uintToI)).card : Int) := by
  rw [totalLength_uint m h, sum_lengths_card _ (inv_uintToI m h)]

/-- **mr_total_length_rat** (`double`, integral end points): the same -/
theorem mr_total_length_rat (m : List (Range Rat)) (h : MultiRange.Inv m) (hint : ∀ x ∈ m, Integral x)
    (hB : ∀ x ∈ m, x.e.floor < 2 ^ 63) (hL : ∀ x ∈ m, -(2 : Int) ^ 63 ≤ x.b.floor) :
    (MultiRange.totalLength m : Int) = ((cells (m.map ratToI)).card : Int) :=
  (totalLength_rat m h hint hB hL).trans (sum_lengths_card (m.map ratToI) (inv_floor h hint))

/-- for every history of an `int` multi-range with arguments in `[-2^30, 2^30[`, the reported
total length is the number of points of the stored union (whose points `mr_denotes` /
`mr_denotes_all` identify), read through `mem_cells` -/
theorem mr_total_length_history (ops : List (Op Int))
    (hfit : ∀ o ∈ ops, ∀ a ∈ o.args, inHalfInt32 a) :
    (MultiRange.totalLength (run ops) : Int) = ((cells (run ops)).card : Int) ∧
    ∀ p, p ∈ cells (run ops) ↔ pts (run ops) p := by
  have h := (int_no_overflow ops hfit).1
  refine ⟨mr_total_length _ (mr_inv ops) ?_ ?_, mem_cells _⟩
  · intro x hx; have := (h x hx).2.1; unfold inHalfInt32 at this; omega
  · intro x hx; have := (h x hx).1; unfold inHalfInt32 at this; omega

/-- the same for every history of an `unsigned` multi-range (no hypothesis at all) -/
theorem mr_total_length_history_uint (ops : List (Op UInt32)) :
    (MultiRange.totalLength (run ops) : Int) = ((cells ((run ops).map uintToI)).card : Int) :=
  mr_total_length_uint _ (mr_inv ops)

/-- and for every history of a `double` multi-range whose arguments are integers (the property's
universe): integrality of the stored end points is preserved because no new coordinate is ever
computed (`endpoints_closed`) -/
theorem mr_total_length_history_rat (ops : List (Op Rat))
    (hint : ∀ o ∈ ops, ∀ a ∈ o.args, a = (a.floor : Rat) ∧ -(2 : Int) ^ 63 ≤ a.floor ∧ a.floor < 2 ^ 63) :
    (MultiRange.totalLength (run ops) : Int) = ((cells ((run ops).map ratToI)).card : Int) := by
  have hcl := endpoints_closed (fun a : Rat => a = (a.floor : Rat) ∧ -(2 : Int) ^ 63 ≤ a.floor ∧ a.floor < 2 ^ 63)
    (by refine ⟨by decide +kernel, by decide +kernel, by decide +kernel⟩) ops hint
  exact mr_total_length_rat _ (mr_inv ops) (fun x hx => ⟨(hcl x hx).1.1, (hcl x hx).2.1⟩)
    (fun x hx => (hcl x hx).2.2.2) (fun x hx => (hcl x hx).1.2.1)

example : MultiRange.totalLength [(⟨1, 3⟩ : Range Int), ⟨3, 5⟩, ⟨7, 9⟩] = 6 := by decide
example : MultiRange.totalLength [(⟨1, 3⟩ : Range UInt32), ⟨3, 5⟩, ⟨7, 9⟩] = 6 := by decide

end Bpp.C20
