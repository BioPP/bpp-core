import BppProofs.Props.C15Valid
import BppProofs.Lemmas.TreeMrca
import BppProofs.Lemmas.TreeSub
import BppProofs.Lemmas.TreePath
import BppProofs.Lemmas.TreeFamily
/-!
# C15 — structural queries of a valid rooted tree against an independent reference tree

The reference (`BppModel/TreeRef.lean`) is the parent function `Ref.parent` read off the *edge table*
(`refRaw g`), with ancestors, most recent common ancestor and paths defined on it; the queries of the
model read the *node table*.  `ValidRooted g`: consistent tables (C14), directed, `isTree g = true`.
Each theorem equates the answer with the reference's (up to order where the C++ fixes none) or
concludes with the executable predicate the check evaluates on the implementation's answers
(`Ref.isMrca`, `Ref.isSubtree`, ...), and none of the fuelled recursions runs out of fuel.

* `father_spec`, `sons_spec`, `branches_spec` — `getFatherOfNode`, `hasFather`, `getEdgeToFather`, `getSons`, `getBranches`
* `leaves_under_spec` — `getLeavesUnderNode` (after the repair: inner nodes with one son are gone through)
* `subtree_spec`, `subtree_edges_spec` — `getSubtreeNodes`, `getSubtreeEdges`
* `path_spec`, `path_without_ancestor_spec`, `edge_path_spec` — `getNodePathBetweenTwoNodes`, `getEdgePathBetweenTwoNodes`,
  for every pair of nodes: ancestor / descendant pairs and `a = b` included
* `mrca_spec` — `MRCA` (after the repair) for every non-empty list of nodes, repetitions and ancestor pairs included
-/
namespace Bpp.C15
open Bpp Bpp.Graph

theorem isAnc_desc_mem {P : PTree} (hw : P.WF) {a x : Nat} (h : IsAnc P.par a x) (ha : a ∈ P.nodes) : x ∈ P.nodes := by
  cases h with
  | refl => exact ha
  | step hp _ => exact (hw.par_mem hp).1

/-- father, `hasFather` and the edge to the father are the ones of the reference -/
theorem father_spec (g : G) (hv : ValidRooted g) (n : Nat) (hn : g.hasNode n = true) :
    T.father g n = (refRaw g).parent n ∧ T.hasFather g n = some ((refRaw g).parent n).isSome ∧
    T.edgeToFather g n = (refRaw g).edgeUp n ∧ (((refRaw g).parent n).isSome = false ↔ n = g.root) := by
  obtain ⟨P, hd, hr⟩ := hv.dtree
  refine ⟨by rw [hd.father hn, hd.ref_parent], by rw [hd.hasFather hn, hd.ref_parent], (hd.ref_edgeUp hn).symm, ?_⟩
  rw [hd.ref_parent, ← hr]
  have := hd.fatherless_iff hn
  rw [hd.hasFather hn] at this
  constructor
  · intro h; exact this.1 (by rw [h])
  · intro h; have := this.2 h; simpa using this

/-- `getSons` lists the children of the reference, `getNumberOfSons` counts them, `isLeaf` says whether there is none -/
theorem sons_spec (g : G) (hv : ValidRooted g) (n : Nat) (hn : g.hasNode n = true) :
    ∃ sons, g.outNeighbors n = some sons ∧ sons.Perm ((refRaw g).children n) ∧
      RowQ.nbOut (g.rowOf n) = some ((refRaw g).children n).length ∧ T.isLeafT g n = some ((refRaw g).children n).isEmpty := by
  obtain ⟨P, hd, _⟩ := hv.dtree
  have hperm := hd.sons_perm n
  have hnP := (hd.nodes n).2 hn
  refine ⟨g.outKeys n, G.outNeighbors_of_hasNode hn, hperm, ?_, ?_⟩
  · obtain ⟨r, hr⟩ := (G.hasNode_iff g n).1 hn
    simp only [RowQ.nbOut, G.rowOf, hr, Option.map_some]
    rw [← hperm.length_eq, DTree.outKeys_of_row hr]; simp [AL.keys]
  · rw [hd.isLeafT hnP]
    congr 1
    have := hperm.length_eq
    cases h1 : g.outKeys n <;> cases h2 : (refRaw g).children n <;> simp_all

/-- `getBranches` lists the edges to the children; at the place of each son stands the edge to it -/
theorem branches_spec (g : G) (hv : ValidRooted g) (n : Nat) (hn : g.hasNode n = true) :
    ∃ row : List (Nat × Nat), g.outNeighbors n = some (row.map (·.1)) ∧ g.outEdges n = some (row.map (·.2)) ∧
      (row.map (·.2)).Perm ((refRaw g).branches n) ∧ ∀ q ∈ row, (refRaw g).edgeUp q.1 = some q.2 := by
  obtain ⟨P, hd, _⟩ := hv.dtree
  exact hd.branches_spec hn

/-- **mrca_spec**: `MRCA` of a non-empty list of nodes is their most recent common ancestor in the reference tree -/
theorem mrca_spec (g : G) (hv : ValidRooted g) (x : Nat) (rest : List Nat) (hS : ∀ s ∈ x :: rest, g.hasNode s = true) :
    ∃ m, T.mrca g (x :: rest) = .ok m ∧ (refRaw g).isMrca (x :: rest) m = true ∧
      (∀ s ∈ x :: rest, IsAnc (refRaw g).parent m s) ∧ ∀ c, (∀ s ∈ x :: rest, IsAnc (refRaw g).parent c s) → IsAnc (refRaw g).parent c m := by
  obtain ⟨P, hd, _⟩ := hv.dtree
  have hSP : ∀ s ∈ x :: rest, s ∈ P.nodes := fun s hs => (hd.nodes s).2 (hS s hs)
  obtain ⟨m, hm, hmn, hmr⟩ := hd.mrca x rest hSP
  exact ⟨m, hm, hd.ref_isMrca hSP hmn hmr, by rw [hd.ref_parent_eq]; exact hmr.1, by rw [hd.ref_parent_eq]; exact hmr.2⟩

/-- **subtree_spec**: `getSubtreeNodes` lists, each once, the descendants of the node (itself included) -/
theorem subtree_spec (t : T) (hv : ValidRooted t.g) (n : Nat) (hn : t.g.hasNode n = true) :
    ∃ l, (t.getSubtree false n).1 = .ok l ∧ (refRaw t.g).isSubtree n l = true ∧ l.Nodup ∧ ∀ x, x ∈ l ↔ IsAnc (refRaw t.g).parent n x := by
  obtain ⟨P, hd, _⟩ := hv.dtree
  have hnP := (hd.nodes n).2 hn
  have hP : ∀ x ∈ (refRaw t.g).nodes, x ∈ P.nodes := fun x hx => (hd.mem_ref_nodes x).1 hx
  obtain ⟨l, hl, hnd, hmem⟩ := hd.subtreeNodes (t.g.nodes.length + 2) n [] hnP (by omega)
  refine ⟨l, (T.getSubtree_of_valid hv false n).trans hl, ?_, hnd, by rw [hd.ref_parent_eq]; exact hmem⟩
  rw [Ref.isSubtree, Bool.and_eq_true, List.all_eq_true]
  exact ⟨fun x hx => List.contains_iff_mem.2 ((hd.mem_ref_nodes x).2 (isAnc_desc_mem hd.wf ((hmem x).1 hx) hnP)),
    all_count_spec hnd id _ (fun x hx => (hmem x).trans (hd.ref_isAnc (hP x hx) n).symm)⟩

/-- **leaves_under_spec**: `getLeavesUnderNode` lists, each once, the descendants of the node that have no child -/
theorem leaves_under_spec (g : G) (hv : ValidRooted g) (n : Nat) (hn : g.hasNode n = true) :
    ∃ l, T.leavesUnder g (g.nodes.length + 2) n [] = .ok l ∧ (refRaw g).isLeavesUnder n l = true ∧ l.Nodup ∧
      ∀ x, x ∈ l ↔ (IsAnc (refRaw g).parent n x ∧ (refRaw g).children x = []) := by
  obtain ⟨P, hd, _⟩ := hv.dtree
  have hnP := (hd.nodes n).2 hn
  have hP : ∀ x ∈ (refRaw g).nodes, x ∈ P.nodes := fun x hx => (hd.mem_ref_nodes x).1 hx
  obtain ⟨l, hl, hnd, hmem⟩ := hd.leavesUnder (g.nodes.length + 2) n [] hnP (by omega)
  have hch : ∀ x, g.outKeys x = [] ↔ (refRaw g).children x = [] := fun x => by
    rw [← List.length_eq_zero_iff, ← List.length_eq_zero_iff, (hd.sons_perm x).length_eq]
  refine ⟨l, hl, ?_, hnd, fun x => by rw [hmem x, hd.ref_parent_eq, hch x]⟩
  rw [Ref.isLeavesUnder, Bool.and_eq_true, List.all_eq_true]
  refine ⟨fun x hx => List.contains_iff_mem.2 ((hd.mem_ref_nodes x).2 (isAnc_desc_mem hd.wf ((hmem x).1 hx).1 hnP)),
    all_count_spec hnd id _ (fun x hx => ?_)⟩
  show x ∈ l ↔ _
  rw [hmem x, Bool.and_eq_true, hd.ref_isAnc (hP x hx) n, List.isEmpty_iff, hch x]

/-- **subtree_edges_spec**: `getSubtreeEdges` lists, each once, the edges to the father of the proper descendants -/
theorem subtree_edges_spec (t : T) (hv : ValidRooted t.g) (n : Nat) (hn : t.g.hasNode n = true) :
    ∃ l, (t.getSubtree true n).1 = .ok l ∧ (refRaw t.g).isSubtreeEdges n l = true := by
  obtain ⟨P, hd, _⟩ := hv.dtree
  obtain ⟨l, hl, hnd, hmem⟩ := hd.subtreeEdges (t.g.nodes.length + 2) n [] ((hd.nodes n).2 hn) (by omega)
  refine ⟨l, (T.getSubtree_of_valid hv true n).trans hl, ?_⟩
  rw [Ref.isSubtreeEdges, Bool.and_eq_true]
  refine ⟨all_count_spec hnd (fun t : Nat × Nat × Nat => t.2.2) _ ?_, List.all_eq_true.2 fun e he => ?_⟩
  · rintro ⟨c, a, e⟩ ht
    have ho := (hd.mem_up c a e).1 ht
    have hpc : P.par c = some a := (hd.arc a c).1 (arc_of_out ho)
    have hup : UpEdge t.g P c e := ⟨a, hpc, ho⟩
    rw [Bool.and_eq_true, bne_iff_ne, hd.ref_isAnc (hd.wf.par_mem hpc).1 n]
    exact (hmem e).trans ⟨fun ⟨x, hx1, hx2, hx3⟩ => hd.upEdge_inj hup hx3 ▸ ⟨hx1, hx2⟩, fun hin => ⟨c, hin.1, hin.2, hup⟩⟩
  · obtain ⟨x, _, _, p, hp, ho⟩ := (hmem e).1 he
    exact List.any_eq_true.2 ⟨(x, p, e), (hd.mem_up x p e).2 ho, beq_self_eq_true e⟩

/-- **path_spec**: the node path between two nodes goes from the first to the second through father-son
links without visiting a node twice — for every pair, ancestor / descendant pairs and `a = b` included -/
theorem path_spec (g : G) (hv : ValidRooted g) (a b : Nat) (ha : g.hasNode a = true) (hb : g.hasNode b = true) :
    ∃ p, T.nodePath g a b true = .ok p ∧ (refRaw g).isPath a b p = true := by
  obtain ⟨P, hd, _⟩ := hv.dtree
  obtain ⟨p, h1, h2, _⟩ := hd.isPath ((hd.nodes a).2 ha) ((hd.nodes b).2 hb)
  exact ⟨p, h1, h2⟩

/-- without the common ancestor the answer is the same path minus the most recent common ancestor of the two nodes -/
theorem path_without_ancestor_spec (g : G) (hv : ValidRooted g) (a b : Nat) (ha : g.hasNode a = true) (hb : g.hasNode b = true) :
    ∃ m pre post, (refRaw g).isMrca [a, b] m = true ∧ T.nodePath g a b true = .ok (pre ++ [m] ++ post) ∧
      T.nodePath g a b false = .ok (pre ++ post) := by
  obtain ⟨P, hd, _⟩ := hv.dtree
  have haP := (hd.nodes a).2 ha
  have hbP := (hd.nodes b).2 hb
  obtain ⟨m, i, j, hmr, _, _, h1, h2⟩ := hd.nodePath haP hbP
  refine ⟨m, _, _, hd.ref_isMrca (fun s hs => ?_) (hd.wf.anc_mem (hmr.1 a (by simp)) haP) hmr, h1, h2⟩
  rcases List.mem_cons.1 hs with rfl | hs
  · exact haP
  · exact List.mem_singleton.1 hs ▸ hbP

/-- **edge_path_spec**: the edge path lists the edges along the node path, each the edge between a node and its father -/
theorem edge_path_spec (g : G) (hv : ValidRooted g) (a b : Nat) (ha : g.hasNode a = true) (hb : g.hasNode b = true) :
    ∃ p es, T.nodePath g a b true = .ok p ∧ (refRaw g).isPath a b p = true ∧
      T.edgePath g a b = .ok es ∧ (refRaw g).isEdgePath p es = true := by
  obtain ⟨P, hd, _⟩ := hv.dtree
  exact hd.edgePath ((hd.nodes a).2 ha) ((hd.nodes b).2 hb)

/-! non-vacuity on the tree 0 -> 1 -> 3, 0 -> 2: an ancestor / descendant pair, two cousins, a repeated node -/

example : T.mrca ((T.empty true).run exOps).g [1, 3] = .ok 1 := by decide +kernel
example : T.mrca ((T.empty true).run exOps).g [3, 2] = .ok 0 := by decide +kernel
example : T.mrca ((T.empty true).run exOps).g [3, 3] = .ok 3 := by decide +kernel
example : T.nodePath ((T.empty true).run exOps).g 3 0 true = .ok [3, 1, 0] := by decide +kernel
example : T.nodePath ((T.empty true).run exOps).g 3 2 true = .ok [3, 1, 0, 2] := by decide +kernel
example : T.nodePath ((T.empty true).run exOps).g 3 3 true = .ok [3] := by decide +kernel
example : T.leavesUnder ((T.empty true).run exOps).g 6 1 [] = .ok [3] := by decide +kernel
example : ∃ m, T.mrca ((T.empty true).run exOps).g [1, 3] = .ok m ∧ (refRaw ((T.empty true).run exOps).g).isMrca [1, 3] m = true := by
  obtain ⟨m, h1, h2, _⟩ := mrca_spec _ exTree_valid 1 [3] (by decide +kernel)
  exact ⟨m, h1, h2⟩

end Bpp.C15
