import BppProofs.Props.C03Sound
import BppProofs.Lemmas.AliasReturns
/-!
# C03 — tracking under the property's *input* guard, and sync along histories of
*all* the operations of the protocol

`update_returns`: an update whose values lie inside the constraints of the parameters written and of
everything that follows them returns normally; so the tracking theorems hold under the input guard of
the property, not only under "the call returned".  `history_keeps_sync`: along every history of alias /
unalias / bulk alias / the four update routes / copy / assign / setNamespace / new / add / queries,
interleaved arbitrarily on any objects, with these input guards, every parameter equals the parameter
it follows through a chain of any length.
-/
namespace Bpp.C03
open Bpp Bpp.Alias
open Bpp.ParamList (Bnd Con Par Store ObjId nameOf find? hasParameter names)

/-- **update_returns**: in every reachable world each of the four update routes returns normally when
the values it is given lie inside the constraints of the parameters they are written to and of all the
parameters that follow those, directly or through a chain (`AcceptedBelow`; for the source-iterating
setters `GuardSome`, for `setAllParametersValues` `GuardAll`, which also asks that every parameter be
named) — no `ConstraintException`, no `Exception` from a listener's name check, no
`ParameterNotFoundException`, no non-termination. -/
theorem update_returns (ops : List Op) (hw : WfRun World.init ops) (k : Nat) (o : Obj)
    (ho : (run World.init ops).objs k = some o) :
    (∀ n v i, find? (run World.init ops).heap o.params (o.pre ++ n) = some i → AcceptedBelow (run World.init ops) i v →
      (apSetParameterValue (run World.init ops) k n v).err = none) ∧
    (∀ src, GuardSome (run World.init ops) o src → (apSetParametersValues (run World.init ops) k src).err = none) ∧
    (∀ src, GuardSome (run World.init ops) o src → (apMatchParametersValues (run World.init ops) k src).1.err = none) ∧
    (∀ src, GuardAll (run World.init ops) o src → (apSetAllParametersValues (run World.init ops) k src).err = none) :=
  Alias.update_returns (inv_reachable ops hw) ho

/-- … and conversely `setParameterValue` raises only `ParameterNotFoundException` (unknown name) or
`ConstraintException` (the named parameter or one that follows it rejects the value) -/
theorem update_raises_only (ops : List Op) (hw : WfRun World.init ops) (k : Nat) (o : Obj)
    (ho : (run World.init ops).objs k = some o) (n : String) (v : Rat) {e : Err}
    (he : (apSetParameterValue (run World.init ops) k n v).err = some e) :
    (e = .notfound ∧ find? (run World.init ops).heap o.params (o.pre ++ n) = none) ∨
    (e = .constraint ∧ ∃ i t, find? (run World.init ops).heap o.params (o.pre ++ n) = some i ∧
      Reach (run World.init ops) i t ∧ ((run World.init ops).heap.get t).rejects v = true) :=
  setParameterValue_raises (inv_reachable ops hw) ho n v he

/-- **alias_tracks under the input guard** (the headline clause): in every reachable world, when
`setParameterValue(n, v)` names a parameter `i` of the object and `v` is inside the constraints of `i`
and of every parameter that follows it, the call returns, `i` holds `v`, and every parameter `a` whose
value changed is equalled by every `b` that follows it directly, and by every `b` that follows it
through a chain whose lower links were in sync -/
theorem alias_tracks (ops : List Op) (hw : WfRun World.init ops) (k : Nat) (o : Obj)
    (ho : (run World.init ops).objs k = some o) (n : String) (v : Rat) (i : ObjId)
    (hf : find? (run World.init ops).heap o.params (o.pre ++ n) = some i) (hg : AcceptedBelow (run World.init ops) i v) :
    (apSetParameterValue (run World.init ops) k n v).err = none ∧
    val (apSetParameterValue (run World.init ops) k n v).w i = v ∧
    (∀ a b l, l ∈ (run World.init ops).lsn a → tgt (run World.init ops) l = some b →
      val (apSetParameterValue (run World.init ops) k n v).w a ≠ val (run World.init ops) a →
      val (apSetParameterValue (run World.init ops) k n v).w b = val (apSetParameterValue (run World.init ops) k n v).w a) ∧
    (∀ a x b l, l ∈ (run World.init ops).lsn a → tgt (run World.init ops) l = some x → SyncPath (run World.init ops) x b →
      val (apSetParameterValue (run World.init ops) k n v).w a ≠ val (run World.init ops) a →
      val (apSetParameterValue (run World.init ops) k n v).w b = val (apSetParameterValue (run World.init ops) k n v).w a) := by
  have ok := (update_returns ops hw k o ho).1 n v i hf hg
  refine ⟨ok, ?_, fun a b l hl ht hc => alias_tracks_direct _ k n v ok hl ht hc,
    fun a x b l hl ht p hc => alias_tracks_chain _ k n v ok hl ht p hc⟩
  rw [apSetParameterValue_found ho hf] at ok ⊢
  exact (setValue_step _ i v ok).2

/-- non-vacuity of the guard: c[0,1] follows b follows a; 1 is accepted below a, 5 is not -/
example :
    let w := run World.init [.new 0 "", .add 0 ⟨"a", 0, none⟩, .add 0 ⟨"b", 0, none⟩,
      .add 0 ⟨"c", 0, some ⟨.fin 0, .fin 1, true, true⟩⟩, .alias 0 "a" "b", .alias 0 "b" "c"]
    (step w (.setv 0 "a" 1)).2 = .ok ∧ (step w (.setv 0 "a" 5)).2 = .err .constraint ∧
    (w.heap.get 2).rejects 5 = true ∧ (w.heap.get 0).rejects 5 = false := by decide +kernel

/-! ## Histories of all operations -/

/-- the input guard of one operation of a history that keeps every link in sync.  Updates: the values
are accepted below the parameters written, and only independent parameters are named (or, for
`setAllParametersValues`, both ends of every link get the same value).  `alias`: the two parameters
hold the same value (the pair form does not equalise values; a refused request changes nothing).
`bulk`: empty namespace and normal return (a bulk form that raises half-way has made links without
equalising them).  `add`: well-formed name.  Everything else: no condition. -/
def SafeOp (w : World) : Op → Prop
  | .setv k n v => ∀ o, w.objs k = some o → ∃ i, find? w.heap o.params (o.pre ++ n) = some i ∧ i ∈ o.indep ∧ AcceptedBelow w i v
  | .setvs k src => ∀ o, w.objs k = some o → NamesIndep w o src ∧ GuardSome w o src
  | .matchvs k src => ∀ o, w.objs k = some o → NamesIndep w o src ∧ GuardSome w o src
  | .setallv k src => ∀ o, w.objs k = some o → SrcCons w o src ∧ GuardAll w o src
  | .alias k p1 p2 => ∀ o, w.objs k = some o → ∀ i1 i2, find? w.heap o.params (o.pre ++ p1) = some i1 →
      find? w.heap o.params (o.pre ++ p2) = some i2 → val w i1 = val w i2
  | .bulk k es => ∀ o, w.objs k = some o → o.pre = "" ∧ (bulkAlias w k es).err = none
  | .add k p => Op.wf w (.add k p)
  | _ => True

def SafeHistory : World → List Op → Prop
  | _, [] => True
  | w, op :: rest => SafeOp w op ∧ SafeHistory (step w op).1 rest

theorem SafeOp.wf {w : World} {op : Op} (hs : SafeOp w op) : op.wf w := by
  cases op <;> first | exact hs | trivial

/-- one step: every operation of the protocol, under its guard, keeps all links of all objects in sync -/
theorem safe_step_keeps_sync {w : World} (h : Inv w) (hs : WSynced w) (op : Op) (hop : SafeOp w op) :
    WSynced (step w op).1 := by
  have hwf := hop.wf
  have hI : Inv (step w op).1 := inv_step h op hwf
  intro j o' ho'
  by_cases hj : j = op.slot
  swap
  · exact allSynced_frame h op hwf hj hs ho'
  subst hj
  -- the object the operation acts on
  have d := step_did h op hwf
  generalize hW : (step w op).1 = W at d hI ho' ⊢
  generalize hO : (step w op).2 = out at d
  cases d with
  | ub | refused | same => exact hs _ o' ho'
  | new k pre =>
    cases (if_pos rfl : (newObj w k pre).objs k = _).symm.trans ho'
    intro e he; cases he
  | @added k o p ho _ _ =>
    have hobj := h.obj k o ho
    cases (if_pos rfl : ((w.allocPar p []).1.setObj k (addedObj o w.heap.next)).objs k = _).symm.trans ho'
    have hold : ∀ s ∈ o.params, ((w.allocPar p []).1.setObj k (addedObj o w.heap.next)).heap.get s = w.heap.get s :=
      fun s hsm => if_neg (Nat.ne_of_lt (hobj.valid s hsm))
    exact (hs k o ho).transfer hobj ho (hI.obj k _ ho') ho' (fun _ _ lk => lk) (fun s hsm x hx =>
      ⟨s, List.mem_append_left _ hsm, by simp only [nameOf, hold s hsm]; exact hx, by simp only [val, hold s hsm]⟩)
  | @aliased k o p1 p2 _ ho dn =>
    cases dn.objs.symm.trans ho'
    exact dn.allSynced h ho (hs k o ho) (hop o ho _ _ (dn.find1 (h.obj k o ho)) (dn.find2 (h.obj k o ho)))
  | @unaliased k o p1 p2 i1 i2 _ ho _ h2 _ _ =>
    obtain ⟨hm2, hn2⟩ := ParamList.find?_some h2
    cases (if_pos rfl : (unaliased w k o p1 p2 i1 i2).objs k = _).symm.trans ho'
    exact (hs k o ho).transfer (h.obj k o ho) ho (hI.obj k _ ho') ho'
      (fun x y lk => ((link_unaliased (h.obj k o ho) hm2 hn2 x y).1 lk).1) (fun s hsm x hx => ⟨s, hsm, hx, rfl⟩)
  | @bulkRaised k o es _ _ _ ho _ _ =>
    have : Out.ofErr (bulkAlias w k es).err = .err _ := hO
    rw [(hop o ho).2] at this; cases this
  | @bulk k o _ es _ _ _ ho _ _ _ _ =>
    rw [← hW] at ho' ⊢
    exact bulkAlias_allSynced h ho (hop o ho).1 (hs k o ho) es (hop o ho).2 o' ho'
  | @update op o _ _ hu ho hr _ =>
    cases Option.some.inj (((congrFun hr.sameBut.objs _).symm.trans ho').symm.trans ho)
    rw [← hW]
    cases op with
    | setv k n v =>
      obtain ⟨i, hf, hind, hacc⟩ := hop o' ho
      exact (alias_tracks_independent_updates h ho (hs k o' ho)).1 n v (fun t ht => by rw [hf] at ht; cases ht; exact hind)
        ((Alias.update_returns h ho).1 n v i hf hacc)
    | setvs k src =>
      obtain ⟨hn, hg⟩ := hop o' ho
      exact (alias_tracks_independent_updates h ho (hs k o' ho)).2.1 src hn ((Alias.update_returns h ho).2.1 src hg)
    | matchvs k src =>
      obtain ⟨hn, hg⟩ := hop o' ho
      exact (alias_tracks_independent_updates h ho (hs k o' ho)).2.2 src hn ((Alias.update_returns h ho).2.2.1 src hg)
    | setallv k src =>
      obtain ⟨hc, hg⟩ := hop o' ho
      exact (setAll_consistent (h.obj k o' ho) ho hc ((Alias.update_returns h ho).2.2.2 src hg)).2
    | _ => cases hu
  | @copied s d o _ ho r | @assigned s d o _ ho r =>
    cases ((congrFun r.objs d).trans (if_pos rfl)).symm.trans ho'
    rw [← allSynced_view (hI.obj _ _ ho') ho', svOf_copy (h.obj s o ho) r, allSynced_view (h.obj s o ho) ho]
    exact hs s o ho
  | @renamed k o pre ho =>
    have hi := h.obj k o ho
    obtain ⟨_, _, _, f4, f5, _⟩ := nsWorld_facts hi pre
    cases ((congrFun f4 k).trans (if_pos rfl)).symm.trans ho'
    refine (hs k o ho).transfer hi ho (hI.obj k _ ho') ho' (fun x y => (link_renamed hi pre x y).1)
      (fun s hsm x hx => ⟨s, hsm, ?_, ?_⟩)
    · simp only [nameOf, f5 s, hsm, if_true]; exact (congrArg (renamed o.pre pre) hx).trans (renamed_append ..)
    · simp only [val, f5 s, hsm, if_true]

/-- **chains of any length along arbitrary interleaved histories**: starting from any world that
satisfies the invariant and has all links in sync — in particular from the empty world — along every
history of the operations of the protocol (alias, unalias, bulk alias, set by name, bulk set, match,
set all, copy-construct, assign, setNamespace, new, add, the queries), on any objects, each under its
input guard `SafeOp`, every object of the world has all its links in sync at the end: each parameter
equals the parameter it follows through a chain of any length (`synced_chain`). -/
theorem history_keeps_sync : ∀ (ops : List Op) {w : World}, Inv w → WSynced w → SafeHistory w ops → WSynced (run w ops)
  | [], _, _, hs, _ => hs
  | op :: rest, _, h, hs, hh =>
    history_keeps_sync rest (inv_step h op hh.1.wf) (safe_step_keeps_sync h hs op hh.1) hh.2

theorem history_keeps_sync_from_init (ops : List Op) (hh : SafeHistory World.init ops) : WSynced (run World.init ops) :=
  history_keeps_sync ops inv_init (fun k o ho => by cases ho) hh

/-- non-vacuity: a history mixing object creation, a pair alias of equal values, a copy, a rename, an
un-alias and a query satisfies the guards (the guards of the updates are exercised by `alias_tracks`) -/
example : SafeHistory World.init [.new 0 "", .add 0 ⟨"a", 1, none⟩, .add 0 ⟨"b", 1, none⟩, .alias 0 "a" "b",
    .copy 0 1, .ns 1 "m.", .unalias 1 "a" "b", .aliases 0] := by
  refine ⟨trivial, ?_, ?_, ?_, trivial, trivial, trivial, trivial, trivial⟩
  · intro o ho
    have : o.pre = "" := by
      have h0 : ((step World.init (.new 0 "")).1.objs 0).map (·.pre) = some "" := by decide
      rw [ho] at h0; simpa using h0
    exact ⟨"a", by rw [this]; decide, by decide, by decide⟩
  · intro o ho
    have : o.pre = "" := by
      have h0 : ((run World.init [.new 0 "", .add 0 ⟨"a", 1, none⟩]).objs 0).map (·.pre) = some "" := by decide
      rw [show (run World.init [.new 0 "", .add 0 ⟨"a", 1, none⟩]) = (step (step World.init (Op.new 0 "")).1 (Op.add 0 ⟨"a", 1, none⟩)).1 from rfl, ho] at h0
      simpa using h0
    exact ⟨"b", by rw [this]; decide, by decide, by decide⟩
  · intro o ho i1 i2 h1 h2
    let w := run World.init [.new 0 "", .add 0 ⟨"a", 1, none⟩, .add 0 ⟨"b", 1, none⟩]
    have hw : (step (step (step World.init (Op.new 0 "")).1 (Op.add 0 ⟨"a", 1, none⟩)).1 (Op.add 0 ⟨"b", 1, none⟩)).1 = w := rfl
    rw [hw] at ho h1 h2 ⊢
    have ho0 : w.objs 0 = some { params := [0, 1], indep := [0, 1], reg := [], pre := "" } := by decide
    rw [ho0] at ho; cases ho
    have e1 : find? w.heap [0, 1] ("" ++ "a") = some 0 := by decide
    have e2 : find? w.heap [0, 1] ("" ++ "b") = some 1 := by decide
    rw [e1] at h1; rw [e2] at h2; cases h1; cases h2
    decide

end Bpp.C03
