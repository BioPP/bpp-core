import BppProofs.Lemmas.DistText
import BppProofs.Props.C17
import BppProofs.Props.C17Keyval
/-!
# C17 — "a distribution written in the description language reads back …": the textual layer

The distribution classes are not modelled: the clause about families, class values and probabilities
is **explored** (driver predicates `dist_reads_back`, `dist_family`, `dist_values`, `dist_text` on the
implementation's traces for every family and nested compounds, class counts 1..8; see props/C17.json).
What is proved here is the textual layer for the parametric families (Gamma, Beta, Exponential,
Gaussian, TruncExponential, …): the description `Name(n=<count>,<p1>=<numeral>,…)` that
`writeDiscreteDistribution` produces is a KeyvalTools procedure whose values are numerals of the
strict decimal grammar, and the reader (`parseProcedure`, `toInt(args["n"])`, `toDouble(args[p])`)
gets back the name, the class count and — as rationals, before libc's decimal→binary rounding — the
value each numeral denotes.  A composition of `parse_render`, `int_roundtrip` and `toDouble_value`.
-/
namespace Bpp.C17
open Bpp.Text Bpp.Text.Number Bpp.Text.Keyval Bpp.Text.DistText

/-- a numeral of the strict decimal grammar is a value the procedure syntax leaves alone -/
theorem numeral_valOk (p : DecParts) (hwf : p.WF) : ValOk (p.render '.' 'e') = true :=
  valOk_plain _ (render_plain p hwf)

/-- **the description parses back**: name and argument map -/
theorem dist_description_parse (fam : Str) (n : Nat) (params : List (Str × DecParts))
    (hn : NameOk fam = true) (hp : ∀ kp ∈ params, KeyOk kp.1 = true ∧ kp.2.WF) :
    parseProcedure (paramDesc fam n params) = some (fam, mapOfList (paramArgs n params)) := by
  apply parse_render fam _ hn
  simp only [paramArgs, List.all_cons, List.all_map, Bool.and_eq_true, List.all_eq_true]
  exact ⟨pairOk_of (by decide) (fun c hc => digit_plain ((natDigits_spec n).1 c hc)) (natDigits_spec n).2.1,
    fun kp hkp => pairOk_of (hp kp hkp).1 (render_plain kp.2 (hp kp hkp).2) (render_ne_nil kp.2 (hp kp hkp).2)⟩

/-- **… and the reader extracts what was written**: the family name, the class count, and for every
parameter the value its numeral denotes.  Parameter names: distinct, not `n`, free of the
structural characters. -/
theorem dist_description_reads_back (fam : Str) (n : Nat) (params : List (Str × DecParts))
    (hn : NameOk fam = true) (hp : ∀ kp ∈ params, KeyOk kp.1 = true ∧ kp.2.WF ∧ kp.1 ≠ "n".toList)
    (hd : (params.map (·.1)).Nodup) (hnmax : (n : Int) ≤ intMax) :
    readParams (paramDesc fam n params) (params.map (·.1))
      = some (fam, (n : Int), params.map (fun kp => (kp.1, kp.2.value))) := by
  unfold readParams
  rw [dist_description_parse fam n params hn (fun kp hkp => ⟨(hp kp hkp).1, (hp kp hkp).2.1⟩)]
  simp only
  have hnd : ((paramArgs n params).map (·.1)).Nodup := by
    rw [paramArgs, List.map_cons, List.map_map, List.nodup_cons]
    exact ⟨fun h => by obtain ⟨kp, hkp, e⟩ := List.mem_map.mp h; exact (hp kp hkp).2.2 e, hd⟩
  have hint : toInt 'e' (natDigits n) = some (n : Int) := by
    have := int_roundtrip (sci := 'e') (by decide) (n : Int) (by unfold Number.intMin; omega) hnmax
    have hnn : ¬ ((n : Int) < 0) := by omega
    simpa [intToString, hnn] using this
  simp only [mapFind_mapOfList hnd (List.mem_cons_self ..), Option.bind_some, hint]
  have hkey : ∀ kp ∈ params,
      ((mapFind kp.1 (mapOfList (paramArgs n params))).bind (toDouble '.' 'e')).map (fun v => (kp.1, v))
        = some (kp.1, kp.2.value) := by
    intro kp hkp
    rw [mapFind_mapOfList hnd (List.mem_cons_of_mem _ (List.mem_map.mpr ⟨kp, hkp, rfl⟩)), Option.bind_some,
      toDouble_value sane_default.1 kp.2 (hp kp hkp).2.1]
    rfl
  have hm : ∀ (l : List (Str × DecParts)), (∀ kp ∈ l, kp ∈ params) →
      (l.map (·.1)).mapM (fun k => ((mapFind k (mapOfList (paramArgs n params))).bind (toDouble '.' 'e')).map
        (fun v => (k, v))) = some (l.map (fun kp => (kp.1, kp.2.value))) := by
    intro l
    induction l with
    | nil => intro _; rfl
    | cons a r ih =>
      intro hsub
      simp only [List.map_cons, List.mapM_cons, hkey a (hsub a (by simp)), Option.pure_def, Option.bind_eq_bind,
        Option.bind_some, ih (fun kp hkp => hsub kp (by simp [hkp]))]
  rw [hm params (fun _ h => h)]
  rfl

/-- non-vacuity: `Gamma(n=4,alpha=0.500000000000,beta=1.250000000000)` as the library writes it -/
example : paramDesc "Gamma".toList 4
    [("alpha".toList, ⟨false, "0".toList, true, "500000000000".toList, none⟩),
     ("beta".toList, ⟨false, "1".toList, true, "250000000000".toList, none⟩)]
    = "Gamma(n=4,alpha=0.500000000000,beta=1.250000000000)".toList := by
  rw [paramDesc, paramArgs, natDigits]
  repeat rw [String.toList_ofList]
  decide +kernel

end Bpp.C17
