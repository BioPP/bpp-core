import BppProofs.Lemmas.OptimBrent
import BppProofs.Lemmas.OptimObjective
import BppProofs.Lemmas.OptimSync
/-!
# C10, part 6 — BrentOneDimension in full (outward and inward bracketing)

`doInit`, `doStep`, the stop condition and `optimize` of `BrentOneDimension` (model in
`BppModel/OptimOneDim.lean`) driven by the `AbstractOptimizer` template, over `ℝ`, for every function
object whose evaluation step computes a function `g` of the abscissa (`Det I g J`).  This is the
optimiser the coordinate-wise `SimpleMultiDimensions` and every line minimisation (Powell, conjugate
gradient) are built on.  Rounding is not modelled.
-/
namespace Bpp.C10
open Bpp Bpp.Optim

variable {F : Type} {J : F → PList ℝ → Prop}

/-- **brent_descent** (with `reported_value_consistent` for this optimiser).  After `init` (either
bracketing) and `optimize`, whatever the tolerance, the cap and the number of steps: the value
returned is not above the function at the parameter's starting value `x0` ("we don't want to lose
our initial guess"), nor above the function at either end of the initial interval; it is the
function at an abscissa `x` which is what the optimiser's parameter holds, and the optimiser's
current value.  Which abscissa the parabolic interpolation proposes plays no role. -/
theorem brent_descent (I : FunI F ℝ) (g : ℝ → ℝ) (hd : Det I g J) (fuel fuel' : Nat)
    (s s1 s2 : St F (Brent ℝ) ℝ) (params : PList ℝ) (x0 v : ℝ)
    (hJ : J s.fn (applyPolicy s.core.policy params))
    (hx0 : value0 (applyPolicy s.core.policy params) = some x0)
    (hinit : (brentAlgo I fuel).init s params = .ok s1)
    (hopt : brentOptimize I fuel' s1 = .ok (s2, v)) :
    Spec.descent v (g x0) = true ∧ Spec.descent v (g s.ext.xinf) = true ∧ Spec.descent v (g s.ext.xsup) = true ∧
    s2.core.cur = v ∧ ∃ x, v = g x ∧ value0 s2.core.params = some x ∧ J s2.fn s2.core.params := by
  obtain ⟨h1, h2, h3⟩ := brentOptimize_spec I g hd fuel' _ s1 s2 v (brentInit_spec I g hd fuel s s1 params x0 hinit hJ hx0) hopt
  refine ⟨?_, ?_, ?_, h2, h3⟩
  · exact Spec.descent_iff.2 (le_trans h1 (min_le_left _ _))
  · exact Spec.descent_iff.2 (le_trans h1 (le_trans (min_le_right _ _) (min_le_left _ _)))
  · exact Spec.descent_iff.2 (le_trans h1 (le_trans (min_le_right _ _) (min_le_right _ _)))

/-- the counter of Brent's method never goes backwards (its `doStep` does not touch it): the template
theorems `optimize_terminates` and `budget` (Props/C10.lean) apply to it -/
theorem brent_monotone (I : FunI F ℝ) (fuel : Nat) : Monotone (brentAlgo I fuel) := brentAlgo_monotone I fuel

/-- `brent_descent` for the objective of the harness searched along a coordinate whose parameter has
**any constraint** (interval or none) and either dynamic type, under any of the three policies — only
precision 0 and a feasible starting value are assumed.  Under the automatic policy a request outside
the constraint is corrected by `AutoParameter::setValue`: the abscissae Brent's method books may differ
from the points the objective is evaluated at, but the value returned is still the objective at what
the optimiser's parameter holds, and not above the objective at the starting value. -/
theorem brent_descent_objective_con (obj : List ℝ → ℝ) (D : Deriv ℝ) (cap : Option Nat) (pt0 : List ℝ) (k : Nat) (hk : k < pt0.length)
    (q : NP ℝ) (hq : q.name = k) (hp : q.p.precision = 0) (hi : q.p.invOk = true)
    (fuel fuel' : Nat) (s s1 s2 : St (Fn ℝ) (Brent ℝ) ℝ) (v : ℝ) (hpt : s.fn.point = pt0)
    (hinit : (brentAlgo (Fn.iface obj D cap) fuel).init s [q] = .ok s1)
    (hopt : brentOptimize (Fn.iface obj D cap) fuel' s1 = .ok (s2, v)) :
    v ≤ obj (pt0.set k q.p.value) ∧ ∃ x, value0 s2.core.params = some x ∧ v = obj (pt0.set k x) ∧ s2.core.cur = v := by
  obtain ⟨p0, -, hp0, hi0, hJ, hx0, hc0⟩ := alongP_start s.core.policy hk hq hp hi hpt
  obtain ⟨h1, -, -, h4, x, hvx, hxs, hJ2⟩ :=
    brent_descent _ _ (objective_det_con obj D cap pt0 k p0 hp0 hi0) fuel fuel' s s1 s2 [q] _ v hJ hx0 hinit hopt
  exact ⟨hc0 ▸ Spec.descent_iff.1 h1, x, hxs, by rw [hvx, hJ2.corr_held hp0 hi0 hxs], h4⟩

/-- `brent_descent_objective_con` for an unconstrained coordinate -/
theorem brent_descent_objective (obj : List ℝ → ℝ) (D : Deriv ℝ) (cap : Option Nat) (pt0 : List ℝ) (k : Nat) (hk : k < pt0.length)
    (q : NP ℝ) (hq : q.name = k) (hp : q.p.precision = 0) (hc : q.p.constraint = none)
    (fuel fuel' : Nat) (s s1 s2 : St (Fn ℝ) (Brent ℝ) ℝ) (v : ℝ) (hpt : s.fn.point = pt0)
    (hinit : (brentAlgo (Fn.iface obj D cap) fuel).init s [q] = .ok s1)
    (hopt : brentOptimize (Fn.iface obj D cap) fuel' s1 = .ok (s2, v)) :
    v ≤ obj (pt0.set k q.p.value) ∧ ∃ x, value0 s2.core.params = some x ∧ v = obj (pt0.set k x) ∧ s2.core.cur = v :=
  brent_descent_objective_con obj D cap pt0 k hk q hq hp (Param.accepts_none hc _)
    fuel fuel' s s1 s2 v hpt hinit hopt

end Bpp.C10
