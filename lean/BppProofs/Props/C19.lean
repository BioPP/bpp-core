import BppProofs.Lemmas.Simplex
/-!
# C19 — simplex parametrisations   (src/Bpp/Numeric/Prob/Simplex.{h,cpp})

Property theorems only (helper lemmas: `Lemmas/Simplex.lean`).  All statements are about the
model `BppModel/Simplex.lean` interpreted over `ℝ` (exact arithmetic; rounding is not modelled),
for EVERY dimension: induction on the list of parameters (global and local ratio), on the bit
length (binary coding), on the list of values (ordered variant), on the list of calls (histories).

The only bound is `dim < 2^31` for the binary coding: the C++ computes `1 << (ld-1)` on `int`,
which is undefined beyond; the model's `clearBit` is the 64-bit `k & ~(1 << b)` and the lemma
`clearBit_eq` needs `b < 64`.

Hypotheses are exactly the property's: parameters in the open cube `]0,1[^(n-1)` (`InOpen`),
probability vectors with positive entries summing to one (`AllPos`, `sum = 1`, `ValidProbs`).
They guarantee that every denominator met by the code is non-zero, so none of these statements
relies on `x / 0 = 0`.  The exception are the theorems that admit ARBITRARY vectors on objects with
the strict constraint (`invariant_all_histories_strict` here; `history_inv`, `setFrequencies_preserves`,
`rejected_setFrequencies_*` in `C19Obj.lean`): there `paramsOf` / `ratios` may divide by zero, where ℝ
gives `x / 0 = 0` and the C++ gives ±inf or NaN.  The outcome of the call coincides all the same:
0, NaN and ±inf are all outside `]0,1[`, `matchParametersValues` tests every value before writing any
and rejects the whole list on one bad value, so both sides reject and leave the object unchanged
(only the dead ratio cache then holds 0 in ℝ and inf/NaN in the C++; at `Float` the model computes
inf/NaN too).  Under `allowNull` — where Lean's `0 ∈ [0,1]` would be accepted while the C++ NaN is
rejected (method 1, p = (1,0,0)) — only positive vectors are admitted.
-/
namespace Bpp.C19
open Bpp Bpp.Simplex

/-! ## method 1: global ratio -/

/-- any parameter vector (no hypothesis at all) gives probabilities that sum to one -/
theorem global_probs_sum_one (θ : List ℝ) : (probsGlobal θ 1).sum = 1 :=
  probsGlobal_sum θ 1

theorem global_probs_nonneg (θ : List ℝ) (h : ∀ t ∈ θ, 0 ≤ t ∧ t ≤ 1) :
    ∀ p ∈ probsGlobal θ 1, 0 ≤ p :=
  probsGlobal_nonneg θ 1 zero_le_one h

theorem global_probs_pos (θ : List ℝ) (h : InOpen θ) : AllPos (probsGlobal θ 1) :=
  probsGlobal_pos θ 1 one_pos h

theorem global_roundtrip (p : List ℝ) (hp : AllPos p) (hne : p ≠ []) (hs : p.sum = 1) :
    probsGlobal (paramsGlobal p 1) 1 = p :=
  Simplex.global_roundtrip p 1 hp hne hs

theorem global_params_in_constraints (p : List ℝ) (hp : AllPos p) (hs : p.sum = 1) :
    InOpen (paramsGlobal p 1) :=
  paramsGlobal_inOpen p 1 hp hs

theorem global_left_inverse (θ : List ℝ) (h : InOpen θ) :
    paramsGlobal (probsGlobal θ 1) 1 = θ :=
  Simplex.global_left_inverse θ 1 one_ne_zero (fun t m => ne_of_lt (h t m).2)

theorem global_injective (θ θ' : List ℝ) (h : InOpen θ) (h' : InOpen θ')
    (e : probsGlobal θ 1 = probsGlobal θ' 1) : θ = θ' := by
  rw [← global_left_inverse θ h, e, global_left_inverse θ' h']

/-! ## method 2: local ratio -/

theorem local_probs_sum_one (dim : Nat) (θ : List ℝ) (h : InOpen θ) : (probsLocal dim θ).sum = 1 :=
  probsLocal_sum dim θ h

theorem local_probs_pos (dim : Nat) (θ : List ℝ) (h : InOpen θ) : AllPos (probsLocal dim θ) :=
  probsLocal_pos dim θ h

/-- the `x > TINY` rescue branch (Simplex.cpp:166-175) is dead on the open cube -/
theorem local_rescue_branch_dead (dim : Nat) (θ : List ℝ) (h : InOpen θ) :
    probsLocal dim θ = (rawLocal (alphas θ) 1).map (fun v => v / (rawLocal (alphas θ) 1).sum) :=
  probsLocal_eq dim θ h

theorem local_roundtrip (dim : Nat) (p : List ℝ) (hp : AllPos p) (hne : p ≠ []) (hs : p.sum = 1) :
    probsLocal dim (paramsLocal p) = p :=
  Simplex.local_roundtrip dim p hp hne hs

/-- without the hypothesis on the sum the coding normalises -/
theorem local_roundtrip_normalises (dim : Nat) (p : List ℝ) (hp : AllPos p) (hne : p ≠ []) :
    probsLocal dim (paramsLocal p) = p.map (fun q => q / p.sum) :=
  Simplex.local_roundtrip_normalises dim p hp hne

theorem local_params_in_constraints (p : List ℝ) (hp : AllPos p) : InOpen (paramsLocal p) :=
  paramsLocal_inOpen p hp

theorem local_left_inverse (dim : Nat) (θ : List ℝ) (h : InOpen θ) :
    paramsLocal (probsLocal dim θ) = θ :=
  Simplex.local_left_inverse dim θ h

theorem local_injective (dim : Nat) (θ θ' : List ℝ) (h : InOpen θ) (h' : InOpen θ')
    (e : probsLocal dim θ = probsLocal dim θ') : θ = θ' := by
  rw [← local_left_inverse dim θ h, e, local_left_inverse dim θ' h']

/-! ## method 3: binary coding (general induction on the bit length, every dimension) -/

/-- any parameter vector (no hypothesis on its values or its length) -/
theorem binary_probs_sum_one (dim : Nat) (θ : List ℝ) (hd : 0 < dim) (h31 : dim < 2 ^ 31) :
    (probsBinary dim θ).sum = 1 :=
  probsBinary_sum dim θ hd h31

theorem binary_probs_nonneg (dim : Nat) (θ : List ℝ) (h : ∀ t ∈ θ, 0 ≤ t ∧ t ≤ 1) :
    ∀ p ∈ probsBinary dim θ, 0 ≤ p := by
  intro p hp
  rw [probsBinary_eq] at hp
  obtain ⟨i, _, rfl⟩ := List.mem_map.mp hp
  exact W_nonneg dim (lookup θ) (lookup_bounds θ h) (bitLen dim) i

theorem binary_probs_pos (dim : Nat) (θ : List ℝ) (hl : θ.length = dim - 1) (h : InOpen θ)
    (h31 : dim < 2 ^ 31) : AllPos (probsBinary dim θ) :=
  probsBinary_pos dim θ hl h h31

/-- the marginal structure behind the coding: the mass of the indices `≡ r (mod 2^b)` is the
product of the factors of the `b` low bits -/
theorem binary_marginals (dim : Nat) (θ : Nat → ℝ) (B : Nat) (hB : B ≤ 64) (hdim : dim ≤ 2 ^ B)
    (b : Nat) (hb : b ≤ B) (r : Nat) (hr : r < 2 ^ b) (hrd : r < dim) :
    M dim (fun i => W dim θ B i) b r = W dim θ b r :=
  marginal_walk dim θ B hB hdim (B - b) b (by omega) r hr hrd

theorem binary_roundtrip (p : List ℝ) (hp : AllPos p) (hs : p.sum = 1) (h31 : p.length < 2 ^ 31) :
    probsBinary p.length (paramsBinary p) = p := by
  rw [binary_roundtrip_normalises p hp h31, hs]; simp

theorem binary_roundtrip_normalises (p : List ℝ) (hp : AllPos p) (h31 : p.length < 2 ^ 31) :
    probsBinary p.length (paramsBinary p) = p.map (fun q => q / p.sum) :=
  Simplex.binary_roundtrip_normalises p hp h31

theorem binary_params_in_constraints (p : List ℝ) (hp : AllPos p) (h31 : p.length < 2 ^ 31) :
    InOpen (paramsBinary p) :=
  paramsBinary_inOpen p hp h31

theorem binary_left_inverse (dim : Nat) (θ : List ℝ) (hl : θ.length = dim - 1) (h : InOpen θ)
    (h31 : dim < 2 ^ 31) : paramsBinary (probsBinary dim θ) = θ :=
  Simplex.binary_left_inverse dim θ hl h h31

theorem binary_injective (dim : Nat) (θ θ' : List ℝ) (hl : θ.length = dim - 1)
    (hl' : θ'.length = dim - 1) (h : InOpen θ) (h' : InOpen θ') (h31 : dim < 2 ^ 31)
    (e : probsBinary dim θ = probsBinary dim θ') : θ = θ' := by
  rw [← binary_left_inverse dim θ hl h h31, e, binary_left_inverse dim θ' hl' h' h31]

/-- the walk never reads a parameter outside theta_1 .. theta_(dim-1): the default value of the
model's `lookup` is irrelevant -/
theorem binary_reads_only_existing_parameters (dim : Nat) (θ θ' : Nat → ℝ)
    (h : ∀ k, 1 ≤ k → k < dim → θ k = θ' k) (b k : Nat) (hb : b ≤ 64) (hk : k < 2 ^ b) (hd : k < dim) :
    W dim θ b k = W dim θ' b k :=
  W_congr dim θ θ' h b k hb hk hd

/-! ## the three codings through `probsOf` / `paramsOf` (the `switch (method_)`) -/

theorem probs_sum_one (m dim : Nat) (θ : List ℝ) (hm : ValidMethod m) (hd : 0 < dim)
    (h31 : dim < 2 ^ 31) (hl : θ.length = dim - 1) (h : InOpen θ) :
    ∃ p, probsOf m dim θ = some p ∧ p.length = dim ∧ p.sum = 1 ∧ AllPos p :=
  probsOf_spec m dim θ hm hd h31 hl h

theorem roundtrip (m : Nat) (p : List ℝ) (hm : ValidMethod m) (hp : ValidProbs p) :
    probsOf m p.length (paramsOf m p) = some p :=
  roundtrip_all m p hm hp.pos hp.ne hp.sum hp.len

theorem params_in_constraints (m : Nat) (p : List ℝ) (hm : ValidMethod m) (hp : ValidProbs p) :
    InOpen (paramsOf m p) ∧ (paramsOf m p).length = p.length - 1 :=
  ⟨paramsOf_inOpen m p hm hp.pos hp.sum hp.len, paramsOf_length m p hm⟩

theorem left_inverse (m dim : Nat) (θ p : List ℝ) (hm : ValidMethod m) (h31 : dim < 2 ^ 31)
    (hl : θ.length = dim - 1) (h : InOpen θ) (e : probsOf m dim θ = some p) : paramsOf m p = θ :=
  left_inverse_all m dim θ p hm h31 hl h e

theorem injective (m dim : Nat) (θ θ' : List ℝ) (hm : ValidMethod m) (h31 : dim < 2 ^ 31)
    (hl : θ.length = dim - 1) (hl' : θ'.length = dim - 1) (h : InOpen θ) (h' : InOpen θ')
    (e : probsOf m dim θ = probsOf m dim θ') : θ = θ' := by
  rcases Nat.eq_zero_or_pos dim with h0 | h0
  · subst h0
    have e1 : θ = [] := List.length_eq_zero_iff.mp (by simpa using hl)
    have e2 : θ' = [] := List.length_eq_zero_iff.mp (by simpa using hl')
    rw [e1, e2]
  · obtain ⟨p, hp, _⟩ := probsOf_spec m dim θ hm h0 h31 hl h
    rw [← left_inverse m dim θ p hm h31 hl h hp, left_inverse m dim θ' p hm h31 hl' h' (e ▸ hp)]

/-! ## the object: constructors, setters, every history -/

/-- construction from a probability vector: accepted, returned unchanged, parameters inside
their constraint, invariant established -/
theorem construct_roundtrip (p : List ℝ) (m : Nat) (a : Bool) (hm : ValidMethod m) (hp : ValidProbs p) :
    ∃ s, construct p m a = .ok s ∧ s.probs = p ∧ s.params = paramsOf m p ∧ Inv s ∧ s.allowNull = a :=
  construct_ok p m a hm hp

/-- construction from a dimension: the uniform vector -/
theorem constructDim_uniform (dim m : Nat) (a : Bool) (hm : ValidMethod m) (hd : 0 < dim)
    (h31 : dim < 2 ^ 31) :
    ∃ s, constructDim dim m a = .ok s ∧ s.probs = uniform dim ∧ Inv s ∧ s.allowNull = a ∧ s.dim = dim
      ∧ s.method = m :=
  constructDim_ok dim m a hm hd h31

/-- the frequency setter: accepted, and the getter returns the vector unchanged -/
theorem setFrequencies_roundtrip (s : St ℝ) (h : Inv s) (p : List ℝ) (hp : ValidProbs p)
    (hl : p.length = s.dim) :
    ∃ s', setFrequencies s p = .ok s' ∧ s'.probs = p ∧ s'.params = paramsOf s.method p ∧ Inv s' :=
  setFrequencies_ok s h p hp hl

theorem setParameters_ok (s : St ℝ) (h : Inv s) (θ : List ℝ) (hl : θ.length = s.dim - 1) (ho : InOpen θ) :
    ∃ s', matchParams s θ = .ok s' ∧ Inv s' ∧ s'.params = θ ∧ s'.dim = s.dim ∧ s'.method = s.method
      ∧ s'.allowNull = s.allowNull :=
  matchParams_ok s h θ hl ho

theorem setParameterValue_ok (s : St ℝ) (h : Inv s) (i : Nat) (v : ℝ) (hi : 1 ≤ i ∧ i < s.dim)
    (hv : 0 < v ∧ v < 1) :
    ∃ s', setOne s i v = .ok s' ∧ Inv s' ∧ s'.params = s.params.set (i - 1) v :=
  setOne_ok s h i v hi hv

/-- what the invariant gives to an observer -/
theorem inv_is_probability_vector (s : St ℝ) (h : Inv s) :
    s.probs.sum = 1 ∧ AllPos s.probs ∧ s.probs.length = s.dim ∧ InOpen s.params :=
  ⟨h.sum_one.1, h.sum_one.2.1, h.sum_one.2.2, h.inOpen⟩

/-- Strict constraint (`allowNull = false`): after ANY sequence of calls with ANY values in their
arguments (rejected calls raise and change nothing) the object holds a probability vector and
parameters inside their constraint.  `WellFormed`: `matchParametersValues` gets one value per
parameter, `setFrequencies` a vector of AT LEAST `dim` entries (a vector of any other size than `dim`
raises `DimensionException`, Simplex.cpp:219, and changes nothing: the proof does not use this clause). -/
theorem invariant_all_histories_strict (s : St ℝ) (h : Inv s) (ha : s.allowNull = false)
    (ops : List Op) (hw : ∀ o ∈ ops, WellFormed s.dim o) :
    Inv (run s ops) :=
  run_inv s h ops fun o m => Or.inr ⟨ha, hw o m⟩

/-- Either constraint: any sequence of calls whose arguments are inside the property's
quantifier (positive probability vectors, parameters in the open cube) is accepted throughout
and keeps the invariant. -/
theorem invariant_admissible_histories (s : St ℝ) (h : Inv s) (ops : List Op)
    (hw : ∀ o ∈ ops, Admissible s.dim o) : Inv (run s ops) :=
  run_inv s h ops fun o m => Or.inl (hw o m)

/-! Copies, assignment, the heap of objects with all their data members, the invariant over all
histories of several objects: `Props/C19Obj.lean`.  The object `St` of this section (dimension,
method, one constraint flag, parameter values, probabilities — what C09 / C13 build on) is the
projection of the full object model run by the driver: `C19.value_model_is_projection`,
`C19.ordered_value_model_is_projection`. -/

/-! ## OrderedSimplex -/

theorem ordered_values_sum (p : List ℝ) : (orderedValues p 1).sum = p.sum :=
  orderedValues_sum_eq p

theorem ordered_values_nonincreasing (p : List ℝ) (h : ∀ x ∈ p, 0 ≤ x) :
    NonIncreasing (orderedValues p 1) ∧ ∀ v ∈ orderedValues p 1, 0 ≤ v :=
  orderedValues_nonincreasing p 1 h

/-- the two maps of the ordered variant are inverse of each other -/
theorem ordered_maps_inverse (l : List ℝ) :
    orderedValues (orderedToProbs l 1) 1 = l ∧ orderedToProbs (orderedValues l 1) 1 = l :=
  ⟨orderedValues_toProbs l 1 (le_refl _), orderedToProbs_values l 1 (le_refl _)⟩

/-- on every reachable state: non-increasing non-negative values that sum to one -/
theorem ordered_nonincreasing_sum_one (o : OSt ℝ) (h : OInv o) :
    NonIncreasing o.values ∧ o.values.sum = 1 ∧ (∀ v ∈ o.values, 0 ≤ v) ∧ o.values.length = o.base.dim :=
  h.spec

theorem ordered_roundtrip (o : OSt ℝ) (h : Inv o.base) (v : List ℝ) (hv : ValidOrdered v)
    (hl : v.length = o.base.dim) :
    ∃ o', oSetFrequencies o v = .ok o' ∧ o'.values = v ∧ OInv o' ∧ o'.base.probs = orderedToProbs v 1 := by
  obtain ⟨b, _, e, hpr, _, hi⟩ := oSetFrequencies_base o h v hv hl
  exact ⟨⟨b, v⟩, e, rfl, hi, hpr⟩

theorem ordered_construct_roundtrip (v : List ℝ) (m : Nat) (a : Bool) (hm : ValidMethod m)
    (hv : ValidOrdered v) :
    ∃ o, oConstruct v m a = .ok o ∧ o.values = v ∧ OInv o ∧ o.base.allowNull = a :=
  oConstruct_ok v m a hm hv

theorem ordered_constructDim (dim m : Nat) (a : Bool) (hm : ValidMethod m) (hd : 0 < dim)
    (h31 : dim < 2 ^ 31) :
    ∃ o, oConstructDim dim m a = .ok o ∧ OInv o ∧ o.base.dim = dim ∧ o.base.method = m
      ∧ o.base.allowNull = a :=
  oConstructDim_ok dim m a hm hd h31

theorem ordered_setParameters_ok (o : OSt ℝ) (h : OInv o) (θ : List ℝ) (hl : θ.length = o.base.dim - 1)
    (ho : InOpen θ) : ∃ o', oMatchParams o θ = .ok o' ∧ OInv o' ∧ o'.base.params = θ := by
  obtain ⟨s', e, hi, hpar, _⟩ := matchParams_ok o.base h.base θ hl ho
  simp only [oMatchParams, e]
  by_cases hc : (List.zip o.base.params θ).any (fun (c, v) => !(Scalar.eqb c v)) = true
  · exact ⟨oRefresh s', by simp only [hc, if_true]; rfl, oRefresh_inv s' hi, hpar⟩
  · have hc' := eq_false_of_ne_true hc
    have := eq_of_not_changed o.base.params θ (by rw [h.base.len, hl]) hc'
    exact ⟨o, by simp only [hc', Bool.false_eq_true, if_false]; rfl, h, this⟩

theorem ordered_setParameterValue_ok (o : OSt ℝ) (h : OInv o) (i : Nat) (v : ℝ)
    (hi : 1 ≤ i ∧ i < o.base.dim) (hv : 0 < v ∧ v < 1) : ∃ o', oSetOne o i v = .ok o' ∧ OInv o' := by
  obtain ⟨s', e, hi', _⟩ := setOne_ok o.base h.base i v hi hv
  exact ⟨oRefresh s', by simp only [oSetOne, e]; rfl, oRefresh_inv s' hi'⟩

/-! ### the defect of the unchanged tree (repaired; see findings/C19.json) -/

/-- the object built by `OrderedSimplex({1/2, 3/10, 1/5}, method 1)` -/
noncomputable def witnessObj : OSt ℝ :=
  ⟨⟨3, 1, false, [1/5, 1/4], [1/5, 1/5, 3/5]⟩, [1/2, 3/10, 1/5]⟩

/-- it IS the object the constructor builds -/
theorem witnessObj_reachable : oConstruct ([1/2, 3/10, 1/5] : List ℝ) 1 false = .ok witnessObj := by
  obtain ⟨s, e, _, hi, ha, hdim, hme⟩ := constructDim_ok 3 1 false (Or.inl rfl) (by norm_num) (by norm_num)
  obtain ⟨b, eb, e', hpr, hpar, _⟩ := oSetFrequencies_base ⟨s, [1/2, 3/10, 1/5]⟩ hi _ validOrdered_example hdim.symm
  have hp : orderedToProbs ([1/2, 3/10, 1/5] : List ℝ) 1 = [1/5, 1/5, 3/5] := by
    norm_num [orderedToProbs]
  have hθ : paramsOf 1 ([1/5, 1/5, 3/5] : List ℝ) = [1/5, 1/4] := by
    norm_num [paramsOf, paramsGlobal]
  obtain ⟨h1, h2, h3⟩ := setFrequencies_same s b _ eb
  have hc : oConstruct ([1/2, 3/10, 1/5] : List ℝ) 1 false = .ok ⟨b, [1/2, 3/10, 1/5]⟩ := by
    simp only [oConstruct, List.length_cons, List.length_nil]
    rw [e]; exact e'
  rw [hc]
  -- the members of the object the setter returns
  cases b
  simp only at hpr hpar h1 h2 h3
  rw [hpr, hpar, h1, h2, h3, hdim, hme, ha, hp, hθ]
  rfl

theorem witnessObj_inv : OInv witnessObj := by
  obtain ⟨o, e, _, hi, _⟩ := oConstruct_ok _ 1 false (Or.inl rfl) validOrdered_example
  rw [witnessObj_reachable] at e
  cases e; exact hi

/-- `OrderedSimplex::setFrequencies` as it was: the increasing vector (1/5, 3/10, 1/2) is
rejected (ConstraintException) and nevertheless stays in the object, which then violates
`ordered_nonincreasing_sum_one`.  Replayed on the implementation: corpus/C19. -/
theorem ordered_setFrequencies_orig_keeps_rejected :
    oSetFrequenciesOrig witnessObj [1/5, 3/10, 1/2] =
      (⟨witnessObj.base, [1/5, 3/10, 1/2]⟩, some Err.constraint)
    ∧ ¬ NonIncreasing ([1/5, 3/10, 1/2] : List ℝ) := by
  refine ⟨(oSetFrequencies_rejected witnessObj _ _ (by simp) rfl ?_).2, ?_⟩
  · refine setFrequencies_rejects _ _ (by simp [witnessObj]) (by rw [orderedToProbs_sum]; norm_num)
      (orderedToProbs_length _ 1) ?_
    norm_num [witnessObj, orderedToProbs, paramsOf, paramsGlobal, inConstraint, Scalar.gtb, Scalar.ltb]
  · norm_num [NonIncreasing]

/-- as it was, the setter on the empty vector (reached from `OrderedSimplex(std::vector<double>())`)
indexed out of bounds; repaired: returns at once -/
theorem ordered_setFrequencies_orig_empty_undefined (o : OSt ℝ) :
    (oSetFrequenciesOrig o []).2 = some Err.ub ∧ oSetFrequencies o [] = .ok o := by
  simp [oSetFrequenciesOrig, oSetFrequencies]

/-- the repaired setter on the same call: raises, and (being an `Except`) returns no new object -/
theorem ordered_setFrequencies_rejects_witness :
    oSetFrequencies witnessObj [1/5, 3/10, 1/2] = .error Err.constraint :=
  oSetFrequencies_of_orig witnessObj _ _ (by simp) rfl (by rw [ordered_setFrequencies_orig_keeps_rejected.1])

/-! ## non-vacuity of the hypotheses -/

example : InOpen ([1/2, 1/3, 9/10] : List ℝ) := by
  intro x hx; simp at hx; rcases hx with rfl | rfl | rfl <;> norm_num
example : ValidProbs ([1/2, 1/4, 1/8, 1/8] : List ℝ) := by
  refine ⟨?_, by simp, by norm_num, by simp⟩
  intro x hx; simp at hx; rcases hx with rfl | rfl | rfl | rfl <;> norm_num
example : ValidOrdered ([1/2, 3/10, 1/5] : List ℝ) := validOrdered_example
example : ValidMethod 3 := Or.inr (Or.inr rfl)
example : ∃ s : St ℝ, Inv s ∧ s.allowNull = false := by
  obtain ⟨s, _, _, hi, ha, _⟩ := constructDim_ok 5 3 false (Or.inr (Or.inr rfl)) (by norm_num) (by norm_num)
  exact ⟨s, hi, ha⟩

end Bpp.C19
