import BppProofs.Lemmas.OptimPolicy
import BppProofs.Props.C01
/-!
# C10, part 5 — the constraint policy

"Under the automatic-constraint policy the objective is never evaluated outside its parameters'
constraints and the reported point is feasible."

The optimiser's own parameter list is `init`'s list with the policy applied
(`AbstractOptimizer::autoParameter`: every parameter becomes an `AutoParameter` with the same
constraint; `keep`: unchanged).  Every evaluation hands a parameter list to the objective.  The
theorems below are built on C01: a `setValue` — plain or auto-correcting — that returns has changed
nothing but the value and leaves the parameter inside its constraint (`setValue_ok_form`, from
`Param.setValue_from_svb` and `Param.svb_ok`), and an auto-correcting one always returns on a wide
interval (`C01.auto_total`).

* `objective_feasible` — the objective of the harness, whatever it computes, evaluated through a list
  tied to `init`'s constraints, is evaluated at a point that satisfies them;
* `auto_policy_feasible` — template form: for **every** optimiser whose `doInit`/`doStep` evaluate the
  function through tied lists only (`SafeAlgo`), after `init` and `optimize` — however they end,
  exceptions included — every point the objective has been evaluated at satisfies the constraints
  (`Spec.feasibleLog`, the predicate the driver evaluates on the implementation's log) and the
  reported point is feasible (`Spec.feasibleReport`);
* `golden_auto_policy_feasible`, `brent_auto_policy_feasible` — the golden section search and Brent's
  method (both bracketings included) are such optimisers;
* `auto_never_raises` — under the automatic policy, with wide intervals, no `setValue` of the
  optimiser's list raises.
The same holds under the `keep` policy (the theorems only need `policy ≠ ignore`), where a plain
`setValue` may raise instead of correcting.
-/
namespace Bpp.C10
open Bpp Bpp.Optim

/-- the constraints of the list given to `init`, by parameter name -/
def consOf (params : PList ℝ) : Spec.Cons ℝ := params.map (fun q => (q.name, q.p.constraint))

/-- **objective_feasible**: one evaluation.  `fn.f obj pl` with a list tied to `cons`, from a function
whose log and point are feasible, logs a feasible point. -/
theorem objective_feasible (obj : List ℝ → ℝ) (cons : Spec.Cons ℝ) (fn : Fn ℝ) (pl : PList ℝ)
    (hQ : FeasFn cons fn) (hT : Tied cons pl) :
    Spec.feasibleLog cons (fn.f obj pl).1.log = true ∧ Spec.feasiblePoint cons (fn.f obj pl).1.point = true :=
  setParameters_within cons fn pl hQ hT.within

/-- **auto_policy_feasible** (template form, every `SafeAlgo` optimiser, every objective) -/
theorem auto_policy_feasible {τ : Type}
    (A : Algo (Fn ℝ) τ ℝ) (params : PList ℝ)
    (ha : SafeAlgo A (FeasFn (consOf params)) (Tied (consOf params)))
    (s : St (Fn ℝ) τ ℝ) (hpol : s.core.policy ≠ .ignore)
    (hfeas : feasibleList params = true) (hnd : (params.map (·.name)).Nodup)
    (hs0 : FeasFn (consOf params) s.fn) :
    ROk (FeasFn (consOf params))
      (fun s1 => Spec.feasibleLog (consOf params) s1.fn.log = true ∧ Spec.feasibleReport s1.core.params = true ∧
        ∀ fuel, ROk (FeasFn (consOf params))
          (fun r => Spec.feasibleLog (consOf params) r.1.fn.log = true ∧ Spec.feasibleReport r.1.core.params = true)
          (A.optimize fuel s1))
      (A.init s params) :=
  feasible_run (fun _ h => h) (fun _ h => h)
    (init_safe ha s params hs0 (applyPolicy_tied params s.core.policy hpol hfeas hnd))
    (fun fuel s1 h1 => optimize_safeS ha.toStep fuel s1 h1.1 h1.2)

/-- **golden_auto_policy_feasible**: `GoldenSectionSearch` — `init` (outward bracketing, the two inner
evaluations), any number of steps, the final evaluation of its `optimize` — on the objective of the
harness: however the run ends, every evaluation was made at a feasible point, and the reported
parameter is feasible. -/
theorem golden_auto_policy_feasible (obj : List ℝ → ℝ) (D : Deriv ℝ) (cap : Option Nat) (fuel : Nat)
    (params : PList ℝ) (s : St (Fn ℝ) (Gss ℝ) ℝ) (hpol : s.core.policy ≠ .ignore)
    (hfeas : feasibleList params = true) (hnd : (params.map (·.name)).Nodup)
    (hs0 : FeasFn (consOf params) s.fn) :
    ROk (FeasFn (consOf params))
      (fun s1 => Spec.feasibleLog (consOf params) s1.fn.log = true ∧ Spec.feasibleReport s1.core.params = true ∧
        ∀ fuel', ROk (FeasFn (consOf params))
          (fun r => Spec.feasibleLog (consOf params) r.1.fn.log = true ∧ Spec.feasibleReport r.1.core.params = true)
          (gssOptimize (Fn.iface obj D cap) fuel' s1))
      ((gssAlgo (Fn.iface obj D cap) fuel).init s params) :=
  have hsafe := objective_safe obj D cap (consOf params)
  feasible_run (fun _ h => h) (fun _ h => h)
    (init_safe (gss_safeAlgo hsafe fuel) s params hs0 (applyPolicy_tied params s.core.policy hpol hfeas hnd))
    (fun fuel' s1 h1 => gssOptimize_safe hsafe fuel' s1 h1.1 h1.2)

/-- **brent_auto_policy_feasible**: the same for `BrentOneDimension` — `init` with either bracketing
(the inward scan included), any number of steps (each evaluates on a copy of the optimiser's list),
the final evaluation of its `optimize`. -/
theorem brent_auto_policy_feasible (obj : List ℝ → ℝ) (D : Deriv ℝ) (cap : Option Nat) (fuel : Nat)
    (params : PList ℝ) (s : St (Fn ℝ) (Brent ℝ) ℝ) (hpol : s.core.policy ≠ .ignore)
    (hfeas : feasibleList params = true) (hnd : (params.map (·.name)).Nodup)
    (hs0 : FeasFn (consOf params) s.fn) :
    ROk (FeasFn (consOf params))
      (fun s1 => Spec.feasibleLog (consOf params) s1.fn.log = true ∧ Spec.feasibleReport s1.core.params = true ∧
        ∀ fuel', ROk (FeasFn (consOf params))
          (fun r => Spec.feasibleLog (consOf params) r.1.fn.log = true ∧ Spec.feasibleReport r.1.core.params = true)
          (brentOptimize (Fn.iface obj D cap) fuel' s1))
      ((brentAlgo (Fn.iface obj D cap) fuel).init s params) :=
  have hsafe := objective_safe obj D cap (consOf params)
  feasible_run (fun _ h => h) (fun _ h => h)
    (init_safe (brent_safeAlgo hsafe fuel) s params hs0 (applyPolicy_tied params s.core.policy hpol hfeas hnd))
    (fun fuel' s1 h1 => brentOptimize_safe hsafe fuel' s1 h1.1 h1.2)

/-- **auto_never_raises**: under the automatic policy every parameter of the optimiser's list is an
`AutoParameter`; when its constraint is a wide interval (`lo + precision + TINY < hi`) and its
precision is not negative, `l[i].setValue(x)` returns for every request `x` — the optimiser never
sees a `ConstraintException` from its own list (C01 `auto_total`). -/
theorem auto_never_raises (pl : PList ℝ) (i : Nat) (x : ℝ) (hi : i < pl.length)
    (hauto : ∀ q ∈ pl, q.p.auto = true ∧ 0 ≤ q.p.precision ∧ ∀ c, q.p.constraint = some c → c.wide = true) :
    ∃ pl', setValueAt pl i x = .ok pl' := by
  induction pl generalizing i with
  | nil => simp at hi
  | cons q r ih =>
    cases i with
    | zero =>
      obtain ⟨ha, hp, hw⟩ := hauto q (List.mem_cons_self ..)
      obtain ⟨p', hp'⟩ := C01.auto_total q.p x hp hw
      refine ⟨{ q with p := p' } :: r, ?_⟩
      rw [setValueAt]
      rw [Param.setValue_of_auto ha, hp']
    | succ i =>
      obtain ⟨r', hr'⟩ := ih i (by simpa using hi) (fun q' hq' => hauto q' (List.mem_cons_of_mem _ hq'))
      exact ⟨q :: r', by rw [setValueAt, hr']⟩

/-- non-vacuity: a tied list and a feasible function for the constraint `[0, 10]` on parameter 0 -/
example : let c : Interval ℝ := ⟨.fin 0, .fin 10, true, true, 0⟩
    let params : PList ℝ := [⟨0, ⟨4, 0, some c, false⟩⟩]
    feasibleList params = true ∧ (params.map (·.name)).Nodup ∧ FeasFn (consOf params) ⟨[4], []⟩ := by
  intro c params
  have h4 : c.isCorrect 4 = true := closed_isCorrect (by norm_num) (by norm_num)
  refine ⟨?_, by simp [params], rfl, ?_⟩
  · simp only [params, feasibleList, List.all_cons, List.all_nil, Param.invOk, Param.accepts, h4, Bool.and_self]
  · simp only [params, consOf, Spec.feasiblePoint, Spec.accepts, List.map_cons, List.map_nil, List.all_cons, List.all_nil,
      List.getElem?_cons_zero, h4, Bool.and_self]

end Bpp.C10
