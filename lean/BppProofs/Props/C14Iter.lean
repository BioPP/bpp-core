import BppProofs.Lemmas.GraphIter
import BppProofs.Props.C14Copy
/-!
# C14 — iterators enumerate exactly the items the list queries return

`BppModel/GraphIter.lean` models the iterator objects as what they are in the C++ — a position in an
ordered table with `start / end / next / *` (the observer's iterators wrap a graph iterator and skip
ids without object) — and `drain`, the loop `for (it->start(); !it->end(); it->next()) use(**it)`.
The theorems below are about that loop.  (`iterators_enumerate` of `Props/C14.lean` only relates
`RowQ.iter` to the list query, which is true by definition; its `ub` clause is the iterator constructor of the unchanged tree.)
-/
namespace Bpp.C14
open Bpp Bpp.Graph Bpp.AL

/-- the loop over any graph iterator yields its whole table, in order — whatever position it was in -/
theorem cursor_drain {α : Type} (c : Cursor α) : c.drain = c.table := Cursor.drain_eq c

/-- the loop over an observer iterator yields the objects of the ids that have one, in table order,
and never a null object -/
theorem ocursor_drain (c : OCursor) : c.drain = c.it.table.filterMap c.obj := OCursor.drain_eq c

/-- **graph iterators**: `allNodesIterator` / `allEdgesIterator` enumerate `getAllNodes` /
`getAllEdges`; the four per-node iterators enumerate `getOutgoingNeighbors`, `getIncomingNeighbors`,
`getOutgoingEdges`, `getIncomingEdges` of that node; on an absent node the list queries raise and the
iterator factories raise as well (`none`, see `iterators_absent_raise`) -/
theorem graph_iterators_enumerate (g : G) (n : Nat) :
    g.allNodesIter.drain = g.allNodes ∧ g.allEdgesIter.drain = g.allEdges ∧
    (g.outNodesIter n).map Cursor.drain = g.outNeighbors n ∧
    (g.inNodesIter n).map Cursor.drain = g.inNeighbors n ∧
    (g.outEdgesIter n).map Cursor.drain = g.outEdges n ∧
    (g.inEdgesIter n).map Cursor.drain = g.inEdges n ∧
    (g.hasNode n = false → g.outNodesIter n = none ∧ g.outNeighbors n = none) := by
  refine ⟨Cursor.drain_eq _, Cursor.drain_eq _, ?_, ?_, ?_, ?_, ?_⟩
  · unfold G.outNodesIter G.outNeighbors RowQ.outNeighbors; cases g.rowOf n <;> simp [Cursor.drain_eq, Cursor.mk0]
  · unfold G.inNodesIter G.inNeighbors RowQ.inNeighbors; cases g.rowOf n <;> simp [Cursor.drain_eq, Cursor.mk0]
  · unfold G.outEdgesIter G.outEdges RowQ.outEdges; cases g.rowOf n <;> simp [Cursor.drain_eq, Cursor.mk0]
  · unfold G.inEdgesIter G.inEdges RowQ.inEdges; cases g.rowOf n <;> simp [Cursor.drain_eq, Cursor.mk0]
  · intro h
    have : g.rowOf n = none := find_none_of_has_false h
    simp [G.outNodesIter, G.outNeighbors, RowQ.outNeighbors, this]

/-- **iterators_absent_raise**: on a node that is not (or no longer) in the graph each of the four
per-node iterator factories raises — like the four list queries — and nothing else happens (they
are queries).  (On the unchanged tree they read past the end of the node table.) -/
theorem iterators_absent_raise (g : G) (n : Nat) (h : g.hasNode n = false) :
    g.outNodesIter n = none ∧ g.inNodesIter n = none ∧ g.outEdgesIter n = none ∧ g.inEdgesIter n = none ∧
    g.outNeighbors n = none ∧ g.inNeighbors n = none ∧ g.outEdges n = none ∧ g.inEdges n = none := by
  have : g.rowOf n = none := find_none_of_has_false h
  simp [G.outNodesIter, G.inNodesIter, G.outEdgesIter, G.inEdgesIter, G.outNeighbors, G.inNeighbors, G.outEdges, G.inEdges,
    RowQ.outNeighbors, RowQ.inNeighbors, RowQ.outEdges, RowQ.inEdges, this]

/-- … in particular for a node that has just been deleted, after any history -/
theorem iterators_deleted_raise (d : Bool) (ops : List Op) (n : Nat) (hn : ((Graph.empty d).run ops).hasNode n = true) :
    (((Graph.empty d).run ops).step (.deleteNode n)).outNodesIter n = none ∧
    (((Graph.empty d).run ops).step (.deleteNode n)).inEdgesIter n = none := by
  obtain ⟨g', h', _, hd⟩ := G.deleteNode_spec (consistent_inv d ops) hn
  have hgone : (((Graph.empty d).run ops).step (.deleteNode n)).hasNode n = false := by
    simp only [G.step, G.apply, h', GOut.state]; rw [hd.hasNode]; simp
  have := iterators_absent_raise _ n hgone
  exact ⟨this.1, this.2.2.2.1⟩

/-- in a world in order the observer's per-node iterators never meet that case: the id of a
registered node object is a node of the graph -/
theorem observer_node_iterators_defined (w : World) (hw : WInv w) (k : Nat) (o : Obs) (hk : w.getObs k = some o)
    (a : Obj) (id : Nat) (ha : find a o.Ng = some id) :
    ∃ c, w.g.outNodesIter id = some c ∧ ∃ c', w.g.inEdgesIter id = some c' := by
  have hl := (hw.obs k o hk).n_live a id ha
  obtain ⟨r, hr⟩ := (G.hasNode_iff w.g id).mp hl
  exact ⟨Cursor.mk0 (keys r.out), by simp [G.outNodesIter, G.rowOf, hr], Cursor.mk0 (vals r.inn), by simp [G.inEdgesIter, G.rowOf, hr]⟩

/-- **observer iterators, all nodes / all edges**: in a world in order the observer's
`allNodesIterator` (which walks the *graph's* node table and looks every id up) enumerates exactly
`getAllNodes()` (which reads the observer's own `graphidToN_`), and `allEdgesIterator` exactly
`getAllEdges()` -/
theorem observer_all_iterators_enumerate (w : World) (hw : WInv w) (k : Nat) (o : Obs) (hk : w.getObs k = some o) :
    (w.allNodesIter o).drain = World.allNodeObjs o ∧ (w.allEdgesIter o).drain = World.allEdgeObjs o := by
  have hi := hw.obs k o hk
  constructor
  · rw [OCursor.drain_eq, allNodeObjs_eq hw.graph hi]; rfl
  · rw [OCursor.drain_eq, allEdgeObjs_eq hw.graph hi]; rfl

/-- … after every history -/
theorem observer_all_iterators_enumerate_inv (d : Bool) (ops : List WOpX) (k : Nat) (o : Obs)
    (hk : ((World.init d).runX ops).getObs k = some o) :
    (((World.init d).runX ops).allNodesIter o).drain = World.allNodeObjs o ∧
    (((World.init d).runX ops).allEdgesIter o).drain = World.allEdgeObjs o :=
  observer_all_iterators_enumerate _ (assoc_bijective_ext d ops) k o hk

/-- **observer iterators, per node**: for a registered object whose node is in the graph, the
iterator over outgoing neighbours (incoming, outgoing edges, incoming edges alike: `sel`/`q`)
enumerates exactly what the list query `getOutgoingNeighbors(Nref)` returns -/
theorem observer_node_iterators_enumerate (w : World) (o : Obs) (a : Obj) (id : Nat) (ha : find a o.Ng = some id)
    (sel : G → Nat → Option (Cursor Nat)) (q : G → Nat → Option (List Nat)) (edges : Bool)
    (hsel : (sel w.g id).map Cursor.drain = q w.g id) :
    (∀ c, sel w.g id = some c →
      ∃ oc, w.nodeIter o a sel edges = some (some oc) ∧ w.nodeQuery o a q edges = some oc.drain) ∧
    (sel w.g id = none → w.nodeIter o a sel edges = some none ∧ w.nodeQuery o a q edges = none) := by
  constructor
  · intro c hc
    refine ⟨{ it := c, obj := if edges then o.edgeFromGid else o.nodeFromGid }, by simp [World.nodeIter, ha, hc], ?_⟩
    rw [hc] at hsel
    simp only [Option.map_some, Cursor.drain_eq] at hsel
    simp only [World.nodeQuery, ha, ← hsel, Option.map_some, OCursor.drain_eq]
    cases edges <;> rfl
  · intro hn
    rw [hn] at hsel
    simp [World.nodeIter, World.nodeQuery, ha, hn, ← hsel]

/-- non-vacuity: ids 0,1,2 with objects 7, –, 9: the observer's iterator skips id 1 -/
example : (OCursor.mk (Cursor.mk0 [0, 1, 2]) (fun i => if i = 1 then none else some (i + 7))).drain = [7, 9] := by decide
example :
    (((World.init true).run [.createNode 0 4, .graph .createNode, .createNode 0 6]).allNodesIter
      { gN := [some 4, none, some 6], Ng := [(4, 0), (6, 2)] }).drain = [4, 6] := by decide

end Bpp.C14
