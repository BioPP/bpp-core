import BppProofs.Lemmas.OptimCount
/-!
# C10 — "the run terminates within its evaluation budget (plus the iteration in progress)", in calls

`Props/C10.lean` proves `budget` about the optimiser's *counter* `nbEval_`.  Here the clause is proved
about the **real number of calls of the objective**: the length of the log of the harness objective
(`Fn.log`: every `f` / `setParameters` appends exactly one point, the call that throws `cap` included).

* `budget_calls`: template form, for every optimiser whose `doStep` makes at most one call more than it
  adds to the counter.
* `powell_budget_calls`, `cg_budget_calls`, `bfgs_budget_calls`: the three optimisers built on searches
  along a direction (after the repairs of findings/C10.json: a `DirectionFunction` counts the evaluations
  made through it, `lineMinimization` / `lineSearch` return that count, Powell counts its own
  evaluations), on the objective of the harness.
* `powell_counter_exact`, `cg_counter_exact`, `bfgs_counter_exact`: for them the counter at exit is
  exactly the number of calls made since `optimize` began, plus one.
* `powell_monotone`, `cg_monotone`, `bfgs_monotone`: so that `optimize_terminates` and `budget` of
  `Props/C10.lean` apply to them.
-/
namespace Bpp.C10
open Bpp Bpp.Optim

section template
variable {α : Type} [Scalar α] {F τ : Type}

/-- **budget_calls** (template form).  `calls fn` is the number of calls the function object `fn` has
received.  Suppose a `doStep` makes at most one call more than it adds to the counter `nbEval_` (`hcount`;
the `for` loop of `optimize` adds the missing one), does not move the counter backwards nor change the cap
(`Monotone A`), and the stop condition does not touch the function.  When `optimize` returns, either no
step was made — the function is the one `optimize` was given: no call at all — or there is a last step,
begun in a state `sb` in which the guard of the loop held (`sb.core.nbEval < nbEvalMax`) and in which the
calls made since `optimize` began were fewer than the counter:
`calls sb.fn - calls s.fn < nbEvalMax`.  `Spec.budgetCalls` is the predicate the driver evaluates with the
number of calls of the objective made since `optimize` began, at the moment the last step began. -/
theorem budget_calls (A : Algo F τ α) (calls : F → Nat) (hm : Monotone A)
    (hcount : ∀ s s' v, A.doStep s = .ok (s', v) → calls s'.fn + s.core.nbEval ≤ calls s.fn + s'.core.nbEval + 1)
    (hstopfn : ∀ s, (A.stop s).1.fn = s.fn)
    (s s' : St F τ α) (v : α) (fuel : Nat) (h : A.optimize fuel s = .ok (s', v)) :
    (s'.fn = s.fn ∧ s'.core.nbEval = 1) ∨
    ∃ sb sa w, Guard sb ∧ sb.core.nbEvalMax = s.core.nbEvalMax ∧ A.step sb = .ok (sa, w) ∧ s' = bump sa ∧
      calls sb.fn + 1 ≤ calls s.fn + sb.core.nbEval ∧
      calls sb.fn - calls s.fn < s.core.nbEvalMax ∧
      Spec.budgetCalls s.core.nbEvalMax (calls sb.fn - calls s.fn) = true :=
  optimize_calls A calls hm hcount hstopfn s s' v fuel h

/-- `doStep` of Powell's method does not move the counter backwards and leaves the cap alone; its stop
condition touches neither (every scalar type, every function object) -/
theorem powell_monotone (I : FunI F α) (fuel : Nat) : Monotone (powellAlgo I fuel) := powellAlgo_monotone I fuel

/-- the same for the conjugate gradient method -/
theorem cg_monotone (I : FunI F α) (fuel : Nat) : Monotone (cgAlgo I fuel) := cgAlgo_monotone I fuel

/-- the same for the BFGS method -/
theorem bfgs_monotone (I : FunI F α) (fuel : Nat) : Monotone (bfgsAlgo I fuel) := bfgsAlgo_monotone I fuel

end template

section harness
variable (obj : List ℝ → ℝ) (D : Deriv ℝ) (cap : Option Nat)

/-- **Powell within its budget, in calls of the objective.**  Stated for the template's loop
`(powellAlgo I fuel).optimize`; the library's `PowellMultiDimensions::optimize` (`powellOptimize`) is that
loop followed by one final evaluation at the optimiser's parameters: exactly one call more
(`Bpp.Optim.powellOptimize_calls`).  When the loop returns, either no step was made (no call), or when
the last step began the objective had been called, since `optimize` began, fewer times than the counter
showed, hence fewer than `nbEvalMax` times.  (Each step makes exactly one call it does not count — the
evaluation at the extrapolated point — which the loop's own increment pays for.) -/
theorem powell_budget_calls (fuel fuel' : Nat) (s s' : St (Fn ℝ) (Powell ℝ) ℝ) (v : ℝ)
    (h : (powellAlgo (Fn.iface obj D cap) fuel).optimize fuel' s = .ok (s', v)) :
    (s'.fn = s.fn ∧ s'.core.nbEval = 1) ∨
    ∃ sb sa w, Guard sb ∧ sb.core.nbEvalMax = s.core.nbEvalMax ∧
      (powellAlgo (Fn.iface obj D cap) fuel).step sb = .ok (sa, w) ∧ s' = bump sa ∧
      sb.fn.log.length + 1 ≤ s.fn.log.length + sb.core.nbEval ∧
      sb.fn.log.length - s.fn.log.length < s.core.nbEvalMax ∧
      Spec.budgetCalls s.core.nbEvalMax (sb.fn.log.length - s.fn.log.length) = true :=
  budget_calls (powellAlgo (Fn.iface obj D cap) fuel) (fun fn => fn.log.length) (powell_monotone _ fuel)
    (fun u u' w hd => Nat.le_of_eq (powellDoStep_calls (objective_counts obj D cap) fuel u u' w hd))
    (fun u => by show (powellStop u).1.fn = _; rw [powellStop_fst]) s s' v fuel' h

/-- **conjugate gradient within its budget, in calls of the objective** (the call a step does not count
is the evaluation after the line minimisation; derivative look-ups are not calls) -/
theorem cg_budget_calls (fuel fuel' : Nat) (s s' : St (Fn ℝ) (Cg ℝ) ℝ) (v : ℝ)
    (h : (cgAlgo (Fn.iface obj D cap) fuel).optimize fuel' s = .ok (s', v)) :
    (s'.fn = s.fn ∧ s'.core.nbEval = 1) ∨
    ∃ sb sa w, Guard sb ∧ sb.core.nbEvalMax = s.core.nbEvalMax ∧
      (cgAlgo (Fn.iface obj D cap) fuel).step sb = .ok (sa, w) ∧ s' = bump sa ∧
      sb.fn.log.length + 1 ≤ s.fn.log.length + sb.core.nbEval ∧
      sb.fn.log.length - s.fn.log.length < s.core.nbEvalMax ∧
      Spec.budgetCalls s.core.nbEvalMax (sb.fn.log.length - s.fn.log.length) = true :=
  budget_calls (cgAlgo (Fn.iface obj D cap) fuel) (fun fn => fn.log.length) (cg_monotone _ fuel)
    (fun u u' w hd => Nat.le_of_eq (cgDoStep_calls (objective_counts obj D cap) fuel u u' w hd))
    (fun u => by show (fscStop u).1.fn = _; rw [fscStop_fst]) s s' v fuel' h

/-- **BFGS within its budget, in calls of the objective** (the call a step does not count is the
evaluation after the line search) -/
theorem bfgs_budget_calls (fuel fuel' : Nat) (s s' : St (Fn ℝ) (Bfgs ℝ) ℝ) (v : ℝ)
    (h : (bfgsAlgo (Fn.iface obj D cap) fuel).optimize fuel' s = .ok (s', v)) :
    (s'.fn = s.fn ∧ s'.core.nbEval = 1) ∨
    ∃ sb sa w, Guard sb ∧ sb.core.nbEvalMax = s.core.nbEvalMax ∧
      (bfgsAlgo (Fn.iface obj D cap) fuel).step sb = .ok (sa, w) ∧ s' = bump sa ∧
      sb.fn.log.length + 1 ≤ s.fn.log.length + sb.core.nbEval ∧
      sb.fn.log.length - s.fn.log.length < s.core.nbEvalMax ∧
      Spec.budgetCalls s.core.nbEvalMax (sb.fn.log.length - s.fn.log.length) = true :=
  budget_calls (bfgsAlgo (Fn.iface obj D cap) fuel) (fun fn => fn.log.length) (bfgs_monotone _ fuel)
    (fun u u' w hd => Nat.le_of_eq (bfgsDoStep_calls (objective_counts obj D cap) fuel u u' w hd))
    (fun u => by show (fscStop u).1.fn = _; rw [fscStop_fst]) s s' v fuel' h

/-- **Powell's counter is exact**: when the template's loop returns, `nbEval_` is the number of calls of
the objective made since `optimize` began, plus one -/
theorem powell_counter_exact (fuel fuel' : Nat) (s s' : St (Fn ℝ) (Powell ℝ) ℝ) (v : ℝ)
    (h : (powellAlgo (Fn.iface obj D cap) fuel).optimize fuel' s = .ok (s', v)) :
    s'.fn.log.length + 1 = s.fn.log.length + s'.core.nbEval :=
  optimize_calls_exact (powellAlgo (Fn.iface obj D cap) fuel) (fun fn => fn.log.length) (powell_monotone _ fuel)
    (fun u u' w hd => powellDoStep_calls (objective_counts obj D cap) fuel u u' w hd)
    (fun u => by show (powellStop u).1.fn = _; rw [powellStop_fst]) s s' v fuel' h

/-- **the conjugate gradient method's counter is exact** -/
theorem cg_counter_exact (fuel fuel' : Nat) (s s' : St (Fn ℝ) (Cg ℝ) ℝ) (v : ℝ)
    (h : (cgAlgo (Fn.iface obj D cap) fuel).optimize fuel' s = .ok (s', v)) :
    s'.fn.log.length + 1 = s.fn.log.length + s'.core.nbEval :=
  optimize_calls_exact (cgAlgo (Fn.iface obj D cap) fuel) (fun fn => fn.log.length) (cg_monotone _ fuel)
    (fun u u' w hd => cgDoStep_calls (objective_counts obj D cap) fuel u u' w hd)
    (fun u => by show (fscStop u).1.fn = _; rw [fscStop_fst]) s s' v fuel' h

/-- **the BFGS method's counter is exact** -/
theorem bfgs_counter_exact (fuel fuel' : Nat) (s s' : St (Fn ℝ) (Bfgs ℝ) ℝ) (v : ℝ)
    (h : (bfgsAlgo (Fn.iface obj D cap) fuel).optimize fuel' s = .ok (s', v)) :
    s'.fn.log.length + 1 = s.fn.log.length + s'.core.nbEval :=
  optimize_calls_exact (bfgsAlgo (Fn.iface obj D cap) fuel) (fun fn => fn.log.length) (bfgs_monotone _ fuel)
    (fun u u' w hd => bfgsDoStep_calls (objective_counts obj D cap) fuel u u' w hd)
    (fun u => by show (fscStop u).1.fn = _; rw [fscStop_fst]) s s' v fuel' h

end harness

/-! ### the hypotheses are satisfiable -/

/-- an optimiser on the objective of the harness whose `doStep` evaluates the objective once at its own
parameters and counts nothing satisfies the three hypotheses of `budget_calls`; a run of it with cap 3
returns after two steps: two calls, counter 3 (when the last step began: one call, 1 < 3) -/
example : let A : Algo (Fn ℝ) Unit ℝ :=
      { doInit := fun s _ => .ok s,
        doStep := fun s => .ok ({ s with fn := s.fn.setParameters s.core.params }, 0),
        stopInit := fun s => s,
        stop := fun s => (s, false),
        value := fun _ => 0 }
    let s : St (Fn ℝ) Unit ℝ := { core := { freshCore 3 0 0 with initialized := true }, fn := ⟨[], []⟩, ext := () }
    Monotone A ∧
    (∀ s s' v, A.doStep s = .ok (s', v) → s'.fn.log.length + s.core.nbEval ≤ s.fn.log.length + s'.core.nbEval + 1) ∧
    (∀ s, (A.stop s).1.fn = s.fn) ∧
    ∃ s' v, A.optimize 2 s = .ok (s', v) ∧ s'.fn.log.length = 2 ∧ s'.core.nbEval = 3 := by
  intro A s
  refine ⟨⟨?_, fun _ => ⟨rfl, rfl⟩⟩, ?_, fun _ => rfl, ?_⟩
  · intro u u' w h
    simp only [A, Except.ok.injEq, Prod.mk.injEq] at h
    obtain ⟨rfl, -⟩ := h
    exact ⟨Nat.le_refl _, rfl⟩
  · intro u u' w h
    simp only [A, Except.ok.injEq, Prod.mk.injEq] at h
    obtain ⟨rfl, -⟩ := h
    show (u.fn.setParameters u.core.params).log.length + u.core.nbEval ≤ u.fn.log.length + u.core.nbEval + 1
    simp only [Fn.setParameters, List.length_cons]
    omega
  · simp [A, s, Algo.optimize, Algo.loop, Algo.step, freshCore, Fn.setParameters]

/-- the invariant of the line searches holds of a freshly initialised `DirectionFunction`, and is kept by
an evaluation of it (on the objective of the harness, no cap): its counter goes to 1, the log grows by 1 -/
example : let I := Fn.iface (fun _ => (0 : ℝ)) ⟨fun _ _ => 0, fun _ _ => 0⟩ none
    let fn : Fn ℝ := ⟨[5], [[5]]⟩
    let df : DirFn (Fn ℝ) ℝ := DirFn.init fn .auto [] []
    DirCount (fun fn => fn.log.length) 1 df ∧
    ∃ df', df.setParameters I xParam = .ok df' ∧ df'.nbEval = 1 ∧ df'.inner.log.length = 2 := by
  intro I fn df
  refine ⟨rfl, ?_⟩
  simp [df, I, fn, DirFn.init, DirFn.setParameters, xParam, value0, applyPolicy, dirMove, Fn.iface, capped,
    Fn.setParameters]

end Bpp.C10
