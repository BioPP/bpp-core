import BppProofs.Props.C15Valid
import BppProofs.Lemmas.TreeRootAtU
/-!
# C15 — re-rooting keeps the topology

`rootAt(n)` on a valid tree — rooted (directed) or unrooted (undirected, after `unRoot` /
`makeUndirected`) — with `n` one of its nodes succeeds and leaves (`Rerooted g g' n`)

* the same nodes and the same undirected edge set with the same edge identities (`SameShape`:
  `uedges g' = uedges g`, the edge table with the end points of every edge put in order),
* `n` as the root and as the only node without father,
* a valid rooted tree: consistent tables, directed, `isTree = true`.

The attached objects are untouched: no notification is involved (`Props/C15Obs.lean`,
`rootAt_keeps_objects`).  The rooted case turns round the father chain of the new root
(`propagateDirection_`); the unrooted case (repaired: `findings/C15.json`) lists the relations from
the new root by a traversal, makes the graph directed and switches the relations that lead towards
the new root.
-/
namespace Bpp.C15
open Bpp Bpp.Graph

theorem rootAt_spec (t : T) (hc : Consistent t.g) (hv : T.isTree t.g = .ok true) (n : Nat) (hn : t.g.hasNode n = true) :
    ∃ t', t.rootAt n = .ok (.ok () t'.g, t') ∧ Rerooted t.g t'.g n := by
  cases hd : t.g.directed with
  | true => exact rootAt_rooted t ⟨hc, hd, hv⟩ n hn
  | false => exact rootAt_unrooted t hc hd hv n hn

/-- the same after any history of the container: whenever `isValid()` answers true, `rootAt` at any
node succeeds with a tree of the same shape rooted there -/
theorem rootAt_spec_history (d : Bool) (ops : List TOp) (n : Nat)
    (hv : ((T.empty d).run ops).isValid.1 = .ok true) (hn : ((T.empty d).run ops).g.hasNode n = true) :
    ∃ t', ((T.empty d).run ops).rootAt n = .ok (.ok () t'.g, t') ∧ Rerooted ((T.empty d).run ops).g t'.g n := by
  rw [isValid_is_isTree d ops] at hv
  exact rootAt_spec _ (history_consistent d ops) hv n hn

/-- what `Rerooted` says, spelled out -/
theorem rerooted_unfold {g g' : G} {n : Nat} (h : Rerooted g g' n) :
    AL.keys g'.nodes = AL.keys g.nodes ∧ uedges g' = uedges g ∧ g'.root = n ∧ g'.directed = true ∧
    T.isTree g' = .ok true ∧ Consistent g' ∧ ∀ x, g'.hasNode x = true → (T.hasFather g' x = some false ↔ x = n) :=
  ⟨h.shape.keys, h.shape.uedges, h.root, h.valid.dir, h.valid.tree, h.valid.cons, h.fatherless⟩

/-- a tree that is not valid, or a node that is not in it, is refused and nothing changes in the graph -/
theorem rootAt_refuses (t : T) (n : Nat) (h : T.isTree t.g = .ok false ∨ (T.isTree t.g = .ok true ∧ t.g.hasNode n = false))
    (hnv : t.valid = false) : ∃ t', t.rootAt n = .ok (.exc t.g, t') ∧ t'.g = t.g := by
  unfold T.rootAt T.isValid
  rcases h with h | ⟨h, hn⟩
  · simp [hnv, h]
  · simp [hnv, h, hn]

/-- **rootAt_total**: on every reachable state of the container `rootAt` returns (re-rooted, or refused): the model never runs
out of fuel and never meets undefined behaviour there, so the fall-back `| _ => t` of `T.step (.rootAt n)` — under which
`cache_sound`, `isValid_iff`, `history_consistent` would silently count such a call as no step — is dead
(found missing, and proved, by the independent audit) -/
theorem rootAt_total (d : Bool) (ops : List TOp) (n : Nat) : ∃ r, ((T.empty d).run ops).rootAt n = .ok r := by
  generalize ht : (T.empty d).run ops = t
  have hc : Consistent t.g := ht ▸ history_consistent d ops
  have hs : CacheSound t := ht ▸ cache_sound d ops
  -- the cache is sound: the flag is down whenever the traversal does not answer true
  have hv : T.isTree t.g ≠ .ok true → t.valid = false := fun hne => by
    cases h : t.valid with
    | false => rfl
    | true => exact absurd (hs h) hne
  cases hr : t.g.hasNode t.g.root with
  | false =>
    have he := T.isTree_root_absent hr
    exact ⟨(.exc t.g, t), by simp [T.rootAt, T.isValid, hv (by rw [he]; nofun), he]⟩
  | true =>
    obtain ⟨b, hb⟩ := T.isTree_total hc hr
    cases b with
    | false =>
      obtain ⟨t', h, _⟩ := rootAt_refuses t n (Or.inl hb) (hv (by rw [hb]; nofun))
      exact ⟨_, h⟩
    | true =>
      cases hn : t.g.hasNode n with
      | true => obtain ⟨t', h, _⟩ := rootAt_spec t hc hb n hn; exact ⟨_, h⟩
      | false =>
        cases h : t.valid with
        | false => obtain ⟨t', h, _⟩ := rootAt_refuses t n (Or.inr ⟨hb, hn⟩) h; exact ⟨_, h⟩
        | true => exact ⟨(.exc t.g, t), by simp [T.rootAt, T.isValid, h, hn]⟩

/-- hence a `rootAt` in a history is always the step the model computes -/
theorem step_rootAt_eq (d : Bool) (ops : List TOp) (n : Nat) :
    ∃ r, ((T.empty d).run ops).rootAt n = .ok r ∧ ((T.empty d).run ops).step (.rootAt n) = r.2 := by
  obtain ⟨r, hr⟩ := rootAt_total d ops n
  exact ⟨r, hr, by simp [T.step, hr]⟩

/-! non-vacuity: the tree 0 -> 1 -> 3, 0 -> 2 re-rooted at 3; the same unrooted (built undirected with
ids that are not increasing away from 3) re-rooted at 3 — the witness of the repaired defect -/

example : (match ((T.empty true).run exOps).rootAt 3 with | .ok r => T.isTree r.2.g == .ok true && r.2.g.root == 3 | _ => false) = true := by decide +kernel
example : (match ((T.empty false).run exOps).rootAt 3 with | .ok r => T.isTree r.2.g == .ok true && r.2.g.root == 3 && r.2.g.directed | _ => false) = true := by decide +kernel
example : ∃ t', ((T.empty false).run exOps).rootAt 3 = .ok (.ok () t'.g, t') ∧ Rerooted ((T.empty false).run exOps).g t'.g 3 :=
  rootAt_spec_history false exOps 3 (by decide +kernel) (by decide +kernel)

end Bpp.C15
