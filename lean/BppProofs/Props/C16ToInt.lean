import BppProofs.Lemmas.ToIntU
/-!
# C16 — TextTools::toInt: no signed overflow, the scaling loop is bounded

Model: `BppModel/Text/ToIntU.lean` (UB-aware: the three loops of `TextTools::toInt` compute in a
`long long`; every `long long` operation goes through `llRes`, whose result outside the range is
`.error .ub`; the scaling loop runs on `scaleFuel = 12` rounds of fuel and is `.error .hang` when
it needs more; `.error .bpp` = the library's exception).  `safe x = true` means: `x` returned or
raised the library's exception.  `Number.toInt` is C17's transcription of the same function on
naturals, where neither an overflow nor a non-terminating loop can be expressed.
-/
namespace Bpp.C16
open Bpp.Text Bpp.Text.U

/-! ## refinement -/

/-- **the UB-aware `toInt` is the natural-number `toInt`, on every text and for EVERY exponent
mark** (no hypothesis on `sci`: the recogniser tests `c == sci` before `isDigit c`, as the mantissa
loop does, and refuses a second mark, so even a digit used as the mark is handled consistently):
with an overflow check on every `long long` operation and 12 rounds of fuel for the scaling loop the
outcome is exactly `Number.toInt`'s — the value, or the library's exception; never `.ub`, never
`.hang`.  On an accepted text every character the mantissa loop reads is a digit
(`s[i] - '0'` is in `[0, 9]`, the mantissa stays in `[0, 2^31 + 1]`), what follows the mark and the
optional `+` is made of digits (the exponent stays in `[0, 11]`), and the scaling loop runs at most
11 times on a mantissa in `[0, 2^31 + 1]`. -/
theorem toIntU_refines (sci : Char) (s : Str) : toIntU sci s = lift (Number.toInt sci s) := by
  unfold toIntU
  rw [toIntUG_eq, Number.toInt_eq]
  cases hacc : Number.isDecimalInteger sci s with
  | false => rfl
  | true =>
    rw [if_neg (by decide), if_pos rfl]
    obtain ⟨h1, h2, h3⟩ := mantU_ok sci _ 0 0 (body_accepted sci s hacc) (Nat.zero_le _)
    rw [Int.natCast_zero] at h1
    rw [h1, bind_ok, tailU_ok _ h2 _ h3, bind_ok]
    exact finalU_nat _ _

example : toIntU 'e' "21e+2".toList = .ok 2100 := by
  -- the literal as a list of characters first: the kernel is slow at decoding a string literal
  rw [String.toList_ofList]
  decide +kernel
example : toIntU 'e' "-2147483648".toList = .ok (-2147483648) := by
  rw [String.toList_ofList]
  decide +kernel
example : toIntU 'e' "2147483648".toList = .error .bpp := by
  rw [String.toList_ofList]
  decide +kernel
example : toIntU 'e' "2147483647".toList = .ok 2147483647 := by
  rw [String.toList_ofList]
  decide +kernel
/-- 214748364 * 10 = 2147483640 still fits; 214748365 * 10 does not -/
example : toIntU 'E' "214748364E1".toList = .ok 2147483640 ∧
    toIntU 'E' "214748365E1".toList = .error .bpp := by
  repeat rw [String.toList_ofList]
  decide +kernel
example : toIntU 'E' "214748364E+0".toList = .ok 214748364 := by
  rw [String.toList_ofList]
  decide +kernel
/-- leading zeros of the exponent do not saturate it: 10^9 fits an `int` -/
example : toIntU 'e' "1e0000000000000000000009".toList = .ok 1000000000 := by
  rw [String.toList_ofList]
  decide +kernel
example : toIntU 'e' "1e10".toList = .error .bpp := by
  rw [String.toList_ofList]
  decide +kernel
example : toIntU 'e' "-0e5".toList = .ok 0 := by
  rw [String.toList_ofList]
  decide +kernel
/-- not accepted: empty, sign only, negative exponent, two marks, a blank -/
example : toIntU 'e' [] = .error .bpp ∧ toIntU 'e' "-".toList = .error .bpp ∧
    toIntU 'e' "1e-2".toList = .error .bpp ∧ toIntU 'e' "1e2e3".toList = .error .bpp ∧
    toIntU 'e' " 12".toList = .error .bpp := by
  repeat rw [String.toList_ofList]
  decide +kernel
/-- a digit as the exponent mark: "152" is 1 * 10^2 -/
example : toIntU '5' "152".toList = .ok 100 ∧ Number.toInt '5' "152".toList = some 100 := by
  rw [String.toList_ofList]
  decide +kernel

/-- **`toInt` is safe on every text**: it returns an `int` or raises the library's exception — no
signed overflow in the three loops, and the scaling loop ends within its fuel -/
theorem toIntU_safe (sci : Char) (s : Str) : safe (toIntU sci s) = true := by
  rw [toIntU_refines]; exact safe_lift _

/-- the outcome is a value in the range of `int` or the library's exception -/
theorem toIntU_range (sci : Char) (s : Str) (v : Int) (h : toIntU sci s = .ok v) :
    -2147483648 ≤ v ∧ v ≤ 2147483647 := by
  rw [toIntU_refines] at h
  cases hv : Number.toInt sci s with
  | none => rw [hv] at h; cases h
  | some w =>
    rw [hv] at h
    simp only [lift, Except.ok.injEq] at h
    subst h
    exact Number.toInt_range sci s w hv

example : toIntU 'e' "-2147483649".toList = .error .bpp := by
  rw [String.toList_ofList]
  decide +kernel

/-! ## the bounds of the exponent and of the scaling loop -/

/-- **the exponent loop saturates at 11**: on a digit string (of any length) it returns a value in
`[0, 11]` — it does not overflow, because the exponent is reset to 11 as soon as it exceeds 10 and
`11 * 10 + 9` fits easily -/
theorem expU_sat_bound (ds : Str) (hds : Number.AllDigits ds) :
    ∃ e, expU true 0 ds = .ok e ∧ 0 ≤ e ∧ e ≤ 11 := by
  obtain ⟨h1, h2⟩ := expU_digits ds hds 0 (by omega)
  exact ⟨_, h1, by omega, by omega⟩

example : expU true 0 "99999999999999999999".toList = .ok 11 := by
  rw [String.toList_ofList]
  decide +kernel
example : expU true 0 "0000000000000000000010".toList = .ok 10 := by
  rw [String.toList_ofList]
  decide +kernel
example : expU false 0 "99999999999999999999".toList = .error .ub := by
  rw [String.toList_ofList]
  decide +kernel

/-- **the scaling loop with such an exponent ends within the fuel of the entry point**: for an
exponent in `[0, 11]` and a mantissa in `[0, 2^31 + 1]` the 12 rounds suffice, `m * 10` never
overflows, and the result is again in `[0, 2^31 + 1]` -/
theorem scaleU_rounds (e m : Int) (he0 : 0 ≤ e) (he : e ≤ 11) (hm0 : 0 ≤ m) (hm : m ≤ toIntLimI + 1) :
    ∃ v, scaleU scaleFuel e m = .ok v ∧ 0 ≤ v ∧ v ≤ toIntLimI + 1 := by
  obtain ⟨e, rfl⟩ := Int.eq_ofNat_of_zero_le he0
  obtain ⟨m, rfl⟩ := Int.eq_ofNat_of_zero_le hm0
  unfold toIntLimI at *
  have hn : m ≤ Number.toIntLim + 1 := by unfold Number.toIntLim; omega
  refine ⟨_, scaleU_ok scaleFuel e m (by unfold scaleFuel; omega) (by unfold Number.toIntLim; omega) hn,
    by omega, ?_⟩
  have hb : Number.satMul e m ≤ Number.toIntLim + 1 := by
    rw [← Nat.min_eq_left hn, Number.satMul_min]
    exact Nat.min_le_right _ _
  unfold Number.toIntLim at hb
  omega

example : scaleU scaleFuel 11 2147483649 = .ok 2147483649 := by decide +kernel
example : scaleU scaleFuel 11 1 = .ok 2147483649 := by decide +kernel
example : scaleU scaleFuel 13 1 = .error .hang := by decide +kernel
/-- a zero mantissa ends the loop at once, whatever the exponent -/
example : scaleU 0 9223372036854775807 0 = .ok 0 := by decide +kernel

/-- **on an accepted text the scaling loop runs at most 11 times**: the mantissa loop returns a
mantissa in `[0, 2^31 + 1]` (no overflow: every character it read is a digit); either the text ends
there, or what follows the mark and the optional `+` is made of digits, the exponent loop returns an
exponent in `[0, 11]`, and that is below the fuel (12) the entry point gives to the scaling loop -/
theorem toIntU_scale_rounds (sci : Char) (s : Str) (h : Number.isDecimalInteger sci s = true) :
    ∃ m rest, mantU sci 0 (if (s.head? == some '-') then s.drop 1 else s) = .ok (m, rest) ∧
      0 ≤ m ∧ m ≤ toIntLimI + 1 ∧
      (rest = [] ∨ ∃ c r e, rest = c :: r ∧ Number.AllDigits (Number.skipPlus r) ∧
        expU true 0 (Number.skipPlus r) = .ok e ∧ 0 ≤ e ∧ e ≤ 11 ∧ e < (scaleFuel : Int)) := by
  obtain ⟨h1, h2, h3⟩ := mantU_ok sci _ 0 0 (body_accepted sci s h) (Nat.zero_le _)
  rw [Int.natCast_zero] at h1
  refine ⟨_, _, h1, by omega, ?_, ?_⟩
  · unfold Number.toIntLim at h2; unfold toIntLimI; omega
  · rcases h3 with h3 | ⟨c, r, h3, hd⟩
    · exact Or.inl h3
    · obtain ⟨e, he, he0, he1⟩ := expU_sat_bound _ hd
      exact Or.inr ⟨c, r, e, h3, hd, he, he0, he1, by unfold scaleFuel; omega⟩

example : mantU 'e' 0 "99999999999999999999e+5".toList = .ok (2147483649, "e+5".toList) := by
  repeat rw [String.toList_ofList]
  decide +kernel

/-! ## the model sees the saturation: the code without `if (e > 10) e = 11;` -/

/-- **without the saturation the exponent loop overflows**: twenty 9s exceed `LLONG_MAX`
(9223372036854775807), so `e * 10 + 9` is a signed overflow -/
theorem toIntNoSat_overflows : toIntNoSat 'e' "1e99999999999999999999".toList = .error .ub := by
  rw [String.toList_ofList]
  decide +kernel

/-- **without the saturation the scaling loop runs as many rounds as the exponent says**: 13
exceeds the fuel of the entry point (the mantissa saturates after ten rounds, the loop goes on) -/
theorem toIntNoSat_spins : toIntNoSat 'e' "1e13".toList = .error .hang := by
  rw [String.toList_ofList]
  decide +kernel

/-- … an exponent that still fits a `long long` asks for 10^18 - 1 rounds -/
example : toIntNoSat 'e' "1e999999999999999999".toList = .error .hang := by
  rw [String.toList_ofList]
  decide +kernel
/-- … and even a zero mantissa does not help the unsaturated exponent loop -/
example : toIntNoSat 'e' "0e99999999999999999999".toList = .error .ub := by
  rw [String.toList_ofList]
  decide +kernel

/-- **the code, on the same texts**: the library's exception (the value does not fit an `int`),
and 0 for a zero mantissa -/
theorem toIntU_saturates :
    toIntU 'e' "1e99999999999999999999".toList = .error .bpp ∧
    toIntU 'e' "1e13".toList = .error .bpp ∧
    toIntU 'e' "0e99999999999999999999".toList = .ok 0 := by
  repeat rw [String.toList_ofList]
  decide +kernel

end Bpp.C16
