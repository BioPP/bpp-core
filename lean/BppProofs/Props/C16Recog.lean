import BppProofs.Lemmas.RecogU
/-!
# C16 — the number recognisers: no access out of range, the loops end

Model: `BppModel/Text/RecogU.lean` (UB-aware: the loops of `TextTools::isDecimalNumber` and
`TextTools::isDecimalInteger` run on an index `i`, read `s[i]` and `s[i + 1]` through `strAt` —
`s[size()]` is the terminating NUL, an index beyond it is `.error .ub` —, compare `i` with
`s.size() - 1` computed modulo 2^64 (`wsub`), and take `size() + 1` rounds of fuel: `.error .hang`
when they need more).  `Number.isDecimalNumber` / `Number.isDecimalInteger` are C17's transcriptions
of the same functions by pattern matching on the rest of the text, where neither an access out of
range nor a non-terminating loop can be expressed.  `safe x = true` means: `x` returned or raised the
library's exception.

The hypothesis `StrOk s` (`s.length ≤ max_size() = 2^62 - 1`, true of every `std::string`) is
needed: it makes `s.size() - 1` the index of the last character.  On a "text" of `2^64 + 5`
characters `wsub s.length 1 = 4`, and the index model would stop at an exponent mark in `s[4]`.
-/
namespace Bpp.C16
open Bpp.Text Bpp.Text.U

/-! ## refinement -/

/-- **the UB-aware `isDecimalNumber` is the list `isDecimalNumber`, on every text and for EVERY
separator and exponent mark**: with a range check on every `s[i]` / `s[i + 1]`, the comparison with
`size() - 1` in `size_t` and `size() + 1` rounds of fuel the outcome is exactly
`Number.isDecimalNumber`'s answer — never `.ub`, never `.hang`.  `s[0]` is read after `isEmpty(s)`
returned false (so `size() ≥ 1`); `s[i]` is read under `i < size()`; `s[i + 1]` is read after
`i == size() - 1` was refused, so `i + 1 < size()`; the index grows by 1 or 2 each round and when
it grows by 2 the second step stays `< size()` because `i + 1 == size() - 1` was refused. -/
theorem isDecimalNumberU_refines (dec sci : Char) (s : Str) (hs : StrOk s) :
    isDecimalNumberU dec sci s = .ok (Number.isDecimalNumber dec sci s) :=
  isDecimalNumberU_refines_lem dec sci s hs

example : isDecimalNumberU '.' 'e' "-123.456e-5".toList = .ok true := by
  -- the literals as lists of characters: evaluating `String.toList` the kernel would decode them byte by byte
  repeat rw [String.toList_ofList]
  decide +kernel
example : isDecimalNumberU '.' 'e' "1e".toList = .ok false := by decide +kernel
example : isDecimalNumberU '.' 'e' "1e+".toList = .ok false := by decide +kernel
example : isDecimalNumberU '.' 'e' "".toList = .ok false := by decide +kernel
/-- sign only, separator only, two separators, a separator after the mark, two marks, a blank -/
example : isDecimalNumberU '.' 'e' "-".toList = .ok false ∧
    isDecimalNumberU '.' 'e' ".".toList = .ok false ∧
    isDecimalNumberU '.' 'e' "1.2.3".toList = .ok false ∧
    isDecimalNumberU '.' 'e' "1e2.5".toList = .ok false ∧
    isDecimalNumberU '.' 'e' "1e2e3".toList = .ok false ∧
    isDecimalNumberU '.' 'e' " 1".toList = .ok false := by
  repeat rw [String.toList_ofList]
  decide +kernel
/-- other characters: `,` and `E` -/
example : isDecimalNumberU ',' 'E' "3,14E+2".toList = .ok true ∧
    isDecimalNumberU ',' 'E' "3.14e+2".toList = .ok false := by
  repeat rw [String.toList_ofList]
  decide +kernel
/-- the list model `Number.isDecimalNumber` on two of these texts -/
example : Number.isDecimalNumber '.' 'e' "-123.456e-5".toList = true ∧
    Number.isDecimalNumber '.' 'e' "1e+".toList = false := by
  repeat rw [String.toList_ofList]
  decide +kernel

/-- **the UB-aware `isDecimalInteger` is the list `isDecimalInteger`, on every text and for EVERY
exponent mark**: same argument as `isDecimalNumberU_refines` (`s[i + 1]` is read after
`i == size() - 1` was refused; a `-` after the mark returns at once) -/
theorem isDecimalIntegerU_refines (sci : Char) (s : Str) (hs : StrOk s) :
    isDecimalIntegerU sci s = .ok (Number.isDecimalInteger sci s) :=
  isDecimalIntegerU_refines_lem sci s hs

example : isDecimalIntegerU 'e' "1e+5".toList = .ok true := by decide +kernel
example : isDecimalIntegerU 'e' "1e-5".toList = .ok false := by decide +kernel
example : isDecimalIntegerU 'e' "-42".toList = .ok true ∧ isDecimalIntegerU 'e' "4.2".toList = .ok false ∧
    isDecimalIntegerU 'e' "1e".toList = .ok false ∧ isDecimalIntegerU 'e' "1e+".toList = .ok false ∧
    isDecimalIntegerU 'e' "".toList = .ok false ∧ isDecimalIntegerU 'e' "-".toList = .ok false := by
  decide +kernel

/-- **the UB-aware `toDouble` has the outcome C16 assumed** (`toDoubleClass`: returns when
`Number.isDecimalNumber` accepts the text, the library's exception otherwise) -/
theorem toDoubleU_refines (dec sci : Char) (s : Str) (hs : StrOk s) :
    toDoubleU dec sci s = toDoubleClass dec sci s :=
  toDoubleU_refines_lem dec sci s hs

example : toDoubleU '.' 'e' "-123.456e-5".toList = .ok () := by
  repeat rw [String.toList_ofList]
  decide +kernel
example : toDoubleU '.' 'e' "1e+".toList = .error .bpp := by decide +kernel
example : toDoubleU '.' 'e' "".toList = .error .bpp := by decide +kernel

/-! ## safety -/

/-- **`isDecimalNumber` is safe on every text**: it returns — no `s[i]` out of range, and the loop
ends within `size() + 1` rounds -/
theorem isDecimalNumberU_safe (dec sci : Char) (s : Str) (hs : StrOk s) :
    safe (isDecimalNumberU dec sci s) = true := by
  rw [isDecimalNumberU_refines dec sci s hs]; rfl

/-- it returns a value: the library's exception is not among its outcomes either -/
theorem isDecimalNumberU_returns (dec sci : Char) (s : Str) (hs : StrOk s) :
    ∃ b, isDecimalNumberU dec sci s = .ok b :=
  ⟨_, isDecimalNumberU_refines dec sci s hs⟩

/-- **`isDecimalInteger` is safe on every text** -/
theorem isDecimalIntegerU_safe (sci : Char) (s : Str) (hs : StrOk s) :
    safe (isDecimalIntegerU sci s) = true := by
  rw [isDecimalIntegerU_refines sci s hs]; rfl

/-- it returns a value -/
theorem isDecimalIntegerU_returns (sci : Char) (s : Str) (hs : StrOk s) :
    ∃ b, isDecimalIntegerU sci s = .ok b :=
  ⟨_, isDecimalIntegerU_refines sci s hs⟩

/-- **`toDouble` is safe on every text** (up to the stream extraction, which is libstdc++'s): it
returns or raises the library's exception -/
theorem toDoubleU_safe (dec sci : Char) (s : Str) (hs : StrOk s) :
    safe (toDoubleU dec sci s) = true := by
  rw [toDoubleU_refines dec sci s hs]
  exact toDoubleClass_safe dec sci s

/-- `toDouble` raises the library's exception exactly on the texts the recogniser refuses -/
theorem toDoubleU_bpp_iff (dec sci : Char) (s : Str) (hs : StrOk s) :
    toDoubleU dec sci s = .error .bpp ↔ Number.isDecimalNumber dec sci s = false := by
  rw [toDoubleU_refines dec sci s hs]
  unfold toDoubleClass
  cases Number.isDecimalNumber dec sci s <;> simp

end Bpp.C16
