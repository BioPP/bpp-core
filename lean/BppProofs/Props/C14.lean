import BppProofs.Lemmas.GraphSpec
/-!
# C14 — graph and association views stay consistent with a reference multigraph
(src/Bpp/Graph/GlobalGraph.{h,cpp}, AssociationGraphImplObserver.h)

The property theorems, the step lemma `consistent_step` they share and two projections of
`GOut.All`; the other helper lemmas are in `Lemmas/Graph*.lean`.  The model
(`BppModel/Graph.lean`) transcribes the library worktree including its `fix:` commits; the
defects of the unchanged tree are recorded in `findings/C14.json` with witnesses in
`corpus/C14/`.

`Consistent g` (Lemmas/Graph.lean): every edge-table entry `e ↦ (a,b)` is listed in
`out(a)[b]` and `in(b)[a]` (and in `out(b)[a]`, `in(a)[b]` when undirected), every node-table
entry has its edge-table entry, entries live in rows of existing nodes (so every edge has two
existing end points), ids are below the counters, and all maps have ascending keys.
-/
namespace Bpp.C14
open Bpp Bpp.Graph Bpp.Graph.G Bpp.AL

/-! ## The invariant, over all histories -/

theorem consistent_empty (d : Bool) : Consistent (Graph.empty d) := by
  refine ⟨⟨?_, ?_, ?_, ?_, ?_⟩, ?_, ?_, ⟨asc_nil, asc_nil, ?_⟩⟩ <;>
    simp [Graph.empty, G.hasNode, G.hasEdge, G.outE, G.inE, has, find]

theorem all_forget {α : Type} {P : G → Prop} {o : GOut α} (h : o.All P) : P o.forget.state := by
  cases o <;> exact h

theorem all_state {α : Type} {P : G → Prop} {o : GOut α} (h : o.All P) : P o.state := h.state

/-- one operation — whether it succeeds or raises — keeps the graph consistent -/
theorem consistent_step (g : G) (hc : Consistent g) (op : Op) : Consistent (g.step op) := by
  rw [step_applyR]; exact (applyR_refines hc op).consistent hc

/-- **consistent_inv**: after any history of node and edge creations, links, unlinks, deletions,
direction changes and re-rootings on a directed or undirected graph — each call succeeding or
raising — the three views agree -/
theorem consistent_inv (d : Bool) (ops : List Op) : Consistent ((Graph.empty d).run ops) :=
  foldl_ind Consistent _ (fun g op hc => consistent_step g hc op) ops _ (consistent_empty d)

/-- the first clause of the property, spelled out: every edge has two existing end points and is
listed by both of them, in both directions when undirected -/
theorem edge_end_points (d : Bool) (ops : List Op) (e a b : Nat)
    (h : find e ((Graph.empty d).run ops).edges = some (a, b)) :
    let g := (Graph.empty d).run ops
    g.hasNode a = true ∧ g.hasNode b = true ∧ g.outE a b = some e ∧ g.inE b a = some e ∧
    (g.directed = false → g.outE b a = some e ∧ g.inE a b = some e) := by
  have hc := consistent_inv d ops
  have := hc.views.edge_listed e a b h
  exact ⟨outE_some_hasNode this.1, inE_some_hasNode this.2.1, this.1, this.2.1, this.2.2⟩

/-- the predicate the driver evaluates on every state reported by the implementation
(`G.check`, names the first failing clause) is exactly the invariant -/
theorem check_is_consistent (g : G) : g.check = none ↔ Consistent g := check_iff g

/-! ## An operation that raises leaves the graph unchanged -/

/-- **raises_unchanged**, for every operation on every reachable (consistent) state -/
theorem raises_unchanged (g : G) (hc : Consistent g) (op : Op) (h : (g.apply op).raised = true) :
    g.step op = g := by
  rw [raised_applyR] at h
  rw [step_applyR]
  exact (applyR_refines hc op).unchanged h

/-- … hence along every history from the empty graph -/
theorem raises_unchanged_inv (d : Bool) (ops : List Op) (op : Op)
    (h : (((Graph.empty d).run ops).apply op).raised = true) :
    ((Graph.empty d).run ops).step op = (Graph.empty d).run ops :=
  raises_unchanged _ (consistent_inv d ops) op h

/-! ## Operations on absent items raise -/

theorem absent_raises (g : G) :
    (∀ a b, g.hasNode a = false ∨ g.hasNode b = false → (g.apply (.link a b)).raised = true) ∧
    (∀ a b, g.outE a b = none → (g.apply (.unlink a b)).raised = true) ∧
    (∀ n, g.hasNode n = false → (g.apply (.deleteNode n)).raised = true) ∧
    (∀ o, g.hasNode o = false → (g.apply (.createNodeFromNode o)).raised = true) ∧
    (∀ e, g.hasEdge e = false → (g.apply (.createNodeOnEdge e)).raised = true ∧ (g.apply (.createNodeFromEdge e)).raised = true) ∧
    (∀ n, g.hasNode n = false → (g.apply (.setRoot n)).raised = true) := by
  refine ⟨?_, ?_, ?_, ?_, ?_, ?_⟩
  · intro a b h
    have : linkRefused g a b = true := by unfold linkRefused; rcases h with h | h <;> simp [h]
    simp [G.apply, link, this, GOut.forget, GOut.raised]
  · intro a b h; simp [G.apply, unlink_none h, GOut.forget, GOut.raised]
  · intro n h; simp [G.apply, deleteNode_absent h, GOut.raised]
  · intro o h; simp [G.apply, createNodeFromNode, h, GOut.forget, GOut.raised]
  · intro e h
    have hf : find e g.edges = none := find_none_of_has_false h
    constructor
    · simp [G.apply, createNodeOnEdge, hf, GOut.forget, GOut.raised]
    · simp [G.apply, createNodeFromEdge, h, GOut.forget, GOut.raised]
  · intro n h; simp [G.apply, setRoot, h, GOut.raised]

/-! ## The implementation refines the reference multigraph

`Graph.Spec` (BppModel/Graph.lean) keeps nodes and edge triples only and defines every operation
from scratch on them.  `abs g` forgets the node rows.  `Refines g r o` : reference outcome `r` and
implementation outcome `o` agree — both raise and the implementation is left unchanged, or both
succeed, return the same ids, and `abs` of the new state is the new reference. -/

/-- **refines_spec**: the abstraction function commutes with every operation, on every consistent
state (hence, by `consistent_inv`, on every reachable state) -/
theorem refines_spec (g : G) (hc : Consistent g) (op : Op) : Refines g (g.abs.applyR op) (g.applyR op) :=
  applyR_refines hc op

/-- … along every history: running the reference on `abs` of the empty graph gives `abs` of the
implementation's state, operation by operation (a raising operation leaves both unchanged) -/
theorem refines_spec_history (d : Bool) (ops : List Op) :
    ((Graph.empty d).run ops).abs = ops.foldl (fun s op => match s.applyR op with | some r => r.2 | none => s) (Graph.empty d).abs := by
  suffices h : ∀ g, Consistent g → (g.run ops).abs = ops.foldl (fun s op => match s.applyR op with | some r => r.2 | none => s) g.abs from
    h _ (consistent_empty d)
  induction ops with
  | nil => intro g _; rfl
  | cons op r ih =>
    intro g hc
    have hstep := consistent_step g hc op
    simp only [G.run, List.foldl_cons]
    have hr := refines_spec g hc op
    have habs : (g.step op).abs = (match g.abs.applyR op with | some r => r.2 | none => g.abs) := by
      rw [step_applyR]
      unfold Refines at hr
      cases hs : g.abs.applyR op with
      | none => rw [hs] at hr; rw [hr]; rfl
      | some p =>
        obtain ⟨v, s'⟩ := p
        rw [hs] at hr
        obtain ⟨g', h1, h2, _⟩ := hr
        rw [h1]; exact h2
    rw [← habs]
    exact ih _ hstep

/-- **queries agree**: on a consistent graph every query answers what the reference computes from
its nodes and edge triples alone: the row of each node (hence outgoing / incoming neighbours and
edges, neighbours, edges, degree, counts, leaf test and the per-node iterators, which are all
functions of the row and the directed flag — `RowQ`), the end points of an edge, the edge between
two nodes in one or either order, the node and edge lists -/
theorem queries_agree (g : G) (hc : Consistent g) :
    (∀ n, g.rowOf n = g.abs.rowOf n) ∧
    (∀ e, g.getNodes e = g.abs.edgeNodes e) ∧
    (∀ a b, g.getEdge a b = g.abs.edgeBetween a b) ∧
    (∀ a b, g.getAnyEdge a b = g.abs.getAnyEdge a b) ∧
    g.allNodes = g.abs.nodes ∧ g.allEdges = g.abs.edges.map (·.1) ∧
    g.directed = g.abs.directed := by
  refine ⟨fun n => (abs_rowOf hc n).symm, fun e => (abs_edgeNodes g e).symm, fun a b => (abs_edgeBetween hc a b).symm,
    ?_, rfl, ?_, rfl⟩
  · intro a b
    simp only [G.getAnyEdge, G.getEdge, Spec.getAnyEdge, abs_edgeBetween hc]
  · simp only [G.allEdges, abs_edges]; rfl

/-- leaves and inner nodes, list versions -/
theorem leaves_agree (g : G) (hc : Consistent g) :
    g.allLeaves = g.abs.allLeaves ∧ g.allInnerNodes = g.abs.allInnerNodes := by
  have hrow : ∀ p ∈ g.nodes, g.abs.row p.1 = p.2 := by
    intro p hp
    have hf := (mem_iff_find hc.sorted.nodes p.1 p.2).mp hp
    have := abs_rowOf hc p.1
    simp only [Spec.rowOf, G.rowOf, hf] at this
    split at this
    · injection this
    · cases this
  have hd : g.abs.directed = g.directed := rfl
  constructor
  · simp only [G.allLeaves, Spec.allLeaves, hd]
    show _ = List.filter _ (g.nodes.map (·.1))
    rw [List.filter_map]
    congr 1
    apply List.filter_congr
    intro p hp
    simp only [Function.comp, hrow p hp]
  · simp only [G.allInnerNodes, Spec.allInnerNodes]
    show _ = List.filter _ (g.nodes.map (·.1))
    rw [List.filter_map]
    congr 1
    apply List.filter_congr
    intro p hp
    have := hrow p hp
    simp only [Function.comp]
    have e1 : g.abs.outPairs p.1 = p.2.out := by
      have : (g.abs.row p.1).out = p.2.out := by rw [this]
      exact this
    rw [e1]

/-- **iterators_enumerate**: an iterator yields exactly the sequence the list query returns
(per-node iterators on an existing node; on an absent node the list query raises and `RowQ.iter`,
the iterator constructor of the unchanged tree, is undefined behaviour; as repaired the iterator
factories raise: `iterators_absent_raise` in `Props/C14Iter.lean`) -/
theorem iterators_enumerate (g : G) (n : Nat) :
    (∀ r, g.rowOf n = some r →
      RowQ.iter (fun r => AL.keys r.out) (g.rowOf n) = .ok ((g.outNeighbors n).getD []) ∧
      RowQ.iter (fun r => AL.keys r.inn) (g.rowOf n) = .ok ((g.inNeighbors n).getD []) ∧
      RowQ.iter (fun r => AL.vals r.out) (g.rowOf n) = .ok ((g.outEdges n).getD []) ∧
      RowQ.iter (fun r => AL.vals r.inn) (g.rowOf n) = .ok ((g.inEdges n).getD []) ∧
      g.outNeighbors n = some (AL.keys r.out)) ∧
    (g.rowOf n = none → g.outNeighbors n = none ∧ RowQ.iter (fun r => AL.keys r.out) (g.rowOf n) = .ub) := by
  constructor
  · intro r hr
    simp [RowQ.iter, G.outNeighbors, G.inNeighbors, G.outEdges, G.inEdges, RowQ.outNeighbors, RowQ.inNeighbors,
      RowQ.outEdges, RowQ.inEdges, hr]
  · intro hr
    simp [RowQ.iter, G.outNeighbors, RowQ.outNeighbors, hr]

/-! ## Non-vacuity -/

example : ((Graph.empty true).run [.createNode, .createNode, .link 0 1, .link 1 0, .unlink 0 1]).edges = [(1, (1, 0))] := by decide
example : ((Graph.empty false).run [.createNode, .createNode, .link 1 0, .makeDirected]).edges = [(0, (0, 1))] := by decide
example : (((Graph.empty false).run [.createNode, .createNode, .link 1 0]).apply (.link 0 1)).raised = true := by decide

end Bpp.C14
