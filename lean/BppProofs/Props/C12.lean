import BppProofs.Lemmas.NumDerivCaller
import BppProofs.Lemmas.NumDerivCross
import BppProofs.Lemmas.NumDerivDeleg
import BppProofs.Lemmas.NumDerivExamples
import BppProofs.Lemmas.NumDerivFormulas
/-!
# C12 — numerical derivatives are transparent and exact on low-degree polynomials

Property theorems only; helper lemmas are in `Lemmas/NumDeriv*.lean`.
All statements are about the model of `BppModel/NumDeriv.lean` read over `ℝ` (rounding is not
modelled).

Section 1 holds the exactness and remainder identities of the difference formulas as they are written
in the sources (`d1Two`, `d1Three`, `d2Three`, `crossThree`, `d1Five`, `d2Five`, `d1Side`, `d2Side` are the
expressions of Two:93, Three:137-138, Three:202, Five:63-64, Five:75-76/90-91); sections 2–11 are about the wrappers: transparency, every history, probes next to a
constraint, delegation, and what each scheme stores end to end.
-/
namespace Bpp.C12
open Bpp Bpp.NumDeriv

/-! ## 1. Exactness of the difference formulas -/

/-- two-point formula: exact on polynomials of degree ≤ 1, whichever side the probe is on -/
theorem two_point_exact_deg1 (a b x h : ℝ) (hh : h ≠ 0) :
    d1Two (a + b * x) (a + b * (x + h)) h = b :=
  (d1Two_eq_iff hh).mpr (by ring)

/-- … and first order: on a quadratic the error is `c * h` -/
theorem two_point_remainder_deg2 (a b c x h : ℝ) (hh : h ≠ 0) :
    d1Two (a + b * x + c * x ^ 2) (a + b * (x + h) + c * (x + h) ^ 2) h = (b + 2 * c * x) + c * h :=
  (d1Two_eq_iff hh).mpr (by ring)

/-- three-point first derivative with symmetric probes (`hf3 = -hf1`): exact on degree ≤ 2 -/
theorem three_point_d1_exact_deg2 (a b c x h : ℝ) (hh : h ≠ 0) :
    d1Three (a + b * (x + h) + c * (x + h) ^ 2) (a + b * (x - h) + c * (x - h) ^ 2) h (-h)
      = b + 2 * c * x :=
  (d1Three_eq_iff (self_ne_neg.mpr hh)).mpr (by ring)

/-- … second order: on a cubic the error is `d * h^2` -/
theorem three_point_d1_remainder_deg3 (a b c d x h : ℝ) (hh : h ≠ 0) :
    d1Three (a + b * (x + h) + c * (x + h) ^ 2 + d * (x + h) ^ 3)
            (a + b * (x - h) + c * (x - h) ^ 2 + d * (x - h) ^ 3) h (-h)
      = (b + 2 * c * x + 3 * d * x ^ 2) + d * h ^ 2 :=
  (d1Three_eq_iff (self_ne_neg.mpr hh)).mpr (by ring)

/-- one-sided form (any two distinct steps, e.g. `h` and `h/2` next to a bound): exact on degree ≤ 1,
and on a quadratic the error is `c * (hf1 + hf3)` -/
theorem three_point_d1_one_sided (a b c x hf1 hf3 : ℝ) (hne : hf1 ≠ hf3) :
    d1Three (a + b * (x + hf1) + c * (x + hf1) ^ 2) (a + b * (x + hf3) + c * (x + hf3) ^ 2) hf1 hf3
      = (b + 2 * c * x) + c * (hf1 + hf3) :=
  (d1Three_eq_iff hne).mpr (by ring)

theorem three_point_d1_one_sided_exact_deg1 (a b x hf1 hf3 : ℝ) (hne : hf1 ≠ hf3) :
    d1Three (a + b * (x + hf1)) (a + b * (x + hf3)) hf1 hf3 = b :=
  (d1Three_eq_iff hne).mpr (by ring)

/-- three-point second derivative with symmetric probes: exact on degree ≤ 3 -/
theorem three_point_d2_exact_deg3 (a b c d x h : ℝ) (hh : h ≠ 0) :
    d2Three (a + b * (x + h) + c * (x + h) ^ 2 + d * (x + h) ^ 3)
            (a + b * x + c * x ^ 2 + d * x ^ 3)
            (a + b * (x - h) + c * (x - h) ^ 2 + d * (x - h) ^ 3) h (-h)
      = 2 * c + 6 * d * x :=
  (d2Three_eq_iff hh (neg_ne_zero.mpr hh) (self_ne_neg.mpr hh)).mpr (by ring)

/-- … second order: on a quartic the error is `2 * e * h^2` -/
theorem three_point_d2_remainder_deg4 (a b c d e x h : ℝ) (hh : h ≠ 0) :
    d2Three (a + b * (x + h) + c * (x + h) ^ 2 + d * (x + h) ^ 3 + e * (x + h) ^ 4)
            (a + b * x + c * x ^ 2 + d * x ^ 3 + e * x ^ 4)
            (a + b * (x - h) + c * (x - h) ^ 2 + d * (x - h) ^ 3 + e * (x - h) ^ 4) h (-h)
      = (2 * c + 6 * d * x + 12 * e * x ^ 2) + 2 * e * h ^ 2 :=
  (d2Three_eq_iff hh (neg_ne_zero.mpr hh) (self_ne_neg.mpr hh)).mpr (by ring)

/-- one-sided form (any two distinct non-zero steps): exact on degree ≤ 2, error
`2 * d * (hf1 + hf3)` on a cubic -/
theorem three_point_d2_one_sided (a b c d x hf1 hf3 : ℝ) (h1 : hf1 ≠ 0) (h3 : hf3 ≠ 0) (hne : hf1 ≠ hf3) :
    d2Three (a + b * (x + hf1) + c * (x + hf1) ^ 2 + d * (x + hf1) ^ 3)
            (a + b * x + c * x ^ 2 + d * x ^ 3)
            (a + b * (x + hf3) + c * (x + hf3) ^ 2 + d * (x + hf3) ^ 3) hf1 hf3
      = (2 * c + 6 * d * x) + 2 * d * (hf1 + hf3) :=
  (d2Three_eq_iff h1 h3 hne).mpr (by ring)

theorem three_point_d2_one_sided_exact_deg2 (a b c x hf1 hf3 : ℝ) (h1 : hf1 ≠ 0) (h3 : hf3 ≠ 0) (hne : hf1 ≠ hf3) :
    d2Three (a + b * (x + hf1) + c * (x + hf1) ^ 2) (a + b * x + c * x ^ 2)
            (a + b * (x + hf3) + c * (x + hf3) ^ 2) hf1 hf3 = 2 * c :=
  (d2Three_eq_iff h1 h3 hne).mpr (by ring)

/-- a polynomial of degree ≤ 5 in one variable, by its coefficients -/
def poly5 (c : Fin 6 → ℝ) (t : ℝ) : ℝ :=
  c 0 + c 1 * t + c 2 * t ^ 2 + c 3 * t ^ 3 + c 4 * t ^ 4 + c 5 * t ^ 5
def poly5' (c : Fin 6 → ℝ) (t : ℝ) : ℝ :=
  c 1 + 2 * c 2 * t + 3 * c 3 * t ^ 2 + 4 * c 4 * t ^ 3 + 5 * c 5 * t ^ 4
def poly5'' (c : Fin 6 → ℝ) (t : ℝ) : ℝ :=
  2 * c 2 + 6 * c 3 * t + 12 * c 4 * t ^ 2 + 20 * c 5 * t ^ 3

/-- five-point first derivative (central): fourth order — on degree ≤ 5 the error is `-4 c₅ h⁴`,
hence exact on degree ≤ 4 -/
theorem five_point_d1_remainder_deg5 (c : Fin 6 → ℝ) (x h : ℝ) (hh : h ≠ 0) :
    d1Five (poly5 c (x - 2 * h)) (poly5 c (x - h)) (poly5 c (x + h)) (poly5 c (x + 2 * h)) h
      = poly5' c x - 4 * c 5 * h ^ 4 :=
  (d1Five_taylor (p := poly5 c) (P1 := poly5' c x) (P5 := 120 * c 5)
    (quintic_taylor (c 0) (c 1) (c 2) (c 3) (c 4) (c 5) x) h hh).trans (by ring)

theorem five_point_d1_exact_deg4 (c : Fin 6 → ℝ) (hc : c 5 = 0) (x h : ℝ) (hh : h ≠ 0) :
    d1Five (poly5 c (x - 2 * h)) (poly5 c (x - h)) (poly5 c (x + h)) (poly5 c (x + 2 * h)) h
      = poly5' c x := by
  rw [five_point_d1_remainder_deg5 c x h hh, hc]; ring

/-- five-point second derivative (central): exact on degree ≤ 5 -/
theorem five_point_d2_exact_deg5 (c : Fin 6 → ℝ) (x h : ℝ) (hh : h ≠ 0) :
    d2Five (poly5 c (x - 2 * h)) (poly5 c (x - h)) (poly5 c x) (poly5 c (x + h)) (poly5 c (x + 2 * h)) h
      = poly5'' c x :=
  d2Five_taylor (p := poly5 c) (quintic_taylor (c 0) (c 1) (c 2) (c 3) (c 4) (c 5) x) h hh

/-- … fourth order: the error on `t^6` is `-8 h⁴` -/
theorem five_point_d2_remainder_deg6 (x h : ℝ) (hh : h ≠ 0) :
    d2Five ((x - 2 * h) ^ 6) ((x - h) ^ 6) (x ^ 6) ((x + h) ^ 6) ((x + 2 * h) ^ 6) h
      = 30 * x ^ 4 - 8 * h ^ 4 :=
  (d2Five_eq_iff hh).mpr (by ring)

/-- the one-sided fallbacks of the five-point scheme (`s = 1` forward, `s = -1` backward, as
`d1Side f4 f3 h` / `d1Side f3 f2 h`): exact on degree ≤ 1 resp. ≤ 2, first order beyond -/
theorem five_point_forward (a b c d x h : ℝ) (hh : h ≠ 0) :
    d1Side (a + b * (x + h) + c * (x + h) ^ 2) (a + b * x + c * x ^ 2) h = (b + 2 * c * x) + c * h ∧
    d2Side (a + b * (x + 2 * h) + c * (x + 2 * h) ^ 2 + d * (x + 2 * h) ^ 3)
           (a + b * (x + h) + c * (x + h) ^ 2 + d * (x + h) ^ 3)
           (a + b * x + c * x ^ 2 + d * x ^ 3) h = (2 * c + 6 * d * x) + 6 * d * h :=
  ⟨(d1Side_eq_iff hh).mpr (by ring), (d2Side_eq_iff hh).mpr (by ring)⟩

theorem five_point_backward (a b c d x h : ℝ) (hh : h ≠ 0) :
    d1Side (a + b * x + c * x ^ 2) (a + b * (x - h) + c * (x - h) ^ 2) h = (b + 2 * c * x) - c * h ∧
    d2Side (a + b * x + c * x ^ 2 + d * x ^ 3)
           (a + b * (x - h) + c * (x - h) ^ 2 + d * (x - h) ^ 3)
           (a + b * (x - 2 * h) + c * (x - 2 * h) ^ 2 + d * (x - 2 * h) ^ 3) h = (2 * c + 6 * d * x) - 6 * d * h :=
  ⟨(d1Side_eq_iff hh).mpr (by ring), (d2Side_eq_iff hh).mpr (by ring)⟩

/-! ### Remainders on the whole quantifier of the property (degree ≤ 5)

"… and otherwise converge with the step at the scheme's order": for every polynomial of degree ≤ 5
the error of each formula is an explicit polynomial in the step with the factor `h` (two-point and
one-sided forms: first order), `h²` (three-point central: second order), `h⁴` (five-point: fourth
order).  `poly5d3 … poly5d5` are the third to fifth derivatives. -/

def poly5d3 (c : Fin 6 → ℝ) (t : ℝ) : ℝ := 6 * c 3 + 24 * c 4 * t + 60 * c 5 * t ^ 2
def poly5d4 (c : Fin 6 → ℝ) (t : ℝ) : ℝ := 24 * c 4 + 120 * c 5 * t
def poly5d5 (c : Fin 6 → ℝ) : ℝ := 120 * c 5

/-- two-point formula (and the one-sided first derivatives of the five-point scheme, which are the
same quotient): first order on every polynomial of degree ≤ 5, whichever side the probe is on -/
theorem two_point_remainder_deg5 (c : Fin 6 → ℝ) (x h : ℝ) (hh : h ≠ 0) :
    d1Two (poly5 c x) (poly5 c (x + h)) h = poly5' c x +
      h * (poly5'' c x / 2 + h * poly5d3 c x / 6 + h ^ 2 * poly5d4 c x / 24 + h ^ 3 * poly5d5 c / 120) :=
  d1Two_taylor (p := poly5 c) (quintic_taylor (c 0) (c 1) (c 2) (c 3) (c 4) (c 5) x) h hh

theorem five_point_one_sided_d1_remainder_deg5 (c : Fin 6 → ℝ) (x h : ℝ) (hh : h ≠ 0) :
    d1Side (poly5 c (x + h)) (poly5 c x) h = poly5' c x +
      h * (poly5'' c x / 2 + h * poly5d3 c x / 6 + h ^ 2 * poly5d4 c x / 24 + h ^ 3 * poly5d5 c / 120) ∧
    d1Side (poly5 c x) (poly5 c (x - h)) h = poly5' c x -
      h * (poly5'' c x / 2 - h * poly5d3 c x / 6 + h ^ 2 * poly5d4 c x / 24 - h ^ 3 * poly5d5 c / 120) :=
  ⟨two_point_remainder_deg5 c x h hh,
   d1Side_taylor_backward (p := poly5 c) (quintic_taylor (c 0) (c 1) (c 2) (c 3) (c 4) (c 5) x) h hh⟩

/-- three-point first derivative, symmetric probes: second order on degree ≤ 5 -/
theorem three_point_d1_remainder_deg5 (c : Fin 6 → ℝ) (x h : ℝ) (hh : h ≠ 0) :
    d1Three (poly5 c (x + h)) (poly5 c (x - h)) h (-h) = poly5' c x +
      h ^ 2 * (poly5d3 c x / 6 + h ^ 2 * poly5d5 c / 120) :=
  d1Three_taylor_sym (p := poly5 c) (quintic_taylor (c 0) (c 1) (c 2) (c 3) (c 4) (c 5) x) h hh

/-- three-point second derivative, symmetric probes: second order on degree ≤ 5 -/
theorem three_point_d2_remainder_deg5 (c : Fin 6 → ℝ) (x h : ℝ) (hh : h ≠ 0) :
    d2Three (poly5 c (x + h)) (poly5 c x) (poly5 c (x - h)) h (-h) = poly5'' c x + h ^ 2 * (poly5d4 c x / 12) :=
  d2Three_taylor_sym (p := poly5 c) (quintic_taylor (c 0) (c 1) (c 2) (c 3) (c 4) (c 5) x) h hh

/-- three-point formulas with any two distinct non-zero steps `a`, `b` (the one-sided fall-backs use
`H, H/2`, the halved ones `∓H/2`): first order in the steps on degree ≤ 5 -/
theorem three_point_one_sided_remainder_deg5 (c : Fin 6 → ℝ) (x a b : ℝ) (ha : a ≠ 0) (hb : b ≠ 0) (hne : a ≠ b) :
    d1Three (poly5 c (x + a)) (poly5 c (x + b)) a b = poly5' c x +
      ((a + b) * poly5'' c x / 2 + (a ^ 2 + a * b + b ^ 2) * poly5d3 c x / 6 +
       (a ^ 3 + a ^ 2 * b + a * b ^ 2 + b ^ 3) * poly5d4 c x / 24 +
       (a ^ 4 + a ^ 3 * b + a ^ 2 * b ^ 2 + a * b ^ 3 + b ^ 4) * poly5d5 c / 120) ∧
    d2Three (poly5 c (x + a)) (poly5 c x) (poly5 c (x + b)) a b = poly5'' c x +
      ((a + b) * poly5d3 c x / 3 + (a ^ 2 + a * b + b ^ 2) * poly5d4 c x / 12 +
       (a ^ 3 + a ^ 2 * b + a * b ^ 2 + b ^ 3) * poly5d5 c / 60) :=
  ⟨d1Three_taylor (p := poly5 c) (quintic_taylor (c 0) (c 1) (c 2) (c 3) (c 4) (c 5) x) a b hne,
   d2Three_taylor (p := poly5 c) (quintic_taylor (c 0) (c 1) (c 2) (c 3) (c 4) (c 5) x) a b ha hb hne⟩

/-- one-sided second derivatives of the five-point scheme: first order on degree ≤ 5 -/
theorem five_point_one_sided_d2_remainder_deg5 (c : Fin 6 → ℝ) (x h : ℝ) (hh : h ≠ 0) :
    d2Side (poly5 c (x + 2 * h)) (poly5 c (x + h)) (poly5 c x) h = poly5'' c x +
      h * (poly5d3 c x + h * (7 / 12) * poly5d4 c x + h ^ 2 * poly5d5 c / 4) ∧
    d2Side (poly5 c x) (poly5 c (x - h)) (poly5 c (x - 2 * h)) h = poly5'' c x -
      h * (poly5d3 c x - h * (7 / 12) * poly5d4 c x + h ^ 2 * poly5d5 c / 4) :=
  ⟨d2Side_taylor_forward (p := poly5 c) (quintic_taylor (c 0) (c 1) (c 2) (c 3) (c 4) (c 5) x) h hh,
   d2Side_taylor_backward (p := poly5 c) (quintic_taylor (c 0) (c 1) (c 2) (c 3) (c 4) (c 5) x) h hh⟩

/-- the cross formula is linear in the function and, on a product `g(s) k(t)`, the product of the
two central first differences: with `three_point_d1_remainder_deg5` this gives the error of the
cross derivative on every monomial `sⁱ tʲ`, `i, j ≤ 5`, hence (linearity) on every polynomial of the
property's quantifier — second order in `h1` and in `h2` -/
theorem cross_product (g k : ℝ → ℝ) (x y h1 h2 : ℝ) (hh1 : h1 ≠ 0) (hh2 : h2 ≠ 0) :
    crossThree (g (x - h1) * k (y - h2)) (g (x - h1) * k (y + h2)) (g (x + h1) * k (y - h2)) (g (x + h1) * k (y + h2)) h1 h2
      = d1Three (g (x + h1)) (g (x - h1)) h1 (-h1) * d1Three (k (y + h2)) (k (y - h2)) h2 (-h2) := by
  rw [crossThree_eq_iff hh1 hh2, d1Three_real, d1Three_real, div_mul_div_comm, div_mul_eq_mul_div,
    eq_div_iff (mul_ne_zero (sub_ne_zero.mpr (self_ne_neg.mpr hh1)) (sub_ne_zero.mpr (self_ne_neg.mpr hh2)))]
  ring

theorem cross_linear (a b u11 u12 u21 u22 v11 v12 v21 v22 h1 h2 : ℝ) :
    crossThree (a * u11 + b * v11) (a * u12 + b * v12) (a * u21 + b * v21) (a * u22 + b * v22) h1 h2
      = a * crossThree u11 u12 u21 u22 h1 h2 + b * crossThree v11 v12 v21 v22 h1 h2 := by
  simp only [crossThree_real]; ring

/-- a polynomial of degree ≤ 2 in each of two variables (coefficients `c i j` of `s^i t^j`) -/
def biquad (c : Fin 3 → Fin 3 → ℝ) (s t : ℝ) : ℝ :=
  c 0 0 + c 0 1 * t + c 0 2 * t ^ 2 + c 1 0 * s + c 1 1 * s * t + c 1 2 * s * t ^ 2
    + c 2 0 * s ^ 2 + c 2 1 * s ^ 2 * t + c 2 2 * s ^ 2 * t ^ 2
def biquadXY (c : Fin 3 → Fin 3 → ℝ) (s t : ℝ) : ℝ :=
  c 1 1 + 2 * c 1 2 * t + 2 * c 2 1 * s + 4 * c 2 2 * s * t

/-- cross derivative on the 2×2 stencil: exact when the degree is ≤ 2 in each of the two variables
(in particular on bilinear functions) -/
theorem cross_exact_biquadratic (c : Fin 3 → Fin 3 → ℝ) (x y h1 h2 : ℝ) (hh1 : h1 ≠ 0) (hh2 : h2 ≠ 0) :
    crossThree (biquad c (x - h1) (y - h2)) (biquad c (x - h1) (y + h2))
               (biquad c (x + h1) (y - h2)) (biquad c (x + h1) (y + h2)) h1 h2
      = biquadXY c x y :=
  (crossThree_eq_iff hh1 hh2).mpr (by unfold biquad biquadXY; ring)

theorem cross_exact_bilinear (a b c d x y h1 h2 : ℝ) (hh1 : h1 ≠ 0) (hh2 : h2 ≠ 0) :
    crossThree (a + b * (x - h1) + c * (y - h2) + d * (x - h1) * (y - h2))
               (a + b * (x - h1) + c * (y + h2) + d * (x - h1) * (y + h2))
               (a + b * (x + h1) + c * (y - h2) + d * (x + h1) * (y - h2))
               (a + b * (x + h1) + c * (y + h2) + d * (x + h1) * (y + h2)) h1 h2 = d :=
  (crossThree_eq_iff hh1 hh2).mpr (by ring)

/-- second order: the error on `s^3 t` is `h1^2` (and symmetrically) -/
theorem cross_remainder_cubic (x y h1 h2 : ℝ) (hh1 : h1 ≠ 0) (hh2 : h2 ≠ 0) :
    crossThree ((x - h1) ^ 3 * (y - h2)) ((x - h1) ^ 3 * (y + h2))
               ((x + h1) ^ 3 * (y - h2)) ((x + h1) ^ 3 * (y + h2)) h1 h2 = 3 * x ^ 2 + h1 ^ 2 :=
  (crossThree_eq_iff hh1 hh2).mpr (by ring)



/-! ## 2. Transparency

`W.call f w e` is an entry point of the wrapper (`setParameters`, `setAllParametersValues`,
`setParameterValue`, `setParametersValues`, `matchParametersValues`, `f`) for any of the three
schemes, any selection of variables, any constraints, any objective `f`, any number of probes and
constraint hits.  Hypotheses: the wrapped function's own list has no duplicate name and no
precision (`Own`: with a precision its parameters only follow the requested values up to that
precision), its cached value is the value at its current point (`Fn.OK`; preserved, see
`transparent`), and the list that is passed has no duplicate name (`Entry.Nodup`, guaranteed by
`ParameterList::addParameter`).  `e.apply l` is the requested vector: the values of the passed
list taken over into `l`, nothing else changed. -/

/-- after an entry point that returns normally, the wrapped function's parameter vector is the
requested one, the wrapper reports the function's value there and so does the wrapped function;
the hypotheses hold again for the next call. -/
theorem transparent (f : List ℝ → ℝ) (w : W ℝ) (e : Entry ℝ) (hown : Own w.fn) (hok : w.fn.OK f) (he : e.Nodup)
    (hret : (w.call f e).2.1 = none) :
    (w.call f e).1.fn.params = e.apply w.fn.params ∧
    (w.call f e).1.value = f (values (e.apply w.fn.params)) ∧
    (w.call f e).1.fn.fval = f (values (e.apply w.fn.params)) ∧
    Own (w.call f e).1.fn ∧ (w.call f e).1.fn.OK f := by
  obtain ⟨h0, h1, h2, h3, h4, _⟩ := call_spec f w e hown hok he hret
  have hp := forward_params f w.fn e hown he h0
  rw [hp] at h1
  refine ⟨h1, by rw [h2, h1], ?_, h4, h3⟩
  have := h3; unfold Fn.OK at this; rw [this, h1]

/-- the wrapper is transparent as a `Parametrizable`: the wrapped function ends in the state of
its parameters the same call made directly on it would have produced -/
theorem transparent_as_direct_call (f : List ℝ → ℝ) (w : W ℝ) (e : Entry ℝ) (hown : Own w.fn) (hok : w.fn.OK f)
    (he : e.Nodup) (hret : (w.call f e).2.1 = none) :
    (w.call f e).1.fn.params = (w.fn.forward f e).1.params :=
  (call_spec f w e hown hok he hret).2.1

/-- a call refused by the wrapped function itself (constraint, unknown name) changes nothing -/
theorem raise_unchanged (f : List ℝ → ℝ) (w : W ℝ) (e : Entry ℝ) (hown : Own w.fn) (he : e.Nodup)
    (hraise : (w.fn.forward f e).2.1 ≠ none) :
    (w.call f e).1 = w ∧ (w.call f e).2.1 = (w.fn.forward f e).2.1 := by
  rcases call_cases f w e _ rfl with ⟨x, hx | ⟨hx, _⟩, hc⟩ | ⟨hx, _⟩
  · rw [hc, hx, forward_raise f w.fn e hown he hraise]; exact ⟨rfl, rfl⟩
  · exact absurd hx hraise
  · exact absurd hx hraise

/-- the requested vector, spelled out: a name of the passed list gets the passed value … -/
theorem requested_values (own pl : PList ℝ) (hpl : (names pl).Nodup) :
    ∀ q ∈ pl, ∀ b ∈ updL pl own, b.name = q.name → b.value = q.value :=
  synced_updL pl own hpl

/-- … and the other parameters keep theirs -/
theorem requested_frame (own pl : PList ℝ) :
    List.Forall₂ (fun b p => b.name = p.name ∧ b.prec = p.prec ∧ b.con = p.con ∧ (p.name ∉ names pl → b.value = p.value))
      (updL pl own) own := by
  have := dev_updL (B := own) (S := fun _ => False) (S' := fun n => n ∈ names pl) pl (Dev.refl own _) (by
    intro b _ hn
    cases hf : find? pl b.name with
    | none => exact fun h => h
    | some q =>
      have := find?_some hf
      exact absurd (this.2 ▸ List.mem_map_of_mem this.1) hn)
  exact this.imp (fun a b h => ⟨h.1.1, h.1.2.1, h.1.2.2, h.2⟩)

/-- the hypotheses of `transparent` are satisfiable -/
example : ∃ (w : W ℝ) (f : List ℝ → ℝ) (e : Entry ℝ), Own w.fn ∧ w.fn.OK f ∧ e.Nodup :=
  ⟨{ scheme := .three, h := 1 / 16, vars := [0], der1 := [some 0], der2 := [some 0], cross := [[some 0]],
     c1 := true, c2 := true, cx := false, f1 := 0, f2 := 0, f3 := 0,
     fn := { params := [⟨0, 0, 0, none⟩], fval := 0, log := [], kind := 0, en1 := false, en2 := false, pt1 := [], pt2 := [] } },
   fun l => l.sum, .setParameters [⟨0, 1, 0, none⟩],
   ⟨by simp [names], by intro p hp; simp at hp; subst hp; rfl⟩, by simp [Fn.OK, values], by simp [Entry.Nodup, names]⟩


/-! ## 3. Every history; no probe outside the constraints reaches `f` -/

/-- a sequence of entry-point calls, each returning or raising -/
noncomputable def runCalls (f : List ℝ → ℝ) (w : W ℝ) : List (Entry ℝ) → W ℝ
  | [] => w
  | e :: es => runCalls f (w.call f e).1 es

theorem runCalls_inv (f : List ℝ → ℝ) (ref : PList ℝ) : ∀ (es : List (Entry ℝ)) (w : W ℝ), Inv f ref w.fn →
    Inv f ref (runCalls f w es).fn := by
  intro es
  induction es with
  | nil => intro w h; exact h
  | cons e es ih => intro w h; exact ih _ (h.call e).1

/-- `probes_feasible`: whatever the scheme, the selection, the lists passed (duplicates, unknown
names, precisions included) and whether calls return or raise, every point at which the objective
is evaluated satisfies the constraints of the wrapped function's parameters — as the code behaves:
the wrapped function checks a whole list before it moves, and the wrappers only reach it through
its setters.  (`Fn.log` is the evaluation log the harness compares with the implementation's.) -/
theorem probes_feasible (f : List ℝ → ℝ) (w : W ℝ) (es : List (Entry ℝ))
    (hfeas : Feas w.fn.params) (hok : w.fn.OK f) (hlog : ∀ pt ∈ w.fn.log, PtOK w.fn.params pt) :
    (∀ pt ∈ (runCalls f w es).fn.log, PtOK w.fn.params pt) ∧ Feas (runCalls f w es).fn.params := by
  have h0 : Inv f w.fn.params w.fn := ⟨Skel.refl _, hok, hfeas, hlog⟩
  have := runCalls_inv f w.fn.params es w h0
  exact ⟨this.log, this.feas⟩

/-- `probes_feasible`, caller's side: during an entry point (returning or raising) every point at
which the objective is evaluated is also accepted by the constraints of the list the caller
passed, for the parameters that list mentions (`CFpt pl ref pt`: coordinate by coordinate along
the wrapped function's parameter list `ref`).  Each probe value goes through `Parameter::setValue`
of a copy of the caller's parameter, which checks the copied constraint; everything else the
wrappers send to the wrapped function are values of the caller's list itself.  Hypotheses: the
wrapped function's own list has unique names and no precision, the evaluation log is empty before
the call, the caller's parameters satisfy their own constraints. -/
theorem probes_feasible_caller (f : List ℝ → ℝ) (w : W ℝ) (e : Entry ℝ) (hown : Own w.fn) (hok : w.fn.OK f) (he : e.Nodup)
    (hlog : w.fn.log = []) (hfw : (w.fn.forward f e).2.1 = none) (pl : PList ℝ)
    (hl : e.list (w.fn.forward f e).1 = .ok pl) (hfeas : Feas pl) :
    ∀ pt ∈ (w.call f e).1.fn.log, CFpt pl (w.fn.forward f e).1.params pt := by
  obtain ⟨o1, o2, _, pl', hl', hsy, hnd⟩ := forward_spec f w.fn e hown hok he _ rfl hfw
  rw [hl] at hl'
  injection hl' with hl'
  subst hl'
  have hwf : CallerWF pl := ⟨hnd, hfeas⟩
  have hinv : InvC pl (w.fn.forward f e).1.params (w.fn.forward f e).1 := by
    refine ⟨Skel.refl _, CF_of_synced hwf hsy, ?_⟩
    intro pt hpt
    rcases forward_shape f w.fn e with h | ⟨own, _, _, h⟩
    · rw [h, hlog] at hpt; cases hpt
    · have hp : (w.fn.forward f e).1.params = own := by rw [h]; rfl
      rw [h] at hpt
      simp only [Fn.fire, hlog, List.mem_cons, List.not_mem_nil, or_false] at hpt
      rw [hpt, hp]
      have hcf := CF_of_synced hwf hsy
      rw [hp] at hcf
      exact CFpt_values (Skel.refl own) hcf
  rcases call_cases f w e _ rfl with ⟨x, hx | ⟨_, hle⟩, _⟩ | ⟨_, pl', hl', hc⟩
  · cases hfw.symm.trans hx
  · cases hl.symm.trans hle
  · obtain rfl : pl = pl' := by injection hl.symm.trans hl'
    rw [hc]
    exact (hinv.reach (update_reachC f hwf ({ w with fn := (w.fn.forward f e).1 } : W ℝ))).log

/-- `transparent` holds after every history of calls (returning or raising): its hypotheses are
invariants of the wrapper -/
theorem transparent_history (f : List ℝ → ℝ) (w : W ℝ) (es : List (Entry ℝ)) (e : Entry ℝ)
    (hown : Own w.fn) (hok : w.fn.OK f) (hfeas : Feas w.fn.params)
    (hlog : ∀ pt ∈ w.fn.log, PtOK w.fn.params pt) (he : e.Nodup)
    (hret : ((runCalls f w es).call f e).2.1 = none) :
    ((runCalls f w es).call f e).1.fn.params = e.apply (runCalls f w es).fn.params ∧
    ((runCalls f w es).call f e).1.value = f (values (e.apply (runCalls f w es).fn.params)) ∧
    ((runCalls f w es).call f e).1.fn.fval = f (values (e.apply (runCalls f w es).fn.params)) := by
  have h0 : Inv f w.fn.params w.fn := ⟨Skel.refl _, hok, hfeas, hlog⟩
  have h1 := runCalls_inv f w.fn.params es w h0
  obtain ⟨a, b, c, _, _⟩ := transparent f (runCalls f w es) e (h1.own hown.1 hown.2) h1.ok he hret
  exact ⟨a, b, c⟩


/-! ## 3b. Selected variables the list does not mention are skipped (known finding)

FULL statement of the property's exactness clause: after every entry point, for EVERY selected
variable, the stored first / second / cross derivative is the scheme's formula at the current
point.  It is FALSE of the code: `if (!parameters.hasParameter(var)) continue;` (Two:40, Three:42,
Five:27, cross loops Three:150/160) — and `setParameterValue` hands over a one-element list.  The
stored-value theorems below are therefore named `…_partial`: they carry the explicit guard
`has params w.vars[k] = true` (the fall-back theorems: `find? params v = some qv`).  Witness of the
defect, for all inputs: an iteration for a variable that the list does not mention is the identity,
so what is stored for it is what was stored before, whatever moved.  Driver clause
`stale_derivative`, known finding C12-unlisted-selected-stale, corpus/C12/stale.txt. -/

theorem unlisted_variable_skipped (f : List ℝ → ℝ) (params : PList ℝ) (lp : Loop ℝ) (i : Nat) (var : Name)
    (hun : has params var = false) :
    step2 f params lp i var = (lp, none) ∧ step3 f params lp i var = (lp, none) ∧ step5 f params lp i var = (lp, none) :=
  ⟨stepOf_skip .two f params lp i var hun, stepOf_skip .three f params lp i var hun, stepOf_skip .five f params lp i var hun⟩

/-- the same for the cross-derivative block: a pair with an unlisted second variable is skipped, a
row with an unlisted first variable is skipped -/
theorem unlisted_pair_skipped (f : List ℝ → ℝ) (params : PList ℝ) (i j : Nat) (var1 var2 : Name) (vs all : List Name)
    (cl : CLoop ℝ) (hji : j ≠ i) :
    (has params var2 = false → crossRow f params i var1 (var2 :: vs) j cl = crossRow f params i var1 vs (j + 1) cl) ∧
    (has params var1 = false → crossGo f params all (var1 :: vs) i cl = crossGo f params all vs (i + 1) cl) := by
  constructor
  · intro h; conv_lhs => unfold crossRow
    simp [hji, h]
  · intro h; conv_lhs => unfold crossGo
    simp [h]

/-- the hypotheses are satisfiable: a non-empty list and a variable it does not hold -/
example : ∃ (params : PList ℝ) (var : Name), has params var = false ∧ params ≠ [] :=
  ⟨[⟨0, 3, 0, none⟩], 1, by simp [has], by simp⟩

/-! ## 4. What the three-point wrapper stores, end to end

The nominal situation (`Free`): no constraint on the wrapped function's side, no constraint and no
precision on the parameters of the list that is passed, `|f| < VERY_BIG` everywhere; step `h > 0`,
no duplicate among the selected variables.  Then `updateDerivatives` does not raise and, for every
selected variable present in the list, stores the central differences around the requested point
`B` with step `H = (1 + |x|) h` — `three1`/`three2` are `d1Three`/`d2Three` applied to the values
of `f` at `B` with that one coordinate moved by `∓H`.  Composed with part 1 this is exactness of
the *stored* derivatives. -/

theorem three_point_computes_central_partial (f : List ℝ → ℝ) (w : W ℝ) (params : PList ℝ) (hown : Own w.fn) (hok : w.fn.OK f)
    (hF : Free f params w.fn.params) (hB : BoundedNear f w.fn.params w.h) (hpnd : (names params).Nodup) (hc1 : w.c1 = true) (hcx : w.cx = false)
    (hvars : w.vars.Nodup) (hin : ∀ v ∈ w.vars, has params v = true → v ∈ names w.fn.params) (hh : 0 < w.h)
    (hl1 : w.der1.length = w.vars.length) (hl2 : w.der2.length = w.vars.length) :
    (update3 f w params).2 = none ∧
    ∀ k (hk : k < w.vars.length), has params w.vars[k] = true →
      (update3 f w params).1.der1[k]? = some (three1 f w.fn.params w.h w.vars[k]) ∧
      (update3 f w params).1.der2[k]? = some (three2 f w.fn.params w.h (f (values w.fn.params)) w.vars[k]) := by
  obtain ⟨a, c, d⟩ := update3_paths f w params hown hok hF.freeFn hpnd hc1 hvars hin hB hcx hh.ne' (fun _ => 0)
    (fun v _ qv b hqv _ => ⟨hF.firstAccepted hqv _ _, (hF.accepts hqv).2 _⟩)
  refine ⟨a, fun k hk hhk => ⟨?_, ?_⟩⟩
  · rw [c, ← (three1At_zero f w.fn.params hh w.vars[k]).1]
    exact storeAll_get_zero params _ w.vars w.der1 hl1 k hk hhk
  · rw [d, ← (three1At_zero f w.fn.params hh w.vars[k]).2]
    exact storeAll_get_zero params _ w.vars w.der2 hl2 k hk hhk

/-- the stored three-point derivatives are the analytical ones when `f`, as a function of the
selected variable alone (the others at the requested point), is a cubic: the second derivative
always, the first one when the cubic term vanishes (degree ≤ 2) -/
theorem three_point_stored_exact_partial (f : List ℝ → ℝ) (w : W ℝ) (params : PList ℝ) (hown : Own w.fn) (hok : w.fn.OK f)
    (hF : Free f params w.fn.params) (hB : BoundedNear f w.fn.params w.h) (hpnd : (names params).Nodup) (hc1 : w.c1 = true) (hcx : w.cx = false)
    (hvars : w.vars.Nodup) (hin : ∀ v ∈ w.vars, has params v = true → v ∈ names w.fn.params) (hh : 0 < w.h)
    (hl1 : w.der1.length = w.vars.length) (hl2 : w.der2.length = w.vars.length)
    (k : Nat) (hk : k < w.vars.length) (hhk : has params w.vars[k] = true)
    (b : Param ℝ) (hb : find? w.fn.params w.vars[k] = some b) (a0 a1 a2 a3 : ℝ)
    (hcubic : ∀ t, f (values (upd1 w.fn.params w.vars[k] t)) = a0 + a1 * t + a2 * t ^ 2 + a3 * t ^ 3) :
    (update3 f w params).1.der2[k]? = some (some (2 * a2 + 6 * a3 * b.value)) ∧
    (a3 = 0 → (update3 f w params).1.der1[k]? = some (some (a1 + 2 * a2 * b.value))) := by
  obtain ⟨_, h⟩ := three_point_computes_central_partial f w params hown hok hF hB hpnd hc1 hcx hvars hin hh hl1 hl2
  obtain ⟨h1, h2⟩ := h k hk hhk
  have hpos : (0 : ℝ) < (1 + |b.value|) * w.h := mul_pos (by positivity) hh
  have hne : -(Scalar.one + Scalar.abs b.value) * w.h ≠ 0 := by
    simp only [ScalarReal.one_eq, ScalarReal.abs_eq]
    have : -(1 + |b.value|) * w.h = -((1 + |b.value|) * w.h) := by ring
    rw [this]; exact neg_ne_zero.mpr (ne_of_gt hpos)
  have hbase : f (values w.fn.params) = a0 + a1 * b.value + a2 * b.value ^ 2 + a3 * b.value ^ 3 := by
    rw [← hcubic b.value, base_value w.fn.params hown.1 _ b hb]
  constructor
  · rw [h2]
    simp only [three2, hb, hcubic, hbase]
    have := three_point_d2_exact_deg3 a0 a1 a2 a3 b.value (-(Scalar.one + Scalar.abs b.value) * w.h) hne
    simp only [sub_eq_add_neg] at this
    rw [this]
  · intro h3
    rw [h1]
    simp only [three1, hb, hcubic, h3]
    have := three_point_d1_exact_deg2 a0 a1 a2 b.value (-(Scalar.one + Scalar.abs b.value) * w.h) hne
    simp only [sub_eq_add_neg] at this
    simp only [zero_mul, add_zero]
    rw [this]


/-! ## 5. Next to a constraint: one-sided probes instead of raising -/

/-- `one_sided_no_raise`: the two-point and five-point wrappers, and the three-point wrapper
without cross derivatives, raise exactly when the wrapped function itself refuses the requested
values — never because a probe ran into a constraint (two- and three-point: the probe is retried on
the other side, then with halved steps, after ten refusals the NaN marker is stored and the
previous parameter is reset; five-point: backward, then forward one-sided formulas, and — repaired,
the ConstraintException of the forward branch used to escape — the NaN marker with the previous
parameter reset when neither side has room).
Hypotheses besides those of `transparent`: the wrapped function is at a feasible point, the
selection has no duplicate and only names of the wrapped function, the step is not 0.
(The cross-derivative block of the three-point scheme does throw a plain Exception at a limit; see
`transparent_on_raise`.) -/
theorem one_sided_no_raise (f : List ℝ → ℝ) (w : W ℝ) (e : Entry ℝ) (hown : Own w.fn) (hok : w.fn.OK f)
    (hfeas : Feas w.fn.params) (hlog : ∀ pt ∈ w.fn.log, PtOK w.fn.params pt) (he : e.Nodup)
    (hscheme : w.scheme = .two ∨ w.scheme = .five ∨ (w.scheme = .three ∧ w.cx = false))
    (hvars : w.vars.Nodup) (hin : ∀ v ∈ w.vars, v ∈ names w.fn.params) (hh : w.h ≠ 0) :
    (w.call f e).2.1 = (w.fn.forward f e).2.1 := by
  have hfi := ((⟨Skel.refl _, hok, hfeas, hlog⟩ : Inv f w.fn.params w.fn).forward (f := f) e).1
  rcases call_cases_wf f w e hown hok he _ rfl with ⟨_, hc⟩ | ⟨hx, o1, o2, _, _, pl, hsy, hnd, hc⟩
  · rw [hc]
  · rw [hc, hx, update_eq]
    exact updateG_noexc w.scheme f _ pl o1 o2 hfi.feas hsy hnd hvars (fun v hv => by rw [hfi.skel.names]; exact hin v hv)
      (fun _ => hh) (by
        rcases hscheme with hs | hs | ⟨hs, hcx⟩
        · simp [hs, hasCross]
        · simp [hs, hasCross]
        · simp [hs, hasCross, hcx])

/-- `transparent_on_raise`: with a well-formed selection (no duplicate, only names of the wrapped
function, arrays sized by `setParametersToDerivate`) and a step ≠ 0, an entry point whose forwarded
call was accepted raises only in the three-point scheme with cross derivatives switched on, with
the plain Exception "Could not compute cross derivatives at limit" — and (repaired: the wrapped
function used to stay at a probe point with its analytical derivatives off) the wrapped function
is then at the requested vector, wrapper and wrapped function report the value there, and the
analytical derivatives of the wrapped function are switched as the wrapper's flags say.  The
hypotheses of `transparent` hold again. -/
theorem transparent_on_raise (f : List ℝ → ℝ) (w : W ℝ) (e : Entry ℝ) (hown : Own w.fn) (hok : w.fn.OK f)
    (hfeas : Feas w.fn.params) (hlog : ∀ pt ∈ w.fn.log, PtOK w.fn.params pt) (he : e.Nodup)
    (hvars : w.vars.Nodup) (hin : ∀ v ∈ w.vars, v ∈ names w.fn.params) (hh : w.h ≠ 0)
    (hl2 : w.der2.length = w.vars.length)
    (hfw : (w.fn.forward f e).2.1 = none) (x : Exc) (hraise : (w.call f e).2.1 = some x) :
    x = .bpp ∧ w.scheme = .three ∧ w.cx = true ∧
    (w.call f e).1.fn.params = e.apply w.fn.params ∧
    (w.call f e).1.value = f (values (e.apply w.fn.params)) ∧
    (w.call f e).1.fn.fval = f (values (e.apply w.fn.params)) ∧
    Own (w.call f e).1.fn ∧ (w.call f e).1.fn.OK f ∧
    (w.fn.kind ≥ 1 → (w.call f e).1.fn.en1 = w.c1) ∧ (w.fn.kind ≥ 2 → (w.call f e).1.fn.en2 = w.c2) :=
  call_raise_spec f w e hown hok w.fn.params ⟨Skel.refl _, hok, hfeas, hlog⟩ he hvars hin hh hl2 hfw x hraise

/-- `transparent`, for every call: whether the entry point returns or raises, afterwards the
wrapped function is either untouched (its own setter refused the requested values) or at the
requested vector, with wrapper and wrapped function reporting the value there -/
theorem transparent_every_call (f : List ℝ → ℝ) (w : W ℝ) (e : Entry ℝ) (hown : Own w.fn) (hok : w.fn.OK f)
    (hfeas : Feas w.fn.params) (hlog : ∀ pt ∈ w.fn.log, PtOK w.fn.params pt) (he : e.Nodup)
    (hvars : w.vars.Nodup) (hin : ∀ v ∈ w.vars, v ∈ names w.fn.params) (hh : w.h ≠ 0)
    (hl2 : w.der2.length = w.vars.length) :
    ((w.fn.forward f e).2.1 ≠ none ∧ (w.call f e).1 = w ∧ (w.call f e).2.1 = (w.fn.forward f e).2.1) ∨
    ((w.fn.forward f e).2.1 = none ∧
      (w.call f e).1.fn.params = e.apply w.fn.params ∧
      (w.call f e).1.value = f (values (e.apply w.fn.params)) ∧
      (w.call f e).1.fn.fval = f (values (e.apply w.fn.params))) := by
  by_cases hfw : (w.fn.forward f e).2.1 = none
  · right
    cases hc : (w.call f e).2.1 with
    | none =>
      obtain ⟨a, b, c, _, _⟩ := transparent f w e hown hok he hc
      exact ⟨hfw, a, b, c⟩
    | some x =>
      obtain ⟨_, _, _, a, b, c, _⟩ := transparent_on_raise f w e hown hok hfeas hlog he hvars hin hh hl2 hfw x hc
      exact ⟨hfw, a, b, c⟩
  · left
    obtain ⟨a, b⟩ := raise_unchanged f w e hown he hfw
    exact ⟨hfw, a, b⟩

theorem runCalls_shape (f : List ℝ → ℝ) : ∀ (es : List (Entry ℝ)) (w : W ℝ), Shape w (runCalls f w es) := by
  intro es
  induction es with
  | nil => intro w; exact Shape.refl w
  | cons e es ih => intro w; exact Shape.trans (call_shape f w e) (ih _)

/-- … and after every history of calls, each returning or raising: the hypotheses of
`transparent_every_call` are invariants of the wrapper (the selection, the step and the sizes of
the arrays are never touched by an entry point; feasibility and consistency of the wrapped function
are kept by every path, raising ones included) -/
theorem transparent_every_call_history (f : List ℝ → ℝ) (w : W ℝ) (es : List (Entry ℝ)) (e : Entry ℝ)
    (hown : Own w.fn) (hok : w.fn.OK f) (hfeas : Feas w.fn.params) (hlog : ∀ pt ∈ w.fn.log, PtOK w.fn.params pt)
    (he : e.Nodup) (hvars : w.vars.Nodup) (hin : ∀ v ∈ w.vars, v ∈ names w.fn.params) (hh : w.h ≠ 0)
    (hl2 : w.der2.length = w.vars.length) :
    (((runCalls f w es).fn.forward f e).2.1 ≠ none ∧ ((runCalls f w es).call f e).1 = runCalls f w es) ∨
    (((runCalls f w es).fn.forward f e).2.1 = none ∧
      ((runCalls f w es).call f e).1.fn.params = e.apply (runCalls f w es).fn.params ∧
      ((runCalls f w es).call f e).1.value = f (values (e.apply (runCalls f w es).fn.params)) ∧
      ((runCalls f w es).call f e).1.fn.fval = f (values (e.apply (runCalls f w es).fn.params))) := by
  have h0 : Inv f w.fn.params w.fn := ⟨Skel.refl _, hok, hfeas, hlog⟩
  have h1 := runCalls_inv f w.fn.params es w h0
  obtain ⟨⟨_, _, _, _, sv, sh⟩, _, sd2⟩ := runCalls_shape f es w
  have hown' := h1.own hown.1 hown.2
  have hvars' : (runCalls f w es).vars.Nodup := by rw [sv]; exact hvars
  have hin' : ∀ v ∈ (runCalls f w es).vars, v ∈ names (runCalls f w es).fn.params := by
    rw [sv, h1.skel.names]; exact hin
  have hh' : (runCalls f w es).h ≠ 0 := by rw [sh]; exact hh
  have hl2' : (runCalls f w es).der2.length = (runCalls f w es).vars.length := by rw [sd2, sv]; exact hl2
  by_cases hfw : ((runCalls f w es).fn.forward f e).2.1 = none
  · right
    cases hc : ((runCalls f w es).call f e).2.1 with
    | none =>
      obtain ⟨a, b, c, _, _⟩ := transparent f (runCalls f w es) e hown' h1.ok he hc
      exact ⟨hfw, a, b, c⟩
    | some x =>
      obtain ⟨_, _, _, a, b, c, _⟩ := call_raise_spec f (runCalls f w es) e hown' h1.ok w.fn.params h1 he hvars' hin' hh'
        hl2' hfw x hc
      exact ⟨hfw, a, b, c⟩
  · left
    exact ⟨hfw, (raise_unchanged f (runCalls f w es) e hown' he hfw).1⟩

/-- the raising situation of `transparent_on_raise` exists: two selected variables, the second one
passed on the upper bound of its constraint (corpus/C12/crosslimit.txt) -/
example : ∃ (w : W ℝ) (f : List ℝ → ℝ) (e : Entry ℝ), Own w.fn ∧ w.fn.OK f ∧ Feas w.fn.params ∧ e.Nodup ∧
    w.vars.Nodup ∧ (∀ v ∈ w.vars, v ∈ names w.fn.params) ∧ w.h ≠ 0 ∧ w.der2.length = w.vars.length ∧
    w.scheme = .three ∧ w.cx = true :=
  ⟨{ scheme := .three, h := 1 / 16, vars := [0, 1], der1 := [some 0, some 0], der2 := [some 0, some 0],
     cross := [[some 0, some 0], [some 0, some 0]], c1 := true, c2 := true, cx := true, f1 := 0, f2 := 0, f3 := 0,
     fn := { params := [⟨0, 1, 0, none⟩, ⟨1, 2, 0, none⟩], fval := 3, log := [], kind := 0, en1 := false, en2 := false,
             pt1 := [], pt2 := [] } },
   fun l => l.sum, .setParameters [⟨0, 3 / 2, 0, none⟩, ⟨1, 3, 0, some ⟨some 0, some 3, true, true⟩⟩],
   ⟨by simp [names], by intro p hp; simp at hp; rcases hp with rfl | rfl <;> rfl⟩,
   by simp [Fn.OK, values]; norm_num,
   by intro p hp; simp at hp; rcases hp with rfl | rfl <;> rfl,
   by simp [Entry.Nodup, names], by simp, by simp [names], by norm_num, rfl, rfl, rfl⟩

/-! ## 6. Delegation of the variables that are not selected -/

/-- `delegation_spec`: for a variable that is not selected (or when numerical first-order
derivatives are switched off) the wrapper hands out what the wrapped function answers, when the
wrapped function is first-order derivable (`kind ≥ 1`); otherwise it raises. -/
theorem delegation_spec (D : Deriv ℝ) (w : W ℝ) (n : Name) (hsel : idx w.vars n = none ∨ w.c1 = false) :
    w.getD1 D n = if w.fn.kind ≥ 1 then (w.fn.getD1 D n).map some else .error .bpp := by
  unfold W.getD1
  rcases hsel with h | h
  · rw [h]
  · cases hi : idx w.vars n with
    | none => rfl
    | some i => simp only [h, Bool.false_eq_true, if_false]

/-- the same for second-order and cross derivatives (second-order derivable wrapped function) -/
theorem delegation_spec_d2 (D : Deriv ℝ) (w : W ℝ) (n : Name) (hs : w.scheme ≠ .two)
    (hsel : idx w.vars n = none ∨ w.c2 = false) :
    w.getD2 D n = if w.fn.kind ≥ 2 then (w.fn.getD2 D n).map some else .error .bpp := by
  unfold W.getD2
  rw [if_neg hs]
  rcases hsel with h | h
  · rw [h]
  · cases hi : idx w.vars n with
    | none => rfl
    | some i => simp only [h, Bool.false_eq_true, if_false]

theorem delegation_spec_cross (D : Deriv ℝ) (w : W ℝ) (n m : Name) (hs : w.scheme = .three)
    (hsel : idx w.vars n = none ∨ idx w.vars m = none ∨ w.cx = false) :
    w.getDX D n m = if w.fn.kind ≥ 2 then (w.fn.getDX D n m).map some else .error .bpp := by
  unfold W.getDX
  rw [if_neg (by rw [hs]; exact fun h => h rfl)]
  rcases hsel with h | h | h
  · rw [h]
  · rw [h]; cases idx w.vars n <;> rfl
  · cases hi : idx w.vars n with
    | none => rfl
    | some i =>
      cases hj : idx w.vars m with
      | none => rfl
      | some j => simp only [h, Bool.false_eq_true, if_false]

/-- the wrapped function's answer: the analytical derivative at the point where it was computed -/
theorem delegation_value (D : Deriv ℝ) (fn : Fn ℝ) (n : Name) (k : Nat) (hen : fn.en1 = true)
    (hpos : posOf fn.params n = some k) : fn.getD1 D n = .ok (D.d1 k fn.pt1) := by
  unfold Fn.getD1; simp [hen, hpos]

/-- `delegation_fresh`: an entry point that returns normally leaves the analytical first-order
derivatives of the wrapped function switched on iff the wrapper has first-order derivatives on,
and computed at the requested point — provided they were consistent before the call (`en1 = c1`,
i.e. the flags of the wrapper were not toggled since its last update; `Fresh1`).  This includes the
branch where the value at the requested point is "too large" (NaN everywhere; fixed: the code used
to return with the analytical derivatives left switched off).  Both conclusions are again the
hypotheses for the next call. -/
theorem delegation_fresh (f : List ℝ → ℝ) (w : W ℝ) (e : Entry ℝ) (hown : Own w.fn) (hok : w.fn.OK f) (he : e.Nodup)
    (hk : w.fn.kind ≥ 1) (hcons : w.fn.en1 = w.c1) (hfr : Fresh1 w.fn)
    (hret : (w.call f e).2.1 = none) :
    (w.call f e).1.fn.en1 = (w.call f e).1.c1 ∧ Fresh1 (w.call f e).1.fn ∧ (w.call f e).1.c1 = w.c1 := by
  have hff := hfr.forward (f := f) e
  rcases call_cases_wf f w e hown hok he _ rfl with ⟨hx, hc⟩ | ⟨hx, o1, o2, o3, _, pl, hsy, hnd, hc⟩
  · rw [hc] at hret; exact absurd hret hx
  · rw [hc] at hret ⊢
    have := update_fresh f ({ w with fn := (w.fn.forward f e).1 } : W ℝ) pl o1 o2 hsy hnd (by simpa [o3] using hk)
      (by simpa using hff.2.trans hcons) hff.1 hret
    have hc1 : (({ w with fn := (w.fn.forward f e).1 } : W ℝ).update f pl).1.c1 = w.c1 :=
      (update_spec f _ pl o1 o2 hsy hnd _ rfl hret).2.2.1.c1
    exact ⟨by rw [this.1, hc1], this.2, hc1⟩

/-- `delegation_flags`: whatever happened before (flags toggled, earlier calls raised), after an
entry point that returns the analytical first-order derivatives of a first-order derivable wrapped
function are switched on iff the wrapper's first-order derivatives are on: delegation does not
raise "not computed" -/
theorem delegation_flags (f : List ℝ → ℝ) (w : W ℝ) (e : Entry ℝ) (hk : w.fn.kind ≥ 1)
    (hret : (w.call f e).2.1 = none) :
    (w.call f e).1.fn.en1 = w.c1 := by
  have hfk : (w.fn.forward f e).1.kind = w.fn.kind := by
    rcases forward_shape f w.fn e with h | ⟨own, _, _, h⟩ <;> rw [h] <;> rfl
  rcases call_cases f w e _ rfl with ⟨x, _, hc⟩ | ⟨_, pl, _, hc⟩ <;> rw [hc] at hret ⊢
  · cases hret
  · exact update_flags f _ pl (by simpa [hfk] using hk) hret

/-- end to end: after such a call with first-order derivatives on, the derivative the wrapper
hands out for a non-selected parameter of the wrapped function is the analytical one at the
requested point -/
theorem delegation_end_to_end (f : List ℝ → ℝ) (D : Deriv ℝ) (w : W ℝ) (e : Entry ℝ) (hown : Own w.fn) (hok : w.fn.OK f)
    (he : e.Nodup) (hk : w.fn.kind ≥ 1) (hc1 : w.c1 = true) (hcons : w.fn.en1 = w.c1) (hfr : Fresh1 w.fn)
    (hret : (w.call f e).2.1 = none)
    (n : Name) (k : Nat) (hsel : idx w.vars n = none) (hpos : posOf w.fn.params n = some k) :
    (w.call f e).1.getD1 D n = .ok (some (D.d1 k (values (e.apply w.fn.params)))) := by
  obtain ⟨a, b, c⟩ := delegation_fresh f w e hown hok he hk hcons hfr hret
  obtain ⟨t1, _, _, _, _⟩ := transparent f w e hown hok he hret
  obtain ⟨_, _, _, _, _, hkeep⟩ := call_spec f w e hown hok he hret
  have hsel' : idx (w.call f e).1.vars n = none := by rw [hkeep.vars]; exact hsel
  rw [delegation_spec D _ n (Or.inl hsel'), if_pos (by rw [hkeep.kind]; exact hk)]
  have hen : (w.call f e).1.fn.en1 = true := by rw [a, c, hc1]
  have hpos' : posOf (w.call f e).1.fn.params n = some k := by
    rw [t1]
    -- positions only depend on names, which `apply` keeps
    have hn : names (e.apply w.fn.params) = names w.fn.params := by
      cases e <;> simp only [Entry.apply, names_updL, names_upd1]
    unfold posOf at hpos ⊢
    have hfi : ∀ l : PList ℝ, List.findIdx (fun p => p.name == n) l = List.findIdx (fun x => x == n) (names l) := by
      intro l; unfold names; rw [List.findIdx_map]; rfl
    have hlen : ∀ l : PList ℝ, l.length = (names l).length := by intro l; simp [names]
    rw [hfi, hlen, hn, ← hfi, ← hlen]; exact hpos
  rw [delegation_value D _ n k hen hpos', b hen, t1]
  rfl


/-! ## 7. What the five-point wrapper stores, end to end (nominal path) -/

theorem five_point_computes_central_partial (f : List ℝ → ℝ) (w : W ℝ) (params : PList ℝ) (hown : Own w.fn) (hok : w.fn.OK f)
    (hF : Free f params w.fn.params) (hpnd : (names params).Nodup) (hc1 : w.c1 = true)
    (hvars : w.vars.Nodup) (hin : ∀ v ∈ w.vars, has params v = true → v ∈ names w.fn.params)
    (hl1 : w.der1.length = w.vars.length) (hl2 : w.der2.length = w.vars.length) :
    (update5 f w params).2 = none ∧
    ∀ k (hk : k < w.vars.length), has params w.vars[k] = true →
      (update5 f w params).1.der1[k]? = some (five1 f w.fn.params w.h w.vars[k]) ∧
      (update5 f w params).1.der2[k]? = some (five2 f w.fn.params w.h (f (values w.fn.params)) w.vars[k]) := by
  obtain ⟨a, c, d⟩ := update5_paths f w params hown hok hF.freeFn hpnd hc1 hvars hin (five1 f w.fn.params w.h)
    (five2 f w.fn.params w.h (f (values w.fn.params)))
    (fun v _ qv b hqv hb fn rest hri => ⟨_, probes5_central f hF.freeFn qv rest hri (hF.accepts hqv).1 b.value _ _
      ((hF.accepts hqv).2 _) ((hF.accepts hqv).2 _) ((hF.accepts hqv).2 _) ((hF.accepts hqv).2 _),
      by simp only [five1, hb, ScalarReal.one_eq, ScalarReal.abs_eq], by simp only [five2, hb, ScalarReal.one_eq, ScalarReal.abs_eq]⟩)
  refine ⟨a, fun k hk hhk => ⟨?_, ?_⟩⟩
  · rw [c]; exact storeAll_get_zero params _ w.vars w.der1 hl1 k hk hhk
  · rw [d]; exact storeAll_get_zero params _ w.vars w.der2 hl2 k hk hhk

/-- the stored five-point derivatives are the analytical ones when `f`, as a function of the
selected variable alone, is a polynomial of degree ≤ 5: the second derivative always, the first
one when the degree is ≤ 4 -/
theorem five_point_stored_exact_partial (f : List ℝ → ℝ) (w : W ℝ) (params : PList ℝ) (hown : Own w.fn) (hok : w.fn.OK f)
    (hF : Free f params w.fn.params) (hpnd : (names params).Nodup) (hc1 : w.c1 = true)
    (hvars : w.vars.Nodup) (hin : ∀ v ∈ w.vars, has params v = true → v ∈ names w.fn.params) (hh : w.h ≠ 0)
    (hl1 : w.der1.length = w.vars.length) (hl2 : w.der2.length = w.vars.length)
    (k : Nat) (hk : k < w.vars.length) (hhk : has params w.vars[k] = true)
    (b : Param ℝ) (hb : find? w.fn.params w.vars[k] = some b) (c : Fin 6 → ℝ)
    (hpoly : ∀ t, f (values (upd1 w.fn.params w.vars[k] t)) = poly5 c t) :
    (update5 f w params).1.der2[k]? = some (some (poly5'' c b.value)) ∧
    (c 5 = 0 → (update5 f w params).1.der1[k]? = some (some (poly5' c b.value))) := by
  obtain ⟨_, h⟩ := five_point_computes_central_partial f w params hown hok hF hpnd hc1 hvars hin hl1 hl2
  obtain ⟨h1, h2⟩ := h k hk hhk
  have hne : (Scalar.one + Scalar.abs b.value) * w.h ≠ 0 := by
    simp only [ScalarReal.one_eq, ScalarReal.abs_eq]
    exact mul_ne_zero (by positivity) hh
  have hbase : f (values w.fn.params) = poly5 c b.value := by
    rw [← hpoly b.value, base_value w.fn.params hown.1 _ b hb]
  constructor
  · rw [h2]
    simp only [five2, hb, hpoly, hbase, ScalarReal.ofInt_eq]
    have := five_point_d2_exact_deg5 c b.value ((Scalar.one + Scalar.abs b.value) * w.h) hne
    push_cast at this ⊢
    rw [this]
  · intro h5
    rw [h1]
    simp only [five1, hb, hpoly, ScalarReal.ofInt_eq]
    have := five_point_d1_exact_deg4 c h5 b.value ((Scalar.one + Scalar.abs b.value) * w.h) hne
    push_cast at this ⊢
    rw [this]


/-! ## 8. What the two-point wrapper stores, end to end (nominal path) -/

/-- the stored two-point derivative is the difference quotient between the requested point and the
point with that coordinate moved by `-(1 + |x|) h`; it is the analytical derivative when `f` is
affine in the selected variable, and off by `-c (1 + |x|) h` on a quadratic `… + c t²` -/
theorem two_point_stored_exact_partial (f : List ℝ → ℝ) (w : W ℝ) (params : PList ℝ) (hown : Own w.fn) (hok : w.fn.OK f)
    (hF : Free f params w.fn.params) (hB : BoundedNear f w.fn.params w.h) (hpnd : (names params).Nodup) (hc1 : w.c1 = true)
    (hvars : w.vars.Nodup) (hin : ∀ v ∈ w.vars, has params v = true → v ∈ names w.fn.params) (hh : w.h ≠ 0)
    (hl1 : w.der1.length = w.vars.length)
    (k : Nat) (hk : k < w.vars.length) (hhk : has params w.vars[k] = true)
    (b : Param ℝ) (hb : find? w.fn.params w.vars[k] = some b) (a0 a1 a2 : ℝ)
    (hquad : ∀ t, f (values (upd1 w.fn.params w.vars[k] t)) = a0 + a1 * t + a2 * t ^ 2) :
    (update2 f w params).2 = none ∧
    (update2 f w params).1.der1[k]? = some (some ((a1 + 2 * a2 * b.value) + a2 * (-(1 + |b.value|) * w.h))) := by
  obtain ⟨h0, c⟩ := update2_paths f w params hown hok hF.freeFn hpnd hc1 hvars hin hB hh (fun _ => 0)
    (fun v _ qv b hqv _ => hF.firstAccepted hqv _ _)
  refine ⟨h0, ?_⟩
  rw [c, storeAll_get_zero params _ w.vars w.der1 hl1 k hk hhk]
  have hbase : f (values w.fn.params) = a0 + a1 * b.value + a2 * b.value ^ 2 := by
    rw [← hquad b.value, base_value w.fn.params hown.1 _ b hb]
  simp only [two1At, stepAt, hb, hquad, hbase]
  rw [two_point_remainder_deg2 a0 a1 a2 b.value (-(1 + |b.value|) * w.h) (step0_ne_zero b.value hh)]


/-! ## 9. Cross derivatives, end to end (three-point scheme with cross derivatives, nominal path) -/

/-- with cross derivatives switched on the three-point wrapper does not raise on the nominal path,
stores the same first and second derivatives, and for every ordered pair of distinct selected
variables present in the list stores the 2×2-stencil quotient around the requested point
(`get2 m i j` is the entry `(i, j)` of the matrix `crossDer2_`) -/
theorem three_point_cross_computes_partial (f : List ℝ → ℝ) (w : W ℝ) (params : PList ℝ) (hown : Own w.fn) (hok : w.fn.OK f)
    (hF : Free f params w.fn.params) (hB : BoundedNear f w.fn.params w.h) (hpnd : (names params).Nodup) (hc1 : w.c1 = true) (hcx : w.cx = true)
    (hvars : w.vars.Nodup) (hin : ∀ v ∈ w.vars, has params v = true → v ∈ names w.fn.params) (hh : 0 < w.h)
    (hl1 : w.der1.length = w.vars.length) (hl2 : w.der2.length = w.vars.length) :
    (update3 f w params).2 = none ∧
    (∀ k (hk : k < w.vars.length), has params w.vars[k] = true →
      (update3 f w params).1.der1[k]? = some (three1 f w.fn.params w.h w.vars[k]) ∧
      (update3 f w params).1.der2[k]? = some (three2 f w.fn.params w.h (f (values w.fn.params)) w.vars[k])) ∧
    (∀ i (hi : i < w.vars.length) j (hj : j < w.vars.length), i ≠ j → has params w.vars[i] = true →
      has params w.vars[j] = true → get2 w.cross i j ≠ none →
      get2 (update3 f w params).1.cross i j = some (crossVal f w.fn.params w.h w.vars[i] w.vars[j])) :=
  update3_free_cross f w params hown hok hF hB hpnd hc1 hcx hvars hin hh hl1 hl2

/-- the stored cross derivative is the analytical one when `f`, as a function of the two variables
alone, has degree ≤ 2 in each of them -/
theorem cross_stored_exact_partial (f : List ℝ → ℝ) (w : W ℝ) (params : PList ℝ) (hown : Own w.fn) (hok : w.fn.OK f)
    (hF : Free f params w.fn.params) (hB : BoundedNear f w.fn.params w.h) (hpnd : (names params).Nodup) (hc1 : w.c1 = true) (hcx : w.cx = true)
    (hvars : w.vars.Nodup) (hin : ∀ v ∈ w.vars, has params v = true → v ∈ names w.fn.params) (hh : 0 < w.h)
    (hl1 : w.der1.length = w.vars.length) (hl2 : w.der2.length = w.vars.length)
    (i j : Nat) (hi : i < w.vars.length) (hj : j < w.vars.length) (hij : i ≠ j)
    (hhi : has params w.vars[i] = true) (hhj : has params w.vars[j] = true) (hrange : get2 w.cross i j ≠ none)
    (b1 b2 : Param ℝ) (hb1 : find? w.fn.params w.vars[i] = some b1) (hb2 : find? w.fn.params w.vars[j] = some b2)
    (c : Fin 3 → Fin 3 → ℝ)
    (hbq : ∀ s t, f (values (upd1 (upd1 w.fn.params w.vars[i] s) w.vars[j] t)) = biquad c s t) :
    get2 (update3 f w params).1.cross i j = some (some (biquadXY c b1.value b2.value)) := by
  obtain ⟨_, _, h⟩ := update3_free_cross f w params hown hok hF hB hpnd hc1 hcx hvars hin hh hl1 hl2
  rw [h i hi j hj hij hhi hhj hrange]
  have hne1 : (Scalar.one + Scalar.abs b1.value) * w.h ≠ 0 := by
    simp only [ScalarReal.one_eq, ScalarReal.abs_eq]; exact mul_ne_zero (by positivity) (ne_of_gt hh)
  have hne2 : (Scalar.one + Scalar.abs b2.value) * w.h ≠ 0 := by
    simp only [ScalarReal.one_eq, ScalarReal.abs_eq]; exact mul_ne_zero (by positivity) (ne_of_gt hh)
  simp only [crossVal, hb1, hb2, hbq]
  rw [cross_exact_biquadratic c b1.value b2.value _ _ hne1 hne2]


/-! ## 10. Next to a bound, end to end: the one-sided fall-back of the three-point scheme -/

/-- One selected variable `v`, passed with a constraint that refuses the probe on the left
(`x - H`) but accepts `x + H` and `x + H/2` (`H = (1 + |x|) h`): `updateDerivatives` does not
raise, probes at `x + H` and `x + H/2`, and stores `d1Three`/`d2Three` of those values.  On an `f`
that is quadratic in `v` the stored second derivative is exact and the stored first derivative is
off by `a₂ (H + H/2)` (exact when `f` is affine in `v`). -/
theorem three_point_one_sided_stored (f : List ℝ → ℝ) (w : W ℝ) (params : PList ℝ) (v : Name) (hown : Own w.fn)
    (hok : w.fn.OK f) (hF : FreeFn f params w.fn.params) (hB : BoundedNear f w.fn.params w.h) (hpnd : (names params).Nodup) (hc1 : w.c1 = true)
    (hcx : w.cx = false) (hvars : w.vars = [v]) (hh : 0 < w.h) (b qv : Param ℝ)
    (hqv : find? params v = some qv) (hb : find? w.fn.params v = some b) (hprec : qv.prec = 0)
    (hl1 : w.der1.length = 1) (hl2 : w.der2.length = 1)
    (hrej : qv.violates (b.value - (1 + |b.value|) * w.h) = true)
    (hacc1 : qv.violates (b.value + (1 + |b.value|) * w.h) = false)
    (hacc2 : qv.violates (b.value + (1 + |b.value|) * w.h / 2) = false)
    (a0 a1 a2 : ℝ) (hquad : ∀ t, f (values (upd1 w.fn.params v t)) = a0 + a1 * t + a2 * t ^ 2) :
    (update3 f w params).2 = none ∧
    (update3 f w params).1.der2 = [some (2 * a2)] ∧
    (update3 f w params).1.der1 = [some ((a1 + 2 * a2 * b.value) + a2 * ((1 + |b.value|) * w.h + (1 + |b.value|) * w.h / 2))] := by
  have hH : 0 < (1 + |b.value|) * w.h := by positivity
  obtain ⟨t0, t1, _, _⟩ := stepAt_first b.value w.h hh
  obtain ⟨h0, h1, h2⟩ := update3_first_accepted f w params v hown hok hF hpnd hc1 hvars b qv hqv hb hB hcx hh.ne'
    1 ⟨hprec, by norm_num, fun k hk => by
      obtain rfl : k = 0 := by omega
      rw [t0, ← sub_eq_add_neg]; exact hrej,
    by rw [t1]; exact hacc1⟩ (by rw [t1, sideStep_of_pos hH]; exact hacc2)
  rw [t1, sideStep_of_pos hH, setAt_single _ _ hl1] at h1
  rw [t1, sideStep_of_pos hH, setAt_single _ _ hl2] at h2
  have hbase : f (values w.fn.params) = a0 + a1 * b.value + a2 * b.value ^ 2 := by
    rw [← hquad b.value, base_value w.fn.params hown.1 v b hb]
  have hne : (1 + |b.value|) * w.h ≠ (1 + |b.value|) * w.h / 2 := by intro e; linarith
  refine ⟨h0, ?_, ?_⟩
  · rw [h2, hquad, hquad, hbase,
      three_point_d2_one_sided_exact_deg2 a0 a1 a2 b.value _ _ hH.ne' (div_ne_zero hH.ne' two_ne_zero) hne]
  · rw [h1, hquad, hquad, three_point_d1_one_sided a0 a1 a2 b.value _ _ hne]


/-! ## 11. The other fall-back paths, end to end

Same situation as in section 10: one selected variable `v`, at `x` in the wrapped function, passed
with a constraint (`qv`, precision 0) that refuses some probes; `H = (1 + |x|) h`.  Each theorem: under
the guard of the path (which probes are refused, which accepted) `updateDerivatives` does not raise
and the derivatives it stores are the finite-difference formula of that path evaluated at the
requested point; on an `f` that is a cubic in `v` the stored values are given in closed form, which
shows the degree each formula differentiates exactly. -/

/-- five-point scheme, backward one-sided formulas (Five:66-77): `x - 2H` accepted, `x + 2H` refused,
`x - H` accepted.  Stored: `(f(x) - f(x-H)) / H` and `(f(x) - 2 f(x-H) + f(x-2H)) / H²`.  On a cubic
`a₀ + a₁t + a₂t² + a₃t³` the second derivative is off by `-6 a₃ H` (exact on degree ≤ 2), the first
one, for `a₃ = 0`, by `-a₂ H` (exact on degree ≤ 1). -/
theorem five_point_backward_stored (f : List ℝ → ℝ) (w : W ℝ) (params : PList ℝ) (v : Name) (hown : Own w.fn)
    (hok : w.fn.OK f) (hF : FreeFn f params w.fn.params) (hpnd : (names params).Nodup) (hc1 : w.c1 = true)
    (hvars : w.vars = [v]) (hh : w.h ≠ 0) (b qv : Param ℝ)
    (hqv : find? params v = some qv) (hb : find? w.fn.params v = some b) (hprec : qv.prec = 0)
    (hl1 : w.der1.length = 1) (hl2 : w.der2.length = 1)
    (hacc2 : qv.violates (b.value - 2 * ((1 + |b.value|) * w.h)) = false)
    (hrej : qv.violates (b.value + 2 * ((1 + |b.value|) * w.h)) = true)
    (hacc1 : qv.violates (b.value - (1 + |b.value|) * w.h) = false)
    (a0 a1 a2 a3 : ℝ) (hcubic : ∀ t, f (values (upd1 w.fn.params v t)) = a0 + a1 * t + a2 * t ^ 2 + a3 * t ^ 3) :
    (update5 f w params).2 = none ∧
    (update5 f w params).1.der1 = [some (d1Side (f (values w.fn.params))
      (f (values (upd1 w.fn.params v (b.value - (1 + |b.value|) * w.h)))) ((1 + |b.value|) * w.h))] ∧
    (update5 f w params).1.der2 = [some ((2 * a2 + 6 * a3 * b.value) - 6 * a3 * ((1 + |b.value|) * w.h))] ∧
    (a3 = 0 → (update5 f w params).1.der1 = [some ((a1 + 2 * a2 * b.value) - a2 * ((1 + |b.value|) * w.h))]) := by
  have hH : (1 + |b.value|) * w.h ≠ 0 := mul_ne_zero (by positivity) hh
  have e2 : (Scalar.ofInt 2 : ℝ) = 2 := by simp only [ScalarReal.ofInt_eq]; push_cast; rfl
  obtain ⟨q1, q2, q3⟩ := update5_of_probes f w params v hown hok hF hpnd hc1 hvars b qv hqv hb _
    (fun fn rest hri => probes5_backward f hF qv rest hri hprec b.value _ _ hH (by rw [e2]; exact hacc2)
      (by rw [e2]; exact hrej) hacc1)
  have hbase : f (values w.fn.params) = a0 + a1 * b.value + a2 * b.value ^ 2 + a3 * b.value ^ 3 := by
    rw [← hcubic b.value, base_value w.fn.params hown.1 v b hb]
  rw [setAt_single _ _ hl1] at q2
  rw [setAt_single _ _ hl2] at q3
  generalize (1 + |b.value|) * w.h = H at hH q2 q3 ⊢
  refine ⟨q1, q2, ?_, ?_⟩
  · rw [q3, e2, hbase]
    simp only [hcubic]
    exact congrArg (fun v => [some v]) (five_point_backward a0 a1 a2 a3 b.value H hH).2
  · intro h3
    rw [q2, hbase]
    simp only [hcubic, h3, zero_mul, add_zero]
    exact congrArg (fun v => [some v]) (five_point_backward a0 a1 a2 a3 b.value H hH).1

/-- five-point scheme, forward one-sided formulas (Five:82-92): `x - 2H` refused, `x + H` and `x + 2H`
accepted.  Stored: `(f(x+H) - f(x)) / H` and `(f(x+2H) - 2 f(x+H) + f(x)) / H²`.  On a cubic the second
derivative is off by `+6 a₃ H` (exact on degree ≤ 2), the first one, for `a₃ = 0`, by `+a₂ H` (exact
on degree ≤ 1). -/
theorem five_point_forward_stored (f : List ℝ → ℝ) (w : W ℝ) (params : PList ℝ) (v : Name) (hown : Own w.fn)
    (hok : w.fn.OK f) (hF : FreeFn f params w.fn.params) (hpnd : (names params).Nodup) (hc1 : w.c1 = true)
    (hvars : w.vars = [v]) (hh : w.h ≠ 0) (b qv : Param ℝ)
    (hqv : find? params v = some qv) (hb : find? w.fn.params v = some b) (hprec : qv.prec = 0)
    (hl1 : w.der1.length = 1) (hl2 : w.der2.length = 1)
    (hrej : qv.violates (b.value - 2 * ((1 + |b.value|) * w.h)) = true)
    (hacc1 : qv.violates (b.value + (1 + |b.value|) * w.h) = false)
    (hacc2 : qv.violates (b.value + 2 * ((1 + |b.value|) * w.h)) = false)
    (a0 a1 a2 a3 : ℝ) (hcubic : ∀ t, f (values (upd1 w.fn.params v t)) = a0 + a1 * t + a2 * t ^ 2 + a3 * t ^ 3) :
    (update5 f w params).2 = none ∧
    (update5 f w params).1.der1 = [some (d1Side (f (values (upd1 w.fn.params v (b.value + (1 + |b.value|) * w.h))))
      (f (values w.fn.params)) ((1 + |b.value|) * w.h))] ∧
    (update5 f w params).1.der2 = [some ((2 * a2 + 6 * a3 * b.value) + 6 * a3 * ((1 + |b.value|) * w.h))] ∧
    (a3 = 0 → (update5 f w params).1.der1 = [some ((a1 + 2 * a2 * b.value) + a2 * ((1 + |b.value|) * w.h))]) := by
  have hH : (1 + |b.value|) * w.h ≠ 0 := mul_ne_zero (by positivity) hh
  have e2 : (Scalar.ofInt 2 : ℝ) = 2 := by simp only [ScalarReal.ofInt_eq]; push_cast; rfl
  obtain ⟨q1, q2, q3⟩ := update5_of_probes f w params v hown hok hF hpnd hc1 hvars b qv hqv hb _
    (fun fn rest hri => probes5_forward f hF qv rest hri hprec b.value _ _ hH (hF.ctx.value_eq hqv hb) (by rw [e2]; exact hrej)
      hacc1 (by rw [e2]; exact hacc2))
  have hbase : f (values w.fn.params) = a0 + a1 * b.value + a2 * b.value ^ 2 + a3 * b.value ^ 3 := by
    rw [← hcubic b.value, base_value w.fn.params hown.1 v b hb]
  rw [setAt_single _ _ hl1] at q2
  rw [setAt_single _ _ hl2] at q3
  generalize (1 + |b.value|) * w.h = H at hH q2 q3 ⊢
  refine ⟨q1, q2, ?_, ?_⟩
  · rw [q3, e2, hbase]
    simp only [hcubic]
    exact congrArg (fun v => [some v]) (five_point_forward a0 a1 a2 a3 b.value H hH).2
  · intro h3
    rw [q2, hbase]
    simp only [hcubic, h3, zero_mul, add_zero]
    exact congrArg (fun v => [some v]) (five_point_forward a0 a1 a2 a3 b.value H hH).1

/-- two-point scheme, right-hand probe (Two:86-87): `x - H` refused, `x + H` accepted.  Stored:
`(f(x+H) - f(x)) / H`; on a quadratic off by `+a₂ H` (exact on degree ≤ 1). -/
theorem two_point_right_stored (f : List ℝ → ℝ) (w : W ℝ) (params : PList ℝ) (v : Name) (hown : Own w.fn)
    (hok : w.fn.OK f) (hF : FreeFn f params w.fn.params) (hB : BoundedNear f w.fn.params w.h) (hpnd : (names params).Nodup) (hc1 : w.c1 = true)
    (hvars : w.vars = [v]) (hh : 0 < w.h) (b qv : Param ℝ)
    (hqv : find? params v = some qv) (hb : find? w.fn.params v = some b) (hprec : qv.prec = 0)
    (hl1 : w.der1.length = 1)
    (hrej : qv.violates (b.value - (1 + |b.value|) * w.h) = true)
    (hacc : qv.violates (b.value + (1 + |b.value|) * w.h) = false)
    (a0 a1 a2 : ℝ) (hquad : ∀ t, f (values (upd1 w.fn.params v t)) = a0 + a1 * t + a2 * t ^ 2) :
    (update2 f w params).2 = none ∧
    (update2 f w params).1.der1 = [some (d1Two (f (values w.fn.params))
      (f (values (upd1 w.fn.params v (b.value + (1 + |b.value|) * w.h)))) ((1 + |b.value|) * w.h))] ∧
    (update2 f w params).1.der1 = [some ((a1 + 2 * a2 * b.value) + a2 * ((1 + |b.value|) * w.h))] := by
  have hH : (1 + |b.value|) * w.h ≠ 0 := mul_ne_zero (by positivity) (ne_of_gt hh)
  obtain ⟨t0, t1, _, _⟩ := stepAt_first b.value w.h hh
  obtain ⟨h0, hd1⟩ := update2_first_accepted f w params v hown hok hF hpnd hc1 hvars b qv hqv hb hB hh.ne'
    1 ⟨hprec, by norm_num, fun k hk => by
      obtain rfl : k = 0 := by omega
      rw [t0, ← sub_eq_add_neg]; exact hrej, by rw [t1]; exact hacc⟩
  rw [t1, setAt_single _ _ hl1] at hd1
  have hbase : f (values w.fn.params) = a0 + a1 * b.value + a2 * b.value ^ 2 := by
    rw [← hquad b.value, base_value w.fn.params hown.1 v b hb]
  refine ⟨h0, hd1, ?_⟩
  rw [hd1, hbase]
  simp only [hquad]
  exact congrArg (fun v => [some v]) (two_point_remainder_deg2 a0 a1 a2 b.value _ hH)

/-- two-point scheme, halved step (Two:88-89): `x - H` and `x + H` refused, `x - H/2` accepted.
Stored: `(f(x - H/2) - f(x)) / (-H/2)`; on a quadratic off by `-a₂ H/2` (exact on degree ≤ 1). -/
theorem two_point_halved_stored (f : List ℝ → ℝ) (w : W ℝ) (params : PList ℝ) (v : Name) (hown : Own w.fn)
    (hok : w.fn.OK f) (hF : FreeFn f params w.fn.params) (hB : BoundedNear f w.fn.params w.h) (hpnd : (names params).Nodup) (hc1 : w.c1 = true)
    (hvars : w.vars = [v]) (hh : 0 < w.h) (b qv : Param ℝ)
    (hqv : find? params v = some qv) (hb : find? w.fn.params v = some b) (hprec : qv.prec = 0)
    (hl1 : w.der1.length = 1)
    (hrejL : qv.violates (b.value - (1 + |b.value|) * w.h) = true)
    (hrejR : qv.violates (b.value + (1 + |b.value|) * w.h) = true)
    (hacc : qv.violates (b.value - (1 + |b.value|) * w.h / 2) = false)
    (a0 a1 a2 : ℝ) (hquad : ∀ t, f (values (upd1 w.fn.params v t)) = a0 + a1 * t + a2 * t ^ 2) :
    (update2 f w params).2 = none ∧
    (update2 f w params).1.der1 = [some (d1Two (f (values w.fn.params))
      (f (values (upd1 w.fn.params v (b.value - (1 + |b.value|) * w.h / 2)))) (-((1 + |b.value|) * w.h / 2)))] ∧
    (update2 f w params).1.der1 = [some ((a1 + 2 * a2 * b.value) - a2 * ((1 + |b.value|) * w.h / 2))] := by
  have hH : (1 + |b.value|) * w.h ≠ 0 := mul_ne_zero (by positivity) (ne_of_gt hh)
  obtain ⟨t0, t1, t2, _⟩ := stepAt_first b.value w.h hh
  obtain ⟨h0, hd1⟩ := update2_first_accepted f w params v hown hok hF hpnd hc1 hvars b qv hqv hb hB hh.ne'
    2 ⟨hprec, by norm_num,
    fun k hk => by
      obtain rfl | rfl : k = 0 ∨ k = 1 := by omega
      · rw [t0, ← sub_eq_add_neg]; exact hrejL
      · rw [t1]; exact hrejR,
    by rw [t2, ← sub_eq_add_neg]; exact hacc⟩
  rw [t2, ← sub_eq_add_neg, setAt_single _ _ hl1] at hd1
  have hbase : f (values w.fn.params) = a0 + a1 * b.value + a2 * b.value ^ 2 := by
    rw [← hquad b.value, base_value w.fn.params hown.1 v b hb]
  refine ⟨h0, hd1, ?_⟩
  rw [hd1, hbase]
  simp only [hquad, sub_eq_add_neg, ← mul_neg]
  exact congrArg (fun v => [some v])
    (two_point_remainder_deg2 a0 a1 a2 b.value _ (neg_ne_zero.mpr (div_ne_zero hH two_ne_zero)))

/-- `one_sided_no_raise`, positive half, two-point scheme in general: among the ten tries
`x + s₀, x + s₁, …` (`s₀ = -H`, then `H, -H/2, H/2, -H/4, …`; `stepAt`) let the first `j` be refused by
the constraint the variable is passed with and the next one accepted.  Then `updateDerivatives` does
not raise and stores — not the NaN marker but — the difference quotient with the step `s_j`.
(`two_point_stored_exact_partial`, `two_point_right_stored`, `two_point_halved_stored` are `j = 0, 1, 2`.) -/
theorem two_point_falls_back (f : List ℝ → ℝ) (w : W ℝ) (params : PList ℝ) (v : Name) (hown : Own w.fn)
    (hok : w.fn.OK f) (hF : FreeFn f params w.fn.params) (hB : BoundedNear f w.fn.params w.h) (hpnd : (names params).Nodup)
    (hc1 : w.c1 = true) (hvars : w.vars = [v]) (hh : w.h ≠ 0) (b qv : Param ℝ)
    (hqv : find? params v = some qv) (hb : find? w.fn.params v = some b) (hprec : qv.prec = 0)
    (hl1 : w.der1.length = 1) (j : Nat) (hj : j < 10)
    (hrej : ∀ k, k < j → qv.violates (b.value + stepAt (-(1 + |b.value|) * w.h) k) = true)
    (hacc : qv.violates (b.value + stepAt (-(1 + |b.value|) * w.h) j) = false) :
    (update2 f w params).2 = none ∧
    (update2 f w params).1.der1 = [some (d1Two (f (values w.fn.params))
      (f (values (upd1 w.fn.params v (b.value + stepAt (-(1 + |b.value|) * w.h) j)))) (stepAt (-(1 + |b.value|) * w.h) j))] := by
  rw [← setAt_single w.der1 _ hl1]
  exact update2_first_accepted f w params v hown hok hF hpnd hc1 hvars b qv hqv hb hB hh j ⟨hprec, hj, hrej, hacc⟩

/-- … on a quadratic the stored value is off by `a₂ s_j`: exact on degree ≤ 1 whatever the try that
went through -/
theorem two_point_falls_back_exact (f : List ℝ → ℝ) (w : W ℝ) (params : PList ℝ) (v : Name) (hown : Own w.fn)
    (hok : w.fn.OK f) (hF : FreeFn f params w.fn.params) (hB : BoundedNear f w.fn.params w.h) (hpnd : (names params).Nodup)
    (hc1 : w.c1 = true) (hvars : w.vars = [v]) (hh : w.h ≠ 0) (b qv : Param ℝ)
    (hqv : find? params v = some qv) (hb : find? w.fn.params v = some b) (hprec : qv.prec = 0)
    (hl1 : w.der1.length = 1) (j : Nat) (hj : j < 10)
    (hrej : ∀ k, k < j → qv.violates (b.value + stepAt (-(1 + |b.value|) * w.h) k) = true)
    (hacc : qv.violates (b.value + stepAt (-(1 + |b.value|) * w.h) j) = false)
    (a0 a1 a2 : ℝ) (hquad : ∀ t, f (values (upd1 w.fn.params v t)) = a0 + a1 * t + a2 * t ^ 2) :
    (update2 f w params).1.der1 = [some ((a1 + 2 * a2 * b.value) + a2 * stepAt (-(1 + |b.value|) * w.h) j)] := by
  obtain ⟨_, hd1⟩ := two_point_falls_back f w params v hown hok hF hB hpnd hc1 hvars hh b qv hqv hb hprec hl1 j hj hrej hacc
  have h0 : -(1 + |b.value|) * w.h ≠ 0 := mul_ne_zero (neg_ne_zero.mpr (by positivity)) hh
  have hsj : stepAt (-(1 + |b.value|) * w.h) j ≠ 0 := stepAt_ne_zero j h0
  have hbase : f (values w.fn.params) = a0 + a1 * b.value + a2 * b.value ^ 2 := by
    rw [← hquad b.value, base_value w.fn.params hown.1 v b hb]
  rw [hd1, hbase]
  simp only [hquad]
  exact congrArg (fun v => [some v]) (two_point_remainder_deg2 a0 a1 a2 b.value _ hsj)

/-- … and conversely: when the two-point scheme stores the NaN marker for the variable, every one of
the ten tries was refused by the constraint it was passed with — the NaN marker is stored only when
there is no room at all -/
theorem two_point_nan_only_without_room (f : List ℝ → ℝ) (w : W ℝ) (params : PList ℝ) (v : Name) (hown : Own w.fn)
    (hok : w.fn.OK f) (hF : FreeFn f params w.fn.params) (hB : BoundedNear f w.fn.params w.h) (hpnd : (names params).Nodup)
    (hc1 : w.c1 = true) (hvars : w.vars = [v]) (hh : w.h ≠ 0) (b qv : Param ℝ)
    (hqv : find? params v = some qv) (hb : find? w.fn.params v = some b) (hprec : qv.prec = 0)
    (hl1 : w.der1.length = 1) (hnan : (update2 f w params).1.der1 = [none]) :
    ∀ k, k < 10 → qv.violates (b.value + stepAt (-(1 + |b.value|) * w.h) k) = true := by
  by_contra hcon
  have hex : ∃ k, k < 10 ∧ qv.violates (b.value + stepAt (-(1 + |b.value|) * w.h) k) ≠ true := by
    by_contra hne
    apply hcon
    intro k hk
    by_contra hk2
    exact hne ⟨k, hk, hk2⟩
  classical
  have hj := Nat.find_spec hex
  have hmin : ∀ k, k < Nat.find hex → qv.violates (b.value + stepAt (-(1 + |b.value|) * w.h) k) = true := by
    intro k hk
    by_contra hne
    exact Nat.find_min hex hk ⟨lt_trans hk hj.1, hne⟩
  obtain ⟨_, h1⟩ := two_point_falls_back f w params v hown hok hF hB hpnd hc1 hvars hh b qv hqv hb hprec hl1
    (Nat.find hex) hj.1 hmin (by simpa using hj.2)
  rw [hnan] at h1
  simp at h1

/-- three-point scheme, halved step (Three:90-91, 98-99): `x - H` and `x + H` refused, `x - H/2` and
`x + H/2` accepted: symmetric probes with half the step.  Stored: `d1Three`/`d2Three` of the values at
`x ∓ H/2`; on a cubic the second derivative is exact (degree ≤ 3), the first one is off by
`a₃ (H/2)²` (exact on degree ≤ 2). -/
theorem three_point_halved_stored (f : List ℝ → ℝ) (w : W ℝ) (params : PList ℝ) (v : Name) (hown : Own w.fn)
    (hok : w.fn.OK f) (hF : FreeFn f params w.fn.params) (hB : BoundedNear f w.fn.params w.h) (hpnd : (names params).Nodup) (hc1 : w.c1 = true)
    (hcx : w.cx = false) (hvars : w.vars = [v]) (hh : 0 < w.h) (b qv : Param ℝ)
    (hqv : find? params v = some qv) (hb : find? w.fn.params v = some b) (hprec : qv.prec = 0)
    (hl1 : w.der1.length = 1) (hl2 : w.der2.length = 1)
    (hrejL : qv.violates (b.value - (1 + |b.value|) * w.h) = true)
    (hrejR : qv.violates (b.value + (1 + |b.value|) * w.h) = true)
    (haccL : qv.violates (b.value - (1 + |b.value|) * w.h / 2) = false)
    (haccR : qv.violates (b.value + (1 + |b.value|) * w.h / 2) = false)
    (a0 a1 a2 a3 : ℝ) (hcubic : ∀ t, f (values (upd1 w.fn.params v t)) = a0 + a1 * t + a2 * t ^ 2 + a3 * t ^ 3) :
    (update3 f w params).2 = none ∧
    (update3 f w params).1.der1 = [some (d1Three (f (values (upd1 w.fn.params v (b.value - (1 + |b.value|) * w.h / 2))))
      (f (values (upd1 w.fn.params v (b.value + (1 + |b.value|) * w.h / 2))))
      (-((1 + |b.value|) * w.h / 2)) ((1 + |b.value|) * w.h / 2))] ∧
    (update3 f w params).1.der2 = [some (2 * a2 + 6 * a3 * b.value)] ∧
    (update3 f w params).1.der1 = [some ((a1 + 2 * a2 * b.value + 3 * a3 * b.value ^ 2) + a3 * ((1 + |b.value|) * w.h / 2) ^ 2)] := by
  have hH : (1 + |b.value|) * w.h ≠ 0 := mul_ne_zero (by positivity) (ne_of_gt hh)
  have hne2 : (1 + |b.value|) * w.h / 2 ≠ 0 := div_ne_zero hH (by norm_num)
  have hneg : -((1 + |b.value|) * w.h / 2) < 0 := by
    have : 0 < (1 + |b.value|) * w.h := by positivity
    linarith
  obtain ⟨t0, t1, t2, _⟩ := stepAt_first b.value w.h hh
  obtain ⟨h0, hd1, hd2⟩ := update3_first_accepted f w params v hown hok hF hpnd hc1 hvars b qv hqv hb hB hcx hh.ne'
    2 ⟨hprec, by norm_num,
    fun k hk => by
      obtain rfl | rfl : k = 0 ∨ k = 1 := by omega
      · rw [t0, ← sub_eq_add_neg]; exact hrejL
      · rw [t1]; exact hrejR,
    by rw [t2, ← sub_eq_add_neg]; exact haccL⟩ (by rw [t2, sideStep_of_neg hneg, neg_neg]; exact haccR)
  rw [t2, sideStep_of_neg hneg, neg_neg, ← sub_eq_add_neg, setAt_single _ _ hl1] at hd1
  rw [t2, sideStep_of_neg hneg, neg_neg, ← sub_eq_add_neg, setAt_single _ _ hl2] at hd2
  have hbase : f (values w.fn.params) = a0 + a1 * b.value + a2 * b.value ^ 2 + a3 * b.value ^ 3 := by
    rw [← hcubic b.value, base_value w.fn.params hown.1 v b hb]
  generalize (1 + |b.value|) * w.h = H at hd1 hd2 hne2 ⊢
  refine ⟨h0, hd1, ?_, ?_⟩
  -- the symmetric formulas of section 1 with the step `-(H/2)`
  · rw [hd2, hbase]
    simp only [hcubic]
    have := three_point_d2_exact_deg3 a0 a1 a2 a3 b.value (-(H / 2)) (neg_ne_zero.mpr hne2)
    simp only [sub_neg_eq_add, neg_neg, ← sub_eq_add_neg] at this
    exact congrArg (fun v => [some v]) this
  · rw [hd1]
    simp only [hcubic]
    have := three_point_d1_remainder_deg3 a0 a1 a2 a3 b.value (-(H / 2)) (neg_ne_zero.mpr hne2)
    simp only [sub_neg_eq_add, neg_neg, neg_sq, ← sub_eq_add_neg] at this
    exact congrArg (fun v => [some v]) this

/-- the guards of the fall-back paths are satisfiable: a parameter at 0 with step 1/16 (`H = 1/16`)
passed with the constraints `[-1/8, 1/16]` (five-point backward), `[-1/16, 1/8]` (five-point
forward), `[0, 1]` (two-point right-hand probe), `[-3/64, 3/64]` (halved steps) -/
example : ∃ (q1 q2 q3 q4 : Param ℝ) (x h : ℝ), 0 < h ∧
    (q1.violates (x - 2 * ((1 + |x|) * h)) = false ∧ q1.violates (x + 2 * ((1 + |x|) * h)) = true ∧
      q1.violates (x - (1 + |x|) * h) = false) ∧
    (q2.violates (x - 2 * ((1 + |x|) * h)) = true ∧ q2.violates (x + (1 + |x|) * h) = false ∧
      q2.violates (x + 2 * ((1 + |x|) * h)) = false) ∧
    (q3.violates (x - (1 + |x|) * h) = true ∧ q3.violates (x + (1 + |x|) * h) = false) ∧
    (q4.violates (x - (1 + |x|) * h) = true ∧ q4.violates (x + (1 + |x|) * h) = true ∧
      q4.violates (x - (1 + |x|) * h / 2) = false ∧ q4.violates (x + (1 + |x|) * h / 2) = false) := by
  exact ⟨qc (-1 / 8) (1 / 16), qc (-1 / 16) (1 / 8), qc 0 1, qc (-3 / 64) (3 / 64), 0, 1 / 16, by norm_num,
    ⟨qc_accepts.mpr (by norm_num), qc_refuses.mpr (by norm_num), qc_accepts.mpr (by norm_num)⟩,
    ⟨qc_refuses.mpr (by norm_num), qc_accepts.mpr (by norm_num), qc_accepts.mpr (by norm_num)⟩,
    ⟨qc_refuses.mpr (by norm_num), qc_accepts.mpr (by norm_num)⟩,
    ⟨qc_refuses.mpr (by norm_num), qc_refuses.mpr (by norm_num), qc_accepts.mpr (by norm_num),
      qc_accepts.mpr (by norm_num)⟩⟩

/-! ## Non-vacuity of the hypotheses -/

/-- the one-sided situation of `three_point_one_sided_stored` exists: a parameter at 0 passed with
the constraint `[0, +∞[`, step 1/16 -/
example : ∃ (qv : Param ℝ) (x h : ℝ), 0 < h ∧ qv.prec = 0 ∧
    qv.violates (x - (1 + |x|) * h) = true ∧ qv.violates (x + (1 + |x|) * h) = false ∧
    qv.violates (x + (1 + |x|) * h / 2) = false := by
  refine ⟨⟨0, 0, 0, some ⟨some 0, none, true, true⟩⟩, 0, 1 / 16, by norm_num, rfl, ?_, ?_, ?_⟩ <;>
    simp [Param.violates, Interval.isCorrect, Scalar.geb, Scalar.leb] <;> norm_num

/-! ### Non-constant instances of every end-to-end theorem

`Lemmas/NumDerivExamples.lean`: a wrapper at `x = 0` with step `1/16` around `f = p(x)` for the cubic
`p = 1 + x + x² + x³` (or the quadratic `1 + x + x²`), and around `f = x y + x` in two variables.
`BoundedNear` is local (`|p| < 1.7e23` on `[-1/16, 1/16]`), so these polynomials satisfy every
hypothesis; each `example` below is the theorem applied to the instance, with the derivative that
`updateDerivatives` then stores. -/

section instances
open Bpp.NumDeriv

/-- `three_point_computes_central_partial`, `three_point_stored_exact_partial` on the cubic: `f''(0) = 2` stored -/
example : (update3 (exf cubic) (exW cubic .three) (exP none)).2 = none ∧
    (update3 (exf cubic) (exW cubic .three) (exP none)).1.der2[0]? = some (some (2 * 1 + 6 * 1 * 0)) :=
  ⟨(three_point_computes_central_partial (exf cubic) (exW cubic .three) (exP none) (ex_own _ _) (ex_ok _ _) (ex_free _)
      (ex_bounded _ cubic_bound) (ex_nodup _) rfl rfl (exW_vars_nodup _ _) (hin_ex _ _) (exW_h_pos _ _) rfl rfl).1,
   (three_point_stored_exact_partial (exf cubic) (exW cubic .three) (exP none) (ex_own _ _) (ex_ok _ _) (ex_free _)
      (ex_bounded _ cubic_bound) (ex_nodup _) rfl rfl (exW_vars_nodup _ _) (hin_ex _ _) (exW_h_pos _ _) rfl rfl
      0 Nat.one_pos rfl ⟨0, 0, 0, none⟩ rfl 1 1 1 1 (fun t => ex_poly cubic t)).1⟩

/-- … and on the quadratic the first derivative `f'(0) = 1` is exact -/
example : (update3 (exf quadr) (exW quadr .three) (exP none)).1.der1[0]? = some (some (1 + 2 * 1 * 0)) :=
  (three_point_stored_exact_partial (exf quadr) (exW quadr .three) (exP none) (ex_own _ _) (ex_ok _ _) (ex_free _)
      (ex_bounded _ quadr_bound) (ex_nodup _) rfl rfl (exW_vars_nodup _ _) (hin_ex _ _) (exW_h_pos _ _) rfl rfl
      0 Nat.one_pos rfl ⟨0, 0, 0, none⟩ rfl 1 1 1 0 (fun t => (ex_poly quadr t).trans (by simp [quadr]))).2 rfl

/-- `two_point_stored_exact_partial` on the quadratic: `f'(0) = 1` off by `-a₂ H = -1/16` -/
example : (update2 (exf quadr) (exW quadr .two) (exP none)).1.der1[0]? =
    some (some ((1 + 2 * 1 * 0) + 1 * (-(1 + |(0 : ℝ)|) * (1 / 16)))) :=
  (two_point_stored_exact_partial (exf quadr) (exW quadr .two) (exP none) (ex_own _ _) (ex_ok _ _) (ex_free _)
      (ex_bounded _ quadr_bound) (ex_nodup _) rfl (exW_vars_nodup _ _) (hin_ex _ _) (exW_h_pos _ _).ne' rfl
      0 Nat.one_pos rfl ⟨0, 0, 0, none⟩ rfl 1 1 1 (fun t => ex_poly quadr t)).2

/-- `five_point_computes_central_partial`, `five_point_stored_exact_partial` (no boundedness hypothesis at all: the
five-point scheme has no VERY_BIG test) on `poly5` with coefficients `1, 1, 1, 1, 0, 0` -/
example : (update5 (exf (poly5 fun i => if i.val ≤ 3 then 1 else 0)) (exW (poly5 fun i => if i.val ≤ 3 then 1 else 0) .five) (exP none)).2 = none ∧
    (update5 (exf (poly5 fun i => if i.val ≤ 3 then 1 else 0)) (exW (poly5 fun i => if i.val ≤ 3 then 1 else 0) .five) (exP none)).1.der1[0]?
      = some (some (poly5' (fun i => if i.val ≤ 3 then 1 else 0) 0)) :=
  ⟨(five_point_computes_central_partial _ (exW _ .five) (exP none) (ex_own _ _) (ex_ok _ _) (ex_free _)
      (ex_nodup _) rfl (exW_vars_nodup _ _) (hin_ex _ _) rfl rfl).1,
   (five_point_stored_exact_partial _ (exW _ .five) (exP none) (ex_own _ _) (ex_ok _ _) (ex_free _)
      (ex_nodup _) rfl (exW_vars_nodup _ _) (hin_ex _ _) (exW_h_pos _ _).ne' rfl rfl
      0 Nat.one_pos rfl ⟨0, 0, 0, none⟩ rfl _ (fun t => ex_poly _ t)).2 (by simp)⟩

/-- `three_point_one_sided_stored`: the parameter passed with `[0, 1]` (left probe refused) -/
example : (update3 (exf quadr) (exW quadr .three) (exP (cn 0 1))).1.der2 = [some (2 * 1)] :=
  (three_point_one_sided_stored (exf quadr) (exW quadr .three) (exP (cn 0 1)) 0 (ex_own _ _) (ex_ok _ _) (ex_freeFn _ _)
    (ex_bounded _ quadr_bound) (ex_nodup _) rfl rfl rfl (exW_h_pos _ _) ⟨0, 0, 0, none⟩ (qc 0 1) rfl rfl rfl rfl rfl
    (qc_refuses.mpr (by rw [exW_h]; norm_num))
    (qc_accepts.mpr (by rw [exW_h]; norm_num))
    (qc_accepts.mpr (by rw [exW_h]; norm_num))
    1 1 1 (fun t => ex_poly quadr t)).2.1

/-- `five_point_backward_stored`: passed with `[-1/8, 1/16]` -/
example : (update5 (exf cubic) (exW cubic .five) (exP (cn (-1 / 8) (1 / 16)))).1.der2 =
    [some ((2 * 1 + 6 * 1 * 0) - 6 * 1 * ((1 + |(0 : ℝ)|) * (1 / 16)))] :=
  (five_point_backward_stored (exf cubic) (exW cubic .five) (exP (cn (-1 / 8) (1 / 16))) 0 (ex_own _ _) (ex_ok _ _) (ex_freeFn _ _)
    (ex_nodup _) rfl rfl (exW_h_pos _ _).ne' ⟨0, 0, 0, none⟩ (qc (-1 / 8) (1 / 16)) rfl rfl rfl rfl rfl
    (qc_accepts.mpr (by rw [exW_h]; norm_num))
    (qc_refuses.mpr (by rw [exW_h]; norm_num))
    (qc_accepts.mpr (by rw [exW_h]; norm_num))
    1 1 1 1 (fun t => ex_poly cubic t)).2.2.1

/-- `five_point_forward_stored`: passed with `[-1/16, 1/8]` -/
example : (update5 (exf cubic) (exW cubic .five) (exP (cn (-1 / 16) (1 / 8)))).1.der2 =
    [some ((2 * 1 + 6 * 1 * 0) + 6 * 1 * ((1 + |(0 : ℝ)|) * (1 / 16)))] :=
  (five_point_forward_stored (exf cubic) (exW cubic .five) (exP (cn (-1 / 16) (1 / 8))) 0 (ex_own _ _) (ex_ok _ _) (ex_freeFn _ _)
    (ex_nodup _) rfl rfl (exW_h_pos _ _).ne' ⟨0, 0, 0, none⟩ (qc (-1 / 16) (1 / 8)) rfl rfl rfl rfl rfl
    (qc_refuses.mpr (by rw [exW_h]; norm_num))
    (qc_accepts.mpr (by rw [exW_h]; norm_num))
    (qc_accepts.mpr (by rw [exW_h]; norm_num))
    1 1 1 1 (fun t => ex_poly cubic t)).2.2.1

/-- `two_point_right_stored`: passed with `[0, 1]` -/
example : (update2 (exf quadr) (exW quadr .two) (exP (cn 0 1))).1.der1 =
    [some ((1 + 2 * 1 * 0) + 1 * ((1 + |(0 : ℝ)|) * (1 / 16)))] :=
  (two_point_right_stored (exf quadr) (exW quadr .two) (exP (cn 0 1)) 0 (ex_own _ _) (ex_ok _ _) (ex_freeFn _ _)
    (ex_bounded _ quadr_bound) (ex_nodup _) rfl rfl (exW_h_pos _ _) ⟨0, 0, 0, none⟩ (qc 0 1) rfl rfl rfl rfl
    (qc_refuses.mpr (by rw [exW_h]; norm_num))
    (qc_accepts.mpr (by rw [exW_h]; norm_num))
    1 1 1 (fun t => ex_poly quadr t)).2.2

/-- `two_point_halved_stored`: passed with `[-3/64, 3/64]` -/
example : (update2 (exf quadr) (exW quadr .two) (exP (cn (-3 / 64) (3 / 64)))).1.der1 =
    [some ((1 + 2 * 1 * 0) - 1 * ((1 + |(0 : ℝ)|) * (1 / 16) / 2))] :=
  (two_point_halved_stored (exf quadr) (exW quadr .two) (exP (cn (-3 / 64) (3 / 64))) 0 (ex_own _ _) (ex_ok _ _) (ex_freeFn _ _)
    (ex_bounded _ quadr_bound) (ex_nodup _) rfl rfl (exW_h_pos _ _) ⟨0, 0, 0, none⟩ (qc (-3 / 64) (3 / 64)) rfl rfl rfl rfl
    (qc_refuses.mpr (by rw [exW_h]; norm_num))
    (qc_refuses.mpr (by rw [exW_h]; norm_num))
    (qc_accepts.mpr (by rw [exW_h]; norm_num))
    1 1 1 (fun t => ex_poly quadr t)).2.2

/-- `three_point_halved_stored`: passed with `[-3/64, 3/64]`; `f''(0) = 2` exact on the cubic -/
example : (update3 (exf cubic) (exW cubic .three) (exP (cn (-3 / 64) (3 / 64)))).1.der2 = [some (2 * 1 + 6 * 1 * 0)] :=
  (three_point_halved_stored (exf cubic) (exW cubic .three) (exP (cn (-3 / 64) (3 / 64))) 0 (ex_own _ _) (ex_ok _ _) (ex_freeFn _ _)
    (ex_bounded _ cubic_bound) (ex_nodup _) rfl rfl rfl (exW_h_pos _ _) ⟨0, 0, 0, none⟩ (qc (-3 / 64) (3 / 64)) rfl rfl rfl rfl rfl
    (qc_refuses.mpr (by rw [exW_h]; norm_num))
    (qc_refuses.mpr (by rw [exW_h]; norm_num))
    (qc_accepts.mpr (by rw [exW_h]; norm_num))
    (qc_accepts.mpr (by rw [exW_h]; norm_num))
    1 1 1 1 (fun t => ex_poly cubic t)).2.2.1

/-- `three_point_cross_computes_partial`, `cross_stored_exact_partial` on `f(x, y) = x y + x`: `∂²f/∂x∂y = 1` stored -/
example : (update3 exf2 exW2 exB2).2 = none ∧
    get2 (update3 exf2 exW2 exB2).1.cross 0 1 =
      some (some (biquadXY (fun i j => if i.val = 1 ∧ j.val ≤ 1 then 1 else 0) 0 0)) := by
  have hin : ∀ v ∈ exW2.vars, has exB2 v = true → v ∈ names exW2.fn.params := by
    intro v hv _; simp [exW2] at hv; rcases hv with rfl | rfl <;> simp [exW2, exB2, names]
  refine ⟨(three_point_cross_computes_partial exf2 exW2 exB2 ex2_own ex2_ok ex2_free ex2_bounded (by simp [names, exB2]) rfl rfl
      (by simp [exW2]) hin (by norm_num [exW2]) rfl rfl).1, ?_⟩
  exact cross_stored_exact_partial exf2 exW2 exB2 ex2_own ex2_ok ex2_free ex2_bounded (by simp [names, exB2]) rfl rfl
    (by simp [exW2]) hin (by norm_num [exW2]) rfl rfl 0 1 (by simp [exW2]) (by simp [exW2]) (by decide) rfl rfl
    (by simp [get2, exW2]) ⟨0, 0, 0, none⟩ ⟨1, 0, 0, none⟩ rfl rfl _
    (fun s t => by
      show exf2 (values (upd1 (upd1 exB2 0 s) 1 t)) = _
      rw [ex2_values]; simp [exf2, biquad]; ring)

/-- `two_point_falls_back(_exact)` with `j = 3`: passed with `[-1/64, 3/64]`, the tries at `-1/16`,
`1/16`, `-1/32` are refused, the fourth one at `1/32` goes through -/
example : (update2 (exf quadr) (exW quadr .two) (exP (cn (-1 / 64) (3 / 64)))).1.der1 =
    [some ((1 + 2 * 1 * 0) + 1 * stepAt (-(1 + |(0 : ℝ)|) * (1 / 16)) 3)] ∧
    stepAt (-(1 + |(0 : ℝ)|) * (1 / 16)) 3 = 1 / 32 := by
  obtain ⟨t0, t1, t2, t3⟩ := stepAt_first (0 : ℝ) (1 / 16) (by norm_num)
  refine ⟨two_point_falls_back_exact (exf quadr) (exW quadr .two) (exP (cn (-1 / 64) (3 / 64))) 0 (ex_own _ _) (ex_ok _ _)
    (ex_freeFn _ _) (ex_bounded _ quadr_bound) (ex_nodup _) rfl rfl (exW_h_pos _ _).ne' ⟨0, 0, 0, none⟩
    (qc (-1 / 64) (3 / 64)) rfl rfl rfl rfl 3 (by norm_num) ?_ ?_ 1 1 1 (fun t => ex_poly quadr t), by rw [t3]; norm_num⟩
  · intro k hk
    show (qc (-1 / 64) (3 / 64)).violates (0 + stepAt (-(1 + |(0 : ℝ)|) * (1 / 16)) k) = true
    obtain rfl | rfl | rfl : k = 0 ∨ k = 1 ∨ k = 2 := by omega
    · rw [t0]; exact qc_refuses.mpr (by norm_num)
    · rw [t1]; exact qc_refuses.mpr (by norm_num)
    · rw [t2]; exact qc_refuses.mpr (by norm_num)
  · show (qc (-1 / 64) (3 / 64)).violates (0 + stepAt (-(1 + |(0 : ℝ)|) * (1 / 16)) 3) = false
    rw [t3]; exact qc_accepts.mpr (by norm_num)

end instances

end Bpp.C12
