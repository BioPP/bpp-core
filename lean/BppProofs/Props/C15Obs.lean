import BppProofs.Lemmas.TreeObs
import BppProofs.Props.C14Observer
/-!
# C15, object level — the tree container watched by association observers
(src/Bpp/Graph/AssociationTreeGraphImplObserver.h, model `BppModel/TreeObs.lean`)

Proved here:
* **an edge object given to `addSon` / `setFather` is attached to the new branch** (`addSon_keeps_object`,
  `setFather_keeps_object`), including the case where it was the object of the branch to the former
  father (the unlink notification dissociates it, `associateEdge` attaches it again); an object that
  sits on another branch is refused with the state unchanged (`setFather_refuses_foreign_object`); the
  other edge objects stay where they are (`setFather_keeps_other_objects`);
* **re-rooting keeps the attached objects** (`rootAt_keeps_objects`, `rootAt_keeps_invariant`,
  `rootAt_objects_live`): no association changes, and every associated id is still in the graph;
* over all histories of object-level calls the association invariant holds and the cached validity
  flag is sound (`tw_inv`, `tw_cache_sound`).
-/
namespace Bpp.C15
open Bpp Bpp.Graph Bpp.AL Bpp.Graph.TW

/-- **addSon keeps the edge object**: after a successful `addSon(father a, son s, edgeObject x)`
through observer `k`, `getEdgeLinking(a, s)` answers `x`, and the association invariants still hold -/
theorem addSon_keeps_object (tw tw' : TW) (k : Nat) (a s x : Obj) (hw : WInv tw.w)
    (h : tw.addSon k a s (some x) = (.ok, tw')) :
    ∃ o', tw'.w.getObs k = some o' ∧ World.edgeLinking tw'.w o' a s = some (some x) ∧ WInv tw'.w := by
  have h' : tw.ofO (tw.w.link k a s (some x)) true = (.ok, tw') := h
  obtain ⟨u, hl⟩ := ofO_ok h'
  exact world_link_keeps_object hw hl

/-- **setFather keeps the edge object**: after a successful `setFather(node a, father f, edgeObject x)`
through observer `k`, the branch `f -> a` carries `x` (`getEdgeLinking(f, a)` answers `x`), `f` is the
father of `a` (directed or not: the node had at most one incoming neighbour, which was unlinked),
and the association invariants still hold.  `x` may be the object of the branch to the former father -/
theorem setFather_keeps_object (tw tw' : TW) (k : Nat) (a f x : Obj) (hw : WInv tw.w)
    (h : tw.setFather k a f (some x) = (.ok, tw')) :
    ∃ o', tw'.w.getObs k = some o' ∧ World.edgeLinking tw'.w o' f a = some (some x) ∧
      tw'.fatherOf o' a = some (some f) ∧ WInv tw'.w := by
  obtain ⟨o, o', ia, ifa, e, hk, hk', ha, hf, hNg, hw', he, hfa, hx, _, _⟩ := setFather_ok_spec hw h
  have hf' : find f o'.Ng = some ifa := by rw [hNg]; exact hf
  refine ⟨o', hk', ?_, ?_, hw'⟩
  · simp [World.edgeLinking, hNg, ha, hf, he, hx]
  · simp [TW.fatherOf, hNg, ha, hfa, nodeFromGid_of_find (hw'.obs k o' hk').nodes hf']

/-- the same through the tree query: `getEdgeToFather(a)` answers `x` -/
theorem setFather_edgeToFather (tw tw' : TW) (k : Nat) (a f x : Obj) (hw : WInv tw.w)
    (h : tw.setFather k a f (some x) = (.ok, tw')) :
    ∃ o', tw'.w.getObs k = some o' ∧ tw'.edgeToFather o' a = some (some x) := by
  obtain ⟨o, o', ia, ifa, e, hk, hk', ha, hf, hNg, hw', he, hfa, hx, _, _⟩ := setFather_ok_spec hw h
  refine ⟨o', hk', ?_⟩
  simp [TW.edgeToFather, T.edgeToFather, hNg, ha, hfa, he, hx]

/-- **an object of another branch is refused**: if `x` is associated to an edge and is not the object of
the branch from `a` to its current father, `setFather(a, f, x)` throws and nothing changes -/
theorem setFather_refuses_foreign_object (tw : TW) (k : Nat) (a f x : Obj) (o : Obs) (hw : WInv tw.w)
    (hk : tw.w.getObs k = some o) (hx : o.hasEdge x = true) (hne : tw.edgeToFather o a ≠ some (some x)) :
    tw.setFather k a f (some x) = (.exc .bpp, tw) := by
  have hi := hw.obs k o hk
  rcases hfx : find x o.Eg with _ | ex
  · simp [Obs.hasEdge, has, hfx] at hx
  apply setFather_refused hk hfx
  intro ia ha he
  apply hne
  simp [TW.edgeToFather, ha, he, edgeFromGid_of_find hi.edges hfx]

/-- **the other objects stay**: every edge object `y ≠ x` whose edge is still in the graph after a
successful `setFather(a, f, x)` is still associated to the same edge, both ways -/
theorem setFather_keeps_other_objects (tw tw' : TW) (k : Nat) (a f x : Obj) (hw : WInv tw.w)
    (h : tw.setFather k a f (some x) = (.ok, tw')) (o : Obs) (hk : tw.w.getObs k = some o)
    (y : Obj) (e' : Nat) (hy : (y, e') ∈ o.Eg) (hne : y ≠ x) (hlive : tw'.w.g.hasEdge e' = true) :
    ∃ o', tw'.w.getObs k = some o' ∧ (y, e') ∈ o'.Eg ∧ o'.edgeFromGid e' = some y := by
  obtain ⟨o0, o', ia, ifa, e, hk0, hk', ha, hf, hNg, hw', he, hfa, hx, _, hkeep⟩ := setFather_ok_spec hw h
  rw [hk] at hk0; injection hk0 with hk0; subst hk0
  have hi := hw.obs k o hk
  have hi' := hw'.obs k o' hk'
  have := hkeep y e' hne ((mem_iff_find hi.edges.asc y e').mp hy) hlive
  exact ⟨o', hk', (mem_iff_find hi'.edges.asc y e').mpr this, edgeFromGid_of_find hi'.edges this⟩

/-- **re-rooting keeps the attached objects**: `rootAt` changes no association of any observer -/
theorem rootAt_keeps_objects (tw : TW) (k : Nat) (a : Obj) (r : TW.WRes × TW) (h : tw.rootAt k a = .ok r) :
    r.2.w.obs = tw.w.obs := rootAt_obs h

/-- … and the association invariants still hold against the re-rooted graph (which is consistent, has
nothing pending, and has every node and edge id it had) -/
theorem rootAt_keeps_invariant (tw : TW) (k : Nat) (a : Obj) (r : TW.WRes × TW) (hw : WInv tw.w)
    (h : tw.rootAt k a = .ok r) : WInv r.2.w := rootAt_winv hw h

/-- … so every object is attached to the same node or edge id as before, and that id is still in the graph -/
theorem rootAt_objects_live (tw : TW) (k : Nat) (a : Obj) (r : TW.WRes × TW) (hw : WInv tw.w)
    (h : tw.rootAt k a = .ok r) (j : Nat) (o : Obs) (hj : tw.w.getObs j = some o) :
    r.2.w.getObs j = some o ∧ (∀ x e, find x o.Eg = some e → r.2.w.g.hasEdge e = true) ∧
    (∀ b id, find b o.Ng = some id → r.2.w.g.hasNode id = true) := by
  have hj' : r.2.w.getObs j = some o := by simp only [World.getObs, rootAt_obs h]; exact hj
  have hi := (rootAt_winv hw h).obs j o hj'
  exact ⟨hj', hi.e_live, hi.n_live⟩

/-- **the association invariant over all histories** of object-level calls on the observed tree container
(node creations, links, unlinks, deletions, `addSon`, `setFather` with or without edge object, `rootAt`,
`isValid`; each call succeeding or raising): the graph is consistent and every observer's maps are
inverse of each other and only name live ids -/
theorem tw_inv (d : Bool) (ops : List TWOp) : WInv ((TW.init d).run ops).w :=
  (run_inv ops _ (inv_init d (C14.winv_init d))).winv

/-- **cache soundness over all histories** of the observed container: a set validity flag means the
traversal answers true on the graph as it is now -/
theorem tw_cache_sound (d : Bool) (ops : List TWOp) :
    ((TW.init d).run ops).valid = true → T.isTree ((TW.init d).run ops).w.g = .ok true :=
  (run_inv ops _ (inv_init d (C14.winv_init d))).sound

/-! ### the hypotheses are satisfiable

A rooted tree `10 -> 11` (edge object 100), `10 -> 12` (edge object 101) built through observer 0; it
satisfies `WInv` by `tw_inv`. -/

/-- the history of the examples -/
def exHist : List TWOp :=
  [.createNode 0 10, .createNode 0 11, .createNode 0 12, .addSon 0 10 11 (some 100), .addSon 0 10 12 (some 101)]

example : WInv ((TW.init true).run exHist).w := tw_inv true exHist
/-- `addSon(11, 12, 102)` succeeds -/
example : (((TW.init true).run exHist).addSon 0 11 12 (some 102)).1 = .ok := by decide +kernel
/-- `setFather(11, 12, 100)` with the object of the branch to the former father succeeds (also on an unrooted tree) … -/
example : (((TW.init true).run exHist).setFather 0 11 12 (some 100)).1 = .ok := by decide +kernel
example : (((TW.init false).run exHist).setFather 0 11 12 (some 100)).1 = .ok := by decide +kernel
/-- … and the object 101 of the other branch is still there afterwards -/
example : (((TW.init true).run exHist).setFather 0 11 12 (some 100)).2.w.g.hasEdge 1 = true ∧
    (((TW.init true).run exHist).w.getObs 0).map (·.Eg) = some [(100, 0), (101, 1)] := by decide +kernel
/-- `setFather(11, 12, 101)`: 101 is attached, and not to the branch to the father of 11 -/
example : (((TW.init true).run exHist).w.getObs 0).map
    (fun o => o.hasEdge 101 && decide (((TW.init true).run exHist).edgeToFather o 11 ≠ some (some 101))) = some true := by decide +kernel
/-- `rootAt(11)` succeeds on this (valid) tree -/
example : (match ((TW.init true).run exHist).rootAt 0 11 with | .ok r => r.1 == .ok | _ => false) = true := by decide +kernel
/-- a history after which the flag is set -/
example : ((TW.init true).run (exHist ++ [.isValid])).valid = true := by decide +kernel

end Bpp.C15
