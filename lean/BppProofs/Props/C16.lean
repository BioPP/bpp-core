import BppProofs.Lemmas.TextToolsU
/-!
# C16 — text and option parsing never crashes, corrupts memory or hangs (TextTools, FileTools,
IntervalConstraint::readDescription)

Models: `BppModel/Text/Ub.lean` (UB-aware `std::string` primitives: an out-of-range index or
iterator is `.error .ub`, `substr` past the end is `.error .std`, a loop out of fuel is
`.error .hang`, the library's exception is `.error .bpp`), `BppModel/Text/TextToolsU.lean`,
`BppModel/Text/AttrU.lean` (path helpers, readDescription).
The property's predicate is `safe r` = "the call returned a value or raised the library's
exception"; the driver evaluates the same `safe` on the implementation's outcome class
(ASan + UBSan + libstdc++ assertions build, per-operation watchdog).
Clauses, for every input string (no bound on the length beyond `StrOk s`, i.e. `size ≤
std::string::max_size()`, which every `std::string` satisfies) and every option:
`…_safe` (no UB, no non-library exception, terminates) and `…_alloc` (output size bounded by a
stated polynomial of the input size).  Termination of the functions in this file is Lean's
totality check (structural recursion / folds; no fuel).
The other entry points are in `C16Tokenizer.lean`, `C16Keyval.lean`, `C16Attr.lean`, `C16Recog.lean`
(number recognisers), `C16ToInt.lean`, `C16Dist.lean` and `C16DistFuel.lean` (the text stage of
`readDiscreteDistribution`) and `C16Table.lean` (`DataTable::read`).
-/
namespace Bpp.C16
open Bpp.Text Bpp.Text.U

/-! ## character utilities: pure functions over `[begin, end)` — the outputs are bounded by the input
(only `replaceAll` can grow it) -/

theorem case_alloc (s : Str) : (toUpper s).length = s.length ∧ (toLower s).length = s.length := by
  simp [toUpper, toLower]

theorem strip_alloc (s : Str) :
    (removeWhiteSpaces s).length ≤ s.length ∧ (removeFirstWS s).length ≤ s.length ∧
    (removeLastWS s).length ≤ s.length ∧ (trim s).length ≤ s.length ∧
    (removeNewLines s).length ≤ s.length ∧ (removeLastNewLines s).length ≤ s.length := by
  refine ⟨List.length_filter_le _ _, removeFirstWS_le s, removeLastWS_le s, trim_le s, List.length_filter_le _ _, ?_⟩
  unfold removeLastNewLines
  have := (List.dropWhile_sublist isNewLine (l := s.reverse)).length_le
  simpa using this

theorem removeChar_alloc (s : Str) (c : Char) : (removeChar s c).length ≤ s.length :=
  List.length_filter_le _ _

theorem count_bounded (s pat : Str) : count s pat ≤ s.length := countSub_le pat s

/-- `replaceAll`: every match is replaced once; the result has at most `|s| + |s|·|r|` characters -/
theorem replaceAll_alloc (s q r : Str) : (replaceAll s q r).length ≤ s.length + s.length * r.length := by
  unfold replaceAll
  split
  · omega
  · exact replaceGo_le q r 0 s

example : replaceAll "hello world world".toList "world".toList "X".toList = "hello X X".toList := by
  -- the literals as lists of characters: evaluating `String.toList` the kernel would decode them byte by byte
  repeat rw [String.toList_ofList]
  decide +kernel
example : count "aaa".toList "aa".toList = 2 ∧ count "abc".toList [] = 3 := by decide +kernel

/-! ## number conversion

The theorems about the conversions are in `Props/C16Recog.lean` (the recognisers and `toDouble`
with every `s[i]` / `s[i + 1]` access checked: `isDecimalNumberU_refines`,
`isDecimalIntegerU_refines`, `toDoubleU_refines`, `toDoubleU_safe`) and `Props/C16ToInt.lean`
(`toInt` with every `long long` operation checked: `toIntU_refines`, `toIntU_safe`).  The two
remarks below are about the *outcome classes* `toDoubleClass` / `toIntClass` the other models
(readDescription, the lists of the distribution reader) are written with: they are total by
construction — `.ok` or the library's exception, nothing about the C++ is expressed in them — and
are tied to the UB-aware models by the refinement theorems just named. -/

/-- remark (true by construction of `toDoubleClass`): the outcome class is `.ok` or `.error .bpp`.
The statement about the code is `toDoubleU_safe`. -/
theorem toDoubleClass_total (dec sci : Char) (s : Str) : safe (toDoubleClass dec sci s) = true :=
  toDoubleClass_safe dec sci s

/-- remark (true by construction of `toIntClass`); the statement about the code is `toIntU_safe` /
`toIntU_refines`. -/
theorem toIntClass_total (sci : Char) (s : Str) : safe (toIntClass sci s) = true :=
  toIntClass_safe sci s

example : safe (toDoubleClass '.' 'e' "1e".toList) = true := toDoubleClass_total _ _ _

/-! ## fixed width

The full statement `∀ s n f, safe (resizeRight s n f)` is FALSE, of the model and of the code: the
result has `newSize` characters, and `newSize` is the caller's number, not a function of the text.
Beyond `max_size()` `reserve` throws `std::length_error` (`resize_beyond_max_size_std`); between the
memory that can actually be allocated and `max_size()` the code throws `std::bad_alloc` — also not
the library's exception — which the model, having no memory, cannot express.  The `_partial`
theorems below therefore hold of the code only under the additional, unmodelled assumption that
`newSize` characters can be allocated (props/C16.json, assumptions). -/

/-- `resizeRight` returns exactly `newSize` characters when `newSize ≤ max_size()` (and, in the code,
when that much memory can be allocated) -/
theorem resizeRight_safe_alloc_partial (s : Str) (n : Nat) (f : Char) (hn : n ≤ maxStr) :
    ∃ r, resizeRight s n f = .ok r ∧ r.length = n := by
  unfold resizeRight
  rw [if_neg (Nat.not_lt.mpr hn)]
  split
  · rename_i h
    exact ⟨_, rfl, by rw [List.length_append, List.length_replicate, Nat.add_sub_cancel' (Nat.le_of_lt h)]⟩
  · rename_i h
    exact ⟨_, rfl, List.length_take_of_le (Nat.le_of_not_lt h)⟩

/-- `resizeLeft`: `begin() + (size - newSize)` is a valid iterator (same restriction on `newSize`) -/
theorem resizeLeft_safe_alloc_partial (s : Str) (n : Nat) (f : Char) (hs : StrOk s) (hn : n ≤ maxStr) :
    ∃ r, resizeLeft s n f = .ok r ∧ r.length = n := by
  unfold resizeLeft
  rw [if_neg (Nat.not_lt.mpr hn)]
  split
  · rename_i h
    exact ⟨_, rfl, by rw [List.length_append, List.length_replicate, Nat.sub_add_cancel (Nat.le_of_lt h)]⟩
  · rename_i h
    have hle := Nat.le_of_not_lt h
    rw [wsub_eq hle (Nat.lt_of_le_of_lt (Nat.le_add_right _ 4) hs.lt_SZ), range_suffix (Nat.sub_le _ _) hs]
    exact ⟨_, rfl, by rw [List.length_drop, Nat.sub_sub_self hle]⟩

/-- the unguarded statement is false: a `newSize` above `max_size()` gives `std::length_error`, an
exception that is not the library's -/
theorem resize_beyond_max_size_std (s : Str) (n : Nat) (f : Char) (hn : maxStr < n) :
    resizeRight s n f = .error .std ∧ resizeLeft s n f = .error .std := by
  unfold resizeRight resizeLeft
  simp [hn]

example : safe (resizeRight "ab".toList (maxStr + 1) ' ') = false := by decide +kernel

example : resizeRight "hello world".toList 4 ' ' = .ok "hell".toList ∧
    resizeLeft "hello world".toList 4 ' ' = .ok "orld".toList ∧
    resizeLeft "ab".toList 4 '.' = .ok "..ab".toList := by
  repeat rw [String.toList_ofList]
  decide +kernel

/-! ## split -/

/-- **split never misbehaves**, whatever the chunk size (a `size_t`: 0, larger than the string,
so large that `size + n - 1` wraps): every `begin() + k` is within `[begin, end]` -/
theorem split_safe (s : Str) (n : Nat) (hs : StrOk s) : safe (split s n) = true := (split_spec s n hs).safe

/-- the chunks together are not larger than the string; there are at most `size + 1` of them -/
theorem split_alloc (s : Str) (n : Nat) (hs : StrOk s) (v : List Str) (h : split s n = .ok v) :
    sumLen v ≤ s.length ∧ v.length ≤ s.length + 1 := split_alloc' s n hs v h

/-- the code as found divided by zero for `n = 0` (repaired: it raises the library's exception) -/
theorem split_old_ub : splitOld "abc".toList 0 = .error .ub ∧ split "abc".toList 0 = .error .bpp := by
  decide

example : StrOk "hello world".toList := by
  repeat rw [String.toList_ofList]
  decide +kernel
example : split "hello world".toList 4 = .ok ["hell".toList, "o wo".toList, "rld".toList] := by
  repeat rw [String.toList_ofList]
  decide +kernel
example : split "abc".toList 18446744073709551615 = .ok [] := by decide   -- `size + n - 1` wraps: no chunk at all

/-! ## block removal -/

/-- three-argument overload: returns or raises the library's exception (unmatched closing
character); the output is not longer than the input -/
theorem removeSubstrings3_safe (b e : Char) (s : Str) : safe (removeSubstrings3 b e 0 s) = true :=
  (removeSubstrings3_spec b e s 0).safe

theorem removeSubstrings3_alloc (b e : Char) (s r : Str) (h : removeSubstrings3 b e 0 s = .ok r) :
    r.length ≤ s.length := (removeSubstrings3_spec b e s 0).of_ok h

example : removeSubstrings3 '(' ')' 0 "a(b(c)d)e".toList = .ok "ae".toList ∧
    removeSubstrings3 '(' ')' 0 "a)b".toList = .error .bpp := by
  repeat rw [String.toList_ofList]
  decide +kernel

/-- **five-argument overload** (exceptions lists): no `substr` past the end, no `int` overflow of
the block counter (`size < 2^31`), the output has at most `(size+1)²` characters (an unclosed nested
block copies the text before it once per opening character) -/
theorem removeSubstrings5_safe (s : Str) (b e : Char) (xb xe : List Str) (hs : s.length < 2147483648) :
    safe (removeSubstrings5 s b e xb xe) = true := (removeSubstrings5_spec s b e xb xe hs).safe

theorem removeSubstrings5_alloc (s : Str) (b e : Char) (xb xe : List Str) (hs : s.length < 2147483648) (r : Str)
    (h : removeSubstrings5 s b e xb xe = .ok r) : r.length ≤ (s.length + 1) * (s.length + 1) :=
  (removeSubstrings5_spec s b e xb xe hs).of_ok h

/-- the code as found: an exception string whose block character lies further right than the
current position made `i - pos` wrap and `substr` throw `std::out_of_range` -/
theorem removeSubstrings5_old_std :
    removeSubstrings5Old "(a)".toList '(' ')' ["x(".toList] [] = .error .std ∧
    removeSubstrings5 "(a)".toList '(' ')' ["x(".toList] [] = .ok [] := by decide +kernel

example : removeSubstrings5 "f(x) = <a> (b) c".toList '(' ')' [] [] = .ok "f = <a>  c".toList := by
  repeat rw [String.toList_ofList]
  decide +kernel
/-- the quadratic growth is real: the text before an unclosed nest is copied per `(` -/
example : removeSubstrings5 "ab((".toList '(' ')' [] [] = .ok "abab(ab((".toList := by
  repeat rw [String.toList_ofList]
  decide +kernel

/-! ## path helpers -/

theorem getFileName_safe_alloc (p : Str) (c : Char) (hp : StrOk p) :
    ∃ r, getFileName p c = .ok r ∧ r.length ≤ p.length := by
  obtain ⟨bg, hbg, hbl⟩ := toPtrdiff_wadd_toSz_one (o := findLastOf [c] p) hp fun _ => findLastOf_lt
  obtain ⟨en, hen, _, hel⟩ := toPtrdiff_toSz (o := findLastOf ['.'] p) hp fun _ => findLastOf_lt
  unfold getFileName
  simp only [hen, hbg]
  split
  · exact ⟨[], rfl, Nat.zero_le _⟩
  · -- `begin ≤ end`, so `end` is an index: the extension is erased first, then what precedes the name
    rw [eraseRange_ok (by omega) (by omega) (by omega), bind_ok]
    rw [eraseRange_ok (by omega) (by omega) (by simp; omega)]
    exact ⟨_, rfl, by simp; omega⟩

/-- after the repair: a path without separator has the empty parent -/
theorem getParent_safe_alloc (p : Str) (c : Char) (hp : StrOk p) :
    ∃ r, getParent p c = .ok r ∧ r.length ≤ p.length := by
  unfold getParent getParentG
  cases h : findLastOf [c] p with
  | none => exact ⟨[], by simp, by simp⟩
  | some k =>
    have := findLastOf_lt h
    have hm := maxStr_lt
    unfold StrOk at hp
    simp only [Option.isNone_some, Bool.and_false, toSz]
    rw [toPtrdiff_eq (by omega), eraseRange_ok (by omega) (by omega) (by omega)]
    exact ⟨_, rfl, by simp; omega⟩

theorem getExtension_safe_alloc (p : Str) : ∃ r, getExtension p = .ok r ∧ r.length ≤ p.length :=
  ⟨_, substrFrom_ok (wadd_toSz_one_le fun _ => findLastOf_lt), List.length_drop ▸ Nat.sub_le _ _⟩

/-- the code as found erased from `begin() + (ptrdiff_t) npos` = `begin() - 1` -/
theorem getParent_old_ub : getParentOld "abc".toList '/' = .error .ub ∧ getParent "abc".toList '/' = .ok [] := by
  decide

example : getFileName "/home/user/file.txt".toList '/' = .ok "file".toList ∧
    getParent "/home/user/file.txt".toList '/' = .ok "/home/user".toList ∧
    getExtension "/home/user/file.txt".toList = .ok "txt".toList ∧
    getExtension "abc".toList = .ok "abc".toList ∧ getFileName "abc".toList '/' = .ok [] := by
  repeat rw [String.toList_ofList]
  decide +kernel

/-! ## interval description -/

/-- `IntervalConstraint::readDescription`: `desc[0]`, `desc[dc]` and both `substr` are within the
string whenever they are reached; everything else raises the library's exception -/
theorem readDescription_safe (desc : Str) : safe (readDescription desc) = true := by
  unfold readDescription
  simp only
  cases hdc : findFirstOf ['[', ']'] desc 1 with
  | none => rfl
  | some dc =>
    cases hp : findFrom [';'] desc 0 with
    | none => rfl
    | some pdp =>
      obtain ⟨hd1, hd2⟩ := findFirstOf_bounds hdc
      simp only
      rw [strAt_ok (by omega), bind_ok]
      split
      · rfl
      · rename_i hcond
        simp only [Bool.or_eq_true, decide_eq_true_eq, not_or, Nat.not_le] at hcond
        have h1 := wadd_le pdp 1
        rw [substr_ok _ (by omega), bind_ok, substr_ok _ (by omega), bind_ok, strAt_ok (by omega), bind_ok]
        refine safe_bind (boundOk_safe _ _) (fun _ _ => ?_)
        refine safe_bind (boundOk_safe _ _) (fun _ _ => ?_)
        rfl

example : readDescription "]-inf; +inf[".toList = .ok (false, false, "-inf".toList, "+inf".toList) := by
  repeat rw [String.toList_ofList]
  decide +kernel
example : readDescription "[-inf;inf] ".toList = .ok (true, true, "-inf".toList, "inf".toList) := by
  repeat rw [String.toList_ofList]
  decide +kernel
example : readDescription "[0,1]".toList = .error .bpp := by decide +kernel
example : readDescription [] = .error .bpp := by decide +kernel

end Bpp.C16
