import BppProofs.Lemmas.RandGen
/-!
# C18 — "with a fixed seed the random stream is reproducible"

Theorems about the state machine of `BppModel/RandGen.lean`: the generator is an abstract state,
`setSeed` overwrites it, every modelled routine is a function of (state, arguments) only (`exec`).
Everything here holds for EVERY interpretation `P` of the standard library's primitives, every
history and every initial state.

What these theorems are NOT: evidence about the code.  `reproducible` is the determinism of a pure
functional model in which `setSeed` overwrites the only state (with an empty history it is `rfl`);
its whole content is the modelling decision "the generator is the only state: every std::
distribution object is constructed inside the call that uses it" (RandomTools.h:99-202;
ContingencyTableGenerator.cpp:68-71 re-initialises `jwork_`), which is TRUSTED.  The evidence for
the clause "with a fixed seed the stream is reproducible" is the execution of `repro` / `repro1`
(28 routines, two different histories before the same seed each) — which also cover what `Call`
does not have (the rejection loops of the `<Family>::randC`, `rand()` through the families) — and
`hidden_state_breaks_reproducibility` shows what the model would be if that reading were wrong.
-/
namespace Bpp.C18
open Bpp Bpp.Rand Bpp.RandGen

variable {σ α : Type} [Scalar α]

/-- `setSeed s` leaves the generator in the state `seed s`, whatever happened before and whatever
state the process started in -/
theorem setSeed_resets (P : Prims σ α) (hist : List (Call α)) (s : Nat) (g : σ) :
    (run P (hist ++ [Call.setSeed s]) g).2 = P.seed s := by
  rw [run_append]; rfl

/-- `reproducible`: the same seed gives the same stream.  For every history `h1`, `h2` of earlier
calls (of any of the modelled routines, with any arguments, `setSeed` included), every initial
generator state, every seed and every program `prog` of calls made after `setSeed(seed)`: the
values returned by `prog` and the generator state it ends in are the same. -/
theorem reproducible (P : Prims σ α) (h1 h2 prog : List (Call α)) (seed : Nat) (g1 g2 : σ) :
    (run P (h1 ++ Call.setSeed seed :: prog) g1).1.drop (h1.length + 1)
      = (run P (h2 ++ Call.setSeed seed :: prog) g2).1.drop (h2.length + 1) ∧
    (run P (h1 ++ Call.setSeed seed :: prog) g1).2 = (run P (h2 ++ Call.setSeed seed :: prog) g2).2 := by
  have key : ∀ (h : List (Call α)) (g : σ),
      (run P (h ++ Call.setSeed seed :: prog) g).1.drop (h.length + 1) = (run P prog (P.seed seed)).1 ∧
      (run P (h ++ Call.setSeed seed :: prog) g).2 = (run P prog (P.seed seed)).2 := by
    intro h g
    rw [run_append]
    constructor
    · simp only [run]
      rw [List.drop_append, List.drop_of_length_le (by rw [run_length]; omega), run_length]
      simp [exec]
    · simp only [run]; rfl
  exact ⟨(key h1 g1).1.trans (key h2 g2).1.symm, (key h1 g1).2.trans (key h2 g2).2.symm⟩

/-- every routine is a function of (generator state, arguments) only: two executions that reach
the same generator state — by whatever histories — get the same answer to the same call and
continue from the same state -/
theorem routine_depends_on_state_and_arguments_only (P : Prims σ α) (h1 h2 : List (Call α)) (g1 g2 : σ) (c : Call α)
    (hstate : (run P h1 g1).2 = (run P h2 g2).2) :
    (run P (h1 ++ [c]) g1).1.getLast? = (run P (h2 ++ [c]) g2).1.getLast? ∧
    (run P (h1 ++ [c]) g1).2 = (run P (h2 ++ [c]) g2).2 := by
  rw [run_append, run_append, hstate]
  simp [run]

/-- the state-machine routines are the draw-taking models of `BppModel/Rand.lean` fed with the
primitives' results (so every theorem of `Props/C18.lean`, which quantify over all draws, holds of
what the machine returns) -/
theorem exec_refines_draw_models (P : Prims σ α) (g : σ) (v : List Int) (w : List α) (replace : Bool)
    (hv : v.isEmpty = false) :
    exec P (.pickOne v replace) g = (.pick (pickOne v replace (P.uInt v.length g).1), (P.uInt v.length g).2) ∧
    exec P (.pickOneW v w replace) g
      = (.pickW (pickOneW v w replace (P.uReal (Scalar.ofInt 1) g).1), (P.uReal (Scalar.ofInt 1) g).2) ∧
    (∀ k, exec P (.getSampleW v w k true) g
      = (.ints (getSampleW v w k true (drawUnits P k g).1), (drawUnits P k g).2)) ∧
    (∀ n probs, multinomialRaises probs n = false → exec P (.randMultinomial n probs) g
      = (.nats (randMultinomial probs n (drawUnits P n g).1), (drawUnits P n g).2)) ∧
    (∀ a b, exec P (.randGamma2 a b) g = (.scalar (P.gamma a (Scalar.ofInt 1 / b) g).1, (P.gamma a (Scalar.ofInt 1 / b) g).2)) := by
  refine ⟨?_, ?_, ?_, ?_, ?_⟩
  · simp [exec, hv]
  · simp [exec, hv]
  · intro k; simp [exec, hv]
  · intro n probs hok; simp [exec, hok]
  · intro a b; simp [exec]

omit [Scalar α] in
/-- in particular the tables the machine draws have the requested margins, for every
interpretation of the float-dependent walk -/
theorem rcont2_on_generator_margins (P : Prims σ α) (rows cols : List Nat) (g : σ) (T : List (List Int))
    (h : (rcont2G P rows cols g).1 = .ok T) : marginsOk rows cols T = true := by
  exact rcont2_marginsOk rows cols _ T (rcont2G_eq P rows cols g ▸ h)

/-! ## a routine with hidden state is NOT reproducible

The machine with a function-static `std::normal_distribution` (`HiddenNormal`): the generator is a
counter, a round of the polar method returns the pair `(g, g + 1/2)`.  After one normal draw the
object still holds `1/2`-shifted value of the old seed; re-seeding does not remove it. -/
theorem hidden_state_breaks_reproducibility :
    let pair : Nat → (ℝ × ℝ) × Nat := fun g => (((g : ℝ), (g : ℝ) + 1 / 2), g + 1)
    let seed : Nat → Nat := fun s => 100 * s
    let fresh : HiddenNormal Nat ℝ := ⟨0, none⟩
    -- history A: setSeed(1); randGaussian          history B: randGaussian; setSeed(1); randGaussian
    let a := (HiddenNormal.randGaussian pair 0 1 (HiddenNormal.setSeed seed 1 fresh)).1
    let b := (HiddenNormal.randGaussian pair 0 1 (HiddenNormal.setSeed seed 1 (HiddenNormal.randGaussian pair 0 1 fresh).2)).1
    a ≠ b := by
  simp only [HiddenNormal.randGaussian, HiddenNormal.setSeed]
  simp only [ScalarReal.sqrt_eq, Real.sqrt_one]
  norm_num

/-! non-vacuity of `reproducible`: a counter generator -/
example :
    (run counterPrims [.uniformInt 7, .setSeed 3, .pickOne [5, 6, 7, 8] false, .uniformInt 7] 0).1.drop 2
      = (run counterPrims [.setSeed 3, .pickOne [5, 6, 7, 8] false, .uniformInt 7] 55).1.drop 1 :=
  (reproducible counterPrims [.uniformInt 7] [] [.pickOne [5, 6, 7, 8] false, .uniformInt 7] 3 0 55).1

end Bpp.C18
