import BppProofs.Lemmas.OptimCoord
/-!
# C10, part 8 — the coordinate-wise optimisers in full

`SimpleMultiDimensions` (Brent's method along each coordinate in turn, with outward bracketing from
`[v - t, v + t]`) and `SimpleNewtonMultiDimensions` (Newton along each coordinate in turn), model in
`BppModel/OptimMulti.lean`, on the objective of the harness: any objective `obj : List ℝ → ℝ`, any
derivatives, any dimension, any subset of the function's parameters in any order, any constraints
(interval or none), the three constraint policies, any tolerance / cap / number of steps.  Over `ℝ`.

Hypotheses on the list given to `init` (what `ParameterList` and the harness guarantee): precision 0
and feasible values (`Good`), distinct names that are parameters of the function.
-/
namespace Bpp.C10
open Bpp Bpp.Optim

/-- **simple_multi_descent** (with `reported_value_consistent` and `Spec.stateAt`).  After `init`
and `optimize`:
* the value returned is not above the objective at the starting point (the function's point with the
  values of `init`'s list written into it) — every coordinate search ends no higher than it began
  (`brent_descent`: Brent never loses its initial guess), and what it finds is copied back;
* it is the objective at the point the function has been left at, that point holds the values the
  optimiser reports, and it is the optimiser's current value. -/
theorem simple_multi_descent (obj : List ℝ → ℝ) (D : Deriv ℝ) (cap : Option Nat) (fuel fuel' : Nat)
    (s s1 s2 : St (Fn ℝ) (Simple ℝ) ℝ) (params : PList ℝ) (v : ℝ)
    (hgood : Good params) (hnd : (names params).Nodup) (hlt : ∀ n ∈ names params, n < s.fn.point.length)
    (hinit : (simpleAlgo (Fn.iface obj D cap) fuel).init s params = .ok s1)
    (hopt : (simpleAlgo (Fn.iface obj D cap) fuel).optimize fuel' s1 = .ok (s2, v)) :
    Spec.descent v (obj (matchPoint s.fn.point params)) = true ∧
    Spec.consistent obj v s2.fn.point = true ∧
    Spec.stateAt s2.fn.point (names s2.core.params) (values s2.core.params) = true ∧
    s2.core.cur = v := by
  obtain ⟨hi, -⟩ := simple_init_spec obj D cap fuel s s1 params hgood ⟨hnd, hlt⟩ hinit
  obtain ⟨h2, hcur⟩ := multi_optimize_spec obj (simpleAlgo (Fn.iface obj D cap) fuel) rfl _ _ _
    (fun u u' w hu _ h => by
      obtain ⟨a, b, c, -⟩ := simpleDoStep_spec obj D cap fuel _ _ ⟨hnd, hlt⟩ u u' w hu h
      exact ⟨a, b, c⟩) fuel' s1 s2 v hi hopt
  exact h2.report obj hcur

/-- **simple_newton_descent** (with `reported_value_consistent` and `Spec.stateAt`): the same for
Newton along each coordinate in turn (`newton1d_descent` for each coordinate search). -/
theorem simple_newton_descent (obj : List ℝ → ℝ) (D : Deriv ℝ) (cap : Option Nat) (fuel fuel' : Nat)
    (s s1 s2 : St (Fn ℝ) (SNewton ℝ) ℝ) (params : PList ℝ) (v : ℝ)
    (hgood : Good params) (hnd : (names params).Nodup) (hlt : ∀ n ∈ names params, n < s.fn.point.length)
    (hinit : (snewtonAlgo (Fn.iface obj D cap) fuel).init s params = .ok s1)
    (hopt : (snewtonAlgo (Fn.iface obj D cap) fuel).optimize fuel' s1 = .ok (s2, v)) :
    Spec.descent v (obj (matchPoint s.fn.point params)) = true ∧
    Spec.consistent obj v s2.fn.point = true ∧
    Spec.stateAt s2.fn.point (names s2.core.params) (values s2.core.params) = true ∧
    s2.core.cur = v := by
  obtain ⟨hi, -⟩ := snewton_init_spec obj D cap fuel s s1 params hgood ⟨hnd, hlt⟩ hinit
  obtain ⟨h2, hcur⟩ := multi_optimize_spec obj (snewtonAlgo (Fn.iface obj D cap) fuel) rfl _ _ _
    (fun u u' w hu _ h => snewtonDoStep_spec obj D cap fuel _ _ ⟨hnd, hlt⟩ u u' w hu h) fuel' s1 s2 v hi hopt
  exact h2.report obj hcur

/-- non-vacuity: a list as the harness builds them (an interval constraint on the first parameter,
none on the second) satisfies the hypotheses -/
example : let c : Interval ℝ := ⟨.fin 0, .fin 10, true, true, 0⟩
    let params : PList ℝ := [⟨0, ⟨4, 0, some c, false⟩⟩, ⟨1, ⟨-2, 0, none, false⟩⟩]
    Good params ∧ (names params).Nodup ∧ ∀ n ∈ names params, n < ([4, -2] : List ℝ).length := by
  intro c params
  refine ⟨?_, by simp [params, names], by simp [params, names]⟩
  intro q hq
  simp only [params, List.mem_cons, List.not_mem_nil, or_false] at hq
  rcases hq with rfl | rfl
  · exact ⟨rfl, closed_isCorrect (by norm_num) (by norm_num)⟩
  · exact ⟨rfl, rfl⟩

end Bpp.C10
