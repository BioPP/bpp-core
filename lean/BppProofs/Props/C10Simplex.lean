import BppProofs.Lemmas.OptimSimplex
/-!
# C10, part 9 — `DownhillSimplexMethod` in full

The downhill simplex method (Nelder–Mead; model in `BppModel/OptimMulti.lean`, transcribed after the
`fix:` commits of findings/C10.json), on the objective of the harness: any objective
`obj : List ℝ → ℝ`, any dimension, any subset of the function's parameters in any order, any
constraints (interval or none), the three constraint policies, any tolerance / cap / number of steps.
Over `ℝ`.

Hypotheses on the list given to `init` (what `ParameterList` and the harness guarantee): precision 0
and feasible values (`Good`), distinct names that are parameters of the function.

The invariant (`Simplex.Inv pt0 P0`, `BppProofs/Lemmas/OptimSimplex.lean`): `pt0` is the function's
point when `init` was called and `P0` the list given to `init` with the policy applied; the function
has not moved off the names of `P0`; the optimiser's list and every vertex are `P0` holding other
feasible values; the list of sums carries the same names, precision 0 and no constraint; the lists of
vertices and of vertex values have the same length and every vertex value is the objective at `pt0`
with the vertex written into it.
-/
namespace Bpp.C10
open Bpp Bpp.Optim

/-- **simplex_best_monotone**: one `doStep` from a state that satisfies the invariant returns a value
that is not above *any* vertex value `y[j]` the step began with — in particular the best vertex value
never increases.  (The ranking loop finds an argmin of `y`; a trial point replaces the highest vertex
only when it is strictly better; the contraction around the lowest vertex leaves that vertex and its
value alone.)  The invariant is kept, and the value returned is the vertex value `y[iLowest]` of the
vertex `simplex[iLowest]` that the step leaves in the optimiser's list. -/
theorem simplex_best_monotone (obj : List ℝ → ℝ) (D : Deriv ℝ) (cap : Option Nat)
    (pt0 : List ℝ) (P0 : PList ℝ) (hg : Good P0) (s s' : St (Fn ℝ) (Simplex ℝ) ℝ) (v : ℝ)
    (hi : Simplex.Inv obj pt0 P0 s) (h : simplexDoStep (Fn.iface obj D cap) s = .ok (s', v)) :
    (∀ (j : Nat) (yj : ℝ), s.ext.y[j]? = some yj → v ≤ yj) ∧
    Simplex.Inv obj pt0 P0 s' ∧
    s'.ext.simplex[s'.ext.iLowest]? = some s'.core.params ∧ s'.ext.y[s'.ext.iLowest]? = some v := by
  obtain ⟨a, b, c, d⟩ := simplexDoStep_spec obj D cap pt0 P0 hg s s' v hi h
  exact ⟨d, a, b, c⟩

/-- **simplex_step_consistent**: the value one `doStep` returns is the objective at the parameters the
step leaves in the optimiser's list (written into the point the function was at when `init` was
called; the function itself has not moved off those names). -/
theorem simplex_step_consistent (obj : List ℝ → ℝ) (D : Deriv ℝ) (cap : Option Nat)
    (pt0 : List ℝ) (P0 : PList ℝ) (hg : Good P0) (s s' : St (Fn ℝ) (Simplex ℝ) ℝ) (v : ℝ)
    (hi : Simplex.Inv obj pt0 P0 s) (h : simplexDoStep (Fn.iface obj D cap) s = .ok (s', v)) :
    v = obj (matchPoint pt0 s'.core.params) ∧ names s'.core.params = names P0 ∧
    s'.fn.point.length = pt0.length ∧ ∀ i, i ∉ names P0 → s'.fn.point[i]? = pt0[i]? := by
  obtain ⟨a, b, c, _⟩ := simplexDoStep_spec obj D cap pt0 P0 hg s s' v hi h
  exact ⟨a.exact.2 _ _ _ b c, a.params.names, a.off.1, a.off.2⟩

/-- `init` establishes the invariant of `simplex_best_monotone` / `simplex_step_consistent` (so they are
about every step of a run: `simplex_run_invariant`) -/
theorem simplex_init_invariant (obj : List ℝ → ℝ) (D : Deriv ℝ) (cap : Option Nat)
    (s s1 : St (Fn ℝ) (Simplex ℝ) ℝ) (params : PList ℝ) (hgood : Good params)
    (hinit : (simplexAlgo (Fn.iface obj D cap)).init s params = .ok s1) :
    Good (applyPolicy s.core.policy params) ∧
    Simplex.Inv obj s.fn.point (applyPolicy s.core.policy params) s1 :=
  ⟨applyPolicy_good _ _ hgood, (simplexInit_spec obj D cap s s1 params hgood hinit).1⟩

/-- a step of the template (`AbstractOptimizer::step`: `doStep`, then the stop condition) keeps the
invariant -/
theorem simplex_run_invariant (obj : List ℝ → ℝ) (D : Deriv ℝ) (cap : Option Nat)
    (pt0 : List ℝ) (P0 : PList ℝ) (hg : Good P0) (s s' : St (Fn ℝ) (Simplex ℝ) ℝ) (v : ℝ)
    (hi : Simplex.Inv obj pt0 P0 s) (h : (simplexAlgo (Fn.iface obj D cap)).step s = .ok (s', v)) :
    Simplex.Inv obj pt0 P0 s' := by
  obtain ⟨s1, hd1, hc⟩ := step_cases _ s h
  obtain ⟨a, _, _, _⟩ := simplexDoStep_spec obj D cap pt0 P0 hg s s1 v hi hd1
  rcases hc with ⟨_, rfl⟩ | ⟨_, rfl⟩
  · exact ⟨a.off, a.params, a.verts, a.psum, a.exact⟩
  · exact ⟨a.off, a.params, a.verts, a.psum, a.exact⟩

/-- **simplex_descent** (with `reported_value_consistent` and `Spec.stateAt`).  After `init` and
`optimize` of a `DownhillSimplexMethod`:
* the value returned is not above the objective at the starting point (the function's point with the
  values of `init`'s list written into it): the starting point is vertex 0 of the initial simplex,
  every step returns a value not above any vertex value it began with (`simplex_best_monotone`), and
  `optimize` ends by evaluating the function at the vertex `iLowest`, whose value that is;
* it is the objective at the point the function has been left at;
* that point holds the values the optimiser reports (`getParameters()` is the vertex `iLowest`).

No hypothesis on the dimension is needed (with an empty list `doStep` raises, which `hopt` excludes;
without a step the statement holds as well).

The optimiser need not be a freshly constructed one: `doInit` (repaired, findings/C10.json) forgets the
ranking of an earlier run, so that `optimize` reports the starting vertex when the loop makes no step
(`nbEvalMax ≤ 1`).  Before the repair a re-initialised optimiser with a stale `iLowest_` reported
another vertex of the new simplex, with a larger value (corpus/C10/simplex_reinit.txt). -/
theorem simplex_descent (obj : List ℝ → ℝ) (D : Deriv ℝ) (cap : Option Nat) (fuel : Nat)
    (s s1 s2 : St (Fn ℝ) (Simplex ℝ) ℝ) (params : PList ℝ) (v : ℝ)
    (hgood : Good params) (hnd : (names params).Nodup) (hlt : ∀ n ∈ names params, n < s.fn.point.length)
    (hinit : (simplexAlgo (Fn.iface obj D cap)).init s params = .ok s1)
    (hopt : simplexOptimize (Fn.iface obj D cap) fuel s1 = .ok (s2, v)) :
    Spec.descent v (obj (matchPoint s.fn.point params)) = true ∧
    Spec.consistent obj v s2.fn.point = true ∧
    Spec.stateAt s2.fn.point (names s2.core.params) (values s2.core.params) = true := by
  obtain ⟨h1, h2, h3, -, -⟩ := simplex_run obj D cap fuel s s1 s2 params v hgood hnd hlt hinit hopt
  exact ⟨Spec.descent_iff.2 h1, Spec.consistent_iff.2 h2, h3.stateAt⟩

/-- what else holds at the end of `simplex_descent`: the reported parameters have the names of `init`'s
list, the function is at the starting point with them written into it, and the run's invariant still
holds (the reported list is the vertex `iLowest`, whose stored value is `v`) -/
theorem simplex_report (obj : List ℝ → ℝ) (D : Deriv ℝ) (cap : Option Nat) (fuel : Nat)
    (s s1 s2 : St (Fn ℝ) (Simplex ℝ) ℝ) (params : PList ℝ) (v : ℝ)
    (hgood : Good params) (hnd : (names params).Nodup) (hlt : ∀ n ∈ names params, n < s.fn.point.length)
    (hinit : (simplexAlgo (Fn.iface obj D cap)).init s params = .ok s1)
    (hopt : simplexOptimize (Fn.iface obj D cap) fuel s1 = .ok (s2, v)) :
    names s2.core.params = names params ∧
    s2.fn.point = matchPoint s.fn.point s2.core.params ∧
    s2.ext.simplex[s2.ext.iLowest]? = some s2.core.params ∧
    s2.ext.y[s2.ext.iLowest]? = some v ∧
    Good s2.core.params := by
  obtain ⟨-, h2, -, h4, h5⟩ := simplex_run obj D cap fuel s s1 s2 params v hgood hnd hlt hinit hopt
  obtain ⟨yl, hyl, _⟩ := h5.below
  refine ⟨by rw [h5.inv.params.names, applyPolicy_names], h4, h5.best, ?_, h5.inv.params.good (applyPolicy_good _ _ hgood)⟩
  rw [hyl, h5.inv.exact.2 _ _ _ h5.best hyl, h2, h4]

/-- non-vacuity: a list as the harness builds them (an interval constraint on the first parameter,
none on the second) satisfies the hypotheses -/
example : let c : Interval ℝ := ⟨.fin 0, .fin 10, true, true, 0⟩
    let params : PList ℝ := [⟨0, ⟨4, 0, some c, false⟩⟩, ⟨1, ⟨-2, 0, none, false⟩⟩]
    Good params ∧ (names params).Nodup ∧ (∀ n ∈ names params, n < ([4, -2] : List ℝ).length) := by
  intro c params
  refine ⟨?_, by simp [params, names], by simp [params, names]⟩
  intro q hq
  simp only [params, List.mem_cons, List.not_mem_nil, or_false] at hq
  rcases hq with rfl | rfl
  · exact ⟨rfl, closed_isCorrect (by norm_num) (by norm_num)⟩
  · exact ⟨rfl, rfl⟩

end Bpp.C10
