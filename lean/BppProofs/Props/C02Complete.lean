import BppProofs.Props.C02
import BppProofs.Lemmas.ParamListExt
/-!
# C02, completion: every routine of the anchored API inside the statement

Property theorems only (helper lemmas: `Lemmas/ParamListExt.lean`).  The model additions are in
`BppModel/ParamListExt.lean`: the whole-parameter setters after the repair, the object-valued
accessors, the owner's read routes through the namespace, the extended machine `xstep`/`xrun`
(`XOp.base op` = the machine of `BppModel/ParamList.lean`, the one `Props/C02.lean` is about; the protected forwarders of
`AbstractParametrizable` are the list-level operations on the owner's list).
-/
namespace Bpp.C02
open Bpp Bpp.ParamList

/-! ## Whole-parameter assignment (`setAllParameters`, `setParameters`; repaired code) -/

/-- **whole_assignment_atomic** (no hypothesis: any heap, any lists, shared objects, duplicated
names): `setParameters(params)` succeeds exactly when every name of `params` is in the list,
`setAllParameters(params)` exactly when every name of the list is in `params`; otherwise
ParameterNotFoundException is raised and the heap is *unchanged*. -/
theorem whole_assignment_atomic (h : Store) (l src : List ObjId) :
    (((setParametersA h l src).err = none ↔ ∀ s ∈ src, nameOf h s ∈ names h l) ∧
     (∀ e, (setParametersA h l src).err = some e → e = .notfound ∧ (setParametersA h l src).heap = h)) ∧
    (((setAllParametersA h src l).err = none ↔ ∀ i ∈ l, nameOf h i ∈ names h src) ∧
     (∀ e, (setAllParametersA h src l).err = some e → e = .notfound ∧ (setAllParametersA h src l).heap = h)) := by
  obtain ⟨a1, a2⟩ := setParametersA_err_iff h l src
  obtain ⟨b1, b2⟩ := setAllParametersA_err_iff h src l
  refine ⟨⟨?_, a2⟩, ⟨?_, b2⟩⟩
  · rw [a1]; exact forall_congr' (fun s => forall_congr' (fun _ => hasParameter_iff h l _))
  · rw [b1]; exact forall_congr' (fun s => forall_congr' (fun _ => hasParameter_iff h src _))

/-- **whole_assignment_exact**: on success every target found by a source name is a copy of that
source entry — value *and constraint* — (`expectedPar`, `expectedAllPar`), every other object is
untouched, no name changes (so `names_unique` is kept), nothing is allocated. -/
theorem whole_assignment_exact (h : Store) (l src : List ObjId) :
    ((names h src).Nodup → (setParametersA h l src).err = none →
      (setParametersA h l src).heap.next = h.next ∧
      (∀ x, nameOf (setParametersA h l src).heap x = nameOf h x) ∧
      ∀ i, (setParametersA h l src).heap.get i = expectedPar h l src i) ∧
    ((names h l).Nodup → (setAllParametersA h src l).err = none →
      (setAllParametersA h src l).heap.next = h.next ∧
      (∀ x, nameOf (setAllParametersA h src l).heap x = nameOf h x) ∧
      ∀ i, (setAllParametersA h src l).heap.get i = expectedAllPar h l src i) := by
  refine ⟨fun nd ok => ?_, fun nd ok => ?_⟩
  · have all := List.all_eq_true.2 ((setParametersA_err_iff h l src).1.1 ok)
    exact (setParametersA_spec h l src nd all).2
  · have all := List.all_eq_true.2 ((setAllParametersA_err_iff h src l).1.1 ok)
    exact (setAllParametersA_spec h src l nd all).2

/-- read-out of `expectedPar`: a target carries value and constraint of the source entry of its name -/
theorem whole_assignment_copies (h : Store) (l src : List ObjId) (nd : (names h src).Nodup)
    (ok : (setParametersA h l src).err = none) (s t : ObjId) (hs : s ∈ src)
    (ht : find? h l (nameOf h s) = some t) : (setParametersA h l src).heap.get t = h.get s := by
  rw [((whole_assignment_exact h l src).1 nd ok).2.2 t]
  exact written_source (fun _ s => s) nd hs ht

/-- non-vacuity: a source with a new constraint, all names present -/
example :
    let s := run State.init [.add 0 ⟨"a", 1, none⟩, .add 0 ⟨"b", 2, none⟩,
                              .add 1 ⟨"b", 5, some ⟨.fin 0, .posInf, true, false⟩⟩]
    (setParametersA s.heap (s.lists 0) (s.lists 1)).err = none ∧
    ((setParametersA s.heap (s.lists 0) (s.lists 1)).heap.get 1) = ⟨"b", 5, some ⟨.fin 0, .posInf, true, false⟩⟩ := by
  decide

/-- before the repair `setParameters([a, zz, b])` on `[a, b]` overwrote `a`, then raised -/
theorem setParameters_unrepaired_partial_witness :
    let s := run State.init [.add 0 ⟨"a", 1, none⟩, .add 0 ⟨"b", 2, none⟩,
                              .add 1 ⟨"a", 9, none⟩, .add 1 ⟨"zz", 1, none⟩, .add 1 ⟨"b", 9, none⟩]
    (setParameters s.heap (s.lists 0) (s.lists 1)).err = some .notfound ∧
    ((setParameters s.heap (s.lists 0) (s.lists 1)).heap.get 0).value = 9 ∧
    (setParametersA s.heap (s.lists 0) (s.lists 1)).heap.get 0 = s.heap.get 0 := by decide

/-- before the repair `setAllParameters([a, c])` on `[a, b, c]` overwrote `a`, then raised at `b` -/
theorem setAllParameters_unrepaired_partial_witness :
    let s := run State.init [.add 0 ⟨"a", 1, none⟩, .add 0 ⟨"b", 2, none⟩, .add 0 ⟨"c", 3, none⟩,
                              .add 1 ⟨"a", 9, none⟩, .add 1 ⟨"c", 9, none⟩]
    (setAllParameters s.heap (s.lists 1) (s.lists 0)).err = some .notfound ∧
    ((setAllParameters s.heap (s.lists 1) (s.lists 0)).heap.get 0).value = 9 ∧
    (setAllParametersA s.heap (s.lists 1) (s.lists 0)).heap.get 0 = s.heap.get 0 := by decide

/-! ## `getCommonParametersWith`, index vectors, object-valued lookups -/

/-- **common_exact**: `l.getCommonParametersWith(src)` is a list of fresh, pairwise different
objects — clones of exactly the entries of `src` whose name is in `l`, in `src`'s order; no
existing object changes; its names are pairwise different when `src`'s are. -/
theorem common_exact (h : Store) (l src : List ObjId) (vs : Valid h src) :
    let r := getCommonParametersWith h l h src
    r.2.map r.1.get = (src.filter (fun s => hasParameter h l (nameOf h s))).map h.get ∧
    (∀ i ∈ r.2, h.next ≤ i) ∧ r.2.Nodup ∧ (∀ i, i < h.next → r.1.get i = h.get i) ∧
    ((names h src).Nodup → (names r.1 r.2).Nodup) := by
  obtain ⟨_, _, p3, p4, p5, p6⟩ := getCommon_spec l h src vs
  refine ⟨p5, p3, p4, p6, fun nd => ?_⟩
  rw [names_eq_of_map_get p5]
  exact (names_sublist List.filter_sublist).nodup nd

example :
    let s := run State.init [.add 0 ⟨"a", 1, none⟩, .add 0 ⟨"b", 2, none⟩, .add 1 ⟨"c", 7, none⟩, .add 1 ⟨"b", 5, none⟩]
    (getCommonParametersWith s.heap (s.lists 0) s.heap (s.lists 1)).2 = [4] := by decide

/-- **delete_indices_general** (any index vector — unsorted, repeated or not): the result only
depends on the indices as a multiset (their order is irrelevant: the routine sorts a copy); the
survivors are a sub-sequence of the list; and without a raise exactly `indices.size()` entries are
gone — so a *repeated* index erases an entry nobody named (or raises half-way,
`delete_indices_repeated_witness`), which is why `delete_indices_exact` asks for a repeated-free
vector. -/
theorem delete_indices_general (l : List ObjId) (idx : List Nat) :
    (∀ idx', idx.Perm idx' → deleteParametersIdx l idx' = deleteParametersIdx l idx) ∧
    (deleteParametersIdx l idx).1.Sublist l ∧
    ((deleteParametersIdx l idx).2 = none → (deleteParametersIdx l idx).1.length + idx.length = l.length) := by
  refine ⟨fun idx' p => ?_, deleteParametersIdx_sublist idx l, fun ok => ?_⟩
  · unfold deleteParametersIdx; rw [sortNat_eq_of_perm p]
  · have := eraseDesc_length _ _ ok
    rwa [List.length_reverse, sortNat_length] at this

example : deleteParametersIdx [10, 11, 12] [1, 1] = ([10], none) := by decide

/-- **accessor_exact**: `parameter(name)` / `getParameter(name)` (list level, and owner level with
the namespace prepended) answer the object at the *first* position carrying the name — the only
one, by `names_unique` — or raise ParameterNotFoundException when no entry carries it;
`getParameter_(index)` of the owner answers the object at that position or raises
IndexOutOfBoundsException. -/
theorem accessor_exact (h : Store) (l : List ObjId) (n pre : String) :
    (∀ i, parameterNamed h l n = .ok i ↔
      ∃ p : Nat, l[p]? = some i ∧ nameOf h i = n ∧ ∀ q : Nat, q < p → (names h l)[q]? ≠ some n) ∧
    (parameterNamed h l n = .error .notfound ↔ n ∉ names h l) ∧
    apParameterNamed h l pre n = parameterNamed h l (pre ++ n) ∧
    (∀ k i, apParameterAt l k = .ok i ↔ l[k]? = some i) ∧
    (∀ k, apParameterAt l k = .error .index ↔ l.length ≤ k) := by
  refine ⟨fun i => ?_, ?_, rfl, fun k i => ?_, fun k => ?_⟩
  · rw [← find?_first]; unfold parameterNamed
    cases find? h l n <;> simp
  · unfold parameterNamed
    cases e : find? h l n with
    | none => exact ⟨fun _ => find?_none.1 e, fun _ => rfl⟩
    | some i => exact ⟨nofun, fun c => nomatch e.symm.trans (find?_none.2 c)⟩
  · unfold apParameterAt; cases l[k]? <;> simp
  · unfold apParameterAt
    cases e : l[k]? with
    | none => simpa using e
    | some x =>
      simp only [reduceCtorEq, false_iff, Nat.not_le]
      exact (List.getElem?_eq_some_iff.1 e).1

/-- … and under unique names the object answered is the only one carrying the name -/
theorem accessor_unique (h : Store) (l : List ObjId) (n : String) (nd : (names h l).Nodup) (i : ObjId)
    (hi : parameterNamed h l n = .ok i) : ∀ j ∈ l, nameOf h j = n → j = i := by
  intro j hj hn
  have e : find? h l n = some i := by
    unfold parameterNamed at hi; cases e : find? h l n <;> simp_all
  have := find?_self nd hj
  rw [hn, e] at this
  exact (Option.some.inj this).symm

/-- **owner_lookup_exact**: the owner's read routes are the list's with the namespace prepended,
and `getParameterNameWithoutNamespace` undoes the prefixing (and leaves other names alone). -/
theorem owner_lookup_exact (h : Store) (l : List ObjId) (pre n : String) :
    (apHasParameter h l pre n = true ↔ pre ++ n ∈ names h l) ∧
    apGetParameterValue h l pre n = getParameterValue h l (pre ++ n) ∧
    nameWithoutNamespace pre (pre ++ n) = n ∧
    (startsWith n pre = true → pre ++ nameWithoutNamespace pre n = n) ∧
    (startsWith n pre = false → nameWithoutNamespace pre n = n) :=
  ⟨hasParameter_iff h l _, rfl, nameWithoutNamespace_prefix pre n, prefix_nameWithoutNamespace,
   nameWithoutNamespace_other⟩

/-! ## The owner's setters: all or nothing, and who is notified -/

/-- **owner_bulk_atomic**: each of the four setters of `AbstractParametrizable` raises exactly when
the list-level call does, and then nothing has changed, `fireParameterChanged` has not been called
and (for `matchParametersValues`) no flag is reported.

Assumption (stated in `props/C02.json`): the owner's `fireParameterChanged` does not raise — it is
the base class's empty default / a recorder in the model.  The four setters call it *after* the list
has been updated (AbstractParametrizable.h:58-83); a subclass whose override raises
(`ReparametrizationFunctionWrapper`, the discrete distributions) makes the owner's call raise with
every value already applied.  That is outside this theorem: it is about the forwarding layer. -/
theorem owner_bulk_atomic (h : Store) (l src : List ObjId) (pre n : String) (v : Rat)
    (vl : Valid h l) (nds : (names h src).Nodup) :
    ((apSetAllParametersValues h l src).err = (setAllParametersValues h l src).err ∧
      ((apSetAllParametersValues h l src).err ≠ none →
        (apSetAllParametersValues h l src).heap = h ∧ (apSetAllParametersValues h l src).fired = none)) ∧
    ((apSetParametersValues h l src).err = (setParametersValues h l src).err ∧
      ((apSetParametersValues h l src).err ≠ none →
        (apSetParametersValues h l src).heap = h ∧ (apSetParametersValues h l src).fired = none)) ∧
    ((apMatchParametersValues h l src).err = (matchParametersValues h l src).err ∧
      ((apMatchParametersValues h l src).err ≠ none →
        (apMatchParametersValues h l src).heap = h ∧ (apMatchParametersValues h l src).fired = none ∧
        (apMatchParametersValues h l src).flag = false)) ∧
    ((apSetParameterValue h l pre n v).err = (setParameterValue h l (pre ++ n) v).err ∧
      ((apSetParameterValue h l pre n v).err ≠ none →
        (apSetParameterValue h l pre n v).heap = h ∧ (apSetParameterValue h l pre n v).fired = none)) := by
  refine ⟨?_, ?_, ?_, ?_⟩
  · obtain ⟨a, b, c⟩ := apSetAllParametersValues_spec h l src
    refine ⟨b, fun e => ⟨?_, ?_⟩⟩
    · rw [a]; exact setAllParametersValues_err (by rwa [b] at e)
    · rw [c, if_neg (by rwa [b] at e)]
  · obtain ⟨a, b, c⟩ := apSetParametersValues_spec h l src
    refine ⟨b, fun e => ⟨?_, ?_⟩⟩
    · rw [a]; exact setParametersValues_err (by rwa [b] at e)
    · rw [c, if_neg (by rwa [b] at e)]
  · obtain ⟨_, b, _, d⟩ := apMatchParametersValues_spec h l src nds
    exact ⟨b, fun e => ⟨apMatchParametersValues_err nds e, d (b ▸ e)⟩⟩
  · obtain ⟨a, _, c, _⟩ := apSetParameterValue_spec h l pre n v vl
    exact ⟨a, fun e => ⟨(c e).2, (c e).1⟩⟩

/-- **owner_match_fired_exact**: after a successful `matchParametersValues` of the owner (source
names pairwise different), `fireParameterChanged` is called iff the flag is `true` iff something
differed, and the list it receives consists of exactly the *source's own objects* whose name is
carried by a parameter of the owner that held another value; each of these parameters now holds
the notified value, and every parameter of the owner whose value changed is among them. -/
theorem owner_match_fired_exact (h : Store) (l src : List ObjId) (nds : (names h src).Nodup)
    (ok : (matchParametersValues h l src).err = none) :
    let r := apMatchParametersValues h l src
    let f := r.fired.getD []
    r.err = none ∧ r.flag = f.isEmpty.not ∧ (r.fired = none ↔ f = []) ∧
    (∀ s, s ∈ f ↔ s ∈ src ∧ ∃ t, find? h l (nameOf h s) = some t ∧ (h.get t).value ≠ (h.get s).value) ∧
    (∀ s ∈ f, ∀ t, find? h l (nameOf h s) = some t → (r.heap.get t).value = (h.get s).value) ∧
    (∀ t, (r.heap.get t).value ≠ (h.get t).value → ∃ s ∈ f, find? h l (nameOf h s) = some t) := by
  obtain ⟨g1, g2, g3, g4, g5⟩ := apMatch_notified h l src nds ok
  obtain ⟨_, _, _, hv, hu⟩ := matchParametersValues_full nds ok
  dsimp only
  rw [g3, g1]
  refine ⟨g2, g4, g5, fun s => mem_filter_differs, fun s hs t e => hv s (List.mem_of_mem_filter hs) t e,
    fun t ht => ?_⟩
  rcases changed_has_source hv hu t with c | ⟨s, hs, e2, e3⟩
  · exact absurd c ht
  · exact ⟨s, mem_filter_differs.2 ⟨hs, t, e2, e3⟩, e2⟩

/-- **owner_set_fired_covers**: `setParametersValues` / `setAllParametersValues` of the owner hand
the *whole source list* to `fireParameterChanged`; it covers every parameter of the owner whose
value changed (it may also name unchanged or unknown parameters — the code does not filter). -/
theorem owner_set_fired_covers (h : Store) (l src : List ObjId) :
    ((names h src).Nodup → (setParametersValues h l src).err = none →
      (apSetParametersValues h l src).fired = some src ∧
      ∀ t, ((apSetParametersValues h l src).heap.get t).value ≠ (h.get t).value →
        ∃ s ∈ src, find? h l (nameOf h s) = some t) ∧
    ((names h l).Nodup → (setAllParametersValues h l src).err = none →
      (apSetAllParametersValues h l src).fired = some src ∧
      ∀ t, ((apSetAllParametersValues h l src).heap.get t).value ≠ (h.get t).value →
        t ∈ l ∧ ∃ s ∈ src, nameOf h s = nameOf h t) := by
  refine ⟨fun nd ok => ?_, fun nd ok => ?_⟩
  · obtain ⟨a, _, c⟩ := apSetParametersValues_spec h l src
    obtain ⟨_, _, hv, hu⟩ := setParametersValues_full nd ok
    refine ⟨by rw [c, if_pos ok], fun t ht => ?_⟩
    rw [a] at ht
    rcases changed_has_source hv hu t with x | ⟨s, hs, e2, _⟩
    · exact absurd x ht
    · exact ⟨s, hs, e2⟩
  · obtain ⟨a, _, c⟩ := apSetAllParametersValues_spec h l src
    obtain ⟨_, _, _, hu⟩ := bulk_applies_setAllParametersValues h l src nd ok
    have acc := (acceptsAll_iff _ _ _).1 ((setAllParametersValues_err_iff _ _ _).1 ok)
    refine ⟨by rw [c, if_pos ok], fun t ht => ?_⟩
    rw [a] at ht
    have htl : t ∈ l := by
      by_contra x
      exact ht (by rw [hu t x])
    obtain ⟨j, e2, _⟩ := acc t htl
    exact ⟨htl, j, (find?_some e2).1, (find?_some e2).2⟩

/-- non-vacuity: two of three source entries differ, one of them is not a parameter of the owner -/
example :
    let s := run State.init [.add 4 ⟨"a", 1, none⟩, .add 4 ⟨"b", 2, none⟩,
                              .add 0 ⟨"b", 5, none⟩, .add 0 ⟨"z", 5, none⟩, .add 0 ⟨"a", 1, none⟩]
    (apMatchParametersValues s.heap (s.lists 4) (s.lists 0)).fired = some [2] := by decide

/-! ## `setNamespace` -/

/-- **setNamespace_exact**: every parameter of the owner's list (names pairwise different) is
renamed to `newPrefix ++ getParameterNameWithoutNamespace(name)`, value and constraint untouched;
objects outside the list are untouched. -/
theorem setNamespace_exact (h : Store) (l : List ObjId) (oldPre newPre : String) (nd : (names h l).Nodup)
    (i : ObjId) :
    (setNamespace h oldPre newPre l).get i =
      if i ∈ l then { h.get i with name := newPre ++ nameWithoutNamespace oldPre (nameOf h i) } else h.get i :=
  setNamespace_get oldPre newPre l h (List.Nodup.of_map _ nd) i

/-- **names_unique_namespace_partial**.  Full statement (false of the code, known finding
`C02-setNamespace-collision`): *after `setNamespace` the names of every list are still pairwise
different*.  Proved here under two hypotheses: every name of the owner's list carries the owner's
current prefix (the naming discipline of the class, not enforced by `addParameter_`), and no other
list holds one of the owner's parameter objects (nothing was shared with `shareParameter_`).  What is
missing: without the first, two names can be mapped to one
(`setNamespace_own_list_collision_witness`); without the second, the renaming shows in the other
list (`setNamespace_breaks_unique_witness`). -/
theorem names_unique_namespace_partial (s : State) (inv : Inv s) (k : Nat) (p : String)
    (disc : ∀ i ∈ s.lists k, startsWith (nameOf s.heap i) (s.pre k) = true)
    (priv : ∀ r, r ≠ k → ∀ i ∈ s.lists r, i ∉ s.lists k) :
    Inv (step s (.apNamespace k p)).1 ∧
    ∀ r, (names (step s (.apNamespace k p)).1.heap ((step s (.apNamespace k p)).1.lists r)).Nodup :=
  ⟨inv_setNamespace inv k p disc priv, (inv_setNamespace inv k p disc priv).names⟩

/-- non-vacuity of the guard: an owner with two prefixed parameters, nothing shared -/
example :
    let s := run State.init [.apNamespace 4 "p.", .addPtr 4 ⟨"p.a", 1, none⟩, .addPtr 4 ⟨"p.b", 2, none⟩, .add 0 ⟨"a", 1, none⟩]
    nsGuard 6 s 4 = true ∧
    names (step s (.apNamespace 4 "q.")).1.heap ((step s (.apNamespace 4 "q.")).1.lists 4) = ["q.a", "q.b"] := by
  decide

/-- known finding `C02-setNamespace-collision`, case (1): an owner with prefix `p.` holding `a`
and `p.a` has the names `[q.a, q.a]` after `setNamespace("q.")` -/
theorem setNamespace_own_list_collision_witness :
    let s := run State.init [.apNamespace 4 "p.", .addPtr 4 ⟨"a", 2, none⟩, .addPtr 4 ⟨"p.a", 3, none⟩,
                              .apNamespace 4 "q."]
    names s.heap (s.lists 4) = ["q.a", "q.a"] := by decide

/-! ## Histories of the extended machine -/

/-- **names_unique_x** / **list_param_inv_x**: along every history of the extended machine all of
whose `setNamespace` steps are guarded (`SafeRun`), names stay pairwise different in every list and
every reachable parameter satisfies its own constraint. -/
theorem names_unique_x (ops : List XOp) (safe : SafeRun State.init ops) (k : Nat) :
    (names (xrun State.init ops).heap ((xrun State.init ops).lists k)).Nodup ∧
    ∀ i ∈ (xrun State.init ops).lists k, ((xrun State.init ops).heap.get i).ok = true :=
  ⟨(inv_xrun inv_init ops safe).names k,
   fun i hi => (inv_xrun inv_init ops safe).ok i ((inv_xrun inv_init ops safe).wf k i hi)⟩

example : SafeRun State.init [.base (.add 0 ⟨"a", 1, none⟩), .base (.add 1 ⟨"a", 5, some ⟨.fin 0, .posInf, true, false⟩⟩),
    .setParamsA 0 1, .nth 0 0, .apHas 4 "a"] := by
  simp [SafeRun, XOp.nsSafe]

/-- **xcheck_sound**: from every state satisfying the invariant, every operation of the extended
machine (a `setNamespace` step under its guard) satisfies every clause the driver evaluates on the
implementation — those of `checkStep` and the further ones of `xcheckStep` (`owner_atomic`, `owner_fired_exact`,
`delete_indices_general`, `namespace_exact`, `names_unique_namespace(_partial)`, `lookup_pure`, `lookup_exact`
for the object-valued and owner-level lookups, `whole_assignment_atomic`). -/
theorem xcheck_sound (n : Nat) (s : State) (inv : Inv s) (op : XOp) (safe : op.nsSafe s) :
    xcheckStep n s op (xstep s op).2.out (xstep s op).2.fired (xstep s op).1 = none := by
  have hn : allNamesUnique n (xstep s op).1 = true := allNamesUnique_of_inv (inv_xstep inv op safe) n
  have hok : clauseOk n s (xstep s op).1 = true := by
    unfold clauseOk; rw [allOk_of_inv (inv_xstep inv op safe) n]; simp
  have hro : (!op.readOnly || unchanged n s (xstep s op).1) = true := by
    by_cases ro : op.readOnly = true
    · rw [xstep_readOnly s op ro, unchanged_refl]; simp
    · simp [ro]
  have hl := clauseXLookup_sound s op
  have ha := clauseXAssign_sound n inv op
  have hc := clauseXOwnerCopy_sound n inv op
  have hf := xstep_fired_none s op
  cases op with
  | base o =>
    simp only [xcheckStep, xstep, check_sound n s inv o, clauseOwnerAtomic_sound inv o,
      clauseOwnerFired_sound inv o, clauseDeleteAny_sound s o, clauseNamespaceExact_sound n inv o,
      clauseNamespace_sound n inv o safe, clauseNamespaceGuarded_sound n inv o safe]
    rfl
  | _ => simp only [xcheckStep, hn, hok, hro, hl, ha, hc, hf (fun o => by simp)]; simp

/-- … hence along every guarded history from the empty machine. -/
theorem xcheck_sound_run (n : Nat) (ops : List XOp) (safe : SafeRun State.init ops) (op : XOp)
    (safe' : op.nsSafe (xrun State.init ops)) :
    let s := xrun State.init ops
    xcheckStep n s op (xstep s op).2.out (xstep s op).2.fired (xstep s op).1 = none :=
  xcheck_sound n _ (inv_xrun inv_init ops safe) op safe'

end Bpp.C02
