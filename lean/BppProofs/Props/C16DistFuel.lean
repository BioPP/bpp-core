import BppProofs.Lemmas.DistFuel
/-!
# C16 — the `dist<k>` loop of the `Mixture` branch is ended by a missing key, never by its fuel

Model: `BppModel/Text/DistU.lean`, `nestedDists args fuel k` =
`while (args.find("dist" + toString(++nbd)) != args.end())` (:153-154).  The model's loop takes fuel
and returns what it has when the fuel runs out (`| 0, _ => []`), silently; `mixtureStage` calls it
with `args.length + 1` rounds from `k = 1`.  The theorems below show that this silent case is never
reached: the keys `dist1`, `dist2`, … are pairwise different (`Number.natDigits` is injective), each
one that `mapFind` finds is the key of an entry of `args`, so among `args.length + 1` consecutive
keys one is missing (pigeonhole), and the loop stops there.
-/
namespace Bpp.C16
open Bpp.Text Bpp.Text.U

/-- **the fuel `mixtureStage` gives always suffices**: any larger fuel gives the same list — the
loop is ended by a missing key `dist<k>`, never by the fuel -/
theorem nestedDists_fuel_suffices (args : Keyval.Map) (fuel : Nat) (h : args.length + 1 ≤ fuel) :
    nestedDists args fuel 1 = nestedDists args (args.length + 1) 1 :=
  nestedDists_fuel_irrel args (args.length + 1) 1 (exists_missing args 1) fuel h

/-- **the loop stops on a missing key**: with `n` descriptions returned, `dist<n+1>` is not a key of
the map (so the C++ `while` ends there too) -/
theorem nestedDists_stops_on_missing_key (args : Keyval.Map) :
    Keyval.mapFind ("dist".toList ++ Number.natDigits (1 + (nestedDists args (args.length + 1) 1).length))
      args = none :=
  nestedDists_stops_missing args (args.length + 1) 1 (exists_missing args 1)

/-- **and every description returned is the value of its key**: the `i`-th one (from 0) is
`args["dist<i+1>"]` -/
theorem nestedDists_values (args : Keyval.Map) (i : Nat) (d : Str)
    (h : (nestedDists args (args.length + 1) 1)[i]? = some d) :
    Keyval.mapFind ("dist".toList ++ Number.natDigits (1 + i)) args = some d :=
  nestedDists_getElem? args (args.length + 1) 1 i d h

/-- at most one description per entry of the map -/
theorem nestedDists_length_le_args (args : Keyval.Map) :
    (nestedDists args (args.length + 1) 1).length ≤ args.length :=
  Nat.le_of_lt_succ (nestedDists_length_lt args (args.length + 1) 1 (exists_missing args 1))

example : nestedDists [("dist1".toList, "A".toList), ("dist2".toList, "B".toList), ("dist4".toList, "D".toList)] 4 1
    = ["A".toList, "B".toList] := by
  -- the literal as a list of characters first: the kernel is slow at decoding a string literal
  repeat rw [String.toList_ofList]
  decide +kernel
example : nestedDists [("probas".toList, "x".toList)] 2 1 = [] := by
  repeat rw [String.toList_ofList]
  decide +kernel

end Bpp.C16
