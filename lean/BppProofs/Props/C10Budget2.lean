import BppProofs.Lemmas.OptimCount
import BppProofs.Props.C10
import BppProofs.Props.C10Budget
import BppProofs.Props.C10Golden
import BppProofs.Props.C10Brent
/-!
# C10 — "the run terminates within its evaluation budget", in calls of the objective: the other optimisers

`Props/C10Budget.lean` proves the clause about the real number of calls of the objective (the length of
the log of the harness objective) for Powell, conjugate gradient and BFGS.  Here:

* `golden_budget_calls`, `brent_budget_calls`, `backtrack_budget_calls`, `simplex_budget_calls`: the same
  for the golden section search (one call per step, counted — plus the loop's own increment), Brent's
  method and the Newton backtracking search (one call per step, paid for by the loop's increment), the
  downhill simplex method (every call is counted when it is made; a contraction of the whole simplex adds
  `nDim` on top);
* `brent_counter_exact`, `backtrack_counter_exact`: for the two whose step counts nothing the counter at
  exit is exactly the number of calls made since `optimize` began, plus one;
* `golden_final_call`, `brent_final_call`, `simplex_final_call`: the redefinitions of `optimize` of the
  three that have one make exactly one call after the template's loop;
* `nback_monotone`, `simplex_monotone`, `newton1d_monotone`, `simple_multi_monotone`,
  `simple_newton_monotone`, `meta_monotone` (every scalar type, every function object): with the instances of
  `C10Golden`, `C10Brent`, `C10Budget` every optimiser of the quantifier has one, so `optimize_terminates`
  and `budget` apply to all eleven (`all_optimisers_terminate` spells it out for Newton 1-D, the two
  coordinate-wise optimisers and the meta-optimiser);
* `newton1d_calls_exceed_cap`: the clause is **false** of `NewtonOneDimension` as modelled (known finding
  C10-counter-undercount, kept on record): a run over `ℝ` with `nbEvalMax = 3` whose last step begins after
  7 calls; `newton1d_calls_exceed_cap_rat`: the same run in exact `Rat` arithmetic, evaluated by the kernel.
-/
namespace Bpp.C10
open Bpp Bpp.Optim

section template
variable {α : Type} [Scalar α] {F : Type}

/-- `doStep` of the Newton backtracking search does not touch the counter nor the cap; its stop condition
does nothing -/
theorem nback_monotone (I : FunI F α) : Monotone (nbackAlgo I) := nbackAlgo_monotone I

/-- `doStep` of the downhill simplex method does not move the counter backwards and leaves the cap alone;
its stop condition touches neither -/
theorem simplex_monotone (I : FunI F α) : Monotone (simplexAlgo I) := simplexAlgo_monotone I

/-- `NewtonOneDimension::doStep` does not touch the counter (the loop of `optimize` does the counting) -/
theorem newton1d_monotone (I : FunI F α) : Monotone (newtonAlgo I) := newtonAlgo_monotone I

/-- `SimpleMultiDimensions::doStep` adds the inner Brent optimiser's counter for every coordinate -/
theorem simple_multi_monotone (I : FunI F α) (fuel : Nat) : Monotone (simpleAlgo I fuel) := simpleAlgo_monotone I fuel

/-- `SimpleNewtonMultiDimensions::doStep` adds the inner Newton optimiser's counter for every coordinate -/
theorem simple_newton_monotone (I : FunI F α) (fuel : Nat) : Monotone (snewtonAlgo I fuel) := snewtonAlgo_monotone I fuel

/-- `MetaOptimizer::doStep` (modelled configuration) adds the counter of every optimiser that has parameters -/
theorem meta_monotone (I : FunI F α) (log10 : α → α) (fuel : Nat) : Monotone (metaAlgo I log10 fuel) :=
  metaAlgo_monotone I log10 fuel

/-- **all_optimisers_terminate**: `optimize_terminates` for Newton 1-D, the two coordinate-wise optimisers
and the meta-optimiser.  What it says, and what it does not: the `for` loop of `AbstractOptimizer::optimize` makes at
most `nbEvalMax - 1` iterations (with that much fuel the modelled loop never runs out of it), and an
exception that comes out of it was raised by one of the steps.  It does **not** bound what happens
*inside* a step: the steps of the coordinate-wise Brent optimiser and of the meta-optimiser (and `doInit`
of the golden section search and of Brent's method, the line minimisations of Powell and the conjugate
gradient optimiser) call `bracketMinimum`, whose loop `while (b.f > c.f)` has no bound in the source — the
cap `nbEvalMax_` is not consulted there; on an objective that decreases for ever it does not return.  The
model gives that loop fuel and ends with `Exc.hang` when it runs out: a `.hang` is one of the errors "raised
by one of the steps" here.  "The run terminates" is proved for the outer loop only. -/
theorem all_optimisers_terminate (I : FunI F α) (log10 : α → α) (fuel' fuel : Nat) :
    (∀ s : St F (Newton1 α) α, s.core.nbEvalMax ≤ fuel + 1 →
      ∀ k, (newtonAlgo I).optimize (fuel + k) s = (newtonAlgo I).optimize fuel s) ∧
    (∀ s : St F (Simple α) α, s.core.nbEvalMax ≤ fuel + 1 →
      ∀ k, (simpleAlgo I fuel').optimize (fuel + k) s = (simpleAlgo I fuel').optimize fuel s) ∧
    (∀ s : St F (SNewton α) α, s.core.nbEvalMax ≤ fuel + 1 →
      ∀ k, (snewtonAlgo I fuel').optimize (fuel + k) s = (snewtonAlgo I fuel').optimize fuel s) ∧
    (∀ s : St F (Meta α) α, s.core.nbEvalMax ≤ fuel + 1 →
      ∀ k, (metaAlgo I log10 fuel').optimize (fuel + k) s = (metaAlgo I log10 fuel').optimize fuel s) :=
  ⟨fun s hf => (optimize_terminates _ (newton1d_monotone I) s fuel hf).1,
   fun s hf => (optimize_terminates _ (simple_multi_monotone I fuel') s fuel hf).1,
   fun s hf => (optimize_terminates _ (simple_newton_monotone I fuel') s fuel hf).1,
   fun s hf => (optimize_terminates _ (meta_monotone I log10 fuel') s fuel hf).1⟩

end template

section harness
variable (obj : List ℝ → ℝ) (D : Deriv ℝ) (cap : Option Nat)

/-- **golden section search within its budget, in calls of the objective.**  Stated for the template's
loop `(gssAlgo I fuel).optimize`; `GoldenSectionSearch::optimize` (`gssOptimize`) is that loop followed by
one evaluation at the better inner point: exactly one call more (`golden_final_call`).  When the loop
returns, either no step was made (no call), or when the last step began the objective had been called,
since `optimize` began, fewer times than the counter showed, hence fewer than `nbEvalMax` times.  (Each
step makes one call and counts it; the loop's own increment comes on top, so the counter runs ahead:
`k` steps, `k` calls, counter `2k + 1`.) -/
theorem golden_budget_calls (fuel fuel' : Nat) (s s' : St (Fn ℝ) (Gss ℝ) ℝ) (v : ℝ)
    (h : (gssAlgo (Fn.iface obj D cap) fuel).optimize fuel' s = .ok (s', v)) :
    (s'.fn = s.fn ∧ s'.core.nbEval = 1) ∨
    ∃ sb sa w, Guard sb ∧ sb.core.nbEvalMax = s.core.nbEvalMax ∧
      (gssAlgo (Fn.iface obj D cap) fuel).step sb = .ok (sa, w) ∧ s' = bump sa ∧
      sb.fn.log.length + 1 ≤ s.fn.log.length + sb.core.nbEval ∧
      sb.fn.log.length - s.fn.log.length < s.core.nbEvalMax ∧
      Spec.budgetCalls s.core.nbEvalMax (sb.fn.log.length - s.fn.log.length) = true :=
  budget_calls (gssAlgo (Fn.iface obj D cap) fuel) (fun fn => fn.log.length) (golden_monotone _ fuel)
    (fun u u' w hd => Nat.le_succ_of_le (Nat.le_of_eq (gssDoStep_calls (objective_counts obj D cap) u u' w hd)))
    (fun u => by show (gssStop u).1.fn = _; rw [gssStop_fst]) s s' v fuel' h

/-- **Brent's method within its budget, in calls of the objective** (a step makes exactly one call — the
evaluation at the proposed abscissa — and counts nothing: the loop's own increment pays for it).
`BrentOneDimension::optimize` (`brentOptimize`) makes one call more after the loop (`brent_final_call`). -/
theorem brent_budget_calls (fuel fuel' : Nat) (s s' : St (Fn ℝ) (Brent ℝ) ℝ) (v : ℝ)
    (h : (brentAlgo (Fn.iface obj D cap) fuel).optimize fuel' s = .ok (s', v)) :
    (s'.fn = s.fn ∧ s'.core.nbEval = 1) ∨
    ∃ sb sa w, Guard sb ∧ sb.core.nbEvalMax = s.core.nbEvalMax ∧
      (brentAlgo (Fn.iface obj D cap) fuel).step sb = .ok (sa, w) ∧ s' = bump sa ∧
      sb.fn.log.length + 1 ≤ s.fn.log.length + sb.core.nbEval ∧
      sb.fn.log.length - s.fn.log.length < s.core.nbEvalMax ∧
      Spec.budgetCalls s.core.nbEvalMax (sb.fn.log.length - s.fn.log.length) = true :=
  budget_calls (brentAlgo (Fn.iface obj D cap) fuel) (fun fn => fn.log.length) (brent_monotone _ fuel)
    (fun u u' w hd => Nat.le_of_eq (brentDoStep_calls (objective_counts obj D cap) u u' w hd))
    (fun u => by show (brentStop u).1.fn = _; rw [brentStop_fst]) s s' v fuel' h

/-- **the Newton backtracking search within its budget, in calls of the objective** (a step makes exactly
one call — at the trial step length, or back at the start when no step is acceptable — and counts nothing) -/
theorem backtrack_budget_calls (fuel' : Nat) (s s' : St (Fn ℝ) (NBack ℝ) ℝ) (v : ℝ)
    (h : (nbackAlgo (Fn.iface obj D cap)).optimize fuel' s = .ok (s', v)) :
    (s'.fn = s.fn ∧ s'.core.nbEval = 1) ∨
    ∃ sb sa w, Guard sb ∧ sb.core.nbEvalMax = s.core.nbEvalMax ∧
      (nbackAlgo (Fn.iface obj D cap)).step sb = .ok (sa, w) ∧ s' = bump sa ∧
      sb.fn.log.length + 1 ≤ s.fn.log.length + sb.core.nbEval ∧
      sb.fn.log.length - s.fn.log.length < s.core.nbEvalMax ∧
      Spec.budgetCalls s.core.nbEvalMax (sb.fn.log.length - s.fn.log.length) = true :=
  budget_calls (nbackAlgo (Fn.iface obj D cap)) (fun fn => fn.log.length) (nback_monotone _)
    (fun u u' w hd => Nat.le_of_eq (nbackDoStep_calls (objective_counts obj D cap) u u' w hd))
    (fun _ => rfl) s s' v fuel' h

/-- **the downhill simplex method within its budget, in calls of the objective** (`tryExtrapolation` and
the contraction of the whole simplex add one to the counter per evaluation; after a contraction `doStep`
adds `nDim` more, and the loop's own increment comes on top: the counter runs ahead of the calls).
`DownhillSimplexMethod::optimize` (`simplexOptimize`) makes one call more after the loop
(`simplex_final_call`). -/
theorem simplex_budget_calls (fuel' : Nat) (s s' : St (Fn ℝ) (Simplex ℝ) ℝ) (v : ℝ)
    (h : (simplexAlgo (Fn.iface obj D cap)).optimize fuel' s = .ok (s', v)) :
    (s'.fn = s.fn ∧ s'.core.nbEval = 1) ∨
    ∃ sb sa w, Guard sb ∧ sb.core.nbEvalMax = s.core.nbEvalMax ∧
      (simplexAlgo (Fn.iface obj D cap)).step sb = .ok (sa, w) ∧ s' = bump sa ∧
      sb.fn.log.length + 1 ≤ s.fn.log.length + sb.core.nbEval ∧
      sb.fn.log.length - s.fn.log.length < s.core.nbEvalMax ∧
      Spec.budgetCalls s.core.nbEvalMax (sb.fn.log.length - s.fn.log.length) = true :=
  budget_calls (simplexAlgo (Fn.iface obj D cap)) (fun fn => fn.log.length) (simplex_monotone _)
    (fun u u' w hd => Nat.le_succ_of_le (simplexDoStep_calls (objective_counts obj D cap) u u' w hd))
    (fun _ => rfl) s s' v fuel' h

/-- **Brent's counter is exact**: when the template's loop returns, `nbEval_` is the number of calls of
the objective made since `optimize` began, plus one -/
theorem brent_counter_exact (fuel fuel' : Nat) (s s' : St (Fn ℝ) (Brent ℝ) ℝ) (v : ℝ)
    (h : (brentAlgo (Fn.iface obj D cap) fuel).optimize fuel' s = .ok (s', v)) :
    s'.fn.log.length + 1 = s.fn.log.length + s'.core.nbEval :=
  optimize_calls_exact (brentAlgo (Fn.iface obj D cap) fuel) (fun fn => fn.log.length) (brent_monotone _ fuel)
    (fun u u' w hd => brentDoStep_calls (objective_counts obj D cap) u u' w hd)
    (fun u => by show (brentStop u).1.fn = _; rw [brentStop_fst]) s s' v fuel' h

/-- **the counter of the Newton backtracking search is exact** -/
theorem backtrack_counter_exact (fuel' : Nat) (s s' : St (Fn ℝ) (NBack ℝ) ℝ) (v : ℝ)
    (h : (nbackAlgo (Fn.iface obj D cap)).optimize fuel' s = .ok (s', v)) :
    s'.fn.log.length + 1 = s.fn.log.length + s'.core.nbEval :=
  optimize_calls_exact (nbackAlgo (Fn.iface obj D cap)) (fun fn => fn.log.length) (nback_monotone _)
    (fun u u' w hd => nbackDoStep_calls (objective_counts obj D cap) u u' w hd)
    (fun _ => rfl) s s' v fuel' h

/-- `GoldenSectionSearch::optimize` is the template's loop followed by exactly one call of the objective
(the evaluation at the better of the two inner points); the counter and the cap are those of the loop -/
theorem golden_final_call (fuel : Nat) (s s' : St (Fn ℝ) (Gss ℝ) ℝ) (v : ℝ)
    (h : gssOptimize (Fn.iface obj D cap) fuel s = .ok (s', v)) :
    ∃ s1 v1, (gssAlgo (Fn.iface obj D cap) fuel).optimize fuel s = .ok (s1, v1) ∧
      s'.fn.log.length = s1.fn.log.length + 1 ∧ s'.core.nbEval = s1.core.nbEval ∧
      s'.core.nbEvalMax = s1.core.nbEvalMax :=
  gssOptimize_calls (objective_counts obj D cap) fuel s s' v h

/-- `BrentOneDimension::optimize` is the template's loop followed by exactly one call of the objective
(the evaluation at the optimiser's parameter) -/
theorem brent_final_call (fuel : Nat) (s s' : St (Fn ℝ) (Brent ℝ) ℝ) (v : ℝ)
    (h : brentOptimize (Fn.iface obj D cap) fuel s = .ok (s', v)) :
    ∃ s1 v1, (brentAlgo (Fn.iface obj D cap) fuel).optimize fuel s = .ok (s1, v1) ∧
      s'.fn.log.length = s1.fn.log.length + 1 ∧ s'.core.nbEval = s1.core.nbEval ∧
      s'.core.nbEvalMax = s1.core.nbEvalMax :=
  brentOptimize_calls (objective_counts obj D cap) fuel s s' v h

/-- `DownhillSimplexMethod::optimize` is the template's loop followed by exactly one call of the objective
(the evaluation at the best vertex) -/
theorem simplex_final_call (fuel : Nat) (s s' : St (Fn ℝ) (Simplex ℝ) ℝ) (v : ℝ)
    (h : simplexOptimize (Fn.iface obj D cap) fuel s = .ok (s', v)) :
    ∃ s1 v1, (simplexAlgo (Fn.iface obj D cap)).optimize fuel s = .ok (s1, v1) ∧
      s'.fn.log.length = s1.fn.log.length + 1 ∧ s'.core = s1.core :=
  simplexOptimize_calls (objective_counts obj D cap) fuel s s' v h

end harness

/-! ### the clause is false of `NewtonOneDimension` -/

/-- **newton1d_calls_exceed_cap** (known finding C10-counter-undercount, kept on record): the budget clause
in calls of the objective is **false** of `NewtonOneDimension` as modelled.  `doStep` evaluates the
function at the Newton point and then, as long as the value is above the current one, restores the
previous point (`setParameters`: one call) and evaluates at half the movement (one call); none of these
calls is counted — only the `for` loop of `optimize` increments `nbEval_`, once per step.

The witness (`Bpp.Optim.Newton1dReal`, over `ℝ`, on the objective of the harness without cap): one free
parameter at `3/5`, the double well `(x² - 1)²` with its true derivatives, `nbEvalMax = 3`,
`maxCorrection = 10`, tolerance 0.  `init` returns `s` (one call).  `optimize` returns normally `(s', v)`
with any fuel `≥ 2`, after exactly two steps: the first one, begun in the state `optimize` starts the loop
with, ends in `s1`; the last one begins in `sb = bump s1` — the guard of the loop holds there, the counter
shows `2 < 3` (`Spec.budget` is satisfied) — although the objective has been called **7 times** since
`optimize` began (the Newton point `27/5` and three corrections `3`, `9/5`, `6/5`, each preceded by the
restoration of `3/5`): `Spec.budgetCalls 3 7 = false`.  The conclusion has the shape of the second
alternative of `budget_calls` with the last conjunct negated (and the first alternative fails: `s'.fn` has
a longer log than `s.fn`). -/
theorem newton1d_calls_exceed_cap :
    ∃ (s s' sb sa : St (Fn ℝ) (Newton1 ℝ) ℝ) (v w : ℝ),
      Newton1dReal.algo.init Newton1dReal.start (oneP (3 / 5)) = .ok s ∧
      s.core.nbEvalMax = 3 ∧
      (∀ k, Newton1dReal.algo.optimize (k + 2) s = .ok (s', v)) ∧
      Guard sb ∧ sb.core.nbEvalMax = s.core.nbEvalMax ∧ Newton1dReal.algo.step sb = .ok (sa, w) ∧ s' = bump sa ∧
      (∃ s1 w1, Newton1dReal.algo.step { s with core := { s.core with tol := false, nbEval := 1 } } = .ok (s1, w1) ∧
        sb = bump s1) ∧
      sb.fn.log = [[6 / 5], [3 / 5], [9 / 5], [3 / 5], [3], [3 / 5], [27 / 5]] ++ s.fn.log ∧
      sb.fn.log.length - s.fn.log.length = 7 ∧
      Spec.budget s.core.nbEvalMax s'.core.nbEval (some sb.core.nbEval) = true ∧
      Spec.budgetCalls s.core.nbEvalMax (sb.fn.log.length - s.fn.log.length) = false := by
  obtain ⟨s, s1, sc, w1, w2, hinit, hmax, hlog0, h1, hg1, hnb1, hmax1, hlog1, h2, -, -, hopt⟩ := Newton1dReal.run
  refine ⟨s, bump sc, bump s1, sc, (bump sc).core.cur, w2, hinit, hmax, hopt, hg1, by rw [hmax1, hmax], h2, rfl,
    ⟨s1, w1, h1, rfl⟩, by rw [hlog1, hlog0]; rfl, by rw [hlog1, hlog0]; rfl, ?_, ?_⟩
  · unfold Spec.budget
    rw [hnb1, hmax]; rfl
  · rw [hlog1, hlog0, hmax]; rfl

/-- the same run in exact `Rat` arithmetic (`Bpp.Optim.Newton1dExample`: the same program text, evaluated by
the kernel) -/
theorem newton1d_calls_exceed_cap_rat :
    ∃ (s s' sb sa : St (Fn Rat) (Newton1 Rat) Rat) (v w : Rat),
      Newton1dExample.algo.init Newton1dExample.start Newton1dExample.params = .ok s ∧
      s.core.nbEvalMax = 3 ∧
      (∀ k, Newton1dExample.algo.optimize (k + 2) s = .ok (s', v)) ∧
      Guard sb ∧ sb.core.nbEvalMax = s.core.nbEvalMax ∧ Newton1dExample.algo.step sb = .ok (sa, w) ∧ s' = bump sa ∧
      (∃ s1 w1, Newton1dExample.algo.step { s with core := { s.core with tol := false, nbEval := 1 } } = .ok (s1, w1) ∧
        sb = bump s1) ∧
      sb.fn.log = [[6 / 5], [3 / 5], [9 / 5], [3 / 5], [3], [3 / 5], [27 / 5], [3 / 5]] ∧
      sb.fn.log.length - s.fn.log.length = 7 ∧
      Spec.budget s.core.nbEvalMax s'.core.nbEval (some sb.core.nbEval) = true ∧
      Spec.budgetCalls s.core.nbEvalMax (sb.fn.log.length - s.fn.log.length) = false := by
  have h := Newton1dExample.check_true
  unfold Newton1dExample.check at h
  split at h
  · cases h
  · rename_i s hinit
    split at h
    · cases h
    · rename_i s1 w1 h1
      split at h
      · cases h
      · rename_i sc w2 h2
        simp only [Bool.and_eq_true, decide_eq_true_eq, Bool.not_eq_true', decide_eq_false_iff_not] at h
        obtain ⟨⟨⟨⟨⟨⟨⟨⟨⟨hi, hmax⟩, hlen0⟩, hg0⟩, hg1⟩, hnb1⟩, hmax1⟩, hlen1⟩, hlog⟩, hg2⟩ := h
        refine ⟨s, bump sc, bump s1, sc, (bump sc).core.cur, w2, hinit, hmax, ?_, hg1, by rw [hmax1, hmax], h2, rfl,
          ⟨s1, w1, h1, rfl⟩, hlog, by rw [hlen1, hlen0], ?_, ?_⟩
        · exact fun k => optimize_two_steps Newton1dExample.algo s s1 sc w1 w2 hi hg0 h1 hg1 h2 hg2 k
        · unfold Spec.budget
          rw [hnb1, hmax]; rfl
        · rw [hlen1, hlen0, hmax]; rfl

end Bpp.C10
