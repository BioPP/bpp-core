import BppProofs.Lemmas.Reparam
import BppProofs.Props.C11
/-!
# C11 — the reparametrisation wrapper  (src/Bpp/Numeric/Function/ReparametrizationFunctionWrapper.{h,cpp})

Property theorems about the wrapper model `BppModel/Reparam.lean` read at `ℝ`, with the wrapped
function abstract.  `pi`, `tiny` stand for `NumConstants::PI()`, `NumConstants::TINY()`; only
`0 < tiny` is used (the wrapper always builds the hyperbolic variant, so `pi` plays no role), and
the three main statements are specialised to the library's constants at the end (`*_lib`).
-/
namespace Bpp.C11
open Bpp Bpp.Transform Bpp.Reparam

/-! ## Construction -/

/-- Immediately after wrapping: the wrapped function's parameters (and the wrapper's copy) still
hold the values they had, every transformed parameter is of the kind `init_` documents for its
constraint, and it back-transforms to `corrected tiny shape value`, the value `init_` hands to its
constructor — see `wrap_nudge`: at most `2 tiny` away from the initial value, and exactly the
initial value unless that is closer than `tiny` to a closed bound or `2 tiny` to an open bound.
Hypotheses (`Admits`): each value is accepted by its constraint — *any* such value, including
those in the sliver of width `tiny` that `init_` removes next to an open bound — and finite
intervals are wider than `2 tiny` (`3 tiny` when both bounds are open).
The first two conjuncts (`fnVals`, `fp` = the initial values) are *structural*: the model's `init`,
like the constructors h:36-59, never writes to the function, so they hold for every successful
`init`; the evidence that the real constructors leave the function alone is the differential tie
(`w.new` / `w.mk` report the function's values).  The conjuncts that carry content are
`origs = corrected …` and the invariant, together with `wrap_nudge`. -/
theorem wrap_preserves_values (pi tiny : ℝ) (ht : 0 < tiny) (ps : List (Shape ℝ × ℝ))
    (h : ∀ p ∈ ps, Admits tiny p.1 p.2) :
    ∃ w, init pi tiny ps = .ok w ∧
      fnVals w = ps.map (·.2) ∧ w.map (·.fp) = ps.map (·.2) ∧ w.map (·.shape) = ps.map (·.1) ∧
      origs pi w = ps.map (fun p => corrected tiny p.1 p.2) ∧
      (∀ s ∈ w, SlotInv tiny s) := by
  obtain ⟨w, hw, hrel⟩ := init_spec pi ht ps h
  refine ⟨w, hw, ?_, ?_, ?_, ?_, ?_⟩
  · exact (forall₂_map_eq (fun a b r => r.2.2.1.symm) hrel).symm
  · exact (forall₂_map_eq (fun a b r => r.2.1.symm) hrel).symm
  · exact (forall₂_map_eq (fun a b r => r.1.symm) hrel).symm
  · exact (forall₂_map_eq (fun a b r => r.2.2.2.2.symm) hrel).symm
  · -- the invariant: needs Admits for the matching pair
    exact forall₂_right (fun p s r => r.1.slotInv ht r.2) (forall₂_and_left hrel h)

/-- the value a transformed parameter starts from is within `2 tiny` of the initial value (for
every value accepted by the constraint), and is the initial value when that is at least `tiny`
away from every closed bound and `2 tiny` away from every open bound -/
theorem wrap_nudge (tiny : ℝ) (ht : 0 < tiny) (sh : Shape ℝ) (v : ℝ) (h : Admits tiny sh v) :
    |corrected tiny sh v - v| ≤ 2 * tiny ∧ sh.Inner tiny (corrected tiny sh v) ∧
      (NotNudged tiny sh v → corrected tiny sh v = v) :=
  ⟨corrected_close ht h, corrected_inner ht h, corrected_eq_self⟩

/-- right after the construction every slot satisfies the invariant, the wrapped function's value
is within `2 tiny` of the back-transformed coordinate, and equal to it when `init_` did not move
the initial value -/
theorem wrap_tracks (pi tiny : ℝ) (ht : 0 < tiny) (ps : List (Shape ℝ × ℝ))
    (h : ∀ p ∈ ps, Admits tiny p.1 p.2) :
    ∃ w, init pi tiny ps = .ok w ∧ List.Forall₂ (Tracks pi tiny) ps w := by
  obtain ⟨w, hw, hrel⟩ := init_spec pi ht ps h
  exact ⟨w, hw, forall₂_imp_right (fun _ _ r => r.1.tracks ht r.2) (forall₂_and_left hrel h)⟩

/-- ... hence the two coordinate systems agree right after the construction when no value is
closer than `tiny` to a closed bound or `2 tiny` to an open bound -/
theorem wrap_in_sync (pi tiny : ℝ) (ht : 0 < tiny) (ps : List (Shape ℝ × ℝ))
    (h : ∀ p ∈ ps, Admits tiny p.1 p.2) (hn : ∀ p ∈ ps, NotNudged tiny p.1 p.2) :
    ∃ w, init pi tiny ps = .ok w ∧ (∀ s ∈ w, SlotInv tiny s) ∧ (∀ s ∈ w, Sync pi s) ∧
      w.length = ps.length := by
  obtain ⟨w, hw, htr⟩ := wrap_tracks pi tiny ht ps h
  refine ⟨w, hw, ?_, ?_, htr.length_eq.symm⟩
  · exact forall₂_right (fun p s r => r.2.1) htr
  · exact forall₂_right (fun p s r => r.1.2.2.2 r.2) (forall₂_and_left htr hn)

/-! ## Back-transformation -/

/-- For each of the eight bound configurations and every real coordinate, the back-transformed
value satisfies the original constraint: the wrapped function is only ever evaluated at feasible
points. -/
theorem wrapper_back_in_domain (pi tiny : ℝ) (ht : 0 < tiny) (sh : Shape ℝ) (tp : TP ℝ)
    (hm : Matches tiny sh tp) (hw : sh.Wide tiny) (x : ℝ) :
    sh.Accepts ((tp.setX x).getOriginal pi) :=
  matches_accepts ht (matches_setX hm x) hw

/-- `setParameters` (hence `f(parameters)`) never raises on a wrapper satisfying the invariant,
for any real values of any subset of the coordinates; the invariant is preserved -/
theorem set_never_raises (pi tiny : ℝ) (ht : 0 < tiny) (w : W ℝ) (upd : List (Option ℝ))
    (hinv : ∀ s ∈ w, SlotInv tiny s) (hlen : upd.length = w.length) :
    ∃ w', Reparam.set pi w upd = .ok w' ∧ (∀ s ∈ w', SlotInv tiny s) ∧ w'.length = w.length := by
  refine ⟨_, set_real ht w upd hinv hlen, ?_, ?_⟩
  · exact forall_zipWith (setSlot_inv ht _) w upd hinv
  · simp [hlen]

/-- if the two coordinate systems agree before `setParameters`, they agree after it (whatever
subset of the coordinates is given) -/
theorem set_sync (pi tiny : ℝ) (ht : 0 < tiny) (w : W ℝ) (upd : List (Option ℝ))
    (hinv : ∀ s ∈ w, SlotInv tiny s) (hlen : upd.length = w.length) (hs : ∀ s ∈ w, Sync pi s)
    (w' : W ℝ) (h : Reparam.set pi w upd = .ok w') : ∀ s ∈ w', Sync pi s := by
  rw [set_real ht w upd hinv hlen] at h
  injection h with h
  subst h
  exact forall_zipWith_changed _ (fun s u hs hc => setSlot_sync _ s u hs hc) w upd hs (fun h => h)

/-- when every coordinate is given and at least one changes, the coordinate systems agree afterwards
even if they did not before (e.g. after a construction that nudged a value) -/
theorem set_all_sync (pi tiny : ℝ) (ht : 0 < tiny) (w : W ℝ) (xs : List ℝ)
    (hinv : ∀ s ∈ w, SlotInv tiny s) (hlen : xs.length = w.length)
    (hch : (List.zipWith changed w (xs.map some)).any id = true)
    (w' : W ℝ) (h : Reparam.set pi w (xs.map some) = .ok w') : ∀ s ∈ w', Sync pi s := by
  rw [set_real ht w _ hinv (by simpa using hlen), hch] at h
  injection h with h
  subst h
  exact sync_of_all_named pi w _ (fun u hu => by obtain ⟨x, _, rfl⟩ := List.mem_map.mp hu; exact ⟨x, rfl⟩)

/-- the wrapper's value is the wrapped function at the back-transformed point -/
theorem wrap_f_eq (pi : ℝ) (f : List ℝ → ℝ) (w : W ℝ) (hs : ∀ s ∈ w, Sync pi s) :
    Reparam.value f w = f (origs pi w) := by
  unfold Reparam.value; rw [fnVals_eq_origs hs]

/-- All histories, for *every* initial value accepted by its constraint (including a value in the
sliver `init_` removes next to an open bound, or on a closed bound): wrapping succeeds, any sequence
of `setParameters` calls with any subsets of coordinates and any real values succeeds, and
afterwards, parameter by parameter, the wrapped function stands at a point that satisfies the
original constraint, at most `2 tiny` away from the back-transformed coordinate, and exactly at the
back-transformed coordinate when `init_` did not have to move the initial value.  (A coordinate that
was moved stays up to `2 tiny` off until it is named in an update that changes something; see
`set_all_sync`: an update of all the coordinates that changes one re-synchronises everything.) -/
theorem all_histories_accepted (pi tiny : ℝ) (ht : 0 < tiny) (ps : List (Shape ℝ × ℝ))
    (h : ∀ p ∈ ps, Admits tiny p.1 p.2)
    (upds : List (List (Option ℝ))) (hl : ∀ u ∈ upds, u.length = ps.length) :
    ∃ w0 w, init pi tiny ps = .ok w0 ∧ Reparam.run pi w0 upds = .ok w ∧
      List.Forall₂ (fun p s => s.shape = p.1 ∧ p.1.Accepts s.fn ∧
        |s.fn - s.tp.getOriginal pi| ≤ 2 * tiny ∧
        (NotNudged tiny p.1 p.2 → s.fn = s.tp.getOriginal pi)) ps w := by
  obtain ⟨w0, hw0, htr0⟩ := wrap_tracks pi tiny ht ps h
  obtain ⟨w, e, htr⟩ := run_tracks ht upds hl htr0
  refine ⟨w0, w, hw0, e, forall₂_imp_right ?_ htr⟩
  rintro p s ⟨r1, r2, r3, r4⟩
  exact ⟨r1, by rw [← r1]; exact r2.fn, r3.1, fun hn => (r4 hn).1⟩

/-- All histories: starting from a construction with admissible, non-nudged values, any sequence of
`setParameters` calls with any subsets of coordinates and any real values succeeds, and after it
the wrapper's value is the wrapped function at the back-transformed point, which satisfies every
original constraint. -/
theorem all_histories (pi tiny : ℝ) (ht : 0 < tiny) (f : List ℝ → ℝ) (ps : List (Shape ℝ × ℝ))
    (h : ∀ p ∈ ps, Admits tiny p.1 p.2) (hn : ∀ p ∈ ps, NotNudged tiny p.1 p.2)
    (upds : List (List (Option ℝ))) (hl : ∀ u ∈ upds, u.length = ps.length) :
    ∃ w0 w, init pi tiny ps = .ok w0 ∧ Reparam.run pi w0 upds = .ok w ∧
      Reparam.value f w = f (origs pi w) ∧
      (∀ s ∈ w, s.shape.Accepts s.fn ∧ s.fn = s.tp.getOriginal pi) := by
  obtain ⟨w0, w, e0, e1, hacc⟩ := all_histories_accepted pi tiny ht ps h upds hl
  have hs : ∀ s ∈ w, s.shape.Accepts s.fn ∧ s.fn = s.tp.getOriginal pi :=
    forall₂_right (fun p s r => ⟨r.1.1 ▸ r.1.2.1, r.1.2.2.2 r.2⟩) (forall₂_and_left hacc hn)
  exact ⟨w0, w, e0, e1, congrArg f (List.map_congr_left fun s hs' => (hs s hs').2), hs⟩

/-! ## Derivatives: the chain rule -/

/-- for every transformed parameter `init_` can build, `getFirstOrderDerivative` is the derivative
of the back-transformation with respect to the transformed coordinate -/
theorem tp_d1_is_derivative (pi : ℝ) (tp : TP ℝ) (h : TPWF tp) :
    HasDerivAt (fun x => (tp.setX x).getOriginal pi) (tp.d1 pi) tp.x :=
  tp_hasDerivAt pi tp h

/-- Full statement: `getSecondOrderDerivative` is the derivative of `getFirstOrderDerivative` at every
coordinate.  False for a half-line transform at the junction `x = 0` (`r_d2_not_derivative_at_junction`;
reached e.g. by `[a,+inf[` wrapped at the value `a + 1`), so this guarded version excludes it; the
statement that holds everywhere is `tp_d2_is_right_derivative`. -/
theorem tp_d2_is_derivative_partial (pi : ℝ) (tp : TP ℝ) (h : TPWF tp)
    (hx : ∀ t, tp = .r t → t.x ≠ 0) :
    HasDerivAt (fun x => (tp.setX x).d1 pi) (tp.d2 pi) tp.x := by
  cases tp with
  | r t => simp only [setX_r]; exact r_d2_is_derivative_partial t h (hx t rfl)
  | i t => simp only [setX_i]; exact interval_d2_is_derivative pi t h.2.1.ne' (by simp [h.1])
  | p x0 => simpa [TP.d1, TP.d2, TP.x] using hasDerivAt_const x0 (1 : ℝ)

/-- the junction is reached by ordinary inputs: `[0,+inf[` wrapped at the value `1` starts at the
transformed coordinate `0` (so the exclusion in `tp_d2_is_derivative_partial`, `chain_rule_2_partial`
is a real one, and `*_right` are the statements that cover it) -/
example (pi tiny : ℝ) (_ht : 0 < tiny) (ht1 : tiny < 1) :
    ∃ t, initOne pi tiny (Shape.ge (0:ℝ)) 1 = some (TP.r t) ∧ t.x = 0 ∧ t.scale = 1 ∧ t.positive = true := by
  have hc : corrected tiny (Shape.ge (0:ℝ)) 1 = 1 := by
    simp only [corrected, correctLower_real]
    rw [if_neg]; simp; linarith
  refine ⟨{ scale := 1, bound := 0, positive := true, x := 0 }, ?_, rfl, rfl, rfl⟩
  simp only [initOne, hc, RT.new]
  rw [RT.setOriginal_real]
  simp [RT.fwdR, RT.fp, RT.sgn]

/-- for every transformed parameter `init_` can build and at **every** coordinate — the half-line
junction included — `getSecondOrderDerivative` is the right derivative of `getFirstOrderDerivative` -/
theorem tp_d2_is_right_derivative (pi : ℝ) (tp : TP ℝ) (h : TPWF tp) :
    HasDerivWithinAt (fun x => (tp.setX x).d1 pi) (tp.d2 pi) (Set.Ici tp.x) tp.x := by
  cases tp with
  | r t => simp only [setX_r]; exact r_d2_is_right_derivative t h
  | i t => simp only [setX_i]; exact (interval_d2_is_derivative pi t h.2.1.ne' (by simp [h.1])).hasDerivWithinAt
  | p x0 => simpa [TP.d1, TP.d2, TP.x] using hasDerivWithinAt_const x0 (Set.Ici x0) (1 : ℝ)

/-- every transformed parameter `init_` can build is a strictly monotone change of variable:
increasing, except for `]-inf,b[` / `]-inf,b]` which use the (decreasing) mirror image -/
theorem tp_strict_mono (pi : ℝ) (tp : TP ℝ) (h : TPWF tp) :
    (∀ t, tp = .r t → t.positive = false → StrictAnti (fun x => (tp.setX x).getOriginal pi)) ∧
    ((∀ t, tp = .r t → t.positive = true) → StrictMono (fun x => (tp.setX x).getOriginal pi)) := by
  cases tp with
  | r t =>
    have hm := r_strict_mono t h
    simp only [setX_r, TP.getOriginal]
    constructor
    · intro t' ht' hp
      injection ht' with ht'; subst ht'
      simpa [hp] using hm
    · intro hp
      simpa [hp t rfl] using hm
  | i t =>
    simp only [setX_i]
    exact ⟨fun t' ht' => (by cases ht'), fun _ => interval_strict_mono_hyper pi t h.1 h.2.1 h.2.2⟩
  | p x0 =>
    simp only [setX_p]
    exact ⟨fun t' ht' => (by cases ht'), fun _ => strictMono_id⟩

/-- Chain rule, first order.  `w` is a wrapper whose slot `i` is `s`; the wrapped function `f` has
partial derivative `df p i` with respect to its `i`-th parameter at the back-transformed point.
Then the wrapper's value, as a function of the `i`-th transformed coordinate, has derivative
`df(...) i * getFirstOrderDerivative` — the product `getFirstOrderDerivative(variable)` returns
(h:153-157). -/
theorem chain_rule_1 (pi : ℝ) (f : List ℝ → ℝ) (df : List ℝ → Nat → ℝ) (w : W ℝ) (i : Nat)
    (s : Slot ℝ) (hi : w[i]? = some s) (hwf : TPWF s.tp) (hsync : ∀ s ∈ w, Sync pi s)
    (hf : HasDerivAt (fun y => f ((origs pi w).set i y)) (df (origs pi w) i) (s.tp.getOriginal pi)) :
    ∃ d, Reparam.d1 pi df w i = some d ∧
      HasDerivAt (fun x => f (origs pi (w.set i (s.atX x)))) d s.tp.x := by
  refine ⟨df (origs pi w) i * s.tp.d1 pi, by simp [Reparam.d1, hi, fnVals_eq_origs hsync], ?_⟩
  simp only [origs_set]
  exact chain_d1 hwf hf

/-- Full statement: the wrapper's `getSecondOrderDerivative(variable)` is the derivative of its first
derivative with respect to the transformed coordinate, at every coordinate.  False at the junction
`x = 0` of a half-line transform (`hx` excludes it; `r_d2_not_derivative_at_junction`): there the
statement that holds is `chain_rule_2_right`.  The value is `f'' * T'^2 + f' * T''` (h:207-213). -/
theorem chain_rule_2_partial (pi : ℝ) (df : List ℝ → Nat → ℝ) (d2f : List ℝ → Nat → Nat → ℝ) (w : W ℝ)
    (i : Nat) (s : Slot ℝ) (hi : w[i]? = some s) (hwf : TPWF s.tp) (hsync : ∀ s ∈ w, Sync pi s)
    (hx : ∀ t, s.tp = .r t → t.x ≠ 0)
    (hf2 : HasDerivAt (fun y => df ((origs pi w).set i y) i) (d2f (origs pi w) i i) (s.tp.getOriginal pi)) :
    ∃ d, Reparam.d2 pi df d2f w i = some d ∧
      HasDerivAt (fun x => df (origs pi (w.set i (s.atX x))) i * (s.tp.setX x).d1 pi) d s.tp.x := by
  refine ⟨d2f (origs pi w) i i * (s.tp.d1 pi) ^ 2 + df (origs pi w) i * s.tp.d2 pi, ?_, ?_⟩
  · simp [Reparam.d2, hi, fnVals_eq_origs hsync]
  · simp only [origs_set]
    refine (chain_d2 (G := fun y => df ((origs pi w).set i y) i) hwf hf2
      (tp_d2_is_derivative_partial pi s.tp hwf hx)).congr_deriv ?_
    simp only [origs_set_self hi]

/-- Chain rule, second order, same variable, **at every coordinate** (no exclusion of the half-line
junction): the wrapper's second derivative `f'' * T'^2 + f' * T''` (h:207-213) is the *right*
derivative of its first derivative with respect to the transformed coordinate -/
theorem chain_rule_2_right (pi : ℝ) (df : List ℝ → Nat → ℝ) (d2f : List ℝ → Nat → Nat → ℝ) (w : W ℝ)
    (i : Nat) (s : Slot ℝ) (hi : w[i]? = some s) (hwf : TPWF s.tp) (hsync : ∀ s ∈ w, Sync pi s)
    (hf2 : HasDerivAt (fun y => df ((origs pi w).set i y) i) (d2f (origs pi w) i i) (s.tp.getOriginal pi)) :
    ∃ d, Reparam.d2 pi df d2f w i = some d ∧
      HasDerivWithinAt (fun x => df (origs pi (w.set i (s.atX x))) i * (s.tp.setX x).d1 pi) d
        (Set.Ici s.tp.x) s.tp.x := by
  refine ⟨d2f (origs pi w) i i * (s.tp.d1 pi) ^ 2 + df (origs pi w) i * s.tp.d2 pi, ?_, ?_⟩
  · simp [Reparam.d2, hi, fnVals_eq_origs hsync]
  · simp only [origs_set]
    refine (chain_d2_right (G := fun y => df ((origs pi w).set i y) i) hwf hf2
      (tp_d2_is_right_derivative pi s.tp hwf)).congr_deriv ?_
    simp only [origs_set_self hi]

/-- Chain rule, second order, two *different* variables: `f_ij * T_i' * T_j'` (h:215-222).  `hij` is
used: for the same variable twice the two-argument overload is the one-argument one
(`chain_rule_2_diag`), whose value has the additional `f_i T_i''` term. -/
theorem chain_rule_2_cross (pi : ℝ) (df : List ℝ → Nat → ℝ) (d2f : List ℝ → Nat → Nat → ℝ) (w : W ℝ)
    (i j : Nat) (hij : i ≠ j) (si sj : Slot ℝ) (hi : w[i]? = some si) (hj : w[j]? = some sj)
    (hwf : TPWF sj.tp) (hsync : ∀ s ∈ w, Sync pi s)
    (hfx : HasDerivAt (fun y => df ((origs pi w).set j y) i) (d2f (origs pi w) i j) (sj.tp.getOriginal pi)) :
    ∃ d, Reparam.d2x pi df d2f w i j = some d ∧
      HasDerivAt (fun x => df (origs pi (w.set j (sj.atX x))) i * si.tp.d1 pi) d sj.tp.x := by
  refine ⟨d2f (origs pi w) i j * si.tp.d1 pi * sj.tp.d1 pi, ?_, ?_⟩
  · simp [Reparam.d2x, hij, hi, hj, fnVals_eq_origs hsync]
  · simp only [origs_set]
    exact chain_cross hwf hfx _

/-- The two-argument overload called with the same variable twice (the diagonal of a Hessian loop,
`SecondOrderDerivable::d2f(v, v, parameters)`) *is* the one-argument overload, so `chain_rule_2_partial`
/ `chain_rule_2_right` describe it.  (Before the `fix:` "getSecondOrderDerivative(v, v)" of
findings/C11.json it returned `f_ii T'^2` and dropped `f_i T''`: witness
`d2x_diag_before_fix_differs`.) -/
theorem chain_rule_2_diag (pi : ℝ) (df : List ℝ → Nat → ℝ) (d2f : List ℝ → Nat → Nat → ℝ) (w : W ℝ)
    (i : Nat) : Reparam.d2x pi df d2f w i i = Reparam.d2 pi df d2f w i := by
  simp [Reparam.d2x]

/-- what the diagonal call returned before the repair is not the second derivative: for `f(p) = p`
behind the half-line transform of `[0,+inf[` at the coordinate `-1` the formula `f_ii T'^2` gives `0`
while the second derivative `f_ii T'^2 + f_i T''` is `exp(-1)` -/
theorem d2x_diag_before_fix_differs :
    let s : Slot ℝ := ⟨.r ⟨1, 0, true, -1⟩, Shape.ge 0, Real.exp (-1), Real.exp (-1)⟩
    (0 : ℝ) * s.tp.d1 (0 : ℝ) * s.tp.d1 0 ≠ Real.exp (-1) ∧
    Reparam.d2 (0 : ℝ) (fun _ _ => 1) (fun _ _ _ => 0) [s] 0 = some (Real.exp (-1)) := by
  refine ⟨by simpa using (Real.exp_pos (-1)).ne, ?_⟩
  simp [Reparam.d2, TP.d1, TP.d2, RT.d1_real, RT.d2_real, RT.sgn]

/-- the factor used in `chain_rule_2_cross` is the wrapper's first derivative with respect to
`i`, which does not depend on the `j`-th transformed coordinate except through the point -/
theorem d1_after_other_coordinate (pi : ℝ) (df : List ℝ → Nat → ℝ) (w : W ℝ) (i j : Nat)
    (hij : i ≠ j) (si sj : Slot ℝ) (hi : w[i]? = some si) (x : ℝ) :
    Reparam.d1 pi df (w.set j (sj.atX x)) i
      = some (df (fnVals (w.set j (sj.atX x))) i * si.tp.d1 pi) := by
  simp [Reparam.d1, Ne.symm hij, hi]

/-! ## With the library's constants (regenerated from NumConstants.h on every run) -/

theorem wrap_preserves_values_lib (ps : List (Shape ℝ × ℝ)) (h : ∀ p ∈ ps, Admits libTINY p.1 p.2) :
    ∃ w, init libPI libTINY ps = .ok w ∧
      fnVals w = ps.map (·.2) ∧ w.map (·.fp) = ps.map (·.2) ∧ w.map (·.shape) = ps.map (·.1) ∧
      origs libPI w = ps.map (fun p => corrected libTINY p.1 p.2) ∧
      (∀ s ∈ w, SlotInv libTINY s) :=
  wrap_preserves_values libPI libTINY libTINY_pos ps h

theorem all_histories_accepted_lib (ps : List (Shape ℝ × ℝ))
    (h : ∀ p ∈ ps, Admits libTINY p.1 p.2)
    (upds : List (List (Option ℝ))) (hl : ∀ u ∈ upds, u.length = ps.length) :
    ∃ w0 w, init libPI libTINY ps = .ok w0 ∧ Reparam.run libPI w0 upds = .ok w ∧
      List.Forall₂ (fun p s => s.shape = p.1 ∧ p.1.Accepts s.fn ∧
        |s.fn - s.tp.getOriginal libPI| ≤ 2 * libTINY ∧
        (NotNudged libTINY p.1 p.2 → s.fn = s.tp.getOriginal libPI)) ps w :=
  all_histories_accepted libPI libTINY libTINY_pos ps h upds hl

theorem all_histories_lib (f : List ℝ → ℝ) (ps : List (Shape ℝ × ℝ))
    (h : ∀ p ∈ ps, Admits libTINY p.1 p.2) (hn : ∀ p ∈ ps, NotNudged libTINY p.1 p.2)
    (upds : List (List (Option ℝ))) (hl : ∀ u ∈ upds, u.length = ps.length) :
    ∃ w0 w, init libPI libTINY ps = .ok w0 ∧ Reparam.run libPI w0 upds = .ok w ∧
      Reparam.value f w = f (origs libPI w) ∧
      (∀ s ∈ w, s.shape.Accepts s.fn ∧ s.fn = s.tp.getOriginal libPI) :=
  all_histories libPI libTINY libTINY_pos f ps h hn upds hl

/-- The property as quantified: for functions with any number of parameters mixing all eight bound
configurations (and unconstrained ones), initial values inside their constraints at least `1e-9`
away from every finite bound, and any history of updates of any subsets of the transformed
coordinates with any real values: wrapping succeeds, no update raises, and afterwards the wrapper's
value is the wrapped function evaluated at the back-transformed point, which satisfies all the
original constraints. -/
theorem all_histories_margin (f : List ℝ → ℝ) (ps : List (Shape ℝ × ℝ))
    (h : ∀ p ∈ ps, Margin p.1 p.2)
    (upds : List (List (Option ℝ))) (hl : ∀ u ∈ upds, u.length = ps.length) :
    ∃ w0 w, init libPI libTINY ps = .ok w0 ∧ fnVals w0 = ps.map (·.2) ∧
      origs libPI w0 = ps.map (·.2) ∧
      Reparam.run libPI w0 upds = .ok w ∧
      Reparam.value f w = f (origs libPI w) ∧
      (∀ s ∈ w, s.shape.Accepts s.fn ∧ s.fn = s.tp.getOriginal libPI) := by
  have hm := fun p hp => margin_admits libTINY_pos two_libTINY_lt_margin (h p hp)
  obtain ⟨w0, w, e0, e1, e2, e3⟩ := all_histories_lib f ps (fun p hp => (hm p hp).1) (fun p hp => (hm p hp).2) upds hl
  obtain ⟨w0', e0', f1, _, _, f4, _⟩ := wrap_preserves_values_lib ps (fun p hp => (hm p hp).1)
  obtain rfl : w0' = w0 := Except.ok.inj (e0'.symm.trans e0)
  exact ⟨w0', w, e0, f1, f4.trans (List.map_congr_left fun p hp => corrected_eq_self (hm p hp).2), e1, e2, e3⟩

/-! ## Non-vacuity: the hypotheses are satisfiable -/

/-- `TINY()` is small: the hypotheses `Admits`/`NotNudged` hold for ordinary data -/
theorem libTINY_lt : (libTINY : ℝ) < 1 / 1000 := by
  simp only [libTINY, Generated.TransformConstants.TINY, ScalarReal.ofRat_eq]
  norm_num

/-- admissible: ordinary values, a value on a closed bound, and values in the sliver of width
`TINY()` next to an open bound -/
example : ∀ p ∈ [((Shape.cc 0 1 : Shape ℝ), (1 / 2 : ℝ)), (Shape.gt 0, libTINY / 2),
    (Shape.oo (-1) 1, -1 + libTINY / 2), (Shape.le 3, 3), (Shape.none, 7)],
    Admits libTINY p.1 p.2 := by
  have h1 := libTINY_pos
  have h2 := libTINY_lt
  intro p hp
  simp only [List.mem_cons, List.not_mem_nil, or_false] at hp
  rcases hp with rfl | rfl | rfl | rfl | rfl <;>
    simp only [Admits, Shape.Accepts, Shape.Roomy] <;> refine ⟨?_, ?_⟩ <;>
    (try constructor) <;> first | trivial | linarith

example : ∀ p ∈ [((Shape.cc 0 1 : Shape ℝ), (1 / 2 : ℝ)), (Shape.gt 0, 2), (Shape.oo (-1) 1, 0)],
    NotNudged libTINY p.1 p.2 := by
  have h1 := libTINY_pos
  have h2 := libTINY_lt
  intro p hp
  simp only [List.mem_cons, List.not_mem_nil, or_false] at hp
  rcases hp with rfl | rfl | rfl <;> simp only [NotNudged]
  · constructor <;> norm_num <;> linarith
  · linarith
  · constructor <;> linarith

/-- the value in the sliver next to the open bound of `]0,+inf[` is moved to `2 TINY()` -/
example : corrected (libTINY : ℝ) (Shape.gt (0 : ℝ)) ((libTINY : ℝ) / 2)
    = (0 : ℝ) + libTINY + libTINY := by
  have h1 := libTINY_pos
  simp only [corrected, correctLowerOpen_real]
  rw [if_pos (by linarith)]

/-- the chain rule applies to an actual function: `f(p) = p₀²` behind a placebo transform -/
example : ∃ d, Reparam.d1 libPI (fun p _ => 2 * p.headD 0) [Slot.mk (TP.p 3) Shape.none 3 3] 0 = some d ∧
    HasDerivAt (fun x => (fun p : List ℝ => (p.headD 0) ^ 2)
      (origs libPI ([Slot.mk (TP.p 3) Shape.none 3 3].set 0 ((Slot.mk (TP.p 3) Shape.none 3 3).atX x)))) d 3 := by
  have := chain_rule_1 libPI (fun p : List ℝ => (p.headD 0) ^ 2) (fun p _ => 2 * p.headD 0)
    [Slot.mk (TP.p 3) Shape.none 3 3] 0 (Slot.mk (TP.p 3) Shape.none 3 3) rfl trivial
    (by intro s hs; simp at hs; subst hs; simp [Sync, TP.getOriginal])
    (by
      have h : HasDerivAt (fun y : ℝ => y ^ 2) (2 * 3) 3 := by simpa using hasDerivAt_pow 2 (3 : ℝ)
      simpa [origs, TP.getOriginal] using h)
  simpa [TP.x] using this

end Bpp.C11
