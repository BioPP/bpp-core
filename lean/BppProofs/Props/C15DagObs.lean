import BppProofs.Lemmas.DagObs
import BppProofs.Props.C15Dag
import BppProofs.Props.C15ObsCopy
/-!
# C15, object level — the DAG container watched by association observers
(src/Bpp/Graph/AssociationDAGraphImplObserver.h, model `BppModel/DagObs.lean`)

Proved here (helper lemmas in `Lemmas/DagObs.lean`):
* over all histories of object-level calls on the observed DAG container (node creations, links, unlinks,
  deletions, `addFather` / `addSon` with or without edge object, `removeFather` / `removeSon`,
  `removeFathers` / `removeSons`, `rootAt`, `isValid`, `isRooted`, observer copy / `clone()` / `operator=`;
  each call succeeding or raising) **the association invariant holds and the graph stays directed** (`dw_inv`)
  and **both cached flags are sound** (`dw_cache_sound`);
* **the edge object given to `addFather` / `addSon` is the one of the new relation**
  (`dag_addFather_keeps_object`, `dag_addSon_keeps_object`);
* **re-rooting changes no association** (`dag_rootAt_keeps_objects`), and the associations are still in order
  against the re-rooted graph, which has the same node and edge ids (`dag_rootAt_keeps_invariant`,
  `dag_rootAt_objects_live`);
* **a copy has the same relations** (`dag_obs_copy_same_relations`, and the same for `clone()` / `operator=`):
  the graph, both flags and the other observers are untouched.
-/
set_option linter.unusedVariables false
namespace Bpp.C15
open Bpp Bpp.Graph Bpp.AL Bpp.Graph.DW

/-! ## the invariants over all histories -/

/-- **the association invariant over all histories** of object-level calls on the observed DAG container: the
graph is consistent with nothing pending, every observer's maps are inverse of each other and only name live
ids, and the graph stays directed -/
theorem dw_inv (ops : List DWOp) : WInv (DW.init.run ops).w ∧ (DW.init.run ops).w.g.directed = true :=
  ⟨(run_inv ops _ (inv_init (C14.winv_init true))).winv, (run_inv ops _ (inv_init (C14.winv_init true))).dir⟩

/-- **cache soundness over all histories** of the observed DAG container: a set `isValid_` means `isDA` answers
true on the graph as it is now, a set `isRooted_` means exactly one node of the current graph is father-less
(the observer's `link` / `unlink` / `deleteNode` / `createNode` run a primitive of the graph, which resets both
flags; copying an observer does not touch the graph; `rootAt` is the container's) -/
theorem dw_cache_sound (ops : List DWOp) : DagCacheSound (DW.init.run ops).toD :=
  (run_inv ops _ (inv_init (C14.winv_init true))).sound

/-- … hence `isValid()` of the observed container answers what `isDA` answers on the current graph -/
theorem dw_isValid_is_isDA (ops : List DWOp) : (DW.init.run ops).isValid.1 = D.isDA (DW.init.run ops).w.g :=
  D.isValid_fst (d := (DW.init.run ops).toD) (dw_cache_sound ops).1

/-! ## the edge object of `addFather` / `addSon` -/

/-- **addFather keeps the edge object**: after a successful `addFather(node n, father f, edgeObject x)` through
observer `k`, `getEdgeLinking(f, n)` answers `x`, and the association invariants still hold -/
theorem dag_addFather_keeps_object (dw dw' : DW) (k : Nat) (n f x : Obj) (hw : WInv dw.w)
    (h : dw.addFather k n f (some x) = (.ok, dw')) :
    ∃ o', dw'.w.getObs k = some o' ∧ World.edgeLinking dw'.w o' f n = some (some x) ∧ WInv dw'.w := by
  have h' : dw.ofO (dw.w.link k f n (some x)) = (.ok, dw') := h
  obtain ⟨u, hl⟩ := ofO_ok h'
  exact world_link_keeps_object hw hl

/-- **addSon keeps the edge object**: after a successful `addSon(node n, son s, edgeObject x)` through
observer `k`, `getEdgeLinking(n, s)` answers `x`, and the association invariants still hold -/
theorem dag_addSon_keeps_object (dw dw' : DW) (k : Nat) (n s x : Obj) (hw : WInv dw.w)
    (h : dw.addSon k n s (some x) = (.ok, dw')) :
    ∃ o', dw'.w.getObs k = some o' ∧ World.edgeLinking dw'.w o' n s = some (some x) ∧ WInv dw'.w := by
  have h' : dw.ofO (dw.w.link k n s (some x)) = (.ok, dw') := h
  obtain ⟨u, hl⟩ := ofO_ok h'
  exact world_link_keeps_object hw hl

/-! ## re-rooting -/

/-- **re-rooting keeps the attached objects**: `rootAt` changes no association of any observer -/
theorem dag_rootAt_keeps_objects (dw : DW) (k : Nat) (a : Obj) (r : TW.WRes × DW) (h : dw.rootAt k a = .ok r) :
    r.2.w.obs = dw.w.obs := rootAt_obs h

/-- … and the association invariants still hold against the re-rooted graph (consistent, directed, nothing
pending, the same node ids and edge ids), whatever the cached flags said, `rootAt` succeeding or raising half way -/
theorem dag_rootAt_keeps_invariant (dw : DW) (k : Nat) (a : Obj) (r : TW.WRes × DW) (hw : WInv dw.w)
    (hd : dw.w.g.directed = true) (h : dw.rootAt k a = .ok r) : WInv r.2.w ∧ r.2.w.g.directed = true :=
  rootAt_winv hw hd h

/-- … so every object is attached to the same node or edge id as before, and that id is still in the graph -/
theorem dag_rootAt_objects_live (dw : DW) (k : Nat) (a : Obj) (r : TW.WRes × DW) (hw : WInv dw.w)
    (hd : dw.w.g.directed = true) (h : dw.rootAt k a = .ok r) (j : Nat) (o : Obs) (hj : dw.w.getObs j = some o) :
    r.2.w.getObs j = some o ∧ (∀ x e, find x o.Eg = some e → r.2.w.g.hasEdge e = true) ∧
    (∀ b id, find b o.Ng = some id → r.2.w.g.hasNode id = true) := by
  have hj' : r.2.w.getObs j = some o := by simp only [World.getObs, rootAt_obs h]; exact hj
  have hi := (rootAt_winv hw hd h).1.obs j o hj'
  exact ⟨hj', hi.e_live, hi.n_live⟩

/-! ## a copy has the same relations -/

/-- **the copy constructor**: slot `k` (an existing slot: `hk`) holds the copy of observer `j`, with the same
object↔id pairs; the graph, both cached flags and every other observer are as before -/
theorem dag_obs_copy_same_relations (dw dw' : DW) (j k : Nat) (o : Obs) (hw : WInv dw.w) (hj : dw.w.getObs j = some o)
    (hk : k < dw.w.obs.length) (h : dw.copyObs j k = (.ok, dw')) :
    dw'.w.getObs k = some (World.copyObs o) ∧ (World.copyObs o).Ng = o.Ng ∧ (World.copyObs o).Eg = o.Eg ∧
    dw'.w.g = dw.w.g ∧ dw'.valid = dw.valid ∧ dw'.rooted = dw.rooted ∧
    (∀ i, i ≠ k → dw'.w.getObs i = dw.w.getObs i) := by
  have hi := copyObs_ok hj hk h
  exact ⟨hi.slot, rfl, rfl, hi.graph, hi.valid, hi.rooted, hi.others⟩

/-- **`clone()`** -/
theorem dag_obs_clone_same_relations (dw dw' : DW) (j k : Nat) (o : Obs) (hw : WInv dw.w) (hj : dw.w.getObs j = some o)
    (hk : k < dw.w.obs.length) (h : dw.cloneObs j k = (.ok, dw')) :
    dw'.w.getObs k = some (World.copyObs o) ∧ (World.copyObs o).Ng = o.Ng ∧ (World.copyObs o).Eg = o.Eg ∧
    dw'.w.g = dw.w.g ∧ dw'.valid = dw.valid ∧ dw'.rooted = dw.rooted ∧
    (∀ i, i ≠ k → dw'.w.getObs i = dw.w.getObs i) :=
  dag_obs_copy_same_relations dw dw' j k o hw hj hk h

/-- **`operator=`** onto another observer (a successful assignment has a target, so slot `k` exists) -/
theorem dag_obs_assign_same_relations (dw dw' : DW) (j k : Nat) (o : Obs) (hw : WInv dw.w) (hj : dw.w.getObs j = some o)
    (hjk : j ≠ k) (h : dw.assignObs j k = (.ok, dw')) :
    dw'.w.getObs k = some (World.copyObs o) ∧ (World.copyObs o).Ng = o.Ng ∧ (World.copyObs o).Eg = o.Eg ∧
    dw'.w.g = dw.w.g ∧ dw'.valid = dw.valid ∧ dw'.rooted = dw.rooted ∧
    (∀ i, i ≠ k → dw'.w.getObs i = dw.w.getObs i) := by
  have hi := assignObs_ok hj hjk h
  exact ⟨hi.slot, rfl, rfl, hi.graph, hi.valid, hi.rooted, hi.others⟩

/-! ## the hypotheses are satisfiable

The DAG `10 -> 11` (edge object 100, through `addFather(11, 10, 100)`), `10 -> 12` (edge object 101, through
`addSon(10, 12, 101)`), `11 -> 12` (no edge object, through `addFather(12, 11)`), built through observer 0. -/

/-- the history of the examples -/
def exDagHist : List DWOp :=
  [.createNode 0 10, .createNode 0 11, .createNode 0 12, .addFather 0 11 10 (some 100), .addSon 0 10 12 (some 101),
   .addFather 0 12 11 none]

example : WInv (DW.init.run exDagHist).w ∧ (DW.init.run exDagHist).w.g.directed = true := dw_inv exDagHist
example : DagCacheSound (DW.init.run exDagHist).toD := dw_cache_sound exDagHist
/-- every call of the history succeeds -/
example : ((DW.init.run (exDagHist.take 3)).addFather 0 11 10 (some 100)).1 = .ok ∧
    ((DW.init.run (exDagHist.take 4)).addSon 0 10 12 (some 101)).1 = .ok ∧
    ((DW.init.run (exDagHist.take 5)).addFather 0 12 11 none).1 = .ok := by decide +kernel
/-- the edge objects are the ones of the new relations; the relation added without object carries none -/
example : ((DW.init.run exDagHist).w.getObs 0).map (fun o =>
    (World.edgeLinking (DW.init.run exDagHist).w o 10 11, World.edgeLinking (DW.init.run exDagHist).w o 10 12,
     World.edgeLinking (DW.init.run exDagHist).w o 11 12)) = some (some (some 100), some (some 101), some none) := by decide +kernel
/-- the object-level DAG queries: 12 has the fathers 10 and 11; the edge object 100 runs from 10 to 11 -/
example : ((DW.init.run exDagHist).w.getObs 0).map (fun o =>
    ((DW.init.run exDagHist).fathersObj o 12, (DW.init.run exDagHist).fatherOfEdge o 100, (DW.init.run exDagHist).sonOfEdge o 100)) =
      some (some [10, 11], some (some 10), some (some 11)) := by decide +kernel
/-- `isValid()` answers true, and the flag is set afterwards; `isRooted()` too -/
example : (DW.init.run exDagHist).isValid.1 = .ok true ∧ (DW.init.run (exDagHist ++ [.isValid])).valid = true ∧
    (DW.init.run (exDagHist ++ [.isValid])).isRooted.1 = true ∧
    (DW.init.run (exDagHist ++ [.isValid, .isRooted])).rooted = true := by decide +kernel
/-- `rootAt(12)` succeeds on this valid rooted DAG; the associations are as before, 12 is the root and the only
father-less node, and the edge object 100 now runs from 11 to 10 -/
example : (match (DW.init.run (exDagHist ++ [.isValid])).rootAt 0 12 with
    | .ok r => r.1 == .ok && (r.2.w.obs == (DW.init.run exDagHist).w.obs) && ((r.2.w.getObs 0).bind (fun o => o.nodeFromGid r.2.w.g.root) == some 12) &&
        D.nbFatherless r.2.w.g == 1 && (D.isDA r.2.w.g == .ok true) &&
        ((r.2.w.getObs 0).map (fun o => (r.2.fatherOfEdge o 100, r.2.sonOfEdge o 100)) == some (some (some 11), some (some 10)))
    | _ => false) = true := by decide +kernel
/-- the same as a step of a history; `isValid()` answers true afterwards -/
example : (DW.init.run (exDagHist ++ [.isValid, .rootAt 0 12])).isValid.1 = .ok true ∧
    (DW.init.run (exDagHist ++ [.isValid, .rootAt 0 12])).w.obs = (DW.init.run exDagHist).w.obs := by decide +kernel
/-- a copy of observer 0 into slot 1 has the same object↔id pairs and leaves both flags alone -/
example : ((DW.init.run (exDagHist ++ [.isValid])).copyObs 0 1).1 = .ok ∧
    ((DW.init.run (exDagHist ++ [.isValid, .copy 0 1])).w.getObs 1).map (fun c => (c.Ng, c.Eg)) =
      some ([(10, 0), (11, 1), (12, 2)], [(100, 0), (101, 1)]) ∧
    (DW.init.run (exDagHist ++ [.isValid, .copy 0 1])).valid = true := by decide +kernel
/-- `removeFathers(12)` returns the objects 10, 11 and resets the validity flag -/
example : ((DW.init.run (exDagHist ++ [.isValid])).removeAll 0 12 true).1 = some [10, 11] ∧
    ((DW.init.run (exDagHist ++ [.isValid])).removeAll 0 12 true).2.2.valid = false := by decide +kernel

end Bpp.C15
