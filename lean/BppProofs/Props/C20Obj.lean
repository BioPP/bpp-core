import BppProofs.Lemmas.RangeObj
/-!
# C20 — copies are deep and independent of their source   (ownership model)

Theorems about `BppModel/RangeObj.lean`: a heap of cells and objects holding vectors of owned
pointers.  What is proved: every member function is local to its object (it overwrites / deletes
only cells the object owns and allocates fresh ones); the copy constructor and `operator=`
allocate a fresh cell per element, so source and copy share nothing; hence, along **every history**
of member-function calls, copies and assignments, no call on one object changes what another
object shows (`copy_independent`).  The values written by the in-place loops are parameters of the
skeleton (they are the subject of `Props/C20.lean`).
-/
namespace Bpp.C20Obj
open Bpp Bpp.RangeObj
variable {α : Type}

/-- **local_preserves**: a step local to `k` keeps the separation and leaves what every other
object shows unchanged -/
theorem local_preserves (w w' : World α) (k : Nat) (hs : Sep w) (h : LocalStep w w' k) :
    Sep w' ∧ ∀ i, i ≠ k → view w' i = view w i := by
  have hfr : ∀ i, i ≠ k → ∀ a ∈ w.regs i, w'.heap a = w.heap a := by
    intro i hi a ha
    exact h.frame a ((hs i).2.1 a ha).1 ((hs i).2.2 k (Ne.symm hi) a ha)
  constructor
  · intro i
    by_cases hik : i = k
    · subst hik
      refine ⟨h.nodup, fun a ha => (h.owned a ha).2, ?_⟩
      intro j hj a ha hmem
      rw [h.others j hj] at hmem
      rcases (h.owned a ha).1 with e | e
      · exact (hs i).2.2 j hj a e hmem
      · have := ((hs j).2.1 a hmem).1; omega
    · rw [h.others i hik]
      refine ⟨(hs i).1, ?_, ?_⟩
      · intro a ha
        have := (hs i).2.1 a ha
        rw [hfr i hik a ha]
        exact ⟨by have := h.grow; omega, this.2⟩
      · intro j hj a ha hmem
        by_cases hjk : j = k
        · subst hjk
          rcases (h.owned a hmem).1 with e | e
          · exact (hs i).2.2 j hj a ha e
          · have := ((hs i).2.1 a ha).1; omega
        · rw [h.others j hjk] at hmem
          exact (hs i).2.2 j hj a ha hmem
  · intro i hi
    simp only [view]
    rw [h.others i hi]
    exact List.map_congr_left (fun a ha => hfr i hi a ha)

/-- the in-place loops (slice / expand / delete-and-erase / `clear_`) are local -/
theorem inPlace_local (w : World α) (k : Nat) (out : List (Option (Range α))) (hs : Sep w)
    (hlen : out.length = (w.regs k).length) : LocalStep w (inPlace w k out) k := by
  have hnd : (((w.regs k).zip out).map Prod.fst).Nodup := by
    rw [List.map_fst_zip (by omega)]; exact (hs k).1
  refine ⟨(inPlace_regs w k out).2, fun a _ hna => inPlace_heap_other w k out hna, Nat.le_refl _, ?_, ?_⟩
  · intro a ha
    rw [(inPlace_regs w k out).1, List.mem_filterMap] at ha
    obtain ⟨p, hp, ha⟩ := ha
    obtain ⟨y, hy, rfl⟩ := Option.map_eq_some_iff.mp ha
    have hmem : p.1 ∈ w.regs k := (List.of_mem_zip hp).1
    exact ⟨Or.inl hmem, ((hs k).2.1 _ hmem).1, by rw [inPlace_heap_owned w k out hnd hp, hy]; rfl⟩
  · rw [(inPlace_regs w k out).1]
    exact (keep_sublist _).nodup hnd

/-- `push_back(clone)` is local -/
theorem allocs_local (w : World α) (k : Nat) (xs : List (Range α)) (hs : Sep w) :
    LocalStep w (allocs w k xs) k := by
  refine ⟨(allocs_regs w k xs).2, fun a ha _ => allocs_heap_old w k xs ha, Nat.le_add_right _ _, ?_, ?_⟩
  · intro a ha
    rw [(allocs_regs w k xs).1, List.mem_append, List.mem_range'_1] at ha
    rcases ha with e | e
    · have := (hs k).2.1 a e
      exact ⟨Or.inl e, Nat.lt_of_lt_of_le this.1 (Nat.le_add_right _ _),
        by rw [allocs_heap_old w k xs this.1]; exact this.2⟩
    · obtain ⟨n, rfl⟩ := Nat.exists_eq_add_of_le e.1
      exact ⟨Or.inr e.1, e.2, by rw [allocs_heap_new w k xs (Nat.lt_of_add_lt_add_left e.2)]; rfl⟩
  · rw [(allocs_regs w k xs).1, List.nodup_append]
    refine ⟨(hs k).1, List.nodup_range' .., fun a ha b hb e => ?_⟩
    have := ((hs k).2.1 a ha).1
    have := (List.mem_range'_1.mp hb).1
    omega

/-- `std::sort` on the pointer vector is local and does not touch the heap -/
theorem permute_local (w : World α) (k : Nat) (v' : List Nat) (hs : Sep w) (hp : v'.Perm (w.regs k)) :
    LocalStep w (permute w k v') k ∧ (permute w k v').heap = w.heap := by
  refine ⟨⟨?_, fun _ _ _ => rfl, Nat.le_refl _, ?_, ?_⟩, rfl⟩
  · intro i hi; simp [permute, hi]
  · intro a ha
    simp only [permute, if_true] at ha
    have hm := hp.mem_iff.mp ha
    exact ⟨Or.inl hm, (hs k).2.1 a hm⟩
  · simp only [permute, if_true]; exact hp.nodup_iff.mpr (hs k).1

/-- after `clear_()` the object owns nothing -/
theorem clear_regs (w : World α) (k : Nat) : (clear w k).regs k = [] := by
  rw [clear, (inPlace_regs w k _).1, List.filterMap_eq_nil_iff]
  intro p hp
  obtain ⟨_, _, e⟩ := List.mem_map.mp (List.of_mem_zip hp).2
  rw [← e]; rfl

theorem clear_local (w : World α) (k : Nat) (hs : Sep w) : LocalStep w (clear w k) k :=
  inPlace_local w k _ hs (by simp)

/-- what an object shows after allocating clones into an empty vector: exactly the clones -/
theorem allocs_view (w : World α) (j : Nat) (xs : List (Range α)) (h0 : w.regs j = []) :
    view (allocs w j xs) j = xs.map some ∧ ∀ a ∈ (allocs w j xs).regs j, w.next ≤ a := by
  rw [view, (allocs_regs w j xs).1, h0, List.nil_append]
  refine ⟨List.ext_getElem (by simp) fun n h1 _ => ?_, fun a ha => (List.mem_range'_1.mp ha).1⟩
  have hn : n < xs.length := by simpa using h1
  rw [List.getElem_map, List.getElem_range', Nat.one_mul, allocs_heap_new w j xs hn, List.getElem_map]

/-- **copy_spec**: the copy constructor gives the new object a fresh cell for every element of the
source, holding an equal range; the source and every other object are untouched; separation is
kept — source and copy share no cell -/
theorem copy_spec (w : World α) (k j : Nat) (hkj : k ≠ j) (hs : Sep w) :
    Sep (copyCtor w k j) ∧
    view (copyCtor w k j) j = (vals w k).map some ∧
    (∀ i, i ≠ j → view (copyCtor w k j) i = view w i) ∧
    (∀ a ∈ (copyCtor w k j).regs j, a ∉ (copyCtor w k j).regs k ∧ w.next ≤ a) := by
  have h1 := local_preserves w _ j hs (clear_local w j hs)
  have h2 := local_preserves _ _ j h1.1 (allocs_local (clear w j) j (vals w k) h1.1)
  have hv := allocs_view (clear w j) j (vals w k) (clear_regs w j)
  simp only [copyCtor]
  refine ⟨h2.1, hv.1, fun i hi => by rw [h2.2 i hi, h1.2 i hi], ?_⟩
  intro a ha
  refine ⟨?_, ?_⟩
  · exact (h2.1 j).2.2 k hkj a ha
  · have := hv.2 a ha
    simpa [clear, inPlace] using this

/-- **assign_spec**: `operator=` onto another object behaves like destruction + copy construction;
onto itself (`this == &set`) it does nothing -/
theorem assign_spec (w : World α) (k j : Nat) (hs : Sep w) :
    (j = k → assign w k j = w) ∧
    (j ≠ k → Sep (assign w k j) ∧ view (assign w k j) j = (vals w k).map some ∧
      (∀ i, i ≠ j → view (assign w k j) i = view w i) ∧
      ∀ a ∈ (assign w k j).regs j, a ∉ (assign w k j).regs k) := by
  refine ⟨fun e => by simp [assign, e], fun hjk => ?_⟩
  -- clearing `j` does not change what `k` shows, so this is destruction followed by copy construction
  have hvals : vals (clear w j) k = vals w k := by
    rw [vals_eq_view, (local_preserves w _ j hs (clear_local w j hs)).2 k (Ne.symm hjk), ← vals_eq_view]
  have h := copy_spec w k j (Ne.symm hjk) hs
  simp only [assign, hjk, if_false, hvals]
  exact ⟨h.1, h.2.1, h.2.2.1, fun a ha => (h.2.2.2 a ha).1⟩

/-- **assign_unguarded_self_empties** — the code before the repair: without the guard,
`x = x` deletes every cell and then clones the (now empty) vector: the object ends up empty -/
theorem assign_unguarded_self_empties (w : World α) (k : Nat) :
    (assignUnguarded w k k).regs k = [] := by
  have h0 := clear_regs w k
  simp [assignUnguarded, allocs, vals, h0]

/-- **shallow_copy_shares** — what the copy constructor must not do (mutant M8): copying the
pointers makes two objects own the same cells, the separation is lost as soon as the source is
not empty, and a deletion through one object is seen through the other -/
theorem shallow_copy_shares (w : World α) (k j : Nat) (hkj : k ≠ j) (a : Nat) (ha : a ∈ w.regs k) :
    ¬ Sep (shallowCopy w k j) := by
  intro h
  have hk : (shallowCopy w k j).regs k = w.regs k := by simp [shallowCopy, hkj]
  have hj : (shallowCopy w k j).regs j = w.regs k := by simp [shallowCopy]
  exact (h k).2.2 j (Ne.symm hkj) a (by rw [hk]; exact ha) (by rw [hj]; exact ha)

/-! ## every history -/

/-- one call on the collections: a member function of object `k` (any composition of in-place
loops, pushes of clones and `std::sort`), a copy construction, or an assignment -/
inductive Call (α : Type) where
  | inPlace (k : Nat) (out : List (Option (Range α)))
  | push (k : Nat) (xs : List (Range α))
  | sort (k : Nat) (v' : List Nat)
  | copy (k j : Nat)
  | assign (k j : Nat)

def Call.wf (w : World α) : Call α → Prop
  | .inPlace k out => out.length = (w.regs k).length
  | .push _ _ => True
  | .sort k v' => v'.Perm (w.regs k)
  | .copy k j => k ≠ j
  | .assign _ _ => True

def exec (w : World α) : Call α → World α
  | .inPlace k out => RangeObj.inPlace w k out
  | .push k xs => allocs w k xs
  | .sort k v' => permute w k v'
  | .copy k j => copyCtor w k j
  | .assign k j => RangeObj.assign w k j

/-- the object a call writes to -/
def Call.target : Call α → Nat
  | .inPlace k _ | .push k _ | .sort k _ => k
  | .copy _ j | .assign _ j => j

theorem exec_sep (w : World α) (c : Call α) (hs : Sep w) (hc : c.wf w) :
    Sep (exec w c) ∧ ∀ i, i ≠ c.target → view (exec w c) i = view w i := by
  cases c with
  | inPlace k out => exact local_preserves _ _ k hs (inPlace_local w k out hs hc)
  | push k xs => exact local_preserves _ _ k hs (allocs_local w k xs hs)
  | sort k v' => exact local_preserves _ _ k hs (permute_local w k v' hs hc).1
  | copy k j => have := copy_spec w k j hc hs; exact ⟨this.1, this.2.2.1⟩
  | assign k j =>
    by_cases hjk : j = k
    · rw [show exec w (.assign k j) = w from (assign_spec w k j hs).1 hjk]
      exact ⟨hs, fun _ _ => rfl⟩
    · have := (assign_spec w k j hs).2 hjk; exact ⟨this.1, this.2.2.1⟩

/-- a history: each call well formed in the state it is made in -/
inductive Hist : World α → List (Call α) → World α → Prop where
  | nil (w : World α) : Hist w [] w
  | cons (w : World α) (c : Call α) (cs : List (Call α)) (w' : World α) :
      c.wf w → Hist (exec w c) cs w' → Hist w (c :: cs) w'

/-- **copy_independent**: along every history of member-function calls, copies and assignments
(self-assignment included), the separation is kept — no two objects ever share a cell — and an
object that is not the target of any call of the history shows the same ranges at the end as at
the beginning.  In particular after `copy k j` (or `j = k`) any sequence of operations on the copy
leaves the source as it was, and vice versa. -/
theorem copy_independent (w w' : World α) (cs : List (Call α)) (hs : Sep w) (h : Hist w cs w') :
    Sep w' ∧ ∀ i, (∀ c ∈ cs, c.target ≠ i) → view w' i = view w i := by
  induction h with
  | nil w => exact ⟨hs, fun _ _ => rfl⟩
  | cons w c cs w' hc _ ih =>
    have h1 := exec_sep w c hs hc
    have h2 := ih h1.1
    refine ⟨h2.1, ?_⟩
    intro i hi
    rw [h2.2 i (fun c' hc' => hi c' (by simp [hc'])), h1.2 i (fun e => hi c (by simp) e.symm)]

/-- the empty world (no object owns anything) is separated: the hypotheses of the history theorem
are satisfiable, and a concrete history — build `{[1,5[,[7,9[}`, copy it, delete the first range of
the copy — leaves the source showing both ranges -/
example : Sep ({ heap := fun _ => none, next := 0, regs := fun _ => [] } : World Int) := by
  intro i
  exact ⟨List.nodup_nil, (by intro a h; cases h), (by intro j _ a h; cases h)⟩

example :
    let w0 : World Int := { heap := fun _ => none, next := 0, regs := fun _ => [] }
    let w := exec (exec (exec w0 (.push 0 [⟨1, 5⟩, ⟨7, 9⟩])) (.copy 0 1)) (.inPlace 1 [none, some ⟨7, 8⟩])
    view w 0 = [some ⟨1, 5⟩, some ⟨7, 9⟩] ∧ view w 1 = [some ⟨7, 8⟩] := by
  decide

end Bpp.C20Obj
