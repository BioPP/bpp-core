import BppProofs.Props.C02Complete
/-!
# C02 — `deleteParameters(names, mustExist)` and the copy of an owner (findings F5, F6 of `props/C02.audit.md`)

The specification of `deleteParameters(names, mustExist)` (`ParamList.deleteParameters_spec`) as a property
theorem, with the general part (repeated names allowed) and a witness of what a repeated name does;
`owner_copy_independent` for the operation `XOp.apCopy`.
-/
namespace Bpp.C02
open Bpp Bpp.ParamList

/-- **delete_names_exact**: `deleteParameters(names, mustExist)` for pairwise different `names`.
Let `pre` be `names` (when `mustExist = false`: unknown names are skipped) or the names before the
first one the list does not have (when `mustExist = true`: the routine stops there with
ParameterNotFoundException, keeping the deletions already made — it is *not* atomic, and not claimed
to be).  The survivors are a sub-sequence of the list whose names are the list's names with `pre`
erased (with pairwise different names in the list this determines them), and the call raises exactly
when `pre ≠ names`. -/
theorem delete_names_exact (h : Store) (must : Bool) (ns : List String) (l : List ObjId) (nd : ns.Nodup) :
    let pre := if must then ns.takeWhile (fun n => (names h l).contains n) else ns
    (deleteParameters h must l ns).1.Sublist l ∧
    names h (deleteParameters h must l ns).1 = pre.foldl (fun acc n => acc.erase n) (names h l) ∧
    (deleteParameters h must l ns).2 = (if pre.length = ns.length then none else some .notfound) :=
  ⟨deleteParameters_sublist h must ns l, (deleteParameters_spec h must ns l nd).1, (deleteParameters_spec h must ns l nd).2⟩

/-- … and for *any* name vector (repeated names allowed): the survivors are a sub-sequence of the
list, the only possible exception is ParameterNotFoundException, and it is never raised when
`mustExist = false`. -/
theorem delete_names_general (h : Store) (must : Bool) (ns : List String) (l : List ObjId) :
    (deleteParameters h must l ns).1.Sublist l ∧
    (∀ e, (deleteParameters h must l ns).2 = some e → e = .notfound ∧ must = true) := by
  refine ⟨deleteParameters_sublist h must ns l, ?_⟩
  induction ns generalizing l with
  | nil => intro e he; simp [deleteParameters] at he
  | cons n rest ih =>
    intro e he
    unfold deleteParameters at he
    cases hd : deleteParameter h l n with
    | ok l' => rw [hd] at he; exact ih l' e he
    | error x =>
      rw [hd] at he
      cases must with
      | true =>
        have hx := ((deleteParameter_names h l n).2 x hd).1
        cases he
        exact ⟨hx, rfl⟩
      | false => simp only [Bool.false_eq_true, if_false] at he; exact ih l e he

example :
    let s := run State.init [.add 0 ⟨"a", 1, none⟩, .add 0 ⟨"b", 2, none⟩, .add 0 ⟨"c", 3, none⟩]
    deleteParameters s.heap true (s.lists 0) ["c", "zz", "a"] = ([0, 1], some .notfound) ∧
    deleteParameters s.heap false (s.lists 0) ["c", "zz", "a"] = ([1], none) := by decide

/-- outside the property's quantifier, kept on record like `delete_indices_repeated_witness`: a
repeated name with `mustExist = true` deletes the entry, then raises at the repetition -/
theorem delete_names_repeated_witness :
    let s := run State.init [.add 0 ⟨"a", 1, none⟩, .add 0 ⟨"b", 2, none⟩]
    deleteParameters s.heap true (s.lists 0) ["a", "a"] = ([1], some .notfound) := by decide

/-- **owner_copy_independent** (F6): copying an owner (implicit copy constructor / copy assignment of
`AbstractParametrizable`, `TestAP::clone()` in the harness) gives the destination fresh, pairwise
different objects showing the source's parameters and the source's prefix; every existing object and
every other register is as it was — so, by `frame`, a later write through either owner does not show
in the other. -/
theorem owner_copy_independent (s : State) (inv : Inv s) (k j : Nat) :
    let s' := (xstep s (.apCopy k j)).1
    obs s' j = obs s k ∧ s'.pre j = s.pre k ∧ (∀ i ∈ s'.lists j, s.heap.next ≤ i) ∧ (s'.lists j).Nodup ∧
    (∀ r, r ≠ j → s'.lists r = s.lists r ∧ s'.pre r = s.pre r) ∧
    (∀ i, i < s.heap.next → s'.heap.get i = s.heap.get i) ∧ Inv s' := by
  obtain ⟨c1, c2, c3, c4, c5⟩ := cloned_register (s' := (xstep s (.apCopy k j)).1) inv k j rfl rfl
  exact ⟨c1, if_pos rfl, c2, c3, fun r hr => ⟨c4 r hr, if_neg hr⟩, c5, inv_xstep inv _ trivial⟩

example :
    let s := run State.init [.apNamespace 4 "p.", .addPtr 4 ⟨"p.a", 1, none⟩]
    names (xstep s (.apCopy 4 5)).1.heap ((xstep s (.apCopy 4 5)).1.lists 5) = ["p.a"] ∧
    (xstep s (.apCopy 4 5)).1.pre 5 = "p." := by decide

end Bpp.C02
