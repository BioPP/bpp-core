import BppProofs.Props.C15Queries
import BppProofs.Lemmas.TreeNoUb
/-!
# C15 — no undefined behaviour in the path and MRCA queries, on any graph

`getNodePathBetweenTwoNodes` / `getEdgePathBetweenTwoNodes` check neither validity nor that the two
nodes have a common ancestor.  On a directed forest (two nodes in different components: a graph
under construction) the unrepaired code read `pathMatrix1[tmp1]` with `tmp1 == pathMatrix1.size()`
— a heap-buffer-overflow under ASan, found by the independent audit (`findings/C15.json`,
witness `corpus/C15/06-fixed-audit.txt`).  As repaired the query raises.  In the model the outcome
`.ub` stands for undefined behaviour of the C++; proved here, for **every** graph (consistent or
not) and all arguments:

* `path_no_ub` — the node path and edge path queries never have the outcome `.ub`;
* (examples at the end) on two unrelated nodes of a directed container the queries raise, with or
  without the common ancestor asked for;
* `mrca_no_ub` — `MRCA` neither (the index into the ancestor line of the first node is a rank in
  that line).

(Outcome `.fuel` — a call that does not return — remains possible on directed graphs with a father
cycle: the recorded finding `C15-nontermination-invalid`.)
-/
namespace Bpp.C15
open Bpp Bpp.Graph

/-- the node path query never runs into undefined behaviour -/
theorem nodePath_no_ub (g : G) (a b : Nat) (inc : Bool) : T.nodePath g a b inc ≠ .ub := by
  unfold T.nodePath
  split
  · simp
  · split
    · simp
    · split
      · simp only
        split <;> (try split) <;> simp
      · simp
      · simp
      · simp

/-- **path_no_ub**: on every graph, for all arguments, neither path query has the outcome `ub` -/
theorem path_no_ub (g : G) (a b : Nat) (inc : Bool) : T.nodePath g a b inc ≠ .ub ∧ T.edgePath g a b ≠ .ub := by
  refine ⟨nodePath_no_ub g a b inc, ?_⟩
  unfold T.edgePath
  have h := nodePath_no_ub g a b true
  cases hp : T.nodePath g a b true with
  | ok p =>
    simp only
    cases List.mapM (fun q : Nat × Nat => g.getAnyEdge q.1 q.2) (p.zip p.tail) <;> simp
  | exc => simp
  | fuel => simp
  | ub => exact absurd hp h

/-- **mrca_no_ub**: on every graph, for every list of nodes, `MRCA` never has the outcome `ub` -/
theorem mrca_no_ub (g : G) (l : List Nat) : T.mrca g l ≠ .ub := by
  unfold T.mrca
  split
  · simp
  · split
    · simp
    · simp
    · rename_i x rest _
      have hc := T.climb_safe g (g.nodes.length + 2) x []
      cases hl : T.climb g (g.nodes.length + 2) x [] with
      | ok line =>
        rw [hl] at hc
        -- the index the loop leaves is a place of the line
        have hf := T.mrcaFold_safe g line (g.nodes.length + 2) rest (.ok 0) (List.length_pos_iff.2 hc)
        simp only
        cases hm : rest.foldl (T.mrcaStep g line (g.nodes.length + 2)) (.ok 0) with
        | ok m =>
          rw [hm] at hf
          simp only
          rw [List.getElem?_eq_getElem hf]
          simp
        | exc => simp
        | fuel => simp
        | ub => rw [hm] at hf; exact hf.elim
      | exc => simp
      | fuel => simp
      | ub => rw [hl] at hc; exact hc.elim

/-! the witness of the repaired defect: two isolated nodes in a directed container (a forest) -/

/-- two nodes, no relation -/
def forest2 : G := ((T.empty true).run [.createNode, .createNode]).g

example : T.nodePath forest2 0 1 true = .exc := by decide +kernel
example : T.nodePath forest2 0 1 false = .exc := by decide +kernel
example : T.edgePath forest2 0 1 = .exc := by decide +kernel
example : T.nodePath forest2 1 1 true = .ok [1] := by decide +kernel
example : T.mrca forest2 [0, 1] = .exc := by decide +kernel

end Bpp.C15
