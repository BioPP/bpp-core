import BppModel.TreeRef
import BppProofs.Lemmas.TreeValid
import BppProofs.Lemmas.PTreeLine
import Batteries.Data.List.Perm
import Mathlib.Data.List.Nodup
/-
The executable reference decision `isUnrootedTree` (`BppModel/TreeRef.lean`: undirected, the root is
a node, every entry of the edge table joins two existing distinct nodes, |E| + 1 = |V|, every node is
reached from the root by the fuel-bounded search `reachU`) decides `IsTreeFrom` on consistent
undirected graphs.

First the two directions on plain lists (`V` the nodes, `es` the end points of the edges), then the
glue to the graph model.
-/
namespace Bpp.Graph
open AL

/-- the body of the inner loop of `reachU` -/
def stepU (acc : List Nat) (p : Nat × Nat) : List Nat :=
  let acc := if acc.contains p.1 && !acc.contains p.2 then p.2 :: acc else acc
  if acc.contains p.2 && !acc.contains p.1 then p.1 :: acc else acc

theorem reachU_succ (es : List (Nat × Nat)) (fuel : Nat) (seen : List Nat) :
    reachU es (fuel + 1) seen = reachU es fuel (es.foldl stepU seen) := rfl

theorem stepU_cases (acc : List Nat) (p : Nat × Nat) :
    stepU acc p = acc ∨ (stepU acc p = p.2 :: acc ∧ p.1 ∈ acc ∧ p.2 ∉ acc) ∨ (stepU acc p = p.1 :: acc ∧ p.2 ∈ acc ∧ p.1 ∉ acc) := by
  unfold stepU
  by_cases h1 : p.1 ∈ acc <;> by_cases h2 : p.2 ∈ acc <;> simp [h1, h2]

theorem stepU_sub (acc : List Nat) (p : Nat × Nat) : ∀ n ∈ acc, n ∈ stepU acc p := by
  intro n hn
  rcases stepU_cases acc p with h | ⟨h, _⟩ | ⟨h, _⟩ <;> rw [h] <;> simp [hn]

/-- an entry one end of which has been reached brings in the other -/
theorem stepU_both (acc : List Nat) (p : Nat × Nat) (h : p.1 ∈ acc ∨ p.2 ∈ acc) : p.1 ∈ stepU acc p ∧ p.2 ∈ stepU acc p := by
  unfold stepU
  by_cases h1 : p.1 ∈ acc <;> by_cases h2 : p.2 ∈ acc <;> simp [h1, h2] at h ⊢

theorem foldl_stepU_sub (l : List (Nat × Nat)) (acc : List Nat) : ∀ n ∈ acc, n ∈ l.foldl stepU acc := by
  induction l generalizing acc with
  | nil => intro n hn; exact hn
  | cons p r ih => intro n hn; exact ih _ n (stepU_sub acc p n hn)

theorem foldl_stepU_both (l : List (Nat × Nat)) (acc : List Nat) (p : Nat × Nat) (hp : p ∈ l) (h : p.1 ∈ acc ∨ p.2 ∈ acc) :
    p.1 ∈ l.foldl stepU acc ∧ p.2 ∈ l.foldl stepU acc := by
  induction l generalizing acc with
  | nil => cases hp
  | cons q r ih =>
    rw [List.foldl_cons]
    rcases List.mem_cons.1 hp with rfl | hp
    · exact ⟨foldl_stepU_sub r _ _ (stepU_both acc p h).1, foldl_stepU_sub r _ _ (stepU_both acc p h).2⟩
    · exact ih _ hp (h.imp (stepU_sub acc q _) (stepU_sub acc q _))

/-! ### soundness on lists: the search builds a spanning tree, and with |E| + 1 = |V| every edge is one of its edges -/

/-- the invariant of the search: `seen` is a tree rooted at `root`, father `par`, depth `rk`, and
`eo n` the entry of `es` that joined `n` to its father -/
structure RInv (es : List (Nat × Nat)) (V : List Nat) (root : Nat) (seen : List Nat)
    (par : Nat → Option Nat) (rk : Nat → Nat) (eo : Nat → Nat × Nat) : Prop where
  root_mem : root ∈ seen
  nodup : seen.Nodup
  sub : ∀ n ∈ seen, n ∈ V
  par_root : par root = none
  rk_root : rk root = 0
  up : ∀ n ∈ seen, n ≠ root → ∃ q, par n = some q ∧ q ∈ seen ∧ rk n = rk q + 1 ∧ eo n ∈ es ∧ (eo n = (q, n) ∨ eo n = (n, q))
  out : ∀ n, n ∉ seen → par n = none
  inj : ∀ n m, n ∈ seen → m ∈ seen → n ≠ root → m ≠ root → eo n = eo m → n = m

def RInvE (es : List (Nat × Nat)) (V : List Nat) (root : Nat) (seen : List Nat) : Prop :=
  ∃ par rk eo, RInv es V root seen par rk eo

theorem RInv.add {es : List (Nat × Nat)} {V : List Nat} {root : Nat} {acc : List Nat}
    {par : Nat → Option Nat} {rk : Nat → Nat} {eo : Nat → Nat × Nat} (h : RInv es V root acc par rk eo)
    {x y : Nat} {p : Nat × Nat} (hx : x ∉ acc) (hy : y ∈ acc) (hxV : x ∈ V) (hp : p ∈ es) (hpe : p = (y, x) ∨ p = (x, y)) :
    RInv es V root (x :: acc) (fun n => if n = x then some y else par n) (fun n => if n = x then rk y + 1 else rk n)
      (fun n => if n = x then p else eo n) := by
  have hxr : x ≠ root := fun e => hx (e ▸ h.root_mem)
  have hyx : y ≠ x := fun e => hx (e ▸ hy)
  refine ⟨List.mem_cons_of_mem _ h.root_mem, List.nodup_cons.2 ⟨hx, h.nodup⟩, ?_, ?_, ?_, ?_, ?_, ?_⟩
  · intro n hn
    rcases List.mem_cons.1 hn with rfl | hn
    · exact hxV
    · exact h.sub n hn
  · simp [Ne.symm hxr, h.par_root]
  · simp [Ne.symm hxr, h.rk_root]
  · intro n hn hnr
    rcases List.mem_cons.1 hn with rfl | hn
    · refine ⟨y, by simp, List.mem_cons_of_mem _ hy, by simp [hyx], by simpa using hp, by simpa using hpe⟩
    · have hnx : n ≠ x := fun e => hx (e ▸ hn)
      obtain ⟨q, h1, h2, h3, h4, h5⟩ := h.up n hn hnr
      have hqx : q ≠ x := fun e => hx (e ▸ h2)
      exact ⟨q, by simp [hnx, h1], List.mem_cons_of_mem _ h2, by simp [hnx, hqx, h3], by simpa [hnx] using h4, by simpa [hnx] using h5⟩
  · intro n hn
    have hnx : n ≠ x := fun e => hn (e ▸ List.mem_cons_self)
    have : n ∉ acc := fun e => hn (List.mem_cons_of_mem _ e)
    simp [hnx, h.out n this]
  · -- an old node joined by the entry `p` would be `x` or have father `x`
    have key : ∀ m, m ∈ acc → m ≠ root → eo m ≠ p := by
      intro m hm hmr he
      have hmx : m ≠ x := fun e => hx (e ▸ hm)
      obtain ⟨q, _, h2, _, _, h5⟩ := h.up m hm hmr
      have hqx : q ≠ x := fun e => hx (e ▸ h2)
      rw [he] at h5
      rcases hpe with rfl | rfl <;> rcases h5 with h5 | h5 <;> simp only [Prod.mk.injEq] at h5 <;> omega
    intro n m hn hm hnr hmr he
    rcases List.mem_cons.1 hn with hnx | hn' <;> rcases List.mem_cons.1 hm with hmx | hm'
    · rw [hnx, hmx]
    · have hmx : m ≠ x := fun e => hx (e ▸ hm')
      simp only [hnx, if_true, hmx, if_false] at he
      exact absurd he.symm (key m hm' hmr)
    · have hnx : n ≠ x := fun e => hx (e ▸ hn')
      simp only [hmx, if_true, hnx, if_false] at he
      exact absurd he (key n hn' hnr)
    · have hnx : n ≠ x := fun e => hx (e ▸ hn')
      have hmx : m ≠ x := fun e => hx (e ▸ hm')
      simp only [hnx, hmx, if_false] at he
      exact h.inj n m hn' hm' hnr hmr he

theorem RInvE.step {es : List (Nat × Nat)} {V : List Nat} {root : Nat} {acc : List Nat} (h : RInvE es V root acc)
    {p : Nat × Nat} (hp : p ∈ es) (hV : p.1 ∈ V ∧ p.2 ∈ V) : RInvE es V root (stepU acc p) := by
  obtain ⟨par, rk, eo, hi⟩ := h
  rcases stepU_cases acc p with h | ⟨h, h1, h2⟩ | ⟨h, h2, h1⟩ <;> rw [h]
  · exact ⟨par, rk, eo, hi⟩
  · exact ⟨_, _, _, hi.add h2 h1 hV.2 hp (.inl rfl)⟩
  · exact ⟨_, _, _, hi.add h1 h2 hV.1 hp (.inr rfl)⟩

theorem RInvE.foldl {es : List (Nat × Nat)} {V : List Nat} {root : Nat} (hes : ∀ p ∈ es, p.1 ∈ V ∧ p.2 ∈ V)
    (l : List (Nat × Nat)) (hl : ∀ p ∈ l, p ∈ es) (acc : List Nat) (h : RInvE es V root acc) :
    RInvE es V root (l.foldl stepU acc) := by
  induction l generalizing acc with
  | nil => exact h
  | cons p r ih =>
    simp only [List.foldl_cons]
    have hp := hl p List.mem_cons_self
    exact ih (fun q hq => hl q (List.mem_cons_of_mem _ hq)) _ (h.step hp (hes p hp))

theorem RInvE.reachU {es : List (Nat × Nat)} {V : List Nat} {root : Nat} (hes : ∀ p ∈ es, p.1 ∈ V ∧ p.2 ∈ V)
    (fuel : Nat) (seen : List Nat) (h : RInvE es V root seen) : RInvE es V root (reachU es fuel seen) := by
  induction fuel generalizing seen with
  | zero => exact h
  | succ k ih => rw [reachU_succ]; exact ih _ (RInvE.foldl hes es (fun _ hp => hp) seen h)

theorem RInvE.init (es : List (Nat × Nat)) {V : List Nat} {root : Nat} (hr : root ∈ V) : RInvE es V root [root] := by
  refine ⟨fun _ => none, fun _ => 0, fun _ => (0, 0), ?_⟩
  refine ⟨List.mem_singleton.2 rfl, List.nodup_singleton _, ?_, rfl, rfl, ?_, fun _ _ => rfl, ?_⟩
  · intro n hn; rw [List.mem_singleton.1 hn]; exact hr
  · intro n hn hne; exact absurd (List.mem_singleton.1 hn) hne
  · intro n m hn hm; rw [List.mem_singleton.1 hn, List.mem_singleton.1 hm]; intros; rfl

theorem length_filter_ne {l : List Nat} (hd : l.Nodup) {a : Nat} (ha : a ∈ l) : (l.filter (· != a)).length + 1 = l.length := by
  rw [← hd.erase_eq_filter a, List.length_erase_of_mem ha]
  have := List.length_pos_of_mem ha
  omega

/-- **soundness on lists**: when the search from `root` reaches all of `V` and |E| + 1 = |V|, there is a
tree on `V` rooted at `root` whose father-son pairs are exactly the entries of `es` -/
theorem reachU_sound {es : List (Nat × Nat)} {V : List Nat} {root : Nat} (hV : V.Nodup) (hr : root ∈ V)
    (hes : ∀ p ∈ es, p.1 ∈ V ∧ p.2 ∈ V) (hlen : es.length + 1 = V.length)
    (hreach : ∀ n ∈ V, n ∈ reachU es V.length [root]) :
    ∃ par rk, PTree.WF ⟨root, V, par, rk⟩ ∧ ∀ a b, ((a, b) ∈ es ∨ (b, a) ∈ es) ↔ (par b = some a ∨ par a = some b) := by
  obtain ⟨par, rk, eo, hi⟩ := RInvE.reachU hes V.length [root] (RInvE.init es hr)
  generalize reachU es V.length [root] = S at hi hreach
  have hperm : S.Perm V := (List.perm_ext_iff_of_nodup hi.nodup hV).2 (fun n => ⟨hi.sub n, hreach n⟩)
  have hSlen : S.length = V.length := hperm.length_eq
  -- the entries used by the tree
  have hTnd : ((S.filter (· != root)).map eo).Nodup := by
    refine List.Nodup.map_on ?_ (hi.nodup.filter _)
    intro n hn m hm he
    simp only [List.mem_filter, bne_iff_ne] at hn hm
    exact hi.inj n m hn.1 hm.1 hn.2 hm.2 he
  have hTsub : (S.filter (· != root)).map eo ⊆ es := by
    intro p hp
    obtain ⟨n, hn, rfl⟩ := List.mem_map.1 hp
    simp only [List.mem_filter, bne_iff_ne] at hn
    obtain ⟨q, _, _, _, h4, _⟩ := hi.up n hn.1 hn.2
    exact h4
  have hTlen : es.length ≤ ((S.filter (· != root)).map eo).length := by
    rw [List.length_map]
    have := length_filter_ne hi.nodup hi.root_mem
    omega
  have hTperm := (List.subperm_of_subset hTnd hTsub).perm_of_length_le hTlen
  have hall : ∀ p ∈ es, ∃ n, n ∈ S ∧ n ≠ root ∧ eo n = p := by
    intro p hp
    obtain ⟨n, hn, rfl⟩ := List.mem_map.1 (hTperm.mem_iff.2 hp)
    simp only [List.mem_filter, bne_iff_ne] at hn
    exact ⟨n, hn.1, hn.2, rfl⟩
  refine ⟨par, rk, ⟨hr, hi.par_root, hi.rk_root, ?_, ?_⟩, ?_⟩
  · intro n hn hne
    obtain ⟨q, h1, h2, h3, _⟩ := hi.up n (hreach n hn) hne
    exact ⟨q, h1, hi.sub q h2, h3⟩
  · intro n hn
    exact hi.out n (fun h => hn (hi.sub n h))
  · intro a b
    constructor
    · have : ∀ a b, (a, b) ∈ es → par b = some a ∨ par a = some b := by
        intro a b hab
        obtain ⟨n, hn, hnr, he⟩ := hall _ hab
        obtain ⟨q, h1, _, _, _, h5⟩ := hi.up n hn hnr
        rw [he] at h5
        rcases h5 with h5 | h5 <;> simp only [Prod.mk.injEq] at h5 <;> obtain ⟨rfl, rfl⟩ := h5
        · exact .inl h1
        · exact .inr h1
      rintro (h | h)
      · exact this a b h
      · exact (this b a h).symm
    · have : ∀ a b, par b = some a → (a, b) ∈ es ∨ (b, a) ∈ es := by
        intro a b hb
        have hbS : b ∈ S := Classical.byContradiction fun hn => by rw [hi.out b hn] at hb; cases hb
        have hbr : b ≠ root := fun e => by rw [e, hi.par_root] at hb; cases hb
        obtain ⟨q, h1, _, _, h4, h5⟩ := hi.up b hbS hbr
        rw [hb] at h1; cases h1
        rcases h5 with h5 | h5 <;> rw [h5] at h4
        · exact .inl h4
        · exact .inr h4
      rintro (h | h)
      · exact this a b h
      · exact (this b a h).symm

/-! ### completeness on lists: in a tree the search reaches depth `k` in `k` rounds, and there are |V| - 1 edges -/

theorem reachU_rank {P : PTree} (hw : P.WF) {es : List (Nat × Nat)}
    (harc : ∀ a b, P.par b = some a → (a, b) ∈ es ∨ (b, a) ∈ es) :
    ∀ (k j : Nat) (seen : List Nat), (∀ n ∈ P.nodes, P.rank n ≤ j → n ∈ seen) →
      ∀ n ∈ P.nodes, P.rank n ≤ j + k → n ∈ reachU es k seen := by
  intro k
  induction k with
  | zero => intro j seen h n hn hr; exact h n hn hr
  | succ k ih =>
    intro j seen h n hn hr
    rw [reachU_succ]
    refine ih (j + 1) _ ?_ n hn (by omega)
    intro m hm hmr
    by_cases hle : P.rank m ≤ j
    · exact foldl_stepU_sub es seen m (h m hm hle)
    · have hmroot : m ≠ P.root := fun e => by rw [e, hw.rank_root] at hle; omega
      obtain ⟨q, hq, hqm, hrk⟩ := hw.par_some m hm hmroot
      have hqs : q ∈ seen := h q hqm (by omega)
      rcases harc q m hq with h1 | h1
      · exact (foldl_stepU_both es seen (q, m) h1 (.inl hqs)).2
      · exact (foldl_stepU_both es seen (m, q) h1 (.inr hqs)).1

/-- every node of a tree is reached from the root within |V| rounds -/
theorem reachU_complete {P : PTree} (hw : P.WF) {V : List Nat} (hVn : ∀ n, n ∈ V ↔ n ∈ P.nodes) {es : List (Nat × Nat)}
    (harc : ∀ a b, P.par b = some a → (a, b) ∈ es ∨ (b, a) ∈ es) :
    ∀ n ∈ V, n ∈ reachU es V.length [P.root] := by
  intro n hn
  have hnP := (hVn n).1 hn
  have hrk := hw.rank_lt hnP (l := V) (fun x hx => (hVn x).2 hx)
  refine reachU_rank hw harc V.length 0 [P.root] ?_ n hnP (by omega)
  intro m hm hm0
  by_cases hmr : m = P.root
  · simp [hmr]
  · obtain ⟨q, _, _, h3⟩ := hw.par_some m hm hmr
    omega

/-- a tree on `V` whose father-son pairs are the entries of `es`, each listed once and one way round, has |V| - 1 entries -/
theorem edges_count {P : PTree} (hw : P.WF) {V : List Nat} (hV : V.Nodup) (hVn : ∀ n, n ∈ V ↔ n ∈ P.nodes)
    {es : List (Nat × Nat)} (hnd : es.Nodup) (hasym : ∀ a b, (a, b) ∈ es → (b, a) ∈ es → False)
    (harc : ∀ a b, ((a, b) ∈ es ∨ (b, a) ∈ es) ↔ (P.par b = some a ∨ P.par a = some b)) :
    es.length + 1 = V.length := by
  -- the son end of an entry
  let child : Nat × Nat → Nat := fun p => if P.par p.2 = some p.1 then p.2 else p.1
  have key : ∀ p ∈ es, ∃ q, P.par (child p) = some q ∧ (p = (q, child p) ∨ p = (child p, q)) := by
    rintro ⟨a, b⟩ hp
    by_cases h : P.par b = some a
    · exact ⟨a, by simp [child, h], .inl (by simp [child, h])⟩
    · have h' : P.par a = some b := by
        rcases (harc a b).1 (.inl hp) with h1 | h1
        · exact absurd h1 h
        · exact h1
      exact ⟨b, by simp [child, h, h'], .inr (by simp [child, h])⟩
  have hinj : ∀ p ∈ es, ∀ p' ∈ es, child p = child p' → p = p' := by
    intro p hp p' hp' he
    obtain ⟨q, h1, h2⟩ := key p hp
    obtain ⟨q', h1', h2'⟩ := key p' hp'
    rw [← he, h1] at h1'
    cases h1'
    rw [← he] at h2'
    rcases h2 with h2 | h2 <;> rcases h2' with h2' | h2'
    · rw [h2, h2']
    · exact (hasym q (child p) (h2 ▸ hp) (h2' ▸ hp')).elim
    · exact (hasym q (child p) (h2' ▸ hp') (h2 ▸ hp)).elim
    · rw [h2, h2']
  have hnd' : (es.map child).Nodup := List.Nodup.map_on hinj hnd
  have hrV : P.root ∈ V := (hVn _).2 hw.root_mem
  have hmem : ∀ n, n ∈ es.map child ↔ n ∈ V.filter (· != P.root) := by
    intro n
    simp only [List.mem_filter, bne_iff_ne, List.mem_map]
    constructor
    · rintro ⟨p, hp, rfl⟩
      obtain ⟨q, h1, _⟩ := key p hp
      have := hw.par_mem h1
      exact ⟨(hVn _).2 this.1, this.2.1⟩
    · rintro ⟨hn, hnr⟩
      obtain ⟨q, h1, _, h3⟩ := hw.par_some n ((hVn n).1 hn) hnr
      rcases (harc q n).2 (.inl h1) with h | h
      · exact ⟨(q, n), h, by simp [child, h1]⟩
      · refine ⟨(n, q), h, ?_⟩
        have : P.par q ≠ some n := fun hq => hw.no_two_cycle h1 hq
        simp [child, this]
  have hperm := (List.perm_ext_iff_of_nodup hnd' (hV.filter _)).2 hmem
  have h1 := hperm.length_eq
  rw [List.length_map] at h1
  have h2 := length_filter_ne hV hrV
  omega

/-- the end points of the entries of the edge table -/
def edgePairs (g : G) : List (Nat × Nat) := g.edges.map (fun p => (p.2.1, p.2.2))

theorem mem_edgePairs {g : G} (hc : Consistent g) (a b : Nat) : (a, b) ∈ edgePairs g ↔ ∃ e, find e g.edges = some (a, b) := by
  simp only [edgePairs, List.mem_map]
  constructor
  · rintro ⟨⟨e, a', b'⟩, hm, he⟩
    simp only [Prod.mk.injEq] at he
    obtain ⟨rfl, rfl⟩ := he
    exact ⟨e, (mem_iff_find hc.sorted.edges e _).1 hm⟩
  · rintro ⟨e, he⟩
    exact ⟨(e, a, b), (mem_iff_find hc.sorted.edges e _).2 he, rfl⟩

/-- in a consistent undirected graph the node table lists `b` under `a` exactly when an entry of the edge table joins them -/
theorem arc_iff_edgePairs {g : G} (hc : Consistent g) (hd : g.directed = false) (a b : Nat) :
    Arc g a b ↔ ((a, b) ∈ edgePairs g ∨ (b, a) ∈ edgePairs g) := by
  rw [mem_edgePairs hc, mem_edgePairs hc]
  unfold Arc
  constructor
  · intro h
    cases ho : g.outE a b with
    | none => rw [ho] at h; cases h
    | some e =>
      rcases hc.views.out_edge a b e ho with hf | ⟨_, hf⟩
      · exact .inl ⟨e, hf⟩
      · exact .inr ⟨e, hf⟩
  · rintro (⟨e, he⟩ | ⟨e, he⟩)
    · rw [(hc.views.edge_listed e a b he).1]; rfl
    · rw [((hc.views.edge_listed e b a he).2.2 hd).1]; rfl

theorem edgePairs_nodup {g : G} (hc : Consistent g) : (edgePairs g).Nodup := by
  have hk : (keys g.edges).Nodup := G.nodup_of_asc hc.sorted.edges
  have he : g.edges.Nodup := List.Nodup.of_map _ hk
  refine List.Nodup.map_on ?_ he
  rintro ⟨e, a, b⟩ hm ⟨e', a', b'⟩ hm' heq
  simp only [Prod.mk.injEq] at heq
  obtain ⟨rfl, rfl⟩ := heq
  have h1 := (hc.views.edge_listed e a b ((mem_iff_find hc.sorted.edges e _).1 hm)).1
  have h2 := (hc.views.edge_listed e' a b ((mem_iff_find hc.sorted.edges e' _).1 hm')).1
  rw [h1] at h2
  cases h2
  rfl

/-- an undirected consistent graph has no two entries joining the same nodes opposite ways round, except loops -/
theorem edgePairs_asym {g : G} (hc : Consistent g) (hd : g.directed = false) {a b : Nat}
    (h1 : (a, b) ∈ edgePairs g) (h2 : (b, a) ∈ edgePairs g) : a = b := by
  obtain ⟨e, he⟩ := (mem_edgePairs hc a b).1 h1
  obtain ⟨e', he'⟩ := (mem_edgePairs hc b a).1 h2
  have o1 := (hc.views.edge_listed e a b he).1
  have o2 := ((hc.views.edge_listed e' b a he').2.2 hd).1
  rw [o1] at o2
  cases o2
  rw [he] at he'
  cases he'
  rfl

theorem isUnrootedTree_unfold (g : G) : isUnrootedTree g = true ↔
    (g.directed = false ∧ g.hasNode g.root = true ∧
      (∀ p ∈ edgePairs g, p.1 ∈ keys g.nodes ∧ p.2 ∈ keys g.nodes ∧ p.1 ≠ p.2) ∧
      (edgePairs g).length + 1 = (keys g.nodes).length ∧
      ∀ n ∈ keys g.nodes, n ∈ reachU (edgePairs g) (keys g.nodes).length [g.root]) := by
  unfold isUnrootedTree edgePairs
  simp only [Bool.and_eq_true, List.all_eq_true, beq_iff_eq, List.contains_iff_mem, bne_iff_ne, Bool.not_eq_true', ne_eq]
  constructor
  · rintro ⟨⟨⟨⟨h1, h2⟩, h3⟩, h4⟩, h5⟩
    exact ⟨h1, h2, fun p hp => ⟨(h3 p hp).1.1, (h3 p hp).1.2, (h3 p hp).2⟩, h4, h5⟩
  · rintro ⟨h1, h2, h3, h4, h5⟩
    exact ⟨⟨⟨⟨h1, h2⟩, fun p hp => ⟨⟨(h3 p hp).1, (h3 p hp).2.1⟩, (h3 p hp).2.2⟩⟩, h4⟩, h5⟩

/-- the reference decision accepts only trees spanning all nodes from the root -/
theorem isUnrootedTree_sound {g : G} (hc : Consistent g) (h : isUnrootedTree g = true) : IsTreeFrom g := by
  obtain ⟨hd, hr, hes, hlen, hreach⟩ := (isUnrootedTree_unfold g).1 h
  have hV : (keys g.nodes).Nodup := G.nodup_of_asc hc.sorted.nodes
  obtain ⟨par, rk, hw, harc⟩ := reachU_sound hV ((G.mem_keys_hasNode g _).2 hr)
    (fun p hp => ⟨(hes p hp).1, (hes p hp).2.1⟩) hlen hreach
  refine ⟨⟨g.root, keys g.nodes, par, rk⟩, hw, ⟨fun n => G.mem_keys_hasNode g n, ?_⟩, rfl⟩
  intro a b
  rw [arc_iff_edgePairs hc hd, harc a b]
  simp [hd]

/-- the reference decision accepts every undirected tree spanning all nodes from the root -/
theorem isUnrootedTree_complete {g : G} (hc : Consistent g) (hd : g.directed = false) (h : IsTreeFrom g) :
    isUnrootedTree g = true := by
  obtain ⟨P, hw, hm, hroot⟩ := h
  have hV : (keys g.nodes).Nodup := G.nodup_of_asc hc.sorted.nodes
  have hVn : ∀ n, n ∈ keys g.nodes ↔ n ∈ P.nodes := fun n => (G.mem_keys_hasNode g n).trans (hm.nodes n).symm
  have harc : ∀ a b, ((a, b) ∈ edgePairs g ∨ (b, a) ∈ edgePairs g) ↔ (P.par b = some a ∨ P.par a = some b) := by
    intro a b
    rw [← arc_iff_edgePairs hc hd, hm.arc a b]
    simp [hd]
  have hloop : ∀ a, (a, a) ∉ edgePairs g := by
    intro a ha
    rcases (harc a a).1 (.inl ha) with h | h <;> exact hw.par_ne_self h rfl
  rw [isUnrootedTree_unfold]
  refine ⟨hd, ?_, ?_, ?_, ?_⟩
  · rw [← hroot]; exact (hm.nodes _).1 hw.root_mem
  · rintro ⟨a, b⟩ hp
    have hA := (arc_iff_edgePairs hc hd a b).2 (.inl hp)
    have := G.arc_nodes hc hA
    refine ⟨(G.mem_keys_hasNode g a).2 this.1, (G.mem_keys_hasNode g b).2 this.2, ?_⟩
    intro e
    simp only at e
    subst e
    exact hloop a hp
  · refine edges_count hw hV hVn (edgePairs_nodup hc) ?_ harc
    intro a b h1 h2
    have := edgePairs_asym hc hd h1 h2
    subst this
    exact hloop a h1
  · rw [← hroot]
    exact reachU_complete hw hVn (fun a b hb => (harc a b).2 (.inl hb))

/-- **the reference decision for unrooted trees decides `IsTreeFrom`** on consistent undirected graphs -/
theorem isUnrootedTree_iff (g : G) (hc : Consistent g) (hd : g.directed = false) :
    isUnrootedTree g = true ↔ IsTreeFrom g :=
  ⟨isUnrootedTree_sound hc, isUnrootedTree_complete hc hd⟩

end Bpp.Graph
