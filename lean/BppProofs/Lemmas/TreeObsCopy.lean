import BppModel.TreeObsCopy
import BppProofs.Lemmas.TreeObs
import BppProofs.Lemmas.ObserverExt
/-! Helper lemmas for C15, object level: observer copies (`copyObs`, `cloneObs`, `assignObs`),
removal of sons through an observer, and the object-level queries answered by a copy
(`BppModel/TreeObsCopy.lean`).  Property theorems are in `Props/C15ObsCopy.lean`. -/
namespace Bpp
namespace Graph
open AL

/-! ### two slot vectors inverse of the same map answer the same -/

theorem Inverse.get_unique {v v' : Vec} {m : List (Nat × Nat)} (h : Inverse v m) (h' : Inverse v' m) (i : Nat) :
    Vec.get v i = Vec.get v' i := by
  rcases hg : Vec.get v i with _ | a
  · rcases hg' : Vec.get v' i with _ | b
    · rfl
    · have := h.bwd b i (h'.fwd i b hg')
      rw [hg] at this; cases this
  · exact (h'.bwd a i (h.fwd i a hg)).symm

/-- **the copy maps ids back to the same labels**: `graphidToN_` rebuilt by the copy constructor from
`NToGraphid_` answers like the source's, at every id -/
theorem copyObs_nodeFromGid {g : G} {o : Obs} (hi : OInv g o) (id : Nat) :
    (World.copyObs o).nodeFromGid id = o.nodeFromGid id := by
  rw [nodeFromGid_eq_get, nodeFromGid_eq_get]
  exact (Graph.copyObs_inv hi).nodes.get_unique hi.nodes id

theorem copyObs_edgeFromGid {g : G} {o : Obs} (hi : OInv g o) (e : Nat) :
    (World.copyObs o).edgeFromGid e = o.edgeFromGid e := by
  rw [edgeFromGid_eq_get, edgeFromGid_eq_get]
  exact (Graph.copyObs_inv hi).edges.get_unique hi.edges e

theorem copyObs_nodeFromGid_fun {g : G} {o : Obs} (hi : OInv g o) : (World.copyObs o).nodeFromGid = o.nodeFromGid :=
  funext (copyObs_nodeFromGid hi)

theorem copyObs_edgeFromGid_fun {g : G} {o : Obs} (hi : OInv g o) : (World.copyObs o).edgeFromGid = o.edgeFromGid :=
  funext (copyObs_edgeFromGid hi)

theorem copyObs_nodesFromGids {g : G} {o : Obs} (hi : OInv g o) : (World.copyObs o).nodesFromGids = o.nodesFromGids := by
  funext ids; unfold Obs.nodesFromGids; rw [copyObs_nodeFromGid_fun hi]

theorem copyObs_edgesFromGids {g : G} {o : Obs} (hi : OInv g o) : (World.copyObs o).edgesFromGids = o.edgesFromGids := by
  funext ids; unfold Obs.edgesFromGids; rw [copyObs_edgeFromGid_fun hi]

theorem copyObs_Ng (o : Obs) : (World.copyObs o).Ng = o.Ng := rfl
theorem copyObs_Eg (o : Obs) : (World.copyObs o).Eg = o.Eg := rfl

namespace TW

/-! ### operations of the base observer that leave the graph alone -/

theorem ofObsOnly_inv {tw : TW} (hi : Inv tw) {r : OOut Unit} (h : r.All (World.ObsStep tw.w)) : Inv (tw.ofObsOnly r).2 := by
  have key : ∀ w', World.ObsStep tw.w w' → Inv ({ tw with w := w' } : TW) := by
    intro w' hs
    refine ⟨hs.2.2 hi.winv, ?_⟩
    intro hv
    have := hi.sound hv
    show T.isTree w'.g = _
    rw [hs.2.1]; exact this
  unfold ofObsOnly
  cases r with
  | ok u w' => exact key w' h
  | exc kd w' => exact key w' h
  | ub => exact hi

/-! ### what a successful copy / clone / assignment did -/

theorem ofObsOnly_ok {tw tw' : TW} {r : OOut Unit} (h : tw.ofObsOnly r = (.ok, tw')) :
    ∃ u w', r = .ok u w' ∧ tw' = { tw with w := w' } := by
  unfold ofObsOnly at h
  split at h
  · rename_i u w'
    injection h with _ h2
    exact ⟨u, w', rfl, h2.symm⟩
  · injection h with h1 _; cases h1
  · injection h with h1 _; cases h1

/-- slot `k` holds `c`, everything else is as before -/
structure Installed (tw : TW) (k : Nat) (c : Obs) (tw' : TW) : Prop where
  slot : tw'.w.getObs k = some c
  graph : tw'.w.g = tw.w.g
  valid : tw'.valid = tw.valid
  others : ∀ i, i ≠ k → tw'.w.getObs i = tw.w.getObs i

theorem installed_setObs (tw : TW) (k : Nat) (c : Obs) (hk : k < tw.w.obs.length) :
    Installed tw k c { tw with w := tw.w.setObs k c } := by
  refine ⟨?_, rfl, rfl, ?_⟩
  · show (tw.w.setObs k c).getObs k = _
    rw [getObs_setObs _ _ _ _ hk]; simp
  · intro i hik
    show (tw.w.setObs k c).getObs i = _
    rw [getObs_setObs _ _ _ _ hk, if_neg (fun hh => hik hh.symm)]

theorem copyObs_ok {tw tw' : TW} {j k : Nat} {o : Obs} (hj : tw.w.getObs j = some o) (hk : k < tw.w.obs.length)
    (h : tw.copyObs j k = (.ok, tw')) : Installed tw k (World.copyObs o) tw' := by
  obtain ⟨u, w', hr, ht⟩ := ofObsOnly_ok h
  rw [ht, World.copy_ok hj hr]
  exact installed_setObs tw k _ hk

theorem assignObs_ok {tw tw' : TW} {j k : Nat} {o : Obs} (hj : tw.w.getObs j = some o) (hjk : j ≠ k)
    (h : tw.assignObs j k = (.ok, tw')) : Installed tw k (World.copyObs o) tw' := by
  obtain ⟨u, w', hr, ht⟩ := ofObsOnly_ok h
  obtain ⟨hw', hk⟩ := World.assign_ok hj hjk hr
  rw [ht, hw']
  exact installed_setObs tw k _ hk

theorem toT_congr {tw tw' : TW} (hg : tw'.w.g = tw.w.g) (hv : tw'.valid = tw.valid) : tw'.toT = tw.toT := by
  unfold toT; rw [hg, hv]

/-- the object-level queries through the copy of `o` on `tw'` answer what those through `o` answer on `tw` -/
structure SameAnswers (tw tw' : TW) (o : Obs) (a b : Obj) (l : List Obj) : Prop where
  fatherOf : tw'.fatherOf (World.copyObs o) a = tw.fatherOf o a
  edgeToFather : tw'.edgeToFather (World.copyObs o) a = tw.edgeToFather o a
  leavesUnder : tw'.leavesUnderObj (World.copyObs o) a = tw.leavesUnderObj o a
  subtreeNodes : tw'.subtreeNodesObj (World.copyObs o) a = tw.subtreeNodesObj o a
  subtreeEdges : tw'.subtreeEdgesObj (World.copyObs o) a = tw.subtreeEdgesObj o a
  nodePath : tw'.nodePathObj (World.copyObs o) a b = tw.nodePathObj o a b
  edgePath : tw'.edgePathObj (World.copyObs o) a b = tw.edgePathObj o a b
  mrca : tw'.mrcaObj (World.copyObs o) l = tw.mrcaObj o l
  hasFather : tw'.hasFatherObj (World.copyObs o) a = tw.hasFatherObj o a
  nbSons : tw'.nbSonsObj (World.copyObs o) a = tw.nbSonsObj o a

/-- on a container with the same graph and flag: the copy maps ids back to the same labels -/
theorem copy_queries {tw tw' : TW} {o : Obs} (hi : OInv tw.w.g o) (hg : tw'.w.g = tw.w.g) (hv : tw'.valid = tw.valid)
    (a b : Obj) (l : List Obj) : SameAnswers tw tw' o a b l := by
  have hT := toT_congr hg hv
  have hn := copyObs_nodeFromGid_fun hi
  have he := copyObs_edgeFromGid_fun hi
  have hns := copyObs_nodesFromGids hi
  have hes := copyObs_edgesFromGids hi
  refine ⟨?_, ?_, ?_, ?_, ?_, ?_, ?_, ?_, ?_, ?_⟩
  · simp only [fatherOf, copyObs_Ng, hn, hg]
  · simp only [edgeToFather, copyObs_Ng, he, hg]
  · simp only [leavesUnderObj, listQuery, copyObs_Ng, hns, hes, hg]
  · simp only [subtreeNodesObj, listQuery, copyObs_Ng, hns, hes, hT]
  · simp only [subtreeEdgesObj, listQuery, copyObs_Ng, hns, hes, hT]
  · simp only [nodePathObj, copyObs_Ng, hns, hg]
  · simp only [edgePathObj, copyObs_Ng, hes, hg]
  · simp only [mrcaObj, copyObs_Ng, hn, hg]
  · simp only [hasFatherObj, copyObs_Ng, hg]
  · simp only [nbSonsObj, copyObs_Ng, hg]

/-! ### the number of observer slots never changes -/

def Slots (n : Nat) (tw : TW) : Prop := tw.w.obs.length = n

theorem slots_closed (n : Nat) : Closed (Slots n) where
  liftW tw _ _ r h _ := by unfold Slots; rw [liftW_w, deliver_len]; exact h
  reset _ h := h
  ofO tw r h hr := by
    unfold ofO
    cases r with
    | ok u w' => exact (show World.Step tw.w w' from hr).1.trans h
    | exc kd w' => exact (show World.Step tw.w w' from hr).1.trans h
    | ub => exact h
  setObs tw k _ o2 _ _ h _ _ := (setObs_len tw.w k o2).trans h
  rootAt tw _ _ _ h hr := (congrArg List.length (rootAt_obs hr)).trans h
  isValid _ h := h

/-- every member of `TWOpX`: what the members of `TWOp` are made of, and the observer copies -/
theorem Closed.stepX {P : TW → Prop} (hc : Closed P)
    (hcopy : ∀ (tw : TW) (r : OOut Unit), P tw → r.All (World.ObsStep tw.w) → P (tw.ofObsOnly r).2) {tw : TW} (h : P tw) (op : TWOpX) : P (tw.stepX op) := by
  have hremove : ∀ t n s, P t → P (t.removeSonG n s).2 := fun t n s ht => hc.touch _ (hc.unlink t n s ht)
  cases op with
  | base op => exact hc.step h op
  | copy j k => exact hcopy tw _ h (world_copy_step tw.w j k)
  | clone j k => exact hcopy tw _ h (world_copy_step tw.w j k)
  | assign j k => exact hcopy tw _ h (world_assign_step tw.w j k)
  | removeSon k a s =>
    show P (tw.removeSon k a s).2
    unfold removeSon
    split
    · exact h
    · split
      · rw [ofG_snd]; exact hremove tw _ _ h
      · exact h
  | removeSons k a =>
    show P (tw.removeSons k a).2.2
    unfold removeSons
    split
    · exact h
    · split
      · exact h
      · rename_i ia _
        split
        · exact h
        · rename_i sons _
          have hf := foldl_ind (fun acc : GOut Unit × TW => P acc.2) (fun acc s => andThen acc (fun _ t' => t'.removeSonG ia s))
            (fun acc s hacc => andThen_prop P acc _ hacc (fun _ t ht => hremove t ia s ht)) sons (.ok () tw.w.g, tw) h
          dsimp only
          split
          · split <;> exact hf
          · exact hf
  | setRoot k a => exact hc.ofO tw _ h (world_setRootObj_step tw.w k a)

theorem stepX_inv {tw : TW} (hi : Inv tw) (op : TWOpX) : Inv (tw.stepX op) :=
  inv_closed.stepX (fun _ _ h hr => ofObsOnly_inv h hr) hi op

theorem runX_inv (ops : List TWOpX) : ∀ tw : TW, Inv tw → Inv (tw.runX ops) :=
  foldl_ind Inv stepX (fun _ op hi => stepX_inv hi op) ops

theorem runX_slots {n : Nat} (ops : List TWOpX) : ∀ tw : TW, Slots n tw → Slots n (tw.runX ops) := by
  induction ops with
  | nil => intro tw h; exact h
  | cons op r ih =>
    intro tw h
    refine ih _ ((slots_closed n).stepX (fun tw r h hr => ?_) h op)
    unfold ofObsOnly
    cases r with
    | ok u w' => exact (show World.ObsStep tw.w w' from hr).1.trans h
    | exc kd w' => exact (show World.ObsStep tw.w w' from hr).1.trans h
    | ub => exact h

end TW
end Graph
end Bpp
