import BppProofs.Lemmas.AliasHist
/-! The links of an object (C03).  "`y` follows `x`" is said in several ways in the model and in the statements: by
positions (`Follows`), by parameter objects (`Lk`: a listener attached to one writes to the other), by the listener ids
the parameters answer to (`linksOf`, what is seen from outside), by registry keys (`Linked`), by registry entries
(`AllSynced`).  `Link` says it once, by the names without namespace of the two ends, read off the registry; under the
invariant each of the others is `Link` (one lemma each), and what an operation does to the links is stated of `Link`; the list
`linksOf` itself is a function of the names without namespace and of `Link` (`linksOf_eq`). -/
namespace Bpp.Alias
open Bpp.ParamList (Bnd Con Par Store ObjId nameOf find? hasParameter names startsWith)

/-- a registered link of the object: `y` follows `x` (names without namespace) -/
def Link (w : World) (o : Obj) (x y : String) : Prop :=
  ∃ e ∈ o.reg, (w.lis e.2).src = x ∧ (w.lis e.2).name = o.pre ++ y

theorem SameShape.link {w w' : World} (s : SameShape w w') (o : Obj) : Link w' o = Link w o := by
  funext x y; simp only [Link, s.lis]

/-- what a listener of the object writes to -/
theorem ObjInv.tgt_reg {w : World} {k : Nat} {o : Obj} (h : ObjInv w k o) (ho : w.objs k = some o) {e : String × Nat}
    (he : e ∈ o.reg) : tgt w e.2 = o.params[(w.lis e.2).alias]? := by
  simp only [tgt, (h.regOk e he).pl, ho]

/-- the registry key of a link; the name of its target is a plain one -/
theorem ObjInv.link_key {w : World} {k : Nat} {o : Obj} (h : ObjInv w k o) {e : String × Nat} (he : e ∈ o.reg) {x y : String}
    (hs : (w.lis e.2).src = x) (hn : (w.lis e.2).name = o.pre ++ y) : e.1 = aliasId x y ∧ Plain y := by
  obtain ⟨t, y', ht, htn, hnm, hid⟩ := (h.regOk e he).tgt
  obtain rfl : y' = y := append_left_cancel' (hnm.symm.trans hn)
  exact ⟨hs ▸ hid, h.plain_of (List.mem_of_getElem? ht) htn⟩

/-- a link in every coordinate: the two parameter objects, the listener object `l` and its registry entry, where `l` is
attached and the position it writes to -/
theorem ObjInv.wire {w : World} {k : Nat} {o : Obj} (h : ObjInv w k o) {x y : String} (lk : Link w o x y) :
    ∃ s t l, s ∈ o.params ∧ t ∈ o.params ∧ nameOf w.heap s = o.pre ++ x ∧ nameOf w.heap t = o.pre ++ y ∧
      (aliasId x y, l) ∈ o.reg ∧ (w.lis l).src = x ∧ o.params[(w.lis l).alias]? = some t ∧ l ∈ w.lsn s := by
  obtain ⟨e, he, hsrc, hnm⟩ := lk
  obtain ⟨_, _, _, ⟨s, hs, hsn, hsl⟩, ⟨t, y', ht, htn, hnm', hid⟩⟩ := h.regOk e he
  obtain rfl : y' = y := append_left_cancel' (hnm'.symm.trans hnm)
  subst hsrc
  exact ⟨s, t, e.2, hs, List.mem_of_getElem? ht, hsn, htn, by rw [← hid]; exact he, rfl, ht, hsl⟩

/-- a parameter follows at most one parameter -/
theorem Link.unique {w : World} {k : Nat} {o : Obj} (h : ObjInv w k o) {x x' y : String} (a : Link w o x y) (b : Link w o x' y) :
    x = x' := by
  obtain ⟨e, he, hs, hn⟩ := a
  obtain ⟨e', he', hs', hn'⟩ := b
  cases h.name_unique he he' (hn.trans hn'.symm)
  exact hs.symm.trans hs'

/-- the parameter named `y` follows somebody exactly when a registered listener writes to it, i.e. when it is not independent -/
theorem indep_iff {w : World} {k : Nat} {o : Obj} (h : ObjInv w k o) {i : ObjId} {y : String} (hi : i ∈ o.params)
    (hn : nameOf w.heap i = o.pre ++ y) : i ∈ o.indep ↔ ¬ ∃ x, Link w o x y := by
  rw [h.indepIff i hi, not_iff_not]
  constructor
  · rintro ⟨e, he, ht⟩
    obtain ⟨t, y', ht', htn, hnm, _⟩ := (h.regOk e he).tgt
    cases ht.symm.trans ht'
    exact ⟨_, e, he, rfl, append_left_cancel' (htn.symm.trans hn) ▸ hnm⟩
  · rintro ⟨x, lk⟩
    obtain ⟨_, t, l, _, ht, _, htn, hreg, _, hpos, _⟩ := h.wire lk
    cases h.name_inj ht hi (htn.trans hn.symm)
    exact ⟨_, hreg, hpos⟩

/-! ## `Link` in the other coordinates -/

/-- by parameter objects -/
theorem lk_iff {w : World} {k : Nat} {o : Obj} (h : ObjInv w k o) (ho : w.objs k = some o) {s t : ObjId} :
    Lk w o s t ↔ ∃ x y, Link w o x y ∧ s ∈ o.params ∧ t ∈ o.params ∧ nameOf w.heap s = o.pre ++ x ∧
      nameOf w.heap t = o.pre ++ y := by
  constructor
  · rintro ⟨hs, l, hl, htg⟩
    obtain ⟨hreg, hn⟩ := h.lsnOk s hs l hl
    obtain ⟨t', y, ht', htn, hnm, _⟩ := (h.regOk _ hreg).tgt
    rw [h.tgt_reg ho hreg] at htg
    cases htg.symm.trans ht'
    exact ⟨_, y, ⟨_, hreg, rfl, hnm⟩, hs, List.mem_of_getElem? ht', hn, htn⟩
  · rintro ⟨x, y, lk, hs, ht, hsn, htn⟩
    obtain ⟨s', t', l, hs', ht', hsn', htn', hreg, _, hpos, hl⟩ := h.wire lk
    cases h.name_inj hs hs' (hsn.trans hsn'.symm)
    cases h.name_inj ht ht' (htn.trans htn'.symm)
    exact ⟨hs, l, hl, (h.tgt_reg ho hreg).trans hpos⟩

/-- the two ends of a link, looked up by name, and the listener between them -/
theorem Link.lk {w : World} {k : Nat} {o : Obj} (h : ObjInv w k o) (ho : w.objs k = some o) {x y : String} (lk : Link w o x y) :
    ∃ s t, find? w.heap o.params (o.pre ++ x) = some s ∧ find? w.heap o.params (o.pre ++ y) = some t ∧ Lk w o s t := by
  obtain ⟨s, t, _, hs, ht, hsn, htn, _⟩ := h.wire lk
  exact ⟨s, t, (find?_iff h.nodup).2 ⟨hs, hsn⟩, (find?_iff h.nodup).2 ⟨ht, htn⟩, (lk_iff h ho).2 ⟨x, y, lk, hs, ht, hsn, htn⟩⟩

/-- by positions -/
theorem follows_iff {w : World} {k : Nat} {o : Obj} (h : ObjInv w k o) {c p : Nat} :
    Follows w o c p ↔ ∃ x y tc tp, Link w o x y ∧ o.params[c]? = some tc ∧ o.params[p]? = some tp ∧
      nameOf w.heap tc = o.pre ++ y ∧ nameOf w.heap tp = o.pre ++ x := by
  constructor
  · rintro ⟨e, he, hc, s, hs, hsn⟩
    obtain ⟨t, y, ht, htn, hnm, _⟩ := (h.regOk e he).tgt
    exact ⟨_, y, t, s, ⟨e, he, rfl, hnm⟩, hc ▸ ht, hs, htn, hsn⟩
  · rintro ⟨x, y, tc, tp, lk, hc, hp, hcn, hpn⟩
    obtain ⟨s, t, l, hs, ht, hsn, htn, hreg, hsrc, hpos, _⟩ := h.wire lk
    cases h.name_inj (List.mem_of_getElem? hp) hs (hpn.trans hsn.symm)
    cases h.name_inj (List.mem_of_getElem? hc) ht (hcn.trans htn.symm)
    exact ⟨_, hreg, h.pos_inj hpos hc, tp, hp, by rw [hsrc]; exact hsn⟩

/-- by registry keys -/
theorem key_iff {w : World} {k : Nat} {o : Obj} (h : ObjInv w k o) {x y : String} (py : Plain y) :
    aliasId x y ∈ o.reg.map Prod.fst ↔ Link w o x y := by
  constructor
  · intro hm
    obtain ⟨e, he, hk⟩ := List.mem_map.1 hm
    obtain ⟨t, y', ht, htn, hnm, hid⟩ := (h.regOk e he).tgt
    obtain ⟨e1, e2⟩ := aliasId_inj (h.plain_of (List.mem_of_getElem? ht) htn) py (hid.symm.trans hk)
    exact ⟨e, he, e1, e2 ▸ hnm⟩
  · intro lk
    obtain ⟨_, _, l, _, _, _, _, hreg, _⟩ := h.wire lk
    exact List.mem_map.2 ⟨_, hreg, rfl⟩

/-- by the listener ids a parameter answers to: the parameter named `x` holds the listener of "`y` follows `x`" exactly
when that link is registered -/
theorem hasListener_iff {w : World} {k : Nat} {o : Obj} (h : ObjInv w k o) {i : ObjId} {x y : String} (hi : i ∈ o.params)
    (hn : nameOf w.heap i = o.pre ++ x) (py : Plain y) : hasListener w i (aliasId x y) = true ↔ Link w o x y := by
  rw [← key_iff h py]
  simp only [hasListener, List.any_eq_true, beq_iff_eq]
  constructor
  · rintro ⟨l, hl, hid⟩
    exact List.mem_map.2 ⟨_, (h.lsnOk i hi l hl).1, hid⟩
  · intro hm
    obtain ⟨s, _, l, hs, _, hsn, _, hreg, _, _, hl⟩ := h.wire ((key_iff h py).1 hm)
    cases h.name_inj hs hi (hsn.trans hn.symm)
    exact ⟨l, hl, (h.regOk _ hreg).id⟩

theorem ObjInv.short {w : World} {k : Nat} {o : Obj} (h : ObjInv w k o) {i : ObjId} (hi : i ∈ o.params) :
    ∃ x, nameOf w.heap i = o.pre ++ x ∧ Plain x ∧ stripNs o.pre (nameOf w.heap i) = x := by
  obtain ⟨x, hx, px⟩ := h.plain i hi
  exact ⟨x, hx, px, by rw [hx, stripNs_append]⟩

theorem mem_shortNames {w : World} {k : Nat} {o : Obj} (h : ObjInv w k o) {y : String} :
    y ∈ shortNames w o ↔ ∃ t ∈ o.params, nameOf w.heap t = o.pre ++ y := by
  simp only [shortNames, List.mem_map]
  constructor
  · rintro ⟨t, ht, rfl⟩
    obtain ⟨x, hx, _, hs⟩ := h.short ht
    exact ⟨t, ht, by rw [hs]; exact hx⟩
  · rintro ⟨t, ht, hn⟩
    exact ⟨t, ht, by rw [hn, stripNs_append]⟩

theorem plain_of_short {w : World} {k : Nat} {o : Obj} (h : ObjInv w k o) {y : String} (hy : y ∈ shortNames w o) : Plain y := by
  obtain ⟨t, ht, htn⟩ := (mem_shortNames h).1 hy
  exact h.plain_of ht htn

theorem Link.short {w : World} {k : Nat} {o : Obj} (h : ObjInv w k o) {x y : String} (lk : Link w o x y) :
    x ∈ shortNames w o ∧ y ∈ shortNames w o := by
  obtain ⟨s, t, _, hs, ht, hsn, htn, _⟩ := h.wire lk
  exact ⟨(mem_shortNames h).2 ⟨s, hs, hsn⟩, (mem_shortNames h).2 ⟨t, ht, htn⟩⟩

/-- seen from outside -/
theorem mem_linksOf_iff {w : World} {k : Nat} {o : Obj} (h : ObjInv w k o) {x y : String} :
    (x, y) ∈ linksOf w o ↔ Link w o x y := by
  simp only [linksOf, List.mem_flatMap, List.mem_map, List.mem_filter, Prod.mk.injEq]
  constructor
  · rintro ⟨i, hi, y', ⟨hy', hl⟩, rfl, rfl⟩
    obtain ⟨x, hx, _, hs⟩ := h.short hi
    rw [hs] at hl ⊢
    exact (hasListener_iff h hi hx (plain_of_short h hy')).1 hl
  · intro lk
    obtain ⟨s, t, _, hs, ht, hsn, htn, _⟩ := h.wire lk
    have hx : stripNs o.pre (nameOf w.heap s) = x := by rw [hsn, stripNs_append]
    refine ⟨s, hs, y, ⟨(mem_shortNames h).2 ⟨t, ht, htn⟩, ?_⟩, hx, rfl⟩
    rw [hx]; exact (hasListener_iff h hs hsn (h.plain_of ht htn)).2 lk

open Classical in
/-- the list of links seen from outside is a function of the names without namespace and of `Link` -/
theorem linksOf_eq {w : World} {k : Nat} {o : Obj} (h : ObjInv w k o) :
    linksOf w o = (shortNames w o).flatMap (fun x =>
      ((shortNames w o).filter (fun y => decide (Link w o x y))).map (fun y => (x, y))) := by
  simp only [linksOf, shortNames, List.flatMap_map]
  refine List.flatMap_congr fun i hi => ?_
  obtain ⟨x, hx, _, hs⟩ := h.short hi
  rw [hs]
  congr 1
  refine List.filter_congr fun y hy => ?_
  rw [Bool.eq_iff_iff, decide_eq_true_iff]
  exact hasListener_iff h hi hx (plain_of_short h hy)

/-- … hence an object with the same names without namespace whose links are those of `o` that pass `p` shows those links -/
theorem linksOf_filter {w W : World} {k d : Nat} {o o' : Obj} (h : ObjInv w k o) (h' : ObjInv W d o')
    (hs : shortNames W o' = shortNames w o) (p : String × String → Bool)
    (hl : ∀ x y, Link W o' x y ↔ Link w o x y ∧ p (x, y) = true) : linksOf W o' = (linksOf w o).filter p := by
  rw [linksOf_eq h, linksOf_eq h', hs, List.filter_flatMap]
  refine List.flatMap_congr fun x _ => ?_
  rw [List.filter_map, List.filter_filter]
  congr 1
  refine List.filter_congr fun y _ => ?_
  rw [Bool.eq_iff_iff]
  simp only [Bool.and_eq_true, decide_eq_true_iff, Function.comp, hl, and_comm]

/-- all links in sync, by names -/
theorem allSynced_iff_link {w : World} {k : Nat} {o : Obj} (h : ObjInv w k o) (ho : w.objs k = some o) :
    AllSynced w o ↔ ∀ x y, Link w o x y → ∀ s ∈ o.params, ∀ t ∈ o.params, nameOf w.heap s = o.pre ++ x →
      nameOf w.heap t = o.pre ++ y → val w t = val w s := by
  rw [allSynced_iff h ho]
  constructor
  · intro hall x y lk s hs t ht hsn htn
    exact hall s t ((lk_iff h ho).2 ⟨x, y, lk, hs, ht, hsn, htn⟩)
  · intro hall s t lk
    obtain ⟨x, y, l, hs, ht, hsn, htn⟩ := (lk_iff h ho).1 lk
    exact hall x y l s hs t ht hsn htn

/-- links in sync are inherited by an object that has no other links, and in which every parameter of the former object has
a counterpart of the same name without namespace and the same value -/
theorem AllSynced.transfer {w W : World} {k k' : Nat} {o o' : Obj} (hsy : AllSynced w o) (hi : ObjInv w k o)
    (ho : w.objs k = some o) (hi' : ObjInv W k' o') (ho' : W.objs k' = some o') (hl : ∀ x y, Link W o' x y → Link w o x y)
    (hv : ∀ s ∈ o.params, ∀ x, nameOf w.heap s = o.pre ++ x →
      ∃ s' ∈ o'.params, nameOf W.heap s' = o'.pre ++ x ∧ val W s' = val w s) : AllSynced W o' := by
  refine (allSynced_iff_link hi' ho').2 fun x y lk s' hs' t' ht' hsn' htn' => ?_
  obtain ⟨s, t, _, hs, ht, hsn, htn, _⟩ := hi.wire (hl x y lk)
  obtain ⟨s0, hs0, hs0n, es⟩ := hv s hs x hsn
  obtain ⟨t0, ht0, ht0n, et⟩ := hv t ht y htn
  cases hi'.name_inj hs' hs0 (hsn'.trans hs0n.symm)
  cases hi'.name_inj ht' ht0 (htn'.trans ht0n.symm)
  rw [es, et]
  exact (allSynced_iff_link hi ho).1 hsy x y (hl x y lk) s hs t ht hsn htn

/-! ## What the structural operations do to the links -/

/-- an object carried along a renaming has the links of the object -/
theorem Carried.link {w W : World} {k d : Nat} {o o' : Obj} {φ : ObjId → ObjId} {N : Nat → Nat → Prop}
    (c : Carried w W k d o o' φ N) (h : ObjInv w k o) (x y : String) : Link W o' x y ↔ Link w o x y := by
  constructor
  · rintro ⟨q, hq, hs, hn⟩
    obtain ⟨e, he, x', hx', rfl⟩ := (c.reg q).1 hq
    obtain ⟨_, nm, hw, hnm⟩ := c.lis e he x' hx'
    obtain ⟨_, y', _, _, hnm', _⟩ := (h.regOk e he).tgt
    rw [hw] at hs hn
    exact ⟨e, he, hs, append_left_cancel' ((hnm y' hnm').symm.trans hn) ▸ hnm'⟩
  · rintro ⟨e, he, hs, hn⟩
    obtain ⟨x', hx'⟩ := c.total e he
    obtain ⟨_, nm, hw, hnm⟩ := c.lis e he x' hx'
    exact ⟨(e.1, x'), (c.reg _).2 ⟨e, he, x', hx', rfl⟩, by rw [hw]; exact hs, by rw [hw]; exact hnm y hn⟩

theorem link_aliased {w : World} {k : Nat} {o : Obj} (h : ObjInv w k o) {p1 p2 : String} {i1 i2 : ObjId} {pos2 : Nat}
    (hfresh : aliasId p1 p2 ∉ o.reg.map Prod.fst) (x y : String) :
    Link (aliased w k o p1 p2 i1 i2 pos2) (aliasedObj o p1 p2 i2 w.lnext) x y ↔ Link w o x y ∨ (x = p1 ∧ y = p2) := by
  have hold : ∀ e ∈ o.reg, (aliased w k o p1 p2 i1 i2 pos2).lis e.2 = w.lis e.2 := fun e he =>
    if_neg (Nat.ne_of_lt (h.regOk e he).lt)
  have hnew : (aliased w k o p1 p2 i1 i2 pos2).lis w.lnext = ⟨aliasId p1 p2, pos2, k, o.pre ++ p2, p1⟩ := if_pos rfl
  constructor
  · rintro ⟨e, he, hs, hn⟩
    rcases (mem_mapInsert hfresh e).1 he with rfl | he
    · rw [hnew] at hs hn; exact Or.inr ⟨hs.symm, append_left_cancel' hn.symm⟩
    · rw [hold e he] at hs hn; exact Or.inl ⟨e, he, hs, hn⟩
  · rintro (⟨e, he, hs, hn⟩ | ⟨rfl, rfl⟩)
    · exact ⟨e, (mem_mapInsert hfresh e).2 (Or.inr he), by rw [hold e he]; exact hs, by rw [hold e he]; exact hn⟩
    · exact ⟨_, (mem_mapInsert hfresh _).2 (Or.inl rfl), by rw [hnew], by rw [hnew]⟩

theorem link_unaliased {w : World} {k : Nat} {o : Obj} (h : ObjInv w k o) {p1 p2 : String} {i1 i2 : ObjId}
    (hm2 : i2 ∈ o.params) (hn2 : nameOf w.heap i2 = o.pre ++ p2) (x y : String) :
    Link (unaliased w k o p1 p2 i1 i2) (unaliasedObj o p1 p2 i2) x y ↔ Link w o x y ∧ ¬ (x = p1 ∧ y = p2) := by
  constructor
  · rintro ⟨e, hin, hs, hn⟩
    obtain ⟨hre, hne⟩ := (mem_mapErase _ _ e).1 hin
    exact ⟨⟨e, hre, hs, hn⟩, fun ⟨hx, hy⟩ => hne (by rw [(h.link_key hre hs hn).1, hx, hy])⟩
  · rintro ⟨⟨e, hre, hs, hn⟩, hne⟩
    obtain ⟨hk, py⟩ := h.link_key hre hs hn
    exact ⟨e, (mem_mapErase _ _ e).2 ⟨hre, fun c => hne (aliasId_inj py (h.plain_of hm2 hn2) (hk.symm.trans c))⟩, hs, hn⟩

theorem link_renamed {w : World} {k : Nat} {o : Obj} (h : ObjInv w k o) (new : String) (x y : String) :
    Link (nsWorld w k o new) { params := o.params, indep := o.indep, reg := o.reg, pre := new } x y ↔ Link w o x y :=
  (nsWorld_carried h new).link h x y

end Bpp.Alias
