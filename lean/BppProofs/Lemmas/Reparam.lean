import BppModel.Reparam
import BppProofs.Lemmas.Transform
/-!
Helper lemmas for C11: the wrapper model (`BppModel/Reparam.lean`) read at `ℝ`.

Per slot, `SlotInv` says that the transform is the one `init_` builds for the constraint (`Matches`)
and that the stored values are accepted; under it `setParameters` raises nothing and is `setSlot`
slot by slot (`set_real`).  How far the wrapped function is from the back-transformed coordinate is
`Sync` (equal) / `Near` (within `d`); `Tracks` puts the three together for a parameter with a given
initial value and is kept by every update (`set_tracks`, `run_tracks`).  The chain rule through one
transformed coordinate (`chain_d1`, `chain_d2`, `chain_cross`) needs `TPWF`, which `SlotInv` gives
(`matches_tpwf`).
-/
namespace Bpp.Reparam
open Bpp Bpp.Scalar Bpp.ScalarReal Bpp.Transform

/-! ### constraints over ℝ -/

/-- the set of values an `IntervalConstraint` of the given shape accepts -/
def Shape.Accepts : Shape ℝ → ℝ → Prop
  | .none, _ => True
  | .cc a b, v => a ≤ v ∧ v ≤ b
  | .oo a b, v => a < v ∧ v < b
  | .co a b, v => a ≤ v ∧ v < b
  | .oc a b, v => a < v ∧ v ≤ b
  | .gt a, v => a < v
  | .ge a, v => a ≤ v
  | .lt b, v => v < b
  | .le b, v => v ≤ b

theorem isCorrect_iff (sh : Shape ℝ) (v : ℝ) : sh.isCorrect v = true ↔ sh.Accepts v := by
  cases sh <;> simp [Shape.isCorrect, Shape.Accepts]

@[simp] theorem neb_real (a b : ℝ) : neb a b = true ↔ a ≠ b := by
  unfold neb
  rw [Bool.not_eq_true', ← Bool.not_eq_true, eqb_iff]

/-- over ℝ the guard "store only what differs" of `matchParametersValues` is void when storing an
equal value changes nothing -/
theorem ite_neb {β : Type} (a b : ℝ) {y z : β} (h : a = b → z = y) : (if neb a b then y else z) = y := by
  split_ifs with hne
  · rfl
  · exact h (by by_contra e; exact hne ((neb_real _ _).mpr e))

/-- over ℝ `Parameter::setValue` with a constraint stores an accepted value -/
theorem paramSetC_real (sh : Shape ℝ) (cur v : ℝ) (h : sh.Accepts v) : paramSetC sh cur v = .ok v := by
  unfold paramSetC
  have hc : sh.isCorrect v = true := (isCorrect_iff sh v).mpr h
  split
  · simp [hc]
  · rename_i h'
    simp at h'
    have : v = cur := by linarith
    rw [this]

/-- ... and raises on a rejected value that differs from the current one -/
theorem paramSetC_real_rejects (sh : Shape ℝ) (cur v : ℝ) (h : ¬ sh.Accepts v) (hne : v ≠ cur) :
    paramSetC sh cur v = .error .constraint := by
  unfold paramSetC
  have hc : sh.isCorrect v = false := by
    rw [← Bool.not_eq_true, isCorrect_iff]; exact h
  have : (0 : ℝ) < |v - cur| := abs_pos.mpr (sub_ne_zero.mpr hne)
  simp [hc, this]

/-! ### transformed parameters as functions of the coordinate -/

@[simp] theorem setX_r (t : RT ℝ) (x : ℝ) : (TP.r t).setX x = .r (t.at x) := by simp [TP.setX, RT.at]
@[simp] theorem setX_i (t : IT ℝ) (x : ℝ) : (TP.i t).setX x = .i (t.at x) := by simp [TP.setX, IT.at]
@[simp] theorem setX_p (x0 x : ℝ) : (TP.p x0 : TP ℝ).setX x = .p x := by simp [TP.setX]

@[simp] theorem setX_x (tp : TP ℝ) (x : ℝ) : (tp.setX x).x = x := by
  cases tp <;> simp [TP.setX, TP.x]

@[simp] theorem setX_self (tp : TP ℝ) : tp.setX tp.x = tp := by
  cases tp <;> simp [TP.setX, TP.x]

@[simp] theorem setX_setX (tp : TP ℝ) (x y : ℝ) : (tp.setX x).setX y = tp.setX y := by
  cases tp <;> simp [TP.setX]

/-- which transform `init_` builds for a shape (at any coordinate): kind, nudged bounds,
orientation, unit scale, hyperbolic variant -/
def Matches (tiny : ℝ) : Shape ℝ → TP ℝ → Prop
  | .none, .p _ => True
  | .cc a b, .i t => t.lo = a ∧ t.hi = b ∧ t.scale = 1 ∧ t.hyper = true
  | .oo a b, .i t => t.lo = a + tiny ∧ t.hi = b - tiny ∧ t.scale = 1 ∧ t.hyper = true
  | .co a b, .i t => t.lo = a ∧ t.hi = b - tiny ∧ t.scale = 1 ∧ t.hyper = true
  | .oc a b, .i t => t.lo = a + tiny ∧ t.hi = b ∧ t.scale = 1 ∧ t.hyper = true
  | .gt a, .r t => t.bound = a + tiny ∧ t.positive = true ∧ t.scale = 1
  | .ge a, .r t => t.bound = a ∧ t.positive = true ∧ t.scale = 1
  | .lt b, .r t => t.bound = b - tiny ∧ t.positive = false ∧ t.scale = 1
  | .le b, .r t => t.bound = b ∧ t.positive = false ∧ t.scale = 1
  | _, _ => False

/-- the interval is wide enough for the nudged bounds to be ordered -/
def Shape.Wide (tiny : ℝ) : Shape ℝ → Prop
  | .cc a b => a < b
  | .oo a b => a + tiny < b - tiny
  | .co a b => a < b - tiny
  | .oc a b => a + tiny < b
  | _ => True

theorem matches_setX {tiny : ℝ} {sh : Shape ℝ} {tp : TP ℝ} (h : Matches tiny sh tp) (x : ℝ) :
    Matches tiny sh (tp.setX x) := by
  cases sh <;> cases tp <;> simp_all [Matches, TP.setX]

/-- the open interval (corrected bounds) of the transformed parameter `init_` builds for a shape -/
def Shape.Inner (tiny : ℝ) : Shape ℝ → ℝ → Prop
  | .none, _ => True
  | .cc a b, c => a < c ∧ c < b
  | .oo a b, c => a + tiny < c ∧ c < b - tiny
  | .co a b, c => a < c ∧ c < b - tiny
  | .oc a b, c => a + tiny < c ∧ c < b
  | .gt a, c => a + tiny < c
  | .ge a, c => a < c
  | .lt b, c => c < b - tiny
  | .le b, c => c < b

theorem Shape.Inner.accepts {tiny : ℝ} (ht : 0 < tiny) {sh : Shape ℝ} {c : ℝ} (h : sh.Inner tiny c) :
    sh.Accepts c := by
  cases sh with
  | none => trivial
  | cc => exact ⟨h.1.le, h.2.le⟩
  | oo => exact ⟨by linarith [h.1], by linarith [h.2]⟩
  | co => exact ⟨h.1.le, by linarith [h.2]⟩
  | oc => exact ⟨by linarith [h.1], h.2.le⟩
  | gt | lt => simp only [Shape.Inner, Shape.Accepts] at h ⊢; linarith
  | ge | le => exact le_of_lt h

theorem matches_inner {pi tiny : ℝ} {sh : Shape ℝ} {tp : TP ℝ}
    (h : Matches tiny sh tp) (hw : sh.Wide tiny) : sh.Inner tiny (tp.getOriginal pi) := by
  cases sh with
  | none => trivial
  | cc a b | oo a b | co a b | oc a b =>
    cases tp with
    | i t =>
      obtain ⟨h1, h2, -, h4⟩ := h
      simp only [Shape.Inner, Shape.Wide, TP.getOriginal] at hw ⊢
      rw [← h1, ← h2] at hw ⊢
      exact IT.getOriginal_hyper_mem pi t h4 hw
    | r | p => exact h.elim
  | gt a | ge a =>
    cases tp with
    | r t =>
      have m := Bpp.C11aux.r_inside t (h.2.2 ▸ one_pos)
      rwa [RT.Inside, h.2.1, if_pos rfl, h.1] at m
    | i | p => exact h.elim
  | lt b | le b =>
    cases tp with
    | r t =>
      have m := Bpp.C11aux.r_inside t (h.2.2 ▸ one_pos)
      rwa [RT.Inside, h.2.1, if_neg Bool.false_ne_true, h.1] at m
    | i | p => exact h.elim

/-- `back_in_domain` for the wrapper: whatever the coordinate, the back-transformed value is
accepted by the original constraint -/
theorem matches_accepts {pi tiny : ℝ} (htiny : 0 < tiny) {sh : Shape ℝ} {tp : TP ℝ}
    (h : Matches tiny sh tp) (hw : sh.Wide tiny) : sh.Accepts (tp.getOriginal pi) :=
  (matches_inner h hw).accepts htiny

/-! ### `init_` -/

/-- a finite interval is wide enough for the corrected bounds and the corrected values to be
ordered: wider than `2 tiny` (`3 tiny` when both bounds are open) -/
def Shape.Roomy (tiny : ℝ) : Shape ℝ → Prop
  | .cc a b => 2 * tiny < b - a
  | .oo a b => 3 * tiny < b - a
  | .co a b => 2 * tiny < b - a
  | .oc a b => 2 * tiny < b - a
  | _ => True

/-- hypotheses of `wrap_preserves_values` on the initial value of a parameter: *any* value accepted
by its constraint (this is what the constructor of the wrapped function's own `Parameter`
enforces), and a finite interval wider than `2 tiny` (`3 tiny` when both bounds are open) -/
def Admits (tiny : ℝ) (sh : Shape ℝ) (v : ℝ) : Prop := sh.Accepts v ∧ sh.Roomy tiny

theorem admits_accepts {tiny : ℝ} {sh : Shape ℝ} {v : ℝ} (h : Admits tiny sh v) : sh.Accepts v := h.1

theorem roomy_wide {tiny : ℝ} (ht : 0 < tiny) {sh : Shape ℝ} (h : sh.Roomy tiny) : sh.Wide tiny := by
  cases sh <;> simp only [Shape.Roomy, Shape.Wide] at * <;> linarith

theorem admits_wide {tiny : ℝ} (ht : 0 < tiny) {sh : Shape ℝ} {v : ℝ} (h : Admits tiny sh v) :
    sh.Wide tiny := roomy_wide ht h.2

@[simp] theorem correctLower_real (tiny value a cv : ℝ) :
    correctLower tiny value a cv = if |value - a| < tiny then a + tiny else cv := by
  simp [correctLower]
@[simp] theorem correctUpper_real (tiny value b cv : ℝ) :
    correctUpper tiny value b cv = if |value - b| < tiny then b - tiny else cv := by
  simp [correctUpper]
@[simp] theorem correctLowerOpen_real (tiny value lo cv : ℝ) :
    correctLowerOpen tiny value lo cv = if value - lo < tiny then lo + tiny else cv := by
  simp [correctLowerOpen]
@[simp] theorem correctUpperOpen_real (tiny value hi cv : ℝ) :
    correctUpperOpen tiny value hi cv = if hi - value < tiny then hi - tiny else cv := by
  simp [correctUpperOpen]

/-- not moved by `init_`: at least `tiny` away from each closed bound and `2 tiny` away from each
open bound (i.e. `tiny` away from the corrected bound) -/
def NotNudged (tiny : ℝ) : Shape ℝ → ℝ → Prop
  | .none, _ => True
  | .cc a b, v => tiny ≤ |v - a| ∧ tiny ≤ |v - b|
  | .oo a b, v => a + 2 * tiny ≤ v ∧ v ≤ b - 2 * tiny
  | .co a b, v => tiny ≤ |v - a| ∧ v ≤ b - 2 * tiny
  | .oc a b, v => a + 2 * tiny ≤ v ∧ tiny ≤ |v - b|
  | .gt a, v => a + 2 * tiny ≤ v
  | .ge a, v => tiny ≤ |v - a|
  | .lt b, v => v ≤ b - 2 * tiny
  | .le b, v => tiny ≤ |v - b|

theorem nudge_lo_iff {tiny a v : ℝ} : tiny ≤ v - (a + tiny) ↔ a + 2 * tiny ≤ v := by
  constructor <;> intro h <;> linarith

theorem nudge_hi_iff {tiny b v : ℝ} : tiny ≤ b - tiny - v ↔ v ≤ b - 2 * tiny := by
  constructor <;> intro h <;> linarith

/-- the driver's test `isNudged` is the negation of `NotNudged` -/
theorem isNudged_false_iff (tiny : ℝ) (sh : Shape ℝ) (v : ℝ) :
    isNudged tiny sh v = false ↔ NotNudged tiny sh v := by
  cases sh <;> simp [isNudged, NotNudged, nudge_lo_iff, nudge_hi_iff]

/-- for an accepted value the test at a closed bound is one-sided too -/
theorem correctLower_of_le {tiny v a : ℝ} (cv : ℝ) (h : a ≤ v) :
    correctLower tiny v a cv = if v - a < tiny then a + tiny else cv := by
  rw [correctLower_real, abs_of_nonneg (sub_nonneg.mpr h)]

theorem correctUpper_of_le {tiny v b : ℝ} (cv : ℝ) (h : v ≤ b) :
    correctUpper tiny v b cv = if b - v < tiny then b - tiny else cv := by
  rw [correctUpper_real, abs_sub_comm, abs_of_nonneg (sub_nonneg.mpr h)]

/-- the two corrections between corrected bounds `lo`, `hi` more than `tiny` apart: the result is
strictly between them, and at most `2 tiny` away from a value that was at most `tiny` outside -/
theorem nudge_both {tiny lo hi v : ℝ} (ht : 0 < tiny) (hw : tiny < hi - lo) (hl : lo - tiny ≤ v) (hu : v ≤ hi + tiny) :
    (lo < (if hi - v < tiny then hi - tiny else if v - lo < tiny then lo + tiny else v) ∧
     (if hi - v < tiny then hi - tiny else if v - lo < tiny then lo + tiny else v) < hi) ∧
    |(if hi - v < tiny then hi - tiny else if v - lo < tiny then lo + tiny else v) - v| ≤ 2 * tiny := by
  rw [abs_le]
  split_ifs <;> refine ⟨⟨?_, ?_⟩, ?_, ?_⟩ <;> linarith

theorem nudge_lower {tiny lo v : ℝ} (ht : 0 < tiny) (hl : lo - tiny ≤ v) :
    lo < (if v - lo < tiny then lo + tiny else v) ∧ |(if v - lo < tiny then lo + tiny else v) - v| ≤ 2 * tiny := by
  rw [abs_le]
  split_ifs <;> refine ⟨?_, ?_, ?_⟩ <;> linarith

theorem nudge_upper {tiny hi v : ℝ} (ht : 0 < tiny) (hu : v ≤ hi + tiny) :
    (if hi - v < tiny then hi - tiny else v) < hi ∧ |(if hi - v < tiny then hi - tiny else v) - v| ≤ 2 * tiny := by
  rw [abs_le]
  split_ifs <;> refine ⟨?_, ?_, ?_⟩ <;> linarith

/-- the value `init_` transforms (`corrected`), for a value accepted by the constraint of a roomy
interval: strictly inside the corrected bounds, and at most `2 tiny` away from the value -/
theorem corrected_spec {tiny : ℝ} (ht : 0 < tiny) {sh : Shape ℝ} {v : ℝ} (h : Admits tiny sh v) :
    sh.Inner tiny (corrected tiny sh v) ∧ |corrected tiny sh v - v| ≤ 2 * tiny := by
  obtain ⟨ha, hr⟩ := h
  cases sh <;> simp only [Shape.Accepts, Shape.Roomy] at ha hr <;> simp only [corrected, Shape.Inner]
  case none => simp [ht.le]
  case cc a b =>
    rw [correctLower_of_le _ ha.1, correctUpper_of_le _ ha.2]
    exact nudge_both ht (by linarith) (by linarith) (by linarith)
  case oo a b =>
    rw [correctLowerOpen_real, correctUpperOpen_real]
    exact nudge_both ht (by linarith) (by linarith) (by linarith)
  case co a b =>
    rw [correctLower_of_le _ ha.1, correctUpperOpen_real]
    exact nudge_both ht (by linarith) (by linarith) (by linarith)
  case oc a b =>
    rw [correctLowerOpen_real, correctUpper_of_le _ ha.2]
    exact nudge_both ht (by linarith) (by linarith) (by linarith)
  case gt a => rw [correctLowerOpen_real]; exact nudge_lower ht (by linarith)
  case ge a => rw [correctLower_of_le _ ha]; exact nudge_lower ht (by linarith)
  case lt b => rw [correctUpperOpen_real]; exact nudge_upper ht (by linarith)
  case le b => rw [correctUpper_of_le _ ha]; exact nudge_upper ht (by linarith)

theorem corrected_inner {tiny : ℝ} (ht : 0 < tiny) {sh : Shape ℝ} {v : ℝ} (h : Admits tiny sh v) :
    sh.Inner tiny (corrected tiny sh v) := (corrected_spec ht h).1

/-- `init_` moves a value by at most `2 tiny` (`tiny` inside the corrected bound) -/
theorem corrected_close {tiny : ℝ} (ht : 0 < tiny) {sh : Shape ℝ} {v : ℝ} (h : Admits tiny sh v) :
    |corrected tiny sh v - v| ≤ 2 * tiny := (corrected_spec ht h).2

/-- ... and not at all when it is `tiny` away from every closed bound and `2 tiny` away from every
open bound -/
theorem corrected_eq_self {tiny : ℝ} {sh : Shape ℝ} {v : ℝ} (h : NotNudged tiny sh v) :
    corrected tiny sh v = v := by
  cases sh <;> simp only [NotNudged] at h <;>
    simp only [corrected, correctLower_real, correctUpper_real, correctLowerOpen_real,
      correctUpperOpen_real]
  case cc a b => rw [if_neg (not_lt.mpr h.2), if_neg (not_lt.mpr h.1)]
  case oo a b =>
    rw [if_neg (not_lt.mpr (nudge_hi_iff.mpr h.2)), if_neg (not_lt.mpr (nudge_lo_iff.mpr h.1))]
  case co a b => rw [if_neg (not_lt.mpr (nudge_hi_iff.mpr h.2)), if_neg (not_lt.mpr h.1)]
  case oc a b => rw [if_neg (not_lt.mpr h.2), if_neg (not_lt.mpr (nudge_lo_iff.mpr h.1))]
  case gt a => rw [if_neg (not_lt.mpr (nudge_lo_iff.mpr h))]
  case lt b => rw [if_neg (not_lt.mpr (nudge_hi_iff.mpr h))]
  case ge | le => rw [if_neg (not_lt.mpr h)]

theorem mkIT_ok (pi : ℝ) {cv lo hi : ℝ} (h1 : lo < cv) (h2 : cv < hi) :
    ∃ t, mkIT pi cv lo hi = some (.i t) ∧ (t.lo = lo ∧ t.hi = hi ∧ t.scale = 1 ∧ t.hyper = true) ∧
      IT.getOriginal pi t = cv := by
  refine ⟨IT.new pi cv lo hi 1 true, by simp [mkIT, h1, h2], ⟨rfl, rfl, rfl, rfl⟩, ?_⟩
  show IT.getOriginal pi ((IT.mk 1 lo hi true 0).at (IT.fwd pi 1 lo hi true cv)) = cv
  rw [IT.getOriginal_at_hyper pi _ rfl (lt_trans h1 h2), IT.fwd_hyper_real _ _ _ _ _ h1 h2]
  exact IT.gh_fwd one_ne_zero h1 h2

theorem RT_new_ok (v b : ℝ) (pos : Bool) (hv : if pos then b < v else v < b) :
    ∃ t, (RT.new v b pos one).map TP.r = some (.r t) ∧ (t.bound = b ∧ t.positive = pos ∧ t.scale = 1) ∧
      t.getOriginal = v := by
  obtain ⟨t, h1, h2, h3, h4, h5⟩ := Bpp.C11aux.r_roundtrip ⟨(1 : ℝ), b, pos, one⟩ rfl v hv
  exact ⟨t, by rw [one_eq]; exact congrArg _ h1, ⟨h4, h5, h3⟩, h2⟩

/-- `wrap_preserves_values`, one parameter: for every value accepted by the constraint the
transformed parameter `init_` builds is of the expected kind and back-transforms to the
(corrected) initial value; in particular its constructor does not raise -/
theorem initOne_spec {pi tiny : ℝ} (ht : 0 < tiny) {sh : Shape ℝ} {v : ℝ} (h : Admits tiny sh v) :
    ∃ tp, initOne pi tiny sh v = some tp ∧ Matches tiny sh tp ∧
      tp.getOriginal pi = corrected tiny sh v := by
  have hin := corrected_inner ht h
  cases sh with
  | none => exact ⟨_, rfl, trivial, rfl⟩
  | cc a b | oo a b | co a b | oc a b =>
    obtain ⟨t, e, m, g⟩ := mkIT_ok pi hin.1 hin.2
    exact ⟨.i t, e, m, g⟩
  | gt a | ge a =>
    obtain ⟨t, e, m, g⟩ := RT_new_ok _ _ true hin
    exact ⟨.r t, e, m, g⟩
  | lt b | le b =>
    obtain ⟨t, e, m, g⟩ := RT_new_ok _ _ false hin
    exact ⟨.r t, e, m, g⟩

/-- `1e-9`, the distance from a bound down to which the property quantifies -/
noncomputable def margin : ℝ := 1 / 10 ^ 9

/-- the property's quantifier on initial values: inside the constraint and at least `1e-9` away
from every finite bound -/
def Margin : Shape ℝ → ℝ → Prop
  | .none, _ => True
  | .cc a b, v => a + margin ≤ v ∧ v ≤ b - margin
  | .oo a b, v => a + margin ≤ v ∧ v ≤ b - margin
  | .co a b, v => a + margin ≤ v ∧ v ≤ b - margin
  | .oc a b, v => a + margin ≤ v ∧ v ≤ b - margin
  | .gt a, v => a + margin ≤ v
  | .ge a, v => a + margin ≤ v
  | .lt b, v => v ≤ b - margin
  | .le b, v => v ≤ b - margin

/-- the nudge `TINY()` of the bounds is smaller than the property's margin: this is what makes
every value of the property's quantifier admissible (false for e.g. `TINY() = 1e-8`) -/
theorem libTINY_lt_margin : (libTINY : ℝ) < margin := by
  simp only [libTINY, Generated.TransformConstants.TINY, ofRat_eq, margin]
  norm_num

/-- ... with room for the two steps of `TINY()` an open bound and the value next to it are moved by -/
theorem two_libTINY_lt_margin : 2 * (libTINY : ℝ) < margin := by
  simp only [libTINY, Generated.TransformConstants.TINY, ofRat_eq, margin]
  norm_num

/-- a value at least a margin `> 2 tiny` away from every finite bound is admissible and is not moved -/
theorem margin_admits {tiny : ℝ} (h0 : 0 < tiny) (h1 : 2 * tiny < margin) {sh : Shape ℝ} {v : ℝ}
    (h : Margin sh v) : Admits tiny sh v ∧ NotNudged tiny sh v := by
  cases sh <;> simp only [Margin, Admits, Shape.Accepts, Shape.Roomy, NotNudged] at h ⊢
  case none => trivial
  case cc a b =>
    exact ⟨⟨⟨by linarith, by linarith⟩, by linarith⟩, le_trans (by linarith) (le_abs_self _),
      le_trans (by linarith) (neg_le_abs _)⟩
  case oo a b => exact ⟨⟨⟨by linarith, by linarith⟩, by linarith⟩, by linarith, by linarith⟩
  case co a b =>
    exact ⟨⟨⟨by linarith, by linarith⟩, by linarith⟩, le_trans (by linarith) (le_abs_self _), by linarith⟩
  case oc a b =>
    exact ⟨⟨⟨by linarith, by linarith⟩, by linarith⟩, by linarith, le_trans (by linarith) (neg_le_abs _)⟩
  case gt | lt => exact ⟨⟨by linarith, trivial⟩, by linarith⟩
  case ge a => exact ⟨⟨by linarith, trivial⟩, le_trans (by linarith) (le_abs_self _)⟩
  case le b => exact ⟨⟨by linarith, trivial⟩, le_trans (by linarith) (neg_le_abs _)⟩

/-! ### lists of slots: `init`, `fireParameterChanged`, `setParameters` -/

/-- per-slot invariant of a wrapper: the transform is the one `init_` builds for the constraint,
the interval is wide enough, the stored values are accepted by the constraint -/
structure SlotInv (tiny : ℝ) (s : Slot ℝ) : Prop where
  m : Matches tiny s.shape s.tp
  w : s.shape.Wide tiny
  fp : s.shape.Accepts s.fp
  fn : s.shape.Accepts s.fn

/-- the two coordinate systems agree on a slot -/
def Sync (pi : ℝ) (s : Slot ℝ) : Prop := s.fn = s.tp.getOriginal pi ∧ s.fp = s.fn

/-- what `init` builds for one parameter -/
def InitRel (pi tiny : ℝ) (p : Shape ℝ × ℝ) (s : Slot ℝ) : Prop :=
  s.shape = p.1 ∧ s.fp = p.2 ∧ s.fn = p.2 ∧ Matches tiny p.1 s.tp ∧
    s.tp.getOriginal pi = corrected tiny p.1 p.2

theorem InitRel.slotInv {pi tiny : ℝ} (ht : 0 < tiny) {p : Shape ℝ × ℝ} {s : Slot ℝ}
    (r : InitRel pi tiny p s) (ha : Admits tiny p.1 p.2) : SlotInv tiny s := by
  obtain ⟨r1, r2, r3, r4, -⟩ := r
  exact ⟨r1 ▸ r4, r1 ▸ admits_wide ht ha, by rw [r1, r2]; exact ha.1, by rw [r1, r3]; exact ha.1⟩

theorem init_spec (pi : ℝ) {tiny : ℝ} (ht : 0 < tiny) :
    ∀ (ps : List (Shape ℝ × ℝ)), (∀ p ∈ ps, Admits tiny p.1 p.2) →
      ∃ w, init pi tiny ps = .ok w ∧ List.Forall₂ (InitRel pi tiny) ps w := by
  intro ps
  induction ps with
  | nil => intro _; exact ⟨[], rfl, List.Forall₂.nil⟩
  | cons p ps ih =>
    intro h
    obtain ⟨w, hw, hrel⟩ := ih (fun q hq => h q (by simp [hq]))
    obtain ⟨tp, e, hm, hg⟩ := initOne_spec (pi := pi) ht (h p (by simp))
    refine ⟨{ tp := tp, shape := p.1, fp := p.2, fn := p.2 } :: w, ?_, ?_⟩
    · unfold init at hw ⊢
      simp [List.mapM_cons, e, hw, bind, Except.bind, pure, Except.pure]
    · exact List.Forall₂.cons ⟨rfl, rfl, rfl, hm, hg⟩ hrel

/-- `fireParameterChanged` over ℝ: every copy is refreshed with the back-transformed value, and no
ConstraintException is raised -/
theorem fire_real {pi tiny : ℝ} (ht : 0 < tiny) (w : W ℝ) (h : ∀ s ∈ w, SlotInv tiny s) :
    fire pi w = .ok (w.map (fun s => { s with fp := s.tp.getOriginal pi })) := by
  unfold fire
  induction w with
  | nil => rfl
  | cons s w ih =>
    have hs := h s List.mem_cons_self
    simp [List.mapM_cons, fireOne, paramSetC_real _ _ _ (matches_accepts ht hs.m hs.w),
      ih (fun x hx => h x (List.mem_cons_of_mem _ hx)), bind, Except.bind, pure, Except.pure]

/-- one slot after `setParameters`, over ℝ.  `ch`: did any named coordinate change? -/
noncomputable def setSlot (pi : ℝ) (ch : Bool) (s : Slot ℝ) (u : Option ℝ) : Slot ℝ :=
  let tp' := match u with | some v => s.tp.setX v | none => s.tp
  let fp' := if ch then tp'.getOriginal pi else s.fp
  { tp := tp', shape := s.shape, fp := fp', fn := match u with | some _ => fp' | none => s.fn }

theorem matchOne_real (s : Slot ℝ) (u : Option ℝ) :
    matchOne s u = { s with tp := match u with | some v => s.tp.setX v | none => s.tp } := by
  cases u with
  | none => rfl
  | some v => exact ite_neb _ _ fun e => by rw [← e, setX_self]

theorem pushOne_real (s : Slot ℝ) (u : Option ℝ) :
    pushOne s u = { s with fn := match u with | some _ => s.fp | none => s.fn } := by
  cases u with
  | none => rfl
  | some v =>
    simp only [pushOne, paramSet_real]
    exact ite_neb _ _ fun e => by cases s; cases e; rfl

theorem matchOne_inv {tiny : ℝ} (s : Slot ℝ) (u : Option ℝ) (hs : SlotInv tiny s) :
    SlotInv tiny (matchOne s u) := by
  rw [matchOne_real]
  cases u with
  | none => exact hs
  | some v => exact ⟨matches_setX hs.m v, hs.w, hs.fp, hs.fn⟩

theorem unchanged_setX {s : Slot ℝ} {x : ℝ} (h : changed s (some x) = false) : s.tp.setX x = s.tp := by
  have hx : s.tp.x = x := by
    by_contra hne
    have : changed s (some x) = true := by simp [changed, hne]
    rw [h] at this; exact Bool.false_ne_true this
  rw [← hx, setX_self]

/-- the state after the matching and (when something changed) the refresh -/
noncomputable def midSlot (pi : ℝ) (ch : Bool) (s : Slot ℝ) (u : Option ℝ) : Slot ℝ :=
  let tp' := match u with | some v => s.tp.setX v | none => s.tp
  { s with tp := tp', fp := if ch then tp'.getOriginal pi else s.fp }

theorem midSlot_inv {pi tiny : ℝ} (ht : 0 < tiny) (ch : Bool) (s : Slot ℝ) (u : Option ℝ)
    (hs : SlotInv tiny s) : SlotInv tiny (midSlot pi ch s u) := by
  have h := matchOne_inv s u hs
  rw [matchOne_real] at h
  cases ch
  · exact h
  · exact ⟨h.m, h.w, matches_accepts ht h.m h.w, h.fn⟩

/-- pushing after the matching and the refresh is `setSlot` -/
theorem pushOne_midSlot (pi : ℝ) (ch : Bool) (s : Slot ℝ) (u : Option ℝ) :
    pushOne (midSlot pi ch s u) u = setSlot pi ch s u := by
  rw [pushOne_real]; cases u <;> rfl

theorem mem_zipWith {A B C : Type} {g : A → B → C} {l : List A} {m : List B} {c : C} :
    c ∈ List.zipWith g l m ↔ ∃ a b, (a, b) ∈ List.zip l m ∧ g a b = c := by
  rw [← List.map_uncurry_zip_eq_zipWith, List.mem_map, Prod.exists]; rfl

theorem forall_zipWith {A B C : Type} {g : A → B → C} {P : A → Prop} {Q : C → Prop}
    (h : ∀ a b, P a → Q (g a b)) (l : List A) (m : List B) (hl : ∀ a ∈ l, P a) :
    ∀ c ∈ List.zipWith g l m, Q c := by
  intro c hc
  obtain ⟨a, b, hab, rfl⟩ := mem_zipWith.mp hc
  exact h a b (hl a (List.of_mem_zip hab).1)

theorem zipWith_zipWith_left {A B C D : Type} (g : A → B → C) (k : C → B → D) :
    ∀ (l : List A) (m : List B),
      List.zipWith k (List.zipWith g l m) m = List.zipWith (fun a b => k (g a b) b) l m := by
  intro l
  induction l with
  | nil => intro m; simp
  | cons a l ih => intro m; cases m <;> simp [ih]

theorem changed_of_any_false (w : W ℝ) (upd : List (Option ℝ))
    (h : (List.zipWith changed w upd).any id = false) : ∀ p ∈ List.zip w upd, changed p.1 p.2 = false := by
  intro p hp
  simpa using List.any_eq_false.mp h _ (mem_zipWith.mpr ⟨p.1, p.2, hp, rfl⟩)

/-- a property of slots kept by a slot-wise step `g` that may use "if nothing changed at all, this
coordinate did not change" is kept by the step on the whole wrapper -/
theorem forall_zipWith_changed {P : Slot ℝ → Prop} {g : Slot ℝ → Option ℝ → Slot ℝ} (ch : Bool)
    (h : ∀ s u, P s → (ch = false → changed s u = false) → P (g s u)) (w : W ℝ) (upd : List (Option ℝ))
    (hw : ∀ s ∈ w, P s) (hch : ch = false → (List.zipWith changed w upd).any id = false) :
    ∀ s' ∈ List.zipWith g w upd, P s' := by
  intro s' hs'
  obtain ⟨s, u, hsu, rfl⟩ := mem_zipWith.mp hs'
  exact h s u (hw s (List.of_mem_zip hsu).1) (fun hc => changed_of_any_false w upd (hch hc) (s, u) hsu)

theorem zipWith_mid (pi : ℝ) (ch : Bool) (v : W ℝ) (upd : List (Option ℝ)) :
    (if ch then (List.zipWith matchOne v upd).map (fun s => ({ s with fp := s.tp.getOriginal pi } : Slot ℝ))
      else List.zipWith matchOne v upd) = List.zipWith (midSlot pi ch) v upd := by
  cases ch
  · simp only [Bool.false_eq_true, if_false]
    congr 1; funext s u; rw [matchOne_real]; simp [midSlot]
  · simp only [if_true]
    rw [List.map_zipWith]
    congr 1; funext s u; rw [matchOne_real]; simp [midSlot]

/-- `setParameters` over ℝ never raises on a wrapper satisfying the invariant, and its result is
`setSlot` slot by slot -/
theorem set_real {pi tiny : ℝ} (ht : 0 < tiny) (w : W ℝ) (upd : List (Option ℝ))
    (hinv : ∀ s ∈ w, SlotInv tiny s) (hlen : upd.length = w.length) :
    Reparam.set pi w upd =
      .ok (List.zipWith (setSlot pi ((List.zipWith changed w upd).any id)) w upd) := by
  unfold Reparam.set
  rw [if_neg (by simpa using hlen)]
  generalize (List.zipWith changed w upd).any id = ch
  have hmid : (if ch then fire pi (List.zipWith matchOne w upd) else .ok (List.zipWith matchOne w upd))
      = .ok (List.zipWith (midSlot pi ch) w upd) := by
    rw [← zipWith_mid, fire_real ht _ (forall_zipWith matchOne_inv w upd hinv)]
    cases ch <;> rfl
  simp only [hmid]
  -- no rejected value is pushed
  have hbad : (List.zipWith pushBad (List.zipWith (midSlot pi ch) w upd) upd).any id = false := by
    rw [zipWith_zipWith_left, List.any_eq_false]
    refine forall_zipWith (P := SlotInv tiny) (fun s u hs => ?_) w upd hinv
    cases u with
    | none => exact Bool.false_ne_true
    | some v => simpa [pushBad] using (isCorrect_iff _ _).mpr (midSlot_inv ht ch s (some v) hs).fp
  rw [if_neg (by simp [hbad])]
  congr 1
  rw [zipWith_zipWith_left]
  congr 1
  funext s u
  exact pushOne_midSlot pi ch s u

theorem setSlot_inv {pi tiny : ℝ} (ht : 0 < tiny) (ch : Bool) (s : Slot ℝ) (u : Option ℝ)
    (hs : SlotInv tiny s) : SlotInv tiny (setSlot pi ch s u) := by
  have h := midSlot_inv (pi := pi) ht ch s u hs
  cases u with
  | none => exact h
  | some v => exact ⟨h.m, h.w, h.fp, h.fp⟩

theorem sync_of_all_named (pi : ℝ) (v : W ℝ) (upd : List (Option ℝ)) (h : ∀ u ∈ upd, ∃ x, u = some x) :
    ∀ s' ∈ List.zipWith (setSlot pi true) v upd, Sync pi s' := by
  intro s' hs'
  obtain ⟨s, u, hsu, rfl⟩ := mem_zipWith.mp hs'
  obtain ⟨x, rfl⟩ := h u (List.of_mem_zip hsu).2
  simp [setSlot, Sync]

theorem forall₂_zipWith_self {A B C : Type} {g : A → B → C} {R : B → C → Prop} :
    ∀ (l : List A) (m : List B), m.length = l.length → (∀ a, ∀ b ∈ m, R b (g a b)) →
      List.Forall₂ R m (List.zipWith g l m)
  | [], [], _, _ => .nil
  | [], _ :: _, hl, _ => by simp at hl
  | _ :: _, [], hl, _ => by simp at hl
  | a :: l, b :: m, hl, h =>
    .cons (h a b List.mem_cons_self)
      (forall₂_zipWith_self l m (by simpa using hl) (fun a' b' hb' => h a' b' (List.mem_cons_of_mem _ hb')))

/-- the two coordinate systems agree on a slot up to `d`: the wrapped function's value is within
`d` of the back-transformed coordinate, and the wrapper's copy holds one of the two.  (`Near pi 0` is
`Sync`, `sync_iff_near`; after a construction that moved a value, `d = 2 tiny`.) -/
def Near (pi d : ℝ) (s : Slot ℝ) : Prop :=
  |s.fn - s.tp.getOriginal pi| ≤ d ∧ (s.fp = s.fn ∨ s.fp = s.tp.getOriginal pi)

theorem sync_iff_near {pi : ℝ} {s : Slot ℝ} : Sync pi s ↔ Near pi 0 s := by
  unfold Sync Near
  rw [abs_nonpos_iff, sub_eq_zero]
  exact ⟨fun h => ⟨h.1, Or.inl h.2⟩, fun h => ⟨h.1, h.2.elim id (·.trans h.1.symm)⟩⟩

theorem sync_near {pi d : ℝ} (hd : 0 ≤ d) {s : Slot ℝ} (h : Sync pi s) : Near pi d s :=
  ⟨(sync_iff_near.mp h).1.trans hd, Or.inl h.2⟩

theorem setSlot_near {pi d : ℝ} (hd : 0 ≤ d) (ch : Bool) (s : Slot ℝ) (u : Option ℝ)
    (hs : Near pi d s) (hch : ch = false → changed s u = false) : Near pi d (setSlot pi ch s u) := by
  obtain ⟨h1, h2⟩ := hs
  cases u with
  | none =>
    cases ch
    · exact ⟨by simpa [setSlot] using h1, by simpa [setSlot] using h2⟩
    · exact ⟨by simpa [setSlot] using h1, by simp [setSlot]⟩
  | some v =>
    cases ch
    · simp only [setSlot, Near, Bool.false_eq_true, if_false, unchanged_setX (hch rfl)]
      refine ⟨?_, Or.inl trivial⟩
      rcases h2 with e | e
      · rw [e]; exact h1
      · rw [e]; simpa using hd
    · simp only [setSlot, Near, if_true]
      exact ⟨by simpa using hd, Or.inl trivial⟩

theorem setSlot_sync {pi : ℝ} (ch : Bool) (s : Slot ℝ) (u : Option ℝ) (hs : Sync pi s)
    (hch : ch = false → changed s u = false) : Sync pi (setSlot pi ch s u) :=
  sync_iff_near.mpr (setSlot_near le_rfl ch s u (sync_iff_near.mp hs) hch)

theorem forall₂_zipWith_right {A B C : Type} {R : A → B → Prop} {g : B → C → B} {Q : B → C → Prop}
    (h : ∀ a b c, Q b c → R a b → R a (g b c)) :
    ∀ {l : List A} {m : List B}, List.Forall₂ R l m → ∀ (n : List C), n.length = m.length →
      (∀ p ∈ List.zip m n, Q p.1 p.2) → List.Forall₂ R l (List.zipWith g m n) := by
  intro l m hr
  induction hr with
  | nil => intro n _ _; simp
  | cons hab _ ih =>
    intro n hn hq
    cases n with
    | nil => simp at hn
    | cons c n =>
      simp only [List.zipWith_cons_cons]
      exact List.Forall₂.cons (h _ _ c (hq (_, c) (by simp)) hab)
        (ih n (by simpa using hn) (fun p hp => hq p (by simp [hp])))

/-- what is known of the slot of a parameter with constraint `p.1` and initial value `p.2` at any
time after the construction: the invariant, the two coordinate systems within `2 tiny` of each other,
and exactly equal when `init_` did not move the initial value -/
def Tracks (pi tiny : ℝ) (p : Shape ℝ × ℝ) (s : Slot ℝ) : Prop :=
  s.shape = p.1 ∧ SlotInv tiny s ∧ Near pi (2 * tiny) s ∧ (NotNudged tiny p.1 p.2 → Sync pi s)

theorem InitRel.tracks {pi tiny : ℝ} (ht : 0 < tiny) {p : Shape ℝ × ℝ} {s : Slot ℝ}
    (r : InitRel pi tiny p s) (ha : Admits tiny p.1 p.2) : Tracks pi tiny p s := by
  have hi := r.slotInv ht ha
  obtain ⟨r1, r2, r3, -, r5⟩ := r
  refine ⟨r1, hi, ⟨?_, Or.inl (r2.trans r3.symm)⟩, fun hn => ⟨?_, r2.trans r3.symm⟩⟩
  · rw [r3, r5, abs_sub_comm]; exact corrected_close ht ha
  · rw [r3, r5, corrected_eq_self hn]

theorem setSlot_tracks {pi tiny : ℝ} (ht : 0 < tiny) (ch : Bool) (p : Shape ℝ × ℝ) (s : Slot ℝ)
    (u : Option ℝ) (hch : ch = false → changed s u = false) (h : Tracks pi tiny p s) :
    Tracks pi tiny p (setSlot pi ch s u) := by
  obtain ⟨h1, h2, h3, h4⟩ := h
  exact ⟨by simpa [setSlot] using h1, setSlot_inv ht ch s u h2,
    setSlot_near (by linarith) ch s u h3 hch, fun hn => setSlot_sync ch s u (h4 hn) hch⟩

theorem forall₂_map_eq {A B C : Type} {R : A → B → Prop} {f : A → C} {g : B → C}
    (h : ∀ a b, R a b → f a = g b) {l : List A} {m : List B} (hr : List.Forall₂ R l m) :
    l.map f = m.map g := by
  rw [← List.forall₂_eq_eq_eq, List.forall₂_map_left_iff, List.forall₂_map_right_iff]
  exact hr.imp h

theorem forall₂_right {A B : Type} {R : A → B → Prop} {Q : B → Prop} (h : ∀ a b, R a b → Q b) :
    ∀ {l : List A} {m : List B}, List.Forall₂ R l m → ∀ b ∈ m, Q b := by
  intro l m hr
  induction hr with
  | nil => intro b hb; simp at hb
  | cons hab _ ih =>
    intro b hb
    simp only [List.mem_cons] at hb
    rcases hb with rfl | hb
    · exact h _ _ hab
    · exact ih b hb

theorem forall₂_imp_right {A B : Type} {R S : A → B → Prop} (h : ∀ a b, R a b → S a b) :
    ∀ {l : List A} {m : List B}, List.Forall₂ R l m → List.Forall₂ S l m :=
  fun hr => hr.imp h

theorem forall₂_and_left {A B : Type} {R : A → B → Prop} {P : A → Prop} :
    ∀ {l : List A} {m : List B}, List.Forall₂ R l m → (∀ a ∈ l, P a) →
      List.Forall₂ (fun a b => R a b ∧ P a) l m :=
  fun hr h => ((List.forall₂_and_left _ _).mpr ⟨h, hr⟩).imp fun _ _ r => ⟨r.2, r.1⟩

/-- `setParameters` on a wrapper whose slots track the parameters `ps`: it raises nothing and the
slots still track them -/
theorem set_tracks {pi tiny : ℝ} (ht : 0 < tiny) {ps : List (Shape ℝ × ℝ)} {w : W ℝ}
    (htr : List.Forall₂ (Tracks pi tiny) ps w) (u : List (Option ℝ)) (hlen : u.length = w.length) :
    ∃ w', Reparam.set pi w u = .ok w' ∧ List.Forall₂ (Tracks pi tiny) ps w' :=
  ⟨_, set_real ht w u (forall₂_right (fun _ _ r => r.2.1) htr) hlen,
    forall₂_zipWith_right
      (Q := fun s u' => (List.zipWith changed w u).any id = false → changed s u' = false)
      (fun p s u' hq hp => setSlot_tracks ht _ p s u' hq hp) htr u hlen
      (fun p hp hc => changed_of_any_false w u hc p hp)⟩

/-- ... hence so does any history of `setParameters` calls -/
theorem run_tracks {pi tiny : ℝ} (ht : 0 < tiny) {ps : List (Shape ℝ × ℝ)} :
    ∀ (upds : List (List (Option ℝ))) {w : W ℝ}, (∀ u ∈ upds, u.length = ps.length) →
      List.Forall₂ (Tracks pi tiny) ps w →
      ∃ w', Reparam.run pi w upds = .ok w' ∧ List.Forall₂ (Tracks pi tiny) ps w'
  | [], w, _, htr => ⟨w, rfl, htr⟩
  | u :: us, w, hl, htr => by
    obtain ⟨w1, e1, htr1⟩ := set_tracks ht htr u ((hl u (by simp)).trans htr.length_eq)
    obtain ⟨w2, e2, htr2⟩ := run_tracks ht us (fun v hv => hl v (by simp [hv])) htr1
    exact ⟨w2, by simp [Reparam.run, e1, e2], htr2⟩

/-- the back-transformed point of a wrapper -/
noncomputable def origs (pi : ℝ) (w : W ℝ) : List ℝ := w.map (fun s => s.tp.getOriginal pi)

theorem fnVals_eq_origs {pi : ℝ} {w : W ℝ} (h : ∀ s ∈ w, Sync pi s) : fnVals w = origs pi w := by
  unfold fnVals origs
  apply List.map_congr_left
  intro s hs; exact (h s hs).1

/-- slot `s` with its transformed coordinate moved to `x` -/
noncomputable def Slot.atX (s : Slot ℝ) (x : ℝ) : Slot ℝ := { s with tp := s.tp.setX x }

theorem origs_set (pi : ℝ) (w : W ℝ) (i : Nat) (s : Slot ℝ) (x : ℝ) :
    origs pi (w.set i (s.atX x)) = (origs pi w).set i ((s.tp.setX x).getOriginal pi) := by
  unfold origs; rw [List.map_set]; rfl

theorem set_self_of_getElem? {A : Type} {l : List A} {i : Nat} {a : A} (h : l[i]? = some a) :
    l.set i a = l := by
  obtain ⟨hi, rfl⟩ := List.getElem?_eq_some_iff.mp h
  exact List.set_getElem_self hi

theorem origs_set_self {pi : ℝ} {w : W ℝ} {i : Nat} {s : Slot ℝ} (hi : w[i]? = some s) :
    (origs pi w).set i (s.tp.getOriginal pi) = origs pi w :=
  set_self_of_getElem? (by rw [origs, List.getElem?_map, hi]; rfl)

/-! ### derivatives with respect to one transformed coordinate, and the chain rule through it -/

/-- hypotheses under which the derivative theorems of a transformed parameter apply; they hold for
everything `init_` builds (`matches_tpwf`) -/
def TPWF : TP ℝ → Prop
  | .r t => t.scale = 1
  | .i t => t.hyper = true ∧ 0 < t.scale ∧ t.lo < t.hi
  | .p _ => True

theorem matches_tpwf {tiny : ℝ} {sh : Shape ℝ} {tp : TP ℝ} (h : Matches tiny sh tp) (hw : sh.Wide tiny) :
    TPWF tp := by
  cases tp with
  | p => trivial
  | r t => cases sh <;> first | exact h.elim | exact h.2.2
  | i t =>
    cases sh with
    | cc a b | oo a b | co a b | oc a b =>
      obtain ⟨h1, h2, h3, h4⟩ := h
      exact ⟨h4, h3 ▸ one_pos, by simp only [Shape.Wide] at hw; rwa [h1, h2]⟩
    | _ => exact h.elim

theorem tp_hasDerivAt (pi : ℝ) (tp : TP ℝ) (h : TPWF tp) :
    HasDerivAt (fun x => (tp.setX x).getOriginal pi) (tp.d1 pi) tp.x := by
  cases tp with
  | r t => simp only [setX_r]; exact RT.hasDerivAt_at t h
  | i t => simp only [setX_i]; exact IT.hasDerivAt_at_hyper pi t h.1 h.2.2
  | p x0 => simpa [TP.getOriginal, TP.d1, TP.x] using hasDerivAt_id' x0

variable {pi : ℝ} {tp : TP ℝ} {G : ℝ → ℝ} {g' : ℝ}

theorem chain_d1 (hwf : TPWF tp) (hG : HasDerivAt G g' (tp.getOriginal pi)) :
    HasDerivAt (fun x => G ((tp.setX x).getOriginal pi)) (g' * tp.d1 pi) tp.x :=
  HasDerivAt.comp tp.x (by simpa using hG) (tp_hasDerivAt pi tp hwf)

/-- second order, same coordinate: `G' T'² + G T''`, given that `T''` is the derivative of `T'` -/
theorem chain_d2 (hwf : TPWF tp) (hG : HasDerivAt G g' (tp.getOriginal pi))
    (hT2 : HasDerivAt (fun x => (tp.setX x).d1 pi) (tp.d2 pi) tp.x) :
    HasDerivAt (fun x => G ((tp.setX x).getOriginal pi) * (tp.setX x).d1 pi)
      (g' * tp.d1 pi ^ 2 + G (tp.getOriginal pi) * tp.d2 pi) tp.x := by
  refine ((chain_d1 hwf hG).mul hT2).congr_deriv ?_
  simp only [setX_self]; ring

theorem chain_d2_right (hwf : TPWF tp) (hG : HasDerivAt G g' (tp.getOriginal pi))
    (hT2 : HasDerivWithinAt (fun x => (tp.setX x).d1 pi) (tp.d2 pi) (Set.Ici tp.x) tp.x) :
    HasDerivWithinAt (fun x => G ((tp.setX x).getOriginal pi) * (tp.setX x).d1 pi)
      (g' * tp.d1 pi ^ 2 + G (tp.getOriginal pi) * tp.d2 pi) (Set.Ici tp.x) tp.x := by
  refine ((chain_d1 hwf hG).hasDerivWithinAt.mul hT2).congr_deriv ?_
  simp only [setX_self]; ring

theorem chain_cross (hwf : TPWF tp) (hG : HasDerivAt G g' (tp.getOriginal pi)) (c : ℝ) :
    HasDerivAt (fun x => G ((tp.setX x).getOriginal pi) * c) (g' * c * tp.d1 pi) tp.x :=
  ((chain_d1 hwf hG).mul_const c).congr_deriv (by ring)

end Bpp.Reparam
