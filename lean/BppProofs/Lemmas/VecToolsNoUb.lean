import BppProofs.Lemmas.VecToolsOrder
/-!
Helper lemmas for C07: `NoUb r`, "the outcome is not an out-of-range read", for the repaired routines of
`BppModel/VecTools.lean` that return an outcome (`seq` for a positive step; `whichAll` and `miDiscrete` have no lemma here).
-/
namespace Bpp.VecTools
open Bpp Bpp.ScalarReal

/-- "does not read out of range" -/
def NoUb {β : Type} (r : Res β) : Prop := r ≠ .error .ub

theorem noUb_ok {β : Type} (x : β) : NoUb (.ok x : Res β) := by simp [NoUb]
theorem noUb_err {β : Type} (e : Err) (h : e ≠ .ub) : NoUb (.error e : Res β) := by
  simp only [NoUb, ne_eq, Except.error.injEq]; exact h
theorem noUb_bind {β γ : Type} (r : Res β) (f : β → Res γ) (hr : NoUb r) (hf : ∀ x, NoUb (f x)) : NoUb (r >>= f) := by
  cases r with
  | ok x => exact hf x
  | error e =>
    intro h
    simp only [bind, Except.bind, Except.error.injEq] at h
    exact hr (by rw [h])
theorem noUb_map {β γ : Type} (r : Res β) (f : β → γ) (hr : NoUb r) : NoUb (r >>= fun x => pure (f x)) :=
  noUb_bind r _ hr (fun _ => noUb_ok _)

theorem noUb_guard {β : Type} {c : Prop} [Decidable c] {e : Err} (he : e ≠ .ub) {r : Res β} (hr : NoUb r) :
    NoUb (if c then .error e else r) := by
  split
  · exact noUb_err e he
  · exact hr

/-! the routines below never read out of range in any reading of the scalars (`Float` included): nothing in these
proofs looks at a value -/
section
variable {α : Type} [Scalar α]

omit [Scalar α] in
theorem zipOp_noUb (f : α → α → α) (a b : List α) : NoUb (zipOp f a b) := noUb_guard (by decide) (noUb_ok _)

theorem scalar_noUb (a b : List α) : NoUb (scalar a b) := noUb_guard (by decide) (noUb_ok _)

theorem sumProd_noUb (a b : List α) : NoUb (sumProd a b) := noUb_guard (by decide) (noUb_ok _)

theorem scalarW_noUb (a b w : List α) : NoUb (scalarW a b w) :=
  noUb_guard (by decide) (noUb_guard (by decide) (noUb_ok _))

theorem normW_noUb (a w : List α) : NoUb (normW a w) := noUb_guard (by decide) (noUb_ok _)

theorem cos_noUb (a b : List α) : NoUb (VecTools.cos a b) := noUb_map _ _ (scalar_noUb a b)

theorem extremum_noUb {β : Type} (better : β → β → Bool) (v : List β) : NoUb (extremum better v) := by
  cases v with
  | nil => exact noUb_err _ (by decide)
  | cons x xs => exact noUb_ok _

theorem whichExtremum_noUb {β : Type} (better : β → β → Bool) (v : List β) : NoUb (whichExtremum better v) := by
  cases v with
  | nil => exact noUb_err _ (by decide)
  | cons x xs => exact noUb_ok _

theorem whichMaxAll_noUb (v : List α) : NoUb (whichMaxAll v) :=
  noUb_guard (by decide) (noUb_map _ _ (extremum_noUb _ v))

theorem whichMinAll_noUb (v : List α) : NoUb (whichMinAll v) :=
  noUb_guard (by decide) (noUb_map _ _ (extremum_noUb _ v))

theorem range_noUb (v : List α) : NoUb (VecTools.range v) := by
  cases v with
  | nil => exact noUb_err _ (by decide)
  | cons x xs => exact noUb_ok _

theorem order_noUb (v : List α) : NoUb (order v) := noUb_guard (by decide) (noUb_ok _)

theorem meanW_noUb (v w : List α) (nw : Bool) : NoUb (meanW v w nw) := by
  unfold meanW; split <;> exact scalar_noUb _ _

theorem centerW_noUb (v w : List α) (nw : Bool) : NoUb (centerW v w nw) := noUb_map _ _ (meanW_noUb v w nw)

theorem cov_noUb (a b : List α) (u : Bool) : NoUb (cov a b u) := noUb_map _ _ (scalar_noUb _ _)

theorem covW_noUb (a b w : List α) (u nw : Bool) : NoUb (covW a b w u nw) := by
  unfold covW
  exact noUb_bind _ _ (centerW_noUb _ _ _) (fun c1 => noUb_bind _ _ (centerW_noUb _ _ _)
    (fun c2 => noUb_map _ _ (scalarW_noUb _ _ _)))

theorem sd_noUb (a : List α) (u : Bool) : NoUb (sd a u) := noUb_map _ _ (cov_noUb a a u)
theorem sdW_noUb (a w : List α) (u nw : Bool) : NoUb (sdW a w u nw) := noUb_map _ _ (covW_noUb a a w u nw)

theorem cor_noUb (a b : List α) : NoUb (cor a b) := by
  unfold cor
  exact noUb_bind _ _ (cov_noUb _ _ _) (fun c => noUb_bind _ _ (sd_noUb _ _) (fun s1 => noUb_map _ _ (sd_noUb _ _)))

theorem corW_noUb (a b w : List α) (nw : Bool) : NoUb (corW a b w nw) := by
  unfold corW
  exact noUb_bind _ _ (covW_noUb _ _ _ _ _) (fun c => noUb_bind _ _ (sdW_noUb _ _ _ _) (fun s1 => noUb_map _ _ (sdW_noUb _ _ _ _)))

end

theorem median_noUb (v : List ℝ) : NoUb (median v) := by
  cases v with
  | nil => exact noUb_ok _
  | cons x xs =>
    obtain ⟨m, s, h, -⟩ := median_spec' (x :: xs) (by simp)
    rw [h]; exact noUb_ok _

theorem which_noUb {β : Type} (eq : β → β → Bool) (v : List β) (x : β) : NoUb (which eq v x) := by
  rw [which, whichFrom_eq]
  cases v.findIdx? (eq · x)
  · exact noUb_err _ (by decide)
  · exact noUb_ok _

theorem seq_noUb (frm tt by_ : ℝ) (h : 0 < by_) : NoUb (seq truncR frm tt by_) := by
  obtain ⟨l, hl, -⟩ := seq_spec' frm tt by_ h
  rw [hl]; exact noUb_ok _

theorem computeFdr_noUb (p : List ℝ) : NoUb (computeFdr p) := by
  obtain ⟨out, h, -⟩ := computeFdr_spec p
  rw [h]; exact noUb_ok _
end Bpp.VecTools
