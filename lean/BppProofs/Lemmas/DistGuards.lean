import BppModel.PNorm
import BppModel.DistGuards
import BppProofs.Lemmas.ScalarReal
/-!
`pNorm`, `qNorm` and the guard / wrapper layer (`BppModel/PNorm.lean`, `BppModel/DistGuards.lean`) read at `ℝ`: every
routine as an `if` over propositions (`*_real`) with one lemma per branch, every decision table as an `iff`, and the
bounds behind `pnorm_range` and `qnorm_bounded`: each rational function of Cody's and of Odeh–Evans' approximation is
bounded coefficient by coefficient along its Horner form (`horner_bd`, `horner_ratio`).  `ite_ne` and
`ite_ite_eq_iff` decide "the outcome is the error outcome iff a guard fired" by a walk along the `if`s of a routine.
-/
namespace Bpp

theorem ite_ne {α : Type} {c : Prop} [Decidable c] {a b z : α} (ha : a ≠ z) (hb : b ≠ z) :
    (if c then a else b) ≠ z := by
  split <;> assumption

theorem ite_ite_eq_iff {α : Type} {A B : Prop} [Decidable A] [Decidable B] {e r : α} (hr : r ≠ e) :
    (if A then e else if B then e else r) = e ↔ A ∨ B := by
  by_cases hA : A
  · rw [if_pos hA]
    exact iff_of_true rfl (Or.inl hA)
  by_cases hB : B
  · rw [if_neg hA, if_pos hB]
    exact iff_of_true rfl (Or.inr hB)
  rw [if_neg hA, if_neg hB]
  exact iff_of_false hr (not_or.mpr ⟨hA, hB⟩)

end Bpp

namespace Bpp.PNorm
open Bpp Bpp.Scalar

@[simp] theorem dy_real (n : Int) (k : Nat) : (dy n k : ℝ) = (n : ℝ) / 2 ^ k := by
  simp [dy]
theorem dy_pos {n : Int} (hn : 0 < n) (k : Nat) : (0 : ℝ) < dy n k := by
  rw [dy_real]; exact div_pos (Int.cast_pos.mpr hn) (by positivity)
theorem dy_nonneg {n : Int} (hn : 0 ≤ n) (k : Nat) : (0 : ℝ) ≤ dy n k := by
  rw [dy_real]; exact div_nonneg (Int.cast_nonneg hn) (by positivity)

@[simp] theorem half_real : (half : ℝ) = 1 / 2 := by simp [half]
@[simp] theorem two_real : (two : ℝ) = 2 := by simp [two]
@[simp] theorem sixteen_real : (sixteen : ℝ) = 16 := by simp [sixteen]
@[simp] theorem thirtyTwo_real : (thirtyTwo : ℝ) = 32 := by simp [thirtyTwo]

theorem cut2_real : (cut2 : ℝ) = Real.sqrt 32 := by simp [cut2]

theorem upCut_real : (upCut : ℝ) = 583525774218861 / 2 ^ 46 := by simp [upCut]
theorem lowCut_real : (lowCut : ℝ) = 2640186023425029 / 2 ^ 46 := by simp [lowCut]
theorem cut1_real : (cut1 : ℝ) = 3037631786765219 / 2 ^ 52 := by simp [cut1]
theorem eps_real : (eps : ℝ) = 6646139978924579 / 2 ^ 119 := by simp [eps]

theorem cut1_pos : (0 : ℝ) < cut1 := dy_pos (by decide) _
theorem upCut_pos : (0 : ℝ) < upCut := dy_pos (by decide) _
theorem lowCut_pos : (0 : ℝ) < lowCut := dy_pos (by decide) _

theorem cut2_lt_upCut : (cut2 : ℝ) < upCut := by
  rw [cut2_real, upCut_real, Real.sqrt_lt' (by norm_num)]
  norm_num

theorem upCut_lt_lowCut : (upCut : ℝ) < lowCut := by
  rw [upCut_real, lowCut_real]; norm_num

theorem five_le_cut2 : (5 : ℝ) ≤ cut2 := by
  rw [cut2_real, Real.le_sqrt' (by norm_num)]; norm_num

theorem cut1_lt_cut2 : (cut1 : ℝ) < cut2 :=
  lt_of_lt_of_le (by rw [cut1_real]; norm_num) five_le_cut2

/-- `temp` of the first range -/
noncomputable def centralTemp (x : ℝ) : ℝ :=
  x * ((if eps < |x| then cNum (x * x) else 0) + a3) / ((if eps < |x| then cDen (x * x) else 0) + b3)

theorem central_real (x : ℝ) : central x = 1 / 2 + centralTemp x := by
  simp [central, centralTemp]

theorem middle_real (ex tr : ℝ → ℝ) (x : ℝ) :
    middle ex tr x = if 0 < x then 1 - middleTail ex tr |x| else middleTail ex tr |x| := by
  simp [middle]

theorem far_real (ex tr : ℝ → ℝ) (x : ℝ) :
    far ex tr x = if 0 < x then 1 - farTail ex tr x else farTail ex tr x := by
  simp [far]

theorem pNorm_real (ex tr : ℝ → ℝ) (x : ℝ) :
    pNorm ex tr x =
      if |x| ≤ cut1 then central x
      else if |x| ≤ cut2 then middle ex tr x
      else if -lowCut < x ∧ x < upCut then far ex tr x
      else if 0 < x then 1 else 0 := by
  simp [pNorm]

theorem centralTemp_neg (x : ℝ) : centralTemp (-x) = -centralTemp x := by
  simp only [centralTemp, abs_neg, neg_mul_neg]
  ring

theorem tailTemp_neg (x : ℝ) : tailTemp (-x) = tailTemp x := by
  simp [tailTemp]

/-- with an odd `trunc` the far-tail formula is even in `x` -/
theorem farTail_neg (ex tr : ℝ → ℝ) (htr : ∀ z, tr (-z) = -tr z) (x : ℝ) :
    farTail ex tr (-x) = farTail ex tr x := by
  simp only [farTail, tailTemp_neg, neg_mul, htr]
  congr 3 <;> ring

theorem pNorm_central (ex tr : ℝ → ℝ) {x : ℝ} (h : |x| ≤ cut1) : pNorm ex tr x = 1 / 2 + centralTemp x := by
  rw [pNorm_real, if_pos h, central_real]

theorem pNorm_middle (ex tr : ℝ → ℝ) {x : ℝ} (h1 : cut1 < |x|) (h2 : |x| ≤ cut2) :
    pNorm ex tr x = if 0 < x then 1 - middleTail ex tr |x| else middleTail ex tr |x| := by
  rw [pNorm_real, if_neg (not_le.mpr h1), if_pos h2, middle_real]

theorem pNorm_far (ex tr : ℝ → ℝ) {x : ℝ} (h2 : cut2 < |x|) (h3 : -lowCut < x) (h4 : x < upCut) :
    pNorm ex tr x = if 0 < x then 1 - farTail ex tr x else farTail ex tr x := by
  rw [pNorm_real, if_neg (not_le.mpr (cut1_lt_cut2.trans h2)), if_neg (not_le.mpr h2), if_pos ⟨h3, h4⟩, far_real]

/-- beyond the cut-offs no formula is evaluated -/
theorem pNorm_outside (ex tr : ℝ → ℝ) {x : ℝ} (h : x ≤ -lowCut ∨ upCut ≤ x) :
    pNorm ex tr x = if 0 < x then 1 else 0 := by
  have hu : (cut2 : ℝ) < upCut := cut2_lt_upCut
  have hl : (upCut : ℝ) < lowCut := upCut_lt_lowCut
  have h2 : cut2 < |x| := by
    rcases h with h | h
    · exact lt_of_lt_of_le (by linarith) (neg_le_abs x)
    · exact lt_of_lt_of_le (by linarith) (le_abs_self x)
  rw [pNorm_real, if_neg (not_le.mpr (cut1_lt_cut2.trans h2)), if_neg (not_le.mpr h2), if_neg]
  rintro ⟨h3, h4⟩
  rcases h with h | h <;> linarith

/-- a lower-tail value `T` that is even in `x`, complemented on the positive side, reflects exactly -/
theorem tail_reflect {T : ℝ → ℝ} {x : ℝ} (hT : T (-x) = T x) (hx : x ≠ 0) :
    (if 0 < -x then 1 - T (-x) else T (-x)) = 1 - (if 0 < x then 1 - T x else T x) := by
  rcases lt_or_gt_of_ne hx with hn | hp
  · rw [if_pos (neg_pos.mpr hn), if_neg (not_lt.mpr hn.le), hT]
  · rw [if_neg (not_lt.mpr (neg_nonpos.mpr hp.le)), if_pos hp, hT, sub_sub_cancel]

theorem tail_range {t : ℝ} (x : ℝ) (h : 0 ≤ t ∧ t ≤ 1) :
    0 ≤ (if 0 < x then 1 - t else t) ∧ (if 0 < x then 1 - t else t) ≤ 1 := by
  split
  · exact ⟨sub_nonneg.mpr h.2, sub_le_self 1 h.1⟩
  · exact h

/-- Horner evaluation with non-negative coefficients and argument is monotone in the coefficients, the start
value and the argument -/
theorem horner_bd {s m : ℝ} (hs0 : 0 ≤ s) (hs : s ≤ m) {cs Cs : List ℝ}
    (h : List.Forall₂ (fun c C => 0 ≤ c ∧ c ≤ C) cs Cs) :
    ∀ {u U : ℝ}, 0 ≤ u → u ≤ U →
      0 ≤ cs.foldl (fun a c => a * s + c) u ∧
        cs.foldl (fun a c => a * s + c) u ≤ Cs.foldl (fun a c => a * m + c) U := by
  induction h with
  | nil => exact fun h0 h1 => ⟨h0, h1⟩
  | cons hc _ ih =>
    exact fun h0 h1 => ih (add_nonneg (mul_nonneg h0 hs0) hc.1)
      (add_le_add (mul_le_mul h1 hs hs0 (h0.trans h1)) hc.2)

theorem a3_bd : (0 : ℝ) ≤ a3 ∧ (a3 : ℝ) ≤ 18155 := by simp only [a3, dy_real]; norm_num
theorem b0_bd : (0 : ℝ) ≤ b0 := dy_nonneg (by decide) _
theorem b1_bd : (0 : ℝ) ≤ b1 := dy_nonneg (by decide) _
theorem b2_bd : (0 : ℝ) ≤ b2 := dy_nonneg (by decide) _
theorem b3_bd : (45507 : ℝ) ≤ b3 := by simp only [b3, dy_real]; norm_num

theorem cNum_bd {s : ℝ} (hs0 : 0 ≤ s) (hs : s ≤ 1 / 2) : 0 ≤ cNum s ∧ cNum s ≤ 575 := by
  have hc : List.Forall₂ (fun c C : ℝ => 0 ≤ c ∧ c ≤ C) [a4, a0, a1, a2] [1, 3, 162, 1068] := by
    simp only [List.forall₂_cons, List.Forall₂.nil, a0, a1, a2, a4, dy_real]
    norm_num
  have h := horner_bd hs0 hs hc le_rfl le_rfl
  simp only [List.foldl, zero_mul, zero_add] at h
  exact ⟨mul_nonneg h.1 hs0, (mul_le_mul h.2 hs hs0 (h.1.trans h.2)).trans (by norm_num)⟩

theorem cDen_nonneg {s : ℝ} (hs0 : 0 ≤ s) : 0 ≤ cDen s := by
  have := b0_bd; have := b1_bd; have := b2_bd
  unfold cDen; positivity

theorem centralTemp_bd {x : ℝ} (hx : |x| ≤ cut1) : |centralTemp x| ≤ 1 / 2 := by
  have hax : |x| ≤ 17 / 25 := hx.trans (by rw [cut1_real]; norm_num)
  have hs0 : 0 ≤ x * x := mul_self_nonneg x
  have hs : x * x ≤ 1 / 2 := by
    rw [← abs_mul_abs_self x]
    exact (mul_le_mul hax hax (abs_nonneg x) (by norm_num)).trans (by norm_num)
  -- with or without the polynomial parts: numerator at most `575 + a3`, denominator at least `b3`
  have key : ∀ N D : ℝ, 0 ≤ N → N ≤ 575 → 0 ≤ D → |x * (N + a3) / (D + b3)| ≤ 1 / 2 := by
    intro N D hN0 hN hD0
    have hden : 0 < D + b3 := add_pos_of_nonneg_of_pos hD0 (lt_of_lt_of_le (by norm_num) b3_bd)
    have hnum : 0 ≤ N + a3 := add_nonneg hN0 a3_bd.1
    rw [abs_div, abs_mul, abs_of_pos hden, abs_of_nonneg hnum, div_le_iff₀ hden]
    calc |x| * (N + a3) ≤ 17 / 25 * (575 + 18155) := mul_le_mul hax (add_le_add hN a3_bd.2) hnum (by norm_num)
      _ ≤ 1 / 2 * (0 + 45507) := by norm_num
      _ ≤ 1 / 2 * (D + b3) := mul_le_mul_of_nonneg_left (add_le_add hD0 b3_bd) (by norm_num)
  unfold centralTemp
  by_cases he : eps < |x|
  · rw [if_pos he, if_pos he]
    exact key _ _ (cNum_bd hs0 hs).1 (cNum_bd hs0 hs).2 (cDen_nonneg hs0)
  · rw [if_neg he, if_neg he]
    exact key 0 0 le_rfl (by norm_num) le_rfl

/-- `temp` of the second range lies in `[0,1]`: numerator ≤ denominator coefficient by coefficient -/
theorem middleRatio_bd {y : ℝ} (hy : 0 ≤ y) :
    0 ≤ (mNum y + c7) / (mDen y + d7) ∧ (mNum y + c7) / (mDen y + d7) ≤ 1 := by
  have hc : List.Forall₂ (fun c C : ℝ => 0 ≤ c ∧ c ≤ C) [c8, c0, c1, c2, c3, c4, c5, c6, c7]
      [1, d0, d1, d2, d3, d4, d5, d6, d7] := by
    simp only [List.forall₂_cons, List.Forall₂.nil, c0, c1, c2, c3, c4, c5, c6, c7, c8, d0, d1, d2, d3, d4, d5, d6,
      d7, dy_real]
    norm_num
  have h := horner_bd hy le_rfl hc le_rfl le_rfl
  simp only [List.foldl, zero_mul, zero_add, one_mul] at h
  exact ⟨div_nonneg h.1 (h.1.trans h.2), div_le_one_of_le₀ h.2 (h.1.trans h.2)⟩

/-- hypotheses on the abstract `exp` and `trunc` under which the range theorem holds -/
structure ExpTrunc (ex tr : ℝ → ℝ) : Prop where
  ex_range : ∀ t, t ≤ 0 → 0 ≤ ex t ∧ ex t ≤ 1
  tr_range : ∀ z, 0 ≤ z → 0 ≤ tr z ∧ tr z ≤ z
  tr_odd : ∀ z, tr (-z) = -tr z

theorem prod3_bd {a b c : ℝ} (ha : 0 ≤ a ∧ a ≤ 1) (hb : 0 ≤ b ∧ b ≤ 1) (hc : 0 ≤ c ∧ c ≤ 1) :
    0 ≤ a * b * c ∧ a * b * c ≤ 1 := by
  have hab : 0 ≤ a * b ∧ a * b ≤ 1 := ⟨mul_nonneg ha.1 hb.1, mul_le_one₀ ha.2 hb.1 hb.2⟩
  exact ⟨mul_nonneg hab.1 hc.1, mul_le_one₀ hab.2 hc.1 hc.2⟩

/-- the two exponential factors of the tail formulas lie in `[0,1]`: for `xsq = t ∈ [0, y]` both exponents
`-xsq²/2` and `-(y - xsq)(y + xsq)/2` are non-positive -/
theorem expFactors_bd {ex tr : ℝ → ℝ} (H : ExpTrunc ex tr) {y t : ℝ} (ht0 : 0 ≤ t) (ht : t ≤ y) :
    (0 ≤ ex (-t * t * (1 / 2)) ∧ ex (-t * t * (1 / 2)) ≤ 1) ∧
    (0 ≤ ex (-((y - t) * (y + t)) * (1 / 2)) ∧ ex (-((y - t) * (y + t)) * (1 / 2)) ≤ 1) := by
  have hdel : 0 ≤ (y - t) * (y + t) := mul_nonneg (sub_nonneg.mpr ht) (add_nonneg (ht0.trans ht) ht0)
  refine ⟨H.ex_range _ (mul_nonpos_of_nonpos_of_nonneg ?_ (by norm_num)),
    H.ex_range _ (mul_nonpos_of_nonpos_of_nonneg (neg_nonpos.mpr hdel) (by norm_num))⟩
  rw [neg_mul]
  exact neg_nonpos.mpr (mul_nonneg ht0 ht0)

/-- `xsq = trunc(16 y)/16` lies between 0 and `y` -/
theorem truncSixteenth_bd {ex tr : ℝ → ℝ} (H : ExpTrunc ex tr) {y : ℝ} (hy : 0 ≤ y) :
    0 ≤ tr (y * 16) / 16 ∧ tr (y * 16) / 16 ≤ y := by
  have h := H.tr_range (y * 16) (mul_nonneg hy (by norm_num))
  exact ⟨div_nonneg h.1 (by norm_num), (div_le_iff₀ (by norm_num)).mpr h.2⟩

theorem middleTail_bd {ex tr : ℝ → ℝ} (H : ExpTrunc ex tr) {y : ℝ} (hy : 0 ≤ y) :
    0 ≤ middleTail ex tr y ∧ middleTail ex tr y ≤ 1 := by
  have ht := truncSixteenth_bd H hy
  simp only [middleTail, sixteen_real, half_real]
  exact prod3_bd (expFactors_bd H ht.1 ht.2).1 (expFactors_bd H ht.1 ht.2).2 (middleRatio_bd hy)

theorem p4_bd : (0 : ℝ) ≤ p4 ∧ (p4 : ℝ) ≤ 3 / 100000 := by simp only [p4, dy_real]; norm_num
theorem q0_bd : (0 : ℝ) ≤ q0 := dy_nonneg (by decide) _
theorem q1_bd : (0 : ℝ) ≤ q1 := dy_nonneg (by decide) _
theorem q2_bd : (0 : ℝ) ≤ q2 := dy_nonneg (by decide) _
theorem q3_bd : (0 : ℝ) ≤ q3 := dy_nonneg (by decide) _
theorem q4_bd : (7 / 100000 : ℝ) ≤ q4 := by simp only [q4, dy_real]; norm_num

theorem tNum_bd {s : ℝ} (hs0 : 0 ≤ s) (hs : s ≤ 1 / 25) : 0 ≤ tNum s ∧ tNum s ≤ 2 / 10000 := by
  have hc : List.Forall₂ (fun c C : ℝ => 0 ≤ c ∧ c ≤ C) [p5, p0, p1, p2, p3]
      [3 / 125, 27 / 125, 16 / 125, 3 / 125, 2 / 1000] := by
    simp only [List.forall₂_cons, List.Forall₂.nil, p0, p1, p2, p3, p5, dy_real]
    norm_num
  have h := horner_bd hs0 hs hc le_rfl le_rfl
  simp only [List.foldl, zero_mul, zero_add] at h
  exact ⟨mul_nonneg h.1 hs0, (mul_le_mul h.2 hs hs0 (h.1.trans h.2)).trans (by norm_num)⟩

theorem tDen_nonneg {s : ℝ} (hs0 : 0 ≤ s) : 0 ≤ tDen s := by
  have := q0_bd; have := q1_bd; have := q2_bd; have := q3_bd
  unfold tDen; positivity

theorem tailRatio_bd {s : ℝ} (hs0 : 0 ≤ s) (hs : s ≤ 1 / 25) :
    0 ≤ s * (tNum s + p4) / (tDen s + q4) ∧ s * (tNum s + p4) / (tDen s + q4) ≤ 1 / 4 := by
  have hN := tNum_bd hs0 hs
  have hden : 0 < tDen s + q4 := add_pos_of_nonneg_of_pos (tDen_nonneg hs0) (lt_of_lt_of_le (by norm_num) q4_bd)
  have hnum : 0 ≤ tNum s + p4 := add_nonneg hN.1 p4_bd.1
  refine ⟨div_nonneg (mul_nonneg hs0 hnum) hden.le, ?_⟩
  rw [div_le_iff₀ hden]
  calc s * (tNum s + p4) ≤ 1 / 25 * (2 / 10000 + 3 / 100000) :=
        mul_le_mul hs (add_le_add hN.2 p4_bd.2) hnum (by norm_num)
    _ ≤ 1 / 4 * (0 + 7 / 100000) := by norm_num
    _ ≤ 1 / 4 * (tDen s + q4) := mul_le_mul_of_nonneg_left (add_le_add (tDen_nonneg hs0) q4_bd) (by norm_num)

theorem invSqrt2Pi_bd : (1 / 3 : ℝ) ≤ invSqrt2Pi ∧ (invSqrt2Pi : ℝ) ≤ 1 := by
  have hm : (two * mPi : ℝ) = 2 * (884279719003555 / 2 ^ 48) := by simp [mPi]
  have h1 : (1 : ℝ) ≤ Real.sqrt (two * mPi) := by
    rw [Real.le_sqrt' (by norm_num), hm]; norm_num
  have h3 : Real.sqrt (two * mPi) ≤ 3 := by
    rw [Real.sqrt_le_left (by norm_num), hm]; norm_num
  have hpos : (0 : ℝ) < Real.sqrt (two * mPi) := lt_of_lt_of_le one_pos h1
  simp only [invSqrt2Pi, ScalarReal.one_eq, ScalarReal.sqrt_eq]
  exact ⟨one_div_le_one_div_of_le hpos h3, (div_le_one hpos).mpr h1⟩

/-- `temp` of the third range lies in `[0,1]` once `|x| ≥ 5` -/
theorem tailTemp_bd {x : ℝ} (hx : 5 ≤ |x|) : 0 < tailTemp x ∧ tailTemp x ≤ 1 := by
  have hax : 0 < |x| := lt_of_lt_of_le (by norm_num) hx
  have hxx : 25 ≤ x * x := by
    rw [← abs_mul_abs_self x]
    exact le_trans (by norm_num) (mul_le_mul hx hx (by norm_num) hax.le)
  have hT := tailRatio_bd (one_div_nonneg.mpr (mul_self_nonneg x)) (one_div_le_one_div_of_le (by norm_num) hxx)
  have hI := invSqrt2Pi_bd
  simp only [tailTemp, ScalarReal.one_eq, ScalarReal.abs_eq]
  -- `1/3 ≤ invSqrt2Pi ≤ 1`, the correction lies in `[0, 1/4]`, and `|x| ≥ 5`
  exact ⟨div_pos (sub_pos.mpr (lt_of_le_of_lt hT.2 (lt_of_lt_of_le (by norm_num) hI.1))) hax,
    (div_le_one hax).mpr ((sub_le_self _ hT.1).trans (hI.2.trans (le_trans (by norm_num) hx)))⟩

theorem farTail_bd {ex tr : ℝ → ℝ} (H : ExpTrunc ex tr) {x : ℝ} (hx : 5 ≤ |x|) :
    0 ≤ farTail ex tr x ∧ farTail ex tr x ≤ 1 := by
  -- reduce to x ≥ 0 by evenness
  wlog hpos : 0 ≤ x generalizing x
  · have := this (x := -x) (by rwa [abs_neg]) (by linarith)
    rwa [farTail_neg ex tr H.tr_odd] at this
  have ht := truncSixteenth_bd H hpos
  simp only [farTail, sixteen_real, half_real]
  exact prod3_bd (expFactors_bd H ht.1 ht.2).1 (expFactors_bd H ht.1 ht.2).2
    ⟨(tailTemp_bd hx).1.le, (tailTemp_bd hx).2⟩

/-- the mathematical `trunc` (round towards zero) -/
noncomputable def truncR (z : ℝ) : ℝ := if z < 0 then -(⌊-z⌋ : ℝ) else (⌊z⌋ : ℝ)

theorem truncR_odd (z : ℝ) : truncR (-z) = -truncR z := by
  unfold truncR
  rcases lt_trichotomy z 0 with h | h | h
  · rw [if_neg (not_lt.mpr (neg_nonneg.mpr h.le)), if_pos h, neg_neg]
  · subst h; simp
  · rw [if_pos (neg_neg_of_pos h), if_neg (not_lt.mpr h.le), neg_neg]

theorem expTrunc_real : ExpTrunc Real.exp truncR where
  ex_range t ht := ⟨le_of_lt (Real.exp_pos t), Real.exp_le_one_iff.mpr ht⟩
  tr_range z hz := by
    rw [truncR, if_neg (not_lt.mpr hz)]
    exact ⟨by exact_mod_cast Int.floor_nonneg.mpr hz, Int.floor_le z⟩
  tr_odd := truncR_odd

theorem qEps_real : (qEps : ℝ) = 6646139978924579 / 2 ^ 119 := by simp [qEps]
theorem qEps_pos : (0 : ℝ) < qEps := dy_pos (by decide) _
theorem qEps_lt_half : (qEps : ℝ) < 1 / 2 := by rw [qEps_real]; norm_num
theorem qEps_ge : (1 / 2 ^ 67 : ℝ) ≤ qEps := by rw [qEps_real]; norm_num
@[simp] theorem qSentinel_real : (qSentinel : ℝ) = -9999 := by simp [qSentinel]

theorem qP1_real (p : ℝ) : qP1 p = if p < 1 / 2 then p else 1 - p := by simp [qP1]

theorem qNormSentinel_iff (p : ℝ) : qNormSentinel p = true ↔ p < qEps ∨ 1 - qEps < p := by
  have h := qEps_lt_half
  rw [qNormSentinel, ScalarReal.ltb_iff, qP1_real]
  split
  · exact ⟨Or.inl, fun h' => h'.elim id fun h1 => by linarith⟩
  · exact ⟨fun h1 => Or.inr (by linarith), fun h' => h'.elim (fun h1 => by linarith) fun h1 => by linarith⟩

theorem qNorm_real (p : ℝ) :
    qNorm p = if qP1 p < qEps then -9999 else if p < 1 / 2 then -qZ (qP1 p) else qZ (qP1 p) := by
  simp [qNorm]

/-- one Horner step of `c * D ≤ N ≤ 0 ≤ D` (coefficient by coefficient, `y ≥ 0`) -/
theorem horner_ratio {c y n d a b : ℝ} (hy : 0 ≤ y) (h : c * d ≤ n ∧ n ≤ 0 ∧ 0 ≤ d) (ha : c * b ≤ a ∧ a ≤ 0)
    (hb : 0 ≤ b) : c * (d * y + b) ≤ n * y + a ∧ n * y + a ≤ 0 ∧ 0 ≤ d * y + b := by
  refine ⟨?_, add_nonpos (mul_nonpos_of_nonpos_of_nonneg h.2.1 hy) ha.2, add_nonneg (mul_nonneg h.2.2 hy) hb⟩
  calc c * (d * y + b) = c * d * y + c * b := by ring
    _ ≤ n * y + a := add_le_add (mul_le_mul_of_nonneg_right h.1 hy) ha.1

/-- for `p1 ≥ 1e-20` the argument `y` of the rational function is at most 12 -/
theorem qY_le {p1 : ℝ} (h : qEps ≤ p1) : Real.sqrt (Real.log (1 / (p1 * p1))) ≤ 12 := by
  have hp : (1 / 2 ^ 67 : ℝ) ≤ p1 := le_trans qEps_ge h
  have hpos : (0 : ℝ) < p1 := lt_of_lt_of_le (by positivity) hp
  have h1 : 1 / (p1 * p1) ≤ (2 : ℝ) ^ 134 := by
    rw [div_le_iff₀ (mul_pos hpos hpos)]
    have : (1 / 2 ^ 67 : ℝ) * (1 / 2 ^ 67) ≤ p1 * p1 := mul_le_mul hp hp (by positivity) hpos.le
    calc (1 : ℝ) = 2 ^ 134 * (1 / 2 ^ 67 * (1 / 2 ^ 67)) := by norm_num
      _ ≤ 2 ^ 134 * (p1 * p1) := mul_le_mul_of_nonneg_left this (by positivity)
  have h2 : Real.log (1 / (p1 * p1)) ≤ 134 := by
    calc Real.log (1 / (p1 * p1)) ≤ Real.log ((2 : ℝ) ^ 134) :=
          Real.log_le_log (one_div_pos.mpr (mul_pos hpos hpos)) h1
      _ = 134 * Real.log 2 := by rw [Real.log_pow]; norm_num
      _ ≤ 134 * 1 := by
          have : Real.log 2 ≤ 2 - 1 := Real.log_le_sub_one_of_pos (by norm_num)
          linarith
      _ = 134 := mul_one _
  rw [Real.sqrt_le_left (by norm_num)]
  linarith

/-- for `p1 ≥ 1e-20`: `z = y + N(y)/D(y)` with `0 ≤ y ≤ 12` and the rational correction of Odeh & Evans in
`[-4, 0]` (Horner: `-4 D_k ≤ N_k ≤ 0 ≤ D_k` at every stage) -/
theorem qZ_bd {p1 : ℝ} (h : qEps ≤ p1) : -4 ≤ qZ p1 ∧ qZ p1 ≤ 12 := by
  have hy := Real.sqrt_nonneg (Real.log (1 / (p1 * p1)))
  have hy12 := qY_le h
  simp only [qZ, ScalarReal.sqrt_eq, ScalarReal.log_eq, ScalarReal.one_eq]
  generalize Real.sqrt (Real.log (1 / (p1 * p1))) = y at hy hy12 ⊢
  have a0 : (-4 * qb0 : ℝ) ≤ qa0 ∧ (qa0 : ℝ) ≤ 0 := by simp only [qa0, qb0, dy_real]; norm_num
  have a1 : (-4 * qb1 : ℝ) ≤ qa1 ∧ (qa1 : ℝ) ≤ 0 := by simp only [qa1, qb1, dy_real, ScalarReal.ofInt_eq]; norm_num
  have a2 : (-4 * qb2 : ℝ) ≤ qa2 ∧ (qa2 : ℝ) ≤ 0 := by simp only [qa2, qb2, dy_real]; norm_num
  have a3 : (-4 * qb3 : ℝ) ≤ qa3 ∧ (qa3 : ℝ) ≤ 0 := by simp only [qa3, qb3, dy_real]; norm_num
  have a4 : (-4 * qb4 : ℝ) ≤ qa4 ∧ (qa4 : ℝ) ≤ 0 := by simp only [qa4, qb4, dy_real]; norm_num
  have b0 : (0 : ℝ) < qb0 := dy_pos (by decide) _
  have s0 := horner_ratio hy ⟨a4.1, a4.2, dy_nonneg (by decide) _⟩ a3 (dy_nonneg (by decide) _)
  rw [mul_comm (qb4 : ℝ), mul_comm (qa4 : ℝ)] at s0
  have s1 := horner_ratio hy s0 a2 (dy_nonneg (by decide) _)
  have s2 := horner_ratio hy s1 a1 (dy_nonneg (by decide) _)
  have s3 := horner_ratio hy s2 a0 b0.le
  have hD := add_pos_of_nonneg_of_pos (mul_nonneg s2.2.2 hy) b0
  exact ⟨le_trans (by norm_num) (add_le_add hy ((le_div_iff₀ hD).mpr s3.1)),
    (add_le_add hy12 (div_nonpos_of_nonpos_of_nonneg s3.2.1 hD.le)).trans (by norm_num)⟩

theorem qNorm_abs_le {p : ℝ} (h : qNormSentinel p = false) : |qNorm p| ≤ 12 := by
  have hs : ¬ (qP1 p < qEps) := by
    rw [← ScalarReal.ltb_iff, Bool.not_eq_true]
    exact h
  have hz := qZ_bd (not_lt.mp hs)
  have : |qZ (qP1 p)| ≤ 12 := abs_le.mpr ⟨le_trans (by norm_num) hz.1, hz.2⟩
  rw [qNorm_real, if_neg hs]
  split
  · rwa [abs_neg]
  · exact this

theorem qNorm_ne_sentinel {p : ℝ} (h : qNormSentinel p = false) : qNorm p ≠ -9999 := by
  intro e
  have := qNorm_abs_le h
  rw [e] at this
  norm_num at this

end Bpp.PNorm

namespace Bpp.DistGuards
open Bpp Bpp.Scalar Bpp.PNorm

@[simp] theorem eqb_false_iff (x y : ℝ) : Scalar.eqb x y = false ↔ x ≠ y := by simp [Scalar.eqb]
@[simp] theorem minusOne_real : (minusOne : ℝ) = -1 := by simp [minusOne]
theorem chLo_real : (chLo : ℝ) = 4722366482869645 / 2 ^ 71 := by simp [chLo]
theorem chHi_real : (chHi : ℝ) = 9007181240342483 / 2 ^ 53 := by simp [chHi]
theorem chLo_pos : (0 : ℝ) < chLo := dy_pos (by decide) _
theorem chLo_lt_chHi : (chLo : ℝ) < chHi := by rw [chLo_real, chHi_real]; norm_num
theorem chHi_lt_one : (chHi : ℝ) < 1 := by rw [chHi_real]; norm_num

theorem igSentinel_iff (x a : ℝ) : igSentinel x a = true ↔ x < 0 ∨ a ≤ 0 := by
  simp [igSentinel]
theorem pGammaRaises_iff (a b : ℝ) : pGammaRaises a b = true ↔ a < 0 ∨ b < 0 := by
  simp [pGammaRaises]
theorem pChisqRaises_iff (x v : ℝ) : pChisqRaises x v = true ↔ 0 ≤ x ∧ v < 0 := by
  simp only [pChisqRaises, Bool.and_eq_true, Bool.not_eq_eq_eq_not, Bool.not_true, ScalarReal.ltb_false_iff,
    ScalarReal.ltb_iff, ScalarReal.zero_eq, two_real, div_lt_iff₀ (two_pos : (0 : ℝ) < 2), zero_mul]
theorem qChisqSentinel_iff (p v : ℝ) : qChisqSentinel p v = true ↔ p < chLo ∨ chHi < p ∨ v ≤ 0 := by
  simp [qChisqSentinel, or_assoc]
theorem qChisq_domain {p v : ℝ} (h : qChisqSentinel p v = false) : chLo ≤ p ∧ p ≤ chHi ∧ 0 < v := by
  have := (not_congr (qChisqSentinel_iff p v)).mp (Bool.eq_false_iff.mp h)
  rwa [not_or, not_or, not_lt, not_lt, not_le] at this
theorem ibRaises_iff (x a b : ℝ) : ibRaises x a b = true ↔ a ≤ 0 ∨ b ≤ 0 ∨ x < 0 ∨ 1 < x := by
  simp [ibRaises, or_assoc]
theorem qBetaRaises_iff (p a b : ℝ) : qBetaRaises p a b = true ↔ p < 0 ∨ 1 < p ∨ a < 0 ∨ b < 0 := by
  simp [qBetaRaises, or_assoc]

section
variable (K : Kernels ℝ)

theorem incompleteGamma_real (x a g : ℝ) :
    incompleteGamma K x a g = if x < 0 ∨ a ≤ 0 then -1 else if x = 0 then 0 else K.igCore x a g := by
  simp only [incompleteGamma, Bool.or_eq_true, ScalarReal.ltb_iff, ScalarReal.leb_iff, ScalarReal.eqb_iff,
    ScalarReal.zero_eq, minusOne_real]

theorem incompleteGamma_zero {a : ℝ} (ha : 0 < a) (g : ℝ) : incompleteGamma K 0 a g = 0 := by
  rw [incompleteGamma_real, if_neg (not_or.mpr ⟨lt_irrefl 0, not_le.mpr ha⟩), if_pos rfl]

theorem incompleteGamma_pos {x a : ℝ} (hx : 0 < x) (ha : 0 < a) (g : ℝ) :
    incompleteGamma K x a g = K.igCore x a g := by
  rw [incompleteGamma_real, if_neg (not_or.mpr ⟨not_lt.mpr hx.le, not_le.mpr ha⟩), if_neg hx.ne']

theorem pGamma_real (x a b : ℝ) :
    pGamma K x a b = if a < 0 then .exc else if b < 0 then .exc else if a = 0 then .val 1
      else .val (incompleteGamma K (b * x) a (K.lnGamma a)) := by
  simp only [pGamma, ScalarReal.ltb_iff, ScalarReal.eqb_iff, ScalarReal.zero_eq, ScalarReal.one_eq]

theorem pGamma_pos (x : ℝ) {a b : ℝ} (ha : 0 < a) (hb : 0 ≤ b) :
    pGamma K x a b = .val (incompleteGamma K (b * x) a (K.lnGamma a)) := by
  rw [pGamma_real, if_neg (not_lt.mpr ha.le), if_neg (not_lt.mpr hb), if_neg ha.ne']

theorem pChisq_real (x v : ℝ) :
    pChisq K x v = if x < 0 then .val 0 else pGamma K x (v / 2) (1 / 2) := by
  simp only [pChisq, ScalarReal.ltb_iff, ScalarReal.zero_eq, two_real, half_real]

theorem qChisq_of_sentinel (p v : ℝ) (h : qChisqSentinel p v = true) : qChisq K p v = -1 := by
  rw [qChisq, ← qChisqSentinel, if_pos h, minusOne_real]
theorem qChisq_of_domain (p v : ℝ) (h : qChisqSentinel p v = false) :
    qChisq K p v = K.qChisqCore p v := by
  rw [qChisq, ← qChisqSentinel, if_neg (Bool.eq_false_iff.mp h)]

theorem qGamma_real (p a b : ℝ) :
    qGamma K p a b =
      if qChisq K p (2 * a) < 0 then qChisq K p (2 * a) else qChisq K p (2 * a) / (2 * b) := by
  simp only [qGamma, ScalarReal.ltb_iff, ScalarReal.zero_eq, two_real]

theorem qNorm3_real (p mu sigma : ℝ) :
    qNorm3 p mu sigma = if qNorm p = -9999 then qNorm p else qNorm p * sigma + mu := by
  simp only [qNorm3, ScalarReal.eqb_iff, qSentinel_real]

theorem incompleteBeta_real (x a b : ℝ) :
    incompleteBeta K x a b =
      if a ≤ 0 ∨ b ≤ 0 then .exc else if x < 0 ∨ 1 < x then .exc
      else if x = 0 then .val 0 else if x = 1 then .val 1 else .val (K.ibCore x a b) := by
  simp only [incompleteBeta, Bool.or_eq_true, ScalarReal.ltb_iff, ScalarReal.leb_iff, ScalarReal.gtb_iff,
    ScalarReal.eqb_iff, ScalarReal.zero_eq, ScalarReal.one_eq]

theorem qBeta_real (p a b : ℝ) :
    qBeta K p a b =
      if p < 0 ∨ 1 < p then .exc else if a < 0 ∨ b < 0 then .exc
      else if p = 0 ∨ p = 1 then .val p else K.qBetaCore p a b := by
  simp only [qBeta, Bool.or_eq_true, ScalarReal.ltb_iff, ScalarReal.gtb_iff, ScalarReal.eqb_iff,
    ScalarReal.zero_eq, ScalarReal.one_eq]

end

end Bpp.DistGuards
