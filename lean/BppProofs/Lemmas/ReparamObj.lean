import BppModel.ReparamObj
import BppProofs.Lemmas.Reparam
/-!
Helper lemmas for C11: the object-level wrapper model (`BppModel/ReparamObj.lean`) read at `ℝ`, and
its refinement to the slot model (`BppModel/Reparam.lean`).
-/
namespace Bpp.ReparamObj
open Bpp Bpp.Scalar Bpp.ScalarReal Bpp.Transform Bpp.Reparam

/-! ### lookups by name -/

theorem findP_some {n : Nat} {l : List (FParam ℝ)} {p : FParam ℝ} (h : findP n l = some p) :
    p.name = n ∧ p ∈ l := by
  unfold findP at h
  exact ⟨by simpa using List.find?_some h, List.mem_of_find?_eq_some h⟩

theorem findP_cons (n : Nat) (p : FParam ℝ) (l : List (FParam ℝ)) :
    findP n (p :: l) = if p.name = n then some p else findP n l := by
  unfold findP
  by_cases h : p.name = n <;> simp [h]

theorem findP_isSome_of_mem {n : Nat} {l : List (FParam ℝ)} (h : n ∈ l.map (·.name)) :
    ∃ p, findP n l = some p := by
  obtain ⟨q, hq, rfl⟩ := List.mem_map.mp h
  exact Option.isSome_iff_exists.mp (List.find?_isSome.mpr ⟨q, hq, by simp⟩)

theorem findP_none_of_not_mem {n : Nat} {l : List (FParam ℝ)} (h : n ∉ l.map (·.name)) :
    findP n l = none :=
  List.find?_eq_none.mpr fun p hp e => h (List.mem_map.mpr ⟨p, hp, by simpa using e⟩)

/-- in a list without repeated names a parameter is the one its name finds -/
theorem findP_self_of_nodup {l : List (FParam ℝ)} (hn : (l.map (·.name)).Nodup) {p : FParam ℝ}
    (hp : p ∈ l) : findP p.name l = some p := by
  induction l with
  | nil => simp at hp
  | cons q l ih =>
    simp only [List.map_cons, List.nodup_cons] at hn
    rw [findP_cons]
    simp only [List.mem_cons] at hp
    rcases hp with rfl | hp
    · simp
    · have : q.name ≠ p.name := by
        intro e
        exact hn.1 (by rw [e]; exact List.mem_map.mpr ⟨p, hp, rfl⟩)
      rw [if_neg this]
      exact ih hn.2 hp

theorem findP_map {g : FParam ℝ → FParam ℝ} (hg : ∀ p, (g p).name = p.name) (n : Nat)
    (l : List (FParam ℝ)) : findP n (l.map g) = (findP n l).map g := by
  induction l with
  | nil => rfl
  | cons p l ih =>
    simp only [List.map_cons, findP_cons, hg]
    by_cases h : p.name = n <;> simp [h, ih]

theorem lookupV_isSome {n : Nat} {pl : List (Nat × ℝ)} :
    (lookupV n pl).isSome = true ↔ n ∈ pl.map (·.1) := by
  unfold lookupV
  rw [Option.isSome_map, List.find?_isSome]
  constructor
  · rintro ⟨x, hx, e⟩
    exact List.mem_map.mpr ⟨x, hx, by simpa using e⟩
  · intro h
    obtain ⟨x, hx, e⟩ := List.mem_map.mp h
    exact ⟨x, hx, by simpa using e⟩

theorem lookupV_none {n : Nat} {pl : List (Nat × ℝ)} :
    lookupV n pl = none ↔ n ∉ pl.map (·.1) := by
  rw [← lookupV_isSome]
  cases lookupV n pl <;> simp

/-- the sub-list forwarded to the function finds, for a name, what `functionParameters_` finds when
the name was given, nothing otherwise -/
theorem findP_filterMap (fps : List (FParam ℝ)) (ns : List Nat) (m : Nat) :
    findP m (ns.filterMap (fun n => findP n fps)) = if m ∈ ns then findP m fps else none := by
  induction ns with
  | nil => rfl
  | cons n ns ih =>
    cases hf : findP n fps with
    | none =>
      simp only [List.filterMap_cons, hf, ih, List.mem_cons]
      by_cases e : m = n
      · subst e; simp [hf]
      · simp [e]
    | some p =>
      have hp := (findP_some hf).1
      simp only [List.filterMap_cons, hf, findP_cons, ih, List.mem_cons, hp]
      by_cases e : n = m
      · subst e; simp [hf]
      · have e' : ¬ m = n := fun x => e x.symm
        simp [e, e']

theorem subList_ok (fps : List (FParam ℝ)) :
    ∀ (ns : List Nat), (∀ n ∈ ns, ∃ p, findP n fps = some p) →
      subList fps ns = .ok (ns.filterMap (fun n => findP n fps)) := by
  intro ns
  induction ns with
  | nil => intro _; rfl
  | cons n ns ih =>
    intro h
    obtain ⟨p, hp⟩ := h n (by simp)
    have := ih (fun m hm => h m (by simp [hm]))
    simp [subList, hp, this]

/-! ### the slot view of an aligned wrapper -/

/-- `View f params fps v`: the two private lists of a wrapper are aligned (same name slot by slot),
every name is a parameter of the function `f` with the same constraint, and `v` is the list of
slots (`tp`, constraint, `fp`, function's value) -/
inductive View (f : Fn ℝ) : List (Nat × TP ℝ) → List (FParam ℝ) → W ℝ → Prop
  | nil : View f [] [] []
  | cons {p : Nat × TP ℝ} {fp q : FParam ℝ} {ps : List (Nat × TP ℝ)} {fps : List (FParam ℝ)} {v : W ℝ} :
      p.1 = fp.name → findP p.1 f.ps = some q → q.shape = fp.shape → View f ps fps v →
      View f (p :: ps) (fp :: fps)
        ({ tp := p.2, shape := fp.shape, fp := fp.value, fn := q.value } :: v)

/-- the executable view the driver computes is the one the theorems speak about -/
theorem view?_of_View {f : Fn ℝ} {ps : List (Nat × TP ℝ)} {fps : List (FParam ℝ)} {v : W ℝ}
    (h : View f ps fps v) : view? f ps fps = some v := by
  induction h with
  | nil => rfl
  | @cons p fp q ps fps v h1 h2 _ _ ih =>
    have h2' : findP fp.name f.ps = some q := h1 ▸ h2
    simp [view?, h1, h2', ih]

theorem View.names {f : Fn ℝ} {ps : List (Nat × TP ℝ)} {fps : List (FParam ℝ)} {v : W ℝ}
    (h : View f ps fps v) : ps.map (·.1) = fps.map (·.name) := by
  induction h with
  | nil => rfl
  | cons h1 _ _ _ ih => simp [h1, ih]

theorem View.length {f : Fn ℝ} {ps : List (Nat × TP ℝ)} {fps : List (FParam ℝ)} {v : W ℝ}
    (h : View f ps fps v) : v.length = ps.length := by
  induction h with
  | nil => rfl
  | cons _ _ _ _ ih => simp [ih]

theorem View.linked {f : Fn ℝ} {ps : List (Nat × TP ℝ)} {fps : List (FParam ℝ)} {v : W ℝ}
    (h : View f ps fps v) : ∀ fp ∈ fps, ∃ q, findP fp.name f.ps = some q ∧ q.shape = fp.shape := by
  induction h with
  | nil => intro fp hfp; simp at hfp
  | cons h1 h2 h3 _ ih =>
    intro fp' hfp
    simp only [List.mem_cons] at hfp
    rcases hfp with rfl | hfp
    · exact ⟨_, by rw [← h1]; exact h2, h3⟩
    · exact ih fp' hfp

/-- the wrapper's copy holds accepted values when the slots do -/
theorem View.fp_accepts {f : Fn ℝ} {ps : List (Nat × TP ℝ)} {fps : List (FParam ℝ)} {v : W ℝ}
    (h : View f ps fps v) (hinv : ∀ s ∈ v, s.shape.Accepts s.fp) :
    ∀ fp ∈ fps, fp.shape.Accepts fp.value := by
  induction h with
  | nil => intro fp hfp; simp at hfp
  | cons _ _ _ _ ih =>
    intro fp' hfp
    simp only [List.mem_cons] at hfp
    rcases hfp with rfl | hfp
    · exact hinv _ List.mem_cons_self
    · exact ih (fun s hs => hinv s (List.mem_cons_of_mem _ hs)) fp' hfp

/-! ### `setParameters`, stage by stage -/

theorem matchTP_real (pl : List (Nat × ℝ)) (p : Nat × TP ℝ) :
    matchTP pl p = (p.1, match lookupV p.1 pl with | some v => p.2.setX v | none => p.2) := by
  unfold matchTP
  cases lookupV p.1 pl with
  | none => rfl
  | some v => exact ite_neb _ _ fun e => by rw [← e, setX_self]

/-- stage 1: the given values are matched into `parameters_` -/
theorem view_match {f : Fn ℝ} (pl : List (Nat × ℝ)) {ps : List (Nat × TP ℝ)} {fps : List (FParam ℝ)}
    {v : W ℝ} (h : View f ps fps v) :
    View f (ps.map (matchTP pl)) fps (List.zipWith matchOne v (updOf ps pl)) := by
  induction h with
  | nil => exact View.nil
  | @cons p fp q ps fps v h1 h2 h3 _ ih =>
    simp only [List.map_cons, updOf, List.zipWith_cons_cons]
    have := View.cons (p := matchTP pl p) (by rw [matchTP_real]; exact h1)
      (by rw [matchTP_real]; exact h2) h3 ih
    rw [matchOne_real]
    rw [matchTP_real] at this ⊢
    exact this

theorem view_changed {f : Fn ℝ} (pl : List (Nat × ℝ)) {ps : List (Nat × TP ℝ)} {fps : List (FParam ℝ)}
    {v : W ℝ} (h : View f ps fps v) :
    ps.any (changedTP pl) = (List.zipWith changed v (updOf ps pl)).any id := by
  induction h with
  | nil => rfl
  | @cons p fp q ps fps v _ _ _ _ ih =>
    simp only [List.any_cons, updOf, List.map_cons, List.zipWith_cons_cons, id]
    congr 1

/-- stage 2: `fireParameterChanged` over ℝ refreshes every copy and raises nothing -/
theorem view_fire (pi : ℝ) {tiny : ℝ} (ht : 0 < tiny) {f : Fn ℝ} {ps : List (Nat × TP ℝ)}
    {fps : List (FParam ℝ)} {v : W ℝ} (h : View f ps fps v) (hm : ∀ s ∈ v, SlotInv tiny s) :
    ∃ fps', fireGo pi ps fps = .ok fps' ∧
      View f ps fps' (v.map (fun s => { s with fp := s.tp.getOriginal pi })) := by
  induction h with
  | nil => exact ⟨[], rfl, View.nil⟩
  | @cons p fp q ps fps v h1 h2 h3 _ ih =>
    obtain ⟨fps', e, hv'⟩ := ih (fun s hs => hm s (by simp [hs]))
    have hm0 := hm _ (List.mem_cons_self)
    have hacc : fp.shape.Accepts (p.2.getOriginal pi) := matches_accepts ht hm0.m hm0.w
    refine ⟨{ fp with value := p.2.getOriginal pi } :: fps', ?_, ?_⟩
    · simp [fireGo, paramSetC_real _ _ _ hacc, e]
    · exact View.cons (fp := { fp with value := p.2.getOriginal pi }) h1 h2 h3 hv'

/-- the function after its `matchParametersValues`, over ℝ: a parameter found in the sub-list takes
the value given there -/
noncomputable def Fn.pushed (f : Fn ℝ) (sub : List (FParam ℝ)) : Fn ℝ :=
  { f with ps := f.ps.map (fun p =>
    { p with value := match findP p.name sub with | some q => q.value | none => p.value }) }

theorem Fn.matchValues_real (f : Fn ℝ) (sub : List (FParam ℝ))
    (hok : ∀ q ∈ sub, ∀ p, findP q.name f.ps = some p → p.shape.Accepts q.value) :
    f.matchValues sub = .ok (f.pushed sub) := by
  unfold Fn.matchValues
  split_ifs with hb
  · exfalso
    rw [List.any_eq_true] at hb
    obtain ⟨q, hq, hqb⟩ := hb
    cases hp : findP q.name f.ps with
    | none => simp [hp] at hqb
    | some p =>
      have := (isCorrect_iff p.shape q.value).mpr (hok q hq p hp)
      simp [hp, this] at hqb
  simp only [Fn.pushed]
  congr 2
  apply List.map_congr_left
  intro p _
  cases findP p.name sub with
  | none => rfl
  | some q =>
    simp only [paramSet_real]
    exact ite_neb _ _ fun e => by cases p; cases e; rfl

theorem Fn.pushed_find (f : Fn ℝ) (sub : List (FParam ℝ)) (n : Nat) :
    findP n (f.pushed sub).ps = (findP n f.ps).map (fun p =>
      { p with value := match findP p.name sub with | some q => q.value | none => p.value }) := by
  unfold Fn.pushed
  exact findP_map (g := fun p =>
    { p with value := match findP p.name sub with | some q => q.value | none => p.value })
    (fun _ => rfl) n f.ps

/-- stage 3: the named copies are pushed into the function, by name -/
theorem view_push {f f' : Fn ℝ} (pl : List (Nat × ℝ)) (fpsAll : List (FParam ℝ))
    (hf' : ∀ n q, findP n f.ps = some q → ∃ q', findP n f'.ps = some q' ∧ q'.shape = q.shape ∧
      (n ∉ pl.map (·.1) → q'.value = q.value) ∧
      (n ∈ pl.map (·.1) → ∀ fp, findP n fpsAll = some fp → q'.value = fp.value))
    {ps : List (Nat × TP ℝ)} {fps : List (FParam ℝ)} {v : W ℝ} (h : View f ps fps v)
    (hself : ∀ fp ∈ fps, findP fp.name fpsAll = some fp) :
    View f' ps fps (List.zipWith pushOne v (updOf ps pl)) := by
  induction h with
  | nil => exact View.nil
  | @cons p fp q ps fps v h1 h2 h3 _ ih =>
    obtain ⟨q', e1, e2, e3, e4⟩ := hf' p.1 q h2
    have ih' := ih (fun fp' hfp' => hself fp' (by simp [hfp']))
    have hc := View.cons (f := f') (p := p) (fp := fp) h1 e1 (e2.trans h3) ih'
    simp only [updOf, List.map_cons, List.zipWith_cons_cons, pushOne_real]
    cases hl : lookupV p.1 pl with
    | none =>
      have : q'.value = q.value := e3 (lookupV_none.mp hl)
      simp only [this] at hc
      exact hc
    | some x =>
      have hin : p.1 ∈ pl.map (·.1) := lookupV_isSome.mp (by rw [hl]; rfl)
      have : q'.value = fp.value := e4 hin fp (by rw [h1]; exact hself fp (by simp))
      simp only [this] at hc
      exact hc

/-! ### functions: what an update keeps -/

/-- same names and constraints (the values may differ) -/
def SameSig (f f' : Fn ℝ) : Prop :=
  f'.names = f.names ∧
  ∀ n q, findP n f.ps = some q → ∃ q', findP n f'.ps = some q' ∧ q'.shape = q.shape

theorem SameSig.refl (f : Fn ℝ) : SameSig f f := ⟨rfl, fun _ q h => ⟨q, h, rfl⟩⟩

/-- well-formed function object: distinct names, values accepted by their constraints, finite
intervals roomy enough for `init_` (`Shape.Roomy`) -/
structure FnOk (tiny : ℝ) (f : Fn ℝ) : Prop where
  nodup : f.names.Nodup
  acc : ∀ p ∈ f.ps, p.shape.Accepts p.value
  roomy : ∀ p ∈ f.ps, p.shape.Roomy tiny

theorem Fn.pushed_sameSig (f : Fn ℝ) (sub : List (FParam ℝ)) : SameSig f (f.pushed sub) := by
  refine ⟨by simp [Fn.pushed, Fn.names, List.map_map, Function.comp_def], ?_⟩
  intro n q h
  rw [Fn.pushed_find, h]
  exact ⟨_, rfl, rfl⟩

theorem Fn.pushed_ok {tiny : ℝ} {f : Fn ℝ} (hf : FnOk tiny f) (sub : List (FParam ℝ))
    (hok : ∀ q ∈ sub, ∀ p, findP q.name f.ps = some p → p.shape.Accepts q.value)
    (hsub : ∀ n q, findP n sub = some q → q ∈ sub) : FnOk tiny (f.pushed sub) := by
  refine ⟨by rw [(Fn.pushed_sameSig f sub).1]; exact hf.nodup, ?_, ?_⟩
  · intro p' hp'
    simp only [Fn.pushed, List.mem_map] at hp'
    obtain ⟨p, hp, rfl⟩ := hp'
    cases hq : findP p.name sub with
    | none => simpa using hf.acc p hp
    | some q =>
      have hqn := (findP_some hq).1
      have := hok q (hsub _ _ hq) p (by rw [hqn]; exact findP_self_of_nodup hf.nodup hp)
      simpa using this
  · intro p' hp'
    simp only [Fn.pushed, List.mem_map] at hp'
    obtain ⟨p, hp, rfl⟩ := hp'
    exact hf.roomy p hp

/-- another wrapper of the same function keeps its view when the function moves (its own lists are
untouched; only the `fn` field of the slots follows the function) -/
theorem view_frame {f f' : Fn ℝ} (hs : SameSig f f') {ps : List (Nat × TP ℝ)} {fps : List (FParam ℝ)}
    {v : W ℝ} (h : View f ps fps v) :
    ∃ v', View f' ps fps v' ∧
      List.Forall₂ (fun s s' => s'.tp = s.tp ∧ s'.shape = s.shape ∧ s'.fp = s.fp ∧
        ∃ q' ∈ f'.ps, q'.shape = s.shape ∧ s'.fn = q'.value) v v' := by
  induction h with
  | nil => exact ⟨[], View.nil, List.Forall₂.nil⟩
  | @cons p fp q ps fps v h1 h2 h3 _ ih =>
    obtain ⟨v', hv', hrel⟩ := ih
    obtain ⟨q', e1, e2⟩ := hs.2 p.1 q h2
    exact ⟨_, View.cons h1 e1 (e2.trans h3) hv',
      List.Forall₂.cons ⟨rfl, rfl, rfl, q', (findP_some e1).2, e2.trans h3, rfl⟩ hrel⟩

/-! ### `setParameters` over ℝ: the refinement to the slot model -/

theorem matchTP_fst (pl : List (Nat × ℝ)) (p : Nat × TP ℝ) : (matchTP pl p).1 = p.1 := by
  rw [matchTP_real]

theorem map_matchTP_names (pl : List (Nat × ℝ)) (ps : List (Nat × TP ℝ)) :
    (ps.map (matchTP pl)).map (·.1) = ps.map (·.1) := by
  rw [List.map_map]
  apply List.map_congr_left
  intro p _
  exact matchTP_fst pl p

theorem updOf_match (pl : List (Nat × ℝ)) (ps : List (Nat × TP ℝ)) :
    updOf (ps.map (matchTP pl)) pl = updOf ps pl := by
  unfold updOf
  rw [List.map_map]
  apply List.map_congr_left
  intro p _
  simp [matchTP_fst]

/-- the part of an update that stays inside the wrapper (`matchParametersValues`, inherited): over ℝ
it raises nothing and slot by slot gives `midSlot`; the function is not involved -/
theorem matchValues_obj_real (pi : ℝ) {tiny : ℝ} (ht : 0 < tiny) {f : Fn ℝ} {w : Wr ℝ} {v : W ℝ}
    (hv : View f w.params w.fps v) (hinv : ∀ s ∈ v, SlotInv tiny s) (pl : List (Nat × ℝ)) :
    ∃ fps1, w.matchValues pi pl = .ok { w with params := w.params.map (matchTP pl), fps := fps1 } ∧
      View f (w.params.map (matchTP pl)) fps1
        (List.zipWith (midSlot pi ((List.zipWith changed v (updOf w.params pl)).any id)) v (updOf w.params pl)) := by
  set upd := updOf w.params pl with hupd
  set ch := (List.zipWith changed v upd).any id with hch
  have hv1 := view_match pl hv
  have hinv1 := forall_zipWith matchOne_inv v upd hinv
  unfold Wr.matchValues
  rw [view_changed pl hv, ← hupd, ← hch, ← zipWith_mid]
  cases hc : ch
  · exact ⟨w.fps, by simp, by simpa using hv1⟩
  · obtain ⟨fps', e, hv'⟩ := view_fire pi ht hv1 hinv1
    exact ⟨fps', by simp [e], by simpa using hv'⟩

/-- `setParameters` through an aligned wrapper of a well-formed function, over ℝ: it raises nothing,
the wrapper stays aligned, and slot by slot the result is `setSlot` — what the slot model's
`Reparam.set` computes on the view (`set_real`).  The function keeps its names and constraints; its
parameters that are not named keep their values. -/
theorem setParameters_real {pi tiny : ℝ} (ht : 0 < tiny) {f : Fn ℝ} {w : Wr ℝ} {v : W ℝ}
    (hf : FnOk tiny f) (hv : View f w.params w.fps v) (hnd : w.names.Nodup)
    (hinv : ∀ s ∈ v, SlotInv tiny s) (pl : List (Nat × ℝ)) (hpl : ∀ n ∈ pl.map (·.1), n ∈ w.names) :
    ∃ f' w', w.setParameters pi f pl = .ok (f', w') ∧
      View f' w'.params w'.fps
        (List.zipWith (setSlot pi ((List.zipWith changed v (updOf w.params pl)).any id)) v (updOf w.params pl)) ∧
      w'.fn = w.fn ∧ w'.names = w.names ∧ SameSig f f' ∧ FnOk tiny f' ∧
      (∀ n q, findP n f.ps = some q → n ∉ pl.map (·.1) → findP n f'.ps = some q) := by
  set upd := updOf w.params pl with hupd
  set ch := (List.zipWith changed v upd).any id with hch
  -- stages 1 and 2: `matchParametersValues`
  have hmv := matchValues_obj_real pi ht hv hinv pl
  rw [← hupd, ← hch] at hmv
  obtain ⟨fps1, e1, hvm⟩ := hmv
  have hinvm : ∀ s ∈ List.zipWith (midSlot pi ch) v upd, SlotInv tiny s :=
    forall_zipWith (midSlot_inv ht ch) v upd hinv
  -- the names of the refreshed copy
  have hnames1 : fps1.map (·.name) = w.names := by
    rw [← hvm.names, map_matchTP_names]; rfl
  have hnd1 : (fps1.map (·.name)).Nodup := by rw [hnames1]; exact hnd
  -- stage 3a: the sub-list
  have hsub := subList_ok fps1 (pl.map (·.1)) (fun n hn =>
    findP_isSome_of_mem (by rw [hnames1]; exact hpl n hn))
  set sub := (pl.map (·.1)).filterMap (fun n => findP n fps1) with hsubdef
  have hsubmem : ∀ q ∈ sub, q ∈ fps1 := by
    intro q hq
    rw [hsubdef, List.mem_filterMap] at hq
    obtain ⟨n, _, hn⟩ := hq
    exact (findP_some hn).2
  -- stage 3b: the function accepts every pushed value
  have hok : ∀ q ∈ sub, ∀ p, findP q.name f.ps = some p → p.shape.Accepts q.value := by
    intro q hq p hp
    obtain ⟨q0, e0, es⟩ := hvm.linked q (hsubmem q hq)
    rw [hp] at e0; injection e0 with e0; subst e0
    rw [es]
    exact hvm.fp_accepts (fun s hs => (hinvm s hs).fp) q (hsubmem q hq)
  have e3 := Fn.matchValues_real f sub hok
  refine ⟨f.pushed sub, { w with params := w.params.map (matchTP pl), fps := fps1 }, ?_, ?_, rfl,
    map_matchTP_names pl w.params, Fn.pushed_sameSig f sub,
    Fn.pushed_ok hf sub hok (fun n q h => (findP_some h).2), ?_⟩
  · unfold Wr.setParameters
    simp [e1, hsub, e3]
  · -- the view after the push
    have hpush := view_push (f := f) (f' := f.pushed sub) pl fps1 ?_ hvm
      (fun fp hfp => findP_self_of_nodup hnd1 hfp)
    · rw [updOf_match, ← hupd, zipWith_zipWith_left] at hpush
      simpa only [pushOne_midSlot] using hpush
    · intro n q hq
      have hqn := (findP_some hq).1
      refine ⟨{ q with value := match findP q.name sub with | some r => r.value | none => q.value },
        by rw [Fn.pushed_find, hq]; rfl, rfl, ?_, ?_⟩
      · intro hn
        have : findP q.name sub = none := by rw [hqn, hsubdef, findP_filterMap, if_neg hn]
        simp only [this]
      · intro hn fp hfp
        have : findP q.name sub = some fp := by rw [hqn, hsubdef, findP_filterMap, if_pos hn, hfp]
        simp only [this]
  · intro n q hq hn
    have hqn := (findP_some hq).1
    have : findP q.name sub = none := by rw [hqn, hsubdef, findP_filterMap, if_neg hn]
    rw [Fn.pushed_find, hq]
    simp only [Option.map_some, this]

/-! ### the private part of a slot: the wrapper's copy against its transformed parameter -/

/-- the wrapper's copy of a function parameter is within `d` of the back-transformed coordinate
(`d = 0` after any refresh; `2 tiny` after a construction that moved the value).  Unlike
`Reparam.Near` this does not mention the function, which other wrappers may move. -/
def Priv (pi d : ℝ) (s : Slot ℝ) : Prop := |s.fp - s.tp.getOriginal pi| ≤ d

theorem forall_zipWith_changed {P : Slot ℝ → Prop} {g : Slot ℝ → Option ℝ → Slot ℝ} (ch : Bool)
    (h : ∀ s u, P s → (ch = false → changed s u = false) → P (g s u)) :
    ∀ (w : W ℝ) (upd : List (Option ℝ)), (∀ s ∈ w, P s) →
      (ch = false → (List.zipWith changed w upd).any id = false) →
      ∀ s' ∈ List.zipWith g w upd, P s' :=
  Reparam.forall_zipWith_changed ch h

theorem midSlot_priv {pi d : ℝ} (hd : 0 ≤ d) (ch : Bool) (s : Slot ℝ) (u : Option ℝ)
    (hs : Priv pi d s) (hch : ch = false → changed s u = false) : Priv pi d (midSlot pi ch s u) := by
  cases ch
  · cases u with
    | none => simpa [midSlot, Priv] using hs
    | some x =>
      have := unchanged_setX (hch rfl)
      simpa [midSlot, Priv, this] using hs
  · cases u <;> simpa [midSlot, Priv] using hd

theorem setSlot_priv {pi d : ℝ} (hd : 0 ≤ d) (ch : Bool) (s : Slot ℝ) (u : Option ℝ)
    (hs : Priv pi d s) (hch : ch = false → changed s u = false) : Priv pi d (setSlot pi ch s u) := by
  have := midSlot_priv hd ch s u hs hch
  cases u <;> simpa [midSlot, setSlot, Priv] using this

/-! ### construction -/

theorem initParams_names {pi tiny : ℝ} :
    ∀ (fps : List (FParam ℝ)) (ps : List (Nat × TP ℝ)), initParams pi tiny fps = .ok ps →
      ps.map (·.1) = fps.map (·.name) := by
  intro fps
  induction fps with
  | nil => intro ps h; simp [initParams] at h; subst h; rfl
  | cons fp fps ih =>
    intro ps h
    unfold initParams at h
    cases h0 : initOne pi tiny fp.shape fp.value with
    | none => simp [h0] at h
    | some tp =>
      cases h1 : initParams pi tiny fps with
      | error e => simp [h0, h1] at h
      | ok l =>
        simp [h0, h1] at h
        subst h
        simp [ih l h1]

theorem FnOk.own {tiny : ℝ} {f : Fn ℝ} (hf : FnOk tiny f) :
    ∀ fp ∈ f.ps, ∃ q, findP fp.name f.ps = some q ∧ q.shape = fp.shape ∧ q.value = fp.value ∧
      Admits tiny fp.shape fp.value :=
  fun fp hfp => ⟨fp, findP_self_of_nodup hf.nodup hfp, rfl, rfl, hf.acc fp hfp, hf.roomy fp hfp⟩

theorem FnOk.common {tiny : ℝ} {f : Fn ℝ} (hf : FnOk tiny f) {given : List (FParam ℝ)}
    (hag : ∀ q ∈ given, ∀ p, findP q.name f.ps = some p → p.shape = q.shape ∧ p.value = q.value) :
    ∀ fp ∈ common f given, ∃ q, findP fp.name f.ps = some q ∧ q.shape = fp.shape ∧ q.value = fp.value ∧
      Admits tiny fp.shape fp.value := by
  intro fp hfp
  simp only [ReparamObj.common, List.mem_filter, List.any_eq_true, beq_iff_eq] at hfp
  obtain ⟨hfg, q0, hq0, hq0n⟩ := hfp
  obtain ⟨q, hq⟩ := findP_isSome_of_mem (l := f.ps) (n := fp.name) (List.mem_map.mpr ⟨q0, hq0, hq0n⟩)
  obtain ⟨e1, e2⟩ := hag fp hfg q hq
  have hqm := (findP_some hq).2
  exact ⟨q, hq, e1, e2, by rw [← e1, ← e2]; exact hf.acc q hqm, by rw [← e1]; exact hf.roomy q hqm⟩

/-! ### invariants of a wrapper and of a world -/

/-- a wrapper `w` of the function `f`, with its slots `v`: distinct names, aligned lists whose names
are parameters of `f` with the same constraints (`View`), the transform `init_` builds for each
constraint and accepted values (`SlotInv`), and a private copy within `2 tiny` of the
back-transformed coordinate (`Priv`) -/
structure WInv (pi tiny : ℝ) (f : Fn ℝ) (w : Wr ℝ) (v : W ℝ) : Prop where
  nodup : w.names.Nodup
  view : View f w.params w.fps v
  inv : ∀ s ∈ v, SlotInv tiny s
  priv : ∀ s ∈ v, Priv pi (2 * tiny) s

theorem WInv.aligned {pi tiny : ℝ} {f : Fn ℝ} {w : Wr ℝ} {v : W ℝ} (h : WInv pi tiny f w v) :
    w.aligned = true := by
  simp only [Wr.aligned, alignedNames, Wr.names, Wr.fpNames, h.view.names, beq_self_eq_true]

theorem WInv.zipWith {pi tiny : ℝ} {f f' : Fn ℝ} {w w' : Wr ℝ} {v : W ℝ} (hi : WInv pi tiny f w v)
    {g : Slot ℝ → Option ℝ → Slot ℝ} {upd : List (Option ℝ)} (ch : Bool)
    (hinv : ∀ s u, SlotInv tiny s → SlotInv tiny (g s u))
    (hpriv : ∀ s u, Priv pi (2 * tiny) s → (ch = false → changed s u = false) → Priv pi (2 * tiny) (g s u))
    (hch : ch = false → (List.zipWith changed v upd).any id = false) (hn : w'.names = w.names)
    (hv' : View f' w'.params w'.fps (List.zipWith g v upd)) : WInv pi tiny f' w' (List.zipWith g v upd) :=
  ⟨hn ▸ hi.nodup, hv', forall_zipWith hinv v upd hi.inv, forall_zipWith_changed ch hpriv v upd hi.priv hch⟩

/-- every function object is well formed, every wrapper points to a function of the world and
satisfies the wrapper invariant over it -/
structure WorldInv (pi tiny : ℝ) (σ : World ℝ) : Prop where
  fns : ∀ f ∈ σ.fns, FnOk tiny f
  ws : ∀ w ∈ σ.ws, ∃ f v, σ.fns[w.fn]? = some f ∧ WInv pi tiny f w v

/-- the wrapper invariant survives any move of the function that keeps its names and constraints
and leaves it at an accepted point (an update through another wrapper, or by the function's owner) -/
theorem WInv.frame {pi tiny : ℝ} {f f' : Fn ℝ} {w : Wr ℝ} {v : W ℝ} (h : WInv pi tiny f w v)
    (hs : SameSig f f') (hf' : FnOk tiny f') :
    ∃ v', WInv pi tiny f' w v' ∧
      List.Forall₂ (fun s s' => s'.tp = s.tp ∧ s'.shape = s.shape ∧ s'.fp = s.fp) v v' := by
  obtain ⟨v', hv', hrel⟩ := view_frame hs h.view
  have hrel2 := forall₂_and_left hrel fun s hs => And.intro (h.inv s hs) (h.priv s hs)
  refine ⟨v', ⟨h.nodup, hv', ?_, ?_⟩, forall₂_imp_right (fun s s' r => ⟨r.1, r.2.1, r.2.2.1⟩) hrel⟩
  · refine forall₂_right ?_ hrel2
    rintro s s' ⟨⟨e1, e2, e3, q', hq', hqs, hqv⟩, hi, _⟩
    exact ⟨by rw [e1, e2]; exact hi.m, by rw [e2]; exact hi.w, by rw [e2, e3]; exact hi.fp,
      by rw [e2, hqv, ← hqs]; exact hf'.acc q' hq'⟩
  · refine forall₂_right ?_ hrel2
    rintro s s' ⟨⟨e1, _, e3, _⟩, _, hp⟩
    show |s'.fp - s'.tp.getOriginal pi| ≤ 2 * tiny
    rw [e1, e3]; exact hp

/-! ### one rule per operation of a wrapper: it raises nothing and establishes / keeps the invariant -/

/-- both constructors: `init_` over a list `fps` of distinct (copies of) parameters of the function
with admissible values builds a wrapper satisfying the invariant; its slots are what the slot
model's `Reparam.init` builds -/
theorem WInv.init (pi : ℝ) {tiny : ℝ} (ht : 0 < tiny) (f : Fn ℝ) (g : Nat) :
    ∀ (fps : List (FParam ℝ)), (fps.map (·.name)).Nodup →
      (∀ fp ∈ fps, ∃ q, findP fp.name f.ps = some q ∧ q.shape = fp.shape ∧ q.value = fp.value ∧
        Admits tiny fp.shape fp.value) →
      ∃ ps v, initParams pi tiny fps = .ok ps ∧
        WInv pi tiny f { fn := g, params := ps, fps := fps } v ∧
        Reparam.init pi tiny (fps.map (fun p => (p.shape, p.value))) = .ok v := by
  intro fps
  induction fps with
  | nil => intro _ _; exact ⟨[], [], rfl, ⟨List.nodup_nil, View.nil, by simp, by simp⟩, rfl⟩
  | cons fp fps ih =>
    intro hnd h
    obtain ⟨ps, v, e, hi, hinit⟩ := ih (List.nodup_cons.mp hnd).2 (fun q hq => h q (by simp [hq]))
    obtain ⟨q, hq, hsh, hval, hadm⟩ := h fp (by simp)
    obtain ⟨tp, e0, hm, hg⟩ := initOne_spec (pi := pi) ht hadm
    refine ⟨(fp.name, tp) :: ps, { tp := tp, shape := fp.shape, fp := fp.value, fn := q.value } :: v,
      by simp [initParams, e0, e],
      ⟨?_, View.cons (p := (fp.name, tp)) rfl hq hsh hi.view, ?_, ?_⟩, ?_⟩
    · show (fp.name :: ps.map (·.1)).Nodup
      rw [initParams_names fps ps e]; exact hnd
    · intro s hs
      simp only [List.mem_cons] at hs
      rcases hs with rfl | hs
      · exact ⟨hm, admits_wide ht hadm, admits_accepts hadm, by rw [hval]; exact admits_accepts hadm⟩
      · exact hi.inv s hs
    · intro s hs
      simp only [List.mem_cons] at hs
      rcases hs with rfl | hs
      · show |fp.value - tp.getOriginal pi| ≤ 2 * tiny
        rw [hg, abs_sub_comm]; exact corrected_close ht hadm
      · exact hi.priv s hs
    · unfold Reparam.init at hinit ⊢
      simp [List.mapM_cons, e0, hinit, hval, bind, Except.bind, pure, Except.pure]

/-- `setParameters` / `f(parameters)`: slot by slot `setSlot`; the function keeps its names and
constraints, stays at an accepted point, and its parameters that are not named keep their values -/
theorem WInv.setParameters {pi tiny : ℝ} (ht : 0 < tiny) {f : Fn ℝ} {w : Wr ℝ} {v : W ℝ}
    (hi : WInv pi tiny f w v) (hf : FnOk tiny f) (pl : List (Nat × ℝ)) (hpl : ∀ n ∈ pl.map (·.1), n ∈ w.names) :
    ∃ f' w', w.setParameters pi f pl = .ok (f', w') ∧
      WInv pi tiny f' w'
        (List.zipWith (setSlot pi ((List.zipWith changed v (updOf w.params pl)).any id)) v (updOf w.params pl)) ∧
      w'.fn = w.fn ∧ w'.names = w.names ∧ SameSig f f' ∧ FnOk tiny f' ∧
      (∀ n q, findP n f.ps = some q → n ∉ pl.map (·.1) → findP n f'.ps = some q) := by
  obtain ⟨f', w', e, hv', hfn, hnames, r⟩ := setParameters_real (pi := pi) ht hf hi.view hi.nodup hi.inv pl hpl
  exact ⟨f', w', e, hi.zipWith _ (setSlot_inv ht _) (setSlot_priv (by linarith) _) (fun hc => hc) hnames hv',
    hfn, hnames, r⟩

/-- inherited `matchParametersValues`: slot by slot `midSlot`; the function is not involved -/
theorem WInv.matchValues {pi tiny : ℝ} (ht : 0 < tiny) {f : Fn ℝ} {w : Wr ℝ} {v : W ℝ}
    (hi : WInv pi tiny f w v) (pl : List (Nat × ℝ)) :
    ∃ w', w.matchValues pi pl = .ok w' ∧ w'.fn = w.fn ∧ w'.names = w.names ∧
      WInv pi tiny f w' (List.zipWith (midSlot pi ((List.zipWith changed v (updOf w.params pl)).any id))
        v (updOf w.params pl)) := by
  obtain ⟨fps1, e, hv'⟩ := matchValues_obj_real pi ht hi.view hi.inv pl
  exact ⟨_, e, rfl, map_matchTP_names pl w.params, hi.zipWith _ (midSlot_inv ht _)
    (midSlot_priv (by linarith) _) (fun hc => hc) (map_matchTP_names pl w.params) hv'⟩

/-- the inherited setters that always notify (`setParametersValues`, `setAllParametersValues`,
`setParameterValue`): every copy is refreshed -/
theorem WInv.setValues {pi tiny : ℝ} (ht : 0 < tiny) {f : Fn ℝ} {w : Wr ℝ} {v : W ℝ}
    (hi : WInv pi tiny f w v) (pl : List (Nat × ℝ)) :
    ∃ w', w.setValues pi pl = .ok w' ∧ w'.fn = w.fn ∧ w'.names = w.names ∧
      WInv pi tiny f w' (List.zipWith (midSlot pi true) v (updOf w.params pl)) := by
  obtain ⟨fps', e, hv'⟩ := view_fire pi ht (view_match pl hi.view)
    (forall_zipWith matchOne_inv v (updOf w.params pl) hi.inv)
  have hmid := zipWith_mid pi true v (updOf w.params pl)
  rw [if_pos rfl] at hmid
  rw [hmid] at hv'
  refine ⟨{ w with params := w.params.map (matchTP pl), fps := fps' }, ?_, rfl, map_matchTP_names pl w.params,
    hi.zipWith true (midSlot_inv ht _) (midSlot_priv (by linarith) _) (fun hc => nomatch hc)
      (map_matchTP_names pl w.params) hv'⟩
  unfold Wr.setValues
  rw [List.map_congr_left (g := matchTP pl) (by
    intro p _; rw [matchTP_real]; cases lookupV p.1 pl <;> rfl)]
  simp only [e]

/-- preconditions of an operation in a world: indices designate existing objects, a new function
has distinct names and admissible values, the list given to the second constructor consists of
(copies of) the function's own parameters, an update through a wrapper names parameters the wrapper
has, a direct update of a function gives it accepted values -/
def OpOk (tiny : ℝ) (σ : World ℝ) : Op ℝ → Prop
  | .newFn ps => (ps.map (·.name)).Nodup ∧ ∀ p ∈ ps, Admits tiny p.shape p.value
  | .newFull g => g < σ.fns.length
  | .newSub g given => ∃ f, σ.fns[g]? = some f ∧ (given.map (·.name)).Nodup ∧
      ∀ q ∈ given, ∀ p, findP q.name f.ps = some p → p.shape = q.shape ∧ p.value = q.value
  | .copy j => j < σ.ws.length
  | .assign i j => i < σ.ws.length ∧ j < σ.ws.length
  | .set i pl => ∃ w, σ.ws[i]? = some w ∧ ∀ n ∈ pl.map (·.1), n ∈ w.names
  | .matchV i _ => i < σ.ws.length
  | .setVals i _ => i < σ.ws.length
  | .direct g pl => ∃ f, σ.fns[g]? = some f ∧
      ∀ q ∈ pl, ∀ p, findP q.name f.ps = some p → p.shape.Accepts q.value

theorem WorldInv.grow_fns {pi tiny : ℝ} {σ : World ℝ} (h : WorldInv pi tiny σ) (f0 : Fn ℝ)
    (hf0 : FnOk tiny f0) : WorldInv pi tiny { σ with fns := σ.fns ++ [f0] } := by
  refine ⟨?_, ?_⟩
  · intro f hf
    simp only [List.mem_append, List.mem_singleton] at hf
    rcases hf with hf | rfl
    · exact h.fns f hf
    · exact hf0
  · intro w hw
    obtain ⟨f, v, e, hi⟩ := h.ws w hw
    exact ⟨f, v, (List.getElem?_append_left (List.getElem_of_getElem? e).fst).trans e, hi⟩

theorem WorldInv.grow_ws {pi tiny : ℝ} {σ : World ℝ} (h : WorldInv pi tiny σ) (w0 : Wr ℝ)
    (hw0 : ∃ f v, σ.fns[w0.fn]? = some f ∧ WInv pi tiny f w0 v) :
    WorldInv pi tiny { σ with ws := σ.ws ++ [w0] } := by
  refine ⟨h.fns, ?_⟩
  intro w hw
  simp only [List.mem_append, List.mem_singleton] at hw
  rcases hw with hw | rfl
  · exact h.ws w hw
  · exact hw0

theorem WorldInv.set_ws {pi tiny : ℝ} {σ : World ℝ} (h : WorldInv pi tiny σ) (i : Nat) (w0 : Wr ℝ)
    (hw0 : ∃ f v, σ.fns[w0.fn]? = some f ∧ WInv pi tiny f w0 v) :
    WorldInv pi tiny { σ with ws := σ.ws.set i w0 } := by
  refine ⟨h.fns, ?_⟩
  intro w hw
  rcases List.mem_or_eq_of_mem_set hw with hw | rfl
  · exact h.ws w hw
  · exact hw0

/-- the function `g` moves to `f'` (same names and constraints, accepted point): every wrapper keeps
its invariant -/
theorem WorldInv.set_fn {pi tiny : ℝ} {σ : World ℝ} (h : WorldInv pi tiny σ) (g : Nat) (f f' : Fn ℝ)
    (hg : σ.fns[g]? = some f) (hs : SameSig f f') (hf' : FnOk tiny f') :
    WorldInv pi tiny { σ with fns := σ.fns.set g f' } := by
  refine ⟨?_, ?_⟩
  · intro f0 hf0
    rcases List.mem_or_eq_of_mem_set hf0 with hf0 | rfl
    · exact h.fns f0 hf0
    · exact hf'
  · intro w hw
    obtain ⟨f0, v, e, hi⟩ := h.ws w hw
    by_cases hwg : w.fn = g
    · rw [hwg, hg] at e; injection e with e; subst e
      obtain ⟨v', hi', _⟩ := hi.frame hs hf'
      exact ⟨f', v', by simp [hwg, (List.getElem_of_getElem? hg).fst], hi'⟩
    · refine ⟨f0, v, ?_, hi⟩
      simp only
      rw [List.getElem?_set_ne (fun e' => hwg e'.symm)]; exact e

/-- **every operation keeps the world invariant and raises nothing** -/
theorem world_step_ok {pi tiny : ℝ} (ht : 0 < tiny) {σ : World ℝ} (h : WorldInv pi tiny σ) (op : Op ℝ)
    (hop : OpOk tiny σ op) : ∃ σ', σ.step pi tiny op = .ok σ' ∧ WorldInv pi tiny σ' := by
  cases op with
  | newFn ps =>
    obtain ⟨hnd, hadm⟩ := hop
    exact ⟨_, rfl, h.grow_fns { ps := ps } ⟨hnd, fun p hp => admits_accepts (hadm p hp),
      fun p hp => (hadm p hp).2⟩⟩
  | newFull g =>
    have hg : g < σ.fns.length := hop
    have hf := h.fns _ (List.getElem_mem hg)
    obtain ⟨ps, v, e, hi, -⟩ := WInv.init pi ht σ.fns[g] g σ.fns[g].ps hf.nodup hf.own
    refine ⟨_, by simp [World.step, List.getElem?_eq_getElem hg, Wr.newFull, e]; rfl, ?_⟩
    exact h.grow_ws _ ⟨σ.fns[g], v, List.getElem?_eq_getElem hg, hi⟩
  | newSub g given =>
    obtain ⟨f, hg, hnd, hag⟩ := hop
    have hf := h.fns f (List.mem_of_getElem? hg)
    obtain ⟨ps, v, e, hi, -⟩ := WInv.init pi ht f g (common f given)
      (hnd.sublist ((List.filter_sublist (l := given)).map _)) (hf.common hag)
    refine ⟨_, by simp [World.step, hg, Wr.newSub, e]; rfl, ?_⟩
    exact h.grow_ws _ ⟨f, v, hg, hi⟩
  | copy j =>
    have hj : j < σ.ws.length := hop
    refine ⟨_, by simp [World.step, List.getElem?_eq_getElem hj]; rfl, ?_⟩
    exact h.grow_ws _ (h.ws _ (List.getElem_mem hj))
  | assign i j =>
    obtain ⟨hi, hj⟩ : i < σ.ws.length ∧ j < σ.ws.length := hop
    refine ⟨_, by simp [World.step, List.getElem?_eq_getElem hi, List.getElem?_eq_getElem hj]; rfl, ?_⟩
    exact h.set_ws i _ (h.ws _ (List.getElem_mem hj))
  | set i pl =>
    obtain ⟨w, hw, hpl⟩ := hop
    obtain ⟨f, v, hf, hi⟩ := h.ws w (List.mem_of_getElem? hw)
    obtain ⟨f', w', e, hi', hfn, -, hsig, hfok', -⟩ := hi.setParameters ht (h.fns f (List.mem_of_getElem? hf)) pl hpl
    refine ⟨_, by simp [World.step, hw, hf, e]; rfl, ?_⟩
    exact WorldInv.set_ws (σ := { σ with fns := σ.fns.set w.fn f' }) (h.set_fn w.fn f f' hf hsig hfok') i w'
      ⟨f', _, by simp [hfn, (List.getElem_of_getElem? hf).fst], hi'⟩
  | matchV i pl =>
    have hi : i < σ.ws.length := hop
    obtain ⟨f, v, hf, hinv⟩ := h.ws _ (List.getElem_mem hi)
    obtain ⟨w', e, hfn, -, hi'⟩ := hinv.matchValues ht pl
    refine ⟨_, by simp [World.step, List.getElem?_eq_getElem hi, e]; rfl, ?_⟩
    exact h.set_ws i _ ⟨f, _, hfn ▸ hf, hi'⟩
  | setVals i pl =>
    have hi : i < σ.ws.length := hop
    obtain ⟨f, v, hf, hinv⟩ := h.ws _ (List.getElem_mem hi)
    obtain ⟨w', e, hfn, -, hi'⟩ := hinv.setValues ht pl
    refine ⟨_, by simp [World.step, List.getElem?_eq_getElem hi, e]; rfl, ?_⟩
    exact h.set_ws i _ ⟨f, _, hfn ▸ hf, hi'⟩
  | direct g pl =>
    obtain ⟨f, hg, hok⟩ := hop
    have hfok := h.fns f (List.mem_of_getElem? hg)
    refine ⟨_, by simp [World.step, hg, Fn.matchValues_real f pl hok]; rfl, ?_⟩
    exact h.set_fn g f _ hg (Fn.pushed_sameSig f pl)
      (Fn.pushed_ok hfok pl hok (fun n q hq => (findP_some hq).2))

/-! ### histories -/

/-- the worlds reachable from the empty one by operations whose preconditions hold -/
inductive Reach (pi tiny : ℝ) : World ℝ → Prop
  | empty : Reach pi tiny {}
  | step {σ σ' : World ℝ} {op : Op ℝ} : Reach pi tiny σ → OpOk tiny σ op →
      σ.step pi tiny op = .ok σ' → Reach pi tiny σ'

theorem worldInv_empty (pi tiny : ℝ) : WorldInv pi tiny {} :=
  ⟨fun f hf => by simp at hf, fun w hw => by simp at hw⟩

theorem Reach.inv {pi tiny : ℝ} (ht : 0 < tiny) {σ : World ℝ} (h : Reach pi tiny σ) :
    WorldInv pi tiny σ := by
  induction h with
  | empty => exact worldInv_empty pi tiny
  | step _ hop e ih =>
    obtain ⟨σ'', e', hi⟩ := world_step_ok ht ih _ hop
    rw [e] at e'; injection e' with e'; subst e'
    exact hi

/-! ### witnesses for the non-vacuity statements of `Props/C11Copy.lean` -/

/-- the negation of the invariant is not vacuous: a copy whose `functionParameters_` were taken from
the function (as the first constructor does) instead of from the source wrapper -/
def copyFromFunction (f : Fn ℝ) (w : Wr ℝ) : Wr ℝ := { fn := w.fn, params := w.params, fps := f.ps }

/-- a function of five parameters mixing the configurations, for the non-vacuity examples -/
noncomputable def exPs : List (FParam ℝ) :=
  [⟨0, Shape.none, 7⟩, ⟨1, Shape.cc 0 1, 1 / 2⟩, ⟨2, Shape.gt 0, 2⟩, ⟨3, Shape.oo (-1) 1, 0⟩, ⟨4, Shape.le 3, 1⟩]

end Bpp.ReparamObj
