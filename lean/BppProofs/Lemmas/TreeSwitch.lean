import BppProofs.Lemmas.TreeRooted
import BppProofs.Lemmas.GraphSpec
/-
`switchNodes` on a consistent directed graph turns one relation round: effect on the relations,
on the edge table (same ids, same end points up to order), and on a rooted tree (re-rooting at a son
of the root).
-/
namespace Bpp.Graph
open AL

/-- the edge table with the end points of every edge put in order: the undirected edge set with
its edge identities -/
def uedges (g : G) : List (Nat × Nat × Nat) := g.edges.map (fun p => (p.1, min p.2.1 p.2.2, max p.2.1 p.2.2))

/-- what re-rooting steps keep: root aside, the same nodes, the same undirected edges with the same ids -/
structure SameShape (g g' : G) : Prop where
  keys : AL.keys g'.nodes = AL.keys g.nodes
  uedges : uedges g' = uedges g
  pending : g'.pending = []

theorem SameShape.trans {g1 g2 g3 : G} (h12 : SameShape g1 g2) (h23 : SameShape g2 g3) : SameShape g1 g3 :=
  ⟨h23.keys.trans h12.keys, h23.uedges.trans h12.uedges, h23.pending⟩

theorem SameShape.length {g g' : G} (h : SameShape g g') : g'.nodes.length = g.nodes.length := by
  have := congrArg List.length h.keys
  simpa [AL.keys] using this

theorem SameShape.hasNode {g g' : G} (h : SameShape g g') (n : Nat) : g'.hasNode n = g.hasNode n := by
  have h1 := G.mem_keys_hasNode g' n
  have h2 := G.mem_keys_hasNode g n
  rw [h.keys] at h1
  cases ha : g'.hasNode n <;> cases hb : g.hasNode n <;> simp_all

theorem SameShape.hasEdge {g g' : G} (h : SameShape g g') (e : Nat) : g'.hasEdge e = g.hasEdge e := by
  have hk : AL.keys g'.edges = AL.keys g.edges := by
    have := congrArg (List.map (fun p : Nat × Nat × Nat => p.1)) h.uedges
    simpa [Graph.uedges, AL.keys, List.map_map, Function.comp_def] using this
  have h1 := mem_keys_iff e g'.edges
  have h2 := mem_keys_iff e g.edges
  rw [hk] at h1
  unfold G.hasEdge has
  cases ha : (find e g'.edges).isSome <;> cases hb : (find e g.edges).isSome <;> simp_all

/-- what `switchNodes` did to the relation `f -> s` carried by edge `e` -/
structure Flipped (f s e : Nat) (g g' : G) : Prop where
  cons : Consistent g'
  dir : g'.directed = true
  keys : AL.keys g'.nodes = AL.keys g.nodes
  arc : ∀ x y, Arc g' x y ↔ ((x = s ∧ y = f) ∨ (¬ (x = f ∧ y = s) ∧ Arc g x y))
  edges : g'.edges = AL.set e (s, f) g.edges
  root : g'.root = g.root
  pending : g'.pending = g.pending

/-- `switchNodes`, called with the two nodes in either order, turns round the one relation between them -/
theorem switch_flip {g : G} (hc : Consistent g) (hd : g.directed = true) {f s e : Nat} (hO : g.outE f s = some e)
    (hne : f ≠ s) (hno : g.outE s f = none) :
    ∃ g', G.switchNodes f s g = .ok () g' ∧ G.switchNodes s f g = .ok () g' ∧ Flipped f s e g g' := by
  have hnf : g.hasNode f = true := G.outE_some_hasNode hO
  have hin := (G.cons_out_some hc hO).1
  have hns : g.hasNode s = true := G.inE_some_hasNode hin
  obtain ⟨g', hsf⟩ : ∃ g', G.switchFrom f s e g = .ok () g' := ⟨_, by unfold G.switchFrom; simp [hin, hno]; rfl⟩
  have sw := G.switchFrom_ok hO hsf
  refine ⟨g', by unfold G.switchNodes; simp [hd, hnf, hns, hO, hsf], by unfold G.switchNodes; simp [hd, hnf, hns, hO, hno, hsf],
    sw.consistent hc hd, sw.rest.1.trans hd, sw.keys, fun x y => ?_, sw.edges, sw.rest.2.2.2.1, sw.rest.2.2.2.2⟩
  unfold Arc
  rw [sw.outE]
  by_cases h1 : x = s ∧ y = f
  · simp [h1]
  · by_cases h2 : x = f ∧ y = s
    · obtain ⟨rfl, rfl⟩ := h2
      simp [hne, Ne.symm hne]
    · simp [h1, h2]

theorem uedges_set {es : List (Nat × (Nat × Nat))} (hs : Asc es) {e f s : Nat} (h : find e es = some (f, s)) :
    (AL.set e (s, f) es).map (fun p => (p.1, min p.2.1 p.2.2, max p.2.1 p.2.2)) =
      es.map (fun p => (p.1, min p.2.1 p.2.2, max p.2.1 p.2.2)) := by
  rw [G.set_present h, List.map_map]
  apply List.map_congr_left
  intro p hp
  simp only [Function.comp]
  by_cases hk : p.1 = e
  · have : find p.1 es = some p.2 := (mem_iff_find hs p.1 p.2).1 hp
    rw [hk, h] at this
    have h2 : p.2 = (f, s) := (Option.some.inj this).symm
    simp [hk, h2, Nat.min_comm, Nat.max_comm]
  · simp [hk]

/-- what `switchNodes` (succeeding or raising) and hence `orientate` on a directed graph keep: the
nodes, the undirected edge set with its edge ids, and the root -/
structure SwitchKept (g g' : G) : Prop where
  keys : AL.keys g'.nodes = AL.keys g.nodes
  uedges : uedges g' = uedges g
  root : g'.root = g.root

theorem SwitchKept.refl (g : G) : SwitchKept g g := ⟨rfl, rfl, rfl⟩

theorem SwitchKept.trans {g1 g2 g3 : G} (h12 : SwitchKept g1 g2) (h23 : SwitchKept g2 g3) : SwitchKept g1 g3 :=
  ⟨h23.keys.trans h12.keys, h23.uedges.trans h12.uedges, h23.root.trans h12.root⟩

theorem SwitchKept.setPending {g g' : G} (h : SwitchKept g g') (p : List Event) : SwitchKept g { g' with pending := p } :=
  ⟨h.keys, h.uedges, h.root⟩

/-- succeeding or raising, a self loop switched with itself included -/
theorem G.switchNodes_kept {g : G} (hc : Consistent g) (a b : Nat) : SwitchKept g (G.switchNodes a b g).state := by
  rcases hr : G.switchNodes a b g with ⟨u, g'⟩ | g'
  · obtain ⟨hd, f, s, e, sw⟩ := G.switchNodes_ok hr
    refine ⟨sw.keys, ?_, sw.rest.2.2.2.1⟩
    show uedges g' = uedges g
    unfold uedges; rw [sw.edges]
    exact uedges_set hc.sorted.edges (G.find_of_out hc hd sw.fwd)
  · rw [G.switchNodes_exc hr]; exact ⟨rfl, rfl, rfl⟩

theorem Flipped.sameShape {f s e : Nat} {g g' : G} (h : Flipped f s e g g') (hc : Consistent g) (hd : g.directed = true)
    (hO : g.outE f s = some e) (hq : g.pending = []) : SameShape g g' := by
  refine ⟨h.keys, ?_, by rw [h.pending, hq]⟩
  unfold uedges
  rw [h.edges]
  exact uedges_set hc.sorted.edges (G.find_of_out hc hd hO)

/-- consistency and the relations do not depend on the root nor on the pending notifications -/
theorem consistent_rootPending {g : G} (hc : Consistent g) (r : Nat) (p : List Event) :
    Consistent { g with root := r, pending := p } :=
  hc.of_same rfl rfl rfl (Nat.le_refl _) (Nat.le_refl _)

theorem DTree.rootPending {g : G} {P : PTree} (h : DTree g P) (r : Nat) (p : List Event) :
    DTree { g with root := r, pending := p } P :=
  ⟨consistent_rootPending h.cons r p, h.dir, h.wf, h.nodes, h.arc⟩

/-- turning round the relation between the root and one of its sons re-roots the tree at that son -/
theorem DTree.flip {g g' : G} {P : PTree} (h : DTree g P) {s e : Nat} (hs : P.par s = some P.root)
    (hf : Flipped P.root s e g g') : DTree g' (P.reroot s) := by
  have hwf := PTree.reroot_wf h.wf hs
  have hsr : s ≠ P.root := (h.wf.par_mem hs).2.1
  refine ⟨hf.cons, hf.dir, hwf, ?_, ?_⟩
  · intro n
    have : (P.reroot s).nodes = P.nodes := rfl
    rw [this, h.nodes n]
    have h1 := G.mem_keys_hasNode g' n
    have h2 := G.mem_keys_hasNode g n
    rw [hf.keys] at h1
    cases ha : g'.hasNode n <;> cases hb : g.hasNode n <;> simp_all
  · intro x y
    rw [hf.arc x y, h.arc x y]
    constructor
    · rintro (⟨rfl, rfl⟩ | ⟨hn, hp⟩)
      · exact PTree.reroot_par_root x
      · have hyr : y ≠ P.root := by intro e; rw [e, h.wf.par_root] at hp; cases hp
        have hys : y ≠ s := by
          intro e; subst e; rw [hs] at hp; cases hp; exact hn ⟨rfl, rfl⟩
        rw [PTree.reroot_par_other s y hyr hys]; exact hp
    · intro hp
      by_cases hyr : y = P.root
      · subst hyr; rw [PTree.reroot_par_root] at hp; cases hp; exact .inl ⟨rfl, rfl⟩
      · by_cases hys : y = s
        · subst hys; rw [PTree.reroot_par_new h.wf hs] at hp; cases hp
        · rw [PTree.reroot_par_other s y hyr hys] at hp
          exact .inr ⟨fun hh => hys hh.2, hp⟩

end Bpp.Graph
