import BppModel.SimplexObj
import BppProofs.Lemmas.Simplex
/-!
Lemmas about the object model `BppModel/SimplexObj.lean` over `ℝ`.
Part A: one object (all members): invariant `OK`, cache freshness `Fresh`, every member function.
Part B: the heap: separation `Sep`, load / store / allocation; what one call can do to it (`Effect`,
`applyH_effect`), from which the frame, the invariant `HInv` over admissible histories (`Adm`, `AdmRun`) and the
freshness of the caches (`HFresh`, `NoRaise`) follow; what copies carry.
Part C: the value-level objects `Simplex.St` / `Simplex.OSt` of `BppModel/Simplex.lean` are projections
of this model (`toSt`, `ProjO`).
-/
namespace Bpp.SimplexObj
open Bpp Bpp.Simplex

/-! ## Part A — one object -/

/-- everything of the invariant except "probabilities = image of the parameters" and the ordered values -/
structure Shape (o : Obj ℝ) : Prop where
  method : ValidMethod o.method
  dim_pos : 0 < o.dim
  dim_lt : o.dim < 2 ^ 31
  len : o.params.length = o.dim - 1
  inOpen : InOpen o.θ
  /-- `valpha_` has one entry per parameter for the local-ratio coding and is empty otherwise -/
  cache : if o.method = 2 then o.valpha.length = o.dim - 1 else o.valpha = []

/-- the invariant of an object, over all its data members -/
structure OK (o : Obj ℝ) : Prop extends Shape o where
  probs : probsOf o.method o.dim o.θ = some o.vProb
  values : ∀ v, o.vValues = some v → v = orderedValues o.vProb 1

/-- the ratio cache holds the ratios of the current parameters -/
def Fresh (o : Obj ℝ) : Prop := o.method = 2 → o.valpha = alphas o.θ

/-- every parameter carries the strict constraint `]0,1[` -/
def Strict (o : Obj ℝ) : Prop := ∀ p ∈ o.params, p.incl = false

/-- every parameter carries the constraint chosen at construction -/
def Uniform (o : Obj ℝ) : Prop := ∃ a, ∀ p ∈ o.params, p.incl = a

/-- same dimension, coding, class, number of parameters and constraints -/
structure SameShape (o o' : Obj ℝ) : Prop where
  dim : o'.dim = o.dim
  method : o'.method = o.method
  cls : o'.vValues.isSome = o.vValues.isSome
  incl : o'.params.map (·.incl) = o.params.map (·.incl)

theorem SameShape.refl (o : Obj ℝ) : SameShape o o := ⟨rfl, rfl, rfl, rfl⟩
theorem SameShape.trans {a b c : Obj ℝ} (h1 : SameShape a b) (h2 : SameShape b c) : SameShape a c :=
  ⟨h2.dim.trans h1.dim, h2.method.trans h1.method, h2.cls.trans h1.cls, h2.incl.trans h1.incl⟩

theorem SameShape.len {o o' : Obj ℝ} (h : SameShape o o') : o'.params.length = o.params.length := by
  have := congrArg List.length h.incl
  simpa using this

def HasConstraint (a : Bool) (o : Obj ℝ) : Prop := ∀ p ∈ o.params, p.incl = a

/-- forget the cache, the ordered values and the per-parameter constraints (all equal to `a`) -/
noncomputable def toSt (a : Bool) (o : Obj ℝ) : St ℝ := ⟨o.dim, o.method, a, o.θ, o.vProb⟩

theorem SameShape.hasConstraint {o o' : Obj ℝ} (h : SameShape o o') {a : Bool} (hc : HasConstraint a o) :
    HasConstraint a o' := by
  intro p hp
  have hm : p.incl ∈ o'.params.map (·.incl) := List.mem_map.mpr ⟨p, hp, rfl⟩
  rw [h.incl] at hm
  obtain ⟨q, hq, e⟩ := List.mem_map.mp hm
  exact e ▸ hc q hq

theorem SameShape.strict {o o' : Obj ℝ} (h : SameShape o o') (hs : Strict o) : Strict o' :=
  h.hasConstraint hs

theorem SameShape.uniform {o o' : Obj ℝ} (h : SameShape o o') (hs : Uniform o) : Uniform o' :=
  hs.imp fun _ ha => h.hasConstraint ha

theorem θ_length (o : Obj ℝ) : o.θ.length = o.params.length := by simp [Obj.θ]

theorem Shape.with_vValues {o : Obj ℝ} (h : Shape o) (vv : Option (List ℝ)) : Shape { o with vValues := vv } :=
  ⟨h.method, h.dim_pos, h.dim_lt, h.len, h.inOpen, h.cache⟩

theorem OK.inv {o : Obj ℝ} (h : OK o) (a : Bool) : Inv (toSt a o) :=
  ⟨h.method, h.dim_pos, h.dim_lt, (θ_length o).trans h.len, h.inOpen, h.probs⟩

theorem OK.spec {o : Obj ℝ} (h : OK o) :
    o.vProb.sum = 1 ∧ AllPos o.vProb ∧ o.vProb.length = o.dim :=
  (h.inv false).sum_one

theorem OK.ordered_spec {o : Obj ℝ} (h : OK o) (v : List ℝ) (hv : o.vValues = some v) :
    NonIncreasing v ∧ v.sum = 1 ∧ (∀ x ∈ v, 0 ≤ x) ∧ v.length = o.dim :=
  OInv.spec (o := ⟨toSt false o, v⟩) ⟨h.inv false, h.values v hv⟩

theorem alphas_length (θ : List ℝ) : (alphas θ).length = θ.length := by simp [alphas]

theorem probsOf_two (dim : Nat) (θ : List ℝ) : probsOf 2 dim θ = some (probsLocalFrom dim (alphas θ)) := rfl

/-- the probabilities after a notification -/
noncomputable def firedProbs (o : Obj ℝ) : List ℝ :=
  if o.dim = 0 then o.vProb else (probsOf o.method o.dim o.θ).getD o.vProb

/-- `fireParameterChanged` in closed form: the probabilities are recomputed from the parameters, the
ratio cache of the local-ratio coding is rewritten, the ordered values (if any) are the tail sums of
the new probabilities; nothing else is written, and the old cache is not read -/
theorem fire_eq (o : Obj ℝ) :
    o.fire = { o with
      vProb := firedProbs o
      valpha := if o.dim ≠ 0 ∧ o.method = 2 then alphas o.θ else o.valpha
      vValues := o.vValues.map fun _ => orderedValues (firedProbs o) 1 } := by
  have hr : ∀ q : Obj ℝ, q.refresh = { q with vValues := q.vValues.map (fun _ => orderedValues q.vProb 1) } := by
    intro q; obtain ⟨ps, dim, m, vp, va, vv⟩ := q; cases vv <;> rfl
  have hb : o.fireBase = { o with
      vProb := firedProbs o
      valpha := if o.dim ≠ 0 ∧ o.method = 2 then alphas o.θ else o.valpha } := by
    unfold Obj.fireBase firedProbs
    by_cases hd : o.dim = 0
    · rw [if_pos hd, if_pos hd, if_neg (fun c => c.1 hd)]
    · rw [if_neg hd, if_neg hd]
      split <;> simp_all [probsOf, probsLocal, probsLocalFrom]
  rw [Obj.fire, hr, hb]

theorem fire_params (o : Obj ℝ) : o.fire.params = o.params := by rw [fire_eq]

theorem fire_θ (o : Obj ℝ) : o.fire.θ = o.θ := by rw [fire_eq]; rfl

theorem fire_sameShape (o : Obj ℝ) : SameShape o o.fire := by
  rw [fire_eq]; exact ⟨rfl, rfl, by simp, rfl⟩

theorem toSt_fire (a : Bool) (o : Obj ℝ) : toSt a o.fire = Simplex.fire (toSt a o) := by
  rw [fire_eq]
  unfold toSt Simplex.fire firedProbs Obj.θ
  by_cases hd : o.dim = 0
  · simp [hd]
  · cases h : probsOf o.method o.dim (o.params.map (·.value)) <;> simp [hd, h]

/-- `fireParameterChanged` on an object of the right shape re-establishes the whole invariant and a
fresh cache, whatever `vProb_`, `valpha_` (of the right size) and `vValues_` held before -/
theorem fire_ok (o : Obj ℝ) (h : Shape o) : OK o.fire ∧ Fresh o.fire := by
  have hθ : o.θ.length = o.dim - 1 := (θ_length o).trans h.len
  have hi : Inv (toSt false o.fire) := by
    rw [toSt_fire]; exact fire_inv _ h.method h.dim_pos h.dim_lt hθ h.inOpen
  rw [fire_eq] at hi ⊢
  refine ⟨⟨⟨h.method, h.dim_pos, h.dim_lt, h.len, h.inOpen, ?_⟩, hi.probs, ?_⟩, fun hm => if_pos ⟨h.dim_pos.ne', hm⟩⟩
  · show if o.method = 2 then (if o.dim ≠ 0 ∧ o.method = 2 then alphas o.θ else o.valpha).length = o.dim - 1
      else (if o.dim ≠ 0 ∧ o.method = 2 then alphas o.θ else o.valpha) = []
    by_cases hm : o.method = 2
    · rw [if_pos hm, if_pos ⟨h.dim_pos.ne', hm⟩, alphas_length, hθ]
    · rw [if_neg hm, if_neg (fun c => hm c.2)]; exact (if_neg hm ▸ h.cache :)
  · intro v hv
    cases hw : o.vValues with
    | none => rw [hw] at hv; cases hv
    | some w => rw [hw] at hv; exact (Option.some.inj hv).symm

/-- every value requested for one of the `n` names from index `i` on lies in the open interval -/
def ReqOpen (req : Nat → Option ℝ) (i n : Nat) : Prop :=
  ∀ j v, i ≤ j → j < i + n → req j = some v → 0 < v ∧ v < 1

theorem ReqOpen.tail {req : Nat → Option ℝ} {i n : Nat} (h : ReqOpen req i (n + 1)) : ReqOpen req (i + 1) n :=
  fun j v h1 h2 e => h j v (by omega) (by omega) e

theorem writeFrom_length (req : Nat → Option ℝ) (i : Nat) (ps : List (Param ℝ)) :
    (writeFrom req i ps).length = ps.length := by
  induction ps generalizing i with
  | nil => rfl
  | cons p ps ih => simp [writeFrom, ih]

theorem writeFrom_incl (req : Nat → Option ℝ) (i : Nat) (ps : List (Param ℝ)) :
    (writeFrom req i ps).map (·.incl) = ps.map (·.incl) := by
  induction ps generalizing i with
  | nil => rfl
  | cons p ps ih =>
    simp only [writeFrom, List.map_cons, ih]
    congr 1
    cases req i with
    | none => rfl
    | some v => simp only; split <;> rfl

theorem writeFrom_inOpen (req : Nat → Option ℝ) (i : Nat) (ps : List (Param ℝ))
    (h : InOpen (ps.map (·.value))) (hr : ReqOpen req i ps.length) :
    InOpen ((writeFrom req i ps).map (·.value)) := by
  induction ps generalizing i with
  | nil => exact List.forall_mem_nil _
  | cons p ps ih =>
    obtain ⟨hp, ht⟩ := inOpen_cons.mp h
    refine inOpen_cons.mpr ⟨?_, ih (i + 1) ht hr.tail⟩
    cases hq : req i with
    | none => exact hp
    | some v =>
      dsimp only
      split
      · exact hp
      · exact hr i v (le_refl _) (by simp) hq

/-- under the strict constraint whatever passes the test lies in the open interval -/
theorem test_strict (req : Nat → Option ℝ) (i : Nat) (ps : List (Param ℝ))
    (ht : testFrom req i ps = true) (hs : ∀ p ∈ ps, p.incl = false) : ReqOpen req i ps.length := by
  induction ps generalizing i with
  | nil => intro j v h1 h2 _; simp at h2; omega
  | cons p ps ih =>
    simp only [testFrom, Bool.and_eq_true] at ht
    intro j v h1 h2 e
    by_cases hj : j = i
    · subst hj
      have h0 := ht.1
      rw [e, hs p (by simp)] at h0
      exact (inConstraint_open v).mp h0
    · exact ih (i + 1) ht.2 (fun q hq => hs q (by simp [hq])) j v (by omega) (by simp at h2; omega) e

theorem test_of_open (req : Nat → Option ℝ) (i : Nat) (ps : List (Param ℝ))
    (hr : ReqOpen req i ps.length) : testFrom req i ps = true := by
  induction ps generalizing i with
  | nil => rfl
  | cons p ps ih =>
    simp only [testFrom, Bool.and_eq_true]
    refine ⟨?_, ih (i + 1) hr.tail⟩
    cases hq : req i with
    | none => rfl
    | some v => exact inConstraint_of_open p.incl v (hr i v (le_refl _) (by simp) hq)

theorem writeFrom_unchanged (req : Nat → Option ℝ) (i : Nat) (ps : List (Param ℝ))
    (h : changedFrom req i ps = false) : writeFrom req i ps = ps := by
  induction ps generalizing i with
  | nil => rfl
  | cons p ps ih =>
    simp only [changedFrom, Bool.or_eq_false_iff] at h
    simp only [writeFrom, ih (i + 1) h.2]
    congr 1
    cases hq : req i with
    | none => rfl
    | some v =>
      have h1 := h.1
      rw [hq] at h1
      simp only [Bool.not_eq_false'] at h1
      simp [h1]

theorem reqOpen_of_test {o : Obj ℝ} {req : Nat → Option ℝ} (hr : ReqOpen req 1 o.params.length ∨ Strict o)
    (ht : testFrom req 1 o.params = true) : ReqOpen req 1 o.params.length :=
  hr.elim id (test_strict req 1 o.params ht)

theorem shape_write (o : Obj ℝ) (h : Shape o) (req : Nat → Option ℝ) (hr : ReqOpen req 1 o.params.length) :
    Shape { o with params := writeFrom req 1 o.params } :=
  ⟨h.method, h.dim_pos, h.dim_lt, by simp only [writeFrom_length]; exact h.len,
    writeFrom_inOpen req 1 o.params h.inOpen hr, h.cache⟩

theorem sameShape_write (o : Obj ℝ) (req : Nat → Option ℝ) :
    SameShape o { o with params := writeFrom req 1 o.params } :=
  ⟨rfl, rfl, rfl, writeFrom_incl req 1 o.params⟩

/-- an accepted `matchParametersValues`: every requested value passed the test; the object is notified after
the values were written if one differed, and returned as it is otherwise -/
theorem matchReq_fired {o o' : Obj ℝ} {req : Nat → Option ℝ} (e : o.matchReq req = .ok o') :
    testFrom req 1 o.params = true ∧
    ((changedFrom req 1 o.params = true ∧ o' = ({ o with params := writeFrom req 1 o.params } : Obj ℝ).fire) ∨
      (changedFrom req 1 o.params = false ∧ o' = o)) := by
  unfold Obj.matchReq at e
  split at e
  · next ht =>
    split at e
    · next hc => cases e; exact ⟨ht, Or.inl ⟨hc, rfl⟩⟩
    · next hc => cases e; exact ⟨ht, Or.inr ⟨eq_false_of_ne_true hc, rfl⟩⟩
  · cases e

theorem matchReq_same (o o' : Obj ℝ) (req : Nat → Option ℝ) (e : o.matchReq req = .ok o') : SameShape o o' := by
  rcases (matchReq_fired e).2 with ⟨_, rfl⟩ | ⟨_, rfl⟩
  · exact (sameShape_write o req).trans (fire_sameShape _)
  · exact SameShape.refl _

theorem setReq_same (o o' : Obj ℝ) (req : Nat → Option ℝ) (e : o.setReq req = .ok o') : SameShape o o' := by
  unfold Obj.setReq at e
  split at e
  · cases e; exact (sameShape_write o req).trans (fire_sameShape _)
  · cases e

/-- an accepted `matchParametersValues` on an object of the right shape: the parameters are the old
ones overwritten by the request; the object is returned as it is (nothing differed) or notified -/
theorem matchReq_gen (o : Obj ℝ) (h : Shape o) (req : Nat → Option ℝ)
    (hr : ReqOpen req 1 o.params.length ∨ Strict o) (o' : Obj ℝ) (e : o.matchReq req = .ok o') :
    o'.params = writeFrom req 1 o.params ∧ (o' = o ∨ (OK o' ∧ Fresh o')) := by
  obtain ⟨ht, ⟨_, rfl⟩ | ⟨hc, ho⟩⟩ := matchReq_fired e
  · exact ⟨fire_params _, Or.inr (fire_ok _ (shape_write o h req (reqOpen_of_test hr ht)))⟩
  · exact ⟨ho ▸ (writeFrom_unchanged req 1 o.params hc).symm, Or.inl ho⟩

theorem matchReq_ok (o : Obj ℝ) (h : OK o) (req : Nat → Option ℝ)
    (hr : ReqOpen req 1 o.params.length ∨ Strict o) (o' : Obj ℝ) (e : o.matchReq req = .ok o') :
    OK o' ∧ (Fresh o → Fresh o') := by
  rcases (matchReq_gen o h.toShape req hr o' e).2 with rfl | ⟨h1, h2⟩
  · exact ⟨h, id⟩
  · exact ⟨h1, fun _ => h2⟩

theorem matchReq_accepts (o : Obj ℝ) (req : Nat → Option ℝ) (hr : ReqOpen req 1 o.params.length) :
    ∃ o', o.matchReq req = .ok o' := by
  unfold Obj.matchReq
  rw [test_of_open req 1 o.params hr]
  simp only [if_true]
  split <;> exact ⟨_, rfl⟩

theorem setReq_ok (o : Obj ℝ) (h : Shape o) (req : Nat → Option ℝ)
    (hr : ReqOpen req 1 o.params.length ∨ Strict o) (o' : Obj ℝ) (e : o.setReq req = .ok o') :
    OK o' ∧ Fresh o' := by
  unfold Obj.setReq at e
  split at e
  · next ht => cases e; exact fire_ok _ (shape_write o h req (reqOpen_of_test hr ht))
  · cases e

theorem param?_some (o : Obj ℝ) (i : Nat) (p : Param ℝ) (h : o.param? i = some p) :
    p ∈ o.params ∧ o.params[i - 1]? = some p := by
  unfold Obj.param? at h
  split at h
  · cases h
  · exact ⟨List.mem_of_getElem? h, h⟩

theorem sameShape_set (o : Obj ℝ) (k : Nat) (p : Param ℝ) (v : ℝ) (hp : o.params[k]? = some p) :
    SameShape o { o with params := o.params.set k { p with value := v } } := by
  obtain ⟨hlt, rfl⟩ := List.getElem?_eq_some_iff.mp hp
  refine ⟨rfl, rfl, rfl, ?_⟩
  simp only [List.map_set]
  have h : (o.params.map (·.incl))[k]'(by simpa using hlt) = (o.params[k]).incl := List.getElem_map ..
  rw [← h]; exact List.set_getElem_self _

/-- an accepted `setParameterValue` is a notification, after the value was stored if it differed -/
theorem setOne_fired {o o' : Obj ℝ} {i : Nat} {v : ℝ} (e : o.setOne i v = .ok o') :
    (∃ p ∈ o.params, o.params[i - 1]? = some p ∧ inConstraint p.incl v = true ∧
      o' = ({ o with params := o.params.set (i - 1) { p with value := v } } : Obj ℝ).fire) ∨ o' = o.fire := by
  unfold Obj.setOne at e
  cases hp : o.param? i with
  | none => simp [hp] at e
  | some p =>
    simp only [hp] at e
    split at e
    · split at e
      · next hc => cases e; exact Or.inl ⟨p, (param?_some o i p hp).1, (param?_some o i p hp).2, hc, rfl⟩
      · cases e
    · cases e; exact Or.inr rfl

theorem setOne_same (o o' : Obj ℝ) (i : Nat) (v : ℝ) (e : o.setOne i v = .ok o') : SameShape o o' := by
  rcases setOne_fired e with ⟨p, _, hget, _, rfl⟩ | rfl
  · exact (sameShape_set o _ p v hget).trans (fire_sameShape _)
  · exact fire_sameShape o

theorem setOne_ok (o : Obj ℝ) (h : Shape o) (i : Nat) (v : ℝ) (hv : (0 < v ∧ v < 1) ∨ Strict o)
    (o' : Obj ℝ) (e : o.setOne i v = .ok o') : OK o' ∧ Fresh o' := by
  rcases setOne_fired e with ⟨p, hmem, _, hc, rfl⟩ | rfl
  · have hv' : 0 < v ∧ v < 1 := hv.elim id fun hs => (inConstraint_open v).mp (hs p hmem ▸ hc)
    exact fire_ok _ ⟨h.method, h.dim_pos, h.dim_lt, (List.length_set ..).trans h.len, by
      show InOpen ((o.params.set _ _).map _)
      rw [List.map_set]; exact h.inOpen.set _ hv', h.cache⟩
  · exact fire_ok o h

theorem reqOfList_open (θ : List ℝ) (n : Nat) (h : InOpen θ) : ReqOpen (reqOfList θ) 1 n := by
  intro j v h1 _ e
  unfold reqOfList at e
  have : ¬ j = 0 := by omega
  simp only [this, if_false] at e
  obtain ⟨hlt, he⟩ := List.getElem?_eq_some_iff.mp e
  exact h v (he ▸ List.getElem_mem hlt)

theorem ratios_length (p : List ℝ) : (ratios p).length = p.length - 1 := by
  induction p with
  | nil => rfl
  | cons a r ih =>
    cases r with
    | nil => rfl
    | cons b t => simp only [ratios, List.length_cons] at ih ⊢; omega

theorem req_cons {req : Nat → Option ℝ} {i : Nat} {t : ℝ} {θ : List ℝ}
    (h : ∀ k, req (i + k) = (t :: θ)[k]?) : req i = some t ∧ ∀ k, req (i + 1 + k) = θ[k]? :=
  ⟨h 0, fun k => by rw [Nat.add_assoc, Nat.add_comm 1 k]; exact h (k + 1)⟩

theorem writeFrom_full (req : Nat → Option ℝ) (i : Nat) (ps : List (Param ℝ)) (θ : List ℝ)
    (hl : θ.length = ps.length) (hreq : ∀ k, req (i + k) = θ[k]?) :
    (writeFrom req i ps).map (·.value) = θ := by
  induction ps generalizing i θ with
  | nil => exact (List.length_eq_zero_iff.mp hl).symm
  | cons p ps ih =>
    obtain ⟨t, θ, rfl⟩ := List.exists_cons_of_length_eq_add_one hl
    obtain ⟨h0, hk⟩ := req_cons hreq
    simp only [writeFrom, h0, List.map_cons, ih (i + 1) θ (Nat.succ_injective hl) hk]
    congr 1
    split
    · next he => exact (ScalarReal.eqb_iff _ _).mp he
    · rfl

theorem reqOfList_at (θ : List ℝ) (k : Nat) : reqOfList θ (1 + k) = θ[k]? := by simp [reqOfList]

theorem writeFrom_reqOfList (ps : List (Param ℝ)) (θ : List ℝ) (hl : θ.length = ps.length) :
    (writeFrom (reqOfList θ) 1 ps).map (·.value) = θ :=
  writeFrom_full _ 1 ps θ hl (reqOfList_at θ)

/-- for parameters in the open interval the ratio written by the setter / the vector constructor
is the ratio `fireParameterChanged` computes from the parameter -/
theorem ratios_eq_alphas (p : List ℝ) (h : InOpen (paramsLocal p)) : ratios p = alphas (paramsLocal p) := by
  induction p with
  | nil => rfl
  | cons a r ih =>
    cases r with
    | nil => rfl
    | cons b t =>
      obtain ⟨h0, ht⟩ := inOpen_cons.mp h
      have hab : a + b ≠ 0 := fun hz => by rw [hz, div_zero] at h0; exact lt_irrefl _ h0.1
      rw [ratios, paramsLocal, alphas, List.map_cons, ← alphas, ← ih ht, ScalarReal.one_eq, alpha_of_ratio hab]

/-- every member but the ratio cache -/
structure EqButCache (a b : Obj ℝ) : Prop where
  params : a.params = b.params
  dim : a.dim = b.dim
  method : a.method = b.method
  vProb : a.vProb = b.vProb
  vValues : a.vValues = b.vValues

theorem EqButCache.refl (a : Obj ℝ) : EqButCache a a := ⟨rfl, rfl, rfl, rfl, rfl⟩

theorem eqButCache_iff (a b : Obj ℝ) : EqButCache a b ↔ a = { b with valpha := a.valpha } := by
  constructor
  · intro h
    cases a; cases b
    obtain ⟨h1, h2, h3, h4, h5⟩ := h
    simp only at h1 h2 h3 h4 h5
    subst h1 h2 h3 h4 h5
    rfl
  · intro h; rw [h]; exact ⟨rfl, rfl, rfl, rfl, rfl⟩

theorem cacheWrite_eq (o : Obj ℝ) (p : List ℝ) :
    o.cacheWrite p = { o with valpha := if o.method = 2 then ratios p else o.valpha } := by
  unfold Obj.cacheWrite; split <;> rfl

theorem cacheWrite_eqButCache (o : Obj ℝ) (p : List ℝ) : EqButCache (o.cacheWrite p) o := by
  rw [cacheWrite_eq]; exact ⟨rfl, rfl, rfl, rfl, rfl⟩

theorem cacheWrite_same (o : Obj ℝ) (p : List ℝ) : SameShape o (o.cacheWrite p) := by
  rw [cacheWrite_eq]; exact ⟨rfl, rfl, rfl, rfl⟩

theorem setFrequenciesBase_of_bad (o : Obj ℝ) (p : List ℝ) (hd : o.dim ≠ 0)
    (h : sumOk p = false ∨ p.length ≠ o.dim) : o.setFrequenciesBase p = (o, some .sum) := by
  unfold Obj.setFrequenciesBase
  rcases h with h | h
  · simp [hd, h]
  · by_cases hs : sumOk p = true <;> simp [hd, hs, h]

theorem setFrequenciesBase_of_good (o : Obj ℝ) (p : List ℝ) (hd : o.dim ≠ 0) (hs : sumOk p = true)
    (hl : p.length = o.dim) :
    o.setFrequenciesBase p =
      exceptToPair (o.cacheWrite p) ((o.cacheWrite p).matchReq (reqOfList (paramsOf o.method p))) := by
  have htake : p.take o.dim = p := by rw [← hl]; exact List.take_length
  simp only [Obj.setFrequenciesBase, hd, if_false, hs, Bool.not_true, Bool.false_eq_true, hl, ne_eq,
    not_true_eq_false, htake]
  cases (o.cacheWrite p).matchReq (reqOfList (paramsOf o.method p)) <;> rfl

/-- the three ways `Simplex::setFrequencies` ends on an object of positive dimension -/
theorem setFrequenciesBase_cases (o : Obj ℝ) (p : List ℝ) (hd : o.dim ≠ 0) :
    o.setFrequenciesBase p = (o, some .sum) ∨
    (p.length = o.dim ∧
      ((∃ o2, (o.cacheWrite p).matchReq (reqOfList (paramsOf o.method p)) = .ok o2 ∧
          o.setFrequenciesBase p = (o2, none)) ∨
       (∃ e, (o.cacheWrite p).matchReq (reqOfList (paramsOf o.method p)) = .error e ∧
          o.setFrequenciesBase p = (o.cacheWrite p, some e)))) := by
  by_cases hs : sumOk p = true
  · by_cases hl : p.length = o.dim
    · rw [setFrequenciesBase_of_good o p hd hs hl]
      refine Or.inr ⟨hl, ?_⟩
      cases (o.cacheWrite p).matchReq (reqOfList (paramsOf o.method p)) with
      | ok o2 => exact Or.inl ⟨o2, rfl, rfl⟩
      | error e => exact Or.inr ⟨e, rfl, rfl⟩
    · exact Or.inl (setFrequenciesBase_of_bad o p hd (Or.inr hl))
  · exact Or.inl (setFrequenciesBase_of_bad o p hd (Or.inl (eq_false_of_ne_true hs)))

/-- the object after the cache write of Simplex.cpp:234 still has the right shape -/
theorem shape_cacheWrite (o : Obj ℝ) (h : Shape o) (p : List ℝ) (hl : p.length = o.dim) :
    Shape (o.cacheWrite p) ∧ SameShape o (o.cacheWrite p) := by
  refine ⟨?_, cacheWrite_same o p⟩
  rw [cacheWrite_eq]
  refine ⟨h.method, h.dim_pos, h.dim_lt, h.len, h.inOpen, ?_⟩
  show if o.method = 2 then (if o.method = 2 then ratios p else o.valpha).length = o.dim - 1
    else (if o.method = 2 then ratios p else o.valpha) = []
  by_cases hm : o.method = 2
  · rw [if_pos hm, if_pos hm, ratios_length, hl]
  · rw [if_neg hm, if_neg hm]; exact (if_neg hm ▸ h.cache :)

theorem ok_cacheWrite (o : Obj ℝ) (h : OK o) (p : List ℝ) (hl : p.length = o.dim) :
    OK (o.cacheWrite p) ∧ SameShape o (o.cacheWrite p) := by
  obtain ⟨s1, s2⟩ := shape_cacheWrite o h.toShape p hl
  refine ⟨⟨s1, ?_, ?_⟩, s2⟩ <;> rw [cacheWrite_eq]
  · exact h.probs
  · exact h.values

theorem fresh_cacheWrite (o : Obj ℝ) (p : List ℝ) (hθ : o.θ = paramsOf o.method p) (hin : InOpen o.θ) :
    Fresh (o.cacheWrite p) := by
  rw [cacheWrite_eq]
  intro hm2
  change o.method = 2 at hm2
  rw [hθ, hm2] at hin
  show (if o.method = 2 then ratios p else o.valpha) = alphas o.θ
  rw [if_pos hm2, hθ, hm2]
  exact ratios_eq_alphas p hin

/-- hypothesis on the vector given to `setFrequencies`: inside the property's quantifier, or — on an
object with the strict constraint — any vector of at least `dim` entries (a vector of any other size
than `dim` is rejected by the size test of Simplex.cpp:219, `setFrequenciesBase_of_bad`; of the second
alternative the proofs use `Strict o` only) -/
def FreqArg (o : Obj ℝ) (p : List ℝ) : Prop :=
  (ValidProbs p ∧ p.length = o.dim) ∨ (Strict o ∧ o.dim ≤ p.length)

/-- an accepted `Simplex::setFrequencies` (the vector has passed the sum and size tests): the parameters
are those of the vector and the cache is fresh; the object is the old one with the cache written, or a
notified one -/
theorem setFrequenciesBase_accepted (o : Obj ℝ) (h : Shape o) (p : List ℝ) (hl : p.length = o.dim)
    (hr : ReqOpen (reqOfList (paramsOf o.method p)) 1 o.params.length ∨ Strict o) (o2 : Obj ℝ)
    (hm : (o.cacheWrite p).matchReq (reqOfList (paramsOf o.method p)) = .ok o2) :
    o2.θ = paramsOf o.method p ∧ Fresh o2 ∧ SameShape o o2 ∧ (o2 = o.cacheWrite p ∨ OK o2) := by
  obtain ⟨c1, c2⟩ := shape_cacheWrite o h p hl
  have c := cacheWrite_eqButCache o p
  obtain ⟨hw, hcase⟩ := matchReq_gen _ c1 _ (by rw [c.params]; exact hr.imp_right c2.strict) o2 hm
  have hθ : o2.θ = paramsOf o.method p := by
    rw [Obj.θ, hw, c.params]
    exact writeFrom_reqOfList o.params _ (by rw [paramsOf_length _ _ h.method, hl, h.len])
  refine ⟨hθ, ?_, c2.trans (matchReq_same _ _ _ hm), hcase.imp_right And.left⟩
  rcases hcase with rfl | ⟨_, h2⟩
  · -- nothing changed: the parameters WERE those of the vector, and the cache holds its ratios
    rw [Obj.θ, c.params] at hθ
    exact fresh_cacheWrite o p hθ h.inOpen
  · exact h2

/-- `Simplex::setFrequencies` on an object that satisfies the invariant: it still does afterwards,
accepted or not; accepted, the cache is fresh -/
theorem setFrequenciesBase_pres (o : Obj ℝ) (h : OK o) (p : List ℝ) (hp : FreqArg o p) :
    OK (o.setFrequenciesBase p).1 ∧ SameShape o (o.setFrequenciesBase p).1 ∧
    ((o.setFrequenciesBase p).2 = none → Fresh (o.setFrequenciesBase p).1) := by
  rcases setFrequenciesBase_cases o p h.dim_pos.ne' with e | ⟨hl, ⟨o2, hm, e⟩ | ⟨err, hm, e⟩⟩ <;> rw [e]
  · exact ⟨h, SameShape.refl _, fun hn => by cases hn⟩
  · obtain ⟨_, a2, a3, a4⟩ := setFrequenciesBase_accepted o h.toShape p hl
      (hp.imp (fun hv => reqOfList_open _ _ (paramsOf_inOpen o.method p h.method hv.1.pos hv.1.sum hv.1.len))
        And.left) o2 hm
    exact ⟨a4.elim (fun e2 => e2 ▸ (ok_cacheWrite o h p hl).1) id, a3, fun _ => a2⟩
  · obtain ⟨c1, c2⟩ := ok_cacheWrite o h p hl
    exact ⟨c1, c2, fun hn => by cases hn⟩

/-- a vector inside the property's quantifier is accepted and returned unchanged by the getter; the
object need only have the right shape, and hold the vector already if its parameters are those of
the vector (inside the constructors it is not yet consistent) -/
theorem setFrequenciesBase_roundtrip_gen (o : Obj ℝ) (h : Shape o) (p : List ℝ) (hv : ValidProbs p)
    (hl : p.length = o.dim) (hsame : o.θ = paramsOf o.method p → o.vProb = p) :
    ∃ o', o.setFrequenciesBase p = (o', none) ∧ Shape o' ∧ probsOf o'.method o'.dim o'.θ = some o'.vProb ∧
      ((∀ v, o.vValues = some v → v = orderedValues o.vProb 1) →
        ∀ v, o'.vValues = some v → v = orderedValues o'.vProb 1) ∧
      Fresh o' ∧ o'.vProb = p ∧ o'.θ = paramsOf o.method p ∧ SameShape o o' := by
  have hopen : ReqOpen (reqOfList (paramsOf o.method p)) 1 o.params.length :=
    reqOfList_open _ _ (paramsOf_inOpen o.method p h.method hv.pos hv.sum hv.len)
  have c := cacheWrite_eqButCache o p
  obtain ⟨o2, hm⟩ := matchReq_accepts (o.cacheWrite p) _ (by rw [c.params]; exact hopen)
  obtain ⟨hθ, a2, a3, a4⟩ := setFrequenciesBase_accepted o h p hl (Or.inl hopen) o2 hm
  have e : o.setFrequenciesBase p = (o2, none) := by
    rw [setFrequenciesBase_of_good o p h.dim_pos.ne' (sumOk_of p hv.sum) hl, hm]; rfl
  rcases a4 with rfl | hok
  · have hpr : (o.cacheWrite p).vProb = p := c.vProb.trans (hsame (by rw [Obj.θ, ← c.params]; exact hθ))
    refine ⟨_, e, (shape_cacheWrite o h p hl).1, ?_, fun hval => by rw [c.vValues, c.vProb]; exact hval, a2, hpr, hθ, a3⟩
    rw [hθ, c.dim, c.method, hpr, ← hl]
    exact roundtrip_all o.method p h.method hv.pos hv.ne hv.sum hv.len
  · refine ⟨o2, e, hok.toShape, hok.probs, fun _ => hok.values, a2, ?_, hθ, a3⟩
    have := hok.probs
    rw [a3.dim, a3.method, ← hl] at this
    exact probs_of_params h.method hv this hθ

theorem setFrequenciesBase_rejected (o : Obj ℝ) (p : List ℝ) (hr : (o.setFrequenciesBase p).2 ≠ none) :
    EqButCache (o.setFrequenciesBase p).1 o := by
  by_cases hd : o.dim = 0
  · unfold Obj.setFrequenciesBase at hr; simp [hd] at hr
  · rcases setFrequenciesBase_cases o p hd with e | ⟨_, ⟨o2, _, e⟩ | ⟨err, _, e⟩⟩
    · rw [e]; exact EqButCache.refl _
    · rw [e] at hr; exact absurd rfl hr
    · rw [e]; exact cacheWrite_eqButCache o p

/-- hypothesis on the vector given to `setFrequencies` of the object's class; an `OrderedSimplex`
is given values inside the property's quantifier, or a non-empty vector of another size (which the
repaired code rejects) -/
def SetFreqArg (o : Obj ℝ) (p : List ℝ) : Prop :=
  match o.vValues with
  | none => FreqArg o p
  | some _ => (ValidOrdered p ∧ p.length = o.dim) ∨ (p.length ≠ 0 ∧ p.length ≠ o.dim)

theorem oSetFrequencies_wrong_size (o : Obj ℝ) (v : List ℝ) (h0 : v.length ≠ 0) (h1 : v.length ≠ o.dim) :
    o.oSetFrequencies v = (o, some .sum) := by
  unfold Obj.oSetFrequencies
  simp [h0, h1]

theorem oSetFrequencies_accept (o o' : Obj ℝ) (v : List ℝ) (h0 : v.length ≠ 0) (hl : v.length = o.dim)
    (e : o.setFrequenciesBase (orderedToProbs v 1) = (o', none)) :
    o.oSetFrequencies v = ({ o' with vValues := some v }, none) := by
  have hd : o.dim ≠ 0 := hl ▸ h0
  simp only [Obj.oSetFrequencies, hl, hd, ne_eq, not_true_eq_false, if_false, e]

/-- `OrderedSimplex::setFrequencies` with a vector inside the property's quantifier, on an object
whose `vValues_` may hold anything (as inside the constructor) -/
theorem oSetFrequencies_core (o : Obj ℝ) (hs : Shape o)
    (hpr : probsOf o.method o.dim o.θ = some o.vProb) (v : List ℝ) (hvo : ValidOrdered v)
    (hl : v.length = o.dim) :
    (o.oSetFrequencies v).2 = none ∧ OK (o.oSetFrequencies v).1 ∧ Fresh (o.oSetFrequencies v).1 ∧
    (o.oSetFrequencies v).1.vValues = some v ∧ SameShape { o with vValues := some v } (o.oSetFrequencies v).1 ∧
    (o.oSetFrequencies v).1.vProb = orderedToProbs v 1 := by
  have hvp := validOrdered_probs hvo
  have hlp : (orderedToProbs v 1).length = o.dim := by rw [orderedToProbs_length, hl]
  obtain ⟨o', hb, r2, r2p, _, r3, r4, _, r6⟩ := setFrequenciesBase_roundtrip_gen o hs _ hvp hlp
    (probs_of_params hs.method hvp (hlp ▸ hpr))
  rw [oSetFrequencies_accept o o' v (by rw [hl]; exact hs.dim_pos.ne') hl hb]
  refine ⟨rfl, ⟨r2.with_vValues _, r2p, ?_⟩, r3, rfl,
    ⟨r6.dim, r6.method, rfl, r6.incl⟩, r4⟩
  intro w hw
  rw [← Option.some.inj hw]
  exact (r4 ▸ orderedValues_toProbs v 1 (le_refl _)).symm

theorem oSetFrequencies_rejected (o : Obj ℝ) (v : List ℝ) (hr : (o.oSetFrequencies v).2 ≠ none) :
    EqButCache (o.oSetFrequencies v).1 o := by
  unfold Obj.oSetFrequencies at hr ⊢
  split
  · exact EqButCache.refl _
  · split
    · exact EqButCache.refl _
    · next h0 hl =>
      simp only [h0, hl, if_false] at hr
      have := setFrequenciesBase_rejected o (orderedToProbs v 1)
      cases hb : o.setFrequenciesBase (orderedToProbs v 1) with
      | mk o' err =>
        rw [hb] at hr this
        cases err with
        | none => exact absurd rfl hr
        | some e => exact this (by simp)

theorem setFrequencies_rejected (o : Obj ℝ) (p : List ℝ) (hr : (o.setFrequencies p).2 ≠ none) :
    EqButCache (o.setFrequencies p).1 o := by
  unfold Obj.setFrequencies at hr ⊢
  cases hv : o.vValues with
  | none => rw [hv] at hr; exact setFrequenciesBase_rejected o p hr
  | some w => rw [hv] at hr; exact oSetFrequencies_rejected o p hr

theorem setFrequencies_pres (o : Obj ℝ) (h : OK o) (p : List ℝ) (hp : SetFreqArg o p) :
    OK (o.setFrequencies p).1 ∧ SameShape o (o.setFrequencies p).1 ∧
    ((o.setFrequencies p).2 = none → Fresh (o.setFrequencies p).1) ∧
    ((o.setFrequencies p).2 ≠ none → EqButCache (o.setFrequencies p).1 o) := by
  have key : OK (o.setFrequencies p).1 ∧ SameShape o (o.setFrequencies p).1 ∧
      ((o.setFrequencies p).2 = none → Fresh (o.setFrequencies p).1) := by
    unfold Obj.setFrequencies
    unfold SetFreqArg at hp
    cases hv : o.vValues with
    | none => rw [hv] at hp; exact setFrequenciesBase_pres o h p hp
    | some w =>
      rw [hv] at hp
      rcases hp with ⟨hvo, hl⟩ | ⟨hne0, hned⟩
      · obtain ⟨_, c2, c3, _, c5, _⟩ := oSetFrequencies_core o h.toShape h.probs p hvo hl
        exact ⟨c2, ⟨c5.dim, c5.method, c5.cls.trans (by rw [hv]; rfl), c5.incl⟩, fun _ => c3⟩
      · rw [oSetFrequencies_wrong_size o p hne0 hned]
        exact ⟨h, SameShape.refl _, fun hn => by cases hn⟩
  exact ⟨key.1, key.2.1, key.2.2, setFrequencies_rejected o p⟩

theorem newParams_eq (a : Bool) (vals : List ℝ) :
    newParams a vals = if vals.all (inConstraint a) then .ok (vals.map fun v => ⟨v, a⟩) else .error .constraint :=
  mapM_test _ _ _ vals

theorem newParams_ok (a : Bool) (l : List ℝ) (h : InOpen l) :
    newParams a l = .ok (l.map fun v => ⟨v, a⟩) := by
  rw [newParams_eq, if_pos (all_inConstraint a l h)]

theorem map_mk_value (a : Bool) (l : List ℝ) : (l.map fun v => (⟨v, a⟩ : Param ℝ)).map (·.value) = l := by
  simp [List.map_map, Function.comp_def]

theorem map_mk_incl (a : Bool) (l : List ℝ) : ∀ q ∈ (l.map fun v => (⟨v, a⟩ : Param ℝ)), q.incl = a := by
  intro q hq
  obtain ⟨v, _, rfl⟩ := List.mem_map.mp hq
  rfl

theorem newParams_bind_ok {a : Bool} {vals : List ℝ} {k : List (Param ℝ) → Except Err (Obj ℝ)} {b : Obj ℝ}
    (e : (newParams a vals >>= k) = .ok b) : k (vals.map fun v => ⟨v, a⟩) = .ok b := by
  rw [newParams_eq] at e
  split at e
  · exact e
  · cases e

/-- what a successful constructor establishes -/
structure Built (o : Obj ℝ) (dim m : Nat) (a : Bool) : Prop where
  ok : OK o
  fresh : Fresh o
  dim : o.dim = dim
  method : o.method = m
  incl : ∀ q ∈ o.params, q.incl = a

theorem built_of_inv (a : Bool) (dim m : Nat) (θ u cache : List ℝ) (hi : Inv ⟨dim, m, a, θ, u⟩)
    (hc : if m = 2 then cache = alphas θ else cache = []) :
    Built ⟨θ.map fun v => ⟨v, a⟩, dim, m, u, cache, none⟩ dim m a := by
  have hθ : Obj.θ (⟨θ.map fun v => ⟨v, a⟩, dim, m, u, cache, none⟩ : Obj ℝ) = θ := map_mk_value a θ
  refine ⟨⟨⟨hi.method, hi.dim_pos, hi.dim_lt, (List.length_map _).trans hi.len, by rw [hθ]; exact hi.inOpen, ?_⟩,
    by rw [hθ]; exact hi.probs, fun v hv => by cases hv⟩, fun h2 => ?_, rfl, rfl, map_mk_incl a θ⟩
  · show if m = 2 then cache.length = dim - 1 else cache = []
    split
    · next h2 => rw [if_pos h2] at hc; rw [hc, alphas_length]; exact hi.len
    · next h2 => rw [if_neg h2] at hc; exact hc
  · rw [hθ]; exact (if_pos h2 ▸ hc :)

theorem construct_ok (p : List ℝ) (m : Nat) (a : Bool) (hm : ValidMethod m) (hp : ValidProbs p) :
    ∃ o, construct p m a = .ok o ∧ Built o p.length m a ∧ o.vProb = p ∧ o.vValues = none ∧
      o.θ = paramsOf m p := by
  have hi := inv_of_validProbs p m a hm hp
  unfold construct
  simp only [hi.dim_pos.ne', if_false, sumOk_of p hp.sum, Bool.not_true, Bool.false_eq_true,
    newParams_ok a _ hi.inOpen]
  refine ⟨_, rfl, built_of_inv a _ m _ p _ hi ?_, rfl, rfl, map_mk_value a _⟩
  split
  · next h2 => subst h2; exact ratios_eq_alphas p hi.inOpen
  · rfl

theorem constructDim_ok (dim m : Nat) (a : Bool) (hm : ValidMethod m) (hd : 0 < dim) (h31 : dim < 2 ^ 31) :
    ∃ o, constructDim dim m a = .ok o ∧ Built o dim m a ∧ o.vProb = uniform dim ∧ o.vValues = none := by
  have hu := uniform_valid dim hd h31
  have hlen : (uniform dim).length = dim := List.length_replicate ..
  have hi := inv_of_validProbs (uniform dim) m a hm hu
  rw [hlen] at hi
  rcases hm with rfl | rfl | rfl
  · rw [paramsOf_one] at hi
    unfold constructDim
    simp only [hd.ne', if_false, ScalarReal.one_eq, ScalarReal.ofInt_eq, uniform_eq, newParams_ok a _ hi.inOpen]
    exact ⟨_, rfl, built_of_inv a dim 1 _ _ _ hi rfl, rfl, rfl⟩
  · rw [paramsOf_uniform_two dim hd] at hi
    unfold constructDim
    simp only [hd.ne', if_false, ScalarReal.one_eq, ScalarReal.ofInt_eq, uniform_eq, newParams_ok a _ hi.inOpen]
    refine ⟨_, rfl, built_of_inv a dim 2 _ _ _ hi ?_, rfl, rfl⟩
    rw [if_pos rfl, alphas, List.map_replicate]
    congr 1; norm_num
  · have ho := half_inOpen (dim - 1)
    unfold constructDim
    simp only [hd.ne', if_false, ScalarReal.one_eq, ScalarReal.ofInt_eq, uniform_eq, newParams_ok a _ ho]
    have hsh : Shape (⟨(List.replicate (dim - 1) (Scalar.ofRat 1 2 : ℝ)).map (fun v => ⟨v, a⟩), dim, 3,
        uniform dim, [], none⟩ : Obj ℝ) :=
      ⟨Or.inr (Or.inr rfl), hd, h31, by simp, by rw [Obj.θ, map_mk_value]; exact ho, rfl⟩
    obtain ⟨o', hb, r2, r2p, rv, r3, r4, _, r6⟩ := setFrequenciesBase_roundtrip_gen _ hsh
      (uniform dim) hu hlen (fun _ => rfl)
    simp only [bind, Except.bind, hb]
    exact ⟨o', rfl, ⟨⟨r2, r2p, rv (fun v hv => by cases hv)⟩, r3, r6.dim, r6.method,
      r6.hasConstraint (map_mk_incl a _)⟩, r4, Option.not_isSome_iff_eq_none.mp (by rw [r6.cls]; simp)⟩

theorem oConstructDim_ok (dim m : Nat) (a : Bool) (hm : ValidMethod m) (hd : 0 < dim) (h31 : dim < 2 ^ 31) :
    ∃ o, oConstructDim dim m a = .ok o ∧ Built o dim m a ∧ o.vValues = some (orderedValues (uniform dim) 1) := by
  obtain ⟨b, e, hb, hp, _⟩ := constructDim_ok dim m a hm hd h31
  unfold oConstructDim
  simp only [e, bind, Except.bind]
  refine ⟨_, rfl, ⟨⟨hb.ok.toShape.with_vValues _, hb.ok.probs, ?_⟩, hb.fresh, hb.dim, hb.method, hb.incl⟩, by rw [hp]⟩
  intro v hv
  exact (Option.some.inj hv).symm

theorem oConstruct_ok (v : List ℝ) (m : Nat) (a : Bool) (hm : ValidMethod m) (hv : ValidOrdered v) :
    ∃ o, oConstruct v m a = .ok o ∧ Built o v.length m a ∧ o.vValues = some v := by
  obtain ⟨b, e, hb, _, _⟩ := constructDim_ok v.length m a hm (List.length_pos_of_ne_nil hv.ne) hv.len
  obtain ⟨c1, c2, c3, c4, c5, _⟩ := oSetFrequencies_core { b with vValues := some v }
    (hb.ok.toShape.with_vValues _) hb.ok.probs v hv hb.dim.symm
  unfold oConstruct
  simp only [e, bind, Except.bind]
  cases hr : Obj.oSetFrequencies { b with vValues := some v } v with
  | mk o' err =>
    rw [hr] at c1 c2 c3 c4 c5
    cases c1
    exact ⟨o', rfl, ⟨c2, c3, c5.dim.trans hb.dim, c5.method.trans hb.method, c5.hasConstraint hb.incl⟩, c4⟩

theorem cloneParams_eq (ps : List (Param ℝ)) : cloneParams ps = ps := by
  unfold cloneParams
  induction ps with
  | nil => rfl
  | cons p r ih => simp only [List.map_cons, ih]; rfl

/-- copy construction within the class / `clone()`: every member of the copy equals the source's -/
theorem copyCtor_eq (src : Obj ℝ) : src.copyCtor = src := by
  cases src
  simp [Obj.copyCtor, Obj.copySimplexPart, cloneParams_eq]

/-- `operator=` of the common class: every member of the target equals the source's, whatever the
target held -/
theorem assign_eq (tgt src : Obj ℝ) : tgt.assign src = src := by
  cases src
  simp [Obj.assign, Obj.assignSimplexPart, cloneParams_eq]

theorem copySimplexPart_eq (src : Obj ℝ) : src.copySimplexPart = { src with vValues := none } := by
  cases src
  simp [Obj.copySimplexPart, cloneParams_eq]

theorem assignSimplexPart_eq (tgt src : Obj ℝ) :
    tgt.assignSimplexPart src = { src with vValues := tgt.vValues } := by
  cases src
  simp [Obj.assignSimplexPart, cloneParams_eq]

/-- forgetting the ordered values of an object leaves a plain simplex satisfying the invariant -/
theorem ok_slice (src : Obj ℝ) (h : OK src) : OK { src with vValues := none } :=
  ⟨h.toShape.with_vValues none, h.probs, by intro v hv; cases hv⟩

/-! ## Part B — the heap -/

section HeapLemmas
variable {β : Type}

theorem derefs_length (cells : List (Param β)) (as : List Nat) (ps : List (Param β))
    (h : derefs cells as = some ps) : ps.length = as.length := by
  induction as generalizing ps with
  | nil => simp [derefs] at h; subst h; rfl
  | cons a as ih =>
    simp only [derefs] at h
    cases h1 : cells[a]? with
    | none => simp [h1] at h
    | some p =>
      cases h2 : derefs cells as with
      | none => simp [h1, h2] at h
      | some qs =>
        simp only [h1, h2, Option.some.injEq] at h
        subst h
        simp [ih qs h2]

theorem derefs_isSome (cells : List (Param β)) (as : List Nat) (h : ∀ a ∈ as, a < cells.length) :
    ∃ ps, derefs cells as = some ps := by
  induction as with
  | nil => exact ⟨[], rfl⟩
  | cons a as ih =>
    obtain ⟨qs, hq⟩ := ih (fun x hx => h x (by simp [hx]))
    have ha : a < cells.length := h a (by simp)
    exact ⟨cells[a] :: qs, by simp [derefs, List.getElem?_eq_getElem ha, hq]⟩

theorem writeCells_length (cells : List (Param β)) (as : List Nat) (ps : List (Param β)) :
    (writeCells cells as ps).length = cells.length := by
  induction as generalizing cells ps with
  | nil => cases ps <;> rfl
  | cons a as ih =>
    cases ps with
    | nil => rfl
    | cons p ps => exact (ih (cells.set a p) ps).trans (List.length_set ..)

theorem writeCells_getElem?_of_notMem (cells : List (Param β)) (as : List Nat) (ps : List (Param β)) (b : Nat)
    (hb : b ∉ as) : (writeCells cells as ps)[b]? = cells[b]? := by
  induction as generalizing cells ps with
  | nil => cases ps <;> rfl
  | cons a as ih =>
    cases ps with
    | nil => rfl
    | cons p ps =>
      simp only [writeCells]
      rw [ih (cells.set a p) ps (fun hm => hb (by simp [hm]))]
      have : a ≠ b := fun e => hb (by simp [e])
      simp [this]

theorem derefs_congr (cells cells' : List (Param β)) (as : List Nat)
    (h : ∀ a ∈ as, cells'[a]? = cells[a]?) : derefs cells' as = derefs cells as := by
  induction as with
  | nil => rfl
  | cons a as ih =>
    simp only [derefs, h a (by simp), ih (fun x hx => h x (by simp [hx]))]

theorem derefs_writeCells_same (cells : List (Param β)) (as : List Nat) (ps : List (Param β))
    (hl : ps.length = as.length) (hn : as.Nodup) (hb : ∀ a ∈ as, a < cells.length) :
    derefs (writeCells cells as ps) as = some ps := by
  induction as generalizing cells ps with
  | nil => cases ps with
    | nil => rfl
    | cons _ _ => simp at hl
  | cons a as ih =>
    cases ps with
    | nil => simp at hl
    | cons p ps =>
      have hna : a ∉ as := (List.nodup_cons.mp hn).1
      have hn' : as.Nodup := (List.nodup_cons.mp hn).2
      simp only [writeCells, derefs]
      have h1 : (writeCells (cells.set a p) as ps)[a]? = some p := by
        rw [writeCells_getElem?_of_notMem _ as ps a hna]
        have : a < cells.length := hb a (by simp)
        simp [this]
      rw [h1, ih (cells.set a p) ps (by simpa using hl) hn' (fun x hx => by
        simp only [List.length_set]; exact hb x (by simp [hx]))]

theorem writeCells_self (cells : List (Param β)) (as : List Nat) (ps : List (Param β))
    (h : derefs cells as = some ps) : writeCells cells as ps = cells := by
  induction as generalizing ps with
  | nil => simp [derefs] at h; subst h; rfl
  | cons a as ih =>
    simp only [derefs] at h
    cases h1 : cells[a]? with
    | none => simp [h1] at h
    | some p =>
      cases h2 : derefs cells as with
      | none => simp [h1, h2] at h
      | some qs =>
        simp only [h1, h2, Option.some.injEq] at h
        subst h
        simp only [writeCells]
        have : cells.set a p = cells := by
          obtain ⟨hlt, he⟩ := List.getElem?_eq_some_iff.mp h1
          rw [← he]; exact List.set_getElem_self hlt
        rw [this]; exact ih qs h2

theorem derefs_fresh (cells ps : List (Param β)) :
    derefs (cells ++ ps) ((List.range ps.length).map (cells.length + ·)) = some ps := by
  induction ps generalizing cells with
  | nil => rfl
  | cons p ps ih =>
    have hr : (List.range (p :: ps).length).map (cells.length + ·) =
        cells.length :: (List.range ps.length).map ((cells ++ [p]).length + ·) := by
      simp only [List.length_cons, List.range_succ_eq_map, List.map_cons, List.map_map, Nat.add_zero,
        List.length_append, List.length_nil]
      congr 1
      apply List.map_congr_left
      intro x _
      simp only [Function.comp]
      omega
    rw [hr]
    simp only [derefs]
    have h0 : (cells ++ p :: ps)[cells.length]? = some p := by simp
    have h1 : cells ++ p :: ps = (cells ++ [p]) ++ ps := by simp
    rw [h0, h1, ih (cells ++ [p])]

end HeapLemmas

/-- the object in register `k`, parameters dereferenced -/
def Heap.get (h : Heap ℝ) (k : Nat) : Option (Obj ℝ) :=
  match h.view k with
  | .ok (_, o) => some o
  | .error _ => none

/-- separation: the parameter lists of the objects point into the heap, without repetition, and
the lists of two objects are disjoint (no `Parameter` object is shared) -/
structure Sep (h : Heap ℝ) : Prop where
  inb : ∀ k ho, h.obj? k = some ho → ∀ a ∈ ho.paddr, a < h.cells.length
  nodup : ∀ k ho, h.obj? k = some ho → ho.paddr.Nodup
  disj : ∀ k k' ho ho', k ≠ k' → h.obj? k = some ho → h.obj? k' = some ho' → ∀ a ∈ ho.paddr, a ∉ ho'.paddr

theorem obj?_lt (h : Heap ℝ) (k : Nat) (ho : HObj ℝ) (e : h.obj? k = some ho) : k < h.regs.length := by
  unfold Heap.obj? at e
  by_contra hlt
  have : h.regs[k]? = none := List.getElem?_eq_none (by omega)
  rw [this] at e; cases e

theorem get_of (h : Heap ℝ) (k : Nat) (ho : HObj ℝ) (ps : List (Param ℝ)) (e : h.obj? k = some ho)
    (d : derefs h.cells ho.paddr = some ps) :
    h.view k = .ok (ho, ⟨ps, ho.dim, ho.method, ho.vProb, ho.valpha, ho.vValues⟩) ∧
    h.get k = some ⟨ps, ho.dim, ho.method, ho.vProb, ho.valpha, ho.vValues⟩ := by
  have : h.view k = .ok (ho, ⟨ps, ho.dim, ho.method, ho.vProb, ho.valpha, ho.vValues⟩) := by
    simp [Heap.view, e, Heap.load, d]
  exact ⟨this, by simp [Heap.get, this]⟩

theorem get_none (h : Heap ℝ) (k : Nat) (e : h.obj? k = none) : h.get k = none ∧ h.view k = .error .empty := by
  simp [Heap.get, Heap.view, e]

theorem view_ok (h : Heap ℝ) (k : Nat) (ho : HObj ℝ) (o : Obj ℝ) (e : h.view k = .ok (ho, o)) :
    h.obj? k = some ho ∧ derefs h.cells ho.paddr = some o.params ∧ h.get k = some o ∧
    o.dim = ho.dim ∧ o.method = ho.method ∧ o.vProb = ho.vProb ∧ o.valpha = ho.valpha ∧ o.vValues = ho.vValues := by
  unfold Heap.view at e
  cases h1 : h.obj? k with
  | none => simp [h1] at e
  | some ho' =>
    simp only [h1] at e
    unfold Heap.load at e
    cases h2 : derefs h.cells ho'.paddr with
    | none => simp [h2] at e
    | some ps =>
      simp only [h2, Except.ok.injEq, Prod.mk.injEq] at e
      obtain ⟨rfl, rfl⟩ := e
      exact ⟨rfl, h2, (get_of h k ho' ps h1 h2).2, rfl, rfl, rfl, rfl, rfl⟩

theorem get_eq_some (h : Heap ℝ) (k : Nat) (o : Obj ℝ) (e : h.get k = some o) :
    ∃ ho, h.view k = .ok (ho, o) := by
  unfold Heap.get at e
  cases hv : h.view k with
  | error _ => simp [hv] at e
  | ok p => obtain ⟨ho, o'⟩ := p; simp only [hv, Option.some.injEq] at e; subst e; exact ⟨ho, rfl⟩

theorem view_cases (h : Heap ℝ) (k : Nat) :
    (∃ e, h.view k = .error e ∧ h.get k = none) ∨ (∃ ho o, h.view k = .ok (ho, o) ∧ h.get k = some o) := by
  cases hv : h.view k with
  | error e => exact Or.inl ⟨e, rfl, by simp [Heap.get, hv]⟩
  | ok p => exact Or.inr ⟨p.1, p.2, rfl, by simp [Heap.get, hv]⟩

theorem store_view (h : Heap ℝ) (k : Nat) (ho : HObj ℝ) (o : Obj ℝ) (hv : h.view k = .ok (ho, o)) :
    h.store k ho o = h := by
  obtain ⟨hk, hd, _, e1, e2, e3, e4, e5⟩ := view_ok h k ho o hv
  have hr : h.regs[k]? = some (some ho) := by
    unfold Heap.obj? at hk
    cases hx : h.regs[k]? with
    | none => rw [hx] at hk; cases hk
    | some x => rw [hx] at hk; exact congrArg some hk
  obtain ⟨hlt, he⟩ := List.getElem?_eq_some_iff.mp hr
  cases h; cases ho
  simp only [Heap.store, writeCells_self _ _ _ hd, e1, e2, e3, e4, e5] at he ⊢
  rw [← he, List.set_getElem_self]

/-- register `k` is overwritten by an object whose parameter cells are valid, distinct and belong to no
other object, while the cells of the other objects keep their content -/
theorem overwrite_spec (h h' : Heap ℝ) (hs : Sep h) (k : Nat) (x : HObj ℝ)
    (hregs : h'.regs = h.regs.set k (some x)) (hmono : h.cells.length ≤ h'.cells.length)
    (hinb : ∀ a ∈ x.paddr, a < h'.cells.length) (hnd : x.paddr.Nodup)
    (hdisj : ∀ k' ho', k' ≠ k → h.obj? k' = some ho' → ∀ a ∈ ho'.paddr, a ∉ x.paddr)
    (hkeep : ∀ k' ho', k' ≠ k → h.obj? k' = some ho' →
      derefs h'.cells ho'.paddr = derefs h.cells ho'.paddr) :
    Sep h' ∧ (∀ k', k' ≠ k → h'.get k' = h.get k') ∧ h'.regs.length = h.regs.length ∧
    (k < h.regs.length → h'.obj? k = some x) := by
  have hother : ∀ k', k' ≠ k → h'.obj? k' = h.obj? k' := fun k' hne => by
    simp [Heap.obj?, hregs, Ne.symm hne]
  have hat : k < h.regs.length → h'.obj? k = some x := fun hlt => by simp [Heap.obj?, hregs, hlt]
  have hobj : ∀ k' ho', h'.obj? k' = some ho' →
      (k' ≠ k ∧ h.obj? k' = some ho') ∨ (k' = k ∧ ho' = x) := by
    intro k' ho' e
    by_cases hne : k' = k
    · subst hne
      have hlt : k' < h.regs.length := by
        have := obj?_lt h' k' ho' e
        rwa [hregs, List.length_set] at this
      rw [hat hlt] at e
      exact Or.inr ⟨rfl, (Option.some.inj e).symm⟩
    · rw [hother k' hne] at e; exact Or.inl ⟨hne, e⟩
  refine ⟨⟨?_, ?_, ?_⟩, ?_, by rw [hregs, List.length_set], hat⟩
  · intro k' ho' e a ha
    rcases hobj k' ho' e with ⟨_, e'⟩ | ⟨_, rfl⟩
    · exact (hs.inb k' ho' e' a ha).trans_le hmono
    · exact hinb a ha
  · intro k' ho' e
    rcases hobj k' ho' e with ⟨_, e'⟩ | ⟨_, rfl⟩
    · exact hs.nodup k' ho' e'
    · exact hnd
  · intro k1 k2 ho1 ho2 hne e1 e2 a ha hb
    rcases hobj k1 ho1 e1 with ⟨n1, e1'⟩ | ⟨n1, rfl⟩ <;> rcases hobj k2 ho2 e2 with ⟨n2, e2'⟩ | ⟨n2, rfl⟩
    · exact hs.disj k1 k2 ho1 ho2 hne e1' e2' a ha hb
    · exact hdisj k1 ho1 n1 e1' a ha hb
    · exact hdisj k2 ho2 n2 e2' a hb ha
    · exact hne (n1.trans n2.symm)
  · intro k' hne
    cases e : h.obj? k' with
    | none =>
      rw [(get_none h k' e).1]
      exact (get_none _ k' (by rw [hother k' hne]; exact e)).1
    | some ho' =>
      obtain ⟨ps, hp⟩ := derefs_isSome h.cells ho'.paddr (hs.inb k' ho' e)
      rw [(get_of h k' ho' ps e hp).2]
      exact (get_of _ k' ho' ps (by rw [hother k' hne]; exact e) (by rw [hkeep k' ho' hne e]; exact hp)).2

/-- a member function has run on the object of register `k`: separation is kept, the register
holds the new state, every other register reads as before -/
theorem store_spec (h : Heap ℝ) (hs : Sep h) (k : Nat) (ho : HObj ℝ) (hk : h.obj? k = some ho)
    (o' : Obj ℝ) (hl : o'.params.length = ho.paddr.length) :
    Sep (h.store k ho o') ∧ (h.store k ho o').get k = some o' ∧
    (∀ k', k' ≠ k → (h.store k ho o').get k' = h.get k') ∧
    (h.store k ho o').regs.length = h.regs.length := by
  obtain ⟨s1, s2, s3, s4⟩ := overwrite_spec h (h.store k ho o') hs k
    ⟨ho.paddr, o'.dim, o'.method, o'.vProb, o'.valpha, o'.vValues⟩ rfl (writeCells_length _ _ _).ge
    (fun a ha => (hs.inb k ho hk a ha).trans_le (writeCells_length _ _ _).ge) (hs.nodup k ho hk)
    (fun k' ho' hne e a ha hb => hs.disj k' k ho' ho hne e hk a ha hb)
    (fun k' ho' hne e => derefs_congr h.cells _ _ fun b hb =>
      writeCells_getElem?_of_notMem _ _ _ b (hs.disj k' k ho' ho hne e hk b hb))
  exact ⟨s1, (get_of _ k _ o'.params (s4 (obj?_lt h k ho hk))
    (derefs_writeCells_same h.cells ho.paddr o'.params hl (hs.nodup k ho hk) (hs.inb k ho hk))).2, s2, s3⟩

/-- a new object (all its parameters newly allocated) is put into register `j` -/
theorem alloc_spec (h : Heap ℝ) (hs : Sep h) (j : Nat) (o : Obj ℝ) :
    Sep (h.allocObj j o) ∧ (j < h.regs.length → (h.allocObj j o).get j = some o) ∧
    (∀ k', k' ≠ j → (h.allocObj j o).get k' = h.get k') ∧
    (h.allocObj j o).regs.length = h.regs.length := by
  have hfresh : ∀ a ∈ (List.range o.params.length).map (h.cells.length + ·),
      h.cells.length ≤ a ∧ a < (h.cells ++ o.params).length := by
    intro a ha
    obtain ⟨i, hi, rfl⟩ := List.mem_map.mp ha
    have := List.mem_range.mp hi
    rw [List.length_append]
    omega
  obtain ⟨s1, s2, s3, s4⟩ := overwrite_spec h (h.allocObj j o) hs j
    ⟨(List.range o.params.length).map (h.cells.length + ·), o.dim, o.method, o.vProb, o.valpha, o.vValues⟩ rfl
    (List.length_append ▸ Nat.le_add_right _ _) (fun a ha => (hfresh a ha).2)
    (List.Nodup.map (fun x y hxy => by omega) List.nodup_range)
    (fun k' ho' hne e a ha hb => absurd (hs.inb k' ho' e a ha) (Nat.not_lt.mpr (hfresh a hb).1))
    (fun k' ho' hne e => derefs_congr h.cells _ _ fun a ha => List.getElem?_append_left (hs.inb k' ho' e a ha))
  exact ⟨s1, fun hlt => (get_of _ j _ o.params (s4 hlt) (derefs_fresh h.cells o.params)).2, s2, s3⟩

/-! ### member functions keep the number of parameters, the constraints, the class (unconditionally) -/

theorem setFrequenciesBase_same {o o' : Obj ℝ} {p : List ℝ} {err : Option Err}
    (e : o.setFrequenciesBase p = (o', err)) : SameShape o o' := by
  by_cases hd : o.dim = 0
  · simp only [Obj.setFrequenciesBase, hd, if_true, Prod.mk.injEq] at e; exact e.1 ▸ SameShape.refl _
  · rcases setFrequenciesBase_cases o p hd with e' | ⟨_, ⟨o2, hm, e'⟩ | ⟨_, _, e'⟩⟩ <;> cases e'.symm.trans e
    · exact SameShape.refl _
    · exact (cacheWrite_same o _).trans (matchReq_same _ _ _ hm)
    · exact cacheWrite_same o _

theorem oSetFrequencies_same (o : Obj ℝ) (hv : o.vValues.isSome = true) (v : List ℝ) :
    SameShape o (o.oSetFrequencies v).1 := by
  unfold Obj.oSetFrequencies
  split
  · exact SameShape.refl _
  · split
    · exact SameShape.refl _
    · split
      · next o' heq =>
        have hb := setFrequenciesBase_same heq
        exact ⟨hb.dim, hb.method, by simp [hv], hb.incl⟩
      · next o' e heq => exact setFrequenciesBase_same heq

theorem setFrequencies_same (o : Obj ℝ) (p : List ℝ) : SameShape o (o.setFrequencies p).1 := by
  unfold Obj.setFrequencies
  cases hv : o.vValues with
  | none => exact setFrequenciesBase_same rfl
  | some w => exact oSetFrequencies_same o (by simp [hv]) p

theorem update_of_err (h : Heap ℝ) (k : Nat) (f : Obj ℝ → Obj ℝ × Option Err) (e : HErr)
    (hv : h.view k = .error e) : h.update k f = (h, some e) := by
  unfold Heap.update; rw [hv]

theorem update_of_ok (h : Heap ℝ) (k : Nat) (f : Obj ℝ → Obj ℝ × Option Err) (ho : HObj ℝ) (o : Obj ℝ)
    (hv : h.view k = .ok (ho, o)) : h.update k f = (h.store k ho (f o).1, (f o).2.map HErr.exc) := by
  unfold Heap.update; rw [hv]
  simp only
  cases hf : f o with
  | mk o' err => cases err <;> rfl

theorem update_spec (h : Heap ℝ) (hs : Sep h) (k : Nat) (f : Obj ℝ → Obj ℝ × Option Err)
    (hlen : ∀ o, (f o).1.params.length = o.params.length) :
    (Sep (h.update k f).1 ∧ (∀ r, r ≠ k → (h.update k f).1.get r = h.get r) ∧
      (h.update k f).1.regs.length = h.regs.length) ∧
    (∀ o, h.get k = some o → (h.update k f).1.get k = some (f o).1 ∧
      (h.update k f).2 = (f o).2.map HErr.exc) ∧
    (h.get k = none → (h.update k f).1 = h) := by
  cases hv : h.view k with
  | error e =>
    have hg : h.get k = none := by simp [Heap.get, hv]
    rw [update_of_err h k f e hv]
    exact ⟨⟨hs, fun _ _ => rfl, rfl⟩, fun o ho => (by rw [hg] at ho; cases ho), fun _ => rfl⟩
  | ok p =>
    obtain ⟨ho, o⟩ := p
    obtain ⟨hk, hd, hg, _⟩ := view_ok h k ho o hv
    have hl : (f o).1.params.length = ho.paddr.length := by
      rw [hlen o]; exact derefs_length _ _ _ hd
    obtain ⟨s1, s2, s3, s4⟩ := store_spec h hs k ho hk (f o).1 hl
    rw [update_of_ok h k f ho o hv]
    refine ⟨⟨s1, s3, s4⟩, ?_, fun hn => by rw [hg] at hn; cases hn⟩
    intro o1 ho1
    rw [hg] at ho1; cases ho1
    exact ⟨s2, rfl⟩

/-- a member function that leaves the object untouched when it raises is a member function like the others -/
theorem updateE_eq_update (h : Heap ℝ) (k : Nat) (f : Obj ℝ → Except Err (Obj ℝ)) :
    h.updateE k f = h.update k fun o => exceptToPair o (f o) := by
  unfold Heap.updateE Heap.update
  cases hv : h.view k with
  | error e => rfl
  | ok p =>
    obtain ⟨ho, o⟩ := p
    cases hf : f o with
    | ok o' => simp only [exceptToPair, hf]
    | error e => simp only [exceptToPair, hf, store_view h k ho o hv]

theorem exceptToPair_same {o : Obj ℝ} {r : Except Err (Obj ℝ)} (h : ∀ o', r = .ok o' → SameShape o o') :
    SameShape o (exceptToPair o r).1 := by
  cases r with
  | ok o' => exact h o' rfl
  | error e => exact SameShape.refl o

theorem updateE_frame (h : Heap ℝ) (hs : Sep h) (k : Nat) (f : Obj ℝ → Except Err (Obj ℝ))
    (hsame : ∀ o o', f o = .ok o' → SameShape o o') :
    Sep (h.updateE k f).1 ∧ (∀ r, r ≠ k → (h.updateE k f).1.get r = h.get r) ∧
      (h.updateE k f).1.regs.length = h.regs.length := by
  rw [updateE_eq_update]
  exact (update_spec h hs k _ fun o => (exceptToPair_same (hsame o)).len).1

/-- the register an operation writes -/
def HOp.target : HOp ℝ → Nat
  | .newVec j _ _ _ _ => j
  | .newDim j _ _ _ _ => j
  | .setFreq k _ => k
  | .setPar k _ => k
  | .matchSome k _ => k
  | .setSome k _ => k
  | .setOne k _ _ => k
  | .fire k => k
  | .copy _ j => j
  | .sliceCopy _ j => j
  | .assign _ j => j
  | .sliceAssign _ j => j
  | .baseAssign _ j => j

theorem copy_apply (h : Heap ℝ) (k j : Nat) :
    (∃ e, h.get k = none ∧ applyH h (.copy k j) = (h, some e)) ∨
    (∃ src, h.get k = some src ∧ applyH h (.copy k j) = (h.allocObj j src.copyCtor, none)) := by
  rcases view_cases h k with ⟨e, hv, hg⟩ | ⟨_, src, hv, hg⟩
  · exact Or.inl ⟨e, hg, by simp only [applyH, hv]⟩
  · exact Or.inr ⟨src, hg, by simp only [applyH, hv]⟩

theorem sliceCopy_apply (h : Heap ℝ) (k j : Nat) :
    (∃ e, h.get k = none ∧ applyH h (.sliceCopy k j) = (h, some e)) ∨
    (∃ src, h.get k = some src ∧ applyH h (.sliceCopy k j) = (h.allocObj j src.copySimplexPart, none)) := by
  rcases view_cases h k with ⟨e, hv, hg⟩ | ⟨_, src, hv, hg⟩
  · exact Or.inl ⟨e, hg, by simp only [applyH, hv]⟩
  · exact Or.inr ⟨src, hg, by simp only [applyH, hv]⟩

theorem assign_apply (h : Heap ℝ) (k j : Nat) :
    (∃ e, (h.get k = none ∨ h.get j = none) ∧ applyH h (.assign k j) = (h, some e)) ∨
    (∃ src tgt, h.get k = some src ∧ h.get j = some tgt ∧ applyH h (.assign k j) =
      if src.vValues.isSome ≠ tgt.vValues.isSome then (h, some .badclass)
      else if k = j then (h, none) else (h.allocObj j (tgt.assign src), none)) := by
  rcases view_cases h k with ⟨e, hv, hg⟩ | ⟨_, src, hv, hg⟩
  · exact Or.inl ⟨e, Or.inl hg, by simp only [applyH, hv]⟩
  · rcases view_cases h j with ⟨e, hw, hg'⟩ | ⟨_, tgt, hw, hg'⟩
    · exact Or.inl ⟨e, Or.inr hg', by simp only [applyH, hv, hw]⟩
    · exact Or.inr ⟨src, tgt, hg, hg', by simp only [applyH, hv, hw]⟩

theorem sliceAssign_apply (h : Heap ℝ) (k j : Nat) :
    (∃ e, (h.get k = none ∨ h.get j = none) ∧ applyH h (.sliceAssign k j) = (h, some e)) ∨
    (∃ src tgt, h.get k = some src ∧ h.get j = some tgt ∧ applyH h (.sliceAssign k j) =
      if !src.vValues.isSome || tgt.vValues.isSome then (h, some .badclass)
      else (h.allocObj j (tgt.assignSimplexPart src), none)) := by
  rcases view_cases h k with ⟨e, hv, hg⟩ | ⟨_, src, hv, hg⟩
  · exact Or.inl ⟨e, Or.inl hg, by simp only [applyH, hv]⟩
  · rcases view_cases h j with ⟨e, hw, hg'⟩ | ⟨_, tgt, hw, hg'⟩
    · exact Or.inl ⟨e, Or.inr hg', by simp only [applyH, hv, hw]⟩
    · exact Or.inr ⟨src, tgt, hg, hg', by simp only [applyH, hv, hw]⟩

theorem baseAssign_apply (h : Heap ℝ) (k j : Nat) :
    (∃ e, (h.get k = none ∨ h.get j = none) ∧ applyH h (.baseAssign k j) = (h, some e)) ∨
    (∃ src tgt, h.get k = some src ∧ h.get j = some tgt ∧ applyH h (.baseAssign k j) =
      if src.vValues.isSome || !tgt.vValues.isSome || src.dim ≠ tgt.dim then (h, some .badclass)
      else (h.allocObj j (tgt.assignSimplexPart src), none)) := by
  rcases view_cases h k with ⟨e, hv, hg⟩ | ⟨_, src, hv, hg⟩
  · exact Or.inl ⟨e, Or.inl hg, by simp only [applyH, hv]⟩
  · rcases view_cases h j with ⟨e, hw, hg'⟩ | ⟨_, tgt, hw, hg'⟩
    · exact Or.inl ⟨e, Or.inr hg', by simp only [applyH, hv, hw]⟩
    · exact Or.inr ⟨src, tgt, hg, hg', by simp only [applyH, hv, hw]⟩

theorem get_lt (h : Heap ℝ) (k : Nat) (o : Obj ℝ) (e : h.get k = some o) : k < h.regs.length := by
  obtain ⟨ho, hv⟩ := get_eq_some h k o e
  exact obj?_lt h k ho (view_ok h k ho o hv).1

theorem alloc_get_target (h : Heap ℝ) (hs : Sep h) (j : Nat) (o o' : Obj ℝ)
    (e : (h.allocObj j o).get j = some o') : o' = o := by
  obtain ⟨_, a2, _, a4⟩ := alloc_spec h hs j o
  have hlt : j < h.regs.length := by rw [← a4]; exact get_lt _ j o' e
  rw [a2 hlt] at e; cases e; rfl

theorem create_effect (h : Heap ℝ) (j : Nat) (r : Except Err (Obj ℝ)) :
    (∃ o, r = .ok o ∧ (h.create j r).1 = h.allocObj j o ∧ (h.create j r).2 = none) ∨
    (∃ e, r = .error e ∧ (h.create j r).1 = h ∧ (h.create j r).2 = some (.exc e)) := by
  unfold Heap.create
  cases r with
  | ok o => exact Or.inl ⟨o, rfl, rfl, rfl⟩
  | error e => exact Or.inr ⟨e, rfl, rfl, rfl⟩

/-- separation + every object of the heap satisfies the object invariant -/
def HInv (h : Heap ℝ) : Prop := Sep h ∧ ∀ r o, h.get r = some o → OK o

/-- the calls the history theorems quantify over.  Constructors are called with arguments inside
the property's quantifier.  Setters: arguments inside the property's quantifier (positive
probability vectors / strictly decreasing ordered values summing to one, parameters in the open
interval), OR — on an object built with the strict constraint — ANY values (`setFrequencies`: a
vector of at least `dim` entries on a plain `Simplex`; on an `OrderedSimplex` only values inside the
quantifier, or a non-empty vector of another size, which is rejected).  Copies: any.  The assignment through a base-class reference is
excluded (it leaves `vValues_` behind: `baseAssign_breaks_values`). -/
def Adm (h : Heap ℝ) : HOp ℝ → Prop
  | .newVec _ false m _ p => ValidMethod m ∧ ValidProbs p
  | .newVec _ true m _ p => ValidMethod m ∧ ValidOrdered p
  | .newDim _ _ n m _ => ValidMethod m ∧ 0 < n ∧ n < 2 ^ 31
  | .setFreq k p => ∀ o, h.get k = some o → SetFreqArg o p
  | .setPar k θ => ∀ o, h.get k = some o → (ReqOpen (reqOfList θ) 1 o.params.length ∨ Strict o)
  | .matchSome k pl => ∀ o, h.get k = some o → (ReqOpen (reqOfPairs pl) 1 o.params.length ∨ Strict o)
  | .setSome k pl => ∀ o, h.get k = some o → (ReqOpen (reqOfPairs pl) 1 o.params.length ∨ Strict o)
  | .setOne k _ v => ∀ o, h.get k = some o → ((0 < v ∧ v < 1) ∨ Strict o)
  | .fire _ => True
  | .copy _ _ => True
  | .sliceCopy _ _ => True
  | .assign _ _ => True
  | .sliceAssign _ _ => True
  | .baseAssign _ _ => False

/-- a history all of whose calls are admissible in the state they are made in -/
def AdmRun : Heap ℝ → List (HOp ℝ) → Prop
  | _, [] => True
  | h, op :: rest => Adm h op ∧ AdmRun (stepH h op) rest

/-- every ratio cache of the heap holds the ratios of the current parameters -/
def HFresh (h : Heap ℝ) : Prop := ∀ r o, h.get r = some o → Fresh o

/-- a member function that keeps the invariant (and, where it does not raise, a fresh cache) keeps them
for the object in its register -/
theorem update_target (h : Heap ℝ) (hi : HInv h) (k : Nat) (f : Obj ℝ → Obj ℝ × Option Err)
    (hlen : ∀ o, (f o).1.params.length = o.params.length)
    (hf : ∀ o0, h.get k = some o0 → OK (f o0).1 ∧ (Fresh o0 → (f o0).2 = none → Fresh (f o0).1)) (o : Obj ℝ)
    (e : (h.update k f).1.get k = some o) : OK o ∧ (HFresh h → (h.update k f).2 = none → Fresh o) := by
  obtain ⟨_, u4, u5⟩ := update_spec h hi.1 k f hlen
  cases hg : h.get k with
  | none => rw [u5 hg] at e; exact ⟨hi.2 _ o e, fun hfr _ => hfr _ o e⟩
  | some o0 =>
    rw [(u4 o0 hg).1] at e; cases e
    rw [(u4 o0 hg).2]
    refine (hf o0 hg).imp_right fun p hfr hacc => p (hfr k o0 hg) ?_
    cases hx : (f o0).2 with
    | none => rfl
    | some err => rw [hx] at hacc; cases hacc

theorem updateE_target (h : Heap ℝ) (hi : HInv h) (k : Nat) (f : Obj ℝ → Except Err (Obj ℝ))
    (hsame : ∀ o o', f o = .ok o' → SameShape o o')
    (hf : ∀ o0 o1, h.get k = some o0 → f o0 = .ok o1 → OK o1 ∧ (Fresh o0 → Fresh o1)) (o : Obj ℝ)
    (e : (h.updateE k f).1.get k = some o) : OK o ∧ (HFresh h → (h.updateE k f).2 = none → Fresh o) := by
  rw [updateE_eq_update] at e ⊢
  refine update_target h hi k _ (fun o => (exceptToPair_same (hsame o)).len) (fun o0 hg => ?_) o e
  cases hfo : f o0 with
  | ok o1 => exact (hf o0 o1 hg hfo).imp_right fun p hfr _ => p hfr
  | error err => exact ⟨hi.2 k o0 hg, fun hfr _ => hfr⟩

theorem updateE_rejected (h : Heap ℝ) (k : Nat) (f : Obj ℝ → Except Err (Obj ℝ))
    (hr : (h.updateE k f).2 ≠ none) : (h.updateE k f).1 = h := by
  rw [updateE_eq_update] at hr ⊢
  rcases view_cases h k with ⟨e, hv, _⟩ | ⟨ho, o, hv, _⟩
  · rw [update_of_err h k _ e hv]
  · rw [update_of_ok h k _ ho o hv] at hr ⊢
    cases hf : f o with
    | error e => exact store_view h k ho o hv
    | ok o' => rw [hf] at hr; exact absurd rfl hr

/-- What a call can do to the heap: nothing (it raised, or was a self-assignment), put a wholly new
object into its target, or run a member function of the target that keeps the number of parameters
and — `setFrequencies` apart — leaves the object as it was when it raises.  `hok`: what an admissible
call on a heap satisfying the invariant establishes for the object it makes. -/
inductive Effect (h : Heap ℝ) (op : HOp ℝ) (r : Heap ℝ × Option HErr) : Prop
  | skip (e : Option HErr) (hr : r = (h, e))
  | alloc (o : Obj ℝ) (hok : HInv h → Adm h op → OK o ∧ (HFresh h → Fresh o))
      (hr : r = (h.allocObj op.target o, none))
  | call (f : Obj ℝ → Except Err (Obj ℝ)) (hsame : ∀ o o', f o = .ok o' → SameShape o o')
      (hok : HInv h → Adm h op → ∀ o o', h.get op.target = some o → f o = .ok o' → OK o' ∧ (Fresh o → Fresh o'))
      (hr : r = h.updateE op.target f)
  | setFreq (k : Nat) (p : List ℝ) (hop : op = .setFreq k p) (hr : r = h.update k fun o => o.setFrequencies p)

theorem Effect.ite {h : Heap ℝ} {op : HOp ℝ} {c : Prop} [Decidable c] {x y : Heap ℝ × Option HErr}
    (hx : c → Effect h op x) (hy : ¬ c → Effect h op y) : Effect h op (if c then x else y) := by
  split
  · exact hx ‹_›
  · exact hy ‹_›

theorem create_step (h : Heap ℝ) {op : HOp ℝ} (r : Except Err (Obj ℝ))
    (hb : HInv h → Adm h op → ∃ o n m a, r = .ok o ∧ Built o n m a) : Effect h op (h.create op.target r) := by
  cases r with
  | ok o =>
    refine .alloc o (fun hi ha => ?_) rfl
    obtain ⟨o1, _, _, _, e, b⟩ := hb hi ha
    cases e; exact ⟨b.ok, fun _ => b.fresh⟩
  | error e => exact .skip _ rfl

/-- the one walk through the operations: each case names the lemma that says what the call puts into its target -/
theorem applyH_effect (h : Heap ℝ) (op : HOp ℝ) : Effect h op (applyH h op) := by
  cases op with
  | newVec j ord m a p =>
    cases ord
    · exact create_step h _ fun _ ha => let ⟨o, e, b, _⟩ := construct_ok p m a ha.1 ha.2; ⟨o, _, _, _, e, b⟩
    · exact create_step h _ fun _ ha => let ⟨o, e, b, _⟩ := oConstruct_ok p m a ha.1 ha.2; ⟨o, _, _, _, e, b⟩
  | newDim j ord n m a =>
    cases ord
    · exact create_step h _ fun _ ha => let ⟨o, e, b, _⟩ := constructDim_ok n m a ha.1 ha.2.1 ha.2.2; ⟨o, _, _, _, e, b⟩
    · exact create_step h _ fun _ ha => let ⟨o, e, b, _⟩ := oConstructDim_ok n m a ha.1 ha.2.1 ha.2.2; ⟨o, _, _, _, e, b⟩
  | setFreq k p => exact .setFreq k p rfl rfl
  | setPar k θ =>
    exact .call _ (fun o o' e => matchReq_same o o' _ e)
      (fun hi ha o o' hg e => matchReq_ok o (hi.2 k o hg) _ (ha o hg) o' e) rfl
  | matchSome k pl =>
    exact .call _ (fun o o' e => matchReq_same o o' _ e)
      (fun hi ha o o' hg e => matchReq_ok o (hi.2 k o hg) _ (ha o hg) o' e) rfl
  | setSome k pl =>
    exact .call _ (fun o o' e => setReq_same o o' _ e)
      (fun hi ha o o' hg e => (setReq_ok o (hi.2 k o hg).toShape _ (ha o hg) o' e).imp_right fun p _ => p) rfl
  | setOne k i v =>
    exact .call _ (fun o o' e => setOne_same o o' i v e)
      (fun hi ha o o' hg e => (setOne_ok o (hi.2 k o hg).toShape i v (ha o hg) o' e).imp_right fun p _ => p) rfl
  | fire k =>
    exact .call (fun o => .ok o.fire) (fun o o' e => by cases e; exact fire_sameShape o)
      (fun hi _ o o' hg e => by cases e; exact (fire_ok o (hi.2 k o hg).toShape).imp_right fun p _ => p) rfl
  | copy k j =>
    rcases copy_apply h k j with ⟨_, _, e⟩ | ⟨src, hsrc, e⟩ <;> rw [e]
    · exact .skip _ rfl
    · exact .alloc _ (fun hi _ => by rw [copyCtor_eq]; exact ⟨hi.2 k src hsrc, fun hf => hf k src hsrc⟩) rfl
  | sliceCopy k j =>
    rcases sliceCopy_apply h k j with ⟨_, _, e⟩ | ⟨src, hsrc, e⟩ <;> rw [e]
    · exact .skip _ rfl
    · exact .alloc _ (fun hi _ => by
        rw [copySimplexPart_eq]; exact ⟨ok_slice src (hi.2 k src hsrc), fun hf => hf k src hsrc⟩) rfl
  | assign k j =>
    rcases assign_apply h k j with ⟨_, _, e⟩ | ⟨src, tgt, hsrc, _, e⟩ <;> rw [e]
    · exact .skip _ rfl
    · exact .ite (fun _ => .skip _ rfl) fun _ => .ite (fun _ => .skip _ rfl) fun _ =>
        .alloc _ (fun hi _ => by rw [assign_eq]; exact ⟨hi.2 k src hsrc, fun hf => hf k src hsrc⟩) rfl
  | sliceAssign k j =>
    rcases sliceAssign_apply h k j with ⟨_, _, e⟩ | ⟨src, tgt, hsrc, _, e⟩ <;> rw [e]
    · exact .skip _ rfl
    · refine .ite (fun _ => .skip _ rfl) fun hc => .alloc _ (fun hi _ => ?_) rfl
      -- the target is a plain simplex: the slice of the source is the whole new object
      have htn : tgt.vValues = none := by cases ht : tgt.vValues <;> simp [ht] at hc ⊢
      rw [assignSimplexPart_eq, htn]
      exact ⟨ok_slice src (hi.2 k src hsrc), fun hf => hf k src hsrc⟩
  | baseAssign k j =>
    rcases baseAssign_apply h k j with ⟨_, _, e⟩ | ⟨_, _, _, _, e⟩ <;> rw [e]
    · exact .skip _ rfl
    · exact .ite (fun _ => .skip _ rfl) fun _ => .alloc _ (fun _ ha => absurd ha id) rfl

/-- FRAME: an operation keeps the separation of the heap and does not change what any register
other than its target holds -/
theorem step_sep_frame (h : Heap ℝ) (hs : Sep h) (op : HOp ℝ) :
    Sep (stepH h op) ∧ (∀ r, r ≠ op.target → (stepH h op).get r = h.get r) ∧
    (stepH h op).regs.length = h.regs.length := by
  rcases applyH_effect h op with ⟨e, hr⟩ | ⟨o, _, hr⟩ | ⟨f, hsame, _, hr⟩ | ⟨k, p, rfl, hr⟩ <;> rw [stepH, hr]
  · exact ⟨hs, fun _ _ => rfl, rfl⟩
  · obtain ⟨a1, _, a3, a4⟩ := alloc_spec h hs op.target o; exact ⟨a1, a3, a4⟩
  · exact updateE_frame h hs _ f hsame
  · exact (update_spec h hs k _ fun o => (setFrequencies_same o p).len).1

theorem obj?_empty (n k : Nat) : (Heap.empty n : Heap ℝ).obj? k = none := by
  simp only [Heap.obj?, Heap.empty]
  by_cases hk : k < n <;> simp [hk]

theorem get_empty (n r : Nat) : (Heap.empty n : Heap ℝ).get r = none := (get_none _ r (obj?_empty n r)).1

theorem sep_empty (n : Nat) : Sep (Heap.empty n : Heap ℝ) :=
  ⟨fun k ho e => (by rw [obj?_empty] at e; cases e), fun k ho e => (by rw [obj?_empty] at e; cases e),
    fun k _ ho _ _ e => (by rw [obj?_empty] at e; cases e)⟩

theorem run_sep (h : Heap ℝ) (hs : Sep h) (ops : List (HOp ℝ)) : Sep (runH h ops) := by
  induction ops generalizing h with
  | nil => exact hs
  | cons op rest ih => exact ih _ (step_sep_frame h hs op).1

/-- what one admissible call establishes for the object in its target register: the invariant, and
— if the call did not raise and the caches were fresh — a fresh cache -/
theorem step_target (h : Heap ℝ) (hi : HInv h) (op : HOp ℝ) (ha : Adm h op) (o : Obj ℝ)
    (e : (stepH h op).get op.target = some o) :
    OK o ∧ (HFresh h → (applyH h op).2 = none → Fresh o) := by
  rw [stepH] at e
  rcases applyH_effect h op with ⟨_, hr⟩ | ⟨o1, hok, hr⟩ | ⟨f, hsame, hok, hr⟩ | ⟨k, p, rfl, hr⟩ <;> rw [hr] at e ⊢
  · exact ⟨hi.2 _ o e, fun hf _ => hf _ o e⟩
  · rw [alloc_get_target h hi.1 _ o1 o e]
    exact (hok hi ha).imp_right fun p hf _ => p hf
  · exact updateE_target h hi _ f hsame (fun o0 o1 => hok hi ha o0 o1) o e
  · refine update_target h hi k _ (fun o => (setFrequencies_same o p).len) (fun o0 hg => ?_) o e
    obtain ⟨p1, _, p3, _⟩ := setFrequencies_pres o0 (hi.2 k o0 hg) p (ha o0 hg)
    exact ⟨p1, fun _ => p3⟩

theorem step_inv (h : Heap ℝ) (hi : HInv h) (op : HOp ℝ) (ha : Adm h op) : HInv (stepH h op) := by
  obtain ⟨f1, f2, _⟩ := step_sep_frame h hi.1 op
  refine ⟨f1, ?_⟩
  intro r o e
  by_cases hr : r = op.target
  · subst hr; exact (step_target h hi op ha o e).1
  · rw [f2 r hr] at e; exact hi.2 r o e

theorem step_fresh (h : Heap ℝ) (hi : HInv h) (hf : HFresh h) (op : HOp ℝ) (ha : Adm h op)
    (hacc : (applyH h op).2 = none) : HFresh (stepH h op) := by
  obtain ⟨_, f2, _⟩ := step_sep_frame h hi.1 op
  intro r o e
  by_cases hr : r = op.target
  · subst hr; exact (step_target h hi op ha o e).2 hf hacc
  · rw [f2 r hr] at e; exact hf r o e

theorem inv_empty (n : Nat) : HInv (Heap.empty n : Heap ℝ) :=
  ⟨sep_empty n, fun r o e => by rw [get_empty] at e; cases e⟩

theorem run_inv (h : Heap ℝ) (hi : HInv h) (ops : List (HOp ℝ)) (ha : AdmRun h ops) : HInv (runH h ops) := by
  induction ops generalizing h with
  | nil => exact hi
  | cons op rest ih => exact ih _ (step_inv h hi op ha.1) ha.2

/-- no call of the history raises -/
def NoRaise : Heap ℝ → List (HOp ℝ) → Prop
  | _, [] => True
  | h, op :: rest => (applyH h op).2 = none ∧ NoRaise (stepH h op) rest

theorem fresh_empty (n : Nat) : HFresh (Heap.empty n : Heap ℝ) :=
  fun r o e => by rw [get_empty] at e; cases e

theorem run_fresh (h : Heap ℝ) (hi : HInv h) (hf : HFresh h) (ops : List (HOp ℝ)) (ha : AdmRun h ops)
    (hn : NoRaise h ops) : HFresh (runH h ops) := by
  induction ops generalizing h with
  | nil => exact hf
  | cons op rest ih =>
    exact ih _ (step_inv h hi op ha.1) (step_fresh h hi hf op ha.1 hn.1) ha.2 hn.2

theorem run_regs_length (h : Heap ℝ) (hs : Sep h) (ops : List (HOp ℝ)) :
    (runH h ops).regs.length = h.regs.length := by
  induction ops generalizing h with
  | nil => rfl
  | cons op rest ih =>
    obtain ⟨f1, _, f3⟩ := step_sep_frame h hs op
    exact (ih _ f1).trans f3

theorem run_frame (h : Heap ℝ) (hs : Sep h) (r : Nat) (ops : List (HOp ℝ))
    (ht : ∀ op ∈ ops, op.target ≠ r) : (runH h ops).get r = h.get r := by
  induction ops generalizing h with
  | nil => rfl
  | cons op rest ih =>
    obtain ⟨f1, f2, _⟩ := step_sep_frame h hs op
    have h1 := ih (stepH h op) f1 (fun o ho => ht o (by simp [ho]))
    have h2 := f2 r (Ne.symm (ht op (by simp)))
    exact h1.trans h2

theorem copy_carries (h : Heap ℝ) (hs : Sep h) (k j : Nat) (src : Obj ℝ) (hk : h.get k = some src)
    (hj : j < h.regs.length) : (stepH h (.copy k j)).get j = some src := by
  rcases copy_apply h k j with ⟨_, hn, _⟩ | ⟨src', hsrc, e1⟩
  · rw [hk] at hn; cases hn
  · cases hk.symm.trans hsrc
    rw [stepH, e1, (alloc_spec h hs j _).2.1 hj, copyCtor_eq]

theorem assign_carries (h : Heap ℝ) (hs : Sep h) (k j : Nat) (src tgt : Obj ℝ) (hk : h.get k = some src)
    (hj : h.get j = some tgt) (hc : src.vValues.isSome = tgt.vValues.isSome) :
    (stepH h (.assign k j)).get j = some src ∧ (applyH h (.assign k j)).2 = none := by
  rcases assign_apply h k j with ⟨_, hn, _⟩ | ⟨src', tgt', hk', hj', e⟩
  · rw [hk, hj] at hn; exact hn.elim nofun nofun
  · cases hk.symm.trans hk'; cases hj.symm.trans hj'
    rw [stepH, e, if_neg (not_not.mpr hc)]
    by_cases hkj : k = j
    · rw [if_pos hkj]; exact ⟨hkj ▸ hk, rfl⟩
    · rw [if_neg hkj]
      exact ⟨by rw [(alloc_spec h hs j _).2.1 (get_lt h j tgt hj), assign_eq], rfl⟩

/-! ## Part C — the value-level object of `BppModel/Simplex.lean` is a projection of this model

`Simplex.St` (dimension, method, one constraint flag, parameter values, probabilities) is what C09 /
C13 build on and what the theorems of `Props/C19.lean` on objects are about.  The member functions
of `Simplex.lean` on `St` are the projections of the member functions of this file. -/

theorem testFrom_full (a : Bool) (req : Nat → Option ℝ) (i : Nat) (ps : List (Param ℝ)) (θ : List ℝ)
    (hc : ∀ p ∈ ps, p.incl = a) (hl : θ.length = ps.length) (hreq : ∀ k, req (i + k) = θ[k]?) :
    testFrom req i ps = θ.all (inConstraint a) := by
  induction ps generalizing i θ with
  | nil => rw [List.length_eq_zero_iff.mp hl]; rfl
  | cons p ps ih =>
    obtain ⟨t, θ, rfl⟩ := List.exists_cons_of_length_eq_add_one hl
    obtain ⟨h0, hk⟩ := req_cons hreq
    obtain ⟨hp, hps⟩ := List.forall_mem_cons.mp hc
    rw [testFrom, h0, List.all_cons, hp, ih (i + 1) θ hps (Nat.succ_injective hl) hk]

theorem changedFrom_full (req : Nat → Option ℝ) (i : Nat) (ps : List (Param ℝ)) (θ : List ℝ)
    (hl : θ.length = ps.length) (hreq : ∀ k, req (i + k) = θ[k]?) :
    changedFrom req i ps = (List.zip (ps.map (·.value)) θ).any (fun (c, v) => !(Scalar.eqb c v)) := by
  induction ps generalizing i θ with
  | nil => rw [List.length_eq_zero_iff.mp hl]; rfl
  | cons p ps ih =>
    obtain ⟨t, θ, rfl⟩ := List.exists_cons_of_length_eq_add_one hl
    obtain ⟨h0, hk⟩ := req_cons hreq
    rw [changedFrom, h0, List.map_cons, List.zip_cons_cons, List.any_cons,
      ih (i + 1) θ (Nat.succ_injective hl) hk]

theorem matchReq_refines (a : Bool) (o : Obj ℝ) (θ : List ℝ) (hc : HasConstraint a o)
    (hl : θ.length = o.params.length) :
    (o.matchReq (reqOfList θ)).map (toSt a) = Simplex.matchParams (toSt a o) θ := by
  have ht := testFrom_full a (reqOfList θ) 1 o.params θ hc hl (reqOfList_at θ)
  have hch := changedFrom_full (reqOfList θ) 1 o.params θ hl (reqOfList_at θ)
  have hw := writeFrom_reqOfList o.params θ hl
  unfold Obj.matchReq Simplex.matchParams
  rw [ht]
  by_cases h1 : θ.all (inConstraint a) = true
  · have h1' : θ.all (inConstraint (toSt a o).allowNull) = true := h1
    simp only [h1, h1', if_true]
    have hch' : (List.zip (toSt a o).params θ).any (fun (c, v) => !(Scalar.eqb c v)) = changedFrom (reqOfList θ) 1 o.params := by
      rw [hch]; rfl
    rw [hch']
    by_cases h2 : changedFrom (reqOfList θ) 1 o.params = true
    · simp only [h2, if_true, Except.map]
      rw [toSt_fire]
      congr 2
      simp only [toSt, Obj.θ, hw]
    · simp only [h2, Except.map]
      rfl
  · have h1' : ¬ θ.all (inConstraint (toSt a o).allowNull) = true := h1
    simp only [h1, h1', Except.map]
    simp

/-- outcome of a call that returns the object and the exception, as an `Except` -/
def pairToExcept {β : Type} : β × Option Err → Except Err β
  | (b, none) => .ok b
  | (_, some e) => .error e

theorem setFrequenciesBase_refines (a : Bool) (o : Obj ℝ) (p : List ℝ) (hc : HasConstraint a o)
    (hm : ValidMethod o.method) (hl : o.params.length = o.dim - 1) :
    (pairToExcept (o.setFrequenciesBase p)).map (toSt a) = Simplex.setFrequencies (toSt a o) p := by
  unfold Simplex.setFrequencies Obj.setFrequenciesBase
  by_cases hd : o.dim = 0
  · have : (toSt a o).dim = 0 := hd
    simp only [hd, this, if_true, pairToExcept, Except.map]
  · have hd' : ¬ (toSt a o).dim = 0 := hd
    simp only [hd, hd', if_false]
    by_cases hs : sumOk p = true
    · simp only [hs, Bool.not_true, Bool.false_eq_true, if_false]
      by_cases hlt : p.length ≠ o.dim
      · have hlt' : p.length ≠ (toSt a o).dim := hlt
        simp only [hlt, hlt', ne_eq, not_false_eq_true, if_true, pairToExcept, Except.map]
      · have hlt' : ¬ p.length ≠ (toSt a o).dim := hlt
        simp only [hlt, hlt', if_false]
        have hle : o.dim ≤ p.length := by omega
        have hlen : (paramsOf o.method (p.take o.dim)).length = (o.cacheWrite (p.take o.dim)).params.length := by
          rw [(cacheWrite_eqButCache o _).params, paramsOf_length _ _ hm, hl]; simp [hle]
        have hr := matchReq_refines a (o.cacheWrite (p.take o.dim)) _
          (by unfold HasConstraint; rw [(cacheWrite_eqButCache o _).params]; exact hc) hlen
        rw [show toSt a (o.cacheWrite (p.take o.dim)) = toSt a o by rw [cacheWrite_eq]; rfl] at hr
        show _ = Simplex.matchParams (toSt a o) (paramsOf o.method (p.take o.dim))
        rw [← hr]
        cases (o.cacheWrite (p.take o.dim)).matchReq (reqOfList (paramsOf o.method (p.take o.dim))) with
        | ok o2 => rfl
        | error e => rfl
    · have hs' : sumOk p = false := by simpa using hs
      simp only [hs', Bool.not_false, if_true, pairToExcept, Except.map]

theorem setOne_refines (a : Bool) (o : Obj ℝ) (i : Nat) (v : ℝ) (hc : HasConstraint a o) :
    (o.setOne i v).map (toSt a) = Simplex.setOne (toSt a o) i v := by
  unfold Simplex.setOne Obj.setOne
  have hlenθ : (toSt a o).params.length = o.params.length := by simp [toSt, Obj.θ]
  by_cases hnf : i = 0 ∨ o.params.length < i
  · have hnf' : i = 0 ∨ (toSt a o).params.length < i := by rw [hlenθ]; exact hnf
    have hp : o.param? i = none := by
      unfold Obj.param?
      rcases hnf with h0 | hlt
      · simp [h0]
      · have : ¬ i = 0 := by omega
        simp only [this, if_false]
        exact List.getElem?_eq_none (by omega)
    simp only [hp, hnf', if_true, Except.map]
  · have hnf' : ¬ (i = 0 ∨ (toSt a o).params.length < i) := by rw [hlenθ]; exact hnf
    have hi : ¬ i = 0 := fun h => hnf (Or.inl h)
    have hlt : i - 1 < o.params.length := by omega
    have hp : o.param? i = some o.params[i - 1] := by
      unfold Obj.param?
      simp only [hi, if_false]
      exact List.getElem?_eq_getElem hlt
    have hcur : (toSt a o).params.getD (i - 1) default = (o.params[i - 1]).value := by
      simp [toSt, Obj.θ, List.getD_eq_getElem?_getD, hlt]
    have hincl : (o.params[i - 1]).incl = a := hc _ (List.getElem_mem hlt)
    simp only [hp, hnf', if_false, hcur, hincl]
    have ha : (toSt a o).allowNull = a := rfl
    rw [ha]
    by_cases hg : Scalar.gtb (Scalar.abs (v - (o.params[i - 1]).value)) Scalar.zero = true
    · simp only [hg, if_true]
      by_cases hcn : inConstraint a v = true
      · simp only [hcn, if_true, Except.map]
        rw [toSt_fire]
        congr 2
        simp [toSt, Obj.θ, List.map_set]
      · simp only [hcn, Except.map]
        simp
    · simp only [hg, Except.map]
      simp only [Bool.false_eq_true, if_false]
      rw [toSt_fire]

theorem toSt_mk (a : Bool) (vals : List ℝ) (dim m : Nat) (u cache : List ℝ) (vv : Option (List ℝ)) :
    toSt a ⟨vals.map fun v => ⟨v, a⟩, dim, m, u, cache, vv⟩ = ⟨dim, m, a, vals, u⟩ := by
  rw [toSt, Obj.θ, map_mk_value]

theorem newParams_bind_refines (a : Bool) (vals : List ℝ) (k : List (Param ℝ) → Except Err (Obj ℝ))
    (k' : List ℝ → Except Err (St ℝ)) (hk : (k (vals.map fun v => ⟨v, a⟩)).map (toSt a) = k' vals) :
    (newParams a vals >>= k).map (toSt a) = (vals.mapM (mkParam a) >>= k') := by
  rw [newParams_eq, mapM_mkParam_eq]
  split
  · exact hk
  · rfl

theorem construct_refines (p : List ℝ) (m : Nat) (a : Bool) :
    (SimplexObj.construct p m a).map (toSt a) = Simplex.construct p m a := by
  unfold SimplexObj.construct Simplex.construct
  by_cases h0 : p.length = 0
  · simp only [h0, if_true, Except.map]; rfl
  · simp only [h0, if_false]
    by_cases hs : sumOk p = true
    · simp only [hs, Bool.not_true, Bool.false_eq_true, if_false]
      exact newParams_bind_refines a _ _ _ (congrArg Except.ok (toSt_mk ..))
    · have hs' : sumOk p = false := by simpa using hs
      simp only [hs', Bool.not_false, if_true, Except.map]

theorem pairToExcept_match (r : Obj ℝ × Option Err) :
    (match r with
      | (o, none) => (Except.ok o : Except Err (Obj ℝ))
      | (_, some e) => Except.error e) = pairToExcept r := by
  obtain ⟨o, e⟩ := r
  cases e <;> rfl

theorem constructDim_refines (dim m : Nat) (a : Bool) :
    (SimplexObj.constructDim (α := ℝ) dim m a).map (toSt a) = Simplex.constructDim dim m a := by
  unfold SimplexObj.constructDim Simplex.constructDim
  by_cases h0 : dim = 0
  · simp only [h0, if_true, Except.map]; rfl
  · simp only [h0, if_false]
    match m with
    | 0 => rfl
    | 1 => exact newParams_bind_refines a _ _ _ (congrArg Except.ok (toSt_mk ..))
    | 2 => exact newParams_bind_refines a _ _ _ (congrArg Except.ok (toSt_mk ..))
    | 3 =>
      refine newParams_bind_refines a _ _ _ ?_
      have hr := setFrequenciesBase_refines a
        ⟨(List.replicate (dim - 1) (Scalar.ofRat 1 2 : ℝ)).map fun v => ⟨v, a⟩, dim, 3,
          List.replicate dim (Scalar.one / Scalar.ofInt (dim : Int)), [], none⟩
        (List.replicate dim (Scalar.one / Scalar.ofInt (dim : Int))) (map_mk_incl a _) (Or.inr (Or.inr rfl))
        (by simp)
      rw [toSt_mk] at hr
      rw [← hr]
      cases Obj.setFrequenciesBase (⟨(List.replicate (dim - 1) (Scalar.ofRat 1 2 : ℝ)).map fun v => ⟨v, a⟩, dim, 3,
          List.replicate dim (Scalar.one / Scalar.ofInt (dim : Int)), [], none⟩ : Obj ℝ)
        (List.replicate dim (Scalar.one / Scalar.ofInt (dim : Int))) with
      | mk o' err => cases err <;> rfl
    | n + 4 => rfl

theorem constructDim_shape (dim m : Nat) (a : Bool) (hm : ValidMethod m) (b : Obj ℝ)
    (e : SimplexObj.constructDim dim m a = .ok b) :
    b.method = m ∧ b.dim = dim ∧ HasConstraint a b ∧ b.params.length = dim - 1 ∧ b.vValues = none := by
  unfold SimplexObj.constructDim at e
  by_cases h0 : dim = 0
  · simp only [h0, if_true, Except.ok.injEq] at e
    subst e; subst h0
    exact ⟨rfl, rfl, fun p hp => (by cases hp), rfl, rfl⟩
  · simp only [h0, if_false] at e
    rcases hm with rfl | rfl | rfl
    · cases newParams_bind_ok e
      exact ⟨rfl, rfl, map_mk_incl a _, by simp [paramsGlobal_length], rfl⟩
    · cases newParams_bind_ok e
      exact ⟨rfl, rfl, map_mk_incl a _, by simp, rfl⟩
    · have e' := newParams_bind_ok e
      split at e'
      · next heq =>
        cases e'
        have hsame := setFrequenciesBase_same heq
        exact ⟨hsame.method, hsame.dim, hsame.hasConstraint (map_mk_incl a _),
          hsame.len.trans (by simp), Option.not_isSome_iff_eq_none.mp (by rw [hsame.cls]; simp)⟩
      · cases e'

/-- an ordered object of this model projects to `⟨toSt a o, values⟩` -/
def ProjO (a : Bool) (o : Obj ℝ) (s : OSt ℝ) : Prop := s.base = toSt a o ∧ o.vValues = some s.values

theorem fire_values_of_some (o : Obj ℝ) (w : List ℝ) (hw : o.vValues = some w) :
    o.fire.vValues = some (orderedValues o.fire.vProb 1) := by
  rw [fire_eq, hw]; rfl

theorem projO_fire (a : Bool) (o : Obj ℝ) (w : List ℝ) (hw : o.vValues = some w) :
    ProjO a o.fire (oRefresh (Simplex.fire (toSt a o))) := by
  refine ⟨by rw [toSt_fire]; rfl, ?_⟩
  rw [fire_values_of_some o w hw]
  have : (oRefresh (Simplex.fire (toSt a o))).values = orderedValues (Simplex.fire (toSt a o)).probs 1 := rfl
  rw [this, ← toSt_fire]
  rfl

/-- a call whose projection is `Y`, followed on the value level by `g`: the ordered objects correspond
if `g` yields the values of the result -/
theorem projO_map (a : Bool) {X : Except Err (Obj ℝ)} {Y : Except Err (St ℝ)} (hr : X.map (toSt a) = Y)
    (g : St ℝ → OSt ℝ) (hg : ∀ o', X = .ok o' → ProjO a o' (g (toSt a o'))) :
    (∀ o', X = .ok o' → ∃ s', (Y >>= fun b => .ok (g b)) = .ok s' ∧ ProjO a o' s') ∧
    (∀ e, X = .error e → (Y >>= fun b => (.ok (g b) : Except Err (OSt ℝ))) = .error e) := by
  subst hr
  exact ⟨fun o' e => ⟨_, by rw [e]; rfl, hg o' e⟩, fun err e => by rw [e]; rfl⟩

/-- the same with a further call on both sides -/
theorem projO_bind (a : Bool) {X : Except Err (Obj ℝ)} {Y : Except Err (St ℝ)} (hr : X.map (toSt a) = Y)
    {kO : Obj ℝ → Except Err (Obj ℝ)} {k : St ℝ → Except Err (OSt ℝ)}
    (hk : ∀ b, X = .ok b →
      (∀ o', kO b = .ok o' → ∃ s', k (toSt a b) = .ok s' ∧ ProjO a o' s') ∧
      (∀ e, kO b = .error e → k (toSt a b) = .error e)) :
    (∀ o', (X >>= kO) = .ok o' → ∃ s', (Y >>= k) = .ok s' ∧ ProjO a o' s') ∧
    (∀ e, (X >>= kO) = .error e → (Y >>= k) = .error e) := by
  subst hr
  cases X with
  | error e0 => exact ⟨fun o' e => (by cases e), fun e e' => (by cases e'; rfl)⟩
  | ok b => exact hk b rfl

theorem oMatchReq_refines (a : Bool) (o : Obj ℝ) (w : List ℝ) (θ : List ℝ) (hc : HasConstraint a o)
    (hl : θ.length = o.params.length) (hw : o.vValues = some w) :
    (∀ o', o.matchReq (reqOfList θ) = .ok o' → ∃ s', oMatchParams ⟨toSt a o, w⟩ θ = .ok s' ∧ ProjO a o' s') ∧
    (∀ e, o.matchReq (reqOfList θ) = .error e → oMatchParams ⟨toSt a o, w⟩ θ = .error e) := by
  have hch : (List.zip (toSt a o).params θ).any (fun (c, v) => !(Scalar.eqb c v)) =
      changedFrom (reqOfList θ) 1 o.params :=
    (changedFrom_full (reqOfList θ) 1 o.params θ hl (reqOfList_at θ)).symm
  refine projO_map a (matchReq_refines a o θ hc hl) _ fun o' e => ?_
  simp only [hch]
  rcases (matchReq_fired e).2 with ⟨hc2, rfl⟩ | ⟨hc2, rfl⟩
  · rw [if_pos hc2]
    refine ⟨rfl, ?_⟩
    rw [fire_values_of_some { o with params := writeFrom (reqOfList θ) 1 o.params } w hw]
    rfl
  · rw [if_neg (Bool.not_eq_true _ ▸ hc2)]; exact ⟨rfl, hw⟩

theorem oSetOne_refines (a : Bool) (o : Obj ℝ) (w : List ℝ) (i : Nat) (v : ℝ) (hc : HasConstraint a o)
    (hw : o.vValues = some w) :
    (∀ o', o.setOne i v = .ok o' → ∃ s', Simplex.oSetOne ⟨toSt a o, w⟩ i v = .ok s' ∧ ProjO a o' s') ∧
    (∀ e, o.setOne i v = .error e → Simplex.oSetOne ⟨toSt a o, w⟩ i v = .error e) := by
  refine projO_map a (setOne_refines a o i v hc) oRefresh fun o' e => ⟨rfl, ?_⟩
  -- the result of `setOne` is always a notified object
  rcases setOne_fired e with ⟨p, _, _, _, rfl⟩ | rfl
  · rw [fire_values_of_some { o with params := o.params.set (i - 1) { p with value := v } } w hw]; rfl
  · rw [fire_values_of_some o w hw]; rfl

theorem oSetFrequencies_refines (a : Bool) (o : Obj ℝ) (w : List ℝ) (v : List ℝ) (hc : HasConstraint a o)
    (hm : ValidMethod o.method) (hl : o.params.length = o.dim - 1) (hw : o.vValues = some w) :
    (∀ o', o.oSetFrequencies v = (o', none) →
      ∃ s', Simplex.oSetFrequencies ⟨toSt a o, w⟩ v = .ok s' ∧ ProjO a o' s') ∧
    (∀ o' e, o.oSetFrequencies v = (o', some e) → Simplex.oSetFrequencies ⟨toSt a o, w⟩ v = .error e) := by
  have hr := setFrequenciesBase_refines a o (orderedToProbs v 1) hc hm hl
  unfold Obj.oSetFrequencies Simplex.oSetFrequencies
  by_cases h0 : v.length = 0
  · simp only [h0, if_true]
    exact ⟨fun o' e => (by cases e; exact ⟨_, rfl, rfl, hw⟩), fun o' e' e => (by cases e)⟩
  · simp only [h0, if_false]
    by_cases h1 : v.length ≠ o.dim
    · have h1' : v.length ≠ (toSt a o).dim := h1
      simp only [h1, h1', ne_eq, not_false_eq_true, if_true]
      exact ⟨fun o' e => (by cases e), fun o' e' e => (by cases e; rfl)⟩
    · have h1' : ¬ v.length ≠ (toSt a o).dim := h1
      simp only [h1, h1', if_false]
      cases hb : o.setFrequenciesBase (orderedToProbs v 1) with
      | mk ob err =>
        rw [hb] at hr
        cases err with
        | none =>
          have hm' : Simplex.setFrequencies (toSt a o) (orderedToProbs v 1) = .ok (toSt a ob) := hr.symm
          simp only [hm', bind, Except.bind]
          exact ⟨fun o' e => (by cases e; exact ⟨_, rfl, rfl, rfl⟩), fun o' e' e => (by cases e)⟩
        | some e0 =>
          have hm' : Simplex.setFrequencies (toSt a o) (orderedToProbs v 1) = .error e0 := hr.symm
          simp only [hm', bind, Except.bind]
          exact ⟨fun o' e => (by cases e), fun o' e' e => (by cases e; rfl)⟩

theorem oConstructDim_refines (dim m : Nat) (a : Bool) :
    (∀ o, SimplexObj.oConstructDim (α := ℝ) dim m a = .ok o →
      ∃ s, Simplex.oConstructDim dim m a = .ok s ∧ ProjO a o s) ∧
    (∀ e, SimplexObj.oConstructDim (α := ℝ) dim m a = .error e → Simplex.oConstructDim (α := ℝ) dim m a = .error e) :=
  projO_bind a (constructDim_refines dim m a) fun b _ =>
    ⟨fun o e => (by cases e; exact ⟨_, rfl, rfl, rfl⟩), fun e e' => (by cases e')⟩

theorem oConstruct_refines (v : List ℝ) (m : Nat) (a : Bool) (hm : ValidMethod m) :
    (∀ o, SimplexObj.oConstruct v m a = .ok o → ∃ s, Simplex.oConstruct v m a = .ok s ∧ ProjO a o s) ∧
    (∀ e, SimplexObj.oConstruct v m a = .error e → Simplex.oConstruct v m a = .error e) := by
  refine projO_bind a (constructDim_refines v.length m a) fun b hb => ?_
  obtain ⟨s1, s2, s3, s4, _⟩ := constructDim_shape v.length m a hm b hb
  obtain ⟨r1, r2⟩ := oSetFrequencies_refines a { b with vValues := some v } v v s3 (by rw [s1]; exact hm)
    (by rw [s2]; exact s4) rfl
  cases hs : Obj.oSetFrequencies { b with vValues := some v } v with
  | mk o' err =>
    cases err with
    | none => exact ⟨fun o e => (by cases e; exact r1 o' hs), fun e e' => (by cases e')⟩
    | some e0 => exact ⟨fun o e => (by cases e), fun e e' => (by cases e'; exact r2 o' e0 hs)⟩

end Bpp.SimplexObj
