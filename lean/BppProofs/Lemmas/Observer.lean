import BppModel.Observer
import BppProofs.Lemmas.GraphRefine
/-! Lemmas on the association observer (`BppModel/Observer.lean`).  `Inverse v m`: a slot vector and an object-keyed map are
inverse of each other (`add`, `remove`, `clear_empty`).  `OInv g o`: the four such pairs of `o`, and every associated id live
in `g`; `OInvP` is the same against arbitrary liveness predicates, so that notifications can be followed one id at a time while
the graph has already lost all of them.  The observer-local members keep `OInv` (`…_inv`); a notification keeps it against a
graph without that id (`deletedEdge_inv`, `deletedNode_inv`) and leaves the object `Forgotten`; the look-up by id inverts
object → id (`nodeFromGid_iff`, `edgeFromGid_iff`); `Obs.check_iff`. -/
set_option linter.unusedSimpArgs false
set_option linter.unusedVariables false
namespace Bpp
namespace Graph
open AL

namespace Vec

theorem get_eq_some_lt {v : Vec} {i : Nat} {a : Obj} (h : get v i = some a) : i < v.length := by
  unfold get at h
  rcases hv : v[i]? with _ | x
  · simp [hv] at h
  · exact (List.getElem?_eq_some_iff.mp hv).1

theorem get_of_ge {v : Vec} {i : Nat} (h : v.length ≤ i) : get v i = none := by
  unfold get; simp [List.getElem?_eq_none h]

/-- the size test in front of `v.at(i)` (`getNodeFromGraphid`, …) changes nothing: beyond the size `get` is null already -/
theorem get_guard (v : Vec) (i : Nat) : (if i ≥ v.length then none else get v i) = get v i := by
  split
  · rename_i h; exact (get_of_ge h).symm
  · rfl

theorem length_put (v : Vec) (i : Nat) (o : Option Obj) : (put v i o).length = v.length := by simp [put]

theorem get_put (v : Vec) (i j : Nat) (o : Option Obj) :
    get (put v i o) j = if i = j ∧ i < v.length then o else get v j := by
  unfold get put
  rw [List.getElem?_set]
  by_cases h : i = j
  · subst h
    by_cases hl : i < v.length
    · simp [hl]
    · simp [hl, List.getElem?_eq_none (Nat.le_of_not_lt hl)]
  · simp [h]

theorem length_grow (v : Vec) (n : Nat) : (grow v n).length = max v.length n := by
  simp [grow]; omega

theorem get_grow (v : Vec) (n j : Nat) : get (grow v n) j = get v j := by
  unfold get grow
  by_cases h : j < v.length
  · rw [List.getElem?_append_left h]
  · have hle : v.length ≤ j := Nat.le_of_not_lt h
    rw [List.getElem?_append_right hle, List.getElem?_eq_none hle]
    by_cases h2 : j - v.length < n - v.length
    · simp [List.getElem?_replicate, h2]
    · simp [List.getElem?_replicate, h2]

theorem firstFree_spec (v : Vec) : firstFree v ≤ v.length ∧ get v (firstFree v) = none ∧
    ∀ j, j < firstFree v → (get v j).isSome = true := by
  induction v with
  | nil => simp [firstFree, get]
  | cons x r ih =>
    cases x with
    | none => simp [firstFree, get]
    | some a =>
      simp only [firstFree, List.length_cons]
      refine ⟨by omega, ?_, ?_⟩
      · have := ih.2.1; unfold get at this ⊢; simpa using this
      · intro j hj
        cases j with
        | zero => simp [get]
        | succ j => have := ih.2.2 j (by omega); unfold get at this ⊢; simpa using this

end Vec

theorem nodeFromGid_eq_get (o : Obs) (n : Nat) : o.nodeFromGid n = Vec.get o.gN n := Vec.get_guard o.gN n

theorem edgeFromGid_eq_get (o : Obs) (e : Nat) : o.edgeFromGid e = Vec.get o.gE e := Vec.get_guard o.gE e

/-- the slot vector grown to hold `e` and written there answers `x` at `e` -/
theorem edgeFromGid_put (o : Obs) (e x : Nat) (m : List (Nat × Nat)) :
    ({ o with gE := Vec.put (Vec.grow o.gE (e + 1)) e (some x), Eg := m } : Obs).edgeFromGid e = some x := by
  rw [edgeFromGid_eq_get, Vec.get_put, Vec.length_grow]
  simp; omega

/-- a vector of slots and an object-keyed map are inverse of each other -/
structure Inverse (v : Vec) (m : List (Nat × Nat)) : Prop where
  asc : Asc m
  fwd : ∀ i a, Vec.get v i = some a → find a m = some i
  bwd : ∀ a i, find a m = some i → Vec.get v i = some a

/-- the association invariant against arbitrary "live node" / "live edge" predicates -/
structure OInvP (N E : Nat → Bool) (o : Obs) : Prop where
  nodes : Inverse o.gN o.Ng
  edges : Inverse o.gE o.Eg
  nidx : Inverse o.iN o.Ni
  eidx : Inverse o.iE o.Ei
  n_live : ∀ a i, find a o.Ng = some i → N i = true
  e_live : ∀ x e, find x o.Eg = some e → E e = true

/-- **the association invariant** of one observer of graph `g`: the four (slot vector, map) pairs
are inverse of each other — each object has at most one graph id and one index and back — and
associated ids are live in the graph -/
abbrev OInv (g : G) (o : Obs) : Prop := OInvP g.hasNode g.hasEdge o

theorem OInvP.mono {N E N' E' : Nat → Bool} {o : Obs} (h : OInvP N E o)
    (hn : ∀ n, N n = true → N' n = true) (he : ∀ e, E e = true → E' e = true) : OInvP N' E' o :=
  ⟨h.nodes, h.edges, h.nidx, h.eidx, fun a i ha => hn i (h.n_live a i ha), fun x e hx => he e (h.e_live x e hx)⟩

theorem Inverse.empty : Inverse [] [] := ⟨asc_nil, by simp [Vec.get], by simp [find]⟩

theorem oinv_empty (g : G) : OInv g {} :=
  ⟨Inverse.empty, Inverse.empty, Inverse.empty, Inverse.empty, nofun, nofun⟩

/-- id → object is the inverse of object → id -/
theorem nodeFromGid_iff {g : G} {o : Obs} (hi : OInv g o) (n A : Nat) : o.nodeFromGid n = some A ↔ find A o.Ng = some n := by
  rw [nodeFromGid_eq_get]; exact ⟨hi.nodes.fwd n A, hi.nodes.bwd A n⟩

theorem edgeFromGid_iff {g : G} {o : Obs} (hi : OInv g o) (e X : Nat) : o.edgeFromGid e = some X ↔ find X o.Eg = some e := by
  rw [edgeFromGid_eq_get]; exact ⟨hi.edges.fwd e X, hi.edges.bwd X e⟩

theorem Inverse.add {v : Vec} {m : List (Nat × Nat)} (h : Inverse v m) {a i : Nat}
    (ha : find a m = none) (hi : Vec.get v i = none) :
    Inverse (Vec.put (Vec.grow v (i + 1)) i (some a)) (AL.set a i m) := by
  have hlen : i < (Vec.grow v (i + 1)).length := by rw [Vec.length_grow]; omega
  refine ⟨asc_set _ _ _ h.asc, ?_, ?_⟩
  · intro j b hj
    rw [Vec.get_put, Vec.get_grow] at hj
    rw [find_set]
    by_cases hij : i = j
    · subst hij
      simp only [hlen, and_self, if_true, Option.some.injEq] at hj
      subst hj; simp
    · simp only [hij, false_and, if_false] at hj
      have := h.fwd j b hj
      have hne : ¬ a = b := by intro hh; subst hh; rw [ha] at this; cases this
      simp [hne, this]
  · intro b j hb
    rw [find_set] at hb
    rw [Vec.get_put, Vec.get_grow]
    by_cases hab : a = b
    · subst hab
      simp only [if_true, Option.some.injEq] at hb
      subst hb; simp [hlen]
    · simp only [hab, if_false] at hb
      have := h.bwd b j hb
      have hne : ¬ i = j := by intro hh; subst hh; rw [hi] at this; cases this
      simp [hne, this]

theorem Inverse.remove {v : Vec} {m : List (Nat × Nat)} (h : Inverse v m) {a i : Nat} (ha : find a m = some i) :
    Inverse (Vec.put v i none) (AL.erase a m) := by
  have hv := h.bwd a i ha
  have hlt := Vec.get_eq_some_lt hv
  refine ⟨asc_erase _ _ h.asc, ?_, ?_⟩
  · intro j b hj
    rw [Vec.get_put] at hj
    rw [find_erase]
    by_cases hij : i = j
    · subst hij; simp [hlt] at hj
    · simp only [hij, false_and, if_false] at hj
      have := h.fwd j b hj
      have hne : ¬ a = b := by intro hh; subst hh; rw [ha] at this; injection this with this; exact hij this
      simp [hne, this]
  · intro b j hb
    rw [find_erase] at hb
    rw [Vec.get_put]
    by_cases hab : a = b
    · subst hab; simp at hb
    · simp only [hab, if_false] at hb
      have := h.bwd b j hb
      have hne : ¬ i = j := by
        intro hh; subst hh; rw [hv] at this; injection this with this; exact hab this
      simp [hne, this]

/-- clearing a slot that holds no object changes nothing observable -/
theorem Inverse.clear_empty {v : Vec} {m : List (Nat × Nat)} (h : Inverse v m) {i : Nat} (hi : Vec.get v i = none) :
    Inverse (Vec.put v i none) m := by
  refine ⟨h.asc, ?_, ?_⟩
  · intro j b hj
    rw [Vec.get_put] at hj
    by_cases hij : i = j ∧ i < v.length
    · rw [if_pos hij] at hj; cases hj
    · rw [if_neg hij] at hj; exact h.fwd j b hj
  · intro b j hb
    rw [Vec.get_put]
    have := h.bwd b j hb
    by_cases hij : i = j ∧ i < v.length
    · obtain ⟨rfl, _⟩ := hij; rw [hi] at this; cases this
    · simp [hij, this]

theorem Vec.grow_of_le {v : Vec} {n : Nat} (h : n ≤ v.length) : Vec.grow v n = v := by
  unfold Vec.grow
  have : n - v.length = 0 := by omega
  simp [this]

/-! ### observer-local operations keep the invariant -/

theorem slot_free_of_fromGid {v : Vec} {id : Nat} (h : (if id ≥ v.length then none else Vec.get v id).isSome = false) :
    Vec.get v id = none := by
  rw [Vec.get_guard] at h
  cases hg : Vec.get v id <;> simp_all

theorem live_set {N : Nat → Bool} {m : List (Nat × Nat)} (h : ∀ a i, find a m = some i → N i = true) {a id : Nat}
    (hid : N id = true) (b j : Nat) (hb : find b (AL.set a id m) = some j) : N j = true := by
  rw [find_set] at hb
  split at hb
  · cases hb; exact hid
  · exact h b j hb

theorem live_erase {N : Nat → Bool} {m : List (Nat × Nat)} (h : ∀ a i, find a m = some i → N i = true) {a : Nat}
    (b j : Nat) (hb : find b (AL.erase a m) = some j) : N j = true :=
  h b j (find_erase_some hb)

/-- an operation that tests its preconditions one after the other succeeds iff all of them hold -/
theorem ite_error_eq_ok {ε α : Type} {c : Prop} [Decidable c] {e : ε} {r : Except ε α} {a : α} :
    (if c then .error e else r) = .ok a ↔ ¬ c ∧ r = .ok a := by
  split <;> simp [*]

theorem associateNode_inv {g : G} {o o' : Obs} {a id : Nat} (hi : OInv g o)
    (h : World.associateNode g o a id = .ok o') : OInv g o' := by
  simp only [World.associateNode, ite_error_eq_ok, Except.ok.injEq, Bool.not_eq_true, Bool.not_eq_false'] at h
  obtain ⟨h1, h2, h3, rfl⟩ := h
  exact ⟨hi.nodes.add (find_none_of_has_false h1) (slot_free_of_fromGid h3), hi.edges, hi.nidx, hi.eidx,
    live_set hi.n_live h2, hi.e_live⟩

theorem associateEdge_inv {g : G} {o o' : Obs} {x e : Nat} (hi : OInv g o)
    (h : World.associateEdge g o x e = .ok o') : OInv g o' := by
  simp only [World.associateEdge, ite_error_eq_ok, Except.ok.injEq, Bool.not_eq_true, Bool.not_eq_false'] at h
  obtain ⟨h1, h2, h3, rfl⟩ := h
  exact ⟨hi.nodes, hi.edges.add (find_none_of_has_false h1) (slot_free_of_fromGid h3), hi.nidx, hi.eidx, hi.n_live,
    live_set hi.e_live h2⟩

theorem dissociateNode_inv {g : G} {o o' : Obs} {a : Nat} (hi : OInv g o)
    (h : World.dissociateNodeO o a = .ok o') : OInv g o' := by
  unfold World.dissociateNodeO at h
  split at h; · cases h
  rename_i id hf
  split at h
  · cases h; exact ⟨hi.nodes.remove hf, hi.edges, hi.nidx, hi.eidx, live_erase hi.n_live, hi.e_live⟩
  · cases h

theorem dissociateEdge_inv {g : G} {o o' : Obs} {x : Nat} (hi : OInv g o)
    (h : World.dissociateEdgeO o x = .ok o') : OInv g o' := by
  unfold World.dissociateEdgeO at h
  split at h; · cases h
  rename_i id hf
  split at h
  · cases h; exact ⟨hi.nodes, hi.edges.remove hf, hi.nidx, hi.eidx, hi.n_live, live_erase hi.e_live⟩
  · cases h

theorem idx_slot_free {v : Vec} {i : Nat} (h : (decide (i < v.length) && (Vec.get v i).isSome) = false) :
    Vec.get v i = none := by
  by_cases hlt : i < v.length
  · cases hg : Vec.get v i <;> simp_all
  · exact Vec.get_of_ge (Nat.le_of_not_lt hlt)

theorem grow_branch (v : Vec) (i : Nat) : (if i ≥ v.length then Vec.grow v (i + 1) else v) = Vec.grow v (i + 1) := by
  split
  · rfl
  · rename_i h; exact (Vec.grow_of_le (by omega)).symm

theorem setNodeIndex_inv {g : G} {o o' : Obs} {a i : Nat} (hi : OInv g o)
    (h : World.setNodeIndexO o a i = .ok o') : OInv g o' := by
  simp only [World.setNodeIndexO, ite_error_eq_ok, Except.ok.injEq, Bool.not_eq_true, grow_branch] at h
  obtain ⟨h1, h2, rfl⟩ := h
  exact ⟨hi.nodes, hi.edges, hi.nidx.add (find_none_of_has_false h2) (idx_slot_free h1), hi.eidx, hi.n_live, hi.e_live⟩

theorem setEdgeIndex_inv {g : G} {o o' : Obs} {x i : Nat} (hi : OInv g o)
    (h : World.setEdgeIndexO o x i = .ok o') : OInv g o' := by
  simp only [World.setEdgeIndexO, ite_error_eq_ok, Except.ok.injEq, Bool.not_eq_true, grow_branch] at h
  obtain ⟨h1, h2, rfl⟩ := h
  exact ⟨hi.nodes, hi.edges, hi.nidx, hi.eidx.add (find_none_of_has_false h2) (idx_slot_free h1), hi.n_live, hi.e_live⟩

theorem addNodeIndex_inv {g : G} {o o' : Obs} {a i : Nat} (hi : OInv g o)
    (h : World.addNodeIndexO o a = .ok (i, o')) : OInv g o' ∧ find a o'.Ni = some i ∧ Vec.get o.iN i = none := by
  simp only [World.addNodeIndexO, ite_error_eq_ok, Except.ok.injEq, Bool.not_eq_true, grow_branch, Prod.mk.injEq] at h
  obtain ⟨h2, rfl, rfl⟩ := h
  have hslot := (Vec.firstFree_spec o.iN).2.1
  exact ⟨⟨hi.nodes, hi.edges, hi.nidx.add (find_none_of_has_false h2) hslot, hi.eidx, hi.n_live, hi.e_live⟩,
    by simp [find_set], hslot⟩

theorem addEdgeIndex_inv {g : G} {o o' : Obs} {x i : Nat} (hi : OInv g o)
    (h : World.addEdgeIndexO o x = .ok (i, o')) : OInv g o' ∧ find x o'.Ei = some i ∧ Vec.get o.iE i = none := by
  simp only [World.addEdgeIndexO, ite_error_eq_ok, Except.ok.injEq, Bool.not_eq_true, grow_branch, Prod.mk.injEq] at h
  obtain ⟨h2, rfl, rfl⟩ := h
  have hslot := (Vec.firstFree_spec o.iE).2.1
  exact ⟨⟨hi.nodes, hi.edges, hi.nidx, hi.eidx.add (find_none_of_has_false h2) hslot, hi.n_live, hi.e_live⟩,
    by simp [find_set], hslot⟩

theorem setEdgeLinking_inv {g : G} {o o' : Obs} {a b x : Nat} (hi : OInv g o)
    (h : World.setEdgeLinkingO g o a b x = .ok o') : OInv g o' := by
  unfold World.setEdgeLinkingO at h
  split at h; · cases h
  split at h; · cases h
  split at h; · cases h
  exact associateEdge_inv hi h

theorem forgetEdgeIndex_inv {N E : Nat → Bool} {o : Obs} (x : Nat) (hi : OInvP N E o) : OInvP N E (o.forgetEdgeIndex x) := by
  unfold Obs.forgetEdgeIndex
  split
  · rename_i i hf; exact ⟨hi.nodes, hi.edges, hi.nidx, hi.eidx.remove hf, hi.n_live, hi.e_live⟩
  · exact hi

theorem forgetNodeIndex_inv {N E : Nat → Bool} {o : Obs} (a : Nat) (hi : OInvP N E o) : OInvP N E (o.forgetNodeIndex a) := by
  unfold Obs.forgetNodeIndex
  split
  · rename_i i hf; exact ⟨hi.nodes, hi.edges, hi.nidx.remove hf, hi.eidx, hi.n_live, hi.e_live⟩
  · exact hi

theorem forgetEdgeIndex_same (o : Obs) (x : Nat) :
    (o.forgetEdgeIndex x).gN = o.gN ∧ (o.forgetEdgeIndex x).gE = o.gE ∧ (o.forgetEdgeIndex x).Ng = o.Ng ∧
    (o.forgetEdgeIndex x).Eg = o.Eg ∧ (o.forgetEdgeIndex x).iN = o.iN ∧ (o.forgetEdgeIndex x).Ni = o.Ni := by
  unfold Obs.forgetEdgeIndex; split <;> simp

theorem forgetNodeIndex_same (o : Obs) (a : Nat) :
    (o.forgetNodeIndex a).gN = o.gN ∧ (o.forgetNodeIndex a).gE = o.gE ∧ (o.forgetNodeIndex a).Ng = o.Ng ∧
    (o.forgetNodeIndex a).Eg = o.Eg ∧ (o.forgetNodeIndex a).iE = o.iE ∧ (o.forgetNodeIndex a).Ei = o.Ei := by
  unfold Obs.forgetNodeIndex; split <;> simp

theorem Inverse.ne_slot {v : Vec} {m : List (Nat × Nat)} (h : Inverse v m) {y j i : Nat} (hy : find y m = some j)
    (hne : Vec.get v i ≠ some y) : j ≠ i :=
  fun hh => hne (hh ▸ h.bwd y j hy)

theorem Inverse.erase_slot {v : Vec} {m : List (Nat × Nat)} (h : Inverse v m) {x i : Nat} (hx : Vec.get v i = some x)
    (y j : Nat) (hy : find y (AL.erase x m) = some j) : find y m = some j ∧ j ≠ i := by
  rw [find_erase] at hy
  split at hy
  · cases hy
  · rename_i hxy; exact ⟨hy, h.ne_slot hy (by rw [hx]; exact fun hh => hxy (Option.some.inj hh))⟩

/-- the observer forgets edge `e`; afterwards no object is associated to `e`, so the invariant
holds against any graph that lost at most that edge -/
theorem deletedEdge_inv {N E N' E' : Nat → Bool} {o : Obs} {e : Nat} (hi : OInvP N E o)
    (hn : ∀ n, N n = true → N' n = true)
    (he : ∀ e', e' ≠ e → E e' = true → E' e' = true) : OInvP N' E' (o.deletedEdge e) := by
  unfold Obs.deletedEdge
  split
  · split
    · rename_i x hx
      have hk := hi.edges.erase_slot hx
      have h2 := forgetEdgeIndex_inv x (⟨hi.nodes, hi.edges.remove (hi.edges.fwd e x hx), hi.nidx, hi.eidx, hi.n_live,
        fun y j hy => hi.e_live y j (hk y j hy).1⟩ : OInvP N E { o with gE := Vec.put o.gE e none, Eg := AL.erase x o.Eg })
      have hs := forgetEdgeIndex_same { o with gE := Vec.put o.gE e none, Eg := AL.erase x o.Eg } x
      refine ⟨h2.nodes, h2.edges, h2.nidx, h2.eidx, fun a i ha => hn i (hi.n_live a i (hs.2.2.1 ▸ ha)), fun y j hy => ?_⟩
      rw [hs.2.2.2.1] at hy
      exact he j (hk y j hy).2 (hi.e_live y j (hk y j hy).1)
    · rename_i hx
      exact ⟨hi.nodes, hi.edges.clear_empty hx, hi.nidx, hi.eidx, fun a i ha => hn i (hi.n_live a i ha),
        fun y j hy => he j (hi.edges.ne_slot hy (by rw [hx]; exact nofun)) (hi.e_live y j hy)⟩
  · rename_i hlen
    exact ⟨hi.nodes, hi.edges, hi.nidx, hi.eidx, fun a i ha => hn i (hi.n_live a i ha), fun y j hy =>
      he j (hi.edges.ne_slot hy (by rw [Vec.get_of_ge (Nat.le_of_not_lt hlen)]; exact nofun)) (hi.e_live y j hy)⟩

theorem deletedNode_inv {N E N' E' : Nat → Bool} {o : Obs} {n : Nat} (hi : OInvP N E o)
    (hn : ∀ n', n' ≠ n → N n' = true → N' n' = true)
    (he : ∀ e, E e = true → E' e = true) : OInvP N' E' (o.deletedNode n) := by
  unfold Obs.deletedNode
  split
  · split
    · rename_i x hx
      have hk := hi.nodes.erase_slot hx
      have h2 := forgetNodeIndex_inv x (⟨hi.nodes.remove (hi.nodes.fwd n x hx), hi.edges, hi.nidx, hi.eidx,
        fun y j hy => hi.n_live y j (hk y j hy).1, hi.e_live⟩ : OInvP N E { o with gN := Vec.put o.gN n none, Ng := AL.erase x o.Ng })
      have hs := forgetNodeIndex_same { o with gN := Vec.put o.gN n none, Ng := AL.erase x o.Ng } x
      refine ⟨h2.nodes, h2.edges, h2.nidx, h2.eidx, fun y j hy => ?_, fun a i ha => he i (hi.e_live a i (hs.2.2.2.1 ▸ ha))⟩
      rw [hs.2.2.1] at hy
      exact hn j (hk y j hy).2 (hi.n_live y j (hk y j hy).1)
    · rename_i hx
      exact ⟨hi.nodes.clear_empty hx, hi.edges, hi.nidx, hi.eidx,
        fun y j hy => hn j (hi.nodes.ne_slot hy (by rw [hx]; exact nofun)) (hi.n_live y j hy), fun a i ha => he i (hi.e_live a i ha)⟩
  · rename_i hlen
    exact ⟨hi.nodes, hi.edges, hi.nidx, hi.eidx, fun y j hy =>
      hn j (hi.nodes.ne_slot hy (by rw [Vec.get_of_ge (Nat.le_of_not_lt hlen)]; exact nofun)) (hi.n_live y j hy),
      fun a i ha => he i (hi.e_live a i ha)⟩

/-! ### deleted items are forgotten in every map -/

/-- an object that sits in no slot and is no key -/
def Forgotten (v : Vec) (m : List (Nat × Nat)) (a : Obj) : Prop := find a m = none ∧ ∀ i, Vec.get v i ≠ some a

theorem Inverse.forgotten_of_none {v : Vec} {m : List (Nat × Nat)} (h : Inverse v m) {a : Obj} (ha : find a m = none) :
    Forgotten v m a := by
  refine ⟨ha, fun i hi => ?_⟩
  have := h.fwd i a hi; rw [ha] at this; cases this

theorem deletedNode_forgets {g : G} {o : Obs} {n : Nat} {a : Obj} (hi : OInv g o) (ha : Vec.get o.gN n = some a) :
    Forgotten (o.deletedNode n).gN (o.deletedNode n).Ng a ∧ Forgotten (o.deletedNode n).iN (o.deletedNode n).Ni a := by
  have h2 : OInv g (o.deletedNode n) := deletedNode_inv hi (fun _ _ h => h) (fun _ h => h)
  refine ⟨h2.nodes.forgotten_of_none ?_, h2.nidx.forgotten_of_none ?_⟩ <;>
    simp only [Obs.deletedNode, Vec.get_eq_some_lt ha, ha, if_true]
  · rw [(forgetNodeIndex_same _ a).2.2.1]; simp [find_erase]
  · unfold Obs.forgetNodeIndex
    split
    · simp [find_erase]
    · assumption

theorem deletedEdge_forgets {g : G} {o : Obs} {e : Nat} {x : Obj} (hi : OInv g o) (hx : Vec.get o.gE e = some x) :
    Forgotten (o.deletedEdge e).gE (o.deletedEdge e).Eg x ∧ Forgotten (o.deletedEdge e).iE (o.deletedEdge e).Ei x := by
  have h2 : OInv g (o.deletedEdge e) := deletedEdge_inv hi (fun _ h => h) (fun _ _ h => h)
  refine ⟨h2.edges.forgotten_of_none ?_, h2.eidx.forgotten_of_none ?_⟩ <;>
    simp only [Obs.deletedEdge, Vec.get_eq_some_lt hx, hx, if_true]
  · rw [(forgetEdgeIndex_same _ x).2.2.2.1]; simp [find_erase]
  · unfold Obs.forgetEdgeIndex
    split
    · simp [find_erase]
    · assumption

/-! ### the executable check is the invariant -/

/-- the Boolean test used by `Obs.check` for one (vector, map) pair -/
def invB (v : Vec) (m : List (Nat × Nat)) : Bool :=
  (List.range v.length).all (fun i => match Vec.get v i with | some a => AL.find a m == some i | none => true) &&
  m.all (fun p => decide (p.2 < v.length) && Vec.get v p.2 == some p.1)

theorem invB_iff (v : Vec) (m : List (Nat × Nat)) (hm : Asc m) : invB v m = true ↔ Inverse v m := by
  unfold invB
  rw [Bool.and_eq_true, List.all_eq_true, List.all_eq_true]
  constructor
  · rintro ⟨h1, h2⟩
    refine ⟨hm, ?_, ?_⟩
    · intro i a hi
      have := h1 i (List.mem_range.mpr (Vec.get_eq_some_lt hi))
      simpa [hi] using this
    · intro a i ha
      have := h2 (a, i) (find_some_mem ha)
      simp only [Bool.and_eq_true, decide_eq_true_eq, beq_iff_eq] at this
      exact this.2
  · intro h
    constructor
    · intro i _
      cases hg : Vec.get v i with
      | none => rfl
      | some a => simp [h.fwd i a hg]
    · intro p hp
      have hf := (mem_iff_find hm p.1 p.2).mp hp
      have := h.bwd p.1 p.2 hf
      simp [this, Vec.get_eq_some_lt this]

theorem Obs.check_iff (g : G) (o : Obs) : o.check g = none ↔ OInv g o := by
  simp only [Obs.check, ite_some_eq_none, Bool.or_eq_true, Bool.not_eq_true', not_or, Bool.not_eq_false, ascending_iff,
    List.all_eq_true, and_true]
  constructor
  · rintro ⟨⟨⟨⟨s1, s2⟩, s3⟩, s4⟩, h1, h2, h3, h4, h5, h6⟩
    exact ⟨(invB_iff _ _ s1).mp h1, (invB_iff _ _ s2).mp h2, (invB_iff _ _ s3).mp h3, (invB_iff _ _ s4).mp h4,
      fun a i ha => h5 (a, i) (find_some_mem ha), fun x e hx => h6 (x, e) (find_some_mem hx)⟩
  · intro h
    exact ⟨⟨⟨⟨h.nodes.asc, h.edges.asc⟩, h.nidx.asc⟩, h.eidx.asc⟩, (invB_iff _ _ h.nodes.asc).mpr h.nodes,
      (invB_iff _ _ h.edges.asc).mpr h.edges, (invB_iff _ _ h.nidx.asc).mpr h.nidx, (invB_iff _ _ h.eidx.asc).mpr h.eidx,
      fun p hp => h.n_live p.1 p.2 ((mem_iff_find h.nodes.asc p.1 p.2).mp hp),
      fun p hp => h.e_live p.1 p.2 ((mem_iff_find h.edges.asc p.1 p.2).mp hp)⟩

end Graph
end Bpp
