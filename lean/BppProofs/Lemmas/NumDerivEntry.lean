import BppProofs.Lemmas.NumDerivUpdate
/-!
C12 helper lemmas: the calls the entry points forward to the wrapped function (with unique names and
precision 0 each makes the requested vector `Entry.apply` the wrapped function's, or raises and changes
nothing: `forward_cases`), and an entry point as a whole by its cases (`call_cases`, `call_cases_wf`),
from which `call_spec` for a call that returns and `call_shape` for any call.
-/
namespace Bpp.NumDeriv
open Bpp Bpp.Scalar

/-- second loop of `setParametersValues` when the first loop found no violation -/
theorem setLoop_spec (pl : PList ℝ) : ∀ (own : PList ℝ), (names own).Nodup → Z own →
    (names pl).Nodup → anyViolation own pl = false → setLoop own pl = .ok (updL pl own) := by
  induction pl with
  | nil => intro own _ _ _ _; simp [setLoop, updL_nil]
  | cons q qs ih =>
    intro own hnd hz hpl hv
    rw [anyViolation_cons, Bool.or_eq_false_iff] at hv
    have hqs : (names qs).Nodup := by
      simp only [names, List.map_cons, List.nodup_cons] at hpl; exact hpl.2
    have hqn : q.name ∉ names qs := by
      simp only [names, List.map_cons, List.nodup_cons] at hpl; exact hpl.1
    unfold setLoop
    cases hf : find? own q.name with
    | none =>
      have hh : has own q.name = false := by
        cases hb : has own q.name with
        | false => rfl
        | true => exact absurd ((has_iff own q.name).mp hb) (find?_none hf)
      rw [hh]
      simp only [Bool.false_eq_true, if_false]
      rw [updL_cons_not_mem q qs own (find?_none hf)]
      exact ih own hnd hz hqs hv.2
    | some p =>
      have hpm := find?_some hf
      have hh : has own q.name = true := (has_iff own q.name).mpr (by rw [← hpm.2]; exact List.mem_map_of_mem hpm.1)
      have hviol : p.violates q.value = false := by
        have := hv.1; rw [hf] at this; exact this
      rw [hh, if_pos rfl, setValueOf_spec own hnd q.name q.value p hf (hz p hpm.1) hviol]
      simp only []
      rw [updL_cons_mem q qs own hqn]
      have hv' : anyViolation (upd1 own q.name q.value) qs = false := by
        unfold upd1; rw [anyViolation_map own qs _ (upd1_hg q.name q.value)]; exact hv.2
      exact ih (upd1 own q.name q.value) (by rw [names_upd1]; exact hnd) (Z_upd1 hz _ _) hqs hv'

/-- the values of `pl` are those of `updL pl own` -/
theorem synced_updL (pl own : PList ℝ) (hpl : (names pl).Nodup) : Synced pl (updL pl own) := by
  intro q hq b hb hn
  simp only [updL, List.mem_map] at hb
  obtain ⟨p, _, rfl⟩ := hb
  have hpn : p.name = q.name := by
    revert hn; split <;> exact id
  have hf : find? pl p.name = some q := by rw [hpn]; exact find?_of_mem hpl hq
  rw [hf]

theorem allSet_spec (pl : PList ℝ) : ∀ (own : PList ℝ), Z own → allCheck own pl = none →
    allSet own pl = .ok (updL pl own) := by
  intro own
  induction own with
  | nil => intro _ _; rfl
  | cons p r ih =>
    intro hz hc
    have hc' := hc
    unfold allCheck at hc
    rw [List.findSome?_cons] at hc
    unfold allSet
    cases hf : find? pl p.name with
    | none => rw [hf] at hc; simp at hc
    | some q =>
      rw [hf] at hc
      simp only [] at hc ⊢
      have hv : p.violates q.value = false := by
        cases hb : p.violates q.value with
        | false => rfl
        | true => rw [hb] at hc; simp at hc
      rw [hv] at hc
      simp only [Bool.false_eq_true, if_false] at hc
      rw [setValue_ok p q.value (hz p (List.mem_cons_self ..)) hv]
      simp only []
      have hr : allCheck r pl = none := hc
      rw [ih (fun x hx => hz x (List.mem_cons_of_mem _ hx)) hr]
      simp only [updL, List.map_cons, hf]


theorem setValueOf_mem : ∀ (l l' : PList ℝ) (n : Name) (v : ℝ), setValueOf l n v = .ok l' → n ∈ names l := by
  intro l
  induction l with
  | nil => intro l' n v h; simp [setValueOf] at h
  | cons p r ih =>
    intro l' n v h
    unfold setValueOf at h
    split at h
    · rename_i hn
      simp only [names, List.map_cons, List.mem_cons]
      exact Or.inl (by simpa using hn : p.name = n).symm
    · split at h
      · rename_i r' hr'
        exact List.mem_cons_of_mem _ (ih r' n v hr')
      · cases h

/-- an entry point's list has no duplicate name (`ParameterList::addParameter` guarantees it) -/
def Entry.Nodup : Entry ℝ → Prop
  | .setParameters pl | .f pl | .setAll pl | .setVals pl | .matchPV pl => (names pl).Nodup
  | .setOne _ _ => True

theorem synced_self (own : PList ℝ) (hnd : (names own).Nodup) (q : PList ℝ) (hq : ∀ x ∈ q, x ∈ own) : Synced q own := by
  intro x hx b hb hn
  have h1 := find?_of_mem hnd hb
  have h2 := find?_of_mem hnd (hq x hx)
  rw [hn, h2] at h1
  injection h1 with h1; rw [h1]

theorem setValue_prec0 (p p' : Param ℝ) (v : ℝ) (hp : p.prec = 0) (h : p.setValue v = .ok p') :
    p' = { p with value := v } := by
  unfold Param.setValue at h
  split at h
  · split at h
    · cases h
    · injection h with h; exact h.symm
  · rename_i hc
    injection h with h; subst h
    have : v = p.value := by
      by_contra hne
      apply hc
      rw [ScalarReal.gtb_iff, hp]; simp; exact sub_ne_zero.mpr hne
    cases p; simp_all

theorem setValueOf_upd1 : ∀ (l l' : PList ℝ) (n : Name) (v : ℝ), (names l).Nodup → Z l →
    setValueOf l n v = .ok l' → l' = upd1 l n v := by
  intro l
  induction l with
  | nil => intro l' n v _ _ h; simp [setValueOf] at h
  | cons p r ih =>
    intro l' n v hnd hz h
    simp only [names, List.map_cons, List.nodup_cons] at hnd
    unfold setValueOf at h
    split at h
    · rename_i hn
      have hn' : p.name = n := by simpa using hn
      split at h
      · rename_i p' hp'
        injection h with h; subst h
        rw [setValue_prec0 p p' v (hz p (List.mem_cons_self ..)) hp']
        simp only [upd1, List.map_cons, hn', if_true]
        congr 1
        exact (upd1_same r n v (fun q hq e => absurd (hn'.trans e.symm ▸ List.mem_map_of_mem hq) hnd.1)).symm
      · cases h
    · rename_i hn
      have hn' : p.name ≠ n := by simpa using hn
      split at h
      · rename_i r' hr'
        injection h with h; subst h
        rw [ih r' n v hnd.2 (fun y hy => hz y (List.mem_cons_of_mem _ hy)) hr']
        simp only [upd1, List.map_cons, hn', if_false]
      · cases h

/-- the parameter vector an entry point asks for -/
def Entry.apply (own : PList ℝ) : Entry ℝ → PList ℝ
  | .setParameters pl | .f pl | .setAll pl | .setVals pl | .matchPV pl => updL pl own
  | .setOne n v => upd1 own n v

theorem Entry.apply_own {own : PList ℝ} (h : (names own).Nodup ∧ Z own) (e : Entry ℝ) :
    (names (e.apply own)).Nodup ∧ Z (e.apply own) := by
  cases e <;> simp only [Entry.apply, names_updL, names_upd1] <;> first | exact ⟨h.1, Z_updL h.2 _⟩ | exact ⟨h.1, Z_upd1 h.2 _ _⟩

/-- the call forwarded to the wrapped function either raises and changes nothing, or makes the
requested vector the wrapped function's -/
theorem forward_cases (f : List ℝ → ℝ) (fn : Fn ℝ) (e : Entry ℝ) (hown : Own fn) (he : e.Nodup) :
    ((fn.forward f e).2.1 ≠ none ∧ (fn.forward f e).1 = fn) ∨
    ((fn.forward f e).2.1 = none ∧ (fn.forward f e).1.params = e.apply fn.params ∧
      (fn.OK f → (fn.forward f e).1.OK f) ∧ (fn.forward f e).1.kind = fn.kind) := by
  have hmatch : ∀ pl, (names pl).Nodup →
      ((fn.setParameters f pl).2 ≠ none ∧ (fn.setParameters f pl).1 = fn) ∨
      ((fn.setParameters f pl).2 = none ∧ (fn.setParameters f pl).1.params = updL pl fn.params ∧
        (fn.OK f → (fn.setParameters f pl).1.OK f) ∧ (fn.setParameters f pl).1.kind = fn.kind) := by
    intro pl hpl
    cases hv : anyViolation fn.params pl with
    | true => rw [setParameters_viol f fn pl hv]; exact Or.inl ⟨by simp, rfl⟩
    | false =>
      obtain ⟨fn', h, hp, hok'⟩ := setParameters_ok f fn pl hown hpl hv
      have hk := (setParameters_flags f fn pl).1
      rw [h] at hk ⊢
      exact Or.inr ⟨rfl, hp, hok', hk⟩
  cases e with
  | setParameters pl => exact hmatch pl he
  | f pl => exact hmatch pl he
  | matchPV pl => exact hmatch pl he
  | setVals pl =>
    simp only [Fn.forward, Fn.setParametersValues]
    cases hv : anyViolation fn.params pl with
    | true => exact Or.inl ⟨by simp, rfl⟩
    | false =>
      rw [setLoop_spec pl fn.params hown.1 hown.2 he hv]
      exact Or.inr ⟨rfl, rfl, fun _ => fire_OK f _, rfl⟩
  | setAll pl =>
    simp only [Fn.forward, Fn.setAllParametersValues]
    cases hc : allCheck fn.params pl with
    | some x => exact Or.inl ⟨by simp, rfl⟩
    | none =>
      rw [allSet_spec pl fn.params hown.2 hc]
      exact Or.inr ⟨rfl, rfl, fun _ => fire_OK f _, rfl⟩
  | setOne n v =>
    simp only [Fn.forward, Fn.setParameterValue]
    cases hs : setValueOf fn.params n v with
    | error x => exact Or.inl ⟨by simp, rfl⟩
    | ok own' => exact Or.inr ⟨rfl, setValueOf_upd1 fn.params own' n v hown.1 hown.2 hs, fun _ => fire_OK f _, rfl⟩

/-- when the forwarded call raises, nothing has happened -/
theorem forward_raise (f : List ℝ → ℝ) (fn : Fn ℝ) (e : Entry ℝ) (hown : Own fn) (he : e.Nodup)
    (hsome : (fn.forward f e).2.1 ≠ none) : (fn.forward f e).1 = fn :=
  (forward_cases f fn e hown he).elim (·.2) (fun h => absurd h.1 hsome)

theorem forward_params (f : List ℝ → ℝ) (fn : Fn ℝ) (e : Entry ℝ) (hown : Own fn) (he : e.Nodup)
    (hnone : (fn.forward f e).2.1 = none) : (fn.forward f e).1.params = e.apply fn.params :=
  (forward_cases f fn e hown he).elim (fun h => absurd hnone h.1) (·.2.1)

/-- the call forwarded to the wrapped function, when it does not raise: the wrapped function then
holds the values of the list handed to `updateDerivatives` -/
theorem forward_spec (f : List ℝ → ℝ) (fn : Fn ℝ) (e : Entry ℝ) (hown : Own fn) (hok : fn.OK f) (he : e.Nodup) :
    ∀ r, fn.forward f e = r → r.2.1 = none →
      Own r.1 ∧ r.1.OK f ∧ r.1.kind = fn.kind ∧
      ∃ pl, e.list r.1 = .ok pl ∧ Synced pl r.1.params ∧ (names pl).Nodup := by
  intro r hr hnone
  subst hr
  obtain ⟨_, hp, hok', hk⟩ := (forward_cases f fn e hown he).resolve_left (fun h => h.1 hnone)
  have ho : Own (fn.forward f e).1 := by unfold Own; rw [hp]; exact Entry.apply_own hown e
  refine ⟨ho, hok' hok, hk, ?_⟩
  cases e with
  | setOne n v =>
    have hm : n ∈ names (fn.forward f (.setOne n v)).1.params := by
      rw [hp]; simp only [Entry.apply, names_upd1]
      simp only [Fn.forward, Fn.setParameterValue] at hnone
      cases hs : setValueOf fn.params n v with
      | error x => rw [hs] at hnone; simp at hnone
      | ok own' => exact setValueOf_mem fn.params own' n v hs
    obtain ⟨p, hf⟩ := find?_of_mem_names hm
    exact ⟨[p], subNames_one _ n p hf, synced_self _ ho.1 _ (fun x hx => by simp at hx; subst hx; exact (find?_some hf).1),
      by simp [names]⟩
  | setParameters pl => exact ⟨pl, rfl, hp ▸ synced_updL pl _ he, he⟩
  | f pl => exact ⟨pl, rfl, hp ▸ synced_updL pl _ he, he⟩
  | matchPV pl => exact ⟨pl, rfl, hp ▸ synced_updL pl _ he, he⟩
  | setVals pl => exact ⟨pl, rfl, hp ▸ synced_updL pl _ he, he⟩
  | setAll pl => exact ⟨pl, rfl, hp ▸ synced_updL pl _ he, he⟩

theorem update_spec (f : List ℝ → ℝ) (w : W ℝ) (params : PList ℝ) (hown : Own w.fn) (hok : w.fn.OK f)
    (hsync : Synced params w.fn.params) (hpnd : (names params).Nodup) :
    ∀ r, w.update f params = r → r.2 = none →
      r.1.fn.params = w.fn.params ∧ r.1.fn.OK f ∧ Keep w r.1 ∧ r.1.value = f (values w.fn.params) := by
  intro r hr hnone
  rw [update_eq] at hr
  obtain ⟨a, b, c, d⟩ := updateG_spec w.scheme f w params hown hok hsync hpnd r hr hnone
  exact ⟨a, b, c, by rw [value_eq, c.scheme]; exact d⟩

/-- an entry point by its cases, `fw` being the forwarded call: it raises, or the list for `updateDerivatives`
cannot be made, and nothing else happens; or the rest is `updateDerivatives` on that list -/
theorem call_cases (f : List ℝ → ℝ) (w : W ℝ) (e : Entry ℝ) : ∀ fw, w.fn.forward f e = fw →
    (∃ x, (fw.2.1 = some x ∨ fw.2.1 = none ∧ e.list fw.1 = .error x) ∧ w.call f e = ({ w with fn := fw.1 }, some x, fw.2.2)) ∨
    (fw.2.1 = none ∧ ∃ pl, e.list fw.1 = .ok pl ∧
      w.call f e = ((({ w with fn := fw.1 } : W ℝ).update f pl).1, (({ w with fn := fw.1 } : W ℝ).update f pl).2, fw.2.2)) := by
  rintro ⟨fn1, y, b⟩ hfw
  unfold W.call
  rw [hfw]
  cases y with
  | some x => exact .inl ⟨x, .inl rfl, rfl⟩
  | none =>
    simp only []
    cases e.list fn1 with
    | error x => exact .inl ⟨x, .inr ⟨trivial, rfl⟩, rfl⟩
    | ok pl => exact .inr ⟨trivial, pl, rfl, rfl⟩

/-- … with a well-formed wrapped function and list: the forwarded call raises and nothing has happened; or it makes
the requested vector the wrapped function's, and the rest is `updateDerivatives` on a list that holds these values -/
theorem call_cases_wf (f : List ℝ → ℝ) (w : W ℝ) (e : Entry ℝ) (hown : Own w.fn) (hok : w.fn.OK f) (he : e.Nodup) :
    ∀ fw, w.fn.forward f e = fw →
    (fw.2.1 ≠ none ∧ w.call f e = (w, fw.2.1, fw.2.2)) ∨
    (fw.2.1 = none ∧ Own fw.1 ∧ fw.1.OK f ∧ fw.1.kind = w.fn.kind ∧ fw.1.params = e.apply w.fn.params ∧
      ∃ pl, Synced pl fw.1.params ∧ (names pl).Nodup ∧
        w.call f e = ((({ w with fn := fw.1 } : W ℝ).update f pl).1, (({ w with fn := fw.1 } : W ℝ).update f pl).2, fw.2.2)) := by
  intro fw hfw
  rcases call_cases f w e fw hfw with ⟨x, hx | ⟨hx, hl⟩, hc⟩ | ⟨hx, pl, hl, hc⟩
  · have := forward_raise f w.fn e hown he (by rw [hfw, hx]; simp)
    rw [hfw] at this
    exact .inl ⟨by rw [hx]; simp, by rw [hc, this, hx]⟩
  · obtain ⟨_, _, _, pl, hl', _⟩ := forward_spec f w.fn e hown hok he fw hfw hx
    cases hl.symm.trans hl'
  · obtain ⟨o1, o2, o3, pl', hl', hsy, hnd⟩ := forward_spec f w.fn e hown hok he fw hfw hx
    obtain rfl : pl = pl' := by injection hl.symm.trans hl'
    exact .inr ⟨hx, o1, o2, o3, hfw ▸ forward_params f w.fn e hown he (hfw ▸ hx), pl, hsy, hnd, hc⟩

/-- an entry point of the wrapper that returns normally -/
theorem call_spec (f : List ℝ → ℝ) (w : W ℝ) (e : Entry ℝ) (hown : Own w.fn) (hok : w.fn.OK f) (he : e.Nodup)
    (hret : (w.call f e).2.1 = none) :
    (w.fn.forward f e).2.1 = none ∧
    (w.call f e).1.fn.params = (w.fn.forward f e).1.params ∧
    (w.call f e).1.value = f (values (w.call f e).1.fn.params) ∧
    (w.call f e).1.fn.OK f ∧ Own (w.call f e).1.fn ∧ Keep w (w.call f e).1 := by
  rcases call_cases_wf f w e hown hok he _ rfl with ⟨hx, hc⟩ | ⟨hx, o1, o2, o3, _, pl, hsy, hnd, hc⟩
  · rw [hc] at hret; exact absurd hret hx
  · rw [hc] at hret ⊢
    obtain ⟨a, b', c, d⟩ := update_spec f _ pl o1 o2 hsy hnd _ rfl hret
    refine ⟨hx, a, by rw [d, a], b', ?_, ?_⟩
    · unfold Own; rw [a]; exact o1
    · exact Keep.trans (⟨rfl, rfl, rfl, rfl, rfl, rfl, o3⟩ : Keep w { w with fn := (w.fn.forward f e).1 }) c

theorem update_shape (f : List ℝ → ℝ) (w : W ℝ) (params : PList ℝ) : Shape w (w.update f params).1 := by
  rw [update_eq]; exact (updateG_frame f (Closed.trivial params) w.scheme w).2

/-- any entry point, returning or raising -/
theorem call_shape (f : List ℝ → ℝ) (w : W ℝ) (e : Entry ℝ) : Shape w (w.call f e).1 := by
  rcases call_cases f w e _ rfl with ⟨x, _, hc⟩ | ⟨_, pl, _, hc⟩ <;> rw [hc]
  · exact ⟨⟨rfl, rfl, rfl, rfl, rfl, rfl⟩, rfl, rfl⟩
  · exact Shape.trans (⟨⟨rfl, rfl, rfl, rfl, rfl, rfl⟩, rfl, rfl⟩ : Shape w { w with fn := (w.fn.forward f e).1 }) (update_shape f _ _)

end Bpp.NumDeriv
