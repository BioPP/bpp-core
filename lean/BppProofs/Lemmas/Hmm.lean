import BppModel.Hmm
import BppProofs.Lemmas.ScalarReal
import Mathlib.Algebra.BigOperators.Ring.Finset
import Mathlib.Algebra.BigOperators.Field
import Mathlib.Algebra.Order.BigOperators.Group.Finset
/-!
Helper lemmas for C13 (HMM likelihoods): the list-level program text of `BppModel/Hmm.lean`
read at `ℝ` as finite sums over `Finset.range n`, and the forward passes of the three classes.  Site by site all
three compute the same unscaled vector `tmpF` (the rescaled and the low-memory class after clipping, and divided by
its sum; the log-sum class its logarithm); each loop is compared with the unscaled recursion `fwdULoop`, which is the
sum over the hidden paths (`fwdULoop_eq`).
-/
namespace Bpp.Hmm
open Bpp Finset

/-- the real numbers have no infinite element -/
instance : HasIsInf ℝ := ⟨fun _ => false⟩

section Generic
variable {α : Type}

theorem sumL_append_singleton [Scalar α] (l : List α) (a : α) : sumL (l ++ [a]) = sumL l + a := by
  simp only [sumL, List.foldl_append, List.foldl_cons, List.foldl_nil]

theorem vec_succ (n : Nat) (g : Nat → α) : vec (n + 1) g = vec n g ++ [g n] := by
  simp only [vec, List.range_succ, List.map_append, List.map_cons, List.map_nil]

theorem vec_succ' (n : Nat) (g : Nat → α) : vec (n + 1) g = g 0 :: vec n (fun k => g (k + 1)) := by
  simp only [vec, List.range_succ_eq_map, List.map_cons, List.map_map, Function.comp_def]

@[simp] theorem vec_length (n : Nat) (g : Nat → α) : (vec n g).length = n := by
  simp only [vec, List.length_map, List.length_range]

theorem vec_getElem? (n : Nat) (g : Nat → α) (j : Nat) (hj : j < n) : (vec n g)[j]? = some (g j) := by
  simp only [vec, List.getElem?_map, List.getElem?_range hj, Option.map_some]

theorem forall_mem_vec {n : Nat} {g : Nat → α} {P : α → Prop} : (∀ x ∈ vec n g, P x) ↔ ∀ j, j < n → P (g j) := by
  simp only [vec, List.forall_mem_map, List.mem_range]

theorem vec_congr (n : Nat) (g g' : Nat → α) (h : ∀ j, j < n → g j = g' j) : vec n g = vec n g' :=
  List.map_congr_left fun j hj => h j (List.mem_range.mp hj)

theorem forall_mem_of_getElem? {l : List α} {n : Nat} (hl : l.length = n) {P : α → Prop}
    (h : ∀ i, i < n → ∃ a, l[i]? = some a ∧ P a) : ∀ a ∈ l, P a := by
  intro a ha
  obtain ⟨i, hi⟩ := List.mem_iff_getElem?.mp ha
  obtain ⟨b, hb, hP⟩ := h i (hl ▸ (List.getElem?_eq_some_iff.mp hi).1)
  exact Option.some.inj (hi.symm.trans hb) ▸ hP

theorem zipWith_vec {β γ : Type} (f : α → β → γ) (n : Nat) (a : Nat → α) (b : Nat → β) :
    List.zipWith f (vec n a) (vec n b) = vec n (fun i => f (a i) (b i)) := by
  simp only [vec, List.zipWith_map, List.zipWith_self]

theorem map_vec {β : Type} (f : α → β) (n : Nat) (g : Nat → α) : (vec n g).map f = vec n (fun i => f (g i)) := by
  simp only [vec, List.map_map, Function.comp_def]
end Generic

@[simp] theorem add_eq (x y : ℝ) : @HAdd.hAdd ℝ ℝ ℝ (@instHAdd ℝ Scalar.toAdd) x y = x + y := rfl
@[simp] theorem mul_eq (x y : ℝ) : @HMul.hMul ℝ ℝ ℝ (@instHMul ℝ Scalar.toMul) x y = x * y := rfl
@[simp] theorem div_eq (x y : ℝ) : @HDiv.hDiv ℝ ℝ ℝ (@instHDiv ℝ Scalar.toDiv) x y = x / y := rfl
@[simp] theorem sub_eq (x y : ℝ) : @HSub.hSub ℝ ℝ ℝ (@instHSub ℝ Scalar.toSub) x y = x - y := rfl

theorem sumL_vec (n : Nat) (g : Nat → ℝ) : sumL (vec n g) = ∑ i ∈ range n, g i := by
  induction n with
  | zero => exact ScalarReal.zero_eq
  | succ n ih => rw [vec_succ, sumL_append_singleton, ih, sum_range_succ]

theorem dot_vec (n : Nat) (a b : Nat → ℝ) : dot (vec n a) (vec n b) = ∑ i ∈ range n, a i * b i := by
  unfold dot
  rw [zipWith_vec]
  exact sumL_vec n _

theorem sumL_eq_sum (l : List ℝ) : sumL l = l.sum := by
  have h : ∀ a : ℝ, l.foldl (fun x y => x + y) a = a + l.sum := by
    induction l with
    | nil => intro a; exact (add_zero a).symm
    | cons x xs ih => intro a; rw [List.foldl_cons, ih, List.sum_cons, add_assoc]
  unfold sumL
  rw [ScalarReal.zero_eq]
  exact (h 0).trans (zero_add _)

theorem sum_vec (n : Nat) (g : Nat → ℝ) : (vec n g).sum = ∑ i ∈ range n, g i := by
  rw [← sumL_eq_sum]; exact sumL_vec n g

theorem vec_prob {n : Nat} {x : Nat → ℝ} (h0 : ∀ j, j < n → 0 ≤ x j) (h1 : ∑ j ∈ range n, x j = 1) :
    (∀ y ∈ vec n x, 0 ≤ y) ∧ (vec n x).sum = 1 ∧ (vec n x).length = n :=
  ⟨forall_mem_vec.mpr h0, (sum_vec n x).trans h1, vec_length n x⟩

theorem sum_map_flatMap {β γ : Type} (L : List β) (f : β → List γ) (g : γ → ℝ) :
    ((L.flatMap f).map g).sum = (L.map (fun y => ((f y).map g).sum)).sum := by
  induction L with
  | nil => rfl
  | cons x xs ih => simp only [List.flatMap_cons, List.map_append, List.sum_append, ih, List.map_cons, List.sum_cons]

/-! ### sum over hidden paths -/

/-- sum over all continuations of a path that is in state `prev` before `sites` -/
noncomputable def tailSum (p : Params ℝ) (prev : Nat) (sites : List (Site ℝ)) : ℝ :=
  ((allPaths p.n sites.length).map (pathW p prev sites)).sum

theorem tailSum_nil (p : Params ℝ) (prev : Nat) : tailSum p prev [] = 1 := by
  simp [tailSum, allPaths, pathW]

theorem tailSum_cons (p : Params ℝ) (prev : Nat) (b : Bool) (e : Emis ℝ) (rest : List (Site ℝ)) :
    tailSum p prev ((b, e) :: rest)
      = ∑ y ∈ range p.n, (if b then initW p y else p.P prev y) * e y * tailSum p y rest := by
  unfold tailSum
  simp only [List.length_cons, allPaths]
  rw [sum_map_flatMap, ← vec, sum_vec]
  refine Finset.sum_congr rfl fun y _ => ?_
  rw [List.map_map, ← List.sum_map_mul_left]
  rfl

theorem pathSum_eq_tailSum (p : Params ℝ) (e0 : Emis ℝ) (sites : List (Site ℝ)) :
    pathSum p e0 sites = tailSum p 0 ((true, e0) :: sites) :=
  sumL_eq_sum _

theorem dot_col (p : Params ℝ) (j : Nat) (g : Nat → ℝ) :
    dot (col p j) (vec p.n g) = ∑ k ∈ range p.n, p.P k j * g k :=
  dot_vec _ _ _

theorem initW_eq (p : Params ℝ) (y : Nat) : initW p y = ∑ k ∈ range p.n, p.P k y * p.pi k :=
  dot_col p y p.pi

/-! ### one step of the forward recursions -/

/-- `tmp` of a site that starts from the vector `src`, before any clipping -/
noncomputable def stepF (p : Params ℝ) (e : Emis ℝ) (src : Nat → ℝ) : Nat → ℝ :=
  fun j => e j * ∑ k ∈ range p.n, p.P k j * src k

/-- `tmp` of a site from the previous vector `g`: a reset starts from the equilibrium vector.  The rescaled
and the low-memory class compute this vector (after clipping), the log-sum class its logarithm. -/
noncomputable def tmpF (p : Params ℝ) (b : Bool) (e : Emis ℝ) (g : Nat → ℝ) : Nat → ℝ :=
  stepF p e (if b then p.pi else g)

def NonNegP (p : Params ℝ) : Prop := (∀ i j, 0 ≤ p.P i j) ∧ (∀ k, 0 ≤ p.pi k)
def NonNegE (e : Emis ℝ) : Prop := ∀ j, 0 ≤ e j
def NonNegS (sites : List (Site ℝ)) : Prop := ∀ s ∈ sites, NonNegE s.2

theorem stepF_nonneg {p : Params ℝ} (hp : NonNegP p) {e : Emis ℝ} (he : NonNegE e) {g : Nat → ℝ}
    (hg : ∀ k, k < p.n → 0 ≤ g k) (j : Nat) : 0 ≤ stepF p e g j :=
  mul_nonneg (he j) (Finset.sum_nonneg fun k hk => mul_nonneg (hp.1 k j) (hg k (Finset.mem_range.mp hk)))

theorem tmpF_nonneg {p : Params ℝ} (hp : NonNegP p) (b : Bool) {e : Emis ℝ} (he : NonNegE e) {g : Nat → ℝ}
    (hg : ∀ k, k < p.n → 0 ≤ g k) (j : Nat) : 0 ≤ tmpF p b e g j :=
  stepF_nonneg hp he (by cases b; exacts [hg, fun k _ => hp.2 k]) j

theorem tmpF_true (p : Params ℝ) (e : Emis ℝ) (g : Nat → ℝ) (y : Nat) : tmpF p true e g y = e y * initW p y := by
  rw [initW_eq]; rfl

theorem restartTmp_eq (p : Params ℝ) (e : Emis ℝ) (g : Nat → ℝ) : restartTmp p e = vec p.n (tmpF p true e g) :=
  vec_congr _ _ _ fun j _ => congrArg (e j * ·) (dot_col p j p.pi)

theorem clip_of_nonneg (x : ℝ) (h : 0 ≤ x) : clip x = x :=
  if_neg (by rw [ScalarReal.ltb_iff, ScalarReal.zero_eq]; exact not_lt.mpr h)

/-! ### rescaled forward recursion -/

theorem rescTmp_vec {p : Params ℝ} (hp : NonNegP p) (b : Bool) {e : Emis ℝ} (he : NonNegE e) {g : Nat → ℝ}
    (hg : ∀ j, j < p.n → 0 ≤ g j) : rescTmp p b e (vec p.n g) = vec p.n (tmpF p b e g) := by
  cases b
  · exact vec_congr _ _ _ fun j _ => by
      rw [dot_col]; exact clip_of_nonneg _ (stepF_nonneg hp he hg j)
  · exact restartTmp_eq p e g

/-- a site of the rescaled class from the previous normalised vector `g`: the normalised vector
(`if (scale > 0) tmp[j] / scale else 0`) and the scale factor -/
noncomputable def rescStep (p : Params ℝ) (b : Bool) (e : Emis ℝ) (g : Nat → ℝ) : (Nat → ℝ) × ℝ :=
  (fun j => if 0 < ∑ i ∈ range p.n, tmpF p b e g i then tmpF p b e g j / ∑ i ∈ range p.n, tmpF p b e g i else 0,
    ∑ i ∈ range p.n, tmpF p b e g i)

theorem sumL_tmpF (p : Params ℝ) (b : Bool) (e : Emis ℝ) (g : Nat → ℝ) :
    sumL (vec p.n (tmpF p b e g)) = (rescStep p b e g).2 :=
  sumL_vec _ _

theorem normalize_tmpF (p : Params ℝ) (b : Bool) (e : Emis ℝ) (g : Nat → ℝ) :
    normalize (vec p.n (tmpF p b e g)) (rescStep p b e g).2 = vec p.n (rescStep p b e g).1 := by
  unfold normalize; rw [map_vec]
  simp only [ScalarReal.gtb_iff, ScalarReal.zero_eq, div_eq]
  rfl

section RescStep
variable {p : Params ℝ} (hp : NonNegP p) (b : Bool) {e : Emis ℝ} (he : NonNegE e) {g : Nat → ℝ}
  (hg : ∀ j, j < p.n → 0 ≤ g j)
include hp he hg

theorem rescStep_nonneg (j : Nat) : 0 ≤ (rescStep p b e g).1 j := by
  unfold rescStep; split
  · exact div_nonneg (tmpF_nonneg hp b he hg j) (le_of_lt ‹_›)
  · exact le_refl _

theorem rescStep_scale_nonneg : 0 ≤ (rescStep p b e g).2 :=
  Finset.sum_nonneg (s := range p.n) fun i _ => tmpF_nonneg hp b he hg i

/-- `tmp = scale • normalised`, also when the scale is zero (all entries are then zero) -/
theorem rescStep_spec (j : Nat) (hj : j < p.n) : tmpF p b e g j = (rescStep p b e g).2 * (rescStep p b e g).1 j := by
  unfold rescStep; split
  · exact (mul_div_cancel₀ _ (ne_of_gt ‹_›)).symm
  · rename_i h
    have hz := le_antisymm (not_lt.mp h) (Finset.sum_nonneg fun i _ => tmpF_nonneg hp b he hg i)
    rw [(Finset.sum_eq_zero_iff_of_nonneg fun i _ => tmpF_nonneg hp b he hg i).mp hz j (Finset.mem_range.mpr hj),
      mul_zero]

theorem rescStep_scale : (rescStep p b e g).2 * ∑ j ∈ range p.n, (rescStep p b e g).1 j = (rescStep p b e g).2 := by
  rw [Finset.mul_sum]
  exact Finset.sum_congr rfl fun j hj => (rescStep_spec hp b he hg j (Finset.mem_range.mp hj)).symm

theorem rescStep_sum (hc : 0 < (rescStep p b e g).2) : ∑ j ∈ range p.n, (rescStep p b e g).1 j = 1 :=
  mul_left_cancel₀ (ne_of_gt hc) ((rescStep_scale hp b he hg).trans (mul_one _).symm)

theorem rescLoop_cons (rest : List (Site ℝ)) :
    rescLoop p ((b, e) :: rest) (vec p.n g)
      = (vec p.n (rescStep p b e g).1, (rescStep p b e g).2) :: rescLoop p rest (vec p.n (rescStep p b e g).1) := by
  simp only [rescLoop, rescTmp_vec hp b he hg, sumL_tmpF, normalize_tmpF]

end RescStep

/-- the first site is a reset: the vector the loop is started with is not read -/
theorem rescLoop_first (p : Params ℝ) (e : Emis ℝ) (rest : List (Site ℝ)) (prev : List ℝ) :
    rescLoop p ((true, e) :: rest) prev = rescLoop p ((true, e) :: rest) (vec p.n p.pi) := by
  simp only [rescLoop, rescTmp, if_true]

/-- product of the scale factors produced by the loop -/
noncomputable def prodScales (l : List (List ℝ × ℝ)) : ℝ := (l.map (·.2)).prod

theorem prodScales_cons (x : List ℝ × ℝ) (l : List (List ℝ × ℝ)) : prodScales (x :: l) = x.2 * prodScales l :=
  List.prod_cons

theorem NonNegS.tail {s : Site ℝ} {rest : List (Site ℝ)} (hs : NonNegS (s :: rest)) : NonNegE s.2 ∧ NonNegS rest :=
  ⟨hs s List.mem_cons_self, fun s' h => hs s' (List.mem_cons_of_mem _ h)⟩

theorem fwdULoop_cons (p : Params ℝ) (b : Bool) (e : Emis ℝ) (rest : List (Site ℝ)) (acc : ℝ) (g : Nat → ℝ) :
    fwdULoop p ((b, e) :: rest) acc (vec p.n g)
      = fwdULoop p rest (if b then acc * ∑ j ∈ range p.n, g j else acc) (vec p.n (tmpF p b e g)) := by
  cases b
  · exact congrArg (fwdULoop p rest acc) (vec_congr _ _ _ fun j _ => congrArg (e j * ·) (dot_col p j g))
  · simp only [fwdULoop, if_true, sumL_vec, restartTmp_eq p e g]

/-- the unscaled step is linear in the previous vector (a reset forgets it) -/
theorem tmpF_smul (p : Params ℝ) (b : Bool) (e : Emis ℝ) (K : ℝ) (g : Nat → ℝ) (j : Nat) :
    tmpF p b e (fun k => K * g k) j = (if b then 1 else K) * tmpF p b e g j := by
  cases b
  · simp only [tmpF, stepF, Bool.false_eq_true, if_false, Finset.mul_sum]
    exact Finset.sum_congr rfl fun k _ => by ring
  · simp only [tmpF, if_true, one_mul]

/-- the unscaled recursion computes the sum over the hidden paths through the remaining sites -/
theorem fwdULoop_eq (p : Params ℝ) (rest : List (Site ℝ)) (acc : ℝ) (g : Nat → ℝ) :
    fwdULoop p rest acc (vec p.n g) = acc * ∑ y ∈ range p.n, g y * tailSum p y rest := by
  induction rest generalizing acc g with
  | nil => simp only [fwdULoop, tailSum_nil, mul_one, sumL_vec, mul_eq]
  | cons s rest ih =>
    obtain ⟨b, e⟩ := s
    rw [fwdULoop_cons, ih]
    simp only [tailSum_cons]
    cases b
    · simp only [Bool.false_eq_true, if_false, tmpF, stepF, Finset.mul_sum, Finset.sum_mul]
      rw [Finset.sum_comm]
      exact Finset.sum_congr rfl fun k _ => Finset.sum_congr rfl fun j _ => by ring
    · simp only [if_true, tmpF, stepF, ← initW_eq]
      rw [← Finset.sum_mul, mul_assoc]
      exact congrArg _ (congrArg _ (Finset.sum_congr rfl fun y _ => by ring))

theorem fwdU_eq_pathSum (p : Params ℝ) (e0 : Emis ℝ) (sites : List (Site ℝ)) :
    fwdU p e0 sites = pathSum p e0 sites := by
  rw [pathSum_eq_tailSum, tailSum_cons]
  unfold fwdU
  rw [restartTmp_eq p e0 p.pi, fwdULoop_eq, ScalarReal.one_eq, one_mul]
  exact Finset.sum_congr rfl fun y _ => by simp only [tmpF, stepF, if_true, ← initW_eq]; ring

/-- **Key invariant of rescaling**: if the unscaled vector is `K •` the scaled one (and `K = 0` or
the scaled one sums to 1), the unscaled recursion over the remaining sites equals `K ·` the product
of the remaining scale factors. -/
theorem fwdULoop_eq_prodScales {p : Params ℝ} (hp : NonNegP p) (rest : List (Site ℝ)) (hs : NonNegS rest)
    (acc K : ℝ) (gh : Nat → ℝ) (hgh : ∀ j, j < p.n → 0 ≤ gh j) (hK : K * ∑ j ∈ range p.n, gh j = K) :
    fwdULoop p rest acc (vec p.n fun k => K * gh k) = acc * K * prodScales (rescLoop p rest (vec p.n gh)) := by
  induction rest generalizing acc K gh with
  | nil =>
    simp only [fwdULoop, rescLoop, prodScales, List.map_nil, List.prod_nil, mul_one, sumL_vec, ← Finset.mul_sum,
      hK, mul_eq]
  | cons s rest ih =>
    obtain ⟨b, e⟩ := s
    obtain ⟨he, hs'⟩ := hs.tail
    have h0 := rescStep_nonneg hp b he hgh
    have h1 := rescStep_spec hp b he hgh
    have h2 := rescStep_scale hp b he hgh
    rw [fwdULoop_cons, rescLoop_cons hp b he hgh, prodScales_cons, ← Finset.mul_sum, hK]
    generalize rescStep p b e gh = r at h0 h1 h2 ⊢
    rw [vec_congr _ _ (fun j => (if b then 1 else K) * r.2 * r.1 j) fun j hj => by
        rw [tmpF_smul, h1 j hj, mul_assoc],
      ih hs' _ _ _ (fun j _ => h0 j) (by rw [mul_assoc, h2])]
    cases b
    · simp only [Bool.false_eq_true, if_false]; ring
    · simp only [if_true]; ring

theorem rescForward_scales (p : Params ℝ) (e0 : Emis ℝ) (sites : List (Site ℝ)) :
    (rescForward p e0 sites).scales = (rescLoop p ((true, e0) :: sites) (vec p.n p.pi)).map (·.2) :=
  congrArg (List.map fun x : List ℝ × ℝ => x.2) (rescLoop_first p e0 sites [])

theorem rescForward_lik (p : Params ℝ) (e0 : Emis ℝ) (sites : List (Site ℝ)) :
    (rescForward p e0 sites).lik = (rescLoop p ((true, e0) :: sites) (vec p.n p.pi)).map (·.1) :=
  congrArg (List.map fun x : List ℝ × ℝ => x.1) (rescLoop_first p e0 sites [])

theorem scales_prod_eq_fwdU {p : Params ℝ} (hp : NonNegP p) {e0 : Emis ℝ} (he0 : NonNegE e0)
    (sites : List (Site ℝ)) (hs : NonNegS sites) :
    (rescForward p e0 sites).scales.prod = fwdU p e0 sites := by
  have h0 := rescStep_nonneg hp true he0 (fun j _ => hp.2 j)
  have h1 := rescStep_spec hp true he0 (fun j _ => hp.2 j)
  have h2 := rescStep_scale hp true he0 (fun j _ => hp.2 j)
  unfold fwdU
  rw [rescForward_scales, rescLoop_cons hp true he0 (fun j _ => hp.2 j), restartTmp_eq p e0 p.pi]
  generalize rescStep p true e0 p.pi = r at h0 h1 h2 ⊢
  rw [vec_congr _ _ (fun j => r.2 * r.1 j) h1, fwdULoop_eq_prodScales hp sites hs _ _ _ (fun j _ => h0 j) h2,
    ScalarReal.one_eq, one_mul]
  exact List.prod_cons

theorem rescLoop_scales_nonneg {p : Params ℝ} (hp : NonNegP p) (rest : List (Site ℝ)) (hs : NonNegS rest)
    (gh : Nat → ℝ) (hgh : ∀ j, j < p.n → 0 ≤ gh j) :
    ∀ x ∈ rescLoop p rest (vec p.n gh), 0 ≤ x.2 := by
  induction rest generalizing gh with
  | nil => exact fun x hx => absurd hx List.not_mem_nil
  | cons s rest ih =>
    obtain ⟨b, e⟩ := s
    obtain ⟨he, hs'⟩ := hs.tail
    rw [rescLoop_cons hp b he hgh]
    exact List.forall_mem_cons.mpr
      ⟨rescStep_scale_nonneg hp b he hgh, ih hs' _ fun j _ => rescStep_nonneg hp b he hgh j⟩

/-! ### sorting before summing -/

theorem sumL_sortDesc (l : List ℝ) : sumL (sortDesc l) = l.sum := by
  rw [sumL_eq_sum]; exact (List.mergeSort_perm l _).sum_eq

theorem exp_sum_log (l : List ℝ) (h : ∀ c ∈ l, 0 < c) : Real.exp ((l.map Real.log).sum) = l.prod := by
  induction l with
  | nil => exact Real.exp_zero
  | cons c cs ih =>
    obtain ⟨hc, hcs⟩ := List.forall_mem_cons.mp h
    rw [List.map_cons, List.sum_cons, List.prod_cons, Real.exp_add, Real.exp_log hc, ih hcs]

/-! ### low-memory class -/

/-- the low-memory class clips every product: on non-negative tables it computes the same `tmp` -/
theorem lowTmp_vec {p : Params ℝ} (hp : NonNegP p) (b : Bool) {e : Emis ℝ} (he : NonNegE e) {g : Nat → ℝ}
    (hg : ∀ j, j < p.n → 0 ≤ g j) : lowTmp p b e (vec p.n g) = vec p.n (tmpF p b e g) := by
  have hsrc : ∀ k, k < p.n → 0 ≤ (if b then p.pi else g) k := by cases b; exacts [hg, fun k _ => hp.2 k]
  have e1 : (if b then piL p else vec p.n g) = vec p.n (if b then p.pi else g) := by cases b <;> rfl
  unfold lowTmp
  rw [e1]
  refine vec_congr _ _ _ fun j _ => ?_
  rw [show col p j = vec p.n fun k => p.P k j from rfl, zipWith_vec,
    vec_congr _ _ _ fun k hk => clip_of_nonneg _ (mul_nonneg (hp.1 k j) (hsrc k hk)), sumL_vec]
  exact clip_of_nonneg _ (stepF_nonneg hp he hsrc j)

/-- however the log-scales written so far are divided between `logLik_` (`acc`) and the buffer (`pending`), the loop
ends with their sum plus those still to come: the chunk size `m` only decides when the buffer is flushed -/
theorem lowLoop_eq {p : Params ℝ} (hp : NonNegP p) (m : Nat) (rest : List (Site ℝ)) (hs : NonNegS rest)
    (g : Nat → ℝ) (hg : ∀ j, j < p.n → 0 ≤ g j) (acc : ℝ) (pending : List ℝ) :
    lowLoop p m rest (vec p.n g) acc pending
      = acc + pending.sum + ((rescLoop p rest (vec p.n g)).map fun x => Real.log x.2).sum := by
  induction rest generalizing g acc pending with
  | nil => simp only [lowLoop, rescLoop, sumL_sortDesc, List.map_nil, List.sum_nil, add_zero, add_eq]
  | cons s rest ih =>
    obtain ⟨b, e⟩ := s
    obtain ⟨he, hs'⟩ := hs.tail
    have h0 := fun j (_ : j < p.n) => rescStep_nonneg hp b he hg j
    rw [rescLoop_cons hp b he hg]
    simp only [lowLoop, lowTmp_vec hp b he hg, sumL_tmpF, normalize_tmpF]
    split
    · rw [ih hs' _ h0]
      simp only [List.map_cons, List.sum_cons, sumL_sortDesc, List.sum_nil, ScalarReal.log_eq, add_eq]
      ring
    · rw [ih hs' _ h0]
      simp only [List.map_cons, List.sum_cons, ScalarReal.log_eq]
      ring

theorem rescForward_logLik (p : Params ℝ) (e0 : Emis ℝ) (sites : List (Site ℝ)) :
    (rescForward p e0 sites).logLik = ((rescForward p e0 sites).scales.map Real.log).sum := by
  unfold rescForward
  simp only [sumL_sortDesc, List.map_map]
  rfl

/-! ### log-sum class -/

theorem logsum_log (a b : ℝ) (ha : 0 < a) (hb : 0 < b) : logsum (Real.log a) (Real.log b) = Real.log (a + b) := by
  unfold logsum
  simp only [ScalarReal.eqb_iff, ScalarReal.ltb_iff, ScalarReal.log_eq, ScalarReal.exp_eq, ScalarReal.ofInt_eq,
    ScalarReal.one_eq, add_eq, sub_eq, Real.exp_sub, Real.exp_log ha, Real.exp_log hb, Int.cast_ofNat]
  split
  · obtain rfl : a = b := Real.log_injOn_pos (Set.mem_Ioi.mpr ha) (Set.mem_Ioi.mpr hb) ‹_›
    rw [← Real.log_mul (ne_of_gt ha) two_ne_zero, mul_two]
  · split
    · rw [← Real.log_mul (ne_of_gt ha) (ne_of_gt (add_pos one_pos (div_pos hb ha))), mul_add, mul_one,
        mul_div_cancel₀ _ (ne_of_gt ha)]
    · rw [← Real.log_mul (ne_of_gt hb) (ne_of_gt (add_pos one_pos (div_pos ha hb))), mul_add, mul_one,
        mul_div_cancel₀ _ (ne_of_gt hb), add_comm]

theorem foldl_logsum_log (l : List ℝ) (hl : ∀ x ∈ l, 0 < x) (x : ℝ) (hx : 0 < x) :
    (l.map Real.log).foldl logsum (Real.log x) = Real.log (x + l.sum) := by
  induction l generalizing x with
  | nil => simp
  | cons y ys ih =>
    obtain ⟨hy, hys⟩ := List.forall_mem_cons.mp hl
    rw [List.map_cons, List.foldl_cons, List.sum_cons, logsum_log x y hx hy, ih hys (x + y) (add_pos hx hy), add_assoc]

theorem lseL_vec_log (n : Nat) (hn : 0 < n) (a : Nat → ℝ) (ha : ∀ k, 0 < a k) :
    lseL (vec n (fun k => Real.log (a k))) = Real.log (∑ k ∈ range n, a k) := by
  obtain ⟨m, rfl⟩ := Nat.exists_eq_succ_of_ne_zero (Nat.pos_iff_ne_zero.mp hn)
  rw [vec_succ', lseL, ← map_vec Real.log, foldl_logsum_log _ (forall_mem_vec.mpr fun j _ => ha _) _ (ha 0), sum_vec,
    Finset.sum_range_succ', add_comm]

def PosP (p : Params ℝ) : Prop := (∀ i j, 0 < p.P i j) ∧ (∀ k, 0 < p.pi k)
def PosE (e : Emis ℝ) : Prop := ∀ j, 0 < e j
def PosS (sites : List (Site ℝ)) : Prop := ∀ s ∈ sites, PosE s.2

theorem PosS.tail {s : Site ℝ} {rest : List (Site ℝ)} (hs : PosS (s :: rest)) : PosE s.2 ∧ PosS rest :=
  ⟨hs s List.mem_cons_self, fun s' h => hs s' (List.mem_cons_of_mem _ h)⟩

theorem sum_pos_of_pos (n : Nat) (hn : 0 < n) (a : Nat → ℝ) (ha : ∀ k, 0 < a k) : 0 < ∑ k ∈ range n, a k :=
  Finset.sum_pos (fun k _ => ha k) (Finset.nonempty_range_iff.mpr (Nat.pos_iff_ne_zero.mp hn))

section Pos
variable {p : Params ℝ} (hn : 0 < p.n) (hp : PosP p) {e : Emis ℝ} (he : PosE e)
include hn hp he

theorem stepF_pos {g : Nat → ℝ} (hg : ∀ k, 0 < g k) (j : Nat) : 0 < stepF p e g j :=
  mul_pos (he j) (sum_pos_of_pos _ hn _ fun k => mul_pos (hp.1 k j) (hg k))

theorem tmpF_pos (b : Bool) {g : Nat → ℝ} (hg : ∀ k, 0 < g k) (j : Nat) : 0 < tmpF p b e g j :=
  stepF_pos hn hp he (by cases b; exacts [hg, hp.2]) j

/-- the log-space step computes the logarithm of `tmp` -/
theorem logTmp_vec (b : Bool) {g : Nat → ℝ} (hg : ∀ k, 0 < g k) :
    logTmp p b e (vec p.n fun k => Real.log (g k)) = vec p.n fun j => Real.log (tmpF p b e g j) := by
  have hsrc : ∀ k, 0 < (if b then p.pi else g) k := by cases b; exacts [hg, hp.2]
  have e1 : (if b then logPi p else vec p.n fun k => Real.log (g k))
      = vec p.n fun k => Real.log ((if b then p.pi else g) k) := by cases b <;> rfl
  unfold logTmp
  rw [e1]
  refine vec_congr _ _ _ fun j _ => ?_
  rw [show logCol p j = vec p.n fun k => Real.log (p.P k j) from rfl, zipWith_vec,
    vec_congr _ _ _ fun k _ => (Real.log_mul (ne_of_gt (hp.1 k j)) (ne_of_gt (hsrc k))).symm,
    lseL_vec_log _ hn _ fun k => mul_pos (hp.1 k j) (hsrc k)]
  exact (Real.log_mul (ne_of_gt (he j))
    (ne_of_gt (sum_pos_of_pos _ hn _ fun k => mul_pos (hp.1 k j) (hsrc k)))).symm

end Pos

theorem PosP.nonneg {p : Params ℝ} (hp : PosP p) : NonNegP p := ⟨fun i j => le_of_lt (hp.1 i j), fun k => le_of_lt (hp.2 k)⟩
theorem PosE.nonneg {e : Emis ℝ} (he : PosE e) : NonNegE e := fun j => le_of_lt (he j)

theorem rescStep_pos {p : Params ℝ} (hn : 0 < p.n) (hp : PosP p) {e : Emis ℝ} (he : PosE e) (b : Bool)
    {g : Nat → ℝ} (hg : ∀ j, 0 < g j) : (∀ j, 0 < (rescStep p b e g).1 j) ∧ 0 < (rescStep p b e g).2 := by
  have hc : 0 < ∑ i ∈ range p.n, tmpF p b e g i := sum_pos_of_pos _ hn _ (tmpF_pos hn hp he b hg)
  exact ⟨fun j => lt_of_lt_of_eq (div_pos (tmpF_pos hn hp he b hg j) hc) (if_pos hc).symm, hc⟩

theorem rescLoop_scales_pos {p : Params ℝ} (hn : 0 < p.n) (hp : PosP p) (rest : List (Site ℝ)) (hs : PosS rest)
    (gh : Nat → ℝ) (hgh : ∀ j, 0 < gh j) :
    ∀ x ∈ rescLoop p rest (vec p.n gh), 0 < x.2 := by
  induction rest generalizing gh with
  | nil => exact fun x hx => absurd hx List.not_mem_nil
  | cons s rest ih =>
    obtain ⟨b, e⟩ := s
    obtain ⟨he, hs'⟩ := hs.tail
    obtain ⟨h1, h2⟩ := rescStep_pos hn hp he b hgh
    rw [rescLoop_cons hp.nonneg b he.nonneg fun j _ => le_of_lt (hgh j)]
    exact List.forall_mem_cons.mpr ⟨h2, ih hs' _ h1⟩

theorem logLoop_cons {p : Params ℝ} (hn : 0 < p.n) (hp : PosP p) {e : Emis ℝ} (he : PosE e) (b : Bool)
    {g : Nat → ℝ} (hg : ∀ k, 0 < g k) (rest : List (Site ℝ)) :
    logLoop p ((b, e) :: rest) (vec p.n fun k => Real.log (g k))
      = (vec p.n (fun j => Real.log (tmpF p b e g j))
            :: (logLoop p rest (vec p.n fun j => Real.log (tmpF p b e g j))).1,
          if b then Real.log (∑ j ∈ range p.n, g j) :: (logLoop p rest (vec p.n fun j => Real.log (tmpF p b e g j))).2
          else (logLoop p rest (vec p.n fun j => Real.log (tmpF p b e g j))).2) := by
  simp only [logLoop, logTmp_vec hn hp he b hg, lseL_vec_log _ hn _ hg]

theorem logLoop_length (p : Params ℝ) (rest : List (Site ℝ)) (prev : List ℝ) :
    (logLoop p rest prev).1.length = rest.length := by
  induction rest generalizing prev with
  | nil => rfl
  | cons s rest ih => exact congrArg (· + 1) (ih _)

/-- the first site is a reset: the vector the loop is started with is not read -/
theorem logTmp_first (p : Params ℝ) (e : Emis ℝ) (prev : List ℝ) :
    logTmp p true e prev = logTmp p true e (vec p.n fun k => Real.log (p.pi k)) := rfl

theorem logLoop_eq {p : Params ℝ} (hn : 0 < p.n) (hp : PosP p) (rest : List (Site ℝ)) (hs : PosS rest)
    (g : Nat → ℝ) (hg : ∀ k, 0 < g k) (acc : ℝ) (hacc : 0 < acc) :
    Real.log (fwdULoop p rest acc (vec p.n g))
      = Real.log acc + (logLoop p rest (vec p.n (fun k => Real.log (g k)))).2.sum := by
  have hsum := sum_pos_of_pos _ hn _ hg
  induction rest generalizing g acc with
  | nil =>
    simp only [fwdULoop, logLoop, List.sum_cons, List.sum_nil, add_zero, sumL_vec, mul_eq]
    rw [lseL_vec_log _ hn _ hg, Real.log_mul (ne_of_gt hacc) (ne_of_gt hsum)]
  | cons s rest ih =>
    obtain ⟨b, e⟩ := s
    obtain ⟨he, hs'⟩ := hs.tail
    have ht := tmpF_pos hn hp he b hg
    rw [fwdULoop_cons]
    simp only [logLoop, logTmp_vec hn hp he b hg]
    cases b
    · exact ih hs' _ ht acc hacc (sum_pos_of_pos _ hn _ ht)
    · simp only [if_true]
      rw [ih hs' _ ht _ (mul_pos hacc hsum) (sum_pos_of_pos _ hn _ ht), List.sum_cons, lseL_vec_log _ hn _ hg,
        Real.log_mul (ne_of_gt hacc) (ne_of_gt hsum), add_assoc]

/-! ### backward recursion of the rescaled class, per-position likelihoods -/

theorem mulV_vec (n : Nat) (a b : Nat → ℝ) : mulV (vec n a) (vec n b) = vec n (fun j => a j * b j) :=
  zipWith_vec _ _ _ _

/-- the (flag, emissions, scale) triples `computeBackward_` reads for the sites ≥ 1 -/
def itemsOf (rest : List (Site ℝ)) (R : List (List ℝ × ℝ)) : List (Bool × Emis ℝ × ℝ) :=
  List.zipWith (fun s r => (s.1, s.2, r.2)) rest R

theorem zip_items (rest : List (Site ℝ)) (R : List (List ℝ × ℝ)) :
    List.zip (rest.map (·.1)) (List.zip (rest.map (·.2)) (R.map (·.2))) = itemsOf rest R := by
  induction rest generalizing R with
  | nil => rfl
  | cons s rest ih =>
    cases R with
    | nil => rfl
    | cons r R => exact congrArg (_ :: ·) (ih R)

theorem onesV_eq (p : Params ℝ) : onesV p = vec p.n fun _ => (1 : ℝ) := by
  rw [← ScalarReal.one_eq]; rfl

theorem sum_mul_back (p : Params ℝ) (e : Emis ℝ) (g B : Nat → ℝ) :
    ∑ j ∈ range p.n, g j * ∑ k ∈ range p.n, e k * p.P j k * B k = ∑ k ∈ range p.n, stepF p e g k * B k := by
  simp only [stepF, Finset.mul_sum, Finset.sum_mul]
  rw [Finset.sum_comm]
  exact Finset.sum_congr rfl fun k _ => Finset.sum_congr rfl fun j _ => by ring

theorem backStep_false (p : Params ℝ) (e : Emis ℝ) (c : ℝ) (B : Nat → ℝ) :
    backStep p false e c (vec p.n B) = vec p.n (fun j => (∑ k ∈ range p.n, e k * p.P j k * B k) / c) :=
  vec_congr _ _ _ fun _ _ => congrArg (· / c) (dot_vec _ _ _)

theorem rescLoop_length (p : Params ℝ) (rest : List (Site ℝ)) (prev : List ℝ) : (rescLoop p rest prev).length = rest.length := by
  induction rest generalizing prev with
  | nil => rfl
  | cons s rest ih => exact congrArg (· + 1) (ih _)

theorem zipWith_mul_bounds (a b : List ℝ) (hlen : a.length = b.length) (ha : ∀ x ∈ a, 0 ≤ x) (lo hi : ℝ)
    (hb : ∀ y ∈ b, lo ≤ y ∧ y ≤ hi) :
    lo * a.sum ≤ (List.zipWith (fun x y => x * y) a b).sum ∧ (List.zipWith (fun x y => x * y) a b).sum ≤ hi * a.sum := by
  induction a generalizing b with
  | nil => simp
  | cons x xs ih =>
    cases b with
    | nil => simp at hlen
    | cons y ys =>
      have hx : 0 ≤ x := ha x (List.mem_cons_self)
      have hy := hb y (List.mem_cons_self)
      obtain ⟨h1, h2⟩ := ih ys (Nat.succ.inj hlen) (fun z hz => ha z (List.mem_cons_of_mem _ hz))
        (fun z hz => hb z (List.mem_cons_of_mem _ hz))
      simp only [List.zipWith_cons_cons, List.sum_cons, mul_add, mul_comm _ x]
      exact ⟨add_le_add (mul_le_mul_of_nonneg_left hy.1 hx) h1, add_le_add (mul_le_mul_of_nonneg_left hy.2 hx) h2⟩

end Bpp.Hmm
