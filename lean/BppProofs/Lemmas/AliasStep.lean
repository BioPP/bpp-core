import BppProofs.Lemmas.AliasQuery
/-! What one operation of the protocol does (C03).  `step` interprets fifteen operations; in a world satisfying the invariant
each of them ends in one of a dozen ways, each described by the notion its routine has (`AliasDone`, `Pairs`, `Writes`,
`Rebuilt`, …) or by "the world is as before".  `Did` lists them, `step_did` proves the list against `step` once; what is
shown of every operation (invariant, frame, what can be raised, the heap relations) is shown by cases on `Did`. -/
namespace Bpp.Alias
open Bpp.ParamList (Bnd Con Par Store ObjId nameOf find? hasParameter names startsWith)

/-- well-formed requests: a parameter is added under the namespace of its owner, with a short
name that is not empty and has no underscore -/
def Op.wf (w : World) : Op → Prop
  | .add k p => ∀ o, w.objs k = some o → ∃ x, p.name = o.pre ++ x ∧ Plain x
  | _ => True

def Op.isUpdate : Op → Bool
  | .setv .. | .setvs .. | .matchvs .. | .setallv .. => true
  | _ => false

/-- **what one operation of the protocol does** in a world satisfying the invariant: the world it ends in and its answer -/
inductive Did (w : World) : Op → World → Out → Prop
  /-- a slot the operation needs is empty -/
  | ub {op : Op} {k : Nat} : k ∈ op.needs → w.objs k = none → Did w op w (.err .ub)
  /-- a refused request leaves the world as it is -/
  | refused {op : Op} {e : Err} : e = .notfound ∨ e = .bpp ∨ e = .constraint → Did w op w (.err e)
  /-- the queries, and self-assignment -/
  | same {op : Op} {out : Out} : out.isErr = false → Did w op w out
  | new (k : Nat) (pre : String) : Did w (.new k pre) (newObj w k pre) .ok
  | added {k : Nat} {o : Obj} {p : Par} : w.objs k = some o → p.ok = true → hasParameter w.heap o.params p.name = false →
      Did w (.add k p) ((w.allocPar p []).1.setObj k (addedObj o w.heap.next)) .ok
  | aliased {k : Nat} {o : Obj} {p1 p2 : String} {W : World} : w.objs k = some o → AliasDone w k o p1 p2 W →
      Did w (.alias k p1 p2) W .ok
  | unaliased {k : Nat} {o : Obj} {p1 p2 : String} {i1 i2 : ObjId} {l0 : Nat} : w.objs k = some o →
      find? w.heap o.params (o.pre ++ p1) = some i1 → find? w.heap o.params (o.pre ++ p2) = some i2 →
      (aliasId p1 p2, l0) ∈ o.reg → i2 ∉ o.indep → Did w (.unalias k p1 p2) (unaliased w k o p1 p2 i1 i2) .ok
  /-- the map form: pair aliases that returned, then a refusal … -/
  | bulkRaised {k : Nat} {o : Obj} {es D : List (String × String)} {W : World} {e : Err} : w.objs k = some o → Pairs k w D W →
      e = .notfound ∨ e = .bpp ∨ e = .constraint → Did w (.bulk k es) W (.err e)
  /-- … or, every entry being linked, the loop that equalises values -/
  | bulk {k : Nat} {o o' : Obj} {es D : List (String × String)} {W : World} {out : Out} : w.objs k = some o → Pairs k w D W →
      (∀ e ∈ mkMap es, e ∈ D) → W.objs k = some o' → (∀ e, out = .err e ↔ (syncLinks o'.params W D).err = some e) →
      Did w (.bulk k es) (syncLinks o'.params W D).w out
  /-- a value update: a run of writes to parameters of the object -/
  | update {op : Op} {o : Obj} {r : WR} {out : Out} : op.isUpdate = true → w.objs op.slot = some o →
      Writes (fun i _ => i ∈ o.params) w r → (∀ e, out = .err e ↔ r.err = some e) → Did w op r.w out
  | copied {s d : Nat} {o : Obj} {W : World} : w.objs s = some o → Rebuilt w s d o W → Did w (.copy s d) W .ok
  | assigned {s d : Nat} {o : Obj} {W : World} : w.objs s = some o → Rebuilt w s d o W → Did w (.assign s d) W .ok
  | renamed {k : Nat} {o : Obj} (pre : String) : w.objs k = some o → Did w (.ns k pre) (nsWorld w k o pre) .ok

theorem ofErr_err_iff (x : Option Err) (e : Err) : Out.ofErr x = .err e ↔ x = some e := by
  cases x <;> simp [Out.ofErr]

theorem isErr_ofErr_none {e : Option Err} (h : (Out.ofErr e).isErr = false) : e = none := by
  cases e
  · rfl
  · cases h

theorem step_did {w : World} (h : Inv w) (op : Op) (hwf : op.wf w) : Did w op (step w op).1 (step w op).2 := by
  have ub : ∀ {op : Op} {k : Nat} {r : WR}, k ∈ op.needs → w.objs k = none → r = { w := w, err := some .ub } →
      Did w op r.w (.ofErr r.err) := fun hk ho e => e ▸ .ub hk ho
  have refuse : ∀ {op : Op} {r : WR}, r.w = w → r.err = some .notfound ∨ r.err = some .bpp ∨ r.err = some .constraint →
      Did w op r.w (.ofErr r.err) := by
    intro op r hw he
    rw [hw]
    rcases he with he | he | he <;> rw [he]
    exacts [.refused (Or.inl rfl), .refused (Or.inr (Or.inl rfl)), .refused (Or.inr (Or.inr rfl))]
  have upd : ∀ {op : Op} {r : WR} {out : Out}, op.isUpdate = true → (w.objs op.slot = none → r = { w := w, err := some .ub }) →
      (∀ o, w.objs op.slot = some o → Writes (fun i _ => i ∈ o.params) w r) → (∀ e, out = .err e ↔ r.err = some e) →
      op.needs = [op.slot] → Did w op r.w out := by
    intro op r out hu hn hs hout hneeds
    cases ho : w.objs op.slot with
    | none =>
      rw [hn ho] at hout ⊢
      rw [(hout .ub).2 rfl]; exact .ub (hneeds ▸ List.mem_singleton_self _) ho
    | some o => exact .update hu ho (hs o ho) hout
  have writes := fun {k : Nat} {o : Obj} (ho : w.objs k = some o) => update_writes ho (P := Writes _ w) fun _ hr => hr
  cases op with
  | new k pre => exact .new k pre
  | add k p =>
    show Did w _ (addParam w k p).w (.ofErr (addParam w k p).err)
    cases ho : w.objs k with
    | none => exact ub (List.mem_singleton_self k) ho (addParam_none ho p)
    | some o =>
      obtain ⟨x, hx, _⟩ := hwf o ho
      rcases addParam_cases (h.obj k o ho) ho hx with (he | he) | ⟨hok, hnew, he⟩ <;> rw [he]
      exacts [.refused (Or.inr (Or.inr rfl)), .refused (Or.inr (Or.inl rfl)), .added ho hok hnew]
  | «alias» k p1 p2 =>
    show Did w _ (aliasPair w k p1 p2).w (.ofErr (aliasPair w k p1 p2).err)
    cases ho : w.objs k with
    | none => exact ub (List.mem_singleton_self k) ho (aliasPair_none ho p1 p2)
    | some o =>
      rcases aliasPair_cases (h.obj k o ho) ho p1 p2 with ⟨hw, he⟩ | ⟨hok, ⟨dn⟩⟩
      · exact refuse hw he
      · rw [hok]; exact .aliased ho dn
  | unalias k p1 p2 =>
    show Did w _ (unalias w k p1 p2).w (.ofErr (unalias w k p1 p2).err)
    cases ho : w.objs k with
    | none => exact ub (List.mem_singleton_self k) ho (unalias_none ho p1 p2)
    | some o =>
      obtain ⟨s1, s2⟩ := unalias_spec (h.obj k o ho) ho p1 p2
      cases he : (unalias w k p1 p2).err with
      | some e =>
        obtain ⟨hw, hc⟩ := s1 (he ▸ Option.some_ne_none e)
        exact he ▸ refuse hw (hc.imp id Or.inl)
      | none =>
        obtain ⟨i1, i2, l0, h1, h2, hreg, hnot, heq⟩ := s2 he
        rw [heq]; exact .unaliased ho h1 h2 hreg hnot
  | bulk k es =>
    show Did w _ (bulkAlias w k es).w (.ofErr (bulkAlias w k es).err)
    cases ho : w.objs k with
    | none => exact ub (List.mem_singleton_self k) ho (bulkAlias_none ho es)
    | some o =>
      exact bulkAlias_of h ho es (P := fun r => Did w (.bulk k es) r.w (.ofErr r.err)) fun D W p =>
        ⟨fun e he => .bulkRaised ho p he, fun hall o' ho' => .bulk ho p hall ho' (ofErr_err_iff _)⟩
  | setv k n v =>
    exact upd (r := apSetParameterValue w k n v) rfl (fun ho => by simp only [apSetParameterValue, Op.slot, ho] at ho ⊢)
      (fun o ho => (writes ho).1 n v) (ofErr_err_iff _) rfl
  | setvs k src =>
    exact upd (r := apSetParametersValues w k src) rfl (fun ho => by simp only [apSetParametersValues, Op.slot, ho] at ho ⊢)
      (fun o ho => (writes ho).2.1 src) (ofErr_err_iff _) rfl
  | matchvs k src =>
    refine upd (r := (apMatchParametersValues w k src).1) rfl (fun ho => by simp only [apMatchParametersValues, Op.slot, ho] at ho ⊢)
      (fun o ho => (writes ho).2.2.1 src) (fun e => ?_) rfl
    show (match (apMatchParametersValues w k src).1.err with | some e => Out.err e | none => .flag _) = _ ↔ _
    cases (apMatchParametersValues w k src).1.err <;> simp
  | setallv k src =>
    exact upd (r := apSetAllParametersValues w k src) rfl (fun ho => by simp only [apSetAllParametersValues, Op.slot, ho] at ho ⊢)
      (fun o ho => (writes ho).2.2.2 src) (ofErr_err_iff _) rfl
  | copy s d =>
    show Did w _ (copyConstruct w s d).w (.ofErr (copyConstruct w s d).err)
    cases ho : w.objs s with
    | none => exact ub (List.mem_singleton_self s) ho (copyConstruct_none ho d)
    | some o =>
      obtain ⟨ok, ⟨r⟩⟩ := copyConstruct_rebuilt h (d := d) ho
      rw [ok]; exact .copied ho r
  | assign s d =>
    show Did w _ (assign w s d).w (.ofErr (assign w s d).err)
    cases ho : w.objs s with
    | none => exact ub (List.mem_cons_self ..) ho (by simp only [assign, ho])
    | some o =>
      cases hd : w.objs d with
      | none => exact ub (List.mem_cons_of_mem _ (List.mem_singleton_self d)) hd (by simp only [assign, ho, hd])
      | some od =>
        by_cases hsd : s = d
        · simp only [assign, hd, hsd, if_true]; exact .same rfl
        · obtain ⟨ok, ⟨r⟩⟩ := assign_rebuilt h ho hd hsd
          rw [ok]; exact .assigned ho r
  | ns k pre =>
    show Did w _ (setNamespace w k pre).w (.ofErr (setNamespace w k pre).err)
    cases ho : w.objs k with
    | none => exact ub (List.mem_singleton_self k) ho (setNamespace_none ho pre)
    | some o => rw [setNamespace_eq ho]; exact .renamed pre ho
  | aliases k =>
    cases ho : w.objs k with
    | none => simp only [step, ho]; exact .ub (List.mem_singleton_self k) ho
    | some o =>
      obtain ⟨m, hm, _⟩ := getAliases_spec (h.obj k o ho) ho
      simp only [step, ho, hm]; exact .same rfl
  | aliasOf k n =>
    cases ho : w.objs k with
    | none => simp only [step, ho]; exact .ub (List.mem_singleton_self k) ho
    | some o =>
      obtain ⟨l, hl, _⟩ := getAlias_spec (h.obj k o ho) ho n
      simp only [step, ho, hl]; exact .same rfl
  | «from» k n =>
    cases ho : w.objs k with
    | none => simp only [step, ho]; exact .ub (List.mem_singleton_self k) ho
    | some o => simp only [step, ho]; exact .same rfl

end Bpp.Alias
