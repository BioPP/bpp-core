import BppProofs.Lemmas.LapFullBasic
import Mathlib.Tactic.Linarith
/-! Helper lemmas for C04 (`lap`): the sweep of the augmenting row reduction before the repair
(`arrCutOrig`) on the `4 × 4` cost matrix of the price war, in exact arithmetic.  Two of the rows 0, 2, 3
hold the columns 0 and 3, the third is on the list of free rows; every pass takes one of the two columns
from its holder and lowers its price by one to three `q`, so the number of passes grows like `1 / q`. -/
namespace Bpp.Mx.Lap
open Bpp Bpp.Mx

/-- a sweep never ends when every pass leaves a row to scan (`P fuel`: the state can afford `fuel` more passes) -/
theorem arrLoop_out_of_fuel {α : Type} [Scalar α] [ExtCmp α] {n : Nat} {c : Nat → Nat → α} {cut : Nat → Nat → Bool}
    (P : Nat → Arr α → Prop) (hk : ∀ f s, P f s → s.k < s.prev)
    (hstep : ∀ f s, P (f + 1) s → ∃ s', arrStep n c cut s = .ok s' ∧ P f s') :
    ∀ fuel s, P fuel s → arrLoop n c cut fuel s = .error .fuel := by
  intro fuel
  induction fuel with
  | zero => intro s h; rw [arrLoop, if_pos (hk 0 s h)]
  | succ fuel ih =>
    intro s h
    obtain ⟨s', hs', h'⟩ := hstep fuel s h
    rw [arrLoop, if_pos (hk _ s h), hs']
    exact ih s' h'

/-- the scan of a row of four with reduced costs `h0 … h3`, those of columns 0 and 3 below the other two -/
theorem scan2_outer {c : Nat → Nat → Rat} {v : Nat → Rat} {i : Nat} (j2 : Option Nat) {h0 h1 h2 h3 : Rat}
    (e0 : c i 0 - v 0 = h0) (e1 : c i 1 - v 1 = h1) (e2 : c i 2 - v 2 = h2) (e3 : c i 3 - v 3 = h3)
    (h01 : h0 ≤ h1) (h12 : h1 ≤ h2) (h31 : h3 < h1) :
    scan2 4 c v i j2 = if h0 ≤ h3 then ⟨h0, 0, some h3, some 3⟩ else ⟨h3, 3, some h0, some 0⟩ := by
  have e : scan2 4 c v i j2 =
      scan2Step c v i (scan2Step c v i (scan2Step c v i ⟨c i 0 - v 0, 0, none, some 0⟩ 0) 1) 2 := rfl
  simp only [e, scan2Step, e0, e1, e2, e3, ltExt, ExtCmp.ltPosInf, Scalar.geb, Scalar.leb, Scalar.ltb, decide_eq_true_eq,
    if_true, h01, not_lt.mpr h12, if_false, h31]

/-- a pass of the sweep before the repair in which the row scanned finds column `a` strictly cheapest and
takes it from row `r`: the price of `a` falls by the gap to the second cheapest, `r` is scanned next -/
theorem arrStep_steal {n : Nat} {c : Nat → Nat → Rat} {s : Arr Rat} {a r : Nat} {x y : Rat} {b : Option Nat}
    (hk : s.k < n) (hi : s.free s.k < n) (hsc : scan2 n c s.v (s.free s.k) s.j2 = ⟨x, a, some y, b⟩) (hxy : x < y)
    (hr : s.colSol a = (r : Int)) :
    ∃ s', arrStep n c arrCutOrig s = .ok s' ∧ s'.k = s.k ∧ s'.prev = s.prev ∧ s'.free = upd s.free s.k (szOfInt r) ∧
      s'.colSol = upd s.colSol a (s.free s.k : Int) ∧ s'.v = upd s.v a (s.v a - (y - x)) := by
  have hlt : ltExt x (some y) = true := by simpa [ltExt, Scalar.ltb] using hxy
  refine ⟨{ s with
    rowSol := upd s.rowSol (s.free s.k) (a : Int), colSol := upd s.colSol a (s.free s.k : Int),
    v := upd s.v a (s.v a - (y - x)), j2 := b, free := upd s.free s.k (szOfInt r), cnt := s.cnt + 1 },
    ?_, rfl, rfl, rfl, rfl, rfl⟩
  simp only [arrStep, rd_of_lt _ hk, hi, not_true_eq_false, if_false, hsc, hlt, if_true, hr, arrCutOrig, Bool.and_self,
    ge_iff_le, Int.natCast_nonneg]

/-- what the price war needs of the sweep's state: one row on the list, `free[0] = i`; columns 0 and 3 held
by rows `o0`, `o3` at prices `1 - f0`, `2 - f3`; columns 1 and 2 at prices 1 and 0 -/
structure Duel (i o0 o3 : Nat) (f0 f3 : Rat) (s : Arr Rat) : Prop where
  k : s.k = 0
  prev : s.prev = 1
  free : s.free 0 = i
  cs0 : s.colSol 0 = (o0 : Int)
  cs3 : s.colSol 3 = (o3 : Int)
  v0 : s.v 0 = 1 - f0
  v1 : s.v 1 = 1
  v2 : s.v 2 = 0
  v3 : s.v 3 = 2 - f3

/-- one pass: row `i` (costs `1 + a0`, two of at least 2, and 2) takes the cheaper of the columns 0 and 3 -/
theorem Duel.pass {c : Nat → Nat → Rat} {i o0 o3 : Nat} {f0 f3 a0 : Rat} {s : Arr Rat} (h : Duel i o0 o3 f0 f3 s)
    (hi : i < 4) (ho0 : o0 < 4) (ho3 : o3 < 4) (e0 : c i 0 = 1 + a0) (e1 : 1 ≤ c i 1 - 1) (e2 : c i 1 - 1 ≤ c i 2)
    (e3 : c i 3 = 2) (b0 : f0 + a0 < 1) (b3 : f3 < 1) :
    (f0 + a0 < f3 → ∃ s', arrStep 4 c arrCutOrig s = .ok s' ∧ Duel o0 i o3 (f3 - a0) f3 s') ∧
    (f3 < f0 + a0 → ∃ s', arrStep 4 c arrCutOrig s = .ok s' ∧ Duel o3 o0 i f0 (f0 + a0) s') := by
  have hk : s.k < 4 := by rw [h.k]; omega
  have hfk : s.free s.k = i := by rw [h.k, h.free]
  have hsc := scan2_outer (c := c) (v := s.v) (i := i) s.j2 (h0 := f0 + a0) (h1 := c i 1 - 1) (h2 := c i 2) (h3 := f3)
    (by rw [e0, h.v0]; ring) (by rw [h.v1]) (by rw [h.v2, sub_zero]) (by rw [e3, h.v3]; ring)
    (b0.le.trans e1) e2 (b3.trans_le e1)
  rw [← hfk] at hsc hi
  have n03 : (0 : Nat) ≠ 3 := by omega
  have n13 : (1 : Nat) ≠ 3 := by omega
  have n23 : (2 : Nat) ≠ 3 := by omega
  constructor
  · intro hlt
    rw [if_pos hlt.le] at hsc
    obtain ⟨s', hs', ek, ep, ef, ec, ev⟩ := arrStep_steal hk hi hsc hlt h.cs0
    refine ⟨s', hs', ek.trans h.k, ep.trans h.prev, ?_, ?_, ?_, ?_, ?_, ?_, ?_⟩
    · rw [ef, h.k, upd_same, szOfInt_ofNat o0 (by omega)]
    · rw [ec, upd_same, hfk]
    · rw [ec, upd_ne _ _ n03.symm, h.cs3]
    · rw [ev, upd_same, h.v0]; ring
    · rw [ev, upd_ne _ _ Nat.one_ne_zero, h.v1]
    · rw [ev, upd_ne _ _ (by omega), h.v2]
    · rw [ev, upd_ne _ _ n03.symm, h.v3]
  · intro hlt
    rw [if_neg (not_le.mpr hlt)] at hsc
    obtain ⟨s', hs', ek, ep, ef, ec, ev⟩ := arrStep_steal hk hi hsc hlt h.cs3
    refine ⟨s', hs', ek.trans h.k, ep.trans h.prev, ?_, ?_, ?_, ?_, ?_, ?_, ?_⟩
    · rw [ef, h.k, upd_same, szOfInt_ofNat o3 (by omega)]
    · rw [ec, upd_ne _ _ n03, h.cs0]
    · rw [ec, upd_same, hfk]
    · rw [ev, upd_ne _ _ n03, h.v0]
    · rw [ev, upd_ne _ _ n13, h.v1]
    · rw [ev, upd_ne _ _ n23, h.v2]
    · rw [ev, upd_same, h.v3]; ring

theorem Duel.congr {i o0 o3 : Nat} {f0 f3 g0 g3 : Rat} {s : Arr Rat} (h : Duel i o0 o3 f0 f3 s) (e0 : f0 = g0)
    (e3 : f3 = g3) : Duel i o0 o3 g0 g3 s := e0 ▸ e3 ▸ h

/-- the rows 0, 2, 3 of the cost matrix of the price war -/
structure WarRows (q : Rat) (c : Nat → Nat → Rat) : Prop where
  r0 : c 0 0 = 1 + q ∧ c 0 1 = 2 ∧ c 0 2 = 2 ∧ c 0 3 = 2
  r2 : c 2 0 = 1 + 0 ∧ c 2 1 = 2 + 2 * q ∧ c 2 2 = 2 ∧ c 2 3 = 2
  r3 : c 3 0 = 1 + 3 * q ∧ c 3 1 = 2 ∧ c 3 2 = 2 ∧ c 3 3 = 2

/-- a state of the war that can afford `f` more passes, `1 - x` the price of column 0: row 0 about to take
column 0 from row 2, row 2 about to take it back, row 0 about to take column 3 from row 3, or row 3 about to take
it back.  A pass lowers a price by at most `2 q`, and the war goes on while `x + 3 q < 1`. -/
def War (q : Rat) (f : Nat) (s : Arr Rat) : Prop :=
  ∃ x, x + (2 * f + 3) * q ≤ 1 ∧
    (Duel 0 2 3 x (x + 3 * q) s ∨ Duel 2 0 3 x (x + q) s ∨ Duel 0 2 3 x x s ∨ ∃ y, y < x + 3 * q ∧ Duel 3 2 0 x y s)

theorem War.step {q : Rat} {c : Nat → Nat → Rat} (hq : 0 < q) (hq2 : 2 * q ≤ 1) (hr : WarRows q c) {f : Nat} {s : Arr Rat}
    (h : War q (f + 1) s) : ∃ s', arrStep 4 c arrCutOrig s = .ok s' ∧ War q f s' := by
  obtain ⟨x, hxf, h⟩ := h
  push_cast at hxf
  have hf : 0 ≤ (f : Rat) * q := mul_nonneg (Nat.cast_nonneg f) hq.le
  have hx3 : x + 3 * q < 1 := by linarith
  have hq3 : q < 3 * q := by linarith
  have hx1 : x + q < 1 := (add_lt_add_right hq3 x).trans hx3
  have hx0 : x < 1 := (lt_add_of_pos_right x hq).trans hx1
  have e12 : (1 : Rat) ≤ 2 - 1 := by norm_num
  have e22 : (2 : Rat) - 1 ≤ 2 := by norm_num
  rcases h with h | h | h | ⟨y, hy, h⟩
  · obtain ⟨s', hs', h'⟩ := (h.pass (by omega) (by omega) (by omega) hr.r0.1 (hr.r0.2.1 ▸ e12) (hr.r0.2.1 ▸ hr.r0.2.2.1 ▸ e22)
      hr.r0.2.2.2 hx1 hx3).1 (add_lt_add_right hq3 x)
    exact ⟨s', hs', x + 3 * q - q, by linarith, Or.inr (Or.inl (h'.congr rfl (sub_add_cancel _ _).symm))⟩
  · obtain ⟨s', hs', h'⟩ := (h.pass (by omega) (by omega) (by omega) hr.r2.1 (by rw [hr.r2.2.1]; linarith)
      (by rw [hr.r2.2.1, hr.r2.2.2.1]; linarith) hr.r2.2.2.2 (by rwa [add_zero]) hx1).1 (add_lt_add_right hq x)
    exact ⟨s', hs', x + q, by linarith, Or.inr (Or.inr (Or.inl (h'.congr (sub_zero _) rfl)))⟩
  · obtain ⟨s', hs', h'⟩ := (h.pass (by omega) (by omega) (by omega) hr.r0.1 (hr.r0.2.1 ▸ e12) (hr.r0.2.1 ▸ hr.r0.2.2.1 ▸ e22)
      hr.r0.2.2.2 hx1 hx0).2 (lt_add_of_pos_right x hq)
    exact ⟨s', hs', x, by linarith, Or.inr (Or.inr (Or.inr ⟨x + q, add_lt_add_right hq3 x, h'⟩))⟩
  · obtain ⟨s', hs', h'⟩ := (h.pass (by omega) (by omega) (by omega) hr.r3.1 (hr.r3.2.1 ▸ e12) (hr.r3.2.1 ▸ hr.r3.2.2.1 ▸ e22)
      hr.r3.2.2.2 hx3 (hy.trans hx3)).2 hy
    exact ⟨s', hs', x, by linarith, Or.inl h'⟩

theorem War.k_lt_prev {q : Rat} {f : Nat} {s : Arr Rat} (h : War q f s) : s.k < s.prev := by
  obtain ⟨x, _, h | h | h | ⟨y, _, h⟩⟩ := h <;> rw [h.k, h.prev] <;> exact Nat.one_pos

/-- the sweep before the repair, started with row 3 on the list, rows 2 and 0 holding the columns 0 and 3 at
prices `1 - q` and `2 - y`: `fuel` passes do not end it when `(2 fuel + 4) q ≤ 1` -/
theorem arrLoop_war {q y : Rat} {c : Nat → Nat → Rat} (hq : 0 < q) (hr : WarRows q c) (fuel : Nat)
    (hfuel : (2 * fuel + 4) * q ≤ 1) (hy : y < q + 3 * q) {s : Arr Rat} (h : Duel 3 2 0 q y s) :
    arrLoop 4 c arrCutOrig fuel s = .error .fuel := by
  have hf : 0 ≤ (fuel : Rat) * q := mul_nonneg (Nat.cast_nonneg fuel) hq.le
  exact arrLoop_out_of_fuel (War q) (fun _ _ h => h.k_lt_prev) (fun _ _ h => h.step hq (by linarith) hr) fuel s
    ⟨q, by linarith, Or.inr (Or.inr (Or.inr ⟨y, hy, h⟩))⟩

theorem lapFullG_error_of_first_sweep {α : Type} [Scalar α] [ExtCmp α] {fuel n : Nat} {c : Nat → Nat → α}
    {cut : Nat → Nat → Bool} {rowSol0 colSol0 : Nat → Int} {u0 v0 : Nat → α} {cr : CR α} {rt : RT α} {e : Err}
    (hcr : colRed n c { rowSol := rowSol0, colSol := colSol0, v := v0, mt := fun _ => 0 } = cr)
    (hrt : redTransfer n c cr.rowSol cr.mt { v := cr.v, free := fun _ => 0, numFree := 0 } = .ok rt)
    (hloop : arrLoop n c cut fuel { rowSol := cr.rowSol, colSol := cr.colSol, v := rt.v, free := rt.free,
                                    numFree := 0, j2 := none, k := 0, prev := rt.numFree, cnt := 0 } = .error e) :
    lapFullG fuel n c cut rowSol0 colSol0 u0 v0 = .error e := by
  subst hcr
  simp only [lapFullG, phaseA, hrt, arrPass, hloop]

/-- column reduction and reduction transfer leave row 3 free and the columns 0 and 3 with rows 2 and 0 at the
prices `1 - q`, `2 - q` (for the witnesses: evaluated) -/
def warStart (q : Rat) (n : Nat) (c : Nat → Nat → Rat) (rowSol0 colSol0 : Nat → Int) (v0 : Nat → Rat) : Bool :=
  let cr := colRed n c { rowSol := rowSol0, colSol := colSol0, v := v0, mt := fun _ => 0 }
  match redTransfer n c cr.rowSol cr.mt { v := cr.v, free := fun _ => 0, numFree := 0 } with
  | .ok rt => decide (rt.numFree = 1 ∧ rt.free 0 = 3 ∧ cr.colSol 0 = (2 : Nat) ∧ cr.colSol 3 = (0 : Nat) ∧
      rt.v 0 = 1 - q ∧ rt.v 1 = 1 ∧ rt.v 2 = 0 ∧ rt.v 3 = 2 - q)
  | .error _ => false

theorem warStart_spec {q : Rat} {n : Nat} {c : Nat → Nat → Rat} {rowSol0 colSol0 : Nat → Int} {v0 : Nat → Rat}
    (h : warStart q n c rowSol0 colSol0 v0 = true) :
    ∃ cr rt, colRed n c { rowSol := rowSol0, colSol := colSol0, v := v0, mt := fun _ => 0 } = cr ∧
      redTransfer n c cr.rowSol cr.mt { v := cr.v, free := fun _ => 0, numFree := 0 } = .ok rt ∧
      Duel 3 2 0 q q { rowSol := cr.rowSol, colSol := cr.colSol, v := rt.v, free := rt.free,
                       numFree := 0, j2 := none, k := 0, prev := rt.numFree, cnt := 0 } := by
  unfold warStart at h
  simp only at h
  split at h
  · next rt hrt =>
    obtain ⟨hnf, hfr, hc0, hc3, hv0, hv1, hv2, hv3⟩ := of_decide_eq_true h
    exact ⟨_, rt, rfl, hrt, rfl, hnf, hfr, hc0, hc3, hv0, hv1, hv2, hv3⟩
  · cases h

/-- **the price war**: on a `4 × 4` cost matrix with rows `(1 + q, 2, 2, 2)`, `(1, 2 + 2q, 2, 2)`,
`(1 + 3q, 2, 2, 2)` whose first two phases end as `warStart` says, the routine before the repair is still in
its first sweep after `fuel` passes whenever `(2 fuel + 4) q ≤ 1` -/
theorem lapFullOrig_war {q : Rat} {c : Nat → Nat → Rat} (hq : 0 < q) (hr : WarRows q c) (fuel : Nat)
    (hfuel : (2 * fuel + 4) * q ≤ 1) (rowSol0 colSol0 : Nat → Int) (u0 v0 : Nat → Rat)
    (hstart : warStart q 4 c rowSol0 colSol0 v0 = true) :
    lapFullOrig fuel 4 c rowSol0 colSol0 u0 v0 = .error .fuel := by
  obtain ⟨cr, rt, hcr, hrt, h⟩ := warStart_spec hstart
  exact lapFullG_error_of_first_sweep hcr hrt
    (arrLoop_war hq hr fuel hfuel (lt_add_of_pos_right q (mul_pos (by norm_num) hq)) h)

end Bpp.Mx.Lap
