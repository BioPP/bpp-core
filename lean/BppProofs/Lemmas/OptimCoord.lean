import BppProofs.Lemmas.OptimNewton
import BppProofs.Lemmas.OptimBrent
/-!
Helper lemmas for C10: the coordinate-wise optimisers `SimpleMultiDimensions` (Brent along each
coordinate in turn) and `SimpleNewtonMultiDimensions` (Newton along each coordinate in turn) on the
objective of the harness, over `ℝ`.

The invariant between coordinates (`Coord.Inv`): the optimiser's parameters have precision 0, hold
feasible values, have distinct names that are parameters of the function, and the function has been
left at the values they hold.  One coordinate: the one-dimensional optimiser is initialised with the
sub-list of that coordinate, run, and the function's point is copied back
(`matchParametersValues`) — the value it returns is the objective at the point the function is left
at and is not above the objective at the point the coordinate started from.
-/
set_option linter.unusedSectionVars false
namespace Bpp.Optim
open Bpp

variable (obj : List ℝ → ℝ) (D : Deriv ℝ) (cap : Option Nat)

structure Coord.Inv {τ : Type} (len : Nat) (ns : List Nat) (s : St (Fn ℝ) τ ℝ) : Prop where
  good : Good s.core.params
  names : names s.core.params = ns
  sync : Sync s.fn s.core.params
  len : s.fn.point.length = len

theorem applyPolicy_good (pol : Policy) (pl : PList ℝ) (h : Good pl) : Good (applyPolicy pol pl) := by
  intro q hq
  cases pol with
  | keep => exact h q hq
  | ignore =>
    simp only [applyPolicy, List.mem_map] at hq
    obtain ⟨q0, hq0, rfl⟩ := hq
    exact ⟨(h q0 hq0).1, Param.accepts_none rfl _⟩
  | auto =>
    simp only [applyPolicy, List.mem_map] at hq
    obtain ⟨q0, hq0, rfl⟩ := hq
    exact h q0 hq0

/-- one coordinate of `SimpleMultiDimensions::doStep`: the value is the objective at the point the function
is left at, not above the objective at the point the coordinate started from, and only that coordinate
has moved (`AlongP`) -/
theorem simpleCoord_spec (fuel : Nat) (len : Nat) (ns : List Nat) (hns : ns.Nodup ∧ ∀ n ∈ ns, n < len)
    (s s' : St (Fn ℝ) (Simple ℝ) ℝ) (i : Nat) (f : ℝ)
    (hi : Coord.Inv len ns s) (h : simpleCoord (Fn.iface obj D cap) fuel s i = .ok (s', f)) :
    Coord.Inv len ns s' ∧ (obj s'.fn.point ≤ obj s.fn.point ∧ Off s.fn.point ns s'.fn) ∧ f = obj s'.fn.point := by
  obtain ⟨q, inner0, inner1, inner2, pl, hq, hc0, hf0, hinit, hopt, hml, rfl⟩ := simpleCoord_ok h
  have hqm : q ∈ s.core.params := List.mem_of_getElem? hq
  obtain ⟨p0, hap, hp0v, hp0p, hp0i⟩ := applyPolicy_single inner0.core.policy q
  have hgq := hi.good q hqm
  have hp0prec : p0.precision = 0 := hp0p.trans hgq.1
  have hp0inv : p0.invOk = true := hp0i hgq.2
  have hqn : q.name ∈ ns := hi.names ▸ mem_names hqm
  have hJ : AlongP s.fn.point q.name p0 inner0.fn (applyPolicy inner0.core.policy [q]) := by
    rw [hap, hf0]
    exact ⟨⟨p0.value, by rw [reval_self], hp0inv⟩, hi.len ▸ hns.2 _ hqn, rfl, fun _ _ => rfl⟩
  have hx0 : value0 (applyPolicy inner0.core.policy [q]) = some q.p.value := by rw [hap]; simp [value0, hp0v]
  have hdet := objective_det_con obj D cap s.fn.point q.name p0 hp0prec hp0inv
  obtain ⟨hdesc0, -, x, -, -, hJ2⟩ := brentOptimize_spec (Fn.iface obj D cap) _ hdet fuel _ inner1 inner2 f
    (brentInit_spec (Fn.iface obj D cap) _ hdet fuel _ inner1 [q] q.p.value hinit hJ hx0) hopt
  obtain ⟨sL, w, fn2, -, hf2, rfl⟩ := brentOptimize_ok hopt
  have hval : f = obj fn2.point := (iface_f_point obj D cap _ _ _ _ hf2).2.1
  have hlen2 : fn2.point.length = len := hJ2.2.2.1.trans hi.len
  obtain ⟨hlike, hsync⟩ := matchList_sync s.core.params pl _ hi.good (by rw [hi.names]; exact hns.1)
    (fun q' hq' => by rw [hlen2]; exact hns.2 _ (hi.names ▸ mem_names hq')) hml
  refine ⟨⟨hlike.good hi.good, hlike.names.trans hi.names, hsync, hlen2⟩, ⟨?_, hJ2.2.2.1, fun j hj => hJ2.2.2.2 j
    (fun c => hj (c ▸ hqn))⟩, hval⟩
  have hc : corr p0 q.p.value = q.p.value := hp0v ▸ corr_accepted p0 _ hp0prec hp0inv hp0inv
  have hdesc := le_trans hdesc0 (min_le_left _ _)
  rw [hc, set_self_of_get _ _ _ (hi.sync q hqm)] at hdesc
  exact hval ▸ hdesc

/-- **`SimpleMultiDimensions::doStep`**: `Coord.Inv` is kept, the value returned is the objective at the
point the function is left at, not above the objective at the point it was found at, and no coordinate
outside the names of the optimiser's list has moved -/
theorem simpleDoStep_spec (fuel : Nat) (len : Nat) (ns : List Nat) (hns : ns.Nodup ∧ ∀ n ∈ ns, n < len)
    (s s' : St (Fn ℝ) (Simple ℝ) ℝ) (v : ℝ) (hi : Coord.Inv len ns s)
    (h : simpleDoStep (Fn.iface obj D cap) fuel s = .ok (s', v)) :
    Coord.Inv len ns s' ∧ v = obj s'.fn.point ∧ v ≤ obj s.fn.point ∧ Off s.fn.point ns s'.fn := by
  obtain ⟨ua, t, hc, rfl⟩ := simpleDoStep_ok h
  obtain ⟨a, ⟨b, c⟩, d⟩ := coordsFold_ok (Coord.Inv len ns)
      (fun u u' => obj u'.fn.point ≤ obj u.fn.point ∧ Off u.fn.point ns u'.fn) (fun u f => f = obj u.fn.point)
      (fun u => ⟨le_refl _, Off.rfl' _ _⟩) (fun _ _ _ h1 h2 => ⟨h2.1.trans h1.1, h1.2.trans h2.2⟩)
    (fun u i u' f hu hc => simpleCoord_spec obj D cap fuel len ns hns u u' i f hu hc) _ s ua _ _ hi rfl hc
  exact ⟨⟨a.good, a.names, a.sync, a.len⟩, d, d ▸ b, c⟩

/-- one coordinate of `SimpleNewtonMultiDimensions::doStep` -/
theorem snewtonCoord_spec (fuel : Nat) (len : Nat) (ns : List Nat) (hns : ns.Nodup ∧ ∀ n ∈ ns, n < len)
    (s s' : St (Fn ℝ) (SNewton ℝ) ℝ) (i : Nat) (f : ℝ)
    (hi : Coord.Inv len ns s) (h : snewtonCoord (Fn.iface obj D cap) fuel s i = .ok (s', f)) :
    Coord.Inv len ns s' ∧ obj s'.fn.point ≤ obj s.fn.point ∧ f = obj s'.fn.point := by
  obtain ⟨q, inner1, inner2, pl, hq, hinit, hopt, hml, rfl⟩ := snewtonCoord_ok h
  have hqm : q ∈ s.core.params := List.mem_of_getElem? hq
  have hnq : Named [q] s.fn.point.length :=
    ⟨by simp, by intro n hn; simp at hn; subst hn; exact hi.len ▸ hns.2 _ (hi.names ▸ mem_names hqm)⟩
  obtain ⟨hinv1, -⟩ := newton_init_spec obj D cap _ inner1 [q] hnq hinit
  rw [matchPoint_of_sync [q] s.fn.point (by intro q' hq'; simp at hq'; subst hq'; exact hi.sync q' hqm)] at hinv1
  obtain ⟨hinv2, hcur⟩ := newton_optimize_spec obj D cap _ _ _ hnq fuel inner1 inner2 f hinv1 hopt
  have hlen2 : inner2.fn.point.length = len := hinv2.len.trans hi.len
  obtain ⟨hlike, hsync⟩ := matchList_sync s.core.params pl inner2.fn hi.good (by rw [hi.names]; exact hns.1)
    (fun q' hq' => by rw [hlen2]; exact hns.2 _ (hi.names ▸ mem_names hq')) hml
  have hval : f = obj inner2.fn.point := hcur ▸ hinv2.cur
  exact ⟨⟨hlike.good hi.good, hlike.names.trans hi.names, hsync, hlen2⟩, hval ▸ hcur ▸ hinv2.below, hval⟩

/-- **`SimpleNewtonMultiDimensions::doStep`** -/
theorem snewtonDoStep_spec (fuel : Nat) (len : Nat) (ns : List Nat) (hns : ns.Nodup ∧ ∀ n ∈ ns, n < len)
    (s s' : St (Fn ℝ) (SNewton ℝ) ℝ) (v : ℝ) (hi : Coord.Inv len ns s)
    (h : snewtonDoStep (Fn.iface obj D cap) fuel s = .ok (s', v)) :
    Coord.Inv len ns s' ∧ v = obj s'.fn.point ∧ v ≤ obj s.fn.point := by
  obtain ⟨ua, t, hc, rfl⟩ := snewtonDoStep_ok h
  obtain ⟨a, b, d⟩ := coordsFold_ok (Coord.Inv len ns) (fun u u' => obj u'.fn.point ≤ obj u.fn.point)
      (fun u f => f = obj u.fn.point) (fun u => le_refl _) (fun _ _ _ h1 h2 => h2.trans h1)
    (fun u i u' f hu hc => snewtonCoord_spec obj D cap fuel len ns hns u u' i f hu hc) _ s ua _ _ hi rfl hc
  exact ⟨⟨a.good, a.names, a.sync, a.len⟩, d, d ▸ b⟩

/-! ### the template around the coordinate loop -/

/-- the invariant of a run: `Coord.Inv`, the current value is the objective at the function's point,
and it is not above `B` -/
structure Multi.Inv {τ : Type} (B : ℝ) (len : Nat) (ns : List Nat) (s : St (Fn ℝ) τ ℝ) : Prop where
  coord : Coord.Inv len ns s
  cur : s.core.cur = obj s.fn.point
  below : s.core.cur ≤ B

theorem Multi.Inv.congr {τ : Type} {B : ℝ} {len : Nat} {ns : List Nat} {s t : St (Fn ℝ) τ ℝ} (h : Multi.Inv obj B len ns s)
    (hf : t.fn = s.fn) (hp : t.core.params = s.core.params) (hc : t.core.cur = s.core.cur) : Multi.Inv obj B len ns t :=
  ⟨⟨by rw [hp]; exact h.coord.good, by rw [hp]; exact h.coord.names, by rw [hf, hp]; exact h.coord.sync,
    by rw [hf]; exact h.coord.len⟩, by rw [hc, hf]; exact h.cur, by rw [hc]; exact h.below⟩

/-- a run of the template from a state that satisfies the invariant, for an optimiser whose `doStep`
keeps `Coord.Inv` and returns the objective at the point it leaves the function at, not above the
objective at the point it found it at — which is the current value: a step may rely on that —, and whose
stop condition is `FunctionStopCondition` -/
theorem multi_optimize_spec {τ : Type} (A : Algo (Fn ℝ) τ ℝ) (hstop : A.stop = fscStop)
    (B : ℝ) (len : Nat) (ns : List Nat)
    (hstep : ∀ s s' v, Coord.Inv len ns s → s.core.cur = obj s.fn.point → A.doStep s = .ok (s', v) →
      Coord.Inv len ns s' ∧ v = obj s'.fn.point ∧ v ≤ obj s.fn.point)
    (fuel : Nat) (s s2 : St (Fn ℝ) τ ℝ) (v : ℝ)
    (hi : Multi.Inv obj B len ns s) (h : A.optimize fuel s = .ok (s2, v)) :
    Multi.Inv obj B len ns s2 ∧ s2.core.cur = v :=
  optimize_invariant A (Multi.Inv obj B len ns)
    (fun u u' w hu hd => by
      obtain ⟨a, b, c⟩ := hstep u u' w hu.coord hu.cur hd
      exact ⟨⟨a.good, a.names, a.sync, a.len⟩, b, le_trans c (hu.cur ▸ hu.below)⟩)
    (fun u hu => by rw [hstop, fscStop_fst]; exact hu.congr obj rfl rfl rfl)
    (fun u n t hu => hu.congr obj rfl rfl rfl) hi h

/-- what `init` establishes when `doInit` leaves the optimiser's list alone and the function at its point
with the values of the list given to `init` written into it, the stop condition being
`FunctionStopCondition` -/
theorem multi_init_spec {τ : Type} (A : Algo (Fn ℝ) τ ℝ) (hsi : A.stopInit = fscInit)
    (hval : A.value = (Fn.iface obj D cap).value)
    (s s1 : St (Fn ℝ) τ ℝ) (params : PList ℝ)
    (hgood : Good params) (hn : Named params s.fn.point.length)
    (hdo : ∀ sa, A.doInit { s with core := { s.core with params := applyPolicy s.core.policy params } } params = .ok sa →
      sa.core.params = applyPolicy s.core.policy params ∧ sa.fn.point = matchPoint s.fn.point params)
    (h : A.init s params = .ok s1) :
    Multi.Inv obj (obj (matchPoint s.fn.point params)) s.fn.point.length (names params) s1 ∧
    s1.fn.point = matchPoint s.fn.point params := by
  obtain ⟨sa, hdi, rfl⟩ := init_ok h
  obtain ⟨hp, hpt⟩ := hdo sa hdi
  rw [hsi]
  have hsync : Sync sa.fn (applyPolicy s.core.policy params) :=
    sync_of_matchPoint sa.fn s.fn.point _ (by rw [hpt, matchPoint_applyPolicy]) (by rw [applyPolicy_names]; exact hn.1)
      (hn.of_names (applyPolicy_names _ _)).lt
  exact ⟨⟨⟨hp ▸ applyPolicy_good _ _ hgood, hp ▸ applyPolicy_names _ _, hp ▸ hsync, by show sa.fn.point.length = _; rw [hpt, matchPoint_length]⟩,
    by show A.value sa.fn = obj sa.fn.point; rw [hval]; rfl,
    by show A.value sa.fn ≤ _; rw [hval, ← hpt]; exact le_refl _⟩, hpt⟩

/-- what the descent theorems report of a state that satisfies the invariant of a run -/
theorem Multi.Inv.report {τ : Type} {B : ℝ} {len : Nat} {ns : List Nat} {s : St (Fn ℝ) τ ℝ} {v : ℝ}
    (h : Multi.Inv obj B len ns s) (hcur : s.core.cur = v) :
    Spec.descent v B = true ∧ Spec.consistent obj v s.fn.point = true ∧
    Spec.stateAt s.fn.point (names s.core.params) (values s.core.params) = true ∧ s.core.cur = v :=
  ⟨Spec.descent_iff.2 (hcur ▸ h.below), Spec.consistent_iff.2 (hcur ▸ h.cur), h.coord.sync.stateAt, hcur⟩

/-- `init` of `SimpleMultiDimensions` -/
theorem simple_init_spec (fuel : Nat) (s s1 : St (Fn ℝ) (Simple ℝ) ℝ) (params : PList ℝ)
    (hgood : Good params) (hn : Named params s.fn.point.length)
    (h : (simpleAlgo (Fn.iface obj D cap) fuel).init s params = .ok s1) :
    Multi.Inv obj (obj (matchPoint s.fn.point params)) s.fn.point.length (names params) s1 ∧
    s1.fn.point = matchPoint s.fn.point params :=
  multi_init_spec obj D cap _ rfl rfl s s1 params hgood hn (fun sa h => by
    obtain ⟨e, ⟨rfl, rfl⟩ | ⟨fn, hsp, rfl⟩⟩ := simpleDoInit_ok h
    · exact ⟨rfl, rfl⟩
    · exact ⟨rfl, (iface_set_point obj D cap _ _ _ hsp).trans (matchPoint_applyPolicy _ _ _)⟩) h

/-- `init` of `SimpleNewtonMultiDimensions` -/
theorem snewton_init_spec (fuel : Nat) (s s1 : St (Fn ℝ) (SNewton ℝ) ℝ) (params : PList ℝ)
    (hgood : Good params) (hn : Named params s.fn.point.length)
    (h : (snewtonAlgo (Fn.iface obj D cap) fuel).init s params = .ok s1) :
    Multi.Inv obj (obj (matchPoint s.fn.point params)) s.fn.point.length (names params) s1 ∧
    s1.fn.point = matchPoint s.fn.point params :=
  multi_init_spec obj D cap _ rfl rfl s s1 params hgood hn (fun sa h => by
    obtain ⟨e, ⟨rfl, rfl⟩ | ⟨fn, hsp, rfl⟩⟩ := snewtonDoInit_ok h
    · exact ⟨rfl, rfl⟩
    · exact ⟨rfl, (iface_set_point obj D cap _ _ _ hsp).trans (matchPoint_applyPolicy _ _ _)⟩) h

end Bpp.Optim
