import BppModel.RandGen
import BppProofs.Lemmas.RandRcont
import BppProofs.Lemmas.ScalarReal
/-! Lemmas for C18 about the generator state machine of `BppModel/RandGen.lean`.  `rcont2` on the
generator is the draw-taking `rcont2` on the values the walk chose (`rcont2G_eq`) and is total: for
every interpretation of the inverse-cdf walk that stops inside the support of the cell's conditional
hypergeometric law, the cell values drawn on the generator (`RandGen.genRow` / `genRows`) are accepted
by the integer book-keeping (`Rand.rowLoop` / `rowsLoop`): never `starved`, `unreachable`, `ub`
(`rcont2G_ok`).  Histories of calls (`run_append`, `run_length`), for reproducibility. -/
namespace Bpp.Rand
open Bpp Bpp.RandGen

theorem rcont2G_eq {σ α : Type} (P : Prims σ α) (rows cols : List Nat) (g : σ) :
    (rcont2G P rows cols g).1 = rcont2 rows cols
      (genRows P (↑rows.sum) (↑rows.sum) ((cols.map Int.ofNat).dropLast) ((rows.map Int.ofNat).dropLast) g).1 := by
  unfold rcont2G
  split
  · -- margins the constructor refuses are refused by both sides, whatever the values
    rename_i h
    simp only [Bool.or_eq_true, decide_eq_true_eq, bne_iff_ne, or_assoc] at h
    exact (rcont2With_refused startCell h _).symm
  · rfl

/-- the walk stops inside the support `max(0, ia+id-ie) ≤ v ≤ min(ia, id)` of the cell -/
def WalkInSupport {σ α : Type} (P : Prims σ α) : Prop :=
  ∀ (ntot ia id ie : Int) (g : σ), 0 ≤ ia → 0 ≤ id → 0 < ie → ia ≤ ie → id ≤ ie →
    0 ≤ (P.rcell ntot ia id ie g).1 ∧ ia + id - ie ≤ (P.rcell ntot ia id ie g).1 ∧
    (P.rcell ntot ia id ie g).1 ≤ ia ∧ (P.rcell ntot ia id ie g).1 ≤ id

variable {σ α : Type}

theorem rowLoop_genRow (P : Prims σ α) (hP : WalkInSupport P) (ntot : Int) :
    ∀ (jwork : List Int) (ia ic ib : Int) (g : σ),
    0 ≤ ia → (∀ x ∈ jwork, 0 ≤ x) → jwork.sum ≤ ic → ia ≤ ic → ic ≤ ntot →
    ∃ o, rowLoop startCell ntot ia ic ib jwork (genRow P ntot ia ic jwork g).1 = .ok o ∧
      o.jwork = (genRow P ntot ia ic jwork g).2.1
  | [], ia, ic, ib, g, _, _, _, _, _ => ⟨⟨[], [], ia, ib⟩, rfl, rfl⟩
  | id :: rest, ia, ic, ib, g, h0, hj, hs, hle, hn => by
    have hid : 0 ≤ id := hj id List.mem_cons_self
    have hrest : ∀ x ∈ rest, 0 ≤ x := fun x hx => hj x (List.mem_cons_of_mem _ hx)
    have hrs : 0 ≤ rest.sum := List.sum_nonneg hrest
    rw [List.sum_cons] at hs
    by_cases hie : ic = 0
    · refine ⟨⟨(id :: rest).map (fun _ => 0), id :: rest, 0, ic - ia⟩, ?_, ?_⟩
      · simp only [rowLoop, genRow, hie, if_true]
      · simp [genRow, hie]
    · have hiepos : 0 < ic := by omega
      have hde : id ≤ ic := by omega
      obtain ⟨v0, v1, v2, v3⟩ := hP ntot ia id ic g h0 hid hiepos hle hde
      have hf := factReadsOk_startCell h0 hid hiepos hle hde hn
      have hreach := (canReach_startCell h0 hid hiepos hle hde _).mpr ⟨v0, v1, v2, v3⟩
      obtain ⟨o', ho', hjw'⟩ := rowLoop_genRow P hP ntot rest (ia - (P.rcell ntot ia id ic g).1) (ic - id) (ic - ia)
        (P.rcell ntot ia id ic g).2 (by omega) hrest (by omega) (by omega) (by omega)
      refine ⟨⟨(P.rcell ntot ia id ic g).1 :: o'.cells, (id - (P.rcell ntot ia id ic g).1) :: o'.jwork, o'.ia, o'.ib⟩, ?_, ?_⟩
      · simp only [rowLoop, genRow, hie, if_false, hf, Bool.not_true, Bool.false_eq_true, hreach, ho']
      · simp only [genRow, hie, if_false, hjw']

theorem rowsLoop_genRows (P : Prims σ α) (hP : WalkInSupport P) (ntot : Int) :
    ∀ (rows : List Int) (jc ib : Int) (jwork : List Int) (g : σ),
    (∀ x ∈ jwork, 0 ≤ x) → (∀ r ∈ rows, 0 ≤ r) → jwork.sum ≤ jc → rows.sum ≤ jc → jc ≤ ntot →
    ∃ t, rowsLoop startCell ntot jc ib jwork rows (genRows P ntot jc jwork rows g).1 = .ok t
  | [], jc, ib, jwork, g, _, _, _, _, _ => ⟨⟨[], jwork, ib⟩, rfl⟩
  | ia :: rest, jc, ib, jwork, g, hj, hr, hs, hrs, hn => by
    have hia : 0 ≤ ia := hr ia List.mem_cons_self
    have hrest : ∀ r ∈ rest, 0 ≤ r := fun x hx => hr x (List.mem_cons_of_mem _ hx)
    have hrest0 : 0 ≤ rest.sum := List.sum_nonneg hrest
    rw [List.sum_cons] at hrs
    obtain ⟨o, ho, hjw⟩ := rowLoop_genRow P hP ntot jwork ia jc ib g hia hj hs (by omega) hn
    have sp := rowLoop_spec ho hia hj hs (by omega) hn
    have hsj := sp.sumJ
    have hrsum := sp.rowSum
    have hile := sp.iaLe
    obtain ⟨t, ht⟩ := rowsLoop_genRows P hP ntot rest (jc - ia) o.ib o.jwork (genRow P ntot ia jc jwork g).2.2
      sp.jworkNonneg hrest (by omega) (by omega) (by omega)
    refine ⟨⟨(o.cells ++ [o.ia]) :: t.rows, t.jwork, t.ib⟩, ?_⟩
    simp only [rowsLoop, genRows, List.headD_cons, List.tail_cons, ho]
    rw [← hjw, ht]

/-- `rcont2` on the generator returns a table for all valid margins -/
theorem rcont2G_ok (P : Prims σ α) (hP : WalkInSupport P) (rows cols : List Nat) (g : σ)
    (h2r : 2 ≤ rows.length) (h2c : 2 ≤ cols.length) (hsum : rows.sum = cols.sum) :
    ∃ T, (rcont2G P rows cols g).1 = .ok T := by
  obtain ⟨rl, _, hrl, _, hrn, hrsum, _⟩ := margin_split h2r
  obtain ⟨cl, _, hcl, _, hcn, hcsum, _⟩ := margin_split h2c
  have hcs : ((cols.sum : Nat) : Int) = ((rows.sum : Nat) : Int) := by rw [hsum]
  obtain ⟨t, ht⟩ := rowsLoop_genRows P hP (↑rows.sum) (rows.map Int.ofNat).dropLast (↑rows.sum) 0
    (cols.map Int.ofNat).dropLast g hcn hrn (by omega) (by omega) (le_refl _)
  exact ⟨_, by rw [rcont2G_eq P rows cols g, rcont2, rcont2With_accepted startCell h2r h2c hsum, ht]; rfl⟩

/-- the walk that always stops at its starting value (a trivial interpretation, for existence) -/
def startWalk : Prims Unit Rat where
  seed := fun _ => ()
  uInt := fun _ g => (0, g)
  uReal := fun _ g => (0, g)
  coin := fun _ g => (false, g)
  normal := fun m _ g => (m, g)
  gamma := fun a _ g => (a, g)
  expo := fun r g => (r, g)
  shuffle := fun n g => (List.range n, g)
  qBeta := fun u _ _ => u
  rcell := fun _ ia id ie g => (startCell ia id ie, g)

theorem startWalk_inSupport : WalkInSupport startWalk := by
  intro ntot ia id ie g ha hd hie hae hde
  exact startCell_bound ha hd hie hae hde

end Bpp.Rand

namespace Bpp.C18
open Bpp Bpp.Rand Bpp.RandGen

variable {σ α : Type} [Scalar α]

theorem run_append (P : Prims σ α) (h1 h2 : List (Call α)) (g : σ) :
    run P (h1 ++ h2) g = ((run P h1 g).1 ++ (run P h2 (run P h1 g).2).1, (run P h2 (run P h1 g).2).2) := by
  induction h1 generalizing g with
  | nil => simp [run]
  | cons c cs ih => simp only [List.cons_append, run, ih]

theorem run_length (P : Prims σ α) : ∀ (l : List (Call α)) (g : σ), (run P l g).1.length = l.length
  | [], _ => rfl
  | c :: cs, g => by simp [run, run_length P cs]

end Bpp.C18
