import BppProofs.Lemmas.OptimPolicy
import BppModel.OptimLine
import BppModel.OptimMulti
/-!
Helper lemmas for C10: the evaluation budget in terms of the *calls of the objective*.

* `optimize_calls`: template lemma.  For every optimiser whose `doStep` makes at most one call more than
  it adds to the counter `nbEval_` (the `for` loop of `optimize` adds the missing one), when the last step
  of `optimize` begins the number of calls made since `optimize` began is below the counter, hence below
  `nbEvalMax_`.
* `Counts I calls`: every `f` / `setParameters` of the function object `I` — returning normally or
  throwing — makes exactly one call (`calls` goes up by one).  `objective_counts`: the objective of the
  harness with `calls fn = fn.log.length`.
* `dirFn_counts_safe`: a `DirectionFunction` around such a function keeps
  `calls df.inner = L0 + df.nbEval` (its counter is exact), whence `lineMinimization_calls` and
  `lineSearch_calls`: the figure `k` the two searches return is the number of calls they made.
* `Tally I R`: one pass over a `doStep` for any relation `R a b k` ("from the function `a` to the function
  `b`, `k` calls") that `f`, `setParameters` and the two searches establish (`powellDoStep_tally`,
  `cgDoStep_tally`, `bfgsDoStep_tally`); `tally_trivial` reads `powellAlgo_monotone`, `cgAlgo_monotone`,
  `bfgsAlgo_monotone` off it, `tally_counts` the count: `powellDoStep_calls`, `cgDoStep_calls`,
  `bfgsDoStep_calls` — a step makes exactly one call more than it adds to the counter.

The optimisers that are not built on a search along a direction (golden section, Brent, Newton backtracking,
downhill simplex), through the same `Tally`: with `R := fun _ _ _ => True` the simplex lemma gives
`simplexAlgo_monotone` (every scalar type, every function object; those of the other three are in
`OptimSteps.lean`), with `R a b k := calls b = calls a + k` the count.

* `gssDoStep_tally`: one call, the counter goes up by one (the loop's own increment comes on top: the
  golden section search counts two per step);
* `brentDoStep_tally`, `nbackDoStep_tally`: one call, the counter is not touched (the loop's own
  increment pays for it: the counter is exact);
* `simplexDoStep_tally`: `k` calls, the counter goes up by `k + j` (`j = nDim` after a contraction of
  the whole simplex, 0 otherwise);
* `gssOptimize_calls`, `brentOptimize_calls`, `simplexOptimize_calls`: the redefinitions of `optimize`
  make exactly one call after the template's loop;
* `optimize_two_steps`: a run of `optimize` that makes exactly two steps, unfolded;
* `Newton1dExample`: the data of the run of `NewtonOneDimension` that exceeds its cap
  (known finding C10-counter-undercount), in exact `Rat` arithmetic (`check_true`, by the kernel);
* `oneP_*`, `newtonCorrect_reject/accept`, `newton_step_one`, `Newton1dReal.run`: the same run over `ℝ`.
-/
set_option linter.unusedSectionVars false
namespace Bpp.Optim
open Bpp

/-! ### the template -/

section template
variable {α : Type} [Scalar α] {F τ : Type}

/-- **template lemma of the budget in calls.**  `calls fn` is the number of calls the function object
has received.  If a `doStep` makes at most one call more than it adds to the counter, and the stop
condition touches neither the counter nor the function, then when `optimize` returns either no step was
made (and the function is the one `optimize` was given), or there is a last step, begun in a state `sb`
in which the guard of the loop held, the cap was the one of the beginning, and the calls made since
`optimize` began are fewer than the counter (the invariant of the loop:
`calls u.fn + 1 ≤ calls s.fn + u.core.nbEval`, true at the start where the counter is 1) — hence fewer
than the cap. -/
theorem optimize_calls (A : Algo F τ α) (calls : F → Nat) (hm : Monotone A)
    (hcount : ∀ s s' v, A.doStep s = .ok (s', v) → calls s'.fn + s.core.nbEval ≤ calls s.fn + s'.core.nbEval + 1)
    (hstopfn : ∀ s, (A.stop s).1.fn = s.fn)
    (s s' : St F τ α) (v : α) (fuel : Nat) (h : A.optimize fuel s = .ok (s', v)) :
    (s'.fn = s.fn ∧ s'.core.nbEval = 1) ∨
    ∃ sb sa w, Guard sb ∧ sb.core.nbEvalMax = s.core.nbEvalMax ∧ A.step sb = .ok (sa, w) ∧ s' = bump sa ∧
      calls sb.fn + 1 ≤ calls s.fn + sb.core.nbEval ∧
      calls sb.fn - calls s.fn < s.core.nbEvalMax ∧
      Spec.budgetCalls s.core.nbEvalMax (calls sb.fn - calls s.fn) = true := by
  obtain ⟨hl, -⟩ := optimize_ok h
  have key := (loop_last_step_inv_bump A
    (fun u => u.core.nbEvalMax = s.core.nbEvalMax ∧ calls u.fn + 1 ≤ calls s.fn + u.core.nbEval)
    (fun u u' w hu _ hst => by
      obtain ⟨u1, hd, hfn⟩ := step_fn A hstopfn u hst
      have hnb := step_nbEval A hm u hst hd
      have hc := hcount u u1 w hd
      refine ⟨?_, ?_⟩
      · show u'.core.nbEvalMax = _
        rw [(step_counter A hm u hst).2]; exact hu.1
      · show calls u'.fn + 1 ≤ calls s.fn + (u'.core.nbEval + 1)
        rw [hfn, hnb]
        have := hu.2
        omega)
    fuel { s with core := { s.core with tol := false, nbEval := 1 } } s' ⟨rfl, Nat.le_refl _⟩ hl).2
  rcases key with rfl | ⟨sb, sa, w, hR, hg, hst, rfl⟩
  · exact Or.inl ⟨rfl, rfl⟩
  · right
    have hlt : sb.core.nbEval < s.core.nbEvalMax := by rw [← hR.1]; exact hg.1
    have h2 := hR.2
    have h3 : calls sb.fn - calls s.fn < s.core.nbEvalMax := by omega
    refine ⟨sb, sa, w, hg, hR.1, hst, rfl, h2, h3, ?_⟩
    unfold Spec.budgetCalls
    exact decide_eq_true (Nat.le_of_lt h3)

/-- **the counter is exact** when every `doStep` makes exactly one call more than it adds to the counter:
when `optimize` returns, `nbEval_` is the number of calls made since `optimize` began, plus one -/
theorem optimize_calls_exact (A : Algo F τ α) (calls : F → Nat) (hm : Monotone A)
    (hcount : ∀ s s' v, A.doStep s = .ok (s', v) → calls s'.fn + s.core.nbEval = calls s.fn + s'.core.nbEval + 1)
    (hstopfn : ∀ s, (A.stop s).1.fn = s.fn)
    (s s' : St F τ α) (v : α) (fuel : Nat) (h : A.optimize fuel s = .ok (s', v)) :
    calls s'.fn + 1 = calls s.fn + s'.core.nbEval := by
  obtain ⟨hl, -⟩ := optimize_ok h
  exact (loop_last_step_inv_bump A (fun u => calls u.fn + 1 = calls s.fn + u.core.nbEval)
    (fun u u' w hu _ hst => by
      obtain ⟨u1, hd, hfn⟩ := step_fn A hstopfn u hst
      have hnb := step_nbEval A hm u hst hd
      have hc := hcount u u1 w hd
      show calls u'.fn + 1 = calls s.fn + (u'.core.nbEval + 1)
      rw [hfn, hnb]
      omega)
    fuel { s with core := { s.core with tol := false, nbEval := 1 } } s' rfl hl).1

end template

/-! ### function objects that count their calls -/

variable {F : Type}

/-- every `f` and every `setParameters` of the function object is one call, whether it returns or
throws (the exception carries the function as the call left it) -/
structure Counts (I : FunI F ℝ) (calls : F → Nat) : Prop where
  f_ok : ∀ fn pl fn' v, I.f fn pl = .ok (fn', v) → calls fn' = calls fn + 1
  f_err : ∀ fn pl e fn', I.f fn pl = .error (e, fn') → calls fn' = calls fn + 1
  set_ok : ∀ fn pl fn', I.setParameters fn pl = .ok fn' → calls fn' = calls fn + 1
  set_err : ∀ fn pl e fn', I.setParameters fn pl = .error (e, fn') → calls fn' = calls fn + 1

/-- the objective of the harness logs every call, including the one at which it throws `cap` -/
theorem objective_counts (obj : List ℝ → ℝ) (D : Deriv ℝ) (cap : Option Nat) :
    Counts (Fn.iface obj D cap) (fun fn => fn.log.length) :=
  ⟨fun fn pl _ _ h => (iface_f_cases obj D cap fn pl (fun f => f.log.length = fn.log.length + 1) rfl).of_ok h,
   fun fn pl _ _ h => (iface_f_cases obj D cap fn pl (fun f => f.log.length = fn.log.length + 1) rfl).of_error h,
   fun fn pl _ h => (iface_set_cases obj D cap fn pl (fun f => f.log.length = fn.log.length + 1) rfl).of_ok h,
   fun fn pl _ _ h => (iface_set_cases obj D cap fn pl (fun f => f.log.length = fn.log.length + 1) rfl).of_error h⟩

variable {I : FunI F ℝ} {calls : F → Nat}

/-- the counter of a `DirectionFunction` is exact: `L0` calls had been made when it was initialised -/
def DirCount (calls : F → Nat) (L0 : Nat) (df : DirFn F ℝ) : Prop := calls df.inner = L0 + df.nbEval

theorem dirFn_setParameters_count (hc : Counts I calls) (L0 : Nat) (df : DirFn F ℝ) (pl : PList ℝ)
    (hQ : DirCount calls L0 df) : ROk (DirCount calls L0) (DirCount calls L0) (df.setParameters I pl) := by
  have hQ : calls df.inner = L0 + df.nbEval := hQ
  unfold DirFn.setParameters
  dsimp only
  split
  · exact hQ
  · split
    · exact hQ
    · rename_i xt' _
      split
      · rename_i e fn hs
        show calls fn = L0 + (df.nbEval + 1)
        rw [hc.set_err _ _ _ _ hs, hQ]; omega
      · rename_i fn hs
        show calls fn = L0 + (df.nbEval + 1)
        rw [hc.set_ok _ _ _ hs, hQ]; omega

/-- **the counter of a `DirectionFunction` is exact**, whatever the lists it is given -/
theorem dirFn_counts_safe (hc : Counts I calls) (L0 : Nat) :
    Safe (DirFn.iface I) (DirCount calls L0) (fun _ => True) :=
  dirfn_safe_of_set (dirFn_setParameters_count hc L0)

/-! ### the two searches along a direction -/

theorem dirCount_init (fn : F) (pol : Policy) (p : PList ℝ) (xi : List ℝ) :
    DirCount calls (calls fn) (DirFn.init fn pol p xi) := by
  show calls fn = calls fn + 0
  rfl

/-- a `DirectionFunction` whose counter is exact wraps a function that has received at least the calls made
before it was initialised -/
theorem DirCount.le {L0 : Nat} {df : DirFn F ℝ} (h : DirCount calls L0 df) : L0 ≤ calls df.inner :=
  h ▸ Nat.le_add_right _ _

/-- **`lineMinimization` counts exactly**: the figure it returns is the number of calls it made; an
exception carries a function that has received at least the calls made before -/
theorem lineMinimization_count (hc : Counts I calls) (fuel : Nat) (fn : F) (parameters : PList ℝ) (xi : List ℝ) :
    ROk (fun fn' => calls fn ≤ calls fn') (fun r => calls r.1 = calls fn + r.2.2.2)
      (lineMinimization I fuel fn parameters xi) :=
  (lineMinimization_run (dirFn_counts_safe hc (calls fn)) fuel fn parameters xi (dirCount_init fn .auto parameters xi)).mono
    (fun _ ⟨_, h, e⟩ => e ▸ DirCount.le h) fun _ ⟨_, _, h, e, ek, _⟩ => e ▸ ek ▸ h

theorem lineMinimization_calls (hc : Counts I calls) {fuel : Nat} {fn fn' : F} {parameters pl : PList ℝ} {xi xi' : List ℝ}
    {k : Nat} (h : lineMinimization I fuel fn parameters xi = .ok (fn', pl, xi', k)) : calls fn' = calls fn + k :=
  (lineMinimization_count hc fuel fn parameters xi).of_ok h

theorem lineMinimization_calls_error (hc : Counts I calls) {fuel : Nat} {fn fn' : F} {parameters : PList ℝ} {xi : List ℝ}
    {e : Exc} (h : lineMinimization I fuel fn parameters xi = .error (e, fn')) : calls fn ≤ calls fn' :=
  (lineMinimization_count hc fuel fn parameters xi).of_error h

/-- **`lineSearch` counts exactly** -/
theorem lineSearch_count (hc : Counts I calls) (fuel : Nat) (fn : F) (parameters : PList ℝ) (xi gradient : List ℝ) :
    ROk (fun fn' => calls fn ≤ calls fn') (fun r => calls r.1 = calls fn + r.2.2.2)
      (lineSearch I fuel fn parameters xi gradient) :=
  (lineSearch_run (dirFn_counts_safe hc (calls fn)) fuel fn parameters xi gradient (dirCount_init fn .auto parameters xi)).mono
    (fun _ ⟨_, h, e⟩ => e ▸ DirCount.le h) fun _ ⟨_, _, h, e, ek, _⟩ => e ▸ ek ▸ h

theorem lineSearch_calls (hc : Counts I calls) {fuel : Nat} {fn fn' : F} {parameters pl : PList ℝ} {xi xi' gradient : List ℝ}
    {k : Nat} (h : lineSearch I fuel fn parameters xi gradient = .ok (fn', pl, xi', k)) : calls fn' = calls fn + k :=
  (lineSearch_count hc fuel fn parameters xi gradient).of_ok h

theorem lineSearch_calls_error (hc : Counts I calls) {fuel : Nat} {fn fn' : F} {parameters : PList ℝ} {xi gradient : List ℝ}
    {e : Exc} (h : lineSearch I fuel fn parameters xi gradient = .error (e, fn')) : calls fn ≤ calls fn' :=
  (lineSearch_count hc fuel fn parameters xi gradient).of_error h

/-! ### Powell, conjugate gradient, BFGS: what a step does to the function and to the counter

One pass over each `doStep` serves twice.  `R a b k` reads "from the function `a` to the function `b`,
`k` calls were made": with `R := fun _ _ _ => True` the lemmas give `Monotone` (for every scalar type and
every function object), with `R a b k := calls b = calls a + k` they give the count. -/

section tally
variable {α : Type} [Scalar α] {G : Type}

structure Tally (I : FunI G α) (R : G → G → Nat → Prop) : Prop where
  refl : ∀ a, R a a 0
  trans : ∀ a b c j k, R a b j → R b c k → R a c (j + k)
  f_ok : ∀ fn pl fn' v, I.f fn pl = .ok (fn', v) → R fn fn' 1
  set_ok : ∀ fn pl fn', I.setParameters fn pl = .ok fn' → R fn fn' 1
  lineMin : ∀ fuel fn p xi fn' pl xi' k, lineMinimization I fuel fn p xi = .ok (fn', pl, xi', k) → R fn fn' k
  lineSrch : ∀ fuel fn p xi g fn' pl xi' k, lineSearch I fuel fn p xi g = .ok (fn', pl, xi', k) → R fn fn' k

theorem tally_trivial (I : FunI G α) : Tally I (fun _ _ _ => True) :=
  ⟨fun _ => trivial, fun _ _ _ _ _ _ _ => trivial, fun _ _ _ _ _ => trivial, fun _ _ _ _ => trivial,
   fun _ _ _ _ _ _ _ _ _ => trivial, fun _ _ _ _ _ _ _ _ _ _ => trivial⟩

variable {I : FunI G α} {R : G → G → Nat → Prop}

theorem Tally.cast (_ht : Tally I R) {a b : G} {j k : Nat} (h : R a b j) (e : j = k) : R a b k := e ▸ h

theorem powellDirs_tally (ht : Tally I R) (fuel : Nat) : ∀ (is : List Nat) (s : St G (Powell α) α) (del : α) (ibig : Nat)
    (s' : St G (Powell α) α) (del' : α) (ibig' : Nat), powellDirs I fuel is s del ibig = .ok (s', del', ibig') →
    ∃ k, R s.fn s'.fn k ∧ s'.core.nbEval = s.core.nbEval + k ∧ s'.core.nbEvalMax = s.core.nbEvalMax := by
  intro is
  induction is with
  | nil =>
    intro s del ibig s' del' ibig' h
    rw [powellDirs] at h
    cases h
    exact ⟨0, ht.refl _, rfl, rfl⟩
  | cons i r ih =>
    intro s del ibig s' del' ibig' h
    obtain ⟨xit, fn, pl, xi', k, fn2, fret, del1, ibig1, hlm, hf, hr⟩ := powellDirs_cons_ok h
    obtain ⟨k2, hR, hnb, hmax⟩ := ih _ _ _ _ _ _ hr
    exact ⟨k + 1 + k2, ht.trans _ _ _ _ _ (ht.trans _ _ _ _ _ (ht.lineMin _ _ _ _ _ _ _ _ hlm) (ht.f_ok _ _ _ _ hf)) hR,
      hnb.trans (by show s.core.nbEval + k + 1 + k2 = _; omega), hmax⟩

/-- a step of Powell's method: `k + 1` calls are made, `k` are added to the counter (the one that is
not counted is the evaluation at the extrapolated point `ptt`) -/
theorem powellDoStep_tally (ht : Tally I R) (fuel : Nat) (s s' : St G (Powell α) α) (v : α)
    (h : powellDoStep I fuel s = .ok (s', v)) :
    ∃ k, R s.fn s'.fn (k + 1) ∧ s'.core.nbEval = s.core.nbEval + k ∧ s'.core.nbEvalMax = s.core.nbEvalMax := by
  obtain ⟨sd, del, ibig, ptt, xit, pt', fn3, fptt, hd, -, hf, hor⟩ := powellDoStep_ok h
  obtain ⟨k1, hR1, hnb1, hmax1⟩ := powellDirs_tally ht fuel _ _ _ _ _ _ _ hd
  have hnb1 : sd.core.nbEval = s.core.nbEval + k1 := hnb1
  have h2 := ht.trans _ _ _ _ _ hR1 (ht.f_ok _ _ _ _ hf)
  rcases hor with ⟨fn4, pl, xit', k, fn5, xi, hl, hf2, rfl⟩ | ⟨fn4, hsp, -, rfl⟩
  · exact ⟨k1 + k + 1, ht.cast (ht.trans _ _ _ _ _ (ht.trans _ _ _ _ _ h2 (ht.lineMin _ _ _ _ _ _ _ _ hl))
      (ht.f_ok _ _ _ _ hf2)) (by omega), by show sd.core.nbEval + k + 1 = _; omega, hmax1⟩
  · exact ⟨k1 + 1, ht.cast (ht.trans _ _ _ _ _ h2 (ht.set_ok _ _ _ hsp)) (by omega),
      by show sd.core.nbEval + 1 = _; omega, hmax1⟩

/-- a step of the conjugate gradient method: the line minimisation (counted) and one evaluation more -/
theorem cgDoStep_tally (ht : Tally I R) (fuel : Nat) (s s' : St G (Cg α) α) (v : α)
    (h : cgDoStep I fuel s = .ok (s', v)) :
    ∃ k, R s.fn s'.fn (k + 1) ∧ s'.core.nbEval = s.core.nbEval + k ∧ s'.core.nbEvalMax = s.core.nbEvalMax := by
  obtain ⟨fn1, pl, xi', k, fn, hl, hf, g, rfl⟩ := cgDoStep_ok h
  exact ⟨k, ht.trans _ _ _ _ _ (ht.lineMin _ _ _ _ _ _ _ _ hl) (ht.f_ok _ _ _ _ hf), rfl, rfl⟩

/-- a step of the BFGS method: the line search (counted) and one evaluation more; when the function has
increased, a further evaluation back at the point the step started from, which is counted -/
theorem bfgsDoStep_tally (ht : Tally I R) (fuel : Nat) (s s' : St G (Bfgs α) α) (v : α)
    (h : bfgsDoStep I fuel s = .ok (s', v)) :
    ∃ k, R s.fn s'.fn (k + 1) ∧ s'.core.nbEval = s.core.nbEval + k ∧ s'.core.nbEvalMax = s.core.nbEvalMax := by
  obtain ⟨xi, gr, fn1, pl, xi', k, fn2, f, hl, hf, g, hor⟩ := bfgsDoStep_ok h
  have hR := ht.trans _ _ _ _ _ (ht.lineSrch _ _ _ _ _ _ _ _ _ hl) (ht.f_ok _ _ _ _ hf)
  rcases hor with ⟨-, -, rfl⟩ | ⟨-, pl0, fn3, -, hf0, rfl⟩
  · exact ⟨k, hR, rfl, rfl⟩
  · exact ⟨k + 1, ht.trans _ _ _ _ _ hR (ht.f_ok _ _ _ _ hf0), rfl, rfl⟩

/-! #### `Monotone`: for every scalar type and every function object -/

theorem powellAlgo_monotone (I : FunI G α) (fuel : Nat) : Monotone (powellAlgo I fuel) :=
  ⟨fun s s' v h => by
      obtain ⟨k, -, hnb, hmax⟩ := powellDoStep_tally (tally_trivial I) fuel s s' v h
      exact ⟨by omega, hmax⟩,
   fun s => by show (powellStop s).1.core.nbEval = _ ∧ (powellStop s).1.core.nbEvalMax = _; rw [powellStop_fst]; exact ⟨rfl, rfl⟩⟩

theorem cgAlgo_monotone (I : FunI G α) (fuel : Nat) : Monotone (cgAlgo I fuel) :=
  ⟨fun s s' v h => by
      obtain ⟨k, -, hnb, hmax⟩ := cgDoStep_tally (tally_trivial I) fuel s s' v h
      exact ⟨by omega, hmax⟩,
   fun s => by show (fscStop s).1.core.nbEval = _ ∧ (fscStop s).1.core.nbEvalMax = _; rw [fscStop_fst]; exact ⟨rfl, rfl⟩⟩

theorem bfgsAlgo_monotone (I : FunI G α) (fuel : Nat) : Monotone (bfgsAlgo I fuel) :=
  ⟨fun s s' v h => by
      obtain ⟨k, -, hnb, hmax⟩ := bfgsDoStep_tally (tally_trivial I) fuel s s' v h
      exact ⟨by omega, hmax⟩,
   fun s => by show (fscStop s).1.core.nbEval = _ ∧ (fscStop s).1.core.nbEvalMax = _; rw [fscStop_fst]; exact ⟨rfl, rfl⟩⟩

end tally

/-! #### the count: a step makes exactly one call more than it adds to the counter -/

theorem tally_counts (hc : Counts I calls) : Tally I (fun a b k => calls b = calls a + k) :=
  ⟨fun _ => rfl, fun a b c j k h1 h2 => by rw [h2, h1]; omega,
   fun fn pl fn' v h => hc.f_ok fn pl fn' v h, fun fn pl fn' h => hc.set_ok fn pl fn' h,
   fun _ _ _ _ _ _ _ _ h => lineMinimization_calls hc h, fun _ _ _ _ _ _ _ _ _ h => lineSearch_calls hc h⟩

/-- Powell: the call that is not counted is the evaluation at the extrapolated point `ptt` -/
theorem powellDoStep_calls (hc : Counts I calls) (fuel : Nat) (s s' : St F (Powell ℝ) ℝ) (v : ℝ)
    (h : powellDoStep I fuel s = .ok (s', v)) :
    calls s'.fn + s.core.nbEval = calls s.fn + s'.core.nbEval + 1 := by
  obtain ⟨k, hR, hnb, -⟩ := powellDoStep_tally (tally_counts hc) fuel s s' v h
  have hR' : calls s'.fn = calls s.fn + (k + 1) := hR
  omega

/-- conjugate gradient: the call that is not counted is the evaluation after the line minimisation -/
theorem cgDoStep_calls (hc : Counts I calls) (fuel : Nat) (s s' : St F (Cg ℝ) ℝ) (v : ℝ)
    (h : cgDoStep I fuel s = .ok (s', v)) :
    calls s'.fn + s.core.nbEval = calls s.fn + s'.core.nbEval + 1 := by
  obtain ⟨k, hR, hnb, -⟩ := cgDoStep_tally (tally_counts hc) fuel s s' v h
  have hR' : calls s'.fn = calls s.fn + (k + 1) := hR
  omega

/-- BFGS: the call that is not counted is the evaluation after the line search -/
theorem bfgsDoStep_calls (hc : Counts I calls) (fuel : Nat) (s s' : St F (Bfgs ℝ) ℝ) (v : ℝ)
    (h : bfgsDoStep I fuel s = .ok (s', v)) :
    calls s'.fn + s.core.nbEval = calls s.fn + s'.core.nbEval + 1 := by
  obtain ⟨k, hR, hnb, -⟩ := bfgsDoStep_tally (tally_counts hc) fuel s s' v h
  have hR' : calls s'.fn = calls s.fn + (k + 1) := hR
  omega

/-- `PowellMultiDimensions::optimize` makes exactly one call after the template's loop -/
theorem powellOptimize_calls (hc : Counts I calls) (fuel : Nat) (s s' : St F (Powell ℝ) ℝ) (v : ℝ)
    (h : powellOptimize I fuel s = .ok (s', v)) :
    ∃ s1 v1, (powellAlgo I fuel).optimize fuel s = .ok (s1, v1) ∧ calls s'.fn = calls s1.fn + 1 ∧ s'.core = s1.core := by
  obtain ⟨s1, v1, fn, ho, hf, rfl⟩ := powellOptimize_ok h
  exact ⟨s1, v1, ho, hc.f_ok _ _ _ _ hf, rfl⟩

/-! ### on the objective of the harness: the calls are the length of the log -/

section objective
variable (obj : List ℝ → ℝ) (D : Deriv ℝ) (cap : Option Nat)

/-- a `DirectionFunction` around the objective: `inner.log.length = L0 + nbEval` is kept by every
`f` / `setParameters`, in the error branches too (the function a `cap` exception carries has logged the
point) -/
theorem objective_dirFn_safe (L0 : Nat) :
    Safe (DirFn.iface (Fn.iface obj D cap)) (fun df => df.inner.log.length = L0 + df.nbEval) (fun _ => True) :=
  dirFn_counts_safe (objective_counts obj D cap) L0

theorem lineMinimization_log {fuel : Nat} {fn fn' : Fn ℝ} {parameters pl : PList ℝ} {xi xi' : List ℝ} {k : Nat}
    (h : lineMinimization (Fn.iface obj D cap) fuel fn parameters xi = .ok (fn', pl, xi', k)) :
    fn'.log.length = fn.log.length + k :=
  lineMinimization_calls (objective_counts obj D cap) h

theorem lineMinimization_log_error {fuel : Nat} {fn fn' : Fn ℝ} {parameters : PList ℝ} {xi : List ℝ} {e : Exc}
    (h : lineMinimization (Fn.iface obj D cap) fuel fn parameters xi = .error (e, fn')) :
    fn.log.length ≤ fn'.log.length :=
  lineMinimization_calls_error (objective_counts obj D cap) h

theorem lineSearch_log {fuel : Nat} {fn fn' : Fn ℝ} {parameters pl : PList ℝ} {xi xi' gradient : List ℝ} {k : Nat}
    (h : lineSearch (Fn.iface obj D cap) fuel fn parameters xi gradient = .ok (fn', pl, xi', k)) :
    fn'.log.length = fn.log.length + k :=
  lineSearch_calls (objective_counts obj D cap) h

theorem lineSearch_log_error {fuel : Nat} {fn fn' : Fn ℝ} {parameters : PList ℝ} {xi gradient : List ℝ} {e : Exc}
    (h : lineSearch (Fn.iface obj D cap) fuel fn parameters xi gradient = .error (e, fn')) :
    fn.log.length ≤ fn'.log.length :=
  lineSearch_calls_error (objective_counts obj D cap) h

end objective

/-! ### the optimisers that are not built on a search along a direction -/

section tally
variable {α : Type} [Scalar α] {G : Type} {I : FunI G α} {R : G → G → Nat → Prop}

/-! ### golden section, Brent, Newton backtracking -/

/-- a step of the golden section search: one call, and the counter goes up by one -/
theorem gssDoStep_tally (ht : Tally I R) (s s' : St G (Gss α) α) (v : α) (h : gssDoStep I s = .ok (s', v)) :
    R s.fn s'.fn 1 ∧ s'.core.nbEval = s.core.nbEval + 1 ∧ s'.core.nbEvalMax = s.core.nbEvalMax := by
  obtain ⟨g, x, pl, fn, c, t, -, hf, -, rfl⟩ := gssDoStep_ok h
  exact ⟨ht.f_ok _ _ _ _ hf, rfl, rfl⟩

/-- a step of Brent's method: one call, the counter is not touched -/
theorem brentDoStep_tally (ht : Tally I R) (s s' : St G (Brent α) α) (v : α) (h : brentDoStep I s = .ok (s', v)) :
    R s.fn s'.fn 1 ∧ s'.core.nbEval = s.core.nbEval ∧ s'.core.nbEvalMax = s.core.nbEvalMax := by
  obtain ⟨g1, u, pl, fn, fu, pl', -, -, hf, -, rfl, -⟩ := brentDoStep_ok h
  exact ⟨ht.f_ok _ _ _ _ hf, rfl, rfl⟩

/-- a step of the Newton backtracking search: one call, the counter is not touched -/
theorem nbackDoStep_tally (ht : Tally I R) (s s' : St G (NBack α) α) (v : α) (h : nbackDoStep I s = .ok (s', v)) :
    R s.fn s'.fn 1 ∧ s'.core.nbEval = s.core.nbEval ∧ s'.core.nbEvalMax = s.core.nbEvalMax := by
  obtain ⟨x, fn, pl, g, t, he, rfl, -⟩ := nbackDoStep_ok h
  exact ⟨ht.f_ok _ _ _ _ (eval0_ok.1 he).2, rfl, rfl⟩

/-! ### downhill simplex -/

/-- `tryExtrapolation`: one call, counted -/
theorem tryExtrapolation_tally (ht : Tally I R) {s s' : St G (Simplex α) α} {fac v : α}
    (h : tryExtrapolation I s fac = .ok (s', v)) :
    R s.fn s'.fn 1 ∧ s'.core.nbEval = s.core.nbEval + 1 ∧ s'.core.nbEvalMax = s.core.nbEvalMax := by
  obtain ⟨hi, yHi, want, pTry, fn, -, -, -, hf, ⟨-, rfl⟩ | ⟨-, sums, ps, hi', -, -, rfl⟩⟩ := tryExtrapolation_ok h <;>
    exact ⟨ht.f_ok _ _ _ _ hf, rfl, rfl⟩

/-- the contraction of the whole simplex: every call is counted -/
theorem shrinkAll_tally (ht : Tally I R) : ∀ (is : List Nat) (s s' : St G (Simplex α) α),
    shrinkAll I is s = .ok s' →
    ∃ k, R s.fn s'.fn k ∧ s'.core.nbEval = s.core.nbEval + k ∧ s'.core.nbEvalMax = s.core.nbEvalMax := by
  intro is
  induction is with
  | nil => intro s s' h; rw [shrinkAll] at h; cases h; exact ⟨0, ht.refl _, rfl, rfl⟩
  | cons i r ih =>
    intro s s' h
    rcases shrinkAll_cons_ok h with ⟨-, h⟩ | ⟨-, vi, lo, ps, vi', fn, yi, -, -, -, -, hf, h⟩
    · exact ih _ _ h
    · obtain ⟨k, hR, hnb, hmax⟩ := ih _ _ h
      exact ⟨1 + k, ht.trans _ _ _ _ _ (ht.f_ok _ _ _ _ hf) hR, hnb.trans (by show s.core.nbEval + 1 + k = _; omega), hmax⟩

theorem simplexReport_keeps {s s' : St G (Simplex α) α} {iL : Nat} {v : α} (h : simplexReport s iL = (s', v)) :
    s'.fn = s.fn ∧ s'.core.nbEval = s.core.nbEval ∧ s'.core.nbEvalMax = s.core.nbEvalMax := by
  unfold simplexReport at h
  split at h <;> (cases h; exact ⟨rfl, rfl, rfl⟩)

/-- a step of the downhill simplex method: `k` calls are made, `k + j` are added to the counter (every
evaluation is counted when it is made; a contraction of the whole simplex adds `nDim` on top) -/
theorem simplexDoStep_tally (ht : Tally I R) (s s' : St G (Simplex α) α) (v : α) (h : simplexDoStep I s = .ok (s', v)) :
    ∃ k j, R s.fn s'.fn k ∧ s'.core.nbEval = s.core.nbEval + k + j ∧ s'.core.nbEvalMax = s.core.nbEvalMax := by
  obtain ⟨y0, y1, v0, iH, iN, iL, best, s1, yT1, sf, -, -, -, -, -, ht1, hrep, hor⟩ := simplexDoStep_ok h
  obtain ⟨hk1, hk2, hk3⟩ := simplexReport_keeps hrep
  obtain ⟨hR1, hnb1, hmax1⟩ := tryExtrapolation_tally ht ht1
  have hnb1 : s1.core.nbEval = s.core.nbEval + 1 := hnb1
  have hmax1 : s1.core.nbEvalMax = s.core.nbEvalMax := hmax1
  rw [hk1, hk2, hk3]
  rcases hor with rfl | ⟨fac, yT2, ht2⟩ | ⟨fac, s2, yT2, s3, ps, ht2, hsh, -, rfl⟩
  · exact ⟨1, 0, hR1, hnb1, hmax1⟩
  · obtain ⟨hR2, hnb2, hmax2⟩ := tryExtrapolation_tally ht ht2
    exact ⟨2, 0, ht.trans _ _ _ _ _ hR1 hR2, by omega, hmax2.trans hmax1⟩
  · obtain ⟨hR2, hnb2, hmax2⟩ := tryExtrapolation_tally ht ht2
    obtain ⟨k, hR3, hnb3, hmax3⟩ := shrinkAll_tally ht _ _ _ hsh
    exact ⟨2 + k, v0.length, ht.trans _ _ _ _ _ (ht.trans _ _ _ _ _ hR1 hR2) hR3,
      by show s3.core.nbEval + v0.length = _; omega, hmax3.trans (hmax2.trans hmax1)⟩

theorem simplexAlgo_monotone (I : FunI G α) : Monotone (simplexAlgo I) :=
  ⟨fun s s' v h => by
      obtain ⟨k, j, -, hnb, hmax⟩ := simplexDoStep_tally (tally_trivial I) s s' v h
      exact ⟨by omega, hmax⟩,
   fun _ => ⟨rfl, rfl⟩⟩

/-! ### a run of exactly two steps, unfolded -/

variable {τ : Type}

/-- `optimize` on an initialised optimiser: the guard holds at the start (`s0`: counter 1, flag down) and
after the first step, no longer after the second -/
theorem optimize_two_steps (A : Algo G τ α) (s sa sc : St G τ α) (w1 w2 : α) (hi : s.core.initialized = true)
    (hg0 : Guard ({ s with core := { s.core with tol := false, nbEval := 1 } } : St G τ α))
    (h1 : A.step { s with core := { s.core with tol := false, nbEval := 1 } } = .ok (sa, w1))
    (hg1 : Guard (bump sa)) (h2 : A.step (bump sa) = .ok (sc, w2)) (hg2 : ¬ Guard (bump sc)) (k : Nat) :
    A.optimize (k + 2) s = .ok (bump sc, (bump sc).core.cur) := by
  unfold Algo.optimize
  rw [hi]
  simp only [Bool.not_true, Bool.false_eq_true, if_false]
  rw [loop_succ, if_pos hg0, h1]
  dsimp only
  rw [loop_succ, if_pos hg1, h2]
  dsimp only
  rw [loop_of_not_guard A _ hg2]

end tally

/-! ### the count -/

/-- golden section: a step makes one call and counts it (the loop's increment comes on top) -/
theorem gssDoStep_calls (hc : Counts I calls) (s s' : St F (Gss ℝ) ℝ) (v : ℝ) (h : gssDoStep I s = .ok (s', v)) :
    calls s'.fn + s.core.nbEval = calls s.fn + s'.core.nbEval := by
  obtain ⟨hR, hnb, -⟩ := gssDoStep_tally (tally_counts hc) s s' v h
  have hR' : calls s'.fn = calls s.fn + 1 := hR
  omega

/-- Brent: a step makes one call and counts nothing -/
theorem brentDoStep_calls (hc : Counts I calls) (s s' : St F (Brent ℝ) ℝ) (v : ℝ) (h : brentDoStep I s = .ok (s', v)) :
    calls s'.fn + s.core.nbEval = calls s.fn + s'.core.nbEval + 1 := by
  obtain ⟨hR, hnb, -⟩ := brentDoStep_tally (tally_counts hc) s s' v h
  have hR' : calls s'.fn = calls s.fn + 1 := hR
  omega

/-- Newton backtracking: a step makes one call and counts nothing -/
theorem nbackDoStep_calls (hc : Counts I calls) (s s' : St F (NBack ℝ) ℝ) (v : ℝ) (h : nbackDoStep I s = .ok (s', v)) :
    calls s'.fn + s.core.nbEval = calls s.fn + s'.core.nbEval + 1 := by
  obtain ⟨hR, hnb, -⟩ := nbackDoStep_tally (tally_counts hc) s s' v h
  have hR' : calls s'.fn = calls s.fn + 1 := hR
  omega

/-- downhill simplex: a step counts every call it makes (and `nDim` more after a contraction) -/
theorem simplexDoStep_calls (hc : Counts I calls) (s s' : St F (Simplex ℝ) ℝ) (v : ℝ) (h : simplexDoStep I s = .ok (s', v)) :
    calls s'.fn + s.core.nbEval ≤ calls s.fn + s'.core.nbEval := by
  obtain ⟨k, j, hR, hnb, -⟩ := simplexDoStep_tally (tally_counts hc) s s' v h
  have hR' : calls s'.fn = calls s.fn + k := hR
  omega

/-- `GoldenSectionSearch::optimize` makes exactly one call after the template's loop -/
theorem gssOptimize_calls (hc : Counts I calls) (fuel : Nat) (s s' : St F (Gss ℝ) ℝ) (v : ℝ)
    (h : gssOptimize I fuel s = .ok (s', v)) :
    ∃ s1 v1, (gssAlgo I fuel).optimize fuel s = .ok (s1, v1) ∧ calls s'.fn = calls s1.fn + 1 ∧
      s'.core.nbEval = s1.core.nbEval ∧ s'.core.nbEvalMax = s1.core.nbEvalMax := by
  obtain ⟨s1, v1, sE, ho, he, rfl⟩ := gssOptimize_ok h
  obtain ⟨fn, pl, hq, rfl⟩ := evalOwn_ok he
  exact ⟨s1, v1, ho, hc.f_ok _ _ _ _ (eval0_ok.1 hq).2, rfl, rfl⟩

/-- `BrentOneDimension::optimize` makes exactly one call after the template's loop -/
theorem brentOptimize_calls (hc : Counts I calls) (fuel : Nat) (s s' : St F (Brent ℝ) ℝ) (v : ℝ)
    (h : brentOptimize I fuel s = .ok (s', v)) :
    ∃ s1 v1, (brentAlgo I fuel).optimize fuel s = .ok (s1, v1) ∧ calls s'.fn = calls s1.fn + 1 ∧
      s'.core.nbEval = s1.core.nbEval ∧ s'.core.nbEvalMax = s1.core.nbEvalMax := by
  obtain ⟨s1, v1, fn, ho, hf, rfl⟩ := brentOptimize_ok h
  exact ⟨s1, v1, ho, hc.f_ok _ _ _ _ hf, rfl, rfl⟩

/-- `DownhillSimplexMethod::optimize` makes exactly one call after the template's loop -/
theorem simplexOptimize_calls (hc : Counts I calls) (fuel : Nat) (s s' : St F (Simplex ℝ) ℝ) (v : ℝ)
    (h : simplexOptimize I fuel s = .ok (s', v)) :
    ∃ s1 v1, (simplexAlgo I).optimize fuel s = .ok (s1, v1) ∧ calls s'.fn = calls s1.fn + 1 ∧ s'.core = s1.core := by
  obtain ⟨s1, v1, best, fn, ho, -, hf, rfl⟩ := simplexOptimize_ok h
  exact ⟨s1, v1, ho, hc.f_ok _ _ _ _ hf, rfl⟩

/-! ### the run of `NewtonOneDimension` that exceeds its cap (known finding C10-counter-undercount)

The same program text at `Rat` (exact arithmetic; the transcendental functions of that instance are never
reached on this run): one free parameter at `3/5`, the double well `(x² - 1)²` with its true derivatives,
`nbEvalMax = 3`, `maxCorrection = 10`, tolerance 0.  At `3/5` the second derivative is small
(`12 x² - 4 = 8/25`), the Newton step `x - f'/f''` lands on `27/5` where the function is `≈ 793`; the
Felsenstein-Churchill loop halves the movement three times (`3`, `9/5`, `6/5`) before the value
(`121/625`) is below the one at the start (`256/625`).  Every correction is a `setParameters` (restore)
plus an evaluation, and none of them is counted: the first step makes `1 + 2·3 = 7` calls of the objective
and leaves the counter where it was; the loop's increment takes it to 2 `< 3`, so a second step begins
although the objective has been called 7 times since `optimize` began. -/
namespace Newton1dExample

def objective (pt : List Rat) : Rat :=
  (pt.getD 0 0 * pt.getD 0 0 - 1) * (pt.getD 0 0 * pt.getD 0 0 - 1)

def deriv : Deriv Rat :=
  { d1 := fun _ pt => 4 * pt.getD 0 0 * (pt.getD 0 0 * pt.getD 0 0 - 1),
    d2 := fun _ pt => 12 * pt.getD 0 0 * pt.getD 0 0 - 4 }

def params : PList Rat := [⟨0, ⟨3 / 5, 0, none, false⟩⟩]

/-- `NewtonOneDimension` with `setMaximumNumberOfEvaluations(3)`, on the function at `3/5` -/
def start : St (Fn Rat) (Newton1 Rat) Rat :=
  { core := freshCore 3 0 0, fn := ⟨[3 / 5], []⟩, ext := ⟨0, 10⟩ }

def algo : Algo (Fn Rat) (Newton1 Rat) Rat := newtonAlgo (Fn.iface objective deriv none)

/-- `init` returns (one call), the guard of the loop holds at the start of `optimize`, the first step
returns having made 7 calls without touching the counter, the guard holds again (counter 2, cap 3), the
second step returns, and the guard no longer holds -/
def check : Bool :=
  match algo.init start params with
  | .error _ => false
  | .ok s =>
    match algo.step { s with core := { s.core with tol := false, nbEval := 1 } } with
    | .error _ => false
    | .ok (sa, _) =>
      match algo.step (bump sa) with
      | .error _ => false
      | .ok (sc, _) =>
        s.core.initialized && decide (s.core.nbEvalMax = 3) && decide (s.fn.log.length = 1) &&
        decide (Guard ({ s with core := { s.core with tol := false, nbEval := 1 } } : St (Fn Rat) (Newton1 Rat) Rat)) &&
        decide (Guard (bump sa)) && decide ((bump sa).core.nbEval = 2) && decide ((bump sa).core.nbEvalMax = 3) &&
        decide ((bump sa).fn.log.length = 8) &&
        decide ((bump sa).fn.log = [[6 / 5], [3 / 5], [9 / 5], [3 / 5], [3], [3 / 5], [27 / 5], [3 / 5]]) &&
        !decide (Guard (bump sc))

theorem check_true : check = true := by decide +kernel

end Newton1dExample

/-! ### the same run over `ℝ`

The witness above is the program text at `Rat`; the theorems of `Props/C10Budget*.lean` are about the text
at `ℝ`.  Here the same run is computed at `ℝ`, step by step: on a function of one variable and a list of one
free parameter named 0 (`oneP x`), an evaluation, a restoration and a `setValue` are computed by `oneP_f`,
`oneP_set`, `oneP_setValueAt`; `newtonCorrect_reject` / `newtonCorrect_accept` unfold one turn of the
Felsenstein-Churchill loop; `newton_step_one` is the template's `step` (tolerance 0: the stop condition never
fires). -/

section one
variable (obj : List ℝ → ℝ) (D : Deriv ℝ)

/-- the list of one free parameter, named 0, holding `x` -/
def oneP (x : ℝ) : PList ℝ := [⟨0, ⟨x, 0, none, false⟩⟩]

theorem oneP_f (x y : ℝ) (log : List (List ℝ)) :
    (Fn.iface obj D none).f ⟨[y], log⟩ (oneP x) = .ok (⟨[x], [x] :: log⟩, obj [x]) := by
  by_cases h : x = y
  · subst h; simp [Fn.iface, capped, Fn.f, Fn.setParameters, matchPoint, own, oneP]
  · have : x - y ≠ 0 := sub_ne_zero.2 h
    simp [Fn.iface, capped, Fn.f, Fn.setParameters, matchPoint, own, oneP, this]

theorem oneP_set (x y : ℝ) (log : List (List ℝ)) :
    (Fn.iface obj D none).setParameters ⟨[y], log⟩ (oneP x) = .ok ⟨[x], [x] :: log⟩ := by
  by_cases h : x = y
  · subst h; simp [Fn.iface, capped, Fn.setParameters, matchPoint, own, oneP]
  · have : x - y ≠ 0 := sub_ne_zero.2 h
    simp [Fn.iface, capped, Fn.setParameters, matchPoint, own, oneP, this]

theorem oneP_get (y : ℝ) (log : List (List ℝ)) : (Fn.iface obj D none).getParameters ⟨[y], log⟩ = oneP y := by
  simp [Fn.iface, Fn.params, oneP, List.range, List.range.loop]

theorem oneP_setValueAt (x y : ℝ) : setValueAt (oneP y) 0 x = .ok (oneP x) := by
  rw [oneP, setValueAt, setValue_accepted _ x rfl (Param.accepts_none rfl _) (Param.accepts_none rfl _)]; rfl


/-- a rejected trial: the previous point is restored (one call), the movement is halved, the function is
evaluated there (one call) -/
theorem newtonCorrect_reject (cur x0 m nv y z : ℝ) (maxc fuel count : Nat) (log : List (List ℝ))
    (h : cur < nv) (hc : count + 1 < maxc) :
    newtonCorrect (Fn.iface obj D none) cur x0 (oneP x0) maxc (fuel + 1) count ⟨[y], log⟩ (oneP z) m nv =
    newtonCorrect (Fn.iface obj D none) cur x0 (oneP x0) maxc fuel (count + 1)
      ⟨[x0 - m / 2], [x0 - m / 2] :: [x0] :: log⟩ (oneP (x0 - m / 2)) (m / 2) (obj [x0 - m / 2]) := by
  rw [newtonCorrect]
  rw [if_pos ((ScalarReal.gtb_iff _ _).2 h), oneP_set]
  dsimp only
  rw [if_neg (by omega)]
  simp only [ScalarReal.ofInt_eq, Int.cast_ofNat]
  rw [oneP_setValueAt]
  dsimp only
  rw [oneP_f]

/-- an accepted trial -/
theorem newtonCorrect_accept (cur x0 m nv : ℝ) (bck np : PList ℝ) (maxc fuel count : Nat) (fn : Fn ℝ) (h : nv ≤ cur) :
    newtonCorrect (Fn.iface obj D none) cur x0 bck maxc (fuel + 1) count fn np m nv = .ok (fn, some (np, nv)) := by
  rw [newtonCorrect]
  rw [if_neg (fun c => absurd ((ScalarReal.gtb_iff _ _).1 c) (not_lt.2 h))]


/-- the Newton movement at `x0` -/
noncomputable def newtonMove (k : Nat) (x0 : ℝ) : ℝ :=
  if D.d2 k [x0] ≤ 0 then -D.d1 k [x0] / D.d2 k [x0] else D.d1 k [x0] / D.d2 k [x0]

theorem newtonDoStep_one (s : St (Fn ℝ) (Newton1 ℝ) ℝ) (x0 : ℝ) (log : List (List ℝ))
    (hp : s.core.params = oneP x0) (hf : s.fn = ⟨[x0], log⟩) (fn : Fn ℝ) (pl : PList ℝ) (v : ℝ)
    (hc : newtonCorrect (Fn.iface obj D none) s.core.cur x0 (oneP x0) s.ext.maxCorrection (s.ext.maxCorrection + 1) 0
          ⟨[x0 - newtonMove D s.ext.param x0], [x0 - newtonMove D s.ext.param x0] :: log⟩
          (oneP (x0 - newtonMove D s.ext.param x0)) (newtonMove D s.ext.param x0)
          (obj [x0 - newtonMove D s.ext.param x0]) = .ok (fn, some (pl, v))) :
    newtonDoStep (Fn.iface obj D none) s = .ok ({ s with fn := fn, core := { s.core with params := pl } }, v) := by
  unfold newtonDoStep
  dsimp only
  have hv : value0 s.core.params = some x0 := by rw [hp]; rfl
  have hd1 : (Fn.iface obj D none).d1 s.fn s.ext.param = D.d1 s.ext.param [x0] := by rw [hf]; rfl
  have hd2 : (Fn.iface obj D none).d2 s.fn s.ext.param = D.d2 s.ext.param [x0] := by rw [hf]; rfl
  have hm : (if (!Scalar.eqb (if Scalar.leb (D.d2 s.ext.param [x0]) Scalar.zero = true then -D.d1 s.ext.param [x0] / D.d2 s.ext.param [x0]
        else D.d1 s.ext.param [x0] / D.d2 s.ext.param [x0]) (if Scalar.leb (D.d2 s.ext.param [x0]) Scalar.zero = true then -D.d1 s.ext.param [x0] / D.d2 s.ext.param [x0]
        else D.d1 s.ext.param [x0] / D.d2 s.ext.param [x0])) = true then Scalar.zero else (if Scalar.leb (D.d2 s.ext.param [x0]) Scalar.zero = true then -D.d1 s.ext.param [x0] / D.d2 s.ext.param [x0]
        else D.d1 s.ext.param [x0] / D.d2 s.ext.param [x0])) = newtonMove D s.ext.param x0 := by
    unfold newtonMove
    simp
  rw [hv, hd1, hd2, hm]
  dsimp only
  rw [hp, oneP_setValueAt]
  dsimp only
  rw [hf, oneP_f, oneP_get]
  dsimp only
  rw [hc]


/-- with tolerance 0 the `FunctionStopCondition` never reports that the tolerance is reached -/
theorem fscStop_tol0 {τ : Type} (s : St (Fn ℝ) τ ℝ) (h0 : s.core.tolerance = 0) : (fscStop s).2 = false := by
  unfold fscStop
  dsimp only
  split
  · rfl
  · rw [h0]
    simp

/-- `step` computed forwards from `doStep`, for an optimiser whose stop condition is the
`FunctionStopCondition`, with tolerance 0 -/
theorem step_of_doStep_tol0 {τ : Type} (A : Algo (Fn ℝ) τ ℝ) (hstop : A.stop = fscStop) (s s1 : St (Fn ℝ) τ ℝ) (v : ℝ)
    (hd : A.doStep s = .ok (s1, v)) (ht : s1.core.tol = false) (h0 : s1.core.tolerance = 0) :
    ∃ sa, A.step s = .ok (sa, v) ∧ sa.fn = s1.fn ∧ sa.ext = s1.ext ∧ sa.core.params = s1.core.params ∧
      sa.core.nbEval = s1.core.nbEval ∧ sa.core.nbEvalMax = s1.core.nbEvalMax ∧ sa.core.tol = false ∧
      sa.core.tolerance = 0 ∧ sa.core.cur = v := by
  have hex : ∃ sa, A.step s = .ok (sa, v) := by
    unfold Algo.step
    rw [hd]
    dsimp only
    split
    · exact ⟨_, rfl⟩
    · exact ⟨_, rfl⟩
  obtain ⟨sa, hsa⟩ := hex
  obtain ⟨s1', hd', hc⟩ := step_cases A s hsa
  rw [hd] at hd'
  simp only [Except.ok.injEq, Prod.mk.injEq, and_true] at hd'
  subst hd'
  rcases hc with ⟨htt, -⟩ | ⟨-, rfl⟩
  · rw [ht] at htt; cases htt
  · rw [hstop] at hsa
    have h2 := fscStop_tol0 ({ s1 with core := { s1.core with cur := v } } : St (Fn ℝ) τ ℝ) h0
    refine ⟨_, hsa, ?_⟩
    rw [fscStop_fst]
    exact ⟨rfl, rfl, rfl, rfl, rfl, h2, h0, rfl⟩

/-- a step of `NewtonOneDimension` (template's `step`) on a one-parameter state, tolerance 0, when the
correction loop ends on an accepted point -/
theorem newton_step_one (s : St (Fn ℝ) (Newton1 ℝ) ℝ) (x0 : ℝ) (log : List (List ℝ))
    (hp : s.core.params = oneP x0) (hf : s.fn = ⟨[x0], log⟩) (ht : s.core.tol = false) (h0 : s.core.tolerance = 0)
    (fn : Fn ℝ) (pl : PList ℝ) (v : ℝ)
    (hc : newtonCorrect (Fn.iface obj D none) s.core.cur x0 (oneP x0) s.ext.maxCorrection (s.ext.maxCorrection + 1) 0
          ⟨[x0 - newtonMove D s.ext.param x0], [x0 - newtonMove D s.ext.param x0] :: log⟩
          (oneP (x0 - newtonMove D s.ext.param x0)) (newtonMove D s.ext.param x0)
          (obj [x0 - newtonMove D s.ext.param x0]) = .ok (fn, some (pl, v))) :
    ∃ sa, (newtonAlgo (Fn.iface obj D none)).step s = .ok (sa, v) ∧ sa.fn = fn ∧ sa.ext = s.ext ∧ sa.core.params = pl ∧
      sa.core.nbEval = s.core.nbEval ∧ sa.core.nbEvalMax = s.core.nbEvalMax ∧ sa.core.tol = false ∧
      sa.core.tolerance = 0 ∧ sa.core.cur = v :=
  step_of_doStep_tol0 (newtonAlgo (Fn.iface obj D none)) rfl s _ v (newtonDoStep_one obj D s x0 log hp hf fn pl v hc) ht h0

end one

namespace Newton1dReal

noncomputable def objective (pt : List ℝ) : ℝ :=
  (pt.getD 0 0 * pt.getD 0 0 - 1) * (pt.getD 0 0 * pt.getD 0 0 - 1)

noncomputable def deriv : Deriv ℝ :=
  { d1 := fun _ pt => 4 * pt.getD 0 0 * (pt.getD 0 0 * pt.getD 0 0 - 1),
    d2 := fun _ pt => 12 * pt.getD 0 0 * pt.getD 0 0 - 4 }

noncomputable def start : St (Fn ℝ) (Newton1 ℝ) ℝ :=
  { core := freshCore 3 0 0, fn := ⟨[3 / 5], []⟩, ext := ⟨0, 10⟩ }

noncomputable def algo : Algo (Fn ℝ) (Newton1 ℝ) ℝ := newtonAlgo (Fn.iface objective deriv none)

theorem move1 : newtonMove deriv 0 (3 / 5) = -24 / 5 := by
  unfold newtonMove deriv; norm_num

theorem correct1 (log : List (List ℝ)) :
    newtonCorrect (Fn.iface objective deriv none) (objective [3 / 5]) (3 / 5) (oneP (3 / 5)) 10 (10 + 1) 0
      ⟨[3 / 5 - -24 / 5], [3 / 5 - -24 / 5] :: log⟩ (oneP (3 / 5 - -24 / 5)) (-24 / 5) (objective [3 / 5 - -24 / 5]) =
    .ok (⟨[6 / 5], [6 / 5] :: [3 / 5] :: [9 / 5] :: [3 / 5] :: [3] :: [3 / 5] :: [27 / 5] :: log⟩,
         some (oneP (6 / 5), objective [6 / 5])) := by
  rw [newtonCorrect_reject (h := by norm_num [objective]) (hc := by norm_num)]
  rw [show (3 / 5 - -24 / 5 / 2 : ℝ) = 3 by norm_num, show (-24 / 5 / 2 : ℝ) = -12 / 5 by norm_num,
    show (3 / 5 - -24 / 5 : ℝ) = 27 / 5 by norm_num]
  rw [newtonCorrect_reject (h := by norm_num [objective]) (hc := by norm_num)]
  rw [show (3 / 5 - -12 / 5 / 2 : ℝ) = 9 / 5 by norm_num, show (-12 / 5 / 2 : ℝ) = -6 / 5 by norm_num]
  rw [newtonCorrect_reject (h := by norm_num [objective]) (hc := by norm_num)]
  rw [show (3 / 5 - -6 / 5 / 2 : ℝ) = 6 / 5 by norm_num, show (-6 / 5 / 2 : ℝ) = -3 / 5 by norm_num]
  rw [newtonCorrect_accept (h := by norm_num [objective])]

theorem move2 : newtonMove deriv 0 (6 / 5) = 66 / 415 := by
  unfold newtonMove deriv; norm_num

theorem correct2 (fn : Fn ℝ) (np : PList ℝ) :
    newtonCorrect (Fn.iface objective deriv none) (objective [6 / 5]) (6 / 5) (oneP (6 / 5)) 10 (10 + 1) 0
      fn np (66 / 415) (objective [6 / 5 - 66 / 415]) = .ok (fn, some (np, objective [6 / 5 - 66 / 415])) := by
  rw [newtonCorrect_accept (h := by norm_num [objective])]

theorem init_run : ∃ s, algo.init start (oneP (3 / 5)) = .ok s ∧ s.core.params = oneP (3 / 5) ∧
    s.fn = ⟨[3 / 5], [[3 / 5]]⟩ ∧ s.core.cur = objective [3 / 5] ∧ s.core.nbEvalMax = 3 ∧ s.core.tolerance = 0 ∧
    s.core.initialized = true ∧ s.ext = ⟨0, 10⟩ := by
  simp [algo, Algo.init, newtonAlgo, newtonDoInit, start, freshCore, applyPolicy, oneP, Fn.iface, capped, Fn.f,
    Fn.setParameters, matchPoint, own, fscInit, Fn.value]

/-- the whole run: `init`, then `optimize` makes exactly two steps; when the second begins the counter shows
2 and the log has 7 entries more than when `optimize` began -/
theorem run : ∃ (s s1 sc : St (Fn ℝ) (Newton1 ℝ) ℝ) (w1 w2 : ℝ),
    algo.init start (oneP (3 / 5)) = .ok s ∧ s.core.nbEvalMax = 3 ∧ s.fn.log = [[3 / 5]] ∧
    algo.step { s with core := { s.core with tol := false, nbEval := 1 } } = .ok (s1, w1) ∧
    Guard (bump s1) ∧ (bump s1).core.nbEval = 2 ∧ (bump s1).core.nbEvalMax = 3 ∧
    (bump s1).fn.log = [[6 / 5], [3 / 5], [9 / 5], [3 / 5], [3], [3 / 5], [27 / 5], [3 / 5]] ∧
    algo.step (bump s1) = .ok (sc, w2) ∧ ¬ Guard (bump sc) ∧ (bump sc).core.nbEval = 3 ∧
    ∀ k, algo.optimize (k + 2) s = .ok (bump sc, (bump sc).core.cur) := by
  obtain ⟨s, hinit, hp, hf, hcur, hmax, htol0, hi, hext⟩ := init_run
  obtain ⟨s1, hst1, hfn1, hext1, hp1, hnb1, hmax1, htol1, htz1, hcur1⟩ :=
    newton_step_one objective deriv { s with core := { s.core with tol := false, nbEval := 1 } } (3 / 5) [[3 / 5]] hp hf rfl htol0
      _ _ _ (by
        dsimp only
        rw [hcur, hext]
        dsimp only
        rw [move1]
        exact correct1 _)
  have hnb1' : s1.core.nbEval = 1 := hnb1
  have hext1' : s1.ext = ⟨0, 10⟩ := hext1.trans hext
  have hmax1' : s1.core.nbEvalMax = 3 := hmax1.trans hmax
  have hg1 : Guard (bump s1) := by
    refine ⟨?_, htol1⟩
    show s1.core.nbEval + 1 < s1.core.nbEvalMax
    omega
  obtain ⟨sc, hst2, hfn2, hext2, hp2, hnb2, hmax2, htol2, htz2, hcur2⟩ :=
    newton_step_one objective deriv (bump s1) (6 / 5) _ hp1 hfn1 htol1 htz1
      _ _ _ (by
        dsimp only [bump]
        rw [hcur1, hext1']
        dsimp only
        rw [move2]
        exact correct2 _ _)
  have hnb2' : sc.core.nbEval = 2 := by rw [hnb2]; show s1.core.nbEval + 1 = 2; omega
  have hmax2' : sc.core.nbEvalMax = 3 := by rw [hmax2]; exact hmax1'
  have hg2 : ¬ Guard (bump sc) := by
    intro hg
    have : sc.core.nbEval + 1 < sc.core.nbEvalMax := hg.1
    omega
  have hg0 : Guard ({ s with core := { s.core with tol := false, nbEval := 1 } } : St (Fn ℝ) (Newton1 ℝ) ℝ) := by
    refine ⟨?_, rfl⟩
    show 1 < s.core.nbEvalMax
    omega
  refine ⟨s, s1, sc, _, _, hinit, hmax, by rw [hf], hst1, hg1, by show s1.core.nbEval + 1 = 2; omega, hmax1', ?_, hst2, hg2,
    by show sc.core.nbEval + 1 = 3; omega, fun k => optimize_two_steps algo s s1 sc _ _ hi hg0 hst1 hg1 hst2 hg2 k⟩
  show s1.fn.log = _
  rw [hfn1]

end Newton1dReal

end Bpp.Optim
