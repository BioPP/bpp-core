import Mathlib.Algebra.Order.Floor.Ring
import Mathlib.Data.Rat.Floor
import Mathlib.Tactic.NormNum
import BppProofs.Lemmas.NumFmt
/-! Arithmetic behind `NumFmt.roundSig`: the rounding to `P` significant digits has exactly `P`
digits, and leaves a number with at most `P` digits alone. -/
namespace Bpp.Text.NumFmt
open Bpp.Text Bpp.Text.Number

/-- what `roundHalfEven` returns: one of the two integers around `s`, the nearer one -/
theorem rhe_spec (s : ℚ) (hs : 0 ≤ s) : ∃ f : ℕ, (f : ℚ) ≤ s ∧ s < f + 1 ∧
    (roundHalfEven s = f ∧ s - f ≤ 1 / 2 ∨ roundHalfEven s = f + 1 ∧ 1 / 2 ≤ s - f) := by
  have hcast : ((s.floor.toNat : ℕ) : ℚ) = ((⌊s⌋ : ℤ) : ℚ) := by
    rw [← Int.cast_natCast, show s.floor = ⌊s⌋ from rfl, Int.toNat_of_nonneg (Int.floor_nonneg.mpr hs)]
  refine ⟨s.floor.toNat, hcast ▸ Int.floor_le s, hcast ▸ Int.lt_floor_add_one s, ?_⟩
  unfold roundHalfEven
  simp only []
  split
  · exact Or.inl ⟨rfl, le_of_lt ‹_›⟩
  · split
    · exact Or.inr ⟨rfl, le_of_lt ‹_›⟩
    · rename_i hlo hhi
      split
      · exact Or.inl ⟨rfl, not_lt.mp hhi⟩
      · exact Or.inr ⟨rfl, not_lt.mp hlo⟩

theorem rhe_ge (s : ℚ) (hs : 0 ≤ s) (m : ℕ) (h : (m : ℚ) ≤ s) : m ≤ roundHalfEven s := by
  obtain ⟨f, _, h2, hc⟩ := rhe_spec s hs
  have : m < f + 1 := by exact_mod_cast lt_of_le_of_lt h h2
  rcases hc with ⟨e, _⟩ | ⟨e, _⟩ <;> omega

theorem rhe_le (s : ℚ) (hs : 0 ≤ s) (M : ℕ) (h : s < (M : ℚ)) : roundHalfEven s ≤ M := by
  obtain ⟨f, h1, _, hc⟩ := rhe_spec s hs
  have : f < M := by exact_mod_cast lt_of_le_of_lt h1 h
  rcases hc with ⟨e, _⟩ | ⟨e, _⟩ <;> omega

theorem rhe_nat (k : ℕ) : roundHalfEven (k : ℚ) = k := by
  obtain ⟨f, h1, h2, hc⟩ := rhe_spec k (Nat.cast_nonneg k)
  have e : f = k := by
    have a : f ≤ k := by exact_mod_cast h1
    have b : k < f + 1 := by exact_mod_cast h2
    omega
  subst e
  rcases hc with ⟨e, _⟩ | ⟨_, h⟩
  · exact e
  · rw [sub_self] at h; norm_num at h

theorem rhe_error (s : ℚ) (hs : 0 ≤ s) : |((roundHalfEven s : ℕ) : ℚ) - s| ≤ 1 / 2 := by
  obtain ⟨f, h1, h2, hc⟩ := rhe_spec s hs
  rcases hc with ⟨e, h⟩ | ⟨e, h⟩
  · rw [e, abs_sub_comm, abs_of_nonneg (sub_nonneg.mpr h1)]; exact h
  · rw [e, Nat.cast_add, Nat.cast_one, abs_of_nonneg (sub_nonneg.mpr (le_of_lt h2)),
      show (f : ℚ) + 1 - s = 1 - (s - f) by ring, sub_le_comm]
    exact le_trans (by norm_num) h

/-- a positive number with `k` digits lies in `[10^(k-1), 10^k)` (the lower bound times 10, to stay
in `ℕ`) -/
theorem natDigits_bounds (n : ℕ) (hn : 0 < n) :
    10 ^ (natDigits n).length ≤ 10 * n ∧ n < 10 ^ (natDigits n).length := by
  induction n using Nat.strongRecOn with
  | _ n ih =>
    rw [natDigits]
    by_cases h : n < 10
    · rw [dif_pos h]
      exact ⟨Nat.mul_le_mul_left 10 hn, h⟩
    · rw [dif_neg h, List.length_append, List.length_singleton, Nat.pow_succ]
      have := ih (n / 10) (by omega) (by omega)
      omega

theorem natDigits_length_eq (N P : ℕ) (hP : 1 ≤ P) (h1 : 10 ^ (P - 1) ≤ N) (h2 : N < 10 ^ P) :
    (natDigits N).length = P := by
  obtain ⟨b1, b2⟩ := natDigits_bounds N (Nat.lt_of_lt_of_le (Nat.pow_pos (by decide)) h1)
  have a1 : P - 1 < (natDigits N).length :=
    (Nat.pow_lt_pow_iff_right (by decide)).mp (Nat.lt_of_le_of_lt h1 b2)
  have a2 : (natDigits N).length < P + 1 := by
    apply (Nat.pow_lt_pow_iff_right (a := 10) (by decide)).mp
    rw [Nat.pow_succ]
    omega
  omega

theorem natDigits_bounds_rat (n : ℕ) (hn : 0 < n) :
    (10 : ℚ) ^ (natDigits n).length ≤ 10 * n ∧ (n : ℚ) < (10 : ℚ) ^ (natDigits n).length := by
  obtain ⟨h1, h2⟩ := natDigits_bounds n hn
  exact ⟨by exact_mod_cast h1, by exact_mod_cast h2⟩

theorem decExp_spec (a : ℚ) (ha : 0 < a) :
    (10 : ℚ) ^ (decExp a) ≤ a ∧ a < (10 : ℚ) ^ (decExp a + 1) := by
  unfold decExp
  simp only []
  rw [pow10_eq_zpow]
  have hnum : 0 < a.num := Rat.num_pos.mpr ha
  have hd : (0 : ℚ) < a.den := Nat.cast_pos.mpr a.den_pos
  obtain ⟨N1, N2⟩ := natDigits_bounds_rat a.num.toNat (by omega)
  obtain ⟨D1, D2⟩ := natDigits_bounds_rat a.den a.den_pos
  have ha' : a = (a.num.toNat : ℚ) / a.den := by
    rw [← Int.cast_natCast, Int.toNat_of_nonneg hnum.le, Rat.num_div_den]
  generalize (natDigits a.num.toNat).length = dn at *
  generalize (natDigits a.den).length = dd at *
  generalize (a.num.toNat : ℚ) = n at *
  generalize (a.den : ℚ) = d at *
  have h10 : (10 : ℚ) ≠ 0 := by norm_num
  have hA : (0 : ℚ) < 10 ^ dn := by positivity
  have hD : (0 : ℚ) < 10 ^ dd := by positivity
  -- numerator and denominator lie between powers of ten, so `10^(dn-dd-1) < a < 10^(dn-dd+1)`
  have lower : (10 : ℚ) ^ ((dn : ℤ) - dd - 1) < a := by
    rw [zpow_sub_one₀ h10, zpow_sub₀ h10, zpow_natCast, zpow_natCast, ha', ← div_eq_mul_inv, div_div,
      div_lt_div_iff₀ (by positivity) hd]
    calc (10 : ℚ) ^ dn * d < 10 ^ dn * 10 ^ dd := mul_lt_mul_of_pos_left D2 hA
      _ ≤ 10 * n * 10 ^ dd := mul_le_mul_of_nonneg_right N1 hD.le
      _ = n * (10 ^ dd * 10) := by ring
  have upper : a < (10 : ℚ) ^ ((dn : ℤ) - dd + 1) := by
    rw [zpow_add_one₀ h10, zpow_sub₀ h10, zpow_natCast, zpow_natCast, ha', div_mul_eq_mul_div,
      div_lt_div_iff₀ hd hD]
    calc n * (10 : ℚ) ^ dd < 10 ^ dn * 10 ^ dd := mul_lt_mul_of_pos_right N2 hD
      _ ≤ 10 ^ dn * (10 * d) := mul_le_mul_of_nonneg_left D1 hA.le
      _ = 10 ^ dn * 10 * d := by ring
  split
  · exact ⟨‹_›, upper⟩
  · refine ⟨le_of_lt lower, ?_⟩
    rw [sub_add_cancel]
    exact lt_of_not_ge ‹_›

/-- the number scaled to `P` digits before the point -/
theorem scaled_bounds (P : ℕ) (hP : 1 ≤ P) (a : ℚ) (ha : 0 < a) :
    ((10 ^ (P - 1) : ℕ) : ℚ) ≤ a / pow10 (decExp a - ((P : ℤ) - 1)) ∧
    a / pow10 (decExp a - ((P : ℤ) - 1)) < ((10 ^ P : ℕ) : ℚ) := by
  obtain ⟨h1, h2⟩ := decExp_spec a ha
  have h10 : (10 : ℚ) ≠ 0 := by norm_num
  rw [pow10_eq_zpow]
  have hpos : (0 : ℚ) < (10 : ℚ) ^ (decExp a - ((P : ℤ) - 1)) := zpow_pos (by norm_num) _
  constructor
  · rw [le_div_iff₀ hpos]
    push_cast
    rw [← zpow_natCast, ← zpow_add₀ h10]
    have : ((P - 1 : ℕ) : ℤ) + (decExp a - ((P : ℤ) - 1)) = decExp a := by omega
    rw [this]; exact h1
  · rw [div_lt_iff₀ hpos]
    push_cast
    rw [← zpow_natCast, ← zpow_add₀ h10]
    have : ((P : ℕ) : ℤ) + (decExp a - ((P : ℤ) - 1)) = decExp a + 1 := by omega
    rw [this]; exact h2

/-- **the rounding to `P` significant digits has exactly `P` digits** -/
theorem roundSig_digits (P : ℕ) (hP : 1 ≤ P) (a : ℚ) (ha : 0 < a) :
    10 ^ (P - 1) ≤ (roundSig P a).1 ∧ (roundSig P a).1 < 10 ^ P := by
  obtain ⟨s1, s2⟩ := scaled_bounds P hP a ha
  have hs : 0 ≤ a / pow10 (decExp a - ((P : ℤ) - 1)) := le_trans (by positivity) s1
  have r1 := rhe_ge _ hs _ s1
  have r2 := rhe_le _ hs _ s2
  unfold roundSig
  simp only []
  split
  · simp only []
    refine ⟨le_refl _, ?_⟩
    exact Nat.pow_lt_pow_right (by norm_num) (by omega)
  · rename_i hne
    simp only []
    refine ⟨r1, ?_⟩
    have : roundHalfEven (a / pow10 (decExp a - ((P : ℤ) - 1))) ≠ 10 ^ P := by simpa using hne
    omega

theorem digitsOk_always (prec : ℕ) (a : ℚ) (ha : 0 ≤ a) : digitsOk prec a = true := by
  unfold digitsOk
  simp only [Bool.or_eq_true, beq_iff_eq]
  rcases eq_or_lt_of_le ha with h | h
  · left; exact h.symm
  · right
    have hP : 1 ≤ (if prec = 0 then 1 else prec) := by
      split <;> omega
    obtain ⟨b1, b2⟩ := roundSig_digits _ hP a h
    exact natDigits_length_eq _ _ hP b1 b2

/-- the digits kept, scaled back, are `roundHalfEven` of the scaled number, scaled back (also when
the rounding carries into one more digit) -/
theorem roundSig_value (P : ℕ) (hP : 1 ≤ P) (a : ℚ) :
    ((roundSig P a).1 : ℚ) * pow10 ((roundSig P a).2 - ((P : ℤ) - 1))
      = ((roundHalfEven (a / pow10 (decExp a - ((P : ℤ) - 1))) : ℕ) : ℚ) * pow10 (decExp a - ((P : ℤ) - 1)) := by
  unfold roundSig
  simp only []
  split
  · rename_i h
    rw [eq_of_beq h, pow10_eq_zpow, pow10_eq_zpow]
    have h10 : (10 : ℚ) ≠ 0 := by norm_num
    push_cast
    rw [← zpow_natCast, ← zpow_natCast, ← zpow_add₀ h10, ← zpow_add₀ h10]
    congr 1
    omega
  · rfl

/-- the value the text denotes: sign · rounding of the scaled number · scale -/
theorem roundedValue_eq (prec : ℕ) (neg : Bool) (a : ℚ) (h0 : a ≠ 0) :
    ∃ e : ℤ, e + (((if prec = 0 then 1 else prec) - 1 : ℕ) : ℤ) = decExp a ∧
      roundedValue prec neg a = (if neg then -1 else 1) * (((roundHalfEven (a / pow10 e) : ℕ) : ℚ) * pow10 e) := by
  have hP : 1 ≤ (if prec = 0 then 1 else prec) := by split <;> omega
  refine ⟨decExp a - (((if prec = 0 then 1 else prec : ℕ) : ℤ) - 1), by omega, ?_⟩
  unfold roundedValue
  simp only [beq_iff_eq, h0, if_false]
  rw [mul_assoc, roundSig_value _ hP]

/-- **a number with at most `P` significant digits is not changed** -/
theorem roundedValue_exact (prec : ℕ) (neg : Bool) (a : ℚ) (ha : 0 ≤ a) (hfit : fitsPrec prec a = true) :
    roundedValue prec neg a = if neg then -a else a := by
  by_cases h0 : a = 0
  · subst h0
    cases neg <;> simp [roundedValue]
  · obtain ⟨e, he, hv⟩ := roundedValue_eq prec neg a h0
    have hpe : (0 : ℚ) < pow10 e := by rw [pow10_eq_zpow]; exact zpow_pos (by norm_num) _
    have hfit' : (a / pow10 e).den = 1 := by
      have : e = decExp a - (((if prec = 0 then 1 else prec : ℕ) : ℤ) - 1) := by
        have hP : 1 ≤ (if prec = 0 then 1 else prec) := by split <;> omega
        omega
      subst this
      simpa [fitsPrec, h0] using hfit
    have hsn : a / pow10 e = (((a / pow10 e).num.toNat : ℕ) : ℚ) := by
      rw [← Int.cast_natCast, Int.toNat_of_nonneg (Rat.num_nonneg.mpr (div_nonneg ha hpe.le)),
        Rat.coe_int_num_of_den_eq_one hfit']
    rw [hv, hsn, rhe_nat, ← hsn, div_mul_cancel₀ a hpe.ne']
    cases neg <;> simp

/-- **the relative error of the formatting is at most half a unit of the `P`-th digit** -/
theorem roundedValue_error_signed (prec : ℕ) (neg : Bool) (a : ℚ) (ha : 0 < a) :
    |roundedValue prec neg a - (if neg then -a else a)|
      ≤ a / (2 * (10 : ℚ) ^ ((if prec = 0 then 1 else prec) - 1)) := by
  obtain ⟨e, he, hv⟩ := roundedValue_eq prec neg a ha.ne'
  generalize (if prec = 0 then 1 else prec) - 1 = p at he ⊢
  have hpe : (0 : ℚ) < pow10 e := by rw [pow10_eq_zpow]; exact zpow_pos (by norm_num) _
  -- `|rhe s · 10^e − s · 10^e| = |rhe s − s| · 10^e ≤ 10^e / 2`, and `10^e · 10^p ≤ a`
  have hbound : pow10 e * (10 : ℚ) ^ p ≤ a := by
    rw [pow10_eq_zpow, ← zpow_natCast, ← zpow_add₀ (by norm_num), he]
    exact (decExp_spec a ha).1
  have hre := rhe_error (a / pow10 e) (div_nonneg ha.le hpe.le)
  have hsplit : roundedValue prec neg a - (if neg then -a else a)
      = (if neg then -1 else 1) * ((((roundHalfEven (a / pow10 e) : ℕ) : ℚ) - a / pow10 e) * pow10 e) := by
    rw [hv, sub_mul, div_mul_cancel₀ a hpe.ne']
    cases neg <;> simp <;> ring
  have hsgn : |(if neg then (-1 : ℚ) else 1)| = 1 := by cases neg <;> simp
  rw [hsplit, abs_mul, hsgn, one_mul, abs_mul, abs_of_pos hpe, le_div_iff₀ (by positivity)]
  calc |((roundHalfEven (a / pow10 e) : ℕ) : ℚ) - a / pow10 e| * pow10 e * (2 * (10 : ℚ) ^ p)
      ≤ 1 / 2 * pow10 e * (2 * (10 : ℚ) ^ p) :=
        mul_le_mul_of_nonneg_right (mul_le_mul_of_nonneg_right hre hpe.le) (by positivity)
    _ = pow10 e * (10 : ℚ) ^ p := by ring
    _ ≤ a := hbound

theorem decExp_one : decExp 1 = 0 := by
  unfold decExp
  simp [natDigits, pow10]

end Bpp.Text.NumFmt
