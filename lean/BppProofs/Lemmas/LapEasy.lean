import BppProofs.Lemmas.Lap
import BppProofs.Lemmas.MatrixScan
/-! Helper lemmas for C04 (`lap`): the column reduction alone (`lapEasy`, which answers only when it
leaves no free row) returns a certified answer.  The whole routine is `lapFull` (`Lemmas/LapFull*.lean`). -/
namespace Bpp.Mx.Lap
open Bpp Bpp.Mx

theorem foldl_range_inv {σ : Type} (P : Nat → σ → Prop) (n : Nat) (f : σ → Nat → σ) (s : σ) (h0 : P 0 s)
    (hstep : ∀ k t, k < n → P k t → P (k + 1) (f t k)) : P n ((List.range n).foldl f s) := by
  induction n with
  | zero => simpa using h0
  | succ n ih =>
    rw [List.range_succ, List.foldl_append]
    simp only [List.foldl_cons, List.foldl_nil]
    exact hstep n _ (by omega) (ih (fun k t hk => hstep k t (by omega)))

/-- the column reduction finds a row holding the minimum of the column -/
theorem colMinRow_spec (n : Nat) (c : Nat → Nat → ℝ) (j : Nat) (hn : 0 < n) :
    colMinRow n c j < n ∧ ∀ i, i < n → c (colMinRow n c j) j ≤ c i j := by
  unfold colMinRow
  have := foldl_range_inv (fun t (im : Nat) => im ≤ t ∧ ∀ i, i ≤ t → c im j ≤ c i j) (n - 1)
    (fun im t => if Scalar.ltb (c (t + 1) j) (c im j) then t + 1 else im) 0
    ⟨Nat.le_refl 0, fun i hi => by have : i = 0 := by omega
                                   subst this; exact le_refl _⟩
    (by
      intro t im _ ⟨h1, h2⟩
      by_cases hlt : c (t + 1) j < c im j
      · have : Scalar.ltb (c (t + 1) j) (c im j) = true := (ScalarReal.ltb_iff _ _).2 hlt
        simp only [this, if_true]
        refine ⟨Nat.le_refl _, fun i hi => ?_⟩
        by_cases hi' : i ≤ t
        · exact le_trans (le_of_lt hlt) (h2 i hi')
        · have : i = t + 1 := by omega
          subst this; exact le_refl _
      · have : Scalar.ltb (c (t + 1) j) (c im j) = false := by
          rw [Bool.eq_false_iff]; intro h; exact hlt ((ScalarReal.ltb_iff _ _).1 h)
        simp only [this, Bool.false_eq_true, if_false]
        refine ⟨by omega, fun i hi => ?_⟩
        by_cases hi' : i ≤ t
        · exact h2 i hi'
        · have : i = t + 1 := by omega
          subst this; exact not_lt.mp hlt)
  exact ⟨by omega, fun i hi => this.2 i (by omega)⟩

theorem easyRowSol_lt (n : Nat) (im : Nat → Nat) (i : Nat) (hn : 0 < n) : easyRowSol n im i < n := by
  unfold easyRowSol
  have := foldl_range_inv (fun t (acc : Nat) => acc < n) n (fun acc j => if im j = i then j else acc) 0 hn
    (by intro k t hk ht; split <;> omega)
  exact this

/-- the minimum of the reduced costs of row `i` over the columns other than `j1` -/
theorem transferMin_spec (n : Nat) (c : Nat → Nat → ℝ) (v : Nat → ℝ) (i j1 : Nat) (hn : 1 < n) :
    ∃ m, transferMin n c v i j1 = some m ∧ (∀ j, j < n → j ≠ j1 → m ≤ c i j - v j) ∧
      ∃ j, j < n ∧ j ≠ j1 ∧ m = c i j - v j := by
  unfold transferMin
  have := foldl_range_inv
    (fun t (m : Option ℝ) =>
      (m = none ∧ ∀ j, j < t → j = j1) ∨
      (∃ x, m = some x ∧ (∀ j, j < t → j ≠ j1 → x ≤ c i j - v j) ∧ ∃ j, j < t ∧ j ≠ j1 ∧ x = c i j - v j))
    n (tmStep c v i j1) none
    (Or.inl ⟨rfl, fun j hj => by omega⟩)
    (by
      intro t m ht hinv
      by_cases hj : t = j1
      · simp only [tmStep, hj, if_true]
        rcases hinv with ⟨hm, hall⟩ | ⟨x, hm, hle, j, hjt, hjn, hx⟩
        · left; exact ⟨hm, fun j hjlt => by by_cases h : j < t; exact hall j h; omega⟩
        · right
          refine ⟨x, hm, fun j hjlt hne => hle j (by omega) hne, j, by omega, hjn, hx⟩
      · simp only [tmStep, hj, if_false]
        rcases hinv with ⟨hm, hall⟩ | ⟨x, hm, hle, j, hjt, hjn, hx⟩
        · right
          subst hm
          refine ⟨c i t - v t, by simp [ExtCmp.ltPosInf], ?_, t, by omega, hj, rfl⟩
          intro j hjlt hne
          by_cases h : j < t
          · exact absurd (hall j h) hne
          · have : j = t := by omega
            subst this; exact le_refl _
        · right
          subst hm
          by_cases hlt : c i t - v t < x
          · have : Scalar.ltb (c i t - v t) x = true := (ScalarReal.ltb_iff _ _).2 hlt
            simp only [this, if_true]
            refine ⟨_, rfl, ?_, t, by omega, hj, rfl⟩
            intro j' hjlt hne
            by_cases h : j' < t
            · exact le_trans (le_of_lt hlt) (hle j' h hne)
            · have : j' = t := by omega
              subst this; exact le_refl _
          · have : Scalar.ltb (c i t - v t) x = false := by
              rw [Bool.eq_false_iff]; intro h; exact hlt ((ScalarReal.ltb_iff _ _).1 h)
            simp only [this, Bool.false_eq_true, if_false]
            refine ⟨x, rfl, ?_, j, by omega, hjn, hx⟩
            intro j' hjlt hne
            by_cases h : j' < t
            · exact hle j' h hne
            · have : j' = t := by omega
              subst this; exact not_lt.mp hlt)
  rcases this with ⟨_, hall⟩ | ⟨x, hm, hle, hex⟩
  · -- impossible: there are at least two columns
    exfalso
    have h0 := hall 0 (by omega)
    have h1 := hall 1 hn
    omega
  · exact ⟨x, hm, hle, hex⟩

/-- the reduction transfer keeps the prices below the column minima, does not touch the columns of
rows still to come, and leaves every processed row tight at its own column -/
theorem transfer_inv (n : Nat) (c : Nat → Nat → ℝ) (σ : Nat → Nat) (hn : 1 < n)
    (hinv1 : ∀ i, i < n → colMinRow n c (σ i) = i) :
    ∀ k, k ≤ n → ∃ v, transfer n c σ (fun j => c (colMinRow n c j) j) k = some v ∧
      (∀ j, j < n → v j ≤ c (colMinRow n c j) j) ∧
      (∀ i, k ≤ i → i < n → v (σ i) = c i (σ i)) ∧
      (∀ i, i < k → ∀ j, j < n → c i (σ i) - v (σ i) ≤ c i j - v j) := by
  have hσinj : ∀ i i', i < n → i' < n → σ i = σ i' → i = i' := by
    intro i i' hi hi' h
    rw [← hinv1 i hi, ← hinv1 i' hi', h]
  intro k
  induction k with
  | zero =>
    intro _
    refine ⟨_, rfl, fun j _ => le_refl _, ?_, fun i hi => by omega⟩
    intro i _ hi
    show c (colMinRow n c (σ i)) (σ i) = c i (σ i)
    rw [hinv1 i hi]
  | succ k ih =>
    intro hk
    obtain ⟨v, ev, I1, I2, I3⟩ := ih (by omega)
    have hk' : k < n := by omega
    obtain ⟨m, em, T1, j0, hj0, hj0ne, hm⟩ := transferMin_spec n c v k (σ k) hn
    have hm0 : 0 ≤ m := by
      rw [hm]; linarith only [(colMinRow_spec n c j0 (by omega)).2 k hk', I1 j0 hj0]
    refine ⟨fun j => if j = σ k then v (σ k) - m else v j, ?_, ?_, ?_, ?_⟩
    · unfold transfer at ev ⊢
      rw [List.range_succ, List.foldl_append, ev]
      simp only [List.foldl_cons, List.foldl_nil, transferStep, em]
    · intro j hj
      by_cases h : j = σ k
      · subst h
        simp only [if_true]
        linarith only [I1 (σ k) hj, hm0]
      · simp only [h, if_false]; exact I1 j hj
    · intro i hki hi
      have hne : σ i ≠ σ k := fun h => by have := hσinj i k hi hk' h; omega
      simp only [hne, if_false]
      exact I2 i (by omega) hi
    · intro i hi j hj
      by_cases hik : i = k
      · subst hik
        have hvk : v (σ i) = c i (σ i) := I2 i (Nat.le_refl _) hk'
        simp only [if_true]
        by_cases hjk : j = σ i
        · subst hjk; simp
        · simp only [hjk, if_false]
          rw [hvk]; linarith only [T1 j hj hjk]
      · have hi' : i < k := by omega
        have hne : σ i ≠ σ k := fun h => by have := hσinj i k (by omega) hk' h; omega
        simp only [hne, if_false]
        by_cases hjk : j = σ k
        · subst hjk
          simp only [if_true]
          linarith only [I3 i hi' (σ k) hj, hm0]
        · simp only [hjk, if_false]
          exact I3 i hi' j hj

/-- **the column reduction of `lap` is correct**: whenever the column reduction leaves no free row,
the answer (row and column assignment, dual variables, cost) is a permutation with its inverse,
certified by `u`, `v`, and the returned cost is the cost of the assignment -/
theorem lapEasy_certified (n : Nat) (c : Nat → Nat → ℝ) (a : Easy ℝ) (h : lapEasy n c = some a) :
    permB n a.rowSol a.colSol = true ∧ certB n c a.rowSol a.u a.v = true ∧ a.cost = cost n c a.rowSol := by
  unfold lapEasy at h
  simp only at h
  split at h
  · next hchk =>
    rw [allLt_iff] at hchk
    have hinv1 : ∀ i, i < n → colMinRow n c (easyRowSol n (colMinRow n c) i) = i := fun i hi => by
      have := hchk i hi; simp only [Bool.and_eq_true, decide_eq_true_eq] at this; exact this.1
    have hσlt : ∀ i, i < n → easyRowSol n (colMinRow n c) i < n := fun i hi => easyRowSol_lt n _ i (by omega)
    by_cases hn : n > 1
    · rw [if_pos hn] at h
      obtain ⟨v, ev, I1, I2, I3⟩ := transfer_inv n c _ hn hinv1 n (Nat.le_refl n)
      rw [ev] at h
      simp only [Option.some.injEq] at h
      subst h
      exact ⟨permB_iff.2 fun i hi => ⟨hσlt i hi, hinv1 i hi⟩, certB_of_tight (fun _ _ => rfl) I3, by simp only [cost, Spec.sumTo]⟩
    · rw [if_neg hn] at h
      simp only [Option.some.injEq] at h
      subst h
      -- at most one row and one column: the only pair is the tightest of its row
      refine ⟨permB_iff.2 fun i hi => ⟨hσlt i hi, hinv1 i hi⟩, certB_of_tight (fun _ _ => rfl) (fun i hi j hj => ?_),
        by simp only [cost, Spec.sumTo]⟩
      have hj0 : j = easyRowSol n (colMinRow n c) i := by have := hσlt i hi; omega
      rw [hj0]
  · cases h

end Bpp.Mx.Lap
