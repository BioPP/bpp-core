import BppProofs.Lemmas.AliasInv
/-! Copy construction and assignment of an `AbstractParameterAliasable` (C03): what `cloneAll`,
`rebuildIndep`, `rebuildReg` build, and the invariant of the result. -/
namespace Bpp.Alias
open Bpp.ParamList (Bnd Con Par Store ObjId nameOf find? hasParameter names startsWith)

/-! ## `cloneAll` -/

structure Cloned (w W : World) (l cl : List ObjId) : Prop where
  next : W.heap.next = w.heap.next + l.length
  len : cl.length = l.length
  lis : W.lis = w.lis
  lnext : W.lnext = w.lnext
  objs : W.objs = w.objs
  old : ∀ i, i < w.heap.next → W.heap.get i = w.heap.get i ∧ W.lsn i = w.lsn i
  new : ∀ j i, l[j]? = some i → cl[j]? = some (w.heap.next + j) ∧
    W.heap.get (w.heap.next + j) = w.heap.get i ∧ W.lsn (w.heap.next + j) = w.lsn i

theorem cloneAll_spec : ∀ (l : List ObjId) (w : World), (∀ i ∈ l, i < w.heap.next) →
    Cloned w (cloneAll w l).1 l (cloneAll w l).2
  | [], w, _ => ⟨by simp [cloneAll], rfl, rfl, rfl, rfl, fun _ _ => ⟨rfl, rfl⟩, fun j i h => by simp at h⟩
  | a :: rest, w, hv => by
    have ha : a < w.heap.next := hv a (List.mem_cons_self ..)
    have hrest : ∀ i ∈ rest, i < (w.allocPar (w.heap.get a) (w.lsn a)).1.heap.next := fun i hi => by
      have := hv i (List.mem_cons_of_mem _ hi)
      exact Nat.lt_succ_of_lt this
    have ih := cloneAll_spec rest (w.allocPar (w.heap.get a) (w.lsn a)).1 hrest
    simp only [cloneAll]
    refine ⟨?_, ?_, ?_, ?_, ?_, ?_, ?_⟩
    · rw [ih.next]; simp only [allocPar_next, List.length_cons]; omega
    · simp only [List.length_cons, ih.len]
    · rw [ih.lis]; rfl
    · rw [ih.lnext]; rfl
    · rw [ih.objs]; rfl
    · intro i hi
      obtain ⟨h1, h2⟩ := ih.old i (by simp only [allocPar_next]; omega)
      have hne : i ≠ w.heap.next := Nat.ne_of_lt hi
      rw [h1, h2]; simp [hne]
    · intro j i hj
      cases j with
      | zero =>
        simp only [List.getElem?_cons_zero, Option.some.injEq] at hj
        subst hj
        obtain ⟨h1, h2⟩ := ih.old w.heap.next (by simp)
        refine ⟨by simp, ?_, ?_⟩
        · rw [Nat.add_zero, h1]; simp
        · rw [Nat.add_zero, h2]; simp
      | succ j =>
        simp only [List.getElem?_cons_succ] at hj
        obtain ⟨h1, h2, h3⟩ := ih.new j i hj
        have hi : i < w.heap.next := hv i (List.mem_cons_of_mem _ (List.mem_of_getElem? hj))
        have hne : i ≠ w.heap.next := Nat.ne_of_lt hi
        have e : (w.allocPar (w.heap.get a) (w.lsn a)).1.heap.next + j = w.heap.next + (j + 1) := by
          simp only [allocPar_next]; omega
        rw [e] at h1 h2 h3
        refine ⟨by simpa using h1, ?_, ?_⟩
        · rw [h2]; simp [hne]
        · rw [h3]; simp [hne]

/-! ## `rebuildIndep` -/

theorem rebuildIndep_spec {W : World} {pre : String} {cl : List ObjId} (φ : ObjId → ObjId) :
    ∀ (srcs ind : List ObjId),
      (∀ s ∈ srcs, ∃ x, nameOf W.heap s = pre ++ x ∧ find? W.heap cl (pre ++ x) = some (φ s) ∧
        nameOf W.heap (φ s) = pre ++ x) →
      (names W.heap srcs).Nodup →
      (∀ s ∈ srcs, nameOf W.heap s ∉ names W.heap ind) →
      rebuildIndep pre cl W ind srcs = ({ w := W }, ind ++ srcs.map φ)
  | [], ind, _, _, _ => by simp [rebuildIndep]
  | s :: rest, ind, hφ, nd, hdis => by
    obtain ⟨x, hx, hf, hn⟩ := hφ s (List.mem_cons_self ..)
    simp only [names, List.map_cons, List.nodup_cons] at nd
    have hhas : hasParameter W.heap ind (pre ++ x) = false := by
      rw [ParamList.hasParameter_false_iff, ← hx]; exact hdis s (List.mem_cons_self ..)
    simp only [rebuildIndep, hx, stripNs_append, hf, shareParameter, hn, hhas, Bool.false_eq_true, if_false]
    rw [rebuildIndep_spec φ rest (ind ++ [φ s]) (fun t ht => hφ t (List.mem_cons_of_mem _ ht)) nd.2]
    · simp
    · intro t ht hm
      rw [ParamList.names_append] at hm
      rcases List.mem_append.1 hm with a | a
      · exact hdis t (List.mem_cons_of_mem _ ht) a
      · simp only [names, List.map_cons, List.map_nil, List.mem_singleton] at a
        rw [hn, ← hx] at a
        exact nd.1 (List.mem_map.2 ⟨t, ht, a⟩)

/-! ## `retarget` and `rebuildReg` -/

/-- the new listener list of one parameter in the inner loop -/
def retargeted (w : World) (id : String) (newL : Nat) (c : ObjId) : List Nat :=
  if (w.lsn c).any (fun l => (w.lis l).id == id) then (w.lsn c).filter (fun l => (w.lis l).id != id) ++ [newL]
  else w.lsn c

theorem retarget_spec (id : String) (newL : Nat) : ∀ (cl : List ObjId) (w : World), cl.Nodup →
    (retarget id newL w cl).heap = w.heap ∧ (retarget id newL w cl).lis = w.lis ∧
    (retarget id newL w cl).lnext = w.lnext ∧ (retarget id newL w cl).objs = w.objs ∧
    (∀ c, c ∉ cl → (retarget id newL w cl).lsn c = w.lsn c) ∧
    (∀ c ∈ cl, (retarget id newL w cl).lsn c = retargeted w id newL c)
  | [], w, _ => ⟨rfl, rfl, rfl, rfl, fun _ _ => rfl, fun c hc => by cases hc⟩
  | a :: rest, w, nd => by
    simp only [List.nodup_cons] at nd
    simp only [retarget]
    by_cases hc : (w.lsn a).any (fun l => (w.lis l).id == id) = true
    · simp only [hc, if_true]
      obtain ⟨h1, h2, h3, h4, h5, h6⟩ := retarget_spec id newL rest
        (w.setLsn a ((w.lsn a).filter (fun l => (w.lis l).id != id) ++ [newL])) nd.2
      refine ⟨h1, h2, h3, h4, fun c hcn => ?_, fun c hcm => ?_⟩
      · rw [h5 c (fun m => hcn (List.mem_cons_of_mem _ m))]
        have : c ≠ a := fun e => hcn (e ▸ List.mem_cons_self ..)
        simp [this]
      · rcases List.mem_cons.1 hcm with rfl | hm
        · rw [h5 c nd.1]; simp [retargeted, hc]
        · have : c ≠ a := fun e => nd.1 (e ▸ hm)
          rw [h6 c hm]; simp [retargeted, this]
    · have hc' : (w.lsn a).any (fun l => (w.lis l).id == id) = false := by simpa using hc
      simp only [hc', Bool.false_eq_true, if_false]
      obtain ⟨h1, h2, h3, h4, h5, h6⟩ := retarget_spec id newL rest w nd.2
      refine ⟨h1, h2, h3, h4, fun c hcn => h5 c (fun m => hcn (List.mem_cons_of_mem _ m)), fun c hcm => ?_⟩
      rcases List.mem_cons.1 hcm with rfl | hm
      · rw [h5 c nd.1]; simp [retargeted, hc']
      · exact h6 c hm

/-- what `rebuildReg` may assume of the world `w0` it starts from (just after the parameters were
cloned), of the clones `cl` and of the source's registry `R` -/
structure RCtx (w0 : World) (cl : List ObjId) (R : List (String × Nat)) : Prop where
  clNodup : cl.Nodup
  keys : (R.map Prod.fst).Nodup
  lids : (R.map Prod.snd).Nodup
  regId : ∀ e ∈ R, (w0.lis e.2).id = e.1 ∧ e.2 < w0.lnext
  lsnReg : ∀ c ∈ cl, ∀ x ∈ w0.lsn c, ((w0.lis x).id, x) ∈ R

/-- the state of `rebuildReg` after the entries `done`: `nu` pairs every processed listener
object of the source with its clone -/
structure RR (w0 w : World) (d : Nat) (cl : List ObjId) (done : List (String × Nat)) (nu : List (Nat × Nat))
    (acc : List (String × Nat)) : Prop where
  heap : w.heap = w0.heap
  objs : w.objs = w0.objs
  lnext : w0.lnext ≤ w.lnext
  lisOld : ∀ x, x < w0.lnext → w.lis x = w0.lis x
  nuFst : nu.map Prod.fst = done.map Prod.snd
  nuNew : ∀ p ∈ nu, w0.lnext ≤ p.2 ∧ p.2 < w.lnext ∧ w.lis p.2 = { w0.lis p.1 with pl := d }
  nuInj : (nu.map Prod.snd).Nodup
  lsnOut : ∀ c, c ∉ cl → w.lsn c = w0.lsn c
  lsnIn : ∀ c ∈ cl, ∀ x, x ∈ w.lsn c ↔
    (x ∈ w0.lsn c ∧ x ∉ done.map Prod.snd) ∨ (∃ l, (l, x) ∈ nu ∧ l ∈ w0.lsn c)
  accMem : ∀ q, q ∈ acc ↔ ∃ e ∈ done, ∃ x, (e.2, x) ∈ nu ∧ q = (e.1, x)
  accKeys : (acc.map Prod.fst).Nodup

theorem RR.init (w0 : World) (d : Nat) (cl : List ObjId) : RR w0 w0 d cl [] [] [] where
  heap := rfl
  objs := rfl
  lnext := Nat.le_refl _
  lisOld _ _ := rfl
  nuFst := rfl
  nuNew p hp := by cases hp
  nuInj := List.nodup_nil
  lsnOut _ _ := rfl
  lsnIn c _ x := by simp
  accMem q := by simp
  accKeys := List.nodup_nil

theorem RR.step {w0 w : World} {d : Nat} {cl : List ObjId} {R done todo : List (String × Nat)} {nu : List (Nat × Nat)}
    {acc : List (String × Nat)} {id : String} {l : Nat} (ctx : RCtx w0 cl R) (hR : R = done ++ (id, l) :: todo)
    (r : RR w0 w d cl done nu acc) :
    RR w0 (retarget id w.lnext (w.allocLis { w.lis l with pl := d }).1 cl) d cl (done ++ [(id, l)])
      (nu ++ [(l, w.lnext)]) (mapInsert id w.lnext acc) := by
  have heR : (id, l) ∈ R := by rw [hR]; simp
  have hdoneR : ∀ e ∈ done, e ∈ R := fun e he => by rw [hR]; exact List.mem_append_left _ he
  have hkeys := ctx.keys
  have hlids := ctx.lids
  rw [hR] at hkeys hlids
  simp only [List.map_append, List.map_cons] at hkeys hlids
  have hidnew : id ∉ done.map Prod.fst := fun m =>
    (List.nodup_append.1 hkeys).2.2 id m id (List.mem_cons_self ..) rfl
  have hlnew : l ∉ done.map Prod.snd := fun m =>
    (List.nodup_append.1 hlids).2.2 l m l (List.mem_cons_self ..) rfl
  obtain ⟨hlid, hllt⟩ := ctx.regId _ heR
  simp only at hlid hllt
  have hwl : w.lis l = w0.lis l := r.lisOld l hllt
  set ν := w.lnext with hν
  set A := (w.allocLis { w.lis l with pl := d }).1 with hA
  obtain ⟨t1, t2, t3, t4, t5, t6⟩ := retarget_spec id ν cl A ctx.clNodup
  have hAlis : ∀ x, x ≠ ν → A.lis x = w.lis x := fun x hx => if_neg hx
  have hAν : A.lis ν = { w0.lis l with pl := d } := by
    show (if ν = w.lnext then _ else _) = _
    rw [if_pos rfl, hwl]
  have hAlsn : A.lsn = w.lsn := rfl
  -- ids of the listeners currently attached to a clone
  have hidOf : ∀ c ∈ cl, ∀ x ∈ w.lsn c, ((A.lis x).id = id ↔ x = l) ∧ x ≠ ν := by
    intro c hc x hx
    rcases (r.lsnIn c hc x).1 hx with ⟨hx0, _⟩ | ⟨l', hl', _⟩
    · have hreg := ctx.lsnReg c hc x hx0
      obtain ⟨_, hxlt⟩ := ctx.regId _ hreg
      simp only at hxlt
      have hxν : x ≠ ν := Nat.ne_of_lt (Nat.lt_of_lt_of_le hxlt r.lnext)
      refine ⟨?_, hxν⟩
      rw [hAlis x hxν, r.lisOld x hxlt]
      constructor
      · intro hid
        rw [hid] at hreg
        have h1 := (mapFind?_eq_some ctx.keys).2 hreg
        have h2 := (mapFind?_eq_some ctx.keys).2 heR
        rw [h1] at h2; exact Option.some.inj h2
      · rintro rfl; exact hlid
    · obtain ⟨n1, n2, n3⟩ := r.nuNew _ hl'
      simp only at n1 n2 n3
      have hxν : x ≠ ν := Nat.ne_of_lt n2
      refine ⟨?_, hxν⟩
      rw [hAlis x hxν, n3]
      simp only
      have hl'd : l' ∈ done.map Prod.snd := by rw [← r.nuFst]; exact List.mem_map.2 ⟨_, hl', rfl⟩
      obtain ⟨e', he', hs'⟩ := List.mem_map.1 hl'd
      have hid' := (ctx.regId e' (hdoneR e' he')).1
      rw [hs'] at hid'
      constructor
      · intro hid
        exact absurd (List.mem_map.2 ⟨e', he', by rw [← hid, hid']⟩) hidnew
      · rintro rfl
        exact absurd (Nat.lt_of_lt_of_le hllt n1) (Nat.lt_irrefl _)
  have hlin : ∀ c ∈ cl, (l ∈ w.lsn c ↔ l ∈ w0.lsn c) := by
    intro c hc
    rw [r.lsnIn c hc l]
    constructor
    · rintro (⟨a, _⟩ | ⟨l', hl', _⟩)
      · exact a
      · exact absurd (Nat.lt_of_lt_of_le hllt (r.nuNew _ hl').1) (Nat.lt_irrefl _)
    · intro a; exact Or.inl ⟨a, hlnew⟩
  have hany : ∀ c ∈ cl, ((A.lsn c).any (fun x => (A.lis x).id == id) = true ↔ l ∈ w0.lsn c) := by
    intro c hc
    rw [List.any_eq_true, hAlsn]
    constructor
    · rintro ⟨x, hx, hid⟩
      have := ((hidOf c hc x hx).1).1 (by simpa using hid)
      subst this
      exact (hlin c hc).1 hx
    · intro a
      exact ⟨l, (hlin c hc).2 a, by simpa using ((hidOf c hc l ((hlin c hc).2 a)).1).2 rfl⟩
  have hfilter : ∀ c ∈ cl, ∀ x, x ∈ (A.lsn c).filter (fun x => (A.lis x).id != id) ↔ x ∈ w.lsn c ∧ x ≠ l := by
    intro c hc x
    rw [List.mem_filter, hAlsn]
    constructor
    · rintro ⟨hx, hne⟩
      refine ⟨hx, fun e => ?_⟩
      have := ((hidOf c hc x hx).1).2 e
      rw [this] at hne; simp at hne
    · rintro ⟨hx, hne⟩
      refine ⟨hx, ?_⟩
      have := (hidOf c hc x hx).1
      simp only [bne_iff_ne, ne_eq]
      exact fun e => hne (this.1 e)
  have hfreshAcc : id ∉ acc.map Prod.fst := by
    intro m
    obtain ⟨q, hq, hk⟩ := List.mem_map.1 m
    obtain ⟨e, he, x, _, rfl⟩ := (r.accMem q).1 hq
    exact hidnew (List.mem_map.2 ⟨e, he, hk⟩)
  refine
    { heap := by rw [t1]; exact r.heap, objs := by rw [t4]; exact r.objs,
      lnext := by rw [t3]; exact Nat.le_trans r.lnext (Nat.le_succ _),
      lisOld := ?_, nuFst := by simp [r.nuFst], nuNew := ?_, nuInj := ?_, lsnOut := ?_, lsnIn := ?_, accMem := ?_, accKeys := ?_ }
  · intro x hx
    rw [t2, hAlis x (Nat.ne_of_lt (Nat.lt_of_lt_of_le hx r.lnext))]; exact r.lisOld x hx
  · intro p hp
    rw [t3, t2]
    rcases List.mem_append.1 hp with hp | hp
    · obtain ⟨n1, n2, n3⟩ := r.nuNew p hp
      refine ⟨n1, Nat.lt_succ_of_lt n2, ?_⟩
      rw [hAlis p.2 (Nat.ne_of_lt n2)]; exact n3
    · rw [List.mem_singleton.1 hp]
      exact ⟨r.lnext, Nat.lt_succ_self _, hAν⟩
  · rw [List.map_append, List.nodup_append]
    refine ⟨r.nuInj, by simp, ?_⟩
    intro a ha b hb
    simp only [List.map_cons, List.map_nil, List.mem_singleton] at hb
    obtain ⟨p, hp, rfl⟩ := List.mem_map.1 ha
    rw [hb]; exact Nat.ne_of_lt (r.nuNew p hp).2.1
  · intro c hc
    rw [t5 c hc]; exact r.lsnOut c hc
  · intro c hc x
    rw [t6 c hc]
    simp only [retargeted]
    by_cases hl0 : l ∈ w0.lsn c
    · rw [if_pos ((hany c hc).2 hl0), List.mem_append, hfilter c hc x, List.mem_singleton]
      constructor
      · rintro (⟨hx, hne⟩ | rfl)
        · rcases (r.lsnIn c hc x).1 hx with ⟨a, b⟩ | ⟨l', hl', hl'0⟩
          · left; refine ⟨a, ?_⟩
            simp only [List.map_append, List.map_cons, List.map_nil, List.mem_append, List.mem_singleton]
            rintro (m | m)
            · exact b m
            · exact hne m
          · right; exact ⟨l', List.mem_append_left _ hl', hl'0⟩
        · right; exact ⟨l, by simp, hl0⟩
      · rintro (⟨a, b⟩ | ⟨l', hl', hl'0⟩)
        · simp only [List.map_append, List.map_cons, List.map_nil, List.mem_append, List.mem_singleton, not_or] at b
          left; exact ⟨(r.lsnIn c hc x).2 (Or.inl ⟨a, b.1⟩), b.2⟩
        · rcases List.mem_append.1 hl' with hl' | hl'
          · left
            refine ⟨(r.lsnIn c hc x).2 (Or.inr ⟨l', hl', hl'0⟩), ?_⟩
            intro hxl
            have h1 := (r.nuNew _ hl').1
            simp only at h1
            rw [hxl] at h1
            exact absurd (Nat.lt_of_lt_of_le hllt h1) (Nat.lt_irrefl _)
          · simp only [List.mem_singleton, Prod.mk.injEq] at hl'
            right; exact hl'.2
    · have : ¬ ((A.lsn c).any (fun x => (A.lis x).id == id) = true) := fun h => hl0 ((hany c hc).1 h)
      rw [if_neg this, hAlsn, r.lsnIn c hc x]
      constructor
      · rintro (⟨a, b⟩ | ⟨l', hl', hl'0⟩)
        · left; refine ⟨a, ?_⟩
          simp only [List.map_append, List.map_cons, List.map_nil, List.mem_append, List.mem_singleton]
          rintro (m | m)
          · exact b m
          · exact hl0 (m ▸ a)
        · right; exact ⟨l', List.mem_append_left _ hl', hl'0⟩
      · rintro (⟨a, b⟩ | ⟨l', hl', hl'0⟩)
        · simp only [List.map_append, List.map_cons, List.map_nil, List.mem_append, List.mem_singleton, not_or] at b
          left; exact ⟨a, b.1⟩
        · rcases List.mem_append.1 hl' with hl' | hl'
          · right; exact ⟨l', hl', hl'0⟩
          · simp only [List.mem_singleton, Prod.mk.injEq] at hl'
            exact absurd (hl'.1 ▸ hl'0) hl0
  · intro q
    rw [mem_mapInsert hfreshAcc]
    constructor
    · rintro (rfl | hq)
      · exact ⟨(id, l), by simp, ν, by simp, rfl⟩
      · obtain ⟨e, he, x, hx, rfl⟩ := (r.accMem q).1 hq
        exact ⟨e, List.mem_append_left _ he, x, List.mem_append_left _ hx, rfl⟩
    · rintro ⟨e, he, x, hx, rfl⟩
      rcases List.mem_append.1 he with he | he
      · rcases List.mem_append.1 hx with hx | hx
        · right; exact (r.accMem _).2 ⟨e, he, x, hx, rfl⟩
        · simp only [List.mem_singleton, Prod.mk.injEq] at hx
          exact absurd (List.mem_map.2 ⟨e, he, hx.1⟩) hlnew
      · rw [List.mem_singleton.1 he] at hx ⊢
        simp only at hx
        rcases List.mem_append.1 hx with hx | hx
        · have : l ∈ nu.map Prod.fst := List.mem_map.2 ⟨_, hx, rfl⟩
          rw [r.nuFst] at this
          exact absurd this hlnew
        · simp only [List.mem_singleton, Prod.mk.injEq] at hx
          left; rw [hx.2]
  · exact keys_mapInsert hfreshAcc r.accKeys

theorem rebuildReg_RR {w0 : World} {d : Nat} {cl : List ObjId} {R : List (String × Nat)} (ctx : RCtx w0 cl R) :
    ∀ (todo done : List (String × Nat)) (nu : List (Nat × Nat)) (acc : List (String × Nat)) (w : World),
      R = done ++ todo → RR w0 w d cl done nu acc →
      ∃ nu', RR w0 (rebuildReg d cl w acc todo).1 d cl R nu' (rebuildReg d cl w acc todo).2
  | [], done, nu, acc, w, hR, r => by
    rw [List.append_nil] at hR; subst hR
    exact ⟨nu, r⟩
  | (id, l) :: rest, done, nu, acc, w, hR, r => by
    simp only [rebuildReg]
    exact rebuildReg_RR ctx rest (done ++ [(id, l)]) _ _ _ (by rw [hR]; simp) (r.step ctx hR)

/-! ## The rebuilt object -/

/-- the clone of the parameter object `s` of the source -/
def cloneOf (w : World) (o : Obj) (s : ObjId) : ObjId := w.heap.next + o.params.idxOf s

theorem cloneOf_pos {w : World} {k : Nat} {o : Obj} (h : ObjInv w k o) {j : Nat} {i : ObjId} (hj : o.params[j]? = some i) :
    cloneOf w o i = w.heap.next + j := by
  have hlt := (List.getElem?_eq_some_iff.1 hj).1
  have hji : o.params[j] = i := (List.getElem?_eq_some_iff.1 hj).2
  have hidx : o.params.idxOf i = j := by
    rw [← hji]; exact List.Nodup.idxOf_getElem h.idsNodup j hlt
  simp only [cloneOf, hidx]

theorem cloneOf_inj {w : World} {k : Nat} {o : Obj} (h : ObjInv w k o) {i j : ObjId} (hi : i ∈ o.params) (hj : j ∈ o.params)
    (e : cloneOf w o i = cloneOf w o j) : i = j := by
  obtain ⟨ji, hji⟩ := h.exists_pos hi
  obtain ⟨jj, hjj⟩ := h.exists_pos hj
  rw [cloneOf_pos h hji, cloneOf_pos h hjj] at e
  cases Nat.add_left_cancel e
  exact Option.some.inj (hji.symm.trans hjj)

/-- the clones, in order -/
theorem Cloned.eq_map {w W : World} {k : Nat} {o : Obj} {cl : List ObjId} (c : Cloned w W o.params cl) (h : ObjInv w k o) :
    cl = o.params.map (cloneOf w o) := by
  apply List.ext_getElem?
  intro j
  rw [List.getElem?_map]
  cases hj : o.params[j]? with
  | none => exact List.getElem?_eq_none_iff.2 (c.len ▸ List.getElem?_eq_none_iff.1 hj)
  | some i => rw [(c.new j i hj).1, Option.map_some, cloneOf_pos h hj]

/-- a clone carries the name, value and constraint of its original, and its listeners -/
theorem Cloned.clone {w W : World} {k : Nat} {o : Obj} {cl : List ObjId} (c : Cloned w W o.params cl) (h : ObjInv w k o)
    {i : ObjId} (hi : i ∈ o.params) : W.heap.get (cloneOf w o i) = w.heap.get i ∧ W.lsn (cloneOf w o i) = w.lsn i := by
  obtain ⟨j, hj⟩ := h.exists_pos hi
  rw [cloneOf_pos h hj]; exact (c.new j i hj).2

/-- the object built by the two loops, given the rebuilt registry `reg'` -/
abbrev rebuiltObj (w : World) (o : Obj) (reg' : List (String × Nat)) : Obj :=
  { params := o.params.map (cloneOf w o), indep := o.indep.map (cloneOf w o), reg := reg', pre := o.pre }

theorem rebuiltObj_fresh {w : World} {o : Obj} {reg' : List (String × Nat)} : ∀ c ∈ (rebuiltObj w o reg').params, w.heap.next ≤ c := by
  intro c hc
  obtain ⟨i, _, rfl⟩ := List.mem_map.1 hc
  exact Nat.le_add_right _ _

theorem rebuild_ok {w B : World} {s d : Nat} {o : Obj} {cl : List ObjId} {wc : World} (hs : ObjInv w s o)
    (hc : Cloned w wc o.params cl)
    (bh : B.heap = wc.heap) (bl : B.lsn = wc.lsn) (bli : B.lis = wc.lis) (bln : B.lnext = wc.lnext) :
    ∃ nu reg' Wf, rebuild B o d cl [] [] = ({ w := Wf.setObj d (rebuiltObj w o reg') } : WR) ∧
      RR B Wf d cl o.reg nu reg' := by
  obtain rfl := hc.eq_map hs
  have hclone : ∀ i ∈ o.params, B.heap.get (cloneOf w o i) = w.heap.get i ∧ B.lsn (cloneOf w o i) = w.lsn i :=
    fun i hi => by rw [bh, bl]; exact hc.clone hs hi
  have hold : ∀ i, i < w.heap.next → B.heap.get i = w.heap.get i := fun i hi => by rw [bh]; exact (hc.old i hi).1
  have hnamesCl : names B.heap (o.params.map (cloneOf w o)) = names w.heap o.params := by
    rw [names, List.map_map]
    exact List.map_congr_left fun i hi => by simp only [Function.comp, nameOf, (hclone i hi).1]
  have hind : rebuildIndep o.pre (o.params.map (cloneOf w o)) B [] o.indep = ({ w := B }, [] ++ o.indep.map (cloneOf w o)) := by
    refine rebuildIndep_spec (cloneOf w o) o.indep [] ?_ ?_ (fun _ _ hm => by cases hm)
    · intro t ht
      have htp := hs.indepSub t ht
      obtain ⟨x, hx, _⟩ := hs.plain t htp
      have hnt : nameOf B.heap t = o.pre ++ x := by
        simp only [nameOf, hold t (hs.valid t htp)]; exact hx
      have hnc : nameOf B.heap (cloneOf w o t) = o.pre ++ x := by
        simp only [nameOf, (hclone t htp).1]; exact hx
      refine ⟨x, hnt, ?_, hnc⟩
      rw [find?_iff (by rw [hnamesCl]; exact hs.nodup)]
      exact ⟨List.mem_map_of_mem htp, hnc⟩
    · have : names B.heap o.indep = names w.heap o.indep :=
        ParamList.names_congr (fun i hi => by simp only [nameOf, hold i (hs.valid i (hs.indepSub i hi))])
      rw [this]; exact hs.indepNames
  have ctx : RCtx B (o.params.map (cloneOf w o)) o.reg := by
    refine ⟨List.Nodup.map_on (fun i hi j hj e => cloneOf_inj hs hi hj e) hs.idsNodup, hs.regKeys, hs.lisNodup,
      fun e he => ?_, fun c hcm x hx => ?_⟩
    · rw [bli, hc.lis, bln, hc.lnext]; exact ⟨(hs.regOk e he).id, (hs.regOk e he).lt⟩
    · obtain ⟨i, hi, rfl⟩ := List.mem_map.1 hcm
      rw [(hclone i hi).2] at hx
      rw [bli, hc.lis]
      exact (hs.lsnOk i hi x hx).1
  obtain ⟨nu, rr⟩ := rebuildReg_RR (d := d) ctx o.reg [] [] [] B rfl (RR.init B d _)
  refine ⟨nu, (rebuildReg d _ B [] o.reg).2, (rebuildReg d _ B [] o.reg).1, ?_, rr⟩
  simp only [rebuild, hind, List.nil_append]

/-- the rebuilt object is the source carried along `cloneOf` and the pairing `nu` of listeners -/
theorem rebuilt_carried {w B Wf : World} {s d : Nat} {o : Obj} {cl : List ObjId} {wc : World} {nu : List (Nat × Nat)}
    {reg' : List (String × Nat)} (hs : ObjInv w s o) (hc : Cloned w wc o.params cl)
    (bh : B.heap = wc.heap) (bl : B.lsn = wc.lsn) (bli : B.lis = wc.lis) (rr : RR B Wf d cl o.reg nu reg') :
    Carried w (Wf.setObj d (rebuiltObj w o reg')) s d o (rebuiltObj w o reg') (cloneOf w o) (fun l x => (l, x) ∈ nu) := by
  obtain rfl := hc.eq_map hs
  have hclone : ∀ i ∈ o.params, Wf.heap.get (cloneOf w o i) = w.heap.get i ∧ B.lsn (cloneOf w o i) = w.lsn i :=
    fun i hi => by rw [rr.heap, bh, bl]; exact hc.clone hs hi
  exact
    { params := rfl
      indep := rfl
      inj := fun i hi j hj e => cloneOf_inj hs hi hj e
      valid := fun i hi => by
        show _ < Wf.heap.next
        rw [rr.heap, bh, hc.next]
        exact Nat.add_lt_add_left (List.idxOf_lt_length_of_mem hi) _
      name := fun i hi x hx => by simp only [nameOf, setObj_heap, (hclone i hi).1]; exact hx
      total := fun e he => by
        have : e.2 ∈ nu.map Prod.fst := by rw [rr.nuFst]; exact List.mem_map.2 ⟨e, he, rfl⟩
        obtain ⟨p, hp, hpe⟩ := List.mem_map.1 this
        exact ⟨p.2, by rw [← hpe]; exact hp⟩
      func := fun e _ x x' h1 h2 =>
        (Prod.mk.inj (List.inj_on_of_nodup_map (by rw [rr.nuFst]; exact hs.lisNodup) h1 h2 rfl)).2
      reg := rr.accMem
      keys := rr.accKeys
      lis := fun e _ x hx =>
        ⟨(rr.nuNew _ hx).2.1, (w.lis e.2).name, by rw [setObj_lis, (rr.nuNew _ hx).2.2, bli, hc.lis], fun _ hy => hy⟩
      lsn := fun i hi x => by
        show x ∈ Wf.lsn _ ↔ _
        rw [rr.lsnIn _ (List.mem_map_of_mem hi) x, (hclone i hi).2]
        constructor
        · rintro (⟨a, b⟩ | ⟨l, hl, hl0⟩)
          · exact absurd (List.mem_map.2 ⟨_, (hs.lsnOk i hi x a).1, rfl⟩) b
          · exact ⟨l, hl0, hl⟩
        · rintro ⟨l, hl0, hl⟩; exact Or.inr ⟨l, hl, hl0⟩ }

/-! ## Copy construction and assignment preserve the invariant -/

/-- what copy construction / assignment of slot `s` into slot `d` did: slot `d` holds the source carried along `cloneOf`,
every clone with the name, value and constraint of its original; what was there before is untouched -/
structure Rebuilt (w : World) (s d : Nat) (o : Obj) (W : World) where
  reg' : List (String × Nat)
  nu : List (Nat × Nat)
  carried : Carried w W s d o (rebuiltObj w o reg') (cloneOf w o) (fun l x => (l, x) ∈ nu)
  get : ∀ i ∈ o.params, W.heap.get (cloneOf w o i) = w.heap.get i
  /-- the loops that rebuild the independent list and the registry leave the parameter objects alone -/
  heap : W.heap = (cloneAll w o.params).1.heap
  objs : W.objs = fun j => if j = d then some (rebuiltObj w o reg') else w.objs j
  next : w.heap.next ≤ W.heap.next
  lnext : w.lnext ≤ W.lnext
  old : ∀ i, i < w.heap.next → W.heap.get i = w.heap.get i ∧ W.lsn i = w.lsn i
  lisOld : ∀ l, l < w.lnext → W.lis l = w.lis l

theorem rebuilt_of {w B Wf : World} {s d : Nat} {o : Obj} {cl : List ObjId} {wc : World} {nu : List (Nat × Nat)}
    {reg' : List (String × Nat)} (hs : ObjInv w s o) (hc : Cloned w wc o.params cl)
    (bh : B.heap = wc.heap) (bl : B.lsn = wc.lsn) (bli : B.lis = wc.lis) (bln : B.lnext = wc.lnext)
    (bo : ∀ j, j ≠ d → B.objs j = w.objs j) (hwc : wc.heap = (cloneAll w o.params).1.heap)
    (rr : RR B Wf d cl o.reg nu reg') : Nonempty (Rebuilt w s d o (Wf.setObj d (rebuiltObj w o reg'))) := by
  have hcl := hc.eq_map hs
  have hnotcl : ∀ i, i < w.heap.next → i ∉ cl := fun i hi hm =>
    Nat.lt_irrefl _ (Nat.lt_of_lt_of_le hi (rebuiltObj_fresh (reg' := reg') i (hcl ▸ hm)))
  refine ⟨⟨reg', nu, rebuilt_carried hs hc bh bl bli rr, fun i hi => ?_, ?_, ?_, ?_, ?_, fun i hi => ⟨?_, ?_⟩, fun l hl => ?_⟩⟩
  · show Wf.heap.get _ = _
    rw [rr.heap, bh]; exact (hc.clone hs hi).1
  · show Wf.heap = _
    rw [rr.heap, bh, hwc]
  · funext j
    simp only [setObj_objs]
    split
    · rfl
    · rename_i hj; rw [rr.objs]; exact bo j hj
  · show w.heap.next ≤ Wf.heap.next
    rw [rr.heap, bh, hc.next]; exact Nat.le_add_right _ _
  · show w.lnext ≤ Wf.lnext
    have := rr.lnext; rw [bln, hc.lnext] at this; exact this
  · show Wf.heap.get i = _
    rw [rr.heap, bh]; exact (hc.old i hi).1
  · show Wf.lsn i = _
    rw [rr.lsnOut i (hnotcl i hi), bl]; exact (hc.old i hi).2
  · show Wf.lis l = _
    rw [rr.lisOld l (by rw [bln, hc.lnext]; exact hl), bli, hc.lis]

theorem Rebuilt.inv {w W : World} {s d : Nat} {o : Obj} (r : Rebuilt w s d o W) (hs : ObjInv w s o) :
    ObjInv W d (rebuiltObj w o r.reg') := r.carried.inv hs

theorem Rebuilt.fr {w W : World} {s d : Nat} {o : Obj} (r : Rebuilt w s d o W) (P : List ObjId) : Fr d P w W :=
  ⟨r.next, r.lnext, fun i hi _ => r.old i hi, fun l hl _ => r.lisOld l hl, fun j hj => by rw [r.objs]; simp [hj]⟩

theorem Rebuilt.inv_world {w W : World} {s d : Nat} {o : Obj} (h : Inv w) (ho : w.objs s = some o) (r : Rebuilt w s d o W) :
    Inv W :=
  h.framed (r.fr _) (by rw [r.objs]; exact if_pos rfl) (r.inv (h.obj s o ho)) (fun c hc => Or.inr (rebuiltObj_fresh c hc))

theorem copyConstruct_rebuilt {w : World} (h : Inv w) {s d : Nat} {o : Obj} (ho : w.objs s = some o) :
    (copyConstruct w s d).err = none ∧ Nonempty (Rebuilt w s d o (copyConstruct w s d).w) := by
  have hs := h.obj s o ho
  have hc := cloneAll_spec o.params w hs.valid
  obtain ⟨nu, reg', Wf, heq, rr⟩ := rebuild_ok (B := (cloneAll w o.params).1) (d := d) hs hc rfl rfl rfl rfl
  simp only [copyConstruct, ho, heq]
  exact ⟨trivial, rebuilt_of hs hc rfl rfl rfl rfl (fun j _ => by rw [hc.objs]) rfl rr⟩

theorem assign_rebuilt {w : World} (h : Inv w) {s d : Nat} {o od : Obj} (ho : w.objs s = some o)
    (hd : w.objs d = some od) (hsd : s ≠ d) :
    (assign w s d).err = none ∧ Nonempty (Rebuilt w s d o (assign w s d).w) := by
  have hs := h.obj s o ho
  have hc := cloneAll_spec o.params w hs.valid
  obtain ⟨nu, reg', Wf, heq, rr⟩ := rebuild_ok (d := d)
    (B := (cloneAll w o.params).1.setObj d { params := (cloneAll w o.params).2, indep := [], reg := [], pre := o.pre })
    hs hc rfl rfl rfl rfl
  simp only [assign, ho, hd, hsd, if_false, heq]
  refine ⟨trivial, rebuilt_of (B := (cloneAll w o.params).1.setObj d
    { params := (cloneAll w o.params).2, indep := [], reg := [], pre := o.pre }) hs hc rfl rfl rfl rfl (fun j hj => ?_) rfl rr⟩
  simp only [setObj_objs, hj, if_false, hc.objs]

theorem copyConstruct_none {w : World} {s : Nat} (ho : w.objs s = none) (d : Nat) :
    copyConstruct w s d = { w := w, err := some .ub } := by
  simp only [copyConstruct, ho]

/-- assignment from or to an empty slot, and self-assignment, change nothing -/
theorem assign_trivial {w : World} {s d : Nat} (h : w.objs s = none ∨ w.objs d = none ∨ s = d) : (assign w s d).w = w := by
  simp only [assign]
  split
  · split
    · rfl
    · rename_i hs hd hne
      rcases h with h | h | h
      · rw [h] at hs; cases hs
      · rw [h] at hd; cases hd
      · exact absurd h hne
  · rfl

end Bpp.Alias
