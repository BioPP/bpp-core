import BppProofs.Lemmas.DiscretizeEqProp
/-!
C09: `discretizeEqualIntervals` at `ℝ`.
-/
namespace Bpp.Discretize
open Bpp

theorem foldl_assign_separated (prec : ℝ) (l : List (ℝ × ℝ)) (m : TMap ℝ)
    (hsep : l.Pairwise (fun a b => a.1 < b.1 - prec)) (hm : ∀ e ∈ m, ∀ v ∈ l, e.1 < v.1 - prec) :
    l.foldl (fun m vp => TMap.assign prec vp.1 vp.2 m) m = m ++ l := by
  induction l generalizing m with
  | nil => simp
  | cons v vs ih =>
    have hall : ∀ e ∈ m, e.1 < v.1 - prec := fun e he => hm e he v (by simp)
    simp only [List.foldl_cons]
    rw [TMap.assign_of_all_lt prec v.1 v.2 m hall]
    rw [ih (m ++ [(v.1, v.2)]) (List.pairwise_cons.1 hsep).2]
    · simp
    · intro e he w hw
      rcases List.mem_append.1 he with he | he
      · exact hm e he w (by simp [hw])
      · simp at he; subst he
        exact (List.pairwise_cons.1 hsep).1 w hw

/-- the mass the equal-interval scheme gives class `i` of the grid on `[lo, hi]` -/
noncomputable def gridMass (par : Parent ℝ) (lo hi : ℝ) (n i : ℕ) : ℝ :=
  if 0 < par.P hi - par.P lo then (par.P (gridPt lo hi n (i + 1 : ℕ)) - par.P (gridPt lo hi n i)) / (par.P hi - par.P lo)
  else 1 / (n : ℝ)

/-- the interior bounds of the equal-interval scheme -/
noncomputable def gridBounds (lo hi : ℝ) (n : ℕ) : List ℝ :=
  (List.range (n - 1)).map fun i : ℕ => gridPt lo hi n ((i + 1 : ℕ) : ℝ)

/-- its classes: midpoint and mass, by class index -/
noncomputable def gridClasses (par : Parent ℝ) (lo hi : ℝ) (n : ℕ) : List (ℝ × ℝ) :=
  (List.range' 0 n).map fun i : ℕ => (gridPt lo hi n ((i : ℝ) + 1 / 2), gridMass par lo hi n i)

theorem gridBounds_all (lo hi : ℝ) (n : ℕ) (hn : 1 ≤ n) :
    lo :: gridBounds lo hi n ++ [hi] = (List.range' 0 (n + 1)).map (fun i : ℕ => gridPt lo hi n i) := by
  rw [← bounds_as_range (fun i : ℕ => gridPt lo hi n i) n hn, Nat.cast_zero, gridPt_zero, gridPt_n _ _ _ hn]; rfl

theorem gridBounds_mem {lo hi : ℝ} {n : ℕ} (hn : 1 ≤ n) (hl : lo ≤ hi) : ∀ b ∈ gridBounds lo hi n, lo ≤ b ∧ b ≤ hi := by
  intro b hb
  obtain ⟨i, hi', rfl⟩ := List.mem_map.1 hb
  exact gridPt_mem hn hl (Nat.cast_nonneg _) (Nat.cast_le.2 (by have := List.mem_range.1 hi'; omega))

/-- `discretizeEqualIntervals` stores the grid -/
theorem eqInt_eq (par : Parent ℝ) (s : DD ℝ) :
    eqInt par s = store s (gridBounds s.dom.lo s.dom.hi s.n) (gridClasses par s.dom.lo s.dom.hi s.n) := by
  have hb : (List.range (s.n - 1)).map (fun i => s.dom.lo + (nat i + Scalar.one) * ((s.dom.hi - s.dom.lo) / nat s.n)) =
      gridBounds s.dom.lo s.dom.hi s.n :=
    List.map_congr_left fun i _ => by simp only [gridPt, nat_eq, ScalarReal.one_eq, Nat.cast_add, Nat.cast_one]
  have hzip : ((List.range s.n).map (fun i => s.dom.lo + (nat i + half) * ((s.dom.hi - s.dom.lo) / nat s.n))).zip
      (eqIntMasses par s.n (par.P s.dom.hi - par.P s.dom.lo) (s.dom.lo :: gridBounds s.dom.lo s.dom.hi s.n ++ [s.dom.hi])) =
      gridClasses par s.dom.lo s.dom.hi s.n := by
    rcases Nat.eq_zero_or_pos s.n with h0 | hn
    · simp [h0, gridClasses]
    · rw [gridBounds_all _ _ _ hn, eqIntMasses, pairs_map_range', List.range_eq_range', List.map_map, List.zip_map']
      refine List.map_congr_left fun i _ => ?_
      simp only [Function.comp, nat_eq, half_eq, ScalarReal.one_eq, ScalarReal.zero_eq, gridPt, gridMass, ScalarReal.gtb_iff]
  simp only [eqInt, store]
  rw [hb, hzip]
  generalize insertPairs s.prec s.dom.hi [] _ = o
  cases o <;> rfl

/-- what `eqInt` computes when the classes are wider than the precision -/
theorem eqInt_spec (par : Parent ℝ) (s : DD ℝ) (hp : 0 ≤ s.prec) (hw : s.prec < (s.dom.hi - s.dom.lo) / (s.n : ℝ)) :
    eqInt par s = .ok { s with dist := gridClasses par s.dom.lo s.dom.hi s.n, bounds := gridBounds s.dom.lo s.dom.hi s.n } := by
  rw [eqInt_eq]
  exact store_separated s _ _ (pairwise_map_range' _ _ _ fun i j hij _ =>
    gridPt_separated hp hw (by have : (i : ℝ) + 1 ≤ j := by exact_mod_cast hij
                               linarith))

theorem telescope_range' (g : ℕ → ℝ) (n j : ℕ) :
    ((List.range' j n).map (fun i => g (i + 1) - g i)).sum = g (j + n) - g j := by
  induction n generalizing j with
  | zero => simp
  | succ n ih =>
    rw [List.range'_succ, List.map_cons, List.sum_cons, ih (j + 1)]
    rw [show j + 1 + n = j + (n + 1) by omega]; ring

theorem gridMass_normalised (par : Parent ℝ) (lo hi : ℝ) (n : ℕ) (hn : 1 ≤ n) (hl : lo ≤ hi)
    (hmono : ∀ x y, lo ≤ x → x ≤ y → y ≤ hi → par.P x ≤ par.P y) :
    (∀ p ∈ (List.range' 0 n).map (gridMass par lo hi n), 0 ≤ p) ∧ ((List.range' 0 n).map (gridMass par lo hi n)).sum = 1 := by
  have hn' : (0 : ℝ) < n := by exact_mod_cast hn
  unfold gridMass
  by_cases hc : 0 < par.P hi - par.P lo
  · simp only [hc, if_true]
    constructor
    · intro p hp
      obtain ⟨i, hi', rfl⟩ := List.mem_map.1 hp
      obtain ⟨-, h1, h2, hi1⟩ := half_steps (n := n) (by simpa using hi')
      have hii := h1.trans h2
      have := hmono _ _ (gridPt_mem hn hl (Nat.cast_nonneg i) (hii.trans hi1)).1 (gridPt_mono n hl hii)
        (gridPt_mem hn hl ((Nat.cast_nonneg i).trans hii) hi1).2
      exact div_nonneg (by linarith) hc.le
    · simp only [div_eq_mul_inv, List.sum_map_mul_right]
      rw [telescope_range' (fun i => par.P (gridPt lo hi n i)) n 0, Nat.zero_add, Nat.cast_zero, gridPt_zero,
        gridPt_n lo hi n hn]
      exact mul_inv_cancel₀ hc.ne'
  · simp only [hc, if_false, List.map_const', List.mem_replicate, List.sum_replicate, List.length_range', nsmul_eq_mul]
    exact ⟨fun p hp => hp.2 ▸ by positivity, by field_simp⟩

/-- the clauses that need neither wide classes nor mass on the domain (the repaired scheme keeps
the class values distinct and falls back to equal probabilities): after `discretizeEqualIntervals`
there are `n` classes in comparator order, with non-negative probabilities summing to one, and
non-decreasing bounds inside the domain -/
theorem eqInt_partition (par : Parent ℝ) (s r : DD ℝ) (hn : 1 ≤ s.n) (hp : 0 ≤ s.prec) (hl : s.dom.lo ≤ s.dom.hi)
    (hmono : ∀ x y, s.dom.lo ≤ x → x ≤ y → y ≤ s.dom.hi → par.P x ≤ par.P y)
    (h : eqInt par s = .ok r) :
    nClassesOk r = true ∧ probsNonneg r = true ∧ probsSumOne 0 r = true ∧
    boundsMonoInDom r = true ∧ valuesStrictMono r = true ∧ TMap.Sorted r.prec r.dist := by
  rw [eqInt_eq] at h
  have hm := gridMass_normalised par _ _ s.n hn hl hmono
  obtain ⟨a, b, c, d, e⟩ := store_partition h hp (by rw [gridClasses, List.length_map, List.length_range'])
    (by rw [gridBounds, List.length_map, List.length_range]; omega)
    (by rw [gridClasses, List.map_map]; exact hm.1) (by rw [gridClasses, List.map_map]; exact hm.2)
  refine ⟨a, b, c, ?_, d, e⟩
  obtain ⟨m, -, rfl⟩ := store_ok h
  simp only [boundsMonoInDom_iff, gridBounds_all _ _ _ hn]
  exact (pairwise_map_range' _ _ _ fun i j hij _ => gridPt_mono _ hl (by exact_mod_cast hij.le)).isChain

end Bpp.Discretize
