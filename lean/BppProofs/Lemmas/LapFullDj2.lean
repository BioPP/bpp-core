import BppProofs.Lemmas.LapFullDj
/-! Helper lemmas for C04 (`lap`, the whole routine): one pass through the body of the
shortest-path search (`djScan`, `djRelax`, `djIter`) keeps the invariant `DjInv` or ends with
`DjPost`; the loop `djLoop`. -/
namespace Bpp.Mx.Lap
open Bpp Bpp.Mx

/-- the state between the two halves of the loop body -/
structure DjMid (n : Nat) (c : Nat → Nat → ℝ) (cs : Nat → Int) (v : Nat → ℝ) (fr : Nat) (s0 s : Dj ℝ) : Prop where
  core : DjCore n c cs v fr s s.d s.low
  low : s.low = s0.low
  lowlt : s.low < s.up
  asg : s.found = none → ∀ k, k < s.up → 0 ≤ cs (s.colList k)
  fnd : ∀ e, s.found = some e → ∃ a, s.low ≤ a ∧ a < s.up ∧ s.colList a = e ∧ cs e < 0

theorem djScan_good {n : Nat} {c : Nat → Nat → ℝ} {rs cs : Nat → Int} {v : Nat → ℝ} {F : Nat → Prop}
    (hInv : Inv n c rs cs v F) {fr : Nat} (hfr : F fr) (s : Dj ℝ) (h : DjInv n c cs v fr s) (B : Prop) :
    Good B (djScan n cs s) (DjMid n c cs v fr s) := by
  unfold djScan
  by_cases hul : s.up = s.low
  · rw [if_pos hul]
    have hc := h.core
    -- not every column is assigned, the scanned ones are: `low < n`
    have hlown : s.low < n := by
      by_contra hge
      have hupn := hc.upn
      have hln : s.low = n := by omega
      obtain ⟨j, hj, hneg⟩ := hInv.exists_unassigned hfr
      obtain ⟨k, hk, hkj⟩ := inj_surj s.colList hc.perm.lt hc.perm.inj j hj
      have := h.asg k (by omega)
      rw [hkj] at this
      omega
    have hj0 : s.colList s.low < n := hc.perm.lt _ hlown
    rw [hul]
    simp only [rd_of_lt _ hlown, rd_of_lt _ hj0]
    refine (minScan_good n s.d s.colList s.low hlown hc.perm B).bind_match fun st hm => ?_
    have hstup : st.up ≤ n := hm.upk
    refine (unasg_good n cs st.colList s.low st.up hstup hm.perm B).bind_match fun f hu => Good.ok ?_
    have hfix := hm.same.fix
    have hreg := hm.same.reg
    refine ⟨⟨hm.perm, by simp only; have := hm.lowup; omega, hstup, Nat.le_refl _, hc.predlt, ?_, ?_, hm.eq, ?_, ?_, ?_, hc.pfree, ?_⟩,
      rfl, hm.lowup, ?_, ?_⟩
    · intro k hk
      simp only at hk ⊢
      rw [hfix k hk]; exact hc.asgLow k hk
    · intro k k' hk hk' hk'n
      simp only at hk hk' ⊢
      rw [hfix k hk]
      obtain ⟨b, hb1, hb2, hb3⟩ := hreg k' hk' hk'n
      rw [hb3]
      exact hc.b1 k b hk hb1 hb2
    · intro _ k' hk' hk'n
      exact hm.ge k' hk' hk'n
    · intro k hk1 hk2
      simp only at hk1 hk2
      omega
    · intro k hk i hi j hj
      simp only at hk hi ⊢
      rw [hfix k hk] at hi ⊢
      exact hc.p2 k hk i hi j hj
    · intro m hm'
      simp only
      by_cases hml : m < s.low
      · rw [hfix m hml]
        rcases hc.p3 m hm' with h1 | ⟨k, h1, h2, h3, h4⟩
        · exact Or.inl h1
        · right
          refine ⟨k, h1, h2, ?_, ?_⟩
          · rw [hfix k h1]; exact h3
          · rw [hfix k h1]; exact h4
      · obtain ⟨b, hb1, hb2, hb3⟩ := hreg m (by omega) hm'
        rw [hb3]
        rcases hc.p3 b hb2 with h1 | ⟨k, h1, h2, h3, h4⟩
        · exact Or.inl h1
        · right
          refine ⟨k, h1, by omega, ?_, ?_⟩
          · rw [hfix k h1]; exact h3
          · rw [hfix k h1]; exact h4
    · intro hnone k hk
      simp only at hnone hk ⊢
      subst hnone
      by_cases hkl : k < s.low
      · rw [hfix k hkl]; exact hc.asgLow k hkl
      · exact hu k (by omega) hk
    · intro e he
      simp only at he ⊢
      subst he
      exact hu
  · rw [if_neg hul]
    apply Good.ok
    refine ⟨h.core, rfl, by have := h.core.lowup; omega, fun _ => h.asg, fun e he => ?_⟩
    rw [h.nf] at he; cases he

theorem djRelax_good {n : Nat} (hn : n < 32768) {c : Nat → Nat → ℝ} {rs cs : Nat → Int} {v : Nat → ℝ} {F : Nat → Prop}
    (hInv : Inv n c rs cs v F) {fr : Nat} (s0 s : Dj ℝ) (hmid : DjMid n c cs v fr s0 s) (hnone : s.found = none) (B : Prop) :
    Good B (djRelax n c cs v s) (fun s' =>
      (s'.found = none → DjInv n c cs v fr s' ∧ s'.low = s.low + 1) ∧
      (∀ e, s'.found = some e → ∃ D, DjPost n c cs v fr s' e D)) := by
  have hc := hmid.core
  have hlowlt := hmid.lowlt
  have hupn := hc.upn
  have hlown : s.low < n := by omega
  have hj1 : s.colList s.low < n := hc.perm.lt _ hlown
  have hasg0 := hmid.asg hnone s.low hlowlt
  obtain ⟨i, hi0⟩ : ∃ i : Nat, cs (s.colList s.low) = (i : Int) := ⟨(cs (s.colList s.low)).toNat, by omega⟩
  obtain ⟨hin, hrsi⟩ := hInv.colOk _ hj1 i hi0
  have hsz : szOfInt (cs (s.colList s.low)) = i := by rw [hi0]; exact szOfInt_ofNat i (by omega)
  have hmin1 : s.d (s.colList s.low) = s.min := hc.b2 s.low (Nat.le_refl _) hlowlt
  have htight := hInv.tight _ hj1 i hi0
  have hv2 : ∀ j, j < n → s.min ≤ c i j - v j - (c i (s.colList s.low) - v (s.colList s.low) - s.min) := by
    intro j hj; linarith only [htight j hj]
  unfold djRelax
  simp only [rd_of_lt _ hlown, rd_of_lt _ hj1, hsz, hin, not_true_eq_false, if_false]
  refine (relax_good n c cs v i (c i (s.colList s.low) - v (s.colList s.low) - s.min) s.min s.d s.pred s.colList s.up hupn B
    hc.perm hv2 (hc.b3 hlowlt)).bind_match fun r hr => Good.ok ?_
  simp only
  -- facts about the columns that were already on the list
  have hfixpos : ∀ a, a < s.up → r.colList a = s.colList a := hr.same.fix
  have hunch : ∀ a, a < s.up → r.pred (s.colList a) = s.pred (s.colList a) ∧ r.d (s.colList a) = s.d (s.colList a) := by
    intro a ha
    rcases hr.chg (s.colList a) (hc.perm.lt a (by omega)) with h1 | ⟨_, _, b, hb1, hb2, hb3⟩
    · exact h1
    · have := hc.perm.inj b a hb2 (by omega) hb3
      omega
  have hdlemin : ∀ a, a < s.up → s.d (s.colList a) ≤ s.min := by
    intro a ha
    by_cases hal : a < s.low
    · rw [← hmin1]; exact hc.b1 a s.low hal (Nat.le_refl _) hlown
    · exact le_of_eq (hc.b2 a (by omega) ha)
  have hsurj := inj_surj r.colList hr.perm.lt hr.perm.inj
  have hposge : ∀ m, m < n → (∃ a, s.up ≤ a ∧ a < n ∧ s.colList a = r.colList m) → s.up ≤ m := by
    intro m hm ⟨a, ha1, ha2, ha3⟩
    by_contra hlt
    rw [hfixpos m (by omega)] at ha3
    have := hc.perm.inj a m ha2 hm ha3
    omega
  have hrupn : r.up ≤ n := hr.upk
  have hrupge := hr.upge
  have hpredlt : ∀ j, j < n → r.pred j < n := by
    intro j hj
    rcases hr.chg j hj with ⟨h1, _⟩ | ⟨h1, _⟩
    · rw [h1]; exact hc.predlt j hj
    · rw [h1]; exact hin
  have hasgLow : ∀ k, k < s.low + 1 → 0 ≤ cs (r.colList k) := by
    intro k hk
    rw [hfixpos k (by omega)]
    exact hmid.asg hnone k (by omega)
  -- the value of `d` at a position of the new list that was on the list before
  have hdfix : ∀ a, a < s.up → r.d (r.colList a) = s.d (s.colList a) := by
    intro a ha; rw [hfixpos a ha]; exact (hunch a ha).2
  -- One walk for both exits.  `D`: the distances, with the true one at the end of the path if it has been found;
  -- then the columns behind it are unrelaxed, so `p2` is claimed for the columns scanned before this pass only.
  have hcore : ∀ D : Nat → ℝ, (∀ j, j < n → D j ≤ r.d j) → (∀ j, r.found ≠ some j → D j = r.d j) →
      (∀ e, r.found = some e → D e = s.min) →
      DjCore n c cs v fr { s with low := s.low + 1, d := r.d, pred := r.pred, colList := r.colList, up := r.up, found := r.found }
        D s.low ∧ (∀ k, r.up ≤ k → k < n → s.min ≤ D (r.colList k)) := by
    intro D hDle hDeq hDe
    -- the end of the path is at no position of the list
    have hnf : ∀ a, a < r.up → r.found ≠ some (r.colList a) := by
      intro a ha hfe
      obtain ⟨_, _, _, _, ⟨ae, hae1, hae2, hae3⟩, _⟩ := hr.fnd _ hfe
      have := hr.perm.inj a ae (by omega) hae2 hae3.symm
      omega
    have hDfix : ∀ a, a < s.up → D (r.colList a) = s.d (s.colList a) := fun a ha => by
      rw [hDeq _ (hnf a (by omega)), hdfix a ha]
    have hDscan : ∀ k, s.up ≤ k → k < r.up → D (r.colList k) = s.min := fun k h1 h2 => by
      rw [hDeq _ (hnf k h2)]; exact (hr.scan k h1 h2).1
    have hDge : ∀ k, r.up ≤ k → k < n → s.min ≤ D (r.colList k) := by
      intro k hk hkn
      by_cases hfe : r.found = some (r.colList k)
      · exact (hDe _ hfe).ge
      · rw [hDeq _ hfe]; exact hr.ge k hk hkn
    refine ⟨⟨hr.perm, by dsimp only; omega, hrupn, by dsimp only; have := hc.lastlow; omega, hpredlt, hasgLow,
      ?_, ?_, fun _ => hDge, ?_, ?_, fun j hj => ((hDle j hj).trans (hr.dle j hj)).trans (hc.pfree j hj), ?_⟩, hDge⟩ <;> dsimp only
    · -- b1
      intro k k' hk hk' hk'n
      rw [hDfix k (by omega)]
      have h1 := hdlemin k (by omega)
      by_cases hk'u : k' < s.up
      · rw [hDfix k' hk'u, hc.b2 k' (by omega) hk'u]; exact h1
      · by_cases hk'r : k' < r.up
        · rw [hDscan k' (by omega) hk'r]; exact h1
        · exact h1.trans (hDge k' (by omega) hk'n)
    · -- b2
      intro k hk1 hk2
      by_cases hku : k < s.up
      · rw [hDfix k hku]; exact hc.b2 k (by omega) hku
      · exact hDscan k (by omega) hk2
    · -- b4
      intro k hk1 hk2
      rw [hDfix k (by omega)]
      by_cases hkl : k < s.low
      · exact hc.b4 k hk1 hkl
      · exact hc.b2 k (by omega) (by omega)
    · -- p2
      intro k hk i' hi' j hj
      rw [hDfix k (by omega), hfixpos k (by omega)]
      rw [hfixpos k (by omega)] at hi'
      exact ((hDle j hj).trans (hr.dle j hj)).trans (hc.p2 k hk i' hi' j hj)
    · -- p3
      intro m hm
      by_cases hfe : r.found = some (r.colList m)
      · -- the end of the path, reached through the row of the column scanned in this pass
        obtain ⟨_, _, hpe, hv2e, _, _⟩ := hr.fnd _ hfe
        right
        refine ⟨s.low, by omega, by by_contra hlt; exact hnf m (by omega) hfe, ?_, ?_⟩
        · rw [hfixpos s.low hlowlt, hpe]; exact hi0
        · rw [hDe _ hfe, hpe, hDfix s.low hlowlt, hmin1, hfixpos s.low hlowlt]
          linarith only [hv2e]
      · rw [hDeq _ hfe]
        rcases hr.chg (r.colList m) (hr.perm.lt m hm) with ⟨h1, h2⟩ | ⟨h1, h2, h3⟩
        · -- an entry that the relaxation did not touch
          have hold : ∃ b, b < n ∧ r.colList m = s.colList b ∧ (m < s.up → b = m) ∧ (s.up ≤ m → s.up ≤ b) := by
            by_cases hmu : m < s.up
            · exact ⟨m, hm, hfixpos m hmu, fun _ => rfl, fun h => by omega⟩
            · obtain ⟨b, hb1, hb2, hb3⟩ := hr.same.reg m (by omega) hm
              exact ⟨b, hb2, hb3, fun h => by omega, fun _ => hb1⟩
          obtain ⟨b, hb, hmb, hb1, hb2⟩ := hold
          rw [h1, h2, hmb]
          rcases hc.p3 b hb with h4 | ⟨k, h4, h5, h6, h7⟩
          · exact Or.inl h4
          · right
            refine ⟨k, by omega, ?_, ?_, ?_⟩
            · by_cases hmu : m < s.up
              · have := hb1 hmu; omega
              · omega
            · rw [hfixpos k (by omega)]; exact h6
            · rw [hDfix k (by omega), hfixpos k (by omega)]; exact h7
        · right
          have hmge := hposge m hm h3
          refine ⟨s.low, by omega, by omega, ?_, ?_⟩
          · rw [hfixpos s.low hlowlt, h1]; exact hi0
          · rw [hDfix s.low hlowlt, hfixpos s.low hlowlt, hmin1, h1, h2.resolve_right hfe]; ring
  constructor
  · intro hfn
    obtain ⟨hD, _⟩ := hcore r.d (fun _ _ => le_refl _) (fun _ _ => rfl) (fun e he => by rw [hfn] at he; cases he)
    refine ⟨⟨{ hD with p2 := ?_ }, hfn, ?_⟩, trivial⟩ <;> dsimp only
    · -- the relaxation was complete: `p2` also through the row of the column scanned in this pass
      intro k hk i' hi' j hj
      by_cases hkl : k < s.low
      · exact hD.p2 k hkl i' hi' j hj
      · have hkeq : k = s.low := by omega
        subst hkeq
        rw [hfixpos s.low hlowlt] at hi' ⊢
        rw [(hunch s.low hlowlt).2, hmin1]
        have hii : i' = i := by rw [hi0] at hi'; omega
        subst hii
        obtain ⟨m, hm, hmj⟩ := hsurj j hj
        by_cases hmu : m < s.up
        · have h1 := hdfix m hmu
          rw [hmj] at h1
          linarith only [h1, hdlemin m hmu, hv2 j hj]
        · have := hr.relaxed hfn m (by omega) hm
          rw [hmj] at this
          linarith only [this]
    · -- the columns on the list are assigned
      intro k hk
      by_cases hku : k < s.up
      · rw [hfixpos k hku]; exact hmid.asg hnone k hku
      · exact (hr.scan k (by omega) hk).2
  · intro e hfe
    obtain ⟨_, heun, _, _, ⟨ae, hae1, hae2, hae3⟩, hmine⟩ := hr.fnd e hfe
    have hne : ∀ j, r.found ≠ some j → j ≠ e := fun j hj hje => hj (hje ▸ hfe)
    obtain ⟨hD, hDge⟩ := hcore (upd r.d e s.min)
      (fun j _ => by by_cases hje : j = e; · rw [hje, upd_same]; exact hmine
                     · rw [upd_ne _ _ hje])
      (fun j hj => upd_ne _ _ (hne j hj)) (fun e' he' => by rw [hfe] at he'; cases he'; exact upd_same _ _ _)
    refine ⟨_, hD.post hc.lastlow (fun k hk => upd_ne _ _ (fun hke => ?_)) hDge (a := ae) (by dsimp only; omega) hae2 hae3 heun (upd_same _ _ _)⟩
    have := hr.perm.inj k ae (by have := hc.lastlow; dsimp only at hk; omega) hae2 (hke.trans hae3.symm)
    have := hc.lastlow
    dsimp only at hk
    omega

theorem djIter_good {n : Nat} (hn : n < 32768) {c : Nat → Nat → ℝ} {rs cs : Nat → Int} {v : Nat → ℝ} {F : Nat → Prop}
    (hInv : Inv n c rs cs v F) {fr : Nat} (hfr : F fr) (s : Dj ℝ) (h : DjInv n c cs v fr s) (B : Prop) :
    Good B (djIter n c cs v s) (fun s' =>
      (s'.found = none → DjInv n c cs v fr s' ∧ s'.low = s.low + 1) ∧
      (∀ e, s'.found = some e → ∃ D, DjPost n c cs v fr s' e D)) := by
  unfold djIter
  refine (djScan_good hInv hfr s h B).bind_match fun s1 hmid => ?_
  split
  · next e hf =>
    apply Good.ok
    refine ⟨fun hn' => by (rw [hf] at hn'; cases hn'), fun e' he' => ?_⟩
    rw [hf] at he'
    cases he'
    obtain ⟨a, ha1, ha2, ha3, ha4⟩ := hmid.fnd e hf
    have hupn := hmid.core.upn
    exact ⟨_, hmid.core.post hmid.core.lastlow (fun _ _ => rfl) (hmid.core.b3 hmid.lowlt) ha1 (by omega) ha3 ha4
      (ha3 ▸ hmid.core.b2 a ha1 ha2)⟩
  · next hf =>
    have := djRelax_good hn hInv s s1 hmid hf B
    rw [hmid.low] at this
    exact this

theorem djLoop_good {n : Nat} (hn : n < 32768) {c : Nat → Nat → ℝ} {rs cs : Nat → Int} {v : Nat → ℝ} {F : Nat → Prop}
    (hInv : Inv n c rs cs v F) {fr : Nat} (hfr : F fr) (B : Prop) :
    ∀ (fuel : Nat) (s : Dj ℝ), DjInv n c cs v fr s → (B → n - s.low + 1 ≤ fuel) →
      Good B (djLoop n c cs v fuel s) (fun p => ∃ D, DjPost n c cs v fr p.1 p.2 D) := by
  intro fuel
  induction fuel with
  | zero =>
    intro s _ hB
    unfold djLoop
    exact Or.inr ⟨rfl, fun hb => by have := hB hb; omega⟩
  | succ fuel ih =>
    intro s h hB
    unfold djLoop
    refine (djIter_good hn hInv hfr s h B).bind_match fun s' ⟨hnone, hsome⟩ => ?_
    split
    · next e hf => exact Good.ok (hsome e hf)
    · next hf =>
      obtain ⟨hinv', hlow'⟩ := hnone hf
      apply ih s' hinv'
      intro hb
      have := hB hb
      have h1 := hinv'.core.lowup
      have h2 := hinv'.core.upn
      omega

end Bpp.Mx.Lap
