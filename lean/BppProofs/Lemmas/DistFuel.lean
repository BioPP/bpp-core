import BppModel.Text.DistU
import BppProofs.Lemmas.Number
import BppProofs.Lemmas.Vars
/-! The fuel of `nestedDists` (`BppModel/Text/DistU.lean`): the loop
`while (args.find("dist" + toString(++nbd)) != args.end())` is ended by a missing key, never by the
fuel `args.length + 1` that `mixtureStage` gives it.  The keys `dist1`, `dist2`, … are pairwise
different and each one that is found is the key of an entry of the map: pigeonhole. -/
namespace Bpp.Text.U
open Bpp.Text Bpp.Text.Keyval

/-- the key the `k`-th round looks for -/
def distKey (k : Nat) : Str := "dist".toList ++ Number.natDigits k

theorem natDigits_inj {a b : Nat} (h : Number.natDigits a = Number.natDigits b) : a = b := by
  have ha := (Number.natDigits_spec a).2.2
  have hb := (Number.natDigits_spec b).2.2
  rw [h] at ha; omega

theorem distKey_inj {a b : Nat} (h : distKey a = distKey b) : a = b :=
  natDigits_inj (List.append_cancel_left h)

/-! ### pigeonhole on the keys of a map -/

/-- **pigeonhole**: pairwise different keys that are all found in a map are not more than its
entries -/
theorem found_keys_le (m : Map) (ks : List Str) (hn : ks.Nodup) (hf : ∀ k ∈ ks, mapFind k m ≠ none) :
    ks.length ≤ m.length := by
  have := hn.length_le_of_subset (l₂ := m.map (·.1)) fun k hk =>
    Vars.mapFind_isSome_mem k m (Option.isSome_iff_ne_none.mpr (hf k hk))
  rwa [List.length_map] at this

/-- among `dist<k>`, …, `dist<k + m.length>` one key is missing -/
theorem exists_missing (m : Map) (k : Nat) :
    ∃ j, j < m.length + 1 ∧ mapFind (distKey (k + j)) m = none := by
  apply Classical.byContradiction
  intro hno
  have hall : ∀ j, j < m.length + 1 → mapFind (distKey (k + j)) m ≠ none := by
    intro j hj hnone
    exact hno ⟨j, hj, hnone⟩
  have hn : ((List.range (m.length + 1)).map (fun j => distKey (k + j))).Nodup := by
    rw [List.nodup_iff_pairwise_ne, List.pairwise_map]
    refine List.Pairwise.imp ?_ (List.nodup_iff_pairwise_ne.mp List.nodup_range)
    intro a b hab he
    have := distKey_inj he
    omega
  have hle := found_keys_le m _ hn (by
    intro key hk
    rw [List.mem_map] at hk
    obtain ⟨j, hj, rfl⟩ := hk
    exact hall j (List.mem_range.mp hj))
  simp only [List.length_map, List.length_range] at hle
  omega

/-! ### the fuel -/

theorem missing_shift {args : Map} {fuel k : Nat} {d : Str}
    (h : ∃ j, j < fuel + 1 ∧ mapFind (distKey (k + j)) args = none)
    (hfind : mapFind (distKey k) args = some d) :
    ∃ j, j < fuel ∧ mapFind (distKey (k + 1 + j)) args = none := by
  obtain ⟨j, hj, hnone⟩ := h
  cases j with
  | zero => rw [Nat.add_zero, hfind] at hnone; cases hnone
  | succ j' => exact ⟨j', by omega, by rw [← hnone]; congr 2; omega⟩

/-- more fuel than the distance to the first missing key changes nothing -/
theorem nestedDists_fuel_irrel (args : Map) : ∀ (fuel k : Nat),
    (∃ j, j < fuel ∧ mapFind (distKey (k + j)) args = none) →
    ∀ fuel', fuel ≤ fuel' → nestedDists args fuel' k = nestedDists args fuel k := by
  intro fuel
  induction fuel with
  | zero => intro k ⟨j, hj, _⟩; omega
  | succ fuel ih =>
    intro k hex fuel' hle
    cases fuel' with
    | zero => omega
    | succ f' =>
      simp only [nestedDists]
      cases hfind : mapFind ("dist".toList ++ Number.natDigits k) args with
      | none => rfl
      | some d => exact congrArg (d :: ·) (ih (k + 1) (missing_shift hex hfind) f' (by omega))

/-- with enough fuel the loop stops on a missing key: the key after the last description -/
theorem nestedDists_stops_missing (args : Map) : ∀ (fuel k : Nat),
    (∃ j, j < fuel ∧ mapFind (distKey (k + j)) args = none) →
    mapFind (distKey (k + (nestedDists args fuel k).length)) args = none := by
  intro fuel
  induction fuel with
  | zero => intro k ⟨j, hj, _⟩; omega
  | succ fuel ih =>
    intro k hex
    simp only [nestedDists]
    cases hfind : mapFind ("dist".toList ++ Number.natDigits k) args with
    | none => exact hfind
    | some d =>
      have := ih (k + 1) (missing_shift hex hfind)
      rw [← this, List.length_cons]; congr 2; omega

/-- every description returned is the value of its key -/
theorem nestedDists_getElem? (args : Map) : ∀ (fuel k i : Nat) (d : Str),
    (nestedDists args fuel k)[i]? = some d → mapFind (distKey (k + i)) args = some d := by
  intro fuel
  induction fuel with
  | zero => intro k i d h; simp [nestedDists] at h
  | succ fuel ih =>
    intro k i d h
    rw [nestedDists] at h
    cases hfind : mapFind ("dist".toList ++ Number.natDigits k) args with
    | none => rw [hfind] at h; simp at h
    | some d0 =>
      rw [hfind] at h
      simp only at h
      cases i with
      | zero =>
        simp only [List.getElem?_cons_zero, Option.some.injEq] at h
        subst h
        simpa [distKey] using hfind
      | succ i' =>
        simp only [List.getElem?_cons_succ] at h
        have := ih (k + 1) i' d h
        rw [← this]; congr 2; omega

/-- a missing key within the fuel: the loop returns fewer descriptions than it has fuel -/
theorem nestedDists_length_lt (args : Map) (fuel k : Nat)
    (h : ∃ j, j < fuel ∧ mapFind (distKey (k + j)) args = none) :
    (nestedDists args fuel k).length < fuel := by
  obtain ⟨j, hj, hnone⟩ := h
  refine Nat.lt_of_not_le fun hge => ?_
  -- otherwise the `j`-th description is the value of the missing key
  have hj' : j < (nestedDists args fuel k).length := Nat.lt_of_lt_of_le hj hge
  have := nestedDists_getElem? args fuel k j _ (List.getElem?_eq_getElem hj')
  rw [hnone] at this; cases this

end Bpp.Text.U
