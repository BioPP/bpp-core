import BppProofs.Lemmas.NumDerivExact5
/-!
C12 helper lemmas: the cross-derivative block of the three-point scheme on the nominal path.
-/
namespace Bpp.NumDeriv
open Bpp Bpp.Scalar

theorem updL_single (q : Param ℝ) (l : PList ℝ) : updL [q] l = upd1 l q.name q.value := by
  unfold updL upd1
  apply List.map_congr_left
  intro p _
  by_cases e : p.name = q.name
  · rw [find?_cons_eq q [] p.name e.symm]; simp [e]
  · rw [find?_cons_ne q [] p.name (fun x => e x.symm)]; simp [find?, e]

theorem upd1_upd1_same (l : PList ℝ) (n : Name) (a b : ℝ) : upd1 (upd1 l n a) n b = upd1 l n b := by
  unfold upd1
  rw [List.map_map]
  apply List.map_congr_left
  intro p _
  simp only [Function.comp]
  by_cases e : p.name = n <;> simp [e]

theorem upd1_comm (l : PList ℝ) (n m : Name) (a b : ℝ) (h : n ≠ m) :
    upd1 (upd1 l n a) m b = upd1 (upd1 l m b) n a := by
  unfold upd1
  rw [List.map_map, List.map_map]
  apply List.map_congr_left
  intro p _
  simp only [Function.comp]
  by_cases e1 : p.name = n
  · simp [e1, h]
  · by_cases e2 : p.name = m
    · simp [e2, Ne.symm h]
    · simp [e1, e2]

/-- after the first `setParameters` of a pair: both variables displaced, everything else at base -/
theorem updL_dev_eq2 {params B l : PList ℝ} (hc : Ctx params B) (var1 var2 : Name) (q0 q1 : Param ℝ) (rest : PList ℝ)
    (hq0 : q0.name = var1) (hq1 : q1.name = var2) (hne : var1 ≠ var2) (hrest : ∀ q ∈ rest, q ∈ params)
    (hD : Dev B l (fun n => n = var1 ∨ n = var2 ∨ n ∈ names rest)) :
    updL (q0 :: q1 :: rest) l = upd1 (upd1 B var1 q0.value) var2 q1.value := by
  unfold updL upd1
  rw [List.map_map]
  refine hD.map_eq _ _ (fun p b hb hs hv => ?_)
  simp only [Function.comp]
  by_cases e1 : b.name = var1
  · rw [find?_cons_eq q0 _ p.name (by rw [hq0, hs.1, e1]), if_pos e1, if_neg (by exact e1 ▸ hne)]
    exact hs.with_value _
  · rw [find?_cons_ne q0 _ p.name (by rw [hq0, hs.1]; exact fun x => e1 x.symm), if_neg e1]
    by_cases e2 : b.name = var2
    · rw [find?_cons_eq q1 _ p.name (by rw [hq1, hs.1, e2]), if_pos e2]
      exact hs.with_value _
    · rw [find?_cons_ne q1 _ p.name (by rw [hq1, hs.1]; exact fun x => e2 x.symm), if_neg e2]
      cases hf : find? rest p.name with
      | none =>
        exact hs.eq_of_value (hv (by
          rintro (h | h | h)
          · exact e1 h
          · exact e2 h
          · exact find?_none hf (hs.1 ▸ h)))
      | some q =>
        have hq := find?_some hf
        simp only []
        rw [← hc.sync q (hrest q hq.1) b hb (by rw [hq.2, hs.1])]
        exact hs.with_value _


theorem setEval_free (f : List ℝ → ℝ) (fn : Fn ℝ) (q : Param ℝ) (x : ℝ) (hown : Own fn) (hok : fn.OK f)
    (hn : ∀ p ∈ fn.params, p.con = none) (hq : q.con = none ∧ q.prec = 0) :
    ∃ fn', setEval f fn q x = (fn', some ({ q with value := x }, f (values (upd1 fn.params q.name x)))) ∧
      fn'.params = upd1 fn.params q.name x ∧ fn'.OK f := by
  unfold setEval
  rw [setValue_ok q x hq.2 (violates_nocon q hq.1 x)]
  obtain ⟨fn', h, hp, hok'⟩ := setParameters_ok f fn [{ q with value := x }] hown (by simp [names])
    (anyViolation_nocon _ _ hn)
  have hp' : fn'.params = upd1 fn.params q.name x := hp.trans (updL_single _ _)
  refine ⟨fn', ?_, hp', hok' hok⟩
  simp only [h]
  rw [show fn'.fval = _ from hok' hok, hp']

/-- the stored cross derivative of a pair on the nominal path: the 2×2 stencil around the base
point with steps `(1 + |x_i|) h` -/
noncomputable def crossVal (f : List ℝ → ℝ) (B : PList ℝ) (hh : ℝ) (var1 var2 : Name) : DVal ℝ :=
  match find? B var1, find? B var2 with
  | some b1, some b2 =>
    some (crossThree
      (f (values (upd1 (upd1 B var1 (b1.value - (one + Scalar.abs b1.value) * hh)) var2 (b2.value - (one + Scalar.abs b2.value) * hh))))
      (f (values (upd1 (upd1 B var1 (b1.value - (one + Scalar.abs b1.value) * hh)) var2 (b2.value + (one + Scalar.abs b2.value) * hh))))
      (f (values (upd1 (upd1 B var1 (b1.value + (one + Scalar.abs b1.value) * hh)) var2 (b2.value - (one + Scalar.abs b2.value) * hh))))
      (f (values (upd1 (upd1 B var1 (b1.value + (one + Scalar.abs b1.value) * hh)) var2 (b2.value + (one + Scalar.abs b2.value) * hh))))
      ((one + Scalar.abs b1.value) * hh) ((one + Scalar.abs b2.value) * hh))
  | _, _ => none

theorem names_upd1' (l : PList ℝ) (n : Name) (v : ℝ) : names (upd1 l n v) = names l := names_upd1 l n v

theorem nocon_upd1 {l : PList ℝ} (h : ∀ p ∈ l, p.con = none) (n : Name) (v : ℝ) : ∀ p ∈ upd1 l n v, p.con = none := by
  intro p hp
  simp only [upd1, List.mem_map] at hp
  obtain ⟨q, hq, rfl⟩ := hp
  split <;> simp [h q hq]

theorem crossPair_free (f : List ℝ → ℝ) {params B : PList ℝ} (hF : Free f params B) {w0 : W ℝ} (cl : CLoop ℝ)
    (hCI : CI f params B w0 cl) (i j : Nat) (var1 var2 : Name) (hne : var1 ≠ var2)
    (hh1 : has params var1 = true) (hh2 : has params var2 = true) (b1 b2 : Param ℝ)
    (hb1 : find? B var1 = some b1) (hb2 : find? B var2 = some b2) :
    (crossPair f params cl i j var1 var2).2 = none ∧
    (crossPair f params cl i j var1 var2).1.l1 = var1 ∧ (crossPair f params cl i j var1 var2).1.l2 = var2 ∧
    (crossPair f params cl i j var1 var2).1.w.cross = setAt2 cl.w.cross i j (crossVal f B cl.w.h var1 var2) ∧
    (crossPair f params cl i j var1 var2).1.w.der1 = cl.w.der1 ∧
    (crossPair f params cl i j var1 var2).1.w.der2 = cl.w.der2 := by
  obtain ⟨hok, hD, hfr, hslot, hl1, hl2⟩ := hCI
  have hc := hF.ctx
  obtain ⟨p0, p1, rest, hsub⟩ := crossSub_ok cl.l1 cl.l2 var1 var2 hne hh1 hh2 hl1 hl2
  obtain ⟨hn, hmem, hnd⟩ := subNames_spec params _ _ hsub
  simp only [names, pairNames, List.map_cons, List.cons_append, List.nil_append, List.cons.injEq] at hn
  obtain ⟨hn0, hn1, hnr⟩ := hn
  have hp0 := hmem p0 (by simp)
  have hp1 := hmem p1 (by simp)
  have hf0 := hF.pfree p0 hp0
  have hf1 := hF.pfree p1 hp1
  have hv0 : p0.value = b1.value := (hc.sync p0 hp0 b1 (find?_some hb1).1 (by rw [(find?_some hb1).2, hn0])).symm
  have hv1 : p1.value = b2.value := (hc.sync p1 hp1 b2 (find?_some hb2).1 (by rw [(find?_some hb2).2, hn1])).symm
  -- first setParameters
  have hDs : Dev B cl.w.fn.params (fun n => n = var1 ∨ n = var2 ∨ n ∈ names rest) := by
    apply hD.mono
    intro n hn'
    by_cases e1 : n = var1
    · exact Or.inl e1
    · by_cases e2 : n = var2
      · exact Or.inr (Or.inl e2)
      · right; right
        show n ∈ rest.map (·.name)
        rw [hnr]
        exact mem_pair_tail hn' e1 e2
  have hnd' : (names ({ p0 with value := p0.value - (one + Scalar.abs p0.value) * cl.w.h } ::
      { p1 with value := p1.value - (one + Scalar.abs p1.value) * cl.w.h } :: rest)).Nodup := by
    simp only [names, List.map_cons] at hnd ⊢; exact hnd
  have hav : anyViolation cl.w.fn.params ({ p0 with value := p0.value - (one + Scalar.abs p0.value) * cl.w.h } ::
      { p1 with value := p1.value - (one + Scalar.abs p1.value) * cl.w.h } :: rest) = false :=
    anyViolation_nocon _ _ (hD.nocon hF.nocon)
  obtain ⟨fn1, hfn1, hp1', hok1⟩ := setParameters_ok f cl.w.fn _ (hc.own hD) hnd' hav
  replace hok1 := hok1 hok
  replace hp1' : fn1.params = upd1 (upd1 B var1 (p0.value - (one + Scalar.abs p0.value) * cl.w.h)) var2
      (p1.value - (one + Scalar.abs p1.value) * cl.w.h) :=
    hp1'.trans (updL_dev_eq2 hc var1 var2 { p0 with value := p0.value - (one + Scalar.abs p0.value) * cl.w.h }
      { p1 with value := p1.value - (one + Scalar.abs p1.value) * cl.w.h } rest hn0 hn1 hne
      (fun q hq => hmem q (by simp [hq])) hDs)
  have hown1 : Own fn1 := ⟨by rw [hp1', names_upd1, names_upd1]; exact hc.bnd, by rw [hp1']; exact Z_upd1 (Z_upd1 hc.bz _ _) _ _⟩
  have hnc1 : ∀ q ∈ fn1.params, q.con = none := by rw [hp1']; exact nocon_upd1 (nocon_upd1 hF.nocon _ _) _ _
  obtain ⟨fn2, hfn2, hp2', hok2⟩ := setEval_free f fn1 { p1 with value := p1.value - (one + Scalar.abs p1.value) * cl.w.h }
    (p1.value + (one + Scalar.abs p1.value) * cl.w.h) hown1 hok1 hnc1 hf1
  have hu2 : upd1 fn1.params ({ p1 with value := p1.value - (one + Scalar.abs p1.value) * cl.w.h } : Param ℝ).name
      (p1.value + (one + Scalar.abs p1.value) * cl.w.h) =
      upd1 (upd1 B var1 (p0.value - (one + Scalar.abs p0.value) * cl.w.h)) var2 (p1.value + (one + Scalar.abs p1.value) * cl.w.h) := by
    simp only []; rw [hn1, hp1', upd1_upd1_same]
  rw [hu2] at hp2'
  have hown2 : Own fn2 := ⟨by rw [hp2', names_upd1, names_upd1]; exact hc.bnd, by rw [hp2']; exact Z_upd1 (Z_upd1 hc.bz _ _) _ _⟩
  have hnc2 : ∀ q ∈ fn2.params, q.con = none := by rw [hp2']; exact nocon_upd1 (nocon_upd1 hF.nocon _ _) _ _
  obtain ⟨fn3, hfn3, hp3', hok3⟩ := setEval_free f fn2 { p0 with value := p0.value - (one + Scalar.abs p0.value) * cl.w.h }
    (p0.value + (one + Scalar.abs p0.value) * cl.w.h) hown2 hok2 hnc2 hf0
  have hu3 : upd1 fn2.params ({ p0 with value := p0.value - (one + Scalar.abs p0.value) * cl.w.h } : Param ℝ).name
      (p0.value + (one + Scalar.abs p0.value) * cl.w.h) =
      upd1 (upd1 B var1 (p0.value + (one + Scalar.abs p0.value) * cl.w.h)) var2 (p1.value + (one + Scalar.abs p1.value) * cl.w.h) := by
    simp only []; rw [hn0, hp2', upd1_comm _ _ _ _ _ hne, upd1_upd1_same, upd1_comm _ _ _ _ _ (Ne.symm hne)]
  rw [hu3] at hp3'
  have hown3 : Own fn3 := ⟨by rw [hp3', names_upd1, names_upd1]; exact hc.bnd, by rw [hp3']; exact Z_upd1 (Z_upd1 hc.bz _ _) _ _⟩
  have hnc3 : ∀ q ∈ fn3.params, q.con = none := by rw [hp3']; exact nocon_upd1 (nocon_upd1 hF.nocon _ _) _ _
  obtain ⟨fn4, hfn4, hp4', _⟩ := setEval_free f fn3
    { p1 with value := p1.value + (one + Scalar.abs p1.value) * cl.w.h }
    (p1.value - (one + Scalar.abs p1.value) * cl.w.h) hown3 hok3 hnc3 hf1
  have hu4 : upd1 fn3.params ({ p1 with value := p1.value + (one + Scalar.abs p1.value) * cl.w.h } : Param ℝ).name
      (p1.value - (one + Scalar.abs p1.value) * cl.w.h) =
      upd1 (upd1 B var1 (p0.value + (one + Scalar.abs p0.value) * cl.w.h)) var2 (p1.value - (one + Scalar.abs p1.value) * cl.w.h) := by
    simp only []; rw [hn1, hp3', upd1_upd1_same]
  -- assemble
  unfold crossPair
  simp only []
  rw [hsub]
  simp only []
  rw [setValue_ok p0 _ hf0.2 (violates_nocon p0 hf0.1 _), setValue_ok p1 _ hf1.2 (violates_nocon p1 hf1.1 _)]
  simp only []
  rw [hfn1]
  simp only []
  rw [hfn2]
  simp only []
  rw [hfn3]
  simp only []
  rw [hfn4]
  simp only []
  refine ⟨trivial, trivial, trivial, ?_, trivial, trivial⟩
  have hf11 : fn1.fval = f (values (upd1 (upd1 B var1 (p0.value - (one + Scalar.abs p0.value) * cl.w.h)) var2
      (p1.value - (one + Scalar.abs p1.value) * cl.w.h))) := by rw [← hp1']; exact hok1
  rw [hf11, hu2, hu3, hu4]
  simp only [crossVal, hb1, hb2, hv0, hv1]


def get2 {β : Type} (m : List (List β)) (a b : Nat) : Option β := (m[a]?).bind (fun row => row[b]?)

theorem get2_setAt2_other {β : Type} (m : List (List β)) (i j a b : Nat) (v : β) (h : a ≠ i ∨ b ≠ j) :
    get2 (setAt2 m i j v) a b = get2 m a b := by
  unfold get2 setAt2
  cases hm : m[i]? with
  | none => rfl
  | some row =>
    simp only []
    by_cases e : a = i
    · subst e
      have hlt : a < m.length := by
        by_contra hge; rw [List.getElem?_eq_none (by omega)] at hm; cases hm
      rw [List.getElem?_set_self hlt, hm]
      simp only [Option.bind_some]
      rcases h with h | h
      · exact absurd rfl h
      · exact List.getElem?_set_ne (Ne.symm h)
    · rw [List.getElem?_set_ne (Ne.symm e)]

theorem get2_setAt2_same {β : Type} (m : List (List β)) (i j : Nat) (v : β) (h : get2 m i j ≠ none) :
    get2 (setAt2 m i j v) i j = some v := by
  unfold get2 setAt2 at *
  cases hm : m[i]? with
  | none => rw [hm] at h; simp at h
  | some row =>
    rw [hm] at h
    simp only [Option.bind_some] at h ⊢
    have hlt : i < m.length := by
      by_contra hge; rw [List.getElem?_eq_none (by omega)] at hm; cases hm
    have hj : j < row.length := by
      by_contra hge; rw [List.getElem?_eq_none (by omega)] at h; exact h rfl
    rw [List.getElem?_set_self hlt]
    simp only [Option.bind_some]
    exact List.getElem?_set_self hj

theorem get2_setAt2_none {β : Type} (m : List (List β)) (i j a b : Nat) (v : β) :
    get2 (setAt2 m i j v) a b = none ↔ get2 m a b = none := by
  by_cases h : a = i ∧ b = j
  · obtain ⟨rfl, rfl⟩ := h
    constructor
    · intro hn
      by_contra hne
      rw [get2_setAt2_same m a b v hne] at hn; cases hn
    · intro hn
      unfold get2 setAt2 at *
      cases hm : m[a]? with
      | none => rw [hm]; rfl
      | some row =>
        rw [hm] at hn
        simp only [Option.bind_some] at hn ⊢
        have hlt : a < m.length := by
          by_contra hge; rw [List.getElem?_eq_none (by omega)] at hm; cases hm
        rw [List.getElem?_set_self hlt]
        simp only [Option.bind_some]
        have : row.length ≤ b := by
          by_contra hlt'; rw [List.getElem?_eq_some_iff.mpr ⟨by omega, rfl⟩] at hn; cases hn
        exact List.getElem?_eq_none (by simp; exact this)
  · rw [get2_setAt2_other m i j a b v (by
      by_cases e : a = i
      · right; exact fun e' => h ⟨e, e'⟩
      · left; exact e)]


/-- a row of the cross-derivative block on the nominal path: it does not raise, and the matrix gets the
stencil quotients of the row's pairs and is otherwise as before (that `CI` holds again and the arrays
of first and second derivatives are untouched is `crossRow_outcome`, `crossRow_frame`) -/
theorem crossRow_free (f : List ℝ → ℝ) {params B : PList ℝ} (hF : Free f params B) {w0 : W ℝ} (i : Nat) (var1 : Name)
    (b1 : Param ℝ) (hb1 : find? B var1 = some b1) (hh1 : has params var1 = true)
    (vs : List Name) (j0 : Nat) (cl : CLoop ℝ) : CI f params B w0 cl →
      (∀ k (hk : k < vs.length), j0 + k ≠ i → vs[k] ≠ var1) →
      (∀ v ∈ vs, has params v = true → v ∈ names B) →
      (∀ k, k < vs.length → j0 + k = i → cl.w.der2[i]? ≠ none) →
      (crossRow f params i var1 vs j0 cl).2 = none ∧
      (∀ a b, (a ≠ i ∨ b < j0) → get2 (crossRow f params i var1 vs j0 cl).1.w.cross a b = get2 cl.w.cross a b) ∧
      (∀ a b, get2 (crossRow f params i var1 vs j0 cl).1.w.cross a b = none ↔ get2 cl.w.cross a b = none) ∧
      (∀ k (hk : k < vs.length), j0 + k ≠ i → has params vs[k] = true → get2 cl.w.cross i (j0 + k) ≠ none →
        get2 (crossRow f params i var1 vs j0 cl).1.w.cross i (j0 + k) = some (crossVal f B w0.h var1 vs[k])) := by
  -- an entry `(i, j0 + (k + 1))` of the row is an entry `(i, j0 + 1 + k)` of its tail
  have idx : ∀ (j0 k : Nat), j0 + (k + 1) = j0 + 1 + k := fun _ _ => by omega
  fun_induction crossRow f params i var1 vs j0 cl with
  | case1 => exact fun _ _ _ _ => ⟨rfl, fun _ _ _ => rfl, fun _ _ => Iff.rfl, fun k hk => by simp at hk⟩
  | case2 v vs cl hd => exact fun _ _ _ hd2 => absurd hd (hd2 0 (by simp) rfl)
  | case3 v vs cl d hd ih =>
    -- the diagonal: a copy of the second derivative
    intro hCI hne hin hd2
    obtain ⟨r1, r5, r6, r7⟩ := ih (hCI.setCross _) (row_tail hne) (fun x hx => hin x (List.mem_cons_of_mem _ hx)) (fun k hk hki => by omega)
    refine ⟨r1, fun a b hab => ?_, fun a b => by rw [r6 a b]; exact get2_setAt2_none _ _ _ _ _ _, fun k hk hki hhas hrange => ?_⟩
    · have hab' : a ≠ i ∨ b < i + 1 := hab.imp id (fun h => by omega)
      rw [r5 a b hab']
      exact get2_setAt2_other _ _ _ _ _ _ (hab.imp id (fun h => by omega))
    · cases k with
      | zero => exact absurd rfl hki
      | succ k =>
        simp only [List.getElem_cons_succ] at hhas ⊢
        rw [idx i k] at hrange ⊢
        exact r7 k (by simpa using hk) (by omega) hhas (fun hn => hrange ((get2_setAt2_none _ _ _ _ _ _).mp hn))
  | case4 v vs j0 cl hji hh ih =>
    intro hCI hne hin hd2
    obtain ⟨r1, r5, r6, r7⟩ := ih hCI (row_tail hne) (fun x hx => hin x (List.mem_cons_of_mem _ hx))
      (fun k hk hki => hd2 (k + 1) (by simpa using hk) (by omega))
    refine ⟨r1, fun a b hab => r5 a b (hab.imp id (fun h => by omega)), r6, fun k hk hki hhask hrange => ?_⟩
    cases k with
    | zero => simp only [List.getElem_cons_zero] at hhask; rw [hhask] at hh; cases hh
    | succ k =>
      simp only [List.getElem_cons_succ] at hhask ⊢
      rw [idx j0 k] at hrange ⊢
      exact r7 k (by simpa using hk) (by omega) hhask hrange
  | case5 v vs j0 cl hji hh cl' e hp =>
    intro hCI hne hin _
    have hhas : has params v = true := by simpa using hh
    obtain ⟨b2, hb2⟩ := find?_of_mem_names (hin v (List.mem_cons_self ..) hhas)
    have hv := hne 0 (by simp) (by omega)
    have := (crossPair_free f hF cl hCI i j0 var1 v (by simpa using hv.symm) hh1 hhas b1 b2 hb1 hb2).1
    rw [hp] at this; cases this
  | case6 v vs j0 cl hji hh cl' hp ih =>
    intro hCI hne hin hd2
    have hhas : has params v = true := by simpa using hh
    obtain ⟨b2, hb2⟩ := find?_of_mem_names (hin v (List.mem_cons_self ..) hhas)
    have hv := hne 0 (by simp) (by omega)
    obtain ⟨_, _, _, s4, _, s6⟩ := crossPair_free f hF cl hCI i j0 var1 v (by simpa using hv.symm) hh1 hhas b1 b2 hb1 hb2
    have hCI1 := (crossPair_outcome f hF.ctx cl hCI i j0 var1 v).1
    rw [hp] at s4 s6 hCI1
    simp only [] at s4 s6
    obtain ⟨r1, r5, r6, r7⟩ := ih (hCI1 rfl) (row_tail hne) (fun x hx => hin x (List.mem_cons_of_mem _ hx))
      (fun k hk hki => by rw [s6]; exact hd2 (k + 1) (by simpa using hk) (by omega))
    refine ⟨r1, fun a b hab => ?_, fun a b => by rw [r6 a b, s4]; exact get2_setAt2_none _ _ _ _ _ _,
      fun k hk hki hhask hrange => ?_⟩
    · rw [r5 a b (hab.imp id (fun h => by omega)), s4]
      exact get2_setAt2_other _ _ _ _ _ _ (hab.imp id (fun h => by omega))
    · cases k with
      | zero =>
        simp only [List.getElem_cons_zero, Nat.add_zero] at hrange ⊢
        rw [r5 i j0 (Or.inr (by omega)), s4, get2_setAt2_same _ _ _ _ hrange, hCI.frame.h]
      | succ k =>
        simp only [List.getElem_cons_succ] at hhask ⊢
        rw [idx j0 k] at hrange ⊢
        exact r7 k (by simpa using hk) (by omega) hhask
          (fun hn => by rw [s4] at hn; exact hrange ((get2_setAt2_none _ _ _ _ _ _).mp hn))

theorem crossGo_free (f : List ℝ → ℝ) {params B : PList ℝ} (hF : Free f params B) {w0 : W ℝ} (all : List Name)
    (hall : all.Nodup) (hallin : ∀ v ∈ all, has params v = true → v ∈ names B)
    (vs : List Name) (i0 : Nat) (cl : CLoop ℝ) : CI f params B w0 cl →
      (∃ pre, all = pre ++ vs ∧ pre.length = i0) → (∀ i, i < all.length → cl.w.der2[i]? ≠ none) →
      (crossGo f params all vs i0 cl).2 = none ∧
      (∀ a b, a < i0 → get2 (crossGo f params all vs i0 cl).1.w.cross a b = get2 cl.w.cross a b) ∧
      (∀ a b, get2 (crossGo f params all vs i0 cl).1.w.cross a b = none ↔ get2 cl.w.cross a b = none) ∧
      (∀ k (hk : k < vs.length), has params vs[k] = true → ∀ j (hj : j < all.length), j ≠ i0 + k →
        has params all[j] = true → get2 cl.w.cross (i0 + k) j ≠ none →
        get2 (crossGo f params all vs i0 cl).1.w.cross (i0 + k) j = some (crossVal f B w0.h vs[k] all[j])) := by
  have idx : ∀ (i0 k : Nat), i0 + (k + 1) = i0 + 1 + k := fun _ _ => by omega
  -- the row of `v` on the nominal path
  have hrow : ∀ (v : Name) (vs : List Name) (i0 : Nat) (cl : CLoop ℝ), CI f params B w0 cl → has params v = true →
      (∃ pre, all = pre ++ v :: vs ∧ pre.length = i0) → (∀ i, i < all.length → cl.w.der2[i]? ≠ none) → _ :=
    fun v vs i0 cl hCI hhas hpre hd2 =>
      crossRow_free f hF i0 v _ (find?_of_mem_names (hallin v (by obtain ⟨pre, h, _⟩ := hpre; rw [h]; simp) hhas)).choose_spec hhas
        all 0 cl hCI (nodup_row hall hpre).2.2.2 hallin (fun _ _ _ => hd2 i0 (nodup_row hall hpre).2.1)
  fun_induction crossGo f params all vs i0 cl with
  | case1 => exact fun _ _ _ => ⟨rfl, fun _ _ _ => rfl, fun _ _ => Iff.rfl, fun k hk => by simp at hk⟩
  | case2 v vs i0 cl hh ih =>
    intro hCI hpre hd2
    obtain ⟨r1, r5, r6, r7⟩ := ih hCI (nodup_row hall hpre).1 hd2
    refine ⟨r1, fun a b ha => r5 a b (by omega), r6, fun k hk hhk j hj hjk hhj hrange => ?_⟩
    cases k with
    | zero => simp only [List.getElem_cons_zero] at hhk; rw [hhk] at hh; cases hh
    | succ k =>
      simp only [List.getElem_cons_succ] at hhk ⊢
      rw [idx i0 k] at hjk hrange ⊢
      exact r7 k (by simpa using hk) hhk j hj hjk hhj hrange
  | case3 v vs i0 cl hh cl' e hp =>
    intro hCI hpre hd2
    have := (hrow v vs i0 cl hCI (by simpa using hh) hpre hd2).1
    rw [hp] at this; cases this
  | case4 v vs i0 cl hh cl' hp ih =>
    intro hCI hpre hd2
    obtain ⟨_, s5, s6, s7⟩ := hrow v vs i0 cl hCI (by simpa using hh) hpre hd2
    have hCI1 := (crossRow_outcome f hF.ctx i0 v all 0 cl hCI).1
    have s4 := (crossRow_frame f (Closed.trivial params) i0 v all 0 cl).der2
    rw [hp] at s5 s6 s7 hCI1 s4
    simp only [] at s5 s6 s7 s4
    obtain ⟨r1, r5, r6, r7⟩ := ih (hCI1 rfl) (nodup_row hall hpre).1 (fun i hi => by rw [s4]; exact hd2 i hi)
    refine ⟨r1, fun a b ha => by rw [r5 a b (by omega)]; exact s5 a b (Or.inl (by omega)),
      fun a b => by rw [r6 a b]; exact s6 a b, fun k hk hhk j hj hjk hhj hrange => ?_⟩
    cases k with
    | zero =>
      simp only [List.getElem_cons_zero, Nat.add_zero] at hjk hrange ⊢
      rw [r5 i0 j (by omega)]
      have := s7 j hj (by omega) hhj (by simpa using hrange)
      simpa using this
    | succ k =>
      simp only [List.getElem_cons_succ] at hhk ⊢
      rw [idx i0 k] at hjk hrange ⊢
      exact r7 k (by simpa using hk) hhk j hj hjk hhj (fun hn => hrange ((s6 _ _).mp hn))


/-- the loop over `variables_`, when it returns, has probed some variable if the list mentions one -/
theorem loopGo_last (f : List ℝ → ℝ) {params : PList ℝ} (s : Scheme) (vs : List Name) (i : Nat) (lp : Loop ℝ) :
    ((∃ v ∈ vs, has params v = true) ∨ lp.lastVar ≠ none) → (loopGo (stepOf s f params) vs i lp).2 = none →
    (loopGo (stepOf s f params) vs i lp).1.lastVar ≠ none := by
  fun_induction loopGo (stepOf s f params) vs i lp with
  | case1 => exact fun h _ => h.elim (fun ⟨v, hv, _⟩ => by cases hv) id
  | case2 => exact fun _ h => by cases h
  | case3 v vs i lp lp' hs ih =>
    intro h hnone
    have hfr := stepOf_frame f (Closed.trivial params) s lp i v
    rw [hs] at hfr
    refine ih ?_ hnone
    by_cases hv : has params v = true
    · right; rw [hfr.last_of hv rfl]; simp
    · rcases h with ⟨x, hx, hhx⟩ | h
      · rcases List.mem_cons.mp hx with rfl | hx'
        · exact absurd hhx hv
        · exact Or.inl ⟨x, hx', hhx⟩
      · right
        rcases hfr.last with hl | hl
        · rw [hl]; exact h
        · rw [hl]; simp

/-- `updateDerivatives` of the three-point scheme with cross derivatives, nominal path -/
theorem update3_free_cross (f : List ℝ → ℝ) (w : W ℝ) (params : PList ℝ) (hown : Own w.fn) (hok : w.fn.OK f)
    (hF : Free f params w.fn.params) (hB : BoundedNear f w.fn.params w.h)
    (hpnd : (names params).Nodup) (hc1 : w.c1 = true) (hcx : w.cx = true)
    (hvars : w.vars.Nodup) (hin : ∀ v ∈ w.vars, has params v = true → v ∈ names w.fn.params) (hh : 0 < w.h)
    (hl1 : w.der1.length = w.vars.length) (hl2 : w.der2.length = w.vars.length) :
    (update3 f w params).2 = none ∧
    (∀ k (hk : k < w.vars.length), has params w.vars[k] = true →
      (update3 f w params).1.der1[k]? = some (three1 f w.fn.params w.h w.vars[k]) ∧
      (update3 f w params).1.der2[k]? = some (three2 f w.fn.params w.h (f (values w.fn.params)) w.vars[k])) ∧
    (∀ i (hi : i < w.vars.length) j (hj : j < w.vars.length), i ≠ j → has params w.vars[i] = true →
      has params w.vars[j] = true → get2 w.cross i j ≠ none →
      get2 (update3 f w params).1.cross i j = some (crossVal f w.fn.params w.h w.vars[i] w.vars[j])) := by
  rw [update3_eq]
  by_cases hne : 0 < w.vars.length
  · obtain ⟨fn1, hval, hLI0, hfin⟩ := updateG_via_loop .three f w params hown hok hF.freeFn hpnd hc1 hne (fun _ => hB.base)
    have hst := step3_path f w params hF.freeFn hin hB hh.ne' (fun _ => 0) (fun v _ qv b hqv _ =>
      ⟨hF.firstAccepted hqv _ _, (hF.accepts hqv).2 _⟩)
    obtain ⟨hl0, r2, rd1⟩ := loopG_stores .three f w params hF.freeFn fn1 hval hLI0 hvars (·.der1) _
      (fun w0 h1 h2 lp i v h3 h4 h5 h6 => ⟨(hst w0 h1 h2 lp i v h3 h4 h5 h6).1, (hst w0 h1 h2 lp i v h3 h4 h5 h6).2.1,
        (hst w0 h1 h2 lp i v h3 h4 h5 h6).2.2.1⟩)
    obtain ⟨_, _, rd2⟩ := loopG_stores .three f w params hF.freeFn fn1 hval hLI0 hvars (·.der2) _
      (fun w0 h1 h2 lp i v h3 h4 h5 h6 => ⟨(hst w0 h1 h2 lp i v h3 h4 h5 h6).1, (hst w0 h1 h2 lp i v h3 h4 h5 h6).2.1,
        (hst w0 h1 h2 lp i v h3 h4 h5 h6).2.2.2⟩)
    have hfr := loopGo_frame f (stepOf .three f params) (stepOf_frame f (Closed.trivial params) .three) w.vars 0
      { w := setSlot .three { w with fn := fn1 } fn1.fval, p := [], lastVar := none }
    have rlv := loopGo_last f (params := params) .three w.vars 0
      { w := setSlot .three { w with fn := fn1 } fn1.fval, p := [], lastVar := none }
    rcases hl : loopGo (stepOf .three f params) w.vars 0
      { w := setSlot .three { w with fn := fn1 } fn1.fval, p := [], lastVar := none } with ⟨lp, e⟩
    rw [hl] at hl0 r2 rd1 rd2 hfr rlv
    simp only [] at hl0 rd1 rd2 rlv
    subst hl0
    replace rd1 : lp.w.der1 = storeAll params _ w.vars 0 w.der1 := rd1
    replace rd2 : lp.w.der2 = storeAll params _ w.vars 0 w.der2 := rd2
    have r4 : lp.w.der2.length = w.der2.length := by rw [rd2]; exact storeAll_length _ _ _ _ _
    have r5 : lp.w.cross = w.cross := hfr.2.2
    have hvs' : lp.w.vars = w.vars := r2.frame.vars
    have hders : ∀ k (hk : k < w.vars.length), has params w.vars[k] = true →
        lp.w.der1[k]? = some (three1 f w.fn.params w.h w.vars[k]) ∧
        lp.w.der2[k]? = some (three2 f w.fn.params w.h (f (values w.fn.params)) w.vars[k]) := by
      intro k hk hhk
      rw [rd1, rd2, ← (three1At_zero f w.fn.params hh w.vars[k]).1, ← (three1At_zero f w.fn.params hh w.vars[k]).2]
      exact ⟨storeAll_get_zero params _ w.vars w.der1 hl1 k hk hhk, storeAll_get_zero params _ w.vars w.der2 hl2 k hk hhk⟩
    have hfeas := feas_of_nocon hF.nocon
    rw [hfin lp hl]
    unfold afterLoop
    rw [r2.frame.cx, show (hasCross .three && (setSlot .three { w with fn := fn1 } fn1.fval).cx) = true from by simp [hasCross, setSlot, hcx]]
    simp only [if_true]
    cases hlv : lp.lastVar with
    | none =>
      simp only []
      obtain ⟨_, _, q2, q3, _⟩ := finish_frame f (Closed.trivial params) (none : Option Name) true lp.w
      refine ⟨finish_noexc f hF.ctx hfeas hpnd none true lp.w r2.dev (fun l h => by cases h), ?_, ?_⟩
      · intro k hk hhk; rw [q2, q3]; exact hders k hk hhk
      · intro i hi j hj _ hhi _ _
        exact absurd hlv (rlv (Or.inl ⟨w.vars[i], List.getElem_mem hi, hhi⟩) rfl)
    | some l =>
      simp only []
      have hCI0 := r2.startCross hlv
      have hd2some : ∀ i, i < lp.w.vars.length → lp.w.der2[i]? ≠ none := by
        intro i hi
        rw [hvs'] at hi
        have : i < lp.w.der2.length := by rw [r4]; show i < w.der2.length; rw [hl2]; exact hi
        rw [List.getElem?_eq_getElem this]; simp
      obtain ⟨c1, _, c6, c7⟩ := crossGo_free f hF (w0 := setSlot .three { w with fn := fn1 } fn1.fval) lp.w.vars
        (by rw [hvs']; exact hvars) (by rw [hvs']; exact hin) lp.w.vars 0 _ hCI0 ⟨[], rfl, rfl⟩ hd2some
      have c2 := (crossGo_outcome f hF.ctx lp.w.vars lp.w.vars 0 _ hCI0).1
      have hcf := crossGo_frame f (Closed.trivial params) lp.w.vars lp.w.vars 0 { w := lp.w, l1 := l, l2 := l }
      rcases hcg : crossGo f params lp.w.vars lp.w.vars 0 { w := lp.w, l1 := l, l2 := l } with ⟨cl, e⟩
      rw [hcg] at c1 c2 c6 c7 hcf
      have c3 : cl.w.der1 = lp.w.der1 := hcf.der1
      have c4 : cl.w.der2 = lp.w.der2 := hcf.der2
      simp only [] at c1 c2 c6 c7
      subst c1
      replace c2 := c2 rfl
      simp only []
      obtain ⟨_, _, q2, q3, q4⟩ := finish_frame f (Closed.trivial params) (some l) true cl.w
      refine ⟨finish_noexc f hF.ctx hfeas hpnd (some l) true cl.w c2.dev (fun l' h => by injection h with h; subst h; exact r2.last l hlv), ?_, ?_⟩
      · intro k hk hhk; rw [q2, q3, c3, c4]; exact hders k hk hhk
      · intro i hi j hj hij hhi hhj hrange
        rw [q4]
        have hi' : i < lp.w.vars.length := by rw [hvs']; exact hi
        have hj' : j < lp.w.vars.length := by rw [hvs']; exact hj
        have := c7 i hi' (by simp only [hvs']; exact hhi) j hj' (by omega) (by simp only [hvs']; exact hhj)
          (by simp only [Nat.zero_add]; rw [r5]; exact hrange)
        simp only [Nat.zero_add] at this
        rw [this]
        simp only [hvs']
        rfl
  · exact ⟨updateG_idle .three f w params hF.freeFn hpnd hne, fun k hk => absurd hk (by omega), fun i hi => absurd hi (by omega)⟩

end Bpp.NumDeriv
