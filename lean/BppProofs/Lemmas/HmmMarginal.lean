import BppProofs.Lemmas.HmmFlags
/-!
Helper lemmas for C13: the posterior rows of the rescaled class are probability vectors and the exact
path marginals (one forward–backward induction over the sites).
-/
namespace Bpp.Hmm
open Bpp Finset

/-- `margW` with `List.sum` -/
noncomputable def margS (p : Params ℝ) (prev : Nat) (sites : List (Site ℝ)) (i j : Nat) : ℝ :=
  (((allPaths p.n sites.length).filter (fun ys => ys[i]? == some j)).map (pathW p prev sites)).sum

theorem margW_eq (p : Params ℝ) (prev : Nat) (sites : List (Site ℝ)) (i j : Nat) :
    margW p prev sites i j = margS p prev sites i j :=
  sumL_eq_sum _

theorem sum_filter_flatMap {β γ : Type} (L : List β) (f : β → List γ) (q : γ → Bool) (g : γ → ℝ) :
    (((L.flatMap f).filter q).map g).sum = (L.map (fun y => (((f y).filter q).map g).sum)).sum := by
  induction L with
  | nil => rfl
  | cons x xs ih =>
    simp only [List.flatMap_cons, List.filter_append, List.map_append, List.sum_append, ih, List.map_cons,
      List.sum_cons]

theorem margS_zero (p : Params ℝ) (prev : Nat) (b : Bool) (e : Emis ℝ) (rest : List (Site ℝ)) (j : Nat) (hj : j < p.n) :
    margS p prev ((b, e) :: rest) 0 j = (if b then initW p j else p.P prev j) * e j * tailSum p j rest := by
  unfold margS
  simp only [List.length_cons, allPaths]
  rw [sum_filter_flatMap, ← vec, sum_vec]
  have : ∀ y, y ∈ range p.n →
      (((List.map (fun ys => y :: ys) (allPaths p.n rest.length)).filter (fun ys => ys[0]? == some j)).map
        (pathW p prev ((b, e) :: rest))).sum
        = if y = j then (if b then initW p j else p.P prev j) * e j * tailSum p j rest else 0 := by
    intro y _
    rw [List.filter_map]
    by_cases hy : y = j
    · subst hy
      have hf : ((fun ys : List Nat => ys[0]? == some y) ∘ fun ys => y :: ys) = fun _ => true :=
        funext fun ys => beq_self_eq_true (some y)
      rw [hf, List.filter_true, List.map_map, if_pos rfl]
      unfold tailSum
      rw [← List.sum_map_mul_left]; rfl
    · have hf : ((fun ys : List Nat => ys[0]? == some j) ∘ fun ys => y :: ys) = fun _ => false :=
        funext fun ys => beq_false_of_ne fun h => hy (Option.some.inj h)
      rw [hf, if_neg hy, List.filter_false]; rfl
  rw [Finset.sum_congr rfl this, Finset.sum_ite_eq' (range p.n) j, if_pos (Finset.mem_range.mpr hj)]

theorem margS_succ (p : Params ℝ) (prev : Nat) (b : Bool) (e : Emis ℝ) (rest : List (Site ℝ)) (i j : Nat) :
    margS p prev ((b, e) :: rest) (i + 1) j
      = ∑ y ∈ range p.n, (if b then initW p y else p.P prev y) * e y * margS p y rest i j := by
  unfold margS
  simp only [List.length_cons, allPaths]
  rw [sum_filter_flatMap, ← vec, sum_vec]
  refine Finset.sum_congr rfl fun y _ => ?_
  rw [List.filter_map, List.map_map, ← List.sum_map_mul_left]
  rfl

/-- the next unscaled forward vector, with the total of a finished segment folded in at a reset -/
noncomputable def nextU (p : Params ℝ) (g : Nat → ℝ) (s : Site ℝ) : Nat → ℝ :=
  fun j => (if s.1 then ∑ y ∈ range p.n, g y else 1) * tmpF p s.1 s.2 g j

theorem sum_margS_zero (p : Params ℝ) (g : Nat → ℝ) (s : Site ℝ) (rest : List (Site ℝ)) (j : Nat) (hj : j < p.n) :
    ∑ y ∈ range p.n, g y * margS p y (s :: rest) 0 j = nextU p g s j * tailSum p j rest := by
  obtain ⟨b, e⟩ := s
  simp only [margS_zero p _ b e rest j hj, nextU]
  cases b
  · simp only [Bool.false_eq_true, if_false, tmpF, stepF, one_mul, Finset.mul_sum, Finset.sum_mul]
    exact Finset.sum_congr rfl fun y _ => by ring
  · simp only [if_true, tmpF_true]
    rw [← Finset.sum_mul]; ring

theorem sum_margS_succ (p : Params ℝ) (g : Nat → ℝ) (s : Site ℝ) (rest : List (Site ℝ)) (i j : Nat) :
    ∑ y ∈ range p.n, g y * margS p y (s :: rest) (i + 1) j = ∑ y' ∈ range p.n, nextU p g s y' * margS p y' rest i j := by
  obtain ⟨b, e⟩ := s
  simp only [margS_succ, nextU]
  cases b
  · simp only [Bool.false_eq_true, if_false, tmpF, stepF, one_mul, Finset.mul_sum, Finset.sum_mul]
    rw [Finset.sum_comm]
    exact Finset.sum_congr rfl fun y' _ => Finset.sum_congr rfl fun y _ => by ring
  · simp only [if_true, tmpF_true, Finset.mul_sum, Finset.sum_mul]
    rw [Finset.sum_comm]
    exact Finset.sum_congr rfl fun y' _ => Finset.sum_congr rfl fun y _ => by ring

/-- the rows `rows` are, site by site, probability vectors and — with the weight `C` of all paths through `rest`
from the forward vector `g` — the path marginals -/
def MargRows (p : Params ℝ) (g : Nat → ℝ) (rest : List (Site ℝ)) (C : ℝ) (rows : List (List ℝ)) : Prop :=
  ∀ i, i < rest.length → ∃ x : Nat → ℝ, rows[i]? = some (vec p.n x)
    ∧ (∀ j, j < p.n → 0 ≤ x j) ∧ ∑ j ∈ range p.n, x j = 1
    ∧ ∀ (K : ℝ) j, j < p.n → ∑ y ∈ range p.n, (K * g y) * margS p y rest i j = K * C * x j

theorem nextU_smul (p : Params ℝ) (K : ℝ) (g : Nat → ℝ) (b : Bool) (e : Emis ℝ) (y : Nat) :
    nextU p (fun k => K * g k) (b, e) y = K * (if b then ∑ j ∈ range p.n, g j else 1) * tmpF p b e g y := by
  unfold nextU
  rw [tmpF_smul, ← Finset.mul_sum]
  cases b
  · simp only [Bool.false_eq_true, if_false]; ring
  · simp only [if_true]; ring

/-- scaling of the next unscaled vector: `nextU (K • ĝ) = (K·c) • normalised`, for `Σ ĝ = 1` -/
theorem nextU_scaled {p : Params ℝ} (hp : NonNegP p) (b : Bool) {e : Emis ℝ} (he : NonNegE e) {gh : Nat → ℝ}
    (hgh : ∀ j, j < p.n → 0 ≤ gh j) (hg1 : ∑ j ∈ range p.n, gh j = 1) (K : ℝ) (y : Nat) (hy : y < p.n) :
    nextU p (fun k => K * gh k) (b, e) y = K * (rescStep p b e gh).2 * (rescStep p b e gh).1 y := by
  rw [nextU_smul, hg1, ite_self, mul_one, rescStep_spec hp b he hgh y hy, mul_assoc]

/-- one more site in front: the next forward vector of `K • g` is `(K·a) • g'`, the row of the new site is `x0`
with `g' ⊙ tailSum = C' • x0`, the later rows are those of `g'` -/
theorem MargRows.cons {p : Params ℝ} {g g' x0 : Nat → ℝ} {s : Site ℝ} {rest : List (Site ℝ)} {a C' : ℝ}
    {rows' : List (List ℝ)}
    (hnext : ∀ K y, y < p.n → nextU p (fun k => K * g k) s y = K * a * g' y)
    (h0 : ∀ j, j < p.n → 0 ≤ x0 j) (h1 : ∑ j ∈ range p.n, x0 j = 1)
    (hx0 : ∀ j, j < p.n → g' j * tailSum p j rest = C' * x0 j)
    (hrows : MargRows p g' rest C' rows') :
    MargRows p g (s :: rest) (a * C') (vec p.n x0 :: rows') := by
  intro i hi
  cases i with
  | zero =>
    refine ⟨x0, rfl, h0, h1, fun K j hj => ?_⟩
    rw [sum_margS_zero p (fun y => K * g y) s rest j hj, hnext K j hj, mul_assoc (K * a), hx0 j hj]
    ring
  | succ i =>
    obtain ⟨x, hx, hx0', hx1, hxm⟩ := hrows i (Nat.lt_of_succ_lt_succ hi)
    refine ⟨x, hx, hx0', hx1, fun K j hj => ?_⟩
    rw [sum_margS_succ p (fun y => K * g y) s rest i j,
      Finset.sum_congr rfl fun y hy => by rw [hnext K y (Finset.mem_range.mp hy)], hxm (K * a) j hj]
    ring

/-- the first position: the chain starts with `tmpF p true e0 p.pi = a • g'`, whatever state it is said to come from -/
theorem MargRows.first {p : Params ℝ} {e0 : Emis ℝ} {sites : List (Site ℝ)} {g' x0 : Nat → ℝ} {a C' : ℝ}
    {rows' : List (List ℝ)} (ht : ∀ y, y < p.n → tmpF p true e0 p.pi y = a * g' y)
    (h0 : ∀ j, j < p.n → 0 ≤ x0 j) (h1 : ∑ j ∈ range p.n, x0 j = 1)
    (hx0 : ∀ j, j < p.n → g' j * tailSum p j sites = C' * x0 j) (hrows : MargRows p g' sites C' rows')
    (i : Nat) (hi : i < sites.length + 1) :
    ∃ x : Nat → ℝ, (vec p.n x0 :: rows')[i]? = some (vec p.n x) ∧ (∀ j, j < p.n → 0 ≤ x j) ∧ ∑ j ∈ range p.n, x j = 1
      ∧ ∀ j, j < p.n → x j * (a * C') = pathMarginal p e0 sites i j := by
  simp only [pathMarginal, margW_eq]
  cases i with
  | zero =>
    refine ⟨x0, rfl, h0, h1, fun j hj => ?_⟩
    rw [margS_zero p 0 true e0 _ j hj, if_pos rfl, mul_comm (initW p j), ← tmpF_true p e0 p.pi, ht j hj,
      mul_assoc, hx0 j hj]
    ring
  | succ i =>
    obtain ⟨x, hx, hx0', hx1, hxm⟩ := hrows i (Nat.lt_of_succ_lt_succ hi)
    refine ⟨x, hx, hx0', hx1, fun j hj => ?_⟩
    rw [margS_succ, Finset.sum_congr rfl fun y hy => show _ = a * g' y * margS p y _ i j by
      rw [if_pos rfl, mul_comm (initW p y), ← tmpF_true p e0 p.pi, ht y (Finset.mem_range.mp hy)],
      hxm a j hj]
    ring

/-- Forward–backward decomposition along the rescaled recursions, for a normalised forward vector `gh` with all
following scale factors positive: `Σ_j gh_j·back_j = 1`, the sum over the continuations of a path is the product
of the scale factors times `back`, and every later `likelihood ⊙ backLikelihood` row is a probability vector and,
up to the scale factors, the vector of the path marginals. -/
theorem marginal_rows {p : Params ℝ} (hp : NonNegP p) (rest : List (Site ℝ)) (hs : NonNegS rest)
    (gh : Nat → ℝ) (hgh : ∀ j, j < p.n → 0 ≤ gh j) (hg1 : ∑ j ∈ range p.n, gh j = 1)
    (hpos : ∀ x ∈ rescLoop p rest (vec p.n gh), 0 < x.2) :
    ∃ (B : Nat → ℝ) (tl : List (List ℝ)),
      backAll p (itemsOf rest (rescLoop p rest (vec p.n gh))) = vec p.n B :: tl
      ∧ (∀ j, 0 ≤ B j) ∧ ∑ j ∈ range p.n, gh j * B j = 1
      ∧ (∀ j, j < p.n → tailSum p j rest = prodScales (rescLoop p rest (vec p.n gh)) * B j)
      ∧ tl.length = rest.length
      ∧ MargRows p gh rest (prodScales (rescLoop p rest (vec p.n gh)))
          (List.zipWith mulV ((rescLoop p rest (vec p.n gh)).map (·.1)) tl) := by
  induction rest generalizing gh with
  | nil =>
    refine ⟨fun _ => 1, [], congrArg (· :: []) (onesV_eq p), fun _ => zero_le_one, by simpa using hg1,
      fun j _ => ?_, rfl, fun i hi => absurd hi (Nat.not_lt_zero _)⟩
    rw [tailSum_nil]; exact (mul_one _).symm
  | cons s rest ih =>
    obtain ⟨b, e⟩ := s
    obtain ⟨he, hs'⟩ := hs.tail
    have h0 := rescStep_nonneg hp b he hgh
    have h1 := rescStep_spec hp b he hgh
    have hs1 := rescStep_sum hp b he hgh
    have hnext := nextU_scaled hp b he hgh hg1
    rw [rescLoop_cons hp b he hgh] at hpos ⊢
    generalize rescStep p b e gh = r at h0 h1 hs1 hnext hpos ⊢
    obtain ⟨hc, hpos'⟩ := List.forall_mem_cons.mp hpos
    obtain ⟨B', tl', hback', hB', hsum', htail', hlen', hrows'⟩ := ih hs' r.1 (fun j _ => h0 j) (hs1 hc) hpos'
    have hrows : MargRows p gh ((b, e) :: rest) (prodScales ((vec p.n r.1, r.2) :: rescLoop p rest (vec p.n r.1)))
        (List.zipWith mulV (((vec p.n r.1, r.2) :: rescLoop p rest (vec p.n r.1)).map (·.1)) (vec p.n B' :: tl')) := by
      rw [List.map_cons, List.zipWith_cons_cons, mulV_vec, prodScales_cons]
      exact MargRows.cons hnext (fun j _ => mul_nonneg (h0 j) (hB' j)) hsum' (fun j hj => by rw [htail' j hj]; ring)
        hrows'
    rw [show itemsOf ((b, e) :: rest) ((vec p.n r.1, r.2) :: rescLoop p rest (vec p.n r.1))
      = (b, e, r.2) :: itemsOf rest (rescLoop p rest (vec p.n r.1)) from rfl]
    simp only [backAll, hback']
    cases b
    · rw [backStep_false]
      refine ⟨_, vec p.n B' :: tl', rfl, fun j => div_nonneg (Finset.sum_nonneg fun k _ =>
        mul_nonneg (mul_nonneg (he k) (hp.1 j k)) (hB' k)) (le_of_lt hc), ?_, fun j _ => ?_,
        congrArg (· + 1) hlen', hrows⟩
      · simp only [← mul_div_assoc, ← Finset.sum_div]
        rw [div_eq_one_iff_eq (ne_of_gt hc)]
        calc ∑ j ∈ range p.n, gh j * ∑ k ∈ range p.n, e k * p.P j k * B' k
            = ∑ k ∈ range p.n, tmpF p false e gh k * B' k := sum_mul_back p e gh B'
          _ = ∑ k ∈ range p.n, r.2 * (r.1 k * B' k) :=
              Finset.sum_congr rfl fun k hk => by rw [h1 k (Finset.mem_range.mp hk), mul_assoc]
          _ = r.2 := by rw [← Finset.mul_sum, hsum', mul_one]
      · rw [tailSum_cons, prodScales_cons, mul_comm r.2, mul_assoc, mul_div_cancel₀ _ (ne_of_gt hc), Finset.mul_sum]
        exact Finset.sum_congr rfl fun y hy => by
          rw [htail' y (Finset.mem_range.mp hy)]; simp only [Bool.false_eq_true, if_false]; ring
    · rw [show backStep p true e r.2 (vec p.n B') = onesV p from rfl, onesV_eq]
      refine ⟨fun _ => 1, vec p.n B' :: tl', rfl, fun _ => zero_le_one, by simpa using hg1, fun j _ => ?_,
        congrArg (· + 1) hlen', hrows⟩
      rw [tailSum_cons, prodScales_cons, mul_one,
        Finset.sum_congr rfl fun y hy => show _ = r.2 * prodScales (rescLoop p rest (vec p.n r.1)) * (r.1 y * B' y) by
          rw [htail' y (Finset.mem_range.mp hy), if_pos rfl, mul_comm (initW p y), ← tmpF_true p e gh,
            h1 y (Finset.mem_range.mp hy)]
          ring,
        ← Finset.mul_sum, hsum', mul_one]

/-- the posterior matrix of the rescaled class: one probability vector per position, whose entry `j` times the
sum over all hidden paths is the sum over the paths that are in state `j` at that position -/
theorem rescPosterior_spec {p : Params ℝ} (hp : NonNegP p) {e0 : Emis ℝ} (he0 : NonNegE e0)
    (es : List (Emis ℝ)) (hes : ∀ e ∈ es, NonNegE e) (bps : List Nat) (hv : ValidBreaks (es.length + 1) bps)
    (hpos : ∀ c ∈ (rescForward p e0 (mkSites es bps)).scales, 0 < c) :
    (rescPosterior p e0 es bps).length = es.length + 1 ∧
    ∀ i, i < es.length + 1 → ∃ x : Nat → ℝ, (rescPosterior p e0 es bps)[i]? = some (vec p.n x)
      ∧ (∀ j, j < p.n → 0 ≤ x j) ∧ ∑ j ∈ range p.n, x j = 1
      ∧ ∀ j, j < p.n → x j * pathSum p e0 (mkSites es bps) = pathMarginal p e0 (mkSites es bps) i j := by
  have hpi := fun j (_ : j < p.n) => hp.2 j
  have hsites : NonNegS (mkSites es bps) := fun s hs => hes _ (mkSites_snd es bps ▸ List.mem_map_of_mem hs)
  have h0 := rescStep_nonneg hp true he0 hpi
  have h1 := rescStep_spec hp true he0 hpi
  have hs1 := rescStep_sum hp true he0 hpi
  have hps := scales_prod_eq_fwdU hp he0 _ hsites
  have hpost : rescPosterior p e0 es bps = List.zipWith mulV (rescForward p e0 (mkSites es bps)).lik
      (backAll p (List.zip ((mkSites es bps).map (·.1))
        (List.zip ((mkSites es bps).map (·.2)) (rescForward p e0 (mkSites es bps)).scales.tail))) := by
    rw [← bwd_flags_eq_fwd es bps hv, mkSites_snd]; rfl
  rw [fwdU_eq_pathSum, rescForward_scales, rescLoop_cons hp true he0 hpi] at hps
  rw [rescForward_scales, rescLoop_cons hp true he0 hpi] at hpos
  rw [hpost, rescForward_lik, rescForward_scales, rescLoop_cons hp true he0 hpi]
  generalize rescStep p true e0 p.pi = r at h0 h1 hs1 hps hpos ⊢
  replace hps : r.2 * prodScales (rescLoop p (mkSites es bps) (vec p.n r.1)) = pathSum p e0 (mkSites es bps) := hps
  simp only [List.map_cons, List.tail_cons, List.forall_mem_cons, List.forall_mem_map] at hpos ⊢
  obtain ⟨B, tl, hback, hB, hsum, htail, hlen, hrows⟩ :=
    marginal_rows hp _ hsites r.1 (fun j _ => h0 j) (hs1 hpos.1) hpos.2
  rw [zip_items, hback, ← hps]
  refine ⟨by simp only [List.zipWith_cons_cons, List.length_cons, List.length_zipWith, List.length_map,
    rescLoop_length, hlen, Nat.min_self, mkSites_length], fun i hi => ?_⟩
  rw [List.zipWith_cons_cons, mulV_vec]
  exact MargRows.first h1 (fun j _ => mul_nonneg (h0 j) (hB j)) hsum (fun j hj => by rw [htail j hj]; ring) hrows i
    (by rw [mkSites_length]; exact hi)

end Bpp.Hmm
