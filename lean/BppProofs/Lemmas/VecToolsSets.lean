import BppProofs.Lemmas.VecToolsOrder
/-!
Helper lemmas for C07: the set-like helpers (`contains`, union, `unique`, `diff`, `containsAll`, `isUnique`,
`haveSameElements`) over a linear order, `==` and `<` read as `deq`, `dlt`.
-/
namespace Bpp.VecTools
open Bpp Bpp.ScalarReal

section Sets
variable {β : Type} [LinearOrder β]

/-- `==` and `<` of a linear order, as the Boolean comparisons the model is parameterised by -/
def deq : β → β → Bool := fun a b => decide (a = b)
def dlt : β → β → Bool := fun a b => decide (a < b)

@[simp] theorem deq_iff (a b : β) : deq a b = true ↔ a = b := decide_eq_true_iff
@[simp] theorem dlt_iff (a b : β) : dlt a b = true ↔ a < b := decide_eq_true_iff
@[simp] theorem deq_false_iff (a b : β) : deq a b = false ↔ a ≠ b := decide_eq_false_iff_not
@[simp] theorem dlt_false_iff (a b : β) : dlt a b = false ↔ b ≤ a := decide_eq_false_iff_not.trans not_lt

@[simp] theorem contains_deq (v : List β) (x : β) : contains deq v x = true ↔ x ∈ v := by
  simp only [contains, List.any_eq_true, deq_iff, exists_eq_right]

theorem contains_deq_false (v : List β) (x : β) : contains deq v x = false ↔ x ∉ v := by
  rw [← contains_deq, Bool.not_eq_true]

theorem listEq_iff (l1 l2 : List β) : listEq deq l1 l2 = true ↔ l1 = l2 := by
  induction l1 generalizing l2 with
  | nil => cases l2 <;> simp [listEq]
  | cons x xs ih =>
    cases l2 with
    | nil => simp [listEq]
    | cons y ys => simp [listEq, ih ys]

theorem listEq_refl (l : List β) : listEq deq l l = true := (listEq_iff l l).mpr rfl

/-! union: the push-if-absent loop appends the first occurrences of the new elements -/

theorem mem_firstOcc (l : List β) (x : β) : x ∈ Spec.firstOcc deq l ↔ x ∈ l := by
  induction l with
  | nil => rfl
  | cons y ys ih =>
    rw [Spec.firstOcc, List.mem_cons, List.mem_filter, ih, List.mem_cons, Bool.not_eq_true', deq_false_iff]
    by_cases h : x = y <;> simp [h]

theorem nodup_firstOcc (l : List β) : (Spec.firstOcc deq l).Nodup := by
  induction l with
  | nil => exact List.nodup_nil
  | cons y ys ih =>
    rw [Spec.firstOcc, List.nodup_cons, List.mem_filter]
    exact ⟨fun h => by simp at h, ih.filter _⟩

theorem vectorUnionOrig_eq (u v : List β) :
    vectorUnionOrig deq u v = u ++ (Spec.firstOcc deq v).filter (fun x => decide (x ∉ u)) := by
  induction v generalizing u with
  | nil => simp [vectorUnionOrig, Spec.firstOcc]
  | cons y ys ih =>
    have hstep : vectorUnionOrig deq u (y :: ys) = vectorUnionOrig deq (if y ∈ u then u else u ++ [y]) ys := by
      rw [vectorUnionOrig, List.foldl_cons, ← vectorUnionOrig]
      by_cases hy : y ∈ u
      · rw [if_pos hy, (contains_deq u y).mpr hy]; rfl
      · rw [if_neg hy, (contains_deq_false u y).mpr hy]; rfl
    rw [hstep, ih, Spec.firstOcc, List.filter_cons, List.filter_filter]
    by_cases hy : y ∈ u
    · rw [if_pos hy, if_neg (by rwa [decide_eq_true_iff, not_not])]
      refine congrArg _ (List.filter_congr fun z _ => ?_)
      rw [Bool.eq_iff_iff, Bool.and_eq_true, decide_eq_true_iff, Bool.not_eq_true', deq_false_iff]
      exact ⟨fun h => ⟨h, fun e => h (e ▸ hy)⟩, And.left⟩
    · rw [if_neg hy, if_pos (decide_eq_true hy), List.append_assoc, List.singleton_append]
      refine congrArg _ (congrArg _ (List.filter_congr fun z _ => ?_))
      rw [Bool.eq_iff_iff, Bool.and_eq_true, decide_eq_true_iff, decide_eq_true_iff, Bool.not_eq_true', deq_false_iff,
        List.mem_append, List.mem_singleton, not_or]

theorem mem_vectorUnionOrig (a b : List β) (x : β) : x ∈ vectorUnionOrig deq a b ↔ x ∈ a ∨ x ∈ b := by
  rw [vectorUnionOrig_eq, List.mem_append, List.mem_filter, mem_firstOcc, decide_eq_true_iff]
  exact ⟨Or.imp_right And.left, fun h => (em (x ∈ a)).imp_right fun hx => ⟨h.resolve_left hx, hx⟩⟩

theorem nodup_vectorUnionOrig (a b : List β) (ha : a.Nodup) : (vectorUnionOrig deq a b).Nodup := by
  rw [vectorUnionOrig_eq, List.nodup_append]
  exact ⟨ha, (nodup_firstOcc b).filter _, fun x hx y hy hxy =>
    of_decide_eq_true (List.mem_filter.mp hy).2 (hxy ▸ hx)⟩

theorem isUnion_vectorUnionOrig (a b : List β) : IsUnion deq a b (vectorUnionOrig deq a b) := by
  have hm := mem_vectorUnionOrig a b
  refine ⟨fun x hx => ?_, fun x hx => ?_, fun x hx => ?_, ?_, ?_, ?_⟩
  · rwa [contains_deq, contains_deq, ← hm]
  · rw [contains_deq, hm]; exact .inl hx
  · rw [contains_deq, hm]; exact .inr hx
  · rw [vectorUnionOrig_eq, List.take_left' rfl]; exact listEq_refl a
  · rw [vectorUnionOrig_eq, List.drop_left' rfl]
    exact ((nodup_firstOcc b).filter _).imp fun {x y} h => (deq_false_iff x y).mpr h
  · rw [vectorUnionOrig_eq, List.drop_left' rfl]
    exact fun x hx => (contains_deq_false a x).mpr (of_decide_eq_true (List.mem_filter.mp hx).2)

/-! sorting with the derived comparator -/
theorem sorted_mergeSort_dlt (v : List β) : (v.mergeSort (leOfLt dlt)).Pairwise (· ≤ ·) := by
  have := sortedBy_mergeSort (strictWeak_of_lt (dlt_iff (β := β))) id v
  rw [List.map_id] at this
  exact this.imp fun {a b} h => (dlt_false_iff b a).mp h

/-! unique -/
theorem dedupAdj_cons_self (x : β) (xs : List β) : dedupAdj deq x (x :: xs) = dedupAdj deq x xs := by
  rw [dedupAdj, (deq_iff x x).mpr rfl]; rfl

theorem dedupAdj_cons_of_ne {p y : β} (h : y ≠ p) (ys : List β) : dedupAdj deq p (y :: ys) = y :: dedupAdj deq y ys := by
  rw [dedupAdj, (deq_false_iff y p).mpr h]; rfl

theorem dedupAdj_spec (prev : β) (l : List β) (hs : (prev :: l).Pairwise (· ≤ ·)) :
    (prev :: dedupAdj deq prev l).Pairwise (· < ·) ∧ ∀ z, z ∈ prev :: dedupAdj deq prev l ↔ z ∈ prev :: l := by
  induction l generalizing prev with
  | nil => exact ⟨List.pairwise_singleton _ _, fun _ => Iff.rfl⟩
  | cons y ys ih =>
    obtain ⟨hp, hs'⟩ := List.pairwise_cons.mp hs
    obtain ⟨ih1, ih2⟩ := ih y hs'
    rcases eq_or_ne y prev with rfl | hy
    · rw [dedupAdj_cons_self]
      exact ⟨ih1, fun z => (ih2 z).trans
        ⟨List.mem_cons_of_mem _, fun h => (List.mem_cons.mp h).elim (· ▸ List.mem_cons_self) id⟩⟩
    · rw [dedupAdj_cons_of_ne hy]
      have hlt := lt_of_le_of_ne (hp y List.mem_cons_self) hy.symm
      refine ⟨List.pairwise_cons.mpr ⟨fun z hz => hlt.trans_le ?_, ih1⟩, fun z => ?_⟩
      · exact (List.mem_cons.mp ((ih2 z).mp hz)).elim (· ▸ le_rfl) ((List.pairwise_cons.mp hs').1 z)
      · rw [List.mem_cons, ih2 z, ← List.mem_cons]

theorem unique_spec (v : List β) :
    (unique deq dlt v).Pairwise (· < ·) ∧ ∀ z, z ∈ unique deq dlt v ↔ z ∈ v := by
  unfold unique
  have hs := sorted_mergeSort_dlt v
  have hm : ∀ z, z ∈ v.mergeSort (leOfLt dlt) ↔ z ∈ v := fun z => List.mem_mergeSort
  generalize v.mergeSort (leOfLt dlt) = s at hs hm
  cases s with
  | nil => simp only [List.Pairwise.nil, true_and]; intro z; rw [← hm z]
  | cons x xs =>
    obtain ⟨h1, h2⟩ := dedupAdj_spec x xs hs
    exact ⟨h1, fun z => (h2 z).trans (hm z)⟩

/-! diff -/
theorem advance_spec (x : β) (s : List β) (hs : s.Pairwise (· ≤ ·)) :
    (advance dlt x s).Pairwise (· ≤ ·) ∧ (∀ z, x ≤ z → (z ∈ advance dlt x s ↔ z ∈ s)) ∧
    (∀ y rest, advance dlt x s = y :: rest → (x ∈ s ↔ y = x)) ∧ (advance dlt x s = [] ↔ s = []) := by
  induction s with
  | nil => exact ⟨hs, fun _ _ => Iff.rfl, nofun, Iff.rfl⟩
  | cons y ys ih =>
    obtain ⟨hy, hs'⟩ := List.pairwise_cons.mp hs
    by_cases hmove : ys ≠ [] ∧ y < x
    · obtain ⟨⟨z, zs, rfl⟩, hyx⟩ := hmove.imp_left List.exists_cons_of_ne_nil
      obtain ⟨i1, i2, i3, i4⟩ := ih hs'
      have hdrop : ∀ w, x ≤ w → (w ∈ y :: z :: zs ↔ w ∈ z :: zs) := fun w hw =>
        List.mem_cons.trans (or_iff_right (hyx.trans_le hw).ne')
      rw [advance, if_pos ((dlt_iff y x).mpr hyx)]
      exact ⟨i1, fun w hw => (i2 w hw).trans (hdrop w hw).symm, fun y' rest h => (hdrop x le_rfl).trans (i3 y' rest h),
        i4.trans (iff_of_false (List.cons_ne_nil _ _) (List.cons_ne_nil _ _))⟩
    · -- a single element, or a head that is not below `x`, stays
      have e : advance dlt x (y :: ys) = y :: ys := by
        cases ys with
        | nil => rfl
        | cons z zs => rw [advance, if_neg fun h => hmove ⟨List.cons_ne_nil _ _, (dlt_iff y x).mp h⟩]
      rw [e]
      refine ⟨hs, fun _ _ => Iff.rfl, fun y' rest e' => ?_, iff_of_false (List.cons_ne_nil _ _) (List.cons_ne_nil _ _)⟩
      obtain rfl := (List.cons.inj e').1
      exact ⟨fun hx => (List.mem_cons.mp hx).elim Eq.symm fun hx =>
        le_antisymm (hy x hx) (not_lt.mp fun hlt => hmove ⟨List.ne_nil_of_mem hx, hlt⟩), fun e => e ▸ List.mem_cons_self⟩

/-- one step of the `diff` loop on an element that is not skipped: after `advance`, "the suffix is non-empty and
its head is `x`" says `x ∈ s` -/
theorem diffLoopFixed_cons (prev : Option β) (x : β) (xs s : List β) (hs : s.Pairwise (· ≤ ·))
    (hprev : sameAsPrev deq prev x = false) :
    diffLoopFixed deq dlt prev (x :: xs) s =
      if x ∈ s then diffLoopFixed deq dlt (some x) xs (advance dlt x s)
      else x :: diffLoopFixed deq dlt (some x) xs (advance dlt x s) := by
  obtain ⟨-, -, a3, a4⟩ := advance_spec x s hs
  rw [diffLoopFixed, if_neg (Bool.eq_false_iff.mp hprev)]
  cases hadv : advance dlt x s with
  | nil => simp only [a4.mp hadv, List.not_mem_nil, if_false]
  | cons y rest => simp only [a3 y rest hadv, Bool.not_eq_true', deq_false_iff, ite_not]

theorem diffLoopFixed_some (p : β) (xs s s0 : List β) (hxs : xs.Pairwise (· ≤ ·)) (hs : s.Pairwise (· ≤ ·))
    (hmem : ∀ z ∈ xs, z ∈ s ↔ z ∈ s0) :
    diffLoopFixed deq dlt (some p) xs s = (dedupAdj deq p xs).filter fun z => decide (z ∉ s0) := by
  induction xs generalizing p s with
  | nil => rfl
  | cons x xs ih =>
    obtain ⟨hx, hxs'⟩ := List.pairwise_cons.mp hxs
    obtain ⟨a1, a2, -, -⟩ := advance_spec x s hs
    by_cases hxp : x = p
    · subst hxp
      rw [diffLoopFixed, if_pos (show sameAsPrev deq (some x) x = true from (deq_iff x x).mpr rfl), dedupAdj_cons_self]
      exact ih x s hxs' hs fun z hz => hmem z (List.mem_cons_of_mem _ hz)
    · -- the elements still to come are `≥ x`: for them the advanced suffix is as good as `s`
      rw [dedupAdj_cons_of_ne hxp,
        diffLoopFixed_cons _ x xs s hs (show sameAsPrev deq (some p) x = false from (deq_false_iff x p).mpr hxp),
        ih x _ hxs' a1 fun z hz => (a2 z (hx z hz)).trans (hmem z (List.mem_cons_of_mem _ hz)), List.filter_cons]
      simp only [hmem x List.mem_cons_self, decide_eq_true_eq, ite_not]

theorem diff_eq (a b : List β) : diff deq dlt a b = (unique deq dlt a).filter fun z => decide (z ∉ b) := by
  have hb := sorted_mergeSort_dlt b
  have ha := sorted_mergeSort_dlt a
  rw [diff, unique]
  generalize a.mergeSort (leOfLt dlt) = sa at ha ⊢
  cases sa with
  | nil => rfl
  | cons x xs =>
    obtain ⟨hx, hxs⟩ := List.pairwise_cons.mp ha
    obtain ⟨a1, a2, -, -⟩ := advance_spec x _ hb
    simp only []
    rw [diffLoopFixed_cons none x xs _ hb rfl,
      diffLoopFixed_some x xs _ b hxs a1 fun z hz => (a2 z (hx z hz)).trans List.mem_mergeSort, List.filter_cons]
    simp only [List.mem_mergeSort, decide_eq_true_eq, ite_not]

theorem diff_spec (a b : List β) :
    (∀ z, z ∈ diff deq dlt a b ↔ z ∈ a ∧ z ∉ b) ∧ (diff deq dlt a b).Pairwise (· < ·) := by
  rw [diff_eq]
  exact ⟨fun z => by rw [List.mem_filter, (unique_spec a).2, decide_eq_true_iff], (unique_spec a).1.filter _⟩

omit [LinearOrder β] in
/-- the `containsAll` loop answers false exactly where the `diff` loop keeps an element -/
theorem containsAllLoop_iff (eq lt : β → β → Bool) (prev : Option β) (xs s : List β) :
    containsAllLoop eq lt prev xs s = true ↔ diffLoopFixed eq lt prev xs s = [] := by
  induction xs generalizing prev s with
  | nil => exact iff_of_true rfl rfl
  | cons x xs ih =>
    rw [containsAllLoop, diffLoopFixed]
    split
    · exact ih _ _
    · cases advance lt x s with
      | nil => exact iff_of_false Bool.false_ne_true (List.cons_ne_nil _ _)
      | cons y rest =>
        simp only []
        split
        · exact iff_of_false Bool.false_ne_true (List.cons_ne_nil _ _)
        · exact ih _ _

theorem containsAll_iff' (a b : List β) : containsAll deq dlt a b = true ↔ ∀ x ∈ b, x ∈ a := by
  rw [containsAll, containsAllLoop_iff, List.eq_nil_iff_forall_not_mem]
  exact forall_congr' fun z => (not_congr ((diff_spec b a).1 z)).trans (not_and.trans (imp_congr_right fun _ => not_not))

theorem noAdjDup_iff (prev : β) (l : List β) (hs : (prev :: l).Pairwise (· ≤ ·)) :
    noAdjDup deq prev l = true ↔ (prev :: l).Pairwise (· < ·) := by
  induction l generalizing prev with
  | nil => exact iff_of_true rfl (List.pairwise_singleton _ _)
  | cons y ys ih =>
    obtain ⟨hp, hs'⟩ := List.pairwise_cons.mp hs
    rw [noAdjDup]
    rcases eq_or_ne y prev with rfl | hy
    · rw [if_pos ((deq_iff y y).mpr rfl)]
      exact iff_of_false Bool.false_ne_true fun h => lt_irrefl y ((List.pairwise_cons.mp h).1 y List.mem_cons_self)
    · rw [if_neg (Bool.eq_false_iff.mp ((deq_false_iff y prev).mpr hy)), ih y hs']
      have hlt := lt_of_le_of_ne (hp y List.mem_cons_self) hy.symm
      exact ⟨fun h => List.pairwise_cons.mpr ⟨fun z hz => hlt.trans_le
        ((List.mem_cons.mp hz).elim (· ▸ le_rfl) ((List.pairwise_cons.mp hs').1 z)), h⟩, fun h => (List.pairwise_cons.mp h).2⟩

theorem haveSameElements_iff' (a b : List β) : haveSameElements deq dlt a b = true ↔ a.Perm b := by
  unfold haveSameElements
  have pa : (a.mergeSort (leOfLt dlt)).Perm a := List.mergeSort_perm _ _
  have pb : (b.mergeSort (leOfLt dlt)).Perm b := List.mergeSort_perm _ _
  by_cases hl : a.length = b.length
  · simp only [hl, ne_eq, not_true_eq_false, if_false, listEq_iff]
    constructor
    · intro h; exact pa.symm.trans (h ▸ pb)
    · intro h
      exact List.Perm.eq_of_pairwise (le := (· ≤ ·)) (fun x y _ _ h1 h2 => le_antisymm h1 h2)
        (sorted_mergeSort_dlt a) (sorted_mergeSort_dlt b) (pa.trans (h.trans pb.symm))
  · simp only [hl, ne_eq, not_false_eq_true, if_true, Bool.false_eq_true, false_iff]
    intro h; exact hl h.length_eq
end Sets
end Bpp.VecTools
