import BppModel.DiscretizeShared
import Mathlib.Data.List.Nodup
import Mathlib.Data.List.Range
/-!
C09: helper lemmas for the pointer model of distribution objects (`BppModel/DiscretizeShared.lean`).
Everything here is structural (about addresses), hence generic over the scalar type: it holds at
`ℝ` and at `Float` alike.
-/
set_option linter.unusedSectionVars false

namespace Bpp.Discretize
open Bpp

variable {α : Type} [Scalar α]

theorem split_at {β : Type} (l : List β) (i : Nat) (o : β) (h : l[i]? = some o) :
    l = l.take i ++ o :: l.drop (i + 1) := by
  obtain ⟨hlt, rfl⟩ := List.getElem?_eq_some_iff.1 h
  rw [← List.drop_eq_getElem_cons hlt, List.take_append_drop]

theorem set_split {β : Type} (l : List β) (i : Nat) (o x : β) (h : l[i]? = some o) :
    l.set i x = l.take i ++ x :: l.drop (i + 1) := by
  rw [List.set_eq_take_append_cons_drop, if_pos (List.getElem?_eq_some_iff.1 h).1]

/-- ownership for one leaf: the constraint of its tie-able parameters is the constructor's or its
*own* domain object; a compound's copies are constrained by the constructor's constraint or by the
domain object of the component they mirror, and then the component's own parameter is tied too -/
def SlotOK (s : Slot α) : Prop :=
  (s.tie = none ∨ s.tie = some s.id) ∧ (s.ctie = none ∨ (s.ctie = some s.id ∧ s.tie = some s.id))

def World.allIds (w : World α) : List Nat := w.objs.flatMap TObj.ids

/-- a well-formed world: every tie is own, every domain object belongs to exactly one leaf, and
the addresses in use lie below the allocation counter -/
structure World.WF (w : World α) : Prop where
  owned : ∀ o ∈ w.objs, ∀ s ∈ o.slots, SlotOK s
  nodup : w.allIds.Nodup
  fresh : ∀ a ∈ w.allIds, a < w.next

theorem wf_empty : (World.empty : World α).WF := by
  refine ⟨?_, ?_, ?_⟩
  · intro o ho; simp [World.empty] at ho
  · simp [World.allIds, World.empty]
  · intro a ha; simp [World.allIds, World.empty] at ha

theorem World.WF.slots {w : World α} (hw : w.WF) {i : Nat} {o : TObj α} (h : w.objs[i]? = some o) :
    ∀ s ∈ o.slots, SlotOK s := hw.owned o (List.mem_iff_getElem?.2 ⟨i, h⟩)

theorem cloneSlot_ok (f : Nat) (s : Slot α) (h : SlotOK s) : SlotOK (cloneSlot f s) := by
  obtain ⟨h1, h2⟩ := h
  unfold cloneSlot SlotOK
  rcases h1 with ht | ht
  · -- not tied: the compound's copies are not tied either
    have hc : s.ctie = none := by
      rcases h2 with h | ⟨_, h⟩
      · exact h
      · rw [ht] at h; cases h
    simp [ht, hc]
  · rcases h2 with hc | ⟨hc, _⟩
    · simp [ht, hc]
    · simp [ht, hc]

theorem cloneSlot_id (f : Nat) (s : Slot α) : (cloneSlot f s).id = f := rfl

theorem cloneSlots_ids (f : Nat) (ss : List (Slot α)) :
    (cloneSlots f ss).map (·.id) = List.range' f ss.length := by
  induction ss generalizing f with
  | nil => rfl
  | cons s t ih => simp [cloneSlots, cloneSlot_id, ih, List.range'_succ]

theorem cloneSlots_ok (f : Nat) (ss : List (Slot α)) (h : ∀ s ∈ ss, SlotOK s) :
    ∀ s ∈ cloneSlots f ss, SlotOK s := by
  induction ss generalizing f with
  | nil => intro s hs; cases hs
  | cons a t ih =>
    intro s hs
    simp only [cloneSlots, List.mem_cons] at hs
    rcases hs with rfl | hs
    · exact cloneSlot_ok f a (h a (by simp))
    · exact ih (f + 1) (fun x hx => h x (by simp [hx])) s hs

theorem cloneSlots_length (f : Nat) (ss : List (Slot α)) : (cloneSlots f ss).length = ss.length := by
  induction ss generalizing f with
  | nil => rfl
  | cons s t ih => simp [cloneSlots, ih]

/-! ## well-formedness is kept by replacing an object by one with the same addresses, and by
appending / installing an object with fresh addresses -/

theorem allIds_put (w : World α) (i : Nat) (o o' : TObj α) (h : w.objs[i]? = some o) :
    ∃ R, w.allIds.Perm (o.ids ++ R) ∧ (w.put i o').allIds.Perm (o'.ids ++ R) := by
  have mid : ∀ x : TObj α, ((w.objs.take i ++ x :: w.objs.drop (i + 1)).flatMap TObj.ids).Perm
      (x.ids ++ (w.objs.take i ++ w.objs.drop (i + 1)).flatMap TObj.ids) := fun x => by
    simp only [List.flatMap_append, List.flatMap_cons]; exact List.perm_append_comm_assoc _ _ _
  refine ⟨(w.objs.take i ++ w.objs.drop (i + 1)).flatMap TObj.ids, ?_, ?_⟩
  · unfold World.allIds; conv_lhs => rw [split_at w.objs i o h]
    exact mid o
  · unfold World.allIds World.put; rw [set_split w.objs i o o' h]; exact mid o'

theorem mem_put (w : World α) (i : Nat) (o' x : TObj α) (hx : x ∈ (w.put i o').objs) : x = o' ∨ x ∈ w.objs :=
  (List.mem_or_eq_of_mem_set hx).symm

/-- replacing an object by one with the same addresses whose slots are fine -/
theorem wf_put (w : World α) (hw : w.WF) (i : Nat) (o o' : TObj α) (h : w.objs[i]? = some o)
    (hid : o'.ids = o.ids) (hok : ∀ s ∈ o'.slots, SlotOK s) : (w.put i o').WF := by
  obtain ⟨R, p1, p2⟩ := allIds_put w i o o' h
  have p : (w.put i o').allIds.Perm w.allIds := p2.trans (hid ▸ p1.symm)
  refine ⟨fun x hx => ?_, p.nodup_iff.2 hw.nodup, fun a ha => hw.fresh a (p.mem_iff.1 ha)⟩
  rcases mem_put w i o' x hx with rfl | hx
  · exact hok
  · exact hw.owned x hx

/-- addresses `next, next+1, …` in place of some of the addresses in use: no repetition, all below
the new counter -/
theorem fresh_ids (A R : List Nat) (next n : Nat) (hnd : (A ++ R).Nodup) (hf : ∀ a ∈ A ++ R, a < next) :
    (List.range' next n ++ R).Nodup ∧ ∀ a ∈ List.range' next n ++ R, a < next + n := by
  have hR : ∀ b ∈ R, b < next := fun b hb => hf b (List.mem_append_right _ hb)
  refine ⟨List.nodup_append.2 ⟨List.nodup_range' 1, (List.nodup_append.1 hnd).2.1, fun a ha b hb => ?_⟩, fun a ha => ?_⟩
  · have := hR b hb; simp only [List.mem_range'_1] at ha; omega
  · rcases List.mem_append.1 ha with ha | ha
    · simp only [List.mem_range'_1] at ha; omega
    · have := hR a ha; omega

/-- appending an object whose addresses are `next, next+1, …` -/
theorem wf_append (w : World α) (hw : w.WF) (o : TObj α) (n : Nat)
    (hid : o.ids = List.range' w.next n) (hok : ∀ s ∈ o.slots, SlotOK s) :
    ({ objs := w.objs ++ [o], next := w.next + n } : World α).WF := by
  have p : (List.flatMap TObj.ids (w.objs ++ [o])).Perm (List.range' w.next n ++ w.allIds) := by
    simp only [List.flatMap_append, List.flatMap_cons, List.flatMap_nil, List.append_nil, hid]
    exact List.perm_append_comm
  obtain ⟨h1, h2⟩ := fresh_ids [] w.allIds w.next n hw.nodup hw.fresh
  refine ⟨fun x hx => ?_, p.nodup_iff.2 h1, fun a ha => h2 a (p.mem_iff.1 ha)⟩
  rcases List.mem_append.1 hx with hx | hx
  · exact hw.owned x hx
  · rw [List.mem_singleton.1 hx]; exact hok

/-- installing, in place of object `i`, an object whose addresses are `next, next+1, …` -/
theorem wf_install (w : World α) (hw : w.WF) (i : Nat) (old o : TObj α) (n : Nat) (h : w.objs[i]? = some old)
    (hid : o.ids = List.range' w.next n) (hok : ∀ s ∈ o.slots, SlotOK s) :
    ({ (w.put i o) with next := w.next + n } : World α).WF := by
  obtain ⟨R, p1, p2⟩ := allIds_put w i old o h
  rw [hid] at p2
  obtain ⟨h1, h2⟩ := fresh_ids old.ids R w.next n (p1.nodup_iff.1 hw.nodup) fun a ha => hw.fresh a (p1.mem_iff.2 ha)
  refine ⟨fun x hx => ?_, p2.nodup_iff.2 h1, fun a ha => h2 a (p2.mem_iff.1 ha)⟩
  rcases mem_put w i o x hx with rfl | hx
  · exact hok
  · exact hw.owned x hx

/-! ## what the operations on one object do to its slots -/

/-- the pointers of a slot -/
def Slot.ptr (s : Slot α) : Nat × Option Nat × Option Nat := (s.id, s.tie, s.ctie)

theorem slots_set_cvals (ss : List (Slot α)) (k : Nat) (s : Slot α) (cv : List (String × α)) (h : ss[k]? = some s) :
    (ss.set k { s with cvals := cv }).map Slot.ptr = ss.map Slot.ptr := by
  induction ss generalizing k with
  | nil => rfl
  | cons a t ih =>
    cases k with
    | zero => simp at h; subst h; simp [Slot.ptr]
    | succ j => simp only [List.getElem?_cons_succ] at h; simp [ih j h]

/-- `setParameterValue` changes no pointer -/
theorem setP_ptrs (w : World α) (o : TObj α) (orc : Nat → Parent α) (name : String) (v : α) :
    (o.setP w orc name v).1.slots.map Slot.ptr = o.slots.map Slot.ptr := by
  unfold TObj.setP
  split
  · rfl
  · rfl
  · unfold TObj.setDirect
    split
    · split <;> rfl
    · rfl
  · rename_i k nm _
    unfold TObj.setNested
    split
    · rename_i l s hl hs
      split
      · have hset := slots_set_cvals o.slots k s (setCval s.cvals nm v) hs
        split <;> dsimp only <;> split <;> first | rfl | exact hset
      · rfl
    · rfl

theorem ptrs_ok (ss ss' : List (Slot α)) (h : ss'.map Slot.ptr = ss.map Slot.ptr) (hok : ∀ s ∈ ss, SlotOK s) :
    ∀ s ∈ ss', SlotOK s := by
  intro s hs
  have : Slot.ptr s ∈ ss.map Slot.ptr := by rw [← h]; exact List.mem_map_of_mem hs
  obtain ⟨s0, hs0, he⟩ := List.mem_map.1 this
  have h0 := hok s0 hs0
  simp only [Slot.ptr, Prod.mk.injEq] at he
  obtain ⟨e1, e2, e3⟩ := he
  unfold SlotOK at h0 ⊢
  rw [← e1, ← e2, ← e3]; exact h0

theorem ptrs_ids (ss ss' : List (Slot α)) (h : ss'.map Slot.ptr = ss.map Slot.ptr) :
    ss'.map (·.id) = ss.map (·.id) := by
  have := congrArg (List.map Prod.fst) h
  simpa [List.map_map, Function.comp_def, Slot.ptr] using this

/-- a restriction of one leaf keeps its address and the compound's pointer; its tie stays or
becomes its own -/
theorem restrictLeaf_slot (orc : Nat → Parent α) (c : Interval α) (l : Leaf α) (s : Slot α) :
    (restrictLeaf orc c l s).1.2.id = s.id ∧ (restrictLeaf orc c l s).1.2.ctie = s.ctie ∧
    ((restrictLeaf orc c l s).1.2.tie = s.tie ∨ (restrictLeaf orc c l s).1.2.tie = some s.id) := by
  unfold restrictLeaf
  cases h : (l.restrict orc c).2 with
  | some e => simp [h]
  | none =>
    by_cases hk : l.tieableKind = true
    · simp [h, hk]
    · simp [h, hk]

theorem slotOK_retie (s s' : Slot α) (h : SlotOK s) (hid : s'.id = s.id) (hc : s'.ctie = s.ctie)
    (ht : s'.tie = s.tie ∨ s'.tie = some s.id) : SlotOK s' := by
  unfold SlotOK at h ⊢
  rw [hid, hc]
  rcases ht with ht | ht
  · rw [ht]; exact h
  · rw [ht]
    refine ⟨Or.inr rfl, ?_⟩
    rcases h.2 with h2 | ⟨h2, _⟩
    · exact Or.inl h2
    · exact Or.inr ⟨h2, rfl⟩

theorem restrictLeaf_ok (orc : Nat → Parent α) (c : Interval α) (l : Leaf α) (s : Slot α) (hs : SlotOK s) :
    SlotOK (restrictLeaf orc c l s).1.2 := by
  obtain ⟨e1, e2, e3⟩ := restrictLeaf_slot orc c l s
  exact slotOK_retie s _ hs e1 e2 e3

theorem restrictSubs_slots (orc : Nat → Parent α) (c : Interval α) (ls : List (Leaf α)) (ss : List (Slot α))
    (hok : ∀ s ∈ ss, SlotOK s) :
    (restrictSubs orc c ls ss).1.2.map (·.id) = ss.map (·.id) ∧ ∀ s ∈ (restrictSubs orc c ls ss).1.2, SlotOK s := by
  induction ls generalizing ss with
  | nil => simp [restrictSubs]; exact hok
  | cons l lt ih =>
    cases ss with
    | nil => simp [restrictSubs]
    | cons s st =>
      have e1 := (restrictLeaf_slot orc c l s).1
      have hs' := restrictLeaf_ok orc c l s (hok s (by simp))
      have hst : ∀ x ∈ st, SlotOK x := fun x hx => hok x (by simp [hx])
      simp only [restrictSubs]
      split
      · simp only [List.map_cons, e1, true_and, List.forall_mem_cons]
        exact ⟨hs', hst⟩
      · simp only [List.map_cons, e1, (ih st hst).1, true_and, List.forall_mem_cons]
        exact ⟨hs', (ih st hst).2⟩

/-- `restrictToConstraint` keeps the addresses and the invariant -/
theorem restrict_slots (o : TObj α) (orc : Nat → Parent α) (c : Interval α) (hok : ∀ s ∈ o.slots, SlotOK s) :
    (o.restrict orc c).1.ids = o.ids ∧ ∀ s ∈ (o.restrict orc c).1.slots, SlotOK s := by
  -- a single leaf, as the object itself or as the component of an invariant-mixed distribution
  have one : ∀ (l : Leaf α) (s : Slot α), o.slots = [s] →
      [(restrictLeaf orc c l s).1.2].map (·.id) = o.slots.map (·.id) ∧ ∀ x ∈ [(restrictLeaf orc c l s).1.2], SlotOK x := by
    intro l s hsl
    simp only [List.map_cons, List.map_nil, hsl, (restrictLeaf_slot orc c l s).1, true_and, List.forall_mem_cons,
      List.not_mem_nil, false_imp_iff, implies_true, and_true]
    exact restrictLeaf_ok orc c l s (hok s (by rw [hsl]; simp))
  unfold TObj.restrict TObj.ids
  split
  · exact one _ _ ‹_›
  · split
    · exact ⟨rfl, hok⟩
    · exact one _ _ ‹_›
  · exact restrictSubs_slots orc c _ o.slots hok
  · exact ⟨rfl, hok⟩

/-! ## dereferencing is local in a well-formed world -/

theorem derefLocal_none (o : TObj α) (a : Nat) (h : a ∉ o.ids) : o.derefLocal a = none := by
  unfold TObj.derefLocal
  have : (o.slots.zip o.st.leaves).find? (fun sl => sl.1.id == a) = none := by
    rw [List.find?_eq_none]
    intro x hx hh
    apply h
    have hm : x.1 ∈ o.slots := (List.of_mem_zip (a := x.1) (b := x.2) (by simpa using hx)).1
    simp only [beq_iff_eq] at hh
    unfold TObj.ids
    exact List.mem_map.2 ⟨x.1, hm, hh⟩
  rw [this]; rfl

theorem ids_disjoint_of_nodup {β : Type} (f : β → List Nat) (pre post : List β) (o : β)
    (h : ((pre ++ o :: post).flatMap f).Nodup) (a : Nat) (ha : a ∈ f o) :
    (∀ x ∈ pre, a ∉ f x) ∧ (∀ x ∈ post, a ∉ f x) := by
  rw [List.flatMap_append, List.flatMap_cons] at h
  obtain ⟨_, h2, d1⟩ := List.nodup_append.1 h
  obtain ⟨_, _, d2⟩ := List.nodup_append.1 h2
  constructor
  · intro x hx hax
    exact d1 a (List.mem_flatMap.2 ⟨x, hx, hax⟩) a (List.mem_append_left _ ha) rfl
  · intro x hx hax
    exact d2 a ha a (List.mem_flatMap.2 ⟨x, hx, hax⟩) rfl

/-- in a well-formed world an address of object `o` is resolved inside `o` -/
theorem deref_local (w : World α) (hw : w.WF) (j : Nat) (o : TObj α) (h : w.objs[j]? = some o)
    (a : Nat) (ha : a ∈ o.ids) : w.deref a = o.derefLocal a := by
  have hsplit := split_at w.objs j o h
  have hnd := hw.nodup
  unfold World.allIds at hnd
  rw [hsplit] at hnd
  obtain ⟨hpre, hpost⟩ := ids_disjoint_of_nodup TObj.ids _ _ o hnd a ha
  unfold World.deref
  rw [hsplit, List.findSome?_append]
  have h1 : List.findSome? (fun o => o.derefLocal a) (List.take j w.objs) = none :=
    List.findSome?_eq_none_iff.2 (fun x hx => derefLocal_none x a (hpre x hx))
  have h2 : List.findSome? (fun o => o.derefLocal a) (List.drop (j + 1) w.objs) = none :=
    List.findSome?_eq_none_iff.2 (fun x hx => derefLocal_none x a (hpost x hx))
  rw [h1, List.findSome?_cons, h2]
  simp only [Option.none_or]
  cases o.derefLocal a <;> rfl

/-! ## in a well-formed world a tie shows the domain of the leaf it belongs to -/

theorem ids_nodup_of_wf (w : World α) (hw : w.WF) (o : TObj α) (h : o ∈ w.objs) : o.ids.Nodup := by
  have := hw.nodup
  unfold World.allIds at this
  exact (List.nodup_flatMap.1 this).1 o h

/-- what a tie of leaf `l` shows when it points to the leaf's own domain object -/
def ownPeek (t : Option Nat) (l : Leaf α) : Option (Interval α) := t.map fun _ => l.top.dom.toInterval

/-- the view computed from the object alone, every tie read as a tie to the own domain -/
def TObj.ownView (o : TObj α) : View α :=
  { st := o.st,
    params := (o.slots.zip o.st.leaves).map (fun sl => leafParams (ownPeek sl.1.tie sl.2) sl.2),
    copies := match o.st with
      | .leaf _ => []
      | _ => (o.slots.zip o.st.leaves).map (fun sl => copyParams (ownPeek sl.1.ctie sl.2) sl.2 sl.1.cvals) }

theorem zip_find_mem (ss : List (Slot α)) (ls : List (Leaf α)) (hn : (ss.map (·.id)).Nodup)
    (sl : Slot α × Leaf α) (h : sl ∈ ss.zip ls) :
    (ss.zip ls).find? (fun x => x.1.id == sl.1.id) = some sl := by
  induction ss generalizing ls with
  | nil => simp at h
  | cons a t ih =>
    cases ls with
    | nil => simp at h
    | cons b u =>
      rw [List.zip_cons_cons, List.mem_cons] at h
      rw [List.zip_cons_cons, List.find?_cons]
      rcases h with rfl | h
      · simp
      · rw [List.map_cons, List.nodup_cons] at hn
        have hne : (a.id == sl.1.id) = false := by
          rw [beq_eq_false_iff_ne]
          intro e
          exact hn.1 (e ▸ List.mem_map_of_mem (List.of_mem_zip h).1)
        simp only [hne]
        exact ih u hn.2 h

theorem peek_own (w : World α) (hw : w.WF) (j : Nat) (o : TObj α) (h : w.objs[j]? = some o)
    (sl : Slot α × Leaf α) (hsl : sl ∈ o.slots.zip o.st.leaves) :
    w.peek sl.1.tie = ownPeek sl.1.tie sl.2 ∧ w.peek sl.1.ctie = ownPeek sl.1.ctie sl.2 := by
  have hs : sl.1 ∈ o.slots := (List.of_mem_zip hsl).1
  have hok := hw.slots h sl.1 hs
  -- the slot's own address is resolved inside `o`, at the one pair of the zip that carries it
  have hd : w.deref sl.1.id = some sl.2.top.dom.toInterval := by
    rw [deref_local w hw j o h sl.1.id (List.mem_map_of_mem hs), TObj.derefLocal,
      zip_find_mem _ _ (ids_nodup_of_wf w hw o (List.mem_iff_getElem?.2 ⟨j, h⟩)) sl hsl]
    rfl
  constructor
  · rcases hok.1 with ht | ht <;> rw [ht]
    · rfl
    · exact hd
  · rcases hok.2 with ht | ⟨ht, _⟩ <;> rw [ht]
    · rfl
    · exact hd

theorem view_own (w : World α) (hw : w.WF) (j : Nat) (o : TObj α) (h : w.objs[j]? = some o) :
    w.view o = o.ownView := by
  have e1 : (o.slots.zip o.st.leaves).map (fun sl => leafParams (w.peek sl.1.tie) sl.2) =
      (o.slots.zip o.st.leaves).map (fun sl => leafParams (ownPeek sl.1.tie sl.2) sl.2) :=
    List.map_congr_left fun sl hsl => by rw [(peek_own w hw j o h sl hsl).1]
  have e2 : (o.slots.zip o.st.leaves).map (fun sl => copyParams (w.peek sl.1.ctie) sl.2 sl.1.cvals) =
      (o.slots.zip o.st.leaves).map (fun sl => copyParams (ownPeek sl.1.ctie sl.2) sl.2 sl.1.cvals) :=
    List.map_congr_left fun sl hsl => by rw [(peek_own w hw j o h sl hsl).2]
  unfold World.view TObj.ownView
  rw [e1]
  cases hst : o.st <;> simp only [hst] at e2 ⊢ <;> first | rfl | rw [e2]

/-! ## a copy shows the view of its source -/

/-- a copy keeps which of its pointers are set -/
theorem ownPeek_cloneSlot (f : Nat) (s : Slot α) (l : Leaf α) :
    ownPeek (cloneSlot f s).tie l = ownPeek s.tie l ∧ ownPeek (cloneSlot f s).ctie l = ownPeek s.ctie l := by
  unfold cloneSlot ownPeek
  constructor
  · dsimp only; split <;> [(rename_i h; rw [beq_iff_eq.1 h]; rfl); rfl]
  · dsimp only
    split
    · rename_i h; rw [beq_iff_eq.1 h]; split <;> [(rename_i h'; rw [beq_iff_eq.1 h']; rfl); rfl]
    · rfl

theorem map_zip_cloneSlots {δ : Type} (G : Slot α × Leaf α → δ) (hG : ∀ f s l, G (cloneSlot f s, l) = G (s, l))
    (f : Nat) (ss : List (Slot α)) (ls : List (Leaf α)) :
    ((cloneSlots f ss).zip ls).map G = (ss.zip ls).map G := by
  induction ss generalizing f ls with
  | nil => rfl
  | cons s t ih =>
    cases ls with
    | nil => rfl
    | cons l u => simp only [cloneSlots, List.zip_cons_cons, List.map_cons, hG, ih]

theorem ownView_clone (f : Nat) (o : TObj α) : (⟨o.st, cloneSlots f o.slots⟩ : TObj α).ownView = o.ownView := by
  have e1 := map_zip_cloneSlots (fun sl => leafParams (ownPeek sl.1.tie sl.2) sl.2)
    (fun f s l => by simp only [(ownPeek_cloneSlot f s l).1]) f o.slots o.st.leaves
  have e2 := map_zip_cloneSlots (fun sl => copyParams (ownPeek sl.1.ctie sl.2) sl.2 sl.1.cvals)
    (fun f s l => by simp only [(ownPeek_cloneSlot f s l).2]; rfl) f o.slots o.st.leaves
  unfold TObj.ownView
  simp only [e1, e2]

/-! ## by-value operations with the own domain as the explicit constraint -/

/-- what the by-value model takes as the constraint of the tie-able parameters: the object's own
domain when the flag says tied -/
def ownTc (tied : Bool) (d : DD α) : Option (Interval α) := if tied then some d.dom.toInterval else none

/-- the by-value flag of a leaf: its tie-able parameters are constrained by the domain -/
def tiedFlag : Leaf α → Bool
  | .fam _ f => f.tpTied
  | .const c => c.tied
  | .simple s => s.tied

theorem rejectsC_own (f : FamSt α) (slot : Nat) (v : α) :
    rejectsC (ownTc f.tpTied f.dd) f slot v = rejects f slot v := by
  unfold rejectsC rejects paramConstraint ownTc rejectedBy
  by_cases h : (f.fam == .texp && slot == 2) = true
  · simp only [h, if_true]
    simp only [Bool.and_eq_true, beq_iff_eq] at h
    obtain ⟨h1, h2⟩ := h
    subst h2
    rw [h1]
    cases f.tpTied <;> simp
  · simp only [h]
    simp

theorem setParameterValueC_own (oracle : Parent α) (f : FamSt α) (name : String) (v : α) :
    setParameterValueC (ownTc f.tpTied f.dd) oracle f name v = setParameterValue oracle f name v := by
  unfold setParameterValueC setParameterValue
  cases paramSlot f name with
  | none => rfl
  | some slot => simp only [rejectsC_own]

theorem const_setPC_own (c : ConstSt α) (name : String) (v : α) :
    c.setPC (ownTc c.tied c.dd) name v = c.setP name v := by
  unfold ConstSt.setPC ConstSt.setP ownTc rejectedBy Dom.isCorrect
  cases c.tied <;> simp

theorem const_matchPC_own (c : ConstSt α) (name : String) (v : α) :
    c.matchPC (ownTc c.tied c.dd) name v = c.matchP name v := by
  unfold ConstSt.matchPC ConstSt.matchP ownTc rejectedBy Dom.isCorrect
  cases c.tied <;> simp

theorem simple_rejectsC_own (s : SimpleSt α) (sl : Bool × Nat) (v : α) :
    SimpleSt.rejectsC (ownTc s.tied s.dd) sl v = SimpleSt.rejects s sl v := by
  unfold SimpleSt.rejectsC SimpleSt.rejects ownTc rejectedBy Dom.isCorrect
  cases s.tied <;> simp

theorem simple_setPC_own (s : SimpleSt α) (name : String) (v : α) :
    s.setPC (ownTc s.tied s.dd) name v = s.setP name v := by
  unfold SimpleSt.setPC SimpleSt.setP
  cases SimpleSt.slotOf s name with
  | none => rfl
  | some sl => simp only [simple_rejectsC_own]; rfl

theorem simple_matchPC_own (s : SimpleSt α) (name : String) (v : α) :
    s.matchPC (ownTc s.tied s.dd) name v = s.matchP name v := by
  unfold SimpleSt.matchPC SimpleSt.matchP
  cases SimpleSt.slotOf s name with
  | none => rfl
  | some sl => simp only [simple_rejectsC_own]; rfl

/-! ## one step keeps a world well formed -/

/-- a component's slot as the compound's: the copies point where the component's tie points -/
theorem slotOK_mirror (s : Slot α) (cv : List (String × α)) (h : SlotOK s) : SlotOK { s with ctie := s.tie, cvals := cv } := by
  rcases h.1 with ht | ht
  · exact ⟨Or.inl ht, Or.inl ht⟩
  · exact ⟨Or.inr ht, Or.inr ⟨ht, ht⟩⟩

theorem mixComponents_spec (w : World α) (hw : w.WF) (is : List Nat) (fresh : Nat) (comps : List (Leaf α × Slot α))
    (h : mixComponents w fresh is = some comps) :
    (comps.map (·.2)).map (·.id) = List.range' fresh comps.length ∧ ∀ s ∈ comps.map (·.2), SlotOK s := by
  induction is generalizing fresh comps with
  | nil => simp [mixComponents] at h; subst h; simp
  | cons i t ih =>
    simp only [mixComponents] at h
    split at h
    · rename_i o ho
      split at h
      · rename_i l s hst hsl
        cases hr : mixComponents w (fresh + 1) t with
        | none => rw [hr] at h; simp at h
        | some r =>
          rw [hr] at h
          simp only [Option.map_some, Option.some.injEq] at h
          subst h
          obtain ⟨i1, i2⟩ := ih (fresh + 1) r hr
          refine ⟨?_, ?_⟩
          · simp only [List.map_cons, List.length_cons, i1]
            rw [List.range'_succ]
            rfl
          · intro x hx
            simp only [List.map_cons, List.mem_cons] at hx
            rcases hx with rfl | hx
            · exact slotOK_mirror _ _ (cloneSlot_ok fresh s (hw.slots ho s (by rw [hsl]; simp)))
            · exact i2 x hx
      · simp at h
    · simp at h

/-- what an operation with targets `ts` can do to a world: nothing; append an object at fresh addresses; replace a
target by an object at the same addresses, or by one at fresh addresses — the slots of the new object being fine -/
inductive World.Shape (w : World α) (ts : List Nat) : World α → Prop
  | same : Shape w ts w
  | append (o : TObj α) (n : Nat) (hid : o.ids = List.range' w.next n) (hok : ∀ s ∈ o.slots, SlotOK s) :
      Shape w ts ⟨w.objs ++ [o], w.next + n⟩
  | put (i : Nat) (old o : TObj α) (hi : i ∈ ts) (ho : w.objs[i]? = some old) (hid : o.ids = old.ids)
      (hok : ∀ s ∈ o.slots, SlotOK s) : Shape w ts (w.put i o)
  | install (i : Nat) (old o : TObj α) (n : Nat) (hi : i ∈ ts) (ho : w.objs[i]? = some old)
      (hid : o.ids = List.range' w.next n) (hok : ∀ s ∈ o.slots, SlotOK s) : Shape w ts { (w.put i o) with next := w.next + n }

theorem World.Shape.wf {w w' : World α} {ts : List Nat} (hw : w.WF) (h : w.Shape ts w') : w'.WF := by
  cases h with
  | same => exact hw
  | append o n hid hok => exact wf_append w hw o n hid hok
  | put i old o _ ho hid hok => exact wf_put w hw i old o ho hid hok
  | install i old o n _ ho hid hok => exact wf_install w hw i old o n ho hid hok

/-- an operation changes only its targets: every other object is literally what it was -/
theorem World.Shape.frame {w w' : World α} {ts : List Nat} (h : w.Shape ts w') {j : Nat} {x : TObj α}
    (hx : w.objs[j]? = some x) (hj : j ∉ ts) : w'.objs[j]? = some x := by
  have hput : ∀ (i : Nat) (o : TObj α), i ∈ ts → (w.put i o).objs[j]? = some x := fun i o hi => by
    have : i ≠ j := by rintro rfl; exact hj hi
    simp [World.put, this, hx]
  cases h with
  | same => exact hx
  | append o n _ _ => exact (List.getElem?_append_left (List.getElem?_eq_some_iff.1 hx).1).trans hx
  | put i old o hi _ _ _ => exact hput i o hi
  | install i old o n hi _ _ _ => exact hput i o hi

/-- the one walk through `WOp.step` (whether the operation raises or not) -/
theorem step_shape (orc : Nat → Parent α) (w : World α) (hw : w.WF) (op : WOp α) : w.Shape op.targets (WOp.step orc w op).1 := by
  cases op with
  | add l =>
    exact .append ⟨.leaf l, [⟨w.next, none, none, []⟩]⟩ 1 (by simp [TObj.ids, List.range'])
      (by intro s hs; simp only [List.mem_singleton] at hs; subst hs; exact ⟨Or.inl rfl, Or.inl rfl⟩)
  | wrapInvar i p inv =>
    simp only [WOp.step]
    split
    · rename_i o ho
      split
      · rename_i l s hst hsl
        split
        · refine .put i o _ (List.mem_singleton_self i) ho (by simp [TObj.ids, hsl]) fun x hx => ?_
          rw [List.mem_singleton.1 hx]
          exact slotOK_mirror s _ (hw.slots ho s (by rw [hsl]; simp))
        · exact .same
      · exact .same
    · exact .same
  | mkMix is ws =>
    simp only [WOp.step]
    split
    · rename_i comps hc
      split
      · obtain ⟨h1, h2⟩ := mixComponents_spec w hw is w.next comps hc
        exact .append ⟨.mix _, comps.map (·.2)⟩ comps.length (by simpa [TObj.ids] using h1) h2
      · exact .same
    · exact .same
  | clone i =>
    simp only [WOp.step]
    split
    · rename_i o ho
      exact .append ⟨o.st, cloneSlots w.next o.slots⟩ o.slots.length
        (by simp [TObj.ids, cloneSlots_ids]) (cloneSlots_ok w.next o.slots (hw.slots ho))
    · exact .same
  | assign src dst =>
    simp only [WOp.step]
    split
    · rename_i o old ho hold
      exact .install dst old ⟨o.st, cloneSlots w.next o.slots⟩ o.slots.length (List.mem_singleton_self dst) hold
        (by simp [TObj.ids, cloneSlots_ids]) (cloneSlots_ok w.next o.slots (hw.slots ho))
    · exact .same
  | setP i name v =>
    simp only [WOp.step]
    split
    · exact .put i _ _ (List.mem_singleton_self i) ‹_› (ptrs_ids _ _ (setP_ptrs w _ orc name v))
        (ptrs_ok _ _ (setP_ptrs w _ orc name v) (hw.slots ‹_›))
    · exact .same
  | restrict i c =>
    simp only [WOp.step]
    split
    · exact .put i _ _ (List.mem_singleton_self i) ‹_› (restrict_slots _ orc c (hw.slots ‹_›)).1 (restrict_slots _ orc c (hw.slots ‹_›)).2
    · exact .same
  | setN i _ | setMed i _ | rediscretize i =>
    simp only [WOp.step]
    split
    · rename_i o ho
      have hs := hw.slots ho
      exact .put i o _ (List.mem_singleton_self i) ho rfl hs
    · exact .same

/-- **every operation keeps the world well formed** (whether it raises or not) -/
theorem step_wf (orc : Nat → Parent α) (w : World α) (hw : w.WF) (op : WOp α) : (WOp.step orc w op).1.WF :=
  (step_shape orc w hw op).wf hw

/-! ## a concrete world on exact rationals (witness and non-vacuity in Props/C09Shared.lean) -/
namespace SharedWitness

/-- a parent that is never consulted (constant distributions do not discretise) -/
def noParent : Nat → Parent Rat := fun _ => ⟨id, id, id⟩

/-- `ConstantDistribution d(3); d.restrictToConstraint([0,10])` -/
def wSrc : World Rat :=
  WOp.run noParent World.empty
    [.add (.const (ConstSt.make 3)), .restrict 0 (Interval.make (.fin 0) (.fin 10) true true 0)]

/-- the rest of the story on a world where object 1 is a copy of object 0: the copy moves to 8
(inside `[0,10]`), then the source is restricted to `[2,4]` -/
def afterCopy (w : World Rat) : World Rat :=
  WOp.run noParent w [.setP 1 "value" 8, .restrict 0 (Interval.make (.fin 2) (.fin 4) true true 0)]

/-- the constraint object 1's `value` has now, and whether all its parameters are accepted -/
def copyStatus (w : World Rat) : Option (Option (Bound Rat × Bound Rat) × Bool) :=
  (w.objs[1]?).map (fun o =>
    let ps := (w.view o).params.flatten
    ((ps.head?.bind (·.constraint)).map (fun i => (i.lo, i.hi)), paramsAccepted ps))

instance : DecidableEq (Bound Rat) := fun a b =>
  match a, b with
  | .negInf, .negInf => isTrue rfl
  | .posInf, .posInf => isTrue rfl
  | .fin x, .fin y => if h : x = y then isTrue (by rw [h]) else isFalse (by intro e; cases e; exact h rfl)
  | .negInf, .fin _ => isFalse (by intro e; cases e)
  | .negInf, .posInf => isFalse (by intro e; cases e)
  | .fin _, .negInf => isFalse (by intro e; cases e)
  | .fin _, .posInf => isFalse (by intro e; cases e)
  | .posInf, .negInf => isFalse (by intro e; cases e)
  | .posInf, .fin _ => isFalse (by intro e; cases e)

end SharedWitness

end Bpp.Discretize
