import BppModel.DiscretizeCompound
import BppProofs.Lemmas.Discretize
import BppProofs.Props.C01
/-!
C09: normalisation of the compound distributions at `ℝ`.
-/
namespace Bpp.Discretize
open Bpp

/-- non-negative probabilities with total `t`: what the loops that build a compound's classes keep,
`t` growing by the weight of each component; `Normalised` is total one -/
def Mass (m : TMap ℝ) (t : ℝ) : Prop := (∀ e ∈ m, 0 ≤ e.2) ∧ (TMap.vals m).sum = t

theorem Mass.single (k : ℝ) {p : ℝ} (hp : 0 ≤ p) : Mass [(k, p)] p := ⟨by simpa using hp, by simp [TMap.vals]⟩

theorem Mass.addTo {m : TMap ℝ} {t : ℝ} (prec k v : ℝ) (hv : 0 ≤ v) (h : Mass m t) : Mass (TMap.addTo prec k v m) (t + v) := by
  induction m generalizing t with
  | nil => exact ⟨by simpa [TMap.addTo] using hv, by rw [← h.2]; simp [TMap.addTo, TMap.vals]⟩
  | cons a r ih =>
    obtain ⟨h0, rfl⟩ := h
    rw [List.forall_mem_cons] at h0
    have := ih ⟨h0.2, rfl⟩
    simp only [TMap.addTo]
    split_ifs <;> simp only [Mass, List.forall_mem_cons, TMap.vals, List.map_cons, List.sum_cons, ScalarReal.zero_eq] at this ⊢
    · exact ⟨⟨h0.1, this.1⟩, by rw [this.2]; ring⟩
    · exact ⟨⟨by linarith, h0⟩, by ring⟩
    · exact ⟨⟨add_nonneg h0.1 hv, h0.2⟩, by ring⟩

/-- `m[k] = 0` keeps a map of zeros a map of zeros -/
theorem assign_zero (prec k : ℝ) (m : TMap ℝ) (h : ∀ e ∈ m, e.2 = 0) : ∀ e ∈ TMap.assign prec k 0 m, e.2 = 0 := by
  induction m with
  | nil => simp [TMap.assign]
  | cons a t ih =>
    rw [List.forall_mem_cons] at h
    simp only [TMap.assign]
    split_ifs <;> simp only [List.forall_mem_cons]
    · exact ⟨h.1, ih h.2⟩
    · exact ⟨trivial, h⟩
    · exact ⟨trivial, h.2⟩

/-- a loop whose every turn adds its weight to the total adds the sum of the weights -/
theorem Mass.foldl {β : Type} (f : TMap ℝ → β → TMap ℝ) (wt : β → ℝ) (l : List β) {m : TMap ℝ} {t : ℝ} (h : Mass m t)
    (hf : ∀ a ∈ l, ∀ m t, Mass m t → Mass (f m a) (t + wt a)) : Mass (l.foldl f m) (t + (l.map wt).sum) := by
  induction l generalizing m t with
  | nil => simpa using h
  | cons a r ih =>
    rw [List.forall_mem_cons] at hf
    rw [List.foldl_cons, List.map_cons, List.sum_cons, ← add_assoc]
    exact ih (hf.1 m t h) hf.2

/-- adding `w · p` on every class `(v, p)` of a normalised distribution adds `w` in total -/
theorem Mass.addDist {m : TMap ℝ} {t : ℝ} (prec w : ℝ) (hw : 0 ≤ w) (d : DD ℝ) (hd : Normalised d.dist) (h : Mass m t) :
    Mass ((d.cats.zip d.probs).foldl (fun m vp => TMap.addTo prec vp.1 (vp.2 * w) m) m) (t + w) := by
  have := Mass.foldl (fun m vp => TMap.addTo prec vp.1 (vp.2 * w) m) (fun vp : ℝ × ℝ => vp.2 * w) (d.cats.zip d.probs) h
    fun vp hvp m t hm => hm.addTo prec vp.1 _ (mul_nonneg (by
      obtain ⟨x, hx, hx2⟩ := List.mem_map.1 (List.of_mem_zip hvp).2
      exact hx2 ▸ hd.1 x hx) hw)
  rwa [List.sum_map_mul_right, List.map_snd_zip (by simp [DD.cats, DD.probs, TMap.keys, TMap.vals]),
    show d.probs.sum = 1 from hd.2, one_mul] at this

theorem probsOfThetas_sum (ts : List ℝ) (x : ℝ) : (probsOfThetas ts x).sum = x := by
  induction ts generalizing x with
  | nil => simp [probsOfThetas]
  | cons t r ih => simp [probsOfThetas, ih]; ring

theorem probsOfThetas_nonneg (ts : List ℝ) (x : ℝ) (hx : 0 ≤ x) (h : ∀ t ∈ ts, 0 ≤ t ∧ t ≤ 1) :
    ∀ p ∈ probsOfThetas ts x, 0 ≤ p := by
  induction ts generalizing x with
  | nil => simp [probsOfThetas, hx]
  | cons t r ih =>
    have ht := h t (by simp)
    intro p hp
    simp only [probsOfThetas, List.mem_cons] at hp
    rcases hp with rfl | hp
    · exact mul_nonneg ht.1 hx
    · refine ih (x * (Scalar.one - t)) ?_ (fun u hu => h u (by simp [hu])) p hp
      simp only [ScalarReal.one_eq]; exact mul_nonneg hx (by linarith [ht.2])

theorem probsOfThetas_length (ts : List ℝ) (x : ℝ) : (probsOfThetas ts x).length = ts.length + 1 := by
  induction ts generalizing x with
  | nil => simp [probsOfThetas]
  | cons t r ih => simp [probsOfThetas, ih]

theorem unitC_iff (v : ℝ) : (unitC : Interval ℝ).isCorrect v = true ↔ (0 ≤ v ∧ v ≤ 1) := by
  rw [unitC, ScalarReal.zero_eq, ScalarReal.one_eq]; exact C01.isCorrect_closed 0 1 _ v

theorem const_make_dist (v : ℝ) : (ConstSt.make v).dd.dist = [(v, 1)] :=
  congrArg (fun x : ℝ => [(v, x)]) ScalarReal.one_eq

/-- an accepted update of a constant distribution: the one class is the new value -/
theorem const_setP_ok (c c' : ConstSt ℝ) (name : String) (w : ℝ) (h : c.setP name w = .ok c') :
    c'.value = w ∧ c'.dd.dist = [(w, 1)] := by
  unfold ConstSt.setP at h
  split_ifs at h
  obtain rfl := Except.ok.inj h
  exact ⟨rfl, congrArg (fun x : ℝ => [(w, x)]) ScalarReal.one_eq⟩

/-- a restriction of a constant distribution, accepted or refused, leaves its class and its value -/
theorem const_restrict_same (c : ConstSt ℝ) (i : Interval ℝ) :
    (c.restrict i).1.dd.dist = c.dd.dist ∧ (c.restrict i).1.value = c.value := by
  unfold ConstSt.restrict
  split
  · exact ⟨rfl, rfl⟩
  · split
    · exact ⟨rfl, rfl⟩
    · rename_i d changed _
      cases changed <;> simp only [Bool.false_eq_true, if_false, if_true] <;> split <;> exact ⟨rfl, rfl⟩

theorem invar_update_dist (s : InvarSt ℝ) : s.update.1.top.dist = s.classes := by
  unfold InvarSt.update
  extract_lets sd m d0 d1 d2 base subBounds
  split
  · rfl
  · split
    · rfl
    · extract_lets first
      split <;> rfl

theorem mix_zeros (s : MixSt ℝ) : Mass s.zeros 0 := by
  have hz : ∀ e ∈ s.zeros, e.2 = 0 :=
    List.foldlRecOn (motive := fun m : TMap ℝ => ∀ e ∈ m, e.2 = 0) _ _ (by simp) fun m hm l _ =>
      List.foldlRecOn (motive := fun m : TMap ℝ => ∀ e ∈ m, e.2 = 0) _ _ hm fun m hm v _ => by
        simpa using assign_zero s.top.prec v m hm
  exact ⟨fun e he => (hz e he).ge, List.sum_eq_zero fun x hx => by
    obtain ⟨e, he, rfl⟩ := List.mem_map.1 hx; exact hz e he⟩

theorem findFree_spec (prec step lo hi v : ℝ) (m : TMap ℝ) (fuel : Nat) (j : Int) (c : ℝ)
    (h : SimpleSt.findFree prec step lo hi v m fuel j = some c) : TMap.find? prec c m = none := by
  induction fuel generalizing j with
  | zero => simp [SimpleSt.findFree] at h
  | succ n ih =>
    simp only [SimpleSt.findFree] at h
    split at h
    · rename_i h1
      injection h with h; subst h
      simp only [Bool.and_eq_true, Option.isNone_iff_eq_none] at h1
      exact h1.2
    · split at h
      · rename_i _ h2
        injection h with h; subst h
        simp only [Bool.and_eq_true, Option.isNone_iff_eq_none] at h2
        exact h2.2
      · exact ih _ h

/-! Trap.  The body of `SimpleSt.rebuild.go` matches on `findFree … (searchFuel m) 1`, and `searchFuel m` is
`6 * m.length + 1000000`.  When the kernel compares two such `match`es that are not the same term (in the equation lemmas
Lean generates for `rw [SimpleSt.rebuild.go]` or `unfold`, in a `show` of the body) it unfolds them and reduces `findFree` at
that fuel: 10⁶ nested steps through the numeral, 50 s a time, not counted in heartbeats.  So `go` is opened only through
`rebuild_go_nil` / `rebuild_go_cons`, whose proof turns the `findFree` call into a variable before two `match`es meet. -/

theorem brecOn_cons {β : Type} {motive : List β → Sort _} (a : β) (t : List β)
    (F : (l : List β) → List.below (motive := motive) l → motive l) :
    @List.brecOn β motive (a :: t) F = F (a :: t) (List.brecOn.go t F) := rfl

theorem rebuild_go_brecOn (s : SimpleSt ℝ) (l : List (ℝ × ℝ)) (m : TMap ℝ) :
    SimpleSt.rebuild.go s l m = @List.brecOn _ (fun _ => TMap ℝ → Option (TMap ℝ)) l (SimpleSt.rebuild.go._f s) m := by
  delta SimpleSt.rebuild.go; rfl

theorem rebuild_go_nil (s : SimpleSt ℝ) (m : TMap ℝ) : SimpleSt.rebuild.go s [] m = some m := rfl

theorem rebuild_go_cons (s : SimpleSt ℝ) (v p : ℝ) (rest : List (ℝ × ℝ)) (m : TMap ℝ) :
    SimpleSt.rebuild.go s ((v, p) :: rest) m =
      if (TMap.find? s.dd.prec v m).isSome then
        match SimpleSt.findFree s.dd.prec (SimpleSt.sepStep s.dd.prec v) s.dd.dom.lo s.dd.dom.hi v m (searchFuel m) 1 with
        | some v2 => SimpleSt.rebuild.go s rest (TMap.assign s.dd.prec v2 p m)
        | none => none
      else SimpleSt.rebuild.go s rest (TMap.assign s.dd.prec v p m) := by
  rw [rebuild_go_brecOn s (_ :: _), brecOn_cons]
  -- the recursive calls as a variable, so that unfolding the functional leaves them alone
  generalize hb : List.brecOn.go rest (SimpleSt.rebuild.go._f s) = b
  dsimp only [SimpleSt.rebuild.go._f]
  generalize SimpleSt.findFree s.dd.prec (SimpleSt.sepStep s.dd.prec v) s.dd.dom.lo s.dd.dom.hi v m (searchFuel m) 1 = o
  subst hb
  simp only [rebuild_go_brecOn s rest]
  cases o <;> rfl

theorem rebuild_go_fresh (s : SimpleSt ℝ) (l : List (ℝ × ℝ)) (m m' : TMap ℝ) (h : SimpleSt.rebuild.go s l m = some m') :
    TMap.Fresh s.dd.prec m (l.map (·.2)) m' := by
  induction l generalizing m with
  | nil => rw [rebuild_go_nil] at h; injection h with h; subst h; exact .nil m
  | cons a t ih =>
    obtain ⟨v, p⟩ := a
    rw [rebuild_go_cons] at h
    split at h
    · split at h
      · exact .cons (findFree_spec _ _ _ _ _ _ _ _ _ ‹_›) (ih _ h)
      · cases h
    · exact .cons (Option.not_isSome_iff_eq_none.mp ‹_›) (ih _ h)

/-- after any parameter notification the user-specified distribution is normalised: its
probabilities are the stick-breaking image of the `theta` parameters, which their constraint
keeps in `[0,1]` -/
theorem simple_rebuild_normalised (s s' : SimpleSt ℝ) (hlen : s.thetas.length + 1 = s.vs.length)
    (hth : ∀ t ∈ s.thetas, 0 ≤ t ∧ t ≤ 1) (h : s.rebuild = .ok s') : Normalised s'.dd.dist := by
  unfold SimpleSt.rebuild at h
  simp only at h
  split at h
  · rename_i m hm
    injection h with h; subst h
    have hf := rebuild_go_fresh s _ [] m hm
    rw [List.map_snd_zip (by rw [probsOfThetas_length]; omega)] at hf
    exact hf.normalised (probsOfThetas_nonneg s.thetas _ (by simp) hth) (by rw [probsOfThetas_sum]; simp)
  · simp at h

end Bpp.Discretize
