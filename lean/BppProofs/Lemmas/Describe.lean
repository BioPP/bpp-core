import BppModel.Describe
/-!
Helper lemmas for C01's description syntax: locating `;` and the closing bracket, cutting the two
bound texts, dropping blanks.  Core Lean only.
-/
namespace Bpp.Describe

def isBracket (c : Char) : Bool := c == '[' || c == ']'

theorem ne_of_true_false {f : Char → Bool} {c k : Char} (hc : f c = true) (hk : f k = false) : c ≠ k :=
  fun e => by rw [e, hk] at hc; cases hc

theorem isDigit_iff (c : Char) : isDigit c = true ↔ 48 ≤ c.toNat ∧ c.toNat ≤ 57 := by
  unfold isDigit Char.isDigit
  simp only [Bool.and_eq_true, decide_eq_true_eq, ge_iff_le]
  rw [UInt32.le_iff_toNat_le, UInt32.le_iff_toNat_le]
  rfl

theorem findIdx?_prefix {p : Char → Bool} {X : List Char} {y : Char} {Z : List Char}
    (hX : ∀ c ∈ X, p c = false) (hy : p y = true) : (X ++ y :: Z).findIdx? p = some X.length := by
  induction X with
  | nil => simp [List.findIdx?_cons, hy]
  | cons x X ih =>
    have hx : p x = false := hX x (by simp)
    have ih' := ih (fun c hc => hX c (by simp [hc]))
    simp [List.findIdx?_cons, hx, ih']

theorem dropWhile_head {p : Char → Bool} (M : List Char) (h : ∀ c, M.head? = some c → p c = false) :
    M.dropWhile p = M := by
  cases M with
  | nil => rfl
  | cons m M => simp [h m rfl]

/-- no blank at either end -/
def NoEdgeSpace (L : List Char) : Prop :=
  (∀ c, L.head? = some c → isSpace c = false) ∧ (∀ c, L.getLast? = some c → isSpace c = false)

/-- `removeSurroundingWhiteSpaces` removes exactly the surrounding blanks -/
theorem trim_pad (ws1 L ws2 : List Char) (h1 : ∀ c ∈ ws1, isSpace c = true) (h2 : ∀ c ∈ ws2, isSpace c = true)
    (hL : NoEdgeSpace L) : trim (ws1 ++ L ++ ws2) = L := by
  unfold trim
  rw [List.append_assoc, List.dropWhile_append_of_pos h1]
  cases L with
  | nil => rw [List.nil_append, ← List.append_nil ws2, List.dropWhile_append_of_pos h2]; rfl
  | cons l L =>
    rw [dropWhile_head (l :: L ++ ws2) (fun c hc => hL.1 c hc), List.reverse_append,
      List.dropWhile_append_of_pos (fun c hc => h2 c (List.mem_reverse.1 hc)),
      dropWhile_head _ (fun c hc => hL.2 c (List.head?_reverse ▸ hc)), List.reverse_reverse]

theorem isSpace_elim {c : Char} (h : isSpace c = true) {P : Char → Prop}
    (hP : P ' ' ∧ P '\t' ∧ P '\n' ∧ P '\x0b' ∧ P '\x0c' ∧ P '\r') : P c := by
  unfold isSpace at h
  simp only [Bool.or_eq_true, beq_iff_eq] at h
  obtain ⟨h1, h2, h3, h4, h5, h6⟩ := hP
  rcases h with ((((h | h) | h) | h) | h) | h <;> subst h <;> assumption

theorem space_not_delim {c : Char} (h : isSpace c = true) : c ≠ ';' ∧ isBracket c = false :=
  isSpace_elim h (P := fun c => c ≠ ';' ∧ isBracket c = false) (by decide)

section
variable {α : Type} [NumText α]

/-- locating the delimiters and cutting the two texts -/
theorem read_extract (d : Interval α) (b0 b1 : Char) (X Y rest : List Char)
    (hb0 : b0 = '[' ∨ b0 = ']')  (hb1 : isBracket b1 = true)
    (hX : ∀ c ∈ X, (c == ';') = false ∧ isBracket c = false) (hY : ∀ c ∈ Y, isBracket c = false) :
    readDescription d (b0 :: (X ++ ';' :: (Y ++ b1 :: rest))) =
      readCore d (b0 == '[') (b1 == ']') (trim X) (trim Y) := by
  have hsemi : findSemi (b0 :: (X ++ ';' :: (Y ++ b1 :: rest))) = some (X.length + 1) := by
    unfold findSemi
    have hb : (b0 == ';') = false := by rcases hb0 with h | h <;> subst h <;> decide
    rw [List.findIdx?_cons, hb]
    simp only [Bool.false_eq_true, if_false]
    rw [findIdx?_prefix (p := (· == ';')) (fun c hc => (hX c hc).1) (by simp)]
    simp
  have hbr : findBracket1 (b0 :: (X ++ ';' :: (Y ++ b1 :: rest))) = some (X.length + Y.length + 2) := by
    unfold findBracket1
    simp only [List.drop_succ_cons, List.drop_zero]
    have : X ++ ';' :: (Y ++ b1 :: rest) = (X ++ ';' :: Y) ++ b1 :: rest := by simp
    rw [this]
    have hpre : ∀ c ∈ X ++ ';' :: Y, (c == '[' || c == ']') = false := by
      intro c hc
      simp only [List.mem_append, List.mem_cons] at hc
      rcases hc with hc | hc | hc
      · exact (hX c hc).2
      · subst hc; decide
      · exact hY c hc
    rw [findIdx?_prefix (p := fun c => c == '[' || c == ']') hpre hb1]
    simp; omega
  unfold readDescription
  rw [hsemi, hbr]
  have hhead : (b0 :: (X ++ ';' :: (Y ++ b1 :: rest))).head? = some b0 := rfl
  have hcond : ((some b0 != some ']' && some b0 != some '[') || decide (X.length + 1 ≥ X.length + Y.length + 2)) = false := by
    have : ¬ (X.length + 1 ≥ X.length + Y.length + 2) := by omega
    rcases hb0 with h | h <;> subst h <;> simp [this]
  simp only [hhead]
  rw [if_neg (by rw [hcond]; simp)]
  have hdeb : ((b0 :: (X ++ ';' :: (Y ++ b1 :: rest))).drop 1).take (X.length + 1 - 1) = X := by
    simp
  have hfin : ((b0 :: (X ++ ';' :: (Y ++ b1 :: rest))).drop (X.length + 1 + 1)).take (X.length + Y.length + 2 - (X.length + 1) - 1) = Y := by
    have e1 : b0 :: (X ++ ';' :: (Y ++ b1 :: rest)) = (b0 :: (X ++ [';'])) ++ (Y ++ b1 :: rest) := by simp
    have l1 : (b0 :: (X ++ [';'])).length = X.length + 1 + 1 := by simp
    rw [e1, List.drop_left' l1]
    have : X.length + Y.length + 2 - (X.length + 1) - 1 = Y.length := by omega
    rw [this]; simp
  have hlast : ((b0 :: (X ++ ';' :: (Y ++ b1 :: rest))).drop (X.length + Y.length + 2)).head? = some b1 := by
    have e1 : b0 :: (X ++ ';' :: (Y ++ b1 :: rest)) = (b0 :: (X ++ ';' :: Y)) ++ (b1 :: rest) := by simp
    have l1 : (b0 :: (X ++ ';' :: Y)).length = X.length + Y.length + 2 := by simp; omega
    rw [e1, List.drop_left' l1]; rfl
  rw [hdeb, hfin, hlast]
  simp

end
end Bpp.Describe
