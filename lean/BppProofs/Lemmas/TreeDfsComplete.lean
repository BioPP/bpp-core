import BppProofs.Lemmas.TreeDfs
/-
Completeness of the single-visit traversal: on a graph that is the rooted tree `P` (`Matches g P`),
started at a node `n` whose descendants have not been met, it succeeds and meets exactly the
descendants of `n`.
-/
namespace Bpp.Graph
open AL
namespace T

/-- what the traversal is told about where it comes from, in an undirected tree: nothing at the
root (origin = node), the father elsewhere -/
def OriginOk (g : G) (P : PTree) (n origin : Nat) : Prop :=
  g.directed = false → (n = P.root ∧ origin = n) ∨ P.par n = some origin

/-- a neighbour that is not skipped is a son -/
theorem son_of_arc {g : G} {P : PTree} (hw : P.WF) (hm : Matches g P) {n origin b : Nat}
    (ho : OriginOk g P n origin) (ha : Arc g n b) (hs : ¬ Skip g n origin b) : P.par b = some n := by
  rcases (hm.arc n b).1 ha with h | ⟨hd, h⟩
  · exact h
  · exfalso
    apply hs
    rcases ho hd with ⟨hr, _⟩ | hp
    · subst hr; rw [hw.par_root] at h; cases h
    · rw [h] at hp; cases hp
      exact ⟨hd, hw.par_ne_self h, rfl⟩

/-- the skipped neighbour is not a son -/
theorem skip_not_son {g : G} {P : PTree} (hw : P.WF) {n origin b : Nat}
    (ho : OriginOk g P n origin) (hs : Skip g n origin b) : P.par b ≠ some n := by
  intro hb
  obtain ⟨hd, hne, he⟩ := hs
  subst he
  rcases ho hd with ⟨_, h2⟩ | hp
  · exact hne h2
  · exact hw.no_two_cycle hb hp

theorem metOnce_complete {g : G} {P : PTree} (hc : Consistent g) (hw : P.WF) (hm : Matches g P) :
    ∀ (fuel n origin : Nat) (met : List Nat), n ∈ P.nodes → OriginOk g P n origin →
      (∀ x, IsAnc P.par n x → x ∉ met) →
      metOnce g fuel n origin met ≠ .fuel →
      ∃ m', metOnce g fuel n origin met = .ok (some m') ∧ ∀ x, x ∈ m' ↔ (x ∈ met ∨ IsAnc P.par n x) := by
  intro fuel
  induction fuel with
  | zero => intro n origin met _ _ _ hf; exact absurd rfl hf
  | succ f ih =>
    intro n origin met hn ho hdis hf
    rw [metOnce_succ] at hf ⊢
    have hnm : n ∉ met := hdis n (.refl n)
    have hcont : ¬ (met.contains n = true) := by simpa using hnm
    rw [if_neg hcont] at hf ⊢
    have hnode : g.hasNode n = true := (hm.nodes n).1 hn
    rw [G.outNeighbors_of_hasNode hnode] at hf ⊢
    simp only at hf ⊢
    have key : ∀ (l : List Nat) (m : List Nat), l.Nodup → (∀ b ∈ l, Arc g n b) →
        (∀ b ∈ l, P.par b = some n → ∀ x, IsAnc P.par b x → x ∉ m) →
        l.foldl (metStep g f n origin) (.ok (some m)) ≠ .fuel →
        ∃ m', l.foldl (metStep g f n origin) (.ok (some m)) = .ok (some m') ∧
          ∀ x, x ∈ m' ↔ (x ∈ m ∨ ∃ b ∈ l, P.par b = some n ∧ IsAnc P.par b x) := by
      intro l
      induction l with
      | nil => intro m _ _ _ _; exact ⟨m, rfl, by intro x; simp⟩
      | cons b rest ihl =>
        intro m hnd harc hd hfl
        have hnd' := List.nodup_cons.1 hnd
        simp only [List.foldl] at hfl ⊢
        rw [metStep_some] at hfl ⊢
        by_cases hs : Skip g n origin b
        · rw [if_pos hs] at hfl ⊢
          obtain ⟨m', h1, h2⟩ := ihl m hnd'.2 (fun c hc => harc c (List.mem_cons_of_mem _ hc))
            (fun c hc => hd c (List.mem_cons_of_mem _ hc)) hfl
          refine ⟨m', h1, fun x => ?_⟩
          rw [h2 x]
          constructor
          · rintro (h | ⟨c, hc, hpc, hx⟩)
            · exact .inl h
            · exact .inr ⟨c, List.mem_cons_of_mem _ hc, hpc, hx⟩
          · rintro (h | ⟨c, hc, hpc, hx⟩)
            · exact .inl h
            · rcases List.mem_cons.1 hc with e | hc'
              · subst e; exact absurd hpc (skip_not_son hw ho hs)
              · exact .inr ⟨c, hc', hpc, hx⟩
        · rw [if_neg hs] at hfl ⊢
          have hpb : P.par b = some n := son_of_arc hw hm ho (harc b (List.mem_cons_self ..)) hs
          have hbm := (hw.par_mem hpb).1
          have hne_fuel : metOnce g f b n m ≠ .fuel := by
            intro hh; rw [hh, metFold_stuck _ _ _ _ _ (by intro m; simp)] at hfl; exact hfl rfl
          obtain ⟨m1, hr1, hs1⟩ := ih b n m hbm (fun _ => .inr hpb) (hd b (List.mem_cons_self ..) hpb) hne_fuel
          rw [hr1] at hfl ⊢
          obtain ⟨m', h1, h2⟩ := ihl m1 hnd'.2 (fun c hc => harc c (List.mem_cons_of_mem _ hc))
            (by
              intro c hc hpc x hx hxm
              rcases (hs1 x).1 hxm with h | h
              · exact hd c (List.mem_cons_of_mem _ hc) hpc x hx h
              · have hcb : b ≠ c := fun e => hnd'.1 (e ▸ hc)
                exact hw.sons_disjoint hpb hpc hcb h hx) hfl
          refine ⟨m', h1, fun x => ?_⟩
          rw [h2 x, hs1 x]
          constructor
          · rintro ((h | h) | ⟨c, hc, hpc, hx⟩)
            · exact .inl h
            · exact .inr ⟨b, List.mem_cons_self .., hpb, h⟩
            · exact .inr ⟨c, List.mem_cons_of_mem _ hc, hpc, hx⟩
          · rintro (h | ⟨c, hc, hpc, hx⟩)
            · exact .inl (.inl h)
            · rcases List.mem_cons.1 hc with e | hc'
              · subst e; exact .inl (.inr hx)
              · exact .inr ⟨c, hc', hpc, hx⟩
    have hsorted := hc.sorted
    obtain ⟨m', h1, h2⟩ := key (g.outKeys n) (n :: met) (G.nodup_of_asc (G.asc_outKeys hsorted n))
      (fun b hb => G.mem_outKeys.1 hb)
      (by
        intro b _ hpb x hx hxm
        rcases List.mem_cons.1 hxm with e | h
        · subst e; exact hw.son_not_anc hpb hx
        · exact hdis x (IsAnc.trans (IsAnc.of_par hpb) hx) h) hf
    refine ⟨m', h1, fun x => ?_⟩
    rw [h2 x]
    constructor
    · rintro (h | ⟨b, _, hpb, hx⟩)
      · rcases List.mem_cons.1 h with e | h
        · subst e; exact .inr (.refl _)
        · exact .inl h
      · exact .inr (IsAnc.trans (IsAnc.of_par hpb) hx)
    · rintro (h | h)
      · exact .inl (List.mem_cons_of_mem _ h)
      · by_cases hxn : x = n
        · subst hxn; exact .inl (List.mem_cons_self ..)
        · obtain ⟨c, hpc, hcx⟩ := IsAnc.under_son h hxn
          exact .inr ⟨c, G.mem_outKeys.2 ((hm.arc n c).2 (.inl hpc)), hpc, hcx⟩

end T
end Bpp.Graph
