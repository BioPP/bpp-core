import BppProofs.Lemmas.NumDerivReach
/-!
C12 helper lemmas: the probes also respect the constraints of the list the caller passed.
Every list the wrappers hand to `function_->setParameters` consists of parameters of the caller's
list whose value was either left alone or changed through `Parameter::setValue`, which checks the
(copied) constraint first.
-/
namespace Bpp.NumDeriv
open Bpp Bpp.Scalar

/-- the element is a copy of a parameter of `params` (same name and constraint) holding a value
its constraint accepts -/
def PWelem (params : PList ℝ) (x : Param ℝ) : Prop :=
  ∃ q, find? params x.name = some q ∧ x.con = q.con ∧ x.violates x.value = false

def PW (params p : PList ℝ) : Prop := ∀ x ∈ p, PWelem params x

/-- the values of `l` (those that the caller's list constrains) are accepted by the caller's list -/
def CF (params l : PList ℝ) : Prop := ∀ b ∈ l, ∀ q, find? params b.name = some q → q.violates b.value = false

/-- … and so was every point at which `f` was evaluated -/
def CFpt (params ref : PList ℝ) (pt : List ℝ) : Prop :=
  List.Forall₂ (fun b x => ∀ q, find? params b.name = some q → q.violates x = false) ref pt

/-- the caller's list is well formed: every parameter satisfies its own constraint (`Parameter`'s
constructor and `setValue` guarantee it), names are unique -/
def CallerWF (params : PList ℝ) : Prop := (names params).Nodup ∧ Feas params

theorem PW_of_mem {params : PList ℝ} (h : CallerWF params) {p : PList ℝ} (hp : ∀ x ∈ p, x ∈ params) : PW params p := by
  intro x hx
  exact ⟨x, find?_of_mem h.1 (hp x hx), rfl, h.2 x (hp x hx)⟩

theorem PWelem_setValue {params : PList ℝ} {x x' : Param ℝ} {v : ℝ} (h : PWelem params x) (hs : x.setValue v = .ok x') :
    PWelem params x' := by
  obtain ⟨q, h1, h2, h3⟩ := h
  obtain ⟨a, b⟩ := setValue_cases x x' v hs
  refine ⟨q, by rw [a.1]; exact h1, by rw [a.2.2]; exact h2, ?_⟩
  rcases b with b | ⟨b1, b2⟩
  · rw [b]; exact h3
  · rw [b1, violates_skel a]; exact b2

theorem setValueOf_CF {params : PList ℝ} : ∀ (l l' : PList ℝ) (n : Name) (v : ℝ), setValueOf l n v = .ok l' →
    (∀ q, find? params n = some q → q.violates v = false) → CF params l → CF params l' := by
  intro l
  induction l with
  | nil => intro l' n v h; simp [setValueOf] at h
  | cons p r ih =>
    intro l' n v h hv hcf
    unfold setValueOf at h
    split at h
    · rename_i hn
      have hn' : p.name = n := by simpa using hn
      split at h
      · rename_i p' hp'
        injection h with h; subst h
        obtain ⟨a, b⟩ := setValue_cases p p' v hp'
        intro x hx q hq
        rcases List.mem_cons.mp hx with rfl | hx
        · rcases b with b | ⟨b1, _⟩
          · rw [b] at hq ⊢; exact hcf p (List.mem_cons_self ..) q hq
          · rw [b1]; rw [a.1, hn'] at hq; exact hv q hq
        · exact hcf x (List.mem_cons_of_mem _ hx) q hq
      · cases h
    · split at h
      · rename_i r' hr'
        injection h with h; subst h
        have := ih r' n v hr' hv (fun x hx => hcf x (List.mem_cons_of_mem _ hx))
        intro x hx q hq
        rcases List.mem_cons.mp hx with rfl | hx
        · exact hcf x (List.mem_cons_self ..) q hq
        · exact this x hx q hq
      · cases h

theorem matchLoop_CF {params : PList ℝ} (pl : PList ℝ) : ∀ (own own' : PList ℝ) (ch0 ch : Bool),
    matchLoop own pl ch0 = .ok (own', ch) → PW params pl → CF params own → CF params own' := by
  induction pl with
  | nil => intro own own' ch0 ch h _ hcf; simp [matchLoop] at h; rw [← h.1]; exact hcf
  | cons q qs ih =>
    intro own own' ch0 ch h hpw hcf
    have hpw' : PW params qs := fun x hx => hpw x (List.mem_cons_of_mem _ hx)
    unfold matchLoop at h
    split at h
    · exact ih _ _ _ _ h hpw' hcf
    · split at h
      · split at h
        · rename_i own1 hs1
          obtain ⟨q', h1, h2, h3⟩ := hpw q (List.mem_cons_self ..)
          have hv : ∀ c, find? params q.name = some c → c.violates q.value = false := by
            intro c hc; rw [h1] at hc; injection hc with hc; subst hc
            unfold Param.violates at h3 ⊢; rw [← h2]; exact h3
          exact ih _ _ _ _ h hpw' (setValueOf_CF own own1 q.name q.value hs1 hv hcf)
        · cases h
      · exact ih _ _ _ _ h hpw' hcf

/-- invariant of the wrapped function with respect to the caller's list -/
structure InvC (params ref : PList ℝ) (fn : Fn ℝ) : Prop where
  skel : Skel fn.params ref
  cf : CF params fn.params
  log : ∀ pt ∈ fn.log, CFpt params ref pt

theorem CFpt_values {params l ref : PList ℝ} (hs : Skel l ref) (hcf : CF params l) : CFpt params ref (values l) := by
  unfold Skel at hs
  unfold CFpt values
  induction hs with
  | nil => exact List.Forall₂.nil
  | @cons a b l' B' hab _ ih =>
    rw [List.map_cons]
    refine List.Forall₂.cons ?_ (ih (fun p hp => hcf p (List.mem_cons_of_mem _ hp)))
    intro q hq
    exact hcf a (List.mem_cons_self ..) q (by rw [hab.1]; exact hq)

theorem InvC.setParameters {f : List ℝ → ℝ} {params ref : PList ℝ} {fn : Fn ℝ} (h : InvC params ref fn) (pl : PList ℝ)
    (hpw : PW params pl) : InvC params ref (fn.setParameters f pl).1 := by
  rcases setParameters_shape f fn pl with e | ⟨own, hm, e⟩ <;> rw [e]
  · exact h
  · have a := (matchLoop_gen pl fn.params own false true hm).1.trans h.skel
    have hcf := matchLoop_CF pl fn.params own false true hm hpw h.cf
    refine ⟨a, hcf, fun pt hpt => ?_⟩
    simp only [Fn.fire, List.mem_cons] at hpt
    rcases hpt with rfl | hpt
    · exact CFpt_values a hcf
    · exact h.log pt hpt


/-- reachable through `setParameters` calls whose lists are copies of the caller's parameters with
accepted values (and switches of the analytical derivatives) -/
abbrev ReachC (f : List ℝ → ℝ) (params : PList ℝ) : Fn ℝ → Fn ℝ → Prop := Reaches f (PWelem params) true

theorem InvC.reach {f : List ℝ → ℝ} {params ref : PList ℝ} {a b : Fn ℝ} (h : InvC params ref a)
    (hr : ReachC f params a b) : InvC params ref b := by
  induction hr with
  | refl => exact h
  | setp pl hpw _ ih => exact ih.setParameters pl hpw
  | en1 _ x _ ih =>
    unfold Fn.enable1; split
    · exact ⟨ih.skel, ih.cf, ih.log⟩
    · exact ih
  | en2 _ x _ ih =>
    unfold Fn.enable2; split
    · exact ⟨ih.skel, ih.cf, ih.log⟩
    · exact ih

theorem CallerWF.closed {params : PList ℝ} (h : CallerWF params) : Closed (PWelem params) params :=
  ⟨PWelem_setValue, PW_of_mem h (fun _ hx => hx)⟩

theorem update_reachC (f : List ℝ → ℝ) {params : PList ℝ} (hwf : CallerWF params) (w : W ℝ) :
    ReachC f params w.fn (w.update f params).1.fn := by
  rw [update_eq]; exact (updateG_frame f hwf.closed w.scheme w).1

/-- the wrapped function holds the values of a well-formed list: its point is accepted by the
constraints of that list -/
theorem CF_of_synced {params l : PList ℝ} (hwf : CallerWF params) (hs : Synced params l) : CF params l := by
  intro b hb q hq
  have hq' := find?_some hq
  rw [hs q hq'.1 b hb hq'.2.symm]
  exact hwf.2 q hq'.1

end Bpp.NumDeriv
