import Mathlib.Logic.Relation
import BppProofs.Lemmas.AliasWrites
/-! Invariant of the reachable worlds of C03 (`ObjInv` of an object, `Inv` of a world) and its preservation.  An operation
acts on one slot: it is framed there (`Fr`), and `Inv.framed` then asks only that the object it leaves satisfies `ObjInv`;
each operation has its frame lemma (`newObj_fr`, `added_fr`, `AliasDone.fr`, `unaliased_fr`, `nsWorld_fr`), which also gives
the frame clause (`Lemmas/AliasFrame.lean`).  `Carried`: an object carried along a renaming keeps `ObjInv`.  `Pairs`: the
map form is a run of pair aliases.  Property theorems are in `Props/C03.lean`. -/
namespace Bpp.Alias
open Bpp.ParamList (Bnd Con Par Store ObjId nameOf find? hasParameter names startsWith)

/-! ## Strings -/

theorem startsWith_append (pre s : String) : startsWith (pre ++ s) pre = true := by
  simp [startsWith]

theorem drop_pre (pre s : String) : String.ofList ((pre ++ s).toList.drop pre.length) = s := by
  have : pre.length = pre.toList.length := String.length_toList.symm
  rw [String.toList_append, this, List.drop_left]; simp

theorem stripNs_append (pre s : String) : stripNs pre (pre ++ s) = s := by
  simp only [stripNs, startsWith_append, if_true, drop_pre]

theorem renamed_append (pre new s : String) : renamed pre new (pre ++ s) = new ++ s := by
  simp only [renamed, startsWith_append, if_true, drop_pre]

theorem append_left_cancel' {a b c : String} (h : a ++ b = a ++ c) : b = c := by
  have := congrArg String.toList h
  simp at this
  exact String.toList_inj.1 this

/-- a short parameter name: not empty, no underscore (the listener ids `__alias_<y>_to_<x>` are then
injective in (x, y), and the empty string can stand for "no source" as it does in `getFrom`) -/
def Plain (s : String) : Prop := s ≠ "" ∧ '_' ∉ s.toList

theorem list_split_unique {a c : List Char} : ∀ {b d : List Char}, '_' ∉ a → '_' ∉ c →
    a ++ '_' :: b = c ++ '_' :: d → a = c ∧ b = d := by
  induction a generalizing c with
  | nil =>
    intro b d _ hc h
    cases c with
    | nil => simpa using h
    | cons x c' =>
      simp at h
      exact absurd h.1.symm (by intro e; exact hc (by simp [e]))
  | cons x a' ih =>
    intro b d ha hc h
    cases c with
    | nil =>
      simp at h
      exact absurd h.1 (by intro e; exact ha (by simp [e]))
    | cons y c' =>
      simp at h
      obtain ⟨rfl, h2⟩ := h
      have := ih (fun m => ha (List.mem_cons_of_mem _ m)) (fun m => hc (List.mem_cons_of_mem _ m)) h2
      exact ⟨by rw [this.1], this.2⟩

theorem aliasId_inj {p1 p2 q1 q2 : String} (hp : Plain p2) (hq : Plain q2)
    (h : aliasId p1 p2 = aliasId q1 q2) : p1 = q1 ∧ p2 = q2 := by
  have h' := congrArg String.toList h
  simp only [aliasId, String.toList_append] at h'
  have e1 : ("__alias_" : String).toList = ['_','_','a','l','i','a','s','_'] := by decide
  have e2 : ("_to_" : String).toList = ['_','t','o','_'] := by decide
  rw [e1, e2] at h'
  simp only [List.append_assoc, List.cons_append, List.nil_append, List.cons.injEq, true_and] at h'
  obtain ⟨a, b⟩ := list_split_unique hp.2 hq.2 h'
  simp only [List.cons.injEq, true_and] at b
  exact ⟨String.toList_inj.1 b, String.toList_inj.1 a⟩

/-! ## The key-sorted registry -/

theorem mem_keys_mapInsert {β : Type} (k : String) (v : β) : ∀ (m : List (String × β)) (a : String),
    a ∈ (mapInsert k v m).map Prod.fst ↔ a = k ∨ a ∈ m.map Prod.fst
  | [], a => by simp only [mapInsert, List.map_cons, List.map_nil, List.mem_singleton, List.not_mem_nil, or_false]
  | (k', v') :: t, a => by
    simp only [mapInsert]
    split
    · simp only [List.map_cons, List.mem_cons]
    · split
      · rename_i hk; subst hk; simp only [List.map_cons, List.mem_cons, or_self_left]
      · simp only [List.map_cons, List.mem_cons, mem_keys_mapInsert k v t a]; exact or_left_comm

theorem mapInsert_perm {β : Type} (k : String) (v : β) : ∀ (m : List (String × β)), k ∉ m.map Prod.fst →
    (mapInsert k v m).Perm ((k, v) :: m)
  | [], _ => by simp [mapInsert]
  | (k', v') :: t, h => by
    simp only [mapInsert]
    have hne : k ≠ k' := fun e => h (by simp [e])
    have ht : k ∉ t.map Prod.fst := fun m => h (by simp only [List.map_cons, List.mem_cons]; exact Or.inr m)
    split
    · exact List.Perm.refl _
    · exact ((mapInsert_perm k v t ht).cons (k', v')).trans (List.Perm.swap _ _ _)

theorem mem_mapInsert {β : Type} {k : String} {v : β} {m : List (String × β)} (h : k ∉ m.map Prod.fst)
    (e : String × β) : e ∈ mapInsert k v m ↔ e = (k, v) ∨ e ∈ m := by
  rw [(mapInsert_perm k v m h).mem_iff]; simp

theorem keys_mapInsert {β : Type} {k : String} {v : β} {m : List (String × β)} (h : k ∉ m.map Prod.fst)
    (nd : (m.map Prod.fst).Nodup) : ((mapInsert k v m).map Prod.fst).Nodup := by
  have := ((mapInsert_perm k v m h).map Prod.fst)
  rw [this.nodup_iff]; simp [h, nd]

theorem length_mapInsert {β : Type} {k : String} {v : β} {m : List (String × β)} (h : k ∉ m.map Prod.fst) :
    (mapInsert k v m).length = m.length + 1 := by
  rw [(mapInsert_perm k v m h).length_eq]; simp

theorem mem_mapErase {β : Type} (k : String) (m : List (String × β)) (e : String × β) :
    e ∈ mapErase k m ↔ e ∈ m ∧ e.1 ≠ k := by
  simp [mapErase]

theorem mapFind?_eq_some {β : Type} {k : String} {m : List (String × β)} {v : β}
    (nd : (m.map Prod.fst).Nodup) : mapFind? k m = some v ↔ (k, v) ∈ m := by
  induction m with
  | nil => simp [mapFind?]
  | cons e t ih =>
    simp only [List.map_cons, List.nodup_cons] at nd
    simp only [mapFind?, List.find?_cons]
    by_cases h : e.1 = k
    · simp only [h, beq_self_eq_true, Option.map_some, Option.some.injEq, List.mem_cons]
      constructor
      · intro hv; left; rw [← hv, ← h]
      · rintro (hv | hv)
        · rw [← hv]
        · exact absurd (List.mem_map.2 ⟨(k, v), hv, rfl⟩) (h ▸ nd.1)
    · have hb : (e.1 == k) = false := by simpa using h
      simp only [hb, List.mem_cons]
      have := ih nd.2
      simp only [mapFind?] at this
      rw [this]
      constructor
      · exact Or.inr
      · rintro (hv | hv)
        · exact absurd (by rw [← hv]) h
        · exact hv

theorem mapFind?_eq_none {β : Type} {k : String} {m : List (String × β)} :
    mapFind? k m = none ↔ k ∉ m.map Prod.fst := by
  simp only [mapFind?, Option.map_eq_none_iff, List.find?_eq_none, beq_iff_eq, List.mem_map, not_exists, not_and]

/-! ## The invariant of one object -/

/-- position `c` follows position `p`: a registered listener writes to `params[c]` and is named
after `params[p]` -/
def Follows (w : World) (o : Obj) (c p : Nat) : Prop :=
  ∃ e ∈ o.reg, (w.lis e.2).alias = c ∧ ∃ s, o.params[p]? = some s ∧ nameOf w.heap s = o.pre ++ (w.lis e.2).src

/-- a registry entry `(id, l)` of the object in slot `k` -/
structure RegOk (w : World) (k : Nat) (o : Obj) (e : String × Nat) : Prop where
  lt : e.2 < w.lnext
  id : (w.lis e.2).id = e.1
  pl : (w.lis e.2).pl = k
  src : ∃ s ∈ o.params, nameOf w.heap s = o.pre ++ (w.lis e.2).src ∧ e.2 ∈ w.lsn s
  tgt : ∃ t y, o.params[(w.lis e.2).alias]? = some t ∧ nameOf w.heap t = o.pre ++ y ∧
    (w.lis e.2).name = o.pre ++ y ∧ e.1 = aliasId (w.lis e.2).src y

structure ObjInv (w : World) (k : Nat) (o : Obj) : Prop where
  valid : ∀ i ∈ o.params, i < w.heap.next
  nodup : (names w.heap o.params).Nodup
  plain : ∀ i ∈ o.params, ∃ x, nameOf w.heap i = o.pre ++ x ∧ Plain x
  indepSub : ∀ i ∈ o.indep, i ∈ o.params
  indepNodup : o.indep.Nodup
  /-- the independent parameters are the parameters nobody writes to -/
  indepIff : ∀ i ∈ o.params, (i ∈ o.indep ↔ ¬ ∃ e ∈ o.reg, o.params[(w.lis e.2).alias]? = some i)
  regKeys : (o.reg.map Prod.fst).Nodup
  regOk : ∀ e ∈ o.reg, RegOk w k o e
  /-- every listener attached to a parameter is registered and attached where its `from_` says -/
  lsnOk : ∀ i ∈ o.params, ∀ l ∈ w.lsn i, ((w.lis l).id, l) ∈ o.reg ∧ nameOf w.heap i = o.pre ++ (w.lis l).src
  /-- a parameter follows at most one parameter -/
  once : ∀ e ∈ o.reg, ∀ e' ∈ o.reg, (w.lis e.2).alias = (w.lis e'.2).alias → e = e'
  acyclic : ∀ p, ¬ Relation.TransGen (Follows w o) p p
  /-- some parameter is independent ("the first time we call this method" never comes again) -/
  hasRoot : o.params ≠ [] → o.indep ≠ []

/-- same objects, listeners, names; values and constraints may differ -/
structure SameShape (w w' : World) : Prop where
  lsn : w'.lsn = w.lsn
  lis : w'.lis = w.lis
  lnext : w'.lnext = w.lnext
  objs : w'.objs = w.objs
  next : w'.heap.next = w.heap.next
  name : ∀ i, nameOf w'.heap i = nameOf w.heap i

theorem SameBut.sameShape {w w' : World} (s : SameBut w w') : SameShape w w' :=
  ⟨s.lsn, s.lis, s.lnext, s.objs, s.next, s.name⟩

theorem SameShape.refl (w : World) : SameShape w w := ⟨rfl, rfl, rfl, rfl, rfl, fun _ => rfl⟩
theorem SameShape.trans {a b c : World} (x : SameShape a b) (y : SameShape b c) : SameShape a c :=
  ⟨y.lsn.trans x.lsn, y.lis.trans x.lis, y.lnext.trans x.lnext, y.objs.trans x.objs, y.next.trans x.next,
   fun i => (y.name i).trans (x.name i)⟩

theorem SameShape.follows {w w' : World} (s : SameShape w w') (o : Obj) : Follows w' o = Follows w o := by
  funext c p
  simp only [Follows, s.lis, s.name]

theorem ObjInv.idsNodup {w : World} {k : Nat} {o : Obj} (h : ObjInv w k o) : o.params.Nodup :=
  List.Nodup.of_map _ h.nodup

theorem ObjInv.name_inj {w : World} {k : Nat} {o : Obj} (h : ObjInv w k o) {i j : ObjId} (hi : i ∈ o.params)
    (hj : j ∈ o.params) (e : nameOf w.heap i = nameOf w.heap j) : i = j :=
  List.inj_on_of_nodup_map h.nodup hi hj e

theorem ObjInv.pos_inj {w : World} {k : Nat} {o : Obj} (h : ObjInv w k o) {a c : Nat} {t : ObjId}
    (ha : o.params[a]? = some t) (hc : o.params[c]? = some t) : a = c :=
  (List.getElem?_inj (List.getElem?_eq_some_iff.1 ha).1 h.idsNodup).1 (ha.trans hc.symm)

/-- **an object carried along a renaming**: `o'` in slot `d` of `W` is `o` in slot `k` of `w` up to a renaming `φ` of the
parameter objects and a correspondence `N` between the registered listener objects of `o` and those of `o'`, which keep positions,
names without namespace, the listener records and, as sets, the listener lists of the parameters.  (Copies: `φ`, `N` pair each
object with its clone; a change of namespace, a value update, an operation on another slot: `φ = id`, `N = Eq`.)  Such an `o'`
satisfies the invariant if `o` does (`Carried.inv`), has the links of `o` (`Carried.link`) and, when values and constraints are
carried too, looks like `o` from outside (`Carried.view`). -/
structure Carried (w W : World) (k d : Nat) (o o' : Obj) (φ : ObjId → ObjId) (N : Nat → Nat → Prop) : Prop where
  params : o'.params = o.params.map φ
  indep : o'.indep = o.indep.map φ
  inj : ∀ i ∈ o.params, ∀ j ∈ o.params, φ i = φ j → i = j
  valid : ∀ i ∈ o.params, φ i < W.heap.next
  name : ∀ i ∈ o.params, ∀ x, nameOf w.heap i = o.pre ++ x → nameOf W.heap (φ i) = o'.pre ++ x
  total : ∀ e ∈ o.reg, ∃ x, N e.2 x
  func : ∀ e ∈ o.reg, ∀ x x', N e.2 x → N e.2 x' → x = x'
  reg : ∀ q, q ∈ o'.reg ↔ ∃ e ∈ o.reg, ∃ x, N e.2 x ∧ q = (e.1, x)
  keys : (o'.reg.map Prod.fst).Nodup
  lis : ∀ e ∈ o.reg, ∀ x, N e.2 x → x < W.lnext ∧ ∃ nm, W.lis x = { w.lis e.2 with pl := d, name := nm } ∧
    ∀ y, (w.lis e.2).name = o.pre ++ y → nm = o'.pre ++ y
  lsn : ∀ i ∈ o.params, ∀ x, x ∈ W.lsn (φ i) ↔ ∃ l ∈ w.lsn i, N l x

theorem Carried.inv {w W : World} {k d : Nat} {o o' : Obj} {φ : ObjId → ObjId} {N : Nat → Nat → Prop}
    (c : Carried w W k d o o' φ N) (h : ObjInv w k o) : ObjInv W d o' := by
  obtain ⟨ps, ind, reg', new⟩ := o'
  obtain ⟨hps, hind, hφ, hvalid, hnm, hN, hfun, hreg, hkeys, hlis, hlsn⟩ := c
  simp only at hps hind hnm hreg hkeys hlis
  subst hps hind
  have hback : ∀ i ∈ o.params, ∀ x, nameOf W.heap (φ i) = new ++ x → nameOf w.heap i = o.pre ++ x := by
    intro i hi x hx
    obtain ⟨y, hy, _⟩ := h.plain i hi
    rw [hnm i hi y hy] at hx
    rw [hy, append_left_cancel' hx]
  -- the fields of a new listener other than `name_` and `pl_`
  have hl : ∀ e ∈ o.reg, ∀ x, N e.2 x → (W.lis x).id = (w.lis e.2).id ∧ (W.lis x).alias = (w.lis e.2).alias ∧
      (W.lis x).pl = d ∧ (W.lis x).src = (w.lis e.2).src := fun e he x hx => by
    obtain ⟨_, nm, hw, _⟩ := hlis e he x hx; rw [hw]; exact ⟨rfl, rfl, rfl, rfl⟩
  -- positions correspond
  have hget : ∀ (j : Nat) i, i ∈ o.params → ((o.params.map φ)[j]? = some (φ i) ↔ o.params[j]? = some i) := by
    intro j i hi
    rw [List.getElem?_map]
    cases hj : o.params[j]? with
    | none => simp
    | some i' =>
      simp only [Option.map_some, Option.some.injEq]
      exact ⟨fun e => hφ i' (List.mem_of_getElem? hj) i hi e, fun e => by rw [e]⟩
  have hmem : ∀ c ∈ o.params.map φ, ∃ i ∈ o.params, c = φ i := fun c hc => by
    obtain ⟨i, hi, e⟩ := List.mem_map.1 hc; exact ⟨i, hi, e.symm⟩
  have hfol : Follows W { params := o.params.map φ, indep := o.indep.map φ, reg := reg', pre := new } = Follows w o := by
    funext c q
    apply propext
    constructor
    · rintro ⟨q', hq', hc, t, ht, htn⟩
      obtain ⟨e, he, x, hx, rfl⟩ := (hreg q').1 hq'
      obtain ⟨i, hi, rfl⟩ := hmem t (List.mem_of_getElem? ht)
      rw [(hl e he x hx).2.1] at hc; rw [(hl e he x hx).2.2.2] at htn
      exact ⟨e, he, hc, i, (hget q i hi).1 ht, hback i hi _ htn⟩
    · rintro ⟨e, he, hc, i, hi, hin⟩
      obtain ⟨x, hx⟩ := hN e he
      have him := List.mem_of_getElem? hi
      refine ⟨(e.1, x), (hreg _).2 ⟨e, he, x, hx, rfl⟩, by rw [(hl e he x hx).2.1]; exact hc, φ i, (hget q i him).2 hi, ?_⟩
      rw [(hl e he x hx).2.2.2]; exact hnm i him _ hin
  refine
    { valid := ?_, nodup := ?_, plain := ?_, indepSub := ?_, indepNodup := ?_, indepIff := ?_, regKeys := hkeys, regOk := ?_,
      lsnOk := ?_, once := ?_, acyclic := fun p => by rw [hfol]; exact h.acyclic p, hasRoot := ?_ }
  · intro c hc
    obtain ⟨i, hi, rfl⟩ := hmem c hc; exact hvalid i hi
  · show (names W.heap (o.params.map φ)).Nodup
    rw [names, List.map_map]
    refine List.Nodup.map_on ?_ h.idsNodup
    intro i hi j hj e
    obtain ⟨x, hx, _⟩ := h.plain i hi
    obtain ⟨y, hy, _⟩ := h.plain j hj
    simp only [Function.comp, hnm i hi x hx, hnm j hj y hy] at e
    exact h.name_inj hi hj (by rw [hx, hy, append_left_cancel' e])
  · intro c hc
    obtain ⟨i, hi, rfl⟩ := hmem c hc
    obtain ⟨x, hx, px⟩ := h.plain i hi
    exact ⟨x, hnm i hi x hx, px⟩
  · intro c hc
    obtain ⟨i, hi, rfl⟩ := List.mem_map.1 hc
    exact List.mem_map_of_mem (h.indepSub i hi)
  · exact List.Nodup.map_on (fun i hi j hj e => hφ i (h.indepSub i hi) j (h.indepSub j hj) e) h.indepNodup
  · intro c hc
    obtain ⟨i, hi, rfl⟩ := hmem c hc
    have h1 : φ i ∈ o.indep.map φ ↔ i ∈ o.indep :=
      ⟨fun hm => by
        obtain ⟨j, hj, e⟩ := List.mem_map.1 hm
        exact hφ j (h.indepSub j hj) i hi e ▸ hj, fun hm => List.mem_map_of_mem hm⟩
    rw [h1, h.indepIff i hi, not_iff_not]
    constructor
    · rintro ⟨e, he, ht⟩
      obtain ⟨x, hx⟩ := hN e he
      exact ⟨(e.1, x), (hreg _).2 ⟨e, he, x, hx, rfl⟩, by rw [(hl e he x hx).2.1]; exact (hget _ i hi).2 ht⟩
    · rintro ⟨q', hq', ht⟩
      obtain ⟨e, he, x, hx, rfl⟩ := (hreg q').1 hq'
      rw [(hl e he x hx).2.1] at ht
      exact ⟨e, he, (hget _ i hi).1 ht⟩
  · intro q' hq'
    obtain ⟨e, he, x, hx, rfl⟩ := (hreg q').1 hq'
    obtain ⟨r1, r2, r3, ⟨s, hs, hsn, hsl⟩, ⟨t, y, ht, htn, hnm', hid⟩⟩ := h.regOk e he
    obtain ⟨a1, a2, a3, a4⟩ := hl e he x hx
    obtain ⟨hlt, nm, hw, hn⟩ := hlis e he x hx
    have htm := List.mem_of_getElem? ht
    refine ⟨hlt, a1.trans r2, a3,
      ⟨φ s, List.mem_map_of_mem hs, by rw [a4]; exact hnm s hs _ hsn, (hlsn s hs x).2 ⟨e.2, hsl, hx⟩⟩,
      ⟨φ t, y, by rw [a2]; exact (hget _ t htm).2 ht, hnm t htm y htn, ?_, by rw [a4]; exact hid⟩⟩
    rw [hw]; exact hn y hnm'
  · intro c hc x hx
    obtain ⟨i, hi, rfl⟩ := hmem c hc
    obtain ⟨l, hl', hlx⟩ := (hlsn i hi x).1 hx
    obtain ⟨a, b⟩ := h.lsnOk i hi l hl'
    obtain ⟨a1, _, _, a4⟩ := hl _ a x hlx
    simp only at a1 a4
    rw [a1, a4]
    exact ⟨(hreg _).2 ⟨_, a, x, hlx, rfl⟩, hnm i hi _ b⟩
  · intro q1 hq1 q2 hq2 ha
    obtain ⟨e1, he1, x1, hx1, rfl⟩ := (hreg q1).1 hq1
    obtain ⟨e2, he2, x2, hx2, rfl⟩ := (hreg q2).1 hq2
    rw [(hl e1 he1 x1 hx1).2.1, (hl e2 he2 x2 hx2).2.1] at ha
    cases h.once e1 he1 e2 he2 ha
    rw [hfun e1 he1 x1 x2 hx1 hx2]
  · intro hne hnil
    exact h.hasRoot (fun e => hne (by rw [e]; rfl)) (List.map_eq_nil_iff.1 hnil)

/-- no renaming of objects: `Carried` needs, of a world, the listener lists of the object's parameters, its registered
listeners and the names without namespace only -/
theorem Carried.rename {w W : World} {k : Nat} {o : Obj} (h : ObjInv w k o) (new : String)
    (hnext : w.heap.next ≤ W.heap.next) (hlnext : w.lnext ≤ W.lnext) (hlsn : ∀ i ∈ o.params, W.lsn i = w.lsn i)
    (hnm : ∀ i ∈ o.params, ∀ x, nameOf w.heap i = o.pre ++ x → nameOf W.heap i = new ++ x)
    (hlis : ∀ e ∈ o.reg, ∃ nm, W.lis e.2 = { w.lis e.2 with name := nm } ∧
      ∀ y, (w.lis e.2).name = o.pre ++ y → nm = new ++ y) :
    Carried w W k k o { o with pre := new } id Eq where
  params := (List.map_id _).symm
  indep := (List.map_id _).symm
  inj _ _ _ _ e := e
  valid i hi := Nat.lt_of_lt_of_le (h.valid i hi) hnext
  name := hnm
  total e _ := ⟨e.2, rfl⟩
  func _ _ _ _ a b := a.symm.trans b
  reg q := ⟨fun hq => ⟨q, hq, q.2, rfl, rfl⟩, fun ⟨e, he, x, hx, hq⟩ => by rw [hq, ← hx]; exact he⟩
  keys := h.regKeys
  lis e he x hx := by
    obtain ⟨nm, a, b⟩ := hlis e he
    exact ⟨hx ▸ Nat.lt_of_lt_of_le (h.regOk e he).lt hlnext, nm, by rw [← hx, a, ← (h.regOk e he).pl], b⟩
  lsn i hi x := by
    show x ∈ W.lsn i ↔ _
    rw [hlsn i hi]; exact ⟨fun hx => ⟨x, hx, rfl⟩, fun ⟨l, hl, e⟩ => e ▸ hl⟩

theorem ObjInv.rename {w W : World} {k : Nat} {o : Obj} (h : ObjInv w k o) (new : String)
    (hnext : w.heap.next ≤ W.heap.next) (hlnext : w.lnext ≤ W.lnext) (hlsn : ∀ i ∈ o.params, W.lsn i = w.lsn i)
    (hnm : ∀ i ∈ o.params, ∀ x, nameOf w.heap i = o.pre ++ x → nameOf W.heap i = new ++ x)
    (hlis : ∀ e ∈ o.reg, ∃ nm, W.lis e.2 = { w.lis e.2 with name := nm } ∧
      ∀ y, (w.lis e.2).name = o.pre ++ y → nm = new ++ y) :
    ObjInv W k { o with pre := new } :=
  (Carried.rename h new hnext hlnext hlsn hnm hlis).inv h

theorem ObjInv.keep {w W : World} {k : Nat} {o : Obj} (h : ObjInv w k o)
    (hnext : w.heap.next ≤ W.heap.next) (hlnext : w.lnext ≤ W.lnext)
    (hcell : ∀ i ∈ o.params, nameOf W.heap i = nameOf w.heap i ∧ W.lsn i = w.lsn i)
    (hlis : ∀ e ∈ o.reg, W.lis e.2 = w.lis e.2) : ObjInv W k o :=
  h.rename o.pre hnext hlnext (fun i hi => (hcell i hi).2) (fun i hi x hx => by rw [(hcell i hi).1]; exact hx)
    (fun e he => ⟨_, by rw [hlis e he], fun _ hy => hy⟩)

theorem ObjInv.sameShape {w w' : World} {k : Nat} {o : Obj} (h : ObjInv w k o) (s : SameShape w w') : ObjInv w' k o :=
  h.keep (Nat.le_of_eq s.next.symm) (Nat.le_of_eq s.lnext.symm) (fun i _ => ⟨s.name i, by rw [s.lsn]⟩)
    (fun e _ => by rw [s.lis])

/-! ## The invariant of a world -/

structure Inv (w : World) : Prop where
  obj : ∀ k o, w.objs k = some o → ObjInv w k o
  disj : ∀ k j o o', k ≠ j → w.objs k = some o → w.objs j = some o' → ∀ i ∈ o.params, i ∉ o'.params

theorem Inv.paramsValid {w : World} (h : Inv w) : ParamsValid w := fun k o ho t ht => (h.obj k o ho).valid t ht

/-- the former parameters of slot `k` -/
def oldParams (w : World) (k : Nat) : List ObjId :=
  match w.objs k with
  | some o => o.params
  | none => []

theorem oldParams_some {w : World} {k : Nat} (o : Obj) (h : w.objs k = some o) : oldParams w k = o.params := by
  simp [oldParams, h]
theorem oldParams_none {w : World} {k : Nat} (h : w.objs k = none) : oldParams w k = [] := by
  simp [oldParams, h]

/-- the frame of an operation on slot `k` whose former parameters are `P`: it writes parameter objects among `P` or fresh
ones, listener objects pointing at slot `k` or fresh ones, and slot `k`; old cells outside `P`, old listeners of other
slots and the other slots themselves are as before -/
structure Fr (k : Nat) (P : List ObjId) (w W : World) : Prop where
  next : w.heap.next ≤ W.heap.next
  lnext : w.lnext ≤ W.lnext
  cell : ∀ i, i < w.heap.next → i ∉ P → W.heap.get i = w.heap.get i ∧ W.lsn i = w.lsn i
  lis : ∀ l, l < w.lnext → (w.lis l).pl ≠ k → W.lis l = w.lis l
  objs : ∀ j, j ≠ k → W.objs j = w.objs j

theorem Fr.refl (k : Nat) (P : List ObjId) (w : World) : Fr k P w w :=
  ⟨Nat.le_refl _, Nat.le_refl _, fun _ _ _ => ⟨rfl, rfl⟩, fun _ _ _ => rfl, fun _ _ => rfl⟩

theorem Fr.trans {k : Nat} {P : List ObjId} {a b c : World} (x : Fr k P a b) (y : Fr k P b c) : Fr k P a c where
  next := Nat.le_trans x.next y.next
  lnext := Nat.le_trans x.lnext y.lnext
  cell i hi hp := by
    obtain ⟨a1, a2⟩ := x.cell i hi hp
    obtain ⟨b1, b2⟩ := y.cell i (Nat.lt_of_lt_of_le hi x.next) hp
    exact ⟨b1.trans a1, b2.trans a2⟩
  lis l hl hp := by
    have a1 := x.lis l hl hp
    have b1 := y.lis l (Nat.lt_of_lt_of_le hl x.lnext) (by rw [a1]; exact hp)
    exact b1.trans a1
  objs j hj := (y.objs j hj).trans (x.objs j hj)

/-- the parameters of the other slots are not among the former parameters of slot `k` -/
theorem Inv.not_old {w : World} (h : Inv w) {j k : Nat} {o : Obj} (hjk : j ≠ k) (ho : w.objs j = some o) :
    ∀ i ∈ o.params, i ∉ oldParams w k := by
  intro i hi hiP
  cases hk : w.objs k with
  | none => rw [oldParams_none hk] at hiP; cases hiP
  | some ok => rw [oldParams_some ok hk] at hiP; exact h.disj j k o ok hjk ho hk i hi hiP

/-- the part of `Fr` that the invariant needs: of an old cell outside `P` its name and listener list, and nothing about the other
slots (`Inv.update` is told what they hold) -/
structure Touches (w w' : World) (k : Nat) (P : List ObjId) : Prop where
  next : w.heap.next ≤ w'.heap.next
  lnext : w.lnext ≤ w'.lnext
  cell : ∀ i, i < w.heap.next → i ∉ P → nameOf w'.heap i = nameOf w.heap i ∧ w'.lsn i = w.lsn i
  lis : ∀ l, l < w.lnext → (w.lis l).pl ≠ k → w'.lis l = w.lis l

/-- the generic step: slot `k` gets the object `o'` -/
theorem Inv.update {w w' : World} (h : Inv w) {k : Nat} {o' : Obj} {P : List ObjId}
    (hobjs : w'.objs = fun j => if j = k then some o' else w.objs j)
    (hP : ∀ o, w.objs k = some o → P = o.params)
    (hP' : w.objs k = none → P = [])
    (t : Touches w w' k P)
    (hnew : ObjInv w' k o')
    (hfresh : ∀ i ∈ o'.params, i ∈ P ∨ w.heap.next ≤ i) : Inv w' := by
  have hdP : ∀ j o, j ≠ k → w.objs j = some o → ∀ i ∈ o.params, i ∉ P := by
    intro j o hjk ho i hi hiP
    cases hk : w.objs k with
    | none => rw [hP' hk] at hiP; cases hiP
    | some ok => rw [hP ok hk] at hiP; exact h.disj j k o ok hjk ho hk i hi hiP
  constructor
  · intro j o ho
    rw [hobjs] at ho
    by_cases hjk : j = k
    · subst hjk; simp only [if_true, Option.some.injEq] at ho; subst ho; exact hnew
    · simp only [hjk, if_false] at ho
      have hj := h.obj j o ho
      exact hj.keep t.next t.lnext (fun i hi => t.cell i (hj.valid i hi) (hdP j o hjk ho i hi))
        (fun e he => t.lis e.2 (hj.regOk e he).lt (by rw [(hj.regOk e he).pl]; exact hjk))
  · intro a b oa ob hab hoa hob i hi hi'
    rw [hobjs] at hoa hob
    by_cases hak : a = k
    · subst hak
      have hbk : b ≠ a := fun e => hab e.symm
      simp only [if_true, Option.some.injEq, hbk, if_false] at hoa hob
      subst hoa
      rcases hfresh i hi with hp | hp
      · exact hdP b ob hbk hob i hi' hp
      · exact absurd ((h.obj b ob hob).valid i hi') (Nat.not_lt.2 hp)
    · simp only [hak, if_false] at hoa
      by_cases hbk : b = k
      · subst hbk
        simp only [if_true, Option.some.injEq] at hob
        subst hob
        rcases hfresh i hi' with hp | hp
        · exact hdP a oa hak hoa i hi hp
        · exact absurd ((h.obj a oa hoa).valid i hi) (Nat.not_lt.2 hp)
      · simp only [hbk, if_false] at hob
        exact h.disj a b oa ob hab hoa hob i hi hi'

/-- … for an operation framed on slot `k` (`Fr`), which is how every operation comes -/
theorem Inv.framed {w W : World} (h : Inv w) {k : Nat} {o' : Obj} (f : Fr k (oldParams w k) w W)
    (ho' : W.objs k = some o') (hnew : ObjInv W k o')
    (hfresh : ∀ i ∈ o'.params, i ∈ oldParams w k ∨ w.heap.next ≤ i) : Inv W := by
  refine h.update (P := oldParams w k) (funext fun j => ?_) (fun o ho => oldParams_some o ho) oldParams_none
    ⟨f.next, f.lnext, fun i hi hp => ⟨by simp only [nameOf, (f.cell i hi hp).1], (f.cell i hi hp).2⟩, f.lis⟩ hnew hfresh
  split
  · rename_i e; rw [e]; exact ho'
  · rename_i e; exact f.objs j e

/-- … when the slot held the object `o` -/
theorem Inv.framed_some {w W : World} (h : Inv w) {k : Nat} {o o' : Obj} (ho : w.objs k = some o) (f : Fr k o.params w W)
    (ho' : W.objs k = some o') (hnew : ObjInv W k o') (hfresh : ∀ i ∈ o'.params, i ∈ o.params ∨ w.heap.next ≤ i) : Inv W := by
  have e := oldParams_some o ho
  exact h.framed (e.symm ▸ f) ho' hnew (e.symm ▸ hfresh)

theorem par_ext {p q : Par} (h1 : p.name = q.name) (h2 : p.value = q.value) (h3 : p.con = q.con) : p = q := by
  cases p; cases q; simp only at h1 h2 h3; subst h1 h2 h3; rfl

theorem inv_init : Inv World.init where
  obj k o ho := by cases ho
  disj k j o o' _ ho := by cases ho

/-- value updates (and constraint updates) preserve the invariant -/
theorem Inv.sameShape {w w' : World} (h : Inv w) (s : SameShape w w') : Inv w' where
  obj k o ho := by rw [s.objs] at ho; exact (h.obj k o ho).sameShape s
  disj k j o o' hkj ho ho' := by rw [s.objs] at ho ho'; exact h.disj k j o o' hkj ho ho'

/-! ## World updates -/

@[simp] theorem setObj_heap (w : World) (k : Nat) (o : Obj) : (w.setObj k o).heap = w.heap := rfl
@[simp] theorem setObj_lsn (w : World) (k : Nat) (o : Obj) : (w.setObj k o).lsn = w.lsn := rfl
@[simp] theorem setObj_lis (w : World) (k : Nat) (o : Obj) : (w.setObj k o).lis = w.lis := rfl
@[simp] theorem setObj_lnext (w : World) (k : Nat) (o : Obj) : (w.setObj k o).lnext = w.lnext := rfl
@[simp] theorem setObj_objs (w : World) (k : Nat) (o : Obj) :
    (w.setObj k o).objs = fun j => if j = k then some o else w.objs j := rfl
theorem setObj_setObj (w : World) (k : Nat) (o o' : Obj) : (w.setObj k o).setObj k o' = w.setObj k o' := by
  simp only [World.setObj]; congr; funext j; split <;> rfl

@[simp] theorem setLsn_heap (w : World) (i : ObjId) (l : List Nat) : (w.setLsn i l).heap = w.heap := rfl
@[simp] theorem setLsn_lis (w : World) (i : ObjId) (l : List Nat) : (w.setLsn i l).lis = w.lis := rfl
@[simp] theorem setLsn_lnext (w : World) (i : ObjId) (l : List Nat) : (w.setLsn i l).lnext = w.lnext := rfl
@[simp] theorem setLsn_objs (w : World) (i : ObjId) (l : List Nat) : (w.setLsn i l).objs = w.objs := rfl
@[simp] theorem setLsn_lsn (w : World) (i : ObjId) (l : List Nat) (j : ObjId) :
    (w.setLsn i l).lsn j = if j = i then l else w.lsn j := rfl

@[simp] theorem allocLis_heap (w : World) (x : Lis) : (w.allocLis x).1.heap = w.heap := rfl
@[simp] theorem allocLis_lsn (w : World) (x : Lis) : (w.allocLis x).1.lsn = w.lsn := rfl
@[simp] theorem allocLis_objs (w : World) (x : Lis) : (w.allocLis x).1.objs = w.objs := rfl
@[simp] theorem allocLis_lnext (w : World) (x : Lis) : (w.allocLis x).1.lnext = w.lnext + 1 := rfl
@[simp] theorem allocLis_snd (w : World) (x : Lis) : (w.allocLis x).2 = w.lnext := rfl
@[simp] theorem allocLis_lis (w : World) (x : Lis) (j : Nat) :
    (w.allocLis x).1.lis j = if j = w.lnext then x else w.lis j := rfl

@[simp] theorem allocPar_snd (w : World) (p : Par) (ls : List Nat) : (w.allocPar p ls).2 = w.heap.next := rfl
@[simp] theorem allocPar_next (w : World) (p : Par) (ls : List Nat) : (w.allocPar p ls).1.heap.next = w.heap.next + 1 := rfl
@[simp] theorem allocPar_get (w : World) (p : Par) (ls : List Nat) (j : ObjId) :
    (w.allocPar p ls).1.heap.get j = if j = w.heap.next then p else w.heap.get j := rfl
@[simp] theorem allocPar_lsn (w : World) (p : Par) (ls : List Nat) (j : ObjId) :
    (w.allocPar p ls).1.lsn j = if j = w.heap.next then ls else w.lsn j := rfl
@[simp] theorem allocPar_lis (w : World) (p : Par) (ls : List Nat) : (w.allocPar p ls).1.lis = w.lis := rfl
@[simp] theorem allocPar_lnext (w : World) (p : Par) (ls : List Nat) : (w.allocPar p ls).1.lnext = w.lnext := rfl
@[simp] theorem allocPar_objs (w : World) (p : Par) (ls : List Nat) : (w.allocPar p ls).1.objs = w.objs := rfl

@[simp] theorem putPar_get (w : World) (i : ObjId) (p : Par) (j : ObjId) :
    (w.putPar i p).heap.get j = if j = i then p else w.heap.get j := rfl
@[simp] theorem putPar_next (w : World) (i : ObjId) (p : Par) : (w.putPar i p).heap.next = w.heap.next := rfl
@[simp] theorem putPar_lsn (w : World) (i : ObjId) (p : Par) : (w.putPar i p).lsn = w.lsn := rfl
@[simp] theorem putPar_lis (w : World) (i : ObjId) (p : Par) : (w.putPar i p).lis = w.lis := rfl
@[simp] theorem putPar_lnext (w : World) (i : ObjId) (p : Par) : (w.putPar i p).lnext = w.lnext := rfl
@[simp] theorem putPar_objs (w : World) (i : ObjId) (p : Par) : (w.putPar i p).objs = w.objs := rfl

/-! ## `new T(pre)` -/

theorem objInv_empty (w : World) (k : Nat) (pre : String) : ObjInv w k { params := [], indep := [], reg := [], pre := pre } where
  valid i hi := by cases hi
  nodup := List.nodup_nil
  plain i hi := by cases hi
  indepSub i hi := by cases hi
  indepNodup := List.nodup_nil
  indepIff i hi := by cases hi
  regKeys := List.nodup_nil
  regOk e he := by cases he
  lsnOk i hi := by cases hi
  once e he := by cases he
  acyclic p h := by
    cases h with
    | single h => obtain ⟨e, he, _⟩ := h; cases he
    | tail _ h => obtain ⟨e, he, _⟩ := h; cases he
  hasRoot h := absurd rfl h

theorem newObj_fr (w : World) (k : Nat) (pre : String) (P : List ObjId) : Fr k P w (newObj w k pre) :=
  ⟨Nat.le_refl _, Nat.le_refl _, fun _ _ _ => ⟨rfl, rfl⟩, fun _ _ _ => rfl, fun j hj => by simp [newObj, hj]⟩

/-! ## `addParameter_` -/

theorem added_fr (w : World) (k : Nat) (o' : Obj) (p : Par) (P : List ObjId) : Fr k P w ((w.allocPar p []).1.setObj k o') := by
  refine ⟨by simp, Nat.le_refl _, fun i hlt _ => ?_, fun _ _ _ => rfl, fun j hj => by simp [hj]⟩
  have : i ≠ w.heap.next := Nat.ne_of_lt hlt
  simp [this]

theorem names_alloc_old {w : World} {p : Par} {ls : List Nat} {l : List ObjId} (v : ∀ i ∈ l, i < w.heap.next) :
    names (w.allocPar p ls).1.heap l = names w.heap l :=
  ParamList.names_congr (fun i hi => by
    have : i ≠ w.heap.next := Nat.ne_of_lt (v i hi)
    simp [nameOf, this])

/-- the object after `addParameter_`: the new parameter object `n` is a parameter and independent -/
abbrev addedObj (o : Obj) (n : ObjId) : Obj := { o with params := o.params ++ [n], indep := o.indep ++ [n] }

theorem addParam_eq {w : World} {k : Nat} {o : Obj} {p : Par} {x : String} (hi : ObjInv w k o)
    (ho : w.objs k = some o) (hok : p.ok = true) (hx : p.name = o.pre ++ x)
    (hnew : hasParameter w.heap o.params p.name = false) :
    addParam w k p = ({ w := (w.allocPar p []).1.setObj k (addedObj o w.heap.next) } : WR) := by
  have hn : p.name ∉ names w.heap o.params := (ParamList.hasParameter_false_iff _ _ _).1 hnew
  have hnames : names (w.allocPar p []).1.heap o.params = names w.heap o.params := names_alloc_old hi.valid
  have hfind : find? (w.allocPar p []).1.heap (o.params ++ [w.heap.next]) p.name = some w.heap.next := by
    unfold find?
    rw [List.find?_append]
    have h1 : List.find? (fun i => nameOf (w.allocPar p []).1.heap i == p.name) o.params = none := by
      have := (ParamList.find?_none (h := (w.allocPar p []).1.heap) (l := o.params) (n := p.name)).2 (by rw [hnames]; exact hn)
      exact this
    rw [h1]
    simp [nameOf]
  have hind : hasParameter (w.allocPar p []).1.heap o.indep p.name = false := by
    rw [ParamList.hasParameter_false_iff, names_alloc_old (fun i hi' => hi.valid i (hi.indepSub i hi'))]
    intro hm
    obtain ⟨i, hi1, hi2⟩ := List.mem_map.1 hm
    exact hn (List.mem_map.2 ⟨i, hi.indepSub i hi1, hi2⟩)
  have hnm : nameOf (w.allocPar p []).1.heap w.heap.next = p.name := by simp [nameOf]
  simp only [addParam, ho, hok, Bool.not_true, Bool.false_eq_true, if_false, hx, stripNs_append]
  rw [← hx]
  simp only [setObj_heap, allocPar_snd, hfind, shareParameter, hnm, hind, Bool.false_eq_true, if_false,
    setObj_setObj, addedObj, hnew]

theorem getElem?_append_of_some {α : Type} {l : List α} {n : Nat} {a : α} (h : l[n]? = some a) (t : List α) :
    (l ++ t)[n]? = some a := by
  rw [List.getElem?_append_left (List.getElem?_eq_some_iff.1 h).1]; exact h

/-- the outcomes of `addParameter_` of a well-formed name: `ConstraintException` from the constructor or `Exception`
for a name in use, the world being as before; or the parameter is there -/
theorem addParam_cases {w : World} {k : Nat} {o : Obj} {p : Par} {x : String} (hi : ObjInv w k o) (ho : w.objs k = some o)
    (hx : p.name = o.pre ++ x) :
    (addParam w k p = { w := w, err := some .constraint } ∨ addParam w k p = { w := w, err := some .bpp }) ∨
    (p.ok = true ∧ hasParameter w.heap o.params p.name = false ∧
      addParam w k p = { w := (w.allocPar p []).1.setObj k (addedObj o w.heap.next) }) := by
  cases hok : p.ok
  · exact Or.inl (Or.inl (by simp only [addParam, ho, hok, Bool.not_false, if_true]))
  cases hnew : hasParameter w.heap o.params p.name
  · exact Or.inr ⟨rfl, rfl, addParam_eq hi ho hok hx hnew⟩
  · exact Or.inl (Or.inr (by simp only [addParam, ho, hok, hnew, Bool.not_true, Bool.false_eq_true, if_false, if_true]))

theorem addParam_none {w : World} {k : Nat} (ho : w.objs k = none) (p : Par) :
    addParam w k p = { w := w, err := some .ub } := by
  simp only [addParam, ho]

theorem inv_added {w : World} (h : Inv w) {k : Nat} {o : Obj} {p : Par} {x : String}
    (ho : w.objs k = some o) (hx : p.name = o.pre ++ x) (px : Plain x) (hnew : hasParameter w.heap o.params p.name = false) :
    Inv ((w.allocPar p []).1.setObj k (addedObj o w.heap.next)) := by
  have hi := h.obj k o ho
  have hn : p.name ∉ names w.heap o.params := (ParamList.hasParameter_false_iff _ _ _).1 hnew
  set n := w.heap.next with hnd
  set w' := (w.allocPar p []).1.setObj k (addedObj o n) with hw'
  have hname : ∀ i, i < n → nameOf w'.heap i = nameOf w.heap i := by
    intro i hlt
    have : i ≠ w.heap.next := Nat.ne_of_lt hlt
    simp [hw', nameOf, this]
  have hnameN : nameOf w'.heap n = p.name := by simp [hw', nameOf, hnd]
  have hlsn : ∀ i, i < n → w'.lsn i = w.lsn i := by
    intro i hlt
    have : i ≠ w.heap.next := Nat.ne_of_lt hlt
    simp [hw', this]
  have hlsnN : w'.lsn n = [] := by simp [hw', hnd]
  have hlis : w'.lis = w.lis := rfl
  have hnotin : n ∉ o.params := fun m => Nat.lt_irrefl _ (hi.valid n m)
  -- no registered listener is named after the new parameter
  have hsrcne : ∀ e ∈ o.reg, o.pre ++ (w.lis e.2).src ≠ p.name := by
    intro e he heq
    obtain ⟨s, hs, hsn, _⟩ := (hi.regOk e he).src
    exact hn (List.mem_map.2 ⟨s, hs, hsn.trans heq⟩)
  refine h.framed_some ho (added_fr w k _ p _) (if_pos rfl) ?_ ?_
  · show ObjInv w' k { params := o.params ++ [n], indep := o.indep ++ [n], reg := o.reg, pre := o.pre }
    refine
      { valid := ?_, nodup := ?_, plain := ?_, indepSub := ?_, indepNodup := ?_, indepIff := ?_, regKeys := hi.regKeys,
        regOk := ?_, lsnOk := ?_, once := fun e he e' he' => hi.once e he e' he', acyclic := ?_,
        hasRoot := fun _ hnil => by simp at hnil }
    · intro i hm
      rcases List.mem_append.1 hm with hm | hm
      · exact Nat.lt_succ_of_lt (hi.valid i hm)
      · simp only [List.mem_singleton] at hm; subst hm; show n < w.heap.next + 1; omega
    · show (names w'.heap (o.params ++ [n])).Nodup
      rw [ParamList.names_append, ParamList.names_congr (fun i hm => hname i (hi.valid i hm))]
      simp only [names, List.map_cons, List.map_nil]
      rw [hnameN]
      exact List.Nodup.append hi.nodup (List.nodup_singleton _) (by
        intro a ha hb; simp only [List.mem_singleton] at hb; subst hb; exact hn ha)
    · intro i hm
      rcases List.mem_append.1 hm with hm | hm
      · rw [hname i (hi.valid i hm)]; exact hi.plain i hm
      · simp only [List.mem_singleton] at hm; subst hm; exact ⟨x, by rw [hnameN]; exact hx, px⟩
    · intro i hm
      rcases List.mem_append.1 hm with hm | hm
      · exact List.mem_append_left _ (hi.indepSub i hm)
      · exact List.mem_append_right _ hm
    · exact List.Nodup.append hi.indepNodup (List.nodup_singleton _) (by
        intro a ha hb; simp only [List.mem_singleton] at hb; subst hb; exact hnotin (hi.indepSub _ ha))
    · intro i hm
      have key : ∀ e ∈ o.reg, ∀ j, (o.params ++ [n])[(w.lis e.2).alias]? = some j ↔ o.params[(w.lis e.2).alias]? = some j := by
        intro e he j
        obtain ⟨t, y, ht, _⟩ := (hi.regOk e he).tgt
        rw [getElem?_append_of_some ht, ht]
      rcases List.mem_append.1 hm with hm | hm
      · have hne : i ≠ n := fun e => hnotin (e ▸ hm)
        constructor
        · intro hin
          have : i ∈ o.indep := by
            rcases List.mem_append.1 hin with a | a
            · exact a
            · simp only [List.mem_singleton] at a; exact absurd a hne
          rintro ⟨e, he, ht⟩
          exact (hi.indepIff i hm).1 this ⟨e, he, (key e he i).1 ht⟩
        · intro hno
          exact List.mem_append_left _ ((hi.indepIff i hm).2 (fun ⟨e, he, ht⟩ => hno ⟨e, he, (key e he i).2 ht⟩))
      · simp only [List.mem_singleton] at hm; subst hm
        constructor
        · rintro _ ⟨e, he, ht⟩
          exact hnotin (List.mem_of_getElem? ((key e he _).1 ht))
        · intro _; exact List.mem_append_right _ (List.mem_singleton.2 rfl)
    · intro e he
      obtain ⟨r1, r2, r3, ⟨s, hs, hsn, hsl⟩, ⟨t, y, ht, htn, hnm, hid⟩⟩ := hi.regOk e he
      refine ⟨r1, r2, r3, ⟨s, List.mem_append_left _ hs, by rw [hname s (hi.valid s hs)]; exact hsn,
        by rw [hlsn s (hi.valid s hs)]; exact hsl⟩,
        ⟨t, y, getElem?_append_of_some ht _, ?_, hnm, hid⟩⟩
      rw [hname t (hi.valid t (List.mem_of_getElem? ht))]; exact htn
    · intro i hm l hl
      rcases List.mem_append.1 hm with hm | hm
      · rw [hlsn i (hi.valid i hm)] at hl
        rw [hname i (hi.valid i hm)]
        exact hi.lsnOk i hm l hl
      · simp only [List.mem_singleton] at hm; subst hm; rw [hlsnN] at hl; cases hl
    · -- following is unchanged: no listener is named after the new parameter
      have hsub : ∀ c q, Follows w' { params := o.params ++ [n], indep := o.indep ++ [n], reg := o.reg, pre := o.pre } c q →
          Follows w o c q := by
        rintro c q ⟨e, he, hc, s, hs, hsn⟩
        refine ⟨e, he, hc, s, ?_, ?_⟩
        · by_cases hq : q < o.params.length
          · rw [List.getElem?_append_left hq] at hs; exact hs
          · exfalso
            have hq' : o.params.length ≤ q := Nat.le_of_not_lt hq
            rw [List.getElem?_append_right hq'] at hs
            have : s = n := by
              cases hqq : q - o.params.length with
              | zero => rw [hqq] at hs; simpa using hs.symm
              | succ m => rw [hqq] at hs; simp at hs
            subst this
            rw [hnameN] at hsn
            exact hsrcne e he hsn.symm
        · have hsm : s ∈ o.params ∨ s = n := by
            have := List.mem_of_getElem? hs
            rcases List.mem_append.1 this with a | a
            · exact Or.inl a
            · exact Or.inr (List.mem_singleton.1 a)
          rcases hsm with a | a
          · rw [← hname s (hi.valid s a)]; exact hsn
          · subst a; rw [hnameN] at hsn; exact absurd hsn.symm (hsrcne e he)
      intro q hq
      exact hi.acyclic q (Relation.TransGen.mono hsub q q hq)
  · intro i hm
    have hm' : i ∈ o.params ++ [n] := hm
    rcases List.mem_append.1 hm' with hm | hm
    · exact Or.inl hm
    · simp only [List.mem_singleton] at hm; exact Or.inr (by rw [hm])

/-! ## Lookups under the invariant -/

theorem find?_iff {h : Store} {l : List ObjId} (nd : (names h l).Nodup) {n : String} {i : ObjId} :
    find? h l n = some i ↔ i ∈ l ∧ nameOf h i = n :=
  ⟨ParamList.find?_some, fun ⟨hi, hn⟩ => hn ▸ ParamList.find?_self nd hi⟩

theorem ObjInv.plain_of {w : World} {k : Nat} {o : Obj} (h : ObjInv w k o) {i : ObjId} {x : String} (hi : i ∈ o.params)
    (hn : nameOf w.heap i = o.pre ++ x) : Plain x := by
  obtain ⟨y, hy, py⟩ := h.plain i hi
  exact append_left_cancel' (hy.symm.trans hn) ▸ py

/-- relation lemma: one more edge `x → y` closes a cycle only through `y →* x` -/
theorem transGen_insert {α : Type} {R : α → α → Prop} {x y : α} {a b : α}
    (h : Relation.TransGen (fun c d => R c d ∨ (c = x ∧ d = y)) a b) :
    Relation.TransGen R a b ∨ (Relation.ReflTransGen R a x ∧ Relation.ReflTransGen R y b) := by
  induction h with
  | single h =>
    rcases h with h | ⟨rfl, rfl⟩
    · exact Or.inl (Relation.TransGen.single h)
    · exact Or.inr ⟨Relation.ReflTransGen.refl, Relation.ReflTransGen.refl⟩
  | tail _ h ih =>
    rcases h with h | ⟨rfl, rfl⟩
    · rcases ih with ih | ⟨i1, i2⟩
      · exact Or.inl (Relation.TransGen.tail ih h)
      · exact Or.inr ⟨i1, Relation.ReflTransGen.tail i2 h⟩
    · rcases ih with ih | ⟨i1, _⟩
      · exact Or.inr ⟨ih.to_reflTransGen, Relation.ReflTransGen.refl⟩
      · exact Or.inr ⟨i1, Relation.ReflTransGen.refl⟩

/-- two registry entries with the same `name_` write to the same parameter, hence are one entry -/
theorem ObjInv.name_unique {w : World} {k : Nat} {o : Obj} (h : ObjInv w k o) {e e' : String × Nat}
    (he : e ∈ o.reg) (he' : e' ∈ o.reg) (hn : (w.lis e.2).name = (w.lis e'.2).name) : e = e' := by
  obtain ⟨t, y, ht, htn, hnm, _⟩ := (h.regOk e he).tgt
  obtain ⟨t', y', ht', htn', hnm', _⟩ := (h.regOk e' he').tgt
  have : t = t' := h.name_inj (List.mem_of_getElem? ht) (List.mem_of_getElem? ht')
    (by rw [htn, htn', ← hnm, ← hnm', hn])
  subst this
  exact h.once e he e' he' (h.pos_inj ht ht')

/-- `getFrom` on any string: `from_` of the registered listener whose `name_` it is, `""` if none -/
theorem getFrom_full {w : World} {k : Nat} {o : Obj} (h : ObjInv w k o) (name : String) :
    (∀ e ∈ o.reg, (w.lis e.2).name = name → getFrom w o name = (w.lis e.2).src) ∧
    ((∀ e ∈ o.reg, (w.lis e.2).name ≠ name) → getFrom w o name = "") := by
  simp only [getFrom]
  cases hf : o.reg.find? (fun e => (w.lis e.2).name == name) with
  | none => exact ⟨fun e he hn => absurd (beq_iff_eq.2 hn) (List.find?_eq_none.1 hf e he), fun _ => rfl⟩
  | some e' =>
    have he' := List.mem_of_find?_eq_some hf
    have hm : (w.lis e'.2).name = name :=
      beq_iff_eq.1 (List.find?_some (p := fun (e : String × Nat) => (w.lis e.2).name == name) hf)
    exact ⟨fun e he hn => by rw [h.name_unique he he' (hn.trans hm.symm)], fun hno => absurd hm (hno e' he')⟩

theorem ObjInv.exists_pos {w : World} {k : Nat} {o : Obj} (_h : ObjInv w k o) {i : ObjId} (hi : i ∈ o.params) :
    ∃ c : Nat, o.params[c]? = some i := by
  obtain ⟨c, hc, e⟩ := List.mem_iff_getElem.1 hi
  exact ⟨c, by rw [List.getElem?_eq_getElem hc, e]⟩

/-- the parent of a position, as the loop over `getFrom` finds it: position `c` (name without namespace `x`) follows nobody
and `getFrom` answers `""`, or it follows exactly one position, and `getFrom` answers the name without namespace found there -/
theorem ObjInv.parent {w : World} {k : Nat} {o : Obj} (h : ObjInv w k o) {c : Nat} {t : ObjId} {x : String}
    (hc : o.params[c]? = some t) (hx : nameOf w.heap t = o.pre ++ x) :
    (getFrom w o (o.pre ++ x) = "" ∧ ∀ e ∈ o.reg, (w.lis e.2).alias ≠ c) ∨
    ∃ e ∈ o.reg, ∃ ps s y, (w.lis e.2).alias = c ∧ o.params[ps]? = some s ∧ nameOf w.heap s = o.pre ++ y ∧ Plain y ∧
      getFrom w o (o.pre ++ x) = y ∧ Follows w o c ps ∧ ∀ m, Follows w o c m → m = ps := by
  have hmatch : ∀ e ∈ o.reg, (w.lis e.2).name = o.pre ++ x ↔ (w.lis e.2).alias = c := by
    intro e he
    obtain ⟨t', y, ht', htn, hnm, _⟩ := (h.regOk e he).tgt
    rw [hnm]
    constructor
    · intro heq
      cases h.name_inj (List.mem_of_getElem? ht') (List.mem_of_getElem? hc) (by rw [htn, hx, heq])
      exact h.pos_inj ht' hc
    · intro ha
      rw [ha, hc] at ht'
      cases ht'
      rw [← htn, hx]
  obtain ⟨f1, f2⟩ := getFrom_full h (o.pre ++ x)
  by_cases hpar : ∃ e ∈ o.reg, (w.lis e.2).alias = c
  · obtain ⟨e, he, ha⟩ := hpar
    obtain ⟨s, hs, hsn, _⟩ := (h.regOk e he).src
    obtain ⟨ps, hps⟩ := h.exists_pos hs
    obtain ⟨y, hy, py⟩ := h.plain s hs
    have hsrc : (w.lis e.2).src = y := append_left_cancel' (hsn.symm.trans hy)
    refine Or.inr ⟨e, he, ps, s, y, ha, hps, hy, py, by rw [f1 e he ((hmatch e he).2 ha), hsrc], ⟨e, he, ha, s, hps, hsn⟩, ?_⟩
    rintro m ⟨e', he', ha', s', hs', hsn'⟩
    cases h.once e he e' he' (by rw [ha, ha'])
    cases h.name_inj (List.mem_of_getElem? hs') hs (by rw [hsn', hsn])
    exact h.pos_inj hs' hps
  · have hno : ∀ e ∈ o.reg, (w.lis e.2).alias ≠ c := fun e he ha => hpar ⟨e, he, ha⟩
    exact Or.inl ⟨f2 fun e he hn => hno e he ((hmatch e he).1 hn), hno⟩

/-- **the repaired cycle test is exact in the refusing direction**: if the loop over `getFrom`
ends without meeting `p2`, then no parameter named `p2` is above `p1`'s position (itself
included), and the chain ends on a parameter that follows nobody and is not `p2` -/
theorem followsLoop_false {w : World} {k : Nat} {o : Obj} (h : ObjInv w k o) (p2 : String) :
    ∀ (f : Nat) (x : String) (c : Nat) (t : ObjId), o.params[c]? = some t → nameOf w.heap t = o.pre ++ x → Plain x →
      followsLoop w o p2 f x = some false →
      (∀ q tq, Relation.ReflTransGen (Follows w o) c q → o.params[q]? = some tq → nameOf w.heap tq ≠ o.pre ++ p2) ∧
      (∃ r ∈ o.params, nameOf w.heap r ≠ o.pre ++ p2 ∧ ∀ e ∈ o.reg, o.params[(w.lis e.2).alias]? ≠ some r)
  | 0, _, _, _, _, _, _, hf => by simp [followsLoop] at hf
  | f + 1, x, c, t, hc, hx, px, hf => by
    simp only [followsLoop, px.1, if_false] at hf
    by_cases hxp : x = p2
    · simp [hxp] at hf
    simp only [hxp, if_false] at hf
    have hself : nameOf w.heap t ≠ o.pre ++ p2 := by rw [hx]; exact fun heq => hxp (append_left_cancel' heq)
    rcases h.parent hc hx with ⟨hg, hno⟩ | ⟨e, he, ps, s, y, ha, hps, hy, py, hg, _, huniq⟩ <;> rw [hg] at hf
    · refine ⟨fun q tq hq htq => ?_, t, List.mem_of_getElem? hc, hself, fun e he ht => hno e he (h.pos_inj ht hc)⟩
      rcases Relation.ReflTransGen.cases_head hq with rfl | ⟨m, ⟨e', he', ha', _⟩, _⟩
      · cases hc.symm.trans htq; exact hself
      · exact absurd ha' (hno e' he')
    · obtain ⟨ih1, ih2⟩ := followsLoop_false h p2 f y ps s hps hy py hf
      refine ⟨fun q tq hq htq => ?_, ih2⟩
      rcases Relation.ReflTransGen.cases_head hq with rfl | ⟨m, hm, hrest⟩
      · cases hc.symm.trans htq; exact hself
      · cases huniq m hm; exact ih1 q tq hrest htq

/-- the cycle test of the pair form never runs out of fuel: each turn leaves one registry entry less above -/
theorem followsLoop_no_hang {w : World} {k : Nat} {o : Obj} (h : ObjInv w k o) (p2 : String) :
    ∀ (f : Nat) (S : List (String × Nat)) (x : String) (c : Nat) (t : ObjId), S.Nodup →
      o.params[c]? = some t → nameOf w.heap t = o.pre ++ x → Plain x →
      (∀ e ∈ o.reg, ∀ q, Relation.ReflTransGen (Follows w o) c q → (w.lis e.2).alias = q → e ∈ S) →
      S.length + 2 ≤ f → followsLoop w o p2 f x ≠ none
  | 0, _, _, _, _, _, _, _, _, _, hf => by omega
  | f + 1, S, x, c, t, nd, hc, hx, px, hS, hf => by
    simp only [followsLoop, px.1, if_false]
    by_cases hxp : x = p2
    · simp [hxp]
    simp only [hxp, if_false]
    rcases h.parent hc hx with ⟨hg, _⟩ | ⟨e, he, ps, s, y, ha, hps, hy, py, hg, hfol, _⟩ <;> rw [hg]
    · cases f with
      | zero => omega
      | succ f' => simp [followsLoop]
    · have heS : e ∈ S := hS e he c Relation.ReflTransGen.refl ha
      refine followsLoop_no_hang h p2 f (S.erase e) y ps s (nd.erase e) hps hy py ?_ ?_
      · intro e' he' q hq ha'
        rw [nd.mem_erase_iff]
        refine ⟨?_, hS e' he' q (Relation.ReflTransGen.head hfol hq) ha'⟩
        rintro rfl
        rw [ha] at ha'
        subst ha'
        exact h.acyclic c (Relation.TransGen.head' hfol hq)
      · have : (S.erase e).length = S.length - 1 := List.length_erase_of_mem heS
        have hpos : 0 < S.length := List.length_pos_of_mem heS
        omega

theorem ObjInv.regNodup {w : World} {k : Nat} {o : Obj} (h : ObjInv w k o) : o.reg.Nodup :=
  List.Nodup.of_map _ h.regKeys

theorem cycleTest_no_hang {w : World} {k : Nat} {o : Obj} (h : ObjInv w k o) {p1 p2 : String} {i1 : ObjId}
    (h1 : find? w.heap o.params (o.pre ++ p1) = some i1) : followsLoop w o p2 (o.reg.length + 2) p1 ≠ none := by
  obtain ⟨hm1, hn1⟩ := ParamList.find?_some h1
  obtain ⟨pos1, hp1⟩ := h.exists_pos hm1
  have pp1 : Plain p1 := h.plain_of hm1 hn1
  exact followsLoop_no_hang h p2 _ o.reg p1 pos1 i1 h.regNodup hp1 hn1 pp1 (fun e he _ _ _ => he) (Nat.le_refl _)

/-! ## `aliasParameters(p1, p2)` -/

theorem setObj_self {w : World} {k : Nat} {o : Obj} (h : w.objs k = some o) : w.setObj k o = w := by
  cases w with
  | mk heap lsn lis lnext objs =>
    simp only [World.setObj, World.mk.injEq, true_and]
    funext j
    split
    · rename_i e; subst e; exact h.symm
    · rfl

theorem aliasConstraints_cases (w : World) (i1 i2 : ObjId) :
    aliasConstraints w i1 i2 = { w := w, err := some .constraint } ∨ aliasConstraints w i1 i2 = aliasConstraintsL w i1 i2 := by
  simp only [aliasConstraints]; split
  · exact Or.inl rfl
  · exact Or.inr rfl

theorem parSetConstraint_ok {p q : Par} {c : Con} (h : parSetConstraint p c = .ok q) :
    q = { p with con := some c } ∧ c.accepts p.value = true := by
  simp only [parSetConstraint] at h
  split at h
  · cases h
  · rename_i hacc; cases h; exact ⟨rfl, by simpa using hacc⟩

/-- `W` is `w` up to the constraints of the parameter objects `i1` and `i2`: a new constraint accepts the value held
(`Parameter::setConstraint` has checked it) and no value the old one rejected -/
structure ConStep (w W : World) (i1 i2 : ObjId) : Prop extends SameShape w W where
  val : ∀ j, val W j = val w j
  con : ∀ j, j ≠ i1 → j ≠ i2 → (W.heap.get j).con = (w.heap.get j).con
  ok : ∀ j, (w.heap.get j).ok = true → (W.heap.get j).ok = true
  acc : ∀ j v, accOpt (W.heap.get j).con v = true → accOpt (w.heap.get j).con v = true

theorem ConStep.refl (w : World) (i1 i2 : ObjId) : ConStep w w i1 i2 :=
  ⟨SameShape.refl w, fun _ => rfl, fun _ _ _ => rfl, fun _ h => h, fun _ _ h => h⟩

theorem ConStep.trans {a b c : World} {i1 i2 : ObjId} (x : ConStep a b i1 i2) (y : ConStep b c i1 i2) : ConStep a c i1 i2 :=
  ⟨x.toSameShape.trans y.toSameShape, fun j => (y.val j).trans (x.val j),
    fun j h1 h2 => (y.con j h1 h2).trans (x.con j h1 h2), fun j h => y.ok j (x.ok j h), fun j v h => x.acc j v (y.acc j v h)⟩

theorem ConStep.put {w : World} {i1 i2 i : ObjId} {c : Con} {q : Par} (hi : i = i1 ∨ i = i2)
    (hq : parSetConstraint (w.heap.get i) c = .ok q) (hc : ∀ v, c.accepts v = true → accOpt (w.heap.get i).con v = true) :
    ConStep w (w.putPar i q) i1 i2 := by
  obtain ⟨rfl, hacc⟩ := parSetConstraint_ok hq
  have hget : ∀ j, (w.putPar i { w.heap.get i with con := some c }).heap.get j =
      if j = i then { w.heap.get i with con := some c } else w.heap.get j := fun j => putPar_get ..
  refine ⟨⟨rfl, rfl, rfl, rfl, rfl, fun j => ?_⟩, fun j => ?_, fun j h1 h2 => ?_, fun j h => ?_, fun j v h => ?_⟩
  · simp only [nameOf, hget]; split
    · rename_i e; rw [e]
    · rfl
  · simp only [Alias.val, hget]; split
    · rename_i e; rw [e]
    · rfl
  · rw [hget, if_neg (fun e => hi.elim (fun e1 => h1 (e.trans e1)) (fun e2 => h2 (e.trans e2)))]
  · rw [hget]; split
    · simp only [Par.ok, Par.rejects, hacc, Bool.not_true, Bool.not_false]
    · exact h
  · rw [hget] at h; split at h
    · rename_i e; rw [e]; exact hc v h
    · exact h

theorem aliasConstraintsL_conStep (w : World) (i1 i2 : ObjId) : ConStep w (aliasConstraintsL w i1 i2).w i1 i2 := by
  simp only [aliasConstraintsL]
  cases h1 : (w.heap.get i1).con with
  | none =>
    cases h2 : (w.heap.get i2).con with
    | none => exact .refl w i1 i2
    | some c2 =>
      simp only []
      split
      · exact .refl w i1 i2
      · rename_i q hq; exact .put (Or.inl rfl) hq (fun v _ => by rw [h1]; rfl)
  | some c1 =>
    cases h2 : (w.heap.get i2).con with
    | none => exact .refl w i1 i2
    | some c2 =>
      simp only []
      split
      · split
        · exact .refl w i1 i2
        · rename_i q2 hq2
          have s2 : ConStep w (w.putPar i2 q2) i1 i2 := .put (Or.inr rfl) hq2 (fun v hv => by
            rw [h2]; rw [Con.inter_accepts, Bool.and_eq_true] at hv; exact hv.1)
          split
          · exact s2
          · rename_i q1 hq1
            refine s2.trans (.put (Or.inl rfl) hq1 (fun v hv => ?_))
            obtain ⟨rfl, _⟩ := parSetConstraint_ok hq2
            rw [putPar_get]; split
            · exact hv
            · rw [h1]; rw [Con.inter_accepts, Bool.and_eq_true] at hv; exact hv.2
      · exact .refl w i1 i2

theorem aliasConstraints_conStep (w : World) (i1 i2 : ObjId) : ConStep w (aliasConstraints w i1 i2).w i1 i2 := by
  rcases aliasConstraints_cases w i1 i2 with h | h <;> rw [h]
  · exact .refl w i1 i2
  · exact aliasConstraintsL_conStep w i1 i2

theorem aliasConstraints_sameShape (w : World) (i1 i2 : ObjId) : SameShape w (aliasConstraints w i1 i2).w :=
  (aliasConstraints_conStep w i1 i2).toSameShape

theorem parSetConstraint_err {p : Par} {c : Con} {e : Err} (h : parSetConstraint p c = .error e) : e = .constraint := by
  simp only [parSetConstraint] at h
  split at h
  · cases h; rfl
  · cases h

theorem aliasConstraintsL_err {w : World} {i1 i2 : ObjId} {e : Err} (h : (aliasConstraintsL w i1 i2).err = some e) :
    e = .constraint := by
  simp only [aliasConstraintsL] at h
  split at h
  · cases h
  · split at h
    · rename_i e' he'
      simp only [Option.some.injEq] at h; subst h; exact parSetConstraint_err he'
    · cases h
  · cases h
  · split at h
    · split at h
      · rename_i e' he'
        simp only [Option.some.injEq] at h; subst h; exact parSetConstraint_err he'
      · split at h
        · rename_i e' he'
          simp only [Option.some.injEq] at h; subst h; exact parSetConstraint_err he'
        · cases h
    · cases h

theorem aliasConstraints_err {w : World} {i1 i2 : ObjId} {e : Err} (h : (aliasConstraints w i1 i2).err = some e) :
    e = .constraint := by
  rcases aliasConstraints_cases w i1 i2 with h' | h' <;> rw [h'] at h
  · cases h; rfl
  · exact aliasConstraintsL_err h

theorem aliasConstraints_err_unchanged {w : World} {i1 i2 : ObjId} (he : (aliasConstraints w i1 i2).err ≠ none) :
    (aliasConstraints w i1 i2).w = w := by
  simp only [aliasConstraints] at he ⊢
  by_cases hg : aliasGuard w i1 i2 = true
  · simp [hg]
  · have hg' : aliasGuard w i1 i2 = false := by simpa using hg
    simp only [hg', Bool.false_eq_true, if_false] at he ⊢
    simp only [aliasGuard] at hg'
    simp only [aliasConstraintsL] at he ⊢
    cases h1 : (w.heap.get i1).con with
    | none =>
      cases h2 : (w.heap.get i2).con with
      | none => rfl
      | some c2 =>
        simp only [h1, h2] at he ⊢
        cases hq : parSetConstraint (w.heap.get i1) c2 with
        | error e => rfl
        | ok q => simp [hq] at he
    | some c1 =>
      cases h2 : (w.heap.get i2).con with
      | none => rfl
      | some c2 =>
        simp only [h1, h2] at he hg' ⊢
        by_cases hcc : c1 = c2
        · simp [hcc]
        · exfalso
          simp only [ne_eq, hcc, not_false_eq_true, decide_true, Bool.true_and, Bool.or_eq_false_iff,
            Bool.not_eq_false'] at hg'
          obtain ⟨a2, a1⟩ := hg'
          have hne : i1 ≠ i2 := by
            rintro rfl
            rw [h1] at h2; exact hcc (Option.some.inj h2)
          simp only [ne_eq, hcc, not_false_eq_true, if_true, parSetConstraint, a2, Bool.not_true, Bool.false_eq_true,
            if_false, putPar_get, hne, a1] at he
          exact he trivial

/-- a registered link `p2 follows p1`: where it is attached and what it writes to -/
theorem reg_entry_of_id {w : World} {k : Nat} {o : Obj} (h : ObjInv w k o) {p1 p2 : String} {i2 : ObjId} {l0 : Nat}
    (hm2 : i2 ∈ o.params) (hn2 : nameOf w.heap i2 = o.pre ++ p2) (he : (aliasId p1 p2, l0) ∈ o.reg) :
    (w.lis l0).src = p1 ∧ o.params[(w.lis l0).alias]? = some i2 ∧ (w.lis l0).name = o.pre ++ p2 := by
  obtain ⟨t, y, ht, htn, hnm, hid⟩ := (h.regOk _ he).tgt
  have py : Plain y := h.plain_of (List.mem_of_getElem? ht) htn
  have pp2 : Plain p2 := h.plain_of hm2 hn2
  obtain ⟨e1, e2⟩ := aliasId_inj pp2 py hid
  subst e2
  have : t = i2 := h.name_inj (List.mem_of_getElem? ht) hm2 (htn.trans hn2.symm)
  subst this
  exact ⟨e1.symm, ht, hnm⟩

/-- an independent parameter is the target of no registered link: its alias ids are all free -/
theorem aliasId_fresh {w : World} {k : Nat} {o : Obj} (h : ObjInv w k o) {p1 p2 : String} {i2 : ObjId}
    (hm2 : i2 ∈ o.params) (hn2 : nameOf w.heap i2 = o.pre ++ p2) (hind : i2 ∈ o.indep) :
    aliasId p1 p2 ∉ o.reg.map Prod.fst := by
  intro hm
  obtain ⟨e, he, hk⟩ := List.mem_map.1 hm
  have he' : (aliasId p1 p2, e.2) ∈ o.reg := hk ▸ he
  exact (h.indepIff i2 hm2).1 hind ⟨_, he', (reg_entry_of_id h hm2 hn2 he').2.1⟩

theorem cycleTest_eq {w : World} {k : Nat} {o : Obj} (h : ObjInv w k o) {p1 p2 : String} {i2 : ObjId}
    (h2 : find? w.heap o.params (o.pre ++ p2) = some i2) (hy : i2 ∈ o.indep) :
    cycleTest true w o p1 p2 = followsLoop w o p2 (o.reg.length + 2) p1 := by
  obtain ⟨hm2, hn2⟩ := ParamList.find?_some h2
  simp only [cycleTest, if_true, mapFind?_eq_none.2 (aliasId_fresh h hm2 hn2 hy), Option.isSome_none,
    Bool.false_eq_true, if_false]

theorem findIdx?_of_find? {h : Store} : ∀ {l : List ObjId} {n : String} {i : ObjId}, find? h l n = some i →
    ∃ pos : Nat, l.findIdx? (fun j => nameOf h j == n) = some pos ∧ l[pos]? = some i
  | [], _, _, e => by simp [find?] at e
  | a :: t, n, i, e => by
    unfold find? at e
    rw [List.find?_cons] at e
    by_cases hn : (nameOf h a == n) = true
    · rw [hn] at e; cases e
      exact ⟨0, by simp [List.findIdx?_cons, hn], rfl⟩
    · have hn' : (nameOf h a == n) = false := by simpa using hn
      rw [hn'] at e
      obtain ⟨pos, h1, h2⟩ := findIdx?_of_find? (l := t) (by unfold find?; exact e)
      exact ⟨pos + 1, by simp [List.findIdx?_cons, hn', h1], by simpa using h2⟩

theorem deleteParameter_erase {h : Store} : ∀ {l : List ObjId}, (names h l).Nodup → ∀ {i : ObjId}, i ∈ l →
    ParamList.deleteParameter h l (nameOf h i) = .ok (l.erase i)
  | [], _, _, hi => by cases hi
  | a :: t, nd, i, hi => by
    simp only [names, List.map_cons, List.nodup_cons, List.mem_map, not_exists, not_and] at nd
    by_cases hai : a = i
    · subst hai
      simp [ParamList.deleteParameter, List.findIdx?_cons]
    · have hit : i ∈ t := by
        rcases List.mem_cons.1 hi with e | e
        · exact absurd e.symm hai
        · exact e
      have hne : (nameOf h a == nameOf h i) = false := by
        rw [beq_eq_false_iff_ne]; intro c; exact nd.1 i hit c.symm
      have ih := deleteParameter_erase (l := t) nd.2 hit
      simp only [ParamList.deleteParameter] at ih ⊢
      rw [List.findIdx?_cons, hne]
      cases hf : List.findIdx? (fun j => nameOf h j == nameOf h i) t with
      | none => rw [hf] at ih; cases ih
      | some m =>
        rw [hf] at ih
        have : t.eraseIdx m = t.erase i := by
          simp only [Except.ok.injEq] at ih; exact ih
        simp only [Option.map_some, Bool.false_eq_true, if_false, List.eraseIdx_cons_succ]
        rw [this, List.erase_cons_tail (by simpa using hai)]

theorem ObjInv.indepNames {w : World} {k : Nat} {o : Obj} (h : ObjInv w k o) : (names w.heap o.indep).Nodup :=
  List.Nodup.map_on (fun x hx y hy e => h.name_inj (h.indepSub x hx) (h.indepSub y hy) e) h.indepNodup

theorem hasParameter_indep {w : World} {k : Nat} {o : Obj} (h : ObjInv w k o) {n : String} {i : ObjId}
    (hf : find? w.heap o.params n = some i) : hasParameter w.heap o.indep n = true ↔ i ∈ o.indep := by
  rw [ParamList.hasParameter_iff]
  obtain ⟨hi, hn⟩ := ParamList.find?_some hf
  constructor
  · intro hm
    obtain ⟨j, hj, hjn⟩ := List.mem_map.1 hm
    have : j = i := h.name_inj (h.indepSub j hj) hi (hjn.trans hn.symm)
    exact this ▸ hj
  · intro hm
    exact List.mem_map.2 ⟨i, hm, hn⟩

/-- the object after a successful `aliasParameters(p1, p2)`; `n` is the new listener object -/
abbrev aliasedObj (o : Obj) (p1 p2 : String) (i2 : ObjId) (n : Nat) : Obj :=
  { params := o.params, indep := o.indep.erase i2, reg := mapInsert (aliasId p1 p2) n o.reg, pre := o.pre }

/-- the world a successful `aliasParameters(p1, p2)` ends in (`w1`: after the constraint part) -/
def aliased (w1 : World) (k : Nat) (o : Obj) (p1 p2 : String) (i1 i2 : ObjId) (pos2 : Nat) : World :=
  (((w1.allocLis ⟨aliasId p1 p2, pos2, k, o.pre ++ p2, p1⟩).1.setLsn i1 (w1.lsn i1 ++ [w1.lnext])).setObj k
    (aliasedObj o p1 p2 i2 w1.lnext))

section
variable (w1 : World) (k : Nat) (o : Obj) (p1 p2 : String) (i1 i2 : ObjId) (pos2 : Nat)
@[simp] theorem aliased_heap : (aliased w1 k o p1 p2 i1 i2 pos2).heap = w1.heap := rfl
@[simp] theorem aliased_lnext : (aliased w1 k o p1 p2 i1 i2 pos2).lnext = w1.lnext + 1 := rfl
@[simp] theorem aliased_objs : (aliased w1 k o p1 p2 i1 i2 pos2).objs =
    fun j => if j = k then some (aliasedObj o p1 p2 i2 w1.lnext) else w1.objs j := rfl
@[simp] theorem aliased_lsn (j : ObjId) : (aliased w1 k o p1 p2 i1 i2 pos2).lsn j =
    if j = i1 then w1.lsn i1 ++ [w1.lnext] else w1.lsn j := rfl
@[simp] theorem aliased_lis (l : Nat) : (aliased w1 k o p1 p2 i1 i2 pos2).lis l =
    if l = w1.lnext then ⟨aliasId p1 p2, pos2, k, o.pre ++ p2, p1⟩ else w1.lis l := rfl
end

/-- the outcomes of `aliasParameters(p1, p2)` on an object satisfying the invariant -/
theorem aliasPair_spec {w : World} {k : Nat} {o : Obj} (h : ObjInv w k o) (ho : w.objs k = some o) (p1 p2 : String) :
    let r := aliasPair w k p1 p2
    -- refusals leave the world as it is
    ((find? w.heap o.params (o.pre ++ p1) = none ∨ find? w.heap o.params (o.pre ++ p2) = none) →
        r.err = some .notfound ∧ r.w = w) ∧
    (∀ i1 i2, find? w.heap o.params (o.pre ++ p1) = some i1 → find? w.heap o.params (o.pre ++ p2) = some i2 →
      (i2 ∉ o.indep → r.err = some .bpp ∧ r.w = w) ∧
      (i2 ∈ o.indep → followsLoop w o p2 (o.reg.length + 2) p1 = none → r.err = some .hang ∧ r.w = w) ∧
      (i2 ∈ o.indep → followsLoop w o p2 (o.reg.length + 2) p1 = some true → r.err = some .bpp ∧ r.w = w) ∧
      (i2 ∈ o.indep → followsLoop w o p2 (o.reg.length + 2) p1 = some false →
        (∀ e, (aliasConstraints w i1 i2).err = some e → r.err = some e ∧ r.w = (aliasConstraints w i1 i2).w) ∧
        ((aliasConstraints w i1 i2).err = none → ∃ pos2, o.params[pos2]? = some i2 ∧
          r.err = none ∧ r.w = aliased (aliasConstraints w i1 i2).w k o p1 p2 i1 i2 pos2))) := by
  intro r
  have hr : r = aliasPair w k p1 p2 := rfl
  -- "the first time we call this method" is over once the object has parameters: there is a root
  have hdead : (o.params.length > 0 && o.indep.length == 0) = false := by
    by_cases hp : o.params = []
    · simp [hp]
    · have : o.indep.length ≠ 0 := fun e => h.hasRoot hp (List.eq_nil_of_length_eq_zero e)
      simp [this]
  simp only [aliasPair, aliasPairG, ho, hdead, Bool.false_eq_true, if_false, setObj_self ho] at hr
  refine ⟨?_, ?_⟩
  · rintro (h1 | h2)
    · rw [h1] at hr; rw [hr]; exact ⟨rfl, rfl⟩
    · rw [h2] at hr
      cases h1 : find? w.heap o.params (o.pre ++ p1) <;> rw [h1] at hr <;> rw [hr] <;> exact ⟨rfl, rfl⟩
  · intro i1 i2 h1 h2
    rw [h1, h2] at hr
    simp only at hr
    have hind := hasParameter_indep h h2
    refine ⟨?_, ?_, ?_, ?_⟩
    · intro hn
      have : hasParameter w.heap o.indep (o.pre ++ p2) = false := by
        cases hb : hasParameter w.heap o.indep (o.pre ++ p2)
        · rfl
        · exact absurd (hind.1 hb) hn
      rw [this] at hr; simp only [Bool.not_false, if_true] at hr
      rw [hr]; exact ⟨rfl, rfl⟩
    all_goals
      intro hy hf
      have hb : hasParameter w.heap o.indep (o.pre ++ p2) = true := hind.2 hy
      rw [hb, cycleTest_eq h h2 hy, hf] at hr
      simp only [Bool.not_true, Bool.false_eq_true, if_false] at hr
    · rw [hr]; exact ⟨rfl, rfl⟩
    · rw [hr]; exact ⟨rfl, rfl⟩
    · have hss := aliasConstraints_sameShape w i1 i2
      refine ⟨?_, ?_⟩
      · intro e he
        rw [he] at hr; rw [hr]; exact ⟨rfl, rfl⟩
      · intro hnone
        rw [hnone] at hr
        simp only at hr
        have h2' : find? (aliasConstraints w i1 i2).w.heap o.params (o.pre ++ p2) = some i2 := by
          rw [ParamList.find?_congr (fun i _ => hss.name i)]; exact h2
        obtain ⟨pos2, hp1, hp2⟩ := findIdx?_of_find? h2'
        rw [hp1] at hr
        simp only [hp2] at hr
        have hnm : nameOf (aliasConstraints w i1 i2).w.heap i2 = o.pre ++ p2 := by
          rw [hss.name]; exact (ParamList.find?_some h2).2
        rw [hnm] at hr
        have hdel : ParamList.deleteParameter (aliasConstraints w i1 i2).w.heap o.indep (o.pre ++ p2) = .ok (o.indep.erase i2) := by
          rw [← hnm]
          refine deleteParameter_erase ?_ hy
          rw [ParamList.names_congr (fun i _ => hss.name i)]
          exact h.indepNames
        have hdel' : ParamList.deleteParameter
            (((aliasConstraints w i1 i2).w.allocLis ⟨aliasId p1 p2, pos2, k, o.pre ++ p2, p1⟩).1.setLsn i1
              (((aliasConstraints w i1 i2).w.allocLis ⟨aliasId p1 p2, pos2, k, o.pre ++ p2, p1⟩).1.lsn i1 ++
                [((aliasConstraints w i1 i2).w.allocLis ⟨aliasId p1 p2, pos2, k, o.pre ++ p2, p1⟩).2])).heap
            o.indep (o.pre ++ p2) = .ok (o.indep.erase i2) := hdel
        rw [hdel'] at hr
        exact ⟨pos2, hp2, by rw [hr], by rw [hr]; rfl⟩

theorem objInv_aliased {w : World} {k : Nat} {o : Obj} (h : ObjInv w k o) {p1 p2 : String} {i1 i2 : ObjId}
    {pos1 pos2 : Nat} (hi1 : o.params[pos1]? = some i1) (hi2 : o.params[pos2]? = some i2)
    (hn1 : nameOf w.heap i1 = o.pre ++ p1) (hn2 : nameOf w.heap i2 = o.pre ++ p2)
    (hind : i2 ∈ o.indep)
    (hnoanc : ∀ q tq, Relation.ReflTransGen (Follows w o) pos1 q → o.params[q]? = some tq → nameOf w.heap tq ≠ o.pre ++ p2)
    (hroot : ∃ r ∈ o.params, nameOf w.heap r ≠ o.pre ++ p2 ∧ ∀ e ∈ o.reg, o.params[(w.lis e.2).alias]? ≠ some r) :
    ObjInv (aliased w k o p1 p2 i1 i2 pos2) k (aliasedObj o p1 p2 i2 w.lnext) := by
  have hm1 : i1 ∈ o.params := List.mem_of_getElem? hi1
  have hm2 : i2 ∈ o.params := List.mem_of_getElem? hi2
  have pp2 : Plain p2 := h.plain_of hm2 hn2
  -- `i2` is nobody's target
  have hnot : ∀ e ∈ o.reg, o.params[(w.lis e.2).alias]? ≠ some i2 := fun e he ht =>
    (h.indepIff i2 hm2).1 hind ⟨e, he, ht⟩
  have hfresh : aliasId p1 p2 ∉ o.reg.map Prod.fst := aliasId_fresh h hm2 hn2 hind
  set n := w.lnext with hn
  set W := aliased w k o p1 p2 i1 i2 pos2 with hW
  have hheap : W.heap = w.heap := rfl
  have hlisOld : ∀ l, l < n → W.lis l = w.lis l := by
    intro l hl
    have : l ≠ w.lnext := Nat.ne_of_lt hl
    simp [hW, this]
  have hlisNew : W.lis n = ⟨aliasId p1 p2, pos2, k, o.pre ++ p2, p1⟩ := by simp [hW, hn]
  have hlsn : ∀ j, W.lsn j = if j = i1 then w.lsn i1 ++ [n] else w.lsn j := by
    intro j; simp [hW, hn]
  have hregOld : ∀ e ∈ o.reg, W.lis e.2 = w.lis e.2 := fun e he => hlisOld e.2 (h.regOk e he).lt
  have hmem : ∀ e, e ∈ mapInsert (aliasId p1 p2) n o.reg ↔ e = (aliasId p1 p2, n) ∨ e ∈ o.reg := mem_mapInsert hfresh
  -- following: the old relation plus pos2 -> pos1
  have hfol : ∀ c q, Follows W (aliasedObj o p1 p2 i2 n) c q → Follows w o c q ∨ (c = pos2 ∧ q = pos1) := by
    rintro c q ⟨e, he, hc, s, hs, hsn⟩
    rcases (hmem e).1 he with rfl | he
    · right
      rw [hlisNew] at hc hsn
      refine ⟨hc.symm, ?_⟩
      have : s = i1 := h.name_inj (List.mem_of_getElem? hs) hm1 (hsn.trans hn1.symm)
      subst this
      exact h.pos_inj hs hi1
    · left
      rw [hregOld e he] at hc hsn
      exact ⟨e, he, hc, s, hs, hsn⟩
  refine
    { valid := h.valid, nodup := h.nodup, plain := h.plain, indepSub := ?_, indepNodup := h.indepNodup.erase _,
      indepIff := ?_, regKeys := keys_mapInsert hfresh h.regKeys, regOk := ?_, lsnOk := ?_, once := ?_,
      acyclic := ?_, hasRoot := ?_ }
  · intro i hi; exact h.indepSub i (List.mem_of_mem_erase hi)
  · intro i hi
    show i ∈ o.indep.erase i2 ↔ _
    rw [h.indepNodup.mem_erase_iff]
    constructor
    · rintro ⟨hne, hin⟩ ⟨e, he, ht⟩
      rcases (hmem e).1 he with rfl | he
      · rw [hlisNew] at ht
        simp only at ht
        rw [hi2] at ht
        exact hne (Option.some.inj ht).symm
      · rw [hregOld e he] at ht
        exact (h.indepIff i hi).1 hin ⟨e, he, ht⟩
    · intro hno
      refine ⟨?_, (h.indepIff i hi).2 (fun ⟨e, he, ht⟩ => hno ⟨e, (hmem e).2 (Or.inr he), by rw [hregOld e he]; exact ht⟩)⟩
      rintro rfl
      exact hno ⟨(aliasId p1 p2, n), (hmem _).2 (Or.inl rfl), by rw [hlisNew]; exact hi2⟩
  · intro e he
    rcases (hmem e).1 he with rfl | he
    · refine ⟨by show n < W.lnext; simp [hW, hn], by rw [hlisNew], by rw [hlisNew],
        ⟨i1, hm1, by rw [hlisNew]; exact hn1, by rw [hlsn]; simp⟩,
        ⟨i2, p2, by rw [hlisNew]; exact hi2, hn2, by rw [hlisNew], by rw [hlisNew]⟩⟩
    · obtain ⟨r1, r2, r3, ⟨s, hs, hsn, hsl⟩, ⟨t, y, ht, htn, hnm, hid⟩⟩ := h.regOk e he
      refine ⟨by show e.2 < W.lnext; simp only [hW, aliased_lnext]; omega,
        by rw [hregOld e he]; exact r2, by rw [hregOld e he]; exact r3,
        ⟨s, hs, by rw [hregOld e he]; exact hsn, ?_⟩,
        ⟨t, y, by rw [hregOld e he]; exact ht, htn, by rw [hregOld e he]; exact hnm, by rw [hregOld e he]; exact hid⟩⟩
      rw [hlsn]; split
      · rename_i hs1; subst hs1; exact List.mem_append_left _ hsl
      · exact hsl
  · intro i hi l hl
    rw [hlsn] at hl
    by_cases hl' : l ∈ w.lsn i
    · obtain ⟨a, b⟩ := h.lsnOk i hi l hl'
      have hlt : l < n := (h.regOk _ a).lt
      rw [hlisOld l hlt]
      exact ⟨(hmem _).2 (Or.inr a), b⟩
    · have : i = i1 ∧ l = n := by
        split at hl
        · rename_i e; subst e
          rcases List.mem_append.1 hl with a | a
          · exact absurd a hl'
          · exact ⟨rfl, List.mem_singleton.1 a⟩
        · exact absurd hl hl'
      obtain ⟨rfl, rfl⟩ := this
      rw [hlisNew]
      exact ⟨(hmem _).2 (Or.inl rfl), hn1⟩
  · intro e he e' he' ha
    rcases (hmem e).1 he with rfl | he <;> rcases (hmem e').1 he' with rfl | he'
    · rfl
    · rw [hlisNew, hregOld e' he'] at ha
      obtain ⟨t, y, ht, _⟩ := (h.regOk e' he').tgt
      rw [← ha] at ht
      simp only at ht
      rw [hi2] at ht
      exact absurd (by rw [← ha]; exact hi2) (hnot e' he')
    · rw [hlisNew, hregOld e he] at ha
      exact absurd (by rw [ha]; exact hi2) (hnot e he)
    · rw [hregOld e he, hregOld e' he'] at ha
      exact h.once e he e' he' ha
  · intro q hq
    have hq' : Relation.TransGen (fun c d => Follows w o c d ∨ (c = pos2 ∧ d = pos1)) q q :=
      Relation.TransGen.mono hfol q q hq
    rcases transGen_insert hq' with hc | ⟨_, hc⟩
    · exact h.acyclic q hc
    · -- pos1 ->* q ->* pos2 in the old relation: pos2 would be above pos1
      rename_i hc1
      exact hnoanc pos2 i2 (hc.trans hc1) hi2 hn2
  · intro _ hnil
    obtain ⟨r, hr, hrn, hrt⟩ := hroot
    have hrin : r ∈ o.indep := (h.indepIff r hr).2 (fun ⟨e, he, ht⟩ => hrt e he ht)
    have : r ∈ o.indep.erase i2 := (h.indepNodup.mem_erase_iff).2 ⟨fun e => hrn (e ▸ hn2), hrin⟩
    have hnil' : o.indep.erase i2 = [] := hnil
    rw [hnil'] at this; cases this

/-- what the pair form did when it returned normally, on an object satisfying the invariant -/
structure AliasDone (w : World) (k : Nat) (o : Obj) (p1 p2 : String) (w' : World) where
  i1 : ObjId
  i2 : ObjId
  pos1 : Nat
  pos2 : Nat
  hi1 : o.params[pos1]? = some i1
  hi2 : o.params[pos2]? = some i2
  hn1 : nameOf w.heap i1 = o.pre ++ p1
  hn2 : nameOf w.heap i2 = o.pre ++ p2
  hind : i2 ∈ o.indep
  cons : (aliasConstraints w i1 i2).err = none
  eq : w' = aliased (aliasConstraints w i1 i2).w k o p1 p2 i1 i2 pos2
  noanc : ∀ q tq, Relation.ReflTransGen (Follows w o) pos1 q → o.params[q]? = some tq → nameOf w.heap tq ≠ o.pre ++ p2
  root : ∃ r ∈ o.params, nameOf w.heap r ≠ o.pre ++ p2 ∧ ∀ e ∈ o.reg, o.params[(w.lis e.2).alias]? ≠ some r

/-- **the two outcomes of `aliasParameters(p1, p2)`** on an object satisfying the invariant: it raises
`ParameterNotFoundException`, `Exception` or `ConstraintException` and the world is as before, or it returns and
did what `AliasDone` says -/
theorem aliasPair_cases {w : World} {k : Nat} {o : Obj} (h : ObjInv w k o) (ho : w.objs k = some o) (p1 p2 : String) :
    ((aliasPair w k p1 p2).w = w ∧ ((aliasPair w k p1 p2).err = some .notfound ∨ (aliasPair w k p1 p2).err = some .bpp ∨
      (aliasPair w k p1 p2).err = some .constraint)) ∨
    ((aliasPair w k p1 p2).err = none ∧ Nonempty (AliasDone w k o p1 p2 (aliasPair w k p1 p2).w)) := by
  obtain ⟨s1, s2⟩ := aliasPair_spec h ho p1 p2
  cases h1 : find? w.heap o.params (o.pre ++ p1) with
  | none => exact Or.inl ⟨(s1 (Or.inl h1)).2, Or.inl (s1 (Or.inl h1)).1⟩
  | some i1 =>
    cases h2 : find? w.heap o.params (o.pre ++ p2) with
    | none => exact Or.inl ⟨(s1 (Or.inr h2)).2, Or.inl (s1 (Or.inr h2)).1⟩
    | some i2 =>
      obtain ⟨a, _, c, d⟩ := s2 i1 i2 h1 h2
      by_cases hind : i2 ∈ o.indep
      swap
      · exact Or.inl ⟨(a hind).2, Or.inr (Or.inl (a hind).1)⟩
      cases hf : followsLoop w o p2 (o.reg.length + 2) p1 with
      | none => exact absurd hf (cycleTest_no_hang h h1)
      | some bb =>
        cases bb with
        | true => exact Or.inl ⟨(c hind hf).2, Or.inr (Or.inl (c hind hf).1)⟩
        | false =>
          obtain ⟨d1, d2⟩ := d hind hf
          cases hc : (aliasConstraints w i1 i2).err with
          | some e =>
            have hw := aliasConstraints_err_unchanged (i1 := i1) (i2 := i2) (hc ▸ Option.some_ne_none e)
            exact Or.inl ⟨(d1 e hc).2.trans hw, Or.inr (Or.inr (aliasConstraints_err hc ▸ (d1 e hc).1))⟩
          | none =>
            obtain ⟨pos2, hp2, hnone, heq⟩ := d2 hc
            obtain ⟨hm1, hn1⟩ := ParamList.find?_some h1
            obtain ⟨hm2, hn2⟩ := ParamList.find?_some h2
            obtain ⟨pos1, hp1⟩ := h.exists_pos hm1
            obtain ⟨f1, f2⟩ := followsLoop_false h p2 _ p1 pos1 i1 hp1 hn1 (h.plain_of hm1 hn1) hf
            exact Or.inr ⟨hnone, ⟨⟨i1, i2, pos1, pos2, hp1, hp2, hn1, hn2, hind, hc, heq, f1, f2⟩⟩⟩

theorem aliasPair_done {w : World} {k : Nat} {o : Obj} (h : ObjInv w k o) (ho : w.objs k = some o) {p1 p2 : String}
    (ok : (aliasPair w k p1 p2).err = none) : Nonempty (AliasDone w k o p1 p2 (aliasPair w k p1 p2).w) := by
  rcases aliasPair_cases h ho p1 p2 with ⟨_, he | he | he⟩ | ⟨_, dn⟩
  · rw [ok] at he; cases he
  · rw [ok] at he; cases he
  · rw [ok] at he; cases he
  · exact dn

theorem aliasPair_none {w : World} {k : Nat} (ho : w.objs k = none) (p1 p2 : String) :
    aliasPair w k p1 p2 = { w := w, err := some .ub } := by
  simp only [aliasPair, aliasPairG, ho]

namespace AliasDone
variable {w W : World} {k : Nat} {o : Obj} {p1 p2 : String} (dn : AliasDone w k o p1 p2 W)
include dn

theorem mem1 : dn.i1 ∈ o.params := List.mem_of_getElem? dn.hi1

theorem mem2 : dn.i2 ∈ o.params := List.mem_of_getElem? dn.hi2

theorem objs : W.objs k = some (aliasedObj o p1 p2 dn.i2 w.lnext) := by
  rcases dn with ⟨i1, i2, _, _, _, _, _, _, _, _, rfl, _, _⟩
  rw [aliased_objs, (aliasConstraints_sameShape w i1 i2).lnext]; exact if_pos rfl

/-- the constraint part touches the two parameters, the rest the listener list of `p1`, a fresh listener object and the slot -/
theorem fr : Fr k o.params w W := by
  have hm1 := dn.mem1
  have hm2 := dn.mem2
  have cs := aliasConstraints_conStep w dn.i1 dn.i2
  have hc : Fr k o.params w (aliasConstraints w dn.i1 dn.i2).w :=
    ⟨Nat.le_of_eq cs.next.symm, Nat.le_of_eq cs.lnext.symm, fun j _ hj => ⟨par_ext (cs.name j) (cs.val j)
      (cs.con j (fun e => hj (e ▸ hm1)) (fun e => hj (e ▸ hm2))), by rw [cs.lsn]⟩, fun _ _ _ => by rw [cs.lis],
      fun _ _ => by rw [cs.objs]⟩
  rw [dn.eq]
  refine hc.trans ⟨by simp, by simp, fun i _ hn => ⟨rfl, ?_⟩, fun l hl _ => ?_, fun j hj => by simp [hj]⟩
  · have : i ≠ dn.i1 := fun e => hn (e ▸ hm1)
    simp [this]
  · have : l ≠ (aliasConstraints w dn.i1 dn.i2).w.lnext := Nat.ne_of_lt hl
    simp [this]

theorem inv (h : Inv w) (ho : w.objs k = some o) : Inv W := by
  refine h.framed_some ho dn.fr dn.objs ?_ (fun i hi' => Or.inl hi')
  rcases dn with ⟨i1, i2, pos1, pos2, hi1, hi2, hn1, hn2, hind, _, rfl, noanc, root⟩
  have hss := aliasConstraints_sameShape w i1 i2
  show ObjInv _ k (aliasedObj o p1 p2 i2 w.lnext)
  rw [← hss.lnext]
  refine objInv_aliased ((h.obj k o ho).sameShape hss) hi1 hi2 (by rw [hss.name]; exact hn1) (by rw [hss.name]; exact hn2)
    hind ?_ ?_
  · intro q tq hq htq
    rw [hss.follows] at hq; rw [hss.name]; exact noanc q tq hq htq
  · obtain ⟨r, hr, hrn, hrt⟩ := root
    exact ⟨r, hr, by rw [hss.name]; exact hrn, by rw [hss.lis]; exact hrt⟩

end AliasDone

theorem aliasPair_slot {w : World} {k : Nat} {o : Obj} (h : ObjInv w k o) (ho : w.objs k = some o) (p1 p2 : String) :
    ∃ o', (aliasPair w k p1 p2).w.objs k = some o' := by
  rcases aliasPair_cases h ho p1 p2 with ⟨hw, _⟩ | ⟨_, ⟨dn⟩⟩
  · exact ⟨o, by rw [hw]; exact ho⟩
  · exact ⟨_, dn.objs⟩

/-! ## `unaliasParameters(p1, p2)` -/

/-- the object after a successful `unaliasParameters(p1, p2)` -/
abbrev unaliasedObj (o : Obj) (p1 p2 : String) (i2 : ObjId) : Obj :=
  { params := o.params, indep := o.indep ++ [i2], reg := mapErase (aliasId p1 p2) o.reg, pre := o.pre }

/-- the world a successful `unaliasParameters(p1, p2)` ends in -/
def unaliased (w : World) (k : Nat) (o : Obj) (p1 p2 : String) (i1 i2 : ObjId) : World :=
  (w.setLsn i1 ((w.lsn i1).filter (fun l => (w.lis l).id != aliasId p1 p2))).setObj k (unaliasedObj o p1 p2 i2)

section
variable (w : World) (k : Nat) (o : Obj) (p1 p2 : String) (i1 i2 : ObjId)
@[simp] theorem unaliased_objs : (unaliased w k o p1 p2 i1 i2).objs =
    fun j => if j = k then some (unaliasedObj o p1 p2 i2) else w.objs j := rfl
@[simp] theorem unaliased_lsn (j : ObjId) : (unaliased w k o p1 p2 i1 i2).lsn j =
    if j = i1 then (w.lsn i1).filter (fun l => (w.lis l).id != aliasId p1 p2) else w.lsn j := rfl
end

theorem unalias_none {w : World} {k : Nat} (ho : w.objs k = none) (p1 p2 : String) :
    unalias w k p1 p2 = { w := w, err := some .ub } := by
  simp only [unalias, ho]

theorem unalias_spec {w : World} {k : Nat} {o : Obj} (h : ObjInv w k o) (ho : w.objs k = some o) (p1 p2 : String) :
    let r := unalias w k p1 p2
    (r.err ≠ none → r.w = w ∧ (r.err = some .notfound ∨ r.err = some .bpp)) ∧
    (r.err = none → ∃ i1 i2 l0, find? w.heap o.params (o.pre ++ p1) = some i1 ∧
        find? w.heap o.params (o.pre ++ p2) = some i2 ∧ (aliasId p1 p2, l0) ∈ o.reg ∧ i2 ∉ o.indep ∧
        r.w = unaliased w k o p1 p2 i1 i2) := by
  intro r
  have hr : r = unalias w k p1 p2 := rfl
  simp only [unalias, ho] at hr
  cases h1 : find? w.heap o.params (o.pre ++ p1) with
  | none => rw [h1] at hr; rw [hr]; exact ⟨fun _ => ⟨rfl, Or.inl rfl⟩, fun x => by cases x⟩
  | some i1 =>
    cases h2 : find? w.heap o.params (o.pre ++ p2) with
    | none => rw [h1, h2] at hr; rw [hr]; exact ⟨fun _ => ⟨rfl, Or.inl rfl⟩, fun x => by cases x⟩
    | some i2 =>
      rw [h1, h2] at hr
      simp only at hr
      cases hf : mapFind? (aliasId p1 p2) o.reg with
      | none => rw [hf] at hr; rw [hr]; exact ⟨fun _ => ⟨rfl, Or.inr rfl⟩, fun x => by cases x⟩
      | some l0 =>
        have he : (aliasId p1 p2, l0) ∈ o.reg := (mapFind?_eq_some h.regKeys).1 hf
        obtain ⟨hm2, hn2⟩ := ParamList.find?_some h2
        obtain ⟨hsrc, htgt, hnm⟩ := reg_entry_of_id h hm2 hn2 he
        rw [hf] at hr
        simp only [Option.filter, hsrc, hnm, beq_self_eq_true, Bool.and_self, if_true] at hr
        have hnot : i2 ∉ o.indep := fun hin => (h.indepIff i2 hm2).1 hin ⟨_, he, htgt⟩
        have hhas : hasParameter w.heap o.indep (nameOf w.heap i2) = false := by
          cases hb : hasParameter w.heap o.indep (nameOf w.heap i2)
          · rfl
          · rw [hn2] at hb
            exact absurd ((hasParameter_indep h h2).1 hb) hnot
        simp only [shareParameter, setObj_heap, setLsn_heap, hhas, Bool.false_eq_true, if_false, setObj_setObj] at hr
        rw [hr]
        exact ⟨fun x => absurd rfl x, fun _ => ⟨i1, i2, l0, rfl, rfl, he, hnot, rfl⟩⟩

theorem objInv_unaliased {w : World} {k : Nat} {o : Obj} (h : ObjInv w k o) {p1 p2 : String} {i1 i2 : ObjId} {l0 : Nat}
    (h1 : find? w.heap o.params (o.pre ++ p1) = some i1) (h2 : find? w.heap o.params (o.pre ++ p2) = some i2)
    (he : (aliasId p1 p2, l0) ∈ o.reg) (hnot : i2 ∉ o.indep) :
    ObjInv (unaliased w k o p1 p2 i1 i2) k (unaliasedObj o p1 p2 i2) := by
  obtain ⟨hm1, hn1⟩ := ParamList.find?_some h1
  obtain ⟨hm2, hn2⟩ := ParamList.find?_some h2
  obtain ⟨hsrc, htgt, _⟩ := reg_entry_of_id h hm2 hn2 he
  set W := unaliased w k o p1 p2 i1 i2 with hW
  have hlsn : ∀ j, W.lsn j = if j = i1 then (w.lsn i1).filter (fun l => (w.lis l).id != aliasId p1 p2) else w.lsn j := by
    intro j; simp [hW]
  have hsub : ∀ e, e ∈ mapErase (aliasId p1 p2) o.reg ↔ e ∈ o.reg ∧ e.1 ≠ aliasId p1 p2 := mem_mapErase _ _
  -- the only entry that targets `i2` is the erased one
  have honly : ∀ e ∈ o.reg, o.params[(w.lis e.2).alias]? = some i2 → e = (aliasId p1 p2, l0) := by
    intro e hin ht
    refine h.once e hin _ he ?_
    exact h.pos_inj ht (by simpa using htgt) |> fun x => x
  refine
    { valid := h.valid, nodup := h.nodup, plain := h.plain, indepSub := ?_, indepNodup := ?_, indepIff := ?_,
      regKeys := (List.Sublist.map _ List.filter_sublist).nodup h.regKeys, regOk := ?_, lsnOk := ?_, once := ?_, acyclic := ?_, hasRoot := ?_ }
  · intro i hi
    rcases List.mem_append.1 hi with a | a
    · exact h.indepSub i a
    · rw [List.mem_singleton.1 a]; exact hm2
  · exact List.Nodup.append h.indepNodup (List.nodup_singleton _) (by
      intro a ha hb; rw [List.mem_singleton.1 hb] at ha; exact hnot ha)
  · intro i hi
    show i ∈ o.indep ++ [i2] ↔ _
    by_cases hii : i = i2
    · subst hii
      constructor
      · rintro _ ⟨e, hin, ht⟩
        obtain ⟨hin1, hne⟩ := (hsub e).1 hin
        have := honly e hin1 ht
        exact hne (by rw [this])
      · intro _; simp
    · constructor
      · intro hin ⟨e, hre, ht⟩
        have hin' : i ∈ o.indep := by
          rcases List.mem_append.1 hin with a | a
          · exact a
          · exact absurd (List.mem_singleton.1 a) hii
        exact (h.indepIff i hi).1 hin' ⟨e, ((hsub e).1 hre).1, ht⟩
      · intro hno
        refine List.mem_append_left _ ((h.indepIff i hi).2 ?_)
        rintro ⟨e, hre, ht⟩
        by_cases hk : e.1 = aliasId p1 p2
        · have : e = (aliasId p1 p2, l0) := by
            have hnd := h.regKeys
            have h1' : (aliasId p1 p2, e.2) ∈ o.reg := by rw [← hk]; exact hre
            have := (mapFind?_eq_some hnd).2 h1'
            have := ((mapFind?_eq_some hnd).2 he).symm.trans this
            cases e; simp only at hk; subst hk; simp only [Option.some.injEq] at this; rw [this]
          subst this
          simp only at ht
          rw [htgt] at ht
          exact hii (Option.some.inj ht).symm
        · exact hno ⟨e, (hsub e).2 ⟨hre, hk⟩, ht⟩
  · intro e hin
    obtain ⟨hre, hne⟩ := (hsub e).1 hin
    obtain ⟨r1, r2, r3, ⟨s, hs, hsn, hsl⟩, r5⟩ := h.regOk e hre
    refine ⟨r1, r2, r3, ⟨s, hs, hsn, ?_⟩, r5⟩
    rw [hlsn]; split
    · rename_i e1; subst e1
      exact List.mem_filter.2 ⟨hsl, by rw [r2]; simpa using hne⟩
    · exact hsl
  · intro i hi l hl
    rw [hlsn] at hl
    have hl' : l ∈ w.lsn i := by
      split at hl
      · rename_i e1; subst e1; exact (List.mem_filter.1 hl).1
      · exact hl
    obtain ⟨a, b⟩ := h.lsnOk i hi l hl'
    refine ⟨(hsub _).2 ⟨a, ?_⟩, b⟩
    intro hk
    -- the listener with the erased id is attached to `i1` only, and was filtered out there
    have hl0 : l = l0 := by
      have h1' := (mapFind?_eq_some h.regKeys).2 (show (aliasId p1 p2, l) ∈ o.reg by rw [← hk]; exact a)
      have h2' := (mapFind?_eq_some h.regKeys).2 he
      rw [h1'] at h2'; exact Option.some.inj h2'
    subst hl0
    have : i = i1 := h.name_inj hi hm1 (by rw [b, hsrc, hn1])
    subst this
    simp only [if_true] at hl
    have := (List.mem_filter.1 hl).2
    have hk' : (w.lis l).id = aliasId p1 p2 := hk
    rw [hk'] at this; simp at this
  · intro e hin e' hin' ha
    exact h.once e ((hsub e).1 hin).1 e' ((hsub e').1 hin').1 ha
  · intro q hq
    refine h.acyclic q (Relation.TransGen.mono ?_ q q hq)
    rintro c d ⟨e, hin, hc, s, hs, hsn⟩
    exact ⟨e, ((hsub e).1 hin).1, hc, s, hs, hsn⟩
  · intro _ hnil
    have : i2 ∈ o.indep ++ [i2] := by simp
    have hnil' : o.indep ++ [i2] = [] := hnil
    rw [hnil'] at this; cases this

theorem unaliased_fr {w : World} (k : Nat) (o : Obj) (p1 p2 : String) {i1 : ObjId} (i2 : ObjId) (h1 : i1 ∈ o.params) :
    Fr k o.params w (unaliased w k o p1 p2 i1 i2) := by
  refine ⟨Nat.le_refl _, Nat.le_refl _, fun i _ hn => ⟨rfl, ?_⟩, fun l _ _ => rfl, fun j hj => by simp [hj]⟩
  have : i ≠ i1 := fun e => hn (e ▸ h1)
  simp [this]

theorem inv_unaliased {w : World} (h : Inv w) {k : Nat} {o : Obj} (ho : w.objs k = some o) {p1 p2 : String} {i1 i2 : ObjId}
    {l0 : Nat} (h1 : find? w.heap o.params (o.pre ++ p1) = some i1) (h2 : find? w.heap o.params (o.pre ++ p2) = some i2)
    (he : (aliasId p1 p2, l0) ∈ o.reg) (hnot : i2 ∉ o.indep) : Inv (unaliased w k o p1 p2 i1 i2) :=
  h.framed_some ho (unaliased_fr k o p1 p2 i2 (ParamList.find?_some h1).1) (if_pos rfl)
    (objInv_unaliased (h.obj k o ho) h1 h2 he hnot) (fun _ hi' => Or.inl hi')

/-! ## `aliasParameters(map)` -/

theorem bulkAlias_none {w : World} {k : Nat} (ho : w.objs k = none) (es : List (String × String)) :
    bulkAlias w k es = { w := w, err := some .ub } := by
  simp only [bulkAlias, bulkAliasG, ho]

/-! ### the map form is a run of pair aliases

Every pair alias it makes is made in a world satisfying the invariant; one that raises leaves the world as it was
(`aliasPair_cases`) and ends the call.  What the map form does is therefore what `Pairs` says, followed, when all
entries went through, by the loop that equalises values; a fact about the map form is a fact about the pair form
carried along a run (`Pairs.keeps`). -/

/-- `W` is reached from `w` by pair aliases on slot `k` that returned, one for each entry `(key, val)` of `D`, in order -/
inductive Pairs (k : Nat) : World → List (String × String) → World → Prop
  | nil (w : World) : Pairs k w [] w
  | cons {w W1 W : World} {o : Obj} {key val : String} {D : List (String × String)} :
      w.objs k = some o → AliasDone w k o val key W1 → Pairs k W1 D W → Pairs k w ((key, val) :: D) W

theorem Pairs.trans {k : Nat} {a b c : World} {D1 D2 : List (String × String)} (x : Pairs k a D1 b) (y : Pairs k b D2 c) :
    Pairs k a (D1 ++ D2) c := by
  induction x with
  | nil => exact y
  | cons ho dn _ ih => exact .cons ho dn (ih y)

/-- what every returning pair alias does (`R`, indexed by the links made) a run does, and the invariant holds again -/
theorem Pairs.keeps {k : Nat} {R : List (String × String) → World → World → Prop} (hrefl : ∀ w, R [] w w)
    (htrans : ∀ {a b c : World} {D1 D2 : List (String × String)}, R D1 a b → R D2 b c → R (D1 ++ D2) a c)
    (hpair : ∀ {w W : World} {o : Obj} {p1 p2 : String}, Inv w → w.objs k = some o → AliasDone w k o p1 p2 W → R [(p2, p1)] w W)
    {w W : World} {D : List (String × String)} (p : Pairs k w D W) (h : Inv w) : R D w W ∧ Inv W := by
  induction p with
  | nil w => exact ⟨hrefl w, h⟩
  | cons ho dn _ ih =>
    obtain ⟨r, hW⟩ := ih (dn.inv h ho)
    exact ⟨htrans (hpair h ho dn) r, hW⟩

theorem Pairs.inv {k : Nat} {w W : World} {D : List (String × String)} (p : Pairs k w D W) (h : Inv w) : Inv W :=
  (p.keeps (R := fun _ _ _ => True) (fun _ => trivial) (fun _ _ => trivial) (fun _ _ _ => trivial) h).2

theorem Pairs.slot {k : Nat} {w W : World} {D : List (String × String)} (p : Pairs k w D W) (h : Inv w) {o : Obj}
    (ho : w.objs k = some o) : ∃ o', W.objs k = some o' :=
  (p.keeps (R := fun _ a b => ∀ o, a.objs k = some o → ∃ o', b.objs k = some o') (fun _ o ho => ⟨o, ho⟩)
    (fun x y o ho => (x o ho).elim y) (fun _ _ dn _ _ => ⟨_, dn.objs⟩) h).1 o ho

/-- what one pass of the map form over `todo` did: pair aliases that returned, one per entry of `done`; it raised only
what it raises itself or the pair form raises; the map does not grow, and no entry is lost -/
structure PassOk (k : Nat) (w : World) (kept todo : List (String × String)) (s : BulkSt) : Prop where
  pairs : Pairs k w s.done s.w
  len : s.left.length ≤ kept.length + todo.length
  err : ∀ e, s.err = some e → e = .notfound ∨ e = .bpp ∨ e = .constraint
  mem : s.err = none → (∀ e ∈ todo, e ∈ s.left ∨ e ∈ s.done) ∧ ∀ e ∈ kept, e ∈ s.left

theorem bulkPass_spec (k : Nat) : ∀ (todo : List (String × String)) (w : World) (pl : List Par) (kept : List (String × String))
    (o : Obj), Inv w → w.objs k = some o → PassOk k w kept todo (bulkPass true k w pl kept todo)
  | [], w, pl, kept, _, _, _ => ⟨.nil w, Nat.le_refl _, nofun, fun _ => ⟨nofun, fun _ he => he⟩⟩
  | (key, val) :: todo, w, pl, kept, o, h, ho => by
    have raise : ∀ (pl' : List Par) (x : Err), x = .notfound ∨ x = .bpp ∨ x = .constraint →
        PassOk k w kept ((key, val) :: todo) { w := w, plpars := pl', left := kept ++ (key, val) :: todo, err := some x } :=
      fun _ x hx => ⟨.nil w, by simp, fun e he => by cases he; exact hx, nofun⟩
    -- `++it; continue;`: the entry stays in the map
    have skip : PassOk k w kept ((key, val) :: todo) (bulkPass true k w pl (kept ++ [(key, val)]) todo) := by
      obtain ⟨a, b, c, d⟩ := bulkPass_spec k todo w pl (kept ++ [(key, val)]) o h ho
      refine ⟨a, by simp only [List.length_append, List.length_cons, List.length_nil] at b ⊢; omega, c, fun ok => ?_⟩
      obtain ⟨d1, d2⟩ := d ok
      refine ⟨fun e he => ?_, fun e he => d2 e (List.mem_append_left _ he)⟩
      rcases List.mem_cons.1 he with rfl | he
      · exact Or.inl (d2 _ (List.mem_append_right _ (List.mem_singleton_self _)))
      · exact d1 e he
    simp only [bulkPass]
    split
    · simp only [ho]
      split
      · exact raise _ _ (Or.inl rfl)
      · exact skip
    · split
      · exact raise _ _ (Or.inr (Or.inl rfl))
      · rename_i pp _ _
        have hc := aliasPair_cases (h.obj k o ho) ho val key
        cases hok : (aliasPairG true w k val key).err with
        | some e =>
          rw [aliasPair, hok] at hc
          rcases hc with ⟨hw, he⟩ | ⟨he, _⟩
          · simp only [hw]; exact raise _ e (by simpa only [Option.some.injEq] using he)
          · cases he
        | none =>
          obtain ⟨dn⟩ := aliasPair_done (h.obj k o ho) ho hok
          obtain ⟨a, b, c, d⟩ := bulkPass_spec k todo (aliasPairG true w k val key).w (pl ++ [{ pp with name := key }]) kept _
            (dn.inv h ho) dn.objs
          refine ⟨.cons ho dn a, by simp only [List.length_cons] at b ⊢; omega, c, fun ok => ?_⟩
          obtain ⟨d1, d2⟩ := d ok
          refine ⟨fun e he => ?_, d2⟩
          rcases List.mem_cons.1 he with rfl | he
          · exact Or.inr (List.mem_cons_self ..)
          · exact (d1 e he).imp id (List.mem_cons_of_mem _)

/-- the outer loop with fuel above the number of entries: a pass that neither raises nor stops the loop makes the map
shorter -/
theorem bulkLoop_spec (k : Nat) : ∀ (f : Nat) (w : World) (pl : List Par) (m : List (String × String)) (o : Obj),
    Inv w → w.objs k = some o → m.length < f →
      Pairs k w (bulkLoop k f w pl m).done (bulkLoop k f w pl m).w ∧
      (∀ e, (bulkLoop k f w pl m).err = some e → e = .notfound ∨ e = .bpp ∨ e = .constraint) ∧
      ((bulkLoop k f w pl m).err = none → ∀ e ∈ m, e ∈ (bulkLoop k f w pl m).done)
  | 0, _, _, _, _, _, _, hf => by omega
  | f + 1, w, pl, m, o, h, ho, hf => by
    simp only [bulkLoop]
    split
    · rename_i hm; cases List.eq_nil_of_length_eq_zero hm; exact ⟨.nil w, nofun, fun _ => nofun⟩
    · obtain ⟨a, b, c, d⟩ := bulkPass_spec k m w pl [] o h ho
      split
      · rename_i e he; exact ⟨a, c, fun ok => by rw [he] at ok; cases ok⟩
      · rename_i he
        split
        · exact ⟨a, fun e he => by cases he; exact Or.inr (Or.inl rfl), nofun⟩
        · obtain ⟨o1, ho1⟩ := a.slot h ho
          simp only [List.length_nil, Nat.zero_add] at b
          obtain ⟨a', c', d'⟩ := bulkLoop_spec k f _ (bulkPass true k w pl [] m).plpars (bulkPass true k w pl [] m).left o1
            (a.inv h) ho1 (by omega)
          exact ⟨a.trans a', c', fun ok e hm => ((d he).1 e hm).elim (fun hl => List.mem_append_right _ (d' ok e hl))
            (List.mem_append_left _)⟩

theorem bulkLoop_no_hang {k f : Nat} {w : World} {pl : List Par} {m : List (String × String)} {o : Obj} (h : Inv w)
    (ho : w.objs k = some o) (hf : m.length < f) : (bulkLoop k f w pl m).err ≠ some .hang := fun he => by
  rcases (bulkLoop_spec k f w pl m o h ho hf).2.1 _ he with e | e | e <;> cases e

/-- **the map form on an object**: pair aliases that returned, one for each link of `D`; then it raised
`ParameterNotFoundException`, `Exception` or `ConstraintException`, or every entry of the map is among `D` and the loop
that equalises values ran -/
theorem bulkAlias_of {w : World} (h : Inv w) {k : Nat} {o : Obj} (ho : w.objs k = some o) (es : List (String × String))
    {P : WR → Prop}
    (hP : ∀ D W, Pairs k w D W →
      (∀ e, e = .notfound ∨ e = .bpp ∨ e = .constraint → P { w := W, err := some e }) ∧
      ((∀ e ∈ mkMap es, e ∈ D) → ∀ o', W.objs k = some o' → P (syncLinks o'.params W D))) :
    P (bulkAlias w k es) := by
  simp only [bulkAlias, bulkAliasG, ho]
  obtain ⟨p, c, d⟩ := bulkLoop_spec k _ w (List.map w.heap.get (o.params.filter fun i => (mapFind? (nameOf w.heap i) (mkMap es)).isNone))
    (mkMap es) o h ho (Nat.lt_succ_self _)
  obtain ⟨h1, h2⟩ := hP _ _ p
  split
  · rename_i e he; exact h1 e (c e he)
  · rename_i he
    split
    · rename_i hn; obtain ⟨o', ho'⟩ := p.slot h ho; rw [ho'] at hn; cases hn
    · rename_i o' ho'; exact h2 (d he) o' ho'

theorem bulkAlias_slot {w : World} (h : Inv w) {k : Nat} {o : Obj} (ho : w.objs k = some o) (es : List (String × String)) :
    ∃ o', (bulkAlias w k es).w.objs k = some o' :=
  bulkAlias_of h ho es (P := fun r => ∃ o', r.w.objs k = some o') fun _ _ p =>
    ⟨fun _ _ => p.slot h ho, fun _ o' ho' => ⟨o', by rw [(syncLinks_writes _ _ _).sameBut.objs]; exact ho'⟩⟩

/-! ## `setNamespace(prefix)` -/

theorem renameListeners_spec (old new : String) : ∀ (reg : List (String × Nat)) (w : World), (reg.map Prod.snd).Nodup →
    let W := renameListeners old new w reg
    W.heap = w.heap ∧ W.lsn = w.lsn ∧ W.objs = w.objs ∧ W.lnext = w.lnext ∧
    ∀ l, W.lis l = if l ∈ reg.map Prod.snd then { w.lis l with name := renamed old new (w.lis l).name } else w.lis l
  | [], w, _ => ⟨rfl, rfl, rfl, rfl, fun l => by simp [renameListeners]⟩
  | e :: rest, w, nd => by
    simp only [List.map_cons, List.nodup_cons] at nd
    obtain ⟨a, b, c, d, f⟩ := renameListeners_spec old new rest
      (w.setLis e.2 { w.lis e.2 with name := renamed old new (w.lis e.2).name }) nd.2
    refine ⟨a, b, c, d, fun l => ?_⟩
    simp only [renameListeners]
    rw [f l]
    simp only [List.map_cons, List.mem_cons, World.setLis]
    by_cases hl : l = e.2
    · subst hl
      simp only [nd.1, if_false, true_or, if_true]
    · simp only [hl, false_or, if_false]

theorem setNamespace_spec (old new : String) : ∀ (l : List ObjId) (h : Store), l.Nodup →
    (ParamList.setNamespace h old new l).next = h.next ∧
    ∀ i, (ParamList.setNamespace h old new l).get i =
      if i ∈ l then { h.get i with name := renamed old new (nameOf h i) } else h.get i
  | [], h, _ => ⟨rfl, fun i => by simp [ParamList.setNamespace]⟩
  | a :: rest, h, nd => by
    simp only [List.nodup_cons] at nd
    have key := setNamespace_spec old new rest
      (h.put a { h.get a with name := renamed old new (nameOf h a) }) nd.2
    obtain ⟨n1, n2⟩ := key
    have hdef : ParamList.setNamespace h old new (a :: rest) =
        ParamList.setNamespace (h.put a { h.get a with name := renamed old new (nameOf h a) }) old new rest := rfl
    rw [hdef]
    refine ⟨n1, fun i => ?_⟩
    rw [n2 i]
    by_cases hi : i = a
    · subst hi
      simp [nd.1]
    · by_cases hr : i ∈ rest
      · simp [hr, hi, nameOf]
      · simp [hr, hi]

theorem ObjInv.lisNodup {w : World} {k : Nat} {o : Obj} (h : ObjInv w k o) : (o.reg.map Prod.snd).Nodup := by
  refine List.Nodup.map_on ?_ (List.Nodup.of_map _ h.regKeys)
  intro e he e' he' hs
  have h1 := (h.regOk e he).id
  have h2 := (h.regOk e' he').id
  rw [hs] at h1
  cases e; cases e'; simp only at hs h1 h2; subst hs; rw [← h1, ← h2]

/-- the world after `setNamespace(new)` -/
def nsWorld (w : World) (k : Nat) (o : Obj) (new : String) : World :=
  ({ renameListeners o.pre new w o.reg with
      heap := ParamList.setNamespace (renameListeners o.pre new w o.reg).heap o.pre new o.params }).setObj k
    { params := o.params, indep := o.indep, reg := o.reg, pre := new }

theorem setNamespace_none {w : World} {k : Nat} (ho : w.objs k = none) (new : String) :
    setNamespace w k new = { w := w, err := some .ub } := by
  simp only [setNamespace, ho]

theorem setNamespace_eq {w : World} {k : Nat} {o : Obj} (ho : w.objs k = some o) (new : String) :
    setNamespace w k new = ({ w := nsWorld w k o new } : WR) := by
  simp only [setNamespace, ho, nsWorld]

theorem nsWorld_facts {w : World} {k : Nat} {o : Obj} (hi : ObjInv w k o) (new : String) :
    (nsWorld w k o new).heap.next = w.heap.next ∧ (nsWorld w k o new).lnext = w.lnext ∧
    (nsWorld w k o new).lsn = w.lsn ∧
    (nsWorld w k o new).objs = (fun j => if j = k then some { params := o.params, indep := o.indep, reg := o.reg, pre := new }
      else w.objs j) ∧
    (∀ i, (nsWorld w k o new).heap.get i =
      if i ∈ o.params then { w.heap.get i with name := renamed o.pre new (nameOf w.heap i) } else w.heap.get i) ∧
    (∀ l, (nsWorld w k o new).lis l =
      if l ∈ o.reg.map Prod.snd then { w.lis l with name := renamed o.pre new (w.lis l).name } else w.lis l) := by
  obtain ⟨a, b, c, d, f⟩ := renameListeners_spec o.pre new o.reg w hi.lisNodup
  obtain ⟨n1, n2⟩ := setNamespace_spec o.pre new o.params (renameListeners o.pre new w o.reg).heap hi.idsNodup
  refine ⟨?_, ?_, ?_, ?_, ?_, ?_⟩
  · show (ParamList.setNamespace (renameListeners o.pre new w o.reg).heap o.pre new o.params).next = _
    rw [n1, a]
  · exact d
  · exact b
  · show (fun j => if j = k then _ else (renameListeners o.pre new w o.reg).objs j) = _
    rw [c]
  · intro i
    show (ParamList.setNamespace (renameListeners o.pre new w o.reg).heap o.pre new o.params).get i = _
    rw [n2 i, a]
  · intro l; exact f l

/-- the renamed object is the object carried along the identity -/
theorem nsWorld_carried {w : World} {k : Nat} {o : Obj} (hi : ObjInv w k o) (new : String) :
    Carried w (nsWorld w k o new) k k o { params := o.params, indep := o.indep, reg := o.reg, pre := new } id Eq := by
  obtain ⟨f1, f2, f3, _, f5, f6⟩ := nsWorld_facts hi new
  refine Carried.rename hi new (Nat.le_of_eq f1.symm) (Nat.le_of_eq f2.symm) (fun i _ => by rw [f3]) ?_ ?_
  · intro i him x hx
    simp only [nameOf, f5 i, him, if_true]
    exact (congrArg (renamed o.pre new) hx).trans (renamed_append ..)
  · intro e he
    refine ⟨_, by rw [f6 e.2, if_pos (List.mem_map.2 ⟨e, he, rfl⟩)], fun y hy => ?_⟩
    rw [hy, renamed_append]

theorem nsWorld_fr {w : World} {k : Nat} {o : Obj} (hi : ObjInv w k o) (new : String) : Fr k o.params w (nsWorld w k o new) := by
  obtain ⟨f1, f2, f3, f4, f5, f6⟩ := nsWorld_facts hi new
  refine ⟨by rw [f1], by rw [f2], fun i _ hn => ⟨by rw [f5 i, if_neg hn], by rw [f3]⟩, fun l _ hp => ?_,
    fun j hj => by rw [f4]; simp [hj]⟩
  rw [f6 l]
  split
  · rename_i hm
    obtain ⟨e, he, hs⟩ := List.mem_map.1 hm
    exact absurd (hs ▸ (hi.regOk e he).pl) hp
  · rfl

theorem inv_renamed {w : World} (h : Inv w) {k : Nat} {o : Obj} (ho : w.objs k = some o) (new : String) :
    Inv (nsWorld w k o new) := by
  have hi := h.obj k o ho
  exact h.framed_some ho (nsWorld_fr hi new) (by rw [(nsWorld_facts hi new).2.2.2.1]; exact if_pos rfl)
    ((nsWorld_carried hi new).inv hi) (fun i hi' => Or.inl hi')

end Bpp.Alias
