import BppProofs.Lemmas.ParamListCheck
import BppModel.ParamListExt
import BppModel.ParamListExtSpec
/-! C02, the extended machine (`BppModel/ParamListExt.lean`): the repaired whole-parameter setters (their first pass
makes `knownPrefix` the whole list, so they are the setters of `ParamListBulk` or change nothing); index vectors in
general; `setNamespace` exactly, and `Inv` after it under the guard `XOp.nsSafe`, hence along `SafeRun` histories; who
the owner's `matchParametersValues` notifies (`differs`); soundness of the clauses of `xcheckStep`. -/
namespace Bpp.ParamList

/-! ## Whole-parameter assignment, repaired code: the first pass makes `knownPrefix` the whole list -/

theorem takeWhile_length_lt_of_not_all {α : Type} {p : α → Bool} :
    ∀ {l : List α}, l.all p = false → (l.takeWhile p).length ≠ l.length
  | [], h => nomatch h
  | a :: t, h => by
    rw [List.takeWhile_cons]
    cases ha : p a with
    | false => exact (Nat.succ_ne_zero _).symm
    | true =>
      rw [List.all_cons, ha, Bool.true_and] at h
      exact fun c => takeWhile_length_lt_of_not_all h (Nat.succ.inj c)

theorem setParametersA_err_iff (h : Store) (l src : List ObjId) :
    ((setParametersA h l src).err = none ↔ ∀ s ∈ src, hasParameter h l (nameOf h s) = true) ∧
    (∀ e, (setParametersA h l src).err = some e → e = .notfound ∧ (setParametersA h l src).heap = h) := by
  unfold setParametersA
  by_cases c : src.all (fun s => hasParameter h l (nameOf h s)) = true
  · rw [if_pos c, setParameters_eq, show knownPrefix h l src = src from takeWhile_eq_self_of_all c, if_pos rfl]
    exact ⟨⟨fun _ => List.all_eq_true.1 c, fun _ => rfl⟩, fun e he => nomatch he⟩
  · rw [if_neg c]
    exact ⟨⟨fun x => (nomatch x), fun x => absurd (List.all_eq_true.2 x) c⟩, fun e he => by cases he; exact ⟨rfl, rfl⟩⟩

theorem setAllParametersA_err_iff (h : Store) (src l : List ObjId) :
    ((setAllParametersA h src l).err = none ↔ ∀ i ∈ l, hasParameter h src (nameOf h i) = true) ∧
    (∀ e, (setAllParametersA h src l).err = some e → e = .notfound ∧ (setAllParametersA h src l).heap = h) := by
  unfold setAllParametersA
  by_cases c : l.all (fun i => hasParameter h src (nameOf h i)) = true
  · rw [if_pos c, (setAllParameters_shape src l h).1,
      show knownPrefix h src l = l from takeWhile_eq_self_of_all c, if_pos rfl]
    exact ⟨⟨fun _ => List.all_eq_true.1 c, fun _ => rfl⟩, fun e he => nomatch he⟩
  · rw [if_neg c]
    exact ⟨⟨fun x => (nomatch x), fun x => absurd (List.all_eq_true.2 x) c⟩, fun e he => by cases he; exact ⟨rfl, rfl⟩⟩

theorem setParametersA_spec (h : Store) (l src : List ObjId) (nds : (names h src).Nodup)
    (all : src.all (fun s => hasParameter h l (nameOf h s)) = true) :
    let r := setParametersA h l src
    r.err = none ∧ r.heap.next = h.next ∧ (∀ x, nameOf r.heap x = nameOf h x) ∧
    (∀ i, r.heap.get i = expectedPar h l src i) := by
  have kp : knownPrefix h l src = src := takeWhile_eq_self_of_all all
  obtain ⟨_, b, c⟩ := matchParameters_names l src h
  rw [setParametersA, if_pos all, setParameters_eq, kp, if_pos rfl]
  exact ⟨rfl, b, c, matchParameters_get l src h nds⟩

theorem setAllParametersA_spec (h : Store) (src l : List ObjId) (ndl : (names h l).Nodup)
    (all : l.all (fun i => hasParameter h src (nameOf h i)) = true) :
    let r := setAllParametersA h src l
    r.err = none ∧ r.heap.next = h.next ∧ (∀ x, nameOf r.heap x = nameOf h x) ∧
    (∀ i, r.heap.get i = expectedAllPar h l src i) := by
  have kp : knownPrefix h src l = l := takeWhile_eq_self_of_all all
  obtain ⟨a, b, c⟩ := setAllParameters_shape src l h
  have d := setAllParameters_get src l h ndl
  rw [kp] at a d
  rw [setAllParametersA, if_pos all]
  exact ⟨a.trans (if_pos rfl), b, c, d⟩

theorem setParametersA_pres (h : Store) (l src : List ObjId) (vs : Valid h src) :
    Pres h (setParametersA h l src).heap := by
  unfold setParametersA; split
  · exact setParameters_pres l src h vs
  · exact Pres.refl h

theorem setAllParametersA_pres (h : Store) (src l : List ObjId) (vs : Valid h src) :
    Pres h (setAllParametersA h src l).heap := by
  unfold setAllParametersA; split
  · exact setAllParameters_pres src l h vs
  · exact Pres.refl h

/-! ## Index-set deletion for arbitrary index vectors -/

theorem eraseDesc_length (ds : List Nat) (l : List ObjId) (ok : (eraseDesc l ds).2 = none) :
    (eraseDesc l ds).1.length + ds.length = l.length := by
  induction ds generalizing l with
  | nil => simp [eraseDesc]
  | cons d rest ih =>
    unfold eraseDesc at ok ⊢
    by_cases hd : d ≥ l.length
    · simp [hd] at ok
    · simp only [hd, if_false] at ok ⊢
      have := ih _ ok
      rw [List.length_eraseIdx] at this
      simp only [List.length_cons]
      have : d < l.length := by omega
      simp only [this, if_true] at *
      omega

theorem sortNat_length (l : List Nat) : (sortNat l).length = l.length := (sortNat_perm l).length_eq

/-- the result of the sort depends on the index *set with multiplicities* only -/
theorem sortNat_eq_of_perm {a b : List Nat} (p : a.Perm b) : sortNat a = sortNat b :=
  List.Perm.eq_of_pairwise (le := (· ≤ ·)) (fun _ _ _ _ h1 h2 => Nat.le_antisymm h1 h2)
    (sortNat_sorted a) (sortNat_sorted b) (((sortNat_perm a).trans p).trans (sortNat_perm b).symm)

/-! ## Lookups answering an object -/

theorem find?_first (h : Store) (l : List ObjId) (n : String) (i : ObjId) :
    find? h l n = some i ↔
      ∃ p : Nat, l[p]? = some i ∧ nameOf h i = n ∧ ∀ q : Nat, q < p → (names h l)[q]? ≠ some n := by
  rw [find?, List.find?_eq_some_iff_getElem]
  constructor
  · rintro ⟨hn, p, hp, e, hq⟩
    exact ⟨p, by rw [List.getElem?_eq_getElem hp, e], beq_iff_eq.1 hn, fun q hq' =>
      (names_getElem?_ne (Nat.lt_trans hq' hp)).2 (Bool.not_eq_true' _ ▸ hq q hq')⟩
  · rintro ⟨p, hp, hn, hq⟩
    obtain ⟨hpl, e⟩ := List.getElem?_eq_some_iff.1 hp
    exact ⟨beq_iff_eq.2 hn, p, hpl, e, fun q hq' =>
      Bool.not_eq_true' _ ▸ (names_getElem?_ne (Nat.lt_trans hq' hpl)).1 (hq q hq')⟩

/-! ## Strings: prefixes -/

theorem startsWith_iff (s pre : String) : startsWith s pre = true ↔ pre.toList ++ s.toList.drop pre.length = s.toList := by
  unfold startsWith
  rw [List.isPrefixOf_iff_prefix, List.prefix_iff_eq_append, String.length_toList]

/-- `prefix + getParameterNameWithoutNamespace(name) = name` for a name under the namespace -/
theorem prefix_nameWithoutNamespace {pre name : String} (hp : startsWith name pre = true) :
    pre ++ nameWithoutNamespace pre name = name := by
  unfold nameWithoutNamespace
  rw [if_pos hp, ← String.toList_inj, String.toList_append, String.toList_ofList]
  exact (startsWith_iff name pre).1 hp

theorem nameWithoutNamespace_other {pre name : String} (hp : startsWith name pre = false) :
    nameWithoutNamespace pre name = name := by
  unfold nameWithoutNamespace; simp [hp]

theorem nameWithoutNamespace_prefix (pre n : String) : nameWithoutNamespace pre (pre ++ n) = n := by
  have hp : startsWith (pre ++ n) pre = true := by
    unfold startsWith; rw [List.isPrefixOf_iff_prefix, String.toList_append]; exact List.prefix_append _ _
  have := prefix_nameWithoutNamespace hp
  rw [← String.toList_inj, String.toList_append, String.toList_append] at this
  rw [← String.toList_inj]
  exact List.append_cancel_left this

theorem renamed_injective {o n a b : String} (ha : startsWith a o = true) (hb : startsWith b o = true)
    (e : renamed o n a = renamed o n b) : a = b := by
  unfold renamed at e
  rw [← String.toList_inj, String.toList_append, String.toList_append] at e
  have e' := List.append_cancel_left e
  rw [String.toList_inj] at e'
  rw [← prefix_nameWithoutNamespace ha, ← prefix_nameWithoutNamespace hb, e']

/-! ## `setNamespace`, exactly -/

theorem setNamespace_get (o n : String) (l : List ObjId) (h : Store) (nd : l.Nodup) (i : ObjId) :
    (setNamespace h o n l).get i =
      if i ∈ l then { h.get i with name := renamed o n (nameOf h i) } else h.get i := by
  induction l generalizing h with
  | nil => simp [setNamespace]
  | cons a t ih =>
    have nd' := List.nodup_cons.1 nd
    unfold setNamespace; dsimp only
    rw [ih _ nd'.2]
    have hn : (if startsWith (nameOf h a) o = true then n ++ String.ofList ((nameOf h a).toList.drop o.length)
        else n ++ nameOf h a) = renamed o n (nameOf h a) := by
      unfold renamed nameWithoutNamespace; split <;> rfl
    rw [hn]
    by_cases hia : i = a
    · subst hia
      simp [nd'.1]
    · by_cases hit : i ∈ t
      · simp [hit, hia, nameOf]
      · simp [hit, hia]

theorem names_setNamespace_own (o n : String) (l : List ObjId) (h : Store) (nd : l.Nodup) :
    names (setNamespace h o n l) l = (names h l).map (renamed o n) := by
  unfold names
  rw [List.map_map]
  apply List.map_congr_left
  intro i hi
  simp [nameOf, setNamespace_get o n l h nd i, hi]

/-- **the guarded case**: all names of the list carry the current prefix → the new names are
pairwise different again -/
theorem nodup_setNamespace_own (o n : String) (l : List ObjId) (h : Store) (nd : (names h l).Nodup)
    (disc : ∀ i ∈ l, startsWith (nameOf h i) o = true) :
    (names (setNamespace h o n l) l).Nodup := by
  have ndl : l.Nodup := List.Nodup.of_map _ nd
  rw [names_setNamespace_own o n l h ndl]
  refine List.Nodup.map_on ?_ nd
  intro a ha b hb e
  obtain ⟨i, hi, rfl⟩ := List.mem_map.1 ha
  obtain ⟨j, hj, rfl⟩ := List.mem_map.1 hb
  exact renamed_injective (disc i hi) (disc j hj) e

theorem names_setNamespace_other (o n : String) (l : List ObjId) (h : Store) (l' : List ObjId)
    (v : Valid h l') (disj : ∀ i ∈ l', i ∉ l) : names (setNamespace h o n l) l' = names h l' := by
  apply names_congr
  intro i hi
  unfold nameOf
  rw [(setNamespace_frame o n l h).same i (v i hi) (disj i hi)]

/-- `Inv` survives `setNamespace` under the naming discipline when no other register holds one of
the owner's objects -/
theorem inv_setNamespace {s : State} (inv : Inv s) (k : Nat) (p : String)
    (disc : ∀ i ∈ s.lists k, startsWith (nameOf s.heap i) (s.pre k) = true)
    (priv : ∀ r, r ≠ k → ∀ i ∈ s.lists r, i ∉ s.lists k) :
    Inv (step s (.apNamespace k p)).1 := by
  obtain ⟨w, o⟩ := wf_ok_step inv (.apNamespace k p)
  refine ⟨w, o, fun r => ?_⟩
  simp only [step]
  by_cases hr : r = k
  · subst hr; exact nodup_setNamespace_own _ _ _ _ (inv.names r) disc
  · rw [names_setNamespace_other _ _ _ _ _ (inv.wf r) (priv r hr)]; exact inv.names r

/-! ## The extended machine keeps the invariant -/

/-- the guard of `setNamespace` steps (all registers); `True` for every other operation -/
def XOp.nsSafe (s : State) : XOp → Prop
  | .base (.apNamespace k _) =>
    (∀ i ∈ s.lists k, startsWith (nameOf s.heap i) (s.pre k) = true) ∧
    (∀ r, r ≠ k → ∀ i ∈ s.lists r, i ∉ s.lists k)
  | _ => True

theorem xOfExcept_state (s : State) (r : Except Err ObjId) : (xOfExcept s r).1 = s := by
  cases r <;> rfl

theorem xstep_readOnly (s : State) (op : XOp) (ro : op.readOnly = true) : (xstep s op).1 = s := by
  cases op <;> simp [XOp.readOnly] at ro <;> simp only [xstep, xOfExcept_state]
  all_goals (try split) <;> rfl

theorem inv_xstep {s : State} (inv : Inv s) (op : XOp) (safe : op.nsSafe s) : Inv (xstep s op).1 := by
  by_cases ro : op.readOnly = true
  · rw [xstep_readOnly s op ro]; exact inv
  · cases op <;> simp [XOp.readOnly] at ro
    · next op =>
      simp only [xstep]
      by_cases hk : op.keepsNames = true
      · exact inv_step inv op hk
      · cases op <;> simp [Op.keepsNames] at hk
        next k p => exact inv_setNamespace inv k p safe.1 safe.2
    · next k j => exact inv_heap inv (setAllParametersA_pres _ _ _ (inv.wf j))
    · next k j => exact inv_heap inv (setParametersA_pres _ _ _ (inv.wf j))
    · next k j => exact have i := inv_step inv (.copy k j) rfl; ⟨i.wf, i.ok, i.names⟩

/-- a history all of whose `setNamespace` steps are guarded -/
def SafeRun : State → List XOp → Prop
  | _, [] => True
  | s, op :: rest => op.nsSafe s ∧ SafeRun (xstep s op).1 rest

theorem inv_xrun {s : State} (inv : Inv s) (ops : List XOp) (safe : SafeRun s ops) : Inv (xrun s ops) := by
  induction ops generalizing s with
  | nil => exact inv
  | cons op rest ih => exact ih (inv_xstep inv op safe.1) safe.2

/-! ## The owner (AbstractParametrizable): what is notified -/

/-- the owner's `matchParametersValues` notifies exactly the source entries whose target held another value -/
theorem apMatch_notified (h : Store) (l src : List ObjId) (nd : (names h src).Nodup)
    (ok : (matchParametersValues h l src).err = none) :
    let r := apMatchParametersValues h l src
    r.heap = (matchParametersValues h l src).heap ∧ r.err = none ∧
    r.fired.getD [] = src.filter (differs h l) ∧ r.flag = !(src.filter (differs h l)).isEmpty ∧
    (r.fired = none ↔ src.filter (differs h l) = []) := by
  obtain ⟨h1, h2, h3, _⟩ := apMatchParametersValues_spec h l src nd
  obtain ⟨f1, f2⟩ := h3 ok
  dsimp only
  rw [h2, ok, f1, f2, (matchParametersValues_expected nd ok).1, diffPos_sel]
  by_cases c : src.filter (differs h l) = []
  · rw [if_pos ((diffPos_nil_iff ..).2 c), (diffPos_nil_iff ..).2 c, c]
    exact ⟨h1, rfl, rfl, rfl, fun _ => rfl, fun _ => rfl⟩
  · have c' : diffPos h l 0 src ≠ [] := fun x => c ((diffPos_nil_iff h l src).1 x)
    rw [if_neg c', decide_eq_true c', List.isEmpty_eq_false_iff.2 c]
    exact ⟨h1, rfl, rfl, rfl, nofun, fun x => absurd x c⟩

/-- the same, with the notified entries given by their positions in the source -/
theorem apMatch_fired (h : Store) (l src : List ObjId) (nd : (names h src).Nodup)
    (ok : (matchParametersValues h l src).err = none) :
    let r := apMatchParametersValues h l src
    r.heap = (matchParametersValues h l src).heap ∧ r.err = none ∧
    r.flag = (r.fired.getD []).isEmpty.not ∧ (r.fired = none ↔ r.fired.getD [] = []) ∧
    (∀ s, s ∈ r.fired.getD [] ↔
      ∃ p : Nat, ∃ t, src[p]? = some s ∧ find? h l (nameOf h s) = some t ∧ (h.get t).value ≠ (h.get s).value) := by
  obtain ⟨g1, g2, g3, g4, g5⟩ := apMatch_notified h l src nd ok
  dsimp only
  rw [g3]
  refine ⟨g1, g2, g4, g5, fun s => mem_filter_differs.trans ⟨fun ⟨hs, t, e⟩ => ?_, fun ⟨p, t, hp, e⟩ => ⟨List.mem_of_getElem? hp, t, e⟩⟩⟩
  obtain ⟨p, hp⟩ := List.getElem?_of_mem hs
  exact ⟨p, t, hp, e⟩

/-- every parameter of the target list whose value a successful source-iterating setter changed
carries the name of a source entry whose value differed from it -/
theorem changed_has_source {h h' : Store} {l src : List ObjId}
    (hv : ∀ s ∈ src, ∀ t, find? h l (nameOf h s) = some t → (h'.get t).value = (h.get s).value)
    (hu : ∀ i, (∀ s ∈ src, find? h l (nameOf h s) ≠ some i) → h'.get i = h.get i) (t : ObjId) :
    (h'.get t).value = (h.get t).value ∨
      ∃ s ∈ src, find? h l (nameOf h s) = some t ∧ (h.get t).value ≠ (h.get s).value := by
  by_cases c : ∃ s ∈ src, find? h l (nameOf h s) = some t ∧ (h.get t).value ≠ (h.get s).value
  · exact Or.inr c
  · left
    by_cases c2 : ∃ s ∈ src, find? h l (nameOf h s) = some t
    · obtain ⟨s, hs, e⟩ := c2
      rw [hv s hs t e]
      by_contra hne
      exact c ⟨s, hs, e, fun x => hne x.symm⟩
    · rw [hu t (fun s hs e => c2 ⟨s, hs, e⟩)]

theorem clauseOwnerAtomic_sound {s : State} (inv : Inv s) (op : Op) :
    clauseOwnerAtomic op (step s op).2.out (step s op).2.fired = true := by
  generalize step s op = x, step_does s op = d
  cases d with
  | nothing => exact notifies_none ..
  | lr => exact notifies_none ..
  | sub => rw [stepSub]; split <;> exact notifies_none ..
  | heap _ _ _ _ nt => exact nt inv

theorem clauseOwnerFired_sound {s : State} (inv : Inv s) (op : Op) :
    clauseOwnerFired s op (step s op).2.out (step s op).2.fired (step s op).1 = true := by
  unfold clauseOwnerFired
  split
  · next k j =>
    simp only [step, stepAR]
    cases e : (matchParametersValues s.heap (s.lists k) (s.lists j)).err with
    | some x =>
      have := (apMatchParametersValues_spec s.heap (s.lists k) (s.lists j) (inv.names j)).2.1
      rw [e] at this
      simp [this, Out.isErr]
    | none =>
      obtain ⟨g1, g2, g3, _⟩ := apMatch_notified s.heap (s.lists k) (s.lists j) (inv.names j) e
      obtain ⟨_, _, _, hv, hu⟩ := matchParametersValues_full (inv.names j) e
      simp only [g2, Out.isErr, State.withHeap, g1, g3]
      rw [Bool.or_eq_true]
      right
      rw [Bool.and_eq_true, List.all_eq_true, List.all_eq_true]
      constructor
      · intro x hx
        obtain ⟨hxs, t, e2, e3⟩ := mem_filter_differs.1 hx
        simp only [e2, Bool.and_eq_true, List.contains_iff_mem, decide_eq_true_eq]
        exact ⟨hxs, e3, hv x hxs t e2⟩
      · intro t _
        rw [Bool.or_eq_true, decide_eq_true_eq, List.any_eq_true]
        rcases changed_has_source hv hu t with c | ⟨x, hx, e2, e3⟩
        · exact Or.inl c
        · exact Or.inr ⟨x, mem_filter_differs.2 ⟨hx, t, e2, e3⟩, by simpa using (find?_some e2).2.symm⟩
  · next k j =>
    obtain ⟨h1, h2, h3⟩ := apSetParametersValues_spec s.heap (s.lists k) (s.lists j)
    simp only [step, stepAR, h2, h3, State.withHeap, h1]
    cases e : (setParametersValues s.heap (s.lists k) (s.lists j)).err with
    | some x => simp [Out.isErr]
    | none =>
      obtain ⟨_, _, hv, hu⟩ := setParametersValues_full (inv.names j) e
      simp only [Out.isErr, Bool.false_eq_true, if_false, if_true, Option.getD_some, Bool.false_or]
      rw [List.all_eq_true]
      intro t _
      rw [Bool.or_eq_true, decide_eq_true_eq, List.any_eq_true]
      rcases changed_has_source hv hu t with c | ⟨x, hx, e2, _⟩
      · exact Or.inl c
      · exact Or.inr ⟨x, hx, by simpa using (find?_some e2).2.symm⟩
  · next k j =>
    obtain ⟨h1, h2, h3⟩ := apSetAllParametersValues_spec s.heap (s.lists k) (s.lists j)
    simp only [step, stepAR, h2, h3, State.withHeap, h1]
    cases e : (setAllParametersValues s.heap (s.lists k) (s.lists j)).err with
    | some x => simp [Out.isErr]
    | none =>
      have acc := (acceptsAll_iff _ _ _).1 ((setAllParametersValues_err_iff _ _ _).1 e)
      simp only [Out.isErr, Bool.false_eq_true, if_false, if_true, Option.getD_some, Bool.false_or]
      rw [List.all_eq_true]
      intro t ht
      rw [Bool.or_eq_true, decide_eq_true_eq, List.any_eq_true]
      obtain ⟨j', e2, _⟩ := acc t ht
      exact Or.inr ⟨j', (find?_some e2).1, by simpa using (find?_some e2).2⟩
  · rfl

theorem clauseDeleteAny_sound (s : State) (op : Op) :
    clauseDeleteAny s op (step s op).2.out (step s op).1 = true := by
  unfold clauseDeleteAny
  split
  · next k idx =>
    simp only [step, State.setList, if_true, Bool.and_eq_true, List.isSublist_iff_sublist]
    refine ⟨deleteParametersIdx_sublist idx (s.lists k), ?_⟩
    cases e : (deleteParametersIdx (s.lists k) idx).2 with
    | some x => simp [Out.ofErr, Out.isErr]
    | none =>
      have := eraseDesc_length _ _ e
      rw [List.length_reverse, sortNat_length] at this
      simp only [Out.ofErr, Out.isErr, Bool.false_or, beq_iff_eq]
      exact this
  · rfl

theorem clauseNamespaceExact_sound (n : Nat) {s : State} (inv : Inv s) (op : Op) :
    clauseNamespaceExact n s op (step s op).1 = true := by
  unfold clauseNamespaceExact
  split
  · next k p =>
    have ndl : (s.lists k).Nodup := List.Nodup.of_map _ (inv.names k)
    simp only [step, if_true, Bool.and_eq_true, beq_iff_eq, Bool.or_eq_true,
      List.all_eq_true, List.mem_range, sameLists]
    refine ⟨⟨fun _ _ => trivial, trivial⟩, Or.inr (fun i _ => ?_)⟩
    rw [setNamespace_get _ _ _ _ ndl i]
    by_cases hi : i ∈ s.lists k <;> simp [hi]
  · rfl

theorem clauseNamespace_sound (n : Nat) {s : State} (inv : Inv s) (op : Op)
    (safe : (XOp.base op).nsSafe s) : clauseNamespace n s op (step s op).1 = true := by
  unfold clauseNamespace
  split
  · next k p => rw [allNamesUnique_of_inv (inv_setNamespace inv k p safe.1 safe.2), Bool.or_true]
  · rfl

theorem clauseNamespaceGuarded_sound (n : Nat) {s : State} (inv : Inv s) (op : Op)
    (safe : (XOp.base op).nsSafe s) : clauseNamespaceGuarded n s op (step s op).1 = true := by
  unfold clauseNamespaceGuarded
  split
  · next k p => rw [allNamesUnique_of_inv (inv_setNamespace inv k p safe.1 safe.2), Bool.or_true]
  · rfl

/-! ### the operations of `XOp` beside `base` -/

theorem lookupObjOk_sound (h : Store) (l : List ObjId) (n : String) :
    lookupObjOk h l n (match parameterNamed h l n with
      | .ok i => .obj i
      | .error e => .base (.err e)) = true := by
  unfold parameterNamed
  cases e : find? h l n with
  | some i =>
    obtain ⟨p, hp, hn, hq⟩ := (find?_first h l n i).1 e
    simp only [lookupObjOk, List.any_eq_true, List.mem_range, Bool.and_eq_true, beq_iff_eq,
      List.all_eq_true, bne_iff_ne, ne_eq]
    have hlt : p < l.length := by
      by_contra c
      rw [List.getElem?_eq_none (by omega)] at hp; cases hp
    exact ⟨p, hlt, ⟨hp, hn⟩, hq⟩
  | none =>
    simp only [lookupObjOk, Bool.not_eq_true', List.contains_eq_mem, decide_eq_false_iff_not]
    exact find?_none.1 e

theorem xOfExcept_out (s : State) (r : Except Err ObjId) :
    (xOfExcept s r).2.out = (match r with
      | .ok i => .obj i
      | .error e => .base (.err e)) := by
  cases r <;> rfl

theorem clauseXLookup_sound (s : State) (op : XOp) : clauseXLookup s op (xstep s op).2.out = true := by
  cases op with
  | nth k i =>
    simp only [clauseXLookup, xstep, at?]
    cases (s.lists k)[i]? <;> simp
  | param k n =>
    simp only [clauseXLookup, xstep, xOfExcept_out]
    exact lookupObjOk_sound ..
  | apParam k n =>
    simp only [clauseXLookup, xstep, xOfExcept_out, apParameterNamed]
    exact lookupObjOk_sound ..
  | apHas k n =>
    simp only [clauseXLookup, xstep, apHasParameter, beq_iff_eq]
    congr 2
    rw [Bool.eq_iff_iff, hasParameter_iff]; simp
  | apGetValue k n =>
    simp only [clauseXLookup, xstep, apGetParameterValue, getParameterValue]
    cases find? s.heap (s.lists k) (s.pre k ++ n) <;> simp
  | apAt k i =>
    simp only [clauseXLookup, xstep, xOfExcept_out, apParameterAt]
    cases (s.lists k)[i]? <;> simp
  | apNameNoNs k n =>
    simp only [clauseXLookup, xstep]
    by_cases hp : startsWith n (s.pre k) = true
    · simp [hp, prefix_nameWithoutNamespace hp]
    · have hp' : startsWith n (s.pre k) = false := by simpa using hp
      simp [hp', nameWithoutNamespace_other hp']
  | apAddNull k => rfl
  | _ => rfl

/-- the shape of the clause for a repaired whole-parameter setter: `all` names have a partner and the
setter did `P`, or it raised ParameterNotFoundException and changed nothing -/
theorem xAssign_of (n : Nat) (s : State) {r : HR} {all nu : Bool} {P : Prop} [Decidable P]
    (h1 : all = true → r.err = none ∧ P) (h2 : all = false → r.err = some .notfound ∧ r.heap = s.heap) :
    ((XOut.base (.ofErr r.err) == .base (if all = true then .ok else .err .notfound)) &&
      (if all = true then sameLists n s (s.withHeap r.heap) && (!nu || decide P)
       else unchanged n s (s.withHeap r.heap))) = true := by
  cases all with
  | true =>
    rw [(h1 rfl).1, decide_eq_true (h1 rfl).2, Bool.or_true, Bool.and_true]
    exact Bool.and_eq_true_iff.2 ⟨rfl, List.all_eq_true.2 (fun _ _ => beq_self_eq_true _)⟩
  | false =>
    rw [(h2 rfl).1, (h2 rfl).2]
    exact Bool.and_eq_true_iff.2 ⟨rfl, unchanged_refl n s⟩

theorem clauseXAssign_sound (n : Nat) {s : State} (inv : Inv s) (op : XOp) :
    clauseXAssign n s op (xstep s op).2.out (xstep s op).1 = true := by
  cases op with
  | setAllParamsA k j =>
    have e := setAllParametersA_err_iff s.heap (s.lists j) (s.lists k)
    refine xAssign_of n s (fun c => ?_) (fun c => ?_)
    · obtain ⟨a1, _, _, a4⟩ := setAllParametersA_spec s.heap (s.lists j) (s.lists k) (inv.names k) c
      exact ⟨a1, fun i _ => a4 i⟩
    · obtain ⟨x, hx⟩ := Option.ne_none_iff_exists'.1 (fun x => Bool.eq_false_iff.1 c (List.all_eq_true.2 (e.1.1 x)))
      exact (e.2 x hx).1 ▸ ⟨hx, (e.2 x hx).2⟩
  | setParamsA k j =>
    have e := setParametersA_err_iff s.heap (s.lists k) (s.lists j)
    refine xAssign_of n s (fun c => ?_) (fun c => ?_)
    · obtain ⟨a1, _, _, a4⟩ := setParametersA_spec s.heap (s.lists k) (s.lists j) (inv.names j) c
      exact ⟨a1, fun i _ => a4 i⟩
    · obtain ⟨x, hx⟩ := Option.ne_none_iff_exists'.1 (fun x => Bool.eq_false_iff.1 c (List.all_eq_true.2 (e.1.1 x)))
      exact (e.2 x hx).1 ▸ ⟨hx, (e.2 x hx).2⟩
  | _ => rfl

theorem clauseXOwnerCopy_sound (n : Nat) {s : State} (inv : Inv s) (op : XOp) :
    clauseXOwnerCopy n s op (xstep s op).2.out (xstep s op).1 = true := by
  unfold clauseXOwnerCopy
  split
  · next k j =>
    obtain ⟨c1, c2, c3, c4, c5⟩ := cloned_register (s' := (xstep s (.apCopy k j)).1) inv k j rfl rfl
    simp only [Bool.and_eq_true, beq_iff_eq, List.all_eq_true, List.mem_range, Bool.or_eq_true, sameObjs]
    refine ⟨⟨⟨⟨rfl, freshWith_of c1 c2 c3⟩, if_pos rfl⟩, fun r _ => ?_⟩, fun i hi => (c5 i hi).symm⟩
    by_cases hr : r = j
    · exact Or.inl hr
    · exact Or.inr ⟨c4 r hr, if_neg hr⟩
  · rfl

theorem xstep_fired_none (s : State) (op : XOp) (nb : ∀ o, op ≠ .base o) : (xstep s op).2.fired = none := by
  cases op with
  | base o => exact absurd rfl (nb o)
  | nth k i => simp only [xstep]; split <;> rfl
  | apGetValue k n => simp only [xstep]; split <;> rfl
  | param k n => simp only [xstep]; cases parameterNamed s.heap (s.lists k) n <;> rfl
  | apParam k n => simp only [xstep]; cases apParameterNamed s.heap (s.lists k) (s.pre k) n <;> rfl
  | apAt k i => simp only [xstep]; cases apParameterAt (s.lists k) i <;> rfl
  | _ => rfl

end Bpp.ParamList
