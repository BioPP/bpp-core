import BppModel.LUStore
import BppProofs.Lemmas.MatrixOps
import BppProofs.Lemmas.LU
/-!
Helper lemmas for C05, storage level: loops of `BppModel/LUStore.lean`, the `Is` view of a store,
the update rule for in-place loops.  Everything here holds for any scalar type (no arithmetic is used).
-/
namespace Bpp.LUS
open Bpp Bpp.Mx Bpp.LU

section Loops
variable {σ τ : Type}

theorem loop_inv (P : Nat → σ → Prop) (n : Nat) (f : Nat → σ → Res σ) (s : σ) (h0 : P 0 s)
    (hstep : ∀ k t, k < n → P k t → ∃ t', f k t = .ok t' ∧ P (k + 1) t') :
    ∃ t, loop n f s = .ok t ∧ P n t := by
  induction n with
  | zero => exact ⟨s, rfl, h0⟩
  | succ n ih =>
    obtain ⟨t, ht, hp⟩ := ih (fun k t hk => hstep k t (by omega))
    obtain ⟨t', ht', hp'⟩ := hstep n t (by omega) hp
    exact ⟨t', by simp only [loop, ht, ht'], hp'⟩

theorem loopFrom_zero (n : Nat) (f : Nat → σ → Res σ) (s : σ) : loopFrom 0 n f s = loop n f s := by
  simp [loopFrom]

theorem loopFrom_inv (P : Nat → σ → Prop) (lo hi : Nat) (hle : lo ≤ hi) (f : Nat → σ → Res σ) (s : σ) (h0 : P lo s)
    (hstep : ∀ k t, lo ≤ k → k < hi → P k t → ∃ t', f k t = .ok t' ∧ P (k + 1) t') :
    ∃ t, loopFrom lo hi f s = .ok t ∧ P hi t := by
  have := loop_inv (fun t s => P (lo + t) s) (hi - lo) (fun t => f (lo + t)) s h0
    (fun k t hk hp => hstep (lo + k) t (by omega) (by omega) hp)
  obtain ⟨t, h1, h2⟩ := this
  refine ⟨t, h1, ?_⟩
  have e : lo + (hi - lo) = hi := by omega
  rwa [e] at h2

theorem loop_congr (k : Nat) (f g : Nat → σ → Res σ) (s : σ) (h : ∀ i, i < k → ∀ t, f i t = g i t) :
    loop k f s = loop k g s := by
  induction k with
  | zero => rfl
  | succ k ih =>
    simp only [loop]
    rw [ih (fun i hi t => h i (by omega) t)]
    cases loop k g s with
    | ok t => exact h k (by omega) t
    | error e => rfl

/-- **in-place update**: a loop whose iteration `j` replaces slot `j` of what the state holds by `new j`, in any state
that still holds the original outside the slots `c0..j-1`.  `V` is any way of reading a state as a family of slots
(the cells of a row, the rows or the columns of a matrix, the elements of a vector): the step from `j` to `j + 1` is an
equation between functions, so nothing is needed of `V`. -/
theorem loopFrom_update {β : Type} (V : σ → (Nat → β) → Prop) {s : σ} {f : Nat → β} (hs : V s f)
    {c0 c1 : Nat} (h01 : c0 ≤ c1) (new : Nat → β) (body : Nat → σ → Res σ)
    (hbody : ∀ j, c0 ≤ j → j < c1 → ∀ t g, V t g → (∀ a, ¬ (c0 ≤ a ∧ a < j) → g a = f a) →
      ∃ t', body j t = .ok t' ∧ V t' (Function.update g j (new j))) :
    ∃ s', loopFrom c0 c1 body s = .ok s' ∧ V s' (fun a => if c0 ≤ a ∧ a < c1 then new a else f a) := by
  refine loopFrom_inv (fun j t => V t (fun a => if c0 ≤ a ∧ a < j then new a else f a)) c0 c1 h01 body s ?_ ?_
  · convert hs using 2 with a
    exact if_neg (by omega)
  · intro j t hj0 hj1 ht
    obtain ⟨t', e', ht'⟩ := hbody j hj0 hj1 t _ ht (fun a ha => if_neg ha)
    refine ⟨t', e', ?_⟩
    convert ht' using 2 with a
    by_cases haj : a = j
    · rw [haj, Function.update_self, if_pos (by omega)]
    · rw [Function.update_of_ne haj]
      by_cases h2 : c0 ≤ a ∧ a < j
      · rw [if_pos h2, if_pos (by omega)]
      · rw [if_neg h2, if_neg (by omega)]

/-- a `for (i = lo; i < n; i++)` loop and a `Fin.foldl` over all of `0..n-1` that does nothing below `lo` -/
theorem loopFrom_foldl (R : σ → τ → Prop) (lo : Nat) :
    ∀ (n : Nat) (f : Nat → σ → Res σ) (g : τ → Fin n → τ) (s : σ) (t : τ), R s t →
      (∀ (i : Fin n) t, i.val < lo → g t i = t) →
      (∀ (i : Fin n) s t, lo ≤ i.val → R s t → ∃ s', f i.val s = .ok s' ∧ R s' (g t i)) →
      ∃ s', loopFrom lo n f s = .ok s' ∧ R s' (Fin.foldl n g t) := by
  intro n
  induction n with
  | zero => intro f g s t h0 _ _; exact ⟨s, by simp [loopFrom, loop], by simpa using h0⟩
  | succ n ih =>
    intro f g s t h0 hskip hstep
    rw [Fin.foldl_succ_last]
    obtain ⟨s1, e1, r1⟩ := ih f (fun t k => g t k.castSucc) s t h0
      (fun i t hi => hskip i.castSucc t hi) (fun i s t hi h => hstep i.castSucc s t hi h)
    unfold loopFrom at e1 ⊢
    by_cases hlo : lo ≤ n
    · obtain ⟨s2, e2, r2⟩ := hstep (Fin.last n) s1 _ hlo r1
      refine ⟨s2, ?_, r2⟩
      rw [show n + 1 - lo = (n - lo) + 1 by omega]
      simp only [loop, e1]
      rw [show lo + (n - lo) = n by omega]
      exact e2
    · -- no iteration yet
      rw [show n + 1 - lo = n - lo by omega]
      exact ⟨s1, e1, by rw [hskip (Fin.last n) _ (by simp only [Fin.val_last]; omega)]; exact r1⟩

/-- a `loop` and a `Fin.foldl` that proceed in lock step -/
theorem loop_foldl (R : σ → τ → Prop) (n : Nat) (f : Nat → σ → Res σ) (g : τ → Fin n → τ) (s : σ) (t : τ) (h0 : R s t)
    (hstep : ∀ (k : Fin n) s t, R s t → ∃ s', f k.val s = .ok s' ∧ R s' (g t k)) :
    ∃ s', loop n f s = .ok s' ∧ R s' (Fin.foldl n g t) := by
  rw [← loopFrom_zero]
  exact loopFrom_foldl R 0 n f g s t h0 (fun i _ hi => absurd hi (Nat.not_lt_zero _)) (fun i s t _ => hstep i s t)

/-- a downward `do { k--; … } while (k > 0)` loop (iteration `t` handles `k = n-1-t`) and a `Fin.foldr` -/
theorem loop_foldr (R : σ → τ → Prop) :
    ∀ (n : Nat) (f : Nat → σ → Res σ) (g : Fin n → τ → τ) (s : σ) (t : τ), R s t →
      (∀ (k : Fin n) s t, R s t → ∃ s', f (n - 1 - k.val) s = .ok s' ∧ R s' (g k t)) →
      ∃ s', loop n f s = .ok s' ∧ R s' (Fin.foldr n g t) := by
  intro n
  induction n with
  | zero => intro f g s t h0 _; exact ⟨s, rfl, by simpa using h0⟩
  | succ n ih =>
    intro f g s t h0 hstep
    rw [Fin.foldr_succ]
    obtain ⟨s1, e1, r1⟩ := ih f (fun k t => g k.succ t) s t h0 (fun k s t h => by
      have := hstep k.succ s t h
      have e : n + 1 - 1 - k.succ.val = n - 1 - k.val := by rw [Fin.val_succ]; omega
      rwa [e] at this)
    obtain ⟨s2, e2, r2⟩ := hstep 0 s1 _ r1
    refine ⟨s2, ?_, r2⟩
    simp only [loop, e1]
    exact e2

/-- a refinement statement read backwards: when the abstract outcome `y` is not `ub`, a value returned by the
statement-level call `x` is related to one returned by the abstract call, with the same indicator -/
theorem ok_of_refines {α β γ : Type} {x : Res (α × β)} {y : Except LU.Err (α × γ)} {R : β → γ → Prop}
    (h : (∀ d Y, y = .ok (d, Y) → ∃ X', x = .ok (d, X') ∧ R X' Y) ∧ (∀ e, y = .error e → e ≠ .ub → x = .error e))
    (hub : y ≠ .error .ub) {d : α} {X' : β} (hx : x = .ok (d, X')) : ∃ Y, y = .ok (d, Y) ∧ R X' Y := by
  cases hy : y with
  | error e =>
    rw [h.2 e hy (fun he => hub (he ▸ hy))] at hx
    cases hx
  | ok p =>
    obtain ⟨X0, e0, hR⟩ := h.1 p.1 p.2 hy
    rw [hx] at e0
    injection e0 with e0
    injection e0 with e1 e2
    subst e1 e2
    exact ⟨p.2, rfl, hR⟩

end Loops

section View
variable {α : Type}

section
variable {S : Store α} {k : Kind} {r c : Nat} {f : Nat → Nat → α} (h : Is S k r c f)
include h
theorem Is.wf : S.WF := h.1
theorem Is.kind_eq : S.kind = k := h.2.1
theorem Is.nrows_eq : S.nrows = r := h.2.2.1
theorem Is.ncols_eq : S.ncols = c := h.2.2.2.1
theorem Is.get_ok {i j : Nat} (hi : i < r) (hj : j < c) : S.get i j = .ok (f i j) := h.2.2.2.2 i j hi hj
end

@[simp] theorem ok_bind {β γ : Type} (x : β) (f : β → Res γ) : (Except.ok x >>= f) = f x := rfl
@[simp] theorem pure_eq {β : Type} (x : β) : (pure x : Res β) = .ok x := rfl

theorem Is.rd {S : Store α} {k : Kind} {r c : Nat} {f : Nat → Nat → α} (h : Is S k r c f) {i j : Nat}
    (hi : i < r) (hj : j < c) : rd S i j = .ok (f i j) := by
  simp [LUS.rd, h.get_ok hi hj]

theorem Is.wr {S : Store α} {k : Kind} {r c : Nat} {f : Nat → Nat → α} (h : Is S k r c f) {i j : Nat}
    (hi : i < r) (hj : j < c) (x : α) :
    ∃ S', LUS.wr S i j x = .ok S' ∧ Is S' k r c (Function.update f i (Function.update (f i) j x)) := by
  obtain ⟨hw, hk, hr, hc, hg⟩ := h
  obtain ⟨S', e, hw', hk', hr', hc', hij, hoth⟩ := Store.set_spec hw (hr ▸ hi) (hc ▸ hj) x
  refine ⟨S', by simp [LUS.wr, e], hw', hk'.trans hk, hr'.trans hr, hc'.trans hc, ?_⟩
  intro p q hp hq
  by_cases hpi : p = i
  · subst hpi
    by_cases hqj : q = j
    · rw [hqj, hij, Function.update_self, Function.update_self]
    · rw [hoth p q (hr ▸ hp) (hc ▸ hq) (Or.inr hqj), hg p q hp hq, Function.update_self, Function.update_of_ne hqj]
  · rw [hoth p q (hr ▸ hp) (hc ▸ hq) (Or.inl hpi), hg p q hp hq, Function.update_of_ne hpi]

theorem update_cell (f : Nat → Nat → α) (i j : Nat) (x : α) (a b : Nat) :
    Function.update f i (Function.update (f i) j x) a b = if a = i ∧ b = j then x else f a b := by
  by_cases ha : a = i
  · subst ha
    by_cases hb : b = j
    · rw [if_pos ⟨rfl, hb⟩, Function.update_self, hb, Function.update_self]
    · rw [if_neg fun h => hb h.2, Function.update_self, Function.update_of_ne hb]
  · rw [if_neg fun h => ha h.1, Function.update_of_ne ha]

theorem Is.get_eq {S S' : Store α} {k k' : Kind} {r c : Nat} {f : Nat → Nat → α} (h : Is S k r c f) (h' : Is S' k' r c f)
    {i j : Nat} (hi : i < r) (hj : j < c) : S'.get i j = S.get i j := by
  rw [h.get_ok hi hj, h'.get_ok hi hj]

/-- **row update**: a loop `for (j = c0; j < c1; j++)` whose iteration `j`, in any state whose row `i` still has the
original contents outside the cells `c0..j-1` already handled, amounts to `S(i,j) = new j` -/
theorem rowLoop {S : Store α} {k : Kind} {r c : Nat} {f : Nat → Nat → α} (hS : Is S k r c f)
    {i : Nat} (hi : i < r) {c0 c1 : Nat} (h01 : c0 ≤ c1) (hc1 : c1 ≤ c)
    (new : Nat → α) (body : Nat → Store α → Res (Store α))
    (hbody : ∀ j, c0 ≤ j → j < c1 → ∀ T g, Is T k r c (Function.update f i g) →
      (∀ b, ¬ (c0 ≤ b ∧ b < j) → g b = f i b) → body j T = wr T i j (new j)) :
    ∃ S', loopFrom c0 c1 body S = .ok S' ∧
      Is S' k r c (Function.update f i fun b => if c0 ≤ b ∧ b < c1 then new b else f i b) := by
  refine loopFrom_update (fun T g => Is T k r c (Function.update f i g)) (by rwa [Function.update_eq_self]) h01 new body ?_
  intro j hj0 hj1 T g hT hout
  obtain ⟨T', e, hT'⟩ := hT.wr hi (show j < c by omega) (new j)
  rw [Function.update_idem, Function.update_self] at hT'
  exact ⟨T', (hbody j hj0 hj1 T g hT hout).trans e, hT'⟩

variable [Scalar α]

/-- `resize(r, c)` of a store in any prior state, for proper dimensions: class kept, dimensions as
requested, some contents (the leading block of the old contents, zeros elsewhere) -/
theorem Is.resize {S : Store α} (hw : S.WF) (r c : Nat) (hs : S.kind.shape r c = (r, c)) :
    Is (S.resize r c) S.kind r c (fun i j => if i < S.nrows ∧ j < S.ncols then S.entry i j else Scalar.zero) := by
  have hd := Store.resize_dims S r c
  rw [hs] at hd
  exact ⟨Store.resize_wf S r c, Store.resize_kind S r c, (Prod.mk.inj hd).1, (Prod.mk.inj hd).2,
    fun i j hi hj => Store.resize_get hw r c hi hj⟩

theorem Is.row_congr {S : Store α} {k : Kind} {r c : Nat} {f : Nat → Nat → α} {i : Nat} {g g' : Nat → α}
    (h : Is S k r c (Function.update f i g)) (hg : ∀ b, b < c → g b = g' b) : Is S k r c (Function.update f i g') :=
  h.congr fun a b _ hb => by
    by_cases ha : a = i
    · rw [ha, Function.update_self, Function.update_self, hg b hb]
    · rw [Function.update_of_ne ha, Function.update_of_ne ha]

/-- **whole-row update**: `for (j = 0; j < c; j++) S(i,j) = new j`, the right-hand sides evaluated in any state whose row `i`
still has the original contents from cell `j` on -/
theorem rowLoop_full {S : Store α} {k : Kind} {r c : Nat} {f : Nat → Nat → α} (hS : Is S k r c f) {i : Nat} (hi : i < r)
    (new : Nat → α) (body : Nat → Store α → Res (Store α))
    (hbody : ∀ j, j < c → ∀ T g, Is T k r c (Function.update f i g) → (∀ b, ¬ b < j → g b = f i b) →
      body j T = wr T i j (new j)) :
    ∃ S', loop c body S = .ok S' ∧ Is S' k r c (Function.update f i new) := by
  rw [← loopFrom_zero]
  exact (rowLoop hS hi (Nat.zero_le c) (Nat.le_refl c) new body fun j _ hj T g hT hout =>
    hbody j hj T g hT fun b hb => hout b fun h => hb h.2).imp
    fun S' h => ⟨h.1, h.2.row_congr fun b hb => if_pos ⟨Nat.zero_le b, hb⟩⟩

end View

section FnOf
variable {α : Type} [Scalar α] {m n : Nat}

theorem fnOf_get (M : Mat α m n) (i : Fin m) (j : Fin n) : fnOf M i.val j.val = M.get i j := by
  simp [fnOf, i.isLt, j.isLt]

theorem fnOf_lt (M : Mat α m n) {i j : Nat} (hi : i < m) (hj : j < n) : fnOf M i j = M.get ⟨i, hi⟩ ⟨j, hj⟩ := by
  simp [fnOf, hi, hj]

/-- to show that a store holds `M`, compare entries at indices in range -/
theorem Is.of_get {S : Store α} {k : Kind} {g : Nat → Nat → α} {M : Mat α m n} (h : Is S k m n g)
    (hg : ∀ (i : Fin m) (j : Fin n), g i.val j.val = M.get i j) : Is S k m n (fnOf M) :=
  h.congr fun a b ha hb => by rw [fnOf_lt _ ha hb]; exact hg ⟨a, ha⟩ ⟨b, hb⟩

theorem fnOf_ofFn (F : Fin m → Fin n → α) {i j : Nat} (hi : i < m) (hj : j < n) :
    fnOf (Mat.ofFn F) i j = F ⟨i, hi⟩ ⟨j, hj⟩ := by
  rw [fnOf_lt _ hi hj, Mat.get_ofFn]

variable {s : StateS α} {t : LU.State α m n} (h : Rep s t)
include h
theorem Rep.m_eq : s.m = m := h.1
theorem Rep.n_eq : s.n = n := h.2.1
theorem Rep.lu_is : Is s.lu .row m n (fnOf t.lu) := h.2.2.1
theorem Rep.pivsign_eq : s.pivsign = t.pivsign := h.2.2.2.1
theorem Rep.piv_eq : s.piv = Array.ofFn (n := m) fun i => (t.piv[i.val]'i.isLt).val := h.2.2.2.2

end FnOf

end Bpp.LUS
