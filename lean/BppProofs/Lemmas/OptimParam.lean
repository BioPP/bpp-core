import BppModel.Optim
import BppProofs.Lemmas.ScalarReal
import BppProofs.Lemmas.Param
/-!
Helper lemmas for C10: `setValue` on a parameter of precision 0 (the parameters the optimisers of
the harness work on).  What a call `setValue(x)` stores — `x` itself when the constraint accepts it,
the auto-corrected value, or nothing (an exception) — depends on the request, the constraint and the
dynamic type only, *not* on the value currently stored, as long as that value is feasible (C01's
invariant).  This is what makes "set the parameter to `x`, evaluate" a function of `x`.
-/
set_option linter.unusedSectionVars false
namespace Bpp.Optim
open Bpp

/-- a closed interval with finite ends accepts the values between them -/
theorem closed_isCorrect {a b p x : ℝ} (h1 : a ≤ x) (h2 : x ≤ b) :
    (⟨.fin a, .fin b, true, true, p⟩ : Interval ℝ).isCorrect x = true := by
  simp [Interval.isCorrect, Interval.isCorrectB, Bound.geb, Bound.leb, h1, h2]

/-- the parameter with another value -/
def reval (p : Param ℝ) (w : ℝ) : Param ℝ := { p with value := w }

@[simp] theorem reval_value (p : Param ℝ) (w : ℝ) : (reval p w).value = w := rfl
@[simp] theorem reval_precision (p : Param ℝ) (w : ℝ) : (reval p w).precision = p.precision := rfl
@[simp] theorem reval_constraint (p : Param ℝ) (w : ℝ) : (reval p w).constraint = p.constraint := rfl
@[simp] theorem reval_auto (p : Param ℝ) (w : ℝ) : (reval p w).auto = p.auto := rfl
@[simp] theorem reval_reval (p : Param ℝ) (w z : ℝ) : reval (reval p w) z = reval p z := rfl
@[simp] theorem reval_self (p : Param ℝ) : reval p p.value = p := rfl
@[simp] theorem reval_accepts (p : Param ℝ) (w v : ℝ) : (reval p w).accepts v = p.accepts v := rfl

/-- `Parameter::setValue` with precision 0 on a feasible value: check, then write -/
theorem svb0 (p : Param ℝ) (v : ℝ) (hp : p.precision = 0) (hi : p.invOk = true) :
    p.setValueBase v = if p.accepts v = true then .ok (reval p v) else .error .constraint := by
  rcases Param.svb_cases p v with ⟨a, e⟩ | ⟨a, b, e⟩ | ⟨a, b, e⟩
  · rw [hp] at a
    have h0 : |v - p.value| = 0 := le_antisymm (by simpa using a) (abs_nonneg _)
    have hv : v = p.value := by have := abs_eq_zero.1 h0; linarith
    have hacc : p.accepts v = true := by rw [hv]; exact hi
    rw [e, if_pos hacc, hv]; rfl
  · rw [e, if_pos b]; rfl
  · rw [e, if_neg (by rw [b]; simp)]

/-- the stored value plays no role (plain parameter) -/
theorem svb_reval (p : Param ℝ) (w x : ℝ) (hp : p.precision = 0) (hi : p.invOk = true) (hw : p.accepts w = true) :
    (reval p w).setValueBase x = p.setValueBase x := by
  rw [svb0 p x hp hi, svb0 (reval p w) x hp hw]; rfl

/-- the stored value plays no role (virtual `setValue`) -/
theorem setValue_reval (p : Param ℝ) (w x : ℝ) (hp : p.precision = 0) (hi : p.invOk = true) (hw : p.accepts w = true) :
    (reval p w).setValue x = p.setValue x := by
  have hb : ∀ z, (reval p w).setValueBase z = p.setValueBase z := fun z => svb_reval p w z hp hi hw
  have ha : (reval p w).setValueAuto x = p.setValueAuto x := by
    unfold Param.setValueAuto
    simp only [hb, reval_constraint]
  unfold Param.setValue
  rw [ha, hb, reval_auto]

/-- a call that returns has stored a feasible value and changed nothing else -/
theorem setValue_ok_form {p p' : Param ℝ} {x : ℝ} (h : p.setValue x = .ok p') (hi : p.invOk = true) :
    p' = reval p p'.value ∧ p.accepts p'.value = true := by
  obtain ⟨z, hz⟩ := Param.setValue_from_svb h
  rcases Param.svb_ok hz with ⟨rfl, _⟩ | ⟨rfl, _, ha⟩
  · exact ⟨rfl, hi⟩
  · exact ⟨rfl, ha⟩

/-- setting a feasible value stores it -/
theorem setValue_accepted (p : Param ℝ) (x : ℝ) (hp : p.precision = 0) (hi : p.invOk = true) (hx : p.accepts x = true) :
    p.setValue x = .ok (reval p x) := by
  have hb : p.setValueBase x = .ok (reval p x) := by rw [svb0 p x hp hi, if_pos hx]
  cases ha : p.auto with
  | true => rw [Param.setValue_of_auto ha]; exact Param.sva_of_ok hb
  | false => rw [Param.setValue_of_plain ha]; exact hb

/-- what `setValue(x)` stores (the request itself when the call raises: never looked at then) -/
noncomputable def corr (p : Param ℝ) (x : ℝ) : ℝ :=
  match p.setValue x with
  | .ok p' => p'.value
  | .error _ => x

theorem corr_ok {p p' : Param ℝ} {x : ℝ} (h : p.setValue x = .ok p') : corr p x = p'.value := by
  unfold corr; rw [h]

theorem corr_accepted (p : Param ℝ) (x : ℝ) (hp : p.precision = 0) (hi : p.invOk = true) (hx : p.accepts x = true) :
    corr p x = x := by
  rw [corr_ok (setValue_accepted p x hp hi hx)]; rfl

theorem corr_reval (p : Param ℝ) (w x : ℝ) (hp : p.precision = 0) (hi : p.invOk = true) (hw : p.accepts w = true) :
    corr (reval p w) x = corr p x := by
  unfold corr; rw [setValue_reval p w x hp hi hw]

/-- correcting twice is correcting once -/
theorem corr_idem {p p' : Param ℝ} {x : ℝ} (h : p.setValue x = .ok p') (hp : p.precision = 0) (hi : p.invOk = true) :
    corr p (corr p x) = corr p x := by
  rw [corr_ok h]
  exact corr_accepted p _ hp hi (setValue_ok_form h hi).2

/-- the policy does not change values, precision or feasibility -/
theorem applyPolicy_single (pol : Policy) (q : NP ℝ) :
    ∃ p0 : Param ℝ, applyPolicy pol [q] = [⟨q.name, p0⟩] ∧ p0.value = q.p.value ∧ p0.precision = q.p.precision ∧
      (q.p.invOk = true → p0.invOk = true) := by
  cases pol with
  | keep => exact ⟨q.p, rfl, rfl, rfl, fun h => h⟩
  | ignore =>
    exact ⟨q.p.removeConstraint.1, rfl, rfl, rfl, fun _ => Param.accepts_none rfl _⟩
  | auto => exact ⟨q.p.toAuto, rfl, rfl, rfl, fun h => h⟩

end Bpp.Optim
