import BppProofs.Lemmas.LU
/-! Helper lemmas for C05: the constructor run under a rounding `fl` satisfying the standard model
(`StdModel fl u`): the elimination entry by entry (`eliminate_rnd_get`; exact arithmetic is `fl = id`, which gives the
bound on the multipliers), loop invariant `RInv`, entrywise bound `factor_rounded_entries`; the exact equation
`factor_entries` behind `lu_factor` (`Props/C05.lean`) is its case `fl = id`, `u = 0`. -/
namespace Bpp.LU
open Bpp

/-- `γ_k = k·u / (1 − k·u)` -/
noncomputable def gam (k : Nat) (u : ℝ) : ℝ := k * u / (1 - k * u)

theorem gam_nonneg {k : Nat} {u : ℝ} (hu : 0 ≤ u) (hk : k * u < 1) : 0 ≤ gam k u :=
  div_nonneg (mul_nonneg (Nat.cast_nonneg k) hu) (by linarith)

/-- with `a = k·u`: `γ_k(1+u) + u = (a+u)/(1−a) ≤ (a+u)/(1−a−u) = γ_{k+1}` -/
theorem gam_step1 {k : Nat} {u : ℝ} (hu : 0 ≤ u) (hk : ((k + 1 : Nat) : ℝ) * u < 1) :
    gam k u * (1 + u) + u ≤ gam (k + 1) u := by
  push_cast at hk
  have h1 : 1 - (k : ℝ) * u ≠ 0 := by linarith
  have e : gam k u * (1 + u) + u = ((k : ℝ) + 1) * u / (1 - k * u) := by
    unfold gam; field_simp; ring
  rw [e, gam, Nat.cast_succ]
  exact div_le_div_of_nonneg_left (by positivity) (by linarith) (by linarith)

/-- `(γ_k + u)/(1−u) = (a+u−au)/((1−a)(1−u))`: a smaller numerator over a larger denominator than `γ_{k+1}` -/
theorem gam_step2 {k : Nat} {u : ℝ} (hu : 0 ≤ u) (hk : ((k + 1 : Nat) : ℝ) * u < 1) :
    (gam k u + u) / (1 - u) ≤ gam (k + 1) u := by
  push_cast at hk
  have hk0 : 0 ≤ (k : ℝ) * u := by positivity
  have h1 : 1 - (k : ℝ) * u ≠ 0 := by linarith
  have h2 : 1 - u ≠ 0 := by linarith
  have e : (gam k u + u) / (1 - u) = (((k : ℝ) + 1) * u - k * u * u) / ((1 - k * u) * (1 - u)) := by
    unfold gam; field_simp; ring
  rw [e, gam, Nat.cast_succ]
  have huu := mul_nonneg hk0 hu
  exact div_le_div₀ (by positivity) (by linarith) (by linarith) (by linarith)

theorem gam_mono {k : Nat} {u : ℝ} (hu : 0 ≤ u) (hk : ((k + 1 : Nat) : ℝ) * u < 1) : gam k u ≤ gam (k + 1) u := by
  have hg : 0 ≤ gam k u := gam_nonneg hu (by push_cast at hk; linarith)
  linarith [gam_step1 hu hk, mul_nonneg hg hu]

/-! ### the standard model of rounded arithmetic -/

/-- `fl x = x (1 + δ)`, `|δ| ≤ u` -/
def StdModel (fl : ℝ → ℝ) (u : ℝ) : Prop := ∀ x, |fl x - x| ≤ u * |x|

/-- `ℝ` with every arithmetic operation followed by a rounding `fl`; comparisons are exact -/
@[instance_reducible] noncomputable def rndScalar (fl : ℝ → ℝ) : Scalar ℝ :=
  { instScalarReal with
    add := fun a b => fl (a + b)
    sub := fun a b => fl (a - b)
    mul := fun a b => fl (a * b)
    div := fun a b => fl (a / b) }

section Cell
variable {fl : ℝ → ℝ} {u g G : ℝ}

theorem abs_le_of_round (h : StdModel fl u) (x : ℝ) : (1 - u) * |x| ≤ |fl x| := by
  have := abs_sub_abs_le_abs_sub x (fl x)
  rw [abs_sub_comm] at this
  linarith [h x]

/-- an error `(g+u)·X` is absorbed into `G·X'` when the rounded quantity `X'` is at least `(1−u)·X` -/
theorem absorb {X X' : ℝ} (hG : 0 ≤ G) (hG2 : g + u ≤ G * (1 - u)) (hX0 : 0 ≤ X) (hX : (1 - u) * X ≤ X') :
    (g + u) * X ≤ G * X' :=
  calc (g + u) * X ≤ G * (1 - u) * X := mul_le_mul_of_nonneg_right hG2 hX0
    _ = G * ((1 - u) * X) := mul_assoc _ _ _
    _ ≤ G * X' := mul_le_mul_of_nonneg_left hX hG

/-- one elimination update `w' = fl(w − fl(l·c))` keeps the error invariant, with `γ_k → γ_{k+1}` -/
theorem cell_update (h : StdModel fl u) (hu : 0 ≤ u) (hg : 0 ≤ g)
    (hG1 : g * (1 + u) + u ≤ G) (hG2 : g + u ≤ G * (1 - u)) {a S T w l c : ℝ} (hT : 0 ≤ T)
    (hE : |a - w - S| ≤ g * (|w| + T)) :
    |a - fl (w - fl (l * c)) - (S + l * c)| ≤ G * (|fl (w - fl (l * c))| + (T + |l| * |c|)) := by
  rw [← abs_mul l c]
  generalize l * c = q
  have hgG : g ≤ G := by linarith [mul_nonneg hg hu]
  have hw : |w| ≤ |w - fl q| + (1 + u) * |q| := by
    have h1 := abs_sub_abs_le_abs_sub (fl q) q
    have h2 := abs_add_le (w - fl q) (fl q)
    rw [sub_add_cancel] at h2
    linarith [h q]
  calc |a - fl (w - fl q) - (S + q)|
      = |(a - w - S) - (fl (w - fl q) - (w - fl q)) + (fl q - q)| := by ring_nf
    _ ≤ |a - w - S| + |fl (w - fl q) - (w - fl q)| + |fl q - q| := (abs_add_le _ _).trans (add_le_add_left (abs_sub _ _) _)
    _ ≤ g * (|w - fl q| + (1 + u) * |q| + T) + u * |w - fl q| + u * |q| :=
        add_le_add (add_le_add (hE.trans (mul_le_mul_of_nonneg_left (by linarith) hg)) (h _)) (h q)
    _ = (g + u) * |w - fl q| + (g * (1 + u) + u) * |q| + g * T := by ring
    _ ≤ G * |fl (w - fl q)| + G * |q| + G * T :=
        add_le_add (add_le_add (absorb (hg.trans hgG) hG2 (abs_nonneg _) (abs_le_of_round h _))
          (mul_le_mul_of_nonneg_right hG1 (abs_nonneg q))) (mul_le_mul_of_nonneg_right hgG hT)
    _ = G * (|fl (w - fl q)| + (T + |q|)) := by ring

/-- the multiplier `l = fl(w / d)` -/
theorem cell_divide (h : StdModel fl u) (hg : 0 ≤ g)
    (hG2 : g + u ≤ G * (1 - u)) (hgG : g ≤ G) {a S T w d : ℝ} (hT : 0 ≤ T) (hd : d ≠ 0)
    (hE : |a - w - S| ≤ g * (|w| + T)) :
    |a - 0 - (S + fl (w / d) * d)| ≤ G * (|(0 : ℝ)| + (T + |fl (w / d)| * |d|)) := by
  obtain ⟨q, rfl⟩ : ∃ q, w = q * d := ⟨w / d, (div_mul_cancel₀ w hd).symm⟩
  rw [mul_div_cancel_right₀ q hd]
  rw [abs_mul] at hE
  calc |a - 0 - (S + fl q * d)| = |(a - q * d - S) - (fl q - q) * d| := by ring_nf
    _ ≤ |a - q * d - S| + |fl q - q| * |d| := (abs_sub _ _).trans_eq (by rw [abs_mul])
    _ ≤ g * (|q| * |d| + T) + u * |q| * |d| := add_le_add hE (mul_le_mul_of_nonneg_right (h q) (abs_nonneg d))
    _ = (g + u) * (|q| * |d|) + g * T := by ring
    _ ≤ G * (|fl q| * |d|) + G * T :=
        add_le_add (absorb (hg.trans hgG) hG2 (by positivity)
          ((mul_assoc _ _ _).symm.trans_le (mul_le_mul_of_nonneg_right (abs_le_of_round h q) (abs_nonneg d))))
          (mul_le_mul_of_nonneg_right hgG hT)
    _ = G * (|(0 : ℝ)| + (T + |fl q| * |d|)) := by rw [abs_zero]; ring
end Cell

/-! ### the constructor run in rounded arithmetic -/
section Rounded
variable {m n : Nat}

theorem eliminate_rnd_get (fl : ℝ → ℝ) (W : Mat ℝ m n) (k : Fin n) (kr i : Fin m) (j : Fin n) :
    (@eliminate ℝ (rndScalar fl) m n W k kr).get i j =
      if W.get kr k = 0 ∨ ¬ kr.val < i.val then W.get i j
      else if j = k then fl (W.get i k / W.get kr k)
      else if k.val < j.val then fl (W.get i j - fl (fl (W.get i k / W.get kr k) * W.get kr j))
      else W.get i j := by
  unfold eliminate
  have hz : @Scalar.eqb ℝ (rndScalar fl) (W.get kr k) (@Scalar.zero ℝ (rndScalar fl)) = decide (W.get kr k = 0) := by
    show decide (W.get kr k = ((0 : Int) : ℝ)) = _
    simp
  rw [hz]
  by_cases h0 : W.get kr k = 0
  · simp [h0]
  · by_cases hi : kr.val < i.val
    · simp only [h0, hi, decide_false, Mat.get_ofFn, if_true, false_or, not_true_eq_false, if_false, Bool.false_eq_true]
      rfl
    · simp only [h0, hi, decide_false, Bool.false_eq_true, if_false, Mat.get_ofFn, false_or, not_false_eq_true, if_true]

/-- rows at or above the pivot row are untouched -/
theorem eliminate_rnd_row (fl : ℝ → ℝ) (W : Mat ℝ m n) (k : Fin n) {kr i : Fin m} (j : Fin n) (h : ¬ kr.val < i.val) :
    (@eliminate ℝ (rndScalar fl) m n W k kr).get i j = W.get i j := by
  rw [eliminate_rnd_get, if_pos (Or.inr h)]

/-- columns left of the pivot column are untouched -/
theorem eliminate_rnd_col (fl : ℝ → ℝ) (W : Mat ℝ m n) {k : Fin n} (kr i : Fin m) {l : Fin n} (hl : l.val < k.val) :
    (@eliminate ℝ (rndScalar fl) m n W k kr).get i l = W.get i l := by
  rw [eliminate_rnd_get, if_neg (Fin.ne_of_lt hl), if_neg (Nat.lt_asymm hl), ite_self]

/-- partial pivoting in exact arithmetic (`fl = id`): after `k` iterations the multipliers stored in the columns `< k`
have magnitude at most one -/
def MultInv (k : Nat) (s : State ℝ m n) : Prop :=
  ∀ (i : Fin m) (l : Fin n), l.val < k → l.val < i.val → |s.lu.get i l| ≤ 1

theorem multInv_exchange (k : Nat) (s : State ℝ m n) (p kr : Fin m)
    (hp : k ≤ p.val) (hkr : k ≤ kr.val) (hs : MultInv k s) : MultInv k (exchange s p kr) := by
  intro i l hl hli
  rw [exchange_get]
  apply hs _ l hl
  rcases swap_eq_or_ge hp hkr i with e | e
  · rw [e]; exact hli
  · omega

theorem multInv_eliminate (h : n ≤ m) (k : Fin n) (s : State ℝ m n) (hs : MultInv k.val s)
    (hmax : ∀ i : Fin m, k.val ≤ i.val → |s.lu.get i k| ≤ |s.lu.get (k.castLE h) k|) :
    MultInv (k.val + 1) { s with lu := eliminate s.lu k (k.castLE h) } := by
  intro i l hl hli
  show |(@eliminate ℝ (rndScalar id) m n s.lu k (k.castLE h)).get i l| ≤ 1
  by_cases hlk : l.val < k.val
  · rw [eliminate_rnd_col id _ _ _ hlk]
    exact hs i l hlk hli
  · -- the multiplier column: a quotient by the entry of largest magnitude, or (pivot zero) a zero
    obtain rfl : l = k := Fin.ext (by omega)
    have hm := hmax i (by omega)
    rw [eliminate_rnd_get]
    by_cases hz : s.lu.get (l.castLE h) l = 0
    · rw [if_pos (Or.inl hz)]
      rw [hz, abs_zero] at hm
      exact hm.trans zero_le_one
    · rw [if_neg (not_or.mpr ⟨hz, not_not.mpr (by exact hli)⟩), if_pos rfl]
      show |s.lu.get i l / s.lu.get (l.castLE h) l| ≤ 1
      rw [abs_div]
      exact div_le_one_of_le₀ hm (abs_nonneg _)

theorem multInv_factor (h : n ≤ m) (A : Mat ℝ m n) : MultInv n (factor h A) :=
  factor_inv h A eliminate MultInv (fun i l hl => by omega) multInv_exchange (multInv_eliminate h)

theorem findPivot_rnd (fl : ℝ → ℝ) (W : Mat ℝ m n) (k : Fin n) (kr : Fin m) :
    @findPivot ℝ (rndScalar fl) m n W k kr = @findPivot ℝ instScalarReal m n W k kr := rfl

theorem getL_rnd (fl : ℝ → ℝ) (s : State ℝ m n) : @getL ℝ (rndScalar fl) m n s = @getL ℝ instScalarReal m n s := rfl
theorem getU_rnd (fl : ℝ → ℝ) (h : n ≤ m) (s : State ℝ m n) : @getU ℝ (rndScalar fl) m n h s = @getU ℝ instScalarReal m n h s := rfl

/-- entry `(i,j)` of the working matrix with its first `c` columns read as zeros: with `c = min k i`
the part of row `i` that holds no multiplier after `k` iterations, with `c = i` row `i` of the upper
factor -/
def Rk (W : Mat ℝ m n) (c : Nat) (i : Fin m) (j : Fin n) : ℝ := if j.val < c then 0 else W.get i j

/-- loop invariant of the rounded constructor after `k` iterations: componentwise backward error
`|A(piv i, j) − R(i,j) − Σ_{l<min k i} W(i,l)·R(l,j)| ≤ γ_k·(|R(i,j)| + Σ |W(i,l)|·|R(l,j)|)` -/
def RInv (h : n ≤ m) (u : ℝ) (A : Mat ℝ m n) (k : Nat) (s : State ℝ m n) : Prop :=
  ∀ (i : Fin m) (j : Fin n),
    |A.get (s.piv[i.val]'i.isLt) j - Rk s.lu (min k i.val) i j
        - psum (min k i.val) (fun l => s.lu.get i l * Rk s.lu l.val (l.castLE h) j)|
      ≤ gam k u * (|Rk s.lu (min k i.val) i j|
        + psum (min k i.val) (fun l => |s.lu.get i l| * |Rk s.lu l.val (l.castLE h) j|))

theorem bound_mono {x g G B : ℝ} (hx : |x| ≤ g * B) (hB : 0 ≤ B) (hgG : g ≤ G) : |x| ≤ G * B :=
  hx.trans (mul_le_mul_of_nonneg_right hgG hB)

theorem rInv_init (h : n ≤ m) (u : ℝ) (A : Mat ℝ m n) : RInv h u A 0 (init A) := by
  intro i j
  simp [init, psum_zero, Rk, gam]

/-- the invariant at row `i` mentions row `i` of the working matrix, entry `i` of the pivot vector,
the rows `< min k i` and, of `i` itself, only `min k i`: it survives an exchange of two rows `≥ k` -/
theorem rInv_exchange (h : n ≤ m) (u : ℝ) (A : Mat ℝ m n) (k : Nat) (s : State ℝ m n) (p kr : Fin m)
    (hp : k ≤ p.val) (hkr : k ≤ kr.val) (hs : RInv h u A k s) : RInv h u A k (exchange s p kr) := by
  intro i j
  have hmin : min k i.val = min k (Equiv.swap p kr i).val := by
    rcases swap_eq_or_ge hp hkr i with e | ⟨h1, h2⟩
    · rw [e]
    · rw [min_eq_left h1, min_eq_left h2]
  have hR : ∀ l : Fin n, l.val < min k (Equiv.swap p kr i).val →
      Rk (exchange s p kr).lu l.val (l.castLE h) j = Rk s.lu l.val (l.castLE h) j := by
    intro l hl
    have hlk : l.val < k := lt_of_lt_of_le hl (min_le_left _ _)
    unfold Rk
    rw [exchange_get, Equiv.swap_apply_of_ne_of_ne] <;>
      exact fun e => absurd (congrArg Fin.val e) (by simp only [Fin.val_castLE]; omega)
  have e1 : ∀ c, Rk (exchange s p kr).lu c i j = Rk s.lu c (Equiv.swap p kr i) j := fun c => by
    unfold Rk; rw [exchange_get]
  rw [exchange_piv, e1, hmin,
    psum_congr _ _ _ (fun l hl => by rw [exchange_get, hR l hl]),
    psum_congr _ (fun l => |(exchange s p kr).lu.get i l| * _) _ (fun l hl => by rw [exchange_get, hR l hl])]
  exact hs (Equiv.swap p kr i) j

/-- the (rounded) elimination of iteration `k` advances the invariant, `γ_k → γ_{k+1}`; when the
pivot is zero the iteration is skipped, which is sound because the pivot search then guarantees a
zero column below it -/
theorem rInv_eliminate {fl : ℝ → ℝ} {u : ℝ} (hfl : StdModel fl u) (hu : 0 ≤ u)
    (h : n ≤ m) (A : Mat ℝ m n) (k : Fin n) (hku : ((k.val + 1 : Nat) : ℝ) * u < 1) (s : State ℝ m n)
    (hs : RInv h u A k.val s)
    (hz : s.lu.get (k.castLE h) k = 0 → ∀ i : Fin m, k.val ≤ i.val → s.lu.get i k = 0) :
    RInv h u A (k.val + 1) { s with lu := @eliminate ℝ (rndScalar fl) m n s.lu k (k.castLE h) } := by
  have hku' : (k.val : ℝ) * u < 1 := by push_cast at hku; linarith
  have hg := gam_nonneg hu hku'
  have hG1 := gam_step1 hu hku
  have hG2 : gam k.val u + u ≤ gam (k.val + 1) u * (1 - u) :=
    (div_le_iff₀ (by push_cast at hku; linarith [mul_nonneg (Nat.cast_nonneg (α := ℝ) k.val) hu])).mp (gam_step2 hu hku)
  have hgG := gam_mono hu hku
  intro i j
  have hsij := hs i j
  show |A.get (s.piv[i.val]'i.isLt) j - _ - _| ≤ _
  simp only
  set W := s.lu
  set W' := @eliminate ℝ (rndScalar fl) m n W k (k.castLE h) with hW'
  have hget := fun i' j' => eliminate_rnd_get fl W k (k.castLE h) i' j'
  rw [← hW'] at hget
  simp only [Fin.val_castLE] at hget
  have hrow : ∀ (i' : Fin m) (j' : Fin n), ¬ k.val < i'.val → W'.get i' j' = W.get i' j' :=
    fun i' j' hh => eliminate_rnd_row fl W k j' hh
  have hcol : ∀ (i' : Fin m) (l : Fin n), l.val < k.val → W'.get i' l = W.get i' l :=
    fun i' l hl => eliminate_rnd_col fl W _ i' hl
  have hR : ∀ l : Fin n, l.val ≤ k.val → Rk W' l.val (l.castLE h) j = Rk W l.val (l.castLE h) j :=
    fun l hl => by unfold Rk; rw [hrow _ j (by simp only [Fin.val_castLE]; omega)]
  have hTnn : ∀ c, 0 ≤ psum c (fun l => |W.get i l| * |Rk W l.val (l.castLE h) j|) :=
    fun c => psum_nonneg c _ (fun l => mul_nonneg (abs_nonneg _) (abs_nonneg _))
  by_cases hik : k.val < i.val
  · -- a row below the pivot row: the sums gain the term `l = k`
    rw [min_eq_left (le_of_lt hik)] at hsij
    rw [min_eq_left (by omega : k.val + 1 ≤ i.val), psum_succ _ k.isLt, psum_succ _ k.isLt,
      psum_congr _ _ _ (fun l hl => by rw [hcol i l hl, hR l (le_of_lt hl)]),
      psum_congr _ (fun l => |W'.get i l| * _) _ (fun l hl => by rw [hcol i l hl, hR l (le_of_lt hl)])]
    simp only [Fin.eta]
    rw [hR k (le_refl _)]
    by_cases hpz : W.get (k.castLE h) k = 0
    · -- skipped iteration: the new term is zero
      have hR' : Rk W' (k.val + 1) i j = Rk W k.val i j := by
        unfold Rk
        rw [hget, if_pos (Or.inl hpz)]
        by_cases hjk : j = k
        · rw [if_pos (by rw [hjk]; omega), if_neg (by rw [hjk]; omega), hjk, hz hpz i (le_of_lt hik)]
        · have := Fin.val_ne_of_ne hjk
          by_cases hlt : j.val < k.val
          · rw [if_pos (by omega), if_pos hlt]
          · rw [if_neg (by omega), if_neg hlt]
      rw [hR', hget, if_pos (Or.inl hpz), hz hpz i (le_of_lt hik)]
      simp only [zero_mul, add_zero, abs_zero]
      exact bound_mono hsij (add_nonneg (abs_nonneg _) (hTnn _)) hgG
    · have hne : ¬ (W.get (k.castLE h) k = 0 ∨ ¬ k.val < i.val) := not_or.mpr ⟨hpz, not_not.mpr hik⟩
      have hlm : W'.get i k = fl (W.get i k / W.get (k.castLE h) k) := by
        rw [hget, if_neg hne, if_pos rfl]
      rw [hlm]
      unfold Rk at hsij ⊢
      rcases lt_trichotomy j.val k.val with hjk | hjk | hjk
      · -- a column already eliminated: both `R` entries and the new term are zero
        rw [if_pos hjk] at hsij
        rw [if_pos (by omega), if_pos hjk]
        simp only [mul_zero, add_zero, abs_zero] at hsij ⊢
        exact bound_mono hsij (add_nonneg (le_refl _) (hTnn _)) hgG
      · -- the multiplier column
        obtain rfl : j = k := Fin.ext hjk
        rw [if_neg (lt_irrefl _)] at hsij
        rw [if_pos (by omega), if_neg (lt_irrefl _)]
        exact cell_divide hfl hg hG2 hgG (hTnn _) hpz hsij
      · -- the trailing block
        rw [if_neg (by omega)] at hsij
        rw [if_neg (by omega), if_neg (by omega), hget, if_neg hne, if_neg (Fin.ne_of_gt hjk), if_pos hjk]
        exact cell_update hfl hu hg hG1 hG2 (hTnn _) hsij
  · -- a row at or above the pivot row: nothing changes
    have e1 : min k.val i.val = i.val := min_eq_right (by omega)
    rw [e1] at hsij
    rw [min_eq_right (by omega : i.val ≤ k.val + 1),
      psum_congr _ _ _ (fun l hl => by rw [hrow i l hik, hR l (by omega)]),
      psum_congr _ (fun l => |W'.get i l| * _) _ (fun l hl => by rw [hrow i l hik, hR l (by omega)])]
    have hR' : Rk W' i.val i j = Rk W i.val i j := by unfold Rk; rw [hrow i j hik]
    rw [hR']
    exact bound_mono hsij (add_nonneg (abs_nonneg _) (hTnn _)) hgG

theorem rInv_factor {fl : ℝ → ℝ} {u : ℝ} (hfl : StdModel fl u) (hu : 0 ≤ u)
    (h : n ≤ m) (hnu : (n : ℝ) * u < 1) (A : Mat ℝ m n) : RInv h u A n (@factor ℝ (rndScalar fl) m n h A) :=
  factor_inv h A (@eliminate ℝ (rndScalar fl) m n) (RInv h u A) (rInv_init h u A) (rInv_exchange h u A) fun k s hs hmax =>
    rInv_eliminate hfl hu h A k
      (lt_of_le_of_lt (mul_le_mul_of_nonneg_right (by exact_mod_cast k.isLt) hu) hnu) s hs
      -- a zero pivot of maximal magnitude: the column is zero from the diagonal down
      fun hz i hi => by have := hmax i hi; rwa [hz, abs_zero, abs_nonpos_iff] at this

/-- a product with `getL`: row `i` of `M` itself (the unit diagonal) plus the multipliers of row `i` times the rows
above it -/
theorem getL_matMul {p : Nat} (s : State ℝ m n) (M : Mat ℝ n p) (i : Fin m) (j : Fin p) :
    (matMul (getL s) M).get i j =
      (if h : i.val < n then M.get ⟨i.val, h⟩ j else 0) + psum i.val (fun l => s.lu.get i l * M.get l j) := by
  simp only [matMul_get, getL, Mat.get_ofFn, ScalarReal.one_eq, ScalarReal.zero_eq, psum]
  have hsplit : ∀ l : Fin n,
      (if l.val < i.val then s.lu.get i l else if i.val = l.val then 1 else 0) * M.get l j
      = (if i.val = l.val then M.get l j else 0) + (if l.val < i.val then s.lu.get i l * M.get l j else 0) := by
    intro l
    by_cases h1 : l.val < i.val
    · rw [if_pos h1, if_pos h1, if_neg (by omega), zero_add]
    · rw [if_neg h1, if_neg h1, add_zero]
      by_cases h3 : i.val = l.val
      · rw [if_pos h3, if_pos h3, one_mul]
      · rw [if_neg h3, if_neg h3, zero_mul]
  simp only [hsplit, Finset.sum_add_distrib]
  congr 1
  by_cases hin : i.val < n
  · rw [dif_pos hin, Finset.sum_eq_single ⟨i.val, hin⟩ (fun l _ hl => if_neg fun e => hl (Fin.ext e.symm))
      (fun h => absurd (Finset.mem_univ _) h), if_pos rfl]
  · rw [dif_neg hin]
    exact Finset.sum_eq_zero fun l _ => if_neg (by have := l.isLt; omega)

theorem getU_get (h : n ≤ m) (s : State ℝ m n) (l j : Fin n) :
    (getU h s).get l j = Rk s.lu l.val (l.castLE h) j := by
  simp only [getU, Mat.get_ofFn, Rk, ScalarReal.zero_eq]
  by_cases h1 : l.val ≤ j.val
  · rw [if_pos h1, if_neg (by omega)]
  · rw [if_neg h1, if_pos (by omega)]

theorem getLU_entries (h : n ≤ m) (s : State ℝ m n) (i : Fin m) (j : Fin n) :
    Rk s.lu (min n i.val) i j + psum (min n i.val) (fun l => s.lu.get i l * Rk s.lu l.val (l.castLE h) j)
      = (matMul (getL s) (getU h s)).get i j := by
  rw [getL_matMul, psum_min]
  simp only [getU_get]
  congr 1
  by_cases hin : i.val < n
  · rw [dif_pos hin, min_eq_right (le_of_lt hin)]
    rfl
  · rw [dif_neg hin, min_eq_left (by omega), Rk, if_pos j.isLt]

/-- entry-wise absolute value -/
noncomputable def absM {a b : Nat} (M : Mat ℝ a b) : Mat ℝ a b := Mat.ofFn fun i j => |M.get i j|

@[simp] theorem absM_get {a b : Nat} (M : Mat ℝ a b) (i : Fin a) (j : Fin b) : (absM M).get i j = |M.get i j| := by
  simp [absM]

theorem Rk_absM (W : Mat ℝ m n) (c : Nat) (i : Fin m) (j : Fin n) : Rk (absM W) c i j = |Rk W c i j| := by
  unfold Rk
  split_ifs <;> simp

/-- **backward error of the factorisation in rounded arithmetic** (Higham, Accuracy and Stability
of Numerical Algorithms, Thm 9.3, for the code's right-looking elimination with partial pivoting and
zero-pivot skip): `|A(piv,:) − L̂·Û| ≤ γ_n·|L̂|·|Û|` componentwise, `L̂`, `Û`, `piv` being what the
constructor computes when every `/`, `*`, `−` is followed by a rounding `fl` with
`|fl x − x| ≤ u·|x|` and `n·u < 1` -/
theorem factor_rounded_entries {fl : ℝ → ℝ} {u : ℝ} (hfl : StdModel fl u) (hu : 0 ≤ u)
    (h : n ≤ m) (hnu : (n : ℝ) * u < 1) (A : Mat ℝ m n) (i : Fin m) (j : Fin n) :
    |(permuteRows (@factor ℝ (rndScalar fl) m n h A).piv A).get i j
        - (matMul (getL (@factor ℝ (rndScalar fl) m n h A)) (getU h (@factor ℝ (rndScalar fl) m n h A))).get i j|
      ≤ gam n u * (matMul (absM (getL (@factor ℝ (rndScalar fl) m n h A)))
          (absM (getU h (@factor ℝ (rndScalar fl) m n h A)))).get i j := by
  have hinv := rInv_factor hfl hu h hnu A i j
  generalize @factor ℝ (rndScalar fl) m n h A = s at hinv
  -- the state with every packed entry replaced by its magnitude
  set sa : State ℝ m n := { s with lu := absM s.lu } with hsa
  have hL : absM (getL s) = getL sa := by
    apply Mat.ext; intro a b
    simp only [absM, getL, Mat.get_ofFn, hsa, ScalarReal.one_eq, ScalarReal.zero_eq]
    split
    · rfl
    · split <;> simp
  have hU : absM (getU h s) = getU h sa := by
    apply Mat.ext; intro a b
    simp only [absM, getU, Mat.get_ofFn, hsa, ScalarReal.zero_eq]
    split
    · rfl
    · simp
  rw [hL, hU, ← getLU_entries h s i j, ← getLU_entries h sa i j]
  simp only [permuteRows, Mat.get_ofFn, hsa, Rk_absM, absM_get, ← sub_sub]
  exact hinv

theorem rndScalar_id : rndScalar id = instScalarReal := rfl

/-- exact arithmetic is the rounding `id` with `u = 0`, where `γ_n = 0`: **`A(piv,:) = L·U`** -/
theorem factor_entries (h : n ≤ m) (A : Mat ℝ m n) (i : Fin m) (j : Fin n) :
    (permuteRows (factor h A).piv A).get i j = (matMul (getL (factor h A)) (getU h (factor h A))).get i j := by
  have := factor_rounded_entries (fl := id) (u := 0) (fun x => by simp) (le_refl _) h (by simp) A i j
  rw [rndScalar_id] at this
  exact sub_eq_zero.mp (abs_nonpos_iff.mp (this.trans_eq (by simp [gam])))

end Rounded

end Bpp.LU
