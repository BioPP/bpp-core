import BppModel.TreeRef
import BppProofs.Lemmas.TreeValid
import BppProofs.Lemmas.PTreeLine
/-
Valid rooted trees: the father queries and the climb of the model agree with the parent function
of the tree, which is the parent function `Ref.parent` read off the edge table.
-/
namespace Bpp.Graph
open AL

/-- a valid rooted tree: consistent tables, directed, and the validity traversal answers true -/
structure ValidRooted (g : G) : Prop where
  cons : Consistent g
  dir : g.directed = true
  tree : T.isTree g = .ok true

/-- the directed graph `g` is the rooted tree `P` -/
structure DTree (g : G) (P : PTree) : Prop where
  cons : Consistent g
  dir : g.directed = true
  wf : P.WF
  nodes : ∀ n, n ∈ P.nodes ↔ g.hasNode n = true
  arc : ∀ a b, Arc g a b ↔ P.par b = some a

theorem DTree.matches {g : G} {P : PTree} (h : DTree g P) : Matches g P :=
  ⟨h.nodes, fun a b => by rw [h.arc a b]; simp [h.dir]⟩

theorem DTree.of_matches {g : G} {P : PTree} (hc : Consistent g) (hd : g.directed = true) (hw : P.WF) (hm : Matches g P) : DTree g P :=
  ⟨hc, hd, hw, hm.nodes, fun a b => by rw [hm.arc a b]; simp [hd]⟩

theorem ValidRooted.dtree {g : G} (hv : ValidRooted g) : ∃ P, DTree g P ∧ P.root = g.root := by
  obtain ⟨P, hw, hm, hr⟩ := (T.isTree_iff hv.cons).1 hv.tree
  exact ⟨P, DTree.of_matches hv.cons hv.dir hw hm, hr⟩

theorem DTree.validRooted {g : G} {P : PTree} (h : DTree g P) (hr : P.root = g.root) : ValidRooted g :=
  ⟨h.cons, h.dir, (T.isTree_iff h.cons).2 ⟨P, h.wf, h.matches, hr⟩⟩

theorem mem_up_of_consistent {g : G} (hc : Consistent g) (hd : g.directed = true) (c a e : Nat) :
    (c, a, e) ∈ (refRaw g).up ↔ g.outE a c = some e := by
  rw [← G.mem_edges_iff_out hc hd]
  constructor
  · intro hm
    obtain ⟨⟨e', a', c'⟩, hm', heq⟩ := List.mem_map.1 hm
    cases heq; exact hm'
  · intro hm; exact List.mem_map.2 ⟨(e, a, c), hm, rfl⟩

namespace DTree
variable {g : G} {P : PTree}

theorem inKeys (h : DTree g P) (n : Nat) :
    g.inKeys n = match P.par n with | some p => [p] | none => [] := by
  have hmem : ∀ a, a ∈ g.inKeys n ↔ P.par n = some a := fun a => by
    rw [G.mem_inKeys, G.inE_iff_arc h.cons, h.arc]
  cases hp : P.par n with
  | none => exact List.eq_nil_iff_forall_not_mem.2 (fun a ha => by rw [hmem, hp] at ha; cases ha)
  | some p =>
    refine List.perm_singleton.1 ((List.perm_ext_iff_of_nodup (G.nodup_of_asc (G.asc_inKeys h.cons.sorted n))
      (by simp)).2 (fun a => ?_))
    rw [hmem, hp, List.mem_singleton, Option.some.injEq, eq_comm]

theorem hasFather (h : DTree g P) {n : Nat} (hn : g.hasNode n = true) : T.hasFather g n = some (P.par n).isSome := by
  rw [T.hasFather_eq, h.inKeys n, if_pos hn]
  cases P.par n <;> rfl

theorem father (h : DTree g P) {n : Nat} (hn : g.hasNode n = true) : T.father g n = P.par n := by
  rw [T.father_eq, h.inKeys n, if_pos hn]
  cases P.par n <;> rfl

theorem hasFather_absent {n : Nat} (hn : g.hasNode n = false) : T.hasFather g n = none := by
  rw [T.hasFather_eq, hn]; rfl

/-- the sons of a node are its outgoing neighbours -/
theorem mem_outKeys (h : DTree g P) (n c : Nat) : c ∈ g.outKeys n ↔ P.par c = some n := by
  rw [G.mem_outKeys]; exact h.arc n c

theorem arc_out (h : DTree g P) {a b : Nat} (hp : P.par b = some a) : ∃ e, g.outE a b = some e :=
  out_of_arc ((h.arc a b).2 hp)

/-- the climb of the path / MRCA queries: the ancestor line, whatever the fuel beyond the depth -/
theorem climb (h : DTree g P) : ∀ (fuel n : Nat) (acc : List Nat), n ∈ P.nodes → P.rank n + 1 ≤ fuel →
    T.climb g fuel n acc = .ok (acc ++ P.line n) := by
  intro fuel
  induction fuel with
  | zero => intro n acc _ hr; cases hr
  | succ f ih =>
    intro n acc hn hr
    have hnode := (h.nodes n).1 hn
    rw [T.climb, h.hasFather hnode, h.father hnode]
    cases hp : P.par n with
    | none => rw [PTree.line_of_none hp]; rfl
    | some p =>
      have hm := h.wf.par_mem hp
      rw [hm.2.2.2] at hr
      show T.climb g f p (acc ++ [n]) = _
      rw [ih p _ hm.2.2.1 (Nat.le_of_succ_le_succ hr), h.wf.line_cons hp, List.append_assoc]; rfl

/-- the depth of a node is below the node count: the fuel `node count + 2` suffices for every climb -/
theorem rank_lt (h : DTree g P) {n : Nat} (hn : n ∈ P.nodes) : P.rank n + 1 ≤ g.nodes.length := by
  have := h.wf.rank_lt hn (l := AL.keys g.nodes) (fun x hx => (G.mem_keys_hasNode g x).2 ((h.nodes x).1 hx))
  rwa [AL.keys, List.length_map] at this

theorem climb_std (h : DTree g P) {n : Nat} (hn : n ∈ P.nodes) :
    T.climb g (g.nodes.length + 2) n [] = .ok (P.line n) :=
  h.climb _ n [] hn (Nat.le_succ_of_le (Nat.le_succ_of_le (h.rank_lt hn)))

/-! ### the parent function read off the edge table is the parent function of the tree -/

theorem mem_up (h : DTree g P) (c a e : Nat) : (c, a, e) ∈ (refRaw g).up ↔ g.outE a c = some e :=
  mem_up_of_consistent h.cons h.dir c a e

/-- the entry of the reference that leads to `n`: the one of the edge from its father -/
theorem up_find (h : DTree g P) (n : Nat) : (refRaw g).up.find? (fun t => t.1 == n) =
    (P.par n).bind fun p => (g.outE p n).map fun e => (n, p, e) := by
  cases hf : (refRaw g).up.find? (fun t => t.1 == n) with
  | none =>
    cases hp : P.par n with
    | none => rfl
    | some a =>
      obtain ⟨e, ho⟩ := h.arc_out hp
      have := List.find?_eq_none.1 hf _ ((h.mem_up n a e).2 ho)
      simp at this
  | some t =>
    obtain ⟨c, a, e⟩ := t
    obtain rfl : c = n := by simpa using List.find?_some hf
    have ho := (h.mem_up c a e).1 (List.mem_of_find?_eq_some hf)
    rw [(h.arc a c).1 (arc_of_out ho), Option.bind_some, ho]; rfl

theorem ref_parent (h : DTree g P) (n : Nat) : (refRaw g).parent n = P.par n := by
  rw [Ref.parent, h.up_find]
  cases hp : P.par n with
  | none => rfl
  | some p => obtain ⟨e, ho⟩ := h.arc_out hp; rw [Option.bind_some, ho]; rfl

theorem ref_parent_eq (h : DTree g P) : (refRaw g).parent = P.par := funext h.ref_parent

/-- the edge to the father as read off the edge table is the one of the node table -/
theorem ref_edgeUp (h : DTree g P) {n : Nat} (hn : g.hasNode n = true) : (refRaw g).edgeUp n = T.edgeToFather g n := by
  rw [Ref.edgeUp, T.edgeToFather, h.father hn, h.up_find]
  cases hp : P.par n with
  | none => rfl
  | some p => obtain ⟨e, ho⟩ := h.arc_out hp; rw [Option.bind_some, Option.bind_some, G.getEdge, ho]; rfl

/-- `Ref.line` is the ancestor line -/
theorem ref_line (r : Ref) : ∀ (fuel n : Nat), r.line fuel n = lineOf r.parent fuel n := by
  intro fuel
  induction fuel with
  | zero => intro n; rfl
  | succ f ih =>
    intro n
    rw [Ref.line, lineOf]
    cases r.parent n with
    | none => rfl
    | some p => exact congrArg (n :: ·) (ih p)

theorem ref_nodes (g : G) : (refRaw g).nodes = AL.keys g.nodes := rfl

theorem mem_ref_nodes (h : DTree g P) (x : Nat) : x ∈ (refRaw g).nodes ↔ x ∈ P.nodes :=
  (G.mem_keys_hasNode g x).trans (h.nodes x).symm

theorem ref_anc (h : DTree g P) {n : Nat} (hn : n ∈ P.nodes) : (refRaw g).anc n = P.line n := by
  rw [Ref.anc, ref_line, h.ref_parent_eq]
  refine h.wf.lineOf_eq_line _ _ (Nat.le_of_succ_le (Nat.le_trans (h.rank_lt hn) ?_))
  rw [ref_nodes, AL.keys, List.length_map]; exact Nat.le_refl _

/-- the executable ancestor test of the reference is the ancestor relation -/
theorem ref_isAnc (h : DTree g P) {n : Nat} (hn : n ∈ P.nodes) (a : Nat) : (refRaw g).isAnc a n = true ↔ IsAnc P.par a n := by
  rw [Ref.isAnc, h.ref_anc hn, List.contains_iff_mem]
  exact h.wf.mem_line

end DTree
end Bpp.Graph
