import BppProofs.Lemmas.ParamList
/-! Deletion (by index set, by name) and lookups by name of C02. -/
namespace Bpp.ParamList

theorem keepFrom_congr {idx idx' : List Nat} (e : ∀ n, n ∈ idx ↔ n ∈ idx') (n : Nat) (l : List ObjId) :
    keepFrom idx n l = keepFrom idx' n l := by
  induction l generalizing n with
  | nil => rfl
  | cons a t ih => simp only [keepFrom, e n, ih]

theorem keepFrom_all (idx : List Nat) (n : Nat) (l : List ObjId) (hi : ∀ d ∈ idx, d < n) :
    keepFrom idx n l = l := by
  induction l generalizing n with
  | nil => rfl
  | cons a t ih =>
    have : n ∉ idx := fun c => Nat.lt_irrefl _ (hi n c)
    simp only [keepFrom, this, if_false]
    rw [ih (n + 1) (fun d hd => Nat.lt_succ_of_lt (hi d hd))]

/-- erasing position `d` first, then the smaller positions `ds` -/
theorem keepFrom_eraseIdx (ds : List Nat) (d n : Nat) (l : List ObjId) (hn : n ≤ d) (hds : ∀ x ∈ ds, x < d) :
    keepFrom ds n (l.eraseIdx (d - n)) = keepFrom (d :: ds) n l := by
  induction l generalizing n with
  | nil => rfl
  | cons a t ih =>
    rcases Nat.lt_or_eq_of_le hn with hlt | heq
    · have e : d - n = (d - (n + 1)) + 1 := by omega
      rw [e, List.eraseIdx_cons_succ]
      have hnd : n ≠ d := by omega
      simp only [keepFrom, List.mem_cons, hnd, false_or]
      rw [ih (n + 1) (by omega)]
    · subst heq
      simp only [Nat.sub_self, List.eraseIdx_cons_zero, keepFrom, List.mem_cons, true_or, if_true]
      rw [keepFrom_all ds n t hds, keepFrom_all (n :: ds) (n + 1) t]
      intro x hx
      rcases List.mem_cons.1 hx with rfl | hx
      · omega
      · exact Nat.lt_succ_of_lt (hds x hx)

/-- `keepFrom` numbers the entries from `n` and keeps those whose number is not in `idx` -/
theorem keepFrom_eq (idx : List Nat) (n : Nat) (l : List ObjId) :
    keepFrom idx n l = ((l.zipIdx n).filter (fun x => decide (x.2 ∉ idx))).map Prod.fst := by
  induction l generalizing n with
  | nil => rfl
  | cons a t ih =>
    rw [keepFrom, List.zipIdx_cons, List.filter_cons, ih]
    by_cases c : n ∈ idx
    · rw [if_pos c, if_neg (by rw [decide_eq_false (not_not.2 c)]; nofun)]
    · rw [if_neg c, if_pos (decide_eq_true c), List.map_cons]

theorem length_keepFrom_le (idx : List Nat) (n : Nat) (l : List ObjId) : (keepFrom idx n l).length ≤ l.length := by
  rw [keepFrom_eq, List.length_map]
  exact Nat.le_trans (List.length_filter_le ..) (Nat.le_of_eq List.length_zipIdx)

/-- the erase loop over strictly descending in-range indices computes `keepFrom` -/
theorem eraseDesc_spec (ds : List Nat) (l : List ObjId) (desc : ds.Pairwise (· > ·))
    (inr : ∀ d ∈ ds, d < l.length) : eraseDesc l ds = (keepFrom ds 0 l, none) := by
  induction ds generalizing l with
  | nil => simp [eraseDesc, keepFrom_all]
  | cons d ds ih =>
    have hd := inr d (List.mem_cons_self ..)
    have pw := List.pairwise_cons.1 desc
    simp only [eraseDesc, ge_iff_le, Nat.not_le.2 hd, if_false]
    rw [ih (l.eraseIdx d) pw.2 (fun x hx => by
      have := pw.1 x hx
      rw [List.length_eraseIdx_of_lt hd]; omega)]
    rw [← keepFrom_eraseIdx ds d 0 l (Nat.zero_le _) (fun x hx => pw.1 x hx)]
    simp

theorem insertSorted_perm (a : Nat) (l : List Nat) : (insertSorted a l).Perm (a :: l) := by
  induction l with
  | nil => exact List.Perm.refl _
  | cons b t ih =>
    simp only [insertSorted]
    split
    · exact List.Perm.refl _
    · exact (List.Perm.cons b ih).trans (List.Perm.swap a b t)

theorem sortNat_perm (l : List Nat) : (sortNat l).Perm l := by
  induction l with
  | nil => exact List.Perm.refl _
  | cons a t ih => exact (insertSorted_perm a _).trans (List.Perm.cons a ih)

theorem insertSorted_sorted (a : Nat) (l : List Nat) (s : l.Pairwise (· ≤ ·)) :
    (insertSorted a l).Pairwise (· ≤ ·) := by
  induction l with
  | nil => simp [insertSorted]
  | cons b t ih =>
    have pw := List.pairwise_cons.1 s
    simp only [insertSorted]
    split
    · next hab =>
      refine List.pairwise_cons.2 ⟨fun x hx => ?_, s⟩
      rcases List.mem_cons.1 hx with rfl | hx
      · exact hab
      · exact Nat.le_trans hab (pw.1 x hx)
    · next hab =>
      refine List.pairwise_cons.2 ⟨fun x hx => ?_, ih pw.2⟩
      rcases List.mem_cons.1 ((insertSorted_perm a t).subset hx) with rfl | hx
      · omega
      · exact pw.1 x hx

theorem sortNat_sorted (l : List Nat) : (sortNat l).Pairwise (· ≤ ·) := by
  induction l with
  | nil => simp [sortNat]
  | cons a t ih => exact insertSorted_sorted a _ ih

theorem sortNat_desc (idx : List Nat) (nd : idx.Nodup) : (sortNat idx).reverse.Pairwise (· > ·) := by
  rw [List.pairwise_reverse]
  have nd' : (sortNat idx).Nodup := (sortNat_perm idx).nodup_iff.2 nd
  exact ((sortNat_sorted idx).and nd').imp (fun ⟨h1, h2⟩ => Nat.lt_of_le_of_ne h1 h2)

/-- **index-set deletion, in range**: exactly the complement survives, in order -/
theorem deleteParametersIdx_spec (l : List ObjId) (idx : List Nat) (nd : idx.Nodup)
    (inr : ∀ d ∈ idx, d < l.length) : deleteParametersIdx l idx = (keepFrom idx 0 l, none) := by
  unfold deleteParametersIdx
  rw [eraseDesc_spec _ l (sortNat_desc idx nd) (fun d hd => inr d ((sortNat_perm idx).subset (List.mem_reverse.1 hd)))]
  rw [keepFrom_congr (idx' := idx)]
  intro n
  rw [List.mem_reverse]
  exact (sortNat_perm idx).mem_iff

/-- **index-set deletion, out of range**: raises before any erase (the largest index is tried first) -/
theorem deleteParametersIdx_out (l : List ObjId) (idx : List Nat) (out : ∃ d ∈ idx, l.length ≤ d) :
    deleteParametersIdx l idx = (l, some .index) := by
  unfold deleteParametersIdx
  obtain ⟨d, hd, hl⟩ := out
  -- the head of the reversed sorted list is the maximum
  have hmem : d ∈ (sortNat idx).reverse := List.mem_reverse.2 ((sortNat_perm idx).mem_iff.2 hd)
  cases e : (sortNat idx).reverse with
  | nil => rw [e] at hmem; cases hmem
  | cons m rest =>
    have hsorted : (m :: rest).Pairwise (· ≥ ·) := by
      rw [← e, List.pairwise_reverse]; exact sortNat_sorted idx
    have : d ≤ m := by
      rw [e] at hmem
      rcases List.mem_cons.1 hmem with rfl | h
      · exact Nat.le_refl _
      · exact (List.pairwise_cons.1 hsorted).1 d h
    rw [eraseDesc, if_pos (Nat.le_trans hl this)]

theorem names_getElem?_ne {h : Store} {l : List ObjId} {n : String} {q : Nat} (hq : q < l.length) :
    (names h l)[q]? ≠ some n ↔ (nameOf h l[q] == n) = false := by
  rw [names, List.getElem?_map, List.getElem?_eq_getElem hq, Option.map_some, ne_eq, Option.some.injEq,
    beq_eq_false_iff_ne]

theorem findIdx?_name_none {h : Store} {l : List ObjId} {n : String} :
    l.findIdx? (fun i => nameOf h i == n) = none ↔ n ∉ names h l := by
  rw [List.findIdx?_eq_none_iff, ← hasParameter_false_iff, hasParameter, List.any_eq_false]
  exact forall_congr' (fun _ => forall_congr' (fun _ => Bool.not_eq_true _ |>.symm ▸ Iff.rfl))

theorem findIdx?_name_some {h : Store} {l : List ObjId} {n : String} {k : Nat} :
    l.findIdx? (fun i => nameOf h i == n) = some k ↔
      (names h l)[k]? = some n ∧ ∀ j, j < k → (names h l)[j]? ≠ some n := by
  rw [List.findIdx?_eq_some_iff_getElem]
  constructor
  · rintro ⟨hk, hp, hlt⟩
    exact ⟨by rw [names, List.getElem?_map, List.getElem?_eq_getElem hk, Option.map_some, beq_iff_eq.1 hp],
      fun j hj => (names_getElem?_ne (Nat.lt_trans hj hk)).2 (Bool.eq_false_iff.2 (hlt j hj))⟩
  · rintro ⟨h1, h2⟩
    have hk : k < l.length := by
      have := (List.getElem?_eq_some_iff.1 h1).1; rwa [names, List.length_map] at this
    refine ⟨hk, ?_, fun j hj => Bool.eq_false_iff.1 ((names_getElem?_ne (Nat.lt_trans hj hk)).1 (h2 j hj))⟩
    rw [names, List.getElem?_map, List.getElem?_eq_getElem hk, Option.map_some, Option.some.injEq] at h1
    exact beq_iff_eq.2 h1

theorem which_exact (h : Store) (l : List ObjId) (n : String) (k : Nat) :
    whichParameterHasName h l n = .ok k ↔
      (names h l)[k]? = some n ∧ ∀ j, j < k → (names h l)[j]? ≠ some n := by
  rw [← findIdx?_name_some, whichParameterHasName]
  cases List.findIdx? (fun i => nameOf h i == n) l with
  | none => exact ⟨nofun, nofun⟩
  | some k' => exact ⟨fun c => by cases c; rfl, fun c => by cases c; rfl⟩

theorem which_notfound (h : Store) (l : List ObjId) (n : String) :
    whichParameterHasName h l n = .error .notfound ↔ n ∉ names h l := by
  rw [← findIdx?_name_none, whichParameterHasName]
  cases List.findIdx? (fun i => nameOf h i == n) l with
  | none => exact ⟨fun _ => rfl, fun _ => rfl⟩
  | some k' => exact ⟨nofun, nofun⟩

theorem erase_names_of_findIdx? {h : Store} {l : List ObjId} {n : String} {k : Nat}
    (e : l.findIdx? (fun i => nameOf h i == n) = some k) : (names h l).erase n = names h (l.eraseIdx k) := by
  have e' : (fun x => n == x) ∘ nameOf h = fun i => nameOf h i == n := funext (fun i => BEq.comm)
  rw [names, List.erase_eq_eraseP, List.eraseP_map, e', List.eraseP_eq_eraseIdx, e]; rfl

theorem deleteParameter_names (h : Store) (l : List ObjId) (n : String) :
    (∀ l', deleteParameter h l n = .ok l' → names h l' = (names h l).erase n ∧ n ∈ names h l) ∧
    (∀ e, deleteParameter h l n = .error e → e = .notfound ∧ n ∉ names h l) := by
  unfold deleteParameter
  cases e : List.findIdx? (fun i => nameOf h i == n) l with
  | none => exact ⟨nofun, fun _ c => by cases c; exact ⟨rfl, findIdx?_name_none.1 e⟩⟩
  | some k =>
    refine ⟨fun l' c => ?_, nofun⟩
    cases c
    exact ⟨(erase_names_of_findIdx? e).symm, List.mem_of_getElem? (findIdx?_name_some.1 e).1⟩

theorem getParameterValue_exact (h : Store) (l : List ObjId) (n : String) :
    getParameterValue h l n = match find? h l n with
      | some i => .ok (h.get i).value
      | none => .error .notfound := rfl

theorem deleteParametersIdx_err {l : List ObjId} {idx : List Nat} (nd : idx.Nodup)
    (e : (deleteParametersIdx l idx).2 ≠ none) : (deleteParametersIdx l idx).1 = l := by
  by_cases hin : ∀ d ∈ idx, d < l.length
  · rw [deleteParametersIdx_spec l idx nd hin] at e; simp at e
  · simp only [not_forall, Nat.not_lt] at hin
    obtain ⟨d, hd, hl⟩ := hin
    rw [deleteParametersIdx_out l idx ⟨d, hd, hl⟩]

theorem takeWhile_erase_congr (nm : List String) (n : String) (rest : List String) (hn : n ∉ rest) :
    rest.takeWhile (fun x => (nm.erase n).contains x) = rest.takeWhile (fun x => nm.contains x) := by
  induction rest with
  | nil => rfl
  | cons a t ih =>
    have hne : a ≠ n := fun c => hn (c ▸ List.mem_cons_self ..)
    have : (nm.erase n).contains a = nm.contains a := by
      rw [Bool.eq_iff_iff]; simp [List.mem_erase_of_ne hne]
    simp only [List.takeWhile_cons, this]
    rw [ih (fun c => hn (List.mem_cons_of_mem _ c))]

theorem deleteParameters_spec (h : Store) (must : Bool) (ns : List String) (l : List ObjId) (nd : ns.Nodup) :
    let nm := names h l
    let pre := if must then ns.takeWhile (fun n => nm.contains n) else ns
    names h (deleteParameters h must l ns).1 = pre.foldl (fun acc n => acc.erase n) nm ∧
    (deleteParameters h must l ns).2 = if pre.length = ns.length then none else some .notfound := by
  induction ns generalizing l with
  | nil => cases must <;> simp [deleteParameters]
  | cons n rest ih =>
    have nd' := List.nodup_cons.1 nd
    obtain ⟨a, b⟩ := deleteParameter_names h l n
    unfold deleteParameters
    cases e : deleteParameter h l n with
    | ok l' =>
      obtain ⟨a1, a2⟩ := a l' e
      obtain ⟨i1, i2⟩ := ih l' nd'.2
      have hc : (names h l).contains n = true := by simpa using a2
      dsimp only at i1 i2 ⊢
      rw [i1, i2, a1]
      cases must
      · simp
      · simp only [if_true, List.takeWhile_cons, hc, List.foldl_cons, List.length_cons]
        rw [takeWhile_erase_congr _ _ _ nd'.1]
        simp
    | error x =>
      obtain ⟨b1, b2⟩ := b x e
      have hc : (names h l).contains n = false := by simpa using b2
      cases must
      · obtain ⟨i1, i2⟩ := ih l nd'.2
        dsimp only at i1 i2 ⊢
        simp only [Bool.false_eq_true, if_false] at i1 i2 ⊢
        rw [i1, i2]
        simp [List.erase_of_not_mem b2]
      · simp [b2, b1]

end Bpp.ParamList
