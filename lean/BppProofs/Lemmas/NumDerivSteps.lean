import BppProofs.Lemmas.NumDerivProgram
/-!
C12 helper lemmas: the loops over `variables_` keep the wrapped function at the base point
up to the variable probed last, and raise only where a feasible base point excludes it; the end of the
computing branch brings the wrapped function back.
-/
namespace Bpp.NumDeriv
open Bpp Bpp.Scalar

/-- what an iteration does not touch -/
structure Frame (w0 w : W ℝ) : Prop where
  scheme : w.scheme = w0.scheme
  h : w.h = w0.h
  vars : w.vars = w0.vars
  c1 : w.c1 = w0.c1
  c2 : w.c2 = w0.c2
  cx : w.cx = w0.cx
  kind : w.fn.kind = w0.fn.kind
  en1 : w.fn.en1 = w0.fn.en1
  en2 : w.fn.en2 = w0.fn.en2

theorem Frame.refl (w : W ℝ) : Frame w w := ⟨rfl, rfl, rfl, rfl, rfl, rfl, rfl, rfl, rfl⟩

/-- invariant of the loop over `variables_`: the wrapped function is at the base point up to the
variable probed last, which is one of the list the caller passed; `slot` is the field holding the
value at the base point (`f1_`, `f2_`, `f3_` for the two-, three-, five-point scheme) -/
structure LI (f : List ℝ → ℝ) (params B : PList ℝ) (w0 : W ℝ) (slot : W ℝ → ℝ) (lp : Loop ℝ) : Prop where
  ok : lp.w.fn.OK f
  dev : Dev B lp.w.fn.params (fun m => some m = lp.lastVar)
  last : ∀ l, lp.lastVar = some l → has params l = true
  frame : Frame w0 lp.w
  val : slot lp.w = slot w0

theorem Frame.step {f : List ℝ → ℝ} {E : Param ℝ → Prop} {w0 w w' : W ℝ} (h : Frame w0 w) (hc : SameCfg w w')
    (hr : Reaches f E false w.fn w'.fn) : Frame w0 w' :=
  ⟨hc.1.trans h.scheme, hc.2.2.2.2.2.trans h.h, hc.2.2.2.2.1.trans h.vars, hc.2.1.trans h.c1, hc.2.2.1.trans h.c2,
   hc.2.2.2.1.trans h.cx, hr.flags.1.trans h.kind, hr.flags.2.1.trans h.en1, hr.flags.2.2.trans h.en2⟩

theorem sub_RI (f : List ℝ → ℝ) {params B : PList ℝ} {w0 : W ℝ} {slot : W ℝ → ℝ} {lp : Loop ℝ}
    (hLI : LI f params B w0 slot lp) (var : Name) (p : PList ℝ)
    (hsub : subNames params (match lp.lastVar with
      | none => [var]
      | some l => [var, l]) = .ok p) : RI f params B var lp.w.fn p := by
  obtain ⟨hok, hD, hl, _, _⟩ := hLI
  obtain ⟨hn, hmem, hnd⟩ := subNames_spec params _ p hsub
  have hnames : ∃ tl, names p = var :: tl ∧ tl.length ≤ 1 ∧ ∀ m, some m = lp.lastVar → m ∈ tl := by
    cases hlv : lp.lastVar with
    | none => exact ⟨[], by rw [hn, hlv], by simp, fun m h => by cases h⟩
    | some l => exact ⟨[l], by rw [hn, hlv], by simp, fun m h => by injection h with h; simp [h]⟩
  obtain ⟨tl, htl, hlen, hmemtl⟩ := hnames
  cases p with
  | nil => simp [names] at htl
  | cons q0 rest =>
    simp only [names, List.map_cons, List.cons.injEq] at htl
    exact ⟨hok, q0, rest, rfl, htl.1, hnd, fun q hq => hmem q (List.mem_cons_of_mem _ hq),
      by rw [← List.length_map (f := (·.name)), htl.2]; exact hlen,
      hD.mono (fun m hm => Or.inr (by show m ∈ rest.map (·.name); rw [htl.2]; exact hmemtl m hm))⟩

theorem prepare_RI (f : List ℝ → ℝ) {params B : PList ℝ} {w0 : W ℝ} {slot : W ℝ → ℝ} {lp : Loop ℝ}
    (hLI : LI f params B w0 slot lp) (var : Name) (hh : ℝ) (p : PList ℝ) (value h : ℝ)
    (hprep : prepare params hh lp var = .ok (p, value, h)) : RI f params B var lp.w.fn p :=
  sub_RI f hLI var p (prepare_inv hprep).1

/-- the loop invariant after an iteration that probed `var` and left the wrapped function at the
base point up to `var` -/
theorem LI.step {f : List ℝ → ℝ} {params B : PList ℝ} {w0 : W ℝ} {slot : W ℝ → ℝ} {lp : Loop ℝ} {var : Name}
    (hLI : LI f params B w0 slot lp) {E : Param ℝ → Prop} {r : Loop ℝ × Option Exc} (hfr : StepFrame f E params lp var r)
    (hhas : has params var = true) (hnone : r.2 = none) (hok : r.1.w.fn.OK f)
    (hD : Dev B r.1.w.fn.params (fun m => m = var)) (hs : slot r.1.w = slot lp.w) : LI f params B w0 slot r.1 := by
  have hl := hfr.last_of hhas hnone
  refine ⟨hok, hD.mono (fun m hm => by rw [hl, hm]), fun l h => ?_, hLI.frame.step hfr.shape.1 hfr.reach,
    hs.trans hLI.val⟩
  rw [hl] at h; injection h with h; subst h; exact hhas

theorem find?_of_mem_names {l : PList ℝ} {n : Name} (h : n ∈ names l) : ∃ q, find? l n = some q := by
  cases hf : find? l n with
  | none => exact absurd h (find?_none hf)
  | some q => exact ⟨q, rfl⟩

theorem find?_of_has {params : PList ℝ} {n : Name} (h : has params n = true) : ∃ q, find? params n = some q :=
  find?_of_mem_names ((has_iff params n).mp h)

theorem has_of_find? {params : PList ℝ} {n : Name} {q : Param ℝ} (h : find? params n = some q) : has params n = true :=
  (has_iff params n).mpr (by have := find?_some h; rw [← this.2]; exact List.mem_map_of_mem this.1)

theorem subNames_one (l : PList ℝ) (a : Name) (pa : Param ℝ) (ha : find? l a = some pa) :
    subNames l [a] = .ok [pa] := by
  simp [subNames, subNamesGo, ha, has]

theorem subNames_two (l : PList ℝ) (a b : Name) (pa pb : Param ℝ) (ha : find? l a = some pa) (hb : find? l b = some pb)
    (hne : a ≠ b) : subNames l [a, b] = .ok [pa, pb] := by
  have : pa.name ≠ b := by rw [(find?_some ha).2]; exact hne
  simp [subNames, subNamesGo, ha, hb, has, this]

/-- the sub-list of an iteration: the passed parameter first, then the previous variable if any -/
theorem sub_shape (f : List ℝ → ℝ) {params B : PList ℝ} {w0 : W ℝ} {slot : W ℝ → ℝ} {lp : Loop ℝ}
    (hLI : LI f params B w0 slot lp) (var : Name) (qv : Param ℝ) (hqv : find? params var = some qv)
    (hlast : lp.lastVar ≠ some var) :
    ∃ rest, subNames params (match lp.lastVar with
      | none => [var]
      | some l => [var, l]) = .ok (qv :: rest) := by
  cases hlv : lp.lastVar with
  | none => exact ⟨[], subNames_one params var qv hqv⟩
  | some l =>
    obtain ⟨ql, hql⟩ := find?_of_has (hLI.last l hlv)
    exact ⟨[ql], subNames_two params var l qv ql hqv hql (fun e => hlast (by rw [hlv, e]))⟩

theorem step0_ne_zero (x : ℝ) {h : ℝ} (hh : h ≠ 0) : -(1 + |x|) * h ≠ 0 :=
  mul_ne_zero (neg_ne_zero.mpr (by positivity)) hh

/-- for a listed variable of the wrapped function that was not probed last, with a step that is
not 0, the beginning of an iteration of the two- and three-point loops does not fail, and the first
step it tries is not 0 -/
theorem prepare_ok (f : List ℝ → ℝ) {params B : PList ℝ} {w0 : W ℝ} {slot : W ℝ → ℝ} {lp : Loop ℝ}
    (hLI : LI f params B w0 slot lp) (var : Name) (hhas : has params var = true) (hvar : var ∈ names B)
    (hlast : lp.lastVar ≠ some var) (hh : lp.w.h ≠ 0) :
    (∀ e, prepare params lp.w.h lp var ≠ .error e) ∧
    ∀ p value h, prepare params lp.w.h lp var = .ok (p, value, h) → h ≠ 0 := by
  obtain ⟨qv, hqv⟩ := find?_of_has hhas
  obtain ⟨rest, hsub⟩ := sub_shape f hLI var qv hqv hlast
  obtain ⟨pv, hpv⟩ := find?_of_mem_names (hLI.dev.names ▸ hvar)
  have hval : lp.w.fn.valueOf var = .ok pv.value := by unfold Fn.valueOf; rw [hpv]
  have h0 : -(one + Scalar.abs pv.value) * lp.w.h ≠ 0 := by
    simp only [ScalarReal.one_eq, ScalarReal.abs_eq]; exact step0_ne_zero pv.value hh
  unfold prepare
  simp only []
  split
  · rename_i e he; cases hsub.symm.trans he
  · rename_i p' hp'
    obtain rfl : p' = qv :: rest := by injection hsub.symm.trans hp' with h; exact h.symm
    rw [hval]
    refine ⟨fun e he => (by cases he), fun p value h he => ?_⟩
    injection he with he; injection he with _ he; injection he with _ he
    rw [← he]
    split
    · rename_i hlt
      rw [ScalarReal.ltb_iff, ScalarReal.abs_eq] at hlt
      have hp : qv.prec ≠ 0 := by
        intro e; rw [e] at hlt; exact absurd hlt (not_lt.mpr (abs_nonneg _))
      split
      · exact neg_ne_zero.mpr hp
      · exact hp
    · exact h0

/-- state of the five-point probes of variable `var`: the retry invariant and — once a probe went
through (`succ`) — the wrapped function at the base point up to `var` -/
def P5 (f : List ℝ → ℝ) (params B : PList ℝ) (var : Name) (fn : Fn ℝ) (p : PList ℝ) (succ : Bool) : Prop :=
  RI f params B var fn p ∧ (succ = true → Dev B fn.params (fun m => m = var))

theorem probe5_P5 (f : List ℝ → ℝ) {params B : PList ℝ} (hc : Ctx params B) (var : Name) :
    Probe5Inv f (P5 f params B var) := by
  refine ⟨fun fn p s x h => ?_, fun _ _ _ _ hs h => ⟨h.1, fun x => h.2 (hs x)⟩⟩
  obtain ⟨hri, hs⟩ := h
  obtain ⟨q0, rest, rfl⟩ := hri.cons
  unfold probe5
  simp only []
  cases hsv : q0.setValue x with
  | error e =>
    simp only [Option.isSome_none, Bool.or_false]
    exact ⟨hri, hs⟩
  | ok q0' =>
    simp only []
    obtain ⟨_, hri', hrej, hacc⟩ := probe_RI f hc hri hsv
    rcases hr : fn.setParameters f (q0' :: rest) with ⟨fn', e⟩
    rw [hr] at hri' hrej hacc
    cases e with
    | some e =>
      simp only [Option.isSome_none, Bool.or_false]
      obtain rfl : fn' = fn := hrej (by simp)
      exact ⟨hri', hs⟩
    | none =>
      simp only [Option.isSome_some, Bool.or_true]
      exact ⟨hri', fun _ => hacc rfl⟩

/-- the give-up handlers (`if (p.size() > 1) function_->setParameters(p.createSubList(1))`): unless
the call throws, the wrapped function is at the base point up to `var` afterwards -/
theorem giveup_reset (f : List ℝ → ℝ) {params B : PList ℝ} (hc : Ctx params B) {var : Name} {fn : Fn ℝ} {p : PList ℝ}
    (hri : RI f params B var fn p) :
    (if decide (p.length > 1) then fn.setParameters f (subIdx p 1) else (fn, none)).1.OK f ∧
    ((if decide (p.length > 1) then fn.setParameters f (subIdx p 1) else (fn, none)).2 = none →
      Dev B (if decide (p.length > 1) then fn.setParameters f (subIdx p 1) else (fn, none)).1.params (fun m => m = var)) := by
  split
  · rename_i h
    exact reset_prev f hc hri (by simpa using h)
  · rename_i h
    exact ⟨hri.1, fun _ => hri.dev_of_single (by simpa using h)⟩

/-! ### one iteration, both ways out

When an iteration returns, the loop invariant holds again.  It raises only from its beginning or
from the reset of a give-up handler: not for a listed variable of the wrapped function other than the
one probed last, with a step that is not 0 and a feasible base point — whatever the constraints
refuse.  Each proof goes by the cases of `step*_probed`; what the probing does is `retry_outcome`
resp. the invariant `P5` of the nested tries. -/

section Iteration
variable (f : List ℝ → ℝ) {params B : PList ℝ} (hc : Ctx params B) {w0 : W ℝ} (lp : Loop ℝ) (i : Nat) (var : Name)
include hc

theorem step2_outcome (hLI : LI f params B w0 (slotOf .two) lp) :
    ((step2 f params lp i var).2 = none → LI f params B w0 (slotOf .two) (step2 f params lp i var).1) ∧
    (Feas B → (has params var = true → var ∈ names B) → lp.lastVar ≠ some var → lp.w.h ≠ 0 →
      (step2 f params lp i var).2 = none) := by
  have hfr := step2_frame f (Closed.trivial params) lp i var
  rcases step2_probed f params lp i var with ⟨_, h⟩ | ⟨hhas, ⟨e, he, h⟩ | ⟨p, value, h, hprep, hpr⟩⟩
  · rw [h]; exact ⟨fun _ => hLI, fun _ _ _ _ => rfl⟩
  · rw [h]
    exact ⟨fun h => (by cases h), fun _ hvar hlast hne =>
      absurd he ((prepare_ok f hLI var hhas (hvar hhas) hlast hne).1 e)⟩
  · obtain ⟨a, b⟩ := retry_outcome f hc true value 10 lp.w.fn p h none (by norm_num)
      (prepare_RI f hLI var lp.w.h p value h hprep) (Or.inl rfl)
    have hr := hpr _ rfl
    refine ⟨fun hnone => ?_, fun hfeas hvar hlast hne =>
      hr.exc.trans ((b ((prepare_ok f hLI var hhas (hvar hhas) hlast hne).2 p value h hprep)).2 hfeas)⟩
    obtain ⟨g1, g2, _⟩ := a (hr.exc ▸ hnone)
    exact hLI.step hfr hhas hnone (hr.fn ▸ g1) (hr.fn ▸ g2) hr.slot

theorem step3_outcome (hLI : LI f params B w0 (slotOf .three) lp) :
    ((step3 f params lp i var).2 = none → LI f params B w0 (slotOf .three) (step3 f params lp i var).1) ∧
    (Feas B → (has params var = true → var ∈ names B) → lp.lastVar ≠ some var → lp.w.h ≠ 0 →
      (step3 f params lp i var).2 = none) := by
  have hfr := step3_frame f (Closed.trivial params) lp i var
  rcases step3_probed f params lp i var with ⟨_, h⟩ | ⟨hhas, ⟨e, he, h⟩ | ⟨p, value, h, hprep, hpr⟩⟩
  · rw [h]; exact ⟨fun _ => hLI, fun _ _ _ _ => rfl⟩
  · rw [h]
    exact ⟨fun h => (by cases h), fun _ hvar hlast hne =>
      absurd he ((prepare_ok f hLI var hhas (hvar hhas) hlast hne).1 e)⟩
  · obtain ⟨a1, b1⟩ := retry_outcome f hc true value 10 lp.w.fn p h none (by norm_num)
      (prepare_RI f hLI var lp.w.h p value h hprep) (Or.inl rfl)
    have hne' : (has params var = true → var ∈ names B) → lp.lastVar ≠ some var → lp.w.h ≠ 0 → h ≠ 0 :=
      fun hvar hlast hne => (prepare_ok f hLI var hhas (hvar hhas) hlast hne).2 p value h hprep
    rcases hpr _ rfl _ rfl with ⟨_, h1⟩ | ⟨hx1, hf1, h3⟩
    · refine ⟨fun hnone => ?_, fun hfeas hvar hlast hne => h1.exc.trans ((b1 (hne' hvar hlast hne)).2 hfeas)⟩
      obtain ⟨g1, g2, _⟩ := a1 (h1.exc ▸ hnone)
      exact hLI.step hfr hhas hnone (h1.fn ▸ g1) (h1.fn ▸ g2) h1.slot
    · -- the second loop starts from what the first one left: `p = {var}`, at the base point up to `var`
      obtain ⟨g1, g2, g3⟩ := a1 hx1
      obtain ⟨q, hq, hqn⟩ := g3 hf1
      have hri3 : RI f params B var (retry f true 10 lp.w.fn p value h none).fn (retry f true 10 lp.w.fn p value h none).p :=
        hq ▸ ⟨g1, q, [], rfl, hqn, by simp [names], by simp, by simp, g2.mono (fun m hm => Or.inl hm)⟩
      obtain ⟨a3, b3⟩ := retry_outcome f hc false value 10 _ _ (sideStep (retry f true 10 lp.w.fn p value h none).h) none
        (by norm_num) hri3 (Or.inr (by rw [hq]; rfl))
      refine ⟨fun hnone => ?_, fun hfeas hvar hlast hne =>
        h3.exc.trans ((b3 (sideStep_ne_zero (b1 (hne' hvar hlast hne)).1)).2 hfeas)⟩
      obtain ⟨k1, k2, _⟩ := a3 (h3.exc ▸ hnone)
      exact hLI.step hfr hhas hnone (h3.fn ▸ k1) (h3.fn ▸ k2) h3.slot

theorem step5_outcome (hLI : LI f params B w0 (slotOf .five) lp) :
    ((step5 f params lp i var).2 = none → LI f params B w0 (slotOf .five) (step5 f params lp i var).1) ∧
    (Feas B → (has params var = true → var ∈ names B) → lp.lastVar ≠ some var → (step5 f params lp i var).2 = none) := by
  have hfr := step5_frame f (Closed.trivial params) lp i var
  rcases step5_probed f params lp i var with ⟨_, h⟩ | ⟨hhas, ⟨e, he, h⟩ | ⟨p, value, hsub, _, hpr⟩⟩
  · rw [h]; exact ⟨fun _ => hLI, fun _ _ _ => rfl⟩
  · rw [h]
    refine ⟨fun h => (by cases h), fun _ hvar hlast => ?_⟩
    obtain ⟨qv, hqv⟩ := find?_of_has hhas
    obtain ⟨rest, hsub⟩ := sub_shape f hLI var qv hqv hlast
    obtain ⟨pv, hpv⟩ := find?_of_mem_names (hLI.dev.names ▸ hvar hhas)
    rcases he with he | he
    · cases hsub.symm.trans he
    · unfold Fn.valueOf at he; rw [hpv] at he; cases he
  · have h5 := probes5_inv (probe5_P5 f hc var) (s := false) ⟨sub_RI f hLI var p hsub, fun x => by cases x⟩ value
      ((one + Scalar.abs value) * lp.w.h) lp.w.f3
    rcases hpr _ rfl _ rfl with ⟨hsome, h1⟩ | ⟨hnone5, hg⟩
    · refine ⟨fun hnone => ?_, fun _ _ _ => h1.exc⟩
      exact hLI.step hfr hhas hnone (h1.fn ▸ h5.1.1) (h1.fn ▸ h5.2 (by simpa [Option.isSome_iff_ne_none] using hsome)) h1.slot
    · obtain ⟨g1, g2⟩ := giveup_reset f hc h5.1
      refine ⟨fun hnone => ?_, fun hfeas _ _ => hg.exc.trans ?_⟩
      · exact hLI.step hfr hhas hnone (hg.fn ▸ g1) (hg.fn ▸ g2 (hg.exc ▸ hnone)) hg.slot
      · split
        · exact reset_noexc f hc hfeas h5.1
        · rfl

theorem stepOf_outcome (s : Scheme) (hLI : LI f params B w0 (slotOf s) lp) :
    ((stepOf s f params lp i var).2 = none → LI f params B w0 (slotOf s) (stepOf s f params lp i var).1) ∧
    (Feas B → (has params var = true → var ∈ names B) → lp.lastVar ≠ some var → (s ≠ .five → lp.w.h ≠ 0) →
      (stepOf s f params lp i var).2 = none) := by
  cases s
  · exact ⟨(step2_outcome f hc lp i var hLI).1, fun a b c d => (step2_outcome f hc lp i var hLI).2 a b c (d (by simp))⟩
  · exact ⟨(step3_outcome f hc lp i var hLI).1, fun a b c d => (step3_outcome f hc lp i var hLI).2 a b c (d (by simp))⟩
  · exact ⟨(step5_outcome f hc lp i var hLI).1, fun a b c _ => (step5_outcome f hc lp i var hLI).2 a b c⟩

end Iteration

/-- the `for` loop over `variables_`, both ways out: it does not raise when the selection has no
duplicate and only names of the wrapped function -/
theorem loopGo_outcome (s : Scheme) (f : List ℝ → ℝ) {params B : PList ℝ} (hc : Ctx params B) {w0 : W ℝ}
    (vs : List Name) (i : Nat) (lp : Loop ℝ) (hLI : LI f params B w0 (slotOf s) lp) :
    ((loopGo (stepOf s f params) vs i lp).2 = none → LI f params B w0 (slotOf s) (loopGo (stepOf s f params) vs i lp).1) ∧
    (Feas B → (s ≠ .five → w0.h ≠ 0) → (∀ l, lp.lastVar = some l → l ∉ vs) → vs.Nodup →
      (∀ v ∈ vs, has params v = true → v ∈ names B) → (loopGo (stepOf s f params) vs i lp).2 = none) := by
  fun_induction loopGo (stepOf s f params) vs i lp with
  | case1 => exact ⟨fun _ => hLI, fun _ _ _ _ _ => rfl⟩
  | case2 v vs i lp lp' e hs =>
    refine ⟨fun h => (by cases h), fun hfeas hh hl hnd hin => ?_⟩
    have := (stepOf_outcome f hc lp i v s hLI).2 hfeas (hin v (List.mem_cons_self ..)) (fun e => hl v e (List.mem_cons_self ..))
      (fun h => by rw [hLI.frame.h]; exact hh h)
    rw [hs] at this; cases this
  | case3 v vs i lp lp' hs ih =>
    have hLI' : LI f params B w0 (slotOf s) lp' := by
      have := (stepOf_outcome f hc lp i v s hLI).1; rw [hs] at this; exact this rfl
    refine ⟨(ih hLI').1, fun hfeas hh hl hnd hin => ?_⟩
    have hnd' := List.nodup_cons.mp hnd
    refine (ih hLI').2 hfeas hh ?_ hnd'.2 (fun x hx => hin x (List.mem_cons_of_mem _ hx))
    intro l hl1 hm
    have h3 := (stepOf_frame f (Closed.trivial params) s lp i v).last
    rw [hs] at h3
    rcases h3 with h3 | h3
    · exact hl l (h3 ▸ hl1) (List.mem_cons_of_mem _ hm)
    · rw [h3] at hl1; injection hl1 with hl1; subst hl1; exact hnd'.1 hm

@[simp] theorem enable1_params (fn : Fn ℝ) (b : Bool) : (fn.enable1 b).params = fn.params := by
  unfold Fn.enable1; split <;> rfl
@[simp] theorem enable2_params (fn : Fn ℝ) (b : Bool) : (fn.enable2 b).params = fn.params := by
  unfold Fn.enable2; split <;> rfl
@[simp] theorem enable1_fval (fn : Fn ℝ) (b : Bool) : (fn.enable1 b).fval = fn.fval := by
  unfold Fn.enable1; split <;> rfl
@[simp] theorem enable2_fval (fn : Fn ℝ) (b : Bool) : (fn.enable2 b).fval = fn.fval := by
  unfold Fn.enable2; split <;> rfl
@[simp] theorem enable1_kind (fn : Fn ℝ) (b : Bool) : (fn.enable1 b).kind = fn.kind := by
  unfold Fn.enable1; split <;> rfl
@[simp] theorem enable2_kind (fn : Fn ℝ) (b : Bool) : (fn.enable2 b).kind = fn.kind := by
  unfold Fn.enable2; split <;> rfl
theorem enable1_OK (f : List ℝ → ℝ) (fn : Fn ℝ) (b : Bool) (h : fn.OK f) : (fn.enable1 b).OK f := by
  unfold Fn.OK at *; simp [h]
theorem enable2_OK (f : List ℝ → ℝ) (fn : Fn ℝ) (b : Bool) (h : fn.OK f) : (fn.enable2 b).OK f := by
  unfold Fn.OK at *; simp [h]

theorem enable1_en1 (fn : Fn ℝ) (b : Bool) (hk : fn.kind ≥ 1) : (fn.enable1 b).en1 = b := by
  unfold Fn.enable1; rw [if_pos hk]
@[simp] theorem enable2_en1 (fn : Fn ℝ) (b : Bool) : (fn.enable2 b).en1 = fn.en1 := by
  unfold Fn.enable2; split <;> rfl
theorem enable2_en2 (fn : Fn ℝ) (b : Bool) (hk : fn.kind ≥ 2) : (fn.enable2 b).en2 = b := by
  unfold Fn.enable2; rw [if_pos hk]
@[simp] theorem enable1_en2 (fn : Fn ℝ) (b : Bool) : (fn.enable1 b).en2 = fn.en2 := by
  unfold Fn.enable1; split <;> rfl


/-- `function_->setParameters(parameters)` brings back every displaced parameter of `parameters` -/
theorem restore_all (f : List ℝ → ℝ) {params B : PList ℝ} (hc : Ctx params B) (hpnd : (names params).Nodup) (fn : Fn ℝ)
    {S : Name → Prop} (hD : Dev B fn.params S) (hok : fn.OK f) (hS : ∀ n, S n → has params n = true) :
    ((fn.setParameters f params).2 = none → (fn.setParameters f params).1.params = B) ∧
    (fn.setParameters f params).1.OK f ∧ (fn.setParameters f params).1.kind = fn.kind ∧
    (fn.setParameters f params).1.en1 = fn.en1 ∧ (fn.setParameters f params).1.en2 = fn.en2 := by
  obtain ⟨h1, _, h3⟩ := setParameters_dev f hc fn params hpnd (fun _ => False) hD hok (by
    intro b hb _
    cases hf : find? params b.name with
    | none => exact fun hs => find?_none hf ((has_iff params b.name).mp (hS _ hs))
    | some q =>
      have := find?_some hf
      exact (hc.sync q this.1 b hb this.2.symm).symm)
  exact ⟨fun h => (h1 h).eq, h3, setParameters_flags f fn params⟩

/-- `function_->setParameters(parameters.createSubList(lastVar))` brings back the last variable -/
theorem restore_one (f : List ℝ → ℝ) {params B : PList ℝ} (hc : Ctx params B) (fn : Fn ℝ) (l : Name) (q : PList ℝ)
    (hsub : subNames params [l] = .ok q) (hD : Dev B fn.params (fun m => some m = some l)) (hok : fn.OK f) :
    ((fn.setParameters f q).2 = none → (fn.setParameters f q).1.params = B) ∧ (fn.setParameters f q).1.OK f := by
  obtain ⟨hn, hmem, hnd⟩ := subNames_spec params _ q hsub
  obtain ⟨h1, _, h3⟩ := setParameters_dev f hc fn q hnd (fun _ => False) hD hok (by
    intro b hb _
    cases hf : find? q b.name with
    | none =>
      intro hs
      injection hs with hs
      apply find?_none hf
      rw [hn, hs]; simp
    | some x =>
      have := find?_some hf
      exact (hc.sync x (hmem x this.1) b hb this.2.symm).symm)
  exact ⟨fun h => (h1 h).eq, h3⟩

/-- what `updateDerivatives` never touches -/
structure Keep (w w' : W ℝ) : Prop where
  scheme : w'.scheme = w.scheme
  h : w'.h = w.h
  vars : w'.vars = w.vars
  c1 : w'.c1 = w.c1
  c2 : w'.c2 = w.c2
  cx : w'.cx = w.cx
  kind : w'.fn.kind = w.fn.kind

theorem Frame.keep {w0 w : W ℝ} (h : Frame w0 w) : Keep w0 w :=
  ⟨h.scheme, h.h, h.vars, h.c1, h.c2, h.cx, h.kind⟩

theorem Keep.trans {a b c : W ℝ} (h1 : Keep a b) (h2 : Keep b c) : Keep a c :=
  ⟨h2.scheme.trans h1.scheme, h2.h.trans h1.h, h2.vars.trans h1.vars, h2.c1.trans h1.c1, h2.c2.trans h1.c2,
   h2.cx.trans h1.cx, h2.kind.trans h1.kind⟩

@[simp] theorem Wenable2_params (w : W ℝ) (b : Bool) : (w.enable2 b).params = w.fn.params := by
  unfold W.enable2; split <;> simp
@[simp] theorem Wenable2_kind (w : W ℝ) (b : Bool) : (w.enable2 b).kind = w.fn.kind := by
  unfold W.enable2; split <;> simp
theorem Wenable2_OK (f : List ℝ → ℝ) (w : W ℝ) (b : Bool) (h : w.fn.OK f) : (w.enable2 b).OK f := by
  unfold W.enable2; split
  · exact h
  · exact enable2_OK f _ _ h

/-- the end of the computing branch brings the wrapped function back to the base point -/
theorem finish_spec (f : List ℝ → ℝ) {params B : PList ℝ} (hc : Ctx params B) (hpnd : (names params).Nodup)
    (lastVar : Option Name) (all : Bool) (w : W ℝ) (hok : w.fn.OK f) {S : Name → Prop}
    (hD : Dev B w.fn.params S) (h0 : lastVar = none → ∀ n, ¬ S n)
    (h1 : all = false → ∀ n, S n → some n = lastVar) (h2 : ∀ n, S n → has params n = true) :
    ∀ r, finish f params lastVar all w = r → r.2 = none →
      r.1.fn.params = B ∧ r.1.fn.OK f ∧ Keep w r.1 ∧ r.1.f1 = w.f1 ∧ r.1.f2 = w.f2 ∧ r.1.f3 = w.f3 := by
  intro r hr hnone
  unfold finish at hr
  simp only [] at hr
  have hokE : (({ w with fn := w.fn.enable1 w.c1 } : W ℝ).enable2 w.c2).OK f :=
    Wenable2_OK f _ _ (enable1_OK f _ _ hok)
  have hDE : Dev B (({ w with fn := w.fn.enable1 w.c1 } : W ℝ).enable2 w.c2).params S := by
    simp only [Wenable2_params, enable1_params]; exact hD
  have hkE : (({ w with fn := w.fn.enable1 w.c1 } : W ℝ).enable2 w.c2).kind = w.fn.kind := by simp
  split at hr
  · subst hr
    refine ⟨?_, hokE, ⟨rfl, rfl, rfl, rfl, rfl, rfl, hkE⟩, rfl, rfl, rfl⟩
    exact (hDE.mono (fun n hn => h0 rfl n hn)).eq
  · rename_i l
    split at hr
    · rename_i hall
      obtain ⟨g1, g2, g3, _, _⟩ := restore_all f hc hpnd _ hDE hokE h2
      subst hr
      exact ⟨g1 hnone, g2, ⟨rfl, rfl, rfl, rfl, rfl, rfl, by simp only []; rw [g3, hkE]⟩, rfl, rfl, rfl⟩
    · rename_i hall
      have hall' : all = false := by simpa using hall
      split at hr
      · subst hr; simp at hnone
      · rename_i q hsub
        have hD1 : Dev B (({ w with fn := w.fn.enable1 w.c1 } : W ℝ).enable2 w.c2).params (fun m => some m = some l) :=
          hDE.mono (fun n hn => h1 hall' n hn)
        obtain ⟨g1, g2⟩ := restore_one f hc _ l q hsub hD1 hokE
        subst hr
        exact ⟨g1 hnone, g2, ⟨rfl, rfl, rfl, rfl, rfl, rfl, by simp only []; rw [(setParameters_flags f _ q).1, hkE]⟩,
          rfl, rfl, rfl⟩


/-- … and at a feasible base point it does not raise -/
theorem finish_noexc (f : List ℝ → ℝ) {params B : PList ℝ} (hc : Ctx params B) (hfeas : Feas B) (hpnd : (names params).Nodup)
    (lastVar : Option Name) (all : Bool) (w : W ℝ) {S : Name → Prop} (hD : Dev B w.fn.params S)
    (hl : ∀ l, lastVar = some l → has params l = true) : (finish f params lastVar all w).2 = none := by
  unfold finish
  simp only []
  cases lastVar with
  | none => rfl
  | some l =>
    cases all with
    | true => exact setParameters_base_ok f hc hfeas _ (S := S) (by rw [Wenable2_params, enable1_params]; exact hD) params (fun x hx => hx) hpnd
    | false =>
      obtain ⟨q, hq⟩ := find?_of_has (hl l rfl)
      simp only [Bool.false_eq_true, if_false, subNames_one params l q hq]
      exact setParameters_base_ok f hc hfeas _ (S := S) (by rw [Wenable2_params, enable1_params]; exact hD) [q]
        (fun x hx => by simp at hx; subst hx; exact (find?_some hq).1) (by simp [names])

end Bpp.NumDeriv
