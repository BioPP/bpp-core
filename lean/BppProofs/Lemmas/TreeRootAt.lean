import BppProofs.Lemmas.TreeSwitch
/-
Re-rooting a valid rooted tree (`rootAt`, directed case): `propagateDirection_` turns round the
father chain of the new root, one `switchNodes` per relation, each of which re-roots the tree at a
son of the current root.
-/
namespace Bpp.Graph
open AL

namespace T

theorem isValid_of_tree {t : T} (h : isTree t.g = .ok true) : t.isValid = (.ok true, { t with valid := true }) := by
  unfold isValid
  by_cases hv : t.valid = true
  · rw [if_pos hv]
    cases t with
    | mk g valid => simp only at hv; subst hv; rfl
  · rw [if_neg hv, h]

theorem getSubtree_of_valid {t : T} (hv : ValidRooted t.g) (e : Bool) (n : Nat) : (t.getSubtree e n).1 =
    if e then subtreeEdges t.g (t.g.nodes.length + 2) n [] else subtreeNodes t.g (t.g.nodes.length + 2) n [] := by
  rw [getSubtree, isValid_of_tree hv.tree]
  simp only [hv.dir, Bool.not_true, Bool.false_eq_true, if_false]

theorem lift_ok {α : Type} (t : T) (a : α) (g' : G) :
    t.lift (.ok a g') = (.ok a { g' with pending := [] }, { g := { g' with pending := [] }, valid := false }) := rfl

end T

theorem SameShape.quiet {g g' : G} (h : SameShape g g') : SameShape g { g' with pending := [] } :=
  ⟨h.keys, h.uedges, rfl⟩

theorem SameShape.refl' (g : G) (hq : g.pending = []) : SameShape g g := ⟨rfl, rfl, hq⟩

namespace DTree
variable {P : PTree}

/-- `propagateDirection_` from `n`: the tree re-rooted at `n`; relations off the father chain of `n` are untouched -/
theorem propagate : ∀ (fuel : Nat) (t : T) (P : PTree) (n : Nat), DTree t.g P → t.g.pending = [] → n ∈ P.nodes → P.rank n + 1 ≤ fuel →
    ∃ (t' : T) (P' : PTree), T.propagate fuel t n = .ok (.ok () t'.g, t') ∧ DTree t'.g P' ∧ P'.root = n ∧ P'.nodes = P.nodes ∧
      (∀ v, ¬ IsAnc P.par v n → P'.par v = P.par v) ∧ SameShape t.g t'.g ∧ t'.g.root = t.g.root := by
  intro fuel
  induction fuel with
  | zero => intro t P n _ _ _ hr; omega
  | succ f ih =>
    intro t P n h hq hn hr
    have hnode := (h.nodes n).1 hn
    simp only [T.propagate]
    rw [h.hasFather hnode]
    cases hp : P.par n with
    | none =>
      simp only [Option.isSome_none]
      have hroot : n = P.root := by
        refine Classical.byContradiction fun hne => ?_
        obtain ⟨p, hp', _, _⟩ := h.wf.par_some n hn hne
        rw [hp] at hp'; cases hp'
      exact ⟨t, P, rfl, h, hroot.symm, rfl, fun _ _ => rfl, SameShape.refl' _ hq, rfl⟩
    | some fa =>
      simp only [Option.isSome_some]
      rw [h.father hnode, hp]
      simp only
      have hm := h.wf.par_mem hp
      obtain ⟨t1, P1, hr1, h1, hroot1, hnodes1, hpar1, hs1, hrt1⟩ := ih t P fa h hq hm.2.2.1 (by omega)
      rw [hr1]
      simp only [T.andThen]
      -- in the tree rooted at the father, `n` is still a son of the root
      have hpn : P1.par n = some P1.root := by
        rw [hroot1, hpar1 n (h.wf.son_not_anc hp)]; exact hp
      obtain ⟨e, he⟩ := h1.arc_out hpn
      have hne : P1.root ≠ n := h1.wf.par_ne_self hpn
      have hno : t1.g.outE n P1.root = none := by
        cases ho : t1.g.outE n P1.root with
        | none => rfl
        | some e' =>
          have := (h1.arc n P1.root).1 (arc_of_out ho)
          rw [h1.wf.par_root] at this; cases this
      obtain ⟨g', hsw, _, hfl⟩ := switch_flip h1.cons h1.dir he hne hno
      rw [← hroot1, hsw, T.lift_ok]
      have hd' : DTree g' (P1.reroot n) := h1.flip hpn hfl
      refine ⟨{ g := { g' with pending := [] }, valid := false }, P1.reroot n, rfl,
        hd'.rootPending _ _, rfl, hnodes1, ?_, ?_, ?_⟩
      · intro v hv
        have hvn : v ≠ n := fun e => hv (e ▸ .refl _)
        have hvf : ¬ IsAnc P.par v fa := fun ha => hv (.step hp ha)
        have hvr : v ≠ P1.root := by rw [hroot1]; exact fun e => hvf (e ▸ .refl _)
        rw [PTree.reroot_par_other n v hvr hvn]
        exact hpar1 v hvf
      · exact hs1.trans (hfl.sameShape h1.cons h1.dir he hs1.pending).quiet
      · show g'.root = t.g.root
        rw [hfl.root, hrt1]

end DTree

/-- what `rootAt` promises -/
structure Rerooted (g g' : G) (n : Nat) : Prop where
  valid : ValidRooted g'
  root : g'.root = n
  shape : SameShape g g'
  fatherless : ∀ x, g'.hasNode x = true → (T.hasFather g' x = some false ↔ x = n)

theorem DTree.fatherless_iff {g : G} {P : PTree} (h : DTree g P) {x : Nat} (hx : g.hasNode x = true) :
    T.hasFather g x = some false ↔ x = P.root := by
  rw [h.hasFather hx]
  constructor
  · intro hh
    refine Classical.byContradiction fun hne => ?_
    obtain ⟨p, hp, _, _⟩ := h.wf.par_some x ((h.nodes x).2 hx) hne
    rw [hp] at hh; cases hh
  · intro e; subst e; rw [h.wf.par_root]; rfl

/-- `rootAt` on a valid rooted tree -/
theorem rootAt_rooted (t : T) (hv : ValidRooted t.g) (n : Nat) (hn : t.g.hasNode n = true) :
    ∃ t', t.rootAt n = .ok (.ok () t'.g, t') ∧ Rerooted t.g t'.g n := by
  obtain ⟨P, hd, _⟩ := hv.dtree
  unfold T.rootAt
  rw [T.isValid_of_tree hv.tree]
  simp only [hn, Bool.not_true, Bool.false_eq_true, if_false, hv.dir, if_true]
  have hsr : ({ t with valid := true } : T).setRoot n =
      (.ok () { t.g with root := n, pending := [] }, { g := { t.g with root := n, pending := [] }, valid := false }) := by
    simp only [T.setRoot, G.setRoot, hn, if_true]; rfl
  rw [hsr]
  simp only
  have hd2 : DTree ({ t.g with root := n, pending := [] } : G) P := hd.rootPending _ _
  have hnP : n ∈ P.nodes := (hd.nodes n).2 hn
  obtain ⟨t', P', hr, hd', hroot', _, _, hs', hrt'⟩ := DTree.propagate (t.g.nodes.length + 2)
    { g := { t.g with root := n, pending := [] }, valid := false } P n hd2 rfl hnP (by have := hd.rank_lt hnP; omega)
  refine ⟨t', hr, ?_⟩
  have hroot : t'.g.root = n := hrt'
  refine ⟨hd'.validRooted (by rw [hroot', hroot]), hroot, ⟨hs'.keys, hs'.uedges, hs'.pending⟩, ?_⟩
  intro x hx
  rw [hd'.fatherless_iff hx, hroot']

end Bpp.Graph
