import BppProofs.Lemmas.NumDerivExact
/-!
C12 helper lemmas: concrete, NON-constant instances for the end-to-end
theorems — a cubic in one variable, `x y + x` in two variables, wrappers at 0 with step 1/16 — and
the proofs that they satisfy the hypotheses (`Own`, `OK`, `Free` / `FreeFn`, the local
`BoundedNear`).  Used by the `example`s of `Props/C12.lean`.
-/
namespace Bpp.NumDeriv
open Bpp Bpp.Scalar

/-- below `VERY_BIG` = 1.7e23 -/
theorem tooBig_false (x : ℝ) (h : |x| < 170000000000000000000000) : tooBig x = false := by
  unfold tooBig
  have h1 : geb (Scalar.abs x) (veryBig : ℝ) = false := by
    cases hb : geb (Scalar.abs x) (veryBig : ℝ) with
    | false => rfl
    | true =>
      rw [ScalarReal.geb_iff] at hb
      simp only [veryBig, ScalarReal.ofRat_eq, ScalarReal.abs_eq] at hb
      norm_num at hb
      linarith
  have h2 : neb x x = false := (neb_false_iff x x).mpr rfl
  rw [h1, h2]; rfl

/-! ### one variable: `f = p ∘ (first coordinate)` for a real function `p`, at `x = 0` -/

/-- `p` of the first coordinate -/
noncomputable def exf (p : ℝ → ℝ) : List ℝ → ℝ := fun l => p (l.headD 0)

def exB : PList ℝ := [⟨0, 0, 0, none⟩]
/-- the list the caller passes, with an optional constraint on the single parameter -/
def exP (con : Option (Interval ℝ)) : PList ℝ := [⟨0, 0, 0, con⟩]

noncomputable def exW (p : ℝ → ℝ) (s : Scheme) : W ℝ :=
  { scheme := s, h := 1 / 16, vars := [0], der1 := [some 0], der2 := [some 0], cross := [[some 0]],
    c1 := true, c2 := true, cx := false, f1 := 0, f2 := 0, f3 := 0,
    fn := { params := exB, fval := p 0, log := [], kind := 0, en1 := false, en2 := false, pt1 := [], pt2 := [] } }

/-- the cubic `1 + x + x² + x³` and the quadratic `1 + x + x²`, in the shape the theorems use -/
def cubic (t : ℝ) : ℝ := 1 + 1 * t + 1 * t ^ 2 + 1 * t ^ 3
def quadr (t : ℝ) : ℝ := 1 + 1 * t + 1 * t ^ 2

theorem ex_values (t : ℝ) : values (upd1 exB 0 t) = [t] := by simp [values, upd1, exB]

theorem ex_poly (p : ℝ → ℝ) (t : ℝ) : exf p (values (upd1 exB 0 t)) = p t := by
  rw [ex_values]; simp [exf]

/-- the instances are not constant in the selected variable -/
theorem ex_nonconstant : exf cubic (values (upd1 exB 0 1)) ≠ exf cubic (values (upd1 exB 0 0)) ∧
    exf quadr (values (upd1 exB 0 1)) ≠ exf quadr (values (upd1 exB 0 0)) := by
  simp only [ex_poly, cubic, quadr]; constructor <;> norm_num

theorem ex_own (p : ℝ → ℝ) (s : Scheme) : Own (exW p s).fn :=
  ⟨by simp [exW, exB, names], by intro q hq; simp [exW, exB] at hq; subst hq; rfl⟩

theorem ex_ok (p : ℝ → ℝ) (s : Scheme) : (exW p s).fn.OK (exf p) := by
  simp [Fn.OK, exW, exB, values, exf]

theorem ex_nodup (con : Option (Interval ℝ)) : (names (exP con)).Nodup := List.nodup_singleton 0

theorem exW_vars_nodup (p : ℝ → ℝ) (s : Scheme) : (exW p s).vars.Nodup := List.nodup_singleton 0

theorem exW_h (p : ℝ → ℝ) (s : Scheme) : (exW p s).h = 1 / 16 := rfl

theorem exW_h_pos (p : ℝ → ℝ) (s : Scheme) : 0 < (exW p s).h := by rw [exW_h]; norm_num

theorem ex_ctx (con : Option (Interval ℝ)) : Ctx (exP con) exB :=
  ⟨by simp [exB, names], by intro p hp; simp [exB] at hp; subst hp; rfl,
   by intro q hq b hb _; simp [exP] at hq; simp [exB] at hb; subst hq; subst hb; rfl⟩

theorem ex_free (p : ℝ → ℝ) : Free (exf p) (exP none) exB :=
  ⟨ex_ctx none, by intro b hb; simp [exB] at hb; subst hb; rfl,
   by intro q hq; simp [exP] at hq; subst hq; exact ⟨rfl, rfl⟩⟩

theorem ex_freeFn (p : ℝ → ℝ) (con : Option (Interval ℝ)) : FreeFn (exf p) (exP con) exB :=
  ⟨ex_ctx con, by intro b hb; simp [exB] at hb; subst hb; rfl⟩

theorem ex_find (var : Name) (b : Param ℝ) (h : find? exB var = some b) : var = 0 ∧ b = ⟨0, 0, 0, none⟩ := by
  have := find?_some h
  simp [exB] at this
  obtain ⟨h1, h2⟩ := this
  subst h1
  exact ⟨h2.symm, rfl⟩

/-- local boundedness from a bound of `p` on `[-1/16, 1/16]` -/
theorem ex_bounded (p : ℝ → ℝ) (hp : ∀ x, |x| ≤ 1 / 16 → |p x| < 170000000000000000000000) :
    BoundedNear (exf p) exB (1 / 16) := by
  refine ⟨?_, ?_⟩
  · apply tooBig_false
    have := hp 0 (by norm_num)
    simpa [exf, exB, values] using this
  · intro var b hb x hx
    obtain ⟨hv, hbv⟩ := ex_find var b hb
    subst hv; subst hbv
    rw [ex_poly]
    apply tooBig_false
    apply hp
    simp only [sub_zero, abs_zero, add_zero, one_mul] at hx
    rw [abs_of_pos (by norm_num : (0 : ℝ) < 1 / 16)] at hx
    exact hx

theorem pow_small (x : ℝ) (hx : |x| ≤ 1 / 16) (n : Nat) : -1 ≤ x ^ n ∧ x ^ n ≤ 1 :=
  abs_le.mp (by rw [abs_pow]; exact pow_le_one₀ (abs_nonneg x) (hx.trans (by norm_num)))

theorem cubic_bound (x : ℝ) (hx : |x| ≤ 1 / 16) : |cubic x| < 170000000000000000000000 := by
  obtain ⟨h1, h1'⟩ := abs_le.mp hx
  obtain ⟨h2, h2'⟩ := pow_small x hx 2
  obtain ⟨h3, h3'⟩ := pow_small x hx 3
  unfold cubic
  rw [abs_lt]
  constructor <;> linarith

theorem quadr_bound (x : ℝ) (hx : |x| ≤ 1 / 16) : |quadr x| < 170000000000000000000000 := by
  obtain ⟨h1, h1'⟩ := abs_le.mp hx
  obtain ⟨h2, h2'⟩ := pow_small x hx 2
  unfold quadr
  rw [abs_lt]
  constructor <;> linarith

theorem hin_ex (p : ℝ → ℝ) (s : Scheme) :
    ∀ v ∈ (exW p s).vars, has (exP none) v = true → v ∈ names (exW p s).fn.params := by
  intro v hv _; simp [exW] at hv; subst hv; simp [exW, exB, names]

/-- a constraint `[lo, hi]` on the caller's side, and the parameter passed with it -/
def cn (lo hi : ℝ) : Option (Interval ℝ) := some ⟨some lo, some hi, true, true⟩
def qc (lo hi : ℝ) : Param ℝ := ⟨0, 0, 0, cn lo hi⟩

/-- what the constraint `[lo, hi]` accepts -/
theorem qc_accepts {lo hi x : ℝ} : (qc lo hi).violates x = false ↔ lo ≤ x ∧ x ≤ hi := by
  simp [qc, cn, Param.violates, Interval.isCorrect]

theorem qc_refuses {lo hi x : ℝ} : (qc lo hi).violates x = true ↔ x < lo ∨ hi < x := by
  rw [← Bool.not_eq_false, qc_accepts, not_and_or, not_le, not_le]

/-! ### two variables: `f(x, y) = x y + x` at `(0, 0)` -/

noncomputable def exf2 : List ℝ → ℝ := fun l => l.headD 0 * l.getD 1 0 + l.headD 0

def exB2 : PList ℝ := [⟨0, 0, 0, none⟩, ⟨1, 0, 0, none⟩]

noncomputable def exW2 : W ℝ :=
  { scheme := .three, h := 1 / 16, vars := [0, 1], der1 := [some 0, some 0], der2 := [some 0, some 0],
    cross := [[some 0, some 0], [some 0, some 0]],
    c1 := true, c2 := true, cx := true, f1 := 0, f2 := 0, f3 := 0,
    fn := { params := exB2, fval := 0, log := [], kind := 0, en1 := false, en2 := false, pt1 := [], pt2 := [] } }

theorem ex2_values (s t : ℝ) : values (upd1 (upd1 exB2 0 s) 1 t) = [s, t] := by simp [values, upd1, exB2]

theorem ex2_own : Own exW2.fn :=
  ⟨by simp [exW2, exB2, names], by intro p hp; simp [exW2, exB2] at hp; rcases hp with rfl | rfl <;> rfl⟩

theorem ex2_ok : exW2.fn.OK exf2 := by simp [Fn.OK, exW2, exB2, values, exf2]

theorem ex2_free : Free exf2 exB2 exB2 :=
  ⟨⟨by simp [exB2, names], by intro p hp; simp [exB2] at hp; rcases hp with rfl | rfl <;> rfl,
    by
      intro q hq b hb hn
      simp [exB2] at hq hb
      rcases hq with rfl | rfl <;> rcases hb with rfl | rfl <;> simp at hn ⊢⟩,
   by intro b hb; simp [exB2] at hb; rcases hb with rfl | rfl <;> rfl,
   by intro q hq; simp [exB2] at hq; rcases hq with rfl | rfl <;> exact ⟨rfl, rfl⟩⟩

theorem ex2_bounded : BoundedNear exf2 exB2 (1 / 16) := by
  refine ⟨?_, ?_⟩
  · apply tooBig_false; simp [exf2, exB2, values]
  · intro var b hb x hx
    have hm := find?_some hb
    simp [exB2] at hm
    obtain ⟨hm1, hm2⟩ := hm
    rcases hm1 with rfl | rfl
    · simp only [] at hm2; subst hm2
      apply tooBig_false
      simp only [sub_zero, abs_zero, add_zero, one_mul] at hx
      simp [exf2, exB2, values, upd1]
      exact lt_of_le_of_lt hx (by norm_num)
    · simp only [] at hm2; subst hm2
      apply tooBig_false
      simp [exf2, exB2, values, upd1]

end Bpp.NumDeriv
