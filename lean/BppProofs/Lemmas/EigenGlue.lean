import BppModel.EigenGlue
import BppProofs.Lemmas.ScalarReal
import Mathlib.Tactic.Ring
import Mathlib.Tactic.Linarith
import Mathlib.LinearAlgebra.Matrix.NonsingularInverse
import Mathlib.LinearAlgebra.Matrix.Trace
import Mathlib.LinearAlgebra.Matrix.Determinant.Basic
import Mathlib.Analysis.Normed.Algebra.MatrixExponential
import Mathlib.Analysis.SpecialFunctions.Exponential
/-!
`BppModel/EigenGlue.lean` at `ℝ`: `cdiv` by one statement of Smith's formulas that serves both branches; `getD` row by row
against `blockEntry`, a row being in range exactly when `InRangeAt` holds of it; the product loops as Mathlib products
(`toMatrix`), after which trace, determinant, powers and exponential of `A = V·D·W` are Mathlib's; the determinant of the
assembled `D` by peeling off its last block, 1 × 1 or 2 × 2.
-/
namespace Bpp.EigenGlue
open Bpp Bpp.ScalarReal Matrix

theorem nabs_eq (a : ℝ) : nabs a = |a| := by
  rw [nabs, zero_eq]
  split
  · rename_i h; exact (abs_of_neg ((ltb_iff a 0).mp h)).symm
  · rename_i h; exact (abs_of_nonneg (not_lt.mp (mt (ltb_iff a 0).mpr h))).symm

/-- Smith's formulas for `(x₁ + i·x₂)/(a + i·b)`, `r = b/a`, `d = a + r·b`; the second branch of `cdiv` is this with the
real and the imaginary part of the divisor exchanged -/
theorem smith_div (x1 x2 a b : ℝ) (ha : a ≠ 0) : ∀ r d, r = b / a → d = a + r * b →
    d ≠ 0 ∧ (x1 + r * x2) / d * a - (x2 - r * x1) / d * b = x1 ∧ (x1 + r * x2) / d * b + (x2 - r * x1) / d * a = x2 := by
  rintro r _ hr rfl
  replace hr : r * a = b := hr ▸ div_mul_cancel₀ b ha
  have hda : (a + r * b) * a = a * a + b * b := by linear_combination b * hr
  have hd0 : a + r * b ≠ 0 :=
    left_ne_zero_of_mul (hda ▸ (add_pos_of_pos_of_nonneg (mul_self_pos.mpr ha) (mul_self_nonneg b)).ne')
  refine ⟨hd0, ?_, ?_⟩ <;> rw [div_mul_eq_mul_div, div_mul_eq_mul_div]
  · rw [← sub_div, div_eq_iff hd0]; linear_combination x2 * hr
  · rw [← add_div, div_eq_iff hd0]; linear_combination (-x1) * hr

/-- the branch of `cdiv` is chosen so that its first divisor is not zero -/
theorem cdiv_branch (yr yi : ℝ) (hy : ¬ (yr = 0 ∧ yi = 0)) : (|yi| < |yr| → yr ≠ 0) ∧ (¬ |yi| < |yr| → yi ≠ 0) :=
  ⟨fun h => abs_pos.mp ((abs_nonneg yi).trans_lt h),
   fun h h0 => hy ⟨abs_eq_zero.mp (le_antisymm (by simpa [h0] using not_lt.mp h) (abs_nonneg yr)), h0⟩⟩

theorem blockEntry_eq (d e : Nat → ℝ) (i j : Nat) : blockEntry d e i j =
    if j = i then d i else if j = i + 1 ∧ 0 < e i then e i else if j + 1 = i ∧ e i < 0 then e i else 0 := by
  simp only [blockEntry, gtb_iff, ltb_iff, zero_eq]

theorem blockEntry_self (d e : Nat → ℝ) (i : Nat) : blockEntry d e i i = d i := if_pos rfl

theorem blockEntry_pos (d e : Nat → ℝ) (i j : Nat) (h : 0 < e i) :
    blockEntry d e i j = if j = i + 1 then e i else if j = i then d i else 0 := by
  rw [blockEntry_eq, if_neg (show ¬ (j + 1 = i ∧ e i < 0) from fun hh => lt_asymm h hh.2)]
  by_cases h1 : j = i + 1
  · rw [if_neg (show ¬ j = i by omega), if_pos (⟨h1, h⟩ : j = i + 1 ∧ 0 < e i), if_pos h1]
  · rw [if_neg (show ¬ (j = i + 1 ∧ 0 < e i) from fun hh => h1 hh.1), if_neg h1]

theorem blockEntry_neg (d e : Nat → ℝ) (i j : Nat) (h : e i < 0) (hi : 0 < i) :
    blockEntry d e i j = if j = i - 1 then e i else if j = i then d i else 0 := by
  rw [blockEntry_eq, if_neg (show ¬ (j = i + 1 ∧ 0 < e i) from fun hh => lt_asymm h hh.2)]
  by_cases h1 : j = i - 1
  · rw [if_neg (show ¬ j = i by omega), if_pos (⟨by omega, h⟩ : j + 1 = i ∧ e i < 0), if_pos h1]
  · rw [if_neg (show ¬ (j + 1 = i ∧ e i < 0) from fun hh => h1 (by omega)), if_neg h1]

theorem blockEntry_zero (d e : Nat → ℝ) (i j : Nat) (h : e i = 0) :
    blockEntry d e i j = if j = i then d i else 0 := by
  rw [blockEntry_eq, h, if_neg (show ¬ (j = i + 1 ∧ (0 : ℝ) < 0) from fun hh => lt_irrefl 0 hh.2),
    if_neg (show ¬ (j + 1 = i ∧ (0 : ℝ) < 0) from fun hh => lt_irrefl 0 hh.2)]

/-- the column indices written in row `i` are inside the row -/
def InRangeAt (n : Nat) (e : Nat → ℝ) (i : Nat) : Prop :=
  (0 < e i → i + 1 < n) ∧ (e i < 0 → 0 < i)

theorem getElem?_diagRow (n i : Nat) (a : ℝ) (j : Nat) (hj : j < n) :
    ((Array.replicate n (0 : ℝ)).set! i a)[j]? = some (if j = i then a else 0) := by
  rw [Array.set!_eq_setIfInBounds, Array.getElem?_setIfInBounds, Array.size_replicate, Array.getElem?_replicate,
    if_pos hj]
  by_cases h : i = j
  · rw [if_pos h, if_pos (h ▸ hj), if_pos h.symm]
  · rw [if_neg h, if_neg (Ne.symm h)]

theorem getElem?_offRow (n i k : Nat) (a b : ℝ) (j : Nat) (hk : k < n) (hj : j < n) :
    (((Array.replicate n (0 : ℝ)).set! i a).set! k b)[j]? = some (if j = k then b else if j = i then a else 0) := by
  rw [Array.set!_eq_setIfInBounds, Array.getElem?_setIfInBounds, getElem?_diagRow n i a j hj]
  by_cases h : k = j
  · rw [if_pos h, if_pos (by simpa using hk), if_pos h.symm]
  · rw [if_neg h, if_neg (Ne.symm h)]

theorem getDRow_spec (n : Nat) (d e : Nat → ℝ) (i : Nat) (hi : i < n) :
    (InRangeAt n e i →
      ∃ row, getDRow n d e i = .ok row ∧ row.size = n ∧ ∀ j, j < n → row[j]? = some (blockEntry d e i j)) ∧
    (¬ InRangeAt n e i → getDRow n d e i = .error .ub) := by
  have hw : ∀ (row : Array ℝ) (k : Nat) (x : ℝ), row.size = n → k < n → writeAt row k x = .ok (row.set! k x) :=
    fun row k x hs hk => if_pos (hs ▸ hk)
  have hsz : ((Array.replicate n (0 : ℝ)).set! i (d i)).size = n := by simp
  have hsz' : ∀ k x, (((Array.replicate n (0 : ℝ)).set! i (d i)).set! k x).size = n := fun k x => by simp
  simp only [getDRow, bind, Except.bind, gtb_iff, ltb_iff, zero_eq, hw _ i _ Array.size_replicate hi]
  rcases lt_trichotomy (e i) 0 with hneg | hzero | hpos
  · rw [if_neg (lt_asymm hneg), if_pos hneg]
    refine ⟨fun hr => ?_, fun hr => if_pos (Nat.eq_zero_of_not_pos fun h => hr ⟨fun h' => absurd h' (lt_asymm hneg), fun _ => h⟩)⟩
    have h0 := hr.2 hneg
    rw [if_neg (by omega), hw _ _ _ hsz (by omega)]
    refine ⟨_, rfl, hsz' _ _, fun j hj => ?_⟩
    rw [getElem?_offRow n i (i - 1) _ _ j (by omega) hj, blockEntry_neg d e i j hneg h0]
  · rw [hzero, if_neg (lt_irrefl 0), if_neg (lt_irrefl 0)]
    refine ⟨fun _ => ⟨_, rfl, hsz, fun j hj => ?_⟩, fun hr => absurd ⟨fun h => ?_, fun h => ?_⟩ hr⟩
    · rw [getElem?_diagRow n i _ j hj, blockEntry_zero d e i j hzero]
    all_goals exact absurd (hzero ▸ h) (lt_irrefl 0)
  · rw [if_pos hpos]
    refine ⟨fun hr => ?_, fun hr => if_neg fun h => hr ⟨fun _ => hsz ▸ h, fun h' => absurd h' (lt_asymm hpos)⟩⟩
    rw [hw _ _ _ hsz (hr.1 hpos)]
    refine ⟨_, rfl, hsz' _ _, fun j hj => ?_⟩
    rw [getElem?_offRow n i (i + 1) _ _ j (hr.1 hpos) hj, blockEntry_pos d e i j hpos]

theorem getDRows_spec (n : Nat) (d e : Nat → ℝ) (k : Nat) (hk : k ≤ n) :
    ((∀ i, i < k → InRangeAt n e i) → ∃ rows, getDRows n d e k = .ok rows ∧ rows.length = k ∧
      ∀ i j, i < k → j < n → entry? rows i j = some (blockEntry d e i j)) ∧
    ((∃ i, i < k ∧ ¬ InRangeAt n e i) → getDRows n d e k = .error .ub) := by
  induction k with
  | zero => exact ⟨fun _ => ⟨[], rfl, rfl, fun i j hi => absurd hi i.not_lt_zero⟩, fun ⟨i, hi, _⟩ => absurd hi i.not_lt_zero⟩
  | succ k ih =>
    obtain ⟨ihok, ihub⟩ := ih (by omega)
    obtain ⟨rowok, rowub⟩ := getDRow_spec n d e k (by omega)
    refine ⟨fun hr => ?_, fun ⟨i, hi, hbad⟩ => ?_⟩
    · obtain ⟨rows, h1, h2, h3⟩ := ihok fun i hi => hr i (by omega)
      obtain ⟨row, g1, g2, g3⟩ := rowok (hr k k.lt_succ_self)
      refine ⟨rows ++ [row], ?_, by rw [List.length_append, h2, List.length_singleton], fun i j hi hj => ?_⟩
      · rw [getDRows, h1, g1]; rfl
      · rcases Nat.lt_or_eq_of_le (Nat.le_of_lt_succ hi) with hik | rfl
        · rw [entry?, List.getElem?_append_left (h2 ▸ hik)]; exact h3 i j hik hj
        · rw [entry?, List.getElem?_append_right h2.le, h2, Nat.sub_self]; exact g3 j hj
    · by_cases hall : ∃ i, i < k ∧ ¬ InRangeAt n e i
      · rw [getDRows, ihub hall]; rfl
      · have hall' : ∀ i, i < k → InRangeAt n e i := fun i hi => not_not.mp fun h => hall ⟨i, hi, h⟩
        obtain ⟨rows, h1, -⟩ := ihok hall'
        obtain rfl : i = k := by
          by_contra h; exact hbad (hall' i (by omega))
        rw [getDRows, h1, rowub hbad]; rfl

/-- the shape of `(d, e)` produced by `hqr2`: conjugate pairs stored as neighbours, positive
imaginary part first -/
def PairsWF (n : Nat) (d e : Nat → ℝ) : Prop :=
  ∀ i, i < n →
    (0 < e i → i + 1 < n ∧ e (i + 1) = -e i ∧ d (i + 1) = d i) ∧
    (e i < 0 → 0 < i ∧ e (i - 1) = -e i ∧ d (i - 1) = d i)

theorem pairsWFb_iff (n : Nat) (d e : Nat → ℝ) : pairsWFb n d e = true ↔ PairsWF n d e := by
  simp only [pairsWFb, PairsWF, List.all_eq_true, List.mem_range, Bool.and_eq_true, gtb_iff, ltb_iff, zero_eq,
    ite_eq_right_iff, decide_eq_true_iff, eqb_iff, and_assoc]

theorem PairsWF.inRange {n : Nat} {d e : Nat → ℝ} (h : PairsWF n d e) : ∀ i, i < n → InRangeAt n e i :=
  fun i hi => ⟨fun hp => ((h i hi).1 hp).1, fun hm => ((h i hi).2 hm).1⟩

/-- the `n × n` Mathlib matrix seen through `operator()(i, j)` -/
def toMatrix (n : Nat) (F : FMat ℝ) : Matrix (Fin n) (Fin n) ℝ := fun i j => F i j

theorem foldl_add_eq_sum (n : Nat) (f : Nat → ℝ) :
    (List.range n).foldl (fun acc k => acc + f k) (0 : ℝ) = ∑ k ∈ Finset.range n, f k := by
  induction n with
  | zero => rfl
  | succ n ih => rw [List.range_succ, List.foldl_append, ih, Finset.sum_range_succ]; rfl

theorem multDiagEntry_eq (n : Nat) (A : FMat ℝ) (D : Nat → ℝ) (B : FMat ℝ) (i j : Nat) :
    multDiagEntry n A D B i j = ∑ k ∈ Finset.range n, A i k * B k j * D k := by
  rw [multDiagEntry, zero_eq]; exact foldl_add_eq_sum n _

theorem multEntry_eq (n : Nat) (A B : FMat ℝ) (i j : Nat) :
    multEntry n A B i j = ∑ k ∈ Finset.range n, A i k * B k j := by
  rw [multEntry, zero_eq]; exact foldl_add_eq_sum n _

/-- the triple loop of `mult(A, D, B, O)` computes `A · diag(D) · B` -/
theorem toMatrix_multDiag (n : Nat) (A : FMat ℝ) (D : Nat → ℝ) (B : FMat ℝ) :
    toMatrix n (multDiagEntry n A D B) = toMatrix n A * diagonal (fun k : Fin n => D k) * toMatrix n B := by
  ext i j
  rw [Matrix.mul_apply, toMatrix, multDiagEntry_eq, ← Fin.sum_univ_eq_sum_range (fun k => A i k * B k j * D k)]
  exact Finset.sum_congr rfl fun k _ => by rw [Matrix.mul_diagonal]; exact mul_right_comm _ _ _

theorem toMatrix_mult (n : Nat) (A B : FMat ℝ) :
    toMatrix n (multEntry n A B) = toMatrix n A * toMatrix n B := by
  ext i j
  rw [Matrix.mul_apply, toMatrix, multEntry_eq, ← Fin.sum_univ_eq_sum_range (fun k => A i k * B k j)]
  rfl

section Algebra
variable {n : Nat} {V W : Matrix (Fin n) (Fin n) ℝ}

def unitOfInv (hVW : V * W = 1) : (Matrix (Fin n) (Fin n) ℝ)ˣ := ⟨V, W, hVW, mul_eq_one_comm.mp hVW⟩

theorem eq_conj_of_similar (A V W D : Matrix (Fin n) (Fin n) ℝ) (hAV : A * V = V * D) (hVW : V * W = 1) :
    A = V * D * W := by
  rw [← hAV, Matrix.mul_assoc, hVW, Matrix.mul_one]

theorem trace_of_similar (A V W D : Matrix (Fin n) (Fin n) ℝ) (hAV : A * V = V * D) (hVW : V * W = 1) :
    A.trace = D.trace := by
  rw [eq_conj_of_similar A V W D hAV hVW, Matrix.trace_mul_cycle, mul_eq_one_comm.mp hVW, Matrix.one_mul]

theorem det_of_similar (A V W D : Matrix (Fin n) (Fin n) ℝ) (hAV : A * V = V * D) (hVW : V * W = 1) :
    A.det = D.det := by
  rw [eq_conj_of_similar A V W D hAV hVW, Matrix.det_mul, Matrix.det_mul, mul_right_comm, ← Matrix.det_mul, hVW,
    Matrix.det_one, one_mul]

theorem conj_pow (hVW : V * W = 1) (lam : Fin n → ℝ) (k : Nat) :
    (V * diagonal lam * W) ^ k = V * diagonal (fun i => lam i ^ k) * W :=
  ((unitOfInv hVW).conj_pow (diagonal lam) k).trans (by rw [Matrix.diagonal_pow]; rfl)

theorem conj_mul_conj (hVW : V * W = 1) (f g : Fin n → ℝ) :
    (V * diagonal f * W) * (V * diagonal g * W) = V * diagonal (fun i => f i * g i) * W := by
  simp only [Matrix.mul_assoc]
  rw [← Matrix.mul_assoc W V, mul_eq_one_comm.mp hVW, Matrix.one_mul, ← Matrix.mul_assoc (diagonal f),
    Matrix.diagonal_mul_diagonal]

theorem conj_exp (hVW : V * W = 1) (lam : Fin n → ℝ) :
    NormedSpace.exp (V * diagonal lam * W) = V * diagonal (fun i => Real.exp (lam i)) * W := by
  have : NormedSpace.exp lam = fun i => Real.exp (lam i) := by
    funext i; rw [Pi.coe_exp, Real.exp_eq_exp_ℝ]
  exact (Matrix.exp_units_conj (unitOfInv hVW) (diagonal lam)).trans (by rw [Matrix.exp_diagonal, this]; rfl)

end Algebra

theorem det_block {k r : ℕ} (M : Matrix (Fin (k + r)) (Fin (k + r)) ℝ)
    (h : ∀ (i : Fin r) (j : Fin k), M (Fin.natAdd k i) (Fin.castAdd r j) = 0) :
    M.det = (M.submatrix (Fin.castAdd r) (Fin.castAdd r)).det * (M.submatrix (Fin.natAdd k) (Fin.natAdd k)).det := by
  rw [← Matrix.det_submatrix_equiv_self finSumFinEquiv M,
    ← Matrix.fromBlocks_toBlocks (M.submatrix finSumFinEquiv finSumFinEquiv)]
  have : (M.submatrix finSumFinEquiv finSumFinEquiv).toBlocks₂₁ = 0 := by ext i j; exact h i j
  rw [this, Matrix.det_fromBlocks_zero₂₁]; rfl

/-- contribution of position `i` to the product of the spectrum -/
noncomputable def factor (d e : Nat → ℝ) (i : Nat) : ℝ :=
  if 0 < e i then d i * d i + e i * e i else if e i < 0 then 1 else d i

theorem spectrumProd_eq (n : Nat) (d e : Nat → ℝ) :
    spectrumProd n d e = ∏ i ∈ Finset.range n, factor d e i := by
  have hstep : ∀ (acc : ℝ) (i : Nat),
      (if Scalar.gtb (e i) Scalar.zero then acc * (d i * d i + e i * e i)
        else if Scalar.ltb (e i) Scalar.zero then acc else acc * d i) = acc * factor d e i := fun acc i => by
    simp only [factor, gtb_iff, ltb_iff, zero_eq]
    split
    · rfl
    · split
      · rw [mul_one]
      · rfl
  simp only [spectrumProd, hstep, one_eq]
  induction n with
  | zero => rfl
  | succ n ih => rw [List.range_succ, List.foldl_append, ih, Finset.prod_range_succ]; rfl

theorem spectrumSum_eq (n : Nat) (d : Nat → ℝ) :
    spectrumSum n d = ∑ i ∈ Finset.range n, d i := by
  rw [spectrumSum, zero_eq]; exact foldl_add_eq_sum n d

theorem PairsWF.prefix {n m : Nat} {d e : Nat → ℝ} (h : PairsWF m d e) (hnm : n ≤ m) (hn : 0 ≤ e n) :
    PairsWF n d e := by
  intro i hi
  refine ⟨fun hp => ?_, (h i (by omega)).2⟩
  obtain ⟨a, b, c⟩ := (h i (by omega)).1 hp
  refine ⟨lt_of_le_of_ne (by omega) fun hin => ?_, b, c⟩
  rw [hin] at b
  exact absurd (b ▸ hn) (not_le.mpr (neg_neg_of_pos hp))

/-- the determinant of the block-diagonal matrix assembled by `getD` is the product of the
spectrum: `d` for a real eigenvalue, `d² + e²` for a conjugate pair -/
theorem det_blockEntry (n : Nat) (d e : Nat → ℝ) (hwf : PairsWF n d e) :
    (toMatrix n (blockEntry d e)).det = ∏ i ∈ Finset.range n, factor d e i := by
  induction n using Nat.strong_induction_on with
  | _ n ih =>
    match n, ih, hwf with
    | 0, _, _ => rw [Matrix.det_fin_zero, Finset.range_zero, Finset.prod_empty]
    | m + 1, ih, hwf =>
      obtain ⟨hp, hm⟩ := hwf m (by omega)
      rcases lt_trichotomy (e m) 0 with hneg | hzero | hpos
      · -- the last position closes a conjugate pair
        obtain ⟨hm0, hem, hdm⟩ := hm hneg
        obtain ⟨k, rfl⟩ : ∃ k, m = k + 1 := ⟨m - 1, by omega⟩
        rw [Nat.add_sub_cancel] at hem hdm
        have hek : 0 < e k := by rw [hem]; exact neg_pos.mpr hneg
        rw [det_block (k := k) (r := 2), Matrix.det_fin_two, Finset.prod_range_succ, Finset.prod_range_succ, factor,
          if_pos hek, factor, if_neg (lt_asymm hneg), if_pos hneg, mul_one]
        · refine congrArg₂ _ (ih k (by omega) (hwf.prefix (by omega) hek.le)) ?_
          simp only [Matrix.submatrix_apply, toMatrix, Fin.val_natAdd, Fin.val_zero, Fin.val_one, add_zero]
          rw [blockEntry_self, blockEntry_self, blockEntry_pos d e k _ hek, if_pos rfl, blockEntry_neg d e _ k hneg k.succ_pos,
            Nat.add_sub_cancel, if_pos rfl, hdm, hem]
          ring
        · refine Fin.forall_fin_two.mpr ⟨fun j => ?_, fun j => ?_⟩
          · show blockEntry d e k j = 0
            rw [blockEntry_pos d e k j hek, if_neg (by omega), if_neg (by omega)]
          · show blockEntry d e (k + 1) j = 0
            rw [blockEntry_neg d e (k + 1) j hneg k.succ_pos, if_neg (by omega), if_neg (by omega)]
      · -- a real eigenvalue in the last position
        rw [det_block (k := m) (r := 1), Matrix.det_fin_one, Finset.prod_range_succ, factor, hzero,
          if_neg (lt_irrefl 0), if_neg (lt_irrefl 0)]
        · exact congrArg₂ _ (ih m (by omega) (hwf.prefix (by omega) hzero.ge)) (blockEntry_self d e m)
        · intro i j
          rw [Fin.fin_one_eq_zero i]
          show blockEntry d e m j = 0
          rw [blockEntry_zero d e m j hzero, if_neg (by omega)]
      · exact absurd (hp hpos).1 (by omega)

theorem trace_blockEntry (n : Nat) (d e : Nat → ℝ) :
    (toMatrix n (blockEntry d e)).trace = ∑ i ∈ Finset.range n, d i := by
  rw [← Fin.sum_univ_eq_sum_range d n]
  exact Finset.sum_congr rfl fun i _ => blockEntry_self d e i

end Bpp.EigenGlue
