import BppModel.LapFull
import BppProofs.Lemmas.LapEasy
/-! Helper lemmas for C04 (`lap`, the whole routine `Lap.lapFull`): vectors as functions, checked
accesses, the integer conversions, loops. -/
namespace Bpp.Mx.Lap
open Bpp Bpp.Mx

section Vec
variable {β : Type}

@[simp] theorem upd_same (f : Nat → β) (i : Nat) (x : β) : upd f i x i = x := by simp [upd]
theorem upd_ne (f : Nat → β) {i j : Nat} (x : β) (h : j ≠ i) : upd f i x j = f j := by simp [upd, h]
theorem upd_apply (f : Nat → β) (i j : Nat) (x : β) : upd f i x j = if j = i then x else f j := rfl

theorem rd_ok_iff {n : Nat} {f : Nat → β} {i : Nat} {x : β} : rd n f i = .ok x ↔ i < n ∧ x = f i := by
  unfold rd
  split
  · next h => simp [h, eq_comm]
  · next h => simp [h]

theorem wr_ok_iff {n : Nat} {f g : Nat → β} {i : Nat} {x : β} : wr n f i x = .ok g ↔ i < n ∧ g = upd f i x := by
  unfold wr
  split
  · next h => simp [h, eq_comm]
  · next h => simp [h]

theorem rd_of_lt {n : Nat} (f : Nat → β) {i : Nat} (h : i < n) : rd n f i = .ok (f i) := by simp [rd, h]
theorem wr_of_lt {n : Nat} (f : Nat → β) {i : Nat} (x : β) (h : i < n) : wr n f i x = .ok (upd f i x) := by simp [wr, h]
end Vec

theorem szOfInt_ofNat (i : Nat) (h : i < 2 ^ 64) : szOfInt (i : Int) = i := by
  unfold szOfInt
  have : ((i : Int) % (2 ^ 64 : Int)) = (i : Int) := Int.emod_eq_of_lt (by omega) (by exact_mod_cast h)
  rw [this]; simp

theorem toShort_eq_one {m : Nat} (h : m < 32768) : toShort m = 1 ↔ m = 1 := by
  unfold toShort; omega

theorem toShort_eq_zero {m : Nat} (h : m < 32768) : toShort m = 0 ↔ m = 0 := by
  unfold toShort; omega

@[simp] theorem ltExt_none (x : ℝ) : ltExt x none = true := rfl
@[simp] theorem ltExt_some (x y : ℝ) : ltExt x (some y) = true ↔ x < y := by simp [ltExt]

/-- a loop that returns normally: an invariant carried through its iterations -/
theorem loopM_ok_inv {σ : Type} (P : Nat → σ → Prop) (n : Nat) (f : Nat → σ → Res σ) (s t : σ)
    (h : loopM n f s = .ok t) (h0 : P 0 s)
    (hstep : ∀ k a b, k < n → P k a → f k a = .ok b → P (k + 1) b) : P n t := by
  induction n generalizing t with
  | zero => simp only [loopM] at h; cases h; exact h0
  | succ n ih =>
    rw [loopM_succ] at h
    cases hl : loopM n f s with
    | error e => rw [hl] at h; cases h
    | ok a =>
      rw [hl] at h
      exact hstep n a t (by omega) (ih a hl (fun k a b hk => hstep k a b (by omega))) h

/-- the outcome is a normal return (for witnesses evaluated by the kernel) -/
def returns {β : Type} : Res β → Bool
  | .ok _ => true
  | _ => false

theorem returns_iff {β : Type} (r : Res β) : returns r = true ↔ ∃ a, r = .ok a := by
  cases r with
  | ok a => simp [returns]
  | error e => simp [returns]

end Bpp.Mx.Lap
