import BppModel.DiscretizeFamilies
import BppProofs.Lemmas.DiscretizeEqProp
import Mathlib.Analysis.SpecialFunctions.Exp
import Mathlib.Analysis.SpecialFunctions.Log.Basic
/-!
C09: the hypotheses `H` (`ParentOK`) *proved* for the families whose `pProb`, `qProb`,
`Expectation` are closed forms: exponential, truncated exponential, uniform.
-/
namespace Bpp.Discretize
open Bpp Real

/-- the core inequality: for `0 < lam`,
`a (e^{-lam a} − e^{-lam b}) ≤ e^{-lam a}(a + 1/lam) − e^{-lam b}(b + 1/lam) ≤ b (e^{-lam a} − e^{-lam b})` -/
theorem exp_mean_ineq (lam a b : ℝ) (hl : 0 < lam) :
    a * (exp (-lam * a) - exp (-lam * b)) ≤ exp (-lam * a) * (a + 1 / lam) - exp (-lam * b) * (b + 1 / lam) ∧
    exp (-lam * a) * (a + 1 / lam) - exp (-lam * b) * (b + 1 / lam) ≤ b * (exp (-lam * a) - exp (-lam * b)) := by
  -- with `t = lam (b - a)`: `e^{-lam a} = e^{-lam b} e^t ≥ e^{-lam b} (1 + t)` and `e^{-lam b} = e^{-lam a} e^{-t} ≥ e^{-lam a} (1 - t)`
  have h1 : exp (-lam * b) * (lam * (b - a) + 1) ≤ exp (-lam * a) := by
    rw [show -lam * a = -lam * b + lam * (b - a) by ring, exp_add]
    exact mul_le_mul_of_nonneg_left (add_one_le_exp _) (exp_pos _).le
  have h2 : exp (-lam * a) * (-(lam * (b - a)) + 1) ≤ exp (-lam * b) := by
    rw [show -lam * b = -lam * a + -(lam * (b - a)) by ring, exp_add]
    exact mul_le_mul_of_nonneg_left (add_one_le_exp _) (exp_pos _).le
  generalize exp (-lam * a) = A at h1 h2 ⊢
  generalize exp (-lam * b) = B at h1 h2 ⊢
  have hk : lam * (1 / lam) = 1 := mul_one_div_cancel hl.ne'
  have hk0 : 0 < 1 / lam := one_div_pos.2 hl
  generalize 1 / lam = k at hk hk0 ⊢
  constructor
  · have e : k * (B * (lam * (b - a) + 1)) = B * (b - a) + k * B := by linear_combination (B * (b - a)) * hk
    linarith [mul_le_mul_of_nonneg_left h1 hk0.le]
  · have e : k * (A * (-(lam * (b - a)) + 1)) = -(A * (b - a)) + k * A := by linear_combination (-(A * (b - a))) * hk
    linarith [mul_le_mul_of_nonneg_left h2 hk0.le]

@[simp] theorem expParent_P (lam x : ℝ) : (expParent lam).P x = 1 - exp (-lam * x) := by simp [expParent]
@[simp] theorem expParent_Q (lam u : ℝ) : (expParent lam).Q u = -log (1 - u) / lam := by simp [expParent]
@[simp] theorem expParent_E (lam a : ℝ) : (expParent lam).E a = 1 / lam - exp (-a * lam) * (a + 1 / lam) := by simp [expParent]

/-- `H` holds for the exponential parent on every domain (rate `lam > 0`) -/
theorem exponential_parentOK (lam lo hi : ℝ) (hl : 0 < lam) : ParentOK (expParent lam) lo hi where
  mono x y _ hxy _ := by
    simp only [expParent_P]
    have : exp (-lam * y) ≤ exp (-lam * x) := exp_le_exp.2 (by nlinarith)
    linarith
  qmono u v _ huv hv := by
    simp only [expParent_P, expParent_Q] at *
    have hv1 : 0 < 1 - v := by have := exp_pos (-lam * hi); linarith
    have : log (1 - v) < log (1 - u) := log_lt_log hv1 (by linarith)
    apply div_lt_div_of_pos_right _ hl; linarith
  qp x _ _ := by
    rw [expParent_P, expParent_Q, sub_sub_cancel, log_exp, neg_mul, neg_neg, mul_div_cancel_left₀ _ hl.ne']
  pq u _ hu := by
    have hu1 : 0 < 1 - u := by rw [expParent_P] at hu; have := exp_pos (-lam * hi); linarith
    rw [expParent_P, expParent_Q, neg_mul, mul_div_cancel₀ _ hl.ne', neg_neg, exp_log hu1, sub_sub_cancel]
  mean a b _ hab _ := by
    simp only [expParent_P, expParent_E]
    have := exp_mean_ineq lam a b hl
    rw [show -a * lam = -lam * a by ring, show -b * lam = -lam * b by ring]
    constructor <;> [have := this.1; have := this.2] <;> linarith

/-- conditioning: a parent that is `P/c`, `Q (c·)`, `E/c` of a parent satisfying `H` (on the domain)
satisfies `H` -/
theorem ParentOK.scale {par par' : Parent ℝ} {lo hi c : ℝ} (H : ParentOK par lo hi) (hc : 0 < c) (hl : lo ≤ hi)
    (hP : ∀ x, lo ≤ x → x ≤ hi → par'.P x = par.P x / c) (hQ : ∀ u, par'.Q u = par.Q (c * u))
    (hE : ∀ x, lo ≤ x → x ≤ hi → par'.E x = par.E x / c) : ParentOK par' lo hi := by
  have hlo : ∀ {u}, par'.P lo ≤ u → par.P lo ≤ c * u := fun h => by
    rw [hP lo le_rfl hl, div_le_iff₀ hc] at h; linarith
  have hhi : ∀ {u}, u ≤ par'.P hi → c * u ≤ par.P hi := fun h => by
    rw [hP hi hl le_rfl, le_div_iff₀ hc] at h; linarith
  refine ⟨fun x y hx hxy hy => ?_, fun u v hu huv hv => ?_, fun x hx hxh => ?_, fun u hu hv => ?_, fun a b ha hab hb => ?_⟩
  · rw [hP x hx (hxy.trans hy), hP y (hx.trans hxy) hy]
    exact div_le_div_of_nonneg_right (H.mono x y hx hxy hy) hc.le
  · rw [hQ, hQ]
    exact H.qmono _ _ (hlo hu) (mul_lt_mul_of_pos_left huv hc) (hhi hv)
  · rw [hP x hx hxh, hQ, mul_div_cancel₀ _ hc.ne', H.qp x hx hxh]
  · rw [hQ, hP _ (H.q_ge_lo hl (hlo hu) (hhi hv)) (H.q_le_hi hl (hlo hu) (hhi hv)), H.pq _ (hlo hu) (hhi hv),
      mul_div_cancel_left₀ _ hc.ne']
  · rw [hP a ha (hab.trans hb), hP b (ha.trans hab) hb, hE a ha (hab.trans hb), hE b (ha.trans hab) hb,
      ← sub_div, ← sub_div, ← mul_div_assoc, ← mul_div_assoc, div_le_div_iff_of_pos_right hc,
      div_le_div_iff_of_pos_right hc]
    exact H.mean a b ha hab hb

theorem unifParent_P (mn mx x : ℝ) (hx : mn ≤ x) : (unifParent mn mx).P x = (x - mn) / (mx - mn) := by
  simp only [unifParent]
  by_cases h : x ≤ mn
  · have : x = mn := le_antisymm h hx
    simp [this]
  · simp [h]

theorem unifParent_E (mn mx a : ℝ) (h1 : mn ≤ a) (h2 : a ≤ mx) (hw : mn < mx) :
    (unifParent mn mx).E a = (a * a - mn * mn) / (mx - mn) / 2 := by
  simp only [unifParent, two_eq]
  by_cases h : a ≤ mn
  · have : a = mn := le_antisymm h h1
    simp [this]
  · simp only [ScalarReal.leb_iff, h, if_false, ScalarReal.geb_iff]
    by_cases h3 : mx ≤ a
    · have : a = mx := le_antisymm h2 h3
      subst this
      have : a - mn ≠ 0 := by linarith
      simp only [le_refl, if_true]; field_simp; ring
    · simp [h3]

@[simp] theorem unifParent_Q (mn mx u : ℝ) : (unifParent mn mx).Q u = mn + u * (mx - mn) := by simp [unifParent]

/-- `H` holds for the uniform parent on every sub-interval of its support: it is the parent
`P x = x − mn`, `Q v = mn + v`, `E x = (x² − mn²)/2` conditioned to total mass `mx − mn` -/
theorem uniform_parentOK (mn mx lo hi : ℝ) (hw : mn < mx) (h1 : mn ≤ lo) (h2 : hi ≤ mx) (hl : lo ≤ hi) :
    ParentOK (unifParent mn mx) lo hi := by
  have H : ParentOK ⟨fun x => x - mn, fun v => mn + v, fun x => (x * x - mn * mn) / 2⟩ lo hi :=
    { mono := fun x y _ h _ => sub_le_sub_right h mn
      qmono := fun u v _ h _ => add_lt_add_right h mn
      qp := fun x _ _ => add_sub_cancel mn x
      pq := fun u _ _ => add_sub_cancel_left mn u
      mean := fun a b _ hab _ => by constructor <;> linarith [mul_self_nonneg (b - a)] }
  refine H.scale (sub_pos.2 hw) hl (fun x hx _ => unifParent_P mn mx x (h1.trans hx))
    (fun u => by rw [unifParent_Q, mul_comm]) (fun x hx hx' => ?_)
  rw [unifParent_E mn mx x (h1.trans hx) (hx'.trans h2) hw, div_right_comm]

theorem texpCond_eq (lam tp : ℝ) : (texpCond lam tp : ℝ) = 1 - exp (-lam * tp) := by simp [texpCond]

theorem texpCond_pos (lam tp : ℝ) (hl : 0 < lam) (ht : 0 < tp) : 0 < (texpCond lam tp : ℝ) := by
  rw [texpCond_eq]
  have : exp (-lam * tp) < 1 := by rw [exp_lt_one_iff]; nlinarith
  linarith

theorem texpParent_P (lam tp x : ℝ) (hl : 0 < lam) (ht : 0 < tp) (hx : x ≤ tp) :
    (texpParent lam tp (texpCond lam tp)).P x = (1 - exp (-lam * x)) / (1 - exp (-lam * tp)) := by
  have hc := texpCond_pos lam tp hl ht
  rw [texpCond_eq] at hc
  simp only [texpParent, texpCond_eq, ScalarReal.geb_iff, ScalarReal.one_eq, ScalarReal.exp_eq]
  by_cases h : tp ≤ x
  · have : x = tp := le_antisymm hx h
    subst this
    simp only [le_refl, if_true]
    exact (div_self hc.ne').symm
  · simp [h]

theorem texpParent_Q (lam tp u : ℝ) (hl : 0 < lam) :
    (texpParent lam tp (texpCond lam tp)).Q u = -log (1 - (1 - exp (-lam * tp)) * u) / lam := by
  simp only [texpParent, texpCond_eq, ScalarReal.eqb_iff, ScalarReal.one_eq, ScalarReal.exp_eq, ScalarReal.log_eq]
  by_cases h : u = 1
  · subst h
    simp only [if_true, mul_one]
    rw [show 1 - (1 - exp (-lam * tp)) = exp (-lam * tp) by ring, log_exp]; field_simp
  · simp [h]

theorem texpParent_E (lam tp a : ℝ) (ha : a ≤ tp) :
    (texpParent lam tp (texpCond lam tp)).E a = (1 / lam - exp (-a * lam) * (a + 1 / lam)) / (1 - exp (-lam * tp)) := by
  simp only [texpParent, texpCond_eq, ScalarReal.ltb_iff, ScalarReal.one_eq, ScalarReal.exp_eq]
  by_cases h : a < tp
  · simp [h]
  · have : a = tp := le_antisymm ha (not_lt.1 h)
    subst this; simp

/-- `H` holds for the truncated exponential parent on every domain below the truncation point
(rate `lam > 0`, truncation point `tp > 0`) -/
theorem truncated_exponential_parentOK (lam tp lo hi : ℝ) (hl : 0 < lam) (ht : 0 < tp) (hlo : lo ≤ hi) (hhi : hi ≤ tp) :
    ParentOK (texpParent lam tp (texpCond lam tp)) lo hi := by
  have hc := texpCond_pos lam tp hl ht
  rw [texpCond_eq] at hc
  refine (exponential_parentOK lam lo hi hl).scale hc hlo (fun x _ hx => ?_) (fun u => ?_) (fun x _ hx => ?_)
  · rw [texpParent_P lam tp x hl ht (hx.trans hhi), expParent_P]
  · rw [texpParent_Q lam tp u hl, expParent_Q]
  · rw [texpParent_E lam tp x (hx.trans hhi), expParent_E]

end Bpp.Discretize
