import BppProofs.Lemmas.ParamListBulk
/-! The forwarding layer of `AbstractParametrizable` (C02): what the owner's setters do to the heap, what they
answer, and what they hand to `fireParameterChanged`. -/
namespace Bpp.ParamList

theorem apSetParametersValues_spec (h : Store) (l src : List ObjId) :
    (apSetParametersValues h l src).heap = (setParametersValues h l src).heap ∧
    (apSetParametersValues h l src).err = (setParametersValues h l src).err ∧
    (apSetParametersValues h l src).fired =
      if (setParametersValues h l src).err = none then some src else none := by
  unfold apSetParametersValues; dsimp only
  cases (setParametersValues h l src).err <;> exact ⟨rfl, rfl, rfl⟩

theorem apSetAllParametersValues_spec (h : Store) (l src : List ObjId) :
    (apSetAllParametersValues h l src).heap = (setAllParametersValues h l src).heap ∧
    (apSetAllParametersValues h l src).err = (setAllParametersValues h l src).err ∧
    (apSetAllParametersValues h l src).fired =
      if (setAllParametersValues h l src).err = none then some src else none := by
  unfold apSetAllParametersValues; dsimp only
  cases (setAllParametersValues h l src).err <;> exact ⟨rfl, rfl, rfl⟩

/-- the owner's `matchParametersValues`, under unique source names: the notification list is the shared
sub-list of the source at the reported positions, and building it neither raises nor writes -/
theorem apMatchParametersValues_spec (h : Store) (l src : List ObjId) (nd : (names h src).Nodup) :
    let m := matchParametersValues h l src
    let r := apMatchParametersValues h l src
    r.heap = m.heap ∧ r.err = m.err ∧
    (m.err = none → r.flag = decide (m.pos ≠ []) ∧
      r.fired = if m.pos = [] then none else some (m.pos.filterMap (src[·]?))) ∧
    (m.err ≠ none → r.fired = none ∧ r.flag = false) := by
  unfold apMatchParametersValues; dsimp only
  cases e1 : (matchParametersValues h l src).err with
  | some x => exact ⟨rfl, rfl, fun c => (nomatch c), fun _ => ⟨rfl, rfl⟩⟩
  | none =>
    obtain ⟨hp, ss, _⟩ := matchParametersValues_expected nd e1
    dsimp only
    by_cases he : (matchParametersValues h l src).pos = []
    · rw [if_neg (not_not.2 he), if_pos he]
      exact ⟨rfl, rfl, fun _ => ⟨by rw [he]; rfl, rfl⟩, fun c => absurd rfl c⟩
    · have hsel : (names (matchParametersValues h l src).heap
          ([] ++ (matchParametersValues h l src).pos.filterMap (src[·]?))).Nodup :=
        nodup_sel_idx (by rw [ss.names]; exact nd)
          (hp ▸ (diffPos_sorted h l src 0).imp (fun c => Nat.ne_of_lt c))
      rw [if_pos he, if_neg he, shareSubListIdx_eq, shareParameters_spec _ _ [] hsel]
      exact ⟨rfl, rfl, fun _ => ⟨(decide_eq_true he).symm, rfl⟩, fun c => absurd rfl c⟩

theorem apMatchParametersValues_err {h : Store} {l src : List ObjId} (nd : (names h src).Nodup)
    (e : (apMatchParametersValues h l src).err ≠ none) : (apMatchParametersValues h l src).heap = h := by
  obtain ⟨a, b, _⟩ := apMatchParametersValues_spec h l src nd
  rw [a]; exact matchParametersValues_err (b ▸ e)

theorem apSetParameterValue_none {h : Store} {l : List ObjId} {pre n : String} (v : Rat)
    (e : find? h l (pre ++ n) = none) :
    apSetParameterValue h l pre n v = { heap := h, err := some .notfound } := by
  rw [apSetParameterValue, setParameterValue, e]

/-- on a found name: the value update of the list; then one fresh copy of the updated parameter is notified -/
theorem apSetParameterValue_some {h : Store} {l : List ObjId} {pre n : String} (v : Rat) {t : ObjId}
    (e : find? h l (pre ++ n) = some t) :
    apSetParameterValue h l pre n v =
      if (h.get t).rejects v = true ∧ v ≠ (h.get t).value then { heap := h, err := some .constraint }
      else { heap := ((h.put t { h.get t with value := v }).alloc { h.get t with value := v }).1,
             fired := some [h.next] } := by
  rw [apSetParameterValue, setParameterValue, e]; dsimp only
  rw [setValue_eq]
  by_cases c : (h.get t).rejects v = true ∧ v ≠ (h.get t).value
  · rw [if_pos c, if_pos c]
  · rw [if_neg c, if_neg c]; dsimp only
    have e' : find? (h.put t { h.get t with value := v }) l (pre ++ n) = some t :=
      (find?_congr (fun i _ => nameOf_put (q := { h.get t with value := v }) rfl i) _).trans e
    rw [createSubListNames, e']; dsimp only
    rw [addParameter_new rfl, get_put, if_pos rfl]
    rfl

theorem apSetParameterValue_spec (h : Store) (l : List ObjId) (pre n : String) (v : Rat) (vl : Valid h l) :
    let r := apSetParameterValue h l pre n v
    r.err = (setParameterValue h l (pre ++ n) v).err ∧
    (∀ t ∈ l, r.heap.get t = (setParameterValue h l (pre ++ n) v).heap.get t) ∧
    (r.err ≠ none → r.fired = none ∧ r.heap = h) ∧
    (r.err = none → ∃ t, find? h l (pre ++ n) = some t ∧ r.fired = some [h.next] ∧
      r.heap.get h.next = r.heap.get t) := by
  cases e : find? h l (pre ++ n) with
  | none =>
    rw [apSetParameterValue_none v e, setParameterValue, e]
    exact ⟨rfl, fun _ _ => rfl, fun _ => ⟨rfl, rfl⟩, fun c => (nomatch c)⟩
  | some t =>
    rw [apSetParameterValue_some v e, setParameterValue_some v e]
    split
    · exact ⟨rfl, fun _ _ => rfl, fun _ => ⟨rfl, rfl⟩, fun c => (nomatch c)⟩
    · have ht : t < h.next := find?_valid vl e
      refine ⟨rfl, fun x hx => ?_, fun c => absurd rfl c, fun _ => ⟨t, rfl, rfl, ?_⟩⟩
      · rw [get_alloc, next_put, if_neg (Nat.ne_of_lt (vl x hx))]
      · rw [get_alloc, get_alloc, next_put, if_pos rfl, if_neg (Nat.ne_of_lt ht), get_put, if_pos rfl]

end Bpp.ParamList
