import BppProofs.Lemmas.TreeRooted
import BppProofs.Lemmas.GraphSpec
import BppProofs.Lemmas.TreeWalk
/-
The executable test `isRootedTree` of the reference (`BppModel/TreeRef.lean`) accepts every valid
rooted tree: the driver's reference tree `refOf g` is defined on all of them.  And it accepts only valid rooted
trees (`isRootedTree_iff`): its conditions say that every node is joined to the root by exactly one directed path
(the ancestor line that ends at the root is one; the in-degrees read off the edge table leave room for no other),
which is what a rooted tree is (`isTreeFrom_iff_unique_path`).
-/
namespace Bpp.Graph
open AL

namespace DTree
variable {g : G} {P : PTree}

/-- a node has at most one incoming edge: the children listed by the reference are pairwise different -/
theorem up_children_nodup (h : DTree g P) : ((refRaw g).up.map (·.1)).Nodup := by
  have hp := List.Pairwise.and_mem.1 (List.pairwise_map.1 (G.nodup_of_asc h.cons.sorted.edges))
  rw [refRaw, List.map_map, List.nodup_iff_pairwise_ne]
  refine List.Pairwise.map _ ?_ hp
  rintro ⟨e, a, c⟩ ⟨e', a', c'⟩ ⟨hm, hm', hne⟩ (rfl : c = c')
  have o := (G.mem_edges_iff_out h.cons h.dir e a c).1 hm
  have o' := (G.mem_edges_iff_out h.cons h.dir e' a' c).1 hm'
  have hp := (h.arc a c).1 (arc_of_out o)
  rw [(h.arc a' c).1 (arc_of_out o')] at hp
  cases hp
  rw [o] at o'
  exact hne (Option.some.inj o')

/-- the entries of the reference that lead to `n`: one, unless `n` has no father -/
theorem up_into (h : DTree g P) (n : Nat) :
    ((refRaw g).up.filter (fun t => t.1 == n)).length = if (P.par n).isSome then 1 else 0 := by
  have : ((refRaw g).up.map (·.1)).count n = (refRaw g).up.countP (fun t => t.1 == n) := by
    rw [List.count_eq_countP, List.countP_map]; rfl
  rw [← List.countP_eq_length_filter, ← this, h.up_children_nodup.count]
  by_cases hp : (P.par n).isSome = true
  · obtain ⟨a, hpa⟩ := Option.isSome_iff_exists.1 hp
    obtain ⟨e, ho⟩ := h.arc_out hpa
    rw [if_pos hp, if_pos (List.mem_map.2 ⟨(n, a, e), (h.mem_up n a e).2 ho, rfl⟩)]
  · rw [if_neg hp, if_neg]
    intro hm
    obtain ⟨⟨c, a, e⟩, hm', rfl⟩ := List.mem_map.1 hm
    rw [(h.arc a c).1 (arc_of_out ((h.mem_up c a e).1 hm'))] at hp
    exact hp rfl

/-- the reference test accepts the valid rooted tree -/
theorem isRootedTree (h : DTree g P) (hr : P.root = g.root) : Bpp.Graph.isRootedTree g = true := by
  have hroot : g.hasNode g.root = true := (h.nodes g.root).1 (hr ▸ h.wf.root_mem)
  have hP : ∀ n ∈ (refRaw g).nodes, n ∈ P.nodes := fun n hn => (h.mem_ref_nodes n).1 hn
  unfold Bpp.Graph.isRootedTree
  simp only [h.dir, hroot, Bool.true_and, Bool.and_eq_true, List.all_eq_true]
  refine ⟨⟨fun n hn => ?_, fun t ht => ?_⟩, fun n hn => ?_⟩
  · rw [h.up_into, beq_iff_eq]
    by_cases hnr : n = g.root
    · rw [if_pos hnr, hnr, ← hr, h.wf.par_root]; rfl
    · obtain ⟨p, hp, _⟩ := h.wf.par_some n (hP n hn) (hr ▸ hnr)
      rw [if_neg hnr, hp]; rfl
  · obtain ⟨c, a, e⟩ := t
    have hn := G.arc_nodes h.cons (arc_of_out ((h.mem_up c a e).1 ht))
    rw [List.contains_iff_mem, List.contains_iff_mem]
    exact ⟨(G.mem_keys_hasNode g c).2 hn.2, (G.mem_keys_hasNode g a).2 hn.1⟩
  · rw [h.ref_anc (hP n hn), h.wf.line_last (hP n hn), hr]
    exact beq_self_eq_true _

theorem refOf (h : DTree g P) (hr : P.root = g.root) : Bpp.Graph.refOf g = some (refRaw g) := by
  unfold Bpp.Graph.refOf; rw [h.isRootedTree hr]; rfl

end DTree

theorem find?_of_filter_singleton {α : Type} {p : α → Bool} {l : List α} {t : α} (h : l.filter p = [t]) : l.find? p = some t := by
  induction l with
  | nil => simp at h
  | cons a rest ih =>
    simp only [List.filter_cons] at h
    simp only [List.find?_cons]
    by_cases hpa : p a = true
    · simp only [hpa, if_true] at h ⊢
      have := List.cons.inj h; rw [this.1]
    · have hpa' : p a = false := by simpa using hpa
      simp only [hpa', Bool.false_eq_true, if_false] at h ⊢
      exact ih h

/-- a line that ends at `root` lists backwards a path from `root`, when every father-son pair of `par` is a relation -/
theorem upWalk_lineOf {g : G} {root : Nat} {par : Nat → Option Nat} (harc : ∀ n p, par n = some p → Arc g p n) :
    ∀ (f n : Nat), (lineOf par f n).getLast? = some root → UpWalk g root n (lineOf par f n) := by
  intro f
  induction f with
  | zero => intro n hl; cases hl; exact .root
  | succ f ih =>
    intro n hl
    cases hp : par n with
    | none => rw [lineOf_none hp] at hl ⊢; cases hl; exact .root
    | some p =>
      rw [lineOf_some hp] at hl ⊢
      rw [List.getLast?_cons_of_ne_nil (lineOf_ne_nil par f p)] at hl
      exact .step (harc n p hp) (ih p hl)

theorem validRooted_of_isRootedTree {g : G} (hc : Consistent g) (h : isRootedTree g = true) : ValidRooted g := by
  unfold isRootedTree at h
  simp only [Bool.and_eq_true, List.all_eq_true, beq_iff_eq, List.contains_iff_mem] at h
  obtain ⟨⟨⟨⟨hd, hroot⟩, hdeg⟩, -⟩, hreach⟩ := h
  have hkeys : ∀ n, n ∈ (refRaw g).nodes ↔ g.hasNode n = true := fun n => G.mem_keys_hasNode g n
  -- a relation `p -> n`: the only entry of the reference that leads to `n`
  have hin : ∀ p n, Arc g p n → n ≠ g.root ∧ (refRaw g).parent n = some p := by
    intro p n ha
    obtain ⟨e, he⟩ := out_of_arc ha
    have hm : (n, p, e) ∈ (refRaw g).up.filter (fun t => t.1 == n) :=
      List.mem_filter.2 ⟨(mem_up_of_consistent hc hd n p e).2 he, beq_self_eq_true n⟩
    have hl := hdeg n ((hkeys n).2 (G.arc_nodes hc ha).2)
    by_cases hn : n = g.root
    · rw [if_pos hn, List.length_eq_zero_iff] at hl
      rw [hl] at hm; cases hm
    · rw [if_neg hn] at hl
      obtain ⟨t, ht⟩ := List.length_eq_one_iff.1 hl
      rw [ht, List.mem_singleton] at hm
      exact ⟨hn, by rw [Ref.parent, find?_of_filter_singleton ht, ← hm]; rfl⟩
  have harc : ∀ n p, (refRaw g).parent n = some p → Arc g p n := by
    intro n p hp
    rw [Ref.parent] at hp
    cases hf : (refRaw g).up.find? (fun t => t.1 == n) with
    | none => rw [hf] at hp; cases hp
    | some t =>
      obtain ⟨c, a, e⟩ := t
      rw [hf] at hp
      cases hp
      obtain rfl : c = n := by simpa using List.find?_some hf
      exact arc_of_out ((mem_up_of_consistent hc hd c a e).1 (List.mem_of_find?_eq_some hf))
  have huniq : ∀ {n w}, UpWalk g g.root n w → ∀ w', UpWalk g g.root n w' → w' = w := by
    intro n w hw
    induction hw with
    | root =>
      intro w' hw'
      cases hw' with
      | root => rfl
      | step ha _ => exact absurd rfl (hin _ _ ha).1
    | step ha _ ih =>
      intro w' hw'
      cases hw' with
      | root => exact absurd rfl (hin _ _ ha).1
      | step ha' hw'' =>
        cases (hin _ _ ha).2.symm.trans (hin _ _ ha').2
        rw [ih _ hw'']
  refine ⟨hc, hd, (T.isTree_iff hc).2 ((isTreeFrom_iff_unique_path hc hd).2 ⟨hroot, fun n hn => ?_⟩)⟩
  have hl := hreach n ((hkeys n).2 hn)
  rw [Ref.anc, DTree.ref_line] at hl
  exact ⟨_, upWalk_lineOf harc _ n hl, huniq (upWalk_lineOf harc _ n hl)⟩

/-- the reference test decides valid rooted trees -/
theorem isRootedTree_iff {g : G} (hc : Consistent g) : isRootedTree g = true ↔ ValidRooted g := by
  constructor
  · exact validRooted_of_isRootedTree hc
  · intro hv
    obtain ⟨P, hd, hr⟩ := hv.dtree
    exact hd.isRootedTree hr

end Bpp.Graph
