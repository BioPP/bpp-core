import BppModel.RandWalk
import BppProofs.Lemmas.RandLaw
import BppProofs.Lemmas.RandRcont
/-! Lemmas for C18: the transcribed walk of `rcont2` stops, inside the support. -/
namespace Bpp.Rand
open Bpp

/-- what the loops keep true -/
structure WalkInv (ia id ii : Int) (s : WalkSt ℝ) : Prop where
  nll0 : 0 ≤ s.nll
  iinll : 0 ≤ ii + s.nll
  le : s.nll ≤ s.nlm
  nlmia : s.nlm ≤ ia
  nlmid : s.nlm ≤ id
  x0 : 0 ≤ s.x
  y0 : 0 ≤ s.y
  s0 : 0 ≤ s.sumprb

/-- a pass ends well: a value inside the support, or a non-negative total; never out of fuel -/
def ResOk (ia id ii : Int) : WalkRes ℝ → Prop
  | .hit v => InSupp ia id ii v
  | .exhausted S => 0 ≤ S
  | .fuel => False

theorem step_term_nonneg {x : ℝ} {j a b : Int} (hx : 0 ≤ x) (hj : 0 ≤ j) (ha : 0 ≤ a) (hb : 0 ≤ b) :
    0 ≤ x * (Scalar.ofInt j : ℝ) / (Scalar.ofInt a * Scalar.ofInt b) :=
  div_nonneg (mul_nonneg hx (Int.cast_nonneg hj)) (mul_nonneg (Int.cast_nonneg ha) (Int.cast_nonneg hb))

theorem incStep_inv {ia id ii : Int} {s : WalkSt ℝ} (h : WalkInv ia id ii s) (hj : (id - s.nlm) * (ia - s.nlm) ≠ 0) :
    WalkInv ia id ii (incStep ii ((id - s.nlm) * (ia - s.nlm)) s) := by
  obtain ⟨h1, h2⟩ := mul_ne_zero_iff.mp hj
  obtain ⟨hl5, hl4, hl3, hl1, hl2, hx0, hy0, hs0⟩ := h
  have hx := step_term_nonneg (j := (id - s.nlm) * (ia - s.nlm)) (a := s.nlm + 1) (b := ii + (s.nlm + 1)) hx0
    (mul_nonneg (by omega) (by omega)) (by omega) (by omega)
  exact ⟨hl5, hl4, show s.nll ≤ s.nlm + 1 by omega, show s.nlm + 1 ≤ ia by omega, show s.nlm + 1 ≤ id by omega,
    hx, hy0, add_nonneg hs0 hx⟩

theorem decStep_inv {ia id ii : Int} {s : WalkSt ℝ} (h : WalkInv ia id ii s) (hj : s.nll * (ii + s.nll) ≠ 0) :
    WalkInv ia id ii (decStep ia id (s.nll * (ii + s.nll)) s) := by
  obtain ⟨h1, h2⟩ := mul_ne_zero_iff.mp hj
  obtain ⟨hl5, hl4, hl3, hl1, hl2, hx0, hy0, hs0⟩ := h
  have hy := step_term_nonneg (j := s.nll * (ii + s.nll)) (a := id - (s.nll - 1)) (b := ia - (s.nll - 1)) hy0
    (mul_nonneg hl5 hl4) (by omega) (by omega)
  exact ⟨show 0 ≤ s.nll - 1 by omega, show 0 ≤ ii + (s.nll - 1) by omega, show s.nll - 1 ≤ s.nlm by omega, hl1, hl2,
    hx0, hy, add_nonneg hs0 hy⟩

theorem inv_nlm_supp {ia id ii : Int} {s : WalkSt ℝ} (h : WalkInv ia id ii s) : InSupp ia id ii s.nlm := by
  have := h.le; have := h.nll0; have := h.iinll
  exact ⟨by omega, by omega, h.nlmia, h.nlmid⟩

theorem inv_nll_supp {ia id ii : Int} {s : WalkSt ℝ} (h : WalkInv ia id ii s) : InSupp ia id ii s.nll := by
  have := h.le; have := h.nlmia; have := h.nlmid
  exact ⟨h.nll0, h.iinll, by omega, by omega⟩

theorem ResOk.test {ia id ii v : Int} {t d : ℝ} {r : WalkRes ℝ} (hv : InSupp ia id ii v) (hr : ResOk ia id ii r) :
    ResOk ia id ii (if Scalar.geb t d = true then .hit v else r) := by
  split <;> assumption

theorem drain_ok (ia id ii : Int) (dummy : ℝ) : ∀ (n : Nat) (s : WalkSt ℝ), WalkInv ia id ii s → s.nll + 1 ≤ (n : Int) →
    ResOk ia id ii (drain ia id ii dummy n s)
  | 0, s, h, hn => by have := h.nll0; omega
  | n + 1, s, h, hn => by
    rw [drain]
    split
    · exact h.s0
    · rename_i hj
      have h' := decStep_inv h hj
      exact ResOk.test (inv_nll_supp h') (drain_ok ia id ii dummy n _ h'
        (by show s.nll - 1 + 1 ≤ (n : Int); push_cast at hn; omega))

theorem sweep_ok (ia id ii : Int) (dummy : ℝ) : ∀ (n : Nat) (s : WalkSt ℝ), WalkInv ia id ii s →
    (ia - s.nlm) + s.nll + 2 ≤ (n : Int) → ResOk ia id ii (sweep ia id ii dummy n s)
  | 0, s, h, hn => by have := h.nll0; have := h.nlmia; omega
  | n + 1, s, h, hn => by
    have hl1 := h.nlmia; have hl5 := h.nll0
    push_cast at hn
    rw [sweep]
    split
    · exact drain_ok ia id ii dummy n s h (by omega)
    · rename_i hj
      have h1 := incStep_inv h hj
      refine ResOk.test (inv_nlm_supp h1) ?_
      dsimp only
      split
      · exact sweep_ok ia id ii dummy n _ h1 (by show ia - (s.nlm + 1) + s.nll + 2 ≤ (n : Int); omega)
      · rename_i hj2
        have h2 := decStep_inv h1 hj2
        exact ResOk.test (inv_nll_supp h2) (sweep_ok ia id ii dummy n _ h2
          (by show ia - (s.nlm + 1) + (s.nll - 1) + 2 ≤ (n : Int); omega))

/-- One threshold test of a replayed pass.  The first run passed it and went on to be exhausted
with total `S ≥ d2`; the second run hits here, or later: were it exhausted too without adding
anything more, `S` would be the running total it has just found below `d2`. -/
theorem replay_test {d1 d2 S : ℝ} {v : Int} {r1 r2 : WalkRes ℝ} {s' : WalkSt ℝ}
    (h : (if Scalar.geb s'.sumprb d1 = true then WalkRes.hit v else r1) = .exhausted S) (hd : d2 ≤ S)
    (ih : r1 = .exhausted S → (∃ v, r2 = .hit v) ∨ (r2 = .exhausted S ∧ S = s'.sumprb)) :
    ∃ v', (if Scalar.geb s'.sumprb d2 = true then WalkRes.hit v else r2) = .hit v' := by
  split at h
  · cases h
  · split
    · exact ⟨_, rfl⟩
    · rename_i hnot
      rcases ih h with hh | ⟨_, hS⟩
      · exact hh
      · exact absurd ((ScalarReal.geb_iff _ _).mpr (hS ▸ hd)) hnot

/-- a pass that was exhausted with total `S` under one threshold hits under any threshold `≤ S`
(it adds the same terms in the same order) — unless it adds nothing at all -/
theorem drain_replay (ia id ii : Int) (d1 d2 S : ℝ) : ∀ (n : Nat) (s : WalkSt ℝ),
    drain ia id ii d1 n s = .exhausted S → d2 ≤ S →
    (∃ v, drain ia id ii d2 n s = .hit v) ∨ (drain ia id ii d2 n s = .exhausted S ∧ S = s.sumprb)
  | 0, s, h, _ => by simp [drain] at h
  | n + 1, s, h, hd => by
    rw [drain] at h ⊢
    by_cases hj : s.nll * (ii + s.nll) = 0
    · rw [if_pos hj] at h ⊢
      exact .inr ⟨h, (WalkRes.exhausted.inj h).symm⟩
    · rw [if_neg hj] at h ⊢
      exact .inl (replay_test h hd fun h' => drain_replay ia id ii d1 d2 S n _ h' hd)

theorem sweep_replay (ia id ii : Int) (d1 d2 S : ℝ) : ∀ (n : Nat) (s : WalkSt ℝ),
    sweep ia id ii d1 n s = .exhausted S → d2 ≤ S →
    (∃ v, sweep ia id ii d2 n s = .hit v) ∨ (sweep ia id ii d2 n s = .exhausted S ∧ S = s.sumprb)
  | 0, s, h, _ => by simp [sweep] at h
  | n + 1, s, h, hd => by
    rw [sweep] at h ⊢
    by_cases hj : (id - s.nlm) * (ia - s.nlm) = 0
    · rw [if_pos hj] at h ⊢
      exact drain_replay ia id ii d1 d2 S n s h hd
    · rw [if_neg hj] at h ⊢
      refine .inl (replay_test h hd fun h' => ?_)
      dsimp only at h' ⊢
      split at h'
      · rename_i hj2
        rw [if_pos hj2]
        exact sweep_replay ia id ii d1 d2 S n _ h' hd
      · rename_i hj2
        rw [if_neg hj2]
        exact .inl (replay_test h' hd fun h'' => sweep_replay ia id ii d1 d2 S n _ h'' hd)

/-- The walk of one cell returns after at most one restart, at a value inside the support (and
never runs into the iteration bound): an exhausted pass has added up the total `S` of its terms;
the next threshold is `S·u ≤ S`, and the next pass adds the same terms in the same order. -/
theorem walk_returns {ia id ii st : Int} (x0 dummy u : ℝ) (us : List ℝ) (ha : 0 ≤ ia) (hd : 0 ≤ id)
    (hst : InSupp ia id ii st) (hx0 : 0 ≤ x0) (hu : u ≤ 1) :
    ∃ v, walk ia id ii st x0 dummy (u :: us) = .ok v ∧ InSupp ia id ii v := by
  have hinv : WalkInv ia id ii ⟨st, st, x0, x0, x0⟩ :=
    ⟨hst.1, hst.2.1, le_refl _, hst.2.2.1, hst.2.2.2, hx0, hx0, hx0⟩
  have hfuel : (ia - st) + st + 2 ≤ ((walkFuel ia id : Nat) : Int) := by
    unfold walkFuel; push_cast
    rw [Int.toNat_of_nonneg ha, Int.toNat_of_nonneg hd]; omega
  have hok := fun d => sweep_ok ia id ii d (walkFuel ia id) ⟨st, st, x0, x0, x0⟩ hinv hfuel
  rw [walk]
  by_cases c : Scalar.geb x0 dummy = true
  · rw [if_pos c]; exact ⟨st, rfl, hst⟩
  · rw [if_neg c]
    have h1 := hok dummy
    cases hs : sweep ia id ii dummy (walkFuel ia id) ⟨st, st, x0, x0, x0⟩ with
    | hit v => rw [hs] at h1; exact ⟨v, rfl, h1⟩
    | fuel => rw [hs] at h1; exact h1.elim
    | exhausted S =>
      rw [hs] at h1
      have hle : S * u ≤ S := mul_le_of_le_one_right h1 hu
      dsimp only
      rw [walk, smul]
      by_cases c' : Scalar.geb x0 (S * u) = true
      · rw [if_pos c']; exact ⟨st, rfl, hst⟩
      · rw [if_neg c']
        obtain ⟨v, hv⟩ := (sweep_replay ia id ii dummy (S * u) S _ _ hs hle).resolve_right
          fun ⟨_, hS⟩ => c' ((ScalarReal.geb_iff _ _).mpr (hS ▸ hle))
        have h2 := hok (S * u)
        rw [hv] at h2 ⊢
        exact ⟨v, rfl, h2⟩

end Bpp.Rand
