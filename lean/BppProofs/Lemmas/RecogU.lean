import BppModel.Text.RecogU
import BppProofs.Lemmas.TextU
/-! Helper lemmas for `Props/C16Recog.lean`: the index loops `decLoopU` / `intLoopU` of
`BppModel/Text/RecogU.lean` (reads through `strAt`, `size() - 1` in `size_t`, fuel) compute what the
list transcriptions `Number.decLoop` / `Number.intLoop` compute on the rest of the text behind the index
(`At s i r`: the loop theorems are about a variable rest `r`, taken apart as the list loops match on it). -/
namespace Bpp.Text.U
open Bpp.Text

/-- `s.size() - 1` does not wrap on a non-empty string -/
theorem wsub_len_one {s : Str} (h : StrOk s) (hne : 0 < s.length) : wsub s.length 1 = s.length - 1 :=
  wsub_eq hne (Nat.lt_of_le_of_lt (Nat.le_add_right _ 4) h.lt_SZ)

theorem beq_pred_of_lt {i L : Nat} (h : i + 1 < L) : (i == L - 1) = false := by
  simp only [beq_eq_false_iff_ne, ne_eq]; omega

/-- both loops end a round with `if (count > 1) return false;` before the next round -/
theorem ite_ok_congr {b : Bool} {x : R Bool} {y : Bool} (h : x = .ok y) :
    (if b = true then (.ok false : R Bool) else x) = .ok (if b = true then false else y) := by
  cases b <;> simp [h]

theorem ite_ok_congrP {p : Prop} [Decidable p] {x : R Bool} {y : Bool} (h : x = .ok y) :
    (if p then (.ok false : R Bool) else x) = .ok (if p then false else y) := by
  split <;> simp [h]

/-- the index `i` of `s` stands before the rest `r` of the text -/
def At (s : Str) (i : Nat) (r : Str) : Prop := s.drop i = r ∧ i + r.length = s.length

namespace At
variable {s r : Str} {i : Nat} {c : Char}

theorem start : At s 0 s := ⟨rfl, Nat.zero_add _⟩

theorem not_lt (h : At s i []) : ¬ i < s.length := Nat.not_lt.mpr (Nat.le_of_eq h.2.symm)

theorem lt (h : At s i (c :: r)) : i < s.length :=
  Nat.lt_of_lt_of_eq (Nat.lt_add_of_pos_right (Nat.succ_pos _)) h.2

theorem cons_eq (h : At s i (c :: r)) : s[i]'h.lt = c ∧ s.drop (i + 1) = r :=
  List.cons.inj ((List.drop_eq_getElem_cons h.lt).symm.trans h.1)

theorem strAt (h : At s i (c :: r)) : strAt s i = .ok c := by rw [strAt_ok h.lt, h.cons_eq.1]

theorem next (h : At s i (c :: r)) : At s (i + 1) r :=
  ⟨h.cons_eq.2, (Nat.add_right_comm i 1 _).trans h.2⟩

/-- the test `i == s.size() - 1` (in `size_t`) of a `std::string` asks whether `s[i]` is the last character -/
theorem last (hs : StrOk s) (h : At s i (c :: r)) : (i == wsub s.length 1) = r.isEmpty := by
  rw [wsub_len_one hs (Nat.zero_lt_of_lt h.lt), ← h.2]
  cases r with
  | nil => exact beq_self_eq_true _
  | cons c2 r2 => exact beq_pred_of_lt (by simp only [List.length_cons]; omega)

end At

/-- **the loop invariant of `isDecimalNumber`**: from an index standing before the rest `r`, with more
fuel than characters left, the index loop returns what the list loop computes on `r`; the proof takes `r`
apart where `Number.decLoop` matches on it -/
theorem decLoopU_at (dec sci : Char) (s : Str) (hs : StrOk s) :
    ∀ (fuel i : Nat) (r : Str) (sep sciN dig : Nat), At s i r → r.length < fuel →
      decLoopU dec sci s fuel i sep sciN dig = .ok (Number.decLoop dec sci sep sciN dig r) := by
  intro fuel
  induction fuel with
  | zero => intro _ _ _ _ _ _ h; exact absurd h (Nat.not_lt_zero _)
  | succ fuel ih =>
    intro i r sep sciN dig h hf
    unfold decLoopU
    cases r with
    | nil => rw [if_neg h.not_lt, Number.decLoop]
    | cons c r =>
      have hr : r.length < fuel := Nat.lt_of_succ_lt_succ hf
      rw [if_pos h.lt, h.strAt, bind_ok, Number.decLoop.eq_def]
      by_cases h1 : (c == dec) = true
      · simp only [h1, if_true]
        by_cases hh : (1 < sep + 1 || 1 < sciN) = true
        · simp only [hh, if_true]
        · simp only [hh, if_false, Bool.false_eq_true]
          exact ih _ _ _ _ _ h.next hr
      · simp only [h1, if_false, Bool.false_eq_true]
        by_cases h2 : (c == sci) = true
        · simp only [h2, if_true]
          by_cases hd : (dig == 0) = true
          · simp only [hd, if_true]
          · simp only [hd, if_false, Bool.false_eq_true, h.last hs]
            cases r with
            | nil => rfl
            | cons c2 r2 =>
              have h' := h.next
              simp only [List.isEmpty_cons, if_false, Bool.false_eq_true, h'.strAt, bind_ok]
              by_cases hsg : (c2 == '-' || c2 == '+') = true
              · simp only [hsg, if_true, h'.last hs]
                cases r2 with
                | nil => rfl
                | cons c3 r3 =>
                  simp only [List.isEmpty_cons, if_false, Bool.false_eq_true]
                  exact ite_ok_congr (ih _ _ _ _ _ h'.next (Nat.lt_of_succ_lt hr))
              · simp only [hsg, if_false, Bool.false_eq_true, h.last hs, List.isEmpty_cons]
                exact ite_ok_congr (ih _ _ _ _ _ h' hr)
        · simp only [h2, if_false, Bool.false_eq_true]
          by_cases h3 : (!isDigit c) = true
          · simp only [h3, if_true]
          · simp only [h3, if_false, Bool.false_eq_true]
            by_cases hh : (1 < sep || 1 < sciN) = true
            · simp only [hh, if_true]
            · simp only [hh, if_false, Bool.false_eq_true]
              exact ih _ _ _ _ _ h.next hr

theorem intLoopU_at (sci : Char) (s : Str) (hs : StrOk s) :
    ∀ (fuel i : Nat) (r : Str) (sciN dig : Nat), At s i r → r.length < fuel →
      intLoopU sci s fuel i sciN dig = .ok (Number.intLoop sci sciN dig r) := by
  intro fuel
  induction fuel with
  | zero => intro _ _ _ _ _ h; exact absurd h (Nat.not_lt_zero _)
  | succ fuel ih =>
    intro i r sciN dig h hf
    unfold intLoopU
    cases r with
    | nil => rw [if_neg h.not_lt, Number.intLoop]
    | cons c r =>
      have hr : r.length < fuel := Nat.lt_of_succ_lt_succ hf
      rw [if_pos h.lt, h.strAt, bind_ok, Number.intLoop.eq_def]
      by_cases h2 : (c == sci) = true
      · simp only [h2, if_true]
        by_cases hd : (dig == 0) = true
        · simp only [hd, if_true]
        · simp only [hd, if_false, Bool.false_eq_true, h.last hs]
          cases r with
          | nil => rfl
          | cons c2 r2 =>
            have h' := h.next
            simp only [List.isEmpty_cons, if_false, Bool.false_eq_true, h'.strAt, bind_ok]
            by_cases hm : (c2 == '-') = true
            · simp only [hm, if_true]
            · simp only [hm, if_false, Bool.false_eq_true]
              by_cases hp : (c2 == '+') = true
              · simp only [hp, if_true, h'.last hs]
                cases r2 with
                | nil => rfl
                | cons c3 r3 =>
                  simp only [List.isEmpty_cons, if_false, Bool.false_eq_true]
                  exact ite_ok_congrP (ih _ _ _ _ h'.next (Nat.lt_of_succ_lt hr))
              · simp only [hp, if_false, Bool.false_eq_true, h.last hs, List.isEmpty_cons]
                exact ite_ok_congrP (ih _ _ _ _ h' hr)
      · simp only [h2, if_false, Bool.false_eq_true]
        by_cases h3 : (!isDigit c) = true
        · simp only [h3, if_true]
        · simp only [h3, if_false, Bool.false_eq_true]
          exact ite_ok_congrP (ih _ _ _ _ h.next hr)

theorem isDecimalNumberU_refines_lem (dec sci : Char) (s : Str) (hs : StrOk s) :
    isDecimalNumberU dec sci s = .ok (Number.isDecimalNumber dec sci s) := by
  unfold isDecimalNumberU Number.isDecimalNumber
  by_cases he : isEmptyStr s = true
  · simp only [he, if_true]
  · simp only [he, if_false, Bool.false_eq_true]
    cases s with
    | nil => exact absurd rfl he
    | cons c0 r =>
      have h0 : At (c0 :: r) 0 (c0 :: r) := .start
      rw [h0.strAt, bind_ok]
      by_cases hm : c0 = '-'
      · subst hm
        simp only [beq_self_eq_true, if_true]
        exact decLoopU_at dec sci _ hs _ 1 r 0 0 0 h0.next (Nat.lt_succ_of_lt (Nat.lt_succ_self _))
      · have hb : (c0 == '-') = false := by simpa using hm
        simp only [hb, if_false, Bool.false_eq_true]
        rw [decLoopU_at dec sci _ hs _ 0 _ 0 0 0 h0 (Nat.lt_succ_self _)]
        split
        · rename_i heq; cases heq; exact absurd rfl hm
        · rfl

theorem isDecimalIntegerU_refines_lem (sci : Char) (s : Str) (hs : StrOk s) :
    isDecimalIntegerU sci s = .ok (Number.isDecimalInteger sci s) := by
  unfold isDecimalIntegerU Number.isDecimalInteger
  by_cases he : isEmptyStr s = true
  · simp only [he, if_true]
  · simp only [he, if_false, Bool.false_eq_true]
    cases s with
    | nil => exact absurd rfl he
    | cons c0 r =>
      have h0 : At (c0 :: r) 0 (c0 :: r) := .start
      rw [h0.strAt, bind_ok]
      by_cases hm : c0 = '-'
      · subst hm
        simp only [beq_self_eq_true, if_true]
        exact intLoopU_at sci _ hs _ 1 r 0 0 h0.next (Nat.lt_succ_of_lt (Nat.lt_succ_self _))
      · have hb : (c0 == '-') = false := by simpa using hm
        simp only [hb, if_false, Bool.false_eq_true]
        rw [intLoopU_at sci _ hs _ 0 _ 0 0 h0 (Nat.lt_succ_self _)]
        split
        · rename_i heq; cases heq; exact absurd rfl hm
        · rfl

theorem toDoubleU_refines_lem (dec sci : Char) (s : Str) (hs : StrOk s) :
    toDoubleU dec sci s = toDoubleClass dec sci s := by
  unfold toDoubleU toDoubleClass
  rw [isDecimalNumberU_refines_lem dec sci s hs, bind_ok]
  cases Number.isDecimalNumber dec sci s <;> rfl

end Bpp.Text.U
