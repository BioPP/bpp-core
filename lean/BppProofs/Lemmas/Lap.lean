import BppModel.Lap
import BppProofs.Lemmas.MatrixReal
import Mathlib.Algebra.BigOperators.Group.Finset.Basic
import Mathlib.Logic.Equiv.Fintype
import Mathlib.Data.Fintype.Perm
/-! Helper lemmas for C04 (`lap`): reading the executable certificate at `ℝ`. -/
namespace Bpp.Mx.Lap
open Bpp Bpp.Mx

theorem allLt_iff (n : Nat) (p : Nat → Bool) : allLt n p = true ↔ ∀ i, i < n → p i = true := by
  simp [allLt, List.all_eq_true]

theorem permB_iff {n : Nat} {σ ρ : Nat → Nat} : permB n σ ρ = true ↔ ∀ i, i < n → σ i < n ∧ ρ (σ i) = i := by
  simp only [permB, allLt_iff, Bool.and_eq_true, decide_eq_true_eq]

theorem certTolB_iff {n : Nat} {c : Nat → Nat → ℝ} {σ : Nat → Nat} {u v : Nat → ℝ} {eps : ℝ} :
    certTolB n c σ u v eps = true ↔
      (∀ i, i < n → ∀ j, j < n → u i + v j ≤ c i j + eps) ∧ ∀ i, i < n → c i (σ i) ≤ u i + v (σ i) + eps := by
  simp only [certTolB, Bool.and_eq_true, allLt_iff, ScalarReal.leb_iff]

theorem certB_iff {n : Nat} {c : Nat → Nat → ℝ} {σ : Nat → Nat} {u v : Nat → ℝ} :
    certB n c σ u v = true ↔ (∀ i, i < n → ∀ j, j < n → u i + v j ≤ c i j) ∧ ∀ i, i < n → c i (σ i) ≤ u i + v (σ i) := by
  simp only [certB, Bool.and_eq_true, allLt_iff, ScalarReal.leb_iff]

theorem certB_eq_certTolB_zero (n : Nat) (c : Nat → Nat → ℝ) (σ : Nat → Nat) (u v : Nat → ℝ) :
    certB n c σ u v = certTolB n c σ u v 0 := by
  simp only [certB, certTolB, add_zero]

/-- prices for which every assigned pair has the smallest reduced cost of its row certify the assignment, with the
reduced cost of its pair as the dual variable of a row -/
theorem certB_of_tight {n : Nat} {c : Nat → Nat → ℝ} {σ : Nat → Nat} {u v : Nat → ℝ}
    (hu : ∀ i, i < n → u i = c i (σ i) - v (σ i))
    (ht : ∀ i, i < n → ∀ j, j < n → c i (σ i) - v (σ i) ≤ c i j - v j) : certB n c σ u v = true :=
  certB_iff.2 ⟨fun i hi j hj => by rw [hu i hi]; linarith only [ht i hi j hj],
    fun i hi => by rw [hu i hi]; exact (sub_add_cancel _ _).ge⟩

/-- a map of `{0..n-1}` into itself with a left inverse is a permutation -/
theorem perm_of_permB {n : Nat} {σ ρ : Nat → Nat} (h : permB n σ ρ = true) :
    ∃ π : Equiv.Perm (Fin n), ∀ i : Fin n, (π i).val = σ i.val := by
  have h1 := permB_iff.1 h
  let f : Fin n → Fin n := fun i => ⟨σ i.val, (h1 i.val i.isLt).1⟩
  have hinj : Function.Injective f := by
    intro a b hab
    have : σ a.val = σ b.val := congrArg Fin.val hab
    have ha := (h1 a.val a.isLt).2
    have hb := (h1 b.val b.isLt).2
    apply Fin.ext
    rw [← ha, ← hb, this]
  exact ⟨Equiv.ofBijective f (Finite.injective_iff_bijective.mp hinj), fun i => rfl⟩

theorem sumTo_fin (n : Nat) (t : Nat → ℝ) : Spec.sumTo n t = ∑ i : Fin n, t i.val := by
  rw [sumTo_eq_sum, Finset.sum_range]

/-- the cost of an assignment as a sum over the permutation it restricts to -/
theorem cost_eq_sum {n : Nat} (c : Nat → Nat → ℝ) {σ : Nat → Nat} {π : Equiv.Perm (Fin n)} (hπ : ∀ i : Fin n, (π i).val = σ i.val) :
    cost n c σ = ∑ i : Fin n, c i.val (π i).val := by
  rw [cost, sumTo_fin]
  exact Finset.sum_congr rfl (fun i _ => by rw [hπ i])

end Bpp.Mx.Lap
