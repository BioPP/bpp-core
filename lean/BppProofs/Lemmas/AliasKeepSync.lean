import BppProofs.Lemmas.AliasViewInv
/-! C03: what keeps the links in sync besides updates of independent parameters (`Lemmas/AliasHist.lean`):
`setAllParametersValues` under a source consistent with the links; the bulk alias form, whose last loop gives every new
alias the value of its source (every new link in sync, links in sync before stay in sync); and with them histories of value
updates by all four routes, on any object of the world (`SafeRun`). -/
namespace Bpp.Alias
open Bpp.ParamList (Bnd Con Par Store ObjId nameOf find? hasParameter names startsWith)

/-! ## `setAllParametersValues` -/

/-- the source gives both ends of every link of the object the same value (or names neither) -/
def SrcCons (w : World) (o : Obj) (src : List (String × Rat)) : Prop :=
  ∀ s t, Lk w o s t → srcFind? src (nameOf w.heap t) = srcFind? src (nameOf w.heap s)

/-- parameter `i` holds the value the source gives it -/
def Agrees (src : List (String × Rat)) (w : World) (i : ObjId) : Prop := srcFind? src (nameOf w.heap i) = some (val w i)

theorem agrees_setValue {w : World} {k : Nat} {o : Obj} (h : ObjInv w k o) (ho : w.objs k = some o)
    {src : List (String × Rat)} (hc : SrcCons w o src) {r : ObjId} (hrp : r ∈ o.params) {v : Rat}
    (hv : srcFind? src (nameOf w.heap r) = some v) (ok : (setValue w r v).err = none) :
    Agrees src (setValue w r v).w r ∧ ∀ i, Agrees src w i → Agrees src (setValue w r v).w i := by
  obtain ⟨st, hr⟩ := setValue_step w r v ok
  have sb := setValue_sameBut w r v
  refine ⟨by simp only [Agrees, sb.nameOf, hr, hv], fun i hi => ?_⟩
  simp only [Agrees, sb.nameOf] at hi ⊢
  -- the parameters the source gives the value of `r` are closed under the listeners
  have hclosed : Closed w (fun j => j ∈ o.params ∧ srcFind? src (nameOf w.heap j) = some v) := by
    intro x hx' l hl t ht
    obtain ⟨hx, hxv⟩ : x ∈ o.params ∧ srcFind? src (nameOf w.heap x) = some v := hx'
    have lk : Lk w o x t := ⟨hx, l, hl, ht⟩
    have : t ∈ o.params ∧ srcFind? src (nameOf w.heap t) = some v := ⟨lk.target_mem h ho, by rw [hc x t lk]; exact hxv⟩
    exact this
  by_cases hS : i ∈ o.params ∧ srcFind? src (nameOf w.heap i) = some v
  · rcases st.onlyV i with e | e
    · rw [e]; exact hi
    · rw [e]; exact hS.2
  · rw [setValue_frame (S := fun j => j ∈ o.params ∧ srcFind? src (nameOf w.heap j) = some v) w r v ⟨hrp, hv⟩ hclosed i hS]
    exact hi

theorem agrees_applyAll {k : Nat} {o : Obj} {src : List (String × Rat)} : ∀ (l : List ObjId) (w : World), ObjInv w k o →
    w.objs k = some o → SrcCons w o src → (∀ i ∈ l, i ∈ o.params) → (applyAll src w l).err = none →
    (∀ i ∈ l, Agrees src (applyAll src w l).w i) ∧ ∀ i, Agrees src w i → Agrees src (applyAll src w l).w i
  | [], _, _, _, _, _, _ => by simp [applyAll]
  | r :: rest, w, h, ho, hc, hl, ok => by
    simp only [applyAll] at ok ⊢
    cases hv : srcFind? src (nameOf w.heap r) with
    | none => simp [hv] at ok
    | some v =>
      simp only [hv] at ok ⊢
      cases hok : (setValue w r v).err with
      | some e => simp [hok] at ok
      | none =>
        simp only [hok] at ok ⊢
        have sb := setValue_sameBut w r v
        obtain ⟨a1, a2⟩ := agrees_setValue h ho hc (hl r (List.mem_cons_self ..)) hv hok
        have hc' : SrcCons (setValue w r v).w o src := by
          intro s t lk; rw [sb.nameOf, sb.nameOf]; exact hc s t ((Lk.sameBut sb).1 lk)
        obtain ⟨b1, b2⟩ := agrees_applyAll rest _ (h.transport sb) (by rw [sb.objs]; exact ho) hc'
          (fun i hi => hl i (List.mem_cons_of_mem _ hi)) ok
        refine ⟨fun i hi => ?_, fun i hi => b2 i (a2 i hi)⟩
        rcases List.mem_cons.1 hi with rfl | hi
        · exact b2 _ a1
        · exact b1 i hi

/-- **`setAllParametersValues` with a source consistent with the links**: when it returns, every
parameter holds the value the source gives it, and every link is in sync — whatever the order of the
parameters and whatever the values before (in sync or not). -/
theorem setAll_consistent {w : World} {k : Nat} {o : Obj} (h : ObjInv w k o) (ho : w.objs k = some o)
    {src : List (String × Rat)} (hc : SrcCons w o src) (ok : (apSetAllParametersValues w k src).err = none) :
    (∀ i ∈ o.params, Agrees src (apSetAllParametersValues w k src).w i) ∧ AllSynced (apSetAllParametersValues w k src).w o := by
  have sb := (update_sameBut w k).2.2.2 src
  simp only [apSetAllParametersValues, ho, setAllParametersValues] at ok sb ⊢
  cases hchk : checkAll w src o.params with
  | some e => simp [hchk] at ok
  | none =>
    simp only [hchk] at ok sb ⊢
    obtain ⟨a, _⟩ := agrees_applyAll o.params w h ho hc (fun i hi => hi) ok
    refine ⟨a, (allSynced_iff (h.transport sb) (by rw [sb.objs]; exact ho)).2 fun s t lk => ?_⟩
    have lk' := (Lk.sameBut sb).1 lk
    have hs := a s lk'.1
    have ht := a t (lk'.target_mem h ho)
    simp only [Agrees, sb.nameOf] at hs ht
    rw [hc s t lk', hs] at ht
    exact (Option.some.inj ht).symm

/-- … and conversely: if afterwards every parameter holds the value the source gives it and all links
are in sync, the source was consistent with the links.  (`SrcCons` is *the* condition under which
"set every parameter to the value of the list" and "every alias equals its source" can both hold.) -/
theorem setAll_consistent_conv {w W : World} {k : Nat} {o : Obj} (h : ObjInv w k o) (ho : w.objs k = some o)
    (sb : SameBut w W) {src : List (String × Rat)} (hag : ∀ i ∈ o.params, Agrees src W i) (hsy : AllSynced W o) :
    SrcCons w o src := by
  intro s t lk
  have lk' := (Lk.sameBut sb).2 lk
  have e := (allSynced_iff (h.transport sb) (by rw [sb.objs]; exact ho)).1 hsy s t lk'
  have hs := hag s lk.1
  have ht := hag t (lk.target_mem h ho)
  simp only [Agrees, sb.nameOf] at hs ht
  rw [hs, ht, e]

/-- `Tr` with no entry point to exclude: a consistent `setAllParametersValues` -/
theorem tr_setAll {w : World} {k : Nat} {o : Obj} (h : ObjInv w k o) (ho : w.objs k = some o)
    {src : List (String × Rat)} (hc : SrcCons w o src) (ok : (apSetAllParametersValues w k src).err = none) :
    Tr (fun _ => False) o w (apSetAllParametersValues w k src).w := by
  have sb := (update_sameBut w k).2.2.2 src
  obtain ⟨_, hsy⟩ := setAll_consistent h ho hc ok
  exact ⟨sb, fun s t lk _ _ => (allSynced_iff (h.transport sb) (by rw [sb.objs]; exact ho)).1 hsy s t ((Lk.sameBut sb).2 lk)⟩

/-! ## The bulk alias form -/

/-- what pair aliases that returned did to the object of slot `k`: values, names and parameters are as before, and
its links are those of before and, for each entry `(y, x)` of `D` (alias, source), "`y` follows `x`" -/
structure Wired (k : Nat) (D : List (String × String)) (w W : World) : Prop where
  val : ∀ j, val W j = val w j
  name : ∀ j, nameOf W.heap j = nameOf w.heap j
  obj : ∀ o, w.objs k = some o → ∃ o', W.objs k = some o' ∧ o'.params = o.params ∧ o'.pre = o.pre ∧
    ∀ x y, Link W o' x y ↔ Link w o x y ∨ (y, x) ∈ D

theorem Wired.refl (k : Nat) (w : World) : Wired k [] w w :=
  ⟨fun _ => rfl, fun _ => rfl, fun o ho => ⟨o, ho, rfl, rfl, fun _ _ => by simp⟩⟩

theorem Wired.trans {k : Nat} {a b c : World} {D1 D2 : List (String × String)} (x : Wired k D1 a b) (y : Wired k D2 b c) :
    Wired k (D1 ++ D2) a c where
  val j := (y.val j).trans (x.val j)
  name j := (y.name j).trans (x.name j)
  obj o ho := by
    obtain ⟨o1, h1, p1, q1, l1⟩ := x.obj o ho
    obtain ⟨o2, h2, p2, q2, l2⟩ := y.obj o1 h1
    exact ⟨o2, h2, p2.trans p1, q2.trans q1, fun u v => by rw [l2, l1, List.mem_append, or_assoc]⟩

theorem AliasDone.toWired {w W : World} {k : Nat} {o : Obj} {p1 p2 : String} (dn : AliasDone w k o p1 p2 W) (h : Inv w)
    (ho : w.objs k = some o) : Wired k [(p2, p1)] w W := by
  refine ⟨dn.val, dn.name, fun o0 ho0 => ?_⟩
  rw [ho] at ho0; cases ho0
  refine ⟨_, dn.objs, rfl, rfl, fun x y => ?_⟩
  rw [dn.link (h.obj k o ho), List.mem_singleton, Prod.mk.injEq, and_comm]

/-- aliasing two parameters that hold the same value keeps all links in sync -/
theorem AliasDone.allSynced {w W : World} {k : Nat} {o : Obj} {p1 p2 : String} (dn : AliasDone w k o p1 p2 W) (h : Inv w)
    (ho : w.objs k = some o) (hsy : AllSynced w o) (heq : Alias.val w dn.i1 = Alias.val w dn.i2) :
    AllSynced W (aliasedObj o p1 p2 dn.i2 w.lnext) := by
  have hi := h.obj k o ho
  refine (allSynced_iff_link ((dn.inv h ho).obj k _ dn.objs) dn.objs).2 fun x y lk s hs t ht hsn htn => ?_
  rw [dn.val, dn.val]
  rw [dn.name] at hsn htn
  rcases (dn.link hi x y).1 lk with old | ⟨rfl, rfl⟩
  · exact (allSynced_iff_link hi ho).1 hsy x y old s hs t ht hsn htn
  · cases hi.name_inj hs dn.mem1 (hsn.trans dn.hn1.symm)
    cases hi.name_inj ht dn.mem2 (htn.trans dn.hn2.symm)
    exact heq.symm

theorem Pairs.wired {k : Nat} {w W : World} {D : List (String × String)} (p : Pairs k w D W) (h : Inv w) : Wired k D w W :=
  (p.keeps (R := Wired k) (Wired.refl k) Wired.trans (fun h ho dn => dn.toWired h ho) h).1

/-- the same by parameter objects: the wired links are those of before and one between the parameters each entry names -/
theorem Wired.lk {k : Nat} {D : List (String × String)} {w W : World} (m : Wired k D w W) {o o' : Obj} (hi : ObjInv w k o)
    (ho : w.objs k = some o) (hi' : ObjInv W k o') (ho' : W.objs k = some o') (s t : ObjId) :
    Lk W o' s t ↔ Lk w o s t ∨ ∃ e ∈ D, s ∈ o.params ∧ t ∈ o.params ∧ nameOf w.heap s = o.pre ++ e.2 ∧
      nameOf w.heap t = o.pre ++ e.1 := by
  obtain ⟨o1, ho1, hp, hq, hl⟩ := m.obj o ho
  cases Option.some.inj (ho1.symm.trans ho')
  rw [lk_iff hi' ho', lk_iff hi ho]
  simp only [hl, hp, hq, m.name]
  constructor
  · rintro ⟨x, y, lk | hd, r⟩
    · exact Or.inl ⟨x, y, lk, r⟩
    · exact Or.inr ⟨_, hd, r⟩
  · rintro (⟨x, y, lk, r⟩ | ⟨e, hd, r⟩)
    · exact ⟨x, y, Or.inl lk, r⟩
    · exact ⟨e.2, e.1, Or.inr hd, r⟩

/-- one round of the final loop: the alias named `key` takes the value its source (named `val`) holds -/
theorem tr_syncStep {w : World} {k : Nat} {o : Obj} (h : ObjInv w k o) (ho : w.objs k = some o) {s t : ObjId}
    (lk : Lk w o s t) {key : String} (hk : nameOf w.heap t = key)
    (ok : (matchParametersValues w o.params [(key, val w s)]).1.err = none) :
    Tr (fun _ => False) o w (matchParametersValues w o.params [(key, val w s)]).1.w ∧
    val (matchParametersValues w o.params [(key, val w s)]).1.w t = val (matchParametersValues w o.params [(key, val w s)]).1.w s := by
  have htp := lk.target_mem h ho
  have hft : find? w.heap o.params key = some t := (find?_iff h.nodup).2 ⟨htp, hk⟩
  simp only [matchParametersValues, checkSome, hft] at ok ⊢
  split at ok
  · cases ok
  · simp only [matchSome, hft] at ok ⊢
    by_cases hne : (w.heap.get t).value ≠ val w s
    · rw [if_pos hne] at ok ⊢
      cases hok : (setValue w t (val w s)).err with
      | some e => simp [hok] at ok
      | none =>
        simp only []
        obtain ⟨st, hr⟩ := setValue_step w t (val w s) hok
        have t1 := tr_setValue h ho htp hok
        have hsv : val (setValue w t (val w s)).w s = val w s := by
          rcases st.onlyV s with e | e <;> exact e
        have hsync : val (setValue w t (val w s)).w t = val (setValue w t (val w s)).w s := by rw [hr, hsv]
        refine ⟨⟨t1.sb, fun s' t' lk' _ hpre => ?_⟩, hsync⟩
        by_cases htt : t' = t
        · subst htt
          have := Lk.src_unique h ho lk' lk
          subst this
          exact hsync
        · exact t1.keep s' t' lk' htt hpre
    · rw [if_neg hne]
      have : val w t = val w s := by simpa [val] using hne
      exact ⟨Tr.refl _ _ _, this⟩

theorem tr_syncLinks {k : Nat} {o : Obj} : ∀ (ls : List (String × String)) (w : World), ObjInv w k o → w.objs k = some o →
    o.pre = "" → (∀ e ∈ ls, Link w o e.2 e.1) → (syncLinks o.params w ls).err = none →
    Tr (fun _ => False) o w (syncLinks o.params w ls).w ∧
    ∀ e ∈ ls, ∀ s t, Lk w o s t → nameOf w.heap s = e.2 → nameOf w.heap t = e.1 →
      val (syncLinks o.params w ls).w t = val (syncLinks o.params w ls).w s
  | [], w, _, _, _, _, _ => ⟨Tr.refl _ _ _, fun e he => by cases he⟩
  | (key, vl) :: rest, w, h, ho, hpre, hnew, ok => by
    obtain ⟨s, t, hfs, hft, lk⟩ := (hnew (key, vl) (List.mem_cons_self ..)).lk h ho
    simp only [hpre, String.empty_append] at hfs hft
    have ht := (ParamList.find?_some hft).2
    simp only [syncLinks, hfs] at ok ⊢
    cases hm : (matchParametersValues w o.params [(key, (w.heap.get s).value)]).1.err with
    | some e => simp [hm] at ok
    | none =>
      simp only [hm] at ok ⊢
      obtain ⟨t1, hsync⟩ := tr_syncStep h ho lk ht hm
      have sb : SameBut w (matchParametersValues w o.params [(key, (w.heap.get s).value)]).1.w := t1.sb
      have hnew' : ∀ e ∈ rest, Link (matchParametersValues w o.params [(key, (w.heap.get s).value)]).1.w o e.2 e.1 :=
        fun e he => by rw [sb.sameShape.link]; exact hnew e (List.mem_cons_of_mem _ he)
      obtain ⟨t2, hrest⟩ := tr_syncLinks rest _ (h.transport sb) (by rw [sb.objs]; exact ho) hpre hnew' ok
      refine ⟨t1.trans t2, fun e he s' t' lk' hs' ht' => ?_⟩
      rcases List.mem_cons.1 he with rfl | he
      · -- the link synchronised first stays in sync
        have e1 : t' = t := h.name_inj (lk'.target_mem h ho) (lk.target_mem h ho) (ht'.trans ht.symm)
        subst e1
        have e2 := Lk.src_unique h ho lk' lk
        subst e2
        exact t2.keep s' t' ((Lk.sameBut sb).2 lk) (fun x => x) (Or.inr hsync)
      · exact hrest e he s' t' ((Lk.sameBut sb).2 lk') (by rw [sb.nameOf]; exact hs') (by rw [sb.nameOf]; exact ht')

/-- **the bulk form after its repair** (empty namespace, where the map's names are the names the pair
form takes): when it returns normally,
* every entry `key -> val` of the map is a wired link whose two ends hold the same value;
* every link the object had before is still there, and it is in sync if it was in sync before or if
  its source changed during the call (**alias_tracks** across the call). -/
theorem bulkAlias_synced {w : World} (h : Inv w) {k : Nat} {o : Obj} (ho : w.objs k = some o) (hpre : o.pre = "")
    (es : List (String × String)) (ok : (bulkAlias w k es).err = none) :
    ∃ o', (bulkAlias w k es).w.objs k = some o' ∧ o'.params = o.params ∧ o'.pre = o.pre ∧
      (∀ e ∈ mkMap es, ∃ s t, Lk (bulkAlias w k es).w o' s t ∧ nameOf w.heap s = e.2 ∧ nameOf w.heap t = e.1 ∧
        val (bulkAlias w k es).w t = val (bulkAlias w k es).w s) ∧
      (∀ s t, Lk w o s t → Lk (bulkAlias w k es).w o' s t ∧
        ((val (bulkAlias w k es).w s ≠ val w s ∨ val w t = val w s) → val (bulkAlias w k es).w t = val (bulkAlias w k es).w s)) := by
  revert ok
  refine bulkAlias_of h ho es (P := fun r => r.err = none → ∃ o', r.w.objs k = some o' ∧ o'.params = o.params ∧ o'.pre = o.pre ∧
    (∀ e ∈ mkMap es, ∃ s t, Lk r.w o' s t ∧ nameOf w.heap s = e.2 ∧ nameOf w.heap t = e.1 ∧ val r.w t = val r.w s) ∧
    (∀ s t, Lk w o s t → Lk r.w o' s t ∧ ((val r.w s ≠ val w s ∨ val w t = val w s) → val r.w t = val r.w s)))
    (fun D W p => ⟨fun _ _ ok => (nomatch ok), fun hall o' ho' ok => ?_⟩)
  have m := p.wired h
  obtain ⟨o1, ho1, hp, hq, hl⟩ := m.obj o ho
  have e1 : o' = o1 := Option.some.inj (ho'.symm.trans ho1)
  subst e1
  have hi' := (p.inv h).obj k o' ho'
  have hdone : ∀ e ∈ D, Link W o' e.2 e.1 := fun e he => (hl _ _).2 (Or.inr he)
  obtain ⟨tr, hsy⟩ := tr_syncLinks _ _ hi' ho' (hq.trans hpre) hdone ok
  have sb := tr.sb
  refine ⟨o', by rw [sb.objs]; exact ho', hp, hq, fun e he => ?_, fun s t lk => ?_⟩
  · obtain ⟨s, t, hfs, hft, lk⟩ := (hdone e (hall e he)).lk hi' ho'
    have hs := (ParamList.find?_some hfs).2
    have ht := (ParamList.find?_some hft).2
    simp only [hq.trans hpre, String.empty_append, m.name] at hs ht
    exact ⟨s, t, (Lk.sameBut sb).2 lk, hs, ht, hsy e (hall e he) s t lk (by rw [m.name]; exact hs) (by rw [m.name]; exact ht)⟩
  · have lk' := (m.lk (h.obj k o ho) ho hi' ho' s t).2 (Or.inl lk)
    refine ⟨(Lk.sameBut sb).2 lk', fun hpre' => tr.keep s t lk' (fun x => x) ?_⟩
    rw [m.val, m.val]; exact hpre'

/-- **"performing the links or raising"**: when the bulk form returns normally, every entry
`key -> value` of the map (as sorted by `std::map`) is a registered link "key follows value" -/
theorem bulkAlias_linked {w : World} (h : Inv w) (k : Nat) (es : List (String × String))
    (ok : (bulkAlias w k es).err = none) : ∀ e ∈ mkMap es, Linked (bulkAlias w k es).w k (aliasId e.2 e.1) := by
  cases ho : w.objs k with
  | none => rw [bulkAlias_none ho] at ok; cases ok
  | some o =>
    revert ok
    refine bulkAlias_of h ho es (P := fun r => r.err = none → ∀ e ∈ mkMap es, Linked r.w k (aliasId e.2 e.1))
      (fun D W p => ⟨fun _ _ ok => (nomatch ok), fun hall _ _ _ e he => ?_⟩)
    obtain ⟨o1, ho1, _, _, hl⟩ := (p.wired h).obj o ho
    obtain ⟨_, _, l, _, _, _, _, hreg, _⟩ := ((p.inv h).obj k o1 ho1).wire ((hl _ _).2 (Or.inr (hall e he)))
    exact ⟨o1, by rw [(syncLinks_writes _ _ _).sameBut.objs]; exact ho1, List.mem_map.2 ⟨_, hreg, rfl⟩⟩

/-! ## Histories of value updates that keep every link in sync -/

/-- the value updates that keep every link in sync: `setParameterValue` of an independent parameter,
`setParametersValues` / `matchParametersValues` whose source names independent parameters only,
`setAllParametersValues` whose source gives both ends of every link the same value -/
def SafeUpdate (w : World) : Op → Prop
  | .setv k n _ => ∀ o, w.objs k = some o → ∀ t, find? w.heap o.params (o.pre ++ n) = some t → t ∈ o.indep
  | .setvs k src => ∀ o, w.objs k = some o → NamesIndep w o src
  | .matchvs k src => ∀ o, w.objs k = some o → NamesIndep w o src
  | .setallv k src => ∀ o, w.objs k = some o → SrcCons w o src
  | _ => False

/-- a history of such updates none of which raises -/
def SafeRun : World → List Op → Prop
  | _, [] => True
  | w, op :: rest => SafeUpdate w op ∧ (step w op).2.isErr = false ∧ SafeRun (step w op).1 rest

theorem safe_step {w : World} (h : Inv w) (op : Op) (hs : SafeUpdate w op) (ok : (step w op).2.isErr = false) :
    SameBut w (step w op).1 ∧ ∀ j o, w.objs j = some o → AllSynced w o → AllSynced (step w op).1 o := by
  -- slot `k` holds `o'` and the update `W` keeps its links in sync: so does it for every slot
  have all : ∀ {k : Nat} {o' : Obj} {W : World}, w.objs k = some o' → SameBut w W →
      (∀ i, i ∉ o'.params → val W i = val w i) → (AllSynced w o' → AllSynced W o') →
      SameBut w W ∧ ∀ j o, w.objs j = some o → AllSynced w o → AllSynced W o := by
    intro k o' W hk sb hfr hown
    refine ⟨sb, fun j o hj hsy => ?_⟩
    by_cases hjk : j = k
    · subst hjk; rw [hk] at hj; cases hj; exact hown hsy
    · intro e he s t hs hsn ht
      rw [sb.lis] at hsn ht
      rw [sb.nameOf] at hsn
      have hd := fun i hi => hfr i (h.disj j k o o' hjk hj hk i hi)
      rw [hd s hs, hd t (List.mem_of_getElem? ht)]
      exact hsy e he s t hs hsn ht
  cases op with
  | setv k n v =>
    have herr : (apSetParameterValue w k n v).err = none := isErr_ofErr_none ok
    cases hk : w.objs k with
    | none => simp only [apSetParameterValue, hk] at herr; cases herr
    | some o' =>
      exact all hk ((update_sameBut w k).1 n v) (fun i hi => (update_frame h hk i hi).1 n v)
        (fun hsy => (synced_updates h hk hsy).1 n v (hs o' hk) herr)
  | setvs k src =>
    have herr : (apSetParametersValues w k src).err = none := isErr_ofErr_none ok
    cases hk : w.objs k with
    | none => simp only [apSetParametersValues, hk] at herr; cases herr
    | some o' =>
      exact all hk ((update_sameBut w k).2.1 src) (fun i hi => (update_frame h hk i hi).2.1 src)
        (fun hsy => (synced_updates h hk hsy).2.1 src (hs o' hk) herr)
  | matchvs k src =>
    have herr : (apMatchParametersValues w k src).1.err = none := by
      cases he : (apMatchParametersValues w k src).1.err with
      | none => rfl
      | some e =>
        have ok' : (match (apMatchParametersValues w k src).1.err with
          | some e => Out.err e | none => Out.flag (apMatchParametersValues w k src).2).isErr = false := ok
        rw [he] at ok'; cases ok'
    cases hk : w.objs k with
    | none => simp only [apMatchParametersValues, hk] at herr; cases herr
    | some o' =>
      exact all hk ((update_sameBut w k).2.2.1 src) (fun i hi => (update_frame h hk i hi).2.2.1 src)
        (fun hsy => (synced_updates h hk hsy).2.2 src (hs o' hk) herr)
  | setallv k src =>
    have herr : (apSetAllParametersValues w k src).err = none := isErr_ofErr_none ok
    cases hk : w.objs k with
    | none => simp only [apSetAllParametersValues, hk] at herr; cases herr
    | some o' =>
      exact all hk ((update_sameBut w k).2.2.2 src) (fun i hi => (update_frame h hk i hi).2.2.2 src)
        (fun _ => (setAll_consistent (h.obj k o' hk) hk (hs o' hk) herr).2)
  | _ => exact hs.elim

/-- **links in sync stay in sync along every history of safe updates**, of any length, on any of
the objects, by any of the four routes -/
theorem safeRun_synced : ∀ (ops : List Op) {w : World}, Inv w → SafeRun w ops →
    ∀ j o, w.objs j = some o → AllSynced w o → (run w ops).objs j = some o ∧ AllSynced (run w ops) o
  | [], _, _, _, _, _, hj, hsy => ⟨hj, hsy⟩
  | op :: rest, w, h, hr, j, o, hj, hsy => by
    obtain ⟨hs, ok, hrest⟩ := hr
    obtain ⟨sb, hstep⟩ := safe_step h op hs ok
    exact safeRun_synced rest (h.sameShape sb.sameShape) hrest j o (by rw [sb.objs]; exact hj) (hstep j o hj hsy)

end Bpp.Alias
