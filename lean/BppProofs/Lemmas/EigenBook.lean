import BppModel.EigenBook
import BppProofs.Lemmas.EigenGlue
import Mathlib.Logic.Equiv.Basic
import Mathlib.Algebra.Group.End
/-!
`BppModel/EigenBook.lean` at `ℝ`. Each of the two state machines conserves a total (`hqrTotal`, `tqlTotal`): the trace of the
active window with the accumulated shift added back to every entry, plus what has been reported. An exceptional shift
conserves it because the loop over the diagonal and the accumulation cancel, a deflation because the reported values add up
to the shifted entries they replace (`deflate2_sum`), a shift of tql2 because it is uniform on the window
(`tqlShift_uniform`); the trace theorems read the total at the start and at the end of a run. The final sort is followed as
one permutation of `ℕ` that fixes `[n, ∞)` and is applied to `d` and to the columns of `V` alike (`sortPrefix_spec`).
-/
namespace Bpp.EigenBook
open Bpp Bpp.ScalarReal Bpp.EigenGlue Finset

@[simp] theorem two_eq : (two : ℝ) = 2 := by simp [two]

@[simp] theorem upd_same (f : Nat → ℝ) (i : Nat) (v : ℝ) : upd f i v i = v := if_pos rfl
theorem upd_ne (f : Nat → ℝ) (i j : Nat) (v : ℝ) (h : j ≠ i) : upd f i v j = f j := if_neg h

/-- `p` and `q` of "Two roots found" -/
noncomputable def defP (a dd : ℝ) : ℝ := (a - dd) / 2
noncomputable def defQ (a b c dd : ℝ) : ℝ := defP a dd * defP a dd + c * b

/-- from one root `x + z` of `t² - 2(x+p)t + x(x+2p) - w` (`z² - 2pz = w`) the other is `x - w/z` -/
theorem stable_roots (x p w z : ℝ) (hz : z * z - 2 * p * z = w) (h0 : z = 0 → p = 0) :
    (x + z) + (if z = 0 then x + z else x - w / z) = 2 * x + 2 * p ∧
    (x + z) * (if z = 0 then x + z else x - w / z) = x * (x + 2 * p) - w := by
  by_cases h : z = 0
  · rw [if_pos h, ← hz, h0 h, h]; constructor <;> ring
  · have hd : w / z = z - 2 * p := by rw [div_eq_iff h]; linear_combination -hz
    rw [if_neg h, hd]; constructor
    · ring
    · linear_combination -hz

theorem deflate2_eq (a b c dd σ : ℝ) : deflate2 a b c dd σ =
    if 0 ≤ defQ a b c dd then
      let z := if 0 ≤ defP a dd then defP a dd + √|defQ a b c dd| else defP a dd - √|defQ a b c dd|
      ⟨dd + σ + z, if z = 0 then dd + σ + z else dd + σ - c * b / z, 0, 0⟩
    else ⟨dd + σ + defP a dd, dd + σ + defP a dd, √|defQ a b c dd|, -√|defQ a b c dd|⟩ := by
  simp only [deflate2, defQ, defP, two_eq, nabs_eq, geb_iff, eqb_iff, zero_eq, sqrt_eq]
  rfl

theorem deflate2_real (a b c dd σ : ℝ) (hq : 0 ≤ defQ a b c dd) : ∀ r, r = deflate2 a b c dd σ →
    r.e1 = 0 ∧ r.e2 = 0 ∧ r.d1 + r.d2 = (a + σ) + (dd + σ) ∧ r.d1 * r.d2 = (a + σ) * (dd + σ) - b * c := by
  rintro _ rfl
  rw [deflate2_eq, if_pos hq, abs_of_nonneg hq]
  have hss := Real.mul_self_sqrt hq
  have hs0 := Real.sqrt_nonneg (defQ a b c dd)
  have hw : c * b = defQ a b c dd - defP a dd * defP a dd := by unfold defQ; ring
  have ha : a = dd + 2 * defP a dd := by unfold defP; ring
  generalize defP a dd = p at *
  generalize √(defQ a b c dd) = s at *
  -- `z = p ± √q`, the sign that of `p`: either way `z² - 2pz = q - p² = w`, and `z = 0` only for `p = 0`
  obtain ⟨h1, h2⟩ := stable_roots (dd + σ) p (c * b) (if 0 ≤ p then p + s else p - s)
    (by split <;> linear_combination hss - hw) (by split <;> intro h <;> linarith)
  exact ⟨rfl, rfl, by rw [h1, ha]; ring, by rw [h2, ha]; ring⟩

theorem deflate2_complex (a b c dd σ : ℝ) (hq : defQ a b c dd < 0) : ∀ r, r = deflate2 a b c dd σ →
    r.d1 = r.d2 ∧ 0 < r.e1 ∧ r.e2 = -r.e1 ∧ r.d1 + r.d2 = (a + σ) + (dd + σ) ∧
    r.d1 * r.d2 + r.e1 * r.e1 = (a + σ) * (dd + σ) - b * c := by
  rintro _ rfl
  rw [deflate2_eq, if_neg (not_le.mpr hq), abs_of_neg hq]
  have hss := Real.mul_self_sqrt (neg_nonneg.mpr hq.le)
  have hw : defQ a b c dd = defP a dd * defP a dd + c * b := rfl
  have ha : a = dd + 2 * defP a dd := by unfold defP; ring
  generalize defP a dd = p at *
  exact ⟨rfl, Real.sqrt_pos.mpr (neg_pos.mpr hq), rfl, by rw [ha]; ring, by rw [hss, hw, ha]; ring⟩

theorem deflate2_sum (a b c dd σ : ℝ) :
    (deflate2 a b c dd σ).d1 + (deflate2 a b c dd σ).d2 = (a + σ) + (dd + σ) := by
  by_cases hq : 0 ≤ defQ a b c dd
  · exact (deflate2_real a b c dd σ hq _ rfl).2.2.1
  · exact (deflate2_complex a b c dd σ (not_le.mp hq) _ rfl).2.2.2.1

noncomputable def winSum (f : Nat → ℝ) (n : Nat) : ℝ := ∑ i ∈ range n, f i

theorem winSum_zero (f : Nat → ℝ) : winSum f 0 = 0 := sum_range_zero f

theorem winSum_succ (f : Nat → ℝ) (n : Nat) : winSum f (n + 1) = winSum f n + f n := sum_range_succ f n

theorem winSum_congr (f g : Nat → ℝ) (n : Nat) (h : ∀ i, i < n → f i = g i) : winSum f n = winSum g n :=
  sum_congr rfl fun i hi => h i (mem_range.mp hi)

theorem winSum_sub_const (f : Nat → ℝ) (x : ℝ) (n : Nat) : winSum (fun i => f i - x) n = winSum f n - n * x := by
  unfold winSum; rw [sum_sub_distrib, sum_const, card_range, nsmul_eq_mul]

noncomputable def tailSum (f : Nat → ℝ) (n N : Nat) : ℝ := ∑ i ∈ Ico n N, f i

theorem tailSum_congr (f g : Nat → ℝ) (n N : Nat) (h : ∀ i, n ≤ i → i < N → f i = g i) :
    tailSum f n N = tailSum g n N :=
  sum_congr rfl fun i hi => h i (mem_Ico.mp hi).1 (mem_Ico.mp hi).2

theorem tailSum_bot (f : Nat → ℝ) (n N : Nat) (hn : n < N) : tailSum f n N = f n + tailSum f (n + 1) N :=
  sum_eq_sum_Ico_succ_bot hn f

theorem tailSum_self (f : Nat → ℝ) (N : Nat) : tailSum f N N = 0 := by simp [tailSum]

theorem tailSum_zero (f : Nat → ℝ) (N : Nat) : tailSum f 0 N = winSum f N := by
  unfold tailSum winSum; rw [Nat.Ico_zero_eq_range]

theorem tailSum_sub_const (f : Nat → ℝ) (x : ℝ) (l n : Nat) (h : l ≤ n) :
    tailSum (fun i => f i - x) l n = tailSum f l n - ((n : ℝ) - l) * x := by
  unfold tailSum
  rw [sum_sub_distrib, sum_const, Nat.card_Ico, nsmul_eq_mul, Nat.cast_sub h]

theorem winSum_upd (f : Nat → ℝ) (i : Nat) (v : ℝ) (n : Nat) (h : n ≤ i) : winSum (upd f i v) n = winSum f n :=
  winSum_congr _ _ _ fun j hj => upd_ne _ _ _ _ (by omega)

theorem tailSum_upd (f : Nat → ℝ) (i : Nat) (v : ℝ) (n N : Nat) (h : i < n) :
    tailSum (upd f i v) n N = tailSum f n N :=
  tailSum_congr _ _ _ _ fun j hj _ => upd_ne _ _ _ _ (by omega)

/-- an exceptional shift is `applyShift`, or nothing (`iter == 30` with `s ≤ 0`) -/
theorem hqrStep_shift {st st' : HqrSt ℝ} {ev : HqrEv ℝ} (hev : ev = .ex10 ∨ ∃ w, ev = .ex30 w)
    (h : hqrStep st ev = some st') : st' = st ∨ ∃ x, st' = applyShift st x := by
  rcases hev with rfl | ⟨w, rfl⟩ <;> simp only [hqrStep] at h <;> split at h
  · exact .inr ⟨_, (Option.some.inj h).symm⟩
  · cases h
  · split at h
    · exact .inr ⟨_, (Option.some.inj h).symm⟩
    · exact .inl (Option.some.inj h).symm
  · cases h

theorem hqrStep_defl1_iff {st st' : HqrSt ℝ} : hqrStep st .defl1 = some st' ↔
    1 ≤ st.n ∧ st' = { st with n := st.n - 1, d := upd st.d (st.n - 1) (st.diag (st.n - 1) + st.exshift),
                                e := upd st.e (st.n - 1) 0 } := by
  simp only [hqrStep, zero_eq]
  split <;> simp [*, eq_comm]

theorem hqrStep_defl2_iff {st st' : HqrSt ℝ} {b c : ℝ} : hqrStep st (.defl2 b c) = some st' ↔
    2 ≤ st.n ∧ st' =
      (let r := deflate2 (st.diag (st.n - 2)) b c (st.diag (st.n - 1)) st.exshift
       { st with n := st.n - 2, d := upd (upd st.d (st.n - 2) r.d1) (st.n - 1) r.d2,
                 e := upd (upd st.e (st.n - 2) r.e1) (st.n - 1) r.e2 }) := by
  simp only [hqrStep, Nat.sub_sub]
  split <;> simp [*, eq_comm]

/-- a step never enlarges the window, never touches what was reported before, and keeps `exshift = Σ shifts` -/
theorem hqrStep_inv {st st' : HqrSt ℝ} {ev : HqrEv ℝ} (h : hqrStep st ev = some st') :
    st'.n ≤ st.n ∧ (∀ i, st.n ≤ i → st'.d i = st.d i ∧ st'.e i = st.e i) ∧
      (st.exshift = st.shifts.sum → st'.exshift = st'.shifts.sum) := by
  have hsame : st.n ≤ st.n ∧ ∀ i, st.n ≤ i → st.d i = st.d i ∧ st.e i = st.e i := ⟨le_rfl, fun _ _ => ⟨rfl, rfl⟩⟩
  have hshift : ∀ x, st.exshift = st.shifts.sum → (applyShift st x).exshift = (applyShift st x).shifts.sum :=
    fun x hi => by simp only [applyShift, List.sum_cons, hi, add_comm]
  cases ev with
  | sweep d' => cases h; exact ⟨hsame.1, hsame.2, id⟩
  | ex10 => rcases hqrStep_shift (.inl rfl) h with rfl | ⟨x, rfl⟩; exacts [⟨hsame.1, hsame.2, id⟩, ⟨hsame.1, hsame.2, hshift x⟩]
  | ex30 w =>
    rcases hqrStep_shift (.inr ⟨w, rfl⟩) h with rfl | ⟨x, rfl⟩; exacts [⟨hsame.1, hsame.2, id⟩, ⟨hsame.1, hsame.2, hshift x⟩]
  | defl1 =>
    obtain ⟨hn, rfl⟩ := hqrStep_defl1_iff.mp h
    refine ⟨Nat.sub_le _ _, fun i hi => ?_, id⟩
    have h1 : i ≠ st.n - 1 := by omega
    exact ⟨upd_ne _ _ _ _ h1, upd_ne _ _ _ _ h1⟩
  | defl2 b c =>
    obtain ⟨hn, rfl⟩ := hqrStep_defl2_iff.mp h
    refine ⟨Nat.sub_le _ _, fun i hi => ?_, id⟩
    have h1 : i ≠ st.n - 1 := by omega
    have h2 : i ≠ st.n - 2 := by omega
    dsimp only
    rw [upd_ne _ _ _ _ h1, upd_ne _ _ _ _ h2, upd_ne _ _ _ _ h1, upd_ne _ _ _ _ h2]
    exact ⟨rfl, rfl⟩

theorem hqrRun_inv (evs : List (HqrEv ℝ)) (st st' : HqrSt ℝ) (h : hqrRun st evs = some st') :
    st'.n ≤ st.n ∧ (∀ i, st.n ≤ i → st'.d i = st.d i ∧ st'.e i = st.e i) ∧
      (st.exshift = st.shifts.sum → st'.exshift = st'.shifts.sum) := by
  induction evs generalizing st with
  | nil => cases h; exact ⟨le_rfl, fun _ _ => ⟨rfl, rfl⟩, id⟩
  | cons ev evs ih =>
    obtain ⟨st1, hs, h⟩ := Option.bind_eq_some_iff.mp h
    obtain ⟨h1, h2, h3⟩ := hqrStep_inv hs
    obtain ⟨h4, h5, h6⟩ := ih st1 h
    exact ⟨h4.trans h1, fun i hi =>
      ⟨((h5 i (h1.trans hi)).1).trans (h2 i hi).1, ((h5 i (h1.trans hi)).2).trans (h2 i hi).2⟩, h6 ∘ h3⟩

theorem hqrRun_append (evs1 evs2 : List (HqrEv ℝ)) (st : HqrSt ℝ) :
    hqrRun st (evs1 ++ evs2) = (hqrRun st evs1).bind fun st' => hqrRun st' evs2 := by
  induction evs1 generalizing st with
  | nil => rfl
  | cons ev evs ih =>
    simp only [List.cons_append, hqrRun]
    cases hqrStep st ev with
    | none => rfl
    | some st1 => exact ih st1

/-- the quantity the bookkeeping conserves: trace of the window with the shifts added back, plus
everything reported so far (`N` = size of the matrix) -/
noncomputable def hqrTotal (N : Nat) (st : HqrSt ℝ) : ℝ :=
  winSum st.diag st.n + st.n * st.exshift + tailSum st.d st.n N

/-- a `sweep` preserves the trace of the active window (what an orthogonal similarity acting inside
the window does); no condition on the other events -/
def SweepOK (st : HqrSt ℝ) : HqrEv ℝ → Prop
  | .sweep d' => winSum d' st.n = winSum st.diag st.n
  | _ => True

/-- every `sweep` met when `evs` is run from `st` preserves the trace of the active window -/
def SweepsPreserveTrace : HqrSt ℝ → List (HqrEv ℝ) → Prop
  | _, [] => True
  | st, ev :: evs => SweepOK st ev ∧ ∀ st', hqrStep st ev = some st' → SweepsPreserveTrace st' evs

/-- the two statements of the C++ that `applyShift` transcribes — the loop `H(i,i) -= x` over the window
and `exshift += x` — cancel on the window -/
theorem applyShift_unshifted (st : HqrSt ℝ) (x : ℝ) (i : Nat) (hi : i < st.n) :
    (applyShift st x).diag i + (applyShift st x).exshift = st.diag i + st.exshift := by
  simp only [applyShift, if_pos hi]; ring

theorem applyShift_total (N : Nat) (st : HqrSt ℝ) (x : ℝ) : hqrTotal N (applyShift st x) = hqrTotal N st := by
  simp only [hqrTotal, applyShift]
  rw [winSum_congr _ (fun i => st.diag i - x) _ (fun i hi => if_pos hi), winSum_sub_const]; ring

theorem hqrTotal_init (N : Nat) (diag : Nat → ℝ) : hqrTotal N (hqrInit N diag) = winSum diag N := by
  simp only [hqrTotal, hqrInit, tailSum_self, zero_eq, mul_zero, add_zero]

theorem hqrTotal_done (N : Nat) {st : HqrSt ℝ} (h : st.n = 0) : hqrTotal N st = winSum st.d N := by
  rw [hqrTotal, h, tailSum_zero, winSum_zero, Nat.cast_zero, zero_mul, add_zero, zero_add]

theorem hqrTotal_step (N : Nat) {st st' : HqrSt ℝ} {ev : HqrEv ℝ} (hN : st.n ≤ N) (h : hqrStep st ev = some st')
    (hsw : SweepOK st ev) : hqrTotal N st' = hqrTotal N st := by
  cases ev with
  | sweep d' =>
    cases h
    simp only [hqrTotal]
    rw [winSum_congr _ d' _ (fun i hi => if_pos hi), hsw]
  | ex10 => rcases hqrStep_shift (.inl rfl) h with rfl | ⟨x, rfl⟩; exacts [rfl, applyShift_total N st x]
  | ex30 w => rcases hqrStep_shift (.inr ⟨w, rfl⟩) h with rfl | ⟨x, rfl⟩; exacts [rfl, applyShift_total N st x]
  | defl1 =>
    obtain ⟨hn, rfl⟩ := hqrStep_defl1_iff.mp h
    obtain ⟨k, hk⟩ := Nat.exists_eq_add_of_le' hn
    simp only [hqrTotal, hk, Nat.add_sub_cancel] at hN ⊢
    rw [tailSum_bot _ k N hN, upd_same, tailSum_upd _ _ _ _ _ k.lt_succ_self, winSum_succ]
    push_cast; ring
  | defl2 b c =>
    obtain ⟨hn, rfl⟩ := hqrStep_defl2_iff.mp h
    obtain ⟨k, hk⟩ := Nat.exists_eq_add_of_le' hn
    have hs := deflate2_sum (st.diag k) b c (st.diag (k + 1)) st.exshift
    simp only [hqrTotal, hk, Nat.add_sub_cancel, show k + 2 - 1 = k + 1 from rfl] at hN ⊢
    rw [tailSum_bot _ k N (by omega), tailSum_bot _ (k + 1) N hN, upd_same, upd_ne _ _ _ _ k.succ_ne_self.symm,
      upd_same, tailSum_upd _ _ _ _ _ (k + 1).lt_succ_self, tailSum_upd _ _ _ _ _ (by omega : k < k + 1 + 1),
      winSum_succ, winSum_succ]
    push_cast; linear_combination hs

theorem hqrTotal_run (N : Nat) (evs : List (HqrEv ℝ)) (st st' : HqrSt ℝ) (hN : st.n ≤ N)
    (h : hqrRun st evs = some st') (hsw : SweepsPreserveTrace st evs) : hqrTotal N st' = hqrTotal N st := by
  induction evs generalizing st with
  | nil => cases h; rfl
  | cons ev evs ih =>
    obtain ⟨st1, hs, h⟩ := Option.bind_eq_some_iff.mp h
    rw [ih st1 ((hqrStep_inv hs).1.trans hN) h (hsw.2 st1 hs)]
    exact hqrTotal_step N hN hs hsw.1

/-- NOT the model: the variant `exshift = x` (the seeded change C06-b2) of `applyShift`, kept to show
that the cancellation is a property of the transcribed text and not of every such update -/
def applyShiftOverwrite (st : HqrSt ℝ) (x : ℝ) : HqrSt ℝ :=
  { st with diag := fun i => if i < st.n then st.diag i - x else st.diag i, exshift := x, shifts := x :: st.shifts }

/-- `p` of the shift computation -/
noncomputable def tqlP (l : Nat) (d : Nat → ℝ) (el : ℝ) : ℝ := (d (l + 1) - d l) / (2 * el)

/-- `s` is either root of `s² = p² + 1`, so `(p + s)(s - p) = 1` -/
theorem tql_root_shift (a b e p s : ℝ) (he : e ≠ 0) (hp : p = (b - a) / (2 * e)) (hs : s * s = p * p + 1) :
    e * (p + s) = b - (a - e / (p + s)) := by
  have h1 : (p + s) * (s - p) = 1 := by linear_combination hs
  have hd : e / (p + s) = e * (s - p) := by
    rw [div_eq_iff (left_ne_zero_of_mul_eq_one h1)]; linear_combination (-e) * h1
  rw [eq_div_iff (mul_ne_zero two_ne_zero he)] at hp
  rw [hd]; linear_combination hp

/-- the shift is uniform on `l .. n-1`: every entry from `l` on is lowered by the same `h`
(the first two by the closed formulas `e[l]/(p+r)`, `e[l](p+r)`, the rest by the loop) -/
theorem tqlShift_uniform (n l : Nat) (d : Nat → ℝ) (el r : ℝ) (hl : l + 1 < n) (hel : el ≠ 0)
    (hrr : r * r = tqlP l d el * tqlP l d el + 1) : ∀ s, s = tqlShift n l d el r →
    (∀ i, l ≤ i → i < n → s.1 i = d i - s.2) ∧ ∀ i, (i < l ∨ n ≤ i) → s.1 i = d i := by
  rintro _ rfl
  unfold tqlP at hrr
  have key := tql_root_shift (d l) (d (l + 1)) el _ (if (d (l + 1) - d l) / (2 * el) < 0 then -r else r) hel rfl
    (by split <;> [rw [neg_mul_neg, hrr]; exact hrr])
  simp only [tqlShift, two_eq, ltb_iff, zero_eq]
  refine ⟨fun i hi hin => ?_, fun i hi => ?_⟩
  · rcases eq_or_ne i l with rfl | e1
    · rw [if_pos rfl, sub_sub_cancel]
    · rcases eq_or_ne i (l + 1) with rfl | e2
      · rw [if_neg e1, if_pos rfl]; exact key
      · rw [if_neg e1, if_neg e2, if_pos ⟨by omega, hin⟩]
  · rw [if_neg (by omega), if_neg (by omega), if_neg (by omega)]

/-- what the theorems need of an event: the value passed for `hypot(p, 1)` is `√(p² + 1)`, `e[l] ≠ 0`
(the C++ iterates only while `|e[l]| > eps·tst1`), and the untranscribed QL transformation preserves
the sum of `d[l .. n-1]` (an orthogonal similarity of the trailing block) -/
def TqlEvOK (st : TqlSt ℝ) : TqlEv ℝ → Prop
  | .shift el r => el ≠ 0 ∧ 0 < r ∧ r * r = tqlP st.l st.d el * tqlP st.l st.d el + 1
  | .sweep d' => tailSum d' st.l st.n = tailSum st.d st.l st.n
  | .fin => True

def TqlEvsOK : TqlSt ℝ → List (TqlEv ℝ) → Prop
  | _, [] => True
  | st, ev :: evs => TqlEvOK st ev ∧ ∀ st', tqlStep st ev = some st' → TqlEvsOK st' evs

theorem tqlStep_shift_iff {st st' : TqlSt ℝ} {el r : ℝ} : tqlStep st (.shift el r) = some st' ↔
    st.l + 1 < st.n ∧ st' = { st with d := (tqlShift st.n st.l st.d el r).1, f := st.f + (tqlShift st.n st.l st.d el r).2,
                                      shifts := (tqlShift st.n st.l st.d el r).2 :: st.shifts } := by
  simp only [tqlStep]
  split <;> simp [*, eq_comm]

theorem tqlStep_fin_iff {st st' : TqlSt ℝ} : tqlStep st .fin = some st' ↔
    st.l < st.n ∧ st' = { st with d := upd st.d st.l (st.d st.l + st.f), l := st.l + 1 } := by
  simp only [tqlStep]
  split <;> simp [*, eq_comm]

/-- `l` never decreases, `n` is constant, the finished entries `d[0 .. l-1]` are never touched again, `f = Σ shifts` -/
theorem tqlStep_inv {st st' : TqlSt ℝ} {ev : TqlEv ℝ} (h : tqlStep st ev = some st') :
    st.l ≤ st'.l ∧ st'.n = st.n ∧ (st.l ≤ st.n → st'.l ≤ st'.n) ∧ (∀ i, i < st.l → st'.d i = st.d i) ∧
      (st.f = st.shifts.sum → st'.f = st'.shifts.sum) := by
  cases ev with
  | shift el r =>
    obtain ⟨-, rfl⟩ := tqlStep_shift_iff.mp h
    refine ⟨le_rfl, rfl, id, fun i hi => ?_, fun hi => by simp only [List.sum_cons, hi, add_comm]⟩
    simp only [tqlShift]
    rw [if_neg (by omega), if_neg (by omega), if_neg (by omega)]
  | sweep d' =>
    cases h
    exact ⟨le_rfl, rfl, id, fun i hi => if_neg (by omega), id⟩
  | fin =>
    obtain ⟨hl, rfl⟩ := tqlStep_fin_iff.mp h
    exact ⟨Nat.le_succ _, rfl, fun _ => hl, fun i hi => upd_ne _ _ _ _ (by omega), id⟩

theorem tqlRun_inv (evs : List (TqlEv ℝ)) (st st' : TqlSt ℝ) (h : tqlRun st evs = some st') :
    st.l ≤ st'.l ∧ st'.n = st.n ∧ (st.l ≤ st.n → st'.l ≤ st'.n) ∧ (∀ i, i < st.l → st'.d i = st.d i) ∧
      (st.f = st.shifts.sum → st'.f = st'.shifts.sum) := by
  induction evs generalizing st with
  | nil => cases h; exact ⟨le_rfl, rfl, id, fun _ _ => rfl, id⟩
  | cons ev evs ih =>
    obtain ⟨st1, hs, h⟩ := Option.bind_eq_some_iff.mp h
    obtain ⟨a1, a2, a3, a4, a5⟩ := tqlStep_inv hs
    obtain ⟨b1, b2, b3, b4, b5⟩ := ih st1 h
    exact ⟨a1.trans b1, b2.trans a2, b3 ∘ a3, fun i hi => (b4 i (hi.trans_le a1)).trans (a4 i hi), b5 ∘ a5⟩

theorem tqlRun_append (evs1 evs2 : List (TqlEv ℝ)) (st : TqlSt ℝ) :
    tqlRun st (evs1 ++ evs2) = (tqlRun st evs1).bind fun st' => tqlRun st' evs2 := by
  induction evs1 generalizing st with
  | nil => rfl
  | cons ev evs ih =>
    simp only [List.cons_append, tqlRun]
    cases tqlStep st ev with
    | none => rfl
    | some st1 => exact ih st1

/-- the quantity the bookkeeping conserves: finished eigenvalues plus the working entries with the
accumulated shift added back -/
noncomputable def tqlTotal (st : TqlSt ℝ) : ℝ :=
  winSum st.d st.l + tailSum st.d st.l st.n + ((st.n : ℝ) - st.l) * st.f

theorem tqlTotal_init (n : Nat) (d : Nat → ℝ) : tqlTotal (tqlInit n d) = winSum d n := by
  simp only [tqlTotal, tqlInit, winSum_zero, tailSum_zero, zero_eq, mul_zero, add_zero, zero_add]

theorem tqlTotal_done {st : TqlSt ℝ} (h : st.l = st.n) : tqlTotal st = winSum st.d st.n := by
  rw [tqlTotal, h, tailSum_self, sub_self, zero_mul, add_zero, add_zero]

theorem tqlTotal_step {st st' : TqlSt ℝ} {ev : TqlEv ℝ} (hln : st.l ≤ st.n) (h : tqlStep st ev = some st')
    (hok : TqlEvOK st ev) : tqlTotal st' = tqlTotal st := by
  cases ev with
  | shift el r =>
    obtain ⟨hl, rfl⟩ := tqlStep_shift_iff.mp h
    obtain ⟨u1, u2⟩ := tqlShift_uniform st.n st.l st.d el r hl hok.1 hok.2.2 _ rfl
    simp only [tqlTotal]
    rw [winSum_congr _ st.d st.l (fun i hi => u2 i (.inl hi)), tailSum_congr _ _ st.l st.n u1,
      tailSum_sub_const _ _ _ _ hln]
    ring
  | sweep d' =>
    cases h
    simp only [tqlTotal]
    rw [winSum_congr _ st.d st.l (fun i hi => if_neg (by omega)),
      tailSum_congr _ d' st.l st.n (fun i h1 h2 => if_pos ⟨h1, h2⟩), hok]
  | fin =>
    obtain ⟨hl, rfl⟩ := tqlStep_fin_iff.mp h
    simp only [tqlTotal]
    rw [winSum_succ, upd_same, winSum_upd _ _ _ _ le_rfl, tailSum_bot st.d st.l st.n hl,
      tailSum_upd _ _ _ _ _ st.l.lt_succ_self]
    push_cast; ring

theorem tqlTotal_run (evs : List (TqlEv ℝ)) (st st' : TqlSt ℝ) (hln : st.l ≤ st.n)
    (h : tqlRun st evs = some st') (hok : TqlEvsOK st evs) : tqlTotal st' = tqlTotal st := by
  induction evs generalizing st with
  | nil => cases h; rfl
  | cons ev evs ih =>
    obtain ⟨st1, hs, h⟩ := Option.bind_eq_some_iff.mp h
    rw [ih st1 ((tqlStep_inv hs).2.2.1 hln) h (hok.2 st1 hs)]
    exact tqlTotal_step hln hs hok.1

/-- the inner loop answers the first position of a minimum of `d` over `[i, j + fuel)`, with its value -/
theorem minFrom_spec (d : Nat → ℝ) (i : Nat) : ∀ (fuel k : Nat) (p : ℝ) (j : Nat) (r : Nat × ℝ),
    minFrom d k p j fuel = r → p = d k → i ≤ k → k < j → (∀ t, i ≤ t → t < j → d k ≤ d t) →
    r.2 = d r.1 ∧ i ≤ r.1 ∧ r.1 < j + fuel ∧ ∀ t, i ≤ t → t < j + fuel → d r.1 ≤ d t
  | 0, k, p, j, _, rfl, hp, hik, hkj, hmin => ⟨hp, hik, hkj, hmin⟩
  | fuel + 1, k, p, j, r, h, hp, hik, hkj, hmin => by
    rw [minFrom] at h
    rw [← Nat.add_assoc, Nat.add_right_comm]
    split at h
    · rename_i hlt
      rw [ltb_iff, hp] at hlt
      exact minFrom_spec d i fuel j (d j) (j + 1) r h rfl (by omega) j.lt_succ_self fun t h1 h2 =>
        (Nat.lt_succ_iff_lt_or_eq.mp h2).elim (fun h => hlt.le.trans (hmin t h1 h)) fun h => h ▸ le_rfl
    · rename_i hlt
      rw [ltb_iff, hp, not_lt] at hlt
      exact minFrom_spec d i fuel k p (j + 1) r h hp hik (by omega) fun t h1 h2 =>
        (Nat.lt_succ_iff_lt_or_eq.mp h2).elim (hmin t h1) fun h => h ▸ hlt

/-- one pass of the outer loop exchanges positions `i` and `k` of `d` and columns `i` and `k` of `V`,
where `k ∈ [i, n)` holds a minimum of `d` over `[i, n)` -/
theorem sortStep_spec (n : Nat) (d : Nat → ℝ) (V : FMat ℝ) (i : Nat) (hi : i < n) :
    ∃ k, i ≤ k ∧ k < n ∧ (∀ t, i ≤ t → t < n → d k ≤ d t) ∧
      (∀ j, (sortStep n (d, V) i).1 j = d (Equiv.swap i k j)) ∧
      (∀ r j, (sortStep n (d, V) i).2 r j = V r (Equiv.swap i k j)) := by
  generalize hm : minFrom d i (d i) (i + 1) (n - (i + 1)) = r
  obtain ⟨h1, h2, h3, h4⟩ := minFrom_spec d i _ i (d i) (i + 1) r hm rfl le_rfl i.lt_succ_self
    fun t ht1 ht2 => (Nat.le_antisymm ht1 (Nat.le_of_lt_succ ht2)) ▸ le_rfl
  obtain ⟨k, p⟩ := r
  rw [Nat.add_sub_cancel' hi] at h3 h4
  simp only [sortStep, hm]
  refine ⟨k, h2, h3, h4, fun j => ?_, fun r j => ?_⟩ <;> by_cases hk : k = i
  · rw [hk, if_neg (not_not_intro rfl), Equiv.swap_self]; rfl
  · rw [if_pos hk, Equiv.swap_apply_def, apply_ite d, apply_ite d, show p = d k from h1]; rfl
  · rw [hk, if_neg (not_not_intro rfl), Equiv.swap_self]; rfl
  · rw [if_pos hk, Equiv.swap_apply_def, apply_ite (V r), apply_ite (V r)]

/-- after the first `m` passes: a permutation of the input (the same one for `d` and for the columns of
`V`), identity outside `[0, n)`, and the first `m` positions hold their final, sorted values -/
theorem sortPrefix_spec (n : Nat) (d : Nat → ℝ) (V : FMat ℝ) (m : Nat) (hm : m ≤ n - 1) :
    ∀ s, s = (List.range m).foldl (sortStep n) (d, V) →
      ∃ σ : Equiv.Perm ℕ, (∀ j, n ≤ j → σ j = j) ∧ (∀ j, s.1 j = d (σ j)) ∧ (∀ r j, s.2 r j = V r (σ j)) ∧
        ∀ a b, a < m → a ≤ b → b < n → s.1 a ≤ s.1 b := by
  induction m with
  | zero => rintro _ rfl; exact ⟨1, fun j _ => rfl, fun j => rfl, fun r j => rfl, fun a b h => absurd h a.not_lt_zero⟩
  | succ m ih =>
    rintro _ rfl
    obtain ⟨σ, f1, f2, f3, f4⟩ := ih (by omega) _ rfl
    rw [List.range_succ, List.foldl_append]
    generalize (List.range m).foldl (sortStep n) (d, V) = s at f2 f3 f4
    obtain ⟨k, k1, k2, k3, k4, k5⟩ := sortStep_spec n s.1 s.2 m (by omega)
    -- the exchange fixes `[0, m)` and maps `[m, n)` to itself
    have hsw : ∀ b, b < n →
        Equiv.swap m k b < n ∧ (m ≤ b → m ≤ Equiv.swap m k b) ∧ (b < m → Equiv.swap m k b = b) := by
      intro b hb
      rw [Equiv.swap_apply_def]; split_ifs <;> omega
    refine ⟨σ * Equiv.swap m k, fun j hj => ?_, fun j => (k4 j).trans (f2 _), fun r j => (k5 r j).trans (f3 r _),
      fun a b ha hab hb => ?_⟩
    · rw [Equiv.Perm.mul_apply, Equiv.swap_apply_of_ne_of_ne (by omega) (by omega)]; exact f1 j hj
    · show (sortStep n (s.1, s.2) m).1 a ≤ (sortStep n (s.1, s.2) m).1 b
      obtain ⟨hb1, hb2, hb3⟩ := hsw b hb
      rw [k4 a, k4 b]
      rcases Nat.lt_or_ge a m with ham | ham
      · rw [(hsw a (by omega)).2.2 ham]
        refine f4 a _ ham ?_ hb1
        rcases Nat.lt_or_ge b m with h | h
        · rwa [hb3 h]
        · exact ham.le.trans (hb2 h)
      · obtain rfl : a = m := by omega
        rw [Equiv.swap_apply_left]; exact k3 _ (hb2 hab) hb1

/-- a permutation that fixes everything from `n` on maps `[0, n)` into itself -/
theorem perm_lt_of_fix (σ : Equiv.Perm ℕ) (n : Nat) (h : ∀ j, n ≤ j → σ j = j) (j : Nat) (hj : j < n) : σ j < n := by
  by_contra hge
  have := σ.injective (h (σ j) (not_lt.mp hge))
  omega

end Bpp.EigenBook
