import BppProofs.Lemmas.OptimLinePolicy
import BppProofs.Lemmas.OptimSimplex
import BppModel.OptimMeta
/-!
Helper lemmas for C10: the constraint policy of the remaining optimisers — `NewtonOneDimension`,
`SimpleMultiDimensions`, `SimpleNewtonMultiDimensions`, `DownhillSimplexMethod`, `MetaOptimizer`.

Compared with `OptimPolicy` / `OptimLinePolicy`, these optimisers do not only hand *tied* lists to the
function:
* `NewtonOneDimension::doStep` puts the function back (`setParameters(bck)`) at the point the step found
  it at, with the function's *own* list `getParameters()` (plain parameters without constraints): the
  point restored is the point of a function that was fine (`SafeRestore`; for the objective of the
  harness `FeasL`: feasible log and point, and a length that never changes — `matchPoint_restore`);
* the coordinate-wise optimisers and the `MetaOptimizer` copy the function's point into their own list
  with `matchParametersValues` (`matchList`): whatever the source, the list stays tied (`matchList_tied`);
  they run a one-dimensional optimiser whose constraint policy is their own: the policy is carried
  through `init` / `step` / `optimize` (`KeepsPolicy`);
* the simplex evaluates the function at the unconstrained list `pSum` holding the midpoints of two
  vertices: only the *values* of a list matter for the feasibility of the point (`Within`, `SafeF`), and an
  interval constraint accepts the midpoint of two values it accepts (`mids_within`); that the list of sums
  *takes* the midpoints needs parameters of precision 0 (`Prec0`, `Vert`, `SimplexJ`) — `SimplexCex` is a
  run in exact rational arithmetic where, with a positive precision, it does not;
* the `MetaOptimizer` drives a `SimpleMultiDimensions` and a `BfgsMultiDimensions` on sub-lists of its own
  list, under its own policy (`MetaJ`).
Everything is generic in the function interface `I` (`Safe`, `SafeSet`, `SafeRestore`, `SafeF` are what is
asked of it); `objective_safeL`, `objective_safeSetL`, `objective_restore`, `objective_safeW` instantiate them
for the objective of the harness.
-/
set_option linter.unusedSectionVars false
namespace Bpp.Optim
open Bpp

variable {F : Type}

/-! ### the objective of the harness, with its length -/

/-- `FeasFn`, and the function has `L` parameters (no member of the interface changes that number) -/
def FeasL (cons : Spec.Cons ℝ) (L : Nat) (fn : Fn ℝ) : Prop := FeasFn cons fn ∧ fn.point.length = L

theorem FeasL.feas {cons : Spec.Cons ℝ} {L : Nat} {fn : Fn ℝ} (h : FeasL cons L fn) : FeasFn cons fn := h.1

theorem setParameters_feasL (cons : Spec.Cons ℝ) (L : Nat) (fn : Fn ℝ) (pl : PList ℝ) (hQ : FeasL cons L fn)
    (hT : Within cons pl) : FeasL cons L (fn.setParameters pl) :=
  ⟨setParameters_within cons fn pl hQ.1 hT, by show (matchPoint fn.point pl).length = L; rw [matchPoint_length]; exact hQ.2⟩

/-- `setParameters(getParameters())` of an earlier (fine) state of the function: the point logged is
the point of that state -/
theorem setParameters_restore (cons : Spec.Cons ℝ) (L : Nat) (fn fn0 : Fn ℝ) (hQ : FeasL cons L fn) (hQ0 : FeasL cons L fn0) :
    FeasL cons L (fn.setParameters fn0.params) := by
  have hp : matchPoint fn.point fn0.params = fn0.point := matchPoint_restore fn0 fn.point (by rw [hQ.2, hQ0.2])
  refine ⟨⟨?_, ?_⟩, ?_⟩
  · show Spec.feasibleLog cons (matchPoint fn.point fn0.params :: fn.log) = true
    unfold Spec.feasibleLog
    rw [List.all_cons, hp, hQ0.1.2]
    exact hQ.1.1
  · show Spec.feasiblePoint cons (matchPoint fn.point fn0.params) = true
    rw [hp]; exact hQ0.1.2
  · show (matchPoint fn.point fn0.params).length = L
    rw [hp]; exact hQ0.2

/-- an evaluation of the objective at a list whose values are accepted -/
theorem objective_f_within (obj : List ℝ → ℝ) (D : Deriv ℝ) (cap : Option Nat) (cons : Spec.Cons ℝ) (L : Nat)
    (fn : Fn ℝ) (pl : PList ℝ) (hQ : FeasL cons L fn) (hT : Within cons pl) :
    ROk (FeasL cons L) (fun r => FeasL cons L r.1) ((Fn.iface obj D cap).f fn pl) :=
  iface_f_cases obj D cap fn pl _ (setParameters_feasL cons L fn pl hQ hT)

theorem objective_safeL (obj : List ℝ → ℝ) (D : Deriv ℝ) (cap : Option Nat) (cons : Spec.Cons ℝ) (L : Nat) :
    Safe (Fn.iface obj D cap) (FeasL cons L) (Tied cons) := by
  refine ⟨?_, ?_, fun pl i x pl' hT h => setValueAt_tied cons pl i x pl' hT h⟩
  · exact fun fn pl fn' v hQ hT h => (objective_f_within obj D cap cons L fn pl hQ hT.within).of_ok h
  · exact fun fn pl e fn' hQ hT h => (objective_f_within obj D cap cons L fn pl hQ hT.within).of_error h

theorem objective_safeSetL (obj : List ℝ → ℝ) (D : Deriv ℝ) (cap : Option Nat) (cons : Spec.Cons ℝ) (L : Nat) :
    SafeSet (Fn.iface obj D cap) (FeasL cons L) (Tied cons) :=
  ⟨fun hQ hT => iface_set_cases obj D cap _ _ _ (setParameters_feasL cons L _ _ hQ hT.within)⟩

/-- putting the function back where an earlier state of it was keeps `Q`, returning or raising -/
structure SafeRestore (I : FunI F ℝ) (Q : F → Prop) : Prop where
  set : ∀ {fn fn0}, Q fn → Q fn0 → ROk Q Q (I.setParameters fn (I.getParameters fn0))

theorem objective_restore (obj : List ℝ → ℝ) (D : Deriv ℝ) (cap : Option Nat) (cons : Spec.Cons ℝ) (L : Nat) :
    SafeRestore (Fn.iface obj D cap) (FeasL cons L) :=
  ⟨fun hQ hQ0 => iface_set_cases obj D cap _ _ _ (setParameters_restore cons L _ _ hQ hQ0)⟩

/-! ### `matchParametersValues` keeps a list tied -/

/-- `own.matchParametersValues(src)`, whatever `src` holds: every value written went through the
`setValue` of a parameter of `own` -/
theorem matchList_tied (cons : Spec.Cons ℝ) (own src own' : PList ℝ) (hT : Tied cons own)
    (h : matchList own src = .ok own') : Tied cons own' :=
  hT.of_like (matchList_like own src own' hT.feas h)

/-- the `keep` and `auto` policies keep a list tied -/
theorem applyPolicy_tied' (cons : Spec.Cons ℝ) (pol : Policy) (pl : PList ℝ) (hpol : pol ≠ .ignore) (h : Tied cons pl) :
    Tied cons (applyPolicy pol pl) := by
  cases pol with
  | ignore => exact absurd rfl hpol
  | keep => exact h
  | auto => exact toAuto_tied cons pl h

/-! ### the template: the constraint policy is carried through -/

/-- the virtual members of the optimiser leave the constraint policy alone -/
structure KeepsPolicy {τ : Type} (A : Algo F τ ℝ) : Prop where
  doInit : ∀ s p s', A.doInit s p = .ok s' → s'.core.policy = s.core.policy
  doStep : ∀ s s' v, A.doStep s = .ok (s', v) → s'.core.policy = s.core.policy
  stopInit : ∀ s, (A.stopInit s).core.policy = s.core.policy
  stop : ∀ s, (A.stop s).1.core.policy = s.core.policy

section
variable {τ : Type} {A : Algo F τ ℝ}

theorem init_policy (hk : KeepsPolicy A) (s s1 : St F τ ℝ) (params : PList ℝ) (h : A.init s params = .ok s1) :
    s1.core.policy = s.core.policy := by
  obtain ⟨s2, hd, rfl⟩ := init_ok h
  rw [hk.stopInit]
  exact (hk.doInit _ _ s2 hd : s2.core.policy = _)

theorem step_policy (hk : KeepsPolicy A) (s s1 : St F τ ℝ) (v : ℝ) (h : A.step s = .ok (s1, v)) :
    s1.core.policy = s.core.policy :=
  step_invariant A (fun u => u.core.policy = s.core.policy) (fun u u' w hu hd => (hk.doStep _ _ _ hd).trans hu)
    (fun u hu => (hk.stop u).trans hu) (fun u n t hu => hu) rfl h

theorem optimize_policy (hk : KeepsPolicy A) (fuel : Nat) (s s1 : St F τ ℝ) (v : ℝ) (h : A.optimize fuel s = .ok (s1, v)) :
    s1.core.policy = s.core.policy :=
  (optimize_invariant A (fun u => u.core.policy = s.core.policy) (fun u u' w hu hd => (hk.doStep _ _ _ hd).trans hu)
    (fun u hu => (hk.stop u).trans hu) (fun u n t hu => hu) rfl h).1

theorem fscStop_policy (s : St F τ ℝ) : (fscStop s).1.core.policy = s.core.policy := by rw [fscStop_fst]

end

/-! ### NewtonOneDimension -/

section
variable {I : FunI F ℝ} {Q : F → Prop} {T : PList ℝ → Prop}

/-- the Felsenstein-Churchill loop: every trial is made at a tied list, every restoration puts the
function back where the step found it (`fn0`) -/
theorem newtonCorrect_safe (hs : Safe I Q T) (hr : SafeRestore I Q) (cur x0 : ℝ) (fn0 : F) (maxc : Nat) (hQ0 : Q fn0) :
    ∀ (fuel count : Nat) (fn : F) (np : PList ℝ) (mv nv : ℝ), Q fn → T np →
      ROk Q (fun r => Q r.1 ∧ ∀ pl v, r.2 = some (pl, v) → T pl)
        (newtonCorrect I cur x0 (I.getParameters fn0) maxc fuel count fn np mv nv) := by
  intro fuel
  induction fuel with
  | zero => intro count fn np mv nv hQ _; rw [newtonCorrect]; exact hQ
  | succ fuel ih =>
    intro count fn np mv nv hQ hT
    rw [newtonCorrect]
    split
    · refine (hr.set hQ hQ0).elim (fun _ h => h) fun fn1 hQ1 => ?_
      dsimp only
      split
      · exact ⟨hQ1, fun pl v h => nomatch h⟩
      · split
        · exact hQ1
        · rename_i np1 hset
          have hT1 := hs.set _ _ _ _ hT hset
          exact (hs.f hQ1 hT1).elim (fun _ h => h) fun ⟨fn2, nv2⟩ h => ih _ fn2 np1 _ nv2 h hT1
    · exact ⟨hQ, fun pl v h => (Prod.mk.inj (Option.some.inj h)).1 ▸ hT⟩

theorem newtonDoStep_safe (hs : Safe I Q T) (hr : SafeRestore I Q) (s : St F (Newton1 ℝ) ℝ) (hQ : Q s.fn) (hT : T s.core.params) :
    ROk Q (fun r => Q r.1.fn ∧ T r.1.core.params) (newtonDoStep I s) := by
  unfold newtonDoStep
  dsimp only
  split
  · exact hQ
  · split
    · exact hQ
    · rename_i np hset
      have hT1 := hs.set _ _ _ _ hT hset
      refine (hs.f hQ hT1).elim (fun _ h => h) fun ⟨fn1, nv⟩ hQ1 => ?_
      dsimp only
      refine (newtonCorrect_safe hs hr _ _ s.fn _ hQ _ _ fn1 np _ nv hQ1 hT1).elim (fun _ h => h) fun ⟨fn2, res⟩ hc => ?_
      cases res with
      | none => exact ⟨hc.1, hT⟩
      | some r => exact ⟨hc.1, hc.2 r.1 r.2 rfl⟩

theorem newtonDoInit_safe (hs : Safe I Q T) (s : St F (Newton1 ℝ) ℝ) (params : PList ℝ) (hQ : Q s.fn) (hT : T s.core.params) :
    ROk Q (fun r => Q r.fn ∧ T r.core.params) (newtonDoInit I s params) := by
  unfold newtonDoInit
  split
  · exact (hs.f hQ hT).elim (fun _ h => h) fun _ h => ⟨h, hT⟩
  · exact hQ

theorem newton_safeAlgo (hs : Safe I Q T) (hr : SafeRestore I Q) : SafeAlgo (newtonAlgo I) Q T :=
  { doInit := fun s params hQ hT => newtonDoInit_safe hs s params hQ hT,
    doStep := fun s hQ hT => newtonDoStep_safe hs hr s hQ hT,
    stopInit := fun _ => ⟨rfl, rfl⟩,
    stop := fun s => fscStop_safe s }

/-! ### the policy is carried through the one-dimensional optimisers -/

theorem brentDoInit_policy (fuel : Nat) (s s' : St F (Brent ℝ) ℝ) (params : PList ℝ)
    (h : brentDoInit I fuel s params = .ok s') : s'.core.policy = s.core.policy := by
  obtain ⟨fnb, k, fn, fx, x, sf, -, -, hor, rfl⟩ := brentDoInit_ok h
  rcases hor with ⟨-, -, rfl⟩ | ⟨-, -, he⟩
  · rfl
  · obtain ⟨fn1, pl, -, hsf⟩ := evalOwn_ok he
    rw [hsf]

theorem brent_keepsPolicy (fuel : Nat) : KeepsPolicy (brentAlgo I fuel) :=
  { doInit := fun s p s' h => brentDoInit_policy fuel s s' p h,
    doStep := fun s s' v h => by obtain ⟨g1, u, pl, fn, fu, pl', -, -, -, -, rfl, -⟩ := brentDoStep_ok h; rfl,
    stopInit := fun _ => rfl,
    stop := fun s => by show (brentStop s).1.core.policy = _; rw [brentStop_fst] }

theorem brentOptimize_policy (fuel : Nat) (s s' : St F (Brent ℝ) ℝ) (v : ℝ)
    (h : brentOptimize I fuel s = .ok (s', v)) : s'.core.policy = s.core.policy := by
  obtain ⟨s1, v1, fn, ho, -, rfl⟩ := brentOptimize_ok h
  exact optimize_policy (brent_keepsPolicy fuel) fuel s s1 v1 ho

theorem newtonDoStep_policy (s s' : St F (Newton1 ℝ) ℝ) (v : ℝ)
    (h : newtonDoStep I s = .ok (s', v)) : s'.core.policy = s.core.policy := by
  obtain ⟨m, x0, np, fn, nv, fn', res, -, -, -, -, ⟨-, rfl, -⟩ | ⟨pl, -, rfl⟩⟩ := newtonDoStep_ok h <;> rfl

theorem newtonDoInit_policy (s s' : St F (Newton1 ℝ) ℝ) (params : PList ℝ)
    (h : newtonDoInit I s params = .ok s') : s'.core.policy = s.core.policy := by
  obtain ⟨q, fn, v, -, -, rfl⟩ := newtonDoInit_ok h
  rfl

theorem newton_keepsPolicy : KeepsPolicy (newtonAlgo I) :=
  { doInit := fun s p s' h => newtonDoInit_policy s s' p h,
    doStep := fun s s' v h => newtonDoStep_policy s s' v h,
    stopInit := fun _ => rfl,
    stop := fun s => fscStop_policy s }

end

section
variable {I : FunI F ℝ} {Q : F → Prop}

/-! ### SimpleMultiDimensions -/

/-- the invariant of `SimpleMultiDimensions`: the function is fine, the list is tied, and the
one-dimensional optimiser runs under a policy that keeps constraints (when there is a parameter at all) -/
def SimpleJ (Q : F → Prop) (cons : Spec.Cons ℝ) (s : St F (Simple ℝ) ℝ) : Prop :=
  Q s.fn ∧ Tied cons s.core.params ∧ (s.ext.nbParams = 0 ∨ s.ext.icore.policy ≠ .ignore)

/-- one coordinate: Brent's method on the sub-list of that coordinate (tied under a policy that keeps
constraints), then the function's point copied back -/
theorem simpleCoord_inv {cons : Spec.Cons ℝ} (hs : Safe I Q (Tied cons)) (fuel : Nat) (s : St F (Simple ℝ) ℝ) (i : Nat)
    (hJ : Q s.fn ∧ Tied cons s.core.params ∧ s.ext.icore.policy ≠ .ignore) :
    ROk Q (fun r => Q r.1.fn ∧ Tied cons r.1.core.params ∧ r.1.ext.icore.policy ≠ .ignore) (simpleCoord I fuel s i) := by
  obtain ⟨hQ, hT, hp⟩ := hJ
  unfold simpleCoord
  split
  · exact hQ
  · rename_i q hq
    dsimp only
    generalize (orderedInterval _ _ : ℝ × ℝ) = iv
    have hTq : Tied cons (applyPolicy s.ext.icore.policy [q]) :=
      applyPolicy_tied' cons _ _ hp (Tied.cons' (hT q (List.mem_of_getElem? hq)) (Tied.nil cons))
    refine (init_safe (brent_safeAlgo hs fuel) _ [q] (by exact hQ) (by exact hTq)).elim' (fun _ h => h) fun inner1 he hi => ?_
    dsimp only
    refine (brentOptimize_safe hs fuel inner1 hi.1 hi.2).elim' (fun _ h => h) fun ⟨inner2, f⟩ he2 ho => ?_
    dsimp only
    split
    · exact ho.1
    · rename_i pl hm
      refine ⟨ho.1, matchList_tied cons _ _ _ hT hm, ?_⟩
      show inner2.core.policy ≠ _
      rw [brentOptimize_policy fuel _ _ _ he2, init_policy (brent_keepsPolicy fuel) _ _ _ he]
      exact hp

theorem simpleDoStep_inv {cons : Spec.Cons ℝ} (hs : Safe I Q (Tied cons)) (fuel : Nat) (s : St F (Simple ℝ) ℝ)
    (hJ : SimpleJ Q cons s) : ROk Q (fun r => SimpleJ Q cons r.1) (simpleDoStep I fuel s) := by
  obtain ⟨hQ, hT, hp⟩ := hJ
  unfold simpleDoStep
  rcases hp with h0 | hp
  · rw [h0, List.range_zero, simpleCoords]
    exact ⟨hQ, hT, Or.inl h0⟩
  · rw [simpleCoords_eq]
    exact (coordsFold_rok _ (simpleCoord_inv hs fuel) _ s _ ⟨hQ, hT, hp⟩).elim (fun _ h => h)
      fun _ h => ⟨h.1, h.2.1, Or.inr h.2.2⟩

theorem simpleDoInit_inv {cons : Spec.Cons ℝ} (hss : SafeSet I Q (Tied cons)) (s : St F (Simple ℝ) ℝ) (params : PList ℝ)
    (hQ : Q s.fn) (hT : Tied cons s.core.params) (hp : s.core.policy ≠ .ignore) :
    ROk Q (SimpleJ Q cons) (simpleDoInit I s params) := by
  unfold simpleDoInit
  dsimp only
  split
  · rename_i hz
    exact ⟨hQ, hT, Or.inl (by simpa using hz)⟩
  · generalize orderedInterval (Scalar.zero : ℝ) Scalar.one = iv
    exact (hss.set hQ hT).elim (fun _ h => h) fun _ h => ⟨h, hT, Or.inr hp⟩

theorem simple_invStep {cons : Spec.Cons ℝ} (hs : Safe I Q (Tied cons)) (fuel : Nat) :
    InvStep (simpleAlgo I fuel) Q (SimpleJ Q cons) :=
  { fn := fun _ h => h.1,
    doStep := fun s hJ => simpleDoStep_inv hs fuel s hJ,
    stopInit := fun s hJ => hJ,
    stop := fun s hJ => by show SimpleJ Q cons (fscStop s).1; rw [fscStop_fst]; exact hJ,
    core := fun s c hJ hc _ => ⟨hJ.1, hc ▸ hJ.2.1, hJ.2.2⟩ }

/-- `init` of `SimpleMultiDimensions` on a tied list under a policy that keeps constraints -/
theorem simple_init_inv {cons : Spec.Cons ℝ} (hs : Safe I Q (Tied cons)) (hss : SafeSet I Q (Tied cons)) (fuel : Nat)
    (s : St F (Simple ℝ) ℝ) (params : PList ℝ) (hQ : Q s.fn) (hT : Tied cons (applyPolicy s.core.policy params))
    (hp : s.core.policy ≠ .ignore) : ROk Q (SimpleJ Q cons) ((simpleAlgo I fuel).init s params) :=
  init_invS (simple_invStep hs fuel) s params (simpleDoInit_inv hss _ params hQ hT hp)

theorem simple_keepsPolicy (fuel : Nat) : KeepsPolicy (simpleAlgo I fuel) :=
  { doInit := fun s p s' h => by obtain ⟨e, ⟨-, rfl⟩ | ⟨fn, -, rfl⟩⟩ := simpleDoInit_ok h <;> rfl,
    doStep := fun s s' v h => by
      obtain ⟨s1, t, hc, rfl⟩ := simpleDoStep_ok h
      show s1.core.policy = s.core.policy
      exact coordsFold_rel (fun a b : St F (Simple ℝ) ℝ => b.core.policy = a.core.policy) (fun _ => rfl) (fun _ _ _ h1 h2 => h2.trans h1)
        (fun u i u' f hc => by obtain ⟨q, i0, i1, i2, pl, -, -, -, -, -, -, rfl⟩ := simpleCoord_ok hc; rfl) hc,
    stopInit := fun _ => rfl,
    stop := fun s => fscStop_policy s }

/-! ### SimpleNewtonMultiDimensions -/

/-- the invariant of `SimpleNewtonMultiDimensions`: the function is fine, the list is tied, and the
Newton optimiser runs under a policy that keeps constraints (when there is a parameter at all) -/
def SNewtonJ (Q : F → Prop) (cons : Spec.Cons ℝ) (s : St F (SNewton ℝ) ℝ) : Prop :=
  Q s.fn ∧ Tied cons s.core.params ∧ (s.ext.nbParams = 0 ∨ s.ext.icore.policy ≠ .ignore)

/-- one coordinate: Newton's method on the sub-list of that coordinate, then the function's point copied back -/
theorem snewtonCoord_inv {cons : Spec.Cons ℝ} (hs : Safe I Q (Tied cons)) (hr : SafeRestore I Q) (fuel : Nat) (s : St F (SNewton ℝ) ℝ) (i : Nat)
    (hJ : Q s.fn ∧ Tied cons s.core.params ∧ s.ext.icore.policy ≠ .ignore) :
    ROk Q (fun r => Q r.1.fn ∧ Tied cons r.1.core.params ∧ r.1.ext.icore.policy ≠ .ignore) (snewtonCoord I fuel s i) := by
  obtain ⟨hQ, hT, hp⟩ := hJ
  unfold snewtonCoord
  split
  · exact hQ
  · rename_i q hq
    dsimp only
    have hTq : Tied cons (applyPolicy s.ext.icore.policy [q]) :=
      applyPolicy_tied' cons _ _ hp (Tied.cons' (hT q (List.mem_of_getElem? hq)) (Tied.nil cons))
    refine (init_safe (newton_safeAlgo hs hr) _ [q] (by exact hQ) (by exact hTq)).elim' (fun _ h => h) fun inner1 he hi => ?_
    dsimp only
    refine (optimize_safeS (newton_safeAlgo hs hr).toStep fuel inner1 hi.1 hi.2).elim' (fun _ h => h) fun ⟨inner2, f⟩ he2 ho => ?_
    dsimp only
    split
    · exact ho.1
    · rename_i pl hm
      refine ⟨ho.1, matchList_tied cons _ _ _ hT hm, ?_⟩
      show inner2.core.policy ≠ _
      rw [optimize_policy (newton_keepsPolicy (I := I)) fuel _ _ _ he2, init_policy (newton_keepsPolicy (I := I)) _ _ _ he]
      exact hp

theorem snewtonDoStep_inv {cons : Spec.Cons ℝ} (hs : Safe I Q (Tied cons)) (hr : SafeRestore I Q) (fuel : Nat) (s : St F (SNewton ℝ) ℝ)
    (hJ : SNewtonJ Q cons s) : ROk Q (fun r => SNewtonJ Q cons r.1) (snewtonDoStep I fuel s) := by
  obtain ⟨hQ, hT, hp⟩ := hJ
  unfold snewtonDoStep
  rcases hp with h0 | hp
  · rw [h0, List.range_zero, snewtonCoords]
    exact ⟨hQ, hT, Or.inl h0⟩
  · rw [snewtonCoords_eq]
    exact (coordsFold_rok _ (snewtonCoord_inv hs hr fuel) _ s _ ⟨hQ, hT, hp⟩).elim (fun _ h => h)
      fun _ h => ⟨h.1, h.2.1, Or.inr h.2.2⟩

theorem snewtonDoInit_inv {cons : Spec.Cons ℝ} (hss : SafeSet I Q (Tied cons)) (s : St F (SNewton ℝ) ℝ) (params : PList ℝ)
    (hQ : Q s.fn) (hT : Tied cons s.core.params) (hp : s.core.policy ≠ .ignore) :
    ROk Q (SNewtonJ Q cons) (snewtonDoInit I s params) := by
  unfold snewtonDoInit
  dsimp only
  split
  · rename_i hz
    exact ⟨hQ, hT, Or.inl (by simpa using hz)⟩
  · exact (hss.set hQ hT).elim (fun _ h => h) fun _ h => ⟨h, hT, Or.inr hp⟩

theorem snewton_invStep {cons : Spec.Cons ℝ} (hs : Safe I Q (Tied cons)) (hr : SafeRestore I Q) (fuel : Nat) :
    InvStep (snewtonAlgo I fuel) Q (SNewtonJ Q cons) :=
  { fn := fun _ h => h.1,
    doStep := fun s hJ => snewtonDoStep_inv hs hr fuel s hJ,
    stopInit := fun s hJ => hJ,
    stop := fun s hJ => by show SNewtonJ Q cons (fscStop s).1; rw [fscStop_fst]; exact hJ,
    core := fun s c hJ hc _ => ⟨hJ.1, hc ▸ hJ.2.1, hJ.2.2⟩ }

/-- `init` of `SimpleNewtonMultiDimensions` on a tied list under a policy that keeps constraints -/
theorem snewton_init_inv {cons : Spec.Cons ℝ} (hs : Safe I Q (Tied cons)) (hss : SafeSet I Q (Tied cons))
    (hr : SafeRestore I Q) (fuel : Nat)
    (s : St F (SNewton ℝ) ℝ) (params : PList ℝ) (hQ : Q s.fn) (hT : Tied cons (applyPolicy s.core.policy params))
    (hp : s.core.policy ≠ .ignore) : ROk Q (SNewtonJ Q cons) ((snewtonAlgo I fuel).init s params) :=
  init_invS (snewton_invStep hs hr fuel) s params (snewtonDoInit_inv hss _ params hQ hT hp)

theorem snewton_keepsPolicy (fuel : Nat) : KeepsPolicy (snewtonAlgo I fuel) :=
  { doInit := fun s p s' h => by obtain ⟨e, ⟨-, rfl⟩ | ⟨fn, -, rfl⟩⟩ := snewtonDoInit_ok h <;> rfl,
    doStep := fun s s' v h => by
      obtain ⟨s1, t, hc, rfl⟩ := snewtonDoStep_ok h
      show s1.core.policy = s.core.policy
      exact coordsFold_rel (fun a b : St F (SNewton ℝ) ℝ => b.core.policy = a.core.policy) (fun _ => rfl) (fun _ _ _ h1 h2 => h2.trans h1)
        (fun u i u' f hc => by obtain ⟨q, i1, i2, pl, -, -, -, -, rfl⟩ := snewtonCoord_ok hc; rfl) hc,
    stopInit := fun _ => rfl,
    stop := fun s => fscStop_policy s }

end

/-! ### DownhillSimplexMethod -/

/-- the `f` half of `Safe`, for lists that `setValue` need not keep in `T` -/
structure SafeF (I : FunI F ℝ) (Q : F → Prop) (T : PList ℝ → Prop) : Prop where
  f : ∀ {fn pl}, Q fn → T pl → ROk Q (fun r => Q r.1) (I.f fn pl)

theorem objective_safeW (obj : List ℝ → ℝ) (D : Deriv ℝ) (cap : Option Nat) (cons : Spec.Cons ℝ) (L : Nat) :
    SafeF (Fn.iface obj D cap) (FeasL cons L) (Within cons) :=
  ⟨fun hQ hT => objective_f_within obj D cap cons L _ _ hQ hT⟩

/-- a vertex (or the optimiser's list): tied to the constraints, precision 0, the names `ns` -/
def Vert (cons : Spec.Cons ℝ) (ns : List Nat) (v : PList ℝ) : Prop := Tied cons v ∧ Prec0 v ∧ names v = ns

theorem setAll_vert {cons : Spec.Cons ℝ} {ns : List Nat} {pl pl' : PList ℝ} {vs : List ℝ} (hv : Vert cons ns pl)
    (h : setAll pl vs = .ok pl') : Vert cons ns pl' :=
  have hl := setAll_like pl vs pl' hv.1.feas h
  ⟨hv.1.of_like hl, hv.2.1.of_like hl, hl.names.trans hv.2.2⟩

theorem Spec.accepts_mid (c : Option (Interval ℝ)) (a b : ℝ) (ha : Spec.accepts c a = true) (hb : Spec.accepts c b = true) :
    Spec.accepts c (Scalar.ofRat 1 2 * (a + b)) = true := by
  cases c with
  | none => rfl
  | some c =>
    have := Interval.isCorrect_mid c a b ha hb
    simp only [ScalarReal.ofRat_eq]
    norm_num at this ⊢
    exact this

/-- a list named like two tied lists and holding the midpoints of their values: its values are accepted -/
theorem mids_within (cons : Spec.Cons ℝ) : ∀ (ps vi lo : PList ℝ), names ps = names vi → names lo = names vi →
    Tied cons vi → Tied cons lo →
    values ps = ((values vi).zip (values lo)).map (fun ab => Scalar.ofRat 1 2 * (ab.1 + ab.2)) → Within cons ps := by
  intro ps
  induction ps with
  | nil => intro vi lo _ _ _ _ _ q hq; cases hq
  | cons q r ih =>
    intro vi lo h1 h2 hTv hTl hv
    cases vi with
    | nil => cases h1
    | cons v vr =>
      cases lo with
      | nil => cases h2
      | cons l lr =>
        simp only [names_cons, List.cons.injEq] at h1 h2
        simp only [values, List.map_cons, List.zip_cons_cons, List.cons.injEq] at hv
        intro q' hq' c hc
        rcases List.mem_cons.1 hq' with rfl | hm
        · rw [hv.1]
          have hvv := hTv.head
          have hll := hTl.head
          apply Spec.accepts_mid
          · rw [← hvv.2 c (by rw [← h1.1]; exact hc), ← accepts_eq]; exact hvv.1
          · rw [← hll.2 c (by rw [h2.1, ← h1.1]; exact hc), ← accepts_eq]; exact hll.1
        · exact ih vr lr h1.2 h2.2 hTv.tail hTl.tail hv.2 q' hm c hc

/-- the invariant of the method: the function is fine; the optimiser's list and every vertex are tied,
of precision 0 and named `ns`; the sums carry the names and no constraint -/
structure SimplexJ (Q : F → Prop) (cons : Spec.Cons ℝ) (ns : List Nat) (s : St F (Simplex ℝ) ℝ) : Prop where
  fn : Q s.fn
  params : Vert cons ns s.core.params
  verts : ∀ v ∈ s.ext.simplex, Vert cons ns v
  psum : Free s.ext.pSum ∧ names s.ext.pSum = ns

section
variable {I : FunI F ℝ} {Q : F → Prop} {cons : Spec.Cons ℝ} {ns : List Nat}

/-- a trial point is the optimiser's list moved by `setValue`; the sums stay unconstrained -/
theorem tryExtrapolation_inv (hs : Safe I Q (Tied cons)) (s : St F (Simplex ℝ) ℝ) (fac : ℝ) (hJ : SimplexJ Q cons ns s) :
    ROk Q (fun r => SimplexJ Q cons ns r.1) (tryExtrapolation I s fac) := by
  unfold tryExtrapolation
  dsimp only
  split
  · rename_i hiv yHi hsx hy
    split
    · exact hJ.fn
    · rename_i pTry hset
      refine (hs.f hJ.fn (setAll_vert hJ.params hset).1).elim (fun _ h => h) fun ⟨fn1, yT⟩ hQ1 => ?_
      dsimp only
      split
      · split
        · exact hQ1
        · rename_i ps hps
          obtain ⟨f1, f2, _⟩ := setAll_free _ _ _ hJ.psum.1 hps
          split
          · exact hQ1
          · rename_i hi' hhi
            refine ⟨hQ1, hJ.params, fun v hv => ?_, f1, f2.trans hJ.psum.2⟩
            rcases mem_set_cases hv with rfl | hm
            · exact setAll_vert (hJ.verts hiv (List.mem_of_getElem? hsx)) hhi
            · exact hJ.verts v hm
      · exact ⟨hQ1, hJ.params, hJ.verts, hJ.psum⟩
  · exact hJ.fn

/-- the contraction: the function is evaluated at the *unconstrained* list of sums, which then holds the
midpoints of two vertices — values the constraints accept -/
theorem shrinkAll_inv (hw : SafeF I Q (Within cons)) :
    ∀ (l : List Nat) (s : St F (Simplex ℝ) ℝ), SimplexJ Q cons ns s → ROk Q (SimplexJ Q cons ns) (shrinkAll I l s) := by
  intro l
  induction l with
  | nil => intro s hJ; rw [shrinkAll]; exact hJ
  | cons i r ih =>
    intro s hJ
    rw [shrinkAll]
    dsimp only
    split
    · exact ih s hJ
    · split
      · rename_i vi lo hvi hlo
        have hvV : Vert cons ns vi := hJ.verts vi (List.mem_of_getElem? hvi)
        have hvL : Vert cons ns lo := hJ.verts lo (List.mem_of_getElem? hlo)
        split
        · exact hJ.fn
        · rename_i ps hps
          obtain ⟨f1, f2, f3⟩ := setAll_free _ _ _ hJ.psum.1 hps
          have hnps : names ps = ns := f2.trans hJ.psum.2
          have hW : Within cons ps :=
            mids_within cons ps vi lo (hnps.trans hvV.2.2.symm) (hvL.2.2.trans hvV.2.2.symm) hvV.1 hvL.1 (f3 (by
              rw [List.length_map, List.length_zip, values_length, values_length, ← names_length vi, ← names_length lo,
                hvV.2.2, hvL.2.2, min_self, ← names_length s.ext.pSum, hJ.psum.2]))
          split
          · exact hJ.fn
          · rename_i vi' hvi'
            refine (hw.f hJ.fn hW).elim (fun _ h => h) fun ⟨fn1, yi⟩ hQ1 => ih _ ⟨hQ1, hJ.params, fun v hv => ?_, f1, hnps⟩
            rcases mem_set_cases hv with rfl | hm
            · exact setAll_vert hvV hvi'
            · exact hJ.verts v hm
      · exact hJ.fn

theorem simplexReport_inv (s : St F (Simplex ℝ) ℝ) (iL : Nat) (hJ : SimplexJ Q cons ns s) :
    SimplexJ Q cons ns (simplexReport s iL).1 := by
  unfold simplexReport
  split
  · rename_i best hb
    exact ⟨hJ.fn, hJ.verts best (List.mem_of_getElem? hb), hJ.verts, hJ.psum⟩
  · exact hJ

theorem simplexDoStep_inv (hs : Safe I Q (Tied cons)) (hw : SafeF I Q (Within cons)) (s : St F (Simplex ℝ) ℝ)
    (hJ : SimplexJ Q cons ns s) : ROk Q (fun r => SimplexJ Q cons ns r.1) (simplexDoStep I s) := by
  unfold simplexDoStep
  dsimp only
  split
  · rename_i y0 y1 v0 hy0 hy1 hv0
    generalize rank s.ext.y y0 y1 = rk
    obtain ⟨iH, iN, iL⟩ := rk
    dsimp only
    split
    · exact hJ.fn
    · rename_i best hbest
      refine (tryExtrapolation_inv (ns := ns) hs _ _ (by exact ⟨hJ.fn, hJ.verts best (List.mem_of_getElem? hbest), hJ.verts, hJ.psum⟩)).elim
        (fun _ h => h) fun ⟨s1, yT1⟩ h1 => ?_
      dsimp only
      split
      · exact (tryExtrapolation_inv hs s1 _ h1).elim (fun _ h => h) fun _ h2 => simplexReport_inv _ iL h2
      · split
        · refine (tryExtrapolation_inv hs s1 _ h1).elim (fun _ h => h) fun ⟨s2, yT2⟩ h2 => ?_
          dsimp only
          split
          · refine (shrinkAll_inv hw _ s2 h2).elim (fun _ h => h) fun s3 h3 => ?_
            dsimp only
            split
            · exact h3.fn
            · rename_i ps hps
              obtain ⟨f1, f2⟩ := getPSum_free _ _ ps h3.params.2.1 hps
              exact simplexReport_inv _ iL ⟨h3.fn, h3.params, h3.verts, f1, f2.trans h3.params.2.2⟩
          · exact simplexReport_inv s2 iL h2
        · exact simplexReport_inv s1 iL h1
  · exact hJ.fn

/-- the vertices `1 … nDim` of the initial simplex: copies of the optimiser's list moved by `setValue` -/
theorem simplexVertices_inv (hs : Safe I Q (Tied cons)) (params : PList ℝ) (hp : Vert cons ns params) :
    ∀ (l : List Nat) (fn : F) (vs : List (PList ℝ)) (ys : List ℝ), Q fn → (∀ v ∈ vs, Vert cons ns v) →
      ROk Q (fun r => Q r.1 ∧ ∀ v ∈ r.2.1, Vert cons ns v) (simplexVertices I params l fn vs ys) := by
  intro l
  induction l with
  | nil => intro fn vs ys hQ hv; rw [simplexVertices]; exact ⟨hQ, hv⟩
  | cons i r ih =>
    intro fn vs ys hQ hv
    rw [simplexVertices]
    split
    · exact hQ
    · rename_i w hset
      have hvw : Vert cons ns w := setAll_vert hp hset
      refine (hs.f hQ hvw.1).elim (fun _ h => h) fun ⟨fn1, yw⟩ hQ1 => ih fn1 _ _ hQ1 fun v hv' => ?_
      rcases List.mem_append.1 hv' with hm | hm
      · exact hv v hm
      · exact List.mem_singleton.1 hm ▸ hvw

theorem simplexDoInit_inv (hs : Safe I Q (Tied cons)) (s : St F (Simplex ℝ) ℝ) (params : PList ℝ)
    (hQ : Q s.fn) (hp : Vert cons ns s.core.params) : ROk Q (SimplexJ Q cons ns) (simplexDoInit I s params) := by
  unfold simplexDoInit
  dsimp only
  refine (simplexVertices_inv hs s.core.params hp _ s.fn [] [] hQ (fun v hv => nomatch hv)).elim (fun _ h => h)
    fun ⟨fn1, vs, ys⟩ h1 => ?_
  dsimp only
  refine (hs.f h1.1 hp.1).elim (fun _ h => h) fun ⟨fn2, y0⟩ hQ2 => ?_
  dsimp only
  split
  · exact hQ2
  · rename_i ps hps
    obtain ⟨f1, f2⟩ := getPSum_free _ _ ps hp.2.1 hps
    refine ⟨hQ2, hp, fun v hv => ?_, f1, f2.trans hp.2.2⟩
    rcases List.mem_cons.1 hv with rfl | hm
    · exact hp
    · exact h1.2 v hm

theorem simplex_invStep (hs : Safe I Q (Tied cons)) (hw : SafeF I Q (Within cons)) :
    InvStep (simplexAlgo I) Q (SimplexJ Q cons ns) :=
  { fn := fun _ h => h.fn,
    doStep := fun s hJ => simplexDoStep_inv hs hw s hJ,
    stopInit := fun s hJ => ⟨hJ.fn, hJ.params, hJ.verts, hJ.psum⟩,
    stop := fun s hJ => hJ,
    core := fun s c hJ hc _ => ⟨hJ.fn, by show Vert cons ns c.params; rw [hc]; exact hJ.params, hJ.verts, hJ.psum⟩ }

/-- `init` of the simplex method on a list that is tied, of precision 0 and named `ns` once the policy is applied -/
theorem simplex_init_inv (hs : Safe I Q (Tied cons)) (hw : SafeF I Q (Within cons)) (s : St F (Simplex ℝ) ℝ) (params : PList ℝ)
    (hQ : Q s.fn) (hp : Vert cons ns (applyPolicy s.core.policy params)) :
    ROk Q (SimplexJ Q cons ns) ((simplexAlgo I).init s params) :=
  init_invS (simplex_invStep hs hw) s params (simplexDoInit_inv hs _ params hQ hp)

/-- `DownhillSimplexMethod::optimize`: the template's loop, then an evaluation at the best vertex -/
theorem simplexOptimize_inv (hs : Safe I Q (Tied cons)) (hw : SafeF I Q (Within cons)) (fuel : Nat) (s : St F (Simplex ℝ) ℝ)
    (hJ : SimplexJ Q cons ns s) : ROk Q (fun r => SimplexJ Q cons ns r.1) (simplexOptimize I fuel s) := by
  unfold simplexOptimize
  refine (optimize_invS (simplex_invStep hs hw) fuel s hJ).elim (fun _ h => h) fun ⟨s1, v⟩ h1 => ?_
  dsimp only
  split
  · exact h1.fn
  · rename_i best hb
    exact (hs.f h1.fn (h1.verts best (List.mem_of_getElem? hb)).1).elim (fun _ h => h)
      fun _ h => ⟨h, h1.params, h1.verts, h1.psum⟩

end

/-- the policy keeps precisions -/
theorem applyPolicy_prec0 (pol : Policy) (pl : PList ℝ) (h : Prec0 pl) : Prec0 (applyPolicy pol pl) := by
  intro q hq
  cases pol with
  | keep => exact h q hq
  | ignore =>
    simp only [applyPolicy, List.mem_map] at hq
    obtain ⟨q0, hq0, rfl⟩ := hq
    exact h q0 hq0
  | auto =>
    simp only [applyPolicy, List.mem_map] at hq
    obtain ⟨q0, hq0, rfl⟩ := hq
    exact h q0 hq0

/-! ### MetaOptimizer -/

section
variable {I : FunI F ℝ} {Q : F → Prop}

theorem bfgsDoStep_policy (fuel : Nat) (s s' : St F (Bfgs ℝ) ℝ) (v : ℝ)
    (h : bfgsDoStep I fuel s = .ok (s', v)) : s'.core.policy = s.core.policy := by
  obtain ⟨xi, gr, fn1, pl, xi', k, fn2, f, -, -, g, ⟨-, -, rfl⟩ | ⟨-, pl0, fn3, -, -, rfl⟩⟩ := bfgsDoStep_ok h <;> rfl

theorem bfgsDoInit_policy (s s' : St F (Bfgs ℝ) ℝ) (params : PList ℝ)
    (h : bfgsDoInit I s params = .ok s') : s'.core.policy = s.core.policy := by
  obtain ⟨fn, e, -, rfl⟩ := bfgsDoInit_ok h
  rfl

theorem bfgs_keepsPolicy (fuel : Nat) : KeepsPolicy (bfgsAlgo I fuel) :=
  { doInit := fun s p s' h => bfgsDoInit_policy s s' p h,
    doStep := fun s s' v h => bfgsDoStep_policy fuel s s' v h,
    stopInit := fun _ => rfl,
    stop := fun s => fscStop_policy s }

/-- the sub-lists of the `MetaOptimizer` are made of parameters of its own list -/
theorem metaSubList_tied (cons : Spec.Cons ℝ) (own given : PList ℝ) (ns : List Nat) (h : Tied cons own) :
    Tied cons (metaSubList own given ns) := by
  intro q hq
  unfold metaSubList at hq
  obtain ⟨n, _, hn⟩ := List.mem_filterMap.1 hq
  split at hn
  · exact h q (findNamed_some hn).1
  · cases hn

/-- the invariant of the `MetaOptimizer`: the function is fine; its list and the two sub-lists are tied;
the two optimisers it drives run under a policy that keeps constraints (when they have parameters) -/
def MetaJ (Q : F → Prop) (cons : Spec.Cons ℝ) (s : St F (Meta ℝ) ℝ) : Prop :=
  Q s.fn ∧ Tied cons s.core.params ∧ Tied cons s.ext.p1 ∧ Tied cons s.ext.p2 ∧
  (s.ext.p1.length = 0 ∨ s.ext.c1.policy ≠ .ignore) ∧ (s.ext.p2.length = 0 ∨ s.ext.c2.policy ≠ .ignore)

/-- a member of the meta-optimiser that has parameters runs under a policy that keeps constraints -/
theorem MetaJ.policy {n : Nat} {pol : Policy} (h : n = 0 ∨ pol ≠ .ignore) (hn : ¬ (n == 0) = true) : pol ≠ .ignore :=
  h.resolve_left (by simpa using hn)

/-- the `SimpleMultiDimensions` of a step: sub-list updated, `init`, one step or a whole `optimize`, copy back -/
theorem metaRunSimple_inv {cons : Spec.Cons ℝ} (hs : Safe I Q (Tied cons)) (hss : SafeSet I Q (Tied cons)) (fuel : Nat)
    (s : St F (Meta ℝ) ℝ) (tol : ℝ) (hJ : MetaJ Q cons s) : ROk Q (MetaJ Q cons) (metaRunSimple I fuel s tol) := by
  unfold metaRunSimple
  obtain ⟨hQ, hT, hT1, hT2, hc1, hc2⟩ := hJ
  split
  · exact ⟨hQ, hT, hT1, hT2, hc1, hc2⟩
  · rename_i hne
    have hp := MetaJ.policy hc1 hne
    split
    · exact hQ
    · rename_i p1 hm
      have hTp1 : Tied cons p1 := matchList_tied cons _ _ _ hT1 hm
      dsimp only
      refine (simple_init_inv hs hss fuel _ p1 (by exact hQ) (applyPolicy_tied' cons _ _ hp hTp1) hp).elim'
        (fun _ h => h) fun sub1 he hi => ?_
      dsimp only
      have hrun : ROk Q (fun r => SimpleJ Q cons r.1 ∧ r.1.core.policy = sub1.core.policy)
          (if s.ext.full = true then (simpleAlgo I fuel).optimize fuel sub1 else (simpleAlgo I fuel).step sub1) := by
        split
        · exact (optimize_invS (simple_invStep hs fuel) fuel sub1 hi).elim' (fun _ h => h)
            fun r hr h => ⟨h, optimize_policy (simple_keepsPolicy fuel) fuel _ _ _ hr⟩
        · exact (step_invS (simple_invStep hs fuel) sub1 hi).elim' (fun _ h => h)
            fun r hr h => ⟨h, step_policy (simple_keepsPolicy fuel) _ _ _ hr⟩
      refine hrun.elim (fun _ h => h) fun ⟨sub2, v⟩ h2 => ?_
      dsimp only
      split
      · exact h2.1.1
      · rename_i own hm2
        refine ⟨h2.1.1, matchList_tied cons _ _ _ hT hm2, hTp1, hT2, Or.inr ?_, hc2⟩
        show sub2.core.policy ≠ _
        rw [h2.2, init_policy (simple_keepsPolicy fuel) _ _ _ he]
        exact hp

/-- the same for the `BfgsMultiDimensions` (whose `doInit` sets the function to the sub-list itself) -/
theorem metaRunBfgs_inv {cons : Spec.Cons ℝ} (hs : Safe I Q (Tied cons)) (hss : SafeSet I Q (Tied cons)) (fuel : Nat)
    (s : St F (Meta ℝ) ℝ) (tol : ℝ) (hJ : MetaJ Q cons s) : ROk Q (MetaJ Q cons) (metaRunBfgs I fuel s tol) := by
  unfold metaRunBfgs
  obtain ⟨hQ, hT, hT1, hT2, hc1, hc2⟩ := hJ
  split
  · exact ⟨hQ, hT, hT1, hT2, hc1, hc2⟩
  · rename_i hne
    have hp := MetaJ.policy hc2 hne
    split
    · exact hQ
    · rename_i p2 hm
      have hTp2 : Tied cons p2 := matchList_tied cons _ _ _ hT2 hm
      dsimp only
      have hstep := bfgs_safeStep hs hss fuel
      refine (init_safeS hstep _ p2 (bfgsDoInit_safe hss _ p2 (by exact hQ) (applyPolicy_tied' cons _ _ hp hTp2) hTp2)).elim'
        (fun _ h => h) fun sub1 he hi => ?_
      dsimp only
      have hrun : ROk Q (fun r => (Q r.1.fn ∧ Tied cons r.1.core.params) ∧ r.1.core.policy = sub1.core.policy)
          (if s.ext.full = true then (bfgsAlgo I fuel).optimize fuel sub1 else (bfgsAlgo I fuel).step sub1) := by
        split
        · exact (optimize_safeS hstep fuel sub1 hi.1 hi.2).elim' (fun _ h => h)
            fun r hr h => ⟨h, optimize_policy (bfgs_keepsPolicy fuel) fuel _ _ _ hr⟩
        · exact (step_safeS hstep sub1 hi.1 hi.2).elim' (fun _ h => h)
            fun r hr h => ⟨h, step_policy (bfgs_keepsPolicy fuel) _ _ _ hr⟩
      refine hrun.elim (fun _ h => h) fun ⟨sub2, v⟩ h2 => ?_
      dsimp only
      split
      · exact h2.1.1
      · rename_i own hm2
        refine ⟨h2.1.1, matchList_tied cons _ _ _ hT hm2, hT1, hTp2, hc1, Or.inr ?_⟩
        show sub2.core.policy ≠ _
        rw [h2.2, init_policy (bfgs_keepsPolicy fuel) _ _ _ he]
        exact hp

theorem metaDoStep_inv {cons : Spec.Cons ℝ} (hs : Safe I Q (Tied cons)) (hss : SafeSet I Q (Tied cons)) (fuel : Nat)
    (s : St F (Meta ℝ) ℝ) (hJ : MetaJ Q cons s) : ROk Q (fun r => MetaJ Q cons r.1) (metaDoStep I fuel s) := by
  unfold metaDoStep
  dsimp only
  refine (metaRunSimple_inv hs hss fuel _ _ (by exact hJ)).elim (fun _ h => h) fun s1 h1 => ?_
  dsimp only
  exact (metaRunBfgs_inv hs hss fuel s1 _ h1).elim (fun _ h => h) fun _ h2 => h2

theorem metaDoInit_inv {cons : Spec.Cons ℝ} (hss : SafeSet I Q (Tied cons)) (log10 : ℝ → ℝ) (s : St F (Meta ℝ) ℝ)
    (params : PList ℝ) (hQ : Q s.fn) (hT : Tied cons s.core.params) (hp : s.core.policy ≠ .ignore) :
    ROk Q (MetaJ Q cons) (metaDoInit I log10 s params) := by
  unfold metaDoInit
  dsimp only
  split
  · exact hQ
  · rename_i own hm
    have hTo : Tied cons own := matchList_tied cons _ _ _ hT hm
    refine (hss.set hQ hTo).elim (fun _ h => h) fun fn1 h1 =>
      ⟨h1, hTo, metaSubList_tied cons _ _ _ hT, metaSubList_tied cons _ _ _ hT, ?_, ?_⟩
    · dsimp only
      split
      · exact Or.inr hp
      · rename_i hz; exact Or.inl (by omega)
    · dsimp only
      split
      · exact Or.inr hp
      · rename_i hz; exact Or.inl (by omega)

theorem meta_invStep {cons : Spec.Cons ℝ} (hs : Safe I Q (Tied cons)) (hss : SafeSet I Q (Tied cons)) (log10 : ℝ → ℝ) (fuel : Nat) :
    InvStep (metaAlgo I log10 fuel) Q (MetaJ Q cons) :=
  { fn := fun _ h => h.1,
    doStep := fun s hJ => metaDoStep_inv hs hss fuel s hJ,
    stopInit := fun s hJ => hJ,
    stop := fun s hJ => by show MetaJ Q cons (fscStop s).1; rw [fscStop_fst]; exact hJ,
    core := fun s c hJ hc _ => ⟨hJ.1, by show Tied cons c.params; rw [hc]; exact hJ.2.1, hJ.2.2⟩ }

/-- `init` of the `MetaOptimizer` on a tied list under a policy that keeps constraints -/
theorem meta_init_inv {cons : Spec.Cons ℝ} (hs : Safe I Q (Tied cons)) (hss : SafeSet I Q (Tied cons)) (log10 : ℝ → ℝ)
    (fuel : Nat) (s : St F (Meta ℝ) ℝ) (params : PList ℝ) (hQ : Q s.fn)
    (hT : Tied cons (applyPolicy s.core.policy params)) (hp : s.core.policy ≠ .ignore) :
    ROk Q (MetaJ Q cons) ((metaAlgo I log10 fuel).init s params) :=
  init_invS (meta_invStep hs hss log10 fuel) s params (metaDoInit_inv hss log10 _ params hQ hT hp)

end

/-! ### why the simplex theorem asks for precision 0: a run in exact rational arithmetic

One parameter, value `1/10`, precision `6/25`, constraint `[-7/100, 1/4]`, automatic policy.  `init`
builds the vertices `1/10` and `1/4` (`1/10 + 1/5` corrected to the bound) and the sum `7/20`.
Step 1: the reflection `-1/20` replaces `1/4`, the sum becomes `1/20`; the expansion, corrected to
`-7/100`, is better still, but `-7/100` is within `precision/2 = 3/25` of what the vertex and the sum
hold: both `setValue`s are ignored.  Step 2: the reflection replaces `1/10` by `-1/20`, the sum becomes
`1/20 + (-1/20) - 1/10 = -1/10` (no constraint: stored); the contraction does not improve, the simplex is
contracted around its lowest vertex: the sums are told to take the midpoint `-1/20`, which is within
`3/25` of `-1/10`: ignored — and the function is evaluated at `-1/10 < -7/100`. -/
namespace SimplexCex

def c : Interval Rat := ⟨.fin (-7/100), .fin (1/4), true, true, 0⟩
def params : PList Rat := [⟨0, ⟨1/10, 6/25, some c, false⟩⟩]
/-- the objective: a table on the points the run visits -/
def obj (x : List Rat) : Rat :=
  match x with
  | [v] => if v = 1/4 then 817/100 else if v = 1/10 then 202/25 else if v = -1/20 then 174/25 else if v = -7/100 then 28/25 else 0
  | _ => 0
/-- a freshly constructed `DownhillSimplexMethod` under the automatic policy, the function at `(1/10)` -/
def s0 : St (Fn Rat) (Simplex Rat) Rat :=
  ⟨{ params := [], policy := .auto, nbEvalMax := 5, nbEval := 0, cur := 0, tol := false, initialized := false,
     tolerance := 0, callCount := 0, burnin := 0, lastF := 0, newF := 0 }, ⟨[1/10], []⟩, Simplex.fresh⟩
def I : FunI (Fn Rat) Rat := Fn.iface obj ⟨fun _ _ => 0, fun _ _ => 0⟩ none
def cons : Spec.Cons Rat := params.map (fun q => (q.name, q.p.constraint))
/-- the log of the function after `init` and `optimize` (however they end) -/
def log : List (List Rat) :=
  match (simplexAlgo I).init s0 params with
  | .error e => e.2.log
  | .ok s1 =>
    match simplexOptimize I 10 s1 with
    | .error e => e.2.log
    | .ok r => r.1.fn.log

end SimplexCex

end Bpp.Optim
