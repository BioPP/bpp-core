import BppProofs.Lemmas.LapFullBasic
import Mathlib.Data.Fintype.Card
import Mathlib.Data.Fintype.EquivFin
/-! Helper lemmas for C04 (`lap`, the whole routine): the invariant of the partial assignment kept
by every phase after the reduction transfer, and the outcome predicate `Good`. -/
namespace Bpp.Mx.Lap
open Bpp Bpp.Mx

/-- outcome of a phase: a normal return satisfying `P`, or — only when the fuel is not known to
suffice (`¬ B`) — fuel exhaustion; never `ub`, `inf` -/
def Good {β : Type} (B : Prop) (r : Res β) (P : β → Prop) : Prop :=
  (∃ a, r = .ok a ∧ P a) ∨ (r = .error .fuel ∧ ¬ B)

section
variable {β γ : Type} {B : Prop} {r : Res β} {P : β → Prop} {Q : γ → Prop}

theorem Good.ok {a : β} (h : P a) : Good B (.ok a) P := Or.inl ⟨a, rfl, h⟩

theorem Good.mono {P' : β → Prop} (h : Good B r P) (hpq : ∀ a, P a → P' a) : Good B r P' := by
  rcases h with ⟨a, ha, hp⟩ | h
  · exact Or.inl ⟨a, ha, hpq a hp⟩
  · exact Or.inr h

/-- Sequencing as the model writes it, `match r with | .error e => .error e | .ok a => f a`: `m` is the auxiliary
function Lean makes of that `match`.  Every definition has its own and Lean does not identify them, so the
lemma is stated for any `m` that computes like one (the two side conditions hold by `rfl`). -/
theorem Good.bind_match {m : Res β → (Err → Res γ) → (β → Res γ) → Res γ} {f : β → Res γ}
    (h : Good B r P) (hf : ∀ a, P a → Good B (f a) Q)
    (hok : ∀ a, m (.ok a) (fun e => .error e) f = f a := by intros; rfl)
    (hfuel : m (.error .fuel) (fun e => .error e) f = .error .fuel := by rfl) :
    Good B (m r (fun e => .error e) f) Q := by
  rcases h with ⟨a, rfl, hp⟩ | ⟨rfl, hb⟩
  · rw [hok]; exact hf a hp
  · rw [hfuel]; exact Or.inr ⟨rfl, hb⟩

/-- the same for a `match` whose first alternative is `.ok` (`loopM`, `arrPass`) -/
theorem Good.bind_match_ok {m : Res β → (β → Res γ) → (Err → Res γ) → Res γ} {f : β → Res γ}
    (h : Good B r P) (hf : ∀ a, P a → Good B (f a) Q)
    (hok : ∀ a, m (.ok a) f (fun e => .error e) = f a := by intros; rfl)
    (hfuel : m (.error .fuel) f (fun e => .error e) = .error .fuel := by rfl) :
    Good B (m r f (fun e => .error e)) Q :=
  Good.bind_match (m := fun r k f => m r f k) h hf hok hfuel

/-- … and for one that takes a returned pair apart, `| .ok (a, b) => f a b` (`augmentRow`) -/
theorem Good.bind_match_pair {β₁ β₂ : Type} {r : Res (β₁ × β₂)} {P : β₁ × β₂ → Prop}
    {m : Res (β₁ × β₂) → (Err → Res γ) → (β₁ → β₂ → Res γ) → Res γ} {f : β₁ → β₂ → Res γ}
    (h : Good B r P) (hf : ∀ a b, P (a, b) → Good B (f a b) Q)
    (hok : ∀ p, m (.ok p) (fun e => .error e) f = f p.1 p.2 := by intros; rfl)
    (hfuel : m (.error .fuel) (fun e => .error e) f = .error .fuel := by rfl) :
    Good B (m r (fun e => .error e) f) Q :=
  Good.bind_match (m := fun r k g => m r k fun a b => g (a, b)) (f := fun p => f p.1 p.2) h (fun p => hf p.1 p.2) hok hfuel

theorem Good.of_ok {a : β} (h : Good B r P) (hr : r = .ok a) : P a := by
  rcases h with ⟨a', ha, hp⟩ | ⟨h, _⟩
  · rw [hr] at ha; cases ha; exact hp
  · rw [hr] at h; cases h

theorem Good.ne_ub (h : Good B r P) : r ≠ .error .ub ∧ r ≠ .error .inf := by
  rcases h with ⟨a', ha, _⟩ | ⟨h, _⟩ <;> subst_vars <;> constructor <;> intro h <;> cases h

theorem Good.total (h : Good B r P) (hb : B) : ∃ a, r = .ok a ∧ P a := by
  rcases h with h | ⟨_, h⟩
  · exact h
  · exact absurd hb h

end

theorem loopM_good {σ : Type} {B : Prop} (P : Nat → σ → Prop) (n : Nat) (f : Nat → σ → Res σ) (s : σ) (h0 : P 0 s)
    (hstep : ∀ k t, k < n → P k t → Good B (f k t) (P (k + 1))) : Good B (loopM n f s) (P n) := by
  induction n with
  | zero => exact Good.ok h0
  | succ n ih =>
    rw [loopM_succ]
    exact Good.bind_match_ok (ih (fun k t hk => hstep k t (by omega))) (fun a ha => hstep n a (by omega) ha)

/-- pigeonhole: an injective map of `{0..n-1}` into itself is onto -/
theorem inj_surj {n : Nat} (g : Nat → Nat) (hlt : ∀ k, k < n → g k < n) (hinj : ∀ a b, a < n → b < n → g a = g b → a = b) :
    ∀ j, j < n → ∃ k, k < n ∧ g k = j := by
  intro j hj
  let f : Fin n → Fin n := fun k => ⟨g k.val, hlt k.val k.isLt⟩
  have hf : Function.Injective f := by
    intro a b hab
    exact Fin.ext (hinj a.val b.val a.isLt b.isLt (congrArg Fin.val hab))
  obtain ⟨k, hk⟩ := (Finite.injective_iff_surjective.mp hf) ⟨j, hj⟩
  exact ⟨k.val, k.isLt, congrArg Fin.val hk⟩

/-- **the invariant**: `cs` (`colSol`) is a partial assignment of columns to rows (`< 0` = the
column is unassigned) with inverse `rs` (`rowSol`) on the assigned rows; the rows in `F` are the
free ones; every assigned pair is tight for the prices `v`: its reduced cost `c i j - v j` is the
smallest of the row. -/
structure Inv (n : Nat) (c : Nat → Nat → ℝ) (rs cs : Nat → Int) (v : Nat → ℝ) (F : Nat → Prop) : Prop where
  colOk : ∀ j, j < n → ∀ i : Nat, cs j = (i : Int) → i < n ∧ rs i = (j : Int)
  rowOk : ∀ i, i < n → ¬ F i → ∃ j : Nat, j < n ∧ rs i = (j : Int) ∧ cs j = (i : Int)
  freeOk : ∀ i, F i → i < n ∧ ∀ j, j < n → cs j ≠ (i : Int)
  tight : ∀ j, j < n → ∀ i : Nat, cs j = (i : Int) → ∀ k, k < n → c i j - v j ≤ c i k - v k

theorem Inv.congrF {n : Nat} {c : Nat → Nat → ℝ} {rs cs : Nat → Int} {v : Nat → ℝ} {F G : Nat → Prop}
    (h : Inv n c rs cs v F) (hfg : ∀ i, i < n → (F i ↔ G i)) (hG : ∀ i, G i → i < n) : Inv n c rs cs v G where
  colOk := h.colOk
  rowOk := fun i hi hg => h.rowOk i hi (fun hf => hg ((hfg i hi).1 hf))
  freeOk := fun i hg => h.freeOk i ((hfg i (hG i hg)).2 hg)
  tight := h.tight

/-- `Inv` except at the columns in `H`, whose entry of `cs` is stale: the row it names has moved on -/
structure InvH (n : Nat) (c : Nat → Nat → ℝ) (rs cs : Nat → Int) (v : Nat → ℝ) (F H : Nat → Prop) : Prop where
  colOk : ∀ j, j < n → ¬ H j → ∀ i : Nat, cs j = (i : Int) → i < n ∧ rs i = (j : Int)
  rowOk : ∀ i, i < n → ¬ F i → ∃ j : Nat, j < n ∧ ¬ H j ∧ rs i = (j : Int) ∧ cs j = (i : Int)
  freeOk : ∀ i, F i → i < n ∧ ∀ j, j < n → ¬ H j → cs j ≠ (i : Int)
  tight : ∀ j, j < n → ¬ H j → ∀ i : Nat, cs j = (i : Int) → ∀ k, k < n → c i j - v j ≤ c i k - v k

theorem InvH.toInv {n : Nat} {c : Nat → Nat → ℝ} {rs cs : Nat → Int} {v : Nat → ℝ} {F H : Nat → Prop}
    (h : InvH n c rs cs v F H) (hH : ∀ j, ¬ H j) : Inv n c rs cs v F :=
  ⟨fun j hj => h.colOk j hj (hH j), fun i hi hf => (h.rowOk i hi hf).imp fun _ ⟨a, _, b, d⟩ => ⟨a, b, d⟩,
    fun i hf => ⟨(h.freeOk i hf).1, fun j hj => (h.freeOk i hf).2 j hj (hH j)⟩, fun j hj => h.tight j hj (hH j)⟩

theorem InvH.congr {n : Nat} {c : Nat → Nat → ℝ} {rs cs : Nat → Int} {v : Nat → ℝ} {F F' H H' : Nat → Prop}
    (h : InvH n c rs cs v F H) (hF : ∀ i, F i ↔ F' i) (hH : ∀ j, H j ↔ H' j) : InvH n c rs cs v F' H' := by
  rw [← funext fun i => propext (hF i), ← funext fun j => propext (hH j)]; exact h

/-- row `i` takes the stale column `e`; the column it held, if any, becomes the stale one -/
theorem InvH.take {n : Nat} {c : Nat → Nat → ℝ} {rs cs : Nat → Int} {v : Nat → ℝ} {F : Nat → Prop} {e i : Nat}
    (h : InvH n c rs cs v F (· = e)) (he : e < n) (hi : i < n)
    (ht : ∀ x, x < n → c i e - v e ≤ c i x - v x) :
    InvH n c (upd rs i (e : Int)) (upd cs e (i : Int)) v (fun x => F x ∧ x ≠ i) (fun j => ¬ F i ∧ rs i = (j : Int)) := by
  refine ⟨?_, ?_, ?_, ?_⟩
  · intro j hj hH i' hi'
    by_cases hje : j = e
    · subst hje
      rw [upd_same] at hi'
      have : i' = i := by omega
      subst this
      exact ⟨hi, upd_same _ _ _⟩
    · rw [upd_ne _ _ hje] at hi'
      obtain ⟨h1, h2⟩ := h.colOk j hj hje i' hi'
      -- `i` itself does not hold `j`: free it holds nothing, otherwise `j` would be the column it gives up
      have hne : i' ≠ i := by
        rintro rfl
        by_cases hf : F i'
        · exact (h.freeOk i' hf).2 j hj hje hi'
        · exact hH ⟨hf, h2⟩
      exact ⟨h1, (upd_ne _ _ hne).trans h2⟩
  · intro x hx hnf
    by_cases hxi : x = i
    · subst hxi
      refine ⟨e, he, fun hh => ?_, upd_same _ _ _, upd_same _ _ _⟩
      obtain ⟨j, _, hje, hrj, _⟩ := h.rowOk x hi hh.1
      exact hje (by have := hh.2; omega)
    · obtain ⟨j, hj, hje, h1, h2⟩ := h.rowOk x hx (fun hf => hnf ⟨hf, hxi⟩)
      refine ⟨j, hj, fun hh => ?_, (upd_ne _ _ hxi).trans h1, (upd_ne _ _ hje).trans h2⟩
      obtain ⟨j0, _, _, _, hc0⟩ := h.rowOk i hi hh.1
      have : j0 = j := by have := hh.2; omega
      subst this
      exact hxi (by omega)
  · rintro x ⟨hxF, hxi⟩
    refine ⟨(h.freeOk x hxF).1, fun j hj _ => ?_⟩
    by_cases hje : j = e
    · rw [hje, upd_same]; omega
    · rw [upd_ne _ _ hje]; exact (h.freeOk x hxF).2 j hj hje
  · intro j hj _ i' hi' x hx
    by_cases hje : j = e
    · subst hje
      rw [upd_same] at hi'
      have : i' = i := by omega
      subst this
      exact ht x hx
    · rw [upd_ne _ _ hje] at hi'
      exact h.tight j hj hje i' hi' x hx

/-- a column is declared stale: the row that holds it, if any, counts as free -/
theorem Inv.evict {n : Nat} {c : Nat → Nat → ℝ} {rs cs : Nat → Int} {v : Nat → ℝ} {F : Nat → Prop}
    (h : Inv n c rs cs v F) {j1 : Nat} (hj1 : j1 < n) :
    InvH n c rs cs v (fun x => F x ∨ cs j1 = (x : Int)) (· = j1) := by
  refine ⟨fun j hj _ => h.colOk j hj, fun x hx hnf => ?_, ?_, fun j hj _ => h.tight j hj⟩
  · obtain ⟨j, hj, h1, h2⟩ := h.rowOk x hx (fun hf => hnf (Or.inl hf))
    exact ⟨j, hj, fun e => hnf (Or.inr (e ▸ h2)), h1, h2⟩
  · rintro x (hx | hx)
    · exact ⟨(h.freeOk x hx).1, fun j hj _ => (h.freeOk x hx).2 j hj⟩
    · refine ⟨(h.colOk j1 hj1 x hx).1, fun j hj hne e => hne ?_⟩
      have := (h.colOk j hj x e).2
      have := (h.colOk j1 hj1 x hx).2
      omega

/-- prices may fall, at stale columns only: every other pair stays tight -/
theorem InvH.reprice {n : Nat} {c : Nat → Nat → ℝ} {rs cs : Nat → Int} {v : Nat → ℝ} {F H : Nat → Prop}
    (h : InvH n c rs cs v F H) (v' : Nat → ℝ) (hle : ∀ k, k < n → v' k ≤ v k) (heq : ∀ k, k < n → ¬ H k → v' k = v k) :
    InvH n c rs cs v' F H :=
  ⟨h.colOk, h.rowOk, h.freeOk, fun j hj hH i hi k hk => by
    rw [heq j hj hH]; linarith only [h.tight j hj hH i hi k hk, hle k hk]⟩

/-- a free row `i` takes column `j1` (from the row that holds it, if any), the price of `j1`
possibly lowered so that the new pair is tight -/
theorem Inv.assign {n : Nat} {c : Nat → Nat → ℝ} {rs cs : Nat → Int} {v : Nat → ℝ} {F : Nat → Prop}
    (h : Inv n c rs cs v F) {i j1 : Nat} (hF : F i) (hj1 : j1 < n) (v' : Nat → ℝ)
    (hle : ∀ k, k < n → v' k ≤ v k) (heq : ∀ k, k < n → k ≠ j1 → v' k = v k)
    (ht : ∀ k, k < n → c i j1 - v' j1 ≤ c i k - v' k) :
    Inv n c (upd rs i (j1 : Int)) (upd cs j1 (i : Int)) v' (fun x => (F x ∧ x ≠ i) ∨ cs j1 = (x : Int)) := by
  obtain ⟨hi, hfree⟩ := h.freeOk i hF
  refine ((((h.evict hj1).reprice v' hle heq).take hj1 hi ht).congr (fun x => ?_) (fun _ => Iff.rfl)).toInv
    (fun j hh => hh.1 (Or.inl hF))
  exact ⟨fun hx => hx.1.imp_left fun hf => ⟨hf, hx.2⟩,
    fun hx => ⟨hx.imp_left And.left, hx.elim And.right fun e ei => hfree j1 hj1 (ei ▸ e)⟩⟩

/-- when some row is free, some column is unassigned -/
theorem Inv.exists_unassigned {n : Nat} {c : Nat → Nat → ℝ} {rs cs : Nat → Int} {v : Nat → ℝ} {F : Nat → Prop}
    (h : Inv n c rs cs v F) {i : Nat} (hF : F i) : ∃ j, j < n ∧ cs j < 0 := by
  by_contra hno
  have hall : ∀ j, j < n → ∃ x : Nat, cs j = (x : Int) := by
    intro j hj
    have : ¬ cs j < 0 := fun hlt => hno ⟨j, hj, hlt⟩
    exact ⟨(cs j).toNat, by omega⟩
  let g : Nat → Nat := fun j => (cs j).toNat
  have hg : ∀ j, j < n → cs j = (g j : Int) := by
    intro j hj
    obtain ⟨x, hx⟩ := hall j hj
    simp only [g, hx]; simp
  have hsurj := inj_surj g (fun k hk => (h.colOk k hk (g k) (hg k hk)).1)
    (by
      intro a b ha hb hab
      have h1 := (h.colOk a ha (g a) (hg a ha)).2
      have h2 := (h.colOk b hb (g b) (hg b hb)).2
      rw [hab] at h1
      omega)
  obtain ⟨hi, hfree⟩ := h.freeOk i hF
  obtain ⟨k, hk, hgk⟩ := hsurj i hi
  exact hfree k hk (by rw [hg k hk, hgk])

/-- a list of rows given by its entries `free t` for the indices `t` in `I` -/
def FL (free : Nat → Nat) (I : Nat → Prop) : Nat → Prop := fun x => ∃ t, I t ∧ free t = x

/-- no row occurs twice -/
def InjOnI (free : Nat → Nat) (I : Nat → Prop) : Prop := ∀ t t', I t → I t' → free t = free t' → t = t'

end Bpp.Mx.Lap
