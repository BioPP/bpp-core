import BppProofs.Lemmas.Number
import BppProofs.Lemmas.Keyval
import BppModel.Text.DistText
/-! Helper lemmas for `Props/C17Dist.lean`: a numeral of the strict decimal grammar is a value the
procedure parser gives back untouched. -/
namespace Bpp.Text.DistText
open Bpp.Text Bpp.Text.Number Bpp.Text.Keyval

/-- a character that the procedure syntax does not interpret -/
def plain (c : Char) : Prop := c ≠ ',' ∧ c ≠ '(' ∧ c ≠ ')' ∧ c ≠ '=' ∧ isSpace c = false

theorem digit_plain {c : Char} (h : isDigit c = true) : plain c := by
  have hs : isSpace c = false := by
    cases hh : isSpace c with
    | false => rfl
    | true => rw [isSpace_not_digit hh] at h; cases h
  refine ⟨?_, ?_, ?_, ?_, hs⟩ <;> (intro e; subst e; revert h; decide)

theorem depthOk_plain (v : Str) (h : ∀ c ∈ v, plain c) : depthOk 0 v = true := by
  induction v with
  | nil => rfl
  | cons c r ih =>
    obtain ⟨h1, h2, h3, _, _⟩ := h c (by simp)
    have e1 : (c == ',') = false := by simpa using h1
    have e2 : delta c = 0 := by
      have a : (c == '(') = false := by simpa using h2
      have b : (c == ')') = false := by simpa using h3
      simp [delta, a, b]
    simp only [depthOk, e1, Bool.false_eq_true, if_false, e2, Int.add_zero]
    exact ih (fun c hc => h c (by simp [hc]))

theorem dropWhile_head_false {p : Char → Bool} (l : Str) (h : ∀ c, l.head? = some c → p c = false) :
    l.dropWhile p = l := by
  cases l with
  | nil => rfl
  | cons a r => simp [List.dropWhile, h a rfl]

theorem trim_plain (v : Str) (h : ∀ c ∈ v, plain c) : trim v = v := by
  unfold trim removeLastWS removeFirstWS
  rw [dropWhile_head_false v (fun c hc => (h c (List.mem_of_mem_head? hc)).2.2.2.2)]
  rw [dropWhile_head_false v.reverse (fun c hc => by
    have : c ∈ v.reverse := List.mem_of_mem_head? hc
    exact (h c (by simpa using this)).2.2.2.2)]
  simp

theorem valOk_plain (v : Str) (h : ∀ c ∈ v, plain c) : ValOk v = true := by
  simp [ValOk, depthOk_plain v h, trim_plain v h]

/-- a key with a non-empty value that the procedure syntax leaves alone is an argument it gives back -/
theorem pairOk_of {k v : Str} (hk : KeyOk k = true) (hv : ∀ c ∈ v, plain c) (hne : v ≠ []) :
    PairOk (k, v) = true := by
  obtain ⟨c, r, rfl⟩ := List.exists_cons_of_ne_nil hne
  simp [PairOk, hk, valOk_plain _ hv]

theorem render_plain (p : DecParts) (hwf : p.WF) : ∀ c ∈ p.render '.' 'e', plain c := by
  obtain ⟨h1, h2, _, _, h5⟩ := hwf
  intro c hc
  unfold DecParts.render at hc
  simp only [List.mem_append] at hc
  rcases hc with ((hc | hc) | hc) | hc
  · split at hc
    · simp only [List.mem_singleton] at hc; subst hc; unfold plain; decide
    · cases hc
  · exact digit_plain (h1 c hc)
  · split at hc
    · rcases List.mem_cons.mp hc with rfl | hc
      · unfold plain; decide
      · exact digit_plain (h2 c hc)
    · cases hc
  · cases hex : p.ex with
    | none => rw [hex] at hc; cases hc
    | some e =>
      obtain ⟨sg, ds⟩ := e
      rw [hex] at hc h5
      simp only at hc h5
      obtain ⟨hsg, hds, _⟩ := h5
      rcases List.mem_cons.mp hc with rfl | hc
      · unfold plain; decide
      · rcases List.mem_append.mp hc with hc | hc
        · rcases hsg with rfl | rfl | rfl
          · cases hc
          · simp at hc; subst hc; unfold plain; decide
          · simp at hc; subst hc; unfold plain; decide
        · exact digit_plain (hds c hc)

theorem render_ne_nil (p : DecParts) (hwf : p.WF) : p.render '.' 'e' ≠ [] := by
  obtain ⟨_, _, h3, h4, _⟩ := hwf
  unfold DecParts.render
  rcases h3 with h | h
  · cases hip : p.ip with
    | nil => exact absurd hip h
    | cons a r => cases p.neg <;> simp
  · have : p.hasDec = true := by
      cases hd : p.hasDec with
      | true => rfl
      | false => exact absurd (h4 hd) h
    cases p.neg <;> simp [this]

end Bpp.Text.DistText
