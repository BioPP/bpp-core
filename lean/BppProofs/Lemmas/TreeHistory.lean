import BppProofs.Props.C14
import BppProofs.Lemmas.ObserverWorld
import BppProofs.Lemmas.GraphOrient
import BppProofs.Lemmas.TreeRootAtU
/-
Every history of operations of the tree container leaves consistent graph tables (C14) and no
pending notification.
-/
namespace Bpp.Graph
open AL

/-- consistent tables, nothing pending -/
def TInv (t : T) : Prop := Consistent t.g ∧ t.g.pending = []

namespace T

theorem tinv_empty (d : Bool) : TInv (T.empty d) := by
  have h := Bpp.C14.consistent_empty d
  exact ⟨h, rfl⟩

theorem tinv_orientate (t : T) (h : TInv t) : TInv t.orientate.2 := by
  rw [TInv, orientate_snd, lift_g]
  exact ⟨consistent_quiet (G.orientate_consistent h.1).state, rfl⟩

/-- every member of the container: its graph operations keep the tables consistent (C14) and are followed by
the delivery of the notifications -/
theorem tinv_step (t : T) (h : TInv t) (op : TOp) : TInv (t.step op) :=
  T.step_ind TInv
    (fun t o h => by rw [TInv, lift_g]; exact ⟨consistent_quiet (Bpp.C14.consistent_step t.g h.1 o), rfl⟩)
    (fun _ h => h) (fun t h => by rw [TInv, isValid_g]; exact h)
    (fun t h => ⟨(makeDirected_shape t h.1 h.2).1, (makeDirected_shape t h.1 h.2).2.pending⟩) tinv_orientate t h op

theorem tinv_run (ops : List TOp) : ∀ t : T, TInv t → TInv (t.run ops) :=
  T.run_ind TInv (fun t op h => tinv_step t h op) ops

end T
end Bpp.Graph
