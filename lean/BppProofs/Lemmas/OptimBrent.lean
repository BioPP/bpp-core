import BppProofs.Lemmas.OptimGolden
/-!
Helper lemmas for C10: `BrentOneDimension`.  What `doInit`, `doStep` and `optimize` do (for every scalar
type and every function object), then, over `ℝ`, for a function object whose evaluation step is
deterministic (`Det I g J`), the invariant of the method.
-/
set_option linter.unusedSectionVars false
namespace Bpp.Optim
open Bpp

variable {F : Type} {J : F → PList ℝ → Prop}

theorem brentPropose_keeps (t : ℝ) (g : Brent ℝ) :
    (brentPropose t g).1.x = g.x ∧ (brentPropose t g).1.fx = g.fx ∧
    (brentPropose t g).1.xinf = g.xinf ∧ (brentPropose t g).1.xsup = g.xsup := by
  unfold brentPropose; exact ⟨rfl, rfl, rfl, rfl⟩

theorem brentUpdate_best (g : Brent ℝ) (u fu : ℝ) :
    ((brentUpdate g u fu).x = u ∧ (brentUpdate g u fu).fx = fu ∧ fu ≤ g.fx) ∨
    ((brentUpdate g u fu).x = g.x ∧ (brentUpdate g u fu).fx = g.fx) := by
  unfold brentUpdate
  by_cases h : fu ≤ g.fx
  · rw [if_pos ((ScalarReal.leb_iff _ _).2 h)]
    exact Or.inl ⟨rfl, rfl, h⟩
  · rw [if_neg (fun c => h ((ScalarReal.leb_iff _ _).1 c))]
    right
    dsimp only
    split
    · split
      · exact ⟨rfl, rfl⟩
      · split <;> exact ⟨rfl, rfl⟩
    · split
      · exact ⟨rfl, rfl⟩
      · split <;> exact ⟨rfl, rfl⟩

/-- the invariant of Brent's method: the best value is the function at the best abscissa, which is
what the optimiser's parameter holds -/
structure Brent.Inv (g : ℝ → ℝ) (J : F → PList ℝ → Prop) (m : ℝ) (s : St F (Brent ℝ) ℝ) : Prop where
  fx : s.ext.fx = g s.ext.x
  j : J s.fn s.core.params
  held : ∃ y, value0 s.core.params = some y ∧ g y = g s.ext.x
  m : s.ext.fx ≤ m

theorem Brent.Inv.congr {g : ℝ → ℝ} {m : ℝ} {s t : St F (Brent ℝ) ℝ} (h : Brent.Inv g J m s)
    (he : t.ext = s.ext) (hf : t.fn = s.fn) (hp : t.core.params = s.core.params) : Brent.Inv g J m t :=
  ⟨by rw [he]; exact h.fx, by rw [hf, hp]; exact h.j, by rw [hp, he]; exact h.held, by rw [he]; exact h.m⟩

theorem brentDoStep_spec (I : FunI F ℝ) (g : ℝ → ℝ) (hd : Det I g J) (m : ℝ) (s s' : St F (Brent ℝ) ℝ) (v : ℝ)
    (hi : Brent.Inv g J m s) (h : brentDoStep I s = .ok (s', v)) : Brent.Inv g J m s' := by
  obtain ⟨g1, u, pl, fn, fu, pl', hpr, hset, hf, hset2, rfl, -⟩ := brentDoStep_ok h
  have hk := brentPropose_keeps s.core.tolerance s.ext
  rw [hpr] at hk
  obtain ⟨hfu, hJ1⟩ := hd.eval _ _ _ _ _ _ hi.j (eval0_ok.2 ⟨hset, hf⟩)
  obtain ⟨hJ3, hheld⟩ := hd.setJ _ _ _ _ (hd.mix _ _ _ _ hi.j hJ1) hset2
  rcases brentUpdate_best g1 u fu with ⟨hx, hfx, hle⟩ | ⟨hx, hfx⟩
  · exact ⟨by show (brentUpdate g1 u fu).fx = g (brentUpdate g1 u fu).x; rw [hx, hfx]; exact hfu, hJ3, hheld,
      by show (brentUpdate g1 u fu).fx ≤ m; rw [hfx]; exact le_trans (hk.2.1 ▸ hle) hi.m⟩
  · exact ⟨by show (brentUpdate g1 u fu).fx = g (brentUpdate g1 u fu).x; rw [hx, hfx, hk.1, hk.2.1]; exact hi.fx, hJ3, hheld,
      by show (brentUpdate g1 u fu).fx ≤ m; rw [hfx, hk.2.1]; exact hi.m⟩

/-- `BrentOneDimension::optimize` from a state that satisfies the invariant -/
theorem brentOptimize_spec (I : FunI F ℝ) (g : ℝ → ℝ) (hd : Det I g J) (fuel : Nat) (m : ℝ) (s s2 : St F (Brent ℝ) ℝ) (v : ℝ)
    (hi : Brent.Inv g J m s) (h : brentOptimize I fuel s = .ok (s2, v)) :
    v ≤ m ∧ s2.core.cur = v ∧ ∃ x, v = g x ∧ value0 s2.core.params = some x ∧ J s2.fn s2.core.params := by
  obtain ⟨sL, w, fn, ho, hf, rfl⟩ := brentOptimize_ok h
  obtain ⟨hL, -⟩ := optimize_invariant (brentAlgo I fuel) (Brent.Inv g J m)
    (fun u u' w hu hdo => (brentDoStep_spec I g hd m u u' w hu hdo).congr rfl rfl rfl)
    (fun u hu => by show Brent.Inv g J m (brentStop u).1; rw [brentStop_fst]; exact hu.congr rfl rfl rfl)
    (fun u n t hu => hu.congr rfl rfl rfl) hi ho
  obtain ⟨y, hy, hgy⟩ := hL.held
  obtain ⟨hv, hJ2⟩ := hd.direct _ _ _ _ _ hL.j hy hf
  exact ⟨by rw [hv, hgy, ← hL.fx]; exact hL.m, rfl, y, hv, hy, hJ2⟩

/-- `BrentOneDimension::doInit` -/
theorem brentDoInit_spec (I : FunI F ℝ) (g : ℝ → ℝ) (hd : Det I g J) (fuel : Nat) (s s1 : St F (Brent ℝ) ℝ)
    (params : PList ℝ) (x0 : ℝ) (h : brentDoInit I fuel s params = .ok s1) (hJ : J s.fn s.core.params)
    (hx0 : value0 s.core.params = some x0) :
    Brent.Inv g J (min (g x0) (min (g s.ext.xinf) (g s.ext.xsup))) s1 := by
  obtain ⟨fnb, k, fn, fx0, x, sf, hb, hf, hor, rfl⟩ := brentDoInit_ok h
  -- the bracket: its middle value is below the function at both ends of the initial interval
  have hbr : k.b.f = g k.b.x ∧ k.b.f ≤ min (g s.ext.xinf) (g s.ext.xsup) ∧ ∃ pl', J fnb pl' := by
    cases hin : s.ext.inward with
    | true =>
      rw [hin, if_pos rfl] at hb
      have hi := inward_spec I g hd fuel s.ext.xinf s.ext.xsup 10 s.fn s.core.params hJ
      rw [hb] at hi
      obtain ⟨h1, h2, h3, h4, h5, h6, h7, h8⟩ := hi
      exact ⟨h4, le_min (by rw [← h1, ← h3]; exact h6) (by rw [← h2, ← h5]; exact h7), h8⟩
    | false =>
      rw [hin, if_neg Bool.false_ne_true] at hb
      have ho := outward_spec I g hd fuel s.ext.xinf s.ext.xsup s.fn s.core.params hJ
      rw [hb] at ho
      obtain ⟨hk, -, h8⟩ := ho
      exact ⟨hk.b, hk.bm, h8⟩
  obtain ⟨hkb, hkm, pl', hJb⟩ := hbr
  obtain ⟨hfx0, hJ1⟩ := hd.direct _ _ _ _ _ (hd.mix _ _ _ _ hJ hJb) hx0 hf
  rcases hor with ⟨hlt, hx, rfl⟩ | ⟨hlt, rfl, he⟩
  · -- the initial guess is kept
    obtain rfl : x0 = x := Option.some.inj (hx0.symm.trans hx)
    exact ⟨hfx0, hJ1, ⟨x0, hx0, rfl⟩, le_min hfx0.le (((ScalarReal.ltb_iff _ _).1 hlt).le.trans hkm)⟩
  · have hge : k.b.f ≤ fx0 := not_lt.1 (fun c => Bool.false_ne_true (hlt ▸ (ScalarReal.ltb_iff _ _).2 c))
    obtain ⟨sa, fxb⟩ := sf
    obtain ⟨hv, hJ2, -, hst, -⟩ := evalOwn_spec I g hd _ _ _ _ he hJ1
    have hfb : fxb = k.b.f := hv.trans hkb.symm
    exact ⟨hv, hJ2, hst, le_min (by rw [hfb, ← hfx0]; exact hge) (by rw [hfb]; exact hkm)⟩

/-- `AbstractOptimizer::init` for Brent's method -/
theorem brentInit_spec (I : FunI F ℝ) (g : ℝ → ℝ) (hd : Det I g J) (fuel : Nat) (s s1 : St F (Brent ℝ) ℝ)
    (params : PList ℝ) (x0 : ℝ) (h : (brentAlgo I fuel).init s params = .ok s1)
    (hJ : J s.fn (applyPolicy s.core.policy params)) (hx0 : value0 (applyPolicy s.core.policy params) = some x0) :
    Brent.Inv g J (min (g x0) (min (g s.ext.xinf) (g s.ext.xsup))) s1 := by
  obtain ⟨sa, hdi, rfl⟩ := init_ok h
  exact (brentDoInit_spec I g hd fuel _ _ params x0 hdi hJ hx0).congr rfl rfl rfl

end Bpp.Optim
