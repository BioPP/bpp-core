import BppModel.ParamShared
import BppProofs.Lemmas.Param
/-!
Helper lemmas for the pointer model of `Parameter` (BppModel/ParamShared.lean): well-formedness of
the heap, the simulation of the by-value model, what an in-place mutation does to the views.
-/
namespace Bpp
open ScalarReal

namespace SWorld

/-- cells at or above `size` are free, and every pointer held by a parameter is live -/
def WF (w : SWorld ℝ) : Prop :=
  (∀ i, w.size ≤ i → w.heap i = none) ∧ (∀ k p, w.ps k = some p → w.validRef p.cref = true)

theorem wf_empty : (SWorld.empty : SWorld ℝ).WF := by
  refine ⟨fun _ _ => rfl, ?_⟩
  intro k p h; cases h

@[simp] theorem view_setP (w : SWorld ℝ) (k : Nat) (p q : SParam ℝ) : (w.setP k p).view q = w.view q := rfl

theorem viewStore_setP (w : SWorld ℝ) (k : Nat) (p : SParam ℝ) :
    (w.setP k p).viewStore = w.viewStore.set k (w.view p) := by
  funext i
  have hv : (w.setP k p).view = w.view := rfl
  unfold viewStore PStore.set
  rw [hv]
  by_cases h : i = k <;> simp [setP, h]

theorem viewStore_apply (w : SWorld ℝ) (k : Nat) : w.viewStore k = (w.ps k).map w.view := rfl

/-- a statement about every object of the view store is a statement about the view of every parameter -/
theorem forall_viewStore {w : SWorld ℝ} {G : Nat → Param ℝ → Prop} :
    (∀ k q, w.viewStore k = some q → G k q) ↔ ∀ k p, w.ps k = some p → G k (w.view p) := by
  refine forall_congr' fun k => ?_
  rw [viewStore_apply]
  cases w.ps k with
  | none => exact ⟨fun _ _ e => (nomatch e), fun _ _ e => (nomatch e)⟩
  | some p => exact ⟨fun h _ e => by cases e; exact h _ rfl, fun h _ e => by cases e; exact h p rfl⟩

/-- two worlds whose heaps agree on the cell a parameter points to give the same view -/
theorem view_congr {w w' : SWorld ℝ} (p : SParam ℝ) (h : ∀ a, p.cref = some a → w'.heap a = w.heap a) :
    w'.view p = w.view p := by
  unfold view deref
  cases hc : p.cref with
  | none => rfl
  | some a => simp [Option.bind, h a hc]

theorem wf_setP {w : SWorld ℝ} (hw : w.WF) (k : Nat) (p : SParam ℝ) (hp : w.validRef p.cref = true) : (w.setP k p).WF := by
  refine ⟨hw.1, ?_⟩
  intro i q hq
  unfold setP at hq
  simp only at hq
  split_ifs at hq
  · cases hq; exact hp
  · exact hw.2 i q hq

end SWorld

namespace SOp
open SWorld

/-- The answer of the pointer model to a call on a parameter (target register `k`; `live`: every address
it names is live), beside the answer of the by-value model to the same call on the views.  A call
naming a dangling address is `absent` (it has no by-value counterpart); otherwise both do nothing,
with the same outcome, or both write register `k` — the pointer model an object whose view is what
the by-value model writes, and whose pointer is live in a well-formed world. -/
inductive Lockstep (w : SWorld ℝ) (k : Nat) (live : Bool) : SWorld ℝ × POutcome → PStore ℝ × POutcome → Prop
  | dangling {r : PStore ℝ × POutcome} : live = false → Lockstep w k live (w, .absent) r
  | skip {o : POutcome} : o ≠ .done → Lockstep w k live (w, o) (w.viewStore, o)
  | write {q : SParam ℝ} : live = true → (w.WF → w.validRef q.cref = true) →
      Lockstep w k live (w.setP k q, .done) (w.viewStore.set k (w.view q), .done)

theorem step_cases (w : SWorld ℝ) (op : SOp ℝ) (e : POp ℝ) (he : op.erase w = some e) :
    Lockstep w e.target (op.refsOk w) (step w op) (POp.step w.viewStore e) := by
  cases op with
  | alloc c => cases he
  | mutate a m => cases he
  | construct k a v r prec =>
    cases he
    simp only [refsOk, step, POp.step]
    cases hr : w.validRef r with
    | false => exact .dangling rfl
    | true =>
      simp only [Bool.not_true, Bool.false_eq_true, if_false]
      cases hres : Param.construct v (w.deref r) prec a with
      | error e' => exact .skip nofun
      | ok q =>
        obtain ⟨rfl, -⟩ := Param.construct_eq hres
        exact .write rfl fun _ => hr
  | setValue k v =>
    cases he
    dsimp only [refsOk, step, POp.step, viewStore_apply]
    cases hs : w.ps k with
    | none => exact .skip nofun
    | some p =>
      simp only [Option.map]
      cases hres : (w.view p).setValue v with
      | error e' => exact .skip nofun
      | ok q =>
        -- the setter leaves the constraint alone, so `q` is the view of what is written back
        obtain ⟨x, hx⟩ := Param.setValue_from_svb hres
        obtain ⟨qv, qp, qc, qa⟩ := q
        obtain rfl : qc = w.deref p.cref := (Param.svb_fields hx).1
        exact .write rfl fun hw => hw.2 k p hs
  | setConstraint k r =>
    cases he
    simp only [refsOk, step, POp.step, viewStore_apply]
    cases hr : w.validRef r with
    | false => exact .dangling rfl
    | true =>
      simp only [Bool.not_true, Bool.false_eq_true, if_false]
      cases hs : w.ps k with
      | none => exact .skip nofun
      | some p =>
        simp only [Option.map]
        cases hres : (w.view p).setConstraint (w.deref r) with
        | error e' => exact .skip nofun
        | ok q =>
          obtain ⟨rfl, -⟩ := Param.setConstraint_ok hres
          exact .write rfl fun _ => hr
  | assign s d =>
    cases he
    dsimp only [refsOk, step, POp.step, viewStore_apply]
    cases hs : w.ps s with
    | none => exact .skip nofun
    | some p =>
      cases hd : w.ps d with
      | none => exact .skip nofun
      | some q => exact .write rfl fun hw => hw.2 s p hs
  | removeConstraint s =>
    cases he
    dsimp only [refsOk, step, POp.step, viewStore_apply]
    cases hs : w.ps s with
    | none => exact .skip nofun
    | some p => exact .write rfl fun _ => rfl
  -- the other calls read one register and write (a variant of) its content, pointer included, into one
  | copy s d | toAuto s d | toPlain s d | setPrecision s x =>
    cases he
    dsimp only [refsOk, step, POp.step, viewStore_apply]
    cases hs : w.ps s with
    | none => exact .skip nofun
    | some p => exact .write rfl fun hw => hw.2 s p hs

/-- **simulation**: a call on a parameter does to the views exactly what the by-value call does to
them (same outcome, same new store), and leaves the heap alone -/
theorem sim_step (w : SWorld ℝ) (op : SOp ℝ) (e : POp ℝ) (he : op.erase w = some e) (hr : op.refsOk w = true) :
    (SOp.step w op).1.viewStore = (POp.step w.viewStore e).1 ∧ (SOp.step w op).2 = (POp.step w.viewStore e).2 ∧
    (SOp.step w op).1.heap = w.heap := by
  have h := step_cases w op e he
  generalize SOp.step w op = r, POp.step w.viewStore e = r' at h ⊢
  cases h with
  | dangling h => cases hr.symm.trans h
  | skip => exact ⟨rfl, rfl, rfl⟩
  | write => exact ⟨viewStore_setP .., rfl, rfl⟩

/-- a new constraint object changes no parameter's view -/
theorem alloc_viewStore (w : SWorld ℝ) (hw : w.WF) (c : Interval ℝ) :
    (SOp.step w (.alloc c)).1.viewStore = w.viewStore := by
  funext k
  simp only [SOp.step, viewStore_apply]
  cases hs : w.ps k with
  | none => rfl
  | some p =>
    simp only [Option.map]
    congr 1
    apply view_congr
    intro a ha
    have hv := hw.2 k p hs
    rw [ha] at hv
    simp only [validRef] at hv
    have : a ≠ w.size := by
      intro h; rw [h, hw.1 w.size (le_refl _)] at hv; cases hv
    simp [this]

/-- well-formedness is kept by every call -/
theorem wf_step (w : SWorld ℝ) (hw : w.WF) (op : SOp ℝ) : (SOp.step w op).1.WF := by
  -- a heap cell that is written was or becomes live, so every pointer stays valid
  have live : ∀ (a : CRef) (c : Interval ℝ) sz, (∀ i, sz ≤ i → w.size ≤ i ∧ i ≠ a) →
      ({ w with heap := fun i => if i = a then some c else w.heap i, size := sz } : SWorld ℝ).WF := by
    intro a c sz h2
    refine ⟨fun i hi => ?_, fun k p hp => ?_⟩
    · simp only [if_neg (h2 i hi).2]
      exact hw.1 i (h2 i hi).1
    · have hv := hw.2 k p hp
      unfold validRef at hv ⊢
      cases hc : p.cref with
      | none => rfl
      | some b =>
        rw [hc] at hv
        by_cases h : b = a
        · simp [h]
        · simp [h, hv]
  cases he : op.erase w with
  | some e =>
    have h := step_cases w op e he
    generalize SOp.step w op = r, POp.step w.viewStore e = r' at h ⊢
    cases h with
    | dangling => exact hw
    | skip => exact hw
    | write _ hq => exact wf_setP hw _ _ (hq hw)
  | none =>
    cases op with
    | alloc c => exact live _ c _ fun i hi => ⟨by omega, by omega⟩
    | mutate a m =>
      simp only [SOp.step]
      cases ha : w.heap a with
      | none => exact hw
      | some c =>
        exact live a _ _ fun i hi => ⟨hi, fun h => by rw [h] at hi; rw [hw.1 a hi] at ha; cases ha⟩
    | _ => cases he

/-- what an in-place mutation of the object at `a` does to a parameter's view: nothing if the
parameter points elsewhere, the new interval if it points to `a` -/
theorem mutate_view (w : SWorld ℝ) (a : CRef) (m : CMut ℝ) (c : Interval ℝ) (hc : w.heap a = some c) (p : SParam ℝ) :
    (SOp.step w (.mutate a m)).1.view p =
      if p.cref = some a then { w.view p with constraint := some (m.apply c) } else w.view p := by
  simp only [SOp.step, hc]
  unfold view deref
  cases hp : p.cref with
  | none => simp
  | some b =>
    by_cases h : b = a
    · subst h; simp [Option.bind]
    · simp [Option.bind, h]

theorem mutate_ps (w : SWorld ℝ) (a : CRef) (m : CMut ℝ) : (SOp.step w (.mutate a m)).1.ps = w.ps := by
  simp only [SOp.step]
  cases w.heap a <;> rfl

end SOp
end Bpp
