import BppProofs.Lemmas.OptimCoord
/-!
Helper lemmas for C10: `DownhillSimplexMethod` on the objective of the harness, over `ℝ`.

Every list the method evaluates the function at (the optimiser's parameters, the vertices, the trial
point, the sums / midpoints) carries the names `ns` of the list given to `init`, so every evaluation
computes `obj (matchPoint pt0 ·)` where `pt0` is the point the function was at when `init` was called
(`Off`: the function never moves off `ns`).  The vertex values `y` are exact (`Exact`), the best vertex
is an argmin of `y` (`rank_argmin`), a trial replaces a vertex only by a strictly better point, the
contraction does not touch the best vertex: the value a step returns is not above any vertex value the
step began with.
-/
set_option linter.unusedSectionVars false
namespace Bpp.Optim
open Bpp

/-! ### `setAll` -/

theorem setAll_names : ∀ (pl : PList ℝ) (vs : List ℝ) (pl' : PList ℝ), setAll pl vs = .ok pl' → names pl' = names pl := by
  intro pl
  induction pl with
  | nil => intro vs pl' h; rw [setAll] at h; simp only [Except.ok.injEq] at h; subst h; rfl
  | cons q r ih =>
    intro vs pl' h
    cases vs with
    | nil => rw [setAll] at h; simp only [Except.ok.injEq] at h; subst h; rfl
    | cons v vs =>
      rw [setAll] at h
      split at h
      · cases h
      · rename_i p' hs
        split at h
        · cases h
        · rename_i r' hr
          cases h
          rw [names_cons, names_cons, ih vs r' hr]

/-- values every parameter accepts are stored as they are -/
theorem setAll_values {pl : PList ℝ} {vs : List ℝ} (hacc : List.Forall₂ (fun (q : NP ℝ) (v : ℝ) => q.p.accepts v = true) pl vs) :
    ∀ (pl' : PList ℝ), Good pl → setAll pl vs = .ok pl' → values pl' = vs := by
  induction hacc with
  | nil => intro pl' _ h; rw [setAll] at h; simp only [Except.ok.injEq] at h; subst h; rfl
  | @cons q v r vs hqv _ ih =>
    intro pl' hg h
    have hgr : Good r := hg.tail
    rw [setAll, setValue_accepted q.p v (hg q (List.mem_cons_self ..)).1 (hg q (List.mem_cons_self ..)).2 hqv] at h
    simp only [] at h
    split at h
    · cases h
    · rename_i r' hr
      cases h
      show (reval q.p v).value :: values r' = v :: vs
      rw [ih r' hgr hr]; rfl

/-- two lists that are both `Like` a third: each accepts the values of the other -/
theorem Like.accepts_values {P a b : PList ℝ} (ha : Like P a) (hb : Like P b) :
    List.Forall₂ (fun (q : NP ℝ) (v : ℝ) => q.p.accepts v = true) a (values b) := by
  induction ha generalizing b with
  | nil => cases hb; exact List.Forall₂.nil
  | cons hxa _ ih =>
    cases hb with
    | cons hxb hr =>
      obtain ⟨_, w1, e1, _⟩ := hxa
      obtain ⟨_, w2, e2, a2⟩ := hxb
      refine List.Forall₂.cons ?_ (ih hr)
      simp only [e1, e2, reval_accepts, reval_value]; exact a2

/-- only names and values are read by `matchPoint` -/
theorem matchPoint_nv (pt : List ℝ) : ∀ (a b : PList ℝ), names a = names b → values a = values b →
    matchPoint pt a = matchPoint pt b := by
  intro a b hn hv
  apply matchPoint_values
  induction a generalizing b with
  | nil => cases b with
    | nil => rfl
    | cons _ _ => cases hn
  | cons q r ih =>
    cases b with
    | nil => cases hn
    | cons q' r' =>
      simp only [names_cons, List.cons.injEq] at hn
      simp only [values, List.map_cons, List.cons.injEq] at hv
      simp only [List.map_cons, List.cons.injEq, Prod.mk.injEq]
      exact ⟨⟨hn.1, hv.1⟩, ih r' hn.2 hv.2⟩

theorem names_length (pl : PList ℝ) : (names pl).length = pl.length := by unfold names; rw [List.length_map]
theorem values_length (pl : PList ℝ) : (values pl).length = pl.length := by unfold values; rw [List.length_map]

/-! ### lists without constraints (the sums) -/

/-- precision 0, no constraint -/
def Free (pl : PList ℝ) : Prop := ∀ q ∈ pl, q.p.precision = 0 ∧ q.p.constraint = none

theorem Free.good {pl : PList ℝ} (h : Free pl) : Good pl := by
  intro q hq
  exact ⟨(h q hq).1, Param.accepts_none (h q hq).2 _⟩

theorem Free.of_like {a b : PList ℝ} (h : Like a b) (hf : Free a) : Free b := by
  intro y hy
  obtain ⟨x, hx, _, w, e, _⟩ := h.mem_right hy
  rw [e]; exact hf x hx

theorem Free.accepts {pl : PList ℝ} (hf : Free pl) : ∀ (vs : List ℝ), vs.length = pl.length →
    List.Forall₂ (fun (q : NP ℝ) (v : ℝ) => q.p.accepts v = true) pl vs := by
  induction pl with
  | nil => intro vs hl; cases vs with
    | nil => exact List.Forall₂.nil
    | cons _ _ => cases hl
  | cons q r ih =>
    intro vs hl
    cases vs with
    | nil => cases hl
    | cons v vs =>
      exact List.Forall₂.cons (Param.accepts_none (hf q (List.mem_cons_self ..)).2 v)
        (ih (fun q' hq' => hf q' (List.mem_cons_of_mem _ hq')) vs (by simpa using hl))

/-- `setAll` on the sums -/
theorem setAll_free (pl pl' : PList ℝ) (vs : List ℝ) (hf : Free pl) (h : setAll pl vs = .ok pl') :
    Free pl' ∧ names pl' = names pl ∧ (vs.length = pl.length → values pl' = vs) :=
  ⟨Free.of_like (setAll_like pl vs pl' hf.good.feas h) hf, setAll_names pl vs pl' h,
   fun hl => setAll_values (hf.accepts vs hl) pl' hf.good h⟩

/-- every parameter of the list has precision 0 -/
def Prec0 (pl : PList ℝ) : Prop := ∀ q ∈ pl, q.p.precision = 0

theorem Prec0.of_like {a b : PList ℝ} (hp : Prec0 a) (h : Like a b) : Prec0 b := by
  intro y hy
  obtain ⟨x, hx, _, w, e, _⟩ := h.mem_right hy
  rw [e]; exact hp x hx

/-! ### convexity of an interval constraint -/

theorem Interval.isCorrect_mid (c : Interval ℝ) (a b : ℝ) (ha : c.isCorrect a = true) (hb : c.isCorrect b = true) :
    c.isCorrect (1 / 2 * (a + b)) = true := by
  rw [Interval.isCorrect_iff_bounds'] at ha hb ⊢
  obtain ⟨ha1, ha2⟩ := ha
  obtain ⟨hb1, hb2⟩ := hb
  constructor
  · cases hlo : c.lo with
    | negInf =>
      rw [hlo] at ha1
      split
      · exact bot_le
      · exact EReal.bot_lt_coe _
    | posInf =>
      rw [hlo] at ha1
      exfalso
      split at ha1
      · simp only [Bound.toEReal_posInf, top_le_iff] at ha1; exact EReal.coe_ne_top _ ha1
      · simp only [Bound.toEReal_posInf] at ha1; exact not_top_lt ha1
    | fin l =>
      rw [hlo] at ha1 hb1
      simp only [Bound.toEReal_fin] at ha1 hb1 ⊢
      split at ha1
      · rename_i hi; rw [if_pos hi] at hb1 ⊢
        rw [EReal.coe_le_coe_iff] at ha1 hb1 ⊢; linarith
      · rename_i hi; rw [if_neg hi] at hb1 ⊢
        rw [EReal.coe_lt_coe_iff] at ha1 hb1 ⊢; linarith
  · cases hhi : c.hi with
    | posInf =>
      split
      · exact le_top
      · exact EReal.coe_lt_top _
    | negInf =>
      rw [hhi] at ha2
      exfalso
      split at ha2
      · simp only [Bound.toEReal_negInf, le_bot_iff] at ha2; exact EReal.coe_ne_bot _ ha2
      · simp only [Bound.toEReal_negInf] at ha2; exact not_lt_bot ha2
    | fin l =>
      rw [hhi] at ha2 hb2
      simp only [Bound.toEReal_fin] at ha2 hb2 ⊢
      split at ha2
      · rename_i hi; rw [if_pos hi] at hb2 ⊢
        rw [EReal.coe_le_coe_iff] at ha2 hb2 ⊢; linarith
      · rename_i hi; rw [if_neg hi] at hb2 ⊢
        rw [EReal.coe_lt_coe_iff] at ha2 hb2 ⊢; linarith

theorem accepts_mid (p : Param ℝ) (a b : ℝ) (ha : p.accepts a = true) (hb : p.accepts b = true) :
    p.accepts (1 / 2 * (a + b)) = true := by
  unfold Param.accepts at ha hb ⊢
  cases hc : p.constraint with
  | none => rfl
  | some c => rw [hc] at ha hb; exact Interval.isCorrect_mid c a b ha hb

/-- the midpoints of two lists `Like` a third are accepted by either -/
theorem Like.accepts_mids {P a b : PList ℝ} (ha : Like P a) (hb : Like P b) :
    List.Forall₂ (fun (q : NP ℝ) (v : ℝ) => q.p.accepts v = true) a
      (((values a).zip (values b)).map (fun ab => Scalar.ofRat 1 2 * (ab.1 + ab.2))) := by
  induction ha generalizing b with
  | nil => cases hb; exact List.Forall₂.nil
  | cons hxa _ ih =>
    cases hb with
    | cons hxb hr =>
      obtain ⟨_, w1, e1, a1⟩ := hxa
      obtain ⟨_, w2, e2, a2⟩ := hxb
      refine List.Forall₂.cons ?_ (ih hr)
      simp only [e1, e2, reval_accepts, reval_value, ScalarReal.ofRat_eq]
      have := accepts_mid _ w1 w2 a1 a2
      norm_num at this ⊢
      exact this

/-! ### evaluations -/

/-- an evaluation at a list named `ns`: the value is `obj (matchPoint pt0 ·)` whatever the function
held on `ns` -/
theorem eval_off (obj : List ℝ → ℝ) (D : Deriv ℝ) (cap : Option Nat) (pt0 : List ℝ) (ns : List Nat)
    (fn fn' : Fn ℝ) (pl : PList ℝ) (v : ℝ) (hoff : Off pt0 ns fn) (hn : names pl = ns)
    (h : (Fn.iface obj D cap).f fn pl = .ok (fn', v)) :
    fn'.point = matchPoint pt0 pl ∧ v = obj (matchPoint pt0 pl) ∧ Off pt0 ns fn' := by
  obtain ⟨hp, hv, _⟩ := iface_f_point obj D cap _ _ _ _ h
  have e : fn'.point = matchPoint pt0 pl := by
    rw [hp]; exact matchPoint_congr pl _ _ hoff.1 (fun i hi => hoff.2 i (by rw [← hn]; exact hi))
  refine ⟨e, by rw [hv, e], by rw [e, matchPoint_length], ?_⟩
  intro i hi
  rw [e]; exact matchPoint_frame pl pt0 i (by rw [hn]; exact hi)

/-- the vertex values are the objective at the vertices -/
def Exact (obj : List ℝ → ℝ) (pt0 : List ℝ) (sx : List (PList ℝ)) (y : List ℝ) : Prop :=
  sx.length = y.length ∧ ∀ (i : Nat) (v : PList ℝ) (yi : ℝ), sx[i]? = some v → y[i]? = some yi → yi = obj (matchPoint pt0 v)

theorem Exact.nil (obj : List ℝ → ℝ) (pt0 : List ℝ) : Exact obj pt0 [] [] :=
  ⟨rfl, fun i v yi h => by simp at h⟩

theorem Exact.snoc {obj : List ℝ → ℝ} {pt0 : List ℝ} {sx : List (PList ℝ)} {y : List ℝ} (h : Exact obj pt0 sx y)
    (v : PList ℝ) (yv : ℝ) (hv : yv = obj (matchPoint pt0 v)) : Exact obj pt0 (sx ++ [v]) (y ++ [yv]) := by
  refine ⟨by rw [List.length_append, List.length_append, h.1]; rfl, ?_⟩
  intro i w yi h1 h2
  by_cases hi : i < sx.length
  · rw [List.getElem?_append_left hi] at h1
    rw [List.getElem?_append_left (by rw [← h.1]; exact hi)] at h2
    exact h.2 i w yi h1 h2
  · rw [List.getElem?_append_right (not_lt.1 hi)] at h1
    rw [List.getElem?_append_right (by rw [← h.1]; exact not_lt.1 hi)] at h2
    rw [← h.1] at h2
    cases hk : i - sx.length with
    | zero =>
      rw [hk] at h1 h2
      simp only [List.getElem?_cons_zero, Option.some.injEq] at h1 h2
      rw [← h1, ← h2]; exact hv
    | succ k => rw [hk] at h1; simp at h1

theorem Exact.cons {obj : List ℝ → ℝ} {pt0 : List ℝ} {sx : List (PList ℝ)} {y : List ℝ} (h : Exact obj pt0 sx y)
    (v : PList ℝ) (yv : ℝ) (hv : yv = obj (matchPoint pt0 v)) : Exact obj pt0 (v :: sx) (yv :: y) := by
  refine ⟨by rw [List.length_cons, List.length_cons, h.1], ?_⟩
  intro i w yi h1 h2
  cases i with
  | zero =>
    simp only [List.getElem?_cons_zero, Option.some.injEq] at h1 h2
    rw [← h1, ← h2]; exact hv
  | succ k =>
    simp only [List.getElem?_cons_succ] at h1 h2
    exact h.2 k w yi h1 h2

theorem Exact.set {obj : List ℝ → ℝ} {pt0 : List ℝ} {sx : List (PList ℝ)} {y : List ℝ} (h : Exact obj pt0 sx y)
    (k : Nat) (v : PList ℝ) (yv : ℝ) (hv : yv = obj (matchPoint pt0 v)) : Exact obj pt0 (sx.set k v) (y.set k yv) := by
  refine ⟨by rw [List.length_set, List.length_set, h.1], ?_⟩
  intro i w yi h1 h2
  by_cases hik : k = i
  · subst hik
    by_cases hk : k < sx.length
    · rw [List.getElem?_set_self hk] at h1
      rw [List.getElem?_set_self (by rw [← h.1]; exact hk)] at h2
      simp only [Option.some.injEq] at h1 h2
      rw [← h1, ← h2]; exact hv
    · rw [List.getElem?_eq_none (by rw [List.length_set]; exact not_lt.1 hk)] at h1; cases h1
  · rw [List.getElem?_set_ne hik] at h1 h2
    exact h.2 i w yi h1 h2

/-! ### the ranking loop -/

/-- the third component of the ranking loop on its own -/
noncomputable def lowStep (y : List ℝ) (iL i : Nat) : Nat := if y.getD i 0 ≤ y.getD iL 0 then i else iL

theorem rank_low (y : List ℝ) (y0 y1 : ℝ) :
    (rank y y0 y1).2.2 = (List.range y.length).foldl (lowStep y) 0 := by
  unfold rank
  have key : ∀ (l : List Nat) (init : Nat × Nat × Nat),
      (l.foldl (fun (st : Nat × Nat × Nat) i =>
        let (iH, iN, iL) := st
        let yi := y.getD i Scalar.zero
        let iL := if Scalar.leb yi (y.getD iL Scalar.zero) then i else iL
        if Scalar.gtb yi (y.getD iH Scalar.zero) then (i, iH, iL)
        else if Scalar.gtb yi (y.getD iN Scalar.zero) && i != iH then (iH, i, iL)
        else (iH, iN, iL)) init).2.2 = l.foldl (lowStep y) init.2.2 := by
    intro l
    induction l with
    | nil => intro init; rfl
    | cons i r ih =>
      intro init
      rw [List.foldl_cons, List.foldl_cons, ih]
      congr 1
      obtain ⟨iH, iN, iL⟩ := init
      simp only [lowStep, ScalarReal.zero_eq, ScalarReal.leb_iff]
      split_ifs <;> rfl
  rw [key]
  split_ifs <;> rfl

theorem low_argmin (y : List ℝ) : ∀ n, 
    ((List.range n).foldl (lowStep y) 0 = 0 ∨ (List.range n).foldl (lowStep y) 0 < n) ∧
    ∀ j, j < n → y.getD ((List.range n).foldl (lowStep y) 0) 0 ≤ y.getD j 0 := by
  intro n
  induction n with
  | zero => exact ⟨Or.inl rfl, fun j hj => absurd hj (Nat.not_lt_zero _)⟩
  | succ n ih =>
    rw [List.range_succ, List.foldl_append, List.foldl_cons, List.foldl_nil]
    generalize (List.range n).foldl (lowStep y) 0 = m at ih
    obtain ⟨h1, h2⟩ := ih
    unfold lowStep
    by_cases hc : y.getD n 0 ≤ y.getD m 0
    · rw [if_pos hc]
      refine ⟨Or.inr (Nat.lt_succ_self _), ?_⟩
      intro j hj
      rcases Nat.lt_succ_iff_lt_or_eq.1 hj with hlt | rfl
      · exact le_trans hc (h2 j hlt)
      · exact le_refl _
    · rw [if_neg hc]
      refine ⟨h1.imp id (fun h => Nat.lt_succ_of_lt h), ?_⟩
      intro j hj
      rcases Nat.lt_succ_iff_lt_or_eq.1 hj with hlt | rfl
      · exact h2 j hlt
      · exact le_of_lt (not_le.1 hc)

/-- the index of the lowest vertex is that of an existing vertex value, not above any other -/
theorem rank_argmin (y : List ℝ) (y0 y1 : ℝ) (hy : 0 < y.length) :
    (rank y y0 y1).2.2 < y.length ∧ ∀ (j : Nat) (yj : ℝ), y[j]? = some yj → y.getD (rank y y0 y1).2.2 0 ≤ yj := by
  rw [rank_low]
  obtain ⟨h1, h2⟩ := low_argmin y y.length
  refine ⟨by rcases h1 with h | h; rw [h]; exact hy; exact h, ?_⟩
  intro j yj hj
  have hjl : j < y.length := by
    by_contra hc; rw [List.getElem?_eq_none (not_lt.1 hc)] at hj; cases hj
  have := h2 j hjl
  rw [List.getD_eq_getElem?_getD (l := y) (i := j), hj] at this
  exact this

/-! ### the invariant of the method -/

variable (obj : List ℝ → ℝ) (D : Deriv ℝ) (cap : Option Nat)

/-- `pt0`: the function's point when `init` was called; `P0`: the list given to `init` with the policy
applied.  The function has not moved off the names; the optimiser's list and every vertex are `P0`
holding other feasible values; the sums carry the names and no constraint; the vertex values are
exact. -/
structure Simplex.Inv (pt0 : List ℝ) (P0 : PList ℝ) (s : St (Fn ℝ) (Simplex ℝ) ℝ) : Prop where
  off : Off pt0 (names P0) s.fn
  params : Like P0 s.core.params
  verts : ∀ v ∈ s.ext.simplex, Like P0 v
  psum : Free s.ext.pSum ∧ names s.ext.pSum = names P0
  exact : Exact obj pt0 s.ext.simplex s.ext.y

theorem mem_set_cases {β : Type} {l : List β} {k : Nat} {a x : β} (h : x ∈ l.set k a) : x = a ∨ x ∈ l := by
  rcases List.mem_or_eq_of_mem_set h with h | h
  · exact Or.inr h
  · exact Or.inl h

/-- `getPSum`: the copy that holds the sums carries no constraint -/
theorem getPSum_free (params : PList ℝ) (sx : List (PList ℝ)) (ps : PList ℝ) (hp : Prec0 params)
    (h : getPSum params sx = .ok ps) : Free ps ∧ names ps = names params := by
  unfold getPSum at h
  simp only [] at h
  have hfree : Free (params.map (fun q => ({ q with p := q.p.removeConstraint.1 } : NP ℝ))) := by
    intro q hq
    obtain ⟨q0, hq0, rfl⟩ := List.mem_map.1 hq
    exact ⟨hp q0 hq0, rfl⟩
  obtain ⟨h1, h2, _⟩ := setAll_free _ _ _ hfree h
  refine ⟨h1, ?_⟩
  rw [h2]
  unfold names; rw [List.map_map]; rfl

theorem getPSum_spec (P0 params : PList ℝ) (sx : List (PList ℝ)) (ps : PList ℝ) (hp : Like P0 params) (hg : Good P0)
    (h : getPSum params sx = .ok ps) : Free ps ∧ names ps = names P0 :=
  have hf := getPSum_free params sx ps (fun q hq => (hp.good hg q hq).1) h
  ⟨hf.1, hf.2.trans hp.names⟩

/-- `tryExtrapolation`: the invariant is kept; the lists of vertices and of values keep their lengths;
no vertex value increases; the optimiser's list and the indices are not touched -/
theorem tryExtrapolation_spec (pt0 : List ℝ) (P0 : PList ℝ) (hg : Good P0)
    (s s' : St (Fn ℝ) (Simplex ℝ) ℝ) (fac yTry : ℝ)
    (hi : Simplex.Inv obj pt0 P0 s) (h : tryExtrapolation (Fn.iface obj D cap) s fac = .ok (s', yTry)) :
    Simplex.Inv obj pt0 P0 s' ∧ s'.core.params = s.core.params ∧ s'.ext.iLowest = s.ext.iLowest ∧
    s'.ext.iHighest = s.ext.iHighest ∧
    (∀ (j : Nat) (yj : ℝ), s.ext.y[j]? = some yj → ∃ yj', s'.ext.y[j]? = some yj' ∧ yj' ≤ yj) := by
  obtain ⟨hiv, yHi, want, pTry, fn1, hsx, hy, hset, hf, hor⟩ := tryExtrapolation_ok h
  have hlT : Like P0 pTry := hi.params.trans (setAll_like _ _ _ hi.params.feas hset)
  obtain ⟨_, e2, e3⟩ := eval_off obj D cap pt0 (names P0) _ _ pTry yTry hi.off hlT.names hf
  rcases hor with ⟨-, rfl⟩ | ⟨hlt, sums, ps, hi', hps, hhi, rfl⟩
  · exact ⟨⟨e3, hi.params, hi.verts, hi.psum, hi.exact⟩, rfl, rfl, rfl, fun j yj hj => ⟨yj, hj, le_refl _⟩⟩
  · have hlH : Like P0 hiv := hi.verts hiv (List.mem_of_getElem? hsx)
    have hgH := hlH.good hg
    have hlH' : Like P0 hi' := hlH.trans (setAll_like _ _ _ hgH.feas hhi)
    have hvals : values hi' = values pTry := setAll_values (hlH.accepts_values hlT) hi' hgH hhi
    obtain ⟨f1, f2, _⟩ := setAll_free _ _ _ hi.psum.1 hps
    refine ⟨⟨e3, hi.params, fun v hv => ?_, ⟨f1, f2.trans hi.psum.2⟩, ?_⟩, rfl, rfl, rfl, fun j yj hj => ?_⟩
    · rcases mem_set_cases hv with rfl | hm
      · exact hlH'
      · exact hi.verts v hm
    · exact hi.exact.set _ _ _ (e2.trans (congrArg obj (matchPoint_nv pt0 _ _ (hlH'.names.trans hlT.names.symm) hvals).symm))
    · by_cases hjk : s.ext.iHighest = j
      · subst hjk
        have hjl : s.ext.iHighest < s.ext.y.length := by
          by_contra hc; rw [List.getElem?_eq_none (not_lt.1 hc)] at hj; cases hj
        obtain rfl : yHi = yj := Option.some.inj (hy.symm.trans hj)
        exact ⟨yTry, List.getElem?_set_self hjl, ((ScalarReal.ltb_iff _ _).1 hlt).le⟩
      · exact ⟨yj, (List.getElem?_set_ne hjk).trans hj, le_refl _⟩

/-- the contraction: the invariant is kept, the lengths too; the lowest vertex and its value, the
optimiser's list and the index of the lowest vertex are not touched -/
theorem shrinkAll_spec (pt0 : List ℝ) (P0 : PList ℝ) (hg : Good P0) :
    ∀ (l : List Nat) (s s' : St (Fn ℝ) (Simplex ℝ) ℝ), Simplex.Inv obj pt0 P0 s →
      shrinkAll (Fn.iface obj D cap) l s = .ok s' →
      Simplex.Inv obj pt0 P0 s' ∧ s'.core.params = s.core.params ∧ s'.ext.iLowest = s.ext.iLowest ∧
      s'.ext.y[s.ext.iLowest]? = s.ext.y[s.ext.iLowest]? := by
  intro l
  induction l with
  | nil =>
    intro s s' hi h
    rw [shrinkAll] at h
    cases h
    exact ⟨hi, rfl, rfl, rfl⟩
  | cons i r ih =>
    intro s s' hi h
    rcases shrinkAll_cons_ok h with ⟨-, h⟩ | ⟨hne, vi, lo, ps, vi', fn1, yi, hvi, hlo, hps, hvi', hf, h⟩
    · exact ih s s' hi h
    · have hlV : Like P0 vi := hi.verts vi (List.mem_of_getElem? hvi)
      have hlL : Like P0 lo := hi.verts lo (List.mem_of_getElem? hlo)
      have hgV := hlV.good hg
      obtain ⟨f1, f2, f3⟩ := setAll_free _ _ _ hi.psum.1 hps
      have hnps : names ps = names P0 := f2.trans hi.psum.2
      have hvps := f3 (by
        rw [List.length_map, List.length_zip, values_length, values_length, hlV.length, hlL.length, min_self,
          ← names_length s.ext.pSum, hi.psum.2, names_length])
      have hvals : values vi' = values ps := setAll_values (hvps ▸ hlV.accepts_mids hlL) vi' hgV hvi'
      have hlV' : Like P0 vi' := hlV.trans (setAll_like _ _ _ hgV.feas hvi')
      obtain ⟨_, e2, e3⟩ := eval_off obj D cap pt0 (names P0) _ _ ps yi hi.off hnps hf
      obtain ⟨a, b, c, d⟩ := ih _ s' (by
        refine ⟨e3, hi.params, fun v hv => ?_, ⟨f1, hnps⟩, hi.exact.set _ _ _
          (e2.trans (congrArg obj (matchPoint_nv pt0 _ _ (hlV'.names.trans hnps.symm) hvals).symm))⟩
        rcases mem_set_cases hv with rfl | hm
        · exact hlV'
        · exact hi.verts v hm) h
      exact ⟨a, b, c, d.trans (List.getElem?_set_ne hne)⟩

/-- the end of `doStep` -/
theorem simplexReport_spec (pt0 : List ℝ) (P0 : PList ℝ) (t s' : St (Fn ℝ) (Simplex ℝ) ℝ) (iL : Nat) (v yl : ℝ)
    (hi : Simplex.Inv obj pt0 P0 t) (hiL : t.ext.iLowest = iL) (hy : t.ext.y[iL]? = some yl)
    (h : simplexReport t iL = (s', v)) :
    Simplex.Inv obj pt0 P0 s' ∧ s'.ext.simplex[s'.ext.iLowest]? = some s'.core.params ∧
    s'.ext.y[s'.ext.iLowest]? = some v ∧ v = yl := by
  have hlt : iL < t.ext.simplex.length := by
    rw [hi.exact.1]
    by_contra hc; rw [List.getElem?_eq_none (not_lt.1 hc)] at hy; cases hy
  have hv : t.ext.y.getD iL Scalar.zero = yl := by
    rw [List.getD_eq_getElem?_getD, hy]; rfl
  unfold simplexReport at h
  split at h
  · rename_i best hb
    simp only [Prod.mk.injEq] at h
    obtain ⟨rfl, rfl⟩ := h
    refine ⟨⟨hi.off, hi.verts best (List.mem_of_getElem? hb), hi.verts, hi.psum, hi.exact⟩, ?_, ?_, hv⟩
    · show t.ext.simplex[t.ext.iLowest]? = some best; rw [hiL]; exact hb
    · show t.ext.y[t.ext.iLowest]? = some _; rw [hiL, hv]; exact hy
  · rename_i hb
    rw [List.getElem?_eq_getElem hlt] at hb; cases hb

theorem simplexDoStep_spec (pt0 : List ℝ) (P0 : PList ℝ) (hg : Good P0)
    (s s' : St (Fn ℝ) (Simplex ℝ) ℝ) (v : ℝ)
    (hi : Simplex.Inv obj pt0 P0 s) (h : simplexDoStep (Fn.iface obj D cap) s = .ok (s', v)) :
    Simplex.Inv obj pt0 P0 s' ∧ s'.ext.simplex[s'.ext.iLowest]? = some s'.core.params ∧
    s'.ext.y[s'.ext.iLowest]? = some v ∧ ∀ (j : Nat) (yj : ℝ), s.ext.y[j]? = some yj → v ≤ yj := by
  obtain ⟨y0, y1, v0, iH, iN, iL, best, s1, yT1, sf, hy0, -, -, hrk, hbest, ht1, hrep, hor⟩ := simplexDoStep_ok h
  have hylen : 0 < s.ext.y.length := by
    by_contra hc; rw [List.getElem?_eq_none (not_lt.1 hc)] at hy0; cases hy0
  obtain ⟨hiLlt, hmin⟩ := rank_argmin s.ext.y y0 y1 hylen
  rw [hrk] at hiLlt hmin
  have hyL : s.ext.y[iL]? = some (s.ext.y.getD iL 0) := by
    rw [List.getD_eq_getElem?_getD, List.getElem?_eq_getElem hiLlt]; rfl
  generalize s.ext.y.getD iL 0 = yL at hyL hmin
  obtain ⟨i1, -, l1, -, d1⟩ := tryExtrapolation_spec obj D cap pt0 P0 hg _ s1 _ yT1
    (by exact ⟨hi.off, hi.verts best (List.mem_of_getElem? hbest), hi.verts, hi.psum, hi.exact⟩) ht1
  obtain ⟨yL1, hyL1, hle1⟩ := d1 iL yL hyL
  -- the state that is reported: the invariant holds, the lowest vertex is `iL`, its value has not increased
  have key : ∃ yL', Simplex.Inv obj pt0 P0 sf ∧ sf.ext.iLowest = iL ∧ sf.ext.y[iL]? = some yL' ∧ yL' ≤ yL := by
    rcases hor with rfl | ⟨fac, yT2, ht2⟩ | ⟨fac, s2, yT2, s3, ps, ht2, hsh, hps, rfl⟩
    · exact ⟨yL1, i1, l1, hyL1, hle1⟩
    · obtain ⟨i2, -, l2, -, d2⟩ := tryExtrapolation_spec obj D cap pt0 P0 hg s1 sf _ yT2 i1 ht2
      obtain ⟨yL2, hyL2, hle2⟩ := d2 iL yL1 hyL1
      exact ⟨yL2, i2, l2.trans l1, hyL2, hle2.trans hle1⟩
    · obtain ⟨i2, -, l2, -, d2⟩ := tryExtrapolation_spec obj D cap pt0 P0 hg s1 s2 _ yT2 i1 ht2
      obtain ⟨yL2, hyL2, hle2⟩ := d2 iL yL1 hyL1
      obtain ⟨i3, -, l3, e3⟩ := shrinkAll_spec obj D cap pt0 P0 hg _ s2 s3 i2 hsh
      have hl2 : s2.ext.iLowest = iL := l2.trans l1
      obtain ⟨f1, f2⟩ := getPSum_spec P0 _ _ ps i3.params hg hps
      exact ⟨yL2, ⟨i3.off, i3.params, i3.verts, ⟨f1, f2⟩, i3.exact⟩, l3.trans hl2, (hl2 ▸ e3).trans hyL2, hle2.trans hle1⟩
  obtain ⟨yL', iF, lF, hyF, hleF⟩ := key
  obtain ⟨a, b, c, d⟩ := simplexReport_spec obj pt0 P0 sf s' iL v yL' iF lF hyF hrep
  exact ⟨a, b, c, fun j yj hj => d ▸ hleF.trans (hmin j yj hj)⟩

/-! ### `init` -/

/-- the vertices `1 … nDim` of the initial simplex -/
theorem simplexVertices_spec (pt0 : List ℝ) (P0 : PList ℝ) (hg : Good P0) :
    ∀ (l : List Nat) (fn fn' : Fn ℝ) (vs vs' : List (PList ℝ)) (ys ys' : List ℝ),
      Off pt0 (names P0) fn → (∀ v ∈ vs, Like P0 v) → Exact obj pt0 vs ys →
      simplexVertices (Fn.iface obj D cap) P0 l fn vs ys = .ok (fn', vs', ys') →
      Off pt0 (names P0) fn' ∧ (∀ v ∈ vs', Like P0 v) ∧ Exact obj pt0 vs' ys' := by
  intro l
  induction l with
  | nil =>
    intro fn fn' vs vs' ys ys' ho hv he h
    rw [simplexVertices] at h
    cases h
    exact ⟨ho, hv, he⟩
  | cons i r ih =>
    intro fn fn' vs vs' ys ys' ho hv he h
    rw [simplexVertices] at h
    split at h
    · cases h
    · rename_i w hset
      split at h
      · cases h
      · rename_i fn1 yw hf
        have hlw : Like P0 w := setAll_like _ _ _ hg.feas hset
        obtain ⟨_, e2, e3⟩ := eval_off obj D cap pt0 (names P0) _ _ w yw ho hlw.names hf
        refine ih fn1 fn' _ vs' _ ys' e3 ?_ (he.snoc w yw e2) h
        intro v hv'
        rcases List.mem_append.1 hv' with hm | hm
        · exact hv v hm
        · rw [List.mem_singleton] at hm; rw [hm]; exact hlw

/-- `init` (`doInit` sets `iLowest_` to 0): the invariant holds, the reported vertex is vertex 0 — the
list given to `init` — and its value is the objective at the starting point -/
theorem simplexInit_spec (s s1 : St (Fn ℝ) (Simplex ℝ) ℝ) (params : PList ℝ) (hgood : Good params)
    (h : (simplexAlgo (Fn.iface obj D cap)).init s params = .ok s1) :
    Simplex.Inv obj s.fn.point (applyPolicy s.core.policy params) s1 ∧
    s1.ext.simplex[s1.ext.iLowest]? = some s1.core.params ∧
    s1.ext.y[s1.ext.iLowest]? = some (obj (matchPoint s.fn.point params)) := by
  have hg : Good (applyPolicy s.core.policy params) := applyPolicy_good _ _ hgood
  have hoff : Off s.fn.point (names (applyPolicy s.core.policy params)) s.fn := ⟨rfl, fun _ _ => rfl⟩
  obtain ⟨sa, hdi, rfl⟩ := init_ok h
  change simplexDoInit (Fn.iface obj D cap) _ params = .ok sa at hdi
  unfold simplexDoInit at hdi
  simp only [] at hdi
  split at hdi
  · cases hdi
  · rename_i fn1 vs ys hvs
    obtain ⟨o1, v1, x1⟩ := simplexVertices_spec obj D cap s.fn.point _ hg _ _ fn1 [] vs [] ys hoff
      (fun v hv => nomatch hv) (Exact.nil obj _) hvs
    split at hdi
    · cases hdi
    · rename_i fn2 y0 hf
      obtain ⟨_, e2, e3⟩ := eval_off obj D cap s.fn.point _ _ _ _ y0 o1 rfl hf
      split at hdi
      · cases hdi
      · rename_i ps hps
        cases hdi
        obtain ⟨f1, f2⟩ := getPSum_spec _ _ _ ps (Like.refl hg.feas) hg hps
        refine ⟨⟨e3, Like.refl hg.feas, ?_, ⟨f1, f2⟩, x1.cons _ y0 e2⟩, ?_, ?_⟩
        · intro v hv
          rcases List.mem_cons.1 hv with rfl | hm
          · exact Like.refl hg.feas
          · exact v1 v hm
        · rfl
        · show (y0 :: ys)[0]? = _
          rw [e2, matchPoint_applyPolicy]; rfl

/-! ### the run -/

/-- the invariant of a run: `Simplex.Inv`, the optimiser's list is the vertex `iLowest`, whose value is
not above `B` -/
structure Simplex.Run (B : ℝ) (pt0 : List ℝ) (P0 : PList ℝ) (s : St (Fn ℝ) (Simplex ℝ) ℝ) : Prop where
  inv : Simplex.Inv obj pt0 P0 s
  best : s.ext.simplex[s.ext.iLowest]? = some s.core.params
  below : ∃ yl, s.ext.y[s.ext.iLowest]? = some yl ∧ yl ≤ B

theorem Simplex.Run.congr {B : ℝ} {pt0 : List ℝ} {P0 : PList ℝ} {s t : St (Fn ℝ) (Simplex ℝ) ℝ}
    (h : Simplex.Run obj B pt0 P0 s) (hf : t.fn = s.fn) (hp : t.core.params = s.core.params) (he : t.ext = s.ext) :
    Simplex.Run obj B pt0 P0 t :=
  ⟨⟨by rw [hf]; exact h.inv.off, by rw [hp]; exact h.inv.params, by rw [he]; exact h.inv.verts,
    by rw [he]; exact h.inv.psum, by rw [he]; exact h.inv.exact⟩, by rw [he, hp]; exact h.best, by rw [he]; exact h.below⟩

/-- `DownhillSimplexMethod::optimize` from a state that satisfies the invariant -/
theorem simplexOptimize_spec (B : ℝ) (pt0 : List ℝ) (P0 : PList ℝ) (hg : Good P0)
    (hnd : (names P0).Nodup) (hlt : ∀ n ∈ names P0, n < pt0.length) (fuel : Nat)
    (s s2 : St (Fn ℝ) (Simplex ℝ) ℝ) (v : ℝ)
    (hi : Simplex.Run obj B pt0 P0 s) (h : simplexOptimize (Fn.iface obj D cap) fuel s = .ok (s2, v)) :
    v ≤ B ∧ v = obj s2.fn.point ∧ Sync s2.fn s2.core.params ∧ s2.fn.point = matchPoint pt0 s2.core.params ∧
    Simplex.Run obj B pt0 P0 s2 := by
  obtain ⟨sL, vL, best, fn2, hopt, hb, hf, rfl⟩ := simplexOptimize_ok h
  have hL : Simplex.Run obj B pt0 P0 sL :=
    (optimize_invariant _ (Simplex.Run obj B pt0 P0)
      (fun u u' w hu hd => by
        obtain ⟨a, b, c, d⟩ := simplexDoStep_spec obj D cap pt0 P0 hg u u' w hu.inv hd
        obtain ⟨yl, hyl, hle⟩ := hu.below
        exact (⟨a, b, w, c, le_trans (d _ yl hyl) hle⟩ : Simplex.Run obj B pt0 P0 u').congr obj rfl rfl rfl)
      (fun u hu => hu) (fun u n t hu => hu.congr obj rfl rfl rfl) hi hopt).1
  obtain rfl : best = sL.core.params := Option.some.inj (hb.symm.trans hL.best)
  have hn : names sL.core.params = names P0 := hL.inv.params.names
  obtain ⟨e1, e2, e3⟩ := eval_off obj D cap pt0 (names P0) _ _ _ _ hL.inv.off hn hf
  obtain ⟨yl, hyl, hle⟩ := hL.below
  have hyv : yl = obj (matchPoint pt0 sL.core.params) := hL.inv.exact.2 _ _ _ hb hyl
  exact ⟨by rw [e2, ← hyv]; exact hle, by rw [e2, e1],
    sync_of_matchPoint fn2 pt0 sL.core.params e1 (hn ▸ hnd) (fun q hq => hlt _ (hn ▸ mem_names hq)), e1,
    ⟨e3, hL.inv.params, hL.inv.verts, hL.inv.psum, hL.inv.exact⟩, hL.best, hL.below⟩

/-- **`DownhillSimplexMethod`: a run**, `init` then `optimize`, relative to the point the function was at when `init`
was called and to the objective at the starting point (vertex 0 of the initial simplex) -/
theorem simplex_run (fuel : Nat) (s s1 s2 : St (Fn ℝ) (Simplex ℝ) ℝ) (params : PList ℝ) (v : ℝ)
    (hgood : Good params) (hnd : (names params).Nodup) (hlt : ∀ n ∈ names params, n < s.fn.point.length)
    (hinit : (simplexAlgo (Fn.iface obj D cap)).init s params = .ok s1)
    (hopt : simplexOptimize (Fn.iface obj D cap) fuel s1 = .ok (s2, v)) :
    v ≤ obj (matchPoint s.fn.point params) ∧ v = obj s2.fn.point ∧ Sync s2.fn s2.core.params ∧
    s2.fn.point = matchPoint s.fn.point s2.core.params ∧
    Simplex.Run obj (obj (matchPoint s.fn.point params)) s.fn.point (applyPolicy s.core.policy params) s2 := by
  obtain ⟨hinv, hbest, hy0⟩ := simplexInit_spec obj D cap s s1 params hgood hinit
  exact simplexOptimize_spec obj D cap _ _ _ (applyPolicy_good _ _ hgood) (by rw [applyPolicy_names]; exact hnd)
    (by rw [applyPolicy_names]; exact hlt) fuel s1 s2 v ⟨hinv, hbest, _, hy0, le_refl _⟩ hopt

end Bpp.Optim
