import BppProofs.Lemmas.Hmm
/-!
Helper lemmas for C13: AutoCorrelationTransitionMatrix (as repaired) — the entries of the matrix, the
stationary weights, and the lazily cached matrix, which is always the current one.
-/
namespace Bpp.Hmm
open Bpp Finset

theorem autoEntry_one (li : ℝ) (i j : Nat) : autoEntry 1 li i j = 1 :=
  ScalarReal.one_eq

/-- the off-diagonal entry of a row (a single state has none) -/
noncomputable def autoOff (n : Nat) (li : ℝ) : ℝ := if n = 1 then 0 else (1 - li) / ((n : ℝ) - 1)

/-- inside the matrix a row is constant `autoOff` plus what the diagonal needs to make the row sum to one -/
theorem autoEntry_eq (n : Nat) (li : ℝ) {i j : Nat} (hi : i < n) (hj : j < n) :
    autoEntry n li i j = autoOff n li + if i = j then 1 - n * autoOff n li else 0 := by
  unfold autoOff
  by_cases h1 : n = 1
  · subst h1
    rw [autoEntry_one, if_pos rfl, if_pos (by omega), mul_zero, sub_zero, zero_add]
  · simp only [autoEntry, beq_eq_false_iff_ne.mpr h1, Bool.false_eq_true, if_false, beq_iff_eq, ScalarReal.one_eq,
      ScalarReal.ofInt_eq, sub_eq, div_eq, Int.cast_sub, Int.cast_natCast, Int.cast_one, h1]
    split
    · linear_combination div_mul_cancel₀ (1 - li) (sub_ne_zero.mpr (Nat.cast_ne_one.mpr h1))
    · exact (add_zero _).symm

/-- the stationary weights -/
noncomputable def autoPi (n : Nat) (lam : Nat → ℝ) (i : Nat) : ℝ :=
  (1 / (1 - lam i)) / ∑ k ∈ range n, 1 / (1 - lam k)

theorem autoEntry_row_sum (n : Nat) (li : ℝ) {i : Nat} (hi : i < n) : ∑ j ∈ range n, autoEntry n li i j = 1 := by
  rw [Finset.sum_congr rfl fun j hj => autoEntry_eq n li hi (Finset.mem_range.mp hj)]
  simp only [Finset.sum_add_distrib, Finset.sum_const, Finset.card_range, Finset.sum_ite_eq, Finset.mem_range, hi,
    if_true, nsmul_eq_mul]
  ring

/-- a vector whose entry `k` times the off-diagonal entry of row `k` is the same for every `k` is stationary: column `j`
collects that constant `n` times and loses it `n` times on the diagonal -/
theorem autoEntry_stationary (n : Nat) (π lam : Nat → ℝ) (c : ℝ) (hc : ∀ k, k < n → π k * autoOff n (lam k) = c)
    {j : Nat} (hj : j < n) : ∑ k ∈ range n, π k * autoEntry n (lam k) k j = π j := by
  rw [Finset.sum_congr rfl fun k hk => by
    rw [autoEntry_eq n (lam k) (Finset.mem_range.mp hk) hj, mul_add, hc k (Finset.mem_range.mp hk)]]
  simp only [Finset.sum_add_distrib, Finset.sum_const, Finset.card_range, mul_ite, mul_zero, Finset.sum_ite_eq',
    Finset.mem_range, hj, if_true, nsmul_eq_mul]
  linear_combination (-(n : ℝ)) * hc j hj

theorem autoPi_mul_autoOff (n : Nat) (lam : Nat → ℝ) {k : Nat} (hk : lam k < 1) :
    autoPi n lam k * autoOff n (lam k)
      = if n = 1 then 0 else 1 / (∑ k ∈ range n, 1 / (1 - lam k)) / ((n : ℝ) - 1) := by
  unfold autoOff autoPi
  split
  · exact mul_zero _
  · rw [← mul_div_assoc, div_mul_eq_mul_div, one_div_mul_cancel (ne_of_gt (sub_pos.mpr hk))]

theorem sumL_replicate (n : Nat) (a : ℝ) : sumL (List.replicate n a) = n * a := by
  rw [sumL_eq_sum, List.sum_replicate, nsmul_eq_mul]

/-! ### the lazily cached matrix -/

inductive AutoOp (α : Type) where
  | setLambda (k : Nat) (v : α)
  | getPij
  /-- `Pij(i, j)` (no range check: `none` = `vAutocorrel_[i]` does not exist) -/
  | entry (i j : Nat)
  | getEq

variable {α : Type} [Scalar α]

/-- answers: a matrix (`getPij`), one row (`getEquilibriumFrequencies`), one entry, nothing, or the
out-of-range outcome -/
def AutoTM.stepA (m : AutoTM α) : AutoOp α → AutoTM α × Option (List (List α))
  | .setLambda k v => (m.setLambda k v, some [])
  | .getPij => let r := m.getPij; (r.1, some r.2)
  | .entry i j => (m, (m.lam[i]?).map (fun li => [[autoEntry m.n li i j]]))
  | .getEq => (m, some [m.eq])

def AutoTM.runA (m : AutoTM α) : List (AutoOp α) → List (Option (List (List α)))
  | [] => []
  | op :: ops => (m.stepA op).2 :: AutoTM.runA (m.stepA op).1 ops

/-- the reference: everything is recomputed from the current λ's (`eq0` = the equilibrium vector as
long as no λ was set) -/
def autoSpecRun (n : Nat) (lam eq0 : List α) : List (AutoOp α) → List (Option (List (List α)))
  | [] => []
  | .setLambda k v :: ops => some [] :: autoSpecRun n (lam.set k v) (autoEq (lam.set k v)) ops
  | .getPij :: ops => some (autoMatrix n lam) :: autoSpecRun n lam eq0 ops
  | .entry i j :: ops => (lam[i]?).map (fun li => [[autoEntry n li i j]]) :: autoSpecRun n lam eq0 ops
  | .getEq :: ops => some [eq0] :: autoSpecRun n lam eq0 ops

theorem AutoTM.runA_spec (m : AutoTM α) (hinv : m.upToDate = true → m.pij = autoMatrix m.n m.lam)
    (ops : List (AutoOp α)) : m.runA ops = autoSpecRun m.n m.lam m.eq ops := by
  induction ops generalizing m with
  | nil => rfl
  | cons op ops ih =>
    cases op with
    | setLambda k v =>
      simp only [AutoTM.runA, AutoTM.stepA, autoSpecRun]
      rw [ih (m.setLambda k v) (by simp [AutoTM.setLambda])]; rfl
    | getPij =>
      simp only [AutoTM.runA, AutoTM.stepA, autoSpecRun, AutoTM.getPij]
      by_cases hu : m.upToDate = true
      · simp only [hu, if_true]; rw [ih m hinv, hinv hu]
      · simp only [hu, if_false, Bool.false_eq_true]
        rw [ih _ (fun _ => rfl)]
    | entry i j =>
      simp only [AutoTM.runA, AutoTM.stepA, autoSpecRun]
      rw [ih m hinv]
    | getEq =>
      simp only [AutoTM.runA, AutoTM.stepA, autoSpecRun]
      rw [ih m hinv]

end Bpp.Hmm
