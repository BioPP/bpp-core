import BppModel.OptimSpec
import BppProofs.Lemmas.ScalarReal
import BppProofs.Lemmas.Param
/-!
Helper lemmas for C10: results that may be exceptions (`ROk`), and the `AbstractOptimizer` template — its loop
as equations and as an induction principle (`loop_induct`), the counter (`Monotone`), what a step and a run keep
(`step_invariant`, `optimize_invariant`) — for every scalar type, every function object `F` and every optimiser `A`.
-/
set_option linter.unusedSectionVars false
namespace Bpp.Optim
open Bpp

variable {α : Type} [Scalar α] {F τ : Type}

/-! ### results that may be exceptions -/

section
variable {F : Type}

/-- a result is fine: a normal one satisfies `P`, an exception carries a function satisfying `Q` -/
def ROk {β : Type} (Q : F → Prop) (P : β → Prop) : Except (Exc × F) β → Prop
  | .ok b => P b
  | .error e => Q e.2

variable {Q : F → Prop}

/-- reasoning along a call whose result is fine: an exception is passed on, a normal result goes on -/
@[elab_as_elim]
theorem ROk.elim {β : Type} {P : β → Prop} {C : Except (Exc × F) β → Prop} {x : Except (Exc × F) β}
    (hx : ROk Q P x) (herr : ∀ e, Q e.2 → C (.error e)) (hok : ∀ b, P b → C (.ok b)) : C x := by
  cases x with
  | error e => exact herr e hx
  | ok b => exact hok b hx

/-- the same, remembering on the normal branch what the call returned -/
@[elab_as_elim]
theorem ROk.elim' {β : Type} {P : β → Prop} {C : Except (Exc × F) β → Prop} {x : Except (Exc × F) β}
    (hx : ROk Q P x) (herr : ∀ e, Q e.2 → C (.error e)) (hok : ∀ b, x = .ok b → P b → C (.ok b)) : C x := by
  cases x with
  | error e => exact herr e hx
  | ok b => exact hok b rfl hx

theorem ROk.of_ok {β : Type} {P : β → Prop} {x : Except (Exc × F) β} (h : ROk Q P x) {b : β} (e : x = .ok b) : P b := by
  subst e; exact h

theorem ROk.of_error {β : Type} {P : β → Prop} {x : Except (Exc × F) β} (h : ROk Q P x) {e : Exc × F}
    (he : x = .error e) : Q e.2 := by
  subst he; exact h

/-- a result that is fine stays fine under weaker conditions -/
theorem ROk.mono {β : Type} {Q' : F → Prop} {P P' : β → Prop} {r : Except (Exc × F) β} (h : ROk Q P r)
    (hQ : ∀ fn, Q fn → Q' fn) (hP : ∀ b, P b → P' b) : ROk Q' P' r := by
  cases r with
  | error e => exact hQ _ h
  | ok b => exact hP b h

end

theorem Spec.descent_iff {v B : ℝ} : Spec.descent v B = true ↔ v ≤ B := ScalarReal.leb_iff v B

theorem Spec.consistent_iff {obj : List ℝ → ℝ} {v : ℝ} {pt : List ℝ} : Spec.consistent obj v pt = true ↔ v = obj pt :=
  ScalarReal.eqb_iff v (obj pt)

/-- the evaluation step is a `setValue` followed by an evaluation -/
theorem eval0_ok {I : FunI F α} {fn fn' : F} {pl pl' : PList α} {x v : α} :
    eval0 I fn pl x = .ok (fn', pl', v) ↔ setValueAt pl 0 x = .ok pl' ∧ I.f fn pl' = .ok (fn', v) := by
  constructor
  · intro h
    unfold eval0 at h
    cases h1 : setValueAt pl 0 x with
    | error e => rw [h1] at h; cases h
    | ok pl1 =>
      rw [h1] at h
      simp only [] at h
      cases h2 : I.f fn pl1 with
      | error e => rw [h2] at h; cases h
      | ok r => obtain ⟨a, b⟩ := r; rw [h2] at h; cases h; exact ⟨rfl, h2⟩
  · rintro ⟨h1, h2⟩
    unfold eval0
    rw [h1]
    simp only []
    rw [h2]

/-- the guard of the `for` loop of `optimize` -/
def Guard (s : St F τ α) : Prop := s.core.nbEval < s.core.nbEvalMax ∧ s.core.tol = false

instance (s : St F τ α) : Decidable (Guard s) := by unfold Guard; infer_instance

theorem guard_iff (s : St F τ α) :
    (decide (s.core.nbEval < s.core.nbEvalMax) && !s.core.tol) = true ↔ Guard s := by
  unfold Guard; cases s.core.tol <;> simp

/-- the state with which the loop goes on after a step -/
def bump (s : St F τ α) : St F τ α := { s with core := { s.core with nbEval := s.core.nbEval + 1 } }

theorem loop_zero (A : Algo F τ α) (s : St F τ α) :
    A.loop 0 s = if Guard s then .error (.hang, s.fn) else .ok s := by
  unfold Algo.loop
  by_cases h : Guard s
  · rw [if_pos ((guard_iff s).2 h), if_pos h]
  · rw [if_neg (fun c => h ((guard_iff s).1 c)), if_neg h]

theorem loop_succ (A : Algo F τ α) (fuel : Nat) (s : St F τ α) :
    A.loop (fuel + 1) s =
      if Guard s then
        (match A.step s with
         | .error e => .error e
         | .ok (s1, _) => A.loop fuel (bump s1))
      else .ok s := by
  rw [Algo.loop]
  by_cases h : Guard s
  · rw [if_pos ((guard_iff s).2 h), if_pos h]; rfl
  · rw [if_neg (fun c => h ((guard_iff s).1 c)), if_neg h]

theorem loop_of_not_guard (A : Algo F τ α) (s : St F τ α) (hg : ¬ Guard s) : ∀ fuel, A.loop fuel s = .ok s
  | 0 => by rw [loop_zero, if_neg hg]
  | fuel + 1 => by rw [loop_succ, if_neg hg]

/-- induction along a run of the loop: `M s r` relates a state the loop is in to the result of the loop
from there.  The loop stops when the guard fails, hangs when the fuel runs out under a true guard,
passes on the exception of a step, or goes on from the bumped state a step returns. -/
theorem loop_induct (A : Algo F τ α) (M : St F τ α → Except (Exc × F) (St F τ α) → Prop)
    (stop : ∀ s, ¬ Guard s → M s (.ok s))
    (hang : ∀ s, Guard s → M s (.error (.hang, s.fn)))
    (err : ∀ s e, Guard s → A.step s = .error e → M s (.error e))
    (next : ∀ s s1 v r, Guard s → A.step s = .ok (s1, v) → M (bump s1) r → M s r) :
    ∀ (fuel : Nat) (s : St F τ α), M s (A.loop fuel s) := by
  intro fuel
  induction fuel with
  | zero =>
    intro s
    rw [loop_zero]
    by_cases hg : Guard s
    · rw [if_pos hg]; exact hang s hg
    · rw [if_neg hg]; exact stop s hg
  | succ fuel ih =>
    intro s
    rw [loop_succ]
    by_cases hg : Guard s
    · rw [if_pos hg]
      cases hst : A.step s with
      | error e => exact err s e hg hst
      | ok r => obtain ⟨s1, v⟩ := r; exact next s s1 v _ hg hst (ih (bump s1))
    · rw [if_neg hg]; exact stop s hg

/-- what `step` does with the counters, given what `doStep` and `stop` do -/
structure Monotone (A : Algo F τ α) : Prop where
  doStep_counter : ∀ s s' v, A.doStep s = .ok (s', v) →
    s.core.nbEval ≤ s'.core.nbEval ∧ s'.core.nbEvalMax = s.core.nbEvalMax
  stop_counter : ∀ s, (A.stop s).1.core.nbEval = s.core.nbEval ∧ (A.stop s).1.core.nbEvalMax = s.core.nbEvalMax

/-- a step that returns: `doStep` has returned, its value is stored as the current value and, unless
the flag is already set, the stop condition is polled -/
theorem step_cases (A : Algo F τ α) (s : St F τ α) {s' : St F τ α} {v : α} (h : A.step s = .ok (s', v)) :
    ∃ s1, A.doStep s = .ok (s1, v) ∧
      ((s1.core.tol = true ∧ s' = { s1 with core := { s1.core with cur := v } }) ∨
       (s1.core.tol = false ∧
         s' = { (A.stop { s1 with core := { s1.core with cur := v } }).1 with
                core := { (A.stop { s1 with core := { s1.core with cur := v } }).1.core with
                          tol := (A.stop { s1 with core := { s1.core with cur := v } }).2 } })) := by
  unfold Algo.step at h
  cases hd : A.doStep s with
  | error e => rw [hd] at h; cases h
  | ok r =>
    obtain ⟨s1, w⟩ := r
    rw [hd] at h
    simp only [] at h
    cases ht : s1.core.tol with
    | true =>
      rw [if_pos ht] at h
      cases h
      exact ⟨s1, rfl, Or.inl ⟨ht, rfl⟩⟩
    | false =>
      rw [if_neg (ht ▸ Bool.false_ne_true)] at h
      cases h
      exact ⟨s1, rfl, Or.inr ⟨ht, rfl⟩⟩

theorem step_counter (A : Algo F τ α) (hm : Monotone A) (s : St F τ α) {s' : St F τ α} {v : α}
    (h : A.step s = .ok (s', v)) :
    s.core.nbEval ≤ s'.core.nbEval ∧ s'.core.nbEvalMax = s.core.nbEvalMax := by
  obtain ⟨s1, hd, hc⟩ := step_cases A s h
  have h1 := hm.doStep_counter s s1 v hd
  rcases hc with ⟨_, rfl⟩ | ⟨_, rfl⟩
  · exact h1
  · have h2 := hm.stop_counter { s1 with core := { s1.core with cur := v } }
    exact ⟨h2.1 ▸ h1.1, h2.2.trans h1.2⟩

/-- what `step` does with the function: that of `doStep`, when the stop condition does not touch it -/
theorem step_fn (A : Algo F τ α) (hstopfn : ∀ s, (A.stop s).1.fn = s.fn) (s : St F τ α) {s' : St F τ α} {v : α}
    (h : A.step s = .ok (s', v)) : ∃ s1, A.doStep s = .ok (s1, v) ∧ s'.fn = s1.fn := by
  obtain ⟨s1, hd, hc⟩ := step_cases A s h
  refine ⟨s1, hd, ?_⟩
  rcases hc with ⟨_, rfl⟩ | ⟨_, rfl⟩
  · rfl
  · exact hstopfn _

/-- what `step` does with the counter: that of `doStep` -/
theorem step_nbEval (A : Algo F τ α) (hm : Monotone A) (s : St F τ α) {s' s1 : St F τ α} {v : α}
    (h : A.step s = .ok (s', v)) (hd : A.doStep s = .ok (s1, v)) : s'.core.nbEval = s1.core.nbEval := by
  obtain ⟨s2, hd2, hc⟩ := step_cases A s h
  rw [hd] at hd2
  cases hd2
  rcases hc with ⟨_, rfl⟩ | ⟨_, rfl⟩
  · rfl
  · exact (hm.stop_counter _).1

/-- with `nbEvalMax - nbEval` units of fuel (or more) the result of the loop does not depend on the
fuel: the guard fails before the fuel runs out -/
theorem loop_fuel_irrelevant (A : Algo F τ α) (hm : Monotone A) :
    ∀ (fuel : Nat) (s : St F τ α), s.core.nbEvalMax ≤ fuel + s.core.nbEval →
      ∀ k, A.loop (fuel + k) s = A.loop fuel s := by
  intro fuel
  induction fuel with
  | zero =>
    intro s hs k
    have hg : ¬ Guard s := fun hg => absurd hg.1 (by omega)
    rw [loop_of_not_guard A s hg, loop_of_not_guard A s hg]
  | succ fuel ih =>
    intro s hs k
    rw [show fuel + 1 + k = (fuel + k) + 1 by omega, loop_succ, loop_succ]
    by_cases hg : Guard s
    · rw [if_pos hg, if_pos hg]
      cases hst : A.step s with
      | error e => rfl
      | ok r =>
        obtain ⟨s1, v⟩ := r
        have hc := step_counter A hm s hst
        exact ih (bump s1) (by show s1.core.nbEvalMax ≤ fuel + (s1.core.nbEval + 1); omega) k
    · rw [if_neg hg, if_neg hg]

/-- a loop that returns normally has left the guard false -/
theorem loop_ok_guard (A : Algo F τ α) (fuel : Nat) (s s' : St F τ α) (h : A.loop fuel s = .ok s') : ¬ Guard s' :=
  loop_induct A (fun _ r => ∀ s', r = .ok s' → ¬ Guard s')
    (fun s hg s' e => by cases e; exact hg) (fun _ _ _ => nofun) (fun _ _ _ _ _ => nofun)
    (fun _ _ _ _ _ _ ih => ih) fuel s s' h

/-- the loop's own fuel is the reason of a `hang` only when it is smaller than `nbEvalMax - nbEval`:
otherwise every error the loop returns is an error of one of its steps -/
theorem loop_error_from_step (A : Algo F τ α) (hm : Monotone A) :
    ∀ (fuel : Nat) (s : St F τ α) (e : Exc × F), s.core.nbEvalMax ≤ fuel + s.core.nbEval →
      A.loop fuel s = .error e → ∃ s0, Guard s0 ∧ A.step s0 = .error e := by
  intro fuel
  induction fuel with
  | zero =>
    intro s e hs h
    have hg : ¬ Guard s := fun hg => absurd hg.1 (by omega)
    rw [loop_of_not_guard A s hg] at h; cases h
  | succ fuel ih =>
    intro s e hs h
    rw [loop_succ] at h
    by_cases hg : Guard s
    · rw [if_pos hg] at h
      cases hst : A.step s with
      | error e' => rw [hst] at h; cases h; exact ⟨s, hg, hst⟩
      | ok r =>
        obtain ⟨s1, v⟩ := r
        rw [hst] at h
        have hc := step_counter A hm s hst
        exact ih (bump s1) e (by show s1.core.nbEvalMax ≤ fuel + (s1.core.nbEval + 1); omega) h
    · rw [if_neg hg] at h; cases h

/-- the history of a loop that returns normally, with an invariant `R` that a step *together with* the
increment of the counter that follows it restores: `R` holds at the end, and either no step was made, or
there is a last step, begun with `R` and the guard true, after which the counter was incremented once -/
theorem loop_last_step_inv_bump (A : Algo F τ α) (R : St F τ α → Prop)
    (hstep : ∀ s s' v, R s → Guard s → A.step s = .ok (s', v) → R (bump s'))
    (fuel : Nat) (s s' : St F τ α) (hr : R s) (h : A.loop fuel s = .ok s') :
    R s' ∧ (s' = s ∨ ∃ sb sa v, R sb ∧ Guard sb ∧ A.step sb = .ok (sa, v) ∧ s' = bump sa) :=
  loop_induct A (fun s r => ∀ s', R s → r = .ok s' →
      R s' ∧ (s' = s ∨ ∃ sb sa v, R sb ∧ Guard sb ∧ A.step sb = .ok (sa, v) ∧ s' = bump sa))
    (fun s _ s' hr e => by cases e; exact ⟨hr, Or.inl rfl⟩) (fun _ _ _ _ => nofun) (fun _ _ _ _ _ _ => nofun)
    (fun s s1 v r hg hst ih s' hr e => by
      obtain ⟨h1, h2⟩ := ih s' (hstep s s1 v hr hg hst) e
      refine ⟨h1, Or.inr ?_⟩
      rcases h2 with rfl | hex
      · exact ⟨s, s1, v, hr, hg, hst, rfl⟩
      · exact hex)
    fuel s s' hr h

/-- `loop_last_step_inv_bump` for an invariant kept by `step` and not looking at the counter -/
theorem loop_last_step_inv (A : Algo F τ α) (R : St F τ α → Prop)
    (hstep : ∀ s s' v, R s → Guard s → A.step s = .ok (s', v) → R s')
    (hbump : ∀ s, R s → R (bump s)) (fuel : Nat) (s s' : St F τ α) (hr : R s) (h : A.loop fuel s = .ok s') :
    s' = s ∨ ∃ sb sa v, R sb ∧ Guard sb ∧ A.step sb = .ok (sa, v) ∧ s' = bump sa :=
  (loop_last_step_inv_bump A R (fun s s' v hr hg hst => hbump _ (hstep s s' v hr hg hst)) fuel s s' hr h).2

/-- invariants: a predicate kept by `step` and not looking at the counter is kept by the loop -/
theorem loop_invariant (A : Algo F τ α) (R : St F τ α → Prop)
    (hstep : ∀ s s' v, R s → Guard s → A.step s = .ok (s', v) → R s')
    (hbump : ∀ s, R s → R (bump s)) (fuel : Nat) (s s' : St F τ α) (hr : R s) (h : A.loop fuel s = .ok s') : R s' :=
  (loop_last_step_inv_bump A R (fun s s' v hr hg hst => hbump _ (hstep s s' v hr hg hst)) fuel s s' hr h).1

/-- the same for what an exception carries (the function at the moment of the `throw`) -/
theorem loop_invariant_error (A : Algo F τ α) (R : St F τ α → Prop) (J : F → Prop)
    (hstep : ∀ s s' v, R s → Guard s → A.step s = .ok (s', v) → R s')
    (hbump : ∀ s, R s → R (bump s))
    (herr : ∀ s e fn, R s → A.step s = .error (e, fn) → J fn)
    (hfn : ∀ s, R s → J s.fn) :
    ∀ (fuel : Nat) (s : St F τ α) e fn, R s → A.loop fuel s = .error (e, fn) → J fn := by
  intro fuel s e fn
  exact loop_induct A (fun s r => R s → r = .error (e, fn) → J fn) (fun _ _ _ => nofun)
    (fun s _ hr h => by cases h; exact hfn s hr) (fun s _ _ hst hr h => by cases h; exact herr s e fn hr hst)
    (fun s s1 v _ hg hst ih hr h => ih (hbump _ (hstep s s1 v hr hg hst)) h) fuel s

/-- the history of a loop that returns normally: either no step was made, or there is a last step,
begun with the guard true, after which the counter was incremented once -/
theorem loop_last_step (A : Algo F τ α) :
    ∀ (fuel : Nat) (s s' : St F τ α), A.loop fuel s = .ok s' →
      s' = s ∨ ∃ sb sa v, Guard sb ∧ A.step sb = .ok (sa, v) ∧ s' = bump sa := by
  intro fuel s s' h
  rcases loop_last_step_inv A (fun _ => True) (fun _ _ _ _ _ _ => trivial) (fun _ _ => trivial) fuel s s' trivial h with
    e | ⟨sb, sa, v, -, hx⟩
  · exact Or.inl e
  · exact Or.inr ⟨sb, sa, v, hx⟩

/-- `FunctionStopCondition::isToleranceReached` writes its own three members only -/
theorem fscStop_fst (s : St F τ α) :
    (fscStop s).1 = { s with core := { s.core with callCount := s.core.callCount + 1, lastF := s.core.newF, newF := s.core.cur } } := by
  unfold fscStop; dsimp only; split <;> rfl

/-- `init` returns what `doInit` makes of the state holding the list with the policy applied, with the
template's members reset and the stop condition initialised -/
theorem init_ok {A : Algo F τ α} {s s1 : St F τ α} {params : PList α} (h : A.init s params = .ok s1) :
    ∃ s2, A.doInit { s with core := { s.core with params := applyPolicy s.core.policy params } } params = .ok s2 ∧
      s1 = A.stopInit { s2 with core := { s2.core with nbEval := 0, tol := false, initialized := true, cur := A.value s2.fn } } := by
  unfold Algo.init at h
  simp only [] at h
  split at h
  · cases h
  · rename_i s2 hd; cases h; exact ⟨s2, hd, rfl⟩

/-- `optimize` returns what the loop, started with the counter at 1 and the flag down, returns -/
theorem optimize_ok {A : Algo F τ α} {fuel : Nat} {s s' : St F τ α} {v : α} (h : A.optimize fuel s = .ok (s', v)) :
    A.loop fuel { s with core := { s.core with tol := false, nbEval := 1 } } = .ok s' ∧ s'.core.cur = v := by
  unfold Algo.optimize at h
  cases hi : s.core.initialized with
  | false => rw [hi] at h; cases h
  | true =>
    rw [hi] at h
    cases hl : A.loop fuel { s with core := { s.core with tol := false, nbEval := 1 } } with
    | error e => rw [hl] at h; cases h
    | ok s1 => rw [hl] at h; cases h; exact ⟨rfl, rfl⟩

/-- a predicate that `doStep` restores once the value it returns is stored as the current value, that the
stop condition keeps, and that looks neither at the counter nor at the tolerance flag, is kept by `step` -/
theorem step_invariant (A : Algo F τ α) (R : St F τ α → Prop)
    (hdo : ∀ s s' v, R s → A.doStep s = .ok (s', v) → R { s' with core := { s'.core with cur := v } })
    (hstop : ∀ s, R s → R (A.stop s).1)
    (hcnt : ∀ s n t, R s → R { s with core := { s.core with nbEval := n, tol := t } })
    {s s' : St F τ α} {v : α} (hr : R s) (h : A.step s = .ok (s', v)) : R s' := by
  obtain ⟨s1, hd, hc⟩ := step_cases A s h
  have h1 := hdo s s1 v hr hd
  rcases hc with ⟨_, rfl⟩ | ⟨_, rfl⟩
  · exact h1
  · exact hcnt _ (A.stop _).1.core.nbEval _ (hstop _ h1)

/-- **the invariant principle of a run**: such a predicate holds when `optimize` returns, and the value
returned is the current value -/
theorem optimize_invariant (A : Algo F τ α) (R : St F τ α → Prop)
    (hdo : ∀ s s' v, R s → A.doStep s = .ok (s', v) → R { s' with core := { s'.core with cur := v } })
    (hstop : ∀ s, R s → R (A.stop s).1)
    (hcnt : ∀ s n t, R s → R { s with core := { s.core with nbEval := n, tol := t } })
    {fuel : Nat} {s s' : St F τ α} {v : α} (hr : R s) (h : A.optimize fuel s = .ok (s', v)) :
    R s' ∧ s'.core.cur = v := by
  obtain ⟨hl, hv⟩ := optimize_ok h
  exact ⟨loop_invariant A R (fun u u' w hu _ hst => step_invariant A R hdo hstop hcnt hu hst)
    (fun u hu => hcnt u _ u.core.tol hu) fuel _ _ (hcnt s 1 false hr) hl, hv⟩

end Bpp.Optim
