import BppProofs.Lemmas.OptimBracket
import BppProofs.Lemmas.OptimParam
/-!
Helper lemmas for C10: the evaluation step of the one-dimensional routines on the *objective of the
harness* (`Fn.iface`), for a one-element list holding an unconstrained parameter of precision 0:
it computes the objective along one coordinate, the other coordinates staying what they are.
This instantiates the abstract hypothesis `Det` of the bracketing / golden-section / Brent theorems.
-/
set_option linter.unusedSectionVars false
namespace Bpp.Optim
open Bpp

theorem own_real (old v : ℝ) : own old v = v := by
  unfold own
  by_cases h : 0 < |v - old|
  · rw [if_pos (by simpa using h)]
  · rw [if_neg (by simpa using h)]
    have : |v - old| = 0 := le_antisymm (not_lt.1 h) (abs_nonneg _)
    have := abs_eq_zero.1 this
    linarith

/-- `Parameter::setValue` / `AutoParameter::setValue` on a parameter without constraint and with
precision 0 stores the value -/
theorem setValue_free (p : Param ℝ) (x : ℝ) (hp : p.precision = 0) (hc : p.constraint = none) :
    ∃ p', p.setValue x = .ok p' ∧ p'.value = x ∧ p'.precision = 0 ∧ p'.constraint = none ∧ p'.auto = p.auto :=
  ⟨reval p x, setValue_accepted p x hp (Param.accepts_none hc _) (Param.accepts_none hc x), rfl, hp, hc, rfl⟩

/-- the invariant under which the evaluation step computes `obj` along coordinate `k` of `pt0` -/
def Along (pt0 : List ℝ) (k : Nat) (fn : Fn ℝ) (pl : PList ℝ) : Prop :=
  (∃ q, pl = [q] ∧ q.name = k ∧ q.p.precision = 0 ∧ q.p.constraint = none) ∧
  k < pt0.length ∧ fn.point.length = pt0.length ∧ ∀ i, i ≠ k → fn.point[i]? = pt0[i]?

theorem set_eq_of_agree (pt pt0 : List ℝ) (k : Nat) (x : ℝ) (hl : pt.length = pt0.length)
    (h : ∀ i, i ≠ k → pt[i]? = pt0[i]?) : pt.set k x = pt0.set k x := by
  apply List.ext_getElem?
  intro i
  by_cases hik : i = k
  · subst hik
    simp [List.getElem?_set, hl]
  · rw [List.getElem?_set_ne (Ne.symm hik), List.getElem?_set_ne (Ne.symm hik)]; exact h i hik

theorem set_self_of_get (pt : List ℝ) (k : Nat) (v : ℝ) (h : pt[k]? = some v) : pt.set k v = pt := by
  obtain ⟨hk, rfl⟩ := List.getElem?_eq_some_iff.1 h
  exact List.set_getElem_self hk

/-- whatever the interface's `f` returns or raises, the function is `setParameters` of the function it was given
(a `cap` exception carries the function with the point logged) -/
theorem iface_f_cases (obj : List ℝ → ℝ) (D : Deriv ℝ) (cap : Option Nat) (fn : Fn ℝ) (pl : PList ℝ) (P : Fn ℝ → Prop)
    (h : P (fn.setParameters pl)) : ROk P (fun r => P r.1) ((Fn.iface obj D cap).f fn pl) := by
  simp only [Fn.iface]
  split
  · exact h
  · exact h

theorem iface_set_cases (obj : List ℝ → ℝ) (D : Deriv ℝ) (cap : Option Nat) (fn : Fn ℝ) (pl : PList ℝ) (P : Fn ℝ → Prop)
    (h : P (fn.setParameters pl)) : ROk P P ((Fn.iface obj D cap).setParameters fn pl) := by
  simp only [Fn.iface]
  split
  · exact h
  · exact h

theorem iface_f_ok (obj : List ℝ → ℝ) (D : Deriv ℝ) (cap : Option Nat) (fn fn' : Fn ℝ) (pl : PList ℝ) (v : ℝ)
    (h : (Fn.iface obj D cap).f fn pl = .ok (fn', v)) : fn' = (fn.f obj pl).1 ∧ v = (fn.f obj pl).2 := by
  simp only [Fn.iface] at h
  by_cases hcap : capped cap (fn.f obj pl).1 = true
  · rw [if_pos hcap] at h; cases h
  · rw [if_neg hcap] at h
    simp only [Except.ok.injEq] at h
    rw [h]; exact ⟨rfl, rfl⟩

theorem f_single (obj : List ℝ → ℝ) (fn : Fn ℝ) (q : NP ℝ) (k : Nat) (hq : q.name = k) (hk : k < fn.point.length) :
    (fn.f obj [q]).1.point = fn.point.set k q.p.value ∧ (fn.f obj [q]).2 = obj (fn.point.set k q.p.value) := by
  simp only [Fn.f, Fn.setParameters, matchPoint, hq]
  rw [List.getElem?_eq_getElem hk]
  simp only [own_real, and_self]

/-- the objective of the harness, searched along one unconstrained coordinate -/
theorem objective_det (obj : List ℝ → ℝ) (D : Deriv ℝ) (cap : Option Nat) (pt0 : List ℝ) (k : Nat) :
    Det (Fn.iface obj D cap) (fun x => obj (pt0.set k x)) (Along pt0 k) := by
  refine Det.of_set_direct (fun fn pl fn' pl' h1 h2 => ⟨h1.1, h2.2⟩) ?_ ?_
  · intro fn pl x fn' v hJ hx h
    obtain ⟨⟨q, rfl, hq, hp, hc⟩, hk, hl, hag⟩ := hJ
    obtain ⟨rfl, rfl⟩ := iface_f_ok obj D cap _ _ _ _ h
    have hk' : k < fn.point.length := by rw [hl]; exact hk
    obtain ⟨hpt, hval⟩ := f_single obj fn q k hq hk'
    have hqx : q.p.value = x := by simpa [value0] using hx
    rw [hqx] at hpt hval
    refine ⟨?_, ⟨_, rfl, hq, hp, hc⟩, hk, ?_, ?_⟩
    · rw [hval, set_eq_of_agree _ _ _ _ hl hag]
    · rw [hpt, List.length_set]; exact hl
    · intro i hik
      rw [hpt, List.getElem?_set_ne (Ne.symm hik)]; exact hag i hik
  · intro fn pl x pl' hJ h
    obtain ⟨⟨q, rfl, hq, hp, hc⟩, hk, hl, hag⟩ := hJ
    obtain ⟨p', hs, hv, hp', hc', _⟩ := setValue_free q.p x hp hc
    rw [setValueAt, hs] at h
    cases h
    exact ⟨⟨⟨_, rfl, hq, hp', hc'⟩, hk, hl, hag⟩, x, by simp [value0, hv], rfl⟩

/-- the start of a one-dimensional search of the harness objective along coordinate `k` through an unconstrained
parameter, under any policy: the condition of `objective_det` holds, and the list holds the parameter's value -/
theorem along_start (pol : Policy) {pt0 : List ℝ} {k : Nat} {q : NP ℝ} {fn : Fn ℝ} (hk : k < pt0.length) (hq : q.name = k)
    (hp : q.p.precision = 0) (hc : q.p.constraint = none) (hpt : fn.point = pt0) :
    Along pt0 k fn (applyPolicy pol [q]) ∧ value0 (applyPolicy pol [q]) = some q.p.value := by
  refine ⟨⟨?_, hk, by rw [hpt], fun _ _ => by rw [hpt]⟩, by cases pol <;> rfl⟩
  cases pol
  · exact ⟨q, rfl, hq, hp, hc⟩
  · exact ⟨_, rfl, hq, hp, rfl⟩
  · exact ⟨_, rfl, hq, hp, hc⟩

end Bpp.Optim
