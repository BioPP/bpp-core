import BppModel.GraphOrient
import BppProofs.Lemmas.GraphSpec
/-! Helper lemmas for `orientate` (`BppModel/GraphOrient.lean`): whatever the copy `gg` of the graph
tells the loop to do, the graph itself only undergoes `makeDirected` and `switchNodes` calls (`orientate_ind`), each
of which keeps it consistent and removes nothing. -/
namespace Bpp.Graph
namespace G
open AL

theorem orientSwitches_ind (P : G → Prop) (hP : ∀ g a b, P g → (switchNodes a b g).All P) (nb : Nat) (ins : List Nat) :
    ∀ r : OrientRun, P r.g → P (orientSwitches nb ins r).g := by
  induction ins with
  | nil => intro r h; exact h
  | cons i rest ih =>
    intro r h
    unfold orientSwitches
    have h1 := hP r.g nb i h
    rcases hr : switchNodes nb i r.g with ⟨u, g'⟩ | g' <;> rw [hr] at h1
    · exact ih _ h1
    · exact h1

theorem orientLoop_ind (P : G → Prop) (hP : ∀ g a b, P g → (switchNodes a b g).All P) (fuel : Nat) :
    ∀ (r : OrientRun) (gg : G) (next : List Nat), P r.g → P (orientLoop fuel r gg next).g := by
  induction fuel with
  | zero => intro r gg next h; exact h
  | succ fuel ih =>
    intro r gg next h
    unfold orientLoop
    split
    · exact h
    · split
      · exact h
      · split
        · exact h
        · have h1 : ∀ nb ins, P (orientSwitches nb ins r).g := fun nb ins => orientSwitches_ind P hP nb ins r h
          simp only
          split
          · exact h1 _ _
          · split
            · exact ih _ _ _ (h1 _ _)
            · exact h1 _ _

theorem orientate_ind (P : G → Prop) (hP : ∀ g a b, P g → (switchNodes a b g).All P) (g : G) (h : P g.makeDirected) :
    (orientate g).All P := by
  have : P g.orientRun.g := by unfold orientRun; exact orientLoop_ind P hP _ _ _ _ h
  unfold orientate
  simp only
  split <;> exact this

theorem orientate_consistent {g : G} (hc : Consistent g) : (orientate g).All Consistent :=
  orientate_ind Consistent (fun _ a b h => switchNodes_consistent h a b) g (makeDirected_consistent hc)

theorem orientate_notified {g : G} (hc : Consistent g) : Notified g (orientate g).state :=
  (orientate_ind (Notified g) (fun g1 a b h => .of_state (h.trans (switchNodes_notified a b g1))) g
    (makeDirected_notified hc)).state

theorem dir_orientate {g : G} (hd : g.directed = true) : (orientate g).All (fun g' => g'.directed = g.directed) := by
  apply orientate_ind
  · intro g1 a b h
    exact (dir_switchNodes g1 a b).mono (fun g' h' => h'.trans h)
  · rw [makeDirected_already hd]

end G
end Bpp.Graph
