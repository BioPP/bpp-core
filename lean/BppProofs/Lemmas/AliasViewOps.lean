import BppProofs.Lemmas.AliasKeepSync
/-! The executable clauses `namespaceOk`, `aliasOk`, `unaliasOk` of `BppModel/AliasSpec.lean` hold of
the model (C03). -/
namespace Bpp.Alias
open Bpp.ParamList (Bnd Con Par Store ObjId nameOf find? hasParameter names startsWith)

/-! ## `namespaceOk` -/

theorem namespaceOk_model {w : World} (h : Inv w) {k : Nat} {o : Obj} (ho : w.objs k = some o) (new : String) :
    ∃ o', (setNamespace w k new).w.objs k = some o' ∧
      namespaceOk new (svOf w o) (svOf (setNamespace w k new).w o') = true := by
  have hi := h.obj k o ho
  rw [setNamespace_eq ho]
  obtain ⟨_, _, _, f4, f5, _⟩ := nsWorld_facts hi new
  refine ⟨{ params := o.params, indep := o.indep, reg := o.reg, pre := new },
    by show (nsWorld w k o new).objs k = _; rw [f4]; exact if_pos rfl, ?_⟩
  rw [(nsWorld_carried hi new).view hi fun i him => by simp only [id, f5 i, him, if_true, and_self]]
  simp [namespaceOk, svOf]

/-! ## `aliasOk` -/

theorem con?_svOf (w : World) (o : Obj) (x : String) :
    (svOf w o).con? x = (find? w.heap o.params (o.pre ++ x)).map (fun i => (w.heap.get i).con) := by
  simp only [SV.con?, svOf, find?, List.find?_map, Option.map_map]
  rfl

theorem aliasOk_model {w : World} (h : Inv w) {k : Nat} {o : Obj} (ho : w.objs k = some o) {p1 p2 : String}
    (ok : (aliasPair w k p1 p2).err = none) :
    ∃ o', (aliasPair w k p1 p2).w.objs k = some o' ∧
      aliasOk p1 p2 (svOf w o) (svOf (aliasPair w k p1 p2).w o') = true := by
  have hi := h.obj k o ho
  obtain ⟨dn⟩ := aliasPair_done hi ho ok
  refine ⟨_, dn.objs, ?_⟩
  have hi' := (dn.inv h ho).obj k _ dn.objs
  generalize (aliasPair w k p1 p2).w = W at dn hi'
  have hm1 := dn.mem1
  have hm2 := dn.mem2
  have hn1 := dn.hn1
  have hn2 := dn.hn2
  have hname := dn.name
  have hval : ∀ j, (W.heap.get j).value = (w.heap.get j).value := dn.val
  obtain ⟨hc1, hc2, hc3⟩ := dn.con
  have hWL := dn.link hi
  have hlinks : ∀ x y, (x, y) ∈ linksOf W (aliasedObj o p1 p2 dn.i2 w.lnext) ↔ (x, y) = (p1, p2) ∨ (x, y) ∈ linksOf w o := by
    intro x y
    rw [mem_linksOf_iff hi', mem_linksOf_iff hi, hWL, Prod.mk.injEq, or_comm]
  have hf1 := dn.find1 hi
  have hf2 := dn.find2 hi
  have hF : ∀ n, find? W.heap o.params n = find? w.heap o.params n :=
    fun n => ParamList.find?_congr (fun i _ => hname i) n
  have k1 : ((svOf W (aliasedObj o p1 p2 dn.i2 w.lnext)).pre == (svOf w o).pre) = true := by simp [svOf]
  have k2 : ((svOf W (aliasedObj o p1 p2 dn.i2 w.lnext)).params.map (fun p => (p.name, p.value)) ==
      (svOf w o).params.map (fun p => (p.name, p.value))) = true := by
    rw [beq_iff_eq]
    simp only [svOf, List.map_map]
    apply List.map_congr_left
    intro i _
    simp only [Function.comp, hname, hval]
  have k3 : (svOf W (aliasedObj o p1 p2 dn.i2 w.lnext)).links.contains (p1, p2) = true := by
    rw [List.contains_iff_mem]
    exact (hlinks p1 p2).2 (Or.inl rfl)
  have k4 : (svOf W (aliasedObj o p1 p2 dn.i2 w.lnext)).links.all
      (fun l => l == (p1, p2) || (svOf w o).links.contains l) = true := by
    rw [List.all_eq_true]
    rintro ⟨x, y⟩ hl
    rcases (hlinks x y).1 hl with e | e
    · rw [e]; simp
    · have : (svOf w o).links.contains (x, y) = true := List.contains_iff_mem.2 e
      rw [this]; simp
  have k5 : (svOf w o).links.all (fun l => (svOf W (aliasedObj o p1 p2 dn.i2 w.lnext)).links.contains l) = true := by
    rw [List.all_eq_true]
    rintro ⟨x, y⟩ hl
    exact List.contains_iff_mem.2 ((hlinks x y).2 (Or.inr hl))
  have hnameI : ∀ i ∈ o.indep, (nameOf w.heap i != o.pre ++ p2) = (i != dn.i2) := by
    intro i hii
    by_cases e : i = dn.i2
    · subst e; simp [hn2]
    · have : nameOf w.heap i ≠ o.pre ++ p2 := fun c => e (hi.name_inj (hi.indepSub i hii) hm2 (c.trans hn2.symm))
      rw [bne_iff_ne.2 this, bne_iff_ne.2 e]
  have k6 : ((svOf W (aliasedObj o p1 p2 dn.i2 w.lnext)).indep ==
      (svOf w o).indep.filter (fun e => e.1 != (svOf w o).pre ++ p2)) = true := by
    rw [beq_iff_eq]
    simp only [svOf, List.filter_map, hname]
    congr 1
    rw [hi.indepNodup.erase_eq_filter]
    apply List.filter_congr
    intro i hii
    simp only [Function.comp]
    exact (hnameI i hii).symm
  have k7 : (!((svOf W (aliasedObj o p1 p2 dn.i2 w.lnext)).indep.any
      (fun e => e.1 == (svOf W (aliasedObj o p1 p2 dn.i2 w.lnext)).pre ++ p2))) = true := by
    rw [Bool.not_eq_true', List.any_eq_false]
    intro e he
    simp only [svOf, List.mem_map] at he
    obtain ⟨i, hie, rfl⟩ := he
    obtain ⟨hne2, hii⟩ := hi.indepNodup.mem_erase_iff.1 hie
    have := hnameI i hii
    simp only [hname, svOf]
    intro c
    rw [beq_iff_eq] at c
    rw [c] at this
    simp [hne2] at this
  have k8 : (match (svOf w o).con? p1, (svOf w o).con? p2 with
      | some c1, some c2 =>
        (svOf W (aliasedObj o p1 p2 dn.i2 w.lnext)).con? p1 == some (aliasConSpec c1 c2).1 &&
          (svOf W (aliasedObj o p1 p2 dn.i2 w.lnext)).con? p2 == some (aliasConSpec c1 c2).2
      | _, _ => false) = true := by
    have a1 : (svOf W (aliasedObj o p1 p2 dn.i2 w.lnext)).con? p1 = some (W.heap.get dn.i1).con := by
      rw [con?_svOf]; show (find? W.heap o.params (o.pre ++ p1)).map _ = _; rw [hF, hf1]; rfl
    have a2 : (svOf W (aliasedObj o p1 p2 dn.i2 w.lnext)).con? p2 = some (W.heap.get dn.i2).con := by
      rw [con?_svOf]; show (find? W.heap o.params (o.pre ++ p2)).map _ = _; rw [hF, hf2]; rfl
    have b1 : (svOf w o).con? p1 = some (w.heap.get dn.i1).con := by rw [con?_svOf, hf1]; rfl
    have b2 : (svOf w o).con? p2 = some (w.heap.get dn.i2).con := by rw [con?_svOf, hf2]; rfl
    rw [b1, b2, a1, a2, hc1, hc2]
    simp
  have k9 : (svOf W (aliasedObj o p1 p2 dn.i2 w.lnext)).params.all (fun p =>
      p.name == (svOf W (aliasedObj o p1 p2 dn.i2 w.lnext)).pre ++ p1 ||
      p.name == (svOf W (aliasedObj o p1 p2 dn.i2 w.lnext)).pre ++ p2 ||
      (svOf w o).params.any (fun q => q.name == p.name && q.con == p.con)) = true := by
    rw [List.all_eq_true]
    intro p hp
    simp only [svOf, List.mem_map] at hp
    obtain ⟨i, him, rfl⟩ := hp
    simp only [Bool.or_eq_true, beq_iff_eq, List.any_eq_true, Bool.and_eq_true]
    by_cases e1 : i = dn.i1
    · left; left; subst e1; rw [hname, hn1]; rfl
    by_cases e2 : i = dn.i2
    · left; right; subst e2; rw [hname, hn2]; rfl
    right
    refine ⟨⟨nameOf w.heap i, (w.heap.get i).value, (w.heap.get i).con⟩, ?_, ?_, ?_⟩
    · simp only [svOf, List.mem_map]; exact ⟨i, him, rfl⟩
    · exact (hname i).symm
    · show (w.heap.get i).con = (W.heap.get i).con
      rw [hc3 i e1 e2]
  simp only [aliasOk, Bool.and_eq_true]
  exact ⟨⟨⟨⟨⟨⟨⟨⟨k1, k2⟩, k3⟩, k4⟩, k5⟩, k6⟩, k7⟩, k8⟩, k9⟩

/-! ## `unaliasOk` -/

theorem unaliasOk_model {w : World} (h : Inv w) {k : Nat} {o : Obj} (ho : w.objs k = some o) {p1 p2 : String}
    (ok : (unalias w k p1 p2).err = none) :
    ∃ o', (unalias w k p1 p2).w.objs k = some o' ∧
      unaliasOk p1 p2 (svOf w o) (svOf (unalias w k p1 p2).w o') = true := by
  have hi := h.obj k o ho
  obtain ⟨_, s2⟩ := unalias_spec hi ho p1 p2
  obtain ⟨i1, i2, l0, h1, h2, he, hnot, heq⟩ := s2 ok
  obtain ⟨hm1, hn1⟩ := ParamList.find?_some h1
  obtain ⟨hm2, hn2⟩ := ParamList.find?_some h2
  have hi' := objInv_unaliased hi h1 h2 he hnot
  rw [heq]
  refine ⟨_, if_pos rfl, ?_⟩
  have hL := link_unaliased (p1 := p1) (i1 := i1) hi hm2 hn2
  generalize hW : unaliased w k o p1 p2 i1 i2 = W at hi' hL ⊢
  have hheap : W.heap = w.heap := by rw [← hW]; rfl
  have hp2 : p2 ∈ shortNames w o := (mem_shortNames hi).2 ⟨i2, hm2, hn2⟩
  have pp2 : Plain p2 := plain_of_short hi hp2
  have hsn : shortNames W (unaliasedObj o p1 p2 i2) = shortNames w o := by
    simp only [shortNames, hheap]
  have k1 : ((svOf W (unaliasedObj o p1 p2 i2)).pre == (svOf w o).pre) = true := by simp [svOf]
  have k2 : ((svOf W (unaliasedObj o p1 p2 i2)).params == (svOf w o).params) = true := by
    rw [beq_iff_eq]; simp only [svOf, hheap]
  have k3 : (svOf w o).links.contains (p1, p2) = true := by
    rw [List.contains_iff_mem]
    exact (mem_linksOf_iff hi).2 ((key_iff hi pp2).1 (List.mem_map.2 ⟨_, he, rfl⟩))
  have k4 : ((svOf W (unaliasedObj o p1 p2 i2)).links == (svOf w o).links.filter (fun l => l != (p1, p2))) = true := by
    rw [beq_iff_eq]
    exact linksOf_filter hi hi' hsn _ fun x y => by rw [hL, bne_iff_ne, Ne, Prod.mk.injEq]
  have k5 : ((svOf W (unaliasedObj o p1 p2 i2)).indep.map (·.1) ==
      (svOf w o).indep.map (·.1) ++ [(svOf w o).pre ++ p2]) = true := by
    rw [beq_iff_eq]
    simp only [svOf, hheap, List.map_append, List.map_map, List.map_cons, List.map_nil, hn2]
  have k6 : (svOf W (unaliasedObj o p1 p2 i2)).indep.all (fun e => match e.2 with
      | some pos => ((svOf W (unaliasedObj o p1 p2 i2)).params[pos]?).map (·.name) == some e.1
      | none => false) = true := by
    rw [List.all_eq_true]
    intro e hem
    simp only [svOf, List.mem_map] at hem
    obtain ⟨i, hii, rfl⟩ := hem
    have him : i ∈ o.params := hi'.indepSub i hii
    obtain ⟨pos, hpos⟩ := hi.exists_pos him
    have hf : o.params.findIdx? (fun j => j == i) = some pos := findIdx?_nodup hi.idsNodup hpos
    simp only [svOf, hf, List.getElem?_map, hpos, Option.map_some, beq_self_eq_true]
  simp only [unaliasOk, Bool.and_eq_true]
  exact ⟨⟨⟨⟨⟨k1, k2⟩, k3⟩, k4⟩, k5⟩, k6⟩

end Bpp.Alias
