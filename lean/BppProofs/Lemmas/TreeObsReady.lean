import BppProofs.Lemmas.TreeObs
import BppProofs.Lemmas.TreeBasic
/-! Helper lemmas for the liveness theorem `setFather_succeeds` of `Props/C15ObsReady.lean`: under the executable
precondition `TW.setFatherReady` the graph-level `setFatherG` goes through, and the observer it leaves behind has
the edge object free and nothing attached to the fresh edge id. -/
namespace Bpp
namespace Graph
open AL

/-! ### the observer after the unlink notification -/

/-- an object that was free stays free -/
theorem deletedEdge_find_none {o : Obs} (e : Nat) {y : Nat} (h : find y o.Eg = none) :
    find y (o.deletedEdge e).Eg = none := by
  rw [deletedEdge_find]
  split
  · rfl
  · exact h

/-- the object of the deleted edge is free afterwards -/
theorem deletedEdge_find_self {o : Obs} {e x : Nat} (h : o.edgeFromGid e = some x) :
    find x (o.deletedEdge e).Eg = none := by
  rw [deletedEdge_find, if_pos h]

/-- nothing is attached to an id the graph has not given out yet -/
theorem edgeFromGid_fresh {w : World} (hw : WInv w) {k : Nat} {o : Obs} (hk : w.getObs k = some o) {e : Nat}
    (he : w.g.nextEdge ≤ e) : o.edgeFromGid e = none := by
  have hi := hw.obs k o hk
  rcases hx : o.edgeFromGid e with _ | y
  · rfl
  · exfalso
    unfold Obs.edgeFromGid at hx
    split at hx
    · cases hx
    · have hf := hi.edges.fwd e y hx
      have := hw.graph.edge_lt e (hi.e_live y e hf)
      omega

/-! ### the graph-level phases go through -/

theorem outE_none_of_inE {g : G} (hc : Consistent g) {a b : Nat} (h : g.inE b a = none) : g.outE a b = none := by
  rcases ho : g.outE a b with _ | e
  · rfl
  · have := (G.cons_out_some hc ho).1
    rw [h] at this; cases this

namespace TW

theorem liftW_fst_of_ok {α : Type} (tw : TW) {r : GOut α} {a : α} {g' : G} (h : r = .ok a g') :
    (tw.liftW r).1 = .ok a { g' with pending := [] } := by
  subst h; rfl

/-- **`setFatherG` goes through** on a live father and a node with at most one incoming neighbour; every observer
is left with nothing attached to the fresh edge id, and is the former one (no father) or the former one told about
the deletion of the edge to the former father -/
theorem setFatherG_succeeds {tw : TW} (hw : WInv tw.w) {n f : Nat} (hf : tw.w.g.hasNode f = true)
    {l : List Nat} (hl : tw.w.g.inNeighbors n = some l) (hlen : l.length ≤ 1) :
    ∃ u gq, (tw.setFatherG n f).1 = .ok u gq ∧
      ∀ k o, tw.w.getObs k = some o → ∃ o1, (tw.setFatherG n f).2.w.getObs k = some o1 ∧
        o1.edgeFromGid tw.w.g.nextEdge = none ∧
        ((T.edgeToFather tw.w.g n = none ∧ o1 = o) ∨
          ∃ e0, T.edgeToFather tw.w.g n = some e0 ∧ o1 = o.deletedEdge e0) := by
  obtain ⟨hn, hkeys⟩ := G.inNeighbors_some hl
  have hhf : T.hasFather tw.w.g n = some (decide (l.length ≥ 1)) := by rw [T.hasFather_eq, if_pos hn, hkeys]
  obtain ⟨t1, heq, hw1, hin1, hN1, hne1, hst⟩ := setFatherG_eq hw hf hhf (fun hb => by
    rw [T.father_eq, if_pos hn, ← hkeys]
    match l, hlen, hb with
    | [old], _, _ => exact ⟨old, rfl⟩)
  -- the link on the container in between goes through
  have hlk := G.link_ok_of ((hN1 f).trans hf) ((hN1 n).trans hn) (outE_none_of_inE hw1.graph (hin1 f))
  generalize G.linkWrite f n _ _ = g2 at hlk
  have hok : (t1.addSonG f n).1 = .ok () { g2 with pending := [] } := by
    rw [addSonG, touch_fst]; simp [unit, liftW_fst_of_ok t1 hlk, GOut.forget]
  obtain ⟨_, hobs⟩ := addSonG_ok hw1 hin1 hok
  rw [heq]
  refine ⟨(), _, hok, fun k o hk => ?_⟩
  rcases hst with ⟨hnone, rfl⟩ | ⟨e0, hsome, _, _, hobs1⟩
  · exact ⟨o, (hobs k).trans hk, edgeFromGid_fresh hw hk (Nat.le_refl _), .inl ⟨hnone, rfl⟩⟩
  · exact ⟨_, (hobs k).trans (hobs1 k o hk), edgeFromGid_fresh hw1 (hobs1 k o hk) (Nat.le_of_eq hne1), .inr ⟨e0, hsome, rfl⟩⟩

/-- the object-level `setFather` with an edge object goes through once its three stages do: the refusal test lets the
object pass, the graph-level `setFatherG` succeeds, and `associateEdge` finds the object free and the new edge bare -/
theorem setFather_ok_of {tw : TW} {k : Nat} {a f x : Obj} {o o1 : Obs} {ia ifa e : Nat} {u : Unit} {gq : G}
    (hk : tw.w.getObs k = some o) (ha : find a o.Ng = some ia) (hf : find f o.Ng = some ifa)
    (href : ∀ ex, find x o.Eg = some ex → T.hasFather tw.w.g ia = some true ∧ T.edgeToFather tw.w.g ia = some ex)
    (hok : (tw.setFatherG ia ifa).1 = .ok u gq)
    (he : (tw.setFatherG ia ifa).2.w.g.getEdge ifa ia = some e)
    (hk1 : (tw.setFatherG ia ifa).2.w.getObs k = some o1)
    (hx1 : o1.hasEdge x = false) (hlive : (tw.setFatherG ia ifa).2.w.g.hasEdge e = true)
    (hfresh : o1.edgeFromGid e = none) :
    (tw.setFather k a f (some x)).1 = .ok := by
  have hofg : ofG (tw.setFatherG ia ifa) = (.ok, (tw.setFatherG ia ifa).2) := by unfold ofG; rw [hok]
  have hass : ∃ o2, World.associateEdge (tw.setFatherG ia ifa).2.w.g o1 x e = .ok o2 := by
    unfold World.associateEdge
    simp [hx1, hlive, hfresh]
  obtain ⟨o2, hass⟩ := hass
  unfold setFather
  simp only [hk, ha, hf]
  rcases hfx : find x o.Eg with _ | ex
  · simp only [hofg, he, hk1, hass]
  · obtain ⟨h1, h2⟩ := href ex hfx
    simp only [h1, h2, ne_eq, not_true_eq_false, decide_false, hofg, he, hk1, hass]

end TW
end Graph
end Bpp
