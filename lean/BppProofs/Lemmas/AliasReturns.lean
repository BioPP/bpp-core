import BppProofs.Lemmas.AliasCheck
/-! C03: an update whose value is accepted by every parameter it reaches through the
listeners *returns*; the tracking theorems can therefore be stated under the property's input guard
("values inside the (intersected) constraints") instead of the output condition `err = none`.  Then what
`history_keeps_sync` (`Props/C03Hist.lean`) needs besides: `AllSynced` read on the view, hence kept on the
slots an operation does not name, and kept by the bulk form. -/
namespace Bpp.Alias
open Bpp.ParamList (Bnd Con Par Store ObjId nameOf find? hasParameter names startsWith)

/-- a listener attached to `a` writes to `b` -/
def Edge (w : World) (a b : ObjId) : Prop := ∃ l ∈ w.lsn a, tgt w l = some b

/-- `t` is `i` or is reached from `i` through listeners (a chain of aliases of any length) -/
def Reach (w : World) : ObjId → ObjId → Prop := Relation.ReflTransGen (Edge w)

theorem Edge.sameBut {w w' : World} (s : SameBut w w') {a b : ObjId} : Edge w' a b ↔ Edge w a b := by
  simp only [Edge, s.lsn, s.tgt]

theorem Reach.sameBut {w w' : World} (s : SameBut w w') {a b : ObjId} : Reach w' a b ↔ Reach w a b := by
  have : Edge w' = Edge w := by funext a b; exact propext (Edge.sameBut s)
  simp only [Reach, this]

/-- what can make `Parameter::setValue(v)` raise at parameter `x`: its constraint rejects `v`
(`ConstraintException`), or a listener attached to it finds another name than it expects at its
position (`Exception` of `parameterValueChanged`) -/
def Bad (w : World) (v : Rat) (e : Err) (x : ObjId) : Prop :=
  ((w.heap.get x).rejects v = true ∧ e = .constraint) ∨
  (e = .bpp ∧ ∃ l ∈ w.lsn x, ∃ t, tgt w l = some t ∧ nameOf w.heap t ≠ (w.lis l).name)

theorem Bad.sameBut {w w' : World} (s : SameBut w w') {v : Rat} {e : Err} {x : ObjId} : Bad w' v e x ↔ Bad w v e x := by
  simp only [Bad, s.rejects, s.lsn, s.tgt, s.nameOf, s.lis]

theorem fireList_bad {k : World → ObjId → Rat → WR} {v : Rat}
    (hk : ∀ w t u, (k w t u).err = none → Step u w (k w t u).w ∧ val (k w t u).w t = u)
    (hb : ∀ w t e, (k w t v).err = some e → e ≠ .hang → e ≠ .ub → ∃ x, Reach w t x ∧ Bad w v e x) (src : ObjId) :
    ∀ (ls : List Nat) (w : World), val w src = v → ∀ e, (fireList k src w ls).err = some e → e ≠ .hang → e ≠ .ub →
      (e = .bpp ∧ ∃ l ∈ ls, ∃ t, tgt w l = some t ∧ nameOf w.heap t ≠ (w.lis l).name) ∨
      (∃ l ∈ ls, ∃ t, tgt w l = some t ∧ ∃ x, Reach w t x ∧ Bad w v e x) := by
  refine fireList_ind (P := fun w ls r => val w src = v → ∀ e, r.err = some e → e ≠ .hang → e ≠ .ub →
      (e = .bpp ∧ ∃ l ∈ ls, ∃ t, tgt w l = some t ∧ nameOf w.heap t ≠ (w.lis l).name) ∨
      (∃ l ∈ ls, ∃ t, tgt w l = some t ∧ ∃ x, Reach w t x ∧ Bad w v e x))
    (fun _ _ _ he => nomatch he) (fun _ _ _ _ _ e he _ h2 => by cases he; exact absurd rfl h2)
    (fun w l _ t ht hn _ e he _ _ => by cases he; exact Or.inl ⟨rfl, l, List.mem_cons_self .., t, ht, hn⟩)
    (fun w l _ t e' ht _ hr hv e he h1 h2 => ?_) (fun w l _ t _ _ hr ih hv e he h1 h2 => ?_)
  · subst hv; cases he
    exact Or.inr ⟨l, List.mem_cons_self .., t, ht, hb w t e' hr h1 h2⟩
  · subst hv
    obtain ⟨s1, _⟩ := hk w t _ hr
    have sb := s1.toSameBut
    rcases ih ((s1.onlyV src).elim id id) e he h1 h2 with ⟨hb', l', hl', t', ht', hn'⟩ | ⟨l', hl', t', ht', x, hx, hbad⟩
    · exact Or.inl ⟨hb', l', List.mem_cons_of_mem _ hl', t', by rw [← sb.tgt]; exact ht', by rw [← sb.nameOf, ← sb.lis]; exact hn'⟩
    · exact Or.inr ⟨l', List.mem_cons_of_mem _ hl', t', by rw [← sb.tgt]; exact ht', x, (Reach.sameBut sb).1 hx,
        (Bad.sameBut sb).1 hbad⟩

/-- **why `Parameter::setValue` raises**: whenever `setValue(v)` on `i` ends in an exception (other than
the model's two impossible outcomes), some parameter reached from `i` through listeners rejects `v`
or carries a listener whose name check fails -/
theorem setV_bad : ∀ (f : Nat) (w : World) (i : ObjId) (v : Rat) (e : Err), (setV f w i v).err = some e →
    e ≠ .hang → e ≠ .ub → ∃ x, Reach w i x ∧ Bad w v e x
  | 0, w, i, v, e, he, h1, _ => by simp only [setV] at he; cases he; exact absurd rfl h1
  | f + 1, w, i, v, e, he, h1, h2 => by
    simp only [setV] at he
    by_cases hsame : v = (w.heap.get i).value
    · simp [hsame] at he
    simp only [hsame, if_false] at he
    by_cases hrej : (w.heap.get i).rejects v = true
    · simp only [hrej, if_true] at he
      cases he
      exact ⟨i, Relation.ReflTransGen.refl, Or.inl ⟨hrej, rfl⟩⟩
    simp only [hrej, Bool.false_eq_true, if_false] at he
    have sb := sameBut_putValue w i v
    have hvi : val (w.putValue i v) i = v := by simp [val, World.putValue, Store.get, Store.put]
    rcases fireList_bad (fun w t u => setV_step f w t u) (fun w t e he => setV_bad f w t v e he) i (w.lsn i) _ hvi e he h1 h2
      with ⟨hb', l, hl, t, ht, hn⟩ | ⟨l, hl, t, ht, x, hx, hbad⟩
    · refine ⟨i, Relation.ReflTransGen.refl, Or.inr ⟨hb', l, hl, t, by rw [← sb.tgt]; exact ht, ?_⟩⟩
      rw [← sb.nameOf, ← sb.lis]; exact hn
    · refine ⟨x, Relation.ReflTransGen.head ⟨l, hl, by rw [← sb.tgt]; exact ht⟩ ((Reach.sameBut sb).1 hx), (Bad.sameBut sb).1 hbad⟩

theorem Reach.mem {w : World} {k : Nat} {o : Obj} (h : ObjInv w k o) (ho : w.objs k = some o) {i x : ObjId}
    (hi : i ∈ o.params) (hr : Reach w i x) : x ∈ o.params := by
  induction hr with
  | refl => exact hi
  | tail _ he ih =>
    obtain ⟨l, hl, ht⟩ := he
    exact h.closed ho _ ih l hl _ ht

/-- in an object satisfying the invariant the name check of `parameterValueChanged` never fails -/
theorem ObjInv.nameCheck {w : World} {k : Nat} {o : Obj} (h : ObjInv w k o) (ho : w.objs k = some o) {x : ObjId}
    (hx : x ∈ o.params) {l : Nat} (hl : l ∈ w.lsn x) {t : ObjId} (ht : tgt w l = some t) :
    nameOf w.heap t = (w.lis l).name := by
  obtain ⟨hreg, _⟩ := h.lsnOk x hx l hl
  obtain ⟨_, _, r3, _, ⟨t', y, ht', htn, hnm, _⟩⟩ := h.regOk _ hreg
  simp only at r3 ht' hnm
  simp only [tgt, r3, ho] at ht
  rw [ht] at ht'; cases ht'
  rw [htn, hnm]

/-- **update_returns, one write**: in an object satisfying the invariant, `Parameter::setValue(v)` on one
of its parameters returns normally when every parameter reached through the listeners accepts `v`
(the value is inside the constraints of the parameter and of everything that follows it) — and it can
only raise `ConstraintException` otherwise -/
theorem setValue_returns {w : World} (h : Inv w) {k : Nat} {o : Obj} (ho : w.objs k = some o) {i : ObjId}
    (hi : i ∈ o.params) (v : Rat) :
    ((∀ t, Reach w i t → (w.heap.get t).rejects v = false) → (setValue w i v).err = none) ∧
    (∀ e, (setValue w i v).err = some e → e = .constraint ∧ ∃ t, Reach w i t ∧ (w.heap.get t).rejects v = true) := by
  have hob := h.obj k o ho
  have key : ∀ e, (setValue w i v).err = some e → e = .constraint ∧ ∃ t, Reach w i t ∧ (w.heap.get t).rejects v = true := by
    intro e he
    have h1 : e ≠ .hang := fun hh => setValue_no_hang w i v h.paramsValid (hob.valid i hi) (hh ▸ he)
    have h2 : e ≠ .ub := fun hh => setValue_no_ub (S := fun j => j ∈ o.params) w i v hi (hob.tgtOk ho) (hh ▸ he)
    obtain ⟨x, hx, hbad⟩ := setV_bad _ w i v e he h1 h2
    rcases hbad with ⟨hr, hc⟩ | ⟨_, l, hl, t, ht, hn⟩
    · exact ⟨hc, x, hx, hr⟩
    · exact absurd (hob.nameCheck ho (hx.mem hob ho hi) hl ht) hn
  refine ⟨fun hacc => ?_, key⟩
  cases he : (setValue w i v).err with
  | none => rfl
  | some e =>
    obtain ⟨_, t, ht, hr⟩ := key e he
    rw [hacc t ht] at hr; cases hr

/-! ## The four update routes under the input guard -/

/-- the property's input guard for writing `v` to `i`: `v` lies inside the constraint of `i` and of every
parameter that follows `i`, directly or through a chain -/
def AcceptedBelow (w : World) (i : ObjId) (v : Rat) : Prop := ∀ t, Reach w i t → (w.heap.get t).rejects v = false

theorem AcceptedBelow.sameBut {w w' : World} (s : SameBut w w') {i : ObjId} {v : Rat} (a : AcceptedBelow w i v) :
    AcceptedBelow w' i v := fun t ht => by rw [s.rejects]; exact a t ((Reach.sameBut s).1 ht)

/-- every entry of the source that names a parameter of the object gives it a value accepted below it -/
def GuardSome (w : World) (o : Obj) (src : List (String × Rat)) : Prop :=
  ∀ e ∈ src, ∀ t, find? w.heap o.params e.1 = some t → AcceptedBelow w t e.2

/-- the source names every parameter of the object and gives it a value accepted below it -/
def GuardAll (w : World) (o : Obj) (src : List (String × Rat)) : Prop :=
  ∀ i ∈ o.params, ∃ v, srcFind? src (nameOf w.heap i) = some v ∧ AcceptedBelow w i v

theorem checkSome_guard {w : World} {o : Obj} : ∀ (src : List (String × Rat)), GuardSome w o src → checkSome w o.params src = none
  | [], _ => rfl
  | (n, v) :: rest, hg => by
    have hr : GuardSome w o rest := fun e he => hg e (List.mem_cons_of_mem _ he)
    simp only [checkSome]
    cases hf : find? w.heap o.params n with
    | none => exact checkSome_guard rest hr
    | some t =>
      simp only [hg (n, v) (List.mem_cons_self ..) t hf t Relation.ReflTransGen.refl, Bool.false_eq_true, if_false]
      exact checkSome_guard rest hr

theorem applySome_returns {k : Nat} {o : Obj} : ∀ (src : List (String × Rat)) (w : World), Inv w → w.objs k = some o →
    GuardSome w o src → (applySome o.params w src).err = none
  | [], _, _, _, _ => rfl
  | (n, v) :: rest, w, h, ho, hg => by
    have hr : GuardSome w o rest := fun e he => hg e (List.mem_cons_of_mem _ he)
    simp only [applySome]
    cases hf : find? w.heap o.params n with
    | none => exact applySome_returns rest w h ho hr
    | some t =>
      have hret := (setValue_returns h ho (ParamList.find?_some hf).1 v).1 (hg (n, v) (List.mem_cons_self ..) t hf)
      simp only [hret]
      have sb := setValue_sameBut w t v
      refine applySome_returns rest _ (h.sameShape sb.sameShape) (by rw [sb.objs]; exact ho) ?_
      intro e he t' ht'
      rw [sb.find?] at ht'
      exact (hr e he t' ht').sameBut sb

theorem matchSome_returns {k : Nat} {o : Obj} : ∀ (src : List (String × Rat)) (w : World), Inv w → w.objs k = some o →
    GuardSome w o src → (matchSome o.params w src).1.err = none
  | [], _, _, _, _ => rfl
  | (n, v) :: rest, w, h, ho, hg => by
    have hr : GuardSome w o rest := fun e he => hg e (List.mem_cons_of_mem _ he)
    simp only [matchSome]
    cases hf : find? w.heap o.params n with
    | none => exact matchSome_returns rest w h ho hr
    | some t =>
      simp only []
      by_cases hne : (w.heap.get t).value ≠ v
      · rw [if_pos hne]
        have hret := (setValue_returns h ho (ParamList.find?_some hf).1 v).1 (hg (n, v) (List.mem_cons_self ..) t hf)
        simp only [hret]
        have sb := setValue_sameBut w t v
        refine matchSome_returns rest _ (h.sameShape sb.sameShape) (by rw [sb.objs]; exact ho) ?_
        intro e he t' ht'
        rw [sb.find?] at ht'
        exact (hr e he t' ht').sameBut sb
      · rw [if_neg hne]
        exact matchSome_returns rest w h ho hr

theorem applyAll_returns {k : Nat} {o : Obj} {src : List (String × Rat)} : ∀ (l : List ObjId) (w : World), Inv w →
    w.objs k = some o → (∀ i ∈ l, i ∈ o.params) → GuardAll w o src → (applyAll src w l).err = none
  | [], _, _, _, _, _ => rfl
  | i :: rest, w, h, ho, hl, hg => by
    obtain ⟨v, hv, hacc⟩ := hg i (hl i (List.mem_cons_self ..))
    simp only [applyAll, hv]
    have hret := (setValue_returns h ho (hl i (List.mem_cons_self ..)) v).1 hacc
    simp only [hret]
    have sb := setValue_sameBut w i v
    refine applyAll_returns rest _ (h.sameShape sb.sameShape) (by rw [sb.objs]; exact ho)
      (fun j hj => hl j (List.mem_cons_of_mem _ hj)) ?_
    intro j hj
    obtain ⟨v', hv', hacc'⟩ := hg j hj
    exact ⟨v', by rw [sb.nameOf]; exact hv', hacc'.sameBut sb⟩

theorem checkAll_guard {w : World} {o : Obj} {src : List (String × Rat)} (hg : GuardAll w o src) :
    ∀ (l : List ObjId), (∀ i ∈ l, i ∈ o.params) → checkAll w src l = none
  | [], _ => rfl
  | i :: rest, hl => by
    obtain ⟨v, hv, hacc⟩ := hg i (hl i (List.mem_cons_self ..))
    simp only [checkAll, hv, hacc i Relation.ReflTransGen.refl, Bool.false_eq_true, if_false]
    exact checkAll_guard hg rest (fun j hj => hl j (List.mem_cons_of_mem _ hj))

/-- **update_returns**: in a world satisfying the invariant (every reachable world), each of the four
update routes returns normally when the values it is given lie inside the constraints of the
parameters they are written to and of all the parameters that follow those (the property's input
guard) — no `ConstraintException`, no `Exception` from a listener's name check, no
`ParameterNotFoundException` -/
theorem update_returns {w : World} (h : Inv w) {k : Nat} {o : Obj} (ho : w.objs k = some o) :
    (∀ n v i, find? w.heap o.params (o.pre ++ n) = some i → AcceptedBelow w i v → (apSetParameterValue w k n v).err = none) ∧
    (∀ src, GuardSome w o src → (apSetParametersValues w k src).err = none) ∧
    (∀ src, GuardSome w o src → (apMatchParametersValues w k src).1.err = none) ∧
    (∀ src, GuardAll w o src → (apSetAllParametersValues w k src).err = none) := by
  refine ⟨fun n v i hf hacc => ?_, fun src hg => ?_, fun src hg => ?_, fun src hg => ?_⟩
  · rw [apSetParameterValue_found ho hf]
    exact (setValue_returns h ho (ParamList.find?_some hf).1 v).1 hacc
  · simp only [apSetParametersValues, ho, setParametersValues, checkSome_guard src hg]
    exact applySome_returns src w h ho hg
  · simp only [apMatchParametersValues, ho, matchParametersValues, checkSome_guard src hg]
    exact matchSome_returns src w h ho hg
  · simp only [apSetAllParametersValues, ho, setAllParametersValues, checkAll_guard hg o.params (fun i hi => hi)]
    exact applyAll_returns o.params w h ho (fun i hi => hi) hg

/-- … and the only exceptions `setParameterValue` can raise are `ParameterNotFoundException` (unknown
name) and `ConstraintException` (a parameter at or below the named one rejects the value) -/
theorem setParameterValue_raises {w : World} (h : Inv w) {k : Nat} {o : Obj} (ho : w.objs k = some o) (n : String) (v : Rat)
    {e : Err} (he : (apSetParameterValue w k n v).err = some e) :
    (e = .notfound ∧ find? w.heap o.params (o.pre ++ n) = none) ∨
    (e = .constraint ∧ ∃ i t, find? w.heap o.params (o.pre ++ n) = some i ∧ Reach w i t ∧ (w.heap.get t).rejects v = true) := by
  cases hf : find? w.heap o.params (o.pre ++ n) with
  | none => simp only [apSetParameterValue, ho, setParameterValue, hf] at he; cases he; exact Or.inl ⟨rfl, rfl⟩
  | some i =>
    rw [apSetParameterValue_found ho hf] at he
    obtain ⟨hc, t, ht, hr⟩ := (setValue_returns h ho (ParamList.find?_some hf).1 v).2 e he
    exact Or.inr ⟨hc, i, t, rfl, ht, hr⟩

/-! ## Links in sync, read on the view -/

/-- the Boolean `allSynced` of the view says exactly that every registered link is in sync -/
theorem allSynced_view {w : World} {k : Nat} {o : Obj} (h : ObjInv w k o) (ho : w.objs k = some o) :
    (svOf w o).allSynced = true ↔ AllSynced w o := by
  rw [allSynced_iff h ho]
  simp only [SV.allSynced, List.all_eq_true]
  constructor
  · intro hv s t lk
    obtain ⟨x, y, l, hsm, htm, hs, ht⟩ := (lk_iff h ho).1 lk
    have := hv (x, y) ((mem_linksOf_iff h).2 l)
    simp only [SV.synced, value?_svOf, (find?_iff h.nodup).2 ⟨hsm, hs⟩, (find?_iff h.nodup).2 ⟨htm, ht⟩,
      Option.map_some, beq_iff_eq, Option.some.injEq] at this
    exact this.symm
  · intro hall l hl
    obtain ⟨x, y⟩ := l
    obtain ⟨s, t, hs, ht, lk⟩ := ((mem_linksOf_iff h).1 hl).lk h ho
    simp only [SV.synced, value?_svOf, hs, ht, Option.map_some, beq_iff_eq, Option.some.injEq]
    exact (hall s t lk).symm

/-- every object of the world has all its links in sync -/
def WSynced (w : World) : Prop := ∀ k o, w.objs k = some o → AllSynced w o

/-- an operation on another slot leaves the links of this object as they are -/
theorem allSynced_frame {w : World} (h : Inv w) (op : Op) (hwf : op.wf w) {j : Nat} (hj : j ≠ op.slot) (hs : WSynced w)
    {o' : Obj} (ho' : (step w op).1.objs j = some o') : AllSynced (step w op).1 o' := by
  have hI : Inv (step w op).1 := inv_step h op hwf
  have hfr := step_view_frame h op hwf j hj
  rw [ho'] at hfr
  cases ho : w.objs j with
  | none => rw [ho] at hfr; cases hfr
  | some o =>
    rw [ho] at hfr
    simp only [Option.map_some, Option.some.injEq] at hfr
    rw [← allSynced_view (hI.obj j o' ho') ho', hfr, allSynced_view (h.obj j o ho) ho]
    exact hs j o ho

/-- **after the bulk form (empty namespace, normal return) every link of the object is in sync, if every
link of before was**: the links are those of before (tracked across the call) and those of the map
(given their source's value) -/
theorem bulkAlias_allSynced {w : World} (h : Inv w) {k : Nat} {o : Obj} (ho : w.objs k = some o) (hpre : o.pre = "")
    (hsy : AllSynced w o) (es : List (String × String)) (ok : (bulkAlias w k es).err = none) :
    ∀ o', (bulkAlias w k es).w.objs k = some o' → AllSynced (bulkAlias w k es).w o' := by
  have hi := h.obj k o ho
  have hsy' := (allSynced_iff hi ho).1 hsy
  revert ok
  refine bulkAlias_of h ho es (P := fun r => r.err = none → ∀ o', r.w.objs k = some o' → AllSynced r.w o')
    (fun D W p => ⟨fun _ _ ok => (nomatch ok), fun _ o1 ho1 ok => ?_⟩)
  have m := p.wired h
  obtain ⟨o1', ho1', _, hq, hl⟩ := m.obj o ho
  have e1 : o1 = o1' := Option.some.inj (ho1.symm.trans ho1')
  subst e1
  have hi1 := (p.inv h).obj k o1 ho1
  obtain ⟨tr, hsyn⟩ := tr_syncLinks _ _ hi1 ho1 (hq.trans hpre) (fun e he => (hl _ _).2 (Or.inr he)) ok
  have sb := tr.sb
  intro o' ho'
  rw [sb.objs, ho1] at ho'; cases ho'
  refine (allSynced_iff (hi1.transport sb) (by rw [sb.objs]; exact ho1)).2 fun s t lk => ?_
  have lk1 := (Lk.sameBut sb).1 lk
  rcases (m.lk hi ho hi1 ho1 s t).1 lk1 with hold | ⟨e, he, _, _, hs, ht⟩
  · exact tr.keep s t lk1 (fun x => x) (Or.inr (by rw [m.val, m.val]; exact hsy' s t hold))
  · simp only [hpre, String.empty_append] at hs ht
    exact hsyn e he s t lk1 (by rw [m.name]; exact hs) (by rw [m.name]; exact ht)

end Bpp.Alias
