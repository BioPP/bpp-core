import BppProofs.Lemmas.NumDerivSteps
/-!
C12 helper lemmas: probes that go through.  When the wrapped function's side carries no
constraint (`FreeFn`) and the objective stays below `VERY_BIG` at the probed points (`BoundedNear`),
a probe accepted by the constraint its parameter was passed with leaves the wrapped function exactly
at the base point with that one coordinate moved, and one refused by it changes nothing.  From this:
the outcome of the retry loops by the number of refused tries, and of an iteration of each scheme by
the path it takes.
-/
namespace Bpp.NumDeriv
open Bpp Bpp.Scalar

/-- the wrapped function's side is unconstrained (the caller's list may carry constraints); that `f`
stays below `VERY_BIG` at the accepted probes is the separate, local hypothesis `BoundedNear` -/
structure FreeFn (f : List ℝ → ℝ) (params B : PList ℝ) : Prop where
  ctx : Ctx params B
  nocon : ∀ b ∈ B, b.con = none

/-- the nominal situation of one `updateDerivatives`: no constraint on the wrapped function's side,
no constraint and no precision on the parameters of the list that was passed.  (`f` is a parameter
only for uniformity of the statements; that `f` is not "too large" where the two- and three-point
schemes test it is the separate, local hypothesis `BoundedNear`.) -/
structure Free (f : List ℝ → ℝ) (params B : PList ℝ) : Prop where
  ctx : Ctx params B
  nocon : ∀ b ∈ B, b.con = none
  pfree : ∀ q ∈ params, q.con = none ∧ q.prec = 0

theorem Free.freeFn {f : List ℝ → ℝ} {params B : PList ℝ} (h : Free f params B) : FreeFn f params B := ⟨h.ctx, h.nocon⟩

/-- a parameter of a list without constraints and precisions: precision 0, and every value is accepted -/
theorem Free.accepts {f : List ℝ → ℝ} {params B : PList ℝ} (h : Free f params B) {v : Name} {qv : Param ℝ}
    (hqv : find? params v = some qv) : qv.prec = 0 ∧ ∀ x, qv.violates x = false :=
  ⟨(h.pfree qv (find?_some hqv).1).2, fun x => by unfold Param.violates; rw [(h.pfree qv (find?_some hqv).1).1]⟩

/-- `|f| < VERY_BIG` (and `f` not NaN) where the two- and three-point schemes test it
(Two:20, 73; Three:20, 75, 113): at the base point `B` and, along each coordinate, within one step
`H = (1 + |x|) |h|` of the base value (the probes are at `x ∓ H`, `x ∓ H/2`, …).  Local: a
non-constant polynomial satisfies it when its values on these segments are below 1.7e23.  The
five-point scheme and the cross-derivative block have no such test. -/
structure BoundedNear (f : List ℝ → ℝ) (B : PList ℝ) (hh : ℝ) : Prop where
  base : tooBig (f (values B)) = false
  line : ∀ var b, find? B var = some b → ∀ x, |x - b.value| ≤ (1 + |b.value|) * |hh| →
    tooBig (f (values (upd1 B var x))) = false

theorem violates_nocon (p : Param ℝ) (h : p.con = none) (x : ℝ) : p.violates x = false := by
  unfold Param.violates; rw [h]

/-- without constraints every point is feasible -/
theorem feas_of_nocon {l : PList ℝ} (h : ∀ p ∈ l, p.con = none) : Feas l := fun p hp => violates_nocon p (h p hp) _

theorem anyViolation_nocon (own pl : PList ℝ) (h : ∀ p ∈ own, p.con = none) : anyViolation own pl = false := by
  unfold anyViolation
  rw [List.any_eq_false]
  intro q _
  cases hf : find? own q.name with
  | none => simp
  | some p => simp [violates_nocon p (h p (find?_some hf).1)]

theorem Skel.nocon {l ref : PList ℝ} (h : Skel l ref) (hn : ∀ b ∈ ref, b.con = none) : ∀ p ∈ l, p.con = none := by
  unfold Skel at h
  induction h with
  | nil => intro p hp; cases hp
  | @cons a c l1 l2 hac _ ih =>
    intro p hp
    rcases List.mem_cons.mp hp with rfl | hp'
    · rw [hac.2.2]; exact hn c (List.mem_cons_self ..)
    · exact ih (fun x hx => hn x (List.mem_cons_of_mem _ hx)) p hp'

theorem Dev.nocon {B l : PList ℝ} {S : Name → Prop} (h : Dev B l S) (hn : ∀ b ∈ B, b.con = none) :
    ∀ p ∈ l, p.con = none := h.skel.nocon hn

/-- after a probe that went through, the wrapped function is exactly at the base point with `var`
moved to the probe value -/
theorem updL_dev_eq {params B l : PList ℝ} (hc : Ctx params B) (var : Name) (q0 : Param ℝ) (rest : PList ℝ)
    (hq0 : q0.name = var) (hrest : ∀ q ∈ rest, q ∈ params)
    (hD : Dev B l (fun n => n = var ∨ n ∈ names rest)) :
    updL (q0 :: rest) l = upd1 B var q0.value := by
  unfold updL upd1
  refine hD.map_eq _ _ (fun p b hb hs hv => ?_)
  by_cases e : b.name = var
  · rw [find?_cons_eq q0 rest p.name (by rw [hq0, hs.1, e]), if_pos e]
    exact hs.with_value _
  · rw [find?_cons_ne q0 rest p.name (by rw [hq0, hs.1]; exact fun x => e x.symm), if_neg e]
    cases hf : find? rest p.name with
    | none =>
      exact hs.eq_of_value (hv (by
        rintro (h | h)
        · exact e h
        · exact find?_none hf (hs.1 ▸ h)))
    | some q =>
      have hq := find?_some hf
      simp only []
      rw [← hc.sync q (hrest q hq.1) b hb (by rw [hq.2, hs.1])]
      exact hs.with_value _

theorem dev_upd1 (B : PList ℝ) (var : Name) (y : ℝ) : Dev B (upd1 B var y) (fun n => n = var) := by
  unfold Dev upd1
  induction B with
  | nil => exact List.Forall₂.nil
  | cons a r ih =>
    rw [List.map_cons]
    refine List.Forall₂.cons ?_ ih
    by_cases e : a.name = var
    · rw [if_pos e]
      exact ⟨⟨rfl, rfl, rfl⟩, fun hn => absurd e hn⟩
    · rw [if_neg e]
      exact ⟨SameSkel.rfl' a, fun _ => rfl⟩

theorem violates_value_irrel (q : Param ℝ) (v x : ℝ) : ({ q with value := v } : Param ℝ).violates x = q.violates x := rfl


/-- `function_->setParameters(p)` when the head of `p` carries the probe value `x` and its tail base
values: the wrapped function ends exactly at the base point with `var` moved to `x` -/
theorem probe_set (f : List ℝ → ℝ) {params B : PList ℝ} (hF : FreeFn f params B) {var : Name} {fn : Fn ℝ}
    {q0 : Param ℝ} {rest : PList ℝ} (h : RI f params B var fn (q0 :: rest)) (x : ℝ) :
    ∃ fn', fn.setParameters f ({ q0 with value := x } :: rest) = (fn', none) ∧ fn'.params = upd1 B var x ∧
      fn'.fval = f (values (upd1 B var x)) ∧ RI f params B var fn' ({ q0 with value := x } :: rest) := by
  obtain ⟨hok, q0', rest', hp, hq0, hnd, hrest, hlen, hD⟩ := h
  injection hp with hp1 hp2
  subst hp1; subst hp2
  obtain ⟨fn', h, hp, hok'⟩ := setParameters_ok f fn ({ q0 with value := x } :: rest) (hF.ctx.own hD) hnd
    (anyViolation_nocon _ _ (hD.nocon hF.nocon))
  have hupd : fn'.params = upd1 B var x := hp.trans (updL_dev_eq hF.ctx var { q0 with value := x } rest hq0 hrest hD)
  exact ⟨fn', h, hupd, by rw [← hupd]; exact hok' hok, hok' hok, _, rest, rfl, hq0, hnd, hrest, hlen,
    hupd ▸ (dev_upd1 B var x).mono (fun n hn => Or.inl hn)⟩

theorem setValue_refused (q0 : Param ℝ) (x : ℝ) (hprec : q0.prec = 0) (hne : x ≠ q0.value) (hrej : q0.violates x = true) :
    q0.setValue x = .error .constraint := by
  unfold Param.setValue
  have hg : gtb (Scalar.abs (x - q0.value)) (q0.prec / ofInt 2) = true := by
    rw [ScalarReal.gtb_iff, hprec]; simp; exact sub_ne_zero.mpr hne
  rw [if_pos hg, hrej]; rfl

/-- a probe accepted by the constraint of the probed parameter -/
theorem attempt_ok (f : List ℝ → ℝ) {params B : PList ℝ} (hF : FreeFn f params B) {var : Name} {fn : Fn ℝ}
    (q0 : Param ℝ) (rest : PList ℝ) (h : RI f params B var fn (q0 :: rest)) (hprec : q0.prec = 0) (x : ℝ)
    (hacc : q0.violates x = false) (hbx : tooBig (f (values (upd1 B var x))) = false) :
    ∃ fn', attempt f fn (q0 :: rest) x = ⟨fn', [{ q0 with value := x }], some (f (values (upd1 B var x))), true⟩ ∧
      fn'.params = upd1 B var x ∧ fn'.OK f := by
  obtain ⟨fn', hs, hp, hfv, hri⟩ := probe_set f hF h x
  refine ⟨fn', ?_, hp, hri.1⟩
  unfold attempt
  simp only [setValue_ok q0 x hprec hacc, hs, hfv, hbx, Bool.false_eq_true, if_false]

/-- a probe refused by the constraint of the probed parameter: nothing happens -/
theorem attempt_refused (f : List ℝ → ℝ) (fn : Fn ℝ) (q0 : Param ℝ) (rest : PList ℝ) (x : ℝ)
    (hprec : q0.prec = 0) (hne : x ≠ q0.value) (hrej : q0.violates x = true) :
    attempt f fn (q0 :: rest) x = ⟨fn, q0 :: rest, none, false⟩ := by
  unfold attempt
  simp only [setValue_refused q0 x hprec hne hrej]

/-- a five-point probe accepted by the constraint of the probed parameter (`p` keeps its tail) -/
theorem probe5_ok (f : List ℝ → ℝ) {params B : PList ℝ} (hF : FreeFn f params B) {var : Name} {fn : Fn ℝ}
    (q0 : Param ℝ) (rest : PList ℝ) (h : RI f params B var fn (q0 :: rest)) (hprec : q0.prec = 0) (x : ℝ)
    (hacc : q0.violates x = false) :
    ∃ fn', probe5 f fn (q0 :: rest) x = (fn', { q0 with value := x } :: rest, some (f (values (upd1 B var x)))) ∧
      RI f params B var fn' ({ q0 with value := x } :: rest) := by
  obtain ⟨fn', hs, _, hfv, hri⟩ := probe_set f hF h x
  refine ⟨fn', ?_, hri⟩
  unfold probe5
  simp only [setValue_ok q0 x hprec hacc, hs, hfv]

/-- a five-point probe refused by the constraint of the probed parameter: nothing happens -/
theorem probe5_refused (f : List ℝ → ℝ) (fn : Fn ℝ) (q0 : Param ℝ) (rest : PList ℝ) (x : ℝ)
    (hprec : q0.prec = 0) (hne : x ≠ q0.value) (hrej : q0.violates x = true) :
    probe5 f fn (q0 :: rest) x = (fn, q0 :: rest, none) := by
  unfold probe5
  simp only [setValue_refused q0 x hprec hne hrej]


/-- a retry loop whose first try is accepted -/
theorem retry_ok (f : List ℝ → ℝ) {params B : PList ℝ} (hF : FreeFn f params B) {var : Name} (rp : Bool) (value : ℝ)
    (n : Nat) (fn : Fn ℝ) (q0 : Param ℝ) (rest : PList ℝ) (h : ℝ) (fv : Option ℝ)
    (hri : RI f params B var fn (q0 :: rest)) (hprec : q0.prec = 0) (hacc : q0.violates (value + h) = false) (hh : h ≠ 0)
    (hbx : tooBig (f (values (upd1 B var (value + h)))) = false) :
    ∃ fn', retry f rp (n + 1) fn (q0 :: rest) value h fv =
        ⟨fn', [{ q0 with value := value + h }], h, some (f (values (upd1 B var (value + h)))), some h, none⟩ ∧
      fn'.params = upd1 B var (value + h) ∧ fn'.OK f := by
  obtain ⟨fn', a1, a2, a3⟩ := attempt_ok f hF q0 rest hri hprec (value + h) hacc hbx
  have hz := eqb_zero_false hh
  refine ⟨fn', ?_, a2, a3⟩
  unfold retry
  simp only [a1, if_true, hz, Bool.false_eq_true, if_false]

/-- a try refused by the constraint of the probed parameter: the loop goes on with the next step
(`h < 0 → -h`, otherwise `h / -2`) -/
theorem retry_skip (f : List ℝ → ℝ) (rp : Bool) (value : ℝ) (n : Nat) (fn : Fn ℝ) (q0 : Param ℝ) (rest : PList ℝ)
    (h : ℝ) (fv : Option ℝ) (hprec : q0.prec = 0) (hne : value + h ≠ q0.value) (hrej : q0.violates (value + h) = true) :
    retry f rp (n + 2) fn (q0 :: rest) value h fv =
      retry f rp (n + 1) fn (q0 :: rest) value (if ltb h zero then -h else h / (-(ofInt 2))) fv := by
  have href := attempt_refused f fn q0 rest (value + h) hprec hne hrej
  conv_lhs => unfold retry
  simp only [href, Bool.false_eq_true, if_false, Nat.add_one_ne_zero]

/-- the first retry loop when the tries on the left and on the right are both refused and the one on
the left with half the step is accepted -/
theorem retry_two_refused (f : List ℝ → ℝ) {params B : PList ℝ} (hF : FreeFn f params B) {var : Name} (rp : Bool)
    (value : ℝ) (fn : Fn ℝ) (q0 : Param ℝ) (rest : PList ℝ) (H : ℝ) (fv : Option ℝ)
    (hri : RI f params B var fn (q0 :: rest)) (hprec : q0.prec = 0) (hval : q0.value = value) (hH : 0 < H)
    (hrejL : q0.violates (value + -H) = true) (hrejR : q0.violates (value + H) = true)
    (hacc : q0.violates (value + H / (-(ofInt 2))) = false)
    (hbx : tooBig (f (values (upd1 B var (value + H / (-(ofInt 2)))))) = false) :
    (retry f rp 10 fn (q0 :: rest) value (-H) fv).exc = none ∧
    (retry f rp 10 fn (q0 :: rest) value (-H) fv).hf = some (H / (-(ofInt 2))) ∧
    (retry f rp 10 fn (q0 :: rest) value (-H) fv).h = H / (-(ofInt 2)) ∧
    (retry f rp 10 fn (q0 :: rest) value (-H) fv).fv = some (f (values (upd1 B var (value + H / (-(ofInt 2)))))) ∧
    (retry f rp 10 fn (q0 :: rest) value (-H) fv).p = [{ q0 with value := value + H / (-(ofInt 2)) }] ∧
    (retry f rp 10 fn (q0 :: rest) value (-H) fv).fn.params = upd1 B var (value + H / (-(ofInt 2))) ∧
    (retry f rp 10 fn (q0 :: rest) value (-H) fv).fn.OK f := by
  have hneg : ltb (-H) zero = true := by rw [ScalarReal.ltb_iff]; simp only [ScalarReal.zero_eq]; linarith
  have hpos : ltb H zero = false := by rw [ScalarReal.ltb_false_iff]; simp only [ScalarReal.zero_eq]; linarith
  have s1 := retry_skip f rp value 8 fn q0 rest (-H) fv hprec (by rw [hval]; intro e; linarith) hrejL
  rw [hneg] at s1
  simp only [if_true, neg_neg] at s1
  have s2 := retry_skip f rp value 7 fn q0 rest H fv hprec (by rw [hval]; intro e; linarith) hrejR
  rw [hpos] at s2
  simp only [Bool.false_eq_true, if_false] at s2
  rw [s1, s2]
  have h2 : H / (-(ofInt 2)) ≠ 0 := by
    simp only [ScalarReal.ofInt_eq]; push_cast
    exact div_ne_zero (ne_of_gt hH) (by norm_num)
  obtain ⟨fn', e, hp, hok⟩ := retry_ok f hF rp value 7 fn q0 rest (H / (-(ofInt 2))) fv hri hprec hacc h2 hbx
  rw [e]
  exact ⟨rfl, rfl, rfl, rfl, rfl, hp, hok⟩


/-- the `k`-th step tried: `h, -h, h/2, -h/2, h/4, …` for `h < 0` -/
noncomputable def stepAt (h : ℝ) : Nat → ℝ
  | 0 => h
  | k + 1 => stepAt (nextStep h) k

theorem abs_nextStep_le (h : ℝ) : |nextStep h| ≤ |h| := by
  unfold nextStep
  split
  · rw [abs_neg]
  · simp only [ScalarReal.ofInt_eq]; push_cast
    rw [abs_div, abs_neg, abs_two]
    have := abs_nonneg h
    linarith

theorem stepAt_ne_zero : ∀ (k : Nat) {h : ℝ}, h ≠ 0 → stepAt h k ≠ 0
  | 0, _, hh => hh
  | k + 1, _, hh => stepAt_ne_zero k (nextStep_ne_zero hh)

theorem abs_stepAt_le : ∀ (k : Nat) (h : ℝ), |stepAt h k| ≤ |h|
  | 0, _ => le_refl _
  | k + 1, h => le_trans (abs_stepAt_le k (nextStep h)) (abs_nextStep_le h)

/-- the first four tries around `x` with `H = (1 + |x|) h > 0`: `-H`, `H`, `-H/2`, `H/2` -/
theorem stepAt_first (x h : ℝ) (hh : 0 < h) :
    stepAt (-(1 + |x|) * h) 0 = -((1 + |x|) * h) ∧ stepAt (-(1 + |x|) * h) 1 = (1 + |x|) * h ∧
    stepAt (-(1 + |x|) * h) 2 = -((1 + |x|) * h / 2) ∧ stepAt (-(1 + |x|) * h) 3 = (1 + |x|) * h / 2 := by
  have hH : 0 < (1 + |x|) * h := by positivity
  have e1 : nextStep (-(1 + |x|) * h) = (1 + |x|) * h := by
    unfold nextStep; rw [if_pos ((ScalarReal.ltb_iff _ _).mpr (by rw [ScalarReal.zero_eq]; linarith))]; ring
  have e2 : nextStep ((1 + |x|) * h) = -((1 + |x|) * h / 2) := by
    unfold nextStep; rw [if_neg (by rw [ScalarReal.ltb_iff, ScalarReal.zero_eq]; linarith)]
    simp only [ScalarReal.ofInt_eq]; push_cast; ring
  have e3 : nextStep (-((1 + |x|) * h / 2)) = (1 + |x|) * h / 2 := by
    unfold nextStep; rw [if_pos ((ScalarReal.ltb_iff _ _).mpr (by rw [ScalarReal.zero_eq]; linarith)), neg_neg]
  exact ⟨by unfold stepAt; ring, by unfold stepAt stepAt; exact e1, by unfold stepAt stepAt stepAt; rw [e1, e2],
    by unfold stepAt stepAt stepAt stepAt; rw [e1, e2, e3]⟩

/-- of the tries `x + s₀, x + s₁, …` (`stepAt s`) the parameter `qv`, passed with precision 0, refuses the
first `j < 10` and accepts the next one -/
structure FirstAccepted (qv : Param ℝ) (x s : ℝ) (j : Nat) : Prop where
  prec : qv.prec = 0
  lt : j < 10
  refused : ∀ k, k < j → qv.violates (x + stepAt s k) = true
  accepted : qv.violates (x + stepAt s j) = false

theorem Free.firstAccepted {f : List ℝ → ℝ} {params B : PList ℝ} (h : Free f params B) {v : Name} {qv : Param ℝ}
    (hqv : find? params v = some qv) (x s : ℝ) : FirstAccepted qv x s 0 :=
  ⟨(h.accepts hqv).1, by norm_num, fun k hk => absurd hk (Nat.not_lt_zero k), (h.accepts hqv).2 _⟩

/-- `j` tries refused by the constraint of the probed parameter, one after the other -/
theorem retry_skip_many (f : List ℝ → ℝ) (rp : Bool) (value : ℝ) (fn : Fn ℝ) (q0 : Param ℝ) (rest : PList ℝ)
    (fv : Option ℝ) (hprec : q0.prec = 0) (hval : q0.value = value) :
    ∀ (j n : Nat) (h : ℝ), h ≠ 0 → (∀ i, i < j → q0.violates (value + stepAt h i) = true) →
      retry f rp (n + 1 + j) fn (q0 :: rest) value h fv = retry f rp (n + 1) fn (q0 :: rest) value (stepAt h j) fv := by
  intro j
  induction j with
  | zero => intro n h _ _; rfl
  | succ j ih =>
    intro n h hh hrej
    have e : n + 1 + (j + 1) = (n + j) + 2 := by omega
    rw [e, retry_skip f rp value (n + j) fn q0 rest h fv hprec (by rw [hval]; intro e'; apply hh; linarith)
      (hrej 0 (by omega))]
    have e2 : n + j + 1 = n + 1 + j := by omega
    rw [e2]
    exact ih n (nextStep h) (nextStep_ne_zero hh) (fun i hi => hrej (i + 1) (by omega))


theorem find?_dev {B l : PList ℝ} {S : Name → Prop} (h : Dev B l S) (n : Name) (b : Param ℝ) (hb : find? B n = some b) :
    ∃ p, find? l n = some p ∧ SameSkel p b ∧ (¬ S n → p.value = b.value) := by
  unfold Dev at h
  induction h with
  | nil => simp [find?] at hb
  | @cons a c l' B' hac _ ih =>
    by_cases e : c.name = n
    · rw [find?_cons_eq c B' n e] at hb
      injection hb with hb; subst hb
      exact ⟨a, find?_cons_eq a l' n (hac.1.1.trans e), hac.1, fun hn => hac.2 (e ▸ hn)⟩
    · rw [find?_cons_ne c B' n e] at hb
      obtain ⟨p, h1, h2⟩ := ih hb
      exact ⟨p, by rw [find?_cons_ne a l' n (hac.1.1 ▸ e)]; exact h1, h2⟩

theorem valueOf_base {f : List ℝ → ℝ} {params B : PList ℝ} {w0 : W ℝ} {slot : W ℝ → ℝ} {lp : Loop ℝ}
    (hLI : LI f params B w0 slot lp) (var : Name) (b : Param ℝ) (hb : find? B var = some b)
    (hlast : lp.lastVar ≠ some var) : lp.w.fn.valueOf var = .ok b.value := by
  obtain ⟨pv, hpv1, _, hpv3⟩ := find?_dev hLI.dev var b hb
  unfold Fn.valueOf; rw [hpv1]; simp only []
  rw [hpv3 (fun h => hlast h.symm)]

/-- beginning of an iteration of the two- and three-point loops for a variable passed with
precision 0: its value is the base value, the first step `-(1 + |x|) h` -/
theorem prepare_shape (f : List ℝ → ℝ) {params B : PList ℝ} {w0 : W ℝ} {slot : W ℝ → ℝ} {lp : Loop ℝ}
    (hLI : LI f params B w0 slot lp) (var : Name) (b qv : Param ℝ) (hqv : find? params var = some qv)
    (hb : find? B var = some b) (hlast : lp.lastVar ≠ some var) (hprec : qv.prec = 0) :
    ∃ rest, prepare params lp.w.h lp var = .ok (qv :: rest, b.value, -(1 + |b.value|) * lp.w.h) ∧
      RI f params B var lp.w.fn (qv :: rest) := by
  obtain ⟨rest, hsub⟩ := sub_shape f hLI var qv hqv hlast
  have hprep : prepare params lp.w.h lp var = .ok (qv :: rest, b.value, -(1 + |b.value|) * lp.w.h) := by
    have hadj : ltb |-(1 + |b.value|) * lp.w.h| qv.prec = false := by
      rw [hprec, ScalarReal.ltb_false_iff]; exact abs_nonneg _
    unfold prepare
    simp only []
    split
    · rename_i e he; cases hsub.symm.trans he
    · rename_i p' hp'
      have hpp : p' = qv :: rest := by injection hsub.symm.trans hp' with h; exact h.symm
      subst hpp
      rw [valueOf_base hLI var b hb hlast]
      simp only [ScalarReal.one_eq, ScalarReal.abs_eq, hadj, Bool.false_eq_true, if_false]
  exact ⟨rest, hprep, prepare_RI f hLI var lp.w.h _ _ _ hprep⟩

/-- the tries stay within the segment on which `BoundedNear` bounds `f` -/
theorem BoundedNear.of_le {f : List ℝ → ℝ} {B : PList ℝ} {hh : ℝ} (hB : BoundedNear f B hh) (var : Name) (b : Param ℝ)
    (hb : find? B var = some b) (s : ℝ) (hs : |s| ≤ |-(1 + |b.value|) * hh|) :
    tooBig (f (values (upd1 B var (b.value + s)))) = false := by
  apply hB.line var b hb
  rw [add_sub_cancel_left]
  refine le_trans hs (le_of_eq ?_)
  rw [abs_mul, abs_neg, abs_of_nonneg (by positivity : (0 : ℝ) ≤ 1 + |b.value|)]


/-- the first `j < 10` tries are refused by the constraint the variable is passed with, the next one
is accepted: the derivative is the difference quotient with that step -/
theorem step2_first_accepted (f : List ℝ → ℝ) {params B : PList ℝ} (hF : FreeFn f params B) {w0 : W ℝ} (lp : Loop ℝ)
    (hLI : LI f params B w0 (slotOf .two) lp) (i : Nat) (var : Name) (b qv : Param ℝ)
    (hqv : find? params var = some qv) (hb : find? B var = some b) (hlast : lp.lastVar ≠ some var) (hh : lp.w.h ≠ 0)
    (hB : BoundedNear f B lp.w.h) (j : Nat) (hp : FirstAccepted qv b.value (-(1 + |b.value|) * lp.w.h) j) :
    (step2 f params lp i var).2 = none ∧ (step2 f params lp i var).1.lastVar = some var ∧
    (step2 f params lp i var).1.w.der1 = setAt lp.w.der1 i (some (d1Two lp.w.f1
        (f (values (upd1 B var (b.value + stepAt (-(1 + |b.value|) * lp.w.h) j))))
        (stepAt (-(1 + |b.value|) * lp.w.h) j))) ∧
    (step2 f params lp i var).1.w.der2 = lp.w.der2 := by
  obtain ⟨rest, hprep, hri⟩ := prepare_shape f hLI var b qv hqv hb hlast hp.prec
  have h0 := step0_ne_zero b.value hh
  have e10 : 10 = (9 - j) + 1 + j := by have := hp.lt; omega
  have hsk := retry_skip_many f true b.value lp.w.fn qv rest none hp.prec (hF.ctx.value_eq hqv hb) j (9 - j) _ h0 hp.refused
  rw [← e10] at hsk
  obtain ⟨fn', a, _, _⟩ := retry_ok f hF true b.value (9 - j) lp.w.fn qv rest _ none hri hp.prec hp.accepted
    (stepAt_ne_zero j h0) (hB.of_le var b hb _ (abs_stepAt_le j _))
  unfold step2
  simp only [has_of_find? hqv, hprep, hsk, a, Bool.not_true, Bool.false_eq_true, if_false, Option.isSome_none]
  exact ⟨trivial, trivial, trivial, trivial⟩

/-- two-point scheme, right-hand probe: `x - H` refused, `x + H` accepted (`j = 1`) -/
theorem step2_right (f : List ℝ → ℝ) {params B : PList ℝ} (hF : FreeFn f params B) {w0 : W ℝ} (lp : Loop ℝ)
    (hLI : LI f params B w0 (fun w => w.f1) lp) (i : Nat) (var : Name) (b qv : Param ℝ)
    (hqv : find? params var = some qv) (hb : find? B var = some b) (hlast : lp.lastVar ≠ some var) (hh : 0 < lp.w.h)
    (hprec : qv.prec = 0) (hB : BoundedNear f B lp.w.h)
    (hrej : qv.violates (b.value + -((one + Scalar.abs b.value) * lp.w.h)) = true)
    (hacc : qv.violates (b.value + (one + Scalar.abs b.value) * lp.w.h) = false) :
    (step2 f params lp i var).2 = none ∧ (step2 f params lp i var).1.lastVar = some var ∧
    (step2 f params lp i var).1.w.der1 = setAt lp.w.der1 i (some (d1Two lp.w.f1
        (f (values (upd1 B var (b.value + (one + Scalar.abs b.value) * lp.w.h))))
        ((one + Scalar.abs b.value) * lp.w.h))) := by
  have e0 : (one + Scalar.abs b.value : ℝ) = 1 + |b.value| := by rw [ScalarReal.one_eq, ScalarReal.abs_eq]
  rw [e0] at hrej hacc ⊢
  obtain ⟨t0, t1, _, _⟩ := stepAt_first b.value lp.w.h hh
  obtain ⟨s1, s2, s3, _⟩ := step2_first_accepted f hF lp hLI i var b qv hqv hb hlast hh.ne' hB 1 ⟨hprec, by norm_num,
    fun k hk => by obtain rfl : k = 0 := by omega
                   rw [t0]; exact hrej,
    by rw [t1]; exact hacc⟩
  rw [t1] at s3
  exact ⟨s1, s2, s3⟩


/-- the second loop starts on the other side of a negative step, with half of a positive one -/
theorem sideStep_of_neg {h : ℝ} (hh : h < 0) : sideStep h = -h := by
  unfold sideStep; rw [if_pos ((ScalarReal.ltb_iff _ _).mpr (by rw [ScalarReal.zero_eq]; exact hh))]

theorem sideStep_of_pos {h : ℝ} (hh : 0 < h) : sideStep h = h / 2 := by
  unfold sideStep; rw [if_neg (by rw [ScalarReal.ltb_iff, ScalarReal.zero_eq]; linarith)]
  simp only [ScalarReal.ofInt_eq]; push_cast; rfl

theorem abs_sideStep_le (h : ℝ) : |sideStep h| ≤ |h| := by
  unfold sideStep
  split
  · rw [abs_neg]
  · simp only [ScalarReal.ofInt_eq]; push_cast
    rw [abs_div, abs_two]
    have := abs_nonneg h
    linarith

/-- the first `j < 10` tries of the first loop are refused by the constraint the variable is passed
with, the next one (step `s`) is accepted, and so is the first try of the second loop (step
`sideStep s`): the derivatives are the three-point formulas with these two steps -/
theorem step3_first_accepted (f : List ℝ → ℝ) {params B : PList ℝ} (hF : FreeFn f params B) {w0 : W ℝ} (lp : Loop ℝ)
    (hLI : LI f params B w0 (slotOf .three) lp) (i : Nat) (var : Name) (b qv : Param ℝ)
    (hqv : find? params var = some qv) (hb : find? B var = some b) (hlast : lp.lastVar ≠ some var) (hh : lp.w.h ≠ 0)
    (hB : BoundedNear f B lp.w.h) (j : Nat) (hp : FirstAccepted qv b.value (-(1 + |b.value|) * lp.w.h) j)
    (hacc3 : qv.violates (b.value + sideStep (stepAt (-(1 + |b.value|) * lp.w.h) j)) = false) :
    (step3 f params lp i var).2 = none ∧ (step3 f params lp i var).1.lastVar = some var ∧
    (step3 f params lp i var).1.w.der1 = setAt lp.w.der1 i (some (d1Three
        (f (values (upd1 B var (b.value + stepAt (-(1 + |b.value|) * lp.w.h) j))))
        (f (values (upd1 B var (b.value + sideStep (stepAt (-(1 + |b.value|) * lp.w.h) j)))))
        (stepAt (-(1 + |b.value|) * lp.w.h) j) (sideStep (stepAt (-(1 + |b.value|) * lp.w.h) j)))) ∧
    (step3 f params lp i var).1.w.der2 = setAt lp.w.der2 i (some (d2Three
        (f (values (upd1 B var (b.value + stepAt (-(1 + |b.value|) * lp.w.h) j)))) lp.w.f2
        (f (values (upd1 B var (b.value + sideStep (stepAt (-(1 + |b.value|) * lp.w.h) j)))))
        (stepAt (-(1 + |b.value|) * lp.w.h) j) (sideStep (stepAt (-(1 + |b.value|) * lp.w.h) j)))) := by
  obtain ⟨hprec, hj, hrej, hacc⟩ := hp
  obtain ⟨rest, hprep, hri⟩ := prepare_shape f hLI var b qv hqv hb hlast hprec
  have h0 := step0_ne_zero b.value hh
  have hs0 := stepAt_ne_zero j h0
  have hle := abs_stepAt_le j (-(1 + |b.value|) * lp.w.h)
  -- first loop
  have e10 : 10 = (9 - j) + 1 + j := by omega
  have hsk := retry_skip_many f true b.value lp.w.fn qv rest none hprec (hF.ctx.value_eq hqv hb) j (9 - j) _ h0 hrej
  rw [← e10] at hsk
  generalize stepAt (-(1 + |b.value|) * lp.w.h) j = s at hacc hacc3 hs0 hle hsk ⊢
  obtain ⟨fn1, a, ap, aok⟩ := retry_ok f hF true b.value (9 - j) lp.w.fn qv rest s none hri hprec hacc hs0
    (hB.of_le var b hb s hle)
  -- second loop
  have hri3 : RI f params B var fn1 [{ qv with value := b.value + s }] :=
    ⟨aok, _, [], rfl, (find?_some hqv).2, by simp [names], by simp, by simp,
      ap ▸ (dev_upd1 B var _).mono (fun n hn => Or.inl hn)⟩
  obtain ⟨fn3, c, _, _⟩ := retry_ok f hF false b.value 9 fn1 { qv with value := b.value + s } [] (sideStep s) none hri3
    hprec hacc3 (sideStep_ne_zero hs0) (hB.of_le var b hb _ (le_trans (abs_sideStep_le s) hle))
  unfold step3
  simp only [has_of_find? hqv, hprep, hsk, a, Bool.not_true, Bool.false_eq_true, if_false, Option.isSome_none]
  rw [show (if ltb s zero = true then -s else s / ofInt 2) = sideStep s from rfl]
  simp only [c, Option.isSome_none, Bool.false_eq_true, if_false]
  exact ⟨trivial, trivial, trivial, trivial⟩


theorem probes5_central (f : List ℝ → ℝ) {params B : PList ℝ} (hF : FreeFn f params B) {var : Name} {fn : Fn ℝ}
    (qv : Param ℝ) (rest : PList ℝ) (hri : RI f params B var fn (qv :: rest)) (hprec : qv.prec = 0)
    (x H f3 : ℝ) (hm2 : qv.violates (x - ofInt 2 * H) = false) (hp2 : qv.violates (x + ofInt 2 * H) = false)
    (hm1 : qv.violates (x - H) = false) (hp1 : qv.violates (x + H) = false) :
    (probes5 f fn (qv :: rest) x H f3).2.2 = some
      (d1Five (f (values (upd1 B var (x - ofInt 2 * H)))) (f (values (upd1 B var (x - H))))
              (f (values (upd1 B var (x + H)))) (f (values (upd1 B var (x + ofInt 2 * H)))) H,
       d2Five (f (values (upd1 B var (x - ofInt 2 * H)))) (f (values (upd1 B var (x - H)))) f3
              (f (values (upd1 B var (x + H)))) (f (values (upd1 B var (x + ofInt 2 * H)))) H) := by
  obtain ⟨fn1, e1, r1⟩ := probe5_ok f hF qv rest hri hprec (x - ofInt 2 * H) hm2
  obtain ⟨fn2, e2, r2⟩ := probe5_ok f hF { qv with value := x - ofInt 2 * H } rest r1 hprec (x + ofInt 2 * H)
    (by rw [violates_value_irrel]; exact hp2)
  obtain ⟨fn3, e3, r3⟩ := probe5_ok f hF { qv with value := x + ofInt 2 * H } rest r2 hprec (x - H)
    (by rw [violates_value_irrel]; exact hm1)
  obtain ⟨fn4, e4, _⟩ := probe5_ok f hF { qv with value := x - H } rest r3 hprec (x + H)
    (by rw [violates_value_irrel]; exact hp1)
  unfold probes5
  simp only [e1]
  unfold central5
  simp only [e2, e3, e4]

/-- backward branch: `x - 2H` accepted, `x + 2H` refused, `x - H` accepted -/
theorem probes5_backward (f : List ℝ → ℝ) {params B : PList ℝ} (hF : FreeFn f params B) {var : Name} {fn : Fn ℝ}
    (qv : Param ℝ) (rest : PList ℝ) (hri : RI f params B var fn (qv :: rest)) (hprec : qv.prec = 0)
    (x H f3 : ℝ) (hH : H ≠ 0)
    (hacc2 : qv.violates (x - ofInt 2 * H) = false) (hrej : qv.violates (x + ofInt 2 * H) = true)
    (hacc1 : qv.violates (x - H) = false) :
    (probes5 f fn (qv :: rest) x H f3).2.2 = some
      (d1Side f3 (f (values (upd1 B var (x - H)))) H,
       d2Side f3 (f (values (upd1 B var (x - H)))) (f (values (upd1 B var (x - ofInt 2 * H)))) H) := by
  have h2H : (ofInt 2 : ℝ) * H ≠ 0 := by
    simp only [ScalarReal.ofInt_eq]; push_cast; exact mul_ne_zero (by norm_num) hH
  obtain ⟨fn1, e1, r1⟩ := probe5_ok f hF qv rest hri hprec (x - ofInt 2 * H) hacc2
  have e2 := probe5_refused f fn1 { qv with value := x - ofInt 2 * H } rest (x + ofInt 2 * H) hprec
    (by show x + ofInt 2 * H ≠ x - ofInt 2 * H; intro e; apply h2H; linarith) (by rw [violates_value_irrel]; exact hrej)
  obtain ⟨fn3, e3, r3⟩ := probe5_ok f hF { qv with value := x - ofInt 2 * H } rest r1 hprec (x - H)
    (by rw [violates_value_irrel]; exact hacc1)
  obtain ⟨fn4, e4, _⟩ := probe5_ok f hF { qv with value := x - H } rest r3 hprec (x - ofInt 2 * H)
    (by rw [violates_value_irrel]; exact hacc2)
  unfold probes5
  simp only [e1]
  unfold central5
  simp only [e2]
  unfold backward5
  simp only [e3, e4]

/-- forward branch: `x - 2H` refused, `x + H` and `x + 2H` accepted -/
theorem probes5_forward (f : List ℝ → ℝ) {params B : PList ℝ} (hF : FreeFn f params B) {var : Name} {fn : Fn ℝ}
    (qv : Param ℝ) (rest : PList ℝ) (hri : RI f params B var fn (qv :: rest)) (hprec : qv.prec = 0)
    (x H f3 : ℝ) (hH : H ≠ 0) (hval : qv.value = x)
    (hrej : qv.violates (x - ofInt 2 * H) = true)
    (hacc1 : qv.violates (x + H) = false) (hacc2 : qv.violates (x + ofInt 2 * H) = false) :
    (probes5 f fn (qv :: rest) x H f3).2.2 = some
      (d1Side (f (values (upd1 B var (x + H)))) f3 H,
       d2Side (f (values (upd1 B var (x + ofInt 2 * H)))) (f (values (upd1 B var (x + H)))) f3 H) := by
  have h2H : (ofInt 2 : ℝ) * H ≠ 0 := by
    simp only [ScalarReal.ofInt_eq]; push_cast; exact mul_ne_zero (by norm_num) hH
  have e1 := probe5_refused f fn qv rest (x - ofInt 2 * H) hprec
    (by rw [hval]; intro e; apply h2H; linarith) hrej
  obtain ⟨fn2, e2, r2⟩ := probe5_ok f hF qv rest hri hprec (x + H) hacc1
  obtain ⟨fn3, e3, _⟩ := probe5_ok f hF { qv with value := x + H } rest r2 hprec (x + ofInt 2 * H)
    (by rw [violates_value_irrel]; exact hacc2)
  unfold probes5
  simp only [e1]
  unfold forward5
  simp only [e2, e3]

/-- one iteration of the five-point loop whose probes end in `some d` -/
theorem step5_of_probes (f : List ℝ → ℝ) {params B : PList ℝ} {w0 : W ℝ} (lp : Loop ℝ)
    (hLI : LI f params B w0 (slotOf .five) lp) (i : Nat) (var : Name) (b qv : Param ℝ)
    (hqv : find? params var = some qv) (hb : find? B var = some b) (hlast : lp.lastVar ≠ some var)
    (d : ℝ × ℝ)
    (hpr : ∀ rest, RI f params B var lp.w.fn (qv :: rest) →
      (probes5 f lp.w.fn (qv :: rest) b.value ((one + Scalar.abs b.value) * lp.w.h) lp.w.f3).2.2 = some d) :
    (step5 f params lp i var).2 = none ∧ (step5 f params lp i var).1.lastVar = some var ∧
    (step5 f params lp i var).1.w.der1 = setAt lp.w.der1 i (some d.1) ∧
    (step5 f params lp i var).1.w.der2 = setAt lp.w.der2 i (some d.2) := by
  have hhas := has_of_find? hqv
  have hval := valueOf_base hLI var b hb hlast
  obtain ⟨rest, hsub⟩ := sub_shape f hLI var qv hqv hlast
  have hri := sub_RI f hLI var (qv :: rest) hsub
  have h5 := hpr rest hri
  unfold step5
  have hnh : (!has params var) = false := by rw [hhas]; rfl
  rw [hnh]
  simp only [Bool.false_eq_true, if_false]
  split
  · rename_i e he
    have := hsub.symm.trans he
    cases this
  · rename_i p' hp'
    have hpp : p' = qv :: rest := by
      have := hsub.symm.trans hp'
      injection this with this; exact this.symm
    subst hpp
    rw [hval]
    simp only []
    rcases hs : probes5 f lp.w.fn (qv :: rest) b.value ((one + Scalar.abs b.value) * lp.w.h) lp.w.f3 with ⟨fn5, p5, o5⟩
    rw [hs] at h5
    simp only [] at h5
    subst h5
    exact ⟨rfl, rfl, rfl, rfl⟩


end Bpp.NumDeriv
