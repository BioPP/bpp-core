import BppModel.Transform
import BppProofs.Lemmas.ScalarReal
import Mathlib.Analysis.SpecialFunctions.Artanh
import Mathlib.Analysis.SpecialFunctions.Trigonometric.ArctanDeriv
import Mathlib.Analysis.SpecialFunctions.Trigonometric.DerivHyp
import Mathlib.Analysis.Real.Pi.Bounds
/-!
Helper lemmas for C11: the `Scalar`-generic model of TransformedParameter.h read at `ℝ`.

A half-line transform at unit scale is `x ↦ ±gp x + bound` with `gp` the C¹ glueing of `exp` and
`x + 1`; both interval transforms are an increasing bijection `ℝ → ]-c, c[` (`tanh`, `c = 1`;
`arctan`, `c = π/2`) followed by the affine map `IT.aff` onto `]lo, hi[`.
-/
namespace Bpp.Transform
open Bpp Bpp.Scalar Bpp.ScalarReal

@[simp] theorem two_real : (two : ℝ) = 2 := by simp [two]

/-- over the reals `Parameter::setValue` (no constraint, precision 0) stores the value -/
@[simp] theorem paramSet_real (cur v : ℝ) : paramSet cur v = v := by
  unfold paramSet
  split
  · rfl
  · rename_i h
    simp at h
    linarith

@[simp] theorem sq_real (e : ℝ) : sq e = e ^ 2 := by simp [sq, pow_two]

/-! ### RTransformedParameter over ℝ -/

/-- the original value lies strictly inside the half-line -/
def RT.Inside (t : RT ℝ) (v : ℝ) : Prop := if t.positive then t.bound < v else v < t.bound

namespace RT

/-- the orientation as a factor: `1` for `]b,+inf[`, `-1` for the mirror image `]-inf,b[` -/
def sgn (positive : Bool) : ℝ := if positive then 1 else -1

theorem sgn_mul_self (p : Bool) : sgn p * sgn p = 1 := by cases p <;> simp [sgn]

/-- the forward map of the distance `u` to the bound (`log` below 1, linear above) -/
noncomputable def fp (s u : ℝ) : ℝ := if u < 1 then Real.log (s * u) else s * (u - 1)

/-- the transformed coordinate `setOriginalValue` computes -/
noncomputable def fwdR (t : RT ℝ) (v : ℝ) : ℝ := fp t.scale (sgn t.positive * (v - t.bound))

theorem inside_iff (t : RT ℝ) (v : ℝ) : t.Inside v ↔ 0 < sgn t.positive * (v - t.bound) := by
  unfold Inside sgn; cases t.positive <;> simp

theorem setOriginal_real (t : RT ℝ) (v : ℝ) :
    t.setOriginal v =
      if 0 < sgn t.positive * (v - t.bound) then some { t with x := fwdR t v } else none := by
  unfold RT.setOriginal fwdR fp sgn
  cases hp : t.positive <;>
    simp only [Bool.false_and, Bool.not_false, Bool.true_and, Bool.not_true, Bool.false_eq_true, if_false, if_true,
      geb_iff, gtb_iff, ltb_iff, leb_iff, paramSet_real, one_eq, log_eq, one_mul, neg_one_mul, neg_sub]
  · by_cases h : t.bound ≤ v
    · rw [if_pos h, if_neg (not_lt.mpr (sub_nonpos.mpr h))]
    rw [if_neg h, if_pos (sub_pos.mpr (not_le.mp h))]
    by_cases h1 : v ≤ -1 + t.bound
    · rw [if_pos h1, if_neg (by linarith)]; congr 2; ring
    · rw [if_neg h1, if_pos (not_le.mp h1), if_pos (by linarith)]; congr 3; ring
  · by_cases h : v ≤ t.bound
    · rw [if_pos h, if_neg (not_lt.mpr (sub_nonpos.mpr h))]
    rw [if_neg h, if_pos (sub_pos.mpr (not_le.mp h))]
    by_cases h1 : 1 + t.bound ≤ v
    · rw [if_pos h1, if_neg (by linarith)]; congr 2; ring
    · rw [if_neg h1, if_pos (not_le.mp h1), if_pos (by linarith)]

/-- the back-transformation of the distance to the bound, at unit scale: `exp` below 0, `x + 1` above -/
noncomputable def gp (x : ℝ) : ℝ := if x < 0 then Real.exp x else x + 1

noncomputable def gp' (x : ℝ) : ℝ := if x < 0 then Real.exp x else 1

/-- second derivative of the positive branch away from the kink -/
noncomputable def gp'' (x : ℝ) : ℝ := if x < 0 then Real.exp x else 0

theorem getOriginal_real (t : RT ℝ) :
    t.getOriginal =
      sgn t.positive * (if t.x < 0 then Real.exp t.x / t.scale else t.x / t.scale + 1) + t.bound := by
  unfold RT.getOriginal sgn
  cases t.positive <;> simp only [Bool.false_eq_true, if_false, if_true, ltb_iff, zero_eq, one_eq, exp_eq] <;>
    split_ifs <;> ring

theorem d1_real (t : RT ℝ) :
    t.d1 = sgn t.positive * (if t.x < 0 then Real.exp t.x / t.scale else 1 / t.scale) := by
  unfold RT.d1 sgn
  cases t.positive <;> simp only [Bool.false_eq_true, if_false, if_true, ltb_iff, zero_eq, one_eq, exp_eq] <;>
    split_ifs <;> ring

theorem d2_real (t : RT ℝ) :
    t.d2 = sgn t.positive * (if t.x < 0 then Real.exp t.x / t.scale else 0) := by
  unfold RT.d2 sgn
  cases t.positive <;> simp only [Bool.false_eq_true, if_false, if_true, ltb_iff, zero_eq, one_eq, exp_eq] <;>
    split_ifs <;> ring

theorem getOriginal_unit (t : RT ℝ) (hs : t.scale = 1) :
    t.getOriginal = sgn t.positive * gp t.x + t.bound := by
  rw [getOriginal_real, hs]; simp only [div_one, gp]

theorem d1_unit (t : RT ℝ) (hs : t.scale = 1) : t.d1 = sgn t.positive * gp' t.x := by
  rw [d1_real, hs]; simp only [div_one, gp']

theorem d2_unit (t : RT ℝ) (hs : t.scale = 1) : t.d2 = sgn t.positive * gp'' t.x := by
  rw [d2_real, hs]; simp only [div_one, gp'']

theorem gp_pos (x : ℝ) : 0 < gp x := by
  unfold gp; split_ifs with h
  · exact Real.exp_pos x
  · linarith

theorem gp_strictMono : StrictMono gp := by
  intro x y hxy
  unfold gp
  split_ifs with hx hy hy
  · exact Real.exp_lt_exp.mpr hxy
  · have : Real.exp x < 1 := by rw [← Real.exp_zero]; exact Real.exp_lt_exp.mpr hx
    linarith
  · exfalso; linarith
  · linarith

theorem gp_fp {u : ℝ} (hu : 0 < u) : gp (fp 1 u) = u := by
  unfold gp fp
  simp only [one_mul]
  split_ifs with h1 h2 h2
  · exact Real.exp_log hu
  · exact absurd (Real.log_neg hu h1) h2
  · linarith
  · ring

theorem fp_gp (x : ℝ) : fp 1 (gp x) = x := by
  unfold gp fp
  simp only [one_mul]
  split_ifs with h1 h2 h2
  · exact Real.log_exp x
  · exact absurd (by rw [← Real.exp_zero]; exact Real.exp_lt_exp.mpr h1) h2
  · linarith
  · ring

theorem gp_left : Set.EqOn gp Real.exp (Set.Iic 0) := fun y hy => by
  rcases lt_or_eq_of_le (Set.mem_Iic.mp hy) with h | rfl
  · simp [gp, h]
  · simp [gp]

theorem gp_right : Set.EqOn gp (fun y => y + 1) (Set.Ici 0) := fun y hy => by
  simp [gp, not_lt.mpr (Set.mem_Ici.mp hy)]

theorem gp'_left : Set.EqOn gp' Real.exp (Set.Iic 0) := fun y hy => by
  rcases lt_or_eq_of_le (Set.mem_Iic.mp hy) with h | rfl
  · simp [gp', h]
  · simp [gp']

theorem gp'_right : Set.EqOn gp' (fun _ => 1) (Set.Ici 0) := fun y hy => by
  simp [gp', not_lt.mpr (Set.mem_Ici.mp hy)]

/-- from the right of the kink `gp'` is constant: slope 0 -/
theorem gp'_right_at_zero : HasDerivWithinAt gp' 0 (Set.Ici 0) 0 :=
  (hasDerivWithinAt_const (0 : ℝ) (Set.Ici 0) (1 : ℝ)).congr gp'_right (gp'_right Set.self_mem_Ici)

/-- from the left it is `exp`: slope 1 -/
theorem gp'_left_at_zero : HasDerivWithinAt gp' 1 (Set.Iic 0) 0 := by
  have h := (Real.hasDerivAt_exp 0).hasDerivWithinAt (s := Set.Iic 0)
  rw [Real.exp_zero] at h
  exact h.congr gp'_left (gp'_left Set.self_mem_Iic)

theorem gp_hasDerivAt (x : ℝ) : HasDerivAt gp (gp' x) x := by
  rcases lt_trichotomy x 0 with hx | rfl | hx
  · rw [show gp' x = Real.exp x by simp [gp', hx]]
    exact (Real.hasDerivAt_exp x).congr_of_eventuallyEq
      (gp_left.eventuallyEq_of_mem (Iic_mem_nhds hx))
  · -- left: exp, right: x + 1; both have derivative 1 at 0 and value 1
    rw [show gp' 0 = 1 by simp [gp']]
    have hl : HasDerivWithinAt gp 1 (Set.Iic 0) 0 := by
      have h := (Real.hasDerivAt_exp 0).hasDerivWithinAt (s := Set.Iic 0)
      rw [Real.exp_zero] at h
      exact h.congr gp_left (gp_left Set.self_mem_Iic)
    have hr : HasDerivWithinAt gp 1 (Set.Ici 0) 0 :=
      (((hasDerivAt_id (0:ℝ)).add_const (1:ℝ)).hasDerivWithinAt).congr gp_right (gp_right Set.self_mem_Ici)
    have := hl.union hr
    rwa [Set.Iic_union_Ici, hasDerivWithinAt_univ] at this
  · rw [show gp' x = 1 by simp [gp', not_lt.mpr hx.le]]
    exact ((hasDerivAt_id x).add_const (1:ℝ)).congr_of_eventuallyEq
      (gp_right.eventuallyEq_of_mem (Ici_mem_nhds hx))

theorem gp'_hasDerivAt (x : ℝ) (hx : x ≠ 0) : HasDerivAt gp' (gp'' x) x := by
  rcases lt_or_gt_of_ne hx with hx | hx
  · rw [show gp'' x = Real.exp x by simp [gp'', hx]]
    exact (Real.hasDerivAt_exp x).congr_of_eventuallyEq
      (gp'_left.eventuallyEq_of_mem (Iic_mem_nhds hx))
  · rw [show gp'' x = 0 by simp [gp'', not_lt.mpr hx.le]]
    exact (hasDerivAt_const x (1:ℝ)).congr_of_eventuallyEq
      (gp'_right.eventuallyEq_of_mem (Ici_mem_nhds hx))

/-- `gp'` is not differentiable at the kink: left slope 1, right slope 0 -/
theorem gp'_not_differentiableAt_zero : ¬ DifferentiableAt ℝ gp' 0 := by
  intro h
  have hd := h.hasDerivAt
  have e1 := (uniqueDiffWithinAt_Ici (0:ℝ)).eq_deriv _ hd.hasDerivWithinAt gp'_right_at_zero
  have e2 := (uniqueDiffWithinAt_Iic (0:ℝ)).eq_deriv _ hd.hasDerivWithinAt gp'_left_at_zero
  linarith

/-- `gp''` is the *right* derivative of `gp'` everywhere, the kink included -/
theorem gp'_hasDerivWithinAt_Ici (x : ℝ) : HasDerivWithinAt gp' (gp'' x) (Set.Ici x) x := by
  by_cases hx : x = 0
  · subst hx
    rw [show gp'' 0 = 0 by simp [gp'']]; exact gp'_right_at_zero
  · exact (gp'_hasDerivAt x hx).hasDerivWithinAt

end RT

/-- the same parameter at another transformed coordinate -/
def RT.at (t : RT ℝ) (x : ℝ) : RT ℝ := { t with x := x }
@[simp] theorem RT.at_x (t : RT ℝ) (x : ℝ) : (t.at x).x = x := rfl
@[simp] theorem RT.at_scale (t : RT ℝ) (x : ℝ) : (t.at x).scale = t.scale := rfl
@[simp] theorem RT.at_bound (t : RT ℝ) (x : ℝ) : (t.at x).bound = t.bound := rfl
@[simp] theorem RT.at_positive (t : RT ℝ) (x : ℝ) : (t.at x).positive = t.positive := rfl
@[simp] theorem RT.at_self (t : RT ℝ) : t.at t.x = t := rfl

theorem RT.getOriginal_at (t : RT ℝ) (hs : t.scale = 1) :
    (fun x => (t.at x).getOriginal) = fun x => RT.sgn t.positive * RT.gp x + t.bound :=
  funext fun x => RT.getOriginal_unit (t.at x) hs

theorem RT.d1_at (t : RT ℝ) (hs : t.scale = 1) :
    (fun x => (t.at x).d1) = fun x => RT.sgn t.positive * RT.gp' x :=
  funext fun x => RT.d1_unit (t.at x) hs

theorem RT.hasDerivAt_at (t : RT ℝ) (hs : t.scale = 1) :
    HasDerivAt (fun x => (t.at x).getOriginal) t.d1 t.x := by
  rw [RT.getOriginal_at t hs, RT.d1_unit t hs]
  exact ((RT.gp_hasDerivAt t.x).const_mul _).add_const _

/-! ### hyperbolic tangent: facts missing from Mathlib -/

theorem hasDerivAt_tanh (x : ℝ) : HasDerivAt Real.tanh (1 / Real.cosh x ^ 2) x := by
  have hc : Real.cosh x ≠ 0 := (Real.cosh_pos x).ne'
  have h := (Real.hasDerivAt_sinh x).div (Real.hasDerivAt_cosh x) hc
  have e : Real.tanh = fun y => Real.sinh y / Real.cosh y := by
    funext y; exact Real.tanh_eq_sinh_div_cosh y
  rw [e]
  refine h.congr_deriv ?_
  rw [← Real.cosh_sq_sub_sinh_sq x] -- `1 = cosh² - sinh²`
  ring

theorem one_div_cosh_sq (x : ℝ) : 1 / Real.cosh x ^ 2 = 1 - Real.tanh x ^ 2 := by
  rw [Real.tanh_eq_sinh_div_cosh, div_pow, eq_sub_iff_add_eq, ← add_div, add_comm, ← Real.cosh_sq,
    div_self (pow_ne_zero 2 (Real.cosh_pos x).ne')]

theorem tanh_strictMono : StrictMono Real.tanh := by
  intro x y hxy
  by_contra h
  have := Real.artanh_le_artanh (Real.neg_one_lt_tanh y) (Real.tanh_lt_one x) (not_lt.mp h)
  rw [Real.artanh_tanh, Real.artanh_tanh] at this
  linarith

theorem atanh_eq_artanh {u : ℝ} (h : u ∈ Set.Ioo (-1 : ℝ) 1) : Scalar.atanh u = Real.artanh u := by
  rw [atanh_eq, Real.artanh_eq_half_log (Set.Ioo_subset_Icc_self h)]

/-! ### IntervalTransformedParameter over ℝ -/
namespace IT

/-- the final clamp of `getOriginalValue` -/
noncomputable def clamp (lo hi y : ℝ) : ℝ :=
  if hi < (if y < lo then lo else y) then hi else (if y < lo then lo else y)

theorem clamp_eq_self {lo hi y : ℝ} (h1 : lo ≤ y) (h2 : y ≤ hi) : clamp lo hi y = y := by
  unfold clamp; rw [if_neg (not_lt.mpr h1), if_neg (not_lt.mpr h2)]

theorem clamp_mem {lo hi : ℝ} (h : lo ≤ hi) (y : ℝ) : lo ≤ clamp lo hi y ∧ clamp lo hi y ≤ hi := by
  unfold clamp; split_ifs <;> constructor <;> linarith

theorem getOriginal_real (pi : ℝ) (t : IT ℝ) :
    getOriginal pi t = clamp t.lo t.hi
      (if t.hyper then (Real.tanh (t.x / t.scale) + 1) * (t.hi - t.lo) / 2 + t.lo
      else (Real.arctan (t.x / t.scale) + pi / 2) * (t.hi - t.lo) / pi + t.lo) := by
  unfold getOriginal clamp
  simp only [tanh_eq, atan_eq, one_eq, two_real, ltb_iff, gtb_iff]

theorem d1_real (pi : ℝ) (t : IT ℝ) :
    d1 pi t =
      if t.hyper then 1 / (Real.cosh (t.x / t.scale)) ^ 2 * (t.hi - t.lo) / (2 * t.scale)
      else (t.hi - t.lo) / (pi * t.scale * ((t.x / t.scale) ^ 2 + 1)) := by
  unfold d1
  simp only [cosh_eq, one_eq, two_real, sq_real]

theorem d2_real (pi : ℝ) (t : IT ℝ) :
    d2 pi t =
      if t.hyper then
        -1 / (Real.cosh (t.x / t.scale)) ^ 2 * Real.tanh (t.x / t.scale) * (t.hi - t.lo) / (t.scale * t.scale)
      else -2 * t.x * (t.hi - t.lo) / (pi * t.scale ^ 3 * ((t.x / t.scale) ^ 2 + 1) ^ 2) := by
  unfold d2
  simp only [cosh_eq, tanh_eq, one_eq, two_real, sq_real, pow_eq, ofInt_eq, Int.cast_ofNat, Real.rpow_ofNat]

theorem setOriginal_real (pi : ℝ) (t : IT ℝ) (v : ℝ) :
    setOriginal pi t v =
      if v ≤ t.lo ∨ t.hi ≤ v then none
      else some { t with x := fwd pi t.scale t.lo t.hi t.hyper v } := by
  unfold setOriginal; simp

theorem setOriginal_of_mem (pi : ℝ) (t : IT ℝ) {v : ℝ} (h1 : t.lo < v) (h2 : v < t.hi) :
    setOriginal pi t v = some { t with x := fwd pi t.scale t.lo t.hi t.hyper v } := by
  rw [setOriginal_real, if_neg (not_or.mpr ⟨not_le.mpr h1, not_le.mpr h2⟩)]

/-! the affine map taking `]-c, c[` onto `]lo, hi[`; `d` stands for `2 c` -/

noncomputable def aff (c d lo hi a : ℝ) : ℝ := (a + c) * (hi - lo) / d + lo

theorem aff_strictMono {c d lo hi : ℝ} (hd : 0 < d) (hb : lo < hi) : StrictMono (aff c d lo hi) := by
  intro a a' h
  unfold aff
  have h' : a + c < a' + c := by linarith
  have := div_lt_div_of_pos_right (mul_lt_mul_of_pos_right h' (sub_pos.mpr hb)) hd
  linarith

theorem aff_neg (c d lo hi : ℝ) : aff c d lo hi (-c) = lo := by simp [aff]

theorem aff_pos {c d : ℝ} (hd : d ≠ 0) (hc : d = 2 * c) (lo hi : ℝ) : aff c d lo hi c = hi := by
  unfold aff
  rw [show (c + c) * (hi - lo) = (hi - lo) * d by rw [hc]; ring, mul_div_cancel_right₀ _ hd]
  ring

theorem aff_mem {c d lo hi a : ℝ} (hd : 0 < d) (hc : d = 2 * c) (hb : lo < hi) (h1 : -c < a) (h2 : a < c) :
    lo < aff c d lo hi a ∧ aff c d lo hi a < hi := by
  have hm := aff_strictMono (c := c) hd hb
  exact ⟨by simpa only [aff_neg] using hm h1, by simpa only [aff_pos hd.ne' hc] using hm h2⟩

theorem aff_inv {c d lo hi : ℝ} (hd : d ≠ 0) (hb : lo < hi) (v : ℝ) :
    aff c d lo hi (d * (v - lo) / (hi - lo) - c) = v := by
  unfold aff
  rw [sub_add_cancel, div_mul_cancel₀ _ (sub_pos.mpr hb).ne', mul_div_cancel_left₀ _ hd, sub_add_cancel]

theorem inv_aff {c d lo hi : ℝ} (hd : d ≠ 0) (hb : lo < hi) (a : ℝ) :
    d * (aff c d lo hi a - lo) / (hi - lo) - c = a := by
  unfold aff
  rw [add_sub_cancel_right, mul_div_cancel₀ _ hd, mul_div_cancel_right₀ _ (sub_pos.mpr hb).ne',
    add_sub_cancel_right]

theorem inv_mem {c d lo hi v : ℝ} (hd : 0 < d) (hc : d = 2 * c) (h1 : lo < v) (h2 : v < hi) :
    -c < d * (v - lo) / (hi - lo) - c ∧ d * (v - lo) / (hi - lo) - c < c := by
  have hb := lt_trans h1 h2
  have hm := aff_strictMono (c := c) hd hb
  constructor
  · rw [← hm.lt_iff_lt, aff_neg, aff_inv hd.ne' hb]; exact h1
  · rw [← hm.lt_iff_lt, aff_inv hd.ne' hb, aff_pos hd.ne' hc]; exact h2

theorem aff_hasDerivAt {f : ℝ → ℝ} {f' x : ℝ} (hf : HasDerivAt f f' x) (c d lo hi : ℝ) :
    HasDerivAt (fun y => aff c d lo hi (f y)) (f' * (hi - lo) / d) x :=
  (((hf.add_const c).mul_const (hi - lo)).div_const d).add_const lo

/-- the normalised position of `v` in `]lo,hi[`, mapped to `]-1,1[` -/
theorem u_mem {lo hi v : ℝ} (h1 : lo < v) (h2 : v < hi) :
    2 * (v - lo) / (hi - lo) - 1 ∈ Set.Ioo (-1 : ℝ) 1 :=
  inv_mem (c := 1) two_pos (mul_one 2).symm h1 h2

theorem fwd_hyper_real (pi s lo hi v : ℝ) (h1 : lo < v) (h2 : v < hi) :
    fwd pi s lo hi true v = s * Real.artanh (2 * (v - lo) / (hi - lo) - 1) := by
  unfold fwd
  simp only [if_true, two_real, one_eq]
  rw [atanh_eq_artanh (u_mem h1 h2)]

theorem fwd_tan_real (pi s lo hi v : ℝ) :
    fwd pi s lo hi false v = s * Real.tan (pi * (v - lo) / (hi - lo) - pi / 2) := by
  unfold fwd; simp [mul_div_assoc]

/-- the same parameter at another transformed coordinate -/
def «at» (t : IT ℝ) (x : ℝ) : IT ℝ := { t with x := x }
@[simp] theorem at_x (t : IT ℝ) (x : ℝ) : (t.at x).x = x := rfl
@[simp] theorem at_scale (t : IT ℝ) (x : ℝ) : (t.at x).scale = t.scale := rfl
@[simp] theorem at_lo (t : IT ℝ) (x : ℝ) : (t.at x).lo = t.lo := rfl
@[simp] theorem at_hi (t : IT ℝ) (x : ℝ) : (t.at x).hi = t.hi := rfl
@[simp] theorem at_hyper (t : IT ℝ) (x : ℝ) : (t.at x).hyper = t.hyper := rfl
@[simp] theorem at_self (t : IT ℝ) : t.at t.x = t := rfl

/-- explicit forms of the back-transformation as a function of the coordinate -/
noncomputable def gh (s lo hi x : ℝ) : ℝ := (Real.tanh (x / s) + 1) * (hi - lo) / 2 + lo
noncomputable def gt (pi s lo hi x : ℝ) : ℝ := (Real.arctan (x / s) + pi / 2) * (hi - lo) / pi + lo

theorem gh_eq (s lo hi x : ℝ) : gh s lo hi x = aff 1 2 lo hi (Real.tanh (x / s)) := rfl
theorem gt_eq (pi s lo hi x : ℝ) : gt pi s lo hi x = aff (pi / 2) pi lo hi (Real.arctan (x / s)) := rfl

theorem getOriginal_at (pi : ℝ) (t : IT ℝ) (x : ℝ) :
    getOriginal pi (t.at x) =
      clamp t.lo t.hi (if t.hyper then gh t.scale t.lo t.hi x else gt pi t.scale t.lo t.hi x) :=
  getOriginal_real pi (t.at x)

theorem gh_mem (s lo hi x : ℝ) (h : lo < hi) : lo < gh s lo hi x ∧ gh s lo hi x < hi :=
  aff_mem two_pos (mul_one 2).symm h (Real.neg_one_lt_tanh _) (Real.tanh_lt_one _)

theorem gh_strictMono (s lo hi : ℝ) (hs : 0 < s) (h : lo < hi) : StrictMono (gh s lo hi) :=
  fun _ _ hxy => aff_strictMono two_pos h (tanh_strictMono (div_lt_div_of_pos_right hxy hs))

theorem gt_strictMono (pi s lo hi : ℝ) (hpi : 0 < pi) (hs : 0 < s) (h : lo < hi) :
    StrictMono (gt pi s lo hi) :=
  fun _ _ hxy => aff_strictMono hpi h (Real.arctan_strictMono (div_lt_div_of_pos_right hxy hs))

/-- the tangent back-transformation stays within `(π - pi)/(2 pi)` interval widths of the interval,
whatever the constant `pi > 0` used for π -/
theorem gt_mem (pi s lo hi x : ℝ) (hpi : 0 < pi) (h : lo < hi) :
    lo - (Real.pi - pi) / (2 * pi) * (hi - lo) < gt pi s lo hi x ∧
    gt pi s lo hi x < hi + (Real.pi - pi) / (2 * pi) * (hi - lo) := by
  -- the two bounds are the images of `∓π/2`
  have e1 : lo - (Real.pi - pi) / (2 * pi) * (hi - lo) = aff (pi / 2) pi lo hi (-(Real.pi / 2)) := by
    unfold aff; ring
  have e2 : hi + (Real.pi - pi) / (2 * pi) * (hi - lo) = aff (pi / 2) pi lo hi (Real.pi / 2) := by
    unfold aff; field_simp; ring
  rw [e1, e2]
  exact ⟨aff_strictMono hpi h (Real.neg_pi_div_two_lt_arctan _),
    aff_strictMono hpi h (Real.arctan_lt_pi_div_two _)⟩

/-- with a guard on the angle the tangent back-transformation is inside the interval -/
theorem gt_mem_of_angle (pi s lo hi x : ℝ) (hpi : 0 < pi) (h : lo < hi)
    (ha : |Real.arctan (x / s)| < pi / 2) :
    lo < gt pi s lo hi x ∧ gt pi s lo hi x < hi :=
  aff_mem hpi (by ring) h (abs_lt.mp ha).1 (abs_lt.mp ha).2

/-- hyperbolic variant: the clamp is the identity -/
theorem getOriginal_at_hyper (pi : ℝ) (t : IT ℝ) (hh : t.hyper = true) (hb : t.lo < t.hi) (x : ℝ) :
    getOriginal pi (t.at x) = gh t.scale t.lo t.hi x := by
  rw [getOriginal_at]; simp only [hh, if_true]
  have ⟨h1, h2⟩ := gh_mem t.scale t.lo t.hi x hb
  exact clamp_eq_self h1.le h2.le

/-- tangent variant: the clamp is the identity under the angle guard -/
theorem getOriginal_at_tan (pi : ℝ) (t : IT ℝ) (hh : t.hyper = false) (hb : t.lo < t.hi) (hpi : 0 < pi)
    (x : ℝ) (ha : |Real.arctan (x / t.scale)| < pi / 2) :
    getOriginal pi (t.at x) = gt pi t.scale t.lo t.hi x := by
  rw [getOriginal_at]; simp only [hh, if_false, Bool.false_eq_true]
  have ⟨h1, h2⟩ := gt_mem_of_angle pi t.scale t.lo t.hi x hpi hb ha
  exact clamp_eq_self h1.le h2.le

theorem getOriginal_hyper (pi : ℝ) (t : IT ℝ) (hh : t.hyper = true) (hb : t.lo < t.hi) :
    getOriginal pi t = gh t.scale t.lo t.hi t.x := getOriginal_at_hyper pi t hh hb t.x

theorem getOriginal_hyper_mem (pi : ℝ) (t : IT ℝ) (hh : t.hyper = true) (hb : t.lo < t.hi) :
    t.lo < getOriginal pi t ∧ getOriginal pi t < t.hi := by
  rw [getOriginal_hyper pi t hh hb]; exact gh_mem _ _ _ _ hb

theorem getOriginal_tan (pi : ℝ) (t : IT ℝ) (hh : t.hyper = false) (hb : t.lo < t.hi) (hpi : 0 < pi)
    (ha : |Real.arctan (t.x / t.scale)| < pi / 2) : getOriginal pi t = gt pi t.scale t.lo t.hi t.x :=
  getOriginal_at_tan pi t hh hb hpi t.x ha

theorem arctan_abs_lt_of_pi_le {pi : ℝ} (h : Real.pi ≤ pi) (y : ℝ) : |Real.arctan y| < pi / 2 := by
  have hh := div_le_div_of_nonneg_right h zero_le_two
  exact abs_lt.mpr ⟨lt_of_le_of_lt (neg_le_neg hh) (Real.neg_pi_div_two_lt_arctan y),
    lt_of_lt_of_le (Real.arctan_lt_pi_div_two y) hh⟩

/-- the angle of the tangent forward map is inside `]-pi/2, pi/2[` -/
theorem angle_mem {pi lo hi v : ℝ} (hpi : 0 < pi) (h1 : lo < v) (h2 : v < hi) :
    -(pi / 2) < pi * (v - lo) / (hi - lo) - pi / 2 ∧ pi * (v - lo) / (hi - lo) - pi / 2 < pi / 2 :=
  inv_mem hpi (by ring) h1 h2

theorem gh_fwd {s lo hi v : ℝ} (hs : s ≠ 0) (h1 : lo < v) (h2 : v < hi) :
    gh s lo hi (s * Real.artanh (2 * (v - lo) / (hi - lo) - 1)) = v := by
  rw [gh_eq, mul_div_cancel_left₀ _ hs, Real.tanh_artanh (u_mem h1 h2)]
  exact aff_inv two_ne_zero (lt_trans h1 h2) v

theorem fwd_gh {s lo hi x : ℝ} (hs : s ≠ 0) (hb : lo < hi) :
    s * Real.artanh (2 * (gh s lo hi x - lo) / (hi - lo) - 1) = x := by
  rw [gh_eq, inv_aff two_ne_zero hb, Real.artanh_tanh, mul_div_cancel₀ _ hs]

theorem arctan_tan_angle {pi lo hi v : ℝ} (hpi : 0 < pi) (hle : pi ≤ Real.pi) (h1 : lo < v) (h2 : v < hi) :
    Real.arctan (Real.tan (pi * (v - lo) / (hi - lo) - pi / 2)) = pi * (v - lo) / (hi - lo) - pi / 2 := by
  have ⟨a1, a2⟩ := angle_mem hpi h1 h2
  have hh := div_le_div_of_nonneg_right hle zero_le_two
  exact Real.arctan_tan (lt_of_le_of_lt (neg_le_neg hh) a1) (lt_of_lt_of_le a2 hh)

theorem gt_fwd {pi s lo hi v : ℝ} (hpi : 0 < pi) (hle : pi ≤ Real.pi) (hs : s ≠ 0) (h1 : lo < v) (h2 : v < hi) :
    gt pi s lo hi (s * Real.tan (pi * (v - lo) / (hi - lo) - pi / 2)) = v := by
  rw [gt_eq, mul_div_cancel_left₀ _ hs, arctan_tan_angle hpi hle h1 h2]
  exact aff_inv hpi.ne' (lt_trans h1 h2) v

theorem fwd_gt {pi s lo hi x : ℝ} (hpi : 0 < pi) (hs : s ≠ 0) (hb : lo < hi) :
    s * Real.tan (pi * (gt pi s lo hi x - lo) / (hi - lo) - pi / 2) = x := by
  rw [gt_eq, inv_aff hpi.ne' hb, Real.tan_arctan, mul_div_cancel₀ _ hs]

/-- with a constant larger than π the tangent round trip fails for some value of every interval -/
theorem roundtrip_tan_fails (pi : ℝ) (hgt : Real.pi < pi) (t : IT ℝ) (hh : t.hyper = false)
    (hs : t.scale ≠ 0) (hb : t.lo < t.hi) :
    ∃ v t', t.lo < v ∧ v < t.hi ∧ setOriginal pi t v = some t' ∧ getOriginal pi t' ≠ v := by
  have hπ := Real.pi_pos
  have hppos : 0 < pi := lt_trans hπ hgt
  -- an angle `θ ∈ ]π/2, pi/2[` below `π`, and the value it is the image of
  obtain ⟨θ, hθ1, hθ2⟩ :=
    exists_between (lt_min (div_lt_div_of_pos_right hgt two_pos) (half_lt_self hπ))
  obtain ⟨hθ2, hθ3⟩ := lt_min_iff.mp hθ2
  obtain ⟨h1, h2⟩ := aff_mem hppos (by ring) hb (show -(pi / 2) < θ by linarith) hθ2
  refine ⟨aff (pi / 2) pi t.lo t.hi θ, _, h1, h2, setOriginal_of_mem pi t h1 h2, ?_⟩
  -- `tan θ = tan (θ - π)` and `θ - π ∈ ]-π/2, π/2[`: the way back lands `π` lower
  have hat : Real.arctan (t.scale * Real.tan θ / t.scale) = θ - Real.pi := by
    rw [mul_div_cancel_left₀ _ hs, ← Real.tan_sub_pi θ, Real.arctan_tan (by linarith) (by linarith)]
  show getOriginal pi (t.at _) ≠ _
  rw [hh, fwd_tan_real, inv_aff hppos.ne' hb,
    getOriginal_at_tan pi t hh hb hppos _ (by rw [hat, abs_lt]; constructor <;> linarith), gt_eq, hat]
  exact ((aff_strictMono hppos hb) (sub_lt_self θ hπ)).ne

theorem hasDerivAt_div_const (s x : ℝ) : HasDerivAt (fun y : ℝ => y / s) (1 / s) x :=
  (hasDerivAt_id x).div_const s

theorem comp_div_hasDerivAt {f : ℝ → ℝ} {f' : ℝ} (s x : ℝ) (hf : HasDerivAt f f' (x / s)) :
    HasDerivAt (fun y => f (y / s)) (f' * (1 / s)) x :=
  hf.comp x (hasDerivAt_div_const s x)

theorem gh_hasDerivAt (s lo hi x : ℝ) :
    HasDerivAt (gh s lo hi) (1 / Real.cosh (x / s) ^ 2 * (hi - lo) / (2 * s)) x := by
  refine (aff_hasDerivAt (comp_div_hasDerivAt s x (hasDerivAt_tanh (x / s))) 1 2 lo hi).congr_deriv ?_
  ring

theorem hasDerivAt_at_hyper (pi : ℝ) (t : IT ℝ) (hh : t.hyper = true) (hb : t.lo < t.hi) :
    HasDerivAt (fun x => getOriginal pi (t.at x)) (d1 pi t) t.x := by
  rw [funext (getOriginal_at_hyper pi t hh hb), d1_real, if_pos hh]
  exact gh_hasDerivAt t.scale t.lo t.hi t.x

theorem gt_hasDerivAt (pi s lo hi x : ℝ) :
    HasDerivAt (gt pi s lo hi) ((hi - lo) / (pi * s * ((x / s) ^ 2 + 1))) x := by
  refine (aff_hasDerivAt (comp_div_hasDerivAt s x (Real.hasDerivAt_arctan (x / s)))
    (pi / 2) pi lo hi).congr_deriv ?_
  rw [add_comm (1 : ℝ)]
  generalize (x / s) ^ 2 + 1 = q
  ring

/-- first derivative as a function of the coordinate -/
noncomputable def gh' (s lo hi x : ℝ) : ℝ := 1 / Real.cosh (x / s) ^ 2 * (hi - lo) / (2 * s)
noncomputable def gt' (pi s lo hi x : ℝ) : ℝ := (hi - lo) / (pi * s * ((x / s) ^ 2 + 1))

theorem d1_at (pi : ℝ) (t : IT ℝ) (x : ℝ) :
    d1 pi (t.at x) = if t.hyper then gh' t.scale t.lo t.hi x else gt' pi t.scale t.lo t.hi x :=
  d1_real pi (t.at x)

/-- tangent variant, any constant: on the coordinates that satisfy the angle guard the
back-transformation is `gt`, hence strictly increasing -/
theorem strictMonoOn_at_tan (pi : ℝ) (hpi : 0 < pi) (t : IT ℝ) (hh : t.hyper = false) (hs : 0 < t.scale)
    (hb : t.lo < t.hi) :
    StrictMonoOn (fun x => getOriginal pi (t.at x)) {x | |Real.arctan (x / t.scale)| < pi / 2} :=
  fun x hx y hy hxy => by
    simp only [getOriginal_at_tan pi t hh hb hpi _ hx, getOriginal_at_tan pi t hh hb hpi _ hy]
    exact gt_strictMono _ _ _ _ hpi hs hb hxy

/-- ... and differentiable there with derivative `getFirstOrderDerivative` -/
theorem hasDerivAt_at_tan (pi : ℝ) (hpi : 0 < pi) (t : IT ℝ) (hh : t.hyper = false) (hb : t.lo < t.hi)
    (ha : |Real.arctan (t.x / t.scale)| < pi / 2) :
    HasDerivAt (fun x => getOriginal pi (t.at x)) (d1 pi t) t.x := by
  rw [← t.at_self, d1_at, hh, if_neg Bool.false_ne_true]
  refine (gt_hasDerivAt pi t.scale t.lo t.hi t.x).congr_of_eventuallyEq ?_
  -- the guard is an open condition, so it holds near `t.x`, where the clamp is then the identity
  have hopen : IsOpen {x : ℝ | |Real.arctan (x / t.scale)| < pi / 2} :=
    isOpen_lt (continuous_abs.comp (Real.continuous_arctan.comp (continuous_id.div_const _))) continuous_const
  filter_upwards [hopen.mem_nhds ha] with x hx
  exact getOriginal_at_tan pi t hh hb hpi x hx

theorem gh'_hasDerivAt (s lo hi x : ℝ) :
    HasDerivAt (gh' s lo hi)
      (-1 / Real.cosh (x / s) ^ 2 * Real.tanh (x / s) * (hi - lo) / (s * s)) x := by
  -- written with `1 / cosh² = 1 - tanh²` no cancellation of `cosh` is needed
  have h1 := comp_div_hasDerivAt s x (hasDerivAt_tanh (x / s))
  have h3 := ((((h1.pow 2).const_sub 1).mul_const (hi - lo)).div_const (2 * s))
  have e : gh' s lo hi = fun y => (1 - Real.tanh (y / s) ^ 2) * (hi - lo) / (2 * s) := by
    funext y; rw [gh', one_div_cosh_sq]
  rw [e]
  refine h3.congr_deriv ?_
  simp only [Nat.cast_ofNat, Nat.add_one_sub_one, pow_one]
  ring

theorem gt'_hasDerivAt (pi s lo hi x : ℝ) :
    HasDerivAt (gt' pi s lo hi)
      (-2 * x * (hi - lo) / (pi * s ^ 3 * ((x / s) ^ 2 + 1) ^ 2)) x := by
  have hq : (x / s) ^ 2 + 1 ≠ 0 := by positivity
  have h1 := ((((hasDerivAt_div_const s x).pow 2).add_const (1 : ℝ)).inv hq).const_mul ((hi - lo) / (pi * s))
  have e : gt' pi s lo hi = fun y => (hi - lo) / (pi * s) * ((y / s) ^ 2 + 1)⁻¹ := by
    funext y; unfold gt'; rw [div_mul_eq_div_div, div_eq_mul_inv ((hi - lo) / (pi * s))]
  rw [e]
  refine (h1.congr_deriv ?_)
  simp only [Pi.pow_apply, Nat.cast_ofNat, Nat.add_one_sub_one, pow_one]
  generalize (x / s) ^ 2 + 1 = q
  ring

end IT

/-! ### the library's constants (regenerated from NumConstants.h on every run) -/

theorem libPI_pos : (0 : ℝ) < libPI := by
  simp only [libPI, Generated.TransformConstants.PI, ofRat_eq]
  norm_num

/-- the hypothesis the tangent round trip forces on the constant: `PI() ≤ π`.  False for the
original `3.141593`, true for the full-precision double. -/
theorem libPI_lt_pi : (libPI : ℝ) < Real.pi := by
  have h := Real.pi_gt_d20
  simp only [libPI, Generated.TransformConstants.PI, ofRat_eq]
  refine lt_trans ?_ h
  norm_num

theorem libTINY_pos : (0 : ℝ) < libTINY := by
  simp only [libTINY, Generated.TransformConstants.TINY, ofRat_eq]
  norm_num

/-- for small positive angles `tan w ≤ 2 w` -/
theorem tan_le_two_mul {w : ℝ} (h0 : 0 ≤ w) (h1 : w ≤ 1) : Real.tan w ≤ 2 * w := by
  have hc : 1 / 2 ≤ Real.cos w := by
    have := Real.one_sub_sq_div_two_le_cos (x := w)
    have := pow_le_one₀ (n := 2) h0 h1
    linarith
  rw [Real.tan_eq_sin_div_cos, div_le_iff₀ (by linarith)]
  have := mul_le_mul_of_nonneg_left hc (mul_nonneg zero_le_two h0)
  linarith [Real.sin_le h0]

/-- `|arctan y|` stays `δ` below `π/2` for `|y| ≤ Y` when `2 δ < 1/Y`:
`arctan Y = π/2 - arctan (1/Y)` and `arctan (1/Y) > δ` because `tan δ ≤ 2 δ < 1/Y` -/
theorem arctan_abs_lt_sub {δ Y y : ℝ} (h0 : 0 ≤ δ) (h1 : 2 * δ < Y⁻¹) (hY : 1 ≤ Y) (hy : |y| ≤ Y) :
    |Real.arctan y| < Real.pi / 2 - δ := by
  have hinv : Y⁻¹ ≤ 1 := inv_le_one_of_one_le₀ hY
  have hπ := Real.pi_gt_three
  have ht := lt_of_le_of_lt (tan_le_two_mul h0 (by linarith)) h1
  have hlt : δ < Real.arctan Y⁻¹ := by
    have h3 := Real.arctan_strictMono ht
    rwa [Real.arctan_tan (by linarith) (by linarith)] at h3
  have key := Real.arctan_inv_of_pos (lt_of_lt_of_le one_pos hY)
  rw [abs_le] at hy
  rw [abs_lt]
  constructor
  · have := Real.arctan_strictMono.monotone hy.1
    rw [Real.arctan_neg] at this
    linarith
  · have := Real.arctan_strictMono.monotone hy.2
    linarith

/-- the angle guard of the tangent transform with the library's constant: coordinates up to
`10^15` scales stay below `PI()/2` -/
theorem arctan_abs_lt_libPI_half {y : ℝ} (hy : |y| ≤ 10 ^ 15) : |Real.arctan y| < (libPI : ℝ) / 2 := by
  have hlt := Real.pi_lt_d20
  have hP : (3.1415926535897931 : ℝ) < libPI := by
    simp only [libPI, Generated.TransformConstants.PI, ofRat_eq]; norm_num
  rw [← sub_sub_cancel (Real.pi / 2) ((libPI : ℝ) / 2)]
  refine arctan_abs_lt_sub (by linarith [libPI_lt_pi]) (lt_of_le_of_lt (b := 2 * 2e-16) ?_ (by norm_num))
    (by norm_num) hy
  linarith

end Bpp.Transform

/-! Two property theorems of `Props/C11.lean` are proved here, because `Lemmas/Reparam.lean` needs
them for the transformed parameters `init_` builds and a lemma module imports no theorem file. -/
namespace Bpp.C11aux
open Bpp Bpp.Transform
/-- every real coordinate back-transforms strictly inside the half-line (any positive scale) -/
theorem r_inside (t : RT ℝ) (hs : 0 < t.scale) : t.Inside t.getOriginal := by
  rw [RT.inside_iff, RT.getOriginal_real, add_sub_cancel_right, ← mul_assoc, RT.sgn_mul_self, one_mul]
  split_ifs with hx
  · exact div_pos (Real.exp_pos _) hs
  · exact add_pos_of_nonneg_of_pos (div_nonneg (not_lt.mp hx) hs.le) one_pos

theorem r_roundtrip (t : RT ℝ) (hs : t.scale = 1) (v : ℝ) (hv : t.Inside v) :
    ∃ t', t.setOriginal v = some t' ∧ t'.getOriginal = v ∧
      t'.scale = t.scale ∧ t'.bound = t.bound ∧ t'.positive = t.positive := by
  rw [RT.setOriginal_real, if_pos ((RT.inside_iff t v).mp hv)]
  refine ⟨_, rfl, ?_, rfl, rfl, rfl⟩
  show (t.at (RT.fwdR t v)).getOriginal = v
  rw [RT.getOriginal_unit (t.at (RT.fwdR t v)) hs]
  show RT.sgn t.positive * RT.gp (RT.fp t.scale (RT.sgn t.positive * (v - t.bound))) + t.bound = v
  rw [hs, RT.gp_fp ((RT.inside_iff t v).mp hv), ← mul_assoc, RT.sgn_mul_self, one_mul, sub_add_cancel]

end Bpp.C11aux
