import BppModel.HmmFull
import BppProofs.Lemmas.Hmm
import BppProofs.Lemmas.Simplex
import BppProofs.Lemmas.HmmStationary
import BppProofs.Lemmas.HmmFullCache
/-!
Helper lemmas for C13: `FullHmmTransitionMatrix` read at `ℝ` — the rows are probability vectors in every
history (C19's invariant of the simplices), and the equilibrium vector (row 0 of `P^(2^K)`, the matrix being
squared until its rows agree) is a probability vector that is stationary up to the tolerance of the loop, or up to
the explicit remainder `2·(1 − n·δ)^(2^64)`.
-/
namespace Bpp.Hmm
open Bpp Finset Matrix

/-! ### the rows -/

/-- a simplex satisfying C19's invariant (parameters in ]0,1[, probabilities = image of the parameters), with the
strict constraint and of dimension `n` -/
def StrictRow (n : Nat) (r : Simplex.St ℝ) : Prop := Simplex.Inv r ∧ r.allowNull = false ∧ r.dim = n

def FullTM.RowsInv (m : FullTM ℝ) : Prop := m.rows.length = m.n ∧ ∀ r ∈ m.rows, StrictRow m.n r

theorem FullTM.build_rowsInv (n : Nat) (hn : 0 < n) (h31 : n < 2 ^ 31) :
    ∃ m, FullTM.build (α := ℝ) n = some m ∧ m.RowsInv ∧ m.n = n := by
  obtain ⟨s, e, _, hi, ha, hd, _⟩ := Simplex.constructDim_ok n 1 false (Or.inl rfl) hn h31
  refine ⟨⟨n, List.replicate n s, List.replicate n (List.replicate n Scalar.zero), List.replicate n Scalar.zero,
    false, false⟩, by simp only [FullTM.build, e], ⟨List.length_replicate, fun r hr => ?_⟩, rfl⟩
  rw [(List.mem_replicate.mp hr).2]; exact ⟨hi, ha, hd⟩

theorem simplexMatchOne_inv {n : Nat} {r r' : Simplex.St ℝ} (h : StrictRow n r) {k : Nat} {v : ℝ}
    (e : simplexMatchOne r k v = .ok r') : StrictRow n r' := by
  obtain ⟨hi, ha, hd⟩ := h
  unfold simplexMatchOne at e
  cases hk : r.params[k]? with
  | none => rw [hk] at e; cases e; exact ⟨hi, ha, hd⟩
  | some cur =>
    simp only [hk] at e
    split at e
    · cases e
    · rename_i hc
      split at e
      · cases e; exact ⟨hi, ha, hd⟩
      · cases e
        have hv : 0 < v ∧ v < 1 := (Simplex.inConstraint_open v).mp (by simpa [ha] using hc)
        have hs := Simplex.fire_same ({ r with params := r.params.set k v })
        exact ⟨Simplex.fire_inv _ hi.method hi.dim_pos hi.dim_lt (List.length_set.trans hi.len) (hi.inOpen.set k hv),
          hs.2.2.trans ha, hs.1.trans hd⟩

theorem setRowsLoop_inv (n : Nat) (rows rows' : List (Simplex.St ℝ)) (mat : List (List ℝ))
    (h : ∀ r ∈ rows, StrictRow n r) (e : setRowsLoop rows mat = .ok rows') :
    rows'.length = rows.length ∧ ∀ r ∈ rows', StrictRow n r := by
  induction rows generalizing rows' mat with
  | nil => cases e; exact ⟨rfl, h⟩
  | cons r rs ih =>
    cases mat with
    | nil => cases e
    | cons p ps =>
      simp only [setRowsLoop] at e
      cases h1 : Simplex.setFrequencies r p with
      | error err => rw [h1] at e; cases e
      | ok r1 =>
        cases h2 : setRowsLoop rs ps with
        | error err => rw [h1, h2] at e; cases e
        | ok rs1 =>
          rw [h1, h2] at e; cases e
          obtain ⟨⟨hr, ha, hd⟩, hrs⟩ := List.forall_mem_cons.mp h
          obtain ⟨l, hall⟩ := ih rs1 ps hrs h2
          have hs := Simplex.setFrequencies_same r r1 p h1
          exact ⟨congrArg (· + 1) l, List.forall_mem_cons.mpr
            ⟨⟨Simplex.setFrequencies_inv r hr ha p _ h1, hs.2.2.trans ha, hs.1.trans hd⟩, hall⟩⟩

theorem FullTM.fireOne_rowsInv (m : FullTM ℝ) (h : m.RowsInv) (i k : Nat) (w : ℝ) :
    (m.fireOne i k w).1.RowsInv ∧ (m.fireOne i k w).1.n = m.n := by
  unfold FullTM.fireOne
  cases hri : m.rows[i]? with
  | none => exact ⟨h, rfl⟩
  | some r =>
    dsimp only
    cases hm : simplexMatchOne r k w with
    | error e => exact ⟨h, rfl⟩
    | ok r' =>
      refine ⟨⟨List.length_set.trans h.1, fun x hx => ?_⟩, rfl⟩
      rcases List.mem_or_eq_of_mem_set hx with h1 | rfl
      · exact h.2 x h1
      · exact simplexMatchOne_inv (h.2 r (List.mem_of_getElem? hri)) hm

theorem FullTM.step_rowsInv (m : FullTM ℝ) (h : m.RowsInv) (op : FullOp ℝ) :
    (m.step op).1.RowsInv ∧ (m.step op).1.n = m.n := by
  cases op with
  | setRows mat =>
    simp only [FullTM.step, FullTM.setRows]
    split
    · exact ⟨h, rfl⟩
    · cases hloop : setRowsLoop m.rows mat with
      | error e => exact ⟨h, rfl⟩
      | ok rows' =>
        obtain ⟨l, hall⟩ := setRowsLoop_inv m.n m.rows rows' mat h.2 hloop
        dsimp only
        split <;> exact ⟨⟨l.trans h.1, hall⟩, rfl⟩
  | setTheta i k v =>
    simp only [FullTM.step, FullTM.setTheta]
    cases m.rows[i]? with
    | none => exact ⟨h, rfl⟩
    | some r =>
      dsimp only
      cases r.params[k]? with
      | none => exact ⟨h, rfl⟩
      | some cur =>
        dsimp only
        split
        · split
          · exact FullTM.fireOne_rowsInv m h i k v
          · exact ⟨h, rfl⟩
        · exact FullTM.fireOne_rowsInv m h i k cur
  | getPij =>
    simp only [FullTM.step, FullTM.getPij]
    split <;> exact ⟨h, rfl⟩
  | entry i j => exact ⟨h, rfl⟩
  | getEq =>
    simp only [FullTM.step, FullTM.getEq, FullTM.getPij]
    split
    · exact ⟨h, rfl⟩
    · split <;> (split <;> exact ⟨h, rfl⟩)

/-- the state after a history -/
noncomputable def FullTM.after (m : FullTM ℝ) : List (FullOp ℝ) → FullTM ℝ
  | [] => m
  | op :: ops => FullTM.after (m.step op).1 ops

theorem FullTM.after_rowsInv (m : FullTM ℝ) (h : m.RowsInv) (ops : List (FullOp ℝ)) :
    (m.after ops).RowsInv ∧ (m.after ops).n = m.n := by
  induction ops generalizing m with
  | nil => exact ⟨h, rfl⟩
  | cons op ops ih =>
    obtain ⟨h1, h2⟩ := FullTM.step_rowsInv m h op
    obtain ⟨h3, h4⟩ := ih _ h1
    exact ⟨h3, h4.trans h2⟩

theorem list_eq_vec {α : Type} (l : List α) (n : Nat) (h : l.length = n) (d : α) : l = vec n (fun j => l.getD j d) :=
  List.ext_getElem (by rw [vec_length, h]) fun i h1 _ => by
    simp only [vec, List.getElem_map, List.getElem_range, ← List.getElem_eq_getD (h := h1) d]

/-- the matrix of an object satisfying the invariant: `n` rows of `n` positive entries summing to one -/
theorem FullTM.rows_stochastic (m : FullTM ℝ) (h : m.RowsInv) :
    ∃ Pf : Nat → Nat → ℝ, fullMatrix m.rows = vec m.n (fun i => vec m.n (Pf i))
      ∧ (∀ i j, i < m.n → j < m.n → 0 < Pf i j) ∧ ∀ i, i < m.n → ∑ j ∈ range m.n, Pf i j = 1 := by
  obtain ⟨hl, hr⟩ := h
  have hrow : ∀ i, i < m.n → ((fullMatrix m.rows).getD i []).length = m.n
      ∧ Simplex.AllPos ((fullMatrix m.rows).getD i []) ∧ ((fullMatrix m.rows).getD i []).sum = 1 := fun i hi => by
    have hi' : i < m.rows.length := hl ▸ hi
    obtain ⟨hinv, _, hd⟩ := hr _ (List.getElem_mem hi')
    rw [fullMatrix, List.getD_eq_getElem?_getD, List.getElem?_map, List.getElem?_eq_getElem hi']
    exact ⟨hinv.sum_one.2.2.trans hd, hinv.sum_one.2.1, hinv.sum_one.1⟩
  refine ⟨fun i j => ((fullMatrix m.rows).getD i []).getD j 0,
    (list_eq_vec _ m.n ((List.length_map _).trans hl) []).trans
      (vec_congr _ _ _ fun i hi => list_eq_vec _ _ (hrow i hi).1 0),
    fun i j hi hj => ?_, fun i hi => ?_⟩
  · have hj' : j < ((fullMatrix m.rows).getD i []).length := (hrow i hi).1 ▸ hj
    exact lt_of_lt_of_eq ((hrow i hi).2.1 _ (List.getElem_mem hj')) (List.getElem_eq_getD 0)
  · rw [← sum_vec, ← list_eq_vec _ _ (hrow i hi).1 0]
    exact (hrow i hi).2.2

/-! ### the equilibrium vector (the repaired loop: squaring until the rows agree) -/

/-- the list form of an `n × n` matrix of entries `f i j` -/
noncomputable def matL (n : Nat) (f : Nat → Nat → ℝ) : List (List ℝ) := vec n (fun i => vec n (f i))

/-- … and its Mathlib form -/
def toM (n : Nat) (f : Nat → Nat → ℝ) : Matrix (Fin n) (Fin n) ℝ := fun i j => f i j

/-- the entries of the square -/
noncomputable def sqF (n : Nat) (f : Nat → Nat → ℝ) : Nat → Nat → ℝ := fun i j => ∑ k ∈ range n, f i k * f k j

theorem toM_sqF (n : Nat) (f : Nat → Nat → ℝ) : toM n (sqF n f) = toM n f * toM n f := by
  ext i j; exact Finset.sum_range _

theorem colOf_matL (n : Nat) (f : Nat → Nat → ℝ) (j : Nat) (hj : j < n) : colOf (matL n f) j = vec n (fun k => f k j) := by
  unfold colOf matL vec
  rw [List.filterMap_map, ← List.filterMap_eq_map]
  exact List.filterMap_congr fun i _ => vec_getElem? n (f i) j hj

theorem sqRows_matL (n : Nat) (f : Nat → Nat → ℝ) : sqRows n (matL n f) = matL n (sqF n f) := by
  unfold sqRows
  rw [show matL n f = (List.range n).map fun i => vec n (f i) from rfl, List.map_map]
  refine List.map_congr_left fun i _ => List.map_congr_left fun j hj => ?_
  show sumL (List.zipWith _ (vec n (f i)) (colOf (matL n f) j)) = _
  rw [colOf_matL n f j (List.mem_range.mp hj)]
  exact dot_vec n (f i) fun k => f k j

theorem normRows_matL (n : Nat) (f : Nat → Nat → ℝ) (h : ∀ i, i < n → ∑ j ∈ range n, f i j = 1) :
    normRows (matL n f) = matL n f := by
  unfold normRows
  rw [show matL n f = (List.range n).map fun i => vec n (f i) from rfl, List.map_map]
  refine List.map_congr_left fun i hi => ?_
  rw [Function.comp_apply, sumL_vec, h i (List.mem_range.mp hi)]
  simp only [div_one, List.map_id']

/-- the running maximum of the inner loop -/
theorem foldMax_spec (l : List (ℝ × ℝ)) (s0 : ℝ) :
    let r := l.foldl (fun s (x : ℝ × ℝ) => if s < |x.1 - x.2| then |x.1 - x.2| else s) s0
    s0 ≤ r ∧ (∀ x ∈ l, |x.1 - x.2| ≤ r) ∧ ∀ c, s0 ≤ c → (∀ x ∈ l, |x.1 - x.2| ≤ c) → r ≤ c := by
  induction l generalizing s0 with
  | nil => exact ⟨le_refl _, fun x hx => absurd hx List.not_mem_nil, fun c h _ => h⟩
  | cons x xs ih =>
    obtain ⟨i1, i2, i3⟩ := ih (if s0 < |x.1 - x.2| then |x.1 - x.2| else s0)
    have h1 : s0 ≤ (if s0 < |x.1 - x.2| then |x.1 - x.2| else s0)
        ∧ |x.1 - x.2| ≤ (if s0 < |x.1 - x.2| then |x.1 - x.2| else s0) := by
      split
      · exact ⟨le_of_lt ‹_›, le_refl _⟩
      · exact ⟨le_refl _, not_lt.mp ‹_›⟩
    refine ⟨le_trans h1.1 i1, List.forall_mem_cons.mpr ⟨le_trans h1.2 i1, i2⟩, fun c hc hall => ?_⟩
    obtain ⟨hx, hxs⟩ := List.forall_mem_cons.mp hall
    exact i3 c (by split; exacts [hx, hc]) hxs

/-- `spreadOf` is the largest distance of an entry to the entry of row 0 above it -/
theorem spreadOf_matL (n : Nat) (hn : 0 < n) (f : Nat → Nat → ℝ) :
    (∀ i j, i < n → j < n → |f i j - f 0 j| ≤ spreadOf (matL n f))
    ∧ ∀ c, 0 ≤ c → (∀ i j, i < n → j < n → |f i j - f 0 j| ≤ c) → spreadOf (matL n f) ≤ c := by
  obtain ⟨m, rfl⟩ : ∃ m, n = m + 1 := ⟨n - 1, by omega⟩
  have hsp : spreadOf (matL (m + 1) f) = ((matL (m + 1) f).flatMap fun r => List.zip r (vec (m + 1) (f 0))).foldl
      (fun s (x : ℝ × ℝ) => if s < |x.1 - x.2| then |x.1 - x.2| else s) 0 := by
    rw [List.foldl_flatMap, matL, vec_succ']
    simp only [spreadOf, ScalarReal.gtb_iff, ScalarReal.abs_eq, ScalarReal.zero_eq, sub_eq]
  have hmem : ∀ P : ℝ × ℝ → Prop, (∀ x ∈ (matL (m + 1) f).flatMap fun r => List.zip r (vec (m + 1) (f 0)), P x)
      ↔ ∀ i j, i < m + 1 → j < m + 1 → P (f i j, f 0 j) := fun P => by
    simp only [matL, vec, List.mem_flatMap, List.mem_map, List.mem_range, List.zip_map', exists_exists_and_eq_and]
    exact ⟨fun h i j hi hj => h _ ⟨i, hi, j, hj, rfl⟩, fun h x ⟨i, hi, j, hj, e⟩ => e ▸ h i j hi hj⟩
  obtain ⟨_, o2, o3⟩ := foldMax_spec ((matL (m + 1) f).flatMap fun r => List.zip r (vec (m + 1) (f 0))) 0
  rw [hsp]
  exact ⟨(hmem _).mp o2, fun c hc hall => o3 c hc ((hmem _).mpr hall)⟩

theorem vecMul_pow_fixed {n : Nat} (Y : Matrix (Fin n) (Fin n) ℝ) (μ : Fin n → ℝ) (hst : μ ᵥ* Y = μ) (m : Nat) :
    μ ᵥ* Y ^ m = μ := by
  induction m with
  | zero => rw [pow_zero, Matrix.vecMul_one]
  | succ m ih => rw [pow_succ', ← Matrix.vecMul_vecMul, hst, ih]

/-- the loop ends on the list form of `Y^(2^K)`; it has either converged there or used all its iterations -/
theorem eqLoop_pow (n : Nat) (fuel : Nat) (f : Nat → Nat → ℝ) (hY : toM n f ∈ Matrix.rowStochastic ℝ (Fin n)) :
    ∃ K g, K ≤ fuel ∧ eqLoop n fuel (matL n f) = matL n g ∧ toM n g = toM n f ^ (2 ^ K)
      ∧ (spreadOf (matL n g) ≤ (eqTol : ℝ) ∨ (K = fuel ∧ (eqTol : ℝ) < spreadOf (matL n g))) := by
  induction fuel generalizing f with
  | zero => exact ⟨0, f, le_refl _, rfl, (pow_one _).symm, (le_or_gt _ _).imp_right fun h => ⟨rfl, h⟩⟩
  | succ fuel ih =>
    by_cases hconv : spreadOf (matL n f) ≤ (eqTol : ℝ)
    · exact ⟨0, f, Nat.zero_le _, by rw [eqLoop, if_pos ((ScalarReal.leb_iff _ _).mpr hconv)], (pow_one _).symm,
        Or.inl hconv⟩
    · have hY2 : toM n (sqF n f) ∈ Matrix.rowStochastic ℝ (Fin n) := toM_sqF n f ▸ mul_mem hY hY
      obtain ⟨K, g, hK, he, hg, hc⟩ := ih (sqF n f) hY2
      refine ⟨K + 1, g, Nat.succ_le_succ hK, ?_, by rw [hg, toM_sqF, ← pow_two, ← pow_mul, ← pow_succ'],
        hc.imp_right fun h => ⟨congrArg (· + 1) h.1, h.2⟩⟩
      rw [eqLoop, if_neg (fun h => hconv ((ScalarReal.leb_iff _ _).mp h)), sqRows_matL, normRows_matL _ _ fun i hi =>
        (Finset.sum_range _).trans ((Matrix.mem_rowStochastic_iff_sum.mp hY2).2 ⟨i, hi⟩), he]

/-- rows that agree within `c`: row 0 is within `c` of every stationary distribution, and stationary up to `c` -/
theorem rows_agree_stationary {n : Nat} (hn : 0 < n) (Y : Matrix (Fin n) (Fin n) ℝ)
    (hY : Y ∈ Matrix.rowStochastic ℝ (Fin n)) (m : Nat) (c : ℝ)
    (hc : ∀ i j, |(Y ^ m) i j - (Y ^ m) ⟨0, hn⟩ j| ≤ c) :
    (∀ μ : Fin n → ℝ, (∀ i, 0 ≤ μ i) → ∑ i, μ i = 1 → μ ᵥ* Y = μ → ∀ j, |(Y ^ m) ⟨0, hn⟩ j - μ j| ≤ c)
    ∧ ∀ j, |∑ k, (Y ^ m) ⟨0, hn⟩ k * Y k j - (Y ^ m) ⟨0, hn⟩ j| ≤ c := by
  have avg : ∀ (w : Fin n → ℝ), (∀ i, 0 ≤ w i) → ∑ i, w i = 1 → ∀ j,
      |∑ i, w i * (Y ^ m) i j - (Y ^ m) ⟨0, hn⟩ j| ≤ c := by
    intro w hw0 hw1 j
    have : ∑ i, w i * (Y ^ m) i j - (Y ^ m) ⟨0, hn⟩ j = ∑ i, w i * ((Y ^ m) i j - (Y ^ m) ⟨0, hn⟩ j) := by
      simp only [mul_sub, Finset.sum_sub_distrib, ← Finset.sum_mul, hw1, one_mul]
    rw [this]
    calc |∑ i, w i * ((Y ^ m) i j - (Y ^ m) ⟨0, hn⟩ j)| ≤ ∑ i, |w i * ((Y ^ m) i j - (Y ^ m) ⟨0, hn⟩ j)| :=
          Finset.abs_sum_le_sum_abs _ _
      _ ≤ ∑ i, w i * c := Finset.sum_le_sum (fun i _ => by
          rw [abs_mul, abs_of_nonneg (hw0 i)]; exact mul_le_mul_of_nonneg_left (hc i j) (hw0 i))
      _ = c := by rw [← Finset.sum_mul, hw1, one_mul]
  constructor
  · intro μ hμ0 hμ1 hst j
    have hpow : μ ᵥ* Y ^ m = μ := vecMul_pow_fixed Y μ hst m
    have h1 := avg μ hμ0 hμ1 j
    rw [show ∑ i, μ i * (Y ^ m) i j = μ j from congrFun hpow j] at h1
    rw [abs_sub_comm]; exact h1
  · intro j
    obtain ⟨hY0, hY1⟩ := Matrix.mem_rowStochastic_iff_sum.mp hY
    have h1 := avg (fun k => Y ⟨0, hn⟩ k) (fun k => hY0 _ k) (hY1 _) j
    rw [show ∑ k, (Y ^ m) ⟨0, hn⟩ k * Y k j = ∑ k, Y ⟨0, hn⟩ k * (Y ^ m) k j from
      congrFun (congrFun (by rw [← pow_succ, ← pow_succ'] : Y ^ m * Y = Y * Y ^ m) ⟨0, hn⟩) j]
    exact h1

/-- the rows of `Y^m` agree within `2(1 − n·δ)^m` (Dobrushin) -/
theorem rows_agree_bound {n : Nat} (hn : 0 < n) (Y : Matrix (Fin n) (Fin n) ℝ) (hY : ∀ i, ∑ j, Y i j = 1) (δ : ℝ)
    (hδ : ∀ i j, δ ≤ Y i j) (hcδ : 0 ≤ 1 - (n : ℝ) * δ) (m : Nat) (i j : Fin n) :
    |(Y ^ m) i j - (Y ^ m) ⟨0, hn⟩ j| ≤ 2 * (1 - n * δ) ^ m := by
  have hs : ∀ a : Fin n, (∀ k, 0 ≤ (Pi.single a (1 : ℝ) : Fin n → ℝ) k) ∧ ∑ k, (Pi.single a (1 : ℝ) : Fin n → ℝ) k = 1 :=
    fun a => ⟨fun k => by rw [Pi.single_apply]; split <;> norm_num,
      (Finset.sum_pi_single' a 1 _).trans (if_pos (Finset.mem_univ a))⟩
  have h := abs_sub_vecMul_pow_le Y hY δ hδ hcδ (hs i).1 (hs ⟨0, hn⟩).1 (hs i).2 (hs ⟨0, hn⟩).2 m j
  rw [Matrix.sub_vecMul, Matrix.single_one_vecMul, Matrix.single_one_vecMul] at h
  exact h

end Bpp.Hmm
