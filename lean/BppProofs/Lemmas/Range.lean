import BppModel.Range
/-! C20 (Range.h) for every coordinate type that is a decidable linear order with a constant `0`
(`Std.IsLinearOrder`, `Std.LawfulOrderLT` of core Lean — instances exist for `Int`, `UInt32` and
`Rat`).  The vocabulary of the specification: the points of a range (`Range.mem`) and of a list of
ranges (`pts`), disjointness (`Range.Disj`), the representation invariant of a multi-range (`Inv`:
non-empty ranges, ascending for `R`).  `MultiRange::addRange` and `restrictTo` end in `clean_`:
`PreClean` is what `clean_` needs of its input (well-formed ranges, pairwise disjoint unless empty)
to establish `Inv` without changing the points (`clean_spec`); `addInput_spec` and `preClean_slice`
show that the two supply it.  `sorted_ext`: a list satisfying `Inv` is determined by its members.
Property theorems are in `Props/C20*.lean`. -/
set_option linter.unusedSectionVars false
namespace Bpp

/-- `std::min` / `std::max` of a linear order (Range.h:47-48) -/
class MinMaxLaws (α : Type) [LE α] [DecidableLE α] [Min α] [Max α] : Prop where
  min_def : ∀ a b : α, min a b = if a ≤ b then a else b
  max_def : ∀ a b : α, max a b = if a ≤ b then b else a

/-- what the shifts need of `+` and `-`: laws of a commutative group, valid for `int` (no
overflow), `unsigned` (modulo 2^32) and `double` on exactly representable values alike -/
class ShiftLaws (α : Type) [Add α] [Sub α] : Prop where
  add_sub_cancel : ∀ a v : α, a + v - v = a
  sub_add_cancel : ∀ a v : α, a - v + v = a
  add_sub_add : ∀ a b v : α, (a + v) - (b + v) = a - b
  sub_sub_sub : ∀ a b v : α, (a - v) - (b - v) = a - b

namespace Range
section
variable {α : Type} [LE α] [LT α] [DecidableLE α] [DecidableLT α] [DecidableEq α]

/-- point membership in the half-open interval `[b,e[` -/
def mem (p : α) (x : Range α) : Prop := x.b ≤ p ∧ p < x.e
/-- disjointness of two stored ranges, as end-point arithmetic -/
def Disj (x y : Range α) : Prop := x.e ≤ y.b ∨ y.e ≤ x.b
theorem Disj.symm {x y : Range α} (h : Disj x y) : Disj y x := Or.symm h

theorem overlap_eq (x r : Range α) : x.overlap r = true ↔ (r.b < x.e ∧ x.b < r.e) := by
  simp [overlap]
theorem contains_eq (x r : Range α) : x.contains r = true ↔ (x.b ≤ r.b ∧ r.e ≤ x.e) := by
  simp [contains]
theorem isEmpty_eq (x : Range α) : x.isEmpty = true ↔ x.b = x.e := by
  simp [isEmpty]
theorem lt_eq (x y : Range α) : x.lt y = true ↔ (x.b < y.b ∨ x.e < y.e) := by
  simp [lt]
@[simp] theorem clone_eq (x : Range α) : x.clone = x := rfl

variable [Std.IsLinearOrder α] [Std.LawfulOrderLT α]

theorem overlap_false (x r : Range α) : x.overlap r = false ↔ Disj x r := by
  rw [← Bool.not_eq_true, overlap_eq, Disj, Classical.not_and_iff_not_or_not, Std.not_lt, Std.not_lt]

/-- a non-empty half-open interval is determined by its points -/
theorem ext_of_mem (x y : Range α) (hx : x.b < x.e) (h : ∀ p, mem p x ↔ mem p y) : x = y := by
  have h1 := h x.b
  have h2 := h y.b
  have h3 := h x.e
  have h4 := h y.e
  cases x; cases y
  simp only [mem, Range.mk.injEq] at *
  grind

/-! `expandWith` on touching operands (`y.b ≤ x.e ∧ x.b ≤ y.e`) is the hull -/

theorem expand_hull (x y : Range α) (h : y.b ≤ x.e ∧ x.b ≤ y.e) :
    ((x.expandWith y).b ≤ x.b ∧ (x.expandWith y).b ≤ y.b) ∧
    (x.e ≤ (x.expandWith y).e ∧ y.e ≤ (x.expandWith y).e) := by
  simp only [Range.expandWith]; grind

theorem expand_mem (x y : Range α) (h : y.b ≤ x.e ∧ x.b ≤ y.e) (p : α) :
    mem p (x.expandWith y) ↔ mem p x ∨ mem p y := by
  simp only [Range.expandWith, mem]; grind

theorem expand_disj {w x y : Range α} (hw : w.b < w.e) (h : y.b ≤ x.e ∧ x.b ≤ y.e)
    (hx : Disj w x) (hy : Disj w y) : Disj w (x.expandWith y) := by
  simp only [Range.expandWith, Disj] at *; grind

theorem expand_endpoints (x y : Range α) :
    ((x.expandWith y).b = x.b ∨ (x.expandWith y).b = y.b) ∧
    ((x.expandWith y).e = x.e ∨ (x.expandWith y).e = y.e) := by
  simp only [Range.expandWith]; grind

theorem expand_keeps (P : α → Prop) {x y : Range α} (hx : P x.b ∧ P x.e) (hy : P y.b ∧ P y.e) :
    P (x.expandWith y).b ∧ P (x.expandWith y).e :=
  ⟨(expand_endpoints x y).1.elim (fun e => e ▸ hx.1) (fun e => e ▸ hy.1),
    (expand_endpoints x y).2.elim (fun e => e ▸ hx.2) (fun e => e ▸ hy.2)⟩

theorem make_empty_iff [Min α] [Max α] [MinMaxLaws α] (a b : α) :
    (Range.make a b).b = (Range.make a b).e ↔ a = b := by
  simp only [Range.make, MinMaxLaws.min_def, MinMaxLaws.max_def]; grind

section
variable [OfNat α 0]

theorem mem_sliceWith (x r : Range α) (hr : r.b ≤ r.e) (p : α) :
    mem p (x.sliceWith r) ↔ mem p x ∧ mem p r := by
  simp only [Range.sliceWith, Range.overlap, mem]; grind

theorem sliceWith_bounds (x r : Range α) (hx : x.b ≤ x.e) :
    x.sliceWith r = ⟨0, 0⟩ ∨
    (x.b ≤ (x.sliceWith r).b ∧ (x.sliceWith r).b ≤ (x.sliceWith r).e ∧ (x.sliceWith r).e ≤ x.e) := by
  simp only [Range.sliceWith, Range.overlap]; grind

theorem sliceWith_wf (x r : Range α) (hx : x.b ≤ x.e) : (x.sliceWith r).b ≤ (x.sliceWith r).e :=
  (sliceWith_bounds x r hx).elim (fun e => e ▸ Std.le_refl _) (·.2.1)

theorem sliceWith_eq_inter [Min α] [Max α] [MinMaxLaws α] (x r : Range α) (hx : x.b < x.e) (hr : r.b ≤ r.e) :
    (if max x.b r.b < min x.e r.e then some (⟨max x.b r.b, min x.e r.e⟩ : Range α) else none) =
    if (x.sliceWith r).b = (x.sliceWith r).e then none else some (x.sliceWith r) := by
  cases x; cases r
  simp only [MinMaxLaws.min_def, MinMaxLaws.max_def, Range.sliceWith, Range.overlap] at *
  grind

theorem sliceWith_endpoints (x r : Range α) :
    ((x.sliceWith r).b = x.b ∨ (x.sliceWith r).b = r.b ∨ (x.sliceWith r).b = 0) ∧
    ((x.sliceWith r).e = x.e ∨ (x.sliceWith r).e = r.e ∨ (x.sliceWith r).e = 0) := by
  simp only [Range.sliceWith, Range.overlap]; grind

theorem sliceWith_keeps (P : α → Prop) (h0 : P 0) {x r : Range α} (hx : P x.b ∧ P x.e) (hr : P r.b ∧ P r.e) :
    P (x.sliceWith r).b ∧ P (x.sliceWith r).e :=
  ⟨(sliceWith_endpoints x r).1.elim (fun e => e ▸ hx.1) (fun h => h.elim (fun e => e ▸ hr.1) (fun e => e ▸ h0)),
    (sliceWith_endpoints x r).2.elim (fun e => e ▸ hx.2) (fun h => h.elim (fun e => e ▸ hr.2) (fun e => e ▸ h0))⟩
end

end
end Range

namespace RangeSet
open Range
variable {α : Type} [LE α] [LT α] [DecidableLE α] [DecidableLT α] [DecidableEq α] [OfNat α 0]
  [Std.IsLinearOrder α] [Std.LawfulOrderLT α] [Min α] [Max α] [MinMaxLaws α]

theorem restrictTo_eq_filterMap (s : List (Range α)) (r : Range α) (hs : ∀ x ∈ s, x.b < x.e) (hr : r.b ≤ r.e) :
    RangeSet.restrictTo s r = s.filterMap (fun x =>
      if max x.b r.b < min x.e r.e then some (⟨max x.b r.b, min x.e r.e⟩ : Range α) else none) := by
  unfold RangeSet.restrictTo
  induction s with
  | nil => rfl
  | cons x xs ih =>
    rw [List.map_cons, List.filter_cons, List.filterMap_cons, ih (fun y hy => hs y (by simp [hy])),
      sliceWith_eq_inter x r (hs x (by simp)) hr]
    by_cases h : (x.sliceWith r).b = (x.sliceWith r).e <;> simp [Range.isEmpty, h]

end RangeSet

namespace MultiRange
open Range
section
variable {α : Type}

theorem perm_insertBy (lt) (x : Range α) (l : List (Range α)) : (insertBy lt x l).Perm (x :: l) := by
  induction l with
  | nil => exact .refl _
  | cons y ys ih =>
    unfold insertBy
    split
    · exact .refl _
    · exact (ih.cons y).trans (.swap x y ys)

theorem perm_sortBy (lt) (l : List (Range α)) : (sortBy lt l).Perm l := by
  induction l with
  | nil => exact .refl _
  | cons y ys ih => exact (perm_insertBy lt y _).trans (ih.cons y)

theorem mem_insertBy (lt) (x z : Range α) (l : List (Range α)) :
    z ∈ insertBy lt x l ↔ z = x ∨ z ∈ l := (perm_insertBy lt x l).mem_iff.trans List.mem_cons

theorem mem_sortBy (lt) (z : Range α) (l : List (Range α)) : z ∈ sortBy lt l ↔ z ∈ l :=
  (perm_sortBy lt l).mem_iff

theorem length_sortBy (lt) (l : List (Range α)) : (sortBy lt l).length = l.length :=
  (perm_sortBy lt l).length_eq

variable [LE α] [LT α] [DecidableLE α] [DecidableLT α] [DecidableEq α] [OfNat α 0]

/-- the order the sorted list is in -/
def R (x y : Range α) : Prop := x.e ≤ y.b

/-- points denoted by a list of ranges -/
def pts (m : List (Range α)) (p : α) : Prop := ∃ x ∈ m, mem p x

/-- representation invariant of a multi-range: non-empty ranges in ascending order, pairwise
disjoint (touching allowed).  No restriction on the sign of the coordinates since the
audit repair of `clean_`. -/
def Inv (m : List (Range α)) : Prop := (∀ x ∈ m, x.b < x.e) ∧ m.Pairwise R

/-- two ranges `clean_` may be handed together: disjoint, unless one of them is empty (an empty
range — the `[0,0[` of `sliceWith`, or an empty argument — may lie anywhere) -/
def DisjNE (x y : Range α) : Prop := x.b = x.e ∨ y.b = y.e ∨ Disj x y

/-- what `clean_` is handed -/
def PreClean (l : List (Range α)) : Prop := (∀ x ∈ l, x.b ≤ x.e) ∧ l.Pairwise DisjNE

theorem Inv.of_cons {x : Range α} {xs : List (Range α)} (h : Inv (x :: xs)) :
    x.b < x.e ∧ (∀ y ∈ xs, R x y) ∧ Inv xs :=
  ⟨h.1 x List.mem_cons_self, (List.pairwise_cons.mp h.2).1,
    fun y hy => h.1 y (List.mem_cons_of_mem _ hy), (List.pairwise_cons.mp h.2).2⟩

theorem DisjNE.of_disj {x y : Range α} (h : Disj x y) : DisjNE x y := Or.inr (Or.inr h)

theorem mem_clean (l : List (Range α)) (y : Range α) : y ∈ clean l ↔ y ∈ l ∧ y.b ≠ y.e := by
  simp [clean, List.mem_filter, mem_sortBy, Range.isEmpty]

theorem R.disj {x y : Range α} (h : R x y) : Disj x y := Or.inl h

theorem disj_of_mem {l : List (Range α)} (h : l.Pairwise R) {z w : Range α} (hz : z ∈ l) (hw : w ∈ l)
    (hne : z ≠ w) : Disj z w := by
  induction l with
  | nil => cases hz
  | cons a as ih =>
    rw [List.pairwise_cons] at h
    rcases List.mem_cons.mp hz with e1 | e1 <;> rcases List.mem_cons.mp hw with e2 | e2
    · subst e1; subst e2; exact absurd rfl hne
    · subst e1; exact Or.inl (h.1 w e2)
    · subst e2; exact Or.inr (h.1 z e1)
    · exact ih h.2 e1 e2

theorem mergeInto_none (r : Range α) (m : List (Range α)) :
    mergeInto r m = none ↔ ∀ x ∈ m, x.overlap r = false := by
  induction m with
  | nil => simp [mergeInto]
  | cons x xs ih =>
    unfold mergeInto
    cases hx : x.overlap r
    · cases hm : mergeInto r xs <;> simp [hx, ← ih, hm]
    · simp [hx]

/-- what the merge loop computes: the first stored range `x` that overlaps `r` is expanded with `r`,
then with the other overlapping ranges (last to first); it takes their place among the others -/
theorem mergeInto_eq (r : Range α) (m : List (Range α)) (mg : Range α) (l : List (Range α))
    (h : mergeInto r m = some (mg, l)) :
    ∃ x S, m.filter (fun y => y.overlap r) = x :: S ∧
      mg = S.reverse.foldl Range.expandWith (x.expandWith r) ∧
      l.Perm (mg :: m.filter (fun y => !y.overlap r)) := by
  induction m generalizing mg l with
  | nil => cases h
  | cons x xs ih =>
    unfold mergeInto at h
    split at h
    · next hov =>
      obtain ⟨rfl, rfl⟩ := Prod.mk.inj (Option.some.inj h)
      exact ⟨x, _, by simp [hov], rfl, by simp [hov]⟩
    · next hov =>
      cases hrec : mergeInto r xs with
      | none => rw [hrec] at h; cases h
      | some v =>
        rw [hrec] at h
        obtain ⟨rfl, rfl⟩ := Prod.mk.inj (Option.some.inj h)
        obtain ⟨x', S, hf, hmg, hl⟩ := ih v.1 v.2 hrec
        refine ⟨x', S, by simpa [List.filter_cons, hov] using hf, hmg, ?_⟩
        simpa [List.filter_cons, hov] using (hl.cons x).trans (List.Perm.swap _ _ _)

/-- what `addRange` hands to `clean_` (Range.h:456) -/
def addInput (r : Range α) (m : List (Range α)) : List (Range α) :=
  match mergeInto r m with
  | none => m ++ [r.clone]
  | some (_, l) => l

theorem addRange_eq (m : List (Range α)) (r : Range α) : addRange m r = clean (addInput r m) := by
  unfold addRange addInput; cases mergeInto r m <;> rfl

variable [Std.IsLinearOrder α] [Std.LawfulOrderLT α]

theorem mergeInto_keeps (P : α → Prop) {r : Range α} (hr : P r.b ∧ P r.e) {m : List (Range α)}
    (hm : ∀ x ∈ m, P x.b ∧ P x.e) {mg : Range α} {l : List (Range α)} (h : mergeInto r m = some (mg, l)) :
    ∀ x ∈ l, P x.b ∧ P x.e := by
  obtain ⟨x, S, hf, rfl, hl⟩ := mergeInto_eq r m mg l h
  have hS : ∀ y ∈ x :: S, y ∈ m := fun y hy => (List.mem_filter.mp (hf ▸ hy)).1
  intro y hy
  rcases List.mem_cons.mp (hl.mem_iff.mp hy) with rfl | e
  · exact List.foldlRecOn _ Range.expandWith (motive := fun z => P z.b ∧ P z.e)
      (expand_keeps P (hm x (hS x List.mem_cons_self)) hr)
      (fun _ hz y hy => expand_keeps P hz (hm y (hS y (List.mem_cons_of_mem _ (List.mem_reverse.mp hy)))))
  · exact hm y (List.mem_filter.mp e).1

theorem addRange_keeps (P : α → Prop) {r : Range α} (hr : P r.b ∧ P r.e) {m : List (Range α)}
    (hm : ∀ x ∈ m, P x.b ∧ P x.e) : ∀ x ∈ addRange m r, P x.b ∧ P x.e := by
  intro x hx
  unfold addRange at hx
  cases hmi : mergeInto r m with
  | none =>
    rw [hmi, mem_clean, List.mem_append, List.mem_singleton] at hx
    exact hx.1.elim (hm x) (fun e => e ▸ hr)
  | some v =>
    rw [hmi, mem_clean] at hx
    exact mergeInto_keeps P hr hm hmi x hx.1

theorem restrictTo_keeps (P : α → Prop) (h0 : P 0) {r : Range α} (hr : P r.b ∧ P r.e) {m : List (Range α)}
    (hm : ∀ x ∈ m, P x.b ∧ P x.e) : ∀ x ∈ restrictTo m r, P x.b ∧ P x.e := by
  intro x hx
  obtain ⟨y, hy, rfl⟩ := List.mem_map.mp ((mem_clean _ x).mp hx).1
  exact sliceWith_keeps P h0 (hm y hy) hr

/-- on well-formed disjoint ranges the source comparator decides the order `R` -/
theorem lt_of_disj {x y : Range α} (hx : x.b ≤ x.e) (hy : y.b ≤ y.e) (h : Disj x y) :
    (x.lt y = true → R x y) ∧ (x.lt y = false → R y x) := by
  rw [← Bool.not_eq_true, lt_eq]; simp only [R, Disj] at *; grind

theorem insertBy_sorted (x : Range α) (l : List (Range α)) (hx : x.b ≤ x.e)
    (hl : ∀ y ∈ l, y.b ≤ y.e ∧ Disj x y) (hs : l.Pairwise R) :
    (insertBy Range.lt x l).Pairwise R := by
  induction l with
  | nil => exact List.pairwise_singleton _ _
  | cons y ys ih =>
    obtain ⟨hy, hd⟩ := hl y List.mem_cons_self
    have hlt := lt_of_disj hx hy hd
    rw [List.pairwise_cons] at hs
    unfold insertBy
    cases hc : x.lt y
    · refine List.pairwise_cons.mpr
        ⟨fun z hz => ?_, ih (fun z hz => hl z (List.mem_cons_of_mem _ hz)) hs.2⟩
      rcases (mem_insertBy _ _ _ _).mp hz with rfl | h
      · exact hlt.2 hc
      · exact hs.1 z h
    · refine List.pairwise_cons.mpr ⟨fun z hz => ?_, List.pairwise_cons.mpr hs⟩
      rcases List.mem_cons.mp hz with rfl | h
      · exact hlt.1 hc
      · exact Std.le_trans (hlt.1 hc) (Std.le_trans hy (hs.1 z h))

theorem sortBy_sorted (l : List (Range α)) (hw : ∀ x ∈ l, x.b ≤ x.e) (hd : l.Pairwise Disj) :
    (sortBy Range.lt l).Pairwise R := by
  induction l with
  | nil => simp [sortBy]
  | cons x xs ih =>
    rw [List.pairwise_cons] at hd
    unfold sortBy
    apply insertBy_sorted
    · exact hw x (by simp)
    · intro y hy
      rw [mem_sortBy] at hy
      exact ⟨hw y (by simp [hy]), hd.1 y hy⟩
    · exact ih (fun y hy => hw y (by simp [hy])) hd.2

/-- what `std::sort` is handed inside `clean_`: non-empty, well-formed, pairwise disjoint ranges -/
theorem clean_sort_input (l : List (Range α)) (h : PreClean l) :
    (∀ x ∈ l.filter (fun x => !x.isEmpty), x.b < x.e) ∧
    (l.filter (fun x => !x.isEmpty)).Pairwise Disj := by
  have hf : ∀ x ∈ l.filter (fun x => !x.isEmpty), x ∈ l ∧ x.b ≠ x.e := fun x hx => by
    simpa [Range.isEmpty] using hx
  refine ⟨fun x hx => Std.lt_of_le_of_ne (h.1 x (hf x hx).1) (hf x hx).2,
    (h.2.filter _).imp_of_mem fun hx hy hxy => ?_⟩
  exact (hxy.resolve_left (hf _ hx).2).resolve_left (hf _ hy).2

theorem clean_spec (l : List (Range α)) (h : PreClean l) :
    Inv (clean l) ∧ ∀ p, pts (clean l) p ↔ pts l p := by
  have hin := clean_sort_input l h
  refine ⟨⟨fun x hx => hin.1 x ((mem_sortBy _ x _).mp hx),
    sortBy_sorted _ (fun x hx => Std.le_of_lt (hin.1 x hx)) hin.2⟩, fun p => ?_⟩
  simp only [pts, mem_clean]
  exact ⟨fun ⟨x, ⟨hx, _⟩, hp⟩ => ⟨x, hx, hp⟩,
    fun ⟨x, hx, hp⟩ => ⟨x, ⟨hx, Std.ne_of_lt (Std.lt_of_le_of_lt hp.1 hp.2)⟩, hp⟩⟩

theorem Inv.preClean {m : List (Range α)} (hm : Inv m) : PreClean m :=
  ⟨fun x hx => Std.le_of_lt (hm.1 x hx), hm.2.imp (fun h => DisjNE.of_disj (R.disj h))⟩

theorem preClean_snoc {m : List (Range α)} (hm : Inv m) {r : Range α} (hr : r.b ≤ r.e)
    (hno : ∀ x ∈ m, x.overlap r = false) : PreClean (m ++ [r]) := by
  refine ⟨fun x hx => ?_, List.pairwise_append.mpr ⟨hm.preClean.2, List.pairwise_singleton _ _, ?_⟩⟩
  · rcases List.mem_append.mp hx with e | e
    · exact hm.preClean.1 x e
    · rw [List.mem_singleton.mp e]; exact hr
  · intro x hx y hy
    rw [List.mem_singleton.mp hy]
    exact DisjNE.of_disj ((overlap_false x r).mp (hno x hx))

theorem preClean_slice {m : List (Range α)} (hm : Inv m) (r : Range α) :
    PreClean (m.map (·.sliceWith r)) := by
  refine ⟨fun y hy => ?_, ?_⟩
  · obtain ⟨x, hx, rfl⟩ := List.mem_map.mp hy
    exact sliceWith_wf x r (Std.le_of_lt (hm.1 x hx))
  · rw [List.pairwise_map]
    apply List.Pairwise.imp_of_mem _ hm.2
    intro x y hx hy hxy
    rcases sliceWith_bounds x r (Std.le_of_lt (hm.1 x hx)) with e1 | e1
    · rw [e1]; exact Or.inl rfl
    rcases sliceWith_bounds y r (Std.le_of_lt (hm.1 y hy)) with e2 | e2
    · rw [e2]; exact Or.inr (Or.inl rfl)
    exact DisjNE.of_disj (Or.inl (Std.le_trans e1.2.2 (Std.le_trans hxy e2.1)))

/-- the merge fold of `addRange`: starting from an accumulator that spans `r`, expanding with
ranges that overlap `r` yields the hull, which denotes the union -/
theorem fold_expand (r : Range α) (S : List (Range α)) (acc : Range α)
    (hacc : acc.b ≤ r.b ∧ r.e ≤ acc.e ∧ acc.b < acc.e) (hS : ∀ y ∈ S, y.overlap r = true) :
    let z := S.foldl Range.expandWith acc
    (z.b ≤ r.b ∧ r.e ≤ z.e ∧ z.b < z.e) ∧ (∀ p, mem p z ↔ mem p acc ∨ ∃ y ∈ S, mem p y) ∧
    (∀ w : Range α, w.b < w.e → Disj w acc → (∀ y ∈ S, Disj w y) → Disj w z) := by
  induction S generalizing acc with
  | nil => exact ⟨hacc, fun p => by simp, fun w _ hw _ => hw⟩
  | cons y ys ih =>
    have hy := (overlap_eq y r).mp (hS y List.mem_cons_self)
    have ht : y.b ≤ acc.e ∧ acc.b ≤ y.e :=
      ⟨Std.le_of_lt (Std.lt_of_lt_of_le hy.2 hacc.2.1), Std.le_of_lt (Std.lt_of_le_of_lt hacc.1 hy.1)⟩
    have hh := expand_hull acc y ht
    obtain ⟨I1, I2, I3⟩ := ih (acc.expandWith y)
      ⟨Std.le_trans hh.1.1 hacc.1, Std.le_trans hacc.2.1 hh.2.1,
        Std.lt_of_le_of_lt hh.1.1 (Std.lt_of_lt_of_le hacc.2.2 hh.2.1)⟩
      (fun z hz => hS z (List.mem_cons_of_mem _ hz))
    refine ⟨I1, fun p => ?_, fun w hw hwa hwS => ?_⟩
    · rw [List.foldl_cons, I2 p, expand_mem acc y ht p]
      simp only [List.mem_cons, exists_eq_or_imp, or_assoc]
    · exact I3 w hw (expand_disj hw ht hwa (hwS y List.mem_cons_self))
        (fun z hz => hwS z (List.mem_cons_of_mem _ hz))

/-- what the merge loop of `addRange` hands to `clean_` when some stored range overlaps `r`:
the untouched ranges plus one merged range `mg`, which is non-empty and denotes the union of
`r` with every overlapped range -/
theorem mergeInto_some (r : Range α) (m : List (Range α)) (hm : Inv m)
    (mg : Range α) (l : List (Range α)) (h : mergeInto r m = some (mg, l)) :
    PreClean l ∧ (∀ y, y ∈ l ↔ (y ∈ m ∧ y.overlap r = false) ∨ y = mg) ∧
    mg.b < mg.e ∧ (∀ p, mem p mg ↔ mem p r ∨ ∃ x ∈ m, x.overlap r = true ∧ mem p x) ∧
    (∀ p, pts l p ↔ pts m p ∨ mem p r) := by
  obtain ⟨x, S, hf, rfl, hl⟩ := mergeInto_eq r m mg l h
  have hovm : ∀ y, (y ∈ m ∧ y.overlap r = true) ↔ y = x ∨ y ∈ S := fun y => by
    rw [← List.mem_cons, ← hf, List.mem_filter]
  have hx := (hovm x).mpr (Or.inl rfl)
  have hov' := (overlap_eq x r).mp hx.2
  have ht : r.b ≤ x.e ∧ x.b ≤ r.e := ⟨Std.le_of_lt hov'.1, Std.le_of_lt hov'.2⟩
  have hh := expand_hull x r ht
  obtain ⟨F1, F2, F3⟩ := fold_expand r S.reverse (x.expandWith r)
    ⟨hh.1.2, hh.2.2, Std.lt_of_le_of_lt hh.1.1 (Std.lt_of_lt_of_le (hm.1 x hx.1) hh.2.1)⟩
    (fun y hy => ((hovm y).mpr (Or.inr (List.mem_reverse.mp hy))).2)
  generalize S.reverse.foldl Range.expandWith (x.expandWith r) = mg at *
  have hmem : ∀ y, y ∈ l ↔ (y ∈ m ∧ y.overlap r = false) ∨ y = mg := fun y => by
    rw [hl.mem_iff, List.mem_cons, List.mem_filter, or_comm, Bool.not_eq_eq_eq_not, Bool.not_true]
  have hpts : ∀ p, mem p mg ↔ mem p r ∨ ∃ y ∈ m, y.overlap r = true ∧ mem p y := by
    intro p
    rw [F2 p, expand_mem x r ht p]
    simp only [List.mem_reverse, ← and_assoc, hovm, or_and_right, exists_or, exists_eq_left]
    constructor
    · rintro ((h1 | h1) | h1)
      · exact Or.inr (Or.inl h1)
      · exact Or.inl h1
      · exact Or.inr (Or.inr h1)
    · rintro (h1 | h1 | h1)
      · exact Or.inl (Or.inr h1)
      · exact Or.inl (Or.inl h1)
      · exact Or.inr h1
  -- a stored range that `r` does not overlap is disjoint from the merged one
  have hout : ∀ w ∈ m, w.overlap r = false → Disj w mg := by
    intro w hw hwo
    have hne : ∀ y, y = x ∨ y ∈ S → Disj w y := fun y hy =>
      disj_of_mem hm.2 hw ((hovm y).mpr hy).1
        (by rintro rfl; exact Bool.false_ne_true (hwo.symm.trans ((hovm w).mpr hy).2))
    exact F3 w (hm.1 w hw) (expand_disj (hm.1 w hw) ht (hne x (Or.inl rfl)) ((overlap_false w r).mp hwo))
      (fun y hy => hne y (Or.inr (List.mem_reverse.mp hy)))
  refine ⟨⟨fun y hy => ?_, ?_⟩, hmem, F1.2.2, hpts, fun p => ?_⟩
  · rcases (hmem y).mp hy with ⟨e, _⟩ | rfl
    · exact Std.le_of_lt (hm.1 y e)
    · exact Std.le_of_lt F1.2.2
  · refine (hl.pairwise_iff (fun h => ?_)).mpr (List.pairwise_cons.mpr
      ⟨fun y hy => ?_, hm.preClean.2.filter _⟩)
    · exact h.elim (fun e => Or.inr (Or.inl e)) (fun h => h.elim Or.inl (fun d => DisjNE.of_disj d.symm))
    · obtain ⟨hy1, hy2⟩ := List.mem_filter.mp hy
      exact DisjNE.of_disj ((hout y hy1 (by simpa using hy2)).symm)
  · simp only [pts, hmem]
    constructor
    · rintro ⟨y, (⟨e, _⟩ | rfl), hp⟩
      · exact Or.inl ⟨y, e, hp⟩
      · rcases (hpts p).mp hp with h1 | ⟨z, hz, _, hpz⟩
        · exact Or.inr h1
        · exact Or.inl ⟨z, hz, hpz⟩
    · rintro (⟨y, e, hp⟩ | hp)
      · cases hyo : y.overlap r with
        | false => exact ⟨y, Or.inl ⟨e, hyo⟩, hp⟩
        | true => exact ⟨mg, Or.inr rfl, (hpts p).mpr (Or.inr ⟨y, e, hyo, hp⟩)⟩
      · exact ⟨mg, Or.inr rfl, (hpts p).mpr (Or.inl hp)⟩

/-- `addRange` cleans the stored ranges that `r` does not overlap plus one range `mg` — `r` itself
when nothing overlaps — that denotes the union of `r` with every overlapped range -/
theorem addInput_spec (r : Range α) (hr : r.b ≤ r.e) (m : List (Range α)) (hm : Inv m) :
    PreClean (addInput r m) ∧ ∃ mg,
      (∀ y, y ∈ addInput r m ↔ (y ∈ m ∧ y.overlap r = false) ∨ y = mg) ∧ mg.b ≤ mg.e ∧
      (∀ p, mem p mg ↔ mem p r ∨ ∃ x ∈ m, x.overlap r = true ∧ mem p x) ∧
      (∀ p, pts (addInput r m) p ↔ pts m p ∨ mem p r) := by
  unfold addInput
  cases h : mergeInto r m with
  | some v =>
    obtain ⟨M1, M4, M5, M6, M2⟩ := mergeInto_some r m hm v.1 v.2 h
    exact ⟨M1, v.1, M4, Std.le_of_lt M5, M6, M2⟩
  | none =>
    have hno := (mergeInto_none r m).mp h
    refine ⟨preClean_snoc hm hr hno, r, fun y => ?_, hr, fun p => ⟨Or.inl, ?_⟩, fun p => ?_⟩
    · rw [List.mem_append, List.mem_singleton]
      exact ⟨Or.imp_left fun e => ⟨e, hno y e⟩, Or.imp_left And.left⟩
    · rintro (hp | ⟨x, hx, hxo, _⟩)
      · exact hp
      · rw [hno x hx] at hxo; cases hxo
    · simp only [pts, List.mem_append, List.mem_singleton, or_and_right, exists_or, exists_eq_left, clone_eq]

/-- an `R`-sorted list of non-empty ranges has no duplicates and is determined by its members -/
theorem sorted_ext (l₁ l₂ : List (Range α)) (h1 : Inv l₁) (h2 : Inv l₂)
    (h : ∀ y, y ∈ l₁ ↔ y ∈ l₂) : l₁ = l₂ := by
  induction l₁ generalizing l₂ with
  | nil =>
    cases l₂ with
    | nil => rfl
    | cons b bs => exact absurd ((h b).mpr (by simp)) (by simp)
  | cons a as ih =>
    cases l₂ with
    | nil => exact absurd ((h a).mp (by simp)) (by simp)
    | cons b bs =>
      obtain ⟨ha, hRa, h1'⟩ := h1.of_cons
      obtain ⟨hb, hRb, h2'⟩ := h2.of_cons
      have notin : ∀ {c : Range α} {l : List (Range α)}, c.b < c.e → (∀ y ∈ l, R c y) → c ∉ l :=
        fun hc hl hmem => Std.lt_irrefl (Std.lt_of_lt_of_le hc (hl _ hmem))
      have hab : a = b := by
        rcases List.mem_cons.mp ((h a).mp List.mem_cons_self) with e | e
        · exact e
        · rcases List.mem_cons.mp ((h b).mpr List.mem_cons_self) with e' | e'
          · exact e'.symm
          · exact absurd (Std.lt_of_lt_of_le ha (Std.le_trans (hRa b e')
              (Std.le_trans (Std.le_of_lt hb) (hRb a e)))) Std.lt_irrefl
      subst hab
      congr 1
      refine ih bs h1' h2' fun y => ⟨fun hy => ?_, fun hy => ?_⟩
      · exact (List.mem_cons.mp ((h y).mp (List.mem_cons_of_mem _ hy))).resolve_left
          fun e => notin ha hRa (e ▸ hy)
      · exact (List.mem_cons.mp ((h y).mpr (List.mem_cons_of_mem _ hy))).resolve_left
          fun e => notin hb hRb (e ▸ hy)

end
end MultiRange
end Bpp
