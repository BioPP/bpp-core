import BppProofs.Lemmas.TextU
import BppProofs.Lemmas.Vars
import BppModel.Text.AttrU
/-! Helper lemmas for C16, AttributesTools: removeComments, the loops of getAttributesMap,
resolveVariables (UB-aware model `BppModel/Text/AttrU.lean`). -/
namespace Bpp.Text.U
open Bpp.Text Bpp.Text.Keyval

/-! ### two marks found at the same place -/

/-- two patterns whose first characters differ are not found at the same index -/
theorem prefix_head_ne {b e t : Str} (hb : b ≠ []) (he : e ≠ []) (hne : b.head? ≠ e.head?)
    (h1 : isPrefix b t = true) (h2 : isPrefix e t = true) : False := by
  cases b with
  | nil => exact hb rfl
  | cons x b' =>
    cases e with
    | nil => exact he rfl
    | cons y e' =>
      cases t with
      | nil => simp [isPrefix] at h1
      | cons z t' =>
        simp only [isPrefix, Bool.and_eq_true, beq_iff_eq] at h1 h2
        apply hne
        simp [h1.1, h2.1]

/-- two prefixes of the same text: one is a prefix of the other -/
theorem prefix_of_common {b e t : Str} (h1 : isPrefix b t = true) (h2 : isPrefix e t = true) :
    isPrefix e b = true ∨ isPrefix b e = true := by
  induction t generalizing b e with
  | nil =>
    cases b with
    | nil => right; simp [isPrefix]
    | cons x b' => simp [isPrefix] at h1
  | cons z t' ih =>
    cases b with
    | nil => right; simp [isPrefix]
    | cons x b' =>
      cases e with
      | nil => left; simp [isPrefix]
      | cons y e' =>
        simp only [isPrefix, Bool.and_eq_true, beq_iff_eq] at h1 h2 ⊢
        rcases ih h1.2 h2.2 with h | h
        · left; exact ⟨by rw [h2.1, h1.1], h⟩
        · right; exact ⟨by rw [h2.1, h1.1], h⟩

/-! ### removeComments -/

theorem rmCommentsLoop_safe (b e : Str) (hbe : isPrefix e b = false) (heb : isPrefix b e = false) :
    ∀ (fuel : Nat) (r : Str) (last : Nat), StrOk r → r.length < fuel →
      safe (rmCommentsLoop b e fuel r last) = true := by
  intro fuel
  induction fuel with
  | zero => intro r last _ h; exact absurd h (Nat.not_lt_zero _)
  | succ n ih =>
    intro r last hr hf
    have h63 : ∀ {k}, k ≤ r.length → k < 9223372036854775808 := fun hk =>
      Nat.lt_of_le_of_lt (Nat.le_trans hk hr) maxStr_lt
    unfold rmCommentsLoop
    cases h1 : findFrom b r last with
    | none => rfl
    | some first =>
      have b2 : first ≤ r.length := Nat.le_trans (Nat.le_add_right _ _) (findFrom_bounds h1).2
      cases h2 : findFrom e r first with
      | none =>
        simp only [h2]
        rw [toPtrdiff_eq (h63 b2), eraseRange_ok (Int.natCast_nonneg _) (Int.ofNat_le.mpr b2) (Int.le_refl _)]
        rfl
      | some last' =>
        obtain ⟨c1, c2⟩ := findFrom_bounds h2
        have c2' : last' ≤ r.length := Nat.le_trans (Nat.le_add_right _ _) c2
        -- the end mark is not found where the begin mark is: they would start with one another
        have hlt : first < last' := by
          refine Nat.lt_of_le_of_ne c1 fun h => ?_
          subst h
          rcases prefix_of_common (findFrom_prefix h1) (findFrom_prefix h2) with h | h
          · exact Bool.noConfusion (hbe.symm.trans h)
          · exact Bool.noConfusion (heb.symm.trans h)
        simp only [h2]
        rw [toPtrdiff_eq (h63 b2), toPtrdiff_eq (h63 c2'),
          eraseRange_ok (Int.natCast_nonneg _) (Int.ofNat_le.mpr c1) (Int.ofNat_le.mpr c2')]
        have hl : (r.take first ++ r.drop last').length < r.length := by
          rw [List.length_append, List.length_take, List.length_drop]; omega
        exact ih _ _ (Nat.le_trans (Nat.le_of_lt hl) hr) (Nat.lt_of_lt_of_le hl (Nat.le_of_lt_succ hf))

theorem rmCommentsLoop_alloc (b e : Str) :
    ∀ (fuel : Nat) (r : Str) (last : Nat) (t : Str), rmCommentsLoop b e fuel r last = .ok t →
      t.length ≤ r.length := by
  intro fuel
  induction fuel with
  | zero => intro r last t h; simp [rmCommentsLoop] at h
  | succ n ih =>
    intro r last t h
    unfold rmCommentsLoop at h
    cases h1 : findFrom b r last with
    | none => simp only [h1] at h; cases h; exact Nat.le_refl _
    | some first =>
      simp only [h1] at h
      cases h2 : findFrom e r first with
      | none => simp only [h2] at h; exact eraseRange_len h
      | some last' =>
        simp only [h2] at h
        obtain ⟨r', hr', h'⟩ := bind_eq_ok h
        have := ih _ _ _ h'
        have := eraseRange_len hr'
        omega

/-! ### the cleaning of one line -/

/-- for every pair of marks: refused (the library's exception) or the loop ends -/
theorem removeComments_safe_lem (s b e : Str) (hs : StrOk s) : safe (removeComments s b e) = true := by
  unfold removeComments
  cases hbe : isPrefix e b with
  | true => simp [safe]
  | false =>
    cases heb : isPrefix b e with
    | true => simp [safe]
    | false =>
      simp only [Bool.or_self, Bool.false_eq_true, if_false]
      exact rmCommentsLoop_safe b e hbe heb _ _ _ hs (by omega)

theorem removeComments_alloc_lem (s b e r : Str) (h : removeComments s b e = .ok r) :
    r.length ≤ s.length := by
  unfold removeComments at h
  split at h
  · cases h
  · exact rmCommentsLoop_alloc b e _ _ _ _ h

theorem cleanLine_safe_lem (line : Str) (hs : StrOk line) : safe (cleanLine line) = true := by
  unfold cleanLine
  refine safe_bind (removeComments_safe_lem _ _ _ hs) fun a ha => ?_
  have h1 : StrOk a := hs.of_le (removeComments_alloc_lem _ _ _ _ ha)
  refine safe_bind (removeComments_safe_lem _ _ _ h1) fun a2 ha2 => ?_
  have h2 : StrOk a2 := h1.of_le (removeComments_alloc_lem _ _ _ _ ha2)
  exact safe_bind (removeComments_safe_lem _ _ _ h2) fun _ _ => rfl

theorem cleanLine_alloc_lem (line r : Str) (h : cleanLine line = .ok r) : r.length ≤ line.length := by
  unfold cleanLine at h
  obtain ⟨a, ha, h⟩ := bind_eq_ok h
  obtain ⟨a2, ha2, h⟩ := bind_eq_ok h
  obtain ⟨a3, ha3, h⟩ := bind_eq_ok h
  have h1 := removeComments_alloc_lem _ _ _ _ ha
  have h2 := removeComments_alloc_lem _ _ _ _ ha2
  have h3 := removeComments_alloc_lem _ _ _ _ ha3
  cases h
  have : (removeWhiteSpaces a3).length ≤ a3.length := List.length_filter_le _ _
  omega

theorem mapM_cleanLine_spec (argv : List Str) (hs : sumLen argv ≤ maxStr) :
    Returns (argv.mapM cleanLine) fun argv2 => sumLen argv2 ≤ sumLen argv := by
  induction argv with
  | nil => exact .ok (Nat.le_refl _)
  | cons a l ih =>
    rw [sumLen_cons] at hs
    rw [List.mapM_cons]
    refine (Returns.of_safe (cleanLine_safe_lem a (Nat.le_trans (Nat.le_add_right _ _) hs))
      (cleanLine_alloc_lem a)).bind fun b hb => ?_
    refine (ih (Nat.le_trans (Nat.le_add_left _ _) hs)).bind fun bs hbs => .ok ?_
    rw [sumLen_cons, sumLen_cons]
    exact Nat.add_le_add hb hbs

/-! ### getAttributesMap: the continuation-joining loop -/

/-- one round of the joining loop (after the repairs): it returns `(arg, i)`, or goes on with a text
still to be read (`arg` and the lines after `i`) that lost the continuation mark; no access is out of
range, whatever the sizes -/
theorem joinLoop_succ (argv2 : List Str) (n : Nat) (arg : Str) (i : Nat) :
    joinLoop 2 argv2 (n + 1) arg i = .ok (arg, i) ∨
    ∃ arg1, joinLoop 2 argv2 (n + 1) arg i = joinLoop 2 argv2 n arg1 (i + 1) ∧
      arg1.length + sumLen (argv2.drop (i + 1 + 1)) < arg.length + sumLen (argv2.drop (i + 1)) := by
  rw [joinLoop]
  by_cases he : arg.isEmpty = true
  · exact Or.inl (by simp [he])
  · have hlen : arg ≠ [] := fun h => he (h ▸ rfl)
    have hpos := List.length_pos_iff.mpr hlen
    have hw := wsub_le_sub (a := arg.length) (b := 1) hpos
    have hlt : wsub arg.length 1 < arg.length := by omega
    simp only [he, ge_iff_le, Nat.le_refl, decide_true, Bool.and_false, Bool.false_eq_true, if_false,
      strAt_ok hlt, bind_ok, substr_ok _ (Nat.zero_le _), List.drop_zero]
    by_cases hcc : (arg[wsub arg.length 1] != '\\') = true
    · exact Or.inl (by simp only [hcc, if_true]; rfl)
    · right
      simp only [hcc, Bool.false_eq_true, if_false]
      have hhl : (arg.take (wsub arg.length 1)).length ≤ arg.length - 1 := by
        rw [List.length_take]; omega
      by_cases hi : i + 1 < argv2.length
      · refine ⟨arg.take (wsub arg.length 1) ++ argv2[i + 1], by
          simp only [if_true, hi, vecAt_ok hi, bind_ok, bind_pure', ite_self], ?_⟩
        rw [List.length_append, sumLen_drop_succ hi]; omega
      · refine ⟨arg.take (wsub arg.length 1), by
          simp only [hi, if_false, bind_pure', if_pos (show 1 ≤ 2 by decide)], ?_⟩
        rw [sumLen_drop_ge (Nat.le_of_not_lt hi), sumLen_drop_ge (Nat.le_succ_of_le (Nat.le_of_not_lt hi))]
        omega

theorem joinLoop_spec (argv2 : List Str) (fuel : Nat) (arg : Str) (i : Nat) :
    (arg.length + sumLen (argv2.drop (i + 1)) < fuel → ∃ p, joinLoop 2 argv2 fuel arg i = .ok p) ∧
    ∀ arg' i', joinLoop 2 argv2 fuel arg i = .ok (arg', i') →
      i ≤ i' ∧ arg'.length + sumLen (argv2.drop (i' + 1)) ≤ arg.length + sumLen (argv2.drop (i + 1)) := by
  induction fuel generalizing arg i with
  | zero => exact ⟨fun h => absurd h (Nat.not_lt_zero _), nofun⟩
  | succ n ih =>
    rcases joinLoop_succ argv2 n arg i with e | ⟨arg1, e, hlt⟩
    · rw [e]
      exact ⟨fun _ => ⟨_, rfl⟩, fun _ _ h => by cases h; exact ⟨Nat.le_refl _, Nat.le_refl _⟩⟩
    · rw [e]
      refine ⟨fun hf => (ih arg1 (i + 1)).1 (by omega), fun arg' i' h => ?_⟩
      obtain ⟨h1, h2⟩ := (ih arg1 (i + 1)).2 arg' i' h
      exact ⟨by omega, by omega⟩

theorem joinLoop_bounds (argv2 : List Str) :
    ∀ (fuel : Nat) (arg : Str) (i : Nat) (arg' : Str) (i' : Nat),
      joinLoop 2 argv2 fuel arg i = .ok (arg', i') →
      i ≤ i' ∧ arg'.length + sumLen (argv2.drop (i' + 1)) ≤ arg.length + sumLen (argv2.drop (i + 1)) :=
  fun fuel arg i => (joinLoop_spec argv2 fuel arg i).2

theorem joinLoop_ok (argv2 : List Str) :
    ∀ (fuel : Nat) (arg : Str) (i : Nat),
      arg.length + sumLen (argv2.drop (i + 1)) < fuel →
      ∃ p, joinLoop 2 argv2 fuel arg i = .ok p :=
  fun fuel arg i => (joinLoop_spec argv2 fuel arg i).1

/-! ### getAttributesMap: the parsing loop -/

/-- total number of characters stored in a map -/
def mapSize (m : Map) : Nat := sumLen (m.map (·.1)) + sumLen (m.map (·.2))

theorem mapInsert_size (k v : Str) (m : Map) :
    mapSize (mapInsert k v m) ≤ mapSize m + k.length + v.length := by
  induction m with
  | nil => simp [mapInsert, mapSize]
  | cons kv m ih =>
    obtain ⟨k', v'⟩ := kv
    unfold mapInsert
    split
    · simp only [mapSize, List.map_cons, sumLen_cons]; omega
    · split
      · simp only [mapSize, List.map_cons, sumLen_cons]; omega
      · simp only [mapSize, List.map_cons, sumLen_cons] at ih ⊢; omega

/-- the parsing loop returns (or raises the library's exception), and the map is made of characters
of the lines read -/
theorem parseLoop_spec (argv2 : List Str) (delim : Str) (hs : sumLen argv2 ≤ maxStr) (fuel i : Nat)
    (am : Map) (hf : argv2.length - i < fuel) :
    Returns (parseLoop 2 argv2 delim fuel i am) fun m =>
      mapSize m ≤ mapSize am + sumLen (argv2.drop i) := by
  induction fuel generalizing i am with
  | zero => exact absurd hf (Nat.not_lt_zero _)
  | succ n ih =>
    unfold parseLoop
    by_cases hi : i < argv2.length
    · simp only [hi, if_true, vecAt_ok hi, bind_ok]
      have hsum := sumLen_drop_succ hi
      have hle := sumLen_drop_le argv2 i
      by_cases he : argv2[i].isEmpty = true
      · simp only [he, if_true]
        exact (ih (i + 1) am (by omega)).mono fun m h => by omega
      · simp only [he, Bool.false_eq_true, if_false]
        have hj := joinLoop_spec argv2 (joinFuel argv2) argv2[i] i
        obtain ⟨⟨arg', i'⟩, e⟩ := hj.1 (by show _ < sumLen argv2 + 2; omega)
        obtain ⟨j1, j2⟩ := hj.2 _ _ e
        have hf' : argv2.length - (i' + 1) < n := by omega
        have hstr : StrOk arg' := by unfold StrOk; omega
        have hsz : sumLen (argv2.drop (i' + 1)) ≤ sumLen (argv2.drop i) ∧
            arg'.length + sumLen (argv2.drop (i' + 1)) ≤ sumLen (argv2.drop i) := by omega
        rw [e, bind_ok]
        dsimp only
        cases hfd : findFrom delim arg' 0 with
        | none => exact (ih (i' + 1) am hf').mono fun m h => Nat.le_trans h (Nat.add_le_add_left hsz.1 _)
        | some limit =>
          have l2 := (findFrom_bounds hfd).2
          dsimp only
          rw [wadd_eq (Nat.lt_of_le_of_lt l2 (Nat.lt_of_le_of_lt (Nat.le_add_right _ 4) hstr.lt_SZ)),
            range_prefix (Nat.le_trans (Nat.le_add_right _ _) l2) hstr, range_suffix l2 hstr]
          simp only [bind_ok]
          refine (ih (i' + 1) _ hf').mono fun m h => ?_
          have h2 := mapInsert_size (arg'.take limit) (arg'.drop (limit + delim.length)) am
          rw [List.length_take, List.length_drop] at h2
          omega
    · simp only [hi, if_false]
      exact .ok (Nat.le_add_right _ _)

theorem getAttributesMapG_spec (argv : List Str) (delim : Str) (hs : sumLen argv ≤ maxStr) :
    Returns (getAttributesMapG 2 argv delim) fun m => mapSize m ≤ sumLen argv := by
  refine (mapM_cleanLine_spec argv hs).bind fun argv2 h2 => ?_
  refine (parseLoop_spec argv2 delim (Nat.le_trans h2 hs) _ 0 [] (by omega)).mono fun m h => ?_
  exact Nat.le_trans h (Nat.le_trans (Nat.le_of_eq (Nat.zero_add _)) h2)

theorem getAttributesMapG_safe (argv : List Str) (delim : Str) (hs : sumLen argv ≤ maxStr) :
    safe (getAttributesMapG 2 argv delim) = true :=
  (getAttributesMapG_spec argv delim hs).safe

theorem getAttributesMapG_alloc (argv : List Str) (delim : Str) (m : Map)
    (hs : sumLen argv ≤ maxStr) (h : getAttributesMapG 2 argv delim = .ok m) :
    mapSize m ≤ sumLen argv :=
  (getAttributesMapG_spec argv delim hs).of_ok h

/-! ### resolveVariables: no access out of range, whatever the marks and the fuel -/

/-- one round of the loop, whatever the marks and the sizes: it returns, raises the library's exception,
or goes on with a new value — every `substr` is within bounds, and the fuel plays no part -/
theorem resolveOneU_step (code beg en : Char) (am : Map) (key v : Str) :
    (∀ n, resolveOneU code beg en am key (n + 1) v = .ok v) ∨
    (∀ n, resolveOneU code beg en am key (n + 1) v = .error .bpp) ∨
    ∃ v', ∀ n, resolveOneU code beg en am key (n + 1) v = resolveOneU code beg en am key n v' := by
  cases h1 : find [code, beg] v with
  | none => exact Or.inl fun n => by rw [resolveOneU]; simp only [h1]
  | some i1 =>
    cases h2 : findFrom [en] v i1 with
    | none => exact Or.inr (Or.inl fun n => by rw [resolveOneU]; simp only [h1, h2])
    | some i2 =>
      have b1 : i1 + 2 ≤ v.length := find_bounds h1
      obtain ⟨c1, c2⟩ := findFrom_bounds h2
      have hA : wadd i1 2 ≤ v.length := Nat.le_trans (wadd_le i1 2) b1
      have hC : wadd i2 1 ≤ v.length := Nat.le_trans (wadd_le i2 1) c2
      refine Or.inr (Or.inr (Exists.intro ?w fun n => ?h))
      case h =>
        rw [resolveOneU]
        simp only [h1, h2, substr_ok (s := v) (pos := wadd i1 2) _ hA, substr_ok (s := v) (pos := 0) _ (Nat.zero_le _),
          substrFrom_ok hC, bind_ok]
        rfl

theorem resolveOneU_err (code beg en : Char) (am : Map) (key : Str) :
    ∀ (fuel : Nat) (value : Str) (x : Err),
      resolveOneU code beg en am key fuel value = .error x → x = .bpp ∨ x = .hang := by
  intro fuel
  induction fuel with
  | zero => intro v x h; exact Or.inr (Except.error.inj h).symm
  | succ n ih =>
    intro v x h
    rcases resolveOneU_step code beg en am key v with e | e | ⟨v', e⟩
    · rw [e] at h; cases h
    · rw [e] at h; exact Or.inl (Except.error.inj h).symm
    · rw [e] at h; exact ih _ _ h

theorem resolveKeysU_err (code beg en : Char) (fuel : Nat) :
    ∀ (ks : List Str) (am : Map) (x : Err),
      resolveKeysU code beg en fuel ks am = .error x → x = .bpp ∨ x = .hang := by
  intro ks
  induction ks with
  | nil => intro am x h; simp [resolveKeysU] at h
  | cons k ks ih =>
    intro am x h
    unfold resolveKeysU at h
    cases h1 : mapFind k am with
    | none => simp only [h1] at h; exact ih _ _ h
    | some v =>
      simp only [h1] at h
      cases h2 : resolveOneU code beg en am k fuel v with
      | error y =>
        simp only [h2, bind_err, Except.error.injEq] at h
        subst h
        exact resolveOneU_err _ _ _ _ _ _ _ _ h2
      | ok v' =>
        simp only [h2, bind_ok] at h
        exact ih _ _ h

/-! ### resolveVariables: more rounds do not change an outcome that is not `hang` -/

theorem resolveOneU_mono (code beg en : Char) (am : Map) (key : Str) :
    ∀ (n : Nat) (v : Str), resolveOneU code beg en am key n v ≠ .error .hang →
      resolveOneU code beg en am key (n + 1) v = resolveOneU code beg en am key n v := by
  intro n
  induction n with
  | zero => intro v h; exact absurd rfl h
  | succ n ih =>
    intro v h
    rcases resolveOneU_step code beg en am key v with e | e | ⟨v', e⟩
    · rw [e, e]
    · rw [e, e]
    · rw [e] at h
      rw [e, e, ih _ h]

theorem resolveKeysU_mono (code beg en : Char) (n : Nat) :
    ∀ (ks : List Str) (am : Map), resolveKeysU code beg en n ks am ≠ .error .hang →
      resolveKeysU code beg en (n + 1) ks am = resolveKeysU code beg en n ks am := by
  intro ks
  induction ks with
  | nil => intro am _; rfl
  | cons k ks ih =>
    intro am h
    rw [resolveKeysU] at h ⊢
    rw [resolveKeysU.eq_def code beg en n (k :: ks) am]
    cases h1 : mapFind k am with
    | none => simp only [h1] at h ⊢; exact ih _ h
    | some v =>
      simp only [h1] at h ⊢
      have hv : resolveOneU code beg en am k n v ≠ .error .hang := by
        intro hc; rw [hc] at h; exact h rfl
      rw [resolveOneU_mono _ _ _ _ _ _ _ hv]
      cases h2 : resolveOneU code beg en am k n v with
      | error x => rfl
      | ok v' =>
        simp only [h2, bind_ok] at h ⊢
        exact ih _ h

theorem resolveVariablesU_mono (code beg en : Char) (am : Map) (n : Nat)
    (h : resolveVariablesU code beg en n am ≠ .error .hang) :
    ∀ n', n ≤ n' → resolveVariablesU code beg en n' am = resolveVariablesU code beg en n am := by
  intro n' hn
  obtain ⟨d, rfl⟩ := Nat.exists_eq_add_of_le hn
  induction d with
  | zero => rfl
  | succ d ih =>
    have e := ih (Nat.le_add_right _ _)
    unfold resolveVariablesU at *
    rw [← Nat.add_assoc, resolveKeysU_mono _ _ _ _ _ _ (by rw [e]; exact h), e]

/-! ### resolveVariables with the default marks is C17's functional model

`Vars.resolveOne` tests the fuel after `find` (`n` = substitutions allowed), `resolveOneU` before
(`n` = rounds of the `while` test allowed): `n` substitutions are `n + 1` rounds.  The `size_t`
arithmetic of the code does not wrap as long as the values are `std::string`s (`StrOk`). -/

/-- with the default marks the closing mark is at least two characters after the opening one -/
theorem close_after_open {v : Str} {i1 i2 : Nat} (h1 : find ['$', '('] v = some i1)
    (h2 : findFrom [')'] v i1 = some i2) : i1 + 2 ≤ i2 := by
  obtain ⟨c1, _⟩ := findFrom_bounds h2
  obtain ⟨t, ht⟩ := Glob.isPrefix_iff.mp (find_prefix h1)
  have p2 := findFrom_prefix h2
  rcases Nat.lt_or_ge i2 (i1 + 2) with hlt | hge
  · exfalso
    have hc : i2 = i1 ∨ i2 = i1 + 1 := by omega
    rcases hc with rfl | rfl
    · rw [ht] at p2; simp [isPrefix] at p2
    · have : v.drop (i1 + 1) = '(' :: t := by
        rw [← List.drop_drop, ht]; rfl
      rw [this] at p2; simp [isPrefix] at p2
  · exact hge

theorem resolveOneU_none (am : Map) (key : Str) (n : Nat) (v : Str)
    (h1 : find ['$', '('] v = none) : resolveOneU '$' '(' ')' am key (n + 1) v = .ok v := by
  rw [resolveOneU]; simp only [h1]

theorem resolveOneU_unclosed (am : Map) (key : Str) (n : Nat) (v : Str) (i1 : Nat)
    (h1 : find ['$', '('] v = some i1) (h2 : findFrom [')'] v i1 = none) :
    resolveOneU '$' '(' ')' am key (n + 1) v = .error .bpp := by
  rw [resolveOneU]; simp only [h1, h2]

/-- one round of the UB-aware loop on a `std::string` is one substitution of the C17 model -/
theorem resolveOneU_succ (am : Map) (key : Str) (n : Nat) (v : Str) (i1 i2 : Nat) (hv : StrOk v)
    (h1 : find ['$', '('] v = some i1) (h2 : findFrom [')'] v i1 = some i2) :
    resolveOneU '$' '(' ')' am key (n + 1) v
      = resolveOneU '$' '(' ')' am key n (nextVal am key v i1 i2) := by
  have c2 : i2 + 1 ≤ v.length := (findFrom_bounds h2).2
  have hc := close_after_open h1 h2
  have hsz : v.length < SZ := Nat.lt_of_le_of_lt (Nat.le_add_right _ 4) hv.lt_SZ
  have hi2 : i2 < SZ := Nat.lt_trans c2 hsz
  have hi1 : i1 ≤ i2 := Nat.le_trans (Nat.le_add_right _ 2) hc
  have e1 : wadd i1 2 = i1 + 2 := wadd_eq (Nat.lt_of_le_of_lt hc hi2)
  have e2 : wsub i2 i1 = i2 - i1 := wsub_eq hi1 hi2
  have e3 : wsub (i2 - i1) 2 = i2 - i1 - 2 :=
    wsub_eq (Nat.le_sub_of_add_le' hc) (Nat.lt_of_le_of_lt (Nat.sub_le _ _) hi2)
  have e4 : wadd i2 1 = i2 + 1 := wadd_eq (Nat.lt_of_le_of_lt c2 hsz)
  rw [resolveOneU]
  simp only [h1, h2, e1, e2, e3, e4]
  simp only [substr_ok (s := v) (pos := i1 + 2) _ (Nat.le_trans hc (Nat.le_of_lt c2)),
    substr_ok (s := v) (pos := 0) _ (Nat.zero_le _), substrFrom_ok (s := v) (pos := i2 + 1) c2, bind_ok,
    List.drop_zero]
  rfl

/-- every value to which the C17 loop applies a substitution is a `std::string` -/
def oneOk (am : Map) (key : Str) : Nat → Str → Bool
  | 0, _ => true
  | n + 1, value =>
    match find ['$', '('] value with
    | none => true
    | some i1 =>
      match findFrom [')'] value i1 with
      | none => true
      | some i2 => decide (StrOk value) && oneOk am key n (nextVal am key value i1 i2)

theorem oneOk_zero (am : Map) (key v : Str) : oneOk am key 0 v = true := by rw [oneOk]

theorem oneOk_none (am : Map) (key : Str) (n : Nat) (v : Str) (h1 : find ['$', '('] v = none) :
    oneOk am key (n + 1) v = true := by
  rw [oneOk]; simp only [h1]

theorem oneOk_unclosed (am : Map) (key : Str) (n : Nat) (v : Str) (i1 : Nat)
    (h1 : find ['$', '('] v = some i1) (h2 : findFrom [')'] v i1 = none) :
    oneOk am key (n + 1) v = true := by
  rw [oneOk]; simp only [h1, h2]

theorem oneOk_succ (am : Map) (key : Str) (n : Nat) (v : Str) (i1 i2 : Nat)
    (h1 : find ['$', '('] v = some i1) (h2 : findFrom [')'] v i1 = some i2) :
    oneOk am key (n + 1) v = (decide (StrOk v) && oneOk am key n (nextVal am key v i1 i2)) := by
  rw [oneOk]; simp only [h1, h2]

theorem one_sim (am : Map) (key : Str) :
    ∀ (n : Nat) (v : Str), oneOk am key n v = true →
      (∀ v', Vars.resolveOne am key n v = .done v' →
        resolveOneU '$' '(' ')' am key (n + 1) v = .ok v' ∧
        (resolveOneU '$' '(' ')' am key n v = .ok v' ∨
          resolveOneU '$' '(' ')' am key n v = .error .hang)) ∧
      (Vars.resolveOne am key n v = .exc →
        resolveOneU '$' '(' ')' am key (n + 1) v = .error .bpp) ∧
      (Vars.resolveOne am key n v = .diverge →
        resolveOneU '$' '(' ')' am key n v = .error .hang) := by
  intro n
  induction n with
  | zero =>
    intro v _
    cases h1 : find ['$', '('] v with
    | none =>
      rw [Vars.resolveOne_none _ _ _ _ h1, resolveOneU_none _ _ _ _ h1]
      exact ⟨fun v' h => by cases h; exact ⟨rfl, Or.inr rfl⟩, nofun, nofun⟩
    | some i1 =>
      rw [Vars.resolveOne_zero_some _ _ _ _ h1]
      exact ⟨nofun, nofun, fun _ => rfl⟩
  | succ n ih =>
    intro v hok
    cases h1 : find ['$', '('] v with
    | none =>
      rw [Vars.resolveOne_none _ _ _ _ h1, resolveOneU_none _ _ _ _ h1, resolveOneU_none _ _ _ _ h1]
      exact ⟨fun v' h => by cases h; exact ⟨rfl, Or.inl rfl⟩, nofun, nofun⟩
    | some i1 =>
      cases h2 : findFrom [')'] v i1 with
      | none =>
        rw [Vars.resolveOne_unclosed _ _ _ _ _ h1 h2, resolveOneU_unclosed _ _ _ _ _ h1 h2]
        exact ⟨nofun, fun _ => rfl, nofun⟩
      | some i2 =>
        rw [oneOk_succ _ _ _ _ _ _ h1 h2] at hok
        simp only [Bool.and_eq_true, decide_eq_true_eq] at hok
        rw [Vars.resolveOne_succ _ _ _ _ _ _ h1 h2, resolveOneU_succ _ _ _ _ _ _ hok.1 h1 h2,
          resolveOneU_succ _ _ _ _ _ _ hok.1 h1 h2]
        exact ih _ hok.2

/-- … for every entry visited by the `for` loop -/
def keysOk (fuel : Nat) : List Str → Map → Bool
  | [], _ => true
  | k :: ks, am =>
    match mapFind k am with
    | none => keysOk fuel ks am
    | some v =>
      oneOk am k fuel v &&
        (match Vars.resolveOne am k fuel v with
          | .done v' => keysOk fuel ks (Vars.mapSet k v' am)
          | _ => true)

/-- every string built by C17's `resolveVariables fuel am` is a `std::string` -/
def runOk (fuel : Nat) (am : Map) : Bool := keysOk fuel (am.map (·.1)) am

theorem keys_sim (fuel : Nat) :
    ∀ (ks : List Str) (am : Map), keysOk fuel ks am = true →
      (∀ m, Vars.resolveKeys fuel ks am = .ok m →
        resolveKeysU '$' '(' ')' (fuel + 1) ks am = .ok m ∧
        (resolveKeysU '$' '(' ')' fuel ks am = .ok m ∨
          resolveKeysU '$' '(' ')' fuel ks am = .error .hang)) ∧
      (Vars.resolveKeys fuel ks am = .exc →
        resolveKeysU '$' '(' ')' (fuel + 1) ks am = .error .bpp) ∧
      (Vars.resolveKeys fuel ks am = .diverge →
        resolveKeysU '$' '(' ')' fuel ks am = .error .hang) := by
  intro ks
  induction ks with
  | nil =>
    intro am _
    simp only [Vars.resolveKeys, resolveKeysU]
    exact ⟨fun m h => by cases h; exact ⟨rfl, Or.inl rfl⟩, nofun, nofun⟩
  | cons k ks ih =>
    intro am hok
    rw [keysOk] at hok
    rw [Vars.resolveKeys, resolveKeysU, resolveKeysU.eq_def '$' '(' ')' fuel (k :: ks) am]
    cases h1 : mapFind k am with
    | none =>
      simp only [h1] at hok ⊢
      exact ih _ hok
    | some v =>
      simp only [h1, Bool.and_eq_true] at hok ⊢
      obtain ⟨s1, s2, s3⟩ := one_sim am k fuel v hok.1
      cases h2 : Vars.resolveOne am k fuel v with
      | done v' =>
        obtain ⟨u1, u2⟩ := s1 v' h2
        have hk := hok.2
        simp only [h2] at hk
        obtain ⟨t1, t2, t3⟩ := ih _ hk
        dsimp only []
        rw [u1, bind_ok]
        rcases u2 with u2 | u2
        · rw [u2, bind_ok]
          exact ⟨t1, t2, t3⟩
        · rw [u2, bind_err]
          exact ⟨fun m hm => ⟨(t1 m hm).1, Or.inr rfl⟩, t2, fun _ => rfl⟩
      | exc =>
        dsimp only []
        rw [s2 h2, bind_err]
        exact ⟨nofun, fun _ => rfl, nofun⟩
      | diverge =>
        dsimp only []
        rw [s3 h2, bind_err]
        exact ⟨nofun, nofun, fun _ => rfl⟩

/-! ### `runOk` at one fuel on which C17's model returns gives `runOk` at every fuel -/

theorem resolveOne_done_succ (am : Map) (key : Str) :
    ∀ (n : Nat) (v v' : Str), Vars.resolveOne am key n v = .done v' →
      Vars.resolveOne am key (n + 1) v = .done v' ∧ oneOk am key (n + 1) v = oneOk am key n v := by
  intro n
  induction n with
  | zero =>
    intro v v' h
    cases h1 : find ['$', '('] v with
    | none =>
      rw [Vars.resolveOne_none _ _ _ _ h1] at h ⊢
      exact ⟨h, by rw [oneOk_none _ _ _ _ h1, oneOk_zero]⟩
    | some i1 => rw [Vars.resolveOne_zero_some _ _ _ _ h1] at h; cases h
  | succ n ih =>
    intro v v' h
    cases h1 : find ['$', '('] v with
    | none =>
      rw [Vars.resolveOne_none _ _ _ _ h1] at h ⊢
      exact ⟨h, by rw [oneOk_none _ _ _ _ h1, oneOk_none _ _ _ _ h1]⟩
    | some i1 =>
      cases h2 : findFrom [')'] v i1 with
      | none => rw [Vars.resolveOne_unclosed _ _ _ _ _ h1 h2] at h; cases h
      | some i2 =>
        rw [Vars.resolveOne_succ _ _ _ _ _ _ h1 h2] at h ⊢
        obtain ⟨a1, a2⟩ := ih _ _ h
        refine ⟨a1, ?_⟩
        rw [oneOk_succ _ _ _ _ _ _ h1 h2, oneOk_succ _ _ _ _ _ _ h1 h2, a2]

theorem oneOk_pred (am : Map) (key : Str) :
    ∀ (n : Nat) (v : Str), oneOk am key (n + 1) v = true → oneOk am key n v = true := by
  intro n
  induction n with
  | zero => intro v _; exact oneOk_zero _ _ _
  | succ n ih =>
    intro v h
    cases h1 : find ['$', '('] v with
    | none => exact oneOk_none _ _ _ _ h1
    | some i1 =>
      cases h2 : findFrom [')'] v i1 with
      | none => exact oneOk_unclosed _ _ _ _ _ h1 h2
      | some i2 =>
        rw [oneOk_succ _ _ _ _ _ _ h1 h2, Bool.and_eq_true] at h ⊢
        exact ⟨h.1, ih _ h.2⟩

theorem keysOk_pred (n : Nat) :
    ∀ (ks : List Str) (am : Map), keysOk (n + 1) ks am = true → keysOk n ks am = true := by
  intro ks
  induction ks with
  | nil => intro am _; rfl
  | cons k ks ih =>
    intro am h
    rw [keysOk] at h ⊢
    cases h1 : mapFind k am with
    | none => simp only [h1] at h ⊢; exact ih _ h
    | some v =>
      simp only [h1, Bool.and_eq_true] at h ⊢
      refine ⟨oneOk_pred _ _ _ _ h.1, ?_⟩
      cases h2 : Vars.resolveOne am k n v with
      | done v' =>
        have h3 := (resolveOne_done_succ am k n v v' h2).1
        have hk := h.2
        simp only [h3] at hk
        exact ih _ hk
      | exc => rfl
      | diverge => rfl

theorem keysOk_succ (n : Nat) :
    ∀ (ks : List Str) (am m : Map), Vars.resolveKeys n ks am = .ok m → keysOk n ks am = true →
      Vars.resolveKeys (n + 1) ks am = .ok m ∧ keysOk (n + 1) ks am = true := by
  intro ks
  induction ks with
  | nil => intro am m h _; exact ⟨h, rfl⟩
  | cons k ks ih =>
    intro am m h hok
    rw [Vars.resolveKeys] at h ⊢
    rw [keysOk] at hok ⊢
    cases h1 : mapFind k am with
    | none => simp only [h1] at h hok ⊢; exact ih _ _ h hok
    | some v =>
      simp only [h1, Bool.and_eq_true] at h hok ⊢
      cases h2 : Vars.resolveOne am k n v with
      | done v' =>
        obtain ⟨a1, a2⟩ := resolveOne_done_succ am k n v v' h2
        have hk := hok.2
        simp only [h2] at h hk
        obtain ⟨b1, b2⟩ := ih _ _ h hk
        simp only [a1, a2, hok.1, b1, b2, and_self]
      | exc => simp only [h2] at h; cases h
      | diverge => simp only [h2] at h; cases h

/-- to know that no string longer than a `std::string` is ever built it is enough to check one
run of the C17 model that returns -/
theorem runOk_all (F : Nat) (am m : Map) (h : Vars.resolveVariables F am = .ok m)
    (hs : runOk F am = true) : ∀ fuel, runOk fuel am = true := by
  have up : ∀ d, Vars.resolveVariables (F + d) am = .ok m ∧ runOk (F + d) am = true := by
    intro d
    induction d with
    | zero => exact ⟨h, hs⟩
    | succ d ih => exact keysOk_succ _ _ _ _ ih.1 ih.2
  have down : ∀ d n, runOk (n + d) am = true → runOk n am = true := by
    intro d
    induction d with
    | zero => exact fun _ h => h
    | succ d ih => exact fun n h => ih n (keysOk_pred _ _ _ h)
  intro fuel
  rcases Nat.le_total F fuel with hf | hf
  · obtain ⟨d, rfl⟩ := Nat.exists_eq_add_of_le hf
    exact (up d).2
  · obtain ⟨d, rfl⟩ := Nat.exists_eq_add_of_le hf
    exact down d fuel hs

/-! ### the map on which the loop does not end -/

def cyclicMap : Map :=
  [(['a'], ['$', '(', 'b', ')']), (['b'], ['$', '(', 'b', ')', '$', '(', 'b', ')'])]

/-- the value of `a` alternates between `$(b)` and `$(b)$(b)` -/
theorem cyclic_hangs : ∀ n,
    resolveOneU '$' '(' ')' cyclicMap ['a'] n ['$', '(', 'b', ')'] = .error .hang ∧
    resolveOneU '$' '(' ')' cyclicMap ['a'] n ['$', '(', 'b', ')', '$', '(', 'b', ')'] = .error .hang := by
  intro n
  induction n with
  | zero => exact ⟨rfl, rfl⟩
  | succ n ih =>
    constructor
    · rw [resolveOneU_succ cyclicMap ['a'] n ['$', '(', 'b', ')'] 0 3 (by decide) (by decide) (by decide)]
      have e : nextVal cyclicMap ['a'] ['$', '(', 'b', ')'] 0 3
          = ['$', '(', 'b', ')', '$', '(', 'b', ')'] := by decide
      rw [e]; exact ih.2
    · rw [resolveOneU_succ cyclicMap ['a'] n ['$', '(', 'b', ')', '$', '(', 'b', ')'] 0 3
        (by decide) (by decide) (by decide)]
      have e : nextVal cyclicMap ['a'] ['$', '(', 'b', ')', '$', '(', 'b', ')'] 0 3
          = ['$', '(', 'b', ')'] := by decide
      rw [e]; exact ih.1

theorem cyclic_resolve_hangs (fuel : Nat) :
    resolveVariablesU '$' '(' ')' fuel cyclicMap = .error .hang := by
  show resolveKeysU '$' '(' ')' fuel [['a'], ['b']] cyclicMap = .error .hang
  rw [resolveKeysU]
  have : mapFind ['a'] cyclicMap = some ['$', '(', 'b', ')'] := by decide
  simp only [this, (cyclic_hangs fuel).1, bind_err]

end Bpp.Text.U
