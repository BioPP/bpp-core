import BppProofs.Lemmas.AliasCopy
/-! The queries of C03 (`getFrom`, `getAlias`, `getAliases`) under the invariant: what they answer,
and that `getAlias` never runs out of fuel. -/
namespace Bpp.Alias
open Bpp.ParamList (Bnd Con Par Store ObjId nameOf find? hasParameter names startsWith)

/-! ## Registry entries -/

/-- everything the invariant says about one registry entry, with positions -/
theorem ObjInv.regData {w : World} {k : Nat} {o : Obj} (h : ObjInv w k o) (ho : w.objs k = some o)
    {e : String × Nat} (he : e ∈ o.reg) :
    ∃ p t s y, o.params[(w.lis e.2).alias]? = some t ∧ nameOf w.heap t = o.pre ++ y ∧
      (w.lis e.2).name = o.pre ++ y ∧ o.params[p]? = some s ∧ nameOf w.heap s = o.pre ++ (w.lis e.2).src ∧
      Follows w o (w.lis e.2).alias p ∧ lisAlias w (w.lis e.2) = .ok (o.pre ++ y) := by
  obtain ⟨_, _, r3, ⟨s, hs, hsn, _⟩, ⟨t, y, ht, htn, hnm, _⟩⟩ := h.regOk e he
  obtain ⟨p, hp⟩ := h.exists_pos hs
  refine ⟨p, t, s, y, ht, htn, hnm, hp, hsn, ⟨e, he, rfl, s, hp, hsn⟩, ?_⟩
  simp only [lisAlias, r3, ho, ht, htn]

/-! ## `getAlias` -/

/-- `a` is the full name of a parameter that follows, through one link or more, the parameter whose
short name is `n` -/
def Desc (w : World) (o : Obj) (n a : String) : Prop :=
  ∃ c p tc tp, Relation.TransGen (Follows w o) c p ∧ o.params[c]? = some tc ∧ o.params[p]? = some tp ∧
    nameOf w.heap tp = o.pre ++ n ∧ nameOf w.heap tc = a

theorem not_desc_self {w : World} {k : Nat} {o : Obj} (h : ObjInv w k o) (n : String) : ¬ Desc w o n (o.pre ++ n) := by
  rintro ⟨c, p, tc, tp, hg, hc, hp, hnp, hnc⟩
  have : tc = tp := h.name_inj (List.mem_of_getElem? hc) (List.mem_of_getElem? hp) (by rw [hnc, hnp])
  subst this
  have : c = p := h.pos_inj hc hp
  subst this
  exact h.acyclic c hg

/-- the followers of `n` are the targets of the listeners named after `n` and their followers -/
theorem desc_iff {w : World} {k : Nat} {o : Obj} (h : ObjInv w k o) (ho : w.objs k = some o) (n a : String) :
    Desc w o n a ↔ ∃ e ∈ o.reg, (w.lis e.2).src = n ∧ ∃ y, (w.lis e.2).name = o.pre ++ y ∧
      (a = o.pre ++ y ∨ Desc w o y a) := by
  constructor
  · rintro ⟨c, p, tc, tp, hg, hc, hp, hnp, hnc⟩
    obtain ⟨b, hcb, e, he, hab, s, hs, hsn⟩ := Relation.TransGen.tail'_iff.1 hg
    rw [hp] at hs; cases hs
    have hsrc : (w.lis e.2).src = n := (append_left_cancel' (hnp.symm.trans hsn)).symm
    obtain ⟨p', t, s', y, ht, htn, hnm, _, _, _, _⟩ := h.regData ho he
    refine ⟨e, he, hsrc, y, hnm, ?_⟩
    rw [hab] at ht
    rcases Relation.reflTransGen_iff_eq_or_transGen.1 hcb with heq | hg'
    · left
      rw [heq, hc] at ht; cases ht
      rw [← hnc, htn]
    · right
      exact ⟨c, b, tc, t, hg', hc, ht, htn, hnc⟩
  · rintro ⟨e, he, hsrc, y, hnm, hor⟩
    obtain ⟨p, t, s, y', ht, htn, hnm', hp, hsn, hfol, _⟩ := h.regData ho he
    have : y' = y := append_left_cancel' (hnm'.symm.trans hnm)
    subst this
    rw [hsrc] at hsn
    rcases hor with rfl | ⟨c, p', tc, tp, hg, hc, hp', hnp, hnc⟩
    · exact ⟨_, p, t, s, Relation.TransGen.single hfol, ht, hp, hsn, htn⟩
    · have : tp = t := h.name_inj (List.mem_of_getElem? hp') (List.mem_of_getElem? ht) (by rw [hnp, htn])
      subst this
      have : p' = (w.lis e.2).alias := h.pos_inj hp' ht
      subst this
      exact ⟨c, p, tc, s, Relation.TransGen.tail hg hfol, hc, hp, hsn, hnc⟩

/-- a link never leads back to its own source -/
theorem child_ne {w : World} {k : Nat} {o : Obj} (h : ObjInv w k o) (ho : w.objs k = some o) {e : String × Nat}
    (he : e ∈ o.reg) {y : String} (hnm : (w.lis e.2).name = o.pre ++ y) : y ≠ (w.lis e.2).src := by
  intro heq
  apply not_desc_self h (w.lis e.2).src
  exact (desc_iff h ho _ _).2 ⟨e, he, rfl, y, hnm, Or.inl (by rw [heq])⟩

/-- one turn of the loop of `getAlias` -/
def gaStep (f : Nat) (w : World) (o : Obj) (name : String) (acc : Except Err (List String)) (e : String × Nat) :
    Except Err (List String) :=
  match acc with
  | .error x => .error x
  | .ok aliases =>
    if (w.lis e.2).src == name then
      match lisAlias w (w.lis e.2) with
      | .error x => .error x
      | .ok al =>
        if stripNs o.pre al != name then
          match getAlias f w o (stripNs o.pre al) with
          | .error x => .error x
          | .ok chain => .ok (aliases ++ [al] ++ chain)
        else .ok (aliases ++ [al])
    else .ok aliases

theorem getAlias_succ (f : Nat) (w : World) (o : Obj) (n : String) :
    getAlias (f + 1) w o n = o.reg.foldl (gaStep f w o n) (.ok []) := rfl

theorem gaStep_skip {f : Nat} {w : World} {o : Obj} {n : String} {acc : List String} {e : String × Nat}
    (hs : (w.lis e.2).src ≠ n) : gaStep f w o n (.ok acc) e = .ok acc := by
  simp [gaStep, hs]

theorem gaStep_take {f : Nat} {w : World} {o : Obj} {n : String} {acc : List String} {e : String × Nat}
    {y : String} {l : List String} (hs : (w.lis e.2).src = n) (hl : lisAlias w (w.lis e.2) = .ok (o.pre ++ y))
    (hy : y ≠ n) (hg : getAlias f w o y = .ok l) :
    gaStep f w o n (.ok acc) e = .ok (acc ++ [o.pre ++ y] ++ l) := by
  simp [gaStep, hs, hl, stripNs_append, hy, hg]

/-- the loop of `getAlias` over a part of the registry, given that the recursive calls succeed -/
theorem foldl_gaStep {w : World} {k : Nat} {o : Obj} (h : ObjInv w k o) (ho : w.objs k = some o) (f : Nat) (n : String)
    (IH : ∀ e ∈ o.reg, (w.lis e.2).src = n → ∀ y, (w.lis e.2).name = o.pre ++ y →
      ∃ l, getAlias f w o y = .ok l ∧ ∀ a, a ∈ l ↔ Desc w o y a) :
    ∀ (L : List (String × Nat)), (∀ e ∈ L, e ∈ o.reg) → ∀ acc : List String,
      ∃ R, L.foldl (gaStep f w o n) (.ok acc) = .ok (acc ++ R) ∧
        ∀ a, a ∈ R ↔ ∃ e ∈ L, (w.lis e.2).src = n ∧ ∃ y, (w.lis e.2).name = o.pre ++ y ∧
          (a = o.pre ++ y ∨ Desc w o y a)
  | [], _, acc => ⟨[], by simp, by simp⟩
  | e :: L, hL, acc => by
    have he : e ∈ o.reg := hL e (List.mem_cons_self)
    have hL' : ∀ e ∈ L, e ∈ o.reg := fun e' m => hL e' (List.mem_cons_of_mem _ m)
    rw [List.foldl_cons]
    by_cases hs : (w.lis e.2).src = n
    · obtain ⟨p, t, s, y, ht, htn, hnm, hp, hsn, hfol, hlis⟩ := h.regData ho he
      obtain ⟨l, hg, hl⟩ := IH e he hs y hnm
      have hy : y ≠ n := hs ▸ child_ne h ho he hnm
      rw [gaStep_take hs hlis hy hg]
      obtain ⟨R, hR, hmem⟩ := foldl_gaStep h ho f n IH L hL' (acc ++ [o.pre ++ y] ++ l)
      refine ⟨[o.pre ++ y] ++ l ++ R, by rw [hR]; simp, ?_⟩
      intro a
      simp only [List.mem_append, hmem, hl, List.mem_cons, exists_eq_or_imp, List.not_mem_nil, or_false]
      constructor
      · rintro ((ha | ha) | ha)
        · exact Or.inl ⟨hs, y, hnm, Or.inl ha⟩
        · exact Or.inl ⟨hs, y, hnm, Or.inr ha⟩
        · exact Or.inr ha
      · rintro (⟨_, y', hnm', hor⟩ | ha)
        · have : y' = y := append_left_cancel' (hnm'.symm.trans hnm)
          subst this
          rcases hor with ha | ha
          · exact Or.inl (Or.inl ha)
          · exact Or.inl (Or.inr ha)
        · exact Or.inr ha
    · rw [gaStep_skip hs]
      obtain ⟨R, hR, hmem⟩ := foldl_gaStep h ho f n IH L hL' acc
      refine ⟨R, hR, ?_⟩
      intro a
      simp only [hmem, List.mem_cons, exists_eq_or_imp]
      constructor
      · exact Or.inr
      · rintro (⟨hs', _⟩ | ha)
        · exact absurd hs' hs
        · exact ha

/-- `getAlias` with fuel above the number of registry entries at or below `n` -/
theorem getAlias_aux {w : World} {k : Nat} {o : Obj} (h : ObjInv w k o) (ho : w.objs k = some o) :
    ∀ (f : Nat) (S : List (String × Nat)) (n : String), S.Nodup →
      (∀ e ∈ o.reg, ((w.lis e.2).src = n ∨ Desc w o n (o.pre ++ (w.lis e.2).src)) → e ∈ S) →
      S.length + 1 ≤ f → ∃ l, getAlias f w o n = .ok l ∧ ∀ a, a ∈ l ↔ Desc w o n a
  | 0, _, _, _, _, hf => by omega
  | f + 1, S, n, nd, hS, hf => by
    rw [getAlias_succ]
    have IH : ∀ e ∈ o.reg, (w.lis e.2).src = n → ∀ y, (w.lis e.2).name = o.pre ++ y →
        ∃ l, getAlias f w o y = .ok l ∧ ∀ a, a ∈ l ↔ Desc w o y a := by
      intro e he hs y hnm
      have heS : e ∈ S := hS e he (Or.inl hs)
      refine getAlias_aux h ho f (S.erase e) y (nd.erase e) ?_ ?_
      · intro e' he' hor
        rw [nd.mem_erase_iff]
        have hdesc : Desc w o n (o.pre ++ (w.lis e'.2).src) := by
          rcases hor with h1 | h1
          · exact (desc_iff h ho _ _).2 ⟨e, he, hs, y, hnm, Or.inl (by rw [h1])⟩
          · exact (desc_iff h ho _ _).2 ⟨e, he, hs, y, hnm, Or.inr h1⟩
        refine ⟨?_, hS e' he' (Or.inr hdesc)⟩
        rintro rfl
        rw [hs] at hdesc
        exact not_desc_self h n hdesc
      · have : (S.erase e).length = S.length - 1 := List.length_erase_of_mem heS
        have hpos : 0 < S.length := List.length_pos_of_mem heS
        omega
    obtain ⟨R, hR, hmem⟩ := foldl_gaStep h ho f n IH o.reg (fun _ m => m) []
    refine ⟨R, by simpa using hR, ?_⟩
    intro a
    rw [hmem, desc_iff h ho]

/-- `getAlias(n)` with the fuel of the model answers, and answers with the full names of
exactly the parameters that follow the parameter of short name `n` through one link or more -/
theorem getAlias_spec {w : World} {k : Nat} {o : Obj} (h : ObjInv w k o) (ho : w.objs k = some o) (n : String) :
    ∃ l, getAlias (o.reg.length + 1) w o n = .ok l ∧
      ∀ a, a ∈ l ↔ ∃ c p tc tp, Relation.TransGen (Follows w o) c p ∧ o.params[c]? = some tc ∧ o.params[p]? = some tp ∧
        nameOf w.heap tp = o.pre ++ n ∧ nameOf w.heap tc = a :=
  getAlias_aux h ho (o.reg.length + 1) o.reg n h.regNodup (fun _ he _ => he) (Nat.le_refl _)

theorem getAlias_no_hang {w : World} {k : Nat} {o : Obj} (h : ObjInv w k o) (ho : w.objs k = some o) (n : String) :
    ∃ l, getAlias (o.reg.length + 1) w o n = .ok l :=
  let ⟨l, hl, _⟩ := getAlias_spec h ho n; ⟨l, hl⟩

/-- a name that is not the short name of a parameter has no alias -/
theorem getAlias_unknown {w : World} {k : Nat} {o : Obj} (h : ObjInv w k o) (ho : w.objs k = some o) {n : String}
    (hn : ∀ i ∈ o.params, nameOf w.heap i ≠ o.pre ++ n) : getAlias (o.reg.length + 1) w o n = .ok [] := by
  obtain ⟨l, hl, hmem⟩ := getAlias_spec h ho n
  rw [hl]
  cases l with
  | nil => rfl
  | cons a l' =>
    obtain ⟨c, p, tc, tp, _, _, hp, hnp, _⟩ := (hmem a).1 (List.mem_cons_self)
    exact absurd hnp (hn tp (List.mem_of_getElem? hp))

/-! ## `getAliases` -/

theorem mem_mapInsert_sub {β : Type} {k : String} {v : β} : ∀ {m : List (String × β)} {x : String × β},
    x ∈ mapInsert k v m → x = (k, v) ∨ x ∈ m
  | [], x, hx => by simpa [mapInsert] using hx
  | (k', v') :: t, x, hx => by
    simp only [mapInsert] at hx
    split at hx
    · simpa using hx
    · split at hx
      · rcases List.mem_cons.1 hx with h | h
        · exact Or.inl h
        · exact Or.inr (List.mem_cons_of_mem _ h)
      · rcases List.mem_cons.1 hx with h | h
        · exact Or.inr (h ▸ List.mem_cons_self)
        · rcases mem_mapInsert_sub h with h | h
          · exact Or.inl h
          · exact Or.inr (List.mem_cons_of_mem _ h)

theorem foldl_mapInsert_keys (name : String) : ∀ (al : List String) (m : List (String × String)) (a : String),
    a ∈ (al.foldl (fun m a => mapInsert a name m) m).map Prod.fst ↔ a ∈ al ∨ a ∈ m.map Prod.fst
  | [], m, a => by simp
  | b :: al, m, a => by
    rw [List.foldl_cons, foldl_mapInsert_keys name al, mem_keys_mapInsert, List.mem_cons]
    constructor
    · rintro (h | h | h)
      · exact Or.inl (Or.inr h)
      · exact Or.inl (Or.inl h)
      · exact Or.inr h
    · rintro ((h | h) | h)
      · exact Or.inr (Or.inl h)
      · exact Or.inl h
      · exact Or.inr (Or.inr h)

theorem foldl_mapInsert_mem (name : String) : ∀ (al : List String) (m : List (String × String)) (x : String × String),
    x ∈ al.foldl (fun m a => mapInsert a name m) m → (x.1 ∈ al ∧ x.2 = name) ∨ x ∈ m
  | [], m, x, hx => Or.inr hx
  | b :: al, m, x, hx => by
    rw [List.foldl_cons] at hx
    rcases foldl_mapInsert_mem name al _ x hx with h | h
    · exact Or.inl ⟨List.mem_cons_of_mem _ h.1, h.2⟩
    · rcases mem_mapInsert_sub h with h | h
      · subst h; exact Or.inl ⟨List.mem_cons_self, rfl⟩
      · exact Or.inr h

/-- one turn of the loop of `getAliases` -/
def gmStep (w : World) (o : Obj) (acc : Except Err (List (String × String))) (e : String × Nat) :
    Except Err (List (String × String)) :=
  match acc with
  | .error x => .error x
  | .ok m =>
    match getAlias (o.reg.length + 1) w o (w.lis e.2).src with
    | .error x => .error x
    | .ok al => .ok (al.foldl (fun m a => mapInsert a (w.lis e.2).src m) m)

theorem getAliases_eq (w : World) (o : Obj) : getAliases w o = o.reg.foldl (gmStep w o) (.ok []) := rfl

theorem foldl_gmStep {w : World} {k : Nat} {o : Obj} (h : ObjInv w k o) (ho : w.objs k = some o) :
    ∀ (L : List (String × Nat)) (m : List (String × String)),
      ∃ m', L.foldl (gmStep w o) (.ok m) = .ok m' ∧
        (∀ a, a ∈ m'.map Prod.fst ↔ a ∈ m.map Prod.fst ∨ ∃ e ∈ L, Desc w o (w.lis e.2).src a) ∧
        (∀ x, x ∈ m' → x ∈ m ∨ Desc w o x.2 x.1)
  | [], m => ⟨m, rfl, by simp, fun _ hx => Or.inl hx⟩
  | e :: L, m => by
    obtain ⟨al, hal, hmem⟩ := getAlias_spec h ho (w.lis e.2).src
    have hstep : gmStep w o (.ok m) e = .ok (al.foldl (fun m a => mapInsert a (w.lis e.2).src m) m) := by
      simp only [gmStep, hal]
    rw [List.foldl_cons, hstep]
    obtain ⟨m', hm', hk, hx⟩ := foldl_gmStep h ho L (al.foldl (fun m a => mapInsert a (w.lis e.2).src m) m)
    refine ⟨m', hm', ?_, ?_⟩
    · intro a
      rw [hk, foldl_mapInsert_keys, hmem]
      simp only [List.mem_cons, exists_eq_or_imp]
      constructor
      · rintro ((h1 | h1) | h1)
        · exact Or.inr (Or.inl h1)
        · exact Or.inl h1
        · exact Or.inr (Or.inr h1)
      · rintro (h1 | h1 | h1)
        · exact Or.inl (Or.inr h1)
        · exact Or.inl (Or.inl h1)
        · exact Or.inr h1
    · intro x hxm
      rcases hx x hxm with h1 | h1
      · rcases foldl_mapInsert_mem _ al m x h1 with ⟨h2, h3⟩ | h2
        · right
          rw [h3]
          exact (hmem x.1).1 h2
        · exact Or.inl h2
      · exact Or.inr h1

/-- the parameters that follow somebody are the targets of the registered listeners -/
theorem desc_some_iff {w : World} {k : Nat} {o : Obj} (h : ObjInv w k o) (ho : w.objs k = some o) (a : String) :
    (∃ e ∈ o.reg, Desc w o (w.lis e.2).src a) ↔
      ∃ e ∈ o.reg, ∃ t, o.params[(w.lis e.2).alias]? = some t ∧ nameOf w.heap t = a := by
  constructor
  · rintro ⟨_, _, c, p, tc, tp, hg, hc, _, _, hnc⟩
    obtain ⟨b, ⟨e, he, hal, _⟩, _⟩ := Relation.TransGen.head'_iff.1 hg
    exact ⟨e, he, tc, by rw [hal]; exact hc, hnc⟩
  · rintro ⟨e, he, t, ht, hn⟩
    obtain ⟨p, t', s, y, ht', htn, hnm, _, _, _, _⟩ := h.regData ho he
    rw [ht] at ht'; cases ht'
    exact ⟨e, he, (desc_iff h ho _ _).2 ⟨e, he, rfl, y, hnm, Or.inl (by rw [← hn, htn])⟩⟩

/-- `getAliases()` answers; its keys are the full names of the parameters that follow
somebody, each mapped to the short name of a parameter it follows (through one link or more) -/
theorem getAliases_spec {w : World} {k : Nat} {o : Obj} (h : ObjInv w k o) (ho : w.objs k = some o) :
    ∃ m, getAliases w o = .ok m ∧
      (∀ a, a ∈ m.map Prod.fst ↔ ∃ e ∈ o.reg, ∃ t, o.params[(w.lis e.2).alias]? = some t ∧ nameOf w.heap t = a) ∧
      (∀ a n, (a, n) ∈ m → ∃ c p tc tp, Relation.TransGen (Follows w o) c p ∧ o.params[c]? = some tc ∧ o.params[p]? = some tp ∧
        nameOf w.heap tp = o.pre ++ n ∧ nameOf w.heap tc = a) := by
  obtain ⟨m, hm, hk, hx⟩ := foldl_gmStep h ho o.reg []
  refine ⟨m, by rw [getAliases_eq, hm], ?_, ?_⟩
  · intro a
    rw [hk, ← desc_some_iff h ho]
    simp
  · intro a n hmem
    rcases hx (a, n) hmem with h1 | h1
    · simp at h1
    · exact h1

end Bpp.Alias
