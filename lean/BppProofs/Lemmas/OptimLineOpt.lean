import BppProofs.Lemmas.OptimLine
/-!
Helper lemmas for C10: the optimisers built on a search along a direction — `PowellMultiDimensions`,
`ConjugateGradientMultiDimensions`, `BfgsMultiDimensions` — on the objective of the harness, over `ℝ`.

* Powell: every line minimisation and the evaluation that follows it never increase `fret_`
  (`lineMinimization_spec`), so a step returns a value not above the one it began with
  (`powellDoStep_spec`); the invariant says `Off` (the function agrees with `pt0` outside the optimised
  names): before the repair of `doStep` the function could be left at the extrapolated point `ptt`; now
  every branch ends with the function at the optimiser's parameters;
  `optimize` ends on an evaluation at the optimiser's parameters.
* conjugate gradient: `Coord.Inv` is kept and the value never increases (`cgDoStep_spec`).
* BFGS (repaired): `Coord.Inv` is kept and a step ends no higher than the current value — a trial that
  ends higher ("!!! Function increase !!!") is given up, the step goes back to the point it started from
  and sets the tolerance flag (`bfgsDoStep_spec`).
-/
set_option linter.unusedSectionVars false
namespace Bpp.Optim
open Bpp

variable (obj : List ℝ → ℝ) (D : Deriv ℝ) (cap : Option Nat)

/-! ### moving, then evaluating -/

theorem matchPoint_off {pt0 : List ℝ} {ns : List Nat} {fn : Fn ℝ} (hoff : Off pt0 ns fn) (pl : PList ℝ) (hn : names pl = ns) :
    matchPoint fn.point pl = matchPoint pt0 pl :=
  matchPoint_congr pl _ _ hoff.1 (fun i hi => hoff.2 i (by rw [← hn]; exact hi))

theorem off_of_matchPoint (pt0 : List ℝ) (ns : List Nat) (fn : Fn ℝ) (pl : PList ℝ) (hn : names pl = ns)
    (h : fn.point = matchPoint pt0 pl) : Off pt0 ns fn :=
  ⟨by rw [h, matchPoint_length], fun i hi => by rw [h]; exact matchPoint_frame pl pt0 i (by rw [hn]; exact hi)⟩

/-- a line minimisation followed by an evaluation at the parameters it returns, from a function that
agrees with `pt0` outside the names: the value is the objective at `pt0` with the new parameters written
into it, and is not above the objective at `pt0` with the old ones -/
theorem line_eval (pt0 : List ℝ) (ns : List Nat) (fuel : Nat) (fn fn1 fn2 : Fn ℝ) (params pl : PList ℝ) (xi xi' : List ℝ)
    (k : Nat) (fret : ℝ) (hg : Good params) (hn : names params = ns) (hoff : Off pt0 ns fn)
    (hl : lineMinimization (Fn.iface obj D cap) fuel fn params xi = .ok (fn1, pl, xi', k))
    (hf : (Fn.iface obj D cap).f fn1 pl = .ok (fn2, fret)) :
    Good pl ∧ names pl = ns ∧ Off pt0 ns fn2 ∧ fn2.point = matchPoint pt0 pl ∧ fret = obj (matchPoint pt0 pl) ∧
    fret ≤ obj (matchPoint pt0 params) := by
  obtain ⟨a, b, c⟩ := lineMinimization_spec obj D cap fuel fn fn1 params pl xi xi' k hg hl
  have hnpl : names pl = ns := a.names.trans hn
  have b' : fn1.point = matchPoint pt0 pl := b.trans (matchPoint_off hoff pl hnpl)
  have off1 : Off pt0 ns fn1 := off_of_matchPoint pt0 ns fn1 pl hnpl b'
  obtain ⟨e1, e2, e3⟩ := eval_off obj D cap pt0 ns fn1 fn2 pl fret off1 hnpl hf
  refine ⟨a.good hg, hnpl, e3, e1, e2, ?_⟩
  rw [e2, ← b', ← matchPoint_off hoff params hn]
  exact c

/-- an evaluation at a list the function has already been moved to: the function stays there -/
theorem moved_eval (len : Nat) (ns : List Nat) (hns : ns.Nodup ∧ ∀ n ∈ ns, n < len) (fn fn1 fn2 : Fn ℝ) (params pl : PList ℝ)
    (f : ℝ) (hg : Good params) (hn : names params = ns) (hlen : fn.point.length = len)
    (hlike : Like params pl) (hpt : fn1.point = matchPoint fn.point pl)
    (hf : (Fn.iface obj D cap).f fn1 pl = .ok (fn2, f)) :
    Good pl ∧ names pl = ns ∧ Sync fn2 pl ∧ fn2.point.length = len ∧ f = obj fn2.point ∧ fn2.point = fn1.point := by
  have hnpl : names pl = ns := hlike.names.trans hn
  have hl1 : fn1.point.length = len := by rw [hpt, matchPoint_length]; exact hlen
  have hnamed : Named pl fn1.point.length := ⟨by rw [hnpl]; exact hns.1, by rw [hnpl, hl1]; exact hns.2⟩
  obtain ⟨e1, e2, e3, e4⟩ := eval_sync obj D cap fn1 fn2 pl f hnamed hf
  have hs1 : Sync fn1 pl := sync_of_matchPoint fn1 fn.point pl hpt hnamed.1
    (fun q hq => by rw [hlen]; exact hns.2 _ (by rw [← hnpl]; exact mem_names hq))
  exact ⟨hlike.good hg, hnpl, e2, e3.trans hl1, e1, e4.trans (matchPoint_of_sync pl fn1.point hs1)⟩

/-! ### Powell -/

/-- what every loop of a Powell step keeps: the parameters are good and carry the names `ns`, the
function agrees with `pt0` outside `ns`, and `fret_` is the objective at `pt0` with the parameters
written into it -/
structure Powell.Base (pt0 : List ℝ) (ns : List Nat) (s : St (Fn ℝ) (Powell ℝ) ℝ) : Prop where
  good : Good s.core.params
  names : names s.core.params = ns
  off : Off pt0 ns s.fn
  fret : s.ext.fret = obj (matchPoint pt0 s.core.params)

/-- the invariant of a run: `Powell.Base`, the optimiser's current value is `fret_`, not above `B` -/
structure Powell.Inv (B : ℝ) (pt0 : List ℝ) (ns : List Nat) (s : St (Fn ℝ) (Powell ℝ) ℝ) : Prop where
  base : Powell.Base obj pt0 ns s
  cur : s.core.cur = s.ext.fret
  below : s.ext.fret ≤ B

/-- the loop over the directions -/
theorem powellDirs_spec (pt0 : List ℝ) (ns : List Nat) (fuel : Nat) :
    ∀ (is : List Nat) (s : St (Fn ℝ) (Powell ℝ) ℝ) (del : ℝ) (ibig : Nat) (s' : St (Fn ℝ) (Powell ℝ) ℝ) (del' : ℝ) (ibig' : Nat),
      Powell.Base obj pt0 ns s → powellDirs (Fn.iface obj D cap) fuel is s del ibig = .ok (s', del', ibig') →
      Powell.Base obj pt0 ns s' ∧ s'.ext.fret ≤ s.ext.fret := by
  intro is
  induction is with
  | nil =>
    intro s del ibig s' del' ibig' hb h
    rw [powellDirs] at h
    cases h
    exact ⟨hb, le_refl _⟩
  | cons i r ih =>
    intro s del ibig s' del' ibig' hb h
    obtain ⟨xit, fn1, pl, xi1, k, fn2, fret, del1, ibig1, hl, hf, hr⟩ := powellDirs_cons_ok h
    obtain ⟨a, b, c, _, e, f⟩ := line_eval obj D cap pt0 ns fuel s.fn fn1 fn2 s.core.params pl xit xi1 k fret
      hb.good hb.names hb.off hl hf
    obtain ⟨b', l'⟩ := ih _ _ _ _ _ _ ⟨a, b, c, e⟩ hr
    exact ⟨b', le_trans l' (hb.fret ▸ f)⟩

/-- **`PowellMultiDimensions::doStep`** keeps `Powell.Base`, returns `fret_`, and `fret_` has not
increased; every branch leaves the function at the optimiser's parameters (the last thing a step does is
an evaluation at them, or `setParameters` with them) -/
theorem powellDoStep_spec (pt0 : List ℝ) (ns : List Nat) (fuel : Nat) (s s' : St (Fn ℝ) (Powell ℝ) ℝ) (v : ℝ)
    (hb : Powell.Base obj pt0 ns s) (h : powellDoStep (Fn.iface obj D cap) fuel s = .ok (s', v)) :
    Powell.Base obj pt0 ns s' ∧ v = s'.ext.fret ∧ v ≤ s.ext.fret ∧ s'.fn.point = matchPoint pt0 s'.core.params := by
  obtain ⟨sd, del, ibig, ptt, xit, pt', fn3, fptt, hd, hx, hf, hor⟩ := powellDoStep_ok h
  obtain ⟨hbd, hle⟩ := powellDirs_spec obj D cap pt0 ns fuel _ _ _ _ _ _ _
    (by exact ⟨hb.good, hb.names, hb.off, hb.fret⟩) hd
  have hnptt : names ptt = ns := (powellExtrapolate_like _ _ _ hbd.good.feas hx).names.trans hbd.names
  obtain ⟨-, -, off3⟩ := eval_off obj D cap pt0 ns _ fn3 ptt fptt hbd.off hnptt hf
  rcases hor with ⟨fn4, pl, xit', k, fn5, xi, hl, hf2, rfl⟩ | ⟨fn4, hsp, rfl, rfl⟩
  · obtain ⟨a, b, c, d, e, f⟩ := line_eval obj D cap pt0 ns fuel fn3 fn4 fn5 sd.core.params pl xit xit' k _
      hbd.good hbd.names off3 hl hf2
    exact ⟨⟨a, b, c, e⟩, rfl, le_trans (hbd.fret ▸ f) hle, d⟩
  · have hpt := (iface_set_point obj D cap _ _ _ hsp).trans (matchPoint_off off3 _ hbd.names)
    exact ⟨⟨hbd.good, hbd.names, off_of_matchPoint pt0 ns fn4 sd.core.params hbd.names hpt, hbd.fret⟩, rfl, hle, hpt⟩

theorem Powell.Inv.congr {B : ℝ} {pt0 : List ℝ} {ns : List Nat} {s t : St (Fn ℝ) (Powell ℝ) ℝ} (h : Powell.Inv obj B pt0 ns s)
    (hf : t.fn = s.fn) (hp : t.core.params = s.core.params) (hc : t.core.cur = s.core.cur) (he : t.ext = s.ext) :
    Powell.Inv obj B pt0 ns t :=
  ⟨⟨by rw [hp]; exact h.base.good, by rw [hp]; exact h.base.names, by rw [hf]; exact h.base.off,
    by rw [he, hp]; exact h.base.fret⟩, by rw [hc, he]; exact h.cur, by rw [he]; exact h.below⟩

/-- `AbstractOptimizer::init` for Powell's method -/
theorem powell_init_spec (fuel : Nat) (s s1 : St (Fn ℝ) (Powell ℝ) ℝ) (params : PList ℝ) (hgood : Good params)
    (h : (powellAlgo (Fn.iface obj D cap) fuel).init s params = .ok s1) :
    Powell.Inv obj (obj (matchPoint s.fn.point params)) s.fn.point (names params) s1 := by
  obtain ⟨sa, hdi, rfl⟩ := init_ok h
  change powellDoInit (Fn.iface obj D cap) _ params = .ok sa at hdi
  unfold powellDoInit at hdi
  simp only [] at hdi
  split at hdi
  · cases hdi
  · rename_i fn1 fret hf
    cases hdi
    obtain ⟨e1, e2, e3⟩ := eval_off obj D cap s.fn.point (names params) s.fn fn1 _ fret ⟨rfl, fun _ _ => rfl⟩
      (applyPolicy_names s.core.policy params) hf
    exact ⟨⟨applyPolicy_good _ _ hgood, applyPolicy_names _ _, e3, e2⟩, by show obj fn1.point = fret; rw [e1, e2],
      by show fret ≤ _; rw [e2, matchPoint_applyPolicy]⟩

/-- **`PowellMultiDimensions::optimize`** from a state that satisfies the invariant: the loop, then an
evaluation at the optimiser's parameters -/
theorem powellOptimize_spec (B : ℝ) (pt0 : List ℝ) (ns : List Nat) (fuel : Nat) (s s2 : St (Fn ℝ) (Powell ℝ) ℝ) (v : ℝ)
    (hi : Powell.Inv obj B pt0 ns s) (h : powellOptimize (Fn.iface obj D cap) fuel s = .ok (s2, v)) :
    v ≤ B ∧ v = obj s2.fn.point ∧ s2.fn.point = matchPoint pt0 s2.core.params ∧ s2.core.cur = v ∧
    names s2.core.params = ns ∧ Powell.Inv obj B pt0 ns s2 := by
  obtain ⟨sL, w, fn2, hopt, hf, rfl⟩ := powellOptimize_ok h
  obtain ⟨hL, -⟩ := optimize_invariant _ (Powell.Inv obj B pt0 ns)
    (fun u u' w hu hd => by
      obtain ⟨a, b, c, -⟩ := powellDoStep_spec obj D cap pt0 ns fuel u u' w hu.base hd
      exact ⟨⟨a.good, a.names, a.off, a.fret⟩, b, b ▸ le_trans c hu.below⟩)
    (fun u hu => by show Powell.Inv obj B pt0 ns (powellStop u).1; rw [powellStop_fst]; exact hu.congr obj rfl rfl rfl rfl)
    (fun u n t hu => hu.congr obj rfl rfl rfl rfl) hi hopt
  obtain ⟨e1, e2, e3⟩ := eval_off obj D cap pt0 ns _ fn2 _ v hL.base.off hL.base.names hf
  have hv : v = sL.ext.fret := by rw [e2, hL.base.fret]
  exact ⟨hv ▸ hL.below, by rw [e2, e1], e1, hL.cur.trans hv.symm, hL.base.names,
    ⟨hL.base.good, hL.base.names, e3, hL.base.fret⟩, hL.cur, hL.below⟩

/-! ### `init` of the conjugate gradient and BFGS optimisers -/

theorem cg_init_spec (fuel : Nat) (s s1 : St (Fn ℝ) (Cg ℝ) ℝ) (params : PList ℝ)
    (hgood : Good params) (hn : Named params s.fn.point.length)
    (h : (cgAlgo (Fn.iface obj D cap) fuel).init s params = .ok s1) :
    Multi.Inv obj (obj (matchPoint s.fn.point params)) s.fn.point.length (names params) s1 ∧
    s1.fn.point = matchPoint s.fn.point params :=
  multi_init_spec obj D cap _ rfl rfl s s1 params hgood hn (fun sa h => by
    obtain ⟨fn, e, hsp, rfl⟩ := cgDoInit_ok h
    exact ⟨rfl, iface_set_point obj D cap _ _ _ hsp⟩) h

theorem bfgs_init_spec (fuel : Nat) (s s1 : St (Fn ℝ) (Bfgs ℝ) ℝ) (params : PList ℝ)
    (hgood : Good params) (hn : Named params s.fn.point.length)
    (h : (bfgsAlgo (Fn.iface obj D cap) fuel).init s params = .ok s1) :
    Multi.Inv obj (obj (matchPoint s.fn.point params)) s.fn.point.length (names params) s1 ∧
    s1.fn.point = matchPoint s.fn.point params :=
  multi_init_spec obj D cap _ rfl rfl s s1 params hgood hn (fun sa h => by
    obtain ⟨fn, e, hsp, rfl⟩ := bfgsDoInit_ok h
    exact ⟨rfl, iface_set_point obj D cap _ _ _ hsp⟩) h

/-! ### conjugate gradient -/

/-- **`ConjugateGradientMultiDimensions::doStep`** keeps `Coord.Inv`, returns the objective at the point
the function is left at, not above the objective at the point it found it at -/
theorem cgDoStep_spec (len : Nat) (ns : List Nat) (hns : ns.Nodup ∧ ∀ n ∈ ns, n < len) (fuel : Nat)
    (s s' : St (Fn ℝ) (Cg ℝ) ℝ) (v : ℝ) (hi : Coord.Inv len ns s)
    (h : cgDoStep (Fn.iface obj D cap) fuel s = .ok (s', v)) :
    Coord.Inv len ns s' ∧ v = obj s'.fn.point ∧ v ≤ obj s.fn.point := by
  obtain ⟨fn1, pl, xi', k, fn2, hl, hf, g, rfl⟩ := cgDoStep_ok h
  obtain ⟨a, b, c⟩ := lineMinimization_spec obj D cap fuel s.fn fn1 s.core.params pl _ xi' k hi.good hl
  obtain ⟨m1, m2, m3, m4, m5, m6⟩ := moved_eval obj D cap len ns hns s.fn fn1 fn2 s.core.params pl v
    hi.good hi.names hi.len a b hf
  refine ⟨⟨m1, m2, m3, m4⟩, m5, ?_⟩
  rw [m5, m6]
  rw [matchPoint_of_sync _ _ hi.sync] at c
  exact c

/-! ### BFGS -/

/-- **`BfgsMultiDimensions::doStep`** (repaired) from a state in which the function holds the optimiser's
parameters and the current value is the objective there: `Coord.Inv` is kept, the value returned is the
objective at the point the function is left at, it is not above the current value — a trial that
ends higher is given up: the step goes back to the values it started from (which the parameters accept
as they are), evaluates there, and sets the tolerance flag —, and no coordinate outside the names of the
optimiser's list has moved -/
theorem bfgsDoStep_spec (len : Nat) (ns : List Nat) (hns : ns.Nodup ∧ ∀ n ∈ ns, n < len) (fuel : Nat)
    (s s' : St (Fn ℝ) (Bfgs ℝ) ℝ) (v : ℝ) (hi : Coord.Inv len ns s) (hcur : s.core.cur = obj s.fn.point)
    (h : bfgsDoStep (Fn.iface obj D cap) fuel s = .ok (s', v)) :
    Coord.Inv len ns s' ∧ v = obj s'.fn.point ∧ v ≤ s.core.cur ∧ Off s.fn.point ns s'.fn := by
  obtain ⟨xi, gr, fn1, pl, xi', k, fn2, f, hl, hf, g, hor⟩ := bfgsDoStep_ok h
  obtain ⟨a, b⟩ := lineSearch_spec obj D cap fuel s.fn fn1 s.core.params pl xi gr xi' k hi.good hl
  obtain ⟨m1, m2, m3, m4, m5, m6⟩ := moved_eval obj D cap len ns hns s.fn fn1 fn2 s.core.params pl f
    hi.good hi.names hi.len a b hf
  have off2 : Off s.fn.point ns fn2 := off_of_matchPoint s.fn.point ns fn2 pl m2 (m6.trans b)
  rcases hor with ⟨hgt, rfl, rfl⟩ | ⟨-, pl0, fn3, hsa, hf0, rfl⟩
  · exact ⟨⟨m1, m2, m3, m4⟩, m5, not_lt.1 (fun c => Bool.false_ne_true (hgt ▸ (ScalarReal.gtb_iff _ _).2 c)), off2⟩
  · -- back to the start of the step
    have hlk0 : Like pl pl0 := setAll_like pl _ pl0 m1.feas hsa
    have hn0 : names pl0 = ns := (setAll_names pl _ pl0 hsa).trans m2
    have hv0 : values pl0 = values s.core.params :=
      setAll_values (Like.accepts_values a (Like.refl hi.good.feas)) pl0 m1 hsa
    have hnamed : Named pl0 fn2.point.length := ⟨by rw [hn0]; exact hns.1, by rw [hn0, m4]; exact hns.2⟩
    obtain ⟨e1, e2', e3, e4⟩ := eval_sync obj D cap fn2 fn3 pl0 v hnamed hf0
    have hpt : fn3.point = s.fn.point := by
      rw [e4, matchPoint_nv fn2.point pl0 s.core.params (hn0.trans hi.names.symm) hv0, m6, b]
      rw [matchPoint_congr s.core.params (matchPoint s.fn.point pl) s.fn.point (matchPoint_length _ _)
        (fun i hi' => matchPoint_frame pl s.fn.point i (by rw [m2, ← hi.names]; exact hi'))]
      exact matchPoint_of_sync _ _ hi.sync
    exact ⟨⟨hlk0.good m1, hn0, e2', e3.trans m4⟩, e1, by rw [e1, hpt, hcur],
      off2.trans (off_of_matchPoint fn2.point ns fn3 pl0 hn0 e4)⟩

/-- **`BfgsMultiDimensions`: `optimize`** (repaired) from a state that satisfies `Multi.Inv` keeps it and
returns the current value (the descent of a BFGS step is relative to the optimiser's current value, which
the invariant of the run ties to the function) -/
theorem bfgs_optimize_spec (B : ℝ) (len : Nat) (ns : List Nat) (hns : ns.Nodup ∧ ∀ n ∈ ns, n < len) (fuel fuel' : Nat)
    (s s2 : St (Fn ℝ) (Bfgs ℝ) ℝ) (v : ℝ) (hi : Multi.Inv obj B len ns s)
    (h : (bfgsAlgo (Fn.iface obj D cap) fuel).optimize fuel' s = .ok (s2, v)) :
    Multi.Inv obj B len ns s2 ∧ s2.core.cur = v :=
  multi_optimize_spec obj (bfgsAlgo (Fn.iface obj D cap) fuel) rfl B len ns
    (fun u u' w hu hc hd => by
      obtain ⟨a, b, c, -⟩ := bfgsDoStep_spec obj D cap len ns hns fuel u u' w hu hc hd
      exact ⟨a, b, hc ▸ c⟩) fuel' s s2 v hi h

/-! ### the input on which BFGS used to end above its starting value

The same program text at `Rat` (exact arithmetic; the transcendental functions of that instance are
never reached on this run): two parameters, `x0 ∈ [0, 10]` at its upper bound and `x1` free at 0, the
objective `-10⁶ (x0 - 10) + 5·10⁻⁴ x1 - 2.9998 x1²` with its true derivatives.  `setDirection` replaces
the component `+10⁶` of the Newton direction by `Up - p = -TINY` (the parameter is within `TINY` of its
bound), the slope handed to the line search is `10⁶ · TINY - 2.5·10⁻⁷ > 0`, the first trial has the value
`≈ 5·10⁻¹¹ > 0`, which the acceptance test `f ≤ fold + 10⁻⁴ λ slope` lets through.  Before the repair
(findings/C10.json, corpus/C10/bfgs_increase.txt) `doStep` set the tolerance flag and returned that
higher value; now it goes back to the point the step started from. -/
namespace BfgsExample

def objective (pt : List Rat) : Rat :=
  (0 - 1000000) * (pt.getD 0 0 - 10) + (5 / 10000) * pt.getD 1 0 - (29998 / 10000) * pt.getD 1 0 * pt.getD 1 0

def deriv : Deriv Rat :=
  { d1 := fun k pt => if k == 0 then 0 - 1000000 else (5 / 10000) - 2 * (29998 / 10000) * pt.getD 1 0,
    d2 := fun k _ => if k == 0 then 0 else 0 - 2 * (29998 / 10000) }

def params : PList Rat :=
  [⟨0, ⟨10, 0, some ⟨.fin 0, .fin 10, true, true, 0⟩, false⟩⟩, ⟨1, ⟨0, 0, none, false⟩⟩]

def start : St (Fn Rat) (Bfgs Rat) Rat :=
  { core := freshCore 100 (1 / 1000000) 0, fn := ⟨[10, 0], []⟩, ext := Bfgs.fresh }

/-- the list is feasible, `init` and `optimize` return, the increase has been seen (the tolerance flag is
set), the value returned is not above the value at the start, and the function is back at the start -/
def backAtStart : Bool :=
  feasibleList params &&
  match (bfgsAlgo (Fn.iface objective deriv none) 1000).init start params with
  | .error _ => false
  | .ok s1 =>
    match (bfgsAlgo (Fn.iface objective deriv none) 1000).optimize 1000 s1 with
    | .error _ => false
    | .ok (s2, v) =>
      decide (s1.core.cur = objective [10, 0]) && decide (v ≤ objective [10, 0]) && s2.core.tol &&
      decide (s2.fn.point = [10, 0])

theorem backAtStart_true : backAtStart = true := by decide +kernel

end BfgsExample

end Bpp.Optim
