import BppProofs.Lemmas.TokenizerU
import BppModel.Text.TableRT
/-! Helper lemmas for `Props/C16Table.lean`: `getNextLine` returns within its fuel and makes
progress on a measure of the stream, the table operations keep "every row has `nCol` cells", the line
loop of `DataTable::read` ends within its fuel. -/
namespace Bpp.Text.U
open Bpp.Text

/-! ### the stream -/

/-- progress measure of a stream: the characters left, plus one while `eofbit` is not set -/
def Stream.mu (st : Stream) : Nat := st.rest.length + (if st.eof then 0 else 1)

theorem Stream.mu_le (st : Stream) : st.mu ≤ st.rest.length + 1 := by
  unfold Stream.mu; split <;> omega

theorem Stream.le_mu (st : Stream) : st.rest.length ≤ st.mu := by
  unfold Stream.mu; omega

/-- a smaller measure: fewer characters are left, or `eofbit` got set -/
theorem Stream.rest_lt_of_mu_lt {st st' : Stream} (h : st'.mu < st.mu) :
    st'.rest.length < st.rest.length ∨ (st'.eof = true ∧ st.eof = false) := by
  unfold Stream.mu at h
  cases he : st.eof <;> cases he' : st'.eof <;> rw [he, he'] at h <;> simp at h ⊢ <;> omega

/-- `getline` hands out a piece of what is left, and either consumes the newline or sets `eofbit` -/
theorem getline_spec (st : Stream) :
    (getline st).1.length + (getline st).2.rest.length ≤ st.rest.length ∧
    ((getline st).2.rest.length < st.rest.length ∧ (getline st).2.eof = st.eof ∨
      (getline st).2.eof = true ∧ (getline st).2.rest = []) := by
  unfold getline
  cases h : findChar '\n' st.rest with
  | none => simp
  | some k =>
    have := findChar_lt h
    simp only [List.length_take, List.length_drop]
    refine ⟨by omega, Or.inl ⟨by omega, trivial⟩⟩

theorem getline_mu (st : Stream) (he : st.eof = false) : (getline st).2.mu < st.mu := by
  obtain ⟨_, h | h⟩ := getline_spec st
  · unfold Stream.mu; rw [h.2]; omega
  · unfold Stream.mu; rw [h.1, h.2, he]; simp

/-- the loop of `getNextLine` ends when the fuel exceeds the measure; it leaves with `eofbit` set
or a line that is not blank -/
theorem nextLineLoop_spec (fuel : Nat) (st : Stream) (temp : Str) (hf : st.mu + 1 ≤ fuel) :
    ∃ l st', nextLineLoop fuel st temp = .ok (l, st') ∧ st'.rest.length ≤ st.rest.length ∧
      (l = temp ∧ st' = st ∨ l.length + st'.rest.length ≤ st.rest.length ∧ st'.mu < st.mu) ∧
      (st'.eof = true ∨ isEmptyStr l = false) := by
  induction fuel generalizing st temp with
  | zero => omega
  | succ fuel ih =>
    unfold nextLineLoop
    by_cases hc : (!st.eof && isEmptyStr temp) = true
    · rw [if_pos hc]
      have he : st.eof = false := by
        cases h : st.eof with
        | false => rfl
        | true => rw [h] at hc; simp at hc
      have hm := getline_mu st he
      have hg := (getline_spec st).1
      generalize getline st = p at hm hg
      obtain ⟨t, s1⟩ := p
      simp only at hm hg ⊢
      obtain ⟨l, st', e, h1, h2, h3⟩ := ih s1 t (by omega)
      refine ⟨l, st', e, by omega, Or.inr ?_, h3⟩
      rcases h2 with ⟨rfl, rfl⟩ | ⟨h2, h4⟩
      · exact ⟨by omega, hm⟩
      · exact ⟨by omega, by omega⟩
    · rw [if_neg hc]
      refine ⟨temp, st, rfl, Nat.le_refl _, Or.inl ⟨rfl, rfl⟩, ?_⟩
      cases h : st.eof with
      | true => exact Or.inl rfl
      | false =>
        right
        rw [h] at hc
        simpa using hc

/-- what one `getNextLine` makes of the stream `st`: the line `l` and what is left are disjoint pieces of what was
left; the measure does not increase and strictly decreases unless `eofbit` was already set (then nothing is read); a
blank line is only returned with `eofbit` set -/
structure NextLine (st : Stream) (l : Str) (st' : Stream) : Prop where
  sum : l.length + st'.rest.length ≤ st.rest.length
  mu_lt : st.eof = false → st'.mu < st.mu
  eof_of_blank : isEmptyStr l = true → st'.eof = true
  of_eof : st.eof = true → l = [] ∧ st' = st

namespace NextLine
variable {st st' : Stream} {l : Str}

theorem rest_le (h : NextLine st l st') : st'.rest.length ≤ st.rest.length :=
  Nat.le_trans (Nat.le_add_left _ _) h.sum

theorem line_le (h : NextLine st l st') : l.length ≤ st.rest.length :=
  Nat.le_trans (Nat.le_add_right _ _) h.sum

theorem mu_le (h : NextLine st l st') : st'.mu ≤ st.mu := by
  cases he : st.eof with
  | false => exact Nat.le_of_lt (h.mu_lt he)
  | true => rw [(h.of_eof he).2]; exact Nat.le_refl _

theorem mu_lt_of_line (h : NextLine st l st') (hl : isEmptyStr l = false) : st'.mu < st.mu := by
  cases he : st.eof with
  | false => exact h.mu_lt he
  | true => rw [(h.of_eof he).1] at hl; cases hl

end NextLine

theorem getNextLine_spec (st : Stream) : ∃ l st', getNextLine st = .ok (l, st') ∧ NextLine st l st' := by
  unfold getNextLine
  cases he : st.eof with
  | true =>
    exact ⟨[], st, rfl, Nat.le_of_eq (Nat.zero_add _), (fun h => nomatch he.symm.trans h), fun _ => he,
      fun _ => ⟨rfl, rfl⟩⟩
  | false =>
    simp only [Bool.false_eq_true, if_false]
    obtain ⟨l, st', e, _, h2, h3⟩ := nextLineLoop_spec (st.rest.length + 2) st []
      (by have := st.mu_le; omega)
    have hlt : l.length + st'.rest.length ≤ st.rest.length ∧ st'.mu < st.mu := by
      rcases h2 with ⟨rfl, rfl⟩ | h2
      · rw [he] at h3; simp [isEmptyStr] at h3
      · exact h2
    refine ⟨l, st', e, hlt.1, fun _ => hlt.2, fun hb => ?_, fun h => nomatch he.symm.trans h⟩
    rcases h3 with h3 | h3
    · exact h3
    · rw [hb] at h3; cases h3

/-! ### the table -/

/-- every row has `nCol` cells -/
def RowsOk (t : Tbl) : Prop := ∀ r ∈ t.rows, r.length = t.nCol

theorem rows_snoc {rows : List (List Str)} {n : Nat} {row : List Str} (h : ∀ r ∈ rows, r.length = n)
    (hr : ¬ (row.length != n) = true) : ∀ r ∈ rows ++ [row], r.length = n := by
  intro r hm
  rcases List.mem_append.mp hm with hm | hm
  · exact h r hm
  · rw [List.mem_singleton.mp hm]; simpa using hr

theorem setColumnNames_spec (t : Tbl) (names : List Str) (h : RowsOk t) :
    Returns (setColumnNames t names) fun t' => RowsOk t' ∧ t'.nCol = t.nCol ∧ t'.rows = t.rows :=
  .guard fun _ => .guard fun _ => .ok ⟨h, rfl, rfl⟩

theorem addRow_spec (t : Tbl) (row : List Str) (h : RowsOk t) :
    Returns (addRow t row) fun t' => RowsOk t' ∧ t'.nCol = t.nCol ∧ t'.rows.length = t.rows.length + 1 :=
  .guard fun _ => .guard fun hl => .ok ⟨rows_snoc h hl, rfl, List.length_append⟩

theorem addRowNamed_spec (t : Tbl) (name : Str) (row : List Str) (h : RowsOk t) :
    Returns (addRowNamed t name row) fun t' =>
      RowsOk t' ∧ t'.nCol = t.nCol ∧ t'.rows.length = t.rows.length + 1 :=
  .guard fun _ => .guard fun hl => .guard fun _ => .ok ⟨rows_snoc h hl, rfl, List.length_append⟩

/-- reading a column that exists, in a table whose rows all have `nCol` cells -/
theorem column_ok (rows : List (List Str)) (k n : Nat) (hk : k < n) (h : ∀ r ∈ rows, r.length = n) :
    ∃ c, column rows k = .ok c := by
  unfold column
  induction rows with
  | nil => exact ⟨[], rfl⟩
  | cons r rows ih =>
    obtain ⟨c, e⟩ := ih (fun r' hr' => h r' (List.mem_cons_of_mem _ hr'))
    rw [List.mapM_cons, vecAt_ok (h r List.mem_cons_self ▸ hk), bind_ok, e, bind_ok]
    exact ⟨_, rfl⟩

/-- the line loop of `read`: with fuel beyond the measure of the stream it returns or throws the
library's exception, keeps the row invariant, and adds at most one row per unit of measure -/
theorem readRows_spec (hrn : Bool) (sep : Str) (fuel : Nat) (st : Stream) (t : Tbl)
    (hf : st.mu < fuel) (hst : st.rest.length ≤ maxStr) (ht : RowsOk t) :
    Returns (readRows true hrn sep fuel st t) fun t' => RowsOk t' ∧ t'.nCol = t.nCol ∧
      t'.rows.length ≤ t.rows.length + st.rest.length ∧ (st.eof = true → t' = t) := by
  induction fuel generalizing st t with
  | zero => exact absurd hf (Nat.not_lt_zero _)
  | succ fuel ih =>
    obtain ⟨l, st', e, n⟩ := getNextLine_spec st
    unfold readRows
    rw [e, bind_ok]
    dsimp only
    by_cases hb : isEmptyStr l = true
    · rw [if_pos hb]
      exact .ok ⟨ht, rfl, Nat.le_add_right _ _, fun _ => rfl⟩
    · rw [if_neg hb]
      have hlt := n.mu_lt_of_line (Bool.eq_false_iff.mpr hb)
      have hl1 : l ≠ [] := fun h => hb (h ▸ rfl)
      have hne : st.eof = true → False := fun h => hl1 (n.of_eof h).1
      obtain ⟨tk, etk, _⟩ := mkTokenizer_ns_spec l sep true (Nat.le_trans n.line_le hst)
      rw [etk, bind_ok]
      -- the rest of the loop, after a row was added
      have next : ∀ t2, RowsOk t2 ∧ t2.nCol = t.nCol ∧ t2.rows.length = t.rows.length + 1 →
          Returns (readRows true hrn sep fuel st' t2) fun t' => RowsOk t' ∧ t'.nCol = t.nCol ∧
            t'.rows.length ≤ t.rows.length + st.rest.length ∧ (st.eof = true → t' = t) := by
        intro t2 ⟨k1, k2, k3⟩
        have hpos := List.length_pos_iff.mpr hl1
        have hsum := n.sum
        refine (ih st' t2 (Nat.lt_of_lt_of_le hlt (Nat.le_of_lt_succ hf)) (Nat.le_trans n.rest_le hst) k1).mono ?_
        intro t3 ⟨j1, j2, j3, _⟩
        exact ⟨j1, j2.trans k2, by omega, fun h => (hne h).elim⟩
      cases hrn with
      | false => exact (addRow_spec t tk.tokens ht).bind next
      | true =>
        cases tk.tokens with
        | nil => exact .bpp
        | cons a r => exact (addRowNamed_spec t a r ht).bind next

/-! ### `DataTable::read` in three pieces -/

/-- the end of `read` :616-627 -/
def tblFinish (rowNames : Int) (t : Tbl) : R (Nat × Nat) :=
  if rowNames > -1 then
    if rowNames.toNat ≥ t.nCol then .error .bpp
    else do
      let col ← column t.rows rowNames.toNat
      if !uniq col then .error .bpp
      else pure (t.rows.length, t.nCol - 1)
  else pure (t.rows.length, t.nCol)

/-- the model, cut at the dispatch on the first two lines (`RT.tblInit'`: the reader of
`BppModel/Text/TableRT.lean`, which returns the table, has it as a definition) and at the end -/
theorem readTableG_eq (fixed : Bool) (text sep : Str) (header : Bool) (rowNames : Int) :
    readTableG fixed text sep header rowNames = (do
      let (firstLine, st) ← getNextLine ⟨text, false⟩
      let st1 ← mkTokenizer firstLine sep false true
      let (secondLine, st) ← getNextLine st
      let st2 ← mkTokenizer secondLine sep false true
      let (t, hasRowNames) ← RT.tblInit' header st1.tokens st2.tokens
      let t ← readRows fixed hasRowNames sep (text.length + 2) st t
      tblFinish rowNames t) := by
  unfold readTableG RT.tblInit' tblFinish
  refine bind_congr fun p1 => bind_congr fun tk1 => bind_congr fun p2 => bind_congr fun tk2 => ?_
  simp only [ite_bind, bind_assoc, pure_bind, bind_err]

/-- the dispatch never dereferences `begin()` of an empty token list: the branch with row names
is taken when `row1.size() == row2.size() - 1` in `size_t`, which an empty `row2` cannot satisfy
(`row1` has fewer than `2^64 - 1` tokens) -/
theorem tblInit_spec (header : Bool) (row1 row2 : List Str) (h1 : row1.length + 1 < SZ) :
    Returns (RT.tblInit' header row1 row2) fun p => RowsOk p.1 ∧ p.1.nCol = row1.length ∧
      p.1.rows.length ≤ 2 ∧ (header = true → p.1.rows.length ≤ 1) := by
  have ht0 : RowsOk ⟨row1.length, [], [], []⟩ := fun r hr => nomatch hr
  unfold RT.tblInit'
  dsimp only
  split
  · cases header with
    | true =>
      refine (setColumnNames_spec _ row1 ht0).bind fun t1 ⟨k1, k2, k3⟩ => ?_
      refine (addRow_spec t1 row2 k1).bind fun t2 ⟨j1, j2, j3⟩ => ?_
      have e : t2.rows.length = 1 := by rw [j3, k3]; rfl
      exact .ok ⟨j1, j2.trans k2, Nat.le_succ_of_le (Nat.le_of_eq e), fun _ => Nat.le_of_eq e⟩
    | false =>
      refine (addRow_spec _ row1 ht0).bind fun t1 ⟨k1, k2, k3⟩ => ?_
      refine (addRow_spec t1 row2 k1).bind fun t2 ⟨j1, j2, j3⟩ => ?_
      exact .ok ⟨j1, j2.trans k2, Nat.le_of_eq (j3.trans (congrArg (· + 1) k3)), nofun⟩
  · split
    · rename_i hc2
      cases row2 with
      | nil =>
        have hw : wsub 0 1 = SZ - 1 := by decide
        rw [List.length_nil, hw, beq_iff_eq] at hc2
        omega
      | cons a r =>
        refine (setColumnNames_spec _ row1 ht0).bind fun t1 ⟨k1, k2, k3⟩ => ?_
        refine (addRowNamed_spec t1 a r k1).bind fun t2 ⟨j1, j2, j3⟩ => ?_
        have e : t2.rows.length = 1 := by rw [j3, k3]; rfl
        exact .ok ⟨j1, j2.trans k2, Nat.le_succ_of_le (Nat.le_of_eq e), fun _ => Nat.le_of_eq e⟩
    · exact .bpp

theorem tblFinish_spec (rowNames : Int) (t : Tbl) (ht : RowsOk t) :
    Returns (tblFinish rowNames t) fun p => p.1 = t.rows.length ∧ p.2 ≤ t.nCol := by
  unfold tblFinish
  split
  · refine .guard fun hk => ?_
    obtain ⟨col, e⟩ := column_ok t.rows rowNames.toNat t.nCol (Nat.lt_of_not_le hk) ht
    rw [e, bind_ok]
    exact .guard fun _ => .ok ⟨rfl, Nat.sub_le _ _⟩
  · exact .ok ⟨rfl, Nat.le_refl _⟩

/-- `DataTable::read` returns or throws the library's exception; the dimensions it returns are
bounded by the input (`size + 2` rows are only reached by the empty text read without header) -/
theorem readTable_spec (text sep : Str) (header : Bool) (rowNames : Int) (hs : StrOk text) :
    Returns (readTable text sep header rowNames) fun p => p.1 ≤ text.length + 2 ∧
      (header = true ∨ text ≠ [] → p.1 ≤ text.length + 1) ∧ p.2 ≤ text.length + 1 := by
  have hsz := hs.lt_SZ
  unfold StrOk at hs
  unfold readTable
  rw [readTableG_eq]
  obtain ⟨l1, s1, e1, n1⟩ := getNextLine_spec ⟨text, false⟩
  have a1 : s1.rest.length ≤ text.length := n1.rest_le
  have a5 : s1.mu < text.length + 1 := n1.mu_lt rfl
  have a7 : l1.length + s1.rest.length ≤ text.length := n1.sum
  obtain ⟨tk1, f1, _, _, _, g1⟩ := mkTokenizer_ns_spec l1 sep true (Nat.le_trans n1.line_le hs)
  obtain ⟨l2, s2, e2, n2⟩ := getNextLine_spec s1
  have b1 := n2.rest_le
  obtain ⟨tk2, f2, _⟩ := mkTokenizer_ns_spec l2 sep true (Nat.le_trans n2.line_le (Nat.le_trans a1 hs))
  rw [e1, bind_ok]
  dsimp only
  rw [f1, bind_ok, e2, bind_ok]
  dsimp only
  rw [f2, bind_ok]
  refine (tblInit_spec header tk1.tokens tk2.tokens (by omega)).bind fun ⟨t, h⟩ ⟨c1, c2, c3, c4⟩ => ?_
  dsimp only at c1 c2 c3 c4 ⊢
  refine (readRows_spec h sep (text.length + 2) s2 t (Nat.lt_succ_of_lt (Nat.lt_of_le_of_lt n2.mu_le a5))
    (Nat.le_trans b1 (Nat.le_trans a1 hs)) c1).bind fun t' ⟨d1, d2, d3, d5⟩ => ?_
  refine (tblFinish_spec rowNames t' d1).mono fun ⟨r, c⟩ ⟨hr, d4⟩ => ?_
  dsimp only at hr d4 ⊢
  subst hr
  refine ⟨by omega, fun hh => ?_, by omega⟩
  by_cases hb : isEmptyStr l1 = true
  · -- a blank first line: `eofbit` is set, nothing more is read
    have s1e := n1.eof_of_blank hb
    have hs2 : s2 = s1 := (n2.of_eof s1e).2
    have ht : t' = t := d5 (by rw [hs2]; exact s1e)
    rw [ht]
    rcases hh with hh | hh
    · have := c4 hh; omega
    · have := List.length_pos_iff.mpr hh
      omega
  · -- a first line that is not blank took at least one character
    have := List.length_pos_iff.mpr fun h : l1 = [] => hb (h ▸ rfl)
    omega

end Bpp.Text.U
