import BppProofs.Lemmas.MatrixStore
import BppModel.LUStore
/-! Helper lemmas for C04: loops (`loopM`, `fillBlock`, `dot`) of `BppModel/Matrix.lean`; an operand as `LUS.Is` sees it. -/
namespace Bpp.Mx
open Bpp

theorem loopM_inv {σ : Type} (P : Nat → σ → Prop) (n : Nat) (f : Nat → σ → Res σ) (s : σ) (h0 : P 0 s)
    (hstep : ∀ k t, k < n → P k t → ∃ t', f k t = .ok t' ∧ P (k + 1) t') :
    ∃ t, loopM n f s = .ok t ∧ P n t := by
  induction n with
  | zero => exact ⟨s, rfl, h0⟩
  | succ n ih =>
    obtain ⟨t, ht, hp⟩ := ih (fun k t hk => hstep k t (by omega))
    obtain ⟨t', ht', hp'⟩ := hstep n t (by omega) hp
    exact ⟨t', by simp only [loopM, ht, ht'], hp'⟩

theorem loopM_succ {σ : Type} (n : Nat) (f : Nat → σ → Res σ) (s : σ) :
    loopM (n + 1) f s = (match loopM n f s with | .ok t => f n t | .error e => .error e) := rfl

theorem loopM_fold {σ : Type} {n : Nat} {f : Nat → σ → Res σ} {h : Nat → σ → σ} (s : σ)
    (hf : ∀ k t, k < n → f k t = .ok (h k t)) :
    loopM n f s = .ok ((List.range n).foldl (fun t k => h k t) s) := by
  induction n with
  | zero => rfl
  | succ n ih =>
    rw [loopM_succ, ih (fun k t hk => hf k t (by omega))]
    simp [List.range_succ, List.foldl_append, hf n _ (by omega)]

namespace Store
variable {α : Type}

/-- `O'` is a store of the same class and dimensions as `O` -/
def Same (O O' : Store α) : Prop := O'.WF ∧ O'.kind = O.kind ∧ O'.nrows = O.nrows ∧ O'.ncols = O.ncols

theorem Same.refl {O : Store α} (hw : O.WF) : Same O O := ⟨hw, rfl, rfl, rfl⟩

/-- `O'` agrees with `O` except on the positions in `W`, where it holds `val` -/
def Written (O O' : Store α) (W : Nat → Nat → Prop) (val : Nat → Nat → α) : Prop :=
  Same O O' ∧ ∀ p q, p < O.nrows → q < O.ncols →
    (W p q → O'.get p q = .ok (val p q)) ∧ (¬ W p q → O'.get p q = O.get p q)

theorem Written.init {O : Store α} (hw : O.WF) (val : Nat → Nat → α) : Written O O (fun _ _ => False) val :=
  ⟨Same.refl hw, fun _ _ _ _ => ⟨fun h => h.elim, fun _ => rfl⟩⟩

theorem Written.mono {O O' : Store α} {W W' : Nat → Nat → Prop} {val : Nat → Nat → α}
    (h : Written O O' W val) (hiff : ∀ p q, p < O.nrows → q < O.ncols → (W p q ↔ W' p q)) : Written O O' W' val :=
  ⟨h.1, fun p q hp hq => ⟨fun hw' => (h.2 p q hp hq).1 ((hiff p q hp hq).2 hw'),
    fun hn => (h.2 p q hp hq).2 (fun hw => hn ((hiff p q hp hq).1 hw))⟩⟩

/-- one more assignment `O'(i,j) = val i j` -/
theorem Written.step {O O' : Store α} {W : Nat → Nat → Prop} {val : Nat → Nat → α} (h : Written O O' W val)
    {i j : Nat} (hi : i < O.nrows) (hj : j < O.ncols) :
    ∃ O'', O'.set i j (val i j) = .ok O'' ∧ Written O O'' (fun p q => W p q ∨ (p = i ∧ q = j)) val := by
  obtain ⟨⟨hw, hk, hr, hc⟩, hget⟩ := h
  obtain ⟨O'', hset, hw'', hk'', hr'', hc'', hgij, hoth⟩ := set_spec hw (hr ▸ hi) (hc ▸ hj) (val i j)
  refine ⟨O'', hset, ⟨hw'', hk''.trans hk, hr''.trans hr, hc''.trans hc⟩, ?_⟩
  intro p q hp hq
  by_cases hpq : p = i ∧ q = j
  · obtain ⟨rfl, rfl⟩ := hpq
    exact ⟨fun _ => hgij, fun hn => absurd (Or.inr ⟨rfl, rfl⟩) hn⟩
  · have hne : p ≠ i ∨ q ≠ j := not_and_or.mp hpq
    have := hoth p q (hr ▸ hp) (hc ▸ hq) hne
    constructor
    · intro hW
      rcases hW with hW | hW
      · rw [this]; exact (hget p q hp hq).1 hW
      · exact absurd hW hpq
    · intro hn
      rw [this]
      exact (hget p q hp hq).2 (fun hW => hn (Or.inl hW))

/-- a loop whose pass `k` writes the region `R k` writes the union of these regions -/
theorem Written.loop {O O0 : Store α} {W : Nat → Nat → Prop} {val : Nat → Nat → α} (h0 : Written O O0 W val)
    (n : Nat) (f : Nat → Store α → Res (Store α)) (R : Nat → Nat → Nat → Prop)
    (hstep : ∀ k M W', k < n → Written O M W' val →
      ∃ M', f k M = .ok M' ∧ Written O M' (fun p q => W' p q ∨ R k p q) val) :
    ∃ O', loopM n f O0 = .ok O' ∧ Written O O' (fun p q => W p q ∨ ∃ k, k < n ∧ R k p q) val := by
  apply loopM_inv (fun m (M : Store α) => Written O M (fun p q => W p q ∨ ∃ k, k < m ∧ R k p q) val)
  · exact h0.mono (fun p q _ _ => ⟨Or.inl, fun h => h.elim id (fun ⟨k, hk, _⟩ => absurd hk (Nat.not_lt_zero k))⟩)
  · intro m M hm hM
    obtain ⟨M', e, w⟩ := hstep m M _ hm hM
    refine ⟨M', e, w.mono (fun p q _ _ => ⟨?_, ?_⟩)⟩
    · rintro ((h | ⟨k, hk, h⟩) | h)
      · exact Or.inl h
      · exact Or.inr ⟨k, by omega, h⟩
      · exact Or.inr ⟨m, by omega, h⟩
    · rintro (h | ⟨k, hk, h⟩)
      · exact Or.inl (Or.inl h)
      · by_cases hkm : k = m
        · exact Or.inr (hkm ▸ h)
        · exact Or.inl (Or.inr ⟨k, by omega, h⟩)

end Store

section Fill
variable {α : Type}
open Store

/-- the double loop `O'(r0+i, c0+j) = f(i,j)` over a block of positions inside `O`, the entry computations returning
what `val` wants there (an empty block asks nothing of `r0`, `c0`) -/
theorem Store.Written.fillBlock {O O0 : Store α} {W : Nat → Nat → Prop} {val : Nat → Nat → α} (h0 : Written O O0 W val)
    (r0 c0 : Nat) {r c : Nat} (hin : ∀ i j, i < r → j < c → r0 + i < O.nrows ∧ c0 + j < O.ncols)
    {f : Nat → Nat → Res α} (hf : ∀ i j, i < r → j < c → f i j = .ok (val (r0 + i) (c0 + j))) :
    ∃ O', Mx.fillBlock O0 r0 c0 r c f = .ok O' ∧
      Written O O' (fun p q => W p q ∨ ∃ i, i < r ∧ ∃ j, j < c ∧ p = r0 + i ∧ q = c0 + j) val :=
  h0.loop r _ _ (fun i M _ hi hM => hM.loop c _ (fun j p q => p = r0 + i ∧ q = c0 + j) (fun j M' _ hj hM' => by
    simp only [hf i j hi hj]
    exact hM'.step (hin i j hi hj).1 (hin i j hi hj).2))

/-- the reported dimensions are the requested ones unless exactly one of them is zero -/
theorem Kind.shape_eq (k : Kind) {r c : Nat} (h : r = 0 ↔ c = 0) : k.shape r c = (r, c) := by
  cases k <;> simp [Kind.shape] <;> omega

theorem shape_pos (k : Kind) {r c : Nat} (hr : 0 < r) (hc : 0 < c) : k.shape r c = (r, c) := k.shape_eq (by omega)

/-- positions of an `r × c` matrix lie inside a store reporting the dimensions of an `r × c` matrix -/
theorem inside_of_shape {O : Store α} {R C : Nat} (hd : (O.nrows, O.ncols) = O.kind.shape R C) {p q : Nat}
    (hp : p < R) (hq : q < C) : p < O.nrows ∧ q < O.ncols := by
  rw [Kind.shape_eq _ (by omega)] at hd
  have h1 := (Prod.mk.inj hd).1
  have h2 := (Prod.mk.inj hd).2
  omega

/-- a `Written` store holds the matrix `val` when everything has been written -/
theorem Store.Written.holds {O O' : Store α} {W : Nat → Nat → Prop} {val : Nat → Nat → α} {r c : Nat}
    (h : Written O O' W val) (hd : (O.nrows, O.ncols) = O.kind.shape r c)
    (hall : ∀ p q, p < r → q < c → W p q) : O'.kind = O.kind ∧ O'.Holds r c val :=
  ⟨h.1.2.1, h.1.1, by rw [h.1.2.2.1, h.1.2.2.2, h.1.2.1]; exact hd, fun i j hi hj =>
    (h.2 i j (inside_of_shape hd hi hj).1 (inside_of_shape hd hi hj).2).1 (hall i j hi hj)⟩

/-- filling all `r × c` entries of a store whose reported dimensions are those of an `r × c` matrix -/
theorem fill_holds {O : Store α} (hw : O.WF) {r c : Nat} (hd : (O.nrows, O.ncols) = O.kind.shape r c)
    {f : Nat → Nat → Res α} {g : Nat → Nat → α} (hf : ∀ i j, i < r → j < c → f i j = .ok (g i j)) :
    ∃ O', fill O r c f = .ok O' ∧ O'.kind = O.kind ∧ O'.Holds r c g := by
  obtain ⟨O', e, w⟩ := (Written.init hw g).fillBlock 0 0 (r := r) (c := c) (f := f)
    (fun i j hi hj => by rw [Nat.zero_add, Nat.zero_add]; exact inside_of_shape hd hi hj)
    (fun i j hi hj => by rw [Nat.zero_add, Nat.zero_add]; exact hf i j hi hj)
  exact ⟨O', e, w.holds hd (fun p q hp hq => Or.inr ⟨p, hp, q, hq, (Nat.zero_add p).symm, (Nat.zero_add q).symm⟩)⟩

/-- a store that holds an `r × c` matrix has exactly those dimensions, unless exactly one of them is zero -/
theorem Store.Holds.dims {S : Store α} {r c : Nat} {g : Nat → Nat → α} (h : S.Holds r c g) (hs : r = 0 ↔ c = 0) :
    S.nrows = r ∧ S.ncols = c := by
  have := h.2.1
  rw [Kind.shape_eq _ hs] at this
  exact ⟨(Prod.mk.inj this).1, (Prod.mk.inj this).2⟩

theorem Store.Holds.dims_pos {S : Store α} {r c : Nat} {g : Nat → Nat → α} (h : S.Holds r c g) (hr : 0 < r) (hc : 0 < c) :
    S.nrows = r ∧ S.ncols = c := h.dims (by omega)

theorem Store.Holds.congr {S : Store α} {r c : Nat} {g g' : Nat → Nat → α} (h : S.Holds r c g)
    (hg : ∀ i j, i < r → j < c → g i j = g' i j) : S.Holds r c g' :=
  ⟨h.1, h.2.1, fun i j hi hj => by rw [h.2.2 i j hi hj, hg i j hi hj]⟩

theorem dims_shape_self (S : Store α) : (S.nrows, S.ncols) = S.kind.shape S.nrows S.ncols := by
  cases S with
  | row m =>
    simp only [kind, Kind.shape, nrows, ncols]
    by_cases h : m.size = 0
    · simp [h]
    · simp [h]
  | col m =>
    simp only [kind, Kind.shape, nrows, ncols]
    by_cases h : m.size = 0
    · simp [h]
    · simp [h]
  | lin m r c => rfl

variable [Scalar α]

theorem fill_resize_holds (O : Store α) {r c : Nat}
    {f : Nat → Nat → Res α} {g : Nat → Nat → α} (hf : ∀ i j, i < r → j < c → f i j = .ok (g i j)) :
    ∃ O', fill (O.resize r c) r c f = .ok O' ∧ O'.kind = O.kind ∧ O'.Holds r c g := by
  obtain ⟨O', h1, h2, h3⟩ := fill_holds (resize_wf O r c) (by rw [resize_dims, resize_kind]) hf
  exact ⟨O', h1, by rw [h2, resize_kind], h3⟩

theorem Store.Holds.entry_eq {S : Store α} {r c : Nat} {g : Nat → Nat → α} (h : S.Holds r c g) {i j : Nat} (hi : i < r) (hj : j < c) :
    S.entry i j = g i j := by
  simp [entry, h.2.2 i j hi hj]

theorem holds_self {S : Store α} (hw : S.WF) : S.Holds S.nrows S.ncols S.entry :=
  ⟨hw, dims_shape_self S, fun _ _ hi hj => get_eq_entry hw hi hj⟩

end Fill

section Dot
variable {α : Type} [Scalar α]

theorem sumTo_succ (n : Nat) (t : Nat → α) : Spec.sumTo (n + 1) t = Spec.sumTo n t + t n := by
  simp [Spec.sumTo, List.range_succ, List.foldl_append]

theorem dot_ok {n : Nat} {f : Nat → Res α} {t : Nat → α} (h : ∀ k, k < n → f k = .ok (t k)) :
    dot n f = .ok (Spec.sumTo n t) :=
  loopM_fold Scalar.zero (fun k _ hk => by rw [h k hk])

end Dot
end Bpp.Mx

/-! An operand as `LUS.Is S k r c f` (`BppModel/LUStore.lean`) sees it: its class, its exact dimensions, its entries.
`Store.Holds` says what an output must satisfy, through `Kind.shape`; the two agree unless exactly one dimension is zero. -/
namespace Bpp.LUS
open Bpp Bpp.Mx
variable {α : Type}

theorem Is.congr {S : Store α} {k : Kind} {r c : Nat} {f g : Nat → Nat → α} (h : Is S k r c f)
    (hfg : ∀ i j, i < r → j < c → f i j = g i j) : Is S k r c g :=
  ⟨h.1, h.2.1, h.2.2.1, h.2.2.2.1, fun i j hi hj => by rw [h.2.2.2.2 i j hi hj, hfg i j hi hj]⟩

theorem Is.of_holds {S : Store α} {r c : Nat} {f : Nat → Nat → α} (h : S.Holds r c f)
    (hs : S.kind.shape r c = (r, c)) : Is S S.kind r c f := by
  obtain ⟨hw, hd, hg⟩ := h
  rw [hs] at hd
  exact ⟨hw, rfl, (Prod.mk.inj hd).1, (Prod.mk.inj hd).2, hg⟩

theorem Is.self [Scalar α] {S : Store α} (hw : S.WF) : Is S S.kind S.nrows S.ncols S.entry :=
  ⟨hw, rfl, rfl, rfl, fun _ _ hi hj => Store.get_eq_entry hw hi hj⟩

end Bpp.LUS

namespace Bpp.Mx
variable {α : Type}

theorem Store.Holds.is {S : Store α} {r c : Nat} {f : Nat → Nat → α} (h : S.Holds r c f) (hs : r = 0 ↔ c = 0) :
    LUS.Is S S.kind r c f := LUS.Is.of_holds h (Kind.shape_eq _ hs)

end Bpp.Mx
