import BppProofs.Lemmas.OptimPolicy
import BppModel.OptimLine
/-!
Helper lemmas for C10: the constraint policy of the optimisers built on line searches
(`PowellMultiDimensions`, `ConjugateGradientMultiDimensions`, `BfgsMultiDimensions`).

* `SafeSet I Q T`: the companion of `Safe` for `setParameters` (which `DirectionFunction` and the
  `doInit` of the conjugate gradient / BFGS optimisers call instead of `f`);
* `dirfn_safe`: a `DirectionFunction` around a safe function, whose auto-correcting copies `xt` are tied
  to the constraints, is itself safe for *every* one-dimensional list it is given;
* `lineMinimization_safe`, `lineSearch_safe`: both searches keep the function feasible and the
  optimiser's list tied, however they end;
* `powell_safeAlgo`, `cg_safeStep`, `bfgs_safeStep`, `cgDoInit_safe`, `bfgsDoInit_safe`, `powellOptimize_safe`.
-/
set_option linter.unusedSectionVars false
namespace Bpp.Optim
open Bpp

variable {F : Type}

/-- the companion of `Safe` for `setParameters`, returning or raising -/
structure SafeSet (I : FunI F ℝ) (Q : F → Prop) (T : PList ℝ → Prop) : Prop where
  set : ∀ {fn pl}, Q fn → T pl → ROk Q Q (I.setParameters fn pl)

/-! ### tied lists -/

theorem Tied.nil (cons : Spec.Cons ℝ) : Tied cons [] := fun _ h => by cases h

theorem Tied.tail {cons : Spec.Cons ℝ} {q : NP ℝ} {r : PList ℝ} (h : Tied cons (q :: r)) : Tied cons r :=
  fun q' hq' => h q' (List.mem_cons_of_mem _ hq')

theorem Tied.head {cons : Spec.Cons ℝ} {q : NP ℝ} {r : PList ℝ} (h : Tied cons (q :: r)) :
    q.p.invOk = true ∧ ∀ c, (q.name, c) ∈ cons → q.p.constraint = c :=
  h q (List.mem_cons_self ..)

theorem Tied.cons' {cons : Spec.Cons ℝ} {q : NP ℝ} {r : PList ℝ}
    (hq : q.p.invOk = true ∧ ∀ c, (q.name, c) ∈ cons → q.p.constraint = c) (hr : Tied cons r) : Tied cons (q :: r) := by
  intro q' hq'
  rcases List.mem_cons.1 hq' with rfl | hm
  · exact hq
  · exact hr q' hm

/-- `autoParameter` changes neither values nor constraints -/
theorem toAuto_tied (cons : Spec.Cons ℝ) (pl : PList ℝ) (h : Tied cons pl) : Tied cons (applyPolicy .auto pl) := by
  intro q' hq'
  simp only [applyPolicy] at hq'
  obtain ⟨q, hq, rfl⟩ := List.mem_map.1 hq'
  exact h q hq

/-! ### a `DirectionFunction` around a safe function -/

variable {I : FunI F ℝ} {Q : F → Prop}

/-- what a `DirectionFunction` keeps: the wrapped function is fine and the auto-correcting copies are tied -/
def DirOk (Q : F → Prop) (cons : Spec.Cons ℝ) (df : DirFn F ℝ) : Prop := Q df.inner ∧ Tied cons df.xt

theorem dirfn_setParameters_safe {cons : Spec.Cons ℝ} (hss : SafeSet I Q (Tied cons)) (df : DirFn F ℝ) (pl : PList ℝ)
    (hd : DirOk Q cons df) :
    ROk (DirOk Q cons) (DirOk Q cons) (df.setParameters I pl) := by
  unfold DirFn.setParameters
  dsimp only
  split
  · exact hd
  · rename_i x hx
    split
    · exact hd
    · rename_i xt' hm
      have hT' := hd.2.of_like (dirMove_like x _ _ _ _ hd.2.feas hm)
      try dsimp only
      split
      · rename_i e fn he
        exact ⟨(hss.set hd.1 hT').of_error he, hT'⟩
      · rename_i fn he
        exact ⟨(hss.set hd.1 hT').of_ok he, hT'⟩

/-- a `DirectionFunction` whose copies are tied is safe for every one-dimensional list -/
theorem dirfn_safe {cons : Spec.Cons ℝ} (hss : SafeSet I Q (Tied cons)) :
    Safe (DirFn.iface I) (DirOk Q cons) (fun _ => True) :=
  dirfn_safe_of_set (dirfn_setParameters_safe hss)

/-! ### the two searches along a direction -/

/-- `lineMinimization` (Brent's method on a `DirectionFunction` under the automatic policy): the
function stays fine and the optimiser's list stays tied, however the search ends -/
theorem lineMinimization_safe {cons : Spec.Cons ℝ} (hss : SafeSet I Q (Tied cons)) (fuel : Nat) (fn : F)
    (parameters : PList ℝ) (xi : List ℝ) (hQ : Q fn) (hT : Tied cons parameters) :
    ROk Q (fun r => Q r.1 ∧ Tied cons r.2.1) (lineMinimization I fuel fn parameters xi) :=
  (lineMinimization_run (dirfn_safe hss) fuel fn parameters xi ⟨hQ, toAuto_tied cons parameters hT⟩).mono
    (fun _ ⟨_, h, e⟩ => e ▸ h.1)
    fun _ ⟨_, xmin, h, e, _, hm⟩ => ⟨e ▸ h.1, hT.of_like (moveAlong_like xmin _ _ _ hT.feas hm)⟩

/-- `lineSearch` (Newton backtracking on a `DirectionFunction` under the automatic policy) -/
theorem lineSearch_safe {cons : Spec.Cons ℝ} (hss : SafeSet I Q (Tied cons)) (fuel : Nat) (fn : F)
    (parameters : PList ℝ) (xi gradient : List ℝ) (hQ : Q fn) (hT : Tied cons parameters) :
    ROk Q (fun r => Q r.1 ∧ Tied cons r.2.1) (lineSearch I fuel fn parameters xi gradient) :=
  (lineSearch_run (dirfn_safe hss) fuel fn parameters xi gradient ⟨hQ, toAuto_tied cons parameters hT⟩).mono
    (fun _ ⟨_, h, e⟩ => e ▸ h.1)
    fun _ ⟨_, xmin, h, e, _, hm⟩ => ⟨e ▸ h.1, hT.of_like (moveAlong_like xmin _ _ _ hT.feas hm)⟩

/-! ### Powell -/

theorem powellDoInit_safe {T : PList ℝ → Prop} (hs : Safe I Q T) (s : St F (Powell ℝ) ℝ) (params : PList ℝ)
    (hQ : Q s.fn) (hT : T s.core.params) :
    ROk Q (fun r => Q r.fn ∧ T r.core.params) (powellDoInit I s params) := by
  unfold powellDoInit
  exact (hs.f hQ hT).elim (fun _ h => h) fun _ h => ⟨h, hT⟩

theorem powellDirs_safe {cons : Spec.Cons ℝ} (hs : Safe I Q (Tied cons)) (hss : SafeSet I Q (Tied cons)) (fuel : Nat) :
    ∀ (is : List Nat) (s : St F (Powell ℝ) ℝ) (del : ℝ) (ibig : Nat), Q s.fn → Tied cons s.core.params →
    ROk Q (fun r => Q r.1.fn ∧ Tied cons r.1.core.params) (powellDirs I fuel is s del ibig) := by
  intro is
  induction is with
  | nil => intro s del ibig hQ hT; rw [powellDirs]; exact ⟨hQ, hT⟩
  | cons i r ih =>
    intro s del ibig hQ hT
    rw [powellDirs]
    split
    · exact hQ
    · dsimp only
      refine (lineMinimization_safe hss fuel s.fn s.core.params _ hQ hT).elim (fun _ h => h) fun ⟨fn, pl, xi', k⟩ hl => ?_
      dsimp only
      refine (hs.f hl.1 hl.2).elim (fun _ h => h) fun ⟨fn2, fret⟩ hQ2 => ?_
      dsimp only
      split
      · exact hQ2
      · split
        · exact ih _ _ _ hQ2 hl.2
        · exact ih _ _ _ hQ2 hl.2

theorem powellDoStep_safe {cons : Spec.Cons ℝ} (hs : Safe I Q (Tied cons)) (hss : SafeSet I Q (Tied cons)) (fuel : Nat)
    (s : St F (Powell ℝ) ℝ) (hQ : Q s.fn) (hT : Tied cons s.core.params) :
    ROk Q (fun r => Q r.1.fn ∧ Tied cons r.1.core.params) (powellDoStep I fuel s) := by
  unfold powellDoStep
  dsimp only
  refine (powellDirs_safe hs hss fuel _ _ _ _ (by exact hQ) (by exact hT)).elim (fun _ h => h) fun ⟨s1, del, ibig⟩ h1 => ?_
  dsimp only
  split
  · exact h1.1
  · rename_i ptt xit pt' hx
    refine (hs.f h1.1 (h1.2.of_like (powellExtrapolate_like _ _ _ h1.2.feas hx))).elim (fun _ h => h) fun ⟨fn2, fptt⟩ hQ2 => ?_
    dsimp only
    split
    · split
      · refine (lineMinimization_safe hss fuel fn2 s1.core.params xit hQ2 h1.2).elim (fun _ h => h) fun ⟨fn3, pl, xit', k⟩ h3 => ?_
        dsimp only
        refine (hs.f h3.1 h3.2).elim (fun _ h => h) fun ⟨fn4, fret⟩ hQ4 => ?_
        dsimp only
        split
        · exact hQ4
        · exact ⟨hQ4, h3.2⟩
      · exact (hss.set hQ2 h1.2).elim (fun _ h => h) fun _ h => ⟨h, h1.2⟩
    · exact (hss.set hQ2 h1.2).elim (fun _ h => h) fun _ h => ⟨h, h1.2⟩

theorem powell_safeAlgo {cons : Spec.Cons ℝ} (hs : Safe I Q (Tied cons)) (hss : SafeSet I Q (Tied cons)) (fuel : Nat) :
    SafeAlgo (powellAlgo I fuel) Q (Tied cons) :=
  { doInit := fun s params hQ hT => powellDoInit_safe hs s params hQ hT,
    doStep := fun s hQ hT => powellDoStep_safe hs hss fuel s hQ hT,
    stopInit := fun _ => ⟨rfl, rfl⟩,
    stop := fun s => by show (powellStop s).1.fn = _ ∧ (powellStop s).1.core.params = _; rw [powellStop_fst]; exact ⟨rfl, rfl⟩ }

theorem powellOptimize_safe {cons : Spec.Cons ℝ} (hs : Safe I Q (Tied cons)) (hss : SafeSet I Q (Tied cons)) (fuel : Nat)
    (s : St F (Powell ℝ) ℝ) (hQ : Q s.fn) (hT : Tied cons s.core.params) :
    ROk Q (fun r => Q r.1.fn ∧ Tied cons r.1.core.params) (powellOptimize I fuel s) := by
  unfold powellOptimize
  refine (optimize_safeS (powell_safeAlgo hs hss fuel).toStep fuel s hQ hT).elim (fun _ h => h) fun ⟨s1, v⟩ h1 => ?_
  dsimp only
  exact (hs.f h1.1 h1.2).elim (fun _ h => h) fun _ h => ⟨h, h1.2⟩

/-! ### conjugate gradient -/

/-- `doInit` sets the function to the list given to `init`: `hp` says that this list is tied -/
theorem cgDoInit_safe {T : PList ℝ → Prop} (hss : SafeSet I Q T) (s : St F (Cg ℝ) ℝ) (params : PList ℝ)
    (hQ : Q s.fn) (hT : T s.core.params) (hp : T params) :
    ROk Q (fun r => Q r.fn ∧ T r.core.params) (cgDoInit I s params) := by
  unfold cgDoInit
  refine (hss.set hQ hp).elim (fun _ h => h) fun fn hQ1 => ?_
  dsimp only
  split
  · exact hQ1
  · exact ⟨hQ1, hT⟩

theorem cgDoStep_safe {cons : Spec.Cons ℝ} (hs : Safe I Q (Tied cons)) (hss : SafeSet I Q (Tied cons)) (fuel : Nat)
    (s : St F (Cg ℝ) ℝ) (hQ : Q s.fn) (hT : Tied cons s.core.params) :
    ROk Q (fun r => Q r.1.fn ∧ Tied cons r.1.core.params) (cgDoStep I fuel s) := by
  unfold cgDoStep
  refine (lineMinimization_safe hss fuel s.fn s.core.params _ hQ hT).elim (fun _ h => h) fun ⟨fn, pl, xi', k⟩ h1 => ?_
  dsimp only
  refine (hs.f h1.1 h1.2).elim (fun _ h => h) fun ⟨fn2, f⟩ hQ2 => ?_
  dsimp only
  split
  · exact ⟨hQ2, h1.2⟩
  · split
    · exact hQ2
    · split
      · exact ⟨hQ2, h1.2⟩
      · split <;> exact ⟨hQ2, h1.2⟩

theorem cg_safeStep {cons : Spec.Cons ℝ} (hs : Safe I Q (Tied cons)) (hss : SafeSet I Q (Tied cons)) (fuel : Nat) :
    SafeStep (cgAlgo I fuel) Q (Tied cons) :=
  { doStep := fun s hQ hT => cgDoStep_safe hs hss fuel s hQ hT,
    stopInit := fun _ => ⟨rfl, rfl⟩,
    stop := fun s => fscStop_safe s }

/-! ### BFGS -/

/-- `doInit` reads the bounds of the optimiser's own list and sets the function to the list given to
`init`: `hp` says that this list is tied -/
theorem bfgsDoInit_safe {T : PList ℝ → Prop} (hss : SafeSet I Q T) (s : St F (Bfgs ℝ) ℝ) (params : PList ℝ)
    (hQ : Q s.fn) (hT : T s.core.params) (hp : T params) :
    ROk Q (fun r => Q r.fn ∧ T r.core.params) (bfgsDoInit I s params) := by
  unfold bfgsDoInit
  dsimp only
  split
  · exact hQ
  · split
    · exact hQ
    · refine (hss.set hQ hp).elim (fun _ h => h) fun fn hQ1 => ?_
      dsimp only
      split
      · exact hQ1
      · exact ⟨hQ1, hT⟩

theorem bfgsDoStep_safe {cons : Spec.Cons ℝ} (hs : Safe I Q (Tied cons)) (hss : SafeSet I Q (Tied cons)) (fuel : Nat)
    (s : St F (Bfgs ℝ) ℝ) (hQ : Q s.fn) (hT : Tied cons s.core.params) :
    ROk Q (fun r => Q r.1.fn ∧ Tied cons r.1.core.params) (bfgsDoStep I fuel s) := by
  unfold bfgsDoStep
  dsimp only
  refine (lineSearch_safe hss fuel s.fn s.core.params _ _ hQ hT).elim (fun _ h => h) fun ⟨fn, pl, xi', k⟩ h1 => ?_
  dsimp only
  refine (hs.f h1.1 h1.2).elim (fun _ h => h) fun ⟨fn2, f⟩ hQ2 => ?_
  dsimp only
  split
  · split
    · exact hQ2
    · rename_i pl0 hset
      have hT0 := h1.2.of_like (setAll_like _ _ _ h1.2.feas hset)
      exact (hs.f hQ2 hT0).elim (fun _ h => h) fun _ h => ⟨h, hT0⟩
  · split
    · exact ⟨hQ2, h1.2⟩
    · split
      · exact hQ2
      · split <;> exact ⟨hQ2, h1.2⟩

theorem bfgs_safeStep {cons : Spec.Cons ℝ} (hs : Safe I Q (Tied cons)) (hss : SafeSet I Q (Tied cons)) (fuel : Nat) :
    SafeStep (bfgsAlgo I fuel) Q (Tied cons) :=
  { doStep := fun s hQ hT => bfgsDoStep_safe hs hss fuel s hQ hT,
    stopInit := fun _ => ⟨rfl, rfl⟩,
    stop := fun s => fscStop_safe s }

/-! ### the objective of the harness -/

/-- `setParameters` of the harness objective with a tied list leaves it at (and logs) a feasible point -/
theorem objective_safeSet (obj : List ℝ → ℝ) (D : Deriv ℝ) (cap : Option Nat) (cons : Spec.Cons ℝ) :
    SafeSet (Fn.iface obj D cap) (FeasFn cons) (Tied cons) :=
  ⟨fun hQ hT => iface_set_cases obj D cap _ _ _ (setParameters_within cons _ _ hQ hT.within)⟩

end Bpp.Optim
