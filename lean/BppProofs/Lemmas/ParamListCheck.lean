import BppProofs.Lemmas.ParamListStep
/-! The model passes every clause of `checkStep` (C02): one soundness lemma per clause. -/
namespace Bpp.ParamList

theorem allNamesUnique_of_inv {s : State} (inv : Inv s) (n : Nat) : allNamesUnique n s = true := by
  simp only [allNamesUnique, List.all_eq_true, namesUniqueB, decide_eq_true_eq]
  exact fun k _ => inv.names k

theorem allOk_of_inv {s : State} (inv : Inv s) (n : Nat) : allOk n s = true := by
  simp only [allOk, List.all_eq_true]
  exact fun k _ i hi => inv.ok i (inv.wf k i hi)

theorem namesUniqueB_of_inv {s : State} (inv : Inv s) (k : Nat) : namesUniqueB s k = true :=
  decide_eq_true (inv.names k)

theorem clauseNames_sound (n : Nat) {s : State} (inv : Inv s) (op : Op) :
    clauseNames n s op (step s op).1 = true := by
  unfold clauseNames
  by_cases hk : op.keepsNames = true
  · rw [allNamesUnique_of_inv (inv_step inv op hk), Bool.or_true]
  · rw [Bool.eq_false_iff.2 hk, Bool.and_false]; rfl

theorem setNamespace_shape (o n : String) (l : List ObjId) (h : Store) :
    (setNamespace h o n l).next = h.next ∧
    ∀ i, ((setNamespace h o n l).get i).value = (h.get i).value ∧ ((setNamespace h o n l).get i).con = (h.get i).con := by
  induction l generalizing h with
  | nil => exact ⟨rfl, fun _ => ⟨rfl, rfl⟩⟩
  | cons a t ih =>
    rw [setNamespace]; dsimp only
    obtain ⟨i1, i2⟩ := ih (h.put a { h.get a with name := _ })
    refine ⟨i1, fun i => ?_⟩
    rw [(i2 i).1, (i2 i).2, get_put]
    split
    · next e => rw [e]; exact ⟨rfl, rfl⟩
    · exact ⟨rfl, rfl⟩

/-- valid ids and `HeapOk` survive every operation (including `setNamespace`) -/
theorem wf_ok_step {s : State} (inv : Inv s) (op : Op) :
    (∀ k, Valid (step s op).1.heap ((step s op).1.lists k)) ∧ HeapOk (step s op).1.heap := by
  by_cases hk : op.keepsNames = true
  · exact ⟨(inv_step inv op hk).wf, (inv_step inv op hk).ok⟩
  · unfold Op.keepsNames at hk
    split at hk
    · next k p =>
      obtain ⟨e1, e2⟩ := setNamespace_shape (s.pre k) p (s.lists k) s.heap
      refine ⟨fun r i hi => e1 ▸ inv.wf r i hi, fun i hi => ?_⟩
      have := inv.ok i (e1 ▸ hi)
      rw [Par.ok, Par.rejects] at this ⊢
      exact (e2 i).1 ▸ (e2 i).2 ▸ this
    · exact absurd rfl hk

theorem clauseOk_sound (n : Nat) {s : State} (inv : Inv s) (op : Op) :
    clauseOk n s (step s op).1 = true := by
  obtain ⟨w, o⟩ := wf_ok_step inv op
  have : allOk n (step s op).1 = true := by
    simp only [allOk, List.all_eq_true]
    exact fun k _ i hi => o i (w k i hi)
  rw [clauseOk, this, Bool.or_true]

theorem isErr_ofErr_eq (e : Option Err) : (Out.ofErr e).isErr = !e.isNone := by
  cases e <;> rfl

theorem clauseAtomic_sound (n : Nat) {s : State} (inv : Inv s) (op : Op) :
    clauseAtomic n s op (step s op).2.out (step s op).1 = true := by
  unfold clauseAtomic
  cases ha : op.atomic with
  | false => rfl
  | true =>
    cases he : (step s op).2.out.isErr with
    | false => rfl
    | true => exact step_atomic n inv op ha he

theorem clauseFrame_sound (n : Nat) (s : State) (op : Op) : clauseFrame n s op (step s op).1 = true := by
  obtain ⟨f, d⟩ := frame_step s op
  simp only [clauseFrame, Bool.and_eq_true, List.all_eq_true, List.mem_range, Bool.or_eq_true, List.any_eq_true,
    List.contains_iff_mem, beq_iff_eq]
  refine ⟨fun i hi => ?_, fun r _ => ?_⟩
  · by_cases hw : i ∈ op.writes.flatMap s.lists
    · exact Or.inl (List.mem_flatMap.1 hw)
    · exact Or.inr (f.same i hi hw)
  · by_cases hd : op.dest = some r
    · exact Or.inl hd
    · exact Or.inr (d r hd)

theorem acceptsSome_iff (h : Store) (l src : List ObjId) :
    acceptsSome h l src = true ↔
      ∀ s ∈ src, ∀ t, find? h l (nameOf h s) = some t → (h.get t).rejects (h.get s).value = false := by
  rw [acceptsSome, List.all_eq_true]
  refine forall_congr' (fun s => forall_congr' (fun _ => ?_))
  cases find? h l (nameOf h s) with
  | none => exact ⟨fun _ _ c => (nomatch c), fun _ => rfl⟩
  | some t =>
    exact ⟨fun c t' e => Option.some.inj e ▸ Bool.not_eq_true' _ ▸ c, fun c => Bool.not_eq_true' _ ▸ c t rfl⟩

theorem acceptsAll_iff (h : Store) (l src : List ObjId) :
    acceptsAll h l src = true ↔
      ∀ i ∈ l, ∃ j, find? h src (nameOf h i) = some j ∧ (h.get i).rejects (h.get j).value = false := by
  rw [acceptsAll, List.all_eq_true]
  refine forall_congr' (fun i => forall_congr' (fun _ => ?_))
  cases find? h src (nameOf h i) with
  | none => exact ⟨fun c => (nomatch c), fun ⟨_, c, _⟩ => (nomatch c)⟩
  | some j =>
    exact ⟨fun c => ⟨j, rfl, Bool.not_eq_true' _ ▸ c⟩, fun ⟨_, e, c⟩ => Option.some.inj e ▸ Bool.not_eq_true' _ ▸ c⟩

theorem setParametersValues_err_iff (h : Store) (l src : List ObjId) :
    ((setParametersValues h l src).err = none) ↔ acceptsSome h l src = true :=
  (setParametersValues_atomic h l src).1.trans (acceptsSome_iff h l src).symm

theorem matchParametersValues_err_iff (h : Store) (l src : List ObjId) :
    ((matchParametersValues h l src).err = none) ↔ acceptsSome h l src = true :=
  (matchParametersValues_atomic h l src).1.trans (acceptsSome_iff h l src).symm

theorem setAllParametersValues_err_iff (h : Store) (l src : List ObjId) :
    ((setAllParametersValues h l src).err = none) ↔ acceptsAll h l src = true :=
  (setAllParametersValues_atomic h l src).1.trans (acceptsAll_iff h l src).symm

theorem decide_forall_lt {n : Nat} {P : Nat → Prop} [DecidablePred P] (h : ∀ i, P i) :
    decide (∀ i, i < n → P i) = true := decide_eq_true (fun i _ => h i)

/-- the shape of the clause for a two-pass setter: it raises exactly when the first pass refuses (`acc`),
and otherwise has the effect `P` -/
theorem twoPass_applies {err : Option Err} {out : Out} {acc nu : Bool} {P : Prop} [Decidable P]
    (ho : out.isErr = err.isSome) (hacc : err = none ↔ acc = true) (hP : err = none → P) :
    ((out.isErr == !acc) && (out.isErr || !nu || decide P)) = true := by
  cases err with
  | none => rw [ho, hacc.1 rfl, decide_eq_true (hP rfl)]; cases nu <;> rfl
  | some e => rw [ho, Bool.eq_false_iff.2 (fun c => nomatch hacc.2 c)]; rfl

theorem clauseApplies_sound {s : State} (inv : Inv s) (op : Op) :
    clauseApplies s op (step s op).2.out (step s op).1 = true := by
  unfold clauseApplies
  split
  · next k j =>
    exact twoPass_applies (isErr_stepHR ..) (setParametersValues_err_iff ..)
      (fun ok i _ => (setParametersValues_expected (inv.names j) ok).2.2 i)
  · next k j w =>
    refine twoPass_applies (err := (matchParametersValues s.heap (s.lists k) (s.lists j)).err) ?_
      (matchParametersValues_err_iff ..) (fun ok i _ => (matchParametersValues_expected (inv.names j) ok).2.2.2 i)
    simp only [step]
    cases (matchParametersValues s.heap (s.lists k) (s.lists j)).err <;> rfl
  · next k j =>
    obtain ⟨h1, h2, _⟩ := apSetParametersValues_spec s.heap (s.lists k) (s.lists j)
    exact twoPass_applies ((isErr_stepAR ..).trans (congrArg _ h2)) (setParametersValues_err_iff ..)
      (fun ok i _ => (congrArg (·.get i) h1).trans ((setParametersValues_expected (inv.names j) ok).2.2 i))
  · next k j =>
    obtain ⟨h1, h2, _⟩ := apMatchParametersValues_spec s.heap (s.lists k) (s.lists j) (inv.names j)
    exact twoPass_applies ((isErr_stepAR ..).trans (congrArg _ h2)) (matchParametersValues_err_iff ..)
      (fun ok i _ => (congrArg (·.get i) h1).trans ((matchParametersValues_expected (inv.names j) ok).2.2.2 i))
  · next k j =>
    have iff := checkSome_none.trans (acceptsSome_iff s.heap (s.lists k) (s.lists j)).symm
    simp only [step]; rw [testParametersValues]
    cases c : checkSome s.heap (s.lists k) (s.lists j) with
    | none => dsimp only; rw [iff.1 c]; rfl
    | some e => dsimp only; rw [Bool.eq_false_iff.2 (fun a => nomatch c.symm.trans (iff.2 a))]; rfl
  · next k j =>
    exact twoPass_applies (isErr_stepHR ..) (setAllParametersValues_err_iff ..)
      (fun ok i _ => (setAllParametersValues_expected (inv.names k) ok).2.2 i)
  · next k j =>
    obtain ⟨h1, h2, _⟩ := apSetAllParametersValues_spec s.heap (s.lists k) (s.lists j)
    exact twoPass_applies ((isErr_stepAR ..).trans (congrArg _ h2)) (setAllParametersValues_err_iff ..)
      (fun ok i _ => (congrArg (·.get i) h1).trans ((setAllParametersValues_expected (inv.names k) ok).2.2 i))
  · rfl

theorem clauseMatch_sound {s : State} (inv : Inv s) (op : Op) :
    clauseMatch s op (step s op).2.out (step s op).2.fired = true := by
  unfold clauseMatch
  split
  · next k j w =>
    simp only [step]
    cases e : (matchParametersValues s.heap (s.lists k) (s.lists j)).err with
    | some x => rfl
    | none =>
      dsimp only
      rw [(matchParametersValues_expected (inv.names j) e).1, beq_self_eq_true, Bool.or_true]
  · next k j =>
    simp only [step]; rw [testParametersValues]
    cases checkSome s.heap (s.lists k) (s.lists j) with
    | some x => rfl
    | none =>
      dsimp only
      rw [testSome_eq s.heap (s.lists k) (s.lists j) 0]
      cases diffPos s.heap (s.lists k) 0 (s.lists j) <;> rfl
  · next k j =>
    obtain ⟨_, h2, h3, _⟩ := apMatchParametersValues_spec s.heap (s.lists k) (s.lists j) (inv.names j)
    simp only [step]; rw [stepAR]; dsimp only
    rw [h2]
    cases e : (matchParametersValues s.heap (s.lists k) (s.lists j)).err with
    | some x => rfl
    | none =>
      dsimp only
      rw [(h3 e).1, (h3 e).2, (matchParametersValues_expected (inv.names j) e).1]
      simp only [if_true, beq_self_eq_true, Bool.and_true, Bool.or_true]
  · next k j =>
    obtain ⟨_, h2, h3⟩ := apSetAllParametersValues_spec s.heap (s.lists k) (s.lists j)
    rw [show (step s (.apSetAll k j)).2.out.isErr = _ from (isErr_stepAR ..).trans (congrArg _ h2),
      show (step s (.apSetAll k j)).2.fired = _ from h3]
    cases (setAllParametersValues s.heap (s.lists k) (s.lists j)).err with
    | none => exact beq_self_eq_true (some (s.lists j))
    | some x => rfl
  · next k j =>
    obtain ⟨_, h2, h3⟩ := apSetParametersValues_spec s.heap (s.lists k) (s.lists j)
    rw [show (step s (.apSetValues k j)).2.out.isErr = _ from (isErr_stepAR ..).trans (congrArg _ h2),
      show (step s (.apSetValues k j)).2.fired = _ from h3]
    cases (setParametersValues s.heap (s.lists k) (s.lists j)).err with
    | none => exact beq_self_eq_true (some (s.lists j))
    | some x => rfl
  · rfl

theorem freshWith_of {b a : State} {j : Nat} {content : List Par}
    (h1 : (a.lists j).map a.heap.get = content) (h2 : ∀ i ∈ a.lists j, b.heap.next ≤ i)
    (h3 : (a.lists j).Nodup) : freshWith b a j content = true := by
  simp only [freshWith, Bool.and_eq_true, decide_eq_true_eq, List.all_eq_true]
  exact ⟨⟨h1, h2⟩, h3⟩

@[simp] theorem heap_setList (s : State) (h : Store) (k : Nat) (l : List ObjId) :
    ((s.withHeap h).setList k l).heap = h := rfl

theorem freshWith_block (s : State) (j : Nat) (ps : List Par) {n : Nat} (hn : ps.length = n) :
    freshWith s ((s.withHeap (allocAll s.heap ps)).setList j (List.range' s.heap.next n)) j ps = true := by
  subst hn
  obtain ⟨b1, b2, b3⟩ := allocAll_block s.heap ps
  exact freshWith_of ((setList_self ..).symm ▸ b3) ((setList_self ..).symm ▸ b1) ((setList_self ..).symm ▸ b2)

theorem addParameters_dup_err (src : List ObjId) (h : Store) (l : List ObjId) (v : Valid h l) (vs : Valid h src)
    (dup : ¬ (names h (l ++ src)).Nodup) (ndl : (names h l).Nodup) : (addParameters h l src).err ≠ none := by
  induction src generalizing h l with
  | nil => exact absurd (by rw [List.append_nil]; exact ndl) dup
  | cons i rest ih =>
    have vr : Valid h rest := fun j hj => vs j (List.mem_cons_of_mem _ hj)
    rw [addParameters]
    cases hn : hasParameter h l (nameOf h i) with
    | true => rw [addParameter_dup (p := h.get i) hn]; nofun
    | false =>
      have pr := pres_clone h (vs i (List.mem_cons_self ..))
      have g := addParameter_good (h.get i) v (fun hk => hk i (vs i (List.mem_cons_self ..)))
      rw [addParameter_new (p := h.get i) hn] at g ⊢
      refine ih _ _ g.valid (vr.mono pr) (fun c => dup ?_) (g.nodup ndl)
      have en : names (h.alloc (h.get i)).1 (l ++ [h.next] ++ rest) = names h (l ++ i :: rest) := by
        rw [List.append_assoc, names_append, names_append, pr.names v]
        show names h l ++ nameOf (h.alloc (h.get i)).1 h.next :: names (h.alloc (h.get i)).1 rest = _
        rw [pr.names vr, nameOf, get_alloc, if_pos rfl, names_append]; rfl
      exact en ▸ c

theorem all_isSome_iff {h : Store} {l : List ObjId} {ns : List String} :
    (ns.all (fun n => (find? h l n).isSome) = true) ↔ ∀ n ∈ ns, find? h l n ≠ none := by
  rw [List.all_eq_true]
  exact forall_congr' (fun n => forall_congr' (fun _ => Option.isSome_iff_ne_none))

theorem clauseFresh_sound {s : State} (inv : Inv s) (op : Op) :
    clauseFresh s op (step s op).2.out (step s op).1 = true := by
  -- a sub-list made of the selected objects `sel` (names pairwise different) is a block of clones of them
  have sub : ∀ (j : Nat) (sel : List ObjId), Valid s.heap sel → (names s.heap sel).Nodup →
      ((stepSub s j (addParameters s.heap [] sel)).2.out == .ok &&
        freshWith s (stepSub s j (addParameters s.heap [] sel)).1 j (sel.map s.heap.get)) = true := by
    intro j sel vs nd
    rw [addParameters_nil sel s.heap vs nd]
    exact freshWith_block s j _ (List.length_map ..)
  unfold clauseFresh
  split
  · next k j => simp only [step]; rw [cloneAll_eq (inv.wf k)]; exact freshWith_block s j _ (List.length_map ..)
  · next k j => simp only [step]; rw [cloneAll_eq (inv.wf k)]; exact freshWith_block s j _ (List.length_map ..)
  · next k j ns =>
    simp only [step]
    split
    · next hc =>
      rw [Bool.and_eq_true, decide_eq_true_eq, all_isSome_iff] at hc
      rw [createSubListNames_eq _ ns s.heap [] (inv.wf k) (Valid.nil _) hc.2]
      exact sub j _ (valid_filterMap_find? (inv.wf k) ns) (by rw [names_filterMap_find? hc.2]; exact hc.1)
    · next hc =>
      -- a missing or repeated name: the call raises
      have herr : (createSubListNames s.heap (s.lists k) [] ns).err ≠ none := by
        intro c
        have all := createSubListNames_found _ ns s.heap [] (inv.wf k) (Valid.nil _) c
        rw [createSubListNames_eq _ ns s.heap [] (inv.wf k) (Valid.nil _) all] at c
        refine addParameters_dup_err _ s.heap [] (Valid.nil _) (valid_filterMap_find? (inv.wf k) ns) ?_
          List.nodup_nil c
        rw [List.nil_append, names_filterMap_find? all]
        exact fun nd => hc (Bool.and_eq_true _ _ ▸ ⟨decide_eq_true nd, all_isSome_iff.2 all⟩)
      rw [stepSub]
      cases e : (createSubListNames s.heap (s.lists k) [] ns).err with
      | none => exact absurd e herr
      | some x => rfl
  · next k j n =>
    simp only [step]
    cases e : find? s.heap (s.lists k) n with
    | none => rw [createSubListNames, e]; rfl
    | some i =>
      have all : ∀ n' ∈ [n], find? s.heap (s.lists k) n' ≠ none := fun n' hn' => by
        rw [List.mem_singleton.1 hn', e]; nofun
      have e2 : [n].filterMap (find? s.heap (s.lists k)) = [i] := by rw [List.filterMap_cons, e]; rfl
      rw [createSubListNames_eq _ [n] s.heap [] (inv.wf k) (Valid.nil _) all, e2]
      exact sub j [i] (e2 ▸ valid_filterMap_find? (inv.wf k) [n]) (List.nodup_singleton _)
  · next k j idx =>
    simp only [step]; rw [namesUniqueB_of_inv inv k]
    by_cases hidx : idx.Nodup
    · rw [createSubListIdx_eq, sub j _ (valid_filterMap_idx (inv.wf k) idx) (nodup_sel_idx (inv.names k) hidx),
        Bool.or_true]
    · rw [decide_eq_false hidx]; rfl
  · next k j i =>
    simp only [step]; rw [createSubListIdx_eq]
    exact sub j _ (valid_filterMap_idx (inv.wf k) [i]) (nodup_sel_idx (inv.names k) (List.nodup_singleton i))
  · next k j m =>
    simp only [step]; rw [getCommon_eq]
    exact freshWith_block s m _ (List.length_map ..)
  · rfl

theorem clauseShare_sound {s : State} (inv : Inv s) (op : Op) :
    clauseShare s op (step s op).2.out (step s op).1 = true := by
  -- pairwise different names: the selected objects themselves become the list, the heap is untouched
  have sub : ∀ (j : Nat) (sel : List ObjId), (names s.heap sel).Nodup →
      ((stepSub s j (shareParameters s.heap [] sel)).2.out == .ok &&
        (stepSub s j (shareParameters s.heap [] sel)).1.lists j == sel) = true := by
    intro j sel nd
    rw [shareParameters_spec sel s.heap [] nd, stepSub]; dsimp only
    rw [setList_self, List.nil_append, beq_self_eq_true, beq_self_eq_true]; rfl
  unfold clauseShare
  split
  · next k j ns =>
    simp only [step]
    split
    · next hc =>
      have all := all_isSome_iff.1 hc
      by_cases hns : ns.Nodup
      · rw [shareSubListNames_eq _ ns s.heap [] (inv.wf k) (Valid.nil _) all,
          sub j _ (by rw [names_filterMap_find? all]; exact hns), Bool.or_true]
      · rw [decide_eq_false hns]; rfl
    · next hc =>
      rw [stepSub]
      cases e : (shareSubListNames s.heap (s.lists k) [] ns).err with
      | none => exact absurd (all_isSome_iff.2 (shareSubListNames_found _ ns s.heap [] (inv.wf k) (Valid.nil _) e)) hc
      | some x => rfl
  · next k j idx =>
    simp only [step]; rw [namesUniqueB_of_inv inv k]
    by_cases hidx : idx.Nodup
    · rw [shareSubListIdx_eq, sub j _ (nodup_sel_idx (inv.names k) hidx), Bool.or_true]
    · rw [decide_eq_false hidx]; rfl
  · next k j nm =>
    simp only [step]
    cases e : find? s.heap (s.lists j) nm with
    | none => rfl
    | some i =>
      dsimp only
      rw [stepLR, shareParameter, (find?_some e).2]
      cases hasParameter s.heap (s.lists k) nm with
      | true => exact beq_iff_eq.2 (setList_self ..)
      | false => exact beq_iff_eq.2 (setList_self ..)
  · rfl

theorem guarded_of {g a b c : Bool} (ha : a = true) (hb : b = true) (hc : c = true) :
    (!g || a && b && c) = true := by rw [ha, hb, hc]; cases g <;> rfl

theorem guarded_of2 {g a c : Bool} (ha : a = true) (hc : c = true) : (!g || a && c) = true := by
  rw [ha, hc]; cases g <;> rfl

theorem ofErr_ite (c : Prop) [Decidable c] (e : Err) :
    Out.ofErr (if c then none else some e) = if c then .ok else .err e := by
  split <;> rfl

theorem ofErr_beq {r : Option Err} {c : Prop} [Decidable c] {e : Err} (h : r = if c then none else some e) :
    (Out.ofErr r == if c then .ok else .err e) = true := by
  rw [h, ofErr_ite]; exact beq_self_eq_true _

theorem clauseDelete_sound {s : State} (op : Op) :
    clauseDelete s op (step s op).2.out (step s op).1 = true := by
  unfold clauseDelete
  split
  · next k idx =>
    simp only [step]
    by_cases hidx : idx.Nodup
    · rw [setList_self, decide_eq_true hidx]
      split
      · next hc =>
        rw [deleteParametersIdx_spec _ idx hidx (fun d hd => of_decide_eq_true (List.all_eq_true.1 hc d hd))]
        exact Bool.and_eq_true_iff.2 ⟨rfl, beq_self_eq_true _⟩
      · next hc =>
        have : ∃ d ∈ idx, (s.lists k).length ≤ d := by
          simpa only [List.all_eq_true, decide_eq_true_eq, not_forall, Nat.not_lt, exists_prop] using hc
        rw [deleteParametersIdx_out _ idx this]
        exact Bool.and_eq_true_iff.2 ⟨rfl, beq_self_eq_true _⟩
    · rw [decide_eq_false hidx]; rfl
  · next k i =>
    simp only [step]; rw [deleteParameterIdx]
    by_cases hi : i < (s.lists k).length
    · rw [if_pos hi, if_neg (Nat.not_le.2 hi)]
      exact Bool.and_eq_true_iff.2 ⟨rfl, beq_iff_eq.2 (setList_self ..)⟩
    · rw [if_neg hi, if_pos (Nat.not_lt.1 hi)]
      exact Bool.and_eq_true_iff.2 ⟨rfl, beq_self_eq_true _⟩
  · next k nm =>
    obtain ⟨a, b⟩ := deleteParameter_names s.heap (s.lists k) nm
    simp only [step]
    cases e : deleteParameter s.heap (s.lists k) nm with
    | ok l' =>
      rw [if_pos ((hasParameter_iff _ _ _).2 (a l' e).2)]
      exact Bool.and_eq_true_iff.2 ⟨rfl, beq_iff_eq.2 ((congrArg _ (setList_self ..)).trans (a l' e).1)⟩
    | error x =>
      rw [if_neg (by rw [(hasParameter_false_iff _ _ _).2 (b x e).2]; nofun), (b x e).1]
      exact Bool.and_eq_true_iff.2 ⟨rfl, beq_self_eq_true _⟩
  · rfl

theorem clauseAdd_sound {s : State} (op : Op) :
    clauseAdd s op (step s op).2.out (step s op).1 = true := by
  have key : ∀ k p, clauseAdd s (.add k p) (step s (.add k p)).2.out (step s (.add k p)).1 = true := by
    intro k p
    rw [clauseAdd, step]
    by_cases hp : p.ok = true
    · by_cases hn : hasParameter s.heap (s.lists k) p.name = true
      · simp [hp, hn, addParameter, stepLR, Out.ofErr]
      · simp [hp, hn, addParameter, stepLR, Out.ofErr, State.setList, State.withHeap]
    · simp [hp]
  cases op with
  | add k p => exact key k p
  | addPtr k p => exact key k p
  | _ => rfl

theorem clauseLookup_sound {s : State} (op : Op) : clauseLookup s op (step s op).2.out = true := by
  unfold clauseLookup
  split
  · next k nm =>
    simp only [step]
    cases e : whichParameterHasName s.heap (s.lists k) nm with
    | ok i =>
      obtain ⟨h1, h2⟩ := (which_exact _ _ _ _).1 e
      simp only [h1, beq_self_eq_true, Bool.true_and, List.all_eq_true, List.mem_range, bne_iff_ne, ne_eq]
      exact fun j hj => h2 j hj
    | error x =>
      have : x = .notfound := by
        unfold whichParameterHasName at e; split at e <;> cases e; rfl
      subst this
      simpa using (which_notfound _ _ _).1 e
  · next k nm =>
    simp only [step]; rw [beq_iff_eq]
    exact congrArg _ (Bool.eq_iff_iff.2 ((hasParameter_iff _ _ _).trans List.contains_iff_mem.symm))
  · exact beq_self_eq_true _
  · exact beq_self_eq_true _
  · next k nm =>
    simp only [step]; rw [getParameterValue]
    cases find? s.heap (s.lists k) nm <;> exact beq_self_eq_true _
  · rfl

theorem updateOk_sound (s : State) (l : List ObjId) (n : String) (v : Rat) (a : State)
    (ha : ∀ t ∈ l, a.heap.get t = (setParameterValue s.heap l n v).heap.get t) :
    updateOk s l n v (.ofErr (setParameterValue s.heap l n v).err) a = true := by
  unfold updateOk
  cases e : find? s.heap l n with
  | none => rw [setParameterValue, e]; rfl
  | some t =>
    have ht := ha t (find?_some e).1
    rw [setParameterValue_some v e] at ht ⊢
    dsimp only
    by_cases c : (s.heap.get t).rejects v = true ∧ v ≠ (s.heap.get t).value
    · rw [if_pos c, if_pos (by rw [c.1, decide_eq_true c.2]; rfl)]; rfl
    · rw [if_neg c] at ht ⊢
      rw [if_neg (by simpa only [Bool.and_eq_true, decide_eq_true_eq] using c), ht, get_put, if_pos rfl,
        beq_self_eq_true]; rfl

theorem clauseUpdate_sound {s : State} (inv : Inv s) (op : Op) :
    clauseUpdate s op (step s op).2.out (step s op).1 = true := by
  unfold clauseUpdate
  split
  · next k nm v => exact updateOk_sound s _ nm v _ (fun _ _ => rfl)
  · next k nm v =>
    obtain ⟨h1, h2, _⟩ := apSetParameterValue_spec s.heap (s.lists k) (s.pre k) nm v (inv.wf k)
    have key := updateOk_sound s (s.lists k) (s.pre k ++ nm) v
      (s.withHeap (apSetParameterValue s.heap (s.lists k) (s.pre k) nm v).heap) h2
    rw [← h1] at key
    simp only [step]; rw [stepAR]
    cases hr : (apSetParameterValue s.heap (s.lists k) (s.pre k) nm v).err <;> rw [hr] at key <;> exact key
  · next k j nm =>
    simp only [step]
    cases e : find? s.heap (s.lists j) nm with
    | none => rfl
    | some i =>
      dsimp only
      split
      · next hc =>
        rw [stepLR, shareParameter, (find?_some e).2, if_pos hc]
        exact updateOk_sound s (s.lists k) nm (s.heap.get i).value _ (fun _ _ => rfl)
      · rfl
  · rfl

theorem clauseDeleteNames_sound {s : State} (op : Op) :
    clauseDeleteNames s op (step s op).2.out (step s op).1 = true := by
  unfold clauseDeleteNames
  split
  · next k ns must =>
    simp only [step]
    by_cases hns : ns.Nodup
    · obtain ⟨i1, i2⟩ := deleteParameters_spec s.heap must ns (s.lists k) hns
      rw [setList_self, i1, i2]
      cases must
      · simp [Out.ofErr]
      · simp only [if_true, ofErr_ite, beq_self_eq_true, Bool.true_and, Bool.or_eq_true]
        right
        split <;> simp_all
    · rw [decide_eq_false hns]; rfl
  · rfl

theorem freshAppended_of {b a : State} {k : Nat} {l suf : List ObjId} {content : List Par}
    (hl : a.lists k = l ++ suf) (h1 : suf.map a.heap.get = content) (h2 : ∀ i ∈ suf, b.heap.next ≤ i)
    (h3 : suf.Nodup) : freshAppended b a k l content = true := by
  simp only [freshAppended, hl, List.take_left', List.drop_left', Bool.and_eq_true, beq_self_eq_true,
    decide_eq_true_eq, List.all_eq_true, true_and]
  exact ⟨⟨h1, h2⟩, h3⟩

theorem clauseMerge_sound {s : State} (inv : Inv s) (op : Op) :
    clauseMerge s op (step s op).2.out (step s op).1 = true := by
  unfold clauseMerge
  split
  · next k j =>
    obtain ⟨i1, i2, _, i4, i5⟩ := includeParameters_spec (s.lists j) s.heap (s.lists k) (inv.wf k) (inv.wf j)
      (inv.names j)
    exact guarded_of (ofErr_beq i1)
      (freshAppended_of ((setList_self ..).trans i2) i4 (fun _ hi => (List.mem_range'_1.1 hi).1) List.nodup_range')
      (decide_eq_true (fun i hi => i5 i hi))
  · next k j =>
    obtain ⟨i1, i2, _, i5⟩ := shareParameters_full_spec (s.lists j) s.heap (s.lists k) (inv.names j)
    exact guarded_of (ofErr_beq i1) (beq_iff_eq.2 ((setList_self ..).trans i2)) (decide_eq_true (fun i _ => i5 i))
  · next k j =>
    obtain ⟨i1, i2, _, i4, i5⟩ := addParameters_full_spec (s.lists j) s.heap (s.lists k) (inv.wf k) (inv.wf j)
      (inv.names j)
    exact guarded_of (ofErr_beq i1)
      (freshAppended_of ((setList_self ..).trans i2) i4 (fun _ hi => (List.mem_range'_1.1 hi).1) List.nodup_range')
      (decide_eq_true (fun i hi => i5 i hi))
  · rfl

theorem clauseAssign_sound {s : State} (inv : Inv s) (op : Op) :
    clauseAssign s op (step s op).2.out (step s op).1 = true := by
  unfold clauseAssign
  split
  · next k j =>
    exact guarded_of2 (beq_iff_eq.2 (congrArg Out.ofErr (matchParameters_names (s.lists k) (s.lists j) s.heap).1))
      (decide_eq_true (fun i _ => matchParameters_get (s.lists k) (s.lists j) s.heap (inv.names j) i))
  · next k j =>
    have e := setParameters_eq (s.lists k) (s.lists j) s.heap
    exact guarded_of2 (ofErr_beq (congrArg HR.err e)) (decide_eq_true (fun i _ =>
      (congrArg (·.heap.get i) e).trans (matchParameters_get (s.lists k) _ s.heap
        ((names_sublist (List.takeWhile_sublist _)).nodup (inv.names j)) i)))
  · next k j =>
    exact guarded_of2 (ofErr_beq (setAllParameters_shape (s.lists j) (s.lists k) s.heap).1)
      (decide_eq_true (fun i _ => setAllParameters_get (s.lists j) (s.lists k) s.heap (inv.names k) i))
  · rfl

theorem clauseNotify_sound {s : State} (inv : Inv s) (op : Op) :
    clauseNotify s op (step s op).2.out (step s op).2.fired (step s op).1 = true := by
  unfold clauseNotify
  split
  · next k nm v =>
    obtain ⟨_, _, f1, f2⟩ := apSetParameterValue_spec s.heap (s.lists k) (s.pre k) nm v (inv.wf k)
    rw [show (step s (.apSetValue k nm v)).2.out.isErr = _ from isErr_stepAR ..]
    cases e : (apSetParameterValue s.heap (s.lists k) (s.pre k) nm v).err with
    | none =>
      obtain ⟨t, ht, g1, g2⟩ := f2 e
      rw [show (step s (.apSetValue k nm v)).2.fired = _ from g1, ht]
      exact Bool.and_eq_true_iff.2 ⟨decide_eq_true (Nat.le_refl _), beq_iff_eq.2 g2⟩
    | some x => rw [show (step s (.apSetValue k nm v)).2.fired = _ from (f1 (by rw [e]; nofun)).1]; rfl
  · rfl

end Bpp.ParamList
