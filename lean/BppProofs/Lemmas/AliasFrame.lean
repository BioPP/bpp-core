import BppProofs.Lemmas.AliasKeepSync
/-! Frame: every operation of C03 is framed on its slot (`step_fr`, by the frame lemmas of `Lemmas/AliasInv.lean`,
`Lemmas/AliasCopy.lean` and, for runs of writes, `fr_of_sameBut`); hence other slots look the same (`Fr.view`). -/
namespace Bpp.Alias
open Bpp.ParamList (Bnd Con Par Store ObjId nameOf find? hasParameter names startsWith)

theorem fr_of_sameBut {k : Nat} {P : List ObjId} {w W : World} (s : SameBut w W)
    (hv : ∀ j, j ∉ P → val W j = val w j) : Fr k P w W where
  next := by rw [s.next]
  lnext := by rw [s.lnext]
  cell i _ hp := ⟨par_ext (s.name i) (hv i hp) (s.con i), by rw [s.lsn]⟩
  lis l _ _ := by rw [s.lis]
  objs j _ := by rw [s.objs]

/-- **other slots look the same** after an operation that is framed on slot `k` -/
theorem Fr.view {k : Nat} {w W : World} (h : Inv w) (f : Fr k (oldParams w k) w W) {j : Nat} (hj : j ≠ k) :
    (W.objs j).map (svOf W) = (w.objs j).map (svOf w) := by
  rw [f.objs j hj]
  cases ho : w.objs j with
  | none => rfl
  | some o =>
    simp only [Option.map_some, Option.some.injEq]
    have hi := h.obj j o ho
    have hnot := h.not_old hj ho
    refine svOf_congr hi.indepSub (fun i him => (f.cell i (hi.valid i him) (hnot i him)).1) (fun i him id => ?_)
    simp only [hasListener, (f.cell i (hi.valid i him) (hnot i him)).2]
    rw [Bool.eq_iff_iff, List.any_eq_true, List.any_eq_true]
    have key : ∀ l ∈ w.lsn i, W.lis l = w.lis l := by
      intro l hl
      have hreg := (hi.lsnOk i him l hl).1
      have r := hi.regOk _ hreg
      exact f.lis l r.lt (by rw [r.pl]; exact hj)
    constructor
    · rintro ⟨l, hl, hid⟩; exact ⟨l, hl, by rw [← key l hl]; exact hid⟩
    · rintro ⟨l, hl, hid⟩; exact ⟨l, hl, by rw [key l hl]; exact hid⟩

/-! ## Per operation -/

/-- `Fr` on the parameters of slot `k`, which stay the parameters of that slot -/
def FrK (k : Nat) (w W : World) : Prop :=
  ∀ o, w.objs k = some o → Fr k o.params w W ∧ ∃ o', W.objs k = some o' ∧ o'.params = o.params

theorem FrK.refl (k : Nat) (w : World) : FrK k w w := fun o ho => ⟨Fr.refl _ _ _, o, ho, rfl⟩

theorem FrK.trans {k : Nat} {a b c : World} (x : FrK k a b) (y : FrK k b c) : FrK k a c := by
  intro o ho
  obtain ⟨f1, o1, ho1, hp1⟩ := x o ho
  obtain ⟨f2, o2, ho2, hp2⟩ := y o1 ho1
  exact ⟨f1.trans (hp1 ▸ f2), o2, ho2, hp2.trans hp1⟩

theorem step_fr {w : World} (h : Inv w) (op : Op) (hwf : op.wf w) :
    Fr op.slot (oldParams w op.slot) w (step w op).1 := by
  have d := step_did h op hwf
  generalize (step w op).1 = W at d
  generalize (step w op).2 = out at d
  have old : ∀ {k : Nat} {o : Obj}, w.objs k = some o → ∀ {W : World}, Fr k o.params w W → Fr k (oldParams w k) w W :=
    fun ho _ f => (oldParams_some _ ho).symm ▸ f
  -- a run of writes to the parameters of the object in slot `k`
  have writes : ∀ {w' : World} {k : Nat} {o : Obj} {r : WR}, Inv w' → w'.objs k = some o →
      Writes (fun i _ => i ∈ o.params) w' r → Fr k o.params w' r.w := fun hI ho hr =>
    fr_of_sameBut hr.sameBut (hr.frame (S := fun i => i ∈ _) (fun _ _ hi => hi) ((hI.obj _ _ ho).closed ho))
  have pairs : ∀ {k : Nat} {D : List (String × String)} {W : World}, Pairs k w D W → FrK k w W := fun p =>
    (p.keeps (R := fun _ => FrK _) (FrK.refl _) FrK.trans (fun _ ho dn o' ho' => by rw [ho] at ho'; cases ho'; exact ⟨dn.fr, _, dn.objs, rfl⟩) h).1
  cases d with
  | ub | refused | same => exact Fr.refl _ _ _
  | new k pre => exact newObj_fr w k pre _
  | added ho _ _ => exact added_fr w _ _ _ _
  | aliased ho dn => exact old ho dn.fr
  | unaliased ho h1 _ _ _ => exact old ho (unaliased_fr _ _ _ _ _ (ParamList.find?_some h1).1)
  | bulkRaised ho p _ => exact old ho (pairs p _ ho).1
  | bulk ho p _ ho' _ =>
    obtain ⟨f, o1, ho1, hp⟩ := pairs p _ ho
    cases ho1.symm.trans ho'
    exact old ho (f.trans (hp ▸ writes (p.inv h) ho' (syncLinks_writes _ _ _)))
  | update _ ho hr _ => exact old ho (writes h ho hr)
  | copied _ r | assigned _ r => exact r.fr _
  | renamed pre ho => exact old ho (nsWorld_fr (h.obj _ _ ho) pre)

/-- **the view of every other slot is untouched by an operation** -/
theorem step_view_frame {w : World} (h : Inv w) (op : Op) (hwf : op.wf w) (j : Nat) (hj : j ≠ op.slot) :
    ((step w op).1.objs j).map (svOf (step w op).1) = (w.objs j).map (svOf w) :=
  (step_fr h op hwf).view h hj

end Bpp.Alias
