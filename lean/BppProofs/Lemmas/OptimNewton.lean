import BppProofs.Lemmas.OptimSync
/-!
Helper lemmas for C10: `NewtonOneDimension` on the objective of the harness, over `ℝ`.
The invariant: the optimiser's current value is the objective at the point the function has been
left at, which holds the values of the optimiser's parameters; a step never increases it (a trial
above the current value is undone — the Felsenstein-Churchill correction — and when the corrections
are exhausted the function is put back where the step found it).
-/
set_option linter.unusedSectionVars false
namespace Bpp.Optim
open Bpp

theorem setValueAt_names : ∀ (pl : PList ℝ) (i : Nat) (x : ℝ) (pl' : PList ℝ), setValueAt pl i x = .ok pl' →
    names pl' = names pl := by
  intro pl
  induction pl with
  | nil => intro i x pl' h; rw [setValueAt] at h; cases h
  | cons q r ih =>
    intro i x pl' h
    cases i with
    | zero =>
      rw [setValueAt] at h
      split at h
      · simp only [Except.ok.injEq] at h; subst h; rfl
      · cases h
    | succ i =>
      rw [setValueAt] at h
      split at h
      · rename_i r' hr
        cases h
        rw [names_cons, names_cons, ih i x r' hr]
      · cases h

/-- the names of the list are distinct parameters of the function -/
def Named (pl : PList ℝ) (len : Nat) : Prop := (names pl).Nodup ∧ ∀ n ∈ names pl, n < len

theorem Named.of_names {pl pl' : PList ℝ} {len : Nat} (h : Named pl len) (e : names pl' = names pl) : Named pl' len := by
  unfold Named; rw [e]; exact h

theorem Named.lt {pl : PList ℝ} {len : Nat} (h : Named pl len) : ∀ q ∈ pl, q.name < len :=
  fun q hq => h.2 _ (mem_names hq)

variable (obj : List ℝ → ℝ) (D : Deriv ℝ) (cap : Option Nat)

/-- an evaluation of the objective at a list with distinct valid names: the value is the objective
at the point the function is left at, which holds the values of the list -/
theorem eval_sync (fn fn' : Fn ℝ) (pl : PList ℝ) (v : ℝ) (hn : Named pl fn.point.length)
    (h : (Fn.iface obj D cap).f fn pl = .ok (fn', v)) :
    v = obj fn'.point ∧ Sync fn' pl ∧ fn'.point.length = fn.point.length ∧ fn'.point = matchPoint fn.point pl := by
  obtain ⟨hp, hv, _⟩ := iface_f_point obj D cap _ _ _ _ h
  exact ⟨hv, sync_of_matchPoint fn' fn.point pl hp hn.1 hn.lt, by rw [hp, matchPoint_length], hp⟩

/-- the Felsenstein-Churchill loop -/
theorem newtonCorrect_spec (cur x0 : ℝ) (fn0 : Fn ℝ) (maxc : Nat) (ns : List Nat) :
    ∀ (fuel count : Nat) (fn : Fn ℝ) (newPoint : PList ℝ) (movement nv : ℝ) (fn' : Fn ℝ) (res : Option (PList ℝ × ℝ)),
      nv = obj fn.point → Sync fn newPoint → names newPoint = ns → Named newPoint fn0.point.length →
      fn.point.length = fn0.point.length →
      newtonCorrect (Fn.iface obj D cap) cur x0 fn0.params maxc fuel count fn newPoint movement nv = .ok (fn', res) →
      fn'.point.length = fn0.point.length ∧
      match res with
      | none => fn'.point = fn0.point
      | some (pl, v) => v ≤ cur ∧ v = obj fn'.point ∧ Sync fn' pl ∧ names pl = ns := by
  intro fuel
  induction fuel with
  | zero => intro count fn newPoint movement nv fn' res _ _ _ _ _ h; rw [newtonCorrect] at h; cases h
  | succ fuel ih =>
    intro count fn newPoint movement nv fn' res hnv hsy hns hnm hlen h
    rw [newtonCorrect] at h
    by_cases hgt : cur < nv
    · rw [if_pos ((ScalarReal.gtb_iff _ _).2 hgt)] at h
      cases hsp : (Fn.iface obj D cap).setParameters fn fn0.params with
      | error e => rw [hsp] at h; cases h
      | ok fn1 =>
        rw [hsp] at h
        simp only [] at h
        have hp1 : fn1.point = fn0.point := by
          rw [iface_set_point obj D cap _ _ _ hsp]; exact matchPoint_restore fn0 fn.point hlen
        split at h
        · cases h
          exact ⟨by rw [hp1], hp1⟩
        · cases hset : setValueAt newPoint 0 (x0 - movement / Scalar.ofInt 2) with
          | error e => rw [hset] at h; cases h
          | ok np =>
            rw [hset] at h
            simp only [] at h
            cases hf : (Fn.iface obj D cap).f fn1 np with
            | error e => rw [hf] at h; cases h
            | ok r =>
              obtain ⟨fn2, nv2⟩ := r
              rw [hf] at h
              simp only [] at h
              have hnames : names np = names newPoint := setValueAt_names _ _ _ _ hset
              have hnm2 : Named np fn0.point.length := hnm.of_names hnames
              obtain ⟨e1, e2, e3, _⟩ := eval_sync obj D cap fn1 fn2 np nv2 (by rw [hp1]; exact hnm2) hf
              exact ih _ fn2 np _ nv2 fn' res e1 e2 (by rw [hnames, hns]) hnm2 (by rw [e3, hp1]) h
    · rw [if_neg (fun c => hgt ((ScalarReal.gtb_iff _ _).1 c))] at h
      cases h
      exact ⟨hlen, not_lt.1 hgt, hnv, hsy, hns⟩

/-- the invariant of the Newton iteration on the objective -/
structure Newton.Inv (B : ℝ) (len : Nat) (ns : List Nat) (s : St (Fn ℝ) (Newton1 ℝ) ℝ) : Prop where
  cur : s.core.cur = obj s.fn.point
  sync : Sync s.fn s.core.params
  names : names s.core.params = ns
  len : s.fn.point.length = len
  below : s.core.cur ≤ B

theorem newtonDoStep_spec (B : ℝ) (len : Nat) (ns : List Nat) (hns : ns.Nodup ∧ ∀ n ∈ ns, n < len)
    (s s' : St (Fn ℝ) (Newton1 ℝ) ℝ) (v : ℝ)
    (hi : Newton.Inv obj B len ns s) (h : newtonDoStep (Fn.iface obj D cap) s = .ok (s', v)) :
    Newton.Inv obj B len ns { s' with core := { s'.core with cur := v } } ∧ v ≤ s.core.cur := by
  obtain ⟨m, x0, np, fn1, nv, fn2, res, -, hset, hf, hc, hres⟩ := newtonDoStep_ok h
  have hnames : names np = ns := by rw [setValueAt_names _ _ _ _ hset, hi.names]
  have hnm : Named np s.fn.point.length := by unfold Named; rw [hnames, hi.len]; exact hns
  obtain ⟨e1, e2, e3, _⟩ := eval_sync obj D cap s.fn fn1 np nv hnm hf
  obtain ⟨h1, h2⟩ := newtonCorrect_spec obj D cap s.core.cur x0 s.fn s.ext.maxCorrection ns _ _ _ _ _ _ _ _
    e1 e2 hnames hnm e3 hc
  rcases hres with ⟨rfl, rfl, rfl⟩ | ⟨pl, rfl, rfl⟩
  · exact ⟨⟨h2 ▸ hi.cur, fun q hq => h2 ▸ hi.sync q hq, hi.names, h1.trans hi.len, hi.below⟩, le_refl _⟩
  · obtain ⟨a, b, c, d⟩ := h2
    exact ⟨⟨b, c, d, h1.trans hi.len, le_trans a hi.below⟩, a⟩

theorem Newton.Inv.congr {B : ℝ} {len : Nat} {ns : List Nat} {s t : St (Fn ℝ) (Newton1 ℝ) ℝ} (h : Newton.Inv obj B len ns s)
    (hf : t.fn = s.fn) (hp : t.core.params = s.core.params) (hc : t.core.cur = s.core.cur) : Newton.Inv obj B len ns t :=
  ⟨by rw [hc, hf]; exact h.cur, by rw [hf, hp]; exact h.sync, by rw [hp]; exact h.names, by rw [hf]; exact h.len,
   by rw [hc]; exact h.below⟩

/-- `optimize` keeps the invariant and returns the current value -/
theorem newton_optimize_spec (B : ℝ) (len : Nat) (ns : List Nat) (hns : ns.Nodup ∧ ∀ n ∈ ns, n < len) (fuel : Nat)
    (s s2 : St (Fn ℝ) (Newton1 ℝ) ℝ) (v : ℝ)
    (hi : Newton.Inv obj B len ns s) (h : (newtonAlgo (Fn.iface obj D cap)).optimize fuel s = .ok (s2, v)) :
    Newton.Inv obj B len ns s2 ∧ s2.core.cur = v :=
  optimize_invariant _ (Newton.Inv obj B len ns)
    (fun u u' w hu hd => (newtonDoStep_spec obj D cap B len ns hns u u' w hu hd).1)
    (fun u hu => by show Newton.Inv obj B len ns (fscStop u).1; rw [fscStop_fst]; exact Newton.Inv.congr obj hu rfl rfl rfl)
    (fun u n t hu => Newton.Inv.congr obj hu rfl rfl rfl) hi h

/-- `init`: the function is evaluated at the list (with the policy applied) -/
theorem newton_init_spec (s s1 : St (Fn ℝ) (Newton1 ℝ) ℝ) (params : PList ℝ)
    (hn : Named params s.fn.point.length)
    (h : (newtonAlgo (Fn.iface obj D cap)).init s params = .ok s1) :
    Newton.Inv obj (obj (matchPoint s.fn.point params)) s.fn.point.length (names params) s1 ∧
    s1.fn.point = matchPoint s.fn.point params := by
  obtain ⟨sa, hdi, rfl⟩ := init_ok h
  obtain ⟨q, fn1, v0, -, hf, rfl⟩ := newtonDoInit_ok (I := Fn.iface obj D cap) hdi
  obtain ⟨e1, e2, e3, e4⟩ := eval_sync obj D cap s.fn fn1 _ v0 (hn.of_names (applyPolicy_names _ _)) hf
  rw [matchPoint_applyPolicy] at e4
  exact ⟨⟨rfl, e2, applyPolicy_names _ _, e3, by show obj fn1.point ≤ _; rw [e4]⟩, e4⟩

end Bpp.Optim
