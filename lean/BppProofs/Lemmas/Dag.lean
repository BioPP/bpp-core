import BppModel.Dag
import BppModel.TreeRef
import BppProofs.Lemmas.GraphRefine
import BppProofs.Lemmas.GraphOrient
import BppProofs.Lemmas.TreeSwitch
import BppProofs.Lemmas.TreeInd
/-! Helper lemmas for C15 (DAG container, `BppModel/Dag.lean`): the loop of `isDA` terminates within its fuel on a
consistent graph and decides acyclicity (hence its answer does not depend on the notification queue);
the invariant of all histories (`Inv`), re-rooting included (`propagate_ind`,
`rootAt_ind`: whatever a `switchNodes` call keeps is kept by `propagateDirection_` / `orientate` / `rootAt`,
succeeding or raising half way); `rootAt` keeps the nodes and the undirected edges (`rootAt_shape`); nothing
is ever left pending (`pending_run`); the reference decision `isAcyclicRef` (transitive closure of the edge table
by rounds) agrees with `Acyclic` on consistent directed graphs (`isAcyclicRef_iff_acyclic`: a cycle contains one
without repeated vertex, which the rounds reach).  The transitive closure `TG` is defined here. -/
namespace Bpp
namespace Graph
open AL

/-! ## equal up to the notification queue -/

/-- the two graphs differ at most in `pending` -/
def EqP (g1 g2 : G) : Prop := ∃ p, g2 = { g1 with pending := p }

theorem EqP.refl (g : G) : EqP g g := ⟨g.pending, rfl⟩
theorem EqP.symm {g1 g2 : G} (h : EqP g1 g2) : EqP g2 g1 := by
  obtain ⟨p, rfl⟩ := h; exact ⟨g1.pending, rfl⟩
theorem EqP.trans {g1 g2 g3 : G} (h : EqP g1 g2) (h' : EqP g2 g3) : EqP g1 g3 := by
  obtain ⟨p, rfl⟩ := h; obtain ⟨q, rfl⟩ := h'; exact ⟨q, rfl⟩
theorem EqP.directed {g1 g2 : G} (h : EqP g1 g2) : g2.directed = g1.directed := by obtain ⟨p, rfl⟩ := h; rfl
theorem EqP.withEdges {g1 g2 : G} (h : EqP g1 g2) (es : List (Nat × (Nat × Nat))) (p q : List Event) :
    EqP { g1 with edges := es, pending := p } { g2 with edges := es, pending := q } := by
  obtain ⟨p', rfl⟩ := h; exact ⟨q, rfl⟩

/-! ## the rounds of `isDA` on a consistent graph -/

/-! (generic definitions and lemmas live in `namespace Dag`: `Lemmas/TreeBasic.lean` has its own `Arc`) -/
namespace Dag

/-- there is an outgoing entry `a -> b` in the node table -/
def Arc (g : G) (a b : Nat) : Prop := (g.outE a b).isSome = true

/-- transitive closure (one or more steps), as `Relation.TransGen` of Mathlib -/
inductive TG (R : Nat → Nat → Prop) : Nat → Nat → Prop
  | single {a b : Nat} : R a b → TG R a b
  | tail {a b c : Nat} : TG R a b → R b c → TG R a c

/-- no node reaches itself through one or more arcs -/
def Acyclic (g : G) : Prop := ¬ ∃ n, TG (Arc g) n n

theorem TG.mono {R S : Nat → Nat → Prop} (h : ∀ a b, R a b → S a b) {a b : Nat} (t : TG R a b) : TG S a b := by
  induction t with
  | single r => exact .single (h _ _ r)
  | tail _ r ih => exact .tail ih (h _ _ r)

theorem TG.trans {R : Nat → Nat → Prop} {a b c : Nat} (t1 : TG R a b) (t2 : TG R b c) : TG R a c := by
  induction t2 with
  | single r => exact .tail t1 r
  | tail _ r ih => exact .tail ih r

theorem TG.head {R : Nat → Nat → Prop} {a b c : Nat} (r : R a b) (t : TG R b c) : TG R a c := (TG.single r).trans t

theorem TG.first {R : Nat → Nat → Prop} {a b : Nat} (t : TG R a b) : ∃ c, R a c := by
  induction t with
  | single r => exact ⟨_, r⟩
  | tail _ _ ih => exact ih

/-- in a finite non-empty set where every element has a successor, following successors closes a cycle -/
theorem exists_cycle_of_succ (R : Nat → Nat → Prop) (L : List Nat) (hne : L ≠ [])
    (hsucc : ∀ a ∈ L, ∃ b ∈ L, R a b) : ∃ n, TG R n n := by
  obtain ⟨a0, ha0⟩ := List.exists_mem_of_ne_nil L hne
  have key : ∀ k : Nat, (∃ n, TG R n n) ∨
      ∃ h t, t.length = k ∧ (h :: t).Nodup ∧ (∀ x ∈ h :: t, x ∈ L) ∧ ∀ x ∈ t, TG R x h := by
    intro k
    induction k with
    | zero => exact Or.inr ⟨a0, [], rfl, by simp, by simpa using ha0, by simp⟩
    | succ k ih =>
      rcases ih with hc | ⟨h, t, hl, hnd, hL, hT⟩
      · exact Or.inl hc
      · obtain ⟨b, hb, hR⟩ := hsucc h (hL h (List.mem_cons_self ..))
        by_cases hbh : b = h
        · subst hbh; exact Or.inl ⟨b, .single hR⟩
        · by_cases hbt : b ∈ t
          · exact Or.inl ⟨b, .tail (hT b hbt) hR⟩
          · refine Or.inr ⟨b, h :: t, by simp [hl], ?_, ?_, ?_⟩
            · rw [List.nodup_cons]; exact ⟨by simp [hbh, hbt], hnd⟩
            · intro x hx
              rcases List.mem_cons.mp hx with rfl | hx
              · exact hb
              · exact hL x hx
            · intro x hx
              rcases List.mem_cons.mp hx with rfl | hx
              · exact .single hR
              · exact .tail (hT x hx) hR
  rcases key L.length with hc | ⟨h, t, hl, hnd, hL, _⟩
  · exact hc
  · have := List.Nodup.length_le_of_subset hnd hL
    simp only [List.length_cons, hl] at this
    omega

theorem acyclic_of_no_node {g : G} (h : g.nodes = []) : Acyclic g := by
  rintro ⟨n, t⟩
  obtain ⟨c, hc⟩ := t.first
  simp [Arc, G.outE, h, AL.find] at hc

end Dag

namespace D
open Dag

theorem mem_sinks {g : G} {n : Nat} : n ∈ sinks g ↔ ∃ r, (n, r) ∈ g.nodes ∧ r.out = [] := by
  unfold sinks
  simp only [List.mem_map, List.mem_filter]
  constructor
  · rintro ⟨⟨m, r⟩, ⟨hm, hl⟩, rfl⟩
    exact ⟨r, hm, by simpa using hl⟩
  · rintro ⟨r, hm, hr⟩
    exact ⟨(n, r), ⟨hm, by simp [hr]⟩, rfl⟩

/-- every collected node is a node -/
theorem sinks_hasNode {g : G} {n : Nat} (h : n ∈ sinks g) : g.hasNode n = true := by
  obtain ⟨r, hm, _⟩ := mem_sinks.mp h
  have : n ∈ AL.keys g.nodes := List.mem_map.mpr ⟨(n, r), hm, rfl⟩
  exact (mem_keys_iff n g.nodes).mp this

/-- a collected node has no outgoing entry -/
theorem sinks_no_out {g : G} (hs : Sorted g) {n : Nat} (h : n ∈ sinks g) (y : Nat) : g.outE n y = none := by
  obtain ⟨r, hm, hr⟩ := mem_sinks.mp h
  have hf := (mem_iff_find hs.nodes n r).mp hm
  simp [G.outE, hf, hr, AL.find]

/-- a node that was not collected has an outgoing entry -/
theorem out_of_not_sink {g : G} {n : Nat} (hn : g.hasNode n = true) (h : n ∉ sinks g) : ∃ y, Arc g n y := by
  obtain ⟨r, hf⟩ := (G.hasNode_iff g n).mp hn
  have hm := find_some_mem hf
  rcases hr : r.out with _ | ⟨⟨y, e⟩, t⟩
  · exact absurd (mem_sinks.mpr ⟨r, hm, hr⟩) h
  · exact ⟨y, by simp [Arc, G.outE, hf, hr, AL.find]⟩

theorem sinks_nodup {g : G} (hs : Sorted g) : (sinks g).Nodup := by
  have hsub : List.Sublist (sinks g) (AL.keys g.nodes) := (List.filter_sublist).map _
  have : List.Pairwise (· < ·) (sinks g) := List.Pairwise.sublist hsub hs.nodes
  exact this.imp (fun h => Nat.ne_of_lt h)

/-- what deleting the nodes `vL` one after the other did -/
structure DeletedAll (vL : List Nat) (g g' : G) : Prop where
  outE : ∀ x y, g'.outE x y = if x ∈ vL ∨ y ∈ vL then none else g.outE x y
  len_le : g'.nodes.length ≤ g.nodes.length
  len_lt : vL ≠ [] → g'.nodes.length < g.nodes.length

theorem deleted_length {g g' : G} {n : Nat} (hn : g.hasNode n = true) (d : G.Deleted n g g') :
    g'.nodes.length < g.nodes.length := by
  have hlt : ((AL.keys g.nodes).filter (· ≠ n)).length < (AL.keys g.nodes).length :=
    List.length_filter_lt_length_iff_exists.2 ⟨n, (mem_keys_iff n g.nodes).mpr hn, by simp⟩
  rw [← d.keys] at hlt
  simpa [AL.keys] using hlt

/-- deleting distinct present nodes of a consistent graph never raises -/
theorem deleteAll_spec (vL : List Nat) : ∀ {g : G}, Consistent g → (∀ n ∈ vL, g.hasNode n = true) → vL.Nodup →
    ∃ g', deleteAll vL g = some g' ∧ Consistent g' ∧ DeletedAll vL g g' := by
  induction vL with
  | nil => intro g hc _ _; exact ⟨g, rfl, hc, ⟨fun _ _ => by simp, Nat.le_refl _, fun h => absurd rfl h⟩⟩
  | cons n r ih =>
    intro g hc hn hd
    have hnn := hn n (List.mem_cons_self ..)
    obtain ⟨g1, h1, hc1, d1⟩ := G.deleteNode_spec hc hnn
    have hd' := List.nodup_cons.mp hd
    have hn1 : ∀ m ∈ r, g1.hasNode m = true := by
      intro m hm
      have : m ≠ n := fun h => hd'.1 (h ▸ hm)
      rw [d1.hasNode, hn m (List.mem_cons_of_mem _ hm)]
      simp [this]
    obtain ⟨g', h2, hc2, d2⟩ := ih hc1 hn1 hd'.2
    have hlen := deleted_length hnn d1
    have hle := d2.len_le
    refine ⟨g', by simp only [deleteAll, h1]; exact h2, hc2, ⟨fun x y => ?_, by omega, fun _ => by omega⟩⟩
    rw [d2.outE, d1.outE]
    by_cases hr : x ∈ r ∨ y ∈ r
    · rw [if_pos hr, if_pos (hr.imp (List.mem_cons_of_mem _) (List.mem_cons_of_mem _))]
    · rw [if_neg hr]
      by_cases hxy : x = n ∨ y = n
      · rw [if_pos hxy, if_pos (hxy.imp (fun e => e ▸ List.mem_cons_self ..) (fun e => e ▸ List.mem_cons_self ..))]
      · rw [if_neg hxy, if_neg]
        rintro (h | h) <;> rcases List.mem_cons.mp h with e | e
        · exact hxy (.inl e)
        · exact hr (.inl e)
        · exact hxy (.inr e)
        · exact hr (.inr e)

/-- one round of the loop on a consistent graph -/
theorem round_spec {g : G} (hc : Consistent g) :
    ∃ g', deleteAll (sinks g) g = some g' ∧ Consistent g' ∧ DeletedAll (sinks g) g g' :=
  deleteAll_spec (sinks g) hc (fun _ h => sinks_hasNode h) (sinks_nodup hc.sorted)

theorem isDALoop_succ (f : Nat) (g : G) (vL : List Nat) : isDALoop (f + 1) g vL =
    if vL.isEmpty then .ok false
    else match deleteAll vL g with
      | none => .exc
      | some g' => if g'.nodes.isEmpty then .ok true else isDALoop f g' (sinks g') := rfl

/-! ## `isDA` decides acyclicity -/

/-- removing the son-less nodes neither creates nor destroys a cycle -/
theorem acyclic_round {g g' : G} (hc : Consistent g) (d : DeletedAll (sinks g) g g') : Acyclic g ↔ Acyclic g' := by
  have hsub : ∀ a b, Arc g' a b → Arc g a b := by
    intro a b h
    unfold Arc at h ⊢
    rw [d.outE] at h
    split at h
    · simp at h
    · exact h
  have hnot : ∀ a b, Arc g a b → a ∉ sinks g := by
    intro a b h hs
    unfold Arc at h
    rw [sinks_no_out hc.sorted hs b] at h
    simp at h
  have hkeep : ∀ {a b : Nat}, TG (Arc g) a b → b ∉ sinks g → TG (Arc g') a b := by
    intro a b t
    induction t with
    | single r =>
      intro hb
      refine .single ?_
      unfold Arc; rw [d.outE]; simp only [hnot _ _ r, hb, or_self, if_false]; exact r
    | tail t r ih =>
      intro hb
      refine .tail (ih (hnot _ _ r)) ?_
      unfold Arc; rw [d.outE]; simp only [hnot _ _ r, hb, or_self, if_false]; exact r
  constructor
  · rintro h ⟨n, t⟩
    exact h ⟨n, t.mono hsub⟩
  · rintro h ⟨n, t⟩
    obtain ⟨c, hc1⟩ := t.first
    exact h ⟨n, hkeep t (hnot _ _ hc1)⟩

/-- a non-empty consistent graph in which every node has a son has a cycle -/
theorem cycle_of_no_sink {g : G} (hc : Consistent g) (hne : g.nodes ≠ []) (hs : sinks g = []) : ¬ Acyclic g := by
  intro h
  apply h
  apply exists_cycle_of_succ (Arc g) (AL.keys g.nodes)
  · intro h'; apply hne
    cases hg : g.nodes with
    | nil => rfl
    | cons p r => simp [AL.keys, hg] at h'
  · intro a ha
    have han : g.hasNode a = true := (mem_keys_iff a g.nodes).mp ha
    obtain ⟨y, hy⟩ := out_of_not_sink han (by rw [hs]; simp)
    exact ⟨y, (mem_keys_iff y g.nodes).mpr (G.arc_nodes hc hy).2, hy⟩

/-- what the loop of `isDA` does with fuel `f + 1` for every `f` not below the number of nodes: it never
raises, gives one answer, and that answer is `true` exactly when no node reaches itself -/
def LoopAnswer (g : G) (b : Bool) : Prop :=
  (∀ f, g.nodes.length ≤ f → isDALoop (f + 1) g (sinks g) = .ok b) ∧ (g.nodes ≠ [] → (b = true ↔ Acyclic g))

theorem loopAnswer_of_no_sink {g : G} (hc : Consistent g) (hs : sinks g = []) : LoopAnswer g false :=
  ⟨fun f _ => by rw [isDALoop_succ, hs]; rfl,
    fun hne => ⟨fun h => (by cases h), fun h => absurd h (cycle_of_no_sink hc hne hs)⟩⟩

/-- every round removes at least one node: induction on a bound `k` of the number of nodes -/
theorem isDALoop_spec : ∀ (k : Nat) {g : G}, Consistent g → g.nodes.length ≤ k → ∃ b, LoopAnswer g b := by
  intro k
  induction k with
  | zero =>
    intro g hc hk
    have hn : g.nodes = [] := List.eq_nil_of_length_eq_zero (Nat.le_zero.mp hk)
    exact ⟨false, loopAnswer_of_no_sink hc (by unfold sinks; rw [hn]; rfl)⟩
  | succ k ih =>
    intro g hc hk
    by_cases hs : sinks g = []
    · exact ⟨false, loopAnswer_of_no_sink hc hs⟩
    · obtain ⟨g', h1, hc', d⟩ := round_spec hc
      have hl := d.len_lt hs
      have hr := acyclic_round hc d
      have hse : (sinks g).isEmpty = false := by simpa using hs
      by_cases he : g'.nodes = []
      · refine ⟨true, fun f _ => ?_, fun _ => ⟨fun _ => hr.mpr (acyclic_of_no_node he), fun _ => rfl⟩⟩
        rw [isDALoop_succ]
        simp only [hse, h1, he, List.isEmpty_nil, Bool.false_eq_true, if_false, if_true]
      · obtain ⟨b, hb, hiff⟩ := ih hc' (Nat.le_of_lt_succ (Nat.lt_of_lt_of_le hl hk))
        have hee : g'.nodes.isEmpty = false := by simpa using he
        refine ⟨b, fun f hf => ?_, fun _ => (hiff he).trans hr.symm⟩
        obtain ⟨f, rfl⟩ : ∃ f', f = f' + 1 := Nat.exists_eq_succ_of_ne_zero (fun e => by rw [e] at hf; omega)
        rw [isDALoop_succ]
        simp only [hse, h1, hee, Bool.false_eq_true, if_false]
        exact hb f (Nat.le_of_lt_succ (Nat.lt_of_lt_of_le hl hf))

/-- on a consistent graph `isDA` answers true exactly when no node reaches itself -/
theorem isDA_iff {g : G} (hc : Consistent g) : isDA g = .ok true ↔ Acyclic g := by
  unfold isDA
  split
  · rename_i he
    exact ⟨fun _ => acyclic_of_no_node (List.isEmpty_iff.mp he), fun _ => rfl⟩
  · rename_i he
    obtain ⟨b, hb, hiff⟩ := isDALoop_spec _ hc (Nat.le_refl _)
    rw [hb _ (Nat.le_refl _), ← hiff (fun e => he (by rw [e]; rfl))]
    exact ⟨fun h => by cases h; rfl, fun h => by rw [h]⟩

end D

/-! ## invariants of the container over its histories -/

theorem consistent_setPending {g : G} (hc : Consistent g) (p : List Event) : Consistent { g with pending := p } :=
  consistent_rootPending hc _ p

/-- the graph of a DAG container: consistent and directed -/
def GInv (g : G) : Prop := Consistent g ∧ g.directed = true

theorem ginv_of {α : Type} {g : G} {r : GOut α} (h : GInv g) (hc : r.All Consistent)
    (hd : r.All (fun g' => g'.directed = g.directed)) : r.All GInv := by
  cases r with
  | ok a g' => exact ⟨hc, hd.trans h.2⟩
  | exc g' => exact ⟨hc, hd.trans h.2⟩

namespace G

theorem ginv_createNode {g : G} (h : GInv g) : (createNode g).All GInv :=
  ginv_of h (createNode_consistent h.1) (dir_createNode g)
theorem ginv_link {g : G} (h : GInv g) (a b : Nat) : (link a b g).All GInv :=
  ginv_of h (link_consistent h.1 a b) (dir_link g a b)
theorem ginv_linkE {g : G} (h : GInv g) (a b e : Nat) : (linkE a b e g).All GInv :=
  ginv_of h (linkE_consistent h.1 a b e) (dir_linkE g a b e)
theorem ginv_unlink {g : G} (h : GInv g) (a b : Nat) : (unlink a b g).All GInv :=
  ginv_of h (unlink_consistent h.1 a b) (dir_unlink h.1 a b)
theorem ginv_deleteNode {g : G} (h : GInv g) (n : Nat) : (deleteNode n g).All GInv :=
  ginv_of h (deleteNode_consistent h.1 n) (dir_deleteNode h.1 n)
theorem ginv_setRoot {g : G} (h : GInv g) (n : Nat) : (setRoot n g).All GInv :=
  ginv_of h (setRoot_consistent h.1 n) (dir_setRoot g n)

end G

/-! ### `switchNodes` and `orientate`: what they keep -/

namespace G

theorem ginv_switchNodes {g : G} (h : GInv g) (a b : Nat) : (switchNodes a b g).All GInv :=
  ginv_of h (switchNodes_consistent h.1 a b) (dir_switchNodes g a b)

theorem ginv_orientate {g : G} (h : GInv g) : (orientate g).All GInv :=
  ginv_of h (orientate_consistent h.1) (dir_orientate h.2)

/-- `orientate` on a consistent directed graph, succeeding or raising half way -/
theorem orientate_kept {g : G} (hc : Consistent g) (hd : g.directed = true) :
    (orientate g).All (fun g' => Consistent g' ∧ SwitchKept g g') := by
  apply orientate_ind
  · exact fun g1 a b h => .of_state ⟨(switchNodes_consistent h.1 a b).state, h.2.trans (switchNodes_kept h.1 a b)⟩
  · rw [makeDirected_already hd]; exact ⟨hc, SwitchKept.refl g⟩

end G

namespace D

/-- the caches never lie: a set `isValid_` means `isDA` answers true on the graph as it is now, a set
`isRooted_` means exactly one node is father-less now -/
def CacheSound (d : D) : Prop :=
  (d.valid = true → isDA d.g = .ok true) ∧ (d.rooted = true → nbFatherless d.g = 1)

/-- invariant of all histories -/
def Inv (d : D) : Prop := GInv d.g ∧ CacheSound d

theorem inv_empty : Inv D.empty := by
  refine ⟨⟨(G.check_iff _).mp (by decide +kernel), rfl⟩, ?_, ?_⟩ <;> intro h <;> cases h

theorem cacheSound_off (g : G) : CacheSound { g := g, valid := false, rooted := false } := by
  unfold CacheSound; exact ⟨(by intro h; cases h), (by intro h; cases h)⟩

/-- the caches stay sound whatever happens to the notification queue: `isDA` decides `Acyclic`, which does
not mention it -/
theorem inv_setPending {d : D} (h : Inv d) (p : List Event) : Inv { d with g := { d.g with pending := p } } :=
  ⟨⟨consistent_setPending h.1.1 p, h.1.2⟩,
    fun hv => (isDA_iff (consistent_setPending h.1.1 p)).mpr ((isDA_iff h.1.1).mp (h.2.1 hv)), h.2.2⟩

theorem inv_lift {α : Type} (d : D) (h : Inv d) (r : GOut α) (hr : r.All GInv) : Inv (d.lift r).2 := by
  unfold lift
  cases r with
  | ok a g' =>
    exact ⟨⟨consistent_setPending hr.1 _, hr.2⟩, cacheSound_off _⟩
  | exc g' =>
    by_cases hg : g' = d.g
    · simp only [hg, if_true]
      exact inv_setPending h []
    · simp only [hg, if_false]
      exact ⟨⟨consistent_setPending hr.1 _, hr.2⟩, cacheSound_off _⟩

theorem inv_lower {d : D} (h : Inv d) {v r : Bool} (hv : v = true → d.valid = true) (hr : r = true → d.rooted = true) :
    Inv { d with valid := v, rooted := r } :=
  ⟨h.1, fun e => h.2.1 (hv e), fun e => h.2.2 (hr e)⟩

theorem inv_isValid (d : D) (h : Inv d) : Inv d.isValid.2 := by
  unfold isValid
  split
  · exact h
  · rcases hr : isDA d.g with b | _ | _ | _ <;> simp only
    · refine ⟨h.1, ?_, h.2.2⟩
      intro hv
      simp only at hv
      subst hv
      exact hr
    · exact h
    · exact h
    · exact h

theorem isValid_fst {d : D} (h : d.valid = true → isDA d.g = .ok true) : d.isValid.1 = isDA d.g := by
  unfold isValid
  split
  · rename_i hv; rw [h hv]
  · rcases isDA d.g with b | _ | _ | _ <;> rfl

theorem inv_isRooted (d : D) (h : Inv d) : Inv d.isRooted.2 := by
  unfold isRooted
  split
  · exact h
  · split
    · exact h
    · refine ⟨h.1, h.2.1, ?_⟩
      intro hv
      simpa using hv

theorem getBelow_snd (e : Bool) (d : D) (n : Nat) : (d.getBelow e n).2 = d.isValid.2 := by
  unfold getBelow
  rcases hv : d.isValid with ⟨v, d'⟩
  simp only
  split <;> rfl

/-! ### re-rooting: `propagateDirection_`, `orientate`, `rootAt` -/

theorem lift_g {α : Type} (d : D) (r : GOut α) : (d.lift r).2.g = { r.state with pending := [] } := by
  cases r <;> rfl

theorem isValid_g (d : D) : d.isValid.2.g = d.g := by
  unfold isValid
  split
  · rfl
  · rcases isDA d.g with b | _ | _ | _ <;> rfl

theorem isRooted_g (d : D) : d.isRooted.2.g = d.g := by
  unfold isRooted
  split
  · rfl
  · split <;> rfl

theorem andThen_ind {α β : Type} (P : D → Prop) (r : GOut α × D) (f : α → D → GOut β × D) (h : P r.2)
    (hf : ∀ a d', P d' → P (f a d').2) : P (andThen r f).2 := by
  unfold andThen
  split
  · exact hf _ _ h
  · exact h

/-- whatever holds of the container and is kept by a `switchNodes` call (succeeding or raising, with its
`topologyHasChanged_`) holds after `propagateDirection_`, whether it succeeded or raised half way -/
theorem propagate_ind (P : D → Prop) (hP : ∀ d a b, P d → P (d.lift (d.g.switchNodes a b)).2) :
    ∀ (fuel : Nat) (d : D) (n : Nat) (r : GOut Unit × D), P d → propagate fuel d n = .ok r → P r.2 := by
  intro fuel
  induction fuel with
  | zero => intro d n r _ hr; simp only [propagate] at hr; cases hr
  | succ fuel ih =>
    intro d n r h hr
    simp only [propagate] at hr
    split at hr
    · injection hr with hr; subst hr; exact h
    · rename_i fats _
      -- the first loop: the recursive calls, each on the container the former ones left
      have h1 := foldl_ind (fun acc : TRes (GOut Unit × D) => ∀ p, acc = .ok p → P p.2)
        (fun acc f => match acc with
          | .ok (.ok _ _, d') => propagate fuel d' f
          | other => other)
        (by
          intro acc f hacc p hp
          split at hp
          · exact ih _ _ _ (hacc _ rfl) hp
          · exact hacc _ hp)
        fats (.ok (.ok () d.g, d)) (by intro p hp; injection hp with hp; subst hp; exact h)
      split at hr
      · rename_i u g1 d1 heq
        have hd1 : P d1 := h1 _ heq
        injection hr with hr
        subst hr
        -- the second loop: one `switchNodes` per father
        exact foldl_ind (fun acc : GOut Unit × D => P acc.2) _
          (fun acc f hacc => andThen_ind P acc _ hacc (fun _ d' h' => hP d' f n h')) fats _ hd1
      · exact h1 _ hr

/-- `rootAt` once its `setRoot` has succeeded -/
def rootAtRest (d1 : D) (n : Nat) : TRes (GOut Unit × D) :=
  let (r, d2) := d1.isRooted
  if r then
    let (v, d3) := d2.isValid
    match v with
    | .ok true => propagate (propagateFuel d3.g) d3 n
    | .ok false => .ok d3.orient
    | .exc => .ok (.exc d3.g, d3)
    | .fuel => .fuel
    | .ub => .ub
  else .ok d2.orient

theorem rootAt_eq (d : D) (n : Nat) : d.rootAt n =
    match d.setRoot n with
    | (.exc g, d1) => .ok (.exc g, d1)
    | (.ok _ _, d1) => rootAtRest d1 n := by
  unfold rootAt rootAtRest
  rfl

theorem rootAtRest_ind (P : D → Prop) (hsw : ∀ d a b, P d → P (d.lift (d.g.switchNodes a b)).2)
    (hR : ∀ d, P d → P d.isRooted.2) (hV : ∀ d, P d → P d.isValid.2) (hO : ∀ d, P d → P d.orient.2)
    (d1 : D) (n : Nat) (r : GOut Unit × D) (h : P d1) (hr : rootAtRest d1 n = .ok r) : P r.2 := by
  unfold rootAtRest at hr
  have h2 := hR d1 h
  rcases hq : d1.isRooted with ⟨b, d2⟩
  rw [hq] at hr h2
  simp only at hr h2
  split at hr
  · have h3 := hV d2 h2
    rcases hv : d2.isValid with ⟨v, d3⟩
    rw [hv] at hr h3
    simp only at hr h3
    split at hr
    · exact propagate_ind P hsw _ _ _ _ h3 hr
    · injection hr with hr; subst hr; exact hO _ h3
    · injection hr with hr; subst hr; exact h3
    · cases hr
    · cases hr
  · injection hr with hr; subst hr; exact hO _ h2

/-- whatever holds of the container and is kept by `setRoot`, the two cache-writing queries, a
`switchNodes` call and `orientate()` holds after `rootAt`, succeeding or raising -/
theorem rootAt_ind (P : D → Prop) (hsw : ∀ d a b, P d → P (d.lift (d.g.switchNodes a b)).2)
    (hR : ∀ d, P d → P d.isRooted.2) (hV : ∀ d, P d → P d.isValid.2) (hO : ∀ d, P d → P d.orient.2)
    (hS : ∀ d n, P d → P (d.setRoot n).2)
    (d : D) (n : Nat) (r : GOut Unit × D) (h : P d) (hr : d.rootAt n = .ok r) : P r.2 := by
  rw [rootAt_eq] at hr
  have hs := hS d n h
  rcases hq : d.setRoot n with ⟨o, d1⟩
  rw [hq] at hr hs
  cases o with
  | ok u g1 => exact rootAtRest_ind P hsw hR hV hO d1 n r hs hr
  | exc g1 => simp only at hr; injection hr with hr; subst hr; exact hs

theorem inv_switch (d : D) (h : Inv d) (a b : Nat) : Inv (d.lift (d.g.switchNodes a b)).2 :=
  inv_lift d h _ (G.ginv_switchNodes h.1 a b)

/-- the container after `orient`: either some `switchNodes` succeeded — the graph `orientate` left, both flags
reset — or the container as it was (queue emptied) -/
theorem orient_cases (d : D) :
    d.orient.2 = { g := { d.g.orientRun.g with pending := [] }, valid := false, rooted := false } ∨
    d.orient.2 = { d with g := { d.g with pending := [] } } := by
  unfold orient
  simp only
  split
  · exact .inl rfl
  · exact .inr rfl

theorem orient_pending (d : D) : d.orient.2.g.pending = [] := by
  rcases orient_cases d with h | h <;> rw [h]

/-- what holds of the state `orientate` leaves in both outcomes holds of the graph of the run -/
theorem _root_.Bpp.Graph.G.orientRun_of_all {P : G → Prop} {g : G} (h : (G.orientate g).All P) : P g.orientRun.g := by
  unfold G.orientate at h
  simp only at h
  split at h <;> exact h

theorem inv_orient (d : D) (h : Inv d) : Inv d.orient.2 := by
  rcases orient_cases d with ho | ho <;> rw [ho]
  · have h1 := G.orientRun_of_all (G.ginv_orientate h.1)
    exact ⟨⟨consistent_setPending h1.1 _, h1.2⟩, cacheSound_off _⟩
  · exact inv_setPending h []

theorem inv_propagate : ∀ (fuel : Nat) (d : D) (n : Nat) (r : GOut Unit × D), Inv d → propagate fuel d n = .ok r → Inv r.2 :=
  propagate_ind Inv (fun d a b h => inv_switch d h a b)

theorem inv_rootAt (d : D) (h : Inv d) (n : Nat) (r : GOut Unit × D) (hr : d.rootAt n = .ok r) : Inv r.2 :=
  rootAt_ind Inv (fun d a b h => inv_switch d h a b) inv_isRooted inv_isValid inv_orient
    (fun d n h => inv_lift d h _ (G.ginv_setRoot h.1 n)) d n r h hr

/-- **induction over the members of the container**: whatever holds of the container and is kept by a lifted graph
operation that leaves a consistent directed graph, by lowering the cached flags, by the two cache-writing
queries and by `orientate()` is kept by every member of `DOp`, succeeding or raising -/
theorem step_ind (P : D → Prop)
    (hlift : ∀ (d : D) {α : Type} (r : GOut α), P d → (GInv d.g → r.All GInv) → P (d.lift r).2)
    (hlow : ∀ (d : D) (v r : Bool), P d → (v = true → d.valid = true) → (r = true → d.rooted = true) →
      P { d with valid := v, rooted := r })
    (hV : ∀ d, P d → P d.isValid.2) (hR : ∀ d, P d → P d.isRooted.2) (hO : ∀ d, P d → P d.orient.2)
    (d : D) (h : P d) (op : DOp) : P (d.step op) := by
  have hlink : ∀ d a b, P d → P (d.link a b).2 := fun d a b h => hlift d _ h (fun hg => G.ginv_link hg a b)
  have hlinkE : ∀ d a b e, P d → P (d.linkE a b e).2 := fun d a b e h => hlift d _ h (fun hg => G.ginv_linkE hg a b e)
  have hunlink : ∀ d a b, P d → P (d.unlink a b).2 := fun d a b h => hlift d _ h (fun hg => G.ginv_unlink hg a b)
  have htouch : ∀ r : GOut Unit × D, P r.2 → P (touch r).2 := by
    intro r h
    unfold touch
    split
    · exact hlow r.2 false false h nofun nofun
    · exact h
  have hremoveFather : ∀ d n f, P d → P (d.removeFather n f).2 := by
    intro d n f h
    unfold removeFather
    split
    · exact h
    · dsimp only
      split
      · exact hunlink _ f n (hlow d d.valid false h id nofun)
      · exact hunlink d f n h
  -- a snapshot of neighbours, then one member call per neighbour, stopping at the first that raises
  have hall : ∀ (F : D → Nat → GOut Unit × D), (∀ d s, P d → P (F d s).2) → ∀ l : List Nat,
      P (l.foldl (fun acc s => andThen acc (fun _ d' => F d' s)) (.ok () d.g, d)).2 := fun F hF l =>
    foldl_ind (fun acc : GOut Unit × D => P acc.2) _
      (fun acc s hacc => andThen_ind P acc _ hacc (fun _ d' h' => hF d' s h')) l _ h
  cases op with
  | createNode => exact hlift d _ h (fun hg => G.ginv_createNode hg)
  | link a b => exact hlink d a b h
  | linkE a b e => exact hlinkE d a b e h
  | unlink a b => exact hunlink d a b h
  | deleteNode n => exact hlift d _ h (fun hg => G.ginv_deleteNode hg n)
  | setRoot n => exact hlift d _ h (fun hg => G.ginv_setRoot hg n)
  | addSon n s => exact htouch _ (hlink d n s h)
  | addSonE n s e => exact htouch _ (hlinkE d n s e h)
  | addFather n f => exact htouch _ (hlink d f n h)
  | addFatherE n f e => exact htouch _ (hlinkE d f n e h)
  | removeSon n s => exact hunlink d n s h
  | removeFather n f => exact hremoveFather d n f h
  | removeSons n =>
    show P (d.removeSons n).2
    unfold removeSons
    split
    · exact h
    · rename_i sons _
      have := hall (fun d' s => d'.removeSon n s) (fun d' s h' => hunlink d' n s h') sons
      dsimp only
      split <;> exact this
  | removeFathers n =>
    show P (d.removeFathers n).2
    unfold removeFathers
    split
    · exact h
    · rename_i fs _
      have := hall (fun d' f => d'.removeFather n f) (fun d' f h' => hremoveFather d' n f h') fs
      dsimp only
      split <;> exact this
  | isValid => exact hV d h
  | isRooted => exact hR d h
  | getBelow e n => show P (d.getBelow e n).2; rw [getBelow_snd]; exact hV d h
  | rootAt n =>
    show P (match d.rootAt n with | .ok r => r.2 | _ => d)
    split
    · rename_i r hr
      exact rootAt_ind P (fun d a b h => hlift d _ h (fun hg => G.ginv_switchNodes hg a b)) hR hV hO
        (fun d n h => hlift d _ h (fun hg => G.ginv_setRoot hg n)) d n r h hr
    · exact h

theorem inv_step (d : D) (h : Inv d) (op : DOp) : Inv (d.step op) :=
  step_ind Inv (fun d _ r h hr => inv_lift d h r (hr h.1)) (fun _ _ _ h hv hr => inv_lower h hv hr)
    inv_isValid inv_isRooted inv_orient d h op

theorem inv_run (ops : List DOp) : ∀ d, Inv d → Inv (d.run ops) :=
  foldl_ind Inv step (fun d op h => inv_step d h op) ops

/-! ### the notification queue of the container is always empty -/

theorem lift_pending {α : Type} (d : D) (r : GOut α) : (d.lift r).2.g.pending = [] := by
  cases r <;> rfl

theorem pending_step (d : D) (h : d.g.pending = []) (op : DOp) : (d.step op).g.pending = [] :=
  step_ind (fun d => d.g.pending = []) (fun d _ r _ _ => lift_pending d r) (fun _ _ _ h _ _ => h)
    (fun d h => by rw [isValid_g]; exact h) (fun d h => by rw [isRooted_g]; exact h) (fun d _ => orient_pending d) d h op

/-- no notification is ever left pending in a reachable container -/
theorem pending_run (ops : List DOp) : ∀ d : D, d.g.pending = [] → (d.run ops).g.pending = [] :=
  foldl_ind (fun d : D => d.g.pending = []) step (fun d op h => pending_step d h op) ops

/-! ### `rootAt` keeps the nodes and the undirected edges -/

/-- consistent, directed, quiet, and with the nodes, undirected edges and root of `g0` -/
def ShapeInv (g0 : G) (d : D) : Prop := GInv d.g ∧ d.g.pending = [] ∧ SwitchKept g0 d.g

theorem shape_lift {α : Type} {g0 : G} (d : D) (r : GOut α) (hg : GInv r.state) (hk : SwitchKept g0 r.state) :
    ShapeInv g0 (d.lift r).2 := by
  rw [ShapeInv, lift_g]
  exact ⟨⟨consistent_setPending hg.1 _, hg.2⟩, rfl, hk.setPending _⟩

theorem shape_switch {g0 : G} (d : D) (a b : Nat) (h : ShapeInv g0 d) : ShapeInv g0 (d.lift (d.g.switchNodes a b)).2 :=
  shape_lift d _ (G.ginv_switchNodes h.1 a b).state (h.2.2.trans (G.switchNodes_kept h.1.1 a b))

theorem shape_orient {g0 : G} (d : D) (h : ShapeInv g0 d) : ShapeInv g0 d.orient.2 := by
  rcases orient_cases d with ho | ho <;> rw [ho]
  · have h1 := G.orientRun_of_all (G.ginv_orientate h.1)
    have h2 := G.orientRun_of_all (G.orientate_kept h.1.1 h.1.2)
    exact ⟨⟨consistent_setPending h1.1 _, h1.2⟩, rfl, (h.2.2.trans h2.2).setPending _⟩
  · exact ⟨⟨consistent_setPending h.1.1 _, h.1.2⟩, rfl, h.2.2.setPending _⟩

theorem setPending_self {g : G} (h : g.pending = []) : ({ g with pending := [] } : G) = g := by
  cases g; simp only at h; subst h; rfl

/-- **`rootAt` and the shape of the graph**: on a consistent directed graph (whatever the cached flags say),
succeeding or raising half way, `rootAt` leaves a consistent directed graph with the nodes and the undirected edges
with their ids; unless `setRoot` raised (absent node: nothing changed) the root is the node asked for -/
theorem rootAt_shape (d : D) (h : GInv d.g) (hp : d.g.pending = []) (n : Nat) (r : GOut Unit × D)
    (hr : d.rootAt n = .ok r) :
    GInv r.2.g ∧ SameShape d.g r.2.g ∧ (d.g.hasNode n = true → r.2.g.root = n) ∧
      (d.g.hasNode n = false → r.2.g = d.g ∧ ∃ g', r.1 = .exc g') := by
  rw [rootAt_eq] at hr
  cases hn : d.g.hasNode n
  · have hs : d.setRoot n = (.exc d.g, d) := by
      simp only [setRoot, G.setRoot, hn, Bool.false_eq_true, if_false, lift, if_true, setPending_self hp]
    rw [hs] at hr
    simp only at hr
    injection hr with hr
    subst hr
    exact ⟨h, ⟨rfl, rfl, hp⟩, fun h' => (by cases h'), fun _ => ⟨rfl, _, rfl⟩⟩
  · have hs : d.setRoot n = (.ok () { d.g with root := n, pending := [] },
        { g := { d.g with root := n, pending := [] }, valid := false, rooted := false }) := by
      simp only [setRoot, G.setRoot, hn, if_true, lift]
    rw [hs] at hr
    simp only at hr
    have h0 : ShapeInv { d.g with root := n, pending := [] }
        { g := { d.g with root := n, pending := [] }, valid := false, rooted := false } :=
      ⟨⟨consistent_rootPending h.1 _ _, h.2⟩, rfl, SwitchKept.refl _⟩
    have h1 : ShapeInv { d.g with root := n, pending := [] } r.2 :=
      rootAtRest_ind (ShapeInv { d.g with root := n, pending := [] }) (fun d a b h => shape_switch d a b h)
        (fun d h => by unfold ShapeInv; rw [isRooted_g]; exact h) (fun d h => by unfold ShapeInv; rw [isValid_g]; exact h)
        shape_orient _ n r h0 hr
    exact ⟨h1.1, ⟨h1.2.2.keys, h1.2.2.uedges, h1.2.1⟩, fun _ => h1.2.2.root, fun h' => (by cases h')⟩

end D

/-! ## the reference decision `isAcyclicRef` (transitive closure on the edge table) -/
namespace Dag

/-- a loop whose step adds to the accumulator exactly the elements related to the current item -/
theorem mem_foldl_of_step {α β : Type} (s : List β → α → List β) (R : α → β → Prop)
    (hs : ∀ acc a x, x ∈ s acc a ↔ x ∈ acc ∨ R a x) :
    ∀ (l : List α) (acc : List β) (x : β), x ∈ l.foldl s acc ↔ x ∈ acc ∨ ∃ a ∈ l, R a x := by
  intro l
  induction l with
  | nil => intro acc x; simp
  | cons a r ih =>
    intro acc x
    rw [List.foldl_cons, ih, hs]
    simp only [List.mem_cons, exists_eq_or_imp, or_assoc]

/-- the inner step of `closeStep`: the pair `(p.1, q.2)` is added when `q` continues `p`, unless it is there -/
theorem mem_closeAdd (p : Nat × Nat) (acc : List (Nat × Nat)) (q x : Nat × Nat) :
    x ∈ (if q.1 == p.2 && !acc.contains (p.1, q.2) then (p.1, q.2) :: acc else acc) ↔
      x ∈ acc ∨ (q.1 = p.2 ∧ x = (p.1, q.2)) := by
  by_cases hq : q.1 = p.2
  · by_cases hc : (p.1, q.2) ∈ acc
    · have : (q.1 == p.2 && !acc.contains (p.1, q.2)) = false := by simp [hq, hc]
      simp only [this, Bool.false_eq_true, if_false]
      exact ⟨.inl, fun h => h.elim id (fun h => h.2 ▸ hc)⟩
    · have : (q.1 == p.2 && !acc.contains (p.1, q.2)) = true := by simp [hq, hc]
      simp only [this, if_true, List.mem_cons]
      exact ⟨fun h => h.elim (fun e => .inr ⟨hq, e⟩) .inl, fun h => h.elim .inr (fun h => .inl h.2)⟩
  · have : (q.1 == p.2 && !acc.contains (p.1, q.2)) = false := by simp [hq]
    simp only [this, Bool.false_eq_true, if_false]
    exact ⟨.inl, fun h => h.elim id (fun h => absurd h.1 hq)⟩

/-- `j` more edges appended to a pair of `cl` -/
def ClExt (es cl : List (Nat × Nat)) : Nat → Nat × Nat → Prop
  | 0, x => x ∈ cl
  | j + 1, x => ∃ b, ClExt es cl j (x.1, b) ∧ (b, x.2) ∈ es

theorem mem_closeStep (es cl : List (Nat × Nat)) (x : Nat × Nat) :
    x ∈ closeStep es cl ↔ ClExt es cl 0 x ∨ ClExt es cl 1 x := by
  unfold closeStep
  rw [mem_foldl_of_step _ (fun p x => ∃ q ∈ es, q.1 = p.2 ∧ x = (p.1, q.2))
    (fun acc p x => mem_foldl_of_step _ _ (mem_closeAdd p) es acc x)]
  simp only [ClExt]
  constructor
  · rintro (h | ⟨p, hp, q, hq, h1, h2⟩)
    · exact Or.inl h
    · refine Or.inr ⟨p.2, ?_, ?_⟩
      · rw [h2]; exact hp
      · rw [h2, ← h1]; exact hq
  · rintro (h | ⟨b, h1, h2⟩)
    · exact Or.inl h
    · exact Or.inr ⟨(x.1, b), h1, (b, x.2), h2, rfl, rfl⟩

theorem ext_closeStep (es cl : List (Nat × Nat)) : ∀ (j : Nat) (x : Nat × Nat),
    ClExt es (closeStep es cl) j x ↔ ClExt es cl j x ∨ ClExt es cl (j + 1) x := by
  intro j
  induction j with
  | zero => intro x; exact mem_closeStep es cl x
  | succ j ih =>
    intro x
    constructor
    · rintro ⟨b, h1, h2⟩
      rcases (ih _).mp h1 with h | h
      · exact Or.inl ⟨b, h, h2⟩
      · exact Or.inr ⟨b, h, h2⟩
    · rintro (⟨b, h1, h2⟩ | ⟨b, h1, h2⟩)
      · exact ⟨b, (ih _).mpr (Or.inl h1), h2⟩
      · exact ⟨b, (ih _).mpr (Or.inr h1), h2⟩

theorem mem_closure (es : List (Nat × Nat)) : ∀ (k : Nat) (cl : List (Nat × Nat)) (x : Nat × Nat),
    x ∈ closure es k cl ↔ ∃ j, j ≤ k ∧ ClExt es cl j x := by
  intro k
  induction k with
  | zero =>
    intro cl x
    simp only [closure]
    constructor
    · intro h; exact ⟨0, Nat.le_refl _, h⟩
    · rintro ⟨j, hj, h⟩
      have : j = 0 := by omega
      subst this; exact h
  | succ k ih =>
    intro cl x
    simp only [closure]
    rw [ih]
    constructor
    · rintro ⟨j, hj, h⟩
      rcases (ext_closeStep es cl j x).mp h with h | h
      · exact ⟨j, by omega, h⟩
      · exact ⟨j + 1, by omega, h⟩
    · rintro ⟨j, hj, h⟩
      cases j with
      | zero => exact ⟨0, by omega, (ext_closeStep es cl 0 x).mpr (Or.inl h)⟩
      | succ j => exact ⟨j, by omega, (ext_closeStep es cl j x).mpr (Or.inr h)⟩

/-- a walk from `a` to `c`; `l` lists, last first, every vertex but the final `c` -/
inductive WalkL (E : Nat → Nat → Prop) : Nat → List Nat → Nat → Prop
  | one {a b : Nat} : E a b → WalkL E a [a] b
  | snoc {a b c : Nat} {l : List Nat} : WalkL E a l b → E b c → WalkL E a (b :: l) c

theorem WalkL.tg {E : Nat → Nat → Prop} {a c : Nat} {l : List Nat} (w : WalkL E a l c) : TG E a c := by
  induction w with
  | one h => exact .single h
  | snoc _ h ih => exact .tail ih h

theorem TG.walk {E : Nat → Nat → Prop} {a c : Nat} (t : TG E a c) : ∃ l, WalkL E a l c := by
  induction t with
  | single h => exact ⟨_, .one h⟩
  | tail _ h ih => obtain ⟨l, w⟩ := ih; exact ⟨_, .snoc w h⟩

theorem WalkL.source {E : Nat → Nat → Prop} {a c : Nat} {l : List Nat} (w : WalkL E a l c) :
    ∀ x ∈ l, ∃ y, E x y := by
  induction w with
  | one h => intro x hx; simp at hx; subst hx; exact ⟨_, h⟩
  | snoc _ h ih =>
    intro x hx
    rcases List.mem_cons.mp hx with rfl | hx
    · exact ⟨_, h⟩
    · exact ih x hx

/-- the rest of the walk from any visited vertex -/
theorem WalkL.suffix {E : Nat → Nat → Prop} {a c : Nat} {l : List Nat} (w : WalkL E a l c) :
    ∀ x ∈ l, ∃ l', WalkL E x l' c ∧ l'.length ≤ l.length := by
  induction w with
  | one h => intro x hx; simp at hx; subst hx; exact ⟨_, .one h, Nat.le_refl _⟩
  | snoc _ h ih =>
    intro x hx
    rcases List.mem_cons.mp hx with rfl | hx
    · exact ⟨_, .one h, by simp⟩
    · obtain ⟨l', w', hl⟩ := ih x hx
      exact ⟨_, .snoc w' h, by simp; omega⟩

/-- a walk that visits a vertex twice contains a strictly shorter cycle -/
theorem WalkL.shorter {E : Nat → Nat → Prop} {a c : Nat} {l : List Nat} (w : WalkL E a l c) :
    ¬ l.Nodup → ∃ x l', WalkL E x l' x ∧ l'.length < l.length := by
  induction w with
  | one h => intro hn; exact absurd (by simp) hn
  | @snoc b c l w h ih =>
    intro hn
    by_cases hb : b ∈ l
    · obtain ⟨l', w', hl⟩ := w.suffix b hb
      exact ⟨b, l', w', by simp; omega⟩
    · have : ¬ l.Nodup := fun h' => hn (List.nodup_cons.mpr ⟨hb, h'⟩)
      obtain ⟨x, l', w', hl⟩ := ih this
      exact ⟨x, l', w', by simp; omega⟩

/-- a cycle contains a cycle without repeated vertex -/
theorem WalkL.simple_cycle {E : Nat → Nat → Prop} : ∀ (n : Nat) {a : Nat} {l : List Nat}, WalkL E a l a → l.length ≤ n →
    ∃ x l', WalkL E x l' x ∧ l'.Nodup := by
  intro n
  induction n with
  | zero =>
    intro a l w hl
    cases w <;> simp at hl
  | succ n ih =>
    intro a l w hl
    by_cases hn : l.Nodup
    · exact ⟨a, l, w, hn⟩
    · obtain ⟨x, l', w', hl'⟩ := w.shorter hn
      exact ih w' (by omega)

theorem ext_walk (es : List (Nat × Nat)) (a : Nat) : ∀ (j c : Nat), ClExt es es j (a, c) →
    ∃ l, l.length = j + 1 ∧ WalkL (fun a b => (a, b) ∈ es) a l c := by
  intro j
  induction j with
  | zero => intro c h; exact ⟨[a], rfl, .one h⟩
  | succ j ih =>
    rintro c ⟨b, h1, h2⟩
    obtain ⟨l, hl, w⟩ := ih b h1
    exact ⟨b :: l, by simp [hl], .snoc w h2⟩

theorem walk_ext (es : List (Nat × Nat)) {a c : Nat} {l : List Nat} (w : WalkL (fun a b => (a, b) ∈ es) a l c) :
    ∃ j, l.length = j + 1 ∧ ClExt es es j (a, c) := by
  induction w with
  | one h => exact ⟨0, rfl, h⟩
  | snoc _ h ih =>
    obtain ⟨j, hl, hj⟩ := ih
    exact ⟨j + 1, by simp [hl], ⟨_, hj, h⟩⟩

/-- on a consistent directed graph the pairs of the edge table are the arcs of the node table -/
theorem mem_edgePairs {g : G} (hc : Consistent g) (hd : g.directed = true) (a b : Nat) :
    (a, b) ∈ g.edges.map (fun p => (p.2.1, p.2.2)) ↔ Arc g a b := by
  rw [List.mem_map]
  constructor
  · rintro ⟨⟨e, a', b'⟩, hm, he⟩
    cases he
    exact arc_of_out ((G.mem_edges_iff_out hc hd e a' b').1 hm)
  · intro h
    obtain ⟨e, ho⟩ := out_of_arc h
    exact ⟨(e, a, b), (G.mem_edges_iff_out hc hd e a b).2 ho, rfl⟩

/-- **the reference decision agrees with `Acyclic`** -/
theorem isAcyclicRef_iff_acyclic (g : G) (hc : Consistent g) (hd : g.directed = true) :
    isAcyclicRef g = true ↔ Acyclic g := by
  let es := g.edges.map (fun p => (p.2.1, p.2.2))
  let E : Nat → Nat → Prop := fun a b => (a, b) ∈ es
  have hE : ∀ a b, E a b ↔ Arc g a b := mem_edgePairs hc hd
  have hcl : isAcyclicRef g = true ↔ ¬ ∃ x, (x, x) ∈ closure es g.nodes.length es := by
    unfold isAcyclicRef
    simp only [Bool.not_eq_true', ← Bool.not_eq_true, List.any_eq_true, beq_iff_eq]
    constructor
    · rintro h ⟨x, hx⟩; exact h ⟨(x, x), hx, rfl⟩
    · rintro h ⟨⟨x, y⟩, hx, hxy⟩
      simp only at hxy; subst hxy
      exact h ⟨x, hx⟩
  rw [hcl]
  unfold Acyclic
  apply not_congr
  constructor
  · rintro ⟨x, hx⟩
    obtain ⟨j, _, hj⟩ := (mem_closure es _ _ _).mp hx
    obtain ⟨l, _, w⟩ := ext_walk es x j x hj
    exact ⟨x, w.tg.mono (fun a b h => (hE a b).mp h)⟩
  · rintro ⟨n, t⟩
    have t' : TG E n n := t.mono (fun a b h => (hE a b).mpr h)
    obtain ⟨l, w⟩ := t'.walk
    obtain ⟨x, l', w', hnd⟩ := WalkL.simple_cycle l.length w (Nat.le_refl _)
    have hsub : ∀ y ∈ l', y ∈ AL.keys g.nodes := by
      intro y hy
      obtain ⟨z, hz⟩ := w'.source y hy
      exact (mem_keys_iff y g.nodes).mpr (G.arc_nodes hc ((hE y z).mp hz)).1
    have hlen := List.Nodup.length_le_of_subset hnd hsub
    have hk : (AL.keys g.nodes).length = g.nodes.length := by simp [AL.keys]
    obtain ⟨j, hl, hj⟩ := walk_ext es w'
    exact ⟨x, (mem_closure es _ _ _).mpr ⟨j, by omega, hj⟩⟩

end Dag

end Graph
end Bpp
