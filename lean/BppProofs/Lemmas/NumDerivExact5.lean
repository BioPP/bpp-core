import BppProofs.Lemmas.NumDerivExact
import BppProofs.Lemmas.NumDerivUpdate
/-!
C12 helper lemmas: what the loops over `variables_` and `updateDerivatives` store when the
wrapped function's side carries no constraint (`FreeFn`): `storeAll` of the arrays, with, for each
selected variable of the list, the formula of the path its probing takes (`update{2,3,5}_paths`); one
selected variable and the path without a refused probe are special cases.
-/
namespace Bpp.NumDeriv
open Bpp Bpp.Scalar

/-- what a loop over `variables_` that writes `D v` at the index of each listed variable makes of an
array -/
def storeAll (params : PList ℝ) (D : Name → DVal ℝ) : List Name → Nat → List (DVal ℝ) → List (DVal ℝ)
  | [], _, a => a
  | v :: vs, i, a => storeAll params D vs (i + 1) (if has params v then setAt a i (D v) else a)

theorem storeAll_length (params : PList ℝ) (D : Name → DVal ℝ) (vs : List Name) (i : Nat) (a : List (DVal ℝ)) :
    (storeAll params D vs i a).length = a.length := by
  fun_induction storeAll params D vs i a with
  | case1 => rfl
  | case2 v vs i a ih => rw [ih]; split; exact setAt_length _ _ _; rfl

/-- the entries before the first index are not touched -/
theorem storeAll_get_lt (params : PList ℝ) (D : Name → DVal ℝ) (vs : List Name) (i : Nat) (a : List (DVal ℝ)) (j : Nat)
    (hj : j < i) : (storeAll params D vs i a)[j]? = a[j]? := by
  fun_induction storeAll params D vs i a with
  | case1 => rfl
  | case2 v vs i a ih =>
    rw [ih (by omega)]
    split
    · unfold setAt; exact List.getElem?_set_ne (by omega)
    · rfl

/-- the entry of the `k`-th variable, when it is listed: later iterations write at later indices -/
theorem storeAll_get (params : PList ℝ) (D : Name → DVal ℝ) (vs : List Name) (i : Nat) (a : List (DVal ℝ)) (k : Nat)
    (hk : k < vs.length) (hhk : has params vs[k] = true) (hlen : i + k < a.length) :
    (storeAll params D vs i a)[i + k]? = some (D vs[k]) := by
  fun_induction storeAll params D vs i a generalizing k with
  | case1 => simp at hk
  | case2 v vs i a ih =>
    cases k with
    | zero =>
      simp only [List.getElem_cons_zero, Nat.add_zero] at hhk hlen ⊢
      rw [storeAll_get_lt _ _ _ _ _ i (by omega), if_pos hhk]
      unfold setAt; exact List.getElem?_set_self hlen
    | succ k =>
      have e : i + (k + 1) = i + 1 + k := by omega
      simp only [List.getElem_cons_succ, e] at hhk ⊢
      exact ih k (by simpa using hk) hhk (by split <;> (try rw [setAt_length]) <;> omega)

theorem storeAll_get_zero (params : PList ℝ) (D : Name → DVal ℝ) (vs : List Name) (a : List (DVal ℝ))
    (hl : a.length = vs.length) (k : Nat) (hk : k < vs.length) (hhk : has params vs[k] = true) :
    (storeAll params D vs 0 a)[k]? = some (D vs[k]) := by
  simpa using storeAll_get params D vs 0 a k hk hhk (by omega)

/-- a loop whose iteration, for a listed variable with `P`, keeps `Inv`, does not raise and writes
`D v` at its index of the array `get`: it does not raise and makes `storeAll` of the array -/
theorem loopGo_stores {params : PList ℝ} (step : Loop ℝ → Nat → Name → Loop ℝ × Option Exc) (Inv : Loop ℝ → Prop)
    (P : Name → Prop) (get : W ℝ → List (DVal ℝ)) (D : Name → DVal ℝ)
    (hstep : ∀ lp i v, Inv lp → lp.lastVar ≠ some v → has params v = true → P v →
      (step lp i v).2 = none ∧ Inv (step lp i v).1 ∧ (step lp i v).1.lastVar = some v ∧
      get (step lp i v).1.w = setAt (get lp.w) i (D v))
    (hskip : ∀ lp i v, has params v = false → step lp i v = (lp, none))
    (vs : List Name) (i0 : Nat) (lp : Loop ℝ) : Inv lp → (∀ l, lp.lastVar = some l → l ∉ vs) → vs.Nodup →
      (∀ v ∈ vs, has params v = true → P v) →
      (loopGo step vs i0 lp).2 = none ∧ Inv (loopGo step vs i0 lp).1 ∧
      get (loopGo step vs i0 lp).1.w = storeAll params D vs i0 (get lp.w) := by
  -- what one iteration does, listed variable or not
  have hone : ∀ (lp lp' : Loop ℝ) (i : Nat) (v : Name) (vs : List Name) (e : Option Exc), step lp i v = (lp', e) → Inv lp →
      (∀ l, lp.lastVar = some l → l ∉ v :: vs) → (v :: vs).Nodup → (has params v = true → P v) →
      e = none ∧ Inv lp' ∧ (∀ l, lp'.lastVar = some l → l ∉ vs) ∧
      get lp'.w = if has params v then setAt (get lp.w) i (D v) else get lp.w := by
    intro lp lp' i v vs e hs hI hlast hnd hP
    by_cases hhas : has params v = true
    · obtain ⟨s1, s2, s3, s4⟩ := hstep lp i v hI (fun e => hlast v e (List.mem_cons_self ..)) hhas (hP hhas)
      rw [hs] at s1 s2 s3 s4
      refine ⟨s1, s2, fun l hl => ?_, by rw [if_pos hhas]; exact s4⟩
      rw [s3] at hl; injection hl with hl; subst hl; exact (List.nodup_cons.mp hnd).1
    · rw [hskip lp i v (by simpa using hhas)] at hs
      injection hs with h1 h2; subst h1
      exact ⟨h2.symm, hI, fun l hl hm => hlast l hl (List.mem_cons_of_mem _ hm), by rw [if_neg hhas]⟩
  fun_induction loopGo step vs i0 lp with
  | case1 => exact fun hI _ _ _ => ⟨rfl, hI, rfl⟩
  | case2 v vs i lp lp' e hs =>
    intro hI hlast hnd hin
    exact absurd (hone lp lp' i v vs _ hs hI hlast hnd (hin v (List.mem_cons_self ..))).1 (by simp)
  | case3 v vs i lp lp' hs ih =>
    intro hI hlast hnd hin
    obtain ⟨_, s2, s3, s4⟩ := hone lp lp' i v vs _ hs hI hlast hnd (hin v (List.mem_cons_self ..))
    obtain ⟨r1, r2, r3⟩ := ih s2 s3 (List.nodup_cons.mp hnd).2 (fun x hx => hin x (List.mem_cons_of_mem _ hx))
    exact ⟨r1, r2, by rw [r3, s4]; rfl⟩

theorem stepOf_skip (s : Scheme) (f : List ℝ → ℝ) (params : PList ℝ) (lp : Loop ℝ) (i : Nat) (v : Name)
    (h : has params v = false) : stepOf s f params lp i v = (lp, none) := by
  cases s
  · show step2 f params lp i v = _; unfold step2; simp [h]
  · show step3 f params lp i v = _; unfold step3; simp [h]
  · show step5 f params lp i v = _; unfold step5; simp [h]



/-- the computing branch when neither its first `setParameters` nor the `VERY_BIG` test stops it: the
loop over `variables_` starts from the invariant, and if it does not raise the rest is `afterLoop` -/
theorem updateG_via_loop (s : Scheme) (f : List ℝ → ℝ) (w : W ℝ) (params : PList ℝ) (hown : Own w.fn) (hok : w.fn.OK f)
    (hF : FreeFn f params w.fn.params) (hpnd : (names params).Nodup) (hc1 : w.c1 = true) (hne : 0 < w.vars.length)
    (hb0 : testsBig s = true → tooBig (f (values w.fn.params)) = false) :
    ∃ fn1, fn1.fval = f (values w.fn.params) ∧
      LI f params w.fn.params (setSlot s { w with fn := fn1 } fn1.fval) (slotOf s)
        { w := setSlot s { w with fn := fn1 } fn1.fval, p := [], lastVar := none } ∧
      ∀ lp, loopGo (stepOf s f params) w.vars 0 { w := setSlot s { w with fn := fn1 } fn1.fval, p := [], lastVar := none }
          = (lp, none) → updateG s f w params = afterLoop s f params lp := by
  have hn0 := setParameters_base_ok f hF.ctx (feas_of_nocon hF.nocon) (sw2 s (w.fn.enable1 false) false) (S := fun _ => False)
    (by rw [sw2_params, enable1_params]; exact Dev.refl _ _) params (fun q hq => hq) hpnd
  rcases hs1 : (sw2 s (w.fn.enable1 false) false).setParameters f params with ⟨fn1, e1⟩
  rw [hs1] at hn0
  simp only [] at hn0
  subst hn0
  obtain ⟨_, hval, _, hLI0⟩ := update_first s f w params hown hok hF.ctx.sync hpnd fn1 hs1
  refine ⟨fn1, hval, hLI0, fun lp hl => ?_⟩
  have htb : (testsBig s && tooBig fn1.fval) = false := by
    cases h : testsBig s with
    | false => rfl
    | true => rw [hval, hb0 h]; rfl
  have hvars : (setSlot s { w with fn := fn1 } fn1.fval).vars = w.vars := by cases s <;> rfl
  unfold updateG
  rw [if_pos (by simp [hc1, hne])]
  simp only [hs1, slotOf_setSlot, htb, Bool.false_eq_true, if_false, hvars, hl]

/-- … and then, without cross derivatives, the stored derivatives are those the loop left -/
theorem afterLoop_plain (s : Scheme) (f : List ℝ → ℝ) {params B : PList ℝ} (hF : FreeFn f params B) (hpnd : (names params).Nodup)
    {w0 : W ℝ} (lp : Loop ℝ) (hLI : LI f params B w0 (slotOf s) lp) (hcx : (hasCross s && w0.cx) = false) :
    (afterLoop s f params lp).2 = none ∧ (afterLoop s f params lp).1.der1 = lp.w.der1 ∧
    (afterLoop s f params lp).1.der2 = lp.w.der2 := by
  unfold afterLoop
  rw [hLI.frame.cx, hcx]
  obtain ⟨_, _, a, b, _⟩ := finish_frame f (Closed.trivial params) lp.lastVar false lp.w
  exact ⟨finish_noexc f hF.ctx (feas_of_nocon hF.nocon) hpnd lp.lastVar false lp.w hLI.dev hLI.last, a, b⟩

theorem updateG_idle (s : Scheme) (f : List ℝ → ℝ) (w : W ℝ) (params : PList ℝ) (hF : FreeFn f params w.fn.params)
    (hpnd : (names params).Nodup) (hne : ¬ 0 < w.vars.length) : (updateG s f w params).2 = none := by
  have hn0 := setParameters_base_ok f hF.ctx (feas_of_nocon hF.nocon) (onOf s w) (S := fun _ => False)
    (by rw [onOf_params]; exact Dev.refl _ _) params (fun q hq => hq) hpnd
  rcases hs1 : (onOf s w).setParameters f params with ⟨fn1, e1⟩
  rw [hs1] at hn0
  simp only [] at hn0
  subst hn0
  unfold updateG
  simp only [hne, decide_false, Bool.and_false, Bool.false_eq_true, if_false, hs1]

/-- `[x]` for a one-element array -/
theorem setAt_single (l : List (DVal ℝ)) (x : DVal ℝ) (hl : l.length = 1) : setAt l 0 x = [x] := by
  cases l with
  | nil => simp at hl
  | cons a r =>
    cases r with
    | nil => rfl
    | cons c r' => simp at hl

theorem base_value (l : PList ℝ) (hnd : (names l).Nodup) (v : Name) (b : Param ℝ)
    (hb : find? l v = some b) : upd1 l v b.value = l := by
  apply upd1_same
  intro p hp hn
  have := find?_of_mem hnd hp
  rw [hn, hb] at this; injection this with this; rw [this]



/-- the loop over `variables_` of `updateDerivatives`, started as `updateG_via_loop` says, when every
iteration for a listed selected variable `v` returns and writes `D v` at its index of the array `get`:
it returns, keeps the loop invariant and makes `storeAll` of that array.  The iterations start from a
wrapper `w0` with the step of `w` and the value at the requested point in the scheme's slot. -/
theorem loopG_stores (s : Scheme) (f : List ℝ → ℝ) (w : W ℝ) (params : PList ℝ) (hF : FreeFn f params w.fn.params)
    (fn1 : Fn ℝ) (hval : fn1.fval = f (values w.fn.params))
    (hLI0 : LI f params w.fn.params (setSlot s { w with fn := fn1 } fn1.fval) (slotOf s)
      { w := setSlot s { w with fn := fn1 } fn1.fval, p := [], lastVar := none })
    (hvars : w.vars.Nodup) (get : W ℝ → List (DVal ℝ)) (D : Name → DVal ℝ)
    (hstep : ∀ w0 : W ℝ, w0.h = w.h → slotOf s w0 = f (values w.fn.params) → ∀ lp i v,
      LI f params w.fn.params w0 (slotOf s) lp → lp.lastVar ≠ some v → has params v = true → v ∈ w.vars →
      (stepOf s f params lp i v).2 = none ∧ (stepOf s f params lp i v).1.lastVar = some v ∧
      get (stepOf s f params lp i v).1.w = setAt (get lp.w) i (D v)) :
    (loopGo (stepOf s f params) w.vars 0 { w := setSlot s { w with fn := fn1 } fn1.fval, p := [], lastVar := none }).2 = none ∧
    LI f params w.fn.params (setSlot s { w with fn := fn1 } fn1.fval) (slotOf s)
      (loopGo (stepOf s f params) w.vars 0 { w := setSlot s { w with fn := fn1 } fn1.fval, p := [], lastVar := none }).1 ∧
    get (loopGo (stepOf s f params) w.vars 0 { w := setSlot s { w with fn := fn1 } fn1.fval, p := [], lastVar := none }).1.w =
      storeAll params D w.vars 0 (get (setSlot s { w with fn := fn1 } fn1.fval)) :=
  loopGo_stores (stepOf s f params) _ (· ∈ w.vars) get D
    (fun lp i v hLI hl hh hv => by
      obtain ⟨a, b, c⟩ := hstep (setSlot s { w with fn := fn1 } fn1.fval) (by cases s <;> rfl)
        (by rw [slotOf_setSlot]; exact hval) lp i v hLI hl hh hv
      exact ⟨a, (stepOf_outcome f hF.ctx lp i v s hLI).1 a, b, c⟩)
    (stepOf_skip s f params) w.vars 0 _ hLI0 (fun l h => by cases h) hvars (fun v hv _ => hv)

/-- `updateDerivatives` without cross derivatives, when the wrapped function's side carries no
constraint and `get` is the array of first or of second derivatives: it returns, and has made
`storeAll` of that array -/
theorem updateG_stores (s : Scheme) (f : List ℝ → ℝ) (w : W ℝ) (params : PList ℝ) (hown : Own w.fn) (hok : w.fn.OK f)
    (hF : FreeFn f params w.fn.params) (hpnd : (names params).Nodup) (hc1 : w.c1 = true)
    (hcx : (hasCross s && w.cx) = false) (hb0 : testsBig s = true → tooBig (f (values w.fn.params)) = false)
    (hvars : w.vars.Nodup) (get : W ℝ → List (DVal ℝ)) (hg : get = (·.der1) ∨ get = (·.der2)) (D : Name → DVal ℝ)
    (hstep : ∀ w0 : W ℝ, w0.h = w.h → slotOf s w0 = f (values w.fn.params) → ∀ lp i v,
      LI f params w.fn.params w0 (slotOf s) lp → lp.lastVar ≠ some v → has params v = true → v ∈ w.vars →
      (stepOf s f params lp i v).2 = none ∧ (stepOf s f params lp i v).1.lastVar = some v ∧
      get (stepOf s f params lp i v).1.w = setAt (get lp.w) i (D v)) :
    (updateG s f w params).2 = none ∧ get (updateG s f w params).1 = storeAll params D w.vars 0 (get w) := by
  by_cases hne : 0 < w.vars.length
  · obtain ⟨fn1, hval, hLI0, hfin⟩ := updateG_via_loop s f w params hown hok hF hpnd hc1 hne hb0
    have hst := loopG_stores s f w params hF fn1 hval hLI0 hvars get D hstep
    rcases hl : loopGo (stepOf s f params) w.vars 0
      { w := setSlot s { w with fn := fn1 } fn1.fval, p := [], lastVar := none } with ⟨lp, e⟩
    rw [hl] at hst
    obtain ⟨r1, r2, r3⟩ := hst
    simp only [] at r1 r3
    subst r1
    obtain ⟨q1, q2, q3⟩ := afterLoop_plain s f hF hpnd lp r2 (by cases s <;> exact hcx)
    rw [hfin lp hl]
    refine ⟨q1, ?_⟩
    rcases hg with rfl | rfl
    · show (afterLoop s f params lp).1.der1 = _; rw [q2]; exact r3.trans (by cases s <;> rfl)
    · show (afterLoop s f params lp).1.der2 = _; rw [q3]; exact r3.trans (by cases s <;> rfl)
  · have hv : w.vars = [] := by cases hw : w.vars with
      | nil => rfl
      | cons a r => rw [hw] at hne; simp at hne
    refine ⟨updateG_idle s f w params hF hpnd hne, ?_⟩
    rw [hv]
    unfold updateG
    simp only [hv, List.length_nil, Nat.lt_irrefl, decide_false, Bool.and_false, Bool.false_eq_true, if_false]
    rcases hg with rfl | rfl <;> split <;> cases s <;> rfl

/-- two-point scheme, the first `j` tries refused: the difference quotient with the step of try `j` -/
noncomputable def two1At (f : List ℝ → ℝ) (B : PList ℝ) (hh f1 : ℝ) (j : Nat) (var : Name) : DVal ℝ :=
  match find? B var with
  | some b => some (d1Two f1 (f (values (upd1 B var (b.value + stepAt (-(1 + |b.value|) * hh) j))))
      (stepAt (-(1 + |b.value|) * hh) j))
  | none => none

/-- three-point scheme, the first `j` tries of the first loop refused, the first try of the second
loop accepted: the three-point formulas with the step of try `j` and its `sideStep` -/
noncomputable def three1At (f : List ℝ → ℝ) (B : PList ℝ) (hh : ℝ) (j : Nat) (var : Name) : DVal ℝ :=
  match find? B var with
  | some b => some (d1Three
      (f (values (upd1 B var (b.value + stepAt (-(1 + |b.value|) * hh) j))))
      (f (values (upd1 B var (b.value + sideStep (stepAt (-(1 + |b.value|) * hh) j)))))
      (stepAt (-(1 + |b.value|) * hh) j) (sideStep (stepAt (-(1 + |b.value|) * hh) j)))
  | none => none
noncomputable def three2At (f : List ℝ → ℝ) (B : PList ℝ) (hh f2 : ℝ) (j : Nat) (var : Name) : DVal ℝ :=
  match find? B var with
  | some b => some (d2Three
      (f (values (upd1 B var (b.value + stepAt (-(1 + |b.value|) * hh) j)))) f2
      (f (values (upd1 B var (b.value + sideStep (stepAt (-(1 + |b.value|) * hh) j)))))
      (stepAt (-(1 + |b.value|) * hh) j) (sideStep (stepAt (-(1 + |b.value|) * hh) j)))
  | none => none

section Paths
variable (f : List ℝ → ℝ) (w : W ℝ) (params : PList ℝ) (hown : Own w.fn) (hok : w.fn.OK f)
  (hF : FreeFn f params w.fn.params) (hpnd : (names params).Nodup) (hc1 : w.c1 = true) (hvars : w.vars.Nodup)
  (hin : ∀ v ∈ w.vars, has params v = true → v ∈ names w.fn.params)
include hown hok hF hpnd hc1 hvars hin

/-- two-point scheme, any selection: each selected variable of the list is passed with precision 0
and a constraint that refuses its first `σ v < 10` tries and accepts the next one -/
theorem update2_paths (hB : BoundedNear f w.fn.params w.h) (hh : w.h ≠ 0) (σ : Name → Nat)
    (hσ : ∀ v ∈ w.vars, ∀ qv b, find? params v = some qv → find? w.fn.params v = some b →
      FirstAccepted qv b.value (-(1 + |b.value|) * w.h) (σ v)) :
    (update2 f w params).2 = none ∧
    (update2 f w params).1.der1 =
      storeAll params (fun v => two1At f w.fn.params w.h (f (values w.fn.params)) (σ v) v) w.vars 0 w.der1 := by
  rw [update2_eq]
  refine updateG_stores .two f w params hown hok hF hpnd hc1 rfl (fun _ => hB.base) hvars (·.der1) (.inl rfl) _ ?_
  intro w0 hw0 hs0 lp i v hLI hl hhas hv
  obtain ⟨qv, hqv⟩ := find?_of_has hhas
  obtain ⟨b, hb⟩ := find?_of_mem_names (hin v hv hhas)
  have hhw : lp.w.h = w.h := hLI.frame.h.trans hw0
  have hsl : lp.w.f1 = f (values w.fn.params) := hLI.val.trans hs0
  obtain ⟨s1, s2, s3, _⟩ := step2_first_accepted f hF lp hLI i v b qv hqv hb hl (by rw [hhw]; exact hh)
    (by rw [hhw]; exact hB) (σ v) (by rw [hhw]; exact hσ v hv qv b hqv hb)
  refine ⟨s1, s2, s3.trans ?_⟩
  simp only [two1At, hb, hhw, hsl]

omit hown hok hpnd hc1 hvars in
/-- one iteration of the three-point loop on the path `σ v` of its variable -/
theorem step3_path (hB : BoundedNear f w.fn.params w.h) (hh : w.h ≠ 0) (σ : Name → Nat)
    (hσ : ∀ v ∈ w.vars, ∀ qv b, find? params v = some qv → find? w.fn.params v = some b →
      FirstAccepted qv b.value (-(1 + |b.value|) * w.h) (σ v) ∧
      qv.violates (b.value + sideStep (stepAt (-(1 + |b.value|) * w.h) (σ v))) = false)
    (w0 : W ℝ) (hw0 : w0.h = w.h) (hs0 : slotOf .three w0 = f (values w.fn.params)) (lp : Loop ℝ) (i : Nat) (v : Name)
    (hLI : LI f params w.fn.params w0 (slotOf .three) lp) (hl : lp.lastVar ≠ some v) (hhas : has params v = true)
    (hv : v ∈ w.vars) :
    (step3 f params lp i v).2 = none ∧ (step3 f params lp i v).1.lastVar = some v ∧
    (step3 f params lp i v).1.w.der1 = setAt lp.w.der1 i (three1At f w.fn.params w.h (σ v) v) ∧
    (step3 f params lp i v).1.w.der2 = setAt lp.w.der2 i (three2At f w.fn.params w.h (f (values w.fn.params)) (σ v) v) := by
  obtain ⟨qv, hqv⟩ := find?_of_has hhas
  obtain ⟨b, hb⟩ := find?_of_mem_names (hin v hv hhas)
  obtain ⟨hp, hacc3⟩ := hσ v hv qv b hqv hb
  have hhw : lp.w.h = w.h := hLI.frame.h.trans hw0
  have hsl : lp.w.f2 = f (values w.fn.params) := hLI.val.trans hs0
  obtain ⟨s1, s2, s3, s4⟩ := step3_first_accepted f hF lp hLI i v b qv hqv hb hl (by rw [hhw]; exact hh)
    (by rw [hhw]; exact hB) (σ v) (by rw [hhw]; exact hp) (by rw [hhw]; exact hacc3)
  refine ⟨s1, s2, ?_, ?_⟩
  · rw [s3]; simp only [three1At, hb, hhw]
  · rw [s4]; simp only [three2At, hb, hhw, hsl]

/-- three-point scheme without cross derivatives, any selection: as for the two-point scheme, and
the first try of the second loop is accepted too -/
theorem update3_paths (hB : BoundedNear f w.fn.params w.h) (hcx : w.cx = false) (hh : w.h ≠ 0) (σ : Name → Nat)
    (hσ : ∀ v ∈ w.vars, ∀ qv b, find? params v = some qv → find? w.fn.params v = some b →
      FirstAccepted qv b.value (-(1 + |b.value|) * w.h) (σ v) ∧
      qv.violates (b.value + sideStep (stepAt (-(1 + |b.value|) * w.h) (σ v))) = false) :
    (update3 f w params).2 = none ∧
    (update3 f w params).1.der1 = storeAll params (fun v => three1At f w.fn.params w.h (σ v) v) w.vars 0 w.der1 ∧
    (update3 f w params).1.der2 =
      storeAll params (fun v => three2At f w.fn.params w.h (f (values w.fn.params)) (σ v) v) w.vars 0 w.der2 := by
  have hst := step3_path f w params hF hin hB hh σ hσ
  have hcx' : (hasCross .three && w.cx) = false := by simp [hcx]
  rw [update3_eq]
  obtain ⟨a, b⟩ := updateG_stores .three f w params hown hok hF hpnd hc1 hcx' (fun _ => hB.base) hvars (·.der1) (.inl rfl) _
    (fun w0 h1 h2 lp i v h3 h4 h5 h6 => ⟨(hst w0 h1 h2 lp i v h3 h4 h5 h6).1, (hst w0 h1 h2 lp i v h3 h4 h5 h6).2.1,
      (hst w0 h1 h2 lp i v h3 h4 h5 h6).2.2.1⟩)
  exact ⟨a, b, (updateG_stores .three f w params hown hok hF hpnd hc1 hcx' (fun _ => hB.base) hvars (·.der2) (.inr rfl) _
    (fun w0 h1 h2 lp i v h3 h4 h5 h6 => ⟨(hst w0 h1 h2 lp i v h3 h4 h5 h6).1, (hst w0 h1 h2 lp i v h3 h4 h5 h6).2.1,
      (hst w0 h1 h2 lp i v h3 h4 h5 h6).2.2.2⟩)).2⟩

/-- five-point scheme, any selection: the probes of each selected variable of the list end in a
pair, which is what `D1`, `D2` say is stored for it -/
theorem update5_paths (D1 D2 : Name → DVal ℝ)
    (hpr : ∀ v ∈ w.vars, ∀ qv b, find? params v = some qv → find? w.fn.params v = some b → ∀ fn rest,
      RI f params w.fn.params v fn (qv :: rest) → ∃ d,
        (probes5 f fn (qv :: rest) b.value ((1 + |b.value|) * w.h) (f (values w.fn.params))).2.2 = some d ∧
        D1 v = some d.1 ∧ D2 v = some d.2) :
    (update5 f w params).2 = none ∧ (update5 f w params).1.der1 = storeAll params D1 w.vars 0 w.der1 ∧
    (update5 f w params).1.der2 = storeAll params D2 w.vars 0 w.der2 := by
  have hst : ∀ w0 : W ℝ, w0.h = w.h → slotOf .five w0 = f (values w.fn.params) → ∀ lp i v,
      LI f params w.fn.params w0 (slotOf .five) lp → lp.lastVar ≠ some v → has params v = true → v ∈ w.vars →
      (step5 f params lp i v).2 = none ∧ (step5 f params lp i v).1.lastVar = some v ∧
      (step5 f params lp i v).1.w.der1 = setAt lp.w.der1 i (D1 v) ∧
      (step5 f params lp i v).1.w.der2 = setAt lp.w.der2 i (D2 v) := by
    intro w0 hw0 hs0 lp i v hLI hl hhas hv
    obtain ⟨qv, hqv⟩ := find?_of_has hhas
    obtain ⟨b, hb⟩ := find?_of_mem_names (hin v hv hhas)
    have hhw : lp.w.h = w.h := hLI.frame.h.trans hw0
    have hsl : lp.w.f3 = f (values w.fn.params) := hLI.val.trans hs0
    obtain ⟨rest0, hsub⟩ := sub_shape f hLI v qv hqv hl
    obtain ⟨d, _, hd1, hd2⟩ := hpr v hv qv b hqv hb _ rest0 (sub_RI f hLI v _ hsub)
    obtain ⟨s1, s2, s3, s4⟩ := step5_of_probes f lp hLI i v b qv hqv hb hl d (fun rest hri => by
      obtain ⟨d', e, h1, h2⟩ := hpr v hv qv b hqv hb _ rest hri
      obtain rfl : d' = d := Prod.ext (Option.some.inj (h1.symm.trans hd1)) (Option.some.inj (h2.symm.trans hd2))
      rw [← e]; simp only [ScalarReal.one_eq, ScalarReal.abs_eq, hhw, hsl])
    exact ⟨s1, s2, by rw [s3, hd1], by rw [s4, hd2]⟩
  rw [update5_eq]
  obtain ⟨a, b⟩ := updateG_stores .five f w params hown hok hF hpnd hc1 rfl (fun h => by cases h) hvars (·.der1) (.inl rfl) _
    (fun w0 h1 h2 lp i v h3 h4 h5 h6 => ⟨(hst w0 h1 h2 lp i v h3 h4 h5 h6).1, (hst w0 h1 h2 lp i v h3 h4 h5 h6).2.1,
      (hst w0 h1 h2 lp i v h3 h4 h5 h6).2.2.1⟩)
  exact ⟨a, b, (updateG_stores .five f w params hown hok hF hpnd hc1 rfl (fun h => by cases h) hvars (·.der2) (.inr rfl) _
    (fun w0 h1 h2 lp i v h3 h4 h5 h6 => ⟨(hst w0 h1 h2 lp i v h3 h4 h5 h6).1, (hst w0 h1 h2 lp i v h3 h4 h5 h6).2.1,
      (hst w0 h1 h2 lp i v h3 h4 h5 h6).2.2.2⟩)).2⟩

end Paths


section Single
variable (f : List ℝ → ℝ) (w : W ℝ) (params : PList ℝ) (v : Name) (hown : Own w.fn) (hok : w.fn.OK f)
  (hF : FreeFn f params w.fn.params) (hpnd : (names params).Nodup) (hc1 : w.c1 = true) (hvars : w.vars = [v])
  (b qv : Param ℝ) (hqv : find? params v = some qv) (hb : find? w.fn.params v = some b)

include hvars hqv hb in
/-- with `v` the only selected variable, what is to be shown of every selected variable of the list
is to be shown of `v` -/
theorem of_single {Q : Name → Param ℝ → Param ℝ → Prop} (h : Q v qv b) :
    w.vars.Nodup ∧ (∀ x ∈ w.vars, has params x = true → x ∈ names w.fn.params) ∧
    ∀ x ∈ w.vars, ∀ qv' b', find? params x = some qv' → find? w.fn.params x = some b' → Q x qv' b' := by
  rw [hvars]
  refine ⟨by simp, fun x hx _ => ?_, fun x hx qv' b' h1 h2 => ?_⟩ <;> obtain rfl : x = v := by simpa using hx
  · rw [← (find?_some hb).2]; exact List.mem_map_of_mem (find?_some hb).1
  · rw [hqv] at h1; rw [hb] at h2
    injection h1 with h1; injection h2 with h2
    subst h1 h2; exact h

include hown hok hF hpnd hc1 hvars hqv hb

/-- two-point scheme, one selected variable: the first `j < 10` tries are refused by the constraint
the variable is passed with, the next one is accepted -/
theorem update2_first_accepted (hB : BoundedNear f w.fn.params w.h) (hh : w.h ≠ 0) (j : Nat)
    (hp : FirstAccepted qv b.value (-(1 + |b.value|) * w.h) j) :
    (update2 f w params).2 = none ∧
    (update2 f w params).1.der1 = setAt w.der1 0 (some (d1Two (f (values w.fn.params))
      (f (values (upd1 w.fn.params v (b.value + stepAt (-(1 + |b.value|) * w.h) j)))) (stepAt (-(1 + |b.value|) * w.h) j))) := by
  obtain ⟨h1, h2, h3⟩ := of_single w params v hvars b qv hqv hb
    (Q := fun _ qv b => FirstAccepted qv b.value (-(1 + |b.value|) * w.h) j) hp
  obtain ⟨a, c⟩ := update2_paths f w params hown hok hF hpnd hc1 h1 h2 hB hh (fun _ => j) h3
  refine ⟨a, c.trans ?_⟩
  rw [hvars]; simp only [storeAll, has_of_find? hqv, if_true, two1At, hb]

/-- three-point scheme without cross derivatives, one selected variable: the first `j < 10` tries of
the first loop are refused, the next one and the first try of the second loop are accepted -/
theorem update3_first_accepted (hB : BoundedNear f w.fn.params w.h) (hcx : w.cx = false) (hh : w.h ≠ 0)
    (j : Nat) (hp : FirstAccepted qv b.value (-(1 + |b.value|) * w.h) j)
    (hacc3 : qv.violates (b.value + sideStep (stepAt (-(1 + |b.value|) * w.h) j)) = false) :
    (update3 f w params).2 = none ∧
    (update3 f w params).1.der1 = setAt w.der1 0 (some (d1Three
      (f (values (upd1 w.fn.params v (b.value + stepAt (-(1 + |b.value|) * w.h) j))))
      (f (values (upd1 w.fn.params v (b.value + sideStep (stepAt (-(1 + |b.value|) * w.h) j)))))
      (stepAt (-(1 + |b.value|) * w.h) j) (sideStep (stepAt (-(1 + |b.value|) * w.h) j)))) ∧
    (update3 f w params).1.der2 = setAt w.der2 0 (some (d2Three
      (f (values (upd1 w.fn.params v (b.value + stepAt (-(1 + |b.value|) * w.h) j)))) (f (values w.fn.params))
      (f (values (upd1 w.fn.params v (b.value + sideStep (stepAt (-(1 + |b.value|) * w.h) j)))))
      (stepAt (-(1 + |b.value|) * w.h) j) (sideStep (stepAt (-(1 + |b.value|) * w.h) j)))) := by
  obtain ⟨h1, h2, h3⟩ := of_single w params v hvars b qv hqv hb (Q := fun _ qv b =>
    FirstAccepted qv b.value (-(1 + |b.value|) * w.h) j ∧
    qv.violates (b.value + sideStep (stepAt (-(1 + |b.value|) * w.h) j)) = false) ⟨hp, hacc3⟩
  obtain ⟨a, c, d⟩ := update3_paths f w params hown hok hF hpnd hc1 h1 h2 hB hcx hh (fun _ => j) h3
  refine ⟨a, c.trans ?_, d.trans ?_⟩ <;> rw [hvars]
  · simp only [storeAll, has_of_find? hqv, if_true, three1At, hb]
  · simp only [storeAll, has_of_find? hqv, if_true, three2At, hb]

/-- five-point scheme, one selected variable whose probes end in the pair `d` -/
theorem update5_of_probes (d : ℝ × ℝ)
    (hpr : ∀ fn rest, RI f params w.fn.params v fn (qv :: rest) →
      (probes5 f fn (qv :: rest) b.value ((1 + |b.value|) * w.h) (f (values w.fn.params))).2.2 = some d) :
    (update5 f w params).2 = none ∧ (update5 f w params).1.der1 = setAt w.der1 0 (some d.1) ∧
    (update5 f w params).1.der2 = setAt w.der2 0 (some d.2) := by
  obtain ⟨h1, h2, h3⟩ := of_single w params v hvars b qv hqv hb (Q := fun x qv b => ∀ fn rest,
    RI f params w.fn.params x fn (qv :: rest) → ∃ d',
      (probes5 f fn (qv :: rest) b.value ((1 + |b.value|) * w.h) (f (values w.fn.params))).2.2 = some d' ∧
      some d.1 = some d'.1 ∧ some d.2 = some d'.2) (fun fn rest hri => ⟨d, hpr fn rest hri, rfl, rfl⟩)
  obtain ⟨a, c, e⟩ := update5_paths f w params hown hok hF hpnd hc1 h1 h2 (fun _ => some d.1) (fun _ => some d.2) h3
  refine ⟨a, c.trans ?_, e.trans ?_⟩ <;> rw [hvars] <;> simp only [storeAll, has_of_find? hqv, if_true]

end Single

/-- three-point scheme, one selected variable next to the lower bound of the constraint it is passed
with: `x - H` refused, `x + H` and `x + H/2` accepted (`j = 1`) -/
theorem update3_right (f : List ℝ → ℝ) (w : W ℝ) (params : PList ℝ) (v : Name) (hown : Own w.fn) (hok : w.fn.OK f)
    (hF : FreeFn f params w.fn.params) (hB : BoundedNear f w.fn.params w.h)
    (hpnd : (names params).Nodup) (hc1 : w.c1 = true) (hcx : w.cx = false)
    (hvars : w.vars = [v]) (hh : 0 < w.h) (b qv : Param ℝ)
    (hqv : find? params v = some qv) (hb : find? w.fn.params v = some b) (hprec : qv.prec = 0)
    (hrej : qv.violates (b.value + -(one + Scalar.abs b.value) * w.h) = true)
    (hacc1 : qv.violates (b.value + -(-(one + Scalar.abs b.value) * w.h)) = false)
    (hacc2 : qv.violates (b.value + -(-(one + Scalar.abs b.value) * w.h) / ofInt 2) = false) :
    (update3 f w params).2 = none ∧
    (update3 f w params).1.der1 = setAt w.der1 0 (some (d1Three
        (f (values (upd1 w.fn.params v (b.value + -(-(one + Scalar.abs b.value) * w.h)))))
        (f (values (upd1 w.fn.params v (b.value + -(-(one + Scalar.abs b.value) * w.h) / ofInt 2))))
        (-(-(one + Scalar.abs b.value) * w.h)) (-(-(one + Scalar.abs b.value) * w.h) / ofInt 2))) ∧
    (update3 f w params).1.der2 = setAt w.der2 0 (some (d2Three
        (f (values (upd1 w.fn.params v (b.value + -(-(one + Scalar.abs b.value) * w.h))))) (f (values w.fn.params))
        (f (values (upd1 w.fn.params v (b.value + -(-(one + Scalar.abs b.value) * w.h) / ofInt 2))))
        (-(-(one + Scalar.abs b.value) * w.h)) (-(-(one + Scalar.abs b.value) * w.h) / ofInt 2))) := by
  have e0 : (one + Scalar.abs b.value : ℝ) = 1 + |b.value| := by rw [ScalarReal.one_eq, ScalarReal.abs_eq]
  rw [e0] at hrej hacc1 hacc2 ⊢
  have hs : -(1 + |b.value|) * w.h < 0 := by rw [neg_mul, neg_lt_zero]; positivity
  have e1 : stepAt (-(1 + |b.value|) * w.h) 1 = -(-(1 + |b.value|) * w.h) := by
    show nextStep _ = _
    unfold nextStep; rw [if_pos ((ScalarReal.ltb_iff _ _).mpr (by rw [ScalarReal.zero_eq]; exact hs))]
  have e3 : sideStep (-(-(1 + |b.value|) * w.h)) = -(-(1 + |b.value|) * w.h) / ofInt 2 := by
    unfold sideStep; rw [if_neg (by rw [ScalarReal.ltb_iff, ScalarReal.zero_eq]; linarith)]
  have h := update3_first_accepted f w params v hown hok hF hpnd hc1 hvars b qv hqv hb hB hcx hh.ne' 1 ⟨hprec, by norm_num,
    fun k hk => by obtain rfl : k = 0 := by omega
                   exact hrej,
    by rw [e1]; exact hacc1⟩ (by rw [e1, e3]; exact hacc2)
  rw [e1, e3] at h
  exact h

/-- the stored first / second derivative of variable `var` on the nominal path of the three-point
scheme: central formulas around the base point `B` with step `H = (1 + |x|) * h` -/
noncomputable def three1 (f : List ℝ → ℝ) (B : PList ℝ) (hh : ℝ) (var : Name) : DVal ℝ :=
  match find? B var with
  | some b => some (d1Three
      (f (values (upd1 B var (b.value + -(one + Scalar.abs b.value) * hh))))
      (f (values (upd1 B var (b.value + -(-(one + Scalar.abs b.value) * hh)))))
      (-(one + Scalar.abs b.value) * hh) (-(-(one + Scalar.abs b.value) * hh)))
  | none => none
noncomputable def three2 (f : List ℝ → ℝ) (B : PList ℝ) (hh f2 : ℝ) (var : Name) : DVal ℝ :=
  match find? B var with
  | some b => some (d2Three
      (f (values (upd1 B var (b.value + -(one + Scalar.abs b.value) * hh)))) f2
      (f (values (upd1 B var (b.value + -(-(one + Scalar.abs b.value) * hh)))))
      (-(one + Scalar.abs b.value) * hh) (-(-(one + Scalar.abs b.value) * hh)))
  | none => none

/-- the stored derivatives of variable `var` on the nominal path of the five-point scheme -/
noncomputable def five1 (f : List ℝ → ℝ) (B : PList ℝ) (hh : ℝ) (var : Name) : DVal ℝ :=
  match find? B var with
  | some b => some (d1Five
      (f (values (upd1 B var (b.value - ofInt 2 * ((one + Scalar.abs b.value) * hh)))))
      (f (values (upd1 B var (b.value - (one + Scalar.abs b.value) * hh))))
      (f (values (upd1 B var (b.value + (one + Scalar.abs b.value) * hh))))
      (f (values (upd1 B var (b.value + ofInt 2 * ((one + Scalar.abs b.value) * hh)))))
      ((one + Scalar.abs b.value) * hh))
  | none => none
noncomputable def five2 (f : List ℝ → ℝ) (B : PList ℝ) (hh f3 : ℝ) (var : Name) : DVal ℝ :=
  match find? B var with
  | some b => some (d2Five
      (f (values (upd1 B var (b.value - ofInt 2 * ((one + Scalar.abs b.value) * hh)))))
      (f (values (upd1 B var (b.value - (one + Scalar.abs b.value) * hh)))) f3
      (f (values (upd1 B var (b.value + (one + Scalar.abs b.value) * hh))))
      (f (values (upd1 B var (b.value + ofInt 2 * ((one + Scalar.abs b.value) * hh)))))
      ((one + Scalar.abs b.value) * hh))
  | none => none


theorem three1At_zero (f : List ℝ → ℝ) (B : PList ℝ) {hh : ℝ} (h : 0 < hh) (var : Name) :
    three1At f B hh 0 var = three1 f B hh var ∧ ∀ f2, three2At f B hh f2 0 var = three2 f B hh f2 var := by
  unfold three1At three2At three1 three2
  cases find? B var with
  | none => exact ⟨rfl, fun _ => rfl⟩
  | some b =>
    have hneg : ltb (-(1 + |b.value|) * hh) zero = true := by
      rw [ScalarReal.ltb_iff, ScalarReal.zero_eq, neg_mul, neg_lt_zero]; positivity
    simp only [stepAt, sideStep, hneg, if_true, ScalarReal.one_eq, ScalarReal.abs_eq]
    exact ⟨trivial, fun _ => trivial⟩

end Bpp.NumDeriv
