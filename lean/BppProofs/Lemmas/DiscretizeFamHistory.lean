import BppProofs.Lemmas.DiscretizeHistory
import BppProofs.Lemmas.DiscretizeFamilies
/-!
C09: histories of the public operations of the families with closed forms (exponential,
truncated exponential, uniform), on the family model `FamSt`.
-/
namespace Bpp.Discretize
open Bpp

/-- the public operations of a family object -/
inductive FOp where
  | setP (name : String) (v : ℝ)
  | setN (n : Nat)
  | setMed (b : Bool)
  | restrict (c : Interval ℝ)
  | rediscretize

/-- one operation; an operation that raises leaves the state it leaves in the C++ -/
noncomputable def fstep (orc : Parent ℝ) (f : FamSt ℝ) : FOp → FamSt ℝ
  | .setP name v => (setP orc f name v).st
  | .setN n => (setN orc f n).st
  | .setMed b => (setMed orc f b).st
  | .restrict c => (restrict orc f c).st
  | .rediscretize => (rediscretize orc f).st

noncomputable def frun (orc : Parent ℝ) : FamSt ℝ → List FOp → FamSt ℝ
  | f, [] => f
  | f, op :: ops => frun orc (fstep orc f op) ops

/-- operations inside the regular range: positive class counts; rates / truncation points set to
positive values (0 is accepted by the constraint `[0, +inf[` but makes `pProb` 0/0) -/
def FOp.regular : FOp → Prop
  | .setP _ v => 0 < v
  | .setN n => 1 ≤ n
  | _ => True

/-- invariant shared by the three families: the state is a valid EQUAL_PROB partition and the
family's parent satisfies `H` on the domain and on every ordered sub-domain -/
structure FamGood (orc : Parent ℝ) (f : FamSt ℝ) : Prop where
  pre : Pre f.dd
  valid : Valid f.dd
  scheme : f.dd.scheme = 1
  parent : ∀ lo hi, f.dd.dom.lo ≤ lo → lo ≤ hi → hi ≤ f.dd.dom.hi → ParentOK (f.parent orc) lo hi

/-- family, parameters, tie flag and domain: what `setN`, `setMed`, `rediscretize` leave alone -/
structure SameFrame (f g : FamSt ℝ) : Prop where
  fam : g.fam = f.fam
  p1 : g.p1 = f.p1
  p2 : g.p2 = f.p2
  p3 : g.p3 = f.p3
  tpTied : g.tpTied = f.tpTied
  dom : g.dd.dom = f.dd.dom

theorem SameFrame.refl (f : FamSt ℝ) : SameFrame f f := ⟨rfl, rfl, rfl, rfl, rfl, rfl⟩

theorem SameFrame.parent (orc : Parent ℝ) {f g : FamSt ℝ} (h : SameFrame f g) : g.parent orc = f.parent orc := by
  unfold FamSt.parent; rw [h.fam, h.p1, h.p2, h.p3]

theorem stepOf_cases (f : FamSt ℝ) (r : Except Err (FamSt ℝ)) : (stepOf f r).st = f ∨ r = .ok (stepOf f r).st := by
  cases r <;> simp [stepOf]

theorem FamSt.discretize_ok {orc : Parent ℝ} {g f : FamSt ℝ} (h : g.discretize orc = .ok f) :
    ∃ d, Discretize.discretize (g.parent orc) g.dd = .ok d ∧ f = { g with dd := d } := by
  unfold FamSt.discretize at h
  cases hd : Discretize.discretize (g.parent orc) g.dd with
  | error e => simp [hd, bind, Except.bind] at h
  | ok d => exact ⟨d, rfl, by simpa [hd, bind, Except.bind, pure, Except.pure] using h.symm⟩

theorem discretize_famgood (orc : Parent ℝ) (g f : FamSt ℝ) (h : g.discretize orc = .ok f) (hpre : Pre g.dd)
    (hsch : g.dd.scheme = 1)
    (hpar : ∀ lo hi, g.dd.dom.lo ≤ lo → lo ≤ hi → hi ≤ g.dd.dom.hi → ParentOK (g.parent orc) lo hi) :
    FamGood orc f ∧ ∃ d, d.dom = g.dd.dom ∧ f = { g with dd := d } := by
  obtain ⟨d, hd, rfl⟩ := FamSt.discretize_ok h
  obtain ⟨hv, hc⟩ := discretize_valid _ _ d hpre (hpar _ _ le_rfl hpre.dom_ordered le_rfl) hd
  exact ⟨⟨hpre.of_sameCfg hc, hv, hc.2.2.2.2 ▸ hsch, fun lo hi a b c => hpar lo hi (hc.dom ▸ a) b (hc.dom ▸ c)⟩,
    d, hc.dom, rfl⟩

theorem famgood_discretize (orc : Parent ℝ) (f g : FamSt ℝ) (hpre : Pre g.dd) (hsch : g.dd.scheme = 1)
    (hpar : ∀ lo hi, g.dd.dom.lo ≤ lo → lo ≤ hi → hi ≤ g.dd.dom.hi → ParentOK (g.parent orc) lo hi)
    (hf : FamGood orc f) :
    FamGood orc (stepOf f (g.discretize orc)).st ∧
      ((stepOf f (g.discretize orc)).st = f ∨ ∃ d, d.dom = g.dd.dom ∧ (stepOf f (g.discretize orc)).st = { g with dd := d }) := by
  rcases stepOf_cases f (g.discretize orc) with h | h
  · rw [h]; exact ⟨hf, Or.inl rfl⟩
  · obtain ⟨hg, d, hd, e⟩ := discretize_famgood orc g _ h hpre hsch hpar
    exact ⟨hg, Or.inr ⟨d, hd, e⟩⟩

theorem famgood_rediscretized (orc : Parent ℝ) (f g : FamSt ℝ) (hg : SameFrame f g) (hpre : Pre g.dd)
    (hsch : g.dd.scheme = 1) (hf : FamGood orc f) :
    FamGood orc (stepOf f (g.discretize orc)).st ∧ SameFrame f (stepOf f (g.discretize orc)).st := by
  obtain ⟨hg', h | ⟨d, hd, h⟩⟩ := famgood_discretize orc f g hpre hsch
    (fun lo hi a b c => hg.parent orc ▸ hf.parent lo hi (hg.dom ▸ a) b (hg.dom ▸ c)) hf
  · rw [h]; exact ⟨hf, .refl f⟩
  · rw [h] at hg' ⊢; exact ⟨hg', hg.fam, hg.p1, hg.p2, hg.p3, hg.tpTied, hd.trans hg.dom⟩

theorem setN_eq (orc : Parent ℝ) (f : FamSt ℝ) (n : Nat) :
    (setN orc f n).st = f ∨ (setN orc f n).st = (stepOf f (({ f with dd := { f.dd with n := n } } : FamSt ℝ).discretize orc)).st := by
  unfold setN setNumberOfCategories
  split
  · right
    unfold FamSt.discretize
    show _ = (stepOf f (do let d ← discretize (f.parent orc) { f.dd with n := n }; pure { f with dd := d })).st
    cases discretize (f.parent orc) { f.dd with n := n } <;> rfl
  · left; rfl

theorem setMed_eq (orc : Parent ℝ) (f : FamSt ℝ) (b : Bool) :
    (setMed orc f b).st = f ∨ (setMed orc f b).st = (stepOf f (({ f with dd := { f.dd with median := b } } : FamSt ℝ).discretize orc)).st := by
  unfold setMed setMedian
  split
  · right
    unfold FamSt.discretize
    show _ = (stepOf f (do let d ← discretize (f.parent orc) { f.dd with median := b }; pure { f with dd := d })).st
    cases discretize (f.parent orc) { f.dd with median := b } <;> rfl
  · left; rfl

theorem fstep_generic (orc : Parent ℝ) (f : FamSt ℝ) (op : FOp) (hreg : op.regular) (hf : FamGood orc f)
    (hop : match op with | .setN _ => True | .setMed _ => True | .rediscretize => True | _ => False) :
    FamGood orc (fstep orc f op) ∧ SameFrame f (fstep orc f op) := by
  cases op with
  | setP name v => exact absurd hop id
  | restrict c => exact absurd hop id
  | setN n =>
    rcases setN_eq orc f n with h | h <;> simp only [fstep, h]
    · exact ⟨hf, .refl f⟩
    · exact famgood_rediscretized orc f _ ⟨rfl, rfl, rfl, rfl, rfl, rfl⟩ ⟨hreg, hf.pre.prec_nonneg, hf.pre.dom_ordered⟩ hf.scheme hf
  | setMed b =>
    rcases setMed_eq orc f b with h | h <;> simp only [fstep, h]
    · exact ⟨hf, .refl f⟩
    · exact famgood_rediscretized orc f _ ⟨rfl, rfl, rfl, rfl, rfl, rfl⟩ ⟨hf.pre.n_pos, hf.pre.prec_nonneg, hf.pre.dom_ordered⟩ hf.scheme hf
  | rediscretize => exact famgood_rediscretized orc f f (.refl f) hf.pre hf.scheme hf

/-- restriction: refused (state unchanged), or the state is re-discretised on a narrower domain that
accepts what the old domain and the constraint both accept; the truncated exponential, whose
constraint must accept `tp`, then ties `tp` to the domain -/
theorem restrict_cases (orc : Parent ℝ) (f : FamSt ℝ) (c : Interval ℝ) (hf : FamGood orc f) :
    (restrict orc f c).st = f ∨ ∃ d t, (restrict orc f c).st = { f with dd := d, tpTied := t } ∧
      FamGood orc { f with dd := d, tpTied := t } ∧ f.dd.dom.lo ≤ d.dom.lo ∧ d.dom.hi ≤ f.dd.dom.hi ∧
      (∀ v, f.dd.dom.isCorrect v = true → c.isCorrect v = true → d.dom.isCorrect v = true) ∧
      (f.fam = .texp → c.isCorrect f.p2 = true ∧ (d.dom.isCorrect f.p2 = true → t = true)) := by
  have tie : ∀ (d : DD ℝ) (t : Bool), FamGood orc { f with dd := d } → FamGood orc { f with dd := d, tpTied := t } :=
    fun d t h => ⟨h.pre, h.valid, h.scheme, h.parent⟩
  -- the state after the restriction, given the re-discretised classes `d`
  have fin : ∀ d : DD ℝ, FamGood orc { f with dd := d } → f.dd.dom.lo ≤ d.dom.lo → d.dom.hi ≤ f.dd.dom.hi →
      (∀ v, f.dd.dom.isCorrect v = true → c.isCorrect v = true → d.dom.isCorrect v = true) →
      (f.fam = .texp → c.isCorrect f.p2 = true) →
      ∃ d' t, (match f.fam with
          | .texp => if d.dom.isCorrect f.p2 then (⟨{ f with dd := d, tpTied := true }, none⟩ : Step ℝ) else ⟨{ f with dd := d }, some .constraint⟩
          | _ => ⟨{ f with dd := d }, none⟩).st = { f with dd := d', tpTied := t } ∧
        FamGood orc { f with dd := d', tpTied := t } ∧ f.dd.dom.lo ≤ d'.dom.lo ∧ d'.dom.hi ≤ f.dd.dom.hi ∧
        (∀ v, f.dd.dom.isCorrect v = true → c.isCorrect v = true → d'.dom.isCorrect v = true) ∧
        (f.fam = .texp → c.isCorrect f.p2 = true ∧ (d'.dom.isCorrect f.p2 = true → t = true)) := by
    intro d hg h1 h2 h3 h4
    by_cases ht : f.fam = .texp ∧ d.dom.isCorrect f.p2 = true
    · refine ⟨d, true, ?_, tie d true hg, h1, h2, h3, fun h => ⟨h4 h, fun _ => rfl⟩⟩
      rw [ht.1]; simp only [ht.2, if_true]
    · refine ⟨d, f.tpTied, ?_, hg, h1, h2, h3, fun h => ⟨h4 h, fun h' => absurd ⟨h, h'⟩ ht⟩⟩
      split
      · rw [if_neg (fun h => ht ⟨‹_›, h⟩)]
      · rfl
  unfold restrict
  split
  · exact Or.inl rfl
  · rename_i hguard
    have h4 : f.fam = .texp → c.isCorrect f.p2 = true := fun h => by simpa [h] using hguard
    unfold restrictToConstraint
    cases hr : restrictDom f.dd.dom c with
    | error e => exact Or.inl rfl
    | ok dc =>
      obtain ⟨dm, ch⟩ := dc
      obtain ⟨-, hlo, h3, h4', hiff, -⟩ := (restrictDom_spec f.dd.dom c).2.2 dm ch hr
      simp only [bind, Except.bind]
      cases ch with
      | false => exact Or.inr (fin f.dd hf le_rfl le_rfl (fun v h _ => h) h4)
      | true =>
        simp only [if_true]
        cases hd : discretize (f.parent orc) { f.dd with dom := dm } with
        | error e => exact Or.inl rfl
        | ok d' =>
          obtain ⟨hg, d'', hdom, e⟩ := discretize_famgood orc { f with dd := { f.dd with dom := dm } } { f with dd := d' }
            (by
              show (do let d ← discretize (f.parent orc) { f.dd with dom := dm }; pure ({ f with dd := d } : FamSt ℝ)) = _
              rw [hd]; rfl)
            ⟨hf.pre.n_pos, hf.pre.prec_nonneg, hlo⟩ hf.scheme
            (fun lo hi a b c' => hf.parent lo hi (h3.trans a) b (c'.trans h4'))
          have hdom' : d'.dom = dm := by
            have := congrArg FamSt.dd e; simp only at this; rw [this]; exact hdom
          exact Or.inr (fin d' hg (hdom' ▸ h3) (hdom' ▸ h4') (fun v a b => hdom' ▸ (hiff v).2 ⟨a, b⟩) h4)

/-! ## `discretize` of any family keeps `Pre` and leaves the bounds inside the domain -/

theorem famDiscretize_pre (oracle : Parent ℝ) (g f' : FamSt ℝ) (hg : Pre g.dd) (h : g.discretize oracle = .ok f') :
    Pre f'.dd ∧ boundsInDom f'.dd = true := by
  obtain ⟨d, hd, rfl⟩ := FamSt.discretize_ok h
  exact ⟨hg.of_sameCfg (discretize_cfg _ _ _ hd), discretize_bounds_in_dom _ _ _ hg.n_pos hg.dom_ordered hd⟩

end Bpp.Discretize
