import BppProofs.Lemmas.TreeObsCopy
import BppProofs.Lemmas.DagObs
/-!
Helper lemmas for `Props/C15Remove.lean`: what a successful `GlobalGraph::unlink` leaves in the edge table
(`relationRemoved` of `BppModel/TreeObsCopy.lean`), carried through the delivery of the notifications to the
observers of a tree (`TW.liftW`) and of a DAG (`DW.liftW`).
-/
namespace Bpp
namespace Graph
open AL

/-- `relationRemoved` reads the directed flag and the edge table of the graph before, the edge table of the
graph after, and the keys of both node tables — nothing else (in particular not `pending`) -/
theorem relationRemoved_congr {g₁ g₂ g₁' g₂' : G} (a b : Nat) (hd : g₁.directed = g₂.directed)
    (he : g₁.edges = g₂.edges) (hn : AL.keys g₁.nodes = AL.keys g₂.nodes)
    (he' : g₁'.edges = g₂'.edges) (hn' : AL.keys g₁'.nodes = AL.keys g₂'.nodes) :
    relationRemoved g₁ g₁' a b = relationRemoved g₂ g₂' a b := by
  unfold relationRemoved
  simp only [hd, he, hn, he', hn']

/-- the graph after the delivery of the notifications has the tables of the graph before it -/
theorem relationRemoved_quiet (g g' : G) (a b : Nat) :
    relationRemoved g { g' with pending := [] } a b = relationRemoved g g' a b :=
  relationRemoved_congr a b rfl rfl rfl rfl rfl

namespace G

/-- in a consistent graph the edge-table entries that join `a` to `b` (either way round when undirected) are
exactly the ones carrying the id found in the row of `a` -/
theorem hit_iff_id {g : G} (hc : Consistent g) {a b e : Nat} (hO : g.outE a b = some e) {e' x y : Nat}
    (hmem : (e', (x, y)) ∈ g.edges) :
    (((x == a && y == b) || (!g.directed && x == b && y == a)) = true) ↔ e' = e := by
  have hf : find e' g.edges = some (x, y) := (mem_iff_find hc.sorted.edges e' (x, y)).1 hmem
  obtain ⟨hOxy, _, hU⟩ := hc.views.edge_listed e' x y hf
  constructor
  · intro hh
    simp only [Bool.or_eq_true, Bool.and_eq_true, beq_iff_eq, Bool.not_eq_true'] at hh
    rcases hh with ⟨h1, h2⟩ | ⟨⟨hd, h1⟩, h2⟩
    · subst h1; subst h2
      rw [hOxy] at hO; injection hO
    · subst h1; subst h2
      have := (hU hd).1
      rw [this] at hO; injection hO
  · intro he
    subst he
    rcases hc.views.out_edge a b e' hO with h | ⟨hd, h⟩
    · rw [hf] at h; injection h with h; injection h with h1 h2
      subst h1; subst h2; simp
    · rw [hf] at h; injection h with h; injection h with h1 h2
      subst h1; subst h2; simp [hd]

/-- **a successful `unlink(a, b)` on a consistent graph** removes from the edge table exactly the entries
joining `a` to `b` (either way round when the graph is undirected) and no node -/
theorem unlink_ok_removed {g g' : G} (hc : Consistent g) {a b : Nat} {es : List Nat}
    (h : unlink a b g = .ok es g') : relationRemoved g g' a b = true := by
  rcases hO : g.outE a b with _ | e
  · rw [unlink_none hO] at h; cases h
  · obtain ⟨g'', h2, u⟩ := unlink_some hc hO
    rw [h2] at h
    injection h with _ hg
    subst hg
    unfold relationRemoved
    simp only [Bool.and_eq_true, beq_iff_eq]
    refine ⟨?_, u.keys⟩
    rw [u.edges]
    unfold AL.erase
    apply List.filter_congr
    rintro ⟨e', x, y⟩ hmem
    have hi := hit_iff_id hc hO hmem
    by_cases he : e' = e
    · have := hi.2 he
      simp only at this ⊢
      rw [this]; simp [he]
    · have : ((x == a && y == b) || (!g.directed && x == b && y == a)) = false := by
        cases hv : ((x == a && y == b) || (!g.directed && x == b && y == a))
        · rfl
        · exact absurd (hi.1 hv) he
      simp only at this ⊢
      rw [this]; simp [he]

/-- the same on the state reached, whatever the outcome is called -/
theorem unlink_state_removed {g : G} (hc : Consistent g) {a b : Nat} {es : List Nat} {g' : G}
    (h : unlink a b g = .ok es g') : relationRemoved g (unlink a b g).state a b = true := by
  rw [h]; exact unlink_ok_removed hc h

end G

namespace TW

/-- `removeSonG` succeeded: the `unlink` inside did, and the graph of the new world is its result, quiet -/
theorem removeSonG_ok {tw : TW} {n s : Nat} {u : Unit} {gq : G} (h : (tw.removeSonG n s).1 = .ok u gq) :
    ∃ es g', G.unlink n s tw.w.g = .ok es g' ∧ (tw.removeSonG n s).2.w.g = { g' with pending := [] } := by
  unfold removeSonG at h ⊢
  rw [touch_fst] at h
  rw [touch_w]
  rcases hr : (tw.liftW (tw.w.g.unlink n s)).1 with ⟨es, g1⟩ | g1
  · obtain ⟨g', hl⟩ := liftW_fst_ok _ _ hr
    refine ⟨es, g', hl, ?_⟩
    show (tw.liftW (tw.w.g.unlink n s)).2.w.g = _
    rw [liftW_g, hl]; rfl
  · simp [unit, hr, GOut.forget] at h

theorem removeSonG_removed {tw : TW} (hc : Consistent tw.w.g) {n s : Nat} {u : Unit} {gq : G}
    (h : (tw.removeSonG n s).1 = .ok u gq) : relationRemoved tw.w.g (tw.removeSonG n s).2.w.g n s = true := by
  obtain ⟨es, g', hl, hg⟩ := removeSonG_ok h
  rw [hg, relationRemoved_quiet]
  exact G.unlink_ok_removed hc hl

end TW

namespace DW
open TW (WRes)

/-- the id-level `unlink` with the observers told succeeded -/
theorem unlinkW_removed {d1 : DW} (hc : Consistent d1.w.g) {x y : Nat} {u : Unit} {gq : G}
    (h : (unit (d1.liftW (d1.w.g.unlink x y))).1 = .ok u gq) :
    relationRemoved d1.w.g (unit (d1.liftW (d1.w.g.unlink x y))).2.w.g x y = true := by
  rcases hr : (d1.liftW (d1.w.g.unlink x y)).1 with ⟨es, g1⟩ | g1
  · obtain ⟨g', hl⟩ := liftW_fst_ok _ _ hr
    show relationRemoved d1.w.g (d1.liftW (d1.w.g.unlink x y)).2.w.g x y = true
    rw [liftW_g, hl]
    show relationRemoved d1.w.g { g' with pending := [] } x y = true
    rw [relationRemoved_quiet]
    exact G.unlink_ok_removed hc hl
  · simp [unit, hr, GOut.forget] at h

theorem removeSonG_removed {dw : DW} (hc : Consistent dw.w.g) {n s : Nat} {u : Unit} {gq : G}
    (h : (dw.removeSonG n s).1 = .ok u gq) : relationRemoved dw.w.g (dw.removeSonG n s).2.w.g n s = true :=
  unlinkW_removed hc h

/-- `removeFather(node, father)` removes the relation father -> node -/
theorem removeFatherG_removed {dw : DW} (hc : Consistent dw.w.g) {n f : Nat} {u : Unit} {gq : G}
    (h : (dw.removeFatherG n f).1 = .ok u gq) : relationRemoved dw.w.g (dw.removeFatherG n f).2.w.g f n = true := by
  unfold removeFatherG at h ⊢
  rcases hq : RowQ.nbIn (dw.w.g.rowOf n) with _ | c
  · rw [hq] at h; simp at h
  · rw [hq] at h
    simp only at h ⊢
    by_cases hc1 : c = 1
    · simp only [hc1, if_true] at h ⊢
      exact unlinkW_removed (d1 := { dw with rooted := false }) hc h
    · simp only [hc1, if_false] at h ⊢
      exact unlinkW_removed hc h

end DW
end Graph
end Bpp
