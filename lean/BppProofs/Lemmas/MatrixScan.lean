import BppProofs.Lemmas.MatrixReal2
/-! Helper lemmas for C04: the extremum scan (`whichMax`, `whichMin`, `max`, `min`). -/
namespace Bpp.Mx
open Bpp Store

noncomputable instance : ExtCmp ℝ := ⟨fun _ => true, fun _ => true⟩

/-- row-major order on positions -/
def Before (p q i j : Nat) : Prop := p < i ∨ (p = i ∧ q < j)

theorem before_succ {p q i j : Nat} : Before p q i (j + 1) ↔ Before p q i j ∨ (p = i ∧ q = j) := by
  unfold Before; omega

/-- for a position of a matrix with `nc` columns: before the next row = before the end of this one -/
theorem before_next_row {p q i nc : Nat} (hq : q < nc) : Before p q (i + 1) 0 ↔ Before p q i nc := by
  unfold Before; omega

/-- what the scan state means after all positions before `(i, j)` (row-major, columns `< nc`) have
been looked at, for a strict preference `R x c` = "`x` is strictly better than `c`" -/
def ScanInv (R : ℝ → ℝ → Prop) (a : Nat → Nat → ℝ) (nc i j : Nat) (s : Scan ℝ) : Prop :=
  (s.cur = none ∧ ∀ p q, q < nc → ¬ Before p q i j) ∨
  (s.cur = some (a s.i s.j) ∧ s.j < nc ∧ Before s.i s.j i j ∧
    (∀ p q, q < nc → Before p q i j → ¬ R (a p q) (a s.i s.j)) ∧
    (∀ p q, q < nc → Before p q s.i s.j → R (a s.i s.j) (a p q)))

theorem scan_spec (R : ℝ → ℝ → Prop) [DecidableRel R] (first : ℝ → Bool) (better : ℝ → ℝ → Bool)
    (hfirst : ∀ x, first x = true) (hbetter : ∀ x c, better x c = true ↔ R x c)
    (H1 : ∀ x c y, R x c → ¬ R y c → R x y) (H2 : ∀ x c y, R x c → ¬ R y c → ¬ R y x) (H3 : ∀ x, ¬ R x x)
    {A : Store ℝ} (hA : A.WF) :
    ∃ s, scan first better A = .ok s ∧ ScanInv R A.entry A.ncols A.nrows 0 s := by
  unfold scan
  apply loopM_inv (fun i s => ScanInv R A.entry A.ncols i 0 s)
  · exact Or.inl ⟨rfl, fun p q _ h => by unfold Before at h; omega⟩
  · intro i s hi hinv
    obtain ⟨s', e, h'⟩ := loopM_inv (fun j s => ScanInv R A.entry A.ncols i j s) A.ncols
      (fun j s => scanStep first better A i j s) s hinv
      (by
        intro j t hj hinv2
        simp only [scanStep, get_eq_entry hA hi hj]
        refine ⟨_, rfl, ?_⟩
        rcases hinv2 with ⟨hc, hemp⟩ | ⟨hc, hjt, hbef, hmax, hfst⟩
        · -- nothing seen so far: the entry is taken
          simp only [hc, hfirst, if_true]
          refine Or.inr ⟨rfl, hj, before_succ.2 (Or.inr ⟨rfl, rfl⟩), fun p q hq hb => ?_,
            fun p q hq hb => absurd hb (hemp p q hq)⟩
          obtain ⟨rfl, rfl⟩ := (before_succ.1 hb).resolve_left (hemp p q hq)
          exact H3 _
        · simp only [hc]
          by_cases hR : R (A.entry i j) (A.entry t.i t.j)
          · -- strictly better: taken
            simp only [(hbetter _ _).2 hR, if_true]
            refine Or.inr ⟨rfl, hj, before_succ.2 (Or.inr ⟨rfl, rfl⟩), fun p q hq hb => ?_,
              fun p q hq hb => H1 _ _ _ hR (hmax p q hq hb)⟩
            rcases before_succ.1 hb with hb' | ⟨rfl, rfl⟩
            · exact H2 _ _ _ hR (hmax p q hq hb')
            · exact H3 _
          · -- not better: kept
            simp only [Bool.eq_false_iff.2 (fun h => hR ((hbetter _ _).1 h)), Bool.false_eq_true, if_false]
            refine Or.inr ⟨hc, hjt, before_succ.2 (Or.inl hbef), fun p q hq hb => ?_, hfst⟩
            rcases before_succ.1 hb with hb' | ⟨rfl, rfl⟩
            · exact hmax p q hq hb'
            · exact hR)
    refine ⟨s', e, ?_⟩
    rcases h' with ⟨hc, hemp⟩ | ⟨hc, hjt, hbef, hmax, hfst⟩
    · exact Or.inl ⟨hc, fun p q hq hb => hemp p q hq ((before_next_row hq).1 hb)⟩
    · exact Or.inr ⟨hc, hjt, (before_next_row hjt).2 hbef, fun p q hq hb => hmax p q hq ((before_next_row hq).1 hb), hfst⟩

/-- the scan of a non-empty matrix ends on a position of the matrix that is the first extremum in
row-major order -/
theorem scan_nonempty (R : ℝ → ℝ → Prop) [DecidableRel R] (first : ℝ → Bool) (better : ℝ → ℝ → Bool)
    (hfirst : ∀ x, first x = true) (hbetter : ∀ x c, better x c = true ↔ R x c)
    (H1 : ∀ x c y, R x c → ¬ R y c → R x y) (H2 : ∀ x c y, R x c → ¬ R y c → ¬ R y x) (H3 : ∀ x, ¬ R x x)
    {A : Store ℝ} (hA : A.WF) (hr : 0 < A.nrows) (hc : 0 < A.ncols) :
    ∃ s, scan first better A = .ok s ∧ s.i < A.nrows ∧ s.j < A.ncols ∧ s.cur = some (A.entry s.i s.j) ∧
      (∀ p q, p < A.nrows → q < A.ncols → ¬ R (A.entry p q) (A.entry s.i s.j)) ∧
      (∀ p q, q < A.ncols → Before p q s.i s.j → R (A.entry s.i s.j) (A.entry p q)) := by
  obtain ⟨s, e, hinv⟩ := scan_spec R first better hfirst hbetter H1 H2 H3 hA
  rcases hinv with ⟨_, hemp⟩ | ⟨hcur, hj, hbef, hmax, hfst⟩
  · exact absurd (Or.inl hr) (hemp 0 0 hc)
  · refine ⟨s, e, ?_, hj, hcur, fun p q hp hq => hmax p q hq (Or.inl hp), hfst⟩
    rcases hbef with h | h
    · exact h
    · omega

end Bpp.Mx
