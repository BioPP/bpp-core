import BppProofs.Lemmas.TreeRootAt
import BppProofs.Lemmas.TreeInd
/-
Re-rooting a valid unrooted tree (`rootAt`, undirected case): the relations are listed from the new
root by a traversal (`fillRelationsFrom_`), the graph is made directed (each relation kept in the
order of the node ids) and the relations that lead towards the new root are switched.  At the end, for rooted and
unrooted trees alike and whatever the flag says: `rootAt` keeps consistent tables of the same shape (`T.rootAt_shape`).
-/
namespace Bpp.Graph
open AL

namespace PTree
variable {P : PTree}

/-- a tree can be seen from any of its nodes: same nodes, same father-son pairs up to order -/
theorem WF.reroot_any (h : P.WF) : ∀ (k n : Nat), P.rank n = k → n ∈ P.nodes →
    ∃ P' : PTree, P'.WF ∧ P'.root = n ∧ P'.nodes = P.nodes ∧ ∀ a b, P'.ULinked a b ↔ P.ULinked a b := by
  intro k
  induction k with
  | zero =>
    intro n hk hn
    by_cases hr : n = P.root
    · subst hr; exact ⟨P, h, rfl, rfl, fun _ _ => Iff.rfl⟩
    · obtain ⟨p, _, _, hrk⟩ := h.par_some n hn hr; omega
  | succ k ih =>
    intro n hk hn
    by_cases hr : n = P.root
    · subst hr; exact ⟨P, h, rfl, rfl, fun _ _ => Iff.rfl⟩
    · obtain ⟨p, hp, hpm, hrk⟩ := h.par_some n hn hr
      obtain ⟨P1, h1, hroot1, hnodes1, hul1⟩ := ih p (by omega) hpm
      have hl : P1.ULinked n p := (hul1 n p).2 (.inl hp)
      have hpn : P1.par n = some P1.root := by
        rcases hl with hl | hl
        · rw [hroot1]; exact hl
        · rw [← hroot1, h1.par_root] at hl; cases hl
      exact ⟨P1.reroot n, reroot_wf h1 hpn, rfl, hnodes1, fun a b => (reroot_ulinked h1 hpn a b).trans (hul1 a b)⟩

end PTree

/-- the undirected graph `g` is the tree `P` (seen from `P.root`) -/
structure UTree (g : G) (P : PTree) : Prop where
  cons : Consistent g
  dir : g.directed = false
  wf : P.WF
  nodes : ∀ n, n ∈ P.nodes ↔ g.hasNode n = true
  arc : ∀ a b, Arc g a b ↔ (P.par b = some a ∨ P.par a = some b)

theorem UTree.of_matches {g : G} {P : PTree} (hc : Consistent g) (hd : g.directed = false) (hw : P.WF) (hm : Matches g P) : UTree g P :=
  ⟨hc, hd, hw, hm.nodes, fun a b => by rw [hm.arc a b]; simp [hd]⟩

/-- an unrooted tree can be seen from any of its nodes -/
theorem UTree.from_node {g : G} {P : PTree} (h : UTree g P) {n : Nat} (hn : g.hasNode n = true) :
    ∃ P', UTree g P' ∧ P'.root = n := by
  obtain ⟨P', hw', hr', hn', hul⟩ := h.wf.reroot_any _ n rfl ((h.nodes n).2 hn)
  refine ⟨P', ⟨h.cons, h.dir, hw', by intro x; rw [hn']; exact h.nodes x, ?_⟩, hr'⟩
  intro a b
  rw [h.arc a b]
  have := hul b a
  unfold PTree.ULinked at this
  exact this.symm

namespace UTree
variable {g : G} {P : PTree}

theorem no_loop (h : UTree g P) (a : Nat) : ¬ Arc g a a := by
  intro ha
  rcases (h.arc a a).1 ha with hp | hp <;> exact h.wf.par_ne_self hp rfl

theorem rank_lt (h : UTree g P) {n : Nat} (hn : n ∈ P.nodes) : P.rank n + 1 ≤ g.nodes.length := by
  have := h.wf.rank_lt hn (l := AL.keys g.nodes) (fun x hx => (G.mem_keys_hasNode g x).2 ((h.nodes x).1 hx))
  simpa [AL.keys] using this

/-- where the traversal comes from: nowhere at the root, the father elsewhere -/
def OriginOk (P : PTree) (n origin : Nat) : Prop := (n = P.root ∧ origin = n) ∨ P.par n = some origin

/-- a neighbour other than the origin is a son -/
theorem son_of_arc (h : UTree g P) {n origin c : Nat} (ho : OriginOk P n origin) (ha : Arc g n c) (hne : c ≠ origin) :
    P.par c = some n := by
  rcases (h.arc n c).1 ha with hp | hp
  · exact hp
  · exfalso
    rcases ho with ⟨hr, _⟩ | hpo
    · subst hr; rw [h.wf.par_root] at hp; cases hp
    · rw [hp] at hpo; cases hpo; exact hne rfl

theorem origin_not_son (h : UTree g P) {n origin : Nat} (ho : OriginOk P n origin) : P.par origin ≠ some n := by
  intro hp
  rcases ho with ⟨_, he⟩ | hpo
  · subst he; exact h.wf.par_ne_self hp rfl
  · exact h.wf.no_two_cycle hp hpo

/-- `fillRelationsFrom_` from `n`: the (father, son) pairs of the subtree of `n` -/
theorem relationsFrom (h : UTree g P) : ∀ (fuel n origin : Nat) (rel : List (Nat × Nat)), n ∈ P.nodes → OriginOk P n origin →
    g.nodes.length + 1 ≤ fuel + P.rank n →
    ∃ L, T.relationsFrom g fuel n origin rel = .ok (rel ++ L) ∧ ∀ a b, (a, b) ∈ L ↔ (P.par b = some a ∧ IsAnc P.par n a) := by
  intro fuel
  induction fuel with
  | zero => intro n origin rel hn _ hf; have := h.rank_lt hn; omega
  | succ f ih =>
    intro n origin rel hn ho hf
    simp only [T.relationsFrom]
    rw [G.outNeighbors_of_hasNode ((h.nodes n).1 hn)]
    simp only
    have key : ∀ (ls : List Nat) (rel : List (Nat × Nat)), (∀ c ∈ ls, Arc g n c) →
        ∃ L, ls.foldl (fun (acc : TRes (List (Nat × Nat))) nb =>
            match acc with
            | .ok r => if nb = origin then .ok r else T.relationsFrom g f nb n (r ++ [(n, nb)])
            | e => e) (.ok rel) = .ok (rel ++ L) ∧
          ∀ a b, (a, b) ∈ L ↔ ∃ c ∈ ls, P.par c = some n ∧ ((a = n ∧ b = c) ∨ (P.par b = some a ∧ IsAnc P.par c a)) := by
      intro ls
      induction ls with
      | nil => intro rel _; exact ⟨[], by simp, by simp⟩
      | cons c rest ihl =>
        intro rel harc
        simp only [List.foldl]
        by_cases hco : c = origin
        · rw [if_pos hco]
          obtain ⟨L, h1, h2⟩ := ihl rel (fun d hd => harc d (List.mem_cons_of_mem _ hd))
          refine ⟨L, h1, fun a b => ?_⟩
          rw [h2 a b]
          constructor
          · rintro ⟨d, hd, hx⟩; exact ⟨d, List.mem_cons_of_mem _ hd, hx⟩
          · rintro ⟨d, hd, hpd, hx⟩
            rcases List.mem_cons.1 hd with e | hd'
            · subst e; subst hco; exact absurd hpd (h.origin_not_son ho)
            · exact ⟨d, hd', hpd, hx⟩
        · rw [if_neg hco]
          have hpc := h.son_of_arc ho (harc c (List.mem_cons_self ..)) hco
          have hm := h.wf.par_mem hpc
          obtain ⟨L1, h1, h2⟩ := ih c n (rel ++ [(n, c)]) hm.1 (.inr hpc) (by omega)
          rw [h1]
          obtain ⟨L2, h3, h4⟩ := ihl (rel ++ [(n, c)] ++ L1) (fun d hd => harc d (List.mem_cons_of_mem _ hd))
          refine ⟨[(n, c)] ++ L1 ++ L2, by rw [h3]; simp, fun a b => ?_⟩
          simp only [List.mem_append, List.mem_singleton, Prod.mk.injEq]
          rw [h2 a b, h4 a b]
          constructor
          · rintro ((⟨rfl, rfl⟩ | hx) | ⟨d, hd, hx⟩)
            · exact ⟨b, List.mem_cons_self .., hpc, .inl ⟨rfl, rfl⟩⟩
            · exact ⟨c, List.mem_cons_self .., hpc, .inr hx⟩
            · exact ⟨d, List.mem_cons_of_mem _ hd, hx⟩
          · rintro ⟨d, hd, hpd, hx⟩
            rcases List.mem_cons.1 hd with e | hd'
            · subst e
              rcases hx with ⟨rfl, rfl⟩ | hx
              · exact .inl (.inl ⟨rfl, rfl⟩)
              · exact .inl (.inr hx)
            · exact .inr ⟨d, hd', hpd, hx⟩
    obtain ⟨L, h1, h2⟩ := key (g.outKeys n) rel (fun c hc => G.mem_outKeys.1 hc)
    refine ⟨L, h1, fun a b => ?_⟩
    rw [h2 a b]
    constructor
    · rintro ⟨c, _, hpc, ⟨rfl, rfl⟩ | ⟨hpb, hca⟩⟩
      · exact ⟨hpc, .refl _⟩
      · exact ⟨hpb, IsAnc.trans (IsAnc.of_par hpc) hca⟩
    · rintro ⟨hpb, hna⟩
      by_cases han : a = n
      · subst han
        exact ⟨b, G.mem_outKeys.2 ((h.arc a b).2 (.inl hpb)), hpb, .inl ⟨rfl, rfl⟩⟩
      · obtain ⟨c, hpc, hca⟩ := IsAnc.under_son hna han
        exact ⟨c, G.mem_outKeys.2 ((h.arc n c).2 (.inl hpc)), hpc, .inr ⟨hpb, hca⟩⟩

end UTree

/-! ### after `makeDirected`: every relation of the tree in one direction; the loop of `rootAt` puts them right -/

/-- the directed graph `g` carries the relations of the tree `P`, each in exactly one direction -/
structure Oriented (g : G) (P : PTree) : Prop where
  cons : Consistent g
  dir : g.directed = true
  nodes : ∀ n, n ∈ P.nodes ↔ g.hasNode n = true
  sub : ∀ x y, Arc g x y → P.ULinked x y
  all : ∀ x y, P.par y = some x → Arc g x y ∨ Arc g y x
  one : ∀ x y, Arc g x y → ¬ Arc g y x

theorem uedges_makeDirected {g : G} (hc : Consistent g) (hd : g.directed = false) : uedges (G.makeDirected g) = uedges g := by
  have h := (G.makeDirected_refines hc).1
  have he : (G.makeDirected g).edges = g.edges.map (fun t => (t.1, min t.2.1 t.2.2, max t.2.1 t.2.2)) := by
    have h1 := congrArg Spec.edges h
    rw [G.abs_edges] at h1
    rw [h1]
    unfold Spec.makeDirected
    have : g.abs.directed = false := hd
    simp only [this, Bool.false_eq_true, if_false]
    rw [G.abs_edges]
  unfold uedges
  rw [he, List.map_map]
  apply List.map_congr_left
  intro p _
  simp only [Function.comp, Prod.mk.injEq, true_and]
  constructor <;> omega

theorem UTree.oriented {g : G} {P : PTree} (h : UTree g P) : Oriented (G.makeDirected g) P ∧ SameShape g { G.makeDirected g with pending := [] } := by
  obtain ⟨hc', hD⟩ := G.makeDirected_spec h.cons h.dir
  have harc : ∀ x y, Arc (G.makeDirected g) x y ↔ ∃ e, (x, y, e) ∈ G.keptOf (G.outTriples g.nodes) [] := by
    intro x y
    constructor
    · intro ha; obtain ⟨e, he⟩ := out_of_arc ha; exact ⟨e, (hD.outE x y e).1 he⟩
    · rintro ⟨e, he⟩; exact arc_of_out ((hD.outE x y e).2 he)
  refine ⟨⟨hc', hD.rest.1, fun n => by rw [hD.hasNode n]; exact h.nodes n, ?_, ?_, ?_⟩, ⟨hD.keys, uedges_makeDirected h.cons h.dir, rfl⟩⟩
  · intro x y ha
    obtain ⟨e, he⟩ := (harc x y).1 ha
    have := (h.arc x y).1 (arc_of_out (hD.kept_sub x y e he))
    rcases this with hp | hp
    · exact .inr hp
    · exact .inl hp
  · intro x y hp
    obtain ⟨e, he⟩ := out_of_arc ((h.arc x y).2 (.inl hp))
    rcases hD.kept_all x y e he with hk | hk
    · exact .inl ((harc x y).2 ⟨e, hk⟩)
    · exact .inr ((harc y x).2 ⟨e, hk⟩)
  · intro x y ha hb
    obtain ⟨e, he⟩ := (harc x y).1 ha
    obtain ⟨e', he'⟩ := (harc y x).1 hb
    have h1 := hD.kept_sub x y e he
    have h2 := hD.kept_sub y x e' he'
    have h3 := ((G.cons_out_some h.cons h1).2.2 h.dir).1
    rw [h2] at h3; cases h3
    have := hD.kept_one x y e he he'
    subst this
    exact h.no_loop x (arc_of_out h1)

namespace Oriented
variable {P : PTree}

/-- one turn of the loop of `rootAt` on the relation father `a`, son `b` -/
theorem step {t : T} (h : Oriented t.g P) (hw : P.WF) (hq : t.g.pending = []) {a b : Nat} (hp : P.par b = some a) :
    ∃ t' : T, T.orientStep (.ok () t.g, t) (a, b) = (.ok () t'.g, t') ∧ Oriented t'.g P ∧ SameShape t.g t'.g ∧ t'.g.root = t.g.root ∧
      Arc t'.g a b ∧ ∀ x y, P.par y = some x → Arc t.g x y → Arc t'.g x y := by
  have hab : a ≠ b := (hw.par_ne_self hp)
  simp only [T.orientStep, T.andThen]
  rcases h.all a b hp with ha | hb
  · -- already the right way round
    obtain ⟨e, he⟩ := out_of_arc ha
    have hE := G.find_of_out h.cons h.dir he
    simp only [G.getAnyEdge, G.getEdge, he, G.getNodes, hE, ne_eq, not_true_eq_false, if_false]
    exact ⟨t, rfl, h, SameShape.refl' _ hq, rfl, ha, fun _ _ _ hxy => hxy⟩
  · have hno : t.g.outE a b = none := by
      cases ho : t.g.outE a b with
      | none => rfl
      | some e' => exact absurd hb (h.one a b (arc_of_out ho))
    obtain ⟨e, he⟩ := out_of_arc hb
    have hE := G.find_of_out h.cons h.dir he
    obtain ⟨g', _, hsw, hfl⟩ := switch_flip h.cons h.dir he (Ne.symm hab) hno
    simp only [G.getAnyEdge, G.getEdge, hno, he, G.getNodes, hE, ne_eq, (Ne.symm hab), not_false_eq_true, if_true, hsw, T.lift_ok]
    have hcons : Consistent ({ g' with pending := [] } : G) := consistent_rootPending hfl.cons _ _
    have harc' : ∀ x y, Arc ({ g' with pending := [] } : G) x y ↔ ((x = a ∧ y = b) ∨ (¬ (x = b ∧ y = a) ∧ Arc t.g x y)) := hfl.arc
    refine ⟨{ g := { g' with pending := [] }, valid := false }, rfl, ⟨hcons, hfl.dir, ?_, ?_, ?_, ?_⟩,
      (hfl.sameShape h.cons h.dir he hq).quiet, hfl.root, (harc' a b).2 (.inl ⟨rfl, rfl⟩), ?_⟩
    · intro n
      rw [h.nodes n]
      have := (hfl.sameShape h.cons h.dir he hq).hasNode n
      exact ⟨fun hh => by rw [← hh]; exact this, fun hh => by rw [← this]; exact hh⟩
    · intro x y hxy
      rcases (harc' x y).1 hxy with ⟨rfl, rfl⟩ | ⟨_, hxy'⟩
      · exact .inr hp
      · exact h.sub x y hxy'
    · intro x y hpxy
      by_cases hxy : x = a ∧ y = b
      · exact .inl ((harc' x y).2 (.inl hxy))
      · rcases h.all x y hpxy with h1 | h1
        · refine .inl ((harc' x y).2 (.inr ⟨?_, h1⟩))
          rintro ⟨rfl, rfl⟩; exact hw.no_two_cycle hp hpxy
        · refine .inr ((harc' y x).2 (.inr ⟨?_, h1⟩))
          rintro ⟨rfl, rfl⟩; exact hxy ⟨rfl, rfl⟩
    · intro x y hxy hyx
      rcases (harc' x y).1 hxy with ⟨rfl, rfl⟩ | ⟨hn1, hxy'⟩
      · rcases (harc' y x).1 hyx with ⟨rfl, _⟩ | ⟨hn2, _⟩
        · exact hab rfl
        · exact hn2 ⟨rfl, rfl⟩
      · rcases (harc' y x).1 hyx with ⟨rfl, rfl⟩ | ⟨_, hyx'⟩
        · exact hn1 ⟨rfl, rfl⟩
        · exact h.one x y hxy' hyx'
    · intro x y hpxy hxy
      refine (harc' x y).2 (.inr ⟨?_, hxy⟩)
      rintro ⟨rfl, rfl⟩; exact hw.no_two_cycle hp hpxy

/-- the whole loop: every listed relation ends up pointing from father to son -/
theorem fold (hw : P.WF) : ∀ (L : List (Nat × Nat)) (t : T), (∀ p ∈ L, P.par p.2 = some p.1) → Oriented t.g P → t.g.pending = [] →
    ∃ t' : T, L.foldl T.orientStep (.ok () t.g, t) = (.ok () t'.g, t') ∧ Oriented t'.g P ∧ SameShape t.g t'.g ∧ t'.g.root = t.g.root ∧
      (∀ p ∈ L, Arc t'.g p.1 p.2) ∧ ∀ x y, P.par y = some x → Arc t.g x y → Arc t'.g x y := by
  intro L
  induction L with
  | nil => intro t _ h hq; exact ⟨t, rfl, h, SameShape.refl' _ hq, rfl, by simp, fun _ _ _ hh => hh⟩
  | cons p rest ih =>
    intro t hL h hq
    obtain ⟨a, b⟩ := p
    have hp : P.par b = some a := hL (a, b) (List.mem_cons_self ..)
    obtain ⟨t1, h1, ho1, hs1, hr1, hab1, hk1⟩ := h.step hw hq hp
    obtain ⟨t2, h2, ho2, hs2, hr2, hall2, hk2⟩ := ih t1 (fun q hq' => hL q (List.mem_cons_of_mem _ hq')) ho1 hs1.pending
    refine ⟨t2, by simp only [List.foldl]; rw [h1, h2], ho2, hs1.trans hs2, by rw [hr2, hr1], ?_, ?_⟩
    · intro q hq'
      rcases List.mem_cons.1 hq' with e | hq''
      · subst e; exact hk2 a b hp hab1
      · exact hall2 q hq''
    · intro x y hpxy hxy
      exact hk2 x y hpxy (hk1 x y hpxy hxy)

/-- once every relation points from father to son the graph is the rooted tree -/
theorem dtree {g : G} (h : Oriented g P) (hw : P.WF) (hall : ∀ x y, P.par y = some x → Arc g x y) : DTree g P := by
  refine ⟨h.cons, h.dir, hw, h.nodes, fun a b => ⟨fun hab => ?_, hall a b⟩⟩
  rcases h.sub a b hab with hp | hp
  · exact absurd (hall b a hp) (h.one a b hab)
  · exact hp

end Oriented
theorem Oriented.rootPending {g : G} {P : PTree} (h : Oriented g P) (r : Nat) (p : List Event) :
    Oriented { g with root := r, pending := p } P :=
  ⟨consistent_rootPending h.cons r p, h.dir, h.nodes, h.sub, h.all, h.one⟩

/-- `rootAt` on a valid unrooted tree -/
theorem rootAt_unrooted (t : T) (hc : Consistent t.g) (hd : t.g.directed = false) (htree : T.isTree t.g = .ok true)
    (n : Nat) (hn : t.g.hasNode n = true) :
    ∃ t', t.rootAt n = .ok (.ok () t'.g, t') ∧ Rerooted t.g t'.g n := by
  obtain ⟨P0, hw0, hm0, _⟩ := (T.isTree_iff hc).1 htree
  obtain ⟨P, hu, hroot⟩ := (UTree.of_matches hc hd hw0 hm0).from_node hn
  have hnP : n ∈ P.nodes := (hu.nodes n).2 hn
  obtain ⟨L, hL, hLmem⟩ := hu.relationsFrom (t.g.nodes.length + 2) n n [] hnP (.inl ⟨hroot.symm, rfl⟩) (by omega)
  obtain ⟨hor, hss⟩ := hu.oriented
  unfold T.rootAt
  rw [T.isValid_of_tree htree]
  simp only [hn, Bool.not_true, Bool.false_eq_true, if_false, hd]
  rw [hL]
  simp only [List.nil_append]
  have hmd : ({ t with valid := true } : T).makeDirected = { g := G.makeDirected t.g, valid := false } := by
    simp [T.makeDirected, hd]
  have hn' : (G.makeDirected t.g).hasNode n = true := by
    rw [← (hor.nodes n)]; exact hnP
  rw [hmd]
  have hsr : ({ g := G.makeDirected t.g, valid := false } : T).setRoot n =
      (.ok () { G.makeDirected t.g with root := n, pending := [] },
        { g := { G.makeDirected t.g with root := n, pending := [] }, valid := false }) := by
    simp only [T.setRoot, G.setRoot, hn', if_true]; rfl
  rw [hsr]
  simp only
  have hor2 : Oriented ({ G.makeDirected t.g with root := n, pending := [] } : G) P := hor.rootPending _ _
  obtain ⟨t', hf, ho', hs', hr', hall', _⟩ := Oriented.fold hu.wf L
    { g := { G.makeDirected t.g with root := n, pending := [] }, valid := false }
    (fun p hp => ((hLmem p.1 p.2).1 hp).1) hor2 rfl
  refine ⟨t', by rw [hf], ?_⟩
  have hd' : DTree t'.g P := ho'.dtree hu.wf (by
    intro x y hp
    have hxm : x ∈ P.nodes := (hu.wf.par_mem hp).2.2.1
    exact hall' (x, y) ((hLmem x y).2 ⟨hp, hroot ▸ hu.wf.root_anc hxm⟩))
  have hroot' : t'.g.root = n := hr'
  refine ⟨hd'.validRooted (by rw [hroot, hroot']), hroot', ?_, ?_⟩
  · exact SameShape.trans (g2 := { G.makeDirected t.g with root := n, pending := [] }) ⟨hss.keys, hss.uedges, rfl⟩ hs'
  · intro x hx
    rw [hd'.fatherless_iff hx, hroot]

/-! ### what `rootAt` keeps whatever the flag says, succeeding or raising half way -/
namespace T

theorem lift_shape {α : Type} {t : T} {r : GOut α} (hc : r.All Consistent) (hk : AL.keys r.state.nodes = AL.keys t.g.nodes)
    (hu : uedges r.state = uedges t.g) : Consistent (t.lift r).2.g ∧ SameShape t.g (t.lift r).2.g := by
  rw [lift_g]
  exact ⟨consistent_rootPending hc.state _ _, hk, hu, rfl⟩

theorem makeDirected_shape (t : T) (hc : Consistent t.g) (hq : t.g.pending = []) :
    Consistent t.makeDirected.g ∧ SameShape t.g t.makeDirected.g := by
  unfold makeDirected
  split
  · exact ⟨hc, rfl, rfl, hq⟩
  · rename_i hd
    have hd' : t.g.directed = false := by simpa using hd
    obtain ⟨hc', d⟩ := G.makeDirected_spec hc hd'
    exact ⟨hc', d.keys, uedges_makeDirected hc hd', d.rest.2.2.2.2.trans hq⟩

/-- **`rootAt` and the shape of the graph**: on consistent quiet tables, whatever the flag says and whether the tree is
rooted or not, `rootAt` leaves consistent tables with the same nodes and the same undirected edges with their ids -/
theorem rootAt_shape (t : T) (hc : Consistent t.g) (hq : t.g.pending = []) (n : Nat) (r : GOut Unit × T)
    (hr : t.rootAt n = .ok r) : Consistent r.2.g ∧ SameShape t.g r.2.g := by
  have step : ∀ {t1 t2 : T}, (Consistent t1.g ∧ SameShape t.g t1.g) → (Consistent t2.g ∧ SameShape t1.g t2.g) →
      Consistent t2.g ∧ SameShape t.g t2.g := fun h s => ⟨s.1, h.2.trans s.2⟩
  exact rootAt_ind (fun t' => Consistent t'.g ∧ SameShape t.g t'.g) (fun t' h => by rw [isValid_g]; exact h)
    (fun t' n h => step h (lift_shape (G.setRoot_consistent h.1 n) (by unfold G.setRoot; split <;> rfl)
      (by unfold G.setRoot; split <;> rfl)))
    (fun t' h => step h (makeDirected_shape t' h.1 h.2.pending))
    (fun t' a b h => step h (lift_shape (G.switchNodes_consistent h.1 a b) (G.switchNodes_kept h.1 a b).keys
      (G.switchNodes_kept h.1 a b).uedges))
    t n r ⟨hc, rfl, rfl, hq⟩ hr

end T

end Bpp.Graph
