import BppProofs.Lemmas.TreeMrca
import BppProofs.Lemmas.TreeRootAtU
/-
`getNodePathBetweenTwoNodes` / `getEdgePathBetweenTwoNodes` on a valid rooted tree: the two ancestor
lines are cut at the most recent common ancestor `m`; the answer goes up from `a` to `m` and down
to `b`, through father-son links, without visiting a node twice.
-/
namespace Bpp.Graph
open AL

theorem strip_succ (p1 p2 : List Nat) (t1 t2 : Nat) :
    T.nodePath.strip p1 p2 (t1 + 1) (t2 + 1) = if p1[t1]? == p2[t2]? then T.nodePath.strip p1 p2 t1 t2 else (t1 + 1, t2 + 1) := rfl

/-- the stripping stops at `(i, j)` when the `d` entries from there on agree and the two before differ -/
theorem strip_spec (p1 p2 : List Nat) (i j : Nat) (hdiff : ∀ i' j', i = i' + 1 → j = j' + 1 → p1[i']? ≠ p2[j']?) :
    ∀ d, (∀ d' < d, p1[i + d']? = p2[j + d']?) → T.nodePath.strip p1 p2 (i + d) (j + d) = (i, j) := by
  intro d
  induction d with
  | zero =>
    intro _
    cases i with
    | zero => cases j <;> rfl
    | succ i =>
      cases j with
      | zero => rfl
      | succ j => rw [Nat.add_zero, Nat.add_zero, strip_succ, if_neg (fun e => hdiff i j rfl rfl (beq_iff_eq.1 e))]
  | succ d ih =>
    intro hs
    rw [← Nat.add_assoc, ← Nat.add_assoc, strip_succ, hs d (Nat.lt_succ_self d), if_pos (beq_self_eq_true _)]
    exact ih (fun d' hd' => hs d' (Nat.lt_succ_of_lt hd'))

theorem T.nodePath_ok {g : G} {a b t1 t2 x : Nat} {p1 p2 : List Nat} (hd : g.directed = true)
    (ha : g.hasNode a = true) (hb : g.hasNode b = true) (h1 : T.climb g (g.nodes.length + 2) a [] = .ok p1)
    (h2 : T.climb g (g.nodes.length + 2) b [] = .ok p2)
    (hs : T.nodePath.strip p1 p2 p1.length p2.length = (t1, t2)) (hx : p1[t1]? = some x) (inc : Bool) :
    T.nodePath g a b inc = .ok (if inc then p1.take t1 ++ [x] ++ (p2.take t2).reverse else p1.take t1 ++ (p2.take t2).reverse) := by
  unfold T.nodePath
  simp only [hd, ha, hb, h1, h2, hs, hx, Bool.not_true, Bool.or_self, Bool.false_eq_true, if_false]
  cases inc <;> rfl

theorem Ref.linked_symm (r : Ref) (a b : Nat) : r.linked a b = r.linked b a := Bool.or_comm ..

theorem Ref.chain_cons2 (r : Ref) (a b : Nat) (l : List Nat) : r.chain (a :: b :: l) = (r.linked a b && r.chain (b :: l)) := rfl

theorem Ref.chain_append (r : Ref) : ∀ (l1 : List Nat) (x : Nat) (l2 : List Nat),
    r.chain (l1 ++ [x]) = true → r.chain (x :: l2) = true → r.chain (l1 ++ x :: l2) = true
  | [], _, _, _, h => h
  | [a], x, l2, h1, h2 => by
    rw [List.singleton_append, Ref.chain_cons2, Bool.and_eq_true] at h1 ⊢
    exact ⟨h1.1, h2⟩
  | a :: b :: l, x, l2, h1, h2 => by
    rw [List.cons_append, List.cons_append, Ref.chain_cons2, Bool.and_eq_true] at h1 ⊢
    exact ⟨h1.1, Ref.chain_append r (b :: l) x l2 h1.2 h2⟩

theorem Ref.chain_reverse (r : Ref) : ∀ (l : List Nat), r.chain l = true → r.chain l.reverse = true
  | [], h => h
  | [_], h => h
  | a :: b :: l, h => by
    rw [Ref.chain_cons2, Bool.and_eq_true] at h
    rw [List.reverse_cons, List.reverse_cons, List.append_assoc]
    refine Ref.chain_append r _ b [a] ?_ ?_
    · rw [← List.reverse_cons]; exact Ref.chain_reverse r (b :: l) h.2
    · rw [Ref.chain_cons2, Ref.linked_symm, h.1]; rfl

theorem Ref.chain_take (r : Ref) : ∀ (l : List Nat) (k : Nat), r.chain l = true → r.chain (l.take k) = true
  | [], _, _ => by rw [List.take_nil]; rfl
  | _ :: _, 0, _ => rfl
  | [_], _ + 1, _ => by rw [List.take_succ_cons, List.take_nil]; rfl
  | _ :: _ :: _, 1, _ => rfl
  | a :: b :: l, k + 2, h => by
    rw [Ref.chain_cons2, Bool.and_eq_true] at h
    rw [List.take_succ_cons, List.take_succ_cons, Ref.chain_cons2, h.1, ← List.take_succ_cons]
    exact Ref.chain_take r (b :: l) (k + 1) h.2

theorem Ref.chain_lineOf (r : Ref) : ∀ (fuel n : Nat), r.chain (lineOf r.parent fuel n) = true := by
  intro fuel
  induction fuel with
  | zero => intro n; rfl
  | succ f ih =>
    intro n
    cases hp : r.parent n with
    | none => rw [lineOf_none hp]; rfl
    | some p =>
      rw [lineOf_some hp]
      have hh := lineOf_head r.parent f p
      have := ih p
      cases hl : lineOf r.parent f p with
      | nil => exact absurd hl (lineOf_ne_nil _ _ _)
      | cons x rest =>
        rw [hl] at hh this
        cases hh
        rw [Ref.chain_cons2, this, Ref.linked, hp]
        simp

theorem Ref.chain_zip (r : Ref) : ∀ (p : List Nat), r.chain p = true → ∀ q ∈ p.zip p.tail, r.linked q.1 q.2 = true
  | [], _, q, hq => by cases hq
  | [_], _, q, hq => by cases hq
  | a :: b :: l, h, q, hq => by
    rw [Ref.chain_cons2, Bool.and_eq_true] at h
    rcases List.mem_cons.1 hq with rfl | hq
    · exact h.1
    · exact Ref.chain_zip r (b :: l) h.2 q hq

namespace DTree
variable {g : G} {P : PTree}

/-- the node path from `a` to `b`: up the line of `a` to the most recent common ancestor `m`, down the line of `b` -/
theorem nodePath (h : DTree g P) {a b : Nat} (ha : a ∈ P.nodes) (hb : b ∈ P.nodes) :
    ∃ m i j, IsMrcaP P.par [a, b] m ∧
      (P.line a)[i]? = some m ∧ (P.line b)[j]? = some m ∧
      T.nodePath g a b true = .ok ((P.line a).take i ++ [m] ++ ((P.line b).take j).reverse) ∧
      T.nodePath g a b false = .ok ((P.line a).take i ++ ((P.line b).take j).reverse) := by
  obtain ⟨m, _, _, hm⟩ := h.joinRank ha (P.rank b + 1) b hb (Nat.le_refl _)
  obtain ⟨hma, hmb⟩ := (hm m).1 (.refl m)
  obtain ⟨i, hi⟩ := Nat.exists_eq_add_of_le (h.wf.anc_rank hma)
  obtain ⟨j, hj⟩ := Nat.exists_eq_add_of_le (h.wf.anc_rank hmb)
  have hia : (P.line a)[i]? = some m := (h.wf.line_getElem? _ a rfl i m).2 ⟨hma, hi.symm⟩
  have hib : (P.line b)[j]? = some m := (h.wf.line_getElem? _ b rfl j m).2 ⟨hmb, hj.symm⟩
  have hstrip : T.nodePath.strip (P.line a) (P.line b) (P.line a).length (P.line b).length = (i, j) := by
    rw [h.wf.line_length ha, h.wf.line_length hb, hi, hj, Nat.add_right_comm _ i, Nat.add_right_comm _ j,
      Nat.add_comm _ i, Nat.add_comm _ j]
    refine strip_spec _ _ i j ?_ _ (fun d' _ => ?_)
    · -- just below `m` the two lines would meet in a common ancestor deeper than `m`
      rintro i' j' rfl rfl heq
      have hlt : i' < (P.line a).length := by rw [h.wf.line_length ha, hi]; omega
      have hx := List.getElem?_eq_getElem hlt
      have hxa := h.wf.line_get hx
      have := h.wf.anc_rank ((hm _).2 ⟨hxa.2, (h.wf.line_get (heq ▸ hx)).2⟩)
      omega
    · rw [← List.getElem?_drop, ← List.getElem?_drop]
      have da := h.wf.line_drop hma
      have db := h.wf.line_drop hmb
      rw [hi, Nat.add_sub_cancel_left] at da
      rw [hj, Nat.add_sub_cancel_left] at db
      rw [da, db]
  have key := T.nodePath_ok h.dir ((h.nodes a).1 ha) ((h.nodes b).1 hb) (h.climb_std ha) (h.climb_std hb) hstrip hia
  exact ⟨m, i, j, ⟨fun s hs => by rcases List.mem_cons.1 hs with rfl | hs; exact hma; exact List.mem_singleton.1 hs ▸ hmb,
    fun c hc => (hm c).2 ⟨hc a (by simp), hc b (by simp)⟩⟩, hia, hib, key true, key false⟩

end DTree

theorem all_count_one {p : List Nat} (h : p.Nodup) : p.all (fun x => p.count x == 1) = true := by
  rw [List.all_eq_true]
  intro x hx
  rw [h.count, if_pos hx]; rfl

theorem mapM_all_some {α β : Type} (l : List α) (f : α → Option β) (h : α → β) (hh : ∀ q ∈ l, f q = some (h q)) :
    l.mapM f = some (l.map h) := by
  induction l with
  | nil => rfl
  | cons a r ih => simp [List.mapM_cons, hh a (by simp), ih (fun q hq => hh q (by simp [hq]))]

namespace DTree
variable {g : G} {P : PTree}

/-- the node path is a path of the reference tree: from `a` to `b`, through father-son links, no node twice -/
theorem isPath (h : DTree g P) {a b : Nat} (ha : a ∈ P.nodes) (hb : b ∈ P.nodes) :
    ∃ p, T.nodePath g a b true = .ok p ∧ (refRaw g).isPath a b p = true ∧ (∀ x ∈ p, x ∈ P.nodes) := by
  obtain ⟨m, i, j, hmr, hia, hib, hp, _⟩ := h.nodePath ha hb
  -- the path: up the line of `a` as far as `m`, then the line of `b` from below `m` backwards
  have hup : (P.line a).take i ++ [m] = (P.line a).take (i + 1) := by rw [List.take_add_one, hia]; rfl
  have hdown : m :: ((P.line b).take j).reverse = ((P.line b).take (j + 1)).reverse := by
    rw [List.take_add_one, hib]; simp
  have hhead : ∀ (n k : Nat), ((P.line n).take (k + 1)).head? = some n := fun n k => by
    rw [List.head?_take, if_neg (Nat.succ_ne_zero k), P.line_head]
  have hanc : ∀ {n k x : Nat}, n ∈ P.nodes → x ∈ (P.line n).take k → x ∈ P.nodes := fun hn hx =>
    h.wf.anc_mem (h.wf.mem_line.1 (List.mem_of_mem_take hx)) hn
  have hch : ∀ (n k : Nat), (refRaw g).chain ((P.line n).take k) = true := fun n k => by
    unfold PTree.line
    rw [← h.ref_parent_eq]
    exact Ref.chain_take _ _ _ (Ref.chain_lineOf _ _ _)
  refine ⟨_, hp, ?_, fun x hx => ?_⟩
  · rw [Ref.isPath, Bool.and_eq_true, Bool.and_eq_true, Bool.and_eq_true]
    refine ⟨⟨⟨?_, ?_⟩, ?_⟩, ?_⟩
    · rw [hup, List.head?_append, hhead, Option.some_or]; exact beq_self_eq_true _
    · rw [List.append_assoc, List.singleton_append, hdown, List.getLast?_append, List.getLast?_reverse, hhead,
        Option.some_or]
      exact beq_self_eq_true _
    · rw [List.append_assoc, List.singleton_append]
      exact Ref.chain_append _ _ m _ (hup ▸ hch a (i + 1)) (hdown ▸ Ref.chain_reverse _ _ (hch b (j + 1)))
    · rw [hup]
      refine all_count_one (List.nodup_append.2 ⟨(List.take_sublist _ _).nodup (h.wf.line_nodup a),
        (List.reverse_perm _).nodup_iff.2 ((List.take_sublist _ _).nodup (h.wf.line_nodup b)), fun x hx1 y hx2 e => ?_⟩)
      -- a node of the line of `b` below `m` is not an ancestor of `a`
      subst e
      obtain ⟨k, hk, hx⟩ := List.mem_take_iff_getElem.1 (List.mem_reverse.1 hx2)
      have r2 := h.wf.line_get (List.getElem?_eq_some_iff.2 ⟨_, hx⟩)
      have := h.wf.anc_rank (hmr.2 x (fun s hs => by
        rcases List.mem_cons.1 hs with rfl | hs
        · exact h.wf.mem_line.1 (List.mem_of_mem_take hx1)
        · exact List.mem_singleton.1 hs ▸ r2.2))
      have := (h.wf.line_get hib).1
      omega
  · rcases List.mem_append.1 hx with hx | hx
    · rcases List.mem_append.1 hx with hx | hx
      · exact hanc ha hx
      · exact List.mem_singleton.1 hx ▸ h.wf.anc_mem (hmr.1 a (by simp)) ha
    · exact hanc hb (List.mem_reverse.1 hx)

/-- the edge between a node and its father, as the implementation finds it (`getAnyEdge`) and as the
reference reads it off the edge table -/
theorem anyEdge_linked (h : DTree g P) {x y : Nat} (hx : x ∈ P.nodes) (hy : y ∈ P.nodes)
    (hl : (refRaw g).linked x y = true) : ∃ e, g.getAnyEdge x y = some e ∧ (refRaw g).edgeBetween x y = some e := by
  -- the edge from the father `y` to the son `x`
  have key : ∀ {x y : Nat}, x ∈ P.nodes → P.par x = some y →
      ∃ e, g.outE y x = some e ∧ g.outE x y = none ∧ (refRaw g).edgeUp x = some e := by
    intro x y hx hp
    obtain ⟨e, he⟩ := h.arc_out hp
    refine ⟨e, he, ?_, ?_⟩
    · cases ho : g.outE x y with
      | none => rfl
      | some e' => exact (h.wf.no_two_cycle hp ((h.arc x y).1 (arc_of_out ho))).elim
    · rw [h.ref_edgeUp ((h.nodes x).1 hx), T.edgeToFather, h.father ((h.nodes x).1 hx), hp]; exact he
  rw [Ref.linked, h.ref_parent_eq, Bool.or_eq_true, beq_iff_eq, beq_iff_eq] at hl
  rw [Ref.edgeBetween, G.getAnyEdge, G.getEdge, G.getEdge, h.ref_parent_eq]
  by_cases h1 : P.par x = some y
  · obtain ⟨e, he, hno, hup⟩ := key hx h1
    exact ⟨e, by rw [hno, he], by rw [if_pos (beq_iff_eq.2 h1), hup]⟩
  · obtain ⟨e, he, _, hup⟩ := key hy (hl.resolve_left h1)
    exact ⟨e, by rw [he], by rw [if_neg (fun e => h1 (beq_iff_eq.1 e)), if_pos (beq_iff_eq.2 (hl.resolve_left h1)), hup]⟩

/-- the edge path lists the edges along the node path -/
theorem edgePath (h : DTree g P) {a b : Nat} (ha : a ∈ P.nodes) (hb : b ∈ P.nodes) :
    ∃ p es, T.nodePath g a b true = .ok p ∧ (refRaw g).isPath a b p = true ∧
      T.edgePath g a b = .ok es ∧ (refRaw g).isEdgePath p es = true := by
  obtain ⟨p, hp, hpath, hmem⟩ := h.isPath ha hb
  have hchain : (refRaw g).chain p = true := by
    rw [Ref.isPath, Bool.and_eq_true, Bool.and_eq_true] at hpath
    exact hpath.1.2
  -- every consecutive pair has its edge
  have hpairs : ∀ q ∈ p.zip p.tail, ∃ e, g.getAnyEdge q.1 q.2 = some e ∧ (refRaw g).edgeBetween q.1 q.2 = some e := by
    intro q hq
    have hm := List.of_mem_zip hq
    exact h.anyEdge_linked (hmem _ hm.1) (hmem _ (List.mem_of_mem_tail hm.2)) (Ref.chain_zip _ p hchain q hq)
  let f : Nat × Nat → Nat := fun q => (g.getAnyEdge q.1 q.2).getD 0
  have hf : ∀ q ∈ p.zip p.tail, g.getAnyEdge q.1 q.2 = some (f q) := by
    intro q hq; obtain ⟨e, he, _⟩ := hpairs q hq; simp [f, he]
  refine ⟨p, (p.zip p.tail).map f, hp, hpath, ?_, ?_⟩
  · rw [T.edgePath, hp]
    simp only
    rw [mapM_all_some _ _ f hf]
  · rw [Ref.isEdgePath, List.map_map, beq_iff_eq]
    refine List.map_congr_left (fun q hq => ?_)
    obtain ⟨e, he, he'⟩ := hpairs q hq
    simp [f, he, he']

end DTree
end Bpp.Graph
