import BppProofs.Lemmas.Optim
import BppModel.OptimMeta
/-!
Helper lemmas for C10: what each routine of the model has done when it returns — the calls it made and
the state it leaves, read off its definition once — and the stop conditions as equations, with the `Monotone`
instances (what `optimize_terminates` / `budget` need of an optimiser's counter) that are read off directly.  For every scalar
type and every function object; the invariants (values over `ℝ`, constraint policy, counts) are derived
from these in the other `Optim*` files.
-/
set_option linter.unusedSectionVars false
namespace Bpp.Optim
open Bpp

variable {α : Type} [Scalar α] {F G τ : Type} {I : FunI F α}

theorem evalOwn_ok {s s' : St F τ α} {x v : α} (h : evalOwn I s x = .ok (s', v)) :
    ∃ fn pl, eval0 I s.fn s.core.params x = .ok (fn, pl, v) ∧
      s' = { s with fn := fn, core := { s.core with params := pl } } := by
  unfold evalOwn at h
  cases he : eval0 I s.fn s.core.params x with
  | error e => rw [he] at h; cases h
  | ok r => obtain ⟨fn, pl, w⟩ := r; rw [he] at h; cases h; exact ⟨fn, pl, rfl, rfl⟩

/-! ### golden section search -/

theorem gssStop_fst (s : St F (Gss α) α) :
    (gssStop s).1 = { s with core := { s.core with callCount := s.core.callCount + 1 } } := by
  unfold gssStop; dsimp only; split <;> rfl

/-- polling the stop condition writes the call counter and the tolerance flag only -/
theorem gssPoll_eq (s : St F (Gss α) α) : ∃ c t, gssPoll s = { s with core := { s.core with callCount := c, tol := t } } := by
  unfold gssPoll
  split
  · refine ⟨s.core.callCount + 1, (gssStop s).2, ?_⟩
    show { (gssStop s).1 with core := { (gssStop s).1.core with tol := (gssStop s).2 } } = _
    rw [gssStop_fst]
  · exact ⟨_, _, rfl⟩

/-- a probe: one `setValue` on the optimiser's list, the stop condition polled, one evaluation -/
theorem gssProbe_ok {s s' : St F (Gss α) α} {x v : α} (h : gssProbe I s x = .ok (s', v)) :
    ∃ pl fn c t, setValueAt s.core.params 0 x = .ok pl ∧ I.f s.fn pl = .ok (fn, v) ∧
      s' = { s with fn := fn, core := { s.core with params := pl, callCount := c, tol := t } } := by
  unfold gssProbe at h
  cases hset : setValueAt s.core.params 0 x with
  | error e => rw [hset] at h; cases h
  | ok pl =>
    obtain ⟨c, t, hp⟩ := gssPoll_eq ({ s with core := { s.core with params := pl } } : St F (Gss α) α)
    rw [hset] at h
    simp only [hp] at h
    cases hf : I.f s.fn pl with
    | error e => rw [hf] at h; cases h
    | ok r => obtain ⟨fn, w⟩ := r; rw [hf] at h; cases h; exact ⟨pl, fn, c, t, rfl, hf, rfl⟩

/-- **a step of the golden section search**: the abscissa `x` that replaces an inner point is probed (one
`setValue`, one evaluation); the counter goes up by one -/
theorem gssDoStep_ok {s s' : St F (Gss α) α} {v : α} (h : gssDoStep I s = .ok (s', v)) :
    ∃ (g : Gss α) (x : α) (pl : PList α) (fn : F) (c : Nat) (t : Bool),
      setValueAt s.core.params 0 x = .ok pl ∧ I.f s.fn pl = .ok (fn, v) ∧
      ((Scalar.ltb s.ext.f2 s.ext.f1 = true ∧ x = goldR * s.ext.x2 + goldC * s.ext.x3 ∧
          g = { s.ext with x0 := s.ext.x1, x1 := s.ext.x2, x2 := x, f1 := s.ext.f2, f2 := v }) ∨
       (Scalar.ltb s.ext.f2 s.ext.f1 = false ∧ x = goldR * s.ext.x1 + goldC * s.ext.x0 ∧
          g = { s.ext with x3 := s.ext.x2, x2 := s.ext.x1, x1 := x, f2 := s.ext.f1, f1 := v })) ∧
      s' = { s with fn := fn, ext := g,
                    core := { s.core with params := pl, nbEval := s.core.nbEval + 1, callCount := c, tol := t } } := by
  unfold gssDoStep at h
  dsimp only at h
  cases hlt : Scalar.ltb s.ext.f2 s.ext.f1 with
  | true =>
    rw [if_pos hlt] at h
    split at h
    · cases h
    · rename_i sp w hpr
      obtain ⟨pl, fn, c, t, hs, hf, rfl⟩ := gssProbe_ok hpr
      cases h
      exact ⟨_, _, pl, fn, c, t, hs, hf, Or.inl ⟨rfl, rfl, rfl⟩, rfl⟩
  | false =>
    rw [if_neg (hlt ▸ Bool.false_ne_true)] at h
    split at h
    · cases h
    · rename_i sp w hpr
      obtain ⟨pl, fn, c, t, hs, hf, rfl⟩ := gssProbe_ok hpr
      cases h
      exact ⟨_, _, pl, fn, c, t, hs, hf, Or.inr ⟨rfl, rfl, rfl⟩, rfl⟩

theorem gssAlgo_monotone (I : FunI G α) (fuel : Nat) : Monotone (gssAlgo I fuel) :=
  ⟨fun s s' v h => by
      obtain ⟨g, x, pl, fn, c, t, -, -, -, rfl⟩ := gssDoStep_ok h
      exact ⟨Nat.le_succ _, rfl⟩,
   fun s => by show (gssStop s).1.core.nbEval = _ ∧ (gssStop s).1.core.nbEvalMax = _; rw [gssStop_fst]; exact ⟨rfl, rfl⟩⟩

/-- **`GoldenSectionSearch::optimize`**: the template's loop, then an evaluation at the better inner point -/
theorem gssOptimize_ok {fuel : Nat} {s s2 : St F (Gss α) α} {v : α} (h : gssOptimize I fuel s = .ok (s2, v)) :
    ∃ sL w sE, (gssAlgo I fuel).optimize fuel s = .ok (sL, w) ∧
      evalOwn I sL (if Scalar.ltb sL.ext.f1 sL.ext.f2 then sL.ext.x1 else sL.ext.x2) = .ok (sE, v) ∧
      s2 = { sE with core := { sE.core with cur := v } } := by
  unfold gssOptimize at h
  cases ho : (gssAlgo I fuel).optimize fuel s with
  | error e => rw [ho] at h; cases h
  | ok r =>
    obtain ⟨sL, w⟩ := r
    rw [ho] at h
    dsimp only at h
    cases he : evalOwn I sL (if Scalar.ltb sL.ext.f1 sL.ext.f2 then sL.ext.x1 else sL.ext.x2) with
    | error e => rw [he] at h; cases h
    | ok r2 => obtain ⟨sE, v2⟩ := r2; rw [he] at h; cases h; exact ⟨sL, w, sE, rfl, he, rfl⟩

/-! ### Brent -/

theorem brentStop_fst (s : St F (Brent α) α) :
    (brentStop s).1 = { s with core := { s.core with callCount := s.core.callCount + 1 } } := by
  unfold brentStop; dsimp only; split <;> rfl

/-- **`BrentOneDimension::doInit`**: a bracket, an evaluation at the optimiser's list; the initial guess is
kept when it is better than the middle point of the bracket, which is evaluated otherwise -/
theorem brentDoInit_ok {fuel : Nat} {s s' : St F (Brent α) α} {params : PList α} (h : brentDoInit I fuel s params = .ok s') :
    ∃ fnb k fn fx x sf,
      (if s.ext.inward then inwardBracketMinimum I fuel s.ext.xinf s.ext.xsup 10 s.fn s.core.params
       else bracketMinimum I fuel s.ext.xinf s.ext.xsup s.fn s.core.params) = .ok (fnb, k) ∧
      I.f fnb s.core.params = .ok (fn, fx) ∧
      ((Scalar.ltb fx k.b.f = true ∧ value0 s.core.params = some x ∧ sf = ({ s with fn := fn }, fx)) ∨
       (Scalar.ltb fx k.b.f = false ∧ x = k.b.x ∧ evalOwn I { s with fn := fn } x = .ok sf)) ∧
      s' = { sf.1 with ext := { s.ext with e := Scalar.zero, a := if Scalar.ltb k.a.x k.c.x then k.a.x else k.c.x,
                                           b := if Scalar.gtb k.a.x k.c.x then k.a.x else k.c.x,
                                           fw := sf.2, fv := sf.2, fx := sf.2, x := x, w := x, v := x } } := by
  unfold brentDoInit at h
  split at h
  · cases h
  · dsimp only at h
    split at h
    · cases h
    · rename_i fnb k hb
      split at h
      · cases h
      · rename_i fn fx hf
        refine ⟨fnb, k, fn, fx, ?_⟩
        cases hlt : Scalar.ltb fx k.b.f with
        | true =>
          rw [if_pos hlt] at h
          split at h
          · cases h
          · rename_i x0 hx0
            cases h
            exact ⟨x0, (_, fx), hb, hf, Or.inl ⟨rfl, hx0, rfl⟩, rfl⟩
        | false =>
          rw [if_neg (hlt ▸ Bool.false_ne_true)] at h
          split at h
          · cases h
          · rename_i sa fxb he
            cases h
            exact ⟨k.b.x, (sa, fxb), hb, hf, Or.inr ⟨rfl, rfl, he⟩, rfl⟩

/-- **`BrentOneDimension::doStep`**: the abscissa proposed is evaluated through a copy of the optimiser's
list, then the best abscissa is stored in the list itself -/
theorem brentDoStep_ok {s s' : St F (Brent α) α} {v : α} (h : brentDoStep I s = .ok (s', v)) :
    ∃ g1 u pl fn fu pl', brentPropose s.core.tolerance s.ext = (g1, u) ∧
      setValueAt s.core.params 0 u = .ok pl ∧ I.f s.fn pl = .ok (fn, fu) ∧
      setValueAt s.core.params 0 (brentUpdate g1 u fu).x = .ok pl' ∧
      s' = { s with fn := fn, ext := brentUpdate g1 u fu, core := { s.core with params := pl' } } ∧
      v = (brentUpdate g1 u fu).fx := by
  unfold brentDoStep at h
  generalize hpr : brentPropose s.core.tolerance s.ext = pr at h
  obtain ⟨g1, u⟩ := pr
  dsimp only at h
  cases hset : setValueAt s.core.params 0 u with
  | error e => rw [hset] at h; cases h
  | ok pl =>
    rw [hset] at h
    dsimp only at h
    cases hf : I.f s.fn pl with
    | error e => rw [hf] at h; cases h
    | ok r =>
      obtain ⟨fn, fu⟩ := r
      rw [hf] at h
      dsimp only at h
      cases hset2 : setValueAt s.core.params 0 (brentUpdate g1 u fu).x with
      | error e => rw [hset2] at h; cases h
      | ok pl2 => rw [hset2] at h; cases h; exact ⟨g1, u, pl, fn, fu, pl2, rfl, hset, hf, hset2, rfl, rfl⟩

theorem brentAlgo_monotone (I : FunI G α) (fuel : Nat) : Monotone (brentAlgo I fuel) :=
  ⟨fun s s' v h => by
      obtain ⟨g1, u, pl, fn, fu, pl', -, -, -, -, rfl, -⟩ := brentDoStep_ok h
      exact ⟨Nat.le_refl _, rfl⟩,
   fun s => by show (brentStop s).1.core.nbEval = _ ∧ (brentStop s).1.core.nbEvalMax = _; rw [brentStop_fst]; exact ⟨rfl, rfl⟩⟩

/-- **`BrentOneDimension::optimize`**: the template's loop, then an evaluation at the optimiser's list -/
theorem brentOptimize_ok {fuel : Nat} {s s2 : St F (Brent α) α} {v : α} (h : brentOptimize I fuel s = .ok (s2, v)) :
    ∃ sL w fn, (brentAlgo I fuel).optimize fuel s = .ok (sL, w) ∧ I.f sL.fn sL.core.params = .ok (fn, v) ∧
      s2 = { sL with fn := fn, core := { sL.core with cur := v } } := by
  unfold brentOptimize at h
  cases ho : (brentAlgo I fuel).optimize fuel s with
  | error e => rw [ho] at h; cases h
  | ok r =>
    obtain ⟨sL, w⟩ := r
    rw [ho] at h
    dsimp only at h
    cases hf : I.f sL.fn sL.core.params with
    | error e => rw [hf] at h; cases h
    | ok r2 => obtain ⟨fn, v2⟩ := r2; rw [hf] at h; cases h; exact ⟨sL, w, fn, rfl, hf, rfl⟩

/-! ### Newton backtracking -/

/-- `doInit` of the backtracking search: one evaluation at the optimiser's list, stored as `fold`; the step
length to try first is 1 -/
theorem nbackDoInit_ok {s s' : St F (NBack α) α} {params : PList α} (h : nbackDoInit I s params = .ok s') :
    ∃ fn v, I.f s.fn s.core.params = .ok (fn, v) ∧
      s' = { s with fn := fn, core := { s.core with tolerance := s.core.tolerance / s.ext.test },
                    ext := { s.ext with fold := v, alamin := s.core.tolerance / s.ext.test, alam := Scalar.one } } := by
  unfold nbackDoInit at h
  split at h
  · cases h
  · cases hf : I.f s.fn s.core.params with
    | error e => rw [hf] at h; cases h
    | ok r => obtain ⟨fn, v⟩ := r; rw [hf] at h; cases h; exact ⟨fn, v, rfl, rfl⟩

/-- **a step of the backtracking search**: one evaluation, at 0 when the step length has fallen below its
minimum (the flag is set), at the step length otherwise; the trial is then accepted (the flag is set) or
the step length is shortened (the flag is left alone) -/
theorem nbackDoStep_ok {s s' : St F (NBack α) α} {v : α} (h : nbackDoStep I s = .ok (s', v)) :
    ∃ x fn pl g t, eval0 I s.fn s.core.params x = .ok (fn, pl, v) ∧
      s' = { s with fn := fn, ext := g, core := { s.core with params := pl, tol := t } } ∧
      ((Scalar.ltb s.ext.alam s.ext.alamin = true ∧ x = Scalar.zero ∧ g = s.ext ∧ t = true) ∨
       (Scalar.ltb s.ext.alam s.ext.alamin = false ∧ x = s.ext.alam ∧
         ((Scalar.leb v (s.ext.fold + s.ext.alam * Scalar.ofRat 1 10000 * s.ext.slope) = true ∧
            g = { s.ext with f := v } ∧ t = true) ∨
          (t = s.core.tol ∧
            (g = { s.ext with f := v, f2 := v, alam := nbackFirst { s.ext with f := v } v } ∨
             g = { s.ext with f := v, alam2 := s.ext.alam, f2 := v, alam := nbackNext { s.ext with f := v } v }))))) := by
  unfold nbackDoStep at h
  dsimp only at h
  cases hlt : Scalar.ltb s.ext.alam s.ext.alamin with
  | true =>
    rw [if_pos hlt] at h
    split at h
    · cases h
    · rename_i sa w he
      obtain ⟨fn, pl, hq, rfl⟩ := evalOwn_ok he
      cases h
      exact ⟨_, fn, pl, _, _, hq, rfl, Or.inl ⟨rfl, rfl, rfl, rfl⟩⟩
  | false =>
    rw [if_neg (hlt ▸ Bool.false_ne_true)] at h
    split at h
    · cases h
    · rename_i sa w he
      obtain ⟨fn, pl, hq, rfl⟩ := evalOwn_ok he
      refine ⟨s.ext.alam, fn, pl, ?_⟩
      split at h
      · rename_i hacc
        cases h
        exact ⟨_, _, hq, rfl, Or.inr ⟨rfl, rfl, Or.inl ⟨hacc, rfl, rfl⟩⟩⟩
      · split at h
        · cases h
          exact ⟨_, _, hq, rfl, Or.inr ⟨rfl, rfl, Or.inr ⟨rfl, Or.inl rfl⟩⟩⟩
        · cases h
          exact ⟨_, _, hq, rfl, Or.inr ⟨rfl, rfl, Or.inr ⟨rfl, Or.inr rfl⟩⟩⟩

theorem nbackAlgo_monotone (I : FunI G α) : Monotone (nbackAlgo I) :=
  ⟨fun s s' v h => by
      obtain ⟨x, fn, pl, g, t, -, rfl, -⟩ := nbackDoStep_ok h
      exact ⟨Nat.le_refl _, rfl⟩,
   fun _ => ⟨rfl, rfl⟩⟩

/-! ### NewtonOneDimension -/

/-- `NewtonOneDimension::doInit`: a one-element list; one evaluation at the optimiser's list, whose value is the
current value the stop condition is initialised with -/
theorem newtonDoInit_ok {s s' : St F (Newton1 α) α} {params : PList α} (h : newtonDoInit I s params = .ok s') :
    ∃ q fn v, params = [q] ∧ I.f s.fn s.core.params = .ok (fn, v) ∧
      s' = fscInit { s with fn := fn, core := { s.core with cur := v }, ext := { s.ext with param := q.name } } := by
  unfold newtonDoInit at h
  split at h
  · rename_i q
    split at h
    · cases h
    · rename_i fn v hf; cases h; exact ⟨q, fn, v, rfl, hf, rfl⟩
  · cases h

/-- **`NewtonOneDimension::doStep`**: the Newton point is evaluated, then the Felsenstein-Churchill loop
either gives up (the flag is set, the current value is returned) or ends on an accepted list and its value -/
theorem newtonDoStep_ok {s s' : St F (Newton1 α) α} {v : α} (h : newtonDoStep I s = .ok (s', v)) :
    ∃ m x0 np fn nv fn' res, value0 s.core.params = some x0 ∧ setValueAt s.core.params 0 (x0 - m) = .ok np ∧
      I.f s.fn np = .ok (fn, nv) ∧
      newtonCorrect I s.core.cur x0 (I.getParameters s.fn) s.ext.maxCorrection (s.ext.maxCorrection + 1) 0 fn np m nv
        = .ok (fn', res) ∧
      ((res = none ∧ s' = { s with fn := fn', core := { s.core with tol := true } } ∧ v = s.core.cur) ∨
       (∃ pl, res = some (pl, v) ∧ s' = { s with fn := fn', core := { s.core with params := pl } })) := by
  unfold newtonDoStep at h
  extract_lets newPoint bck d1 d2 m0 m at h
  refine ⟨m, ?_⟩
  split at h
  · cases h
  · rename_i x0 hx0
    split at h
    · cases h
    · rename_i np hset
      split at h
      · cases h
      · rename_i fn nv hf
        split at h
        · cases h
        · rename_i fn' hc
          cases h
          exact ⟨x0, np, fn, nv, fn', none, hx0, hset, hf, hc, Or.inl ⟨rfl, rfl, rfl⟩⟩
        · rename_i fn' pl w hc
          cases h
          exact ⟨x0, np, fn, nv, fn', _, hx0, hset, hf, hc, Or.inr ⟨pl, rfl, rfl⟩⟩

theorem newtonAlgo_monotone (I : FunI G α) : Monotone (newtonAlgo I) :=
  ⟨fun s s' v h => by
      obtain ⟨m, x0, np, fn, nv, fn', res, -, -, -, -, ⟨-, rfl, -⟩ | ⟨pl, -, rfl⟩⟩ := newtonDoStep_ok h <;>
        exact ⟨Nat.le_refl _, rfl⟩,
   fun s => by show (fscStop s).1.core.nbEval = _ ∧ (fscStop s).1.core.nbEvalMax = _; rw [fscStop_fst]; exact ⟨rfl, rfl⟩⟩

/-! ### Powell, conjugate gradient, BFGS -/

theorem powellStop_fst (s : St F (Powell α) α) :
    (powellStop s).1 = { s with core := { s.core with callCount := s.core.callCount + 1 } } := by
  unfold powellStop; dsimp only; split <;> rfl

/-- one direction of Powell's loop: a line minimisation (counted), an evaluation at the list it returns
(counted), and the loop goes on -/
theorem powellDirs_cons_ok {fuel : Nat} {i : Nat} {r : List Nat} {s : St F (Powell α) α} {del : α} {ibig : Nat}
    {res : St F (Powell α) α × α × Nat} (h : powellDirs I fuel (i :: r) s del ibig = .ok res) :
    ∃ xit fn pl xi' k fn2 fret del1 ibig1, lineMinimization I fuel s.fn s.core.params xit = .ok (fn, pl, xi', k) ∧
      I.f fn pl = .ok (fn2, fret) ∧
      powellDirs I fuel r { s with fn := fn2, core := { s.core with params := pl, nbEval := s.core.nbEval + k + 1 },
                                   ext := { s.ext with fret := fret } } del1 ibig1 = .ok res := by
  rw [powellDirs] at h
  split at h
  · cases h
  · rename_i xit _
    dsimp only at h
    split at h
    · cases h
    · rename_i fn pl xi' k hlm
      split at h
      · cases h
      · rename_i fn2 fret hf
        refine ⟨xit, fn, pl, xi', k, fn2, fret, ?_⟩
        split at h
        · cases h
        · split at h
          · exact ⟨_, _, hlm, hf, h⟩
          · exact ⟨_, _, hlm, hf, h⟩

/-- **`PowellMultiDimensions::doStep`**: the loop over the directions, the extrapolated point evaluated (not
counted); then either a line minimisation along the average direction and an evaluation at the list it
returns, or the function is put back at the optimiser's list (counted as one) -/
theorem powellDoStep_ok {fuel : Nat} {s s' : St F (Powell α) α} {v : α} (h : powellDoStep I fuel s = .ok (s', v)) :
    ∃ sd del ibig ptt xit pt' fn3 fptt,
      powellDirs I fuel (List.range s.core.params.length) { s with ext := { s.ext with fp := s.ext.fret } } Scalar.zero 0
        = .ok (sd, del, ibig) ∧
      powellExtrapolate sd.core.params sd.ext.pt = .ok (ptt, xit, pt') ∧ I.f sd.fn ptt = .ok (fn3, fptt) ∧
      ((∃ fn4 pl xit' k fn5 xi, lineMinimization I fuel fn3 sd.core.params xit = .ok (fn4, pl, xit', k) ∧
          I.f fn4 pl = .ok (fn5, v) ∧
          s' = { sd with fn := fn5, core := { sd.core with params := pl, nbEval := sd.core.nbEval + k + 1 },
                         ext := { sd.ext with pt := pt', fret := v, xi := xi } }) ∨
       (∃ fn4, I.setParameters fn3 sd.core.params = .ok fn4 ∧ v = sd.ext.fret ∧
          s' = { sd with fn := fn4, core := { sd.core with nbEval := sd.core.nbEval + 1 },
                         ext := { sd.ext with pt := pt' } })) := by
  unfold powellDoStep at h
  dsimp only at h
  split at h
  · cases h
  · rename_i sd del ibig hd
    split at h
    · cases h
    · rename_i ptt xit pt' hx
      split at h
      · cases h
      · rename_i fn3 fptt hf
        refine ⟨sd, del, ibig, ptt, xit, pt', fn3, fptt, hd, hx, hf, ?_⟩
        split at h
        · split at h
          · split at h
            · cases h
            · rename_i fn4 pl xit' k hl
              split at h
              · cases h
              · rename_i fn5 fret hf2
                split at h
                · cases h
                · cases h
                  exact Or.inl ⟨fn4, pl, xit', k, fn5, _, hl, hf2, rfl⟩
          · split at h
            · cases h
            · rename_i fn4 hsp
              cases h
              exact Or.inr ⟨fn4, hsp, rfl, rfl⟩
        · split at h
          · cases h
          · rename_i fn4 hsp
            cases h
            exact Or.inr ⟨fn4, hsp, rfl, rfl⟩

/-- **`PowellMultiDimensions::optimize`**: the template's loop, then an evaluation at the optimiser's list -/
theorem powellOptimize_ok {fuel : Nat} {s s2 : St F (Powell α) α} {v : α} (h : powellOptimize I fuel s = .ok (s2, v)) :
    ∃ sL w fn, (powellAlgo I fuel).optimize fuel s = .ok (sL, w) ∧ I.f sL.fn sL.core.params = .ok (fn, v) ∧
      s2 = { sL with fn := fn } := by
  unfold powellOptimize at h
  cases ho : (powellAlgo I fuel).optimize fuel s with
  | error e => rw [ho] at h; cases h
  | ok r =>
    obtain ⟨sL, w⟩ := r
    rw [ho] at h
    dsimp only at h
    cases hf : I.f sL.fn sL.core.params with
    | error e => rw [hf] at h; cases h
    | ok r2 => obtain ⟨fn, v2⟩ := r2; rw [hf] at h; cases h; exact ⟨sL, w, fn, rfl, hf, rfl⟩

/-- `doInit` of the conjugate gradient and BFGS optimisers sets the function to the list *given to `init`* -/
theorem cgDoInit_ok {s s' : St F (Cg α) α} {params : PList α} (h : cgDoInit I s params = .ok s') :
    ∃ fn e, I.setParameters s.fn params = .ok fn ∧ s' = { s with fn := fn, ext := e } := by
  unfold cgDoInit at h
  split at h
  · cases h
  · rename_i fn hsp
    split at h
    · cases h
    · cases h; exact ⟨fn, _, hsp, rfl⟩

theorem bfgsDoInit_ok {s s' : St F (Bfgs α) α} {params : PList α} (h : bfgsDoInit I s params = .ok s') :
    ∃ fn e, I.setParameters s.fn params = .ok fn ∧ s' = { s with fn := fn, ext := e } := by
  unfold bfgsDoInit at h
  dsimp only at h
  split at h
  · cases h
  · split at h
    · cases h
    · split at h
      · cases h
      · rename_i fn hsp
        split at h
        · cases h
        · cases h; exact ⟨fn, _, hsp, rfl⟩

/-- **`ConjugateGradientMultiDimensions::doStep`**: a line minimisation (counted), an evaluation at the
list it returns; what follows touches the optimiser's own vectors only -/
theorem cgDoStep_ok {fuel : Nat} {s s' : St F (Cg α) α} {v : α} (h : cgDoStep I fuel s = .ok (s', v)) :
    ∃ fn1 pl xi' k fn, lineMinimization I fuel s.fn s.core.params s.ext.xi = .ok (fn1, pl, xi', k) ∧
      I.f fn1 pl = .ok (fn, v) ∧
      ∃ g, s' = { s with fn := fn, ext := g, core := { s.core with params := pl, nbEval := s.core.nbEval + k } } := by
  unfold cgDoStep at h
  split at h
  · cases h
  · rename_i fn1 pl xi' k hl
    dsimp only at h
    split at h
    · cases h
    · rename_i fn2 f hf
      refine ⟨fn1, pl, xi', k, fn2, hl, ?_⟩
      split at h
      · cases h; exact ⟨hf, _, rfl⟩
      · split at h
        · cases h
        · split at h
          · cases h; exact ⟨hf, _, rfl⟩
          · split at h
            · cases h; exact ⟨hf, _, rfl⟩
            · cases h; exact ⟨hf, _, rfl⟩

/-- **`BfgsMultiDimensions::doStep`**: a line search (counted), an evaluation at the list it returns; then
either the value is not above the current value and what follows touches the optimiser's own vectors only,
or ("!!! Function increase !!!") the parameters are set back to the values the step started from, the
function is evaluated there (counted) and the tolerance flag is set -/
theorem bfgsDoStep_ok {fuel : Nat} {s s' : St F (Bfgs α) α} {v : α} (h : bfgsDoStep I fuel s = .ok (s', v)) :
    ∃ xi gr fn1 pl xi' k fn2 f, lineSearch I fuel s.fn s.core.params xi gr = .ok (fn1, pl, xi', k) ∧
      I.f fn1 pl = .ok (fn2, f) ∧ ∃ g,
      ((Scalar.gtb f s.core.cur = false ∧ v = f ∧
          s' = { s with fn := fn2, ext := g, core := { s.core with params := pl, nbEval := s.core.nbEval + k } }) ∨
       (Scalar.gtb f s.core.cur = true ∧ ∃ pl0 fn3, setAll pl (values s.core.params) = .ok pl0 ∧
          I.f fn2 pl0 = .ok (fn3, v) ∧
          s' = { s with fn := fn3, ext := g,
                        core := { s.core with params := pl0, nbEval := s.core.nbEval + k + 1, tol := true } })) := by
  unfold bfgsDoStep at h
  dsimp only at h
  split at h
  · cases h
  · rename_i fn1 pl xi' k hl
    split at h
    · cases h
    · rename_i fn2 f hf
      refine ⟨_, _, fn1, pl, xi', k, fn2, f, hl, hf, ?_⟩
      cases hgt : Scalar.gtb f s.core.cur with
      | true =>
        rw [if_pos hgt] at h
        split at h
        · cases h
        · rename_i pl0 hsa
          split at h
          · cases h
          · rename_i fn3 f0 hf0
            cases h
            exact ⟨_, Or.inr ⟨rfl, pl0, fn3, hsa, hf0, rfl⟩⟩
      | false =>
        rw [if_neg (hgt ▸ Bool.false_ne_true)] at h
        split at h
        · cases h; exact ⟨_, Or.inl ⟨rfl, rfl, rfl⟩⟩
        · split at h
          · cases h
          · split at h
            · cases h; exact ⟨_, Or.inl ⟨rfl, rfl, rfl⟩⟩
            · cases h; exact ⟨_, Or.inl ⟨rfl, rfl, rfl⟩⟩

/-! ### the two searches along a direction -/

/-- **`lineMinimization`**: Brent's method on a fresh `DirectionFunction`, then the caller's parameters are
moved along the direction by the abscissa found -/
theorem lineMinimization_ok {fuel : Nat} {fn fn' : F} {parameters pl : PList α} {xi xi' : List α} {k : Nat}
    (h : lineMinimization I fuel fn parameters xi = .ok (fn', pl, xi', k)) :
    ∃ bod bod2 v xmin, (brentAlgo (DirFn.iface I) fuel).init (lineBrent (DirFn.init fn .auto parameters xi)) xParam = .ok bod ∧
      brentOptimize (DirFn.iface I) fuel bod = .ok (bod2, v) ∧ value0 bod2.fn.params = some xmin ∧
      moveAlong xmin parameters xi = .ok (pl, xi') ∧ fn' = bod2.fn.inner ∧ k = bod2.fn.nbEval := by
  unfold lineMinimization at h
  dsimp only at h
  split at h
  · cases h
  · rename_i bod hinit
    split at h
    · cases h
    · rename_i bod2 v hopt
      split at h
      · cases h
      · rename_i xmin hxm
        split at h
        · cases h
        · rename_i pl0 xi0 hmv
          cases h
          exact ⟨bod, bod2, v, xmin, hinit, hopt, hxm, hmv, rfl, rfl⟩

/-- **`lineSearch`**: the Newton backtracking search on a fresh `DirectionFunction`, then the same move -/
theorem lineSearch_ok {fuel : Nat} {fn fn' : F} {parameters pl : PList α} {xi gradient xi' : List α} {k : Nat}
    (h : lineSearch I fuel fn parameters xi gradient = .ok (fn', pl, xi', k)) :
    ∃ nb nb2 v xmin, (nbackAlgo (DirFn.iface I)).init (lineNBack (DirFn.init fn .auto parameters xi)
        (dotFrom Scalar.zero xi gradient) (lsTest Scalar.zero parameters xi)) xParam = .ok nb ∧
      (nbackAlgo (DirFn.iface I)).optimize fuel nb = .ok (nb2, v) ∧ value0 nb2.fn.params = some xmin ∧
      moveAlong xmin parameters xi = .ok (pl, xi') ∧ fn' = nb2.fn.inner ∧ k = nb2.fn.nbEval := by
  unfold lineSearch at h
  dsimp only at h
  split at h
  · cases h
  · rename_i nb hinit
    split at h
    · cases h
    · rename_i nb2 v hopt
      split at h
      · cases h
      · rename_i xmin hxm
        split at h
        · cases h
        · rename_i pl0 xi0 hmv
          cases h
          exact ⟨nb, nb2, v, xmin, hinit, hopt, hxm, hmv, rfl, rfl⟩

/-! ### the coordinate-wise optimisers -/

/-- the loop over the coordinates of `SimpleMultiDimensions` / `SimpleNewtonMultiDimensions` -/
def coordsFold {σ ε β : Type} (step : σ → Nat → Except ε (σ × β)) : List Nat → σ → β → Except ε (σ × β)
  | [], s, f => .ok (s, f)
  | i :: r, s, _ =>
    match step s i with
    | .error e => .error e
    | .ok (s', f') => coordsFold step r s' f'

theorem simpleCoords_eq (fuel : Nat) : ∀ (l : List Nat) (s : St F (Simple α) α) (f : α),
    simpleCoords I fuel l s f = coordsFold (simpleCoord I fuel) l s f
  | [], _, _ => rfl
  | i :: r, s, f => by
    rw [simpleCoords, coordsFold]
    cases simpleCoord I fuel s i with
    | error e => rfl
    | ok p => exact simpleCoords_eq fuel r p.1 p.2

theorem snewtonCoords_eq (fuel : Nat) : ∀ (l : List Nat) (s : St F (SNewton α) α) (f : α),
    snewtonCoords I fuel l s f = coordsFold (snewtonCoord I fuel) l s f
  | [], _, _ => rfl
  | i :: r, s, f => by
    rw [snewtonCoords, coordsFold]
    cases snewtonCoord I fuel s i with
    | error e => rfl
    | ok p => exact snewtonCoords_eq fuel r p.1 p.2

/-- a reflexive and transitive relation `R` that every coordinate establishes between the states before and
after it, under an invariant `P` it keeps, and a relation `V` between the state and the value it returns -/
theorem coordsFold_ok {σ ε β : Type} {step : σ → Nat → Except ε (σ × β)} (P : σ → Prop) (R : σ → σ → Prop) (V : σ → β → Prop)
    (hr : ∀ s, R s s) (ht : ∀ a b c, R a b → R b c → R a c)
    (hstep : ∀ s i s' f, P s → step s i = .ok (s', f) → P s' ∧ R s s' ∧ V s' f) :
    ∀ (l : List Nat) (s s' : σ) (f0 f : β), P s → V s f0 → coordsFold step l s f0 = .ok (s', f) → P s' ∧ R s s' ∧ V s' f := by
  intro l
  induction l with
  | nil => intro s s' f0 f hp hv h; cases h; exact ⟨hp, hr s, hv⟩
  | cons i r ih =>
    intro s s' f0 f hp _ h
    rw [coordsFold] at h
    split at h
    · cases h
    · rename_i s1 f1 hc
      obtain ⟨a, b, c⟩ := hstep s i s1 f1 hp hc
      obtain ⟨a', b', c'⟩ := ih s1 s' f1 f a c h
      exact ⟨a', ht _ _ _ b b', c'⟩

/-- `coordsFold_ok` for a relation alone -/
theorem coordsFold_rel {σ ε β : Type} {step : σ → Nat → Except ε (σ × β)} (R : σ → σ → Prop)
    (hr : ∀ s, R s s) (ht : ∀ a b c, R a b → R b c → R a c) (hstep : ∀ s i s' f, step s i = .ok (s', f) → R s s')
    {l : List Nat} {s s' : σ} {f0 f : β} (h : coordsFold step l s f0 = .ok (s', f)) : R s s' :=
  (coordsFold_ok (fun _ => True) R (fun _ _ => True) hr ht (fun s i s' f _ hc => ⟨trivial, hstep s i s' f hc, trivial⟩)
    l s s' f0 f trivial trivial h).2.1

/-- `SimpleMultiDimensions::doInit`: nothing for an empty list, otherwise `setParameters` with the optimiser's list -/
theorem simpleDoInit_ok {s s' : St F (Simple α) α} {params : PList α} (h : simpleDoInit I s params = .ok s') :
    ∃ e, (params = [] ∧ s' = { s with ext := e }) ∨
      (∃ fn, I.setParameters s.fn s.core.params = .ok fn ∧ s' = { s with fn := fn, ext := e }) := by
  unfold simpleDoInit at h
  dsimp only at h
  split at h
  · rename_i hz; cases h; exact ⟨_, Or.inl ⟨List.eq_nil_of_length_eq_zero (by simpa using hz), rfl⟩⟩
  · split at h
    · cases h
    · rename_i fn hsp; cases h; exact ⟨_, Or.inr ⟨fn, hsp, rfl⟩⟩

theorem snewtonDoInit_ok {s s' : St F (SNewton α) α} {params : PList α} (h : snewtonDoInit I s params = .ok s') :
    ∃ e, (params = [] ∧ s' = { s with ext := e }) ∨
      (∃ fn, I.setParameters s.fn s.core.params = .ok fn ∧ s' = { s with fn := fn, ext := e }) := by
  unfold snewtonDoInit at h
  dsimp only at h
  split at h
  · rename_i hz; cases h; exact ⟨_, Or.inl ⟨List.eq_nil_of_length_eq_zero (by simpa using hz), rfl⟩⟩
  · split at h
    · cases h
    · rename_i fn hsp; cases h; exact ⟨_, Or.inr ⟨fn, hsp, rfl⟩⟩

/-- one coordinate of `SimpleMultiDimensions::doStep`: Brent's method is initialised with the sub-list of
that coordinate and run, then the function's point is copied back -/
theorem simpleCoord_ok {fuel : Nat} {s s' : St F (Simple α) α} {i : Nat} {f : α} (h : simpleCoord I fuel s i = .ok (s', f)) :
    ∃ q inner0 inner1 inner2 pl, s.core.params[i]? = some q ∧ inner0.core = s.ext.icore ∧ inner0.fn = s.fn ∧
      (brentAlgo I fuel).init inner0 [q] = .ok inner1 ∧ brentOptimize I fuel inner1 = .ok (inner2, f) ∧
      matchList s.core.params (I.getParameters inner2.fn) = .ok pl ∧
      s' = { s with fn := inner2.fn, core := { s.core with params := pl, nbEval := s.core.nbEval + inner2.core.nbEval },
                    ext := { s.ext with icore := inner2.core, iext := inner2.ext } } := by
  unfold simpleCoord at h
  split at h
  · cases h
  · rename_i q hq
    dsimp only at h
    split at h
    · cases h
    · rename_i inner1 hinit
      split at h
      · cases h
      · rename_i inner2 fv hopt
        split at h
        · cases h
        · rename_i pl hml
          cases h
          exact ⟨q, _, inner1, inner2, pl, hq, rfl, rfl, hinit, hopt, hml, rfl⟩

/-- one coordinate of `SimpleNewtonMultiDimensions::doStep` -/
theorem snewtonCoord_ok {fuel : Nat} {s s' : St F (SNewton α) α} {i : Nat} {f : α} (h : snewtonCoord I fuel s i = .ok (s', f)) :
    ∃ q inner1 inner2 pl, s.core.params[i]? = some q ∧
      (newtonAlgo I).init { core := s.ext.icore, fn := s.fn, ext := s.ext.iext } [q] = .ok inner1 ∧
      (newtonAlgo I).optimize fuel inner1 = .ok (inner2, f) ∧
      matchList s.core.params (I.getParameters inner2.fn) = .ok pl ∧
      s' = { s with fn := inner2.fn, core := { s.core with params := pl, nbEval := s.core.nbEval + inner2.core.nbEval },
                    ext := { s.ext with icore := inner2.core, iext := inner2.ext } } := by
  unfold snewtonCoord at h
  split at h
  · cases h
  · rename_i q hq
    dsimp only at h
    split at h
    · cases h
    · rename_i inner1 hinit
      split at h
      · cases h
      · rename_i inner2 fv hopt
        split at h
        · cases h
        · rename_i pl hml
          cases h
          exact ⟨q, inner1, inner2, pl, hq, hinit, hopt, hml, rfl⟩

/-- `doStep` of the two coordinate-wise optimisers: the loop over the coordinates, then the flag -/
theorem simpleDoStep_ok {fuel : Nat} {s s' : St F (Simple α) α} {v : α} (h : simpleDoStep I fuel s = .ok (s', v)) :
    ∃ s1 t, coordsFold (simpleCoord I fuel) (List.range s.ext.nbParams) s (I.value s.fn) = .ok (s1, v) ∧
      s' = { s1 with core := { s1.core with tol := t } } := by
  unfold simpleDoStep at h
  rw [simpleCoords_eq] at h
  split at h
  · cases h
  · rename_i s1 f hc; cases h; exact ⟨s1, _, hc, rfl⟩

theorem snewtonDoStep_ok {fuel : Nat} {s s' : St F (SNewton α) α} {v : α} (h : snewtonDoStep I fuel s = .ok (s', v)) :
    ∃ s1 t, coordsFold (snewtonCoord I fuel) (List.range s.ext.nbParams) s (I.value s.fn) = .ok (s1, v) ∧
      s' = { s1 with core := { s1.core with tol := t } } := by
  unfold snewtonDoStep at h
  rw [snewtonCoords_eq] at h
  split at h
  · cases h
  · rename_i s1 f hc; cases h; exact ⟨s1, _, hc, rfl⟩

/-! ### the meta-optimiser -/

/-- the `SimpleMultiDimensions` of a step of the meta-optimiser: nothing when its sub-list is empty; otherwise
the sub-list is updated, the sub-optimiser is initialised, makes one step or a whole `optimize`, and its
list is copied back -/
theorem metaRunSimple_ok {fuel : Nat} {s s' : St F (Meta α) α} {tol : α} (h : metaRunSimple I fuel s tol = .ok s') :
    (s.ext.p1.length = 0 ∧ s' = s) ∨ ∃ p1 sub1 sub2 w own, matchList s.ext.p1 s.core.params = .ok p1 ∧
      (simpleAlgo I fuel).init { core := { s.ext.c1 with tolerance := tol }, fn := s.fn, ext := s.ext.e1 } p1 = .ok sub1 ∧
      (if s.ext.full then (simpleAlgo I fuel).optimize fuel sub1 else (simpleAlgo I fuel).step sub1) = .ok (sub2, w) ∧
      matchList s.core.params sub2.core.params = .ok own ∧
      s' = { s with fn := sub2.fn, core := { s.core with params := own, nbEval := s.core.nbEval + sub2.core.nbEval },
                    ext := { s.ext with p1 := p1, c1 := sub2.core, e1 := sub2.ext } } := by
  unfold metaRunSimple at h
  split at h
  · rename_i hz; cases h; exact Or.inl ⟨by simpa using hz, rfl⟩
  · split at h
    · cases h
    · rename_i p1 hin
      dsimp only at h
      split at h
      · cases h
      · rename_i sub1 hinit
        split at h
        · cases h
        · rename_i sub2 w hrun
          split at h
          · cases h
          · rename_i own hback
            cases h
            exact Or.inr ⟨p1, sub1, sub2, w, own, hin, hinit, hrun, hback, rfl⟩

/-- the same for the `BfgsMultiDimensions` -/
theorem metaRunBfgs_ok {fuel : Nat} {s s' : St F (Meta α) α} {tol : α} (h : metaRunBfgs I fuel s tol = .ok s') :
    (s.ext.p2.length = 0 ∧ s' = s) ∨ ∃ p2 sub1 sub2 w own, matchList s.ext.p2 s.core.params = .ok p2 ∧
      (bfgsAlgo I fuel).init { core := { s.ext.c2 with tolerance := tol }, fn := s.fn, ext := s.ext.e2 } p2 = .ok sub1 ∧
      (if s.ext.full then (bfgsAlgo I fuel).optimize fuel sub1 else (bfgsAlgo I fuel).step sub1) = .ok (sub2, w) ∧
      matchList s.core.params sub2.core.params = .ok own ∧
      s' = { s with fn := sub2.fn, core := { s.core with params := own, nbEval := s.core.nbEval + sub2.core.nbEval },
                    ext := { s.ext with p2 := p2, c2 := sub2.core, e2 := sub2.ext } } := by
  unfold metaRunBfgs at h
  split at h
  · rename_i hz; cases h; exact Or.inl ⟨by simpa using hz, rfl⟩
  · split at h
    · cases h
    · rename_i p2 hin
      dsimp only at h
      split at h
      · cases h
      · rename_i sub1 hinit
        split at h
        · cases h
        · rename_i sub2 w hrun
          split at h
          · cases h
          · rename_i own hback
            cases h
            exact Or.inr ⟨p2, sub1, sub2, w, own, hin, hinit, hrun, hback, rfl⟩

/-- **`MetaOptimizer::doStep`**: the two sub-optimisers in turn; the value is the function's -/
theorem metaDoStep_ok {fuel : Nat} {s s' : St F (Meta α) α} {v : α} (h : metaDoStep I fuel s = .ok (s', v)) :
    ∃ tol sa sb t, metaRunSimple I fuel { s with ext := { s.ext with stepCount := s.ext.stepCount + 1 } } tol = .ok sa ∧
      metaRunBfgs I fuel sa tol = .ok sb ∧ s' = { sb with core := { sb.core with tol := t } } ∧ v = I.value sb.fn := by
  unfold metaDoStep at h
  dsimp only at h
  split at h
  · cases h
  · rename_i sa ha
    split at h
    · cases h
    · rename_i sb hb
      cases h
      exact ⟨_, sa, sb, _, ha, hb, rfl, rfl⟩

/-! ### downhill simplex -/

/-- **`tryExtrapolation`**: the trial point is the optimiser's list moved by `setValue`; one evaluation
(counted); when the trial is better than the highest vertex it replaces it and the sums are updated -/
theorem tryExtrapolation_ok {s s' : St F (Simplex α) α} {fac yTry : α} (h : tryExtrapolation I s fac = .ok (s', yTry)) :
    ∃ hi yHi want pTry fn, s.ext.simplex[s.ext.iHighest]? = some hi ∧ s.ext.y[s.ext.iHighest]? = some yHi ∧
      setAll s.core.params want = .ok pTry ∧ I.f s.fn pTry = .ok (fn, yTry) ∧
      ((Scalar.ltb yTry yHi = false ∧ s' = { s with fn := fn, core := { s.core with nbEval := s.core.nbEval + 1 } }) ∨
       (Scalar.ltb yTry yHi = true ∧ ∃ sums ps hi', setAll s.ext.pSum sums = .ok ps ∧ setAll hi (values pTry) = .ok hi' ∧
          s' = { s with fn := fn, core := { s.core with nbEval := s.core.nbEval + 1 },
                        ext := { s.ext with y := s.ext.y.set s.ext.iHighest yTry, pSum := ps,
                                            simplex := s.ext.simplex.set s.ext.iHighest hi' } })) := by
  unfold tryExtrapolation at h
  dsimp only at h
  split at h
  · rename_i hi yHi hsx hy
    split at h
    · cases h
    · rename_i pTry hset
      split at h
      · cases h
      · rename_i fn yT hf
        refine ⟨hi, yHi, _, pTry, fn, hsx, hy, hset, ?_⟩
        cases hlt : Scalar.ltb yT yHi with
        | true =>
          rw [if_pos hlt] at h
          split at h
          · cases h
          · rename_i ps hps
            split at h
            · cases h
            · rename_i hi' hhi
              cases h
              exact ⟨hf, Or.inr ⟨hlt, _, ps, hi', hps, hhi, rfl⟩⟩
        | false =>
          rw [if_neg (hlt ▸ Bool.false_ne_true)] at h
          cases h
          exact ⟨hf, Or.inl ⟨hlt, rfl⟩⟩
  · cases h

/-- one vertex of the contraction of the whole simplex: the lowest vertex is skipped; another one moves
half-way towards it — the list of sums is told to take the midpoints, the vertex takes what it holds, and
the function is evaluated at the list of sums (counted) -/
theorem shrinkAll_cons_ok {i : Nat} {r : List Nat} {s s' : St F (Simplex α) α} (h : shrinkAll I (i :: r) s = .ok s') :
    (i = s.ext.iLowest ∧ shrinkAll I r s = .ok s') ∨
    (i ≠ s.ext.iLowest ∧ ∃ vi lo ps vi' fn yi, s.ext.simplex[i]? = some vi ∧ s.ext.simplex[s.ext.iLowest]? = some lo ∧
      setAll s.ext.pSum (((values vi).zip (values lo)).map (fun ab => Scalar.ofRat 1 2 * (ab.1 + ab.2))) = .ok ps ∧
      setAll vi (values ps) = .ok vi' ∧ I.f s.fn ps = .ok (fn, yi) ∧
      shrinkAll I r { s with fn := fn, core := { s.core with nbEval := s.core.nbEval + 1 },
                             ext := { s.ext with pSum := ps, simplex := s.ext.simplex.set i vi', y := s.ext.y.set i yi } }
        = .ok s') := by
  rw [shrinkAll] at h
  dsimp only at h
  split at h
  · rename_i he; exact Or.inl ⟨by simpa using he, h⟩
  · rename_i hne
    refine Or.inr ⟨by simpa using hne, ?_⟩
    split at h
    · rename_i vi lo hvi hlo
      split at h
      · cases h
      · rename_i ps hps
        split at h
        · cases h
        · rename_i vi' hvi'
          split at h
          · cases h
          · rename_i fn yi hf
            exact ⟨vi, lo, ps, vi', fn, yi, hvi, hlo, hps, hvi', hf, h⟩
    · cases h

/-- **`DownhillSimplexMethod::doStep`**: the vertices are ranked, the optimiser's list becomes the lowest
vertex, a reflection is tried; then an expansion, or a contraction — followed, when it does not improve, by
the contraction of the whole simplex (counted `nDim` more than the calls it makes) and new sums —, or
nothing; the lowest vertex and its value are reported -/
theorem simplexDoStep_ok {s s' : St F (Simplex α) α} {v : α} (h : simplexDoStep I s = .ok (s', v)) :
    ∃ y0 y1 v0 iH iN iL best s1 yT1 sf, s.ext.y[0]? = some y0 ∧ s.ext.y[1]? = some y1 ∧ s.ext.simplex[0]? = some v0 ∧
      rank s.ext.y y0 y1 = (iH, iN, iL) ∧ s.ext.simplex[iL]? = some best ∧
      tryExtrapolation I { s with core := { s.core with params := best },
                                  ext := { s.ext with iHighest := iH, iNextHighest := iN, iLowest := iL } } (Scalar.ofInt (-1))
        = .ok (s1, yT1) ∧
      simplexReport sf iL = (s', v) ∧
      (sf = s1 ∨ (∃ fac yT2, tryExtrapolation I s1 fac = .ok (sf, yT2)) ∨
        ∃ fac s2 yT2 s3 ps, tryExtrapolation I s1 fac = .ok (s2, yT2) ∧
          shrinkAll I (List.range (v0.length + 1)) s2 = .ok s3 ∧ getPSum s3.core.params s3.ext.simplex = .ok ps ∧
          sf = { s3 with core := { s3.core with nbEval := s3.core.nbEval + v0.length }, ext := { s3.ext with pSum := ps } }) := by
  unfold simplexDoStep at h
  dsimp only at h
  split at h
  · rename_i y0 y1 v0 hy0 hy1 hv0
    generalize hrk : rank s.ext.y y0 y1 = rk at h
    obtain ⟨iH, iN, iL⟩ := rk
    dsimp only at h
    split at h
    · cases h
    · rename_i best hbest
      split at h
      · cases h
      · rename_i s1 yT1 ht1
        refine ⟨y0, y1, v0, iH, iN, iL, best, s1, yT1, ?_⟩
        split at h
        · split at h
          · cases h
          · rename_i s2 yT2 ht2
            exact ⟨s2, hy0, hy1, hv0, hrk, hbest, ht1, Except.ok.inj h, Or.inr (Or.inl ⟨_, yT2, ht2⟩)⟩
        · split at h
          · split at h
            · cases h
            · rename_i s2 yT2 ht2
              split at h
              · split at h
                · cases h
                · rename_i s3 hsh
                  split at h
                  · cases h
                  · rename_i ps hps
                    exact ⟨_, hy0, hy1, hv0, hrk, hbest, ht1, Except.ok.inj h, Or.inr (Or.inr ⟨_, s2, yT2, s3, ps, ht2, hsh, hps, rfl⟩)⟩
              · exact ⟨s2, hy0, hy1, hv0, hrk, hbest, ht1, Except.ok.inj h, Or.inr (Or.inl ⟨_, yT2, ht2⟩)⟩
          · exact ⟨s1, hy0, hy1, hv0, hrk, hbest, ht1, Except.ok.inj h, Or.inl rfl⟩
  · cases h

/-- **`DownhillSimplexMethod::optimize`**: the template's loop, then an evaluation at the best vertex -/
theorem simplexOptimize_ok {fuel : Nat} {s s2 : St F (Simplex α) α} {v : α} (h : simplexOptimize I fuel s = .ok (s2, v)) :
    ∃ sL w best fn, (simplexAlgo I).optimize fuel s = .ok (sL, w) ∧ sL.ext.simplex[sL.ext.iLowest]? = some best ∧
      I.f sL.fn best = .ok (fn, v) ∧ s2 = { sL with fn := fn } := by
  unfold simplexOptimize at h
  split at h
  · cases h
  · rename_i sL w ho
    split at h
    · cases h
    · rename_i best hb
      split at h
      · cases h
      · rename_i fn v2 hf; cases h; exact ⟨sL, w, best, fn, ho, hb, hf, rfl⟩

/-! ### `Monotone` for the coordinate-wise optimisers and the meta-optimiser

Each coordinate adds the inner optimiser's counter, each active member of the meta-optimiser adds its own. -/

/-- the counter has not gone back and the cap is the same -/
def CounterLe (s s' : St F τ α) : Prop := s.core.nbEval ≤ s'.core.nbEval ∧ s'.core.nbEvalMax = s.core.nbEvalMax

theorem CounterLe.refl (s : St F τ α) : CounterLe s s := ⟨Nat.le_refl _, rfl⟩

theorem CounterLe.trans {a b c : St F τ α} (h1 : CounterLe a b) (h2 : CounterLe b c) : CounterLe a c :=
  ⟨Nat.le_trans h1.1 h2.1, h2.2.trans h1.2⟩

theorem fscStop_counter (s : St F τ α) : CounterLe s (fscStop s).1 ∧ (fscStop s).1.core.nbEval = s.core.nbEval := by
  rw [fscStop_fst]; exact ⟨CounterLe.refl s, rfl⟩

theorem simpleAlgo_monotone (I : FunI F α) (fuel : Nat) : Monotone (simpleAlgo I fuel) :=
  ⟨fun s s' v h => by
      obtain ⟨s1, t, hc, rfl⟩ := simpleDoStep_ok h
      show CounterLe s s1
      exact coordsFold_rel CounterLe CounterLe.refl (fun _ _ _ => CounterLe.trans) (fun u i u' f hc => by
        obtain ⟨q, i0, i1, i2, pl, -, -, -, -, -, -, rfl⟩ := simpleCoord_ok hc
        exact ⟨Nat.le_add_right _ _, rfl⟩) hc,
   fun s => ⟨(fscStop_counter s).2, (fscStop_counter s).1.2⟩⟩

theorem snewtonAlgo_monotone (I : FunI F α) (fuel : Nat) : Monotone (snewtonAlgo I fuel) :=
  ⟨fun s s' v h => by
      obtain ⟨s1, t, hc, rfl⟩ := snewtonDoStep_ok h
      show CounterLe s s1
      exact coordsFold_rel CounterLe CounterLe.refl (fun _ _ _ => CounterLe.trans) (fun u i u' f hc => by
        obtain ⟨q, i1, i2, pl, -, -, -, -, rfl⟩ := snewtonCoord_ok hc
        exact ⟨Nat.le_add_right _ _, rfl⟩) hc,
   fun s => ⟨(fscStop_counter s).2, (fscStop_counter s).1.2⟩⟩

theorem metaAlgo_monotone (I : FunI F α) (log10 : α → α) (fuel : Nat) : Monotone (metaAlgo I log10 fuel) :=
  ⟨fun s s' v h => by
      obtain ⟨tol, sa, sb, t, ha, hb, rfl, -⟩ := metaDoStep_ok h
      have h1 : CounterLe s sa := by
        rcases metaRunSimple_ok ha with ⟨-, rfl⟩ | ⟨p1, sub1, sub2, w, own, -, -, -, -, rfl⟩
        · exact CounterLe.refl _
        · exact ⟨Nat.le_add_right _ _, rfl⟩
      have h2 : CounterLe sa sb := by
        rcases metaRunBfgs_ok hb with ⟨-, rfl⟩ | ⟨p2, sub1, sub2, w, own, -, -, -, -, rfl⟩
        · exact CounterLe.refl _
        · exact ⟨Nat.le_add_right _ _, rfl⟩
      exact h1.trans h2,
   fun s => ⟨(fscStop_counter s).2, (fscStop_counter s).1.2⟩⟩

end Bpp.Optim
