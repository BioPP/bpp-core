import BppProofs.Lemmas.LUStore
/-!
Helper lemmas for C05, storage level: the constructor of `BppModel/LUStore.lean` (statement by
statement on a `RowMatrix`) refines `LU.factor` (one entry-wise formula per outer iteration), for
any scalar type.
-/
namespace Bpp.LUS
open Bpp Bpp.Mx Bpp.LU

variable {α : Type} [Scalar α] {m n : Nat}

-- With Mathlib in scope the search for `Mul α` (`Sub α`, `Div α`) goes through every algebraic class
-- before it reaches the parent projections of `Scalar`; at this priority they are tried first.
attribute [local instance 1100] Scalar.toMul Scalar.toSub Scalar.toDiv

/-! ### pivot search -/

theorem findPivotS_refines {S : Store α} {k0 : Kind} (W : Mat α m n) (hS : Is S k0 m n (fnOf W)) (h : n ≤ m) (k : Fin n) :
    findPivotS S m k.val = .ok (findPivot W k (k.castLE h)).val := by
  obtain ⟨p, e, r⟩ := loopFrom_foldl (fun (p : Nat) (q : Fin m) => p = q.val) (k.val + 1) m
    (fun i p => do
      let a ← rd S i k.val
      let b ← rd S p k.val
      pure (if Scalar.gtb (numAbs a) (numAbs b) then i else p))
    (fun p i => if (k.castLE h).val < i.val then
        (if Scalar.gtb (numAbs (W.get i k)) (numAbs (W.get p k)) then i else p) else p)
    k.val (k.castLE h) rfl
    (fun i t hi => by
      have : ¬ (k.castLE h).val < i.val := by simp; omega
      simp only [this, if_false])
    (fun i s t hi hr => by
      subst hr
      have hk : (k.castLE h).val < i.val := by simp; omega
      simp only [hS.rd i.isLt k.isLt, hS.rd t.isLt k.isLt, ok_bind, pure_eq, fnOf_get, hk, if_true]
      refine ⟨_, rfl, ?_⟩
      split <;> rfl)
  unfold findPivotS
  rw [e, r]
  rfl

/-! ### row exchange -/

theorem swapRowsS_refines {S : Store α} {k0 : Kind} (W : Mat α m n) (hS : Is S k0 m n (fnOf W)) (p kr : Fin m) :
    ∃ S', swapRowsS S n p.val kr.val = .ok S' ∧ Is S' k0 m n (fnOf (swapRows W p kr)) := by
  let f := fnOf W
  let sw : Nat → Nat → α := fun a b => if a = kr.val then f p.val b else if a = p.val then f kr.val b else f a b
  refine (loop_inv (fun j T => Is T k0 m n (fun a b => if b < j then sw a b else f a b)) n _ S
    (hS.congr (fun a b _ _ => by simp [f])) ?body).imp fun S' h => ⟨h.1, h.2.of_get ?fin⟩
  case body =>
      intro j T hj hT
      have h1 := hT.rd p.isLt hj
      have h2 := hT.rd kr.isLt hj
      simp only [Nat.lt_irrefl, if_false] at h1 h2
      obtain ⟨T1, e1, hT1⟩ := hT.wr p.isLt hj (f kr.val j)
      obtain ⟨T2, e2, hT2⟩ := hT1.wr kr.isLt hj (f p.val j)
      refine ⟨T2, by simp only [h1, h2, ok_bind, e1, e2], hT2.congr ?_⟩
      intro a b _ _
      rw [update_cell, update_cell]
      simp only [sw]
      by_cases hb : b = j
      · subst hb
        by_cases ha : a = kr.val
        · simp [ha]
        · by_cases ha' : a = p.val
          · simp [ha']
          · simp [ha, ha']
      · have h3 : (b < j + 1) = (b < j) := by
          apply propext; omega
        simp only [hb, and_false, if_false, h3]
  intro i j
  simp only [sw, f, swapRows, Mat.get_ofFn, fnOf_get, j.isLt, if_true, Fin.ext_iff]

theorem vrd_ofFn {β : Type} {k : Nat} (g : Fin k → β) {i : Nat} (hi : i < k) : vrd (Array.ofFn g) i = .ok (g ⟨i, hi⟩) := by
  simp [vrd, hi]

theorem swapPivS_refines (piv : Vector (Fin m) m) (p kr : Fin m) :
    swapPivS (Array.ofFn (n := m) fun i => (piv[i.val]'i.isLt).val) p.val kr.val =
      .ok (Array.ofFn (n := m) fun i => ((swapPiv piv p kr)[i.val]'i.isLt).val) := by
  unfold swapPivS
  rw [vrd_ofFn _ p.isLt, vrd_ofFn _ kr.isLt]
  simp only [ok_bind, vwr, Array.size_ofFn, p.isLt, if_true, Array.size_setIfInBounds, Array.set!_eq_setIfInBounds, kr.isLt]
  congr 1
  apply Array.ext
  · simp
  · intro i h1 h2
    have hi : i < m := by simpa using h2
    simp only [Array.getElem_setIfInBounds, Array.getElem_ofFn, swapPiv, Vector.getElem_ofFn, Array.size_setIfInBounds, Array.size_ofFn, hi]
    by_cases a : kr.val = i
    · have : (⟨i, hi⟩ : Fin m) = kr := Fin.ext a.symm
      simp [a, this]
    · have hne : ¬ (⟨i, hi⟩ : Fin m) = kr := fun e => a (by rw [← e])
      by_cases b : p.val = i
      · have : (⟨i, hi⟩ : Fin m) = p := Fin.ext b.symm
        have hpk : ¬ p = kr := fun e => a (by rw [← e]; exact b)
        simp [a, b, this, hpk]
      · have hne' : ¬ (⟨i, hi⟩ : Fin m) = p := fun e => b (by rw [← e])
        simp [a, b, hne, hne']

/-! ### elimination -/

theorem elimRowS_spec {S : Store α} {k0 : Kind} {g : Nat → Nat → α} (hS : Is S k0 m n g) {k i : Nat} (hk : k < n)
    (hki : k < i) (hi : i < m) :
    ∃ S', elimRowS S n k i = .ok S' ∧
      Is S' k0 m n (Function.update g i fun b => if k + 1 ≤ b ∧ b < n then g i b - g i k * g k b else g i b) := by
  unfold elimRowS
  refine rowLoop hS hi (by omega) (Nat.le_refl n) _ _ ?_
  intro j hj0 hj1 T g' hT hout
  have h1 := hT.rd hi hj1
  have h2 := hT.rd hi hk
  have h3 := hT.rd (show k < m by omega) hj1
  rw [Function.update_self, hout _ (by omega)] at h1 h2
  rw [Function.update_of_ne (by omega)] at h3
  simp only [h1, h2, h3, ok_bind]

theorem eliminateS_refines {S : Store α} {k0 : Kind} (W : Mat α m n) (hS : Is S k0 m n (fnOf W)) (h : n ≤ m) (k : Fin n) :
    ∃ S', eliminateS S m n k.val = .ok S' ∧ Is S' k0 m n (fnOf (eliminate W k (k.castLE h))) := by
  have hkm : k.val < m := by omega
  have hkk : fnOf W k.val k.val = W.get (k.castLE h) k := fnOf_lt W hkm k.isLt
  unfold eliminateS eliminate
  simp only [hS.rd hkm k.isLt, ok_bind, hkk]
  by_cases hz : Scalar.eqb (W.get (k.castLE h) k) Scalar.zero = true
  · rw [if_pos hz, if_pos hz]
    exact ⟨S, rfl, hS⟩
  · rw [if_neg hz, if_neg hz]
    -- the slots are the rows below the pivot row
    refine (loopFrom_update (fun T g => Is T k0 m n g) hS (show k.val + 1 ≤ m by omega)
      (fun a b => if b = k.val then fnOf W a k.val / fnOf W k.val k.val
        else if k.val < b then fnOf W a b - (fnOf W a k.val / fnOf W k.val k.val) * fnOf W k.val b else fnOf W a b) _ ?body).imp
      fun S' h => ⟨h.1, h.2.of_get ?fin⟩
    case body =>
      intro i hi0 hi1 T g hT hout
      have hgi := hout i (by omega)
      have hgk := hout k.val (by omega)
      obtain ⟨T1, e1, hT1⟩ := hT.wr hi1 k.isLt (fnOf W i k.val / fnOf W k.val k.val)
      obtain ⟨T2, e2, hT2⟩ := elimRowS_spec hT1 k.isLt (show k.val < i by omega) hi1
      refine ⟨T2, by simp only [hT.rd hi1 k.isLt, hT.rd hkm k.isLt, hgi, hgk, ok_bind, e1, e2], ?_⟩
      rw [Function.update_idem, Function.update_self, Function.update_of_ne (show k.val ≠ i by omega), hgi, hgk] at hT2
      refine hT2.row_congr fun b hb => ?_
      by_cases hbk : b = k.val
      · subst hbk; simp
      · by_cases hkb : k.val < b
        · simp [hbk, hkb, hb]
        · simp [hbk, hkb]
    intro i j
    simp only [Mat.get_ofFn, fnOf_get, Fin.val_castLE, Nat.succ_le_iff, i.isLt, and_true, ite_apply, Fin.ext_iff]
    rw [hkk, fnOf_lt W hkm j.isLt]
    rfl

/-! ### one iteration, the whole constructor -/

theorem exchangeS_refines {s : StateS α} {t : LU.State α m n} (hr : Rep s t) (p kr : Fin m) :
    ∃ s1, (if p.val ≠ kr.val then do
        let lu ← swapRowsS s.lu s.n p.val kr.val
        let piv ← swapPivS s.piv p.val kr.val
        pure { s with lu := lu, piv := piv, pivsign := - s.pivsign }
      else pure s) = .ok s1 ∧ Rep s1 (exchange t p kr) := by
  obtain ⟨hm, hn, hlu, hsign, hpiv⟩ := hr
  unfold exchange
  by_cases hpk : p = kr
  · rw [if_neg (not_not.mpr (congrArg Fin.val hpk)), if_neg (not_not.mpr hpk)]
    exact ⟨s, rfl, hm, hn, hlu, hsign, hpiv⟩
  · obtain ⟨S1, e1, hS1⟩ := swapRowsS_refines t.lu hlu p kr
    rw [if_pos (fun e => hpk (Fin.ext e)), if_pos hpk, hn, e1, ok_bind, hpiv, swapPivS_refines t.piv p kr]
    exact ⟨_, rfl, hm, rfl, hS1, by simp [hsign], rfl⟩

theorem stepS_refines {s : StateS α} {t : LU.State α m n} (hr : Rep s t) (h : n ≤ m) (k : Fin n) :
    ∃ s', stepS k.val s = .ok s' ∧ Rep s' (LU.step h t k) := by
  obtain ⟨s1, e1, hm1, hn1, hlu1, hsign1, hpiv1⟩ := exchangeS_refines hr (findPivot t.lu k (k.castLE h)) (k.castLE h)
  obtain ⟨S', e, hS'⟩ := eliminateS_refines _ hlu1 h k
  have ep : findPivotS s.lu s.m k.val = .ok (findPivot t.lu k (k.castLE h)).val := by
    rw [hr.m_eq]; exact findPivotS_refines t.lu hr.lu_is h k
  unfold stepS
  rw [ep, ok_bind]
  refine ⟨{ s1 with lu := S' }, ?_, hm1, hn1, hS', hsign1, hpiv1⟩
  rw [show (k.castLE h).val = k.val from rfl] at e1
  rw [e1, ok_bind, hm1, hn1, e, ok_bind]
  rfl

theorem shape_row_le {r c : Nat} (h : c ≤ r) : Kind.shape .row r c = (r, c) := by
  simp only [Kind.shape]
  by_cases h0 : r = 0
  · have : c = 0 := by omega
    simp [h0, this]
  · simp [h0]

/-- the converting constructor `RowMatrix(const Matrix&)` into an empty `RowMatrix`: the operand's shape and contents -/
theorem copyRow_is {A : Store α} {kA : Kind} {r c : Nat} {f : Nat → Nat → α} (hA : Is A kA r c f)
    (hs : Kind.shape .row r c = (r, c)) :
    ∃ O', liftMx (Mx.copy A (Store.empty .row)) = .ok O' ∧ Is O' .row r c f := by
  obtain ⟨O', e, hk, hH⟩ := copy_holds_is hA (Store.empty .row)
  have hk' : O'.kind = .row := by rw [hk]; rfl
  have := Is.of_holds hH (by rw [hk']; exact hs)
  rw [hk'] at this
  exact ⟨O', by rw [e]; rfl, this⟩

theorem initS_refines {A : Store α} {kA : Kind} {Am : Mat α m n} (hA : Is A kA m n (fnOf Am)) (h : n ≤ m) :
    ∃ s, initS A = .ok s ∧ Rep s (LU.init Am) := by
  obtain ⟨O', e, hO'⟩ := copyRow_is hA (shape_row_le h)
  obtain ⟨_, _, rfl, rfl, _⟩ := hA
  exact ⟨{ lu := O', m := A.nrows, n := A.ncols, pivsign := 1, piv := Array.ofFn (n := A.nrows) fun i => i.val },
    by simp only [initS, e, ok_bind, pure_eq], rfl, rfl, hO', rfl, by simp [LU.init]⟩

/-- **the constructor, statement by statement on any storage class, computes `LU.factor`** -/
theorem constructS_refines {A : Store α} {kA : Kind} {Am : Mat α m n} (hA : Is A kA m n (fnOf Am)) (h : n ≤ m) :
    ∃ s, constructS A = .ok s ∧ Rep s (LU.factor h Am) := by
  obtain ⟨s0, e0, r0⟩ := initS_refines hA h
  obtain ⟨s', e, r⟩ := loop_foldl (fun (s : StateS α) (t : LU.State α m n) => Rep s t) n stepS
    (LU.step h) s0 _ r0 (fun k s t hr => stepS_refines hr h k)
  refine ⟨s', ?_, r⟩
  simp only [constructS, e0, ok_bind, r0.n_eq]
  exact e

theorem constructS_eq_ok {A : Store α} {kA : Kind} {Am : Mat α m n} (hA : Is A kA m n (fnOf Am)) (h : n ≤ m)
    {s : StateS α} (hc : constructS A = .ok s) : Rep s (LU.factor h Am) := by
  obtain ⟨s0, e, r⟩ := constructS_refines hA h
  obtain rfl : s0 = s := Except.ok.inj (e.symm.trans hc)
  exact r

end Bpp.LUS
