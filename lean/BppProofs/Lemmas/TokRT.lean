import BppProofs.Lemmas.TokenizerU
import BppProofs.Lemmas.TokLoops
import BppModel.Text.TokRT
/-! The round-trip law of the StringTokenizer constructor (`mkTokenizer_rt_total`), from what its
loops return (`Lemmas/TokLoops.lean`) and what `unparseRemainingTokens` makes of the tokens and
recorded separators at any cursor (`unparse_closed` of `Lemmas/TokenizerU.lean`); `nextN_rt`
for the calls of `nextToken()`.  `Lemmas/NestedRT.lean`, `Lemmas/TableRT.lean` and the bridges to the
KeyvalTools model build on it. -/
namespace Bpp.Text.RT
open Bpp.Text Bpp.Text.U

-- `Props/C17Tokenizer`, `C17Nested` and `C17Table` close concrete instances of the laws by
-- `decide +kernel`, which compares `Except` values
deriving instance DecidableEq for Except

/-- the leading delimiters the constructor skips -/
theorem lead_some {d s : Str} {k : Nat} (h : findFirstNotOf d s 0 = some k) :
    s.takeWhile (inSet d) = s.take k ∧ s.dropWhile (inSet d) = s.drop k := by
  obtain ⟨_, _, hall, c, hc, hcd⟩ := findFirstNotOf_some h
  have hall : ∀ x ∈ s.take k, inSet d x = true := hall
  have e := List.take_append_drop k s
  rw [drop_eq_cons_of_getElem? hc] at e
  have hc' : ¬ inSet d c = true := by simp [hcd]
  constructor
  · conv => lhs; rw [← e]
    rw [List.takeWhile_append_of_pos hall, List.takeWhile_cons_of_neg hc', List.append_nil]
  · conv => lhs; rw [← e]
    rw [List.dropWhile_append_of_pos hall, List.dropWhile_cons_of_neg hc', drop_eq_cons_of_getElem? hc]

theorem lead_none {d s : Str} (h : findFirstNotOf d s 0 = none) :
    s.takeWhile (inSet d) = s ∧ s.dropWhile (inSet d) = [] :=
  have hall : ∀ c ∈ s, inSet d c = true := findFirstNotOf_none h
  ⟨by simpa using List.takeWhile_append_of_pos (l₂ := []) hall,
    by simpa using List.dropWhile_append_of_pos (l₂ := []) hall⟩

theorem interleave_single (t : Str) : interleave [t] [] = t := by simp [interleave]

/-- a last token after as many separators as tokens -/
theorem interleave_snoc_token (A S : List Str) (h : A.length = S.length) (x : Str) :
    interleave (A ++ [x]) S = interleave A S ++ x := by
  induction A generalizing S <;> cases S <;> simp_all [interleave]

/-- a last separator after the last token -/
theorem interleave_snoc_split (A S : List Str) (h : A.length = S.length + 1) (y : Str) :
    interleave A (S ++ [y]) = interleave A S ++ y := by
  induction A generalizing S with
  | nil => simp at h
  | cons a A ih =>
    cases S with
    | nil =>
      cases A with
      | nil => simp [interleave]
      | cons _ _ => simp at h
    | cons sp S =>
      simp only [List.length_cons, Nat.add_right_cancel_iff] at h
      simp [interleave, ih S h]

/-- separators beyond the tokens are not used -/
theorem interleave_take (A S : List Str) : interleave A (S.take A.length) = interleave A S :=
  interleave_take_le A S (Nat.le_refl _)

theorem consumed_append_interleave (k : Nat) (ts ss : List Str) (h : k ≤ ts.length) :
    consumed k ts ss ++ interleave (ts.drop k) (ss.drop k) = interleave ts ss := by
  have := interleave_append (ts.take k) (ts.drop k) ss
  rw [List.take_append_drop, List.length_take, Nat.min_eq_left h, ← consumed_eq] at this
  exact this.symm

/-- a text that ends with a non-delimiter followed by delimiters only -/
theorem dropLastSet_append_tail (d U T : Str) (hT : ∀ c ∈ T, inSet d c = true)
    (hU : U = [] ∨ ∃ X x, U = X ++ [x] ∧ inSet d x = false) : dropLastSet d (U ++ T) = U := by
  unfold dropLastSet
  rw [List.reverse_append, List.dropWhile_append_of_pos (fun c hc => hT c (List.mem_reverse.mp hc))]
  rcases hU with rfl | ⟨X, x, rfl, hx⟩
  · simp
  · simp [hx]

theorem dropLastSet_self (d U : Str) (hU : U = [] ∨ ∃ X x, U = X ++ [x] ∧ inSet d x = false) :
    dropLastSet d U = U := by
  have := dropLastSet_append_tail d U [] (by simp) hU
  simpa using this

theorem ctorRtOk_iff {s d : Str} {solid ae : Bool} {tokens splits : List Str} {u : Str} :
    ctorRtOk s d solid ae tokens splits u = true ↔
      ((if solid then [] else s.takeWhile (inSet d)) ++ interleave tokens splits = s ∧
      u = unparseSpec d solid ae s ∧
      (tokens.length = splits.length + 1 ∨ (solid = false ∧ ae = false ∧ tokens.length = splits.length)
        ∨ (solid = false ∧ tokens = [] ∧ splits = [])) ∧
      (∀ t ∈ tokens, tokenOk d solid ae t = true) ∧ ∀ sp ∈ splits, splitOk d solid ae sp = true) := by
  simp only [ctorRtOk, Bool.and_eq_true, Bool.or_eq_true, beq_iff_eq, Bool.not_eq_true', List.all_eq_true,
    List.isEmpty_iff, and_assoc, or_assoc]

/-- the unparsed text of a fresh tokenizer is the re-joined text when no separator follows the last token -/
theorem unparse_fresh_all (ts ss : List Str) (hwf : (⟨ts, ss, 0⟩ : Tokenizer).WF)
    (hc : ts.length = ss.length + 1) :
    (⟨ts, ss, 0⟩ : Tokenizer).unparseRemainingTokens = .ok (interleave ts ss) := by
  rw [unparse_closed _ hwf]
  simp only [List.drop_zero, Nat.sub_zero, hc, Nat.add_sub_cancel, List.take_length]

/-- … and the text without its leading and trailing delimiters when the pieces re-join to the text
after its leading delimiters, the tokens end with a non-delimiter and the separators are made of
delimiters -/
theorem unparse_fresh_strip {s : Str} (d : Str) (ts ss : List Str) (hne : ts ≠ []) (hwf : (⟨ts, ss, 0⟩ : Tokenizer).WF)
    (hlast : ∃ X x, ts.getLast hne = X ++ [x] ∧ inSet d x = false)
    (hseps : ∀ sp ∈ ss, ∀ c ∈ sp, inSet d c = true) (hjoin : interleave ts ss = s.dropWhile (inSet d)) :
    (⟨ts, ss, 0⟩ : Tokenizer).unparseRemainingTokens = .ok (stripSet d s) := by
  obtain ⟨X, x, hx, hxd⟩ := hlast
  rw [unparse_closed _ hwf, stripSet, ← hjoin]
  simp only [List.drop_zero, Nat.sub_zero]
  -- the re-joined text is the unparsed text followed by the trailing separator, if any
  rw [interleave_last ts ss hne, ← interleave_gaps ts ss hne, dropLastSet_append_tail d _ _ ?_
    (Or.inr ⟨interleave ts.dropLast ss ++ X, x, by rw [interleave_gaps ts ss hne, hx, List.append_assoc], hxd⟩)]
  cases h : ss.drop (ts.length - 1) with
  | nil => nofun
  | cons sp r => exact hseps sp (List.mem_of_mem_drop (h ▸ List.mem_cons_self ..))

theorem advance_wf (t : Tokenizer) (hwf : t.WF) (k : Nat) (h : t.pos + k ≤ t.tokens.length) : (advance t k).WF :=
  ⟨h, hwf.splits, hwf.size⟩

/-- `k` calls of `nextToken()` return the next `k` tokens and move the cursor by `k` -/
theorem nextN_eq (k : Nat) (t : Tokenizer) (h : t.pos + k ≤ t.tokens.length) :
    nextN k t = .ok ((t.tokens.drop t.pos).take k, advance t k) := by
  induction k generalizing t with
  | zero => simp [nextN, advance]
  | succ k ih =>
    have hp : t.pos < t.tokens.length := by omega
    rw [nextN, nextToken_eq hp, bind_ok]
    simp only []
    rw [ih _ (by simp only; omega), bind_ok, List.drop_eq_getElem_cons hp, List.take_succ_cons]
    simp [advance, Nat.add_assoc, Nat.add_comm 1 k, pure_eq_ok]

theorem tokenOk_ends {d t : Str} (h : tokenOk d false false t = true) :
    ∃ X x, t = X ++ [x] ∧ inSet d x = false := by
  obtain ⟨hfree, hne⟩ := tokenOk_ns_iff.mp h
  obtain ⟨X, x, hx, hxm⟩ := exists_snoc t (hne rfl)
  exact ⟨X, x, hx, hfree x hxm⟩

/-- **the round-trip law of the constructor**, all four option combinations; it returns (its loops
end within their fuel, every `substr` is in range) unless the mode is solid and the delimiter empty -/
theorem mkTokenizer_rt_total (s d : Str) (solid ae : Bool) (hs : StrOk s) (hd : ¬ (solid = true ∧ d = [])) :
    ∃ T u, mkTokenizer s d solid ae = .ok T ∧ T.unparseRemainingTokens = .ok u ∧
      ctorRtOk s d solid ae T.tokens T.splits u = true := by
  obtain ⟨ts, ss, he, ⟨rfl, hf, rfl, rfl⟩ | ⟨index, hidx, post⟩⟩ := mkTokenizer_post s d solid ae hs hd
  · obtain ⟨h1, h2⟩ := lead_none hf
    refine ⟨_, [], he, rfl, ctorRtOk_iff.mpr ⟨by simp [h1], ?_, Or.inr (Or.inr ⟨rfl, rfl, rfl⟩), nofun, nofun⟩⟩
    cases ae <;> simp [unparseSpec, stripSet, dropLastSet, h2]
  · have hwf := (mkTokenizer_built hs he).wf
    cases solid with
    | false =>
      obtain ⟨h1, h2⟩ := lead_some hidx
      have hjoin : s.takeWhile (inSet d) ++ interleave ts ss = s := by
        rw [h1, post.join, List.take_append_drop]
      have hrest : interleave ts ss = s.dropWhile (inSet d) := post.join.trans h2.symm
      have hcount : ts.length = ss.length + 1 ∨ (false = false ∧ ae = false ∧ ts.length = ss.length)
          ∨ (false = false ∧ ts = [] ∧ ss = []) := post.count.imp_right Or.inl
      cases ae with
      | true =>
        have hc : ts.length = ss.length + 1 := post.count.resolve_right (fun h => nomatch h.2.1)
        exact ⟨_, _, he, unparse_fresh_all ts ss hwf hc,
          ctorRtOk_iff.mpr ⟨hjoin, hrest, hcount, post.toks, post.seps⟩⟩
      | false =>
        exact ⟨_, _, he, unparse_fresh_strip d ts ss post.ne hwf
            (tokenOk_ends (post.toks _ (List.getLast_mem post.ne)))
            (fun sp hsp => (splitOk_ns_iff.mp (post.seps sp hsp)).2.1) hrest,
          ctorRtOk_iff.mpr ⟨hjoin, rfl, hcount, post.toks, post.seps⟩⟩
    | true =>
      cases hidx
      have hc : ts.length = ss.length + 1 := post.count.resolve_right (fun h => nomatch h.1)
      exact ⟨_, _, he, unparse_fresh_all ts ss hwf hc,
        ctorRtOk_iff.mpr ⟨post.join, post.join, Or.inl hc, post.toks, post.seps⟩⟩

theorem mkTokenizer_error_iff (s d : Str) (solid ae : Bool) (hs : StrOk s) :
    mkTokenizer s d solid ae = .error .bpp ↔ (solid = true ∧ d = []) := by
  refine ⟨fun h => Decidable.byContradiction fun hd => ?_, by rintro ⟨rfl, rfl⟩; rfl⟩
  obtain ⟨T, _, e, _⟩ := mkTokenizer_rt_total s d solid ae hs hd
  rw [e] at h; cases h

theorem mkTokenizer_rt (s d : Str) (solid ae : Bool) (hs : StrOk s) (T : Tokenizer)
    (h : mkTokenizer s d solid ae = .ok T) :
    ∃ u, T.unparseRemainingTokens = .ok u ∧ ctorRtOk s d solid ae T.tokens T.splits u = true := by
  obtain ⟨T', u, e, hu⟩ := mkTokenizer_rt_total s d solid ae hs
    (fun hd => by rw [(mkTokenizer_error_iff s d solid ae hs).mpr hd] at h; cases h)
  rw [h] at e; cases e
  exact ⟨u, hu⟩

/-- **`k` calls of `nextToken()` on a well-formed tokenizer with the cursor at 0** return the first `k`
tokens; what they consumed followed by what `unparseRemainingTokens()` returns afterwards is what it
returned before; after the last token `nextToken()` raises -/
theorem nextN_rt (T : Tokenizer) (hwf : T.WF) (hpos : T.pos = 0) (k : Nat) (hk : k ≤ T.tokens.length) :
    ∃ T' u0 uk, nextN k T = .ok (T.tokens.take k, T') ∧
      T.unparseRemainingTokens = .ok u0 ∧ T'.unparseRemainingTokens = .ok uk ∧
      advanceRtOk T.tokens T.splits k u0 uk = true ∧
      (k = T.tokens.length → T'.nextToken = .error .bpp) := by
  have hn := nextN_eq k T (by omega)
  rw [hpos, List.drop_zero] at hn
  refine ⟨advance T k, _, _, hn, unparse_closed T hwf, unparse_closed _ (advance_wf T hwf k (by omega)), ?_,
    fun e => ((nextToken_cases _).resolve_left fun h => absurd h.1 (by simp only [advance, hpos, e, Nat.zero_add,
      Nat.lt_irrefl, not_false_eq_true])).2⟩
  simp only [advance, hpos, Nat.zero_add, List.drop_zero, Nat.sub_zero, advanceRtOk]
  split
  · have key := consumed_append_interleave k T.tokens (T.splits.take (T.tokens.length - 1)) hk
    rw [consumed_eq, interleave_take_le _ _ (by rw [List.length_take]; omega), ← consumed_eq, List.drop_take,
      Nat.sub_right_comm] at key
    exact beq_iff_eq.mpr key
  · rw [List.drop_of_length_le (by omega)]; rfl

end Bpp.Text.RT
