import BppModel.TreeObs
import BppProofs.Lemmas.ObserverWorld
import BppProofs.Props.C15
import BppProofs.Lemmas.TreeBasic
import BppProofs.Lemmas.TreeRootAtU
/-! Helper lemmas for C15, object-level wrappers of the tree container watched by observers
(`BppModel/TreeObs.lean`).  Property theorems are in `Props/C15Obs.lean`. -/
namespace Bpp
namespace Graph
open AL

/-! ### delivering notifications -/

theorem deliver_g (w : World) : w.deliver.g = { w.g with pending := [] } := rfl

/-- **what the observer still attaches after it has been told that edge `e` is gone**: the object of `e`, if any, is free;
every other object is where it was -/
theorem deletedEdge_find (o : Obs) (e y : Nat) :
    find y (o.deletedEdge e).Eg = if o.edgeFromGid e = some y then none else find y o.Eg := by
  unfold Obs.deletedEdge Obs.edgeFromGid
  by_cases hlt : o.gE.length > e
  · rw [if_pos hlt, if_neg (Nat.not_le.2 hlt)]
    cases hx : Vec.get o.gE e with
    | none => rw [if_neg nofun]
    | some x =>
      dsimp only
      rw [(forgetEdgeIndex_same _ x).2.2.2.1]
      simp only [find_erase, Option.some.injEq]
  · rw [if_neg hlt, if_pos (Nat.not_lt.1 hlt), if_neg nofun]

/-- the node associations are untouched, and the other edge objects stay -/
theorem deletedEdge_keeps {o : Obs} (hi : Inverse o.gE o.Eg) (e : Nat) :
    (o.deletedEdge e).Ng = o.Ng ∧ (o.deletedEdge e).gN = o.gN ∧
    ∀ y e', find y o.Eg = some e' → e' ≠ e → find y (o.deletedEdge e).Eg = some e' := by
  have hN : (o.deletedEdge e).Ng = o.Ng ∧ (o.deletedEdge e).gN = o.gN := by
    unfold Obs.deletedEdge
    split
    · split
      · exact ⟨(forgetEdgeIndex_same _ _).2.2.1, (forgetEdgeIndex_same _ _).1⟩
      · exact ⟨rfl, rfl⟩
    · exact ⟨rfl, rfl⟩
  refine ⟨hN.1, hN.2, fun y e' hy hne => ?_⟩
  · rw [deletedEdge_find, if_neg, hy]
    intro he
    unfold Obs.edgeFromGid at he
    split at he
    · cases he
    · exact hne (Option.some.inj ((hi.fwd e y he).symm.trans hy)).symm

/-! ### graph views around a father change -/

theorem inE_of_noFather {g : G} {n : Nat} (h : T.hasFather g n = some false) : ∀ y, g.inE n y = none := by
  intro y
  unfold T.hasFather RowQ.nbIn G.rowOf at h
  rcases hf : find n g.nodes with _ | r
  · simp [hf] at h
  · simp only [hf, Option.map_some, Option.some.injEq, decide_eq_false_iff_not] at h
    have : r.inn = [] := List.eq_nil_of_length_eq_zero (by omega)
    simp [G.inE, hf, this, find]

theorem inE_of_father {g : G} {n old : Nat} (h : T.father g n = some old) :
    ∃ e0, ∀ y, g.inE n y = if y = old then some e0 else none := by
  unfold T.father G.inNeighbors RowQ.inNeighbors G.rowOf at h
  rcases hf : find n g.nodes with _ | r
  · simp [hf] at h
  · rcases hr : r.inn with _ | ⟨⟨k, e0⟩, tl⟩
    · simp [hf, hr, AL.keys] at h
    · cases tl with
      | nil =>
        simp only [hf, hr, AL.keys, Option.map_some, List.map_cons, List.map_nil, Option.some.injEq] at h
        subst h
        refine ⟨e0, fun y => ?_⟩
        simp only [G.inE, hf, hr, Option.bind_some, find]
        by_cases hy : y = k
        · subst hy; simp
        · have : ¬ k = y := fun hh => hy hh.symm
          simp [hy, this]
      | cons p tl' => simp [hf, hr, AL.keys] at h

/-- after a successful `link f n` the edge is the one incoming entry of a node `n` that had none -/
theorem G.Linked.inE_only {g g2 : G} {f n u : Nat} (l : G.Linked f n u g g2) (hin : ∀ y, g.inE n y = none) (y : Nat) :
    g2.inE n y = if y = f then some u else none := by
  rw [l.inE, hin y]
  by_cases hy : y = f
  · simp [hy]
  · simp only [hy, and_false, if_false]
    split
    · rename_i hh; exact absurd (hh.2.2.trans hh.2.1) hy
    · rfl

/-- the first phase of `setFatherG`: unlinking the single father, through the edge `e0` to it -/
theorem unlink_father_views {g : G} (hc : Consistent g) {n old : Nat} (hfa : T.father g n = some old) :
    ∃ e0 g1, G.unlink old n g = .ok [e0] g1 ∧ g.outE old n = some e0 ∧ g.hasEdge e0 = true ∧ Consistent g1 ∧
      g1.pending = g.pending ++ [.edges [e0]] ∧ (∀ y, g1.inE n y = none) ∧ (∀ m, g1.hasNode m = g.hasNode m) ∧
      g1.edges = erase e0 g.edges ∧ g1.nextEdge = g.nextEdge := by
  obtain ⟨e0, hin⟩ := inE_of_father hfa
  have hI : g.inE n old = some e0 := by rw [hin]; simp
  have hO := hc.views.in_some hI
  obtain ⟨g1, h1, u⟩ := G.unlink_some hc hO
  refine ⟨e0, g1, h1, hO, (G.cons_out_some hc hO).2.1, u.consistent hc hO, u.pending, ?_, u.hasNode, u.edges, u.rest.2.2.1⟩
  intro y
  rw [u.inE, hin]
  by_cases hy : y = old
  · simp [hy]
  · simp only [hy, and_false, false_or, if_false]
    split <;> rfl

namespace TW

theorem liftW_w {α : Type} (tw : TW) (r : GOut α) : (tw.liftW r).2.w = ({ tw.w with g := r.state } : World).deliver := by
  cases r <;> rfl

theorem liftW_g {α : Type} (tw : TW) (r : GOut α) : (tw.liftW r).2.w.g = { r.state with pending := [] } := by
  cases r <;> rfl

theorem liftW_getObs {α : Type} (tw : TW) (r : GOut α) (k : Nat) :
    (tw.liftW r).2.w.getObs k = (tw.w.getObs k).map (fun o => r.state.pending.foldl Obs.notify o) := by
  rw [liftW_w, getObs_deliver]; rfl

theorem liftW_fst_ok {α : Type} (tw : TW) (r : GOut α) {a : α} {g : G} (h : (tw.liftW r).1 = .ok a g) :
    ∃ g', r = .ok a g' := by
  cases r with
  | ok a' g' =>
    simp only [liftW, World.graphOp] at h
    injection h with h1 _; subst h1; exact ⟨g', rfl⟩
  | exc g' => simp [liftW, World.graphOp] at h

theorem touch_w (r : GOut Unit × TW) : (touch r).2.w = r.2.w := by
  unfold touch; split <;> rfl

theorem touch_fst (r : GOut Unit × TW) : (touch r).1 = r.1 := by
  unfold touch; split <;> rfl

theorem andThen_prop {α β : Type} (P : TW → Prop) (r : GOut α × TW) (f : α → TW → GOut β × TW) (h : P r.2)
    (hf : ∀ a t, P t → P (f a t).2) : P (andThen r f).2 := by
  unfold andThen
  split
  · exact hf _ _ h
  · exact h

theorem liftW_link_winv {tw : TW} (hw : WInv tw.w) (a b : Nat) : WInv (tw.liftW (tw.w.g.link a b)).2.w :=
  (G.link_outcome hw.graph a b).winv hw

theorem liftW_unlink_winv {tw : TW} (hw : WInv tw.w) (a b : Nat) : WInv (tw.liftW (tw.w.g.unlink a b)).2.w :=
  (G.unlink_outcome hw.graph a b).winv hw

/-- `setFatherG` keeps the world in order, whether it succeeds or raises -/
theorem setFatherG_winv {tw : TW} (hw : WInv tw.w) (n f : Nat) : WInv (tw.setFatherG n f).2.w := by
  unfold setFatherG
  split
  · exact hw
  · split
    · exact hw
    · rw [touch_w]
      apply andThen_prop (fun t => WInv t.w)
      · split
        · split
          · exact hw
          · exact liftW_unlink_winv hw _ _
        · exact hw
      · intro _ t ht; exact liftW_link_winv ht _ _

theorem addSonG_winv {tw : TW} (hw : WInv tw.w) (n s : Nat) : WInv (tw.addSonG n s).2.w := by
  unfold addSonG; rw [touch_w]; exact liftW_link_winv hw _ _

/-! ### what a successful `setFatherG` / `addSonG` did -/

/-- the second phase: `link f n` succeeded on a node without incoming entry -/
theorem linkPhase {t1 : TW} (hw : WInv t1.w) (n f : Nat) (hin : ∀ y, t1.w.g.inE n y = none)
    {u : Nat} {gq : G} (h : (t1.liftW (t1.w.g.link f n)).1 = .ok u gq) :
    u = t1.w.g.nextEdge ∧ WInv (t1.liftW (t1.w.g.link f n)).2.w ∧
    (t1.liftW (t1.w.g.link f n)).2.w.g.outE f n = some u ∧
    (∀ y, (t1.liftW (t1.w.g.link f n)).2.w.g.inE n y = if y = f then some u else none) ∧
    (∀ m, (t1.liftW (t1.w.g.link f n)).2.w.g.hasNode m = t1.w.g.hasNode m) ∧
    (∀ e', find e' (t1.liftW (t1.w.g.link f n)).2.w.g.edges = if u = e' then some (f, n) else find e' t1.w.g.edges) ∧
    t1.w.g.hasEdge u = false ∧
    (∀ k, (t1.liftW (t1.w.g.link f n)).2.w.getObs k = t1.w.getObs k) := by
  obtain ⟨g2, hl⟩ := liftW_fst_ok _ _ h
  obtain ⟨_, l⟩ := G.link_ok hw.graph hl
  have hq : g2.pending = [] := by rw [l.rest.2.2.2.2]; exact hw.quiet
  refine ⟨l.fresh, liftW_link_winv hw _ _, ?_, ?_, ?_, ?_, l.absent hw.graph, ?_⟩
  · rw [liftW_g, hl]; exact (l.outE f n).trans (by simp)
  · intro y; rw [liftW_g, hl]; exact l.inE_only hin y
  · intro m; rw [liftW_g, hl]; exact l.hasNode m
  · intro e'; rw [liftW_g, hl]; exact l.find_edges e'
  · intro k
    rw [liftW_getObs, hl]
    simp only [GOut.state, hq, List.foldl_nil]
    cases t1.w.getObs k <;> rfl

/-- what a successful `setFatherG n f` did: the fresh edge `e` is the only incoming entry of `n`,
the node set is unchanged, every observer keeps its node associations and the associations of the
edges that are still there -/
structure FatherSet (tw : TW) (n f e : Nat) (tw1 : TW) : Prop where
  winv : WInv tw1.w
  fresh : tw.w.g.hasEdge e = false
  out : tw1.w.g.outE f n = some e
  inn : ∀ y, tw1.w.g.inE n y = if y = f then some e else none
  hasNode : ∀ m, tw1.w.g.hasNode m = tw.w.g.hasNode m
  live : ∀ e', tw1.w.g.hasEdge e' = true → e' = e ∨ tw.w.g.hasEdge e' = true
  obs : ∀ k o, tw.w.getObs k = some o → ∃ o1, tw1.w.getObs k = some o1 ∧ o1.Ng = o.Ng ∧ o1.gN = o.gN ∧
    ∀ y e', find y o.Eg = some e' → tw1.w.g.hasEdge e' = true → find y o1.Eg = some e'

/-- a successful `addSonG n s` on a node `s` without incoming entry; the observers are not told anything -/
theorem addSonG_ok {tw : TW} (hw : WInv tw.w) {n s : Nat} (hin : ∀ y, tw.w.g.inE s y = none) {u : Unit} {gq : G}
    (h : (tw.addSonG n s).1 = .ok u gq) :
    FatherSet tw s n tw.w.g.nextEdge (tw.addSonG n s).2 ∧ ∀ k, (tw.addSonG n s).2.w.getObs k = tw.w.getObs k := by
  unfold addSonG at h ⊢
  rw [touch_fst] at h
  rcases hr : (tw.liftW (tw.w.g.link n s)).1 with ⟨e, g'⟩ | g'
  · obtain ⟨hu, hw2, hO, hI, hN, hE, hfresh, hobs⟩ := linkPhase hw s n hin hr
    subst hu
    have hobs' : ∀ k, (touch (unit (tw.liftW (tw.w.g.link n s)))).2.w.getObs k = tw.w.getObs k := fun k => by
      rw [touch_w]; exact hobs k
    refine ⟨⟨by rw [touch_w]; exact hw2, hfresh, by rw [touch_w]; exact hO, by rw [touch_w]; exact hI,
      by rw [touch_w]; exact hN, fun e' he' => ?_, fun k o hk => ⟨o, (hobs' k).trans hk, rfl, rfl, fun _ _ hy _ => hy⟩⟩, hobs'⟩
    rw [touch_w] at he'
    have he'' : (find e' (tw.liftW (tw.w.g.link n s)).2.w.g.edges).isSome = true := he'
    rw [hE e'] at he''
    show _ ∨ (find e' tw.w.g.edges).isSome = true
    by_cases hu : tw.w.g.nextEdge = e'
    · exact .inl hu.symm
    · rw [if_neg hu] at he''; exact .inr he''
  · simp [unit, hr, GOut.forget] at h

/-- **`setFatherG` is `addSonG` after the father, if any, has been unlinked**: the container `t1` in between has the
nodes and the edge counter of before, `n` has no incoming entry in it, and its observers are the former ones
(no father) or have been told that the edge `e0` to the former father is gone -/
theorem setFatherG_eq {tw : TW} (hw : WInv tw.w) {n f : Nat} (hf : tw.w.g.hasNode f = true) {b : Bool}
    (hhf : T.hasFather tw.w.g n = some b) (hfa : b = true → ∃ old, T.father tw.w.g n = some old) :
    ∃ t1 : TW, tw.setFatherG n f = t1.addSonG f n ∧ WInv t1.w ∧ (∀ y, t1.w.g.inE n y = none) ∧
      (∀ m, t1.w.g.hasNode m = tw.w.g.hasNode m) ∧ t1.w.g.nextEdge = tw.w.g.nextEdge ∧
      ((T.edgeToFather tw.w.g n = none ∧ t1 = tw) ∨
        ∃ e0, T.edgeToFather tw.w.g n = some e0 ∧ tw.w.g.hasEdge e0 = true ∧ t1.w.g.edges = erase e0 tw.w.g.edges ∧
          ∀ k o, tw.w.getObs k = some o → t1.w.getObs k = some (o.deletedEdge e0)) := by
  cases b with
  | false =>
    refine ⟨tw, by simp [setFatherG, addSonG, hf, hhf, andThen], hw, inE_of_noFather hhf, fun _ => rfl, rfl, .inl ⟨?_, rfl⟩⟩
    cases hfa' : T.father tw.w.g n with
    | none => rw [T.edgeToFather, hfa']; rfl
    | some old =>
      obtain ⟨e0, hin⟩ := inE_of_father hfa'
      have := inE_of_noFather hhf old
      rw [hin, if_pos rfl] at this; cases this
  | true =>
    obtain ⟨old, hfa⟩ := hfa rfl
    obtain ⟨e0, g1, h1, hO0, he0, hc1, hp1, hin1, hN1, hE1, hne1⟩ := unlink_father_views hw.graph hfa
    have hg1 : (tw.liftW (tw.w.g.unlink old n)).2.w.g = { g1 with pending := [] } := by rw [liftW_g, h1]; rfl
    refine ⟨(tw.liftW (tw.w.g.unlink old n)).2, ?_, liftW_unlink_winv hw _ _, fun y => by rw [hg1]; exact hin1 y,
      fun m => by rw [hg1]; exact hN1 m, by rw [hg1]; exact hne1, .inr ⟨e0, ?_, he0, by rw [hg1]; exact hE1, fun k o hk => ?_⟩⟩
    · have hfst : (unit (tw.liftW (tw.w.g.unlink old n))).1 = .ok () { g1 with pending := [] } := by
        simp [unit, liftW, World.graphOp, h1, GOut.forget]
      have heq : tw.setFatherG n f = touch (andThen (unit (tw.liftW (tw.w.g.unlink old n)))
          (fun _ t1 => unit (t1.liftW (t1.w.g.link f n)))) := by
        simp [setFatherG, hf, hhf, hfa]
      rw [heq, andThen, hfst]; rfl
    · simp [T.edgeToFather, hfa, G.getEdge, hO0]
    · rw [liftW_getObs, hk, h1]
      simp [GOut.state, hp1, hw.quiet, Obs.notify]

theorem setFatherG_ok {tw : TW} (hw : WInv tw.w) {n f : Nat} {u : Unit} {gq : G}
    (h : (tw.setFatherG n f).1 = .ok u gq) : FatherSet tw n f tw.w.g.nextEdge (tw.setFatherG n f).2 := by
  cases hnf : tw.w.g.hasNode f
  · simp [setFatherG, hnf] at h
  rcases hhf : T.hasFather tw.w.g n with _ | b
  · simp [setFatherG, hnf, hhf] at h
  obtain ⟨t1, heq, hw1, hin1, hN1, hne1, hst⟩ := setFatherG_eq hw hnf hhf (fun hb => by
    rcases hfa : T.father tw.w.g n with _ | old
    · simp [setFatherG, hnf, hhf, hb, hfa, andThen, touch] at h
    · exact ⟨old, rfl⟩)
  rw [heq] at h ⊢
  obtain ⟨fs, hobs⟩ := addSonG_ok hw1 hin1 h
  rw [hne1] at fs
  have hfresh : tw.w.g.hasEdge tw.w.g.nextEdge = false := by
    simp [G.hasEdge, has, G.fresh_edge hw.graph (Nat.le_refl tw.w.g.nextEdge)]
  rcases hst with ⟨_, rfl⟩ | ⟨e0, _, he0, hE1, hobs1⟩
  · exact ⟨fs.winv, hfresh, fs.out, fs.inn, fs.hasNode, fs.live, fs.obs⟩
  · -- an edge of the container in between is an edge of before other than `e0`
    have hsub : ∀ e', t1.w.g.hasEdge e' = true → e' ≠ e0 ∧ tw.w.g.hasEdge e' = true := by
      intro e' he'
      rw [G.hasEdge, has, hE1, find_erase] at he'
      by_cases hee : e0 = e'
      · rw [if_pos hee] at he'; cases he'
      · rw [if_neg hee] at he'; exact ⟨fun e => hee e.symm, he'⟩
    refine ⟨fs.winv, hfresh, fs.out, fs.inn, fun m => (fs.hasNode m).trans (hN1 m),
      fun e' he' => (fs.live e' he').imp id (fun h1 => (hsub e' h1).2), fun k o hk => ?_⟩
    obtain ⟨k1, k2, k3⟩ := deletedEdge_keeps (hw.obs k o hk).edges e0
    refine ⟨o.deletedEdge e0, (hobs k).trans (hobs1 k o hk), k1, k2, fun y e' hy hlive => k3 y e' hy ?_⟩
    rcases fs.live e' hlive with rfl | h1
    · exact fun e => by rw [← e, hfresh] at he0; cases he0
    · exact (hsub e' h1).1

/-! ### the object-level `setFather` -/

theorem ofG_ok {r : GOut Unit × TW} {t : TW} (h : ofG r = (.ok, t)) : t = r.2 ∧ ∃ u g, r.1 = .ok u g := by
  unfold ofG at h
  split at h
  · rename_i u g hr
    injection h with _ h2
    exact ⟨h2.symm, u, g, hr⟩
  · injection h with h1 _; cases h1

/-- what a successful `setFather(node, father, edgeObject)` went through -/
theorem setFather_ok_inv {tw tw' : TW} {k : Nat} {a f x : Obj} (h : tw.setFather k a f (some x) = (.ok, tw')) :
    ∃ o ia ifa u gq e o1 o2, tw.w.getObs k = some o ∧ find a o.Ng = some ia ∧ find f o.Ng = some ifa ∧
      (tw.setFatherG ia ifa).1 = .ok u gq ∧
      (tw.setFatherG ia ifa).2.w.g.getEdge ifa ia = some e ∧ (tw.setFatherG ia ifa).2.w.getObs k = some o1 ∧
      World.associateEdge (tw.setFatherG ia ifa).2.w.g o1 x e = .ok o2 ∧
      tw' = { (tw.setFatherG ia ifa).2 with w := (tw.setFatherG ia ifa).2.w.setObs k o2 } := by
  unfold setFather at h
  rcases hk : tw.w.getObs k with _ | o
  · simp [hk] at h
  rcases ha : find a o.Ng with _ | ia
  · simp [hk, ha] at h
  rcases hf : find f o.Ng with _ | ifa
  · simp [hk, ha, hf] at h
  simp only [hk, ha, hf] at h
  split at h
  · simp at h
  · simp at h
  · rcases hr : ofG (tw.setFatherG ia ifa) with ⟨res, tw1⟩
    rw [hr] at h
    cases res with
    | ok =>
      obtain ⟨ht, u, gq, hfst⟩ := ofG_ok hr
      subst ht
      simp only at h
      split at h
      · rename_i e o1 he ho1
        split at h
        · rename_i o2 hass
          injection h with _ h2
          exact ⟨o, ia, ifa, u, gq, e, o1, o2, rfl, ha, hf, hfst, he, ho1, hass, h2.symm⟩
        · injection h with h1 _; cases h1
      · injection h with h1 _; cases h1
      · injection h with h1 _; cases h1
    | exc kd => simp at h
    | ub => simp at h

theorem father_of_inE {g : G} (hc : Consistent g) {n f e : Nat}
    (hin : ∀ y, g.inE n y = if y = f then some e else none) : T.father g n = some f := by
  have hI : g.inE n f = some e := by rw [hin]; simp
  have hn := G.inE_some_hasNode hI
  obtain ⟨r, hr⟩ := (G.hasNode_iff g n).mp hn
  have hrow : r.inn = [(f, e)] := by
    apply asc_ext (hc.sorted.rows n r hr).2 (by simp [Asc, AL.keys])
    intro k
    have := hin k
    simp only [G.inE, hr, Option.bind_some] at this
    rw [this]
    simp only [find]
    by_cases hk : k = f
    · subst hk; simp
    · have : ¬ f = k := fun hh => hk hh.symm
      simp [hk, this]
  simp [T.father, G.inNeighbors, RowQ.inNeighbors, G.rowOf, hr, hrow, AL.keys]

theorem associateEdge_ok {g : G} {o o2 : Obs} {x e : Nat} (h : World.associateEdge g o x e = .ok o2) :
    o2.Ng = o.Ng ∧ o2.gN = o.gN ∧ o2.edgeFromGid e = some x ∧ (∀ y, find y o2.Eg = if x = y then some e else find y o.Eg) := by
  unfold World.associateEdge at h
  split at h; · cases h
  split at h; · cases h
  split at h; · cases h
  injection h with h; subst h
  exact ⟨rfl, rfl, edgeFromGid_put o e x _, fun y => find_set _ _ _ _⟩

/-- what a successful `setFather(node a, father f, edgeObject x)` through observer `k` did -/
theorem setFather_ok_spec {tw tw' : TW} {k : Nat} {a f x : Obj} (hw : WInv tw.w)
    (h : tw.setFather k a f (some x) = (.ok, tw')) :
    ∃ o o' ia ifa e, tw.w.getObs k = some o ∧ tw'.w.getObs k = some o' ∧ find a o.Ng = some ia ∧ find f o.Ng = some ifa ∧
      o'.Ng = o.Ng ∧ WInv tw'.w ∧ tw'.w.g.getEdge ifa ia = some e ∧ T.father tw'.w.g ia = some ifa ∧
      o'.edgeFromGid e = some x ∧ find x o'.Eg = some e ∧
      (∀ y e', y ≠ x → find y o.Eg = some e' → tw'.w.g.hasEdge e' = true → find y o'.Eg = some e') := by
  obtain ⟨o, ia, ifa, u, gq, e, o1, o2, hk, ha, hf, hfst, he, ho1, hass, htw'⟩ := setFather_ok_inv h
  have fs := setFatherG_ok hw hfst
  obtain ⟨o1', ho1', hNg, _, hkeep⟩ := fs.obs k o hk
  rw [ho1] at ho1'; injection ho1' with ho1'; subst ho1'
  obtain ⟨a1, a2, a3, a4⟩ := associateEdge_ok hass
  have hlt := getObs_lt ho1
  have hw' : WInv tw'.w := by
    rw [htw']
    exact winv_same_graph fs.winv k o2 hlt (associateEdge_inv (fs.winv.obs k o1 ho1) hass)
  have hg : tw'.w.g = (tw.setFatherG ia ifa).2.w.g := by rw [htw']; rfl
  refine ⟨o, o2, ia, ifa, e, hk, ?_, ha, hf, a1.trans hNg, hw', by rw [hg]; exact he, ?_, a3, by rw [a4]; simp, ?_⟩
  · rw [htw']; show ((tw.setFatherG ia ifa).2.w.setObs k o2).getObs k = _
    rw [getObs_setObs _ _ _ _ hlt]; simp
  · rw [hg]; exact father_of_inE fs.winv.graph fs.inn
  · intro y e' hy hye hlive
    rw [a4, if_neg (fun hh => hy hh.symm)]
    rw [hg] at hlive
    exact hkeep y e' hye hlive

/-! ### `link` / `addSon` with an edge object -/

theorem ofO_ok {tw tw' : TW} {r : OOut Unit} {b : Bool} (h : tw.ofO r b = (.ok, tw')) : ∃ u, r = .ok u tw'.w := by
  unfold ofO at h
  split at h
  · injection h with _ h; subst h; exact ⟨_, rfl⟩
  · injection h with h _; cases h
  · injection h with h _; cases h

/-! ### refusal of an object that sits on another branch -/

theorem edgeFromGid_of_find {o : Obs} (hi : Inverse o.gE o.Eg) {x e : Nat} (h : find x o.Eg = some e) :
    o.edgeFromGid e = some x := by
  have hg := hi.bwd x e h
  have hlt := Vec.get_eq_some_lt hg
  simp only [Obs.edgeFromGid, ge_iff_le]
  rw [if_neg (by omega)]; exact hg

theorem nodeFromGid_of_find {o : Obs} (hi : Inverse o.gN o.Ng) {a id : Nat} (h : find a o.Ng = some id) :
    o.nodeFromGid id = some a := by
  have hg := hi.bwd a id h
  have hlt := Vec.get_eq_some_lt hg
  simp only [Obs.nodeFromGid, ge_iff_le]
  rw [if_neg (by omega)]; exact hg

theorem setFather_refused {tw : TW} {k : Nat} {a f x : Obj} {o : Obs} {ex : Nat} (hk : tw.w.getObs k = some o)
    (hx : find x o.Eg = some ex) (hne : ∀ ia, find a o.Ng = some ia → T.edgeToFather tw.w.g ia ≠ some ex) :
    tw.setFather k a f (some x) = (.exc .bpp, tw) := by
  unfold setFather
  simp only [hk]
  rcases ha : find a o.Ng with _ | ia
  · rfl
  rcases hf : find f o.Ng with _ | ifa
  · rfl
  simp only [hx]
  rcases T.hasFather tw.w.g ia with _ | b
  · rfl
  cases b
  · rfl
  have := hne ia ha
  rcases he : T.edgeToFather tw.w.g ia with _ | ef
  · rfl
  · have hh : ef ≠ ex := by intro hh; rw [he, hh] at this; exact this rfl
    simp [hh]

end TW

/-! ### re-rooting keeps every node and edge id -/

/-- an operation that tells about everything it deletes and tells nothing deletes nothing -/
theorem Notified.superset {g g' : G} (hn : Notified g g') (hp : g'.pending = g.pending) :
    (∀ n, g.hasNode n = true → g'.hasNode n = true) ∧ (∀ e, g.hasEdge e = true → g'.hasEdge e = true) := by
  obtain ⟨evs, hpe, hnn, hne⟩ := hn
  have : evs = [] := by
    rw [hp] at hpe
    exact List.self_eq_append_right.mp hpe
  subst this
  constructor
  · intro n h
    cases h' : g'.hasNode n
    · have := hnn n h h'; simp [notifiedNodes] at this
    · rfl
  · intro e h
    cases h' : g'.hasEdge e
    · have := hne e h h'; simp [notifiedEdges] at this
    · rfl

theorem state_consistent_of_all {α : Type} {r : GOut α} (h : r.All Consistent) : Consistent r.state := h.state

/-- a graph of the same shape in the place of the graph of a world in order -/
theorem winv_sameShape {w : World} (hw : WInv w) {g' : G} (hc' : Consistent g') (hs : SameShape w.g g') :
    WInv { w with g := g' } :=
  winv_graph_grow hw hc' hs.pending (fun n hn => by rw [hs.hasNode]; exact hn) (fun e he => by rw [hs.hasEdge]; exact he)

namespace TW

/-! ### the invariant of the observed tree container over one operation -/

/-- the cached flag is sound: when set, the traversal answers true on the current graph -/
def Sound (tw : TW) : Prop := Bpp.C15.CacheSound tw.toT

theorem sound_of_false {tw : TW} (h : tw.valid = false) : Sound tw := by
  intro hv; rw [show tw.toT.valid = tw.valid from rfl, h] at hv; cases hv

/-- world in order and cache sound -/
structure Inv (tw : TW) : Prop where
  winv : WInv tw.w
  sound : Sound tw

theorem inv_init (d : Bool) (hw : WInv (World.init d)) : Inv (TW.init d) := ⟨hw, sound_of_false rfl⟩

theorem liftW_toT {α : Type} (tw : TW) (r : GOut α) : (tw.liftW r).2.toT = (tw.toT.lift r).2 := by
  cases r <;> rfl

theorem liftW_inv {α : Type} {tw : TW} (hi : Inv tw) {s : Option (α × Spec)} {r : GOut α} (ho : G.Outcome tw.w.g s r) :
    Inv (tw.liftW r).2 :=
  ⟨ho.winv hi.winv, by unfold Sound; rw [liftW_toT]; exact Bpp.C15.cacheSound_lift _ hi.sound r⟩

theorem touch_inv {r : GOut Unit × TW} (hi : Inv r.2) : Inv (touch r).2 := by
  unfold touch
  split
  · exact ⟨hi.winv, sound_of_false rfl⟩
  · exact hi

theorem ofG_snd (r : GOut Unit × TW) : (ofG r).2 = r.2 := by
  unfold ofG; split <;> rfl

/-- an operation of the base observer that resets the flag -/
theorem ofO_inv {tw : TW} (hi : Inv tw) {r : OOut Unit} (h : r.All WInv) : Inv (tw.ofO r true).2 := by
  unfold ofO
  cases r with
  | ok u w' => exact ⟨h, sound_of_false rfl⟩
  | exc kd w' =>
    refine ⟨h, ?_⟩
    by_cases hg : w'.g = tw.w.g
    · intro hv
      have hv' : tw.valid = true := by simpa [toT, hg] using hv
      have := hi.sound hv'
      show T.isTree w'.g = _
      rw [hg]; exact this
    · exact sound_of_false (by simp [hg])
  | ub => exact hi

theorem isValid_inv {tw : TW} (hi : Inv tw) : Inv tw.isValid.2 := by
  refine ⟨hi.winv, ?_⟩
  have h := Bpp.C15.cacheSound_isValid tw.toT hi.sound
  intro hv
  have := h hv
  rw [T.isValid_g] at this; exact this

/-- `rootAt` through an object either changes nothing or is the `rootAt` of the tree container inside -/
theorem rootAt_ok {tw : TW} {k : Nat} {a : Obj} {r : WRes × TW} (h : tw.rootAt k a = .ok r) :
    r.2 = tw ∨ ∃ ia r', tw.toT.rootAt ia = .ok r' ∧ r.2 = { w := { tw.w with g := r'.2.g }, valid := r'.2.valid } := by
  unfold rootAt at h
  split at h
  · cases h; exact .inl rfl
  · split at h
    · cases h; exact .inl rfl
    · rename_i ia _
      split at h
      · rename_i r' hr'; cases h; exact .inr ⟨ia, r', hr', rfl⟩
      all_goals cases h

theorem rootAt_obs {tw : TW} {k : Nat} {a : Obj} {r : WRes × TW} (h : tw.rootAt k a = .ok r) : r.2.w.obs = tw.w.obs := by
  rcases rootAt_ok h with e | ⟨_, _, _, e⟩ <;> rw [e]

/-- re-rooting keeps the world in order (no hypothesis on the cache) -/
theorem rootAt_winv {tw : TW} (hw : WInv tw.w) {k : Nat} {a : Obj} {r : WRes × TW} (h : tw.rootAt k a = .ok r) : WInv r.2.w := by
  rcases rootAt_ok h with e | ⟨ia, r', hr', e⟩ <;> rw [e]
  · exact hw
  · obtain ⟨hc', hs⟩ := T.rootAt_shape tw.toT hw.graph hw.quiet ia r' hr'
    exact winv_sameShape hw hc' hs

theorem rootAt_inv {tw : TW} (hi : Inv tw) {k : Nat} {a : Obj} {r : WRes × TW} (h : tw.rootAt k a = .ok r) : Inv r.2 := by
  refine ⟨rootAt_winv hi.winv h, ?_⟩
  rcases rootAt_ok h with e | ⟨ia, r', hr', e⟩ <;> rw [e]
  · exact hi.sound
  · exact Bpp.C15.cacheSound_rootAt tw.toT hi.sound ia r' hr'

/-- a property of the observed container kept by what its members are made of: a graph operation with the
notifications delivered (`liftW`), a reset of the flag, a member of the base observer, the attachment of an edge
object, `rootAt`, `isValid` -/
structure Closed (P : TW → Prop) : Prop where
  liftW : ∀ (tw : TW) {α : Type} {s : Option (α × Spec)} (r : GOut α), P tw → (WInv tw.w → G.Outcome tw.w.g s r) →
    P (tw.liftW r).2
  reset : ∀ tw : TW, P tw → P { tw with valid := false }
  ofO : ∀ (tw : TW) (r : OOut Unit), P tw → r.All (World.Step tw.w) → P (tw.ofO r true).2
  setObs : ∀ (tw : TW) (k : Nat) (o1 o2 : Obs) (x e : Nat), P tw → tw.w.getObs k = some o1 →
    World.associateEdge tw.w.g o1 x e = .ok o2 → P { tw with w := tw.w.setObs k o2 }
  rootAt : ∀ (tw : TW) (k : Nat) (a : Obj) (r : WRes × TW), P tw → tw.rootAt k a = .ok r → P r.2
  isValid : ∀ tw : TW, P tw → P tw.isValid.2

namespace Closed
variable {P : TW → Prop}

theorem link (hc : Closed P) (tw : TW) (a b : Nat) (h : P tw) : P (tw.liftW (tw.w.g.link a b)).2 :=
  hc.liftW tw _ h (fun hw => G.link_outcome hw.graph a b)

theorem unlink (hc : Closed P) (tw : TW) (a b : Nat) (h : P tw) : P (tw.liftW (tw.w.g.unlink a b)).2 :=
  hc.liftW tw _ h (fun hw => G.unlink_outcome hw.graph a b)

theorem touch (hc : Closed P) (r : GOut Unit × TW) (h : P r.2) : P (touch r).2 := by
  unfold TW.touch
  split
  · exact hc.reset _ h
  · exact h

theorem setFatherG (hc : Closed P) (tw : TW) (n f : Nat) (h : P tw) : P (tw.setFatherG n f).2 := by
  unfold TW.setFatherG
  split
  · exact h
  · split
    · exact h
    · refine hc.touch _ (andThen_prop P _ _ ?_ (fun _ t ht => hc.link t _ _ ht))
      split
      · split
        · exact h
        · exact hc.unlink tw _ _ h
      · exact h

/-- every member of `TWOp` -/
theorem step (hc : Closed P) {tw : TW} (h : P tw) (op : TWOp) : P (tw.step op) := by
  have hlink : ∀ k a b x, P (tw.ofO (tw.w.link k a b x) true).2 := fun k a b x =>
    hc.ofO tw _ h (world_link_step tw.w k a b x)
  cases op with
  | createNode k a => exact hc.ofO tw _ h (world_createNode_step tw.w k a)
  | link k a b x => exact hlink k a b x
  | unlink k a b => exact hc.ofO tw _ h (world_unlink_step tw.w k a b)
  | deleteNode k a => exact hc.ofO tw _ h (world_deleteNode_step tw.w k a)
  | addSon k a s x =>
    show P (tw.addSon k a s x).2
    unfold TW.addSon
    cases x with
    | some x => exact hlink k a s _
    | none =>
      dsimp only
      split
      · exact h
      · split
        · rw [ofG_snd]; exact hc.touch _ (hc.link tw _ _ h)
        · exact h
  | setFather k a f x =>
    show P (tw.setFather k a f x).2
    unfold TW.setFather
    split
    · exact h
    · split
      · rename_i ia ifa _ _
        have h1 := hc.setFatherG tw ia ifa h
        cases x with
        | none => dsimp only; rw [ofG_snd]; exact h1
        | some x =>
          dsimp only
          split
          · exact h
          · exact h
          · rw [← ofG_snd] at h1
            generalize ofG (tw.setFatherG ia ifa) = p at h1
            obtain ⟨res, tw1⟩ := p
            cases res with
            | ok =>
              dsimp only
              split
              · rename_i e o1 he ho1
                split
                · rename_i o2 hass; exact hc.setObs tw1 k o1 o2 x e h1 ho1 hass
                · exact h1
              · exact h1
              · exact h1
            | exc kd => exact h1
            | ub => exact h1
      · exact h
  | rootAt k a =>
    show P (match tw.rootAt k a with | .ok r => r.2 | _ => tw)
    split
    · rename_i r hr; exact hc.rootAt tw k a r h hr
    · exact h
  | isValid => exact hc.isValid tw h

end Closed

theorem inv_closed : Closed Inv where
  liftW _ _ _ _ h hr := liftW_inv h (hr h.winv)
  reset _ h := ⟨h.winv, sound_of_false rfl⟩
  ofO _ _ h hr := ofO_inv h (hr.inv h.winv)
  setObs _ k o1 o2 _ _ h ho1 hass :=
    ⟨winv_same_graph h.winv k o2 (getObs_lt ho1) (associateEdge_inv (h.winv.obs k o1 ho1) hass), h.sound⟩
  rootAt _ _ _ _ h hr := rootAt_inv h hr
  isValid _ h := isValid_inv h

theorem step_inv {tw : TW} (hi : Inv tw) (op : TWOp) : Inv (tw.step op) := inv_closed.step hi op

theorem run_inv (ops : List TWOp) : ∀ tw : TW, Inv tw → Inv (tw.run ops) :=
  foldl_ind Inv step (fun _ op hi => step_inv hi op) ops

end TW
end Graph
end Bpp
