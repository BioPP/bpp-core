import BppProofs.Lemmas.LapFullInit
/-! Helper lemmas for C04 (`lap`, the whole routine): the augmenting row reduction keeps the
invariant, never leaves the vectors, and (with the cut of the repaired text) stops after at most
`prev * n + prev` row scans. -/
namespace Bpp.Mx.Lap
open Bpp Bpp.Mx

/-- `sc` holds the two smallest reduced costs of row `i` among the columns `< m` (the first minimum, and the
first minimum of the others) -/
structure Scan2Post (m : Nat) (c : Nat → Nat → ℝ) (v : Nat → ℝ) (i : Nat) (sc : Scan2 ℝ) : Prop where
  j1lt : sc.j1 < m
  umin : sc.uMin = c i sc.j1 - v sc.j1
  minle : ∀ j, j < m → sc.uMin ≤ c i j - v j
  sub : (m = 1 ∧ sc.uSub = none) ∨ ∃ us j2, sc.uSub = some us ∧ sc.j2 = some j2 ∧ j2 < m ∧ j2 ≠ sc.j1 ∧
    us = c i j2 - v j2 ∧ (∀ j, j < m → j ≠ sc.j1 → us ≤ c i j - v j) ∧ sc.uMin ≤ us

theorem Scan2Post.step {c : Nat → Nat → ℝ} {v : Nat → ℝ} {i t : Nat} {sc : Scan2 ℝ} (h : Scan2Post (t + 1) c v i sc) :
    Scan2Post (t + 2) c v i (scan2Step c v i sc t) := by
  have hj1 := h.j1lt
  -- a column below the subminimum is below every column but the minimal one
  have hlow : ltExt (c i (t + 1) - v (t + 1)) sc.uSub = true → ∀ j, j < t + 1 → j ≠ sc.j1 →
      c i (t + 1) - v (t + 1) ≤ c i j - v j := by
    intro hl j hj hne
    rcases h.sub with ⟨h1, _⟩ | ⟨us, j2, e1, _, _, _, _, e6, _⟩
    · omega
    · rw [e1] at hl; exact ((ltExt_some _ _).1 hl).le.trans (e6 j hj hne)
  have hlast : ∀ j, j < t + 2 → ¬ j < t + 1 → j = t + 1 := fun j h1 h2 => by omega
  unfold scan2Step
  dsimp only
  by_cases hl : ltExt (c i (t + 1) - v (t + 1)) sc.uSub = true
  · rw [if_pos hl]
    by_cases hge : sc.uMin ≤ c i (t + 1) - v (t + 1)
    · rw [if_pos ((ScalarReal.geb_iff _ _).2 hge)]
      refine ⟨Nat.lt_succ_of_lt hj1, h.umin, fun j hj => ?_,
        Or.inr ⟨_, t + 1, rfl, rfl, Nat.lt_succ_self _, fun e => by dsimp only at e; omega, rfl, fun j hj hne => ?_, hge⟩⟩
      · by_cases hjt : j < t + 1
        · exact h.minle j hjt
        · rw [hlast j hj hjt]; exact hge
      · by_cases hjt : j < t + 1
        · exact hlow hl j hjt hne
        · rw [hlast j hj hjt]
    · rw [if_neg (fun e => hge ((ScalarReal.geb_iff _ _).1 e))]
      have hlt := (not_le.mp hge).le
      refine ⟨Nat.lt_succ_self _, rfl, fun j hj => ?_,
        Or.inr ⟨sc.uMin, sc.j1, rfl, rfl, Nat.lt_succ_of_lt hj1, fun e => by dsimp only at e; omega, h.umin,
          fun j hj hne => h.minle j (by dsimp only at hne; omega), hlt⟩⟩
      dsimp only
      by_cases hjt : j < t + 1
      · exact hlt.trans (h.minle j hjt)
      · rw [hlast j hj hjt]
  · rw [if_neg hl]
    rcases h.sub with ⟨_, e⟩ | ⟨us, j2, e1, e2, e3, e4, e5, e6, e7⟩
    · rw [e] at hl; exact absurd rfl hl
    · have hle : us ≤ c i (t + 1) - v (t + 1) := by
        rw [e1] at hl; exact not_lt.mp (fun e => hl ((ltExt_some _ _).2 e))
      refine ⟨Nat.lt_succ_of_lt hj1, h.umin, fun j hj => ?_,
        Or.inr ⟨us, j2, e1, e2, Nat.lt_succ_of_lt e3, e4, e5, fun j hj hne => ?_, e7⟩⟩
      · by_cases hjt : j < t + 1
        · exact h.minle j hjt
        · rw [hlast j hj hjt]; exact e7.trans hle
      · by_cases hjt : j < t + 1
        · exact e6 j hjt hne
        · rw [hlast j hj hjt]; exact hle

theorem scan2_spec (n : Nat) (hn : 1 ≤ n) (c : Nat → Nat → ℝ) (v : Nat → ℝ) (i : Nat) (j2 : Option Nat) :
    Scan2Post n c v i (scan2 n c v i j2) := by
  have key := foldl_range_inv (fun t sc => Scan2Post (t + 1) c v i sc) (n - 1) (scan2Step c v i)
    { uMin := c i 0 - v 0, j1 := 0, uSub := none, j2 := some 0 }
    ⟨Nat.one_pos, rfl, fun j hj => by rw [Nat.lt_one_iff.mp hj], Or.inl ⟨rfl, rfl⟩⟩ (fun t sc _ h => h.step)
  rwa [Nat.sub_add_cancel hn] at key

/-- the indices of `free` that hold a free row during a sweep: the new list `0..nf-1` and the rows
still to be scanned `k..prev-1` -/
def IA (nf k prev : Nat) : Nat → Prop := fun t => t < nf ∨ (k ≤ t ∧ t < prev)

theorem InjOnI.mono {free : Nat → Nat} {I J : Nat → Prop} (hinj : InjOnI free I) (hJ : ∀ t, J t → I t) : InjOnI free J :=
  fun t t' ht ht' he => hinj t t' (hJ t ht) (hJ t' ht') he

/-- an index leaves the list: its row, listed nowhere else, leaves the set -/
theorem FL_remove {free : Nat → Nat} {I J : Nat → Prop} {p : Nat} (hinj : InjOnI free I) (hp : I p)
    (hJ : ∀ t, J t ↔ I t ∧ t ≠ p) (x : Nat) : FL free J x ↔ FL free I x ∧ x ≠ free p := by
  constructor
  · rintro ⟨t, ht, hx⟩
    obtain ⟨hIt, htp⟩ := (hJ t).1 ht
    exact ⟨⟨t, hIt, hx⟩, fun e => htp (hinj t p hIt hp (hx.trans e))⟩
  · rintro ⟨⟨t, ht, hx⟩, hne⟩
    exact ⟨t, (hJ t).2 ⟨ht, fun e => hne (by rw [← hx, e])⟩, hx⟩

theorem FL_replace {free : Nat → Nat} {I' J : Nat → Prop} {p x0 : Nat} (hp : ¬ I' p) (hJ : ∀ t, J t ↔ I' t ∨ t = p) (x : Nat) :
    FL (upd free p x0) J x ↔ FL free I' x ∨ x = x0 := by
  constructor
  · rintro ⟨t, ht, hx⟩
    rcases (hJ t).1 ht with h | h
    · have : t ≠ p := fun e => hp (e ▸ h)
      rw [upd_ne _ _ this] at hx
      exact Or.inl ⟨t, h, hx⟩
    · subst h; rw [upd_same] at hx; exact Or.inr hx.symm
  · rintro (⟨t, ht, hx⟩ | hx)
    · have : t ≠ p := fun e => hp (e ▸ ht)
      exact ⟨t, (hJ t).2 (Or.inl ht), by rw [upd_ne _ _ this]; exact hx⟩
    · exact ⟨p, (hJ p).2 (Or.inr rfl), by rw [upd_same]; exact hx.symm⟩

theorem Inj_replace {free : Nat → Nat} {I' J : Nat → Prop} {p x0 : Nat} (hinj : InjOnI free I') (hp : ¬ I' p)
    (hJ : ∀ t, J t ↔ I' t ∨ t = p) (hx0 : ¬ FL free I' x0) : InjOnI (upd free p x0) J := by
  intro t t' ht ht' he
  rcases (hJ t).1 ht with h | h <;> rcases (hJ t').1 ht' with h' | h'
  · have h1 : t ≠ p := fun e => hp (e ▸ h)
    have h2 : t' ≠ p := fun e => hp (e ▸ h')
    rw [upd_ne _ _ h1, upd_ne _ _ h2] at he
    exact hinj t t' h h' he
  · subst h'
    have h1 : t ≠ t' := fun e => hp (e ▸ h)
    rw [upd_ne _ _ h1, upd_same] at he
    exact absurd ⟨t, h, he⟩ hx0
  · subst h
    have h2 : t' ≠ t := fun e => hp (e ▸ h')
    rw [upd_ne _ _ h2, upd_same] at he
    exact absurd ⟨t', h', he.symm⟩ hx0
  · omega

/-- invariant of `while (k < previousNumFree)` -/
structure ArrInv (n : Nat) (c : Nat → Nat → ℝ) (s : Arr ℝ) : Prop where
  inv : Inv n c s.rowSol s.colSol s.v (FL s.free (IA s.numFree s.k s.prev))
  inj : InjOnI s.free (IA s.numFree s.k s.prev)
  nfk : s.numFree ≤ s.k
  kp : s.k ≤ s.prev
  pn : s.prev ≤ n
  n2 : s.prev = 0 ∨ 2 ≤ n

theorem arrStep_good (n : Nat) (hn : n < 32768) (c : Nat → Nat → ℝ) (cut : Nat → Nat → Bool) (s : Arr ℝ) (h : ArrInv n c s) (hk : s.k < s.prev) :
    ∃ s', arrStep n c cut s = .ok s' ∧ ArrInv n c s' ∧ s'.prev = s.prev ∧ s'.cnt = s.cnt + 1 ∧
      (s'.k = s.k + 1 ∨ (s'.k = s.k ∧ cut (s.cnt + 1) (s.k + 1) = true)) := by
  have hkn : s.k < n := by have := h.pn; omega
  have hn2 : 2 ≤ n := by rcases h.n2 with h0 | h2; omega; exact h2
  have hFi : FL s.free (IA s.numFree s.k s.prev) (s.free s.k) := ⟨s.k, Or.inr ⟨Nat.le_refl _, hk⟩, rfl⟩
  obtain ⟨hi, hfree⟩ := h.inv.freeOk _ hFi
  have hsc := scan2_spec n (by omega) c s.v (s.free s.k) s.j2
  obtain ⟨us, j2', e1, e2, hj2, hj2ne, hus, hsub, hminle⟩ : ∃ us j2, _ := hsc.sub.resolve_left (fun h => by omega)
  -- the rows still free once `free[k]` has been taken off the list
  have hnfk := h.nfk
  have hI' : ∀ x, FL s.free (IA s.numFree (s.k + 1) s.prev) x ↔ (FL s.free (IA s.numFree s.k s.prev) x ∧ x ≠ s.free s.k) :=
    FL_remove h.inj (Or.inr ⟨Nat.le_refl _, hk⟩) (fun t => by unfold IA; omega)
  have hinj' : InjOnI s.free (IA s.numFree (s.k + 1) s.prev) := h.inj.mono (fun t => by unfold IA; omega)
  unfold arrStep
  simp only [rd_of_lt _ hkn, hi, not_true_eq_false, if_false, e1, e2]
  -- `:1401-1415`: the column `j1` taken, the new prices `v'`, the row `colSol[j1]` that loses it
  generalize hbr : ite (ltExt (scan2 n c s.v (s.free s.k) s.j2).uMin (some us) = true) _ _ = br
  obtain ⟨v', j1, rfl, hj1, hle, heq, ht⟩ : ∃ v' j1, br = .ok (v', j1, s.colSol j1) ∧ j1 < n ∧
      (∀ k, k < n → v' k ≤ s.v k) ∧ (∀ k, k < n → k ≠ j1 → v' k = s.v k) ∧
      (∀ k, k < n → c (s.free s.k) j1 - v' j1 ≤ c (s.free s.k) k - v' k) := by
    rw [← hbr]
    by_cases hlt : (scan2 n c s.v (s.free s.k) s.j2).uMin < us
    · rw [if_pos ((ltExt_some _ _).2 hlt)]
      refine ⟨_, _, rfl, hsc.j1lt, fun k _ => ?_, fun k _ hkj => upd_ne _ _ hkj, fun k hk' => ?_⟩
      · by_cases hkj : k = (scan2 n c s.v (s.free s.k) s.j2).j1
        · rw [hkj, upd_same]; linarith only [hlt]
        · rw [upd_ne _ _ hkj]
      · rw [upd_same]
        by_cases hkj : k = (scan2 n c s.v (s.free s.k) s.j2).j1
        · rw [hkj, upd_same]
        · rw [upd_ne _ _ hkj]; linarith only [hsub k hk' hkj, hsc.umin]
    · rw [if_neg (fun e => hlt ((ltExt_some _ _).1 e))]
      have hueq : us = (scan2 n c s.v (s.free s.k) s.j2).uMin := le_antisymm (not_lt.mp hlt) hminle
      by_cases hneg : s.colSol (scan2 n c s.v (s.free s.k) s.j2).j1 ≥ 0
      · rw [if_pos hneg, rd_of_lt _ hj2]
        exact ⟨_, _, rfl, hj2, fun k _ => le_refl _, fun k _ _ => rfl, fun k hk' => hus ▸ hueq ▸ hsc.minle k hk'⟩
      · rw [if_neg hneg]
        exact ⟨_, _, rfl, hsc.j1lt, fun k _ => le_refl _, fun k _ _ => rfl, fun k hk' => hsc.umin ▸ hsc.minle k hk'⟩
  dsimp only
  -- `:1416-1422`: the (re-)assignment and what happens to the row that loses its column
  generalize ltExt _ (some us) = lt
  obtain ⟨i0, hi0⟩ : ∃ i0, i0 = s.colSol j1 := ⟨_, rfl⟩
  rw [← hi0]
  have hasg := h.inv.assign hFi hj1 v' hle heq ht
  have hpn := h.pn
  by_cases hneg : i0 ≥ 0
  · rw [if_pos hneg]
    obtain ⟨x0, hx0⟩ : ∃ x0 : Nat, i0 = (x0 : Int) := ⟨i0.toNat, by omega⟩
    have hx0n : x0 < n := (h.inv.colOk j1 hj1 x0 (by rw [← hi0, hx0])).1
    have hsz : szOfInt i0 = x0 := by rw [hx0]; exact szOfInt_ofNat x0 (by omega)
    -- `x0` holds a column: it is not on the list
    have hx0F : ¬ FL s.free (IA s.numFree (s.k + 1) s.prev) x0 := by
      intro hf
      have := ((hI' x0).1 hf).1
      exact (h.inv.freeOk x0 this).2 j1 hj1 (by rw [← hi0, hx0])
    have hF' : ∀ x, ((FL s.free (IA s.numFree s.k s.prev) x ∧ x ≠ s.free s.k) ∨ s.colSol j1 = (x : Int)) ↔
        (FL s.free (IA s.numFree (s.k + 1) s.prev) x ∨ x = x0) := by
      intro x
      rw [hI' x, ← hi0, hx0]
      constructor
      · rintro (h1 | h1)
        · exact Or.inl h1
        · right; omega
      · rintro (h1 | h1)
        · exact Or.inl h1
        · right; omega
    -- `x0` goes to position `p` of the list, which so far indexes no free row
    have hput : ∀ p nf' k', ¬ IA s.numFree (s.k + 1) s.prev p →
        (∀ t, IA nf' k' s.prev t ↔ IA s.numFree (s.k + 1) s.prev t ∨ t = p) →
        Inv n c (upd s.rowSol (s.free s.k) j1) (upd s.colSol j1 (s.free s.k)) v' (FL (upd s.free p (szOfInt i0)) (IA nf' k' s.prev)) ∧
          InjOnI (upd s.free p (szOfInt i0)) (IA nf' k' s.prev) := by
      intro p nf' k' hp hJ
      rw [hsz]
      refine ⟨hasg.congrF (fun x _ => ?_) (fun x hx => ?_), Inj_replace hinj' hp hJ hx0F⟩
      · rw [FL_replace hp hJ x]; exact hF' x
      · rcases (FL_replace hp hJ x).1 hx with h1 | h1
        · exact (h.inv.freeOk x ((hI' x).1 h1).1).1
        · omega
    by_cases hre : (lt && cut (s.cnt + 1) (s.k + 1)) = true
    · rw [if_pos hre]
      obtain ⟨h1, h2⟩ := hput s.k s.numFree s.k (by rintro (h1 | h1) <;> omega) (by intro t; unfold IA; omega)
      exact ⟨_, rfl, ⟨h1, h2, hnfk, h.kp, hpn, h.n2⟩, rfl, rfl, Or.inr ⟨rfl, (Bool.and_eq_true _ _ ▸ hre).2⟩⟩
    · rw [if_neg hre, wr_of_lt _ _ (by omega : s.numFree < n)]
      obtain ⟨h1, h2⟩ := hput s.numFree (s.numFree + 1) (s.k + 1) (by rintro (h1 | h1) <;> omega) (by intro t; unfold IA; omega)
      exact ⟨_, rfl, ⟨h1, h2, Nat.succ_le_succ hnfk, hk, hpn, h.n2⟩, rfl, rfl, Or.inl rfl⟩
  · rw [if_neg hneg]
    refine ⟨_, rfl, ⟨?_, hinj', by simp; omega, by simp; omega, hpn, h.n2⟩, rfl, rfl, Or.inl rfl⟩
    refine hasg.congrF (fun x _ => ?_) (fun x hx => (h.inv.freeOk x ((hI' x).1 hx).1).1)
    rw [hI' x]
    constructor
    · rintro (h1 | h1)
      · exact h1
      · omega
    · exact fun h1 => Or.inl h1

/-- bound on the number of further passes through the loop body (repaired text) -/
def arrPhi (n : Nat) (s : Arr ℝ) : Nat := (s.prev - s.k) + (s.prev * n - s.cnt)

theorem arrLoop_good (n : Nat) (hn : n < 32768) (c : Nat → Nat → ℝ) (cut : Nat → Nat → Bool) (B : Prop) :
    ∀ (fuel : Nat) (s : Arr ℝ), ArrInv n c s → (B → cut = arrCut n ∧ arrPhi n s ≤ fuel) →
      Good B (arrLoop n c cut fuel s) (fun s' => ArrInv n c s' ∧ s'.k = s'.prev) := by
  intro fuel
  induction fuel with
  | zero =>
    intro s h hB
    unfold arrLoop
    by_cases hk : s.k < s.prev
    · rw [if_pos hk]
      refine Or.inr ⟨rfl, fun hb => ?_⟩
      have := (hB hb).2
      unfold arrPhi at this
      omega
    · rw [if_neg hk]
      exact Good.ok ⟨h, by have := h.kp; omega⟩
  | succ fuel ih =>
    intro s h hB
    unfold arrLoop
    by_cases hk : s.k < s.prev
    · rw [if_pos hk]
      obtain ⟨s', hs', hinv', hprev, hcnt, hkk⟩ := arrStep_good n hn c cut s h hk
      rw [hs']
      apply ih s' hinv'
      intro hb
      obtain ⟨hcut, hphi⟩ := hB hb
      refine ⟨hcut, ?_⟩
      unfold arrPhi at hphi ⊢
      rw [hprev, hcnt]
      rcases hkk with hk1 | ⟨hk1, hc⟩
      · rw [hk1]; omega
      · rw [hk1]
        rw [hcut] at hc
        simp only [arrCut, decide_eq_true_eq] at hc
        have : (s.k + 1) * n ≤ s.prev * n := Nat.mul_le_mul_right n (by omega)
        omega
    · rw [if_neg hk]
      exact Good.ok ⟨h, by have := h.kp; omega⟩

theorem arrPass_good (n : Nat) (hn : n < 32768) (c : Nat → Nat → ℝ) (cut : Nat → Nat → Bool) (B : Prop) (fuel : Nat)
    (hB : B → cut = arrCut n ∧ n * n + n ≤ fuel) (s : Core ℝ) (h : CoreInv n c s) :
    Good B (arrPass fuel n c cut s) (CoreInv n c) := by
  unfold arrPass
  have e0 : (fun t => t < s.numFree) = IA 0 0 s.numFree := funext fun t => propext (by unfold IA; omega)
  have h0 : ArrInv n c { s with numFree := 0, k := 0, prev := s.numFree, cnt := 0 } :=
    ⟨e0 ▸ h.inv, e0 ▸ h.inj, Nat.le_refl 0, Nat.zero_le _, h.le, h.n2⟩
  refine (arrLoop_good n hn c cut B fuel _ h0 (fun hb => ⟨(hB hb).1, by
      have := h.le
      have := Nat.mul_le_mul_right n h.le
      have := (hB hb).2
      unfold arrPhi
      simp only
      omega⟩)).bind_match_ok fun a ⟨ha, hk⟩ => ?_
  have e1 : IA a.numFree a.k a.prev = fun t => t < a.numFree := funext fun t => propext (by unfold IA; omega)
  have hnf := ha.nfk
  exact Good.ok ⟨e1 ▸ ha.inv, e1 ▸ ha.inj, by have := ha.pn; omega, ha.n2.imp_left (fun h1 => by omega)⟩

theorem phaseA_good (n : Nat) (hn : n < 32768) (c : Nat → Nat → ℝ) (cut : Nat → Nat → Bool) (B : Prop) (fuel : Nat)
    (hB : B → cut = arrCut n ∧ n * n + n ≤ fuel) (rs0 cs0 : Nat → Int) (v0 : Nat → ℝ) :
    Good B (phaseA fuel n c cut rs0 cs0 v0) (CoreInv n c) := by
  unfold phaseA
  exact (redTransfer_good n hn c _ (colRed_spec n hn c rs0 cs0 v0) B).bind_match fun rt hp =>
    (arrPass_good n hn c cut B fuel hB _ hp).bind_match fun s1 hp1 => arrPass_good n hn c cut B fuel hB s1 hp1

end Bpp.Mx.Lap
