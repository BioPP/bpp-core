import BppProofs.Lemmas.LapFullInv
/-! Helper lemmas for C04 (`lap`, the whole routine): the shortest-path search of the augmentation
phase — the column list stays a permutation, the three inner `for` loops, what the search keeps (`DjCore`,
`DjInv`) and what it hands on (`DjPost`); the loop body and `djLoop`: `Lemmas/LapFullDj2.lean`. -/
namespace Bpp.Mx.Lap
open Bpp Bpp.Mx

/-- `colList[a] = colList[b]; colList[b] = j` with `j` the old `colList[a]` -/
def swapAt (cl : Nat → Nat) (a b : Nat) : Nat → Nat := upd (upd cl a (cl b)) b (cl a)

theorem swapAt_apply (cl : Nat → Nat) (a b x : Nat) :
    swapAt cl a b x = if x = b then cl a else if x = a then cl b else cl x := by
  unfold swapAt upd; rfl

theorem swapAt_eq (cl : Nat → Nat) (a b x : Nat) : swapAt cl a b x = cl (Equiv.swap a b x) := by
  rw [swapAt_apply, Equiv.swap_apply_def]
  by_cases hb : x = b
  · by_cases ha : x = a
    · rw [if_pos hb, if_pos ha, ← ha, hb]
    · rw [if_pos hb, if_neg ha, if_pos hb]
  · rw [if_neg hb]
    by_cases ha : x = a
    · rw [if_pos ha, if_pos ha]
    · rw [if_neg ha, if_neg ha, if_neg hb]

/-- `cl` restricted to `0..n-1` is a permutation of `0..n-1` -/
structure PermOn (n : Nat) (cl : Nat → Nat) : Prop where
  lt : ∀ k, k < n → cl k < n
  inj : ∀ a b, a < n → b < n → cl a = cl b → a = b

theorem PermOn.swap {n : Nat} {cl : Nat → Nat} (h : PermOn n cl) {a b : Nat} (ha : a < n) (hb : b < n) :
    PermOn n (swapAt cl a b) := by
  have hlt : ∀ k, k < n → Equiv.swap a b k < n := fun k hk => by
    rw [Equiv.swap_apply_def]; split_ifs <;> assumption
  constructor
  · intro k hk
    rw [swapAt_eq]; exact h.lt _ (hlt k hk)
  · intro x y hx hy he
    rw [swapAt_eq, swapAt_eq] at he
    exact (Equiv.swap a b).injective (h.inj _ _ (hlt x hx) (hlt y hy) he)

/-- the positions `< lo` of `cl` are those of `cl0`, and every entry at a position `≥ lo` is an
entry of `cl0` at a position `≥ lo` -/
structure SameRegion (lo n : Nat) (cl0 cl : Nat → Nat) : Prop where
  fix : ∀ a, a < lo → cl a = cl0 a
  reg : ∀ a, lo ≤ a → a < n → ∃ b, lo ≤ b ∧ b < n ∧ cl a = cl0 b

theorem SameRegion.refl (lo n : Nat) (cl : Nat → Nat) : SameRegion lo n cl cl :=
  ⟨fun _ _ => rfl, fun a h1 h2 => ⟨a, h1, h2, rfl⟩⟩

theorem SameRegion.swap {lo n : Nat} {cl0 cl : Nat → Nat} (h : SameRegion lo n cl0 cl) {a b : Nat}
    (ha : lo ≤ a) (han : a < n) (hb : lo ≤ b) (hbn : b < n) : SameRegion lo n cl0 (swapAt cl a b) := by
  constructor
  · intro x hx
    rw [swapAt_apply, if_neg (by omega), if_neg (by omega)]
    exact h.fix x hx
  · intro x hx hxn
    rw [swapAt_apply]
    split
    · exact h.reg a ha han
    · split
      · exact h.reg b hb hbn
      · exact h.reg x hx hxn

theorem SameRegion.trans {lo lo' n : Nat} {cl0 cl1 cl2 : Nat → Nat} (h1 : SameRegion lo n cl0 cl1) (h2 : SameRegion lo' n cl1 cl2)
    (hlo : lo ≤ lo') : SameRegion lo n cl0 cl2 := by
  constructor
  · intro a ha
    rw [h2.fix a (by omega)]; exact h1.fix a ha
  · intro a ha han
    by_cases hal : a < lo'
    · rw [h2.fix a hal]; exact h1.reg a ha han
    · obtain ⟨b, hb1, hb2, hb3⟩ := h2.reg a (by omega) han
      rw [hb3]; exact h1.reg b (by omega) hb2

/-! ## the scan for the columns of minimal `d` (`:1472-1487`) -/

/-- the state of the scan before position `k` -/
structure MinInv (n : Nat) (d : Nat → ℝ) (cl0 : Nat → Nat) (low k : Nat) (st : MinSc ℝ) : Prop where
  perm : PermOn n st.colList
  same : SameRegion low n cl0 st.colList
  lowup : low < st.up
  upk : st.up ≤ k
  eq : ∀ a, low ≤ a → a < st.up → d (st.colList a) = st.min
  ge : ∀ a, st.up ≤ a → a < k → st.min ≤ d (st.colList a)

/-- position `k` joins the list of minimal columns at `up1` (`low`: it is a new minimum; `up`: it ties) -/
theorem MinInv.push {n : Nat} {d : Nat → ℝ} {cl0 : Nat → Nat} {low k : Nat} {st : MinSc ℝ} (h : MinInv n d cl0 low k st)
    (hk : k < n) {up1 : Nat} {min1 : ℝ} (h1 : low ≤ up1) (h2 : up1 ≤ st.up) (h3 : d (st.colList k) = min1)
    (h4 : ∀ a, low ≤ a → a < up1 → d (st.colList a) = min1) (h5 : ∀ a, up1 ≤ a → a < k → min1 ≤ d (st.colList a)) :
    MinInv n d cl0 low (k + 1) { colList := swapAt st.colList k up1, up := up1 + 1, min := min1 } := by
  have hupk := h.upk
  have hupn : up1 < n := by omega
  refine ⟨h.perm.swap hk hupn, h.same.swap (by omega) hk h1 hupn, Nat.lt_succ_of_le h1, Nat.succ_le_succ (h2.trans hupk), ?_, ?_⟩
    <;> dsimp only <;> intro a ha1 ha2 <;> rw [swapAt_apply]
  · split
    · exact h3
    · rw [if_neg (by omega)]; exact h4 a ha1 (by omega)
  · rw [if_neg (by omega)]
    split
    · exact h5 up1 (Nat.le_refl _) (by omega)
    · exact h5 a (by omega) (by omega)

theorem minStep_good (n : Nat) (d : Nat → ℝ) (cl0 : Nat → Nat) (low k : Nat) (hk : k < n) (B : Prop) (st : MinSc ℝ)
    (h : MinInv n d cl0 low k st) : Good B (minStep n d low k st) (MinInv n d cl0 low (k + 1)) := by
  unfold minStep
  simp only [rd_of_lt _ (h.perm.lt k hk)]
  have hupk := h.upk
  have hlowup := h.lowup
  by_cases hle : d (st.colList k) ≤ st.min
  · rw [if_pos ((ScalarReal.leb_iff _ _).2 hle)]
    by_cases hlt : d (st.colList k) < st.min
    · -- a new minimum: the list restarts at `low`
      simp only [(ScalarReal.ltb_iff _ _).2 hlt, if_true]
      rw [rd_of_lt _ (by omega : low < n)]
      refine Good.ok (h.push hk (Nat.le_refl _) hlowup.le rfl (fun a h1 h2 => by omega) (fun a h1 h2 => ?_))
      by_cases hau : a < st.up
      · exact hlt.le.trans_eq (h.eq a h1 hau).symm
      · exact hlt.le.trans (h.ge a (by omega) h2)
    · -- the same minimum again: appended to the list
      simp only [Bool.eq_false_iff.2 (fun e => hlt ((ScalarReal.ltb_iff _ _).1 e)), Bool.false_eq_true, if_false]
      rw [rd_of_lt _ (by omega : st.up < n)]
      exact Good.ok (h.push hk hlowup.le (Nat.le_refl _) (le_antisymm hle (not_lt.mp hlt)) h.eq h.ge)
  · rw [if_neg (fun e => hle ((ScalarReal.leb_iff _ _).1 e))]
    refine Good.ok ⟨h.perm, h.same, hlowup, by omega, h.eq, fun a ha1 ha2 => ?_⟩
    by_cases hak : a = k
    · rw [hak]; exact (not_le.mp hle).le
    · exact h.ge a ha1 (by omega)

/-- the whole scan, started after `min = d[colList[up++]]` with `up = low` -/
theorem minScan_good (n : Nat) (d : Nat → ℝ) (cl0 : Nat → Nat) (low : Nat) (hlow : low < n) (hperm : PermOn n cl0) (B : Prop) :
    Good B (loopM (n - (low + 1)) (fun t st => minStep n d low (low + 1 + t) st) { colList := cl0, up := low + 1, min := d (cl0 low) })
      (MinInv n d cl0 low n) := by
  have := loopM_good (B := B) (fun t st => MinInv n d cl0 low (low + 1 + t) st) (n - (low + 1))
    (fun t st => minStep n d low (low + 1 + t) st) { colList := cl0, up := low + 1, min := d (cl0 low) }
    ⟨hperm, SameRegion.refl _ _ _, by simp, by simp, fun a h1 h2 => by
        simp only at h2 ⊢
        have : a = low := by omega
        subst this; rfl, fun a h1 h2 => by simp only at h1; omega⟩
    (fun t st ht h => minStep_good n d cl0 low (low + 1 + t) (by omega) B st h)
  have e : low + 1 + (n - (low + 1)) = n := by omega
  rw [e] at this
  exact this

/-! ## the check for an unassigned column among the minimal ones (`:1491-1499`) -/

def UnasgInv (cs : Nat → Int) (cl : Nat → Nat) (low up k : Nat) (f : Option Nat) : Prop :=
  match f with
  | none => ∀ a, low ≤ a → a < k → 0 ≤ cs (cl a)
  | some e => ∃ a, low ≤ a ∧ a < up ∧ cl a = e ∧ cs e < 0

theorem unasg_good (n : Nat) (cs : Nat → Int) (cl : Nat → Nat) (low up : Nat) (hup : up ≤ n) (hperm : PermOn n cl) (B : Prop) :
    Good B (loopM (up - low) (fun t f => unasgStep n cs cl (low + t) f) none) (UnasgInv cs cl low up up) := by
  by_cases hlu : low ≤ up
  · have := loopM_good (B := B) (fun t f => UnasgInv cs cl low up (low + t) f) (up - low)
      (fun t f => unasgStep n cs cl (low + t) f) none (fun a h1 h2 => by omega)
      (by
        intro t f ht h
        unfold unasgStep
        cases f with
        | some e => exact Good.ok h
        | none =>
          simp only
          have hlt : cl (low + t) < n := hperm.lt _ (by omega)
          rw [rd_of_lt _ hlt]
          simp only
          by_cases hneg : cs (cl (low + t)) < 0
          · rw [if_pos hneg]
            exact Good.ok ⟨low + t, by omega, by omega, rfl, hneg⟩
          · rw [if_neg hneg]
            apply Good.ok
            intro a h1 h2
            by_cases ha : a = low + t
            · subst ha; omega
            · exact h a h1 (by omega))
    have e : low + (up - low) = up := by omega
    rw [e] at this
    exact this
  · have e : up - low = 0 := by omega
    rw [e]
    exact Good.ok (fun a h1 h2 => by omega)

/-! ## the relaxation through a scanned row (`:1510-1535`) -/

/-- the state of the relaxation through row `i` (reduced costs shifted by `h`) before position `k`;
`d0`, `pred0`, `cl0`, `up0` are the values at the start of the loop -/
structure RxInv (n : Nat) (c : Nat → Nat → ℝ) (cs : Nat → Int) (v : Nat → ℝ) (i : Nat) (h mn : ℝ)
    (d0 : Nat → ℝ) (pred0 cl0 : Nat → Nat) (up0 k : Nat) (r : Rx ℝ) : Prop where
  perm : PermOn n r.colList
  same : SameRegion up0 n cl0 r.colList
  upge : up0 ≤ r.up
  upk : r.up ≤ k
  scan : ∀ a, up0 ≤ a → a < r.up → r.d (r.colList a) = mn ∧ 0 ≤ cs (r.colList a)
  ge : ∀ a, r.up ≤ a → a < n → mn ≤ r.d (r.colList a)
  dle : ∀ j, j < n → r.d j ≤ d0 j
  relaxed : r.found = none → ∀ a, up0 ≤ a → a < k → r.d (r.colList a) ≤ c i (r.colList a) - v (r.colList a) - h
  chg : ∀ j, j < n → (r.pred j = pred0 j ∧ r.d j = d0 j) ∨
    (r.pred j = i ∧ (r.d j = c i j - v j - h ∨ r.found = some j) ∧ ∃ a, up0 ≤ a ∧ a < n ∧ cl0 a = j)
  fnd : ∀ e, r.found = some e → e < n ∧ cs e < 0 ∧ r.pred e = i ∧ c i e - v e - h = mn ∧
    (∃ a, r.up ≤ a ∧ a < n ∧ r.colList a = e) ∧ mn ≤ r.d e

theorem relaxStep_good (n : Nat) (c : Nat → Nat → ℝ) (cs : Nat → Int) (v : Nat → ℝ) (i : Nat) (h mn : ℝ)
    (d0 : Nat → ℝ) (pred0 cl0 : Nat → Nat) (up0 k : Nat) (hk : k < n) (hk0 : up0 ≤ k) (B : Prop)
    (hv2 : ∀ j, j < n → mn ≤ c i j - v j - h)
    (r : Rx ℝ) (hr : RxInv n c cs v i h mn d0 pred0 cl0 up0 k r) :
    Good B (relaxStep n c cs v i h mn k r) (RxInv n c cs v i h mn d0 pred0 cl0 up0 (k + 1)) := by
  unfold relaxStep
  cases hf : r.found with
  | some e =>
    simp only
    apply Good.ok
    exact ⟨hr.perm, hr.same, hr.upge, by have := hr.upk; omega, hr.scan, hr.ge, hr.dle,
      (fun hn => by rw [hf] at hn; cases hn), hr.chg, hr.fnd⟩
  | none =>
    simp only
    have hj : r.colList k < n := hr.perm.lt k hk
    have hupk := hr.upk
    have hupge := hr.upge
    simp only [hj, not_true_eq_false, if_false]
    -- where a column sits: the entry at position `k` is at no other position
    have hpos : ∀ a, a < n → r.colList a = r.colList k → a = k := fun a ha he => hr.perm.inj a k ha hk he
    by_cases hlt : c i (r.colList k) - v (r.colList k) - h < r.d (r.colList k)
    · rw [if_pos ((ScalarReal.ltb_iff _ _).2 hlt)]
      -- the column was among those still to be considered at the start
      have horig : ∃ a, up0 ≤ a ∧ a < n ∧ cl0 a = r.colList k := by
        obtain ⟨b, hb1, hb2, hb3⟩ := hr.same.reg k hk0 hk
        exact ⟨b, hb1, hb2, hb3.symm⟩
      have hdle : ∀ j, j < n → upd r.d (r.colList k) (c i (r.colList k) - v (r.colList k) - h) j ≤ d0 j := by
        intro j hjn
        by_cases hjk : j = r.colList k
        · rw [hjk, upd_same]; exact hlt.le.trans (hr.dle _ hj)
        · rw [upd_ne _ _ hjk]; exact hr.dle j hjn
      -- `pred[j] = i` is stored; `d[j]` too unless `j` ends the path (`f = some j`)
      have hchg : ∀ (f : Option Nat) (d' : Nat → ℝ),
          (d' (r.colList k) = c i (r.colList k) - v (r.colList k) - h ∨ f = some (r.colList k)) →
          (∀ j, j ≠ r.colList k → d' j = r.d j) → ∀ j, j < n →
          (upd r.pred (r.colList k) i j = pred0 j ∧ d' j = d0 j) ∨
          (upd r.pred (r.colList k) i j = i ∧ (d' j = c i j - v j - h ∨ f = some j) ∧ ∃ a, up0 ≤ a ∧ a < n ∧ cl0 a = j) := by
        intro f d' hk' hd' j hjn
        by_cases hjk : j = r.colList k
        · rw [hjk, upd_same]; exact Or.inr ⟨rfl, hk', horig⟩
        · rw [upd_ne _ _ hjk, hd' j hjk]
          rcases hr.chg j hjn with h1 | ⟨h1, h2 | h2, h3⟩
          · exact Or.inl h1
          · exact Or.inr ⟨h1, Or.inl h2, h3⟩
          · rw [hf] at h2; cases h2
      by_cases heq : c i (r.colList k) - v (r.colList k) - h = mn
      · rw [if_pos ((ScalarReal.eqb_iff _ _).2 heq)]
        by_cases hneg : cs (r.colList k) < 0
        · -- an unassigned column at the current minimum: the path is complete
          rw [if_pos hneg]
          refine Good.ok ⟨hr.perm, hr.same, hupge, Nat.le_succ_of_le hupk, hr.scan, hr.ge, hr.dle, (fun hn => nomatch hn),
            hchg _ _ (Or.inr rfl) (fun _ _ => rfl), ?_⟩
          intro e he
          cases he
          exact ⟨hj, hneg, upd_same _ _ _, heq, ⟨k, hupk, hk, rfl⟩, heq ▸ hlt.le⟩
        · -- an assigned column at the current minimum: appended to the list to be scanned
          rw [if_neg hneg]
          have hupn : r.up < n := by omega
          rw [rd_of_lt _ hupn]
          have hsw : (upd (upd r.colList k (r.colList r.up)) r.up (r.colList k)) = swapAt r.colList k r.up := rfl
          simp only [hsw]
          refine Good.ok ⟨hr.perm.swap hk hupn, hr.same.swap hk0 hk hupge hupn, Nat.le_succ_of_le hupge,
            Nat.succ_le_succ hupk, ?_, ?_, hdle, ?_, hchg _ _ (Or.inl (upd_same _ _ _)) (fun _ hjk => upd_ne _ _ hjk),
            (fun e he => nomatch he)⟩ <;> dsimp only
          · intro a ha1 ha2
            rw [swapAt_apply]
            split
            · rw [upd_same]; exact ⟨heq, by omega⟩
            · next hne =>
              have hak : a ≠ k := by omega
              rw [if_neg hak, upd_ne _ _ (fun e => hak (hpos a (by omega) e))]
              exact hr.scan a ha1 (by omega)
          · intro a ha1 ha2
            rw [swapAt_apply, if_neg (by omega)]
            split
            · -- position `k` now holds the old `colList[up]`
              by_cases hku : r.up = k
              · rw [hku, upd_same]; exact heq.ge
              · rw [upd_ne _ _ (fun e => hku (hpos r.up hupn e))]
                exact hr.ge r.up (Nat.le_refl _) hupn
            · next hak =>
              rw [upd_ne _ _ (fun e => hak (hpos a ha2 e))]
              exact hr.ge a (by omega) ha2
          · intro _ a ha1 ha2
            rw [swapAt_apply]
            split
            · rw [upd_same]
            · split
              · next hne hak =>
                rw [upd_ne _ _ (fun e => hne (hak ▸ (hpos r.up hupn e).symm))]
                exact hr.relaxed hf r.up hupge (by omega)
              · next hne hak =>
                rw [upd_ne _ _ (fun e => hak (hpos a (by omega) e))]
                exact hr.relaxed hf a ha1 (by omega)
      · -- a shorter, but not minimal, distance
        rw [if_neg (fun e => heq ((ScalarReal.eqb_iff _ _).1 e))]
        have hgt : mn < c i (r.colList k) - v (r.colList k) - h := lt_of_le_of_ne (hv2 _ hj) (fun e => heq e.symm)
        refine Good.ok ⟨hr.perm, hr.same, hupge, Nat.le_succ_of_le hupk, ?_, ?_, hdle, ?_,
          hchg _ _ (Or.inl (upd_same _ _ _)) (fun _ hjk => upd_ne _ _ hjk), (fun e he => nomatch he)⟩ <;> dsimp only
        · intro a ha1 ha2
          rw [upd_ne _ _ (fun e => by have := hpos a (by omega) e; omega)]
          exact hr.scan a ha1 ha2
        · intro a ha1 ha2
          by_cases hak : a = k
          · rw [hak, upd_same]; exact hgt.le
          · rw [upd_ne _ _ (fun e => hak (hpos a ha2 e))]
            exact hr.ge a ha1 ha2
        · intro _ a ha1 ha2
          by_cases hak : a = k
          · rw [hak, upd_same]
          · rw [upd_ne _ _ (fun e => hak (hpos a (by omega) e))]
            exact hr.relaxed hf a ha1 (by omega)
    · -- no improvement
      rw [if_neg (fun e => hlt ((ScalarReal.ltb_iff _ _).1 e))]
      refine Good.ok ⟨hr.perm, hr.same, hupge, by omega, hr.scan, hr.ge, hr.dle, ?_, hr.chg, hr.fnd⟩
      intro _ a ha1 ha2
      by_cases hak : a = k
      · rw [hak]; exact not_lt.mp hlt
      · exact hr.relaxed hf a ha1 (by omega)

theorem relax_good (n : Nat) (c : Nat → Nat → ℝ) (cs : Nat → Int) (v : Nat → ℝ) (i : Nat) (h mn : ℝ)
    (d0 : Nat → ℝ) (pred0 cl0 : Nat → Nat) (up0 : Nat) (hup0 : up0 ≤ n) (B : Prop)
    (hperm0 : PermOn n cl0) (hv2 : ∀ j, j < n → mn ≤ c i j - v j - h)
    (hge0 : ∀ a, up0 ≤ a → a < n → mn ≤ d0 (cl0 a)) :
    Good B (loopM (n - up0) (fun t st => relaxStep n c cs v i h mn (up0 + t) st)
        { d := d0, pred := pred0, colList := cl0, up := up0, found := none })
      (RxInv n c cs v i h mn d0 pred0 cl0 up0 n) := by
  have := loopM_good (B := B) (fun t r => RxInv n c cs v i h mn d0 pred0 cl0 up0 (up0 + t) r) (n - up0)
    (fun t st => relaxStep n c cs v i h mn (up0 + t) st) { d := d0, pred := pred0, colList := cl0, up := up0, found := none }
    ⟨hperm0, SameRegion.refl _ _ _, Nat.le_refl _, Nat.le_refl _, fun a h1 h2 => by simp only at h2; omega, hge0,
      fun j _ => le_refl _, fun _ a h1 h2 => by omega, fun j _ => Or.inl ⟨rfl, rfl⟩, fun e he => by simp at he⟩
    (fun t r ht hr => relaxStep_good n c cs v i h mn d0 pred0 cl0 up0 (up0 + t) (by omega) (by omega) B hv2 r hr)
  have e : up0 + (n - up0) = n := by omega
  rw [e] at this
  exact this

/-- What holds of the search state whether or not the end of the path has been found.  `D` are the distances
(`s.d`, except that on leaving the relaxation through a `break` the end of the path has its true distance `min`,
which the C++ does not store) and `lp` the number of scanned columns through whose rows every column has been
relaxed (`s.low`, except after that `break`). -/
structure DjCore (n : Nat) (c : Nat → Nat → ℝ) (cs : Nat → Int) (v : Nat → ℝ) (fr : Nat) (s : Dj ℝ) (D : Nat → ℝ) (lp : Nat) : Prop where
  perm : PermOn n s.colList
  lowup : s.low ≤ s.up
  upn : s.up ≤ n
  lastlow : s.last ≤ s.low
  predlt : ∀ j, j < n → s.pred j < n
  asgLow : ∀ k, k < s.low → 0 ≤ cs (s.colList k)
  b1 : ∀ k k', k < s.low → s.low ≤ k' → k' < n → D (s.colList k) ≤ D (s.colList k')
  b2 : ∀ k, s.low ≤ k → k < s.up → D (s.colList k) = s.min
  b3 : s.low < s.up → ∀ k', s.up ≤ k' → k' < n → s.min ≤ D (s.colList k')
  b4 : ∀ k, s.last ≤ k → k < s.low → D (s.colList k) = s.min
  p2 : ∀ k, k < lp → ∀ i : Nat, cs (s.colList k) = (i : Int) → ∀ j, j < n →
    D j ≤ D (s.colList k) + (c i j - v j) - (c i (s.colList k) - v (s.colList k))
  pfree : ∀ j, j < n → D j ≤ c fr j - v j
  p3 : ∀ m, m < n → (s.pred (s.colList m) = fr ∧ D (s.colList m) = c fr (s.colList m) - v (s.colList m)) ∨
    ∃ k, k < s.low ∧ k < m ∧ cs (s.colList k) = (s.pred (s.colList m) : Int) ∧
      D (s.colList m) = D (s.colList k) + (c (s.pred (s.colList m)) (s.colList m) - v (s.colList m)) -
        (c (s.pred (s.colList m)) (s.colList k) - v (s.colList k))

/-- the loop invariant of `do … while (!unassignedFound)` -/
structure DjInv (n : Nat) (c : Nat → Nat → ℝ) (cs : Nat → Int) (v : Nat → ℝ) (fr : Nat) (s : Dj ℝ) : Prop where
  core : DjCore n c cs v fr s s.d s.low
  nf : s.found = none
  asg : ∀ k, k < s.up → 0 ≤ cs (s.colList k)

/-- what the search hands to the price update and the path reversal; `D` = the distances `d` with
the entry of the end of the path set to its true value `min` (the C++ leaves the loop before
storing it) -/
structure DjPost (n : Nat) (c : Nat → Nat → ℝ) (cs : Nat → Int) (v : Nat → ℝ) (fr : Nat) (s : Dj ℝ) (e : Nat) (D : Nat → ℝ) : Prop where
  perm : PermOn n s.colList
  lastlow : s.last ≤ s.low
  lown : s.low ≤ n
  predlt : ∀ j, j < n → s.pred j < n
  elt : e < n
  eun : cs e < 0
  epos : ∃ me, s.low ≤ me ∧ me < n ∧ s.colList me = e
  asg : ∀ k, k < s.low → 0 ≤ cs (s.colList k)
  Dd : ∀ k, k < s.last → D (s.colList k) = s.d (s.colList k)
  q1 : ∀ k, k < s.last → D (s.colList k) ≤ s.min
  q2 : ∀ k, s.last ≤ k → k < n → s.min ≤ D (s.colList k)
  q4 : ∀ k, s.last ≤ k → k < s.low → D (s.colList k) = s.min
  q4e : D e = s.min
  q3 : ∀ k, k < s.last → ∀ i : Nat, cs (s.colList k) = (i : Int) → ∀ j, j < n →
    D j ≤ D (s.colList k) + (c i j - v j) - (c i (s.colList k) - v (s.colList k))
  qfree : ∀ j, j < n → D j ≤ c fr j - v j
  q5 : ∀ m, m < n → (m < s.low ∨ s.colList m = e) →
    (s.pred (s.colList m) = fr ∧ D (s.colList m) = c fr (s.colList m) - v (s.colList m)) ∨
    ∃ k, k < s.low ∧ k < m ∧ cs (s.colList k) = (s.pred (s.colList m) : Int) ∧
      D (s.colList m) = D (s.colList k) + (c (s.pred (s.colList m)) (s.colList m) - v (s.colList m)) -
        (c (s.pred (s.colList m)) (s.colList k) - v (s.colList k))

/-- the end `e` of the path has been found, at a position `a` not yet scanned and at distance `min`, which no
column from `up` on undercuts -/
theorem DjCore.post {n : Nat} {c : Nat → Nat → ℝ} {cs : Nat → Int} {v : Nat → ℝ} {fr : Nat} {s : Dj ℝ} {D : Nat → ℝ} {lp : Nat}
    (h : DjCore n c cs v fr s D lp) (hl : s.last ≤ lp) (hD : ∀ k, k < s.last → D (s.colList k) = s.d (s.colList k))
    (hge : ∀ k, s.up ≤ k → k < n → s.min ≤ D (s.colList k))
    {e a : Nat} (ha : s.low ≤ a) (han : a < n) (hae : s.colList a = e) (hun : cs e < 0) (hDe : D e = s.min) :
    DjPost n c cs v fr s e D := by
  have hll := h.lastlow
  refine ⟨h.perm, hll, by omega, h.predlt, hae ▸ h.perm.lt a han, hun, ⟨a, ha, han, hae⟩, h.asgLow, hD, ?_, ?_, h.b4, hDe,
    fun k hk => h.p2 k (by omega), h.pfree, fun m hm _ => h.p3 m hm⟩
  · intro k hk
    rw [← hDe, ← hae]
    exact h.b1 k a (by omega) ha han
  · intro k hk1 hk2
    by_cases hkl : k < s.low
    · exact (h.b4 k hk1 hkl).ge
    · by_cases hku : k < s.up
      · exact (h.b2 k (by omega) hku).ge
      · exact hge k (by omega) hk2

end Bpp.Mx.Lap
