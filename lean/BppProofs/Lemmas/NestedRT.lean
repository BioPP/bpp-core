import BppProofs.Lemmas.TokRT
/-! Helper lemmas for `Props/C17Nested.lean`: the round-trip law of the NestedStringTokenizer
constructor from what its loops return (`NestPost`, `Lemmas/TokLoops.lean`), and the bracket depth of
every token from its shape (`Balanced`). -/
namespace Bpp.Text.RT
open Bpp.Text Bpp.Text.U

theorem depth_append (o c : Char) (a b : Str) : depth o c (a ++ b) = depth o c a + depth o c b := by
  induction a with
  | nil => simp [depth]
  | cons x a ih => simp [depth, ih]; omega

theorem noTopDelim_append (d : Str) (o c : Char) (dep : Int) (a b : Str) :
    noTopDelim d o c dep (a ++ b) = (noTopDelim d o c dep a && noTopDelim d o c (dep + depth o c a) b) := by
  induction a generalizing dep with
  | nil => simp [noTopDelim, depth]
  | cons x a ih =>
    simp only [List.cons_append, noTopDelim, depth, ih, Bool.and_assoc]
    congr 3; omega

/-- a text without delimiter has no delimiter at depth 0 -/
theorem noTopDelim_free (d : Str) (o c : Char) (dep : Int) (p : Str) (h : ∀ x ∈ p, inSet d x = false) :
    noTopDelim d o c dep p = true := by
  induction p generalizing dep with
  | nil => rfl
  | cons x p ih =>
    have hx := h x (by simp)
    simp [noTopDelim, hx, ih _ (fun y hy => h y (by simp [hy]))]

/-- a delimiter is not a bracket -/
theorem delta_delim {d : Str} {o c x : Char} (ho : d.contains o = false) (hc : d.contains c = false)
    (hx : inSet d x = true) : delta o c x = 0 := by
  have h1 : (x == o) = false := by
    cases h : x == o with
    | false => rfl
    | true =>
      have : x = o := by simpa using h
      subst this; simp only [inSet] at hx; rw [hx] at ho; cases ho
  have h2 : (x == c) = false := by
    cases h : x == c with
    | false => rfl
    | true =>
      have : x = c := by simpa using h
      subst this; simp only [inSet] at hx; rw [hx] at hc; cases hc
  simp [delta, h1, h2]

/-- with single-character brackets it is the bracket depth -/
theorem gain_single (o c : Char) : gain [o] [c] = depth o c := by
  funext t
  unfold gain count
  induction t with
  | nil => rfl
  | cons x t ih =>
    have e : ∀ b : Char, isPrefix [b] (x :: t) = (x == b) := fun b => by simp [isPrefix, BEq.comm (a := b)]
    simp only [countSub, e, depth, delta, ← ih]
    split <;> split <;> omega

theorem Balanced.depth_zero {d : Str} {o c : Char} (ho : d.contains o = false) (hc : d.contains c = false)
    {P : Str → Prop} {b : Int} {t : Str} (h : Balanced d (depth o c) P b t) : b + depth o c t = 0 := by
  induction h with
  | last _ h0 => exact h0
  | cut _ hx _ _ ih =>
    rw [depth_append, RT.depth, delta_delim ho hc hx]
    omega

theorem Balanced.noTop {d : Str} {o c : Char} (ho : d.contains o = false) (hc : d.contains c = false)
    {b : Int} {t : Str} (h : Balanced d (depth o c) (fun p => false = false → ∀ x ∈ p, inSet d x = false) b t) :
    noTopDelim d o c b t = true := by
  induction h with
  | last hp _ => exact noTopDelim_free d o c _ _ (hp rfl)
  | cut hp hx hb _ ih =>
    rw [noTopDelim_append, noTopDelim_free d o c _ _ (hp rfl), RT.noTopDelim, delta_delim ho hc hx, Int.add_zero, ih]
    simp [hb]

theorem nestedRtOk_iff {s d : Str} {solid : Bool} {tokens splits : List Str} {u : Str} :
    nestedRtOk s d solid tokens splits u = true ↔
      ((if solid then [] else s.takeWhile (inSet d)) ++ interleave tokens splits = s ∧
      u = unparseSpec d solid false s ∧
      (tokens.length = splits.length + 1 ∨ (solid = false ∧ tokens.length = splits.length)) ∧
      (∀ sp ∈ splits, (solid = true → sp = d) ∧ (solid = false → sp ≠ [] ∧ ∀ c ∈ sp, inSet d c = true)) ∧
      (solid = false → ∀ t ∈ tokens, t ≠ [])) := by
  cases solid <;> simp [nestedRtOk, and_assoc]

theorem nestedDepthOk_iff {d : Str} {o c : Char} {solid : Bool} {tokens : List Str} :
    nestedDepthOk d o c solid tokens = true ↔
      ∀ t ∈ tokens, depth o c t = 0 ∧ (solid = false → noTopDelim d o c 0 t = true) := by
  cases solid <;> simp [nestedDepthOk]

/-- **the round-trip law of the NestedStringTokenizer constructor**, any bracket strings, both modes -/
theorem mkNested_rt (s op en d : Str) (solid : Bool) (hs : s.length < 2147483648) (T : Tokenizer)
    (h : mkNested s op en d solid = .ok T) :
    ∃ u, T.unparseRemainingTokens = .ok u ∧ nestedRtOk s d solid T.tokens T.splits u = true := by
  have hwf := (mkNested_built hs h).wf
  obtain ⟨ts, ss, rfl, ⟨rfl, hf, rfl, rfl⟩ | ⟨index, hidx, post⟩⟩ := (mkNested_post s op en d solid hs).of_ok h
  · obtain ⟨h1, h2⟩ := lead_none hf
    exact ⟨[], rfl, nestedRtOk_iff.mpr ⟨by simp [h1], by simp [unparseSpec, stripSet, dropLastSet, h2],
      Or.inr ⟨rfl, rfl⟩, nofun, fun _ => nofun⟩⟩
  · cases solid with
    | false =>
      obtain ⟨h1, h2⟩ := lead_some hidx
      have hjoin : interleave ts ss = s.drop index := post.join
      have hj : s.takeWhile (inSet d) ++ interleave ts ss = s := by rw [h1, hjoin, List.take_append_drop]
      refine ⟨_, unparse_fresh_strip d ts ss post.ne hwf
          (post.ends rfl _ (List.getLast_mem post.ne)) (fun sp hsp => ((post.seps sp hsp).2 rfl).2)
          (hjoin.trans h2.symm),
        nestedRtOk_iff.mpr ⟨hj, rfl, post.count, post.seps, fun _ t ht e => ?_⟩⟩
      obtain ⟨X, x, hx, _⟩ := post.ends rfl t ht
      rw [e] at hx
      cases X <;> cases hx
    | true =>
      obtain ⟨rfl, _⟩ := hidx
      have hjoin : interleave ts ss = s := post.join
      have hc : ts.length = ss.length + 1 := post.count.resolve_right (fun h => nomatch h.1)
      exact ⟨_, unparse_fresh_all ts ss hwf hc, nestedRtOk_iff.mpr ⟨hjoin, hjoin, Or.inl hc, post.seps, nofun⟩⟩

/-- every token is balanced (and, in non-solid mode, cut at every delimiter of depth 0) -/
theorem mkNested_depth (s d : Str) (o c : Char) (solid : Bool) (ho : d.contains o = false)
    (hc : d.contains c = false) (hs : s.length < 2147483648) (T : Tokenizer)
    (h : mkNested s [o] [c] d solid = .ok T) : nestedDepthOk d o c solid T.tokens = true := by
  rw [nestedDepthOk_iff]
  obtain ⟨ts, ss, rfl, ⟨_, _, rfl, _⟩ | ⟨index, _, post⟩⟩ := (mkNested_post s [o] [c] d solid hs).of_ok h
  · nofun
  · rw [gain_single] at post
    obtain ⟨t0, ts', rfl, h0, hrest⟩ := post.toks
    intro t ht
    have hb := List.forall_mem_cons.mpr ⟨h0, hrest⟩ t ht
    exact ⟨by simpa using hb.depth_zero ho hc, fun e => by subst e; exact hb.noTop ho hc⟩

end Bpp.Text.RT
