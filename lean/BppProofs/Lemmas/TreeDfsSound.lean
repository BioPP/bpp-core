import BppProofs.Lemmas.TreeDfs
/-
Soundness of the single-visit traversal: a successful run from `n` exhibits, on the newly met
nodes, a tree rooted at `n` that contains every relation of these nodes (`Run`).
-/
namespace Bpp.Graph
open AL
namespace T

/-- what a successful run from `n` (coming from `origin`) tells: the newly met nodes `vis` carry a
tree rooted at `n`, closed under the relations of the graph -/
structure Run (g : G) (n origin : Nat) (met m' vis : List Nat) (par : Nat → Option Nat) (rank : Nat → Nat) : Prop where
  mem : ∀ x, x ∈ m' ↔ x ∈ vis ∨ x ∈ met
  disj : ∀ x ∈ vis, x ∉ met
  start : n ∈ vis
  node : ∀ v ∈ vis, g.hasNode v = true
  par_start : par n = none
  rank_start : rank n = 0
  up : ∀ v ∈ vis, v ≠ n → ∃ p, p ∈ vis ∧ par v = some p ∧ rank v = rank p + 1 ∧ Arc g p v
  closed : ∀ v ∈ vis, ∀ w, Arc g v w →
    (w ∈ vis ∧ par w = some v) ∨ (g.directed = false ∧ ((v = n ∧ origin ≠ n ∧ w = origin) ∨ (v ≠ n ∧ par v = some w)))

/-- the same for the loop over the neighbours `l` of `n` (already met) -/
structure RunL (g : G) (n origin : Nat) (l m m' vis : List Nat) (par : Nat → Option Nat) (rank : Nat → Nat) : Prop where
  mem : ∀ x, x ∈ m' ↔ x ∈ vis ∨ x ∈ m
  disj : ∀ x ∈ vis, x ∉ m
  node : ∀ v ∈ vis, g.hasNode v = true
  rank_n : rank n = 0
  up : ∀ v ∈ vis, ∃ p, (p ∈ vis ∨ p = n) ∧ par v = some p ∧ rank v = rank p + 1 ∧ Arc g p v
  closed : ∀ v ∈ vis, ∀ w, Arc g v w → (w ∈ vis ∧ par w = some v) ∨ (g.directed = false ∧ par v = some w)
  sons : ∀ b ∈ l, Skip g n origin b ∨ (b ∈ vis ∧ par b = some n)

theorem metOnce_sound (g : G) : ∀ (fuel n origin : Nat) (met m' : List Nat),
    metOnce g fuel n origin met = .ok (some m') → ∃ vis par rank, Run g n origin met m' vis par rank := by
  intro fuel
  induction fuel with
  | zero => intro n origin met m' h; simp [metOnce] at h
  | succ f ih =>
    intro n origin met m' h
    rw [metOnce_succ] at h
    by_cases hcont : met.contains n = true
    · rw [if_pos hcont] at h; cases h
    rw [if_neg hcont] at h
    have hnm : n ∉ met := by simpa using hcont
    cases ho : g.outNeighbors n with
    | none => rw [ho] at h; cases h
    | some nbs =>
      rw [ho] at h
      simp only at h
      have hnode := (G.outNeighbors_some ho).1
      have key : ∀ (l m m' : List Nat), n ∈ m → (∀ b ∈ l, Arc g n b) →
          l.foldl (metStep g f n origin) (.ok (some m)) = .ok (some m') →
          ∃ vis par rank, RunL g n origin l m m' vis par rank := by
        intro l
        induction l with
        | nil =>
          intro m m' _ _ h
          simp only [List.foldl] at h
          cases h
          exact ⟨[], fun _ => none, fun _ => 0,
            ⟨(by intro x; simp), (by simp), (by simp), rfl, (by simp), (by simp), (by simp)⟩⟩
        | cons b rest ihl =>
          intro m m' hnmem harc h
          simp only [List.foldl] at h
          rw [metStep_some] at h
          by_cases hs : Skip g n origin b
          · rw [if_pos hs] at h
            obtain ⟨vis, par, rank, hr⟩ := ihl m m' hnmem (fun c hc => harc c (List.mem_cons_of_mem _ hc)) h
            refine ⟨vis, par, rank, ⟨hr.mem, hr.disj, hr.node, hr.rank_n, hr.up, hr.closed, ?_⟩⟩
            intro c hc
            rcases List.mem_cons.1 hc with e | hc'
            · subst e; exact .inl hs
            · exact hr.sons c hc'
          · rw [if_neg hs] at h
            obtain ⟨m1, hres⟩ := metFold_ok h
            rw [hres] at h
            obtain ⟨vb, pb, rb, hb⟩ := ih b n m m1 hres
            have hnm1 : n ∈ m1 := (hb.mem n).2 (.inr hnmem)
            obtain ⟨vr, pr, rr, hr⟩ := ihl m1 m' hnm1 (fun c hc => harc c (List.mem_cons_of_mem _ hc)) h
            -- facts about the two parts
            have hn_vb : n ∉ vb := fun hh => hb.disj n hh hnmem
            have hvr_vb : ∀ x ∈ vr, x ∉ vb := fun x hx hxb => hr.disj x hx ((hb.mem x).2 (.inl hxb))
            have hvr_b : ∀ x ∈ vr, x ≠ b := fun x hx e => hvr_vb x hx (e ▸ hb.start)
            have hvr_n : n ∉ vr := fun hh => hr.disj n hh hnm1
            refine ⟨vb ++ vr,
              fun x => if x = b then some n else if x ∈ vb then pb x else pr x,
              fun x => if x ∈ vb then rb x + 1 else rr x, ?_⟩
            have par_vb : ∀ x ∈ vb, x ≠ b → (if x = b then some n else if x ∈ vb then pb x else pr x) = pb x := by
              intro x hx hxb; simp [hxb, hx]
            have par_vr : ∀ x ∈ vr, (if x = b then some n else if x ∈ vb then pb x else pr x) = pr x := by
              intro x hx; simp [hvr_b x hx, hvr_vb x hx]
            have rank_vb : ∀ x ∈ vb, (if x ∈ vb then rb x + 1 else rr x) = rb x + 1 := by intro x hx; simp [hx]
            have rank_nvb : ∀ x, x ∉ vb → (if x ∈ vb then rb x + 1 else rr x) = rr x := by intro x hx; simp [hx]
            refine ⟨?_, ?_, ?_, ?_, ?_, ?_, ?_⟩
            · intro x
              rw [hr.mem x, hb.mem x, List.mem_append, or_left_comm, or_assoc]
            · intro x hx
              rcases List.mem_append.1 hx with h | h
              · exact hb.disj x h
              · exact fun hxm => hr.disj x h ((hb.mem x).2 (.inr hxm))
            · intro v hv
              rcases List.mem_append.1 hv with h | h
              · exact hb.node v h
              · exact hr.node v h
            · rw [rank_nvb n hn_vb]; exact hr.rank_n
            · intro v hv
              rcases List.mem_append.1 hv with h | h
              · by_cases hvb : v = b
                · subst hvb
                  refine ⟨n, .inr rfl, by simp, ?_, harc v (List.mem_cons_self ..)⟩
                  rw [rank_vb v h, rank_nvb n hn_vb, hr.rank_n, hb.rank_start]
                · obtain ⟨p, hp, hpp, hrk, ha⟩ := hb.up v h hvb
                  refine ⟨p, .inl (List.mem_append.2 (.inl hp)), ?_, ?_, ha⟩
                  · rw [par_vb v h hvb]; exact hpp
                  · rw [rank_vb v h, rank_vb p hp, hrk]
              · obtain ⟨p, hp, hpp, hrk, ha⟩ := hr.up v h
                refine ⟨p, ?_, ?_, ?_, ha⟩
                · rcases hp with hp | hp
                  · exact .inl (List.mem_append.2 (.inr hp))
                  · exact .inr hp
                · rw [par_vr v h]; exact hpp
                · rw [rank_nvb v (hvr_vb v h), hrk]
                  rcases hp with hp | hp
                  · rw [rank_nvb p (hvr_vb p hp)]
                  · subst hp; rw [rank_nvb p hn_vb]
            · intro v hv w haw
              rcases List.mem_append.1 hv with h | h
              · rcases hb.closed v h w haw with ⟨hw, hpw⟩ | ⟨hd, hh⟩
                · have hwb : w ≠ b := by intro e; subst e; rw [hb.par_start] at hpw; cases hpw
                  exact .inl ⟨List.mem_append.2 (.inl hw), by rw [par_vb w hw hwb]; exact hpw⟩
                · rcases hh with ⟨hvb, _, hwn⟩ | ⟨hvb, hpv⟩
                  · subst hvb; subst hwn
                    exact .inr ⟨hd, by simp⟩
                  · exact .inr ⟨hd, by rw [par_vb v h hvb]; exact hpv⟩
              · rcases hr.closed v h w haw with ⟨hw, hpw⟩ | ⟨hd, hpv⟩
                · exact .inl ⟨List.mem_append.2 (.inr hw), by rw [par_vr w hw]; exact hpw⟩
                · exact .inr ⟨hd, by rw [par_vr v h]; exact hpv⟩
            · intro c hc
              rcases List.mem_cons.1 hc with e | hc'
              · subst e
                exact .inr ⟨List.mem_append.2 (.inl hb.start), by simp⟩
              · rcases hr.sons c hc' with hsk | ⟨hcv, hpc⟩
                · exact .inl hsk
                · exact .inr ⟨List.mem_append.2 (.inr hcv), by rw [par_vr c hcv]; exact hpc⟩
      obtain ⟨vis, par, rank, hr⟩ := key nbs (n :: met) m' (List.mem_cons_self ..)
        (fun b hb => (G.mem_outNeighbors ho b).1 hb) h
      have hn_vis : n ∉ vis := fun hh => hr.disj n hh (List.mem_cons_self ..)
      refine ⟨n :: vis, fun x => if x = n then none else par x, rank, ?_⟩
      refine ⟨?_, ?_, List.mem_cons_self .., ?_, by simp, hr.rank_n, ?_, ?_⟩
      · intro x
        rw [hr.mem x, List.mem_cons, List.mem_cons, or_left_comm, or_assoc]
      · intro x hx
        rcases List.mem_cons.1 hx with e | hx'
        · subst e; exact hnm
        · exact fun hxm => hr.disj x hx' (List.mem_cons_of_mem _ hxm)
      · intro v hv
        rcases List.mem_cons.1 hv with e | hv'
        · subst e; exact hnode
        · exact hr.node v hv'
      · intro v hv hvn
        rcases List.mem_cons.1 hv with e | hv'
        · exact absurd e hvn
        · obtain ⟨p, hp, hpp, hrk, ha⟩ := hr.up v hv'
          refine ⟨p, ?_, by simp [hvn]; exact hpp, hrk, ha⟩
          rcases hp with hp | hp
          · exact List.mem_cons_of_mem _ hp
          · subst hp; exact List.mem_cons_self ..
      · intro v hv w haw
        rcases List.mem_cons.1 hv with e | hv'
        · subst e
          have hwn : w ∈ nbs := (G.mem_outNeighbors ho w).2 haw
          rcases hr.sons w hwn with hsk | ⟨hwv, hpw⟩
          · exact .inr ⟨hsk.1, .inl ⟨rfl, hsk.2.1, hsk.2.2⟩⟩
          · have hwne : w ≠ v := fun e => hn_vis (e ▸ hwv)
            exact .inl ⟨List.mem_cons_of_mem _ hwv, by simp [hwne]; exact hpw⟩
        · have hvn : v ≠ n := fun e => hn_vis (e ▸ hv')
          rcases hr.closed v hv' w haw with ⟨hw, hpw⟩ | ⟨hd, hpv⟩
          · have hwne : w ≠ n := fun e => hn_vis (e ▸ hw)
            exact .inl ⟨List.mem_cons_of_mem _ hw, by simp [hwne]; exact hpw⟩
          · exact .inr ⟨hd, .inr ⟨hvn, by simp [hvn]; exact hpv⟩⟩

end T
end Bpp.Graph
