import BppProofs.Lemmas.Observer
import BppProofs.Lemmas.GraphSpec
/-! Helper lemmas for C14: graph + observers (`World`), notifications delivered to every observer.  What a member of the
base observer does to the world is said once per member (`World.Step`: as many observer slots, and a world in order is
left in order with the same direction flag); the histories of C14 and the tree and DAG wrappers of C15 read off what they need. -/
set_option linter.unusedSimpArgs false
set_option linter.unusedVariables false
namespace Bpp
namespace Graph
open AL

theorem notify_edges {N E : Nat → Bool} (l : List Nat) {o : Obs} (hi : OInvP N E o) :
    OInvP N (fun e => E e && !l.contains e) (l.foldl Obs.deletedEdge o) := by
  induction l generalizing o E with
  | nil => exact hi.mono (fun _ h => h) (fun e h => by simpa using h)
  | cons e r ih =>
    refine (ih (deletedEdge_inv (E' := fun e' => E e' && !(e' == e)) hi (fun _ h => h) fun e' hne h => by simp [h, hne])).mono
      (fun _ h => h) fun e' h => ?_
    rw [List.contains_cons, Bool.not_or, ← Bool.and_assoc]; exact h

theorem notify_nodes {N E : Nat → Bool} (l : List Nat) {o : Obs} (hi : OInvP N E o) :
    OInvP (fun n => N n && !l.contains n) E (l.foldl Obs.deletedNode o) := by
  induction l generalizing o N with
  | nil => exact hi.mono (fun n h => by simpa using h) (fun _ h => h)
  | cons n r ih =>
    refine (ih (deletedNode_inv (N' := fun n' => N n' && !(n' == n)) hi (fun n' hne h => by simp [h, hne]) fun _ h => h)).mono
      (fun n' h => ?_) fun _ h => h
    rw [List.contains_cons, Bool.not_or, ← Bool.and_assoc]; exact h

theorem notify_all {N E : Nat → Bool} (evs : List Event) {o : Obs} (hi : OInvP N E o) :
    OInvP (fun n => N n && !(notifiedNodes evs).contains n) (fun e => E e && !(notifiedEdges evs).contains e)
      (evs.foldl Obs.notify o) := by
  induction evs generalizing o N E with
  | nil => exact hi.mono (fun n h => by simpa [notifiedNodes] using h) (fun e h => by simpa [notifiedEdges] using h)
  | cons ev r ih =>
    cases ev with
    | edges l =>
      refine (ih (notify_edges l hi)).mono (fun n h => h) fun e h => ?_
      show (E e && !(l ++ notifiedEdges r).contains e) = true
      rw [List.contains_append, Bool.not_or, ← Bool.and_assoc]; exact h
    | nodes l =>
      refine (ih (notify_nodes l hi)).mono (fun n h => ?_) fun e h => h
      show (N n && !(l ++ notifiedNodes r).contains n) = true
      rw [List.contains_append, Bool.not_or, ← Bool.and_assoc]; exact h

/-- after the graph went from `g` to `g'` and told the observers, an observer that was in order
against `g` is in order against `g'` -/
theorem deliver_inv {g g' : G} (hp : g.pending = []) (hn : Notified g g') {o : Obs} (hi : OInv g o) :
    OInv g' (g'.pending.foldl Obs.notify o) := by
  obtain ⟨evs, hpe, hnn, hne⟩ := hn
  rw [hp, List.nil_append] at hpe
  rw [hpe]
  refine (notify_all evs hi).mono ?_ ?_
  · intro n h
    simp only [Bool.and_eq_true, Bool.not_eq_true', List.contains_eq_mem, decide_eq_false_iff_not] at h
    cases h' : g'.hasNode n
    · exact absurd (hnn n h.1 h') h.2
    · rfl
  · intro e h
    simp only [Bool.and_eq_true, Bool.not_eq_true', List.contains_eq_mem, decide_eq_false_iff_not] at h
    cases h' : g'.hasEdge e
    · exact absurd (hne e h.1 h') h.2
    · rfl

/-- graph consistent, nothing pending, every observer in order -/
structure WInv (w : World) : Prop where
  graph : Consistent w.g
  quiet : w.g.pending = []
  obs : ∀ k o, w.getObs k = some o → OInv w.g o

theorem consistent_quiet {g : G} (hc : Consistent g) : Consistent { g with pending := [] } :=
  hc.of_same rfl rfl rfl (Nat.le_refl _) (Nat.le_refl _)

theorem getObs_setObs (w : World) (k j : Nat) (o : Obs) (hk : k < w.obs.length) :
    (w.setObs k o).getObs j = if k = j then some o else w.getObs j := by
  simp only [World.getObs, World.setObs, List.getElem?_set]
  by_cases h : k = j
  · subst h; simp [hk]
  · simp [h]

theorem getObs_lt {w : World} {k : Nat} {o : Obs} (h : w.getObs k = some o) : k < w.obs.length := by
  unfold World.getObs at h
  rcases hv : w.obs[k]? with _ | x
  · simp [hv] at h
  · exact (List.getElem?_eq_some_iff.mp hv).1

theorem getObs_deliver (w : World) (k : Nat) :
    w.deliver.getObs k = (w.getObs k).map (fun o => w.g.pending.foldl Obs.notify o) := by
  simp only [World.deliver, World.getObs, List.getElem?_map]
  rcases w.obs[k]? with _ | x
  · rfl
  · cases x <;> rfl

/-- the graph moved from `w.g` to `g'` (consistent, observers told): delivering keeps the world in order -/
theorem deliver_winv {w : World} (hw : WInv w) {g' : G} (hc' : Consistent g') (hn : Notified w.g g') :
    WInv ({ w with g := g' }.deliver) := by
  refine ⟨consistent_quiet hc', rfl, fun k o hk => ?_⟩
  rw [getObs_deliver, show ({ w with g := g' } : World).getObs k = w.getObs k from rfl] at hk
  rcases h0 : w.getObs k with _ | o0 <;> rw [h0] at hk <;> cases hk
  exact deliver_inv hw.quiet hn (hw.obs k o0 h0)

/-- the property holds of the world left by the operation, whether it succeeded or raised
(nothing is claimed of an undefined call) -/
def OOut.All {α : Type} (P : World → Prop) : OOut α → Prop
  | .ok _ w => P w
  | .exc _ w => P w
  | .ub => True

theorem winv_same_graph {w : World} (hw : WInv w) (k : Nat) (o' : Obs) (hk : k < w.obs.length) (ho' : OInv w.g o') :
    WInv (w.setObs k o') := by
  refine ⟨hw.graph, hw.quiet, ?_⟩
  intro j o hj
  rw [getObs_setObs _ _ _ _ hk] at hj
  split at hj
  · injection hj with hj; subst hj; exact ho'
  · exact hw.obs j o hj

/-- the graph grew (nothing deleted, nothing pending): every observer stays in order -/
theorem winv_graph_grow {w : World} (hw : WInv w) {g' : G} (hc' : Consistent g') (hq : g'.pending = [])
    (hn : ∀ n, w.g.hasNode n = true → g'.hasNode n = true) (he : ∀ e, w.g.hasEdge e = true → g'.hasEdge e = true) :
    WInv { w with g := g' } :=
  ⟨hc', hq, fun j o hj => (hw.obs j o hj).mono hn he⟩

theorem winv_grow {w : World} (hw : WInv w) {g' : G} (hc' : Consistent g') (hq : g'.pending = [])
    (hn : ∀ n, w.g.hasNode n = true → g'.hasNode n = true) (he : ∀ e, w.g.hasEdge e = true → g'.hasEdge e = true)
    (k : Nat) (o' : Obs) (hk : k < w.obs.length) (ho' : OInv g' o') :
    WInv ({ w with g := g' }.setObs k o') :=
  winv_same_graph (winv_graph_grow hw hc' hq hn he) k o' hk ho'

theorem Inverse.grow {v : Vec} {m : List (Nat × Nat)} (h : Inverse v m) (n : Nat) : Inverse (Vec.grow v n) m :=
  ⟨h.asc, fun i a hi => h.fwd i a (by rwa [Vec.get_grow] at hi), fun a i ha => by rw [Vec.get_grow]; exact h.bwd a i ha⟩

/-- the world an operation leaves when it keeps the invariant whether it succeeds or raises (an undefined call is not made) -/
theorem all_world {α : Type} {w : World} {r : OOut α} (hw : WInv w) (h : r.All WInv) : WInv (r.world w) := by
  cases r <;> first | exact h | exact hw

theorem localOp_inv {w : World} (hw : WInv w) (k : Nat) (f : G → Obs → Except Kind Obs)
    (hf : ∀ o o', OInv w.g o → f w.g o = .ok o' → OInv w.g o') : WInv ((w.localOp k f).world w) := by
  refine all_world hw ?_
  unfold World.localOp
  rcases hk : w.getObs k with _ | o
  · trivial
  · simp only
    rcases hr : f w.g o with kd | o'
    · exact hw
    · exact winv_same_graph hw k o' (getObs_lt hk) (hf o o' (hw.obs k o hk) hr)

/-! ### what a member of the base observer does to the world -/

theorem deliver_len (w : World) : w.deliver.obs.length = w.obs.length := by simp [World.deliver]
theorem setObs_len (w : World) (k : Nat) (o : Obs) : (w.setObs k o).obs.length = w.obs.length := by simp [World.setObs]

/-- the observer slots stay as many, and a world in order is left in order, its graph with the same direction flag -/
def World.Step (w w' : World) : Prop :=
  w'.obs.length = w.obs.length ∧ (WInv w → WInv w' ∧ w'.g.directed = w.g.directed)

/-- only observers changed: as many slots, the same graph, and a world in order is left in order -/
def World.ObsStep (w w' : World) : Prop := w'.obs.length = w.obs.length ∧ w'.g = w.g ∧ (WInv w → WInv w')

namespace World.Step

theorem refl (w : World) : Step w w := ⟨rfl, fun hw => ⟨hw, rfl⟩⟩

theorem trans {w w1 w2 : World} (h1 : Step w w1) (h2 : Step w1 w2) : Step w w2 :=
  ⟨h2.1.trans h1.1, fun hw => ⟨(h2.2 (h1.2 hw).1).1, (h2.2 (h1.2 hw).1).2.trans (h1.2 hw).2⟩⟩

theorem deliver {w : World} {g' : G} (h : WInv w → Consistent g' ∧ Notified w.g g' ∧ g'.directed = w.g.directed) :
    Step w ({ w with g := g' }.deliver) :=
  ⟨deliver_len _, fun hw => ⟨deliver_winv hw (h hw).1 (h hw).2.1, (h hw).2.2⟩⟩

theorem setObs_same {w w1 : World} (h : Step w w1) (k : Nat) (o' : Obs) (hk : k < w1.obs.length) (ho : WInv w1 → OInv w1.g o') :
    Step w (w1.setObs k o') :=
  ⟨(setObs_len w1 k o').trans h.1, fun hw => ⟨winv_same_graph (h.2 hw).1 k o' hk (ho (h.2 hw).1), (h.2 hw).2⟩⟩

end World.Step

theorem World.ObsStep.step {w w' : World} (h : World.ObsStep w w') : World.Step w w' :=
  ⟨h.1, fun hw => ⟨h.2.2 hw, by rw [h.2.1]⟩⟩

theorem OOut.All.imp {α : Type} {P Q : World → Prop} {r : OOut α} (h : r.All P) (hPQ : ∀ w, P w → Q w) : r.All Q := by
  cases r with
  | ok a w => exact hPQ w h
  | exc k w => exact hPQ w h
  | ub => trivial

theorem OOut.All.step {α : Type} {w : World} {r : OOut α} (h : r.All (World.ObsStep w)) : r.All (World.Step w) :=
  h.imp fun _ h' => h'.step

theorem OOut.All.inv {α : Type} {w : World} {r : OOut α} (h : r.All (World.Step w)) (hw : WInv w) : r.All WInv :=
  h.imp fun _ h' => (h'.2 hw).1

theorem createNode_grows (g : G) : ∃ g', g.createNode = .ok g.nextNode g' ∧ g'.pending = g.pending ∧
    (∀ n, g.hasNode n = true → g'.hasNode n = true) ∧ (∀ e, g.hasEdge e = true → g'.hasEdge e = true) :=
  ⟨_, rfl, rfl, fun n h => by rw [(G.createNode_created g).hasNode, h, Bool.or_true], fun e h => h⟩

theorem world_createNode_step (w : World) (k a : Nat) : (w.createNode k a).All (World.Step w) := by
  unfold World.createNode
  rcases hk : w.getObs k with _ | o
  · trivial
  · simp only
    split
    · exact World.Step.refl w
    · obtain ⟨g', h1, hp, hn, he⟩ := createNode_grows w.g
      have hg : WInv w → Consistent g' ∧ g'.pending = [] := fun hw =>
        ⟨by have := G.createNode_consistent hw.graph; rw [h1] at this; exact this, hp.trans hw.quiet⟩
      have hd : g'.directed = w.g.directed := by have := G.dir_createNode w.g; rw [h1] at this; exact this
      rw [h1]
      simp only
      rcases hr : World.associateNode g' o a w.g.nextNode with kd | o'
      · exact ⟨rfl, fun hw => ⟨winv_graph_grow hw (hg hw).1 (hg hw).2 hn he, hd⟩⟩
      · exact ⟨setObs_len _ _ _, fun hw => ⟨winv_grow hw (hg hw).1 (hg hw).2 hn he k o' (getObs_lt hk)
          (associateNode_inv ((hw.obs k o hk).mono hn he) hr), hd⟩⟩

theorem link_grows {g g' : G} {a b e : Nat} (hc : Consistent g) (h : G.link a b g = .ok e g') :
    Consistent g' ∧ g'.pending = g.pending ∧ g.hasEdge e = false ∧ g'.hasEdge e = true ∧
    (∀ n, g.hasNode n = true → g'.hasNode n = true) ∧ (∀ e', g.hasEdge e' = true → g'.hasEdge e' = true) := by
  obtain ⟨hc', l⟩ := G.link_ok hc h
  refine ⟨hc', l.rest.2.2.2.2, l.absent hc, by simp [G.hasEdge, has, l.find_edges], fun n hn => (l.hasNode n).trans hn,
    fun e' he' => ?_⟩
  rw [G.hasEdge, l.edges]; exact G.hasEdge_set_superset _ _ _ he'

theorem link_step {w : World} {k : Nat} {o o' : Obs} (hk : w.getObs k = some o) {ia ib e : Nat} {g' : G}
    (hl : G.link ia ib w.g = .ok e g')
    (ho' : OInv g' o → Vec.get o.gE e = none → g'.hasEdge e = true → OInv g' o') :
    World.Step w ({ w with g := g' }.setObs k o') := by
  refine ⟨setObs_len _ _ _, fun hw => ⟨?_, by have := G.dir_link w.g ia ib; rw [hl] at this; exact this⟩⟩
  obtain ⟨hc', hp, hfresh, hlive, hn, he⟩ := link_grows hw.graph hl
  have ho := hw.obs k o hk
  refine winv_grow hw hc' (hp.trans hw.quiet) hn he k _ (getObs_lt hk) (ho' (ho.mono hn he) ?_ hlive)
  -- the slot of the fresh edge id is free: an object there would be associated to an edge the graph did not have
  rcases hg : Vec.get o.gE e with _ | y
  · rfl
  · rw [ho.e_live y e (ho.edges.fwd e y hg)] at hfresh; cases hfresh

theorem world_link_step (w : World) (k a b : Nat) (x : Option Obj) : (w.link k a b x).All (World.Step w) := by
  unfold World.link
  rcases hk : w.getObs k with _ | o
  · trivial
  · simp only
    rcases find a o.Ng with _ | ia
    · exact World.Step.refl w
    · rcases find b o.Ng with _ | ib
      · exact World.Step.refl w
      · cases x with
        | none =>
          simp only [Bool.false_eq_true, if_false]
          rcases hl : G.link ia ib w.g with ⟨e, g'⟩ | g'
          · exact link_step hk hl fun ho' hslot _ =>
              ⟨ho'.nodes, (ho'.edges.grow (e + 1)).clear_empty (by rw [Vec.get_grow]; exact hslot), ho'.nidx, ho'.eidx,
                ho'.n_live, ho'.e_live⟩
          · cases G.link_exc hl; exact World.Step.refl w
        | some x =>
          simp only
          split
          · exact World.Step.refl w
          · rename_i hx
            rcases hl : G.link ia ib w.g with ⟨e, g'⟩ | g'
            · exact link_step hk hl fun ho' hslot hlive =>
                ⟨ho'.nodes, ho'.edges.add (find_none_of_has_false (by simpa [Obs.hasEdge] using hx)) hslot, ho'.nidx, ho'.eidx,
                  ho'.n_live, live_set ho'.e_live hlive⟩
            · cases G.link_exc hl; exact World.Step.refl w

/-- what a successful `link(A, B, E)` did -/
theorem world_link_ok_spec {w w' : World} {k : Nat} {a b x : Obj} {u : Unit} (hw : WInv w)
    (h : w.link k a b (some x) = .ok u w') :
    ∃ o o' ia ib e, w.getObs k = some o ∧ w'.getObs k = some o' ∧ find a o.Ng = some ia ∧ find b o.Ng = some ib ∧
      o'.Ng = o.Ng ∧ w'.g.getEdge ia ib = some e ∧ o'.edgeFromGid e = some x := by
  unfold World.link at h
  rcases hk : w.getObs k with _ | o
  · simp [hk] at h
  rcases ha : find a o.Ng with _ | ia
  · simp [hk, ha] at h
  rcases hb : find b o.Ng with _ | ib
  · simp [hk, ha, hb] at h
  simp only [hk, ha, hb] at h
  split at h; · cases h
  rcases hl : G.link ia ib w.g with ⟨e, g'⟩ | g'
  · rw [hl] at h
    simp only at h
    injection h with _ h; subst h
    exact ⟨o, { o with gE := Vec.put (Vec.grow o.gE (e + 1)) e (some x), Eg := AL.set x e o.Eg },
      ia, ib, e, rfl, (getObs_setObs _ k k _ (getObs_lt hk)).trans (by simp), ha, hb, rfl,
      ((G.link_ok hw.graph hl).2.outE ia ib).trans (by simp), edgeFromGid_put o _ x _⟩
  · rw [hl] at h; cases h

theorem world_link_keeps_object {w w' : World} {k : Nat} {a b x : Obj} {u : Unit} (hw : WInv w)
    (h : w.link k a b (some x) = .ok u w') :
    ∃ o', w'.getObs k = some o' ∧ World.edgeLinking w' o' a b = some (some x) ∧ WInv w' := by
  obtain ⟨o, o', ia, ib, e, hk, hk', ha, hb, hNg, he, hx⟩ := world_link_ok_spec hw h
  have hinv := (world_link_step w k a b (some x)).inv hw
  rw [h] at hinv
  refine ⟨o', hk', ?_, hinv⟩
  simp [World.edgeLinking, hNg, ha, hb, he, hx]

theorem world_unlink_step (w : World) (k a b : Nat) : (w.unlink k a b).All (World.Step w) := by
  unfold World.unlink
  rcases w.getObs k with _ | o
  · trivial
  · simp only
    rcases find a o.Ng with _ | ia
    · exact World.Step.refl w
    · rcases find b o.Ng with _ | ib
      · exact World.Step.refl w
      · simp only
        have h := fun hw : WInv w => And.intro (G.unlink_consistent hw.graph ia ib).state
          (And.intro (G.unlink_notified hw.graph ia ib) (G.dir_unlink hw.graph ia ib).state)
        generalize G.unlink ia ib w.g = r at h
        rcases r with ⟨l, g'⟩ | g' <;> exact World.Step.deliver h

theorem world_deleteNode_step (w : World) (k a : Nat) : (w.deleteNode k a).All (World.Step w) := by
  unfold World.deleteNode
  rcases w.getObs k with _ | o
  · trivial
  · simp only
    rcases find a o.Ng with _ | id
    · exact World.Step.refl w
    · simp only
      have h := fun hw : WInv w => And.intro (G.deleteNode_consistent hw.graph id).state
        (And.intro (G.deleteNode_notified hw.graph id) (G.dir_deleteNode hw.graph id).state)
      generalize G.deleteNode id w.g = r at h
      rcases r with ⟨u, g'⟩ | g'
      · have h1 : World.Step w ({ w with g := g' } : World).deliver := World.Step.deliver h
        simp only
        rcases hk1 : ({ w with g := g' } : World).deliver.getObs k with _ | o1
        · trivial
        · simp only
          split
          · rcases hd : World.dissociateNodeO o1 a with kd | o2
            · exact h1
            · exact h1.setObs_same k o2 (getObs_lt hk1) (fun hw1 => dissociateNode_inv (hw1.obs k o1 hk1) hd)
          · exact h1
      · exact World.Step.deliver h

theorem world_createNodeFrom_step (w : World) (k origin a : Nat) (x : Option Obj) :
    (w.createNodeFrom k origin a x).All (World.Step w) := by
  -- `createNode`, then `link` on the world it left
  have both : (match w.createNode k a with
      | .ok _ w1 => w1.link k origin a x
      | r => r).All (World.Step w) := by
    have h1 := world_createNode_step w k a
    rcases hr : w.createNode k a with ⟨u, w1⟩ | ⟨kd, w1⟩ | _ <;> rw [hr] at h1
    · exact (world_link_step w1 k origin a x).imp fun _ h2 => h1.trans h2
    · exact h1
    · trivial
  unfold World.createNodeFrom
  rcases w.getObs k with _ | o
  · trivial
  · simp only
    split
    · exact World.Step.refl w
    · cases x with
      | none => simp only [Bool.false_eq_true, if_false]; exact both
      | some x =>
        simp only
        split
        · exact World.Step.refl w
        · exact both

/-- a graph-level mutator called on the shared graph, its notifications delivered: the world stays in order when the state
it leaves is consistent and the observers were told of everything that disappeared -/
theorem graphOp_winv {α : Type} {w : World} (hw : WInv w) (r : GOut α) (hc : Consistent r.state) (hn : Notified w.g r.state) :
    WInv (w.graphOp r).2 := by
  cases r <;> exact deliver_winv hw hc hn

theorem G.Outcome.winv {α : Type} {w : World} {s : Option (α × Spec)} {r : GOut α} (h : G.Outcome w.g s r) (hw : WInv w) :
    WInv (w.graphOp r).2 :=
  graphOp_winv hw r (h.1.consistent hw.graph) h.2

theorem world_drop_inv {w : World} (hw : WInv w) (k : Nat) : WInv (w.drop k) := by
  refine ⟨hw.graph, hw.quiet, ?_⟩
  intro j o hj
  simp only [World.drop, World.getObs, List.getElem?_set] at hj
  split at hj
  · split at hj <;> simp at hj
  · exact hw.obs j o (by simpa [World.getObs] using hj)

theorem Vec.get_replicate (L i : Nat) : Vec.get (List.replicate L none) i = none := by
  simp only [Vec.get, List.getElem?_replicate]; split <;> rfl

/-- storing the pairs of `l` from the last to the first: a slot holds the object of its pair (the pairs agree on every slot
they share, so it does not matter which one wrote last) -/
theorem get_foldr_put (l : List (Nat × Nat)) (L : Nat) (hb : ∀ p ∈ l, p.2 < L)
    (hinj : ∀ p ∈ l, ∀ q ∈ l, p.2 = q.2 → p.1 = q.1) :
    (l.foldr (fun p v => Vec.put v p.2 (some p.1)) (List.replicate L none)).length = L ∧
    ∀ i a, Vec.get (l.foldr (fun p v => Vec.put v p.2 (some p.1)) (List.replicate L none)) i = some a ↔ (a, i) ∈ l := by
  induction l with
  | nil => simp [Vec.get_replicate]
  | cons p r ih =>
    obtain ⟨hl, hg⟩ := ih (fun q hq => hb q (List.mem_cons_of_mem _ hq))
      (fun q hq q' hq' => hinj q (List.mem_cons_of_mem _ hq) q' (List.mem_cons_of_mem _ hq'))
    refine ⟨by rw [List.foldr_cons, Vec.length_put, hl], fun i a => ?_⟩
    rw [List.foldr_cons, Vec.get_put, hl, List.mem_cons]
    by_cases hi : p.2 = i
    · subst hi
      simp only [hb p List.mem_cons_self, and_self, if_true, Option.some.injEq]
      refine ⟨fun h => Or.inl (h ▸ rfl), fun h => h.elim (fun h => (congrArg Prod.fst h).symm) fun h => ?_⟩
      exact hinj p List.mem_cons_self _ (List.mem_cons_of_mem _ h) rfl
    · simp only [hi, false_and, if_false, hg]
      exact ⟨Or.inr, fun h => h.resolve_left fun h => hi (congrArg Prod.snd h).symm⟩

theorem Inverse.rebuild_sub {v : Vec} {m m' : List (Nat × Nat)} (h : Inverse v m) (hasc : Asc m')
    (hsub : ∀ a i, find a m' = some i → find a m = some i) (L : Nat) (hL : v.length ≤ L) :
    Inverse (m'.foldl (fun v p => Vec.put v p.2 (some p.1)) (List.replicate L none)) m' := by
  have hget : ∀ p ∈ m'.reverse, Vec.get v p.2 = some p.1 :=
    fun p hp => h.bwd _ _ (hsub _ _ ((mem_iff_find hasc p.1 p.2).mp (List.mem_reverse.1 hp)))
  have key := (get_foldr_put m'.reverse L (fun p hp => Nat.lt_of_lt_of_le (Vec.get_eq_some_lt (hget p hp)) hL)
    (fun p hp q hq hpq => by have := hget p hp; rw [hpq, hget q hq] at this; exact (Option.some.inj this).symm)).2
  rw [List.foldl_eq_foldr_reverse]
  exact ⟨hasc, fun i a hi => (mem_iff_find hasc a i).mp (List.mem_reverse.1 ((key i a).1 hi)),
    fun a i ha => (key i a).2 (List.mem_reverse.2 (find_some_mem ha))⟩

/-- a vector rebuilt from the pairs of a map that was inverse of some vector is again inverse of it -/
theorem Inverse.rebuild {v : Vec} {m : List (Nat × Nat)} (h : Inverse v m) (L : Nat) (hL : v.length ≤ L) :
    Inverse (m.foldl (fun v p => Vec.put v p.2 (some p.1)) (List.replicate L none)) m :=
  h.rebuild_sub h.asc (fun _ _ h => h) L hL

theorem asc_filterMap_key {l : List (Nat × Nat)} (f : Nat × Nat → Option (Nat × Nat)) (hf : ∀ p q, f p = some q → q.1 = p.1)
    (h : Asc l) : Asc (l.filterMap f) := by
  induction l with
  | nil => exact asc_nil
  | cons p r ih =>
    simp only [List.filterMap_cons]
    rcases hfp : f p with _ | q
    · exact ih (asc_tail h)
    · simp only [Asc, AL.keys, List.map_cons, List.pairwise_cons]
      refine ⟨?_, ih (asc_tail h)⟩
      intro x hx
      simp only [List.mem_map, List.mem_filterMap] at hx
      obtain ⟨q', ⟨p', hp', hfp'⟩, rfl⟩ := hx
      rw [hf p q hfp, hf p' q' hfp']
      exact asc_head_lt h p'.1 (List.mem_map.mpr ⟨p', hp', rfl⟩)

/-- the restriction of an index map to the objects registered in an id map -/
theorem find_restrict (ng ni : List (Nat × Nat)) (hng : Asc ng) (a : Nat) :
    find a (ng.filterMap (fun p => (find p.1 ni).map (fun i => (p.1, i)))) = if (find a ng).isSome then find a ni else none := by
  have hasc : Asc (ng.filterMap (fun p => (find p.1 ni).map (fun i => (p.1, i)))) :=
    asc_filterMap_key _ (by intro p q h; rcases hf : find p.1 ni with _ | i <;> simp [hf] at h; rw [← h]) hng
  rcases hr : find a (ng.filterMap (fun p => (find p.1 ni).map (fun i => (p.1, i)))) with _ | i
  · -- not in the restriction: not registered, or without index
    rcases hg : find a ng with _ | id
    · simp [hr]
    · simp only [Option.isSome_some, if_true]
      rcases hi : find a ni with _ | i
      · exact hr
      · have : (a, i) ∈ ng.filterMap (fun p => (find p.1 ni).map (fun i => (p.1, i))) :=
          List.mem_filterMap.mpr ⟨(a, id), find_some_mem hg, by simp [hi]⟩
        rw [(mem_iff_find hasc a i).mp this] at hr; cases hr
  · have hm := find_some_mem hr
    simp only [List.mem_filterMap] at hm
    obtain ⟨p, hp, hfp⟩ := hm
    rcases hi : find p.1 ni with _ | i' <;> simp only [hi, Option.map_none, Option.map_some, Option.some.injEq, Prod.mk.injEq] at hfp
    · cases hfp
    · obtain ⟨h1, h2⟩ := hfp
      have : find p.1 ng = some p.2 := (mem_iff_find hng p.1 p.2).mp hp
      rw [← h1] at hr ⊢; rw [hr, this, hi, h2]; rfl

theorem copyObs_inv {g : G} {o : Obs} (hi : OInv g o) : OInv g (World.copyObs o) := by
  -- the index maps restricted to registered objects are inverse of the index vectors rebuilt from them
  have restrict : ∀ (v : Vec) (ng ni : List (Nat × Nat)), Asc ng → Inverse v ni →
      Inverse ((ng.filterMap (fun p => (find p.1 ni).map (fun i => (p.1, i)))).foldl (fun v p => Vec.put v p.2 (some p.1))
        (List.replicate v.length none)) (ng.filterMap (fun p => (find p.1 ni).map (fun i => (p.1, i)))) := by
    intro v ng ni hng hinv
    refine hinv.rebuild_sub (asc_filterMap_key _ (fun p q h => ?_) hng) (fun a i h => ?_) _ (Nat.le_refl _)
    · rcases hf : find p.1 ni with _ | i <;> simp [hf] at h; rw [← h]
    · rw [find_restrict ng ni hng] at h
      split at h
      · exact h
      · cases h
  exact ⟨hi.nodes.rebuild _ (Nat.le_refl _), hi.edges.rebuild _ (Nat.le_refl _),
    restrict o.iN o.Ng o.Ni hi.nodes.asc hi.nidx, restrict o.iE o.Eg o.Ei hi.edges.asc hi.eidx, hi.n_live, hi.e_live⟩

theorem World.copy_ok {w w' : World} {j k : Nat} {o : Obs} {u : Unit} (hj : w.getObs j = some o)
    (h : w.copy j k = .ok u w') : w' = w.setObs k (World.copyObs o) := by
  unfold World.copy at h
  rw [hj] at h
  simp only at h
  split at h
  · cases h
  · injection h with _ h; exact h.symm

theorem world_copy_step (w : World) (j k : Nat) : (w.copy j k).All (World.ObsStep w) := by
  unfold World.copy
  rcases hj : w.getObs j with _ | o
  · trivial
  · simp only
    split
    · trivial
    · refine ⟨setObs_len _ _ _, rfl, fun hw => ?_⟩
      by_cases hk : k < w.obs.length
      · exact winv_same_graph hw k _ hk (copyObs_inv (hw.obs j o hj))
      · have : w.setObs k (World.copyObs o) = w := by
          unfold World.setObs
          rw [List.set_eq_of_length_le (Nat.le_of_not_lt hk)]
        rw [this]; exact hw

end Graph
end Bpp
