import BppModel.Hmm
/-!
Helper lemmas for C13: refinement of the cached likelihood objects (`Hmm.RescObj`, `Hmm.LogObj`,
`Hmm.LowObj`) to the cache-free specification, and `setBreakPoints` on them — a vector refused by the validity check
(`Hmm.breaksOk`; what it accepts is said in `HmmFlags`) leaves the object unchanged, and the break points of every
object reached without a raise are accepted ones.  Pure state-machine reasoning: generic over the
scalar type (no arithmetic fact is used), so the statements also hold for the `Float` instance.
-/
namespace Bpp.Hmm
open Bpp

variable {α : Type} [Scalar α]

/-- tables and break points after an operation -/
def nextTab (t : Tables α) : Op α → Tables α
  | .setTables t2 => t2
  | _ => t
def nextBps (bps : List Nat) : Op α → List Nat
  | .setBreaks b2 => b2
  | _ => bps

/-! ### rescaled class -/

def RescObj.run (o : RescObj α) : List (Op α) → List (Ans α)
  | [] => []
  | op :: ops => (o.step op).2 :: RescObj.run (o.step op).1 ops

/-- the reference: a fresh object is built from the current tables for every query; `dv`, `d2v` =
the variables of the last first / second order derivative asked since the last update -/
def rescSpecRun (t : Tables α) (bps : List Nat) (dv d2v : String) : List (Op α) → List (Ans α)
  | [] => []
  | op :: ops => rescSpec (nextTab t op) (nextBps bps op) dv d2v op
      :: rescSpecRun (nextTab t op) (nextBps bps op) (nextDv dv d2v op) (nextD2v d2v op) ops

/-- every cached field holds what `compute…_` would give for the current tables and break points -/
def RescObj.Consistent (o : RescObj α) : Prop :=
  o.fw = rescForward o.tab.p o.tab.e0 (mkSites o.tab.es o.bps)
  ∧ (o.backUpToDate = true → o.back = rescBackward o.tab.p o.tab.es o.fw.scales o.bps)
  ∧ (o.dVar ≠ "" → o.dfw = rescDForward o.tab.p o.tab.e0 o.tab.es (o.tab.dE o.dVar).1 (o.tab.dE o.dVar).2 o.bps o.fw)
  ∧ (o.d2Var ≠ "" → o.d2fw = rescD2Forward o.tab.p o.tab.e0 o.tab.es (o.tab.dE o.d2Var).1 (o.tab.dE o.d2Var).2
        (o.tab.d2E o.d2Var).1 (o.tab.d2E o.d2Var).2 o.bps o.fw
        (rescDForward o.tab.p o.tab.e0 o.tab.es (o.tab.dE o.d2Var).1 (o.tab.dE o.d2Var).2 o.bps o.fw))

theorem rescCompute_some (t : Tables α) (bps : List Nat) (fw : RescFwd α) (h : rescCompute t bps = some fw) :
    fw = rescForward t.p t.e0 (mkSites t.es bps) := by
  unfold rescCompute at h
  split at h
  · exact (Option.some.inj h).symm
  · cases h

theorem RescObj.build_consistent (t : Tables α) (o : RescObj α) (h : RescObj.build t = some o) :
    o.Consistent ∧ o.tab = t ∧ o.bps = [] ∧ o.dVar = "" ∧ o.d2Var = "" := by
  unfold RescObj.build at h
  cases hc : rescCompute t [] with
  | none => rw [hc] at h; cases h
  | some fw =>
    rw [hc] at h
    cases h
    exact ⟨⟨rescCompute_some t [] fw hc, Bool.noConfusion, (absurd rfl ·), (absurd rfl ·)⟩, rfl, rfl, rfl, rfl⟩

theorem RescObj.refreshBack_spec (o : RescObj α) (hc : o.Consistent) :
    o.refreshBack.Consistent ∧ o.refreshBack.tab = o.tab ∧ o.refreshBack.bps = o.bps
      ∧ o.refreshBack.dVar = o.dVar ∧ o.refreshBack.d2Var = o.d2Var
      ∧ posteriorOf o.refreshBack.fw.lik o.refreshBack.back = rescPosterior o.tab.p o.tab.e0 o.tab.es o.bps := by
  obtain ⟨h1, h2, h3, h4⟩ := hc
  unfold RescObj.refreshBack
  cases hb : o.backUpToDate with
  | true =>
    refine ⟨⟨h1, h2, h3, h4⟩, rfl, rfl, rfl, rfl, ?_⟩
    rw [if_pos rfl, h2 hb, h1]; rfl
  | false =>
    refine ⟨⟨h1, fun _ => rfl, h3, h4⟩, rfl, rfl, rfl, rfl, ?_⟩
    rw [if_neg Bool.false_ne_true, h1]; rfl

/-- the precondition of the per-site derivative accessors on the object -/
def namesOkAt (dv d2v : String) : Op α → Prop
  | .dSite _ => dv ≠ ""
  | .d2Site _ => dv ≠ "" ∧ d2v ≠ ""
  | _ => True

theorem RescObj.step_spec (o : RescObj α) (hc : o.Consistent) (op : Op α)
    (hne : (o.step op).2 ≠ .exc) (hvar : op ≠ .d1 "" ∧ op ≠ .d2 "")
    (hnm : namesOkAt o.dVar o.d2Var op) :
    (o.step op).1.Consistent ∧ (o.step op).1.tab = nextTab o.tab op ∧ (o.step op).1.bps = nextBps o.bps op
      ∧ (o.step op).1.dVar = nextDv o.dVar o.d2Var op ∧ (o.step op).1.d2Var = nextD2v o.d2Var op
      ∧ (o.step op).2 = rescSpec (nextTab o.tab op) (nextBps o.bps op) o.dVar o.d2Var op := by
  generalize hs : o.step op = r at hne ⊢
  obtain ⟨o', a⟩ := r
  dsimp only at hne ⊢
  obtain ⟨r1, r2, r3, r5, r6, r4⟩ := RescObj.refreshBack_spec o hc
  obtain ⟨h1, h2, h3, h4⟩ := hc
  cases op with
  | setTables t =>
    cases hcmp : rescCompute t o.bps with
    | none => simp only [RescObj.step, hcmp] at hs; cases hs; exact absurd rfl hne
    | some fw =>
      have hfw := rescCompute_some t o.bps fw hcmp
      simp only [RescObj.step, hcmp] at hs; cases hs
      exact ⟨⟨hfw, Bool.noConfusion, (absurd rfl ·), (absurd rfl ·)⟩, rfl, rfl, rfl, rfl,
        congrArg (fun f => Ans.val f.logLik) hfw⟩
  | setBreaks bps =>
    cases hok : breaksOk o.tab.T bps with
    | false => simp only [RescObj.step, hok, Bool.not_false, if_true] at hs; cases hs; exact absurd rfl hne
    | true =>
      simp only [RescObj.step, hok, Bool.not_true, Bool.false_eq_true, if_false] at hs
      cases hcmp : rescCompute o.tab bps with
      | none => simp only [hcmp] at hs; cases hs; exact absurd rfl hne
      | some fw =>
        have hfw := rescCompute_some o.tab bps fw hcmp
        simp only [hcmp] at hs; cases hs
        exact ⟨⟨hfw, Bool.noConfusion, (absurd rfl ·), (absurd rfl ·)⟩, rfl, rfl, rfl, rfl,
          congrArg (fun f => Ans.val f.logLik) hfw⟩
  | logLik => cases hs; exact ⟨⟨h1, h2, h3, h4⟩, rfl, rfl, rfl, rfl, congrArg (fun f => Ans.val f.logLik) h1⟩
  | posterior => cases hs; exact ⟨r1, r2, r3, r5, r6, congrArg Ans.mat r4⟩
  | posteriorInto _ _ | posteriorSite _ | siteLik _ | siteLiks =>
    cases hs; exact ⟨r1, r2, r3, r5, r6, by simp only [rescSpec, nextTab, nextBps, r4]⟩
  | d1 var =>
    have hv : var ≠ "" := fun h => hvar.1 (h ▸ rfl)
    by_cases hd : var = o.dVar
    · simp only [RescObj.step, bne_eq_false_iff_eq.mpr hd, Bool.false_eq_true, if_false] at hs; cases hs
      refine ⟨⟨h1, h2, h3, h4⟩, rfl, rfl, hd.symm, rfl, ?_⟩
      rw [h3 (hd ▸ hv), ← hd, h1]; rfl
    · simp only [RescObj.step, bne_iff_ne.mpr hd, if_true] at hs; cases hs
      refine ⟨⟨h1, h2, fun _ => rfl, h4⟩, rfl, rfl, rfl, rfl, ?_⟩
      rw [h1]; rfl
  | d2 var =>
    have hv : var ≠ "" := fun h => hvar.2 (h ▸ rfl)
    by_cases hd2 : var = o.d2Var
    · simp only [RescObj.step, bne_eq_false_iff_eq.mpr hd2, Bool.false_eq_true, if_false] at hs; cases hs
      refine ⟨⟨h1, h2, h3, h4⟩, rfl, rfl, ?_, hd2.symm, ?_⟩
      · simp only [nextDv, bne_eq_false_iff_eq.mpr hd2, Bool.false_eq_true, if_false]
      · rw [h4 (hd2 ▸ hv), ← hd2, h1]; rfl
    · simp only [RescObj.step, bne_iff_ne.mpr hd2, if_true] at hs
      by_cases hd : var = o.dVar
      · simp only [bne_eq_false_iff_eq.mpr hd, Bool.false_eq_true, if_false] at hs; cases hs
        have hdfw := h3 (hd ▸ hv)
        rw [← hd] at hdfw
        refine ⟨⟨h1, h2, h3, fun _ => ?_⟩, rfl, rfl, ?_, rfl, ?_⟩
        · simp only; rw [hdfw]
        · simp only [nextDv, bne_iff_ne.mpr hd2, if_true]; exact hd.symm
        · rw [hdfw, h1]; rfl
      · simp only [bne_iff_ne.mpr hd, if_true] at hs; cases hs
        refine ⟨⟨h1, h2, fun _ => rfl, fun _ => rfl⟩, rfl, rfl, ?_, rfl, ?_⟩
        · simp only [nextDv, bne_iff_ne.mpr hd2, if_true]
        · rw [h1]; rfl
  | dSite site =>
    cases hs
    refine ⟨⟨h1, h2, h3, h4⟩, rfl, rfl, rfl, rfl, ?_⟩
    simp only [rescSpec, nextTab, nextBps, h3 hnm, h1]
  | d2Site site =>
    cases hs
    refine ⟨⟨h1, h2, h3, h4⟩, rfl, rfl, rfl, rfl, ?_⟩
    simp only [rescSpec, nextTab, nextBps, h4 hnm.2, h3 hnm.1, h1]

theorem derivNamesOk_cons (dv d2v : String) (op : Op α) (ops : List (Op α)) (h : derivNamesOk dv d2v (op :: ops) = true) :
    namesOkAt dv d2v op ∧ derivNamesOk (nextDv dv d2v op) (nextD2v d2v op) ops = true := by
  simp only [derivNamesOk, Bool.and_eq_true] at h
  refine ⟨?_, h.2⟩
  have h1 := h.1
  cases op with
  | dSite _ => exact bne_iff_ne.mp h1
  | d2Site _ => exact ⟨bne_iff_ne.mp (Bool.and_eq_true_iff.mp h1).1, bne_iff_ne.mp (Bool.and_eq_true_iff.mp h1).2⟩
  | _ => trivial

theorem RescObj.run_spec (o : RescObj α) (hc : o.Consistent) (ops : List (Op α))
    (hne : ∀ a ∈ o.run ops, a ≠ Ans.exc) (hvar : ∀ op ∈ ops, op ≠ Op.d1 "" ∧ op ≠ Op.d2 "")
    (hnm : derivNamesOk o.dVar o.d2Var ops = true) :
    o.run ops = rescSpecRun o.tab o.bps o.dVar o.d2Var ops := by
  induction ops generalizing o with
  | nil => rfl
  | cons op ops ih =>
    obtain ⟨hn1, hn2⟩ := derivNamesOk_cons _ _ op ops hnm
    obtain ⟨hc', ht, hb, hdv, hd2v, ha⟩ :=
      RescObj.step_spec o hc op (hne _ List.mem_cons_self) (hvar op List.mem_cons_self) hn1
    simp only [RescObj.run, rescSpecRun]
    rw [ha, ih (o.step op).1 hc' (fun a h => hne a (List.mem_cons_of_mem _ h))
      (fun op' h => hvar op' (List.mem_cons_of_mem _ h)) (by rw [hdv, hd2v]; exact hn2), ht, hb, hdv, hd2v]

/-! ### log-sum class -/

section LogSum
variable [HasIsInf α]

def LogObj.run (o : LogObj α) : List (Op α) → List (Ans α)
  | [] => []
  | op :: ops => (o.step op).2 :: LogObj.run (o.step op).1 ops

def logSpecRun (t : Tables α) (bps : List Nat) (dv d2v : String) : List (Op α) → List (Ans α)
  | [] => []
  | op :: ops => logSpec (nextTab t op) (nextBps bps op) dv d2v op
      :: logSpecRun (nextTab t op) (nextBps bps op) (nextDv dv d2v op) (nextD2v d2v op) ops

def LogObj.Consistent (o : LogObj α) : Prop :=
  o.fw = logCompute o.tab o.bps
  ∧ (o.backUpToDate = true → o.back = logBackward o.tab.p o.tab.es o.bps)
  ∧ (o.dVar ≠ "" → logDForward o.tab.p o.tab.e0 o.tab.es (o.tab.dE o.dVar).1 (o.tab.dE o.dVar).2 o.bps o.fw = some o.dfw)
  ∧ (o.d2Var ≠ "" → ∃ d, logDForward o.tab.p o.tab.e0 o.tab.es (o.tab.dE o.d2Var).1 (o.tab.dE o.d2Var).2 o.bps o.fw = some d
        ∧ logD2Forward o.tab.p o.tab.e0 o.tab.es (o.tab.dE o.d2Var).1 (o.tab.dE o.d2Var).2
            (o.tab.d2E o.d2Var).1 (o.tab.d2E o.d2Var).2 o.bps o.fw d = some o.d2fw)

theorem LogObj.build_consistent (t : Tables α) :
    (LogObj.build t).Consistent ∧ (LogObj.build t).tab = t ∧ (LogObj.build t).bps = []
      ∧ (LogObj.build t).dVar = "" ∧ (LogObj.build t).d2Var = "" :=
  ⟨⟨rfl, Bool.noConfusion, (absurd rfl ·), (absurd rfl ·)⟩, rfl, rfl, rfl, rfl⟩

theorem LogObj.refreshBack_spec (o : LogObj α) (hc : o.Consistent) :
    o.refreshBack.Consistent ∧ o.refreshBack.tab = o.tab ∧ o.refreshBack.bps = o.bps
      ∧ o.refreshBack.dVar = o.dVar ∧ o.refreshBack.d2Var = o.d2Var
      ∧ logPosteriorOf o.refreshBack.fw o.refreshBack.back o.refreshBack.bps = logPosterior o.tab o.bps
      ∧ ∀ site, logPosteriorSiteOf o.refreshBack.fw o.refreshBack.back o.refreshBack.bps site
          = logPosteriorSite o.tab o.bps site := by
  obtain ⟨h1, h2, h3, h4⟩ := hc
  unfold LogObj.refreshBack logPosterior logPosteriorSite
  cases hb : o.backUpToDate with
  | true =>
    rw [if_pos rfl, h2 hb, ← h1]
    exact ⟨⟨h1, fun _ => h2 hb, h3, h4⟩, rfl, rfl, rfl, rfl, rfl, fun _ => rfl⟩
  | false =>
    rw [if_neg Bool.false_ne_true, ← h1]
    exact ⟨⟨h1, fun _ => rfl, h3, h4⟩, rfl, rfl, rfl, rfl, rfl, fun _ => rfl⟩

theorem LogObj.firstOrder_some (o : LogObj α)
    (h3 : o.dVar ≠ "" →
      logDForward o.tab.p o.tab.e0 o.tab.es (o.tab.dE o.dVar).1 (o.tab.dE o.dVar).2 o.bps o.fw = some o.dfw)
    (var : String) (hv : var ≠ "") (o1 : LogObj α) (x : α) (hs : o.firstOrder var = (o1, some x)) :
    ∃ d, logDForward o.tab.p o.tab.e0 o.tab.es (o.tab.dE var).1 (o.tab.dE var).2 o.bps o.fw = some d
      ∧ o1 = { o with dVar := var, dfw := d } ∧ x = -d.dLogLik := by
  unfold LogObj.firstOrder at hs
  by_cases hd : var = o.dVar
  · simp only [bne_eq_false_iff_eq.mpr hd, Bool.false_eq_true, if_false] at hs
    cases hs
    refine ⟨o.dfw, ?_, by rw [hd], rfl⟩
    rw [hd]; exact h3 (hd ▸ hv)
  · simp only [bne_iff_ne.mpr hd, if_true] at hs
    cases hcmp : logDForward o.tab.p o.tab.e0 o.tab.es (o.tab.dE var).1 (o.tab.dE var).2 o.bps o.fw with
    | none => rw [hcmp] at hs; cases hs
    | some d => rw [hcmp] at hs; cases hs; exact ⟨d, rfl, rfl, rfl⟩

theorem LogObj.step_spec (o : LogObj α) (hc : o.Consistent) (op : Op α)
    (hne : (o.step op).2 ≠ .exc) (hvar : op ≠ .d1 "" ∧ op ≠ .d2 "")
    (hnm : namesOkAt o.dVar o.d2Var op) :
    (o.step op).1.Consistent ∧ (o.step op).1.tab = nextTab o.tab op ∧ (o.step op).1.bps = nextBps o.bps op
      ∧ (o.step op).1.dVar = nextDv o.dVar o.d2Var op ∧ (o.step op).1.d2Var = nextD2v o.d2Var op
      ∧ (o.step op).2 = logSpec (nextTab o.tab op) (nextBps o.bps op) o.dVar o.d2Var op := by
  generalize hs : o.step op = r at hne ⊢
  obtain ⟨o', a⟩ := r
  dsimp only at hne ⊢
  obtain ⟨r1, r2, r3, r6, r7, rP, rS⟩ := LogObj.refreshBack_spec o hc
  obtain ⟨h1, h2, h3, h4⟩ := hc
  cases op with
  | setTables t =>
    cases hs
    exact ⟨⟨rfl, Bool.noConfusion, (absurd rfl ·), (absurd rfl ·)⟩, rfl, rfl, rfl, rfl, rfl⟩
  | setBreaks bps =>
    cases hok : breaksOk o.tab.T bps with
    | false => simp only [LogObj.step, hok, Bool.not_false, if_true] at hs; cases hs; exact absurd rfl hne
    | true =>
      simp only [LogObj.step, hok, Bool.not_true, Bool.false_eq_true, if_false] at hs; cases hs
      exact ⟨⟨rfl, Bool.noConfusion, (absurd rfl ·), (absurd rfl ·)⟩, rfl, rfl, rfl, rfl, rfl⟩
  | logLik => cases hs; exact ⟨⟨h1, h2, h3, h4⟩, rfl, rfl, rfl, rfl, congrArg (fun f => Ans.val f.ll) h1⟩
  | posterior =>
    cases hs
    refine ⟨r1, r2, r3, r6, r7, ?_⟩
    simp only [logSpec, nextTab, nextBps]; rw [← rP]; rfl
  | posteriorInto _ _ | siteLiks => cases hs; exact ⟨r1, r2, r3, r6, r7, by simp only [logSpec, nextTab, nextBps, ← rP]⟩
  | posteriorSite _ | siteLik _ => cases hs; exact ⟨r1, r2, r3, r6, r7, by simp only [logSpec, nextTab, nextBps, ← rS]⟩
  | d1 var =>
    have hv : var ≠ "" := fun h => hvar.1 (h ▸ rfl)
    cases hr : o.firstOrder var with
    | mk o1 r2 =>
      simp only [LogObj.step, hr] at hs
      cases r2 with
      | none => cases hs; exact absurd rfl hne
      | some x =>
        obtain ⟨d, hd, rfl, rfl⟩ := LogObj.firstOrder_some o h3 var hv o1 x hr
        cases hs
        exact ⟨⟨h1, h2, fun _ => hd, h4⟩, rfl, rfl, rfl, rfl, by simp only [logSpec, nextTab, nextBps, ← h1, hd]⟩
  | d2 var =>
    have hv : var ≠ "" := fun h => hvar.2 (h ▸ rfl)
    by_cases hd2 : var = o.d2Var
    · simp only [LogObj.step, bne_eq_false_iff_eq.mpr hd2, Bool.false_eq_true, if_false] at hs; cases hs
      obtain ⟨d, hd, hdd⟩ := h4 (hd2 ▸ hv)
      refine ⟨⟨h1, h2, h3, h4⟩, rfl, rfl, ?_, hd2.symm, ?_⟩
      · simp only [nextDv, bne_eq_false_iff_eq.mpr hd2, Bool.false_eq_true, if_false]
      · simp only [logSpec, nextTab, nextBps, ← h1, hd2, hd, hdd]
    · simp only [LogObj.step, bne_iff_ne.mpr hd2, if_true] at hs
      cases hr : ({ o with d2Var := var } : LogObj α).firstOrder var with
      | mk o1 r2 =>
        rw [hr] at hs
        cases r2 with
        | none => cases hs; exact absurd rfl hne
        | some x =>
          obtain ⟨d, hd, rfl, rfl⟩ := LogObj.firstOrder_some ({ o with d2Var := var } : LogObj α) h3 var hv o1 x hr
          simp only at hs
          cases hcmp : logD2Forward o.tab.p o.tab.e0 o.tab.es (o.tab.dE var).1 (o.tab.dE var).2
              (o.tab.d2E var).1 (o.tab.d2E var).2 o.bps o.fw d with
          | none => rw [hcmp] at hs; cases hs; exact absurd rfl hne
          | some d2 =>
            rw [hcmp] at hs; cases hs
            refine ⟨⟨h1, h2, fun _ => hd, fun _ => ⟨d, hd, hcmp⟩⟩, rfl, rfl, ?_, rfl, ?_⟩
            · simp only [nextDv, bne_iff_ne.mpr hd2, if_true]
            · simp only [logSpec, nextTab, nextBps, ← h1, hd, hcmp]
  | dSite site =>
    cases hs
    exact ⟨⟨h1, h2, h3, h4⟩, rfl, rfl, rfl, rfl, by simp only [logSpec, nextTab, nextBps, ← h1, h3 hnm]⟩
  | d2Site site =>
    cases hs
    obtain ⟨d, hd, hdd⟩ := h4 hnm.2
    exact ⟨⟨h1, h2, h3, h4⟩, rfl, rfl, rfl, rfl, by simp only [logSpec, nextTab, nextBps, ← h1, h3 hnm.1, hd, hdd]⟩

theorem LogObj.run_spec (o : LogObj α) (hc : o.Consistent) (ops : List (Op α))
    (hne : ∀ a ∈ o.run ops, a ≠ Ans.exc) (hvar : ∀ op ∈ ops, op ≠ Op.d1 "" ∧ op ≠ Op.d2 "")
    (hnm : derivNamesOk o.dVar o.d2Var ops = true) :
    o.run ops = logSpecRun o.tab o.bps o.dVar o.d2Var ops := by
  induction ops generalizing o with
  | nil => rfl
  | cons op ops ih =>
    obtain ⟨hn1, hn2⟩ := derivNamesOk_cons _ _ op ops hnm
    obtain ⟨hc', ht, hb, hdv, hd2v, ha⟩ :=
      LogObj.step_spec o hc op (hne _ List.mem_cons_self) (hvar op List.mem_cons_self) hn1
    simp only [LogObj.run, logSpecRun]
    rw [ha, ih (o.step op).1 hc' (fun a h => hne a (List.mem_cons_of_mem _ h))
      (fun op' h => hvar op' (List.mem_cons_of_mem _ h)) (by rw [hdv, hd2v]; exact hn2), ht, hb, hdv, hd2v]

end LogSum

/-! ### low-memory class: every history, raising calls included (they answer `exc` and change nothing) -/

def LowObj.run (o : LowObj α) : List (Op α) → List (Ans α)
  | [] => []
  | op :: ops => (o.step op).2 :: LowObj.run (o.step op).1 ops

def lowSpecRun (t : Tables α) (maxSize : Nat) (bps : List Nat) : List (Op α) → List (Ans α)
  | [] => []
  | op :: ops => lowSpec (nextTab t op) maxSize (nextBps bps op) op :: lowSpecRun (nextTab t op) maxSize (nextBps bps op) ops

/-- break points after an operation: a refused vector changes nothing -/
def lowNextBps (T : Nat) (bps : List Nat) : Op α → List Nat
  | .setBreaks b => if breaksOk T b then b else bps
  | _ => bps

/-- the answer of a fresh object, a refused `setBreakPoints` included -/
def lowSpecAll (t : Tables α) (maxSize : Nat) (bps : List Nat) (op : Op α) : Ans α :=
  match op with
  | .setBreaks b => if breaksOk t.T b then .val (lowCompute t maxSize b) else .exc
  | _ => lowSpec (nextTab t op) maxSize bps op

def lowSpecRunAll (t : Tables α) (maxSize : Nat) (bps : List Nat) : List (Op α) → List (Ans α)
  | [] => []
  | op :: ops => lowSpecAll t maxSize bps op :: lowSpecRunAll (nextTab t op) maxSize (lowNextBps t.T bps op) ops

theorem LowObj.step_all (o : LowObj α) (hc : o.logLik = lowCompute o.tab o.maxSize o.bps) (op : Op α) :
    (o.step op).2 = lowSpecAll o.tab o.maxSize o.bps op
      ∧ (o.step op).1.tab = nextTab o.tab op ∧ (o.step op).1.bps = lowNextBps o.tab.T o.bps op
      ∧ (o.step op).1.maxSize = o.maxSize
      ∧ (o.step op).1.logLik = lowCompute (o.step op).1.tab (o.step op).1.maxSize (o.step op).1.bps := by
  cases op with
  | setTables t => exact ⟨rfl, rfl, rfl, rfl, rfl⟩
  | setBreaks b =>
    cases hok : breaksOk o.tab.T b with
    | true =>
      rw [show o.step (.setBreaks b) = ({ o with bps := b, logLik := lowCompute o.tab o.maxSize b },
          .val (lowCompute o.tab o.maxSize b)) by
        simp only [LowObj.step, hok, Bool.not_true, Bool.false_eq_true, if_false]]
      exact ⟨by simp only [lowSpecAll, hok, if_true], rfl, by simp only [lowNextBps, hok, if_true], rfl, rfl⟩
    | false =>
      rw [show o.step (.setBreaks b) = (o, .exc) by simp only [LowObj.step, hok, Bool.not_false, if_true]]
      exact ⟨by simp only [lowSpecAll, hok, Bool.false_eq_true, if_false], rfl,
        by simp only [lowNextBps, hok, Bool.false_eq_true, if_false], rfl, hc⟩
  | logLik => exact ⟨congrArg Ans.val hc, rfl, rfl, rfl, hc⟩
  | posterior | posteriorInto _ _ | posteriorSite _ | siteLik _ | siteLiks | d1 _ | d2 _ | dSite _ | d2Site _ =>
    exact ⟨rfl, rfl, rfl, rfl, hc⟩

theorem LowObj.build_spec (t : Tables α) (maxSize : Nat) (o : LowObj α) (h : LowObj.build t maxSize = some o) :
    o.logLik = lowCompute o.tab o.maxSize o.bps ∧ o.tab = t ∧ o.maxSize = maxSize ∧ o.bps = [] := by
  unfold LowObj.build at h
  split at h
  · cases h
  · cases h; exact ⟨rfl, rfl, rfl, rfl⟩

theorem LowObj.run_spec_all (o : LowObj α) (hc : o.logLik = lowCompute o.tab o.maxSize o.bps) (ops : List (Op α)) :
    o.run ops = lowSpecRunAll o.tab o.maxSize o.bps ops := by
  induction ops generalizing o with
  | nil => rfl
  | cons op ops ih =>
    obtain ⟨h1, h2, h3, h4, h5⟩ := LowObj.step_all o hc op
    simp only [LowObj.run, lowSpecRunAll]
    rw [h1, ih _ h5, h2, h3, h4]

theorem lowSpecRunAll_of_no_exc (t : Tables α) (maxSize : Nat) (bps : List Nat) (ops : List (Op α))
    (hne : ∀ a ∈ lowSpecRunAll t maxSize bps ops, a ≠ Ans.exc) :
    lowSpecRunAll t maxSize bps ops = lowSpecRun t maxSize bps ops := by
  induction ops generalizing t bps with
  | nil => rfl
  | cons op ops ih =>
    have h0 := hne _ List.mem_cons_self
    have hr := fun a h => hne a (List.mem_cons_of_mem _ h)
    cases op with
    | setBreaks b =>
      cases hok : breaksOk t.T b with
      | false => simp only [lowSpecAll, hok, Bool.false_eq_true, if_false] at h0; exact absurd rfl h0
      | true =>
        simp only [lowSpecRunAll, lowSpecRun, lowSpecAll, lowNextBps, hok, if_true] at hr ⊢
        rw [ih _ _ hr]; rfl
    | _ => exact congrArg (_ :: ·) (ih _ _ hr)

/-! ### `setBreakPoints`: refusal leaves the object unchanged -/

theorem RescObj.setBreaks_refused (o : RescObj α) (bps : List Nat) (h : breaksOk o.tab.T bps = false) :
    o.step (.setBreaks bps) = (o, .exc) := by
  simp [RescObj.step, h]

theorem LogObj.setBreaks_refused [HasIsInf α] (o : LogObj α) (bps : List Nat) (h : breaksOk o.tab.T bps = false) :
    o.step (.setBreaks bps) = (o, .exc) := by
  simp [LogObj.step, h]

theorem LowObj.setBreaks_refused (o : LowObj α) (bps : List Nat) (h : breaksOk o.tab.T bps = false) :
    o.step (.setBreaks bps) = (o, .exc) := by
  simp [LowObj.step, h]

/-! ### the break points of a reachable object are valid -/

/-- break points after a history, as the specification tracks them -/
def bpsAfter (bps : List Nat) : List (Op α) → List Nat
  | [] => bps
  | op :: ops => bpsAfter (nextBps bps op) ops

/-- parameter updates do not change the number of positions (in the C++ it is fixed at construction) -/
def SameLength (T : Nat) (ops : List (Op α)) : Prop :=
  ∀ op ∈ ops, ∀ t, op = Op.setTables t → t.T = T

theorem next_breaksOk (t : Tables α) (bps : List Nat) (op : Op α) (T : Nat) (hT : t.T = T)
    (hv : breaksOk T bps = true) (hacc : ∀ b, op = Op.setBreaks b → breaksOk t.T b = true)
    (hlen : ∀ t', op = Op.setTables t' → t'.T = T) :
    (nextTab t op).T = T ∧ breaksOk T (nextBps bps op) = true := by
  cases op with
  | setTables t' => exact ⟨hlen t' rfl, hv⟩
  | setBreaks b => exact ⟨hT, hT ▸ hacc b rfl⟩
  | _ => exact ⟨hT, hv⟩

theorem RescObj.reachable_breaks (o : RescObj α) (hc : o.Consistent) (T : Nat) (hT : o.tab.T = T)
    (hv : breaksOk T o.bps = true) (ops : List (Op α))
    (hne : ∀ a ∈ o.run ops, a ≠ Ans.exc) (hvar : ∀ op ∈ ops, op ≠ Op.d1 "" ∧ op ≠ Op.d2 "")
    (hnm : derivNamesOk o.dVar o.d2Var ops = true) (hlen : SameLength T ops) :
    breaksOk T (bpsAfter o.bps ops) = true := by
  induction ops generalizing o with
  | nil => exact hv
  | cons op ops ih =>
    obtain ⟨hn1, hn2⟩ := derivNamesOk_cons _ _ op ops hnm
    have h0 : (o.step op).2 ≠ Ans.exc := hne _ List.mem_cons_self
    obtain ⟨hc', ht, hb, hdv, hd2v, _⟩ :=
      RescObj.step_spec o hc op h0 (hvar op List.mem_cons_self) hn1
    obtain ⟨hT', hv'⟩ := next_breaksOk o.tab o.bps op T hT hv
      (fun b hb => Decidable.byContradiction fun hok =>
        h0 (by rw [hb, RescObj.setBreaks_refused o b (eq_false_of_ne_true hok)]))
      (hlen op List.mem_cons_self)
    rw [bpsAfter, ← hb]
    exact ih _ hc' (ht ▸ hT') (hb ▸ hv') (fun a h => hne a (List.mem_cons_of_mem _ h))
      (fun op' h => hvar op' (List.mem_cons_of_mem _ h)) (by rw [hdv, hd2v]; exact hn2)
      (fun op' h => hlen op' (List.mem_cons_of_mem _ h))

theorem LogObj.reachable_breaks [HasIsInf α] (o : LogObj α) (hc : o.Consistent) (T : Nat) (hT : o.tab.T = T)
    (hv : breaksOk T o.bps = true) (ops : List (Op α))
    (hne : ∀ a ∈ o.run ops, a ≠ Ans.exc) (hvar : ∀ op ∈ ops, op ≠ Op.d1 "" ∧ op ≠ Op.d2 "")
    (hnm : derivNamesOk o.dVar o.d2Var ops = true) (hlen : SameLength T ops) :
    breaksOk T (bpsAfter o.bps ops) = true := by
  induction ops generalizing o with
  | nil => exact hv
  | cons op ops ih =>
    obtain ⟨hn1, hn2⟩ := derivNamesOk_cons _ _ op ops hnm
    have h0 : (o.step op).2 ≠ Ans.exc := hne _ List.mem_cons_self
    obtain ⟨hc', ht, hb, hdv, hd2v, _⟩ :=
      LogObj.step_spec o hc op h0 (hvar op List.mem_cons_self) hn1
    obtain ⟨hT', hv'⟩ := next_breaksOk o.tab o.bps op T hT hv
      (fun b hb => Decidable.byContradiction fun hok =>
        h0 (by rw [hb, LogObj.setBreaks_refused o b (eq_false_of_ne_true hok)]))
      (hlen op List.mem_cons_self)
    rw [bpsAfter, ← hb]
    exact ih _ hc' (ht ▸ hT') (hb ▸ hv') (fun a h => hne a (List.mem_cons_of_mem _ h))
      (fun op' h => hvar op' (List.mem_cons_of_mem _ h)) (by rw [hdv, hd2v]; exact hn2)
      (fun op' h => hlen op' (List.mem_cons_of_mem _ h))

end Bpp.Hmm
