import BppProofs.Lemmas.VecTools
import Mathlib.Algebra.BigOperators.Group.Finset.Basic
/-!
Helper lemmas for C07: `std::map` as an association list sorted by key (`mapGet?`, `mapUpdate`), the invariant of a map of
occurrence counts, and the count maps of `shannonDiscrete`, `miDiscrete`, `countValues`.
-/
namespace Bpp.VecTools
open Bpp Bpp.ScalarReal

section Maps
variable {β γ : Type} [LinearOrder β] {lt : β → β → Bool} (hlt : ∀ a b, lt a b = true ↔ a < b)

def SortedKeys (m : List (β × γ)) : Prop := (m.map (·.1)).Pairwise (· < ·)

/-! the equations of `mapGet?` and `mapUpdate` on a non-empty map, by the position of the key -/

include hlt in
theorem mapGet?_cons_of_lt {k k0 : β} (h : k < k0) (c : γ) (rest : List (β × γ)) :
    mapGet? lt k ((k0, c) :: rest) = none := by
  rw [mapGet?, if_pos ((hlt _ _).mpr h)]

include hlt in
theorem mapGet?_cons_of_gt {k k0 : β} (h : k0 < k) (c : γ) (rest : List (β × γ)) :
    mapGet? lt k ((k0, c) :: rest) = mapGet? lt k rest := by
  rw [mapGet?, if_neg (mt (hlt _ _).mp h.asymm), if_pos ((hlt _ _).mpr h)]

include hlt in
theorem mapGet?_cons_self (k : β) (c : γ) (rest : List (β × γ)) : mapGet? lt k ((k, c) :: rest) = some c := by
  have := mt (hlt k k).mp (lt_irrefl k)
  rw [mapGet?, if_neg this, if_neg this]

include hlt in
theorem mapUpdate_cons_of_lt {k k0 : β} (h : k < k0) (f : Option γ → γ) (c : γ) (rest : List (β × γ)) :
    mapUpdate lt k f ((k0, c) :: rest) = (k, f none) :: (k0, c) :: rest := by
  rw [mapUpdate, if_pos ((hlt _ _).mpr h)]

include hlt in
theorem mapUpdate_cons_of_gt {k k0 : β} (h : k0 < k) (f : Option γ → γ) (c : γ) (rest : List (β × γ)) :
    mapUpdate lt k f ((k0, c) :: rest) = (k0, c) :: mapUpdate lt k f rest := by
  rw [mapUpdate, if_neg (mt (hlt _ _).mp h.asymm), if_pos ((hlt _ _).mpr h)]

include hlt in
theorem mapUpdate_cons_self (k : β) (f : Option γ → γ) (c : γ) (rest : List (β × γ)) :
    mapUpdate lt k f ((k, c) :: rest) = (k, f (some c)) :: rest := by
  have := mt (hlt k k).mp (lt_irrefl k)
  rw [mapUpdate, if_neg this, if_neg this]

include hlt in
theorem mapGet?_update (k : β) (f : Option γ → γ) (m : List (β × γ)) (k' : β) :
    mapGet? lt k' (mapUpdate lt k f m) = if k' = k then some (f (mapGet? lt k m)) else mapGet? lt k' m := by
  -- looking `k'` up behind a new first entry `(k, c)`
  have front : ∀ (c : γ) (rest : List (β × γ)), (k' < k → mapGet? lt k' rest = none) →
      mapGet? lt k' ((k, c) :: rest) = if k' = k then some c else mapGet? lt k' rest := by
    intro c rest hrest
    rcases lt_trichotomy k' k with h | rfl | h
    · rw [mapGet?_cons_of_lt hlt h, if_neg h.ne, hrest h]
    · rw [mapGet?_cons_self hlt, if_pos rfl]
    · rw [mapGet?_cons_of_gt hlt h, if_neg h.ne']
  induction m with
  | nil => exact front _ [] fun _ => rfl
  | cons e es ih =>
    obtain ⟨k0, c0⟩ := e
    rcases lt_trichotomy k k0 with h0 | rfl | h0
    · rw [mapUpdate_cons_of_lt hlt h0, mapGet?_cons_of_lt hlt h0]
      exact front _ _ fun h => mapGet?_cons_of_lt hlt (h.trans h0) _ _
    · rw [mapUpdate_cons_self hlt, mapGet?_cons_self hlt]
      rcases lt_trichotomy k' k with h | rfl | h
      · rw [mapGet?_cons_of_lt hlt h, mapGet?_cons_of_lt hlt h, if_neg h.ne]
      · rw [mapGet?_cons_self hlt, if_pos rfl]
      · rw [mapGet?_cons_of_gt hlt h, mapGet?_cons_of_gt hlt h, if_neg h.ne']
    · rw [mapUpdate_cons_of_gt hlt h0, mapGet?_cons_of_gt hlt h0]
      rcases lt_trichotomy k' k0 with h | rfl | h
      · rw [mapGet?_cons_of_lt hlt h, mapGet?_cons_of_lt hlt h, if_neg (h.trans h0).ne]
      · rw [mapGet?_cons_self hlt, mapGet?_cons_self hlt, if_neg h0.ne]
      · rw [mapGet?_cons_of_gt hlt h, mapGet?_cons_of_gt hlt h, ih]

include hlt in
theorem mem_keys_mapUpdate (k : β) (f : Option γ → γ) (m : List (β × γ)) (x : β)
    (hx : x ∈ (mapUpdate lt k f m).map (·.1)) : x = k ∨ x ∈ m.map (·.1) := by
  induction m with
  | nil => exact .inl (List.mem_singleton.mp hx)
  | cons e es ih =>
    obtain ⟨k0, c0⟩ := e
    rcases lt_trichotomy k k0 with h | rfl | h
    · rw [mapUpdate_cons_of_lt hlt h] at hx; exact List.mem_cons.mp hx
    · rw [mapUpdate_cons_self hlt] at hx; exact .inr hx
    · rw [mapUpdate_cons_of_gt hlt h] at hx
      rcases List.mem_cons.mp hx with rfl | hx
      · exact .inr List.mem_cons_self
      · exact (ih hx).imp_right (List.mem_cons_of_mem _)

include hlt in
theorem sortedKeys_mapUpdate (k : β) (f : Option γ → γ) (m : List (β × γ)) (hm : SortedKeys m) :
    SortedKeys (mapUpdate lt k f m) := by
  induction m with
  | nil => exact List.pairwise_singleton _ _
  | cons e es ih =>
    obtain ⟨k0, c0⟩ := e
    obtain ⟨hk0, hes⟩ := List.pairwise_cons.mp hm
    rcases lt_trichotomy k k0 with h | rfl | h
    · rw [mapUpdate_cons_of_lt hlt h]
      exact List.pairwise_cons.mpr ⟨fun x hx => (List.mem_cons.mp hx).elim (· ▸ h) fun hx => h.trans (hk0 x hx), hm⟩
    · rw [mapUpdate_cons_self hlt]; exact hm
    · rw [mapUpdate_cons_of_gt hlt h]
      exact List.pairwise_cons.mpr ⟨fun x hx => (mem_keys_mapUpdate hlt k f es x hx).elim (· ▸ h) (hk0 x), ih hes⟩

include hlt in
theorem mapGet?_eq_some_iff (m : List (β × γ)) (hm : SortedKeys m) (k : β) (c : γ) :
    mapGet? lt k m = some c ↔ (k, c) ∈ m := by
  induction m with
  | nil => exact iff_of_false nofun List.not_mem_nil
  | cons e es ih =>
    obtain ⟨k0, c0⟩ := e
    obtain ⟨hk0, hes⟩ := List.pairwise_cons.mp hm
    have hkey : (k, c) ∈ es → k0 < k := fun h => hk0 k (List.mem_map_of_mem (f := Prod.fst) h)
    rw [List.mem_cons]
    rcases lt_trichotomy k k0 with h | rfl | h
    · rw [mapGet?_cons_of_lt hlt h]
      exact iff_of_false nofun (not_or.mpr ⟨fun e => h.ne (Prod.mk.inj e).1, fun h' => lt_asymm h (hkey h')⟩)
    · rw [mapGet?_cons_self hlt]
      exact ⟨fun e => .inl (Option.some.inj e ▸ rfl), fun h' =>
        h'.elim (fun e => (Prod.mk.inj e).2 ▸ rfl) fun h' => absurd (hkey h') (lt_irrefl _)⟩
    · rw [mapGet?_cons_of_gt hlt h, ih hes]
      exact ⟨.inr, fun h' => h'.resolve_left fun e => h.ne' (Prod.mk.inj e).1⟩

def CountInv (lt : β → β → Bool) (cast : Nat → γ) (m : List (β × γ)) (cnt : β → Nat) : Prop :=
  SortedKeys m ∧ ∀ k, mapGet? lt k m = if cnt k = 0 then none else some (cast (cnt k))

theorem CountInv.nil (cast : Nat → γ) : CountInv lt cast [] fun _ => 0 := ⟨List.Pairwise.nil, fun _ => rfl⟩

include hlt in
/-- one more occurrence of `x`; `g` is the increment on `std::map`'s value-initialised entries -/
theorem CountInv.update {cast : Nat → γ} {g : Option γ → γ} (hg0 : g none = cast 1)
    (hg : ∀ n, g (some (cast n)) = cast (n + 1)) {m : List (β × γ)} {cnt cnt' : β → Nat} (h : CountInv lt cast m cnt)
    (x : β) (hx : cnt' x = cnt x + 1) (hne : ∀ k, k ≠ x → cnt' k = cnt k) :
    CountInv lt cast (mapUpdate lt x g m) cnt' := by
  refine ⟨sortedKeys_mapUpdate hlt x g m h.1, fun k => ?_⟩
  rw [mapGet?_update hlt, h.2]
  split
  · subst k
    rw [hx, if_neg (Nat.succ_ne_zero _)]
    split
    · rw [hg0, ‹cnt x = 0›]
    · rw [hg]
  · rw [hne k ‹_›, h.2]

include hlt in
theorem CountInv.foldl {cast : Nat → γ} {g : Option γ → γ} (hg0 : g none = cast 1)
    (hg : ∀ n, g (some (cast n)) = cast (n + 1)) (v : List β) {m : List (β × γ)} {l : List β}
    (h : CountInv lt cast m (l.count ·)) :
    CountInv lt cast (v.foldl (fun m x => mapUpdate lt x g m) m) ((l ++ v).count ·) := by
  induction v generalizing m l with
  | nil => rwa [List.append_nil]
  | cons x xs ih =>
    rw [List.foldl_cons, List.append_cons]
    refine ih (h.update hlt hg0 hg x ?_ fun k hk => ?_)
    · rw [List.count_append, List.count_singleton_self]
    · rw [List.count_append, List.count_singleton, if_neg (by simpa using Ne.symm hk), Nat.add_zero]

include hlt in
theorem CountInv.mem_iff {cast : Nat → γ} {m : List (β × γ)} {cnt : β → Nat} (h : CountInv lt cast m cnt) (k : β) (c : γ) :
    (k, c) ∈ m ↔ cnt k ≠ 0 ∧ c = cast (cnt k) := by
  rw [← mapGet?_eq_some_iff hlt m h.1, h.2]
  split
  · exact iff_of_false nofun fun h' => h'.1 ‹_›
  · rw [Option.some.injEq, eq_comm]; exact (and_iff_right ‹_›).symm
end Maps

/-! ### count maps, shannonDiscrete -/
section CountMaps
open scoped BigOperators

theorem countMap_inv (v : List ℝ) : CountInv Scalar.ltb Nat.cast (countMap v) (v.count ·) := by
  have := (CountInv.nil (Nat.cast : ℕ → ℝ)).foldl ltb_iff (g := fun o => o.getD Scalar.zero + Scalar.one)
    (by simp) (fun n => by simp) v (l := [])
  rwa [List.nil_append] at this

theorem countMap_mem (v : List ℝ) (k c : ℝ) : (k, c) ∈ countMap v ↔ k ∈ v ∧ c = (v.count k : ℝ) := by
  rw [(countMap_inv v).mem_iff ltb_iff, ← Nat.pos_iff_ne_zero, List.count_pos_iff]

theorem countMap_get (v : List ℝ) (k : ℝ) : (mapGet? Scalar.ltb k (countMap v)).getD 0 = (v.count k : ℝ) := by
  rw [(countMap_inv v).2 k]
  split
  · rw [‹v.count k = 0›]; simp
  · rfl

theorem sum_of_counts {κ : Type} [BEq κ] [DecidableEq κ] (E : List (κ × ℝ)) (L : List κ) (hnd : (E.map (·.1)).Nodup)
    (hmem : ∀ k c, (k, c) ∈ E ↔ k ∈ L ∧ c = (L.count k : ℝ)) (g : κ → ℝ → ℝ) :
    (E.map fun e => g e.1 e.2).sum = ∑ k ∈ L.toFinset, g k (L.count k : ℝ) := by
  have hval : E.map (fun e => g e.1 e.2) = (E.map (·.1)).map fun k => g k (L.count k : ℝ) := by
    rw [List.map_map]
    exact List.map_congr_left fun e he => by rw [Function.comp_apply, ← ((hmem e.1 e.2).mp he).2]
  have hfs : (E.map (·.1)).toFinset = L.toFinset := by
    ext k
    rw [List.mem_toFinset, List.mem_toFinset, List.mem_map]
    exact ⟨fun ⟨e, he, hk⟩ => hk ▸ ((hmem e.1 e.2).mp he).1, fun hk => ⟨(k, _), (hmem k _).mpr ⟨hk, rfl⟩, rfl⟩⟩
  rw [hval, ← List.sum_toFinset _ hnd, hfs]

theorem countMap_sum (v : List ℝ) (g : ℝ → ℝ → ℝ) :
    ((countMap v).map (fun kc => g kc.1 kc.2)).sum = ∑ k ∈ v.toFinset, g k (v.count k : ℝ) :=
  sum_of_counts _ v ((countMap_inv v).1.imp ne_of_lt) (countMap_mem v) g

/-! joint count map, miDiscrete -/

/-- invariant of the joint count map after processing the pairs `l`: the row of `a` (empty when `a` is not a
key) counts the pairs `(a, ·)` -/
def Count2Inv (m : List (ℝ × List (ℝ × ℝ))) (l : List (ℝ × ℝ)) : Prop :=
  SortedKeys m ∧ ∀ a, CountInv Scalar.ltb Nat.cast ((mapGet? Scalar.ltb a m).getD []) fun b => l.count (a, b)

theorem count2_fold (z l : List (ℝ × ℝ)) (m : List (ℝ × List (ℝ × ℝ))) (h : Count2Inv m l) :
    Count2Inv (z.foldl (fun m (ab : ℝ × ℝ) =>
      mapUpdate Scalar.ltb ab.1 (fun o => mapUpdate Scalar.ltb ab.2 (fun c => c.getD Scalar.zero + Scalar.one) (o.getD [])) m) m) (l ++ z) := by
  induction z generalizing m l with
  | nil => rwa [List.append_nil]
  | cons ab rest ih =>
    obtain ⟨a, b⟩ := ab
    rw [List.foldl_cons, List.append_cons]
    refine ih _ _ ⟨sortedKeys_mapUpdate ltb_iff _ _ _ h.1, fun a' => ?_⟩
    have hcount : ∀ p, p ≠ (a, b) → (l ++ [(a, b)]).count p = l.count p := fun p hp => by
      rw [List.count_append, List.count_singleton, if_neg (by simpa using Ne.symm hp), Nat.add_zero]
    rw [mapGet?_update ltb_iff]
    split
    · subst a'
      exact (h.2 a).update ltb_iff (by simp) (fun n => by simp) b
        (by rw [List.count_append, List.count_singleton_self]) fun b' hb' => hcount _ fun e => hb' (Prod.mk.inj e).2
    · have : (fun b' => (l ++ [(a, b)]).count (a', b')) = fun b' => l.count (a', b') :=
        funext fun b' => hcount _ fun e => ‹¬a' = a› (Prod.mk.inj e).1
      rw [this]; exact h.2 a'

theorem countMap2_inv (v1 v2 : List ℝ) : Count2Inv (countMap2 v1 v2) (List.zip v1 v2) := by
  have := count2_fold (List.zip v1 v2) [] [] ⟨List.Pairwise.nil, fun _ => CountInv.nil _⟩
  rwa [List.nil_append] at this

theorem countMap2_mem (v1 v2 : List ℝ) (a b c : ℝ) :
    (∃ inner, (a, inner) ∈ countMap2 v1 v2 ∧ (b, c) ∈ inner) ↔
      (a, b) ∈ List.zip v1 v2 ∧ c = ((List.zip v1 v2).count (a, b) : ℝ) := by
  obtain ⟨hs, hg⟩ := countMap2_inv v1 v2
  have hrow := fun c => (hg a).mem_iff ltb_iff b c
  simp only [← Nat.pos_iff_ne_zero, List.count_pos_iff] at hrow
  rw [← hrow]
  constructor
  · rintro ⟨inner, h1, h2⟩
    rwa [(mapGet?_eq_some_iff ltb_iff _ hs a inner).mpr h1]
  · intro h
    cases hget : mapGet? Scalar.ltb a (countMap2 v1 v2) with
    | none => rw [hget] at h; exact absurd h List.not_mem_nil
    | some inner => rw [hget] at h; exact ⟨inner, (mapGet?_eq_some_iff ltb_iff _ hs a inner).mp hget, h⟩

/-- the joint count map flattened to ((a,b), count) entries -/
def flat2 (m : List (ℝ × List (ℝ × ℝ))) : List ((ℝ × ℝ) × ℝ) :=
  m.flatMap (fun row => row.2.map (fun kc => ((row.1, kc.1), kc.2)))

theorem flat2_mem (v1 v2 : List ℝ) (p : ℝ × ℝ) (c : ℝ) :
    (p, c) ∈ flat2 (countMap2 v1 v2) ↔ p ∈ List.zip v1 v2 ∧ c = ((List.zip v1 v2).count p : ℝ) := by
  obtain ⟨a, b⟩ := p
  rw [← countMap2_mem]
  simp only [flat2, List.mem_flatMap, List.mem_map, Prod.mk.injEq, Prod.exists]
  constructor
  · rintro ⟨a', inner, h1, b', c', h2, ⟨rfl, rfl⟩, rfl⟩; exact ⟨inner, h1, h2⟩
  · rintro ⟨inner, h1, h2⟩; exact ⟨a, inner, h1, b, c, h2, ⟨rfl, rfl⟩, rfl⟩

theorem flat2_keys_nodup (v1 v2 : List ℝ) : ((flat2 (countMap2 v1 v2)).map (·.1)).Nodup := by
  obtain ⟨hs, hg⟩ := countMap2_inv v1 v2
  -- the keys of a flattened row carry the key of the row
  have hkey : ∀ (row : ℝ × List (ℝ × ℝ)) p, p ∈ (row.2.map fun kc => ((row.1, kc.1), kc.2)).map (·.1) → p.1 = row.1 := by
    intro row p hp
    obtain ⟨e, he, rfl⟩ := List.mem_map.mp hp
    obtain ⟨kc, -, rfl⟩ := List.mem_map.mp he
    rfl
  rw [flat2, List.map_flatMap, List.nodup_flatMap]
  refine ⟨fun row hrow => ?_, (List.pairwise_map.mp hs).imp fun {r r'} hlt p hp hp' =>
    hlt.ne ((hkey r p hp).symm.trans (hkey r' p hp'))⟩
  have hsr : SortedKeys row.2 := by
    have := (hg row.1).1
    rwa [(mapGet?_eq_some_iff ltb_iff _ hs row.1 row.2).mpr hrow] at this
  exact List.pairwise_map.mpr (List.pairwise_map.mpr
    ((List.pairwise_map.mp hsr).imp fun {a b} h e => h.ne (Prod.mk.inj e).2))

/-- the double loop over the joint count map is a sum over the distinct observed pairs -/
theorem countMap2_sum (v1 v2 : List ℝ) (G : ℝ → ℝ → ℝ → ℝ) :
    (countMap2 v1 v2).foldl (fun s (row : ℝ × List (ℝ × ℝ)) =>
        row.2.foldl (fun s (kc : ℝ × ℝ) => s + G row.1 kc.1 kc.2) s) 0 =
      ∑ p ∈ (List.zip v1 v2).toFinset, G p.1 p.2 ((List.zip v1 v2).count p : ℝ) := by
  rw [← sum_of_counts _ _ (flat2_keys_nodup v1 v2) (flat2_mem v1 v2) fun p c => G p.1 p.2 c]
  simp only [foldl_add_map, zero_add, flat2, List.flatMap_def, List.map_flatten, List.sum_flatten, List.map_map,
    Function.comp_def]
end CountMaps
end Bpp.VecTools
