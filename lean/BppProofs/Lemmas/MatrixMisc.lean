import BppProofs.Lemmas.MatrixOfFn
/-! Helper lemmas for C04: `diag(M)`, `toVVdouble`, `isSymmetric`, the n-ary direct sum. -/
namespace Bpp.Mx
open Bpp Store

/-- is the outcome `ub`? (for witnesses decided by evaluation) -/
def isUb {β : Type} (r : Res β) : Bool :=
  match r with
  | .error .ub => true
  | _ => false

section Misc
variable {α : Type} [Scalar α]

theorem ne_ub_of_ok {β : Type} {r : Res β} {a : β} (e : r = .ok a) : r ≠ .error .ub := e ▸ fun h => nomatch h
theorem ne_ub_of_dimension {β : Type} {r : Res β} (e : r = .error .dimension) : r ≠ .error .ub := e ▸ fun h => nomatch h

/-- `collect` of computations that all succeed, the `i`-th with a value satisfying `P i` -/
theorem collect_ok {β : Type} {n : Nat} {f : Nat → Res β} {P : Nat → β → Prop} (h : ∀ i, i < n → ∃ x, f i = .ok x ∧ P i x) :
    ∃ v, collect n f = .ok v ∧ v.size = n ∧ ∀ i (hi : i < v.size), P i v[i] := by
  unfold collect
  obtain ⟨v, e, hv⟩ := loopM_inv (fun k (acc : Array β) => acc.size = k ∧ ∀ i (hi : i < acc.size), P i acc[i]) n
    (fun i acc => match f i with
      | .ok x => .ok (acc.push x)
      | .error e => .error e) #[] ⟨rfl, fun i hi => by simp at hi⟩
    (by
      intro k acc hk ⟨hs, hg⟩
      obtain ⟨x, ex, px⟩ := h k hk
      refine ⟨acc.push x, by simp only [ex], by simp [hs], ?_⟩
      intro i hi
      by_cases hlt : i < acc.size
      · rw [Array.getElem_push_lt hlt]; exact hg i hlt
      · have : i = acc.size := by simp at hi; omega
        subst this
        rw [Array.getElem_push_eq, hs]; exact px)
  exact ⟨v, e, hv.1, hv.2⟩

/-- `diag(M, O)`: the diagonal of a square matrix -/
theorem diagM_ok {M : Store α} (hM : M.WF) (hsq : M.ncols = M.nrows) :
    ∃ v, diagM M = .ok v ∧ v.size = M.nrows ∧ ∀ i (hi : i < v.size), v[i] = M.entry i i := by
  unfold diagM
  rw [if_neg (by simpa using hsq)]
  obtain ⟨v, e, hs, hv⟩ := collect_ok (n := M.ncols) (f := fun i => M.get i i) (P := fun i x => x = M.entry i i)
    (fun i hi => ⟨_, get_eq_entry hM (hsq ▸ hi) hi, rfl⟩)
  exact ⟨v, e, by rw [hs, hsq], hv⟩

omit [Scalar α] in
theorem diagM_nonsquare {M : Store α} (hsq : M.ncols ≠ M.nrows) : diagM M = .error .dimension := by
  unfold diagM; rw [if_pos hsq]

/-- `toVVdouble`: `nrows` vectors of `ncols` entries -/
theorem toVV_ok {M : Store α} (hM : M.WF) :
    ∃ vv, toVV M = .ok vv ∧ vv.size = M.nrows ∧
      ∀ i (hi : i < vv.size), vv[i].size = M.ncols ∧ ∀ j (hj : j < vv[i].size), vv[i][j] = M.entry i j := by
  unfold toVV
  exact collect_ok (P := fun i r => r.size = M.ncols ∧ ∀ j (hj : j < r.size), r[j] = M.entry i j) (fun i hi =>
    (collect_ok (P := fun j x => x = M.entry i j) (fun j hj => ⟨_, get_eq_entry hM hi hj, rfl⟩)).imp
      fun _ ⟨e, hs, hv⟩ => ⟨e, hs, hv⟩)

/-- a loop that keeps a flag `true` as long as every iteration says `true`, and does nothing once
the flag is `false` -/
theorem loopM_all {n : Nat} {body : Nat → Bool → Res Bool} {b : Nat → Bool}
    (ht : ∀ i, i < n → body i true = .ok (b i)) (hf : ∀ i, i < n → body i false = .ok false) :
    loopM n body true = .ok ((List.range n).all b) := by
  induction n with
  | zero => rfl
  | succ n ih =>
    rw [loopM_succ, ih (fun i hi => ht i (by omega)) (fun i hi => hf i (by omega))]
    rw [List.range_succ, List.all_append]
    cases hall : (List.range n).all b
    · simp [hf n (by omega)]
    · simp [ht n (by omega)]

/-- `isSymmetric`: `true` exactly for a square matrix with `A(i,j) = A(j,i)` for all `i < j`
(compared with `eqb`, the scalar's `==`) -/
theorem isSymmetric_ok {A : Store α} (hA : A.WF) (hsq : A.ncols = A.nrows) :
    isSymmetric A = .ok ((List.range A.ncols).all fun i =>
      (List.range (A.nrows - (i + 1))).all fun t => Scalar.eqb (A.entry i (i + 1 + t)) (A.entry (i + 1 + t) i)) := by
  unfold isSymmetric
  rw [if_neg (by simpa using hsq)]
  apply loopM_all
  · intro i hi
    simp only [Bool.not_true, Bool.false_eq_true, if_false]
    apply loopM_all
    · intro t ht
      have h1 : i + 1 + t < A.nrows := by omega
      have h2 : i + 1 + t < A.ncols := by omega
      simp only [Bool.not_true, Bool.false_eq_true, if_false, get_eq_entry hA (hsq ▸ hi) h2, get_eq_entry hA h1 hi]
    · intro t ht; simp
  · intro i hi; simp

theorem isSymmetric_nonsquare {A : Store α} (hsq : A.ncols ≠ A.nrows) : isSymmetric A = .ok false := by
  unfold isSymmetric; rw [if_pos hsq]

theorem foldl_add_init {β : Type} (g : β → Nat) (l : List β) (a : Nat) :
    l.foldl (fun s M => s + g M) a = a + l.foldl (fun s M => s + g M) 0 := by
  induction l generalizing a with
  | nil => simp
  | cons x xs ih => simp only [List.foldl_cons, Nat.zero_add]; rw [ih (a + g x), ih (g x)]; omega

/-- state of the n-ary direct sum after some blocks: in the `R × C` output the leading `rk × ck` block holds `f`,
the rest is zero -/
def DsumInv (k : Kind) (R C : Nat) (O : Store α) (rk ck : Nat) (f : Nat → Nat → α) : Prop :=
  O.kind = k ∧ O.Holds R C (fun p q => if p < rk ∧ q < ck then f p q else Scalar.zero)

theorem dsumN_fold (k : Kind) (R C : Nat) :
    ∀ (l : List (Store α)) (O : Store α) (rk ck : Nat) (f : Nat → Nat → α),
      DsumInv k R C O rk ck f → (∀ M ∈ l, M.WF) →
      rk + l.foldl (fun s M => s + M.nrows) 0 ≤ R → ck + l.foldl (fun s M => s + M.ncols) 0 ≤ C →
      ∃ O', l.foldlM dsumNStep (O, rk, ck) =
          .ok (O', (Spec.dsumFold (rk, ck, f) (l.map fun M => (M.nrows, M.ncols, M.entry))).1,
            (Spec.dsumFold (rk, ck, f) (l.map fun M => (M.nrows, M.ncols, M.entry))).2.1) ∧
        DsumInv k R C O' (Spec.dsumFold (rk, ck, f) (l.map fun M => (M.nrows, M.ncols, M.entry))).1
          (Spec.dsumFold (rk, ck, f) (l.map fun M => (M.nrows, M.ncols, M.entry))).2.1
          (Spec.dsumFold (rk, ck, f) (l.map fun M => (M.nrows, M.ncols, M.entry))).2.2 := by
  intro l
  induction l with
  | nil =>
    intro O rk ck f hinv _ _ _
    exact ⟨O, rfl, hinv⟩
  | cons M ms ih =>
    intro O rk ck f hinv hwf hR hC
    have hM : M.WF := hwf M (by simp)
    simp only [List.foldl_cons, Nat.zero_add] at hR hC
    rw [foldl_add_init] at hR hC
    obtain ⟨hk, hw, hd, hget⟩ := hinv
    -- the block of `M` is written over zeros; `val` is what the output holds afterwards
    obtain ⟨O1, e1, w⟩ := (Written.init hw (fun p q =>
        if p < rk + M.nrows ∧ q < ck + M.ncols then Spec.dsum f M.entry rk ck M.nrows M.ncols p q else Scalar.zero)).fillBlock
      rk ck (r := M.nrows) (c := M.ncols) (fun i j hi hj => inside_of_shape hd (by omega) (by omega))
      (f := fun i j => M.get i j) (fun i j hi hj => by
        have h1 : ¬ rk + i < rk := by omega
        have h2 : ¬ ck + j < ck := by omega
        simp [get_eq_entry hM hi hj, Spec.dsum, h1, h2, hi, hj])
    have hinv1 : DsumInv k R C O1 (rk + M.nrows) (ck + M.ncols) (Spec.dsum f M.entry rk ck M.nrows M.ncols) := by
      refine ⟨w.1.2.1.trans hk, w.1.1, by rw [w.1.2.2.1, w.1.2.2.2, w.1.2.1]; exact hd, ?_⟩
      intro p q hp hq
      obtain ⟨hpO, hqO⟩ := inside_of_shape hd hp hq
      by_cases hb : rk ≤ p ∧ p < rk + M.nrows ∧ ck ≤ q ∧ q < ck + M.ncols
      · exact (w.2 p q hpO hqO).1 (Or.inr ⟨p - rk, by omega, q - ck, by omega, by omega, by omega⟩)
      · rw [(w.2 p q hpO hqO).2 (fun h => h.elim id (fun ⟨i, hi, j, hj, e1, e2⟩ => hb (by omega))), hget p q hp hq]
        congr 1
        by_cases h1 : p < rk
        · by_cases h2 : q < ck
          · have h4 : p < rk + M.nrows ∧ q < ck + M.ncols := by omega
            simp [Spec.dsum, h1, h2, h4]
          · simp [Spec.dsum, h1, h2]
        · by_cases h2 : q < ck
          · simp [Spec.dsum, h1, h2]
          · have h4 : ¬ (p < rk + M.nrows ∧ q < ck + M.ncols) := by omega
            simp [h1, h4]
    obtain ⟨O', e2, hinv2⟩ := ih O1 (rk + M.nrows) (ck + M.ncols) _ hinv1 (fun X hX => hwf X (by simp [hX]))
      (by omega) (by omega)
    refine ⟨O', ?_, hinv2⟩
    rw [List.foldlM_cons]
    simp only [dsumNStep, e1]
    exact e2

theorem dsumFold_dims (l : List (Store α)) (rk ck : Nat) (f : Nat → Nat → α) :
    (Spec.dsumFold (rk, ck, f) (l.map fun M => (M.nrows, M.ncols, M.entry))).1 = rk + l.foldl (fun s M => s + M.nrows) 0 ∧
    (Spec.dsumFold (rk, ck, f) (l.map fun M => (M.nrows, M.ncols, M.entry))).2.1 = ck + l.foldl (fun s M => s + M.ncols) 0 := by
  induction l generalizing rk ck f with
  | nil => simp [Spec.dsumFold]
  | cons M ms ih =>
    simp only [Spec.dsumFold, List.map_cons, List.foldl_cons, Nat.zero_add]
    have := ih (rk + M.nrows) (ck + M.ncols) (Spec.dsum f M.entry rk ck M.nrows M.ncols)
    simp only [Spec.dsumFold] at this
    rw [this.1, this.2, foldl_add_init (fun M => M.nrows) ms M.nrows, foldl_add_init (fun M => M.ncols) ms M.ncols]
    omega

/-- `directSum(vector, O)`: the blocks on the diagonal, zero elsewhere -/
theorem dsumN_holds (vA : List (Store α)) (hwf : ∀ M ∈ vA, M.WF) (O : Store α) :
    ∃ O', dsumN vA O = .ok O' ∧ O'.kind = O.kind ∧
      O'.Holds (Spec.dsumFold (0, 0, fun _ _ => Scalar.zero) (vA.map fun M => (M.nrows, M.ncols, M.entry))).1
        (Spec.dsumFold (0, 0, fun _ _ => Scalar.zero) (vA.map fun M => (M.nrows, M.ncols, M.entry))).2.1
        (Spec.dsumFold (0, 0, fun _ _ => Scalar.zero) (vA.map fun M => (M.nrows, M.ncols, M.entry))).2.2 := by
  obtain ⟨d1, d2⟩ := dsumFold_dims vA 0 0 (fun _ _ => (Scalar.zero : α))
  simp only [Nat.zero_add] at d1 d2
  rw [d1, d2]
  unfold dsumN
  simp only
  generalize hR : vA.foldl (fun s M => s + M.nrows) 0 = R at *
  generalize hC : vA.foldl (fun s M => s + M.ncols) 0 = C at *
  obtain ⟨O1, e1, k1, h1⟩ := fill_resize_holds O (r := R) (c := C) (f := fun _ _ => .ok Scalar.zero)
    (g := fun _ _ => (Scalar.zero : α)) (fun _ _ _ _ => rfl)
  simp only [e1]
  obtain ⟨O', e2, hk', h'⟩ := dsumN_fold O.kind R C vA O1 0 0 (fun _ _ => Scalar.zero)
    ⟨k1, h1.congr (fun _ _ _ _ => (ite_self _).symm)⟩ hwf (by omega) (by omega)
  rw [d1, d2] at h'
  exact ⟨O', by simp only [e2], hk', h'.congr (fun i j hi hj => if_pos ⟨hi, hj⟩)⟩

end Misc
end Bpp.Mx
