import BppModel.LogSpace
import BppProofs.Lemmas.VecToolsNoUb
import Mathlib.Analysis.SpecialFunctions.Log.Basic
/-!
Helper lemmas for C07 (log-space part): the program text of `BppModel/LogSpace.lean` read at `ℝ`
(no infinities: the max-shifted sums, the weighted sum `wsum v w = Σ wᵢ·exp vᵢ` under a shift and between its bounds) and at
`Ext ℝ` (reals with `±∞` and NaN: vectors of finite values and log-zeros, the extended reading on finite inputs, vectors of
log-zeros only).
-/
namespace Bpp.LogSpace
open Bpp Bpp.VecTools

/-- the exact-arithmetic reading of the log-space interface -/
noncomputable instance instLogArithReal : LogArith ℝ where
  ofNat n := (n : ℝ)
  ltb x y := decide (x < y)
  eqb x y := decide (x = y)
  exp := Real.exp
  log := Real.log
  isInf _ := false

@[simp] theorem ofNat_eq (n : Nat) : (LogArith.ofNat n : ℝ) = (n : ℝ) := rfl
@[simp] theorem ltb_iff (x y : ℝ) : LogArith.ltb x y = true ↔ x < y := decide_eq_true_iff
@[simp] theorem ltb_false_iff (x y : ℝ) : LogArith.ltb x y = false ↔ y ≤ x := decide_eq_false_iff_not.trans not_lt
@[simp] theorem eqb_iff (x y : ℝ) : LogArith.eqb x y = true ↔ x = y := decide_eq_true_iff
@[simp] theorem eqb_false_iff (x y : ℝ) : LogArith.eqb x y = false ↔ x ≠ y := decide_eq_false_iff_not
@[simp] theorem exp_eq (x : ℝ) : LogArith.exp x = Real.exp x := rfl
@[simp] theorem log_eq (x : ℝ) : LogArith.log x = Real.log x := rfl
@[simp] theorem isInf_eq (x : ℝ) : LogArith.isInf x = false := rfl

/-! ### the reductions once the maximum is known, in any reading -/
section OfMax
variable {α : Type} [LogArith α] {v w : List α} {M : α}
open LogArith

theorem logSumExp_of_max (h1 : v.length ≠ 1) (hM : vmax v = .ok M) :
    logSumExp v = if isInf M then .ok M else (expSum M v).map (log · + M) := by
  rw [logSumExp, if_neg h1, hM]; rfl

theorem sumExp_of_max (h1 : v.length ≠ 1) (hM : vmax v = .ok M) :
    sumExp v = if isInf M then .ok (if ltb M (ofNat 0) then ofNat 0 else M) else (expSum M v).map (· * exp M) := by
  rw [sumExp, if_neg h1, hM]; rfl

theorem logSumExpW_of_max (h : v.length = w.length) (hM : vmax v = .ok M) :
    logSumExpW v w = if isInf M then .error .badnumber else (expSumW M v w).map (log · + M) := by
  rw [logSumExpW, if_neg (not_not_intro h), hM]; rfl

theorem sumExpW_of_max (h : v.length = w.length) (h1 : v.length ≠ 1) (hM : vmax v = .ok M) :
    sumExpW v w = if isInf M then .error .badnumber else (expSumW M v w).map (· * exp M) := by
  rw [sumExpW, if_neg (not_not_intro h), if_neg h1, hM]; rfl

end OfMax

/-! ### pairwise log-sum -/
/-- the one rewriting step behind every max-shifted value, shift law and bound -/
theorem log_mul_exp {S : ℝ} (hS : 0 < S) (c : ℝ) : Real.log (S * Real.exp c) = Real.log S + c := by
  rw [Real.log_mul hS.ne' (Real.exp_pos c).ne', Real.log_exp]

theorem logsum_real (a b : ℝ) : logsum a b =
    if a = b then a + Real.log 2 else if b < a then a + Real.log (1 + Real.exp (b - a))
    else b + Real.log (1 + Real.exp (a - b)) := by
  simp only [logsum, eqb_iff, ltb_iff, ofNat_eq, log_eq, exp_eq, Nat.cast_ofNat, Nat.cast_one]

theorem add_log_one_add_exp (x y : ℝ) :
    x + Real.log (1 + Real.exp (y - x)) = Real.log (Real.exp x + Real.exp y) := by
  rw [show Real.exp x + Real.exp y = (1 + Real.exp (y - x)) * Real.exp x by
      rw [add_mul, one_mul, ← Real.exp_add, sub_add_cancel],
    log_mul_exp (add_pos one_pos (Real.exp_pos _)), add_comm]

theorem logsum_eq (a b : ℝ) : logsum a b = Real.log (Real.exp a + Real.exp b) := by
  rw [logsum_real]
  split
  · rename_i h
    rw [← h, ← mul_two, mul_comm, log_mul_exp two_pos, add_comm]
  · split
    · exact add_log_one_add_exp a b
    · rw [add_comm (Real.exp a)]; exact add_log_one_add_exp b a

/-! ### max-shifted sums -/

theorem mul_exp_neg_mul_exp (S M : ℝ) : S * Real.exp (-M) * Real.exp M = S := by
  rw [mul_assoc, ← Real.exp_add, neg_add_cancel, Real.exp_zero, mul_one]

theorem vmax_spec (v : List ℝ) (M : ℝ) (h : vmax v = .ok M) : M ∈ v ∧ ∀ y ∈ v, y ≤ M :=
  (extremum_spec (strictWeak_of_lt ltb_iff).flip h).imp_right fun hall y hy => (ltb_false_iff M y).mp (hall y hy)

theorem vmax_defined (v : List ℝ) (h : v ≠ []) : ∃ M, vmax v = .ok M := by
  cases v with
  | nil => exact absurd rfl h
  | cons x xs => exact ⟨_, rfl⟩

theorem vmax_nil : vmax ([] : List ℝ) = .error .empty := rfl

theorem expSum_eq (M : ℝ) (v : List ℝ) (h : v ≠ []) :
    expSum M v = .ok ((shifted M v).map Real.exp).sum := by
  cases v with
  | nil => exact absurd rfl h
  | cons x xs =>
    rw [expSum, foldl_add_map (fun z => LogArith.exp (z - M)), shifted, List.map_map, List.map_cons, List.sum_cons]
    rfl

theorem sum_exp_map_add (v : List ℝ) (c : ℝ) :
    ((v.map (· + c)).map Real.exp).sum = (v.map Real.exp).sum * Real.exp c := by
  rw [List.map_map, ← List.sum_map_mul_right]
  exact congrArg List.sum (List.map_congr_left fun x _ => Real.exp_add x c)

theorem sum_exp_shift (M : ℝ) (v : List ℝ) :
    ((shifted M v).map Real.exp).sum = (v.map Real.exp).sum * Real.exp (-M) :=
  sum_exp_map_add v (-M)

theorem sum_exp_pos (v : List ℝ) (h : v ≠ []) : 0 < (v.map Real.exp).sum := by
  cases v with
  | nil => exact absurd rfl h
  | cons x xs =>
    rw [List.map_cons, List.sum_cons]
    exact add_pos_of_pos_of_nonneg (Real.exp_pos x)
      (List.sum_nonneg (List.forall_mem_map.mpr fun w _ => (Real.exp_pos w).le))

theorem sum_exp_bounds (v : List ℝ) (M : ℝ) (hM : M ∈ v) (hle : ∀ y ∈ v, y ≤ M) :
    Real.exp M ≤ (v.map Real.exp).sum ∧ (v.map Real.exp).sum ≤ v.length * Real.exp M := by
  constructor
  · exact List.single_le_sum (List.forall_mem_map.mpr fun w _ => (Real.exp_pos w).le) _ (List.mem_map_of_mem hM)
  · have := List.sum_le_card_nsmul (v.map Real.exp) (Real.exp M)
      (List.forall_mem_map.mpr fun w hw => Real.exp_le_exp.mpr (hle w hw))
    rwa [List.length_map, nsmul_eq_mul] at this

theorem shifted_le (v : List ℝ) (M : ℝ) (hle : ∀ y ∈ v, y ≤ M) :
    (∀ a ∈ shifted M v, a ≤ 0) ∧ ∀ a ∈ shifted M v, 0 < Real.exp a ∧ Real.exp a ≤ 1 := by
  have h : ∀ a ∈ shifted M v, a ≤ 0 := List.forall_mem_map.mpr fun x hx => sub_nonpos.mpr (hle x hx)
  exact ⟨h, fun a ha => ⟨Real.exp_pos a, Real.exp_le_one_iff.mpr (h a ha)⟩⟩

/-- for other sizes than 1: the maximum is subtracted before `exp` and added back after `log` -/
theorem logSumExp_unfold (v : List ℝ) (hv : v ≠ []) (h1 : v.length ≠ 1) :
    ∃ M, vmax v = .ok M ∧ logSumExp v = .ok (Real.log ((shifted M v).map Real.exp).sum + M) := by
  obtain ⟨M, hM⟩ := vmax_defined v hv
  exact ⟨M, hM, by rw [logSumExp_of_max h1 hM, expSum_eq M v hv]; rfl⟩

theorem logSumExp_eq (v : List ℝ) (hv : v ≠ []) : logSumExp v = .ok (Real.log (v.map Real.exp).sum) := by
  by_cases h1 : v.length = 1
  · obtain ⟨x, rfl⟩ := List.length_eq_one_iff.mp h1
    rw [List.map_singleton, List.sum_singleton, Real.log_exp]; rfl
  · obtain ⟨M, -, h⟩ := logSumExp_unfold v hv h1
    rw [h, sum_exp_shift, log_mul_exp (sum_exp_pos v hv), neg_add_cancel_right]

theorem logMeanExp_of_lse {v : List ℝ} {l : ℝ} (h : logSumExp v = .ok l) :
    logMeanExp v = .ok (l - Real.log v.length) := by
  rw [logMeanExp, h]; rfl

theorem sumExp_eq (v : List ℝ) (hv : v ≠ []) : sumExp v = .ok (v.map Real.exp).sum := by
  by_cases h1 : v.length = 1
  · obtain ⟨x, rfl⟩ := List.length_eq_one_iff.mp h1
    rw [List.map_singleton, List.sum_singleton]; rfl
  · obtain ⟨M, hM⟩ := vmax_defined v hv
    rw [sumExp_of_max h1 hM, expSum_eq M v hv]
    exact congrArg Except.ok (by rw [sum_exp_shift]; exact mul_exp_neg_mul_exp _ M)

theorem expSumW_eq (M : ℝ) (v w : List ℝ) (hv : v ≠ []) (h : v.length = w.length) :
    expSumW M v w = .ok (List.zipWith (fun x c => c * Real.exp (x - M)) v w).sum := by
  cases v with
  | nil => exact absurd rfl hv
  | cons x xs =>
    cases w with
    | nil => cases h
    | cons c cs =>
      rw [expSumW, foldl_add_map (fun p : ℝ × ℝ => p.2 * LogArith.exp (p.1 - M)), List.zipWith_cons_cons,
        List.sum_cons, List.zip, List.map_zipWith]
      rfl

/-- `Σ wᵢ·exp vᵢ` -/
noncomputable def wsum (v w : List ℝ) : ℝ := (List.zipWith (fun x c => c * Real.exp x) v w).sum

theorem sum_zipWith_shift (M : ℝ) (v w : List ℝ) :
    (List.zipWith (fun x c => c * Real.exp (x - M)) v w).sum = wsum v w * Real.exp (-M) := by
  rw [wsum, zipWith_eq_map_zip, zipWith_eq_map_zip, ← List.sum_map_mul_right]
  exact congrArg List.sum (List.map_congr_left fun p _ => by rw [sub_eq_add_neg, Real.exp_add, mul_assoc])

/-- the shifted sum the code takes the logarithm of -/
theorem logSumExpW_unfold (v w : List ℝ) (hv : v ≠ []) (h : v.length = w.length) :
    ∃ M, vmax v = .ok M ∧
      logSumExpW v w = .ok (Real.log (List.zipWith (fun x c => c * Real.exp (x - M)) v w).sum + M) := by
  obtain ⟨M, hM⟩ := vmax_defined v hv
  exact ⟨M, hM, by rw [logSumExpW_of_max h hM, expSumW_eq M v w hv h]; rfl⟩

theorem sumExpW_eq (v w : List ℝ) (hv : v ≠ []) (h : v.length = w.length) :
    sumExpW v w = .ok (wsum v w) := by
  by_cases h1 : v.length = 1
  · obtain ⟨x, rfl⟩ := List.length_eq_one_iff.mp h1
    obtain ⟨c, rfl⟩ := List.length_eq_one_iff.mp (h ▸ h1 : w.length = 1)
    exact congrArg Except.ok List.sum_singleton.symm
  · obtain ⟨M, hM⟩ := vmax_defined v hv
    rw [sumExpW_of_max h h1 hM, expSumW_eq M v w hv h]
    exact congrArg Except.ok (by rw [sum_zipWith_shift]; exact mul_exp_neg_mul_exp _ M)

theorem wsum_map_add (v w : List ℝ) (c : ℝ) : wsum (v.map (· + c)) w = wsum v w * Real.exp c := by
  have := sum_zipWith_shift (-c) v w
  rwa [neg_neg, funext₂ fun x d => show d * Real.exp (x - -c) = d * Real.exp (x + c) by rw [sub_neg_eq_add],
    ← List.zipWith_map_left (f := (· + c)) (g := fun x d => d * Real.exp x)] at this

/-- with non-negative weights, `Σ wᵢ·exp vᵢ ≤ (Σ w)·exp M` for every upper bound `M` of `v` -/
theorem wsum_le (v w : List ℝ) (M : ℝ) (h : v.length = w.length) (hw : ∀ c ∈ w, 0 ≤ c)
    (hle : ∀ y ∈ v, y ≤ M) : wsum v w ≤ w.sum * Real.exp M := by
  have hsnd : w = (v.zip w).map Prod.snd := (List.map_snd_zip (Nat.le_of_eq h.symm)).symm
  rw [wsum, zipWith_eq_map_zip]
  conv_rhs => rw [hsnd, ← List.sum_map_mul_right]
  refine List.sum_le_sum fun p hp => ?_
  exact mul_le_mul_of_nonneg_left (Real.exp_le_exp.mpr (hle _ (List.of_mem_zip hp).1)) (hw _ (List.of_mem_zip hp).2)

theorem wsum_ge_term (v w : List ℝ) (hw : ∀ c ∈ w, 0 ≤ c) (i : Nat) (x c : ℝ)
    (hx : v[i]? = some x) (hc : w[i]? = some c) : c * Real.exp x ≤ wsum v w := by
  refine List.single_le_sum (fun t ht => ?_) _ (List.mem_of_getElem? (i := i) ?_)
  · obtain ⟨j, hj, rfl⟩ := List.mem_iff_getElem.mp ht
    rw [List.getElem_zipWith]
    exact mul_nonneg (hw _ (List.getElem_mem _)) (Real.exp_pos _).le
  · rw [List.getElem?_zipWith, hx, hc]

/-! ### extended values -/
section ExtR
open Ext

@[simp] theorem ext_add (a b : Ext ℝ) : a + b = Ext.add a b := rfl
@[simp] theorem ext_sub (a b : Ext ℝ) : a - b = Ext.sub a b := rfl
@[simp] theorem ext_mul (a b : Ext ℝ) : a * b = Ext.mul a b := rfl
@[simp] theorem ext_ofNat (n : Nat) : (LogArith.ofNat n : Ext ℝ) = Ext.fin (n : ℝ) := rfl
@[simp] theorem ext_ltb (a b : Ext ℝ) : LogArith.ltb a b = Ext.lt a b := rfl
@[simp] theorem ext_eqb (a b : Ext ℝ) : LogArith.eqb a b = Ext.beq a b := rfl
@[simp] theorem ext_exp (a : Ext ℝ) : LogArith.exp a = Ext.exp' a := rfl
@[simp] theorem ext_log (a : Ext ℝ) : LogArith.log a = Ext.log' a := rfl
@[simp] theorem ext_isInf (a : Ext ℝ) : LogArith.isInf a = Ext.isInf' a := rfl

theorem log'_fin (x : ℝ) :
    Ext.log' (Ext.fin x) = if 0 < x then Ext.fin (Real.log x) else if x < 0 then Ext.nan else Ext.ninf := by
  simp only [Ext.log', ltb_iff, ofNat_eq, Nat.cast_zero, log_eq]

theorem log'_fin_pos (x : ℝ) (h : 0 < x) : Ext.log' (Ext.fin x) = Ext.fin (Real.log x) := (log'_fin x).trans (if_pos h)

theorem logsum_fin_fin (a b : ℝ) : logsum (Ext.fin a) (Ext.fin b) = Ext.fin (logsum a b) := by
  have hlog : ∀ x y : ℝ, 0 < y → Ext.fin x + LogArith.log (Ext.fin y) = Ext.fin (x + Real.log y) :=
    fun x y hy => congrArg (Ext.add (Ext.fin x)) (log'_fin_pos y hy)
  have h1 : ∀ t : ℝ, (0 : ℝ) < LogArith.ofNat 1 + Real.exp t := fun t => add_pos (Nat.cast_pos.mpr one_pos) (Real.exp_pos t)
  rw [logsum, logsum, apply_ite Ext.fin, apply_ite Ext.fin]
  exact if_congr Iff.rfl (hlog a _ (Nat.cast_pos.mpr two_pos)) (if_congr Iff.rfl (hlog a _ (h1 _)) (hlog b _ (h1 _)))

end ExtR

/-! ### logSumExp over finite values and log-zeros -/

section ExtLse
open Ext

/-- the finite entries of a vector of extended values -/
def finPart : List (Ext ℝ) → List ℝ
  | [] => []
  | Ext.fin x :: l => x :: finPart l
  | _ :: l => finPart l

/-- only finite values and log-zeros -/
def LogVals (v : List (Ext ℝ)) : Prop := ∀ e ∈ v, e = Ext.ninf ∨ ∃ x, e = Ext.fin x

theorem LogVals.tail {e : Ext ℝ} {l : List (Ext ℝ)} (h : LogVals (e :: l)) : LogVals l :=
  fun x hx => h x (List.mem_cons_of_mem _ hx)

/-- a fold that ignores log-zeros and is `g` on finite values is the fold of `g` over the finite entries -/
theorem foldl_logVals {f : Ext ℝ → Ext ℝ → Ext ℝ} {g : ℝ → ℝ → ℝ} (h0 : ∀ a, f (Ext.fin a) Ext.ninf = Ext.fin a)
    (h1 : ∀ a x, f (Ext.fin a) (Ext.fin x) = Ext.fin (g a x)) (l : List (Ext ℝ)) (hl : LogVals l) (a : ℝ) :
    l.foldl f (Ext.fin a) = Ext.fin ((finPart l).foldl g a) := by
  induction l generalizing a with
  | nil => rfl
  | cons e es ih =>
    rcases hl e List.mem_cons_self with rfl | ⟨x, rfl⟩
    · rw [List.foldl_cons, h0]; exact ih hl.tail a
    · rw [List.foldl_cons, h1]; exact ih hl.tail _

theorem vmax_ext (v : List (Ext ℝ)) (hv : LogVals v) (m : ℝ) (hm : vmax (finPart v) = .ok m) :
    vmax v = .ok (Ext.fin m) := by
  induction v with
  | nil => cases hm
  | cons e es ih =>
    rcases hv e List.mem_cons_self with rfl | ⟨x, rfl⟩
    · cases es with
      | nil => cases hm
      | cons e' es' =>
        have : vmax (Ext.ninf :: e' :: es') = vmax (e' :: es') := by
          rcases hv e' (List.mem_cons_of_mem _ List.mem_cons_self) with rfl | ⟨x, rfl⟩ <;> rfl
        rw [this]; exact ih hv.tail hm
    · refine (congrArg Except.ok (foldl_logVals (fun a => rfl) (fun a y => ?_) es hv.tail x)).trans
        (congrArg (fun r => Except.ok (Ext.fin r)) (Except.ok.inj hm))
      exact (apply_ite Ext.fin _ _ _).symm

theorem expSum_ext (v : List (Ext ℝ)) (hv : LogVals v) (hne : v ≠ []) (m : ℝ) :
    expSum (Ext.fin m) v = .ok (Ext.fin ((shifted m (finPart v)).map Real.exp).sum) := by
  rw [shifted, List.map_map, Function.comp_def]
  have hf : ∀ (t : ℝ) (es : List (Ext ℝ)), LogVals es →
      es.foldl (fun y z => y + LogArith.exp (z - Ext.fin m)) (Ext.fin t) =
        Ext.fin (t + ((finPart es).map (fun x => Real.exp (x - m))).sum) := fun t es hes =>
    (foldl_logVals (g := fun s x => s + Real.exp (x - m)) (fun a => congrArg Ext.fin (by simp)) (fun a x => rfl) es hes t).trans
      (congrArg Ext.fin (foldl_add_map _ _ t))
  cases v with
  | nil => exact absurd rfl hne
  | cons e es =>
    rcases hv e List.mem_cons_self with rfl | ⟨x, rfl⟩
    · exact congrArg Except.ok ((hf _ es hv.tail).trans (congrArg Ext.fin (by simp [finPart])))
    · exact congrArg Except.ok (hf _ es hv.tail)

end ExtLse

/-! ### the extended reading on finite inputs -/
section ExtFin
open Ext

theorem vmax_map_fin (v : List ℝ) : vmax (v.map Ext.fin) = (vmax v).map Ext.fin := by
  cases v with
  | nil => rfl
  | cons x xs =>
    refine congrArg Except.ok (List.foldl_map.trans (List.foldl_hom Ext.fin fun a y => ?_))
    exact (apply_ite Ext.fin _ _ _).symm

theorem expSumW_map_fin (m : ℝ) (v w : List ℝ) :
    expSumW (Ext.fin m) (v.map Ext.fin) (w.map Ext.fin) = (expSumW m v w).map Ext.fin := by
  cases v with
  | nil => rfl
  | cons x xs =>
    cases w with
    | nil => rfl
    | cons c cs =>
      refine congrArg Except.ok ?_
      rw [List.zip_map, List.foldl_map]
      exact List.foldl_hom Ext.fin fun a p => rfl

end ExtFin

theorem vmax_all_logzero (n : Nat) : vmax (List.replicate (n + 1) (Ext.ninf : Ext ℝ)) = .ok Ext.ninf := by
  refine congrArg Except.ok ?_
  induction n with
  | zero => rfl
  | succ k ih => exact ih

theorem logSumExp_all_logzero (n : Nat) : logSumExp (List.replicate (n + 1) (Ext.ninf : Ext ℝ)) = .ok Ext.ninf := by
  cases n with
  | zero => rfl
  | succ k => exact (logSumExp_of_max (by simp) (vmax_all_logzero (k + 1))).trans (if_pos rfl)

end Bpp.LogSpace
