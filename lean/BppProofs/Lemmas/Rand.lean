import BppModel.Rand
import BppProofs.Lemmas.ScalarReal
import Mathlib.Data.List.Perm.Basic
import Mathlib.Data.List.Perm.Subperm
import Mathlib.Data.List.Nodup
import Mathlib.Data.List.Range
import Mathlib.Tactic.Linarith
/-! C18 (random draws), for any scalar type and any draws: `swapPop`, the selection relation `Sel`,
the picks and samples without weights, every search of the weighted draws as a `List.findIdx?`, the
run of the weighted sampler without replacement as a relation (`NoRepl`); the driver's multiset
predicates are `Subperm`, `Perm`, `⊆`. -/
namespace Bpp.Rand
open Bpp

section Pick
variable {τ : Type}

theorem swapPop_perm {v : List τ} {pos : Nat} {e : τ} (h : v[pos]? = some e) :
    v.Perm (e :: swapPop v pos) := by
  obtain ⟨hlt, he⟩ := List.getElem?_eq_some_iff.mp h
  have hne : v ≠ [] := by intro h0; subst h0; simp at hlt
  obtain ⟨ys, b, rfl⟩ : ∃ ys b, v = ys ++ [b] := ⟨v.dropLast, v.getLast hne, (List.dropLast_append_getLast hne).symm⟩
  have hlast : (ys ++ [b]).getLast? = some b := by simp
  unfold swapPop; rw [hlast]; dsimp only
  by_cases hp : pos < ys.length
  · rw [List.set_append_left _ _ hp, List.dropLast_concat]
    have he' : ys[pos] = e := by
      rw [← he]; exact (List.getElem_append_left hp).symm
    have hys : ys = ys.take pos ++ e :: ys.drop (pos + 1) := by
      rw [← he', ← List.drop_eq_getElem_cons hp, List.take_append_drop]
    rw [List.set_eq_take_append_cons_drop, if_pos hp]
    conv_lhs => rw [hys]
    -- (T ++ e :: D) ++ [b]  ~  e :: (T ++ b :: D)
    refine (List.perm_append_comm).trans ?_
    simp only [List.singleton_append]
    refine (List.Perm.cons b List.perm_middle).trans ?_
    refine (List.Perm.swap e b _).trans ?_
    exact List.Perm.cons e List.perm_middle.symm
  · have hpe : pos = ys.length := by simp at hlt; omega
    subst hpe
    have : (ys ++ [b]).set ys.length b = ys ++ [b] := by
      rw [List.set_append]; simp
    rw [this, List.dropLast_concat]
    have he' : b = e := by rw [← he]; simp
    subst he'
    exact List.perm_append_comm

theorem subperm_filterMap {β γ : Type} (f : β → Option γ) {a b : List β} (h : a.Subperm b) :
    (a.filterMap f).Subperm (b.filterMap f) := by
  obtain ⟨l, hp, hs⟩ := h
  exact ⟨l.filterMap f, hp.filterMap f, hs.filterMap f⟩

theorem subperm_nodup {β : Type} {a b : List β} (h : a.Subperm b) (hb : b.Nodup) : a.Nodup := by
  obtain ⟨l, hp, hs⟩ := h
  exact hp.nodup_iff.mp (hs.nodup hb)

theorem filterMap_getElem?_range (v : List τ) :
    (List.range v.length).filterMap (fun i => v[i]?) = v := by
  induction v with
  | nil => rfl
  | cons x xs ih =>
    rw [List.length_cons, List.range_succ_eq_map, List.filterMap_cons]
    simp only [List.getElem?_cons_zero, List.filterMap_map]
    congr 1

/-- the selection relation: `out[j] = vin[idx[j]]` -/
def Sel (vin : List τ) (out : List τ) (idx : List Nat) : Prop :=
  List.Forall₂ (fun o i => vin[i]? = some o) out idx

theorem Sel.eq_filterMap {vin out : List τ} {idx : List Nat} (h : Sel vin out idx) :
    out = idx.filterMap (fun i => vin[i]?) := by
  induction h with
  | nil => rfl
  | cons hx _ ih => rw [List.filterMap_cons, hx, ← ih]

theorem Sel.length {vin out : List τ} {idx : List Nat} (h : Sel vin out idx) : out.length = idx.length :=
  List.Forall₂.length_eq h

theorem Sel.subperm {vin out : List τ} {idx : List Nat} (h : Sel vin out idx) (hn : idx.Nodup)
    (hlt : ∀ i ∈ idx, i < vin.length) : out.Subperm vin := by
  rw [h.eq_filterMap]
  have : idx.Subperm (List.range vin.length) :=
    List.subperm_of_subset hn (fun i hi => List.mem_range.mpr (hlt i hi))
  have := subperm_filterMap (fun i => vin[i]?) this
  rwa [filterMap_getElem?_range] at this

theorem forall₂_exists_right {β γ : Type} {R : β → γ → Prop} {l₁ : List β} {l₂ : List γ} (h : List.Forall₂ R l₁ l₂) :
    ∀ x ∈ l₁, ∃ y, R x y := by
  induction h with
  | nil => intro x hx; cases hx
  | cons hx _ ih => exact List.forall_mem_cons.mpr ⟨⟨_, hx⟩, ih⟩

theorem exists_forall₂ {β γ : Type} {R : β → γ → Prop} : ∀ {l : List γ}, (∀ d ∈ l, ∃ x, R x d) → ∃ out, List.Forall₂ R out l
  | [], _ => ⟨[], .nil⟩
  | d :: ds, h =>
    let ⟨x, hx⟩ := h d List.mem_cons_self
    let ⟨out, ho⟩ := exists_forall₂ (l := ds) fun e he => h e (List.mem_cons_of_mem _ he)
    ⟨x :: out, .cons hx ho⟩

theorem Sel.mem {vin out : List τ} {idx : List Nat} (h : Sel vin out idx) : ∀ x ∈ out, x ∈ vin := fun x hx =>
  let ⟨_, hi⟩ := forall₂_exists_right h x hx
  List.mem_of_getElem? hi

theorem Sel.exists {vin : List τ} {idx : List Nat} (h : ∀ i ∈ idx, i < vin.length) : ∃ out, Sel vin out idx :=
  exists_forall₂ fun i hi => ⟨vin[i]'(h i hi), List.getElem?_eq_getElem _⟩

theorem selectBy_eq_ok_iff {vin : List τ} : ∀ {idx : List Nat} {out : List τ}, selectBy vin idx = .ok out ↔ Sel vin out idx
  | [], out => by simp [selectBy, Sel, eq_comm]
  | i :: is, out => by
    rw [selectBy]
    constructor
    · intro h
      cases hv : vin[i]? with
      | none => rw [hv] at h; cases h
      | some x =>
        rw [hv] at h
        cases hr : selectBy vin is with
        | error e => rw [hr] at h; cases h
        | ok r => rw [hr] at h; cases h; exact .cons hv (selectBy_eq_ok_iff.mp hr)
    · rintro (_ | ⟨hx, hs⟩)
      rw [hx, selectBy_eq_ok_iff.mpr hs]

theorem selectBy_ok {vin : List τ} {idx : List Nat} (h : ∀ i ∈ idx, i < vin.length) :
    ∃ out, selectBy vin idx = .ok out ∧ Sel vin out idx :=
  let ⟨out, hs⟩ := Sel.exists h
  ⟨out, selectBy_eq_ok_iff.mpr hs, hs⟩

theorem selectBy_subperm_range {vin : List τ} {ps : List Nat} (h : ps.Subperm (List.range vin.length)) :
    ∃ out, selectBy vin ps = .ok out ∧ out.length = ps.length ∧ ps.Nodup ∧ (∀ i ∈ ps, i < vin.length) ∧
      Sel vin out ps ∧ out.Subperm vin ∧ (ps.length = vin.length → out.Perm vin) := by
  have hnd : ps.Nodup := subperm_nodup h List.nodup_range
  have hlt : ∀ i ∈ ps, i < vin.length := fun i hi => List.mem_range.mp (h.subset hi)
  obtain ⟨out, ho, hsel⟩ := selectBy_ok hlt
  have hs := hsel.subperm hnd hlt
  exact ⟨out, ho, hsel.length, hnd, hlt, hsel, hs, fun hl => hs.perm_of_length_le (by rw [hsel.length, hl])⟩

theorem pickOne_eq_ok_iff {v : List τ} {replace : Bool} {pos : Nat} {e : τ} {rest : List τ} :
    pickOne v replace pos = .ok (e, rest) ↔ v[pos]? = some e ∧ rest = if replace then v else swapPop v pos := by
  cases v with
  | nil => simp [pickOne]
  | cons a as =>
    rw [pickOne, List.isEmpty_cons, if_neg Bool.false_ne_true]
    cases (a :: as)[pos]? with
    | none => simp
    | some x =>
      cases replace <;> simp [eq_comm]

theorem pickOneConst_eq_ok_iff {v : List τ} {pos : Nat} {e : τ} : pickOneConst v pos = .ok e ↔ v[pos]? = some e := by
  cases v with
  | nil => simp [pickOneConst]
  | cons a as => cases h : (a :: as)[pos]? <;> simp [pickOneConst, h]

theorem sampleRepl_eq_ok_iff {vin : List τ} : ∀ {k : Nat} {draws : List Nat} {out : List τ},
    sampleRepl vin k draws = .ok out ↔ k ≤ draws.length ∧ Sel vin out (draws.take k)
  | 0, _, out => by
    rw [sampleRepl, Except.ok.injEq, List.take_zero, Sel, List.forall₂_nil_right_iff]
    exact ⟨fun h => ⟨Nat.zero_le _, h.symm⟩, fun h => h.2.symm⟩
  | k + 1, [], out => by
    refine ⟨fun h => ?_, fun h => nomatch h.1⟩
    rw [sampleRepl] at h
    split at h <;> cases h
  | k + 1, d :: ds, out => by
    rw [sampleRepl, List.take_succ_cons, List.length_cons, Nat.add_le_add_iff_right]
    constructor
    · intro h
      by_cases hne : vin.isEmpty = true
      · rw [if_pos hne] at h; cases h
      · rw [if_neg hne] at h
        cases hp : pickOneConst vin d with
        | error e => rw [hp] at h; cases h
        | ok x =>
          rw [hp] at h
          cases hr : sampleRepl vin k ds with
          | error e => rw [hr] at h; cases h
          | ok r =>
            rw [hr] at h; cases h
            exact ⟨(sampleRepl_eq_ok_iff.mp hr).1, .cons (pickOneConst_eq_ok_iff.mp hp) (sampleRepl_eq_ok_iff.mp hr).2⟩
    · rintro ⟨hk, _ | ⟨hx, hs⟩⟩
      have hne : ¬ vin.isEmpty = true := fun h => by rw [List.isEmpty_iff.mp h] at hx; cases hx
      rw [if_neg hne, pickOneConst_eq_ok_iff.mpr hx, sampleRepl_eq_ok_iff.mpr ⟨hk, hs⟩]

theorem getSample_repl (vin : List τ) (k : Nat) (draws hat : List Nat) :
    getSample vin k true draws hat = sampleRepl vin k draws := by
  simp [getSample]

theorem getSample_norepl (vin : List τ) (k : Nat) (draws hat : List Nat) :
    getSample vin k false draws hat = if vin.length < k then .error .index else selectBy vin (hat.take k) := by
  simp [getSample]

theorem swapPop_length {β : Type} (v : List β) (pos : Nat) : (swapPop v pos).length = v.length - 1 := by
  unfold swapPop
  cases h : v.getLast? with
  | none => simp at h; subst h; rfl
  | some b => simp

theorem swapPop_map {β γ : Type} (f : β → γ) (l : List β) (pos : Nat) :
    swapPop (l.map f) pos = (swapPop l pos).map f := by
  unfold swapPop
  cases h : l.getLast? with
  | none => simp [h]
  | some b => simp [h, List.map_set, List.map_dropLast]

/-- `swapPop` on two parallel vectors is `swapPop` on the vector of pairs (project both ways) -/
theorem swapPop_zip {β γ : Type} (v : List β) (w : List γ) (pos : Nat) (hl : v.length = w.length) :
    swapPop (v.zip w) pos = (swapPop v pos).zip (swapPop w pos) :=
  List.zip_of_prod (by rw [← swapPop_map, List.map_fst_zip hl.le]) (by rw [← swapPop_map, List.map_snd_zip hl.ge])

end Pick

theorem findIdx?_append_cons {β : Type} (p : β → Bool) (pre : List β) (x : β) (post : List β) :
    (pre ++ x :: post).findIdx? p = some pre.length ↔ (∀ y ∈ pre, p y = false) ∧ p x = true := by
  rw [List.findIdx?_eq_some_iff_getElem]
  constructor
  · rintro ⟨_, hx, hlt⟩
    refine ⟨fun y hy => ?_, by simpa using hx⟩
    obtain ⟨j, hj, rfl⟩ := List.getElem_of_mem hy
    simpa [List.getElem_append_left hj] using hlt j hj
  · rintro ⟨hpre, hx⟩
    refine ⟨by simp, by simpa using hx, fun j hj => ?_⟩
    rw [List.getElem_append_left hj, hpre _ (List.getElem_mem hj)]; simp

/-- "the first index at which `p` holds is `i`", in the shape of the executable law predicates:
entry `i` satisfies `p` and none of the `i` entries before it does -/
theorem findIdx?_eq_some_iff_take {β : Type} {p : β → Bool} {l : List β} {i : Nat} :
    l.findIdx? p = some i ↔ ∃ x, l[i]? = some x ∧ p x = true ∧ (l.take i).all (fun y => !p y) = true := by
  rw [List.findIdx?_eq_some_iff_getElem]
  constructor
  · rintro ⟨h, hp, hlt⟩
    refine ⟨l[i], List.getElem?_eq_getElem h, hp, List.all_eq_true.mpr fun y hy => ?_⟩
    obtain ⟨j, hj, rfl⟩ := List.mem_take_iff_getElem.mp hy
    simpa using hlt j (by omega)
  · rintro ⟨x, hx, hp, hall⟩
    obtain ⟨h, rfl⟩ := List.getElem?_eq_some_iff.mp hx
    refine ⟨h, hp, fun j hji => ?_⟩
    simpa using List.all_eq_true.mp hall l[j] (List.mem_take_iff_getElem.mpr ⟨j, by omega, rfl⟩)

section Weighted
variable {α : Type} [Scalar α] {τ : Type}

theorem cumSumFrom_length (acc : α) (l : List α) : (cumSumFrom acc l).length = l.length := by
  induction l generalizing acc with
  | nil => rfl
  | cons y ys ih => simp [cumSumFrom, ih]

theorem cumSum_length (l : List α) : (cumSum l).length = l.length := by
  cases l with
  | nil => rfl
  | cons x xs => simp [cumSum, cumSumFrom_length]

theorem normalize_ok {s : List α} (h : s ≠ []) :
    normalize s = .ok (s.map (· / s.getLast h)) := by
  unfold normalize
  rw [List.getLast?_eq_some_getLast h]

/-! ### every search of the weighted draws is a `List.findIdx?` -/
theorem searchLt_eq (prob : α) : ∀ (l : List α) (i0 : Nat),
    searchLt prob l i0 = (l.findIdx? (Scalar.ltb prob)).map (i0 + ·)
  | [], _ => rfl
  | s :: ss, i0 => by
    rw [searchLt, List.findIdx?_cons, searchLt_eq prob ss]
    split
    · rfl
    · simp only [Option.map_map]
      congr 1; funext i; simp only [Function.comp_apply]; omega

theorem searchLe_eq (prob : α) : ∀ (l : List α) (i0 : Nat),
    searchLe prob l i0 = (l.findIdx? (Scalar.leb prob)).map (i0 + ·)
  | [], _ => rfl
  | s :: ss, i0 => by
    rw [searchLe, List.findIdx?_cons, searchLe_eq prob ss]
    split
    · rfl
    · simp only [Option.map_map]
      congr 1; funext i; simp only [Function.comp_apply]; omega

theorem searchLt_zero (prob : α) (l : List α) : searchLt prob l 0 = l.findIdx? (Scalar.ltb prob) := by
  simp [searchLt_eq]

theorem searchLe_zero (prob : α) (l : List α) : searchLe prob l 0 = l.findIdx? (Scalar.leb prob) := by
  simp [searchLe_eq]

/-- the loop of `randMultinomial` is the search `r <= c[j]` over the running sums -/
theorem invCdf_eq_searchLe (s r : α) : ∀ (ps : List α) (cum : α) (j : Nat),
    invCdf s r cum ps j = searchLe r (cumSumFrom cum (ps.map (· / s))) j
  | [], _, _ => rfl
  | p :: ps, cum, j => by
    simp only [invCdf, List.map_cons, cumSumFrom, searchLe]
    rw [invCdf_eq_searchLe s r ps (cum + p / s) (j + 1)]

/-- … and so is the loop of `AbstractDiscreteDistribution::rand`, which returns the category at the
index found -/
theorem dRandFrom_eq (r : α) : ∀ (dist : List (α × α)) (cum : α),
    dRandFrom r cum dist =
      match (cumSumFrom cum (dist.map (·.2))).findIdx? (Scalar.leb r) with
      | some i => (dist[i]?.map (·.1)).getD (Scalar.ofInt (-1))
      | none => Scalar.ofInt (-1)
  | [], _ => rfl
  | (c, p) :: rest, cum => by
    simp only [dRandFrom, List.map_cons, cumSumFrom, List.findIdx?_cons]
    split
    · rfl
    · rw [dRandFrom_eq r rest (cum + p)]
      cases (cumSumFrom (cum + p) (rest.map (·.2))).findIdx? (Scalar.leb r) <;> rfl

/-- the search of `AbstractHmmTransitionMatrix::sample` is the first negative running remainder -/
theorem subtractSearch_eq : ∀ (p : List α) (u : α) (i0 : Nat),
    subtractSearch u p i0 = ((remainders u p).findIdx? (fun x => Scalar.ltb x (Scalar.ofInt 0))).map (i0 + ·)
  | [], _, _ => rfl
  | q :: qs, u, i0 => by
    rw [subtractSearch, remainders, List.findIdx?_cons, subtractSearch_eq qs]
    split
    · rfl
    · simp only [Option.map_map]
      congr 1; funext i; simp only [Function.comp_apply]; omega

theorem subtractSearch_zero (p : List α) (u : α) :
    subtractSearch u p 0 = (remainders u p).findIdx? (fun x => Scalar.ltb x (Scalar.ofInt 0)) := by
  simp [subtractSearch_eq]

theorem weightedPos_ok {n : Nat} {sumw : List α} (hn : 0 < n) (hl : n ≤ sumw.length) (prob : α) :
    ∃ pos, weightedPos n sumw prob = .ok pos ∧ pos < n := by
  unfold weightedPos
  rw [searchLt_zero]
  cases h : (sumw.take n).findIdx? (Scalar.ltb prob) with
  | some i =>
    have := (List.findIdx?_eq_some_iff_findIdx_eq.mp h).1
    rw [List.length_take] at this
    exact ⟨i, rfl, by omega⟩
  | none =>
    have : ¬ sumw.length < n := by omega
    simp only [this, if_false]
    exact ⟨n - 1, rfl, by omega⟩

theorem weightedIndex_ok {n : Nat} {w : List α} (hn : 0 < n) (hw : w.length = n) (prob : α) :
    ∃ pos, weightedIndex n w prob = .ok pos ∧ pos < n := by
  have hcne : cumSum w ≠ [] := by
    intro h; have := cumSum_length w; rw [h] at this; simp at this; omega
  obtain ⟨pos, hpos, hlt⟩ := weightedPos_ok (sumw := (cumSum w).map (· / (cumSum w).getLast hcne)) hn
    (by simp [cumSum_length, hw]) prob
  exact ⟨pos, by simp only [weightedIndex, normalize_ok hcne, hpos], hlt⟩

theorem pickOneW_ok {v : List τ} {w : List α} (hv : v ≠ []) (hw : w.length = v.length) (replace : Bool) (prob : α) :
    ∃ pos e, pos < v.length ∧ v[pos]? = some e ∧ weightedIndex v.length w prob = .ok pos ∧
      pickOneW v w replace prob = .ok (e, if replace then v else swapPop v pos, if replace then w else swapPop w pos) := by
  have hne : v.isEmpty = false := by cases v with | nil => exact absurd rfl hv | cons _ _ => rfl
  have hvl : 0 < v.length := List.length_pos_iff.mpr hv
  obtain ⟨pos, hpos, hlt⟩ := weightedIndex_ok hvl hw prob
  refine ⟨pos, v[pos], hlt, List.getElem?_eq_getElem hlt, hpos, ?_⟩
  unfold pickOneW
  simp only [hne, hpos, List.getElem?_eq_getElem hlt]
  cases replace
  · have : pos < w.length := by omega
    simp [this]
  · simp

/-- a run of the repeated `pickOne(hat, w2, false)`: the draw `d` designates position `pos`, the
element there is the result, and the run goes on with both vectors after `swapPop` -/
inductive NoRepl : List Nat → List α → List α → List Nat → Prop
  | nil (hat : List Nat) (w : List α) : NoRepl hat w [] []
  | cons {hat : List Nat} {w : List α} {d : α} {ds : List α} {pos h : Nat} {ps : List Nat} :
      weightedIndex hat.length w d = .ok pos → hat[pos]? = some h → w.length = hat.length →
      NoRepl (swapPop hat pos) (swapPop w pos) ds ps → NoRepl hat w (d :: ds) (h :: ps)

theorem pickPositionsNoRepl_run : ∀ (k : Nat) (hat : List Nat) (w2 : List α) (draws : List α),
    w2.length = hat.length → k ≤ hat.length → k ≤ draws.length →
    ∃ ps, pickPositionsNoRepl hat w2 k draws = .ok ps ∧ NoRepl hat w2 (draws.take k) ps
  | 0, hat, w2, _, _, _, _ => ⟨[], by unfold pickPositionsNoRepl; rfl, .nil hat w2⟩
  | k + 1, hat, w2, [], _, _, h => by simp at h
  | k + 1, hat, w2, d :: ds, hw, hk, hd => by
    have hv : hat ≠ [] := by intro h; subst h; simp at hk
    have hne : hat.isEmpty = false := by cases hat with | nil => exact absurd rfl hv | cons _ _ => rfl
    obtain ⟨pos, h, hlt, hget, hidx, hpick⟩ := pickOneW_ok hv hw false d
    simp only [Bool.false_eq_true, if_false] at hpick
    obtain ⟨ps, hps, hrun⟩ := pickPositionsNoRepl_run k (swapPop hat pos) (swapPop w2 pos) ds
      (by rw [swapPop_length, swapPop_length, hw]) (by rw [swapPop_length]; omega) (by simpa using hd)
    refine ⟨h :: ps, ?_, .cons hidx hget hw hrun⟩
    unfold pickPositionsNoRepl
    simp only [hne, hpick, hps]
    rfl

theorem NoRepl.length {hat : List Nat} {w us : List α} {ps : List Nat} (h : NoRepl hat w us ps) : ps.length = us.length := by
  induction h with
  | nil => rfl
  | cons _ _ _ _ ih => rw [List.length_cons, ih, List.length_cons]

theorem NoRepl.subperm {hat : List Nat} {w us : List α} {ps : List Nat} (h : NoRepl hat w us ps) : ps.Subperm hat := by
  induction h with
  | nil => exact List.nil_subperm
  | cons _ hget _ _ ih => exact ((List.subperm_cons _).mpr ih).trans (swapPop_perm hget).symm.subperm

theorem sampleWRepl_eq_ok_iff {vin : List τ} (hat : List Nat) (w : List α) : ∀ {k : Nat} {draws : List α} {out : List τ},
    sampleWRepl vin hat w k draws = .ok out ↔ k ≤ draws.length ∧
      List.Forall₂ (fun x d => ∃ i, pickOneWConst hat w d = .ok i ∧ vin[i]? = some x) out (draws.take k)
  | 0, _, out => by
    rw [sampleWRepl, Except.ok.injEq, List.take_zero, List.forall₂_nil_right_iff]
    exact ⟨fun h => ⟨Nat.zero_le _, h.symm⟩, fun h => h.2.symm⟩
  | k + 1, [], out => by
    refine ⟨fun h => ?_, fun h => nomatch h.1⟩
    rw [sampleWRepl] at h
    split at h <;> cases h
  | k + 1, d :: ds, out => by
    rw [sampleWRepl, List.take_succ_cons, List.length_cons, Nat.add_le_add_iff_right]
    constructor
    · intro h
      by_cases hne : hat.isEmpty = true
      · rw [if_pos hne] at h; cases h
      · rw [if_neg hne] at h
        cases hp : pickOneWConst hat w d with
        | error e => rw [hp] at h; cases h
        | ok i =>
          rw [hp] at h; dsimp only at h
          cases hv : vin[i]? with
          | none => rw [hv] at h; cases h
          | some x =>
            rw [hv] at h
            cases hr : sampleWRepl vin hat w k ds with
            | error e => rw [hr] at h; cases h
            | ok r =>
              rw [hr] at h; cases h
              have ih := (sampleWRepl_eq_ok_iff hat w).mp hr
              exact ⟨ih.1, .cons ⟨i, hp, hv⟩ ih.2⟩
    · rintro ⟨hk, _ | ⟨⟨i, hp, hv⟩, hs⟩⟩
      have hne : ¬ hat.isEmpty = true := fun h => by rw [List.isEmpty_iff.mp h] at hp; cases hp
      rw [if_neg hne, hp]; dsimp only
      rw [hv, (sampleWRepl_eq_ok_iff hat w).mpr ⟨hk, hs⟩]

theorem sampleWRepl_ok {vin : List τ} (w : List α) (hw : w.length = vin.length) (hne : vin ≠ []) (k : Nat) (draws : List α)
    (hk : k ≤ draws.length) : ∃ out, sampleWRepl vin (List.range vin.length) w k draws = .ok out := by
  have hrne : List.range vin.length ≠ [] := by simpa using hne
  obtain ⟨out, ho⟩ := exists_forall₂ (R := fun x d => ∃ i, pickOneWConst (List.range vin.length) w d = .ok i ∧ vin[i]? = some x)
    (l := draws.take k) fun d _ => by
      obtain ⟨pos, e, _, hget, _, hpick⟩ := pickOneW_ok (w := w) hrne (by simp [hw]) true d
      have he : e < vin.length := List.mem_range.mp (List.mem_of_getElem? hget)
      exact ⟨vin[e], e, by simp [pickOneWConst, hpick], List.getElem?_eq_getElem he⟩
  exact ⟨out, (sampleWRepl_eq_ok_iff _ w).mpr ⟨hk, ho⟩⟩

theorem getSampleW_repl (vin : List τ) (w : List α) (k : Nat) (draws : List α) :
    getSampleW vin w k true draws = sampleWRepl vin (List.range vin.length) w k draws := by
  simp [getSampleW]

theorem getSampleW_norepl (vin : List τ) (w : List α) (k : Nat) (draws : List α) :
    getSampleW vin w k false draws = if vin.length < k then .error .index else
      pickPositionsNoRepl (List.range vin.length) w k draws >>= selectBy vin := by
  simp only [getSampleW, Bool.not_false, Bool.and_true, decide_eq_true_eq, Bool.false_eq_true, if_false]
  split
  · rfl
  · cases pickPositionsNoRepl (List.range vin.length) w k draws <;> rfl

end Weighted

/-! ## the executable predicates of the driver mean what the theorems say -/
section Predicates
variable {τ : Type} [DecidableEq τ]

theorem subMultiset_iff (a b : List τ) : subMultiset a b = true ↔ a.Subperm b := by
  induction a generalizing b with
  | nil => simp [subMultiset, List.nil_subperm]
  | cons x xs ih =>
    simp only [subMultiset, Bool.and_eq_true, List.contains_iff_mem, ih]
    constructor
    · rintro ⟨hx, hs⟩
      exact ((List.subperm_cons x).mpr hs).trans (List.perm_cons_erase hx).symm.subperm
    · intro h
      have hx : x ∈ b := h.subset List.mem_cons_self
      refine ⟨hx, ?_⟩
      have := h.trans (List.perm_cons_erase hx).subperm
      exact (List.subperm_cons x).mp this

theorem isPermOf_iff (a b : List τ) : isPermOf a b = true ↔ a.Perm b := by
  simp only [isPermOf, Bool.and_eq_true, beq_iff_eq, subMultiset_iff]
  constructor
  · rintro ⟨hl, hs⟩; exact hs.perm_of_length_le (by omega)
  · intro h; exact ⟨h.length_eq, h.subperm⟩

theorem allFrom_iff (out src : List τ) : allFrom out src = true ↔ ∀ x ∈ out, x ∈ src := by
  simp only [allFrom, List.all_eq_true, List.contains_iff_mem]
end Predicates

end Bpp.Rand
