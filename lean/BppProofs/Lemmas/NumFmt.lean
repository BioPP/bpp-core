import Mathlib.Tactic.FieldSimp
import Mathlib.Tactic.Ring
import Mathlib.Tactic.Positivity
import Mathlib.Algebra.Order.Field.Rat
import BppProofs.Lemmas.Number
import BppModel.Text.NumFmt
/-! Helper lemmas for `Props/C17Number.lean`: the digits written by `NumFmt.fmtParts` and the value
the decimal grammar assigns to them. -/
namespace Bpp.Text.NumFmt
open Bpp.Text Bpp.Text.Number

theorem pow10_eq_zpow (e : Int) : pow10 e = (10 : ℚ) ^ e := by
  unfold pow10
  split
  · rename_i h
    have : e = (e.toNat : Int) := (Int.toNat_of_nonneg h).symm
    conv => rhs; rw [this]
    rw [zpow_natCast]; push_cast; rfl
  · rename_i h
    have h' : 0 ≤ -e := by omega
    have : e = -((-e).toNat : Int) := by rw [Int.toNat_of_nonneg h']; omega
    conv => rhs; rw [this]
    rw [zpow_neg, zpow_natCast]; push_cast
    rw [one_div]

theorem digitsVal_append (l r : Str) : digitsVal (l ++ r) = digitsVal l * 10 ^ r.length + digitsVal r := by
  induction r using List.reverseRecOn with
  | nil => simp [digitsVal]
  | append_singleton r c ih =>
    rw [← List.append_assoc, digitsVal_append_single, ih, digitsVal_append_single]
    simp only [List.length_append, List.length_singleton, pow_succ]
    ring

theorem digitsVal_zeros (k : Nat) : digitsVal (List.replicate k '0') = 0 := by
  induction k with
  | zero => rfl
  | succ k ih =>
    rw [List.replicate_succ', digitsVal_append_single, ih]
    decide

theorem digitsVal_zeros_left (k : Nat) (l : Str) : digitsVal (List.replicate k '0' ++ l) = digitsVal l := by
  rw [digitsVal_append, digitsVal_zeros]; simp

theorem digitsVal_zeros_right (l : Str) (k : Nat) : digitsVal (l ++ List.replicate k '0') = digitsVal l * 10 ^ k := by
  rw [digitsVal_append, digitsVal_zeros]; simp

/-- what `stripZeros` removes -/
theorem stripZeros_spec (l : Str) : ∃ k, l = stripZeros l ++ List.replicate k '0' := by
  unfold stripZeros
  have key : ∀ (r : Str), ∃ k, r = List.replicate k '0' ++ r.dropWhile (· == '0') := by
    intro r
    induction r with
    | nil => exact ⟨0, rfl⟩
    | cons c r ih =>
      by_cases hc : (c == '0') = true
      · obtain ⟨k, hk⟩ := ih
        have : c = '0' := by simpa using hc
        subst this
        refine ⟨k + 1, ?_⟩
        simp only [List.dropWhile_cons, beq_self_eq_true, if_true, List.replicate_succ, List.cons_append]
        rw [← hk]
      · exact ⟨0, by simp [hc]⟩
  obtain ⟨k, hk⟩ := key l.reverse
  refine ⟨k, ?_⟩
  have := congrArg List.reverse hk
  simp only [List.reverse_reverse, List.reverse_append, List.reverse_replicate] at this
  exact this

theorem allDigits_stripZeros {l : Str} (h : AllDigits l) : AllDigits (stripZeros l) := by
  obtain ⟨k, hk⟩ := stripZeros_spec l
  intro c hc
  exact h c (by rw [hk]; simp [hc])

theorem allDigits_zeros (k : Nat) : AllDigits (List.replicate k '0') := by
  intro c hc
  rw [List.eq_of_mem_replicate hc]; decide

theorem allDigits_append {a b : Str} (ha : AllDigits a) (hb : AllDigits b) : AllDigits (a ++ b) := by
  intro c hc
  rcases List.mem_append.mp hc with h | h
  · exact ha c h
  · exact hb c h

theorem allDigits_take {l : Str} (h : AllDigits l) (n : Nat) : AllDigits (l.take n) :=
  fun c hc => h c (List.mem_of_mem_take hc)

theorem allDigits_drop {l : Str} (h : AllDigits l) (n : Nat) : AllDigits (l.drop n) :=
  fun c hc => h c (List.mem_of_mem_drop hc)

/-- the mantissa value is unchanged by stripping the trailing zeros of the fraction -/
theorem mantissa_strip (ip fp : Str) :
    ((digitsVal (ip ++ stripZeros fp) : Nat) : ℚ) / ((10 ^ (stripZeros fp).length : Nat) : ℚ)
      = ((digitsVal (ip ++ fp) : Nat) : ℚ) / ((10 ^ fp.length : Nat) : ℚ) := by
  obtain ⟨k, hk⟩ := stripZeros_spec fp
  conv => rhs; rw [hk, ← List.append_assoc, digitsVal_zeros_right]
  simp only [List.length_append, List.length_replicate, pow_add]
  push_cast
  have h1 : (10 : ℚ) ^ k ≠ 0 := by positivity
  have h2 : (10 : ℚ) ^ (stripZeros fp).length ≠ 0 := by positivity
  field_simp

theorem mkValue_strip (neg : Bool) (ip fp : Str) (eneg : Bool) (eds : Str) :
    mkValue neg ip (stripZeros fp) eneg eds = mkValue neg ip fp eneg eds := by
  unfold mkValue
  simp only [mantissa_strip]

/-- the value of a numeral in one form: sign · digits · 10^(exponent − number of fraction digits) -/
theorem mkValue_eq (neg : Bool) (ip fp : Str) (eneg : Bool) (eds : Str) :
    mkValue neg ip fp eneg eds = (if neg then -1 else 1) * ((digitsVal (ip ++ fp) : Nat) : ℚ)
      * pow10 ((if eneg then - (digitsVal eds : Int) else (digitsVal eds : Int)) - (fp.length : Int)) := by
  unfold mkValue
  have h1 : ∀ m : ℚ, (if neg then -m else m) = (if neg then -1 else 1) * m := by cases neg <;> simp
  simp only []
  rw [h1 (_ / _), pow10_eq_zpow, pow10_eq_zpow, zpow_sub₀ (by norm_num : (10 : ℚ) ≠ 0), zpow_natCast, Nat.cast_pow,
    Nat.cast_ofNat]
  ring

theorem natDigits_all (n : Nat) : AllDigits (natDigits n) := (natDigits_spec n).1
theorem natDigits_ne (n : Nat) : natDigits n ≠ [] := (natDigits_spec n).2.1
theorem natDigits_val (n : Nat) : digitsVal (natDigits n) = n := (natDigits_spec n).2.2

theorem take_one_ne_nil {l : Str} (h : l ≠ []) : l.take 1 ≠ [] := by
  cases l with
  | nil => exact absurd rfl h
  | cons a r => simp

theorem digitsVal_pad (l : Str) : digitsVal (if l.length < 2 then '0' :: l else l) = digitsVal l := by
  split
  · exact digitsVal_zeros_left 1 l
  · rfl

theorem hasDec_false {fp : Str} (h : (!fp.isEmpty) = false) : fp = [] := by simpa using h

/-- **the numeral is in the strict decimal grammar, and the value the grammar assigns to it is the
rounded value**: in each notation the digits are those of `N` up to zeros in front and behind, and
the exponent less the number of fraction digits is `X - (P - 1)` -/
theorem fmtParts_spec (prec : Nat) (neg : Bool) (a : ℚ) :
    (fmtParts prec neg a).WF ∧
      (digitsOk prec a = true → (fmtParts prec neg a).value = roundedValue prec neg a) := by
  unfold fmtParts roundedValue digitsOk
  simp only []
  by_cases ha : (a == 0) = true
  · simp only [ha, if_true]
    refine ⟨?_, fun _ => ?_⟩
    · refine ⟨?_, ?_, ?_, ?_, ?_⟩ <;> simp [AllDigits]; decide
    · rw [DecParts.value, mkValue_eq]
      simp [digitsVal, digitVal]
  · simp only [ha, Bool.false_eq_true, if_false, Bool.false_or, beq_iff_eq]
    generalize (if prec = 0 then 1 else prec) = P
    rcases roundSig P a with ⟨N, X⟩
    simp only []
    have hds := natDigits_all N
    have hne := natDigits_ne N
    have hP1 : (natDigits N).length = P → 1 ≤ P := fun h => h ▸ List.length_pos_iff.mpr hne
    split
    · refine ⟨⟨allDigits_take hds 1, allDigits_stripZeros (allDigits_drop hds 1), Or.inl (take_one_ne_nil hne),
        hasDec_false, ?_, ?_, ?_⟩, fun hok => ?_⟩
      · split <;> simp
      · split
        · exact List.forall_mem_cons.mpr ⟨by decide, natDigits_all _⟩
        · exact natDigits_all _
      · split
        · exact List.cons_ne_nil _ _
        · exact natDigits_ne _
      · have := hP1 hok
        simp only [DecParts.value]
        rw [mkValue_strip, mkValue_eq, List.take_append_drop, natDigits_val, digitsVal_pad, natDigits_val]
        congr 2
        have hs : (some (if X < 0 then '-' else '+') == some '-') = decide (X < 0) := by
          by_cases h : X < 0 <;> simp [h]
        rw [hs, List.length_drop, hok]
        by_cases h : X < 0 <;> simp only [h, decide_true, decide_false, if_true, Bool.false_eq_true, if_false] <;> omega
    · rename_i hfix
      simp only [Bool.or_eq_true, decide_eq_true_eq, not_or, Int.not_lt, Int.not_le] at hfix
      split
      · refine ⟨⟨allDigits_take hds _, allDigits_stripZeros (allDigits_drop hds _),
          Or.inl (by obtain ⟨x, r, e⟩ := List.exists_cons_of_ne_nil hne; rw [e]; exact List.cons_ne_nil _ _),
          hasDec_false, trivial⟩, fun hok => ?_⟩
        have := hP1 hok
        simp only [DecParts.value]
        rw [mkValue_strip, mkValue_eq, List.take_append_drop, natDigits_val]
        congr 2
        rw [List.length_drop, hok]
        simp only [digitsVal, List.foldl_nil, Bool.false_eq_true, if_false]
        omega
      · refine ⟨⟨List.forall_mem_cons.mpr ⟨by decide, nofun⟩,
          allDigits_stripZeros (allDigits_append (allDigits_zeros _) hds), Or.inl (List.cons_ne_nil _ _),
          hasDec_false, trivial⟩, fun hok => ?_⟩
        have := hP1 hok
        simp only [DecParts.value]
        rw [mkValue_strip, mkValue_eq, List.singleton_append, ← List.cons_append, ← List.replicate_succ, digitsVal_zeros_left,
          natDigits_val]
        congr 2
        rw [List.length_append, List.length_replicate, hok]
        simp only [digitsVal, List.foldl_nil, Bool.false_eq_true, if_false]
        omega

theorem fmtParts_wf (prec : Nat) (neg : Bool) (a : ℚ) : (fmtParts prec neg a).WF :=
  (fmtParts_spec prec neg a).1

theorem fmtParts_value (prec : Nat) (neg : Bool) (a : ℚ) (hok : digitsOk prec a = true) :
    (fmtParts prec neg a).value = roundedValue prec neg a :=
  (fmtParts_spec prec neg a).2 hok

end Bpp.Text.NumFmt
