import BppModel.Tree
/-! Helper lemmas for `Props/C15NoUb.lean`: the climbs and the joining ranks of the path / MRCA queries on an
arbitrary graph.  "No undefined behaviour" and "the index read afterwards is in range" are one property of a
result (`TRes.Safe`), kept along each recursion. -/
namespace Bpp.Graph

/-- the result is not `ub`, and an answer satisfies `P` -/
def TRes.Safe {α : Type} (P : α → Prop) : TRes α → Prop
  | .ok a => P a
  | .ub => False
  | _ => True

namespace T

/-- a successful climb ends at a father-less node: the line is never empty -/
theorem climb_safe (g : G) : ∀ (fuel n : Nat) (acc : List Nat), (climb g fuel n acc).Safe (· ≠ [])
  | 0, _, _ => trivial
  | f + 1, n, acc => by
    rw [climb]
    rcases hasFather g n with _ | _ | _
    · trivial
    · exact List.append_ne_nil_of_right_ne_nil _ (List.cons_ne_nil _ _)
    · cases father g n with
      | none => trivial
      | some fa => exact climb_safe g f fa _

theorem joinRank_safe (g : G) (line : List Nat) : ∀ (fuel n : Nat), (joinRank g line fuel n).Safe (· < line.length)
  | 0, _ => trivial
  | f + 1, n => by
    rw [joinRank]
    split
    · rename_i hc
      exact List.idxOf_lt_length_of_mem (List.contains_iff_mem.1 hc)
    · rcases hasFather g n with _ | _ | _
      · trivial
      · trivial
      · cases father g n with
        | none => trivial
        | some fa => exact joinRank_safe g line f fa

theorem mrcaStep_safe (g : G) (line : List Nat) (fuel : Nat) {acc : TRes Nat} (h : acc.Safe (· < line.length)) (n : Nat) :
    (mrcaStep g line fuel acc n).Safe (· < line.length) := by
  unfold mrcaStep
  cases acc with
  | ok m =>
    have hj := joinRank_safe g line fuel n
    cases hq : joinRank g line fuel n with
    | ok k => rw [hq] at hj; exact Nat.max_lt.2 ⟨h, hj⟩
    | exc => trivial
    | fuel => trivial
    | ub => rw [hq] at hj; exact hj
  | exc => trivial
  | fuel => trivial
  | ub => exact h

theorem mrcaFold_safe (g : G) (line : List Nat) (fuel : Nat) : ∀ (rest : List Nat) (acc : TRes Nat),
    acc.Safe (· < line.length) → (rest.foldl (mrcaStep g line fuel) acc).Safe (· < line.length)
  | [], _, h => h
  | x :: r, _, h => mrcaFold_safe g line fuel r _ (mrcaStep_safe g line fuel h x)

end T
end Bpp.Graph
