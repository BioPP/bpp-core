import BppProofs.Lemmas.PTree
/-
The ancestor line of a node in a `PTree`: the node, its father, ... up to the root.  Everything about it
comes from one fact: its `j`-th entry is the ancestor `j` levels up (`WF.line_getElem?`).
-/
namespace Bpp.Graph

/-- `n`, its father, the father's father ... for at most `fuel` steps -/
def lineOf (par : Nat → Option Nat) : Nat → Nat → List Nat
  | 0, n => [n]
  | fuel + 1, n => match par n with | some p => n :: lineOf par fuel p | none => [n]

theorem lineOf_none {par : Nat → Option Nat} {n : Nat} (h : par n = none) : ∀ fuel, lineOf par fuel n = [n]
  | 0 => rfl
  | f + 1 => by rw [lineOf, h]

theorem lineOf_some {par : Nat → Option Nat} {n p : Nat} (h : par n = some p) (fuel : Nat) :
    lineOf par (fuel + 1) n = n :: lineOf par fuel p := by
  rw [lineOf, h]

theorem lineOf_head (par : Nat → Option Nat) (fuel n : Nat) : (lineOf par fuel n).head? = some n := by
  cases fuel with
  | zero => rfl
  | succ f =>
    cases hp : par n with
    | none => rw [lineOf_none hp]; rfl
    | some p => rw [lineOf_some hp]; rfl

theorem lineOf_ne_nil (par : Nat → Option Nat) (fuel n : Nat) : lineOf par fuel n ≠ [] := by
  intro h; have := lineOf_head par fuel n; rw [h] at this; cases this

theorem lineOf_mem_anc {par : Nat → Option Nat} : ∀ (fuel n x : Nat), x ∈ lineOf par fuel n → IsAnc par x n := by
  intro fuel
  induction fuel with
  | zero => intro n x h; cases List.mem_singleton.1 h; exact .refl _
  | succ f ih =>
    intro n x h
    cases hp : par n with
    | none => rw [lineOf_none hp] at h; cases List.mem_singleton.1 h; exact .refl _
    | some p =>
      rw [lineOf_some hp] at h
      rcases List.mem_cons.1 h with e | h'
      · subst e; exact .refl _
      · exact .step hp (ih p x h')

namespace PTree
variable {P : PTree}

/-- the ancestor line of a node: the node, its father, ... as many steps as the node is deep -/
def line (P : PTree) (n : Nat) : List Nat := lineOf P.par (P.rank n) n

theorem line_of_none {n : Nat} (hp : P.par n = none) : P.line n = [n] := lineOf_none hp _

theorem WF.line_cons (h : P.WF) {n p : Nat} (hp : P.par n = some p) : P.line n = n :: P.line p := by
  unfold line
  rw [h.par_rank hp, lineOf_some hp]

theorem line_head (P : PTree) (n : Nat) : (P.line n).head? = some n := lineOf_head ..

/-- **the `j`-th entry of the line of `n` is the ancestor `j` levels up** -/
theorem WF.line_getElem? (h : P.WF) : ∀ (k n : Nat), P.rank n = k → ∀ (j y : Nat),
    (P.line n)[j]? = some y ↔ IsAnc P.par y n ∧ P.rank y + j = P.rank n := by
  -- the first entry is the node itself, the only ancestor of its rank
  have head : ∀ (n : Nat) (t : List Nat) (y : Nat),
      (n :: t)[0]? = some y ↔ IsAnc P.par y n ∧ P.rank y + 0 = P.rank n := fun n t y =>
    ⟨fun e => by cases e; exact ⟨.refl _, rfl⟩, fun e => by rw [h.anc_eq_of_rank e.1 (Nat.le_of_eq e.2.symm)]; rfl⟩
  have single : ∀ n, P.par n = none → ∀ (j y : Nat),
      (P.line n)[j]? = some y ↔ IsAnc P.par y n ∧ P.rank y + j = P.rank n := by
    intro n hp j y
    rw [line_of_none hp]
    cases j with
    | zero => exact head n [] y
    | succ j =>
      refine ⟨nofun, fun e => ?_⟩
      cases e.1 with
      | refl => exact absurd e.2 (Nat.ne_of_gt (Nat.lt_add_of_pos_right (Nat.succ_pos j)))
      | step hp' _ => rw [hp] at hp'; cases hp'
  intro k
  induction k with
  | zero =>
    intro n hk
    cases hp : P.par n with
    | none => exact single n hp
    | some p => rw [h.par_rank hp] at hk; cases hk
  | succ k ih =>
    intro n hk j y
    cases hp : P.par n with
    | none => exact single n hp j y
    | some p =>
      have hrk := h.par_rank hp
      rw [h.line_cons hp]
      cases j with
      | zero => exact head n _ y
      | succ j =>
        rw [List.getElem?_cons_succ, ih p (Nat.succ.inj (hrk.symm.trans hk)) j y, hrk]
        refine ⟨fun e => ⟨.step hp e.1, congrArg Nat.succ e.2⟩, fun e => ?_⟩
        rcases IsAnc.cases_son hp e.1 with rfl | ha
        · exact absurd (e.2.trans hrk.symm) (Nat.ne_of_gt (Nat.lt_add_of_pos_right (Nat.succ_pos j)))
        · exact ⟨ha, Nat.succ.inj e.2⟩

theorem WF.line_get (h : P.WF) {n j y : Nat} (hj : (P.line n)[j]? = some y) :
    P.rank y + j = P.rank n ∧ IsAnc P.par y n :=
  ((h.line_getElem? _ n rfl j y).1 hj).symm

theorem WF.line_get_of_anc (h : P.WF) {n x : Nat} (ha : IsAnc P.par x n) : (P.line n)[P.rank n - P.rank x]? = some x :=
  (h.line_getElem? _ n rfl _ x).2 ⟨ha, Nat.add_sub_cancel' (h.anc_rank ha)⟩

theorem WF.mem_line (h : P.WF) {n x : Nat} : x ∈ P.line n ↔ IsAnc P.par x n :=
  ⟨lineOf_mem_anc _ _ _, fun ha => List.mem_of_getElem? (h.line_get_of_anc ha)⟩

/-- beyond the depth of the node, the fuel does not matter -/
theorem WF.lineOf_eq_line (h : P.WF) : ∀ (fuel n : Nat), P.rank n ≤ fuel → lineOf P.par fuel n = P.line n := by
  intro fuel
  induction fuel with
  | zero => intro n hr; unfold line; rw [Nat.le_zero.mp hr]
  | succ f ih =>
    intro n hr
    cases hp : P.par n with
    | none => rw [lineOf_none hp, line_of_none hp]
    | some p =>
      rw [lineOf_some hp, h.line_cons hp, ih p]
      rw [h.par_rank hp] at hr
      exact Nat.le_of_succ_le_succ hr

theorem WF.line_length (h : P.WF) {n : Nat} (hn : n ∈ P.nodes) : (P.line n).length = P.rank n + 1 := by
  have h1 := h.line_get_of_anc (h.root_anc hn)
  rw [h.rank_root, Nat.sub_zero] at h1
  have h2 : (P.line n)[P.rank n + 1]? = none := by
    cases e : (P.line n)[P.rank n + 1]? with
    | none => rfl
    | some y => exact absurd (h.line_get e).1 (Nat.ne_of_gt (Nat.lt_succ_of_le (Nat.le_add_left _ _)))
  exact Nat.le_antisymm (List.getElem?_eq_none_iff.1 h2) (List.getElem?_eq_some_iff.1 h1).1

theorem WF.line_nodup (h : P.WF) (n : Nat) : (P.line n).Nodup := by
  rw [List.nodup_iff_pairwise_ne, List.pairwise_iff_getElem]
  intro i j hi hj hij heq
  have h1 := (h.line_get (List.getElem?_eq_getElem hi)).1
  have h2 := (h.line_get (List.getElem?_eq_getElem hj)).1
  rw [heq] at h1
  exact absurd (Nat.add_left_cancel (h1.trans h2.symm)) (Nat.ne_of_lt hij)

/-- the depth of a node is smaller than the number of nodes -/
theorem WF.rank_lt (h : P.WF) {n : Nat} (hn : n ∈ P.nodes) {l : List Nat} (hl : ∀ x ∈ P.nodes, x ∈ l) : P.rank n + 1 ≤ l.length := by
  rw [← h.line_length hn]
  exact List.Nodup.length_le_of_subset (h.line_nodup n) (fun x hx => hl x (h.anc_mem (h.mem_line.1 hx) hn))

/-- the line ends at the root -/
theorem WF.line_last (h : P.WF) {n : Nat} (hn : n ∈ P.nodes) : (P.line n).getLast? = some P.root := by
  have hget := h.line_get_of_anc (h.root_anc hn)
  rw [h.rank_root, Nat.sub_zero] at hget
  rw [List.getLast?_eq_getElem?, h.line_length hn]
  exact hget

/-- the line of an ancestor is the tail of the line of the node -/
theorem WF.line_drop (h : P.WF) {x n : Nat} (ha : IsAnc P.par x n) :
    (P.line n).drop (P.rank n - P.rank x) = P.line x := by
  induction ha with
  | refl => rw [Nat.sub_self]; rfl
  | @step n p hp ha' ih =>
    have hk := h.par_rank hp
    rw [h.line_cons hp, hk, Nat.succ_sub (h.anc_rank ha'), List.drop_succ_cons, ih]

end PTree
end Bpp.Graph
