import BppModel.Text.Keyval
import BppProofs.Lemmas.StrLite
/-! A procedure written out by `render` goes through KeyvalTools piece by piece: the nested tokenizer cuts
a rendered argument list at its top-level commas into the texts `tokOf kv` of the arguments
(`nested_renderArgs`: `depthOk` keeps the bracket count off 0 at the commas of a value), the
`=`-merging loop leaves them alone, `singleKeyval` cuts each at its first `=` (`singleKeyval_tok`) and
`splitProcedure` finds the name and the argument list (`splitProcedure_render`); `foldlM_tokens` /
`foldlM_change` are the final loops of `multipleKeyvals` / `changeKeyvals` on these tokens.  Then, for
every input: the tokens of the nested tokenizer are balanced (`nested_spec`).  Last, the map: an entry
found is an entry of the list (`mapFind_mem`), what a lookup finds after `m[k] = v`
(`mapFind_mapInsert`) and in the map of an argument list with distinct keys (`mapFind_mapOfList`). -/
namespace Bpp.Text.Keyval
open Bpp.Text

/-- the delimiter test of the default split "," -/
abbrev isC : Char → Bool := fun c => [','].contains c

theorem isC_eq (c : Char) : isC c = (c == ',') := by
  simp [isC, List.contains, List.elem]
  cases (c == ',') <;> rfl

/-- the text of one argument -/
def tokOf (kv : Str × Str) : Str := kv.1 ++ '=' :: kv.2

/-! ### the nested tokenizer on a rendered argument list -/

theorem map_pushFront (c : Char) (tok : Str) (o : Option (List Str)) :
    (o.map (fun ts => tok :: ts)).map (pushFront c) = o.map (fun ts => (c :: tok) :: ts) := by
  cases o <;> rfl

theorem nested_inTok (tok rest : Str) (b : Int) (h : depthOk b tok = true) :
    nested isC true b (tok ++ ',' :: rest) = (nested isC false 0 rest).map (fun ts => tok :: ts)
    ∧ nested isC true b tok = some [tok] := by
  induction tok generalizing b with
  | nil =>
    obtain rfl : b = 0 := by simpa [depthOk] using h
    exact ⟨by simp [nested], rfl⟩
  | cons c t ih =>
    cases hc : c == ','
    · simp only [depthOk, hc, Bool.false_eq_true, if_false] at h
      obtain ⟨ih1, ih2⟩ := ih (b + delta c) h
      simp only [List.cons_append, nested, isC_eq, hc, Bool.false_eq_true, if_false, ih1, ih2, map_pushFront,
        Option.map_some, pushFront, and_self]
    · simp only [depthOk, hc, if_true, Bool.and_eq_true, bne_iff_ne, ne_eq] at h
      obtain ⟨ih1, ih2⟩ := ih b h.2
      have hb' : (b == 0) = false := beq_false_of_ne h.1
      simp only [List.cons_append, nested, isC_eq, hc, if_true, hb', Bool.false_eq_true, if_false, ih1, ih2,
        map_pushFront, Option.map_some, pushFront, and_self]

theorem nested_start (c : Char) (t rest : Str) (hc : c ≠ ',') (h : depthOk 0 (c :: t) = true) :
    nested isC false 0 ((c :: t) ++ ',' :: rest) = (nested isC false 0 rest).map (fun ts => (c :: t) :: ts)
    ∧ nested isC false 0 (c :: t) = some [c :: t] := by
  have hc' : (c == ',') = false := beq_false_of_ne hc
  simp only [depthOk, hc', Bool.false_eq_true, if_false, Int.zero_add] at h
  obtain ⟨h1, h2⟩ := nested_inTok t rest (delta c) h
  simp only [List.cons_append, nested, isC_eq, hc', Bool.false_eq_true, if_false, h1, h2, map_pushFront,
    Option.map_some, pushFront, and_self]

/-! ### facts from the side conditions -/

theorem depthOk_key (k : Str) (hk : k.all (fun c => !structural c) = true) (d : Int) (rest : Str) :
    depthOk d (k ++ rest) = depthOk d rest := by
  induction k with
  | nil => rfl
  | cons c t ih =>
    simp only [List.all_cons, Bool.and_eq_true, Bool.not_eq_true', structural, Bool.or_eq_false_iff,
      beq_eq_false_iff_ne, ne_eq] at hk
    obtain ⟨⟨⟨⟨h1, h2⟩, h3⟩, h4⟩, ht⟩ := hk
    have e1 : (c == ',') = false := by simpa using h1
    have e3 : (c == '(') = false := by simpa using h3
    have e4 : (c == ')') = false := by simpa using h4
    simp only [List.cons_append, depthOk, e1, Bool.false_eq_true, if_false, delta, e3, e4, Int.add_zero]
    exact ih ht

theorem key_no_eq (k : Str) (hk : k.all (fun c => !structural c) = true) : ∀ c ∈ k, c ≠ '=' := by
  intro c hc heq
  have := (List.all_eq_true.mp hk) c hc
  subst heq
  simp [structural] at this

theorem tok_depthOk (kv : Str × Str) (h : PairOk kv = true) : depthOk 0 (tokOf kv) = true := by
  simp only [PairOk, KeyOk, ValOk, Bool.and_eq_true] at h
  obtain ⟨⟨⟨hk, _⟩, ⟨hv, _⟩⟩, _⟩ := h
  unfold tokOf
  rw [depthOk_key kv.1 hk]
  have e1 : ('=' == ',') = false := by decide
  simp only [depthOk, e1, Bool.false_eq_true, if_false]
  have : delta '=' = 0 := by decide
  rw [this, Int.add_zero]; exact hv

theorem tok_head (kv : Str × Str) (h : PairOk kv = true) :
    ∃ c t, tokOf kv = c :: t ∧ c ≠ ',' := by
  simp only [PairOk, KeyOk, Bool.and_eq_true] at h
  obtain ⟨⟨⟨hk, _⟩, _⟩, _⟩ := h
  unfold tokOf
  cases hkk : kv.1 with
  | nil => exact ⟨'=', kv.2, rfl, by decide⟩
  | cons c t =>
    refine ⟨c, t ++ '=' :: kv.2, rfl, ?_⟩
    rw [hkk] at hk
    simp only [List.all_cons, Bool.and_eq_true, Bool.not_eq_true', structural, Bool.or_eq_false_iff,
      beq_eq_false_iff_ne, ne_eq] at hk
    exact hk.1.1.1.1

theorem tok_ne_eq (kv : Str × Str) (h : PairOk kv = true) : (tokOf kv == ['=']) = false := by
  simp only [PairOk, Bool.and_eq_true, Bool.not_eq_true', Bool.and_eq_false_iff] at h
  obtain ⟨_, hne⟩ := h
  unfold tokOf
  cases hk : kv.1 with
  | nil =>
    cases hv : kv.2 with
    | nil => rw [hk, hv] at hne; simp at hne
    | cons a t => simp
  | cons c t =>
    cases t <;> simp

/-- `k1=v1,k2=v2,…` as first token plus comma-prefixed tokens -/
def commaToks (kvs : List (Str × Str)) : Str := kvs.flatMap (fun kv => ',' :: tokOf kv)

theorem renderArgs_cons (a : Str × Str) (rest : List (Str × Str)) :
    renderArgs (a :: rest) = tokOf a ++ commaToks rest := by
  induction rest generalizing a with
  | nil => rcases a with ⟨k, v⟩; simp [renderArgs, tokOf, commaToks]
  | cons b rest ih =>
    rcases a with ⟨k, v⟩
    simp only [renderArgs]
    rw [ih b]
    simp [tokOf, commaToks]

theorem nested_renderArgs (kvs : List (Str × Str)) (h : kvs.all PairOk = true) :
    nested isC false 0 (renderArgs kvs) = some (kvs.map tokOf) := by
  induction kvs with
  | nil => simp [renderArgs, nested]
  | cons a rest ih =>
    simp only [List.all_cons, Bool.and_eq_true] at h
    obtain ⟨c, t, hct, hc⟩ := tok_head a h.1
    have hd := tok_depthOk a h.1
    rw [hct] at hd
    obtain ⟨n1, n2⟩ := nested_start c t (renderArgs rest) hc hd
    cases rest with
    | nil => rw [renderArgs_cons]; simp [commaToks, hct, n2]
    | cons b rest' =>
      have e : renderArgs (a :: b :: rest') = (c :: t) ++ ',' :: renderArgs (b :: rest') := by
        rw [renderArgs_cons, renderArgs_cons, hct]; simp [commaToks]
      rw [e, n1, ih h.2]
      simp [hct]

theorem mergeEq_plain (toks acc : List Str) (h : ∀ t ∈ toks, (t == ['=']) = false) :
    mergeEq toks acc = some (acc.reverse ++ toks) := by
  induction toks generalizing acc with
  | nil => simp [mergeEq]
  | cons t ts ih =>
    have ht := h t (List.mem_cons_self ..)
    rw [mergeEq.eq_def]
    simp only [ht, Bool.false_eq_true, if_false]
    rw [ih _ (fun x hx => h x (List.mem_cons_of_mem _ hx))]
    simp

/-- a rendered argument list goes through the nested tokenizer and the `=`-merging loop as its
arguments, one token each -/
theorem tokens_renderArgs (kvs : List (Str × Str)) (h : kvs.all PairOk = true) :
    tokensOf [','] true (renderArgs kvs) = some (kvs.map tokOf) ∧
      mergeEq (kvs.map tokOf) [] = some (kvs.map tokOf) := by
  refine ⟨(if_pos rfl).trans (nested_renderArgs kvs h), mergeEq_plain _ [] fun t ht => ?_⟩
  obtain ⟨kv, hkv, rfl⟩ := List.mem_map.mp ht
  exact tok_ne_eq kv ((List.all_eq_true.mp h) kv hkv)

theorem isPrefix_single (c : Char) (s : Str) : isPrefix [c] s = match s with
    | [] => false
    | a :: _ => c == a := by
  cases s <;> simp [isPrefix]

theorem singleKeyval_tok (kv : Str × Str) (h : PairOk kv = true) :
    singleKeyval (tokOf kv) ['='] = some kv ∧ trim kv.1 = kv.1 ∧ trim kv.2 = kv.2 := by
  simp only [PairOk, KeyOk, ValOk, Bool.and_eq_true, beq_iff_eq] at h
  obtain ⟨⟨⟨hk, hkt⟩, ⟨_, hvt⟩⟩, _⟩ := h
  refine ⟨?_, hkt, hvt⟩
  unfold singleKeyval tokOf
  rw [find_single '=' kv.1 kv.2 (key_no_eq kv.1 hk)]
  simp

/-! ### the head of a rendered procedure -/

theorem splitProcedure_render (name : Str) (kvs : List (Str × Str)) (hn : NameOk name = true) :
    splitProcedure (render name kvs) = some (some (name, renderArgs kvs)) := by
  simp only [NameOk, Bool.and_eq_true, beq_iff_eq] at hn
  obtain ⟨hnp, hnt⟩ := hn
  have hno : ∀ a ∈ name, a ≠ '(' := fun a ha => by
    have := (List.all_eq_true.mp hnp) a ha
    simp only [Bool.and_eq_true, bne_iff_ne, ne_eq] at this; exact this.1
  have hr : render name kvs = name ++ '(' :: (renderArgs kvs ++ [')']) := List.append_assoc ..
  have hr' : render name kvs = (name ++ '(' :: renderArgs kvs) ++ [')'] := rfl
  have e1 : findChar '(' (render name kvs) = some name.length := by
    rw [hr]; exact findChar_append '(' name _ hno
  have e2 : findLastChar ')' (render name kvs) = some (name.length + 1 + (renderArgs kvs).length) := by
    rw [hr', findLastChar_snoc, List.length_append, List.length_cons, Nat.add_assoc, Nat.add_comm 1]
  have hd : (render name kvs).drop (name.length + 1) = renderArgs kvs ++ [')'] := by
    rw [hr, ← List.drop_drop, List.drop_left]; rfl
  have e3 : (render name kvs).drop (name.length + 1 + (renderArgs kvs).length + 1) = [] := by
    rw [Nat.add_assoc (name.length + 1), ← List.drop_drop, hd]
    exact List.drop_eq_nil_of_le (by rw [List.length_append]; exact Nat.le_refl _)
  have e4 : (render name kvs).take name.length = name := by rw [hr, List.take_left]
  have e5 : ((render name kvs).drop (name.length + 1)).take
      (name.length + 1 + (renderArgs kvs).length - name.length - 1) = renderArgs kvs := by
    rw [hd, show name.length + 1 + (renderArgs kvs).length - name.length - 1 = (renderArgs kvs).length by omega,
      List.take_left]
  unfold splitProcedure
  rw [e1, e2]
  simp only [e3, isEmptyStr, List.all_nil, Bool.not_true, Bool.false_eq_true, if_false]
  rw [e4, e5, hnt]

/-! ### the final loops -/

theorem foldlM_tokens (kvs : List (Str × Str)) (h : kvs.all PairOk = true) (m0 : Map) :
    (kvs.map tokOf).foldlM kvStep m0
      = some (kvs.foldl (fun m kv => mapInsert kv.1 kv.2 m) m0) := by
  induction kvs generalizing m0 with
  | nil => rfl
  | cons a rest ih =>
    simp only [List.all_cons, Bool.and_eq_true] at h
    obtain ⟨h1, h2, h3⟩ := singleKeyval_tok a h.1
    simp only [List.map_cons, List.foldlM_cons, kvStep, h1, h2, h3, List.foldl_cons]
    exact ih h.2 _

theorem splitProcedure_bare (name : Str) (h : ∀ a ∈ name, a ≠ '(' ∧ a ≠ ')') :
    splitProcedure name = some none := by
  unfold splitProcedure
  rw [findChar_none '(' name fun a ha => (h a ha).1, findLastChar_none ')' name fun a ha => (h a ha).2]

/-- one round of the final loop of `changeKeyvals` on the text of an argument -/
theorem chgStep_tok (newkv : Map) (split : Str) (st : Bool × Str) (a : Str × Str) (h : PairOk a = true) :
    chgStep newkv split st (tokOf a) = some (false, st.2 ++ (if st.1 then [] else split) ++
      tokOf (match mapFind a.1 newkv with
        | some nv => (a.1, nv)
        | none => a)) := by
  obtain ⟨h1, h2, _⟩ := singleKeyval_tok a h
  simp only [chgStep, h1, h2]
  cases mapFind a.1 newkv with
  | none => rfl
  | some nv => exact congrArg (fun t => some (false, t)) (List.append_assoc ..)

/-- the final loop of `changeKeyvals` on the texts of the arguments: the first token is appended as
it is, every later one after a separator -/
theorem foldlM_change (newkv : Map) (L : List (Str × Str)) (h : L.all PairOk = true) (first : Bool) (pre : Str) :
    (L.map tokOf).foldlM (chgStep newkv [',']) (first, pre)
      = some (first && L.isEmpty, pre ++ (if first then renderArgs else commaToks) (substArgs newkv L)) := by
  induction L generalizing first pre with
  | nil => cases first <;> exact congrArg (fun t => some (_, t)) (List.append_nil pre).symm
  | cons a rest ih =>
    simp only [List.all_cons, Bool.and_eq_true] at h
    rw [List.map_cons, List.foldlM_cons, chgStep_tok newkv _ _ a h.1, Option.bind_eq_bind, Option.bind_some, ih h.2,
      Bool.false_and, List.isEmpty_cons, Bool.and_false]
    refine congrArg (fun t => some (false, t)) ?_
    cases first
    · show pre ++ [','] ++ tokOf _ ++ _ = pre ++ (',' :: tokOf _ ++ _)
      rw [List.append_assoc, List.append_assoc]; rfl
    · show pre ++ [] ++ tokOf _ ++ commaToks (substArgs newkv rest) = pre ++ renderArgs (_ :: substArgs newkv rest)
      rw [renderArgs_cons, List.append_nil, List.append_assoc]; rfl

/-! ### the nested tokenizer never splits inside brackets -/

/-- `(` minus `)` over a text -/
def depthSum (t : Str) : Int := (t.map delta).sum

/-- every delimiter of the text is inside brackets (the count, `d` so far, is not 0 there) -/
def delimsInside (isD : Char → Bool) : Int → Str → Bool
  | _, [] => true
  | d, c :: r => if isD c then d != 0 && delimsInside isD d r else delimsInside isD (d + delta c) r

theorem depthSum_cons (c : Char) (t : Str) : depthSum (c :: t) = delta c + depthSum t := by
  simp [depthSum]

theorem nested_spec (isD : Char → Bool) (hbr : ∀ c, isD c = true → delta c = 0) (s : Str) :
    (∀ b toks, nested isD false b s = some toks →
        ∀ t ∈ toks, depthSum t = 0 ∧ delimsInside isD 0 t = true ∧ t ≠ []) ∧
    (∀ b toks, nested isD true b s = some toks →
        ∃ t ts, toks = t :: ts ∧ b + depthSum t = 0 ∧ delimsInside isD b t = true ∧
          ∀ t' ∈ ts, depthSum t' = 0 ∧ delimsInside isD 0 t' = true ∧ t' ≠ []) := by
  induction s with
  | nil =>
    constructor
    · intro b toks h; simp [nested] at h; subst h; intro t ht; cases ht
    · intro b toks h
      simp only [nested] at h
      split at h
      · rename_i hb; simp at h; subst h
        have : b = 0 := by simpa using hb
        exact ⟨[], [], rfl, by simp [depthSum, this], by simp [delimsInside], fun t' ht' => by cases ht'⟩
      · cases h
  | cons c rest ih =>
    obtain ⟨ihF, ihT⟩ := ih
    constructor
    · intro b toks h
      simp only [nested] at h
      split at h
      · exact ihF b toks h
      · rename_i hc
        obtain ⟨toks', hn, rfl⟩ := Option.map_eq_some_iff.mp h
        obtain ⟨t, ts, rfl, h1, h2, h3⟩ := ihT _ _ hn
        intro t' ht'
        simp only [pushFront, List.mem_cons] at ht'
        rcases ht' with rfl | ht'
        · refine ⟨by rw [depthSum_cons]; exact h1, ?_, List.cons_ne_nil _ _⟩
          simp only [delimsInside, hc, Bool.false_eq_true, if_false, Int.zero_add]; exact h2
        · exact h3 t' ht'
    · intro b toks h
      simp only [nested] at h
      split at h
      · rename_i hc
        split at h
        · rename_i hb
          have hb0 : b = 0 := by simpa using hb
          obtain ⟨toks', hn, rfl⟩ := Option.map_eq_some_iff.mp h
          exact ⟨[], toks', rfl, by rw [hb0]; rfl, rfl, ihF 0 toks' hn⟩
        · rename_i hb
          obtain ⟨toks', hn, rfl⟩ := Option.map_eq_some_iff.mp h
          obtain ⟨t, ts, rfl, h1, h2, h3⟩ := ihT _ _ hn
          refine ⟨c :: t, ts, rfl, ?_, ?_, h3⟩
          · rw [depthSum_cons, hbr c hc]; omega
          · simp only [delimsInside, hc, if_true, Bool.and_eq_true, bne_iff_ne, ne_eq]
            exact ⟨by simpa using hb, h2⟩
      · rename_i hc
        obtain ⟨toks', hn, rfl⟩ := Option.map_eq_some_iff.mp h
        obtain ⟨t, ts, rfl, h1, h2, h3⟩ := ihT _ _ hn
        refine ⟨c :: t, ts, rfl, ?_, ?_, h3⟩
        · rw [depthSum_cons]; omega
        · simp only [delimsInside, hc, Bool.false_eq_true, if_false]; exact h2

/-! ### the map: what a lookup finds, before and after `m[k] = v` -/

theorem mapFind_mem {k v : Str} {m : Map} (h : mapFind k m = some v) : (k, v) ∈ m := by
  induction m with
  | nil => simp [mapFind] at h
  | cons kv m ih =>
    obtain ⟨k', v'⟩ := kv
    unfold mapFind at h
    split at h
    · rename_i hk
      have hk' : k = k' := by simpa using hk
      cases h; subst hk'
      exact List.mem_cons_self
    · exact List.mem_cons_of_mem _ (ih h)

theorem mem_mapInsert {k v : Str} {m : Map} {kv : Str × Str} (h : kv ∈ mapInsert k v m) :
    kv = (k, v) ∨ kv ∈ m := by
  induction m with
  | nil =>
    simp only [mapInsert, List.mem_cons, List.not_mem_nil, or_false] at h
    exact Or.inl h
  | cons kv' m ih =>
    obtain ⟨k', v'⟩ := kv'
    unfold mapInsert at h
    split at h
    · rcases List.mem_cons.mp h with e | e
      · exact Or.inl e
      · exact Or.inr (List.mem_cons_of_mem _ e)
    · split at h
      · rcases List.mem_cons.mp h with e | e
        · exact Or.inl e
        · exact Or.inr e
      · rcases List.mem_cons.mp h with e | e
        · exact Or.inr (by rw [e]; exact List.mem_cons_self)
        · rcases ih e with e' | e'
          · exact Or.inl e'
          · exact Or.inr (List.mem_cons_of_mem _ e')

theorem mapFind_mapInsert (k k' v : Str) (m : Map) :
    mapFind k' (mapInsert k v m) = if k' = k then some v else mapFind k' m := by
  induction m with
  | nil => by_cases h : k' = k <;> simp [mapInsert, mapFind, h]
  | cons a m ih =>
    rcases a with ⟨ka, va⟩
    simp only [mapInsert]
    by_cases h1 : k = ka
    · subst h1
      by_cases h : k' = k <;> simp [mapFind, h]
    · have h1' : (k == ka) = false := by simpa using h1
      simp only [h1', Bool.false_eq_true, if_false]
      by_cases h2 : strLt k ka = true
      · by_cases h : k' = k <;> simp [h2, mapFind, h]
      · simp only [h2, Bool.false_eq_true, if_false, mapFind, ih]
        by_cases h : k' = k
        · subst h
          have : (k' == ka) = false := by simpa using h1
          simp [this]
        · simp [h]

theorem mapFind_foldl_ne (k : Str) (r : List (Str × Str)) (m : Map) (h : ∀ kv ∈ r, kv.1 ≠ k) :
    mapFind k (r.foldl (fun m kv => mapInsert kv.1 kv.2 m) m) = mapFind k m := by
  induction r generalizing m with
  | nil => rfl
  | cons b r ih =>
    rw [List.foldl_cons, ih _ (fun kv hkv => h kv (List.mem_cons_of_mem _ hkv)), mapFind_mapInsert,
      if_neg (fun e => h b (List.mem_cons_self ..) e.symm)]

theorem mapFind_mapOfList {kvs : List (Str × Str)} {k v : Str} (hnd : (kvs.map (·.1)).Nodup)
    (hmem : (k, v) ∈ kvs) : mapFind k (mapOfList kvs) = some v := by
  unfold mapOfList
  generalize ([] : Map) = m0
  induction kvs generalizing m0 with
  | nil => cases hmem
  | cons a r ih =>
    rw [List.map_cons, List.nodup_cons] at hnd
    rw [List.foldl_cons]
    rcases List.mem_cons.mp hmem with rfl | hr
    · rw [mapFind_foldl_ne _ _ _ (fun kv hkv e => hnd.1 (List.mem_map.mpr ⟨kv, hkv, e⟩)), mapFind_mapInsert, if_pos rfl]
    · exact ih hnd.2 hr _

end Bpp.Text.Keyval
