import BppProofs.Lemmas.AliasLink
/-! What can be observed (`svOf`) of a copied / untouched object, and the clause `tracksOk` read on the model (C03): after
`setParameterValue` by `Step`, after a run of writes by `Tr`. -/
namespace Bpp.Alias
open Bpp.ParamList (Bnd Con Par Store ObjId nameOf find? hasParameter names startsWith)

theorem findIdx?_nodup {l : List ObjId} (nd : l.Nodup) {j : Nat} {a : ObjId} (h : l[j]? = some a) :
    l.findIdx? (fun x => x == a) = some j := by
  rw [List.findIdx?_eq_some_iff_getElem]
  obtain ⟨hj, e⟩ := List.getElem?_eq_some_iff.1 h
  refine ⟨hj, by simp [e], fun i hij => ?_⟩
  have hi : i < l.length := Nat.lt_trans hij hj
  simp only [beq_iff_eq, ne_eq]
  intro e'
  have := (List.Nodup.getElem_inj_iff nd (hi := hi) (hj := hj)).1 (e'.trans e.symm)
  omega

/-- an object whose parameter objects and attached listeners are the same in `W` as in `w` looks the same -/
theorem svOf_congr {w W : World} {o : Obj} (hsub : ∀ i ∈ o.indep, i ∈ o.params)
    (hget : ∀ i ∈ o.params, W.heap.get i = w.heap.get i)
    (hid : ∀ i ∈ o.params, ∀ id, hasListener W i id = hasListener w i id) : svOf W o = svOf w o := by
  have hname : ∀ i ∈ o.params, nameOf W.heap i = nameOf w.heap i := fun i hi => by simp only [nameOf, hget i hi]
  have hshort : shortNames W o = shortNames w o := by
    simp only [shortNames]; exact List.map_congr_left (fun i hi => by rw [hname i hi])
  simp only [svOf, SV.mk.injEq, true_and]
  refine ⟨?_, ?_, ?_⟩
  · exact List.map_congr_left (fun i hi => by rw [hname i hi, hget i hi])
  · simp only [linksOf, hshort]
    apply List.flatMap_congr
    intro i hi
    rw [hname i hi]
    congr 1
    apply List.filter_congr
    intro y _
    exact hid i hi _
  · apply List.map_congr_left
    intro i hi
    rw [hname i (hsub i hi)]

/-- **the view of an object carried along a renaming**, when values and constraints are carried too: names go from
`<old><x>` to `<new><x>`; values, constraints, links, the independent list and its positions are those of `o` -/
theorem Carried.view {w W : World} {k d : Nat} {o o' : Obj} {φ : ObjId → ObjId} {N : Nat → Nat → Prop}
    (c : Carried w W k d o o' φ N) (h : ObjInv w k o)
    (hval : ∀ i ∈ o.params, (W.heap.get (φ i)).value = (w.heap.get i).value ∧ (W.heap.get (φ i)).con = (w.heap.get i).con) :
    svOf W o' = { pre := o'.pre
                  params := (svOf w o).params.map (fun p => { p with name := renamed o.pre o'.pre p.name })
                  links := (svOf w o).links
                  indep := (svOf w o).indep.map (fun e => (renamed o.pre o'.pre e.1, e.2)) } := by
  have h' := c.inv h
  have hname : ∀ i ∈ o.params, nameOf W.heap (φ i) = renamed o.pre o'.pre (nameOf w.heap i) := fun i hi => by
    obtain ⟨x, hx, _⟩ := h.plain i hi
    rw [c.name i hi x hx, hx, renamed_append]
  have hshort : shortNames W o' = shortNames w o := by
    simp only [shortNames, c.params, List.map_map]
    refine List.map_congr_left fun i hi => ?_
    obtain ⟨x, hx, _, hs⟩ := h.short hi
    simp only [Function.comp, c.name i hi x hx, stripNs_append, hs]
  simp only [svOf, SV.mk.injEq, true_and, c.params, c.indep, List.map_map]
  refine ⟨List.map_congr_left fun i hi => ?_, ?_, List.map_congr_left fun i hi => ?_⟩
  · simp only [Function.comp, hname i hi, (hval i hi).1, (hval i hi).2]
  · exact (linksOf_filter h h' hshort (fun _ => true) (by simpa using c.link h)).trans (List.filter_true _)
  · have him := h.indepSub i hi
    obtain ⟨j, hj⟩ := h.exists_pos him
    have hj' : (o.params.map φ)[j]? = some (φ i) := by rw [List.getElem?_map, hj]; rfl
    simp only [Function.comp, hname i him, findIdx?_nodup (c.params ▸ h'.idsNodup) hj', findIdx?_nodup h.idsNodup hj]

/-- under the same namespace the carried object looks exactly like the object -/
theorem Carried.view_same {w W : World} {k d : Nat} {o o' : Obj} {φ : ObjId → ObjId} {N : Nat → Nat → Prop}
    (c : Carried w W k d o o' φ N) (h : ObjInv w k o) (hpre : o'.pre = o.pre)
    (hval : ∀ i ∈ o.params, (W.heap.get (φ i)).value = (w.heap.get i).value ∧ (W.heap.get (φ i)).con = (w.heap.get i).con) :
    svOf W o' = svOf w o := by
  have hid : ∀ i ∈ o.params, renamed o.pre o.pre (nameOf w.heap i) = nameOf w.heap i := fun i hi => by
    obtain ⟨x, hx, _⟩ := h.plain i hi
    rw [hx, renamed_append]
  rw [c.view h hval, hpre]
  simp only [svOf, SV.mk.injEq, true_and, List.map_map]
  exact ⟨List.map_congr_left fun i hi => by simp only [Function.comp, hid i hi],
    List.map_congr_left fun i hi => by simp only [Function.comp, hid i (h.indepSub i hi)]⟩

/-- **the copy looks exactly like its source**: same namespace, same names / values / constraints in
the same order, same links, same independent list (names, order, and positions of the shared objects) -/
theorem svOf_copy {w W : World} {s d : Nat} {o : Obj} (hs : ObjInv w s o) (r : Rebuilt w s d o W) :
    svOf W (rebuiltObj w o r.reg') = svOf w o :=
  r.carried.view_same hs rfl fun i hi => by rw [r.get i hi]; exact ⟨rfl, rfl⟩

/-! ## The clause `tracksOk` read on the model -/

theorem value?_svOf (w : World) (o : Obj) (x : String) :
    (svOf w o).value? x = (find? w.heap o.params (o.pre ++ x)).map (val w) := by
  simp only [SV.value?, svOf, find?, List.find?_map, Option.map_map]
  rfl

/-- `y` is reached from `x` through visible links that are in sync in the view -/
inductive SyncPathV (s : SV) : String → String → Prop
  | refl (x : String) : SyncPathV s x x
  | step {x y z : String} : (x, y) ∈ s.links → s.synced (x, y) = true → SyncPathV s y z → SyncPathV s x z

theorem SyncPathV.trans {s : SV} {x y z : String} (p : SyncPathV s x y) (q : SyncPathV s y z) : SyncPathV s x z := by
  induction p with
  | refl => exact q
  | step hl hs _ ih => exact SyncPathV.step hl hs (ih q)

theorem SyncPathV.snoc {s : SV} {x y z : String} (p : SyncPathV s x y) (hl : (y, z) ∈ s.links) (hs : s.synced (y, z) = true) :
    SyncPathV s x z := p.trans (SyncPathV.step hl hs (SyncPathV.refl z))

/-- everything `syncedBelow` returns is reached from the initial front through in-sync links -/
theorem syncedBelow_sound (s : SV) : ∀ (f : Nat) (front : List String) (y : String), y ∈ s.syncedBelow f front →
    ∃ x ∈ front, SyncPathV s x y
  | 0, front, y, hy => ⟨y, hy, SyncPathV.refl y⟩
  | f + 1, front, y, hy => by
    simp only [SV.syncedBelow] at hy
    split at hy
    · exact ⟨y, hy, SyncPathV.refl y⟩
    · obtain ⟨x, hx, hp⟩ := syncedBelow_sound s f _ y hy
      rcases List.mem_append.1 hx with hx | hx
      · exact ⟨x, hx, hp⟩
      · obtain ⟨l, hl, rfl⟩ := List.mem_map.1 hx
        obtain ⟨hlm, hc⟩ := List.mem_filter.1 hl
        simp only [Bool.and_eq_true, Bool.not_eq_true', List.contains_iff_mem] at hc
        refine ⟨l.1, by simpa using hc.1.1, ?_⟩
        exact SyncPathV.step (x := l.1) (y := l.2) (by cases l; exact hlm) (by cases l; exact hc.1.2) hp

/-- a view path in sync is a world path in sync -/
theorem syncPath_of_view {w : World} {k : Nat} {o : Obj} (h : ObjInv w k o) (ho : w.objs k = some o) {x y : String}
    (p : SyncPathV (svOf w o) x y) {ix : ObjId} (hx : find? w.heap o.params (o.pre ++ x) = some ix) :
    ∃ iy, find? w.heap o.params (o.pre ++ y) = some iy ∧ SyncPath w ix iy := by
  induction p generalizing ix with
  | refl x => exact ⟨ix, hx, SyncPath.refl ix⟩
  | @step a b c hl hs _ ih =>
    obtain ⟨ia, ib, ha, hb, _, l, hla, htg⟩ := ((mem_linksOf_iff h).1 hl).lk h ho
    rw [hx] at ha; cases ha
    obtain ⟨ic, hc, pc⟩ := ih hb
    refine ⟨ic, hc, SyncPath.step hla htg ?_ pc⟩
    simp only [SV.synced, value?_svOf, hx, hb, Option.map_some, beq_iff_eq, Option.some.injEq] at hs
    exact hs.symm

/-- **the clause `tracksOk` read on the model**: it holds between the views of `w` and `w'` (same but for values) when every
parameter whose value changed is equalled by whatever is reached from it by one link and then links that were in sync -/
theorem tracksOk_of {w w' : World} {k : Nat} {o : Obj} (sb : SameBut w w') (hi : ObjInv w k o) (ho : w.objs k = some o)
    (hch : ∀ a x b, Lk w o a x → SyncPath w x b → val w' a ≠ val w a → val w' b = val w' a) :
    tracksOk (svOf w o) (svOf w' o) = true := by
  have hfind : ∀ z, find? w'.heap o.params z = find? w.heap o.params z := fun z => sb.find? o.params z
  simp only [tracksOk, List.all_eq_true, Bool.or_eq_true, beq_iff_eq]
  intro x hx
  by_cases hsame : (svOf w o).value? x = (svOf w' o).value? x
  · exact Or.inl hsame
  right
  intro y hy
  -- `y` is reached from a child `c` of `x`
  obtain ⟨c, hc, hp⟩ := syncedBelow_sound (svOf w o) _ _ y hy
  have hcl : (x, c) ∈ linksOf w o := by
    simp only [SV.children, List.mem_map, List.mem_filter, beq_iff_eq] at hc
    obtain ⟨l, ⟨hl, hl1⟩, hl2⟩ := hc
    cases l; simp only at hl1 hl2; subst hl1 hl2; exact hl
  obtain ⟨ix, ic, hfx, hcf, lk⟩ := ((mem_linksOf_iff hi).1 hcl).lk hi ho
  obtain ⟨iy, hyf, py⟩ := syncPath_of_view hi ho hp hcf
  rw [value?_svOf, value?_svOf, hfind, hfx] at hsame
  rw [value?_svOf, value?_svOf, hfind, hfind, hyf, hfx]
  simp only [Option.map_some, Option.some.injEq] at hsame ⊢
  exact hch ix ic iy lk py (fun e => hsame e.symm)

/-- after `setParameterValue`, by `Step` (`alias_tracks_direct` / `alias_tracks_chain`) -/
theorem tracksOk_setv {w : World} (h : Inv w) {k : Nat} {o : Obj} (ho : w.objs k = some o) (n : String) (v : Rat)
    (ok : (apSetParameterValue w k n v).err = none) :
    tracksOk (svOf w o) (svOf (apSetParameterValue w k n v).w o) = true := by
  refine tracksOk_of ((update_sameBut w k).1 n v) (h.obj k o ho) ho (fun a x b lk p hc => ?_)
  obtain ⟨_, l, hl, htg⟩ := lk
  simp only [apSetParameterValue, ho, setParameterValue] at ok hc ⊢
  split at ok
  · cases ok
  · rename_i i hf
    simp only [hf] at hc ⊢
    exact (setValue_step w i v ok).1.tracks_chain hl htg p hc

/-! ## From `Tr` (links in sync along runs of writes, `Lemmas/AliasHist.lean`) to the clause `tracksOk` -/

/-- links in sync before stay in sync when none of the targets on the path is an entry point -/
theorem Tr.syncPath {D : ObjId → Prop} {o : Obj} {w w' : World} {k : Nat} (t : Tr D o w w') (h : ObjInv w k o)
    (ho : w.objs k = some o) (hD : ∀ s u, Lk w o s u → ¬ D u) {x b : ObjId} (hx : x ∈ o.params) (p : SyncPath w x b) :
    val w' b = val w' x := by
  induction p with
  | refl x => rfl
  | @step x y b l hl ht hs _ ih =>
    have lk : Lk w o x y := ⟨hx, l, hl, ht⟩
    rw [ih (lk.target_mem h ho)]
    exact t.keep x y lk (hD x y lk) (Or.inr hs)

theorem sameShape_svOf {w w' : World} (sb : SameBut w w') (o : Obj) : sameShape (svOf w o) (svOf w' o) = true := by
  have hn : ∀ i, nameOf w'.heap i = nameOf w.heap i := sb.nameOf
  have hl : linksOf w' o = linksOf w o := by
    simp only [linksOf, shortNames, hasListener, hn, sb.lsn, sb.lis]
  simp only [sameShape, svOf, hl, hn, sb.con, List.map_map, Bool.and_eq_true, beq_iff_eq, true_and, and_true]
  rfl

/-- **`tracksOk` from `Tr`**: the clause the driver evaluates after a bulk update -/
theorem tracksOk_of_tr {D : ObjId → Prop} {o : Obj} {w w' : World} {k : Nat} (t : Tr D o w w') (hi : ObjInv w k o)
    (ho : w.objs k = some o) (hD : ∀ s u, Lk w o s u → ¬ D u) : tracksOk (svOf w o) (svOf w' o) = true :=
  tracksOk_of t.sb hi ho fun a x b lk p hc =>
    (t.syncPath hi ho hD (lk.target_mem hi ho) p).trans (t.keep a x lk (hD _ _ lk) (Or.inl hc))

end Bpp.Alias
