import BppProofs.Lemmas.TokLoops
import BppModel.Text.TokenizerU
/-! The two tokenizers as the other C16 models use them: the methods return and keep the class invariant
`Tokenizer.WF` (`callStep_spec`; `nextToken_eq` and `cursor_step` for the loops that drain a tokenizer;
`RT.unparse_closed`: what `unparseRemainingTokens` returns at any cursor); the
constructors return a well-formed object whose tokens and separators are disjoint pieces of the text
(`Tokenizer.Built`, from `RT.mkTokenizer_built`, `RT.mkNested_built` of `Lemmas/TokLoops.lean`: the pieces re-join
to the text, so their lengths add up to its length). -/
namespace Bpp.Text.U
open Bpp.Text

/-! ### the methods -/

theorem hasMoreToken_iff (t : Tokenizer) : t.hasMoreToken = true ↔ t.pos < t.tokens.length :=
  decide_eq_true_iff

theorem nextToken_eq {t : Tokenizer} (h : t.pos < t.tokens.length) :
    t.nextToken = .ok (t.tokens[t.pos], { t with pos := t.pos + 1 }) := by
  rw [Tokenizer.nextToken, (hasMoreToken_iff t).mpr h, vecAt_ok h]
  rfl

theorem nextToken_cases (t : Tokenizer) :
    (t.pos < t.tokens.length ∧ ∃ tok, t.nextToken = .ok (tok, { t with pos := t.pos + 1 })) ∨
    (¬ t.pos < t.tokens.length ∧ t.nextToken = .error .bpp) := by
  by_cases h : t.pos < t.tokens.length
  · exact Or.inl ⟨h, _, nextToken_eq h⟩
  · refine Or.inr ⟨h, ?_⟩
    rw [Tokenizer.nextToken, Bool.eq_false_iff.mpr (mt (hasMoreToken_iff t).mp h)]
    rfl

/-- a loop that consumes one token per round has fuel left for the rest -/
theorem cursor_step {len pos fuel : Nat} (hlt : pos < len) (hf : len - pos < fuel + 1) :
    len - (pos + 1) < fuel :=
  Nat.lt_of_lt_of_le (Nat.sub_succ_lt_self _ _ hlt) (Nat.le_of_lt_succ hf)

theorem rmEmptyLoop_spec (pos i : Nat) (toks : List Str) (hi : i ≤ toks.length) :
    ∃ r, Tokenizer.rmEmptyLoop pos i toks = .ok r ∧ r.length ≤ toks.length ∧
      (pos ≤ toks.length → pos ≤ r.length) := by
  induction i generalizing toks with
  | zero => exact ⟨toks, rfl, Nat.le_refl _, id⟩
  | succ i ih =>
    unfold Tokenizer.rmEmptyLoop
    by_cases hp : i + 1 > pos
    · have hlt : i < toks.length := Nat.lt_of_succ_le hi
      simp only [hp, if_true, vecAt_ok hlt, bind_ok]
      by_cases he : toks[i].isEmpty = true
      · simp only [he, if_true]
        have hl : (toks.eraseIdx i).length = toks.length - 1 := List.length_eraseIdx_of_lt hlt
        have hi' : i ≤ (toks.eraseIdx i).length := hl ▸ Nat.le_sub_one_of_lt hlt
        obtain ⟨r, e, h1, h2⟩ := ih (toks.eraseIdx i) hi'
        exact ⟨r, e, Nat.le_trans h1 (hl ▸ Nat.sub_le _ _), fun _ => h2 (Nat.le_trans (Nat.le_of_lt_succ hp) hi')⟩
      · simp only [he]
        exact ih toks (Nat.le_of_succ_le hi)
    · simp only [hp, if_false]
      exact ⟨toks, rfl, Nat.le_refl _, id⟩

theorem removeEmptyTokens_spec (t : Tokenizer) :
    ∃ t', t.removeEmptyTokens = .ok t' ∧ t'.pos = t.pos ∧ t'.splits = t.splits ∧
      t'.tokens.length ≤ t.tokens.length ∧ (t.pos ≤ t.tokens.length → t.pos ≤ t'.tokens.length) := by
  unfold Tokenizer.removeEmptyTokens
  obtain ⟨r, e, h1, h2⟩ := rmEmptyLoop_spec t.pos t.tokens.length t.tokens (Nat.le_refl _)
  simp only [e, bind_ok, pure_eq_ok]
  exact ⟨_, rfl, rfl, rfl, h1, h2⟩

theorem numberOfRemainingTokens_eq (t : Tokenizer) (h1 : t.pos ≤ t.tokens.length) (h2 : t.tokens.length < SZ) :
    t.numberOfRemainingTokens = t.tokens.length - t.pos := wsub_eq h1 h2

end Bpp.Text.U

namespace Bpp.Text.RT
open Bpp.Text Bpp.Text.U

theorem unparseLoop_eq (t : Tokenizer) (k i : Nat) (h1 : i + k ≤ t.tokens.length)
    (h2 : i + k ≤ t.splits.length) :
    t.unparseLoop k i = .ok (consumed k (t.tokens.drop i) (t.splits.drop i)) := by
  induction k generalizing i with
  | zero => simp [Tokenizer.unparseLoop, consumed]
  | succ k ih =>
    unfold Tokenizer.unparseLoop
    have a1 : i < t.tokens.length := by omega
    have a2 : i < t.splits.length := by omega
    simp only [vecAt_ok a1, vecAt_ok a2, bind_ok, ih (i + 1) (by omega) (by omega), pure_eq_ok]
    rw [List.drop_eq_getElem_cons a1, List.drop_eq_getElem_cons a2]
    simp [consumed]

/-- **`unparseRemainingTokens()` at any cursor**: the remaining tokens re-joined with the separators
of the gaps between them (the separator recorded after the last token is left out) -/
theorem unparse_closed (t : Tokenizer) (hwf : t.WF) :
    t.unparseRemainingTokens = .ok (interleave (t.tokens.drop t.pos)
      ((t.splits.drop t.pos).take (t.tokens.length - t.pos - 1))) := by
  unfold Tokenizer.unparseRemainingTokens
  simp only [numberOfRemainingTokens_eq t hwf.pos_le hwf.size]
  rcases Nat.lt_or_ge t.pos t.tokens.length with hp | hp
  · have hne : t.tokens ≠ [] := fun e => by rw [e] at hp; cases hp
    have hne' : t.tokens.drop t.pos ≠ [] := fun e => by
      have := congrArg List.length e; simp only [List.length_drop, List.length_nil] at this; omega
    have hR := interleave_gaps _ (t.splits.drop t.pos) hne'
    rw [List.dropLast_eq_take, List.length_drop, List.getLast_drop] at hR
    rw [unparseLoop_eq t _ _ (by omega) (by have := hwf.splits; omega), bind_ok, if_pos (by omega),
      vecBack_eq_getLast _ hne, bind_ok, pure_eq_ok, consumed_eq, hR, Nat.sub_sub]
  · rw [show t.tokens.length - (t.pos + 1) = 0 by omega, List.drop_of_length_le hp]
    simp only [Tokenizer.unparseLoop, bind_ok]
    rw [if_neg (by omega)]
    rfl

end Bpp.Text.RT

namespace Bpp.Text.U
open Bpp.Text

theorem getToken_cases (t : Tokenizer) (k : Nat) :
    (∃ tok, t.getToken k = .ok tok) ∨ t.getToken k = .error .bpp := by
  unfold Tokenizer.getToken
  by_cases h : k ≥ t.tokens.length
  · right; simp [h]
  · left
    exact ⟨t.tokens[k], by simp [h, vecAt_ok (Nat.lt_of_not_le h)]⟩

/-- with the repaired methods no call ends in anything but a value (a `bpp` exception of
`nextToken` / `getToken` is the answer `raised`) and the class invariant is kept; only
`unparseRemainingTokens` needs it (a split behind every token but the last) -/
theorem callStep_spec (nested : Bool) (t : Tokenizer) (hwf : t.WF) (c : Call) :
    ∃ a t', callStep nested true t c = .ok (a, t') ∧ t'.WF ∧ t'.tokens.length ≤ t.tokens.length := by
  cases c with
  | next =>
    unfold callStep
    rcases nextToken_cases t with ⟨hlt, tok, e⟩ | ⟨_, e⟩
    · simp only [e]
      exact ⟨_, _, rfl, ⟨hlt, hwf.splits, hwf.size⟩, Nat.le_refl _⟩
    · simp only [e]
      exact ⟨_, _, rfl, hwf, Nat.le_refl _⟩
  | has => exact ⟨_, _, rfl, hwf, Nat.le_refl _⟩
  | remaining => exact ⟨_, _, rfl, hwf, Nat.le_refl _⟩
  | rmEmpty =>
    unfold callStep
    obtain ⟨t', e, h1, h2, h3, h4⟩ := removeEmptyTokens_spec t
    simp only [e, bind_ok, pure_eq_ok]
    exact ⟨_, _, rfl, ⟨h1 ▸ h4 hwf.pos_le, h2 ▸ Nat.le_trans h3 hwf.splits, Nat.lt_of_le_of_lt h3 hwf.size⟩, h3⟩
  | unparse =>
    unfold callStep
    simp only [if_true, RT.unparse_closed t hwf, bind_ok, pure_eq_ok]
    exact ⟨_, _, rfl, hwf, Nat.le_refl _⟩
  | get k =>
    unfold callStep
    rcases getToken_cases t k with ⟨tok, e⟩ | e
    · simp only [if_true, e]
      exact ⟨_, _, rfl, hwf, Nat.le_refl _⟩
    · simp only [if_true, e]
      exact ⟨_, _, rfl, hwf, Nat.le_refl _⟩

theorem runCalls_ok (nested : Bool) (t : Tokenizer) (hwf : t.WF) (calls : List Call) :
    ∃ l, runCalls nested true t calls = .ok l := by
  induction calls generalizing t with
  | nil => exact ⟨[], rfl⟩
  | cons c cs ih =>
    unfold runCalls
    obtain ⟨a, t', e, h1, _⟩ := callStep_spec nested t hwf c
    obtain ⟨l, el⟩ := ih t' h1
    simp only [e, bind_ok, el, pure_eq_ok]
    exact ⟨_, rfl⟩

/-! ### the StringTokenizer constructor -/

/-- the constructor returns unless the mode is solid and the delimiter empty -/
theorem mkTokenizer_ok (s d : Str) (solid allowEmpty : Bool) (hs : StrOk s) (hd : ¬ (solid = true ∧ d = [])) :
    ∃ t, mkTokenizer s d solid allowEmpty = .ok t ∧ t.Built s :=
  let ⟨_, _, e, _⟩ := RT.mkTokenizer_post s d solid allowEmpty hs hd
  ⟨_, e, RT.mkTokenizer_built hs e⟩

/-- the non-solid constructor always returns (only the solid one can throw) -/
theorem mkTokenizer_ns_spec (s d : Str) (allowEmpty : Bool) (hs : StrOk s) :
    ∃ t, mkTokenizer s d false allowEmpty = .ok t ∧ t.Built s :=
  mkTokenizer_ok s d false allowEmpty hs fun h => nomatch h.1

theorem mkTokenizer_solid_spec (s d : Str) (allowEmpty : Bool) (hd : d ≠ []) (hs : StrOk s) :
    ∃ t, mkTokenizer s d true allowEmpty = .ok t ∧ t.Built s :=
  mkTokenizer_ok s d true allowEmpty hs fun h => hd h.2

theorem mkTokenizer_spec (s d : Str) (solid allowEmpty : Bool) (hs : StrOk s) :
    Returns (mkTokenizer s d solid allowEmpty) (Tokenizer.Built s) := by
  by_cases hd : solid = true ∧ d = []
  · obtain ⟨rfl, rfl⟩ := hd
    exact .bpp
  · obtain ⟨t, e, b⟩ := mkTokenizer_ok s d solid allowEmpty hs hd
    exact e ▸ .ok b

theorem solidLoop_nonempty {s d : Str} {allowEmpty : Bool} {fuel index : Nat} {ts ss : List Str}
    (h : solidLoop s d allowEmpty fuel index = .ok (ts, ss)) : ts ≠ [] := by
  cases fuel with
  | zero => cases h
  | succ fuel =>
    unfold solidLoop at h
    split at h
    · obtain ⟨t, _, h⟩ := bind_eq_ok h
      dsimp only at h
      -- both ways of computing the next index continue with the same `cons`
      obtain ⟨i', h⟩ : ∃ i', (do
          let sp ← substr s _ (wsub i' _)
          let (ts, ss) ← solidLoop s d allowEmpty fuel i'
          pure (t :: ts, sp :: ss) : R (List Str × List Str)) = .ok (ts, ss) := by
        split at h <;> exact (bind_eq_ok h).imp fun _ h => h.2
      obtain ⟨sp, _, h⟩ := bind_eq_ok h
      obtain ⟨r, _, h⟩ := bind_pure_eq_ok h
      cases h; exact List.cons_ne_nil _ _
    · obtain ⟨t, _, h⟩ := bind_pure_eq_ok h
      cases h; exact List.cons_ne_nil _ _

/-- a solid tokenizer has at least one token, whatever the delimiter and the size of the text -/
theorem mkTokenizer_solid_nonempty {s d : Str} {allowEmpty : Bool} {t : Tokenizer}
    (h : mkTokenizer s d true allowEmpty = .ok t) : t.tokens ≠ [] := by
  unfold mkTokenizer mkTokenizerG at h
  simp only [Bool.not_true, Bool.false_eq_true, if_false, Bool.true_and] at h
  split at h
  · cases h
  · obtain ⟨⟨ts, ss⟩, e, rfl⟩ := bind_pure_eq_ok h
    exact solidLoop_nonempty e

/-! ### the tokens of a non-solid tokenizer without empty tokens -/

/-- no token is empty: the loop is entered at a character that is no delimiter (`tokenOk` of `RT.LoopPost`) -/
theorem tokenizer_tokens_nonempty' (s d : Str) (hs : StrOk s) (t : Tokenizer)
    (h : mkTokenizer s d false false = .ok t) : ∀ tok ∈ t.tokens, tok ≠ [] := by
  obtain ⟨ts, ss, e, hp⟩ := RT.mkTokenizer_post s d false false hs fun h => nomatch h.1
  cases e.symm.trans h
  rcases hp with ⟨_, _, rfl, rfl⟩ | ⟨index, _, post⟩
  · nofun
  · exact fun tok htok => (RT.tokenOk_ns_iff.mp (post.toks tok htok)).2 rfl

/-- what the non-solid loop without empty tokens returns, whatever the size of `s`: disjoint pieces of `s` -/
theorem nsLoop_sumLen (s d : Str) (fuel : Nat) :
    ∀ (index : Nat) (ts ss : List Str), index ≤ s.length → nsLoop s d false fuel index = .ok (ts, ss) →
      sumLen ts ≤ s.length - index := by
  induction fuel with
  | zero => intro index ts ss _ h; cases h
  | succ fuel ih =>
    intro index ts ss hi h
    unfold nsLoop at h
    cases h1 : findFirstOf d s index with
    | none =>
      simp only [h1, substrFrom_ok hi, bind_ok, pure_eq_ok, Except.ok.injEq, Prod.mk.injEq] at h
      obtain ⟨rfl, _⟩ := h
      simp
    | some n =>
      have hb := findFirstOf_bounds h1
      have hn : n ≤ s.length := Nat.le_of_lt hb.2
      have hw := wsub_le_sub hb.1
      simp only [h1, substr_ok _ hi, substr_ok _ hn, bind_ok, Bool.not_false, if_true] at h
      cases h' : findFirstNotOf d s n with
      | none =>
        simp only [h', pure_eq_ok, Except.ok.injEq, Prod.mk.injEq] at h
        obtain ⟨rfl, _⟩ := h
        simp only [sumLen_cons, sumLen_nil, List.length_take, List.length_drop]
        omega
      | some i =>
        simp only [h'] at h
        obtain ⟨⟨ts', ss'⟩, er, hp⟩ := bind_pure_eq_ok h
        cases hp
        have hb' := findFirstNotOf_bounds h'
        have hgt := RT.findFirstNotOf_after h1 h'
        have r1 := ih i ts' ss' (Nat.le_of_lt hb'.2) er
        simp only [sumLen_cons, List.length_take, List.length_drop]
        omega

/-- the bound on the tokens of `Tokenizer.Built` without `StrOk s` -/
theorem mkTokenizer_ns_sumLen (s d : Str) (t : Tokenizer)
    (h : mkTokenizer s d false false = .ok t) : t.pos = 0 ∧ sumLen t.tokens ≤ s.length := by
  unfold mkTokenizer mkTokenizerG at h
  simp only [Bool.not_false, if_true] at h
  cases h0 : findFirstNotOf d s 0 with
  | none =>
    simp only [h0, Except.ok.injEq] at h
    subst h
    exact ⟨rfl, by simp⟩
  | some index =>
    simp only [h0] at h
    obtain ⟨⟨ts, ss⟩, er, rfl⟩ := bind_pure_eq_ok h
    have hb := findFirstNotOf_bounds h0
    have := nsLoop_sumLen s d _ index ts ss (Nat.le_of_lt hb.2) er
    exact ⟨rfl, by show sumLen ts ≤ s.length; omega⟩

/-! ### NestedStringTokenizer -/

/-- the constructor raises the library's exception (an unclosed block, an empty solid delimiter) or returns; the
class invariant holds since the repair `fix: NestedStringTokenizer never recorded its separators …` (a separator
for every token but the last) -/
theorem mkNested_spec (s op en d : Str) (solid : Bool) (hs : s.length < 2147483648) :
    Returns (mkNested s op en d solid) (Tokenizer.Built s) :=
  .of_safe (RT.mkNested_post s op en d solid hs).safe fun _ h => RT.mkNested_built hs h

end Bpp.Text.U
