import BppProofs.Lemmas.HmmMarginal
/-!
Helper lemmas for C13: the posterior rows of the log-sum class (`LogsumHmmLikelihood::computeBackward_`,
`getHiddenStatesPosteriorProbabilities`) are probability vectors and the exact path marginals (strictly positive
tables, valid break points).  First the pieces: one backward step, one posterior row, and the rows as a `mapM` over
the sites (`postRows`; what a `mapM` that succeeds says of each row, for any scalar type: `mapM_option_get`).  Then
the induction: within a segment the row of a site is `t_j·B_j / Σ t·B` with `t` the unscaled forward and `B` the
unscaled backward vector of the segment; the sum over the hidden paths that are in state `j` at that site is
`t_j·B_j` times the totals of the other segments.
-/
namespace Bpp.Hmm
open Bpp Finset

/-- the backward vector of the segment before a site, from the one after it -/
noncomputable def backU (p : Params ℝ) (b : Bool) (e : Emis ℝ) (B : Nat → ℝ) : Nat → ℝ :=
  fun j => if b then 1 else ∑ k ∈ range p.n, e k * p.P j k * B k

section Pos
variable {p : Params ℝ} (hn : 0 < p.n) (hp : PosP p) {e : Emis ℝ} (he : PosE e) (b : Bool) {B : Nat → ℝ}
  (hB : ∀ k, 0 < B k)
include hn hp he hB

theorem backU_pos (j : Nat) : 0 < backU p b e B j := by
  unfold backU; split
  · exact one_pos
  · exact sum_pos_of_pos _ hn _ fun k => mul_pos (mul_pos (he k) (hp.1 j k)) (hB k)

theorem logBackStep_vec :
    logBackStep p b e (vec p.n fun k => Real.log (B k)) = vec p.n fun j => Real.log (backU p b e B j) := by
  cases b
  · refine vec_congr _ _ _ fun j _ => ?_
    rw [zipWith_vec, vec_congr _ _ (fun k => Real.log (e k * p.P j k * B k)) fun k _ => by
        rw [Real.log_mul (ne_of_gt (mul_pos (he k) (hp.1 j k))) (ne_of_gt (hB k)),
          Real.log_mul (ne_of_gt (he k)) (ne_of_gt (hp.1 j k))]; rfl,
      lseL_vec_log _ hn _ fun k => mul_pos (mul_pos (he k) (hp.1 j k)) (hB k)]
    rfl
  · exact vec_congr _ _ _ fun j _ => by rw [ScalarReal.zero_eq]; exact Real.log_one.symm

end Pos

/-- `Σ g·B` is the same along a segment, and the total of the segment at its end -/
theorem sum_mul_backU (p : Params ℝ) (b : Bool) (e : Emis ℝ) (g B : Nat → ℝ) :
    ∑ j ∈ range p.n, g j * backU p b e B j
      = if b then ∑ j ∈ range p.n, g j else ∑ k ∈ range p.n, tmpF p b e g k * B k := by
  cases b
  · exact sum_mul_back p e g B
  · simp only [backU, if_true, mul_one]

/-- one posterior row: `exp (log t_j + log B_j − log Σ t·B) = t_j·B_j / Σ t·B`, a probability vector -/
theorem logPostRow_val (n : Nat) (hn : 0 < n) (t B : Nat → ℝ) (ht : ∀ j, 0 < t j) (hB : ∀ j, 0 < B j) :
    logPostRow (vec n (fun j => Real.log (t j))) (vec n (fun j => Real.log (B j)))
        (some (Real.log (∑ j ∈ range n, t j * B j)))
      = some (vec n (fun j => t j * B j / ∑ j ∈ range n, t j * B j)) := by
  have hS : 0 < ∑ j ∈ range n, t j * B j := sum_pos_of_pos n hn _ (fun j => mul_pos (ht j) (hB j))
  refine congrArg some ((zipWith_vec _ _ _ _).trans (vec_congr _ _ _ fun j _ => ?_))
  simp only [ScalarReal.exp_eq, add_eq, sub_eq]
  rw [← Real.log_mul (ne_of_gt (ht j)) (ne_of_gt (hB j)), ← Real.log_div (ne_of_gt (mul_pos (ht j) (hB j))) (ne_of_gt hS),
    Real.exp_log (div_pos (mul_pos (ht j) (hB j)) hS)]

/-- rows computed for the sites of `rest`, given their forward vectors `ls`, backward vectors `tl`,
partial-likelihood indices and the partial log-likelihoods -/
noncomputable def postRows (ls tl : List (List ℝ)) (idx : List Nat) (partials : List ℝ) : Option (List (List ℝ)) :=
  (List.zip (List.zip ls tl) idx).mapM (fun x => logPostRow x.1.1 x.1.2 partials[x.2]?)

theorem postRows_cons (l t : List ℝ) (ls tl : List (List ℝ)) (k : Nat) (idx : List Nat) (partials : List ℝ) :
    postRows (l :: ls) (t :: tl) (k :: idx) partials
      = (logPostRow l t partials[k]?).bind fun row => (postRows ls tl idx partials).map (row :: ·) := by
  simp only [postRows, List.zip_cons_cons, List.mapM_cons, Option.pure_def, Option.bind_eq_bind, Option.map_eq_bind,
    Function.comp_def]

theorem postRows_shift (ls tl : List (List ℝ)) (idx : List Nat) (a : ℝ) (partials : List ℝ) :
    postRows ls tl (idx.map (· + 1)) (a :: partials) = postRows ls tl idx partials := by
  unfold postRows
  rw [List.zip_map_right, List.mapM_map]
  rfl

theorem mapM_option_get {β γ : Type} (f : β → Option γ) (l : List β) (m : List γ) (h : l.mapM f = some m) :
    m.length = l.length ∧ ∀ i, i < l.length → m[i]? = (l[i]?).bind f := by
  induction l generalizing m with
  | nil => cases h; exact ⟨rfl, fun i hi => absurd hi (Nat.not_lt_zero i)⟩
  | cons x xs ih =>
    rw [List.mapM_cons] at h
    cases hx : f x with
    | none => rw [hx] at h; cases h
    | some y =>
      cases hxs : xs.mapM f with
      | none => rw [hx, hxs] at h; cases h
      | some ys =>
        rw [hx, hxs] at h; cases h
        obtain ⟨h1, h2⟩ := ih ys hxs
        exact ⟨congrArg (· + 1) h1, fun i hi => by
          cases i with
          | zero => exact hx.symm
          | succ i => exact h2 i (Nat.lt_of_succ_lt_succ hi)⟩

/-- product of the totals of the segments whose logarithms are `ps` -/
noncomputable def expProd (ps : List ℝ) : ℝ := (ps.map Real.exp).prod

theorem expProd_cons_log {S : ℝ} (hS : 0 < S) (ps : List ℝ) : expProd (Real.log S :: ps) = S * expProd ps := by
  simp only [expProd, List.map_cons, List.prod_cons, Real.exp_log hS]

/-- Forward–backward decomposition along the log-sum recursions, from a positive unscaled forward vector `g`: the
first partial log-likelihood is the logarithm of `Σ g·B` (the total of the current segment), the sum over the
continuations of a path is `B` times the totals of the later segments, and every later posterior row is a
probability vector and, up to the totals of the segments, the vector of the path marginals. -/
theorem logMarginal_rows {p : Params ℝ} (hn : 0 < p.n) (hp : PosP p) (rest : List (Site ℝ)) (hs : PosS rest)
    (g : Nat → ℝ) (hg : ∀ k, 0 < g k) :
    ∃ (B : Nat → ℝ) (tl : List (List ℝ)) (ps : List ℝ) (rows : List (List ℝ)),
      logBackAll p rest = vec p.n (fun k => Real.log (B k)) :: tl
      ∧ (∀ k, 0 < B k) ∧ tl.length = rest.length
      ∧ (logLoop p rest (vec p.n fun k => Real.log (g k))).2 = Real.log (∑ j ∈ range p.n, g j * B j) :: ps
      ∧ (∀ j, j < p.n → tailSum p j rest = B j * expProd ps)
      ∧ postRows (logLoop p rest (vec p.n fun k => Real.log (g k))).1 tl (idxOfFlags (rest.map (·.1)) 0)
          (logLoop p rest (vec p.n fun k => Real.log (g k))).2 = some rows
      ∧ rows.length = rest.length
      ∧ MargRows p g rest ((∑ j ∈ range p.n, g j * B j) * expProd ps) rows := by
  induction rest generalizing g with
  | nil =>
    refine ⟨fun _ => 1, [], [], [], ?_, fun _ => one_pos, rfl, ?_, fun j _ => ?_, rfl, rfl,
      fun i hi => absurd hi (Nat.not_lt_zero _)⟩
    · exact congrArg (· :: []) (vec_congr _ _ _ fun j _ => by rw [ScalarReal.zero_eq]; exact Real.log_one.symm)
    · simp only [logLoop, mul_one]; rw [lseL_vec_log _ hn _ hg]
    · rw [tailSum_nil]; exact (one_mul _).symm
  | cons s rest ih =>
    obtain ⟨b, e⟩ := s
    obtain ⟨he, hs'⟩ := hs.tail
    have ht := tmpF_pos hn hp he b hg
    obtain ⟨B', tl', ps', rows', hback', hB', hlen', hpart', htail', hrows', hrlen', hmarg'⟩ := ih hs' _ ht
    have hSpos : 0 < ∑ k ∈ range p.n, tmpF p b e g k * B' k := sum_pos_of_pos _ hn _ fun k => mul_pos (ht k) (hB' k)
    have hgB := sum_mul_backU p b e g B'
    have hrow0 := logPostRow_val p.n hn _ B' ht hB'
    have hx0 : ∑ j ∈ range p.n, tmpF p b e g j * B' j / ∑ k ∈ range p.n, tmpF p b e g k * B' k = 1 := by
      rw [← Finset.sum_div, div_self (ne_of_gt hSpos)]
    rw [logLoop_cons hn hp he b hg, hpart']
    rw [hpart'] at hrows'
    generalize hS : ∑ k ∈ range p.n, tmpF p b e g k * B' k = S at hSpos hgB hrow0 hx0 hrows' hmarg' ⊢
    -- the partial log-likelihoods after the current segment's one, and the weight they carry
    have hexp : (∑ j ∈ range p.n, g j * backU p b e B' j) * expProd (if b then Real.log S :: ps' else ps')
        = (if b then ∑ j ∈ range p.n, g j else 1) * (S * expProd ps') := by
      rw [hgB]; cases b
      · exact (one_mul _).symm
      · simp only [if_true, expProd_cons_log hSpos]
    refine ⟨backU p b e B', vec p.n (fun k => Real.log (B' k)) :: tl', if b then Real.log S :: ps' else ps',
      vec p.n (fun j => tmpF p b e g j * B' j / S) :: rows',
      by simp only [logBackAll, hback', logBackStep_vec hn hp he b hB'], backU_pos hn hp he b hB',
      congrArg (· + 1) hlen', by rw [hgB]; cases b <;> rfl, fun j hj => ?_, ?_, congrArg (· + 1) hrlen',
      ?_⟩
    · rw [tailSum_cons, Finset.sum_congr rfl fun y hy => by rw [htail' y (Finset.mem_range.mp hy)]]
      cases b
      · simp only [backU, Bool.false_eq_true, if_false, Finset.sum_mul]
        exact Finset.sum_congr rfl fun y _ => by ring
      · simp only [backU, if_true, one_mul, expProd_cons_log hSpos]
        rw [← hS, Finset.sum_mul]
        exact Finset.sum_congr rfl fun y _ => by rw [tmpF_true]; ring
    · cases b
      · rw [show idxOfFlags (List.map (·.1) ((false, e) :: rest)) 0 = 0 :: idxOfFlags (rest.map (·.1)) 0 from rfl,
          postRows_cons]
        simp only [Bool.false_eq_true, if_false, List.getElem?_cons_zero, hrow0, hrows', Option.bind_some,
          Option.map_some]
      · rw [show idxOfFlags (List.map (·.1) ((true, e) :: rest)) 0 = 1 :: idxOfFlags (rest.map (·.1)) (0 + 1) from rfl,
          postRows_cons, idxOfFlags_succ]
        simp only [if_true, List.getElem?_cons_succ, List.getElem?_cons_zero, hrow0, postRows_shift, hrows',
          Option.bind_some, Option.map_some]
    · rw [hexp]
      exact MargRows.cons (a := if b then ∑ j ∈ range p.n, g j else 1) (fun K y _ => nextU_smul p K g b e y)
        (fun j _ => div_nonneg (mul_nonneg (le_of_lt (ht j)) (le_of_lt (hB' j))) (le_of_lt hSpos)) hx0
        (fun j hj => by rw [htail' j hj, mul_right_comm S, mul_div_cancel₀ _ (ne_of_gt hSpos)]; ring) hmarg'

/-- the posterior matrix of the log-sum class (strictly positive tables): the accessor never reads past the partial
log-likelihoods and answers one probability vector per position, whose entry `j` times the sum over all hidden
paths is the sum over the paths that are in state `j` at that position -/
theorem logPosterior_spec {p : Params ℝ} (hn : 0 < p.n) (hp : PosP p) {e0 : Emis ℝ} (he0 : PosE e0)
    (es : List (Emis ℝ)) (hes : ∀ e ∈ es, PosE e) (bps : List Nat) (hv : ValidBreaks (es.length + 1) bps)
    (dE d2E : String → Emis ℝ × List (Emis ℝ)) :
    ∃ m, logPosterior { p := p, e0 := e0, es := es, dE := dE, d2E := d2E } bps = some m
      ∧ m.length = es.length + 1
      ∧ ∀ i, i < es.length + 1 → ∃ x : Nat → ℝ, m[i]? = some (vec p.n x)
          ∧ (∀ j, j < p.n → 0 ≤ x j) ∧ ∑ j ∈ range p.n, x j = 1
          ∧ ∀ j, j < p.n → x j * pathSum p e0 (mkSites es bps) = pathMarginal p e0 (mkSites es bps) i j := by
  have hsites : PosS (mkSites es bps) := fun s hs => hes _ (mkSites_snd es bps ▸ List.mem_map_of_mem hs)
  have ht0 := tmpF_pos hn hp he0 true hp.2
  obtain ⟨B, tl, ps, rows, hback, hB, hlen, hpart, htail, hrows, hrlen, hmarg⟩ :=
    logMarginal_rows hn hp _ hsites _ ht0
  have hSpos : 0 < ∑ k ∈ range p.n, tmpF p true e0 p.pi k * B k := sum_pos_of_pos _ hn _ fun k => mul_pos (ht0 k) (hB k)
  have hrow0 := logPostRow_val p.n hn _ B ht0 hB
  have hx0 : ∑ j ∈ range p.n, tmpF p true e0 p.pi j * B j / ∑ k ∈ range p.n, tmpF p true e0 p.pi k * B k = 1 := by
    rw [← Finset.sum_div, div_self (ne_of_gt hSpos)]
  have hps : pathSum p e0 (mkSites es bps) = (∑ k ∈ range p.n, tmpF p true e0 p.pi k * B k) * expProd ps := by
    rw [pathSum_eq_tailSum, tailSum_cons, Finset.sum_mul]
    exact Finset.sum_congr rfl fun y hy => by rw [htail y (Finset.mem_range.mp hy), if_pos rfl, tmpF_true]; ring
  have hm : logPosterior { p := p, e0 := e0, es := es, dE := dE, d2E := d2E } bps
      = some (vec p.n (fun j => tmpF p true e0 p.pi j * B j / ∑ k ∈ range p.n, tmpF p true e0 p.pi k * B k) :: rows) := by
    have hbw : logBackward p es bps = logBackAll p (mkSites es bps) := by
      unfold logBackward
      rw [bwd_flags_eq_fwd es bps hv, ← List.zip_of_prod rfl (mkSites_snd es bps)]
    have hT : ((logForward p e0 (mkSites es bps)).logLik).length = es.length + 1 :=
      congrArg (· + 1) ((logLoop_length _ _ _).trans (mkSites_length es bps))
    unfold logPosterior logPosteriorOf logCompute
    simp only [hT, logPostIdx_mkSites es bps hv, hbw, hback]
    unfold logForward
    simp only [logTmp_first p e0 [], logTmp_vec hn hp he0 true hp.2]
    have h0 := congrArg (·[0]?) hpart
    exact (postRows_cons _ _ _ _ _ _ _).trans (by
      simp only [h0, List.getElem?_cons_zero, hrow0, hrows, Option.bind_some, Option.map_some])
  rw [hps]
  generalize ∑ k ∈ range p.n, tmpF p true e0 p.pi k * B k = S at hSpos hx0 hm hmarg ⊢
  refine ⟨_, hm, by rw [List.length_cons, hrlen, mkSites_length], fun i hi => ?_⟩
  rw [← one_mul (S * expProd ps)]
  exact MargRows.first (fun y _ => (one_mul _).symm)
    (fun j _ => div_nonneg (mul_nonneg (le_of_lt (ht0 j)) (le_of_lt (hB j))) (le_of_lt hSpos)) hx0
    (fun j hj => by rw [htail j hj, mul_right_comm S, mul_div_cancel₀ _ (ne_of_gt hSpos)]; ring) hmarg i
    (by rw [mkSites_length]; exact hi)

end Bpp.Hmm
