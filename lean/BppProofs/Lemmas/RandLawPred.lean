import BppProofs.Lemmas.RandLaw
/-! Lemmas for C18: the executable law predicates of `BppModel/Rand.lean` hold of the model.  Over ℝ, for
all draws in `[0,1)`, all non-negative weights with a positive total and every size: `inWeightInterval`,
`lawElem`, `lawSampleRepl`, `lawSampleNoRepl` of the weighted picks and samples.  For all draws:
`lawPickAt`, `lawSampleUnif`, `cumSumPickOk`, `inCdfStep`, `multinomialLawOk`, `dRandLawOk`, and
`hmmStepOk` … `hmmSampleLawOk` of the HMM chain, these for any scalar type. -/
namespace Bpp.Rand
open Bpp

theorem cumSumFrom_getElem? (acc : ℝ) : ∀ (l : List ℝ) (i : Nat), i < l.length →
    (cumSumFrom acc l)[i]? = some (acc + (l.take (i + 1)).sum)
  | [], i, h => by simp at h
  | y :: ys, 0, _ => by simp [cumSumFrom]
  | y :: ys, i + 1, h => by
    have := cumSumFrom_getElem? (acc + y) ys i (by simpa using h)
    simp only [cumSumFrom, sadd, List.getElem?_cons_succ, this, List.take_succ_cons, List.sum_cons]
    congr 1; ring

theorem cumSum_getElem? (w : List ℝ) (i : Nat) (h : i < w.length) :
    (cumSum w)[i]? = some ((w.take (i + 1)).sum) := by
  rw [cumSum_real, cumSumFrom_getElem? 0 w i h, zero_add]

theorem cumSum_getLast? (w : List ℝ) (h : w ≠ []) : (cumSum w).getLast? = some w.sum := by
  have hcne : cumSum w ≠ [] := by
    intro h0; have := cumSum_length w; rw [h0] at this
    exact h (List.length_eq_zero_iff.mp this.symm)
  rw [List.getLast?_eq_some_getLast hcne]
  have h2 : cumSumFrom (0 : ℝ) w ≠ [] := by rw [← cumSum_real]; exact hcne
  have := cumSumFrom_getLast 0 w h2
  simp only [zero_add] at this
  simp only [cumSum_real, this]

theorem inWeightInterval_iff (w : List ℝ) (u : ℝ) (i : Nat) (hi : i < w.length) :
    inWeightInterval w u i = true ↔
      (w.take i).sum / w.sum ≤ u ∧ u < (w.take (i + 1)).sum / w.sum := by
  have hne : w ≠ [] := by intro h; subst h; simp at hi
  unfold inWeightInterval
  simp only [cumSum_getLast? w hne, cumSum_getElem? w i hi]
  cases i with
  | zero =>
    simp only [ScalarReal.ofInt_eq, Int.cast_zero, sdiv, Bool.and_eq_true, ScalarReal.leb_iff, ScalarReal.ltb_iff,
      List.take_zero, List.sum_nil]
  | succ j =>
    simp only [cumSum_getElem? w j (by omega), sdiv, Bool.and_eq_true, ScalarReal.leb_iff, ScalarReal.ltb_iff]

theorem inWeightInterval_lt_length {α : Type} [Scalar α] (w : List α) (u : α) (i : Nat)
    (h : inWeightInterval w u i = true) : i < w.length := by
  unfold inWeightInterval at h
  dsimp only at h
  split at h
  · rename_i S ci hS hci
    have := (List.getElem?_eq_some_iff.mp hci).1
    rwa [cumSum_length] at this
  · cases h

/-- from an index to the shape `pre ++ x :: post` in which the interval laws are stated (take it apart with `rfl`, `rfl`) -/
theorem exists_split_at {w : List ℝ} {i : Nat} (hi : i < w.length) :
    ∃ pre x post, w = pre ++ x :: post ∧ pre.length = i :=
  ⟨w.take i, w[i], w.drop (i + 1), by rw [List.getElem_cons_drop, List.take_append_drop], List.length_take_of_le hi.le⟩

theorem take_succ_sum (w : List ℝ) (i : Nat) (hi : i < w.length) :
    (w.take (i + 1)).sum = (w.take i).sum + w[i] := by
  rw [List.take_add_one, List.sum_append, List.getElem?_eq_getElem hi]; simp

/-- `weighted_pick_law` in predicate form: the position the weighted picks choose is exactly the one
whose weight interval contains the draw -/
theorem weightedIndex_iff_interval (w : List ℝ) (u : ℝ) (i : Nat) (hi : i < w.length)
    (hw : ∀ y ∈ w, 0 ≤ y) (hS : 0 < w.sum) (hu0 : 0 ≤ u) (hu1 : u < 1) :
    weightedIndex w.length w u = .ok i ↔ inWeightInterval w u i = true := by
  obtain ⟨pre, x, post, rfl, rfl⟩ := exists_split_at hi
  rw [inWeightInterval_iff _ u _ hi, take_succ_sum _ _ hi, weightedIndex_law pre x post u hw hS hu0 hu1]
  simp only [List.take_left', List.getElem_append_right (le_refl _), Nat.sub_self, List.getElem_cons_zero]

theorem weightsOk_iff (w : List ℝ) : weightsOk w = true ↔ (∀ y ∈ w, 0 ≤ y) ∧ 0 < w.sum := by
  unfold weightsOk
  by_cases hne : w = []
  · subst hne; simp [cumSum]
  · simp only [cumSum_getLast? w hne, Bool.and_eq_true, List.all_eq_true, ScalarReal.leb_iff, ScalarReal.ofInt_eq,
      Int.cast_zero, ScalarReal.ltb_iff]

section
variable {τ : Type} [BEq τ] [LawfulBEq τ]

theorem lawElem_of_index (v : List τ) (w : List ℝ) (u : ℝ) (pos : Nat) (e : τ)
    (hpos : pos < v.length) (hget : v[pos]? = some e) (hint : inWeightInterval w u pos = true) :
    lawElem v w u e = true := by
  unfold lawElem
  rw [List.any_eq_true]
  exact ⟨pos, List.mem_range.mpr hpos, by simp [hget, hint]⟩

/-- both weighted `pickOne` overloads: the element returned is the one whose interval contains `u` -/
theorem pickOneW_law (v : List τ) (w : List ℝ) (replace : Bool) (u : ℝ) (hv : v ≠ []) (hwl : w.length = v.length)
    (hw : ∀ y ∈ w, 0 ≤ y) (hS : 0 < w.sum) (hu0 : 0 ≤ u) (hu1 : u < 1) :
    ∃ e v' w', pickOneW v w replace u = .ok (e, v', w') ∧ lawElem v w u e = true := by
  obtain ⟨pos, e, hlt, hget, hidx, hpick⟩ := pickOneW_ok hv hwl replace u
  refine ⟨e, _, _, hpick, lawElem_of_index v w u pos e hlt hget ?_⟩
  rw [← hwl] at hidx
  exact (weightedIndex_iff_interval w u pos (by omega) hw hS hu0 hu1).mp hidx
theorem lawElem_of_pick (vin : List τ) (w : List ℝ) (hwl : w.length = vin.length) (hw : ∀ y ∈ w, 0 ≤ y) (hS : 0 < w.sum)
    {d : ℝ} (hd : 0 ≤ d ∧ d < 1) {i : Nat} {x : τ}
    (hp : pickOneWConst (List.range vin.length) w d = .ok i) (hx : vin[i]? = some x) : lawElem vin w d x = true := by
  have hi : i < vin.length := (List.getElem?_eq_some_iff.mp hx).1
  obtain ⟨pos, e, hlt, hget, hidx, hpick⟩ := pickOneW_ok (v := List.range vin.length) (w := w)
    (List.ne_nil_of_length_pos (by rw [List.length_range]; omega)) (by simp [hwl]) true d
  rw [List.length_range] at hlt hidx
  obtain rfl : e = i := by simpa [pickOneWConst, hpick] using hp
  obtain rfl : pos = e := by simpa [List.getElem?_range hlt] using hget
  rw [← hwl] at hidx
  exact lawElem_of_index vin w d pos x hi hx ((weightedIndex_iff_interval w d pos (by omega) hw hS hd.1 hd.2).mp hidx)

theorem sampleWRepl_law (vin : List τ) (w : List ℝ) (hwl : w.length = vin.length)
    (hw : ∀ y ∈ w, 0 ≤ y) (hS : 0 < w.sum) (k : Nat) (draws : List ℝ) (out : List τ)
    (hu : ∀ u ∈ draws, 0 ≤ u ∧ u < 1) (h : sampleWRepl vin (List.range vin.length) w k draws = .ok out) :
    lawSampleRepl vin w (draws.take k) out = true := by
  have hu' : ∀ u ∈ draws.take k, 0 ≤ u ∧ u < 1 := fun u hu' => hu u (List.mem_of_mem_take hu')
  have hs := ((sampleWRepl_eq_ok_iff _ w).mp h).2
  clear h
  generalize draws.take k = us at hs hu'
  induction hs with
  | nil => rfl
  | cons hx _ ih =>
    obtain ⟨i, hp, hv⟩ := hx
    rw [List.forall_mem_cons] at hu'
    simp only [lawSampleRepl, Bool.and_eq_true]
    exact ⟨lawElem_of_pick vin w hwl hw hS hu'.1 hp hv, ih hu'.2⟩
end

section
variable {τ : Type}

theorem nPositive_perm {a b : List ℝ} (h : a.Perm b) : nPositive a = nPositive b := by
  unfold nPositive; exact (h.filter _).length_eq

theorem sum_pos_of_nPositive {w : List ℝ} (hw : ∀ y ∈ w, 0 ≤ y) (h : 0 < nPositive w) : 0 < w.sum := by
  unfold nPositive at h
  obtain ⟨x, hx⟩ := List.exists_mem_of_length_pos h
  obtain ⟨hxw, hpos⟩ := List.mem_filter.mp hx
  have hpos' : 0 < x := by simpa using hpos
  have := List.single_le_sum hw x hxw
  linarith

/-- over the reals a run follows the weights (`lawSampleNoRepl`, read through any naming `f` of the
positions) as long as a positive weight remains at each step -/
theorem NoRepl.law [BEq τ] [LawfulBEq τ] (f : Nat → τ) {hat : List Nat} {w us : List ℝ} {ps : List Nat}
    (h : NoRepl hat w us ps) : (∀ y ∈ w, 0 ≤ y) → us.length ≤ nPositive w → (∀ u ∈ us, 0 ≤ u ∧ u < 1) →
    lawSampleNoRepl us (ps.map f) (hat.map f) w = true := by
  induction h with
  | nil => intros; simp [lawSampleNoRepl]
  | @cons hat w d ds pos h ps hidx hget hwl _ ih =>
    intro hw hk hu
    have hS : 0 < w.sum := sum_pos_of_nPositive hw (by rw [List.length_cons] at hk; omega)
    have hdu := hu d List.mem_cons_self
    have hlt : pos < hat.length := (List.getElem?_eq_some_iff.mp hget).1
    have hposw : pos < w.length := by omega
    have hint : inWeightInterval w d pos = true := by
      rw [← hwl] at hidx
      exact (weightedIndex_iff_interval w d pos hposw hw hS hdu.1 hdu.2).mp hidx
    -- the picked position carries a positive weight
    have hwpos : 0 < w[pos] := by
      have := (inWeightInterval_iff w d pos hposw).mp hint
      rw [take_succ_sum w pos hposw] at this
      exact pos_of_lt_add_right ((div_lt_div_iff_of_pos_right hS).mp (this.1.trans_lt this.2))
    have hperm : w.Perm (w[pos] :: swapPop w pos) := swapPop_perm (List.getElem?_eq_getElem hposw)
    have hnp : nPositive w = nPositive (swapPop w pos) + 1 := by
      rw [nPositive_perm hperm]
      unfold nPositive
      rw [List.filter_cons_of_pos (by simpa using hwpos)]
      simp
    have hlaw : lawSampleNoRepl ds (ps.map f) ((swapPop hat pos).map f) (swapPop w pos) = true :=
      ih (fun y hy => hw y (hperm.mem_iff.mpr (List.mem_cons_of_mem _ hy))) (by rw [List.length_cons] at hk; omega)
        (fun x hx => hu x (List.mem_cons_of_mem _ hx))
    rw [← swapPop_map] at hlaw
    simp only [List.map_cons, lawSampleNoRepl, List.length_map]
    rw [List.any_eq_true]
    exact ⟨pos, List.mem_range.mpr hlt, by simp [hget, hint, hlaw]⟩

theorem Sel.eq_map {vin out : List τ} {idx : List Nat} (h : Sel vin out idx) (dflt : τ) :
    out = idx.map (fun p => vin[p]?.getD dflt) := by
  induction h with
  | nil => rfl
  | cons hx _ ih => rw [List.map_cons, hx, ← ih]; rfl

theorem range_map_getD {vin : List τ} (dflt : τ) :
    (List.range vin.length).map (fun p => vin[p]?.getD dflt) = vin := by
  apply List.ext_getElem?
  intro i
  by_cases hi : i < vin.length
  · simp [hi]
  · simp [hi]
end

section
variable {τ : Type} [BEq τ] [LawfulBEq τ]

theorem lawPickAt_iff (v : List τ) (pos : Nat) (e : τ) : lawPickAt v pos e = true ↔ v[pos]? = some e := by
  simp [lawPickAt]

theorem lawSampleUnif_iff (vin : List τ) : ∀ (ds : List Nat) (out : List τ), lawSampleUnif vin ds out = true ↔ Sel vin out ds
  | [], [] => by simp [lawSampleUnif, Sel]
  | [], _ :: _ => by simp [lawSampleUnif, Sel]
  | _ :: _, [] => by simp [lawSampleUnif, Sel]
  | d :: ds, x :: xs => by
    simp only [lawSampleUnif, Bool.and_eq_true, lawPickAt_iff, lawSampleUnif_iff vin ds xs, Sel, List.forall₂_cons]
end

theorem pickFromCumSum_iff_cumSumPickOk (w : List ℝ) (u : ℝ) (p : Nat) (hp : p < w.length) :
    pickFromCumSum w u = .ok p ↔ cumSumPickOk w u p = true := by
  obtain ⟨pre, x, post, rfl, rfl⟩ := exists_split_at hp
  rw [pickFromCumSum_decomp]
  -- the predicate at index `pre.length`: the entries before are `pre`, the entry is `x`, "last" is `post = []`
  simp [cumSumPickOk]

theorem findIdx?_inCdfStep (r : ℝ) (c : List ℝ) (j : Nat) (h : c.findIdx? (Scalar.leb r) = some j) :
    inCdfStep c r j = true := by
  obtain ⟨hj, hle, hlt⟩ := List.findIdx?_eq_some_iff_getElem.mp h
  unfold inCdfStep
  simp only [List.getElem?_eq_getElem hj, hle, Bool.true_and]
  cases j with
  | zero => rfl
  | succ i =>
    simp only [List.getElem?_eq_getElem (Nat.lt_of_succ_lt hj), ScalarReal.ltb_iff]
    simpa using hlt i (Nat.lt_succ_self i)

/-- every state `randMultinomial` returns satisfies the law predicate for its own draw -/
theorem multinomialState_lawOk (probs : List ℝ) (r : ℝ) :
    multinomialLawOk probs r (multinomialState probs r) = true := by
  unfold multinomialState multinomialLawOk multinomialCums
  rw [invCdf_eq_searchLe, searchLe_zero]
  cases hs : (cumSumFrom (Scalar.ofInt 0) (probs.map (· / sumFromZero probs))).findIdx? (Scalar.leb r) with
  | none =>
    rw [if_pos rfl]
    exact List.all_eq_true.mpr fun x hx => by rw [List.findIdx?_eq_none_iff.mp hs x hx]; rfl
  | some j =>
    have hb := (List.findIdx?_eq_some_iff_findIdx_eq.mp hs).1
    rw [cumSumFrom_length, List.length_map] at hb
    rw [if_neg hb.ne]
    exact findIdx?_inCdfStep r _ j hs

/-- the category `AbstractDiscreteDistribution::rand` returns satisfies the law predicate, whenever
the draw does not exceed the total mass (else the code returns its "can't be reached" `-1`) -/
theorem dRand_lawOk (dist : List (ℝ × ℝ)) (r : ℝ) (hr : r ≤ (dist.map (·.2)).sum) (hne : dist ≠ []) :
    dRandLawOk dist r (dRand dist r) = true := by
  obtain ⟨i, h, hi, he⟩ := dRandFrom_found r dist 0 hne (by simpa using hr)
  simp only [dRand, dRandLawOk, ScalarReal.ofInt_eq, Int.cast_zero, List.any_eq_true, List.mem_range]
  exact ⟨i, h, by simp [List.getElem?_eq_getElem h, he, findIdx?_inCdfStep r _ i hi]⟩

section
variable {α : Type} [Scalar α]

/-- the step predicate is the subtractive search of the code -/
theorem hmmStepOk_iff (p : List α) (u : α) (i : Nat) : hmmStepOk p u i = true ↔ subtractSearch u p 0 = some i := by
  rw [subtractSearch_zero, findIdx?_eq_some_iff_take]
  simp only [hmmStepOk]
  cases (remainders u p)[i]? <;> simp

theorem hmmState_eq_ok_iff (p : List α) (u : α) (dflt : Option Nat) (i : Nat) :
    hmmState p u dflt = .ok i ↔ subtractSearch u p 0 = some i ∨ subtractSearch u p 0 = none ∧ dflt = some i := by
  unfold hmmState
  cases subtractSearch u p 0 with
  | some j => simp
  | none => cases dflt <;> simp

theorem hmmState_stepOk (p : List α) (u : α) (i : Nat) (h : hmmState p u none = .ok i) : hmmStepOk p u i = true :=
  (hmmStepOk_iff p u i).mpr (by simpa using (hmmState_eq_ok_iff p u none i).mp h)

theorem hmmState_firstOk (eq : List α) (u : α) (i : Nat) (h : hmmState eq u (some 0) = .ok i) : hmmFirstOk eq u i = true := by
  unfold hmmFirstOk
  rcases (hmmState_eq_ok_iff eq u (some 0) i).mp h with h | ⟨h, hi⟩
  · rw [(hmmStepOk_iff eq u i).mpr h, Bool.true_or]
  · rw [subtractSearch_zero, List.findIdx?_eq_none_iff] at h
    have : (remainders u eq).all (fun x => !(Scalar.ltb x (Scalar.ofInt 0))) = true :=
      List.all_eq_true.mpr fun x hx => by rw [h x hx]; rfl
    rw [← Option.some.inj hi, this]; simp

theorem hmmChain_law (rows : List (List α)) : ∀ (k : Nat) (sta : Nat) (us : List α) (l : List Nat),
    hmmChain rows sta k us = .ok l → hmmChainOk rows sta (us.take k) l = true
  | 0, _, us, l, h => by
    simp only [hmmChain, Except.ok.injEq] at h; subst h; simp [hmmChainOk]
  | k + 1, _, [], _, h => by simp [hmmChain] at h
  | k + 1, sta, u :: us, l, h => by
    unfold hmmChain at h
    cases hr : rows[sta]? with
    | none => rw [hr] at h; cases h
    | some row =>
      rw [hr] at h; dsimp only at h
      cases hst : hmmState row u none with
      | error e => rw [hst] at h; cases h
      | ok stb =>
        rw [hst] at h; dsimp only at h
        cases hc : hmmChain rows stb k us with
        | error e => rw [hc] at h; cases h
        | ok l' =>
          rw [hc] at h
          simp only [Except.ok.injEq] at h; subst h
          simp only [List.take_succ_cons, hmmChainOk, hr, Bool.and_eq_true]
          exact ⟨hmmState_stepOk row u stb hst, hmmChain_law rows k stb us l' hc⟩

theorem hmmSample_law (eq : List α) (rows : List (List α)) (size : Nat) (draws : List α) (l : List Nat)
    (h : hmmSample eq rows size draws = .ok l) : hmmSampleLawOk eq rows (draws.take size) l = true := by
  unfold hmmSample at h
  cases size with
  | zero => simp only [Except.ok.injEq] at h; subst h; simp [hmmSampleLawOk]
  | succ k =>
    cases draws with
    | nil => simp at h
    | cons u us =>
      dsimp only at h
      cases hst : hmmState eq u (some 0) with
      | error e => rw [hst] at h; cases h
      | ok sta =>
        rw [hst] at h; dsimp only at h
        cases hc : hmmChain rows sta k us with
        | error e => rw [hc] at h; cases h
        | ok l' =>
          rw [hc] at h
          simp only [Except.ok.injEq] at h; subst h
          simp only [List.take_succ_cons, hmmSampleLawOk, Bool.and_eq_true]
          exact ⟨hmmState_firstOk eq u sta hst, hmmChain_law rows k sta us l' hc⟩
end

end Bpp.Rand
