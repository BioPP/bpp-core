import BppModel.NumDeriv
import BppProofs.Lemmas.ScalarReal
import Mathlib.Tactic.FieldSimp
import Mathlib.Tactic.Ring
/-!
The difference formulas of the three schemes over `ℝ`, and what they return on Taylor data: when the
values of `p` around `x` are `p (x + a) = P0 + a P1 + a²/2 P2 + … + a⁵/120 P5`, each formula is the
derivative it approximates (`P1` or `P2`) plus an explicit remainder in the higher `P k` and the steps.
Polynomials of degree ≤ 5 are the case where the expansion is exact (`quintic_taylor`).
-/
namespace Bpp.NumDeriv
open Bpp Bpp.Scalar

theorem d1Two_real (f1 f2 h : ℝ) : d1Two f1 f2 h = (f2 - f1) / h := rfl
theorem d1Three_real (f1 f3 hf1 hf3 : ℝ) : d1Three f1 f3 hf1 hf3 = (f1 - f3) / (hf1 - hf3) := rfl
theorem d2Three_real (f1 f2 f3 hf1 hf3 : ℝ) :
    d2Three f1 f2 f3 hf1 hf3 = ((f1 - f2) / hf1 - (f3 - f2) / hf3) * 2 / (hf1 - hf3) := by
  simp only [d2Three, ScalarReal.ofInt_eq, Int.cast_ofNat]
theorem crossThree_real (f11 f12 f21 f22 h1 h2 : ℝ) :
    crossThree f11 f12 f21 f22 h1 h2 = ((f22 - f21) - (f12 - f11)) / (4 * h1 * h2) := by
  simp only [crossThree, ScalarReal.ofInt_eq, Int.cast_ofNat]
theorem d1Five_real (f1 f2 f4 f5 h : ℝ) : d1Five f1 f2 f4 f5 h = (f1 - 8 * f2 + 8 * f4 - f5) / (12 * h) := by
  simp only [d1Five, ScalarReal.ofInt_eq, Int.cast_ofNat]
theorem d2Five_real (f1 f2 f3 f4 f5 h : ℝ) :
    d2Five f1 f2 f3 f4 f5 h = (-f1 + 16 * f2 - 30 * f3 + 16 * f4 - f5) / (12 * h * h) := by
  simp only [d2Five, ScalarReal.ofInt_eq, Int.cast_ofNat]
theorem d1Side_real (fa fb h : ℝ) : d1Side fa fb h = (fa - fb) / h := rfl
theorem d2Side_real (fa fb fc h : ℝ) : d2Side fa fb fc h = (fa - 2 * fb + fc) / (h * h) := by
  simp only [d2Side, ScalarReal.ofInt_eq, Int.cast_ofNat]

theorem d1Two_eq_iff {f1 f2 h r : ℝ} (hh : h ≠ 0) : d1Two f1 f2 h = r ↔ f2 - f1 = r * h := by
  rw [d1Two_real, div_eq_iff hh]

theorem d1Side_eq_iff {fa fb h r : ℝ} (hh : h ≠ 0) : d1Side fa fb h = r ↔ fa - fb = r * h := by
  rw [d1Side_real, div_eq_iff hh]

theorem d2Side_eq_iff {fa fb fc h r : ℝ} (hh : h ≠ 0) : d2Side fa fb fc h = r ↔ fa - 2 * fb + fc = r * (h * h) := by
  rw [d2Side_real, div_eq_iff (mul_ne_zero hh hh)]

theorem d1Three_eq_iff {f1 f3 a b r : ℝ} (hne : a ≠ b) : d1Three f1 f3 a b = r ↔ f1 - f3 = r * (a - b) := by
  rw [d1Three_real, div_eq_iff (sub_ne_zero.mpr hne)]

theorem d2Three_eq_iff {f1 f2 f3 a b r : ℝ} (ha : a ≠ 0) (hb : b ≠ 0) (hne : a ≠ b) :
    d2Three f1 f2 f3 a b = r ↔ ((f1 - f2) * b - a * (f3 - f2)) * 2 = r * (a * b * (a - b)) := by
  rw [d2Three_real, div_sub_div _ _ ha hb, div_mul_eq_mul_div, div_div,
    div_eq_iff (mul_ne_zero (mul_ne_zero ha hb) (sub_ne_zero.mpr hne))]

theorem crossThree_eq_iff {f11 f12 f21 f22 h1 h2 r : ℝ} (hh1 : h1 ≠ 0) (hh2 : h2 ≠ 0) :
    crossThree f11 f12 f21 f22 h1 h2 = r ↔ (f22 - f21) - (f12 - f11) = r * (4 * h1 * h2) := by
  rw [crossThree_real, div_eq_iff (mul_ne_zero (mul_ne_zero (by norm_num) hh1) hh2)]

theorem d1Five_eq_iff {f1 f2 f4 f5 h r : ℝ} (hh : h ≠ 0) :
    d1Five f1 f2 f4 f5 h = r ↔ f1 - 8 * f2 + 8 * f4 - f5 = r * (12 * h) := by
  rw [d1Five_real, div_eq_iff (mul_ne_zero (by norm_num) hh)]

theorem d2Five_eq_iff {f1 f2 f3 f4 f5 h r : ℝ} (hh : h ≠ 0) :
    d2Five f1 f2 f3 f4 f5 h = r ↔ -f1 + 16 * f2 - 30 * f3 + 16 * f4 - f5 = r * (12 * h * h) := by
  rw [d2Five_real, div_eq_iff (mul_ne_zero (mul_ne_zero (by norm_num) hh) hh)]

/-- Taylor polynomial of order 5 in the increment `a`, by the derivatives `P k` at the point -/
noncomputable def taylor5 (P0 P1 P2 P3 P4 P5 a : ℝ) : ℝ :=
  P0 + a * P1 + a ^ 2 / 2 * P2 + a ^ 3 / 6 * P3 + a ^ 4 / 24 * P4 + a ^ 5 / 120 * P5

/-- a polynomial of degree ≤ 5 is its Taylor polynomial of order 5 at any point -/
theorem quintic_taylor (c0 c1 c2 c3 c4 c5 x a : ℝ) :
    c0 + c1 * (x + a) + c2 * (x + a) ^ 2 + c3 * (x + a) ^ 3 + c4 * (x + a) ^ 4 + c5 * (x + a) ^ 5 =
      taylor5 (c0 + c1 * x + c2 * x ^ 2 + c3 * x ^ 3 + c4 * x ^ 4 + c5 * x ^ 5)
        (c1 + 2 * c2 * x + 3 * c3 * x ^ 2 + 4 * c4 * x ^ 3 + 5 * c5 * x ^ 4)
        (2 * c2 + 6 * c3 * x + 12 * c4 * x ^ 2 + 20 * c5 * x ^ 3)
        (6 * c3 + 24 * c4 * x + 60 * c5 * x ^ 2) (24 * c4 + 120 * c5 * x) (120 * c5) a := by
  unfold taylor5; ring

section Taylor
variable {p : ℝ → ℝ} {x P1 P2 P3 P4 P5 : ℝ} (hp : ∀ a, p (x + a) = taylor5 (p x) P1 P2 P3 P4 P5 a)
include hp

/-- two-point quotient: first order -/
theorem d1Two_taylor (h : ℝ) (hh : h ≠ 0) :
    d1Two (p x) (p (x + h)) h = P1 + h * (P2 / 2 + h * P3 / 6 + h ^ 2 * P4 / 24 + h ^ 3 * P5 / 120) := by
  rw [d1Two_eq_iff hh, hp]; unfold taylor5; ring

theorem d1Side_taylor_backward (h : ℝ) (hh : h ≠ 0) :
    d1Side (p x) (p (x - h)) h = P1 - h * (P2 / 2 - h * P3 / 6 + h ^ 2 * P4 / 24 - h ^ 3 * P5 / 120) := by
  rw [d1Side_eq_iff hh, sub_eq_add_neg x, hp]; unfold taylor5; ring

/-- three-point first derivative with any two distinct steps: first order in the steps,
second order when they are opposite -/
theorem d1Three_taylor (a b : ℝ) (hne : a ≠ b) :
    d1Three (p (x + a)) (p (x + b)) a b = P1 +
      ((a + b) * P2 / 2 + (a ^ 2 + a * b + b ^ 2) * P3 / 6 + (a ^ 3 + a ^ 2 * b + a * b ^ 2 + b ^ 3) * P4 / 24 +
       (a ^ 4 + a ^ 3 * b + a ^ 2 * b ^ 2 + a * b ^ 3 + b ^ 4) * P5 / 120) := by
  rw [d1Three_eq_iff hne, hp, hp]; unfold taylor5; ring

/-- three-point second derivative with any two distinct non-zero steps -/
theorem d2Three_taylor (a b : ℝ) (ha : a ≠ 0) (hb : b ≠ 0) (hne : a ≠ b) :
    d2Three (p (x + a)) (p x) (p (x + b)) a b = P2 +
      ((a + b) * P3 / 3 + (a ^ 2 + a * b + b ^ 2) * P4 / 12 + (a ^ 3 + a ^ 2 * b + a * b ^ 2 + b ^ 3) * P5 / 60) := by
  rw [d2Three_eq_iff ha hb hne, hp, hp]; unfold taylor5; ring

/-- opposite steps `h`, `-h`: the odd terms of the remainders cancel, second order -/
theorem d1Three_taylor_sym (h : ℝ) (hh : h ≠ 0) :
    d1Three (p (x + h)) (p (x - h)) h (-h) = P1 + h ^ 2 * (P3 / 6 + h ^ 2 * P5 / 120) := by
  rw [sub_eq_add_neg, d1Three_taylor hp h (-h) (self_ne_neg.mpr hh)]; ring

theorem d2Three_taylor_sym (h : ℝ) (hh : h ≠ 0) :
    d2Three (p (x + h)) (p x) (p (x - h)) h (-h) = P2 + h ^ 2 * (P4 / 12) := by
  rw [sub_eq_add_neg, d2Three_taylor hp h (-h) hh (neg_ne_zero.mpr hh) (self_ne_neg.mpr hh)]; ring

/-- five-point central formulas: fourth order, the second derivative exact up to degree 5 -/
theorem d1Five_taylor (h : ℝ) (hh : h ≠ 0) :
    d1Five (p (x - 2 * h)) (p (x - h)) (p (x + h)) (p (x + 2 * h)) h = P1 - P5 / 30 * h ^ 4 := by
  rw [d1Five_eq_iff hh, sub_eq_add_neg x, sub_eq_add_neg x, hp, hp, hp, hp]; unfold taylor5; ring

theorem d2Five_taylor (h : ℝ) (hh : h ≠ 0) :
    d2Five (p (x - 2 * h)) (p (x - h)) (p x) (p (x + h)) (p (x + 2 * h)) h = P2 := by
  rw [d2Five_eq_iff hh, sub_eq_add_neg x, sub_eq_add_neg x, hp, hp, hp, hp]; unfold taylor5; ring

/-- one-sided second derivatives of the five-point scheme: first order -/
theorem d2Side_taylor_forward (h : ℝ) (hh : h ≠ 0) :
    d2Side (p (x + 2 * h)) (p (x + h)) (p x) h = P2 + h * (P3 + h * (7 / 12) * P4 + h ^ 2 * P5 / 4) := by
  rw [d2Side_eq_iff hh, hp, hp]; unfold taylor5; ring

theorem d2Side_taylor_backward (h : ℝ) (hh : h ≠ 0) :
    d2Side (p x) (p (x - h)) (p (x - 2 * h)) h = P2 - h * (P3 - h * (7 / 12) * P4 + h ^ 2 * P5 / 4) := by
  rw [d2Side_eq_iff hh, sub_eq_add_neg x, sub_eq_add_neg x, hp, hp]; unfold taylor5; ring

end Taylor

end Bpp.NumDeriv
