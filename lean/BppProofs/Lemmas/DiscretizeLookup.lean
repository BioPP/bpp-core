import BppProofs.Lemmas.DiscretizeEqInt
import BppProofs.Props.C01
/-!
C09: look-ups, cumulative class queries, restriction of the domain.
-/
namespace Bpp.Discretize
open Bpp

/-! `inClass` by recursion on the bounds: class 0 of `b :: bs` ends at `b`; class `k + 1` is class `k`
of `bs`, with `b` as its lower bound when `k = 0` -/

theorem inClass_cons_zero (b : ℝ) (bs : List ℝ) (x : ℝ) : inClass (b :: bs) 0 x = Scalar.ltb x b := by
  simp [inClass]

theorem inClass_cons_succ (b : ℝ) (bs : List ℝ) (k : Nat) (x : ℝ) :
    inClass (b :: bs) (k + 1) x = ((k != 0 || Scalar.leb b x) && inClass bs k x) := by
  cases k with
  | zero =>
    simp only [inClass, List.length_cons, lt_add_iff_pos_left, Order.lt_add_one_iff, zero_le, getElem?_pos,
      List.getElem_cons_zero, zero_add, List.getElem?_cons_succ, Nat.reduceBeqDiff, BEq.comm (a := bs.length),
      bne_self_eq_false, Bool.false_or, Bool.true_and]
  | succ j =>
    simp only [inClass, List.getElem?_cons_succ, List.length_cons, Nat.reduceBeqDiff, Nat.reduceBneDiff,
      Bool.true_or, Bool.true_and]

/-- a value in a class other than the first has a bound below it -/
theorem inClass_succ_lower (bs : List ℝ) (k : Nat) (x : ℝ) (h : inClass bs (k + 1) x = true) : ∃ c ∈ bs, c ≤ x := by
  rw [inClass, Bool.and_eq_true] at h
  cases hk : bs[k]? with
  | none => simp [hk] at h
  | some c => exact ⟨c, List.mem_of_getElem? hk, by simpa [hk] using h.1⟩

/-- the class found by the scan contains the value -/
theorem inClass_classIdx (x : ℝ) (bounds : List ℝ) : inClass bounds (classIdx x bounds) x = true := by
  induction bounds with
  | nil => simp [classIdx, inClass]
  | cons b bs ih =>
    by_cases h : x < b
    · simp [classIdx, inClass_cons_zero, h]
    · simp [classIdx, inClass_cons_succ, h, ih, not_lt.1 h]

theorem classIdx_le (x : ℝ) (bounds : List ℝ) : classIdx x bounds ≤ bounds.length := by
  induction bounds with
  | nil => simp [classIdx]
  | cons b bs ih => simp only [classIdx]; split <;> simp; omega

/-- with non-decreasing bounds the class containing a value is unique -/
theorem inClass_unique (x : ℝ) (bounds : List ℝ) (hs : bounds.IsChain (· ≤ ·)) (k : Nat)
    (h : inClass bounds k x = true) : k = classIdx x bounds := by
  induction bounds generalizing k with
  | nil =>
    cases k with
    | zero => rfl
    | succ j => simp [inClass] at h
  | cons b bs ih =>
    cases k with
    | zero => simpa [classIdx, inClass_cons_zero] using h
    | succ j =>
      rw [inClass_cons_succ, Bool.and_eq_true, Bool.or_eq_true, bne_iff_ne, ScalarReal.leb_iff] at h
      -- `b` is the lower bound of the class, or lies below that bound
      have hb : b ≤ x := by
        rcases h.1 with hj | hb
        · obtain ⟨i, rfl⟩ := Nat.exists_eq_succ_of_ne_zero hj
          obtain ⟨c, hc, hcx⟩ := inClass_succ_lower bs i x h.2
          exact ((List.pairwise_cons.1 (List.isChain_iff_pairwise.1 hs)).1 c hc).trans hcx
        · exact hb
      simp [classIdx, not_lt.2 hb, ← ih hs.tail j h.2]

theorem findIdx?_key (prec : ℝ) (hp : 0 ≤ prec) (m : TMap ℝ) (hs : TMap.Sorted prec m) (i : Nat) (k : ℝ)
    (hk : (TMap.keys m)[i]? = some k) : TMap.findIdx? prec k m = some i := by
  induction m generalizing i with
  | nil => simp [TMap.keys] at hk
  | cons e t ih =>
    have hst : TMap.Sorted prec t := (List.pairwise_cons.1 hs).2
    have het := (List.pairwise_cons.1 hs).1
    cases i with
    | zero =>
      simp [TMap.keys] at hk; subst hk
      have h1 : ¬ (e.1 < e.1 - prec) := by linarith
      simp [TMap.findIdx?, h1]
    | succ j =>
      have hk' : (TMap.keys t)[j]? = some k := by simpa [TMap.keys] using hk
      have hmem : ∃ y ∈ t, y.1 = k := by
        have := List.mem_of_getElem? hk'
        obtain ⟨y, hy, rfl⟩ := List.mem_map.1 this
        exact ⟨y, hy, rfl⟩
      obtain ⟨y, hy, rfl⟩ := hmem
      have h1 : e.1 < y.1 - prec := het y hy
      simp only [TMap.findIdx?, TMap.lt_iff, h1, if_true]
      rw [ih hst j hk']
      rfl

theorem dom_isCorrect_iff (d : Dom ℝ) (x : ℝ) :
    d.isCorrect x = true ↔ ((if d.inclLo then d.lo ≤ x else d.lo < x) ∧ (if d.inclHi then x ≤ d.hi else x < d.hi)) := by
  refine (Interval.isCorrect_iff_bounds' d.toInterval x).trans ?_
  cases h1 : d.inclLo <;> cases h2 : d.inclHi <;> simp [Dom.toInterval, Bound.toEReal, h1, h2]

/-- the ends of a non-empty intersection with a domain lie between the ends of the domain, so they are finite -/
theorem inter_dom_ends (d : Dom ℝ) (c : Interval ℝ) (hne : ¬ (d.toInterval.interAssign c).isEmpty = true) :
    ∃ l h, (d.toInterval.interAssign c).lo = .fin l ∧ (d.toInterval.interAssign c).hi = .fin h ∧ d.lo ≤ l ∧ l ≤ h ∧ h ≤ d.hi := by
  have h1 := (Interval.not_isEmpty_cond _ hne).1
  have hlo : (d.lo : EReal) ≤ (d.toInterval.interAssign c).lo.toEReal := by
    rw [Interval.interAssign_eq_inter]
    show _ ≤ (Interval.interLo d.toInterval c).1.toEReal
    unfold Interval.interLo
    split
    · exact ((Bound.ltb_iff _ _).1 ‹_›).le
    · split <;> exact le_rfl
  have hhi : (d.toInterval.interAssign c).hi.toEReal ≤ (d.hi : EReal) := by
    rw [Interval.interAssign_eq_inter]
    show (Interval.interHi d.toInterval c).1.toEReal ≤ _
    unfold Interval.interHi
    split
    · exact ((Bound.gtb_iff _ _).1 ‹_›).le
    · split <;> exact le_rfl
  generalize (d.toInterval.interAssign c).lo = L at h1 hlo
  generalize (d.toInterval.interAssign c).hi = U at h1 hhi
  cases L with
  | negInf => exact absurd hlo (by simp)
  | posInf => exact absurd (h1.trans hhi) (by simp)
  | fin l =>
    cases U with
    | negInf => exact absurd h1 (by simp)
    | posInf => exact absurd hhi (by simp)
    | fin h => exact ⟨l, h, rfl, rfl, EReal.coe_le_coe_iff.1 hlo, EReal.coe_le_coe_iff.1 h1, EReal.coe_le_coe_iff.1 hhi⟩

/-- `restrictToConstraint` never meets the branch the model marks unreachable, refuses exactly the
constraints whose intersection with the domain is empty, and when it accepts the constraint the new
domain is exactly the intersection, non-empty, with finite ends -/
theorem restrictDom_spec (d : Dom ℝ) (c : Interval ℝ) :
    restrictDom d c ≠ .error .unreachable ∧
    (restrictDom d c = .error .bpp ↔ (d.toInterval.interAssign c).isEmpty = true) ∧
    ∀ d' ch, restrictDom d c = .ok (d', ch) →
      d'.toInterval = d.toInterval.interAssign c ∧ d'.lo ≤ d'.hi ∧ d.lo ≤ d'.lo ∧ d'.hi ≤ d.hi ∧
      (∀ v, d'.isCorrect v = true ↔ (d.isCorrect v = true ∧ c.isCorrect v = true)) ∧
      ch = (d.toInterval.interAssign c).neI d.toInterval := by
  unfold restrictDom
  simp only
  by_cases hemp : (d.toInterval.interAssign c).isEmpty = true
  · simp [hemp]
  · obtain ⟨l, h, hl, hh, hdl, hlh, hdh⟩ := inter_dom_ends d c hemp
    simp only [hemp, Bool.false_eq_true, if_false, hl, hh]
    refine ⟨by simp, by simp, ?_⟩
    intro d' ch heq
    injection heq with heq
    injection heq with h1 h2
    subst h1
    have hint : (⟨l, h, (d.toInterval.interAssign c).inclLo, (d.toInterval.interAssign c).inclHi, (d.toInterval.interAssign c).prec⟩ : Dom ℝ).toInterval
        = d.toInterval.interAssign c := by
      show (⟨.fin l, .fin h, _, _, _⟩ : Interval ℝ) = _
      rw [← hl, ← hh]
    exact ⟨hint, hlh, hdl, hdh, fun v => by unfold Dom.isCorrect; rw [hint]; exact C01.interAssign_iff _ _ v, h2.symm⟩

end Bpp.Discretize
