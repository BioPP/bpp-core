import BppProofs.Lemmas.LapFullDj2
/-! Helper lemmas for C04 (`lap`, the whole routine): the price update after the search, the
reversal of the augmenting path, one augmentation keeps the invariant with one free row less. -/
namespace Bpp.Mx.Lap
open Bpp Bpp.Mx

theorem djInit_inv (n : Nat) (c : Nat → Nat → ℝ) (cs : Nat → Int) (v : Nat → ℝ) (fr : Nat) (hfr : fr < n) (m0 : ℝ) :
    DjInv n c cs v fr (djInit c v fr m0) := by
  refine ⟨⟨⟨fun k hk => hk, fun a b _ _ h => h⟩, Nat.le_refl _, Nat.zero_le _, Nat.le_refl _, fun _ _ => hfr,
    fun k hk => by simp [djInit] at hk, fun k k' hk => by simp [djInit] at hk, fun k h1 h2 => by simp [djInit] at h2,
    fun h => by simp [djInit] at h, fun k h1 h2 => by simp [djInit] at h2, fun k hk => by simp [djInit] at hk,
    fun j _ => le_refl _, fun m _ => Or.inl ⟨rfl, rfl⟩⟩, rfl, fun k hk => by simp [djInit] at hk⟩

/-! ## the price update (`:1540-1545`) -/

theorem priceUpdate_good (n : Nat) (s : Dj ℝ) (v : Nat → ℝ) (hperm : PermOn n s.colList) (hlast : s.last ≤ n) (B : Prop) :
    Good B (priceUpdate n s v) (fun v' =>
      (∀ k, k < s.last → v' (s.colList k) = v (s.colList k) + s.d (s.colList k) - s.min) ∧
      (∀ j, (∀ k, k < s.last → s.colList k ≠ j) → v' j = v j)) := by
  unfold priceUpdate
  apply loopM_good (B := B) (fun t v' =>
      (∀ k, k < t → v' (s.colList k) = v (s.colList k) + s.d (s.colList k) - s.min) ∧
      (∀ j, (∀ k, k < t → s.colList k ≠ j) → v' j = v j)) s.last (priceStep n s) v
    ⟨fun k hk => by omega, fun j _ => rfl⟩
  intro t v' ht ⟨h1, h2⟩
  unfold priceStep
  have hlt : s.colList t < n := hperm.lt t (by omega)
  simp only [hlt, if_true]
  apply Good.ok
  have hvt : v' (s.colList t) = v (s.colList t) := h2 _ (fun k hk he => by
    have := hperm.inj k t (by omega) (by omega) he; omega)
  constructor
  · intro k hk
    by_cases hkt : k = t
    · subst hkt; rw [upd_same, hvt]
    · have hne : s.colList k ≠ s.colList t := fun he => hkt (hperm.inj k t (by omega) (by omega) he)
      rw [upd_ne _ _ hne]; exact h1 k (by omega)
  · intro j hj
    have hne : j ≠ s.colList t := fun he => hj t (by omega) he.symm
    rw [upd_ne _ _ hne]
    exact h2 j (fun k hk => hj k (by omega))

/-- what the path reversal needs: all old pairs stay tight for the new prices `v'`, and every column
that can lie on the path (a scanned one or the end `e`) would be tight for its predecessor row,
which is the free row or the row of a column scanned earlier -/
structure AugTight (n : Nat) (c : Nat → Nat → ℝ) (cs : Nat → Int) (v' : Nat → ℝ) (fr : Nat) (pred cl : Nat → Nat) (low e : Nat) : Prop where
  nt1 : ∀ j, j < n → ∀ i : Nat, cs j = (i : Int) → ∀ x, x < n → c i j - v' j ≤ c i x - v' x
  path : ∀ m, m < n → (m < low ∨ cl m = e) →
    (pred (cl m) = fr ∧ ∀ x, x < n → c fr (cl m) - v' (cl m) ≤ c fr x - v' x) ∨
    (∃ k, k < low ∧ k < m ∧ cs (cl k) = (pred (cl m) : Int) ∧
      ∀ x, x < n → c (pred (cl m)) (cl m) - v' (cl m) ≤ c (pred (cl m)) x - v' x)

theorem augTight_of_post {n : Nat} {c : Nat → Nat → ℝ} {rs cs : Nat → Int} {v : Nat → ℝ} {F : Nat → Prop}
    (hInv : Inv n c rs cs v F) {fr : Nat} {s : Dj ℝ} {e : Nat} {D : Nat → ℝ} (hp : DjPost n c cs v fr s e D) (v' : Nat → ℝ)
    (hv1 : ∀ k, k < s.last → v' (s.colList k) = v (s.colList k) + s.d (s.colList k) - s.min)
    (hv2 : ∀ j, (∀ k, k < s.last → s.colList k ≠ j) → v' j = v j) :
    AugTight n c cs v' fr s.pred s.colList s.low e := by
  have hsurj := inj_surj s.colList hp.perm.lt hp.perm.inj
  have hll := hp.lastlow
  have hln := hp.lown
  -- the new price of the column at position `m`
  have hvlo : ∀ m, m < s.last → v' (s.colList m) = v (s.colList m) + D (s.colList m) - s.min := by
    intro m hm; rw [hv1 m hm, hp.Dd m hm]
  have hvhi : ∀ m, s.last ≤ m → m < n → v' (s.colList m) = v (s.colList m) := by
    intro m hm hmn
    apply hv2
    intro k hk he
    have := hp.perm.inj k m (by omega) hmn he
    omega
  have hVx : ∀ x, x < n → v' x ≤ v x ∧ v' x ≤ v x + D x - s.min := by
    intro x hx
    obtain ⟨m, hm, hmx⟩ := hsurj x hx
    subst hmx
    by_cases hml : m < s.last
    · rw [hvlo m hml]
      exact ⟨by linarith only [hp.q1 m hml], le_refl _⟩
    · rw [hvhi m (by omega) hm]
      exact ⟨le_refl _, by linarith only [hp.q2 m (by omega) hm]⟩
  have hVp : ∀ m, m < n → (m < s.low ∨ s.colList m = e) → v' (s.colList m) = v (s.colList m) + D (s.colList m) - s.min := by
    intro m hm hcase
    by_cases hml : m < s.last
    · exact hvlo m hml
    · rw [hvhi m (by omega) hm]
      have : D (s.colList m) = s.min := by
        rcases hcase with h1 | h1
        · exact hp.q4 m (by omega) h1
        · rw [h1]; exact hp.q4e
      linarith only [this]
  constructor
  · intro j hj i hi x hx
    obtain ⟨m, hm, hmj⟩ := hsurj j hj
    subst hmj
    obtain ⟨hx1, hx2⟩ := hVx x hx
    by_cases hml : m < s.last
    · rw [hvlo m hml]
      linarith only [hp.q3 m hml i hi x hx, hx2]
    · rw [hvhi m (by omega) hm]
      linarith only [hInv.tight _ hj i hi x hx, hx1]
  · intro m hm hcase
    have hvm := hVp m hm hcase
    rcases hp.q5 m hm hcase with ⟨h1, h2⟩ | ⟨k, h1, h2, h3, h4⟩
    · left
      refine ⟨h1, fun x hx => ?_⟩
      obtain ⟨hx1, hx2⟩ := hVx x hx
      rw [hvm]; linarith only [h2, hp.qfree x hx, hx2]
    · right
      refine ⟨k, h1, h2, h3, fun x hx => ?_⟩
      obtain ⟨hx1, hx2⟩ := hVx x hx
      rw [hvm]
      by_cases hkl : k < s.last
      · linarith only [hp.q3 k hkl _ h3 x hx, h4, hx2]
      · linarith only [h4, hp.q2 k (by omega) (by omega), hInv.tight _ (hp.perm.lt k (by omega)) _ h3 x hx, hx1]

/-! ## the reversal of the path (`:1547-1556`) -/

/-- The column at position `m` of the list has just lost its row (or is the unassigned end of the path): it is
the one stale column of `InvH`.  Its predecessor row takes it (`InvH.take`) and gives up its own column, which
lies earlier on the list and is still as the search left it; the free row gives up nothing and ends the path. -/
theorem flipLoop_good {n : Nat} (hn : n < 32768) {c : Nat → Nat → ℝ} {rs cs : Nat → Int} {v : Nat → ℝ} {F : Nat → Prop}
    (hInv : Inv n c rs cs v F) {fr : Nat} (hfr : F fr) {v' : Nat → ℝ} {pred cl : Nat → Nat} {low e0 : Nat}
    (hperm : PermOn n cl) (hlow : low ≤ n) (hpred : ∀ j, j < n → pred j < n)
    (hat : AugTight n c cs v' fr pred cl low e0) (B : Prop) :
    ∀ (fuel : Nat) (rs' cs' : Nat → Int) (m : Nat), m < n → (m < low ∨ cl m = e0) →
      InvH n c rs' cs' v' F (· = cl m) → (∀ k, k < m → cs' (cl k) = cs (cl k)) → (B → m + 1 ≤ fuel) →
      Good B (flipLoop n pred fr fuel rs' cs' (cl m)) (fun p => Inv n c p.1 p.2 v' (fun x => F x ∧ x ≠ fr)) := by
  intro fuel
  induction fuel with
  | zero =>
    intro rs' cs' m _ _ _ _ hB
    unfold flipLoop
    exact Or.inr ⟨rfl, fun hb => by have := hB hb; omega⟩
  | succ fuel ih =>
    intro rs' cs' m hm hel hf hpre hB
    have hem : cl m < n := hperm.lt m hm
    have hi : pred (cl m) < n := hpred _ hem
    unfold flipLoop
    simp only [rd_of_lt _ hem, rd_of_lt _ hi]
    rcases hat.path m hm hel with ⟨hpf, htf⟩ | ⟨k, hk1, hk2, hk3, htk⟩
    · -- the free row: the path is complete
      rw [if_neg (by simp [hpf])]
      rw [hpf] at hi ⊢
      exact Good.ok ((hf.take hem hi htf).toInv (fun j hh => hh.1 hfr))
    · -- the row of a column scanned earlier
      have hkn : k < n := by omega
      have hckn : cl k < n := hperm.lt k hkn
      have hnotfree : ¬ F (pred (cl m)) := fun h => (hInv.freeOk _ h).2 (cl k) hckn hk3
      rw [if_pos (fun e : pred (cl m) = fr => hnotfree (e ▸ hfr))]
      have hkm : cl k ≠ cl m := fun e => by have := hperm.inj k m hkn hm e; omega
      have hrsi : rs' (pred (cl m)) = (cl k : Int) := (hf.colOk _ hckn hkm _ ((hpre k hk2).trans hk3)).2
      rw [hrsi, szOfInt_ofNat _ (by omega)]
      apply ih _ _ k hkn (Or.inl hk1) _ _ (fun hb => by have := hB hb; omega)
      · exact (hf.take hem hi htk).congr (fun x => ⟨fun h => h.1, fun h => ⟨h, fun e => hnotfree (e ▸ h)⟩⟩)
          (fun j => ⟨fun h => by have := h.2; omega, fun h => ⟨hnotfree, by rw [hrsi, h]⟩⟩)
      · intro k' hk'
        rw [upd_ne _ _ (fun e => by have := hperm.inj k' m (by omega) hm e; omega)]
        exact hpre k' (by omega)

end Bpp.Mx.Lap
