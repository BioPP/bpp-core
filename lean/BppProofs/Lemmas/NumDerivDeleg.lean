import BppProofs.Lemmas.NumDerivReach
/-!
C12 helper lemmas: the switches and the cache of the wrapped function's analytical
derivatives through `updateDerivatives` (delegation of non-selected variables).
-/
namespace Bpp.NumDeriv
open Bpp Bpp.Scalar

@[simp] theorem enable1_pt1 (fn : Fn ℝ) (b : Bool) : (fn.enable1 b).pt1 = fn.pt1 := by
  unfold Fn.enable1; split <;> rfl
@[simp] theorem enable2_pt1 (fn : Fn ℝ) (b : Bool) : (fn.enable2 b).pt1 = fn.pt1 := by
  unfold Fn.enable2; split <;> rfl
@[simp] theorem Wenable2_en1 (w : W ℝ) (b : Bool) : (w.enable2 b).en1 = w.fn.en1 := by
  unfold W.enable2; split <;> simp
@[simp] theorem Wenable2_pt1 (w : W ℝ) (b : Bool) : (w.enable2 b).pt1 = w.fn.pt1 := by
  unfold W.enable2; split <;> simp

@[simp] theorem sw2_en1 (s : Scheme) (fn : Fn ℝ) (b : Bool) : (sw2 s fn b).en1 = fn.en1 := by
  cases s <;> simp [sw2]
@[simp] theorem sw2_pt1 (s : Scheme) (fn : Fn ℝ) (b : Bool) : (sw2 s fn b).pt1 = fn.pt1 := by
  cases s <;> simp [sw2]
theorem onOf_en1 (s : Scheme) (w : W ℝ) (hk : w.fn.kind ≥ 1) : (onOf s w).en1 = w.c1 := by
  cases s <;> simp [onOf, enable1_en1 w.fn w.c1 hk]
@[simp] theorem onOf_pt1 (s : Scheme) (w : W ℝ) : (onOf s w).pt1 = w.fn.pt1 := by
  cases s <;> simp [onOf]

/-- how a computing `updateDerivatives` ends -/
inductive Ending (f : List ℝ → ℝ) (params : PList ℝ) (w : W ℝ) (fn0 : Fn ℝ) (r : W ℝ × Option Exc) : Prop
  | raised (h : r.2 ≠ none)
  | tooLarge (fn1 : Fn ℝ) (hr : ReachS f fn0 fn1) (hb : tooBig fn1.fval = true)
      (he : r.1.fn.pt1 = fn1.pt1 ∧ (fn1.kind ≥ 1 → r.1.fn.en1 = w.c1))
  | finished (w' : W ℝ) (lv : Option Name) (all : Bool) (hr : ReachS f fn0 w'.fn) (hc : SameCfg w w')
      (he : r = finish f params lv all w')

theorem updateG_decomp (s : Scheme) (f : List ℝ → ℝ) (w : W ℝ) (params : PList ℝ)
    (hcond : (w.c1 && decide (w.vars.length > 0)) = true) :
    Ending f params w (sw2 s (w.fn.enable1 false) false) (updateG s f w params) := by
  have hE := Closed.trivial params
  unfold updateG
  rw [if_pos hcond]
  split
  next fn1 e h => exact .raised (by simp)
  next fn1 h =>
    have r1 : ReachS f (sw2 s (w.fn.enable1 false) false) fn1 := (Reaches.refl _).of_set (fun _ _ => trivial) h
    simp only []
    split
    · rename_i htb
      rw [Bool.and_eq_true, slotOf_setSlot] at htb
      refine .tooLarge fn1 r1 htb.2 ⟨?_, fun hk => ?_⟩
      · rw [nanAll_fn]; simp
      · rw [nanAll_fn]; simp only [sw2_en1, setSlot_fn]
        exact (enable1_en1 _ _ hk).trans (by cases s <;> rfl)
    · obtain ⟨hl, hsl, _⟩ := loopGo_frame f (stepOf s f params) (stepOf_frame f hE s)
        (setSlot s { w with fn := fn1 } fn1.fval).vars 0 { w := setSlot s { w with fn := fn1 } fn1.fval, p := [], lastVar := none }
      rcases hs : loopGo (stepOf s f params) (setSlot s { w with fn := fn1 } fn1.fval).vars 0
        { w := setSlot s { w with fn := fn1 } fn1.fval, p := [], lastVar := none } with ⟨lp, e⟩
      rw [hs] at hl hsl
      simp only [setSlot_fn] at hl
      have hcf0 : SameCfg w lp.w :=
        SameCfg.trans (b := setSlot s { w with fn := fn1 } fn1.fval) (by cases s <;> exact ⟨rfl, rfl, rfl, rfl, rfl, rfl⟩) hsl.1
      cases e with
      | some e => exact .raised (by simp)
      | none =>
        simp only []
        unfold afterLoop
        split
        · split
          · exact .finished lp.w lp.lastVar true (r1.trans hl) hcf0 rfl
          · rename_i l _
            have hc := crossGo_frame f hE lp.w.vars lp.w.vars 0 { w := lp.w, l1 := l, l2 := l }
            rcases hcs : crossGo f params lp.w.vars lp.w.vars 0 { w := lp.w, l1 := l, l2 := l } with ⟨cl, e⟩
            rw [hcs] at hc
            cases e with
            | some e => exact .raised (by simp)
            | none => exact .finished cl.w lp.lastVar true ((r1.trans hl).trans (hc.reachS rfl)) (hcf0.trans hc.cfg) rfl
        · exact .finished lp.w lp.lastVar false (r1.trans hl) hcf0 rfl


/-- if the wrapped function has its first-order derivatives switched on, they were computed at its
current point -/
def Fresh1 (fn : Fn ℝ) : Prop := fn.en1 = true → fn.pt1 = values fn.params
/-- switched off, cache untouched since it held `P0` -/
def Off1 (P0 : List ℝ) (fn : Fn ℝ) : Prop := fn.en1 = false ∧ fn.pt1 = P0

theorem fire_off1 (f : List ℝ → ℝ) (fn : Fn ℝ) (own : PList ℝ) (P0 : List ℝ) (h : Off1 P0 fn) :
    Off1 P0 (({ fn with params := own } : Fn ℝ).fire f) := by
  unfold Off1 Fn.fire at *
  simp only [h.1, Bool.false_eq_true, if_false]
  exact ⟨trivial, h.2⟩

theorem fire_fresh1 (f : List ℝ → ℝ) (fn : Fn ℝ) (own : PList ℝ) : Fresh1 (({ fn with params := own } : Fn ℝ).fire f) := by
  unfold Fresh1 Fn.fire
  simp only []
  intro h
  rw [if_pos h]

theorem Off1.setParameters {f : List ℝ → ℝ} {P0 : List ℝ} {fn : Fn ℝ} (h : Off1 P0 fn) (pl : PList ℝ) :
    Off1 P0 (fn.setParameters f pl).1 := by
  rcases setParameters_shape f fn pl with e | ⟨own, _, e⟩
  · rw [e]; exact h
  · rw [e]; exact fire_off1 f fn own P0 h

theorem Fresh1.setParameters {f : List ℝ → ℝ} {fn : Fn ℝ} (h : Fresh1 fn) (pl : PList ℝ) :
    Fresh1 (fn.setParameters f pl).1 ∧ (fn.setParameters f pl).1.en1 = fn.en1 := by
  rcases setParameters_shape f fn pl with e | ⟨own, _, e⟩
  · rw [e]; exact ⟨h, rfl⟩
  · rw [e]; exact ⟨fire_fresh1 f fn own, rfl⟩

theorem Off1.reachS {f : List ℝ → ℝ} {P0 : List ℝ} {a b : Fn ℝ} (h : Off1 P0 a) (hr : ReachS f a b) : Off1 P0 b := by
  induction hr with
  | refl => exact h
  | setp pl _ _ ih => exact ih.setParameters pl
  | en1 h => cases h
  | en2 h => cases h

theorem Fresh1.forward {f : List ℝ → ℝ} {fn : Fn ℝ} (h : Fresh1 fn) (e : Entry ℝ) :
    Fresh1 (fn.forward f e).1 ∧ (fn.forward f e).1.en1 = fn.en1 := by
  rcases forward_shape f fn e with h1 | ⟨own, _, _, h1⟩
  · rw [h1]; exact ⟨h, rfl⟩
  · rw [h1]; exact ⟨fire_fresh1 f fn own, rfl⟩

/-- the end of the computing branch switches the derivatives back on: either nothing is evaluated
any more (the cache is the one that was there when they were switched off) or the last reset
evaluates the function with them on -/
theorem finish_fresh (f : List ℝ → ℝ) (params : PList ℝ) (lv : Option Name) (all : Bool) (w : W ℝ) (P0 : List ℝ)
    (hk : w.fn.kind ≥ 1) (h : Off1 P0 w.fn) :
    (finish f params lv all w).1.fn.en1 = w.c1 ∧
    ((finish f params lv all w).1.fn.pt1 = P0 ∨
      (finish f params lv all w).1.fn.pt1 = values (finish f params lv all w).1.fn.params) := by
  have he : (({ w with fn := w.fn.enable1 w.c1 } : W ℝ).enable2 w.c2).en1 = w.c1 ∧
      (({ w with fn := w.fn.enable1 w.c1 } : W ℝ).enable2 w.c2).pt1 = P0 := by
    unfold W.enable2 Fn.enable2 Fn.enable1
    simp only [hk, if_true]
    repeat' split
    all_goals exact ⟨rfl, h.2⟩
  have hshape : ∀ pl, ((({ w with fn := w.fn.enable1 w.c1 } : W ℝ).enable2 w.c2).setParameters f pl).1.en1 = w.c1 ∧
      (((({ w with fn := w.fn.enable1 w.c1 } : W ℝ).enable2 w.c2).setParameters f pl).1.pt1 = P0 ∨
       ((({ w with fn := w.fn.enable1 w.c1 } : W ℝ).enable2 w.c2).setParameters f pl).1.pt1 =
         values ((({ w with fn := w.fn.enable1 w.c1 } : W ℝ).enable2 w.c2).setParameters f pl).1.params) := by
    intro pl
    rcases setParameters_shape f (({ w with fn := w.fn.enable1 w.c1 } : W ℝ).enable2 w.c2) pl with e | ⟨own, _, e⟩
    · rw [e]; exact ⟨he.1, Or.inl he.2⟩
    · rw [e]
      refine ⟨he.1, ?_⟩
      unfold Fn.fire
      simp only []
      by_cases hc : w.c1 = true
      · right; rw [he.1, if_pos hc]
      · left; rw [he.1, if_neg hc]; exact he.2
  unfold finish
  simp only []
  split
  · exact ⟨he.1, Or.inl he.2⟩
  · split
    · exact hshape params
    · split
      · exact ⟨he.1, Or.inl he.2⟩
      · exact hshape _


/-- common end of the three computing branches -/
theorem ending_fresh (f : List ℝ → ℝ) (params : PList ℝ) (w : W ℝ) (fn0 : Fn ℝ) (r : W ℝ × Option Exc)
    (hend : Ending f params w fn0 r) (hk : w.fn.kind ≥ 1) (hcons : w.fn.en1 = w.c1) (hfr : Fresh1 w.fn)
    (h0 : Off1 w.fn.pt1 fn0) (hk0 : fn0.kind = w.fn.kind) (hnone : r.2 = none)
    (hp : r.1.fn.params = w.fn.params) :
    r.1.fn.en1 = w.c1 ∧ Fresh1 r.1.fn := by
  cases hend with
  | raised h => exact absurd hnone h
  | tooLarge fn1 hr hb he =>
    have hoff := h0.reachS hr
    have hk1 : fn1.kind ≥ 1 := by rw [hr.flags.1, hk0]; exact hk
    refine ⟨he.2 hk1, ?_⟩
    intro hen
    rw [he.1, hoff.2, hp]
    apply hfr
    rw [hcons, ← he.2 hk1]; exact hen
  | finished w' lv all hr hc he =>
    have hoff := h0.reachS hr
    have hk' : w'.fn.kind ≥ 1 := by rw [hr.flags.1, hk0]; exact hk
    obtain ⟨a, b⟩ := finish_fresh f params lv all w' w.fn.pt1 hk' hoff
    rw [← he] at a b
    refine ⟨by rw [a, hc.2.1], ?_⟩
    intro hen
    rcases b with b | b
    · rw [b, hp]
      apply hfr
      rw [hcons, ← hc.2.1, ← a]; exact hen
    · exact b

theorem update_fresh (f : List ℝ → ℝ) (w : W ℝ) (params : PList ℝ) (hown : Own w.fn) (hok : w.fn.OK f)
    (hsync : Synced params w.fn.params) (hpnd : (names params).Nodup)
    (hk : w.fn.kind ≥ 1) (hcons : w.fn.en1 = w.c1) (hfr : Fresh1 w.fn)
    (hnone : (w.update f params).2 = none) :
    (w.update f params).1.fn.en1 = w.c1 ∧ Fresh1 (w.update f params).1.fn := by
  obtain ⟨sp, _, _, _⟩ := update_spec f w params hown hok hsync hpnd _ rfl hnone
  rw [update_eq] at hnone sp ⊢
  by_cases hcond : (w.c1 && decide (w.vars.length > 0)) = true
  · exact ending_fresh f params w _ _ (updateG_decomp w.scheme f w params hcond) hk hcons hfr
      (by unfold Off1; simp [enable1_en1 w.fn false hk]) (by simp) hnone sp
  · -- the branch that computes nothing: switch on as asked, one `setParameters`
    have hfE : Fresh1 (onOf w.scheme w) := by
      intro hen; rw [onOf_pt1, onOf_params]; apply hfr; rw [hcons, ← onOf_en1 w.scheme w hk]; exact hen
    obtain ⟨a, b⟩ := hfE.setParameters (f := f) params
    unfold updateG
    rw [if_neg hcond]
    split <;> (rename_i h; rw [h] at a b; simp only [setSlot_fn]; exact ⟨b.trans (onOf_en1 _ w hk), a⟩)


theorem ending_flags (f : List ℝ → ℝ) (params : PList ℝ) (w : W ℝ) (fn0 : Fn ℝ) (r : W ℝ × Option Exc)
    (hend : Ending f params w fn0 r) (hk : w.fn.kind ≥ 1) (h0 : fn0.en1 = false) (hk0 : fn0.kind = w.fn.kind)
    (hnone : r.2 = none) : r.1.fn.en1 = w.c1 := by
  cases hend with
  | raised h => exact absurd hnone h
  | tooLarge fn1 hr hb he => exact he.2 (by rw [hr.flags.1, hk0]; exact hk)
  | finished w' lv all hr hc he =>
    have hoff : Off1 fn0.pt1 w'.fn := Off1.reachS (⟨h0, rfl⟩ : Off1 fn0.pt1 fn0) hr
    have hk' : w'.fn.kind ≥ 1 := by rw [hr.flags.1, hk0]; exact hk
    obtain ⟨a, _⟩ := finish_fresh f params lv all w' fn0.pt1 hk' hoff
    rw [← he] at a
    rw [a, hc.2.1]

/-- after `updateDerivatives` returns, the wrapped function's analytical first-order derivatives
are on iff the wrapper's first-order derivatives are on -/
theorem update_flags (f : List ℝ → ℝ) (w : W ℝ) (params : PList ℝ) (hk : w.fn.kind ≥ 1)
    (hnone : (w.update f params).2 = none) : (w.update f params).1.fn.en1 = w.c1 := by
  rw [update_eq] at hnone ⊢
  by_cases hcond : (w.c1 && decide (w.vars.length > 0)) = true
  · exact ending_flags f params w _ _ (updateG_decomp w.scheme f w params hcond) hk
      (by simp [enable1_en1 w.fn false hk]) (by simp) hnone
  · have := (setParameters_flags f (onOf w.scheme w) params).2.1.trans (onOf_en1 _ w hk)
    unfold updateG
    rw [if_neg hcond]
    split <;> (rename_i h; rw [h] at this; simp only [setSlot_fn]; exact this)

end Bpp.NumDeriv
