import BppModel.HmmFull
/-!
Helper lemmas for C13: the two caches of `FullHmmTransitionMatrix` (`pij_` with `upToDate_`, `eqFreq_`
with `eqFreqUpToDate_`) never matter — in every history of updates and queries each answer is the one
computed from the simplices alone.  Pure state-machine reasoning, generic in the scalar type (it also
holds for the `Float` instance the driver runs).
-/
namespace Bpp.Hmm
open Bpp

variable {α : Type} [Scalar α]

def FullTM.run (m : FullTM α) : List (FullOp α) → List (FullAns α)
  | [] => []
  | op :: ops => (m.step op).2 :: FullTM.run (m.step op).1 ops

/-- the same object with both caches declared stale -/
def FullTM.forget (m : FullTM α) : FullTM α := { m with upToDate := false, eqUpToDate := false }

/-- the reference: both caches are thrown away before every operation -/
def FullTM.runFresh (m : FullTM α) : List (FullOp α) → List (FullAns α)
  | [] => []
  | op :: ops => (m.forget.step op).2 :: FullTM.runFresh (m.forget.step op).1 ops

/-- a cache that claims to be up to date holds what would be recomputed -/
def FullTM.CacheOk (m : FullTM α) : Prop :=
  (m.upToDate = true → m.pij = fullMatrix m.rows)
  ∧ (m.eqUpToDate = true → fullEqOf m.n (fullMatrix m.rows) = some m.eq)

/-- two objects that differ in their caches only -/
def FullTM.Sim (m m' : FullTM α) : Prop :=
  m.n = m'.n ∧ m.rows = m'.rows ∧ m.CacheOk ∧ m'.CacheOk

theorem cacheOk_of_flags (m : FullTM α) (h1 : m.upToDate = false) (h2 : m.eqUpToDate = false) : m.CacheOk :=
  ⟨fun h => (by rw [h1] at h; cases h), fun h => (by rw [h2] at h; cases h)⟩

theorem FullTM.forget_sim (m : FullTM α) (h : m.CacheOk) : m.Sim m.forget :=
  ⟨rfl, rfl, h, cacheOk_of_flags _ rfl rfl⟩

theorem fire_params (s : Simplex.St α) : (Simplex.fire s).params = s.params := by
  unfold Simplex.fire
  split
  · rfl
  · split <;> rfl

/-- a simplex that `setFrequencies` leaves with "equal" parameters is left untouched altogether -/
theorem matchParams_cases (r r' : Simplex.St α) (θ : List α) (h : Simplex.matchParams r θ = .ok r') :
    r' = r ∨ (List.zip r.params r'.params).any (fun (c, v) => !(Scalar.eqb c v)) = true := by
  simp only [Simplex.matchParams] at h
  by_cases hall : θ.all (Simplex.inConstraint r.allowNull) = true
  · simp only [hall, if_true] at h
    by_cases hch : (List.zip r.params θ).any (fun (c, v) => !(Scalar.eqb c v)) = true
    · simp only [hch, if_true] at h
      right
      cases h
      rw [fire_params]
      exact hch
    · simp only [hch, Bool.false_eq_true, if_false] at h
      left; cases h; rfl
  · simp only [hall, Bool.false_eq_true, if_false] at h
    cases h

theorem setFrequencies_cases (r r' : Simplex.St α) (p : List α) (h : Simplex.setFrequencies r p = .ok r') :
    r' = r ∨ (List.zip r.params r'.params).any (fun (c, v) => !(Scalar.eqb c v)) = true := by
  unfold Simplex.setFrequencies at h
  split at h
  · left; cases h; rfl
  · split at h
    · cases h
    · split at h
      · cases h
      · exact matchParams_cases r r' _ h

theorem setRowsLoop_unchanged (rows rows' : List (Simplex.St α)) (mat : List (List α))
    (h : setRowsLoop rows mat = .ok rows') (hc : rowsChanged rows rows' = false) : rows' = rows := by
  induction rows generalizing rows' mat with
  | nil => simp only [setRowsLoop] at h; cases h; rfl
  | cons r rs ih =>
    cases mat with
    | nil => simp [setRowsLoop] at h
    | cons p ps =>
      simp only [setRowsLoop] at h
      cases h1 : Simplex.setFrequencies r p with
      | error e => simp [h1] at h
      | ok r1 =>
        cases h2 : setRowsLoop rs ps with
        | error e => simp [h1, h2] at h
        | ok rs1 =>
          simp only [h1, h2] at h
          cases h
          simp only [rowsChanged, List.zip_cons_cons, List.any_cons, Bool.or_eq_false_iff] at hc
          have hrs := ih rs1 ps h2 hc.2
          rcases setFrequencies_cases r r1 p h1 with h3 | h3
          · rw [h3, hrs]
          · rw [h3] at hc; exact absurd hc.1 (by simp)

theorem FullTM.getPij_spec (m : FullTM α) (h : m.CacheOk) :
    m.getPij.2 = fullMatrix m.rows ∧ m.getPij.1.CacheOk ∧ m.getPij.1.rows = m.rows ∧ m.getPij.1.n = m.n
      ∧ m.getPij.1.upToDate = true ∧ m.getPij.1.pij = fullMatrix m.rows := by
  unfold FullTM.getPij
  by_cases hu : m.upToDate = true
  · rw [if_pos hu]
    exact ⟨h.1 hu, h, rfl, rfl, hu, h.1 hu⟩
  · rw [if_neg hu]
    exact ⟨rfl, ⟨fun _ => rfl, h.2⟩, rfl, rfl, rfl, rfl⟩

theorem FullTM.getEq_spec (m : FullTM α) (h : m.CacheOk) :
    m.getEq.2 = fullEqOf m.n (fullMatrix m.rows) ∧ m.getEq.1.CacheOk ∧ m.getEq.1.rows = m.rows ∧ m.getEq.1.n = m.n := by
  unfold FullTM.getEq
  by_cases hu : m.eqUpToDate = true
  · rw [if_pos hu]
    exact ⟨(h.2 hu).symm, h, rfl, rfl⟩
  · rw [if_neg hu]
    obtain ⟨g1, g2, g3, g4, g5, g6⟩ := FullTM.getPij_spec m h
    rw [g1]
    cases he : fullEqOf m.n (fullMatrix m.rows) with
    | none => exact ⟨rfl, g2, g3, g4⟩
    | some e =>
      refine ⟨rfl, ⟨fun _ => ?_, fun _ => ?_⟩, g3, g4⟩
      · show m.getPij.1.pij = fullMatrix m.getPij.1.rows
        rw [g6, g3]
      · show fullEqOf m.getPij.1.n (fullMatrix m.getPij.1.rows) = some e
        rw [g4, g3]; exact he

def FullOp.IsQuery : FullOp α → Prop
  | .getPij | .entry _ _ | .getEq => True
  | _ => False

/-- every query is answered from the simplices alone (`fullSpec`) and changes nothing but the caches -/
theorem FullTM.query_spec (m : FullTM α) (h : m.CacheOk) (op : FullOp α) (hq : op.IsQuery) :
    (m.step op).2 = fullSpec m.n m.rows op ∧ (m.step op).1.rows = m.rows ∧ (m.step op).1.n = m.n
      ∧ (m.step op).1.CacheOk := by
  cases op with
  | setRows _ | setTheta _ _ _ => exact False.elim hq
  | getPij =>
    obtain ⟨a1, a2, a3, a4, _⟩ := FullTM.getPij_spec m h
    exact ⟨congrArg FullAns.mat a1, a3, a4, a2⟩
  | entry i j => exact ⟨rfl, rfl, rfl, h⟩
  | getEq =>
    obtain ⟨a1, a2, a3, a4⟩ := FullTM.getEq_spec m h
    refine ⟨?_, a3, a4, a2⟩
    show (match m.getEq.2 with | some e => FullAns.vec e | none => FullAns.err .ub)
       = (match fullEqOf m.n (fullMatrix m.rows) with | some e => FullAns.vec e | none => FullAns.err .ub)
    rw [a1]

theorem FullTM.query_sim (m m' : FullTM α) (h : m.Sim m') (op : FullOp α) (hq : op.IsQuery) :
    (m.step op).2 = (m'.step op).2 ∧ (m.step op).1.Sim (m'.step op).1 := by
  obtain ⟨hn, hr, hc, hc'⟩ := h
  obtain ⟨a1, a2, a3, a4⟩ := FullTM.query_spec m hc op hq
  obtain ⟨b1, b2, b3, b4⟩ := FullTM.query_spec m' hc' op hq
  exact ⟨by rw [a1, b1, hn, hr], by rw [a3, b3]; exact hn, by rw [a2, b2]; exact hr, a4, b4⟩

theorem FullTM.fireOne_sim (m m' : FullTM α) (h : m.Sim m') (i k : Nat) (v : α) :
    (m.fireOne i k v).2 = (m'.fireOne i k v).2 ∧ (m.fireOne i k v).1.Sim (m'.fireOne i k v).1 := by
  obtain ⟨hn, hr, hc, hc'⟩ := h
  unfold FullTM.fireOne
  rw [← hr]
  cases m.rows[i]? with
  | none => exact ⟨rfl, hn, rfl, cacheOk_of_flags _ rfl rfl, cacheOk_of_flags _ rfl rfl⟩
  | some r =>
    dsimp only
    cases simplexMatchOne r k v with
    | error e => exact ⟨rfl, hn, hr, hc, hc'⟩
    | ok r' => exact ⟨rfl, hn, rfl, cacheOk_of_flags _ rfl rfl, cacheOk_of_flags _ rfl rfl⟩

theorem FullTM.setRows_sim (m m' : FullTM α) (h : m.Sim m') (mat : List (List α)) :
    (m.setRows mat).2 = (m'.setRows mat).2 ∧ (m.setRows mat).1.Sim (m'.setRows mat).1 := by
  obtain ⟨hn, hr, hc, hc'⟩ := h
  unfold FullTM.setRows
  rw [← hr]
  split
  · exact ⟨rfl, hn, hr, hc, hc'⟩
  · cases hloop : setRowsLoop m.rows mat with
    | error e => exact ⟨rfl, hn, hr, hc, hc'⟩
    | ok rows' =>
      dsimp only
      cases hch : rowsChanged m.rows rows' with
      | true => exact ⟨rfl, hn, rfl, cacheOk_of_flags _ rfl rfl, cacheOk_of_flags _ rfl rfl⟩
      | false =>
        rw [setRowsLoop_unchanged m.rows rows' mat hloop hch]
        exact ⟨rfl, hn, rfl, hc, hr ▸ hc'⟩

theorem FullTM.setTheta_sim (m m' : FullTM α) (h : m.Sim m') (i k : Nat) (v : α) :
    (m.setTheta i k v).2 = (m'.setTheta i k v).2 ∧ (m.setTheta i k v).1.Sim (m'.setTheta i k v).1 := by
  have h0 := h
  obtain ⟨hn, hr, hc, hc'⟩ := h
  unfold FullTM.setTheta
  rw [← hr]
  cases m.rows[i]? with
  | none => exact ⟨rfl, hn, hr, hc, hc'⟩
  | some r =>
    dsimp only
    cases r.params[k]? with
    | none => exact ⟨rfl, hn, hr, hc, hc'⟩
    | some cur =>
      dsimp only
      split
      · split
        · exact FullTM.fireOne_sim m m' h0 i k v
        · exact ⟨rfl, hn, hr, hc, hc'⟩
      · exact FullTM.fireOne_sim m m' h0 i k cur

theorem FullTM.step_sim (m m' : FullTM α) (h : m.Sim m') (op : FullOp α) :
    (m.step op).2 = (m'.step op).2 ∧ (m.step op).1.Sim (m'.step op).1 := by
  cases op with
  | setRows mat =>
    obtain ⟨f1, f2⟩ := FullTM.setRows_sim m m' h mat
    exact ⟨by simp only [FullTM.step]; rw [f1], f2⟩
  | setTheta i k v =>
    obtain ⟨f1, f2⟩ := FullTM.setTheta_sim m m' h i k v
    exact ⟨by simp only [FullTM.step]; rw [f1], f2⟩
  | getPij | entry _ _ | getEq => exact FullTM.query_sim m m' h _ trivial

theorem FullTM.run_sim (m m' : FullTM α) (h : m.Sim m') (ops : List (FullOp α)) : m.run ops = m'.run ops := by
  induction ops generalizing m m' with
  | nil => rfl
  | cons op ops ih =>
    obtain ⟨h1, h2⟩ := FullTM.step_sim m m' h op
    simp only [FullTM.run]
    rw [h1, ih _ _ h2]

theorem FullTM.step_cacheOk (m : FullTM α) (h : m.CacheOk) (op : FullOp α) : (m.step op).1.CacheOk :=
  (FullTM.step_sim m m ⟨rfl, rfl, h, h⟩ op).2.2.2.1

/-- the cached object answers every history like the object whose caches are discarded before each call -/
theorem FullTM.run_eq_runFresh (m : FullTM α) (h : m.CacheOk) (ops : List (FullOp α)) :
    m.run ops = m.runFresh ops := by
  induction ops generalizing m with
  | nil => rfl
  | cons op ops ih =>
    obtain ⟨h1, h2⟩ := FullTM.step_sim m m.forget (FullTM.forget_sim m h) op
    simp only [FullTM.run, FullTM.runFresh]
    rw [h1, FullTM.run_sim _ _ h2, ih _ h2.2.2.2]

theorem FullTM.build_cacheOk (n : Nat) (m : FullTM α) (h : FullTM.build n = some m) : m.CacheOk := by
  unfold FullTM.build at h
  split at h
  · cases h
  · cases h; exact cacheOk_of_flags _ rfl rfl

end Bpp.Hmm
