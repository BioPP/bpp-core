import BppModel.Text.StrLite
/-! What the search primitives of `BppModel/Text/StrLite.lean` return.  In the namespace `Glob`: `find` /
`rfind` return the leftmost / rightmost index at which the pattern is a prefix of the rest
(`find_some`, `find_none`, `rfind_some`, `rfind_none`), an occurrence that reaches the end is a suffix,
`findFrom` is `find` on the rest.  In the namespace `Keyval`: searching past a prefix that does not
contain the first character of the pattern (`find_append`, `find_single`), `findChar` /
`findLastChar` on a text with or without the character. -/
namespace Bpp.Text.Glob
open Bpp.Text

theorem isPrefix_iff {g s : Str} : isPrefix g s = true ↔ ∃ t, s = g ++ t := by
  induction g generalizing s with
  | nil => simp [isPrefix]
  | cons a g ih =>
    cases s with
    | nil => simp [isPrefix]
    | cons b s =>
      simp only [isPrefix, Bool.and_eq_true, beq_iff_eq, ih, List.cons_append, List.cons.injEq]
      constructor
      · rintro ⟨rfl, t, rfl⟩; exact ⟨t, rfl, rfl⟩
      · rintro ⟨t, rfl, rfl⟩; exact ⟨rfl, t, rfl⟩

theorem isPrefix_length {g s : Str} (h : isPrefix g s = true) : g.length ≤ s.length := by
  obtain ⟨t, rfl⟩ := isPrefix_iff.mp h; simp

theorem isPrefix_drop {g s : Str} (h : isPrefix g s = true) : s = g ++ s.drop g.length := by
  obtain ⟨t, rfl⟩ := isPrefix_iff.mp h; simp

theorem find_zero_iff {g s : Str} : find g s = some 0 ↔ isPrefix g s = true := by
  cases s with
  | nil => cases g <;> simp [find, isPrefix]
  | cons c s =>
    simp only [find]
    by_cases h : isPrefix g (c :: s) = true
    · simp [h]
    · simp only [h, Bool.false_eq_true, if_false, iff_false]
      cases find g s <;> simp

/-- the result is the leftmost occurrence -/
theorem find_some {g s : Str} {k : Nat} (h : find g s = some k) :
    isPrefix g (s.drop k) = true ∧ k ≤ s.length ∧ ∀ j, j < k → isPrefix g (s.drop j) = false := by
  induction s generalizing k with
  | nil =>
    rw [find] at h
    split at h
    · rename_i hg
      obtain rfl := Option.some.inj h
      cases g with
      | nil => exact ⟨rfl, Nat.le_refl _, fun j hj => absurd hj (Nat.not_lt_zero j)⟩
      | cons _ _ => cases hg
    · cases h
  | cons c s ih =>
    rw [find] at h
    split at h
    · rename_i hp
      obtain rfl := Option.some.inj h
      exact ⟨hp, Nat.zero_le _, fun j hj => absurd hj (Nat.not_lt_zero j)⟩
    · rename_i hp
      obtain ⟨k', hf, rfl⟩ := Option.map_eq_some_iff.mp h
      obtain ⟨h1, h2, h3⟩ := ih hf
      refine ⟨h1, Nat.succ_le_succ h2, fun j hj => ?_⟩
      cases j with
      | zero => exact Bool.eq_false_iff.mpr hp
      | succ j => exact h3 j (Nat.lt_of_succ_lt_succ hj)

/-- no result: no occurrence -/
theorem find_none {g s : Str} (h : find g s = none) :
    ∀ j, j ≤ s.length → isPrefix g (s.drop j) = false := by
  induction s with
  | nil =>
    intro j hj
    obtain rfl : j = 0 := Nat.le_zero.mp hj
    cases g with
    | nil => cases h
    | cons _ _ => rfl
  | cons c s ih =>
    rw [find] at h
    split at h
    · cases h
    · rename_i hp
      intro j hj
      cases j with
      | zero => exact Bool.eq_false_iff.mpr hp
      | succ j => exact ih (Option.map_eq_none_iff.mp h) j (Nat.le_of_succ_le_succ hj)

theorem find_none_of_rfind {g s : Str} (h : rfind g s = none) : find g s = none := by
  induction s with
  | nil => exact h
  | cons c s ih =>
    rw [rfind] at h
    cases hr : rfind g s with
    | some k => rw [hr] at h; cases h
    | none =>
      rw [hr] at h
      rw [find, ih hr]
      cases hp : isPrefix g (c :: s) with
      | false => rfl
      | true => rw [hp] at h; cases h

theorem rfind_none {g s : Str} (h : rfind g s = none) :
    ∀ j, j ≤ s.length → isPrefix g (s.drop j) = false :=
  find_none (find_none_of_rfind h)

/-- the result is the rightmost occurrence -/
theorem rfind_some {g s : Str} {k : Nat} (h : rfind g s = some k) :
    isPrefix g (s.drop k) = true ∧ k ≤ s.length ∧
      ∀ j, k < j → j ≤ s.length → isPrefix g (s.drop j) = false := by
  induction s generalizing k with
  | nil =>
    rw [rfind] at h
    split at h
    · rename_i hg
      obtain rfl := Option.some.inj h
      cases g with
      | nil => exact ⟨rfl, Nat.le_refl _, fun j hj hj2 => absurd hj2 (Nat.not_le.mpr hj)⟩
      | cons _ _ => cases hg
    · cases h
  | cons c s ih =>
    rw [rfind] at h
    cases hf : rfind g s with
    | some k' =>
      rw [hf] at h
      obtain rfl := Option.some.inj h
      obtain ⟨h1, h2, h3⟩ := ih hf
      refine ⟨h1, Nat.succ_le_succ h2, fun j hj hj2 => ?_⟩
      cases j with
      | zero => exact absurd hj (Nat.not_lt_zero _)
      | succ j => exact h3 j (Nat.lt_of_succ_lt_succ hj) (Nat.le_of_succ_le_succ hj2)
    | none =>
      rw [hf] at h
      cases hp : isPrefix g (c :: s) with
      | false => rw [hp] at h; cases h
      | true =>
        rw [hp] at h
        obtain rfl := Option.some.inj h
        refine ⟨hp, Nat.zero_le _, fun j hj hj2 => ?_⟩
        cases j with
        | zero => exact absurd hj (Nat.lt_irrefl 0)
        | succ j => exact rfind_none hf j (Nat.le_of_succ_le_succ hj2)

/-- a suffix is an occurrence -/
theorem occ_of_suffix {g t : Str} : isPrefix g ((t ++ g).drop t.length) = true := by
  rw [List.drop_left]; exact isPrefix_iff.mpr ⟨[], (List.append_nil g).symm⟩

/-- an occurrence that reaches the end of the text is a suffix -/
theorem suffix_of_occ {g s : Str} {k : Nat} (h : isPrefix g (s.drop k) = true) (hk : s.length ≤ k + g.length) :
    g <:+ s := by
  have e := isPrefix_drop h
  have e2 : (s.drop k).drop g.length = [] := List.drop_eq_nil_of_le (by rw [List.length_drop]; omega)
  rw [e2, List.append_nil] at e
  exact e ▸ List.drop_suffix k s

theorem findFrom_eq {g s : Str} {pos : Nat} (h : pos ≤ s.length) :
    findFrom g s pos = (find g (s.drop pos)).map (· + pos) := by
  simp [findFrom, h]

end Bpp.Text.Glob

namespace Bpp.Text.Keyval
open Bpp.Text

/-- a prefix without the first character of the pattern only shifts the first occurrence -/
theorem find_append {a : Char} (pat p x : Str) (hp : ∀ c ∈ p, c ≠ a) :
    find (a :: pat) (p ++ x) = (find (a :: pat) x).map (· + p.length) := by
  induction p with
  | nil => rw [List.nil_append]; cases find (a :: pat) x <;> rfl
  | cons c p ih =>
    rw [List.cons_append, find, isPrefix, beq_false_of_ne (hp c (List.mem_cons_self ..)).symm, Bool.false_and,
      if_neg Bool.false_ne_true, ih fun y hy => hp y (List.mem_cons_of_mem _ hy)]
    cases find (a :: pat) x <;> rfl

theorem find_single (c : Char) (k v : Str) (hk : ∀ a ∈ k, a ≠ c) :
    find [c] (k ++ c :: v) = some k.length := by
  rw [find_append [] k _ hk, find, isPrefix, beq_self_eq_true]
  exact congrArg some (Nat.zero_add _)

theorem findChar_append (c : Char) (s t : Str) (hs : ∀ a ∈ s, a ≠ c) :
    findChar c (s ++ c :: t) = some s.length := by
  induction s with
  | nil => simp [findChar]
  | cons a s ih =>
    have ha : (a == c) = false := by simpa using hs a (List.mem_cons_self ..)
    simp only [List.cons_append, findChar, ha, Bool.false_eq_true, if_false]
    rw [ih (fun x hx => hs x (List.mem_cons_of_mem _ hx))]; simp

theorem findLastChar_snoc (c : Char) (s : Str) : findLastChar c (s ++ [c]) = some s.length := by
  induction s with
  | nil => simp [findLastChar]
  | cons a s ih => simp [findLastChar, ih]

theorem findChar_none (c : Char) (s : Str) (h : ∀ a ∈ s, a ≠ c) : findChar c s = none := by
  induction s with
  | nil => rfl
  | cons a t ih =>
    have : (a == c) = false := by simpa using h a (List.mem_cons_self ..)
    simp [findChar, this, ih (fun x hx => h x (List.mem_cons_of_mem _ hx))]

theorem findLastChar_none (c : Char) (s : Str) (h : ∀ a ∈ s, a ≠ c) : findLastChar c s = none := by
  induction s with
  | nil => rfl
  | cons a t ih =>
    have : (a == c) = false := by simpa using h a (List.mem_cons_self ..)
    simp [findLastChar, this, ih (fun x hx => h x (List.mem_cons_of_mem _ hx))]

end Bpp.Text.Keyval
