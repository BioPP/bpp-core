import BppProofs.Lemmas.AliasFrame
import BppProofs.Lemmas.AliasViewOps
import BppProofs.Lemmas.AliasRefuse
/-! `checkStep` as `check_sound` goes through it (C03): small facts about `viewOf`, the shape of `checkStep` clause by clause,
and its clauses after the value updates and after the bulk form proved of the model (those after alias / unalias /
setNamespace: `Lemmas/AliasViewOps.lean`). -/
namespace Bpp.Alias
open Bpp.ParamList (Bnd Con Par Store ObjId nameOf find? hasParameter names startsWith)

theorem viewOf_get (w : World) {j : Nat} (hj : j < NSLOT) : (viewOf w).get j = (w.objs j).map (svOf w) := by
  simp [viewOf, View.get, List.getElem?_map, List.getElem?_range hj]

/-- the observable invariant, on a whole view (the `invB` of `checkStep`) -/
def invB (v : View) : Bool := (List.range NSLOT).all (fun k => match v.get k with | some s => s.inv | none => true)

theorem invB_viewOf {w : World} (h : Inv w) (hok : HeapOk w) : invB (viewOf w) = true := by
  simp only [invB, List.all_eq_true, List.mem_range]
  intro k hk
  rw [viewOf_get w hk]
  cases ho : w.objs k with
  | none => rfl
  | some o => exact inv_view h hok ho

theorem frameOk_viewOf {w W : World} {k : Nat}
    (hfr : ∀ j, j ≠ k → (W.objs j).map (svOf W) = (w.objs j).map (svOf w)) : frameOk [k] (viewOf w) (viewOf W) = true := by
  simp only [frameOk, List.all_eq_true, List.mem_range, Bool.or_eq_true, List.contains_iff_mem, List.mem_singleton, beq_iff_eq]
  intro j hj
  by_cases hjk : j = k
  · exact Or.inl hjk
  · right; rw [viewOf_get w hj, viewOf_get W hj, hfr j hjk]

/-- the tail of `checkStep` after a value update -/
theorem upd_clause {sb sa : SV} {out : Out} {tr : Bool} (hs : sameShape sb sa = true)
    (ht : out.isErr = false → tr = true → tracksOk sb sa = true) :
    (if (!sameShape sb sa) = true then some "update_shape"
      else if out.isErr = true then none
      else if (tr && !tracksOk sb sa) = true then some "alias_tracks" else none) = none := by
  simp only [hs, Bool.not_true, Bool.false_eq_true, if_false]
  cases he : out.isErr
  · cases htr : tr
    · simp
    · simp [ht he htr]
  · simp

/-- `checkStep` past its common clauses: when the call returned (no hang, no undefined behaviour), the other
slots are untouched and the observable invariant holds afterwards, what is left is the clause `t` of the
operation -/
theorem checkStep_common {b a : View} {op : Op} {out : Out} (h1 : out ≠ .err .hang) (h2 : out ≠ .err .ub)
    (h3 : frameOk [op.slot] b a = true) (h4 : invB a = true) {t : Option String} (ht : t = none) :
    (if out == .err .hang then some "terminates"
      else if out == .err .ub then some "no_ub"
      else if !frameOk [op.slot] b a then some "frame"
      else if invB b && op.wellFormed b && !invB a then some "inv"
      else if !invB b then none
      else t) = none := by
  rw [if_neg (by rwa [beq_iff_eq]), if_neg (by rwa [beq_iff_eq]), h3, h4, ht]
  cases invB b <;> cases op.wellFormed b <;> rfl

/-- the tail of `checkStep` after `aliasParameters(p1, p2)` -/
theorem alias_clause {sb sa : SV} {e : Option Err} {p1 p2 : String} (hmust : mustRefuse p1 p2 sb = true → e ≠ none)
    (hwrong : e = some .notfound ∨ e = some .bpp → mustRefuse p1 p2 sb = true) (hsame : e ≠ none → sa = sb)
    (hok : e = none → aliasOk p1 p2 sb sa = true) :
    (if mustRefuse p1 p2 sb = true then
        (if (!(Out.ofErr e).isErr) = true then some "refuse" else if (sb != sa) = true then some "refuse_unchanged" else none)
      else if (Out.ofErr e == .err .notfound || Out.ofErr e == .err .bpp) = true then some "alias_refused_wrongly"
      else if (Out.ofErr e).isErr = true then (if (sb != sa) = true then some "alias_raise_unchanged" else none)
      else if (!aliasOk p1 p2 sb sa) = true then some "alias_effect" else none) = none := by
  cases e with
  | none =>
    cases hm : mustRefuse p1 p2 sb
    · rw [if_neg Bool.false_ne_true, hok rfl]; rfl
    · exact absurd rfl (hmust hm)
  | some x =>
    cases hsame (Option.some_ne_none x)
    cases hm : mustRefuse p1 p2 sb
    · rw [if_neg Bool.false_ne_true]
      cases x
      case notfound => rw [hwrong (Or.inl rfl)] at hm; cases hm
      case bpp => rw [hwrong (Or.inr rfl)] at hm; cases hm
      all_goals simp only [Out.ofErr, Out.isErr, bne_self_eq_false, Bool.false_eq_true, if_false, if_true]; rfl
    · simp only [Out.ofErr, Out.isErr, bne_self_eq_false, Bool.false_eq_true, if_false, if_true, Bool.not_true]

theorem raise_clause {sb sa : SV} {e : Option Err} {ok : Bool} {m1 m2 : String} (hsame : e ≠ none → sa = sb) (hok : e = none → ok = true) :
    (if (Out.ofErr e).isErr = true then (if (sb != sa) = true then some m1 else none)
      else if (!ok) = true then some m2 else none) = none := by
  cases e with
  | none => rw [hok rfl]; rfl
  | some x => cases hsame (Option.some_ne_none x); simp only [Out.ofErr, Out.isErr, bne_self_eq_false, Bool.false_eq_true, if_false, if_true]

theorem ok_clause {e : Option Err} {ok : Bool} {m : String} (hok : e = none → ok = true) :
    (if (Out.ofErr e).isErr = true then none else if (!ok) = true then some m else none) = none := by
  cases e with
  | none => rw [hok rfl]; rfl
  | some x => rfl

/-! ## The clauses after the value updates and after the bulk form (`tracksOk` under `Op.tracked`, `bulkOk`) hold of the model -/

theorem namesIndepOnly_sound {w : World} {k : Nat} {o : Obj} (h : ObjInv w k o) {src : List (String × Rat)}
    (hv : namesIndepOnly (svOf w o) src = true) : NamesIndep w o src := by
  intro e he t hf
  obtain ⟨htm, htn⟩ := ParamList.find?_some hf
  simp only [namesIndepOnly, List.all_eq_true, Bool.or_eq_true, Bool.not_eq_true', List.any_eq_true, beq_iff_eq] at hv
  rcases hv e he with hno | ⟨i, hi, hin⟩
  · exfalso
    have : (svOf w o).params.any (fun p => p.name == e.1) = true := by
      simp only [svOf, List.any_map, List.any_eq_true, Function.comp, beq_iff_eq]
      exact ⟨t, htm, htn⟩
    rw [this] at hno; cases hno
  · simp only [svOf, List.mem_map] at hi
    obtain ⟨j, hj, rfl⟩ := hi
    simp only at hin
    have : j = t := h.name_inj (h.indepSub j hj) htm (hin.trans htn.symm)
    exact this ▸ hj

theorem srcConsistent_sound {w : World} {k : Nat} {o : Obj} (h : ObjInv w k o) (ho : w.objs k = some o)
    {src : List (String × Rat)} (hv : srcConsistent (svOf w o) src = true) : SrcCons w o src := by
  intro s t lk
  obtain ⟨x, y, l, _, _, hs, ht⟩ := (lk_iff h ho).1 lk
  simp only [srcConsistent, List.all_eq_true, beq_iff_eq] at hv
  have := hv (x, y) ((mem_linksOf_iff h).2 l)
  simp only [svOf] at this
  rw [hs, ht]; exact this.symm

/-- **alias_tracks, the clause evaluated on the implementation, for every tracked update**: `tracksOk`
holds of the model after `setParameterValue` (any parameter), after `setParametersValues` /
`matchParametersValues` whose source names independent parameters only, and after
`setAllParametersValues` whose source is consistent with the links -/
theorem tracksOk_updates {w : World} (h : Inv w) {k : Nat} {o : Obj} (ho : w.objs k = some o) :
    (∀ n v, (apSetParameterValue w k n v).err = none →
      tracksOk (svOf w o) (svOf (apSetParameterValue w k n v).w o) = true) ∧
    (∀ src, namesIndepOnly (svOf w o) src = true → (apSetParametersValues w k src).err = none →
      tracksOk (svOf w o) (svOf (apSetParametersValues w k src).w o) = true) ∧
    (∀ src, namesIndepOnly (svOf w o) src = true → (apMatchParametersValues w k src).1.err = none →
      tracksOk (svOf w o) (svOf (apMatchParametersValues w k src).1.w o) = true) ∧
    (∀ src, srcConsistent (svOf w o) src = true → (apSetAllParametersValues w k src).err = none →
      tracksOk (svOf w o) (svOf (apSetAllParametersValues w k src).w o) = true) := by
  have hi := h.obj k o ho
  have key : ∀ {src : List (String × Rat)} {r : WR}, Writes (Named w o.params src) w r →
      namesIndepOnly (svOf w o) src = true → r.err = none → tracksOk (svOf w o) (svOf r.w o) = true := fun hr hn ok =>
    tracksOk_of_tr (hr.tr hi ho (fun _ _ h => h.mem) ok) hi ho
      (fun _ _ lk => lk.not_named hi ho (namesIndepOnly_sound hi hn))
  refine ⟨fun n v ok => tracksOk_setv h ho n v ok, fun src hn ok => ?_, fun src hn ok => ?_, fun src hc ok => ?_⟩
  · simp only [apSetParametersValues, ho] at ok ⊢
    exact key (setParametersValues_writes w o.params src) hn ok
  · simp only [apMatchParametersValues, ho] at ok ⊢
    exact key (matchParametersValues_writes w o.params src) hn ok
  · exact tracksOk_of_tr (tr_setAll hi ho (srcConsistent_sound hi ho hc) ok) hi ho (fun _ _ _ x => x)

theorem bulkAlias_name {w : World} (h : Inv w) (k : Nat) (es : List (String × String)) (ok : (bulkAlias w k es).err = none)
    (j : ObjId) : nameOf (bulkAlias w k es).w.heap j = nameOf w.heap j := by
  cases ho : w.objs k with
  | none => rw [bulkAlias_none ho] at ok; cases ok
  | some o =>
    revert ok
    refine bulkAlias_of h ho es (P := fun r => r.err = none → nameOf r.w.heap j = nameOf w.heap j)
      (fun D W p => ⟨fun _ _ ok => (nomatch ok), fun _ o' _ _ => ?_⟩)
    rw [(syncLinks_writes _ _ _).sameBut.nameOf]
    exact (p.wired h).name j

theorem bulkOk_model {w : World} (h : Inv w) {k : Nat} {o : Obj} (ho : w.objs k = some o) (es : List (String × String))
    (ok : (bulkAlias w k es).err = none) :
    ∃ o', (bulkAlias w k es).w.objs k = some o' ∧ bulkOk es (svOf w o) (svOf (bulkAlias w k es).w o') = true := by
  have hi := h.obj k o ho
  have hI : Inv (bulkAlias w k es).w := inv_step h (.bulk k es) trivial
  by_cases hpre : o.pre = ""
  swap
  · -- under a namespace nothing is claimed
    obtain ⟨o', ho'⟩ := bulkAlias_slot h ho es
    refine ⟨o', ho', ?_⟩
    simp only [bulkOk, Bool.or_eq_true, bne_iff_ne, ne_eq]
    left; exact hpre
  obtain ⟨o', ho', hp, hq, hnew, hold⟩ := bulkAlias_synced h ho hpre es ok
  have hi' := hI.obj k o' ho'
  have hq' : o'.pre = "" := hq.trans hpre
  have hname := bulkAlias_name h k es ok
  refine ⟨o', ho', ?_⟩
  have hval : ∀ (i : ObjId) (x : String), i ∈ o'.params → nameOf (bulkAlias w k es).w.heap i = o'.pre ++ x →
      (svOf (bulkAlias w k es).w o').value? x = some (val (bulkAlias w k es).w i) := by
    intro i x him hn
    rw [value?_svOf, (find?_iff hi'.nodup).2 ⟨him, hn⟩]; rfl
  have hvalb : ∀ (i : ObjId) (x : String), i ∈ o.params → nameOf w.heap i = o.pre ++ x →
      (svOf w o).value? x = some (val w i) := by
    intro i x him hn
    rw [value?_svOf, (find?_iff hi.nodup).2 ⟨him, hn⟩]; rfl
  simp only [bulkOk, Bool.or_eq_true, Bool.and_eq_true, List.all_eq_true, List.contains_iff_mem]
  right
  refine ⟨fun e he => ?_, fun l hl => ?_⟩
  · obtain ⟨s, t, lk, hs, ht, hsy⟩ := hnew e he
    obtain ⟨x, y, l, _, _, hsx, hty⟩ := (lk_iff hi' ho').1 lk
    have hxy := (mem_linksOf_iff hi').2 l
    rw [hname, hs, hq', String.empty_append] at hsx
    rw [hname, ht, hq', String.empty_append] at hty
    subst hsx hty
    refine ⟨hxy, ?_⟩
    simp only [SV.synced]
    rw [hval s _ lk.1 (by rw [hname, hs, hq', String.empty_append]),
      hval t _ (lk.target_mem hi' ho') (by rw [hname, ht, hq', String.empty_append]), hsy]
    simp
  · obtain ⟨x, y⟩ := l
    obtain ⟨s, t, hfs, hft, lk⟩ := ((mem_linksOf_iff hi).1 hl).lk hi ho
    have hs := (ParamList.find?_some hfs).2
    have ht := (ParamList.find?_some hft).2
    obtain ⟨lk', htr⟩ := hold s t lk
    obtain ⟨x', y', l', _, _, hsx, hty⟩ := (lk_iff hi' ho').1 lk'
    have hxy := (mem_linksOf_iff hi').2 l'
    rw [hname, hs, hq] at hsx
    rw [hname, ht, hq] at hty
    have ex := append_left_cancel' hsx
    have ey := append_left_cancel' hty
    subst ex ey
    refine ⟨hxy, ?_⟩
    have hsm' : s ∈ o'.params := lk'.1
    have htm' : t ∈ o'.params := lk'.target_mem hi' ho'
    have hbs := hvalb s x lk.1 hs
    have hbt := hvalb t y (lk.target_mem hi ho) ht
    have has := hval s x hsm' (by rw [hname, hs, hq])
    have hat := hval t y htm' (by rw [hname, ht, hq])
    simp only [SV.synced, hbs, hbt, has, hat, beq_iff_eq, Option.some.injEq,
      Bool.not_eq_true', beq_eq_false_iff_ne, ne_eq]
    by_cases hc : val (bulkAlias w k es).w s = val w s
    · by_cases hsb : val w t = val w s
      · right; rw [htr (Or.inr hsb)]
      · left; exact ⟨hc.symm, fun e => hsb e.symm⟩
    · right; rw [htr (Or.inl hc)]

end Bpp.Alias
