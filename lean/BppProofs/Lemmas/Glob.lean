import BppModel.Text.Glob
import BppProofs.Lemmas.StrLite
/-! The wildcard matcher is the textbook glob (`glob_agrees` in `Props/C17Glob.lean`).  What `find` /
`rfind` return (the leftmost / rightmost occurrence) is in `Lemmas/StrLite.lean`; here first the final
test `rfindEqEnd`, then `globMatch` on patterns of the forms `*p`, `a :: p` and `g ++ q` with `g` free
of `*`.  The proof in three steps: cutting the pattern at its runs of `*` does not change what it
matches (`globMatch_tokens`); on the pieces, looking each one up leftmost and asking the last to be a
suffix (`starLoop`) decides the glob, because an occurrence further right leaves less of the name to
the rest of the pattern (`starLoop_eq_glob` through `globMatch_star_mono`); the index loop of the code
with its final test computes `starLoop` on what is left of the name (`tailOk_eq_starLoop`). -/
namespace Bpp.Text.Glob
open Bpp.Text

/-- `name.rfind(g) == name.length() - g.length()` says "`g` is a suffix", except for the
wrap-around when `g` is exactly one longer than the name -/
theorem rfindEqEnd_iff {g s : Str} :
    rfindEqEnd g s = true ↔ (g <:+ s ∨ g.length = s.length + 1) := by
  unfold rfindEqEnd
  cases hf : rfind g s with
  | some k =>
    obtain ⟨h1, h2, h3⟩ := rfind_some hf
    have hl := isPrefix_length h1
    rw [List.length_drop] at hl
    rw [decide_eq_true_eq]
    constructor
    · exact fun hk => Or.inl (suffix_of_occ h1 (by omega))
    · rintro (⟨t, rfl⟩ | hq)
      · -- the occurrence as a suffix is not to the right of the last one
        rw [List.length_append] at hl h2 ⊢
        have : ¬ k < t.length := fun hlt => Bool.false_ne_true
          ((h3 t.length hlt (by rw [List.length_append]; omega)).symm.trans occ_of_suffix)
        omega
      · omega
  | none =>
    rw [decide_eq_true_eq]
    constructor
    · exact Or.inr
    · rintro (⟨t, rfl⟩ | hq)
      · cases (rfind_none hf t.length (by rw [List.length_append]; omega)).symm.trans occ_of_suffix
      · exact hq

/-! ### textbook glob -/

def NoStar (g : Str) : Prop := ∀ c ∈ g, c ≠ '*'

theorem globMatch_nil (n : Str) : globMatch [] n = true ↔ n = [] := by
  cases n <;> simp [globMatch]

/-- `*` followed by `p` matches `n` iff `p` matches some suffix of `n` -/
theorem globMatch_star {p n : Str} :
    globMatch ('*' :: p) n = true ↔ ∃ k, k ≤ n.length ∧ globMatch p (n.drop k) = true := by
  induction n with
  | nil =>
    rw [globMatch]
    simp
  | cons c n ih =>
    rw [globMatch]
    simp only [beq_self_eq_true, if_true, Bool.or_eq_true, ih]
    constructor
    · rintro (h | ⟨k, hk, h⟩)
      · exact ⟨0, by simp, h⟩
      · exact ⟨k + 1, by simp; omega, by simpa using h⟩
    · rintro ⟨k, hk, h⟩
      cases k with
      | zero => left; simpa using h
      | succ k => right; exact ⟨k, by simpa using hk, by simpa using h⟩

/-- dropping a prefix of the text cannot help a pattern that starts with `*` -/
theorem globMatch_star_mono {p n : Str} (d : Nat) (h : globMatch ('*' :: p) (n.drop d) = true) :
    globMatch ('*' :: p) n = true := by
  obtain ⟨k, hk, h⟩ := globMatch_star.mp h
  rw [List.drop_drop] at h
  by_cases hd : d ≤ n.length
  · exact globMatch_star.mpr ⟨d + k, by simp at hk; omega, h⟩
  · have : n.drop d = [] := List.drop_eq_nil_of_le (by omega)
    refine globMatch_star.mpr ⟨n.length, Nat.le_refl _, ?_⟩
    have h2 : n.drop (d + k) = [] := List.drop_eq_nil_of_le (by omega)
    rw [h2] at h; simpa using h

theorem globMatch_star_congr {p q : Str} (h : ∀ m, globMatch p m = globMatch q m) (n : Str) :
    globMatch ('*' :: p) n = globMatch ('*' :: q) n := by
  rw [Bool.eq_iff_iff, globMatch_star, globMatch_star]
  simp only [h]

theorem globMatch_star_star (p n : Str) :
    globMatch ('*' :: '*' :: p) n = globMatch ('*' :: p) n := by
  rw [Bool.eq_iff_iff]
  constructor
  · intro h
    obtain ⟨k, _, h⟩ := globMatch_star.mp h
    exact globMatch_star_mono k h
  · intro h
    exact globMatch_star.mpr ⟨0, by omega, by simpa using h⟩

theorem globMatch_cons_ne {a : Char} (ha : a ≠ '*') (p n : Str) :
    globMatch (a :: p) n = true ↔ ∃ t, n = a :: t ∧ globMatch p t = true := by
  have ha' : (a == '*') = false := by simpa using ha
  cases n with
  | nil => rw [globMatch]; simp [ha']
  | cons c n =>
    rw [globMatch]
    simp only [ha', Bool.false_eq_true, if_false, Bool.and_eq_true, beq_iff_eq, List.cons.injEq]
    constructor
    · rintro ⟨rfl, h⟩; exact ⟨n, ⟨rfl, rfl⟩, h⟩
    · rintro ⟨t, ⟨rfl, rfl⟩, h⟩; exact ⟨rfl, h⟩

/-- a star-free piece matches itself as a prefix, the rest of the pattern the rest of the text -/
theorem globMatch_append {g : Str} (hg : NoStar g) (q n : Str) :
    globMatch (g ++ q) n = true ↔ ∃ t, n = g ++ t ∧ globMatch q t = true := by
  induction g generalizing n with
  | nil => simp
  | cons a g ih =>
    have ha : a ≠ '*' := hg a (List.mem_cons_self ..)
    have hg' : NoStar g := fun c hc => hg c (List.mem_cons_of_mem _ hc)
    rw [List.cons_append, globMatch_cons_ne ha]
    constructor
    · rintro ⟨t, rfl, h⟩
      obtain ⟨u, rfl, hu⟩ := (ih hg' t).mp h
      exact ⟨u, rfl, hu⟩
    · rintro ⟨u, rfl, hu⟩
      exact ⟨g ++ u, rfl, (ih hg' _).mpr ⟨u, rfl, hu⟩⟩

theorem globMatch_noStar {g : Str} (hg : NoStar g) (n : Str) : globMatch g n = true ↔ n = g := by
  have := globMatch_append hg [] n
  rw [List.append_nil] at this
  rw [this]
  constructor
  · rintro ⟨t, rfl, h⟩; rw [(globMatch_nil t).mp h]; simp
  · rintro rfl; exact ⟨[], by simp, by simp [globMatch]⟩

/-- `*g` (last piece) matches exactly the texts that end with `g` -/
theorem globMatch_star_last {g : Str} (hg : NoStar g) (m : Str) :
    globMatch ('*' :: g) m = true ↔ g <:+ m := by
  rw [globMatch_star]
  constructor
  · rintro ⟨k, _, h⟩
    rw [globMatch_noStar hg] at h
    exact ⟨m.take k, by rw [← h]; exact List.take_append_drop k m⟩
  · rintro ⟨t, rfl⟩
    exact ⟨t.length, by simp, by rw [List.drop_left, globMatch_noStar hg]⟩

/-! ### the pattern rebuilt from its tokens -/

/-- `*t1*t2…*tk` -/
def stars : List Str → Str
  | [] => []
  | t :: ts => '*' :: (t ++ stars ts)

/-- `g*t1*…*tk` -/
def untok (g : Str) (ts : List Str) : Str := g ++ stars ts

theorem starTokens_ne_nil (b : Bool) (p : Str) : starTokens b p ≠ [] := by
  induction p generalizing b with
  | nil => simp [starTokens]
  | cons c rest ih =>
    simp only [starTokens]
    split
    · split
      · exact ih true
      · simp
    · split <;> simp

/-- cutting at runs of `*` does not change what the pattern matches; `skip = true` is the state
"just after a `*`". -/
theorem globMatch_tokens (p : Str) :
    (∀ g ts, starTokens false p = g :: ts → ∀ n, globMatch p n = globMatch (untok g ts) n) ∧
    (∀ g ts, starTokens true p = g :: ts → ∀ n, globMatch ('*' :: p) n = globMatch ('*' :: untok g ts) n) := by
  induction p with
  | nil =>
    constructor
    · intro g ts h n; simp [starTokens] at h; rcases h with ⟨rfl, rfl⟩; simp [untok, stars]
    · intro g ts h n; simp [starTokens] at h; rcases h with ⟨rfl, rfl⟩; simp [untok, stars]
  | cons c rest ih =>
    by_cases hc : c = '*'
    · subst hc
      constructor
      · intro g ts h n
        simp only [starTokens, beq_self_eq_true, if_true, Bool.false_eq_true, if_false, List.cons.injEq] at h
        rcases h with ⟨rfl, hts⟩
        cases ts with
        | nil => exact absurd hts (starTokens_ne_nil true rest)
        | cons g' ts' =>
          have := ih.2 g' ts' hts n
          simpa [untok, stars] using this
      · intro g ts h n
        simp only [starTokens, beq_self_eq_true, if_true] at h
        rw [globMatch_star_star]
        exact ih.2 g ts h n
    · have hc' : (c == '*') = false := by simpa using hc
      have key : ∀ g ts, starTokens false (c :: rest) = g :: ts →
          ∃ t, g = c :: t ∧ starTokens false rest = t :: ts := by
        intro g ts h
        simp only [starTokens, hc', Bool.false_eq_true, if_false] at h
        cases hr : starTokens false rest with
        | nil => exact absurd hr (starTokens_ne_nil false rest)
        | cons t ts' =>
          rw [hr] at h; simp at h
          exact ⟨t, h.1.symm, by rw [h.2]⟩
      have first : ∀ g ts, starTokens false (c :: rest) = g :: ts →
          ∀ n, globMatch (c :: rest) n = globMatch (untok g ts) n := by
        intro g ts h n
        obtain ⟨t, rfl, ht⟩ := key g ts h
        rw [Bool.eq_iff_iff]
        show _ ↔ globMatch (c :: untok t ts) n = true
        rw [globMatch_cons_ne hc, globMatch_cons_ne hc]
        simp only [ih.1 t ts ht]
      constructor
      · exact first
      · intro g ts h n
        have h' : starTokens false (c :: rest) = g :: ts := by
          simp only [starTokens, hc', Bool.false_eq_true, if_false] at h ⊢; exact h
        exact globMatch_star_congr (first g ts h') n

theorem starTokens_noStar (b : Bool) (p : Str) : ∀ t ∈ starTokens b p, NoStar t := by
  induction p generalizing b with
  | nil => intro t ht; simp [starTokens] at ht; subst ht; intro c hc; simp at hc
  | cons c rest ih =>
    intro t ht
    simp only [starTokens] at ht
    split at ht
    · split at ht
      · exact ih true t ht
      · rcases List.mem_cons.mp ht with rfl | h
        · intro c hc; simp at hc
        · exact ih true t h
    · rename_i hc
      have hc' : c ≠ '*' := by simpa using hc
      split at ht
      · rename_i t0 ts hr
        rcases List.mem_cons.mp ht with rfl | h
        · intro d hd
          rcases List.mem_cons.mp hd with rfl | hd
          · exact hc'
          · exact ih false t0 (by rw [hr]; exact List.mem_cons_self ..) d hd
        · exact ih false t (by rw [hr]; exact List.mem_cons_of_mem _ h)
      · simp at ht; subst ht
        intro d hd; simp at hd; subst hd; exact hc'

/-! ### the greedy loop on suffixes -/

/-- the loop of the matcher, on the not-yet-consumed suffix of the name, with the final test folded
in: every piece but the last is looked up leftmost, the last must be a suffix -/
def starLoop : Str → List Str → Bool
  | _, [] => true
  | m, [g] => decide (g <:+ m)
  | m, g :: t :: ts =>
    match find g m with
    | none => false
    | some k => starLoop (m.drop (k + g.length)) (t :: ts)

theorem stars_cons_cons (g t : Str) (ts : List Str) :
    stars (g :: t :: ts) = '*' :: (g ++ ('*' :: (t ++ stars ts))) := rfl

/-- greedy leftmost matching is complete for `*`-only patterns -/
theorem starLoop_eq_glob (ts : List Str) (hne : ts ≠ []) (hts : ∀ t ∈ ts, NoStar t) (m : Str) :
    starLoop m ts = globMatch (stars ts) m := by
  induction ts generalizing m with
  | nil => exact absurd rfl hne
  | cons g ts ih =>
    have hg : NoStar g := hts g (List.mem_cons_self ..)
    cases ts with
    | nil =>
      rw [Bool.eq_iff_iff]
      simp only [starLoop, stars, List.append_nil, decide_eq_true_eq]
      exact (globMatch_star_last hg m).symm
    | cons t ts' =>
      have ih' := ih (by simp) (fun x hx => hts x (List.mem_cons_of_mem _ hx))
      rw [Bool.eq_iff_iff, stars_cons_cons, globMatch_star]
      simp only [starLoop]
      constructor
      · intro h
        cases hf : find g m with
        | none => simp [hf] at h
        | some k0 =>
          simp only [hf] at h
          obtain ⟨h1, h2, _⟩ := find_some hf
          refine ⟨k0, h2, (globMatch_append hg _ _).mpr ⟨(m.drop k0).drop g.length, isPrefix_drop h1, ?_⟩⟩
          rw [List.drop_drop]
          have e := ih' (m.drop (k0 + g.length))
          rw [h] at e
          exact e.symm
      · rintro ⟨k, hk, h⟩
        obtain ⟨u, hu, hm⟩ := (globMatch_append hg _ _).mp h
        have hocc : isPrefix g (m.drop k) = true := isPrefix_iff.mpr ⟨u, hu⟩
        cases hf : find g m with
        | none => have := find_none hf k hk; rw [this] at hocc; cases hocc
        | some k0 =>
          simp only
          obtain ⟨h1, h2, h3⟩ := find_some hf
          have hle : k0 ≤ k := by
            by_cases hlt : k < k0
            · have := h3 k hlt; rw [this] at hocc; cases hocc
            · omega
          rw [ih']
          -- u = drop (k + |g|) m = drop (k - k0) (drop (k0 + |g|) m)
          have hu' : u = (m.drop (k0 + g.length)).drop (k - k0) := by
            have : u = (m.drop k).drop g.length := by rw [hu]; simp
            rw [this, List.drop_drop, List.drop_drop]; congr 1; omega
          rw [hu'] at hm
          exact globMatch_star_mono (k - k0) hm

/-! ### the index-based loop of the code computes `starLoop` -/

def tailOk (name : Str) (pos1 : Nat) (g : Str) (ts : List Str) : Bool :=
  match matchLoop name pos1 g ts with
  | none => false
  | some (p, gl) => finalTest name p gl

theorem tailOk_nil (name : Str) (pos1 : Nat) (g : Str) : tailOk name pos1 g [] = finalTest name pos1 g := by
  simp [tailOk, matchLoop]

theorem tailOk_cons (name : Str) (pos1 : Nat) (g g' : Str) (ts : List Str) :
    tailOk name pos1 g (g' :: ts) =
      match findFrom g' name pos1 with
      | none => false
      | some pos2 => tailOk name (pos2 + g'.length) g' ts := by
  unfold tailOk
  rw [matchLoop]
  cases findFrom g' name pos1 <;> simp

/-- the last piece: its leftmost occurrence from `pos` on passes the final test exactly when the
piece ends the rest of the name -/
theorem lastPiece (name g : Str) (pos : Nat) (hpos : pos ≤ name.length) :
    (match findFrom g name pos with
      | none => false
      | some pos2 => finalTest name (pos2 + g.length) g) = decide (g <:+ name.drop pos) := by
  rw [findFrom_eq hpos]
  have hm : name.drop pos <:+ name := List.drop_suffix pos name
  have hlen : (name.drop pos).length = name.length - pos := List.length_drop
  generalize name.drop pos = m at hm hlen
  cases hf : find g m with
  | none =>
    refine (decide_eq_false fun ⟨t, ht⟩ => ?_).symm
    subst ht
    cases (find_none hf t.length (by rw [List.length_append]; exact Nat.le_add_right ..)).symm.trans occ_of_suffix
  | some k =>
    obtain ⟨h1, h2, _⟩ := find_some hf
    have hl := isPrefix_length h1
    rw [List.length_drop] at hl
    rw [Option.map_some, Bool.eq_iff_iff, decide_eq_true_eq]
    show finalTest name (k + pos + g.length) g = true ↔ _
    simp only [finalTest, Bool.or_eq_true, beq_iff_eq, rfindEqEnd_iff]
    constructor
    · rintro ((h0 | hend) | (hsuf | hq))
      · rw [List.eq_nil_of_length_eq_zero h0]; exact List.nil_suffix
      · exact suffix_of_occ h1 (by omega)
      · exact List.suffix_of_suffix_length_le hsuf hm (by omega)
      · omega
    · exact fun hsuf => Or.inr (Or.inl (hsuf.trans hm))

theorem tailOk_eq_starLoop (name : Str) (ts : List Str) (hne : ts ≠ []) (pos1 : Nat) (g : Str)
    (hpos : pos1 ≤ name.length) : tailOk name pos1 g ts = starLoop (name.drop pos1) ts := by
  induction ts generalizing pos1 g with
  | nil => exact absurd rfl hne
  | cons g' ts ih =>
    rw [tailOk_cons]
    cases ts with
    | nil => simp only [tailOk_nil]; exact lastPiece name g' pos1 hpos
    | cons t ts' =>
      simp only [starLoop, findFrom_eq hpos]
      cases hf : find g' (name.drop pos1) with
      | none => rfl
      | some k =>
        obtain ⟨h1, h2, _⟩ := find_some hf
        have hl := isPrefix_length h1
        simp only [List.length_drop] at hl h2
        show tailOk name (k + pos1 + g'.length) g' (t :: ts')
          = starLoop ((name.drop pos1).drop (k + g'.length)) (t :: ts')
        rw [ih (by simp) (k + pos1 + g'.length) g' (by omega), List.drop_drop]
        congr 2; omega

/-- the repaired matcher on the tokens of its pattern: the first piece is a prefix of the name (all of
it when there is no other piece), the others are matched by the loop on what is left -/
theorem matcher_untok (p n g : Str) (ts : List Str) (h : starTokens false p = g :: ts)
    (hns : ∀ t ∈ g :: ts, NoStar t) : matcher p n = globMatch (untok g ts) n := by
  have hg : NoStar g := hns g (List.mem_cons_self ..)
  have hfind : (find g n != some 0) = !isPrefix g n := by
    cases hp : isPrefix g n
    · exact (bne_iff_ne.mpr fun hh => Bool.false_ne_true (hp.symm.trans (find_zero_iff.mp hh)))
    · rw [find_zero_iff.mpr hp]; rfl
  unfold matcher untok
  rw [h]
  simp only [hfind]
  cases ts with
  | nil =>
    rw [Bool.eq_iff_iff, stars, List.append_nil, globMatch_noStar hg]
    by_cases hn : n = g
    · subst hn
      have hp : isPrefix n n = true := isPrefix_iff.mpr ⟨[], (List.append_nil n).symm⟩
      simp [hp, matchLoop, finalTest]
    · simp [hn]
  | cons t ts' =>
    have hsl : ∀ m, globMatch (stars (t :: ts')) m = starLoop m (t :: ts') := fun m =>
      (starLoop_eq_glob _ (List.cons_ne_nil _ _) (fun x hx => hns x (List.mem_cons_of_mem _ hx)) m).symm
    rw [Bool.eq_iff_iff, globMatch_append hg]
    simp only [hsl]
    cases hp : isPrefix g n
    · simp only [Bool.not_false, if_true, Bool.false_eq_true, false_iff]
      rintro ⟨u, rfl, _⟩
      exact Bool.false_ne_true (hp.symm.trans (isPrefix_iff.mpr ⟨u, rfl⟩))
    · simp only [Bool.not_true, Bool.false_eq_true, if_false, List.isEmpty_cons, Bool.false_and]
      show tailOk n g.length g (t :: ts') = true ↔ _
      rw [tailOk_eq_starLoop n (t :: ts') (List.cons_ne_nil _ _) g.length g (isPrefix_length hp)]
      constructor
      · exact fun hm => ⟨n.drop g.length, isPrefix_drop hp, hm⟩
      · rintro ⟨u, rfl, hm⟩
        rwa [List.drop_left]

end Bpp.Text.Glob
