import BppProofs.Lemmas.ParamListExt
import BppModel.ParamListListen
/-! The listener-aware routines of `BppModel/ParamListListen.lean` where no listener is involved: a write to an object
without listeners is `Parameter::setValue` (`propagate_single`), so with an empty table the setters are those of
`BppModel/ParamList.lean`, and cloning objects without listeners adds none (C02). -/
namespace Bpp.ParamList

/-- an object without listeners: `setValue` with listeners does what `Parameter::setValue` does -/
theorem propagate_single (m : Mirrors) (fuel : Nat) (h : Store) (i : ObjId) (v : Rat)
    (nt : targets m i = []) : propagate m (fuel + 1) h [i] v =
      some (match (h.get i).setValue v with
        | .ok p => (h.put i p, none)
        | .error e => (h, some e)) := by
  unfold propagate Par.setValue
  by_cases c1 : v = (h.get i).value
  · simp only [c1, if_true]
    cases fuel <;> simp [propagate, put_get_self]
  · simp only [c1, if_false]
    by_cases c2 : (h.get i).rejects v = true
    · simp [c2]
    · simp only [c2, nt, List.nil_append]
      cases fuel <;> simp [propagate]

theorem targets_nil (i : ObjId) : targets [] i = [] := rfl

theorem setParameterValueL_plain (m : Mirrors) (h : Store) (l : List ObjId) (n : String) (v : Rat)
    (nt : ∀ i, find? h l n = some i → targets m i = []) :
    setParameterValueL m h l n v =
      some ((setParameterValue h l n v).heap, (setParameterValue h l n v).err) := by
  unfold setParameterValueL setParameterValue
  cases e : find? h l n with
  | none => rfl
  | some i =>
    simp only [fuelFor]
    rw [propagate_single m _ h i v (nt i e)]
    cases (h.get i).setValue v <;> rfl

theorem applySomeL_nil (l : List ObjId) (src : List ObjId) (h : Store) :
    applySomeL [] l h src = some ((applySome h l src).heap, (applySome h l src).err) := by
  induction src generalizing h with
  | nil => rfl
  | cons s rest ih =>
    unfold applySomeL applySome
    cases e : find? h l (nameOf h s) with
    | none => exact ih h
    | some t =>
      simp only [fuelFor]
      rw [propagate_single [] _ h t _ (targets_nil t)]
      cases e2 : (h.get t).setValue (h.get s).value with
      | ok p => exact ih _
      | error x => rfl

theorem setParametersValuesL_nil (h : Store) (l src : List ObjId) :
    setParametersValuesL [] h l src =
      some ((setParametersValues h l src).heap, (setParametersValues h l src).err) := by
  unfold setParametersValuesL setParametersValues
  cases checkSome h l src with
  | some e => rfl
  | none => exact applySomeL_nil l src h

theorem cloneMirrors_nil_of (m : Mirrors) (srcs : List ObjId) (base : Nat)
    (nt : ∀ i ∈ srcs, targets m i = []) : cloneMirrors m srcs base = [] := by
  unfold cloneMirrors
  rw [List.flatMap_eq_nil_iff]
  intro p hp
  have : p.1 ∈ srcs := (List.mem_zipIdx' hp).2 ▸ List.getElem_mem _
  simp [nt p.1 this]

end Bpp.ParamList
