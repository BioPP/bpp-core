import BppProofs.Lemmas.DiscretizeEqInt
import BppProofs.Lemmas.DiscretizeCompound
import Mathlib.Data.Finset.Card
import Mathlib.Data.Finset.Image
import Mathlib.Order.Interval.Finset.Nat
/-!
C09: the loops that separate equal class values terminate
(`AbstractDiscreteDistribution::insertClass_`, `SimpleDiscreteDistribution::fireParameterChanged`).

Every turn that does not succeed has a candidate `v ± j·step` that is equivalent to a key of the
map, i.e. within the precision of it.  The step is at least the precision, so one key is within
the precision of at most three candidates on each side: after `6·size` failing turns every key is
used up (pigeonhole).
-/
namespace Bpp.Discretize
open Bpp

/-- a found key is within the precision of the searched value -/
theorem find?_isSome_near (prec c : ℝ) (m : TMap ℝ) (h : (TMap.find? prec c m).isSome = true) :
    ∃ e ∈ m, |c - e.1| ≤ prec := by
  induction m with
  | nil => simp [TMap.find?] at h
  | cons e t ih =>
    simp only [TMap.find?] at h
    by_cases h1 : TMap.lt prec e.1 c = true
    · simp only [h1, if_true] at h
      obtain ⟨x, hx, hn⟩ := ih h
      exact ⟨x, by simp [hx], hn⟩
    · simp only [h1] at h
      by_cases h2 : TMap.lt prec c e.1 = true
      · simp [h2] at h
      · refine ⟨e, by simp, ?_⟩
        have a1 : ¬ e.1 < c - prec := by simpa [TMap.lt_iff] using h1
        have a2 : ¬ c < e.1 - prec := by simpa [TMap.lt_iff] using h2
        rw [abs_le]; constructor <;> linarith

/-- turn `j` of a separation loop is blocked: one of its candidates `v ± j·step` is within the
precision of a key -/
def Blocked (prec step v : ℝ) (m : TMap ℝ) (j : ℤ) : Prop :=
  ∃ e ∈ m, |v + (j : ℝ) * step - e.1| ≤ prec ∨ |v - (j : ℝ) * step - e.1| ≤ prec

theorem blocked_of_found {prec step v : ℝ} {m : TMap ℝ} {j : ℤ} (σ : ℤ) (hσ : σ = 1 ∨ σ = -1)
    (h : (TMap.find? prec (v + Scalar.ofInt (σ * j) * step) m).isSome = true) : Blocked prec step v m j := by
  obtain ⟨e, he, hn⟩ := find?_isSome_near prec _ m h
  refine ⟨e, he, ?_⟩
  rcases hσ with rfl | rfl
  · left; simpa [ScalarReal.ofInt_eq] using hn
  · right
    rw [ScalarReal.ofInt_eq, show (((-1 : ℤ) * j : ℤ) : ℝ) * step = -((j : ℝ) * step) by push_cast; ring] at hn
    exact hn

/-- a loop over the turns `j, j + 1, …` (with some further state) that gives up only after a blocked
turn has had `fuel` blocked turns when it returns nothing -/
theorem blocked_of_none {σ : Type} (loop : Nat → ℤ → σ → Option ℝ) (B : ℤ → Prop) (ok : σ → Prop)
    (h : ∀ fuel j x, ok x → loop (fuel + 1) j x = none → B j ∧ ∃ x', ok x' ∧ loop fuel (j + 1) x' = none)
    (fuel : Nat) (j : ℤ) (x : σ) (hx : ok x) (hn : loop fuel j x = none) : ∀ i : ℕ, i < fuel → B (j + i) := by
  induction fuel generalizing j x with
  | zero => intro i hi; omega
  | succ n ih =>
    obtain ⟨hb, x', hx', hn'⟩ := h n j x hx hn
    intro i hi
    cases i with
    | zero => simpa using hb
    | succ k =>
      have := ih (j + 1) x' hx' hn' k (by omega)
      rwa [show j + 1 + (k : ℤ) = j + ((k + 1 : ℕ) : ℤ) by push_cast; ring] at this

/-- naturals that are pairwise at most 2 apart are at most 3 -/
theorem card_le_three_of_close (A : Finset ℕ) (h : ∀ x ∈ A, ∀ y ∈ A, x ≤ y + 2) : A.card ≤ 3 := by
  by_cases hne : A.Nonempty
  · have hsub : A ⊆ Finset.Icc (A.min' hne) (A.min' hne + 2) := by
      intro x hx
      rw [Finset.mem_Icc]
      exact ⟨Finset.min'_le A x hx, h x hx _ (Finset.min'_mem A hne)⟩
    calc A.card ≤ (Finset.Icc (A.min' hne) (A.min' hne + 2)).card := Finset.card_le_card hsub
      _ = 3 := by rw [Nat.card_Icc]; omega
  · rw [Finset.not_nonempty_iff_eq_empty] at hne; simp [hne]

/-- candidates `v + σ·(c + i)·step` (σ = ±1 fixed) within the precision of one key: at most three `i` -/
theorem near_fiber (prec step v c k σ : ℝ) (hσ : σ = 1 ∨ σ = -1) (hstep : 0 < step) (hps : prec ≤ step) (N : ℕ) :
    ((Finset.range N).filter (fun i : ℕ => |v + σ * (c + (i : ℝ)) * step - k| ≤ prec)).card ≤ 3 := by
  apply card_le_three_of_close
  intro x hx y hy
  simp only [Finset.mem_filter] at hx hy
  have hx' := abs_le.1 hx.2
  have hy' := abs_le.1 hy.2
  by_contra hlt
  have hxy : (3 : ℝ) ≤ (x : ℝ) - y := by
    have : y + 3 ≤ x := by omega
    rw [le_sub_iff_add_le']; exact_mod_cast this
  have := mul_le_mul_of_nonneg_right hxy hstep.le
  rcases hσ with rfl | rfl <;> linarith [hx'.1, hx'.2, hy'.1, hy'.2]

/-- **pigeonhole**: `N` consecutive blocked turns need `N ≤ 6·|m|` -/
theorem blocked_turns_bound (prec step v : ℝ) (j : ℤ) (m : TMap ℝ) (hstep : 0 < step) (hps : prec ≤ step) (N : ℕ)
    (h : ∀ i : ℕ, i < N → Blocked prec step v m (j + i)) : N ≤ 6 * m.length := by
  classical
  simp only [Blocked, Int.cast_add, Int.cast_natCast] at h
  generalize (j : ℝ) = c at h
  -- the key used by turn `i`
  let key : ℕ → ℝ := fun i => if hi : i < N then (Classical.choose (h i hi)).1 else 0
  have hkey : ∀ i (hi : i < N), key i ∈ (m.map (·.1)) ∧
      (|v + (c + (i : ℝ)) * step - key i| ≤ prec ∨ |v - (c + (i : ℝ)) * step - key i| ≤ prec) := by
    intro i hi
    have := Classical.choose_spec (h i hi)
    simp only [key, hi, dif_pos]
    exact ⟨List.mem_map.2 ⟨_, this.1, rfl⟩, this.2⟩
  have himg : ((Finset.range N).image key) ⊆ (m.map (·.1)).toFinset := by
    intro a ha
    obtain ⟨i, hi, rfl⟩ := Finset.mem_image.1 ha
    exact List.mem_toFinset.2 (hkey i (Finset.mem_range.1 hi)).1
  have hcard : ((Finset.range N).image key).card ≤ m.length := by
    calc ((Finset.range N).image key).card ≤ (m.map (·.1)).toFinset.card := Finset.card_le_card himg
      _ ≤ (m.map (·.1)).length := List.toFinset_card_le _
      _ = m.length := by simp
  have hfib : ∀ a ∈ (Finset.range N).image key, ((Finset.range N).filter (fun i => key i = a)).card ≤ 6 := by
    intro a _
    have hsub : (Finset.range N).filter (fun i => key i = a) ⊆
        ((Finset.range N).filter (fun i : ℕ => |v + 1 * (c + (i : ℝ)) * step - a| ≤ prec)) ∪
        ((Finset.range N).filter (fun i : ℕ => |v + (-1) * (c + (i : ℝ)) * step - a| ≤ prec)) := by
      intro i hi
      simp only [Finset.mem_filter] at hi
      obtain ⟨hir, hia⟩ := hi
      have := (hkey i (Finset.mem_range.1 hir)).2
      rw [hia] at this
      simp only [Finset.mem_union, Finset.mem_filter]
      rcases this with h1 | h1
      · left; exact ⟨hir, by simpa using h1⟩
      · right; refine ⟨hir, ?_⟩
        have e : v + (-1) * (c + (i : ℝ)) * step - a = v - (c + (i : ℝ)) * step - a := by ring
        rw [e]; exact h1
    calc ((Finset.range N).filter (fun i => key i = a)).card
        ≤ (((Finset.range N).filter (fun i : ℕ => |v + 1 * (c + (i : ℝ)) * step - a| ≤ prec)) ∪
          ((Finset.range N).filter (fun i : ℕ => |v + (-1) * (c + (i : ℝ)) * step - a| ≤ prec))).card := Finset.card_le_card hsub
      _ ≤ _ + _ := Finset.card_union_le _ _
      _ ≤ 3 + 3 := Nat.add_le_add (near_fiber prec step v c a 1 (Or.inl rfl) hstep hps N)
          (near_fiber prec step v c a (-1) (Or.inr rfl) hstep hps N)
  have := Finset.card_le_mul_card_image (Finset.range N) 6 hfib
  rw [Finset.card_range] at this
  calc N ≤ 6 * ((Finset.range N).image key).card := this
    _ ≤ 6 * m.length := Nat.mul_le_mul_left 6 hcard

/-- with a positive step that is at least the precision, the search finds a free position within
`6·size + 1` turns -/
theorem searchFree_some (prec step hi v : ℝ) (m : TMap ℝ) (fuel : Nat) (j f : Int) (hf : f = 1 ∨ f = -1)
    (hstep : 0 < step) (hps : prec ≤ step) (hfuel : 6 * m.length < fuel) :
    ∃ c, searchFree prec step hi v m fuel j f = some c := by
  cases h : searchFree prec step hi v m fuel j f with
  | some c => exact ⟨c, rfl⟩
  | none =>
    -- the further state of the loop is the sign `f`
    have := blocked_turns_bound prec step v j m hstep hps fuel <|
      blocked_of_none (searchFree prec step hi v m) (Blocked prec step v m) (fun f => f = 1 ∨ f = -1)
        (fun fuel j f hf hn => by
          simp only [searchFree] at hn
          split at hn
          · exact ⟨blocked_of_found f hf ‹_›, _, by split <;> simp, hn⟩
          · cases hn) fuel j f hf h
    omega

theorem sepStep_pos (prec v : ℝ) (hp : 0 < prec) : 0 < sepStep prec v ∧ prec ≤ sepStep prec v := by
  rw [sepStep, ScalarReal.max_eq]
  exact ⟨lt_max_of_lt_left hp, le_max_left _ _⟩

theorem insertDistinct_some (prec hi p : ℝ) (m : TMap ℝ) (v : ℝ) (hp : 0 < prec) :
    ∃ m', insertDistinct prec hi p m v = some m' := by
  unfold insertDistinct
  split
  · obtain ⟨h1, h2⟩ := sepStep_pos prec v hp
    have hfl : 6 * m.length < searchFuel m := by unfold searchFuel; omega
    generalize searchFuel m = fuel at hfl ⊢
    obtain ⟨c, hc⟩ := searchFree_some prec (sepStep prec v) hi v m fuel 1
      (if Scalar.geb (v + Constants.TINY) hi = true then -1 else 1) (by split <;> simp) h1 h2 hfl
    refine ⟨TMap.assign prec c p m, ?_⟩
    dsimp only
    rw [hc]; rfl
  · exact ⟨_, rfl⟩

theorem insertPairs_some (prec hi : ℝ) (hp : 0 < prec) (vps : List (ℝ × ℝ)) (m : TMap ℝ) :
    ∃ m', insertPairs prec hi m vps = some m' := by
  induction vps generalizing m with
  | nil => exact ⟨m, rfl⟩
  | cons vp rest ih =>
    obtain ⟨m1, h1⟩ := insertDistinct_some prec hi vp.2 m vp.1 hp
    obtain ⟨m2, h2⟩ := ih m1
    exact ⟨m2, by simp [insertPairs, h1, h2]⟩

theorem store_total (s : DD ℝ) (bs : List ℝ) (vps : List (ℝ × ℝ)) (hp : 0 < s.prec) : ∃ r, store s bs vps = .ok r := by
  obtain ⟨m, hm⟩ := insertPairs_some s.prec s.dom.hi hp vps []
  exact ⟨_, by rw [store, hm]⟩

theorem eqProp_total (par : Parent ℝ) (s : DD ℝ) (hp : 0 < s.prec) : ∃ s', eqProp par s = .ok s' :=
  eqProp_eq par s ▸ store_total s _ _ hp

theorem eqInt_total (par : Parent ℝ) (s : DD ℝ) (hp : 0 < s.prec) : ∃ s', eqInt par s = .ok s' :=
  eqInt_eq par s ▸ store_total s _ _ hp

theorem simple_findFree_some (prec step lo hi v : ℝ) (m : TMap ℝ) (fuel : Nat) (j : Int)
    (hstep : 0 < step) (hps : prec ≤ step) (hfuel : 6 * m.length < fuel) :
    ∃ c, SimpleSt.findFree prec step lo hi v m fuel j = some c := by
  cases h : SimpleSt.findFree prec step lo hi v m fuel j with
  | some c => exact ⟨c, rfl⟩
  | none =>
    have := blocked_turns_bound prec step v j m hstep hps fuel <|
      blocked_of_none (fun fuel j (_ : Unit) => SimpleSt.findFree prec step lo hi v m fuel j) (Blocked prec step v m) (fun _ => True)
        (fun fuel j _ _ hn => by
          simp only [SimpleSt.findFree] at hn
          split at hn
          · cases hn
          · rename_i h1
            split at hn
            · cases hn
            · rename_i h2
              refine ⟨?_, (), trivial, hn⟩
              -- one of the two candidates was allowed, hence looked up and found
              have key : ∀ a b c d : Bool, ¬ ((a || (!a && !b)) && c) = true → ¬ ((b || (!a && !b)) && d) = true →
                  c = false ∨ d = false := by decide
              rcases key _ _ _ _ h1 h2 with hf | hf
              · exact blocked_of_found 1 (Or.inl rfl) (by simpa using Option.isNone_eq_false_iff.1 hf)
              · exact blocked_of_found (-1) (Or.inr rfl) (by
                  have := Option.isNone_eq_false_iff.1 hf
                  rwa [show v - Scalar.ofInt j * step = v + Scalar.ofInt (-1 * j) * step by
                    simp only [ScalarReal.ofInt_eq]; push_cast; ring] at this)) fuel j () trivial h
    omega

theorem simple_sepStep_pos (prec v : ℝ) : 0 < SimpleSt.sepStep prec v ∧ prec ≤ SimpleSt.sepStep prec v := by
  have hmin : (0 : ℝ) < SimpleSt.dblMin := by
    rw [SimpleSt.dblMin, ScalarReal.ofRat_eq]; positivity
  have hge : prec ≤ Scalar.max prec (Gen.simpleSepFactor * dblEpsilon * Scalar.abs v) := by
    rw [ScalarReal.max_eq]; exact le_max_left _ _
  unfold SimpleSt.sepStep
  simp only [Scalar.gtb, Bool.not_eq_true', ScalarReal.ltb_false_iff, ScalarReal.zero_eq]
  split
  · rename_i h; exact ⟨hmin, by linarith⟩
  · rename_i h; exact ⟨not_le.1 h, hge⟩

theorem simple_go_some (s : SimpleSt ℝ) (l : List (ℝ × ℝ)) (m : TMap ℝ) :
    ∃ m', SimpleSt.rebuild.go s l m = some m' := by
  induction l generalizing m with
  | nil => exact ⟨m, rfl⟩
  | cons vp rest ih =>
    obtain ⟨v, p⟩ := vp
    rw [rebuild_go_cons]
    by_cases hf : (TMap.find? s.dd.prec v m).isSome = true
    · rw [if_pos hf]
      obtain ⟨h1, h2⟩ := simple_sepStep_pos s.dd.prec v
      have hfl : 6 * m.length < searchFuel m := by unfold searchFuel; omega
      obtain ⟨c, hc⟩ := simple_findFree_some s.dd.prec (SimpleSt.sepStep s.dd.prec v) s.dd.dom.lo s.dd.dom.hi v m (searchFuel m) 1
        h1 h2 hfl
      rw [hc]
      exact ih _
    · rw [if_neg hf]
      exact ih _

end Bpp.Discretize
