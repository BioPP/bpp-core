import BppModel.Tree
import BppProofs.Lemmas.GraphLoops
import BppProofs.Lemmas.PTree
/-
Rows of a consistent graph as relations: `Arc g a b` (the node table lists `b` among the outgoing
neighbours of `a`), the neighbour lists of the tree queries, and what it means for a graph to be the
rooted tree `P` (`Matches`).
-/
namespace Bpp.Graph
open AL

/-- the node table lists `b` among the outgoing neighbours of `a` -/
def Arc (g : G) (a b : Nat) : Prop := (g.outE a b).isSome = true

instance (g : G) (a b : Nat) : Decidable (Arc g a b) := by unfold Arc; infer_instance

theorem arc_of_out {g : G} {a b e : Nat} (h : g.outE a b = some e) : Arc g a b := by unfold Arc; rw [h]; rfl

theorem out_of_arc {g : G} {a b : Nat} (h : Arc g a b) : ∃ e, g.outE a b = some e := Option.isSome_iff_exists.1 h

namespace G

theorem outNeighbors_eq (g : G) (n : Nat) : g.outNeighbors n = if g.hasNode n then some (g.outKeys n) else none := by
  unfold outNeighbors rowOf RowQ.outNeighbors outKeys hasNode has
  rcases find_cases n g.nodes with hf | ⟨r, hf⟩ <;> simp [hf]

theorem inNeighbors_eq (g : G) (n : Nat) : g.inNeighbors n = if g.hasNode n then some (g.inKeys n) else none := by
  unfold inNeighbors rowOf RowQ.inNeighbors inKeys hasNode has
  rcases find_cases n g.nodes with hf | ⟨r, hf⟩ <;> simp [hf]

theorem outNeighbors_some {g : G} {n : Nat} {l : List Nat} (h : g.outNeighbors n = some l) :
    g.hasNode n = true ∧ l = g.outKeys n := by
  rw [outNeighbors_eq] at h
  by_cases hn : g.hasNode n = true
  · simp [hn] at h; exact ⟨hn, h.symm⟩
  · simp [hn] at h

theorem inNeighbors_some {g : G} {n : Nat} {l : List Nat} (h : g.inNeighbors n = some l) :
    g.hasNode n = true ∧ l = g.inKeys n := by
  rw [inNeighbors_eq] at h
  by_cases hn : g.hasNode n = true
  · simp [hn] at h; exact ⟨hn, h.symm⟩
  · simp [hn] at h

theorem outNeighbors_none {g : G} {n : Nat} (h : g.outNeighbors n = none) : g.hasNode n = false := by
  rw [outNeighbors_eq] at h
  by_cases hn : g.hasNode n = true
  · simp [hn] at h
  · simpa using hn

theorem outNeighbors_of_hasNode {g : G} {n : Nat} (h : g.hasNode n = true) : g.outNeighbors n = some (g.outKeys n) := by
  rw [outNeighbors_eq]; simp [h]

theorem inNeighbors_of_hasNode {g : G} {n : Nat} (h : g.hasNode n = true) : g.inNeighbors n = some (g.inKeys n) := by
  rw [inNeighbors_eq]; simp [h]

theorem mem_outNeighbors {g : G} {n : Nat} {l : List Nat} (h : g.outNeighbors n = some l) (b : Nat) : b ∈ l ↔ Arc g n b := by
  rw [(outNeighbors_some h).2]; exact mem_outKeys

theorem nodup_of_asc {l : List Nat} (h : List.Pairwise (· < ·) l) : l.Nodup :=
  List.Pairwise.imp (fun hab => Nat.ne_of_lt hab) h

theorem outNeighbors_nodup {g : G} (hs : Sorted g) {n : Nat} {l : List Nat} (h : g.outNeighbors n = some l) : l.Nodup := by
  rw [(outNeighbors_some h).2]; exact nodup_of_asc (asc_outKeys hs n)

theorem inNeighbors_nodup {g : G} (hs : Sorted g) {n : Nat} {l : List Nat} (h : g.inNeighbors n = some l) : l.Nodup := by
  rw [(inNeighbors_some h).2]; exact nodup_of_asc (asc_inKeys hs n)

/-- in a consistent graph the incoming entries mirror the outgoing ones -/
theorem inE_iff_arc {g : G} (hc : Consistent g) (a b : Nat) : (g.inE b a).isSome = true ↔ Arc g a b := by
  constructor
  · intro h
    cases ho : g.outE a b with
    | some e => exact arc_of_out ho
    | none => rw [(cons_absent hc ho).1] at h; cases h
  · intro h
    obtain ⟨e, ho⟩ := out_of_arc h
    rw [(cons_out_some hc ho).1]; rfl

theorem mem_inNeighbors {g : G} (hc : Consistent g) {n : Nat} {l : List Nat} (h : g.inNeighbors n = some l) (a : Nat) :
    a ∈ l ↔ Arc g a n := by
  rw [(inNeighbors_some h).2, mem_inKeys]; exact inE_iff_arc hc a n

theorem arc_nodes {g : G} (hc : Consistent g) {a b : Nat} (h : Arc g a b) : g.hasNode a = true ∧ g.hasNode b = true := by
  obtain ⟨e, ho⟩ := out_of_arc h
  exact ⟨outE_some_hasNode ho, inE_some_hasNode (cons_out_some hc ho).1⟩

theorem arc_symm {g : G} (hc : Consistent g) (hd : g.directed = false) {a b : Nat} (h : Arc g a b) : Arc g b a := by
  obtain ⟨e, ho⟩ := out_of_arc h
  exact arc_of_out ((cons_out_some hc ho).2.2 hd).1

theorem mem_keys_hasNode (g : G) (n : Nat) : n ∈ AL.keys g.nodes ↔ g.hasNode n = true := by
  rw [mem_keys_iff]; rfl

/-- in a consistent directed graph the edge table lists an outgoing entry under its own end points -/
theorem find_of_out {g : G} (hc : Consistent g) (hd : g.directed = true) {a b e : Nat} (ho : g.outE a b = some e) :
    find e g.edges = some (a, b) :=
  (hc.views.out_edge a b e ho).elim id (fun h => by rw [hd] at h; cases h.1)

/-- the entries of the edge table of a consistent directed graph are the outgoing entries of the node table -/
theorem mem_edges_iff_out {g : G} (hc : Consistent g) (hd : g.directed = true) (e a b : Nat) :
    (e, (a, b)) ∈ g.edges ↔ g.outE a b = some e := by
  rw [mem_iff_find hc.sorted.edges]
  exact ⟨fun hf => (hc.views.edge_listed e a b hf).1, find_of_out hc hd⟩

end G

/-- the graph is the rooted tree `P`: same nodes, and the node table lists `b` under `a` exactly for
father `a` and son `b` (both ways round when the graph is undirected) -/
structure Matches (g : G) (P : PTree) : Prop where
  nodes : ∀ n, n ∈ P.nodes ↔ g.hasNode n = true
  arc : ∀ a b, Arc g a b ↔ (P.par b = some a ∨ (g.directed = false ∧ P.par a = some b))

namespace T

theorem hasFather_eq (g : G) (n : Nat) : hasFather g n = if g.hasNode n then some (decide ((g.inKeys n).length ≥ 1)) else none := by
  unfold hasFather RowQ.nbIn G.rowOf G.inKeys G.hasNode has
  rcases G.find_cases n g.nodes with hf | ⟨r, hf⟩ <;> simp [hf, AL.keys]

theorem father_eq (g : G) (n : Nat) : father g n = if g.hasNode n then (match g.inKeys n with | [f] => some f | _ => none) else none := by
  unfold father
  rw [G.inNeighbors_eq]
  by_cases hn : g.hasNode n = true
  · simp only [hn, if_true]
    rcases g.inKeys n with _ | ⟨a, _ | ⟨b, l⟩⟩ <;> rfl
  · simp [hn]

end T
end Bpp.Graph
