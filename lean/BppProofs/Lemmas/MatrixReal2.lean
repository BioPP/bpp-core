import BppProofs.Lemmas.MatrixReal
/-! Helper lemmas for C04: `ℝ` identities (diagonal / tridiagonal / complex-diagonal products,
scale, covariance). -/
namespace Bpp.Mx
open Bpp Store

theorem sum_mul_diag (x d : Nat → ℝ) (n k : Nat) (hk : k < n) :
    (∑ l ∈ Finset.range n, x l * Spec.diag d l k) = x k * d k := by
  simp only [Spec.diag, ScalarReal.zero_eq, mul_ite, mul_zero]
  rw [Finset.sum_ite_eq' (Finset.range n) k (fun l => x l * d l)]
  simp [hk]

theorem multD_eq (a b : Nat → Nat → ℝ) (d : Nat → ℝ) (n i j : Nat) :
    (Spec.sumTo n fun k => a i k * b k j * d k) = Spec.mult (Spec.mult a (Spec.diag d) n) b n i j := by
  simp only [Spec.mult, sumTo_eq_sum]
  refine Finset.sum_congr rfl (fun k hk => ?_)
  rw [sum_mul_diag _ _ _ _ (Finset.mem_range.mp hk)]; ring

/-- the three-sum normal form of `A · tridiag(d,u,l) · B` at `(i,j)` -/
noncomputable def triSum (a b : Nat → Nat → ℝ) (d u l : Nat → ℝ) (n i j : Nat) : ℝ :=
  (∑ k ∈ Finset.range n, a i k * d k * b k j) + (∑ k ∈ Finset.range (n - 1), a i k * u k * b (k + 1) j)
    + (∑ k ∈ Finset.range (n - 1), a i (k + 1) * l k * b k j)

theorem triCode_eq_triSum (a b : Nat → Nat → ℝ) (d u l : Nat → ℝ) (n i j : Nat) (hn : 1 ≤ n) :
    triCode a b d u l n i j = triSum a b d u l n i j := by
  unfold triCode triSum
  by_cases h2 : n ≥ 2
  · obtain ⟨m, rfl⟩ : ∃ m, n = m + 2 := ⟨n - 2, by omega⟩
    rw [if_pos h2, accFrom_eq_sum]
    have e1 : m + 2 - 1 = m + 1 := rfl
    have e2 : m + 2 - 2 = m := rfl
    rw [e1, e2]
    rw [Finset.sum_range_succ (fun k => a i k * d k * b k j) (m + 1),
      Finset.sum_range_succ' (fun k => a i k * d k * b k j) m,
      Finset.sum_range_succ' (fun k => a i k * u k * b (k + 1) j) m,
      Finset.sum_range_succ (fun k => a i (k + 1) * l k * b k j) m]
    simp only [mul_add, Finset.sum_add_distrib]
    ring
  · have : n = 1 := by omega
    subst this
    simp

theorem tridiag_split (d u l : Nat → ℝ) (k m : Nat) :
    Spec.tridiag d u l k m = (if k = m then d k else 0) + (if m = k + 1 then u k else 0) + (if k = m + 1 then l m else 0) := by
  simp only [Spec.tridiag, ScalarReal.zero_eq]
  by_cases h1 : k = m
  · subst h1
    simp
  · by_cases h2 : m = k + 1
    · subst h2
      have h3 : ¬ k = k + 1 + 1 := by omega
      simp [h3]
    · by_cases h3 : k = m + 1
      · subst h3; simp [h2]
      · simp [h1, h2, h3]

theorem sum_range_pred (n : Nat) (f : Nat → ℝ) :
    (∑ k ∈ Finset.range n, if k + 1 < n then f k else 0) = ∑ k ∈ Finset.range (n - 1), f k := by
  cases n with
  | zero => simp
  | succ n =>
    rw [Finset.sum_range_succ]
    simp only [Nat.add_sub_cancel, lt_self_iff_false, if_false, add_zero]
    apply Finset.sum_congr rfl
    intro k hk
    have := Finset.mem_range.mp hk
    simp [this]

theorem triSpec_eq_triSum (a b : Nat → Nat → ℝ) (d u l : Nat → ℝ) (n i j : Nat) :
    Spec.mult (Spec.mult a (Spec.tridiag d u l) n) b n i j = triSum a b d u l n i j := by
  unfold triSum
  simp only [Spec.mult, sumTo_eq_sum, tridiag_split, mul_add, add_mul, Finset.sum_add_distrib, Finset.sum_mul]
  congr 1
  · congr 1
    · -- diagonal part
      apply Finset.sum_congr rfl
      intro m hm
      simp only [mul_ite, mul_zero, ite_mul, zero_mul]
      rw [Finset.sum_ite_eq' (Finset.range n) m (fun k => a i k * d k * b m j)]
      simp [hm]
    · -- super-diagonal part: Σ_m Σ_k a_k [m = k+1] u_k b_m
      rw [Finset.sum_comm]
      rw [← sum_range_pred n (fun k => a i k * u k * b (k + 1) j)]
      apply Finset.sum_congr rfl
      intro k hk
      simp only [mul_ite, mul_zero, ite_mul, zero_mul]
      rw [Finset.sum_ite_eq' (Finset.range n) (k + 1) (fun m => a i k * u k * b m j)]
      simp
  · -- sub-diagonal part: Σ_m Σ_k a_k [k = m+1] l_m b_m
    rw [← sum_range_pred n (fun m => a i (m + 1) * l m * b m j)]
    apply Finset.sum_congr rfl
    intro m hm
    simp only [mul_ite, mul_zero, ite_mul, zero_mul]
    rw [Finset.sum_ite_eq' (Finset.range n) (m + 1) (fun k => a i k * l m * b m j)]
    simp

theorem triCode_eq_spec (a b : Nat → Nat → ℝ) (d u l : Nat → ℝ) (n i j : Nat) (hn : 1 ≤ n) :
    triCode a b d u l n i j = Spec.mult (Spec.mult a (Spec.tridiag d u l) n) b n i j := by
  rw [triCode_eq_triSum _ _ _ _ _ _ _ _ hn, triSpec_eq_triSum]

theorem cmulRe_diag (a ia : Nat → Nat → ℝ) (d id : Nat → ℝ) (n i k : Nat) (hk : k < n) :
    Spec.cmulRe a ia (Spec.diag d) (Spec.diag id) n i k = a i k * d k - ia i k * id k := by
  simp only [Spec.cmulRe, sumTo_eq_sum]
  rw [show (∑ l ∈ Finset.range n, (a i l * Spec.diag d l k - ia i l * Spec.diag id l k))
      = (∑ l ∈ Finset.range n, a i l * Spec.diag d l k) - ∑ l ∈ Finset.range n, ia i l * Spec.diag id l k from
    Finset.sum_sub_distrib _ _]
  rw [sum_mul_diag _ _ _ _ hk, sum_mul_diag _ _ _ _ hk]

theorem cmulIm_diag (a ia : Nat → Nat → ℝ) (d id : Nat → ℝ) (n i k : Nat) (hk : k < n) :
    Spec.cmulIm a ia (Spec.diag d) (Spec.diag id) n i k = a i k * id k + ia i k * d k := by
  simp only [Spec.cmulIm, sumTo_eq_sum]
  rw [Finset.sum_add_distrib, sum_mul_diag _ _ _ _ hk, sum_mul_diag _ _ _ _ hk]

theorem multCD_re_eq (a ia b ib : Nat → Nat → ℝ) (d id : Nat → ℝ) (n i j : Nat) :
    (Spec.sumTo n fun k => (a i k * b k j - ia i k * ib k j) * d k - (a i k * ib k j + ia i k * b k j) * id k)
      = Spec.cmulRe (Spec.cmulRe a ia (Spec.diag d) (Spec.diag id) n) (Spec.cmulIm a ia (Spec.diag d) (Spec.diag id) n) b ib n i j := by
  rw [sumTo_eq_sum]
  simp only [Spec.cmulRe.eq_1 (Spec.cmulRe a ia (Spec.diag d) (Spec.diag id) n), sumTo_eq_sum]
  apply Finset.sum_congr rfl
  intro k hk
  rw [cmulRe_diag _ _ _ _ _ _ _ (Finset.mem_range.mp hk), cmulIm_diag _ _ _ _ _ _ _ (Finset.mem_range.mp hk)]
  ring

theorem multCD_im_eq (a ia b ib : Nat → Nat → ℝ) (d id : Nat → ℝ) (n i j : Nat) :
    (Spec.sumTo n fun k => (a i k * b k j - ia i k * ib k j) * id k + (a i k * ib k j + ia i k * b k j) * d k)
      = Spec.cmulIm (Spec.cmulRe a ia (Spec.diag d) (Spec.diag id) n) (Spec.cmulIm a ia (Spec.diag d) (Spec.diag id) n) b ib n i j := by
  rw [sumTo_eq_sum]
  simp only [Spec.cmulIm.eq_1 (Spec.cmulRe a ia (Spec.diag d) (Spec.diag id) n), sumTo_eq_sum]
  apply Finset.sum_congr rfl
  intro k hk
  rw [cmulRe_diag _ _ _ _ _ _ _ (Finset.mem_range.mp hk), cmulIm_diag _ _ _ _ _ _ _ (Finset.mem_range.mp hk)]
  ring

/-- `scale` at `ℝ`: the shortcut `a == 1 && b == 0` agrees with the general formula -/
theorem scale_holds_real_is {A : Store ℝ} {kA : Kind} {r c : Nat} {f : Nat → Nat → ℝ} (hA : LUS.Is A kA r c f) (a b : ℝ) :
    ∃ A', scale A a b = .ok A' ∧ A'.kind = A.kind ∧ A'.Holds r c (Spec.scale f a b) := by
  obtain ⟨A', e, k, h⟩ := scale_holds_is hA a b
  refine ⟨A', e, k, h.congr ?_⟩
  intro i j _ _
  split
  · next hc =>
    simp only [Bool.and_eq_true, ScalarReal.eqb_iff, ScalarReal.one_eq, ScalarReal.zero_eq] at hc
    simp [Spec.scale, hc.1, hc.2]
  · rfl

theorem Store.Holds.dims_of_pos {S : Store ℝ} {r c : Nat} {g : Nat → Nat → ℝ} (h : S.Holds r c g) (hr : 0 < r) (hc : 0 < c) :
    S.nrows = r ∧ S.ncols = c := h.dims_pos hr hc

/-- `covar` of a sample matrix with at least one row and one column -/
theorem covar_holds {A : Store ℝ} (hA : A.WF) (hr : 0 < A.nrows) (hn : 0 < A.ncols) (O : Store ℝ) :
    ∃ O', covar A O = .ok O' ∧ O'.kind = O.kind ∧ O'.Holds A.nrows A.nrows (Spec.covar A.entry A.ncols) := by
  unfold covar
  simp only
  have iA := LUS.Is.self hA
  obtain ⟨tA, e1, _, h1⟩ := transpose_holds_is iA (Store.empty .row : Store ℝ)
  obtain ⟨O1, e2, k2, h2⟩ := mult_holds_is iA (h1.is (by omega)) (O.resize A.nrows A.nrows)
  obtain ⟨O2, e3, k3, h3⟩ := scale_holds_real_is (h2.is Iff.rfl) (Scalar.one / Scalar.ofInt (A.ncols : Int)) Scalar.zero
  obtain ⟨mean, e4, _, h4⟩ := fill_resize_holds (Store.empty .row : Store ℝ) (r := A.nrows) (c := 1)
    (f := meanAt A)
    (g := fun i _ => Spec.rowMean A.entry A.ncols i)
    (fun i j hi _ => by
      unfold meanAt
      rw [dot_ok (t := fun j => A.entry i j) (fun j hj => get_eq_entry hA hi hj)]; rfl)
  have iM := h4.is (by omega)
  obtain ⟨tMean, e5, _, h5⟩ := transpose_holds_is iM (Store.empty .row : Store ℝ)
  obtain ⟨meanMat, e6, _, h6⟩ := mult_holds_is iM (h5.is (by omega)) (Store.empty .row : Store ℝ)
  obtain ⟨mm, e7, _, h7⟩ := scale_holds_real_is (h6.is Iff.rfl) (Scalar.ofInt (-1)) Scalar.zero
  obtain ⟨O', e8, k8, h8⟩ := add_holds_is (h3.is Iff.rfl) (h7.is Iff.rfl)
  -- `O'` holds `(1/n)·(A·Aᵀ) + (-1)·(μ·μᵀ)` as composed from the `Spec` functions
  refine ⟨O', by simp only [e1, e2, e3, e4, e5, e6, e7, e8], by rw [k8, k3, k2, resize_kind], h8.congr fun i l _ _ => ?_⟩
  simp only [Spec.add, Spec.scale, Spec.mult, Spec.transpose, Spec.covar, sumTo_eq_sum, Finset.sum_range_one,
    ScalarReal.zero_eq, add_zero]

end Bpp.Mx
