import BppProofs.Lemmas.MatrixLoops
/-! Helper lemmas for C04: what each routine of `BppModel/Matrix.lean` returns (any scalar). -/
namespace Bpp.Mx
open Bpp Store

section Ops
variable {α : Type}

/-- a cascade of conformability tests raises as soon as one of them fails -/
theorem ite_error {β : Type} {c : Prop} [Decidable c] {e : Err} {x : Res β} (h : c ∨ x = .error e) :
    (if c then .error e else x) = .error e := by
  by_cases hc : c
  · rw [if_pos hc]
  · rw [if_neg hc]; exact h.resolve_left hc

theorem sameDims_iff (X Y : Store α) : sameDims X Y = true ↔ X.nrows = Y.nrows ∧ X.ncols = Y.ncols := by
  simp [sameDims]

theorem not_sameDims {X Y : Store α} (h : ¬ (X.nrows = Y.nrows ∧ X.ncols = Y.ncols)) : (!sameDims X Y) = true := by
  rw [Bool.not_eq_true', Bool.eq_false_iff]; exact fun e => h ((sameDims_iff X Y).1 e)

variable [Scalar α]
attribute [local instance 1100] Scalar.toMul Scalar.toSub Scalar.toAdd

theorem prodAt_ok {A B : Store α} (hA : A.WF) (hB : B.WF) {i j k : Nat} (hi : i < A.nrows) (hk : k < A.ncols)
    (hk' : k < B.nrows) (hj : j < B.ncols) : prodAt A B i j k = .ok (A.entry i k * B.entry k j) := by
  simp [prodAt, get_eq_entry hA hi hk, get_eq_entry hB hk' hj]

theorem zipAt_ok (f : α → α → α) {A B : Store α} (hA : A.WF) (hB : B.WF) {i j : Nat} (hi : i < A.nrows) (hj : j < A.ncols)
    (hi' : i < B.nrows) (hj' : j < B.ncols) : zipAt f A B i j = .ok (f (A.entry i j) (B.entry i j)) := by
  simp [zipAt, get_eq_entry hA hi hj, get_eq_entry hB hi' hj']

/-! The routines whose results are handed on to further routines are stated for operands given by what they are
(`LUS.Is`: any class, dimensions `r × c`, entries `a`): the result is a function of `a`.  The statement for a well-formed
`A` and its own entries is the case `LUS.Is.self hA`. -/

theorem copy_holds_is {A : Store α} {kA : Kind} {r c : Nat} {a : Nat → Nat → α} (hA : LUS.Is A kA r c a) (O : Store α) :
    ∃ O', copy A O = .ok O' ∧ O'.kind = O.kind ∧ O'.Holds r c a := by
  obtain ⟨_, _, rfl, rfl, ga⟩ := hA
  exact fill_resize_holds O ga

theorem copy_holds {A : Store α} (hA : A.WF) (O : Store α) :
    ∃ O', copy A O = .ok O' ∧ O'.kind = O.kind ∧ O'.Holds A.nrows A.ncols A.entry := copy_holds_is (LUS.Is.self hA) O

theorem transpose_holds_is {A : Store α} {kA : Kind} {r c : Nat} {a : Nat → Nat → α} (hA : LUS.Is A kA r c a) (O : Store α) :
    ∃ O', transpose A O = .ok O' ∧ O'.kind = O.kind ∧ O'.Holds c r (Spec.transpose a) := by
  obtain ⟨_, _, rfl, rfl, ga⟩ := hA
  exact fill_resize_holds O (fun i j hi hj => ga j i hj hi)

theorem transpose_holds {A : Store α} (hA : A.WF) (O : Store α) :
    ∃ O', transpose A O = .ok O' ∧ O'.kind = O.kind ∧ O'.Holds A.ncols A.nrows (Spec.transpose A.entry) :=
  transpose_holds_is (LUS.Is.self hA) O

theorem getId_holds (n : Nat) (O : Store α) :
    ∃ O', getId n O = .ok O' ∧ O'.kind = O.kind ∧ O'.Holds n n Spec.identity :=
  fill_resize_holds O (fun _ _ _ _ => rfl)

theorem diagS_holds (x : α) (n : Nat) (O : Store α) :
    ∃ O', diagS x n O = .ok O' ∧ O'.kind = O.kind ∧ O'.Holds n n (Spec.diag fun _ => x) :=
  fill_resize_holds O (fun _ _ _ _ => rfl)

theorem diagV_holds (D : Array α) (O : Store α) :
    ∃ O', diagV D O = .ok O' ∧ O'.kind = O.kind ∧ O'.Holds D.size D.size (Spec.diag fun i => D.getD i Scalar.zero) :=
  fill_resize_holds O (fun i j hi _ => by
    simp only [Spec.diag]
    split
    · simp [vget_ok hi]
    · rfl)

theorem mult_holds_is {A B : Store α} {kA kB : Kind} {r n c : Nat} {a b : Nat → Nat → α}
    (hA : LUS.Is A kA r n a) (hB : LUS.Is B kB n c b) (O : Store α) :
    ∃ O', mult A B O = .ok O' ∧ O'.kind = O.kind ∧ O'.Holds r c (Spec.mult a b n) := by
  obtain ⟨_, _, rfl, rfl, ga⟩ := hA
  obtain ⟨_, _, hn, rfl, gb⟩ := hB
  unfold mult
  rw [if_neg (by simpa using hn.symm)]
  exact fill_resize_holds O (fun i j hi hj => dot_ok (fun k hk => by simp only [prodAt, ga i k hi hk, gb k j hk hj]))

theorem mult_holds {A B : Store α} (hA : A.WF) (hB : B.WF) (O : Store α) (h : A.ncols = B.nrows) :
    ∃ O', mult A B O = .ok O' ∧ O'.kind = O.kind ∧
      O'.Holds A.nrows B.ncols (Spec.mult A.entry B.entry A.ncols) :=
  mult_holds_is (LUS.Is.self hA) (by rw [h]; exact LUS.Is.self hB) O

theorem mult_nonconformable {A B : Store α} (O : Store α) (h : A.ncols ≠ B.nrows) :
    mult A B O = .error .dimension := by
  unfold mult; rw [if_pos h]

theorem add_holds_is {A B : Store α} {kA kB : Kind} {r c : Nat} {a b : Nat → Nat → α}
    (hA : LUS.Is A kA r c a) (hB : LUS.Is B kB r c b) :
    ∃ A', add A B = .ok A' ∧ A'.kind = A.kind ∧ A'.Holds r c (Spec.add a b) := by
  obtain ⟨wA, _, rfl, rfl, ga⟩ := hA
  obtain ⟨_, _, hr, hc, gb⟩ := hB
  unfold add
  rw [if_neg (by simpa using hc.symm), if_neg (by simpa using hr.symm)]
  exact fill_holds wA (dims_shape_self A) (fun i j hi hj => by simp only [zipAt, ga i j hi hj, gb i j hi hj]; rfl)

theorem add_holds {A B : Store α} (hA : A.WF) (hB : B.WF) (hr : A.nrows = B.nrows) (hc : A.ncols = B.ncols) :
    ∃ A', add A B = .ok A' ∧ A'.kind = A.kind ∧ A'.Holds A.nrows A.ncols (Spec.add A.entry B.entry) :=
  add_holds_is (LUS.Is.self hA) (by rw [hr, hc]; exact LUS.Is.self hB)

theorem add_nonconformable {A B : Store α} (h : A.nrows ≠ B.nrows ∨ A.ncols ≠ B.ncols) :
    add A B = .error .dimension := by
  unfold add
  exact ite_error (h.symm.imp_right fun h => ite_error (Or.inl h))

theorem addS_holds {A B : Store α} (hA : A.WF) (hB : B.WF) (x : α) (hr : A.nrows = B.nrows) (hc : A.ncols = B.ncols) :
    ∃ A', addS A x B = .ok A' ∧ A'.kind = A.kind ∧ A'.Holds A.nrows A.ncols (Spec.addS A.entry x B.entry) := by
  unfold addS
  rw [if_neg (by simpa using hc), if_neg (by simpa using hr)]
  exact fill_holds hA (dims_shape_self A) (fun i j hi hj => zipAt_ok _ hA hB hi hj (hr ▸ hi) (hc ▸ hj))

theorem addS_nonconformable {A B : Store α} (x : α) (h : A.nrows ≠ B.nrows ∨ A.ncols ≠ B.ncols) :
    addS A x B = .error .dimension := by
  unfold addS
  exact ite_error (h.symm.imp_right fun h => ite_error (Or.inl h))

/-- `scale`: either the shortcut (`a == 1 && b == 0`: the matrix is returned untouched) or every
entry becomes `a * x + b` -/
theorem scale_holds_is {A : Store α} {kA : Kind} {r c : Nat} {f : Nat → Nat → α} (hA : LUS.Is A kA r c f) (a b : α) :
    ∃ A', scale A a b = .ok A' ∧ A'.kind = A.kind ∧
      A'.Holds r c (if Scalar.eqb a Scalar.one && Scalar.eqb b Scalar.zero then f else Spec.scale f a b) := by
  obtain ⟨wA, _, rfl, rfl, ga⟩ := hA
  unfold scale
  split
  · exact ⟨A, rfl, rfl, wA, dims_shape_self A, ga⟩
  · exact fill_holds wA (dims_shape_self A) (fun i j hi hj => by simp [ga i j hi hj, Spec.scale])

omit [Scalar α] in
theorem fillAll_holds {A : Store α} (hA : A.WF) (x : α) :
    ∃ A', fillAll A x = .ok A' ∧ A'.kind = A.kind ∧ A'.Holds A.nrows A.ncols (fun _ _ => x) :=
  fill_holds hA (dims_shape_self A) (fun _ _ _ _ => rfl)

theorem had_holds {A B : Store α} (hA : A.WF) (hB : B.WF) (O : Store α) (hr : A.nrows = B.nrows) (hc : A.ncols = B.ncols) :
    ∃ O', had A B O = .ok O' ∧ O'.kind = O.kind ∧ O'.Holds A.nrows A.ncols (Spec.had A.entry B.entry) := by
  unfold had
  rw [if_neg (by simpa using hr), if_neg (by simpa using hc)]
  exact fill_resize_holds O (fun i j hi hj => zipAt_ok _ hA hB hi hj (hr ▸ hi) (hc ▸ hj))

theorem had_nonconformable {A B : Store α} (O : Store α) (h : A.nrows ≠ B.nrows ∨ A.ncols ≠ B.ncols) :
    had A B O = .error .dimension := by
  unfold had
  exact ite_error (h.imp_right fun h => ite_error (Or.inl h))

theorem hadV_holds {A : Store α} (hA : A.WF) (v : Array α) (O : Store α) (row : Bool)
    (h : (if row then A.nrows else A.ncols) = v.size) :
    ∃ O', hadV A v O row = .ok O' ∧ O'.kind = O.kind ∧
      O'.Holds A.nrows A.ncols (fun i j => A.entry i j * v.getD (if row then i else j) Scalar.zero) := by
  unfold hadV
  have e1 : (row && A.nrows != v.size) = false := by cases row <;> simp_all
  have e2 : (!row && A.ncols != v.size) = false := by cases row <;> simp_all
  rw [e1, e2]
  refine fill_resize_holds O (fun i j hi hj => ?_)
  have : (if row then i else j) < v.size := by rw [← h]; cases row <;> assumption
  simp [get_eq_entry hA hi hj, vget_ok this, this]

theorem hadV_nonconformable {A : Store α} (v : Array α) (O : Store α) (row : Bool)
    (h : (if row then A.nrows else A.ncols) ≠ v.size) : hadV A v O row = .error .dimension := by
  unfold hadV
  cases row with
  | true => simp only [if_true] at h; simp [h]
  | false => simp only [Bool.false_eq_true, if_false] at h; simp [h]

theorem quad_ok {A iA B iB : Store α} (hA : A.WF) (hiA : iA.WF) (hB : B.WF) (hiB : iB.WF) {i j k : Nat}
    (hi : i < A.nrows) (hk : k < A.ncols) (hi' : i < iA.nrows) (hk' : k < iA.ncols)
    (hkb : k < B.nrows) (hj : j < B.ncols) (hkb' : k < iB.nrows) (hj' : j < iB.ncols) :
    quad A iA B iB i j k = .ok (A.entry i k, iA.entry i k, B.entry k j, iB.entry k j) := by
  simp [quad, get_eq_entry hA hi hk, get_eq_entry hiA hi' hk', get_eq_entry hB hkb hj, get_eq_entry hiB hkb' hj']

theorem quadAt_ok {A iA B iB : Store α} (hA : A.WF) (hiA : iA.WF) (hB : B.WF) (hiB : iB.WF) {i j : Nat}
    (h1 : i < A.nrows) (h2 : j < A.ncols) (h3 : i < iA.nrows) (h4 : j < iA.ncols)
    (h5 : i < B.nrows) (h6 : j < B.ncols) (h7 : i < iB.nrows) (h8 : j < iB.ncols) :
    quadAt A iA B iB i j = .ok (A.entry i j, iA.entry i j, B.entry i j, iB.entry i j) := by
  simp [quadAt, get_eq_entry hA h1 h2, get_eq_entry hiA h3 h4, get_eq_entry hB h5 h6, get_eq_entry hiB h7 h8]

theorem fill_pair_holds (O iO : Store α) {r c : Nat} {f1 f2 : Nat → Nat → Res α} {g1 g2 : Nat → Nat → α}
    (h1 : ∀ i j, i < r → j < c → f1 i j = .ok (g1 i j)) (h2 : ∀ i j, i < r → j < c → f2 i j = .ok (g2 i j)) :
    ∃ O' iO' : Store α, (match fill (O.resize r c) r c f1 with
        | .error e => .error e
        | .ok O1 =>
          match fill (iO.resize r c) r c f2 with
          | .error e => .error e
          | .ok iO1 => .ok (O1, iO1) : Res (Store α × Store α)) = .ok (O', iO') ∧
      O'.kind = O.kind ∧ iO'.kind = iO.kind ∧ O'.Holds r c g1 ∧ iO'.Holds r c g2 := by
  obtain ⟨O', e1, k1, H1⟩ := fill_resize_holds O h1
  obtain ⟨iO', e2, k2, H2⟩ := fill_resize_holds iO h2
  exact ⟨O', iO', by simp only [e1, e2], k1, k2, H1, H2⟩

theorem multC_holds {A iA B iB : Store α} (hA : A.WF) (hiA : iA.WF) (hB : B.WF) (hiB : iB.WF) (O iO : Store α)
    (h : A.ncols = B.nrows) (h1 : iA.nrows = A.nrows ∧ iA.ncols = A.ncols) (h2 : iB.nrows = B.nrows ∧ iB.ncols = B.ncols) :
    ∃ O' iO', multC A iA B iB O iO = .ok (O', iO') ∧ O'.kind = O.kind ∧ iO'.kind = iO.kind ∧
      O'.Holds A.nrows B.ncols (Spec.cmulRe A.entry iA.entry B.entry iB.entry A.ncols) ∧
      iO'.Holds A.nrows B.ncols (Spec.cmulIm A.entry iA.entry B.entry iB.entry A.ncols) := by
  unfold multC
  rw [if_neg (by simpa using h), if_neg (by simp [sameDims_iff, h1]), if_neg (by simp [sameDims_iff, h2])]
  unfold multCBody
  have hq : ∀ i j k, i < A.nrows → j < B.ncols → k < A.ncols →
      quad A iA B iB i j k = .ok (A.entry i k, iA.entry i k, B.entry k j, iB.entry k j) := fun i j k hi hj hk =>
    quad_ok hA hiA hB hiB hi hk (h1.1 ▸ hi) (h1.2 ▸ hk) (h ▸ hk) hj (h2.1 ▸ h ▸ hk) (h2.2 ▸ hj)
  exact fill_pair_holds O iO (fun i j hi hj => dot_ok (fun k hk => by rw [hq i j k hi hj hk]))
    (fun i j hi hj => dot_ok (fun k hk => by rw [hq i j k hi hj hk]))

theorem multC_nonconformable {A iA B iB : Store α} (O iO : Store α)
    (h : A.ncols ≠ B.nrows ∨ ¬ (iA.nrows = A.nrows ∧ iA.ncols = A.ncols) ∨ ¬ (iB.nrows = B.nrows ∧ iB.ncols = B.ncols)) :
    multC A iA B iB O iO = .error .dimension := by
  unfold multC
  exact ite_error (h.imp_right fun h => ite_error (h.imp (not_sameDims) fun h => ite_error (Or.inl (not_sameDims h))))

theorem hadC_holds {A iA B iB : Store α} (hA : A.WF) (hiA : iA.WF) (hB : B.WF) (hiB : iB.WF) (O iO : Store α)
    (hr : A.nrows = B.nrows) (hc : A.ncols = B.ncols)
    (h1 : iA.nrows = A.nrows ∧ iA.ncols = A.ncols) (h2 : iB.nrows = B.nrows ∧ iB.ncols = B.ncols) :
    ∃ O' iO', hadC A iA B iB O iO = .ok (O', iO') ∧ O'.kind = O.kind ∧ iO'.kind = iO.kind ∧
      O'.Holds A.nrows A.ncols (fun i j => A.entry i j * B.entry i j - iA.entry i j * iB.entry i j) ∧
      iO'.Holds A.nrows A.ncols (fun i j => iA.entry i j * B.entry i j + A.entry i j * iB.entry i j) := by
  unfold hadC
  rw [if_neg (by simpa using hr), if_neg (by simpa using hc), if_neg (by simp [sameDims_iff, h1]), if_neg (by simp [sameDims_iff, h2])]
  unfold hadCBody
  have hq : ∀ i j, i < A.nrows → j < A.ncols →
      quadAt A iA B iB i j = .ok (A.entry i j, iA.entry i j, B.entry i j, iB.entry i j) := fun i j hi hj =>
    quadAt_ok hA hiA hB hiB hi hj (h1.1 ▸ hi) (h1.2 ▸ hj) (hr ▸ hi) (hc ▸ hj) (h2.1 ▸ hr ▸ hi) (h2.2 ▸ hc ▸ hj)
  exact fill_pair_holds O iO (fun i j hi hj => by simp only [hadReAt, hq i j hi hj])
    (fun i j hi hj => by simp only [hadImAt, hq i j hi hj])

theorem hadC_nonconformable {A iA B iB : Store α} (O iO : Store α)
    (h : A.nrows ≠ B.nrows ∨ A.ncols ≠ B.ncols ∨ ¬ (iA.nrows = A.nrows ∧ iA.ncols = A.ncols) ∨
      ¬ (iB.nrows = B.nrows ∧ iB.ncols = B.ncols)) :
    hadC A iA B iB O iO = .error .dimension := by
  unfold hadC
  exact ite_error (h.imp_right fun h => ite_error (h.imp_right fun h => ite_error (h.imp (not_sameDims) fun h =>
    ite_error (Or.inl (not_sameDims h)))))

/-- `mult` with a diagonal middle factor: the entry as the code computes it -/
theorem multD_holds {A B : Store α} (hA : A.WF) (hB : B.WF) (D : Array α) (O : Store α)
    (h : A.ncols = B.nrows) (hD : A.ncols = D.size) :
    ∃ O', multD A D B O = .ok O' ∧ O'.kind = O.kind ∧
      O'.Holds A.nrows B.ncols (fun i j => Spec.sumTo A.ncols fun k => A.entry i k * B.entry k j * D.getD k Scalar.zero) := by
  unfold multD
  rw [if_neg (by simpa using h), if_neg (by simpa using hD)]
  exact fill_resize_holds O (fun i j hi hj => dot_ok (fun k hk => by
    have : k < D.size := hD ▸ hk
    simp [prodAt_ok hA hB hi hk (h ▸ hk) hj, vget_ok this, this]))

theorem multD_nonconformable {A B : Store α} (D : Array α) (O : Store α) (h : A.ncols ≠ B.nrows ∨ A.ncols ≠ D.size) :
    multD A D B O = .error .dimension := by
  unfold multD
  exact ite_error (h.imp_right fun h => ite_error (Or.inl h))

end Ops
end Bpp.Mx
