import Mathlib.Data.List.Nodup
import Mathlib.Order.Basic
import Mathlib.Algebra.Order.Ring.Rat
import BppModel.Alias
import BppModel.AliasSpec
import BppProofs.Lemmas.ParamList
/-! `Parameter::setValue` with its listeners (C03): what a call that returned did (`Step`: every value stays or
becomes `v`, and a changed object has fired all its listeners), why a value changed (`Cause`), why the fuel of the
model is never used up (each effective call turns one more value into `v`); and the interval intersection of the
pair form. -/
namespace Bpp.Alias
open Bpp.ParamList (Bnd Con Par Store ObjId nameOf find? hasParameter names startsWith)

/-! ## Worlds that differ in parameter values only -/

def val (w : World) (i : ObjId) : Rat := (w.heap.get i).value

/-- the parameter object a listener writes to: `&(*pl_)[alias_]` -/
def tgt (w : World) (l : Nat) : Option ObjId :=
  match w.objs (w.lis l).pl with
  | none => none
  | some o => o.params[(w.lis l).alias]?

/-- `w'` is `w` up to the values of parameter objects -/
structure SameBut (w w' : World) : Prop where
  lsn : w'.lsn = w.lsn
  lis : w'.lis = w.lis
  lnext : w'.lnext = w.lnext
  objs : w'.objs = w.objs
  next : w'.heap.next = w.heap.next
  name : ∀ i, (w'.heap.get i).name = (w.heap.get i).name
  con : ∀ i, (w'.heap.get i).con = (w.heap.get i).con

theorem SameBut.refl (w : World) : SameBut w w := ⟨rfl, rfl, rfl, rfl, rfl, fun _ => rfl, fun _ => rfl⟩

theorem SameBut.trans {a b c : World} (x : SameBut a b) (y : SameBut b c) : SameBut a c :=
  ⟨y.lsn.trans x.lsn, y.lis.trans x.lis, y.lnext.trans x.lnext, y.objs.trans x.objs, y.next.trans x.next,
   fun i => (y.name i).trans (x.name i), fun i => (y.con i).trans (x.con i)⟩

theorem SameBut.tgt {w w' : World} (s : SameBut w w') (l : Nat) : tgt w' l = tgt w l := by
  simp only [Alias.tgt, s.lis, s.objs]

theorem SameBut.nameOf {w w' : World} (s : SameBut w w') (i : ObjId) : nameOf w'.heap i = nameOf w.heap i := s.name i

theorem SameBut.find? {w w' : World} (s : SameBut w w') (l : List ObjId) (n : String) :
    find? w'.heap l n = find? w.heap l n :=
  ParamList.find?_congr (fun i _ => s.name i) n

theorem SameBut.rejects {w w' : World} (s : SameBut w w') (i : ObjId) (v : Rat) :
    (w'.heap.get i).rejects v = (w.heap.get i).rejects v := by
  simp only [Par.rejects, s.con i]

theorem sameBut_putValue (w : World) (i : ObjId) (v : Rat) : SameBut w (w.putValue i v) := by
  refine ⟨rfl, rfl, rfl, rfl, rfl, fun j => ?_, fun j => ?_⟩ <;>
  · simp only [World.putValue, ParamList.get_put]; split <;> simp_all

@[simp] theorem val_putValue (w : World) (i j : ObjId) (v : Rat) :
    val (w.putValue i v) j = if j = i then v else val w j := by
  simp only [val, World.putValue, ParamList.get_put]; split <;> rfl

/-- the loop over the listeners of `src`, case by case: a listener without target (`ub`), one that finds another name
than it expects (`Exception`), a call of `k` that raises, a call that returns followed by the rest of the loop -/
theorem fireList_ind {k : World → ObjId → Rat → WR} {src : ObjId} {P : World → List Nat → WR → Prop}
    (nil : ∀ w, P w [] { w := w })
    (ub : ∀ w l rest, tgt w l = none → P w (l :: rest) { w := w, err := some .ub })
    (name : ∀ w l rest t, tgt w l = some t → nameOf w.heap t ≠ (w.lis l).name → P w (l :: rest) { w := w, err := some .bpp })
    (raise : ∀ w l rest t e, tgt w l = some t → nameOf w.heap t = (w.lis l).name → (k w t (val w src)).err = some e →
      P w (l :: rest) { w := (k w t (val w src)).w, err := some e })
    (call : ∀ w l rest t, tgt w l = some t → nameOf w.heap t = (w.lis l).name → (k w t (val w src)).err = none →
      P (k w t (val w src)).w rest (fireList k src (k w t (val w src)).w rest) →
      P w (l :: rest) (fireList k src (k w t (val w src)).w rest)) :
    ∀ ls w, P w ls (fireList k src w ls)
  | [], w => nil w
  | l :: rest, w => by
    have htgt : tgt w l = match w.objs (w.lis l).pl with | none => none | some o => o.params[(w.lis l).alias]? := rfl
    simp only [fireList]
    cases ho : w.objs (w.lis l).pl with
    | none => exact ub w l rest (by rw [htgt, ho])
    | some o =>
      simp only []
      cases ht : o.params[(w.lis l).alias]? with
      | none => exact ub w l rest (by rw [htgt, ho]; exact ht)
      | some t =>
        have ht' : tgt w l = some t := by rw [htgt, ho]; exact ht
        simp only []
        by_cases hn : nameOf w.heap t = (w.lis l).name
        · rw [if_neg (by simpa using hn)]
          cases he : (k w t (w.heap.get src).value).err with
          | some e => exact raise w l rest t e ht' hn he
          | none => exact call w l rest t ht' hn he (fireList_ind nil ub name raise call rest _)
        · rw [if_pos (by simpa using hn)]; exact name w l rest t ht' hn

theorem fireList_sameBut {k : World → ObjId → Rat → WR} (hk : ∀ w t u, SameBut w (k w t u).w) (src : ObjId) :
    ∀ (ls : List Nat) (w : World), SameBut w (fireList k src w ls).w :=
  fireList_ind (P := fun w _ r => SameBut w r.w) SameBut.refl (fun w _ _ _ => .refl w) (fun w _ _ _ _ _ => .refl w)
    (fun w _ _ t _ _ _ _ => hk w t _) (fun w _ _ t _ _ _ ih => (hk w t _).trans ih)

theorem setV_sameBut : ∀ (f : Nat) (w : World) (i : ObjId) (v : Rat), SameBut w (setV f w i v).w
  | 0, w, _, _ => SameBut.refl w
  | f + 1, w, i, v => by
    simp only [setV]
    split
    · exact SameBut.refl w
    · split
      · exact SameBut.refl w
      · exact (sameBut_putValue w i v).trans (fireList_sameBut (setV_sameBut f) i _ _)

/-! ## What a successful `setValue` does: `Step v w w'`

Every value either stays or becomes `v`; whenever a parameter object changed, every listener
attached to it has written `v` into its target. -/

structure Step (v : Rat) (w w' : World) : Prop extends SameBut w w' where
  onlyV : ∀ i, val w' i = val w i ∨ val w' i = v
  fired : ∀ i, val w' i ≠ val w i → ∀ l ∈ w.lsn i, ∀ t, tgt w l = some t → val w' t = v

theorem Step.refl (v : Rat) (w : World) : Step v w w :=
  { toSameBut := SameBut.refl w, onlyV := fun _ => Or.inl rfl, fired := fun i h => absurd rfl h }

theorem Step.trans {v : Rat} {a b c : World} (x : Step v a b) (y : Step v b c) : Step v a c where
  toSameBut := x.toSameBut.trans y.toSameBut
  onlyV i := by
    rcases y.onlyV i with h | h
    · rw [h]; exact x.onlyV i
    · exact Or.inr h
  fired i hi l hl t ht := by
    by_cases h1 : val b i = val a i
    · -- changed in the second part
      have h2 : val c i ≠ val b i := by rw [h1]; exact hi
      exact y.fired i h2 l (by rw [x.lsn]; exact hl) t (by rw [x.toSameBut.tgt]; exact ht)
    · have hb : val b t = v := x.fired i h1 l hl t ht
      rcases y.onlyV t with h | h
      · rw [h, hb]
      · exact h

/-- the loop over the listeners of `src` (whose value is `v` and stays `v`) -/
theorem fireList_step {k : World → ObjId → Rat → WR} {v : Rat}
    (hk : ∀ w t u, (k w t u).err = none → Step u w (k w t u).w ∧ val (k w t u).w t = u) (src : ObjId) :
    ∀ (ls : List Nat) (w : World), val w src = v → (fireList k src w ls).err = none →
      Step v w (fireList k src w ls).w ∧ ∀ l ∈ ls, ∀ t, tgt w l = some t → val (fireList k src w ls).w t = v := by
  refine fireList_ind (P := fun w ls r => val w src = v → r.err = none → Step v w r.w ∧ ∀ l ∈ ls, ∀ t, tgt w l = some t → val r.w t = v)
    (fun w _ _ => ⟨Step.refl v w, fun l hl => nomatch hl⟩) (fun _ _ _ _ _ h => nomatch h)
    (fun _ _ _ _ _ _ _ h => nomatch h) (fun _ _ _ _ _ _ _ _ _ h => nomatch h) (fun w l rest t ht _ he ih hv herr => ?_)
  subst hv
  obtain ⟨s1, t1⟩ := hk w t _ he
  obtain ⟨s2, t2⟩ := ih ((s1.onlyV src).elim id id) herr
  refine ⟨s1.trans s2, fun l' hl' t' ht' => ?_⟩
  rcases List.mem_cons.1 hl' with rfl | hl'
  · cases ht.symm.trans ht'
    exact (s2.onlyV t).elim (fun h => h.trans t1) id
  · exact t2 l' hl' t' (by rw [s1.toSameBut.tgt]; exact ht')

/-- **what `Parameter::setValue` does when it returns**: `Step v` and the object itself holds `v` -/
theorem setV_step : ∀ (f : Nat) (w : World) (i : ObjId) (v : Rat), (setV f w i v).err = none →
    Step v w (setV f w i v).w ∧ val (setV f w i v).w i = v
  | 0, w, i, v, h => by simp [setV] at h
  | f + 1, w, i, v, h => by
    simp only [setV] at h ⊢
    by_cases h1 : v = (w.heap.get i).value
    · simp only [h1, if_true]
      exact ⟨Step.refl _ w, rfl⟩
    · simp only [h1, if_false] at h ⊢
      by_cases h2 : (w.heap.get i).rejects v = true
      · simp [h2] at h
      · simp only [h2, Bool.false_eq_true, if_false] at h ⊢
        have hsb := sameBut_putValue w i v
        have hvi : val (w.putValue i v) i = v := by simp
        obtain ⟨s, t⟩ := fireList_step (setV_step f) i (w.lsn i) (w.putValue i v) hvi h
        refine ⟨⟨hsb.trans s.toSameBut, fun j => ?_, fun j hj l hl t' ht' => ?_⟩, ?_⟩
        · rcases s.onlyV j with e | e
          · rw [e, val_putValue]; split
            · exact Or.inr rfl
            · exact Or.inl rfl
          · exact Or.inr e
        · by_cases hji : j = i
          · subst hji
            exact t l hl t' (by rw [hsb.tgt]; exact ht')
          · have : val (w.putValue i v) j = val w j := by simp [hji]
            exact s.fired j (by rw [this]; exact hj) l (by rw [hsb.lsn]; exact hl) t' (by rw [hsb.tgt]; exact ht')
        · rcases s.onlyV i with e | e
          · rw [e]; exact hvi
          · exact e

theorem setValue_step (w : World) (i : ObjId) (v : Rat) (h : (setValue w i v).err = none) :
    Step v w (setValue w i v).w ∧ val (setValue w i v).w i = v := setV_step _ w i v h

theorem setValue_sameBut (w : World) (i : ObjId) (v : Rat) : SameBut w (setValue w i v).w := setV_sameBut _ w i v

/-! ## Why a value changed: the entry point, or a listener of a changed object -/

/-- every change between `w` and `w'` is at an entry point (`E`) or is caused by a listener of a
changed object -/
def Cause (E : ObjId → Prop) (w w' : World) : Prop :=
  ∀ j, val w' j ≠ val w j → E j ∨ ∃ x l, l ∈ w.lsn x ∧ tgt w l = some j ∧ val w' x ≠ val w x

theorem fireList_cause {k : World → ObjId → Rat → WR} {v : Rat}
    (hk : ∀ w t u, (k w t u).err = none → Step u w (k w t u).w ∧ val (k w t u).w t = u)
    (hc : ∀ w t u, (k w t u).err = none → Cause (· = t) w (k w t u).w) (src : ObjId) :
    ∀ (ls : List Nat) (w : World), val w src = v → (fireList k src w ls).err = none →
      Cause (fun j => ∃ l ∈ ls, tgt w l = some j) w (fireList k src w ls).w := by
  refine fireList_ind (P := fun w ls r => val w src = v → r.err = none → Cause (fun j => ∃ l ∈ ls, tgt w l = some j) w r.w)
    (fun w _ _ j hj => absurd rfl hj) (fun _ _ _ _ _ h => nomatch h)
    (fun _ _ _ _ _ _ _ h => nomatch h) (fun _ _ _ _ _ _ _ _ _ h => nomatch h) (fun w l rest t htl _ he ih hv herr => ?_)
  subst hv
  obtain ⟨s1, _⟩ := hk w t _ he
  have c1 := hc w t _ he
  have hsrc : val (k w t (val w src)).w src = val w src := (s1.onlyV src).elim id id
  have s2 := (fireList_step hk src rest _ hsrc herr).1
  have c2 := ih hsrc herr
  intro j hj
  by_cases h1 : val (k w t (val w src)).w j = val w j
  · -- changed by the rest of the loop
    rcases c2 j (by rw [h1]; exact hj) with ⟨l', hl', htg⟩ | ⟨x, l', hl', htg, hx⟩
    · exact Or.inl ⟨l', List.mem_cons_of_mem _ hl', by rw [← s1.toSameBut.tgt]; exact htg⟩
    · refine Or.inr ⟨x, l', by rw [← s1.lsn]; exact hl', by rw [← s1.toSameBut.tgt]; exact htg, ?_⟩
      -- `x` changed in the second part, hence overall
      have hfv := (s2.onlyV x).resolve_left hx
      rcases s1.onlyV x with e | e
      · rw [← e]; exact hx
      · rw [e] at hx; exact absurd hfv hx
  · rcases c1 j h1 with rfl | ⟨x, l', hl', htg, hx⟩
    · exact Or.inl ⟨l, List.mem_cons_self .., htl⟩
    · refine Or.inr ⟨x, l', hl', htg, ?_⟩
      have hxv := (s1.onlyV x).resolve_left hx
      rcases s2.onlyV x with e | e
      · rw [e]; exact hx
      · rw [e, ← hxv]; exact hx

theorem setV_cause : ∀ (f : Nat) (w : World) (i : ObjId) (v : Rat), (setV f w i v).err = none →
    Cause (· = i) w (setV f w i v).w
  | 0, w, i, v, h => by simp [setV] at h
  | f + 1, w, i, v, h => by
    have hstep := (setV_step (f + 1) w i v h)
    simp only [setV] at h hstep ⊢
    by_cases h1 : v = (w.heap.get i).value
    · simp only [h1, if_true]
      exact fun j hj => absurd rfl hj
    · simp only [h1, if_false] at h hstep ⊢
      by_cases h2 : (w.heap.get i).rejects v = true
      · simp [h2] at h
      · simp only [h2, Bool.false_eq_true, if_false] at h hstep ⊢
        have hsb := sameBut_putValue w i v
        have hvi : val (w.putValue i v) i = v := by simp
        have c := fireList_cause (setV_step f) (setV_cause f) i (w.lsn i) (w.putValue i v) hvi h
        have s := (fireList_step (setV_step f) i (w.lsn i) (w.putValue i v) hvi h).1
        have hfi : val (fireList (setV f) i (w.putValue i v) (w.lsn i)).w i = v := hstep.2
        have hne : val w i ≠ v := fun e => h1 e.symm
        intro j hj
        by_cases hji : j = i
        · exact Or.inl hji
        · have hp : val (w.putValue i v) j = val w j := by simp [hji]
          rcases c j (by rw [hp]; exact hj) with ⟨l, hl, htg⟩ | ⟨x, l, hl, htg, hx⟩
          · exact Or.inr ⟨i, l, hl, by rw [← hsb.tgt]; exact htg, by rw [hfi]; exact fun e => hne e.symm⟩
          · refine Or.inr ⟨x, l, by rw [← hsb.lsn]; exact hl, by rw [← hsb.tgt]; exact htg, ?_⟩
            by_cases hxi : x = i
            · subst hxi; rw [hfi]; exact fun e => hne e.symm
            · have hp' : val (w.putValue i v) x = val w x := by simp [hxi]
              rw [← hp']; exact hx

theorem setValue_cause (w : World) (i : ObjId) (v : Rat) (h : (setValue w i v).err = none) :
    Cause (· = i) w (setValue w i v).w := setV_cause _ w i v h

/-! ## Chains of listeners -/

/-- `b` is reached from `x` through listeners whose two ends hold the same value in `w` -/
inductive SyncPath (w : World) : ObjId → ObjId → Prop
  | refl (x : ObjId) : SyncPath w x x
  | step {x y b : ObjId} {l : Nat} : l ∈ w.lsn x → tgt w l = some y → val w y = val w x → SyncPath w y b → SyncPath w x b

theorem Step.syncPath {v : Rat} {w w' : World} (s : Step v w w') {x b : ObjId} (p : SyncPath w x b) :
    val w' x = v → val w' b = v := by
  induction p with
  | refl x => exact id
  | @step x y b l hl ht hs _ ih =>
    intro hx
    apply ih
    by_cases hc : val w' x = val w x
    · have : val w y = v := by rw [hs, ← hc, hx]
      rcases s.onlyV y with e | e
      · rw [e, this]
      · exact e
    · exact s.fired x hc l hl y ht

/-- direct link: a changed object is equalled by the target of each of its listeners -/
theorem Step.tracks_direct {v : Rat} {w w' : World} (s : Step v w w') {a b : ObjId} {l : Nat}
    (hl : l ∈ w.lsn a) (ht : tgt w l = some b) (hc : val w' a ≠ val w a) : val w' b = val w' a := by
  have ha : val w' a = v := by
    rcases s.onlyV a with e | e
    · exact absurd e hc
    · exact e
  rw [ha]; exact s.fired a hc l hl b ht

/-- chain of any length: first link unconditional, the following ones in sync before the update -/
theorem Step.tracks_chain {v : Rat} {w w' : World} (s : Step v w w') {a x b : ObjId} {l : Nat}
    (hl : l ∈ w.lsn a) (ht : tgt w l = some x) (p : SyncPath w x b) (hc : val w' a ≠ val w a) :
    val w' b = val w' a := by
  have ha : val w' a = v := by
    rcases s.onlyV a with e | e
    · exact absurd e hc
    · exact e
  rw [ha]; exact s.syncPath p (s.fired a hc l hl x ht)

/-! ## Fuel is never exhausted: every effective recursive call turns one more value into `v` -/

def ParamsValid (w : World) : Prop := ∀ k o, w.objs k = some o → ∀ t ∈ o.params, t < w.heap.next

theorem ParamsValid.sameBut {w w' : World} (p : ParamsValid w) (s : SameBut w w') : ParamsValid w' := by
  intro k o ho t ht
  rw [s.objs] at ho; rw [s.next]; exact p k o ho t ht

theorem tgt_valid {w : World} (p : ParamsValid w) {l : Nat} {t : ObjId} (h : tgt w l = some t) : t < w.heap.next := by
  simp only [tgt] at h
  split at h
  · cases h
  · rename_i o ho
    exact p _ o ho t (List.mem_of_getElem? h)

/-- number of allocated parameter objects whose value is not `v` -/
def cnt (v : Rat) (w : World) : Nat := (List.range w.heap.next).countP (fun j => decide (val w j ≠ v))

theorem countP_lt_of_witness {α : Type} {p q : α → Bool} : ∀ {l : List α} (_ : ∀ x ∈ l, q x = true → p x = true)
    {a : α} (_ : a ∈ l) (_ : p a = true) (_ : q a = false), l.countP q < l.countP p
  | x :: xs, himp, a, ha, hpa, hqa => by
    have hle : xs.countP q ≤ xs.countP p :=
      List.countP_mono_left (fun y hy h => himp y (List.mem_cons_of_mem _ hy) h)
    rcases List.mem_cons.1 ha with rfl | ha'
    · rw [List.countP_cons_of_pos hpa, List.countP_cons_of_neg (by simp [hqa])]
      omega
    · have ih := countP_lt_of_witness (fun y hy h => himp y (List.mem_cons_of_mem _ hy) h) ha' hpa hqa
      by_cases hq : q x = true
      · rw [List.countP_cons_of_pos hq, List.countP_cons_of_pos (himp x (List.mem_cons_self ..) hq)]; omega
      · rw [List.countP_cons_of_neg hq]
        by_cases hp : p x = true
        · rw [List.countP_cons_of_pos hp]; omega
        · rw [List.countP_cons_of_neg hp]; exact ih

theorem cnt_putValue_lt {w : World} {i : ObjId} {v : Rat} (hi : i < w.heap.next) (hv : val w i ≠ v) :
    cnt v (w.putValue i v) < cnt v w := by
  unfold cnt
  have hn : (w.putValue i v).heap.next = w.heap.next := rfl
  rw [hn]
  refine countP_lt_of_witness (a := i) (fun x _ h => ?_) (List.mem_range.2 hi) (by simpa using hv) (by simp)
  simp only [val_putValue, decide_eq_true_eq] at h ⊢
  split at h
  · exact absurd rfl h
  · exact h

theorem cnt_mono {v : Rat} {w w' : World} (s : Step v w w') : cnt v w' ≤ cnt v w := by
  unfold cnt
  rw [s.next]
  refine List.countP_mono_left (fun j _ h => ?_)
  simp only [decide_eq_true_eq] at h ⊢
  rcases s.onlyV j with e | e
  · rw [← e]; exact h
  · exact absurd e h

theorem fireList_no_hang {k : World → ObjId → Rat → WR} {v : Rat} {f : Nat}
    (hk : ∀ w t u, (k w t u).err = none → Step u w (k w t u).w ∧ val (k w t u).w t = u)
    (hn : ∀ w t, ParamsValid w → t < w.heap.next → cnt v w < f → (k w t v).err ≠ some .hang) (src : ObjId) :
    ∀ (ls : List Nat) (w : World), ParamsValid w → val w src = v → cnt v w < f →
      (fireList k src w ls).err ≠ some .hang := by
  refine fireList_ind (P := fun w _ r => ParamsValid w → val w src = v → cnt v w < f → r.err ≠ some .hang)
    (fun _ _ _ _ => nofun) (fun _ _ _ _ _ _ _ => nofun) (fun _ _ _ _ _ _ _ _ _ => nofun)
    (fun w l rest t e ht _ he pv hv hc hh => ?_) (fun w l rest t _ _ he ih pv hv hc => ?_)
  · subst hv; cases hh; exact hn w t pv (tgt_valid pv ht) hc he
  · subst hv
    obtain ⟨s1, _⟩ := hk w t _ he
    exact ih (pv.sameBut s1.toSameBut) ((s1.onlyV src).elim id id) (Nat.lt_of_le_of_lt (cnt_mono s1) hc)

theorem setV_no_hang_aux : ∀ (f : Nat) (w : World) (i : ObjId) (v : Rat), ParamsValid w → i < w.heap.next →
    cnt v w < f → (setV f w i v).err ≠ some .hang
  | 0, _, _, _, _, _, h => by omega
  | f + 1, w, i, v, pv, hi, hc => by
    simp only [setV]
    by_cases h1 : v = (w.heap.get i).value
    · simp [h1]
    · simp only [h1, if_false]
      by_cases h2 : (w.heap.get i).rejects v = true
      · simp [h2]
      · simp only [h2, Bool.false_eq_true, if_false]
        have hlt : cnt v (w.putValue i v) < cnt v w := cnt_putValue_lt hi (fun e => h1 e.symm)
        exact fireList_no_hang (setV_step f) (fun w t pv ht hc => setV_no_hang_aux f w t v pv ht hc) i _ _
          (pv.sameBut (sameBut_putValue w i v)) (by simp) (by omega)

/-- **`setValue` never runs out of fuel** (whatever the wiring of the listeners, cycles included) -/
theorem setValue_no_hang (w : World) (i : ObjId) (v : Rat) (pv : ParamsValid w) (hi : i < w.heap.next) :
    (setValue w i v).err ≠ some .hang :=
  setV_no_hang_aux _ w i v pv hi (Nat.lt_succ_of_le (Nat.le_trans List.countP_le_length (by simp)))

/-! ## Constraint intersection (`IntervalConstraint::operator&`)

`Con.accepts` is a test at the lower bound and a test at the upper bound; `Bnd.lt` compares bounds the
way these tests are ordered, so each half of the intersection is the conjunction of the two halves. -/

def loOk (b : Bnd) (incl : Bool) (v : Rat) : Bool := if incl then b.leV v else b.ltV v
def hiOk (b : Bnd) (incl : Bool) (v : Rat) : Bool := if incl then b.geV v else b.gtV v

theorem accepts_eq (c : Con) (v : Rat) : c.accepts v = (loOk c.lo c.inclLo v && hiOk c.hi c.inclHi v) := rfl

theorem Bnd.eq_of_not_lt : ∀ {a b : Bnd}, Bnd.lt a b = false → Bnd.lt b a = false → a = b
  | .negInf, .negInf, _, _ | .posInf, .posInf, _, _ => rfl
  | .fin x, .fin y, h1, h2 => by rw [le_antisymm (not_lt.1 (of_decide_eq_false h2)) (not_lt.1 (of_decide_eq_false h1))]
  | .negInf, .fin _, h, _ | .negInf, .posInf, h, _ | .fin _, .posInf, h, _ => by cases h
  | .fin _, .negInf, _, h | .posInf, .negInf, _, h | .posInf, .fin _, _, h => by cases h

/-- a value that passes the lower bound `b` passes every lower bound strictly below `b` -/
theorem loOk_of_lt : ∀ {a b : Bnd}, Bnd.lt a b = true → ∀ (ia : Bool) {ib : Bool} {v : Rat}, loOk b ib v = true → loOk a ia v = true
  | .negInf, _, _, ia, _, _, _ => by cases ia <;> rfl
  | .fin x, .fin y, h, ia, ib, v, hb => by
    have hy : y ≤ v := by cases ib; exact (of_decide_eq_true hb : y < v).le; exact of_decide_eq_true hb
    have hv : x < v := lt_of_lt_of_le (of_decide_eq_true h) hy
    cases ia; exact decide_eq_true hv; exact decide_eq_true hv.le
  | .fin _, .posInf, _, _, ib, _, hb => by cases ib <;> cases hb
  | .fin _, .negInf, h, _, _, _, _ | .posInf, _, h, _, _, _, _ => by cases h

/-- a value that passes the upper bound `a` passes every upper bound strictly above `a` -/
theorem hiOk_of_lt : ∀ {a b : Bnd}, Bnd.lt a b = true → ∀ {ia : Bool} (ib : Bool) {v : Rat}, hiOk a ia v = true → hiOk b ib v = true
  | _, .posInf, _, _, ib, _, _ => by cases ib <;> rfl
  | .fin x, .fin y, h, ia, ib, v, ha => by
    have hx : v ≤ x := by cases ia; exact (of_decide_eq_true ha : v < x).le; exact of_decide_eq_true ha
    have hv : v < y := lt_of_le_of_lt hx (of_decide_eq_true h)
    cases ib; exact decide_eq_true hv; exact decide_eq_true hv.le
  | .negInf, .fin _, _, ia, _, _, ha => by cases ia <;> cases ha
  | .negInf, .negInf, h, _, _, _, _ | .fin _, .negInf, h, _, _, _, _ | .posInf, .negInf, h, _, _, _, _ | .posInf, .fin _, h, _, _, _, _ => by cases h

theorem loOk_and (b : Bnd) (i j : Bool) (v : Rat) : loOk b (i && j) v = (loOk b i v && loOk b j v) := by
  have hle : b.ltV v = true → b.leV v = true := by
    cases b with
    | fin x => exact fun h => decide_eq_true (of_decide_eq_true h : x < v).le
    | _ => exact id
  cases i <;> cases j <;> simp only [loOk, Bool.and_self, Bool.and_true, Bool.and_false, if_true, if_false, Bool.false_eq_true]
  all_goals cases hl : b.ltV v <;> simp [hle, hl]

theorem hiOk_and (b : Bnd) (i j : Bool) (v : Rat) : hiOk b (i && j) v = (hiOk b i v && hiOk b j v) := by
  have hle : b.gtV v = true → b.geV v = true := by
    cases b with
    | fin x => exact fun h => decide_eq_true (of_decide_eq_true h : v < x).le
    | _ => exact id
  cases i <;> cases j <;> simp only [hiOk, Bool.and_self, Bool.and_true, Bool.and_false, if_true, if_false, Bool.false_eq_true]
  all_goals cases hl : b.gtV v <;> simp [hle, hl]

theorem Bool.eq_and_of_imp {p q : Bool} (h : p = true → q = true) : p = (q && p) := by
  cases p
  · rw [Bool.and_false]
  · rw [h rfl]; rfl

/-- the intersection accepts exactly the values both operands accept -/
theorem Con.inter_accepts (c d : Con) (v : Rat) : (Con.inter c d).accepts v = (c.accepts v && d.accepts v) := by
  have lo : loOk (Con.inter c d).lo (Con.inter c d).inclLo v = (loOk c.lo c.inclLo v && loOk d.lo d.inclLo v) := by
    simp only [Con.inter]
    split
    · rename_i h; exact Bool.eq_and_of_imp (loOk_of_lt h _)
    · split
      · rename_i h; rw [Bool.and_comm]; exact Bool.eq_and_of_imp (loOk_of_lt h _)
      · rename_i h1 h2
        rw [← Bnd.eq_of_not_lt (Bool.eq_false_iff.2 h1) (Bool.eq_false_iff.2 h2)]; exact loOk_and ..
  have hi : hiOk (Con.inter c d).hi (Con.inter c d).inclHi v = (hiOk c.hi c.inclHi v && hiOk d.hi d.inclHi v) := by
    simp only [Con.inter]
    split
    · rename_i h; exact Bool.eq_and_of_imp (hiOk_of_lt h _)
    · split
      · rename_i h; rw [Bool.and_comm]; exact Bool.eq_and_of_imp (hiOk_of_lt h _)
      · rename_i h1 h2
        rw [Bnd.eq_of_not_lt (Bool.eq_false_iff.2 h1) (Bool.eq_false_iff.2 h2)]; exact hiOk_and ..
  rw [accepts_eq, accepts_eq c, accepts_eq d, lo, hi, Bool.and_assoc, Bool.and_assoc, Bool.and_left_comm (hiOk c.hi c.inclHi v)]

/-- "accepted by the constraint, if any" -/
def accOpt (c : Option Con) (v : Rat) : Bool :=
  match c with
  | some c => c.accepts v
  | none => true

/-- what the pair form leaves as constraints: a value accepted by both new constraints was
accepted by both old ones; when both parameters were constrained they end with one common
constraint that accepts exactly the values both accepted -/
theorem aliasConSpec_sem (c1 c2 : Option Con) (v : Rat) :
    (accOpt (aliasConSpec c1 c2).1 v = true ∧ accOpt (aliasConSpec c1 c2).2 v = true →
      accOpt c1 v = true ∧ accOpt c2 v = true) ∧
    (c1.isSome = true → c2.isSome = true →
      (accOpt (aliasConSpec c1 c2).1 v = (accOpt c1 v && accOpt c2 v)) ∧
      (accOpt (aliasConSpec c1 c2).2 v = (accOpt c1 v && accOpt c2 v))) := by
  cases c1 with
  | none => cases c2 <;> simp [aliasConSpec, accOpt]
  | some c =>
    cases c2 with
    | none => simp [aliasConSpec, accOpt]
    | some d =>
      by_cases h : c = d
      · subst h; simp [aliasConSpec, accOpt]
      · simp only [aliasConSpec, h, if_false, accOpt, Con.inter_accepts]
        cases c.accepts v <;> cases d.accepts v <;> simp

end Bpp.Alias
