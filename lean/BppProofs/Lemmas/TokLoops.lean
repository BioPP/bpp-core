import BppProofs.Lemmas.TextU
import BppModel.Text.TokRT
/-! What the loops of the StringTokenizer and NestedStringTokenizer constructors return, piece by
piece (tokens, recorded separators): `LoopPost`, `NestPost`.  The loops cut the text `s` at positions
`a ≤ b`; the piece between them is `(s.drop a).take (b - a)` throughout.  The pieces re-join to the
text, so their lengths add up to its length (`LoopPost.size`, `NestPost.size`; hence
`Tokenizer.Built`, what both constructors leave): the allocation bounds of `Lemmas/TokenizerU.lean`
and the round-trip laws of `Lemmas/TokRT.lean`, `Lemmas/NestedRT.lean` are read off the same
postconditions.  The nested loops can raise ("Unclosed block"): their theorems are stated with
`Returns`.  The algebra of re-joining (`interleave_append`, `interleave_last`, `interleave_gaps`,
`consumed_eq`) stands beside `length_interleave`. -/
namespace Bpp.Text.RT
open Bpp.Text Bpp.Text.U

theorem take_sub_append_drop {α : Type} (s : List α) {a b : Nat} (h : a ≤ b) :
    (s.drop a).take (b - a) ++ s.drop b = s.drop a := by
  have := List.take_append_drop (b - a) (s.drop a)
  rwa [List.drop_drop, Nat.add_sub_cancel' h] at this

theorem piece_ne_nil {α : Type} (s : List α) {a b : Nat} (hab : a < b) (hb : b ≤ s.length) :
    (s.drop a).take (b - a) ≠ [] := by
  intro e
  have := congrArg List.length e
  simp only [List.length_take, List.length_drop, List.length_nil] at this
  omega

theorem drop_eq_cons_of_getElem? {s : Str} {n : Nat} {c : Char} (h : s[n]? = some c) :
    s.drop n = c :: s.drop (n + 1) := by
  obtain ⟨hn, rfl⟩ := List.getElem?_eq_some_iff.mp h
  exact List.drop_eq_getElem_cons hn

theorem piece_succ {s : Str} {n : Nat} {c : Char} (h : s[n]? = some c) : (s.drop n).take (n + 1 - n) = [c] := by
  rw [Nat.add_sub_cancel_left, drop_eq_cons_of_getElem? h]; rfl

/-- positions of a text do not wrap around in `size_t` arithmetic -/
theorem wsub_pos {s : Str} (hs : StrOk s) {a b : Nat} (hab : a ≤ b) (hb : b ≤ s.length) : wsub b a = b - a :=
  wsub_eq hab (by have := hs.lt_SZ; omega)

theorem wadd_pos {s : Str} (hs : StrOk s) {a k : Nat} (ha : a ≤ s.length) (hk : k ≤ s.length) :
    wadd a k = a + k :=
  wadd_eq (by unfold StrOk maxStr at hs; unfold SZ; omega)

theorem substr_piece {s : Str} (hs : StrOk s) {a b : Nat} (hab : a ≤ b) (hb : b ≤ s.length) :
    substr s a (wsub b a) = .ok ((s.drop a).take (b - a)) := by
  rw [wsub_pos hs hab hb]
  exact substr_ok _ (Nat.le_trans hab hb)

theorem substr_rest {s : Str} (hs : StrOk s) {a : Nat} (ha : a ≤ s.length) :
    substr s a (wsub (toSz none) a) = .ok (s.drop a) := by
  have hsz := hs.lt_SZ
  rw [substr_ok _ ha, List.take_of_length_le]
  have : wsub npos a = npos - a := wsub_eq (by unfold npos; unfold SZ at hsz; omega) (by decide)
  simp only [toSz, this, List.length_drop]
  unfold npos; unfold SZ at hsz; omega

theorem fuel_step {len index i fuel : Nat} (hf : len - index + 1 ≤ fuel + 1) (h : index < i) (hi : i ≤ len) :
    len - i + 1 ≤ fuel := by omega

theorem findIdx_at {p : Char → Bool} {s : Str} {k : Nat} (h : findIdx p s = some k) :
    ∃ c, s[k]? = some c ∧ p c = true := by
  induction s generalizing k with
  | nil => cases h
  | cons x s ih =>
    simp only [findIdx] at h
    split at h
    · cases h; exact ⟨x, rfl, ‹_›⟩
    · obtain ⟨j, hj, rfl⟩ := Option.map_eq_some_iff.mp h
      exact ih hj

theorem findIdxFrom_at {p : Char → Bool} {s : Str} {pos k : Nat} (h : findIdxFrom p s pos = some k) :
    ∃ c, s[k]? = some c ∧ p c = true := by
  obtain ⟨j, hj, rfl⟩ := Option.map_eq_some_iff.mp h
  obtain ⟨c, hc, hp⟩ := findIdx_at hj
  exact ⟨c, by rwa [List.getElem?_drop, Nat.add_comm] at hc, hp⟩

theorem findIdx_none_all {p : Char → Bool} {s : Str} (h : findIdx p s = none) : ∀ c ∈ s, p c = false := by
  induction s with
  | nil => nofun
  | cons x s ih =>
    simp only [findIdx] at h
    split at h
    · cases h
    · exact List.forall_mem_cons.mpr ⟨Bool.eq_false_iff.mpr ‹_›, ih (Option.map_eq_none_iff.mp h)⟩

theorem findIdx_take_all {p : Char → Bool} {s : Str} {k : Nat} (h : findIdx p s = some k) :
    ∀ c ∈ s.take k, p c = false := by
  induction s generalizing k with
  | nil => cases h
  | cons x s ih =>
    simp only [findIdx] at h
    split at h
    · cases h; nofun
    · obtain ⟨j, hj, rfl⟩ := Option.map_eq_some_iff.mp h
      exact List.forall_mem_cons.mpr ⟨Bool.eq_false_iff.mpr ‹_›, ih hj⟩

theorem findIdxFrom_none_all {p : Char → Bool} {s : Str} {pos : Nat} (h : findIdxFrom p s pos = none) :
    ∀ c ∈ s.drop pos, p c = false :=
  findIdx_none_all (Option.map_eq_none_iff.mp h)

theorem findIdxFrom_take_all {p : Char → Bool} {s : Str} {pos k : Nat} (h : findIdxFrom p s pos = some k) :
    ∀ c ∈ (s.drop pos).take (k - pos), p c = false := by
  obtain ⟨j, hj, rfl⟩ := Option.map_eq_some_iff.mp h
  rw [Nat.add_sub_cancel]
  exact findIdx_take_all hj

theorem findFirstOf_some {d s : Str} {pos n : Nat} (h : findFirstOf d s pos = some n) :
    pos ≤ n ∧ n < s.length ∧ (∀ c ∈ (s.drop pos).take (n - pos), inSet d c = false) ∧
      ∃ c, s[n]? = some c ∧ inSet d c = true :=
  ⟨(findFirstOf_bounds h).1, (findFirstOf_bounds h).2, findIdxFrom_take_all h, findIdxFrom_at h⟩

theorem findFirstOf_none {d s : Str} {pos : Nat} (h : findFirstOf d s pos = none) :
    ∀ c ∈ s.drop pos, inSet d c = false :=
  findIdxFrom_none_all h

theorem findFirstNotOf_some {d s : Str} {pos i : Nat} (h : findFirstNotOf d s pos = some i) :
    pos ≤ i ∧ i < s.length ∧ (∀ c ∈ (s.drop pos).take (i - pos), inSet d c = true) ∧
      ∃ c, s[i]? = some c ∧ inSet d c = false := by
  obtain ⟨c, hc, hc'⟩ := findIdxFrom_at h
  refine ⟨(findFirstNotOf_bounds h).1, (findFirstNotOf_bounds h).2, fun x hx => ?_, c, hc, ?_⟩
  · simpa [inSet] using findIdxFrom_take_all h x hx
  · simpa [inSet] using hc'

theorem findFirstNotOf_none {d s : Str} {pos : Nat} (h : findFirstNotOf d s pos = none) :
    ∀ c ∈ s.drop pos, inSet d c = true :=
  fun c hc => by simpa [inSet] using findIdxFrom_none_all h c hc

theorem findFirstOf_gt {d s : Str} {index n : Nat} (h : findFirstOf d s index = some n)
    (hpre : ∃ c, s[index]? = some c ∧ inSet d c = false) : index < n := by
  obtain ⟨hin, _, _, cn, hcn, hcd⟩ := findFirstOf_some h
  obtain ⟨c, hc, hc'⟩ := hpre
  refine Nat.lt_of_le_of_ne hin (fun e => ?_)
  subst e
  rw [hcn] at hc; cases hc
  rw [hcd] at hc'; cases hc'

/-- after a delimiter was found at `n`, the next non-delimiter is strictly further -/
theorem findFirstNotOf_after {d s : Str} {index n i : Nat} (h1 : findFirstOf d s index = some n)
    (h2 : findFirstNotOf d s n = some i) : n < i := by
  obtain ⟨_, _, _, c, hc, hcd⟩ := findFirstOf_some h1
  obtain ⟨hni, _, _, c', hc', hcd'⟩ := findFirstNotOf_some h2
  refine Nat.lt_of_le_of_ne hni (fun e => ?_)
  subst e
  rw [hc] at hc'; cases hc'
  rw [hcd] at hcd'; cases hcd'

theorem tokenOk_ns_iff {d : Str} {ae : Bool} {t : Str} :
    tokenOk d false ae t = true ↔ (∀ c ∈ t, inSet d c = false) ∧ (ae = false → t ≠ []) := by
  cases ae <;> simp [tokenOk]

theorem splitOk_ns_iff {d : Str} {ae : Bool} {sp : Str} :
    splitOk d false ae sp = true ↔ sp ≠ [] ∧ (∀ c ∈ sp, inSet d c = true) ∧ (ae = true → sp.length = 1) := by
  cases ae <;> simp [splitOk, and_assoc]

/-- what a loop of the constructor (non-solid or solid) entered at `index` returns: the pieces give
back the text from `index` on, with a separator after every token but possibly the last, and are
tokens and separators in the sense of the law -/
structure LoopPost (s d : Str) (solid ae : Bool) (index : Nat) (ts ss : List Str) : Prop where
  join : interleave ts ss = s.drop index
  count : ts.length = ss.length + 1 ∨ (solid = false ∧ ae = false ∧ ts.length = ss.length)
  ne : ts ≠ []
  toks : ∀ t ∈ ts, tokenOk d solid ae t = true
  seps : ∀ sp ∈ ss, splitOk d solid ae sp = true

theorem LoopPost.last {s d : Str} {solid ae : Bool} {index : Nat}
    (ht : tokenOk d solid ae (s.drop index) = true) : LoopPost s d solid ae index [s.drop index] [] :=
  ⟨List.append_nil _, Or.inl rfl, List.cons_ne_nil _ _, List.forall_mem_cons.mpr ⟨ht, nofun⟩, nofun⟩

theorem LoopPost.cons {s d : Str} {solid ae : Bool} {index n i : Nat} {ts ss : List Str}
    (hin : index ≤ n) (hni : n ≤ i) (ht : tokenOk d solid ae ((s.drop index).take (n - index)) = true)
    (hsp : splitOk d solid ae ((s.drop n).take (i - n)) = true) (post : LoopPost s d solid ae i ts ss) :
    LoopPost s d solid ae index ((s.drop index).take (n - index) :: ts) ((s.drop n).take (i - n) :: ss) where
  join := by
    simp only [interleave]
    rw [post.join, List.append_assoc, take_sub_append_drop s hni, take_sub_append_drop s hin]
  count := post.count.imp (congrArg (· + 1)) (fun h => ⟨h.1, h.2.1, congrArg (· + 1) h.2.2⟩)
  ne := List.cons_ne_nil _ _
  toks := List.forall_mem_cons.mpr ⟨ht, post.toks⟩
  seps := List.forall_mem_cons.mpr ⟨hsp, post.seps⟩

/-! ### the non-solid loop (StringTokenizer.cpp:18-35) -/

/-- entered at a non-delimiter (as the constructor and the loop itself do when empty tokens are not
allowed), the loop returns pieces as `LoopPost` says -/
theorem nsLoop_post (s d : Str) (ae : Bool) (hs : StrOk s) (fuel index : Nat)
    (hi : index ≤ s.length) (hf : s.length - index + 1 ≤ fuel)
    (hpre : ae = false → ∃ c, s[index]? = some c ∧ inSet d c = false) :
    ∃ ts ss, nsLoop s d ae fuel index = .ok (ts, ss) ∧ LoopPost s d false ae index ts ss := by
  induction fuel generalizing index with
  | zero => exact absurd hf (Nat.not_succ_le_zero _)
  | succ fuel ih =>
    unfold nsLoop
    cases h : findFirstOf d s index with
    | none =>
      refine ⟨_, _, by simp only [substrFrom_ok hi, bind_ok, pure_eq_ok], LoopPost.last ?_⟩
      refine tokenOk_ns_iff.mpr ⟨findFirstOf_none h, fun hae e => ?_⟩
      obtain ⟨c, hc, _⟩ := hpre hae
      rw [drop_eq_cons_of_getElem? hc] at e
      cases e
    | some n =>
      obtain ⟨hin, hn, htok, cn, hcn, hcd⟩ := findFirstOf_some h
      have ht : tokenOk d false ae ((s.drop index).take (n - index)) = true :=
        tokenOk_ns_iff.mpr ⟨htok, fun hae => piece_ne_nil s (findFirstOf_gt h (hpre hae)) (Nat.le_of_lt hn)⟩
      simp only [substr_piece hs hin (Nat.le_of_lt hn), bind_ok]
      cases ae with
      | true =>
        -- the separator is the delimiter found
        have hw1 : wadd n 1 = n + 1 := wadd_pos hs (Nat.le_of_lt hn) (Nat.lt_of_le_of_lt (Nat.zero_le n) hn)
        obtain ⟨ts, ss, e, post⟩ := ih (n + 1) hn (fuel_step hf (Nat.lt_succ_of_le hin) hn) nofun
        refine ⟨_, _, ?_, LoopPost.cons hin (Nat.le_succ n) ht ?_ post⟩
        · simp only [Bool.not_true, Bool.false_eq_true, if_false, hw1, toSz, substr_piece hs (Nat.le_succ n) hn,
            bind_ok, e, pure_eq_ok]
        · rw [piece_succ hcn]
          exact splitOk_ns_iff.mpr ⟨List.cons_ne_nil _ _, List.forall_mem_cons.mpr ⟨hcd, nofun⟩, fun _ => rfl⟩
      | false =>
        simp only [Bool.not_false, if_true]
        cases h' : findFirstNotOf d s n with
        | none =>
          -- delimiters to the end: a last separator without a token after it
          have hsp : splitOk d false false (s.drop n) = true := by
            refine splitOk_ns_iff.mpr ⟨?_, findFirstNotOf_none h', nofun⟩
            rw [drop_eq_cons_of_getElem? hcn]
            exact List.cons_ne_nil _ _
          refine ⟨[(s.drop index).take (n - index)], [s.drop n], by simp only [substr_rest hs (Nat.le_of_lt hn), bind_ok, pure_eq_ok], ?_,
            Or.inr ⟨rfl, rfl, rfl⟩,
            List.cons_ne_nil _ _, List.forall_mem_cons.mpr ⟨ht, nofun⟩, List.forall_mem_cons.mpr ⟨hsp, nofun⟩⟩
          simp only [interleave, List.append_nil]
          exact take_sub_append_drop s hin
        | some i =>
          -- the separator is the run of delimiters up to the next non-delimiter
          obtain ⟨_, hi', hrun, hci⟩ := findFirstNotOf_some h'
          have hni := findFirstNotOf_after h h'
          obtain ⟨ts, ss, e, post⟩ := ih i (Nat.le_of_lt hi')
            (fuel_step hf (Nat.lt_of_le_of_lt hin hni) (Nat.le_of_lt hi')) (fun _ => hci)
          refine ⟨_, _, ?_, LoopPost.cons hin (Nat.le_of_lt hni) ht ?_ post⟩
          · simp only [toSz, substr_piece hs (Nat.le_of_lt hni) (Nat.le_of_lt hi'), bind_ok, e, pure_eq_ok]
          · exact splitOk_ns_iff.mpr ⟨piece_ne_nil s hni (Nat.le_of_lt hi'), hrun, nofun⟩

/-! ### the solid loop (StringTokenizer.cpp:41-63) -/

open Bpp.Text.Glob in
theorem find_some_take {g r : Str} {k : Nat} (hg : g ≠ []) (h : find g r = some k) :
    (r.drop k).take g.length = g ∧ find g (r.take k) = none := by
  have hnil : find g [] = none := by simp [find, hg]
  induction r generalizing k with
  | nil => rw [hnil] at h; cases h
  | cons c s ih =>
    rw [find] at h
    split at h
    · cases h
      obtain ⟨t, ht⟩ := isPrefix_iff.mp ‹_›
      exact ⟨by rw [List.drop_zero, ht, List.take_left' rfl], hnil⟩
    · obtain ⟨j, hj, rfl⟩ := Option.map_eq_some_iff.mp h
      obtain ⟨h1, h2⟩ := ih hj
      refine ⟨h1, ?_⟩
      rw [List.take_succ_cons, find, h2, if_neg]
      · rfl
      · intro hp
        obtain ⟨t, ht⟩ := isPrefix_iff.mp hp
        exact ‹¬ _› (isPrefix_iff.mpr ⟨t ++ s.drop j,
          by rw [← List.append_assoc, ← ht, List.cons_append, List.take_append_drop]⟩)

theorem findFrom_some {d s : Str} {index n : Nat} (hd : d ≠ []) (h : findFrom d s index = some n) :
    index ≤ n ∧ n + d.length ≤ s.length ∧ (s.drop n).take (n + d.length - n) = d ∧
      find d ((s.drop index).take (n - index)) = none := by
  obtain ⟨hin, hn⟩ := findFrom_bounds h
  unfold findFrom at h
  split at h
  · obtain ⟨j, hj, rfl⟩ := Option.map_eq_some_iff.mp h
    obtain ⟨h1, h2⟩ := find_some_take hd hj
    rw [List.drop_drop, Nat.add_comm] at h1
    exact ⟨hin, hn, by rw [Nat.add_sub_cancel_left]; exact h1, by rw [Nat.add_sub_cancel]; exact h2⟩
  · cases h

theorem findFrom_none {d s : Str} {index : Nat} (hi : index ≤ s.length) (h : findFrom d s index = none) :
    find d (s.drop index) = none := by
  unfold findFrom at h
  rw [if_pos hi] at h
  exact Option.map_eq_none_iff.mp h

theorem repeatStr_length (d : Str) (m : Nat) : (repeatStr d m).length = m * d.length := by
  induction m with
  | zero => simp [repeatStr]
  | succ m ih => simp [repeatStr, ih, Nat.succ_mul]; omega

theorem isRepeat_repeatStr (d : Str) (hd : d ≠ []) (m : Nat) (hm : 0 < m) : isRepeat d (repeatStr d m) = true := by
  have hdl : 0 < d.length := List.length_pos_iff.mpr hd
  have hl := repeatStr_length d m
  have hne : repeatStr d m ≠ [] := by
    intro e; rw [e] at hl; simp only [List.length_nil] at hl
    have : 0 < m * d.length := Nat.mul_pos hm hdl
    omega
  unfold isRepeat
  rw [hl, Nat.mul_div_cancel _ hdl]
  simp [hne, hd]

theorem piece_repeat {s d : Str} {n r m : Nat} (hr : n + d.length ≤ r)
    (h0 : (s.drop n).take (n + d.length - n) = d)
    (hm : (s.drop (n + d.length)).take (r - (n + d.length)) = repeatStr d m) :
    (s.drop n).take (r - n) = repeatStr d (m + 1) := by
  have : r - n = d.length + (r - (n + d.length)) := by omega
  rw [Nat.add_sub_cancel_left] at h0
  rw [this, List.take_add, h0, List.drop_drop, hm]
  rfl

/-- the inner loop :51-52 has skipped whole copies of the delimiter -/
theorem skipSolid_post (s d : Str) (hd : d ≠ []) (hs : StrOk s) (fuel idx : Nat)
    (hi : idx ≤ s.length) (hf : s.length - idx + 1 ≤ fuel) :
    ∃ r, skipSolid s d fuel idx = .ok r ∧ idx ≤ r ∧ r ≤ s.length ∧
      ∃ m, (s.drop idx).take (r - idx) = repeatStr d m := by
  induction fuel generalizing idx with
  | zero => exact absurd hf (Nat.not_succ_le_zero _)
  | succ fuel ih =>
    unfold skipSolid
    simp only [substr_ok _ hi, bind_ok]
    by_cases e : ((s.drop idx).take d.length == d) = true
    · have e' : (s.drop idx).take d.length = d := eq_of_beq e
      have hdl : 0 < d.length := List.length_pos_iff.mpr hd
      have hl : idx + d.length ≤ s.length := by
        have := congrArg List.length e'
        simp only [List.length_take, List.length_drop] at this
        omega
      have hw : wadd idx d.length = idx + d.length := wadd_pos hs hi (Nat.le_trans (Nat.le_add_left _ _) hl)
      obtain ⟨r, e1, h1, h2, m, hm⟩ := ih (idx + d.length) hl (fuel_step hf (Nat.lt_add_of_pos_right hdl) hl)
      refine ⟨r, by simp only [e, if_true, hw, e1], Nat.le_trans (Nat.le_add_right _ _) h1, h2, m + 1, ?_⟩
      exact piece_repeat h1 (by rwa [Nat.add_sub_cancel_left]) hm
    · exact ⟨idx, by simp only [e, Bool.false_eq_true, if_false, pure_eq_ok], Nat.le_refl _, hi, 0,
        by rw [Nat.sub_self]; rfl⟩

theorem solidLoop_post (s d : Str) (ae : Bool) (hd : d ≠ []) (hs : StrOk s) (fuel index : Nat)
    (hi : index ≤ s.length) (hf : s.length - index + 1 ≤ fuel) :
    ∃ ts ss, solidLoop s d ae fuel index = .ok (ts, ss) ∧ LoopPost s d true ae index ts ss := by
  have hdl : 0 < d.length := List.length_pos_iff.mpr hd
  induction fuel generalizing index with
  | zero => exact absurd hf (Nat.not_succ_le_zero _)
  | succ fuel ih =>
    unfold solidLoop
    cases h : findFrom d s index with
    | none =>
      refine ⟨_, _, by simp only [substrFrom_ok hi, bind_ok, pure_eq_ok], LoopPost.last ?_⟩
      simp only [tokenOk, if_true, findFrom_none hi h, Option.isNone_none]
    | some n =>
      obtain ⟨hin, hn, hfound, hfree⟩ := findFrom_some hd h
      have hw1 : wadd n d.length = n + d.length :=
        wadd_pos hs (Nat.le_trans (Nat.le_add_right _ _) hn) (Nat.le_trans (Nat.le_add_left _ _) hn)
      have ht : tokenOk d true ae ((s.drop index).take (n - index)) = true := by
        simp only [tokenOk, if_true, hfree, Option.isNone_none]
      -- the separator runs from `n` to where the next token starts, `i`: `m + 1` copies of `d`
      have key : ∀ i m, n + d.length ≤ i → i ≤ s.length →
          (s.drop (n + d.length)).take (i - (n + d.length)) = repeatStr d m → (ae = true → m = 0) →
          ∃ ts ss, (do
            let sp ← substr s n (wsub i n)
            let (ts, ss) ← solidLoop s d ae fuel i
            pure ((s.drop index).take (n - index) :: ts, sp :: ss) : R (List Str × List Str)) = .ok (ts, ss) ∧
            LoopPost s d true ae index ts ss := by
        intro i m h1 h2 hm hae
        have hni : n < i := Nat.lt_of_lt_of_le (Nat.lt_add_of_pos_right hdl) h1
        obtain ⟨ts, ss, e, post⟩ := ih i h2 (fuel_step hf (Nat.lt_of_le_of_lt hin hni) h2)
        refine ⟨_, _, ?_, LoopPost.cons hin (Nat.le_of_lt hni) ht ?_ post⟩
        · simp only [substr_piece hs (Nat.le_of_lt hni) h2, bind_ok, e, pure_eq_ok]
        · rw [piece_repeat h1 hfound hm]
          cases ae with
          | true => simp [splitOk, hae rfl, repeatStr]
          | false => exact isRepeat_repeatStr d hd (m + 1) (Nat.succ_pos m)
      simp only [substr_piece hs hin (Nat.le_trans (Nat.le_add_right _ _) hn), bind_ok, hw1]
      cases ae with
      | true =>
        simp only [Bool.not_true, Bool.false_eq_true, if_false, pure_eq_ok, bind_ok]
        exact key _ 0 (Nat.le_refl _) hn (by rw [Nat.sub_self]; rfl) (fun _ => rfl)
      | false =>
        obtain ⟨r, e, h1, h2, m, hm⟩ := skipSolid_post s d hd hs (s.length + 2) (n + d.length) hn (by omega)
        simp only [Bool.not_false, if_true, e, bind_ok]
        exact key r m h1 h2 hm nofun

/-! ### the pieces are disjoint parts of the text -/

theorem length_interleave (ts ss : List Str) (h : ts.length = ss.length + 1 ∨ ts.length = ss.length) :
    (interleave ts ss).length = sumLen ts + sumLen ss := by
  induction ts generalizing ss with
  | nil =>
    rcases h with h | h
    · cases h
    · rw [List.eq_nil_of_length_eq_zero h.symm]; rfl
  | cons t ts ih =>
    cases ss with
    | nil =>
      rcases h with h | h
      · rw [List.eq_nil_of_length_eq_zero (Nat.succ.inj h)]; simp [interleave]
      · cases h
    | cons sp ss =>
      simp only [List.length_cons, Nat.add_right_cancel_iff] at h
      simp only [interleave, List.length_append, sumLen_cons, ih ss h]
      omega

theorem length_interleave_le (ts ss : List Str) : (interleave ts ss).length ≤ sumLen ts + sumLen ss := by
  induction ts generalizing ss with
  | nil => exact Nat.zero_le _
  | cons t ts ih =>
    cases ss with
    | nil => have := ih []; simp only [interleave, List.length_append, sumLen_cons, sumLen_nil] at this ⊢; omega
    | cons sp ss => have := ih ss; simp only [interleave, List.length_append, sumLen_cons]; omega

@[simp] theorem interleave_nil (ss : List Str) : interleave [] ss = [] := by
  cases ss <;> rfl

/-- the one law of re-joining: a block of tokens takes as many separators as it has tokens -/
theorem interleave_append (A B S : List Str) :
    interleave (A ++ B) S = interleave A S ++ interleave B (S.drop A.length) := by
  induction A generalizing S with
  | nil => simp
  | cons a A ih => cases S <;> simp [interleave, ih]

/-- separators beyond the tokens are not used -/
theorem interleave_take_le (A S : List Str) {n : Nat} (h : A.length ≤ n) :
    interleave A (S.take n) = interleave A S := by
  induction A generalizing S n with
  | nil => simp
  | cons a A ih =>
    obtain ⟨n, rfl⟩ : ∃ m, n = m + 1 := ⟨n - 1, by simp only [List.length_cons] at h; omega⟩
    cases S <;> simp [interleave, ih _ (Nat.le_of_succ_le_succ h)]

/-- what `k` calls of `nextToken()` consume is the re-joining of the first `k` tokens -/
theorem consumed_eq (k : Nat) (ts ss : List Str) : consumed k ts ss = interleave (ts.take k) ss := by
  induction k generalizing ts ss with
  | zero => simp [consumed]
  | succ k ih => cases ts <;> cases ss <;> simp [consumed, interleave, ih]

/-- re-joining up to the last token, the last token, the separator recorded after it (if any) -/
theorem interleave_last (ts S : List Str) (hne : ts ≠ []) :
    interleave ts S = interleave ts.dropLast S ++ ts.getLast hne
      ++ (match S.drop (ts.length - 1) with | [] => [] | sp :: _ => sp) := by
  conv => lhs; rw [← List.dropLast_concat_getLast hne]
  rw [interleave_append, List.length_dropLast]
  cases S.drop (ts.length - 1) <;> simp [interleave]

/-- … with the separators cut off after the last gap, that separator is left out -/
theorem interleave_gaps (ts S : List Str) (hne : ts ≠ []) :
    interleave ts (S.take (ts.length - 1)) = interleave ts.dropLast S ++ ts.getLast hne := by
  rw [interleave_last _ _ hne, List.drop_take_self, interleave_take_le _ _ (by rw [List.length_dropLast]; exact Nat.le_refl _),
    List.append_nil]

theorem splitOk_ne_nil {d : Str} {solid ae : Bool} {sp : Str} (hd : solid = true → d ≠ [])
    (h : splitOk d solid ae sp = true) : sp ≠ [] := by
  rintro rfl
  cases solid with
  | false => simp [splitOk] at h
  | true => cases ae <;> simp [splitOk, isRepeat] at h; exact hd rfl h

theorem le_sumLen_of_ne_nil (ss : List Str) (h : ∀ sp ∈ ss, sp ≠ []) : ss.length ≤ sumLen ss := by
  induction ss with
  | nil => exact Nat.le_refl _
  | cons a r ih =>
    have := List.length_pos_iff.mpr (h a (List.mem_cons_self ..))
    have := ih (fun sp hsp => h sp (List.mem_cons_of_mem _ hsp))
    simp only [List.length_cons, sumLen_cons]; omega

/-- the pieces are disjoint parts of the text: their lengths add up to what was left of it -/
theorem LoopPost.size {s d : Str} {solid ae : Bool} {index : Nat} {ts ss : List Str}
    (post : LoopPost s d solid ae index ts ss) (hd : solid = true → d ≠ []) :
    sumLen ts + sumLen ss = s.length - index ∧ ts.length ≤ ss.length + 1 ∧ ts.length ≤ s.length - index + 1 := by
  have hc : ts.length = ss.length + 1 ∨ ts.length = ss.length := post.count.imp_right (·.2.2)
  have h1 := length_interleave ts ss hc
  rw [post.join, List.length_drop] at h1
  have h2 := le_sumLen_of_ne_nil ss (fun sp hsp => splitOk_ne_nil hd (post.seps sp hsp))
  omega

theorem exists_snoc {α : Type} (l : List α) (h : l ≠ []) : ∃ X x, l = X ++ [x] ∧ x ∈ l :=
  ⟨l.dropLast, l.getLast h, (List.dropLast_concat_getLast h).symm, List.getLast_mem h⟩

/-! ### the StringTokenizer constructor -/

theorem wf_of_count (ts ss : List Str) (h : ts.length ≤ ss.length + 1) (h2 : ts.length < SZ) :
    (⟨ts, ss, 0⟩ : Tokenizer).WF := ⟨Nat.zero_le _, h, h2⟩

/-- what a tokenizer constructor leaves on the text `s`: a well-formed object before its first token, whose tokens
and separators are disjoint pieces of `s` -/
structure _root_.Bpp.Text.U.Tokenizer.Built (s : Str) (t : Tokenizer) : Prop where
  wf : t.WF
  pos : t.pos = 0
  size : sumLen t.tokens + sumLen t.splits ≤ s.length
  count : t.tokens.length ≤ s.length + 1

theorem _root_.Bpp.Text.U.Tokenizer.Built.nil {s : Str} : Tokenizer.Built s ⟨[], [], 0⟩ :=
  ⟨wf_of_count [] [] (Nat.zero_le _) (by decide), rfl, Nat.zero_le _, Nat.zero_le _⟩

/-- pieces whose lengths add up to the text behind `index` (`LoopPost.size`, `NestPost.size`) -/
theorem _root_.Bpp.Text.U.Tokenizer.Built.of_size {s : Str} {ts ss : List Str} {index : Nat} (hs : StrOk s)
    (h : sumLen ts + sumLen ss = s.length - index ∧ ts.length ≤ ss.length + 1 ∧ ts.length ≤ s.length - index + 1) :
    Tokenizer.Built s ⟨ts, ss, 0⟩ :=
  have hc : ts.length ≤ s.length + 1 := Nat.le_trans h.2.2 (Nat.succ_le_succ (Nat.sub_le _ _))
  ⟨wf_of_count ts ss h.2.1 (Nat.lt_of_le_of_lt hc (Nat.lt_of_le_of_lt (Nat.add_le_add_left (by decide) _) hs.lt_SZ)),
    rfl, Nat.le_trans (Nat.le_of_eq h.1) (Nat.sub_le _ _), hc⟩

/-- **what the constructor does**: it returns unless the mode is solid and the delimiter empty —
nothing on a text of delimiters only (non-solid), else what its loop returns, entered at the first
non-delimiter (solid: at 0) -/
theorem mkTokenizer_post (s d : Str) (solid ae : Bool) (hs : StrOk s) (hd : ¬ (solid = true ∧ d = [])) :
    ∃ ts ss, mkTokenizer s d solid ae = .ok ⟨ts, ss, 0⟩ ∧
      ((solid = false ∧ findFirstNotOf d s 0 = none ∧ ts = [] ∧ ss = []) ∨
      ∃ index, (if solid then index = 0 else findFirstNotOf d s 0 = some index) ∧
        LoopPost s d solid ae index ts ss) := by
  cases solid with
  | false =>
    cases hf : findFirstNotOf d s 0 with
    | none =>
      exact ⟨[], [], by simp only [mkTokenizer, mkTokenizerG, Bool.not_false, if_true, hf],
        Or.inl ⟨rfl, rfl, rfl, rfl⟩⟩
    | some index =>
      obtain ⟨_, hidx, _, hci⟩ := findFirstNotOf_some hf
      obtain ⟨ts, ss, e, post⟩ := nsLoop_post s d ae hs (loopFuel s) index (Nat.le_of_lt hidx)
        (by unfold loopFuel; omega) (fun _ => hci)
      exact ⟨ts, ss, by simp only [mkTokenizer, mkTokenizerG, Bool.not_false, if_true, hf, e, bind_ok, pure_eq_ok],
        Or.inr ⟨index, rfl, post⟩⟩
  | true =>
    have hd' : d ≠ [] := fun e => hd ⟨rfl, e⟩
    obtain ⟨ts, ss, e, post⟩ := solidLoop_post s d ae hd' hs (loopFuel s) 0 (Nat.zero_le _)
      (by unfold loopFuel; omega)
    exact ⟨ts, ss, by simp only [mkTokenizer, mkTokenizerG, Bool.not_true, Bool.false_eq_true, if_false, Bool.true_and,
      List.isEmpty_iff, hd', e, bind_ok, pure_eq_ok], Or.inr ⟨0, rfl, post⟩⟩

theorem mkTokenizer_built {s d : Str} {solid ae : Bool} (hs : StrOk s) {T : Tokenizer}
    (h : mkTokenizer s d solid ae = .ok T) : T.Built s := by
  by_cases hd : solid = true ∧ d = []
  · obtain ⟨rfl, rfl⟩ := hd
    cases (show mkTokenizer s [] true ae = .error .bpp from rfl).symm.trans h
  · obtain ⟨ts, ss, e, hp⟩ := mkTokenizer_post s d solid ae hs hd
    cases e.symm.trans h
    rcases hp with ⟨_, _, rfl, rfl⟩ | ⟨index, _, post⟩
    · exact .nil
    · exact .of_size hs (post.size fun e hd' => hd ⟨e, hd'⟩)

/-! ## NestedStringTokenizer -/

theorem strOk_of_int {s : Str} (hs : s.length < 2147483648) : StrOk s := by
  unfold StrOk maxStr; omega

/-- the change of the bracket counter over a piece:
`blocks += (int)count(token, open) - (int)count(token, end)` (:32) -/
def gain (op en t : Str) : Int := ((count t op : Nat) : Int) - ((count t en : Nat) : Int)

theorem gain_nil (op en : Str) : gain op en [] = 0 := rfl

/-- the counter update returns: the counter stays within the number of characters read, which an
`int` holds for a text shorter than 2^31 -/
theorem blocksUpd_ok (blocks : Int) (token op en : Str) (B B' : Nat) (h1 : -(B : Int) ≤ blocks)
    (h2 : blocks ≤ B) (hB : B + token.length ≤ B') (hB' : B' < 2147483648) :
    blocksUpd blocks token op en = .ok (blocks + gain op en token) ∧
      -(B' : Int) ≤ blocks + gain op en token ∧ blocks + gain op en token ≤ B' := by
  have c1 := countSub_le op token
  have c2 := countSub_le en token
  have e : blocks + gain op en token
      = blocks + ((count token op : Nat) : Int) - ((count token en : Nat) : Int) := by unfold gain; omega
  rw [e]
  unfold blocksUpd count
  exact ⟨intRes_ok (by unfold intMin; omega) (by unfold intMax; omega), by omega, by omega⟩

/-- a token cut with the bracket counter at `b`: pieces accepted by `P`, joined by single delimiter
characters; the counter (`w` = its change over a piece) is non-zero at every joint and zero at the
end -/
inductive Balanced (d : Str) (w : Str → Int) (P : Str → Prop) : Int → Str → Prop
  | last {b : Int} {p : Str} : P p → b + w p = 0 → Balanced d w P b p
  | cut {b : Int} {p r : Str} {x : Char} : P p → inSet d x = true → b + w p ≠ 0 →
      Balanced d w P (b + w p) r → Balanced d w P b (p ++ x :: r)

/-- what a loop (non-solid or solid) entered at `index` with the counter at `blocks` and the token
under construction `cache` returns, when it returns (the pieces between two hits of the search are
free of delimiters in non-solid mode) -/
structure NestPost (s d : Str) (w : Str → Int) (solid : Bool) (index : Nat) (blocks : Int)
    (cache : Str) (ts ss : List Str) : Prop where
  join : interleave ts ss = cache ++ s.drop index
  seps : ∀ sp ∈ ss, (solid = true → sp = d) ∧ (solid = false → sp ≠ [] ∧ ∀ c ∈ sp, inSet d c = true)
  count : ts.length = ss.length + 1 ∨ (solid = false ∧ ts.length = ss.length)
  toks : ∃ t ts', ts = (cache ++ t) :: ts' ∧
    Balanced d w (fun p => solid = false → ∀ x ∈ p, inSet d x = false) blocks t ∧
    ∀ t' ∈ ts', Balanced d w (fun p => solid = false → ∀ x ∈ p, inSet d x = false) 0 t'
  ends : solid = false → ∀ t ∈ ts, ∃ X x, t = X ++ [x] ∧ inSet d x = false

section
variable {s d : Str} {w : Str → Int} {solid : Bool} {index : Nat} {blocks : Int} {cache : Str}
  {ts ss : List Str}

theorem NestPost.ne (post : NestPost s d w solid index blocks cache ts ss) : ts ≠ [] := by
  obtain ⟨_, _, e, _⟩ := post.toks
  rw [e]; exact List.cons_ne_nil _ _

theorem NestPost.last {t : Str} (hj : interleave [t] ss = s.drop index)
    (hss : ss = [] ∨ solid = false ∧ ∃ sp, ss = [sp])
    (hsp : ∀ sp ∈ ss, (solid = true → sp = d) ∧ (solid = false → sp ≠ [] ∧ ∀ c ∈ sp, inSet d c = true))
    (hp : solid = false → ∀ x ∈ t, inSet d x = false) (hb : blocks + w t = 0) (hend : solid = false → ∃ X x, cache ++ t = X ++ [x] ∧ inSet d x = false) :
    NestPost s d w solid index blocks cache [cache ++ t] ss where
  join := by
    rw [← hj]
    rcases hss with rfl | ⟨_, sp, rfl⟩ <;> simp [interleave]
  seps := hsp
  count := by
    rcases hss with rfl | ⟨h, sp, rfl⟩
    · exact Or.inl rfl
    · exact Or.inr ⟨h, rfl⟩
  toks := ⟨t, [], rfl, .last hp hb, nofun⟩
  ends := fun h => List.forall_mem_cons.mpr ⟨hend h, nofun⟩

theorem NestPost.cons {i : Nat} {t sp : Str} (hj : t ++ (sp ++ s.drop i) = s.drop index)
    (hsp : (solid = true → sp = d) ∧ (solid = false → sp ≠ [] ∧ ∀ c ∈ sp, inSet d c = true))
    (hp : solid = false → ∀ x ∈ t, inSet d x = false) (hb : blocks + w t = 0) (hend : solid = false → ∃ X x, cache ++ t = X ++ [x] ∧ inSet d x = false)
    (post : NestPost s d w solid i 0 [] ts ss) :
    NestPost s d w solid index blocks cache ((cache ++ t) :: ts) (sp :: ss) where
  join := by
    simp only [interleave, post.join, List.nil_append, List.append_assoc]
    rw [hj]
  seps := List.forall_mem_cons.mpr ⟨hsp, post.seps⟩
  count := post.count.imp (congrArg (· + 1)) (fun h => ⟨h.1, congrArg (· + 1) h.2⟩)
  toks := by
    obtain ⟨t0, ts', rfl, h0, hrest⟩ := post.toks
    exact ⟨t, _, rfl, .last hp hb, List.forall_mem_cons.mpr ⟨h0, hrest⟩⟩
  ends := fun h => List.forall_mem_cons.mpr ⟨hend h, post.ends h⟩

theorem piece_snoc {n : Nat} {x : Char} (hin : index ≤ n) (hx : s[n]? = some x) :
    (s.drop index).take (n - index + 1) = (s.drop index).take (n - index) ++ [x] := by
  rw [List.take_add, List.drop_drop, Nat.add_sub_cancel' hin, drop_eq_cons_of_getElem? hx]
  rfl

/-- the token under construction is not closed by the piece up to `n`: the delimiter `x` found there
goes into it and the loop goes on behind it -/
theorem NestPost.glue {n : Nat} {x : Char} (hin : index ≤ n) (hx : s[n]? = some x) (hd : inSet d x = true)
    (hp : solid = false → ∀ x ∈ (s.drop index).take (n - index), inSet d x = false) (hb : blocks + w ((s.drop index).take (n - index)) ≠ 0)
    (post : NestPost s d w solid (n + 1) (blocks + w ((s.drop index).take (n - index)))
      (cache ++ (s.drop index).take (n - index + 1)) ts ss) :
    NestPost s d w solid index blocks cache ts ss where
  join := by
    rw [post.join, piece_snoc hin hx, List.append_assoc, List.append_assoc, List.singleton_append,
      ← drop_eq_cons_of_getElem? hx, take_sub_append_drop s hin]
  seps := post.seps
  count := post.count
  toks := by
    obtain ⟨t, ts', e, h0, hrest⟩ := post.toks
    refine ⟨_, ts', ?_, .cut hp hd hb h0, hrest⟩
    rw [e, piece_snoc hin hx, List.append_assoc, List.append_assoc, List.singleton_append]
  ends := post.ends

theorem ends_of_free {t : Str} (hne : t ≠ []) (hfree : ∀ x ∈ t, inSet d x = false) :
    ∃ X x, cache ++ t = X ++ [x] ∧ inSet d x = false := by
  obtain ⟨X, x, hx, hxm⟩ := exists_snoc t hne
  exact ⟨cache ++ X, x, by rw [hx, List.append_assoc], hfree x hxm⟩

end

theorem NestPost.size {s d : Str} {w : Str → Int} {solid : Bool} {index : Nat} {blocks : Int} {cache : Str}
    {ts ss : List Str} (post : NestPost s d w solid index blocks cache ts ss) (hd : solid = true → d ≠ []) :
    sumLen ts + sumLen ss = cache.length + (s.length - index) ∧ ts.length ≤ ss.length + 1 ∧
      ts.length ≤ cache.length + (s.length - index) + 1 := by
  have hc : ts.length = ss.length + 1 ∨ ts.length = ss.length := post.count.imp_right (·.2)
  have h1 := length_interleave ts ss hc
  rw [post.join, List.length_append, List.length_drop] at h1
  have h2 := le_sumLen_of_ne_nil ss (fun sp hsp => by
    cases solid with
    | false => exact ((post.seps sp hsp).2 rfl).1
    | true => rw [(post.seps sp hsp).1 rfl]; exact hd rfl)
  omega

/-! ### the non-solid loop (NestedStringTokenizer.cpp:22-66) -/

/-- entered at a non-delimiter when a new token starts (`blocks = 0`), with the counter within the
`B ≤ index` characters read so far: the loop returns or raises "Unclosed block" -/
theorem nestNs_post (s op en d : Str) (hs : s.length < 2147483648) (fuel index B : Nat) (blocks : Int)
    (cache : Str) (hi : index ≤ s.length) (hf : s.length < index + fuel) (hB : B ≤ index)
    (hb1 : -(B : Int) ≤ blocks) (hb2 : blocks ≤ B)
    (hpre : blocks = 0 → ∃ c, s[index]? = some c ∧ inSet d c = false) :
    Returns (nestNs s op en d fuel index (findFirstOf d s index) blocks cache)
      fun p => NestPost s d (gain op en) false index blocks cache p.1 p.2 := by
  have hso := strOk_of_int hs
  induction fuel generalizing index B blocks cache with
  | zero => exact absurd hf (Nat.not_lt_of_le hi)
  | succ fuel ih =>
    cases h0 : findFirstOf d s index with
    | none =>
      obtain ⟨eb, _⟩ := blocksUpd_ok blocks (s.drop index) op en B s.length hb1 hb2
        (by rw [List.length_drop]; omega) hs
      unfold nestNs
      rw [substrFrom_ok hi, bind_ok, eb, bind_ok]
      by_cases hz : (blocks + gain op en (s.drop index) == 0) = true
      · rw [if_pos hz]
        have hb0 := eq_of_beq hz
        refine .ok (NestPost.last (List.append_nil _) (Or.inl rfl) nofun (fun _ => findFirstOf_none h0) hb0
          (fun _ => ends_of_free (fun e => ?_) (findFirstOf_none h0)))
        -- an empty last piece leaves the counter as it was, 0: but then the loop was entered at a character
        rw [e, gain_nil, Int.add_zero] at hb0
        obtain ⟨c, hc, _⟩ := hpre hb0
        rw [drop_eq_cons_of_getElem? hc] at e
        cases e
      · rw [if_neg hz]; exact .bpp
    | some n =>
      obtain ⟨hin, hn, htok, cn, hcn, hcd⟩ := findFirstOf_some h0
      obtain ⟨eb, hb1', hb2'⟩ := blocksUpd_ok blocks ((s.drop index).take (n - index)) op en B n hb1 hb2
        (by rw [List.length_take, List.length_drop]; omega) (Nat.lt_trans hn hs)
      unfold nestNs
      simp only [substr_piece hso hin (Nat.le_of_lt hn), bind_ok, eb]
      by_cases hz : (blocks + gain op en ((s.drop index).take (n - index)) == 0) = true
      · simp only [hz, if_true]
        have hb0 := eq_of_beq hz
        -- the piece that closes the token is not empty: the counter was 0, the loop entered at a non-delimiter
        have hend : ∃ X x, cache ++ (s.drop index).take (n - index) = X ++ [x] ∧ inSet d x = false := by
          refine ends_of_free (fun e => ?_) htok
          rw [e, gain_nil, Int.add_zero] at hb0
          exact piece_ne_nil s (findFirstOf_gt h0 (hpre hb0)) (Nat.le_of_lt hn) e
        cases h' : findFirstNotOf d s n with
        | none =>
          simp only [substr_rest hso (Nat.le_of_lt hn), bind_ok, pure_eq_ok]
          refine .ok (NestPost.last ?_ (Or.inr ⟨rfl, _, rfl⟩)
            (List.forall_mem_cons.mpr ⟨⟨nofun, fun _ => ⟨?_, findFirstNotOf_none h'⟩⟩, nofun⟩)
            (fun _ => htok) hb0 (fun _ => hend))
          · simp only [interleave, List.append_nil]
            exact take_sub_append_drop s hin
          · rw [drop_eq_cons_of_getElem? hcn]; exact List.cons_ne_nil _ _
        | some i =>
          obtain ⟨_, hi', hrun, hci⟩ := findFirstNotOf_some h'
          have hni := findFirstNotOf_after h0 h'
          simp only [toSz, substr_piece hso (Nat.le_of_lt hni) (Nat.le_of_lt hi'), bind_ok]
          refine (ih i 0 0 [] (Nat.le_of_lt hi') (by omega) (Nat.zero_le _) (Int.le_refl _) (Int.le_refl _)
            (fun _ => hci)).bind fun ⟨ts', ss'⟩ post => .ok (NestPost.cons ?_
              ⟨nofun, fun _ => ⟨piece_ne_nil s hni (Nat.le_of_lt hi'), hrun⟩⟩ (fun _ => htok) hb0 (fun _ => hend) post)
          rw [take_sub_append_drop s (Nat.le_of_lt hni), take_sub_append_drop s hin]
      · have h1 : 1 ≤ s.length := Nat.lt_of_le_of_lt (Nat.zero_le n) hn
        simp only [hz, Bool.false_eq_true, if_false, wsub_pos hso hin (Nat.le_of_lt hn), wadd_pos hso (Nat.le_of_lt hn) h1,
          wadd_pos hso (Nat.le_trans (Nat.sub_le _ _) (Nat.le_of_lt hn)) h1, substr_ok _ hi, bind_ok]
        have hb0 : blocks + gain op en ((s.drop index).take (n - index)) ≠ 0 := fun e => hz (by rw [e]; rfl)
        exact (ih (n + 1) n _ _ hn (by omega) (Nat.le_succ n) hb1' hb2' (fun e => absurd e hb0)).mono
          fun _ post => NestPost.glue hin hcn hcd (fun _ => htok) hb0 post

/-! ### the solid loop (:70-114) -/

theorem head_of_found {s d : Str} {n : Nat} (hd : d ≠ []) (hn : n + d.length ≤ s.length)
    (h : (s.drop n).take (n + d.length - n) = d) : ∃ x, s[n]? = some x ∧ inSet d x = true := by
  obtain ⟨d0, dr, rfl⟩ := List.exists_cons_of_ne_nil hd
  have hl : n < s.length := Nat.lt_of_lt_of_le (Nat.lt_add_of_pos_right (Nat.succ_pos _)) hn
  rw [Nat.add_sub_cancel_left, List.drop_eq_getElem_cons hl] at h
  simp only [List.length_cons, List.take_succ_cons, List.cons.injEq] at h
  exact ⟨d0, by rw [List.getElem?_eq_getElem hl, h.1], by simp [inSet]⟩

theorem nestSolid_post (s op en d : Str) (hd : d ≠ []) (hs : s.length < 2147483648) (fuel index B : Nat)
    (blocks : Int) (cache : Str) (hi : index ≤ s.length) (hf : s.length < index + fuel) (hB : B ≤ index)
    (hb1 : -(B : Int) ≤ blocks) (hb2 : blocks ≤ B) :
    Returns (nestSolid s op en d fuel index (findFrom d s index) blocks cache)
      fun p => NestPost s d (gain op en) true index blocks cache p.1 p.2 := by
  have hso := strOk_of_int hs
  have hdl : 0 < d.length := List.length_pos_iff.mpr hd
  induction fuel generalizing index B blocks cache with
  | zero => exact absurd hf (Nat.not_lt_of_le hi)
  | succ fuel ih =>
    cases h0 : findFrom d s index with
    | none =>
      obtain ⟨eb, _⟩ := blocksUpd_ok blocks (s.drop index) op en B s.length hb1 hb2
        (by rw [List.length_drop]; omega) hs
      unfold nestSolid
      rw [substrFrom_ok hi, bind_ok, eb, bind_ok]
      by_cases hz : (blocks + gain op en (s.drop index) == 0) = true
      · rw [if_pos hz]
        exact .ok (NestPost.last (List.append_nil _) (Or.inl rfl) nofun nofun (eq_of_beq hz) nofun)
      · rw [if_neg hz]; exact .bpp
    | some n =>
      obtain ⟨hin, hn, hfound, _⟩ := findFrom_some hd h0
      have hn' : n ≤ s.length := Nat.le_trans (Nat.le_add_right _ _) hn
      obtain ⟨eb, hb1', hb2'⟩ := blocksUpd_ok blocks ((s.drop index).take (n - index)) op en B n hb1 hb2
        (by rw [List.length_take, List.length_drop]; omega) (by omega)
      unfold nestSolid
      simp only [substr_piece hso hin hn', bind_ok, eb]
      by_cases hz : (blocks + gain op en ((s.drop index).take (n - index)) == 0) = true
      · simp only [hz, if_true, wadd_pos hso hn' (Nat.le_trans (Nat.le_add_left _ _) hn)]
        refine (ih (n + d.length) 0 0 [] hn (by omega) (Nat.zero_le _) (Int.le_refl _) (Int.le_refl _)).bind
          fun ⟨ts', ss'⟩ post => .ok (NestPost.cons ?_ ⟨fun _ => rfl, nofun⟩ nofun (eq_of_beq hz) nofun post)
        have h1 := take_sub_append_drop s (Nat.le_add_right n d.length)
        rw [hfound] at h1
        rw [h1, take_sub_append_drop s hin]
      · obtain ⟨x, hx, hxd⟩ := head_of_found hd hn hfound
        have hl : n < s.length := (List.getElem?_eq_some_iff.mp hx).1
        have h1 : 1 ≤ s.length := Nat.lt_of_le_of_lt (Nat.zero_le n) hl
        simp only [hz, Bool.false_eq_true, if_false, wsub_pos hso hin hn', wadd_pos hso hn' h1,
          wadd_pos hso (Nat.le_trans (Nat.sub_le _ _) hn') h1, substr_ok _ hi, bind_ok]
        exact (ih (n + 1) n _ _ hl (by omega) (Nat.le_succ n) hb1' hb2').mono
          fun _ post => NestPost.glue hin hx hxd nofun (fun e => hz (by rw [e]; rfl)) post

/-! ### the NestedStringTokenizer constructor -/

/-- **what the constructor does** on a text shorter than 2^31: it raises (an unclosed block, an empty
solid delimiter) or returns nothing on a text of delimiters only (non-solid), else what its loop
returns, entered at the first non-delimiter (solid: at 0) -/
theorem mkNested_post (s op en d : Str) (solid : Bool) (hs : s.length < 2147483648) :
    Returns (mkNested s op en d solid) fun T => ∃ ts ss, T = ⟨ts, ss, 0⟩ ∧
      ((solid = false ∧ findFirstNotOf d s 0 = none ∧ ts = [] ∧ ss = []) ∨
      ∃ index, (if solid then index = 0 ∧ d ≠ [] else findFirstNotOf d s 0 = some index) ∧
        NestPost s d (gain op en) solid index 0 [] ts ss) := by
  have hfuel : ∀ i, s.length < i + loopFuel s := fun i => by unfold loopFuel; omega
  unfold mkNested mkNestedG
  cases solid with
  | false =>
    rw [Bool.not_false, if_pos rfl]
    cases hf : findFirstNotOf d s 0 with
    | none => exact .ok ⟨_, _, rfl, Or.inl ⟨rfl, rfl, rfl, rfl⟩⟩
    | some index =>
      obtain ⟨_, hidx, _, hci⟩ := findFirstNotOf_some hf
      exact (nestNs_post s op en d hs (loopFuel s) index 0 0 [] (Nat.le_of_lt hidx) (hfuel _) (Nat.zero_le _)
        (Int.le_refl _) (Int.le_refl _) (fun _ => hci)).bind
          fun ⟨ts, ss⟩ post => .ok ⟨ts, ss, rfl, Or.inr ⟨index, rfl, post⟩⟩
  | true =>
    rw [Bool.not_true, if_neg Bool.false_ne_true, Bool.true_and]
    split
    · exact .bpp
    · rename_i hd
      have hd' : d ≠ [] := fun e0 => hd (by rw [e0]; rfl)
      exact (nestSolid_post s op en d hd' hs (loopFuel s) 0 0 0 [] (Nat.zero_le _) (hfuel _) (Nat.zero_le _)
        (Int.le_refl _) (Int.le_refl _)).bind
          fun ⟨ts, ss⟩ post => .ok ⟨ts, ss, rfl, Or.inr ⟨0, ⟨rfl, hd'⟩, post⟩⟩

theorem mkNested_built {s op en d : Str} {solid : Bool} (hs : s.length < 2147483648) {T : Tokenizer}
    (h : mkNested s op en d solid = .ok T) : T.Built s := by
  obtain ⟨ts, ss, rfl, ⟨_, _, rfl, rfl⟩ | ⟨index, hidx, post⟩⟩ := (mkNested_post s op en d solid hs).of_ok h
  · exact .nil
  · have hsz := post.size fun e => by rw [e] at hidx; exact hidx.2
    rw [List.length_nil, Nat.zero_add] at hsz
    exact .of_size (strOk_of_int hs) hsz

end Bpp.Text.RT
