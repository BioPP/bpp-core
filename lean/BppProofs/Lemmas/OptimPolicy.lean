import BppProofs.Lemmas.OptimGolden
import BppProofs.Lemmas.OptimObjective
import BppProofs.Lemmas.OptimBrent
import BppProofs.Lemmas.OptimSync
/-!
Helper lemmas for C10: the constraint policy.  Every evaluation an optimiser makes passes a
parameter list to `f`; when that list is *tied* to the constraints of the list given to `init`
(every parameter satisfies its own constraint, which is the one of `init`'s list — C01's invariant)
the point at which the objective is evaluated satisfies those constraints.  A list moved by `setValue`s
(plain or auto-correcting) is `Like` the list it was (OptimSync), and a list `Like` a tied one is tied
(`Tied.of_like`), so the property is an invariant of any code that evaluates the objective only through
lists obtained that way.
`Safe I Q T` is the abstract form; `objective_safe` instantiates it for the harness objective.
`lineMinimization_run` / `lineSearch_run` walk the two searches along a direction once, for whatever their
`DirectionFunction` keeps: the constraint policy (OptimLinePolicy) and the count of calls (OptimCount) are instances.
`feasible_run` puts `init` and `optimize` together, for any invariant of the optimiser's state that makes the
function fine and the list tied: the form in which the theorem files state the clause for each optimiser class.
-/
set_option linter.unusedSectionVars false
namespace Bpp.Optim
open Bpp

variable {F : Type}

/-- the function object keeps `Q` whenever it is given lists satisfying `T`, and `setValue` keeps `T` -/
structure Safe (I : FunI F ℝ) (Q : F → Prop) (T : PList ℝ → Prop) : Prop where
  f_ok : ∀ fn pl fn' v, Q fn → T pl → I.f fn pl = .ok (fn', v) → Q fn'
  f_err : ∀ fn pl e fn', Q fn → T pl → I.f fn pl = .error (e, fn') → Q fn'
  set : ∀ pl i x pl', T pl → setValueAt pl i x = .ok pl' → T pl'

variable {I : FunI F ℝ} {Q : F → Prop} {T : PList ℝ → Prop}

/-- an invariant `P` of the state that every coordinate keeps (or raises with a fine function) -/
theorem coordsFold_rok {σ β : Type} {step : σ → Nat → Except (Exc × F) (σ × β)} (P : σ → Prop)
    (hstep : ∀ u i, P u → ROk Q (fun r => P r.1) (step u i)) :
    ∀ (l : List Nat) (u : σ) (f : β), P u → ROk Q (fun r => P r.1) (coordsFold step l u f)
  | [], _, _, h => h
  | i :: r, u, f, h => by
    rw [coordsFold]
    exact (hstep u i h).elim (fun _ h => h) fun ⟨u', f'⟩ h' => coordsFold_rok P hstep r u' f' h'

theorem Safe.f (hs : Safe I Q T) {fn : F} {pl : PList ℝ} (hQ : Q fn) (hT : T pl) : ROk Q (fun r => Q r.1) (I.f fn pl) := by
  cases h : I.f fn pl with
  | error e => exact hs.f_err _ _ _ _ hQ hT h
  | ok r => exact hs.f_ok _ _ _ _ hQ hT h

theorem eval0_safe (hs : Safe I Q T) {fn : F} {pl : PList ℝ} (x : ℝ) (hQ : Q fn) (hT : T pl) :
    ROk Q (fun r => Q r.1 ∧ T r.2.1) (eval0 I fn pl x) := by
  unfold eval0
  cases h1 : setValueAt pl 0 x with
  | error e => exact hQ
  | ok pl' =>
    have hT' := hs.set _ _ _ _ hT h1
    dsimp only
    exact (hs.f hQ hT').elim (fun _ h => h) fun _ h => ⟨h, hT'⟩

/-- the evaluation step of a safe function, as the bracketing routines see it -/
theorem Safe.evalStep (hs : Safe I Q T) : EvalStep I Q (fun fn pl => Q fn ∧ T pl) (fun _ _ => True) :=
  fun _ _ x hJ => (eval0_safe hs x hJ.1 hJ.2).elim (fun _ h => h) fun _ h => ⟨trivial, h⟩

theorem bracketMinimum_safe (hs : Safe I Q T) (fuel : Nat) (a b : ℝ) (fn : F) (pl : PList ℝ) (hQ : Q fn) (hT : T pl) :
    ROk Q (fun r => Q r.1) (bracketMinimum I fuel a b fn pl) :=
  (outward_run hs.evalStep (fun _ _ h => h.1) fuel a b fn pl ⟨hQ, hT⟩).elim (fun _ h => h)
    fun _ h => h.2.2.elim fun _ hj => hj.1

theorem evalOwn_safe {τ : Type} (hs : Safe I Q T) (s : St F τ ℝ) (x : ℝ) (hQ : Q s.fn) (hT : T s.core.params) :
    ROk Q (fun r => Q r.1.fn ∧ T r.1.core.params ∧ r.1.ext = s.ext) (evalOwn I s x) := by
  unfold evalOwn
  exact (eval0_safe hs x hQ hT).elim (fun _ h => h) fun _ h => ⟨h.1, h.2, rfl⟩

theorem gssProbe_safe (hs : Safe I Q T) (s : St F (Gss ℝ) ℝ) (x : ℝ) (hQ : Q s.fn) (hT : T s.core.params) :
    ROk Q (fun r => Q r.1.fn ∧ T r.1.core.params) (gssProbe I s x) := by
  unfold gssProbe
  cases h1 : setValueAt s.core.params 0 x with
  | error e => exact hQ
  | ok pl =>
    have hT' := hs.set _ _ _ _ hT h1
    obtain ⟨c, t, hp⟩ := gssPoll_eq ({ s with core := { s.core with params := pl } } : St F (Gss ℝ) ℝ)
    simp only [hp]
    exact (hs.f hQ hT').elim (fun _ h => h) fun _ h => ⟨h, hT'⟩

theorem gssDoStep_safe (hs : Safe I Q T) (s : St F (Gss ℝ) ℝ) (hQ : Q s.fn) (hT : T s.core.params) :
    ROk Q (fun r => Q r.1.fn ∧ T r.1.core.params) (gssDoStep I s) := by
  unfold gssDoStep
  dsimp only
  split
  · exact (gssProbe_safe hs _ _ (by exact hQ) (by exact hT)).elim (fun _ h => h) fun _ h => h
  · exact (gssProbe_safe hs _ _ (by exact hQ) (by exact hT)).elim (fun _ h => h) fun _ h => h

theorem gssDoInit_safe (hs : Safe I Q T) (fuel : Nat) (s : St F (Gss ℝ) ℝ) (params : PList ℝ) (hQ : Q s.fn) (hT : T s.core.params) :
    ROk Q (fun r => Q r.fn ∧ T r.core.params) (gssDoInit I fuel s params) := by
  unfold gssDoInit
  split
  · exact hQ
  · refine (bracketMinimum_safe hs fuel s.ext.xinf s.ext.xsup s.fn s.core.params hQ hT).elim (fun _ h => h) fun ⟨fnb, k⟩ hb => ?_
    dsimp only
    refine (evalOwn_safe hs _ _ (by exact hb) (by exact hT)).elim (fun _ h => h) fun _ h1 => ?_
    dsimp only
    exact (evalOwn_safe hs _ _ (by exact h1.1) (by exact h1.2.1)).elim (fun _ h => h) fun _ h2 => ⟨h2.1, h2.2.1⟩

/-! ### the template -/

/-- `J` is an invariant of the optimiser's state (function, list, own fields) that does not look at
the template's counters and flags; `Q` is what it says of the function -/
structure InvStep {τ : Type} (A : Algo F τ ℝ) (Q : F → Prop) (J : St F τ ℝ → Prop) : Prop where
  fn : ∀ s, J s → Q s.fn
  doStep : ∀ s, J s → ROk Q (fun r => J r.1) (A.doStep s)
  stopInit : ∀ s, J s → J (A.stopInit s)
  stop : ∀ s, J s → J (A.stop s).1
  core : ∀ s (c : Core ℝ), J s → c.params = s.core.params → c.policy = s.core.policy → J { s with core := c }

section
variable {τ : Type} {A : Algo F τ ℝ} {J : St F τ ℝ → Prop}

/-- `init`, given what `doInit` does on the particular list -/
theorem init_invS (ha : InvStep A Q J) (s : St F τ ℝ) (params : PList ℝ)
    (hd : ROk Q J (A.doInit ({ s with core := { s.core with params := applyPolicy s.core.policy params } } : St F τ ℝ) params)) :
    ROk Q J (A.init s params) := by
  unfold Algo.init
  dsimp only
  split
  · rename_i e he; rw [he] at hd; exact hd
  · rename_i s2 he
    rw [he] at hd
    exact ha.stopInit _ (ha.core s2 _ hd rfl rfl)

theorem step_invS (ha : InvStep A Q J) (s : St F τ ℝ) (hJ : J s) : ROk Q (fun r => J r.1) (A.step s) := by
  unfold Algo.step
  have := ha.doStep s hJ
  split
  · rename_i e he; rw [he] at this; exact this
  · rename_i s1 v he
    rw [he] at this
    dsimp only
    have h1 : J ({ s1 with core := { s1.core with cur := v } } : St F τ ℝ) := ha.core s1 _ this rfl rfl
    split
    · exact h1
    · exact ha.core _ _ (ha.stop _ h1) rfl rfl

theorem loop_invS (ha : InvStep A Q J) (fuel : Nat) (s : St F τ ℝ) : J s → ROk Q J (A.loop fuel s) :=
  loop_induct A (fun s r => J s → ROk Q J r) (fun _ _ hJ => hJ) (fun s _ hJ => ha.fn s hJ)
    (fun s e _ hst hJ => by have := step_invS ha s hJ; rw [hst] at this; exact this)
    (fun s s1 v _ _ hst ih hJ => ih (by have := step_invS ha s hJ; rw [hst] at this; exact ha.core s1 _ this rfl rfl))
    fuel s

theorem optimize_invS (ha : InvStep A Q J) (fuel : Nat) (s : St F τ ℝ) (hJ : J s) :
    ROk Q (fun r => J r.1) (A.optimize fuel s) := by
  unfold Algo.optimize
  split
  · exact ha.fn s hJ
  · have := loop_invS ha fuel ({ s with core := { s.core with tol := false, nbEval := 1 } } : St F τ ℝ) (ha.core s _ hJ rfl rfl)
    split
    · rename_i e he; rw [he] at this; exact this
    · rename_i s' he; rw [he] at this; exact this

end

/-- an optimiser whose `doStep` evaluates the function through tied lists only, and whose stop condition
touches neither the function nor the parameters (nothing is asked of `doInit`: that of the conjugate
gradient and BFGS optimisers sets the function to the list *given to `init`*, which is tied only for the
particular list) -/
structure SafeStep {τ : Type} (A : Algo F τ ℝ) (Q : F → Prop) (T : PList ℝ → Prop) : Prop where
  doStep : ∀ s, Q s.fn → T s.core.params → ROk Q (fun r => Q r.1.fn ∧ T r.1.core.params) (A.doStep s)
  stopInit : ∀ s, (A.stopInit s).fn = s.fn ∧ (A.stopInit s).core.params = s.core.params
  stop : ∀ s, (A.stop s).1.fn = s.fn ∧ (A.stop s).1.core.params = s.core.params

/-- an optimiser whose `doInit` and `doStep` evaluate the function through tied lists only, and
whose stop condition touches neither the function nor the parameters -/
structure SafeAlgo {τ : Type} (A : Algo F τ ℝ) (Q : F → Prop) (T : PList ℝ → Prop) : Prop where
  doInit : ∀ s params, Q s.fn → T s.core.params → ROk Q (fun r => Q r.fn ∧ T r.core.params) (A.doInit s params)
  doStep : ∀ s, Q s.fn → T s.core.params → ROk Q (fun r => Q r.1.fn ∧ T r.1.core.params) (A.doStep s)
  stopInit : ∀ s, (A.stopInit s).fn = s.fn ∧ (A.stopInit s).core.params = s.core.params
  stop : ∀ s, (A.stop s).1.fn = s.fn ∧ (A.stop s).1.core.params = s.core.params

section
variable {Q : F → Prop} {τ : Type} {A : Algo F τ ℝ} {T : PList ℝ → Prop}

theorem SafeAlgo.toStep (ha : SafeAlgo A Q T) : SafeStep A Q T := ⟨ha.doStep, ha.stopInit, ha.stop⟩

end

variable {τ : Type} {A : Algo F τ ℝ}

/-- "the function is fine and the list is tied" is an invariant of the whole state -/
theorem SafeStep.inv (ha : SafeStep A Q T) : InvStep A Q (fun s => Q s.fn ∧ T s.core.params) :=
  { fn := fun _ h => h.1,
    doStep := fun s h => ha.doStep s h.1 h.2,
    stopInit := fun s h => by rw [(ha.stopInit s).1, (ha.stopInit s).2]; exact h,
    stop := fun s h => by rw [(ha.stop s).1, (ha.stop s).2]; exact h,
    core := fun _ _ h hc _ => ⟨h.1, hc.symm ▸ h.2⟩ }

/-- `init`, given what `doInit` does on the particular list -/
theorem init_safeS (ha : SafeStep A Q T) (s : St F τ ℝ) (params : PList ℝ)
    (hd : ROk Q (fun r => Q r.fn ∧ T r.core.params)
      (A.doInit ({ s with core := { s.core with params := applyPolicy s.core.policy params } } : St F τ ℝ) params)) :
    ROk Q (fun r => Q r.fn ∧ T r.core.params) (A.init s params) :=
  init_invS ha.inv s params hd

theorem init_safe (ha : SafeAlgo A Q T) (s : St F τ ℝ) (params : PList ℝ) (hQ : Q s.fn)
    (hT : T (applyPolicy s.core.policy params)) :
    ROk Q (fun r => Q r.fn ∧ T r.core.params) (A.init s params) :=
  init_safeS ha.toStep s params (ha.doInit _ params hQ hT)

theorem step_safeS (ha : SafeStep A Q T) (s : St F τ ℝ) (hQ : Q s.fn) (hT : T s.core.params) :
    ROk Q (fun r => Q r.1.fn ∧ T r.1.core.params) (A.step s) :=
  step_invS ha.inv s ⟨hQ, hT⟩

theorem optimize_safeS (ha : SafeStep A Q T) (fuel : Nat) (s : St F τ ℝ) (hQ : Q s.fn) (hT : T s.core.params) :
    ROk Q (fun r => Q r.1.fn ∧ T r.1.core.params) (A.optimize fuel s) :=
  optimize_invS ha.inv fuel s ⟨hQ, hT⟩

theorem gss_safeAlgo (hs : Safe I Q T) (fuel : Nat) : SafeAlgo (gssAlgo I fuel) Q T :=
  { doInit := fun s params hQ hT => gssDoInit_safe hs fuel s params hQ hT,
    doStep := fun s hQ hT => gssDoStep_safe hs s hQ hT,
    stopInit := fun _ => ⟨rfl, rfl⟩,
    stop := fun s => by show (gssStop s).1.fn = _ ∧ (gssStop s).1.core.params = _; rw [gssStop_fst]; exact ⟨rfl, rfl⟩ }

theorem gssOptimize_safe (hs : Safe I Q T) (fuel : Nat) (s : St F (Gss ℝ) ℝ) (hQ : Q s.fn) (hT : T s.core.params) :
    ROk Q (fun r => Q r.1.fn ∧ T r.1.core.params) (gssOptimize I fuel s) := by
  unfold gssOptimize
  refine (optimize_safeS (gss_safeAlgo hs fuel).toStep fuel s hQ hT).elim (fun _ h => h) fun ⟨s1, v⟩ h1 => ?_
  dsimp only
  exact (evalOwn_safe hs _ _ (by exact h1.1) (by exact h1.2)).elim (fun _ h => h) fun _ h2 => ⟨h2.1, h2.2.1⟩

/-! ### Brent -/

theorem inward_safe (hs : Safe I Q T) (fuel : Nat) (a b : ℝ) (n : Nat) (fn : F) (pl : PList ℝ) (hQ : Q fn) (hT : T pl) :
    ROk Q (fun r => Q r.1) (inwardBracketMinimum I fuel a b n fn pl) :=
  (inward_run hs.evalStep (fun _ _ h => h.1) fuel a b n fn pl ⟨hQ, hT⟩).elim (fun _ h => h)
    fun _ ⟨_, _, _, _, _, _, _, hj⟩ => hj.1

theorem brentDoInit_safe (hs : Safe I Q T) (fuel : Nat) (s : St F (Brent ℝ) ℝ) (params : PList ℝ) (hQ : Q s.fn) (hT : T s.core.params) :
    ROk Q (fun r => Q r.fn ∧ T r.core.params) (brentDoInit I fuel s params) := by
  unfold brentDoInit
  split
  · exact hQ
  · have hb : ROk Q (fun r => Q r.1) (if s.ext.inward = true then inwardBracketMinimum I fuel s.ext.xinf s.ext.xsup 10 s.fn s.core.params
        else bracketMinimum I fuel s.ext.xinf s.ext.xsup s.fn s.core.params) := by
      split
      · exact inward_safe hs fuel _ _ _ _ _ hQ hT
      · exact bracketMinimum_safe hs fuel _ _ _ _ hQ hT
    dsimp only
    refine hb.elim (fun _ h => h) fun ⟨fnb, k⟩ hb => ?_
    dsimp only
    refine (hs.f hb hT).elim (fun _ h => h) fun ⟨fn1, fx⟩ hQ1 => ?_
    dsimp only
    split
    · split
      · exact hQ1
      · exact ⟨hQ1, hT⟩
    · exact (evalOwn_safe hs _ _ (by exact hQ1) (by exact hT)).elim (fun _ h => h) fun _ h2 => ⟨h2.1, h2.2.1⟩

theorem brentDoStep_safe (hs : Safe I Q T) (s : St F (Brent ℝ) ℝ) (hQ : Q s.fn) (hT : T s.core.params) :
    ROk Q (fun r => Q r.1.fn ∧ T r.1.core.params) (brentDoStep I s) := by
  unfold brentDoStep
  generalize brentPropose s.core.tolerance s.ext = pr
  obtain ⟨g1, u⟩ := pr
  dsimp only
  split
  · exact hQ
  · rename_i pl hset
    refine (hs.f hQ (hs.set _ _ _ _ hT hset)).elim (fun _ h => h) fun ⟨fn1, fu⟩ hQ1 => ?_
    dsimp only
    split
    · exact hQ1
    · rename_i pl2 hset2
      exact ⟨hQ1, hs.set _ _ _ _ hT hset2⟩

theorem brent_safeAlgo (hs : Safe I Q T) (fuel : Nat) : SafeAlgo (brentAlgo I fuel) Q T :=
  { doInit := fun s params hQ hT => brentDoInit_safe hs fuel s params hQ hT,
    doStep := fun s hQ hT => brentDoStep_safe hs s hQ hT,
    stopInit := fun _ => ⟨rfl, rfl⟩,
    stop := fun s => by show (brentStop s).1.fn = _ ∧ (brentStop s).1.core.params = _; rw [brentStop_fst]; exact ⟨rfl, rfl⟩ }

theorem brentOptimize_safe (hs : Safe I Q T) (fuel : Nat) (s : St F (Brent ℝ) ℝ) (hQ : Q s.fn) (hT : T s.core.params) :
    ROk Q (fun r => Q r.1.fn ∧ T r.1.core.params) (brentOptimize I fuel s) := by
  unfold brentOptimize
  refine (optimize_safeS (brent_safeAlgo hs fuel).toStep fuel s hQ hT).elim (fun _ h => h) fun ⟨s1, v⟩ h1 => ?_
  dsimp only
  exact (hs.f h1.1 h1.2).elim (fun _ h => h) fun _ h => ⟨h, h1.2⟩

/-! ### Newton backtracking -/

theorem nbackDoInit_safe (hs : Safe I Q T) (s : St F (NBack ℝ) ℝ) (params : PList ℝ) (hQ : Q s.fn) (hT : T s.core.params) :
    ROk Q (fun r => Q r.fn ∧ T r.core.params) (nbackDoInit I s params) := by
  unfold nbackDoInit
  split
  · exact hQ
  · exact (hs.f hQ hT).elim (fun _ h => h) fun _ h => ⟨h, hT⟩

theorem nbackDoStep_safe (hs : Safe I Q T) (s : St F (NBack ℝ) ℝ) (hQ : Q s.fn) (hT : T s.core.params) :
    ROk Q (fun r => Q r.1.fn ∧ T r.1.core.params) (nbackDoStep I s) := by
  unfold nbackDoStep
  dsimp only
  split
  · exact (evalOwn_safe hs _ _ (by exact hQ) (by exact hT)).elim (fun _ h => h) fun _ h => ⟨h.1, h.2.1⟩
  · refine (evalOwn_safe hs _ _ (by exact hQ) (by exact hT)).elim (fun _ h => h) fun _ h => ?_
    dsimp only
    split
    · exact ⟨h.1, h.2.1⟩
    · split <;> exact ⟨h.1, h.2.1⟩

theorem nback_safeAlgo (hs : Safe I Q T) : SafeAlgo (nbackAlgo I) Q T :=
  { doInit := fun s params hQ hT => nbackDoInit_safe hs s params hQ hT,
    doStep := fun s hQ hT => nbackDoStep_safe hs s hQ hT,
    stopInit := fun _ => ⟨rfl, rfl⟩,
    stop := fun _ => ⟨rfl, rfl⟩ }

theorem fscStop_safe (s : St F τ ℝ) : (fscStop s).1.fn = s.fn ∧ (fscStop s).1.core.params = s.core.params := by
  rw [fscStop_fst]; exact ⟨rfl, rfl⟩

/-- a `DirectionFunction` whose `setParameters` keeps `Qd` (returning or raising) is safe for every
one-dimensional list: its `f` is `setParameters` followed by `getValue` -/
theorem dirfn_safe_of_set {Qd : DirFn F ℝ → Prop} (h : ∀ df pl, Qd df → ROk Qd Qd (df.setParameters I pl)) :
    Safe (DirFn.iface I) Qd (fun _ => True) := by
  refine ⟨fun df pl df' v hd _ hf => ?_, fun df pl e df' hd _ hf => ?_, fun _ _ _ _ _ _ => trivial⟩
  · have := h df pl hd
    simp only [DirFn.iface] at hf
    split at hf
    · cases hf
    · rename_i df1 h1; rw [h1] at this; cases hf; exact this
  · have := h df pl hd
    simp only [DirFn.iface] at hf
    split at hf
    · rename_i e1 h1; rw [h1] at this; cases hf; exact this
    · cases hf

/-- **the two searches along a direction**, walked once for whatever `Qd` the `DirectionFunction` keeps: the
function they return or raise with is the wrapped function of a `DirectionFunction` satisfying `Qd`, the figure
they return is its counter, and the list they return is the caller's moved by `moveAlong` -/
theorem lineMinimization_run {Qd : DirFn F ℝ → Prop} (hJ : Safe (DirFn.iface I) Qd (fun _ => True)) (fuel : Nat) (fn : F)
    (parameters : PList ℝ) (xi : List ℝ) (h0 : Qd (DirFn.init fn .auto parameters xi)) :
    ROk (fun fn' => ∃ df, Qd df ∧ fn' = df.inner)
      (fun r => ∃ df xmin, Qd df ∧ r.1 = df.inner ∧ r.2.2.2 = df.nbEval ∧ moveAlong xmin parameters xi = .ok (r.2.1, r.2.2.1))
      (lineMinimization I fuel fn parameters xi) := by
  unfold lineMinimization
  dsimp only
  refine (init_safe (brent_safeAlgo hJ fuel) (lineBrent (DirFn.init fn .auto parameters xi)) xParam h0 trivial).elim
    (fun e h => ⟨e.2, h, rfl⟩) fun bod hi => ?_
  dsimp only
  refine (brentOptimize_safe hJ fuel bod hi.1 trivial).elim (fun e h => ⟨e.2, h, rfl⟩) fun ⟨bod2, v⟩ ho => ?_
  dsimp only
  split
  · exact ⟨_, ho.1, rfl⟩
  · rename_i xmin hx
    split
    · exact ⟨_, ho.1, rfl⟩
    · rename_i pl xi' hm
      exact ⟨_, xmin, ho.1, rfl, rfl, hm⟩

theorem lineSearch_run {Qd : DirFn F ℝ → Prop} (hJ : Safe (DirFn.iface I) Qd (fun _ => True)) (fuel : Nat) (fn : F)
    (parameters : PList ℝ) (xi gradient : List ℝ) (h0 : Qd (DirFn.init fn .auto parameters xi)) :
    ROk (fun fn' => ∃ df, Qd df ∧ fn' = df.inner)
      (fun r => ∃ df xmin, Qd df ∧ r.1 = df.inner ∧ r.2.2.2 = df.nbEval ∧ moveAlong xmin parameters xi = .ok (r.2.1, r.2.2.1))
      (lineSearch I fuel fn parameters xi gradient) := by
  unfold lineSearch
  dsimp only
  refine (init_safe (nback_safeAlgo hJ) (lineNBack (DirFn.init fn .auto parameters xi) _ _) xParam h0 trivial).elim
    (fun e h => ⟨e.2, h, rfl⟩) fun nb hi => ?_
  dsimp only
  refine (optimize_safeS (nback_safeAlgo hJ).toStep fuel nb hi.1 trivial).elim (fun e h => ⟨e.2, h, rfl⟩) fun ⟨nb2, v⟩ ho => ?_
  dsimp only
  split
  · exact ⟨_, ho.1, rfl⟩
  · rename_i xmin hx
    split
    · exact ⟨_, ho.1, rfl⟩
    · rename_i pl xi' hm
      exact ⟨_, xmin, ho.1, rfl, rfl, hm⟩

/-! ### the objective of the harness -/

/-- the list is tied to the constraints `cons` of the list given to `init`: every parameter holds a
value its own constraint accepts (C01's invariant), and its constraint is the one `cons` records for
its name -/
def Tied (cons : Spec.Cons ℝ) (pl : PList ℝ) : Prop :=
  ∀ q ∈ pl, q.p.invOk = true ∧ ∀ c, (q.name, c) ∈ cons → q.p.constraint = c

/-- every point logged so far, and the current point, satisfy `cons` -/
def FeasFn (cons : Spec.Cons ℝ) (fn : Fn ℝ) : Prop :=
  Spec.feasibleLog cons fn.log = true ∧ Spec.feasiblePoint cons fn.point = true

theorem Tied.feas {cons : Spec.Cons ℝ} {pl : PList ℝ} (h : Tied cons pl) : Feas pl := fun q hq => (h q hq).1

/-- a tied list is a feasible report -/
theorem Tied.report {cons : Spec.Cons ℝ} {pl : PList ℝ} (hT : Tied cons pl) : Spec.feasibleReport pl = true := by
  unfold Spec.feasibleReport feasibleList
  rw [List.all_eq_true]
  exact fun q hq => (hT q hq).1

/-- a list that is `Like` a tied list is tied: it carries the same names and constraints and holds accepted values -/
theorem Tied.of_like {cons : Spec.Cons ℝ} {a b : PList ℝ} (hT : Tied cons a) (h : Like a b) : Tied cons b := by
  intro y hy
  obtain ⟨x, hx, hn, w, e, hw⟩ := h.mem_right hy
  rw [e, hn]
  exact ⟨hw, (hT x hx).2⟩

theorem setValueAt_tied (cons : Spec.Cons ℝ) (pl : PList ℝ) (i : Nat) (x : ℝ) (pl' : PList ℝ)
    (hT : Tied cons pl) (h : setValueAt pl i x = .ok pl') : Tied cons pl' :=
  hT.of_like (setValueAt_like pl i x pl' hT.feas h)

theorem feasiblePoint_set (cons : Spec.Cons ℝ) (pt : List ℝ) (n : Nat) (v : ℝ)
    (hp : Spec.feasiblePoint cons pt = true) (hv : ∀ c, (n, c) ∈ cons → Spec.accepts c v = true) :
    Spec.feasiblePoint cons (pt.set n v) = true := by
  unfold Spec.feasiblePoint at hp ⊢
  rw [List.all_eq_true] at hp ⊢
  intro nc hnc
  have h0 := hp nc hnc
  by_cases hn : nc.1 = n
  · by_cases hlt : n < pt.length
    · rw [hn, List.getElem?_set_self hlt]
      exact hv nc.2 (by rw [← hn]; exact hnc)
    · rw [List.getElem?_eq_none (by rw [List.length_set]; omega)]
  · rw [List.getElem?_set_ne (fun c => hn c.symm)]; exact h0

/-- only the *values* of the list are accepted by the constraints `cons` records for their names
(whatever constraints the parameters of the list carry themselves) -/
def Within (cons : Spec.Cons ℝ) (pl : PList ℝ) : Prop :=
  ∀ q ∈ pl, ∀ c, (q.name, c) ∈ cons → Spec.accepts c q.p.value = true

theorem accepts_eq (p : Param ℝ) (v : ℝ) : p.accepts v = Spec.accepts p.constraint v := by
  unfold Param.accepts Spec.accepts; rfl

theorem Tied.within {cons : Spec.Cons ℝ} {pl : PList ℝ} (h : Tied cons pl) : Within cons pl := by
  intro q hq c hc
  obtain ⟨h1, h2⟩ := h q hq
  rw [← h2 c hc, ← accepts_eq]; exact h1

theorem matchPoint_within (cons : Spec.Cons ℝ) : ∀ (pl : PList ℝ) (pt : List ℝ), Within cons pl →
    Spec.feasiblePoint cons pt = true → Spec.feasiblePoint cons (matchPoint pt pl) = true := by
  intro pl
  induction pl with
  | nil => intro pt _ hp; exact hp
  | cons q r ih =>
    intro pt hT hp
    rw [matchPoint]
    apply ih _ (fun q' hq' => hT q' (List.mem_cons_of_mem _ hq'))
    split
    · rw [own_real]
      exact feasiblePoint_set cons pt q.name q.p.value hp (hT q (List.mem_cons_self ..))
    · exact hp

/-- `setParameters` with a list whose values are accepted: the point it logs is feasible -/
theorem setParameters_within (cons : Spec.Cons ℝ) (fn : Fn ℝ) (pl : PList ℝ) (hQ : FeasFn cons fn) (hT : Within cons pl) :
    FeasFn cons (fn.setParameters pl) := by
  have := matchPoint_within cons pl fn.point hT hQ.2
  refine ⟨?_, this⟩
  show Spec.feasibleLog cons (matchPoint fn.point pl :: fn.log) = true
  unfold Spec.feasibleLog
  rw [List.all_cons, this]
  exact hQ.1

/-- the objective of the harness, whatever it computes: evaluated through tied lists it is only
ever evaluated at points that satisfy the constraints -/
theorem objective_safe (obj : List ℝ → ℝ) (D : Deriv ℝ) (cap : Option Nat) (cons : Spec.Cons ℝ) :
    Safe (Fn.iface obj D cap) (FeasFn cons) (Tied cons) :=
  ⟨fun fn pl _ _ hQ hT h => (iface_f_cases obj D cap fn pl _ (setParameters_within cons fn pl hQ hT.within)).of_ok h,
   fun fn pl _ _ hQ hT h => (iface_f_cases obj D cap fn pl _ (setParameters_within cons fn pl hQ hT.within)).of_error h,
   fun pl i x pl' hT h => setValueAt_tied cons pl i x pl' hT h⟩

/-- `init`'s list, with the automatic (or the keep) policy applied, is tied to its own constraints
when its values are feasible (which the constructor of `Parameter` guarantees, C01) -/
theorem applyPolicy_tied (params : PList ℝ) (pol : Policy) (hpol : pol ≠ .ignore) (hf : feasibleList params = true)
    (hnd : (params.map (·.name)).Nodup) :
    Tied (params.map (fun q => (q.name, q.p.constraint))) (applyPolicy pol params) := by
  have key : ∀ q ∈ params, q.p.invOk = true ∧ ∀ c, (q.name, c) ∈ params.map (fun q => (q.name, q.p.constraint)) → q.p.constraint = c := by
    intro q hq
    refine ⟨by unfold feasibleList at hf; rw [List.all_eq_true] at hf; exact hf q hq, ?_⟩
    intro c hc
    obtain ⟨q2, hq2, he⟩ := List.mem_map.1 hc
    simp only [Prod.mk.injEq] at he
    have : q2 = q := by
      have := List.inj_on_of_nodup_map hnd hq2 hq he.1
      exact this
    rw [← he.2, this]
  cases pol with
  | ignore => exact absurd rfl hpol
  | keep => exact key
  | auto =>
    intro q' hq'
    simp only [applyPolicy] at hq'
    obtain ⟨q, hq, rfl⟩ := List.mem_map.1 hq'
    exact key q hq

/-- **the constraint policy of a run**, for every optimiser class: `init` establishes an invariant `J` of
the optimiser's state and `optimize` keeps it, both however they end with a function satisfying `Q`; `J`
makes the function satisfy `Q` and the optimiser's list tied; `Q` makes log and point feasible.  Then after
`init` and `optimize` — however they end — the log is feasible and the reported list is feasible. -/
theorem feasible_run {τ : Type} {cons : Spec.Cons ℝ} {Q : Fn ℝ → Prop} {J : St (Fn ℝ) τ ℝ → Prop}
    {init : Except (Exc × Fn ℝ) (St (Fn ℝ) τ ℝ)} {opt : Nat → St (Fn ℝ) τ ℝ → Except (Exc × Fn ℝ) (St (Fn ℝ) τ ℝ × ℝ)}
    (hQ : ∀ fn, Q fn → FeasFn cons fn) (hJ : ∀ s, J s → Q s.fn ∧ Tied cons s.core.params)
    (hi : ROk Q J init) (ho : ∀ fuel s1, J s1 → ROk Q (fun r => J r.1) (opt fuel s1)) :
    ROk (FeasFn cons)
      (fun s1 => Spec.feasibleLog cons s1.fn.log = true ∧ Spec.feasibleReport s1.core.params = true ∧
        ∀ fuel', ROk (FeasFn cons)
          (fun r => Spec.feasibleLog cons r.1.fn.log = true ∧ Spec.feasibleReport r.1.core.params = true)
          (opt fuel' s1))
      init :=
  have hend : ∀ s, J s → Spec.feasibleLog cons s.fn.log = true ∧ Spec.feasibleReport s.core.params = true :=
    fun s h => ⟨(hQ _ (hJ s h).1).1, (hJ s h).2.report⟩
  hi.mono hQ fun s1 h1 => ⟨(hend s1 h1).1, (hend s1 h1).2, fun fuel' => (ho fuel' s1 h1).mono hQ fun r hr => hend r.1 hr⟩

end Bpp.Optim
