import BppModel.Tree
import BppProofs.Lemmas.Graph
/-
Induction over the members of the tree container (`BppModel/Tree.lean`).  Every member is made of a few
primitives: a graph operation followed by `topologyHasChanged_` (`T.lift`), an explicit reset of the flag,
`isValid`, `makeDirected`, `orientate`.  A property of the container kept by these is kept by every member
(`T.step_ind`), succeeding or raising; `T.rootAt_ind` is the same for `rootAt` alone, with the two graph
operations it calls.  The invariants of the histories (cache soundness, consistent tables) are instances.
-/
namespace Bpp.Graph

namespace T

/-- the container after a graph operation does not depend on the value the operation returns -/
theorem lift_forget {α : Type} (t : T) (r : GOut α) : (t.lift r.forget).2 = (t.lift r).2 := by
  cases r <;> rfl

theorem lift_g {α : Type} (t : T) (r : GOut α) : (t.lift r).2.g = { r.state with pending := [] } := by cases r <;> rfl

/-- succeeding or raising, `orientate` leaves the container that `lift` leaves when a graph operation raises in the
state `orientate` reached: the flag survives only if nothing changed in the tables -/
theorem orientate_snd (t : T) : t.orientate.2 = (t.lift (.exc t.g.orientate.state : GOut Unit)).2 := by
  unfold orientate
  cases t.g.orientate <;> rfl

theorem andThen_ind {α β : Type} (P : T → Prop) (r : GOut α × T) (f : α → T → GOut β × T) (h : P r.2)
    (hf : ∀ a t', P t' → P (f a t').2) : P (andThen r f).2 := by
  unfold andThen
  split
  · exact hf _ _ h
  · exact h

theorem touch_ind (P : T → Prop) (hreset : ∀ t, P t → P { t with valid := false }) (r : GOut Unit × T) (h : P r.2) :
    P (touch r).2 := by
  unfold touch
  split
  · exact hreset _ h
  · exact h

theorem isValid_g (t : T) : t.isValid.2.g = t.g := by
  unfold isValid
  split
  · rfl
  · split <;> rfl

/-- `h` is `C15.CacheSound t` spelt out (the definition stands in `Props/C15.lean`) -/
theorem isValid_fst {t : T} (h : t.valid = true → isTree t.g = .ok true) : t.isValid.1 = isTree t.g := by
  unfold isValid
  split
  · rename_i hv; rw [h hv]
  · rcases isTree t.g with b | _ | _ | _ <;> rfl

theorem getSubtree_snd (e : Bool) (t : T) (n : Nat) : (t.getSubtree e n).2 = t.isValid.2 := by
  unfold getSubtree
  generalize t.isValid = p
  obtain ⟨v, t'⟩ := p
  dsimp only
  split
  · split <;> rfl
  all_goals rfl

/-- `propagateDirection_`: one lifted `switchNodes` per relation above the node -/
theorem propagate_ind (P : T → Prop) (hsw : ∀ t a b, P t → P (t.lift (t.g.switchNodes a b)).2) :
    ∀ (fuel : Nat) (t : T) (n : Nat) (r : GOut Unit × T), P t → propagate fuel t n = .ok r → P r.2 := by
  intro fuel
  induction fuel with
  | zero => intro t n r _ hr; cases hr
  | succ k ih =>
    intro t n r h hr
    rw [propagate] at hr
    generalize hasFather t.g n = o at hr
    rcases o with _ | _ | _
    · cases hr; exact h
    · cases hr; exact h
    · generalize father t.g n = fo at hr
      cases fo with
      | none => cases hr; exact h
      | some f =>
        dsimp only at hr
        generalize hp : propagate k t f = pr at hr
        rcases pr with r1 | _ | _ | _ <;> cases hr
        exact andThen_ind P _ _ (ih t f r1 h hp) (fun _ t' h' => hsw t' f n h')

theorem orientStep_ind (P : T → Prop) (hsw : ∀ t a b, P t → P (t.lift (t.g.switchNodes a b)).2)
    (r : GOut Unit × T) (p : Nat × Nat) (h : P r.2) : P (orientStep r p).2 := by
  unfold orientStep
  refine andThen_ind P _ _ h (fun _ t' h' => ?_)
  cases t'.g.getAnyEdge p.1 p.2 with
  | none => exact h'
  | some e =>
    dsimp only
    rcases t'.g.getNodes e with _ | ⟨top, _⟩
    · exact h'
    · dsimp only
      by_cases hq : top ≠ p.1
      · rw [if_pos hq]; exact hsw t' _ _ h'
      · rw [if_neg hq]; exact h'

/-- **`rootAt`**: whatever `isValid`, `setRoot`, `makeDirected` and a lifted `switchNodes` keep, `rootAt`
keeps, on a rooted or an unrooted tree, succeeding or raising half way -/
theorem rootAt_ind (P : T → Prop) (hV : ∀ t, P t → P t.isValid.2) (hS : ∀ t n, P t → P (t.setRoot n).2)
    (hD : ∀ t, P t → P t.makeDirected) (hsw : ∀ t a b, P t → P (t.lift (t.g.switchNodes a b)).2)
    (t : T) (n : Nat) (r : GOut Unit × T) (h : P t) (hr : t.rootAt n = .ok r) : P r.2 := by
  unfold rootAt at hr
  have h0 := hV t h
  generalize t.isValid = p at hr h0
  obtain ⟨v, t0⟩ := p
  dsimp only at hr h0
  split at hr
  · split at hr
    · cases hr; exact h0
    · split at hr
      · have h2 := hS t0 n h0
        generalize t0.setRoot n = p at hr h2
        obtain ⟨o, t2⟩ := p
        cases o with
        | ok u g' => exact propagate_ind P hsw _ _ _ _ h2 hr
        | exc g' => cases hr; exact h2
      · split at hr
        · rename_i rel _
          have h2 := hS _ n (hD t0 h0)
          generalize t0.makeDirected.setRoot n = p at hr h2
          obtain ⟨o, t2⟩ := p
          cases o with
          | ok u g' => cases hr; exact foldl_ind (fun acc : GOut Unit × T => P acc.2) _ (orientStep_ind P hsw) rel _ h2
          | exc g' => cases hr; exact h2
        · cases hr; exact h0
        · cases hr
        · cases hr
  · cases hr; exact h0
  · cases hr; exact h0
  · cases hr
  · cases hr

/-- **induction over the members of the container**: whatever a graph operation followed by
`topologyHasChanged_`, a reset of the flag, `isValid`, `makeDirected` and `orientate` keep, every member of
`TOp` keeps, succeeding or raising -/
theorem step_ind (P : T → Prop) (hlift : ∀ t (o : Op), P t → P (t.lift (t.g.apply o)).2)
    (hreset : ∀ t, P t → P { t with valid := false }) (hV : ∀ t, P t → P t.isValid.2)
    (hD : ∀ t, P t → P t.makeDirected) (hO : ∀ t, P t → P t.orientate.2)
    (t : T) (h : P t) (op : TOp) : P (t.step op) := by
  -- the graph operations that return a value: the container does not see it
  have hl : ∀ (t : T) {α : Type} (r : GOut α) (o : Op), r.forget = t.g.apply o → P t → P (t.lift r).2 :=
    fun t _ r o e h => by rw [← lift_forget, e]; exact hlift t o h
  have hunlink : ∀ t a b, P t → P (unit (t.unlink a b)).2 := fun t a b h => hl t _ (.unlink a b) rfl h
  have hlink : ∀ t a b, P t → P (unit (t.link a b)).2 := fun t a b h => hl t _ (.link a b) rfl h
  have hlinkE : ∀ t a b e, P t → P (t.linkE a b e).2 := fun t a b e h => hl t _ (.linkE a b e) rfl h
  have hsetRoot : ∀ t n, P t → P (t.setRoot n).2 := fun t n h => hlift t (.setRoot n) h
  have htouch := touch_ind P hreset
  have hmakeU : ∀ t, P t → P t.makeUndirected.2 := fun t h => by
    unfold makeUndirected
    split
    · exact h
    · exact hlift t .makeUndirected h
  -- the first half of `setFather`: the current father, if any, is unlinked
  have hfirst : ∀ (t : T) (n : Nat) (hf : Bool), P t → P (if hf then
      match father t.g n with
      | none => (GOut.exc t.g, t)
      | some old => unit (t.unlink old n)
    else (GOut.ok () t.g, t)).2 := by
    intro t n hf h
    split
    · split
      · exact h
      · exact hunlink t _ n h
    · exact h
  cases op with
  | createNode => exact hl t _ .createNode rfl h
  | link a b => exact hlink t a b h
  | unlink a b => exact hunlink t a b h
  | deleteNode n => exact hlift t (.deleteNode n) h
  | setRoot n => exact hsetRoot t n h
  | makeDirected => exact hD t h
  | makeUndirected => exact hmakeU t h
  | setFather n f =>
    show P (t.setFather n f).2
    unfold setFather
    by_cases hf : (!t.g.hasNode f) = true
    · rw [if_pos hf]; exact h
    · rw [if_neg hf]
      cases hasFather t.g n with
      | none => exact h
      | some hf => exact htouch _ (andThen_ind P _ _ (hfirst t n hf h) (fun _ t' h' => hlink t' f n h'))
  | addSon n s => exact htouch _ (hlink t n s h)
  | removeSon n s => exact htouch _ (hunlink t n s h)
  | setFatherE n f e =>
    show P (t.setFatherE n f e).2
    unfold setFatherE
    by_cases hf : (!t.g.hasNode f) = true
    · rw [if_pos hf]; exact h
    · rw [if_neg hf]
      cases hasFather t.g n with
      | none => exact h
      | some hf => exact htouch _ (andThen_ind P _ _ (hfirst t n hf h) (fun _ t' h' => hlinkE t' f n e h'))
  | addSonE n s e => exact htouch _ (hlinkE t n s e h)
  | removeSons n =>
    show P (t.removeSons n).2
    unfold removeSons
    split
    · exact h
    · rename_i sons _
      have := foldl_ind (fun acc : GOut Unit × T => P acc.2) (fun acc s => andThen acc (fun _ t' => t'.removeSon n s))
        (fun acc s hacc => andThen_ind P acc _ hacc (fun _ t' h' => htouch _ (hunlink t' n s h'))) sons (.ok () t.g, t) h
      dsimp only
      split <;> exact this
  | rootAt n =>
    show P (match t.rootAt n with | .ok r => r.2 | _ => t)
    split
    · rename_i r hr
      exact rootAt_ind P hV hsetRoot hD (fun t a b h => hlift t (.switchNodes a b) h) t n r h hr
    · exact h
  | unRoot j =>
    show P (t.unRoot j).2
    unfold unRoot
    refine andThen_ind P _ _ ?_ (fun _ t' h' => ?_)
    · split
      · split
        · exact h
        · exact andThen_ind P _ _ (hunlink t _ _ h) (fun _ t1 h1 =>
            andThen_ind P _ _ (hunlink t1 _ _ h1) (fun _ t2 h2 =>
              andThen_ind P _ _ (hlink t2 _ _ h2) (fun _ t3 h3 => hsetRoot t3 _ h3)))
        · exact h
      · exact h
    · exact hmakeU t' h'
  | createNodeFromNode o => exact hl t _ (.createNodeFromNode o) rfl h
  | createNodeOnEdge e => exact hl t _ (.createNodeOnEdge e) rfl h
  | createNodeFromEdge e => exact hl t _ (.createNodeFromEdge e) rfl h
  | orientate => exact hO t h
  | isValid => exact hV t h
  | getSubtree e n => show P (t.getSubtree e n).2; rw [getSubtree_snd]; exact hV t h

theorem run_ind (P : T → Prop) (hstep : ∀ t op, P t → P (t.step op)) (ops : List TOp) :
    ∀ t : T, P t → P (t.run ops) :=
  fun t h => foldl_ind P step (fun t op h => hstep t op h) ops t h

end T
end Bpp.Graph
