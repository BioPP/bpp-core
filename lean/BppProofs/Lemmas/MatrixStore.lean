import BppModel.Matrix
import BppProofs.Lemmas.ScalarReal
/-! Helper lemmas for C04: the three storage classes (`get`/`set`/`resize` laws). -/
namespace Bpp.Mx
open Bpp

section V
variable {β : Type}
@[simp] theorem vresize_size (a : Array β) (n : Nat) (d : β) : (vresize a n d).size = n := by
  simp [vresize]
theorem vget_ok {v : Array β} {i : Nat} (h : i < v.size) : vget v i = .ok v[i] := by
  simp [vget, h]
end V

namespace Store
variable {α : Type}

theorem row_inner {m : Array (Array α)} (hw : (row m).WF) {i : Nat} (hi : i < m.size) : m[i].size = (row m).ncols := hw i hi
theorem col_inner {m : Array (Array α)} (hw : (col m).WF) {j : Nat} (hj : j < m.size) : m[j].size = (col m).nrows := hw j hj

theorem ncols_row_eq {m : Array (Array α)} (h0 : 0 < m.size) : (row m).ncols = m[0].size := by
  simp [ncols, h0]
theorem nrows_col_eq {m : Array (Array α)} (h0 : 0 < m.size) : (col m).nrows = m[0].size := by
  simp [nrows, h0]

/-- the flat index of `(i,j)` in an `r × c` matrix stored row after row -/
theorem lin_index {r c i j : Nat} (hi : i < r) (hj : j < c) :
    i * c + j < r * c ∧ (i * c + j) / c = i ∧ (i * c + j) % c = j := by
  refine ⟨?_, ?_, ?_⟩
  · calc i * c + j < i * c + c := by omega
      _ = (i + 1) * c := by ring
      _ ≤ r * c := Nat.mul_le_mul_right c hi
  · rw [Nat.mul_comm, Nat.mul_add_div (by omega), Nat.div_eq_of_lt hj]; simp
  · rw [Nat.mul_comm, Nat.mul_add_mod, Nat.mod_eq_of_lt hj]

theorem lin_index_surj {r c p : Nat} (hp : p < r * c) : ∃ i, i < r ∧ ∃ j, j < c ∧ p = i * c + j := by
  have hc : 0 < c := Nat.pos_of_ne_zero (fun h => by rw [h, Nat.mul_zero] at hp; omega)
  exact ⟨p / c, Nat.div_lt_of_lt_mul (by rwa [Nat.mul_comm] at hp), p % c, Nat.mod_lt _ hc, (Nat.div_add_mod' p c).symm⟩

theorem get_ok {S : Store α} (hw : S.WF) {i j : Nat} (hi : i < S.nrows) (hj : j < S.ncols) :
    ∃ x, S.get i j = .ok x := by
  -- a vector of columns is read like a vector of rows, with the indices exchanged
  have hrow : ∀ (m : Array (Array α)), (row m).WF → ∀ {i j : Nat}, i < (row m).nrows → j < (row m).ncols →
      ∃ x, (row m).get i j = .ok x := by
    intro m hw i j hi hj
    have hi' : i < m.size := hi
    have hj' : j < m[i].size := by rw [row_inner hw hi']; exact hj
    exact ⟨_, by simp only [get, hi', getElem?_pos]; exact vget_ok hj'⟩
  cases S with
  | row m => exact hrow m hw hi hj
  | col m => exact hrow m hw hj hi
  | lin m r c =>
    have : i * c + j < m.size := (hw : m.size = r * c) ▸ (lin_index (r := r) (c := c) hi hj).1
    exact ⟨_, by simp only [get]; exact vget_ok this⟩

theorem get_eq_entry [Inhabited α] {S : Store α} (hw : S.WF) {i j : Nat} (hi : i < S.nrows) (hj : j < S.ncols) :
    S.get i j = .ok (S.entry i j) := by
  obtain ⟨x, hx⟩ := get_ok hw hi hj
  simp [entry, hx]

theorem ncols_row_set {m : Array (Array α)} {i : Nat} (hi : i < m.size) (r' : Array α) (hs : r'.size = m[i].size) :
    (row (m.set i r')).ncols = (row m).ncols := by
  simp only [ncols]
  by_cases h0 : i = 0
  · subst h0
    simp [hs, hi]
  · have : 0 < m.size := by omega
    simp [h0, this]

/-- An entry of a vector of vectors is replaced.  Stated for the vector read as rows; read as columns it is the
same fact with the indices exchanged (`(col m).get i j`, `(col m).nrows`, `(col m).WF` unfold to `(row m).get j i`,
`(row m).ncols`, `(row m).WF`). -/
theorem vv_set {m : Array (Array α)} (hw : (row m).WF) {i j : Nat} (hi : i < m.size) (hj : j < (row m).ncols) (x : α) :
    j < m[i].size ∧ (row (m.set i (m[i].set! j x))).WF ∧ (row (m.set i (m[i].set! j x))).ncols = (row m).ncols ∧
      (row (m.set i (m[i].set! j x))).get i j = .ok x ∧
      ∀ p q, p < m.size → (p ≠ i ∨ q ≠ j) → (row (m.set i (m[i].set! j x))).get p q = (row m).get p q := by
  have hj' : j < m[i].size := by rw [row_inner hw hi]; exact hj
  have hnc := ncols_row_set hi (m[i].set! j x) (by simp)
  refine ⟨hj', ?_, hnc, by simp [get, hi, vget, hj'], ?_⟩
  · intro k hk
    rw [hnc]
    have hk' : k < m.size := by simpa using hk
    rw [Array.getElem_set]
    split
    · next h => subst h; simp; exact row_inner hw hi
    · exact row_inner hw hk'
  · intro p q hp hne
    simp only [get, Array.getElem?_set]
    by_cases hip : i = p
    · subst hip
      have hqj : q ≠ j := by rcases hne with h | h; exact absurd rfl h; exact h
      simp [hi, vget, Ne.symm hqj]
    · simp [hip]

theorem set_spec {S : Store α} (hw : S.WF) {i j : Nat} (hi : i < S.nrows) (hj : j < S.ncols) (x : α) :
    ∃ S', S.set i j x = .ok S' ∧ S'.WF ∧ S'.kind = S.kind ∧ S'.nrows = S.nrows ∧ S'.ncols = S.ncols ∧
      S'.get i j = .ok x ∧
      ∀ p q, p < S.nrows → q < S.ncols → (p ≠ i ∨ q ≠ j) → S'.get p q = S.get p q := by
  cases S with
  | row m =>
    have hi' : i < m.size := hi
    obtain ⟨hj', w, nc, g, o⟩ := vv_set hw hi' hj x
    exact ⟨row (m.set i (m[i].set! j x)), by simp [set, hi', hj'], w, rfl, by simp [nrows], nc, g,
      fun p q hp _ hne => o p q hp hne⟩
  | col m =>
    have hj' : j < m.size := hj
    obtain ⟨hi', w, nr, g, o⟩ := vv_set (m := m) hw hj' hi x
    exact ⟨col (m.set j (m[j].set! i x)), by simp [set, hj', hi'], w, rfl, nr, by simp [ncols], g,
      fun p q _ hq hne => o q p hq hne.symm⟩
  | lin m r c =>
    have hs : m.size = r * c := hw
    have hlt : i * c + j < m.size := hs ▸ (lin_index (r := r) (c := c) hi hj).1
    refine ⟨lin (m.set! (i * c + j) x) r c, by simp [set, hlt], ?_, rfl, rfl, rfl, ?_, ?_⟩
    · show (m.set! (i * c + j) x).size = r * c
      simp [hs]
    · simp [get, vget, hlt]
    · intro p q hp hq hne
      -- different positions have different flat indices: `/ c` and `% c` recover the position
      have hidx : i * c + j ≠ p * c + q := by
        intro h
        have h1 := (lin_index (r := r) (c := c) hi hj).2
        have h2 := (lin_index (r := r) (c := c) hp hq).2
        rw [h] at h1
        rcases hne with h' | h'
        · exact h' (h2.1.symm.trans h1.1)
        · exact h' (h2.2.symm.trans h1.2)
      simp [get, vget, hidx]

theorem empty_wf (k : Kind) : (empty k : Store α).WF := by
  cases k
  · intro i h; simp at h
  · intro i h; simp at h
  · show (#[] : Array α).size = 0 * 0
    simp

@[simp] theorem empty_kind (k : Kind) : (empty k : Store α).kind = k := by cases k <;> rfl
@[simp] theorem empty_nrows (k : Kind) : (empty k : Store α).nrows = 0 := by cases k <;> rfl
@[simp] theorem empty_ncols (k : Kind) : (empty k : Store α).ncols = 0 := by cases k <;> rfl

section Resize
variable [Scalar α]

@[simp] theorem resize_kind (S : Store α) (r c : Nat) : (S.resize r c).kind = S.kind := by
  cases S <;> rfl

theorem resize_dims (S : Store α) (r c : Nat) :
    ((S.resize r c).nrows, (S.resize r c).ncols) = S.kind.shape r c := by
  -- a vector of columns is resized like a vector of rows, with the dimensions exchanged
  have hrow : ∀ (m : Array (Array α)) (r c : Nat),
      ((row m).resize r c).nrows = r ∧ ((row m).resize r c).ncols = if r = 0 then 0 else c := by
    intro m r c
    simp only [resize, nrows, ncols]
    by_cases hr : r = 0
    · subst hr; simp [vresize]
    · have : 0 < r := by omega
      simp [hr, this, vresize]
  cases S with
  | row m => exact Prod.ext (hrow m r c).1 (hrow m r c).2
  | col m => exact Prod.ext (hrow m c r).2 (hrow m c r).1
  | lin m rows cols => rfl

theorem resize_wf (S : Store α) (r c : Nat) : (S.resize r c).WF := by
  have hrow : ∀ (m : Array (Array α)) (r c : Nat), ((row m).resize r c).WF := by
    intro m r c i hi
    have hi' : i < r := by simpa [resize] using hi
    have hd := resize_dims (row m) r c
    have h2 : (row m).kind.shape r c = (r, c) := by simp [Kind.shape, kind]; omega
    rw [h2] at hd
    have : (resize (row m) r c).ncols = c := (Prod.mk.inj hd).2
    simp only [resize] at this ⊢
    rw [this]
    simp
  cases S with
  | row m => exact hrow m r c
  | col m => exact hrow m c r
  | lin m rows cols =>
    show (Array.ofFn _).size = r * c
    simp

/-- a resized vector of vectors, read as rows (read as columns: the indices exchanged) -/
theorem vv_resize_get {m : Array (Array α)} (hw : (row m).WF) (r c : Nat) {i j : Nat} (hi : i < r) (hj : j < c) :
    ((row m).resize r c).get i j = .ok (if i < (row m).nrows ∧ j < (row m).ncols then (row m).entry i j else Scalar.zero) := by
  simp only [resize, get]
  simp only [Array.getElem?_map, vresize_size, hi, getElem?_pos, Option.map_some, vget]
  simp only [vresize, Array.getElem_ofFn, Array.getElem?_ofFn, hj]
  by_cases h1 : i < m.size
  · have hin := row_inner hw h1
    by_cases h2 : j < (row m).ncols
    · have : j < m[i].size := by rw [hin]; exact h2
      have hi' : i < (row m).nrows := h1
      simp [h1, this, hi', h2, entry, get, vget]
    · have : ¬ j < m[i].size := by rw [hin]; exact h2
      simp [h1, this, h2]
  · have hi' : ¬ i < (row m).nrows := h1
    simp [h1, hi']

/-- `resize` keeps the entries of the common leading block and zero-fills the rest -/
theorem resize_get {S : Store α} (hw : S.WF) (r c : Nat) {i j : Nat} (hi : i < r) (hj : j < c) :
    (S.resize r c).get i j = .ok (if i < S.nrows ∧ j < S.ncols then S.entry i j else Scalar.zero) := by
  cases S with
  | row m => exact vv_resize_get hw r c hi hj
  | col m => exact (vv_resize_get (m := m) hw c r hj hi).trans (congrArg _ (if_congr and_comm rfl rfl))
  | lin m rows cols =>
    obtain ⟨hlt, hd, hm⟩ := lin_index hi hj
    simp only [resize, get, vget, Array.getElem?_ofFn, hlt, hd, hm]
    by_cases h : i < rows ∧ j < cols
    · have hlt2 : i * cols + j < m.size := (hw : m.size = rows * cols) ▸ (lin_index h.1 h.2).1
      have h' : i < (lin m rows cols).nrows ∧ j < (lin m rows cols).ncols := h
      simp [h, h', entry, get, vget, hlt2]
    · have h' : ¬ (i < (lin m rows cols).nrows ∧ j < (lin m rows cols).ncols) := h
      simp [h, h']

end Resize

end Store
end Bpp.Mx
