import BppProofs.Lemmas.AliasView
/-! C01's invariant along the operations of C03: every parameter object satisfies its own
constraint, whatever the operation and its outcome; constraints only narrow (two instances of `HeapRel`: a relation that
holds across the primitive writes to parameter objects holds across every operation).  The constraint part of the pair form
exactly (`aliasConstraints_spec`), and with it what a returned pair alias did, fact by fact (`AliasDone.val`, `.con`, `.link`, …). -/
namespace Bpp.Alias
open Bpp.ParamList (Bnd Con Par Store ObjId nameOf find? hasParameter names startsWith)

/-- every allocated parameter object is accepted by its own constraint -/
def HeapOk (w : World) : Prop := ∀ i, i < w.heap.next → (w.heap.get i).ok = true

theorem heapOk_putValue {w : World} (h : HeapOk w) {i : ObjId} {v : Rat} (hv : (w.heap.get i).rejects v = false) :
    HeapOk (w.putValue i v) := by
  intro j hj
  have hj' : j < w.heap.next := hj
  simp only [World.putValue, ParamList.get_put]
  split
  · rename_i e; subst e
    simp only [Par.ok, Par.rejects] at hv ⊢
    cases hc : (w.heap.get j).con with
    | none => simp
    | some c => rw [hc] at hv; simpa using hv
  · exact h j hj'

theorem fireList_heapOk {k : World → ObjId → Rat → WR} (hk : ∀ w t u, HeapOk w → HeapOk (k w t u).w) (src : ObjId) :
    ∀ (ls : List Nat) (w : World), HeapOk w → HeapOk (fireList k src w ls).w :=
  fireList_ind (P := fun w _ r => HeapOk w → HeapOk r.w) (fun _ h => h) (fun _ _ _ _ h => h) (fun _ _ _ _ _ _ h => h)
    (fun w _ _ t _ _ _ _ h => hk w t _ h) (fun w _ _ t _ _ _ ih h => ih (hk w t _ h))

theorem setV_heapOk : ∀ (f : Nat) (w : World) (i : ObjId) (v : Rat), HeapOk w → HeapOk (setV f w i v).w
  | 0, _, _, _, h => h
  | f + 1, w, i, v, h => by
    simp only [setV]
    split
    · exact h
    · split
      · exact h
      · rename_i hr
        exact fireList_heapOk (setV_heapOk f) i _ _ (heapOk_putValue h (by simpa using hr))

/-! ## Constraints only narrow -/

/-- every parameter object of `w` is still there in `w'`, under a constraint that accepts no more -/
def Narrow (w w' : World) : Prop :=
  w.heap.next ≤ w'.heap.next ∧
  ∀ i, i < w.heap.next → ∀ v, accOpt (w'.heap.get i).con v = true → accOpt (w.heap.get i).con v = true

theorem Narrow.refl (w : World) : Narrow w w := ⟨Nat.le_refl _, fun _ _ _ h => h⟩
theorem Narrow.trans {a b c : World} (x : Narrow a b) (y : Narrow b c) : Narrow a c :=
  ⟨Nat.le_trans x.1 y.1, fun i hi v h => x.2 i hi v (y.2 i (Nat.lt_of_lt_of_le hi x.1) v h)⟩

/-- same constraints on the old objects -/
theorem Narrow.of_con {w w' : World} (hn : w.heap.next ≤ w'.heap.next)
    (hc : ∀ i, i < w.heap.next → (w'.heap.get i).con = (w.heap.get i).con) : Narrow w w' :=
  ⟨hn, fun i hi v h => by rw [hc i hi] at h; exact h⟩

theorem SameBut.narrow {w w' : World} (s : SameBut w w') : Narrow w w' :=
  Narrow.of_con (by rw [s.next]) (fun i _ => s.con i)

/-- the constraint part of the pair form, exactly: `aliasConSpec` on the two parameters, nothing else -/
theorem aliasConstraintsL_spec {w : World} {i1 i2 : ObjId} (hne : i1 ≠ i2) (ok : (aliasConstraintsL w i1 i2).err = none) :
    ((aliasConstraintsL w i1 i2).w.heap.get i1).con = (aliasConSpec (w.heap.get i1).con (w.heap.get i2).con).1 ∧
    ((aliasConstraintsL w i1 i2).w.heap.get i2).con = (aliasConSpec (w.heap.get i1).con (w.heap.get i2).con).2 ∧
    (∀ j, j ≠ i1 → j ≠ i2 → (aliasConstraintsL w i1 i2).w.heap.get j = w.heap.get j) ∧
    (aliasConstraintsL w i1 i2).w.heap.next = w.heap.next := by
  have hp : ∀ (p : Par) (c : Con) (q : Par), parSetConstraint p c = .ok q → q = { p with con := some c } :=
    fun _ _ _ h => (parSetConstraint_ok h).1
  cases h1 : (w.heap.get i1).con with
  | none =>
    cases h2 : (w.heap.get i2).con with
    | none =>
      have : aliasConstraintsL w i1 i2 = { w := w } := by simp [aliasConstraintsL, h1, h2]
      rw [this]; simp [aliasConSpec, h1, h2]
    | some c2 =>
      cases hq : parSetConstraint (w.heap.get i1) c2 with
      | error e =>
        have : aliasConstraintsL w i1 i2 = { w := w, err := some e } := by simp [aliasConstraintsL, h1, h2, hq]
        rw [this] at ok; cases ok
      | ok q =>
        have : aliasConstraintsL w i1 i2 = { w := w.putPar i1 q } := by simp [aliasConstraintsL, h1, h2, hq]
        rw [this]
        have := hp _ _ _ hq
        subst this
        refine ⟨by simp [aliasConSpec], by simp [aliasConSpec, hne.symm, h2], fun j hj1 _ => by simp [hj1], rfl⟩
  | some c1 =>
    cases h2 : (w.heap.get i2).con with
    | none =>
      have : aliasConstraintsL w i1 i2 = { w := w } := by simp [aliasConstraintsL, h1, h2]
      rw [this]; simp [aliasConSpec, h1, h2]
    | some c2 =>
      by_cases hcc : c1 = c2
      · subst hcc
        have : aliasConstraintsL w i1 i2 = { w := w } := by simp [aliasConstraintsL, h1, h2]
        rw [this]; simp [aliasConSpec, h1, h2]
      · cases hq2 : parSetConstraint (w.heap.get i2) (Con.inter c2 c1) with
        | error e =>
          have : aliasConstraintsL w i1 i2 = { w := w, err := some e } := by simp [aliasConstraintsL, h1, h2, hcc, hq2]
          rw [this] at ok; cases ok
        | ok q2 =>
          cases hq1 : parSetConstraint ((w.putPar i2 q2).heap.get i1) (Con.inter c2 c1) with
          | error e =>
            have : aliasConstraintsL w i1 i2 = { w := w.putPar i2 q2, err := some e } := by
              simp only [aliasConstraintsL, h1, h2, ne_eq, hcc, not_false_eq_true, if_true, hq2, hq1]
            rw [this] at ok; cases ok
          | ok q1 =>
            have : aliasConstraintsL w i1 i2 = { w := (w.putPar i2 q2).putPar i1 q1 } := by
              simp only [aliasConstraintsL, h1, h2, ne_eq, hcc, not_false_eq_true, if_true, hq2, hq1]
            rw [this]
            have e2 := hp _ _ _ hq2
            have e1 := hp _ _ _ hq1
            subst e2 e1
            refine ⟨by simp [aliasConSpec, hcc], by simp [aliasConSpec, hcc, hne.symm], fun j hj1 hj2 => by simp [hj1, hj2], rfl⟩

theorem aliasConstraints_spec {w : World} {i1 i2 : ObjId} (hne : i1 ≠ i2) (ok : (aliasConstraints w i1 i2).err = none) :
    ((aliasConstraints w i1 i2).w.heap.get i1).con = (aliasConSpec (w.heap.get i1).con (w.heap.get i2).con).1 ∧
    ((aliasConstraints w i1 i2).w.heap.get i2).con = (aliasConSpec (w.heap.get i1).con (w.heap.get i2).con).2 ∧
    (∀ j, j ≠ i1 → j ≠ i2 → (aliasConstraints w i1 i2).w.heap.get j = w.heap.get j) ∧
    (aliasConstraints w i1 i2).w.heap.next = w.heap.next := by
  rcases aliasConstraints_cases w i1 i2 with h | h
  · rw [h] at ok; cases ok
  · rw [h] at ok ⊢; exact aliasConstraintsL_spec hne ok

theorem aliasConstraints_val (w : World) (i1 i2 : ObjId) (j : ObjId) : val (aliasConstraints w i1 i2).w j = val w j :=
  (aliasConstraints_conStep w i1 i2).val j

/-! ## What a pair alias that returned did (`AliasDone`), fact by fact -/

namespace AliasDone
variable {w W : World} {k : Nat} {o : Obj} {p1 p2 : String} (dn : AliasDone w k o p1 p2 W)
include dn

theorem ne : dn.i1 ≠ dn.i2 := fun e =>
  dn.noanc dn.pos1 dn.i1 Relation.ReflTransGen.refl dn.hi1 (e ▸ dn.hn2)

theorem find1 (h : ObjInv w k o) : find? w.heap o.params (o.pre ++ p1) = some dn.i1 :=
  (find?_iff h.nodup).2 ⟨dn.mem1, dn.hn1⟩

theorem find2 (h : ObjInv w k o) : find? w.heap o.params (o.pre ++ p2) = some dn.i2 :=
  (find?_iff h.nodup).2 ⟨dn.mem2, dn.hn2⟩

theorem fresh (h : ObjInv w k o) : aliasId p1 p2 ∉ o.reg.map Prod.fst := aliasId_fresh h dn.mem2 dn.hn2 dn.hind

theorem val (j : ObjId) : val W j = val w j := by
  rcases dn with ⟨i1, i2, _, _, _, _, _, _, _, _, rfl, _, _⟩
  rw [Alias.val, aliased_heap]; exact aliasConstraints_val w i1 i2 j

theorem name (j : ObjId) : nameOf W.heap j = nameOf w.heap j := by
  rcases dn with ⟨i1, i2, _, _, _, _, _, _, _, _, rfl, _, _⟩
  rw [aliased_heap]; exact (aliasConstraints_sameShape w i1 i2).name j

/-- the two parameters end with the constraints `aliasConSpec` computes; every other parameter object is as before -/
theorem con : (W.heap.get dn.i1).con = (aliasConSpec (w.heap.get dn.i1).con (w.heap.get dn.i2).con).1 ∧
    (W.heap.get dn.i2).con = (aliasConSpec (w.heap.get dn.i1).con (w.heap.get dn.i2).con).2 ∧
    ∀ j, j ≠ dn.i1 → j ≠ dn.i2 → W.heap.get j = w.heap.get j := by
  obtain ⟨c1, c2, c3, _⟩ := aliasConstraints_spec dn.ne dn.cons
  rcases dn with ⟨i1, i2, _, _, _, _, _, _, _, _, rfl, _, _⟩
  rw [aliased_heap]; exact ⟨c1, c2, c3⟩

/-- the new listener object is attached to `p1` and writes to `p2` -/
theorem wired : w.lnext ∈ W.lsn dn.i1 ∧ tgt W w.lnext = some dn.i2 := by
  rcases dn with ⟨i1, i2, _, _, _, hi2, _, _, _, _, rfl, _, _⟩
  have hl := (aliasConstraints_sameShape w i1 i2).lnext
  refine ⟨by rw [aliased_lsn, if_pos rfl, hl]; exact List.mem_append_right _ (List.mem_singleton_self _), ?_⟩
  simp only [tgt, aliased_lis, aliased_objs, hl, if_true]
  exact hi2

/-- the links are those of before and "`p2` follows `p1`" -/
theorem link (h : ObjInv w k o) (x y : String) :
    Link W (aliasedObj o p1 p2 dn.i2 w.lnext) x y ↔ Link w o x y ∨ (x = p1 ∧ y = p2) := by
  have hfresh := dn.fresh (p1 := p1) h
  rcases dn with ⟨i1, i2, _, _, _, _, _, _, _, _, rfl, _, _⟩
  have hss := aliasConstraints_sameShape w i1 i2
  rw [← hss.lnext, link_aliased (h.sameShape hss) hfresh, hss.link]

end AliasDone

/-! ## Relations on the heap

`HeapOk` (as "if it held before it holds after") and `Narrow` are relations between worlds that see the heap only
and hold across the primitive writes to parameter objects: `Parameter::setValue`, the constraint part of the
pair form, allocation, renaming.  Every operation is made of these and of bookkeeping the heap does not see. -/

structure HeapRel (R : World → World → Prop) : Prop where
  refl : ∀ w, R w w
  trans : ∀ {a b c : World}, R a b → R b c → R a c
  heap : ∀ {w W : World}, W.heap = w.heap → R w W
  setValue : ∀ w i v, R w (setValue w i v).w
  constraints : ∀ w i1 i2, R w (aliasConstraints w i1 i2).w
  /-- `new Parameter(...)`: the constructor has checked the value -/
  new : ∀ w p, p.ok = true → R w (w.allocPar p []).1
  clone : ∀ w i ls, i < w.heap.next → R w (w.allocPar (w.heap.get i) ls).1
  rename : ∀ w k o pre, ObjInv w k o → R w (nsWorld w k o pre)

namespace HeapRel
variable {R : World → World → Prop} (hR : HeapRel R)
include hR

theorem writes {C : ObjId → Rat → Prop} {w : World} {r : WR} (h : Writes C w r) : R w r.w :=
  h.inv (I := R w) (fun w' i v _ hw' => hR.trans hw' (hR.setValue w' i v)) (hR.refl w)

theorem aliased {w W : World} {k : Nat} {o : Obj} {p1 p2 : String} (dn : AliasDone w k o p1 p2 W) : R w W := by
  rw [dn.eq]; exact hR.trans (hR.constraints w dn.i1 dn.i2) (hR.heap rfl)

theorem cloneAll : ∀ (l : List ObjId) (w : World), (∀ i ∈ l, i < w.heap.next) → R w (cloneAll w l).1
  | [], w, _ => hR.refl w
  | a :: rest, w, hv =>
    hR.trans (hR.clone w a _ (hv a (List.mem_cons_self ..)))
      (cloneAll rest _ (fun i hi => Nat.lt_succ_of_lt (hv i (List.mem_cons_of_mem _ hi))))

/-- **every operation of C03, whatever its outcome** -/
theorem step {w : World} (h : Inv w) (op : Op) (hwf : op.wf w) : R w (step w op).1 := by
  have d := step_did h op hwf
  generalize (Alias.step w op).1 = W at d
  generalize (Alias.step w op).2 = out at d
  have pairs : ∀ {k : Nat} {D : List (String × String)} {W : World}, Pairs k w D W → R w W := fun p =>
    (p.keeps (R := fun _ => R) hR.refl hR.trans (fun _ _ dn => hR.aliased dn) h).1
  cases d with
  | ub | refused | same => exact hR.refl w
  | new | unaliased => exact hR.heap rfl
  | added _ hok _ => exact hR.trans (hR.new w _ hok) (hR.heap rfl)
  | aliased _ dn => exact hR.aliased dn
  | bulkRaised _ p _ => exact pairs p
  | bulk _ p _ _ _ => exact hR.trans (pairs p) (hR.writes (syncLinks_writes _ _ _))
  | update _ _ hr _ => exact hR.writes hr
  | copied ho r | assigned ho r => exact hR.trans (hR.cloneAll _ w (h.obj _ _ ho).valid) (hR.heap r.heap)
  | renamed pre ho => exact hR.rename w _ _ pre (h.obj _ _ ho)

theorem run : ∀ (ops : List Op) {w : World}, Inv w → WfRun w ops → R w (run w ops)
  | [], w, _, _ => hR.refl w
  | op :: rest, _, h, hw => hR.trans (hR.step h op hw.1) (run rest (inv_step h op hw.1) hw.2)

end HeapRel

/-- **every operation of C03, whatever its outcome, keeps every parameter inside its own constraint**
(C01's invariant through the object-level routes; the routes are the checked `Parameter::setValue`
and `Parameter::setConstraint` only) -/
theorem heapOk_rel : HeapRel (fun w w' => HeapOk w → HeapOk w') where
  refl _ := id
  trans x y h := y (x h)
  heap e h i hi := by rw [e] at hi ⊢; exact h i hi
  setValue w i v := setV_heapOk _ w i v
  constraints w i1 i2 h j hj :=
    have cs := aliasConstraints_conStep w i1 i2
    cs.ok j (h j (cs.next ▸ hj))
  new w p hok h i hi := by
    have hi' : i < w.heap.next + 1 := hi
    simp only [allocPar_get]
    split
    · exact hok
    · rename_i hne; exact h i (Nat.lt_of_le_of_ne (Nat.le_of_lt_succ hi') hne)
  clone w a ls ha h i hi := by
    have hi' : i < w.heap.next + 1 := hi
    simp only [allocPar_get]
    split
    · exact h a ha
    · rename_i hne; exact h i (Nat.lt_of_le_of_ne (Nat.le_of_lt_succ hi') hne)
  rename w k o pre hi h i hlt := by
    obtain ⟨f1, _, _, _, f5, _⟩ := nsWorld_facts hi pre
    rw [f5 i]
    split <;> exact h i (f1 ▸ hlt)

theorem heapOk_run (ops : List Op) {w : World} (hv : Inv w) (hw : WfRun w ops) (h : HeapOk w) : HeapOk (run w ops) :=
  heapOk_rel.run ops hv hw h

/-- no operation of C03 ever widens the constraint of an existing parameter object -/
theorem narrow_rel : HeapRel Narrow where
  refl := Narrow.refl
  trans := Narrow.trans
  heap e := Narrow.of_con (by rw [e]) (fun i _ => by rw [e])
  setValue w i v := (setValue_sameBut w i v).narrow
  constraints w i1 i2 :=
    have cs := aliasConstraints_conStep w i1 i2
    ⟨Nat.le_of_eq cs.next.symm, fun i _ v h => cs.acc i v h⟩
  new w p _ := Narrow.of_con (Nat.le_succ _) (fun i hi => by simp only [allocPar_get, Nat.ne_of_lt hi, if_false])
  clone w a ls _ := Narrow.of_con (Nat.le_succ _) (fun i hi => by simp only [allocPar_get, Nat.ne_of_lt hi, if_false])
  rename w k o pre hi :=
    have ⟨f1, _, _, _, f5, _⟩ := nsWorld_facts hi pre
    Narrow.of_con (Nat.le_of_eq f1.symm) (fun i _ => by rw [f5 i]; split <;> rfl)

theorem narrow_run (ops : List Op) {w : World} (hv : Inv w) (hw : WfRun w ops) : Narrow w (run w ops) :=
  narrow_rel.run ops hv hw

/-- the listener id `id` is registered in the object of slot `k` -/
def Linked (w : World) (k : Nat) (id : String) : Prop := ∃ o, w.objs k = some o ∧ id ∈ o.reg.map Prod.fst

end Bpp.Alias
