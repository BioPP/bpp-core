import BppModel.DistKernels
import BppProofs.Lemmas.DistGuards
import Mathlib.Algebra.Order.Archimedean.Basic
/-!
The loops of `BppModel/DistKernels.lean`, then its routines read at `ℝ`.  A loop with fuel (`iter`) delivers exactly
the early exits of the capped loop (`iter_eq_some_iff`), so one induction serves both: what an exit satisfies follows
from an invariant of the step function (`iterCap_inr_inv'`), that a loop is left from a measure that shrinks
geometrically (`iter_isSome_of_geometric`: the series of `incompleteGamma`, the power series of the incomplete beta
for `β ≤ 2`), that the fuel is not observable from `FuelMono`.  At `ℝ` each routine is an `if` over propositions
(`*_real`); `incompleteBeta_swapped` and `qBeta_upper` are the two tail swaps.
-/
namespace Bpp.DistKernels
open Bpp Bpp.Scalar Bpp.PNorm

/-- the real numbers have no infinite element: over `ℝ` the guard `isinf(x)` (cpp:160) is vacuous -/
instance : InfTest ℝ := ⟨fun _ => false⟩
@[simp] theorem isInf_real (x : ℝ) : InfTest.isInf x = false := rfl

section
variable {σ β : Type} {step : σ → Sum σ β} {s s' : σ} {b : β}

theorem iter_succ_inl (h : step s = .inl s') (n : Nat) : iter step (n + 1) s = iter step n s' := by
  rw [iter, h]

theorem iter_succ_inr (h : step s = .inr b) (n : Nat) : iter step (n + 1) s = some b := by
  rw [iter, h]

theorem iterCap_succ_inl (h : step s = .inl s') (n : Nat) : iterCap step (n + 1) s = iterCap step n s' := by
  rw [iterCap, h]

theorem iterCap_succ_inr (h : step s = .inr b) (n : Nat) : iterCap step (n + 1) s = .inr b := by
  rw [iterCap, h]

end

/-- a loop with fuel delivers exactly the early exits of the capped loop -/
theorem iter_eq_some_iff {σ β : Type} (step : σ → Sum σ β) (n : Nat) (s : σ) (b : β) :
    iter step n s = some b ↔ iterCap step n s = .inr b := by
  induction n generalizing s with
  | zero => exact iff_of_false nofun nofun
  | succ n ih =>
    cases hs : step s with
    | inl s' => rw [iter_succ_inl hs, iterCap_succ_inl hs, ih]
    | inr b' => rw [iter_succ_inr hs, iterCap_succ_inr hs, Option.some.injEq, Sum.inr.injEq]

/-- more fuel never changes a delivered answer -/
theorem iter_mono {σ β : Type} (step : σ → Sum σ β) :
    ∀ (n k : Nat) (s : σ) (b : β), iter step n s = some b → iter step (n + k) s = some b := by
  intro n
  induction n with
  | zero => intro k s b h; cases h
  | succ n ih =>
    intro k s b h
    rw [Nat.add_right_comm]
    cases hs : step s with
    | inl s' => rw [iter_succ_inl hs] at h ⊢; exact ih k s' b h
    | inr b' => rw [iter_succ_inr hs] at h ⊢; exact h

/-- … also through the post-processing of the delivered state -/
theorem ofOpt_iter_mono {σ β α : Type} (step : σ → Sum σ β) (f : β → α) (n k : Nat) (s : σ) (v : α)
    (h : R.ofOpt ((iter step n s).map f) = .val v) : R.ofOpt ((iter step (n + k) s).map f) = .val v := by
  cases hi : iter step n s with
  | none => rw [hi] at h; cases h
  | some b => rw [iter_mono step n k s b hi, ← hi]; exact h

theorem flat_iter_mono {σ α : Type} (step : σ → Sum σ (R α)) (n k : Nat) (s : σ) (v : α)
    (h : flat (iter step n s) = .val v) : flat (iter step (n + k) s) = .val v := by
  cases hi : iter step n s with
  | none => rw [hi] at h; cases h
  | some b => rw [iter_mono step n k s b hi, ← hi]; exact h

/-- a computation with fuel whose delivered value does not change with more fuel.  The rules below follow the
constructs the routines with fuel are built from, so that a routine has the property by a walk along its text. -/
def FuelMono {α : Type} (f : Nat → R α) : Prop := ∀ n k v, f n = .val v → f (n + k) = .val v

namespace FuelMono
variable {α : Type} {f g : Nat → R α}

theorem const (r : R α) : FuelMono fun _ => r := fun _ _ _ h => h

theorem ite (c : Prop) [Decidable c] (hf : FuelMono f) (hg : FuelMono g) :
    FuelMono fun n => if c then f n else g n := by
  by_cases h : c
  · simpa only [if_pos h] using hf
  · simpa only [if_neg h] using hg

theorem ofOpt_iter {σ β : Type} (step : σ → Sum σ β) (post : β → α) (s : σ) :
    FuelMono fun n => R.ofOpt ((iter step n s).map post) :=
  fun n k v => ofOpt_iter_mono step post n k s v

theorem flat_iter {σ : Type} (step : σ → Sum σ (R α)) (s : σ) : FuelMono fun n => flat (iter step n s) :=
  fun n k v => flat_iter_mono step n k s v

/-- a loop whose delivered state is handed to a computation that takes the fuel again -/
theorem iter_bind {σ β : Type} (step : σ → Sum σ β) (s : σ) {c : β → Nat → R α} (hc : ∀ b, FuelMono (c b)) :
    FuelMono fun n => match iter step n s with | some b => c b n | none => .hang := by
  intro n k v h
  dsimp only at h ⊢
  cases hi : iter step n s with
  | none => rw [hi] at h; cases h
  | some b =>
    rw [hi] at h
    rw [iter_mono step n k s b hi]
    exact hc b n k v h

end FuelMono

/-- an early exit of a capped loop, with an invariant of the state -/
theorem iterCap_inr_inv' {σ β : Type} (step : σ → Sum σ β) (I : σ → Prop) (P : β → Prop)
    (hI : ∀ s s', I s → step s = .inl s' → I s') (h : ∀ s b, I s → step s = .inr b → P b) :
    ∀ (n : Nat) (s : σ) (b : β), I s → iterCap step n s = .inr b → P b := by
  intro n
  induction n with
  | zero => intro s b _ hb; cases hb
  | succ n ih =>
    intro s b hs0 hb
    cases hs : step s with
    | inl s' => rw [iterCap_succ_inl hs] at hb; exact ih s' b (hI s s' hs0 hs) hb
    | inr b' =>
      rw [iterCap_succ_inr hs] at hb
      cases hb
      exact h s _ hs0 hs

/-- an early exit of a capped loop was an exit of its step function -/
theorem iterCap_inr_inv {σ β : Type} (step : σ → Sum σ β) (P : β → Prop)
    (h : ∀ s b, step s = .inr b → P b) : ∀ (n : Nat) (s : σ) (b : β), iterCap step n s = .inr b → P b :=
  fun n s b => iterCap_inr_inv' step (fun _ => True) P (fun _ _ _ _ => trivial) (fun s b _ => h s b) n s b trivial

/-- whatever an unbounded loop delivers was delivered by an exit of its step function -/
theorem iter_some_inv {σ β : Type} (step : σ → Sum σ β) (P : β → Prop)
    (h : ∀ s b, step s = .inr b → P b) : ∀ (n : Nat) (s : σ) (b : β), iter step n s = some b → P b :=
  fun n s b hb => iterCap_inr_inv step P h n s b ((iter_eq_some_iff step n s b).mp hb)

/-- a loop whose measure `μ` shrinks by the factor `r` in every round that continues, and that continues
only while `ε < μ`, has left after `m + 1` rounds once `μ s * r ^ m ≤ ε` -/
theorem iter_isSome_of_geometric {σ β : Type} (step : σ → Sum σ β) (I : σ → Prop) (μ : σ → ℝ) {r ε : ℝ}
    (hr : 0 ≤ r) (h : ∀ s s', I s → step s = .inl s' → I s' ∧ ε < μ s ∧ μ s' ≤ μ s * r) :
    ∀ (m fuel : Nat) (s : σ), m + 1 ≤ fuel → I s → μ s * r ^ m ≤ ε → (iter step fuel s).isSome = true := by
  intro m
  induction m with
  | zero =>
    intro fuel s hf hs hm
    obtain ⟨n, rfl⟩ := Nat.exists_eq_add_one_of_ne_zero (Nat.ne_zero_of_lt hf)
    rw [pow_zero, mul_one] at hm
    cases hst : step s with
    | inl s' => exact absurd hm (not_le.mpr (h s s' hs hst).2.1)
    | inr b => rw [iter_succ_inr hst]; rfl
  | succ m ih =>
    intro fuel s hf hs hm
    obtain ⟨n, rfl⟩ := Nat.exists_eq_add_one_of_ne_zero (Nat.ne_zero_of_lt hf)
    cases hst : step s with
    | inl s' =>
      obtain ⟨hs', _, hμ⟩ := h s s' hs hst
      rw [iter_succ_inl hst]
      refine ih n s' (Nat.le_of_succ_le_succ hf) hs' ?_
      calc μ s' * r ^ m ≤ μ s * r * r ^ m := mul_le_mul_of_nonneg_right hμ (pow_nonneg hr m)
        _ = μ s * r ^ (m + 1) := by ring
        _ ≤ ε := hm
    | inr b => rw [iter_succ_inr hst]; rfl

theorem exists_mul_pow_le (c : ℝ) {r ε : ℝ} (hr0 : 0 ≤ r) (hr1 : r < 1) (hε : 0 < ε) :
    ∃ m : Nat, c * r ^ m ≤ ε := by
  have hden : 0 < |c| + 1 := add_pos_of_nonneg_of_pos (abs_nonneg c) one_pos
  obtain ⟨m, hm⟩ := exists_pow_lt_of_lt_one (div_pos hε hden) hr1
  rw [lt_div_iff₀ hden] at hm
  refine ⟨m, ?_⟩
  calc c * r ^ m ≤ (|c| + 1) * r ^ m :=
        mul_le_mul_of_nonneg_right ((le_abs_self c).trans (le_add_of_nonneg_right zero_le_one)) (pow_nonneg hr0 m)
    _ = r ^ m * (|c| + 1) := mul_comm _ _
    _ ≤ ε := hm.le

theorem R.ofOpt_ne_exc {α : Type} (o : Option α) : R.ofOpt o ≠ .exc := by
  cases o <;> exact nofun

theorem R.ofOpt_eq_hang_iff {α : Type} {o : Option α} : R.ofOpt o = .hang ↔ o = none := by
  cases o
  · exact iff_of_true rfl rfl
  · exact iff_of_false nofun nofun

theorem R.ofOpt_eq_val_iff {α : Type} {o : Option α} {v : α} : R.ofOpt o = .val v ↔ o = some v := by
  cases o
  · exact iff_of_false nofun nofun
  · exact ⟨fun h => congrArg some (R.val.inj h), fun h => congrArg R.val (Option.some.inj h)⟩

/-- an outcome that is not a value passes through `map` unchanged -/
theorem R.map_eq_bad {α : Type} (f : α → α) (r bad : R α) (hbad : ∀ v, bad ≠ .val v) (h : R.map f r = bad) :
    r = bad := by
  cases r with
  | val v => exact absurd h.symm (hbad _)
  | exc => exact h
  | hang => exact h

/-- mapping a value does not create an outcome that is not a value -/
theorem R.map_ne {α : Type} (f : α → α) (r bad : R α) (hbad : ∀ v, bad ≠ .val v) (h : r ≠ bad) :
    R.map f r ≠ bad :=
  fun e => h (R.map_eq_bad f r bad hbad e)

@[simp] theorem three_real : (three : ℝ) = 3 := by simp [three]
@[simp] theorem minusOne_real : (minusOne : ℝ) = -1 := by simp [minusOne]
theorem accurate_real : (accurate : ℝ) = 3022314549036573 / 2 ^ 78 := by simp [accurate]
theorem accurate_pos : (0 : ℝ) < accurate := dy_pos (by decide) _
theorem tiny_real : (tiny : ℝ) = 6646139978924579 / 2 ^ 119 := by simp [tiny]
theorem tiny_pos : (0 : ℝ) < tiny := dy_pos (by decide) _
theorem chLo_real : (chLo : ℝ) = 4722366482869645 / 2 ^ 71 := by simp [chLo]
theorem chHi_real : (chHi : ℝ) = 9007181240342483 / 2 ^ 53 := by simp [chHi]

theorem igUseCF_iff (x p : ℝ) : igUseCF x p = true ↔ (1 < x ∧ p ≤ x) := by
  simp [igUseCF]

theorem qcGuard_iff (p v : ℝ) : qcGuard p v = true ↔ (p < chLo ∨ chHi < p ∨ v ≤ 0) := by
  simp [qcGuard, or_assoc]

theorem psCond_iff (b x : ℝ) : psCond b x = true ↔ (b * x ≤ 1 ∧ x ≤ c0_95) := by
  simp [psCond]

theorem ibSwap_iff (x a b : ℝ) : ibSwap x a b = true ↔ a / (a + b) < x := by
  simp [ibSwap]

/-- the mirrored call of a swapped one is not swapped: `α/(α+β) + β/(β+α) = 1` -/
theorem ibSwap_mirror {x a b : ℝ} (ha : 0 < a) (hb : 0 < b) (hsw : a / (a + b) < x) :
    ibSwap (1 - x) b a = false := by
  have : a / (a + b) + b / (b + a) = 1 := by
    rw [add_comm b a, ← add_div, div_self (add_pos ha hb).ne']
  rw [Bool.eq_false_iff, Ne, ibSwap_iff]
  linarith

theorem incompleteGamma_real (fuel : Nat) (x p g : ℝ) :
    incompleteGamma fuel x p g =
      if x < 0 ∨ p ≤ 0 then .val (-1) else if x = 0 then .val 0
      else if 1 < x ∧ p ≤ x then R.ofOpt (igCF fuel x p (igFactor x p g))
      else R.ofOpt (igSeries fuel x p (igFactor x p g)) := by
  have hf : igFactor x p g ≠ 0 := Real.exp_ne_zero _
  simp only [incompleteGamma, Bool.or_eq_true, ScalarReal.ltb_iff, ScalarReal.leb_iff, ScalarReal.eqb_iff,
    ScalarReal.zero_eq, minusOne_real, isInf_real, Bool.false_eq_true, if_false, igUseCF_iff, hf]

section
variable (S : BetaSub ℝ) (lg : ℝ → ℝ) (pb : ℝ → ℝ → ℝ → R ℝ)

theorem incompleteBeta_real (x a b : ℝ) :
    incompleteBeta S x a b =
      if a ≤ 0 ∨ b ≤ 0 then .exc else if x < 0 ∨ 1 < x then .exc
      else if x = 0 then .val 0 else if x = 1 then .val 1
      else if psCond b x = true then R.ofOpt (S.ps a b x)
      else if ibSwap x a b = true then
        (if psCond a (1 - x) = true then (R.ofOpt (S.ps b a (1 - x))).map complLe
         else .val (complLt (ibBody S b a (1 - x) x)))
      else .val (ibBody S a b x (1 - x)) := by
  simp only [incompleteBeta, Bool.or_eq_true, ScalarReal.ltb_iff, ScalarReal.leb_iff, ScalarReal.gtb_iff,
    ScalarReal.eqb_iff, ScalarReal.zero_eq, ScalarReal.one_eq]

theorem qBeta_real (prob p q : ℝ) :
    qBeta lg pb prob p q =
      if prob < 0 ∨ 1 < prob then .exc else if p < 0 ∨ q < 0 then .exc
      else if prob = 0 ∨ prob = 1 then .val prob
      else if prob ≤ 1 / 2 then qbLowerTail pb prob p q (lnBeta lg p q)
      else (qbLowerTail pb (1 - prob) q p (lnBeta lg p q)).map (fun x => 1 - x) := by
  simp only [qBeta, Bool.or_eq_true, ScalarReal.ltb_iff, ScalarReal.leb_iff, ScalarReal.gtb_iff,
    ScalarReal.eqb_iff, ScalarReal.zero_eq, ScalarReal.one_eq, half_real]

theorem incompleteBeta_inside {x a b : ℝ} (ha : 0 < a) (hb : 0 < b) (hx0 : 0 < x) (hx1 : x < 1) :
    incompleteBeta S x a b =
      if psCond b x = true then R.ofOpt (S.ps a b x)
      else if ibSwap x a b = true then
        (if psCond a (1 - x) = true then (R.ofOpt (S.ps b a (1 - x))).map complLe
         else .val (complLt (ibBody S b a (1 - x) x)))
      else .val (ibBody S a b x (1 - x)) := by
  rw [incompleteBeta_real, if_neg (not_or.mpr ⟨not_le.mpr ha, not_le.mpr hb⟩),
    if_neg (not_or.mpr ⟨not_lt.mpr hx0.le, not_lt.mpr hx1.le⟩), if_neg hx0.ne', if_neg hx1.ne]

/-- **Tail swap of `incompleteBeta`.**  Strictly inside, above `α/(α+β)` and outside the direct power-series
region, the value is the clamped complement of the mirrored call (which is then not swapped itself, since
`α/(α+β) + β/(β+α) = 1`, and recovers `x` as `1 - (1 - x)`).  For every choice of the sub-kernels. -/
theorem incompleteBeta_swapped {x a b : ℝ} (ha : 0 < a) (hb : 0 < b) (hx0 : 0 < x) (hx1 : x < 1)
    (hps : psCond b x = false) (hsw : a / (a + b) < x) :
    incompleteBeta S x a b =
      if psCond a (1 - x) = true then (incompleteBeta S (1 - x) b a).map complLe
      else (incompleteBeta S (1 - x) b a).map complLt := by
  rw [incompleteBeta_inside S ha hb hx0 hx1, if_neg (Bool.eq_false_iff.mp hps),
    if_pos ((ibSwap_iff x a b).mpr hsw), incompleteBeta_inside S hb ha (sub_pos.mpr hx1) (sub_lt_self 1 hx0),
    sub_sub_cancel, if_neg (Bool.eq_false_iff.mp (ibSwap_mirror ha hb hsw))]
  split <;> rfl

/-- **Tail swap of `qBeta`.**  Above the median the quantile is the complement of the mirrored call: the same
lower-tail iteration on the working triple `(1 − prob, β, α)` with the same (symmetric) `lnBeta`.  For every
`lnGamma` and `pBeta` and all shapes (both sides raise together). -/
theorem qBeta_upper {prob : ℝ} (p q : ℝ) (h0 : 1 / 2 < prob) (h1 : prob < 1) :
    qBeta lg pb prob p q = (qBeta lg pb (1 - prob) q p).map (fun x => 1 - x) := by
  have hpos : 0 < prob := by linarith
  have a1 : ¬ (prob < 0 ∨ 1 < prob) := not_or.mpr ⟨not_lt.mpr hpos.le, not_lt.mpr h1.le⟩
  have a2 : ¬ (1 - prob < 0 ∨ 1 < 1 - prob) :=
    not_or.mpr ⟨not_lt.mpr (sub_pos.mpr h1).le, not_lt.mpr (sub_lt_self 1 hpos).le⟩
  have a3 : ¬ (prob = 0 ∨ prob = 1) := not_or.mpr ⟨hpos.ne', h1.ne⟩
  have a4 : ¬ (1 - prob = 0 ∨ 1 - prob = 1) := not_or.mpr ⟨(sub_pos.mpr h1).ne', (sub_lt_self 1 hpos).ne⟩
  have a5 : 1 - prob ≤ 1 / 2 := by linarith
  rw [qBeta_real, qBeta_real, if_neg a1, if_neg a2, if_neg a3, if_neg a4, if_neg (not_le.mpr h0), if_pos a5,
    show lnBeta lg q p = lnBeta lg p q by rw [lnBeta, lnBeta, add_comm (lg q), add_comm q]]
  by_cases hs : p < 0 ∨ q < 0
  · rw [if_pos hs, if_pos hs.symm]
    rfl
  · rw [if_neg hs, if_neg (hs ∘ Or.symm)]

theorem qBeta_cases (prob p q : ℝ) :
    (prob < 0 ∨ 1 < prob ∨ p < 0 ∨ q < 0) ∨ ((prob = 0 ∨ prob = 1) ∧ qBeta lg pb prob p q = .val prob) ∨
    qBeta lg pb prob p q = qbLowerTail pb prob p q (lnBeta lg p q) ∨
    qBeta lg pb prob p q = (qbLowerTail pb (1 - prob) q p (lnBeta lg p q)).map (fun x => 1 - x) := by
  rw [qBeta_real]
  by_cases h1 : prob < 0 ∨ 1 < prob
  · exact .inl (h1.elim .inl fun h => .inr (.inl h))
  by_cases h2 : p < 0 ∨ q < 0
  · exact .inl (.inr (.inr h2))
  rw [if_neg h1, if_neg h2]
  by_cases h3 : prob = 0 ∨ prob = 1
  · exact .inr (.inl ⟨h3, if_pos h3⟩)
  rw [if_neg h3]
  by_cases h4 : prob ≤ 1 / 2
  · exact .inr (.inr (.inl (if_pos h4)))
  · exact .inr (.inr (.inr (if_neg h4)))

end

theorem incompleteGamma_fuelMono {α : Type} [Scalar α] [InfTest α] (x p g : α) :
    FuelMono fun n => incompleteGamma n x p g := by
  unfold incompleteGamma
  exact .ite _ (.const _) <| .ite _ (.const _) <| .ite _ (.const _) <|
    .ite _ (.ite _ (.const _) (.ofOpt_iter _ _ _)) (.ofOpt_iter _ _ _)

/-- the three arms are the three starting values; l2, when it is the start, hands its result to l4 -/
theorem qChisq_fuelMono {α : Type} [Scalar α] (lg : α → α) (ig : α → α → α → R α) (p v : α) :
    FuelMono fun n => qChisq n lg ig p v := by
  unfold qChisq
  refine .ite _ (.const _) ?_
  simp only []
  split
  · exact .ite _ (.const _) (.flat_iter _ _)
  · exact .iter_bind _ _ fun ch => .flat_iter _ _
  · exact .flat_iter _ _

theorem igSeriesStep_real (x : ℝ) (s : Ser ℝ) :
    igSeriesStep x s =
      if accurate < s.term * (x / (s.rn + 1)) then
        .inl ⟨s.rn + 1, s.term * (x / (s.rn + 1)), s.gin + s.term * (x / (s.rn + 1))⟩
      else .inr (s.gin + s.term * (x / (s.rn + 1))) := by
  simp only [igSeriesStep, ScalarReal.gtb_iff, ScalarReal.one_eq]

theorem igSeriesStep_inl {x : ℝ} {s s' : Ser ℝ} (h : igSeriesStep x s = .inl s') :
    accurate < s.term * (x / (s.rn + 1)) ∧
      s' = ⟨s.rn + 1, s.term * (x / (s.rn + 1)), s.gin + s.term * (x / (s.rn + 1))⟩ := by
  rw [igSeriesStep_real] at h
  split at h
  · exact ⟨‹_›, (Sum.inl.inj h).symm⟩
  · cases h

/-- from a state with `rn ≥ p`, `0 ≤ term`, `term * r^m ≤ accurate` (`r = x/(p+1) < 1`), `m + 1`
rounds suffice -/
theorem igSeries_loop_terminates (x p : ℝ) (hx : 0 < x) (hp : 0 < p) (hr : x < p + 1) :
    ∀ (m : Nat) (fuel : Nat) (s : Ser ℝ), m + 1 ≤ fuel → p ≤ s.rn → 0 ≤ s.term →
      s.term * (x / (p + 1)) ^ m ≤ accurate → (iter (igSeriesStep x) fuel s).isSome = true := by
  have hp1 : 0 < p + 1 := add_pos hp one_pos
  have hr1 : x / (p + 1) ≤ 1 := (div_le_one hp1).mpr hr.le
  intro m fuel s hf hrn ht hacc
  refine iter_isSome_of_geometric (igSeriesStep x) (fun s => p ≤ s.rn ∧ 0 ≤ s.term) (fun s => s.term)
    (div_pos hx hp1).le ?_ m fuel s hf ⟨hrn, ht⟩ hacc
  rintro s s' ⟨hrn, ht⟩ hs
  obtain ⟨hc, rfl⟩ := igSeriesStep_inl hs
  have hrn' : 0 < s.rn + 1 := add_pos (hp.trans_le hrn) one_pos
  have hq : x / (s.rn + 1) ≤ x / (p + 1) := div_le_div_of_nonneg_left hx.le hp1 (add_le_add_left hrn 1)
  have hle : s.term * (x / (s.rn + 1)) ≤ s.term * (x / (p + 1)) := mul_le_mul_of_nonneg_left hq ht
  refine ⟨⟨hrn.trans (le_add_of_nonneg_right zero_le_one), mul_nonneg ht (div_pos hx hrn').le⟩, ?_, hle⟩
  calc accurate < s.term * (x / (s.rn + 1)) := hc
    _ ≤ s.term * 1 := mul_le_mul_of_nonneg_left (hq.trans hr1) ht
    _ = s.term := mul_one _

/-- what the series branch delivers is `gin · factor/α` with `1 ≤ gin`: the state of l20 keeps `0 < rn`, `0 ≤ term`,
`1 ≤ gin` (for `x > 0`) -/
theorem igSeries_gin_ge_one {x p f v : ℝ} (hx : 0 < x) (hp : 0 < p) {fuel : Nat}
    (h : igSeries fuel x p f = some v) : ∃ gin, 1 ≤ gin ∧ v = gin * (f / p) := by
  rw [igSeries, Option.map_eq_some_iff] at h
  obtain ⟨gin, hi, rfl⟩ := h
  refine ⟨gin, ?_, rfl⟩
  refine iterCap_inr_inv' (igSeriesStep x) (fun s => 0 < s.rn ∧ 0 ≤ s.term ∧ 1 ≤ s.gin) (fun v => 1 ≤ v)
    ?_ ?_ fuel ⟨p, one, one⟩ gin ⟨hp, by simp, by simp⟩ ((iter_eq_some_iff _ fuel _ gin).mp hi)
  · rintro s s' ⟨hrn, ht, hg⟩ hs
    obtain ⟨_, rfl⟩ := igSeriesStep_inl hs
    have hrn' : 0 < s.rn + 1 := add_pos hrn one_pos
    have := mul_nonneg ht (div_pos hx hrn').le
    exact ⟨hrn', this, le_add_of_le_of_nonneg hg this⟩
  · rintro s v ⟨hrn, ht, hg⟩ hs
    rw [igSeriesStep_real] at hs
    split at hs
    · cases hs
    · cases hs
      exact le_add_of_le_of_nonneg hg (mul_nonneg ht (div_pos hx (add_pos hrn one_pos)).le)

/-- from a state with `n ≥ 2 ≥ β`, `|v| ≤ |t|/α`, `|t|·x^m ≤ VERY_TINY`, `m + 1` rounds suffice: every
factor `u = (n - β) x / n` lies in `[0, x]` -/
theorem ps_loop_terminates (a b x : ℝ) (ha : 0 < a) (hb0 : 0 ≤ b) (hb2 : b ≤ 2) (hx0 : 0 < x) (hx1 : x < 1) :
    ∀ (m : Nat) (fuel : Nat) (s : Ps ℝ), m + 1 ≤ fuel → 2 ≤ s.n → |s.v| ≤ |s.t| / a →
      |s.t| * x ^ m ≤ tiny → (iter (psStep a b x (tiny * (one / a))) fuel s).isSome = true := by
  intro m fuel s hf hn hv ht
  refine iter_isSome_of_geometric _ (fun s => 2 ≤ s.n ∧ |s.v| ≤ |s.t| / a) (fun s => |s.t|)
    hx0.le ?_ m fuel s hf ⟨hn, hv⟩ ht
  rintro s s' ⟨hn, hv⟩ hs
  simp only [psStep, ScalarReal.gtb_iff, ScalarReal.abs_eq, ScalarReal.one_eq, mul_one_div] at hs
  split at hs
  · rename_i hc
    obtain rfl := (Sum.inl.inj hs).symm
    have hn0 : 0 < s.n := two_pos.trans_le hn
    have hu0 : 0 ≤ (s.n - b) * x / s.n :=
      div_nonneg (mul_nonneg (sub_nonneg.mpr (hb2.trans hn)) hx0.le) hn0.le
    have hu1 : (s.n - b) * x / s.n ≤ x := by
      rw [div_le_iff₀ hn0, mul_comm x]
      exact mul_le_mul_of_nonneg_right (sub_le_self _ hb0) hx0.le
    refine ⟨⟨hn.trans (le_add_of_nonneg_right zero_le_one), ?_⟩, ?_, ?_⟩
    · show |s.t * ((s.n - b) * x / s.n) / (a + s.n)| ≤ |s.t * ((s.n - b) * x / s.n)| / a
      rw [abs_div, abs_of_pos (add_pos ha hn0)]
      exact div_le_div_of_nonneg_left (abs_nonneg _) ha (le_add_of_nonneg_right hn0.le)
    · exact (div_lt_div_iff_of_pos_right ha).mp (hc.trans_le hv)
    · show |s.t * ((s.n - b) * x / s.n)| ≤ |s.t| * x
      rw [abs_mul, abs_of_nonneg hu0]
      exact mul_le_mul_of_nonneg_left hu1 (abs_nonneg _)
  · cases hs

end Bpp.DistKernels
