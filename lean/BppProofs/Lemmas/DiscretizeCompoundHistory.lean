import BppProofs.Lemmas.DiscretizeCompound
/-!
C09: the user-specified distribution over histories (constructor establishes the invariant, every
accepted update keeps it and leaves a normalised distribution).
-/
namespace Bpp.Discretize
open Bpp

theorem thetasOf_length (ps : List ℝ) (y : ℝ) : (thetasOf ps y).length = ps.length - 1 := by
  induction ps generalizing y with
  | nil => rfl
  | cons p t ih =>
    cases t with
    | nil => rfl
    | cons q u => simp only [thetasOf, List.length_cons, ih]; omega

/-- the invariant of a user-specified distribution: one theta less than values, thetas in `[0,1]` -/
def SimpleInv (s : SimpleSt ℝ) : Prop :=
  s.thetas.length + 1 = s.vs.length ∧ ∀ t ∈ s.thetas, 0 ≤ t ∧ t ≤ 1

theorem make_ins_fresh (prec : ℝ) (l : List (ℝ × ℝ)) (m m' : TMap ℝ) (h : SimpleSt.make.ins prec l m = some m') :
    TMap.Fresh prec m (l.map (·.2)) m' := by
  induction l generalizing m with
  | nil => rw [SimpleSt.make.ins] at h; injection h with h; subst h; exact .nil m
  | cons a t ih =>
    obtain ⟨v, p⟩ := a
    rw [SimpleSt.make.ins] at h
    split at h
    · cases h
    · exact .cons (Option.not_isSome_iff_eq_none.mp ‹_›) (ih _ h)

/-- the constructor establishes the invariant, and its classes carry the given probabilities:
normalised *up to the precision* (the constructor accepts `|1 − Σp| ≤ precision`) -/
theorem simple_make_spec (values probas : List ℝ) (prec : ℝ) (s : SimpleSt ℝ) (hne : values ≠ [])
    (h : SimpleSt.make values probas prec = .ok s) :
    SimpleInv s ∧ |1 - (TMap.vals s.dd.dist).sum| ≤ prec := by
  unfold SimpleSt.make at h
  by_cases hlen : (values.length != probas.length) = true
  · rw [if_pos hlen] at h; cases h
  · rw [if_neg hlen] at h
    have hlen' : values.length = probas.length := by simpa using hlen
    cases hm : SimpleSt.make.ins prec (values.zip probas) [] with
    | none => rw [hm] at h; cases h
    | some m =>
      rw [hm] at h
      simp only at h
      by_cases hsum : Scalar.gtb (Scalar.abs (Scalar.one - sumL probas)) prec = true
      · rw [if_pos hsum] at h; cases h
      · rw [if_neg hsum] at h
        by_cases hth : ((thetasOf probas Scalar.one).any fun t => !(unitC : Interval ℝ).isCorrect t) = true
        · rw [if_pos hth] at h; cases h
        · rw [if_neg hth] at h
          injection h with h; subst h
          have hvl : 0 < values.length := List.length_pos_iff.2 hne
          refine ⟨⟨?_, ?_⟩, ?_⟩
          · simp only [thetasOf_length]; omega
          · intro t ht
            simp only [List.any_eq_true, not_exists, not_and, Bool.not_eq_true'] at hth
            have : (unitC : Interval ℝ).isCorrect t = true := by simpa using hth t ht
            exact (unitC_iff t).1 this
          · have hv := (make_ins_fresh prec _ [] m hm).vals_perm.sum_eq
            rw [List.map_snd_zip (by omega)] at hv
            show |1 - (TMap.vals m).sum| ≤ prec
            rw [hv, show TMap.vals ([] : TMap ℝ) ++ probas = probas from rfl]
            have : ¬ (|1 - probas.sum| > prec) := by
              simpa [Scalar.gtb, ScalarReal.ltb_iff, ScalarReal.abs_eq, ScalarReal.one_eq, sumL_eq] using hsum
            linarith [not_lt.1 this]

/-- writing a value keeps the thetas in `[0,1]` when a written theta lies there -/
theorem simple_write_thetas (s : SimpleSt ℝ) (sl : Bool × Nat) (v : ℝ) (hth : ∀ t ∈ s.thetas, 0 ≤ t ∧ t ≤ 1)
    (hv : sl.1 = false → 0 ≤ v ∧ v ≤ 1) : ∀ t ∈ (SimpleSt.write s sl v).thetas, 0 ≤ t ∧ t ≤ 1 := by
  obtain ⟨b, i⟩ := sl
  cases b with
  | true => simpa [SimpleSt.write] using hth
  | false =>
    intro t ht
    simp only [SimpleSt.write, Bool.false_eq_true, if_false] at ht
    rcases List.mem_or_eq_of_mem_set ht with h1 | h1
    · exact hth t h1
    · rw [h1]; exact hv rfl

/-- writing an accepted value keeps the invariant -/
theorem simple_write_inv (s : SimpleSt ℝ) (sl : Bool × Nat) (v : ℝ) (hi : SimpleInv s)
    (hv : sl.1 = false → 0 ≤ v ∧ v ≤ 1) : SimpleInv (SimpleSt.write s sl v) :=
  ⟨by obtain ⟨b, i⟩ := sl; cases b <;> simp [SimpleSt.write, hi.1], simple_write_thetas s sl v hi.2 hv⟩

theorem simple_rebuild_params (s s' : SimpleSt ℝ) (h : s.rebuild = .ok s') : s'.vs = s.vs ∧ s'.thetas = s.thetas := by
  unfold SimpleSt.rebuild at h
  simp only at h
  cases hg : SimpleSt.rebuild.go s (s.vs.zip (probsOfThetas s.thetas Scalar.one)) [] with
  | none => rw [hg] at h; cases h
  | some m => rw [hg] at h; injection h with h; subst h; exact ⟨rfl, rfl⟩

/-- an accepted `setParameterValue` keeps the invariant and leaves a normalised distribution -/
theorem simple_setP_inv (s s' : SimpleSt ℝ) (name : String) (v : ℝ) (hi : SimpleInv s) (h : s.setP name v = .ok s') :
    SimpleInv s' ∧ Normalised s'.dd.dist := by
  unfold SimpleSt.setP at h
  cases hsl : SimpleSt.slotOf s name with
  | none => rw [hsl] at h; cases h
  | some sl =>
    rw [hsl] at h
    simp only at h
    -- the written value is an old theta or an accepted one
    have key : (SimpleSt.write s sl v).rebuild = .ok s' ∧ (sl.1 = false → 0 ≤ v ∧ v ≤ 1) := by
      split_ifs at h with hc
      refine ⟨h, fun hb => ?_⟩
      obtain ⟨b, i⟩ := sl
      simp only at hb; subst hb
      cases hr : SimpleSt.rejects s (false, i) v
      · exact (unitC_iff v).1 (by simpa [SimpleSt.rejects] using hr)
      · cases hcur : SimpleSt.current s (false, i) with
        | none => simp [hr, hcur] at hc
        | some c =>
          have hcv : c = v := by simpa [hr, hcur] using hc
          exact hcv ▸ hi.2 c (List.mem_of_getElem? (by simpa [SimpleSt.current] using hcur))
    have hw := simple_write_inv s sl v hi key.2
    have hn := simple_rebuild_normalised _ s' hw.1 hw.2 key.1
    obtain ⟨e1, e2⟩ := simple_rebuild_params _ s' key.1
    exact ⟨⟨by rw [e1, e2]; exact hw.1, by rw [e2]; exact hw.2⟩, hn⟩

/-- the public operations of a user-specified distribution -/
inductive SimpleOp where
  | setP (name : String) (v : ℝ)
  | restrict (c : Interval ℝ)
  | setMed (b : Bool)
  | rediscretize

/-- one operation; a refused one leaves the object as it is (`restrict`: as the C++ leaves it) -/
noncomputable def simpleStep (s : SimpleSt ℝ) : SimpleOp → SimpleSt ℝ
  | .setP name v => match s.setP name v with | .ok s' => s' | .error _ => s
  | .restrict c => (s.restrict c).1
  | .setMed b => s.setMed b
  | .rediscretize => s.rediscretize

theorem simple_restrict_same (s : SimpleSt ℝ) (c : Interval ℝ) :
    (s.restrict c).1.dd.dist = s.dd.dist ∧ (s.restrict c).1.vs = s.vs ∧ (s.restrict c).1.thetas = s.thetas := by
  unfold SimpleSt.restrict
  split
  · exact ⟨rfl, rfl, rfl⟩
  · split
    · exact ⟨rfl, rfl, rfl⟩
    · rename_i d changed _
      cases changed <;> simp only [Bool.false_eq_true, if_false, if_true] <;> split <;> exact ⟨rfl, rfl, rfl⟩

/-- what every history keeps: the invariant, and normalisation up to `prec` (exact after the first
accepted parameter update) -/
def SimpleGood (prec : ℝ) (s : SimpleSt ℝ) : Prop :=
  SimpleInv s ∧ |1 - (TMap.vals s.dd.dist).sum| ≤ prec

theorem simpleStep_good (prec : ℝ) (hp : 0 ≤ prec) (s : SimpleSt ℝ) (op : SimpleOp) (hg : SimpleGood prec s) :
    SimpleGood prec (simpleStep s op) := by
  cases op with
  | setP name v =>
    simp only [simpleStep]
    cases h : s.setP name v with
    | error e => exact hg
    | ok s' =>
      obtain ⟨a, b⟩ := simple_setP_inv s s' name v hg.1 h
      exact ⟨a, by rw [b.2]; simpa using hp⟩
  | restrict c =>
    obtain ⟨e1, e2, e3⟩ := simple_restrict_same s c
    simp only [simpleStep, SimpleGood, SimpleInv, e1, e2, e3]; exact hg
  | setMed b =>
    simp only [simpleStep, SimpleSt.setMed]
    split <;> exact hg
  | rediscretize => exact hg

theorem simpleRun_good (prec : ℝ) (hp : 0 ≤ prec) (ops : List SimpleOp) (s : SimpleSt ℝ) (hg : SimpleGood prec s) :
    SimpleGood prec (ops.foldl simpleStep s) :=
  List.foldlRecOn (motive := SimpleGood prec) ops simpleStep hg fun s hs op _ => simpleStep_good prec hp s op hs

end Bpp.Discretize
