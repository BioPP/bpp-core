import BppProofs.Lemmas.Alias
/-! Runs of writes.  Every member of `ParameterList` that writes values, and every loop of the alias code built
on them, is a sequence of `Parameter::setValue` calls that stops at the first exception.  `Writes C w r` says
so of an outcome `r` reached from `w`; a fact about all these functions is then a fact about `setValue`
carried along a run (`Writes.keeps`, `Writes.of_ok`). -/
namespace Bpp.Alias
open Bpp.ParamList (Bnd Con Par Store ObjId nameOf find? hasParameter names startsWith)

/-- `r` is the outcome of a run of calls `setValue _ i v`, each with `C i v`, started in `w`: all calls
returned and the run ended (possibly raising `ParameterNotFoundException` or `ConstraintException` of its
own, before or between calls), or the last call raised -/
inductive Writes (C : ObjId → Rat → Prop) : World → WR → Prop
  | stop (w : World) {e : Option Err} (he : e = none ∨ e = some .notfound ∨ e = some .constraint) :
    Writes C w { w := w, err := e }
  | raise {w : World} {i : ObjId} {v : Rat} {e : Err} : C i v → (setValue w i v).err = some e →
    Writes C w { w := (setValue w i v).w, err := some e }
  | call {w : World} {i : ObjId} {v : Rat} {r : WR} : C i v → (setValue w i v).err = none →
    Writes C (setValue w i v).w r → Writes C w r

namespace Writes
variable {C C' : ObjId → Rat → Prop} {w : World} {r r' : WR}

theorem refl (w : World) : Writes C w { w := w } := stop w (Or.inl rfl)

theorem mono (hc : ∀ i v, C i v → C' i v) (h : Writes C w r) : Writes C' w r := by
  induction h with
  | stop w he => exact stop w he
  | raise hi he => exact raise (hc _ _ hi) he
  | call hi he _ ih => exact call (hc _ _ hi) he ih

theorem setValue {i : ObjId} {v : Rat} (hi : C i v) : Writes C w (setValue w i v) := by
  have eta : ∀ {r : WR} {e : Option Err}, r.err = e → ({ w := r.w, err := e } : WR) = r := fun h => h ▸ rfl
  cases he : (Alias.setValue w i v).err with
  | some e => exact eta he ▸ raise hi he
  | none => exact call hi he (eta he ▸ refl _)

theorem raised {e : Err} (h : Writes C w r) (he : r.err = some e) : Writes C w { w := r.w, err := some e } := he ▸ h

theorem trans (h : Writes C w r) (ok : r.err = none) (h' : Writes C r.w r') : Writes C w r' := by
  induction h with
  | stop w he => exact h'
  | raise _ _ => cases ok
  | call hi he _ ih => exact call hi he (ih ok h')

/-- an invariant of every call is an invariant of the run, and an exception no call raises is not raised -/
theorem keeps {I : World → Prop} {B : Err → Prop} (hnf : ¬ B .notfound) (hc : ¬ B .constraint)
    (hset : ∀ w i v, C i v → I w → I (Alias.setValue w i v).w ∧ ∀ e, (Alias.setValue w i v).err = some e → ¬ B e)
    (h : Writes C w r) (hw : I w) : I r.w ∧ ∀ e, r.err = some e → ¬ B e := by
  induction h with
  | stop w he =>
    refine ⟨hw, fun e h => ?_⟩
    rcases he with he | he | he <;> rw [he] at h <;> cases h
    · exact hnf
    · exact hc
  | raise hi he =>
    refine ⟨(hset _ _ _ hi hw).1, fun e' h => ?_⟩
    cases h; exact (hset _ _ _ hi hw).2 _ he
  | call hi _ _ ih => exact ih (hset _ _ _ hi hw).1

theorem inv {I : World → Prop} (hset : ∀ w i v, C i v → I w → I (Alias.setValue w i v).w) (h : Writes C w r) (hw : I w) :
    I r.w :=
  (h.keeps (B := fun _ => False) id id (fun w i v hi hw => ⟨hset w i v hi hw, fun _ _ => id⟩) hw).1

/-- what every returning call establishes from what held before, a returning run establishes -/
theorem of_ok {I : World → Prop}
    (hset : ∀ w i v, C i v → I w → (Alias.setValue w i v).err = none → I (Alias.setValue w i v).w)
    (h : Writes C w r) (hw : I w) (ok : r.err = none) : I r.w := by
  induction h with
  | stop w _ => exact hw
  | raise _ _ => cases ok
  | call hi he _ ih => exact ih (hset _ _ _ hi hw he) ok

theorem sameBut (h : Writes C w r) : SameBut w r.w :=
  h.inv (I := SameBut w) (fun w' i v _ hw' => hw'.trans (setValue_sameBut w' i v)) (SameBut.refl w)

end Writes

/-! ## The functions of the model that are runs of writes -/

/-- the entries of a source list: `(i, v)` when the list gives `v` to a name that `l` resolves to `i` -/
def Named (w : World) (l : List ObjId) (src : List (String × Rat)) (i : ObjId) (v : Rat) : Prop :=
  ∃ n, (n, v) ∈ src ∧ find? w.heap l n = some i

theorem Named.mem {w : World} {l : List ObjId} {src : List (String × Rat)} {i : ObjId} {v : Rat} (h : Named w l src i v) :
    i ∈ l := by
  obtain ⟨n, _, hf⟩ := h; exact (ParamList.find?_some hf).1

theorem Named.tail {w w' : World} (s : SameBut w w') {l : List ObjId} {e : String × Rat} {src : List (String × Rat)}
    {i : ObjId} {v : Rat} (h : Named w' l src i v) : Named w l (e :: src) i v := by
  obtain ⟨n, hn, hf⟩ := h
  exact ⟨n, List.mem_cons_of_mem _ hn, by rw [← s.find?]; exact hf⟩

theorem setParameterValue_writes (w : World) (l : List ObjId) (n : String) (v : Rat) :
    Writes (Named w l [(n, v)]) w (setParameterValue w l n v) := by
  simp only [setParameterValue]
  split
  · exact .stop w (Or.inr (Or.inl rfl))
  · rename_i i hi
    exact .setValue ⟨n, List.mem_singleton_self _, hi⟩

theorem apSetParameterValue_found {w : World} {k : Nat} {o : Obj} {n : String} {i : ObjId} (ho : w.objs k = some o)
    (hf : find? w.heap o.params (o.pre ++ n) = some i) (v : Rat) : apSetParameterValue w k n v = setValue w i v := by
  simp only [apSetParameterValue, ho, setParameterValue, hf]

theorem shareParameter_writes (w : World) (l : List ObjId) (i : ObjId) :
    Writes (fun j _ => j ∈ l) w (shareParameter w l i).1 := by
  simp only [shareParameter]
  split
  · exact (setParameterValue_writes w l _ _).mono (fun _ _ h => h.mem)
  · exact .refl w

theorem shareParameters_writes : ∀ (src : List ObjId) (w : World) (l : List ObjId),
    Writes (fun _ _ => True) w (shareParameters w l src).1
  | [], w, _ => .refl w
  | i :: rest, w, l => by
    have h1 := (shareParameter_writes w l i).mono (fun _ _ _ => trivial)
    simp only [shareParameters]
    split
    · exact h1
    · rename_i he; exact h1.trans he (shareParameters_writes rest _ _)

theorem rebuildIndep_writes (pre : String) (params : List ObjId) : ∀ (srcs : List ObjId) (w : World) (ind : List ObjId),
    Writes (fun _ _ => True) w (rebuildIndep pre params w ind srcs).1
  | [], w, _ => .refl w
  | s :: rest, w, ind => by
    simp only [rebuildIndep]
    split
    · exact .stop w (Or.inr (Or.inl rfl))
    · rename_i i _
      have h1 := (shareParameter_writes w ind i).mono (fun _ _ _ => trivial)
      split
      · exact h1
      · rename_i he; exact h1.trans he (rebuildIndep_writes pre params rest _ _)

theorem applySome_writes (l : List ObjId) : ∀ (src : List (String × Rat)) (w : World),
    Writes (Named w l src) w (applySome l w src)
  | [], w => .refl w
  | (n, v) :: rest, w => by
    simp only [applySome]
    split
    · exact (applySome_writes l rest w).mono (fun _ _ h => h.tail (SameBut.refl w))
    · rename_i t ht
      have h1 : Writes (Named w l ((n, v) :: rest)) w (setValue w t v) := .setValue ⟨n, List.mem_cons_self .., ht⟩
      split
      · rename_i e he; exact h1.raised he
      · rename_i he
        exact h1.trans he ((applySome_writes l rest _).mono (fun _ _ h => h.tail (setValue_sameBut w t v)))

theorem matchSome_writes (l : List ObjId) : ∀ (src : List (String × Rat)) (w : World),
    Writes (Named w l src) w (matchSome l w src).1
  | [], w => .refl w
  | (n, v) :: rest, w => by
    simp only [matchSome]
    split
    · exact (matchSome_writes l rest w).mono (fun _ _ h => h.tail (SameBut.refl w))
    · rename_i t ht
      have h1 : Writes (Named w l ((n, v) :: rest)) w (setValue w t v) := .setValue ⟨n, List.mem_cons_self .., ht⟩
      split
      · split
        · rename_i e he; exact h1.raised he
        · rename_i he
          exact h1.trans he ((matchSome_writes l rest _).mono (fun _ _ h => h.tail (setValue_sameBut w t v)))
      · exact (matchSome_writes l rest w).mono (fun _ _ h => h.tail (SameBut.refl w))

theorem checkSome_cases (w : World) (l : List ObjId) : ∀ (src : List (String × Rat)),
    checkSome w l src = none ∨ checkSome w l src = some .constraint
  | [] => Or.inl rfl
  | (n, v) :: rest => by
    simp only [checkSome]
    split
    · exact checkSome_cases w l rest
    · split
      · exact Or.inr rfl
      · exact checkSome_cases w l rest

theorem checkAll_cases (w : World) (src : List (String × Rat)) : ∀ (l : List ObjId),
    checkAll w src l = none ∨ checkAll w src l = some .notfound ∨ checkAll w src l = some .constraint
  | [] => Or.inl rfl
  | i :: rest => by
    simp only [checkAll]
    split
    · exact Or.inr (Or.inl rfl)
    · split
      · exact Or.inr (Or.inr rfl)
      · exact checkAll_cases w src rest

theorem setParametersValues_writes (w : World) (l : List ObjId) (src : List (String × Rat)) :
    Writes (Named w l src) w (setParametersValues w l src) := by
  simp only [setParametersValues]
  split
  · rename_i e he
    exact .stop w (Or.inr ((checkSome_cases w l src).elim (fun h => by rw [h] at he; cases he) (fun h => Or.inr (he ▸ h))))
  · exact applySome_writes l src w

theorem matchParametersValues_writes (w : World) (l : List ObjId) (src : List (String × Rat)) :
    Writes (Named w l src) w (matchParametersValues w l src).1 := by
  simp only [matchParametersValues]
  split
  · rename_i e he
    exact .stop w (Or.inr ((checkSome_cases w l src).elim (fun h => by rw [h] at he; cases he) (fun h => Or.inr (he ▸ h))))
  · exact matchSome_writes l src w

/-- what `setAllParametersValues` writes: to each parameter of the list, the value the source gives its name -/
def NamedAll (w : World) (l : List ObjId) (src : List (String × Rat)) (i : ObjId) (v : Rat) : Prop :=
  i ∈ l ∧ srcFind? src (nameOf w.heap i) = some v

theorem applyAll_writes (src : List (String × Rat)) : ∀ (l : List ObjId) (w : World),
    Writes (NamedAll w l src) w (applyAll src w l)
  | [], w => .refl w
  | i :: rest, w => by
    simp only [applyAll]
    split
    · exact .stop w (Or.inr (Or.inl rfl))
    · rename_i v hv
      have h1 : Writes (NamedAll w (i :: rest) src) w (setValue w i v) := .setValue ⟨List.mem_cons_self .., hv⟩
      split
      · rename_i e he; exact h1.raised he
      · rename_i he
        refine h1.trans he ((applyAll_writes src rest _).mono (fun j u h => ⟨List.mem_cons_of_mem _ h.1, ?_⟩))
        rw [← (setValue_sameBut w i v).nameOf]; exact h.2

theorem setAllParametersValues_writes (w : World) (l : List ObjId) (src : List (String × Rat)) :
    Writes (NamedAll w l src) w (setAllParametersValues w l src) := by
  simp only [setAllParametersValues]
  split
  · rename_i e he
    exact .stop w (Or.inr ((checkAll_cases w src l).elim (fun h => by rw [h] at he; cases he) (fun h => he ▸ h)))
  · exact applyAll_writes src l w

theorem NamedAll.mem {w : World} {l : List ObjId} {src : List (String × Rat)} {i : ObjId} {v : Rat}
    (h : NamedAll w l src i v) : i ∈ l := h.1

theorem syncLinks_writes (l : List ObjId) : ∀ (ls : List (String × String)) (w : World),
    Writes (fun i _ => i ∈ l) w (syncLinks l w ls)
  | [], w => .refl w
  | (key, val) :: rest, w => by
    simp only [syncLinks]
    split
    · exact .stop w (Or.inr (Or.inl rfl))
    · rename_i s _
      have h1 := (matchParametersValues_writes w l [(key, (w.heap.get s).value)]).mono (fun _ _ h => h.mem)
      split
      · rename_i e he; exact h1.raised he
      · rename_i he; exact h1.trans he (syncLinks_writes l rest _)

/-- the four update routes of `AbstractParametrizable` are runs of writes to parameters of the object -/
theorem update_writes {w : World} {k : Nat} {o : Obj} (ho : w.objs k = some o) {P : WR → Prop}
    (h : ∀ r, Writes (fun i _ => i ∈ o.params) w r → P r) :
    (∀ n v, P (apSetParameterValue w k n v)) ∧ (∀ src, P (apSetParametersValues w k src)) ∧
    (∀ src, P (apMatchParametersValues w k src).1) ∧ (∀ src, P (apSetAllParametersValues w k src)) := by
  refine ⟨fun n v => h _ ?_, fun src => h _ ?_, fun src => h _ ?_, fun src => h _ ?_⟩
  · simp only [apSetParameterValue, ho]; exact (setParameterValue_writes w _ _ v).mono (fun _ _ h => h.mem)
  · simp only [apSetParametersValues, ho]; exact (setParametersValues_writes w _ src).mono (fun _ _ h => h.mem)
  · simp only [apMatchParametersValues, ho]; exact (matchParametersValues_writes w _ src).mono (fun _ _ h => h.mem)
  · simp only [apSetAllParametersValues, ho]; exact (setAllParametersValues_writes w _ src).mono (fun _ _ h => h.mem)

theorem update_keeps {w : World} {k : Nat} {P : WR → Prop} (hub : P { w := w, err := some .ub })
    (h : ∀ o, w.objs k = some o → ∀ r, Writes (fun i _ => i ∈ o.params) w r → P r) :
    (∀ n v, P (apSetParameterValue w k n v)) ∧ (∀ src, P (apSetParametersValues w k src)) ∧
    (∀ src, P (apMatchParametersValues w k src).1) ∧ (∀ src, P (apSetAllParametersValues w k src)) := by
  cases ho : w.objs k with
  | some o => exact update_writes ho (h o ho)
  | none =>
    simp only [apSetParameterValue, apSetParametersValues, apMatchParametersValues, apSetAllParametersValues, ho]
    exact ⟨fun _ _ => hub, fun _ => hub, fun _ => hub, fun _ => hub⟩

theorem update_sameBut (w : World) (k : Nat) :
    (∀ n v, SameBut w (apSetParameterValue w k n v).w) ∧
    (∀ src, SameBut w (apSetParametersValues w k src).w) ∧
    (∀ src, SameBut w (apMatchParametersValues w k src).1.w) ∧
    (∀ src, SameBut w (apSetAllParametersValues w k src).w) :=
  update_keeps (P := fun r => SameBut w r.w) (.refl w) (fun _ _ _ hr => hr.sameBut)

end Bpp.Alias
