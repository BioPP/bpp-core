import BppProofs.Lemmas.AliasStep
/-! Histories of C03: every operation preserves the invariant; what an operation can raise (never `Err.hang`, `Err.ub` only
from an empty slot); what a run of writes to the parameters of one object leaves alone (frame) and keeps in sync (`Tr`). -/
namespace Bpp.Alias
open Bpp.ParamList (Bnd Con Par Store ObjId nameOf find? hasParameter names startsWith)

/-- a history all of whose requests are well-formed in the state they meet -/
def WfRun : World → List Op → Prop
  | _, [] => True
  | w, op :: rest => op.wf w ∧ WfRun (step w op).1 rest

theorem inv_step {w : World} (h : Inv w) (op : Op) (hop : op.wf w) : Inv (step w op).1 := by
  have d := step_did h op hop
  generalize (step w op).1 = W at d
  generalize (step w op).2 = out at d
  cases d with
  | ub | refused | same => exact h
  | new k pre =>
    exact h.framed (newObj_fr w k pre _) (if_pos rfl) (objInv_empty _ k pre) (fun i hi => by cases hi)
  | added ho _ hnew =>
    obtain ⟨x, hx, px⟩ := hop _ ho
    exact inv_added h ho hx px hnew
  | aliased ho dn => exact dn.inv h ho
  | unaliased ho h1 h2 he hnot => exact inv_unaliased h ho h1 h2 he hnot
  | bulkRaised _ p _ => exact p.inv h
  | bulk _ p _ _ _ => exact (p.inv h).sameShape (syncLinks_writes _ _ _).sameBut.sameShape
  | update _ _ hr _ => exact h.sameShape hr.sameBut.sameShape
  | copied ho r | assigned ho r => exact r.inv_world h ho
  | renamed pre ho => exact inv_renamed h ho pre

theorem inv_run : ∀ (ops : List Op) {w : World}, Inv w → WfRun w ops → Inv (run w ops)
  | [], _, h, _ => h
  | op :: rest, _, h, hw => inv_run rest (inv_step h op hw.1) hw.2

/-! ## The cycle test: what an answer of the loop means (termination and exactness: `Lemmas/AliasInv.lean`) -/

/-- if the loop meets `p2`, a parameter named `p2` is at or above the position it started from -/
theorem followsLoop_true {w : World} {k : Nat} {o : Obj} (h : ObjInv w k o) (p2 : String) :
    ∀ (f : Nat) (x : String) (c : Nat) (t : ObjId), o.params[c]? = some t → nameOf w.heap t = o.pre ++ x → Plain x →
      followsLoop w o p2 f x = some true →
      ∃ q tq, Relation.ReflTransGen (Follows w o) c q ∧ o.params[q]? = some tq ∧ nameOf w.heap tq = o.pre ++ p2
  | 0, _, _, _, _, _, _, hf => by simp [followsLoop] at hf
  | f + 1, x, c, t, hc, hx, px, hf => by
    simp only [followsLoop, px.1, if_false] at hf
    by_cases hxp : x = p2
    · exact ⟨c, t, Relation.ReflTransGen.refl, hc, hxp ▸ hx⟩
    simp only [hxp, if_false] at hf
    rcases h.parent hc hx with ⟨hg, _⟩ | ⟨e, he, ps, s, y, ha, hps, hy, py, hg, hfol, _⟩ <;> rw [hg] at hf
    · cases f <;> simp [followsLoop] at hf
    · obtain ⟨q, tq, hq, htq, hn⟩ := followsLoop_true h p2 f y ps s hps hy py hf
      exact ⟨q, tq, Relation.ReflTransGen.head hfol hq, htq, hn⟩

/-! ## No value update runs out of fuel -/

theorem Writes.no_hang {C : ObjId → Rat → Prop} {w : World} {r : WR} (h : Writes C w r) (pv : ParamsValid w)
    (hC : ∀ i v, C i v → i < w.heap.next) : r.err ≠ some .hang := by
  refine fun he => (h.keeps (I := SameBut w) (B := (· = .hang)) nofun nofun ?_ (SameBut.refl w)).2 _ he rfl
  intro w' i v hi s
  exact ⟨s.trans (setValue_sameBut w' i v),
    fun e he hh => setValue_no_hang w' i v (pv.sameBut s) (by rw [s.next]; exact hC i v hi) (hh ▸ he)⟩

/-! ## No undefined behaviour -/

/-- every listener attached to a parameter in `S` has a target, in `S` -/
def TgtOk (w : World) (S : ObjId → Prop) : Prop := ∀ x, S x → ∀ l ∈ w.lsn x, ∃ t, tgt w l = some t ∧ S t

theorem TgtOk.sameBut {w w' : World} {S : ObjId → Prop} (c : TgtOk w S) (s : SameBut w w') : TgtOk w' S := by
  intro x hx l hl
  rw [s.lsn] at hl; rw [s.tgt]
  exact c x hx l hl

theorem fireList_no_ub {k : World → ObjId → Rat → WR} {S : ObjId → Prop}
    (hs : ∀ w t u, SameBut w (k w t u).w)
    (hk : ∀ w t u, S t → TgtOk w S → (k w t u).err ≠ some .ub) (src : ObjId) :
    ∀ (ls : List Nat) (w : World), TgtOk w S → (∀ l ∈ ls, ∃ t, tgt w l = some t ∧ S t) →
      (fireList k src w ls).err ≠ some .ub := by
  refine fireList_ind (P := fun w ls r => TgtOk w S → (∀ l ∈ ls, ∃ t, tgt w l = some t ∧ S t) → r.err ≠ some .ub)
    (fun _ _ _ => nofun) (fun w l _ hn _ hl => ?_) (fun _ _ _ _ _ _ _ _ => nofun)
    (fun w l _ t e ht _ he hc hl hh => ?_) (fun w l _ t _ _ _ ih hc hl => ?_)
  · obtain ⟨t, ht, _⟩ := hl l (List.mem_cons_self ..)
    rw [hn] at ht; cases ht
  · obtain ⟨t', ht', hS⟩ := hl l (List.mem_cons_self ..)
    cases ht.symm.trans ht'; cases hh
    exact hk w t _ hS hc he
  · have sb := hs w t (val w src)
    exact ih (hc.sameBut sb) (fun l' hl' => by rw [sb.tgt]; exact hl l' (List.mem_cons_of_mem _ hl'))

theorem setV_no_ub {S : ObjId → Prop} : ∀ (f : Nat) (w : World) (i : ObjId) (v : Rat), S i → TgtOk w S →
    (setV f w i v).err ≠ some .ub
  | 0, _, _, _, _, _ => by simp [setV]
  | f + 1, w, i, v, hi, hc => by
    simp only [setV]
    split
    · simp
    · split
      · simp
      · have sb := sameBut_putValue w i v
        exact fireList_no_ub (setV_sameBut f) (fun w t u => setV_no_ub f w t u) i (w.lsn i) _ (hc.sameBut sb)
          (fun l hl => by rw [sb.tgt]; exact hc i hi l hl)

theorem ObjInv.tgtOk {w : World} {k : Nat} {o : Obj} (h : ObjInv w k o) (ho : w.objs k = some o) :
    TgtOk w (fun i => i ∈ o.params) := by
  intro x hx l hl
  obtain ⟨hreg, _⟩ := h.lsnOk x hx l hl
  have r := h.regOk _ hreg
  obtain ⟨t, y, ht, _⟩ := r.tgt
  have hpl := r.pl
  simp only at hpl ht
  exact ⟨t, by simp only [tgt, hpl, ho]; exact ht, List.mem_of_getElem? ht⟩

theorem setValue_no_ub {S : ObjId → Prop} (w : World) (i : ObjId) (v : Rat) (hi : S i) (hc : TgtOk w S) :
    (setValue w i v).err ≠ some .ub := setV_no_ub _ w i v hi hc

theorem Writes.no_ub {C : ObjId → Rat → Prop} {S : ObjId → Prop} {w : World} {r : WR} (h : Writes C w r)
    (hC : ∀ i v, C i v → S i) (hc : TgtOk w S) : r.err ≠ some .ub := by
  refine fun he => (h.keeps (I := SameBut w) (B := (· = .ub)) nofun nofun ?_ (SameBut.refl w)).2 _ he rfl
  intro w' i v hi s
  exact ⟨s.trans (setValue_sameBut w' i v), fun e he hh => setValue_no_ub w' i v (hC i v hi) (hc.sameBut s) (hh ▸ he)⟩

/-! ## What an operation can raise -/

/-- **what an operation can raise**: `Err.ub` only from an empty slot it needs, `Err.hang` never -/
theorem step_err {w : World} (h : Inv w) (op : Op) (hwf : op.wf w) {e : Err} (he : (step w op).2 = .err e) :
    (e = .ub ∧ ∃ k ∈ op.needs, w.objs k = none) ∨ (e ≠ .ub ∧ e ≠ .hang) := by
  have d := step_did h op hwf
  rw [he] at d
  generalize (step w op).1 = W at d
  have refusal : ∀ {x : Err}, x = .notfound ∨ x = .bpp ∨ x = .constraint → x ≠ .ub ∧ x ≠ .hang := by
    rintro x (rfl | rfl | rfl) <;> exact ⟨nofun, nofun⟩
  -- a run of writes to the parameters of an object of a world satisfying the invariant
  have writes : ∀ {w' : World} {k : Nat} {o : Obj} {r : WR}, Inv w' → w'.objs k = some o →
      Writes (fun i _ => i ∈ o.params) w' r → r.err = some e → e ≠ .ub ∧ e ≠ .hang := fun hI ho hr he' =>
    ⟨fun e1 => hr.no_ub (S := fun i => i ∈ _) (fun _ _ hi => hi) ((hI.obj _ _ ho).tgtOk ho) (e1 ▸ he'),
      fun e1 => hr.no_hang hI.paramsValid (fun i _ => (hI.obj _ _ ho).valid i) (e1 ▸ he')⟩
  cases d with
  | ub hk ho => exact Or.inl ⟨rfl, _, hk, ho⟩
  | refused hc => exact Or.inr (refusal hc)
  | same hs => cases hs
  | bulkRaised _ _ hc => exact Or.inr (refusal hc)
  | bulk _ p _ ho' hout => exact Or.inr (writes (p.inv h) ho' (syncLinks_writes _ _ _) ((hout e).1 rfl))
  | update _ ho hr hout => exact Or.inr (writes h ho hr ((hout e).1 rfl))

/-- **no operation on existing objects leaves the defined behaviour** -/
theorem step_no_ub {w : World} (h : Inv w) (op : Op) (hwf : op.wf w)
    (hneeds : ∀ k ∈ op.needs, (w.objs k).isSome = true) : (step w op).2 ≠ .err .ub := fun he => by
  rcases step_err h op hwf he with ⟨_, k, hk, ho⟩ | ⟨h1, _⟩
  · have := hneeds k hk; rw [ho] at this; cases this
  · exact h1 rfl

/-- **every operation terminates** -/
theorem step_no_hang {w : World} (h : Inv w) (op : Op) (hwf : op.wf w) : (step w op).2 ≠ .err .hang := fun he => by
  rcases step_err h op hwf he with ⟨h1, _⟩ | ⟨_, h2⟩
  · cases h1
  · exact h2 rfl

theorem step_no_hang_struct {w : World} (h : Inv w) (op : Op) (hwf : op.wf w) :
    (match op with | .aliases _ | .aliasOf _ _ => True | _ => (step w op).2 ≠ .err .hang) := by
  have := step_no_hang h op hwf
  cases op <;> trivial

/-! ## Frame: a value update stays inside a set of parameter objects closed under listeners -/

def Closed (w : World) (S : ObjId → Prop) : Prop := ∀ x, S x → ∀ l ∈ w.lsn x, ∀ t, tgt w l = some t → S t

theorem Closed.sameBut {w w' : World} {S : ObjId → Prop} (c : Closed w S) (s : SameBut w w') : Closed w' S := by
  intro x hx l hl t ht
  rw [s.lsn] at hl; rw [s.tgt] at ht
  exact c x hx l hl t ht

theorem fireList_frame {k : World → ObjId → Rat → WR} {S : ObjId → Prop}
    (hs : ∀ w t u, SameBut w (k w t u).w)
    (hk : ∀ w t u, S t → Closed w S → ∀ j, ¬ S j → val (k w t u).w j = val w j) (src : ObjId) :
    ∀ (ls : List Nat) (w : World), Closed w S → (∀ l ∈ ls, ∀ t, tgt w l = some t → S t) →
      ∀ j, ¬ S j → val (fireList k src w ls).w j = val w j := by
  refine fireList_ind
    (P := fun w ls r => Closed w S → (∀ l ∈ ls, ∀ t, tgt w l = some t → S t) → ∀ j, ¬ S j → val r.w j = val w j)
    (fun _ _ _ _ _ => rfl) (fun _ _ _ _ _ _ _ _ => rfl) (fun _ _ _ _ _ _ _ _ _ _ => rfl)
    (fun w l _ t _ ht _ _ hc hl j hj => hk w t _ (hl l (List.mem_cons_self ..) t ht) hc j hj)
    (fun w l _ t ht _ _ ih hc hl j hj => ?_)
  have sb := hs w t (val w src)
  rw [ih (hc.sameBut sb) (fun l' hl' t' ht' => hl l' (List.mem_cons_of_mem _ hl') t' (by rw [← sb.tgt]; exact ht')) j hj]
  exact hk w t _ (hl l (List.mem_cons_self ..) t ht) hc j hj

theorem setV_frame {S : ObjId → Prop} : ∀ (f : Nat) (w : World) (i : ObjId) (v : Rat), S i → Closed w S →
    ∀ j, ¬ S j → val (setV f w i v).w j = val w j
  | 0, _, _, _, _, _, _, _ => rfl
  | f + 1, w, i, v, hi, hc, j, hj => by
    simp only [setV]
    split
    · rfl
    · split
      · rfl
      · have sb := sameBut_putValue w i v
        rw [fireList_frame (setV_sameBut f) (fun w t u => setV_frame f w t u) i (w.lsn i) _ (hc.sameBut sb)
          (fun l hl t ht => hc i hi l hl t (by rw [← sb.tgt]; exact ht)) j hj]
        have : j ≠ i := fun e => hj (e ▸ hi)
        simp [this]

theorem ObjInv.closed {w : World} {k : Nat} {o : Obj} (h : ObjInv w k o) (ho : w.objs k = some o) :
    Closed w (fun i => i ∈ o.params) := by
  intro x hx l hl t ht
  obtain ⟨hreg, _⟩ := h.lsnOk x hx l hl
  have hpl := (h.regOk _ hreg).pl
  simp only at hpl
  simp only [tgt, hpl, ho] at ht
  exact List.mem_of_getElem? ht

theorem setValue_frame {S : ObjId → Prop} (w : World) (i : ObjId) (v : Rat) (hi : S i) (hc : Closed w S) :
    ∀ j, ¬ S j → val (setValue w i v).w j = val w j := setV_frame _ w i v hi hc

theorem Writes.frame {C : ObjId → Rat → Prop} {S : ObjId → Prop} {w : World} {r : WR} (h : Writes C w r)
    (hC : ∀ i v, C i v → S i) (hc : Closed w S) (j : ObjId) (hj : ¬ S j) : val r.w j = val w j := by
  refine (h.inv (I := fun w' => SameBut w w' ∧ val w' j = val w j) (fun w' i v hi hw' => ?_) ⟨SameBut.refl w, rfl⟩).2
  exact ⟨hw'.1.trans (setValue_sameBut w' i v),
    (setValue_frame w' i v (hC i v hi) (hc.sameBut hw'.1) j hj).trans hw'.2⟩

/-- **a value update of the object in slot `k` writes the parameters of that object only** -/
theorem update_frame {w : World} (h : Inv w) {k : Nat} {o : Obj} (ho : w.objs k = some o) (j : ObjId) (hj : j ∉ o.params) :
    (∀ n v, val (apSetParameterValue w k n v).w j = val w j) ∧
    (∀ src, val (apSetParametersValues w k src).w j = val w j) ∧
    (∀ src, val (apMatchParametersValues w k src).1.w j = val w j) ∧
    (∀ src, val (apSetAllParametersValues w k src).w j = val w j) :=
  update_writes ho (P := fun r => val r.w j = val w j)
    (fun _ hr => hr.frame (S := fun i => i ∈ o.params) (fun _ _ hi => hi) ((h.obj k o ho).closed ho) j hj)

/-! ## Links in sync stay in sync under updates of independent parameters -/

/-- every registered link of the object has equal values at its two ends -/
def AllSynced (w : World) (o : Obj) : Prop :=
  ∀ e ∈ o.reg, ∀ s t, s ∈ o.params → nameOf w.heap s = o.pre ++ (w.lis e.2).src →
    o.params[(w.lis e.2).alias]? = some t → val w t = val w s

theorem ObjInv.transport {w w' : World} {k : Nat} {o : Obj} (h : ObjInv w k o) (s : SameBut w w') : ObjInv w' k o :=
  h.sameShape s.sameShape

/-- the source of a bulk setter names independent parameters only (or names the object does not have) -/
def NamesIndep (w : World) (o : Obj) (src : List (String × Rat)) : Prop :=
  ∀ e ∈ src, ∀ t, find? w.heap o.params e.1 = some t → t ∈ o.indep

/-- a wired link of the object: a listener attached to its parameter `s` writes to `t` -/
def Lk (w : World) (o : Obj) (s t : ObjId) : Prop := s ∈ o.params ∧ ∃ l ∈ w.lsn s, tgt w l = some t

theorem Lk.sameBut {w w' : World} (sb : SameBut w w') {o : Obj} {s t : ObjId} : Lk w' o s t ↔ Lk w o s t := by
  simp only [Lk, sb.lsn, sb.tgt]

theorem Lk.target_mem {w : World} {k : Nat} {o : Obj} (h : ObjInv w k o) (ho : w.objs k = some o) {s t : ObjId}
    (hl : Lk w o s t) : t ∈ o.params := by
  obtain ⟨hs, l, hl, ht⟩ := hl
  exact h.closed ho s hs l hl t ht

/-- the registry entry behind a wired link -/
theorem Lk.entry {w : World} {k : Nat} {o : Obj} (h : ObjInv w k o) (ho : w.objs k = some o) {s t : ObjId}
    (hl : Lk w o s t) : ∃ e ∈ o.reg, nameOf w.heap s = o.pre ++ (w.lis e.2).src ∧ o.params[(w.lis e.2).alias]? = some t ∧
      e.2 ∈ w.lsn s := by
  obtain ⟨hs, l, hl, ht⟩ := hl
  obtain ⟨hreg, hn⟩ := h.lsnOk s hs l hl
  have hpl := (h.regOk _ hreg).pl
  simp only at hpl
  simp only [tgt, hpl, ho] at ht
  exact ⟨_, hreg, hn, ht, hl⟩

/-- every registered link is wired: the listener is attached to the parameter it is named after and
writes to the parameter at its position -/
theorem ObjInv.entry_wired {w : World} {k : Nat} {o : Obj} (h : ObjInv w k o) (ho : w.objs k = some o) {e : String × Nat}
    (he : e ∈ o.reg) : ∃ s t y, s ∈ o.params ∧ t ∈ o.params ∧ nameOf w.heap s = o.pre ++ (w.lis e.2).src ∧
      nameOf w.heap t = o.pre ++ y ∧ e.1 = aliasId (w.lis e.2).src y ∧ e.2 ∈ w.lsn s ∧ tgt w e.2 = some t := by
  obtain ⟨_, _, r3, ⟨s, hs, hsn, hsl⟩, ⟨t, y, ht, htn, _, hid⟩⟩ := h.regOk e he
  refine ⟨s, t, y, hs, List.mem_of_getElem? ht, hsn, htn, hid, hsl, ?_⟩
  simp only [tgt, r3, ho]; exact ht

/-- a parameter follows at most one parameter -/
theorem Lk.src_unique {w : World} {k : Nat} {o : Obj} (h : ObjInv w k o) (ho : w.objs k = some o) {s s' t : ObjId}
    (a : Lk w o s t) (b : Lk w o s' t) : s = s' := by
  obtain ⟨e, he, hn, ht, _⟩ := a.entry h ho
  obtain ⟨e', he', hn', ht', _⟩ := b.entry h ho
  have := h.once e he e' he' (h.pos_inj ht ht')
  subst this
  exact h.name_inj a.1 b.1 (hn.trans hn'.symm)

theorem allSynced_iff {w : World} {k : Nat} {o : Obj} (h : ObjInv w k o) (ho : w.objs k = some o) :
    AllSynced w o ↔ ∀ s t, Lk w o s t → val w t = val w s := by
  constructor
  · intro hsy s t hl
    obtain ⟨e, he, hn, ht, _⟩ := hl.entry h ho
    exact hsy e he s t hl.1 hn ht
  · intro hall e he s t hs hsn ht
    obtain ⟨_, _, r3, ⟨s0, hs0, hs0n, hs0l⟩, _⟩ := h.regOk e he
    cases h.name_inj hs0 hs (hs0n.trans hsn.symm)
    exact hall s t ⟨hs, e.2, hs0l, by simp only [tgt, r3, ho]; exact ht⟩

/-! ## Links in sync along runs of writes

`Tr D o w w'`: `w'` differs from `w` only in values (`SameBut`), and every link whose target is not in `D`
(the parameters written directly) is in sync afterwards if its source changed or it was in sync before.  The relation is
transitive and holds of every `Parameter::setValue` on a parameter of the object, hence of every run. -/

structure Tr (D : ObjId → Prop) (o : Obj) (w w' : World) : Prop where
  sb : SameBut w w'
  keep : ∀ s t, Lk w o s t → ¬ D t → (val w' s ≠ val w s ∨ val w t = val w s) → val w' t = val w' s

theorem Tr.refl (D : ObjId → Prop) (o : Obj) (w : World) : Tr D o w w :=
  ⟨SameBut.refl w, fun _ _ _ _ h => h.elim (fun c => absurd rfl c) id⟩

theorem Tr.mono {D D' : ObjId → Prop} {o : Obj} {w w' : World} (t : Tr D o w w') (hd : ∀ x, D x → D' x) : Tr D' o w w' :=
  ⟨t.sb, fun s u hl hn h => t.keep s u hl (fun hx => hn (hd _ hx)) h⟩

theorem Tr.trans {D : ObjId → Prop} {o : Obj} {a b c : World} (x : Tr D o a b) (y : Tr D o b c) : Tr D o a c where
  sb := x.sb.trans y.sb
  keep s t hl hn h := by
    apply y.keep s t ((Lk.sameBut x.sb).2 hl) hn
    by_cases h2 : val c s = val b s
    · right
      apply x.keep s t hl hn
      rcases h with h | h
      · left; rw [← h2]; exact h
      · right; exact h
    · left; exact h2

/-- one `Parameter::setValue` of a parameter of the object -/
theorem tr_setValue {w : World} {k : Nat} {o : Obj} (h : ObjInv w k o) (ho : w.objs k = some o) {r : ObjId}
    (hrp : r ∈ o.params) {v : Rat} (ok : (setValue w r v).err = none) : Tr (· = r) o w (setValue w r v).w where
  sb := setValue_sameBut w r v
  keep s t hl htr hpre := by
    obtain ⟨st, _⟩ := setValue_step w r v ok
    have cs := setValue_cause w r v ok
    have hclosed := h.closed ho
    obtain ⟨hs, l, hls, htg⟩ := hl
    by_cases hc : val (setValue w r v).w s = val w s
    · have hsy : val w t = val w s := hpre.elim (fun c => absurd hc c) id
      have htc : val (setValue w r v).w t = val w t := by
        by_contra hne
        rcases cs t hne with rfl | ⟨x, l', hl', hlt, hx⟩
        · exact htr rfl
        · have hxp : x ∈ o.params := by
            by_contra hxn
            exact hx (setValue_frame (S := fun i => i ∈ o.params) w r v hrp hclosed x hxn)
          have := Lk.src_unique h ho (s := x) (s' := s) ⟨hxp, l', hl', hlt⟩ ⟨hs, l, hls, htg⟩
          subst this
          exact hx hc
      rw [htc, hc]; exact hsy
    · exact st.tracks_direct hls htg hc

/-- a returning run of writes to parameters of the object; the entry points are the parameters written -/
theorem Writes.tr {C : ObjId → Rat → Prop} {w : World} {r : WR} {k : Nat} {o : Obj} (h : Writes C w r) (hi : ObjInv w k o)
    (ho : w.objs k = some o) (hC : ∀ i v, C i v → i ∈ o.params) (ok : r.err = none) :
    Tr (fun t => ∃ v, C t v) o w r.w := by
  refine h.of_ok (I := Tr (fun t => ∃ v, C t v) o w) (fun w' i v hc t hok => ?_) (Tr.refl _ _ _) ok
  exact t.trans ((tr_setValue (hi.transport t.sb) (by rw [t.sb.objs]; exact ho) (hC i v hc) hok).mono
    (fun _ e => ⟨v, e ▸ hc⟩))

theorem Tr.allSynced {D : ObjId → Prop} {o : Obj} {w w' : World} {k : Nat} (t : Tr D o w w') (hi : ObjInv w k o)
    (ho : w.objs k = some o) (hD : ∀ s u, Lk w o s u → ¬ D u) (hsy : AllSynced w o) : AllSynced w' o :=
  (allSynced_iff (hi.transport t.sb) (by rw [t.sb.objs]; exact ho)).2 fun s u lk =>
    have lk' := (Lk.sameBut t.sb).1 lk
    t.keep s u lk' (hD s u lk') (Or.inr ((allSynced_iff hi ho).1 hsy s u lk'))

theorem Lk.not_named {w : World} {k : Nat} {o : Obj} (h : ObjInv w k o) (ho : w.objs k = some o)
    {src : List (String × Rat)} (hn : NamesIndep w o src) {s t : ObjId} (hl : Lk w o s t) :
    ¬ ∃ v, Named w o.params src t v := by
  rintro ⟨v, n, he, hf⟩
  obtain ⟨e, hre, _, ht, _⟩ := hl.entry h ho
  exact (h.indepIff t (hl.target_mem h ho)).1 (hn (n, v) he t hf) ⟨e, hre, ht⟩

/-- **links in sync stay in sync under updates of independent parameters**, by the three routes that take names -/
theorem synced_updates {w : World} (h : Inv w) {k : Nat} {o : Obj} (ho : w.objs k = some o) (hsy : AllSynced w o) :
    (∀ n v, (∀ t, find? w.heap o.params (o.pre ++ n) = some t → t ∈ o.indep) →
      (apSetParameterValue w k n v).err = none → AllSynced (apSetParameterValue w k n v).w o) ∧
    (∀ src, NamesIndep w o src → (apSetParametersValues w k src).err = none →
      AllSynced (apSetParametersValues w k src).w o) ∧
    (∀ src, NamesIndep w o src → (apMatchParametersValues w k src).1.err = none →
      AllSynced (apMatchParametersValues w k src).1.w o) := by
  have hi := h.obj k o ho
  have key : ∀ {src : List (String × Rat)} {r : WR}, Writes (Named w o.params src) w r → NamesIndep w o src →
      r.err = none → AllSynced r.w o := fun hr hn ok =>
    (hr.tr hi ho (fun _ _ h => h.mem) ok).allSynced hi ho (fun _ _ lk => lk.not_named hi ho hn) hsy
  refine ⟨fun n v hn ok => ?_, fun src hn ok => ?_, fun src hn ok => ?_⟩
  · simp only [apSetParameterValue, ho] at ok ⊢
    refine key (setParameterValue_writes w o.params _ v) (fun e he t hf => ?_) ok
    cases List.mem_singleton.1 he; exact hn t hf
  · simp only [apSetParametersValues, ho] at ok ⊢
    exact key (setParametersValues_writes w o.params src) hn ok
  · simp only [apMatchParametersValues, ho] at ok ⊢
    exact key (matchParametersValues_writes w o.params src) hn ok

end Bpp.Alias
