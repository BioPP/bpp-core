import BppProofs.Lemmas.MatrixOps2
import BppProofs.Lemmas.ScalarReal
import Mathlib.Algebra.BigOperators.Fin
import Mathlib.Data.Matrix.Mul
import Mathlib.Algebra.BigOperators.Ring.Finset
/-! Helper lemmas for C04: the exact-arithmetic (`ℝ`) reading — sums, Mathlib matrices, integer
power and power series. -/
namespace Bpp.Mx
open Bpp Store

@[simp] theorem add_real (x y : ℝ) : (Add.add x y : ℝ) = x + y := rfl

theorem sumTo_eq_sum (n : Nat) (t : Nat → ℝ) : Spec.sumTo n t = ∑ k ∈ Finset.range n, t k := by
  induction n with
  | zero => simp [Spec.sumTo]
  | succ n ih => rw [sumTo_succ, ih, Finset.sum_range_succ]

theorem accFrom_eq_sum (x : ℝ) (n : Nat) (t : Nat → ℝ) : accFrom x n t = x + ∑ k ∈ Finset.range n, t k := by
  induction n with
  | zero => simp [accFrom]
  | succ n ih => rw [accFrom_succ, ih, Finset.sum_range_succ]; ring

theorem total_eq_sum (a : Nat → Nat → ℝ) (r c : Nat) :
    Spec.total a r c = ∑ i ∈ Finset.range r, ∑ j ∈ Finset.range c, a i j := by
  -- the inner loop is `accFrom` started at the running sum
  have h : Spec.total a r c = accFrom Scalar.zero r (fun i => ∑ j ∈ Finset.range c, a i j) :=
    congrArg (fun f => (List.range r).foldl f Scalar.zero) (funext fun s => funext fun i => accFrom_eq_sum s c (a i))
  rw [h, accFrom_eq_sum, ScalarReal.zero_eq, zero_add]

/-- the leading `r × c` block of an entry function as a Mathlib matrix -/
def toMat (r c : Nat) (f : Nat → Nat → ℝ) : Matrix (Fin r) (Fin c) ℝ := fun i j => f i.val j.val

theorem mult_toMat (r n c : Nat) (a b : Nat → Nat → ℝ) :
    toMat r c (Spec.mult a b n) = toMat r n a * toMat n c b := by
  ext i j
  simp only [toMat, Spec.mult, sumTo_eq_sum, Matrix.mul_apply]
  rw [Finset.sum_range]

theorem identity_toMat (n : Nat) : toMat n n (Spec.identity : Nat → Nat → ℝ) = 1 := by
  ext i j
  simp only [toMat, Spec.identity, Matrix.one_apply, Fin.ext_iff]
  split <;> simp

theorem transpose_toMat (r c : Nat) (a : Nat → Nat → ℝ) : toMat c r (Spec.transpose a) = (toMat r c a).transpose := by
  ext i j; rfl

/-- `S` holds the `n × n` matrix `X` -/
def HoldsSq (S : Store ℝ) (n : Nat) (X : Matrix (Fin n) (Fin n) ℝ) : Prop :=
  ∃ g, S.Holds n n g ∧ toMat n n g = X

theorem mult_holdsSq {A B : Store ℝ} {n : Nat} {X Y : Matrix (Fin n) (Fin n) ℝ} (hA : HoldsSq A n X) (hB : HoldsSq B n Y)
    (O : Store ℝ) : ∃ O', mult A B O = .ok O' ∧ O'.kind = O.kind ∧ HoldsSq O' n (X * Y) := by
  obtain ⟨ga, ha, rfl⟩ := hA
  obtain ⟨gb, hb, rfl⟩ := hB
  obtain ⟨O', e, k, H⟩ := mult_holds_is (ha.is Iff.rfl) (hb.is Iff.rfl) O
  exact ⟨O', e, k, _, H, mult_toMat n n n ga gb⟩

theorem copy_holdsSq {A : Store ℝ} {n : Nat} {X : Matrix (Fin n) (Fin n) ℝ} (hA : HoldsSq A n X) (O : Store ℝ) :
    ∃ O', copy A O = .ok O' ∧ O'.kind = O.kind ∧ HoldsSq O' n X := by
  obtain ⟨ga, ha, rfl⟩ := hA
  obtain ⟨O', e, k, H⟩ := copy_holds_is (ha.is Iff.rfl) O
  exact ⟨O', e, k, _, H, rfl⟩

theorem getId_holdsSq (n : Nat) (O : Store ℝ) : ∃ O', getId n O = .ok O' ∧ O'.kind = O.kind ∧ HoldsSq O' n 1 := by
  obtain ⟨O', e, k, H⟩ := getId_holds n O
  exact ⟨O', e, k, _, H, identity_toMat n⟩

theorem holdsSq_self {A : Store ℝ} (hA : A.WF) (hsq : A.nrows = A.ncols) : HoldsSq A A.nrows (toMat A.nrows A.nrows A.entry) := by
  have h := holds_self hA
  rw [← hsq] at h
  exact ⟨_, h, rfl⟩

/-- `pow` computes the `p`-th power, for every `p` (the halving recursion of the source) -/
theorem pow_holdsSq : ∀ (p : Nat) {A : Store ℝ} {n : Nat} {X : Matrix (Fin n) (Fin n) ℝ} (_ : HoldsSq A n X) (O : Store ℝ),
    ∃ O', pow A p O = .ok O' ∧ O'.kind = O.kind ∧ HoldsSq O' n (X ^ p) := by
  intro p
  induction p using Nat.strong_induction_on with
  | _ p ih =>
    intro A n X hA O
    obtain ⟨ga, ha, ea⟩ := hA
    obtain ⟨ar, ac⟩ := ha.dims Iff.rfl
    have hA : HoldsSq A n X := ⟨ga, ha, ea⟩
    have hsq : ¬ A.nrows ≠ A.ncols := by rw [ar, ac]; simp
    rw [pow.eq_def]
    rw [if_neg hsq]
    match p with
    | 0 =>
      simp only [pow_zero]
      rw [ar]; exact getId_holdsSq n O
    | 1 => simp only [pow_one]; exact copy_holdsSq hA O
    | 2 => simp only [pow_two]; exact mult_holdsSq hA hA O
    | q + 3 =>
      simp only
      by_cases hev : (q + 3) % 2 = 0
      · rw [if_pos hev]
        obtain ⟨tmp, e1, _, h1⟩ := ih ((q + 3) / 2) (by omega) hA (Store.empty A.kind)
        obtain ⟨O', e2, k2, h2⟩ := ih 2 (by omega) h1 O
        refine ⟨O', by simp only [e1, e2], k2, ?_⟩
        have : X ^ (q + 3) = (X ^ ((q + 3) / 2)) ^ 2 := by
          rw [← pow_mul]; congr 1; omega
        rw [this]; exact h2
      · rw [if_neg hev]
        obtain ⟨tmp, e1, _, h1⟩ := ih ((q + 3 - 1) / 2) (by omega) hA (Store.empty A.kind)
        obtain ⟨O1, e2, k2, h2⟩ := mult_holdsSq h1 h1 O
        obtain ⟨tmp2, e3, _, h3⟩ := mult_holdsSq hA h2 tmp
        obtain ⟨O', e4, k4, h4⟩ := copy_holdsSq h3 O1
        refine ⟨O', by simp only [e1, e2, e3, e4], by rw [k4, k2], ?_⟩
        have : X ^ (q + 3) = X * (X ^ ((q + 3 - 1) / 2) * X ^ ((q + 3 - 1) / 2)) := by
          rw [← pow_add, ← pow_succ']; congr 1; omega
        rw [this]; exact h4

theorem look_tabulate (n : Nat) (f : Nat → Nat → ℝ) {i j : Nat} (hi : i < n) (hj : j < n) :
    Spec.look (Spec.tabulate n f) i j = f i j := by
  simp [Spec.look, Spec.tabulate, hi, hj]

theorem specPow_toMat (a : Nat → Nat → ℝ) (n p : Nat) : toMat n n (Spec.pow a n p) = (toMat n n a) ^ p := by
  induction p with
  | zero =>
    rw [pow_zero, ← identity_toMat]
    ext i j
    simp only [toMat, Spec.pow, Spec.powTab]
    exact look_tabulate n _ i.isLt j.isLt
  | succ p ih =>
    rw [pow_succ, ← ih, ← mult_toMat]
    ext i j
    simp only [toMat, Spec.pow, Spec.powTab]
    exact look_tabulate n _ i.isLt j.isLt

theorem HoldsSq.holds {S : Store ℝ} {n : Nat} {f : Nat → Nat → ℝ} (h : HoldsSq S n (toMat n n f)) : S.Holds n n f := by
  obtain ⟨g, hg, e⟩ := h
  exact hg.congr (fun i j hi hj => congrFun (congrFun e ⟨i, hi⟩) ⟨j, hj⟩)

/-- `pow` returns `A^p` entry by entry -/
theorem pow_holds {A : Store ℝ} (hA : A.WF) (hsq : A.nrows = A.ncols) (p : Nat) (O : Store ℝ) :
    ∃ O', pow A p O = .ok O' ∧ O'.kind = O.kind ∧ O'.Holds A.nrows A.nrows (Spec.pow A.entry A.nrows p) := by
  obtain ⟨O', e, k, h⟩ := pow_holdsSq p (holdsSq_self hA hsq) O
  rw [← specPow_toMat] at h
  exact ⟨O', e, k, h.holds⟩

theorem pow_nonconformable {A : Store ℝ} (hsq : A.nrows ≠ A.ncols) (p : Nat) (O : Store ℝ) :
    pow A p O = .error .dimension := by
  rw [pow.eq_def, if_pos hsq]

/-- `Taylor`: the vector of powers `A^0 … A^p`, each row-stored -/
theorem taylor_holds {A : Store ℝ} (hA : A.WF) (hsq : A.nrows = A.ncols) (p : Nat) :
    ∃ v : Array (Store ℝ), taylor A p = .ok v ∧ v.size = p + 1 ∧
      ∀ q (h : q < v.size), v[q].kind = .row ∧ v[q].Holds A.nrows A.nrows (Spec.pow A.entry A.nrows q) := by
  have hX := holdsSq_self hA hsq
  suffices hs : ∃ v : Array (Store ℝ), taylor A p = .ok v ∧ v.size = p + 1 ∧
      ∀ q (h : q < v.size), v[q].kind = .row ∧ HoldsSq v[q] A.nrows ((toMat A.nrows A.nrows A.entry) ^ q) by
    obtain ⟨v, e, sz, hv⟩ := hs
    refine ⟨v, e, sz, fun q h => ⟨(hv q h).1, ?_⟩⟩
    have := (hv q h).2
    rw [← specPow_toMat] at this
    exact this.holds
  unfold taylor
  rw [if_neg (by rw [← hsq]; simp)]
  obtain ⟨v0, e0, k0, h0⟩ := getId_holdsSq A.nrows (Store.empty .row : Store ℝ)
  simp only [e0]
  by_cases hp : p = 0
  · rw [if_pos hp]
    refine ⟨#[v0], rfl, by simp [hp], ?_⟩
    intro q h
    have : q = 0 := by simpa using h
    subst this
    simp only [pow_zero]
    exact ⟨by simpa using k0, h0⟩
  · rw [if_neg hp]
    obtain ⟨v1, e1, k1, h1⟩ := copy_holdsSq hX (Store.empty .row : Store ℝ)
    simp only [e1]
    obtain ⟨v, ev, hv⟩ := loopM_inv
      (fun t (vO : Array (Store ℝ)) => vO.size = t + 2 ∧
        ∀ q (h : q < vO.size), vO[q].kind = .row ∧ HoldsSq vO[q] A.nrows ((toMat A.nrows A.nrows A.entry) ^ q))
      (p - 1) (taylorStep A) #[v0, v1]
      ⟨rfl, by
        intro q h
        have : q = 0 ∨ q = 1 := by simp at h; omega
        rcases this with rfl | rfl
        · simp only [pow_zero]; exact ⟨by simpa using k0, h0⟩
        · simp only [pow_one]; exact ⟨by simpa using k1, h1⟩⟩
      (by
        intro t vO ht ⟨hsz, hq⟩
        have hlt : t + 1 < vO.size := by omega
        obtain ⟨nxt, e2, k2, h2⟩ := mult_holdsSq (hq (t + 1) hlt).2 hX (Store.empty .row : Store ℝ)
        refine ⟨vO.push nxt, by simp only [taylorStep, vget_ok hlt, e2], by simp [hsz], ?_⟩
        intro q h
        by_cases hq' : q < vO.size
        · rw [Array.getElem_push_lt hq']; exact hq q hq'
        · have : q = vO.size := by simp at h; omega
          subst this
          rw [Array.getElem_push_eq]
          refine ⟨by simpa using k2, ?_⟩
          rw [hsz, show t + 2 = (t + 1) + 1 from rfl, pow_succ]
          exact h2)
    exact ⟨v, ev, by rw [hv.1]; omega, hv.2⟩

end Bpp.Mx
