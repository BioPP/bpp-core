import BppProofs.Lemmas.ParamList
/-! Exact effect of the bulk routines of C02: the two-pass value setters, sub-lists, and the merging and
whole-parameter routines under pairwise different names. -/
namespace Bpp.ParamList

/-- same names and constraints everywhere (only values may differ) -/
def SameShape (h h' : Store) : Prop :=
  ∀ x, (h'.get x).name = (h.get x).name ∧ (h'.get x).con = (h.get x).con

theorem SameShape.refl (h : Store) : SameShape h h := fun _ => ⟨rfl, rfl⟩
theorem SameShape.trans {a b c : Store} (x : SameShape a b) (y : SameShape b c) : SameShape a c :=
  fun i => ⟨(y i).1.trans (x i).1, (y i).2.trans (x i).2⟩

theorem SameShape.find? {h h' : Store} (ss : SameShape h h') (l : List ObjId) (n : String) :
    find? h' l n = find? h l n := find?_congr (fun i _ => (ss i).1) n

theorem SameShape.nameOf {h h' : Store} (ss : SameShape h h') (i : ObjId) : nameOf h' i = nameOf h i := (ss i).1

theorem SameShape.names {h h' : Store} (ss : SameShape h h') (l : List ObjId) : names h' l = names h l :=
  names_congr (fun i _ => ss.nameOf i)

theorem SameShape.rejects {h h' : Store} (ss : SameShape h h') (i : ObjId) (v : Rat) :
    (h'.get i).rejects v = (h.get i).rejects v := by
  unfold Par.rejects; rw [(ss i).2]

theorem SameShape.put_value {h h' : Store} (ss : SameShape h h') (t : ObjId) (v : Rat) :
    SameShape h (h'.put t { h'.get t with value := v }) := by
  intro x
  rw [get_put]
  split
  · next c => exact c ▸ ss t
  · exact ss x

theorem checkSome_none {h : Store} {l src : List ObjId} :
    checkSome h l src = none ↔
      ∀ s ∈ src, ∀ t, find? h l (nameOf h s) = some t → (h.get t).rejects (h.get s).value = false := by
  induction src with
  | nil => exact ⟨fun _ _ hs => (nomatch hs), fun _ => rfl⟩
  | cons s rest ih =>
    rw [checkSome, List.forall_mem_cons]
    cases e : find? h l (nameOf h s) with
    | none => exact ih.trans ⟨fun H => ⟨fun t ht => (nomatch ht), H⟩, fun H => H.2⟩
    | some t =>
      dsimp only
      by_cases hr : (h.get t).rejects (h.get s).value = true
      · rw [if_pos hr]
        exact ⟨fun c => (nomatch c), fun H => Bool.noConfusion (hr.symm.trans (H.1 t rfl))⟩
      · rw [if_neg hr]
        exact ih.trans ⟨fun H => ⟨fun t' ht' => Option.some.inj ht' ▸ Bool.eq_false_iff.2 hr, H⟩, fun H => H.2⟩

theorem checkSome_some {h : Store} {l src : List ObjId} {e : Err} (c : checkSome h l src = some e) :
    e = .constraint := by
  induction src with
  | nil => cases c
  | cons s rest ih =>
    unfold checkSome at c
    split at c
    · exact ih c
    · split at c
      · cases c; rfl
      · exact ih c

theorem checkAll_none {h : Store} {src l : List ObjId} :
    checkAll h src l = none ↔
      ∀ i ∈ l, ∃ j, find? h src (nameOf h i) = some j ∧ (h.get i).rejects (h.get j).value = false := by
  induction l with
  | nil => exact ⟨fun _ _ hs => (nomatch hs), fun _ => rfl⟩
  | cons i rest ih =>
    rw [checkAll, List.forall_mem_cons]
    cases e : find? h src (nameOf h i) with
    | none => exact ⟨fun c => (nomatch c), fun H => nomatch H.1.choose_spec.1⟩
    | some j =>
      dsimp only
      by_cases hr : (h.get i).rejects (h.get j).value = true
      · rw [if_pos hr]
        refine ⟨fun c => (nomatch c), fun H => ?_⟩
        obtain ⟨j', ej, hj⟩ := H.1
        exact Bool.noConfusion (hr.symm.trans (Option.some.inj ej ▸ hj))
      · rw [if_neg hr]
        exact ih.trans ⟨fun H => ⟨⟨j, rfl, Bool.eq_false_iff.2 hr⟩, H⟩, fun H => H.2⟩

theorem checkAll_some {h : Store} {src l : List ObjId} {e : Err} (c : checkAll h src l = some e) :
    e = .notfound ∨ e = .constraint := by
  induction l with
  | nil => cases c
  | cons i rest ih =>
    unfold checkAll at c
    split at c
    · cases c; exact Or.inl rfl
    · split at c
      · cases c; exact Or.inr rfl
      · exact ih c

/-! ### the second pass never raises after a successful first pass (no hypothesis on names)

`h0` is the heap of the first pass, `h` the running heap of the second: an object either still has
its first-pass value or is its own target, and writing an object's value into itself is never refused. -/

theorem applySome_noerr (h0 : Store) (l : List ObjId) (rest : List ObjId) (h : Store)
    (ss : SameShape h0 h)
    (inv : ∀ x, (h.get x).value = (h0.get x).value ∨ find? h0 l (nameOf h0 x) = some x)
    (chk : ∀ s ∈ rest, ∀ t, find? h0 l (nameOf h0 s) = some t → (h0.get t).rejects (h0.get s).value = false) :
    (applySome h l rest).err = none := by
  induction rest generalizing h with
  | nil => rfl
  | cons s rest ih =>
    have chk' := fun s' hs' => chk s' (List.mem_cons_of_mem _ hs')
    rw [applySome, ss.nameOf, ss.find?]
    cases e : find? h0 l (nameOf h0 s) with
    | none => exact ih h ss inv chk'
    | some t =>
      have acc : ¬((h.get t).rejects (h.get s).value = true ∧ (h.get s).value ≠ (h.get t).value) := by
        rintro ⟨hr, hv⟩
        rcases inv s with hv' | hself
        · rw [ss.rejects, hv', chk s (List.mem_cons_self ..) t e] at hr; cases hr
        · rw [e] at hself; cases hself; exact hv rfl
      dsimp only
      rw [setValue_eq, if_neg acc]
      refine ih _ (ss.put_value t _) (fun x => ?_) chk'
      rw [get_put]
      split
      · next c => right; rw [c, (find?_some e).2]; exact e
      · exact inv x

theorem applyAll_noerr (h0 : Store) (src : List ObjId) (rest : List ObjId) (h : Store)
    (ss : SameShape h0 h)
    (inv : ∀ x, find? h0 src (nameOf h0 x) = some x → (h.get x).value = (h0.get x).value)
    (chk : ∀ i ∈ rest, ∃ j, find? h0 src (nameOf h0 i) = some j ∧ (h0.get i).rejects (h0.get j).value = false) :
    (applyAll h src rest).err = none := by
  induction rest generalizing h with
  | nil => rfl
  | cons i rest ih =>
    obtain ⟨j, e, hr⟩ := chk i (List.mem_cons_self ..)
    -- `j` is its own source (it carries the name by which it was found), so it still has its value
    have hjv : (h.get j).value = (h0.get j).value := inv j (by rw [(find?_some e).2]; exact e)
    rw [applyAll, ss.nameOf, ss.find?, e]
    dsimp only
    rw [setValue_of_accepts (by rw [ss.rejects, hjv]; exact hr)]
    refine ih _ (ss.put_value i _) (fun x hx => ?_) (fun i' hi' => chk i' (List.mem_cons_of_mem _ hi'))
    rw [get_put]
    split
    · next c => subst c; rw [e] at hx; cases hx; exact hjv
    · exact inv x hx

theorem takeWhile_congr' {α : Type} {p q : α → Bool} : ∀ {l : List α}, (∀ x ∈ l, p x = q x) →
    l.takeWhile p = l.takeWhile q
  | [], _ => rfl
  | a :: t, h => by
    rw [List.takeWhile_cons, List.takeWhile_cons, h a (List.mem_cons_self ..),
      takeWhile_congr' (fun x hx => h x (List.mem_cons_of_mem _ hx))]

theorem takeWhile_eq_self_of_all {α : Type} {p : α → Bool} : ∀ {l : List α}, l.all p = true → l.takeWhile p = l
  | [], _ => rfl
  | a :: t, h => by
    rw [List.all_cons, Bool.and_eq_true] at h
    rw [List.takeWhile_cons, if_pos h.1, takeWhile_eq_self_of_all h.2]

theorem find?_append_new {h : Store} {l : List ObjId} {x : ObjId} {n : String} (hx : nameOf h x ≠ n) :
    find? h (l ++ [x]) n = find? h l n := by
  unfold find?
  rw [List.find?_append, List.find?_singleton, if_neg (fun c => hx (beq_iff_eq.1 c)), Option.or_none]

theorem nameOf_put {h : Store} {t : ObjId} {q : Par} (hq : q.name = nameOf h t) (x : ObjId) :
    nameOf (h.put t q) x = nameOf h x := by
  rw [nameOf, get_put]
  split
  · next c => rw [hq, c]
  · rfl

/-! ## Walking through a source list whose names are pairwise different

The merging routines and the entry-wise setters process a list entry by entry.
`SameView rest h l h' l'`: after a step from heap `h` and target list `l` to `h'` and `l'`, every entry
still to be processed finds the same target as before, and it and its target are unchanged.
What the remaining entries will do can then be read off the state before the step. -/

structure SameView (rest : List ObjId) (h : Store) (l : List ObjId) (h' : Store) (l' : List ObjId) : Prop where
  find : ∀ x ∈ rest, find? h' l' (nameOf h' x) = find? h l (nameOf h x)
  self : ∀ x ∈ rest, h'.get x = h.get x
  target : ∀ x ∈ rest, ∀ t, find? h l (nameOf h x) = some t → h'.get t = h.get t

/-- an object whose name no remaining entry carries is overwritten by one of the same name -/
theorem sameView_put {rest : List ObjId} {h : Store} (l : List ObjId) {t : ObjId} {q : Par}
    (hq : q.name = nameOf h t) (hn : nameOf h t ∉ names h rest) : SameView rest h l (h.put t q) l := by
  have ne : ∀ x, nameOf h x ≠ nameOf h t → (h.put t q).get x = h.get x := fun x hx => by
    rw [get_put, if_neg (fun c : x = t => hx (c ▸ rfl))]
  refine ⟨fun x _ => by rw [nameOf_put hq]; exact find?_congr (fun i _ => nameOf_put hq i) _,
    fun x hx => ne x (fun c => hn (c ▸ List.mem_map_of_mem hx)),
    fun x hx t' ht' => ne t' (fun c => hn ?_)⟩
  rw [← c, (find?_some ht').2]; exact List.mem_map_of_mem hx

/-- a fresh object whose name no remaining entry carries is appended -/
theorem sameView_alloc {rest : List ObjId} {h : Store} {l : List ObjId} {p : Par} (v : Valid h l)
    (vr : Valid h rest) (hn : p.name ∉ names h rest) : SameView rest h l (h.alloc p).1 (l ++ [h.next]) := by
  have old : ∀ x : Nat, x < h.next → (h.alloc p).1.get x = h.get x := fun x hx => by
    rw [get_alloc, if_neg (Nat.ne_of_lt hx)]
  refine ⟨fun x hx => ?_, fun x hx => old x (vr x hx), fun x _ t ht => old t (find?_valid v ht)⟩
  have nx : nameOf (h.alloc p).1 x = nameOf h x := by rw [nameOf, old x (vr x hx)]; rfl
  rw [nx, find?_append_new (by
    rw [nameOf, get_alloc, if_pos rfl]; exact fun c => hn (c ▸ List.mem_map_of_mem hx))]
  exact find?_congr (fun i hi => by rw [nameOf, nameOf, old i (v i hi)]) _

/-- an object whose name no remaining entry carries is appended as it is -/
theorem sameView_snoc {rest : List ObjId} {h : Store} (l : List ObjId) {s : ObjId}
    (hn : nameOf h s ∉ names h rest) : SameView rest h l h (l ++ [s]) :=
  ⟨fun _ hx => find?_append_new (fun c => hn (c ▸ List.mem_map_of_mem hx)), fun _ _ => rfl, fun _ _ _ _ => rfl⟩

/-- the first entry of `src` whose name resolves to the object `i` of `l` -/
def sourceOf (h : Store) (l src : List ObjId) (i : ObjId) : Option ObjId :=
  src.find? (fun s => find? h l (nameOf h s) == some i)

theorem sourceOf_cons_self {h : Store} {l : List ObjId} {s t : ObjId} (rest : List ObjId)
    (e : find? h l (nameOf h s) = some t) : sourceOf h l (s :: rest) t = some s := by
  rw [sourceOf, List.find?_cons, e, beq_self_eq_true]

theorem sourceOf_cons_other {h : Store} {l : List ObjId} {s i : ObjId} (rest : List ObjId)
    (e : find? h l (nameOf h s) ≠ some i) : sourceOf h l (s :: rest) i = sourceOf h l rest i := by
  rw [sourceOf, List.find?_cons, beq_eq_false_iff_ne.2 e]; rfl

theorem sourceOf_eq_none {h : Store} {l src : List ObjId} {i : ObjId} :
    sourceOf h l src i = none ↔ ∀ s ∈ src, find? h l (nameOf h s) ≠ some i := by
  rw [sourceOf, List.find?_eq_none]
  exact forall_congr' (fun s => forall_congr' (fun _ => by rw [beq_iff_eq]))

theorem sourceOf_some {h : Store} {l src : List ObjId} {i s : ObjId} (e : sourceOf h l src i = some s) :
    s ∈ src ∧ find? h l (nameOf h s) = some i :=
  ⟨List.mem_of_find?_eq_some e, beq_iff_eq.1 (List.find?_some (p := fun s => find? h l (nameOf h s) == some i) e)⟩

theorem sourceOf_of_nodup {h : Store} {l src : List ObjId} (nd : (names h src).Nodup) {s t : ObjId}
    (hs : s ∈ src) (ht : find? h l (nameOf h s) = some t) : sourceOf h l src t = some s := by
  cases e : sourceOf h l src t with
  | none => exact absurd ht (sourceOf_eq_none.1 e s hs)
  | some s' =>
    obtain ⟨hs', ht'⟩ := sourceOf_some e
    rw [List.inj_on_of_nodup_map nd hs' hs ((find?_some ht').2.symm.trans (find?_some ht).2)]

namespace SameView
variable {rest : List ObjId} {h h' : Store} {l l' : List ObjId} (V : SameView rest h l h' l')
include V

theorem mono {sub : List ObjId} (hs : ∀ x ∈ sub, x ∈ rest) : SameView sub h l h' l' :=
  ⟨fun x hx => V.find x (hs x hx), fun x hx => V.self x (hs x hx), fun x hx => V.target x (hs x hx)⟩

theorem hasParameter {x : ObjId} (hx : x ∈ rest) :
    hasParameter h' l' (nameOf h' x) = hasParameter h l (nameOf h x) := by
  rw [← find?_isSome, ← find?_isSome, V.find x hx]

theorem rejColl {x : ObjId} (hx : x ∈ rest) : rejColl h' l' x = rejColl h l x := by
  unfold ParamList.rejColl
  rw [V.find x hx, V.self x hx]
  cases e : find? h l (nameOf h x) with
  | none => rfl
  | some t => dsimp only; rw [V.target x hx t e]

theorem mergePrefix : mergePrefix h' l' rest = mergePrefix h l rest :=
  takeWhile_congr' (fun _ hx => by rw [V.rejColl hx])

theorem mergeNews : mergeNews h' l' rest = mergeNews h l rest := by
  unfold ParamList.mergeNews
  rw [V.mergePrefix]
  exact List.filter_congr (fun x hx => by rw [V.hasParameter ((List.takeWhile_sublist _).subset hx)])

theorem addPrefix : addPrefix h' l' rest = addPrefix h l rest :=
  takeWhile_congr' (fun _ hx => by rw [V.hasParameter hx])

theorem knownPrefix : knownPrefix h' l' rest = knownPrefix h l rest :=
  takeWhile_congr' (fun _ hx => V.hasParameter hx)

theorem sourceOf (i : ObjId) : sourceOf h' l' rest i = sourceOf h l rest i := by
  induction rest with
  | nil => rfl
  | cons s rest ih =>
    unfold ParamList.sourceOf at ih ⊢
    rw [List.find?_cons, List.find?_cons, V.find s (List.mem_cons_self ..),
      ih (V.mono (fun x hx => List.mem_cons_of_mem _ hx))]

theorem diffPos (pos : Nat) : diffPos h' l' pos rest = diffPos h l pos rest := by
  induction rest generalizing pos with
  | nil => rfl
  | cons s rest ih =>
    have ih' := fun p => ih (V.mono (fun x hx => List.mem_cons_of_mem _ hx)) p
    rw [ParamList.diffPos, ParamList.diffPos, V.find s (List.mem_cons_self ..), V.self s (List.mem_cons_self ..)]
    cases e : find? h l (nameOf h s) with
    | none => exact ih' _
    | some t => dsimp only; rw [V.target s (List.mem_cons_self ..) t e, ih']

end SameView

/-! ### what a walk leaves in an object

`expectedSome` / `expectedPar` (source list walked, `g` = copy the value / copy the whole object) and
`expectedAll` / `expectedAllPar` (target list walked) are instances of `written g` and `writtenAll g`. -/

/-- object `i` after every entry of `src` has been written with `g` into the target of its name -/
def written (g : Par → Par → Par) (h : Store) (l src : List ObjId) (i : ObjId) : Par :=
  match sourceOf h l src i with
  | some s => g (h.get i) (h.get s)
  | none => h.get i

/-- object `i` after every entry of `l` has been written with `g` from the entry of `src` of its name -/
def writtenAll (g : Par → Par → Par) (h : Store) (l src : List ObjId) (i : ObjId) : Par :=
  if i ∈ l then
    match find? h src (nameOf h i) with
    | some j => g (h.get i) (h.get j)
    | none => h.get i
  else h.get i

theorem written_skip (g : Par → Par → Par) {h : Store} {l : List ObjId} {s : ObjId} (rest : List ObjId)
    (e : find? h l (nameOf h s) = none) (i : ObjId) : written g h l (s :: rest) i = written g h l rest i := by
  rw [written, written, sourceOf_cons_other rest (by rw [e]; nofun)]

theorem written_untargeted (g : Par → Par → Par) {h : Store} {l src : List ObjId} {i : ObjId}
    (hs : ∀ s ∈ src, find? h l (nameOf h s) ≠ some i) : written g h l src i = h.get i := by
  rw [written, sourceOf_eq_none.2 hs]

theorem written_source (g : Par → Par → Par) {h : Store} {l src : List ObjId} (nd : (names h src).Nodup)
    {s t : ObjId} (hs : s ∈ src) (ht : find? h l (nameOf h s) = some t) :
    written g h l src t = g (h.get t) (h.get s) := by
  rw [written, sourceOf_of_nodup nd hs ht]

theorem SameView.written {rest : List ObjId} {h h' : Store} {l l' : List ObjId} (V : SameView rest h l h' l')
    (g : Par → Par → Par) {i : ObjId} (hi : h'.get i = h.get i) :
    written g h' l' rest i = written g h l rest i := by
  rw [ParamList.written, ParamList.written, V.sourceOf, hi]
  cases e : ParamList.sourceOf h l rest i with
  | none => rfl
  | some s => dsimp only; rw [V.self s (sourceOf_some e).1]

/-- one step of a walk over a source list: after `s` has been written into its target `t`, the remaining
entries (no one of the name of `s`) do what they would have done before -/
theorem written_put (g : Par → Par → Par) {h : Store} {l : List ObjId} {s t : ObjId} {rest sub : List ObjId}
    (e : find? h l (nameOf h s) = some t) (hg : (g (h.get t) (h.get s)).name = nameOf h t)
    (hn : nameOf h s ∉ names h rest) (hs : ∀ x ∈ sub, x ∈ rest) (i : ObjId) :
    written g (h.put t (g (h.get t) (h.get s))) l sub i = written g h l (s :: sub) i := by
  have V := (sameView_put l hg ((find?_some e).2 ▸ hn)).mono hs
  by_cases c : i = t
  · subst c
    rw [written_untargeted, written, sourceOf_cons_self sub e, get_put, if_pos rfl]
    intro x hx
    rw [V.find x hx]
    exact fun c => hn ((find?_some e).2 ▸ (find?_some c).2 ▸ List.mem_map_of_mem (hs x hx))
  · rw [V.written g (by rw [get_put, if_neg c]), written, written,
      sourceOf_cons_other sub (by rw [e]; exact fun x => c (Option.some.inj x).symm)]

theorem writtenAll_put (g : Par → Par → Par) {h : Store} {src : List ObjId} {i j : ObjId} {rest : List ObjId}
    (e : find? h src (nameOf h i) = some j) (hg : (g (h.get i) (h.get j)).name = nameOf h i)
    (hn : nameOf h i ∉ names h rest) (x : ObjId) :
    writtenAll g (h.put i (g (h.get i) (h.get j))) rest src x = writtenAll g h (i :: rest) src x := by
  have V := sameView_put src hg hn
  have hi : i ∉ rest := fun c => hn (List.mem_map_of_mem c)
  rw [writtenAll, writtenAll]
  by_cases c : x = i
  · subst c
    rw [if_neg hi, if_pos (List.mem_cons_self ..), e, get_put, if_pos rfl]
  · rw [get_put, if_neg c]
    by_cases hx : x ∈ rest
    · rw [if_pos hx, if_pos (List.mem_cons_of_mem _ hx), V.find x hx]
      cases e' : find? h src (nameOf h x) with
      | none => rfl
      | some j' => dsimp only; rw [V.target x hx j' e']
    · rw [if_neg hx, if_neg (fun o => (List.mem_cons.1 o).elim c hx)]

theorem expectedSome_skip {h : Store} {l : List ObjId} {s : ObjId} (rest : List ObjId)
    (e : find? h l (nameOf h s) = none) (i : ObjId) :
    expectedSome h l (s :: rest) i = expectedSome h l rest i :=
  written_skip (fun t s => { t with value := s.value }) rest e i

theorem expectedSome_put {h : Store} {l : List ObjId} {s t : ObjId} {rest sub : List ObjId}
    (e : find? h l (nameOf h s) = some t) (hn : nameOf h s ∉ names h rest) (hs : ∀ x ∈ sub, x ∈ rest) (i : ObjId) :
    expectedSome (h.put t { h.get t with value := (h.get s).value }) l sub i = expectedSome h l (s :: sub) i :=
  written_put (fun t s => { t with value := s.value }) e rfl hn hs i

theorem SameView.expectedSome {rest : List ObjId} {h h' : Store} {l l' : List ObjId}
    (V : SameView rest h l h' l') {i : ObjId} (hi : h'.get i = h.get i) :
    expectedSome h' l' rest i = expectedSome h l rest i :=
  V.written (fun t s => { t with value := s.value }) hi

theorem expectedSome_untargeted {h : Store} {l src : List ObjId} {i : ObjId}
    (hs : ∀ s ∈ src, find? h l (nameOf h s) ≠ some i) : expectedSome h l src i = h.get i :=
  written_untargeted (fun t s => { t with value := s.value }) hs

theorem applySome_get (l : List ObjId) (src : List ObjId) (h : Store) (nd : (names h src).Nodup)
    (ok : (applySome h l src).err = none) :
    SameShape h (applySome h l src).heap ∧ (applySome h l src).heap.next = h.next ∧
    ∀ i, (applySome h l src).heap.get i = expectedSome h l src i := by
  induction src generalizing h with
  | nil => exact ⟨SameShape.refl h, rfl, fun _ => rfl⟩
  | cons s rest ih =>
    have nd' := List.nodup_cons.1 nd
    cases e : find? h l (nameOf h s) with
    | none =>
      simp only [applySome, e] at ok ⊢
      obtain ⟨i1, i2, i3⟩ := ih h nd'.2 ok
      exact ⟨i1, i2, fun i => (i3 i).trans (expectedSome_skip rest e i).symm⟩
    | some t =>
      simp only [applySome, e] at ok ⊢
      cases hq : (h.get t).setValue (h.get s).value with
      | error x => rw [hq] at ok; cases ok
      | ok p =>
        obtain ⟨rfl, _⟩ := setValue_ok hq
        rw [hq] at ok
        have ss := (SameShape.refl h).put_value t (h.get s).value
        obtain ⟨i1, i2, i3⟩ := ih _ (by rw [ss.names]; exact nd'.2) ok
        exact ⟨ss.trans i1, i2, fun i => (i3 i).trans (expectedSome_put e nd'.1 (fun _ hx => hx) i)⟩

theorem matchSome_pos (l : List ObjId) (src : List ObjId) (h : Store) (pos : Nat) (nd : (names h src).Nodup)
    (ok : (matchSome h l pos src).err = none) : (matchSome h l pos src).pos = diffPos h l pos src := by
  induction src generalizing h pos with
  | nil => rfl
  | cons s rest ih =>
    have nd' := List.nodup_cons.1 nd
    cases e : find? h l (nameOf h s) with
    | none => simp only [matchSome, diffPos, e] at ok ⊢; exact ih h _ nd'.2 ok
    | some t =>
      simp only [matchSome, diffPos, e] at ok ⊢
      split
      · next hd =>
        rw [if_pos hd] at ok
        cases hq : (h.get t).setValue (h.get s).value with
        | error x => rw [hq] at ok; cases ok
        | ok p =>
          obtain ⟨rfl, _⟩ := setValue_ok hq
          rw [hq] at ok
          have V : SameView rest h l (h.put t { h.get t with value := (h.get s).value }) l :=
            sameView_put l rfl ((find?_some e).2 ▸ nd'.1)
          dsimp only
          rw [ih _ _ (by rw [((SameShape.refl h).put_value t _).names]; exact nd'.2) ok, V.diffPos]
      · next hd => rw [if_neg hd] at ok; exact ih h _ nd'.2 ok

theorem setParametersValues_expected {h : Store} {l src : List ObjId} (nd : (names h src).Nodup)
    (ok : (setParametersValues h l src).err = none) :
    SameShape h (setParametersValues h l src).heap ∧ (setParametersValues h l src).heap.next = h.next ∧
    ∀ i, (setParametersValues h l src).heap.get i = expectedSome h l src i := by
  unfold setParametersValues at ok ⊢
  split
  · next c => rw [c] at ok; cases ok
  · next c => rw [c] at ok; exact applySome_get l src h nd ok

theorem matchParametersValues_expected {h : Store} {l src : List ObjId} (nd : (names h src).Nodup)
    (ok : (matchParametersValues h l src).err = none) :
    (matchParametersValues h l src).pos = diffPos h l 0 src ∧
    SameShape h (matchParametersValues h l src).heap ∧ (matchParametersValues h l src).heap.next = h.next ∧
    ∀ i, (matchParametersValues h l src).heap.get i = expectedSome h l src i := by
  unfold matchParametersValues at ok ⊢
  split
  · next c => rw [c] at ok; cases ok
  · next c =>
    rw [c] at ok
    obtain ⟨eh, ee⟩ := matchSome_eq_applySome l src h 0
    rw [eh]
    exact ⟨matchSome_pos l src h 0 nd ok, applySome_get l src h nd (ee ▸ ok)⟩

theorem values_of_expectedSome {h h' : Store} {l src : List ObjId} (nd : (names h src).Nodup)
    (he : ∀ i, h'.get i = expectedSome h l src i) :
    (∀ s ∈ src, ∀ t, find? h l (nameOf h s) = some t → (h'.get t).value = (h.get s).value) ∧
    (∀ i, (∀ s ∈ src, find? h l (nameOf h s) ≠ some i) → h'.get i = h.get i) :=
  ⟨fun s hs t ht => by
    rw [he t, show expectedSome h l src t = _ from
      written_source (fun t s => { t with value := s.value }) nd hs ht],
   fun i hi => (he i).trans (expectedSome_untargeted hi)⟩

theorem setParametersValues_full {h : Store} {l src : List ObjId} (nd : (names h src).Nodup)
    (ok : (setParametersValues h l src).err = none) :
    let r := setParametersValues h l src
    SameShape h r.heap ∧ r.heap.next = h.next ∧
    (∀ s ∈ src, ∀ t, find? h l (nameOf h s) = some t → (r.heap.get t).value = (h.get s).value) ∧
    (∀ i, (∀ s ∈ src, find? h l (nameOf h s) ≠ some i) → r.heap.get i = h.get i) :=
  have ⟨a, b, c⟩ := setParametersValues_expected nd ok
  ⟨a, b, values_of_expectedSome nd c⟩

theorem matchParametersValues_full {h : Store} {l src : List ObjId} (nd : (names h src).Nodup)
    (ok : (matchParametersValues h l src).err = none) :
    let r := matchParametersValues h l src
    r.pos = diffPos h l 0 src ∧ SameShape h r.heap ∧ r.heap.next = h.next ∧
    (∀ s ∈ src, ∀ t, find? h l (nameOf h s) = some t → (r.heap.get t).value = (h.get s).value) ∧
    (∀ i, (∀ s ∈ src, find? h l (nameOf h s) ≠ some i) → r.heap.get i = h.get i) :=
  have ⟨p, a, b, c⟩ := matchParametersValues_expected nd ok
  ⟨p, a, b, values_of_expectedSome nd c⟩

theorem applyAll_get (src : List ObjId) (rest : List ObjId) (h : Store) (nd : (names h rest).Nodup)
    (ok : (applyAll h src rest).err = none) :
    SameShape h (applyAll h src rest).heap ∧ (applyAll h src rest).heap.next = h.next ∧
    ∀ i, (applyAll h src rest).heap.get i = expectedAll h rest src i := by
  induction rest generalizing h with
  | nil => exact ⟨SameShape.refl h, rfl, fun _ => rfl⟩
  | cons i rest ih =>
    have nd' := List.nodup_cons.1 nd
    cases e : find? h src (nameOf h i) with
    | none => simp only [applyAll, e] at ok; cases ok
    | some j =>
      simp only [applyAll, e] at ok ⊢
      cases hq : (h.get i).setValue (h.get j).value with
      | error x => rw [hq] at ok; cases ok
      | ok p =>
        obtain ⟨rfl, _⟩ := setValue_ok hq
        rw [hq] at ok
        have ss := (SameShape.refl h).put_value i (h.get j).value
        obtain ⟨i1, i2, i3⟩ := ih _ (by rw [ss.names]; exact nd'.2) ok
        exact ⟨ss.trans i1, i2, fun x =>
          (i3 x).trans (writtenAll_put (fun t s => { t with value := s.value }) e rfl nd'.1 x)⟩

theorem setAllParametersValues_expected {h : Store} {l src : List ObjId} (nd : (names h l).Nodup)
    (ok : (setAllParametersValues h l src).err = none) :
    SameShape h (setAllParametersValues h l src).heap ∧ (setAllParametersValues h l src).heap.next = h.next ∧
    ∀ i, (setAllParametersValues h l src).heap.get i = expectedAll h l src i := by
  unfold setAllParametersValues at ok ⊢
  split
  · next c => rw [c] at ok; cases ok
  · next c => rw [c] at ok; exact applyAll_get src l h nd ok

theorem setAllParametersValues_full {h : Store} {l src : List ObjId} (nd : (names h l).Nodup)
    (ok : (setAllParametersValues h l src).err = none) :
    let r := setAllParametersValues h l src
    SameShape h r.heap ∧ r.heap.next = h.next ∧
    (∀ i ∈ l, ∀ j, find? h src (nameOf h i) = some j → (r.heap.get i).value = (h.get j).value) ∧
    (∀ i, i ∉ l → r.heap.get i = h.get i) := by
  obtain ⟨a, b, c⟩ := setAllParametersValues_expected nd ok
  refine ⟨a, b, fun i hi j hj => ?_, fun i hi => ?_⟩
  · rw [c i, expectedAll, if_pos hi, hj]
  · rw [c i, expectedAll, if_neg hi]

/-! ## Whole-parameter assignment

`*t = *s` for a target found by the name of `s`: no name changes, so these routines find the same
targets whatever they have already assigned, and the two that can raise process exactly `knownPrefix`. -/

theorem knownPrefix_congr {h h' : Store} (nm : ∀ x, nameOf h' x = nameOf h x) (l src : List ObjId) :
    knownPrefix h' l src = knownPrefix h l src :=
  takeWhile_congr' (fun x _ => by rw [nm x, hasParameter_congr (fun i _ => nm i)])

theorem matchParameters_names (l : List ObjId) (src : List ObjId) (h : Store) :
    (matchParameters h l src).err = none ∧ (matchParameters h l src).heap.next = h.next ∧
    ∀ x, nameOf (matchParameters h l src).heap x = nameOf h x := by
  induction src generalizing h with
  | nil => exact ⟨rfl, rfl, fun _ => rfl⟩
  | cons s rest ih =>
    rw [matchParameters]
    split
    · exact ih h
    · next t e =>
      obtain ⟨a, b, c⟩ := ih (h.put t (h.get s))
      exact ⟨a, b, fun x => (c x).trans (nameOf_put (find?_some e).2.symm x)⟩

theorem matchParameters_get (l : List ObjId) (src : List ObjId) (h : Store) (nd : (names h src).Nodup) (i : ObjId) :
    (matchParameters h l src).heap.get i = expectedPar h l src i := by
  induction src generalizing h with
  | nil => rfl
  | cons s rest ih =>
    have nd' := List.nodup_cons.1 nd
    cases e : find? h l (nameOf h s) with
    | none =>
      simp only [matchParameters, e]
      exact (ih h nd'.2).trans (written_skip (fun _ s => s) rest e i).symm
    | some t =>
      simp only [matchParameters, e]
      refine (ih _ ?_).trans (written_put (fun _ s => s) e (find?_some e).2.symm nd'.1 (fun _ hx => hx) i)
      rw [names_congr (fun x _ => nameOf_put (find?_some e).2.symm x)]; exact nd'.2

/-- `setParameters` is `matchParameters` on the entries before the first unknown name -/
theorem setParameters_eq (l : List ObjId) (src : List ObjId) (h : Store) :
    setParameters h l src =
      { heap := (matchParameters h l (knownPrefix h l src)).heap,
        err := if (knownPrefix h l src).length = src.length then none else some .notfound } := by
  induction src generalizing h with
  | nil => rfl
  | cons s rest ih =>
    rw [setParameters, knownPrefix, List.takeWhile_cons, ← find?_isSome]
    cases e : find? h l (nameOf h s) with
    | none => rfl
    | some t =>
      have nm := nameOf_put (h := h) (t := t) (q := h.get s) (find?_some e).2.symm
      simp only [Option.isSome_some, if_true, matchParameters, e, List.length_cons, Nat.add_right_cancel_iff]
      rw [ih, knownPrefix_congr nm]; rfl

theorem setParameters_pres (l : List ObjId) (src : List ObjId) (h : Store) (vs : Valid h src) :
    Pres h (setParameters h l src).heap :=
  setParameters_eq l src h ▸ matchParameters_pres l _ h (vs.sublist (List.takeWhile_sublist _))

theorem setAllParameters_shape (src : List ObjId) (l : List ObjId) (h : Store) :
    (setAllParameters h src l).err =
      (if (knownPrefix h src l).length = l.length then none else some .notfound) ∧
    (setAllParameters h src l).heap.next = h.next ∧
    ∀ x, nameOf (setAllParameters h src l).heap x = nameOf h x := by
  induction l generalizing h with
  | nil => exact ⟨rfl, rfl, fun _ => rfl⟩
  | cons a rest ih =>
    rw [setAllParameters, knownPrefix, List.takeWhile_cons, ← find?_isSome]
    cases e : find? h src (nameOf h a) with
    | none => exact ⟨rfl, rfl, fun _ => rfl⟩
    | some j =>
      have nm := nameOf_put (h := h) (t := a) (q := h.get j) (find?_some e).2
      obtain ⟨i1, i2, i3⟩ := ih (h.put a (h.get j))
      rw [knownPrefix_congr nm] at i1
      simp only [Option.isSome_some, if_true, List.length_cons, Nat.add_right_cancel_iff]
      exact ⟨i1, i2, fun x => (i3 x).trans (nm x)⟩

theorem setAllParameters_get (src : List ObjId) (l : List ObjId) (h : Store) (nd : (names h l).Nodup) (x : ObjId) :
    (setAllParameters h src l).heap.get x = expectedAllPar h (knownPrefix h src l) src x := by
  induction l generalizing h with
  | nil => rfl
  | cons a rest ih =>
    have nd' := List.nodup_cons.1 nd
    rw [setAllParameters, knownPrefix, List.takeWhile_cons, ← find?_isSome]
    cases e : find? h src (nameOf h a) with
    | none => rfl
    | some j =>
      have nm := nameOf_put (h := h) (t := a) (q := h.get j) (find?_some e).2
      simp only [Option.isSome_some, if_true]
      rw [ih _ (by rw [names_congr (fun x _ => nm x)]; exact nd'.2)]
      exact (congrArg (expectedAllPar _ · src x) (knownPrefix_congr nm src rest)).trans
        (writtenAll_put (fun _ s => s) e (find?_some e).2
          (fun c => nd'.1 ((names_sublist (List.takeWhile_sublist _)).subset c)) x)

/-! ## Merging a source list into a list: `includeParameters`, `shareParameters`, `addParameters`

Source names pairwise different.  A colliding entry is a value update of the entry of its name, refused
exactly when `rejColl`; the routines stop at the first refusal, so they process `mergePrefix`
(`addParameters`: `addPrefix`), and what they append are the entries of `mergeNews`. -/

theorem rejColl_iff {h : Store} {l : List ObjId} {s t : ObjId} (e : find? h l (nameOf h s) = some t) :
    rejColl h l s = true ↔ (h.get t).rejects (h.get s).value = true ∧ (h.get s).value ≠ (h.get t).value := by
  rw [rejColl, e]; simp only [Bool.and_eq_true, decide_eq_true_eq]

theorem setParameterValue_some {h : Store} {l : List ObjId} {n : String} (v : Rat) {t : ObjId}
    (e : find? h l n = some t) :
    setParameterValue h l n v =
      if (h.get t).rejects v = true ∧ v ≠ (h.get t).value then { heap := h, err := some .constraint }
      else { heap := h.put t { h.get t with value := v } } := by
  rw [setParameterValue, e]; dsimp only
  rw [setValue_eq]
  by_cases c : (h.get t).rejects v = true ∧ v ≠ (h.get t).value
  · rw [if_pos c, if_pos c]
  · rw [if_neg c, if_neg c]

theorem setParameterValue_collide {h : Store} {l : List ObjId} {s t : ObjId} (e : find? h l (nameOf h s) = some t) :
    setParameterValue h l (nameOf h s) (h.get s).value =
      if rejColl h l s = true then { heap := h, err := some .constraint }
      else { heap := h.put t { h.get t with value := (h.get s).value } } := by
  rw [setParameterValue_some _ e]
  by_cases hr : rejColl h l s = true
  · rw [if_pos hr, if_pos ((rejColl_iff e).1 hr)]
  · rw [if_neg hr, if_neg (fun c => hr ((rejColl_iff e).2 c))]

theorem mergePrefix_cons {h : Store} {l : List ObjId} {s : ObjId} (rest : List ObjId) (hr : rejColl h l s = false) :
    mergePrefix h l (s :: rest) = s :: mergePrefix h l rest := by
  rw [mergePrefix, List.takeWhile_cons, hr]; rfl

theorem mergePrefix_cons_refused {h : Store} {l : List ObjId} {s : ObjId} (rest : List ObjId)
    (hr : rejColl h l s = true) : mergePrefix h l (s :: rest) = [] := by
  rw [mergePrefix, List.takeWhile_cons, hr]; rfl

theorem mergeNews_cons {h : Store} {l : List ObjId} {s : ObjId} (rest : List ObjId) (hr : rejColl h l s = false) :
    mergeNews h l (s :: rest) =
      if hasParameter h l (nameOf h s) = true then mergeNews h l rest else s :: mergeNews h l rest := by
  rw [mergeNews, mergePrefix_cons rest hr, List.filter_cons]
  cases hasParameter h l (nameOf h s) <;> rfl

theorem valid_snoc_alloc {h : Store} {l : List ObjId} (v : Valid h l) (p : Par) :
    Valid (h.alloc p).1 (l ++ [h.next]) := by
  intro i hi
  rcases List.mem_append.1 hi with hi | hi
  · exact Nat.lt_succ_of_lt (v i hi)
  · rw [List.mem_singleton.1 hi]; exact Nat.lt_succ_self _

theorem includeParameters_spec (src : List ObjId) (h : Store) (l : List ObjId)
    (v : Valid h l) (vs : Valid h src) (nds : (names h src).Nodup) :
    (includeParameters h l src).err =
      (if (mergePrefix h l src).length = src.length then none else some .constraint) ∧
    (includeParameters h l src).list = l ++ List.range' h.next (mergeNews h l src).length ∧
    (includeParameters h l src).heap.next = h.next + (mergeNews h l src).length ∧
    (List.range' h.next (mergeNews h l src).length).map (includeParameters h l src).heap.get
      = (mergeNews h l src).map h.get ∧
    (∀ i : Nat, i < h.next → (includeParameters h l src).heap.get i = expectedSome h l (mergePrefix h l src) i) := by
  induction src generalizing h l with
  | nil => exact ⟨rfl, (List.append_nil l).symm, rfl, rfl, fun _ _ => rfl⟩
  | cons s rest ih =>
    have nd' := List.nodup_cons.1 nds
    have vr : Valid h rest := fun j hj => vs j (List.mem_cons_of_mem _ hj)
    have sub : ∀ x ∈ mergePrefix h l rest, x ∈ rest := fun x hx => (List.takeWhile_sublist _).subset hx
    have subn : ∀ x ∈ mergeNews h l rest, x ∈ rest := fun x hx => sub x (List.filter_sublist.subset hx)
    rw [includeParameters, ← find?_isSome]
    cases e : find? h l (nameOf h s) with
    | none =>
      -- a new name: a clone is appended
      have hr : rejColl h l s = false := by rw [rejColl, e]
      have V : SameView rest h l (h.alloc (h.get s)).1 (l ++ [h.next]) := sameView_alloc v vr nd'.1
      have pr := pres_clone h (vs s (List.mem_cons_self ..))
      obtain ⟨i1, i2, i3, i4, i5⟩ := ih (h.alloc (h.get s)).1 (l ++ [h.next]) (valid_snoc_alloc v _) (vr.mono pr)
        (by rw [pr.names vr]; exact nd'.2)
      simp only [V.mergePrefix, V.mergeNews, next_alloc] at i1 i2 i3 i4 i5
      have hfresh : (includeParameters (h.alloc (h.get s)).1 (l ++ [h.next]) rest).heap.get h.next = h.get s := by
        rw [i5 h.next (Nat.lt_succ_self _), expectedSome_untargeted, get_alloc, if_pos rfl]
        intro x hx c
        rw [V.find x (sub x hx)] at c
        exact Nat.lt_irrefl _ (find?_valid v c)
      rw [mergePrefix_cons rest hr, mergeNews_cons rest hr, ← find?_isSome, e]
      simp only [Option.isSome_none, Bool.false_eq_true, if_false, alloc_snd, List.length_cons,
        Nat.add_right_cancel_iff, List.range'_succ, List.map_cons]
      refine ⟨i1, by rw [i2, List.append_assoc]; rfl, by rw [i3, Nat.add_assoc, Nat.add_comm 1], ?_, fun i hi => ?_⟩
      · rw [hfresh, i4, List.map_congr_left (fun x hx => V.self x (subn x hx))]
      · rw [i5 i (Nat.lt_succ_of_lt hi), (V.mono sub).expectedSome (by rw [get_alloc, if_neg (Nat.ne_of_lt hi)]),
          expectedSome_skip _ e]
    | some t =>
      have hc : hasParameter h l (nameOf h s) = true := by rw [← find?_isSome, e]; rfl
      simp only [Option.isSome_some, if_true]
      rw [setParameterValue_collide e]
      by_cases hr : rejColl h l s = true
      · -- refused: stop here
        rw [if_pos hr, mergePrefix_cons_refused rest hr, mergeNews, mergePrefix_cons_refused rest hr]
        exact ⟨rfl, (List.append_nil l).symm, rfl, rfl, fun _ _ => rfl⟩
      · have hr' : rejColl h l s = false := Bool.eq_false_iff.2 hr
        have V : SameView rest h l (h.put t { h.get t with value := (h.get s).value }) l :=
          sameView_put l rfl ((find?_some e).2 ▸ nd'.1)
        obtain ⟨i1, i2, i3, i4, i5⟩ := ih (h.put t { h.get t with value := (h.get s).value }) l v vr
          (by rw [((SameShape.refl h).put_value t _).names]; exact nd'.2)
        simp only [V.mergePrefix, V.mergeNews, next_put] at i1 i2 i3 i4 i5
        rw [if_neg hr, mergePrefix_cons rest hr', mergeNews_cons rest hr', if_pos hc]
        simp only [List.length_cons, Nat.add_right_cancel_iff]
        refine ⟨i1, i2, i3, ?_, fun i hi => ?_⟩
        · rw [i4, List.map_congr_left (fun x hx => V.self x (subn x hx))]
        · rw [i5 i hi, expectedSome_put e nd'.1 sub]

theorem shareParameters_full_spec (src : List ObjId) (h : Store) (l : List ObjId) (nds : (names h src).Nodup) :
    (shareParameters h l src).err =
      (if (mergePrefix h l src).length = src.length then none else some .constraint) ∧
    (shareParameters h l src).list = l ++ mergeNews h l src ∧ (shareParameters h l src).heap.next = h.next ∧
    (∀ i, (shareParameters h l src).heap.get i = expectedSome h l (mergePrefix h l src) i) := by
  induction src generalizing h l with
  | nil => exact ⟨rfl, (List.append_nil l).symm, rfl, fun _ => rfl⟩
  | cons s rest ih =>
    have nd' := List.nodup_cons.1 nds
    have sub : ∀ x ∈ mergePrefix h l rest, x ∈ rest := fun x hx => (List.takeWhile_sublist _).subset hx
    rw [shareParameters, shareParameter, ← find?_isSome]
    cases e : find? h l (nameOf h s) with
    | none =>
      -- a new name: the object itself is appended
      have hr : rejColl h l s = false := by rw [rejColl, e]
      have V : SameView rest h l h (l ++ [s]) := sameView_snoc l nd'.1
      obtain ⟨i1, i2, i3, i5⟩ := ih h (l ++ [s]) nd'.2
      simp only [V.mergePrefix, V.mergeNews] at i1 i2 i5
      rw [mergePrefix_cons rest hr, mergeNews_cons rest hr, ← find?_isSome, e]
      simp only [Option.isSome_none, Bool.false_eq_true, if_false, List.length_cons, Nat.add_right_cancel_iff]
      refine ⟨i1, by rw [i2, List.append_assoc]; rfl, i3, fun i => ?_⟩
      rw [i5 i, (V.mono sub).expectedSome rfl, expectedSome_skip _ e]
    | some t =>
      have hc : hasParameter h l (nameOf h s) = true := by rw [← find?_isSome, e]; rfl
      simp only [Option.isSome_some, if_true]
      rw [setParameterValue_collide e]
      by_cases hr : rejColl h l s = true
      · rw [if_pos hr, mergePrefix_cons_refused rest hr, mergeNews, mergePrefix_cons_refused rest hr]
        exact ⟨rfl, (List.append_nil l).symm, rfl, fun _ => rfl⟩
      · have hr' : rejColl h l s = false := Bool.eq_false_iff.2 hr
        have V : SameView rest h l (h.put t { h.get t with value := (h.get s).value }) l :=
          sameView_put l rfl ((find?_some e).2 ▸ nd'.1)
        obtain ⟨i1, i2, i3, i5⟩ := ih (h.put t { h.get t with value := (h.get s).value }) l
          (by rw [((SameShape.refl h).put_value t _).names]; exact nd'.2)
        simp only [V.mergePrefix, V.mergeNews, next_put] at i1 i2 i3 i5
        rw [if_neg hr, mergePrefix_cons rest hr', mergeNews_cons rest hr', if_pos hc]
        simp only [List.length_cons, Nat.add_right_cancel_iff]
        exact ⟨i1, i2, i3, fun i => by rw [i5 i, expectedSome_put e nd'.1 sub]⟩

theorem addParameter_new {h : Store} {l : List ObjId} {p : Par} (hc : hasParameter h l p.name = false) :
    addParameter h l p = { heap := (h.alloc p).1, list := l ++ [h.next] } := by
  rw [addParameter, if_neg (by rw [hc]; nofun)]; rfl

theorem addParameter_dup {h : Store} {l : List ObjId} {p : Par} (hc : hasParameter h l p.name = true) :
    addParameter h l p = { heap := h, list := l, err := some .bpp } := by
  rw [addParameter, if_pos hc]

theorem addPrefix_cons (h : Store) (l : List ObjId) (s : ObjId) (rest : List ObjId) :
    addPrefix h l (s :: rest) =
      if (!hasParameter h l (nameOf h s)) = true then s :: addPrefix h l rest else [] := List.takeWhile_cons

/-- `addParameters` appends a block of clones of the entries before the first name already present -/
theorem addParameters_eq (src : List ObjId) (h : Store) (l : List ObjId) (v : Valid h l) (vs : Valid h src)
    (nds : (names h src).Nodup) :
    addParameters h l src =
      { heap := allocAll h ((addPrefix h l src).map h.get),
        list := l ++ List.range' h.next (addPrefix h l src).length,
        err := if (addPrefix h l src).length = src.length then none else some .bpp } := by
  induction src generalizing h l with
  | nil => rw [addParameters, addPrefix]; simp only [List.takeWhile_nil, List.map_nil, List.length_nil,
      List.range'_zero, List.append_nil, if_true]; rfl
  | cons s rest ih =>
    have nd' := List.nodup_cons.1 nds
    have vr : Valid h rest := fun j hj => vs j (List.mem_cons_of_mem _ hj)
    rw [addParameters, addPrefix_cons]
    cases hc : hasParameter h l (nameOf h s) with
    | true => rw [addParameter_dup (p := h.get s) hc]; simp [allocAll]
    | false =>
      have V : SameView rest h l (h.alloc (h.get s)).1 (l ++ [h.next]) := sameView_alloc v vr nd'.1
      have pr := pres_clone h (vs s (List.mem_cons_self ..))
      rw [addParameter_new (p := h.get s) hc]; dsimp only
      rw [ih _ _ (valid_snoc_alloc v _) (vr.mono pr) (by rw [pr.names vr]; exact nd'.2), V.addPrefix, next_alloc,
        List.map_congr_left (l := addPrefix h l rest) (fun x hx => V.self x ((List.takeWhile_sublist _).subset hx))]
      simp only [Bool.not_false, if_true, List.length_cons, Nat.add_right_cancel_iff, List.range'_succ,
        List.map_cons, allocAll, List.append_assoc, List.singleton_append]

theorem addParameters_full_spec (src : List ObjId) (h : Store) (l : List ObjId)
    (v : Valid h l) (vs : Valid h src) (nds : (names h src).Nodup) :
    (addParameters h l src).err = (if (addPrefix h l src).length = src.length then none else some .bpp) ∧
    (addParameters h l src).list = l ++ List.range' h.next (addPrefix h l src).length ∧
    (addParameters h l src).heap.next = h.next + (addPrefix h l src).length ∧
    (List.range' h.next (addPrefix h l src).length).map (addParameters h l src).heap.get
      = (addPrefix h l src).map h.get ∧
    (∀ i : Nat, i < h.next → (addParameters h l src).heap.get i = h.get i) := by
  obtain ⟨_, _, _, _, b5, b6⟩ := block_spec h ((addPrefix h l src).map h.get) (fun hk p hp => by
    obtain ⟨i, hi, rfl⟩ := List.mem_map.1 hp; exact hk i (vs i ((List.takeWhile_sublist _).subset hi)))
  rw [List.length_map] at b5
  rw [addParameters_eq src h l v vs nds]
  exact ⟨rfl, rfl, by rw [next_allocAll, List.length_map], b5, b6⟩

theorem addParameters_nil (sel : List ObjId) (h : Store) (vs : Valid h sel) (nd : (names h sel).Nodup) :
    addParameters h [] sel =
      { heap := allocAll h (sel.map h.get), list := List.range' h.next sel.length } := by
  have e : addPrefix h [] sel = sel := takeWhile_eq_self_of_all (List.all_eq_true.2 (fun _ _ => rfl))
  rw [addParameters_eq sel h [] (Valid.nil h) vs nd, e, if_pos rfl, List.nil_append]

theorem addParameters_nil_spec (sel : List ObjId) (h : Store) (vs : Valid h sel) (nd : (names h sel).Nodup) :
    (addParameters h [] sel).err = none ∧ (addParameters h [] sel).list = List.range' h.next sel.length ∧
    (addParameters h [] sel).list.map (addParameters h [] sel).heap.get = sel.map h.get ∧
    (∀ i : Nat, i < h.next → (addParameters h [] sel).heap.get i = h.get i) := by
  have b := (allocAll_block h (sel.map h.get)).2.2
  rw [List.length_map] at b
  rw [addParameters_nil sel h vs nd]
  exact ⟨rfl, rfl, b, fun _ hi => get_allocAll_old hi⟩

theorem testSome_eq (h : Store) (l : List ObjId) (src : List ObjId) (pos : Nat) :
    testSome h l src = !(diffPos h l pos src).isEmpty := by
  induction src generalizing pos with
  | nil => rfl
  | cons s rest ih =>
    cases e : find? h l (nameOf h s) with
    | none => simp only [testSome, diffPos, e]; exact ih _
    | some t =>
      simp only [testSome, diffPos, e]
      split
      · next hd => simp [hd]
      · next hd =>
        simp only [ne_eq, Decidable.not_not] at hd
        simp [hd, ih (pos + 1)]

/-- the target of the name of `s` holds another value than `s` -/
def differs (h : Store) (l : List ObjId) (s : ObjId) : Bool :=
  match find? h l (nameOf h s) with
  | some t => decide ((h.get t).value ≠ (h.get s).value)
  | none => false

theorem differs_iff {h : Store} {l : List ObjId} {s : ObjId} :
    differs h l s = true ↔ ∃ t, find? h l (nameOf h s) = some t ∧ (h.get t).value ≠ (h.get s).value := by
  rw [differs]
  cases find? h l (nameOf h s) with
  | none => exact ⟨nofun, nofun⟩
  | some t => exact ⟨fun c => ⟨t, rfl, of_decide_eq_true c⟩, fun ⟨_, e, c⟩ => decide_eq_true (Option.some.inj e ▸ c)⟩

/-- `diffPos` numbers the source entries from `pos` and keeps the numbers of those that differ -/
theorem diffPos_eq (h : Store) (l : List ObjId) (src : List ObjId) (pos : Nat) :
    diffPos h l pos src = ((src.zipIdx pos).filter (fun x => differs h l x.1)).map Prod.snd := by
  induction src generalizing pos with
  | nil => rfl
  | cons s rest ih =>
    have e := ih (pos + 1)
    rw [diffPos, List.zipIdx_cons, List.filter_cons, differs]
    cases find? h l (nameOf h s) with
    | none => exact e
    | some t =>
      dsimp only
      by_cases c : (h.get t).value ≠ (h.get s).value
      · rw [if_pos c, if_pos (decide_eq_true c), List.map_cons, e]
      · rw [if_neg c, if_neg (by rw [decide_eq_false c]; nofun), e]

theorem mem_diffPos (h : Store) (l : List ObjId) (src : List ObjId) (pos p : Nat) :
    p ∈ diffPos h l pos src ↔
      pos ≤ p ∧ ∃ s t, src[p - pos]? = some s ∧ find? h l (nameOf h s) = some t ∧
        (h.get t).value ≠ (h.get s).value := by
  rw [diffPos_eq, List.mem_map]
  constructor
  · rintro ⟨⟨s, q⟩, hm, rfl⟩
    obtain ⟨hz, hd⟩ := List.mem_filter.1 hm
    obtain ⟨hp, hs⟩ := List.mk_mem_zipIdx_iff_le_and_getElem?_sub.1 hz
    obtain ⟨t, e, c⟩ := differs_iff.1 hd
    exact ⟨hp, s, t, hs, e, c⟩
  · rintro ⟨hp, s, t, hs, e, c⟩
    exact ⟨(s, p), List.mem_filter.2 ⟨List.mk_mem_zipIdx_iff_le_and_getElem?_sub.2 ⟨hp, hs⟩,
      differs_iff.2 ⟨t, e, c⟩⟩, rfl⟩

theorem diffPos_sorted (h : Store) (l : List ObjId) (src : List ObjId) (pos : Nat) :
    (diffPos h l pos src).Pairwise (· < ·) := by
  rw [diffPos_eq]
  exact List.Pairwise.sublist (List.zipIdx_map_snd pos src ▸ List.filter_sublist.map Prod.snd)
    (List.pairwise_lt_range' ..)

theorem filter_differs_eq (h : Store) (l src : List ObjId) :
    src.filter (differs h l) = ((src.zipIdx 0).filter (fun x => differs h l x.1)).map Prod.fst := by
  show _ = List.map Prod.fst (List.filter (differs h l ∘ Prod.fst) _)
  rw [← List.filter_map, List.zipIdx_map_fst]

/-- the source entries at the reported positions are the entries that differ: both lists are the numbered source
filtered by `differs`, one keeps the numbers, the other the entries -/
theorem diffPos_sel (h : Store) (l src : List ObjId) :
    (diffPos h l 0 src).filterMap (src[·]?) = src.filter (differs h l) := by
  have e : ∀ x ∈ (src.zipIdx 0).filter (fun x => differs h l x.1),
      ((fun p : Nat => src[p]?) ∘ Prod.snd) x = some x.1 := fun x hx =>
    List.mk_mem_zipIdx_iff_getElem?.1 (List.mem_filter.1 hx).1
  rw [diffPos_eq, List.filterMap_map, List.filterMap_congr e, List.filterMap_eq_map', filter_differs_eq]

theorem diffPos_nil_iff (h : Store) (l src : List ObjId) :
    diffPos h l 0 src = [] ↔ src.filter (differs h l) = [] := by
  rw [diffPos_eq, filter_differs_eq, List.map_eq_nil_iff, List.map_eq_nil_iff]

theorem mem_filter_differs {h : Store} {l src : List ObjId} {s : ObjId} :
    s ∈ src.filter (differs h l) ↔
      s ∈ src ∧ ∃ t, find? h l (nameOf h s) = some t ∧ (h.get t).value ≠ (h.get s).value := by
  rw [List.mem_filter, differs_iff]

/-! ## Sub-lists are `addParameters` / `shareParameters` of the selected objects -/

theorem filterMap_find?_congr {h h' : Store} {l : List ObjId} (e : ∀ i ∈ l, nameOf h' i = nameOf h i)
    (ns : List String) : ns.filterMap (find? h' l) = ns.filterMap (find? h l) := by
  congr 1; funext n; exact find?_congr e n

theorem createSubListNames_eq (l : List ObjId) (ns : List String) (h : Store) (acc : List ObjId)
    (v : Valid h l) (va : Valid h acc) (all : ∀ n ∈ ns, find? h l n ≠ none) :
    createSubListNames h l acc ns = addParameters h acc (ns.filterMap (find? h l)) := by
  induction ns generalizing h acc with
  | nil => rfl
  | cons n rest ih =>
    cases e : find? h l n with
    | none => exact absurd e (all n (List.mem_cons_self ..))
    | some i =>
      simp only [createSubListNames, e, List.filterMap_cons, addParameters]
      have g := addParameter_good (h := h) (l := acc) (h.get i) va (fun hk => hk i (find?_valid v e))
      split
      · rfl
      · have nm : ∀ x ∈ l, nameOf (addParameter h acc (h.get i)).heap x = nameOf h x :=
          fun x hx => g.pres.name_eq x (v x hx)
        rw [ih _ _ (v.mono g.pres) g.valid (fun n' hn' => by
          rw [find?_congr nm]; exact all n' (List.mem_cons_of_mem _ hn')), filterMap_find?_congr nm]

theorem shareSubListNames_eq (l : List ObjId) (ns : List String) (h : Store) (acc : List ObjId)
    (v : Valid h l) (va : Valid h acc) (all : ∀ n ∈ ns, find? h l n ≠ none) :
    shareSubListNames h l acc ns = shareParameters h acc (ns.filterMap (find? h l)) := by
  induction ns generalizing h acc with
  | nil => rfl
  | cons n rest ih =>
    cases e : find? h l n with
    | none => exact absurd e (all n (List.mem_cons_self ..))
    | some i =>
      simp only [shareSubListNames, e, List.filterMap_cons, shareParameters]
      have g := shareParameter_good (h := h) (l := acc) va (find?_valid v e)
      split
      · rfl
      · have nm : ∀ x ∈ l, nameOf (shareParameter h acc i).heap x = nameOf h x :=
          fun x hx => g.pres.name_eq x (v x hx)
        rw [ih _ _ (v.mono g.pres) g.valid (fun n' hn' => by
          rw [find?_congr nm]; exact all n' (List.mem_cons_of_mem _ hn')), filterMap_find?_congr nm]

theorem createSubListNames_found (l : List ObjId) (ns : List String) (h : Store) (acc : List ObjId)
    (v : Valid h l) (va : Valid h acc) (ok : (createSubListNames h l acc ns).err = none) :
    ∀ n ∈ ns, find? h l n ≠ none := by
  induction ns generalizing h acc with
  | nil => intro n hn; cases hn
  | cons n rest ih =>
    cases e : find? h l n with
    | none => simp [createSubListNames, e] at ok
    | some i =>
      simp only [createSubListNames, e] at ok
      have g := addParameter_good (h := h) (l := acc) (h.get i) va (fun hk => hk i (find?_valid v e))
      split at ok
      · cases ok
      · intro n' hn'
        rcases List.mem_cons.1 hn' with rfl | hn'
        · simp [e]
        · have nm : ∀ x ∈ l, nameOf (addParameter h acc (h.get i)).heap x = nameOf h x :=
            fun x hx => g.pres.name_eq x (v x hx)
          have := ih _ _ (v.mono g.pres) g.valid ok n' hn'
          rwa [find?_congr nm] at this

theorem shareSubListNames_found (l : List ObjId) (ns : List String) (h : Store) (acc : List ObjId)
    (v : Valid h l) (va : Valid h acc) (ok : (shareSubListNames h l acc ns).err = none) :
    ∀ n ∈ ns, find? h l n ≠ none := by
  induction ns generalizing h acc with
  | nil => intro n hn; cases hn
  | cons n rest ih =>
    cases e : find? h l n with
    | none => simp [shareSubListNames, e] at ok
    | some i =>
      simp only [shareSubListNames, e] at ok
      have g := shareParameter_good (h := h) (l := acc) va (find?_valid v e)
      split at ok
      · cases ok
      · intro n' hn'
        rcases List.mem_cons.1 hn' with rfl | hn'
        · simp [e]
        · have nm : ∀ x ∈ l, nameOf (shareParameter h acc i).heap x = nameOf h x :=
            fun x hx => g.pres.name_eq x (v x hx)
          have := ih _ _ (v.mono g.pres) g.valid ok n' hn'
          rwa [find?_congr nm] at this

/-- no collision: the very same objects are appended, the heap is untouched -/
theorem shareParameters_spec (src : List ObjId) (h : Store) (l : List ObjId)
    (nd : (names h (l ++ src)).Nodup) :
    shareParameters h l src = { heap := h, list := l ++ src } := by
  induction src generalizing l with
  | nil => simp [shareParameters]
  | cons i rest ih =>
    have hn : hasParameter h l (nameOf h i) = false := by
      rw [hasParameter_false_iff]
      rw [names_append] at nd
      have := (List.nodup_append.1 nd).2.2
      intro c
      exact this _ c _ (by simp [names]) rfl
    simp only [shareParameters, shareParameter, hn, Bool.false_eq_true, if_false]
    rw [ih (l ++ [i]) (by simpa using nd)]
    simp

theorem nodup_sel_idx {h : Store} {l : List ObjId} (nd : (names h l).Nodup) {idx : List Nat}
    (hidx : idx.Nodup) : (names h (idx.filterMap (l[·]?))).Nodup := by
  have hl : l.Nodup := List.Nodup.of_map _ nd
  have h1 : (idx.filterMap (l[·]?)).Nodup := by
    apply List.Nodup.filterMap _ hidx
    intro a a' b hb hb'
    have hb : l[a]? = some b := hb
    have hb' : l[a']? = some b := hb'
    exact (List.getElem?_inj (List.getElem?_eq_some_iff.1 hb).1 hl).1 (hb.trans hb'.symm)
  exact List.Nodup.map_on (fun x hx y hy e => by
    obtain ⟨a, _, ha⟩ := List.mem_filterMap.1 hx
    obtain ⟨b, _, hb⟩ := List.mem_filterMap.1 hy
    exact (List.inj_on_of_nodup_map nd (List.mem_of_getElem? ha) (List.mem_of_getElem? hb) e)) h1

theorem names_filterMap_find? {h : Store} {l : List ObjId} {ns : List String}
    (all : ∀ n ∈ ns, find? h l n ≠ none) : names h (ns.filterMap (find? h l)) = ns := by
  induction ns with
  | nil => rfl
  | cons n rest ih =>
    cases e : find? h l n with
    | none => exact absurd e (all n (List.mem_cons_self ..))
    | some i =>
      rw [List.filterMap_cons, e]
      exact congrArg₂ List.cons (find?_some e).2 (ih (fun n' hn' => all n' (List.mem_cons_of_mem _ hn')))

theorem valid_filterMap_find? {h : Store} {l : List ObjId} (v : Valid h l) (ns : List String) :
    Valid h (ns.filterMap (find? h l)) := by
  intro i hi
  obtain ⟨n, _, hn⟩ := List.mem_filterMap.1 hi
  exact find?_valid v hn

theorem setParameterValue_spec (h : Store) (l : List ObjId) (n : String) (v : Rat) :
    let r := setParameterValue h l n v
    match find? h l n with
    | none => r.err = some .notfound ∧ r.heap = h
    | some t =>
      if (h.get t).rejects v = true ∧ v ≠ (h.get t).value then r.err = some .constraint ∧ r.heap = h
      else r.err = none ∧ (r.heap.get t) = { h.get t with value := v } ∧ ∀ i, i ≠ t → r.heap.get i = h.get i := by
  cases e : find? h l n with
  | none => rw [setParameterValue, e]; exact ⟨rfl, rfl⟩
  | some t =>
    rw [setParameterValue_some v e]; dsimp only
    split
    · exact ⟨rfl, rfl⟩
    · exact ⟨rfl, by rw [get_put, if_pos rfl], fun i hi => by rw [get_put, if_neg hi]⟩

/-! ## All or nothing

A refused single operation changes nothing; a two-pass setter succeeds exactly when its first pass
accepts every value (no hypothesis on names or sharing), and otherwise changes nothing. -/

theorem addParameter_err {h : Store} {l : List ObjId} {p : Par} (e : (addParameter h l p).err ≠ none) :
    (addParameter h l p).heap = h ∧ (addParameter h l p).list = l := by
  cases hc : hasParameter h l p.name with
  | true => rw [addParameter_dup hc]; exact ⟨rfl, rfl⟩
  | false => rw [addParameter_new hc] at e; exact absurd rfl e

theorem setParameterValue_err {h : Store} {l : List ObjId} {n : String} {v : Rat}
    (e : (setParameterValue h l n v).err ≠ none) : (setParameterValue h l n v).heap = h := by
  cases hf : find? h l n with
  | none => rw [setParameterValue, hf]
  | some t =>
    rw [setParameterValue_some v hf] at e ⊢
    split
    · rfl
    · next c => rw [if_neg c] at e; exact absurd rfl e

theorem shareParameter_err {h : Store} {l : List ObjId} {i : ObjId} (e : (shareParameter h l i).err ≠ none) :
    (shareParameter h l i).heap = h ∧ (shareParameter h l i).list = l := by
  unfold shareParameter at e ⊢
  split
  · next hn => rw [if_pos hn] at e; exact ⟨setParameterValue_err e, rfl⟩
  · next hn => rw [if_neg hn] at e; exact absurd rfl e

theorem setParameter_err {h : Store} {l : List ObjId} {k : Nat} {p : Par} (e : (setParameter h l k p).err ≠ none) :
    (setParameter h l k p).heap = h ∧ (setParameter h l k p).list = l := by
  unfold setParameter at e ⊢
  split
  · exact ⟨rfl, rfl⟩
  · next h1 =>
    split
    · exact ⟨rfl, rfl⟩
    · next h2 => rw [if_neg h1, if_neg h2] at e; exact absurd rfl e

theorem setParametersValues_atomic (h : Store) (l src : List ObjId) :
    ((setParametersValues h l src).err = none ↔
      ∀ s ∈ src, ∀ t, find? h l (nameOf h s) = some t → (h.get t).rejects (h.get s).value = false) ∧
    (∀ e, (setParametersValues h l src).err = some e → e = .constraint ∧ (setParametersValues h l src).heap = h) := by
  unfold setParametersValues
  cases c : checkSome h l src with
  | none =>
    have ne := applySome_noerr h l src h (SameShape.refl h) (fun _ => Or.inl rfl) (checkSome_none.1 c)
    exact ⟨⟨fun _ => checkSome_none.1 c, fun _ => ne⟩, fun e he => by rw [ne] at he; cases he⟩
  | some e =>
    exact ⟨⟨fun x => (nomatch x), fun x => by rw [checkSome_none.2 x] at c; cases c⟩,
      fun e' he => by cases he; exact ⟨checkSome_some c, rfl⟩⟩

theorem matchParametersValues_atomic (h : Store) (l src : List ObjId) :
    ((matchParametersValues h l src).err = none ↔
      ∀ s ∈ src, ∀ t, find? h l (nameOf h s) = some t → (h.get t).rejects (h.get s).value = false) ∧
    (∀ e, (matchParametersValues h l src).err = some e →
      e = .constraint ∧ (matchParametersValues h l src).heap = h ∧ (matchParametersValues h l src).pos = []) := by
  unfold matchParametersValues
  cases c : checkSome h l src with
  | none =>
    have ne := (matchSome_eq_applySome l src h 0).2.trans
      (applySome_noerr h l src h (SameShape.refl h) (fun _ => Or.inl rfl) (checkSome_none.1 c))
    exact ⟨⟨fun _ => checkSome_none.1 c, fun _ => ne⟩, fun e he => by rw [ne] at he; cases he⟩
  | some e =>
    exact ⟨⟨fun x => (nomatch x), fun x => by rw [checkSome_none.2 x] at c; cases c⟩,
      fun e' he => by cases he; exact ⟨checkSome_some c, rfl, rfl⟩⟩

theorem setAllParametersValues_atomic (h : Store) (l src : List ObjId) :
    ((setAllParametersValues h l src).err = none ↔
      ∀ i ∈ l, ∃ j, find? h src (nameOf h i) = some j ∧ (h.get i).rejects (h.get j).value = false) ∧
    (∀ e, (setAllParametersValues h l src).err = some e →
      (e = .notfound ∨ e = .constraint) ∧ (setAllParametersValues h l src).heap = h) := by
  unfold setAllParametersValues
  cases c : checkAll h src l with
  | none =>
    have ne := applyAll_noerr h src l h (SameShape.refl h) (fun _ _ => rfl) (checkAll_none.1 c)
    exact ⟨⟨fun _ => checkAll_none.1 c, fun _ => ne⟩, fun e he => by rw [ne] at he; cases he⟩
  | some e =>
    exact ⟨⟨fun x => (nomatch x), fun x => by rw [checkAll_none.2 x] at c; cases c⟩,
      fun e' he => by cases he; exact ⟨checkAll_some c, rfl⟩⟩

theorem setParametersValues_err {h : Store} {l src : List ObjId}
    (e : (setParametersValues h l src).err ≠ none) : (setParametersValues h l src).heap = h :=
  have ⟨_, hx⟩ := Option.ne_none_iff_exists'.1 e
  ((setParametersValues_atomic h l src).2 _ hx).2

theorem matchParametersValues_err {h : Store} {l src : List ObjId}
    (e : (matchParametersValues h l src).err ≠ none) : (matchParametersValues h l src).heap = h :=
  have ⟨_, hx⟩ := Option.ne_none_iff_exists'.1 e
  ((matchParametersValues_atomic h l src).2 _ hx).2.1

theorem setAllParametersValues_err {h : Store} {l src : List ObjId}
    (e : (setAllParametersValues h l src).err ≠ none) : (setAllParametersValues h l src).heap = h :=
  have ⟨_, hx⟩ := Option.ne_none_iff_exists'.1 e
  ((setAllParametersValues_atomic h l src).2 _ hx).2

end Bpp.ParamList
