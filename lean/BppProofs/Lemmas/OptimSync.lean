import BppProofs.Lemmas.OptimObjective
import BppModel.OptimMulti
import BppModel.OptimLine
/-!
Helper lemmas for C10: the objective of the harness (`Fn`) and the parameter lists of the
multi-dimensional optimisers.

* `matchPoint` (the function's `matchParametersValues`): length, frame, what it writes;
* `Sync fn pl`: the function has been left at the values the list holds ("state at report");
* `objective_det_con`: the evaluation step along one coordinate through a parameter of precision 0
  with *any* constraint and dynamic type — `Det` with `g x = obj (pt0.set k (corr p0 x))`;
* `Like a b`: the list `b` is the list `a` holding other values its parameters accept — what every routine
  that moves a list by `setValue` makes of it (`setValueAt_like`, `setAll_like`, `matchList_like`, `dirMove_like`, …);
  the conditions the optimisers' lists are kept under (`Good` here; `Tied`, `Prec0`, `Free` elsewhere) are closed under it;
* `setValueNamed` / `matchList` on lists of precision-0 parameters: the values they write.
-/
set_option linter.unusedSectionVars false
namespace Bpp.Optim
open Bpp

/-- the names of a list -/
def names (pl : PList ℝ) : List Nat := pl.map (·.name)

@[simp] theorem names_nil : names [] = [] := rfl
@[simp] theorem names_cons (q : NP ℝ) (r : PList ℝ) : names (q :: r) = q.name :: names r := rfl

/-! ### matchPoint -/

theorem matchPoint_length : ∀ (pl : PList ℝ) (pt : List ℝ), (matchPoint pt pl).length = pt.length := by
  intro pl
  induction pl with
  | nil => intro pt; rfl
  | cons q r ih =>
    intro pt
    rw [matchPoint, ih]
    split
    · rw [List.length_set]
    · rfl

/-- coordinates no parameter of the list is named after are not touched -/
theorem matchPoint_frame : ∀ (pl : PList ℝ) (pt : List ℝ) (i : Nat), i ∉ names pl →
    (matchPoint pt pl)[i]? = pt[i]? := by
  intro pl
  induction pl with
  | nil => intro pt i _; rfl
  | cons q r ih =>
    intro pt i hi
    rw [names_cons, List.mem_cons, not_or] at hi
    rw [matchPoint, ih _ i hi.2]
    split
    · rw [List.getElem?_set_ne (fun c => hi.1 c.symm)]
    · rfl

/-- with distinct names, every coordinate a parameter is named after holds that parameter's value -/
theorem matchPoint_sync : ∀ (pl : PList ℝ) (pt : List ℝ), (names pl).Nodup →
    ∀ q ∈ pl, q.name < pt.length → (matchPoint pt pl)[q.name]? = some q.p.value := by
  intro pl
  induction pl with
  | nil => intro pt _ q hq; cases hq
  | cons q0 r ih =>
    intro pt hnd q hq hlt
    rw [names_cons, List.nodup_cons] at hnd
    rw [matchPoint]
    rcases List.mem_cons.1 hq with rfl | hm
    · rw [matchPoint_frame _ _ _ hnd.1, List.getElem?_eq_getElem hlt]
      simp only [own_real]
      rw [List.getElem?_set_self hlt]
    · apply ih _ hnd.2 q hm
      split
      · rw [List.length_set]; exact hlt
      · exact hlt

/-- the result depends on the point only outside the names of the list -/
theorem matchPoint_congr : ∀ (pl : PList ℝ) (pt pt' : List ℝ), pt.length = pt'.length →
    (∀ i, i ∉ names pl → pt[i]? = pt'[i]?) → matchPoint pt pl = matchPoint pt' pl := by
  intro pl
  induction pl with
  | nil =>
    intro pt pt' _ h
    exact List.ext_getElem? (fun i => h i (by simp))
  | cons q r ih =>
    intro pt pt' hl h
    rw [matchPoint, matchPoint]
    by_cases hlt : q.name < pt.length
    · have hlt' : q.name < pt'.length := by rw [← hl]; exact hlt
      rw [List.getElem?_eq_getElem hlt, List.getElem?_eq_getElem hlt']
      simp only [own_real]
      apply ih
      · rw [List.length_set, List.length_set]; exact hl
      · intro i hi
        by_cases hiq : i = q.name
        · subst hiq; rw [List.getElem?_set_self hlt, List.getElem?_set_self hlt']
        · rw [List.getElem?_set_ne (fun c => hiq c.symm), List.getElem?_set_ne (fun c => hiq c.symm)]
          exact h i (by rw [names_cons, List.mem_cons, not_or]; exact ⟨hiq, hi⟩)
    · have hlt' : ¬ q.name < pt'.length := by rw [← hl]; exact hlt
      rw [List.getElem?_eq_none (not_lt.1 hlt), List.getElem?_eq_none (not_lt.1 hlt')]
      apply ih _ _ hl
      intro i hi
      by_cases hiq : i = q.name
      · subst hiq; rw [List.getElem?_eq_none (not_lt.1 hlt), List.getElem?_eq_none (not_lt.1 hlt')]
      · exact h i (by rw [names_cons, List.mem_cons, not_or]; exact ⟨hiq, hi⟩)

/-- only names and values are read -/
theorem matchPoint_values : ∀ (pl pl' : PList ℝ) (pt : List ℝ),
    pl.map (fun q => (q.name, q.p.value)) = pl'.map (fun q => (q.name, q.p.value)) → matchPoint pt pl = matchPoint pt pl' := by
  intro pl
  induction pl with
  | nil => intro pl' pt h; cases pl' with
    | nil => rfl
    | cons _ _ => cases h
  | cons q r ih =>
    intro pl' pt h
    cases pl' with
    | nil => cases h
    | cons q' r' =>
      simp only [List.map_cons, List.cons.injEq, Prod.mk.injEq] at h
      rw [matchPoint, matchPoint, h.1.1, h.1.2]
      exact ih r' _ h.2

theorem applyPolicy_nv (pol : Policy) (pl : PList ℝ) :
    (applyPolicy pol pl).map (fun q => (q.name, q.p.value)) = pl.map (fun q => (q.name, q.p.value)) := by
  cases pol <;> simp [applyPolicy, Param.toAuto, Param.removeConstraint, Function.comp_def]

theorem applyPolicy_names (pol : Policy) (pl : PList ℝ) : names (applyPolicy pol pl) = names pl := by
  cases pol <;> simp [applyPolicy, names, Function.comp_def]

theorem applyPolicy_values (pol : Policy) (pl : PList ℝ) : values (applyPolicy pol pl) = values pl := by
  cases pol <;> simp [applyPolicy, values, Param.toAuto, Param.removeConstraint, Function.comp_def]

theorem matchPoint_applyPolicy (pol : Policy) (pl : PList ℝ) (pt : List ℝ) :
    matchPoint pt (applyPolicy pol pl) = matchPoint pt pl :=
  matchPoint_values _ _ _ (applyPolicy_nv pol pl)

/-! ### the function's own list -/

theorem Fn.params_names (fn : Fn ℝ) : names fn.params = List.range fn.point.length := by
  unfold Fn.params names
  rw [List.map_map]
  have : ((fun q : NP ℝ => q.name) ∘ fun iv : Nat × ℝ => (⟨iv.1, ⟨iv.2, Scalar.zero, none, false⟩⟩ : NP ℝ)) = Prod.fst := rfl
  rw [this, List.map_fst_zip]
  rw [List.length_range]

theorem Fn.params_mem (fn : Fn ℝ) (q : NP ℝ) (hq : q ∈ fn.params) :
    q.name < fn.point.length ∧ fn.point[q.name]? = some q.p.value ∧ q.p.precision = 0 ∧ q.p.constraint = none ∧ q.p.auto = false := by
  unfold Fn.params at hq
  obtain ⟨⟨i, v⟩, hiv, rfl⟩ := List.mem_map.1 hq
  obtain ⟨j, hj⟩ := List.getElem?_of_mem hiv
  rw [List.getElem?_zip_eq_some] at hj
  obtain ⟨h1, h2⟩ := hj
  have hjl : j < fn.point.length := by
    by_contra hc
    rw [List.getElem?_eq_none (not_lt.1 hc)] at h2; cases h2
  rw [List.getElem?_range hjl] at h1
  simp only [Option.some.injEq] at h1
  subst h1
  exact ⟨hjl, h2, by simp, rfl, rfl⟩

theorem Fn.mem_params_of_lt (fn : Fn ℝ) {i : Nat} (hi : i < fn.point.length) :
    (⟨i, ⟨fn.point[i], Scalar.zero, none, false⟩⟩ : NP ℝ) ∈ fn.params := by
  unfold Fn.params
  apply List.mem_map.2
  refine ⟨(i, fn.point[i]), ?_, rfl⟩
  apply List.mem_iff_getElem?.2
  exact ⟨i, by rw [List.getElem?_zip_eq_some]; exact ⟨List.getElem?_range hi, List.getElem?_eq_getElem hi⟩⟩

/-- `setParameters(getParameters())` of an earlier state puts the point back -/
theorem matchPoint_restore (fn0 : Fn ℝ) (pt : List ℝ) (hl : pt.length = fn0.point.length) :
    matchPoint pt fn0.params = fn0.point := by
  apply List.ext_getElem?
  intro i
  by_cases hi : i < fn0.point.length
  · have hnd : (names fn0.params).Nodup := by rw [Fn.params_names]; exact List.nodup_range
    have := matchPoint_sync fn0.params pt hnd _ (fn0.mem_params_of_lt hi) (by rw [hl]; exact hi)
    rw [this, List.getElem?_eq_getElem hi]
  · rw [List.getElem?_eq_none (by rw [matchPoint_length, hl]; exact not_lt.1 hi), List.getElem?_eq_none (not_lt.1 hi)]

/-! ### the interface of the objective -/

theorem iface_f_point (obj : List ℝ → ℝ) (D : Deriv ℝ) (cap : Option Nat) (fn fn' : Fn ℝ) (pl : PList ℝ) (v : ℝ)
    (h : (Fn.iface obj D cap).f fn pl = .ok (fn', v)) :
    fn'.point = matchPoint fn.point pl ∧ v = obj fn'.point ∧ fn'.log = fn'.point :: fn.log := by
  obtain ⟨rfl, rfl⟩ := iface_f_ok obj D cap _ _ _ _ h
  exact ⟨rfl, rfl, rfl⟩

theorem iface_set_point (obj : List ℝ → ℝ) (D : Deriv ℝ) (cap : Option Nat) (fn fn' : Fn ℝ) (pl : PList ℝ)
    (h : (Fn.iface obj D cap).setParameters fn pl = .ok fn') :
    fn'.point = matchPoint fn.point pl :=
  (iface_set_cases obj D cap fn pl (fun f => f.point = matchPoint fn.point pl) rfl).of_ok h

@[simp] theorem iface_value (obj : List ℝ → ℝ) (D : Deriv ℝ) (cap : Option Nat) (fn : Fn ℝ) :
    (Fn.iface obj D cap).value fn = obj fn.point := rfl

@[simp] theorem iface_getParameters (obj : List ℝ → ℝ) (D : Deriv ℝ) (cap : Option Nat) (fn : Fn ℝ) :
    (Fn.iface obj D cap).getParameters fn = fn.params := rfl

/-- the function is at the values the list holds -/
def Sync (fn : Fn ℝ) (pl : PList ℝ) : Prop := ∀ q ∈ pl, fn.point[q.name]? = some q.p.value

theorem Sync.stateAt {fn : Fn ℝ} {pl : PList ℝ} (h : Sync fn pl) :
    Spec.stateAt fn.point (names pl) (values pl) = true := by
  unfold Spec.stateAt
  induction pl with
  | nil => rfl
  | cons q r ih =>
    simp only [names_cons, values, List.map_cons, List.zip_cons_cons, List.all_cons, Bool.and_eq_true]
    refine ⟨?_, ih (fun q' hq' => h q' (List.mem_cons_of_mem _ hq'))⟩
    rw [h q (List.mem_cons_self ..)]
    simp

/-- evaluating at a list with distinct valid names leaves the function at that list -/
theorem sync_of_matchPoint (fn : Fn ℝ) (pt : List ℝ) (pl : PList ℝ) (hp : fn.point = matchPoint pt pl)
    (hnd : (names pl).Nodup) (hlt : ∀ q ∈ pl, q.name < pt.length) : Sync fn pl := by
  intro q hq
  rw [hp]
  exact matchPoint_sync pl pt hnd q hq (hlt q hq)

/-- a point is not moved by writing into it what it holds -/
theorem matchPoint_of_sync : ∀ (pl : PList ℝ) (pt : List ℝ), (∀ q ∈ pl, pt[q.name]? = some q.p.value) →
    matchPoint pt pl = pt := by
  intro pl
  induction pl with
  | nil => intro pt _; rfl
  | cons q r ih =>
    intro pt h
    rw [matchPoint, h q (List.mem_cons_self ..)]
    simp only [own_real]
    rw [set_self_of_get _ _ _ (h q (List.mem_cons_self ..))]
    exact ih pt (fun q' hq' => h q' (List.mem_cons_of_mem _ hq'))

/-- the function has the length of `pt0` and agrees with it outside the names `ns` -/
def Off (pt0 : List ℝ) (ns : List Nat) (fn : Fn ℝ) : Prop :=
  fn.point.length = pt0.length ∧ ∀ i, i ∉ ns → fn.point[i]? = pt0[i]?

theorem Off.rfl' (fn : Fn ℝ) (ns : List Nat) : Off fn.point ns fn := ⟨rfl, fun _ _ => rfl⟩

theorem Off.trans {pt0 : List ℝ} {ns : List Nat} {fn1 fn2 : Fn ℝ} (h1 : Off pt0 ns fn1) (h2 : Off fn1.point ns fn2) :
    Off pt0 ns fn2 :=
  ⟨h2.1.trans h1.1, fun i hi => (h2.2 i hi).trans (h1.2 i hi)⟩

theorem Off.mono {pt0 : List ℝ} {ns ns' : List Nat} {fn : Fn ℝ} (h : Off pt0 ns fn) (hs : ∀ n ∈ ns, n ∈ ns') :
    Off pt0 ns' fn :=
  ⟨h.1, fun i hi => h.2 i (fun c => hi (hs i c))⟩

theorem Off.of_point {pt0 : List ℝ} {ns : List Nat} {fn fn' : Fn ℝ} (h : Off pt0 ns fn) (e : fn'.point = fn.point) :
    Off pt0 ns fn' := by
  unfold Off; rw [e]; exact h

theorem Off.of_eq {pt0 : List ℝ} {ns : List Nat} {fn : Fn ℝ} (e : fn.point = pt0) : Off pt0 ns fn := by
  unfold Off; rw [e]; exact ⟨rfl, fun _ _ => rfl⟩

/-! ### the evaluation step along one coordinate, any constraint -/

/-- the invariant under which the evaluation step computes `obj` along coordinate `k` of `pt0`
through the parameter `p0` (precision 0, any constraint, plain or auto-correcting): the list holds
`p0` with some feasible value, the function's other coordinates are those of `pt0` -/
def AlongP (pt0 : List ℝ) (k : Nat) (p0 : Param ℝ) (fn : Fn ℝ) (pl : PList ℝ) : Prop :=
  (∃ w, pl = [⟨k, reval p0 w⟩] ∧ p0.accepts w = true) ∧
  k < pt0.length ∧ fn.point.length = pt0.length ∧ ∀ i, i ≠ k → fn.point[i]? = pt0[i]?

/-- the objective of the harness searched along one coordinate through a parameter with any
constraint: "set the parameter to `x`, evaluate" computes `obj` at `pt0` with coordinate `k` replaced by
what `setValue(x)` stores -/
theorem objective_det_con (obj : List ℝ → ℝ) (D : Deriv ℝ) (cap : Option Nat) (pt0 : List ℝ) (k : Nat)
    (p0 : Param ℝ) (hp : p0.precision = 0) (hi : p0.invOk = true) :
    Det (Fn.iface obj D cap) (fun x => obj (pt0.set k (corr p0 x))) (AlongP pt0 k p0) := by
  refine Det.of_set_direct (fun fn pl fn' pl' h1 h2 => ⟨h1.1, h2.2⟩) ?_ ?_
  · intro fn pl x fn' v hJ hx h
    obtain ⟨⟨w, rfl, hw⟩, hk, hl, hag⟩ := hJ
    have hwx : w = x := by simpa [value0] using hx
    subst hwx
    obtain ⟨rfl, rfl⟩ := iface_f_ok obj D cap _ _ _ _ h
    have hk' : k < fn.point.length := by rw [hl]; exact hk
    obtain ⟨hpt, hval⟩ := f_single obj fn ⟨k, reval p0 w⟩ k rfl hk'
    simp only [reval_value] at hpt hval
    refine ⟨by rw [hval, set_eq_of_agree _ _ _ _ hl hag, corr_accepted p0 w hp hi hw], ⟨w, rfl, hw⟩, hk,
      by rw [hpt, List.length_set]; exact hl, ?_⟩
    intro i hik
    rw [hpt, List.getElem?_set_ne (Ne.symm hik)]; exact hag i hik
  · intro fn pl x pl' hJ h
    obtain ⟨⟨w, rfl, hw⟩, hk, hl, hag⟩ := hJ
    rw [setValueAt] at h
    simp only [] at h
    split at h
    · rename_i p' hs
      simp only [Except.ok.injEq] at h
      rw [setValue_reval p0 w x hp hi hw] at hs
      obtain ⟨hform, hacc⟩ := setValue_ok_form hs hi
      -- what the list now holds is what `setValue x` stored: the corrected `x`, which is accepted
      refine ⟨⟨⟨p'.value, by rw [← h, ← hform], hacc⟩, hk, hl, hag⟩, p'.value, by rw [← h]; simp [value0], ?_⟩
      rw [corr_accepted p0 _ hp hi hacc, corr_ok hs]
    · cases h

/-- the same through a parameter with any constraint, holding a feasible value: the condition of
`objective_det_con` holds for the parameter `p0` the policy makes of it -/
theorem alongP_start (pol : Policy) {pt0 : List ℝ} {k : Nat} {q : NP ℝ} {fn : Fn ℝ} (hk : k < pt0.length) (hq : q.name = k)
    (hp : q.p.precision = 0) (hi : q.p.invOk = true) (hpt : fn.point = pt0) :
    ∃ p0 : Param ℝ, applyPolicy pol [q] = [⟨k, p0⟩] ∧ p0.precision = 0 ∧ p0.invOk = true ∧
      AlongP pt0 k p0 fn (applyPolicy pol [q]) ∧ value0 (applyPolicy pol [q]) = some q.p.value ∧
      corr p0 q.p.value = q.p.value := by
  obtain ⟨p0, hap, hv, hpr, hinv⟩ := applyPolicy_single pol q
  rw [hq] at hap
  have hp0 : p0.precision = 0 := hpr.trans hp
  refine ⟨p0, hap, hp0, hinv hi, ?_, by rw [hap]; exact congrArg some hv, hv ▸ corr_accepted p0 _ hp0 (hinv hi) (hinv hi)⟩
  rw [hap]
  exact ⟨⟨p0.value, by rw [reval_self], hinv hi⟩, hk, by rw [hpt], fun _ _ => by rw [hpt]⟩

/-- under `AlongP` the list holds a value the parameter accepts, which `setValue` would store as it is -/
theorem AlongP.corr_held {pt0 : List ℝ} {k : Nat} {p0 : Param ℝ} {fn : Fn ℝ} {pl : PList ℝ} {x : ℝ}
    (h : AlongP pt0 k p0 fn pl) (hp : p0.precision = 0) (hi : p0.invOk = true) (hx : value0 pl = some x) : corr p0 x = x := by
  obtain ⟨⟨w, rfl, hacc⟩, -⟩ := h
  cases hx
  exact corr_accepted p0 w hp hi hacc

/-! ### lists of precision-0 parameters -/

/-- precision 0, feasible value (C01's invariant) -/
def Good (pl : PList ℝ) : Prop := ∀ q ∈ pl, q.p.precision = 0 ∧ q.p.invOk = true

/-- the same parameters (names, constraints, dynamic types) holding other feasible values -/
def Like (a b : PList ℝ) : Prop :=
  List.Forall₂ (fun x y => y.name = x.name ∧ ∃ w, y.p = reval x.p w ∧ x.p.accepts w = true) a b

/-- every parameter holds a value its constraint accepts (C01's invariant) -/
def Feas (pl : PList ℝ) : Prop := ∀ q ∈ pl, q.p.invOk = true

theorem Feas.tail {q : NP ℝ} {r : PList ℝ} (h : Feas (q :: r)) : Feas r := fun q' hq' => h q' (List.mem_cons_of_mem _ hq')

theorem Good.feas {pl : PList ℝ} (h : Good pl) : Feas pl := fun q hq => (h q hq).2

theorem Good.tail {q : NP ℝ} {r : PList ℝ} (h : Good (q :: r)) : Good r := fun q' hq' => h q' (List.mem_cons_of_mem _ hq')

theorem Like.refl {a : PList ℝ} (h : Feas a) : Like a a := by
  induction a with
  | nil => exact List.Forall₂.nil
  | cons q r ih => exact List.Forall₂.cons ⟨rfl, q.p.value, rfl, h q (List.mem_cons_self ..)⟩ (ih h.tail)

theorem Like.trans {a b c : PList ℝ} (h1 : Like a b) (h2 : Like b c) : Like a c := by
  induction h1 generalizing c with
  | nil => cases h2; exact List.Forall₂.nil
  | cons hab _ ih =>
    cases h2 with
    | cons hbc hr =>
      obtain ⟨n1, w1, e1, _⟩ := hab
      obtain ⟨n2, w2, e2, a2⟩ := hbc
      refine List.Forall₂.cons ⟨n2.trans n1, w2, ?_, ?_⟩ (ih hr)
      · rw [e2, e1]; rfl
      · rw [e1] at a2; exact a2

theorem Like.names {a b : PList ℝ} (h : Like a b) : names b = names a := by
  induction h with
  | nil => rfl
  | cons hab _ ih => rw [names_cons, names_cons, hab.1, ih]

theorem Like.length {a b : PList ℝ} (h : Like a b) : b.length = a.length := (List.Forall₂.length_eq h).symm

theorem Like.good {a b : PList ℝ} (h : Like a b) (hg : Good a) : Good b := by
  induction h with
  | nil => intro q hq; cases hq
  | @cons x y l1 l2 hab _ ih =>
    intro q hq
    rcases List.mem_cons.1 hq with rfl | hm
    · obtain ⟨_, w, e, ha⟩ := hab
      rw [e]
      exact ⟨(hg x (List.mem_cons_self ..)).1, ha⟩
    · exact ih hg.tail q hm

/-- members correspond -/
theorem Like.mem_right {a b : PList ℝ} (h : Like a b) {y : NP ℝ} (hy : y ∈ b) :
    ∃ x ∈ a, y.name = x.name ∧ ∃ w, y.p = reval x.p w ∧ x.p.accepts w = true := by
  induction h with
  | nil => cases hy
  | cons hab _ ih =>
    rcases List.mem_cons.1 hy with rfl | hm
    · exact ⟨_, List.mem_cons_self .., hab⟩
    · obtain ⟨x, hx, hr⟩ := ih hm; exact ⟨x, List.mem_cons_of_mem _ hx, hr⟩

theorem Like.feas {a b : PList ℝ} (h : Like a b) : Feas b := by
  intro y hy
  obtain ⟨x, _, _, w, e, hw⟩ := h.mem_right hy
  rw [e]; exact hw

/-! ### the routines that move a list

Each of them only calls `setValue` on elements of the list: what it returns is `Like` the list it was given. -/

/-- one element moved by a `setValue` that returns: nothing but the value has changed, and the parameter accepts it -/
theorem like_elem {q : NP ℝ} {p' : Param ℝ} {x : ℝ} (hs : q.p.setValue x = .ok p') (hi : q.p.invOk = true) :
    ({ q with p := p' } : NP ℝ).name = q.name ∧ ∃ w, ({ q with p := p' } : NP ℝ).p = reval q.p w ∧ q.p.accepts w = true :=
  ⟨rfl, p'.value, (setValue_ok_form hs hi).1, (setValue_ok_form hs hi).2⟩

theorem like_self {q : NP ℝ} (hi : q.p.invOk = true) : q.name = q.name ∧ ∃ w, q.p = reval q.p w ∧ q.p.accepts w = true :=
  ⟨rfl, q.p.value, rfl, hi⟩

theorem setValueAt_like : ∀ (pl : PList ℝ) (i : Nat) (x : ℝ) (pl' : PList ℝ), Feas pl → setValueAt pl i x = .ok pl' →
    Like pl pl' := by
  intro pl
  induction pl with
  | nil => intro i x pl' _ h; rw [setValueAt] at h; cases h
  | cons q r ih =>
    intro i x pl' hf h
    cases i with
    | zero =>
      rw [setValueAt] at h
      split at h
      · rename_i p' hp; cases h
        exact List.Forall₂.cons (like_elem hp (hf q (List.mem_cons_self ..))) (Like.refl hf.tail)
      · cases h
    | succ i =>
      rw [setValueAt] at h
      split at h
      · rename_i r' hr; cases h
        exact List.Forall₂.cons (like_self (hf q (List.mem_cons_self ..))) (ih i x r' hf.tail hr)
      · cases h

theorem setAll_like : ∀ (pl : PList ℝ) (vs : List ℝ) (pl' : PList ℝ), Feas pl → setAll pl vs = .ok pl' → Like pl pl' := by
  intro pl
  induction pl with
  | nil => intro vs pl' _ h; rw [setAll] at h; cases h; exact List.Forall₂.nil
  | cons q r ih =>
    intro vs pl' hf h
    cases vs with
    | nil => rw [setAll] at h; cases h; exact Like.refl hf
    | cons v vs =>
      rw [setAll] at h
      split at h
      · cases h
      · rename_i p' hs
        split at h
        · cases h
        · rename_i r' hr
          cases h
          exact List.Forall₂.cons (like_elem hs (hf q (List.mem_cons_self ..))) (ih vs r' hf.tail hr)

theorem setValueNamed_like : ∀ (own : PList ℝ) (n : Nat) (v : ℝ) (own' : PList ℝ), Feas own →
    setValueNamed own n v = .ok own' → Like own own' := by
  intro own
  induction own with
  | nil => intro n v own' _ h; rw [setValueNamed] at h; cases h
  | cons q r ih =>
    intro n v own' hf h
    rw [setValueNamed] at h
    split at h
    · split at h
      · rename_i p' hs; cases h
        exact List.Forall₂.cons (like_elem hs (hf q (List.mem_cons_self ..))) (Like.refl hf.tail)
      · cases h
    · split at h
      · rename_i r' hr; cases h
        exact List.Forall₂.cons (like_self (hf q (List.mem_cons_self ..))) (ih n v r' hf.tail hr)
      · cases h

theorem matchLoop_like : ∀ (src own own' : PList ℝ), Feas own → matchLoop own src = .ok own' → Like own own' := by
  intro src
  induction src with
  | nil => intro own own' hf h; rw [matchLoop] at h; cases h; exact Like.refl hf
  | cons q qs ih =>
    intro own own' hf h
    rw [matchLoop] at h
    split at h
    · exact ih own own' hf h
    · split at h
      · split at h
        · rename_i own1 hs
          have h1 := setValueNamed_like own _ _ own1 hf hs
          exact h1.trans (ih own1 own' h1.feas h)
        · cases h
      · exact ih own own' hf h

/-- `own.matchParametersValues(src)`, whatever `src` holds -/
theorem matchList_like (own src own' : PList ℝ) (hf : Feas own) (h : matchList own src = .ok own') : Like own own' := by
  unfold matchList at h
  split at h
  · cases h
  · exact matchLoop_like src own own' hf h

/-- the loop of `DirectionFunction::setParameters` moves the copies `xt_` -/
theorem dirMove_like (x : ℝ) : ∀ (p xt : PList ℝ) (xi : List ℝ) (xt' : PList ℝ), Feas xt → dirMove x p xt xi = .ok xt' →
    Like xt xt' := by
  intro p
  induction p with
  | nil => intro xt xi xt' hf h; rw [dirMove] at h; cases h; exact Like.refl hf
  | cons pj pr ih =>
    intro xt xi xt' hf h
    cases xt with
    | nil => rw [dirMove] at h; cases h
    | cons tj tr =>
      cases xi with
      | nil => rw [dirMove] at h; cases h
      | cons xj xr =>
        rw [dirMove] at h
        split at h
        · cases h
        · rename_i t' hs
          split at h
          · cases h
          · rename_i tr' hr'
            cases h
            exact List.Forall₂.cons (like_elem hs (hf tj (List.mem_cons_self ..))) (ih tr xr tr' hf.tail hr')

/-- the final move of `lineMinimization` / `lineSearch` -/
theorem moveAlong_like (xmin : ℝ) : ∀ (pl : PList ℝ) (xi : List ℝ) (r : PList ℝ × List ℝ), Feas pl →
    moveAlong xmin pl xi = .ok r → Like pl r.1 := by
  intro pl
  induction pl with
  | nil => intro xi r _ h; rw [moveAlong] at h; cases h; exact List.Forall₂.nil
  | cons q rest ih =>
    intro xi r hf h
    cases xi with
    | nil => rw [moveAlong] at h; cases h
    | cons x xs =>
      rw [moveAlong] at h
      split at h
      · cases h
      · rename_i p' hs
        split at h
        · cases h
        · rename_i r' xs' hr'
          cases h
          exact List.Forall₂.cons (like_elem hs (hf q (List.mem_cons_self ..))) (ih xs (r', xs') hf.tail hr')

/-- `ptt` of Powell's extrapolation is a copy of the optimiser's list moved by `setValue` -/
theorem powellExtrapolate_like : ∀ (pl pt : PList ℝ) (r : PList ℝ × List ℝ × PList ℝ), Feas pl →
    powellExtrapolate pl pt = .ok r → Like pl r.1 := by
  intro pl
  induction pl with
  | nil => intro pt r _ h; rw [powellExtrapolate] at h; cases h; exact List.Forall₂.nil
  | cons q rest ih =>
    intro pt r hf h
    cases pt with
    | nil => rw [powellExtrapolate] at h; cases h
    | cons t tr =>
      rw [powellExtrapolate] at h
      split at h
      · cases h
      · rename_i q' hs
        dsimp only at h
        split at h
        · cases h
        · split at h
          · cases h
          · rename_i r' xs tr' hr'
            cases h
            exact List.Forall₂.cons (like_elem hs (hf q (List.mem_cons_self ..))) (ih tr (r', xs, tr') hf.tail hr')

/-! ### the values `setValueNamed` and `matchList` write -/

theorem mem_names {pl : PList ℝ} {q : NP ℝ} (h : q ∈ pl) : q.name ∈ names pl := List.mem_map.2 ⟨q, h, rfl⟩

theorem eq_of_nodup {pl : PList ℝ} (hnd : (names pl).Nodup) {a b : NP ℝ} (ha : a ∈ pl) (hb : b ∈ pl)
    (h : a.name = b.name) : a = b := List.inj_on_of_nodup_map hnd ha hb h

theorem findNamed_some {pl : PList ℝ} {n : Nat} {p : NP ℝ} (h : findNamed pl n = some p) : p ∈ pl ∧ p.name = n := by
  unfold findNamed at h
  exact ⟨List.mem_of_find?_eq_some h, by have := List.find?_some h; simpa using this⟩

theorem findNamed_none {pl : PList ℝ} {n : Nat} (h : findNamed pl n = none) : ∀ q ∈ pl, q.name ≠ n := by
  unfold findNamed at h
  intro q hq
  have := List.find?_eq_none.1 h q hq
  simpa using this

/-- `parameter(name).setValue(v)` with a value the parameter accepts -/
theorem setValueNamed_spec : ∀ (own own' : PList ℝ) (n : Nat) (v : ℝ), Good own → (names own).Nodup →
    (∀ q ∈ own, q.name = n → q.p.accepts v = true) → setValueNamed own n v = .ok own' →
    (∀ q' ∈ own', q'.name = n → q'.p.value = v) ∧ (∀ q' ∈ own', q'.name ≠ n → q' ∈ own) := by
  intro own
  induction own with
  | nil => intro own' n v _ _ _ h; rw [setValueNamed] at h; cases h
  | cons q r ih =>
    intro own' n v hg hnd hacc h
    rw [names_cons, List.nodup_cons] at hnd
    have hgr : Good r := hg.tail
    rw [setValueNamed] at h
    by_cases hqn : (q.name == n) = true
    · rw [if_pos hqn] at h
      have hqn' : q.name = n := by simpa using hqn
      have hs := setValue_accepted q.p v (hg q (List.mem_cons_self ..)).1 (hg q (List.mem_cons_self ..)).2
        (hacc q (List.mem_cons_self ..) hqn')
      rw [hs] at h
      cases h
      refine ⟨?_, ?_⟩
      · intro q' hq' hn
        rcases List.mem_cons.1 hq' with rfl | hm
        · rfl
        · exfalso; exact hnd.1 (by rw [hqn', ← hn]; exact mem_names hm)
      · intro q' hq' hn
        rcases List.mem_cons.1 hq' with rfl | hm
        · exact absurd hqn' hn
        · exact List.mem_cons_of_mem _ hm
    · rw [if_neg hqn] at h
      have hqn' : q.name ≠ n := by simpa using hqn
      cases hr : setValueNamed r n v with
      | error e => rw [hr] at h; cases h
      | ok r' =>
        rw [hr] at h
        cases h
        obtain ⟨h2, h3⟩ := ih r' n v hgr hnd.2 (fun q' hq' => hacc q' (List.mem_cons_of_mem _ hq')) hr
        refine ⟨?_, ?_⟩
        · intro q' hq' hn
          rcases List.mem_cons.1 hq' with rfl | hm
          · exact absurd hn hqn'
          · exact h2 q' hm hn
        · intro q' hq' hn
          rcases List.mem_cons.1 hq' with rfl | hm
          · exact List.mem_cons_self ..
          · exact List.mem_cons_of_mem _ (h3 q' hm hn)

/-- second loop of `matchParametersValues`, the values having been accepted by the first -/
theorem matchLoop_spec : ∀ (src own own' : PList ℝ), Good own → (names own).Nodup → (names src).Nodup →
    (∀ r ∈ src, ∀ q ∈ own, q.name = r.name → q.p.accepts r.p.value = true) →
    matchLoop own src = .ok own' →
    (∀ q' ∈ own', ∀ r ∈ src, r.name = q'.name → q'.p.value = r.p.value) ∧
    (∀ q' ∈ own', q'.name ∉ names src → q' ∈ own) := by
  intro src
  induction src with
  | nil =>
    intro own own' hg _ _ _ h
    rw [matchLoop] at h
    cases h
    exact ⟨(fun _ _ r hr => nomatch hr), fun q' hq' _ => hq'⟩
  | cons r rs ih =>
    intro own own' hg hnd hnds hacc h
    rw [names_cons, List.nodup_cons] at hnds
    have haccr : ∀ r' ∈ rs, ∀ q ∈ own, q.name = r'.name → q.p.accepts r'.p.value = true :=
      fun r' hr' => hacc r' (List.mem_cons_of_mem _ hr')
    rw [matchLoop] at h
    cases hf : findNamed own r.name with
    | none =>
      rw [hf] at h
      simp only [] at h
      obtain ⟨h2, h3⟩ := ih own own' hg hnd hnds.2 haccr h
      refine ⟨?_, ?_⟩
      · intro q' hq' r' hr' hn
        rcases List.mem_cons.1 hr' with rfl | hm
        · exfalso
          obtain ⟨x, hx, hxn, _⟩ := (matchLoop_like rs own own' hg.feas h).mem_right hq'
          exact findNamed_none hf x hx (by rw [← hxn, hn])
        · exact h2 q' hq' r' hm hn
      · intro q' hq' hn
        rw [names_cons, List.mem_cons, not_or] at hn
        exact h3 q' hq' hn.2
    | some p =>
      rw [hf] at h
      simp only [] at h
      obtain ⟨hp, hpn⟩ := findNamed_some hf
      by_cases heq : p.p.value = r.p.value
      · rw [if_neg (by simp [ScalarReal.eqb_iff, heq])] at h
        obtain ⟨h2, h3⟩ := ih own own' hg hnd hnds.2 haccr h
        refine ⟨?_, ?_⟩
        · intro q' hq' r' hr' hn
          rcases List.mem_cons.1 hr' with rfl | hm
          · have hq'own : q' ∈ own := h3 q' hq' (by rw [← hn]; exact hnds.1)
            have : q' = p := eq_of_nodup hnd hq'own hp (by rw [hpn, hn])
            rw [this]; exact heq
          · exact h2 q' hq' r' hm hn
        · intro q' hq' hn
          rw [names_cons, List.mem_cons, not_or] at hn
          exact h3 q' hq' hn.2
      · have hne : Scalar.eqb p.p.value r.p.value = false := by
          rw [Bool.eq_false_iff]; intro c; exact heq ((ScalarReal.eqb_iff _ _).1 c)
        rw [if_pos (by simp [hne])] at h
        cases hs : setValueNamed own r.name r.p.value with
        | error e => rw [hs] at h; cases h
        | ok own1 =>
          rw [hs] at h
          simp only [] at h
          have s1 := setValueNamed_like own _ _ own1 hg.feas hs
          obtain ⟨s2, s3⟩ := setValueNamed_spec own own1 r.name r.p.value hg hnd
            (fun q hq hn => hacc r (List.mem_cons_self ..) q hq hn) hs
          have hg1 : Good own1 := s1.good hg
          have hnd1 : (names own1).Nodup := by rw [s1.names]; exact hnd
          have hacc1 : ∀ r' ∈ rs, ∀ q ∈ own1, q.name = r'.name → q.p.accepts r'.p.value = true := by
            intro r' hr' q hq hn
            obtain ⟨x, hx, hxn, w, e, _⟩ := s1.mem_right hq
            rw [e, reval_accepts]
            exact haccr r' hr' x hx (by rw [← hxn, hn])
          obtain ⟨h2, h3⟩ := ih own1 own' hg1 hnd1 hnds.2 hacc1 h
          refine ⟨?_, ?_⟩
          · intro q' hq' r' hr' hn
            rcases List.mem_cons.1 hr' with rfl | hm
            · have hq1 : q' ∈ own1 := h3 q' hq' (by rw [← hn]; exact hnds.1)
              exact s2 q' hq1 hn.symm
            · exact h2 q' hq' r' hm hn
          · intro q' hq' hn
            rw [names_cons, List.mem_cons, not_or] at hn
            exact s3 q' (h3 q' hq' hn.2) hn.1

/-- `own.matchParametersValues(src)`: the values of `src` are written; the parameters whose name does not
occur in `src` are those of `own`, untouched -/
theorem matchList_spec (own src own' : PList ℝ) (hg : Good own) (hnd : (names own).Nodup) (hnds : (names src).Nodup)
    (h : matchList own src = .ok own') :
    (∀ q' ∈ own', ∀ r ∈ src, r.name = q'.name → q'.p.value = r.p.value) ∧
    (∀ q' ∈ own', q'.name ∉ names src → q' ∈ own) := by
  unfold matchList at h
  split at h
  · cases h
  · rename_i hany
    have hacc : ∀ r ∈ src, ∀ q ∈ own, q.name = r.name → q.p.accepts r.p.value = true := by
      intro r hr q hq hn
      have hno := hany
      rw [List.any_eq_true] at hno
      cases hf : findNamed own r.name with
      | none => exact absurd hn (findNamed_none hf q hq)
      | some p =>
        obtain ⟨hp, hpn⟩ := findNamed_some hf
        have : q = p := eq_of_nodup hnd hq hp (by rw [hpn, hn])
        rw [this]
        by_contra hc
        exact hno ⟨r, hr, by rw [hf]; simpa using hc⟩
    exact matchLoop_spec src own own' hg hnd hnds hacc h

/-- `getParameters_().matchParametersValues(getFunction()->getParameters())`: the optimiser's list
then holds the function's point -/
theorem matchList_sync (own own' : PList ℝ) (fn : Fn ℝ) (hg : Good own) (hnd : (names own).Nodup)
    (hlt : ∀ q ∈ own, q.name < fn.point.length) (h : matchList own fn.params = .ok own') :
    Like own own' ∧ Sync fn own' := by
  have h1 := matchList_like own fn.params own' hg.feas h
  obtain ⟨h2, -⟩ := matchList_spec own fn.params own' hg hnd (by rw [Fn.params_names]; exact List.nodup_range) h
  refine ⟨h1, ?_⟩
  intro q' hq'
  obtain ⟨x, hx, hxn, _⟩ := h1.mem_right hq'
  have hl : q'.name < fn.point.length := by rw [hxn]; exact hlt x hx
  rw [h2 q' hq' _ (fn.mem_params_of_lt hl) rfl, List.getElem?_eq_getElem hl]

end Bpp.Optim
