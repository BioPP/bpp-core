import BppProofs.Lemmas.AliasKeepSync
/-! C03: the converse of the refusal clause.  `SV.ancestors` (computed on the view with
fuel `links + 1`) finds every parameter a parameter follows; hence a request the pair form refuses
with `Exception` / `ParameterNotFoundException` is one `mustRefuse` flags. -/
namespace Bpp.Alias
open Bpp.ParamList (Bnd Con Par Store ObjId nameOf find? hasParameter names startsWith)

/-- **`SV.ancestors` is complete**: every parameter that position `c` (short name `x`) follows,
through a chain of any length, is listed — the fuel `S.length + 1` suffices when `S` holds the visible
links whose target is at or above `c` (following is acyclic: each step uses up one link) -/
theorem ancestors_complete {w : World} {k : Nat} {o : Obj} (h : ObjInv w k o) :
    ∀ (f : Nat) (S : List (String × String)) (x : String) (c : Nat) (t : ObjId), S.Nodup →
      o.params[c]? = some t → nameOf w.heap t = o.pre ++ x →
      (∀ l ∈ linksOf w o, ∀ q tq, Relation.ReflTransGen (Follows w o) c q → o.params[q]? = some tq →
        nameOf w.heap tq = o.pre ++ l.2 → l ∈ S) →
      S.length + 1 ≤ f → ∀ q tq y, Relation.TransGen (Follows w o) c q → o.params[q]? = some tq →
      nameOf w.heap tq = o.pre ++ y → y ∈ (svOf w o).ancestors f x
  | 0, _, _, _, _, _, _, _, _, hf => by omega
  | f + 1, S, x, c, t, nd, hc, hx, hS, hf => by
    intro q tq y hq htq hy
    obtain ⟨r, hcr, hrq⟩ := Relation.TransGen.head'_iff.1 hq
    obtain ⟨z, y', tc, s', lk, hc', hps, hcn, hsn'⟩ := (follows_iff h).1 hcr
    cases hc.symm.trans hc'
    obtain rfl : y' = x := append_left_cancel' (hcn.symm.trans hx)
    have hlink : (z, y') ∈ linksOf w o := (mem_linksOf_iff h).2 lk
    have hlS : (z, y') ∈ S := hS (z, y') hlink c t Relation.ReflTransGen.refl hc hx
    -- the first link found on the view is this one
    have hfind : (svOf w o).links.find? (fun l => l.2 == y') = some (z, y') := by
      cases hf' : (svOf w o).links.find? (fun l => l.2 == y') with
      | none =>
        have := List.find?_eq_none.1 hf' (z, y') hlink
        simp at this
      | some l =>
        have hlm : l ∈ linksOf w o := List.mem_of_find?_eq_some hf'
        have hl2 : l.2 = y' := by simpa using List.find?_some hf'
        rw [links_target_inj h hlm hlink hl2]
    simp only [SV.ancestors, hfind]
    rcases Relation.ReflTransGen.cases_head hrq with rfl | ⟨r', hrr', hr'q⟩
    · rw [hps] at htq; cases htq
      have : y = z := append_left_cancel' (hy.symm.trans hsn')
      rw [this]; exact List.mem_cons_self ..
    · refine List.mem_cons_of_mem _ ?_
      refine ancestors_complete h f (S.erase (z, y')) z r s' (nd.erase _) hps hsn' ?_ ?_ q tq y
        (Relation.TransGen.head' hrr' hr'q) htq hy
      · intro l hl q' tq' hq' htq' hn'
        rw [nd.mem_erase_iff]
        refine ⟨?_, hS l hl q' tq' (Relation.ReflTransGen.head hcr hq') htq' hn'⟩
        rintro rfl
        -- the target of `(z, y')` is position `c`: a cycle
        have : tq' = t := h.name_inj (List.mem_of_getElem? htq') (List.mem_of_getElem? hc) (hn'.trans hx.symm)
        subst this
        have : q' = c := h.pos_inj htq' hc
        subst this
        exact h.acyclic q' (Relation.TransGen.head' hcr hq')
      · have : (S.erase (z, y')).length = S.length - 1 := List.length_erase_of_mem hlS
        have hpos : 0 < S.length := List.length_pos_of_mem hlS
        omega

/-- the view-level test `follows` sees every chain -/
theorem follows_view_complete {w : World} {k : Nat} {o : Obj} (h : ObjInv w k o) {p1 p2 : String} {c q : Nat} {t tq : ObjId}
    (hc : o.params[c]? = some t) (hx : nameOf w.heap t = o.pre ++ p1) (hq : o.params[q]? = some tq)
    (hy : nameOf w.heap tq = o.pre ++ p2) (hch : Relation.TransGen (Follows w o) c q) :
    (svOf w o).follows p2 p1 = true := by
  simp only [SV.follows, List.contains_iff_mem]
  exact ancestors_complete h _ (linksOf w o) p1 c t (linksOf_nodup h) hc hx (fun l hl _ _ _ _ _ => hl) (Nat.le_refl _) q tq p2 hch hq hy

/-- **converse of the refusal clause**: when `aliasParameters(p1, p2)` raises `ParameterNotFoundException`
or `Exception`, the request is one of those `mustRefuse` describes on the view: a name is unknown, `p2`
already follows somebody, `p1 = p2`, or `p1` follows `p2` (through a chain of any length).  In other words
a request that need not be refused is refused by neither of the two. -/
theorem refuse_only_if {w : World} (h : Inv w) {k : Nat} {o : Obj} (ho : w.objs k = some o) (p1 p2 : String)
    (hr : (aliasPair w k p1 p2).err = some .notfound ∨ (aliasPair w k p1 p2).err = some .bpp) :
    mustRefuse p1 p2 (svOf w o) = true := by
  have hi := h.obj k o ho
  have hshorts : (svOf w o).shorts = shortNames w o := by
    simp only [SV.shorts, SV.short, svOf, shortNames, List.map_map]; rfl
  obtain ⟨s1, s2⟩ := aliasPair_spec hi ho p1 p2
  simp only [mustRefuse, hshorts, Bool.or_eq_true, Bool.not_eq_true', beq_iff_eq]
  left
  cases h1 : find? w.heap o.params (o.pre ++ p1) with
  | none =>
    left; left; left; left
    rw [← Bool.not_eq_true, List.contains_iff_mem]
    intro hm
    obtain ⟨t, ht, hn⟩ := (mem_shortNames hi).1 hm
    rw [(find?_iff hi.nodup).2 ⟨ht, hn⟩] at h1; cases h1
  | some i1 =>
    cases h2 : find? w.heap o.params (o.pre ++ p2) with
    | none =>
      left; left; left; right
      rw [← Bool.not_eq_true, List.contains_iff_mem]
      intro hm
      obtain ⟨t, ht, hn⟩ := (mem_shortNames hi).1 hm
      rw [(find?_iff hi.nodup).2 ⟨ht, hn⟩] at h2; cases h2
    | some i2 =>
      obtain ⟨hm1, hn1⟩ := ParamList.find?_some h1
      obtain ⟨hm2, hn2⟩ := ParamList.find?_some h2
      obtain ⟨a, b, c, d⟩ := s2 i1 i2 h1 h2
      by_cases hind : i2 ∈ o.indep
      swap
      · left; left; right
        exact (isTarget_svOf hi).2 (Classical.not_not.1 fun hno => hind ((indep_iff hi hm2 hn2).2 hno))
      obtain ⟨pos1, hp1⟩ := hi.exists_pos hm1
      have pp1 : Plain p1 := hi.plain_of hm1 hn1
      cases hf : followsLoop w o p2 (o.reg.length + 2) p1 with
      | none => exact absurd hf (cycleTest_no_hang hi h1)
      | some bb =>
        cases bb with
        | true =>
          obtain ⟨q, tq, hq, htq, hnq⟩ := followsLoop_true hi p2 _ p1 pos1 i1 hp1 hn1 pp1 hf
          rcases Relation.reflTransGen_iff_eq_or_transGen.1 hq with rfl | htg
          · left; right
            rw [hp1] at htq; cases htq
            exact append_left_cancel' (hn1.symm.trans hnq)
          · right
            exact follows_view_complete hi hp1 hn1 htq hnq htg
        | false =>
          -- accepted, or refused by the constraint part: neither notfound nor bpp
          exfalso
          obtain ⟨d1, d2⟩ := d hind hf
          cases hc : (aliasConstraints w i1 i2).err with
          | some e =>
            have := (d1 e hc).1
            have he := aliasConstraints_err hc
            rw [this, he] at hr
            rcases hr with hr | hr <;> cases hr
          | none =>
            obtain ⟨_, _, hok, _⟩ := d2 hc
            rw [hok] at hr
            rcases hr with hr | hr <;> cases hr

/-! ## A request refused for the constraints changes nothing either (after the repair) -/

/-- **every refusal of the pair form leaves the world exactly as it was**: whatever it raises
(`ParameterNotFoundException`, `Exception`, `ConstraintException`) -/
theorem aliasPair_err_unchanged {w : World} (h : Inv w) {k : Nat} {o : Obj} (ho : w.objs k = some o) (p1 p2 : String)
    (he : (aliasPair w k p1 p2).err ≠ none) : (aliasPair w k p1 p2).w = w :=
  (aliasPair_cases (h.obj k o ho) ho p1 p2).elim (·.1) (fun hok => absurd hok.1 he)

end Bpp.Alias
