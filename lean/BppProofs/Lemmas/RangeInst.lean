import BppProofs.Lemmas.Range
/-! The three coordinate types of C20 satisfy the laws the generic theorems assume:
`Int` (`int`), `UInt32` (`unsigned`, modulo 2^32), `Rat` (`double` on exactly representable
values).  The order laws (`Std.IsLinearOrder`, `Std.LawfulOrderLT`) are core-Lean instances.
Then `totalLength`: the coordinates are read as integers (`Inv.map`), one `tot += len` of each
type's accumulator is exact when the sum fits (`accLen_*`), hence the whole fold is (`fold_acc_exact`). -/
namespace Bpp

instance : MinMaxLaws Int := ⟨fun a b => Int.min_def a b, fun a b => Int.max_def a b⟩
instance : MinMaxLaws UInt32 := ⟨fun _ _ => rfl, fun _ _ => rfl⟩
instance : MinMaxLaws Rat := ⟨fun _ _ => Rat.min_def, fun _ _ => Rat.max_def⟩

theorem ShiftLaws.ofRing (α : Type) [Lean.Grind.CommRing α] : ShiftLaws α :=
  ⟨by intros; grind, by intros; grind, by intros; grind, by intros; grind⟩

instance : ShiftLaws Int := .ofRing _
instance : ShiftLaws UInt32 := .ofRing _
instance : ShiftLaws Rat := .ofRing _

namespace MultiRange
open Range

theorem Inv.map {α β : Type} [LE α] [LT α] [LE β] [LT β] {f : Range α → Range β} {m : List (Range α)}
    (hm : Inv m) (hne : ∀ x ∈ m, x.b < x.e → (f x).b < (f x).e)
    (hR : ∀ x ∈ m, ∀ y ∈ m, R x y → R (f x) (f y)) : Inv (m.map f) :=
  ⟨List.forall_mem_map.mpr fun x hx => hne x hx (hm.1 x hx),
    List.pairwise_map.mpr (hm.2.imp_of_mem fun hx hy h => hR _ hx _ hy h)⟩

/-- `C20.ratToI` on ranges satisfying `C20.Integral`, both spelt out: they are defined in
`Props/C20Inst.lean`, which imports this module -/
theorem inv_floor {m : List (Range Rat)} (hm : Inv m)
    (hint : ∀ x ∈ m, x.b = (x.b.floor : Rat) ∧ x.e = (x.e.floor : Rat)) :
    Inv (m.map fun x => (⟨x.b.floor, x.e.floor⟩ : Range Int)) := by
  refine hm.map (fun x hx h => ?_) (fun x hx y hy h => ?_)
  · rw [(hint x hx).1, (hint x hx).2] at h; exact Rat.intCast_lt_intCast.mp h
  · have h' : x.e ≤ y.b := h
    rw [(hint x hx).2, (hint y hy).1] at h'; exact Rat.intCast_le_intCast.mp h'

theorem accLen_int (tot : Nat) (len : Int) (h0 : 0 ≤ len) (h1 : (tot : Int) + len < 2 ^ 64) :
    ((CoordIO.accLen tot len : Nat) : Int) = tot + len := by
  have h : 0 ≤ (tot : Int) + len := Int.add_nonneg (Int.natCast_nonneg tot) h0
  show ((((tot : Int) + len) % 2 ^ 64).toNat : Int) = tot + len
  rw [Int.emod_eq_of_lt h h1, Int.toNat_of_nonneg h]

theorem accLen_uint (tot : Nat) (len : UInt32) (h1 : (tot : Int) + len.toNat < 2 ^ 64) :
    ((CoordIO.accLen tot len : Nat) : Int) = tot + len.toNat := by
  show (((tot + len.toNat) % 2 ^ 64 : Nat) : Int) = tot + len.toNat
  rw [Nat.mod_eq_of_lt (by exact_mod_cast h1)]; rfl

/-- for `double` the accumulator truncates after the addition: exact on integral end points -/
theorem accLen_rat (tot : Nat) (x : Range Rat) (hb : x.b = (x.b.floor : Rat)) (he : x.e = (x.e.floor : Rat))
    (h0 : 0 ≤ x.e.floor - x.b.floor) :
    ((CoordIO.accLen tot x.length : Nat) : Int) = tot + (x.e.floor - x.b.floor) := by
  have hlen : x.length = ((x.e.floor - x.b.floor : Int) : Rat) := by
    rw [Range.length, Rat.intCast_sub, ← hb, ← he]
  simp only [CoordIO.accLen]
  rw [hlen, ← Rat.intCast_natCast, ← Rat.intCast_add, Rat.floor_intCast]
  omega

theorem sum_length_nonneg (m : List (Range Int)) (hm : MultiRange.Inv m) : 0 ≤ (m.map Range.length).sum := by
  induction m with
  | nil => exact Int.le_refl 0
  | cons x xs ih =>
    obtain ⟨hx, -, hxs⟩ := hm.of_cons
    have := ih hxs
    simp only [List.map_cons, List.sum_cons, Range.length]
    omega

/-- on an ascending list of disjoint ranges the sum of the lengths is at most the span -/
theorem sum_le_hull (m : List (Range Int)) (hm : MultiRange.Inv m) (B L : Int)
    (hB : ∀ x ∈ m, x.e ≤ B) (hL : ∀ x ∈ m, L ≤ x.b) (hLB : L ≤ B) : (m.map Range.length).sum ≤ B - L := by
  induction m generalizing L with
  | nil => simp; omega
  | cons x xs ih =>
    obtain ⟨hx, hR, hxs⟩ := hm.of_cons
    have hBx := hB x (by simp)
    have hLx := hL x (by simp)
    have := ih hxs x.e (fun y hy => hB y (by simp [hy])) (fun y hy => hR y hy) hBx
    simp only [List.map_cons, List.sum_cons, Range.length]
    omega

/-- the `size_t` accumulator of `totalLength` holds the exact sum of the lengths whenever each
single `tot += len` is exact for non-negative lengths below 2^64 (`hacc`, a property of the
coordinate type) and the list is an ascending list of disjoint ranges ending below 2^64 -/
theorem fold_acc_exact {α : Type} [Sub α] [CoordIO α] (toI : Range α → Range Int)
    (m : List (Range α))
    (hacc : ∀ (tot : Nat) (x : Range α), x ∈ m → 0 ≤ (toI x).length →
      (tot : Int) + (toI x).length < 2 ^ 64 →
      ((CoordIO.accLen tot x.length : Nat) : Int) = tot + (toI x).length)
    (hm : MultiRange.Inv (m.map toI)) (hB : ∀ x ∈ m, (toI x).e < 2 ^ 63)
    (hL : ∀ x ∈ m, -(2 : Int) ^ 63 ≤ (toI x).b) :
    (RangeCollection.totalLength m : Int) = ((m.map toI).map Range.length).sum := by
  -- the whole sum fits, and going through the list what is still to come is non-negative
  have hall := sum_le_hull _ hm ((2:Int)^63 - 1) (-(2:Int)^63)
    (fun y hy => by obtain ⟨z, hz, rfl⟩ := List.mem_map.mp hy; have := hB z hz; omega)
    (fun y hy => by obtain ⟨z, hz, rfl⟩ := List.mem_map.mp hy; exact hL z hz) (by omega)
  suffices h : ∀ (l : List (Range α)) (tot : Nat), (∀ x ∈ l, x ∈ m) → MultiRange.Inv (l.map toI) →
      (tot : Int) + ((l.map toI).map Range.length).sum < 2 ^ 64 →
      ((l.foldl (fun tot x => CoordIO.accLen tot x.length) tot : Nat) : Int)
        = tot + ((l.map toI).map Range.length).sum by
    simpa [RangeCollection.totalLength] using h m 0 (fun _ hx => hx) hm (by omega)
  intro l
  induction l with
  | nil => intro tot _ _ _; simp
  | cons x xs ih =>
    intro tot hsub hinv hlt
    obtain ⟨hx, -, hxs⟩ := Inv.of_cons (x := toI x) hinv
    have hpos : 0 < (toI x).length := by show 0 < (toI x).e - (toI x).b; omega
    have h0 := sum_length_nonneg _ hxs
    rw [List.map_cons, List.map_cons, List.sum_cons] at hlt ⊢
    have e := hacc tot x (hsub x List.mem_cons_self) (by omega) (by omega)
    rw [List.foldl_cons, ih _ (fun y hy => hsub y (List.mem_cons_of_mem _ hy)) hxs (by rw [e]; omega), e]
    omega

end MultiRange
end Bpp
