import BppProofs.Lemmas.LapFullInv
/-! Helper lemmas for C04 (`lap`, the whole routine): column reduction and reduction transfer
establish the invariant. -/
namespace Bpp.Mx.Lap
open Bpp Bpp.Mx

/-- the column reduction once the columns `lo..n-1` are done (`colMinRow n c j` = the first row holding the
minimum of column `j`): their prices are the column minima, a row that holds a minimum has exactly the last
such column, `mt` counts the minima of a row -/
structure ColRedInv (n : Nat) (c : Nat → Nat → ℝ) (lo : Nat) (s : CR ℝ) : Prop where
  vmin : ∀ j, lo ≤ j → j < n → s.v j = c (colMinRow n c j) j
  col : ∀ j, lo ≤ j → j < n →
    s.colSol j = -1 ∨ (s.colSol j = (colMinRow n c j : Int) ∧ s.rowSol (colMinRow n c j) = (j : Int))
  mt0 : ∀ i, s.mt i = 0 → ∀ j, lo ≤ j → j < n → colMinRow n c j ≠ i
  mtpos : ∀ i, s.mt i ≠ 0 → ∃ j, lo ≤ j ∧ j < n ∧ colMinRow n c j = i ∧ s.rowSol i = (j : Int) ∧ s.colSol j = (i : Int)
  mtle : ∀ i, s.mt i ≤ n - lo

/-- column `n - 1 - t` goes to the row of its minimum if that row has no column yet -/
theorem ColRedInv.step {n : Nat} (hn : n < 32768) {c : Nat → Nat → ℝ} {t : Nat} (ht : t < n) {s : CR ℝ}
    (h : ColRedInv n c (n - t) s) : ColRedInv n c (n - (t + 1)) (colRedStep n c t s) := by
  obtain ⟨J, hJ⟩ : ∃ J, J = n - 1 - t := ⟨_, rfl⟩
  obtain ⟨I, hI⟩ : ∃ I, I = colMinRow n c J := ⟨_, rfl⟩
  have hstep : colRedStep n c t s =
      { rowSol := if s.mt I = 0 then upd s.rowSol I (J : Int) else s.rowSol,
        colSol := upd s.colSol J (if s.mt I = 0 then (I : Int) else -1),
        v := upd s.v J (c I J), mt := upd s.mt I (s.mt I + 1) } := by
    have hm : s.mt I + 1 < 32768 := by have := h.mtle I; omega
    simp only [colRedStep, ← hJ, ← hI]
    by_cases hm0 : s.mt I = 0
    · rw [if_pos ((toShort_eq_one hm).2 (by rw [hm0])), if_pos hm0, if_pos hm0]
    · rw [if_neg (fun h => hm0 (Nat.succ.inj ((toShort_eq_one hm).1 h))), if_neg hm0, if_neg hm0]
  rw [hstep]
  refine ⟨?_, ?_, ?_, ?_, ?_⟩ <;> dsimp only
  · intro j h1 h2
    by_cases hj : j = J
    · rw [hj, hI]; exact upd_same _ _ _
    · exact (upd_ne _ _ hj).trans (h.vmin j (by omega) h2)
  · intro j h1 h2
    by_cases hj : j = J
    · rw [hj, upd_same, ← hI]
      by_cases hm0 : s.mt I = 0
      · exact Or.inr ⟨if_pos hm0, by rw [if_pos hm0]; exact upd_same _ _ _⟩
      · exact Or.inl (if_neg hm0)
    · rw [upd_ne _ _ hj]
      rcases h.col j (by omega) h2 with h3 | ⟨h3, h4⟩
      · exact Or.inl h3
      · refine Or.inr ⟨h3, ?_⟩
        by_cases hm0 : s.mt I = 0
        · rw [if_pos hm0, upd_ne _ _ (h.mt0 I hm0 j (by omega) h2)]; exact h4
        · rw [if_neg hm0]; exact h4
  · intro i hi j h1 h2
    by_cases hiI : i = I
    · rw [hiI] at hi; exact absurd ((upd_same _ _ _).symm.trans hi) (Nat.succ_ne_zero _)
    · by_cases hj : j = J
      · rw [hj, ← hI]; exact fun e => hiI e.symm
      · exact h.mt0 i ((upd_ne _ _ hiI).symm.trans hi) j (by omega) h2
  · intro i hi
    by_cases hiI : i = I
    · rw [hiI]
      by_cases hm0 : s.mt I = 0
      · exact ⟨J, by omega, by omega, hI.symm, by rw [if_pos hm0]; exact upd_same _ _ _, by rw [upd_same, if_pos hm0]⟩
      · obtain ⟨j, h1, h2, h3, h4, h5⟩ := h.mtpos I hm0
        exact ⟨j, by omega, h2, h3, by rw [if_neg hm0]; exact h4, by rw [upd_ne _ _ (by omega)]; exact h5⟩
    · obtain ⟨j, h1, h2, h3, h4, h5⟩ := h.mtpos i ((upd_ne _ _ hiI).symm.trans_ne hi)
      refine ⟨j, by omega, h2, h3, ?_, by rw [upd_ne _ _ (by omega)]; exact h5⟩
      by_cases hm0 : s.mt I = 0
      · rw [if_pos hm0, upd_ne _ _ hiI]; exact h4
      · rw [if_neg hm0]; exact h4
  · intro i
    by_cases hiI : i = I
    · rw [hiI, upd_same]; have := h.mtle I; omega
    · rw [upd_ne _ _ hiI]; have := h.mtle i; omega

theorem colRed_spec (n : Nat) (hn : n < 32768) (c : Nat → Nat → ℝ) (rs0 cs0 : Nat → Int) (v0 : Nat → ℝ) :
    ColRedInv n c 0 (colRed n c { rowSol := rs0, colSol := cs0, v := v0, mt := fun _ => 0 }) := by
  have key := foldl_range_inv (fun t s => ColRedInv n c (n - t) s) n (fun s t => colRedStep n c t s)
    { rowSol := rs0, colSol := cs0, v := v0, mt := fun _ => 0 }
    ⟨fun j h1 h2 => by omega, fun j h1 h2 => by omega, fun i _ j h1 h2 => by omega, fun i h => absurd rfl h,
      fun i => Nat.zero_le _⟩
    (fun t s ht h => h.step hn ht)
  rwa [Nat.sub_self] at key

/-- the state handed to the augmenting row reduction / the augmentation: the invariant with the
rows `free[0..numFree-1]` free, each listed once -/
structure CoreInv (n : Nat) (c : Nat → Nat → ℝ) (s : Core ℝ) : Prop where
  inv : Inv n c s.rowSol s.colSol s.v (FL s.free (fun t => t < s.numFree))
  inj : InjOnI s.free (fun t => t < s.numFree)
  le : s.numFree ≤ n
  n2 : s.numFree = 0 ∨ 2 ≤ n

/-- invariant of the reduction transfer before row `i` -/
structure RTInv (n : Nat) (c : Nat → Nat → ℝ) (cr : CR ℝ) (i : Nat) (s : RT ℝ) : Prop where
  vle : ∀ j, j < n → ∀ i', i' < n → s.v j ≤ c i' j
  untouched : ∀ i', i ≤ i' → i' < n → cr.mt i' ≠ 0 → ∀ j : Nat, cr.rowSol i' = (j : Int) → s.v j = c i' j
  tight : ∀ j, j < n → ∀ i' : Nat, cr.colSol j = (i' : Int) → ∀ k, k < n → c i' j - s.v j ≤ c i' k - s.v k
  nfle : s.numFree ≤ i
  fr : ∀ t, t < s.numFree → s.free t < i ∧ cr.mt (s.free t) = 0
  mono : ∀ t t', t < t' → t' < s.numFree → s.free t < s.free t'
  cover : ∀ i', i' < i → cr.mt i' = 0 → ∃ t, t < s.numFree ∧ s.free t = i'
  strict : (∃ i', i' < i ∧ cr.mt i' ≠ 0) → s.numFree < i

theorem rtStep_good (n : Nat) (hn : n < 32768) (c : Nat → Nat → ℝ) (cr : CR ℝ) (hcr : ColRedInv n c 0 cr) (B : Prop)
    (i : Nat) (hi : i < n) (s : RT ℝ) (h : RTInv n c cr i s) :
    Good B (rtStep n c cr.rowSol cr.mt i s) (RTInv n c cr (i + 1)) := by
  have hmt : cr.mt i < 32768 := by have := hcr.mtle i; omega
  unfold rtStep
  by_cases h0 : cr.mt i = 0
  · rw [if_pos ((toShort_eq_zero hmt).2 h0)]
    have hnf : s.numFree < n := by have := h.nfle; omega
    rw [wr_of_lt _ _ hnf]
    apply Good.ok
    refine ⟨h.vle, fun i' h1 h2 h3 => h.untouched i' (by omega) h2 h3, h.tight, by simp; exact h.nfle, ?_, ?_, ?_, ?_⟩
    · intro t ht
      simp only at ht ⊢
      by_cases htn : t = s.numFree
      · subst htn; simp; exact h0
      · rw [upd_ne _ _ htn]
        have := h.fr t (by omega)
        exact ⟨by omega, this.2⟩
    · intro t t' htt ht'
      simp only at ht' ⊢
      have htn : t ≠ s.numFree := by omega
      rw [upd_ne _ _ htn]
      by_cases htn' : t' = s.numFree
      · subst htn'; simp; exact (h.fr t htt).1
      · rw [upd_ne _ _ htn']; exact h.mono t t' htt (by omega)
    · intro i' hi' hm
      by_cases hii : i' = i
      · subst hii; exact ⟨s.numFree, by simp, by simp⟩
      · obtain ⟨t, ht, hft⟩ := h.cover i' (by omega) hm
        have htn : t ≠ s.numFree := by omega
        exact ⟨t, by simp; omega, by simp only [upd_ne _ _ htn]; exact hft⟩
    · rintro ⟨i', hi', hm⟩
      have hii : i' ≠ i := fun e => hm (e ▸ h0)
      have := h.strict ⟨i', by omega, hm⟩
      simp; omega
  · have hz : ¬ toShort (cr.mt i) = 0 := fun e => h0 ((toShort_eq_zero hmt).1 e)
    rw [if_neg hz]
    -- whatever happens to `v`, the list of free rows moves on
    have hrest : ∀ v', (∀ t, t < s.numFree → s.free t < i + 1 ∧ cr.mt (s.free t) = 0) ∧
        (∀ i', i' < i + 1 → cr.mt i' = 0 → ∃ t, t < s.numFree ∧ s.free t = i') ∧
        ((∃ i', i' < i + 1 ∧ cr.mt i' ≠ 0) → ({ s with v := v' } : RT ℝ).numFree < i + 1) := by
      intro v'
      refine ⟨fun t ht => ⟨by have := (h.fr t ht).1; omega, (h.fr t ht).2⟩, ?_, ?_⟩
      · intro i' hi' hm
        have hii : i' ≠ i := fun e => h0 (e ▸ hm)
        exact h.cover i' (by omega) hm
      · intro _; have := h.nfle; simp; omega
    by_cases h1 : toShort (cr.mt i) = 1 ∧ n > 1
    · rw [if_pos h1]
      obtain ⟨j, _, hj, him, hrs, hcs⟩ := hcr.mtpos i h0
      have hsz : szOfInt (cr.rowSol i) = j := by rw [hrs]; exact szOfInt_ofNat j (by omega)
      simp only [hsz]
      obtain ⟨m, em, T1, j0, hj0, hj0ne, hm⟩ := transferMin_spec n c s.v i j h1.2
      rw [em]
      simp only [rd_of_lt _ hj]
      apply Good.ok
      have hvj : s.v j = c i j := h.untouched i (Nat.le_refl i) hi h0 j hrs
      have hm0 : 0 ≤ m := by rw [hm]; linarith only [h.vle j0 hj0 i hi]
      obtain ⟨r1, r2, r3⟩ := hrest (upd s.v j (s.v j - m))
      refine ⟨?_, ?_, ?_, by have := h.nfle; simp; omega, r1, h.mono, r2, r3⟩
      · intro j' hj' i' hi'
        simp only
        by_cases hjj : j' = j
        · subst hjj; simp; linarith only [h.vle j' hj' i' hi', hm0]
        · rw [upd_ne _ _ hjj]; exact h.vle j' hj' i' hi'
      · intro i' h1' h2 h3 j' hrs'
        simp only
        have hne : j' ≠ j := by
          intro e
          subst e
          obtain ⟨j'', _, _, _, hrs'', hcs''⟩ := hcr.mtpos i' h3
          have : j'' = j' := by omega
          subst this
          rw [hcs] at hcs''
          omega
        rw [upd_ne _ _ hne]
        exact h.untouched i' (by omega) h2 h3 j' hrs'
      · intro j' hj' i' hcs' k hk
        simp only
        by_cases hjj : j' = j
        · subst hjj
          have : i' = i := by rw [hcs] at hcs'; omega
          subst this
          simp only [upd_same]
          by_cases hkj : k = j'
          · subst hkj; simp
          · rw [upd_ne _ _ hkj]
            rw [hvj]; linarith only [T1 k hk hkj]
        · rw [upd_ne _ _ hjj]
          have hold := h.tight j' hj' i' hcs' k hk
          by_cases hkj : k = j
          · subst hkj; simp only [upd_same]; linarith only [hold, hm0]
          · rw [upd_ne _ _ hkj]; exact hold
    · rw [if_neg h1]
      apply Good.ok
      obtain ⟨r1, r2, r3⟩ := hrest s.v
      exact ⟨h.vle, fun i' h1' h2 h3 => h.untouched i' (by omega) h2 h3, h.tight, by have := h.nfle; omega, r1, h.mono, r2, r3⟩

theorem redTransfer_good (n : Nat) (hn : n < 32768) (c : Nat → Nat → ℝ) (cr : CR ℝ) (hcr : ColRedInv n c 0 cr) (B : Prop) :
    Good B (redTransfer n c cr.rowSol cr.mt { v := cr.v, free := fun _ => 0, numFree := 0 })
      (fun rt => CoreInv n c { rowSol := cr.rowSol, colSol := cr.colSol, v := rt.v, free := rt.free, numFree := rt.numFree, j2 := none }) := by
  have hvle : ∀ j, j < n → ∀ i', i' < n → cr.v j ≤ c i' j := by
    intro j hj i' hi'
    rw [hcr.vmin j (Nat.zero_le _) hj]
    exact (colMinRow_spec n c j (by omega)).2 i' hi'
  have hloop := loopM_good (B := B) (RTInv n c cr) n (rtStep n c cr.rowSol cr.mt) { v := cr.v, free := fun _ => 0, numFree := 0 }
    (by
      refine ⟨hvle, ?_, ?_, Nat.le_refl 0, fun t ht => by simp at ht, fun t t' _ ht' => by simp at ht',
        fun i' hi' => by omega, fun ⟨i', hi', _⟩ => by omega⟩
      · intro i' _ hi' hm j hrs
        obtain ⟨j', _, hj', him, hrs', _⟩ := hcr.mtpos i' hm
        have : j' = j := by omega
        subst this
        show cr.v j' = c i' j'
        rw [hcr.vmin j' (Nat.zero_le _) hj', him]
      · intro j hj i' hcs k hk
        show c i' j - cr.v j ≤ c i' k - cr.v k
        rcases hcr.col j (Nat.zero_le _) hj with h | ⟨h1, _⟩
        · rw [h] at hcs; omega
        · have hi' : i' = colMinRow n c j := by omega
          have hlt : i' < n := by rw [hi']; exact (colMinRow_spec n c j (by omega)).1
          have h2 := hvle k hk i' hlt
          rw [hcr.vmin j (Nat.zero_le _) hj, ← hi']
          linarith)
    (fun i s hi h => rtStep_good n hn c cr hcr B i hi s h)
  unfold redTransfer
  refine hloop.mono (fun rt h => ?_)
  have hFiff : ∀ x, FL rt.free (fun t => t < rt.numFree) x ↔ (x < n ∧ cr.mt x = 0) := by
    intro x
    constructor
    · rintro ⟨t, ht, rfl⟩
      exact h.fr t ht
    · rintro ⟨hx, hm⟩
      obtain ⟨t, ht, hft⟩ := h.cover x hx hm
      exact ⟨t, ht, hft⟩
  refine ⟨⟨?_, ?_, ?_, ?_⟩, ?_, h.nfle, ?_⟩
  · intro j hj i' hcs
    show i' < n ∧ cr.rowSol i' = (j : Int)
    simp only at hcs
    rcases hcr.col j (Nat.zero_le _) hj with h1 | ⟨h1, h2⟩
    · rw [h1] at hcs; omega
    · have hi' : i' = colMinRow n c j := by omega
      rw [hi']
      exact ⟨(colMinRow_spec n c j (by omega)).1, h2⟩
  · intro i hi hnf
    have hm : cr.mt i ≠ 0 := fun e => hnf ((hFiff i).2 ⟨hi, e⟩)
    obtain ⟨j, _, hj, _, hrs, hcs⟩ := hcr.mtpos i hm
    exact ⟨j, hj, hrs, hcs⟩
  · intro i hf
    obtain ⟨hi, hm⟩ := (hFiff i).1 hf
    refine ⟨hi, fun j hj => ?_⟩
    show cr.colSol j ≠ (i : Int)
    rcases hcr.col j (Nat.zero_le _) hj with h1 | ⟨h1, _⟩
    · rw [h1]; omega
    · rw [h1]
      have := hcr.mt0 i hm j (Nat.zero_le _) hj
      omega
  · exact h.tight
  · intro t t' ht ht' he
    rcases Nat.lt_trichotomy t t' with hlt | heq | hgt
    · have := h.mono t t' hlt ht'; simp only at he; omega
    · exact heq
    · have := h.mono t' t hgt ht; simp only at he; omega
  · show rt.numFree = 0 ∨ 2 ≤ n
    by_cases hn2 : 2 ≤ n
    · exact Or.inr hn2
    · left
      have hle := h.nfle
      by_cases hn0 : n = 0
      · omega
      · have hn1 : n = 1 := by omega
        have him : colMinRow n c 0 < n := (colMinRow_spec n c 0 (by omega)).1
        have hm : cr.mt 0 ≠ 0 := fun e => hcr.mt0 0 e 0 (Nat.zero_le _) (by omega) (by omega)
        have := h.strict ⟨0, by omega, hm⟩
        omega

end Bpp.Mx.Lap
