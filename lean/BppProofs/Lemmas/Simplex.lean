import BppModel.Simplex
import BppProofs.Lemmas.ScalarReal
/-! Lemmas about the value-level model `BppModel/Simplex.lean` over `ℝ`, in this order: the global-ratio and the
local-ratio coding, parameters → probabilities and back (induction on the list); the binary coding (walks `W`,
masses `M`); the two maps of OrderedSimplex; the three codings through `probsOf` / `paramsOf`; the object `St`
(invariant `Inv`, each operation, histories `run`); the ordered object `OSt` (`OInv`). -/
namespace Bpp.Simplex
open Bpp

def AllPos (l : List ℝ) : Prop := ∀ x ∈ l, 0 < x
def InOpen (l : List ℝ) : Prop := ∀ x ∈ l, 0 < x ∧ x < 1

theorem allPos_cons {a : ℝ} {l : List ℝ} : AllPos (a :: l) ↔ 0 < a ∧ AllPos l := List.forall_mem_cons
theorem inOpen_cons {a : ℝ} {l : List ℝ} : InOpen (a :: l) ↔ (0 < a ∧ a < 1) ∧ InOpen l :=
  List.forall_mem_cons

theorem probsGlobal_length (θ : List ℝ) (x : ℝ) : (probsGlobal θ x).length = θ.length + 1 := by
  induction θ generalizing x with
  | nil => simp [probsGlobal]
  | cons th rest ih => simp [probsGlobal, ih]

theorem probsGlobal_sum (θ : List ℝ) (x : ℝ) : (probsGlobal θ x).sum = x := by
  induction θ generalizing x with
  | nil => simp [probsGlobal]
  | cons th rest ih => simp [probsGlobal, ih]; ring

theorem probsGlobal_nonneg (θ : List ℝ) (x : ℝ) (hx : 0 ≤ x) (h : ∀ t ∈ θ, 0 ≤ t ∧ t ≤ 1) :
    ∀ p ∈ probsGlobal θ x, 0 ≤ p := by
  induction θ generalizing x with
  | nil => exact List.forall_mem_singleton.mpr hx
  | cons th rest ih =>
    obtain ⟨ht, hr⟩ := List.forall_mem_cons.mp h
    refine List.forall_mem_cons.mpr ⟨mul_nonneg ht.1 hx, ih _ (mul_nonneg hx ?_) hr⟩
    rw [ScalarReal.one_eq]; exact sub_nonneg.mpr ht.2

theorem probsGlobal_pos (θ : List ℝ) (x : ℝ) (hx : 0 < x) (h : InOpen θ) :
    AllPos (probsGlobal θ x) := by
  induction θ generalizing x with
  | nil => exact List.forall_mem_singleton.mpr hx
  | cons th rest ih =>
    obtain ⟨ht, hr⟩ := inOpen_cons.mp h
    refine allPos_cons.mpr ⟨mul_pos ht.1 hx, ih _ (mul_pos hx ?_) hr⟩
    rw [ScalarReal.one_eq]; exact sub_pos.mpr ht.2

theorem paramsGlobal_length (p : List ℝ) (y : ℝ) : (paramsGlobal p y).length = p.length - 1 := by
  induction p generalizing y with
  | nil => rfl
  | cons a rest ih =>
    cases rest with
    | nil => rfl
    | cons b r => exact (congrArg (· + 1) (ih (y - a))).trans rfl

theorem global_roundtrip (p : List ℝ) (y : ℝ) (hp : AllPos p) (hne : p ≠ []) (hs : p.sum = y) :
    probsGlobal (paramsGlobal p y) y = p := by
  induction p generalizing y with
  | nil => exact absurd rfl hne
  | cons a rest ih =>
    cases rest with
    | nil => rw [List.sum_singleton] at hs; rw [hs]; rfl
    | cons b r =>
      obtain ⟨ha, hrest⟩ := allPos_cons.mp hp
      have hpos := List.sum_pos _ hrest (List.cons_ne_nil b r)
      rw [List.sum_cons] at hs
      have hy : y ≠ 0 := by linarith
      simp only [paramsGlobal, probsGlobal, ScalarReal.one_eq]
      rw [div_mul_cancel₀ a hy, mul_sub, mul_one, mul_div_cancel₀ a hy,
        ih (y - a) hrest (List.cons_ne_nil b r) (eq_sub_of_add_eq' hs)]

theorem paramsGlobal_inOpen (p : List ℝ) (y : ℝ) (hp : AllPos p) (hs : p.sum = y) :
    InOpen (paramsGlobal p y) := by
  induction p generalizing y with
  | nil => exact List.forall_mem_nil _
  | cons a rest ih =>
    cases rest with
    | nil => exact List.forall_mem_nil _
    | cons b r =>
      obtain ⟨ha, hrest⟩ := allPos_cons.mp hp
      rw [List.sum_cons] at hs
      have hay : a < y := hs ▸ lt_add_of_pos_right a (List.sum_pos _ hrest (List.cons_ne_nil b r))
      exact inOpen_cons.mpr ⟨⟨div_pos ha (ha.trans hay), (div_lt_one (ha.trans hay)).mpr hay⟩,
        ih (y - a) hrest (eq_sub_of_add_eq' hs)⟩

theorem global_left_inverse (θ : List ℝ) (x : ℝ) (hx : x ≠ 0) (h : ∀ t ∈ θ, t ≠ 1) :
    paramsGlobal (probsGlobal θ x) x = θ := by
  induction θ generalizing x with
  | nil => rfl
  | cons th rest ih =>
    obtain ⟨ht, hr⟩ := List.forall_mem_cons.mp h
    simp only [probsGlobal, ScalarReal.one_eq]
    obtain ⟨q, r, hq⟩ := List.exists_cons_of_ne_nil
      (show probsGlobal rest (x * (1 - th)) ≠ [] by cases rest <;> simp [probsGlobal])
    rw [hq, paramsGlobal, ← hq, mul_div_cancel_right₀ th hx, mul_comm th x, ← mul_one_sub,
      ih (x * (1 - th)) (mul_ne_zero hx (sub_ne_zero.mpr ht.symm)) hr]

theorem rawLocal_length (al : List ℝ) (c : ℝ) : (rawLocal al c).length = al.length + 1 := by
  induction al generalizing c with
  | nil => simp [rawLocal]
  | cons a r ih => simp [rawLocal, ih]

theorem normLocal_eq (al : List ℝ) : normLocal (rawLocal al 1) = (rawLocal al 1).sum := by
  cases al with
  | nil => simp [normLocal, rawLocal]
  | cons a r => simp [normLocal, rawLocal, List.foldl_eq_apply_foldr, ← List.sum_eq_foldr]

theorem rawLocal_pos (al : List ℝ) (c : ℝ) (hc : 0 < c) (h : AllPos al) : AllPos (rawLocal al c) := by
  induction al generalizing c with
  | nil => exact List.forall_mem_singleton.mpr hc
  | cons a r ih =>
    obtain ⟨ha, hr⟩ := allPos_cons.mp h
    exact allPos_cons.mpr ⟨hc, ih (c * a) (mul_pos hc ha) hr⟩

theorem alphas_pos (θ : List ℝ) (h : InOpen θ) : AllPos (alphas θ) := by
  intro x hx
  obtain ⟨t, ht, rfl⟩ := List.mem_map.mp hx
  rw [ScalarReal.one_eq]
  exact div_pos (sub_pos.mpr (h t ht).2) (h t ht).1

theorem alpha_of_ratio {a b : ℝ} (hab : a + b ≠ 0) :
    (1 - a / (a + b)) / (a / (a + b)) = b / a := by
  rw [one_sub_div hab, add_sub_cancel_left, div_div_div_cancel_right₀ hab]

theorem ratio_of_alpha {t : ℝ} (ht : t ≠ 0) : 1 / (1 + (1 - t) / t) = t := by
  rw [one_add_div ht, add_sub_cancel, one_div_one_div]

/-- raw products from the parameters of a positive vector: `c / a · q` -/
theorem rawLocal_params (a : ℝ) (rest : List ℝ) (c : ℝ) (hp : AllPos (a :: rest)) :
    rawLocal (alphas (paramsLocal (a :: rest))) c = (a :: rest).map (fun q => c / a * q) := by
  induction rest generalizing a c with
  | nil => exact congrArg (· :: []) (div_mul_cancel₀ c (allPos_cons.mp hp).1.ne').symm
  | cons b r ih =>
    obtain ⟨ha, hr⟩ := allPos_cons.mp hp
    have hb := (allPos_cons.mp hr).1
    rw [paramsLocal, alphas, List.map_cons, ← alphas, rawLocal, ScalarReal.one_eq,
      alpha_of_ratio (add_pos ha hb).ne', ih b _ hr, mul_div_assoc, div_div_cancel_left' hb.ne',
      ← div_eq_mul_inv, List.map_cons (a := a), div_mul_cancel₀ c ha.ne']

theorem TINY_pos : (0:ℝ) < (TINY : ℝ) := by simp [TINY]
theorem TINY_lt_one : (TINY : ℝ) < 1 := by norm_num [TINY]

theorem sum_map_div (l : List ℝ) (x : ℝ) : (l.map (fun v => v / x)).sum = l.sum / x := by
  induction l with
  | nil => simp
  | cons a r ih => simp [ih, add_div]

theorem rawLocal_sum_ge (al : List ℝ) (c : ℝ) (hc : 0 < c) (h : AllPos al) : c ≤ (rawLocal al c).sum :=
  List.single_le_sum (fun x hx => (rawLocal_pos al c hc h x hx).le) c
    (by cases al <;> exact List.mem_cons_self)

theorem probsLocal_eq (dim : Nat) (θ : List ℝ) (h : InOpen θ) :
    probsLocal dim θ = (rawLocal (alphas θ) 1).map (fun v => v / (rawLocal (alphas θ) 1).sum) := by
  have hge := rawLocal_sum_ge (alphas θ) 1 one_pos (alphas_pos θ h)
  simp only [probsLocal, ScalarReal.one_eq, normLocal_eq, ScalarReal.gtb_iff]
  rw [if_pos (TINY_lt_one.trans_le hge)]

theorem probsLocal_length (dim : Nat) (θ : List ℝ) : (probsLocal dim θ).length = θ.length + 1 := by
  simp only [probsLocal]; split <;> simp [rawLocal_length, alphas]

theorem probsLocal_sum (dim : Nat) (θ : List ℝ) (h : InOpen θ) : (probsLocal dim θ).sum = 1 := by
  have hge := rawLocal_sum_ge (alphas θ) 1 one_pos (alphas_pos θ h)
  rw [probsLocal_eq dim θ h, sum_map_div]; exact div_self (one_pos.trans_le hge).ne'

theorem probsLocal_pos (dim : Nat) (θ : List ℝ) (h : InOpen θ) : AllPos (probsLocal dim θ) := by
  have hge := rawLocal_sum_ge (alphas θ) 1 one_pos (alphas_pos θ h)
  rw [probsLocal_eq dim θ h]
  intro p hp
  obtain ⟨v, hv, rfl⟩ := List.mem_map.mp hp
  exact div_pos (rawLocal_pos _ 1 one_pos (alphas_pos θ h) v hv) (one_pos.trans_le hge)

theorem paramsLocal_length (p : List ℝ) : (paramsLocal p).length = p.length - 1 := by
  induction p with
  | nil => rfl
  | cons a rest ih =>
    cases rest with
    | nil => rfl
    | cons b r => exact (congrArg (· + 1) ih).trans rfl

theorem paramsLocal_inOpen (p : List ℝ) (hp : AllPos p) : InOpen (paramsLocal p) := by
  induction p with
  | nil => exact List.forall_mem_nil _
  | cons a rest ih =>
    cases rest with
    | nil => exact List.forall_mem_nil _
    | cons b r =>
      obtain ⟨ha, hr⟩ := allPos_cons.mp hp
      have hab := add_pos ha (allPos_cons.mp hr).1
      exact inOpen_cons.mpr
        ⟨⟨div_pos ha hab, (div_lt_one hab).mpr (lt_add_of_pos_right a (allPos_cons.mp hr).1)⟩, ih hr⟩

theorem local_roundtrip_normalises (dim : Nat) (p : List ℝ) (hp : AllPos p) (hne : p ≠ []) :
    probsLocal dim (paramsLocal p) = p.map (fun q => q / p.sum) := by
  obtain ⟨a, rest, rfl⟩ := List.exists_cons_of_ne_nil hne
  have ha := (allPos_cons.mp hp).1
  rw [probsLocal_eq dim _ (paramsLocal_inOpen _ hp), rawLocal_params a rest 1 hp, List.sum_map_mul_left,
    List.map_id', List.map_map]
  exact List.map_congr_left fun q _ => mul_div_mul_left q _ (one_div_ne_zero ha.ne')

theorem local_roundtrip (dim : Nat) (p : List ℝ) (hp : AllPos p) (hne : p ≠ []) (hs : p.sum = 1) :
    probsLocal dim (paramsLocal p) = p := by
  rw [local_roundtrip_normalises dim p hp hne, hs]; simp

theorem paramsLocal_scale (l : List ℝ) {x : ℝ} (hx : x ≠ 0) :
    paramsLocal (l.map (fun v => v / x)) = paramsLocal l := by
  induction l with
  | nil => rfl
  | cons a rest ih =>
    cases rest with
    | nil => rfl
    | cons b r =>
      simp only [List.map_cons, paramsLocal] at ih ⊢
      rw [ih, ← add_div, div_div_div_cancel_right₀ hx]

theorem paramsLocal_raw (al : List ℝ) (c : ℝ) (hc : 0 < c) (h : AllPos al) :
    paramsLocal (rawLocal al c) = al.map (fun a => 1 / (1 + a)) := by
  induction al generalizing c with
  | nil => rfl
  | cons a r ih =>
    obtain ⟨ha, hr⟩ := allPos_cons.mp h
    have e : c / (c + c * a) = 1 / (1 + a) := by rw [← mul_one_add, div_mul_eq_div_div, div_self hc.ne']
    have := ih (c * a) (mul_pos hc ha) hr
    cases r with
    | nil => exact congrArg (· :: []) e
    | cons b r' =>
      rw [rawLocal, rawLocal, paramsLocal, ← rawLocal, this, e, List.map_cons (a := a)]

theorem local_left_inverse (dim : Nat) (θ : List ℝ) (h : InOpen θ) :
    paramsLocal (probsLocal dim θ) = θ := by
  have hα := alphas_pos θ h
  have hge := rawLocal_sum_ge (alphas θ) 1 one_pos hα
  rw [probsLocal_eq dim θ h, paramsLocal_scale _ (one_pos.trans_le hge).ne', paramsLocal_raw _ 1 one_pos hα,
    alphas, List.map_map]
  conv_rhs => rw [← List.map_id θ]
  refine List.map_congr_left fun t ht => ?_
  simp only [Function.comp, ScalarReal.one_eq, id]
  exact ratio_of_alpha (h t ht).1.ne'

/-! Binary coding.  `W b k` is the walk of the code over the `b` low bits of `k`, `M b r` the mass of the
indices `≡ r (mod 2 ^ b)`.  Both split the same way from `b` to `b + 1` (`W_succ_lo` / `W_succ_hi`, `M_split`), so
the masses of the walk's probabilities are the partial walks (`marginal_walk`): at `b = 0` this is sum one, and
it makes the quotient of masses that the code takes as parameter (`thetaBinary_eq`) the parameter walked with
(`theta_of_walk`); the other way round the walk with those quotients telescopes to `M b k / M 0 0`
(`walk_of_theta`).  `b ≤ 64` throughout: `clearBit` is a 64-bit mask. -/

theorem clearBit_eq (k b : Nat) (hb : b < 64) (hk : k < 2 ^ (b + 1)) : clearBit k b = k % 2 ^ b := by
  apply Nat.eq_of_testBit_eq
  intro j
  simp only [clearBit, allOnes64, Nat.testBit_and, Nat.testBit_xor, Nat.testBit_mod_two_pow, Nat.one_shiftLeft,
    Nat.testBit_two_pow]
  have h64 : (0xFFFFFFFFFFFFFFFF : Nat) = 2 ^ 64 - 1 := by norm_num
  rw [h64, Nat.testBit_two_pow_sub_one]
  by_cases hj : j < b
  · have : j < 64 := by omega
    have : b ≠ j := by omega
    simp [*]
  · by_cases hjb : j = b
    · subst hjb; simp [hb]
    · have hlt : b + 1 ≤ j := by omega
      have : k.testBit j = false := by
        apply Nat.testBit_lt_two_pow
        exact lt_of_lt_of_le hk (Nat.pow_le_pow_right (by norm_num) hlt)
      simp [this, hj]

theorem clearBit_lo {k b : Nat} (hb : b < 64) (hk : k < 2 ^ b) : clearBit k b = k := by
  rw [clearBit_eq k b hb (hk.trans (Nat.pow_lt_pow_succ Nat.one_lt_two)), Nat.mod_eq_of_lt hk]

theorem clearBit_hi {k b : Nat} (hb : b < 64) (h1 : 2 ^ b ≤ k) (h2 : k < 2 ^ (b + 1)) :
    clearBit k b = k - 2 ^ b := by
  rw [clearBit_eq k b hb h2, Nat.mod_eq_sub_mod h1, Nat.mod_eq_of_lt (by rw [pow_succ] at h2; omega)]

theorem bitLen_zero : bitLen 0 = 0 := by rw [bitLen]; simp
theorem bitLen_pos (n : Nat) (h : n ≠ 0) : bitLen n = bitLen (n / 2) + 1 := by
  rw [bitLen]; simp [h, Nat.shiftRight_eq_div_pow]

theorem bitLen_le_iff (n B : Nat) : bitLen n ≤ B ↔ n < 2 ^ B := by
  induction B generalizing n with
  | zero =>
    by_cases hn : n = 0
    · subst hn; simp [bitLen_zero]
    · rw [bitLen_pos n hn]; simp [hn]
  | succ B ih =>
    by_cases hn : n = 0
    · subst hn; simp [bitLen_zero]
    · rw [bitLen_pos n hn, Nat.succ_le_succ_iff, ih, pow_succ]; omega

theorem lt_two_pow_bitLen (n : Nat) : n < 2 ^ bitLen n := (bitLen_le_iff n _).mp le_rfl

theorem bitLen_eq_of (k b : Nat) (h1 : 2 ^ b ≤ k) (h2 : k < 2 ^ (b + 1)) : bitLen k = b + 1 :=
  le_antisymm ((bitLen_le_iff k _).mpr h2)
    (Nat.lt_of_not_le fun h => absurd ((bitLen_le_iff k b).mp h) (Nat.not_lt.mpr h1))

theorem exists_topBit {i B : Nat} (h1 : 1 ≤ i) (hB : i < 2 ^ B) :
    ∃ b, b < B ∧ 2 ^ b ≤ i ∧ i < 2 ^ (b + 1) :=
  ⟨Nat.log 2 i, Nat.log_lt_of_lt_pow (Nat.ne_of_gt h1) hB, Nat.pow_log_le_self 2 (Nat.ne_of_gt h1),
    Nat.lt_pow_succ_log_self Nat.one_lt_two i⟩

/-- induction along the walk: an index below `2 ^ (b + 1)` either has bit `b` set, and the walk goes on
from `k - 2 ^ b`, or not, and it goes on from `k` -/
theorem walk_induction {P : Nat → Nat → Prop} (zero : P 0 0)
    (hi : ∀ b k, b < 64 → 2 ^ b ≤ k → k < 2 ^ (b + 1) → P b (k - 2 ^ b) → P (b + 1) k)
    (lo : ∀ b k, b < 64 → k < 2 ^ b → P b k → P (b + 1) k) :
    ∀ b ≤ 64, ∀ k < 2 ^ b, P b k := by
  intro b
  induction b with
  | zero => intro _ k hk; rw [Nat.lt_one_iff.mp hk]; exact zero
  | succ b ih =>
    intro hb k hk
    by_cases h1 : 2 ^ b ≤ k
    · exact hi b k hb h1 hk (ih (Nat.le_of_lt hb) _ (by rw [pow_succ] at hk; omega))
    · exact lo b k hb (Nat.lt_of_not_le h1) (ih (Nat.le_of_lt hb) k (Nat.lt_of_not_le h1))

section Walk

variable (dim : Nat) (θ : Nat → ℝ)

/-- the partial walk over the `b` low bits -/
noncomputable def W (b k : Nat) : ℝ := binWalk dim θ b k 1

theorem binWalk_mul (ld k : Nat) (x : ℝ) : binWalk dim θ ld k x = x * binWalk dim θ ld k 1 := by
  induction ld generalizing k x with
  | zero => simp [binWalk]
  | succ ld ih =>
    simp only [binWalk]
    rw [ih]
    conv_rhs => rw [ih]
    split
    · ring
    · split <;> ring

theorem W_zero (k : Nat) : W dim θ 0 k = 1 := by simp [W, binWalk]

theorem W_succ_hi (b k : Nat) (hb : b < 64) (h1 : 2 ^ b ≤ k) (h2 : k < 2 ^ (b + 1)) :
    W dim θ (b + 1) k = θ k * W dim θ b (k - 2 ^ b) := by
  have hs : k >>> b ≠ 0 := by
    rw [Nat.shiftRight_eq_div_pow]; exact (Nat.div_pos h1 (Nat.two_pow_pos b)).ne'
  simp only [W, binWalk, hs, ne_eq, not_false_eq_true, if_true, clearBit_hi hb h1 h2]
  rw [binWalk_mul, one_mul]

theorem W_succ_lo (b k : Nat) (hb : b < 64) (h1 : k < 2 ^ b) :
    W dim θ (b + 1) k = (if k + 2 ^ b < dim then 1 - θ (k + 2 ^ b) else 1) * W dim θ b k := by
  have hs : k >>> b = 0 := by
    rw [Nat.shiftRight_eq_div_pow]; exact Nat.div_eq_of_lt h1
  simp only [W, binWalk, hs, ne_eq, not_true_eq_false, if_false, clearBit_lo hb h1, Nat.one_shiftLeft,
    ScalarReal.one_eq]
  rw [binWalk_mul]
  split <;> rw [one_mul]

theorem W_nonneg (h : ∀ k, 0 ≤ θ k ∧ θ k ≤ 1) (b k : Nat) : 0 ≤ W dim θ b k := by
  unfold W
  suffices ∀ x : ℝ, 0 ≤ x → 0 ≤ binWalk dim θ b k x from this 1 zero_le_one
  induction b generalizing k with
  | zero => intro x hx; exact hx
  | succ b ih =>
    intro x hx
    rw [binWalk]
    apply ih
    split
    · exact mul_nonneg hx (h k).1
    · split
      · rw [ScalarReal.one_eq]; exact mul_nonneg hx (sub_nonneg.mpr (h _).2)
      · exact hx

theorem W_pos (h : ∀ k, 1 ≤ k → k < dim → 0 < θ k ∧ θ k < 1) (b k : Nat) (hb : b ≤ 64)
    (hk : k < 2 ^ b) (hd : k < dim) : 0 < W dim θ b k := by
  revert hd
  refine walk_induction (P := fun b k => k < dim → 0 < W dim θ b k) ?_ ?_ ?_ b hb k hk
  · intro _; rw [W_zero]; exact one_pos
  · intro b k hb h1 h2 ih hd
    rw [W_succ_hi dim θ b k hb h1 h2]
    exact mul_pos (h k (Nat.one_le_two_pow.trans h1) hd).1 (ih ((Nat.sub_le _ _).trans_lt hd))
  · intro b k hb h1 ih hd
    rw [W_succ_lo dim θ b k hb h1]
    refine mul_pos ?_ (ih hd)
    split
    · next hlt => exact sub_pos.mpr (h _ (Nat.one_le_two_pow.trans (Nat.le_add_left _ _)) hlt).2
    · exact one_pos

/-- the walk only reads parameters theta_1 .. theta_(dim-1) -/
theorem W_congr (θ' : Nat → ℝ) (h : ∀ k, 1 ≤ k → k < dim → θ k = θ' k) (b k : Nat) (hb : b ≤ 64)
    (hk : k < 2 ^ b) (hd : k < dim) : W dim θ b k = W dim θ' b k := by
  revert hd
  refine walk_induction (P := fun b k => k < dim → W dim θ b k = W dim θ' b k) ?_ ?_ ?_ b hb k hk
  · intro _; rw [W_zero, W_zero]
  · intro b k hb h1 h2 ih hd
    rw [W_succ_hi dim θ b k hb h1 h2, W_succ_hi dim θ' b k hb h1 h2, h k (Nat.one_le_two_pow.trans h1) hd,
      ih ((Nat.sub_le _ _).trans_lt hd)]
  · intro b k hb h1 ih hd
    rw [W_succ_lo dim θ b k hb h1, W_succ_lo dim θ' b k hb h1, ih hd]
    congr 1
    split
    · next hlt => rw [h _ (Nat.one_le_two_pow.trans (Nat.le_add_left _ _)) hlt]
    · rfl

end Walk

section Mass
open Finset

theorem sum_even_odd (g : ℕ → ℝ) (n : ℕ) (hz : ∀ j, n ≤ j → g j = 0) :
    ∑ j ∈ range n, g j = ∑ j ∈ range n, g (2 * j) + ∑ j ∈ range n, g (2 * j + 1) := by
  have h2 : ∀ m, ∑ j ∈ range (2 * m), g j = ∑ j ∈ range m, (g (2 * j) + g (2 * j + 1)) := by
    intro m
    induction m with
    | zero => simp
    | succ m ih =>
      rw [show 2 * (m + 1) = 2 * m + 1 + 1 by ring, sum_range_succ, sum_range_succ, ih, sum_range_succ]
      ring
  rw [← sum_add_distrib, ← h2, two_mul, sum_range_add]
  have : ∑ x ∈ range n, g (n + x) = 0 := sum_eq_zero (fun x _ => hz _ (by omega))
  rw [this, add_zero]

variable (dim : Nat) (p : Nat → ℝ)

/-- mass of the indices `t < dim` with `t ≡ r (mod 2^b)`, written as the loop of the code reads it -/
noncomputable def M (b r : Nat) : ℝ :=
  ∑ j ∈ range dim, if j * 2 ^ b + r < dim then p (j * 2 ^ b + r) else 0

theorem M_split (b r : Nat) : M dim p b r = M dim p (b + 1) r + M dim p (b + 1) (r + 2 ^ b) := by
  unfold M
  rw [sum_even_odd (fun j => if j * 2 ^ b + r < dim then p (j * 2 ^ b + r) else 0) dim]
  · congr 1
    · apply sum_congr rfl; intro j _
      have : 2 * j * 2 ^ b + r = j * 2 ^ (b + 1) + r := by rw [pow_succ]; ring
      simp only [this]
    · apply sum_congr rfl; intro j _
      have : (2 * j + 1) * 2 ^ b + r = j * 2 ^ (b + 1) + (r + 2 ^ b) := by rw [pow_succ]; ring
      simp only [this]
  · intro j hj
    have : ¬ (j * 2 ^ b + r < dim) := by
      have := Nat.one_le_two_pow (n := b)
      have : j ≤ j * 2 ^ b := Nat.le_mul_of_pos_right j (by omega)
      omega
    simp [this]

theorem M_of_ge (b r : Nat) (h : dim ≤ r) : M dim p b r = 0 := by
  unfold M; apply sum_eq_zero; intro j _
  have : ¬ (j * 2 ^ b + r < dim) := by omega
  simp [this]

theorem M_top (b r : Nat) (h : dim ≤ 2 ^ b) (hr : r < dim) : M dim p b r = p r := by
  unfold M
  rw [sum_eq_single 0]
  · simp [hr]
  · intro j _ hj
    have : ¬ (j * 2 ^ b + r < dim) := by
      have : 2 ^ b ≤ j * 2 ^ b := Nat.le_mul_of_pos_left _ (by omega)
      omega
    simp [this]
  · intro h0; exact absurd (mem_range.mpr (by omega)) h0

theorem M_pos (hp : ∀ t, t < dim → 0 < p t) (b r : Nat) (hr : r < dim) : 0 < M dim p b r := by
  unfold M
  apply sum_pos'
  · intro j _; split
    · exact le_of_lt (hp _ ‹_›)
    · exact le_refl _
  · exact ⟨0, mem_range.mpr (by omega), by simp [hr, hp r hr]⟩

theorem M_congr (p' : Nat → ℝ) (h : ∀ t, t < dim → p t = p' t) (b r : Nat) : M dim p b r = M dim p' b r := by
  unfold M; apply sum_congr rfl; intro j _
  split
  · exact h _ ‹_›
  · rfl

theorem M_zero_zero : M dim p 0 0 = ∑ j ∈ range dim, p j := by
  unfold M; apply sum_congr rfl; intro j hj
  simp [mem_range.mp hj]

end Mass

section Acc
open Finset

variable (dim : Nat) (p : Nat → ℝ)

theorem binAcc_eq (li2 pi : Nat) (fuel j : Nat) (i0 i1 : ℝ) :
    binAcc dim p li2 pi fuel j i0 i1 =
      (i0 + ∑ x ∈ Ico j (j + fuel), (if x * 2 ^ li2 + pi < dim then p (x * 2 ^ li2 + pi) else 0),
       i1 + ∑ x ∈ Ico j (j + fuel), (if x * 2 ^ li2 + (pi + 2 ^ (li2 - 1)) < dim
          then p (x * 2 ^ li2 + (pi + 2 ^ (li2 - 1))) else 0)) := by
  induction fuel generalizing j i0 i1 with
  | zero => simp [binAcc]
  | succ fuel ih =>
    simp only [binAcc, Nat.shiftLeft_eq, Nat.one_mul, ge_iff_le]
    split
    · next ht =>
      -- the loop breaks: every later index is out of range too
      have hz : ∀ x ∈ Ico j (j + (fuel + 1)), dim ≤ x * 2 ^ li2 + pi := fun x hx =>
        ht.trans (Nat.add_le_add_right (Nat.mul_le_mul_right _ (mem_Ico.mp hx).1) _)
      rw [sum_eq_zero fun x hx => if_neg (Nat.not_lt.mpr (hz x hx)),
        sum_eq_zero fun x hx => if_neg (Nat.not_lt.mpr
          ((hz x hx).trans (Nat.add_le_add_left (Nat.le_add_right _ _) _))), add_zero, add_zero]
    · next ht =>
      have hlt : j < j + (fuel + 1) := Nat.lt_add_of_pos_right (Nat.succ_pos fuel)
      rw [ih, sum_eq_sum_Ico_succ_bot hlt, sum_eq_sum_Ico_succ_bot hlt, if_pos (Nat.lt_of_not_le ht),
        Nat.add_right_comm j 1 fuel, Nat.add_assoc (j * 2 ^ li2) pi, ← add_assoc i0]
      refine Prod.ext rfl ?_
      dsimp only
      split
      · rw [add_assoc]; rfl
      · rw [zero_add]; rfl

theorem binAcc_M (li2 pi : Nat) :
    binAcc dim p li2 pi dim 0 0 0 = (M dim p li2 pi, M dim p li2 (pi + 2 ^ (li2 - 1))) := by
  rw [binAcc_eq, Nat.zero_add, Nat.Ico_zero_eq_range, zero_add, zero_add]; rfl

/-- the parameter computed by the code for index `i` whose strongest bit is `b` -/
theorem thetaBinary_eq (i b : Nat) (hb : b < 64) (h1 : 2 ^ b ≤ i) (h2 : i < 2 ^ (b + 1)) :
    thetaBinary dim p i =
      M dim p (b + 1) i / (M dim p (b + 1) (i - 2 ^ b) + M dim p (b + 1) i) := by
  simp only [thetaBinary, bitLen_eq_of i b h1 h2, Nat.add_sub_cancel, clearBit_hi hb h1 h2,
    ScalarReal.zero_eq]
  rw [binAcc_M, Nat.add_sub_cancel, Nat.sub_add_cancel h1]

end Acc

section Marginal
open Finset

variable (dim : Nat) (θ : Nat → ℝ)

/-- Marginals of the probabilities produced by the binary walk: the mass of the class
`t ≡ r (mod 2^b)` is the partial walk over the `b` low bits of `r`. -/
theorem marginal_walk (B : Nat) (hB : B ≤ 64) (hdim : dim ≤ 2 ^ B) (d b : Nat) (hbd : b + d = B)
    (r : Nat) (hr : r < 2 ^ b) (hrd : r < dim) :
    M dim (fun i => W dim θ B i) b r = W dim θ b r := by
  induction d generalizing b r with
  | zero => rw [← hbd] at hdim ⊢; exact M_top dim _ b r hdim hrd
  | succ d ih =>
    have hb : b < 64 := by omega
    have hbd' : b + 1 + d = B := by omega
    have hr' : r < 2 ^ (b + 1) := hr.trans (Nat.pow_lt_pow_succ Nat.one_lt_two)
    rw [M_split, ih (b + 1) hbd' r hr' hrd, W_succ_lo dim θ b r hb hr]
    split
    · next hlt =>
      rw [ih (b + 1) hbd' (r + 2 ^ b) (by rw [pow_succ]; omega) hlt,
        W_succ_hi dim θ b (r + 2 ^ b) hb (Nat.le_add_left _ _) (by rw [pow_succ]; omega), Nat.add_sub_cancel,
        ← add_mul, sub_add_cancel, one_mul]
    · next hlt => rw [M_of_ge dim _ (b + 1) (r + 2 ^ b) (Nat.le_of_not_lt hlt), add_zero, one_mul]

theorem walk_sum_one (hd : 0 < dim) (B : Nat) (hB : B ≤ 64) (hdim : dim ≤ 2 ^ B) :
    ∑ i ∈ range dim, W dim θ B i = 1 := by
  rw [← M_zero_zero dim (fun i => W dim θ B i), marginal_walk dim θ B hB hdim B 0 (Nat.zero_add B) 0
    Nat.one_pos hd, W_zero]

theorem walk_ratio {t w : ℝ} (hw : w ≠ 0) : t * w / ((1 - t) * w + t * w) = t := by
  rw [← add_mul, sub_add_cancel, one_mul, mul_div_cancel_right₀ t hw]

theorem theta_of_walk (h : ∀ k, 1 ≤ k → k < dim → 0 < θ k ∧ θ k < 1) (B : Nat) (hB : B ≤ 64)
    (hdim : dim ≤ 2 ^ B) (i : Nat) (hi1 : 1 ≤ i) (hi : i < dim) :
    thetaBinary dim (fun i => W dim θ B i) i = θ i := by
  obtain ⟨b, hbB, h1, h2⟩ := exists_topBit hi1 (hi.trans_le hdim)
  have hb : b < 64 := hbB.trans_le hB
  have hr : i - 2 ^ b < 2 ^ b := by rw [pow_succ] at h2; omega
  have hrd : i - 2 ^ b < dim := (Nat.sub_le _ _).trans_lt hi
  have hd : b + 1 + (B - (b + 1)) = B := Nat.add_sub_cancel' hbB
  rw [thetaBinary_eq dim _ i b hb h1 h2, marginal_walk dim θ B hB hdim _ (b + 1) hd i h2 hi,
    marginal_walk dim θ B hB hdim _ (b + 1) hd (i - 2 ^ b) (hr.trans (Nat.pow_lt_pow_succ Nat.one_lt_two)) hrd,
    W_succ_hi dim θ b i hb h1 h2, W_succ_lo dim θ b (i - 2 ^ b) hb hr, Nat.sub_add_cancel h1, if_pos hi]
  exact walk_ratio (W_pos dim θ h b (i - 2 ^ b) hb.le hr hrd).ne'

end Marginal

section Roundtrip
open Finset

variable (dim : Nat) (p : Nat → ℝ)

theorem one_sub_div_mul {x y s : ℝ} (h : x + y ≠ 0) : (1 - y / (x + y)) * ((x + y) / s) = x / s := by
  rw [one_sub_div h, add_sub_cancel_right, div_mul_div_cancel₀ h]

/-- walking with the parameters computed from a positive vector gives the class masses,
divided by the total -/
theorem walk_of_theta (hp : ∀ t, t < dim → 0 < p t) (b : Nat) (hb : b ≤ 64) (k : Nat)
    (hk : k < 2 ^ b) (hd : k < dim) :
    W dim (fun i => thetaBinary dim p i) b k = M dim p b k / M dim p 0 0 := by
  have hS : M dim p 0 0 ≠ 0 := (M_pos dim p hp 0 0 (Nat.zero_lt_of_lt hd)).ne'
  revert hd
  refine walk_induction (P := fun b k => k < dim → W dim _ b k = M dim p b k / M dim p 0 0) ?_ ?_ ?_ b hb k hk
  · intro _; rw [W_zero, div_self hS]
  · intro b k hb h1 h2 ih hd
    have hd' : k - 2 ^ b < dim := (Nat.sub_le _ _).trans_lt hd
    rw [W_succ_hi dim _ b k hb h1 h2, ih hd', thetaBinary_eq dim p k b hb h1 h2, M_split dim p b (k - 2 ^ b),
      Nat.sub_add_cancel h1]
    exact div_mul_div_cancel₀ (add_pos (M_pos dim p hp _ _ hd') (M_pos dim p hp _ _ hd)).ne'
  · intro b k hb h1 ih hd
    rw [W_succ_lo dim _ b k hb h1, ih hd, M_split dim p b k]
    split
    · next hlt =>
      rw [thetaBinary_eq dim p (k + 2 ^ b) b hb (Nat.le_add_left _ _) (by rw [pow_succ]; omega),
        Nat.add_sub_cancel]
      exact one_sub_div_mul (add_pos (M_pos dim p hp _ _ hd) (M_pos dim p hp _ _ hlt)).ne'
    · next hlt => rw [M_of_ge dim p (b + 1) (k + 2 ^ b) (Nat.le_of_not_lt hlt), add_zero, one_mul]

theorem walk_roundtrip (hp : ∀ t, t < dim → 0 < p t) (B : Nat) (hB : B ≤ 64) (hdim : dim ≤ 2 ^ B)
    (i : Nat) (hi : i < dim) :
    W dim (fun i => thetaBinary dim p i) B i = p i / ∑ j ∈ range dim, p j := by
  rw [walk_of_theta dim p hp B hB i (hi.trans_le hdim) hi, M_top dim p B i hdim hi, M_zero_zero]

theorem thetaBinary_inOpen (hp : ∀ t, t < dim → 0 < p t) (i : Nat) (hi1 : 1 ≤ i) (hi : i < dim)
    (h64 : dim ≤ 2 ^ 64) :
    0 < thetaBinary dim p i ∧ thetaBinary dim p i < 1 := by
  obtain ⟨b, hb, h1, h2⟩ := exists_topBit hi1 (hi.trans_le h64)
  rw [thetaBinary_eq dim p i b hb h1 h2]
  have p0 := M_pos dim p hp (b + 1) (i - 2 ^ b) ((Nat.sub_le _ _).trans_lt hi)
  have p1 := M_pos dim p hp (b + 1) i hi
  exact ⟨div_pos p1 (add_pos p0 p1), (div_lt_one (add_pos p0 p1)).mpr (lt_add_of_pos_left _ p0)⟩

theorem thetaBinary_congr (p' : Nat → ℝ) (h : ∀ t, t < dim → p t = p' t) (i : Nat)
    (hi1 : 1 ≤ i) (hi : i < dim) (h64 : dim ≤ 2 ^ 64) : thetaBinary dim p i = thetaBinary dim p' i := by
  obtain ⟨b, hb, h1, h2⟩ := exists_topBit hi1 (hi.trans_le h64)
  rw [thetaBinary_eq dim p i b hb h1 h2, thetaBinary_eq dim p' i b hb h1 h2,
    M_congr dim p p' h, M_congr dim p p' h]

end Roundtrip

section BinaryLists
open Finset

theorem sum_map_range (f : Nat → ℝ) (n : Nat) : ((List.range n).map f).sum = ∑ i ∈ range n, f i := by
  induction n with
  | zero => simp
  | succ n ih => rw [List.range_succ, List.map_append, List.sum_append, ih, sum_range_succ]; simp

theorem sum_nth (p : List ℝ) : ∑ j ∈ range p.length, nth p j = p.sum := by
  rw [← sum_map_range]
  congr 1
  apply List.ext_getElem
  · simp
  · intro i h1 h2
    have : i < p.length := by simpa using h2
    simp [nth, List.getD_eq_getElem?_getD, this]

theorem probsBinary_eq (dim : Nat) (θ : List ℝ) :
    probsBinary dim θ = (List.range dim).map (W dim (lookup θ) (bitLen dim)) := by
  simp only [probsBinary, probsBinaryF, ScalarReal.one_eq]; rfl

theorem probsBinary_length (dim : Nat) (θ : List ℝ) : (probsBinary dim θ).length = dim := by
  simp [probsBinary_eq]

theorem nth_probsBinary (dim : Nat) (θ : List ℝ) (t : Nat) (ht : t < dim) :
    nth (probsBinary dim θ) t = W dim (lookup θ) (bitLen dim) t := by
  simp [nth, probsBinary_eq, List.getD_eq_getElem?_getD, ht]

theorem lookup_eq_getElem (θ : List ℝ) (k : Nat) (h1 : 1 ≤ k) (h2 : k - 1 < θ.length) :
    lookup θ k = θ[k - 1] := by
  rw [lookup, if_neg (Nat.ne_of_gt h1), List.getD_eq_getElem?_getD, List.getElem?_eq_getElem h2]
  rfl

theorem lookup_bounds (θ : List ℝ) (h : ∀ t ∈ θ, 0 ≤ t ∧ t ≤ 1) (k : Nat) :
    0 ≤ lookup θ k ∧ lookup θ k ≤ 1 := by
  have hd : (default : ℝ) = 0 := rfl
  unfold lookup
  split
  · simp [hd]
  · rw [List.getD_eq_getElem?_getD]
    cases hh : θ[k - 1]? with
    | none => simp [hd]
    | some v => simpa using h v (List.mem_of_getElem? hh)

theorem lookup_inOpen (θ : List ℝ) (dim : Nat) (hl : θ.length = dim - 1) (h : InOpen θ) (k : Nat)
    (h1 : 1 ≤ k) (h2 : k < dim) : 0 < lookup θ k ∧ lookup θ k < 1 := by
  have hlt : k - 1 < θ.length := by omega
  rw [lookup_eq_getElem θ k h1 hlt]
  exact h _ (List.getElem_mem hlt)

theorem bitLen_le64 (dim : Nat) (h : dim < 2 ^ 31) : bitLen dim ≤ 64 :=
  ((bitLen_le_iff dim 31).mpr h).trans (by norm_num)

theorem probsBinary_sum (dim : Nat) (θ : List ℝ) (hd : 0 < dim) (h31 : dim < 2 ^ 31) :
    (probsBinary dim θ).sum = 1 := by
  rw [probsBinary_eq, sum_map_range]
  exact walk_sum_one dim (lookup θ) hd (bitLen dim) (bitLen_le64 dim h31) (lt_two_pow_bitLen dim).le

theorem probsBinary_pos (dim : Nat) (θ : List ℝ) (hl : θ.length = dim - 1) (h : InOpen θ) (h31 : dim < 2 ^ 31) :
    AllPos (probsBinary dim θ) := by
  intro p hp
  rw [probsBinary_eq] at hp
  obtain ⟨i, hi, rfl⟩ := List.mem_map.mp hp
  have hi := List.mem_range.mp hi
  exact W_pos dim (lookup θ) (lookup_inOpen θ dim hl h) _ i (bitLen_le64 dim h31)
    (hi.trans (lt_two_pow_bitLen dim)) hi

theorem paramsBinary_length (p : List ℝ) : (paramsBinary p).length = p.length - 1 := by
  simp [paramsBinary, paramsBinaryF]

theorem lookup_paramsBinary (p : List ℝ) (k : Nat) (h1 : 1 ≤ k) (h2 : k < p.length) :
    lookup (paramsBinary p) k = thetaBinary p.length (nth p) k := by
  rw [lookup_eq_getElem _ k h1 (by rw [paramsBinary_length]; omega)]
  simp only [paramsBinary, paramsBinaryF, List.getElem_map, List.getElem_range, Nat.sub_add_cancel h1]

theorem nth_pos (p : List ℝ) (hp : AllPos p) (t : Nat) (ht : t < p.length) : 0 < nth p t := by
  unfold nth
  rw [List.getD_eq_getElem?_getD, List.getElem?_eq_getElem ht]
  simpa using hp _ (List.getElem_mem ht)

theorem binary_roundtrip_normalises (p : List ℝ) (hp : AllPos p) (h31 : p.length < 2 ^ 31) :
    probsBinary p.length (paramsBinary p) = p.map (fun q => q / p.sum) := by
  rw [probsBinary_eq]
  apply List.ext_getElem
  · simp
  · intro i h1 h2
    have hi : i < p.length := by simpa using h1
    rw [List.getElem_map, List.getElem_range, W_congr p.length (lookup (paramsBinary p)) (fun k => thetaBinary p.length (nth p) k)
      (fun k a b => lookup_paramsBinary p k a b) _ i (bitLen_le64 _ h31)
      (lt_of_lt_of_le hi (le_of_lt (lt_two_pow_bitLen _))) hi]
    rw [walk_roundtrip p.length (nth p) (nth_pos p hp) _ (bitLen_le64 _ h31)
      (le_of_lt (lt_two_pow_bitLen _)) i hi, sum_nth]
    simp [nth, List.getD_eq_getElem?_getD, hi]

theorem paramsBinary_inOpen (p : List ℝ) (hp : AllPos p) (h31 : p.length < 2 ^ 31) :
    InOpen (paramsBinary p) := by
  intro t ht
  simp only [paramsBinary, paramsBinaryF, List.mem_map, List.mem_range] at ht
  obtain ⟨i, hi, rfl⟩ := ht
  exact thetaBinary_inOpen p.length (nth p) (nth_pos p hp) (i + 1) (by omega) (by omega)
    (le_trans (le_of_lt h31) (by norm_num))

theorem binary_left_inverse (dim : Nat) (θ : List ℝ) (hl : θ.length = dim - 1) (h : InOpen θ)
    (h31 : dim < 2 ^ 31) : paramsBinary (probsBinary dim θ) = θ := by
  apply List.ext_getElem
  · simp [paramsBinary_length, probsBinary_length, hl]
  · intro i h1 h2
    have hi : i + 1 < dim := by omega
    simp only [paramsBinary, paramsBinaryF, probsBinary_length, List.getElem_map, List.getElem_range]
    rw [thetaBinary_congr dim _ (fun t => W dim (lookup θ) (bitLen dim) t)
        (fun t ht => nth_probsBinary dim θ t ht) (i + 1) (Nat.le_add_left 1 i) hi (h31.le.trans (by norm_num)),
      theta_of_walk dim (lookup θ) (lookup_inOpen θ dim hl h) _ (bitLen_le64 dim h31)
        (lt_two_pow_bitLen dim).le (i + 1) (Nat.le_add_left 1 i) hi]
    exact lookup_eq_getElem θ (i + 1) (Nat.le_add_left 1 i) h2

end BinaryLists

/-- Σ_j l_j / j  with j the 1-based index starting at i -/
noncomputable def H : List ℝ → Nat → ℝ
  | [], _ => 0
  | p :: r, i => p / (i : ℝ) + H r (i + 1)

theorem orderedValues_length (p : List ℝ) (i : Nat) : (orderedValues p i).length = p.length := by
  induction p generalizing i with
  | nil => simp [orderedValues]
  | cons a r ih => simp [orderedValues, ih]

theorem orderedValues_head (p : List ℝ) (i : Nat) :
    (orderedValues p i).headD 0 = H p i := by
  induction p generalizing i with
  | nil => simp [orderedValues, H]
  | cons a r ih =>
    simp only [orderedValues, H, ScalarReal.zero_eq, ScalarReal.ofInt_eq, List.headD_cons]
    rw [ih (i + 1)]; push_cast; ring

/-- every `p_j` is counted `j - i + 1` times, with weight `1 / j` -/
theorem orderedValues_sum (p : List ℝ) (i : Nat) (hi : 1 ≤ i) :
    (orderedValues p i).sum = p.sum - ((i : ℝ) - 1) * H p i := by
  induction p generalizing i with
  | nil => simp [orderedValues, H]
  | cons a r ih =>
    have hi0 : (i : ℝ) ≠ 0 := Nat.cast_ne_zero.mpr (Nat.ne_of_gt hi)
    simp only [orderedValues, List.sum_cons, ScalarReal.zero_eq, ScalarReal.ofInt_eq, H]
    rw [orderedValues_head r (i + 1), ih (i + 1) (Nat.le_add_left 1 i)]
    push_cast; field_simp; ring

theorem orderedValues_sum_eq (p : List ℝ) : (orderedValues p 1).sum = p.sum := by
  rw [orderedValues_sum p 1 le_rfl, Nat.cast_one, sub_self, zero_mul, sub_zero]

theorem H_nonneg (l : List ℝ) (i : Nat) (h : ∀ x ∈ l, 0 ≤ x) : 0 ≤ H l i := by
  induction l generalizing i with
  | nil => exact le_rfl
  | cons a r ih =>
    obtain ⟨ha, hr⟩ := List.forall_mem_cons.mp h
    exact add_nonneg (div_nonneg ha (Nat.cast_nonneg i)) (ih (i + 1) hr)

def NonIncreasing : List ℝ → Prop
  | [] => True
  | [_] => True
  | a :: b :: r => b ≤ a ∧ NonIncreasing (b :: r)

theorem orderedValues_nonincreasing (p : List ℝ) (i : Nat) (h : ∀ x ∈ p, 0 ≤ x) :
    NonIncreasing (orderedValues p i) ∧ ∀ v ∈ orderedValues p i, 0 ≤ v := by
  induction p generalizing i with
  | nil => exact ⟨trivial, List.forall_mem_nil _⟩
  | cons a r ih =>
    obtain ⟨ha, hr⟩ := List.forall_mem_cons.mp h
    obtain ⟨ih1, ih2⟩ := ih (i + 1) hr
    have hdiv : 0 ≤ a / ((i : ℤ) : ℝ) := div_nonneg ha (by exact_mod_cast Nat.zero_le i)
    have hhead : 0 ≤ (orderedValues r (i + 1)).headD 0 + a / ((i : ℤ) : ℝ) := by
      rw [orderedValues_head r (i + 1)]; exact add_nonneg (H_nonneg r (i + 1) hr) hdiv
    simp only [orderedValues, ScalarReal.zero_eq, ScalarReal.ofInt_eq]
    refine ⟨?_, List.forall_mem_cons.mpr ⟨hhead, ih2⟩⟩
    -- the head is the head of the tail plus a non-negative term
    cases hv : orderedValues r (i + 1) with
    | nil => trivial
    | cons v vs => rw [hv] at ih1; exact ⟨le_add_of_nonneg_right hdiv, ih1⟩

theorem orderedToProbs_length (v : List ℝ) (i : Nat) : (orderedToProbs v i).length = v.length := by
  induction v generalizing i with
  | nil => simp [orderedToProbs]
  | cons a r ih =>
    cases r with
    | nil => simp [orderedToProbs]
    | cons b r' => simp [orderedToProbs, ih]

theorem orderedValues_toProbs (v : List ℝ) (i : Nat) (hi : 1 ≤ i) :
    orderedValues (orderedToProbs v i) i = v := by
  induction v generalizing i with
  | nil => rfl
  | cons a r ih =>
    have hne : ((i : ℤ) : ℝ) ≠ 0 := by exact_mod_cast Nat.ne_of_gt hi
    cases r with
    | nil =>
      simp only [orderedToProbs, orderedValues, List.headD_nil, ScalarReal.zero_eq, ScalarReal.ofInt_eq]
      rw [zero_add, mul_div_cancel_left₀ a hne]
    | cons b r' =>
      simp only [orderedToProbs, orderedValues, ScalarReal.ofInt_eq]
      rw [ih (i + 1) (Nat.le_add_left 1 i), List.headD_cons, mul_div_cancel_left₀ _ hne, add_sub_cancel]

theorem orderedToProbs_values (p : List ℝ) (i : Nat) (hi : 1 ≤ i) :
    orderedToProbs (orderedValues p i) i = p := by
  induction p generalizing i with
  | nil => rfl
  | cons a r ih =>
    have hne : ((i : ℤ) : ℝ) ≠ 0 := by exact_mod_cast Nat.ne_of_gt hi
    cases r with
    | nil =>
      simp only [orderedToProbs, orderedValues, List.headD_nil, ScalarReal.zero_eq, ScalarReal.ofInt_eq]
      rw [zero_add, mul_div_cancel₀ a hne]
    | cons b r' =>
      have ih' := ih (i + 1) (Nat.le_add_left 1 i)
      obtain ⟨v0, vr, hv⟩ : ∃ v0 vr, orderedValues (b :: r') (i + 1) = v0 :: vr := ⟨_, _, rfl⟩
      rw [orderedValues]
      rw [hv] at ih' ⊢
      simp only [List.headD_cons, orderedToProbs, ScalarReal.ofInt_eq]
      rw [ih', add_sub_cancel_left, mul_div_cancel₀ a hne]

/-- strictly decreasing, last value positive -/
def StrictDecrPos : List ℝ → Prop
  | [] => True
  | [a] => 0 < a
  | a :: b :: r => b < a ∧ StrictDecrPos (b :: r)

theorem orderedToProbs_pos (v : List ℝ) (i : Nat) (hi : 1 ≤ i) (h : StrictDecrPos v) :
    AllPos (orderedToProbs v i) := by
  induction v generalizing i with
  | nil => exact List.forall_mem_nil _
  | cons a r ih =>
    have hpos : (0 : ℝ) < ((i : ℤ) : ℝ) := by exact_mod_cast hi
    cases r with
    | nil => exact List.forall_mem_singleton.mpr (mul_pos hpos h)
    | cons b r' =>
      exact allPos_cons.mpr ⟨mul_pos hpos (sub_pos.mpr h.1), ih (i + 1) (Nat.le_add_left 1 i) h.2⟩

theorem orderedToProbs_sum (v : List ℝ) : (orderedToProbs v 1).sum = v.sum := by
  conv_rhs => rw [← orderedValues_toProbs v 1 (le_refl _)]
  rw [orderedValues_sum_eq]

def ValidMethod (m : Nat) : Prop := m = 1 ∨ m = 2 ∨ m = 3

theorem probsOf_one (dim : Nat) (θ : List ℝ) : probsOf 1 dim θ = some (probsGlobal θ 1) := by
  simp [probsOf]
theorem paramsOf_one (p : List ℝ) : paramsOf 1 p = paramsGlobal p 1 := by
  simp [paramsOf]

theorem probsOf_spec (m dim : Nat) (θ : List ℝ) (hm : ValidMethod m) (hd : 0 < dim) (h31 : dim < 2 ^ 31)
    (hl : θ.length = dim - 1) (h : InOpen θ) :
    ∃ p, probsOf m dim θ = some p ∧ p.length = dim ∧ p.sum = 1 ∧ AllPos p := by
  rcases hm with rfl | rfl | rfl
  · exact ⟨_, probsOf_one dim θ, by rw [probsGlobal_length]; omega, probsGlobal_sum θ 1, probsGlobal_pos θ 1 one_pos h⟩
  · exact ⟨_, rfl, by rw [probsLocal_length]; omega, probsLocal_sum dim θ h, probsLocal_pos dim θ h⟩
  · exact ⟨_, rfl, probsBinary_length dim θ, probsBinary_sum dim θ hd h31, probsBinary_pos dim θ hl h h31⟩

theorem paramsOf_length (m : Nat) (p : List ℝ) (hm : ValidMethod m) : (paramsOf m p).length = p.length - 1 := by
  rcases hm with rfl | rfl | rfl
  · rw [paramsOf_one]; exact paramsGlobal_length p 1
  · exact paramsLocal_length p
  · exact paramsBinary_length p

theorem paramsOf_inOpen (m : Nat) (p : List ℝ) (hm : ValidMethod m) (hp : AllPos p) (hs : p.sum = 1)
    (h31 : p.length < 2 ^ 31) : InOpen (paramsOf m p) := by
  rcases hm with rfl | rfl | rfl
  · rw [paramsOf_one]; exact paramsGlobal_inOpen p 1 hp hs
  · exact paramsLocal_inOpen p hp
  · exact paramsBinary_inOpen p hp h31

theorem roundtrip_all (m : Nat) (p : List ℝ) (hm : ValidMethod m) (hp : AllPos p) (hne : p ≠ [])
    (hs : p.sum = 1) (h31 : p.length < 2 ^ 31) : probsOf m p.length (paramsOf m p) = some p := by
  rcases hm with rfl | rfl | rfl
  · rw [probsOf_one, paramsOf_one, global_roundtrip p 1 hp hne hs]
  · exact congrArg some (local_roundtrip _ p hp hne hs)
  · refine congrArg some ((binary_roundtrip_normalises p hp h31).trans ?_)
    rw [hs]; simp

theorem left_inverse_all (m dim : Nat) (θ p : List ℝ) (hm : ValidMethod m) (h31 : dim < 2 ^ 31)
    (hl : θ.length = dim - 1) (h : InOpen θ) (e : probsOf m dim θ = some p) : paramsOf m p = θ := by
  rcases hm with rfl | rfl | rfl
  · rw [probsOf_one] at e; cases e
    rw [paramsOf_one]
    exact global_left_inverse θ 1 one_ne_zero (fun t mm => ne_of_lt (h t mm).2)
  · cases e; exact local_left_inverse dim θ h
  · cases e; exact binary_left_inverse dim θ hl h h31

/-- state invariant: parameters in the open cube, probabilities = image of the parameters -/
structure Inv (s : St ℝ) : Prop where
  method : ValidMethod s.method
  dim_pos : 0 < s.dim
  dim_lt : s.dim < 2 ^ 31
  len : s.params.length = s.dim - 1
  inOpen : InOpen s.params
  probs : probsOf s.method s.dim s.params = some s.probs

theorem Inv.sum_one {s : St ℝ} (h : Inv s) : s.probs.sum = 1 ∧ AllPos s.probs ∧ s.probs.length = s.dim := by
  obtain ⟨p, e, l, su, po⟩ := probsOf_spec s.method s.dim s.params h.method h.dim_pos h.dim_lt h.len h.inOpen
  rw [h.probs] at e; cases e; exact ⟨su, po, l⟩

theorem inConstraint_open (v : ℝ) : inConstraint false v = true ↔ 0 < v ∧ v < 1 := by
  simp [inConstraint]
theorem inConstraint_of_open (a : Bool) (v : ℝ) (h : 0 < v ∧ v < 1) : inConstraint a v = true := by
  cases a <;> simp [inConstraint, h.1, h.2, h.1.le, h.2.le]

theorem sumOk_of (p : List ℝ) (hs : p.sum = 1) : sumOk p = true := by
  have : ¬ ((1000000:ℝ)⁻¹ < 0) := by norm_num
  simp [sumOk, vsum, ← List.sum_eq_foldl, hs, SMALL, Scalar.gtb, Scalar.ltb, this]

theorem all_inConstraint (a : Bool) (θ : List ℝ) (h : InOpen θ) : θ.all (inConstraint a) = true := by
  rw [List.all_eq_true]; intro x hx; exact inConstraint_of_open a x (h x hx)

theorem mapM_test {β : Type} (c : ℝ → Bool) (g : ℝ → β) (err : Err) (l : List ℝ) :
    l.mapM (fun v => if c v then (Except.ok (g v) : Except Err β) else .error err) =
      if l.all c then .ok (l.map g) else .error err := by
  induction l with
  | nil => rfl
  | cons v r ih =>
    rw [List.mapM_cons, ih]
    by_cases hv : c v = true
    · by_cases hr : r.all c = true <;> simp [hv, hr] <;> rfl
    · simp [hv]; rfl

theorem mapM_mkParam_eq (a : Bool) (vals : List ℝ) :
    vals.mapM (mkParam a) = if vals.all (inConstraint a) then .ok vals else .error .constraint :=
  (mapM_test (inConstraint a) id _ vals).trans (by rw [List.map_id])

theorem mapM_mkParam (a : Bool) (l : List ℝ) (h : InOpen l) : l.mapM (mkParam a) = .ok l := by
  rw [mapM_mkParam_eq, if_pos (all_inConstraint a l h)]

theorem InOpen.set {l : List ℝ} (h : InOpen l) (k : Nat) {v : ℝ} (hv : 0 < v ∧ v < 1) : InOpen (l.set k v) :=
  fun x hx => (List.mem_or_eq_of_mem_set hx).elim (h x) (fun e => e ▸ hv)

theorem eq_of_not_changed (c θ : List ℝ) (hl : c.length = θ.length)
    (h : (List.zip c θ).any (fun (x, v) => !(Scalar.eqb x v)) = false) : c = θ := by
  induction c generalizing θ with
  | nil => cases θ with
    | nil => rfl
    | cons _ _ => simp at hl
  | cons a r ih =>
    cases θ with
    | nil => simp at hl
    | cons b t =>
      simp only [List.zip_cons_cons, List.any_cons, Bool.or_eq_false_iff, Bool.not_eq_false',
        ScalarReal.eqb_iff] at h
      rw [h.1, ih t (by simpa using hl) h.2]

def Same (s s' : St ℝ) : Prop := s'.dim = s.dim ∧ s'.method = s.method ∧ s'.allowNull = s.allowNull

theorem fire_same (s : St ℝ) : Same s (fire s) := by
  simp only [fire, Same]
  split
  · exact ⟨rfl, rfl, rfl⟩
  · split <;> exact ⟨rfl, rfl, rfl⟩

theorem fire_params (s : St ℝ) : (fire s).params = s.params := by
  unfold fire
  split
  · rfl
  · split <;> rfl

theorem fire_inv (s : St ℝ) (hm : ValidMethod s.method) (hd : 0 < s.dim) (h31 : s.dim < 2 ^ 31)
    (hl : s.params.length = s.dim - 1) (ho : InOpen s.params) : Inv (fire s) := by
  obtain ⟨p, e, _⟩ := probsOf_spec s.method s.dim s.params hm hd h31 hl ho
  have : fire s = { s with probs := p } := by
    simp only [fire, Nat.ne_of_gt hd, if_false, e]
  rw [this]
  exact ⟨hm, hd, h31, hl, ho, e⟩

theorem fire_eq_of_inv (s : St ℝ) (h : Inv s) : fire s = s := by
  simp only [fire, Nat.ne_of_gt h.dim_pos, if_false, h.probs]

theorem matchParams_same (s s' : St ℝ) (θ : List ℝ) (e : matchParams s θ = .ok s') : Same s s' := by
  simp only [matchParams] at e
  split at e
  · split at e
    · cases e; exact fire_same _
    · cases e; exact ⟨rfl, rfl, rfl⟩
  · cases e

/-- `matchParametersValues` with parameters in the open cube, on a state that need not satisfy the
invariant (as inside the constructors): it need only hold the image of `θ` already if its parameters are `θ` -/
theorem matchParams_gen (s : St ℝ) (hm : ValidMethod s.method) (hd : 0 < s.dim) (h31 : s.dim < 2 ^ 31)
    (hls : s.params.length = s.dim - 1) (θ : List ℝ) (hl : θ.length = s.dim - 1) (ho : InOpen θ)
    (hsame : s.params = θ → probsOf s.method s.dim θ = some s.probs) :
    ∃ s', matchParams s θ = .ok s' ∧ Inv s' ∧ s'.params = θ ∧ Same s s' := by
  simp only [matchParams, all_inConstraint s.allowNull θ ho, if_true]
  split
  · exact ⟨_, rfl, fire_inv _ hm hd h31 hl ho, fire_params _, fire_same _⟩
  · next hc =>
    have e := eq_of_not_changed s.params θ (hls.trans hl.symm) (eq_false_of_ne_true hc)
    exact ⟨s, rfl, ⟨hm, hd, h31, hls, e ▸ ho, e ▸ hsame e⟩, e, rfl, rfl, rfl⟩

theorem matchParams_ok (s : St ℝ) (h : Inv s) (θ : List ℝ) (hl : θ.length = s.dim - 1) (ho : InOpen θ) :
    ∃ s', matchParams s θ = .ok s' ∧ Inv s' ∧ s'.params = θ ∧ s'.dim = s.dim ∧ s'.method = s.method
      ∧ s'.allowNull = s.allowNull :=
  matchParams_gen s h.method h.dim_pos h.dim_lt h.len θ hl ho (fun e => e ▸ h.probs)

/-- whatever vector is passed: if `matchParametersValues` returns, under the strict constraint the
invariant holds again; if it raises the object is unchanged (`Except`) -/
theorem matchParams_inv (s : St ℝ) (h : Inv s) (ha : s.allowNull = false) (θ : List ℝ)
    (hl : θ.length = s.dim - 1) (s' : St ℝ) (e : matchParams s θ = .ok s') : Inv s' := by
  by_cases hall : θ.all (inConstraint false) = true
  · obtain ⟨s'', e', hi, _⟩ := matchParams_ok s h θ hl
      fun x hx => (inConstraint_open x).mp (List.all_eq_true.mp hall x hx)
    rw [e] at e'; cases e'; exact hi
  · simp [matchParams, ha, hall] at e

/-- a probability vector in the sense of the property: positive entries, sum one, a dimension
the `int` shifts of the binary coding are defined for -/
structure ValidProbs (p : List ℝ) : Prop where
  pos : AllPos p
  ne : p ≠ []
  sum : p.sum = 1
  len : p.length < 2 ^ 31

theorem inv_of_validProbs (p : List ℝ) (m : Nat) (a : Bool) (hm : ValidMethod m) (hp : ValidProbs p) :
    Inv ⟨p.length, m, a, paramsOf m p, p⟩ :=
  ⟨hm, List.length_pos_iff.mpr hp.ne, hp.len, paramsOf_length m p hm,
    paramsOf_inOpen m p hm hp.pos hp.sum hp.len, roundtrip_all m p hm hp.pos hp.ne hp.sum hp.len⟩

/-- the probabilities an object holds for the parameters of a valid vector are that vector -/
theorem probs_of_params {m : Nat} {p q θ : List ℝ} (hm : ValidMethod m) (hp : ValidProbs p)
    (h : probsOf m p.length θ = some q) (e : θ = paramsOf m p) : q = p := by
  rw [e, roundtrip_all m p hm hp.pos hp.ne hp.sum hp.len] at h
  exact (Option.some.inj h).symm

theorem construct_ok (p : List ℝ) (m : Nat) (a : Bool) (hm : ValidMethod m) (hp : ValidProbs p) :
    ∃ s, construct p m a = .ok s ∧ s.probs = p ∧ s.params = paramsOf m p ∧ Inv s ∧ s.allowNull = a := by
  have hi := inv_of_validProbs p m a hm hp
  simp only [construct, hi.dim_pos.ne', if_false, sumOk_of p hp.sum, Bool.not_true, Bool.false_eq_true,
    mapM_mkParam a _ hi.inOpen]
  exact ⟨_, rfl, rfl, rfl, hi, rfl⟩

/-- an accepted `setFrequencies` did nothing (dimension 0) or was a `matchParametersValues` with the
parameters of a vector of the right size -/
theorem setFrequencies_matched {s s' : St ℝ} {p : List ℝ} (e : setFrequencies s p = .ok s') :
    (s.dim = 0 ∧ s' = s) ∨ (p.length = s.dim ∧ matchParams s (paramsOf s.method p) = .ok s') := by
  unfold setFrequencies at e
  split at e
  · next hd => cases e; exact Or.inl ⟨hd, rfl⟩
  · split at e
    · cases e
    · split at e
      · cases e
      · next hl =>
        have hl := not_not.mp hl
        rw [← hl, List.take_length] at e
        exact Or.inr ⟨hl, e⟩

theorem setFrequencies_same (s s' : St ℝ) (p : List ℝ) (e : setFrequencies s p = .ok s') : Same s s' := by
  rcases setFrequencies_matched e with ⟨_, rfl⟩ | ⟨_, e⟩
  · exact ⟨rfl, rfl, rfl⟩
  · exact matchParams_same s s' _ e

theorem setFrequencies_of_good (s : St ℝ) (p : List ℝ) (hd : s.dim ≠ 0) (hs : p.sum = 1) (hl : p.length = s.dim) :
    setFrequencies s p = matchParams s (paramsOf s.method p) := by
  have htake : p.take s.dim = p := by rw [← hl]; exact List.take_length
  simp only [setFrequencies, hd, if_false, sumOk_of p hs, Bool.not_true, Bool.false_eq_true, hl, ne_eq,
    not_true_eq_false, htake]

/-- the frequency setter on a state that need not satisfy the invariant (as inside the constructor):
it need only hold the vector already if its parameters are those of the vector -/
theorem setFrequencies_gen (s : St ℝ) (hm : ValidMethod s.method) (h31 : s.dim < 2 ^ 31)
    (hls : s.params.length = s.dim - 1) (p : List ℝ) (hp : ValidProbs p) (hl : p.length = s.dim)
    (hsame : s.params = paramsOf s.method p → s.probs = p) :
    ∃ s', setFrequencies s p = .ok s' ∧ s'.probs = p ∧ s'.params = paramsOf s.method p ∧ Inv s' ∧ Same s s' := by
  have hd : 0 < s.dim := hl ▸ List.length_pos_iff.mpr hp.ne
  have hrt := roundtrip_all s.method p hm hp.pos hp.ne hp.sum hp.len
  rw [hl] at hrt
  obtain ⟨s', e, hi, hpar, hs⟩ := matchParams_gen s hm hd h31 hls (paramsOf s.method p)
    (by rw [paramsOf_length _ _ hm, hl]) (paramsOf_inOpen s.method p hm hp.pos hp.sum hp.len)
    (fun e => by rw [hrt, hsame e])
  refine ⟨s', (setFrequencies_of_good s p hd.ne' hp.sum hl).trans e, ?_, hpar, hi, hs⟩
  · have e1 := hi.probs
    rw [hpar, hs.1, hs.2.1, hrt] at e1
    exact (Option.some.inj e1).symm

theorem setFrequencies_ok (s : St ℝ) (h : Inv s) (p : List ℝ) (hp : ValidProbs p) (hl : p.length = s.dim) :
    ∃ s', setFrequencies s p = .ok s' ∧ s'.probs = p ∧ s'.params = paramsOf s.method p ∧ Inv s' := by
  obtain ⟨s', e, h1, h2, h3, _⟩ := setFrequencies_gen s h.method h.dim_lt h.len p hp hl
    (probs_of_params h.method hp (hl ▸ h.probs))
  exact ⟨s', e, h1, h2, h3⟩

theorem setFrequencies_inv (s : St ℝ) (h : Inv s) (ha : s.allowNull = false) (p : List ℝ) (s' : St ℝ)
    (e : setFrequencies s p = .ok s') : Inv s' := by
  rcases setFrequencies_matched e with ⟨hd, _⟩ | ⟨hl, e⟩
  · exact absurd hd h.dim_pos.ne'
  · refine matchParams_inv s h ha _ ?_ s' e
    rw [paramsOf_length _ _ h.method, hl]

theorem setFrequencies_rejects (s : St ℝ) (p : List ℝ) (hd : s.dim ≠ 0) (hs : p.sum = 1) (hl : p.length = s.dim)
    (hc : (paramsOf s.method p).all (inConstraint s.allowNull) = false) :
    setFrequencies s p = .error .constraint := by
  simp only [setFrequencies_of_good s p hd hs hl, matchParams, hc, Bool.false_eq_true, if_false]

/-- an accepted `setParameterValue` is a notification, after the value was stored if it differed -/
theorem setOne_fired {s s' : St ℝ} {i : Nat} {v : ℝ} (e : setOne s i v = .ok s') :
    (inConstraint s.allowNull v = true ∧ s' = fire { s with params := s.params.set (i - 1) v }) ∨ s' = fire s := by
  simp only [setOne] at e
  split at e
  · cases e
  · split at e
    · split at e
      · next hc => cases e; exact Or.inl ⟨hc, rfl⟩
      · cases e
    · cases e; exact Or.inr rfl

theorem setOne_same (s s' : St ℝ) (i : Nat) (v : ℝ) (e : setOne s i v = .ok s') : Same s s' := by
  rcases setOne_fired e with ⟨_, rfl⟩ | rfl <;> exact fire_same _

theorem setOne_ok (s : St ℝ) (h : Inv s) (i : Nat) (v : ℝ) (hi : 1 ≤ i ∧ i < s.dim) (hv : 0 < v ∧ v < 1) :
    ∃ s', setOne s i v = .ok s' ∧ Inv s' ∧ s'.params = s.params.set (i - 1) v := by
  have hlt : i - 1 < s.params.length := by rw [h.len]; omega
  have hnf : ¬ (i = 0 ∨ s.params.length < i) := by omega
  simp only [setOne, hnf, if_false, inConstraint_of_open s.allowNull v hv, if_true]
  split
  · exact ⟨_, rfl, fire_inv _ h.method h.dim_pos h.dim_lt ((List.length_set ..).trans h.len)
      (h.inOpen.set _ hv), fire_params _⟩
  · next hc =>
    -- the value does not differ from the current one: nothing changes
    rw [ScalarReal.gtb_iff, ScalarReal.abs_eq, ScalarReal.zero_eq, abs_pos, not_not, sub_eq_zero,
      List.getD_eq_getElem?_getD, List.getElem?_eq_getElem hlt, Option.getD_some] at hc
    rw [fire_eq_of_inv s h]
    exact ⟨s, rfl, h, by rw [hc, List.set_getElem_self]⟩

theorem setOne_inv (s : St ℝ) (h : Inv s) (ha : s.allowNull = false) (i : Nat) (v : ℝ) (s' : St ℝ)
    (e : setOne s i v = .ok s') : Inv s' := by
  rcases setOne_fired e with ⟨hc, rfl⟩ | rfl
  · exact fire_inv _ h.method h.dim_pos h.dim_lt ((List.length_set ..).trans h.len)
      (h.inOpen.set _ ((inConstraint_open v).mp (ha ▸ hc)))
  · rw [fire_eq_of_inv s h]; exact h

noncomputable def uniform (dim : Nat) : List ℝ := List.replicate dim (1 / (dim : ℝ))

theorem uniform_valid (dim : Nat) (hd : 0 < dim) (h31 : dim < 2 ^ 31) : ValidProbs (uniform dim) := by
  have hpos : (0 : ℝ) < dim := Nat.cast_pos.mpr hd
  refine ⟨fun x hx => ?_, ?_, ?_, by rw [uniform, List.length_replicate]; exact h31⟩
  · rw [List.eq_of_mem_replicate hx]; exact one_div_pos.mpr hpos
  · exact List.ne_nil_of_length_pos (by rw [uniform, List.length_replicate]; exact hd)
  · rw [uniform, List.sum_replicate, nsmul_eq_mul, mul_one_div, div_self hpos.ne']

theorem paramsLocal_replicate (n : Nat) (c : ℝ) (hc : c ≠ 0) :
    paramsLocal (List.replicate n c) = List.replicate (n - 1) (1 / 2) := by
  induction n with
  | zero => rfl
  | succ n ih =>
    cases n with
    | zero => rfl
    | succ k =>
      simp only [List.replicate_succ, paramsLocal] at ih ⊢
      rw [ih, Nat.add_sub_cancel, Nat.add_sub_cancel, List.replicate_succ, ← two_mul, div_mul_cancel_right₀ hc, one_div]

theorem uniform_eq (dim : Nat) : List.replicate dim (1 / (((dim : Int) : ℝ))) = uniform dim := by
  simp [uniform]

theorem half_inOpen (n : Nat) : InOpen (List.replicate n (Scalar.ofRat 1 2 : ℝ)) := by
  intro x hx; rw [List.eq_of_mem_replicate hx]; norm_num

theorem paramsOf_uniform_two (dim : Nat) (hd : 0 < dim) :
    paramsOf 2 (uniform dim) = List.replicate (dim - 1) (Scalar.ofRat 1 2) :=
  (paramsLocal_replicate dim _ (one_div_ne_zero (Nat.cast_ne_zero.mpr hd.ne'))).trans
    (congrArg _ (by norm_num))

theorem constructDim_ok (dim m : Nat) (a : Bool) (hm : ValidMethod m) (hd : 0 < dim) (h31 : dim < 2 ^ 31) :
    ∃ s, constructDim dim m a = .ok s ∧ s.probs = uniform dim ∧ Inv s ∧ s.allowNull = a ∧ s.dim = dim
      ∧ s.method = m := by
  have hu := uniform_valid dim hd h31
  have hlen : (uniform dim).length = dim := List.length_replicate ..
  have hi := inv_of_validProbs (uniform dim) m a hm hu
  rw [hlen] at hi
  rcases hm with rfl | rfl | rfl
  -- codings 1 and 2: the parameters set by the constructor are those of the uniform vector
  · rw [paramsOf_one] at hi
    simp only [constructDim, hd.ne', if_false, ScalarReal.one_eq, ScalarReal.ofInt_eq, uniform_eq,
      mapM_mkParam a _ hi.inOpen]
    exact ⟨_, rfl, rfl, hi, rfl, rfl, rfl⟩
  · rw [paramsOf_uniform_two dim hd] at hi
    simp only [constructDim, hd.ne', if_false, ScalarReal.one_eq, ScalarReal.ofInt_eq, uniform_eq,
      mapM_mkParam a _ hi.inOpen]
    exact ⟨_, rfl, rfl, hi, rfl, rfl, rfl⟩
  -- coding 3: the constructor calls `setFrequencies` on an object that does not yet satisfy the invariant
  · simp only [constructDim, hd.ne', if_false, ScalarReal.one_eq, ScalarReal.ofInt_eq, uniform_eq,
      mapM_mkParam a _ (half_inOpen (dim - 1))]
    obtain ⟨s', e, hpr, _, hi', hs⟩ := setFrequencies_gen
      ⟨dim, 3, a, List.replicate (dim - 1) (Scalar.ofRat 1 2), uniform dim⟩ (Or.inr (Or.inr rfl)) h31
      (List.length_replicate ..) (uniform dim) hu hlen (fun _ => rfl)
    exact ⟨s', e, hpr, hi', hs.2.2, hs.1, hs.2.1⟩

inductive Op where
  | setFreq (p : List ℝ)
  | setPar (θ : List ℝ)
  | setOne (i : Nat) (v : ℝ)

noncomputable def applyOp (s : St ℝ) : Op → Except Err (St ℝ)
  | .setFreq p => setFrequencies s p
  | .setPar θ => matchParams s θ
  | .setOne i v => Simplex.setOne s i v

/-- one call; a call that raises leaves the object as it was -/
noncomputable def stepOp (s : St ℝ) (o : Op) : St ℝ :=
  match applyOp s o with
  | .ok s' => s'
  | .error _ => s

noncomputable def run (s : St ℝ) (ops : List Op) : St ℝ := ops.foldl stepOp s

theorem applyOp_same (s s' : St ℝ) (o : Op) (e : applyOp s o = .ok s') : Same s s' := by
  cases o with
  | setFreq p => exact setFrequencies_same s s' p e
  | setPar θ => exact matchParams_same s s' θ e
  | setOne i v => exact setOne_same s s' i v e

theorem stepOp_same (s : St ℝ) (o : Op) : Same s (stepOp s o) := by
  unfold stepOp
  cases h : applyOp s o with
  | ok s' => exact applyOp_same s s' o h
  | error _ => exact ⟨rfl, rfl, rfl⟩

/-- the only well-formedness asked of a call under the strict constraint: `matchParametersValues`
is given one value per parameter, `setFrequencies` a vector of at least `dim` entries (a vector of
any other size than `dim` raises, Simplex.cpp:219, model `.error .sum`: `setFrequencies_inv` has no
hypothesis on the size, and `stepOp_inv` does not use this clause) -/
def WellFormed (dim : Nat) : Op → Prop
  | .setPar θ => θ.length = dim - 1
  | .setFreq p => dim ≤ p.length
  | _ => True

/-- arguments inside the property's quantifier: probability vectors with positive entries,
parameter vectors in the open cube -/
def Admissible (dim : Nat) : Op → Prop
  | .setFreq p => ValidProbs p ∧ p.length = dim
  | .setPar θ => θ.length = dim - 1 ∧ InOpen θ
  | .setOne i v => (1 ≤ i ∧ i < dim) ∧ (0 < v ∧ v < 1)

/-- one call keeps the invariant if its arguments are inside the property's quantifier (it is then
accepted) or, under the strict constraint, whatever they are (it is then accepted or changes nothing) -/
theorem stepOp_inv (s : St ℝ) (h : Inv s) (o : Op)
    (ho : Admissible s.dim o ∨ (s.allowNull = false ∧ WellFormed s.dim o)) : Inv (stepOp s o) := by
  unfold stepOp
  rcases ho with ho | ⟨ha, hw⟩
  · cases o with
    | setFreq p =>
      obtain ⟨s', e, _, _, hi⟩ := setFrequencies_ok s h p ho.1 ho.2
      simp only [applyOp, e]; exact hi
    | setPar θ =>
      obtain ⟨s', e, hi, _⟩ := matchParams_ok s h θ ho.1 ho.2
      simp only [applyOp, e]; exact hi
    | setOne i v =>
      obtain ⟨s', e, hi, _⟩ := setOne_ok s h i v ho.1 ho.2
      simp only [applyOp, e]; exact hi
  · cases e : applyOp s o with
    | error _ => exact h
    | ok s' =>
      cases o with
      | setFreq p => exact setFrequencies_inv s h ha p s' e
      | setPar θ => exact matchParams_inv s h ha θ hw s' e
      | setOne i v => exact setOne_inv s h ha i v s' e

theorem run_inv (s : St ℝ) (h : Inv s) (ops : List Op)
    (hw : ∀ o ∈ ops, Admissible s.dim o ∨ (s.allowNull = false ∧ WellFormed s.dim o)) : Inv (run s ops) := by
  induction ops generalizing s with
  | nil => exact h
  | cons o rest ih =>
    obtain ⟨ho, hr⟩ := List.forall_mem_cons.mp hw
    obtain ⟨hd, _, ha⟩ := stepOp_same s o
    exact ih (stepOp s o) (stepOp_inv s h o ho) (by rw [hd, ha]; exact hr)

structure OInv (o : OSt ℝ) : Prop where
  base : Inv o.base
  values : o.values = orderedValues o.base.probs 1

theorem OInv.spec {o : OSt ℝ} (h : OInv o) :
    NonIncreasing o.values ∧ o.values.sum = 1 ∧ (∀ v ∈ o.values, 0 ≤ v) ∧ o.values.length = o.base.dim := by
  obtain ⟨hs, hp, hl⟩ := h.base.sum_one
  have hnn : ∀ x ∈ o.base.probs, 0 ≤ x := fun x m => le_of_lt (hp x m)
  obtain ⟨h1, h2⟩ := orderedValues_nonincreasing o.base.probs 1 hnn
  rw [h.values]
  exact ⟨h1, by rw [orderedValues_sum_eq, hs], h2, by rw [orderedValues_length, hl]⟩

theorem oRefresh_inv (b : St ℝ) (h : Inv b) : OInv (oRefresh b) := ⟨h, rfl⟩

/-- an ordered vector in the sense of the property: strictly decreasing positive values, sum one -/
structure ValidOrdered (v : List ℝ) : Prop where
  decr : StrictDecrPos v
  ne : v ≠ []
  sum : v.sum = 1
  len : v.length < 2 ^ 31

theorem validOrdered_probs {v : List ℝ} (hv : ValidOrdered v) : ValidProbs (orderedToProbs v 1) :=
  ⟨orderedToProbs_pos v 1 (le_refl _) hv.decr,
    fun h => hv.ne (List.length_eq_zero_iff.mp ((orderedToProbs_length v 1).symm.trans (congrArg _ h))),
    by rw [orderedToProbs_sum, hv.sum], by rw [orderedToProbs_length]; exact hv.len⟩

theorem validOrdered_example : ValidOrdered ([1/2, 3/10, 1/5] : List ℝ) := by
  refine ⟨?_, by simp, by norm_num, by simp⟩
  norm_num [StrictDecrPos]

theorem oSetFrequencies_base (o : OSt ℝ) (h : Inv o.base) (v : List ℝ) (hv : ValidOrdered v)
    (hl : v.length = o.base.dim) :
    ∃ b, setFrequencies o.base (orderedToProbs v 1) = .ok b ∧ oSetFrequencies o v = .ok ⟨b, v⟩ ∧
      b.probs = orderedToProbs v 1 ∧ b.params = paramsOf o.base.method (orderedToProbs v 1) ∧ OInv ⟨b, v⟩ := by
  obtain ⟨b, e, hpr, hpar, hi⟩ := setFrequencies_ok o.base h (orderedToProbs v 1) (validOrdered_probs hv)
    (by rw [orderedToProbs_length, hl])
  refine ⟨b, e, ?_, hpr, hpar, hi, by rw [hpr]; exact (orderedValues_toProbs v 1 le_rfl).symm⟩
  simp only [oSetFrequencies, hl, h.dim_pos.ne', ne_eq, not_true_eq_false, if_false, e]
  rfl

theorem oSetFrequencies_rejected (o : OSt ℝ) (v : List ℝ) (err : Err) (h0 : v.length ≠ 0)
    (hl : v.length = o.base.dim) (e : setFrequencies o.base (orderedToProbs v 1) = .error err) :
    oSetFrequencies o v = .error err ∧ oSetFrequenciesOrig o v = (⟨o.base, v⟩, some err) := by
  have hd : o.base.dim ≠ 0 := hl ▸ h0
  simp only [oSetFrequencies, oSetFrequenciesOrig, hl, hd, ne_eq, not_true_eq_false, or_self, if_false, e, and_true]
  rfl

theorem oSetFrequencies_of_orig (o : OSt ℝ) (v : List ℝ) (err : Err) (h0 : v.length ≠ 0)
    (hl : v.length = o.base.dim) (h : (oSetFrequenciesOrig o v).2 = some err) :
    oSetFrequencies o v = .error err := by
  cases e : setFrequencies o.base (orderedToProbs v 1) with
  | ok b =>
    have hd : o.base.dim ≠ 0 := hl ▸ h0
    simp [oSetFrequenciesOrig, hl, hd, e] at h
  | error e' =>
    obtain ⟨h1, h2⟩ := oSetFrequencies_rejected o v e' h0 hl e
    rw [h2] at h
    rw [h1, Option.some.inj h]

theorem oConstructDim_ok (dim m : Nat) (a : Bool) (hm : ValidMethod m) (hd : 0 < dim) (h31 : dim < 2 ^ 31) :
    ∃ o, oConstructDim dim m a = .ok o ∧ OInv o ∧ o.base.dim = dim ∧ o.base.method = m ∧ o.base.allowNull = a := by
  obtain ⟨s, e, _, hi, ha, hdim, hme⟩ := constructDim_ok dim m a hm hd h31
  exact ⟨oRefresh s, by simp only [oConstructDim, e]; rfl, oRefresh_inv s hi, hdim, hme, ha⟩

theorem oConstruct_ok (v : List ℝ) (m : Nat) (a : Bool) (hm : ValidMethod m) (hv : ValidOrdered v) :
    ∃ o, oConstruct v m a = .ok o ∧ o.values = v ∧ OInv o ∧ o.base.allowNull = a := by
  obtain ⟨s, e, _, hi, ha, hdim, _⟩ := constructDim_ok v.length m a hm (List.length_pos_of_ne_nil hv.ne) hv.len
  obtain ⟨b, eb, e', _, _, hib⟩ := oSetFrequencies_base ⟨s, v⟩ hi v hv hdim.symm
  exact ⟨⟨b, v⟩, by simp only [oConstruct, e]; exact e', rfl, hib, (setFrequencies_same s b _ eb).2.2.trans ha⟩

end Bpp.Simplex
