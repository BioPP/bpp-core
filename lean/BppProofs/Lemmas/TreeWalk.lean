import BppProofs.Lemmas.TreeRooted
/-
The declarative reading of `IsTreeFrom` for directed graphs: every node is joined to the root by
exactly one directed path.  A path from the root to `n` is listed from `n` back to the root
(`UpWalk`): `[n, father of n, ..., root]`, each step a relation father -> son of the graph.
-/
namespace Bpp.Graph
open AL

/-- `w = [n, ..., root]` lists backwards a directed path from `root` to `n` -/
inductive UpWalk (g : G) (root : Nat) : Nat → List Nat → Prop
  | root : UpWalk g root root [root]
  | step {n p : Nat} {w : List Nat} : Arc g p n → UpWalk g root p w → UpWalk g root n (n :: w)

theorem UpWalk.head {g : G} {root n : Nat} {w : List Nat} (h : UpWalk g root n w) : w.head? = some n := by
  cases h <;> rfl

theorem UpWalk.ne_nil {g : G} {root n : Nat} {w : List Nat} (h : UpWalk g root n w) : w ≠ [] := by
  cases h <;> simp

namespace DTree
variable {g : G} {P : PTree}

/-- the ancestor line is a path from the root -/
theorem upWalk_line (h : DTree g P) {n : Nat} (hn : n ∈ P.nodes) : UpWalk g P.root n (P.line n) := by
  induction h.wf.root_anc hn with
  | refl => rw [PTree.line_of_none h.wf.par_root]; exact .root
  | step hp _ ih => rw [h.wf.line_cons hp]; exact .step ((h.arc _ _).2 hp) (ih (h.wf.par_mem hp).2.2.1)

/-- and the only one -/
theorem upWalk_unique (h : DTree g P) {n : Nat} {w : List Nat} (hw : UpWalk g P.root n w) : w = P.line n := by
  induction hw with
  | root => exact (PTree.line_of_none h.wf.par_root).symm
  | step ha _ ih => rw [ih, h.wf.line_cons ((h.arc _ _).1 ha)]

end DTree

/-- **unique directed path**: on a consistent directed graph, `IsTreeFrom` says that every node is
joined to the root by exactly one directed path -/
theorem isTreeFrom_iff_unique_path {g : G} (hc : Consistent g) (hd : g.directed = true) :
    IsTreeFrom g ↔ (g.hasNode g.root = true ∧ ∀ n, g.hasNode n = true → ∃ w, UpWalk g g.root n w ∧ ∀ w', UpWalk g g.root n w' → w' = w) := by
  constructor
  · rintro ⟨P, hw, hm, hr⟩
    have h := DTree.of_matches hc hd hw hm
    refine ⟨(h.nodes _).1 (hr ▸ hw.root_mem), fun n hn => ?_⟩
    have hnP := (h.nodes n).2 hn
    exact ⟨P.line n, hr ▸ h.upWalk_line hnP, fun w' hw' => h.upWalk_unique (hr ▸ hw')⟩
  · rintro ⟨hroot, hu⟩
    -- the chosen path of every node
    let W : Nat → List Nat := fun n => if hn : g.hasNode n = true then Classical.choose (hu n hn) else []
    have hW : ∀ n (hn : g.hasNode n = true), UpWalk g g.root n (W n) ∧ ∀ w', UpWalk g g.root n w' → w' = W n := by
      intro n hn
      have := Classical.choose_spec (hu n hn)
      simp only [W, hn, dif_pos]
      exact this
    have hWroot : W g.root = [g.root] := ((hW g.root hroot).2 _ .root).symm
    -- a node other than the root: its path goes through a father, whose path is the rest
    have hstep : ∀ n, g.hasNode n = true → n ≠ g.root → ∃ p, Arc g p n ∧ g.hasNode p = true ∧ W n = n :: W p := by
      intro n hn hne
      have hwn := (hW n hn).1
      cases hcase : W n with
      | nil => exact absurd hcase hwn.ne_nil
      | cons x w' =>
        rw [hcase] at hwn
        cases hwn with
        | root => exact absurd rfl hne
        | @step _ p _ ha hp' =>
          have hpn := (G.arc_nodes hc ha).1
          exact ⟨p, ha, hpn, by rw [(hW p hpn).2 _ hp']⟩
    let P : PTree := { root := g.root, nodes := AL.keys g.nodes,
                       par := fun n => if g.hasNode n = true ∧ n ≠ g.root then (W n)[1]? else none,
                       rank := fun n => (W n).length - 1 }
    have hpar : ∀ n p, g.hasNode n = true → n ≠ g.root → W n = n :: W p → g.hasNode p = true → P.par n = some p := by
      intro n p hn hne hWn hp
      show (if g.hasNode n = true ∧ n ≠ g.root then (W n)[1]? else none) = some p
      rw [if_pos ⟨hn, hne⟩, hWn]
      have := (hW p hp).1.head
      simp only [List.getElem?_cons_succ]
      rw [← List.head?_eq_getElem?]; exact this
    refine ⟨P, ⟨(G.mem_keys_hasNode g _).2 hroot, ?_, ?_, ?_, ?_⟩, ⟨fun n => G.mem_keys_hasNode g n, ?_⟩, rfl⟩
    · show (if g.hasNode g.root = true ∧ g.root ≠ g.root then _ else none) = none
      simp
    · show (W g.root).length - 1 = 0
      rw [hWroot]; rfl
    · intro n hn hne
      have hnn := (G.mem_keys_hasNode g n).1 hn
      obtain ⟨p, _, hp, hWn⟩ := hstep n hnn hne
      refine ⟨p, hpar n p hnn hne hWn hp, (G.mem_keys_hasNode g p).2 hp, ?_⟩
      show (W n).length - 1 = (W p).length - 1 + 1
      rw [hWn]
      have : 0 < (W p).length := List.length_pos_iff.2 (hW p hp).1.ne_nil
      simp only [List.length_cons]; omega
    · intro n hn
      have : ¬ g.hasNode n = true := fun hh => hn ((G.mem_keys_hasNode g n).2 hh)
      show (if g.hasNode n = true ∧ n ≠ g.root then _ else none) = none
      rw [if_neg (fun hh => this hh.1)]
    · intro a b
      simp only [hd, Bool.true_eq_false, false_and, or_false]
      constructor
      · intro hab
        obtain ⟨ha, hb⟩ := G.arc_nodes hc hab
        have hwalk : UpWalk g g.root b (b :: W a) := .step hab (hW a ha).1
        have hWb := ((hW b hb).2 _ hwalk).symm
        have hbr : b ≠ g.root := by
          intro e
          rw [e, hWroot] at hWb
          have := (List.cons.inj hWb).2
          exact (hW a ha).1.ne_nil this.symm
        exact hpar b a hb hbr hWb ha
      · intro hp
        have hp' : (if g.hasNode b = true ∧ b ≠ g.root then (W b)[1]? else none) = some a := hp
        by_cases hcond : g.hasNode b = true ∧ b ≠ g.root
        · obtain ⟨p, hpa, hpn, hWb⟩ := hstep b hcond.1 hcond.2
          have := hpar b p hcond.1 hcond.2 hWb hpn
          rw [hp] at this; cases this
          exact hpa
        · rw [if_neg hcond] at hp'; cases hp'

end Bpp.Graph
