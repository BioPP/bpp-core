import BppProofs.Lemmas.ParamListBulk
/-! Which objects a routine of C02 can write (`Frame`). -/
namespace Bpp.ParamList

/-- objects allocated in `h` and outside `w` are the same in `h'`; `h'` is not smaller -/
structure Frame (h h' : Store) (w : List ObjId) : Prop where
  next_le : h.next ≤ h'.next
  same : ∀ i : Nat, i < h.next → i ∉ w → h'.get i = h.get i

theorem Frame.refl (h : Store) (w : List ObjId) : Frame h h w := ⟨Nat.le_refl _, fun _ _ _ => rfl⟩

theorem Frame.trans {a b c : Store} {w w' : List ObjId} (x : Frame a b w) (y : Frame b c w')
    (sub : ∀ i : Nat, i < a.next → i ∈ w' → i ∈ w) : Frame a c w :=
  ⟨Nat.le_trans x.next_le y.next_le, fun i hi hw => by
    rw [y.same i (Nat.lt_of_lt_of_le hi x.next_le) (fun c => hw (sub i hi c)), x.same i hi hw]⟩

theorem Frame.mono {a b : Store} {w w' : List ObjId} (x : Frame a b w) (sub : ∀ i, i ∈ w → i ∈ w') :
    Frame a b w' := ⟨x.next_le, fun i hi hw => x.same i hi (fun c => hw (sub i c))⟩

theorem frame_alloc (h : Store) (p : Par) (w : List ObjId) : Frame h (h.alloc p).1 w :=
  ⟨by simp, fun i hi _ => by grind⟩

theorem frame_allocAll (h : Store) (ps : List Par) (w : List ObjId) : Frame h (allocAll h ps) w :=
  ⟨by rw [next_allocAll]; omega, fun _ hi _ => get_allocAll_old hi⟩

theorem frame_put (h : Store) (t : ObjId) (p : Par) {w : List ObjId} (ht : t ∈ w) : Frame h (h.put t p) w :=
  ⟨by simp, fun i _ hw => by
    have : i ≠ t := fun c => hw (c ▸ ht)
    simp [this]⟩

theorem setParameterValue_frame (h : Store) (l : List ObjId) (n : String) (v : Rat) :
    Frame h (setParameterValue h l n v).heap l := by
  unfold setParameterValue
  split
  · exact Frame.refl ..
  · next i e =>
    split
    · exact frame_put h i _ (find?_some e).1
    · exact Frame.refl ..

theorem addParameter_frame (h : Store) (l : List ObjId) (p : Par) (w : List ObjId) :
    Frame h (addParameter h l p).heap w := by
  unfold addParameter
  split
  · exact Frame.refl ..
  · exact frame_alloc ..

theorem addParameter_list (h : Store) (l : List ObjId) (p : Par) :
    ∀ i : Nat, i ∈ (addParameter h l p).list → i ∈ l ∨ h.next ≤ i := by
  unfold addParameter
  split
  · exact fun i hi => Or.inl hi
  · intro i hi
    simp only [alloc_snd, List.mem_append, List.mem_singleton] at hi
    rcases hi with hi | hi
    · exact Or.inl hi
    · exact Or.inr (by omega)

theorem addParameters_frame (src : List ObjId) (h : Store) (l : List ObjId) :
    Frame h (addParameters h l src).heap [] := by
  induction src generalizing h l with
  | nil => exact Frame.refl ..
  | cons i rest ih =>
    unfold addParameters; dsimp only
    split
    · exact addParameter_frame ..
    · exact (addParameter_frame h l _ []).trans (ih _ _) (fun _ _ c => c)

theorem shareParameter_frame (h : Store) (l : List ObjId) (i : ObjId) :
    Frame h (shareParameter h l i).heap l := by
  unfold shareParameter
  split
  · exact setParameterValue_frame ..
  · exact Frame.refl ..

theorem shareParameter_list (h : Store) (l : List ObjId) (i : ObjId) :
    ∀ x, x ∈ (shareParameter h l i).list → x ∈ l ∨ x = i := by
  unfold shareParameter
  split
  · exact fun x hx => Or.inl hx
  · intro x hx
    simpa using hx

theorem shareParameter_next (h : Store) (l : List ObjId) (i : ObjId) :
    (shareParameter h l i).heap.next = h.next := by
  unfold shareParameter setParameterValue
  split
  · dsimp only; split
    · rfl
    · split <;> rfl
  · rfl

/-- `shareParameters` may write the objects of the list and those it takes from the source -/
theorem shareParameters_frame (src : List ObjId) (h : Store) (l : List ObjId) :
    Frame h (shareParameters h l src).heap (l ++ src) := by
  induction src generalizing h l with
  | nil => exact Frame.refl ..
  | cons i rest ih =>
    unfold shareParameters; dsimp only
    have f1 := (shareParameter_frame h l i).mono (w' := l ++ i :: rest) (fun x hx => List.mem_append_left _ hx)
    split
    · exact f1
    · refine f1.trans (ih _ _) ?_
      intro x _ hx
      rcases List.mem_append.1 hx with hx | hx
      · rcases shareParameter_list h l i x hx with hx | hx
        · exact List.mem_append_left _ hx
        · exact List.mem_append_right _ (hx ▸ List.mem_cons_self ..)
      · exact List.mem_append_right _ (List.mem_cons_of_mem _ hx)

theorem includeParameters_frame (src : List ObjId) (h : Store) (l : List ObjId) :
    Frame h (includeParameters h l src).heap l := by
  induction src generalizing h l with
  | nil => exact Frame.refl ..
  | cons i rest ih =>
    unfold includeParameters; dsimp only
    split
    · have f1 := setParameterValue_frame h l (nameOf h i) (h.get i).value
      split
      · exact f1
      · exact f1.trans (ih _ _) (fun _ _ c => c)
    · refine (frame_alloc h (h.get i) l).trans (ih _ _) ?_
      intro x hx hm
      simp only [alloc_snd, List.mem_append, List.mem_singleton] at hm
      rcases hm with hm | hm
      · exact hm
      · omega

theorem setParameter_frame (h : Store) (l : List ObjId) (k : Nat) (p : Par) (w : List ObjId) :
    Frame h (setParameter h l k p).heap w := by
  unfold setParameter
  split
  · exact Frame.refl ..
  · split
    · exact Frame.refl ..
    · exact frame_alloc ..

theorem applyAll_frame (src : List ObjId) (rest : List ObjId) (h : Store) :
    Frame h (applyAll h src rest).heap rest := by
  induction rest generalizing h with
  | nil => exact Frame.refl ..
  | cons i rest ih =>
    unfold applyAll
    split
    · exact Frame.refl ..
    · split
      · exact (frame_put h i _ (List.mem_cons_self ..)).trans (ih _) (fun _ _ c => List.mem_cons_of_mem _ c)
      · exact Frame.refl ..

theorem setAllParametersValues_frame (h : Store) (l src : List ObjId) :
    Frame h (setAllParametersValues h l src).heap l := by
  unfold setAllParametersValues
  split
  · exact Frame.refl ..
  · exact applyAll_frame ..

theorem applySome_frame (l : List ObjId) (src : List ObjId) (h : Store) :
    Frame h (applySome h l src).heap l := by
  induction src generalizing h with
  | nil => exact Frame.refl ..
  | cons s rest ih =>
    unfold applySome
    split
    · exact ih _
    · next t e =>
      split
      · exact (frame_put h t _ (find?_some e).1).trans (ih _) (fun _ _ c => c)
      · exact Frame.refl ..

theorem setParametersValues_frame (h : Store) (l src : List ObjId) :
    Frame h (setParametersValues h l src).heap l := by
  unfold setParametersValues
  split
  · exact Frame.refl ..
  · exact applySome_frame ..

theorem matchParametersValues_frame (h : Store) (l src : List ObjId) :
    Frame h (matchParametersValues h l src).heap l := by
  unfold matchParametersValues
  split
  · exact Frame.refl ..
  · rw [(matchSome_eq_applySome l src h 0).1]; exact applySome_frame ..

theorem setAllParameters_frame (src : List ObjId) (rest : List ObjId) (h : Store) :
    Frame h (setAllParameters h src rest).heap rest := by
  induction rest generalizing h with
  | nil => exact Frame.refl ..
  | cons i rest ih =>
    unfold setAllParameters
    split
    · exact Frame.refl ..
    · exact (frame_put h i _ (List.mem_cons_self ..)).trans (ih _) (fun _ _ c => List.mem_cons_of_mem _ c)

theorem matchParameters_frame (l : List ObjId) (src : List ObjId) (h : Store) :
    Frame h (matchParameters h l src).heap l := by
  induction src generalizing h with
  | nil => exact Frame.refl ..
  | cons s rest ih =>
    unfold matchParameters
    split
    · exact ih _
    · next t e => exact (frame_put h t _ (find?_some e).1).trans (ih _) (fun _ _ c => c)

theorem setParameters_frame (l : List ObjId) (src : List ObjId) (h : Store) :
    Frame h (setParameters h l src).heap l :=
  setParameters_eq l src h ▸ matchParameters_frame l _ h

theorem cloneAll_frame (l : List ObjId) (h : Store) : Frame h (cloneAll h l).1 [] := by
  induction l generalizing h with
  | nil => exact Frame.refl ..
  | cons a t ih =>
    simp only [cloneAll]
    exact (frame_alloc h _ []).trans (ih _) (fun _ _ c => c)

theorem createSubListNames_frame (l : List ObjId) (ns : List String) (h : Store) (acc : List ObjId) :
    Frame h (createSubListNames h l acc ns).heap [] := by
  induction ns generalizing h acc with
  | nil => exact Frame.refl ..
  | cons n rest ih =>
    unfold createSubListNames
    split
    · exact Frame.refl ..
    · dsimp only
      split
      · exact addParameter_frame ..
      · exact (addParameter_frame h acc _ []).trans (ih _ _) (fun _ _ c => c)

theorem createSubListIdx_frame (l : List ObjId) (idx : List Nat) (h : Store) (acc : List ObjId) :
    Frame h (createSubListIdx h l acc idx).heap [] :=
  createSubListIdx_eq l idx h acc ▸ addParameters_frame ..

/-- sharing into a sub-list can only write objects of the source list (`acc ⊆ l`) -/
theorem shareSubListNames_frame (l : List ObjId) (ns : List String) (h : Store) (acc : List ObjId)
    (sub : ∀ x, x ∈ acc → x ∈ l) : Frame h (shareSubListNames h l acc ns).heap l := by
  induction ns generalizing h acc with
  | nil => exact Frame.refl ..
  | cons n rest ih =>
    unfold shareSubListNames
    split
    · exact Frame.refl ..
    · next i e =>
      dsimp only
      have f1 := (shareParameter_frame h acc i).mono sub
      have sub' : ∀ x, x ∈ (shareParameter h acc i).list → x ∈ l := by
        intro x hx
        rcases shareParameter_list h acc i x hx with hx | hx
        · exact sub x hx
        · exact hx ▸ (find?_some e).1
      split
      · exact f1
      · exact f1.trans (ih _ _ sub') (fun _ _ c => c)

theorem shareSubListIdx_frame (l : List ObjId) (idx : List Nat) (h : Store) (acc : List ObjId)
    (sub : ∀ x, x ∈ acc → x ∈ l) : Frame h (shareSubListIdx h l acc idx).heap l := by
  rw [shareSubListIdx_eq]
  refine (shareParameters_frame ..).mono (fun x hx => (List.mem_append.1 hx).elim (sub x) (fun c => ?_))
  obtain ⟨k, _, hk⟩ := List.mem_filterMap.1 c
  exact List.mem_of_getElem? hk

theorem getCommon_frame (l : List ObjId) (h0 : Store) (src : List ObjId) (h : Store) :
    Frame h (getCommonParametersWith h0 l h src).1 [] :=
  getCommon_eq h0 l src h ▸ frame_allocAll ..

theorem apSetAllParametersValues_frame (h : Store) (l src : List ObjId) :
    Frame h (apSetAllParametersValues h l src).heap l := by
  unfold apSetAllParametersValues; dsimp only
  split <;> exact setAllParametersValues_frame ..

theorem apSetParametersValues_frame (h : Store) (l src : List ObjId) :
    Frame h (apSetParametersValues h l src).heap l := by
  unfold apSetParametersValues; dsimp only
  split <;> exact setParametersValues_frame ..

theorem apSetParameterValue_frame (h : Store) (l : List ObjId) (pre n : String) (v : Rat) :
    Frame h (apSetParameterValue h l pre n v).heap l := by
  unfold apSetParameterValue; dsimp only
  have f1 := setParameterValue_frame h l (pre ++ n) v
  split
  · exact f1
  · have f2 := (createSubListNames_frame l [pre ++ n] (setParameterValue h l (pre ++ n) v).heap []).mono
      (w' := l) (fun _ c => by cases c)
    split <;> exact f1.trans f2 (fun _ _ c => c)

/-- the owner's `matchParametersValues` writes the targets; building the notification list
(shared sub-list of the source) can only touch source objects -/
theorem apMatchParametersValues_frame (h : Store) (l src : List ObjId) :
    Frame h (apMatchParametersValues h l src).heap (l ++ src) := by
  unfold apMatchParametersValues; dsimp only
  have f1 := (matchParametersValues_frame h l src).mono (w' := l ++ src) (fun x hx => List.mem_append_left _ hx)
  split
  · exact f1
  · split
    · have f2 := (shareSubListIdx_frame src (matchParametersValues h l src).pos
        (matchParametersValues h l src).heap [] (fun _ c => by cases c)).mono
        (w' := l ++ src) (fun x hx => List.mem_append_right _ hx)
      exact f1.trans f2 (fun _ _ c => c)
    · exact f1

theorem setNamespace_frame (oldPre newPre : String) (l : List ObjId) (h : Store) :
    Frame h (setNamespace h oldPre newPre l) l := by
  induction l generalizing h with
  | nil => exact Frame.refl ..
  | cons i rest ih =>
    unfold setNamespace; dsimp only
    exact (frame_put h i _ (List.mem_cons_self ..)).trans (ih _) (fun _ _ c => List.mem_cons_of_mem _ c)

/-- a frame over the list of one of the written registers is a frame over all of them -/
theorem Frame.toWrites {s : State} {h' : Store} {k : Nat} {ws : List Nat} (f : Frame s.heap h' (s.lists k))
    (hk : k ∈ ws) : Frame s.heap h' (ws.flatMap s.lists) :=
  f.mono (fun _ hx => List.mem_flatMap.2 ⟨k, hk, hx⟩)

theorem Frame.toWrites₂ {s : State} {h' : Store} {k j : Nat} (f : Frame s.heap h' (s.lists k ++ s.lists j)) :
    Frame s.heap h' ([k, j].flatMap s.lists) :=
  f.mono (fun _ hx => (List.mem_append.1 hx).elim
    (fun c => List.mem_flatMap.2 ⟨k, List.mem_cons_self .., c⟩)
    (fun c => List.mem_flatMap.2 ⟨j, List.mem_cons_of_mem _ (List.mem_cons_self ..), c⟩))

end Bpp.ParamList
