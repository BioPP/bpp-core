import BppProofs.Lemmas.GraphRefine
/-! Helper lemmas for C14: the implementation model refines the reference multigraph (`Graph.Spec`).  `Outcome` joins
the refinement with what the observers are told; `applyR_outcome` has both for every operation. -/
set_option linter.unusedSimpArgs false
set_option linter.unusedVariables false
set_option linter.unusedSectionVars false
namespace Bpp
namespace Graph
open AL
namespace G

theorem abs_hasNode (g : G) (n : Nat) : g.abs.hasNode n = g.hasNode n := by
  simp only [Spec.hasNode, G.abs, G.hasNode, has]
  rcases find_cases n g.nodes with hf | ⟨r, hf⟩
  · have : n ∉ AL.keys g.nodes := fun h => by have := (mem_keys_iff n g.nodes).mp h; simp [hf] at this
    simp [hf, this]
  · have : n ∈ AL.keys g.nodes := (mem_keys_iff n g.nodes).mpr (by simp [hf])
    simp [hf, this]

/-- the edge table *is* the list of triples of the reference (`(e, (a, b))` and `(e, a, b)` are the same term) -/
theorem abs_edges (g : G) : g.abs.edges = g.edges := by
  simp only [G.abs]
  exact List.map_id' _

theorem abs_edgeNodes (g : G) (e : Nat) : g.abs.edgeNodes e = find e g.edges := by
  simp only [Spec.edgeNodes, abs_edges]
  generalize g.edges = l
  induction l with
  | nil => simp [find]
  | cons p r ih =>
    obtain ⟨e', a, b⟩ := p
    simp only [List.find?_cons, find]
    by_cases h : e' = e
    · simp [h]
    · simp [h, ih]

theorem mem_abs_edges (g : G) (hs : Sorted g) (e a b : Nat) : (e, a, b) ∈ g.abs.edges ↔ find e g.edges = some (a, b) := by
  simp only [G.abs, List.mem_map]
  constructor
  · rintro ⟨⟨e', a', b'⟩, hm, h⟩
    injection h with h1 h; injection h with h2 h3; subst h1; subst h2; subst h3
    exact (mem_iff_find hs.edges _ _).mp hm
  · intro h; exact ⟨(e, (a, b)), find_some_mem h, rfl⟩

/-- in a consistent graph the reference finds the edge between two nodes exactly where the node
table has it -/
theorem abs_edgeBetween {g : G} (hc : Consistent g) (a b : Nat) : g.abs.edgeBetween a b = g.outE a b := by
  have hd : g.abs.directed = g.directed := rfl
  unfold Spec.edgeBetween
  rw [hd]
  -- every triple that relates a to b carries the edge of the node table
  have hrel : ∀ t ∈ g.abs.edges, Spec.relates g.directed a b t = true → g.outE a b = some t.1 := by
    intro t ht hr
    obtain ⟨e, x, y⟩ := t
    have hE := (mem_abs_edges g hc.sorted e x y).mp ht
    have hl := hc.views.edge_listed e x y hE
    simp only [Spec.relates, Bool.or_eq_true, Bool.and_eq_true, decide_eq_true_eq, Bool.not_eq_true'] at hr
    rcases hr with ⟨rfl, rfl⟩ | ⟨⟨hd, rfl⟩, rfl⟩
    · exact hl.1
    · exact (hl.2.2 hd).1
  rcases hO : g.outE a b with _ | e
  · have : g.abs.edges.find? (Spec.relates g.directed a b) = none := by
      apply List.find?_eq_none.mpr
      intro t ht hr
      have := hrel t ht hr; rw [hO] at this; cases this
    simp [this]
  · -- the edge of the node table is in the edge table, and relates a to b
    have hE := hc.views.out_edge a b e hO
    have hex : ∃ t ∈ g.abs.edges, Spec.relates g.directed a b t = true := by
      rcases hE with hE | ⟨hd, hE⟩
      · exact ⟨(e, a, b), (mem_abs_edges g hc.sorted e a b).mpr hE, by simp [Spec.relates]⟩
      · exact ⟨(e, b, a), (mem_abs_edges g hc.sorted e b a).mpr hE, by simp [Spec.relates, hd]⟩
    rcases hf : g.abs.edges.find? (Spec.relates g.directed a b) with _ | t
    · obtain ⟨t, ht, hr⟩ := hex
      exact absurd hr (by simpa using List.find?_eq_none.mp hf t ht)
    · have hr := List.find?_some hf
      have hm := List.mem_of_find?_eq_some hf
      have := hrel t hm hr
      rw [hO] at this; injection this with this
      simp [this]

/-! ### rows: the node table holds exactly what the reference recomputes from the edge triples -/

theorem find_foldl_insertNew (L : List (Nat × Nat)) (acc : List (Nat × Nat)) (k : Nat) :
    find k (L.foldl (fun acc p => AL.insertNew p.1 p.2 acc) acc) = (find k acc).orElse (fun _ => find k L) := by
  induction L generalizing acc with
  | nil => simp [find]
  | cons p r ih =>
    obtain ⟨k', v⟩ := p
    simp only [List.foldl_cons, ih, find_insertNew, find]
    by_cases h : k' = k
    · subst h; cases hf : find k' acc <;> simp [hf]
    · simp [h]

theorem asc_foldl_insertNew (L : List (Nat × Nat)) (acc : List (Nat × Nat)) (h : Asc acc) :
    Asc (L.foldl (fun acc p => AL.insertNew p.1 p.2 acc) acc) := by
  induction L generalizing acc with
  | nil => exact h
  | cons p r ih => exact ih _ (asc_insertNew _ _ _ h)

theorem foldl_insertNew_eq {ins l : List (Nat × Nat)} (hl : Asc l) (h : ∀ k v, (k, v) ∈ ins ↔ find k l = some v) :
    ins.foldl (fun acc p => AL.insertNew p.1 p.2 acc) [] = l := by
  apply asc_ext (asc_foldl_insertNew _ _ asc_nil) hl
  intro k
  rw [find_foldl_insertNew]
  simp only [find, Option.orElse_none]
  rcases hi : find k ins with _ | w
  · rcases hk : find k l with _ | v
    · rfl
    · have := (mem_keys_iff k ins).1 (List.mem_map.2 ⟨_, (h k v).2 hk, rfl⟩)
      rw [hi] at this; cases this
  · exact ((h k w).1 (find_some_mem hi)).symm

/-- the insertions `outPairs` makes, as a plain list -/
def outIns (d : Bool) (n : Nat) (es : List (Nat × Nat × Nat)) : List (Nat × Nat) :=
  es.filterMap (fun t => if t.2.1 = n then some (t.2.2, t.1) else if !d && t.2.2 = n then some (t.2.1, t.1) else none)

def inIns (d : Bool) (n : Nat) (es : List (Nat × Nat × Nat)) : List (Nat × Nat) :=
  es.filterMap (fun t => if t.2.2 = n then some (t.2.1, t.1) else if !d && t.2.1 = n then some (t.2.2, t.1) else none)

theorem outPairs_eq (s : Spec) (n : Nat) :
    s.outPairs n = (outIns s.directed n s.edges).foldl (fun acc p => AL.insertNew p.1 p.2 acc) [] := by
  unfold Spec.outPairs outIns
  rw [List.foldl_filterMap]
  congr 1
  funext acc t
  by_cases h1 : t.2.1 = n
  · simp [h1]
  · by_cases h2 : (!s.directed && decide (t.2.2 = n)) = true
    · simp only [h1, if_false, h2, if_true]
    · simp [h1, h2]

theorem inPairs_eq (s : Spec) (n : Nat) :
    s.inPairs n = (inIns s.directed n s.edges).foldl (fun acc p => AL.insertNew p.1 p.2 acc) [] := by
  unfold Spec.inPairs inIns
  rw [List.foldl_filterMap]
  congr 1
  funext acc t
  by_cases h1 : t.2.2 = n
  · simp [h1]
  · by_cases h2 : (!s.directed && decide (t.2.1 = n)) = true
    · simp only [h1, if_false, h2, if_true]
    · simp [h1, h2]

theorem mem_outIns {g : G} (hc : Consistent g) (n b e : Nat) :
    (b, e) ∈ outIns g.directed n g.abs.edges ↔ g.outE n b = some e := by
  simp only [outIns, List.mem_filterMap]
  constructor
  · rintro ⟨⟨e', x, y⟩, ht, h⟩
    have hE := (mem_abs_edges g hc.sorted e' x y).mp ht
    have hl := hc.views.edge_listed e' x y hE
    simp only at h
    split at h
    · rename_i hx; subst hx; injection h with h; injection h with h1 h2; subst h1; subst h2; exact hl.1
    · split at h
      · rename_i hx hy
        simp only [Bool.and_eq_true, Bool.not_eq_true', decide_eq_true_eq] at hy
        obtain ⟨hd, rfl⟩ := hy
        injection h with h; injection h with h1 h2; subst h1; subst h2
        exact (hl.2.2 hd).1
      · cases h
  · intro hO
    rcases hc.views.out_edge n b e hO with hE | ⟨hd, hE⟩
    · exact ⟨(e, n, b), (mem_abs_edges g hc.sorted e n b).mpr hE, by simp⟩
    · refine ⟨(e, b, n), (mem_abs_edges g hc.sorted e b n).mpr hE, ?_⟩
      by_cases hbn : b = n
      · subst hbn; simp
      · simp [hbn, hd]

theorem mem_inIns {g : G} (hc : Consistent g) (n a e : Nat) :
    (a, e) ∈ inIns g.directed n g.abs.edges ↔ g.inE n a = some e := by
  simp only [inIns, List.mem_filterMap]
  constructor
  · rintro ⟨⟨e', x, y⟩, ht, h⟩
    have hE := (mem_abs_edges g hc.sorted e' x y).mp ht
    have hl := hc.views.edge_listed e' x y hE
    simp only at h
    split at h
    · rename_i hy; subst hy; injection h with h; injection h with h1 h2; subst h1; subst h2; exact hl.2.1
    · split at h
      · rename_i hy hx
        simp only [Bool.and_eq_true, Bool.not_eq_true', decide_eq_true_eq] at hx
        obtain ⟨hd, rfl⟩ := hx
        injection h with h; injection h with h1 h2; subst h1; subst h2
        exact (hl.2.2 hd).2
      · cases h
  · intro hI
    rcases hc.views.in_edge a n e hI with hE | ⟨hd, hE⟩
    · exact ⟨(e, a, n), (mem_abs_edges g hc.sorted e a n).mpr hE, by simp⟩
    · refine ⟨(e, n, a), (mem_abs_edges g hc.sorted e n a).mpr hE, ?_⟩
      by_cases han : a = n
      · subst han; simp
      · simp [han, hd]

/-- **rows agree**: in a consistent graph the row of every node is the row the reference
recomputes from the edge triples alone; hence every per-node query agrees -/
theorem abs_rowOf {g : G} (hc : Consistent g) (n : Nat) : g.abs.rowOf n = g.rowOf n := by
  unfold Spec.rowOf G.rowOf
  rw [abs_hasNode]
  rcases find_cases n g.nodes with hf | ⟨r, hf⟩
  · simp [G.hasNode, has, hf]
  · simp only [G.hasNode, has, hf, Option.isSome_some, if_true, Option.some.injEq]
    have hs := hc.sorted.rows n r hf
    have hd : g.abs.directed = g.directed := rfl
    have hout : g.abs.outPairs n = r.out := by
      rw [outPairs_eq]
      exact foldl_insertNew_eq hs.1 fun k e => (mem_outIns hc n k e).trans (by simp [G.outE, hf])
    have hin : g.abs.inPairs n = r.inn := by
      rw [inPairs_eq]
      exact foldl_insertNew_eq hs.2 fun k e => (mem_inIns hc n k e).trans (by simp [G.inE, hf])
    simp [Spec.row, hout, hin]

/-- implementation outcome `o` (from state `g`) matches reference outcome `r`: both raise and the
implementation is unchanged, or both succeed with the same value and `abs` of the new state is
the new reference (and the new state is consistent) -/
def Refines {α : Type} (g : G) (r : Option (α × Spec)) (o : GOut α) : Prop :=
  match r with
  | none => o = .exc g
  | some (v, s') => ∃ g', o = .ok v g' ∧ g'.abs = s' ∧ Consistent g'

theorem abs_ext {g : G} {s : Spec} (h1 : g.directed = s.directed) (h2 : AL.keys g.nodes = s.nodes) (h3 : g.edges = s.edges)
    (h4 : g.nextNode = s.nextNode) (h5 : g.nextEdge = s.nextEdge) (h6 : g.root = s.root) : g.abs = s := by
  cases s
  simp only [G.abs, Spec.mk.injEq] at *
  refine ⟨h1, h2, ?_, h4, h5, h6⟩
  rw [← h3]; exact List.map_id' _

theorem keys_insertSorted_eq {β : Type} (k : Nat) (v : β) (l : List (Nat × β)) (h : find k l = none) :
    AL.keys (insertSorted k v l) = Spec.insertNode k (AL.keys l) := by
  induction l with
  | nil => rfl
  | cons p r ih =>
    obtain ⟨k1, v1⟩ := p
    simp only [find] at h
    split at h
    · cases h
    · rename_i hne
      simp only [insertSorted, AL.keys, List.map_cons, Spec.insertNode]
      have hne' : ¬ k = k1 := fun hh => hne hh.symm
      by_cases hlt : k < k1
      · simp [hlt, AL.keys]
      · simp only [hlt, if_false, hne', List.map_cons]
        have := ih h
        simp only [AL.keys] at this
        rw [this]

theorem insertSorted_eq_insertEdge (e a b : Nat) (l : List (Nat × (Nat × Nat))) :
    insertSorted e (a, b) l = Spec.insertEdge (e, a, b) l := by
  induction l with
  | nil => rfl
  | cons p r ih => simp only [insertSorted, Spec.insertEdge, ih]

theorem set_absent {β : Type} {k : Nat} {v : β} {l : List (Nat × β)} (h : find k l = none) : AL.set k v l = insertSorted k v l := by
  simp [AL.set, has, h]

theorem set_present {β : Type} {k : Nat} {v w : β} {l : List (Nat × β)} (h : find k l = some w) :
    AL.set k v l = l.map (fun p => if p.1 = k then (k, v) else p) := by
  simp only [AL.set, has, h, Option.isSome_some, if_true]
  apply List.map_congr_left
  intro p _
  split
  · rename_i hk; rw [hk]
  · rfl

theorem abs_linkOk {g : G} (hc : Consistent g) (a b : Nat) : g.abs.linkOk a b = !linkRefused g a b := by
  unfold Spec.linkOk linkRefused
  rw [abs_hasNode, abs_hasNode, abs_edgeBetween hc]
  cases g.hasNode a <;> cases g.hasNode b <;> cases g.outE a b <;> simp

theorem createNode_refines {g : G} (hc : Consistent g) :
    Refines g (some (g.abs.createNode)) (createNode g) := by
  obtain ⟨g1, h1, hc1, c1⟩ := createNode_spec hc
  have hf : find g.nextNode g.nodes = none := find_none_of_has_false (fresh_node hc)
  refine ⟨g1, h1, abs_ext c1.rest.2.1 ?_ (c1.rest.1.trans (abs_edges g).symm) c1.rest.2.2.1 c1.rest.2.2.2.1 c1.rest.2.2.2.2.1, hc1⟩
  rw [c1.nodes, set_absent hf, keys_insertSorted_eq _ _ _ hf]
  show _ = Spec.insertNode g.nextNode ((AL.keys g.nodes).filter (· ≠ g.nextNode))
  congr 1
  refine (List.filter_eq_self.mpr fun x hx => ?_).symm
  simp only [ne_eq, decide_eq_true_eq]
  rintro rfl
  have := (mem_keys_iff _ _).mp hx
  rw [hf] at this; cases this

theorem abs_linkWrite {g : G} {a b e : Nat} (hE : find e g.edges = none) :
    (linkWrite a b e g).abs = { g.abs with edges := Spec.insertEdge (e, a, b) g.abs.edges } := by
  have r := linkWrite_rest a b e g
  refine abs_ext r.1 (keys_linkWrite a b e g) ?_ r.2.1 r.2.2.1 r.2.2.2.1
  rw [edges_linkWrite, set_absent hE, insertSorted_eq_insertEdge, abs_edges]

theorem link_refines {g : G} (hc : Consistent g) (a b : Nat) : Refines g (g.abs.link a b) (link a b g) := by
  unfold Spec.link
  rw [abs_linkOk hc]
  cases hr : linkRefused g a b
  · obtain ⟨ha, hb, hO⟩ := linkRefused_false hr
    exact ⟨_, link_ok_of ha hb hO, abs_linkWrite (g := { g with nextEdge := g.nextEdge + 1 }) (fresh_edge hc (Nat.le_refl _)),
      (link_ok hc (link_ok_of ha hb hO)).1⟩
  · simp [Refines, link, hr]

theorem linkE_refines {g : G} (hc : Consistent g) (a b e : Nat) :
    Refines g ((g.abs.linkE a b e).map (fun s => ((), s))) (linkE a b e g) := by
  unfold Spec.linkE
  rw [abs_linkOk hc, abs_edgeNodes]
  have hcons := linkE_consistent hc a b e
  cases he : g.hasEdge e
  · have hE := find_none_of_has_false he
    cases hr : linkRefused g a b
    · have hrun : linkE a b e g = .ok () (linkWrite a b e (if e ≥ g.nextEdge then { g with nextEdge := e + 1 } else g)) := by
        simp [linkE, he, hr]
      rw [hrun] at hcons ⊢
      simp only [hE, Option.isNone_none, Bool.not_false, Bool.and_self, if_true, Option.map_some]
      refine ⟨_, rfl, ?_, hcons⟩
      rw [abs_linkWrite (by split <;> exact hE)]
      by_cases hge : e ≥ g.nextEdge
      · rw [if_pos hge, if_pos (show e ≥ g.abs.nextEdge from hge)]; rfl
      · rw [if_neg hge, if_neg (show ¬ e ≥ g.abs.nextEdge from hge)]
    · simp [Refines, linkE, he, hr]
  · have hE : (find e g.edges).isNone = false := by
      simp only [G.hasEdge, has] at he
      cases hf : find e g.edges <;> simp_all
    simp [Refines, linkE, he, hE]

theorem unlink_refines {g : G} (hc : Consistent g) (a b : Nat) :
    Refines g ((g.abs.unlink a b).map (fun r => ([r.1], r.2))) (unlink a b g) := by
  unfold Spec.unlink
  rw [abs_edgeBetween hc]
  rcases hO : g.outE a b with _ | e
  · simp only [Option.map_none, Refines]; exact unlink_none hO
  · obtain ⟨g', h, u⟩ := unlink_some hc hO
    simp only [Option.map_some, Refines]
    refine ⟨g', h, abs_ext u.rest.1 u.keys ?_ u.rest.2.1 u.rest.2.2.1 u.rest.2.2.2, u.consistent hc hO⟩
    rw [u.edges]
    show _ = g.abs.edges.filter (fun t => decide (t.1 ≠ e))
    rw [abs_edges]; rfl

theorem setRoot_refines {g : G} (hc : Consistent g) (n : Nat) :
    Refines g ((g.abs.setRoot n).map (fun s => ((), s))) (setRoot n g) := by
  unfold Spec.setRoot setRoot
  rw [abs_hasNode]
  cases hn : g.hasNode n
  · simp [Refines]
  · simp only [if_true, Option.map_some, Refines]
    exact ⟨_, rfl, rfl, hc.of_same rfl rfl rfl (Nat.le_refl _) (Nat.le_refl _)⟩

theorem find_filter_asc {β : Type} (q : Nat × β → Bool) {l : List (Nat × β)} (h : Asc l) (k : Nat) :
    find k (l.filter q) = (find k l).bind (fun v => if q (k, v) then some v else none) := by
  induction l with
  | nil => simp [find]
  | cons p r ih =>
    obtain ⟨k1, v1⟩ := p
    simp only [List.filter_cons, find]
    by_cases hk : k1 = k
    · subst hk
      have hnone : find k1 r = none := find_eq_none_of_lt (asc_head_lt h)
      by_cases hq : q (k1, v1) = true
      · simp [hq, find]
      · simp only [hq, Bool.false_eq_true, if_false, if_true, Option.bind_some]
        rw [ih (asc_tail h), hnone]; rfl
    · by_cases hq : q (k1, v1) = true
      · simp [hq, find, hk, ih (asc_tail h)]
      · simp [hq, hk, ih (asc_tail h)]

theorem deleteNode_refines {g : G} (hc : Consistent g) (n : Nat) :
    Refines g ((g.abs.deleteNode n).map (fun s => ((), s))) (deleteNode n g) := by
  unfold Spec.deleteNode
  rw [abs_hasNode]
  cases hn : g.hasNode n
  · simp only [Bool.false_eq_true, if_false, Option.map_none, Refines]; exact deleteNode_absent hn
  · obtain ⟨g', h, hc', d⟩ := deleteNode_spec hc hn
    simp only [if_true, Option.map_some, Refines]
    refine ⟨g', h, abs_ext d.rest.1 (by rw [d.keys]; rfl) ?_ d.rest.2.1 d.rest.2.2.1 d.rest.2.2.2, hc'⟩
    show g'.edges = g.abs.edges.filter (fun t => decide (t.2.1 ≠ n) && decide (t.2.2 ≠ n))
    rw [abs_edges]
    apply asc_ext hc'.sorted.edges (asc_filter _ hc.sorted.edges)
    intro e
    apply Option.ext; rintro ⟨a, b⟩
    rw [d.edges, find_filter_asc _ hc.sorted.edges]
    rcases find_cases e g.edges with hf | ⟨⟨x, y⟩, hf⟩ <;> simp [hf]
    constructor <;> rintro ⟨⟨h1, h2⟩, h3⟩ <;> simp_all

theorem switchFrom_refines {g : G} (hc : Consistent g) (hd : g.directed = true) {f s e : Nat} (hO : g.outE f s = some e) :
    Refines g (Option.map (fun s => ((), s))
        (if (decide (f ≠ s) && (g.outE s f).isSome) = true then none
         else some { g.abs with edges := g.abs.edges.map (fun t => if t.1 = e then (e, s, f) else t) }))
      (switchFrom f s e g) := by
  have hcons := switchFrom_consistent hc hd hO
  have hI : (g.inE s f).isNone = false := by rw [(cons_out_some hc hO).1]; rfl
  have hE := (cons_out_some hc hO).2.1
  unfold switchFrom at hcons ⊢
  simp only [hI, Bool.false_eq_true, if_false] at hcons ⊢
  cases hrec : (decide (f ≠ s) && (g.outE s f).isSome)
  · simp only [hrec, Bool.false_eq_true, if_false, Option.map_some, Refines] at hcons ⊢
    refine ⟨_, rfl, abs_ext rfl ?_ ?_ rfl rfl rfl, hcons⟩
    · exact keys_switchedNodes f s e g.nodes
    · show AL.set e (s, f) g.edges = g.abs.edges.map _
      obtain ⟨w, hf⟩ := Option.isSome_iff_exists.1 hE
      rw [abs_edges, set_present hf]
  · simp [Refines]

theorem switchNodes_refines {g : G} (hc : Consistent g) (a b : Nat) :
    Refines g ((g.abs.switchNodes a b).map (fun s => ((), s))) (switchNodes a b g) := by
  unfold Spec.switchNodes switchNodes
  rw [abs_hasNode, abs_hasNode, abs_edgeBetween hc, abs_edgeBetween hc]
  cases hd : g.directed
  · have e1 : g.abs.directed = false := hd
    simp [e1, Refines]
  · have e1 : g.abs.directed = true := hd
    cases ha : g.hasNode a
    · simp [e1, Refines]
    · cases hb : g.hasNode b
      · simp [e1, Refines]
      · rw [if_neg (by simp [e1]), if_neg (by simp)]
        rcases hab : g.outE a b with _ | e
        · rcases hba : g.outE b a with _ | e
          · simp [Refines]
          · have := switchFrom_refines hc hd hba
            simp only [hab, Option.isSome_none, Bool.and_false, Bool.false_eq_true, if_false] at this
            exact this
        · exact switchFrom_refines hc hd hab

/-! ### iteration order of the node table: lexicographic in (node, neighbour) -/

def lexLt (t u : Nat × Nat × Nat) : Prop := t.1 < u.1 ∨ (t.1 = u.1 ∧ t.2.1 < u.2.1)

theorem outTriples_lex {g : G} (hs : Sorted g) : List.Pairwise lexLt (outTriples g.nodes) := by
  unfold outTriples
  rw [List.pairwise_flatMap]
  constructor
  · intro p hp
    obtain ⟨n, r⟩ := p
    have hf := (mem_iff_find hs.nodes n r).mp hp
    have hr := (hs.rows n r hf).1
    rw [List.pairwise_map]
    unfold Asc AL.keys at hr
    rw [List.pairwise_map] at hr
    exact hr.imp (fun h => Or.inr ⟨rfl, h⟩)
  · have hn := hs.nodes
    unfold Asc AL.keys at hn
    rw [List.pairwise_map] at hn
    apply hn.imp
    intro p1 p2 hlt x hx y hy
    simp only [List.mem_map] at hx hy
    obtain ⟨q1, _, rfl⟩ := hx
    obtain ⟨q2, _, rfl⟩ := hy
    exact Or.inl hlt

/-- in an undirected consistent graph (both directions recorded) only "lower node first" triples are kept -/
theorem kept_le (T0 : List (Nat × Nat × Nat)) (hlex : List.Pairwise lexLt T0)
    (hsym : ∀ a b e, (a, b, e) ∈ T0 → ∃ e', (b, a, e') ∈ T0) :
    ∀ (T P : List (Nat × Nat × Nat)) (seen : List (Nat × Nat)), T0 = P ++ T → (∀ p ∈ P, upair p ∈ seen) →
      ∀ a b e, (a, b, e) ∈ keptOf T seen → a ≤ b := by
  intro T
  induction T with
  | nil => intro P seen _ _ a b e h; cases h
  | cons t r ih =>
    intro P seen hT0 hseen a b e hk
    have hT0' : T0 = (P ++ [t]) ++ r := by rw [hT0]; simp
    simp only [keptOf] at hk
    by_cases hs : upair t ∈ seen
    · simp only [hs, if_true] at hk
      refine ih (P ++ [t]) seen hT0' ?_ a b e hk
      intro p hp
      simp only [List.mem_append, List.mem_singleton] at hp
      rcases hp with hp | rfl
      · exact hseen p hp
      · exact hs
    · simp only [hs, if_false, List.mem_cons] at hk
      rcases hk with hk | hk
      · -- the head is kept: its reverse cannot have been met, and cannot come later
        subst hk
        rcases Nat.lt_or_ge b a with hlt | hge
        · exfalso
          obtain ⟨e', hm⟩ := hsym a b e (by rw [hT0]; simp)
          rw [hT0] at hm
          simp only [List.mem_append, List.mem_cons] at hm
          rcases hm with hm | hm | hm
          · apply hs
            have := hseen _ hm
            simp only [upair] at this ⊢
            have e1 : min b a = min a b := Nat.min_comm _ _
            have e2 : max b a = max a b := Nat.max_comm _ _
            rw [e1, e2] at this; exact this
          · injection hm with h1 _; omega
          · rw [hT0, List.pairwise_append] at hlex
            have := (List.pairwise_cons.mp hlex.2.1).1 _ hm
            simp only [lexLt] at this
            omega
        · exact hge
      · refine ih (P ++ [t]) (upair t :: seen) hT0' ?_ a b e hk
        intro p hp
        simp only [List.mem_append, List.mem_singleton] at hp
        rcases hp with hp | rfl
        · exact List.mem_cons_of_mem _ (hseen p hp)
        · simp

/-! ### makeDirected / makeUndirected refine the reference -/

theorem makeDirected_refines {g : G} (hc : Consistent g) :
    (makeDirected g).abs = g.abs.makeDirected ∧ Consistent (makeDirected g) := by
  refine ⟨?_, makeDirected_consistent hc⟩
  unfold Spec.makeDirected
  have hdd : g.abs.directed = g.directed := rfl
  cases hd : g.directed
  · have e1 : g.abs.directed = false := hd
    rw [if_neg (by simp [e1])]
    obtain ⟨hc', d⟩ := makeDirected_spec hc hd
    have hT : ∀ a b e, (a, b, e) ∈ outTriples g.nodes ↔ g.outE a b = some e := fun a b e => mem_outTriples hc.sorted a b e
    have hle : ∀ a b e, (a, b, e) ∈ keptOf (outTriples g.nodes) [] → a ≤ b := by
      refine kept_le (outTriples g.nodes) (outTriples_lex hc.sorted) ?_ (outTriples g.nodes) [] [] (by simp) (by simp)
      intro a b e hm
      exact ⟨e, (hT b a e).mpr (((cons_out_some hc ((hT a b e).mp hm)).2.2 hd).1)⟩
    refine abs_ext d.rest.1 d.keys ?_ d.rest.2.1 d.rest.2.2.1 d.rest.2.2.2.1
    show (makeDirected g).edges = g.abs.edges.map (fun t => (t.1, min t.2.1 t.2.2, max t.2.1 t.2.2))
    rw [abs_edges]
    refine asc_ext hc'.sorted.edges ?_ fun e => ?_
    · unfold Asc
      rw [keys_map_same (fun t => (t.1, min t.2.1 t.2.2, max t.2.1 t.2.2)) (fun _ => rfl)]
      exact hc.sorted.edges
    rw [find_map_val e (fun v : Nat × Nat => (min v.1 v.2, max v.1 v.2)) g.edges]
    rcases find_cases e g.edges with hf | ⟨⟨a, b⟩, hf⟩
    · rw [hf]
      rcases hf' : find e (makeDirected g).edges with _ | ⟨a', b'⟩
      · rfl
      · have := (cons_out_some hc (d.kept_sub a' b' e ((d.edges e a' b').mp hf'))).2.1
        simp [G.hasEdge, has, hf] at this
    · rw [hf]
      rcases d.kept_all a b e (hc.views.edge_listed e a b hf).1 with hk | hk
      · rw [(d.edges e a b).mpr hk, Option.map_some, Nat.min_eq_left (hle a b e hk), Nat.max_eq_right (hle a b e hk)]
      · rw [(d.edges e b a).mpr hk, Option.map_some, Nat.min_eq_right (hle b a e hk), Nat.max_eq_left (hle b a e hk)]
  · have e1 : g.abs.directed = true := hd
    rw [if_pos e1, makeDirected_already hd]

theorem recip_iff {g : G} (hc : Consistent g) (hd : g.directed = true) :
    recipLoop (outTriples g.nodes) [] = true ↔ ∃ x y e e', x ≠ y ∧ g.outE x y = some e ∧ g.outE y x = some e' := by
  constructor
  · intro h
    apply Classical.byContradiction
    intro hno
    have hfalse : recipLoop (outTriples g.nodes) [] = false := by
      rw [recipLoop_false]
      refine ⟨by simp, ?_⟩
      apply List.Pairwise.imp_of_mem ?_ (outTriples_lex hc.sorted)
      rintro ⟨a, b, e⟩ ⟨c, d, e'⟩ ht hu hlt heq
      have o1 := (mem_outTriples hc.sorted a b e).mp ht
      have o2 := (mem_outTriples hc.sorted c d e').mp hu
      simp only [lexLt] at hlt
      rcases (upair_eq_iff ..).mp heq with ⟨rfl, rfl⟩ | ⟨rfl, rfl⟩
      · omega
      · exact hno ⟨a, b, e, e', fun hab => by omega, o1, o2⟩
    rw [h] at hfalse; cases hfalse
  · rintro ⟨x, y, e, e', hne, h1, h2⟩
    cases hr : recipLoop (outTriples g.nodes) []
    · exact absurd (no_recip hc.sorted hr h1 h2) hne
    · rfl

theorem abs_reciprocal {g : G} (hc : Consistent g) (hd : g.directed = true) :
    g.abs.reciprocal = recipLoop (outTriples g.nodes) [] := by
  have hv := hc.views
  rw [hd] at hv
  have hE : ∀ x y e, g.outE x y = some e → find e g.edges = some (x, y) :=
    fun x y e h => (hv.out_edge x y e h).resolve_right fun h => nomatch h.1
  have hiff : g.abs.reciprocal = true ↔ ∃ x y e e', x ≠ y ∧ g.outE x y = some e ∧ g.outE y x = some e' := by
    unfold Spec.reciprocal
    rw [abs_edges]
    simp only [List.any_eq_true, Bool.and_eq_true, decide_eq_true_eq]
    constructor
    · rintro ⟨⟨e1, a, b⟩, ht, ⟨e2, c, d⟩, hu, ⟨hne, hmin⟩, hmax⟩
      have o1 := (hv.edge_listed e1 a b ((mem_iff_find hc.sorted.edges e1 (a, b)).mp ht)).1
      have o2 := (hv.edge_listed e2 c d ((mem_iff_find hc.sorted.edges e2 (c, d)).mp hu)).1
      rcases (upair_eq_iff a b e1 c d e2).mp (Prod.ext hmin hmax) with ⟨rfl, rfl⟩ | ⟨rfl, rfl⟩
      · exact absurd (Option.some.inj (o1.symm.trans o2)) hne
      · refine ⟨a, b, e1, e2, fun hab => ?_, o1, o2⟩
        subst hab; exact hne (Option.some.inj (o1.symm.trans o2))
    · rintro ⟨x, y, e, e', hne, h1, h2⟩
      refine ⟨(e, x, y), find_some_mem (hE x y e h1), (e', y, x), find_some_mem (hE y x e' h2), ⟨fun hee => ?_, Nat.min_comm ..⟩,
        Nat.max_comm ..⟩
      have hee : e = e' := hee
      subst hee
      cases (hE x y e h1).symm.trans (hE y x e h2); exact hne rfl
  cases h1 : g.abs.reciprocal <;> cases h2 : recipLoop (outTriples g.nodes) []
  · rfl
  · exact absurd (hiff.mpr ((recip_iff hc hd).mp h2)) (by simp [h1])
  · exact absurd ((recip_iff hc hd).mpr (hiff.mp h1)) (by simp [h2])
  · rfl

theorem makeUndirected_refines {g : G} (hc : Consistent g) :
    Refines g (g.abs.makeUndirected.map (fun s => ((), s))) (makeUndirected g) := by
  unfold Spec.makeUndirected
  cases hd : g.directed
  · have e1 : g.abs.directed = false := hd
    simp only [e1, Bool.not_false, if_true, Option.map_some, Refines]
    exact ⟨g, makeUndirected_already hd, rfl, hc⟩
  · have e1 : g.abs.directed = true := hd
    rw [if_neg (by simp [e1]), abs_reciprocal hc hd]
    cases hr : recipLoop (outTriples g.nodes) []
    · obtain ⟨g', h, hc', u⟩ := makeUndirected_spec hc hd hr
      simp only [Bool.false_eq_true, if_false, Option.map_some, Refines]
      exact ⟨g', h, abs_ext u.rest.2.1 u.keys (u.rest.1.trans (abs_edges g).symm) u.rest.2.2.1 u.rest.2.2.2.1 u.rest.2.2.2.2.1, hc'⟩
    · simp only [if_true, Option.map_none, Refines]
      exact makeUndirected_recip hd hr

/-! ### what a mutator did, in full -/

theorem Refines.of_ok {α : Type} {g g' : G} {r : Option (α × Spec)} {o : GOut α} {v : α}
    (h : Refines g r o) (ho : o = .ok v g') : r = some (v, g'.abs) ∧ Consistent g' := by
  unfold Refines at h
  cases r with
  | none => rw [ho] at h; cases h
  | some p =>
    obtain ⟨v', s'⟩ := p
    obtain ⟨g'', h1, h2, h3⟩ := h
    rw [ho] at h1; injection h1 with h1 h1'; subst h1; subst h1'
    exact ⟨by rw [h2], h3⟩

theorem state_mapVal {α β : Type} (f : α → β) (o : GOut α) : (o.mapVal f).state = o.state := by cases o <;> rfl

theorem Refines.map {α β : Type} {g : G} {r : Option (α × Spec)} {o : GOut α} (f : α → β) (h : Refines g r o) :
    Refines g (r.map (fun p => (f p.1, p.2))) (o.mapVal f) := by
  unfold Refines at h ⊢
  cases r with
  | none => rw [h]; rfl
  | some p =>
    obtain ⟨v, s'⟩ := p
    obtain ⟨g', h1, h2, h3⟩ := h
    exact ⟨g', by rw [h1]; rfl, h2, h3⟩

theorem Refines.consistent {α : Type} {g : G} {r : Option (α × Spec)} {o : GOut α} (h : Refines g r o) (hc : Consistent g) :
    Consistent o.state := by
  cases r with
  | none => rw [show o = .exc g from h]; exact hc
  | some p => obtain ⟨g', h1, _, h3⟩ := h; rw [h1]; exact h3

theorem Refines.unchanged {α : Type} {g : G} {r : Option (α × Spec)} {o : GOut α} (h : Refines g r o) (hr : o.raised = true) :
    o.state = g := by
  cases r with
  | none => rw [show o = .exc g from h]; rfl
  | some p => obtain ⟨g', h1, _⟩ := h; rw [h1] at hr; cases hr

/-- the outcome `o` of a mutator on `g`, in full: it matches the reference outcome `r` (`Refines`: both raise and nothing
changed, or both succeed with the same value, `abs` commutes and the new state is consistent), and the observers were told
of everything that disappeared.  The graph's own history theorems and the observer, tree and DAG layers all take what
they need of a mutator from this pair. -/
def Outcome {α : Type} (g : G) (r : Option (α × Spec)) (o : GOut α) : Prop := Refines g r o ∧ Notified g o.state

theorem Outcome.raise {α : Type} {g : G} {r : Option (α × Spec)} {o : GOut α} (ho : o = .exc g) (hr : r = none) : Outcome g r o := by
  subst ho hr; exact ⟨rfl, Notified.refl g⟩

theorem Outcome.of_spec {α : Type} {g g' : G} {r : Option (α × Spec)} {o : GOut α} {v : α}
    (ho : o = .ok v g') (hr : r = some (v, g'.abs)) (hc : Consistent g') (hn : Notified g g') : Outcome g r o := by
  subst ho hr; exact ⟨⟨g', rfl, rfl, hc⟩, hn⟩

theorem Outcome.all {α : Type} {g : G} {r : Option (α × Spec)} {o : GOut α} (h : Outcome g r o) (hc : Consistent g) :
    o.All Consistent := by
  have := h.1.consistent hc
  cases o <;> exact this

theorem Outcome.map {α β : Type} {g : G} {r : Option (α × Spec)} {o : GOut α} (f : α → β) (h : Outcome g r o) :
    Outcome g (r.map (fun p => (f p.1, p.2))) (o.mapVal f) :=
  ⟨h.1.map f, by rw [state_mapVal]; exact h.2⟩

theorem link_outcome {g : G} (hc : Consistent g) (a b : Nat) : Outcome g (g.abs.link a b) (link a b g) :=
  ⟨link_refines hc a b, link_notified a b g⟩

theorem unlink_outcome {g : G} (hc : Consistent g) (a b : Nat) :
    Outcome g ((g.abs.unlink a b).map (fun r => ([r.1], r.2))) (unlink a b g) :=
  ⟨unlink_refines hc a b, unlink_notified hc a b⟩

/-! ### composite creators never fail half-way -/

/-- a fresh node linked to an existing one: neither step can fail -/
theorem link_new_spec {g : G} (hc : Consistent g) {o : Nat} (ho : g.hasNode o = true) :
    ∃ g1 e g2, createNode g = .ok g.nextNode g1 ∧ g.abs.createNode = (g.nextNode, g1.abs) ∧
      link o g.nextNode g1 = .ok e g2 ∧ g1.abs.link o g.nextNode = some (e, g2.abs) ∧ Consistent g2 ∧ Notified g g2 := by
  obtain ⟨g1, h1, hc1, c1⟩ := createNode_spec hc
  have hn := fresh_node hc
  have hne : o ≠ g.nextNode := fun h => by rw [h, hn] at ho; cases ho
  have hl := link_ok_of (g := g1) (a := o) (b := g.nextNode) (by rw [c1.hasNode, ho, Bool.or_true]) (by rw [c1.hasNode]; simp)
    (by rw [c1.outE, if_neg hne]; exact (cons_no_entry_to_absent hc hn o).1)
  have r2 := (link_refines hc1 o g.nextNode).of_ok hl
  exact ⟨g1, _, _, h1, Option.some.inj ((createNode_refines hc).of_ok h1).1, hl, r2.1, r2.2,
    ((createNode_notified g).of_ok h1).trans ((link_notified o g.nextNode g1).of_ok hl)⟩

theorem createNodeFromNode_outcome {g : G} (hc : Consistent g) (o : Nat) :
    Outcome g (g.abs.createNodeFromNode o) (createNodeFromNode o g) := by
  cases ho : g.hasNode o
  · exact .raise (by simp [createNodeFromNode, ho]) (by simp [Spec.createNodeFromNode, abs_hasNode, ho])
  · obtain ⟨g1, e, g2, h1, s1, h2, s2, hc2, hn2⟩ := link_new_spec hc ho
    exact .of_spec (v := g.nextNode) (by simp [createNodeFromNode, ho, h1, h2]) (by simp [Spec.createNodeFromNode, abs_hasNode, ho, s1, s2]) hc2 hn2

theorem createNodeOnEdge_spec {g : G} (hc : Consistent g) {e a b : Nat} (hE : find e g.edges = some (a, b))
    (hloop : ¬ (g.directed = false ∧ a = b)) :
    ∃ g', createNodeOnEdge e g = .ok g.nextNode g' ∧ g.abs.createNodeOnEdge e = some (g.nextNode, g'.abs) ∧
      Consistent g' ∧ Notified g g' ∧ g'.hasNode g.nextNode = true := by
  obtain ⟨g1, h1, hc1, c1⟩ := createNode_spec hc
  have s1 := Option.some.inj ((createNode_refines hc).of_ok h1).1
  have hn := fresh_node hc
  have hl := hc.views.edge_listed e a b hE
  have ha : g.hasNode a = true := outE_some_hasNode hl.1
  have hb : g.hasNode b = true := inE_some_hasNode hl.2.1
  have hane : a ≠ g.nextNode := by intro h; rw [h, hn] at ha; cases ha
  have hOab : g1.outE a b = some e := by rw [c1.outE, if_neg hane]; exact hl.1
  obtain ⟨g2, h2, u2⟩ := unlink_some hc1 hOab
  have r2 := (unlink_refines hc1 a b).of_ok h2
  have hd2 : g2.directed = g.directed := u2.rest.1.trans c1.rest.2.1
  have hn2 : ∀ x, g2.hasNode x = (decide (x = g.nextNode) || g.hasNode x) := fun x => (u2.hasNode x).trans (c1.hasNode x)
  -- the new node is isolated
  have hO2n : ∀ x, g2.outE x g.nextNode = none ∧ g2.outE g.nextNode x = none := by
    refine fun x => ⟨u2.outE_none ?_, u2.outE_none (by rw [c1.outE, if_pos rfl])⟩
    rw [c1.outE]; split
    · rfl
    · exact (cons_no_entry_to_absent hc hn x).1
  obtain ⟨g3, h3, hc3, l3⟩ := link_spec r2.2 (a := a) (b := g.nextNode) (by rw [hn2, ha, Bool.or_true])
    (by rw [hn2]; simp) (hO2n a).1
  have r3 := (link_refines r2.2 a g.nextNode).of_ok h3
  have n3 := (link_notified a g.nextNode g2).of_ok h3
  have hO3nb : g3.outE g.nextNode b = none := by
    rw [l3.outE, if_neg (fun h => hane h.1.symm), if_neg (fun h => hloop ⟨hd2 ▸ h.1, h.2.2.symm⟩)]
    exact (hO2n b).2
  obtain ⟨g4, h4, hc4, l4⟩ := link_spec hc3 (a := g.nextNode) (b := b) (by rw [l3.hasNode, hn2]; simp)
    (by rw [l3.hasNode, hn2, hb, Bool.or_true]) hO3nb
  have r4 := (link_refines hc3 g.nextNode b).of_ok h4
  have hloop' : (!g.directed && decide (a = b)) = false := by
    cases hd : g.directed
    · simpa [hd] using hloop
    · rfl
  have hdd : g.abs.directed = g.directed := rfl
  refine ⟨_, by simp only [createNodeOnEdge, hE, hloop', Bool.false_eq_true, if_false, h1, h2, h3, h4], ?_, hc4,
    ((((createNode_notified g).of_ok h1).trans ((unlink_notified hc1 a b).of_ok h2)).trans n3).trans
      ((link_notified g.nextNode b g3).of_ok h4),
    by rw [l4.hasNode, l3.hasNode, hn2]; simp⟩
  have r2' := r2.1
  rcases hsu : g1.abs.unlink a b with _ | ⟨eu, s2⟩ <;> rw [hsu] at r2' <;> simp at r2'
  obtain ⟨rfl, rfl⟩ := r2'
  simp only [Spec.createNodeOnEdge, abs_edgeNodes, hE, hdd, hloop', Bool.false_eq_true, if_false, s1, hsu, Option.bind_some,
    r3.1, r4.1, Option.map_some]

theorem createNodeOnEdge_outcome {g : G} (hc : Consistent g) (e : Nat) :
    Outcome g (g.abs.createNodeOnEdge e) (createNodeOnEdge e g) := by
  have hdd : g.abs.directed = g.directed := rfl
  rcases hf : find e g.edges with _ | ⟨a, b⟩
  · exact .raise (by simp [createNodeOnEdge, hf]) (by simp [Spec.createNodeOnEdge, abs_edgeNodes, hf])
  · by_cases hloop : g.directed = false ∧ a = b
    · exact .raise (by simp [createNodeOnEdge, hf, hloop.1, hloop.2])
        (by simp [Spec.createNodeOnEdge, abs_edgeNodes, hf, hdd, hloop.1, hloop.2])
    · obtain ⟨g', h, hs, hc', hn', _⟩ := createNodeOnEdge_spec hc hf hloop
      exact .of_spec h hs hc' hn'

theorem createNodeFromEdge_outcome {g : G} (hc : Consistent g) (e : Nat) :
    Outcome g (g.abs.createNodeFromEdge e) (createNodeFromEdge e g) := by
  have hdd : g.abs.directed = g.directed := rfl
  unfold Spec.createNodeFromEdge createNodeFromEdge
  rcases hf : find e g.edges with _ | ⟨a, b⟩
  · exact .raise (by simp [G.hasEdge, has, hf]) (by simp [Spec.createNodeOnEdge, abs_edgeNodes, hf])
  · have he : g.hasEdge e = true := by simp [G.hasEdge, has, hf]
    by_cases hloop : g.directed = false ∧ a = b
    · exact .raise (by simp [createNodeOnEdge, hf, hloop.1, hloop.2, he])
        (by simp [Spec.createNodeOnEdge, abs_edgeNodes, hf, hdd, hloop.1, hloop.2])
    · obtain ⟨g1, h1, hs1, hc1, hn1, hN1⟩ := createNodeOnEdge_spec hc hf hloop
      obtain ⟨g2, e2, g3, h2, s2, h3, s3, hc3, hn3⟩ := link_new_spec hc1 hN1
      exact .of_spec (v := g1.nextNode) (by simp [he, h1, createNodeFromNode, hN1, h2, h3])
        (by simp [hs1, Spec.createNodeFromNode, abs_hasNode, hN1, s2, s3]) hc3 (hn1.trans hn3)

theorem createNodeFromNode_consistent {g : G} (hc : Consistent g) (o : Nat) : (createNodeFromNode o g).All Consistent :=
  (createNodeFromNode_outcome hc o).all hc

theorem createNodeOnEdge_consistent {g : G} (hc : Consistent g) (e : Nat) : (createNodeOnEdge e g).All Consistent :=
  (createNodeOnEdge_outcome hc e).all hc

theorem createNodeFromEdge_consistent {g : G} (hc : Consistent g) (e : Nat) : (createNodeFromEdge e g).All Consistent :=
  (createNodeFromEdge_outcome hc e).all hc

/-- every operation of the implementation model refines the same operation of the reference and tells the
observers of everything it removes -/
theorem applyR_outcome {g : G} (hc : Consistent g) (op : Op) : Outcome g (g.abs.applyR op) (g.applyR op) := by
  cases op with
  | createNode => exact Outcome.map (fun n => [n]) ⟨createNode_refines hc, createNode_notified g⟩
  | createNodeFromNode o => exact (createNodeFromNode_outcome hc o).map (fun n => [n])
  | createNodeOnEdge e => exact (createNodeOnEdge_outcome hc e).map (fun n => [n])
  | createNodeFromEdge e => exact (createNodeFromEdge_outcome hc e).map (fun n => [n])
  | link a b => exact (link_outcome hc a b).map (fun n => [n])
  | linkE a b e =>
    have := Outcome.map (fun _ => ([] : List Nat)) ⟨linkE_refines hc a b e, linkE_notified a b e g⟩
    simpa [Spec.applyR, G.applyR, Option.map_map, Function.comp_def] using this
  | unlink a b => simpa [Spec.applyR, G.applyR] using unlink_outcome hc a b
  | switchNodes a b =>
    have := Outcome.map (fun _ => ([] : List Nat)) ⟨switchNodes_refines hc a b, switchNodes_notified a b g⟩
    simpa [Spec.applyR, G.applyR, Option.map_map, Function.comp_def] using this
  | deleteNode n =>
    have := Outcome.map (fun _ => ([] : List Nat)) ⟨deleteNode_refines hc n, deleteNode_notified hc n⟩
    simpa [Spec.applyR, G.applyR, Option.map_map, Function.comp_def] using this
  | makeDirected => exact ⟨⟨_, rfl, (makeDirected_refines hc).1, (makeDirected_refines hc).2⟩, makeDirected_notified hc⟩
  | makeUndirected =>
    have := Outcome.map (fun _ => ([] : List Nat)) ⟨makeUndirected_refines hc, makeUndirected_notified hc⟩
    simpa [Spec.applyR, G.applyR, Option.map_map, Function.comp_def] using this
  | setRoot n =>
    have := Outcome.map (fun _ => ([] : List Nat)) ⟨setRoot_refines hc n, setRoot_notified n g⟩
    simpa [Spec.applyR, G.applyR, Option.map_map, Function.comp_def] using this

theorem applyR_refines {g : G} (hc : Consistent g) (op : Op) : Refines g (g.abs.applyR op) (g.applyR op) :=
  (applyR_outcome hc op).1

theorem applyR_notified {g : G} (hc : Consistent g) (op : Op) : Notified g (g.applyR op).state :=
  (applyR_outcome hc op).2

theorem forget_mapVal {α β : Type} (f : α → β) (o : GOut α) : (o.mapVal f).forget = o.forget := by
  cases o <;> rfl

theorem forget_unit (o : GOut Unit) : o.forget = o := by cases o <;> rfl

theorem state_forget {α : Type} (o : GOut α) : o.forget.state = o.state := by cases o <;> rfl

/-- `apply` (used in `consistent_inv` / `raises_unchanged`) is `applyR` with the value dropped -/
theorem applyR_forget (g : G) (op : Op) : (g.applyR op).forget = g.apply op := by
  cases op <;> simp only [G.applyR, G.apply, forget_mapVal, forget_unit] <;> rfl

theorem raised_forget {α : Type} (o : GOut α) : o.forget.raised = o.raised := by cases o <;> rfl

theorem step_applyR (g : G) (op : Op) : g.step op = (g.applyR op).state := by
  rw [G.step, ← applyR_forget, state_forget]

theorem raised_applyR (g : G) (op : Op) : (g.apply op).raised = (g.applyR op).raised := by
  rw [← applyR_forget, raised_forget]

end G
end Graph
end Bpp
