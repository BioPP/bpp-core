import BppProofs.Lemmas.AliasOk
/-! The observable invariant `SV.inv` (evaluated by the driver on the implementation's views) holds
of the view of every object of a world satisfying `Inv` and `HeapOk` (C03). -/
namespace Bpp.Alias
open Bpp.ParamList (Bnd Con Par Store ObjId nameOf find? hasParameter names startsWith)

/-- "`y` is the target of a link", seen from outside -/
theorem isTarget_svOf {w : World} {k : Nat} {o : Obj} (h : ObjInv w k o) {y : String} :
    (svOf w o).isTarget y = true ↔ ∃ x, Link w o x y := by
  simp only [SV.isTarget, svOf, List.any_eq_true, beq_iff_eq]
  constructor
  · rintro ⟨⟨x, y'⟩, hl, rfl⟩; exact ⟨x, (mem_linksOf_iff h).1 hl⟩
  · rintro ⟨x, lk⟩; exact ⟨(x, y), (mem_linksOf_iff h).2 lk, rfl⟩

theorem shortNames_nodup {w : World} {k : Nat} {o : Obj} (h : ObjInv w k o) : (shortNames w o).Nodup := by
  simp only [shortNames]
  refine List.Nodup.map_on ?_ h.idsNodup
  intro a ha b hb e
  obtain ⟨x, hx, _, sx⟩ := h.short ha
  obtain ⟨y, hy, _, sy⟩ := h.short hb
  rw [sx, sy] at e
  exact h.name_inj ha hb (by rw [hx, hy, e])

theorem linksOf_nodup {w : World} {k : Nat} {o : Obj} (h : ObjInv w k o) : (linksOf w o).Nodup := by
  simp only [linksOf]
  rw [List.nodup_flatMap]
  refine ⟨fun i _ => ?_, ?_⟩
  · exact List.Nodup.map (fun a b e => (Prod.mk.inj e).2) ((shortNames_nodup h).filter _)
  · refine List.Nodup.pairwise_of_forall_ne h.idsNodup ?_
    intro a ha b hb hab
    simp only [Function.onFun, List.disjoint_left]
    intro p hpa hpb
    obtain ⟨y1, _, rfl⟩ := List.mem_map.1 hpa
    obtain ⟨y2, _, e⟩ := List.mem_map.1 hpb
    obtain ⟨x, hx, _, sx⟩ := h.short ha
    obtain ⟨x', hx', _, sx'⟩ := h.short hb
    have := (Prod.mk.inj e).1
    rw [sx, sx'] at this
    exact hab (h.name_inj ha hb (by rw [hx, hx', this]))

theorem links_target_inj {w : World} {k : Nat} {o : Obj} (h : ObjInv w k o) {a b : String × String}
    (ha : a ∈ linksOf w o) (hb : b ∈ linksOf w o) (e : a.2 = b.2) : a = b := by
  obtain ⟨x, y⟩ := a
  obtain ⟨x', y'⟩ := b
  cases e
  rw [Link.unique h ((mem_linksOf_iff h).1 ha) ((mem_linksOf_iff h).1 hb)]

/-- the position of the parameter with short name `x` -/
def posOf (w : World) (o : Obj) (x : String) : Nat :=
  (o.params.findIdx? (fun i => nameOf w.heap i == o.pre ++ x)).getD 0

theorem posOf_spec {w : World} {k : Nat} {o : Obj} (h : ObjInv w k o) {j : Nat} {i : ObjId} {x : String}
    (hj : o.params[j]? = some i) (hn : nameOf w.heap i = o.pre ++ x) : posOf w o x = j := by
  have hf : find? w.heap o.params (o.pre ++ x) = some i := (find?_iff h.nodup).2 ⟨List.mem_of_getElem? hj, hn⟩
  obtain ⟨pos, hp1, hp2⟩ := findIdx?_of_find? hf
  simp only [posOf, hp1, Option.getD_some]
  exact h.pos_inj hp2 hj

theorem follows_of_link {w : World} {k : Nat} {o : Obj} (h : ObjInv w k o) {p c : String}
    (hl : (p, c) ∈ linksOf w o) : Follows w o (posOf w o c) (posOf w o p) := by
  have lk := (mem_linksOf_iff h).1 hl
  obtain ⟨s, t, _, hs, ht, hsn, htn, _⟩ := h.wire lk
  obtain ⟨jp, hjp⟩ := h.exists_pos hs
  obtain ⟨jc, hjc⟩ := h.exists_pos ht
  rw [posOf_spec h hjp hsn, posOf_spec h hjc htn]
  exact (follows_iff h).2 ⟨p, c, t, s, lk, hjc, hjp, htn, hsn⟩

theorem mem_ancestors (s : SV) : ∀ (f : Nat) (y x : String), x ∈ s.ancestors f y →
    Relation.TransGen (fun c p => (p, c) ∈ s.links) y x
  | 0, _, _, h => by simp [SV.ancestors] at h
  | f + 1, y, x, h => by
    simp only [SV.ancestors] at h
    split at h
    · cases h
    · rename_i l hl
      have hlm := List.mem_of_find?_eq_some hl
      have hl2 : l.2 = y := by simpa using List.find?_some hl
      have hstep : (fun c p => (p, c) ∈ s.links) y l.1 := by
        show (l.1, y) ∈ s.links
        rw [← hl2]; cases l; exact hlm
      rcases List.mem_cons.1 h with rfl | h'
      · exact Relation.TransGen.single hstep
      · exact Relation.TransGen.head hstep (mem_ancestors s f l.1 x h')

/-- **the observable invariant holds of the model**: `SV.inv`, the Boolean the driver evaluates on
every view parsed from the implementation's answers, is true of the view of every object of a
world satisfying `Inv` and `HeapOk` (hence of every reachable world) -/
theorem inv_view {w : World} (h : Inv w) (hok : HeapOk w) {k : Nat} {o : Obj} (ho : w.objs k = some o) :
    (svOf w o).inv = true := by
  have hi := h.obj k o ho
  have hpar : (svOf w o).params = o.params.map (fun i => ⟨nameOf w.heap i, (w.heap.get i).value, (w.heap.get i).con⟩) := rfl
  have hlinks : (svOf w o).links = linksOf w o := rfl
  have hind : (svOf w o).indep = o.indep.map (fun i => (nameOf w.heap i, o.params.findIdx? (fun j => j == i))) := rfl
  have hpre : (svOf w o).pre = o.pre := rfl
  have hshorts : (svOf w o).shorts = shortNames w o := by
    simp only [SV.shorts, SV.short, hpar, hpre, shortNames, List.map_map]; rfl
  simp only [SV.inv, Bool.and_eq_true, decide_eq_true_eq, List.all_eq_true]
  refine ⟨⟨⟨⟨⟨⟨⟨⟨?_, ?_⟩, ?_⟩, ?_⟩, ?_⟩, ?_⟩, ?_⟩, ?_⟩, ?_⟩
  · rw [hpar, List.map_map]; exact hi.nodup
  · intro p hp
    rw [hpar] at hp
    obtain ⟨i, him, rfl⟩ := List.mem_map.1 hp
    obtain ⟨x, hx, _⟩ := hi.plain i him
    simp only [hpre, hx, startsWith_append]
  · intro p hp
    rw [hpar] at hp
    obtain ⟨i, him, rfl⟩ := List.mem_map.1 hp
    have := hok i (hi.valid i him)
    simp only [Par.ok, Par.rejects] at this
    cases hc : (w.heap.get i).con with
    | none => rfl
    | some c => rw [hc] at this; simpa using this
  · intro e he
    rw [hind] at he
    obtain ⟨i, him, rfl⟩ := List.mem_map.1 he
    obtain ⟨j, hj⟩ := hi.exists_pos (hi.indepSub i him)
    simp only [findIdx?_nodup hi.idsNodup hj, hpar, List.getElem?_map, hj, Option.map_some, beq_self_eq_true]
  · rw [hind, List.map_map]; exact hi.indepNames
  · intro p hp
    rw [hpar] at hp
    obtain ⟨i, him, rfl⟩ := List.mem_map.1 hp
    obtain ⟨y, hy, _, sy⟩ := hi.short him
    simp only [SV.short, hpre, sy]
    have h1 : ((svOf w o).indep.any (fun e => e.1 == nameOf w.heap i)) = true ↔ i ∈ o.indep := by
      rw [hind, List.any_eq_true]
      constructor
      · rintro ⟨e, he, hen⟩
        obtain ⟨i', hi', rfl⟩ := List.mem_map.1 he
        have : i' = i := hi.name_inj (hi.indepSub i' hi') him (by simpa using hen)
        exact this ▸ hi'
      · intro hin; exact ⟨_, List.mem_map.2 ⟨i, hin, rfl⟩, by simp⟩
    rw [beq_iff_eq, Bool.eq_iff_iff, h1, Bool.not_eq_true', ← Bool.not_eq_true, isTarget_svOf hi]
    exact indep_iff hi him hy
  · rw [hlinks]
    exact List.Nodup.map_on (fun a ha b hb e => links_target_inj hi ha hb e) (linksOf_nodup hi)
  · intro l hl
    rw [hlinks] at hl
    obtain ⟨x, y⟩ := l
    obtain ⟨hx, hy⟩ := ((mem_linksOf_iff hi).1 hl).short hi
    simp only [hshorts, List.contains_iff_mem, hx, hy]
    exact ⟨trivial, trivial⟩
  · intro l hl
    rw [hlinks] at hl
    obtain ⟨x, y⟩ := l
    have hfol := follows_of_link hi hl
    simp only [Bool.not_eq_true', bne_iff_ne, ne_eq]
    refine ⟨?_, ?_⟩
    · cases hb : (svOf w o).follows y x
      · rfl
      · exfalso
        simp only [SV.follows, List.contains_iff_mem] at hb
        have htg := mem_ancestors (svOf w o) _ x y hb
        have hlift : Relation.TransGen (Follows w o) (posOf w o x) (posOf w o y) :=
          Relation.TransGen.lift (posOf w o) (fun c p hcp => follows_of_link hi (by rw [← hlinks]; exact hcp)) x y htg
        exact hi.acyclic _ (Relation.TransGen.head hfol hlift)
    · rintro rfl
      exact hi.acyclic _ (Relation.TransGen.single hfol)

/-- for the names of reachable worlds a listener id in use means that very link exists: `p2` is a target -/
theorem idInUse_isTarget {w : World} {k : Nat} {o : Obj} (h : ObjInv w k o) {p1 p2 : String} (hp2 : p2 ∈ shortNames w o)
    (hc : (svOf w o).links.any (fun l => aliasId l.1 l.2 == aliasId p1 p2) = true) : (svOf w o).isTarget p2 = true := by
  simp only [List.any_eq_true, beq_iff_eq] at hc
  obtain ⟨⟨x, y⟩, hl, hid⟩ := hc
  obtain ⟨_, e2⟩ := aliasId_inj (plain_of_short h (((mem_linksOf_iff h).1 hl).short h).2) (plain_of_short h hp2) hid
  simp only [SV.isTarget, List.any_eq_true, beq_iff_eq]
  exact ⟨(x, y), hl, e2⟩

end Bpp.Alias
