import BppProofs.Lemmas.NumDeriv
/-!
C12: the structure of `updateDerivatives`, whatever the probes find.  The three schemes are one
program (`updateG`), and each of its parts has a footprint: it reaches the wrapped function only
through `setParameters` and the switches of the analytical derivatives (`Reaches`), and it leaves
the wrapper's configuration and the sizes of its arrays alone (`Shape`).
-/
namespace Bpp.NumDeriv
open Bpp Bpp.Scalar

section Program
variable {α : Type} [Scalar α]

def stepOf : Scheme → (List α → α) → PList α → Loop α → Nat → Name → Loop α × Option Exc
  | .two => step2
  | .three => step3
  | .five => step5

/-- the field that holds the value at the requested point (`f1_`, `f2_`, `f3_`) -/
def slotOf : Scheme → W α → α
  | .two, w => w.f1
  | .three, w => w.f2
  | .five, w => w.f3

def setSlot : Scheme → W α → α → W α
  | .two, w, v => { w with f1 := v }
  | .three, w, v => { w with f2 := v }
  | .five, w, v => { w with f3 := v }

/-- the second-order switch as a scheme uses it: the two-point scheme has no `function2_` -/
def sw2 : Scheme → Fn α → Bool → Fn α
  | .two, fn, _ => fn
  | _, fn, b => fn.enable2 b

/-- the two- and three-point schemes test the value at the requested point against `VERY_BIG` -/
def testsBig : Scheme → Bool
  | .five => false
  | _ => true

/-- only the three-point scheme has a cross-derivative block -/
def hasCross : Scheme → Bool
  | .three => true
  | _ => false

/-- the analytical derivatives switched as the wrapper's flags say, when nothing is to be computed -/
def onOf : Scheme → W α → Fn α
  | .two, w => ({ w with fn := w.fn.enable1 w.c1 } : W α).enable2 w.c2
  | _, w => (w.fn.enable1 w.c1).enable2 w.c2

/-- what follows the loop over `variables_` when it did not raise: the cross-derivative block of the
three-point scheme if it is switched on, and the end of the computing branch -/
def afterLoop (s : Scheme) (f : List α → α) (params : PList α) (lp : Loop α) : W α × Option Exc :=
  if hasCross s && lp.w.cx then
    match lp.lastVar with
    | none => finish f params lp.lastVar true lp.w
    | some l =>
      match crossGo f params lp.w.vars lp.w.vars 0 { w := lp.w, l1 := l, l2 := l } with
      | (cl, some e) => (cl.w, some e)
      | (cl, none) => finish f params lp.lastVar true cl.w
  else finish f params lp.lastVar false lp.w

def updateG (s : Scheme) (f : List α → α) (w : W α) (params : PList α) : W α × Option Exc :=
  if w.c1 && decide (w.vars.length > 0) then
    match (sw2 s (w.fn.enable1 false) false).setParameters f params with
    | (fn, some e) => ({ w with fn := fn }, some e)
    | (fn, none) =>
      let w := setSlot s { w with fn := fn } fn.fval
      if testsBig s && tooBig (slotOf s w) then (nanAll { w with fn := sw2 s (w.fn.enable1 w.c1) w.c2 }, none) else
      match loopGo (stepOf s f params) w.vars 0 { w := w, p := [], lastVar := none } with
      | (lp, some e) => (lp.w, some e)
      | (lp, none) => afterLoop s f params lp
  else
    match (onOf s w).setParameters f params with
    | (fn, some e) => ({ w with fn := fn }, some e)
    | (fn, none) => (setSlot s { w with fn := fn } fn.fval, none)

theorem update2_eq (f : List α → α) (w : W α) (params : PList α) : update2 f w params = updateG .two f w params := rfl
theorem update3_eq (f : List α → α) (w : W α) (params : PList α) : update3 f w params = updateG .three f w params := rfl
theorem update5_eq (f : List α → α) (w : W α) (params : PList α) : update5 f w params = updateG .five f w params := rfl

theorem update_eq (f : List α → α) (w : W α) (params : PList α) : w.update f params = updateG w.scheme f w params := by
  unfold W.update; cases w.scheme <;> rfl

theorem value_eq (w : W α) : w.value = slotOf w.scheme w := by
  unfold W.value; cases w.scheme <;> rfl

end Program


/-- the flags and selection of the wrapper: nothing in `updateDerivatives` touches them -/
def SameCfg (w w' : W ℝ) : Prop :=
  w'.scheme = w.scheme ∧ w'.c1 = w.c1 ∧ w'.c2 = w.c2 ∧ w'.cx = w.cx ∧ w'.vars = w.vars ∧ w'.h = w.h

theorem SameCfg.refl (w : W ℝ) : SameCfg w w := ⟨rfl, rfl, rfl, rfl, rfl, rfl⟩
theorem SameCfg.trans {a b c : W ℝ} (h1 : SameCfg a b) (h2 : SameCfg b c) : SameCfg a c :=
  ⟨h2.1.trans h1.1, h2.2.1.trans h1.2.1, h2.2.2.1.trans h1.2.2.1, h2.2.2.2.1.trans h1.2.2.2.1,
   h2.2.2.2.2.1.trans h1.2.2.2.2.1, h2.2.2.2.2.2.trans h1.2.2.2.2.2⟩

/-- what no outcome of `updateDerivatives` touches: flags, selection, step, sizes of the arrays -/
def Shape (w w' : W ℝ) : Prop :=
  SameCfg w w' ∧ w'.der1.length = w.der1.length ∧ w'.der2.length = w.der2.length

theorem Shape.refl (w : W ℝ) : Shape w w := ⟨SameCfg.refl w, rfl, rfl⟩
theorem Shape.trans {a b c : W ℝ} (h1 : Shape a b) (h2 : Shape b c) : Shape a c :=
  ⟨h1.1.trans h2.1, h2.2.1.trans h1.2.1, h2.2.2.trans h1.2.2⟩

theorem setAt_length {β : Type} (l : List β) (i : Nat) (v : β) : (setAt l i v).length = l.length :=
  List.length_set


/-- `b` is obtained from `a` by calls of `setParameters` (raising or not) with lists whose elements
satisfy `E` and, if `sw`, by switching analytical derivatives on or off: the only things
`updateDerivatives` does to the wrapped function -/
inductive Reaches (f : List ℝ → ℝ) (E : Param ℝ → Prop) (sw : Bool) : Fn ℝ → Fn ℝ → Prop
  | refl (a : Fn ℝ) : Reaches f E sw a a
  | setp {a b : Fn ℝ} (pl : PList ℝ) (hpl : ∀ x ∈ pl, E x) : Reaches f E sw a b → Reaches f E sw a (b.setParameters f pl).1
  | en1 {a b : Fn ℝ} (hsw : sw = true) (x : Bool) : Reaches f E sw a b → Reaches f E sw a (b.enable1 x)
  | en2 {a b : Fn ℝ} (hsw : sw = true) (x : Bool) : Reaches f E sw a b → Reaches f E sw a (b.enable2 x)

/-- any lists, switches included -/
abbrev Reach (f : List ℝ → ℝ) : Fn ℝ → Fn ℝ → Prop := Reaches f (fun _ => True) true
/-- any lists, `setParameters` only: what the probing loops do -/
abbrev ReachS (f : List ℝ → ℝ) : Fn ℝ → Fn ℝ → Prop := Reaches f (fun _ => True) false

section Reaches
variable {f : List ℝ → ℝ} {E : Param ℝ → Prop} {sw : Bool}

theorem Reaches.trans {a b c : Fn ℝ} (h1 : Reaches f E sw a b) (h2 : Reaches f E sw b c) : Reaches f E sw a c := by
  induction h2 with
  | refl => exact h1
  | setp pl hpl _ ih => exact .setp pl hpl ih
  | en1 hsw x _ ih => exact .en1 hsw x ih
  | en2 hsw x _ ih => exact .en2 hsw x ih

theorem Reaches.mono {E' : Param ℝ → Prop} {sw' : Bool} {a b : Fn ℝ} (h : Reaches f E sw a b)
    (hE : ∀ x, E x → E' x) (hsw : sw = true → sw' = true) : Reaches f E' sw' a b := by
  induction h with
  | refl => exact .refl _
  | setp pl hpl _ ih => exact .setp pl (fun x hx => hE x (hpl x hx)) ih
  | en1 h x _ ih => exact .en1 (hsw h) x ih
  | en2 h x _ ih => exact .en2 (hsw h) x ih

theorem Reaches.withSwitches {a b : Fn ℝ} (h : Reaches f E false a b) : Reaches f E sw a b :=
  h.mono (fun _ h => h) (fun h => by cases h)

theorem Reaches.of_set {a b b' : Fn ℝ} {pl : PList ℝ} {e : Option Exc} (h : Reaches f E sw a b)
    (hpl : ∀ x ∈ pl, E x) (he : b.setParameters f pl = (b', e)) : Reaches f E sw a b' := by
  have : b' = (b.setParameters f pl).1 := by rw [he]
  rw [this]; exact .setp pl hpl h

theorem Reaches.flags {a b : Fn ℝ} (h : Reaches f E false a b) : b.kind = a.kind ∧ b.en1 = a.en1 ∧ b.en2 = a.en2 := by
  induction h with
  | refl => exact ⟨rfl, rfl, rfl⟩
  | setp pl _ _ ih =>
    obtain ⟨h1, h2, h3⟩ := setParameters_flags f _ pl
    exact ⟨h1.trans ih.1, h2.trans ih.2.1, h3.trans ih.2.2⟩
  | en1 h => cases h
  | en2 h => cases h

end Reaches

/-- a predicate on list elements that `Parameter::setValue` keeps and that holds on the list the
caller passed: then it holds on every list the wrappers hand to the wrapped function -/
structure Closed (E : Param ℝ → Prop) (params : PList ℝ) : Prop where
  set : ∀ {x x' : Param ℝ} {v : ℝ}, E x → x.setValue v = .ok x' → E x'
  mem : ∀ x ∈ params, E x

theorem Closed.trivial (params : PList ℝ) : Closed (fun _ => True) params := ⟨fun _ _ => True.intro, fun _ _ => True.intro⟩

theorem Closed.sub {E : Param ℝ → Prop} {params : PList ℝ} (hE : Closed E params) {ns : List Name} {p : PList ℝ}
    (h : subNames params ns = .ok p) : ∀ x ∈ p, E x :=
  fun x hx => hE.mem x ((subNames_spec params ns p h).2.1 x hx)


theorem subIdx_all {E : Param ℝ → Prop} {p : PList ℝ} (hp : ∀ y ∈ p, E y) (k : Nat) : ∀ y ∈ subIdx p k, E y := by
  unfold subIdx
  split
  · rename_i q hq
    intro y hy; simp at hy; subst hy
    exact hp _ (List.mem_of_getElem? hq)
  · intro y hy; cases hy


/-! The probes need the first half of `Closed` only: `Parameter::setValue` keeps `E`. -/
section Footprint
variable (f : List ℝ → ℝ) {E : Param ℝ → Prop} (hset : ∀ {x x' : Param ℝ} {v : ℝ}, E x → x.setValue v = .ok x' → E x')
include hset

omit f in
/-- `p[0].setValue(x)` -/
theorem setValue_head {p0 p0' : Param ℝ} {rest : PList ℝ} {x : ℝ} (hp : ∀ y ∈ p0 :: rest, E y) (hs : p0.setValue x = .ok p0') :
    ∀ y ∈ p0' :: rest, E y := by
  intro y hy
  rcases List.mem_cons.mp hy with rfl | hy
  · exact hset (hp p0 (List.mem_cons_self ..)) hs
  · exact hp y (List.mem_cons_of_mem _ hy)

theorem attempt_frame (fn : Fn ℝ) (p : PList ℝ) (x : ℝ) (hp : ∀ y ∈ p, E y) :
    Reaches f E false fn (attempt f fn p x).fn ∧ ∀ y ∈ (attempt f fn p x).p, E y := by
  unfold attempt
  split
  · exact ⟨.refl _, hp⟩
  · rename_i p0 rest
    split
    · exact ⟨.refl _, hp⟩
    · rename_i p0' hs
      have hp' := setValue_head hset hp hs
      simp only []
      split
      · rename_i h; exact ⟨(Reaches.refl fn).of_set hp' h, hp'⟩
      · rename_i h
        have h1 : ∀ y ∈ [p0'], E y := fun y hy => hp' y (by simp at hy; simp [hy])
        split <;> exact ⟨(Reaches.refl fn).of_set hp' h, h1⟩

theorem retry_frame (rp : Bool) (value : ℝ) (n : Nat) (fn : Fn ℝ) (p : PList ℝ) (h : ℝ) (fv : Option ℝ)
    (hp : ∀ y ∈ p, E y) :
    Reaches f E false fn (retry f rp n fn p value h fv).fn ∧ ∀ y ∈ (retry f rp n fn p value h fv).p, E y := by
  fun_induction retry f rp n fn p value h fv with
  | case1 => exact ⟨.refl _, hp⟩
  | case2 n fn p value h => exact attempt_frame f hset fn p (value + h) hp
  | case3 n fn p value h => exact attempt_frame f hset fn p (value + h) hp
  | case4 fn p value h =>
    obtain ⟨a1, a2⟩ := attempt_frame f hset fn p (value + h) hp
    exact ⟨.setp _ (subIdx_all a2 1) a1, a2⟩
  | case5 fn p value h => exact attempt_frame f hset fn p (value + h) hp
  | case6 n fn p value h fv a fv' haok hn0 h' ih =>
    obtain ⟨a1, a2⟩ := attempt_frame f hset fn p (value + h) hp
    exact ⟨a1.trans (ih a2).1, (ih a2).2⟩

theorem probe5_frame (fn : Fn ℝ) (p : PList ℝ) (x : ℝ) (hp : ∀ y ∈ p, E y) :
    Reaches f E false fn (probe5 f fn p x).1 ∧ ∀ y ∈ (probe5 f fn p x).2.1, E y := by
  unfold probe5
  split
  · exact ⟨.refl _, hp⟩
  · rename_i p0 rest
    split
    · exact ⟨.refl _, hp⟩
    · rename_i p0' hs
      have hp' := setValue_head hset hp hs
      simp only []
      split <;> (rename_i h; exact ⟨(Reaches.refl fn).of_set hp' h, hp'⟩)

end Footprint

/-- the beginning of an iteration, when it succeeds: `p` is the sub-list `{var, lastVar}`, `value` the wrapped
function's value of `var` -/
theorem prepare_inv {params : PList ℝ} {hh : ℝ} {lp : Loop ℝ} {var : Name} {p : PList ℝ} {value h : ℝ}
    (hprep : prepare params hh lp var = .ok (p, value, h)) :
    subNames params (match lp.lastVar with
      | none => [var]
      | some l => [var, l]) = .ok p ∧ lp.w.fn.valueOf var = .ok value := by
  unfold prepare at hprep
  simp only [] at hprep
  split at hprep
  · cases hprep
  · rename_i p' hsub
    split at hprep
    · cases hprep
    · rename_i v hv
      split at hprep
      · cases hprep
      · injection hprep with hprep
        injection hprep with hp hprep
        injection hprep with hv' _
        subst hp hv'
        exact ⟨hsub, hv⟩

theorem prepare_all {E : Param ℝ → Prop} {params : PList ℝ} (hE : Closed E params) (hh : ℝ) (lp : Loop ℝ) (var : Name) (p : PList ℝ) (value h : ℝ)
    (hprep : prepare params hh lp var = .ok (p, value, h)) : ∀ y ∈ p, E y :=
  hE.sub (prepare_inv hprep).1

/-- the nested `try`s of the five-point scheme keep what every single probe keeps; the flag `s`
records whether some probe went through -/
structure Probe5Inv (f : List ℝ → ℝ) (Q : Fn ℝ → PList ℝ → Bool → Prop) : Prop where
  step : ∀ fn p s x, Q fn p s → Q (probe5 f fn p x).1 (probe5 f fn p x).2.1 (s || (probe5 f fn p x).2.2.isSome)
  mono : ∀ fn p s s', (s' = true → s = true) → Q fn p s → Q fn p s'

section Probe5Inv
variable {f : List ℝ → ℝ} {Q : Fn ℝ → PList ℝ → Bool → Prop} (hQ : Probe5Inv f Q) {fn : Fn ℝ} {p : PList ℝ} {s : Bool}
include hQ

theorem central5_inv (h : Q fn p s) (value hh f1 f3 : ℝ) :
    Q (central5 f fn p value hh f1 f3).1 (central5 f fn p value hh f1 f3).2.1
      (s || (central5 f fn p value hh f1 f3).2.2.isSome) := by
  unfold central5
  simp only []
  have h1 := hQ.step fn p s (value + ofInt 2 * hh) h
  generalize probe5 f fn p (value + ofInt 2 * hh) = r1 at h1
  rcases r1 with ⟨fn1, p1, o1⟩
  cases o1 with
  | none => exact h1
  | some v1 =>
    simp only [] at h1 ⊢
    have h2 := hQ.step fn1 p1 _ (value - hh) h1
    generalize probe5 f fn1 p1 (value - hh) = r2 at h2
    rcases r2 with ⟨fn2, p2, o2⟩
    cases o2 with
    | none => exact hQ.mono _ _ _ _ (by simp) h2
    | some v2 =>
      simp only [] at h2 ⊢
      have h3 := hQ.step fn2 p2 _ (value + hh) h2
      generalize probe5 f fn2 p2 (value + hh) = r3 at h3
      rcases r3 with ⟨fn3, p3, o3⟩
      cases o3 <;> exact hQ.mono _ _ _ _ (by simp) h3

theorem backward5_inv (h : Q fn p s) (value hh f3 : ℝ) :
    Q (backward5 f fn p value hh f3).1 (backward5 f fn p value hh f3).2.1 (s || (backward5 f fn p value hh f3).2.2.isSome) := by
  unfold backward5
  simp only []
  have h1 := hQ.step fn p s (value - hh) h
  generalize probe5 f fn p (value - hh) = r1 at h1
  rcases r1 with ⟨fn1, p1, o1⟩
  cases o1 with
  | none => exact h1
  | some v1 =>
    simp only [] at h1 ⊢
    have h2 := hQ.step fn1 p1 _ (value - ofInt 2 * hh) h1
    generalize probe5 f fn1 p1 (value - ofInt 2 * hh) = r2 at h2
    rcases r2 with ⟨fn2, p2, o2⟩
    cases o2 <;> exact hQ.mono _ _ _ _ (by simp) h2

theorem forward5_inv (h : Q fn p s) (value hh f3 : ℝ) :
    Q (forward5 f fn p value hh f3).1 (forward5 f fn p value hh f3).2.1 (s || (forward5 f fn p value hh f3).2.2.isSome) := by
  unfold forward5
  simp only []
  have h1 := hQ.step fn p s (value + hh) h
  generalize probe5 f fn p (value + hh) = r1 at h1
  rcases r1 with ⟨fn1, p1, o1⟩
  cases o1 with
  | none => exact h1
  | some v1 =>
    simp only [] at h1 ⊢
    have h2 := hQ.step fn1 p1 _ (value + ofInt 2 * hh) h1
    generalize probe5 f fn1 p1 (value + ofInt 2 * hh) = r2 at h2
    rcases r2 with ⟨fn2, p2, o2⟩
    cases o2 <;> exact hQ.mono _ _ _ _ (by simp) h2

theorem probes5_inv (h : Q fn p s) (value hh f3 : ℝ) :
    Q (probes5 f fn p value hh f3).1 (probes5 f fn p value hh f3).2.1 (s || (probes5 f fn p value hh f3).2.2.isSome) := by
  unfold probes5
  simp only []
  have h1 := hQ.step fn p s (value - ofInt 2 * hh) h
  generalize probe5 f fn p (value - ofInt 2 * hh) = r1 at h1
  rcases r1 with ⟨fn1, p1, o1⟩
  cases o1 with
  | none =>
    simp only [] at h1 ⊢
    exact hQ.mono _ _ _ _ (by cases s <;> simp) (forward5_inv hQ h1 value hh f3)
  | some v1 =>
    simp only [] at h1 ⊢
    have h2 := central5_inv hQ h1 value hh v1 f3
    generalize central5 f fn1 p1 value hh v1 f3 = r2 at h2
    rcases r2 with ⟨fn2, p2, o2⟩
    cases o2 with
    | some d => exact hQ.mono _ _ _ _ (by simp) h2
    | none =>
      simp only [] at h2 ⊢
      have h3 := backward5_inv hQ h2 value hh f3
      generalize backward5 f fn2 p2 value hh f3 = r3 at h3
      rcases r3 with ⟨fn3, p3, o3⟩
      cases o3 with
      | some d => exact hQ.mono _ _ _ _ (by simp) h3
      | none =>
        simp only [] at h3 ⊢
        exact hQ.mono _ _ _ _ (by simp) (forward5_inv hQ h3 value hh f3)

end Probe5Inv

section Footprint
variable (f : List ℝ → ℝ) {E : Param ℝ → Prop} (hset : ∀ {x x' : Param ℝ} {v : ℝ}, E x → x.setValue v = .ok x' → E x')
include hset

theorem probes5_frame (fn : Fn ℝ) (p : PList ℝ) (value h f3 : ℝ) (hp : ∀ y ∈ p, E y) :
    Reaches f E false fn (probes5 f fn p value h f3).1 ∧ ∀ y ∈ (probes5 f fn p value h f3).2.1, E y :=
  probes5_inv (Q := fun fn' p' _ => Reaches f E false fn fn' ∧ ∀ y ∈ p', E y)
    ⟨fun fn' p' _ x h => ⟨h.1.trans (probe5_frame f hset fn' p' x h.2).1, (probe5_frame f hset fn' p' x h.2).2⟩,
     fun _ _ _ _ _ h => h⟩ (s := false) ⟨.refl _, hp⟩ value h f3

end Footprint

/-- the footprint of one iteration of a loop over `variables_`, whatever happens in it: the wrapped
function is only reached through `setParameters`, configuration and sizes stay, the matrix of cross
derivatives is not touched, and `lastVar` moves to `var` exactly when `var` was probed -/
structure StepFrame (f : List ℝ → ℝ) (E : Param ℝ → Prop) (params : PList ℝ) (lp : Loop ℝ) (var : Name)
    (r : Loop ℝ × Option Exc) : Prop where
  reach : Reaches f E false lp.w.fn r.1.w.fn
  shape : Shape lp.w r.1.w
  cross : r.1.w.cross = lp.w.cross
  last : r.1.lastVar = lp.lastVar ∨ r.1.lastVar = some var
  last_of : has params var = true → r.2 = none → r.1.lastVar = some var

/-- the first step of the second retry loop of the three-point scheme (Three:98-99): the other side,
or half the step -/
noncomputable def sideStep (h : ℝ) : ℝ := if ltb h zero then -h else h / ofInt 2

theorem sideStep_ne_zero {h : ℝ} (hh : h ≠ 0) : sideStep h ≠ 0 := by
  unfold sideStep
  split
  · exact neg_ne_zero.mpr hh
  · simp only [ScalarReal.ofInt_eq]; exact div_ne_zero hh (by norm_num)

/-- the result `r` of an iteration that probed `var`: the wrapped function `fn'` and the outcome `exc`
are those of the probing; in the wrapper only value slots other than the scheme's and entries of the
arrays of first and second derivatives change -/
structure Probed (s : Scheme) (lp : Loop ℝ) (var : Name) (fn' : Fn ℝ) (exc : Option Exc) (r : Loop ℝ × Option Exc) : Prop where
  exc : r.2 = exc
  fn : r.1.w.fn = fn'
  last : r.1.lastVar = some var
  shape : Shape lp.w r.1.w
  cross : r.1.w.cross = lp.w.cross
  slot : slotOf s r.1.w = slotOf s lp.w

theorem Probed.frame {s : Scheme} {f : List ℝ → ℝ} {E : Param ℝ → Prop} {params : PList ℝ} {lp : Loop ℝ} {var : Name}
    {fn' : Fn ℝ} {exc : Option Exc} {r : Loop ℝ × Option Exc} (h : Probed s lp var fn' exc r)
    (hr : Reaches f E false lp.w.fn fn') : StepFrame f E params lp var r :=
  ⟨h.fn ▸ hr, h.shape, h.cross, .inr h.last, fun _ _ => h.last⟩

theorem StepFrame.skip {f : List ℝ → ℝ} {E : Param ℝ → Prop} {params : PList ℝ} (lp : Loop ℝ) (var : Name) (e : Option Exc)
    (h : has params var = false ∨ e ≠ none) : StepFrame f E params lp var (lp, e) :=
  ⟨.refl _, .refl _, rfl, .inl rfl, fun hh he => h.elim (fun h => by rw [h] at hh; cases hh) (fun h => absurd he h)⟩

/-! One iteration by its cases, once per scheme: the variable is not listed; the beginning of the
iteration fails; the variable is probed, and then the wrapped function and the exception of the
iteration are those of the last probing step that ran. -/

theorem step2_probed (f : List ℝ → ℝ) (params : PList ℝ) (lp : Loop ℝ) (i : Nat) (var : Name) :
    (has params var = false ∧ step2 f params lp i var = (lp, none)) ∨
    has params var = true ∧ ((∃ e, prepare params lp.w.h lp var = .error e ∧ step2 f params lp i var = (lp, some e)) ∨
    ∃ p value h, prepare params lp.w.h lp var = .ok (p, value, h) ∧
      ∀ r, retry f true 10 lp.w.fn p value h none = r → Probed .two lp var r.fn r.exc (step2 f params lp i var)) := by
  have same : SameCfg lp.w lp.w := .refl _
  fun_cases step2 f params lp i var with
  | case1 hh => exact .inl ⟨by simpa using hh, rfl⟩
  | case2 hh e he => exact .inr ⟨by simpa using hh, .inl ⟨e, he, rfl⟩⟩
  | case3 hh p value h hprep r f2 w hx =>
    exact .inr ⟨by simpa using hh, .inr ⟨p, value, h, hprep, fun _ hr => hr ▸ ⟨rfl, rfl, rfl, ⟨same, rfl, rfl⟩, rfl, rfl⟩⟩⟩
  | case4 hh p value h hprep r f2 w hx =>
    exact .inr ⟨by simpa using hh, .inr ⟨p, value, h, hprep, fun _ hr => hr ▸
      ⟨(show r.exc = none by simpa using hx).symm, rfl, rfl, ⟨same, setAt_length _ _ _, rfl⟩, rfl, rfl⟩⟩⟩

/-- `r1` is the first retry loop, `r3` the second one, which runs when the first one found a step -/
theorem step3_probed (f : List ℝ → ℝ) (params : PList ℝ) (lp : Loop ℝ) (i : Nat) (var : Name) :
    (has params var = false ∧ step3 f params lp i var = (lp, none)) ∨
    has params var = true ∧ ((∃ e, prepare params lp.w.h lp var = .error e ∧ step3 f params lp i var = (lp, some e)) ∨
    ∃ p value h, prepare params lp.w.h lp var = .ok (p, value, h) ∧
      ∀ r1, retry f true 10 lp.w.fn p value h none = r1 → ∀ r3, retry f false 10 r1.fn r1.p value (sideStep r1.h) none = r3 →
        (r1.exc ≠ none ∨ r1.hf = none) ∧ Probed .three lp var r1.fn r1.exc (step3 f params lp i var) ∨
        r1.exc = none ∧ r1.hf ≠ none ∧ Probed .three lp var r3.fn r3.exc (step3 f params lp i var)) := by
  have same : SameCfg lp.w lp.w := .refl _
  fun_cases step3 f params lp i var with
  | case1 hh => exact .inl ⟨by simpa using hh, rfl⟩
  | case2 hh e he => exact .inr ⟨by simpa using hh, .inl ⟨e, he, rfl⟩⟩
  | case3 hh p value h hprep r1 f1 w hx =>
    refine .inr ⟨by simpa using hh, .inr ⟨p, value, h, hprep, fun _ h1 _ _ => h1 ▸ .inl ⟨.inl ?_, rfl, rfl, rfl, ⟨same, rfl, rfl⟩, rfl, rfl⟩⟩⟩
    intro e; rw [show r1.exc = none from e] at hx; cases hx
  | case4 hh p value h hprep r1 f1 w hx hhf =>
    exact .inr ⟨by simpa using hh, .inr ⟨p, value, h, hprep, fun _ h1 _ _ => h1 ▸ .inl ⟨.inr hhf,
      (show r1.exc = none by simpa using hx).symm, rfl, rfl, ⟨same, setAt_length _ _ _, setAt_length _ _ _⟩, rfl, rfl⟩⟩⟩
  | case5 hh p value h hprep r1 f1 w hx hf1 hhf h3 r3 f3 w' hx3 =>
    refine .inr ⟨by simpa using hh, .inr ⟨p, value, h, hprep, fun _ h1 _ e3 => ?_⟩⟩
    subst h1 e3
    exact .inr ⟨by simpa using hx, by rw [hhf]; simp,
      rfl, rfl, rfl, ⟨same, rfl, rfl⟩, rfl, rfl⟩
  | case6 hh p value h hprep r1 f1 w hx hf1 hhf h3 r3 f3 w' hx3 hhf3 =>
    refine .inr ⟨by simpa using hh, .inr ⟨p, value, h, hprep, fun _ h1 _ e3 => ?_⟩⟩
    subst h1 e3
    exact .inr ⟨by simpa using hx, by rw [hhf]; simp,
      (show r3.exc = none by simpa using hx3).symm, rfl, rfl, ⟨same, setAt_length _ _ _, setAt_length _ _ _⟩, rfl, rfl⟩
  | case7 hh p value h hprep r1 f1 w hx hf1 hhf h3 r3 f3 w' hx3 hf3 hhf3 =>
    refine .inr ⟨by simpa using hh, .inr ⟨p, value, h, hprep, fun _ h1 _ e3 => ?_⟩⟩
    subst h1 e3
    exact .inr ⟨by simpa using hx, by rw [hhf]; simp,
      (show r3.exc = none by simpa using hx3).symm, rfl, rfl, ⟨same, setAt_length _ _ _, setAt_length _ _ _⟩, rfl, rfl⟩

/-- `r5` is the outcome of the nested tries, `g` the reset of the give-up handler, which runs when
they found no room on either side -/
theorem step5_probed (f : List ℝ → ℝ) (params : PList ℝ) (lp : Loop ℝ) (i : Nat) (var : Name) :
    (has params var = false ∧ step5 f params lp i var = (lp, none)) ∨
    has params var = true ∧ ((∃ e, (subNames params (match lp.lastVar with
        | none => [var]
        | some l => [var, l]) = .error e ∨ lp.w.fn.valueOf var = .error e) ∧ step5 f params lp i var = (lp, some e)) ∨
    ∃ p value, subNames params (match lp.lastVar with
        | none => [var]
        | some l => [var, l]) = .ok p ∧ lp.w.fn.valueOf var = .ok value ∧
      ∀ r5, probes5 f lp.w.fn p value ((one + Scalar.abs value) * lp.w.h) lp.w.f3 = r5 →
      ∀ g, (if decide (r5.2.1.length > 1) then r5.1.setParameters f (subIdx r5.2.1 1) else (r5.1, none)) = g →
        r5.2.2 ≠ none ∧ Probed .five lp var r5.1 none (step5 f params lp i var) ∨
        r5.2.2 = none ∧ Probed .five lp var g.1 g.2 (step5 f params lp i var)) := by
  have same : SameCfg lp.w lp.w := .refl _
  fun_cases step5 f params lp i var with
  | case1 hh => exact .inl ⟨by simpa using hh, rfl⟩
  | case2 hh names e he => exact .inr ⟨by simpa using hh, .inl ⟨e, .inl he, rfl⟩⟩
  | case3 hh names p hsub e he => exact .inr ⟨by simpa using hh, .inl ⟨e, .inr he, rfl⟩⟩
  | case4 hh names p hsub value hval w h fn p5 d1 d2 h5 =>
    refine .inr ⟨by simpa using hh, .inr ⟨p, value, hsub, hval, fun _ e5 _ _ => ?_⟩⟩
    subst e5
    rw [show probes5 f lp.w.fn p value ((one + Scalar.abs value) * lp.w.h) lp.w.f3 = _ from h5]
    exact .inl ⟨by simp, rfl, rfl, rfl, ⟨same, setAt_length _ _ _, setAt_length _ _ _⟩, rfl, rfl⟩
  | case5 hh names p hsub value hval w h fn p5 h5 r e hr =>
    refine .inr ⟨by simpa using hh, .inr ⟨p, value, hsub, hval, fun _ e5 _ eg => ?_⟩⟩
    subst e5 eg
    rw [show probes5 f lp.w.fn p value ((one + Scalar.abs value) * lp.w.h) lp.w.f3 = _ from h5]
    exact .inr ⟨rfl, hr.symm, rfl, rfl, ⟨same, rfl, rfl⟩, rfl, rfl⟩
  | case6 hh names p hsub value hval w h fn p5 h5 r hr =>
    refine .inr ⟨by simpa using hh, .inr ⟨p, value, hsub, hval, fun _ e5 _ eg => ?_⟩⟩
    subst e5 eg
    rw [show probes5 f lp.w.fn p value ((one + Scalar.abs value) * lp.w.h) lp.w.f3 = _ from h5]
    exact .inr ⟨rfl, hr.symm, rfl, rfl, ⟨same, setAt_length _ _ _, setAt_length _ _ _⟩, rfl, rfl⟩

section Footprint
variable (f : List ℝ → ℝ) {E : Param ℝ → Prop} {params : PList ℝ} (hE : Closed E params)
include hE

theorem step2_frame (lp : Loop ℝ) (i : Nat) (var : Name) : StepFrame f E params lp var (step2 f params lp i var) := by
  rcases step2_probed f params lp i var with ⟨hh, h⟩ | ⟨_, ⟨e, _, h⟩ | ⟨p, value, h, hprep, hpr⟩⟩
  · rw [h]; exact .skip lp var _ (.inl hh)
  · rw [h]; exact .skip lp var _ (.inr (by simp))
  · exact (hpr _ rfl).frame (retry_frame f hE.set true value 10 lp.w.fn p h none (prepare_all hE _ lp var p value h hprep)).1

theorem step3_frame (lp : Loop ℝ) (i : Nat) (var : Name) : StepFrame f E params lp var (step3 f params lp i var) := by
  rcases step3_probed f params lp i var with ⟨hh, h⟩ | ⟨_, ⟨e, _, h⟩ | ⟨p, value, h, hprep, hpr⟩⟩
  · rw [h]; exact .skip lp var _ (.inl hh)
  · rw [h]; exact .skip lp var _ (.inr (by simp))
  · obtain ⟨hr1, hp1⟩ := retry_frame f hE.set true value 10 lp.w.fn p h none (prepare_all hE _ lp var p value h hprep)
    rcases hpr _ rfl _ rfl with ⟨_, h1⟩ | ⟨_, _, h3⟩
    · exact h1.frame hr1
    · exact h3.frame (hr1.trans (retry_frame f hE.set false value 10 _ _ _ none hp1).1)

theorem step5_frame (lp : Loop ℝ) (i : Nat) (var : Name) : StepFrame f E params lp var (step5 f params lp i var) := by
  rcases step5_probed f params lp i var with ⟨hh, h⟩ | ⟨_, ⟨e, _, h⟩ | ⟨p, value, hsub, _, hpr⟩⟩
  · rw [h]; exact .skip lp var _ (.inl hh)
  · rw [h]; exact .skip lp var _ (.inr (by simp))
  · obtain ⟨h5, hp5⟩ := probes5_frame f hE.set lp.w.fn p value ((one + Scalar.abs value) * lp.w.h) lp.w.f3 (hE.sub hsub)
    rcases hpr _ rfl _ rfl with ⟨_, h1⟩ | ⟨_, hg⟩
    · exact h1.frame h5
    · refine hg.frame ?_
      split
      · exact .setp _ (subIdx_all hp5 1) h5
      · exact h5

theorem stepOf_frame (s : Scheme) (lp : Loop ℝ) (i : Nat) (var : Name) :
    StepFrame f E params lp var (stepOf s f params lp i var) := by
  cases s
  · exact step2_frame f hE lp i var
  · exact step3_frame f hE lp i var
  · exact step5_frame f hE lp i var

omit hE in
theorem loopGo_frame (step : Loop ℝ → Nat → Name → Loop ℝ × Option Exc)
    (hstep : ∀ lp i var, StepFrame f E params lp var (step lp i var)) (vs : List Name) (i : Nat) (lp : Loop ℝ) :
    Reaches f E false lp.w.fn (loopGo step vs i lp).1.w.fn ∧
      Shape lp.w (loopGo step vs i lp).1.w ∧ (loopGo step vs i lp).1.w.cross = lp.w.cross := by
  fun_induction loopGo step vs i lp with
  | case1 => exact ⟨.refl _, .refl _, rfl⟩
  | case2 v vs i lp lp' e hs =>
    have h := hstep lp i v
    rw [hs] at h
    exact ⟨h.reach, h.shape, h.cross⟩
  | case3 v vs i lp lp' hs ih =>
    have h := hstep lp i v
    rw [hs] at h
    exact ⟨h.reach.trans ih.1, h.shape.trans ih.2.1, ih.2.2.trans h.cross⟩

end Footprint


/-- the footprint of a part of the cross-derivative block: `setParameters` and, on the failing
path only, the switches; the first and second derivatives are not touched -/
structure CrossFrame (f : List ℝ → ℝ) (E : Param ℝ → Prop) (cl : CLoop ℝ) (r : CLoop ℝ × Option Exc) : Prop where
  reach : Reaches f E true cl.w.fn r.1.w.fn
  reachS : r.2 = none → Reaches f E false cl.w.fn r.1.w.fn
  cfg : SameCfg cl.w r.1.w
  der1 : r.1.w.der1 = cl.w.der1
  der2 : r.1.w.der2 = cl.w.der2

theorem CrossFrame.shape {f : List ℝ → ℝ} {E : Param ℝ → Prop} {cl : CLoop ℝ} {r : CLoop ℝ × Option Exc}
    (h : CrossFrame f E cl r) : Shape cl.w r.1.w := ⟨h.cfg, by rw [h.der1], by rw [h.der2]⟩

theorem CrossFrame.trans {f : List ℝ → ℝ} {E : Param ℝ → Prop} {cl cl' : CLoop ℝ} {r : CLoop ℝ × Option Exc}
    (h1 : CrossFrame f E cl (cl', none)) (h2 : CrossFrame f E cl' r) : CrossFrame f E cl r :=
  ⟨h1.reach.trans h2.reach, fun h => (h1.reachS rfl).trans (h2.reachS h), h1.cfg.trans h2.cfg,
   h2.der1.trans h1.der1, h2.der2.trans h1.der2⟩

theorem setEval_frame (f : List ℝ → ℝ) {E : Param ℝ → Prop}
    (hset : ∀ {x x' : Param ℝ} {v : ℝ}, E x → x.setValue v = .ok x' → E x') (fn : Fn ℝ) (q : Param ℝ) (x : ℝ) (hq : E q) :
    Reaches f E false fn (setEval f fn q x).1 ∧ ∀ q' v, (setEval f fn q x).2 = some (q', v) → E q' := by
  unfold setEval
  split
  · exact ⟨.refl _, fun _ _ h => by cases h⟩
  · rename_i q1 hs
    have h1 : ∀ y ∈ [q1], E y := fun y hy => by simp at hy; subst hy; exact hset hq hs
    split
    · rename_i h; exact ⟨(Reaches.refl fn).of_set h1 h, fun _ _ h => by cases h⟩
    · rename_i h
      refine ⟨(Reaches.refl fn).of_set h1 h, ?_⟩
      intro q' v he; injection he with he; injection he with he _; rw [← he]; exact h1 _ (by simp)

/-- the names of the sub-list of a pair (Three:163-169): the two variables of the pair, then those of the previous pair -/
abbrev pairNames (l1 l2 var1 var2 : Name) : List Name :=
  [var1, var2] ++ (if l1 != var1 && l1 != var2 then [l1] else []) ++ (if l2 != var1 && l2 != var2 && l2 != l1 then [l2] else [])

/-- what the four probes of a pair keep: `R` of the parameters they move, `Q false` of the wrapped function until the
first `function_->setParameters` of the pair (Three:183) has gone through, `Q true` from then on -/
structure PairInv (f : List ℝ → ℝ) (params : PList ℝ) (cl : CLoop ℝ) (var1 var2 : Name) (R : Param ℝ → Prop)
    (Q : Bool → Fn ℝ → Prop) : Prop where
  first : ∀ p0 p1 rest p0a p1a (x0 x1 : ℝ), subNames params (pairNames cl.l1 cl.l2 var1 var2) = .ok (p0 :: p1 :: rest) →
    p0.setValue x0 = .ok p0a → p1.setValue x1 = .ok p1a → R p0a ∧ R p1a ∧
      Q (cl.w.fn.setParameters f (p0a :: p1a :: rest)).2.isNone (cl.w.fn.setParameters f (p0a :: p1a :: rest)).1
  eval : ∀ fn q x, Q true fn → R q →
    Q true (setEval f fn q x).1 ∧ ∀ q' v, (setEval f fn q x).2 = some (q', v) → R q'

/-- one pair by its cases, the only case analysis of `crossPair`: the sub-list of the pair cannot be made and nothing
happens; a ConstraintException in one of the four probes ends in `crossFail` from the wrapped function as it is then;
or all four go through -/
theorem crossPair_inv (f : List ℝ → ℝ) {params : PList ℝ} {cl : CLoop ℝ} {var1 var2 : Name} {R : Param ℝ → Prop}
    {Q : Bool → Fn ℝ → Prop} (hI : PairInv f params cl var1 var2 R Q) (h0 : Q false cl.w.fn) (i j : Nat) :
    (∃ e, crossPair f params cl i j var1 var2 = (cl, some e) ∧
      ∀ p0 p1 rest, subNames params (pairNames cl.l1 cl.l2 var1 var2) ≠ .ok (p0 :: p1 :: rest)) ∨
    (∃ b fn, Q b fn ∧ crossPair f params cl i j var1 var2 = crossFail f params cl fn) ∨
    ∃ fn c, Q true fn ∧ crossPair f params cl i j var1 var2 =
      ({ w := { cl.w with fn := fn, cross := setAt2 cl.w.cross i j (some c) }, l1 := var1, l2 := var2 }, none) := by
  unfold crossPair
  simp only []
  split
  next e hsub => exact .inl ⟨e, rfl, fun p0 p1 rest h => by cases hsub.symm.trans h⟩
  next p hsub =>
    split
    next p0 p1 rest =>
      split
      next => exact .inr (.inl ⟨false, _, h0, rfl⟩)
      next p0a hs0 =>
        split
        next => exact .inr (.inl ⟨false, _, h0, rfl⟩)
        next p1a hs1 =>
          obtain ⟨r0, r1, q1⟩ := hI.first p0 p1 rest p0a p1a _ _ hsub hs0 hs1
          split
          next fn1 e h => rw [h] at q1; exact .inr (.inl ⟨false, fn1, q1, rfl⟩)
          next fn1 h =>
            rw [h] at q1
            have s2 := hI.eval fn1 p1a (p1.value + (one + Scalar.abs p1.value) * cl.w.h) q1 r1
            split
            next fn2 h2 => rw [h2] at s2; exact .inr (.inl ⟨true, fn2, s2.1, rfl⟩)
            next fn2 p1b f12 h2 =>
              rw [h2] at s2
              have s3 := hI.eval fn2 p0a (p0.value + (one + Scalar.abs p0.value) * cl.w.h) s2.1 r0
              split
              next fn3 h3 => rw [h3] at s3; exact .inr (.inl ⟨true, fn3, s3.1, rfl⟩)
              next fn3 _ f22 h3 =>
                rw [h3] at s3
                have s4 := hI.eval fn3 p1b (p1.value - (one + Scalar.abs p1.value) * cl.w.h) s3.1 (s2.2 p1b f12 rfl)
                split
                next fn4 h4 => rw [h4] at s4; exact .inr (.inl ⟨true, fn4, s4.1, rfl⟩)
                next fn4 _ f21 h4 => rw [h4] at s4; exact .inr (.inr ⟨fn4, _, s4.1, rfl⟩)
    next hp => exact .inl ⟨.index, rfl, fun p0 p1 rest h => hp p0 p1 rest (Except.ok.inj (hsub.symm.trans h))⟩

section Footprint
variable (f : List ℝ → ℝ) {E : Param ℝ → Prop} {params : PList ℝ} (hE : Closed E params)
include hE

theorem crossFail_frame (cl : CLoop ℝ) (fn : Fn ℝ) (h : Reaches f E false cl.w.fn fn) :
    CrossFrame f E cl (crossFail f params cl fn) :=
  ⟨.setp _ hE.mem (.en2 rfl _ (.en1 rfl _ h.withSwitches)), fun h => by simp [crossFail] at h,
   ⟨rfl, rfl, rfl, rfl, rfl, rfl⟩, rfl, rfl⟩

theorem crossPair_frame (cl : CLoop ℝ) (i j : Nat) (var1 var2 : Name) :
    CrossFrame f E cl (crossPair f params cl i j var1 var2) := by
  have hI : PairInv f params cl var1 var2 E (fun _ fn => Reaches f E false cl.w.fn fn) :=
    ⟨fun p0 p1 rest p0a p1a _ _ hsub hs0 hs1 => by
      have hp := setValue_head hE.set (hE.sub hsub) hs0
      have hp' : ∀ y ∈ p0a :: p1a :: rest, E y := fun y hy => by
        rcases List.mem_cons.mp hy with rfl | hy
        · exact hp _ (List.mem_cons_self ..)
        · exact setValue_head hE.set (fun z hz => hp z (List.mem_cons_of_mem _ hz)) hs1 y hy
      exact ⟨hp' _ (by simp), hp' _ (by simp), .setp _ hp' (.refl _)⟩,
     fun fn q x hq hr => ⟨hq.trans (setEval_frame f hE.set fn q x hr).1, (setEval_frame f hE.set fn q x hr).2⟩⟩
  rcases crossPair_inv f hI (.refl _) i j with ⟨e, h, _⟩ | ⟨_, fn, hq, h⟩ | ⟨fn, c, hq, h⟩ <;> rw [h]
  · exact ⟨.refl _, fun h => (by cases h), .refl _, rfl, rfl⟩
  · exact crossFail_frame f hE cl fn hq
  · exact ⟨hq.withSwitches, fun _ => hq, ⟨rfl, rfl, rfl, rfl, rfl, rfl⟩, rfl, rfl⟩

theorem crossRow_frame (i : Nat) (var1 : Name) (vs : List Name) (j : Nat) (cl : CLoop ℝ) :
    CrossFrame f E cl (crossRow f params i var1 vs j cl) := by
  fun_induction crossRow f params i var1 vs j cl with
  | case1 => exact ⟨.refl _, fun _ => .refl _, .refl _, rfl, rfl⟩
  | case2 => exact ⟨.refl _, (fun h => by cases h), .refl _, rfl, rfl⟩
  | case3 v vs cl d hd ih => exact ⟨ih.reach, ih.reachS, ih.cfg, ih.der1, ih.der2⟩
  | case4 v vs j cl hji hh ih => exact ih
  | case5 v vs j cl hji hh cl' e hp => exact hp ▸ crossPair_frame f hE cl i j var1 v
  | case6 v vs j cl hji hh cl' hp ih => exact (hp ▸ crossPair_frame f hE cl i j var1 v).trans ih

theorem crossGo_frame (all : List Name) (vs : List Name) (i : Nat) (cl : CLoop ℝ) :
    CrossFrame f E cl (crossGo f params all vs i cl) := by
  fun_induction crossGo f params all vs i cl with
  | case1 => exact ⟨.refl _, fun _ => .refl _, .refl _, rfl, rfl⟩
  | case2 v vs i cl hh ih => exact ih
  | case3 v vs i cl hh cl' e hp => exact hp ▸ crossRow_frame f hE i v all 0 cl
  | case4 v vs i cl hh cl' hp ih => exact (hp ▸ crossRow_frame f hE i v all 0 cl).trans ih

omit hE in
theorem Wenable2_reach (w : W ℝ) (b : Bool) : Reaches f E true w.fn (w.enable2 b) := by
  unfold W.enable2; split
  · exact .refl _
  · exact .en2 rfl b (.refl _)

theorem finish_frame (lastVar : Option Name) (all : Bool) (w : W ℝ) :
    Reaches f E true w.fn (finish f params lastVar all w).1.fn ∧ SameCfg w (finish f params lastVar all w).1 ∧
    (finish f params lastVar all w).1.der1 = w.der1 ∧ (finish f params lastVar all w).1.der2 = w.der2 ∧
    (finish f params lastVar all w).1.cross = w.cross := by
  have h0 : Reaches f E true w.fn (({ w with fn := w.fn.enable1 w.c1 } : W ℝ).enable2 w.c2) :=
    (Reaches.en1 rfl w.c1 (.refl w.fn)).trans (Wenable2_reach f ({ w with fn := w.fn.enable1 w.c1 } : W ℝ) w.c2)
  unfold finish
  simp only []
  split
  · exact ⟨h0, ⟨rfl, rfl, rfl, rfl, rfl, rfl⟩, rfl, rfl, rfl⟩
  · split
    · exact ⟨.setp _ hE.mem h0, ⟨rfl, rfl, rfl, rfl, rfl, rfl⟩, rfl, rfl, rfl⟩
    · split
      · exact ⟨h0, ⟨rfl, rfl, rfl, rfl, rfl, rfl⟩, rfl, rfl, rfl⟩
      · rename_i q hsub
        exact ⟨.setp _ (hE.sub hsub) h0, ⟨rfl, rfl, rfl, rfl, rfl, rfl⟩, rfl, rfl, rfl⟩

theorem finish_shape (lastVar : Option Name) (all : Bool) (w : W ℝ) : Shape w (finish f params lastVar all w).1 := by
  obtain ⟨_, a, b, c, _⟩ := finish_frame f hE lastVar all w
  exact ⟨a, by rw [b], by rw [c]⟩

omit hE in
theorem onOf_reach (s : Scheme) (w : W ℝ) : Reaches f E true w.fn (onOf s w) := by
  cases s
  · exact (Reaches.en1 rfl w.c1 (.refl w.fn)).trans (Wenable2_reach f ({ w with fn := w.fn.enable1 w.c1 } : W ℝ) w.c2)
  · exact .en2 rfl _ (.en1 rfl _ (.refl w.fn))
  · exact .en2 rfl _ (.en1 rfl _ (.refl w.fn))

omit hE in
theorem sw2_reach (s : Scheme) (fn : Fn ℝ) (b : Bool) : Reaches f E true fn (sw2 s fn b) := by
  cases s
  · exact .refl _
  · exact .en2 rfl b (.refl _)
  · exact .en2 rfl b (.refl _)

theorem afterLoop_frame (s : Scheme) (lp : Loop ℝ) :
    Reaches f E true lp.w.fn (afterLoop s f params lp).1.fn ∧ Shape lp.w (afterLoop s f params lp).1 := by
  unfold afterLoop
  split
  · split
    · exact ⟨(finish_frame f hE lp.lastVar true lp.w).1, finish_shape f hE lp.lastVar true lp.w⟩
    · rename_i l _
      have hc := crossGo_frame f hE lp.w.vars lp.w.vars 0 { w := lp.w, l1 := l, l2 := l }
      rcases hcs : crossGo f params lp.w.vars lp.w.vars 0 { w := lp.w, l1 := l, l2 := l } with ⟨cl, e⟩
      rw [hcs] at hc
      cases e with
      | some e => exact ⟨hc.reach, hc.shape⟩
      | none =>
        exact ⟨hc.reach.trans (finish_frame f hE lp.lastVar true cl.w).1, hc.shape.trans (finish_shape f hE lp.lastVar true cl.w)⟩
  · exact ⟨(finish_frame f hE lp.lastVar false lp.w).1, finish_shape f hE lp.lastVar false lp.w⟩

theorem updateG_frame (s : Scheme) (w : W ℝ) :
    Reaches f E true w.fn (updateG s f w params).1.fn ∧ Shape w (updateG s f w params).1 := by
  have hset : ∀ v : ℝ, ∀ fn, Shape w (setSlot s { w with fn := fn } v) := by
    intro v fn; cases s <;> exact ⟨⟨rfl, rfl, rfl, rfl, rfl, rfl⟩, rfl, rfl⟩
  have hsetfn : ∀ v : ℝ, ∀ fn, (setSlot s { w with fn := fn } v).fn = fn := by
    intro v fn; cases s <;> rfl
  unfold updateG
  split
  · have r0 : Reaches f E true w.fn (sw2 s (w.fn.enable1 false) false) :=
      (Reaches.en1 rfl false (.refl w.fn)).trans (sw2_reach f s _ false)
    split
    next fn1 _ h => exact ⟨r0.of_set hE.mem h, ⟨rfl, rfl, rfl, rfl, rfl, rfl⟩, rfl, rfl⟩
    next fn1 h =>
      have r1 : Reaches f E true w.fn fn1 := r0.of_set hE.mem h
      simp only []
      split
      · refine ⟨?_, (hset fn1.fval fn1).trans ⟨⟨rfl, rfl, rfl, rfl, rfl, rfl⟩, by simp [nanAll], by simp [nanAll]⟩⟩
        show Reaches f E true w.fn (sw2 s ((setSlot s { w with fn := fn1 } fn1.fval).fn.enable1 _) _)
        rw [hsetfn]
        exact (Reaches.en1 rfl _ r1).trans (sw2_reach f s _ _)
      · obtain ⟨l1, l2, _⟩ := loopGo_frame f (stepOf s f params) (stepOf_frame f hE s)
          (setSlot s { w with fn := fn1 } fn1.fval).vars 0
          { w := setSlot s { w with fn := fn1 } fn1.fval, p := [], lastVar := none }
        rcases hs : loopGo (stepOf s f params) (setSlot s { w with fn := fn1 } fn1.fval).vars 0
          { w := setSlot s { w with fn := fn1 } fn1.fval, p := [], lastVar := none } with ⟨lp, e⟩
        rw [hs] at l1 l2
        simp only [hsetfn] at l1
        have rl : Reaches f E true w.fn lp.w.fn := r1.trans l1.withSwitches
        have sl : Shape w lp.w := (hset fn1.fval fn1).trans l2
        cases e with
        | some e => exact ⟨rl, sl⟩
        | none =>
          obtain ⟨a, b⟩ := afterLoop_frame f hE s lp
          exact ⟨rl.trans a, sl.trans b⟩
  · have r0 := onOf_reach (E := E) f s w
    split
    next fn1 _ h => exact ⟨r0.of_set hE.mem h, ⟨rfl, rfl, rfl, rfl, rfl, rfl⟩, rfl, rfl⟩
    next fn1 h => exact ⟨by rw [hsetfn]; exact r0.of_set hE.mem h, hset _ _⟩

end Footprint

end Bpp.NumDeriv
