import BppProofs.Lemmas.DiscretizeFamHistory
/-!
C09: the exponential, uniform and truncated exponential families: every history of public
operations inside the regular range keeps the object a valid partition (unconditionally: `H` is
proved from the closed forms).
-/
namespace Bpp.Discretize
open Bpp

theorem VERY_BIG_pos : (0 : ℝ) < (VERY_BIG : ℝ) := by simp [VERY_BIG, Gen.VERY_BIG]

theorem geC_zero_iff (v : ℝ) : (geC (0 : ℝ)).isCorrect v = true ↔ 0 ≤ v :=
  (C01.isCorrect_halfLine_pos 0 _ v true).trans (by simp)

/-- what `setP` can do: nothing (unknown name, refused value, discretisation not completed), or
`fire` -/
theorem setP_cases (orc : Parent ℝ) (f : FamSt ℝ) (name : String) (v : ℝ) :
    (setP orc f name v).st = f ∨
    ∃ slot, paramSlot f name = some slot ∧
      (paramValue f slot = v ∨ rejects f slot v = false) ∧
      (setP orc f name v).st = (stepOf f (fire orc f slot v)).st := by
  unfold setP setParameterValue
  cases hs : paramSlot f name with
  | none => left; rfl
  | some slot =>
    simp only
    by_cases hc : (!(Scalar.eqb (paramValue f slot) v) && rejects f slot v) = true
    · left; rw [if_pos hc]; rfl
    · right
      rw [if_neg hc]
      refine ⟨slot, rfl, ?_, rfl⟩
      by_cases he : paramValue f slot = v
      · exact Or.inl he
      · right
        have he' : Scalar.eqb (paramValue f slot) v = false := by
          cases hh : Scalar.eqb (paramValue f slot) v with
          | false => rfl
          | true => exact absurd ((ScalarReal.eqb_iff _ _).1 hh) he
        simpa [he'] using hc

theorem frun_inv (orc : Parent ℝ) (I : FamSt ℝ → Prop) (hstep : ∀ f op, op.regular → I f → I (fstep orc f op))
    (f : FamSt ℝ) (ops : List FOp) (hreg : ∀ op ∈ ops, op.regular) (h : I f) : I (frun orc f ops) := by
  induction ops generalizing f with
  | nil => exact h
  | cons op ops ih =>
    exact ih (fstep orc f op) (fun o ho => hreg o (by simp [ho])) (hstep f op (hreg op (by simp)) h)

structure ExpInv (orc : Parent ℝ) (f : FamSt ℝ) : Prop where
  fam : f.fam = .exp
  rate : 0 < f.p1
  good : FamGood orc f

theorem exp_step (orc : Parent ℝ) (f : FamSt ℝ) (op : FOp) (hreg : op.regular) (h : ExpInv orc f) :
    ExpInv orc (fstep orc f op) := by
  have hgen := fstep_generic orc f op hreg h.good
  cases op with
  | setN _ | setMed _ | rediscretize =>
    obtain ⟨g, a, b, -⟩ := hgen trivial
    exact ⟨a.trans h.fam, b ▸ h.rate, g⟩
  | restrict c =>
    rcases restrict_cases orc f c h.good with hh | ⟨d, t, hh, g, -⟩ <;> simp only [fstep, hh]
    · exact h
    · exact ⟨h.fam, h.rate, g⟩
  | setP name v =>
    simp only [fstep]
    rcases setP_cases orc f name v with hh | ⟨slot, _, _, hh⟩
    · rw [hh]; exact h
    · rw [hh, show fire orc f slot v = ({ f with p1 := v } : FamSt ℝ).discretize orc by unfold fire; rw [h.fam]]
      obtain ⟨g, sh | ⟨d, _, sh⟩⟩ := famgood_discretize orc f { f with p1 := v } h.good.pre h.good.scheme
        (fun lo hi _ _ _ => by simp only [FamSt.parent, h.fam]; exact exponential_parentOK v lo hi hreg) h.good
      · rw [sh]; exact h
      · rw [sh] at g ⊢; exact ⟨h.fam, hreg, g⟩

/-- the constructor establishes the invariant -/
theorem exp_construct (orc : Parent ℝ) (n : Nat) (lam : ℝ) (f : FamSt ℝ) (hn : 1 ≤ n) (hl : 0 < lam)
    (h : construct orc .exp n lam 0 0 false 1 = .ok f) : ExpInv orc f := by
  unfold construct at h
  simp only at h
  split at h
  · cases h
  · obtain ⟨hg, d, -, rfl⟩ := discretize_famgood orc _ f h
      ⟨hn, TINY_pos.le, by simp [freshDD, Dom.setLowerBound, Dom.full]; exact VERY_BIG_pos.le⟩ rfl
      (fun lo hi _ _ _ => exponential_parentOK lam lo hi hl)
    exact ⟨rfl, hl, hg⟩

structure UnifInv (orc : Parent ℝ) (f : FamSt ℝ) : Prop where
  fam : f.fam = .unif
  width : f.p1 < f.p2
  lo : f.p1 ≤ f.dd.dom.lo
  hi : f.dd.dom.hi ≤ f.p2
  good : FamGood orc f

theorem unif_step (orc : Parent ℝ) (f : FamSt ℝ) (op : FOp) (hreg : op.regular) (h : UnifInv orc f) :
    UnifInv orc (fstep orc f op) := by
  have hgen := fstep_generic orc f op hreg h.good
  cases op with
  | setN _ | setMed _ | rediscretize =>
    obtain ⟨g, a, b, c, -, -, e⟩ := hgen trivial
    exact ⟨a.trans h.fam, by rw [b, c]; exact h.width, by rw [b, e]; exact h.lo, by rw [c, e]; exact h.hi, g⟩
  | restrict c =>
    rcases restrict_cases orc f c h.good with hh | ⟨d, t, hh, g, dl, dh, -⟩ <;> simp only [fstep, hh]
    · exact h
    · exact ⟨h.fam, h.width, h.lo.trans dl, dh.trans h.hi, g⟩
  | setP name v =>
    simp only [fstep]
    rcases setP_cases orc f name v with hh | ⟨slot, _, _, hh⟩
    · rw [hh]; exact h
    · rw [hh, show fire orc f slot v = .ok f by unfold fire; rw [h.fam]]; exact h

theorem unif_construct (orc : Parent ℝ) (n : Nat) (a b : ℝ) (f : FamSt ℝ) (hn : 1 ≤ n) (hab : a ≠ b)
    (h : construct orc .unif n a b 0 false 1 = .ok f) : UnifInv orc f := by
  unfold construct at h
  simp only at h
  set mn : ℝ := if Scalar.ltb a b then a else b with hmn
  set mx : ℝ := if Scalar.ltb a b then b else a with hmx
  have hw : mn < mx := by
    simp only [hmn, hmx, ScalarReal.ltb_iff]
    rcases lt_or_gt_of_ne hab with h1 | h1
    · simp [h1]
    · simp [not_lt.2 h1.le, h1]
  obtain ⟨hg, d, hd, rfl⟩ := discretize_famgood orc _ f h ⟨hn, TINY_pos.le, hw.le⟩ rfl
    (fun lo hi h1 h2 h3 => uniform_parentOK mn mx lo hi hw h1 h3 h2)
  exact ⟨rfl, hw, hd ▸ le_rfl, hd ▸ le_rfl, hg⟩

structure TexpInv (orc : Parent ℝ) (f : FamSt ℝ) : Prop where
  fam : f.fam = .texp
  rate : 0 < f.p1
  tp : 0 < f.p2
  cond : f.p3 = texpCond f.p1 f.p2
  hi : f.dd.dom.hi ≤ f.p2
  tpIn : f.dd.dom.isCorrect f.p2 = true
  lo0 : f.tpTied = false → f.dd.dom.lo = 0
  good : FamGood orc f

theorem texp_slot (f : FamSt ℝ) (name : String) (slot : Nat) (hfam : f.fam = .texp) (h : paramSlot f name = some slot) :
    slot = 1 ∨ slot = 2 := by
  unfold paramSlot at h
  rw [hfam] at h
  split at h <;> simp_all

/-- `fireParameterChanged` with rate `lam2` and truncation point `tp2` inside the lower end of the
domain: the upper end of the domain follows the truncation point -/
theorem texp_fire (orc : Parent ℝ) (f : FamSt ℝ) (h : TexpInv orc f) (lam2 tp2 : ℝ) (hl : 0 < lam2) (ht : 0 < tp2)
    (hin : if f.dd.dom.inclLo then f.dd.dom.lo ≤ tp2 else f.dd.dom.lo < tp2) :
    TexpInv orc (stepOf f (FamSt.discretize orc
      { f with fam := .texp, p1 := lam2, p2 := tp2, p3 := texpCond lam2 tp2, dd := { f.dd with dom := f.dd.dom.setUpperBound tp2 false } })).st := by
  have hlo : f.dd.dom.lo ≤ tp2 := by
    cases hi : f.dd.dom.inclLo <;> simp [hi] at hin <;> linarith
  obtain ⟨gg, sh | ⟨d, hd, sh⟩⟩ := famgood_discretize orc f
    { f with fam := .texp, p1 := lam2, p2 := tp2, p3 := texpCond lam2 tp2, dd := { f.dd with dom := f.dd.dom.setUpperBound tp2 false } }
    ⟨h.good.pre.n_pos, h.good.pre.prec_nonneg, hlo⟩
    h.good.scheme (fun lo hi _ h2 h3 => truncated_exponential_parentOK lam2 tp2 lo hi hl ht h2 h3) h.good
  · rw [sh]; exact h
  · rw [sh] at gg ⊢
    have hdom : d.dom = f.dd.dom.setUpperBound tp2 false := hd
    refine ⟨rfl, hl, ht, rfl, ?_, ?_, fun ht' => ?_, gg⟩
    · show d.dom.hi ≤ tp2; rw [hdom]; exact le_rfl
    · show d.dom.isCorrect tp2 = true
      rw [hdom, dom_isCorrect_iff]
      simpa [Dom.setUpperBound] using hin
    · show d.dom.lo = 0; rw [hdom]; exact h.lo0 ht'

theorem texp_step (orc : Parent ℝ) (f : FamSt ℝ) (op : FOp) (hreg : op.regular) (h : TexpInv orc f) :
    TexpInv orc (fstep orc f op) := by
  have hgen := fstep_generic orc f op hreg h.good
  cases op with
  | setN _ | setMed _ | rediscretize =>
    obtain ⟨g, a, b, c, d, t, e⟩ := hgen trivial
    exact ⟨a.trans h.fam, by rw [b]; exact h.rate, by rw [c]; exact h.tp, by rw [d, b, c]; exact h.cond,
      by rw [e, c]; exact h.hi, by rw [e, c]; exact h.tpIn, by rw [t, e]; exact h.lo0, g⟩
  | restrict c =>
    rcases restrict_cases orc f c h.good with hh | ⟨d, t, hh, g, -, dh, hin, htx⟩ <;> simp only [fstep, hh]
    · exact h
    · have hin' := hin f.p2 h.tpIn (htx h.fam).1
      exact ⟨h.fam, h.rate, h.tp, h.cond, dh.trans h.hi, hin', fun hf => (by rw [(htx h.fam).2 hin'] at hf; cases hf), g⟩
  | setP name v =>
    simp only [fstep]
    have hv : 0 < v := hreg
    have htp := (dom_isCorrect_iff f.dd.dom f.p2).1 h.tpIn
    rcases setP_cases orc f name v with hh | ⟨slot, hslot, hacc, hh⟩
    · rw [hh]; exact h
    · rw [hh]
      rcases texp_slot f name slot h.fam hslot with rfl | rfl
      · rw [show fire orc f 1 v = _ by unfold fire; rw [h.fam]]
        exact texp_fire orc f h v f.p2 hv h.tp htp.1
      · rw [show fire orc f 2 v = _ by unfold fire; rw [h.fam]]
        refine texp_fire orc f h f.p1 v h.rate hv ?_
        -- the accepted value is the old one or lies in the constraint of `tp`: the domain when tied, `[0, ∞[` otherwise
        rcases hacc with he | hr
        · rw [← (by simpa [paramValue, h.fam] using he : f.p2 = v)]; exact htp.1
        · simp only [rejects, paramConstraint, h.fam] at hr
          by_cases ht : f.tpTied = true
          · simp only [ht, if_true, Bool.not_eq_false'] at hr
            exact ((dom_isCorrect_iff f.dd.dom v).1 hr).1
          · rw [h.lo0 (by simpa using ht)]
            cases f.dd.dom.inclLo <;> simp [hv, hv.le]

theorem texp_construct (orc : Parent ℝ) (n : Nat) (lam tp : ℝ) (f : FamSt ℝ) (hn : 1 ≤ n) (hl : 0 < lam) (ht : 0 < tp)
    (h : construct orc .texp n lam tp 0 false 1 = .ok f) : TexpInv orc f := by
  unfold construct at h
  simp only at h
  split at h
  · cases h
  · have hdom : (freshDD n (Constants.TINY : ℝ) 1 (((Dom.full).setLowerBound Scalar.zero true).setUpperBound tp false)).dom
        = ⟨0, tp, false, true, Constants.TINY⟩ := by
      simp [freshDD, Dom.setLowerBound, Dom.setUpperBound, Dom.full]
    obtain ⟨hg, d, hd, rfl⟩ := discretize_famgood orc _ f h ⟨hn, TINY_pos.le, by rw [hdom]; exact ht.le⟩ rfl
      (fun lo hi _ h2 h3 => truncated_exponential_parentOK lam tp lo hi hl ht h2 (by rw [hdom] at h3; exact h3))
    have hd' : d.dom = ⟨0, tp, false, true, Constants.TINY⟩ := hd.trans hdom
    refine ⟨rfl, hl, ht, rfl, ?_, ?_, fun _ => ?_, hg⟩
    · show d.dom.hi ≤ tp; rw [hd']
    · show d.dom.isCorrect tp = true
      rw [hd', dom_isCorrect_iff]; simp [ht]
    · show d.dom.lo = 0; rw [hd']

end Bpp.Discretize
