import BppModel.Discretize
import BppProofs.Lemmas.ScalarReal
import Mathlib.Tactic.Linarith
import Mathlib.Tactic.Ring
import Mathlib.Tactic.FieldSimp
import Mathlib.Algebra.BigOperators.Group.List.Basic
/-!
C09 at `ℝ`: the tolerance-ordered map (`TMap.Sorted`; `TMap.Fresh`: what a loop of insertions at free keys
leaves), the insertion loops of `insertClass_`, and `store`, the routine both discretisation schemes end with.
-/
namespace Bpp.Discretize
open Bpp

@[simp] theorem nat_eq (i : Nat) : (nat i : ℝ) = (i : ℝ) := by simp [nat]
@[simp] theorem half_eq : (half : ℝ) = 1 / 2 := by simp [half]
@[simp] theorem two_eq : (two : ℝ) = 2 := by simp [two]
theorem eqb_false_iff (x y : ℝ) : Scalar.eqb x y = false ↔ x ≠ y := by simp [Scalar.eqb]

@[simp] theorem sumL_eq (l : List ℝ) : sumL l = l.sum := by
  rw [sumL, ScalarReal.zero_eq, List.sum_eq_foldl]

theorem nondecr_iff (l : List ℝ) : nondecr l = true ↔ l.IsChain (· ≤ ·) := by
  induction l with
  | nil => simp [nondecr]
  | cons a t ih =>
    cases t with
    | nil => simp [nondecr]
    | cons b t' => simp only [nondecr, Bool.and_eq_true, ScalarReal.leb_iff, ih, List.isChain_cons_cons]

theorem strictIncr_iff (l : List ℝ) : strictIncr l = true ↔ l.IsChain (· < ·) := by
  induction l with
  | nil => simp [strictIncr]
  | cons a t ih =>
    cases t with
    | nil => simp [strictIncr]
    | cons b t' => simp only [strictIncr, Bool.and_eq_true, ScalarReal.ltb_iff, ih, List.isChain_cons_cons]

theorem nClassesOk_iff (s : DD ℝ) : nClassesOk s = true ↔ s.dist.length = s.n ∧ s.bounds.length + 1 = s.n := by
  simp only [nClassesOk, Bool.and_eq_true, beq_iff_eq]

theorem boundsMonoInDom_iff (s : DD ℝ) : boundsMonoInDom s = true ↔ (s.dom.lo :: s.bounds ++ [s.dom.hi]).IsChain (· ≤ ·) :=
  nondecr_iff _

theorem hasEqualNeighbours_of_strict (l : List ℝ) (h : l.IsChain (· < ·)) : hasEqualNeighbours l = false := by
  induction l with
  | nil => rfl
  | cons a t ih =>
    cases t with
    | nil => rfl
    | cons b t' =>
      rw [List.isChain_cons_cons] at h
      simp only [hasEqualNeighbours, Bool.or_eq_false_iff, eqb_false_iff]
      exact ⟨h.1.ne', ih h.2⟩

namespace TMap

@[simp] theorem lt_iff (prec a b : ℝ) : lt prec a b = true ↔ a < b - prec := by simp [lt]
@[simp] theorem lt_false_iff (prec a b : ℝ) : lt prec a b = false ↔ b - prec ≤ a := by simp [lt]

/-- iteration order strictly increasing for the comparator (every pair, not only neighbours) -/
def Sorted (prec : ℝ) (m : TMap ℝ) : Prop := m.Pairwise (fun a b => a.1 < b.1 - prec)

theorem find?_none_of_all_lt (prec k : ℝ) (m : TMap ℝ) (h : ∀ e ∈ m, e.1 < k - prec) : find? prec k m = none := by
  induction m with
  | nil => rfl
  | cons e t ih =>
    have he := h e (by simp)
    simp only [find?, lt_iff, he, if_true]
    exact ih (fun x hx => h x (by simp [hx]))

theorem assign_of_all_lt (prec k v : ℝ) (m : TMap ℝ) (h : ∀ e ∈ m, e.1 < k - prec) : assign prec k v m = m ++ [(k, v)] := by
  induction m with
  | nil => rfl
  | cons e t ih =>
    have he := h e (by simp)
    simp only [assign, lt_iff, he, if_true, List.cons_append]
    rw [ih (fun x hx => h x (by simp [hx]))]

theorem assign_not_found (prec k v : ℝ) (m : TMap ℝ) (h : find? prec k m = none) :
    (assign prec k v m).Perm ((k, v) :: m) := by
  induction m with
  | nil => rfl
  | cons e t ih =>
    simp only [find?] at h
    by_cases h1 : lt prec e.1 k = true
    · simp only [h1, if_true] at h
      simp only [assign, h1, if_true]
      exact ((ih h).cons e).trans (List.Perm.swap _ _ _)
    · simp only [h1] at h
      by_cases h2 : lt prec k e.1 = true
      · simp only [assign, h1, h2, if_true, Bool.false_eq_true, if_false]; rfl
      · simp [h2] at h

theorem sorted_assign_not_found (prec k v : ℝ) (hp : 0 ≤ prec) (m : TMap ℝ) (hs : Sorted prec m)
    (h : find? prec k m = none) : Sorted prec (assign prec k v m) := by
  induction m with
  | nil => simp [assign, Sorted]
  | cons e t ih =>
    simp only [find?] at h
    have hst : Sorted prec t := (List.pairwise_cons.1 hs).2
    have het := (List.pairwise_cons.1 hs).1
    by_cases h1 : lt prec e.1 k = true
    · simp only [h1, if_true] at h
      simp only [assign, h1, if_true]
      refine List.pairwise_cons.2 ⟨?_, ih hst h⟩
      intro x hx
      rcases List.mem_cons.1 ((assign_not_found prec k v t h).mem_iff.1 hx) with rfl | hx
      · simpa using h1
      · exact het x hx
    · simp only [h1] at h
      by_cases h2 : lt prec k e.1 = true
      · simp only [assign, h1, h2, if_true, Bool.false_eq_true, if_false]
        refine List.pairwise_cons.2 ⟨?_, hs⟩
        intro x hx
        have h2' : k < e.1 - prec := by simpa using h2
        rcases List.mem_cons.1 hx with rfl | hx
        · exact h2'
        · have := het x hx; show k < x.1 - prec; linarith
      · simp [h2] at h

theorem keys_strict_of_sorted (prec : ℝ) (hp : 0 ≤ prec) (m : TMap ℝ) (hs : Sorted prec m) :
    strictIncr (keys m) = true := by
  rw [strictIncr_iff]
  unfold keys
  apply List.Pairwise.isChain
  rw [List.pairwise_map]
  exact hs.imp (fun {a b} h => by linarith)

/-- `m'` arises from `m` by storing the values `ps` one after the other, each under a key that
`find?` does not find at that moment: what every loop that fills a map does
(`insertClass_`, the constructor and `fireParameterChanged` of the user-specified distribution) -/
inductive Fresh (prec : ℝ) : TMap ℝ → List ℝ → TMap ℝ → Prop
  | nil (m : TMap ℝ) : Fresh prec m [] m
  | cons {m m' : TMap ℝ} {c p : ℝ} {ps : List ℝ} (hc : find? prec c m = none)
      (h : Fresh prec (assign prec c p m) ps m') : Fresh prec m (p :: ps) m'

namespace Fresh
variable {prec : ℝ} {m m' : TMap ℝ} {ps : List ℝ}

theorem vals_perm (h : Fresh prec m ps m') : (vals m').Perm (vals m ++ ps) := by
  induction h with
  | nil m => simp
  | cons hc _ ih =>
    exact ih.trans ((((assign_not_found prec _ _ _ hc).map (·.2)).append_right _).trans List.perm_middle.symm)

theorem length_eq (h : Fresh prec m ps m') : m'.length = m.length + ps.length := by
  simpa [vals] using h.vals_perm.length_eq

theorem sorted (h : Fresh prec m ps m') (hp : 0 ≤ prec) (hs : Sorted prec m) : Sorted prec m' := by
  induction h with
  | nil m => exact hs
  | cons hc _ ih => exact ih (sorted_assign_not_found prec _ _ hp _ hs hc)

end Fresh

end TMap

/-- non-negative probabilities summing to one -/
def Normalised (m : TMap ℝ) : Prop := (∀ e ∈ m, 0 ≤ e.2) ∧ (TMap.vals m).sum = 1

theorem normalised_iff (s : DD ℝ) : Normalised s.dist ↔ (probsNonneg s = true ∧ probsSumOne 0 s = true) := by
  unfold Normalised probsNonneg probsSumOne DD.probs TMap.vals
  simp only [List.all_eq_true, ScalarReal.leb_iff, ScalarReal.zero_eq, List.mem_map, sumL_eq, ScalarReal.abs_eq,
    ScalarReal.one_eq]
  constructor
  · rintro ⟨h1, h2⟩
    exact ⟨by rintro p ⟨e, he, rfl⟩; exact h1 e he, by rw [h2]; simp⟩
  · rintro ⟨h1, h2⟩
    refine ⟨fun e he => h1 e.2 ⟨e, he, rfl⟩, ?_⟩
    have := abs_nonpos_iff.1 h2; linarith

theorem TMap.Fresh.normalised {prec : ℝ} {ps : List ℝ} {m : TMap ℝ} (h : TMap.Fresh prec [] ps m)
    (h0 : ∀ p ∈ ps, 0 ≤ p) (h1 : ps.sum = 1) : Normalised m := by
  have hp : (TMap.vals m).Perm ps := h.vals_perm
  refine ⟨fun e he => h0 _ (hp.mem_iff.1 (List.mem_map_of_mem he)), by rw [hp.sum_eq, h1]⟩

theorem searchFree_spec (prec step hi v : ℝ) (m : TMap ℝ) (fuel : Nat) (j f : Int) (c : ℝ)
    (h : searchFree prec step hi v m fuel j f = some c) : TMap.find? prec c m = none := by
  induction fuel generalizing j f with
  | zero => simp [searchFree] at h
  | succ n ih =>
    simp only [searchFree] at h
    split at h
    · exact ih _ _ h
    · rename_i hnf
      injection h with h; subst h
      exact Option.not_isSome_iff_eq_none.mp hnf

theorem insertDistinct_spec (prec hi p : ℝ) (m m' : TMap ℝ) (v : ℝ) (h : insertDistinct prec hi p m v = some m') :
    ∃ c, TMap.find? prec c m = none ∧ m' = TMap.assign prec c p m := by
  unfold insertDistinct at h
  split at h
  · obtain ⟨c, hs, heq⟩ := Option.map_eq_some_iff.1 h
    exact ⟨c, searchFree_spec _ _ _ _ _ _ _ _ _ hs, heq.symm⟩
  · rename_i hnf
    injection h with h
    exact ⟨v, Option.not_isSome_iff_eq_none.mp hnf, h.symm⟩

theorem insertPairs_fresh (prec hi : ℝ) (vps : List (ℝ × ℝ)) (m m' : TMap ℝ)
    (h : insertPairs prec hi m vps = some m') : TMap.Fresh prec m (vps.map (·.2)) m' := by
  induction vps generalizing m with
  | nil => injection h with h; subst h; exact .nil m
  | cons vp rest ih =>
    obtain ⟨m1, h1, h2⟩ := Option.bind_eq_some_iff.1 h
    obtain ⟨c, hc, rfl⟩ := insertDistinct_spec prec hi vp.2 m m1 vp.1 h1
    exact .cons hc (ih _ h2)

theorem insertAll_eq_insertPairs (prec hi p : ℝ) (vals : List ℝ) (m : TMap ℝ) :
    insertAll prec hi p m vals = insertPairs prec hi m (vals.map (·, p)) := by
  induction vals generalizing m with
  | nil => rfl
  | cons v vs ih => simp only [insertAll, insertPairs, List.map_cons, ih]

/-- pairs whose values are further apart than the precision, and above the keys present, are
stored as they are, in order -/
theorem insertPairs_separated (prec hi : ℝ) (vps : List (ℝ × ℝ)) (m : TMap ℝ) (hs : TMap.Sorted prec (m ++ vps)) :
    insertPairs prec hi m vps = some (m ++ vps) := by
  induction vps generalizing m with
  | nil => simp [insertPairs]
  | cons v vs ih =>
    have hall : ∀ e ∈ m, e.1 < v.1 - prec := fun e he =>
      (List.pairwise_append.1 hs).2.2 e he v (by simp)
    simp only [insertPairs, insertDistinct, TMap.find?_none_of_all_lt prec v.1 m hall, Option.isSome_none,
      Bool.false_eq_true, if_false, Option.bind_some, TMap.assign_of_all_lt prec v.1 v.2 m hall]
    rw [ih (m ++ [v]) (by simpa using hs)]
    simp

/-- what both discretisation schemes end with (`eqProp_eq`, `eqInt_eq`): the classes `vps` (value, probability) go one
by one through `insertClass_` into the empty map, the interior bounds `bs` are stored -/
noncomputable def store (s : DD ℝ) (bs : List ℝ) (vps : List (ℝ × ℝ)) : Except Err (DD ℝ) :=
  match insertPairs s.prec s.dom.hi [] vps with
  | some m => .ok { s with dist := m, bounds := bs }
  | none => .error .fuel

theorem store_ok {s r : DD ℝ} {bs : List ℝ} {vps : List (ℝ × ℝ)} (h : store s bs vps = .ok r) :
    ∃ m, TMap.Fresh s.prec [] (vps.map (·.2)) m ∧ r = { s with dist := m, bounds := bs } := by
  unfold store at h
  split at h
  · exact ⟨_, insertPairs_fresh _ _ _ _ _ ‹_›, (Except.ok.inj h).symm⟩
  · cases h

theorem store_separated (s : DD ℝ) (bs : List ℝ) (vps : List (ℝ × ℝ)) (h : TMap.Sorted s.prec vps) :
    store s bs vps = .ok { s with dist := vps, bounds := bs } := by
  rw [store, insertPairs_separated _ _ _ _ (by simpa using h)]; rfl

/-- `n` classes of non-negative probability with sum one and `n − 1` bounds: the clauses that hold whatever the
class values are -/
theorem store_partition {s r : DD ℝ} {bs : List ℝ} {vps : List (ℝ × ℝ)} (h : store s bs vps = .ok r) (hp : 0 ≤ s.prec)
    (hl : vps.length = s.n) (hb : bs.length + 1 = s.n) (h0 : ∀ p ∈ vps.map (·.2), 0 ≤ p) (h1 : (vps.map (·.2)).sum = 1) :
    nClassesOk r = true ∧ probsNonneg r = true ∧ probsSumOne 0 r = true ∧ valuesStrictMono r = true ∧
      TMap.Sorted r.prec r.dist := by
  obtain ⟨m, hf, rfl⟩ := store_ok h
  have hs := hf.sorted hp (by simp [TMap.Sorted])
  have hnorm := (normalised_iff { s with dist := m, bounds := bs }).1 (hf.normalised h0 h1)
  refine ⟨?_, hnorm.1, hnorm.2, TMap.keys_strict_of_sorted s.prec hp _ hs, hs⟩
  have := hf.length_eq
  simp only [List.length_nil, Nat.zero_add, List.length_map] at this
  simp only [nClassesOk_iff]; omega

end Bpp.Discretize
