import BppModel.TreeCopy
import BppProofs.Lemmas.TreeHistory
import BppProofs.Lemmas.Dag
/-! Helper lemmas for the copies of the tree / DAG containers (`BppModel/TreeCopy.lean`): reading and
writing the slots of a `Heap`; a property of every container of a heap is kept by every heap operation
as soon as it is kept by the operations of one container, by copying and by assigning; the invariants
`TInv` (tree) and `D.Inv` (DAG) are. -/
namespace Bpp.Graph

namespace Heap
variable {α : Type}

theorem get_set_same (h : Heap α) (k : Nat) (a : α) : (h.set k a).get k = some a := by
  unfold get set
  simp only
  rw [List.getElem?_set_self (by simp only [List.length_append, List.length_replicate]; omega)]
  rfl

theorem get_set_other (h : Heap α) (k j : Nat) (a : α) (hj : j ≠ k) : (h.set k a).get j = h.get j := by
  unfold get set
  simp only
  rw [List.getElem?_set_ne (Ne.symm hj)]
  by_cases hl : j < h.slots.length
  · rw [List.getElem?_append_left hl]
  · have hl' : h.slots.length ≤ j := Nat.le_of_not_lt hl
    rw [List.getElem?_append_right hl', List.getElem?_eq_none hl']
    rw [List.getElem?_replicate]
    split <;> rfl

theorem get_single_zero (a : α) : (Heap.single a).get 0 = some a := rfl

theorem get_single_succ (a : α) (k : Nat) : (Heap.single a).get (k + 1) = none := rfl

/-- every container of the heap -/
def All (P : α → Prop) (h : Heap α) : Prop := ∀ k a, h.get k = some a → P a

theorem all_single {P : α → Prop} {a : α} (ha : P a) : (Heap.single a).All P := by
  intro k b hb
  cases k with
  | zero => rw [get_single_zero] at hb; cases hb; exact ha
  | succ k => rw [get_single_succ] at hb; cases hb

theorem all_set {P : α → Prop} {h : Heap α} (hh : h.All P) (k : Nat) {a : α} (ha : P a) : (h.set k a).All P := by
  intro j b hb
  by_cases hj : j = k
  · subst hj; rw [get_set_same] at hb; cases hb; exact ha
  · rw [get_set_other h k j a hj] at hb; exact hh j b hb

end Heap

/-! ### the slot written by a heap operation -/

/-- the only slot a heap operation writes -/
def THOp.target : THOp → Nat
  | .op k _ => k
  | .copy _ k => k
  | .assign _ k => k
  | .graphAssign _ k => k

def DHOp.target : DHOp → Nat
  | .op k _ => k
  | .copy _ k => k
  | .assign _ k => k
  | .graphAssign _ k => k

namespace TH

theorem step_other (h : TH) (op : THOp) (j : Nat) (hj : j ≠ op.target) : (h.step op).get j = h.get j := by
  cases op with
  | op k o =>
    simp only [step]
    split
    · exact Heap.get_set_other h k j _ hj
    · rfl
  | copy i k =>
    simp only [step]
    split
    · split
      · rfl
      · exact Heap.get_set_other h k j _ hj
    · rfl
  | assign i k =>
    simp only [step]
    split
    · exact Heap.get_set_other h k j _ hj
    · rfl
  | graphAssign i k =>
    simp only [step]
    split
    · exact Heap.get_set_other h k j _ hj
    · rfl

theorem copy_get (h : TH) (j k : Nat) (s : T) (hs : h.get j = some s) (hjk : j ≠ k) :
    (h.step (.copy j k)).get k = some s.copy := by
  simp only [step, hs, hjk, if_false]
  exact Heap.get_set_same h k _

/-- what holds of every container and is kept by the operations of a container, by copy construction and by the
two assignments holds of every container after a heap operation -/
theorem all_step (P : T → Prop) (hop : ∀ t o, P t → P (t.step o)) (hcopy : ∀ t, P t → P t.copy)
    (hassign : ∀ d s b, P d → P s → P (d.assign s b)) (hgraph : ∀ d s b, P d → P s → P (d.graphAssign s.g b))
    (h : TH) (hh : h.All P) (op : THOp) : (h.step op).All P := by
  cases op with
  | op k o =>
    simp only [step]
    split
    · rename_i t ht; exact Heap.all_set hh k (hop t o (hh k t ht))
    · exact hh
  | copy i k =>
    simp only [step]
    split
    · rename_i s hs
      split
      · exact hh
      · exact Heap.all_set hh k (hcopy s (hh i s hs))
    · exact hh
  | assign i k =>
    simp only [step]
    split
    · rename_i s d hs hd; exact Heap.all_set hh k (hassign d s _ (hh k d hd) (hh i s hs))
    · exact hh
  | graphAssign i k =>
    simp only [step]
    split
    · rename_i s d hs hd; exact Heap.all_set hh k (hgraph d s _ (hh k d hd) (hh i s hs))
    · exact hh

theorem all_run (P : T → Prop) (hop : ∀ t o, P t → P (t.step o)) (hcopy : ∀ t, P t → P t.copy)
    (hassign : ∀ d s b, P d → P s → P (d.assign s b)) (hgraph : ∀ d s b, P d → P s → P (d.graphAssign s.g b))
    (ops : List THOp) : ∀ h : TH, h.All P → (h.run ops).All P :=
  foldl_ind (Heap.All P) step (fun h op hh => all_step P hop hcopy hassign hgraph h hh op) ops

end TH

namespace DH

theorem step_other (h : DH) (op : DHOp) (j : Nat) (hj : j ≠ op.target) : (h.step op).get j = h.get j := by
  cases op with
  | op k o =>
    simp only [step]
    split
    · exact Heap.get_set_other h k j _ hj
    · rfl
  | copy i k =>
    simp only [step]
    split
    · split
      · rfl
      · exact Heap.get_set_other h k j _ hj
    · rfl
  | assign i k =>
    simp only [step]
    split
    · exact Heap.get_set_other h k j _ hj
    · rfl
  | graphAssign i k =>
    simp only [step]
    split
    · exact Heap.get_set_other h k j _ hj
    · rfl

theorem copy_get (h : DH) (j k : Nat) (s : D) (hs : h.get j = some s) (hjk : j ≠ k) :
    (h.step (.copy j k)).get k = some s.copy := by
  simp only [step, hs, hjk, if_false]
  exact Heap.get_set_same h k _

theorem all_step (P : D → Prop) (hop : ∀ t o, P t → P (t.step o)) (hcopy : ∀ t, P t → P t.copy)
    (hassign : ∀ d s b, P d → P s → P (d.assign s b)) (hgraph : ∀ d s b, P d → P s → P (d.graphAssign s.g b))
    (h : DH) (hh : h.All P) (op : DHOp) : (h.step op).All P := by
  cases op with
  | op k o =>
    simp only [step]
    split
    · rename_i t ht; exact Heap.all_set hh k (hop t o (hh k t ht))
    · exact hh
  | copy i k =>
    simp only [step]
    split
    · rename_i s hs
      split
      · exact hh
      · exact Heap.all_set hh k (hcopy s (hh i s hs))
    · exact hh
  | assign i k =>
    simp only [step]
    split
    · rename_i s d hs hd; exact Heap.all_set hh k (hassign d s _ (hh k d hd) (hh i s hs))
    · exact hh
  | graphAssign i k =>
    simp only [step]
    split
    · rename_i s d hs hd; exact Heap.all_set hh k (hgraph d s _ (hh k d hd) (hh i s hs))
    · exact hh

theorem all_run (P : D → Prop) (hop : ∀ t o, P t → P (t.step o)) (hcopy : ∀ t, P t → P t.copy)
    (hassign : ∀ d s b, P d → P s → P (d.assign s b)) (hgraph : ∀ d s b, P d → P s → P (d.graphAssign s.g b))
    (ops : List DHOp) : ∀ h : DH, h.All P → (h.run ops).All P :=
  foldl_ind (Heap.All P) step (fun h op hh => all_step P hop hcopy hassign hgraph h hh op) ops

end DH

/-! ### the invariants are kept by copying and assigning -/

namespace T

theorem tinv_quiet {g : G} (hc : Consistent g) : TInv { g := { g with pending := [] }, valid := false } :=
  ⟨consistent_setPending hc _, rfl⟩

theorem tinv_copy (t : T) (h : TInv t) : TInv t.copy := ⟨consistent_setPending h.1 _, rfl⟩

theorem tinv_assign (d s : T) (b : Bool) (hd : TInv d) (hs : TInv s) : TInv (d.assign s b) := by
  unfold assign
  split
  · exact hd
  · exact ⟨consistent_setPending hs.1 _, rfl⟩

theorem tinv_graphAssign (d : T) (g : G) (b : Bool) (hd : TInv d) (hc : Consistent g) : TInv (d.graphAssign g b) := by
  unfold graphAssign
  split
  · exact hd
  · exact ⟨consistent_setPending hc _, rfl⟩

end T

namespace D

theorem inv_copy (d : D) (h : Inv d) : Inv d.copy := inv_setPending h []

theorem inv_assign (d s : D) (b : Bool) (hd : Inv d) (hs : Inv s) : Inv (d.assign s b) := by
  unfold assign
  split
  · exact hd
  · exact inv_copy s hs

theorem inv_graphAssign (d : D) (g : G) (b : Bool) (hd : Inv d) (hg : GInv g) : Inv (d.graphAssign g b) := by
  unfold graphAssign
  split
  · exact hd
  · exact ⟨⟨consistent_setPending hg.1 _, hg.2⟩, cacheSound_off _⟩

end D

end Bpp.Graph
