import BppModel.NumDeriv
import BppProofs.Lemmas.ScalarReal
import Mathlib.Tactic.Linarith
/-!
C12 helper lemmas: the model of `BppModel/NumDeriv.lean` read at `ℝ`, up to one retry loop.
Parameter lists with unique names and precision 0, where the setters of the wrapped function do what
they are asked (`upd1`, `updL`; `setValueOf_spec`, `matchLoop_spec`, `setParameters_ok`).  The wrapped
function during one `updateDerivatives`: `Dev B l S` says its list `l` is the base point `B` up to the
values of the names in `S`, `Ctx` fixes `B` and the caller's list, and `setParameters_dev` says what one
`function_->setParameters` makes of `Dev`.  On top of it the invariant `RI` of the probes of one
variable and what a retry loop leaves (`retry_outcome`).
-/
namespace Bpp.NumDeriv
open Bpp Bpp.Scalar

section Lists
variable {α : Type}

def names (l : PList α) : List Name := l.map (·.name)

/-- same name, precision and constraint -/
def SameSkel (p q : Param α) : Prop := p.name = q.name ∧ p.prec = q.prec ∧ p.con = q.con

theorem SameSkel.rfl' (p : Param α) : SameSkel p p := ⟨rfl, rfl, rfl⟩

theorem has_iff (l : PList α) (n : Name) : has l n = true ↔ n ∈ names l := by
  simp [has, names, List.any_eq_true]

theorem find?_some {l : PList α} {n : Name} {p : Param α} (h : find? l n = some p) : p ∈ l ∧ p.name = n := by
  unfold find? at h
  have h1 := List.find?_some h
  have h2 := List.mem_of_find?_eq_some h
  simp at h1
  exact ⟨h2, h1⟩

theorem find?_none {l : PList α} {n : Name} (h : find? l n = none) : n ∉ names l := by
  unfold find? at h
  rw [List.find?_eq_none] at h
  intro hm
  simp [names] at hm
  obtain ⟨p, hp, hn⟩ := hm
  have := h p hp
  simp [hn] at this

theorem find?_isSome_iff (l : PList α) (n : Name) : (find? l n).isSome = true ↔ n ∈ names l := by
  constructor
  · intro h
    obtain ⟨p, hp⟩ := Option.isSome_iff_exists.mp h
    have := find?_some hp
    simp [names]; exact ⟨p, this.1, this.2⟩
  · intro h
    cases hf : find? l n with
    | none => exact absurd h (find?_none hf)
    | some p => rfl

/-- in a list without duplicate names, `find?` returns the element itself -/
theorem find?_of_mem {l : PList α} (hnd : (names l).Nodup) {p : Param α} (hp : p ∈ l) : find? l p.name = some p := by
  induction l with
  | nil => cases hp
  | cons a r ih =>
    simp only [names, List.map_cons, List.nodup_cons] at hnd
    unfold find?
    rw [List.find?_cons]
    rcases List.mem_cons.mp hp with rfl | hpr
    · simp
    · have : a.name ≠ p.name := by
        intro e; apply hnd.1; rw [e]; exact List.mem_map_of_mem hpr
      have hb : (a.name == p.name) = false := by simpa using this
      rw [hb]
      exact ih hnd.2 hpr

end Lists


section RealLists
open ScalarReal

/-- every parameter has precision 0 -/
def Z (l : PList ℝ) : Prop := ∀ p ∈ l, p.prec = 0

theorem setValue_ok (p : Param ℝ) (v : ℝ) (hp : p.prec = 0) (hv : p.violates v = false) :
    p.setValue v = .ok { p with value := v } := by
  unfold Param.setValue
  by_cases h : v = p.value
  · have : ¬ (Scalar.gtb (Scalar.abs (v - p.value)) (p.prec / Scalar.ofInt 2) = true) := by
      rw [gtb_iff, hp, h]; simp
    rw [if_neg this, h]
  · have : Scalar.gtb (Scalar.abs (v - p.value)) (p.prec / Scalar.ofInt 2) = true := by
      rw [gtb_iff, hp]; simp; exact sub_ne_zero.mpr h
    rw [if_pos this, hv]; rfl

theorem setValue_cases (p p' : Param ℝ) (v : ℝ) (h : p.setValue v = .ok p') :
    SameSkel p' p ∧ (p' = p ∨ (p'.value = v ∧ p.violates v = false)) := by
  unfold Param.setValue at h
  split at h
  · split at h
    · cases h
    · rename_i hv
      injection h with h; subst h
      exact ⟨⟨rfl, rfl, rfl⟩, Or.inr ⟨rfl, by simpa using hv⟩⟩
  · injection h with h; subst h
    exact ⟨SameSkel.rfl' _, Or.inl rfl⟩

theorem setValue_error (p : Param ℝ) (v : ℝ) (e : Exc) (h : p.setValue v = .error e) :
    e = .constraint ∧ p.violates v = true := by
  unfold Param.setValue at h
  split at h
  · split at h
    · rename_i hv; injection h with h; exact ⟨h.symm, hv⟩
    · cases h
  · cases h

/-- set the value of the parameter(s) named `n` -/
def upd1 (l : PList ℝ) (n : Name) (v : ℝ) : PList ℝ :=
  l.map (fun p => if p.name = n then { p with value := v } else p)

/-- take over the values of `pl` (first occurrence of each name) -/
def updL (pl l : PList ℝ) : PList ℝ :=
  l.map (fun p => match find? pl p.name with
    | some q => { p with value := q.value }
    | none => p)

theorem names_upd1 (l : PList ℝ) (n : Name) (v : ℝ) : names (upd1 l n v) = names l := by
  simp only [names, upd1, List.map_map]
  apply List.map_congr_left
  intro p _; simp only [Function.comp]; split <;> rfl

theorem names_updL (pl l : PList ℝ) : names (updL pl l) = names l := by
  simp only [names, updL, List.map_map]
  apply List.map_congr_left
  intro p _; simp only [Function.comp]; split <;> rfl

theorem Z_upd1 {l : PList ℝ} (h : Z l) (n : Name) (v : ℝ) : Z (upd1 l n v) := by
  intro p hp
  simp only [upd1, List.mem_map] at hp
  obtain ⟨q, hq, rfl⟩ := hp
  split <;> simp [h q hq]

theorem Z_updL {l : PList ℝ} (h : Z l) (pl : PList ℝ) : Z (updL pl l) := by
  intro p hp
  simp only [updL, List.mem_map] at hp
  obtain ⟨q, hq, rfl⟩ := hp
  split <;> simp [h q hq]

/-- `find?` through a map that keeps names -/
theorem find?_map (l : PList ℝ) (g : Param ℝ → Param ℝ) (hg : ∀ p, (g p).name = p.name) (n : Name) :
    find? (l.map g) n = (find? l n).map g := by
  induction l with
  | nil => rfl
  | cons a r ih =>
    unfold find? at ih ⊢
    rw [List.map_cons, List.find?_cons, List.find?_cons, hg a]
    split
    · rfl
    · exact ih

theorem upd1_same (l : PList ℝ) (n : Name) (v : ℝ) (h : ∀ p ∈ l, p.name = n → p.value = v) : upd1 l n v = l := by
  unfold upd1
  conv_rhs => rw [← List.map_id l]
  apply List.map_congr_left
  intro p hp
  by_cases e : p.name = n
  · simp only [e, if_true, id]
    have := h p hp e
    cases p; simp_all
  · simp [e]

theorem setValueOf_spec (l : PList ℝ) (hnd : (names l).Nodup) (n : Name) (v : ℝ) (p : Param ℝ)
    (hf : find? l n = some p) (hp : p.prec = 0) (hv : p.violates v = false) :
    setValueOf l n v = .ok (upd1 l n v) := by
  induction l with
  | nil => simp [find?] at hf
  | cons a r ih =>
    simp only [names, List.map_cons, List.nodup_cons] at hnd
    unfold setValueOf
    unfold find? at hf
    rw [List.find?_cons] at hf
    by_cases ha : a.name = n
    · have hb : (a.name == n) = true := by simpa using ha
      rw [hb] at hf
      injection hf with hf; subst hf
      simp only [hb, if_true]
      rw [setValue_ok a v hp hv]
      simp only [upd1, List.map_cons, ha, if_true]
      congr 2
      -- the tail has no parameter named n
      exact (upd1_same r n v (fun q hq e => absurd (ha.trans e.symm ▸ List.mem_map_of_mem hq) hnd.1)).symm
    · have hb : (a.name == n) = false := by simpa using ha
      rw [hb] at hf
      simp only [hb]
      have := ih hnd.2 hf
      simp only [Bool.false_eq_true, if_false, this, upd1, List.map_cons, ha]

theorem anyViolation_map (own pl : PList ℝ) (g : Param ℝ → Param ℝ)
    (hg : ∀ p, (g p).name = p.name ∧ (g p).con = p.con) :
    anyViolation (own.map g) pl = anyViolation own pl := by
  unfold anyViolation
  congr 1
  funext q
  rw [find?_map own g (fun p => (hg p).1)]
  cases find? own q.name with
  | none => rfl
  | some p => simp [Param.violates, (hg p).2]

theorem upd1_hg (n : Name) (v : ℝ) (p : Param ℝ) :
    ((fun p : Param ℝ => if p.name = n then { p with value := v } else p) p).name = p.name ∧
    ((fun p : Param ℝ => if p.name = n then { p with value := v } else p) p).con = p.con := by
  simp only; split <;> simp

theorem updL_cons_not_mem (q : Param ℝ) (qs l : PList ℝ) (h : q.name ∉ names l) :
    updL (q :: qs) l = updL qs l := by
  unfold updL
  apply List.map_congr_left
  intro p hp
  have : q.name ≠ p.name := by
    intro e; apply h; rw [e]; exact List.mem_map_of_mem hp
  have hb : (q.name == p.name) = false := by simpa using this
  simp only [find?, List.find?_cons, hb]

theorem updL_cons_mem (q : Param ℝ) (qs l : PList ℝ) (h : q.name ∉ names qs) :
    updL (q :: qs) l = updL qs (upd1 l q.name q.value) := by
  unfold updL upd1
  rw [List.map_map]
  apply List.map_congr_left
  intro p _
  simp only [Function.comp]
  by_cases e : p.name = q.name
  · have hb : (q.name == p.name) = true := by simpa using e.symm
    have hn : find? qs q.name = none := by
      cases hf : find? qs q.name with
      | none => rfl
      | some x => exact absurd ((find?_isSome_iff qs q.name).mp (by rw [hf]; rfl)) h
    simp only [find?, List.find?_cons, e, if_true]
    have hn' : List.find? (fun p => p.name == q.name) qs = none := hn
    rw [hn']
    simp
  · have hb : (q.name == p.name) = false := by
      have : q.name ≠ p.name := fun x => e x.symm
      simpa using this
    simp only [find?, List.find?_cons, hb, e, if_false]

theorem updL_nil (l : PList ℝ) : updL [] l = l := by
  unfold updL
  conv_rhs => rw [← List.map_id l]
  apply List.map_congr_left
  intro p _; simp [find?]


theorem neb_true_iff (x y : ℝ) : neb x y = true ↔ x ≠ y := by
  simp [neb, Scalar.eqb]
theorem neb_false_iff (x y : ℝ) : neb x y = false ↔ x = y := by
  simp [neb, Scalar.eqb]

theorem eqb_zero_false {h : ℝ} (hh : h ≠ 0) : eqb h zero = false := by
  simpa [Scalar.eqb] using hh

theorem anyViolation_cons (own : PList ℝ) (q : Param ℝ) (qs : PList ℝ) :
    anyViolation own (q :: qs) = ((match find? own q.name with
      | some p => p.violates q.value
      | none => false) || anyViolation own qs) := by
  unfold anyViolation; rw [List.any_cons]
  cases find? own q.name <;> rfl

/-- second loop of `matchParametersValues` when the first loop found no violation -/
theorem matchLoop_spec (pl : PList ℝ) : ∀ (own : PList ℝ) (ch0 : Bool), (names own).Nodup → Z own →
    (names pl).Nodup → anyViolation own pl = false →
    ∃ ch, matchLoop own pl ch0 = .ok (updL pl own, ch) ∧
      (ch = false → ch0 = false ∧ updL pl own = own) ∧ (ch0 = true → ch = true) := by
  induction pl with
  | nil =>
    intro own ch0 _ _ _ _
    refine ⟨ch0, ?_, ?_, ?_⟩
    · simp [matchLoop, updL_nil]
    · intro h; exact ⟨h, updL_nil own⟩
    · exact id
  | cons q qs ih =>
    intro own ch0 hnd hz hpl hv
    rw [anyViolation_cons, Bool.or_eq_false_iff] at hv
    have hqs : (names qs).Nodup := by
      simp only [names, List.map_cons, List.nodup_cons] at hpl; exact hpl.2
    have hqn : q.name ∉ names qs := by
      simp only [names, List.map_cons, List.nodup_cons] at hpl; exact hpl.1
    unfold matchLoop
    cases hf : find? own q.name with
    | none =>
      simp only []
      rw [updL_cons_not_mem q qs own (find?_none hf)]
      exact ih own ch0 hnd hz hqs hv.2
    | some p =>
      simp only []
      have hpm := find?_some hf
      have hviol : p.violates q.value = false := by
        have := hv.1; rw [hf] at this; exact this
      by_cases hne : neb p.value q.value = true
      · rw [if_pos hne, setValueOf_spec own hnd q.name q.value p hf (hz p hpm.1) hviol]
        simp only []
        rw [updL_cons_mem q qs own hqn]
        have hv' : anyViolation (upd1 own q.name q.value) qs = false := by
          unfold upd1; rw [anyViolation_map own qs _ (upd1_hg q.name q.value)]; exact hv.2
        obtain ⟨ch, h1, _, h3⟩ := ih (upd1 own q.name q.value) true
          (by rw [names_upd1]; exact hnd) (Z_upd1 hz _ _) hqs hv'
        refine ⟨ch, h1, ?_, fun _ => h3 rfl⟩
        intro hch; rw [h3 rfl] at hch; cases hch
      · have heq : p.value = q.value := by
          rw [Bool.not_eq_true] at hne; exact (neb_false_iff _ _).mp hne
        rw [if_neg hne, updL_cons_mem q qs own hqn]
        have hsame : upd1 own q.name q.value = own := by
          apply upd1_same
          intro p' hp' hn'
          have h1 := find?_of_mem hnd hp'
          rw [hn', hf] at h1
          injection h1 with h1; rw [← h1]; exact heq
        rw [hsame]
        exact ih own ch0 hnd hz hqs hv.2


/-- the wrapped function with its parameter list replaced -/
def Fn.withParams (fn : Fn ℝ) (l : PList ℝ) : Fn ℝ := { fn with params := l }

/-- the cached value is the value at the current point -/
def Fn.OK (f : List ℝ → ℝ) (fn : Fn ℝ) : Prop := fn.fval = f (values fn.params)

/-- well-formed own list: no duplicate name, no precision -/
def Own (fn : Fn ℝ) : Prop := (names fn.params).Nodup ∧ Z fn.params

theorem setParameters_viol (f : List ℝ → ℝ) (fn : Fn ℝ) (pl : PList ℝ) (h : anyViolation fn.params pl = true) :
    fn.setParameters f pl = (fn, some .constraint) := by
  simp [Fn.setParameters, Fn.matchPV, h]

/-- without violation the values of `pl` are taken over, and `f` is evaluated unless nothing changed:
either way the cached value is right afterwards -/
theorem setParameters_ok (f : List ℝ → ℝ) (fn : Fn ℝ) (pl : PList ℝ) (ho : Own fn) (hpl : (names pl).Nodup)
    (h : anyViolation fn.params pl = false) :
    ∃ fn', fn.setParameters f pl = (fn', none) ∧ fn'.params = updL pl fn.params ∧ (fn.OK f → fn'.OK f) := by
  obtain ⟨ch, h1, h2, _⟩ := matchLoop_spec pl fn.params false ho.1 ho.2 hpl h
  simp only [Fn.setParameters, Fn.matchPV, h, h1, Bool.false_eq_true, if_false]
  cases ch with
  | true => exact ⟨_, rfl, rfl, fun _ => rfl⟩
  | false =>
    refine ⟨_, rfl, rfl, fun hok => ?_⟩
    show fn.fval = f (values (updL pl fn.params))
    rw [(h2 rfl).2]; exact hok


/-- `setParameters` never touches the kind of the wrapped function or its switches -/
theorem setParameters_flags (f : List ℝ → ℝ) (fn : Fn ℝ) (pl : PList ℝ) :
    (fn.setParameters f pl).1.kind = fn.kind ∧ (fn.setParameters f pl).1.en1 = fn.en1 ∧
    (fn.setParameters f pl).1.en2 = fn.en2 := by
  simp only [Fn.setParameters, Fn.matchPV]
  split
  · exact ⟨rfl, rfl, rfl⟩
  · split
    · exact ⟨rfl, rfl, rfl⟩
    · split <;> exact ⟨rfl, rfl, rfl⟩


def Skel (l ref : PList ℝ) : Prop := List.Forall₂ SameSkel l ref

theorem Skel.refl (l : PList ℝ) : Skel l l := by
  unfold Skel
  induction l with
  | nil => exact List.Forall₂.nil
  | cons a r ih => exact List.Forall₂.cons (SameSkel.rfl' a) ih

theorem Skel.trans {a b c : PList ℝ} (h1 : Skel a b) (h2 : Skel b c) : Skel a c := by
  unfold Skel at *
  induction h1 generalizing c with
  | nil => cases h2; exact List.Forall₂.nil
  | @cons x y l1 l2 hxy _ ih =>
    cases h2 with
    | @cons _ z _ l3 hyz h2' =>
      exact List.Forall₂.cons ⟨hxy.1.trans hyz.1, hxy.2.1.trans hyz.2.1, hxy.2.2.trans hyz.2.2⟩ (ih h2')

theorem violates_skel {p b : Param ℝ} (h : SameSkel p b) (x : ℝ) : p.violates x = b.violates x := by
  unfold Param.violates; rw [h.2.2]

theorem Skel.names {l ref : PList ℝ} (h : Skel l ref) : names l = names ref := by
  unfold Skel at h
  induction h with
  | nil => rfl
  | @cons a b l' B' hab _ ih =>
    show (a :: l').map (·.name) = (b :: B').map (·.name)
    rw [List.map_cons, List.map_cons, hab.1]
    exact congrArg _ ih

theorem Skel.Z {l ref : PList ℝ} (h : Skel l ref) (hz : Z ref) : Z l := by
  unfold Skel at h
  induction h with
  | nil => intro p hp; cases hp
  | @cons a b l' B' hab _ ih =>
    intro p hp
    rcases List.mem_cons.mp hp with rfl | hp'
    · rw [hab.2.1]; exact hz b (List.mem_cons_self ..)
    · exact ih (fun q hq => hz q (List.mem_cons_of_mem _ hq)) p hp'

/-- `l` is the list `B` up to the values of the parameters whose name is in `S` -/
def Dev (B l : PList ℝ) (S : Name → Prop) : Prop :=
  List.Forall₂ (fun p b => SameSkel p b ∧ (¬ S b.name → p.value = b.value)) l B

theorem Dev.refl (B : PList ℝ) (S : Name → Prop) : Dev B B S := by
  unfold Dev
  induction B with
  | nil => exact List.Forall₂.nil
  | cons a r ih => exact List.Forall₂.cons ⟨SameSkel.rfl' a, fun _ => rfl⟩ ih

theorem Dev.mono {B l : PList ℝ} {S S' : Name → Prop} (h : Dev B l S) (hs : ∀ n, S n → S' n) : Dev B l S' := by
  unfold Dev at *
  exact h.imp (fun p b hb => ⟨hb.1, fun hn => hb.2 (fun hS => hn (hs _ hS))⟩)

theorem SameSkel.with_value {p b : Param ℝ} (h : SameSkel p b) (v : ℝ) :
    ({ p with value := v } : Param ℝ) = { b with value := v } := by
  cases p; cases b; simp_all [SameSkel]

theorem SameSkel.eq_of_value {p b : Param ℝ} (h : SameSkel p b) (hv : p.value = b.value) : p = b := by
  cases p; cases b; simp_all [SameSkel]

/-- two maps agree on lists related by `Dev` when they agree on related elements -/
theorem Dev.map_eq {B l : PList ℝ} {S : Name → Prop} (h : Dev B l S) (F G : Param ℝ → Param ℝ)
    (hFG : ∀ p, ∀ b ∈ B, SameSkel p b → (¬ S b.name → p.value = b.value) → F p = G b) : l.map F = B.map G := by
  unfold Dev at h
  induction h with
  | nil => rfl
  | @cons p b l' B' hpb _ ih =>
    rw [List.map_cons, List.map_cons, hFG p b (List.mem_cons_self ..) hpb.1 hpb.2,
      ih (fun p b hb => hFG p b (List.mem_cons_of_mem _ hb))]

theorem Dev.eq {B l : PList ℝ} (h : Dev B l (fun _ => False)) : l = B := by
  unfold Dev at h
  induction h with
  | nil => rfl
  | @cons a b l' B' hab _ ih =>
    obtain ⟨⟨h1, h2, h3⟩, h4⟩ := hab
    have h5 := h4 (fun x => x)
    rw [ih]
    cases a; cases b; simp only [Param.mk.injEq, List.cons.injEq, and_true] at *
    exact ⟨h1, h5, h2, h3⟩

theorem Dev.skel {B l : PList ℝ} {S : Name → Prop} (h : Dev B l S) : Skel l B := by
  unfold Dev at h; unfold Skel
  exact h.imp (fun _ _ hab => hab.1)

theorem Dev.names {B l : PList ℝ} {S : Name → Prop} (h : Dev B l S) : names l = names B := h.skel.names

theorem Dev.Z {B l : PList ℝ} {S : Name → Prop} (h : Dev B l S) (hz : Z B) : Z l := h.skel.Z hz

theorem forall₂_map_left {R R' : Param ℝ → Param ℝ → Prop} (g : Param ℝ → Param ℝ) {l B : PList ℝ}
    (h : List.Forall₂ R l B) (hg : ∀ p b, b ∈ B → R p b → R' (g p) b) : List.Forall₂ R' (l.map g) B := by
  induction h with
  | nil => exact List.Forall₂.nil
  | @cons a b l' B' hab _ ih =>
    exact List.Forall₂.cons (hg a b (List.mem_cons_self ..) hab)
      (ih (fun p b' hb' => hg p b' (List.mem_cons_of_mem _ hb')))

/-- taking over the values of `pl`: a name stays (or becomes) clean when `pl` carries the base
value for it, or does not mention it and it was clean -/
theorem dev_updL {B l : PList ℝ} {S S' : Name → Prop} (pl : PList ℝ) (h : Dev B l S)
    (hS : ∀ b ∈ B, ¬ S' b.name → match find? pl b.name with
      | some q => q.value = b.value
      | none => ¬ S b.name) : Dev B (updL pl l) S' := by
  unfold Dev updL at *
  apply forall₂_map_left _ h
  intro p b hb hpb
  obtain ⟨⟨h1, h2, h3⟩, h4⟩ := hpb
  rw [h1]
  cases hf : find? pl b.name with
  | none =>
    refine ⟨⟨h1, h2, h3⟩, fun hn => ?_⟩
    have := hS b hb hn; rw [hf] at this
    exact h4 this
  | some q =>
    refine ⟨⟨rfl, h2, h3⟩, fun hn => ?_⟩
    have := hS b hb hn; rw [hf] at this
    exact this

/-- the values the caller passes are those of the base point -/
def Synced (params B : PList ℝ) : Prop := ∀ q ∈ params, ∀ b ∈ B, b.name = q.name → b.value = q.value


/-- what is fixed during one `updateDerivatives`: the base point `B` (the wrapped function's list
when the loops start; no duplicate name, no precision) and the list `params` the caller passed,
whose values are those of `B` -/
structure Ctx (params B : PList ℝ) : Prop where
  bnd : (names B).Nodup
  bz : Z B
  sync : Synced params B

theorem Ctx.own {params B : PList ℝ} (hc : Ctx params B) {fn : Fn ℝ} {S : Name → Prop}
    (hD : Dev B fn.params S) : Own fn :=
  ⟨by rw [hD.names]; exact hc.bnd, hD.Z hc.bz⟩

/-- a parameter of the caller's list carries the base value of its name -/
theorem Ctx.value_eq {params B : PList ℝ} (hc : Ctx params B) {v : Name} {q b : Param ℝ} (hq : find? params v = some q)
    (hb : find? B v = some b) : q.value = b.value :=
  (hc.sync q (find?_some hq).1 b (find?_some hb).1 (by rw [(find?_some hb).2, (find?_some hq).2])).symm

@[simp] theorem fire_params (f : List ℝ → ℝ) (fn : Fn ℝ) : (fn.fire f).params = fn.params := rfl
@[simp] theorem fire_kind (f : List ℝ → ℝ) (fn : Fn ℝ) : (fn.fire f).kind = fn.kind := rfl
@[simp] theorem fire_en1 (f : List ℝ → ℝ) (fn : Fn ℝ) : (fn.fire f).en1 = fn.en1 := rfl
@[simp] theorem fire_en2 (f : List ℝ → ℝ) (fn : Fn ℝ) : (fn.fire f).en2 = fn.en2 := rfl
theorem fire_OK (f : List ℝ → ℝ) (fn : Fn ℝ) : (fn.fire f).OK f := rfl
@[simp] theorem withParams_params (fn : Fn ℝ) (l : PList ℝ) : (fn.withParams l).params = l := rfl
@[simp] theorem withParams_kind (fn : Fn ℝ) (l : PList ℝ) : (fn.withParams l).kind = fn.kind := rfl
@[simp] theorem withParams_en1 (fn : Fn ℝ) (l : PList ℝ) : (fn.withParams l).en1 = fn.en1 := rfl
@[simp] theorem withParams_en2 (fn : Fn ℝ) (l : PList ℝ) : (fn.withParams l).en2 = fn.en2 := rfl
theorem withParams_self (fn : Fn ℝ) : fn.withParams fn.params = fn := rfl

/-- one `function_->setParameters(pl)` during an `updateDerivatives`: accepted, it takes the wrapped
function from "at `B` up to `S`" to "at `B` up to `S'`" when `pl` carries base values for the names that
leave; refused, it changes nothing; either way the cached value is right -/
theorem setParameters_dev (f : List ℝ → ℝ) {params B : PList ℝ} (hc : Ctx params B) (fn : Fn ℝ) (pl : PList ℝ)
    (hpl : (names pl).Nodup) {S : Name → Prop} (S' : Name → Prop) (hD : Dev B fn.params S) (hok : fn.OK f)
    (hS : ∀ b ∈ B, ¬ S' b.name → match find? pl b.name with
      | some q => q.value = b.value
      | none => ¬ S b.name) :
    ((fn.setParameters f pl).2 = none → Dev B (fn.setParameters f pl).1.params S') ∧
    ((fn.setParameters f pl).2 ≠ none → (fn.setParameters f pl).1 = fn) ∧ (fn.setParameters f pl).1.OK f := by
  cases hv : anyViolation fn.params pl with
  | true => rw [setParameters_viol f fn pl hv]; simp [hok]
  | false =>
    obtain ⟨fn', h, hp, hok'⟩ := setParameters_ok f fn pl (hc.own hD) hpl hv
    rw [h]
    exact ⟨fun _ => hp ▸ dev_updL pl hD hS, fun h => absurd rfl h, hok' hok⟩


/-- invariant of the retry loops of variable `var`: `p` is `{var}` or `{var, previous variable}`
(the second one with its base value), and the wrapped function is at the base point up to `var`
and the variables still in `p` -/
def RI (f : List ℝ → ℝ) (params B : PList ℝ) (var : Name) (fn : Fn ℝ) (p : PList ℝ) : Prop :=
  fn.OK f ∧ ∃ q0 rest, p = q0 :: rest ∧ q0.name = var ∧ (names p).Nodup ∧ (∀ q ∈ rest, q ∈ params) ∧
    rest.length ≤ 1 ∧ Dev B fn.params (fun n => n = var ∨ n ∈ names rest)

theorem names_cons (q : Param ℝ) (l : PList ℝ) : names (q :: l) = q.name :: names l := rfl

theorem find?_cons_ne (q : Param ℝ) (l : PList ℝ) (n : Name) (h : q.name ≠ n) : find? (q :: l) n = find? l n := by
  have hb : (q.name == n) = false := by simpa using h
  simp only [find?, List.find?_cons, hb]

theorem find?_cons_eq (q : Param ℝ) (l : PList ℝ) (n : Name) (h : q.name = n) : find? (q :: l) n = some q := by
  have hb : (q.name == n) = true := by simpa using h
  simp only [find?, List.find?_cons, hb]

/-- the side condition of `setParameters_dev` for a list `q0 :: rest` whose tail carries base values -/
theorem restore_cond {params B : PList ℝ} (hc : Ctx params B) (var : Name) (q0 : Param ℝ) (rest : PList ℝ)
    (hq0 : q0.name = var) (hrest : ∀ q ∈ rest, q ∈ params) :
    ∀ b ∈ B, ¬ (b.name = var) → match find? (q0 :: rest) b.name with
      | some q => q.value = b.value
      | none => ¬ (b.name = var ∨ b.name ∈ names rest) := by
  intro b hb hn
  rw [find?_cons_ne q0 rest b.name (by rw [hq0]; exact fun e => hn e.symm)]
  cases hf : find? rest b.name with
  | none =>
    rintro (h | h)
    · exact hn h
    · exact find?_none hf h
  | some q =>
    have := find?_some hf
    exact (hc.sync q (hrest q this.1) b hb this.2.symm).symm

theorem RI.cons {f : List ℝ → ℝ} {params B : PList ℝ} {var : Name} {fn : Fn ℝ} {p : PList ℝ}
    (h : RI f params B var fn p) : ∃ q0 rest, p = q0 :: rest := by
  obtain ⟨_, q0, rest, hp, _⟩ := h
  exact ⟨q0, rest, hp⟩

/-- `p[0].setValue(x); function_->setParameters(p)`, the first two statements of every probe, when
`setValue` accepts `x`: the invariant holds with the new head; a wrapped function that refuses the
list is untouched, one that accepts it is at the base point up to `var` -/
theorem probe_RI (f : List ℝ → ℝ) {params B : PList ℝ} (hc : Ctx params B) {var : Name} {fn : Fn ℝ} {q0 q0' : Param ℝ}
    {rest : PList ℝ} {x : ℝ} (h : RI f params B var fn (q0 :: rest)) (hsv : q0.setValue x = .ok q0') :
    q0'.name = var ∧ RI f params B var (fn.setParameters f (q0' :: rest)).1 (q0' :: rest) ∧
    ((fn.setParameters f (q0' :: rest)).2 ≠ none → (fn.setParameters f (q0' :: rest)).1 = fn) ∧
    ((fn.setParameters f (q0' :: rest)).2 = none →
      Dev B (fn.setParameters f (q0' :: rest)).1.params (fun m => m = var)) := by
  obtain ⟨hok, _, _, hp, hq0, hnd, hrest, hlen, hD⟩ := h
  injection hp with e1 e2
  subst e1 e2
  have hn' := (setValue_cases q0 q0' x hsv).1.1
  have hq0' : q0'.name = var := by rw [hn', hq0]
  have hnd' : (names (q0' :: rest)).Nodup := by rw [names_cons, hn']; exact hnd
  obtain ⟨h1, h2, h3⟩ := setParameters_dev f hc fn (q0' :: rest) hnd' (fun n => n = var) hD hok
    (restore_cond hc var q0' rest hq0' hrest)
  refine ⟨hq0', ⟨h3, q0', rest, rfl, hq0', hnd', hrest, hlen, ?_⟩, h2, h1⟩
  cases he : (fn.setParameters f (q0' :: rest)).2 with
  | none => exact (h1 he).mono (fun n hn => Or.inl hn)
  | some e => rw [h2 (by rw [he]; simp)]; exact hD

theorem attempt_RI (f : List ℝ → ℝ) {params B : PList ℝ} (hc : Ctx params B) {var : Name} {fn : Fn ℝ} {p : PList ℝ}
    (h : RI f params B var fn p) (x : ℝ) :
    RI f params B var (attempt f fn p x).fn (attempt f fn p x).p ∧
    ((attempt f fn p x).ok = true → ∃ q, (attempt f fn p x).p = [q]) ∧
    (attempt f fn p x).p.length ≤ p.length := by
  obtain ⟨q0, rest, rfl⟩ := h.cons
  unfold attempt
  simp only []
  cases hsv : q0.setValue x with
  | error e => exact ⟨h, by simp, by simp⟩
  | ok q0' =>
    simp only []
    obtain ⟨hq0', hri, _, hacc⟩ := probe_RI f hc h hsv
    rcases hr : fn.setParameters f (q0' :: rest) with ⟨fn', e⟩
    rw [hr] at hri hacc
    cases e with
    | some e => exact ⟨hri, by simp, by simp⟩
    | none =>
      -- `p = p.createSubList(0)`: the previous parameter, now reset, leaves `p`
      have hri1 : RI f params B var fn' [q0'] :=
        ⟨hri.1, q0', [], rfl, hq0', by simp [names], by simp, by simp, (hacc rfl).mono (fun n hn => Or.inl hn)⟩
      simp only []
      split <;> exact ⟨hri1, by simp, by simp⟩


theorem RI.dev_of_single {f : List ℝ → ℝ} {params B : PList ℝ} {var : Name} {fn : Fn ℝ} {p : PList ℝ}
    (h : RI f params B var fn p) (hl : p.length ≤ 1) : Dev B fn.params (fun m => m = var) := by
  obtain ⟨_, q0, rest, rfl, _, _, _, _, hD⟩ := h
  have : rest = [] := by
    cases rest with
    | nil => rfl
    | cons a r => simp at hl
  subst this
  exact hD.mono (fun n hn => by rcases hn with h | h; exact h; simp [names] at h)

/-- the reset of the give-up handlers, `function_->setParameters(p.createSubList(1))`: unless it
throws, the wrapped function is at the base point up to `var` afterwards -/
theorem reset_prev (f : List ℝ → ℝ) {params B : PList ℝ} (hc : Ctx params B) {var : Name} {fn : Fn ℝ} {p : PList ℝ}
    (hri : RI f params B var fn p) (hlen : p.length > 1) :
    (fn.setParameters f (subIdx p 1)).1.OK f ∧
    ((fn.setParameters f (subIdx p 1)).2 = none → Dev B (fn.setParameters f (subIdx p 1)).1.params (fun m => m = var)) := by
  obtain ⟨hok, q0, rest, rfl, hq0, hnd, hrest, hlen', hD⟩ := hri
  obtain ⟨ql, rfl⟩ : ∃ ql, rest = [ql] := by
    cases rest with
    | nil => simp at hlen
    | cons a r =>
      cases r with
      | nil => exact ⟨a, rfl⟩
      | cons b r' => simp at hlen'
  show (fn.setParameters f [ql]).1.OK f ∧ _
  obtain ⟨h1, _, h3⟩ := setParameters_dev f hc fn [ql] (by simp [names]) (fun m => m = var) hD hok
    (by
      intro b hb hn
      by_cases e : ql.name = b.name
      · rw [find?_cons_eq ql [] b.name e]
        exact (hc.sync ql (hrest ql (by simp)) b hb e.symm).symm
      · rw [find?_cons_ne ql [] b.name e]
        simp only [find?, List.find?_nil]
        rintro (h | h)
        · exact hn h
        · simp [names] at h; exact e h.symm)
  exact ⟨h3, h1⟩

/-- every parameter satisfies its own constraint -/
def Feas (l : PList ℝ) : Prop := ∀ p ∈ l, p.violates p.value = false

/-- `find?` through a skeleton-preserving change -/
theorem find?_skel {l ref : PList ℝ} (h : Skel l ref) (n : Name) :
    (find? l n = none ∧ find? ref n = none) ∨ (∃ p b, find? l n = some p ∧ find? ref n = some b ∧ SameSkel p b) := by
  unfold Skel at h
  induction h with
  | nil => left; exact ⟨rfl, rfl⟩
  | @cons a b l' B' hab _ ih =>
    by_cases e : a.name = n
    · right
      exact ⟨a, b, find?_cons_eq a l' n e, find?_cons_eq b B' n (hab.1 ▸ e), hab⟩
    · rw [find?_cons_ne a l' n e, find?_cons_ne b B' n (hab.1 ▸ e)]
      exact ih

/-- a list whose values are base values is accepted by the wrapped function wherever it is -/
theorem noViolation_of_base {params B : PList ℝ} (hc : Ctx params B) (hfeas : Feas B) {l : PList ℝ} {S : Name → Prop}
    (hD : Dev B l S) (pl : PList ℝ) (hpl : ∀ q ∈ pl, q ∈ params) : anyViolation l pl = false := by
  unfold anyViolation
  rw [List.any_eq_false]
  intro q hq
  rcases find?_skel hD.skel q.name with ⟨h1, _⟩ | ⟨p, b, h1, h2, h3⟩
  · rw [h1]; simp
  · rw [h1]
    simp only [Bool.not_eq_true]
    have hb := find?_some h2
    rw [violates_skel h3, ← hc.sync q (hpl q hq) b hb.1 hb.2]
    exact hfeas b hb.1

theorem setParameters_base_ok (f : List ℝ → ℝ) {params B : PList ℝ} (hc : Ctx params B) (hfeas : Feas B) (fn : Fn ℝ)
    {S : Name → Prop} (hD : Dev B fn.params S) (pl : PList ℝ) (hpl : ∀ q ∈ pl, q ∈ params) (hnd : (names pl).Nodup) :
    (fn.setParameters f pl).2 = none := by
  obtain ⟨fn', h, _⟩ := setParameters_ok f fn pl (hc.own hD) hnd (noViolation_of_base hc hfeas hD pl hpl)
  rw [h]

/-- the reset of the give-up handlers (`reset_prev`) does not throw at a feasible base point -/
theorem reset_noexc (f : List ℝ → ℝ) {params B : PList ℝ} (hc : Ctx params B) (hfeas : Feas B) {var : Name} {fn : Fn ℝ}
    {p : PList ℝ} (hri : RI f params B var fn p) : (fn.setParameters f (subIdx p 1)).2 = none := by
  obtain ⟨_, q0, rest, rfl, _, _, hrest, _, hD⟩ := hri
  have hsub : ∀ q ∈ subIdx (q0 :: rest) 1, q ∈ params := by
    intro q hq
    unfold subIdx at hq
    split at hq
    · rename_i x hx
      simp only [List.mem_singleton] at hq
      subst hq
      rw [List.getElem?_cons_succ] at hx
      exact hrest q (List.mem_of_getElem? hx)
    · cases hq
  exact setParameters_base_ok f hc hfeas _ hD _ hsub (by unfold subIdx; split <;> simp [names])

/-- the step after a refused try (Two:86-89, Three:88-91) -/
noncomputable def nextStep (h : ℝ) : ℝ := if ltb h zero then -h else h / (-(ofInt 2))

theorem nextStep_ne_zero {h : ℝ} (hh : h ≠ 0) : nextStep h ≠ 0 := by
  unfold nextStep
  split
  · exact neg_ne_zero.mpr hh
  · simp only [ScalarReal.ofInt_eq]; exact div_ne_zero hh (by norm_num)

/-- a retry loop, both ways out.  When it does not raise, the wrapped function ends at the base point
up to `var` (with the fix: also when all ten tries failed), and a step that worked leaves `p = {var}`.
It raises only through a step 0 (the `while` would not end) or the reset of the give-up branch, which a
feasible base point excludes.  By the cases of `retry`: a try goes through (with step 0 / not 0); the
last try fails (with / without a previous parameter to reset); a try fails and the loop goes on. -/
theorem retry_outcome (f : List ℝ → ℝ) {params B : PList ℝ} (hc : Ctx params B) {var : Name} (rp : Bool) (value : ℝ)
    (n : Nat) (fn : Fn ℝ) (p : PList ℝ) (h : ℝ) (fv : Option ℝ) (hn : n ≠ 0) (hri : RI f params B var fn p)
    (hrp : rp = true ∨ p.length = 1) :
    ((retry f rp n fn p value h fv).exc = none →
      (retry f rp n fn p value h fv).fn.OK f ∧ Dev B (retry f rp n fn p value h fv).fn.params (fun m => m = var) ∧
      ((retry f rp n fn p value h fv).hf ≠ none → ∃ q, (retry f rp n fn p value h fv).p = [q] ∧ q.name = var)) ∧
    (h ≠ 0 → (retry f rp n fn p value h fv).h ≠ 0 ∧ (Feas B → (retry f rp n fn p value h fv).exc = none)) := by
  fun_induction retry f rp n fn p value h fv with
  | case1 => exact absurd rfl hn
  | case2 n fn p value h fv a fv' haok hz =>
    exact ⟨fun hx => (by cases hx), fun hh => absurd hz (by rw [eqb_zero_false hh]; simp)⟩
  | case3 n fn p value h fv a fv' haok hz =>
    obtain ⟨hri', hok', _⟩ := attempt_RI f hc hri (value + h)
    obtain ⟨q, hq⟩ := hok' haok
    have hq' : q.name = var := by
      obtain ⟨_, q0, rest, hp, hq0, _⟩ := hri'
      rw [hq] at hp; injection hp with hp _; rw [hp]; exact hq0
    exact ⟨fun _ => ⟨hri'.1, hri'.dev_of_single (by rw [hq]; simp), fun _ => ⟨q, hq, hq'⟩⟩, fun hh => ⟨hh, fun _ => rfl⟩⟩
  | case4 fn p value h fv a fv' haok hcond =>
    obtain ⟨hri', _, _⟩ := attempt_RI f hc hri (value + h)
    simp only [Bool.and_eq_true, decide_eq_true_eq] at hcond
    obtain ⟨h1, h2⟩ := reset_prev f hc hri' hcond.2
    exact ⟨fun hexc => ⟨h1, h2 hexc, fun hx => absurd rfl hx⟩, fun hh => ⟨hh, fun hfeas => reset_noexc f hc hfeas hri'⟩⟩
  | case5 fn p value h fv a fv' haok hcond =>
    obtain ⟨hri', _, hlen'⟩ := attempt_RI f hc hri (value + h)
    have hsingle : a.p.length ≤ 1 := by
      simp only [Bool.and_eq_true, decide_eq_true_eq, not_and, not_lt] at hcond
      rcases hrp with hrp | hrp
      · exact hcond hrp
      · show (attempt f fn p (value + h)).p.length ≤ 1; omega
    exact ⟨fun _ => ⟨hri'.1, hri'.dev_of_single hsingle, fun hx => absurd rfl hx⟩, fun hh => ⟨hh, fun _ => rfl⟩⟩
  | case6 n fn p value h fv a fv' haok hn0 h' ih =>
    obtain ⟨hri', _, hlen'⟩ := attempt_RI f hc hri (value + h)
    obtain ⟨i1, i2⟩ := ih hn0 hri' (by
      rcases hrp with hrp | hrp
      · exact Or.inl hrp
      · right
        obtain ⟨_, q0, rest, hp, _⟩ := hri'
        have h1 : 1 ≤ (attempt f fn p (value + h)).p.length := by rw [hp]; simp
        show (attempt f fn p (value + h)).p.length = 1; omega)
    exact ⟨i1, fun hh => i2 (nextStep_ne_zero hh)⟩


theorem subNamesGo_spec (l : PList ℝ) : ∀ (ns : List Name) (acc p : PList ℝ), subNamesGo l acc ns = .ok p →
    names p = names acc ++ ns ∧ (∀ q ∈ p, q ∈ acc ∨ q ∈ l) ∧ ((names acc).Nodup → (names p).Nodup) := by
  intro ns
  induction ns with
  | nil =>
    intro acc p h
    simp only [subNamesGo] at h
    injection h with h; subst h
    exact ⟨by simp, fun q hq => Or.inl hq, id⟩
  | cons n ns ih =>
    intro acc p h
    unfold subNamesGo at h
    cases hf : find? l n with
    | none => rw [hf] at h; cases h
    | some q =>
      rw [hf] at h
      simp only [] at h
      split at h
      · cases h
      · rename_i hhas
        obtain ⟨h1, h2, h3⟩ := ih (acc ++ [q]) p h
        have hq := find?_some hf
        refine ⟨?_, ?_, ?_⟩
        · rw [h1]; simp [names, hq.2]
        · intro x hx
          rcases h2 x hx with hx | hx
          · rcases List.mem_append.mp hx with hx | hx
            · exact Or.inl hx
            · simp at hx; subst hx; exact Or.inr hq.1
          · exact Or.inr hx
        · intro hnd
          apply h3
          have hn : n ∉ names acc := by
            intro hm; apply hhas; exact (has_iff acc n).mpr hm
          simp only [names, List.map_append, List.map_cons, List.map_nil]
          rw [List.nodup_append]
          refine ⟨hnd, by simp, ?_⟩
          intro a ha b hb
          simp at hb; subst hb
          rw [hq.2]
          intro e; subst e; exact hn ha

theorem subNames_spec (l : PList ℝ) (ns : List Name) (p : PList ℝ) (h : subNames l ns = .ok p) :
    names p = ns ∧ (∀ q ∈ p, q ∈ l) ∧ (names p).Nodup := by
  obtain ⟨h1, h2, h3⟩ := subNamesGo_spec l ns [] p h
  refine ⟨by simpa [names] using h1, ?_, h3 (by simp [names])⟩
  intro q hq
  rcases h2 q hq with h | h
  · cases h
  · exact h

end RealLists

end Bpp.NumDeriv
