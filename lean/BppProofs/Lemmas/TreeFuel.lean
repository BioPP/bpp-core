import BppModel.Tree
/-
More fuel never changes an answer: each fuelled recursion of the tree model answers with `k + 1` what it
answers with `k`, unless that was `fuel` (`TRes.Le`).  (Together with "never `fuel` on a valid tree" this says
the fuelled model is the unbounded recursion.)  Before that, two facts about any query whose answer is a Boolean;
at the end, what makes the leaves recursion and the climb exhaust every amount of fuel (`leavesUnder_diverges`, `climb_diverges`).
-/
namespace Bpp.Graph

/-- `b` is the answer `a`, unless `a` ran out of fuel -/
def TRes.Le {α : Type} (a b : TRes α) : Prop := a = .fuel ∨ a = b

/-! ### a query that answers yes or no -/

theorem TRes.eq_ok_of_iff {r : TRes Bool} {b : Bool} (ht : ∃ c, r = .ok c) (hb : b = true ↔ r = .ok true) : r = .ok b := by
  obtain ⟨c, rfl⟩ := ht
  cases c with
  | true => rw [hb.2 rfl]
  | false =>
    cases b with
    | false => rfl
    | true => cases hb.1 rfl

theorem TRes.ok_false_iff {r : TRes Bool} {P : Prop} (ht : ∃ c, r = .ok c) (h : r = .ok true ↔ P) : r = .ok false ↔ ¬ P := by
  obtain ⟨c, rfl⟩ := ht
  cases c with
  | true => exact ⟨nofun, fun hn => absurd (h.1 rfl) hn⟩
  | false => exact ⟨fun _ hp => (nomatch h.2 hp), fun _ => rfl⟩

namespace T

/-- from one step to any larger amount -/
theorem mono_le {α : Type} (f : Nat → TRes α) (hstep : ∀ k, (f k).Le (f (k + 1)))
    {f1 f2 : Nat} (hle : f1 ≤ f2) (hr : f f1 ≠ .fuel) : f f2 = f f1 := by
  induction hle with
  | refl => rfl
  | step _ ih => exact ((hstep _).resolve_left (ih ▸ hr)).symm.trans ih

theorem ok_of_le {α : Type} (f : Nat → TRes α) (hstep : ∀ k, (f k).Le (f (k + 1))) {N k : Nat} {a : α}
    (h : f N = .ok a) (hk : N ≤ k) : (∃ l, f k = .ok l) ∧ f k = f N :=
  have e := mono_le f hstep hk (by rw [h]; nofun)
  ⟨⟨a, e.trans h⟩, e⟩

theorem foldl_fuel {α β : Type} (s : TRes β → α → TRes β) (hs : ∀ a, s .fuel a = .fuel) :
    ∀ l : List α, l.foldl s .fuel = .fuel
  | [] => rfl
  | a :: rest => by rw [List.foldl_cons, hs, foldl_fuel s hs rest]

/-- a loop `match acc with | .ok m => F a m | x => x` is monotone in the fuel when its body is -/
theorem foldl_le {α β : Type} (sF sG : TRes β → α → TRes β) (F G : α → β → TRes β)
    (hF : ∀ x a, sF x a = match x with | .ok m => F a m | r => r)
    (hG : ∀ x a, sG x a = match x with | .ok m => G a m | r => r)
    (hFG : ∀ a m, (F a m).Le (G a m)) : ∀ (l : List α) (acc : TRes β), (l.foldl sF acc).Le (l.foldl sG acc) := by
  have stuck := foldl_fuel sF (fun a => hF .fuel a)
  intro l
  induction l with
  | nil => exact fun _ => .inr rfl
  | cons a rest ih =>
    intro acc
    rw [List.foldl_cons, List.foldl_cons, hF, hG]
    cases acc with
    | ok m =>
      rcases hFG a m with hf | hf
      · show (rest.foldl sF (F a m)).Le _
        rw [hf, stuck]; exact .inl rfl
      · show (rest.foldl sF (F a m)).Le (rest.foldl sG (G a m))
        rw [hf]; exact ih _
    | exc => exact ih _
    | fuel => exact ih _
    | ub => exact ih _

theorem subtreeNodes_le (g : G) : ∀ (fuel n : Nat) (met : List Nat),
    (subtreeNodes g fuel n met).Le (subtreeNodes g (fuel + 1) n met)
  | 0, _, _ => .inl rfl
  | f + 1, n, met => by
    rw [subtreeNodes, subtreeNodes]
    cases g.outNeighbors n with
    | none => exact .inr rfl
    | some sons =>
      exact foldl_le _ _ (fun s m => subtreeNodes g f s m) (fun s m => subtreeNodes g (f + 1) s m)
        (fun x _ => by cases x <;> rfl) (fun x _ => by cases x <;> rfl)
        (fun s m => subtreeNodes_le g f s m) sons _

theorem leavesUnder_le (g : G) : ∀ (fuel n : Nat) (found : List Nat),
    (leavesUnder g fuel n found).Le (leavesUnder g (fuel + 1) n found)
  | 0, _, _ => .inl rfl
  | f + 1, n, found => by
    rw [leavesUnder, leavesUnder]
    cases g.outNeighbors n with
    | none => exact .inr rfl
    | some sons =>
      rcases isLeafT g n with _ | _ | _
      · exact .inr rfl
      · exact foldl_le _ _ (fun s m => leavesUnder g f s m) (fun s m => leavesUnder g (f + 1) s m)
          (fun x _ => by cases x <;> rfl) (fun x _ => by cases x <;> rfl)
          (fun s m => leavesUnder_le g f s m) sons _
      · exact .inr rfl

theorem subtreeEdges_le (g : G) : ∀ (fuel n : Nat) (met : List Nat),
    (subtreeEdges g fuel n met).Le (subtreeEdges g (fuel + 1) n met)
  | 0, _, _ => .inl rfl
  | f + 1, n, met => by
    rw [subtreeEdges, subtreeEdges]
    cases g.outEdges n with
    | none => exact .inr rfl
    | some es =>
      exact foldl_le _ _
        (fun e m => match g.getNodes e with | some (_, bottom) => subtreeEdges g f bottom (m ++ [e]) | none => .exc)
        (fun e m => match g.getNodes e with | some (_, bottom) => subtreeEdges g (f + 1) bottom (m ++ [e]) | none => .exc)
        (fun x _ => by cases x <;> rfl) (fun x _ => by cases x <;> rfl)
        (fun e m => by
          cases g.getNodes e with
          | none => exact .inr rfl
          | some p => exact subtreeEdges_le g f _ _) es _

theorem relationsFrom_le (g : G) : ∀ (fuel n origin : Nat) (rel : List (Nat × Nat)),
    (relationsFrom g fuel n origin rel).Le (relationsFrom g (fuel + 1) n origin rel)
  | 0, _, _, _ => .inl rfl
  | f + 1, n, origin, rel => by
    rw [relationsFrom, relationsFrom]
    cases g.outNeighbors n with
    | none => exact .inr rfl
    | some nbs =>
      exact foldl_le _ _
        (fun nb m => if nb = origin then .ok m else relationsFrom g f nb n (m ++ [(n, nb)]))
        (fun nb m => if nb = origin then .ok m else relationsFrom g (f + 1) nb n (m ++ [(n, nb)]))
        (fun x _ => by cases x <;> rfl) (fun x _ => by cases x <;> rfl)
        (fun nb m => by
          by_cases hnb : nb = origin
          · rw [if_pos hnb, if_pos hnb]; exact .inr rfl
          · rw [if_neg hnb, if_neg hnb]; exact relationsFrom_le g f _ _ _) nbs _

theorem climb_le (g : G) : ∀ (fuel n : Nat) (acc : List Nat), (climb g fuel n acc).Le (climb g (fuel + 1) n acc)
  | 0, _, _ => .inl rfl
  | f + 1, n, acc => by
    rw [climb, climb]
    rcases hasFather g n with _ | _ | _
    · exact .inr rfl
    · exact .inr rfl
    · cases father g n with
      | none => exact .inr rfl
      | some fa => exact climb_le g f fa _

theorem joinRank_le (g : G) (line : List Nat) : ∀ (fuel here : Nat),
    (joinRank g line fuel here).Le (joinRank g line (fuel + 1) here)
  | 0, _ => .inl rfl
  | f + 1, here => by
    rw [joinRank, joinRank]
    by_cases hc : line.contains here = true
    · rw [if_pos hc, if_pos hc]; exact .inr rfl
    · rw [if_neg hc, if_neg hc]
      rcases hasFather g here with _ | _ | _
      · exact .inr rfl
      · exact .inr rfl
      · cases father g here with
        | none => exact .inr rfl
        | some fa => exact joinRank_le g line f fa

theorem propagate_le : ∀ (fuel : Nat) (t : T) (n : Nat), (propagate fuel t n).Le (propagate (fuel + 1) t n)
  | 0, _, _ => .inl rfl
  | f + 1, t, n => by
    rw [propagate, propagate]
    rcases hasFather t.g n with _ | _ | _
    · exact .inr rfl
    · exact .inr rfl
    · cases father t.g n with
      | none => exact .inr rfl
      | some fa =>
        dsimp only
        rcases propagate_le f t fa with h | h
        · rw [h]; exact .inl rfl
        · rw [h]; exact .inr rfl

/-! ### where a recursion does not return: whatever the fuel, it is exhausted -/

/-- the leaves recursion from a node of a set `S` of inner nodes each of which has its first son in `S` -/
theorem leavesUnder_diverges (g : G) (S : Nat → Prop)
    (hS : ∀ n, S n → isLeafT g n = some false ∧ ∃ s rest, g.outNeighbors n = some (s :: rest) ∧ S s) :
    ∀ fuel n found, S n → leavesUnder g fuel n found = .fuel
  | 0, _, _, _ => rfl
  | f + 1, n, found, hn => by
    obtain ⟨hl, s, rest, ho, hs⟩ := hS n hn
    rw [leavesUnder, ho, hl]
    show List.foldl _ (leavesUnder g f s found) rest = _
    rw [leavesUnder_diverges g S hS f s found hs]
    exact foldl_fuel _ (fun _ => rfl) rest

/-- the climb from a node of a set `S` of nodes each of which has its single father in `S` -/
theorem climb_diverges (g : G) (S : Nat → Prop)
    (hS : ∀ n, S n → hasFather g n = some true ∧ ∃ f, father g n = some f ∧ S f) :
    ∀ fuel n acc, S n → climb g fuel n acc = .fuel
  | 0, _, _, _ => rfl
  | f + 1, n, acc, hn => by
    obtain ⟨hf, p, hp, hs⟩ := hS n hn
    rw [climb, hf, hp]
    exact climb_diverges g S hS f p _ hs

end T
end Bpp.Graph
