import BppModel.Text.Ub
import BppModel.Text.TextToolsU
import BppProofs.Lemmas.StrLite
/-! Shared helper lemmas for C16: the `safe` predicate through `bind`; `Returns x P` (`x` raises the library's
exception or returns a value satisfying `P`: safety and a postcondition in one statement, with `bind`, `guard`,
`foldlM`; `.safe` and `.of_ok` take it apart); when the UB-aware primitives return; `size_t` arithmetic without
wrap; what the `find` family finds and where; `sumLen`, the total length of a list of strings, in which the
allocation bounds are stated. -/
namespace Bpp.Text.U
open Bpp.Text

/-- equality of outcomes is decidable (for the concrete instances proved by `decide`) -/
instance decEqR {α : Type} [DecidableEq α] : DecidableEq (R α)
  | .ok x, .ok y => decidable_of_iff (x = y) ⟨congrArg _, Except.ok.inj⟩
  | .error x, .error y => decidable_of_iff (x = y) ⟨congrArg _, Except.error.inj⟩
  | .ok _, .error _ => isFalse nofun
  | .error _, .ok _ => isFalse nofun

/-! ### `safe` -/

@[simp] theorem safe_ok {α : Type} (a : α) : safe (Except.ok a : R α) = true := rfl
@[simp] theorem safe_pure {α : Type} (a : α) : safe (pure a : R α) = true := rfl
@[simp] theorem safe_bpp {α : Type} : safe (Except.error Err.bpp : R α) = true := rfl
@[simp] theorem safe_ub {α : Type} : safe (Except.error Err.ub : R α) = false := rfl
@[simp] theorem safe_std {α : Type} : safe (Except.error Err.std : R α) = false := rfl
@[simp] theorem safe_hang {α : Type} : safe (Except.error Err.hang : R α) = false := rfl

/-- a call is safe iff it returned or raised the library's exception -/
theorem safe_iff {α : Type} (x : R α) : safe x = true ↔ (∃ a, x = .ok a) ∨ x = .error .bpp := by
  cases x with
  | ok a => simp
  | error e => cases e <;> simp

theorem safe_bind {α β : Type} {x : R α} {f : α → R β} (hx : safe x = true)
    (hf : ∀ a, x = .ok a → safe (f a) = true) : safe (x >>= f) = true := by
  cases x with
  | ok a => exact hf a rfl
  | error e => cases e <;> simp_all [bind, Except.bind]

theorem safe_map {α β : Type} {x : R α} {f : α → β} (hx : safe x = true) : safe (f <$> x) = true := by
  cases x with
  | ok a => rfl
  | error e => cases e <;> simp_all [Functor.map, Except.map]

theorem safe_ite {α : Type} {c : Prop} [Decidable c] {x y : R α} (hx : safe x = true) (hy : safe y = true) :
    safe (if c then x else y) = true := by
  split <;> assumption

theorem safe_bind_pure {α β : Type} {x : R α} {f : α → β} (hx : safe x = true) :
    safe (x >>= fun a => pure (f a)) = true := safe_bind hx (fun _ _ => rfl)

theorem toDoubleClass_safe (dec sci : Char) (s : Str) : safe (toDoubleClass dec sci s) = true := by
  unfold toDoubleClass; split <;> rfl

theorem toIntClass_safe (sci : Char) (s : Str) : safe (toIntClass sci s) = true := by
  unfold toIntClass; split <;> rfl

/-- a monadic fold whose every step is safe is safe -/
theorem foldlM_safe {α β : Type} {f : β → α → R β} (hf : ∀ b a, safe (f b a) = true)
    (l : List α) (b : β) : safe (l.foldlM f b) = true := by
  induction l generalizing b with
  | nil => rfl
  | cons a l ih => exact safe_bind (hf b a) (fun b' _ => ih b')

theorem pure_eq_ok {α : Type} (a : α) : (pure a : R α) = .ok a := rfl
@[simp] theorem bind_ok {α β : Type} (a : α) (f : α → R β) : ((Except.ok a : R α) >>= f) = f a := rfl
@[simp] theorem bind_pure' {α β : Type} (a : α) (f : α → R β) : ((pure a : R α) >>= f) = f a := rfl
@[simp] theorem bind_err {α β : Type} (e : Err) (f : α → R β) : ((Except.error e : R α) >>= f) = .error e := rfl

/-- inversion of a successful `bind` -/
theorem bind_eq_ok {α β : Type} {x : R α} {f : α → R β} {b : β} (h : (x >>= f) = .ok b) :
    ∃ a, x = .ok a ∧ f a = .ok b := by
  cases x with
  | ok a => exact ⟨a, rfl, h⟩
  | error e => cases h

theorem ite_bind {α β : Type} (c : Prop) [Decidable c] (x y : R α) (k : α → R β) :
    (if c then x else y) >>= k = if c then x >>= k else y >>= k := by
  split <;> rfl

theorem bind_pure_eq_ok {α β : Type} {x : R α} {f : α → β} {b : β}
    (h : (x >>= fun a => pure (f a)) = .ok b) : ∃ a, x = .ok a ∧ b = f a := by
  obtain ⟨a, e, h⟩ := bind_eq_ok h
  exact ⟨a, e, (Except.ok.inj h).symm⟩

/-! ### raising the library's exception or returning a value with a property -/

/-- `x` raises the library's exception or returns a value satisfying `P` -/
def Returns {α : Type} (x : R α) (P : α → Prop) : Prop := x = .error .bpp ∨ ∃ a, x = .ok a ∧ P a

namespace Returns
variable {α β : Type} {P : α → Prop} {Q : β → Prop} {x : R α}

theorem ok {a : α} (h : P a) : Returns (.ok a) P := Or.inr ⟨a, rfl, h⟩

theorem bpp : Returns (.error .bpp : R α) P := Or.inl rfl

theorem bind {f : α → R β} (hx : Returns x P) (hf : ∀ a, P a → Returns (f a) Q) : Returns (x >>= f) Q := by
  rcases hx with rfl | ⟨a, rfl, h⟩
  · exact bpp
  · exact hf a h

theorem mono {P' : α → Prop} (hx : Returns x P) (h : ∀ a, P a → P' a) : Returns x P' :=
  hx.imp_right fun ⟨a, e, p⟩ => ⟨a, e, h a p⟩

/-- a test that raises the library's exception -/
theorem guard {c : Prop} [Decidable c] (h : ¬ c → Returns x P) : Returns (if c then .error .bpp else x) P := by
  split
  · exact bpp
  · exact h ‹_›

theorem safe (hx : Returns x P) : safe x = true := by
  rcases hx with rfl | ⟨a, rfl, _⟩ <;> rfl

theorem map {f : α → β} (hx : Returns x P) (h : ∀ a, P a → Q (f a)) : Returns (x.map f) Q := by
  rcases hx with rfl | ⟨a, rfl, p⟩
  · exact bpp
  · exact ok (h a p)

/-- an invariant indexed by the position in the list, kept by every step that returns, holds at the end -/
theorem foldlM {σ : Type} {f : σ → α → R σ} {l : List α} (Inv : Nat → σ → Prop) {st : σ}
    (h0 : Inv 0 st) (hstep : ∀ k (hk : k < l.length) st, Inv k st → Returns (f st l[k]) (Inv (k + 1))) :
    Returns (l.foldlM f st) (Inv l.length) := by
  induction l generalizing Inv st with
  | nil => exact .ok h0
  | cons a l ih =>
    rw [List.foldlM_cons]
    refine (hstep 0 (Nat.zero_lt_succ _) st h0).bind fun st1 h1 => ?_
    exact ih (fun k => Inv (k + 1)) h1 fun k hk st hi => hstep (k + 1) (Nat.succ_lt_succ hk) st hi

theorem of_safe (hs : U.safe x = true) (h : ∀ a, x = .ok a → P a) : Returns x P := by
  rcases (safe_iff x).mp hs with ⟨a, e⟩ | e
  · exact Or.inr ⟨a, e, h a e⟩
  · exact Or.inl e

theorem of_ok {a : α} (hx : Returns x P) (e : x = .ok a) : P a := by
  rcases hx with rfl | ⟨b, rfl, h⟩
  · cases e
  · cases e; exact h

end Returns

/-! ### `size_t` arithmetic without wrap -/

theorem StrOk.lt_SZ {s : Str} (hs : StrOk s) : s.length + 4 < SZ :=
  Nat.lt_of_le_of_lt (Nat.add_le_add_right hs 4) (by decide)

theorem StrOk.of_le {a b : Str} (hb : StrOk b) (h : a.length ≤ b.length) : StrOk a := Nat.le_trans h hb

theorem wadd_eq {a b : Nat} (h : a + b < SZ) : wadd a b = a + b := by
  unfold wadd; exact Nat.mod_eq_of_lt h

theorem wadd_le (a b : Nat) : wadd a b ≤ a + b := by
  unfold wadd; exact Nat.mod_le _ _

theorem wsub_eq {a b : Nat} (hb : b ≤ a) (ha : a < SZ) : wsub a b = a - b := by
  have e : a + (SZ - b % SZ) = a - b + SZ := by rw [Nat.mod_eq_of_lt (Nat.lt_of_le_of_lt hb ha)]; omega
  rw [wsub, e, Nat.add_mod_right, Nat.mod_eq_of_lt (by omega)]

/-- a `size_t` difference is at most the difference, whatever the sizes -/
theorem wsub_le_sub {a b : Nat} (h : b ≤ a) : wsub a b ≤ a - b := by
  have hm := Nat.div_add_mod b SZ
  have hlt : b % SZ < SZ := Nat.mod_lt _ (by decide)
  have e : a + (SZ - b % SZ) = a - b + SZ * (b / SZ + 1) := by rw [Nat.mul_add]; omega
  rw [wsub, e, Nat.add_mul_mod_self_left]
  exact Nat.mod_le _ _

theorem wmul_eq {a b : Nat} (h : a * b < SZ) : wmul a b = a * b := by
  unfold wmul; exact Nat.mod_eq_of_lt h

theorem toPtrdiff_eq {x : Nat} (h : x < 9223372036854775808) : toPtrdiff x = (x : Int) := by
  have : x % SZ = x := Nat.mod_eq_of_lt (Nat.lt_trans h (by decide))
  rw [toPtrdiff, this, if_pos h]

theorem maxStr_lt : maxStr < 9223372036854775808 := by decide

/-- `pos + 1` in `size_t`, for the result `pos` of a search in a text of `n` characters (`npos` when nothing is
found), is a position of the text: `npos + 1` wraps to `0`, and a found index is below `n` -/
theorem wadd_toSz_one_le {o : Option Nat} {n : Nat} (h : ∀ k, o = some k → k < n) : wadd (toSz o) 1 ≤ n := by
  cases o with
  | none => exact Nat.zero_le _
  | some k => exact Nat.le_trans (wadd_le k 1) (h k rfl)

/-! ### when the primitives return -/

theorem substr_ok {s : Str} {pos : Nat} (n : Nat) (h : pos ≤ s.length) :
    substr s pos n = .ok ((s.drop pos).take n) := by simp [substr, h]

theorem substr_safe {s : Str} {pos : Nat} (n : Nat) (h : pos ≤ s.length) : safe (substr s pos n) = true := by
  rw [substr_ok n h]; rfl

theorem substrFrom_ok {s : Str} {pos : Nat} (h : pos ≤ s.length) :
    substrFrom s pos = .ok (s.drop pos) := by simp [substrFrom, h]

theorem substr_eq_ok {s : Str} {pos n : Nat} {t : Str} (h : substr s pos n = .ok t) :
    pos ≤ s.length ∧ t = (s.drop pos).take n := by
  unfold substr at h; split at h
  · cases h; exact ⟨by assumption, rfl⟩
  · cases h

theorem substrFrom_eq_ok {s : Str} {pos : Nat} {t : Str} (h : substrFrom s pos = .ok t) :
    pos ≤ s.length ∧ t = s.drop pos := by
  unfold substrFrom at h; split at h
  · cases h; exact ⟨by assumption, rfl⟩
  · cases h

theorem substr_len {s : Str} {pos n : Nat} {t : Str} (h : substr s pos n = .ok t) :
    t.length ≤ s.length - pos ∧ t.length ≤ n := by
  obtain ⟨_, rfl⟩ := substr_eq_ok h
  simp only [List.length_take, List.length_drop]; omega

theorem strAt_ok {s : Str} {i : Nat} (h : i < s.length) : strAt s i = .ok s[i] := by simp [strAt, h]

theorem strAt_safe {s : Str} {i : Nat} (h : i ≤ s.length) : ∃ c, strAt s i = .ok c := by
  unfold strAt
  by_cases h1 : i < s.length
  · exact ⟨s[i], by simp [h1]⟩
  · have : i = s.length := by omega
    exact ⟨Char.ofNat 0, by simp [this]⟩

theorem vecAt_ok {α : Type} {v : List α} {i : Nat} (h : i < v.length) : vecAt v i = .ok v[i] := by
  simp [vecAt, h]

theorem vecBack_eq_getLast {α : Type} (v : List α) (h : v ≠ []) : vecBack v = .ok (v.getLast h) := by
  induction v with
  | nil => exact absurd rfl h
  | cons x r ih =>
    cases r with
    | nil => rfl
    | cons b r' =>
      simp only [vecBack]
      rw [ih (by simp)]
      simp

theorem vecBack_mem {α : Type} {v : List α} {a : α} (h : vecBack v = .ok a) : a ∈ v := by
  induction v with
  | nil => cases h
  | cons x r ih =>
    cases r with
    | nil => simp [vecBack] at h; simp [h]
    | cons b r' =>
      simp only [vecBack] at h
      exact List.mem_cons_of_mem _ (ih h)

theorem range_ok {s : Str} {a b : Int} (h0 : 0 ≤ a) (h1 : a ≤ b) (h2 : b ≤ (s.length : Int)) :
    range s a b = .ok ((s.drop a.toNat).take (b.toNat - a.toNat)) := by simp [range, h0, h1, h2]

/-- `std::string(s.begin() + a, s.begin() + b)` of a `std::string` -/
theorem range_between {s : Str} {a b : Nat} (hab : a ≤ b) (hb : b ≤ s.length) (hs : StrOk s) :
    range s (toPtrdiff a) (toPtrdiff b) = .ok ((s.drop a).take (b - a)) := by
  have h63 : b < 9223372036854775808 := Nat.lt_of_le_of_lt (Nat.le_trans hb hs) maxStr_lt
  rw [toPtrdiff_eq (Nat.lt_of_le_of_lt hab h63), toPtrdiff_eq h63,
    range_ok (Int.natCast_nonneg a) (Int.ofNat_le.mpr hab) (Int.ofNat_le.mpr hb)]
  rfl

/-- `std::string(s.begin(), s.begin() + k)` of a `std::string` -/
theorem range_prefix {s : Str} {k : Nat} (hk : k ≤ s.length) (hs : StrOk s) :
    range s 0 (toPtrdiff k) = .ok (s.take k) := by
  rw [toPtrdiff_eq (Nat.lt_of_le_of_lt (Nat.le_trans hk hs) maxStr_lt),
    range_ok (Int.le_refl 0) (Int.natCast_nonneg k) (Int.ofNat_le.mpr hk)]
  rfl

/-- `std::string(s.begin() + k, s.end())` of a `std::string` -/
theorem range_suffix {s : Str} {k : Nat} (hk : k ≤ s.length) (hs : StrOk s) :
    range s (toPtrdiff k) s.length = .ok (s.drop k) := by
  rw [toPtrdiff_eq (Nat.lt_of_le_of_lt (Nat.le_trans hk hs) maxStr_lt),
    range_ok (Int.natCast_nonneg k) (Int.ofNat_le.mpr hk) (Int.le_refl _), Int.toNat_natCast, Int.toNat_natCast,
    List.take_of_length_le (Nat.le_of_eq List.length_drop)]

theorem eraseRange_ok {s : Str} {a b : Int} (h0 : 0 ≤ a) (h1 : a ≤ b) (h2 : b ≤ (s.length : Int)) :
    eraseRange s a b = .ok (s.take a.toNat ++ s.drop b.toNat) := by simp [eraseRange, h0, h1, h2]

theorem eraseRange_eq_ok {s t : Str} {a b : Int} (h : eraseRange s a b = .ok t) :
    0 ≤ a ∧ a ≤ b ∧ b ≤ (s.length : Int) ∧ t = s.take a.toNat ++ s.drop b.toNat := by
  unfold eraseRange at h
  split at h
  · rename_i hc; cases h; exact ⟨hc.1, hc.2.1, hc.2.2, rfl⟩
  · cases h

theorem eraseRange_len {s t : Str} {a b : Int} (h : eraseRange s a b = .ok t) :
    t.length ≤ s.length := by
  obtain ⟨h0, h1, h2, rfl⟩ := eraseRange_eq_ok h
  simp only [List.length_append, List.length_take, List.length_drop]
  omega

theorem intRes_ok {v : Int} (h1 : intMin ≤ v) (h2 : v ≤ intMax) : intRes v = .ok v := by
  simp [intRes, h1, h2]

/-! ### the `find` family: where the index found lies, what stands there -/

theorem find_bounds {g s : Str} {k : Nat} (h : find g s = some k) : k + g.length ≤ s.length := by
  obtain ⟨h1, h2, _⟩ := Glob.find_some h
  have := Glob.isPrefix_length h1
  simp only [List.length_drop] at this
  omega

theorem findFrom_bounds {g s : Str} {pos k : Nat} (h : findFrom g s pos = some k) :
    pos ≤ k ∧ k + g.length ≤ s.length := by
  unfold findFrom at h
  split at h
  · cases h' : find g (s.drop pos) with
    | none => simp [h'] at h
    | some j =>
      simp only [h', Option.map_some, Option.some.injEq] at h
      have := find_bounds h'
      simp only [List.length_drop] at this
      omega
  · cases h

/-- the pattern is a prefix of the text at the index found by `findFrom` -/
theorem findFrom_prefix {g s : Str} {pos k : Nat} (h : findFrom g s pos = some k) :
    isPrefix g (s.drop k) = true := by
  unfold findFrom at h
  split at h
  · cases h' : find g (s.drop pos) with
    | none => simp [h'] at h
    | some j =>
      simp only [h', Option.map_some, Option.some.injEq] at h
      have := (Glob.find_some h').1
      rw [List.drop_drop] at this
      subst h
      simpa [Nat.add_comm] using this
  · cases h

theorem find_prefix {g s : Str} {k : Nat} (h : find g s = some k) :
    isPrefix g (s.drop k) = true := (Glob.find_some h).1

theorem findFirstOf_bounds {set s : Str} {pos k : Nat} (h : findFirstOf set s pos = some k) :
    pos ≤ k ∧ k < s.length := findIdxFrom_bounds h

theorem findFirstNotOf_bounds {set s : Str} {pos k : Nat} (h : findFirstNotOf set s pos = some k) :
    pos ≤ k ∧ k < s.length := findIdxFrom_bounds h

theorem findLastOf_lt {set s : Str} {k : Nat} (h : findLastOf set s = some k) : k < s.length :=
  findLastIdx_lt h

theorem findChar_lt {c : Char} {s : Str} {k : Nat} (h : findChar c s = some k) : k < s.length := by
  induction s generalizing k with
  | nil => simp [findChar] at h
  | cons d s ih =>
    simp only [findChar] at h
    split at h
    · cases h; simp
    · cases h' : findChar c s with
      | none => simp [h'] at h
      | some j =>
        simp only [h', Option.map_some, Option.some.injEq] at h
        have := ih h'
        simp only [List.length_cons]; omega

/-! ### `count` -/

theorem countSub_le (pat s : Str) : countSub pat s ≤ s.length := by
  induction s with
  | nil => simp [countSub]
  | cons c s ih =>
    simp only [countSub, List.length_cons]
    split <;> omega

/-- total length of a list of strings -/
def sumLen (l : List Str) : Nat := (l.map List.length).sum

@[simp] theorem sumLen_nil : sumLen [] = 0 := rfl
@[simp] theorem sumLen_cons (a : Str) (l : List Str) : sumLen (a :: l) = a.length + sumLen l := by
  simp [sumLen]
@[simp] theorem sumLen_append (a b : List Str) : sumLen (a ++ b) = sumLen a + sumLen b := by
  simp [sumLen]

theorem sumLen_drop_le (l : List Str) (i : Nat) : sumLen (l.drop i) ≤ sumLen l := by
  induction l generalizing i with
  | nil => simp
  | cons a l ih =>
    cases i with
    | zero => simp
    | succ i => simp only [List.drop_succ_cons, sumLen_cons]; have := ih i; omega

theorem sumLen_take_le (l : List Str) (i : Nat) : sumLen (l.take i) ≤ sumLen l := by
  have := congrArg sumLen (List.take_append_drop i l)
  rw [sumLen_append] at this
  exact Nat.le.intro this

theorem sumLen_take_getElem (l : List Str) (i : Nat) (h : i < l.length) :
    sumLen (l.take i) + l[i].length ≤ sumLen l := by
  induction l generalizing i with
  | nil => simp at h
  | cons a l ih =>
    cases i with
    | zero => simp
    | succ i =>
      simp only [List.take_succ_cons, sumLen_cons, List.getElem_cons_succ]
      have := ih i (by simpa using h)
      omega

theorem sumLen_drop_succ {l : List Str} {i : Nat} (h : i < l.length) :
    sumLen (l.drop i) = l[i].length + sumLen (l.drop (i + 1)) := by
  rw [List.drop_eq_getElem_cons h, sumLen_cons]

theorem sumLen_drop_ge {l : List Str} {i : Nat} (h : l.length ≤ i) : sumLen (l.drop i) = 0 := by
  rw [List.drop_eq_nil_of_le h]; rfl

theorem mem_length_le_sumLen {l : List Str} {a : Str} (h : a ∈ l) : a.length ≤ sumLen l := by
  induction l with
  | nil => cases h
  | cons b l ih =>
    simp only [sumLen_cons]
    rcases List.mem_cons.mp h with rfl | h
    · omega
    · have := ih h; omega

/-! ### trimming does not lengthen -/

theorem removeFirstWS_le (s : Str) : (removeFirstWS s).length ≤ s.length :=
  (List.dropWhile_sublist _).length_le

theorem removeLastWS_le (s : Str) : (removeLastWS s).length ≤ s.length := by
  have := (List.dropWhile_sublist isSpace (l := s.reverse)).length_le
  rwa [List.length_reverse, ← List.length_reverse] at this

theorem trim_le (s : Str) : (trim s).length ≤ s.length :=
  Nat.le_trans (removeLastWS_le _) (removeFirstWS_le _)

end Bpp.Text.U
