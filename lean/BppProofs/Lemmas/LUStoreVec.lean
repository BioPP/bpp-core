import BppProofs.Lemmas.LUStoreSolve
/-!
Helper lemmas for C05, storage level: the accessors `getL`/`getU` and the `std::vector` overload of
`solve` of `BppModel/LUStore.lean` (output vector in any prior state) refine `LU.getL`, `LU.getU`,
`LU.solveVec`, for any scalar type.
-/
namespace Bpp.LUS
open Bpp Bpp.Mx Bpp.LU

variable {α : Type} [Scalar α] {n : Nat}

-- With Mathlib in scope the search for `Mul α` (`Sub α`, `Div α`) goes through every algebraic class
-- before it reaches the parent projections of `Scalar`; at this priority they are tried first.
attribute [local instance 1100] Scalar.toMul Scalar.toSub Scalar.toDiv

/-! ### `getL`, `getU` -/

theorem getLS_refines {m : Nat} {s : StateS α} {t : LU.State α m n} (hr : Rep s t) (h : n ≤ m) :
    ∃ L, getLS s = .ok L ∧ Is L .row m n (fnOf (getL t)) := by
  obtain ⟨hm, hn, hlu, _, _⟩ := hr
  unfold getLS
  rw [hm, hn]
  have h0 := Is.resize (Store.empty_wf (α := α) .row) m n (by simpa using shape_row_le h)
  simp only [Store.empty_kind] at h0
  refine (fillLoop h0
    (fun a b => if b < a then fnOf t.lu a b else if a = b then Scalar.one else Scalar.zero) _ ?body).imp
    fun L h => ⟨h.1, h.2.of_get ?fin⟩
  case body =>
    intro i hi T
    apply loop_congr
    intro j hj T'
    by_cases h1 : j < i
    · simp only [h1, if_true, hlu.rd hi hj, ok_bind]
    · by_cases h2 : i = j
      · subst h2
        simp
      · simp only [h1, h2, if_false]
  intro i j
  simp only [getL, Mat.get_ofFn, fnOf_get]

theorem getUS_refines {m : Nat} {s : StateS α} {t : LU.State α m n} (hr : Rep s t) (h : n ≤ m) :
    ∃ U, getUS s = .ok U ∧ Is U .row n n (fnOf (getU h t)) := by
  obtain ⟨_, hn, hlu, _, _⟩ := hr
  unfold getUS
  rw [hn]
  have h0 := Is.resize (Store.empty_wf (α := α) .row) n n (by simpa using shape_row_le (Nat.le_refl n))
  simp only [Store.empty_kind] at h0
  refine (fillLoop h0
    (fun a b => if a ≤ b then fnOf t.lu a b else Scalar.zero) _ ?body).imp
    fun U hU => ⟨hU.1, hU.2.of_get ?fin⟩
  case body =>
    intro i hi T
    apply loop_congr
    intro j hj T'
    by_cases h1 : i ≤ j
    · simp only [h1, if_true, hlu.rd (show i < m by omega) hj, ok_bind]
    · simp only [h1, if_false]
  intro i j
  simp only [getU, Mat.get_ofFn]
  exact if_congr Iff.rfl (fnOf_get t.lu (i.castLE h) j) rfl

/-! ### vectors -/

/-- `x` has `k` elements, `x[i] = f i` -/
def IsV (x : Array α) (k : Nat) (f : Nat → α) : Prop := x.size = k ∧ ∀ i, i < k → x[i]? = some (f i)

theorem IsV.vrd {x : Array α} {k : Nat} {f : Nat → α} (h : IsV x k f) {i : Nat} (hi : i < k) : vrd x i = .ok (f i) := by
  simp [LUS.vrd, h.2 i hi]

theorem IsV.vwr {x : Array α} {k : Nat} {f : Nat → α} (h : IsV x k f) {i : Nat} (hi : i < k) (v : α) :
    ∃ x', LUS.vwr x i v = .ok x' ∧ IsV x' k (Function.update f i v) := by
  refine ⟨x.set! i v, by simp [LUS.vwr, h.1, hi], by simp [h.1], ?_⟩
  intro a ha
  by_cases hai : a = i
  · subst hai
    simp [h.1, ha]
  · have : ¬ i = a := fun e => hai e.symm
    simp [this, hai, h.2 a ha]

theorem IsV.congr {x : Array α} {k : Nat} {f g : Nat → α} (h : IsV x k f) (hfg : ∀ i, i < k → f i = g i) : IsV x k g :=
  ⟨h.1, fun i hi => by rw [h.2 i hi, hfg i hi]⟩

/-- entry of a vector as a total function -/
def vecFn {k : Nat} (v : Vector α k) (i : Nat) : α := if h : i < k then v[i] else default

theorem vecFn_get {k : Nat} (v : Vector α k) (i : Fin k) : vecFn v i.val = v[i.val]'i.isLt := dif_pos i.isLt

theorem IsV.of_get {x : Array α} {k : Nat} {g : Nat → α} {v : Vector α k} (h : IsV x k g)
    (hg : ∀ i : Fin k, g i.val = v[i.val]'i.isLt) : IsV x k (vecFn v) :=
  h.congr fun a ha => (hg ⟨a, ha⟩).trans (vecFn_get v ⟨a, ha⟩).symm

theorem IsV.eq_toArray {x : Array α} {k : Nat} (v : Vector α k) (h : IsV x k (vecFn v)) : x = v.toArray := by
  apply Array.ext
  · simp [h.1]
  · intro i h1 h2
    have hi : i < k := by simpa using h2
    have := h.2 i hi
    rw [vecFn_get v ⟨i, hi⟩, Array.getElem?_eq_getElem h1] at this
    simpa using this

/-- `permuteCopy(b, piv, x)`: whatever `x` was, it becomes `b(piv)` -/
theorem permuteCopyVS_refines (piv : Vector (Fin n) n) (b : Vector α n) (x : Array α) :
    ∃ x', permuteCopyVS b.toArray (Array.ofFn (n := n) fun i => (piv[i.val]'i.isLt).val) x = .ok x' ∧
      IsV x' n (vecFn (permuteCopyV b rfl piv)) := by
  unfold permuteCopyVS
  simp only [Array.size_ofFn, Vector.size_toArray, ne_eq, not_true_eq_false, if_false]
  have h0 : IsV (vresize x n (Scalar.zero : α)) n (fun i => x.getD i Scalar.zero) :=
    ⟨by simp, fun i hi => by simp [vresize, hi]⟩
  rw [← loopFrom_zero]
  refine (loopFrom_update (IsV · n) h0 (Nat.zero_le n)
    (fun a => if h : a < n then b[(piv[a]'h).val]'(piv[a]'h).isLt else default) _ ?body).imp
    fun x' h => ⟨h.1, h.2.congr fun a ha => by simp [ha, vecFn, permuteCopyV]⟩
  intro j _ hj y g hy _
  have h1 : vrd b.toArray (piv[j]'hj).val = .ok (b[(piv[j]'hj).val]'(piv[j]'hj).isLt) := by simp [vrd]
  simp only [vrd_ofFn _ hj, ok_bind, h1, hj, dif_pos]
  exact hy.vwr hj _

theorem fwdStepVS_refines {s : StateS α} {t : LU.State α n n} (hr : Rep s t) {x : Array α} (v : Vector α n)
    (hx : IsV x n (vecFn v)) (k : Fin n) :
    ∃ x', loopFrom (k.val + 1) n (fun i x => do
        let xi ← vrd x i
        let xk ← vrd x k.val
        let l ← rd s.lu i k.val
        vwr x i (xi - xk * l)) x = .ok x' ∧ IsV x' n (vecFn (fwdStepV t rfl v k)) := by
  have hlu := hr.lu_is
  refine (loopFrom_update (IsV · n) hx (show k.val + 1 ≤ n by omega)
    (fun a => vecFn v a - vecFn v k.val * fnOf t.lu a k.val) _ ?body).imp fun x' h => ⟨h.1, h.2.of_get ?fin⟩
  case body =>
    intro j hj0 hj1 y g hy hout
    simp only [hy.vrd hj1, hy.vrd k.isLt, hlu.rd hj1 k.isLt, ok_bind, hout j (by omega), hout k.val (by omega)]
    exact hy.vwr hj1 _
  intro i
  simp only [fwdStepV, vecFn_get, fnOf_get, Vector.getElem_ofFn, Fin.cast_eq_self, i.isLt, and_true, Nat.succ_le_iff]

theorem backStepVS_refines {s : StateS α} {t : LU.State α n n} (hr : Rep s t) {x : Array α} (v : Vector α n)
    (hx : IsV x n (vecFn v)) (k : Fin n) :
    ∃ x', (do
        let xk ← vrd x k.val
        let d ← rd s.lu k.val k.val
        let x1 ← vwr x k.val (xk / d)
        loop k.val (fun i x => do
          let xi ← vrd x i
          let xk ← vrd x k.val
          let l ← rd s.lu i k.val
          vwr x i (xi - xk * l)) x1) = .ok x' ∧ IsV x' n (vecFn (backStepV t rfl k v)) := by
  have hlu := hr.lu_is
  obtain ⟨x1, e1, hx1⟩ := hx.vwr k.isLt (vecFn v k.val / fnOf t.lu k.val k.val)
  simp only [hx.vrd k.isLt, hlu.rd k.isLt k.isLt, ok_bind, e1]
  rw [← loopFrom_zero]
  refine (loopFrom_update (IsV · n) hx1 (Nat.zero_le k.val)
    (fun a => vecFn v a - vecFn v k.val / fnOf t.lu k.val k.val * fnOf t.lu a k.val) _ ?body).imp
    fun x' h => ⟨h.1, h.2.of_get ?fin⟩
  case body =>
    intro j _ hj y g hy hout
    simp only [hy.vrd (show j < n by omega), hy.vrd k.isLt, hlu.rd (show j < n by omega) k.isLt, ok_bind,
      hout j (by omega), hout k.val (by omega), Function.update_self, Function.update_of_ne (show j ≠ k.val by omega)]
    exact hy.vwr (show j < n by omega) _
  intro i
  simp only [backStepV, vecFn_get, fnOf_get, Vector.getElem_ofFn, Fin.cast_eq_self, Nat.zero_le, true_and,
    Function.update_apply]
  by_cases hak : i.val = k.val
  · rw [if_neg (by omega), if_pos hak, if_pos hak]
  · rw [if_neg hak, if_neg hak]

theorem fwdVS_refines {s : StateS α} {t : LU.State α n n} (hr : Rep s t) {x : Array α} (v : Vector α n)
    (hx : IsV x n (vecFn v)) : ∃ x', fwdVS s x = .ok x' ∧ IsV x' n (vecFn (Fin.foldl n (fwdStepV t rfl) v)) := by
  unfold fwdVS
  rw [hr.n_eq]
  exact loop_foldl (fun (y : Array α) (w : Vector α n) => IsV y n (vecFn w)) n _ (fwdStepV t rfl) x v hx
    (fun k y w hy => fwdStepVS_refines hr w hy k)

theorem backVS_refines {s : StateS α} {t : LU.State α n n} (hr : Rep s t) (hn : 0 < n) {x : Array α} (v : Vector α n)
    (hx : IsV x n (vecFn v)) : ∃ x', backVS s x = .ok x' ∧ IsV x' n (vecFn (Fin.foldr n (backStepV t rfl) v)) := by
  unfold backVS
  rw [hr.n_eq, if_neg (by omega)]
  exact loop_foldr (fun (y : Array α) (w : Vector α n) => IsV y n (vecFn w)) n _ (backStepV t rfl) x v hx
    (fun k y w hy => by
      have e : n - 1 - (n - 1 - k.val) = k.val := by omega
      simp only [e]
      exact backStepVS_refines hr w hy k)

/-- **the vector overload on arrays returns what the abstract `solveVec` returns**, whatever the
output vector contained and however long it was -/
theorem solveVecS_ok {m mb : Nat} {s : StateS α} {t : LU.State α m n} (hr : Rep s t) (b : Vector α mb) (x : Array α)
    {d : α} {y : Vector α m} (h : LU.solveVec t b = .ok (d, y)) :
    solveVecS s b.toArray x = .ok (d, y.toArray) := by
  obtain ⟨hb, hnm, hn, hbt, rfl, rfl⟩ := solveVec_eq_ok h
  subst hb hnm
  unfold solveVecS
  rw [solveGuardS hr hn b.size_toArray, hbt, if_neg Bool.false_ne_true, hr.piv_eq]
  obtain ⟨x1, e1, hx1⟩ := permuteCopyVS_refines t.piv b x
  obtain ⟨x2, e2, hx2⟩ := fwdVS_refines hr _ hx1
  obtain ⟨x3, e3, hx3⟩ := backVS_refines hr hn _ hx2
  rw [e1, ok_bind, e2, ok_bind, e3, ok_bind, pure_eq, IsV.eq_toArray _ hx3]

theorem solveVecS_error {m mb : Nat} {s : StateS α} {t : LU.State α m n} (hr : Rep s t) (b : Vector α mb) (x : Array α)
    {e : LU.Err} (h : LU.solveVec t b = .error e) (hne : e ≠ .ub) : solveVecS s b.toArray x = .error e := by
  unfold solveVecS
  rcases solveVec_eq_error h hne with ⟨hb, rfl⟩ | ⟨hb, hnm, hn, hbt, rfl⟩
  · rw [if_pos (by rw [hr.m_eq]; simpa using hb)]
  · subst hb hnm
    rw [solveGuardS hr hn b.size_toArray, if_pos hbt]

end Bpp.LUS
