import BppProofs.Lemmas.Discretize
/-!
C09: `discretizeEqualProportions` at `ℝ`.  The hypotheses `ParentOK` (`H`) on the parent; the grid `gridPt` (also the
bounds and class values of the equal-interval scheme) and the quantiles `qGrid` of the grid on `[P lower, P upper]`,
which under `H` are the bounds and the medians; what the state is under `resolved`; class masses and class means under `H`.
-/
namespace Bpp.Discretize
open Bpp

/-- `H`: what the theorems assume of the parent's `pProb`, `qProb`, `Expectation` on the domain
`[lo, hi]`: the cumulative function is non-decreasing, the quantile function is strictly
increasing on `[P lo, P hi]`, the two are mutually inverse, and the partial expectation grows like
a mean of the class (`a·(P b − P a) ≤ E b − E a ≤ b·(P b − P a)`). -/
structure ParentOK (par : Parent ℝ) (lo hi : ℝ) : Prop where
  mono : ∀ x y, lo ≤ x → x ≤ y → y ≤ hi → par.P x ≤ par.P y
  qmono : ∀ u v, par.P lo ≤ u → u < v → v ≤ par.P hi → par.Q u < par.Q v
  qp : ∀ x, lo ≤ x → x ≤ hi → par.Q (par.P x) = x
  pq : ∀ u, par.P lo ≤ u → u ≤ par.P hi → par.P (par.Q u) = u
  mean : ∀ a b, lo ≤ a → a ≤ b → b ≤ hi →
    a * (par.P b - par.P a) ≤ par.E b - par.E a ∧ par.E b - par.E a ≤ b * (par.P b - par.P a)

namespace ParentOK
variable {par : Parent ℝ} {lo hi : ℝ}

theorem q_ge_lo (H : ParentOK par lo hi) (hl : lo ≤ hi) {u : ℝ} (h1 : par.P lo ≤ u) (h2 : u ≤ par.P hi) : lo ≤ par.Q u := by
  rcases eq_or_lt_of_le h1 with h | h
  · rw [← h, H.qp lo le_rfl hl]
  · have := H.qmono _ _ le_rfl h h2
    rw [H.qp lo le_rfl hl] at this; exact this.le

theorem q_le_hi (H : ParentOK par lo hi) (hl : lo ≤ hi) {u : ℝ} (h1 : par.P lo ≤ u) (h2 : u ≤ par.P hi) : par.Q u ≤ hi := by
  rcases eq_or_lt_of_le h2 with h | h
  · rw [h, H.qp hi hl le_rfl]
  · have := H.qmono _ _ h1 h le_rfl
    rw [H.qp hi hl le_rfl] at this; exact this.le

theorem q_mono (H : ParentOK par lo hi) {u v : ℝ} (h1 : par.P lo ≤ u) (h : u ≤ v) (h2 : v ≤ par.P hi) : par.Q u ≤ par.Q v := by
  rcases eq_or_lt_of_le h with h | h
  · rw [h]
  · exact (H.qmono _ _ h1 h h2).le

/-- narrowing the domain keeps the hypotheses -/
theorem restrict (H : ParentOK par lo hi) {lo' hi' : ℝ} (h1 : lo ≤ lo') (h2 : lo' ≤ hi') (h3 : hi' ≤ hi) : ParentOK par lo' hi' where
  mono x y a b c := H.mono x y (h1.trans a) b (c.trans h3)
  qmono u v a b c := H.qmono u v ((H.mono lo lo' le_rfl h1 (h2.trans h3)).trans a) b (c.trans (H.mono hi' hi (h1.trans h2) h3 le_rfl))
  qp x a b := H.qp x (h1.trans a) (b.trans h3)
  pq u a b := H.pq u ((H.mono lo lo' le_rfl h1 (h2.trans h3)).trans a) (b.trans (H.mono hi' hi (h1.trans h2) h3 le_rfl))
  mean a b x y z := H.mean a b (h1.trans x) y (z.trans h3)
end ParentOK

theorem pairs_length (a : ℝ) (l : List ℝ) : (pairs (a :: l)).length = l.length := by
  induction l generalizing a with
  | nil => simp [pairs]
  | cons b t ih => simp [pairs, ih]

theorem pairs_bounds_length (lo hi : ℝ) (b : List ℝ) : (pairs (lo :: b ++ [hi])).length = b.length + 1 := by
  rw [show lo :: b ++ [hi] = lo :: (b ++ [hi]) from rfl, pairs_length]; simp

theorem isChain_iff_pairs (R : ℝ → ℝ → Prop) (l : List ℝ) : l.IsChain R ↔ ∀ p ∈ pairs l, R p.1 p.2 := by
  induction l with
  | nil => simp [pairs]
  | cons a t ih =>
    cases t with
    | nil => simp [pairs]
    | cons b t' =>
      rw [List.isChain_cons_cons, ih]
      simp only [pairs, List.mem_cons, forall_eq_or_imp]

theorem pairs_mem : ∀ (l : List ℝ) (p : ℝ × ℝ), p ∈ pairs l → p.1 ∈ l ∧ p.2 ∈ l
  | [], p, h => by simp [pairs] at h
  | [_], p, h => by simp [pairs] at h
  | a :: b :: t, p, h => by
    simp only [pairs, List.mem_cons] at h
    rcases h with rfl | h
    · simp
    · have := pairs_mem (b :: t) p h
      exact ⟨List.mem_cons_of_mem _ this.1, List.mem_cons_of_mem _ this.2⟩

/-- telescoping sum over consecutive pairs -/
theorem pairs_telescope (g : ℝ → ℝ) (a : ℝ) (l : List ℝ) :
    ((pairs (a :: l)).map (fun p => g p.2 - g p.1)).sum = g ((a :: l).getLast (by simp)) - g a := by
  induction l generalizing a with
  | nil => simp [pairs]
  | cons b t ih =>
    simp only [pairs, List.map_cons, List.sum_cons]
    rw [ih b]
    rw [List.getLast_cons (by simp : b :: t ≠ [])]
    ring

theorem getLast_bounds (lo hi : ℝ) (b : List ℝ) : (lo :: (b ++ [hi])).getLast (by simp) = hi := by
  rw [List.getLast_cons (by simp)]; simp

/-- values `g p` with `g p ∈ [p.1, p.2]` lie in their own class -/
theorem zip_pairs_all (l : List (ℝ × ℝ)) (g : ℝ × ℝ → ℝ) (h : ∀ p ∈ l, p.1 ≤ g p ∧ g p ≤ p.2) :
    ((l.map g).zip l).all (fun vb => Scalar.leb vb.2.1 vb.1 && Scalar.leb vb.1 vb.2.2) = true := by
  induction l with
  | nil => simp
  | cons p t ih =>
    have hp := h p (by simp)
    simp only [List.map_cons, List.zip_cons_cons, List.all_cons, Bool.and_eq_true, ScalarReal.leb_iff]
    exact ⟨hp, ih (fun q hq => h q (by simp [hq]))⟩

/-- consecutive pairs of `F j, F (j+1), …, F (j+k)` -/
theorem pairs_map_range' (F : ℕ → ℝ) (k j : ℕ) :
    pairs ((List.range' j (k + 1)).map F) = (List.range' j k).map (fun i => (F i, F (i + 1))) := by
  induction k generalizing j with
  | zero => simp [pairs]
  | succ k ih =>
    have := ih (j + 1)
    simp only [List.range'_succ, List.map_cons, pairs] at this ⊢
    rw [this]

/-- `lo :: [f 0, …, f (n-2)] ++ [hi]` as `F 0, …, F n` -/
theorem bounds_as_range (F : ℕ → ℝ) (n : ℕ) (hn : 1 ≤ n) :
    F 0 :: (List.range (n - 1)).map (fun i => F (i + 1)) ++ [F n] = (List.range' 0 (n + 1)).map F := by
  obtain ⟨k, rfl⟩ : ∃ k, n = k + 1 := ⟨n - 1, by omega⟩
  simp only [Nat.add_sub_cancel]
  rw [List.range'_succ, List.map_cons]
  simp only [List.cons_append, Nat.zero_add]
  congr 1
  rw [List.range'_concat, List.map_append, List.range'_eq_map_range]
  simp [List.map_map, Function.comp, Nat.add_comm]

theorem pairwise_map_range' {β : Type} (R : β → β → Prop) (F : ℕ → β) (n : ℕ) (h : ∀ i j, i < j → j < n → R (F i) (F j)) :
    ((List.range' 0 n).map F).Pairwise R := by
  rw [List.pairwise_map]
  refine (List.pairwise_lt_range' (s := 0) (n := n) 1).imp_of_mem ?_
  intro i j _ hj hij
  exact h i j hij (by simpa using hj)

/-- the point `a + x·(b − a)/n`: the bounds and class values of the equal-interval scheme, and the
probabilities whose quantiles the equal-probability scheme takes, are such points -/
noncomputable def gridPt (a b : ℝ) (n : ℕ) (x : ℝ) : ℝ := a + x * ((b - a) / n)

theorem gridPt_zero (a b : ℝ) (n : ℕ) : gridPt a b n 0 = a := by simp [gridPt]

theorem gridPt_n (a b : ℝ) (n : ℕ) (hn : 1 ≤ n) : gridPt a b n n = b := by
  have : (n : ℝ) ≠ 0 := by positivity
  unfold gridPt; field_simp; ring

theorem gridPt_sub (a b : ℝ) (n : ℕ) (x y : ℝ) : gridPt a b n y - gridPt a b n x = (y - x) * ((b - a) / n) := by
  unfold gridPt; ring

theorem gridPt_mono {a b : ℝ} (n : ℕ) (hab : a ≤ b) {x y : ℝ} (hxy : x ≤ y) : gridPt a b n x ≤ gridPt a b n y :=
  add_le_add_right (mul_le_mul_of_nonneg_right hxy (div_nonneg (sub_nonneg.2 hab) (Nat.cast_nonneg n))) a

theorem gridPt_lt {a b : ℝ} {n : ℕ} (hn : 1 ≤ n) (hab : a < b) {x y : ℝ} (hxy : x < y) : gridPt a b n x < gridPt a b n y :=
  add_lt_add_right (mul_lt_mul_of_pos_right hxy (div_pos (sub_pos.2 hab) (Nat.cast_pos.2 hn))) a

/-- grid points at least one step apart are further apart than a precision below the step -/
theorem gridPt_separated {a b prec : ℝ} {n : ℕ} (hp : 0 ≤ prec) (hw : prec < (b - a) / n) {x y : ℝ} (hxy : x + 1 ≤ y) :
    gridPt a b n x < gridPt a b n y - prec := by
  have h1 : prec < (y - x) * ((b - a) / n) := hw.trans_le (le_mul_of_one_le_left (hp.trans hw.le) (by linarith))
  have := gridPt_sub a b n x y
  linarith

theorem gridPt_mem {a b : ℝ} {n : ℕ} (hn : 1 ≤ n) (hab : a ≤ b) {x : ℝ} (hx0 : 0 ≤ x) (hx : x ≤ n) :
    a ≤ gridPt a b n x ∧ gridPt a b n x ≤ b := by
  have h0 := gridPt_mono n hab hx0
  have h1 := gridPt_mono n hab hx
  rw [gridPt_zero] at h0; rw [gridPt_n a b n hn] at h1
  exact ⟨h0, h1⟩

/-- the grid indices of class `i < n`: lower bound `i`, median `i + ½`, upper bound `i + 1` -/
theorem half_steps {n i : ℕ} (hi : i < n) :
    (0 : ℝ) ≤ i ∧ (i : ℝ) ≤ (i : ℝ) + 1 / 2 ∧ (i : ℝ) + 1 / 2 ≤ ((i + 1 : ℕ) : ℝ) ∧ ((i + 1 : ℕ) : ℝ) ≤ n :=
  ⟨Nat.cast_nonneg i, le_add_of_nonneg_right (by norm_num),
    by rw [Nat.cast_succ]; exact add_le_add_right (by norm_num : (1 / 2 : ℝ) ≤ 1) _, Nat.cast_le.2 hi⟩

theorem adjLow_length (thr nv : ℝ) (l : List ℝ) : (adjLow thr nv l).length = l.length := by
  induction l with
  | nil => rfl
  | cons a t ih => simp only [adjLow]; split <;> simp [ih]

theorem adjHigh_length (thr nv : ℝ) (l : List ℝ) : (adjHigh thr nv l).length = l.length := by
  induction l with
  | nil => rfl
  | cons a t ih => simp only [adjHigh]; split <;> simp [ih]

theorem adjust_length (d : Dom ℝ) (prec : ℝ) (l : List ℝ) : (adjust d prec l).length = l.length := by
  unfold adjust
  simp only [List.length_reverse]
  split <;> split <;> simp [adjHigh_length, adjLow_length]

theorem rescale_length (l : List ℝ) (mean ec : ℝ) : (rescale l mean ec).length = l.length := by
  unfold rescale; simp only; split <;> simp

section
variable (par : Parent ℝ) (s : DD ℝ)

theorem eqPropRaw_fst_of_eq (h : par.P s.dom.hi = par.P s.dom.lo) :
    (eqPropRaw par s).1 = uniformBounds s.n s.dom.lo ((s.dom.hi - s.dom.lo) / (s.n : ℝ)) := by
  simp only [eqPropRaw, (ScalarReal.eqb_iff _ _).2 h, Bool.not_true, Bool.false_eq_true, if_false, nat_eq]

theorem eqPropRaw_snd_of_eq (h : par.P s.dom.hi = par.P s.dom.lo) :
    (eqPropRaw par s).2 = (pairs (s.dom.lo :: (eqPropRaw par s).1 ++ [s.dom.hi])).map midValue := by
  simp only [eqPropRaw, (ScalarReal.eqb_iff _ _).2 h, Bool.not_true, Bool.false_eq_true, if_false]

theorem eqPropRaw_fst_of_ne (h : par.P s.dom.hi ≠ par.P s.dom.lo) :
    (eqPropRaw par s).1 =
      eqPropBounds par s.n s.dom.lo s.dom.hi (par.P s.dom.lo) ((par.P s.dom.hi - par.P s.dom.lo) / (s.n : ℝ)) := by
  simp only [eqPropRaw, (eqb_false_iff _ _).2 h, Bool.not_false, if_true, nat_eq]
  split <;> rfl

theorem eqPropRaw_snd_of_ne (h : par.P s.dom.hi ≠ par.P s.dom.lo) :
    (eqPropRaw par s).2 =
      if s.median then
        rescale (medians par s.n s.dom.lo s.dom.hi (par.P s.dom.lo) ((par.P s.dom.hi - par.P s.dom.lo) / (s.n : ℝ)))
          (par.E s.dom.hi - par.E s.dom.lo) ((par.P s.dom.hi - par.P s.dom.lo) / (s.n : ℝ))
      else (pairs (s.dom.lo :: (eqPropRaw par s).1 ++ [s.dom.hi])).map
        (meanValue par ((par.P s.dom.hi - par.P s.dom.lo) / (s.n : ℝ))) := by
  simp only [eqPropRaw, (eqb_false_iff _ _).2 h, Bool.not_false, if_true, nat_eq]
  split <;> rfl

theorem eqPropRaw_lengths (hn : 1 ≤ s.n) :
    (eqPropRaw par s).1.length = s.n - 1 ∧ (eqPropRaw par s).2.length = s.n := by
  unfold eqPropRaw
  simp only
  split
  · split
    · simp [eqPropBounds, medians, rescale_length]
    · simp only [eqPropBounds, List.length_map, List.length_range, pairs_bounds_length, true_and]; omega
  · simp only [uniformBounds, List.length_map, List.length_range, pairs_bounds_length, true_and]; omega

/-! ## `eqProp` stores the adjusted raw values, each with probability `1/n` -/

theorem eqProp_eq (par : Parent ℝ) (s : DD ℝ) :
    eqProp par s = store s (eqPropRaw par s).1 ((adjust s.dom s.prec (eqPropRaw par s).2).map (·, 1 / (s.n : ℝ))) := by
  simp only [eqProp, store, insertAll_eq_insertPairs, ScalarReal.one_eq, nat_eq]
  generalize insertPairs s.prec s.dom.hi [] _ = o
  cases o <;> rfl

end

theorem insideDomain_eq (q lo hi : ℝ) : insideDomain q lo hi = if q < lo then lo else if hi < q then hi else q := by
  unfold insideDomain
  simp only [Scalar.geb]
  by_cases h1 : q < lo
  · have : Scalar.leb lo q = false := by simpa using h1
    simp [h1, this]
  · have e1 : Scalar.leb lo q = true := by simpa using h1
    by_cases h2 : hi < q
    · have : Scalar.leb q hi = false := by simpa using h2
      simp [h1, h2, e1, this]
    · have : Scalar.leb q hi = true := by simpa using h2
      simp [h1, h2, e1, this]

theorem insideDomain_mem (q lo hi : ℝ) (h : lo ≤ hi) : lo ≤ insideDomain q lo hi ∧ insideDomain q lo hi ≤ hi := by
  rw [insideDomain_eq]
  split
  · exact ⟨le_rfl, h⟩
  · split
    · exact ⟨h, le_rfl⟩
    · constructor <;> linarith

theorem insideDomain_id (q lo hi : ℝ) (h1 : lo ≤ q) (h2 : q ≤ hi) : insideDomain q lo hi = q := by
  rw [insideDomain_eq]; simp [not_lt.2 h1, not_lt.2 h2]

/-! ## the bounds are a grid: of the domain in the uniform fallback, of quantiles otherwise -/

theorem uniformBounds_grid (lo hi : ℝ) (n : ℕ) (hn : 1 ≤ n) :
    lo :: uniformBounds n lo ((hi - lo) / (n : ℝ)) ++ [hi] = (List.range' 0 (n + 1)).map (fun i : ℕ => gridPt lo hi n i) := by
  rw [← bounds_as_range (fun i : ℕ => gridPt lo hi n i) n hn, Nat.cast_zero, gridPt_zero, gridPt_n lo hi n hn]
  simp only [uniformBounds, gridPt, nat_eq]

/-- the quantile of the `x`-th grid point of `[P lo, P hi]`: under `H` the bounds (`x = i`) and the
medians (`x = i + ½`) of the equal-probability scheme -/
noncomputable def qGrid (par : Parent ℝ) (lo hi : ℝ) (n : ℕ) (x : ℝ) : ℝ := par.Q (gridPt (par.P lo) (par.P hi) n x)

namespace ParentOK
variable {par : Parent ℝ} {lo hi : ℝ} {n : ℕ} (H : ParentOK par lo hi) (hl : lo ≤ hi) (hn : 1 ≤ n)
include H hl hn

theorem u_mem {x : ℝ} (hx0 : 0 ≤ x) (hx : x ≤ n) :
    par.P lo ≤ gridPt (par.P lo) (par.P hi) n x ∧ gridPt (par.P lo) (par.P hi) n x ≤ par.P hi :=
  gridPt_mem hn (H.mono lo hi le_rfl hl le_rfl) hx0 hx

theorem qGrid_mem {x : ℝ} (hx0 : 0 ≤ x) (hx : x ≤ n) : lo ≤ qGrid par lo hi n x ∧ qGrid par lo hi n x ≤ hi :=
  ⟨H.q_ge_lo hl (H.u_mem hl hn hx0 hx).1 (H.u_mem hl hn hx0 hx).2, H.q_le_hi hl (H.u_mem hl hn hx0 hx).1 (H.u_mem hl hn hx0 hx).2⟩

theorem p_qGrid {x : ℝ} (hx0 : 0 ≤ x) (hx : x ≤ n) : par.P (qGrid par lo hi n x) = gridPt (par.P lo) (par.P hi) n x :=
  H.pq _ (H.u_mem hl hn hx0 hx).1 (H.u_mem hl hn hx0 hx).2

theorem qGrid_mono {x y : ℝ} (hx0 : 0 ≤ x) (hxy : x ≤ y) (hy : y ≤ n) : qGrid par lo hi n x ≤ qGrid par lo hi n y :=
  H.q_mono (H.u_mem hl hn hx0 (hxy.trans hy)).1 (gridPt_mono n (H.mono lo hi le_rfl hl le_rfl) hxy)
    (H.u_mem hl hn (hx0.trans hxy) hy).2

theorem qGrid_lt (hne : par.P hi ≠ par.P lo) {x y : ℝ} (hx0 : 0 ≤ x) (hxy : x < y) (hy : y ≤ n) :
    qGrid par lo hi n x < qGrid par lo hi n y :=
  H.qmono _ _ (H.u_mem hl hn hx0 (hxy.le.trans hy)).1
    (gridPt_lt hn (lt_of_le_of_ne (H.mono lo hi le_rfl hl le_rfl) (Ne.symm hne)) hxy) (H.u_mem hl hn (hx0.trans hxy.le) hy).2

/-- a class median lies between the bounds of its class -/
theorem qGrid_half_mem {i : ℕ} (hi' : i < n) :
    qGrid par lo hi n i ≤ qGrid par lo hi n ((i : ℝ) + 1 / 2) ∧
      qGrid par lo hi n ((i : ℝ) + 1 / 2) ≤ qGrid par lo hi n ((i + 1 : ℕ) : ℝ) := by
  obtain ⟨h0, h1, h2, h3⟩ := half_steps hi'
  exact ⟨H.qGrid_mono hl hn h0 h1 (h2.trans h3), H.qGrid_mono hl hn (h0.trans h1) h2 h3⟩

theorem eqPropBounds_grid :
    lo :: eqPropBounds par n lo hi (par.P lo) ((par.P hi - par.P lo) / (n : ℝ)) ++ [hi] =
      (List.range' 0 (n + 1)).map (fun i : ℕ => qGrid par lo hi n i) := by
  rw [← bounds_as_range (fun i : ℕ => qGrid par lo hi n i) n hn]
  simp only [qGrid, Nat.cast_zero, gridPt_zero, gridPt_n _ _ n hn, H.qp lo le_rfl hl, H.qp hi hl le_rfl, eqPropBounds]
  congr 2
  apply List.map_congr_left
  intro i hi'
  have := H.qGrid_mem hl hn (Nat.cast_nonneg (i + 1)) (half_steps (n := n) (by have := List.mem_range.1 hi'; omega)).2.2.2
  rw [nat_eq]
  exact insideDomain_id _ _ _ this.1 this.2

theorem medians_grid :
    medians par n lo hi (par.P lo) ((par.P hi - par.P lo) / (n : ℝ)) =
      (List.range' 0 n).map (fun i : ℕ => qGrid par lo hi n ((i : ℝ) + 1 / 2)) := by
  rw [medians, List.range_eq_range']
  apply List.map_congr_left
  intro i hi'
  obtain ⟨h0, h1, h2, h3⟩ := half_steps (n := n) (by simpa using hi')
  have := H.qGrid_mem hl hn (h0.trans h1) (h2.trans h3)
  rw [nat_eq, half_eq]
  exact insideDomain_id _ _ _ this.1 this.2

end ParentOK

section
variable (par : Parent ℝ) (s : DD ℝ)

/-- under `H`, in the non-degenerate branch, `lower :: bounds ++ [upper]` are the quantiles of the grid
points `P lower + i·ec`, `i = 0..n` -/
theorem eqPropRaw_bounds_grid (hn : 1 ≤ s.n) (hl : s.dom.lo ≤ s.dom.hi) (H : ParentOK par s.dom.lo s.dom.hi)
    (hne : par.P s.dom.hi ≠ par.P s.dom.lo) :
    s.dom.lo :: (eqPropRaw par s).1 ++ [s.dom.hi] =
      (List.range' 0 (s.n + 1)).map (fun i : ℕ => qGrid par s.dom.lo s.dom.hi s.n i) := by
  rw [eqPropRaw_fst_of_ne par s hne]; exact H.eqPropBounds_grid hl hn

theorem eqPropRaw_bounds_chain (hn : 1 ≤ s.n) (hl : s.dom.lo ≤ s.dom.hi) (H : ParentOK par s.dom.lo s.dom.hi) :
    (s.dom.lo :: (eqPropRaw par s).1 ++ [s.dom.hi]).IsChain (· ≤ ·) := by
  by_cases h : par.P s.dom.hi = par.P s.dom.lo
  · rw [eqPropRaw_fst_of_eq par s h, uniformBounds_grid _ _ _ hn]
    exact (pairwise_map_range' _ _ _ fun i j hij _ => gridPt_mono _ hl (by exact_mod_cast hij.le)).isChain
  · rw [eqPropRaw_bounds_grid par s hn hl H h]
    exact (pairwise_map_range' _ _ _ fun i j hij hj =>
      H.qGrid_mono hl hn (Nat.cast_nonneg i) (by exact_mod_cast hij.le) (by exact_mod_cast Nat.lt_succ_iff.1 hj)).isChain

/-! ## a raw class value lies wherever both bounds of its class lie (mean-valued classes and uniform fallback) -/

theorem midValue_hull (lo hi : ℝ) (p : ℝ × ℝ) (h1 : lo ≤ p.1 ∧ p.1 ≤ hi) (h2 : lo ≤ p.2 ∧ p.2 ≤ hi) :
    lo ≤ midValue p ∧ midValue p ≤ hi := by
  unfold midValue; simp only [two_eq]; exact ⟨by linarith [h1.1, h2.1], by linarith [h1.2, h2.2]⟩

/-- a class mean is taken only when it lies between the ends of its class; otherwise the midpoint is -/
theorem meanValue_hull (par : Parent ℝ) (ec lo hi : ℝ) (p : ℝ × ℝ) (h1 : lo ≤ p.1 ∧ p.1 ≤ hi) (h2 : lo ≤ p.2 ∧ p.2 ≤ hi) :
    lo ≤ meanValue par ec p ∧ meanValue par ec p ≤ hi := by
  unfold meanValue
  simp only
  split
  · exact midValue_hull lo hi p h1 h2
  · rename_i hh
    simp only [Bool.not_eq_true', Bool.and_eq_false_iff, not_or, Bool.not_eq_false, ScalarReal.geb_iff, ScalarReal.leb_iff] at hh
    exact ⟨h1.1.trans hh.1, hh.2.trans h2.2⟩

/-- for mean-valued classes (and in the uniform fallback) the raw class values are
`g (class interval)` with `g p` in every interval that holds both ends of `p` -/
theorem eqPropRaw_values (hm : s.median = false ∨ par.P s.dom.hi = par.P s.dom.lo) :
    ∃ g : ℝ × ℝ → ℝ, (∀ lo hi p, lo ≤ p.1 ∧ p.1 ≤ hi → lo ≤ p.2 ∧ p.2 ≤ hi → lo ≤ g p ∧ g p ≤ hi) ∧
      (eqPropRaw par s).2 = (pairs (s.dom.lo :: (eqPropRaw par s).1 ++ [s.dom.hi])).map g := by
  by_cases h : par.P s.dom.hi = par.P s.dom.lo
  · exact ⟨midValue, midValue_hull, eqPropRaw_snd_of_eq par s h⟩
  · refine ⟨meanValue par ((par.P s.dom.hi - par.P s.dom.lo) / (s.n : ℝ)), meanValue_hull par _, ?_⟩
    rw [eqPropRaw_snd_of_ne par s h, hm.resolve_right h]; rfl

/-! ## `resolved`: the stored class values are the raw ones -/

theorem listEqB_iff (a b : List ℝ) : listEqB a b = true ↔ a = b := by
  induction a generalizing b with
  | nil => cases b <;> simp [listEqB]
  | cons x t ih => cases b with
    | nil => simp [listEqB]
    | cons y t' => simp [listEqB, ih]

theorem separated_pairwise (prec : ℝ) (hp : 0 ≤ prec) (l : List ℝ) (h : separated prec l = true) :
    l.Pairwise (fun a b => a < b - prec) := by
  have hc : l.IsChain (fun a b => a < b - prec) := by
    induction l with
    | nil => simp
    | cons a t ih =>
      cases t with
      | nil => simp
      | cons b t' =>
        simp only [separated, Bool.and_eq_true, TMap.lt_iff] at h
        exact List.isChain_cons_cons.2 ⟨h.1, ih h.2⟩
  have : IsTrans ℝ (fun a b => a < b - prec) := ⟨fun a b c h1 h2 => by linarith⟩
  exact List.isChain_iff_pairwise.1 hc

/-- under `resolved` the discretisation returns, and the map holds the raw values, in order, with
probability `1/n` -/
theorem eqProp_of_resolved (par : Parent ℝ) (s : DD ℝ) (hp : 0 ≤ s.prec) (hr : resolved par s = true) :
    eqProp par s = .ok { s with dist := (eqPropRaw par s).2.map (fun v => (v, 1 / (s.n : ℝ))), bounds := (eqPropRaw par s).1 } := by
  unfold resolved at hr
  simp only [Bool.and_eq_true, listEqB_iff] at hr
  rw [eqProp_eq, hr.1]
  exact store_separated s _ _ (List.pairwise_map.2 (separated_pairwise _ hp _ hr.2))

/-- the discrete mean of classes of equal probability `p` -/
theorem discreteMean_equal (s : DD ℝ) (vals : List ℝ) (p : ℝ) (h : s.dist = vals.map (·, p)) :
    discreteMean s = p * vals.sum := by
  simp only [discreteMean, h, sumL_eq, List.map_map, Function.comp_def]
  rw [List.sum_map_mul_left, List.map_id']

/-- what the state is under `resolved`: the class values are the raw ones, each with probability `1/n` -/
theorem eqProp_resolved_state (par : Parent ℝ) (s s' : DD ℝ) (hp : 0 ≤ s.prec) (hr : resolved par s = true)
    (h : eqProp par s = .ok s') :
    s'.cats = (eqPropRaw par s).2 ∧ s'.allBounds = s.dom.lo :: (eqPropRaw par s).1 ++ [s.dom.hi] ∧ s'.dom = s.dom ∧
      discreteMean s' = 1 / (s.n : ℝ) * (eqPropRaw par s).2.sum := by
  obtain rfl := Except.ok.inj ((eqProp_of_resolved par s hp hr).symm.trans h)
  exact ⟨by simp only [DD.cats, TMap.keys, List.map_map, Function.comp_def, List.map_id'], rfl, rfl,
    discreteMean_equal _ _ _ rfl⟩

end

/-! ## class masses and class means of the equal-probability scheme under `H` -/

theorem ec_pos (par : Parent ℝ) (lo hi : ℝ) (n : Nat) (hn : 1 ≤ n) (H : ParentOK par lo hi) (hl : lo ≤ hi)
    (hne : par.P hi ≠ par.P lo) : 0 < (par.P hi - par.P lo) / (n : ℝ) :=
  div_pos (sub_pos.2 (lt_of_le_of_ne (H.mono lo hi le_rfl hl le_rfl) (Ne.symm hne))) (by exact_mod_cast hn)

variable (par : Parent ℝ) (s : DD ℝ)

/-- in the non-degenerate branch under `H` every class `[a, b]` has `P b − P a = ec` and the
partial expectation satisfies `a·ec ≤ E b − E a ≤ b·ec` -/
theorem eqPropRaw_classes (hn : 1 ≤ s.n) (hl : s.dom.lo ≤ s.dom.hi)
    (H : ParentOK par s.dom.lo s.dom.hi) (hne : par.P s.dom.hi ≠ par.P s.dom.lo) :
    ∀ p ∈ pairs (s.dom.lo :: (eqPropRaw par s).1 ++ [s.dom.hi]),
      par.P p.2 - par.P p.1 = (par.P s.dom.hi - par.P s.dom.lo) / (s.n : ℝ) ∧
      p.1 * ((par.P s.dom.hi - par.P s.dom.lo) / (s.n : ℝ)) ≤ par.E p.2 - par.E p.1 ∧
      par.E p.2 - par.E p.1 ≤ p.2 * ((par.P s.dom.hi - par.P s.dom.lo) / (s.n : ℝ)) := by
  intro p hp
  rw [eqPropRaw_bounds_grid par s hn hl H hne, pairs_map_range'] at hp
  obtain ⟨i, hi, rfl⟩ := List.mem_map.1 hp
  obtain ⟨hi0, h1, h2, hi1⟩ := half_steps (n := s.n) (by simpa using hi)
  have hii := h1.trans h2
  have hP : par.P (qGrid par s.dom.lo s.dom.hi s.n ((i + 1 : ℕ) : ℝ)) - par.P (qGrid par s.dom.lo s.dom.hi s.n i) =
      (par.P s.dom.hi - par.P s.dom.lo) / (s.n : ℝ) := by
    rw [H.p_qGrid hl hn (hi0.trans hii) hi1, H.p_qGrid hl hn hi0 (hii.trans hi1), gridPt_sub]; push_cast; ring
  have := H.mean _ _ (H.qGrid_mem hl hn hi0 (hii.trans hi1)).1 (H.qGrid_mono hl hn hi0 hii hi1)
    (H.qGrid_mem hl hn (hi0.trans hii) hi1).2
  rw [hP] at this
  exact ⟨hP, this⟩

theorem meanValue_eq (par : Parent ℝ) (ec : ℝ) (p : ℝ × ℝ) (hec : 0 < ec)
    (h1 : p.1 * ec ≤ par.E p.2 - par.E p.1) (h2 : par.E p.2 - par.E p.1 ≤ p.2 * ec) :
    meanValue par ec p = (par.E p.2 - par.E p.1) / ec := by
  have g1 : Scalar.geb ((par.E p.2 - par.E p.1) / ec) p.1 = true := by
    rw [ScalarReal.geb_iff, le_div_iff₀ hec]; exact h1
  have g2 : Scalar.leb ((par.E p.2 - par.E p.1) / ec) p.2 = true := by
    rw [ScalarReal.leb_iff, div_le_iff₀ hec]; exact h2
  simp only [meanValue, g1, g2, Bool.and_self, Bool.not_true, Bool.false_eq_true, if_false]

theorem eqPropRaw_means (hn : 1 ≤ s.n) (hl : s.dom.lo ≤ s.dom.hi) (H : ParentOK par s.dom.lo s.dom.hi)
    (hne : par.P s.dom.hi ≠ par.P s.dom.lo) (hmed : s.median = false) :
    (eqPropRaw par s).2 = (pairs (s.dom.lo :: (eqPropRaw par s).1 ++ [s.dom.hi])).map
      (fun p => (par.E p.2 - par.E p.1) / ((par.P s.dom.hi - par.P s.dom.lo) / (s.n : ℝ))) := by
  rw [eqPropRaw_snd_of_ne par s hne, hmed]
  refine List.map_congr_left fun p hp => ?_
  have := eqPropRaw_classes par s hn hl H hne p hp
  exact meanValue_eq par _ p (ec_pos par _ _ s.n hn H hl hne) this.2.1 this.2.2

end Bpp.Discretize
