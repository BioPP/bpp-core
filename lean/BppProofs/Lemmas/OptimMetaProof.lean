import BppProofs.Lemmas.OptimLineOpt
import BppModel.OptimMeta
/-!
Helper lemmas for C10: `MetaOptimizer` (model in `BppModel/OptimMeta.lean`) on the objective of the
harness, over `ℝ`.

A step of the meta-optimiser runs its sub-optimisers one after the other on the same function object.
For each of them: the meta-optimiser's values are copied into the sub-list (`matchParametersValues`), the
sub-optimiser is initialised with that list and makes one step or a whole `optimize`, and its values are
copied back.  What makes this a descent:

* the sub-list, after the copy, holds the function's coordinates (`meta_copy_in`), so that the
  `init` of the sub-optimiser does not move the function;
* a run of a sub-optimiser from there never increases the objective, leaves the function at the
  sub-optimiser's list, **and moves no coordinate outside the names of that list** — the frame `Off`,
  carried through the template by `Run.Inv` from the frame of one `doStep`;
* copying back then leaves the meta-optimiser's list at the function's coordinates (`meta_copy_back`):
  the names of the sub-list get the sub-list's values, the others hold what they held, which the
  sub-optimiser has not moved.
-/
set_option linter.unusedSectionVars false
set_option linter.unusedVariables false
namespace Bpp.Optim
open Bpp

variable (obj : List ℝ → ℝ) (D : Deriv ℝ) (cap : Option Nat)

/-! ### `matchParametersValues`, with what it leaves alone -/

/-- copying the optimiser's values into a sub-list whose names are names of the optimiser's list: the
sub-list then holds the function's coordinates -/
theorem meta_copy_in (fn : Fn ℝ) (own p p' : PList ℝ) (hnd : (names own).Nodup) (hsync : Sync fn own)
    (hgp : Good p) (hndp : (names p).Nodup) (hsub : ∀ n ∈ names p, n ∈ names own)
    (h : matchList p own = .ok p') : Like p p' ∧ Sync fn p' := by
  have h1 := matchList_like p own p' hgp.feas h
  obtain ⟨h2, -⟩ := matchList_spec p own p' hgp hndp hnd h
  refine ⟨h1, ?_⟩
  intro q' hq'
  have hn : q'.name ∈ names own := hsub _ (by rw [← h1.names]; exact mem_names hq')
  obtain ⟨r, hr, hrn⟩ := List.mem_map.1 hn
  rw [h2 q' hq' r hr hrn, ← hrn]
  exact hsync r hr

/-- copying back the values of a sub-list `sub` named `ms` which the function `fn2` holds, the function
agreeing outside `ms` with a function `fn` that held the optimiser's list: the optimiser's list then
holds the coordinates of `fn2` -/
theorem meta_copy_back (fn fn2 : Fn ℝ) (own own' sub : PList ℝ) (ms : List Nat)
    (hgood : Good own) (hnd : (names own).Nodup) (hsync : Sync fn own)
    (hms : names sub = ms) (hndm : ms.Nodup) (hsync2 : Sync fn2 sub) (hoff : Off fn.point ms fn2)
    (h : matchList own sub = .ok own') : Like own own' ∧ Sync fn2 own' := by
  have h1 := matchList_like own sub own' hgood.feas h
  obtain ⟨h2, h3⟩ := matchList_spec own sub own' hgood hnd (by rw [hms]; exact hndm) h
  refine ⟨h1, ?_⟩
  intro q' hq'
  by_cases hn : q'.name ∈ names sub
  · obtain ⟨r, hr, hrn⟩ := List.mem_map.1 hn
    rw [h2 q' hq' r hr hrn, ← hrn]
    exact hsync2 r hr
  · rw [hoff.2 _ (by rw [← hms]; exact hn)]
    exact hsync q' (h3 q' hq' hn)

/-! ### the template, with a frame and a condition on the optimiser's own fields -/

/-- the invariant of a run: `Multi.Inv`, the function agrees with `pt0` outside the names `ns`, and the
optimiser's own fields satisfy `E` -/
structure Run.Inv {τ : Type} (E : τ → Prop) (B : ℝ) (len : Nat) (ns : List Nat) (pt0 : List ℝ) (s : St (Fn ℝ) τ ℝ) : Prop where
  multi : Multi.Inv obj B len ns s
  off : Off pt0 ns s.fn
  ext : E s.ext

theorem Run.Inv.congr {τ : Type} {E : τ → Prop} {B : ℝ} {len : Nat} {ns : List Nat} {pt0 : List ℝ} {s t : St (Fn ℝ) τ ℝ}
    (h : Run.Inv obj E B len ns pt0 s)
    (hf : t.fn = s.fn) (hp : t.core.params = s.core.params) (hc : t.core.cur = s.core.cur) (he : t.ext = s.ext) :
    Run.Inv obj E B len ns pt0 t :=
  ⟨h.multi.congr obj hf hp hc, by rw [hf]; exact h.off, by rw [he]; exact h.ext⟩

section
variable {τ : Type} (A : Algo (Fn ℝ) τ ℝ) (E : τ → Prop) (B : ℝ) (len : Nat) (ns : List Nat) (pt0 : List ℝ)

/-- what the template asks of a `doStep` that keeps `Coord.Inv` and `E`, returns the objective at the point
it leaves the function at, not above the current value, and moves no coordinate outside `ns` -/
theorem run_doStep
    (hstep : ∀ s s' v, Multi.Inv obj B len ns s → E s.ext → A.doStep s = .ok (s', v) →
      Coord.Inv len ns s' ∧ E s'.ext ∧ v = obj s'.fn.point ∧ v ≤ s.core.cur ∧ Off s.fn.point ns s'.fn)
    (s s' : St (Fn ℝ) τ ℝ) (v : ℝ) (hi : Run.Inv obj E B len ns pt0 s) (h : A.doStep s = .ok (s', v)) :
    Run.Inv obj E B len ns pt0 { s' with core := { s'.core with cur := v } } := by
  obtain ⟨a, e, b, c, d⟩ := hstep s s' v hi.multi hi.ext h
  exact ⟨⟨⟨a.good, a.names, a.sync, a.len⟩, b, le_trans c hi.multi.below⟩, hi.off.trans d, e⟩

theorem run_stop (hstop : A.stop = fscStop) (s : St (Fn ℝ) τ ℝ) (hi : Run.Inv obj E B len ns pt0 s) :
    Run.Inv obj E B len ns pt0 (A.stop s).1 := by
  rw [hstop, fscStop_fst]; exact hi.congr obj rfl rfl rfl rfl

/-- `optimize` keeps the invariant and returns the current value -/
theorem run_optimize (hstop : A.stop = fscStop)
    (hstep : ∀ s s' v, Multi.Inv obj B len ns s → E s.ext → A.doStep s = .ok (s', v) →
      Coord.Inv len ns s' ∧ E s'.ext ∧ v = obj s'.fn.point ∧ v ≤ s.core.cur ∧ Off s.fn.point ns s'.fn)
    (fuel : Nat) (s s2 : St (Fn ℝ) τ ℝ) (v : ℝ) (hi : Run.Inv obj E B len ns pt0 s)
    (h : A.optimize fuel s = .ok (s2, v)) :
    Run.Inv obj E B len ns pt0 s2 ∧ s2.core.cur = v :=
  optimize_invariant A _ (run_doStep obj A E B len ns pt0 hstep) (run_stop obj A E B len ns pt0 hstop)
    (fun u n t hu => hu.congr obj rfl rfl rfl rfl) hi h

end

/-- one step or a whole `optimize` of a sub-optimiser from a state `init` has left at the point `pt0` -/
theorem sub_run {τ : Type} (A : Algo (Fn ℝ) τ ℝ) (hstop : A.stop = fscStop) (len : Nat) (ns : List Nat) (pt0 : List ℝ)
    (hstep : ∀ s s' v, Multi.Inv obj (obj pt0) len ns s → A.doStep s = .ok (s', v) →
      Coord.Inv len ns s' ∧ v = obj s'.fn.point ∧ v ≤ s.core.cur ∧ Off s.fn.point ns s'.fn)
    (fuel : Nat) (full : Bool) (sub1 sub2 : St (Fn ℝ) τ ℝ) (w : ℝ)
    (hi : Multi.Inv obj (obj pt0) len ns sub1) (hpt : sub1.fn.point = pt0)
    (hrun : (if full then A.optimize fuel sub1 else A.step sub1) = .ok (sub2, w)) :
    Coord.Inv len ns sub2 ∧ obj sub2.fn.point ≤ obj pt0 ∧ Off pt0 ns sub2.fn := by
  have hstep' : ∀ s s' v, Multi.Inv obj (obj pt0) len ns s → (fun _ : τ => True) s.ext → A.doStep s = .ok (s', v) →
      Coord.Inv len ns s' ∧ (fun _ : τ => True) s'.ext ∧ v = obj s'.fn.point ∧ v ≤ s.core.cur ∧ Off s.fn.point ns s'.fn := by
    intro s s' v hm _ hd
    obtain ⟨a, b, c, d⟩ := hstep s s' v hm hd
    exact ⟨a, trivial, b, c, d⟩
  have h1 : Run.Inv obj (fun _ : τ => True) (obj pt0) len ns pt0 sub1 := ⟨hi, Off.of_eq hpt, trivial⟩
  have h2 : Run.Inv obj (fun _ : τ => True) (obj pt0) len ns pt0 sub2 := by
    cases full with
    | true => exact (run_optimize obj A _ _ len ns pt0 hstop hstep' fuel sub1 sub2 w h1 (by simpa using hrun)).1
    | false =>
      exact step_invariant A _ (run_doStep obj A _ _ len ns pt0 hstep') (run_stop obj A _ _ len ns pt0 hstop)
        (fun u n t hu => hu.congr obj rfl rfl rfl rfl) h1 (by simpa using hrun)
  exact ⟨h2.multi.coord, by rw [← h2.multi.cur]; exact h2.multi.below, h2.off⟩

/-! ### the sub-optimisers as the meta-optimiser runs them -/

/-- `init`, then one `step` or a whole `optimize`, of the `SimpleMultiDimensions` with a list the function
holds -/
theorem simple_sub (fuel : Nat) (sub sub1 sub2 : St (Fn ℝ) (Simple ℝ) ℝ) (p : PList ℝ) (full : Bool) (w : ℝ)
    (hg : Good p) (hnm : Named p sub.fn.point.length) (hsync : Sync sub.fn p)
    (hinit : (simpleAlgo (Fn.iface obj D cap) fuel).init sub p = .ok sub1)
    (hrun : (if full then (simpleAlgo (Fn.iface obj D cap) fuel).optimize fuel sub1
             else (simpleAlgo (Fn.iface obj D cap) fuel).step sub1) = .ok (sub2, w)) :
    Coord.Inv sub.fn.point.length (names p) sub2 ∧ obj sub2.fn.point ≤ obj sub.fn.point ∧
    Off sub.fn.point (names p) sub2.fn := by
  obtain ⟨hi, hpt⟩ := simple_init_spec obj D cap fuel sub sub1 p hg hnm hinit
  rw [matchPoint_of_sync p _ hsync] at hi hpt
  exact sub_run obj (simpleAlgo (Fn.iface obj D cap) fuel) rfl _ _ _
    (fun u u' x hu h => by
      obtain ⟨a, b, c, d⟩ := simpleDoStep_spec obj D cap fuel _ _ hnm u u' x hu.coord h
      exact ⟨a, b, hu.cur ▸ c, d⟩) fuel full sub1 sub2 w hi hpt hrun

/-- the same for the `BfgsMultiDimensions` -/
theorem bfgs_sub (fuel : Nat) (sub sub1 sub2 : St (Fn ℝ) (Bfgs ℝ) ℝ) (p : PList ℝ) (full : Bool) (w : ℝ)
    (hg : Good p) (hnm : Named p sub.fn.point.length) (hsync : Sync sub.fn p)
    (hinit : (bfgsAlgo (Fn.iface obj D cap) fuel).init sub p = .ok sub1)
    (hrun : (if full then (bfgsAlgo (Fn.iface obj D cap) fuel).optimize fuel sub1
             else (bfgsAlgo (Fn.iface obj D cap) fuel).step sub1) = .ok (sub2, w)) :
    Coord.Inv sub.fn.point.length (names p) sub2 ∧ obj sub2.fn.point ≤ obj sub.fn.point ∧
    Off sub.fn.point (names p) sub2.fn := by
  obtain ⟨hi, hpt⟩ := bfgs_init_spec obj D cap fuel sub sub1 p hg hnm hinit
  rw [matchPoint_of_sync p _ hsync] at hi hpt
  exact sub_run obj (bfgsAlgo (Fn.iface obj D cap) fuel) rfl _ _ _
    (fun u u' x hu h => bfgsDoStep_spec obj D cap _ _ hnm fuel u u' x hu.coord hu.cur h)
    fuel full sub1 sub2 w hi hpt hrun

/-! ### the meta-optimiser -/

/-- the lists built by `doInit`: parameters of the optimiser's own list, named in the group, in the
order of the group (`ParameterList::addParameter` raises for a name that is already there: the groups are
taken without repetition) -/
theorem metaSubList_spec (own given : PList ℝ) (hg : Good own) : ∀ (g : List Nat), g.Nodup →
    Good (metaSubList own given g) ∧ (names (metaSubList own given g)).Nodup ∧
    (∀ n ∈ names (metaSubList own given g), n ∈ g ∧ n ∈ names own) := by
  intro g
  induction g with
  | nil => intro _; exact ⟨(fun q hq => nomatch hq), List.nodup_nil, (fun n hn => nomatch hn)⟩
  | cons n g ih =>
    intro hnd
    rw [List.nodup_cons] at hnd
    obtain ⟨a, b, c⟩ := ih hnd.2
    unfold metaSubList at a b c ⊢
    rw [List.filterMap_cons]
    split
    · exact ⟨a, b, fun m hm => ⟨List.mem_cons_of_mem _ (c m hm).1, (c m hm).2⟩⟩
    · rename_i q hq
      have hf : findNamed own n = some q := by
        split at hq
        · exact hq
        · cases hq
      obtain ⟨hqm, hqn⟩ := findNamed_some hf
      refine ⟨?_, ?_, ?_⟩
      · intro q' hq'
        rcases List.mem_cons.1 hq' with rfl | hm
        · exact hg _ hqm
        · exact a q' hm
      · rw [names_cons, List.nodup_cons]
        exact ⟨fun hc => hnd.1 (hqn ▸ (c _ hc).1), b⟩
      · intro m hm
        rw [names_cons, List.mem_cons] at hm
        rcases hm with rfl | hm
        · exact ⟨by rw [hqn]; exact List.mem_cons_self .., mem_names hqm⟩
        · exact ⟨List.mem_cons_of_mem _ (c m hm).1, (c m hm).2⟩

/-- what a step needs of the meta-optimiser's own fields: the two sub-lists hold good parameters with
distinct names that are names of the optimiser's list -/
def Meta.Sub (ns : List Nat) (m : Meta ℝ) : Prop :=
  (Good m.p1 ∧ (names m.p1).Nodup ∧ ∀ n ∈ names m.p1, n ∈ ns) ∧
  (Good m.p2 ∧ (names m.p2).Nodup ∧ ∀ n ∈ names m.p2, n ∈ ns)

/-- a sub-optimiser's turn in a step: its sub-list `p` (good, distinct names among `ns`) gets the optimiser's
values (`p'`), the sub-optimiser runs from the function (`sub`: what `simple_sub` / `bfgs_sub` say) and its
list is copied back -/
theorem metaRun_spec (len : Nat) (ns : List Nat) (hns : ns.Nodup ∧ ∀ n ∈ ns, n < len)
    (fn fn2 : Fn ℝ) (own own' p p' sub : PList ℝ)
    (hgood : Good own) (hnames : names own = ns) (hsync : Sync fn own) (hlen : fn.point.length = len)
    (hp : Good p ∧ (names p).Nodup ∧ ∀ n ∈ names p, n ∈ ns)
    (hin : matchList p own = .ok p')
    (hsub : Good p' → Named p' fn.point.length → Sync fn p' →
      (Good sub ∧ names sub = names p' ∧ Sync fn2 sub ∧ fn2.point.length = fn.point.length) ∧
        obj fn2.point ≤ obj fn.point ∧ Off fn.point (names p') fn2)
    (hback : matchList own sub = .ok own') :
    (Good own' ∧ names own' = ns ∧ Sync fn2 own' ∧ fn2.point.length = len) ∧
    (Good p' ∧ (names p').Nodup ∧ ∀ n ∈ names p', n ∈ ns) ∧ obj fn2.point ≤ obj fn.point ∧ Off fn.point ns fn2 := by
  obtain ⟨g1, n1, m1⟩ := hp
  have hndo : (names own).Nodup := hnames ▸ hns.1
  obtain ⟨lk, sy⟩ := meta_copy_in fn own p p' hndo hsync g1 n1 (hnames ▸ m1) hin
  have hsubns : ∀ n ∈ names p', n ∈ ns := fun n hn => m1 n (lk.names ▸ hn)
  have hnm : Named p' fn.point.length := ⟨lk.names ▸ n1, fun n hn => hlen ▸ hns.2 _ (hsubns n hn)⟩
  obtain ⟨⟨c1, c2, c3, c4⟩, d, o⟩ := hsub (lk.good g1) hnm sy
  obtain ⟨lk', sy'⟩ := meta_copy_back fn fn2 own own' sub (names p') hgood hndo hsync c2 hnm.1 c3 o hback
  exact ⟨⟨lk'.good hgood, lk'.names.trans hnames, sy', c4.trans hlen⟩, ⟨lk.good g1, hnm.1, hsubns⟩, d, o.mono hsubns⟩

/-- **`MetaOptimizer::doStep`** from a state in which the function holds the optimiser's list and the
sub-lists are as `doInit` builds them: the same holds afterwards, the value returned is the objective at
the point the function is left at, it is not above the objective at the point the step found the function
at, and no coordinate outside the names of the optimiser's list has moved -/
theorem metaDoStep_spec (fuel : Nat) (len : Nat) (ns : List Nat) (hns : ns.Nodup ∧ ∀ n ∈ ns, n < len)
    (s s' : St (Fn ℝ) (Meta ℝ) ℝ) (v : ℝ) (hi : Coord.Inv len ns s) (hsub : Meta.Sub ns s.ext)
    (h : metaDoStep (Fn.iface obj D cap) fuel s = .ok (s', v)) :
    Coord.Inv len ns s' ∧ Meta.Sub ns s'.ext ∧ v = obj s'.fn.point ∧ v ≤ obj s.fn.point ∧ Off s.fn.point ns s'.fn := by
  obtain ⟨tol, sa, sb, t, ha, hb, rfl, rfl⟩ := metaDoStep_ok h
  have h1 : (Coord.Inv len ns sa ∧ Meta.Sub ns sa.ext) ∧ obj sa.fn.point ≤ obj s.fn.point ∧ Off s.fn.point ns sa.fn := by
    rcases metaRunSimple_ok ha with ⟨-, rfl⟩ | ⟨p1, sub1, sub2, w, own, hin, hinit, hrun, hback, rfl⟩
    · exact ⟨⟨⟨hi.good, hi.names, hi.sync, hi.len⟩, hsub⟩, le_refl _, Off.rfl' _ _⟩
    · obtain ⟨⟨a1, a2, a3, a4⟩, b, c, d⟩ := metaRun_spec obj len ns hns s.fn sub2.fn s.core.params own s.ext.p1 p1
        sub2.core.params hi.good hi.names hi.sync hi.len hsub.1 hin
        (fun hg hnm sy => by
          obtain ⟨c, d, o⟩ := simple_sub obj D cap fuel _ sub1 sub2 p1 s.ext.full w hg hnm sy hinit hrun
          exact ⟨⟨c.good, c.names, c.sync, c.len⟩, d, o⟩) hback
      exact ⟨⟨⟨a1, a2, a3, a4⟩, b, hsub.2⟩, c, d⟩
  obtain ⟨⟨ia, sa'⟩, la, oa⟩ := h1
  have h2 : (Coord.Inv len ns sb ∧ Meta.Sub ns sb.ext) ∧ obj sb.fn.point ≤ obj sa.fn.point ∧ Off sa.fn.point ns sb.fn := by
    rcases metaRunBfgs_ok hb with ⟨-, rfl⟩ | ⟨p2, sub1, sub2, w, own, hin, hinit, hrun, hback, rfl⟩
    · exact ⟨⟨ia, sa'⟩, le_refl _, Off.rfl' _ _⟩
    · obtain ⟨⟨a1, a2, a3, a4⟩, b, c, d⟩ := metaRun_spec obj len ns hns sa.fn sub2.fn sa.core.params own sa.ext.p2 p2
        sub2.core.params ia.good ia.names ia.sync ia.len sa'.2 hin
        (fun hg hnm sy => by
          obtain ⟨c, d, o⟩ := bfgs_sub obj D cap fuel _ sub1 sub2 p2 sa.ext.full w hg hnm sy hinit hrun
          exact ⟨⟨c.good, c.names, c.sync, c.len⟩, d, o⟩) hback
      exact ⟨⟨⟨a1, a2, a3, a4⟩, sa'.1, b⟩, c, d⟩
  obtain ⟨⟨ib, sb'⟩, lb, ob⟩ := h2
  exact ⟨⟨ib.good, ib.names, ib.sync, ib.len⟩, sb', rfl, lb.trans la, oa.trans ob⟩

/-- **`MetaOptimizer`: `init`**.  `doInit` reads the function's point into the optimiser's list
(`matchParametersValues`, which checks that the parameters accept the values) and sets the function to
that list: the function is left where it was, the optimiser's list holds its coordinates, the current
value is the objective there, and the sub-lists are parameters of the optimiser's list with distinct
names (the groups being without repetition) -/
theorem meta_init_spec (log10 : ℝ → ℝ) (fuel : Nat) (s s1 : St (Fn ℝ) (Meta ℝ) ℝ) (params : PList ℝ)
    (hgood : Good params) (hnd : (names params).Nodup) (hlt : ∀ n ∈ names params, n < s.fn.point.length)
    (hg1 : s.ext.g1.Nodup) (hg2 : s.ext.g2.Nodup)
    (h : (metaAlgo (Fn.iface obj D cap) log10 fuel).init s params = .ok s1) :
    Run.Inv obj (Meta.Sub (names params)) (obj s.fn.point) s.fn.point.length (names params) s.fn.point s1 ∧
    s1.fn.point = s.fn.point := by
  obtain ⟨sa, hdi, rfl⟩ := init_ok h
  change metaDoInit (Fn.iface obj D cap) log10 _ params = .ok sa at hdi
  unfold metaDoInit at hdi
  simp only [iface_getParameters] at hdi
  split at hdi
  · cases hdi
  · rename_i own hml
    split at hdi
    · cases hdi
    · rename_i fn1 hsp
      cases hdi
      have hga : Good (applyPolicy s.core.policy params) := applyPolicy_good _ _ hgood
      have hna : names (applyPolicy s.core.policy params) = names params := applyPolicy_names _ _
      obtain ⟨lk, sy⟩ := matchList_sync (applyPolicy s.core.policy params) own s.fn hga (by rw [hna]; exact hnd)
        (fun q hq => hlt _ (by rw [← hna]; exact mem_names hq)) hml
      have hpt : fn1.point = s.fn.point :=
        (iface_set_point obj D cap _ _ _ hsp).trans (matchPoint_of_sync own _ sy)
      have hsy1 : Sync fn1 own := by intro q hq; rw [hpt]; exact sy q hq
      obtain ⟨x1, x2, x3⟩ := metaSubList_spec (applyPolicy s.core.policy params) params hga s.ext.g1 hg1
      obtain ⟨y1, y2, y3⟩ := metaSubList_spec (applyPolicy s.core.policy params) params hga s.ext.g2 hg2
      refine ⟨⟨⟨⟨lk.good hga, lk.names.trans hna, hsy1, congrArg List.length hpt⟩, ?_, ?_⟩, Off.of_eq hpt,
        ⟨⟨x1, x2, fun n hn => hna ▸ (x3 n hn).2⟩, ⟨y1, y2, fun n hn => hna ▸ (y3 n hn).2⟩⟩⟩, hpt⟩
      · show obj fn1.point = obj fn1.point; rfl
      · show obj fn1.point ≤ obj s.fn.point; rw [hpt]

/-- **`MetaOptimizer`: a run**, `init` then `optimize`: the invariant of the run holds at the end, relative to the
point the function was at when `init` was called, which `init` does not move -/
theorem meta_run (log10 : ℝ → ℝ) (fuel fuel' : Nat) (s s1 s2 : St (Fn ℝ) (Meta ℝ) ℝ) (params : PList ℝ) (v : ℝ)
    (hgood : Good params) (hnd : (names params).Nodup) (hlt : ∀ n ∈ names params, n < s.fn.point.length)
    (hg1 : s.ext.g1.Nodup) (hg2 : s.ext.g2.Nodup)
    (hinit : (metaAlgo (Fn.iface obj D cap) log10 fuel).init s params = .ok s1)
    (hopt : (metaAlgo (Fn.iface obj D cap) log10 fuel).optimize fuel' s1 = .ok (s2, v)) :
    Run.Inv obj (Meta.Sub (names params)) (obj s.fn.point) s.fn.point.length (names params) s.fn.point s2 ∧
    s2.core.cur = v ∧ s1.fn.point = s.fn.point ∧ s1.core.cur = obj s.fn.point := by
  obtain ⟨hi, hpt⟩ := meta_init_spec obj D cap log10 fuel s s1 params hgood hnd hlt hg1 hg2 hinit
  obtain ⟨h2, hcur⟩ := run_optimize obj (metaAlgo (Fn.iface obj D cap) log10 fuel) (Meta.Sub (names params)) _ _ _ _ rfl
    (fun u u' w hu he h => by
      obtain ⟨a, b, c, d, e⟩ := metaDoStep_spec obj D cap fuel _ _ ⟨hnd, hlt⟩ u u' w hu.coord he h
      exact ⟨a, b, c, by rw [hu.cur]; exact d, e⟩) fuel' s1 s2 v hi hopt
  exact ⟨h2, hcur, hpt, by rw [hi.multi.cur, hpt]⟩

end Bpp.Optim
