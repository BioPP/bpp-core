import BppProofs.Lemmas.TextU
import BppModel.Text.AttrU
/-! Helper lemmas for C16: TextTools, FileTools path helpers, IntervalConstraint::readDescription. -/
namespace Bpp.Text.U
open Bpp.Text

/-! ### pure functions: output sizes -/

theorem replaceGo_le (q r : Str) (k : Nat) (s : Str) :
    (replaceGo q r k s).length ≤ s.length + s.length * r.length := by
  induction s generalizing k with
  | nil => simp [replaceGo]
  | cons c s ih =>
    cases k with
    | succ k =>
      simp only [replaceGo, List.length_cons]
      have := ih k
      have h2 : s.length * r.length ≤ (s.length + 1) * r.length := Nat.mul_le_mul_right _ (by omega)
      omega
    | zero =>
      simp only [replaceGo]
      split
      · simp only [List.length_append, List.length_cons]
        have := ih (q.length - 1)
        have h2 : (s.length + 1) * r.length = s.length * r.length + r.length := by
          rw [Nat.add_mul]; simp
        omega
      · simp only [List.length_cons]
        have := ih 0
        have h2 : s.length * r.length ≤ (s.length + 1) * r.length := Nat.mul_le_mul_right _ (by omega)
        omega

/-! ### removeSubstrings (3 arguments) -/

theorem removeSubstrings3_spec (b e : Char) (s : Str) (d : Nat) :
    Returns (removeSubstrings3 b e d s) fun r => r.length ≤ s.length := by
  induction s generalizing d with
  | nil => exact .ok (Nat.le_refl _)
  | cons c s ih =>
    have next : ∀ d, Returns (removeSubstrings3 b e d s) fun r => r.length ≤ (c :: s).length :=
      fun d => (ih d).mono fun _ h => Nat.le_succ_of_le h
    rw [removeSubstrings3]
    split
    · exact next _
    · split
      · exact .guard fun _ => next _
      · split
        · exact (ih d).map fun _ h => Nat.succ_le_succ h
        · exact next _

/-! ### split -/

theorem splitLoop_ok (s : Str) (n : Nat) (hs : StrOk s) (k i : Nat) (h : (i + k) * n ≤ s.length) :
    ∃ v, splitLoop s n k i = .ok v ∧ v.length = k ∧ sumLen v = k * n := by
  induction k generalizing i with
  | zero => exact ⟨[], rfl, rfl, (Nat.zero_mul n).symm⟩
  | succ k ih =>
    obtain ⟨v, hv, hl, hsum⟩ := ih (i + 1) (by rwa [Nat.add_right_comm, Nat.add_assoc])
    have h1 : (i + 1) * n ≤ s.length :=
      Nat.le_trans (Nat.mul_le_mul_right n (Nat.add_le_add_left (Nat.succ_le_succ (Nat.zero_le k)) i)) h
    have hsz : s.length < SZ := Nat.lt_of_le_of_lt (Nat.le_add_right _ 4) hs.lt_SZ
    have hlen : ((s.drop (i * n)).take ((i + 1) * n - i * n)).length = n := by
      rw [List.length_take, List.length_drop, Nat.succ_mul] at *; omega
    rw [splitLoop, wmul_eq (Nat.lt_of_le_of_lt (Nat.le_trans (Nat.mul_le_mul_right n (Nat.le_succ i)) h1) hsz),
      wmul_eq (Nat.lt_of_le_of_lt h1 hsz), range_between (Nat.mul_le_mul_right n (Nat.le_succ i)) h1 hs,
      bind_ok, hv, bind_ok]
    exact ⟨_, rfl, congrArg (· + 1) hl, by rw [sumLen_cons, hlen, hsum, Nat.succ_mul, Nat.add_comm]⟩

theorem split_eq (s : Str) (n : Nat) (hn : ¬ n = 0) : split s n = (splitLoop s n (s.length / n) 0 >>= fun v =>
    if v.length < wsub (wadd s.length n) 1 / n then
      (range s (toPtrdiff (wmul v.length n)) s.length >>= fun last => pure (v ++ [last])) else pure v) := by
  unfold split
  rw [if_neg hn]

/-- `split` returns (or refuses a chunk size 0): the chunks are disjoint pieces of the text -/
theorem split_spec (s : Str) (n : Nat) (hs : StrOk s) :
    Returns (split s n) fun v => sumLen v ≤ s.length ∧ v.length ≤ s.length + 1 := by
  by_cases hn : n = 0
  · rw [split, if_pos hn]; exact .bpp
  have hd : s.length / n * n ≤ s.length := Nat.div_mul_le_self s.length n
  obtain ⟨v, hv, hl, hsum⟩ := splitLoop_ok s n hs (s.length / n) 0 (by rwa [Nat.zero_add])
  have hle : s.length / n ≤ s.length := Nat.div_le_self _ _
  rw [split_eq s n hn, hv, bind_ok]
  split
  · rw [hl, wmul_eq (Nat.lt_of_le_of_lt hd (Nat.lt_of_le_of_lt (Nat.le_add_right _ 4) hs.lt_SZ)),
      range_suffix hd hs, bind_ok]
    refine .ok ⟨?_, ?_⟩
    · rw [sumLen_append, sumLen_cons, sumLen_nil, hsum, List.length_drop]; omega
    · rw [List.length_append, hl]; exact Nat.succ_le_succ hle
  · exact .ok ⟨hsum ▸ hd, hl ▸ Nat.le_succ_of_le hle⟩

theorem split_alloc' (s : Str) (n : Nat) (hs : StrOk s) (v : List Str) (h : split s n = .ok v) :
    sumLen v ≤ s.length ∧ v.length ≤ s.length + 1 :=
  (split_spec s n hs).of_ok h

/-! ### removeSubstrings (5 arguments) -/

theorem exceptHit_ok (s : Str) (mark : Char) (i : Nat) (hi : i < s.length) (hs : s.length < SZ) (xs : List Str) :
    ∃ b, exceptHit true s mark i xs = .ok b := by
  induction xs with
  | nil => exact ⟨false, rfl⟩
  | cons x xs ih =>
    simp only [exceptHit]
    split
    · exact ih
    · rename_i pos hpos
      split
      · exact ih
      · rename_i hg
        simp only [Bool.true_and, Bool.not_eq_true', decide_eq_false_iff_not, Decidable.not_not] at hg
        split
        · rw [wsub_eq hg (Nat.lt_trans hi hs), substr_ok _ (Nat.le_trans (Nat.sub_le _ _) (Nat.le_of_lt hi)), bind_ok]
          split
          · exact ⟨true, rfl⟩
          · exact ih
        · exact ih

/-- the loop invariant of the five-argument `removeSubstrings` before position `i` of a text of `L`
characters: the copy restarts at or before `i`, the `int` counter is between 0 and `i`, every round
appended at most the text -/
def Rm5Inv (L : Nat) (i : Nat) (st : Rm5) : Prop :=
  st.begPos ≤ i ∧ 0 ≤ st.blockCount ∧ st.blockCount ≤ (i : Int) ∧ st.t.length ≤ i * L

theorem Rm5Inv.succ {L i : Nat} {st : Rm5} (h : Rm5Inv L i st) : Rm5Inv L (i + 1) st :=
  ⟨Nat.le_succ_of_le h.1, h.2.1, Int.le_trans h.2.2.1 (Int.ofNat_le.mpr (Nat.le_succ i)),
    Nat.le_trans h.2.2.2 (Nat.mul_le_mul_right L (Nat.le_succ i))⟩

theorem Rm5Inv.count {L i : Nat} {st : Rm5} (h : Rm5Inv L i st) (hi : i < 2147483647) (d : Int)
    (hd : d = 1 ∨ d = -1) : intRes (st.blockCount + d) = .ok (st.blockCount + d) := by
  obtain ⟨_, h2, h3, _⟩ := h
  exact intRes_ok (by unfold intMin; omega) (by unfold intMax; omega)

theorem rm5Step_inv (s : Str) (b e : Char) (xb xe : List Str) (hL : s.length < 2147483648) (i : Nat)
    (hi : i < s.length) (st : Rm5) (hinv : Rm5Inv s.length i st) :
    Returns (rm5Step true s b e xb xe st i) (Rm5Inv s.length (i + 1)) := by
  have hsz : s.length < SZ := Nat.lt_trans hL (by decide)
  have hi31 : i < 2147483647 := Nat.lt_of_lt_of_le hi (Nat.le_of_lt_succ hL)
  obtain ⟨exb, hexb⟩ := exceptHit_ok s b i hi hsz xb
  obtain ⟨exe, hexe⟩ := exceptHit_ok s e i hi hsz xe
  unfold rm5Step
  rw [strAt_ok hi, bind_ok]
  split
  · rw [hexb, bind_ok]
    split
    · rw [hinv.count hi31 1 (Or.inl rfl), bind_ok, wsub_eq hinv.1 (Nat.lt_trans hi hsz),
        substr_ok _ (Nat.le_trans hinv.1 (Nat.le_of_lt hi)), bind_ok]
      obtain ⟨h1, h2, h3, h4⟩ := hinv
      refine .ok ⟨Nat.le_succ_of_le h1, Int.le_trans h2 (Int.le_add_one (Int.le_refl _)), Int.add_le_add_right h3 1, ?_⟩
      have := List.length_take_le' (i - st.begPos) (s.drop st.begPos)
      rw [List.length_drop] at this
      show (st.t ++ _).length ≤ (i + 1) * s.length
      rw [List.length_append, Nat.succ_mul]
      omega
    · exact .ok hinv.succ
  · split
    · rename_i hcond
      rw [hexe, bind_ok]
      have := hinv.count hi31 (-1) (Or.inr rfl)
      rw [← Int.sub_eq_add_neg] at this
      rw [this, bind_ok]
      obtain ⟨h1, h2, h3, h4⟩ := hinv
      have hpos : 0 < st.blockCount := of_decide_eq_true (Bool.and_eq_true_iff.mp hcond).2
      have hle : st.blockCount - 1 ≤ ((i + 1 : Nat) : Int) := by omega
      have hmul := Nat.le_trans h4 (Nat.mul_le_mul_right s.length (Nat.le_succ i))
      split
      · exact .ok ⟨Nat.le_refl _, Int.sub_nonneg_of_le hpos, hle, hmul⟩
      · split
        · exact .bpp
        · exact .ok ⟨Nat.le_succ_of_le h1, Int.sub_nonneg_of_le hpos, hle, hmul⟩
    · exact .ok hinv.succ

theorem removeSubstrings5_spec (s : Str) (b e : Char) (xb xe : List Str) (hL : s.length < 2147483648) :
    Returns (removeSubstrings5 s b e xb xe) fun r => r.length ≤ (s.length + 1) * (s.length + 1) := by
  have key := Returns.foldlM (f := rm5Step true s b e xb xe) (l := List.range s.length) (Rm5Inv s.length)
    (st := { t := [], blockCount := 0, begPos := 0 })
    ⟨Nat.le_refl _, Int.le_refl _, Int.le_refl _, Nat.zero_le _⟩
    (fun k hk st hinv => by
      rw [List.length_range] at hk
      rw [List.getElem_range]
      exact rm5Step_inv s b e xb xe hL k hk st hinv)
  rw [List.length_range] at key
  refine key.bind fun st ⟨h1, _, _, h4⟩ => ?_
  rw [substrFrom_ok h1, bind_ok]
  refine .ok ?_
  rw [List.length_append, List.length_drop, Nat.succ_mul, Nat.mul_succ]
  omega

/-! ### `npos` arithmetic of the path helpers, the bounds of readDescription -/

theorem toPtrdiff_npos : toPtrdiff npos = -1 := by decide

/-- the result of a search in a `std::string` as a `ptrdiff_t`: `-1` (nothing found) or an index -/
theorem toPtrdiff_toSz {o : Option Nat} {s : Str} (hs : StrOk s) (h : ∀ k, o = some k → k < s.length) :
    ∃ z : Int, toPtrdiff (toSz o) = z ∧ -1 ≤ z ∧ z < s.length := by
  cases o with
  | none => exact ⟨-1, toPtrdiff_npos, Int.le_refl _, Int.lt_of_lt_of_le (by decide) (Int.natCast_nonneg _)⟩
  | some k =>
    have hk := h k rfl
    exact ⟨k, toPtrdiff_eq (Nat.lt_of_le_of_lt (Nat.le_trans (Nat.le_of_lt hk) hs) maxStr_lt),
      Int.le_trans (by decide) (Int.natCast_nonneg _), Int.ofNat_lt.mpr hk⟩

/-- the position after it (`wadd_toSz_one_le`) as a `ptrdiff_t` -/
theorem toPtrdiff_wadd_toSz_one {o : Option Nat} {s : Str} (hs : StrOk s) (h : ∀ k, o = some k → k < s.length) :
    ∃ bg : Nat, toPtrdiff (wadd (toSz o) 1) = (bg : Int) ∧ bg ≤ s.length :=
  have hle := wadd_toSz_one_le h
  ⟨_, toPtrdiff_eq (Nat.lt_of_le_of_lt (Nat.le_trans hle hs) maxStr_lt), hle⟩

theorem wadd_npos_one : wadd npos 1 = 0 := by decide

theorem boundOk_safe (l : Bool) (t : Str) : safe (boundOk l t) = true := by
  unfold boundOk
  split <;> split <;> first | rfl | exact toDoubleClass_safe _ _ _

end Bpp.Text.U
