import BppProofs.Lemmas.GraphNotify
/-! Lemmas on `BppModel/Graph.lean`, continued: the mutators with loops.  `deleteNode` is `unlink` over the distinct relations of
the node (`unlinkMany_spec`), read from the edge table alone, the rows following by `rows_of_edges`: `Deleted`.  `makeUndirected`
and `makeDirected` rebuild the emptied node table from a list of triples (`rebuild_cleared`): `Undirected`, `Directed`.  At the
end: no other mutator touches the direction flag (`dir_…`). -/
set_option linter.unusedSimpArgs false
set_option linter.unusedVariables false
set_option linter.unusedSectionVars false
namespace Bpp
namespace Graph
open AL
namespace G

/-! #### deleteNode: the loops of `isolate_` -/

/-- `unlink` over a list of pairs, stopping at the first one that raises -/
def unlinkMany : List (Nat × Nat) → G → GOut Unit
  | [], g => .ok () g
  | p :: rest, g =>
    match unlink p.1 p.2 g with
    | .exc g' => .exc g'
    | .ok _ g' => unlinkMany rest g'

theorem isolateOut_eq (n : Nat) (l : List Nat) (g : G) : isolateOut n l g = unlinkMany (l.map (fun y => (n, y))) g := by
  induction l generalizing g with
  | nil => rfl
  | cons y r ih =>
    simp only [isolateOut, List.map_cons, unlinkMany]
    cases unlink n y g <;> simp [ih]

theorem isolateIn_eq (n : Nat) (l : List Nat) (g : G) : isolateIn n l g = unlinkMany (l.map (fun y => (y, n))) g := by
  induction l generalizing g with
  | nil => rfl
  | cons y r ih =>
    simp only [isolateIn, List.map_cons, unlinkMany]
    cases unlink y n g <;> simp [ih]

/-- the relation x -> y is one of the removed ones (either orientation when undirected) -/
def Rel (d : Bool) (ps : List (Nat × Nat)) (x y : Nat) : Prop := (x, y) ∈ ps ∨ (d = false ∧ (y, x) ∈ ps)

instance (d : Bool) (ps : List (Nat × Nat)) (x y : Nat) : Decidable (Rel d ps x y) := by unfold Rel; infer_instance

/-- two consistent graphs, the second holding the edges of the first whose end points do not satisfy `p` (symmetric
when undirected): its rows are those of the first without the entries that satisfy `p` -/
theorem rows_of_edges {g g' : G} (hc : Consistent g) (hc' : Consistent g') (hd : g'.directed = g.directed)
    {p : Nat → Nat → Prop} [∀ a b, Decidable (p a b)] (hp : g.directed = false → ∀ a b, p a b → p b a)
    (hE : ∀ e a b, find e g'.edges = some (a, b) ↔ find e g.edges = some (a, b) ∧ ¬ p a b) (x y : Nat) :
    (g'.outE x y = if p x y then none else g.outE x y) ∧ (g'.inE y x = if p x y then none else g.inE y x) := by
  obtain ⟨rO, rI, _⟩ := ConsV.iff_related.1 hc.views
  obtain ⟨rO', rI', _⟩ := ConsV.iff_related.1 hc'.views
  have key : ∀ e, Related g'.directed (fun e => find e g'.edges) x y e ↔
      Related g.directed (fun e => find e g.edges) x y e ∧ ¬ p x y := by
    intro e
    simp only [Related, hE, hd]
    constructor
    · rintro (⟨h, hn⟩ | ⟨hd, h, hn⟩)
      · exact ⟨Or.inl h, hn⟩
      · exact ⟨Or.inr ⟨hd, h⟩, fun hxy => hn (hp hd x y hxy)⟩
    · rintro ⟨h | ⟨hd, h⟩, hn⟩
      · exact Or.inl ⟨h, hn⟩
      · exact Or.inr ⟨hd, h, fun hyx => hn (hp hd y x hyx)⟩
  constructor <;> apply Option.ext <;> intro e
  · rw [rO', key, ← rO]; split <;> simp [*]
  · rw [rI', key, ← rI]; split <;> simp [*]

theorem edge_of_rel {g : G} (hc : Consistent g) {a b e e' x y : Nat} (hO : g.outE a b = some e)
    (hE : find e' g.edges = some (x, y)) : e = e' ↔ ((x = a ∧ y = b) ∨ (g.directed = false ∧ x = b ∧ y = a)) := by
  constructor
  · rintro rfl
    rcases hc.views.out_edge a b e hO with h | ⟨hd, h⟩ <;> cases hE.symm.trans h
    · exact Or.inl ⟨rfl, rfl⟩
    · exact Or.inr ⟨hd, rfl, rfl⟩
  · have hl := (hc.views.edge_listed e' x y hE).1
    rintro (⟨rfl, rfl⟩ | ⟨hd, rfl, rfl⟩)
    · exact Option.some.inj (hO.symm.trans hl)
    · exact Option.some.inj (((cons_out_some hc hO).2.2 hd).1.symm.trans hl)

/-- what a run of `unlinkMany ps` without a raise did, read from the edge table (the rows follow: `rows_of_edges`) -/
structure UnlinkedMany (ps : List (Nat × Nat)) (g g' : G) : Prop where
  hasNode : ∀ n, g'.hasNode n = g.hasNode n
  keys : AL.keys g'.nodes = AL.keys g.nodes
  edges : ∀ e a b, find e g'.edges = some (a, b) ↔ find e g.edges = some (a, b) ∧ ¬ Rel g.directed ps a b
  rest : g'.directed = g.directed ∧ g'.nextNode = g.nextNode ∧ g'.nextEdge = g.nextEdge ∧ g'.root = g.root
  told : Notified g g'

/-- the pairs are distinct relations: a later pair is neither an earlier one nor (undirected) its reverse -/
def DistinctRel (d : Bool) : List (Nat × Nat) → Prop
  | [] => True
  | p :: rest => ¬ Rel d rest p.1 p.2 ∧ DistinctRel d rest

theorem unlinkMany_spec {g : G} (hc : Consistent g) (ps : List (Nat × Nat))
    (hpres : ∀ p ∈ ps, (g.outE p.1 p.2).isSome = true) (hdist : DistinctRel g.directed ps) :
    ∃ g', unlinkMany ps g = .ok () g' ∧ Consistent g' ∧ UnlinkedMany ps g g' := by
  induction ps generalizing g with
  | nil => exact ⟨g, rfl, hc, fun _ => rfl, rfl, fun e a b => by simp [Rel], ⟨rfl, rfl, rfl, rfl⟩, .refl g⟩
  | cons p r ih =>
    obtain ⟨a, b⟩ := p
    obtain ⟨e, hO⟩ := Option.isSome_iff_exists.1 (hpres (a, b) List.mem_cons_self)
    obtain ⟨g1, h1, u1⟩ := unlink_some hc hO
    have hc1 := u1.consistent hc hO
    have hd1 : g1.directed = g.directed := u1.rest.1
    have hpres1 : ∀ q ∈ r, (g1.outE q.1 q.2).isSome = true := by
      intro q hq
      rw [u1.outE, if_neg, hpres q (List.mem_cons_of_mem _ hq)]
      rintro (⟨h1, h2⟩ | ⟨hd, h1, h2⟩)
      · exact hdist.1 (Or.inl (h1 ▸ h2 ▸ hq))
      · exact hdist.1 (Or.inr ⟨hd, h1 ▸ h2 ▸ hq⟩)
    obtain ⟨g', h2, hc', u2⟩ := ih hc1 hpres1 (hd1 ▸ hdist.2)
    refine ⟨g', by simp [unlinkMany, h1, h2], hc', fun n => (u2.hasNode n).trans (u1.hasNode n), u2.keys.trans u1.keys, ?_,
      by simp [u2.rest, u1.rest], u1.notified.trans u2.told⟩
    intro e' x y
    rw [u2.edges, u1.edges, find_erase, hd1]
    -- among the edges of `g`, the erased one is the one between a and b
    have hrel : Rel g.directed ((a, b) :: r) x y ↔
        ((x = a ∧ y = b) ∨ (g.directed = false ∧ x = b ∧ y = a)) ∨ Rel g.directed r x y := by
      simp only [Rel, List.mem_cons, Prod.mk.injEq]
      constructor
      · rintro ((h | h) | ⟨hd, h | h⟩)
        · exact Or.inl (Or.inl h)
        · exact Or.inr (Or.inl h)
        · exact Or.inl (Or.inr ⟨hd, h.2, h.1⟩)
        · exact Or.inr (Or.inr ⟨hd, h⟩)
      · rintro ((h | ⟨hd, h⟩) | h | ⟨hd, h⟩)
        · exact Or.inl (Or.inl h)
        · exact Or.inr ⟨hd, Or.inl ⟨h.2, h.1⟩⟩
        · exact Or.inl (Or.inr h)
        · exact Or.inr ⟨hd, Or.inr h⟩
    constructor
    · rintro ⟨h, hn⟩
      split at h
      · cases h
      · rename_i hee
        exact ⟨h, fun hr => (hrel.1 hr).elim (fun hab => hee ((edge_of_rel hc hO h).2 hab)) hn⟩
    · rintro ⟨h, hn⟩
      rw [if_neg fun hee => hn (hrel.2 (Or.inl ((edge_of_rel hc hO h).1 hee)))]
      exact ⟨h, fun hr => hn (hrel.2 (Or.inr hr))⟩

theorem distinct_out (d : Bool) (n : Nat) (l : List Nat) (h : List.Pairwise (· < ·) l) :
    DistinctRel d (l.map (fun y => (n, y))) := by
  induction l with
  | nil => trivial
  | cons y r ih =>
    rw [List.pairwise_cons] at h
    refine ⟨?_, ih h.2⟩
    simp only [Rel, List.mem_map, Prod.mk.injEq]
    rintro (⟨y', hy', _, rfl⟩ | ⟨_, y', hy', rfl, rfl⟩)
    · have := h.1 _ hy'; omega
    · have := h.1 _ hy'; omega

theorem distinct_in (d : Bool) (n : Nat) (l : List Nat) (h : List.Pairwise (· < ·) l) :
    DistinctRel d (l.map (fun y => (y, n))) := by
  induction l with
  | nil => trivial
  | cons y r ih =>
    rw [List.pairwise_cons] at h
    refine ⟨?_, ih h.2⟩
    simp only [Rel, List.mem_map, Prod.mk.injEq]
    rintro (⟨y', hy', rfl, _⟩ | ⟨_, y', hy', rfl, rfl⟩)
    · have := h.1 _ hy'; omega
    · have := h.1 _ hy'; omega

theorem mem_outKeys {g : G} {n y : Nat} : y ∈ g.outKeys n ↔ (g.outE n y).isSome = true := by
  unfold outKeys G.outE
  rcases find_cases n g.nodes with hf | ⟨r, hf⟩
  · simp [hf]
  · simp [hf, mem_keys_iff]

theorem mem_inKeys {g : G} {n y : Nat} : y ∈ g.inKeys n ↔ (g.inE n y).isSome = true := by
  unfold inKeys G.inE
  rcases find_cases n g.nodes with hf | ⟨r, hf⟩
  · simp [hf]
  · simp [hf, mem_keys_iff]

theorem asc_outKeys {g : G} (hs : Sorted g) (n : Nat) : List.Pairwise (· < ·) (g.outKeys n) := by
  unfold outKeys
  rcases find_cases n g.nodes with hf | ⟨r, hf⟩
  · simp [hf]
  · simp only [hf]; exact (hs.rows n r hf).1

theorem asc_inKeys {g : G} (hs : Sorted g) (n : Nat) : List.Pairwise (· < ·) (g.inKeys n) := by
  unfold inKeys
  rcases find_cases n g.nodes with hf | ⟨r, hf⟩
  · simp [hf]
  · simp only [hf]; exact (hs.rows n r hf).2

/-- what `deleteNode n` did: `n` and every relation touching it are gone from all views -/
structure Deleted (n : Nat) (g g' : G) : Prop where
  hasNode : ∀ x, g'.hasNode x = (!decide (x = n) && g.hasNode x)
  keys : AL.keys g'.nodes = (AL.keys g.nodes).filter (· ≠ n)
  outE : ∀ x y, g'.outE x y = if x = n ∨ y = n then none else g.outE x y
  inE : ∀ x y, g'.inE y x = if x = n ∨ y = n then none else g.inE y x
  edges : ∀ e a b, find e g'.edges = some (a, b) ↔ find e g.edges = some (a, b) ∧ ¬ (a = n ∨ b = n)
  rest : g'.directed = g.directed ∧ g'.nextNode = g.nextNode ∧ g'.nextEdge = g.nextEdge ∧ g'.root = g.root
  told : Notified g g'

theorem deleteNode_absent {g : G} {n : Nat} (h : g.hasNode n = false) : deleteNode n g = .exc g := by
  simp [deleteNode, h]

theorem deleteNode_spec {g : G} (hc : Consistent g) {n : Nat} (hn : g.hasNode n = true) :
    ∃ g', deleteNode n g = .ok () g' ∧ Consistent g' ∧ Deleted n g g' := by
  -- first loop: the outgoing relations of `n`
  obtain ⟨g1, h1, hc1, u1⟩ := unlinkMany_spec hc ((g.outKeys n).map (fun y => (n, y)))
    (fun p hp => by obtain ⟨y, hy, rfl⟩ := List.mem_map.1 hp; exact mem_outKeys.1 hy) (distinct_out _ n _ (asc_outKeys hc.sorted n))
  have r1 := rows_of_edges hc hc1 u1.rest.1 (fun hd a b h => h.elim (fun h => Or.inr ⟨hd, h⟩) (fun h => Or.inl h.2)) u1.edges
  have hO1 : ∀ y, g1.outE n y = none := by
    intro y
    rw [(r1 n y).1]; split
    · rfl
    · rename_i hr
      cases h : g.outE n y with
      | none => rfl
      | some e => exact absurd (Or.inl (List.mem_map.2 ⟨y, mem_outKeys.2 (by rw [h]; rfl), rfl⟩)) hr
  -- second loop: the relations towards `n` that are left
  obtain ⟨g2, h2, hc2, u2⟩ := unlinkMany_spec hc1 ((g1.inKeys n).map (fun y => (y, n)))
    (fun p hp => by
      obtain ⟨y, hy, rfl⟩ := List.mem_map.1 hp
      obtain ⟨e, he⟩ := Option.isSome_iff_exists.1 (mem_inKeys.1 hy)
      rw [hc1.views.in_some he]; rfl) (distinct_in _ n _ (asc_inKeys hc1.sorted n))
  have r2 := rows_of_edges hc1 hc2 u2.rest.1 (fun hd a b h => h.elim (fun h => Or.inr ⟨hd, h⟩) (fun h => Or.inl h.2)) u2.edges
  have hO2 : ∀ y, g2.outE n y = none := fun y => by rw [(r2 n y).1, hO1]; split <;> rfl
  have hI2 : ∀ y, g2.inE n y = none := by
    intro y
    rw [(r2 y n).2]; split
    · rfl
    · rename_i hr
      cases h : g1.inE n y with
      | none => rfl
      | some e => exact absurd (Or.inl (List.mem_map.2 ⟨y, mem_inKeys.2 (by rw [h]; rfl), rfl⟩)) hr
  have hn2 : g2.hasNode n = true := by rw [u2.hasNode, u1.hasNode]; exact hn
  -- views of the state without the row of `n`
  have hrow : ∀ x, find x (AL.erase n g2.nodes) = if n = x then none else find x g2.nodes := fun x => find_erase _ _ _
  have hN' : ∀ x, AL.has x (AL.erase n g2.nodes) = (!decide (x = n) && g2.hasNode x) := by
    intro x
    simp only [has, hrow, G.hasNode]
    by_cases h : n = x
    · subst h; simp
    · simp [h, Ne.symm h]
  have hOf : ∀ x y, (find x (AL.erase n g2.nodes)).bind (fun r => find y r.out) = if x = n then none else g2.outE x y := by
    intro x y
    simp only [hrow, G.outE]
    by_cases h : n = x
    · subst h; simp
    · simp [h, Ne.symm h]
  have hIf : ∀ x y, (find y (AL.erase n g2.nodes)).bind (fun r => find x r.inn) = if y = n then none else g2.inE y x := by
    intro x y
    simp only [hrow, G.inE]
    by_cases h : n = y
    · subst h; simp
    · simp [h, Ne.symm h]
  have hc' : Consistent { g2 with nodes := AL.erase n g2.nodes, pending := g2.pending ++ [.nodes [n]] } := by
    refine ⟨hc2.views.eraseNode n hO2 hI2 hN' hOf hIf, fun x hx => hc2.node_lt x ?_, hc2.edge_lt,
      asc_erase _ _ hc2.sorted.nodes, hc2.sorted.edges, fun x r hr => ?_⟩
    · have := (hN' x).symm.trans hx
      simp only [Bool.and_eq_true] at this; exact this.2
    · rw [show _ = find x (AL.erase n g2.nodes) from rfl, hrow] at hr
      split at hr
      · cases hr
      · exact hc2.sorted.rows x r hr
  -- the edges that are left are those that do not touch `n`
  have hnot : ∀ (d : Bool) (l : List Nat) (a b : Nat), a ≠ n → b ≠ n →
      ¬ Rel d (l.map (fun y => (n, y))) a b ∧ ¬ Rel d (l.map (fun y => (y, n))) a b := by
    intro d l a b ha hb
    simp only [Rel, List.mem_map, Prod.mk.injEq]
    constructor <;> rintro (⟨_, _, h1, h2⟩ | ⟨_, _, _, h1, h2⟩) <;> first | exact ha h1.symm | exact hb h1.symm | exact ha h2.symm | exact hb h2.symm
  have hE : ∀ e a b, find e g2.edges = some (a, b) ↔ find e g.edges = some (a, b) ∧ ¬ (a = n ∨ b = n) := by
    intro e a b
    rw [u2.edges, u1.edges]
    constructor
    · rintro ⟨⟨h, _⟩, hr2⟩
      refine ⟨h, ?_⟩
      have hl := hc2.views.edge_listed e a b ((u2.edges e a b).2 ⟨(u1.edges e a b).2 ⟨h, by assumption⟩, hr2⟩)
      rintro (rfl | rfl)
      · rw [hO2] at hl; cases hl.1
      · rw [hI2] at hl; cases hl.2.1
    · rintro ⟨h, hab⟩
      have ha : a ≠ n := fun h => hab (Or.inl h)
      have hb : b ≠ n := fun h => hab (Or.inr h)
      exact ⟨⟨h, (hnot _ _ a b ha hb).1⟩, (hnot _ _ a b ha hb).2⟩
  refine ⟨_, ?_, hc', ⟨fun x => ?_, ?_, ?_, ?_, hE, by simp [u2.rest, u1.rest], (u1.told.trans u2.told).trans ?_⟩⟩
  · simp only [deleteNode, hn, isolateOut_eq, h1, (u1.hasNode n).trans hn, isolateIn_eq, h2, hn2]
    simp
  · show AL.has x (AL.erase n g2.nodes) = _
    rw [hN', u2.hasNode, u1.hasNode]
  · show AL.keys (AL.erase n g2.nodes) = _
    rw [← u1.keys, ← u2.keys]
    simp [AL.keys, AL.erase, List.filter_map, Function.comp_def]
  · exact fun x y => (rows_of_edges hc hc' (by simp [u2.rest, u1.rest]) (fun _ a b h => h.symm) hE x y).1
  · exact fun x y => (rows_of_edges hc hc' (by simp [u2.rest, u1.rest]) (fun _ a b h => h.symm) hE x y).2
  · -- the row of `n` goes, and the observers are told so
    refine ⟨[.nodes [n]], rfl, fun x h3 h4 => ?_, fun e h3 h4 => nomatch h3.symm.trans h4⟩
    have h4 : AL.has x (AL.erase n g2.nodes) = false := h4
    rw [hN', h3, Bool.and_true] at h4
    simpa [notifiedNodes] using h4

theorem deleteNode_consistent {g : G} (hc : Consistent g) (n : Nat) : (deleteNode n g).All Consistent := by
  cases hn : g.hasNode n
  · rw [deleteNode_absent hn]; exact hc
  · obtain ⟨g', h, hc', _⟩ := deleteNode_spec hc hn
    rw [h]; exact hc'

theorem deleteNode_notified {g : G} (hc : Consistent g) (n : Nat) : Notified g (deleteNode n g).state := by
  cases hn : g.hasNode n
  · rw [deleteNode_absent hn]; exact .refl g
  · obtain ⟨g', h, _, d⟩ := deleteNode_spec hc hn
    rw [h]; exact d.told

/-! #### rebuilding the node table (`makeDirected`, `makeUndirected`) -/

/-- the first edge recorded for the relation x -> y in a list of triples -/
def first : List (Nat × Nat × Nat) → Nat → Nat → Option Nat
  | [], _, _ => none
  | (a, b, e) :: r, x, y => if a = x ∧ b = y then some e else first r x y

theorem first_mem {L : List (Nat × Nat × Nat)} {x y e : Nat} (h : first L x y = some e) : (x, y, e) ∈ L := by
  induction L with
  | nil => simp [first] at h
  | cons t r ih =>
    obtain ⟨a, b, e'⟩ := t
    simp only [first] at h
    split at h
    · rename_i hab; obtain ⟨rfl, rfl⟩ := hab; injection h with h; subst h; simp
    · exact List.mem_cons_of_mem _ (ih h)

theorem first_of_mem {L : List (Nat × Nat × Nat)} {x y e : Nat}
    (hfun : ∀ e1 e2, (x, y, e1) ∈ L → (x, y, e2) ∈ L → e1 = e2) (h : (x, y, e) ∈ L) : first L x y = some e := by
  induction L with
  | nil => cases h
  | cons t r ih =>
    obtain ⟨a, b, e'⟩ := t
    simp only [first]
    split
    · rename_i hab; obtain ⟨rfl, rfl⟩ := hab
      congr 1
      exact hfun e' e (by simp) h
    · rename_i hab
      simp only [List.mem_cons, Prod.mk.injEq] at h
      rcases h with ⟨rfl, rfl, rfl⟩ | h
      · exact absurd ⟨rfl, rfl⟩ hab
      · exact ih (fun e1 e2 h1 h2 => hfun e1 e2 (List.mem_cons_of_mem _ h1) (List.mem_cons_of_mem _ h2)) h

/-- folding `linkInNodeStructure_` over a list of triples -/
def rebuild (L : List (Nat × Nat × Nat)) (g : G) : G := L.foldl (fun acc t => linkInNode t.1 t.2.1 t.2.2 acc) g

theorem rebuild_eq (L : List (Nat × Nat × Nat)) (g : G) : rebuild L g = { g with nodes := (rebuild L g).nodes } := by
  induction L generalizing g with
  | nil => rfl
  | cons t r ih => exact ih (linkInNode t.1 t.2.1 t.2.2 g)

theorem hasNode_rebuild (L : List (Nat × Nat × Nat)) (g : G) (n : Nat) : (rebuild L g).hasNode n = g.hasNode n := by
  induction L generalizing g with
  | nil => rfl
  | cons t r ih => exact (ih _).trans (hasNode_linkInNode _ _ _ _ _)

theorem keys_rebuild (L : List (Nat × Nat × Nat)) (g : G) : AL.keys (rebuild L g).nodes = AL.keys g.nodes := by
  induction L generalizing g with
  | nil => rfl
  | cons t r ih => exact (ih _).trans (by simp [linkInNode, keys_modify])

theorem sorted_rebuild (L : List (Nat × Nat × Nat)) {g : G} (h : Sorted g) : Sorted (rebuild L g) := by
  induction L generalizing g with
  | nil => exact h
  | cons t r ih => exact ih (sorted_linkInNode _ _ _ _ h)

theorem outE_rebuild (L : List (Nat × Nat × Nat)) (g : G) (x y : Nat) :
    (rebuild L g).outE x y = (g.outE x y).orElse (fun _ => if g.hasNode x = true then first L x y else none) := by
  induction L generalizing g with
  | nil => simp [rebuild, first]
  | cons t r ih =>
    obtain ⟨a, b, e⟩ := t
    have := ih (linkInNode a b e g)
    simp only [rebuild, List.foldl_cons] at this ⊢
    rw [this, outE_linkInNode, hasNode_linkInNode]
    simp only [first]
    by_cases h1 : x = a <;> by_cases h2 : y = b
    · subst h1; subst h2
      cases hn : g.hasNode x <;> cases ho : g.outE x y <;> simp [hn, ho]
    · have : ¬ b = y := fun h => h2 h.symm
      simp [h1, h2, this]
    · have : ¬ a = x := fun h => h1 h.symm
      simp [h1, h2, this]
    · have : ¬ a = x := fun h => h1 h.symm
      simp [h1, h2, this]

theorem inE_rebuild (L : List (Nat × Nat × Nat)) (g : G) (x y : Nat) :
    (rebuild L g).inE y x = (g.inE y x).orElse (fun _ => if g.hasNode y = true then first L x y else none) := by
  induction L generalizing g with
  | nil => simp [rebuild, first]
  | cons t r ih =>
    obtain ⟨a, b, e⟩ := t
    have := ih (linkInNode a b e g)
    simp only [rebuild, List.foldl_cons] at this ⊢
    rw [this, inE_linkInNode, hasNode_linkInNode]
    simp only [first]
    by_cases h1 : x = a <;> by_cases h2 : y = b
    · subst h1; subst h2
      cases hn : g.hasNode y <;> cases ho : g.inE y x <;> simp [hn, ho]
    · have : ¬ b = y := fun h => h2 h.symm
      simp [h1, h2, this]
    · have : ¬ a = x := fun h => h1 h.symm
      simp [h1, h2, this]
    · have : ¬ a = x := fun h => h1 h.symm
      simp [h1, h2, this]

/-- the graph with every row emptied (GlobalGraph.cpp:841-844, 879-882) -/
def cleared (g : G) : G := { g with nodes := g.clearedNodes }

theorem find_cleared (g : G) (x : Nat) : find x g.cleared.nodes = (find x g.nodes).map (fun _ => ({} : Row)) :=
  find_map_val x (fun _ => ({} : Row)) g.nodes

theorem keys_cleared (g : G) : AL.keys g.cleared.nodes = AL.keys g.nodes :=
  keys_map_same (fun p => (p.1, ({} : Row))) (fun _ => rfl) _

theorem hasNode_cleared (g : G) (n : Nat) : g.cleared.hasNode n = g.hasNode n := by
  simp only [G.hasNode, has, find_cleared, Option.isSome_map]

theorem outE_cleared (g : G) (x y : Nat) : g.cleared.outE x y = none := by
  simp only [G.outE, find_cleared]; cases find x g.nodes <;> rfl

theorem inE_cleared (g : G) (x y : Nat) : g.cleared.inE y x = none := by
  simp only [G.inE, find_cleared]; cases find y g.nodes <;> rfl

theorem sorted_cleared {g : G} (hs : Sorted g) : Sorted g.cleared := by
  refine ⟨by show List.Pairwise _ _; rw [keys_cleared]; exact hs.nodes, hs.edges, fun n r hr => ?_⟩
  rw [find_cleared] at hr
  cases hf : find n g.nodes <;> rw [hf] at hr <;> cases hr
  exact ⟨asc_nil, asc_nil⟩

/-- the rows rebuilt on the emptied table from a list `L` of triples hold exactly the triples of `L`, when `L`
records one edge per ordered pair and mentions nodes of `g` only -/
structure Rebuilt (L : List (Nat × Nat × Nat)) (g g' : G) : Prop where
  hasNode : ∀ n, g'.hasNode n = g.hasNode n
  keys : AL.keys g'.nodes = AL.keys g.nodes
  outE : ∀ x y e, g'.outE x y = some e ↔ (x, y, e) ∈ L
  inE : ∀ x y e, g'.inE y x = some e ↔ (x, y, e) ∈ L
  sorted : Sorted g → Sorted g'

theorem rebuild_cleared {L : List (Nat × Nat × Nat)} {g : G}
    (hfun : ∀ x y e1 e2, (x, y, e1) ∈ L → (x, y, e2) ∈ L → e1 = e2)
    (hN : ∀ x y e, (x, y, e) ∈ L → g.hasNode x = true ∧ g.hasNode y = true) : Rebuilt L g (rebuild L g.cleared) := by
  have hfirst : ∀ x y e, first L x y = some e ↔ (x, y, e) ∈ L := fun x y e => ⟨first_mem, first_of_mem (hfun x y)⟩
  refine ⟨fun n => (hasNode_rebuild _ _ n).trans (hasNode_cleared g n), (keys_rebuild _ _).trans (keys_cleared g), ?_, ?_,
    fun hs => sorted_rebuild L (sorted_cleared hs)⟩
  · intro x y e
    rw [outE_rebuild, outE_cleared, hasNode_cleared, Option.orElse_none, ← hfirst]
    constructor
    · intro h; split at h
      · exact h
      · cases h
    · intro h; rwa [if_pos (hN x y e ((hfirst x y e).1 h)).1]
  · intro x y e
    rw [inE_rebuild, inE_cleared, hasNode_cleared, Option.orElse_none, ← hfirst]
    constructor
    · intro h; split at h
      · exact h
      · cases h
    · intro h; rwa [if_pos (hN x y e ((hfirst x y e).1 h)).2]

theorem mem_outTriples {g : G} (hs : Sorted g) (a b e : Nat) :
    (a, b, e) ∈ outTriples g.nodes ↔ g.outE a b = some e := by
  simp only [outTriples, List.mem_flatMap, List.mem_map, Prod.mk.injEq, G.outE]
  constructor
  · rintro ⟨⟨a', r⟩, hm, ⟨b', e'⟩, hq, rfl, rfl, rfl⟩
    have hf := (mem_iff_find hs.nodes a' r).mp hm
    have := (mem_iff_find (hs.rows a' r hf).1 b' e').mp hq
    simp [hf, this]
  · intro h
    rcases find_cases a g.nodes with hf | ⟨r, hf⟩
    · simp [hf] at h
    · simp only [hf, Option.bind_some] at h
      exact ⟨(a, r), find_some_mem hf, (b, e), find_some_mem h, rfl, rfl, rfl⟩

/-- the unordered pair of end points, as `containsReciprocalRelations` / `makeDirected` key it -/
def upair (t : Nat × Nat × Nat) : Nat × Nat := (min t.1 t.2.1, max t.1 t.2.1)

theorem upair_eq_iff (a b e c d e' : Nat) : upair (a, b, e) = upair (c, d, e') ↔ (a = c ∧ b = d) ∨ (a = d ∧ b = c) := by
  simp only [upair, Prod.mk.injEq, Nat.min_def, Nat.max_def]
  split <;> split <;> omega

theorem recipLoop_false (T : List (Nat × Nat × Nat)) (seen : List (Nat × Nat)) :
    recipLoop T seen = false ↔ (∀ t ∈ T, upair t ∉ seen) ∧ List.Pairwise (fun t u => upair t ≠ upair u) T := by
  induction T generalizing seen with
  | nil => simp [recipLoop]
  | cons t r ih =>
    obtain ⟨a, b, e⟩ := t
    simp only [recipLoop]
    by_cases hs : (min a b, max a b) ∈ seen
    · simp only [List.contains_iff_mem, hs, if_true]
      exact ⟨fun h => (by cases h), fun h => absurd hs (h.1 _ List.mem_cons_self)⟩
    · simp only [List.contains_iff_mem, hs, if_false, Bool.false_eq_true]
      rw [ih]
      simp only [List.mem_cons, List.pairwise_cons, upair]
      constructor
      · rintro ⟨h1, h2⟩
        refine ⟨?_, ?_, h2⟩
        · rintro t (rfl | ht)
          · exact hs
          · have := h1 t ht; intro hh; exact this (Or.inr hh)
        · intro u hu heq
          exact h1 u hu (Or.inl heq.symm)
      · rintro ⟨h1, h2, h3⟩
        refine ⟨?_, h3⟩
        intro u hu hh
        rcases hh with hh | hh
        · exact h2 u hu hh.symm
        · exact h1 u (Or.inr hu) hh

theorem pairwise_ne_of_mem {α : Type} {R : α → α → Prop} (hsym : ∀ a b, R a b → R b a) {l : List α}
    (h : List.Pairwise R l) {a b : α} (ha : a ∈ l) (hb : b ∈ l) (hne : a ≠ b) : R a b := by
  induction l with
  | nil => cases ha
  | cons c r ih =>
    rw [List.pairwise_cons] at h
    simp only [List.mem_cons] at ha hb
    rcases ha with rfl | ha <;> rcases hb with rfl | hb
    · exact absurd rfl hne
    · exact h.1 b hb
    · exact hsym _ _ (h.1 a ha)
    · exact ih h.2 ha hb

theorem eq_of_upair_eq {T : List (Nat × Nat × Nat)} (h : List.Pairwise (fun t u => upair t ≠ upair u) T)
    {t u : Nat × Nat × Nat} (ht : t ∈ T) (hu : u ∈ T) (heq : upair t = upair u) : t = u :=
  Classical.byContradiction fun hne => pairwise_ne_of_mem (fun _ _ h hh => h hh.symm) h ht hu hne heq

/-- no reciprocal relation A->B, B->A when the scan of `containsReciprocalRelations` finds none -/
theorem no_recip {g : G} (hs : Sorted g) (h : recipLoop (outTriples g.nodes) [] = false) {x y e e' : Nat}
    (h1 : g.outE x y = some e) (h2 : g.outE y x = some e') : x = y := by
  have := eq_of_upair_eq ((recipLoop_false _ _).mp h).2 ((mem_outTriples hs x y e).mpr h1) ((mem_outTriples hs y x e').mpr h2)
    ((upair_eq_iff ..).mpr (Or.inr ⟨rfl, rfl⟩))
  injection this

/-- both directions of every relation, in the order `makeUndirected` writes them -/
def bothWays (T : List (Nat × Nat × Nat)) : List (Nat × Nat × Nat) := T.flatMap (fun t => [t, (t.2.1, t.1, t.2.2)])

theorem undirect_fold (T : List (Nat × Nat × Nat)) (g0 : G) :
    T.foldl (fun acc t => linkInNode t.2.1 t.1 t.2.2 (linkInNode t.1 t.2.1 t.2.2 acc)) g0 = rebuild (bothWays T) g0 := by
  induction T generalizing g0 with
  | nil => rfl
  | cons t r ih => simp only [List.foldl_cons, ih, bothWays, List.flatMap_cons, rebuild, List.foldl_append, List.foldl_nil]

theorem mem_bothWays (T : List (Nat × Nat × Nat)) (x y e : Nat) :
    (x, y, e) ∈ bothWays T ↔ (x, y, e) ∈ T ∨ (y, x, e) ∈ T := by
  simp only [bothWays, List.mem_flatMap, List.mem_cons, List.not_mem_nil, or_false]
  constructor
  · rintro ⟨t, ht, rfl | h⟩
    · exact Or.inl ht
    · obtain ⟨a, b, e'⟩ := t; injection h with h1 h; injection h with h2 h3; subst h1; subst h2; subst h3; exact Or.inr ht
  · rintro (h | h)
    · exact ⟨_, h, Or.inl rfl⟩
    · exact ⟨_, h, Or.inr rfl⟩

theorem makeUndirected_already {g : G} (h : g.directed = false) : makeUndirected g = .ok () g := by simp [makeUndirected, h]

theorem makeUndirected_recip {g : G} (h : g.directed = true) (hr : recipLoop (outTriples g.nodes) [] = true) :
    makeUndirected g = .exc g := by simp [makeUndirected, h, hr]

/-- what `makeUndirected` did to a directed graph without reciprocal relations: the node rows are the symmetric
closure of the outgoing relation -/
structure Undirected (g g' : G) : Prop where
  hasNode : ∀ n, g'.hasNode n = g.hasNode n
  keys : AL.keys g'.nodes = AL.keys g.nodes
  outE : ∀ x y e, g'.outE x y = some e ↔ (g.outE x y = some e ∨ g.outE y x = some e)
  inE : ∀ x y e, g'.inE y x = some e ↔ (g.outE x y = some e ∨ g.outE y x = some e)
  rest : g'.edges = g.edges ∧ g'.directed = false ∧ g'.nextNode = g.nextNode ∧ g'.nextEdge = g.nextEdge ∧ g'.root = g.root
    ∧ g'.pending = g.pending

theorem undirected_of_rebuild {g : G} (hc : Consistent g) (hd : g.directed = true)
    (hnr : ∀ x y e e', g.outE x y = some e → g.outE y x = some e' → x = y) {L : List (Nat × Nat × Nat)}
    (hmem : ∀ x y e, (x, y, e) ∈ L ↔ (g.outE x y = some e ∨ g.outE y x = some e)) :
    Consistent { g with nodes := (rebuild L g.cleared).nodes, directed := false } ∧
      Undirected g { g with nodes := (rebuild L g.cleared).nodes, directed := false } := by
  have hv := hc.views
  rw [hd] at hv
  have hnodes : ∀ x y e, g.outE x y = some e → g.hasNode x = true ∧ g.hasNode y = true :=
    fun x y e h => ⟨hv.out_node x y e h, hv.in_node x y e (cons_out_some hc h).1⟩
  have hb : Rebuilt L g (rebuild L g.cleared) := by
    apply rebuild_cleared
    · intro x y e1 e2 h1 h2
      rcases (hmem x y e1).1 h1 with h1 | h1 <;> rcases (hmem x y e2).1 h2 with h2 | h2
      · exact Option.some.inj (h1.symm.trans h2)
      · cases hnr x y e1 e2 h1 h2; exact Option.some.inj (h1.symm.trans h2)
      · cases hnr x y e2 e1 h2 h1; exact Option.some.inj (h1.symm.trans h2)
      · exact Option.some.inj (h1.symm.trans h2)
    · intro x y e h
      rcases (hmem x y e).1 h with h | h
      · exact hnodes x y e h
      · exact (hnodes y x e h).symm
  have hO := fun x y e => (hb.outE x y e).trans (hmem x y e)
  have hI := fun x y e => (hb.inE x y e).trans (hmem x y e)
  refine ⟨⟨ConsV.of_triples hb.outE hb.inE ?_ ?_, fun n hn => hc.node_lt n ((hb.hasNode n).symm.trans hn), hc.edge_lt,
    ⟨(hb.sorted hc.sorted).nodes, hc.sorted.edges, (hb.sorted hc.sorted).rows⟩⟩,
    ⟨hb.hasNode, hb.keys, hO, hI, rfl, rfl, rfl, rfl, rfl, rfl⟩⟩
  · intro e a b h
    have := (hv.edge_listed e a b h).1
    exact ⟨(hmem a b e).2 (Or.inl this), fun _ => (hmem b a e).2 (Or.inr this)⟩
  · intro a b e h
    rcases (hmem a b e).1 h with h | h
    · exact ⟨Or.inl ((hv.out_edge a b e h).resolve_right (fun h => nomatch h.1)),
        (hb.hasNode a).trans (hnodes a b e h).1, (hb.hasNode b).trans (hnodes a b e h).2⟩
    · exact ⟨Or.inr ⟨rfl, (hv.out_edge b a e h).resolve_right (fun h => nomatch h.1)⟩,
        (hb.hasNode a).trans (hnodes b a e h).2, (hb.hasNode b).trans (hnodes b a e h).1⟩

theorem makeUndirected_spec {g : G} (hc : Consistent g) (hd : g.directed = true)
    (hr : recipLoop (outTriples g.nodes) [] = false) :
    ∃ g', makeUndirected g = .ok () g' ∧ Consistent g' ∧ Undirected g g' := by
  refine ⟨{ g with nodes := (rebuild (bothWays (outTriples g.nodes)) g.cleared).nodes, directed := false }, ?_,
    undirected_of_rebuild hc hd (fun x y e e' => no_recip hc.sorted hr) (fun x y e => ?_)⟩
  · unfold makeUndirected
    rw [if_neg (by simp [hd]), if_neg (by simp [hr])]
    exact congrArg (fun g1 : G => GOut.ok () { g1 with directed := false })
      ((undirect_fold (outTriples g.nodes) g.cleared).trans (rebuild_eq _ _))
  · rw [mem_bothWays, mem_outTriples hc.sorted, mem_outTriples hc.sorted]

theorem makeUndirected_notified {g : G} (hc : Consistent g) : Notified g (makeUndirected g).state := by
  cases hd : g.directed
  · rw [makeUndirected_already hd]; exact Notified.refl g
  · cases hr : recipLoop (outTriples g.nodes) []
    · obtain ⟨g', h, _, u⟩ := makeUndirected_spec hc hd hr
      rw [h]
      apply Notified.of_superset u.rest.2.2.2.2.2
      · intro n h; rw [u.hasNode]; exact h
      · intro e h; simp only [G.hasEdge, u.rest.1] at h ⊢; exact h
    · rw [makeUndirected_recip hd hr]; exact Notified.refl g

/-- the triples `makeDirected` keeps: those whose unordered pair was not met before -/
def keptOf : List (Nat × Nat × Nat) → List (Nat × Nat) → List (Nat × Nat × Nat)
  | [], _ => []
  | t :: r, seen => if upair t ∈ seen then keptOf r seen else t :: keptOf r (upair t :: seen)

/-- what is done for a kept triple: node rows, then edge table -/
def keepStep (acc : G) (t : Nat × Nat × Nat) : G := linkInEdge t.1 t.2.1 t.2.2 (linkInNode t.1 t.2.1 t.2.2 acc)

theorem makeDirected_fold (T : List (Nat × Nat × Nat)) (g0 : G) (seen : List (Nat × Nat)) :
    (T.foldl makeDirectedStep (g0, seen)).1 = (keptOf T seen).foldl keepStep g0 := by
  induction T generalizing g0 seen with
  | nil => rfl
  | cons t r ih =>
    obtain ⟨a, b, e⟩ := t
    simp only [List.foldl_cons, keptOf, makeDirectedStep, upair]
    by_cases hs : (min a b, max a b) ∈ seen
    · simp only [List.contains_iff_mem, hs, if_true]; exact ih g0 seen
    · simp only [List.contains_iff_mem, hs, if_false, List.foldl_cons]; exact ih _ _

/-- the edge table after the kept triples have been written -/
def setAll (K : List (Nat × Nat × Nat)) (es : List (Nat × (Nat × Nat))) : List (Nat × (Nat × Nat)) :=
  K.foldl (fun es t => AL.set t.2.2 (t.1, t.2.1) es) es

theorem rebuild_edges (L : List (Nat × Nat × Nat)) (g : G) (es : List (Nat × (Nat × Nat))) :
    rebuild L { g with edges := es } = { rebuild L g with edges := es } := by
  induction L generalizing g with
  | nil => rfl
  | cons t r ih =>
    simp only [rebuild, List.foldl_cons] at ih ⊢
    exact ih (linkInNode t.1 t.2.1 t.2.2 g)

theorem keep_fold (K : List (Nat × Nat × Nat)) (g0 : G) :
    K.foldl keepStep g0 = { rebuild K g0 with edges := setAll K g0.edges } := by
  induction K generalizing g0 with
  | nil => rfl
  | cons t r ih =>
    rw [List.foldl_cons, ih]
    have : keepStep g0 t = { linkInNode t.1 t.2.1 t.2.2 g0 with edges := AL.set t.2.2 (t.1, t.2.1) g0.edges } := rfl
    rw [this, rebuild_edges]
    rfl

theorem find_setAll_not_mem (K : List (Nat × Nat × Nat)) (es : List (Nat × (Nat × Nat))) (e : Nat)
    (h : ∀ a b, (a, b, e) ∉ K) : find e (setAll K es) = find e es := by
  induction K generalizing es with
  | nil => rfl
  | cons t r ih =>
    obtain ⟨a, b, e'⟩ := t
    simp only [setAll, List.foldl_cons] at ih ⊢
    rw [ih _ (fun a b hm => h a b (List.mem_cons_of_mem _ hm)), find_set]
    have : ¬ e' = e := by intro hh; subst hh; exact h a b (by simp)
    simp [this]

theorem find_setAll_mem (K : List (Nat × Nat × Nat)) (es : List (Nat × (Nat × Nat))) (e a b : Nat)
    (hfun : ∀ a1 b1 a2 b2, (a1, b1, e) ∈ K → (a2, b2, e) ∈ K → a1 = a2 ∧ b1 = b2) (h : (a, b, e) ∈ K) :
    find e (setAll K es) = some (a, b) := by
  induction K generalizing es with
  | nil => cases h
  | cons t r ih =>
    obtain ⟨a', b', e'⟩ := t
    simp only [setAll, List.foldl_cons] at ih ⊢
    by_cases hr : ∃ a2 b2, (a2, b2, e) ∈ r
    · obtain ⟨a2, b2, h2⟩ := hr
      have := hfun a b a2 b2 h (List.mem_cons_of_mem _ h2)
      obtain ⟨rfl, rfl⟩ := this
      exact ih _ (fun a1 b1 a2 b2 h1 h2 => hfun a1 b1 a2 b2 (List.mem_cons_of_mem _ h1) (List.mem_cons_of_mem _ h2)) h2
    · have hr' : ∀ a2 b2, (a2, b2, e) ∉ r := fun a2 b2 hm => hr ⟨a2, b2, hm⟩
      have := find_setAll_not_mem r (AL.set e' (a', b') es) e hr'
      simp only [setAll] at this
      rw [this, find_set]
      simp only [List.mem_cons, Prod.mk.injEq] at h
      rcases h with ⟨rfl, rfl, rfl⟩ | h
      · simp
      · exact absurd h (hr' a b)

theorem asc_setAll (K : List (Nat × Nat × Nat)) (es : List (Nat × (Nat × Nat))) (h : Asc es) : Asc (setAll K es) := by
  induction K generalizing es with
  | nil => exact h
  | cons t r ih => simp only [setAll, List.foldl_cons] at ih ⊢; exact ih _ (asc_set _ _ _ h)

theorem keptOf_sub (T : List (Nat × Nat × Nat)) (seen : List (Nat × Nat)) : ∀ t ∈ keptOf T seen, t ∈ T := by
  induction T generalizing seen with
  | nil => intro t h; cases h
  | cons c r ih =>
    intro t h
    simp only [keptOf] at h
    split at h
    · exact List.mem_cons_of_mem _ (ih seen t h)
    · simp only [List.mem_cons] at h
      rcases h with rfl | h
      · simp
      · exact List.mem_cons_of_mem _ (ih _ t h)

theorem keptOf_covers (T : List (Nat × Nat × Nat)) (seen : List (Nat × Nat)) :
    ∀ t ∈ T, upair t ∈ seen ∨ ∃ u ∈ keptOf T seen, upair u = upair t := by
  induction T generalizing seen with
  | nil => intro t h; cases h
  | cons c r ih =>
    intro t ht
    simp only [List.mem_cons] at ht
    simp only [keptOf]
    by_cases hs : upair c ∈ seen
    · simp only [hs, if_true]
      rcases ht with rfl | ht
      · exact Or.inl hs
      · exact ih seen t ht
    · simp only [hs, if_false]
      rcases ht with rfl | ht
      · exact Or.inr ⟨t, by simp, rfl⟩
      · rcases ih (upair c :: seen) t ht with h | ⟨u, hu, he⟩
        · simp only [List.mem_cons] at h
          rcases h with h | h
          · exact Or.inr ⟨c, by simp, h.symm⟩
          · exact Or.inl h
        · exact Or.inr ⟨u, List.mem_cons_of_mem _ hu, he⟩

theorem keptOf_distinct (T : List (Nat × Nat × Nat)) (seen : List (Nat × Nat)) :
    (∀ u ∈ keptOf T seen, upair u ∉ seen) ∧ List.Pairwise (fun t u => upair t ≠ upair u) (keptOf T seen) := by
  induction T generalizing seen with
  | nil => simp [keptOf]
  | cons c r ih =>
    simp only [keptOf]
    by_cases hs : upair c ∈ seen
    · simp only [hs, if_true]; exact ih seen
    · simp only [hs, if_false]
      have := ih (upair c :: seen)
      constructor
      · intro u hu
        simp only [List.mem_cons] at hu
        rcases hu with rfl | hu
        · exact hs
        · have := this.1 u hu; intro hh; exact this (List.mem_cons_of_mem _ hh)
      · rw [List.pairwise_cons]
        refine ⟨?_, this.2⟩
        intro u hu heq
        exact this.1 u hu (by rw [← heq]; simp)

theorem makeDirected_already {g : G} (h : g.directed = true) : makeDirected g = g := by simp [makeDirected, h]

/-- what `makeDirected` did to an undirected graph, in terms of the kept triples `K` -/
structure Directed (K : List (Nat × Nat × Nat)) (g g' : G) : Prop where
  hasNode : ∀ n, g'.hasNode n = g.hasNode n
  keys : AL.keys g'.nodes = AL.keys g.nodes
  outE : ∀ x y e, g'.outE x y = some e ↔ (x, y, e) ∈ K
  inE : ∀ x y e, g'.inE y x = some e ↔ (x, y, e) ∈ K
  edges : ∀ e a b, find e g'.edges = some (a, b) ↔ (a, b, e) ∈ K
  /-- every kept triple is one direction of an edge of `g`, and every edge is kept in exactly one direction -/
  kept_sub : ∀ a b e, (a, b, e) ∈ K → g.outE a b = some e
  kept_all : ∀ a b e, g.outE a b = some e → ((a, b, e) ∈ K ∨ (b, a, e) ∈ K)
  kept_one : ∀ a b e, (a, b, e) ∈ K → (b, a, e) ∈ K → a = b
  rest : g'.directed = true ∧ g'.nextNode = g.nextNode ∧ g'.nextEdge = g.nextEdge ∧ g'.root = g.root ∧ g'.pending = g.pending

theorem directed_of_rebuild {g : G} (hc : Consistent g) (hd : g.directed = false) {K : List (Nat × Nat × Nat)}
    (hsub : ∀ a b e, (a, b, e) ∈ K → g.outE a b = some e)
    (hdist : List.Pairwise (fun t u => upair t ≠ upair u) K)
    (hcov : ∀ a b e, g.outE a b = some e → ∃ u ∈ K, upair u = upair (a, b, e)) :
    Consistent { g with nodes := (rebuild K g.cleared).nodes, edges := setAll K g.edges, directed := true } ∧
      Directed K g { g with nodes := (rebuild K g.cleared).nodes, edges := setAll K g.edges, directed := true } := by
  have hv := hc.views
  rw [hd] at hv
  -- in an undirected consistent graph both directions carry the same edge
  have hsym : ∀ a b e, g.outE a b = some e → g.outE b a = some e := fun a b e h => ((cons_out_some hc h).2.2 hd).1
  have hall : ∀ a b e, g.outE a b = some e → ((a, b, e) ∈ K ∨ (b, a, e) ∈ K) := by
    intro a b e h
    obtain ⟨⟨a', b', e'⟩, hu, he⟩ := hcov a b e h
    have ho := hsub a' b' e' hu
    rcases (upair_eq_iff ..).mp he with ⟨rfl, rfl⟩ | ⟨rfl, rfl⟩
    · cases Option.some.inj (h.symm.trans ho); exact Or.inl hu
    · cases Option.some.inj ((hsym _ _ _ h).symm.trans ho); exact Or.inr hu
  have hone : ∀ a b e, (a, b, e) ∈ K → (b, a, e) ∈ K → a = b := by
    intro a b e h1 h2
    injection eq_of_upair_eq hdist h1 h2 ((upair_eq_iff ..).mpr (Or.inr ⟨rfl, rfl⟩))
  have hNx : ∀ x y e, (x, y, e) ∈ K → g.hasNode x = true ∧ g.hasNode y = true :=
    fun x y e h => ⟨hv.out_node x y e (hsub x y e h), hv.in_node x y e (cons_out_some hc (hsub x y e h)).1⟩
  have hb : Rebuilt K g (rebuild K g.cleared) :=
    rebuild_cleared (fun x y e1 e2 h1 h2 => Option.some.inj ((hsub x y e1 h1).symm.trans (hsub x y e2 h2))) hNx
  -- a kept triple determines the end points of its edge
  have hfunE : ∀ e a1 b1 a2 b2, (a1, b1, e) ∈ K → (a2, b2, e) ∈ K → a1 = a2 ∧ b1 = b2 := by
    intro e a1 b1 a2 b2 h1 h2
    have hp : upair (a1, b1, e) = upair (a2, b2, e) := by
      rw [upair_eq_iff]
      rcases hv.out_edge _ _ _ (hsub _ _ _ h1) with e1 | ⟨_, e1⟩ <;>
        rcases hv.out_edge _ _ _ (hsub _ _ _ h2) with e2 | ⟨_, e2⟩ <;>
        cases Option.some.inj (e1.symm.trans e2)
      · exact Or.inl ⟨rfl, rfl⟩
      · exact Or.inr ⟨rfl, rfl⟩
      · exact Or.inr ⟨rfl, rfl⟩
      · exact Or.inl ⟨rfl, rfl⟩
    cases eq_of_upair_eq hdist h1 h2 hp
    exact ⟨rfl, rfl⟩
  have hE : ∀ e a b, find e (setAll K g.edges) = some (a, b) ↔ (a, b, e) ∈ K := by
    intro e a b
    refine ⟨fun h => ?_, find_setAll_mem K g.edges e a b (hfunE e)⟩
    by_cases hk : ∃ a2 b2, (a2, b2, e) ∈ K
    · obtain ⟨a2, b2, h2⟩ := hk
      rw [find_setAll_mem K g.edges e a2 b2 (hfunE e) h2] at h
      cases h; exact h2
    · have hk' : ∀ a2 b2, (a2, b2, e) ∉ K := fun a2 b2 hm => hk ⟨a2, b2, hm⟩
      rw [find_setAll_not_mem K g.edges e hk'] at h
      exact (hall a b e (hv.edge_listed e a b h).1).resolve_right (hk' b a)
  refine ⟨⟨ConsV.of_triples hb.outE hb.inE (fun e a b h => ⟨(hE e a b).1 h, fun h => nomatch h⟩) ?_,
      fun n hn => hc.node_lt n ((hb.hasNode n).symm.trans hn), ?_,
      ⟨(hb.sorted hc.sorted).nodes, asc_setAll K g.edges hc.sorted.edges, (hb.sorted hc.sorted).rows⟩⟩,
    ⟨hb.hasNode, hb.keys, hb.outE, hb.inE, hE, hsub, hall, hone, rfl, rfl, rfl, rfl, rfl⟩⟩
  · intro a b e h
    exact ⟨Or.inl ((hE e a b).2 h), (hb.hasNode a).trans (hNx a b e h).1, (hb.hasNode b).trans (hNx a b e h).2⟩
  · intro e he
    rcases find_cases e (setAll K g.edges) with hf | ⟨⟨a, b⟩, hf⟩
    · simp [G.hasEdge, has, hf] at he
    · exact hc.edge_lt e (cons_out_some hc (hsub a b e ((hE e a b).1 hf))).2.1

theorem makeDirected_spec {g : G} (hc : Consistent g) (hd : g.directed = false) :
    Consistent (makeDirected g) ∧ Directed (keptOf (outTriples g.nodes) []) g (makeDirected g) := by
  have hrun : makeDirected g =
      { g with nodes := (rebuild (keptOf (outTriples g.nodes) []) g.cleared).nodes,
               edges := setAll (keptOf (outTriples g.nodes) []) g.edges, directed := true } := by
    unfold makeDirected
    rw [if_neg (by simp [hd])]
    dsimp only
    rw [makeDirected_fold, keep_fold]
    exact congrArg (fun g1 : G => { g1 with edges := setAll (keptOf (outTriples g.nodes) []) g.edges, directed := true })
      (rebuild_eq _ g.cleared)
  rw [hrun]
  refine directed_of_rebuild hc hd (fun a b e h => (mem_outTriples hc.sorted a b e).mp (keptOf_sub _ [] _ h))
    (keptOf_distinct _ []).2 (fun a b e h => ?_)
  exact (keptOf_covers _ [] _ ((mem_outTriples hc.sorted a b e).mpr h)).resolve_left (fun h => nomatch h)

theorem makeDirected_consistent {g : G} (hc : Consistent g) : Consistent (makeDirected g) := by
  cases hd : g.directed
  · exact (makeDirected_spec hc hd).1
  · rw [makeDirected_already hd]; exact hc

theorem makeDirected_notified {g : G} (hc : Consistent g) : Notified g (makeDirected g) := by
  cases hd : g.directed
  · obtain ⟨hc', d⟩ := makeDirected_spec hc hd
    apply Notified.of_superset d.rest.2.2.2.2
    · intro n h; rw [d.hasNode]; exact h
    · intro e h
      simp only [G.hasEdge, has] at h ⊢
      rcases find_cases e g.edges with hf | ⟨⟨a, b⟩, hf⟩
      · simp [hf] at h
      · have ho := (hc.views.edge_listed e a b hf).1
        rcases d.kept_all a b e ho with hk | hk
        · rw [(d.edges e a b).mpr hk]; rfl
        · rw [(d.edges e b a).mpr hk]; rfl
  · rw [makeDirected_already hd]; exact Notified.refl g

/-! the primitives that edit nodes and relations leave the direction flag alone -/

theorem dir_createNode (g : G) : (createNode g).All (fun g' => g'.directed = g.directed) := rfl

theorem dir_link (g : G) (a b : Nat) : (link a b g).All (fun g' => g'.directed = g.directed) := by
  unfold link
  split
  · exact rfl
  · exact (linkWrite_rest _ _ _ _).1

theorem dir_linkE (g : G) (a b e : Nat) : (linkE a b e g).All (fun g' => g'.directed = g.directed) := by
  unfold linkE
  split
  · exact rfl
  · split
    · exact rfl
    · refine (linkWrite_rest _ _ _ _).1.trans ?_
      split <;> rfl

theorem dir_unlink {g : G} (hc : Consistent g) (a b : Nat) : (unlink a b g).All (fun g' => g'.directed = g.directed) := by
  rcases hO : g.outE a b with _ | e
  · rw [unlink_none hO]; exact rfl
  · obtain ⟨g', h, u⟩ := unlink_some hc hO
    rw [h]; exact u.rest.1

theorem dir_deleteNode {g : G} (hc : Consistent g) (n : Nat) : (deleteNode n g).All (fun g' => g'.directed = g.directed) := by
  cases hn : g.hasNode n
  · rw [deleteNode_absent hn]; exact rfl
  · obtain ⟨g', h, _, d⟩ := deleteNode_spec hc hn
    rw [h]; exact d.rest.1

theorem dir_setRoot (g : G) (n : Nat) : (setRoot n g).All (fun g' => g'.directed = g.directed) := by
  unfold setRoot; split <;> exact rfl

theorem dir_switchNodes (g : G) (a b : Nat) : (switchNodes a b g).All (fun g' => g'.directed = g.directed) := by
  rcases hr : switchNodes a b g with ⟨u, g'⟩ | g'
  · obtain ⟨_, f, s, e, sw⟩ := switchNodes_ok hr; exact sw.rest.1
  · rw [switchNodes_exc hr]; exact rfl

end G
end Graph
end Bpp
