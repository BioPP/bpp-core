import BppModel.ObserverExt
import BppProofs.Lemmas.ObserverWorld
import BppProofs.Lemmas.GraphOrient
/-!
Helper lemmas for `Props/C14Copy.lean`: ownership of the objects stored by the identity-level copy
constructor, its agreement with the label-level `copyObs`, and the world invariant across the
members added in `BppModel/ObserverExt.lean`.
-/
namespace Bpp.Graph
open Bpp.AL

namespace IObs

theorem vecOwned_replicate (k n : Nat) : vecOwned k (List.replicate n none) = true := by
  simp [vecOwned]

theorem vecOwned_put {k : Nat} {v : IVec} (h : vecOwned k v = true) (i : Nat) (a : Ident) (ha : a.owner = k) :
    vecOwned k (put v i (some a)) = true := by
  simp only [vecOwned, List.all_eq_true] at h ⊢
  intro x hx
  rcases List.mem_or_eq_of_mem_set hx with hm | he
  · exact h x hm
  · subst he; simp [ha]

/-- a vector filled by stores of objects owned by `k` only holds objects owned by `k` -/
theorem vecOwned_foldl {k : Nat} {β : Type} (l : List β) (idx : β → Nat) (obj : β → Ident)
    (ho : ∀ p ∈ l, (obj p).owner = k) (v : IVec) (hv : vecOwned k v = true) :
    vecOwned k (l.foldl (fun v p => put v (idx p) (some (obj p))) v) = true := by
  induction l generalizing v with
  | nil => exact hv
  | cons p r ih =>
    simp only [List.foldl_cons]
    exact ih (fun q hq => ho q (List.mem_cons_of_mem _ hq)) _ (vecOwned_put hv _ _ (ho p List.mem_cons_self))

theorem mapOwned_of {k : Nat} {m : List (Ident × Nat)} (h : ∀ p ∈ m, p.1.owner = k) : mapOwned k m = true := by
  simp only [mapOwned, List.all_eq_true]
  intro p hp; simp [h p hp]

theorem vecOwned_iff (k : Nat) (v : IVec) : vecOwned k v = true ↔ ∀ a ∈ v.filterMap id, a.owner = k := by
  simp only [vecOwned, List.all_eq_true, List.mem_filterMap, id]
  constructor
  · intro h a ⟨x, hx, hxa⟩
    have := h x hx; subst hxa; simpa using this
  · intro h x hx
    cases x with
    | none => rfl
    | some a => simpa using h a ⟨some a, hx, rfl⟩

theorem mapOwned_iff (k : Nat) (m : List (Ident × Nat)) : mapOwned k m = true ↔ ∀ a ∈ m.map (·.1), a.owner = k := by
  simp only [mapOwned, List.all_eq_true, List.mem_map]
  constructor
  · intro h a ⟨p, hp, hpa⟩; subst hpa; simpa using h p hp
  · intro h p hp; simpa using h p.1 ⟨p, hp, rfl⟩

theorem foreign_none_iff_owned (k : Nat) (s : IObs) : s.foreign k = none ↔
    (vecOwned k s.gN = true ∧ vecOwned k s.gE = true ∧ mapOwned k s.Ng = true ∧ mapOwned k s.Eg = true ∧
     vecOwned k s.iN = true ∧ vecOwned k s.iE = true ∧ mapOwned k s.Ni = true ∧ mapOwned k s.Ei = true) := by
  simp only [foreign, ite_some_eq_none, Bool.not_eq_true', Bool.not_eq_false, and_true]

/-- `foreign k s = none` says exactly: every object in any of the eight maps is owned by `k` -/
theorem foreign_none_iff (k : Nat) (s : IObs) : s.foreign k = none ↔ ∀ a ∈ s.objects, a.owner = k := by
  simp only [foreign_none_iff_owned, vecOwned_iff, mapOwned_iff, objects, List.mem_append, or_imp, forall_and, and_assoc]

theorem copyI_foreign (k : Nat) (s : IObs) : (copyI k s).foreign k = none := by
  have hfm : ∀ (ng ni : List (Ident × Nat)),
      ∀ p ∈ ng.filterMap (fun p => (ifind p.1 ni).map (fun i => ((⟨k, p.1.label⟩ : Ident), i))), p.1.owner = k := by
    intro ng ni p hp
    rw [List.mem_filterMap] at hp
    obtain ⟨q, _, hq⟩ := hp
    rcases hf : ifind q.1 ni with _ | i <;> simp [hf] at hq
    rw [← hq]
  rw [foreign_none_iff_owned]
  unfold copyI
  refine ⟨?_, ?_, ?_, ?_, ?_, ?_, ?_, ?_⟩
  · exact vecOwned_foldl s.Ng (·.2) (fun p => ⟨k, p.1.label⟩) (fun _ _ => rfl) _ (vecOwned_replicate _ _)
  · exact vecOwned_foldl s.Eg (·.2) (fun p => ⟨k, p.1.label⟩) (fun _ _ => rfl) _ (vecOwned_replicate _ _)
  · exact mapOwned_of (by intro p hp; rw [List.mem_map] at hp; obtain ⟨q, _, hq⟩ := hp; rw [← hq])
  · exact mapOwned_of (by intro p hp; rw [List.mem_map] at hp; obtain ⟨q, _, hq⟩ := hp; rw [← hq])
  · exact vecOwned_foldl (β := Ident × Nat) _ (fun p => p.2) (fun p => p.1) (hfm s.Ng s.Ni) _ (vecOwned_replicate _ _)
  · exact vecOwned_foldl (β := Ident × Nat) _ (fun p => p.2) (fun p => p.1) (hfm s.Eg s.Ei) _ (vecOwned_replicate _ _)
  · exact mapOwned_of (hfm s.Ng s.Ni)
  · exact mapOwned_of (hfm s.Eg s.Ei)

/-! ### forgetting the owners gives back the label-level copy -/

def tv (k : Nat) (v : Vec) : IVec := v.map (fun x => x.map (fun a => (⟨k, a⟩ : Ident)))
def tm (k : Nat) (m : List (Nat × Nat)) : List (Ident × Nat) := m.map (fun p => ((⟨k, p.1⟩ : Ident), p.2))

theorem tag_eq (k : Nat) (o : Obs) :
    o.tag k = { gN := tv k o.gN, gE := tv k o.gE, Ng := tm k o.Ng, Eg := tm k o.Eg,
                iN := tv k o.iN, iE := tv k o.iE, Ni := tm k o.Ni, Ei := tm k o.Ei } := rfl

theorem vecOwned_tv (k : Nat) (v : Vec) : vecOwned k (tv k v) = true := by
  simp only [vecOwned, tv, List.all_map, List.all_eq_true]
  intro x _; cases x <;> simp

theorem mapOwned_tm (k : Nat) (m : List (Nat × Nat)) : mapOwned k (tm k m) = true := by
  simp [mapOwned, tm, List.all_map]

theorem ifind_tm (j a : Nat) (m : List (Nat × Nat)) : ifind ⟨j, a⟩ (tm j m) = find a m := by
  induction m with
  | nil => rfl
  | cons p r ih =>
    obtain ⟨b, v⟩ := p
    simp only [tm, List.map_cons, ifind, find] at ih ⊢
    by_cases h : b = a
    · subst h; simp
    · have : ¬ ((⟨j, b⟩ : Ident) = ⟨j, a⟩) := by intro hh; injection hh with _ hh; exact h hh
      simp only [this, h, if_false]; exact ih

theorem tv_foldl (k : Nat) (l : List (Nat × Nat)) (acc : Vec) :
    tv k (l.foldl (fun v p => Vec.put v p.2 (some p.1)) acc) =
      l.foldl (fun v p => put v p.2 (some (⟨k, p.1⟩ : Ident))) (tv k acc) := by
  induction l generalizing acc with
  | nil => rfl
  | cons p r ih =>
    simp only [List.foldl_cons]
    rw [ih]
    congr 1
    simp [tv, Vec.put, put, List.map_set]

theorem tv_replicate (k n : Nat) : tv k (List.replicate n none) = List.replicate n none := by
  simp [tv]

theorem tv_length (k : Nat) (v : Vec) : (tv k v).length = v.length := by simp [tv]

/-- rebuilding a slot vector from tagged pairs -/
theorem rebuild_tm (j k n : Nat) (m : List (Nat × Nat)) :
    (tm j m).foldl (fun v p => put v p.2 (some (⟨k, p.1.label⟩ : Ident))) (List.replicate n none) =
      tv k (m.foldl (fun v p => Vec.put v p.2 (some p.1)) (List.replicate n none)) := by
  rw [tv_foldl, tv_replicate, tm, List.foldl_map]

theorem restrict_tm (j k : Nat) (ng ni : List (Nat × Nat)) :
    (tm j ng).filterMap (fun p => (ifind p.1 (tm j ni)).map (fun i => ((⟨k, p.1.label⟩ : Ident), i))) =
      tm k (ng.filterMap (fun p => (find p.1 ni).map (fun i => (p.1, i)))) := by
  simp only [tm, List.filterMap_map, List.map_filterMap]
  congr 1
  funext p
  have := ifind_tm j p.1 ni
  simp only [tm] at this
  simp only [Function.comp, this, Option.map_map]
  rfl

theorem rebuild_tm_self (k n : Nat) (m : List (Nat × Nat)) :
    (tm k m).foldl (fun v p => put v p.2 (some p.1)) (List.replicate n none) =
      tv k (m.foldl (fun v p => Vec.put v p.2 (some p.1)) (List.replicate n none)) := by
  rw [tv_foldl, tv_replicate, tm, List.foldl_map]

theorem copyI_tag (j k : Nat) (o : Obs) : copyI k (o.tag j) = (World.copyObs o).tag k := by
  rw [tag_eq, tag_eq]
  unfold copyI World.copyObs
  simp only [tv_length, rebuild_tm, restrict_tm, rebuild_tm_self]
  congr 1 <;> simp [tm, List.map_map, Function.comp]

end IObs

/-! ### the world invariant across the added members -/

theorem World.assign_ok {w w' : World} {j k : Nat} {o : Obs} {u : Unit} (hj : w.getObs j = some o) (hjk : j ≠ k)
    (h : w.assign j k = .ok u w') : w' = w.setObs k (World.copyObs o) ∧ k < w.obs.length := by
  unfold World.assign at h
  rw [hj] at h
  rcases hk : w.getObs k with _ | o2 <;> rw [hk] at h
  · cases h
  · simp only [hjk, if_false] at h
    split at h
    · cases h
    · injection h with _ h; exact ⟨h.symm, getObs_lt hk⟩

theorem world_assign_step (w : World) (j k : Nat) : (w.assign j k).All (World.ObsStep w) := by
  unfold World.assign
  rcases hj : w.getObs j with _ | o
  · trivial
  · rcases hk : w.getObs k with _ | o2
    · trivial
    · simp only
      split
      · exact ⟨rfl, rfl, id⟩
      · split
        · trivial
        · exact ⟨setObs_len _ _ _, rfl, fun hw => winv_same_graph hw k _ (getObs_lt hk) (copyObs_inv (hw.obs j o hj))⟩

theorem world_attach_inv {w : World} (hw : WInv w) (k : Nat) : (w.attach k).All WInv := by
  unfold World.attach
  split
  · trivial
  · rename_i h
    simp only [Bool.or_eq_true, decide_eq_true_eq, not_or] at h
    exact winv_same_graph hw k _ (by omega) (oinv_empty _)

theorem setRoot_keeps (n : Nat) (g : G) :
    (G.setRoot n g).state.pending = g.pending ∧ (∀ m, (G.setRoot n g).state.hasNode m = g.hasNode m) ∧
    (∀ e, (G.setRoot n g).state.hasEdge e = g.hasEdge e) := by
  unfold G.setRoot
  split <;> simp [GOut.state, G.hasNode, G.hasEdge]

theorem world_setRootObj_step (w : World) (k a : Nat) : (w.setRootObj k a).All (World.Step w) := by
  unfold World.setRootObj
  rcases w.getObs k with _ | o
  · trivial
  · simp only
    rcases find a o.Ng with _ | id
    · exact World.Step.refl w
    · simp only
      have hc := fun hw : WInv w => (G.setRoot_consistent hw.graph id).state
      have hk := setRoot_keeps id w.g
      have hd := (G.dir_setRoot w.g id).state
      generalize G.setRoot id w.g = r at hc hk hd
      rcases r with ⟨u, g'⟩ | g' <;>
        exact ⟨rfl, fun hw => ⟨winv_graph_grow hw (hc hw) (hk.1.trans hw.quiet) (fun n h => (hk.2.1 n).trans h)
          (fun e h => (hk.2.2 e).trans h), hd⟩⟩

theorem world_notifyDirect_inv {w : World} (hw : WInv w) (ev : Event) : WInv (w.notifyDirect ev) := by
  unfold World.notifyDirect
  apply deliver_winv hw
  · exact hw.graph.of_same rfl rfl rfl (Nat.le_refl _) (Nat.le_refl _)
  · refine ⟨[ev], rfl, ?_, ?_⟩
    · intro n h1 h2; rw [show ({ w.g with pending := w.g.pending ++ [ev] } : G).hasNode n = w.g.hasNode n from rfl, h1] at h2; cases h2
    · intro e h1 h2; rw [show ({ w.g with pending := w.g.pending ++ [ev] } : G).hasEdge e = w.g.hasEdge e from rfl, h1] at h2; cases h2

/-- `GlobalGraph::operator=` tells the observers that every former edge and node is gone -/
theorem notified_assign (g h : G) :
    Notified g { h with pending := g.pending ++ [.edges g.allEdges, .nodes g.allNodes] } := by
  refine ⟨[.edges g.allEdges, .nodes g.allNodes], rfl, fun n hn _ => ?_, fun e he _ => ?_⟩
  · simp only [notifiedNodes, List.flatMap_cons, List.flatMap_nil, List.append_nil, List.nil_append]
    exact (mem_keys_iff n _).2 hn
  · simp only [notifiedEdges, List.flatMap_cons, List.flatMap_nil, List.append_nil]
    exact (mem_keys_iff e _).2 he

theorem world_graphAssign_inv {w : World} (hw : WInv w) {h : G} (hc : Consistent h) : WInv (w.graphAssign h) :=
  deliver_winv hw (hc.of_same rfl rfl rfl (Nat.le_refl _) (Nat.le_refl _)) (notified_assign w.g h)

end Bpp.Graph
