import BppModel.Interval
import BppProofs.Lemmas.ScalarReal
import Mathlib.Data.EReal.Basic
/-!
The `ℝ` interpretation of `Bound` / `Interval`, for C01 and for the properties whose models hold an interval
constraint (C09, C10).
`Bound ℝ` is the extended real line; `Interval.denote` is the set an interval stands for.

An end of an interval is a point with a flag, and what it demands of `x` is a *flagged inequality*
`if incl then a ≤ x else a < x` (lower end; the upper end is the same shape, `x` on the left).
-/
namespace Bpp
open ScalarReal

section
variable {α : Type*} [Preorder α] {a b : α} {i : Bool}

theorem ite_le_lt_of_lt (h : a < b) : if i then a ≤ b else a < b := by
  cases i <;> [exact h; exact h.le]

theorem le_of_ite_le_lt (h : if i then a ≤ b else a < b) : a ≤ b := by
  cases i <;> [exact h.le; exact h]

theorem ite_le_lt_of_ite_of_le {c : α} (h : if i then a ≤ b else a < b) (hbc : b ≤ c) :
    if i then a ≤ c else a < c := by
  cases i <;> [exact h.trans_le hbc; exact h.trans hbc]

theorem ite_le_lt_of_le_of_ite {c : α} (hab : a ≤ b) (h : if i then b ≤ c else b < c) :
    if i then a ≤ c else a < c := by
  cases i <;> [exact hab.trans_lt h; exact hab.trans h]

theorem ite_le_lt_and (i j : Bool) : (if (i && j) then a ≤ b else a < b) ↔
    (if i then a ≤ b else a < b) ∧ (if j then a ≤ b else a < b) := by
  cases i <;> cases j <;>
    simp only [Bool.and_self, Bool.and_true, Bool.and_false, Bool.false_eq_true, if_true, if_false, and_self,
      and_iff_left_of_imp le_of_lt, and_iff_right_of_imp le_of_lt]

end

namespace Bound

/-- the extended real a bound stands for -/
noncomputable def toEReal : Bound ℝ → EReal
  | negInf => ⊥
  | fin x => (x : EReal)
  | posInf => ⊤

@[simp] theorem toEReal_negInf : (negInf : Bound ℝ).toEReal = ⊥ := rfl
@[simp] theorem toEReal_fin (x : ℝ) : (fin x : Bound ℝ).toEReal = (x : EReal) := rfl
@[simp] theorem toEReal_posInf : (posInf : Bound ℝ).toEReal = ⊤ := rfl

theorem leb_iff (a b : Bound ℝ) : Bound.leb a b = true ↔ a.toEReal ≤ b.toEReal := by
  cases a <;> cases b <;>
    simp only [Bound.leb, toEReal_negInf, toEReal_fin, toEReal_posInf, ScalarReal.leb_iff, EReal.coe_le_coe_iff,
      bot_le, le_top, le_bot_iff, top_le_iff, EReal.coe_ne_bot, EReal.coe_ne_top, top_ne_bot, Bool.false_eq_true]

theorem ltb_iff (a b : Bound ℝ) : Bound.ltb a b = true ↔ a.toEReal < b.toEReal := by
  cases a <;> cases b <;>
    simp only [Bound.ltb, toEReal_negInf, toEReal_fin, toEReal_posInf, ScalarReal.ltb_iff, EReal.coe_lt_coe_iff,
      lt_self_iff_false, not_lt_bot, not_top_lt, EReal.bot_lt_coe, EReal.coe_lt_top, bot_lt_top, Bool.false_eq_true]

theorem eqb_iff (a b : Bound ℝ) : Bound.eqb a b = true ↔ a.toEReal = b.toEReal := by
  cases a <;> cases b <;>
    simp only [Bound.eqb, toEReal_negInf, toEReal_fin, toEReal_posInf, ScalarReal.eqb_iff, EReal.coe_eq_coe_iff,
      EReal.coe_ne_bot, EReal.coe_ne_top, EReal.bot_ne_coe, EReal.top_ne_coe, bot_ne_top, top_ne_bot, Bool.false_eq_true]

theorem geb_iff (a b : Bound ℝ) : Bound.geb a b = true ↔ b.toEReal ≤ a.toEReal := leb_iff b a

theorem gtb_iff (a b : Bound ℝ) : Bound.gtb a b = true ↔ b.toEReal < a.toEReal := ltb_iff b a

theorem toEReal_injective : Function.Injective toEReal := by
  intro a b h
  have e := (eqb_iff a b).2 h
  cases a <;> cases b <;> first | rfl | cases e | exact congrArg fin (EReal.coe_eq_coe_iff.1 h)

theorem toEReal_surjective (e : EReal) : ∃ b : Bound ℝ, b.toEReal = e := by
  induction e using EReal.rec with
  | bot => exact ⟨negInf, rfl⟩
  | coe x => exact ⟨fin x, rfl⟩
  | top => exact ⟨posInf, rfl⟩

theorem toEReal_addS (b : Bound ℝ) (x : ℝ) : (b.addS x).toEReal = b.toEReal + (x : EReal) := by
  cases b
  · exact (EReal.bot_add _).symm
  · exact EReal.coe_add _ _
  · exact (EReal.top_add_coe _).symm

end Bound

namespace Interval

/-- The set of extended reals an interval stands for: between the bounds, an end point belonging
to it iff its flag says so.  (`Set.Icc`, `Set.Ico`, `Set.Ioc`, `Set.Ioo` for the four flag
combinations: `denote_cc` … `denote_oo`.) -/
noncomputable def denote (c : Interval ℝ) : Set EReal :=
  (if c.inclLo then Set.Ici c.lo.toEReal else Set.Ioi c.lo.toEReal) ∩
  (if c.inclHi then Set.Iic c.hi.toEReal else Set.Iio c.hi.toEReal)

theorem denote_cc (lo hi : Bound ℝ) (p : ℝ) : denote ⟨lo, hi, true, true, p⟩ = Set.Icc lo.toEReal hi.toEReal := rfl
theorem denote_co (lo hi : Bound ℝ) (p : ℝ) : denote ⟨lo, hi, true, false, p⟩ = Set.Ico lo.toEReal hi.toEReal := rfl
theorem denote_oc (lo hi : Bound ℝ) (p : ℝ) : denote ⟨lo, hi, false, true, p⟩ = Set.Ioc lo.toEReal hi.toEReal := rfl
theorem denote_oo (lo hi : Bound ℝ) (p : ℝ) : denote ⟨lo, hi, false, false, p⟩ = Set.Ioo lo.toEReal hi.toEReal := rfl

theorem mem_denote (c : Interval ℝ) (x : EReal) :
    x ∈ c.denote ↔ (if c.inclLo then c.lo.toEReal ≤ x else c.lo.toEReal < x) ∧
                   (if c.inclHi then x ≤ c.hi.toEReal else x < c.hi.toEReal) := by
  unfold denote; cases c.inclLo <;> cases c.inclHi <;> exact Iff.rfl

theorem includes_iff_bounds (c : Interval ℝ) (mn mx : Bound ℝ) : c.includes mn mx = true ↔
    (if c.inclLo then c.lo.toEReal ≤ mn.toEReal else c.lo.toEReal < mn.toEReal) ∧
    (if c.inclHi then mx.toEReal ≤ c.hi.toEReal else mx.toEReal < c.hi.toEReal) := by
  unfold includes
  cases c.inclLo <;> cases c.inclHi <;>
    simp only [Bool.and_eq_true, Bool.false_eq_true, if_true, if_false, Bound.geb_iff, Bound.gtb_iff, Bound.leb_iff,
      Bound.ltb_iff]

theorem isCorrectB_iff_mem (c : Interval ℝ) (v : Bound ℝ) : c.isCorrectB v = true ↔ v.toEReal ∈ c.denote :=
  (includes_iff_bounds c v v).trans (mem_denote c _).symm

theorem memSpec_iff_mem (c : Interval ℝ) (v : Bound ℝ) : c.memSpec v = true ↔ v.toEReal ∈ c.denote := by
  rw [mem_denote]
  unfold memSpec memSpecLo memSpecHi
  cases c.inclLo <;> cases c.inclHi <;>
    simp only [Bool.and_eq_true, Bool.or_eq_true, Bool.false_and, Bool.true_and, Bool.false_eq_true, or_false, if_true,
      if_false, Bound.ltb_iff, Bound.eqb_iff, le_iff_lt_or_eq]

theorem exists_mem_gt {c : Interval ℝ} {v : EReal} (h : c.lo.toEReal < c.hi.toEReal) (hv : v < c.hi.toEReal) :
    ∃ y ∈ c.denote, v < y := by
  obtain ⟨y, hy1, hy2⟩ := exists_between (max_lt h hv)
  exact ⟨y, (mem_denote c y).2 ⟨ite_le_lt_of_lt ((le_max_left _ _).trans_lt hy1), ite_le_lt_of_lt hy2⟩,
    (le_max_right _ _).trans_lt hy1⟩

/-- the lower end of the intersection is the conjunction of the operands' lower ends -/
theorem interLo_spec (c d : Interval ℝ) (x : EReal) :
    (if (interLo c d).2 then (interLo c d).1.toEReal ≤ x else (interLo c d).1.toEReal < x) ↔
    (if c.inclLo then c.lo.toEReal ≤ x else c.lo.toEReal < x) ∧
    (if d.inclLo then d.lo.toEReal ≤ x else d.lo.toEReal < x) := by
  unfold interLo
  simp only [Bound.ltb_iff, Bound.gtb_iff]
  rcases lt_trichotomy c.lo.toEReal d.lo.toEReal with h | h | h
  · rw [if_pos h]
    exact (and_iff_right_of_imp fun hd => ite_le_lt_of_lt (h.trans_le (le_of_ite_le_lt hd))).symm
  · rw [if_neg h.not_lt, if_neg h.not_gt, ← h]
    exact ite_le_lt_and _ _
  · rw [if_neg h.not_gt, if_pos h]
    exact (and_iff_left_of_imp fun hc => ite_le_lt_of_lt (h.trans_le (le_of_ite_le_lt hc))).symm

theorem interHi_spec (c d : Interval ℝ) (x : EReal) :
    (if (interHi c d).2 then x ≤ (interHi c d).1.toEReal else x < (interHi c d).1.toEReal) ↔
    (if c.inclHi then x ≤ c.hi.toEReal else x < c.hi.toEReal) ∧
    (if d.inclHi then x ≤ d.hi.toEReal else x < d.hi.toEReal) := by
  unfold interHi
  simp only [Bound.ltb_iff, Bound.gtb_iff]
  rcases lt_trichotomy c.hi.toEReal d.hi.toEReal with h | h | h
  · rw [if_neg h.not_gt, if_pos h]
    exact (and_iff_left_of_imp fun hc => ite_le_lt_of_lt ((le_of_ite_le_lt hc).trans_lt h)).symm
  · rw [if_neg h.not_gt, if_neg h.not_lt, ← h]
    exact ite_le_lt_and _ _
  · rw [if_pos h]
    exact (and_iff_right_of_imp fun hd => ite_le_lt_of_lt ((le_of_ite_le_lt hd).trans_lt h)).symm

/-! `operator&=` works in three stages (lower end, upper end, precision); each computes the
corresponding part of `operator&`, with the tests in another order. -/

theorem interAssign_lo (c d : Interval ℝ) :
    (if Bound.ltb c.lo d.lo then { c with lo := d.lo, inclLo := d.inclLo }
      else if Bound.eqb c.lo d.lo then { c with inclLo := c.inclLo && d.inclLo } else c) =
    { c with lo := (interLo c d).1, inclLo := (interLo c d).2 } := by
  unfold interLo
  simp only [Bound.ltb_iff, Bound.eqb_iff, Bound.gtb_iff]
  rcases lt_trichotomy c.lo.toEReal d.lo.toEReal with h | h | h
  · rw [if_pos h, if_pos h]
  · rw [if_neg h.not_lt, if_pos h, if_neg h.not_lt, if_neg h.not_gt]
  · rw [if_neg h.not_gt, if_neg h.ne', if_neg h.not_gt, if_pos h]

theorem interAssign_hi (c d : Interval ℝ) :
    (if Bound.gtb c.hi d.hi then { c with hi := d.hi, inclHi := d.inclHi }
      else if Bound.eqb c.hi d.hi then { c with inclHi := c.inclHi && d.inclHi } else c) =
    { c with hi := (interHi c d).1, inclHi := (interHi c d).2 } := by
  unfold interHi
  simp only [Bound.ltb_iff, Bound.eqb_iff, Bound.gtb_iff]
  rcases lt_trichotomy c.hi.toEReal d.hi.toEReal with h | h | h
  · rw [if_neg h.not_gt, if_neg h.ne, if_neg h.not_gt, if_pos h]
  · rw [if_neg h.not_gt, if_pos h, if_neg h.not_gt, if_neg h.not_lt]
  · rw [if_pos h, if_pos h]

theorem interAssign_prec (c : Interval ℝ) (q : ℝ) :
    (if Scalar.gtb q c.prec then { c with prec := q } else c) =
    { c with prec := if Scalar.gtb c.prec q then c.prec else q } := by
  simp only [ScalarReal.gtb_iff]
  rcases lt_trichotomy c.prec q with h | h | h
  · rw [if_pos h, if_neg h.not_gt]
  · rw [if_neg h.not_lt, if_neg h.not_gt, ← h]
  · rw [if_neg h.not_gt, if_pos h]

/-- at `ℝ`, `operator&=` computes the same interval as `operator&` -/
theorem interAssign_eq_inter (c d : Interval ℝ) : c.interAssign d = c.inter d := by
  unfold interAssign
  conv_lhs => zeta
  rw [interAssign_lo, interAssign_hi, interAssign_prec]
  rfl

theorem finiteLowerBound_iff (c : Interval ℝ) : c.finiteLowerBound = true ↔ c.lo.toEReal ≠ ⊥ :=
  (Bound.gtb_iff _ _).trans bot_lt_iff_ne_bot

theorem finiteUpperBound_iff (c : Interval ℝ) : c.finiteUpperBound = true ↔ c.hi.toEReal ≠ ⊤ :=
  (Bound.ltb_iff _ _).trans lt_top_iff_ne_top

/-- a non-empty interval: `lo ≤ hi`, and when `lo = hi` both ends are included and the point is finite -/
theorem isEmpty_eq_false_iff (c : Interval ℝ) : c.isEmpty = false ↔
    c.lo.toEReal ≤ c.hi.toEReal ∧ (c.lo.toEReal = c.hi.toEReal →
      c.inclHi = true ∧ c.inclLo = true ∧ c.lo.toEReal ≠ ⊥ ∧ c.hi.toEReal ≠ ⊤) := by
  unfold isEmpty
  rw [Bool.or_eq_false_iff, Bool.and_eq_false_imp, Bool.not_eq_false', ← Bool.not_eq_true, Bound.gtb_iff, not_lt,
    Bound.eqb_iff]
  simp only [Bool.and_eq_true, finiteLowerBound_iff, finiteUpperBound_iff, and_assoc]

theorem not_isEmpty_cond (c : Interval ℝ) (h : ¬ c.isEmpty = true) :
    c.lo.toEReal ≤ c.hi.toEReal ∧ (c.lo.toEReal = c.hi.toEReal → c.inclLo = true ∧ c.inclHi = true) := by
  obtain ⟨h1, h2⟩ := (isEmpty_eq_false_iff c).1 (Bool.not_eq_true _ ▸ h)
  exact ⟨h1, fun heq => ⟨(h2 heq).2.1, (h2 heq).1⟩⟩

/-- the real member is one strictly between the bounds, or the common finite bound -/
theorem isEmpty_eq_false_iff_exists (c : Interval ℝ) : c.isEmpty = false ↔ ∃ v : ℝ, (v : EReal) ∈ c.denote := by
  simp only [isEmpty_eq_false_iff, mem_denote]
  constructor
  · rintro ⟨hle, h⟩
    rcases hle.lt_or_eq with hlt | heq
    · obtain ⟨x, hx1, hx2⟩ := EReal.lt_iff_exists_real_btwn.1 hlt
      exact ⟨x, ite_le_lt_of_lt hx1, ite_le_lt_of_lt hx2⟩
    · obtain ⟨ih, il, hb, ht⟩ := h heq
      refine ⟨c.lo.toEReal.toReal, ?_⟩
      rw [EReal.coe_toReal (heq ▸ ht) hb, il, ih, if_pos rfl, if_pos rfl]
      exact ⟨le_rfl, heq.le⟩
  · rintro ⟨v, h1, h2⟩
    have l1 := le_of_ite_le_lt h1
    have l2 := le_of_ite_le_lt h2
    refine ⟨l1.trans l2, fun heq => ?_⟩
    have e : c.lo.toEReal = v := le_antisymm l1 (l2.trans_eq heq.symm)
    refine ⟨?_, ?_, e ▸ EReal.coe_ne_bot v, heq ▸ e ▸ EReal.coe_ne_top v⟩
    · by_contra hn
      rw [if_neg hn] at h2
      exact h2.ne (e.symm.trans heq)
    · by_contra hn
      rw [if_neg hn] at h1
      exact h1.ne e

end Interval
end Bpp
