import BppProofs.Lemmas.MatrixOps
/-! Helper lemmas for C04 (continued): tridiagonal product, copyUp/Down, fillDiag,
direct sum, Kronecker products, element sum, complex pairs with a diagonal factor. -/
namespace Bpp.Mx
open Bpp Store

section Ops2
variable {α : Type} [Scalar α]
attribute [local instance 1100] Scalar.toMul Scalar.toSub Scalar.toAdd

omit [Scalar α] in
theorem vget_getD {v : Array α} {i : Nat} (h : i < v.size) (d : α) : vget v i = .ok (v.getD i d) := by
  simp [vget_ok h, h]

/-- `x + t 0 + t 1 + … + t (n-1)`, added in this order -/
def accFrom (x : α) (n : Nat) (t : Nat → α) : α := (List.range n).foldl (fun acc k => acc + t k) x

theorem accFrom_succ (x : α) (n : Nat) (t : Nat → α) : accFrom x (n + 1) t = accFrom x n t + t n := by
  simp [accFrom, List.range_succ, List.foldl_append]

theorem loopM_addR {n : Nat} {g : Nat → Res α} {v : Nat → α} (x : α) (h : ∀ t, t < n → g t = .ok (v t)) :
    loopM n (fun t acc => addR acc (g t)) x = .ok (accFrom x n v) :=
  loopM_fold x (fun t _ ht => by rw [h t ht]; rfl)

theorem addR_ok (x t : α) : addR x (.ok t) = .ok (x + t) := rfl
theorem prod3_ok (a b c : α) : prod3 (.ok a) (.ok b) (.ok c) = .ok (a * b * c) := rfl

/-- the entry of the tridiagonal product as the (repaired) code computes it -/
def triCode (a b : Nat → Nat → α) (d u l : Nat → α) (n i j : Nat) : α :=
  if n ≥ 2 then
    accFrom (a i 0 * d 0 * b 0 j + a i 0 * u 0 * b 1 j) (n - 2)
        (fun t => a i (t + 1) * (l t * b t j + d (t + 1) * b (t + 1) j + u (t + 1) * b (t + 2) j))
      + a i (n - 1) * l (n - 2) * b (n - 2) j + a i (n - 1) * d (n - 1) * b (n - 1) j
  else a i 0 * d 0 * b 0 j

theorem triEntry_ok {A B : Store α} (hA : A.WF) (hB : B.WF) {D U L : Array α}
    (h : A.ncols = B.nrows) (hD : A.ncols = D.size) (hU : A.ncols = U.size + 1) (hL : A.ncols = L.size + 1)
    {i j : Nat} (hi : i < A.nrows) (hj : j < B.ncols) :
    triEntry false A D U L B i j =
      .ok (triCode A.entry B.entry (fun k => D.getD k Scalar.zero) (fun k => U.getD k Scalar.zero)
        (fun k => L.getD k Scalar.zero) A.ncols i j) := by
  have ga : ∀ k, k < A.ncols → A.get i k = .ok (A.entry i k) := fun k hk => get_eq_entry hA hi hk
  have gb : ∀ k, k < A.ncols → B.get k j = .ok (B.entry k j) := fun k hk => get_eq_entry hB (h ▸ hk) hj
  have gd : ∀ k, k < A.ncols → vget D k = .ok (D.getD k Scalar.zero) := fun k hk => vget_getD (hD ▸ hk) _
  have gu : ∀ k, k + 1 < A.ncols → vget U k = .ok (U.getD k Scalar.zero) := fun k hk => vget_getD (by omega) _
  have gl : ∀ k, k + 1 < A.ncols → vget L k = .ok (L.getD k Scalar.zero) := fun k hk => vget_getD (by omega) _
  unfold triEntry triCode
  by_cases hn : A.ncols ≥ 2
  · have h1 : B.nrows > 1 := by omega
    have hmid : ∀ t, t < A.ncols - 2 → triMid A D U L B i j (t + 1) =
        .ok (A.entry i (t + 1) * (L.getD t Scalar.zero * B.entry t j + D.getD (t + 1) Scalar.zero * B.entry (t + 1) j
          + U.getD (t + 1) Scalar.zero * B.entry (t + 2) j)) := by
      intro t ht
      simp only [triMid, Nat.add_sub_cancel]
      rw [ga (t + 1) (by omega), gl t (by omega), gb t (by omega), gd (t + 1) (by omega), gb (t + 1) (by omega),
        gu (t + 1) (by omega), gb (t + 1 + 1) (by omega)]
    simp only [ga 0 (by omega), gd 0 (by omega), gb 0 (by omega), prod3_ok, h1, if_true, gu 0 (by omega), gb 1 (by omega), addR_ok,
      loopM_addR _ hmid, hn, ga (A.ncols - 1) (by omega), gl (A.ncols - 2) (by omega), gb (A.ncols - 2) (by omega),
      gd (A.ncols - 1) (by omega), gb (A.ncols - 1) (by omega)]
  · have h1 : ¬ B.nrows > 1 := by omega
    have h0 : A.ncols - 2 = 0 := by omega
    simp only [ga 0 (by omega), gd 0 (by omega), gb 0 (by omega), prod3_ok, h1, if_false, h0, loopM, hn, Bool.false_eq_true]

/-- the unrepaired text on operands with one inner dimension: the only term is added twice -/
theorem triEntry_dbl_one {A B : Store α} (hA : A.WF) (hB : B.WF) {D U L : Array α}
    (h : A.ncols = B.nrows) (hD : A.ncols = D.size) (h1 : A.ncols = 1)
    {i j : Nat} (hi : i < A.nrows) (hj : j < B.ncols) :
    triEntry true A D U L B i j =
      .ok (A.entry i 0 * D.getD 0 Scalar.zero * B.entry 0 j + A.entry i 0 * D.getD 0 Scalar.zero * B.entry 0 j) := by
  have ga : A.get i 0 = .ok (A.entry i 0) := get_eq_entry hA hi (by omega)
  have gb : B.get 0 j = .ok (B.entry 0 j) := get_eq_entry hB (by omega) hj
  have gd : vget D 0 = .ok (D.getD 0 Scalar.zero) := vget_getD (by omega) _
  have hb1 : ¬ B.nrows > 1 := by omega
  have hn2 : ¬ A.ncols ≥ 2 := by omega
  unfold triEntry
  simp only [h1, ga, gd, gb, prod3_ok, hb1, if_false, Nat.sub_self, addR_ok, ge_iff_le,
    show ¬ (2 ≤ 1) by omega, if_true]
  rfl

theorem multTOrig_one {A B : Store α} (hA : A.WF) (hB : B.WF) (D U L : Array α) (O : Store α)
    (h : A.ncols = B.nrows) (hD : A.ncols = D.size) (hU : A.ncols = U.size + 1) (hL : A.ncols = L.size + 1)
    (h1 : A.ncols = 1) :
    ∃ O', multTOrig A D U L B O = .ok O' ∧
      O'.Holds A.nrows B.ncols (fun i j =>
        A.entry i 0 * D.getD 0 Scalar.zero * B.entry 0 j + A.entry i 0 * D.getD 0 Scalar.zero * B.entry 0 j) := by
  unfold multTOrig multTGen
  rw [if_neg (by simpa using h), if_neg (by simpa using hD), if_neg (by simpa using hU), if_neg (by simpa using hL)]
  obtain ⟨O', e, _, hh⟩ := fill_resize_holds O (r := A.nrows) (c := B.ncols) (f := fun i j => triEntry true A D U L B i j)
    (fun i j hi hj => triEntry_dbl_one hA hB h hD h1 hi hj)
  exact ⟨O', e, hh⟩

theorem multT_holds {A B : Store α} (hA : A.WF) (hB : B.WF) (D U L : Array α) (O : Store α)
    (h : A.ncols = B.nrows) (hD : A.ncols = D.size) (hU : A.ncols = U.size + 1) (hL : A.ncols = L.size + 1) :
    ∃ O', multT A D U L B O = .ok O' ∧ O'.kind = O.kind ∧
      O'.Holds A.nrows B.ncols (triCode A.entry B.entry (fun k => D.getD k Scalar.zero) (fun k => U.getD k Scalar.zero)
        (fun k => L.getD k Scalar.zero) A.ncols) := by
  unfold multT multTGen
  rw [if_neg (by simpa using h), if_neg (by simpa using hD), if_neg (by simpa using hU), if_neg (by simpa using hL)]
  exact fill_resize_holds O (fun i j hi hj => triEntry_ok hA hB h hD hU hL hi hj)

theorem multT_nonconformable {A B : Store α} (D U L : Array α) (O : Store α)
    (h : A.ncols ≠ B.nrows ∨ A.ncols ≠ D.size ∨ A.ncols ≠ U.size + 1 ∨ A.ncols ≠ L.size + 1) :
    multT A D U L B O = .error .dimension := by
  unfold multT multTGen
  exact ite_error (h.imp_right fun h => ite_error (h.imp_right fun h => ite_error (h.imp_right fun h => ite_error (Or.inl h))))

theorem copyUp_holds {A : Store α} (hA : A.WF) (O : Store α) :
    ∃ O', copyUp A O = .ok O' ∧ O'.kind = O.kind ∧
      O'.Holds A.nrows A.ncols (fun i j => if i + 1 < A.nrows then A.entry (i + 1) j else Scalar.zero) := by
  unfold copyUp
  simp only
  have hd := resize_dims O A.nrows A.ncols
  rw [← resize_kind O A.nrows A.ncols] at hd
  by_cases h0 : A.nrows = 0
  · rw [if_pos h0]
    exact ⟨_, rfl, resize_kind _ _ _, resize_wf _ _ _, hd, fun i j hi _ => by omega⟩
  · rw [if_neg h0]
    obtain ⟨O1, e1, w1⟩ := (Written.init (resize_wf O A.nrows A.ncols)
        (fun i j => if i + 1 < A.nrows then A.entry (i + 1) j else Scalar.zero)).fillBlock 0 0 (r := A.nrows - 1) (c := A.ncols)
      (fun i j hi hj => inside_of_shape hd (by omega) (by omega)) (f := fun i j => A.get (i + 1) j) (fun i j hi hj => by
        rw [get_eq_entry hA (by omega) hj, Nat.zero_add, Nat.zero_add, if_pos (by omega)])
    obtain ⟨O2, e2, w2⟩ := w1.fillBlock (A.nrows - 1) 0 (r := 1) (c := A.ncols)
      (fun i j hi hj => inside_of_shape hd (by omega) (by omega))
      (f := fun _ _ => .ok Scalar.zero) (fun i j hi hj => by rw [if_neg (by omega)])
    obtain ⟨hk, hh⟩ := w2.holds hd (fun p q hp hq => by
      by_cases h : p < A.nrows - 1
      · exact Or.inl (Or.inr ⟨p, h, q, hq, by omega, by omega⟩)
      · exact Or.inr ⟨0, Nat.one_pos, q, hq, by omega, by omega⟩)
    exact ⟨O2, by simp only [e1, e2], by rw [hk, resize_kind], hh⟩

theorem copyDown_holds {A : Store α} (hA : A.WF) (O : Store α) :
    ∃ O', copyDown A O = .ok O' ∧ O'.kind = O.kind ∧
      O'.Holds A.nrows A.ncols (fun i j => if i = 0 then Scalar.zero else A.entry (i - 1) j) := by
  unfold copyDown
  simp only
  have hd := resize_dims O A.nrows A.ncols
  rw [← resize_kind O A.nrows A.ncols] at hd
  by_cases h0 : A.nrows = 0
  · rw [if_pos h0]
    exact ⟨_, rfl, resize_kind _ _ _, resize_wf _ _ _, hd, fun i j hi _ => by omega⟩
  · rw [if_neg h0]
    obtain ⟨O1, e1, w1⟩ := (Written.init (resize_wf O A.nrows A.ncols)
        (fun i j => if i = 0 then Scalar.zero else A.entry (i - 1) j)).fillBlock 1 0 (r := A.nrows - 1) (c := A.ncols)
      (fun i j hi hj => inside_of_shape hd (by omega) (by omega)) (f := fun i j => A.get i j) (fun i j hi hj => by
        rw [get_eq_entry hA (by omega) hj, Nat.zero_add, if_neg (by omega), Nat.add_sub_cancel_left])
    obtain ⟨O2, e2, w2⟩ := w1.fillBlock 0 0 (r := 1) (c := A.ncols)
      (fun i j hi hj => inside_of_shape hd (by omega) (by omega))
      (f := fun _ _ => .ok Scalar.zero) (fun i j hi hj => by rw [if_pos (by omega)])
    obtain ⟨hk, hh⟩ := w2.holds hd (fun p q hp hq => by
      by_cases h : p = 0
      · exact Or.inr ⟨0, Nat.one_pos, q, hq, by omega, by omega⟩
      · exact Or.inl (Or.inr ⟨p - 1, by omega, q, hq, by omega, by omega⟩))
    exact ⟨O2, by simp only [e1, e2], by rw [hk, resize_kind], hh⟩

theorem fillDiag_holds {A : Store α} (hA : A.WF) (x : α) :
    ∃ A', fillDiag A x = .ok A' ∧ A'.kind = A.kind ∧
      A'.Holds A.nrows A.ncols (fun i j => if i = j then x else A.entry i j) := by
  unfold fillDiag
  have hm1 : Nat.min A.nrows A.ncols ≤ A.nrows := Nat.min_le_left _ _
  have hm2 : Nat.min A.nrows A.ncols ≤ A.ncols := Nat.min_le_right _ _
  obtain ⟨A', e, w⟩ := (Written.init hA (fun _ _ => x)).loop (Nat.min A.nrows A.ncols) (fun i M => M.set i i x)
    (fun i p q => p = i ∧ q = i) (fun i M _ hi hM => hM.step (by omega) (by omega))
  refine ⟨A', e, w.1.2.1, w.1.1, by rw [w.1.2.2.1, w.1.2.2.2, w.1.2.1]; exact dims_shape_self A, ?_⟩
  intro i j hi hj
  by_cases hij : i = j
  · subst hij
    rw [(w.2 i i hi hj).1 (Or.inr ⟨i, Nat.lt_min.mpr ⟨hi, hj⟩, rfl, rfl⟩)]; simp
  · rw [(w.2 i j hi hj).2 (fun h => h.elim id (fun ⟨k, _, h1, h2⟩ => hij (h1.trans h2.symm))), get_eq_entry hA hi hj]; simp [hij]

theorem dsum_holds_is {A B : Store α} {kA kB : Kind} {r c r2 c2 : Nat} {a b : Nat → Nat → α}
    (hA : LUS.Is A kA r c a) (hB : LUS.Is B kB r2 c2 b) (O : Store α) :
    ∃ O', dsum A B O = .ok O' ∧ O'.kind = O.kind ∧ O'.Holds (r + r2) (c + c2) (Spec.dsum a b r c r2 c2) := by
  obtain ⟨_, _, rfl, rfl, ga⟩ := hA
  obtain ⟨_, _, rfl, rfl, gb⟩ := hB
  unfold dsum
  simp only
  have hd := resize_dims O (A.nrows + B.nrows) (A.ncols + B.ncols)
  rw [← resize_kind O (A.nrows + B.nrows) (A.ncols + B.ncols)] at hd
  obtain ⟨O1, e1, w1⟩ := (Written.init (resize_wf O _ _) (Spec.dsum a b A.nrows A.ncols B.nrows B.ncols)).fillBlock
    0 0 (r := A.nrows) (c := A.ncols) (fun i j hi hj => inside_of_shape hd (by omega) (by omega))
    (f := fun i j => A.get i j) (fun i j hi hj => by
      simp only [ga i j hi hj, Nat.zero_add, Spec.dsum, if_pos hi, if_pos hj])
  obtain ⟨O2, e2, w2⟩ := w1.fillBlock 0 A.ncols (r := A.nrows) (c := B.ncols) (fun i j hi hj => inside_of_shape hd (by omega) (by omega))
    (f := fun _ _ => .ok Scalar.zero) (fun i j hi hj => by
      simp only [Nat.zero_add, Spec.dsum, if_pos hi, if_neg (Nat.not_lt.mpr (Nat.le_add_right _ j))])
  obtain ⟨O3, e3, w3⟩ := w2.fillBlock A.nrows 0 (r := B.nrows) (c := A.ncols) (fun i j hi hj => inside_of_shape hd (by omega) (by omega))
    (f := fun _ _ => .ok Scalar.zero) (fun i j hi hj => by
      simp only [Nat.zero_add, Spec.dsum, if_neg (Nat.not_lt.mpr (Nat.le_add_right _ i)), if_pos hj])
  obtain ⟨O4, e4, w4⟩ := w3.fillBlock A.nrows A.ncols (r := B.nrows) (c := B.ncols) (fun i j hi hj => inside_of_shape hd (by omega) (by omega))
    (f := fun i j => B.get i j) (fun i j hi hj => by
      simp only [gb i j hi hj, Spec.dsum, if_neg (Nat.not_lt.mpr (Nat.le_add_right _ _)), Nat.add_sub_cancel_left,
        hi, hj, and_self, if_true])
  obtain ⟨hk, hh⟩ := w4.holds hd (by
    intro p q hp hq
    by_cases h1 : p < A.nrows <;> by_cases h2 : q < A.ncols
    · exact Or.inl (Or.inl (Or.inl (Or.inr ⟨p, h1, q, h2, by omega, by omega⟩)))
    · exact Or.inl (Or.inl (Or.inr ⟨p, h1, q - A.ncols, by omega, by omega, by omega⟩))
    · exact Or.inl (Or.inr ⟨p - A.nrows, by omega, q, h2, by omega, by omega⟩)
    · exact Or.inr ⟨p - A.nrows, by omega, q - A.ncols, by omega, by omega, by omega⟩)
  exact ⟨O4, by simp only [e1, e2, e3, e4], by rw [hk, resize_kind], hh⟩

theorem dsum_holds {A B : Store α} (hA : A.WF) (hB : B.WF) (O : Store α) :
    ∃ O', dsum A B O = .ok O' ∧ O'.kind = O.kind ∧
      O'.Holds (A.nrows + B.nrows) (A.ncols + B.ncols) (Spec.dsum A.entry B.entry A.nrows A.ncols B.nrows B.ncols) :=
  dsum_holds_is (LUS.Is.self hA) (LUS.Is.self hB) O

/-- the block loop nest writes the Kronecker product into the leading `nrA * nrB` by `ncA * ncB` positions -/
theorem kronLoop_written {O : Store α} (hw : O.WF) {nrA ncA nrB ncB : Nat}
    (hin : ∀ p q, p < nrA * nrB → q < ncA * ncB → p < O.nrows ∧ q < O.ncols)
    {a b : Nat → Nat → Res α} {av bv : Nat → Nat → α}
    (ha : ∀ ia ja, ia < nrA → ja < ncA → a ia ja = .ok (av ia ja))
    (hb : ∀ ib jb, ib < nrB → jb < ncB → b ib jb = .ok (bv ib jb)) :
    ∃ O', kronLoop O nrA ncA nrB ncB a b = .ok O' ∧
      Written O O' (fun p q => p < nrA * nrB ∧ q < ncA * ncB)
        (fun p q => av (p / nrB) (q / ncB) * bv (p % nrB) (q % ncB)) := by
  obtain ⟨O', e, w⟩ := (Written.init hw (fun p q => av (p / nrB) (q / ncB) * bv (p % nrB) (q % ncB))).loop nrA
    (fun ia O => loopM ncA (fun ja O =>
      match a ia ja with
      | .error e => .error e
      | .ok aij =>
        fillBlock O (ia * nrB) (ja * ncB) nrB ncB fun ib jb =>
          match b ib jb with
          | .ok x => .ok (aij * x)
          | .error e => .error e) O) _
    (fun ia M _ hia hM => hM.loop ncA _ _ (fun ja M' _ hja hM' => by
      simp only [ha ia ja hia hja]
      -- block `(ia, ja)`: `lin_index` says where its positions lie and what `/`, `%` make of them
      exact hM'.fillBlock (ia * nrB) (ja * ncB)
        (fun ib jb hib hjb => hin _ _ (lin_index hia hib).1 (lin_index hja hjb).1)
        (fun ib jb hib hjb => by
          rw [hb ib jb hib hjb, (lin_index hia hib).2.1, (lin_index hia hib).2.2, (lin_index hja hjb).2.1, (lin_index hja hjb).2.2])))
  refine ⟨O', e, w.mono (fun p q _ _ => ⟨?_, ?_⟩)⟩
  · rintro (h | ⟨ia, hia, ja, hja, ib, hib, jb, hjb, rfl, rfl⟩)
    · exact h.elim
    · exact ⟨(lin_index hia hib).1, (lin_index hja hjb).1⟩
  · rintro ⟨hp, hq⟩
    obtain ⟨ia, hia, ib, hib, rfl⟩ := lin_index_surj hp
    obtain ⟨ja, hja, jb, hjb, rfl⟩ := lin_index_surj hq
    exact Or.inr ⟨ia, hia, ja, hja, ib, hib, jb, hjb, rfl, rfl⟩

/-- the block loop nest into a freshly resized output -/
theorem kronLoop_resize_holds (O : Store α) {nrA ncA nrB ncB : Nat}
    {a b : Nat → Nat → Res α} {av bv : Nat → Nat → α}
    (ha : ∀ ia ja, ia < nrA → ja < ncA → a ia ja = .ok (av ia ja))
    (hb : ∀ ib jb, ib < nrB → jb < ncB → b ib jb = .ok (bv ib jb)) :
    ∃ O', kronLoop (O.resize (nrA * nrB) (ncA * ncB)) nrA ncA nrB ncB a b = .ok O' ∧ O'.kind = O.kind ∧
      O'.Holds (nrA * nrB) (ncA * ncB) (fun p q => av (p / nrB) (q / ncB) * bv (p % nrB) (q % ncB)) := by
  have hd := resize_dims O (nrA * nrB) (ncA * ncB)
  rw [← resize_kind O (nrA * nrB) (ncA * ncB)] at hd
  obtain ⟨O', e, w⟩ := kronLoop_written (resize_wf O (nrA * nrB) (ncA * ncB)) (fun p q hp hq => inside_of_shape hd hp hq) ha hb
  obtain ⟨hk, hh⟩ := w.holds hd (fun p q hp hq => ⟨hp, hq⟩)
  exact ⟨O', e, by rw [hk, resize_kind], hh⟩

theorem kron_holds_is {A B : Store α} {kA kB : Kind} {r c r2 c2 : Nat} {a b : Nat → Nat → α}
    (hA : LUS.Is A kA r c a) (hB : LUS.Is B kB r2 c2 b) (O : Store α) :
    ∃ O', kron A B O true = .ok O' ∧ O'.kind = O.kind ∧ O'.Holds (r * r2) (c * c2) (Spec.kron a b r2 c2) := by
  obtain ⟨_, _, rfl, rfl, ga⟩ := hA
  obtain ⟨_, _, rfl, rfl, gb⟩ := hB
  unfold kron
  simp only [if_true]
  exact kronLoop_resize_holds O ga gb

theorem kron_holds {A B : Store α} (hA : A.WF) (hB : B.WF) (O : Store α) :
    ∃ O', kron A B O true = .ok O' ∧ O'.kind = O.kind ∧
      O'.Holds (A.nrows * B.nrows) (A.ncols * B.ncols) (Spec.kron A.entry B.entry B.nrows B.ncols) :=
  kron_holds_is (LUS.Is.self hA) (LUS.Is.self hB) O

/-- without `check`: into a sufficiently large output, whose other entries are left alone -/
theorem kron_nocheck {A B O : Store α} (hA : A.WF) (hB : B.WF) (hO : O.WF)
    (hR : A.nrows * B.nrows ≤ O.nrows) (hC : A.ncols * B.ncols ≤ O.ncols) :
    ∃ O', kron A B O false = .ok O' ∧
      Written O O' (fun p q => p < A.nrows * B.nrows ∧ q < A.ncols * B.ncols) (Spec.kron A.entry B.entry B.nrows B.ncols) := by
  unfold kron
  simp only [Bool.false_eq_true, if_false]
  exact kronLoop_written hO (fun p q hp hq => ⟨by omega, by omega⟩) (fun _ _ hi hj => get_eq_entry hA hi hj)
    (fun _ _ hi hj => get_eq_entry hB hi hj)

theorem kronD_holds {A : Store α} (hA : A.WF) (dim : Nat) (v : α) (O : Store α) :
    ∃ O', kronD A dim v O true = .ok O' ∧ O'.kind = O.kind ∧
      O'.Holds (A.nrows * dim) (A.ncols * dim) (Spec.kron A.entry (Spec.diag fun _ => v) dim dim) := by
  unfold kronD
  simp only [if_true]
  exact kronLoop_resize_holds O (fun _ _ hi hj => get_eq_entry hA hi hj) (fun _ _ _ _ => rfl)

theorem kron2_holds {A B : Store α} (hA : A.WF) (hB : B.WF) (dA dB : α) (O : Store α) :
    ∃ O', kron2 A B dA dB O true = .ok O' ∧ O'.kind = O.kind ∧
      O'.Holds (A.nrows * B.nrows) (A.ncols * B.ncols)
        (Spec.kron (fun i j => if i = j then dA else A.entry i j) (fun i j => if i = j then dB else B.entry i j) B.nrows B.ncols) := by
  unfold kron2
  simp only [if_true]
  exact kronLoop_resize_holds O (nrA := A.nrows) (ncA := A.ncols) (nrB := B.nrows) (ncB := B.ncols)
    (a := fun ia ja => if ia = ja then Except.ok dA else A.get ia ja)
    (b := fun ib jb => if ib = jb then Except.ok dB else B.get ib jb)
    (av := fun i j => if i = j then dA else A.entry i j) (bv := fun i j => if i = j then dB else B.entry i j)
    (fun i j hi hj => by
      by_cases h : i = j
      · simp [h]
      · simp only [h, if_false]; exact get_eq_entry hA hi hj)
    (fun i j hi hj => by
      by_cases h : i = j
      · simp [h]
      · simp only [h, if_false]; exact get_eq_entry hB hi hj)

theorem sumElements_eq {M : Store α} (hM : M.WF) :
    sumElements M = .ok (Spec.total M.entry M.nrows M.ncols) := by
  unfold sumElements Spec.total
  apply loopM_fold
  intro i s hi
  exact loopM_fold s (fun j t hj => by rw [get_eq_entry hM hi hj]; rfl)

theorem multCD_holds {A iA B iB : Store α} (hA : A.WF) (hiA : iA.WF) (hB : B.WF) (hiB : iB.WF) (D iD : Array α) (O iO : Store α)
    (h : A.ncols = B.nrows) (hD : A.ncols = D.size) (hiD : A.ncols = iD.size)
    (h1 : iA.nrows = A.nrows ∧ iA.ncols = A.ncols) (h2 : iB.nrows = B.nrows ∧ iB.ncols = B.ncols) :
    ∃ O' iO', multCD A iA D iD B iB O iO = .ok (O', iO') ∧ O'.kind = O.kind ∧ iO'.kind = iO.kind ∧
      O'.Holds A.nrows B.ncols (fun i j => Spec.sumTo A.ncols fun k =>
        (A.entry i k * B.entry k j - iA.entry i k * iB.entry k j) * D.getD k Scalar.zero
          - (A.entry i k * iB.entry k j + iA.entry i k * B.entry k j) * iD.getD k Scalar.zero) ∧
      iO'.Holds A.nrows B.ncols (fun i j => Spec.sumTo A.ncols fun k =>
        (A.entry i k * B.entry k j - iA.entry i k * iB.entry k j) * iD.getD k Scalar.zero
          + (A.entry i k * iB.entry k j + iA.entry i k * B.entry k j) * D.getD k Scalar.zero) := by
  unfold multCD
  rw [if_neg (by simpa using h), if_neg (by simpa using hD), if_neg (by simpa using hiD),
    if_neg (by simp [sameDims_iff, h1]), if_neg (by simp [sameDims_iff, h2])]
  have hq : ∀ i j k, i < A.nrows → j < B.ncols → k < A.ncols →
      quad A iA B iB i j k = .ok (A.entry i k, iA.entry i k, B.entry k j, iB.entry k j) := fun i j k hi hj hk =>
    quad_ok hA hiA hB hiB hi hk (h1.1 ▸ hi) (h1.2 ▸ hk) (h ▸ hk) hj (h2.1 ▸ h ▸ hk) (h2.2 ▸ hj)
  have ht : ∀ re i j k, i < A.nrows → j < B.ncols → k < A.ncols → multCDTerm re A iA D iD B iB i j k =
      .ok (if re then (A.entry i k * B.entry k j - iA.entry i k * iB.entry k j) * D.getD k Scalar.zero
          - (A.entry i k * iB.entry k j + iA.entry i k * B.entry k j) * iD.getD k Scalar.zero
        else (A.entry i k * B.entry k j - iA.entry i k * iB.entry k j) * iD.getD k Scalar.zero
          + (A.entry i k * iB.entry k j + iA.entry i k * B.entry k j) * D.getD k Scalar.zero) := by
    intro re i j k hi hj hk
    simp only [multCDTerm, hq i j k hi hj hk, vget_getD (hD ▸ hk) Scalar.zero, vget_getD (hiD ▸ hk) Scalar.zero]
  exact fill_pair_holds O iO (fun i j hi hj => dot_ok (fun k hk => by rw [ht true i j k hi hj hk]; rfl))
    (fun i j hi hj => dot_ok (fun k hk => by rw [ht false i j k hi hj hk]; rfl))

theorem multCD_nonconformable {A iA B iB : Store α} (D iD : Array α) (O iO : Store α)
    (h : A.ncols ≠ B.nrows ∨ A.ncols ≠ D.size ∨ A.ncols ≠ iD.size ∨ ¬ (iA.nrows = A.nrows ∧ iA.ncols = A.ncols) ∨
      ¬ (iB.nrows = B.nrows ∧ iB.ncols = B.ncols)) :
    multCD A iA D iD B iB O iO = .error .dimension := by
  unfold multCD
  exact ite_error (h.imp_right fun h => ite_error (h.imp_right fun h => ite_error (h.imp_right fun h =>
    ite_error (h.imp (not_sameDims) fun h => ite_error (Or.inl (not_sameDims h))))))

end Ops2
end Bpp.Mx
