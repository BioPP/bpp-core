import BppProofs.Lemmas.Number
/-! The saturating loops of the repaired `TextTools::toInt` compute `min(value, lim + 1)`, so the range
test at the end (`finalN`) decides whether the exact value fits an `int`: `toInt_render`, which is
`toInt_value` of `Props/C17.lean`.  `toInt_eq` (recogniser, loops, `finalN`) is also the form in which
`Props/C16ToInt.lean` compares the UB-aware `toInt` with this one. -/
namespace Bpp.Text.Number
open Bpp.Text

theorem sat_eq_min (x K : Nat) : (if x > K then K + 1 else x) = min x (K + 1) := by
  by_cases h : x > K
  · rw [if_pos h, Nat.min_eq_right h]
  · rw [if_neg h, Nat.min_eq_left (by omega)]

/-- a step from the saturated accumulator and the same step from the exact one saturate to the same
value -/
theorem min_step (t d K : Nat) : min (min t K * 10 + d) K = min (10 * t + d) K := by
  by_cases h : t ≤ K
  · rw [Nat.min_eq_left h, Nat.mul_comm]
  · have h' : K ≤ t := by omega
    rw [Nat.min_eq_right h', Nat.min_eq_right (a := K * 10 + d) (by omega),
      Nat.min_eq_right (a := 10 * t + d) (by omega)]

theorem satStep_min (t d : Nat) :
    satStep (min t (toIntLim + 1)) d = min (10 * t + d) (toIntLim + 1) := by
  rw [satStep, sat_eq_min, min_step]

/-- the mantissa loop over digits up to the exponent mark / the end -/
theorem satMant_digits {sci : Char} (hs : isDigit sci = false) (ds : Str) (hds : AllDigits ds) (t : Nat)
    (rest : Str) (hrest : rest = [] ∨ ∃ r, rest = sci :: r) :
    satMant sci (min t (toIntLim + 1)) (ds ++ rest)
      = (min (ds.foldl (fun a c => 10 * a + digitVal c) t) (toIntLim + 1), rest) := by
  induction ds generalizing t with
  | nil =>
    rcases hrest with rfl | ⟨r, rfl⟩
    · rfl
    · rw [List.nil_append, satMant, if_pos (beq_self_eq_true sci)]; rfl
  | cons c ds ih =>
    rw [List.cons_append, satMant, if_neg (by rw [isDigit_ne (hds c (by simp)) hs]; decide), satStep_min,
      ih (fun x hx => hds x (by simp [hx])), List.foldl_cons]

theorem satExp_digits (ds : Str) (t : Nat) :
    satExp (min t 11) ds = min (ds.foldl (fun a c => 10 * a + digitVal c) t) 11 := by
  induction ds generalizing t with
  | nil => rfl
  | cons c ds ih =>
    unfold satExp
    rw [List.foldl_cons, ← ih, ← min_step]
    exact congrArg (satExp · ds) (sat_eq_min _ 10)

theorem satMul_min (e t : Nat) :
    satMul e (min t (toIntLim + 1)) = min (t * 10 ^ e) (toIntLim + 1) := by
  induction e generalizing t with
  | zero => rw [Nat.pow_zero, Nat.mul_one]; rfl
  | succ e ih =>
    rw [satMul]
    by_cases ht : t = 0
    · subst ht; rw [Nat.zero_mul]; rfl
    · have hm : (min t (toIntLim + 1) == 0) = false := by
        rw [beq_eq_false_iff_ne, Nat.min_def]; split <;> omega
      rw [hm, if_neg Bool.false_ne_true, sat_eq_min, ← Nat.add_zero (_ * 10), min_step, Nat.add_zero, ih,
        Nat.pow_succ, Nat.mul_comm 10 t, Nat.mul_assoc, Nat.mul_comm 10]

/-- saturating the exponent at 11 does not change the saturated product -/
theorem min_pow_sat (t E : Nat) :
    min (t * 10 ^ (min E 11)) (toIntLim + 1) = min (t * 10 ^ E) (toIntLim + 1) := by
  by_cases hE : E ≤ 11
  · rw [Nat.min_eq_left hE]
  · rw [Nat.min_eq_right (Nat.le_of_not_le hE)]
    by_cases ht : t = 0
    · rw [ht, Nat.zero_mul, Nat.zero_mul]
    · -- both products are at least `10 ^ 11`, beyond the saturation point
      have h11 : toIntLim + 1 ≤ t * 10 ^ 11 :=
        Nat.le_trans (by decide) (Nat.le_mul_of_pos_left _ (Nat.pos_of_ne_zero ht))
      have hE' : t * 10 ^ 11 ≤ t * 10 ^ E :=
        Nat.mul_le_mul_left _ (Nat.pow_le_pow_right (by decide) (Nat.le_of_not_le hE))
      rw [Nat.min_eq_right h11, Nat.min_eq_right (Nat.le_trans h11 hE')]

/-- the range test and the conversion at the end of `toInt` (TextTools.cpp:253-255), on the scaled
mantissa -/
def finalN (neg : Bool) (m : Nat) : Option Int :=
  if (if neg then decide (m > toIntLim) else decide (m ≥ toIntLim)) then none
  else some (if neg then - (m : Int) else (m : Int))

/-- `toInt` is the recogniser, then the three loops on the text after the sign, then `finalN` -/
theorem toInt_eq (sci : Char) (s : Str) :
    toInt sci s =
      if isDecimalInteger sci s then
        finalN (s.head? == some '-')
          (scaleByExp (satMant sci 0 (if (s.head? == some '-') then s.drop 1 else s)).1
            (satMant sci 0 (if (s.head? == some '-') then s.drop 1 else s)).2)
      else none := by
  unfold toInt finalN
  cases isDecimalInteger sci s <;> rfl

theorem finalN_range {neg : Bool} {m : Nat} {v : Int} (h : finalN neg m = some v) :
    -2147483648 ≤ v ∧ v ≤ 2147483647 := by
  unfold finalN toIntLim at h
  cases neg
  · simp only [Bool.false_eq_true, if_false, decide_eq_true_eq] at h
    split at h
    · cases h
    · obtain rfl := Option.some.inj h; omega
  · simp only [if_true, decide_eq_true_eq] at h
    split at h
    · cases h
    · obtain rfl := Option.some.inj h; omega

/-- on a saturated mantissa the range test decides whether the exact value fits an `int` -/
theorem finalN_min (neg : Bool) (W : Nat) :
    finalN neg (min W (toIntLim + 1))
    = (if intMin ≤ (if neg then - (W : Int) else (W : Int)) ∧ (if neg then - (W : Int) else (W : Int)) ≤ intMax
        then some (if neg then - (W : Int) else (W : Int)) else none) := by
  unfold finalN intMin intMax
  cases neg
  · simp only [Bool.false_eq_true, if_false, decide_eq_true_eq]
    by_cases h : W < toIntLim
    · rw [Nat.min_eq_left (by omega), if_neg (by omega), if_pos (by unfold toIntLim at h; omega)]
    · rw [if_pos (by rw [Nat.min_def]; split <;> omega), if_neg (by unfold toIntLim at h; omega)]
  · simp only [if_true, decide_eq_true_eq]
    by_cases h : W ≤ toIntLim
    · rw [Nat.min_eq_left (by omega), if_neg (by omega), if_pos (by unfold toIntLim at h; omega)]
    · rw [if_pos (by rw [Nat.min_def]; split <;> omega), if_neg (by unfold toIntLim at h; omega)]

theorem toInt_range (sci : Char) (s : Str) (v : Int) (h : toInt sci s = some v) :
    -2147483648 ≤ v ∧ v ≤ 2147483647 := by
  rw [toInt_eq] at h
  split at h
  · exact finalN_range h
  · cases h

/-- `toInt` on an accepted text: an optional `-` and a body that does not start with `-`, on which
the loops yield the saturated `W` -/
theorem toInt_signed {sci : Char} (neg : Bool) (body : Str) (W : Nat)
    (hacc : isDecimalInteger sci ((if neg then ['-'] else []) ++ body) = true)
    (hb : (body.head? == some '-') = false)
    (hW : scaleByExp (satMant sci 0 body).1 (satMant sci 0 body).2 = min W (toIntLim + 1)) :
    toInt sci ((if neg then ['-'] else []) ++ body) =
      if intMin ≤ (if neg then - (W : Int) else (W : Int)) ∧ (if neg then - (W : Int) else (W : Int)) ≤ intMax
        then some (if neg then - (W : Int) else (W : Int)) else none := by
  rw [toInt_eq, hacc, if_pos rfl, ← finalN_min]
  cases neg
  · rw [if_neg Bool.false_ne_true, List.nil_append, hb, if_neg Bool.false_ne_true, hW]
  · exact congrArg (finalN true) hW

section
variable {sci : Char} (hs : isDigit sci = false)
include hs

/-- **`toInt` on a grammatical integer**: the value the grammar assigns when it fits an `int`, an
exception otherwise -/
theorem toInt_render (p : IntParts) (hwf : p.WF) :
    toInt sci (p.render sci) = if intMin ≤ p.value ∧ p.value ≤ intMax then some p.value else none := by
  have hacc := isDecimalInteger_render hs p hwf
  rw [intRender_eq] at hacc ⊢
  obtain ⟨neg, ip, ex⟩ := p
  obtain ⟨hip, hne, hex⟩ := hwf
  dsimp only at hacc hip hne hex ⊢
  obtain ⟨a, t, rfl⟩ := List.exists_cons_of_ne_nil hne
  have hb : (((a :: t) ++ intExStr sci ex).head? == some '-') = false :=
    beq_false_of_ne fun e => by
      have := hip a (List.mem_cons_self ..)
      rw [Option.some.inj e] at this; cases this
  have hmant : ∀ rest, (rest = [] ∨ ∃ r, rest = sci :: r) →
      satMant sci 0 ((a :: t) ++ rest) = (min (digitsVal (a :: t)) (toIntLim + 1), rest) :=
    fun rest hrest => satMant_digits hs (a :: t) hip 0 rest hrest
  cases ex with
  | none =>
    exact toInt_signed neg _ _ hacc hb (by rw [hmant (intExStr sci none) (Or.inl rfl)]; rfl)
  | some e =>
    obtain ⟨pl, ds⟩ := e
    obtain ⟨hds, hdne⟩ := hex
    have hr : skipPlus ((if pl then ['+'] else []) ++ ds) = ds := by
      cases pl with
      | true => rfl
      | false =>
        obtain ⟨d0, ds', rfl⟩ := List.exists_cons_of_ne_nil hdne
        exact skipPlus_cons_ne (fun e => by have := hds d0 (by simp); rw [e] at this; cases this) ds'
    have hE : satExp 0 ds = min (digitsVal ds) 11 := satExp_digits ds 0
    have hW : scaleByExp (satMant sci 0 ((a :: t) ++ intExStr sci (some (pl, ds)))).1
        (satMant sci 0 ((a :: t) ++ intExStr sci (some (pl, ds)))).2
        = min (digitsVal (a :: t) * 10 ^ digitsVal ds) (toIntLim + 1) := by
      rw [hmant (intExStr sci (some (pl, ds))) (Or.inr ⟨_, rfl⟩)]
      show satMul (satExp 0 (skipPlus _)) _ = _
      rw [hr, hE, satMul_min, min_pow_sat]
    rw [toInt_signed neg _ _ hacc hb hW]
    cases neg <;> simp [IntParts.value, Int.neg_mul, Int.natCast_mul, Int.natCast_pow]

end

end Bpp.Text.Number
