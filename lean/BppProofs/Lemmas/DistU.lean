import BppProofs.Lemmas.KeyvalU
import BppModel.Text.DistU
/-! Helper lemmas for `Props/C16Dist.lean`: the text stage of
BppODiscreteDistributionFormat::readDiscreteDistribution (UB-aware model `BppModel/Text/DistU.lean`). -/
namespace Bpp.Text.U
open Bpp.Text Bpp.Text.Keyval

/-! ### `listContent_` -/

theorem listContent_safe' (rf : Str) : safe (listContent rf) = true := by
  unfold listContent
  split
  · rfl
  · rw [substr_ok _ (by omega)]; rfl

theorem listContent_len' (rf c : Str) (h : listContent rf = .ok c) : c.length ≤ rf.length := by
  unfold listContent at h
  split at h
  · cases h
  · have := (substr_len h).1; omega

/-! ### one item of `ranges` -/

theorem rangeItem_safe' (desc : Str) (hne : desc ≠ []) : safe (rangeItem desc) = true := by
  have hl : 1 ≤ desc.length := List.length_pos_iff.mpr hne
  have hpos : ∀ c, wadd (toSz (find [c] desc)) 1 ≤ desc.length := fun c =>
    wadd_toSz_one_le fun _ h => find_bounds h
  unfold rangeItem
  refine safe_bind (substr_safe _ hl) (fun _ _ => ?_)
  refine safe_bind (toIntClass_safe _ _) (fun _ _ => ?_)
  refine safe_bind (substr_safe _ (hpos '[')) (fun _ _ => ?_)
  refine safe_bind (toDoubleClass_safe _ _ _) (fun _ _ => ?_)
  refine safe_bind (substr_safe _ (hpos ';')) (fun _ _ => ?_)
  refine safe_bind (toDoubleClass_safe _ _ _) (fun _ _ => ?_)
  rfl

/-! ### the two token loops -/

theorem drainDoubles_safe' (fuel : Nat) (st : Tokenizer) (acc : List Str)
    (hfuel : st.tokens.length - st.pos < fuel) : safe (drainDoubles fuel st acc) = true := by
  induction fuel generalizing st acc with
  | zero => exact absurd hfuel (Nat.not_lt_zero _)
  | succ fuel ih =>
    unfold drainDoubles
    cases hm : st.hasMoreToken with
    | false => rfl
    | true =>
      have hlt := (hasMoreToken_iff st).mp hm
      simp only [Bool.not_true, Bool.false_eq_true, if_false, nextToken_eq hlt, bind_ok]
      exact safe_bind (toDoubleClass_safe _ _ _) fun _ _ => ih _ _ (cursor_step hlt hfuel)

/-- the accepted items are tokens, in order -/
theorem drainDoubles_sumLen (fuel : Nat) (st : Tokenizer) (acc items : List Str)
    (h : drainDoubles fuel st acc = .ok items) :
    sumLen items ≤ sumLen acc + sumLen (st.tokens.drop st.pos) := by
  induction fuel generalizing st acc with
  | zero => simp [drainDoubles] at h
  | succ fuel ih =>
    unfold drainDoubles at h
    cases hm : st.hasMoreToken with
    | false =>
      simp only [hm, Bool.not_false, if_true, Except.ok.injEq] at h
      subst h; omega
    | true =>
      have hlt := (hasMoreToken_iff st).mp hm
      simp only [hm, Bool.not_true, Bool.false_eq_true, if_false, nextToken_eq hlt, bind_ok] at h
      obtain ⟨_, _, h⟩ := bind_eq_ok h
      have := ih _ _ h
      have e := sumLen_drop_succ hlt
      simp only [sumLen_append, sumLen_cons, sumLen_nil] at this
      omega

theorem drainRanges_safe' (fuel : Nat) (st : Tokenizer) (acc : List (Str × Str × Str))
    (hne : ∀ tok ∈ st.tokens, tok ≠ []) (hfuel : st.tokens.length - st.pos < fuel) :
    safe (drainRanges fuel st acc) = true := by
  induction fuel generalizing st acc with
  | zero => exact absurd hfuel (Nat.not_lt_zero _)
  | succ fuel ih =>
    unfold drainRanges
    cases hm : st.hasMoreToken with
    | false => rfl
    | true =>
      have hlt := (hasMoreToken_iff st).mp hm
      simp only [Bool.not_true, Bool.false_eq_true, if_false, nextToken_eq hlt, bind_ok]
      exact safe_bind (rangeItem_safe' _ (hne _ (List.getElem_mem hlt))) fun _ _ =>
        ih _ _ hne (cursor_step hlt hfuel)

/-! ### the list arguments -/

theorem numberList_safe' (rf : Str) (hs : StrOk rf) : safe (numberList rf) = true := by
  unfold numberList
  refine safe_bind (listContent_safe' rf) (fun c hc => ?_)
  have hcs : StrOk c := hs.of_le (listContent_len' rf c hc)
  refine safe_bind (mkTokenizer_spec c [','] false false hcs).safe (fun t _ => ?_)
  exact drainDoubles_safe' _ t [] (Nat.lt_succ_of_le (Nat.sub_le _ _))

theorem rangeList_safe' (rr : Str) (hs : StrOk rr) : safe (rangeList rr) = true := by
  unfold rangeList
  refine safe_bind (listContent_safe' rr) (fun c hc => ?_)
  have hcs : StrOk c := hs.of_le (listContent_len' rr c hc)
  refine safe_bind (mkTokenizer_spec c [','] false false hcs).safe (fun t e => ?_)
  exact drainRanges_safe' _ t [] (tokenizer_tokens_nonempty' c [','] hcs t e) (Nat.lt_succ_of_le (Nat.sub_le _ _))

/-! ### the stages -/

theorem mapFind_strOk {k v : Str} {m : Map} (hm : ∀ kv ∈ m, StrOk kv.2) (h : mapFind k m = some v) :
    StrOk v := hm _ (mapFind_mem h)

theorem simpleStage_safe' (args : Map) (h : ∀ kv ∈ args, StrOk kv.2) :
    safe (simpleStage args) = true := by
  unfold simpleStage
  cases h1 : mapFind "values".toList args with
  | none => rfl
  | some rfv =>
    simp only []
    cases h2 : mapFind "probas".toList args with
    | none => rfl
    | some rfp =>
      simp only []
      refine safe_bind (numberList_safe' rfv (mapFind_strOk h h1)) (fun values _ => ?_)
      refine safe_bind (numberList_safe' rfp (mapFind_strOk h h2)) (fun probas _ => ?_)
      split
      · rfl
      · cases h3 : mapFind "ranges".toList args with
        | none => rfl
        | some rr =>
          simp only []
          exact safe_bind (rangeList_safe' rr (mapFind_strOk h h3)) (fun _ _ => rfl)

theorem mixtureStage_safe' (args : Map) (h : ∀ kv ∈ args, StrOk kv.2) :
    safe (mixtureStage args) = true := by
  unfold mixtureStage
  cases h1 : mapFind "probas".toList args with
  | none => rfl
  | some rf =>
    simp only []
    refine safe_bind (numberList_safe' rf (mapFind_strOk h h1)) (fun probas _ => ?_)
    split
    · rfl
    · split <;> rfl

/-! ### what a number list allocates (no hypothesis on the size) -/

theorem numberList_alloc' (rf : Str) (items : List Str) (h : numberList rf = .ok items) :
    sumLen items ≤ rf.length := by
  unfold numberList at h
  obtain ⟨c, hc, h⟩ := bind_eq_ok h
  obtain ⟨t, ht, h⟩ := bind_eq_ok h
  have hl := listContent_len' rf c hc
  obtain ⟨hp, hsum⟩ := mkTokenizer_ns_sumLen c [','] t ht
  have := drainDoubles_sumLen _ _ _ _ h
  rw [hp] at this
  simp only [List.drop_zero, sumLen_nil] at this
  omega

end Bpp.Text.U
