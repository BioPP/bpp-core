import BppProofs.Lemmas.Graph
/-! Helper lemmas for C14: what a graph operation tells its observers (`pending`) covers what it deleted.
Here the relation `Notified` and the mutators without a loop; the loops follow in `GraphLoops`, the composite ones in `GraphSpec`. -/
set_option linter.unusedSimpArgs false
set_option linter.unusedVariables false
set_option linter.unusedSectionVars false
namespace Bpp
namespace Graph
open AL

def notifiedEdges (evs : List Event) : List Nat := evs.flatMap (fun ev => match ev with | .edges l => l | .nodes _ => [])
def notifiedNodes (evs : List Event) : List Nat := evs.flatMap (fun ev => match ev with | .nodes l => l | .edges _ => [])

theorem notifiedEdges_append (a b : List Event) : notifiedEdges (a ++ b) = notifiedEdges a ++ notifiedEdges b := by
  simp [notifiedEdges]
theorem notifiedNodes_append (a b : List Event) : notifiedNodes (a ++ b) = notifiedNodes a ++ notifiedNodes b := by
  simp [notifiedNodes]

/-- going from `g` to `g'` the observers were told (through `pending`) about every node and edge
that disappeared -/
def Notified (g g' : G) : Prop :=
  ∃ evs, g'.pending = g.pending ++ evs ∧
    (∀ n, g.hasNode n = true → g'.hasNode n = false → n ∈ notifiedNodes evs) ∧
    (∀ e, g.hasEdge e = true → g'.hasEdge e = false → e ∈ notifiedEdges evs)

theorem Notified.refl (g : G) : Notified g g := by
  unfold Notified
  refine ⟨[], by simp, ?_, ?_⟩
  · intro n h1 h2; simp [h1] at h2
  · intro n h1 h2; simp [h1] at h2

theorem Notified.trans {g1 g2 g3 : G} (h12 : Notified g1 g2) (h23 : Notified g2 g3) : Notified g1 g3 := by
  unfold Notified at *
  obtain ⟨e1, p1, n1, d1⟩ := h12
  obtain ⟨e2, p2, n2, d2⟩ := h23
  refine ⟨e1 ++ e2, by rw [p2, p1, List.append_assoc], ?_, ?_⟩
  · intro n h1 h3
    rw [notifiedNodes_append, List.mem_append]
    cases h2 : g2.hasNode n
    · exact Or.inl (n1 n h1 h2)
    · exact Or.inr (n2 n h2 h3)
  · intro e h1 h3
    rw [notifiedEdges_append, List.mem_append]
    cases h2 : g2.hasEdge e
    · exact Or.inl (d1 e h1 h2)
    · exact Or.inr (d2 e h2 h3)

/-- nothing disappeared and nothing was told -/
theorem Notified.of_superset {g g' : G} (hp : g'.pending = g.pending)
    (hn : ∀ n, g.hasNode n = true → g'.hasNode n = true) (he : ∀ e, g.hasEdge e = true → g'.hasEdge e = true) :
    Notified g g' := by
  unfold Notified
  refine ⟨[], by simp [hp], ?_, ?_⟩
  · intro n h1 h2; rw [hn n h1] at h2; cases h2
  · intro e h1 h2; rw [he e h1] at h2; cases h2

theorem Notified.of_ok {α : Type} {g g' : G} {o : GOut α} {v : α} (h : Notified g o.state) (ho : o = .ok v g') : Notified g g' := by
  subst ho; exact h

namespace G

def _root_.Bpp.Graph.GOut.AllN {α : Type} (g : G) (o : GOut α) : Prop := Notified g o.state

theorem hasEdge_set_superset {es : List (Nat × (Nat × Nat))} (e : Nat) (v : Nat × Nat) (e' : Nat)
    (h : AL.has e' es = true) : AL.has e' (AL.set e v es) = true := by
  simp only [has, find_set] at h ⊢
  split <;> simp_all

theorem linkWrite_notified (a b e : Nat) (g : G) : Notified g (linkWrite a b e g) := by
  apply Notified.of_superset (linkWrite_rest a b e g).2.2.2.2
  · intro n h; rw [hasNode_linkWrite]; exact h
  · intro e' h
    simp only [G.hasEdge, edges_linkWrite] at h ⊢
    exact hasEdge_set_superset _ _ _ h

theorem bump_notified (g : G) (k : Nat) : Notified g { g with nextEdge := k } :=
  Notified.of_superset rfl (fun _ h => h) (fun _ h => h)

theorem link_notified (a b : Nat) (g : G) : Notified g (link a b g).state := by
  unfold link
  split
  · exact Notified.refl g
  · exact (bump_notified g _).trans (linkWrite_notified _ _ _ _)

theorem linkE_notified (a b e : Nat) (g : G) : Notified g (linkE a b e g).state := by
  unfold linkE
  split
  · exact Notified.refl g
  · split
    · exact Notified.refl g
    · simp only [GOut.state]
      split
      · exact (bump_notified g _).trans (linkWrite_notified _ _ _ _)
      · exact linkWrite_notified _ _ _ _

theorem createNode_notified (g : G) : Notified g (createNode g).state := by
  unfold createNode
  simp only [GOut.state]
  refine Notified.of_superset ?_ ?_ ?_
  · rfl
  · intro n h
    simp only [G.hasNode, has, find_set] at h ⊢
    split <;> simp_all
  · intro e h; exact h

theorem setRoot_notified (n : Nat) (g : G) : Notified g (setRoot n g).state := by
  unfold setRoot; split
  · exact Notified.of_superset rfl (fun _ h => h) (fun _ h => h)
  · exact Notified.refl g

theorem Unlinked.notified {a b e : Nat} {g g' : G} (u : Unlinked a b e g g') : Notified g g' := by
  refine ⟨[.edges [e]], u.pending, fun n h1 h2 => ?_, fun e' h1 h2 => ?_⟩
  · rw [u.hasNode, h1] at h2; cases h2
  · simp only [G.hasEdge, has, u.edges, find_erase] at h1 h2
    by_cases hee : e = e'
    · subst hee; simp [notifiedEdges]
    · simp only [hee, if_false] at h2; rw [h1] at h2; cases h2

theorem unlink_notified {g : G} (hc : Consistent g) (a b : Nat) : Notified g (unlink a b g).state := by
  rcases hO : g.outE a b with _ | e
  · rw [unlink_none hO]; exact Notified.refl g
  · obtain ⟨g', h, u⟩ := unlink_some hc hO
    rw [h]; exact u.notified

theorem switchNodes_notified (a b : Nat) (g : G) : Notified g (switchNodes a b g).state := by
  rcases hr : switchNodes a b g with ⟨u, g'⟩ | g'
  · obtain ⟨_, f, s, e, sw⟩ := switchNodes_ok hr
    exact Notified.of_superset sw.rest.2.2.2.2 (fun n h => (sw.hasNode n).trans h)
      (fun e' h => by show AL.has e' g'.edges = true; rw [sw.edges]; exact hasEdge_set_superset _ _ _ h)
  · rw [switchNodes_exc hr]; exact .refl g

end G
end Graph
end Bpp
