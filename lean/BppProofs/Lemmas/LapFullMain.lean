import BppProofs.Lemmas.LapFullArr
import BppProofs.Lemmas.LapFullFlip
/-! Helper lemmas for C04 (`lap`, the whole routine): every augmentation removes one free row; the
final loop; the routine as a whole. -/
namespace Bpp.Mx.Lap
open Bpp Bpp.Mx

/-- invariant of `for (f = 0; f < numFree; f++)`: the rows `free[f..N-1]` are free -/
structure AugInv (n : Nat) (c : Nat → Nat → ℝ) (N f : Nat) (s : Core ℝ) : Prop where
  nf : s.numFree = N
  inv : Inv n c s.rowSol s.colSol s.v (FL s.free (fun t => f ≤ t ∧ t < N))
  inj : InjOnI s.free (fun t => f ≤ t ∧ t < N)
  le : N ≤ n

theorem augmentRow_good {n : Nat} (hn : n < 32768) {c : Nat → Nat → ℝ} (B : Prop) (fuel : Nat) (hB : B → n + 1 ≤ fuel)
    (N f : Nat) (hf : f < N) (s : Core ℝ) (h : AugInv n c N f s) :
    Good B (augmentRow fuel n c f s) (AugInv n c N (f + 1)) := by
  have hfn : f < n := by have := h.le; omega
  have hFfr : FL s.free (fun t => f ≤ t ∧ t < N) (s.free f) := ⟨f, ⟨Nat.le_refl _, hf⟩, rfl⟩
  have hfrn := (h.inv.freeOk _ hFfr).1
  unfold augmentRow
  simp only [rd_of_lt _ hfn, hfrn, not_true_eq_false, if_false]
  refine (djLoop_good hn h.inv hFfr B fuel _ (djInit_inv n c s.colSol s.v (s.free f) hfrn Scalar.zero)
    (fun hb => by have := hB hb; simp [djInit]; omega)).bind_match_pair fun dj e ⟨D, hpost⟩ => ?_
  simp only at hpost
  have hlastn : dj.last ≤ n := by have := hpost.lastlow; have := hpost.lown; omega
  refine (priceUpdate_good n dj s.v hpost.perm hlastn B).bind_match fun v' ⟨hv1, hv2⟩ => ?_
  have hat := augTight_of_post h.inv hpost v' hv1 hv2
  obtain ⟨me, hme1, hme2, hme3⟩ := hpost.epos
  -- the unassigned end of the path is the stale column the reversal starts from
  have hflip0 : InvH n c s.rowSol s.colSol v' (FL s.free (fun t => f ≤ t ∧ t < N)) (· = dj.colList me) := by
    refine ⟨fun j hj _ i hi => h.inv.colOk j hj i hi, ?_, fun i hi => ⟨(h.inv.freeOk i hi).1, fun j hj _ => (h.inv.freeOk i hi).2 j hj⟩,
      fun j hj _ i hi => hat.nt1 j hj i hi⟩
    intro i hi hnF
    obtain ⟨j, hj, h1, h2⟩ := h.inv.rowOk i hi hnF
    refine ⟨j, hj, fun e' => ?_, h1, h2⟩
    rw [e', hme3] at h2
    have := hpost.eun
    omega
  rw [← hme3]
  refine (flipLoop_good hn h.inv hFfr hpost.perm hpost.lown hpost.predlt hat B fuel s.rowSol s.colSol me hme2 (Or.inr hme3)
    hflip0 (fun _ _ => rfl) (fun hb => by have := hB hb; omega)).bind_match_pair fun rs' cs' hinv' => Good.ok ?_
  simp only at hinv'
  have hrem := FL_remove (J := fun t => f + 1 ≤ t ∧ t < N) h.inj ⟨Nat.le_refl _, hf⟩ (fun t => by omega)
  exact ⟨h.nf, hinv'.congrF (fun x _ => (hrem x).symm) (fun x hx => (h.inv.freeOk x ((hrem x).1 hx).1).1),
    h.inj.mono (fun t ht => ⟨by omega, ht.2⟩), h.le⟩

theorem augment_good {n : Nat} (hn : n < 32768) {c : Nat → Nat → ℝ} (B : Prop) (fuel : Nat) (hB : B → n + 1 ≤ fuel)
    (s : Core ℝ) (h : CoreInv n c s) :
    Good B (augment fuel n c s) (fun s' => Inv n c s'.rowSol s'.colSol s'.v (fun _ => False)) := by
  unfold augment
  have e0 : (fun t => t < s.numFree) = fun t => 0 ≤ t ∧ t < s.numFree :=
    funext fun t => propext ⟨fun h => ⟨Nat.zero_le _, h⟩, fun h => h.2⟩
  refine (loopM_good (B := B) (fun f s' => AugInv n c s.numFree f s') s.numFree (augmentRow fuel n c) s
    ⟨rfl, e0 ▸ h.inv, e0 ▸ h.inj, h.le⟩
    (fun f s' hf hs' => augmentRow_good hn B fuel hB s.numFree f hf s' hs')).mono (fun s' hs' => ?_)
  have e1 : FL s'.free (fun t => s.numFree ≤ t ∧ t < s.numFree) = fun _ => False :=
    funext fun x => propext ⟨fun ⟨t, ht, _⟩ => by omega, False.elim⟩
  exact e1 ▸ hs'.inv

/-- what the property demands of the answer: `rowSol`, `colSol` are non-negative, `rowSol` is a
permutation of `0..n-1` with inverse `colSol`, the dual variables certify it, the cost is the cost
of the assignment -/
def Certified (n : Nat) (c : Nat → Nat → ℝ) (a : Full ℝ) : Prop :=
  (∀ i, i < n → 0 ≤ a.rowSol i ∧ 0 ≤ a.colSol i) ∧
  permB n (fun i => (a.rowSol i).toNat) (fun j => (a.colSol j).toNat) = true ∧
  certB n c (fun i => (a.rowSol i).toNat) a.u a.v = true ∧
  a.cost = cost n c (fun i => (a.rowSol i).toNat)

theorem finish_good {n : Nat} (hn : n < 32768) {c : Nat → Nat → ℝ} (B : Prop) (u0 : Nat → ℝ) (s : Core ℝ)
    (h : Inv n c s.rowSol s.colSol s.v (fun _ => False)) :
    Good B (finish n c u0 s) (Certified n c) := by
  have hrow : ∀ i, i < n → ∃ j : Nat, j < n ∧ s.rowSol i = (j : Int) ∧ s.colSol j = (i : Int) :=
    fun i hi => h.rowOk i hi (fun hf => hf)
  have hsig : ∀ i, i < n → (s.rowSol i).toNat < n ∧ s.rowSol i = ((s.rowSol i).toNat : Int) ∧ s.colSol (s.rowSol i).toNat = (i : Int) := by
    intro i hi
    obtain ⟨j, hj, h1, h2⟩ := hrow i hi
    have : (s.rowSol i).toNat = j := by omega
    rw [this]; exact ⟨hj, h1, h2⟩
  unfold finish
  have hloop := loopM_good (B := B)
    (fun i (r : Fin_ ℝ) => (∀ i', i' < i → r.u i' = c i' (s.rowSol i').toNat - s.v (s.rowSol i').toNat) ∧
      r.cost = Spec.sumTo i (fun i' => c i' (s.rowSol i').toNat))
    n (finishStep n c s.rowSol s.v) { u := u0, cost := Scalar.zero }
    ⟨fun i' hi' => by omega, by simp [Spec.sumTo]⟩
    (by
      intro i r hi ⟨h1, h2⟩
      unfold finishStep
      obtain ⟨hs1, hs2, _⟩ := hsig i hi
      have hsz : szOfInt (s.rowSol i) = (s.rowSol i).toNat := by
        rw [hs2]; simp only [Int.toNat_natCast]; exact szOfInt_ofNat _ (by omega)
      simp only [hsz, hs1, if_true]
      apply Good.ok
      constructor
      · intro i' hi'
        by_cases hii : i' = i
        · subst hii; simp
        · simp only [upd_ne _ _ hii]; exact h1 i' (by omega)
      · rw [sumTo_succ]; simp only [h2])
  refine hloop.bind_match fun r ⟨hu, hcost⟩ => Good.ok ?_
  -- every column is assigned
  have hcol : ∀ j, j < n → ∃ i, i < n ∧ (s.rowSol i).toNat = j :=
    inj_surj (fun i => (s.rowSol i).toNat) (fun i hi => (hsig i hi).1) (by
      intro a b ha hb hab
      have h1 := (hsig a ha).2.2
      have h2 := (hsig b hb).2.2
      rw [hab] at h1
      omega)
  refine ⟨fun i hi => ⟨by show 0 ≤ s.rowSol i; have := (hsig i hi).2.1; omega, ?_⟩, ?_, ?_, hcost⟩
  · obtain ⟨i', hi', he⟩ := hcol i hi
    have := (hsig i' hi').2.2
    rw [he] at this
    show 0 ≤ s.colSol i
    omega
  · exact permB_iff.2 fun i hi => ⟨(hsig i hi).1, congrArg Int.toNat (hsig i hi).2.2⟩
  · exact certB_of_tight hu fun i hi j hj => h.tight _ (hsig i hi).1 i (hsig i hi).2.2 j hj

/-- **the routine as a whole**: it returns an answer with the demanded properties; it runs out of
fuel only if the fuel is not known to suffice; it never leaves its vectors -/
theorem lapFullG_good {n : Nat} (hn : n < 32768) (c : Nat → Nat → ℝ) (cut : Nat → Nat → Bool) (B : Prop) (fuel : Nat)
    (hB : B → cut = arrCut n ∧ n * n + n + 1 ≤ fuel) (rs0 cs0 : Nat → Int) (u0 v0 : Nat → ℝ) :
    Good B (lapFullG fuel n c cut rs0 cs0 u0 v0) (Certified n c) := by
  unfold lapFullG
  exact (phaseA_good n hn c cut B fuel (fun hb => ⟨(hB hb).1, by have := (hB hb).2; omega⟩) rs0 cs0 v0).bind_match fun s hp =>
    (augment_good hn B fuel (fun hb => by have := (hB hb).2; have : n ≤ n * n + n := Nat.le_add_left _ _; omega) s hp).bind_match
      fun s' hp' => finish_good hn B u0 s' hp'

/-- the routine as called, on a square matrix: at `ℝ` every entry passes the finiteness test, the rest is `lapFull`
on the entries and on the output vectors as `resize(dim)` leaves them -/
theorem lap_good {A : Store ℝ} (hsq : A.ncols = A.nrows) (hn : A.nrows < 32768) (B : Prop) (fuel : Nat)
    (hB : B → A.nrows * A.nrows + A.nrows + 1 ≤ fuel) (rowSol colSol : Array Int) (u v : Array ℝ) :
    Good B (lap fuel A rowSol colSol u v)
      (fun o => ∃ a, Certified A.nrows (fun i j => A.entry i j) a ∧ o = LapOut.ofFull A.nrows a) := by
  have hfin : (!(allLt A.nrows fun i => allLt A.nrows fun j => ExtCmp.gtNegInf (A.entry i j) && ExtCmp.ltPosInf (A.entry i j))) = false := by
    simp [allLt, ExtCmp.gtNegInf, ExtCmp.ltPosInf]
  unfold lap lapFull
  rw [if_neg (fun h => h hsq), hfin, if_neg Bool.false_ne_true]
  exact (lapFullG_good hn (fun i j => A.entry i j) (arrCut A.nrows) B fuel (fun hb => ⟨rfl, hB hb⟩)
    (fun i => rowSol.getD i 0) (fun i => colSol.getD i 0) (fun i => u.getD i Scalar.zero) (fun i => v.getD i Scalar.zero)).bind_match
    fun a hc => Good.ok ⟨a, hc, rfl⟩

end Bpp.Mx.Lap
