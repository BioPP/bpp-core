import BppProofs.Lemmas.NestedRT
import BppModel.Text.Keyval
/-! The two transcriptions of the tokenizers agree: the character-level recursions of the KeyvalTools
model return the tokens of the position-level constructors of `TokenizerU.lean` — `Keyval.tokenize`
those of `mkTokenizer` for `StringTokenizer(s, delimiters)` (non-solid, no empty tokens), and
`Keyval.nested` those of `mkNested` for `NestedStringTokenizer(s, "(", ")", delimiters)` (non-solid)
when the constructor returns. -/
namespace Bpp.Text.RT
open Bpp.Text Bpp.Text.U

-- `Keyval` is opened for the plain tokenizer only: `Keyval.delta` and `RT.delta` both occur below
section
open Bpp.Text.Keyval

theorem tokenize_delims (isD : Char → Bool) (l r : Str) (h : ∀ c ∈ l, isD c = true) :
    tokenize isD (l ++ r) = tokenize isD r := by
  induction l with
  | nil => rfl
  | cons c l ih =>
    have hc := h c (by simp)
    simp only [List.cons_append, tokenize, hc, if_true]
    exact ih (fun x hx => h x (by simp [hx]))

/-- a maximal run of non-delimiters is the first token -/
theorem tokenize_run (isD : Char → Bool) (t rest : Str) (ht : t ≠ []) (hfree : ∀ c ∈ t, isD c = false)
    (hrest : rest = [] ∨ ∃ d r, rest = d :: r ∧ isD d = true) :
    tokenize isD (t ++ rest) = t :: tokenize isD rest := by
  induction t with
  | nil => exact absurd rfl ht
  | cons c t ih =>
    have hc := hfree c (by simp)
    cases t with
    | nil =>
      rcases hrest with rfl | ⟨d, r, rfl, hd⟩
      · simp [tokenize, hc]
      · simp only [List.cons_append, List.nil_append, tokenize, hc, Bool.false_eq_true, if_false, hd, if_true]
    | cons c' t' =>
      have hc' := hfree c' (by simp)
      have := ih (by simp) (fun x hx => hfree x (by simp [hx]))
      simp only [List.cons_append] at this ⊢
      rw [tokenize]
      simp only [hc, Bool.false_eq_true, if_false, hc']
      rw [this]
      rfl

/-- a text made of non-empty delimiter-free tokens separated (and possibly followed) by non-empty
runs of delimiters tokenizes into these tokens -/
theorem tokenize_interleave (isD : Char → Bool) (ts ss : List Str)
    (hts : ∀ t ∈ ts, t ≠ [] ∧ ∀ c ∈ t, isD c = false)
    (hss : ∀ sp ∈ ss, sp ≠ [] ∧ ∀ c ∈ sp, isD c = true)
    (hcount : ts.length = ss.length + 1 ∨ ts.length = ss.length) :
    tokenize isD (interleave ts ss) = ts := by
  induction ts generalizing ss with
  | nil => simp [tokenize]
  | cons t ts ih =>
    obtain ⟨htne, htfree⟩ := hts t (by simp)
    cases ss with
    | nil =>
      have : ts = [] := by
        cases ts with
        | nil => rfl
        | cons _ _ => simp at hcount
      subst this
      simp only [interleave, List.append_nil]
      have := tokenize_run isD t [] htne htfree (Or.inl rfl)
      simpa [tokenize] using this
    | cons sp ss =>
      obtain ⟨hspne, hspall⟩ := hss sp (by simp)
      obtain ⟨d0, sp', hsp⟩ := List.exists_cons_of_ne_nil hspne
      simp only [interleave, List.append_assoc]
      rw [tokenize_run isD t (sp ++ interleave ts ss) htne htfree
        (Or.inr ⟨d0, sp' ++ interleave ts ss, by rw [hsp]; rfl, hspall d0 (by rw [hsp]; simp)⟩)]
      rw [tokenize_delims isD sp _ hspall]
      rw [ih ss (fun t ht => hts t (by simp [ht])) (fun sp hsp => hss sp (by simp [hsp]))
        (by simp only [List.length_cons] at hcount; omega)]

/-- **the bridge**: the tokens of `StringTokenizer(s, d)` as modelled position by position are the
tokens the KeyvalTools model works with -/
theorem tokenize_eq_mkTokenizer (s d : Str) (hs : StrOk s) (T : Tokenizer)
    (h : mkTokenizer s d false false = .ok T) : tokenize (fun c => d.contains c) s = T.tokens := by
  obtain ⟨u, _, hrt⟩ := mkTokenizer_rt s d false false hs T h
  obtain ⟨hjoin, _, hcount, htoks, hsplits⟩ := ctorRtOk_iff.mp hrt
  have hj : s.takeWhile (inSet d) ++ interleave T.tokens T.splits = s := hjoin
  rw [← hj]
  show tokenize (inSet d) _ = _
  rw [tokenize_delims _ _ _ (List.all_eq_true.mp List.all_takeWhile)]
  apply tokenize_interleave
  · exact fun t ht => ⟨(tokenOk_ns_iff.mp (htoks t ht)).2 rfl, (tokenOk_ns_iff.mp (htoks t ht)).1⟩
  · exact fun sp hsp => ⟨(splitOk_ns_iff.mp (hsplits sp hsp)).1, (splitOk_ns_iff.mp (hsplits sp hsp)).2.1⟩
  · rcases hcount with h1 | h1 | h1
    · exact Or.inl h1
    · exact Or.inr h1.2.2
    · rw [h1.2.1, h1.2.2]; exact Or.inr rfl

end

theorem kdelta_eq (x : Char) : Keyval.delta x = delta '(' ')' x := by
  unfold Keyval.delta delta
  by_cases h1 : (x == '(') = true
  · have : x = '(' := by simpa using h1
    subst this; decide
  · by_cases h2 : (x == ')') = true
    · have : x = ')' := by simpa using h2
      subst this; decide
    · simp [h1, h2]

/-- the token under construction gets `t` in front -/
def prepend (t : Str) (l : List Str) : List Str := t.foldr Keyval.pushFront l

theorem prepend_cons (t x : Str) (xs : List Str) : prepend t (x :: xs) = (t ++ x) :: xs := by
  induction t with
  | nil => rfl
  | cons c t ih => simp only [prepend, List.foldr_cons] at ih ⊢; rw [ih]; rfl

theorem nested_skip (isD : Char → Bool) (b : Int) (l r : Str) (h : ∀ c ∈ l, isD c = true) :
    Keyval.nested isD false b (l ++ r) = Keyval.nested isD false b r := by
  induction l with
  | nil => rfl
  | cons c l ih =>
    have hc := h c (by simp)
    simp only [List.cons_append, Keyval.nested, hc, if_true]
    exact ih (fun x hx => h x (by simp [hx]))

theorem nested_all_delims (isD : Char → Bool) (b : Int) (l : Str) (h : ∀ c ∈ l, isD c = true) :
    Keyval.nested isD false b l = some [] := by
  have := nested_skip isD b l [] h
  simpa [Keyval.nested] using this

/-- inside a token: characters are taken as long as no delimiter is at depth 0 -/
theorem nested_inside (d : Str) (ho : d.contains '(' = false) (hc : d.contains ')' = false)
    (t rest : Str) (b : Int) (h : noTopDelim d '(' ')' b t = true) :
    Keyval.nested (inSet d) true b (t ++ rest)
      = (Keyval.nested (inSet d) true (b + depth '(' ')' t) rest).map (prepend t) := by
  induction t generalizing b with
  | nil =>
    have : prepend [] = (id : List Str → List Str) := by funext l; rfl
    simp [depth, this]
  | cons c t ih =>
    simp only [noTopDelim, Bool.and_eq_true, Bool.or_eq_true, Bool.not_eq_true', bne_iff_ne, ne_eq] at h
    obtain ⟨h1, h2⟩ := h
    have hd : b + depth '(' ')' (c :: t) = b + delta '(' ')' c + depth '(' ')' t := by
      simp only [depth]; omega
    rw [hd]
    by_cases hcd : inSet d c = true
    · have hb : b ≠ 0 := by
        rcases h1 with h | h
        · rw [h] at hcd; cases hcd
        · exact h
      have hdz := delta_delim ho hc hcd
      have hbz : (b == 0) = false := by simpa using hb
      simp only [List.cons_append, Keyval.nested, hcd, if_true, hbz, Bool.false_eq_true, if_false]
      rw [hdz, Int.add_zero] at h2 ⊢
      rw [ih b h2, Option.map_map]
      rfl
    · have hcd' : inSet d c = false := by simpa using hcd
      simp only [List.cons_append, Keyval.nested, hcd', Bool.false_eq_true, if_false, kdelta_eq]
      rw [ih _ h2, Option.map_map]
      rfl

/-- one balanced token without delimiter at depth 0, then the end or a delimiter -/
theorem nested_token (d : Str) (ho : d.contains '(' = false) (hc : d.contains ')' = false)
    (t : Str) (hne : t ≠ []) (hdep : depth '(' ')' t = 0) (htop : noTopDelim d '(' ')' 0 t = true) (b0 : Int) :
    Keyval.nested (inSet d) false b0 t = some [t] ∧
    ∀ d0 r, inSet d d0 = true →
      Keyval.nested (inSet d) false b0 (t ++ d0 :: r) = (Keyval.nested (inSet d) false 0 r).map (t :: ·) := by
  obtain ⟨c, t', rfl⟩ := List.exists_cons_of_ne_nil hne
  simp only [noTopDelim, Bool.and_eq_true, Bool.or_eq_true, Bool.not_eq_true', bne_iff_ne, ne_eq,
    not_true_eq_false, or_false, Int.zero_add] at htop
  obtain ⟨hcf, htop'⟩ := htop
  have hdep' : delta '(' ')' c + depth '(' ')' t' = 0 := by simpa [depth] using hdep
  constructor
  · have := nested_inside d ho hc t' [] (delta '(' ')' c) htop'
    simp only [List.append_nil] at this
    simp only [Keyval.nested, hcf, Bool.false_eq_true, if_false, kdelta_eq, this, hdep']
    simp [prepend_cons, Keyval.pushFront]
  · intro d0 r hd0
    have := nested_inside d ho hc t' (d0 :: r) (delta '(' ')' c) htop'
    simp only [List.cons_append, Keyval.nested, hcf, Bool.false_eq_true, if_false, kdelta_eq, this, hdep', hd0,
      if_true, beq_self_eq_true, Option.map_map]
    congr 1
    funext l
    simp [Function.comp, prepend_cons, Keyval.pushFront]

/-- a text made of such tokens separated (and possibly followed) by runs of delimiters -/
theorem nested_interleave (d : Str) (ho : d.contains '(' = false) (hc : d.contains ')' = false)
    (ts ss : List Str)
    (hts : ∀ t ∈ ts, t ≠ [] ∧ depth '(' ')' t = 0 ∧ noTopDelim d '(' ')' 0 t = true)
    (hss : ∀ sp ∈ ss, sp ≠ [] ∧ ∀ c ∈ sp, inSet d c = true)
    (hcount : ts.length = ss.length + 1 ∨ ts.length = ss.length) (b0 : Int) :
    Keyval.nested (inSet d) false b0 (interleave ts ss) = some ts := by
  induction ts generalizing ss b0 with
  | nil => simp [Keyval.nested]
  | cons t ts ih =>
    obtain ⟨htne, hdep, htop⟩ := hts t (by simp)
    obtain ⟨k1, k2⟩ := nested_token d ho hc t htne hdep htop b0
    cases ss with
    | nil =>
      have : ts = [] := by
        cases ts with
        | nil => rfl
        | cons _ _ => simp at hcount
      subst this
      simpa [interleave] using k1
    | cons sp ss =>
      obtain ⟨hspne, hspall⟩ := hss sp (by simp)
      obtain ⟨d0, sp', rfl⟩ := List.exists_cons_of_ne_nil hspne
      simp only [interleave, List.append_assoc, List.cons_append]
      rw [k2 d0 _ (hspall d0 (by simp))]
      rw [nested_skip (inSet d) 0 sp' _ (fun c hc' => hspall c (by simp [hc']))]
      rw [ih ss (fun t ht => hts t (by simp [ht])) (fun sp hsp => hss sp (by simp [hsp]))
        (by simp only [List.length_cons] at hcount; omega) 0]
      rfl

/-- **the bridge** for the nested tokenizer, when the constructor returns -/
theorem nested_eq_mkNested (s d : Str) (ho : d.contains '(' = false) (hc : d.contains ')' = false)
    (hs : s.length < 2147483648) (T : Tokenizer) (h : mkNested s ['('] [')'] d false = .ok T) :
    Keyval.nested (fun c => d.contains c) false 0 s = some T.tokens := by
  obtain ⟨u, _, hrt⟩ := mkNested_rt s ['('] [')'] d false hs T h
  obtain ⟨hjoin, _, hcount, hsplits, htoks⟩ := nestedRtOk_iff.mp hrt
  have hdep := nestedDepthOk_iff.mp (mkNested_depth s d '(' ')' false ho hc hs T h)
  have hj : s.takeWhile (inSet d) ++ interleave T.tokens T.splits = s := hjoin
  rw [← hj]
  show Keyval.nested (inSet d) false 0 _ = _
  rw [nested_skip _ _ _ _ (List.all_eq_true.mp List.all_takeWhile)]
  exact nested_interleave d ho hc T.tokens T.splits
    (fun t ht => ⟨htoks rfl t ht, (hdep t ht).1, (hdep t ht).2 rfl⟩)
    (fun sp hsp => (hsplits sp hsp).2 rfl) (hcount.imp_right (·.2)) 0

end Bpp.Text.RT
