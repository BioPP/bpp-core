import BppProofs.Lemmas.TreeRooted
/-
`MRCA` on a valid rooted tree: the answer is the most recent common ancestor — a common ancestor of
the queried nodes that every common ancestor is an ancestor of.  Along the proof "the ancestors of `m` are
the common ancestors of `S`" (`CommonAnc`) is the handier form.
-/
namespace Bpp.Graph
open AL

/-- `m` is the most recent common ancestor of the nodes `S` -/
def IsMrcaP (par : Nat → Option Nat) (S : List Nat) (m : Nat) : Prop :=
  (∀ s ∈ S, IsAnc par m s) ∧ ∀ c, (∀ s ∈ S, IsAnc par c s) → IsAnc par c m

def CommonAnc (par : Nat → Option Nat) (S : List Nat) (m : Nat) : Prop := ∀ z, IsAnc par z m ↔ ∀ s ∈ S, IsAnc par z s

theorem CommonAnc.isMrca {par : Nat → Option Nat} {S : List Nat} {m : Nat} (h : CommonAnc par S m) : IsMrcaP par S m :=
  ⟨(h m).1 (.refl m), fun c hc => (h c).2 hc⟩

theorem idxOf_get {l : List Nat} {y : Nat} (h : y ∈ l) : l[l.idxOf y]? = some y := by
  rw [List.getElem?_eq_getElem (List.idxOf_lt_length_of_mem h), List.getElem_idxOf]

namespace PTree
variable {P : PTree}

/-- of two ancestors of a node, the one of lower rank is an ancestor of the other -/
theorem WF.anc_of_rank_le (h : P.WF) {a b x : Nat} (ha : IsAnc P.par a x) (hb : IsAnc P.par b x)
    (hr : P.rank a ≤ P.rank b) : IsAnc P.par a b :=
  (IsAnc.linear ha hb).elim id (fun h1 => h.anc_eq_of_rank h1 hr ▸ .refl _)

end PTree

namespace DTree
variable {g : G} {P : PTree}

/-- the climb from `here` joins the line of `x0` at the most recent common ancestor of both -/
theorem joinRank (h : DTree g P) {x0 : Nat} (hx0 : x0 ∈ P.nodes) :
    ∀ (fuel here : Nat), here ∈ P.nodes → P.rank here + 1 ≤ fuel →
    ∃ y, T.joinRank g (P.line x0) fuel here = .ok ((P.line x0).idxOf y) ∧ y ∈ P.line x0 ∧
      ∀ z, IsAnc P.par z y ↔ IsAnc P.par z x0 ∧ IsAnc P.par z here := by
  intro fuel
  induction fuel with
  | zero => intro here _ hr; cases hr
  | succ f ih =>
    intro here hh hr
    rw [T.joinRank]
    by_cases hmem : here ∈ P.line x0
    · rw [if_pos (List.contains_iff_mem.2 hmem)]
      exact ⟨here, rfl, hmem, fun z => ⟨fun hz => ⟨hz.trans (h.wf.mem_line.1 hmem), hz⟩, fun hz => hz.2⟩⟩
    · rw [if_neg (fun hc => hmem (List.contains_iff_mem.1 hc))]
      have hnode := (h.nodes here).1 hh
      obtain ⟨p, hp, hpm, hrk⟩ := h.wf.par_some here hh
        (fun e => hmem (e ▸ h.wf.mem_line.2 (h.wf.root_anc hx0)))
      rw [hrk] at hr
      obtain ⟨y, h1, h2, h3⟩ := ih p hpm (Nat.le_of_succ_le_succ hr)
      rw [h.hasFather hnode, h.father hnode, hp]
      refine ⟨y, h1, h2, fun z => (h3 z).trans ⟨fun hz => ⟨hz.1, .step hp hz.2⟩, fun hz => ⟨hz.1, ?_⟩⟩⟩
      rcases IsAnc.cases_son hp hz.2 with rfl | hz'
      · exact absurd (h.wf.mem_line.2 hz.1) hmem
      · exact hz'

/-- the loop over the other nodes keeps the place in the line of the most recent common ancestor so far -/
theorem mrcaFold (h : DTree g P) {x0 : Nat} (hx0 : x0 ∈ P.nodes) (fuel : Nat) (hf : g.nodes.length + 1 ≤ fuel) :
    ∀ (rest S : List Nat) (m c : Nat), (∀ s ∈ rest, s ∈ P.nodes) → x0 ∈ S →
      (P.line x0)[m]? = some c → CommonAnc P.par S c →
      ∃ m' c', rest.foldl (T.mrcaStep g (P.line x0) fuel) (.ok m) = .ok m' ∧
        (P.line x0)[m']? = some c' ∧ CommonAnc P.par (S ++ rest) c' := by
  intro rest
  induction rest with
  | nil => intro S m c _ _ hm hc; exact ⟨m, c, rfl, hm, by rwa [List.append_nil]⟩
  | cons n rest ih =>
    intro S m c hn hxS hm hc
    have hnn := hn n (List.mem_cons_self ..)
    obtain ⟨y, h1, h2, h3⟩ := h.joinRank hx0 fuel n hnn (Nat.le_trans (h.rank_lt hnn) (Nat.le_of_succ_le hf))
    have hy := idxOf_get h2
    have hcx : IsAnc P.par c x0 := (hc c).1 (.refl c) x0 hxS
    have hyx : IsAnc P.par y x0 := ((h3 y).1 (.refl y)).1
    have hrc := (h.wf.line_get hm).1
    have hry := (h.wf.line_get hy).1
    -- the new candidate is `c` or `y`, whichever is higher: an ancestor of the other
    obtain ⟨c', hm', hc'⟩ : ∃ c', (P.line x0)[max m ((P.line x0).idxOf y)]? = some c' ∧
        ∀ z, IsAnc P.par z c' ↔ IsAnc P.par z c ∧ IsAnc P.par z y := by
      by_cases hle : m ≤ (P.line x0).idxOf y
      · rw [Nat.max_eq_right hle]
        have hyc := h.wf.anc_of_rank_le hyx hcx (by omega)
        exact ⟨y, hy, fun z => ⟨fun hz => ⟨hz.trans hyc, hz⟩, fun hz => hz.2⟩⟩
      · rw [Nat.max_eq_left (Nat.le_of_not_le hle)]
        have hcy := h.wf.anc_of_rank_le hcx hyx (by omega)
        exact ⟨c, hm, fun z => ⟨fun hz => ⟨hz, hz.trans hcy⟩, fun hz => hz.1⟩⟩
    have hstep : T.mrcaStep g (P.line x0) fuel (.ok m) n = .ok (max m ((P.line x0).idxOf y)) := by
      rw [T.mrcaStep, h1]
    obtain ⟨m'', c'', hr, hm'', hc''⟩ := ih (S ++ [n]) _ c' (fun s hs => hn s (List.mem_cons_of_mem _ hs))
      (List.mem_append_left _ hxS) hm' (fun z => by
        rw [hc' z, hc z, h3 z, List.forall_mem_append]
        exact ⟨fun hz => ⟨hz.1, fun s hs => (List.mem_singleton.1 hs) ▸ hz.2.2⟩,
          fun hz => ⟨hz.1, hz.1 _ hxS, hz.2 n (List.mem_singleton.2 rfl)⟩⟩)
    exact ⟨m'', c'', by rw [List.foldl_cons, hstep, hr], hm'', by rwa [List.append_assoc] at hc''⟩

/-- `MRCA` answers the most recent common ancestor -/
theorem mrca (h : DTree g P) (x0 : Nat) (rest : List Nat) (hS : ∀ s ∈ x0 :: rest, s ∈ P.nodes) :
    ∃ m, T.mrca g (x0 :: rest) = .ok m ∧ m ∈ P.nodes ∧ IsMrcaP P.par (x0 :: rest) m := by
  have hx0 := hS x0 (List.mem_cons_self ..)
  have h0 : CommonAnc P.par [x0] x0 := fun z => ⟨fun hz s hs => List.mem_singleton.1 hs ▸ hz, fun hz => hz x0 (by simp)⟩
  cases rest with
  | nil => exact ⟨x0, by rw [T.mrca, h.dir]; rfl, hx0, h0.isMrca⟩
  | cons n rest =>
    have hl0 : (P.line x0)[0]? = some x0 := by rw [← List.head?_eq_getElem?]; exact P.line_head x0
    obtain ⟨m', c', hr, hm', hc'⟩ := h.mrcaFold hx0 (g.nodes.length + 2) (Nat.le_succ _) (n :: rest) [x0] 0 x0
      (fun s hs => hS s (List.mem_cons_of_mem _ hs)) (by simp) hl0 h0
    refine ⟨c', ?_, h.wf.anc_mem (hc'.isMrca.1 x0 (by simp)) hx0, hc'.isMrca⟩
    rw [T.mrca, h.dir, h.climb_std hx0]
    · simp only [Bool.not_true, Bool.false_eq_true, if_false, hr, hm']
    · exact nofun

/-- the executable test of the reference for "most recent common ancestor" accepts it -/
theorem ref_isMrca (h : DTree g P) {S : List Nat} (hS : ∀ s ∈ S, s ∈ P.nodes) {m : Nat} (hm : m ∈ P.nodes)
    (hmr : IsMrcaP P.par S m) : (refRaw g).isMrca S m = true := by
  rw [Ref.isMrca, Bool.and_eq_true, Bool.and_eq_true, List.all_eq_true, List.all_eq_true]
  refine ⟨⟨List.contains_iff_mem.2 ((h.mem_ref_nodes m).2 hm), fun s hs => (h.ref_isAnc (hS s hs) m).2 (hmr.1 s hs)⟩, fun c hc => ?_⟩
  -- a node that is no common ancestor passes; a common ancestor is an ancestor of `m`
  cases hall : S.all ((refRaw g).isAnc c) with
  | false => rfl
  | true =>
    exact (h.ref_isAnc hm c).2 (hmr.2 c fun s hs => (h.ref_isAnc (hS s hs) c).1 (List.all_eq_true.1 hall s hs))

end DTree
end Bpp.Graph
