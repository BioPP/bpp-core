import Mathlib.LinearAlgebra.Matrix.Stochastic
import Mathlib.Algebra.Order.BigOperators.Group.Finset
import Mathlib.Algebra.BigOperators.Ring.Finset
import Mathlib.Algebra.Order.BigOperators.Ring.Finset
import Mathlib.Tactic.Linarith
import Mathlib.Tactic.Ring
/-!
Helper lemmas for C13: a row of a high power of a row-stochastic matrix is stationary up to an
explicit remainder (Dobrushin's contraction).  If every entry of `P` is at least `δ`, then for every
vector `v` with `Σ v = 0`:  `‖v·P‖₁ ≤ (1 − n·δ)·‖v‖₁`; hence for a probability vector `μ`
`‖(μ·P^k)·P − μ·P^k‖₁ = ‖(μ·P − μ)·P^k‖₁ ≤ 2·(1 − n·δ)^k`.
-/
namespace Bpp.Hmm
open Matrix Finset

variable {n : Nat}

/-- `‖v‖₁` -/
noncomputable def l1 (v : Fin n → ℝ) : ℝ := ∑ i, |v i|

theorem l1_nonneg (v : Fin n → ℝ) : 0 ≤ l1 v := Finset.sum_nonneg (fun _ _ => abs_nonneg _)

theorem abs_le_l1 (v : Fin n → ℝ) (j : Fin n) : |v j| ≤ l1 v :=
  Finset.single_le_sum (f := fun i => |v i|) (fun _ _ => abs_nonneg _) (Finset.mem_univ j)

/-- a row-stochastic matrix keeps the sum of the entries of a row vector -/
theorem sum_vecMul (P : Matrix (Fin n) (Fin n) ℝ) (hP : ∀ i, ∑ j, P i j = 1) (v : Fin n → ℝ) :
    ∑ j, (v ᵥ* P) j = ∑ i, v i := by
  simp only [vecMul, dotProduct]
  rw [Finset.sum_comm]
  apply Finset.sum_congr rfl
  intro i _
  rw [← Finset.mul_sum, hP i, mul_one]

/-- Dobrushin: one step contracts zero-sum vectors by `1 − n·δ` -/
theorem l1_vecMul_le (P : Matrix (Fin n) (Fin n) ℝ) (hP : ∀ i, ∑ j, P i j = 1) (δ : ℝ) (hδ : ∀ i j, δ ≤ P i j)
    (v : Fin n → ℝ) (hv : ∑ i, v i = 0) : l1 (v ᵥ* P) ≤ (1 - n * δ) * l1 v := by
  have h1 : ∀ j, (v ᵥ* P) j = ∑ i, v i * (P i j - δ) := by
    intro j
    simp only [vecMul, dotProduct]
    have : ∑ i, v i * (P i j - δ) = ∑ i, v i * P i j - δ * ∑ i, v i := by
      rw [Finset.mul_sum, ← Finset.sum_sub_distrib]
      apply Finset.sum_congr rfl; intro i _; ring
    rw [this, hv, mul_zero, sub_zero]
  have h2 : ∀ j, |(v ᵥ* P) j| ≤ ∑ i, |v i| * (P i j - δ) := by
    intro j
    rw [h1 j]
    refine (Finset.abs_sum_le_sum_abs _ _).trans (le_of_eq ?_)
    apply Finset.sum_congr rfl; intro i _
    rw [abs_mul, abs_of_nonneg (sub_nonneg.mpr (hδ i j))]
  calc l1 (v ᵥ* P) = ∑ j, |(v ᵥ* P) j| := rfl
    _ ≤ ∑ j, ∑ i, |v i| * (P i j - δ) := Finset.sum_le_sum (fun j _ => h2 j)
    _ = ∑ i, |v i| * ∑ j, (P i j - δ) := by
        rw [Finset.sum_comm]; apply Finset.sum_congr rfl; intro i _; rw [Finset.mul_sum]
    _ = ∑ i, |v i| * (1 - n * δ) := by
        apply Finset.sum_congr rfl; intro i _
        rw [Finset.sum_sub_distrib, hP i, Finset.sum_const, Finset.card_univ, Fintype.card_fin, nsmul_eq_mul]
    _ = (1 - n * δ) * l1 v := by unfold l1; rw [Finset.mul_sum]; apply Finset.sum_congr rfl; intro i _; ring

/-- … and `k` steps by `(1 − n·δ)^k` -/
theorem l1_vecMul_pow_le (P : Matrix (Fin n) (Fin n) ℝ) (hP : ∀ i, ∑ j, P i j = 1) (δ : ℝ) (hδ : ∀ i j, δ ≤ P i j)
    (hc : 0 ≤ 1 - (n : ℝ) * δ) (v : Fin n → ℝ) (hv : ∑ i, v i = 0) (k : Nat) :
    l1 (v ᵥ* P ^ k) ≤ (1 - n * δ) ^ k * l1 v := by
  induction k generalizing v with
  | zero => simp
  | succ k ih =>
    rw [pow_succ', ← vecMul_vecMul, pow_succ]
    have hz : ∑ i, (v ᵥ* P) i = 0 := by rw [sum_vecMul P hP, hv]
    calc l1 ((v ᵥ* P) ᵥ* P ^ k) ≤ (1 - n * δ) ^ k * l1 (v ᵥ* P) := ih _ hz
      _ ≤ (1 - n * δ) ^ k * ((1 - n * δ) * l1 v) :=
          mul_le_mul_of_nonneg_left (l1_vecMul_le P hP δ hδ v hv) (pow_nonneg hc k)
      _ = (1 - n * δ) ^ k * (1 - n * δ) * l1 v := by ring

/-- the difference of two probability vectors moved `k` steps along the chain -/
theorem abs_sub_vecMul_pow_le (P : Matrix (Fin n) (Fin n) ℝ) (hP : ∀ i, ∑ j, P i j = 1) (δ : ℝ) (hδ : ∀ i j, δ ≤ P i j)
    (hc : 0 ≤ 1 - (n : ℝ) * δ) {a b : Fin n → ℝ} (ha0 : ∀ i, 0 ≤ a i) (hb0 : ∀ i, 0 ≤ b i) (ha : ∑ i, a i = 1)
    (hb : ∑ i, b i = 1) (k : Nat) (j : Fin n) : |((a - b) ᵥ* P ^ k) j| ≤ 2 * (1 - n * δ) ^ k := by
  have hz : ∑ i, (a - b) i = 0 := by simp only [Pi.sub_apply, Finset.sum_sub_distrib, ha, hb, sub_self]
  have hl : l1 (a - b) ≤ 2 :=
    calc l1 (a - b) ≤ ∑ i, (a i + b i) := Finset.sum_le_sum fun i _ =>
          (abs_sub (a i) (b i)).trans_eq (by rw [abs_of_nonneg (ha0 i), abs_of_nonneg (hb0 i)])
      _ = 2 := by rw [Finset.sum_add_distrib, ha, hb]; norm_num
  calc |((a - b) ᵥ* P ^ k) j| ≤ l1 ((a - b) ᵥ* P ^ k) := abs_le_l1 _ j
    _ ≤ (1 - n * δ) ^ k * l1 (a - b) := l1_vecMul_pow_le P hP δ hδ hc _ hz k
    _ ≤ (1 - n * δ) ^ k * 2 := mul_le_mul_of_nonneg_left hl (pow_nonneg hc k)
    _ = 2 * (1 - n * δ) ^ k := mul_comm _ _

/-- a probability vector moved `k` steps along the chain is stationary up to `2·(1 − n·δ)^k` in `ℓ¹`,
hence in every coordinate -/
theorem stationary_remainder (P : Matrix (Fin n) (Fin n) ℝ) (hP0 : ∀ i j, 0 ≤ P i j) (hP : ∀ i, ∑ j, P i j = 1)
    (δ : ℝ) (hδ : ∀ i j, δ ≤ P i j) (hc : 0 ≤ 1 - (n : ℝ) * δ)
    (μ : Fin n → ℝ) (hμ0 : ∀ i, 0 ≤ μ i) (hμ : ∑ i, μ i = 1) (k : Nat) (j : Fin n) :
    |((μ ᵥ* P ^ k) ᵥ* P) j - (μ ᵥ* P ^ k) j| ≤ 2 * (1 - n * δ) ^ k := by
  -- (μ P^k) P − μ P^k = (μ P − μ) P^k
  have hdiff : (μ ᵥ* P ^ k) ᵥ* P - μ ᵥ* P ^ k = (μ ᵥ* P - μ) ᵥ* P ^ k := by
    rw [sub_vecMul, vecMul_vecMul, vecMul_vecMul, ← pow_succ, ← pow_succ']
  rw [← Pi.sub_apply, hdiff]
  exact abs_sub_vecMul_pow_le P hP δ hδ hc (a := μ ᵥ* P)
    (fun i => show 0 ≤ ∑ a, μ a * P a i from Finset.sum_nonneg fun a _ => mul_nonneg (hμ0 a) (hP0 a i)) hμ0 ((sum_vecMul P hP μ).trans hμ) hμ k j

end Bpp.Hmm
