import BppProofs.Lemmas.LUStoreFactor
import BppProofs.Lemmas.MatrixOfFn
/-!
Helper lemmas for C05, storage level: `solve` / `inv` / `det` of `BppModel/LUStore.lean` (statement
by statement, output in any class and any prior state) refine `LU.solve` / `LU.inv` / `LU.matDet`,
for any scalar type; the stores that meet the hypothesis of these statements (`Is.matOf`, `is_ofFn`); the witness of the
defect repaired in `solve(B, B)`.
-/
namespace Bpp.LUS
open Bpp Bpp.Mx Bpp.LU

variable {α : Type} [Scalar α] {n : Nat}

-- With Mathlib in scope the search for `Mul α` (`Sub α`, `Div α`) goes through every algebraic class
-- before it reaches the parent projections of `Scalar`; at this priority they are tried first.
attribute [local instance 1100] Scalar.toMul Scalar.toSub Scalar.toDiv

/-- a double loop that assigns `val i j` to every cell -/
theorem fillLoop {S : Store α} {k : Kind} {r c : Nat} {f : Nat → Nat → α} (hS : Is S k r c f)
    (val : Nat → Nat → α) (obody : Nat → Store α → Res (Store α))
    (hbody : ∀ i, i < r → ∀ T, obody i T = loop c (fun j T => wr T i j (val i j)) T) :
    ∃ S', loop r obody S = .ok S' ∧ Is S' k r c val := by
  rw [← loopFrom_zero]
  refine (loopFrom_update (fun T g => Is T k r c g) hS (Nat.zero_le r) val obody ?_).imp
    fun S' h => ⟨h.1, h.2.congr fun a b ha _ => by rw [if_pos ⟨Nat.zero_le a, ha⟩]⟩
  intro i _ hi T g hT _
  rw [hbody i hi T]
  exact rowLoop_full hT hi (val i) _ fun j _ T g _ _ => rfl

/-! ### smallest pivot magnitude, determinant -/

theorem minDiagS_refines {s : StateS α} {t : LU.State α n n} (hr : Rep s t) (hn : 0 < n) :
    minDiagS s = .ok (minDiag t rfl hn) := by
  obtain ⟨hm, _, hlu, _, _⟩ := hr
  unfold minDiagS
  rw [hlu.rd hn hn, hm]
  simp only [ok_bind]
  obtain ⟨d, e, r⟩ := loopFrom_foldl (fun (a b : α) => a = b) 1 n
    (fun i d => do
      let c ← rd s.lu i i
      pure (if Scalar.ltb (numAbs c) d then numAbs c else d))
    (fun d (i : Fin n) => if 0 < i.val then
      (if Scalar.ltb (numAbs (t.lu.get (i.cast rfl) i)) d then numAbs (t.lu.get (i.cast rfl) i) else d) else d)
    (numAbs (fnOf t.lu 0 0)) _ rfl
    (fun i d hi => by
      have : ¬ 0 < i.val := by omega
      simp only [this, if_false])
    (fun i a b hi hab => by
      subst hab
      have h0 : 0 < i.val := by omega
      simp only [hlu.rd i.isLt i.isLt, ok_bind, pure_eq, fnOf_get, h0, if_true, Fin.cast_eq_self]
      exact ⟨_, rfl, rfl⟩)
  rw [e, r]
  simp only [minDiag, fnOf_lt _ hn hn, Fin.cast_eq_self]

/-- the head that the overloads of `solve` share (height test, smallest-pivot scan, threshold test), on a square
decomposition and an operand of the right height; `k` is what the overload goes on to do with the indicator -/
theorem solveGuardS {β : Type} {s : StateS α} {t : LU.State α n n} (hr : Rep s t) (hn : 0 < n) {rows : Nat} (hrows : rows = n)
    (k : α → Res β) :
    (if rows ≠ s.m then .error .badInteger else do
      let d ← minDiagS s
      if belowThreshold d then .error .zeroDivision else k d) =
    if belowThreshold (minDiag t rfl hn) then .error .zeroDivision else k (minDiag t rfl hn) := by
  rw [if_neg (by rw [hr.m_eq, hrows]; simp), minDiagS_refines hr hn, ok_bind]

theorem detS_refines {m : Nat} {s : StateS α} {t : LU.State α m n} (hr : Rep s t) (hnm : n ≤ m) :
    detS s = .ok (LU.det t) := by
  obtain ⟨hm, hn', hlu, hsign, _⟩ := hr
  unfold detS LU.det
  rw [hm, hn']
  by_cases h : n = m
  · subst h
    simp only [ne_eq, not_true_eq_false, if_false, dif_pos]
    obtain ⟨d, e, r⟩ := loop_foldl (fun (a b : α) => a = b) n
      (fun j d => do
        let x ← rd s.lu j j
        pure (d * x))
      (fun d (j : Fin n) => d * t.lu.get (j.cast rfl) j) (Scalar.ofInt s.pivsign) _ rfl
      (fun j a b hab => by
        subst hab
        simp only [hlu.rd j.isLt j.isLt, ok_bind, pure_eq, fnOf_get, Fin.cast_eq_self]
        exact ⟨_, rfl, rfl⟩)
    rw [e, r, hsign]
  · have : m ≠ n := fun e => h e.symm
    simp [this, h]

/-- `LU(0,0)` of the decomposition of a matrix without rows is out of range -/
theorem minDiagS_empty {m : Nat} {s : StateS α} {t : LU.State α m n} (hr : Rep s t) (hm : m = 0) :
    minDiagS s = .error .ub := by
  obtain ⟨_, hk, hnr, _⟩ := hr.lu_is
  unfold minDiagS rd
  cases hs : s.lu with
  | row mm =>
    rw [hs] at hnr
    have : mm.size = 0 := hnr.trans hm
    simp [Store.get, this]
    rfl
  | col mm => rw [hs] at hk; cases hk
  | lin mm a b => rw [hs] at hk; cases hk

/-! ### permuted copy into an output in any prior state -/

theorem permuteCopyS_refines (piv : Vector (Fin n) n) {B : Store α} {kB : Kind} {nx : Nat} (Bm : Mat α n nx)
    (hB : Is B kB n nx (fnOf Bm)) {X : Store α} (hX : X.WF) (hn : 0 < n) (hnx : 0 < nx) :
    ∃ X', permuteCopyS B (Array.ofFn (n := n) fun i => (piv[i.val]'i.isLt).val) nx X = .ok X' ∧
      Is X' X.kind n nx (fnOf (permuteCopy Bm rfl piv)) := by
  unfold permuteCopyS
  simp only [Array.size_ofFn]
  have h0 := Is.resize hX n nx (shape_pos X.kind hn hnx)
  refine (fillLoop h0
    (fun a b => fnOf Bm (if h : a < n then (piv[a]'h).val else 0) b) _ ?body).imp fun X' h => ⟨h.1, h.2.congr ?fin⟩
  case body =>
    intro i hi T
    have : ¬ nx = 0 := by omega
    simp only [vrd_ofFn _ hi, ok_bind, this, if_false, hi, dif_pos]
    apply loop_congr
    intro j hj T'
    have := hB.rd (piv[i]'hi).isLt hj
    simp only [this, ok_bind]
  intro a b ha hb'
  simp only [ha, dif_pos, permuteCopy]
  rw [fnOf_ofFn _ ha hb', fnOf_lt _ (piv[a]'ha).isLt hb']
  simp

/-! ### forward and back substitution -/

theorem axpyRowS_spec {LUs : Store α} {l : Nat → Nat → α} (hlu : Is LUs .row n n l) {X : Store α} {k0 : Kind} {nx : Nat}
    {g : Nat → Nat → α} (hX : Is X k0 n nx g) {k i : Nat} (hk : k < n) (hi : i < n) (hne : i ≠ k) :
    ∃ X', axpyRowS LUs nx k i X = .ok X' ∧ Is X' k0 n nx (Function.update g i fun b => g i b - g k b * l i k) := by
  unfold axpyRowS
  refine rowLoop_full hX hi (fun b => g i b - g k b * l i k) _ ?_
  intro j hj T g' hT hout
  have h1 := hT.rd hi hj
  have h2 := hT.rd hk hj
  rw [Function.update_self, hout j (lt_irrefl j)] at h1
  rw [Function.update_of_ne hne.symm] at h2
  simp only [h1, h2, hlu.rd hi hk, ok_bind]

theorem fwdStepS_refines {s : StateS α} {t : LU.State α n n} (hr : Rep s t) {X : Store α} {k0 : Kind} {nx : Nat}
    (Y : Mat α n nx) (hX : Is X k0 n nx (fnOf Y)) (k : Fin n) :
    ∃ X', loopFrom (k.val + 1) n (fun i X => axpyRowS s.lu nx k.val i X) X = .ok X' ∧
      Is X' k0 n nx (fnOf (fwdStep t rfl Y k)) := by
  have hlu := hr.lu_is
  -- the slots are the rows below row `k`
  refine (loopFrom_update (fun T g => Is T k0 n nx g) hX (show k.val + 1 ≤ n by omega)
    (fun a b => fnOf Y a b - fnOf Y k.val b * fnOf t.lu a k.val) _ ?body).imp fun X' h => ⟨h.1, h.2.of_get ?fin⟩
  case body =>
    intro i hi0 hi1 T g hT hout
    have := axpyRowS_spec hlu hT k.isLt hi1 (by omega)
    rwa [hout i (by omega), hout k.val (by omega)] at this
  intro i j
  simp only [fwdStep, Mat.get_ofFn, fnOf_get, i.isLt, and_true, Fin.cast_eq_self, Nat.succ_le_iff, ite_apply]

theorem fwdS_refines {s : StateS α} {t : LU.State α n n} (hr : Rep s t) {X : Store α} {k0 : Kind} {nx : Nat}
    (Y : Mat α n nx) (hX : Is X k0 n nx (fnOf Y)) :
    ∃ X', fwdS s nx X = .ok X' ∧ Is X' k0 n nx (fnOf (Fin.foldl n (fwdStep t rfl) Y)) := by
  unfold fwdS
  rw [hr.n_eq]
  exact loop_foldl (fun (T : Store α) (Z : Mat α n nx) => Is T k0 n nx (fnOf Z)) n _ (fwdStep t rfl) X Y hX
    (fun k T Z hT => fwdStepS_refines hr Z hT k)

theorem divRowS_spec {LUs : Store α} {l : Nat → Nat → α} (hlu : Is LUs .row n n l) {X : Store α} {k0 : Kind} {nx : Nat}
    {g : Nat → Nat → α} (hX : Is X k0 n nx g) {k : Nat} (hk : k < n) :
    ∃ X', divRowS LUs nx k X = .ok X' ∧ Is X' k0 n nx (Function.update g k fun b => g k b / l k k) := by
  unfold divRowS
  refine rowLoop_full hX hk (fun b => g k b / l k k) _ ?_
  intro j hj T g' hT hout
  have h1 := hT.rd hk hj
  rw [Function.update_self, hout j (lt_irrefl j)] at h1
  simp only [h1, hlu.rd hk hk, ok_bind]

theorem backStepS_refines {s : StateS α} {t : LU.State α n n} (hr : Rep s t) {X : Store α} {k0 : Kind} {nx : Nat}
    (Y : Mat α n nx) (hX : Is X k0 n nx (fnOf Y)) (k : Fin n) :
    ∃ X', (do
        let X1 ← divRowS s.lu nx k.val X
        loop k.val (fun i X => axpyRowS s.lu nx k.val i X) X1) = .ok X' ∧
      Is X' k0 n nx (fnOf (backStep t rfl k Y)) := by
  have hlu := hr.lu_is
  obtain ⟨X1, e1, hX1⟩ := divRowS_spec hlu hX k.isLt
  rw [e1, ok_bind, ← loopFrom_zero]
  -- the slots are the rows above row `k`, which holds the quotients
  refine (loopFrom_update (fun T g => Is T k0 n nx g) hX1 (Nat.zero_le k.val)
    (fun a b => fnOf Y a b - fnOf Y k.val b / fnOf t.lu k.val k.val * fnOf t.lu a k.val) _ ?body).imp
    fun X' h => ⟨h.1, h.2.of_get ?fin⟩
  case body =>
    intro i _ hi T g hT hout
    have := axpyRowS_spec hlu hT k.isLt (show i < n by omega) (by omega)
    rwa [hout i (by omega), hout k.val (by omega), Function.update_self, Function.update_of_ne (by omega)] at this
  intro i j
  simp only [backStep, Mat.get_ofFn, fnOf_get, Fin.cast_eq_self, Nat.zero_le, true_and, ite_apply, Function.update_apply]
  by_cases hak : i.val = k.val
  · rw [if_neg (by omega), if_pos hak, if_pos hak]
  · rw [if_neg hak, if_neg hak]

theorem backS_refines {s : StateS α} {t : LU.State α n n} (hr : Rep s t) (hn : 0 < n) {X : Store α} {k0 : Kind} {nx : Nat}
    (Y : Mat α n nx) (hX : Is X k0 n nx (fnOf Y)) :
    ∃ X', backS s nx X = .ok X' ∧ Is X' k0 n nx (fnOf (Fin.foldr n (backStep t rfl) Y)) := by
  unfold backS
  rw [hr.n_eq]
  have : ¬ n = 0 := by omega
  simp only [this, if_false]
  exact loop_foldr (fun (T : Store α) (Z : Mat α n nx) => Is T k0 n nx (fnOf Z)) n _ (backStep t rfl) X Y hX
    (fun k T Z hT => by
      have e : n - 1 - (n - 1 - k.val) = k.val := by omega
      simp only [e]
      exact backStepS_refines hr Z hT k)

/-- the two sweeps of `solve`, as they stand at the end of its three overloads -/
theorem sweepsS_refines {s : StateS α} {t : LU.State α n n} (hr : Rep s t) (hn : 0 < n) {X : Store α} {k0 : Kind} {nx : Nat}
    (Y : Mat α n nx) (hX : Is X k0 n nx (fnOf Y)) (d : α) :
    ∃ X', (do
        let X2 ← fwdS s nx X
        let X3 ← backS s nx X2
        pure (d, X3)) = .ok (d, X') ∧ Is X' k0 n nx (fnOf (substitute t rfl Y)) := by
  obtain ⟨X2, e2, hX2⟩ := fwdS_refines hr _ hX
  obtain ⟨X3, e3, hX3⟩ := backS_refines hr hn _ hX2
  exact ⟨X3, by rw [e2, ok_bind, e3]; rfl, hX3⟩

/-! ### `solve` -/

/-- **`solve` on stores returns what the abstract `solve` returns**, whatever the classes of `B`
and `X` and whatever `X` contained or whichever shape it had before: `X` keeps its class, gets
the shape `n × nx` and the entries of the abstract result -/
theorem solveS_ok {m mb nx : Nat} {s : StateS α} {t : LU.State α m n} (hr : Rep s t) {B X : Store α} {kB : Kind}
    (Bm : Mat α mb nx) (hB : Is B kB mb nx (fnOf Bm)) (hX : X.WF)
    {d : α} {Y : Mat α m nx} (h : LU.solve t Bm = .ok (d, Y)) :
    ∃ X', solveS s B X = .ok (d, X') ∧ Is X' X.kind m nx (fnOf Y) := by
  obtain ⟨hb, hnm, hn, hbt, hnx, rfl, rfl⟩ := solve_eq_ok h
  subst hb hnm
  unfold solveS
  rw [solveGuardS hr hn hB.nrows_eq, hbt, if_neg Bool.false_ne_true, hr.piv_eq, hB.ncols_eq]
  obtain ⟨X1, e1, hX1⟩ := permuteCopyS_refines t.piv Bm hB hX hn hnx
  rw [e1, ok_bind]
  exact sweepsS_refines hr hn _ hX1 _

/-- the exceptions of `solve` (wrong height, singular) are raised by the statement-level model
exactly when the abstract one raises them — before the output is touched -/
theorem solveS_error {m mb nx : Nat} {s : StateS α} {t : LU.State α m n} (hr : Rep s t) {B : Store α} {kB : Kind}
    (Bm : Mat α mb nx) (hB : Is B kB mb nx (fnOf Bm)) (X : Store α)
    {e : LU.Err} (h : LU.solve t Bm = .error e) (hne : e ≠ .ub) : solveS s B X = .error e := by
  unfold solveS
  rcases solve_eq_error h hne with ⟨hb, rfl⟩ | ⟨hb, hnm, hn, hbt, rfl⟩
  · rw [if_pos (by rw [hr.m_eq, hB.nrows_eq]; exact hb)]
  · subst hb hnm
    rw [solveGuardS hr hn hB.nrows_eq, if_pos hbt]

/-- **`solve(B, B)`** (after the repair: the permuted copy is taken from a copy of `B`): `B` ends up,
in its own class, holding the abstract result -/
theorem solveSelfS_ok {m mb nx : Nat} {s : StateS α} {t : LU.State α m n} (hr : Rep s t) {B : Store α} {kB : Kind}
    (Bm : Mat α mb nx) (hB : Is B kB mb nx (fnOf Bm))
    {d : α} {Y : Mat α m nx} (h : LU.solve t Bm = .ok (d, Y)) :
    ∃ X', solveSelfS s B = .ok (d, X') ∧ Is X' kB m nx (fnOf Y) := by
  obtain ⟨hb, hnm, hn, hbt, hnx, rfl, rfl⟩ := solve_eq_ok h
  subst hb hnm
  unfold solveSelfS
  obtain ⟨Bc, ec, hBc⟩ := copyRow_is hB (shape_pos _ hn hnx)
  rw [solveGuardS hr hn hB.nrows_eq, hbt, if_neg Bool.false_ne_true, ec, ok_bind, hr.piv_eq, hB.ncols_eq]
  obtain ⟨X1, e1, hX1⟩ := permuteCopyS_refines t.piv Bm hBc hB.wf hn hnx
  rw [e1, ok_bind, ← hB.kind_eq]
  exact sweepsS_refines hr hn _ hX1 _

/-! ### stores that hold a given matrix -/

/-- every well-formed store meets the hypothesis `Is A kA m n (fnOf Am)` of the refinement theorems, with `Am := matOf A` -/
theorem Is.matOf {S : Store α} (hw : S.WF) : Is S S.kind S.nrows S.ncols (fnOf (matOf S)) :=
  (Is.self hw).congr (fun a b ha hb => by simp [LUS.matOf, fnOf_ofFn _ ha hb])

/-- for each class there is a store holding a given matrix with positive dimensions: what the
harness builds (`K(r, c)` followed by assignments) -/
theorem is_ofFn (k : Kind) {m n : Nat} (hm : 0 < m) (hn : 0 < n) (Am : Mat α m n) :
    Is (Store.ofFn k m n (fnOf Am)) k m n (fnOf Am) := by
  have h := ofFn_holds k m n (fnOf Am)
  have hk := ofFn_kind k m n (fnOf Am)
  have := Is.of_holds h (by rw [hk]; exact shape_pos k hm hn)
  rwa [hk] at this

/-! ### `MatrixTools::inv`, `MatrixTools::det` -/

theorem identity_is {k : Nat} (hk : 0 < k) :
    ∃ I, liftMx (Mx.getId k (Store.empty .row : Store α)) = .ok I ∧ Is I .row k k (fnOf (LU.identity k : Mat α k k)) := by
  obtain ⟨I, e, hkind, hH⟩ := getId_holds (α := α) k (Store.empty .row)
  have hk' : I.kind = .row := by rw [hkind]; rfl
  have := Is.of_holds hH (by rw [hk']; exact shape_pos _ hk hk)
  rw [hk'] at this
  refine ⟨I, by rw [e]; rfl, this.congr ?_⟩
  intro a b ha hb
  simp only [LU.identity]
  rw [fnOf_ofFn _ ha hb]
  simp [Spec.identity, Scalar.one, Scalar.zero]

/-- **`MatrixTools::inv(A, O)` on stores**: any class of `A`, any class and prior state of `O` -/
theorem invS_ok {A O : Store α} {kA : Kind} {Am : Mat α n n} (hA : Is A kA n n (fnOf Am)) (hO : O.WF)
    {d : α} {Y : Mat α n n} (h : LU.inv Am = .ok (d, Y)) :
    ∃ O', invS A O = .ok (d, O') ∧ Is O' O.kind n n (fnOf Y) := by
  rw [inv_square] at h
  obtain ⟨s, e, hr⟩ := constructS_refines hA (Nat.le_refl n)
  obtain ⟨_, _, hpos, _⟩ := solve_eq_ok h
  obtain ⟨I, eI, hI⟩ := identity_is (α := α) hpos
  obtain ⟨O', eO, hO'⟩ := solveS_ok hr _ hI hO h
  refine ⟨O', ?_, hO'⟩
  unfold invS
  rw [if_neg (by rw [hA.nrows_eq, hA.ncols_eq]; exact not_not.mpr rfl), e, ok_bind, hA.nrows_eq, eI]
  exact eO

theorem invS_error {m : Nat} {A : Store α} {kA : Kind} {Am : Mat α m n} (hA : Is A kA m n (fnOf Am)) (O : Store α)
    {e : LU.Err} (h : LU.inv Am = .error e) (hne : e ≠ .ub) : invS A O = .error e := by
  unfold invS
  rw [hA.nrows_eq, hA.ncols_eq]
  by_cases hsq : m = n
  · subst hsq
    rw [inv_square] at h
    obtain ⟨s, es, hr⟩ := constructS_refines hA (Nat.le_refl m)
    have hpos : 0 < m := by
      rcases solve_eq_error h hne with ⟨hb, _⟩ | ⟨_, _, hn, _⟩
      · exact absurd rfl hb
      · exact hn
    obtain ⟨I, eI, hI⟩ := identity_is (α := α) hpos
    rw [if_neg (not_not.mpr rfl), es, ok_bind, eI]
    exact solveS_error hr _ hI O h hne
  · rw [inv, if_pos hsq] at h
    injection h with h
    rw [if_pos hsq, h]

/-- `MatrixTools::inv` of an empty matrix does not return: `solve` reads `LU(0,0)` -/
theorem invS_pos {A O : Store α} {kA : Kind} {n : Nat} {Am : Mat α n n} (hA : Is A kA n n (fnOf Am))
    {r : α × Store α} (hi : invS A O = .ok r) : 0 < n := by
  by_contra h0
  obtain rfl : n = 0 := by omega
  obtain ⟨s0, e0, r0⟩ := constructS_refines hA (Nat.le_refl 0)
  unfold invS at hi
  rw [if_neg (by rw [hA.nrows_eq, hA.ncols_eq]; simp), e0, ok_bind] at hi
  cases hI : liftMx (Mx.getId A.nrows (Store.empty .row : Store α)) with
  | error e => rw [hI] at hi; cases hi
  | ok I =>
    rw [hI, ok_bind] at hi
    unfold solveS at hi
    split at hi
    · cases hi
    · rw [minDiagS_empty r0 rfl] at hi
      cases hi

/-- **`MatrixTools::det(A)` on stores**: the outcome of the abstract model, for any class of `A` -/
theorem matDetS_refines {m : Nat} {A : Store α} {kA : Kind} {Am : Mat α m n} (hA : Is A kA m n (fnOf Am)) :
    matDetS A = LU.matDet Am := by
  unfold matDetS
  rw [hA.nrows_eq, hA.ncols_eq]
  by_cases hsq : m = n
  · subst hsq
    obtain ⟨s, es, hr⟩ := constructS_refines hA (Nat.le_refl m)
    rw [matDet_square, if_neg (not_not.mpr rfl), es, ok_bind]
    exact detS_refines hr (Nat.le_refl m)
  · rw [matDet, if_pos hsq, if_pos hsq]

/-! ### witness of the defect repaired in `solve(B, B)` (exact arithmetic in `Rat`) -/

/-- the row-exchange matrix `[[0,1],[1,0]]` and the right-hand side `(3,5)ᵀ` -/
def witA : Store Rat := Store.ofFn .row 2 2 (fun i j => if i = j then 0 else 1)
def witB : Store Rat := Store.ofFn .row 2 1 (fun i _ => if i = 0 then 3 else 5)

/-- the call returned and entry `(i,j)` of the output is `v` -/
def entryIs (r : LUS.Res (Rat × Store Rat)) (i j : Nat) (v : Rat) : Bool :=
  match r with
  | .ok (_, X) => (match X.get i j with | .ok x => x == v | .error _ => false)
  | .error _ => false

/-- with separate operands the solution of `A·x = (3,5)ᵀ` is `(5,3)ᵀ`; so it is for `solve(B, B)`
after the repair; the text before the repair returned `(5,5)ᵀ` -/
def witAliasing : Bool :=
  match constructS witA with
  | .ok s =>
    entryIs (solveS s witB (Store.empty .row)) 0 0 5 && entryIs (solveS s witB (Store.empty .row)) 1 0 3 &&
    entryIs (solveSelfS s witB) 0 0 5 && entryIs (solveSelfS s witB) 1 0 3 &&
    entryIs (solveSelfOrigS s witB) 0 0 5 && entryIs (solveSelfOrigS s witB) 1 0 5
  | .error _ => false

end Bpp.LUS
