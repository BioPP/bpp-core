import BppModel.LU
import BppProofs.Lemmas.ScalarReal
import Mathlib.LinearAlgebra.Matrix.Block
import Mathlib.Algebra.BigOperators.Fin
import Mathlib.GroupTheory.Perm.Fin
/-! Helper lemmas for C05 (LU decomposition): loop rules, sums, the pivot search, the row exchange, the induction
over the constructor's loop (`factor_inv`: every invariant of the factorisation, exact or rounded, goes through it),
the pivot vector; then the outcomes of `solve` for any scalar type (`solve_eq_ok`, `inv_square`, …), which
`Lemmas/LUStore*.lean` also use.  Property theorems are in `Props/C05.lean`. -/
namespace Bpp.LU
open Bpp

section Basic
variable {α : Type} {m n : Nat}

@[simp] theorem Mat.get_ofFn (f : Fin m → Fin n → α) (i : Fin m) (j : Fin n) :
    (Mat.ofFn f).get i j = f i j := by
  simp [Mat.get, Mat.ofFn]

theorem Mat.ext {A B : Mat α m n} (h : ∀ i j, A.get i j = B.get i j) : A = B := by
  apply Vector.ext; intro i hi
  apply Vector.ext; intro j hj
  exact h ⟨i, hi⟩ ⟨j, hj⟩

theorem foldl_inv {σ : Type} (P : Nat → σ → Prop) :
    ∀ (n : Nat) (f : σ → Fin n → σ) (s : σ), P 0 s →
      (∀ (k : Fin n) (t : σ), P k.val t → P (k.val + 1) (f t k)) → P n (Fin.foldl n f s) := by
  intro n
  induction n with
  | zero => intro f s h0 _; simpa using h0
  | succ n ih =>
    intro f s h0 hstep
    rw [Fin.foldl_succ_last]
    have := ih (fun t k => f t k.castSucc) s h0 (fun k t hk => hstep k.castSucc t hk)
    exact hstep (Fin.last n) _ this

theorem foldr_inv {σ : Type} (P : Nat → σ → Prop) :
    ∀ (n : Nat) (f : Fin n → σ → σ) (s : σ), P n s →
      (∀ (k : Fin n) (t : σ), P (k.val + 1) t → P k.val (f k t)) → P 0 (Fin.foldr n f s) := by
  intro n
  induction n with
  | zero => intro f s h0 _; simpa using h0
  | succ n ih =>
    intro f s h0 hstep
    rw [Fin.foldr_succ_last]
    exact ih (fun k t => f k.castSucc t) (f (Fin.last n) s) (hstep (Fin.last n) s h0)
      (fun k t hk => hstep k.castSucc t hk)
end Basic

/-! ## sums -/
section Sums
variable {n : Nat}

theorem sumFin_eq (f : Fin n → ℝ) : sumFin n f = ∑ l : Fin n, f l := by
  unfold sumFin
  induction n with
  | zero => simp
  | succ n ih =>
    rw [Fin.foldl_succ_last, Fin.sum_univ_castSucc, ih]

theorem matMul_get {m k : Nat} (A : Mat ℝ m k) (B : Mat ℝ k n) (i : Fin m) (j : Fin n) :
    (matMul A B).get i j = ∑ l : Fin k, A.get i l * B.get l j := by
  rw [matMul, Mat.get_ofFn, sumFin_eq]

theorem foldl_mul_eq_prod {R : Type} [CommMonoid R] {k : Nat} (f : Fin k → R) (c : R) :
    Fin.foldl k (fun d j => d * f j) c = c * ∏ j : Fin k, f j := by
  induction k with
  | zero => simp
  | succ k ih => rw [Fin.foldl_succ_last, Fin.prod_univ_castSucc, ih, mul_assoc]

/-- `Σ_{l < c} f l` -/
noncomputable def psum (c : Nat) (f : Fin n → ℝ) : ℝ := ∑ l : Fin n, if l.val < c then f l else 0

theorem psum_zero (f : Fin n → ℝ) : psum 0 f = 0 :=
  Finset.sum_eq_zero fun _ _ => if_neg (Nat.not_lt_zero _)

theorem psum_succ (c : Nat) (hc : c < n) (f : Fin n → ℝ) : psum (c + 1) f = psum c f + f ⟨c, hc⟩ := by
  have hsplit : ∀ l : Fin n, (if l.val < c + 1 then f l else 0) =
      (if l.val < c then f l else 0) + (if l = ⟨c, hc⟩ then f l else 0) := by
    intro l
    rcases Nat.lt_trichotomy l.val c with h | h | h
    · rw [if_pos (by omega), if_pos h, if_neg (fun e => by rw [e] at h; exact lt_irrefl _ h), add_zero]
    · rw [if_pos (by omega), if_neg (by omega), if_pos (Fin.ext h), zero_add]
    · rw [if_neg (by omega), if_neg (by omega), if_neg (fun e => by rw [e] at h; exact lt_irrefl _ h), add_zero]
  unfold psum
  simp only [hsplit, Finset.sum_add_distrib, Finset.sum_ite_eq', Finset.mem_univ, if_true]

theorem psum_congr (c : Nat) (f g : Fin n → ℝ) (h : ∀ l : Fin n, l.val < c → f l = g l) : psum c f = psum c g := by
  unfold psum
  apply Finset.sum_congr rfl
  intro l _
  by_cases h1 : l.val < c
  · simp [h1, h l h1]
  · simp [h1]

theorem psum_all (c : Nat) (hc : n ≤ c) (f : Fin n → ℝ) : psum c f = ∑ l : Fin n, f l := by
  unfold psum
  apply Finset.sum_congr rfl
  intro l _
  have : l.val < c := by omega
  simp [this]

theorem psum_min (c : Nat) (f : Fin n → ℝ) : psum (min n c) f = psum c f := by
  unfold psum
  exact Finset.sum_congr rfl fun l _ => if_congr (by have := l.isLt; omega) rfl rfl

theorem psum_nonneg (c : Nat) (f : Fin n → ℝ) (hf : ∀ l, 0 ≤ f l) : 0 ≤ psum c f :=
  Finset.sum_nonneg fun l _ => by split_ifs <;> [exact hf l; exact le_refl _]

end Sums

/-! ## the constructor: pivot search -/
section Pivot
variable {m n : Nat}

theorem numAbs_eq (x : ℝ) : numAbs x = |x| := by
  unfold numAbs
  simp only [ScalarReal.ltb_iff, ScalarReal.zero_eq]
  split
  · rename_i h; exact (abs_of_neg h).symm
  · rename_i h; exact (abs_of_nonneg (not_lt.mp h)).symm

/-- the pivot row is at or below the diagonal, carries a largest magnitude of the column from the
diagonal down, and (strict `>` in the search) is the *first* such row -/
theorem findPivot_spec (W : Mat ℝ m n) (k : Fin n) (kr : Fin m) :
    kr.val ≤ (findPivot W k kr).val ∧
    (∀ i : Fin m, kr.val ≤ i.val → |W.get i k| ≤ |W.get (findPivot W k kr) k|) ∧
    (∀ i : Fin m, kr.val ≤ i.val → i.val < (findPivot W k kr).val → |W.get i k| < |W.get (findPivot W k kr) k|) := by
  refine (foldl_inv (fun (t : Nat) (p : Fin m) => kr.val ≤ p.val ∧
      (∀ i : Fin m, kr.val ≤ i.val → (i.val < t ∨ i = kr) → |W.get i k| ≤ |W.get p k|) ∧
      (∀ i : Fin m, kr.val ≤ i.val → i.val < p.val → |W.get i k| < |W.get p k|)) m _ kr ?_ ?_).imp_right
    (And.imp_left fun h i hi => h i hi (Or.inl i.isLt))
  · refine ⟨le_refl _, ?_, fun i h1 h2 => absurd h2 (by omega)⟩
    rintro i _ (hi | rfl)
    · omega
    · exact le_refl _
  · rintro i0 p ⟨hp1, hp2, hp3⟩
    simp only [ScalarReal.gtb_iff, numAbs_eq, ← ite_and]
    have hle : ∀ i : Fin m, kr.val ≤ i.val → (i.val < i0.val + 1 ∨ i = kr) → i ≠ i0 → |W.get i k| ≤ |W.get p k| :=
      fun i hi hi2 hne => hp2 i hi (hi2.imp_left fun hlt => by have := Fin.val_ne_of_ne hne; omega)
    by_cases hc : kr.val < i0.val ∧ |W.get p k| < |W.get i0 k|
    · rw [if_pos hc]
      refine ⟨le_of_lt hc.1, fun i hi hi2 => ?_, fun i hi hi2 => lt_of_le_of_lt (hp2 i hi (Or.inl hi2)) hc.2⟩
      by_cases hne : i = i0
      · rw [hne]
      · exact (hle i hi hi2 hne).trans (le_of_lt hc.2)
    · rw [if_neg hc]
      refine ⟨hp1, fun i hi hi2 => ?_, hp3⟩
      by_cases hne : i = i0
      · subst hne
        by_cases h1 : kr.val < i.val
        · exact not_lt.mp fun h2 => hc ⟨h1, h2⟩
        · exact hp2 i hi (Or.inr (Fin.ext (by omega)))
      · exact hle i hi hi2 hne

end Pivot

/-! ## the constructor: row exchange -/
section Exchange
variable {α : Type} {m n : Nat}

theorem exchange_get (s : State α m n) (p kr i : Fin m) (j : Fin n) :
    (exchange s p kr).lu.get i j = s.lu.get (Equiv.swap p kr i) j := by
  unfold exchange
  by_cases hpk : p = kr
  · simp [hpk]
  · rw [if_pos hpk]
    simp only [swapRows, Mat.get_ofFn, Equiv.swap_apply_def]
    by_cases h1 : i = kr
    · simp [h1, Ne.symm hpk]
    · by_cases h2 : i = p <;> simp [h1, h2, hpk]

theorem exchange_piv (s : State α m n) (p kr i : Fin m) :
    (exchange s p kr).piv[i.val]'i.isLt = s.piv[(Equiv.swap p kr i).val]'(Equiv.swap p kr i).isLt := by
  unfold exchange
  by_cases hpk : p = kr
  · simp [hpk]
  · rw [if_pos hpk]
    simp only [swapPiv, Vector.getElem_ofFn, Fin.eta, Equiv.swap_apply_def]
    by_cases h1 : i = kr
    · simp [h1, Ne.symm hpk]
    · by_cases h2 : i = p <;> simp [h1, h2, hpk]

theorem exchange_pivsign (s : State α m n) (p kr : Fin m) :
    (exchange s p kr).pivsign = if p = kr then s.pivsign else - s.pivsign := by
  unfold exchange
  by_cases hpk : p = kr <;> simp [hpk]

theorem swap_eq_or_ge {k : Nat} {p kr : Fin m} (hp : k ≤ p.val) (hkr : k ≤ kr.val) (i : Fin m) :
    Equiv.swap p kr i = i ∨ (k ≤ i.val ∧ k ≤ (Equiv.swap p kr i).val) := by
  rw [Equiv.swap_apply_def]
  split_ifs with h1 h2
  · exact Or.inr ⟨h1 ▸ hp, hkr⟩
  · exact Or.inr ⟨h2 ▸ hkr, hp⟩
  · exact Or.inl rfl

/-- after the exchange the diagonal entry carries the largest magnitude of its column from the
diagonal down (partial pivoting) -/
theorem exchange_pivot_max (s : State ℝ m n) (k : Fin n) (kr : Fin m) (i : Fin m) (hi : kr.val ≤ i.val) :
    |(exchange s (findPivot s.lu k kr) kr).lu.get i k| ≤ |(exchange s (findPivot s.lu k kr) kr).lu.get kr k| := by
  obtain ⟨hp1, hp2, _⟩ := findPivot_spec s.lu k kr
  rw [exchange_get, exchange_get, Equiv.swap_apply_right]
  apply hp2
  rcases swap_eq_or_ge hp1 (le_refl _) i with e | e
  · rw [e]; exact hi
  · exact e.2

/-- **induction over the constructor's loop**: a property of the state after `k` iterations holds of the result if it
holds of the initial members, survives an exchange of two rows at or below `k`, and is advanced by the elimination of
column `k` from a state whose diagonal entry carries the largest magnitude of that column from the diagonal down (what
the pivot search and the exchange establish).  The elimination `el` is a variable: with `eliminate` the fold is
`factor h A` by definition, in exact arithmetic and, since the pivot search compares exactly, in rounded arithmetic
(`Lemmas/LURound.lean`). -/
theorem factor_inv (h : n ≤ m) (A : Mat ℝ m n) (el : Mat ℝ m n → Fin n → Fin m → Mat ℝ m n)
    (P : Nat → State ℝ m n → Prop) (h0 : P 0 (init A))
    (hex : ∀ (k : Nat) (s : State ℝ m n) (p kr : Fin m), k ≤ p.val → k ≤ kr.val → P k s → P k (exchange s p kr))
    (hel : ∀ (k : Fin n) (s : State ℝ m n), P k.val s →
      (∀ i : Fin m, k.val ≤ i.val → |s.lu.get i k| ≤ |s.lu.get (k.castLE h) k|) →
      P (k.val + 1) { s with lu := el s.lu k (k.castLE h) }) :
    P n (Fin.foldl n (fun s k => { exchange s (findPivot s.lu k (k.castLE h)) (k.castLE h) with
      lu := el (exchange s (findPivot s.lu k (k.castLE h)) (k.castLE h)).lu k (k.castLE h) }) (init A)) :=
  foldl_inv P n _ (init A) h0 fun k t hk =>
    hel k _ (hex k.val t _ (k.castLE h) (findPivot_spec t.lu k (k.castLE h)).1 (le_refl _) hk)
      (exchange_pivot_max t k (k.castLE h))

end Exchange

/-! ## the pivot vector is a permutation and `pivsign` is its sign -/
section Perm
variable {m n : Nat}

/-- the pivot vector is (the graph of) a permutation `σ` of the row numbers, and `pivsign = sign σ` -/
def PermInv (s : State ℝ m n) : Prop :=
  ∃ σ : Equiv.Perm (Fin m), (∀ i : Fin m, s.piv[i.val]'i.isLt = σ i) ∧ s.pivsign = ((Equiv.Perm.sign σ : ℤˣ) : ℤ)

theorem permInv_init (A : Mat ℝ m n) : PermInv (init A) :=
  ⟨1, by intro i; simp [init], by simp [init]⟩

theorem permInv_exchange (s : State ℝ m n) (p kr : Fin m) (hs : PermInv s) : PermInv (exchange s p kr) := by
  obtain ⟨σ, h1, h2⟩ := hs
  by_cases hpk : p = kr
  · exact ⟨σ, fun i => by rw [exchange_piv, hpk, Equiv.swap_self, h1]; rfl, by rw [exchange_pivsign, if_pos hpk, h2]⟩
  · refine ⟨σ * Equiv.swap p kr, fun i => by rw [exchange_piv, h1]; rfl, ?_⟩
    rw [exchange_pivsign, if_neg hpk, h2, Equiv.Perm.sign_mul, Equiv.Perm.sign_swap hpk]
    simp

theorem permInv_factor (h : n ≤ m) (A : Mat ℝ m n) : PermInv (factor h A) :=
  factor_inv h A eliminate (fun _ => PermInv) (permInv_init A) (fun _ s p kr _ _ => permInv_exchange s p kr)
    fun _ _ hs _ => hs

/-- the executable sign (product over position pairs) is `Equiv.Perm.sign` -/
theorem pivSignOf_eq_sign (piv : Vector (Fin m) m) (σ : Equiv.Perm (Fin m))
    (hσ : ∀ i : Fin m, piv[i.val]'i.isLt = σ i) : pivSignOf piv = ((Equiv.Perm.sign σ : ℤˣ) : ℤ) := by
  unfold pivSignOf
  simp only [foldl_mul_eq_prod, one_mul, hσ]
  rw [Equiv.Perm.sign_eq_prod_prod_Iio]
  simp only [Units.coe_prod]
  apply Finset.prod_congr rfl
  intro j _
  have : Finset.Iio j = Finset.univ.filter (fun i : Fin m => i.val < j.val) := by
    ext i; simp only [Finset.mem_Iio, Finset.mem_filter, Finset.mem_univ, true_and, Fin.lt_def]
  rw [this, Finset.prod_filter]
  apply Finset.prod_congr rfl
  intro i _
  by_cases h1 : i.val < j.val
  · rw [if_pos h1, if_pos h1]
    by_cases h2 : σ i < σ j
    · have h2' : (σ i).val < (σ j).val := h2
      rw [if_pos h2, if_pos h2']; simp
    · have h2' : ¬ (σ i).val < (σ j).val := h2
      rw [if_neg h2, if_neg h2']; simp
  · rw [if_neg h1, if_neg h1]

end Perm

/-! ## the outcomes of `solve`, for any scalar type -/
section Outcome
variable {α : Type} [Scalar α] {m n mb nx : Nat}

theorem solve_square (s : State α n n) (B : Mat α n nx) (hn : 0 < n) :
    solve s B = if belowThreshold (minDiag s rfl hn) then .error .zeroDivision
      else if 0 < nx then .ok (minDiag s rfl hn, substitute s rfl (permuteCopy B rfl s.piv)) else .error .ub := by
  unfold solve
  rw [dif_pos rfl, dif_pos ⟨rfl, hn⟩]

theorem solveVec_square (s : State α n n) (b : Vector α n) (hn : 0 < n) :
    solveVec s b = if belowThreshold (minDiag s rfl hn) then .error .zeroDivision
      else .ok (minDiag s rfl hn, Fin.foldr n (backStepV s rfl) (Fin.foldl n (fwdStepV s rfl) (permuteCopyV b rfl s.piv))) := by
  unfold solveVec
  rw [dif_pos rfl, dif_pos ⟨rfl, hn⟩]

theorem solve_ne_ub (s : State α n n) (B : Mat α n nx) (hn : 0 < n) (hnx : 0 < nx) : solve s B ≠ .error .ub := by
  rw [solve_square s B hn, if_pos hnx]
  split <;> simp

theorem solveVec_ne_ub (s : State α n n) (b : Vector α n) (hn : 0 < n) : solveVec s b ≠ .error .ub := by
  rw [solveVec_square s b hn]
  split <;> simp

theorem solve_eq_ok {s : State α m n} {B : Mat α mb nx} {d : α} {X : Mat α m nx} (h : solve s B = .ok (d, X)) :
    ∃ (hb : mb = m) (hnm : n = m) (hn : 0 < n), belowThreshold (minDiag s hnm hn) = false ∧ 0 < nx ∧
      d = minDiag s hnm hn ∧ X = substitute s hnm (permuteCopy B hb s.piv) := by
  unfold solve at h
  by_cases hb : mb = m
  · by_cases hsq : n = m ∧ 0 < n
    · rw [dif_pos hb, dif_pos hsq] at h
      by_cases hbt : belowThreshold (minDiag s hsq.1 hsq.2) = true
      · rw [if_pos hbt] at h; cases h
      · by_cases hnx : 0 < nx
        · rw [if_neg hbt, if_pos hnx] at h
          injection h with h
          injection h with h1 h2
          exact ⟨hb, hsq.1, hsq.2, Bool.not_eq_true _ ▸ hbt, hnx, h1.symm, h2.symm⟩
        · rw [if_neg hbt, if_neg hnx] at h; cases h
    · rw [dif_pos hb, dif_neg hsq] at h; cases h
  · rw [dif_neg hb] at h; cases h

theorem solve_eq_error {s : State α m n} {B : Mat α mb nx} {e : Err} (h : solve s B = .error e) (hne : e ≠ .ub) :
    (mb ≠ m ∧ e = .badInteger) ∨
    ∃ (_ : mb = m) (hnm : n = m) (hn : 0 < n), belowThreshold (minDiag s hnm hn) = true ∧ e = .zeroDivision := by
  unfold solve at h
  by_cases hb : mb = m
  · by_cases hsq : n = m ∧ 0 < n
    · rw [dif_pos hb, dif_pos hsq] at h
      by_cases hbt : belowThreshold (minDiag s hsq.1 hsq.2) = true
      · rw [if_pos hbt] at h
        injection h with h
        exact Or.inr ⟨hb, hsq.1, hsq.2, hbt, h.symm⟩
      · by_cases hnx : 0 < nx
        · rw [if_neg hbt, if_pos hnx] at h; cases h
        · rw [if_neg hbt, if_neg hnx] at h
          injection h with h; exact absurd h.symm hne
    · rw [dif_pos hb, dif_neg hsq] at h
      injection h with h; exact absurd h.symm hne
  · rw [dif_neg hb] at h
    injection h with h
    exact Or.inl ⟨hb, h.symm⟩

theorem solveVec_eq_ok {s : State α m n} {b : Vector α mb} {d : α} {x : Vector α m} (h : solveVec s b = .ok (d, x)) :
    ∃ (hb : mb = m) (hnm : n = m) (hn : 0 < n), belowThreshold (minDiag s hnm hn) = false ∧
      d = minDiag s hnm hn ∧
      x = Fin.foldr n (backStepV s hnm) (Fin.foldl n (fwdStepV s hnm) (permuteCopyV b hb s.piv)) := by
  unfold solveVec at h
  by_cases hb : mb = m
  · by_cases hsq : n = m ∧ 0 < n
    · rw [dif_pos hb, dif_pos hsq] at h
      by_cases hbt : belowThreshold (minDiag s hsq.1 hsq.2) = true
      · rw [if_pos hbt] at h; cases h
      · rw [if_neg hbt] at h
        injection h with h
        injection h with h1 h2
        exact ⟨hb, hsq.1, hsq.2, Bool.not_eq_true _ ▸ hbt, h1.symm, h2.symm⟩
    · rw [dif_pos hb, dif_neg hsq] at h; cases h
  · rw [dif_neg hb] at h; cases h

theorem solveVec_eq_error {s : State α m n} {b : Vector α mb} {e : Err} (h : solveVec s b = .error e) (hne : e ≠ .ub) :
    (mb ≠ m ∧ e = .badInteger) ∨
    ∃ (_ : mb = m) (hnm : n = m) (hn : 0 < n), belowThreshold (minDiag s hnm hn) = true ∧ e = .zeroDivision := by
  unfold solveVec at h
  by_cases hb : mb = m
  · by_cases hsq : n = m ∧ 0 < n
    · rw [dif_pos hb, dif_pos hsq] at h
      by_cases hbt : belowThreshold (minDiag s hsq.1 hsq.2) = true
      · rw [if_pos hbt] at h
        injection h with h
        exact Or.inr ⟨hb, hsq.1, hsq.2, hbt, h.symm⟩
      · rw [if_neg hbt] at h; cases h
    · rw [dif_pos hb, dif_neg hsq] at h
      injection h with h; exact absurd h.symm hne
  · rw [dif_neg hb] at h
    injection h with h
    exact Or.inl ⟨hb, h.symm⟩

theorem construct_eq_ok {A : Mat α m n} {s : State α m n} (hc : construct A = .ok s) : ∃ h : n ≤ m, s = factor h A := by
  unfold construct at hc
  split at hc
  · exact ⟨_, (Except.ok.inj hc).symm⟩
  · cases hc

theorem inv_square (A : Mat α n n) : inv A = solve (factor (Nat.le_refl n) A) (identity n) := by
  unfold inv construct
  rw [if_neg (not_not.mpr rfl), dif_pos (Nat.le_refl n)]

theorem matDet_square (A : Mat α n n) : matDet A = .ok (det (factor (Nat.le_refl n) A)) := by
  unfold matDet construct
  rw [if_neg (not_not.mpr rfl), dif_pos (Nat.le_refl n)]

end Outcome

end Bpp.LU
