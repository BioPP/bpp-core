import BppModel.VecTools2
import BppProofs.Lemmas.VecToolsMaps
import BppProofs.Lemmas.VecToolsSets
import Mathlib.Data.Nat.Factorial.Basic
/-!
Helper lemmas for C07 (model `BppModel/VecTools2.lean`): when a `mapM` of checked reads succeeds or fails, union and
intersection of a list of vectors as `Spec.firstOcc` / a filter of the first vector, `countValues` through the count-map
invariant of `VecToolsMaps`, `rep`, `resizeTo`, NumTools `abs` / `sign` at `ℝ`, the outcome of the weighted cosine.
-/
namespace Bpp.VecTools
open Bpp Bpp.ScalarReal

/-! ### Except / mapM plumbing -/

theorem mapM_ok_of_forall {γ δ : Type} (F : γ → Res δ) (G : γ → δ) (l : List γ)
    (h : ∀ i ∈ l, F i = .ok (G i)) : l.mapM F = .ok (l.map G) := by
  induction l with
  | nil => rfl
  | cons x xs ih =>
    rw [List.mapM_cons, h x (by simp), ih (fun i hi => h i (by simp [hi]))]
    rfl

theorem mapM_error_of_mem {γ δ : Type} (F : γ → Res δ) (l : List γ) (e : Err)
    (hall : ∀ i ∈ l, F i = .error e ∨ ∃ y, F i = .ok y) (h : ∃ i ∈ l, F i = .error e) :
    l.mapM F = .error e := by
  induction l with
  | nil => obtain ⟨i, hi, -⟩ := h; cases hi
  | cons x xs ih =>
    rw [List.mapM_cons]
    rcases hall x (by simp) with hx | ⟨y, hy⟩
    · rw [hx]; rfl
    · rw [hy]
      have : ∃ i ∈ xs, F i = .error e := by
        obtain ⟨i, hi, hie⟩ := h
        rcases List.mem_cons.mp hi with rfl | hi
        · rw [hy] at hie; cases hie
        · exact ⟨i, hi, hie⟩
      rw [show (Except.ok y >>= fun y' => do let ys ← xs.mapM F; pure (y' :: ys))
            = (do let ys ← xs.mapM F; pure (y :: ys)) from rfl,
          ih (fun i hi => hall i (by simp [hi])) this]
      rfl

/-! ### set-like helpers, second part -/
section Sets
variable {β : Type} [LinearOrder β]

theorem mem_pushNew (u v : List β) (x : β) : x ∈ pushNew deq u v ↔ x ∈ u ∨ x ∈ v := mem_vectorUnionOrig u v x

theorem inAll_eq_all (vs : List (List β)) (x : β) :
    inAll deq vs x = vs.all (fun u => contains deq u x) := by
  induction vs with
  | nil => rfl
  | cons v vs ih =>
    rw [inAll, List.all_cons, ih]
    cases contains deq v x <;> rfl

theorem inAll_iff (vs : List (List β)) (x : β) : inAll deq vs x = true ↔ ∀ v ∈ vs, x ∈ v := by
  simp only [inAll_eq_all, List.all_eq_true, contains_deq]

/-- pushing the vectors of a list one after the other is pushing their concatenation -/
theorem vectorUnionList_eq (vs : List (List β)) :
    vectorUnionList deq vs = Spec.firstOcc deq vs.flatten := by
  have : vectorUnionList deq vs = vectorUnionOrig deq [] vs.flatten := List.foldl_flatten.symm
  rw [this, vectorUnionOrig_eq, List.nil_append]
  exact List.filter_eq_self.mpr fun x _ => decide_eq_true List.not_mem_nil

theorem vectorUnion_eq_list (a b : List β) : vectorUnion deq a b = vectorUnionList deq [a, b] := rfl

theorem vectorUnion_eq (a b : List β) : vectorUnion deq a b = Spec.firstOcc deq (a ++ b) := by
  rw [vectorUnion_eq_list, vectorUnionList_eq]; simp

theorem vectorIntersectionList_cons (v : List β) (rest : List (List β)) :
    vectorIntersectionList deq (v :: rest) = v.filter (fun x => decide (∀ u ∈ rest, x ∈ u)) := by
  cases rest with
  | nil => show v = _; simp
  | cons w ws =>
    simp only [vectorIntersectionList]
    apply List.filter_congr
    intro x _
    by_cases h : ∀ u ∈ w :: ws, x ∈ u
    · rw [decide_eq_true h]; exact (inAll_iff _ x).mpr h
    · rw [decide_eq_false h, ← Bool.not_eq_true]; exact fun hh => h ((inAll_iff _ x).mp hh)

/-! count map with natural counts -/

theorem countValues_inv (v : List β) : CountInv dlt id (countValues dlt v) (v.count ·) := by
  have := (CountInv.nil (lt := dlt (β := β)) id).foldl dlt_iff (cast := id) (g := bump) rfl (fun _ => rfl) v (l := [])
  rwa [List.nil_append] at this

theorem countValues_mem (v : List β) (k : β) (c : Nat) :
    (k, c) ∈ countValues dlt v ↔ k ∈ v ∧ c = v.count k := by
  rw [(countValues_inv v).mem_iff dlt_iff, ← Nat.pos_iff_ne_zero, List.count_pos_iff]; rfl

end Sets

theorem map_mod_range {γ : Type} (v : List γ) (x0 : γ) (n : Nat) :
    (List.range (v.length * n)).map (fun i => (v[i % v.length]?).getD x0) = Spec.repeatList v n := by
  induction n with
  | zero => simp [Spec.repeatList]
  | succ n ih =>
    have hs : Spec.repeatList v (n + 1) = Spec.repeatList v n ++ v := by
      simp [Spec.repeatList, List.replicate_succ']
    rw [hs, Nat.mul_succ, List.range_add, List.map_append, ih]
    congr 1
    apply List.ext_getElem
    · simp
    · intro i h1 h2
      have hi : i < v.length := by simpa using h1
      simp [Nat.mod_eq_of_lt hi, hi]

theorem rep_eq {γ : Type} (v : List γ) (n : Nat) : rep v n = .ok (Spec.repeatList v n) := by
  unfold rep
  by_cases h1 : n = 1
  · subst h1; simp [Spec.repeatList]
  · by_cases h0 : n = 0
    · subst h0; simp [Spec.repeatList]
    · simp only [h1, h0, if_false]
      cases v with
      | nil => simp [Spec.repeatList]; rfl
      | cons x0 xs =>
        rw [← map_mod_range (x0 :: xs) x0 n]
        apply mapM_ok_of_forall
        intro i _
        have hlt : i % (x0 :: xs).length < (x0 :: xs).length := Nat.mod_lt _ (by simp)
        unfold at?
        rw [List.getElem?_eq_getElem hlt]
        rfl

/-! ### resize -/

theorem resizeTo_length {γ : Type} (d : γ) (l : List γ) (n : Nat) : (resizeTo d l n).length = n := by
  rw [resizeTo, List.length_append, List.length_take, List.length_replicate]; omega

theorem resizeTo_get {γ : Type} (d : γ) (l : List γ) (n i : Nat) (h : i < n) :
    (resizeTo d l n)[i]? = some (match l[i]? with | some x => x | none => d) := by
  unfold resizeTo
  by_cases hi : i < l.length
  · rw [List.getElem?_append_left (by rw [List.length_take]; omega), List.getElem?_take_of_lt h,
      List.getElem?_eq_getElem hi]
  · rw [List.getElem?_append_right (by rw [List.length_take]; omega), List.getElem?_replicate,
      if_pos (by rw [List.length_take]; omega), List.getElem?_eq_none (Nat.le_of_not_lt hi)]

/-! ### NumTools scalar helpers at ℝ -/

theorem ntAbs_eq (a : ℝ) : ntAbs a = |a| := by
  unfold ntAbs
  by_cases h : a < 0
  · simp [h, abs_of_neg h]
  · simp [h, abs_of_nonneg (not_lt.mp h)]

theorem ntSign_eq (a : ℝ) : ntSign a = if a < 0 then -1 else if a = 0 then 0 else 1 := by
  unfold ntSign
  by_cases h : a < 0
  · simp [h]
  · by_cases h0 : a = 0
    · simp [h0]
    · simp [h, h0]

/-! ### weighted norm / cosine -/

theorem zipWith_self_mul (a : List ℝ) : List.zipWith (· * ·) a a = a.map (fun x => x * x) := List.zipWith_self

theorem cosW_out (v1 v2 w : List ℝ) :
    cosW v1 v2 w = sized (v1.length = w.length ∧ v2.length = w.length) ((zipWith3 (fun a b c => a * b * c) v1 v2 w).sum /
      (Real.sqrt (zipWith3 (fun x y c => x * y * c) v1 v1 w).sum *
       Real.sqrt (zipWith3 (fun x y c => x * y * c) v2 v2 w).sum)) := by
  rw [cosW, scalarW_out]
  refine sized_bind_ok _ fun h => ?_
  rw [normW_out, normW_out, sized_pos h.1, sized_pos h.2]
  rfl

theorem sdW_of_varW (v w : List ℝ) (u nw : Bool) (x : ℝ) (h : varW v w u nw = .ok x) :
    sdW v w u nw = .ok (Real.sqrt x) := by
  unfold sdW; rw [h]; rfl

end Bpp.VecTools
