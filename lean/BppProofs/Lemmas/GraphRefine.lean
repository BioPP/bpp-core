import BppProofs.Lemmas.GraphLoops
/-! Lemmas on `BppModel/Graph.lean`, continued: what `createNode` and a successful `link` (`Linked`) leave behind; the executable check is the invariant (`check_iff`) -/
set_option linter.unusedSimpArgs false
set_option linter.unusedVariables false
set_option linter.unusedSectionVars false
namespace Bpp
namespace Graph
open AL
namespace G

theorem createNode_spec {g : G} (hc : Consistent g) :
    ∃ g1, createNode g = .ok g.nextNode g1 ∧ Consistent g1 ∧ Created g g1 :=
  ⟨_, rfl, createNode_consistent hc, createNode_created g⟩

/-- nothing points to an id that is not a node -/
theorem cons_no_entry_to_absent {g : G} (hc : Consistent g) {n : Nat} (hn : g.hasNode n = false) (x : Nat) :
    g.outE x n = none ∧ g.outE n x = none := by
  refine ⟨?_, hc.views.out_none hn x⟩
  cases h : g.outE x n with
  | none => rfl
  | some e => rw [hc.views.in_node x n e (cons_out_some hc h).1] at hn; cases hn

theorem link_ok_of {g : G} {a b : Nat} (ha : g.hasNode a = true) (hb : g.hasNode b = true) (hO : g.outE a b = none) :
    link a b g = .ok g.nextEdge (linkWrite a b g.nextEdge { g with nextEdge := g.nextEdge + 1 }) := by
  simp [link, linkRefused, ha, hb, hO]

theorem link_exc {g g' : G} {a b : Nat} (h : link a b g = .exc g') : g' = g := by
  unfold link at h
  split at h
  · cases h; rfl
  · cases h

theorem keys_linkWrite (a b e : Nat) (g : G) : AL.keys (linkWrite a b e g).nodes = AL.keys g.nodes := by
  unfold linkWrite
  cases g.directed <;> simp [linkInEdge, keys_linkInNode]

/-- what a successful `link a b` did: the relation a -> b, under the next edge id `e`, in all three views -/
structure Linked (a b e : Nat) (g g' : G) : Prop where
  fresh : e = g.nextEdge
  hasNode : ∀ n, g'.hasNode n = g.hasNode n
  keys : AL.keys g'.nodes = AL.keys g.nodes
  outE : ∀ x y, g'.outE x y =
    if x = a ∧ y = b then some e else if g.directed = false ∧ x = b ∧ y = a then some e else g.outE x y
  inE : ∀ x y, g'.inE y x =
    if y = b ∧ x = a then some e else if g.directed = false ∧ y = a ∧ x = b then some e else g.inE y x
  edges : g'.edges = AL.set e (a, b) g.edges
  rest : g'.directed = g.directed ∧ g'.nextNode = g.nextNode ∧ g'.nextEdge = g.nextEdge + 1 ∧ g'.root = g.root ∧
    g'.pending = g.pending

theorem link_ok {g g' : G} (hc : Consistent g) {a b e : Nat} (h : link a b g = .ok e g') :
    Consistent g' ∧ Linked a b e g g' := by
  unfold link at h
  cases hr : linkRefused g a b <;> rw [hr] at h
  · obtain ⟨ha, hb, hO⟩ := linkRefused_false hr
    injection h with h1 h2
    subst h1 h2
    have hc0 := consistent_bump hc
    have habs := cons_absent hc0 (a := a) (b := b) hO
    have r := linkWrite_rest a b g.nextEdge { g with nextEdge := g.nextEdge + 1 }
    exact ⟨consistent_linkWrite hc0 ha hb hO (fresh_edge hc (Nat.le_refl _)) (Nat.lt_succ_self _), rfl,
      fun n => hasNode_linkWrite _ _ _ n _, keys_linkWrite _ _ _ _, outE_linkWrite (g := { g with nextEdge := g.nextEdge + 1 }) _ ha hb hO habs.1 habs.2,
      fun x y => inE_linkWrite (g := { g with nextEdge := g.nextEdge + 1 }) _ ha hb hO habs.1 habs.2 x y, edges_linkWrite _ _ _ _, r⟩
  · cases h

theorem link_spec {g : G} (hc : Consistent g) {a b : Nat} (ha : g.hasNode a = true) (hb : g.hasNode b = true)
    (hO : g.outE a b = none) : ∃ g', link a b g = .ok g.nextEdge g' ∧ Consistent g' ∧ Linked a b g.nextEdge g g' :=
  ⟨_, link_ok_of ha hb hO, link_ok hc (link_ok_of ha hb hO)⟩

theorem Linked.find_edges {a b e : Nat} {g g' : G} (l : Linked a b e g g') (e' : Nat) :
    find e' g'.edges = if e = e' then some (a, b) else find e' g.edges := by
  rw [l.edges, find_set]

theorem Linked.absent {a b e : Nat} {g g' : G} (l : Linked a b e g g') (hc : Consistent g) : g.hasEdge e = false := by
  simp [G.hasEdge, has, fresh_edge hc (Nat.le_of_eq l.fresh.symm)]

theorem Unlinked.outE_none {a b e x y : Nat} {g g' : G} (u : Unlinked a b e g g') (h : g.outE x y = none) : g'.outE x y = none := by
  rw [u.outE]; split
  · rfl
  · exact h

end G

/-! ### the executable check is the invariant -/

/-- a check that returns the name of the first failing clause returns none iff every clause holds -/
theorem _root_.Bpp.ite_some_eq_none {α : Type} {c : Prop} [Decidable c] {a : α} {r : Option α} :
    (if c then some a else r) = none ↔ ¬ c ∧ r = none := by
  split <;> simp [*]

theorem ascending_iff (l : List Nat) : ascending l = true ↔ List.Pairwise (· < ·) l := by
  induction l with
  | nil => simp [ascending]
  | cons a r ih =>
    cases r with
    | nil => simp [ascending]
    | cons b r' =>
      simp only [ascending, Bool.and_eq_true, decide_eq_true_eq, ih, List.pairwise_cons]
      constructor
      · rintro ⟨hab, hb, hr⟩
        refine ⟨?_, hb, hr⟩
        intro x hx
        simp only [List.mem_cons] at hx
        rcases hx with rfl | hx
        · exact hab
        · exact Nat.lt_trans hab (hb x hx)
      · rintro ⟨ha, hb, hr⟩
        exact ⟨ha b (by simp), hb, hr⟩

namespace G

theorem check_iff (g : G) : g.check = none ↔ Consistent g := by
  simp only [check, ite_some_eq_none, Bool.not_eq_true', Bool.not_eq_false, List.all_eq_true, Bool.and_eq_true, Bool.or_eq_true,
    beq_iff_eq, decide_eq_true_eq, ascending_iff, and_true]
  constructor
  · rintro ⟨s1, s2, s3, h4, h5, h6, h7, h8⟩
    refine ⟨⟨?_, ?_, ?_, fun a b e h => outE_some_hasNode h, fun a b e h => inE_some_hasNode h⟩, ?_, ?_,
      s1, s2, fun n r hr => s3 _ (find_some_mem hr)⟩
    · intro e a b hE
      obtain ⟨h, hu⟩ := h4 _ (find_some_mem hE)
      exact ⟨h.1, h.2, fun hd => hu.resolve_left (by simp [hd])⟩
    · intro a b e hO
      obtain ⟨r, hf, hq⟩ := Option.bind_eq_some_iff.mp hO
      exact h5 _ (find_some_mem hf) _ (find_some_mem hq)
    · intro a b e hI
      obtain ⟨r, hf, hq⟩ := Option.bind_eq_some_iff.mp hI
      exact h6 _ (find_some_mem hf) _ (find_some_mem hq)
    · intro n hn
      obtain ⟨r, hr⟩ := (hasNode_iff g n).mp hn
      exact h7 _ (find_some_mem hr)
    · intro e he
      obtain ⟨v, hv⟩ := Option.isSome_iff_exists.mp he
      exact h8 _ (find_some_mem hv)
  · intro hc
    have hn := fun (p : Nat × Row) hp => (mem_iff_find hc.sorted.nodes p.1 p.2).mp hp
    have he := fun (p : Nat × Nat × Nat) hp => (mem_iff_find hc.sorted.edges p.1 p.2).mp hp
    refine ⟨hc.sorted.nodes, hc.sorted.edges, fun p hp => hc.sorted.rows _ _ (hn p hp), fun p hp => ?_, fun p hp q hq => ?_,
      fun p hp q hq => ?_, fun p hp => hc.node_lt _ ((hasNode_iff g _).mpr ⟨_, hn p hp⟩),
      fun p hp => hc.edge_lt _ (Option.isSome_iff_exists.mpr ⟨_, he p hp⟩)⟩
    · have := hc.views.edge_listed _ _ _ (he p hp)
      refine ⟨⟨this.1, this.2.1⟩, ?_⟩
      cases hd : g.directed
      · exact Or.inr (this.2.2 hd)
      · exact Or.inl rfl
    · have hq' := (mem_iff_find (hc.sorted.rows _ _ (hn p hp)).1 q.1 q.2).mp hq
      exact hc.views.out_edge p.1 q.1 q.2 (Option.bind_eq_some_iff.mpr ⟨_, hn p hp, hq'⟩)
    · have hq' := (mem_iff_find (hc.sorted.rows _ _ (hn p hp)).2 q.1 q.2).mp hq
      exact hc.views.in_edge q.1 p.1 q.2 (Option.bind_eq_some_iff.mpr ⟨_, hn p hp, hq'⟩)
end G
end Graph
end Bpp
