import BppProofs.Lemmas.OptimSimplex
import BppProofs.Lemmas.OptimBacktrack
import BppModel.OptimLine
/-!
Helper lemmas for C10: searching along a direction (`DirectionFunction`, `lineMinimization`,
`lineSearch`) on the objective of the harness, over `ℝ`.

* `dirPoint x P Ξ`: the list `DirectionFunction::setParameters` sets the wrapped function to when its
  one-dimensional parameter holds `x` — every `P_j` moved to what `setValue(p_j + x ξ_j)` stores
  (`corr`: the request itself when the constraint accepts it, the auto-corrected value otherwise);
* `dirfn_det`: a `DirectionFunction` around the objective is a `Det` function with
  `g x = obj (matchPoint pt0 (dirPoint x P Ξ))`: the theorems about bracketing, Brent's method and the
  Newton backtracking search apply to it unchanged;
* `lineMinimization_spec`, `lineSearch_spec`: what the two searches return.
-/
set_option linter.unusedSectionVars false
namespace Bpp.Optim
open Bpp

/-! ### the list a `DirectionFunction` sets its function to -/

/-- `xt_` after `setParameters` with the one-dimensional parameter at `x` -/
noncomputable def dirPoint (x : ℝ) : PList ℝ → List ℝ → PList ℝ
  | q :: r, ξ :: ξs => ⟨q.name, reval q.p (corr q.p (q.p.value + x * ξ))⟩ :: dirPoint x r ξs
  | _, _ => []

theorem dirPoint_names (x : ℝ) : ∀ (P : PList ℝ) (Ξ : List ℝ), P.length ≤ Ξ.length → names (dirPoint x P Ξ) = names P := by
  intro P
  induction P with
  | nil => intro Ξ _; rfl
  | cons q r ih =>
    intro Ξ hl
    cases Ξ with
    | nil => simp at hl
    | cons ξ ξs =>
      rw [dirPoint, names_cons, names_cons, ih ξs (by simpa using hl)]

/-- the loop of `DirectionFunction::setParameters`: each `xt_j` is `P_j` up to a feasible value, so its
`setValue` behaves like that of `P_j` -/
theorem dirMove_spec (x : ℝ) : ∀ (P xt : PList ℝ) (Ξ : List ℝ) (xt' : PList ℝ), Good P → Like P xt →
    dirMove x P xt Ξ = .ok xt' → xt' = dirPoint x P Ξ ∧ Like P xt' ∧ P.length ≤ Ξ.length := by
  intro P
  induction P with
  | nil =>
    intro xt Ξ xt' _ hl h
    cases hl
    rw [dirMove] at h
    simp only [Except.ok.injEq] at h
    subst h
    exact ⟨rfl, List.Forall₂.nil, Nat.zero_le _⟩
  | cons pj pr ih =>
    intro xt Ξ xt' hg hl h
    have hgr : Good pr := hg.tail
    have hgj := hg pj (List.mem_cons_self ..)
    cases hl with
    | @cons _ tj _ tr hab hr =>
      cases Ξ with
      | nil => rw [dirMove] at h; cases h
      | cons xj xr =>
        rw [dirMove] at h
        obtain ⟨hn, w, he, hw⟩ := hab
        rw [he, setValue_reval pj.p w _ hgj.1 hgj.2 hw] at h
        split at h
        · cases h
        · rename_i t' hs
          split at h
          · cases h
          · rename_i tr' hr'
            simp only [Except.ok.injEq] at h
            subst h
            obtain ⟨ih1, ih2, ih3⟩ := ih tr xr tr' hgr hr hr'
            obtain ⟨hform, hacc⟩ := setValue_ok_form hs hgj.2
            refine ⟨?_, List.Forall₂.cons ⟨hn, t'.value, hform, hacc⟩ ih2, by simp only [List.length_cons]; omega⟩
            rw [dirPoint, ← ih1]
            have hc : corr pj.p (pj.p.value + x * xj) = t'.value := corr_ok hs
            rw [hc, ← hform]
            show (⟨tj.name, t'⟩ : NP ℝ) :: tr' = _
            rw [hn]

/-! ### a `DirectionFunction` around the objective is a `Det` function -/

variable (obj : List ℝ → ℝ) (D : Deriv ℝ) (cap : Option Nat)

/-- the condition on the `DirectionFunction`: it moves `P` along `Ξ`, its copies `xt_` are `P` up to
feasible values, the wrapped function agrees with `pt0` outside the names of `P`, and once it has been
evaluated the wrapped function is where the one-dimensional parameter says -/
def DirInv (pt0 : List ℝ) (P : PList ℝ) (Ξ : List ℝ) (df : DirFn (Fn ℝ) ℝ) : Prop :=
  df.p = P ∧ df.xi = Ξ ∧ Like P df.xt ∧ df.inner.point.length = pt0.length ∧
  (∀ i, i ∉ names P → df.inner.point[i]? = pt0[i]?) ∧
  (∀ x, value0 df.params = some x → 0 < df.nbEval → df.inner.point = matchPoint pt0 (dirPoint x P Ξ))

theorem DirInv.point {pt0 : List ℝ} {P : PList ℝ} {Ξ : List ℝ} {df : DirFn (Fn ℝ) ℝ} {x : ℝ} (h : DirInv pt0 P Ξ df)
    (hx : value0 df.params = some x) (hpos : 0 < df.nbEval) : df.inner.point = matchPoint pt0 (dirPoint x P Ξ) :=
  h.2.2.2.2.2 x hx hpos

/-- the condition on the list: the one-dimensional parameter "x" is a plain unconstrained parameter of
precision 0 -/
def XParam (pl : PList ℝ) : Prop := ∃ n w, pl = [⟨n, ⟨w, 0, none, false⟩⟩]

def DirJ (pt0 : List ℝ) (P : PList ℝ) (Ξ : List ℝ) (df : DirFn (Fn ℝ) ℝ) (pl : PList ℝ) : Prop :=
  DirInv pt0 P Ξ df ∧ XParam pl

/-- `DirJ`, and the function has been evaluated at least once -/
def DirJp (pt0 : List ℝ) (P : PList ℝ) (Ξ : List ℝ) (df : DirFn (Fn ℝ) ℝ) (pl : PList ℝ) : Prop :=
  (DirInv pt0 P Ξ df ∧ 0 < df.nbEval) ∧ XParam pl

/-- the objective along the direction -/
noncomputable def dirG (pt0 : List ℝ) (P : PList ℝ) (Ξ : List ℝ) (x : ℝ) : ℝ := obj (matchPoint pt0 (dirPoint x P Ξ))

theorem xparam_set (pl pl' : PList ℝ) (x : ℝ) (hp : XParam pl) (h : setValueAt pl 0 x = .ok pl') :
    XParam pl' ∧ value0 pl' = some x := by
  obtain ⟨n, w, rfl⟩ := hp
  obtain ⟨p', hs, hv, hp', hc', ha'⟩ := setValue_free (⟨w, 0, none, false⟩ : Param ℝ) x rfl rfl
  rw [setValueAt, hs] at h
  simp only [Except.ok.injEq] at h
  subst h
  refine ⟨⟨n, x, ?_⟩, by simp [value0, hv]⟩
  cases p'
  simp only at hv hp' hc' ha'
  subst hv hp' hc' ha'
  rfl

/-- `DirectionFunction::setParameters` -/
theorem dirfn_set (pt0 : List ℝ) (P : PList ℝ) (Ξ : List ℝ) (hg : Good P) (df df' : DirFn (Fn ℝ) ℝ) (pl : PList ℝ) (x : ℝ)
    (hJ : DirInv pt0 P Ξ df) (hx : value0 pl = some x)
    (h : df.setParameters (Fn.iface obj D cap) pl = .ok df') :
    DirInv pt0 P Ξ df' ∧ df'.params = pl ∧ 0 < df'.nbEval ∧ df'.inner.point = matchPoint pt0 (dirPoint x P Ξ) ∧
    P.length ≤ Ξ.length := by
  obtain ⟨hp, hxi, hlike, hlen, hfr, _⟩ := hJ
  unfold DirFn.setParameters at h
  simp only [hx] at h
  rw [hp, hxi] at h
  split at h
  · cases h
  · rename_i xt' hm
    obtain ⟨e1, e2, e3⟩ := dirMove_spec x P df.xt Ξ xt' hg hlike hm
    split at h
    · cases h
    · rename_i fn hsp
      simp only [Except.ok.injEq] at h
      subst h
      have hpt := iface_set_point obj D cap _ _ _ hsp
      have hnm : names xt' = names P := e2.names
      have hpt' : fn.point = matchPoint pt0 (dirPoint x P Ξ) := by
        rw [hpt, ← e1]
        exact matchPoint_congr _ _ _ hlen (fun i hi => hfr i (by rw [← hnm]; exact hi))
      refine ⟨⟨rfl, rfl, e2, ?_, ?_, ?_⟩, rfl, Nat.succ_pos _, hpt', e3⟩
      · show fn.point.length = _; rw [hpt', matchPoint_length]
      · intro i hi
        show fn.point[i]? = _
        rw [hpt']; exact matchPoint_frame _ _ _ (by rw [dirPoint_names x P Ξ e3]; exact hi)
      · intro y hy _
        show fn.point = _
        have : y = x := by
          have : value0 pl = some y := hy
          rw [hx] at this; exact (Option.some.inj this).symm
        rw [this]; exact hpt'

/-- `DirectionFunction::f` -/
theorem dirfn_f (pt0 : List ℝ) (P : PList ℝ) (Ξ : List ℝ) (hg : Good P) (df df' : DirFn (Fn ℝ) ℝ) (pl : PList ℝ) (x v : ℝ)
    (hJ : DirInv pt0 P Ξ df) (hx : value0 pl = some x)
    (h : (DirFn.iface (Fn.iface obj D cap)).f df pl = .ok (df', v)) :
    v = dirG obj pt0 P Ξ x ∧ DirInv pt0 P Ξ df' ∧ df'.params = pl ∧ 0 < df'.nbEval ∧
    df'.inner.point = matchPoint pt0 (dirPoint x P Ξ) ∧ P.length ≤ Ξ.length := by
  simp only [DirFn.iface] at h
  split at h
  · cases h
  · rename_i df1 hs
    simp only [Except.ok.injEq, Prod.mk.injEq] at h
    obtain ⟨rfl, rfl⟩ := h
    obtain ⟨a, b, c, d, e⟩ := dirfn_set obj D cap pt0 P Ξ hg df df1 pl x hJ hx hs
    exact ⟨by rw [iface_value, d]; rfl, a, b, c, d, e⟩

theorem dirfn_det_gen (pt0 : List ℝ) (P : PList ℝ) (Ξ : List ℝ) (hg : Good P) (c : Prop) :
    Det (DirFn.iface (Fn.iface obj D cap)) (dirG obj pt0 P Ξ)
      (fun df pl => (DirInv pt0 P Ξ df ∧ (c → 0 < df.nbEval)) ∧ XParam pl) := by
  refine Det.of_set_direct (fun fn pl fn' pl' h1 h2 => ⟨h2.1, h1.2⟩) ?_ ?_
  · intro fn pl x fn' v hJ hx h
    obtain ⟨a, b, _, d, _⟩ := dirfn_f obj D cap pt0 P Ξ hg fn fn' pl x v hJ.1.1 hx h
    exact ⟨a, ⟨b, fun _ => d⟩, hJ.2⟩
  · intro fn pl x pl' hJ h
    obtain ⟨hxp, hv0⟩ := xparam_set pl pl' x hJ.2 h
    exact ⟨⟨hJ.1, hxp⟩, x, hv0, rfl⟩

/-- **a `DirectionFunction` around the objective of the harness is a `Det` function**: "set the
one-dimensional parameter to `x`, evaluate" computes the objective at `pt0` with every parameter of `P`
moved to what `setValue(p_j + x ξ_j)` stores -/
theorem dirfn_det (pt0 : List ℝ) (P : PList ℝ) (Ξ : List ℝ) (hg : Good P) :
    Det (DirFn.iface (Fn.iface obj D cap)) (dirG obj pt0 P Ξ) (DirJ pt0 P Ξ) := by
  have h := dirfn_det_gen obj D cap pt0 P Ξ hg False
  have e : (fun df pl => (DirInv pt0 P Ξ df ∧ (False → 0 < df.nbEval)) ∧ XParam pl) = DirJ pt0 P Ξ := by
    funext df pl; unfold DirJ; simp
  rw [e] at h; exact h

/-- the same, keeping track of "evaluated at least once" -/
theorem dirfn_det_pos (pt0 : List ℝ) (P : PList ℝ) (Ξ : List ℝ) (hg : Good P) :
    Det (DirFn.iface (Fn.iface obj D cap)) (dirG obj pt0 P Ξ) (DirJp pt0 P Ξ) := by
  have h := dirfn_det_gen obj D cap pt0 P Ξ hg True
  have e : (fun df pl => (DirInv pt0 P Ξ df ∧ (True → 0 < df.nbEval)) ∧ XParam pl) = DirJp pt0 P Ξ := by
    funext df pl; unfold DirJp; simp
  rw [e] at h; exact h

/-! ### `moveAlong` -/

theorem toAuto_of_auto (p : Param ℝ) (h : p.auto = true) : p.toAuto = p := by
  cases p; simp only [Param.toAuto] at *; subst h; rfl

/-- what a parameter stores when its `setValue` returns is what its auto-correcting copy stores -/
theorem corr_toAuto_of_ok {p p' : Param ℝ} {v : ℝ} (h : p.setValue v = .ok p') (hp : p.precision = 0) (hi : p.invOk = true) :
    corr p.toAuto v = p'.value := by
  cases ha : p.auto with
  | true => rw [toAuto_of_auto p ha]; exact corr_ok h
  | false =>
    rw [Param.setValue_of_plain ha, svb0 p v hp hi] at h
    split at h
    · rename_i hacc
      simp only [Except.ok.injEq] at h
      subst h
      exact corr_accepted p.toAuto v hp hi hacc
    · cases h

theorem applyPolicy_auto_cons (q : NP ℝ) (r : PList ℝ) :
    applyPolicy .auto (q :: r) = ⟨q.name, q.p.toAuto⟩ :: applyPolicy .auto r := rfl

/-- the final move of `lineMinimization` / `lineSearch`: the caller's parameters end at the values the
`DirectionFunction`'s auto-correcting copies hold for the same abscissa -/
theorem moveAlong_spec (y : ℝ) : ∀ (parameters pl : PList ℝ) (xi xi' : List ℝ), Good parameters →
    moveAlong y parameters xi = .ok (pl, xi') →
    Like parameters pl ∧
    pl.map (fun q => (q.name, q.p.value)) = (dirPoint y (applyPolicy .auto parameters) xi).map (fun q => (q.name, q.p.value)) ∧
    parameters.length ≤ xi.length := by
  intro parameters
  induction parameters with
  | nil =>
    intro pl xi xi' _ h
    rw [moveAlong] at h
    simp only [Except.ok.injEq, Prod.mk.injEq] at h
    obtain ⟨rfl, -⟩ := h
    exact ⟨List.Forall₂.nil, rfl, Nat.zero_le _⟩
  | cons q r ih =>
    intro pl xi xi' hg h
    have hgr : Good r := hg.tail
    have hgq := hg q (List.mem_cons_self ..)
    cases xi with
    | nil => rw [moveAlong] at h; cases h
    | cons x xs =>
      rw [moveAlong] at h
      split at h
      · cases h
      · rename_i p' hs
        split at h
        · cases h
        · rename_i r' xs' hr
          simp only [Except.ok.injEq, Prod.mk.injEq] at h
          obtain ⟨rfl, -⟩ := h
          obtain ⟨ih1, ih2, ih3⟩ := ih r' xs xs' hgr hr
          obtain ⟨hform, hacc⟩ := setValue_ok_form hs hgq.2
          refine ⟨List.Forall₂.cons ⟨rfl, p'.value, hform, hacc⟩ ih1, ?_, by simp only [List.length_cons]; omega⟩
          rw [applyPolicy_auto_cons, dirPoint, List.map_cons, List.map_cons, ← ih2]
          have hc := corr_toAuto_of_ok hs hgq.1 hgq.2
          have e : q.p.toAuto.value + y * x = q.p.value + x * y := by
            show q.p.value + y * x = q.p.value + x * y
            ring
          rw [e]
          simp only [reval_value]
          rw [hc]

theorem dirPoint_zero : ∀ (P : PList ℝ) (Ξ : List ℝ), Good P → P.length ≤ Ξ.length →
    (dirPoint 0 P Ξ).map (fun q => (q.name, q.p.value)) = P.map (fun q => (q.name, q.p.value)) := by
  intro P
  induction P with
  | nil => intro Ξ _ _; rfl
  | cons q r ih =>
    intro Ξ hg hl
    cases Ξ with
    | nil => simp at hl
    | cons ξ ξs =>
      have hgq := hg q (List.mem_cons_self ..)
      rw [dirPoint, List.map_cons, List.map_cons, ih ξs hg.tail (by simpa using hl)]
      have e : q.p.value + 0 * ξ = q.p.value := by ring
      rw [e]
      simp only [reval_value]
      rw [corr_accepted q.p q.p.value hgq.1 hgq.2 hgq.2]

/-! ### `lineMinimization` -/

/-- after `f(pl)` a `DirectionFunction` remembers `pl` and has counted the evaluation -/
theorem dirfn_f_params {F : Type} (I : FunI F ℝ) (df df' : DirFn F ℝ) (pl : PList ℝ) (v : ℝ)
    (h : (DirFn.iface I).f df pl = .ok (df', v)) : df'.params = pl ∧ 0 < df'.nbEval := by
  simp only [DirFn.iface] at h
  split at h
  · cases h
  · rename_i df1 hs
    simp only [Except.ok.injEq, Prod.mk.injEq] at h
    obtain ⟨rfl, -⟩ := h
    unfold DirFn.setParameters at hs
    simp only [] at hs
    split at hs
    · cases hs
    · split at hs
      · cases hs
      · split at hs
        · cases hs
        · simp only [Except.ok.injEq] at hs
          subst hs
          exact ⟨rfl, Nat.succ_pos _⟩

/-- `BrentOneDimension::optimize` on a `DirectionFunction` ends on an evaluation at the optimiser's
parameter -/
theorem brentOptimize_dirfn {F : Type} (I : FunI F ℝ) (fuel : Nat) (s s2 : St (DirFn F ℝ) (Brent ℝ) ℝ) (v : ℝ)
    (h : brentOptimize (DirFn.iface I) fuel s = .ok (s2, v)) : s2.fn.params = s2.core.params ∧ 0 < s2.fn.nbEval := by
  obtain ⟨sL, w, fn, -, hf, rfl⟩ := brentOptimize_ok h
  exact dirfn_f_params I _ _ _ _ hf

theorem xParam_ok : XParam (xParam : PList ℝ) ∧ value0 (xParam : PList ℝ) = some 0 := by
  refine ⟨⟨0, 0, ?_⟩, ?_⟩
  · simp [xParam]
  · simp [xParam, value0]

theorem dirInit_inv (fn : Fn ℝ) (parameters : PList ℝ) (xi : List ℝ) (hg : Good parameters) :
    DirInv fn.point (applyPolicy .auto parameters) xi (DirFn.init fn .auto parameters xi) :=
  ⟨rfl, rfl, Like.refl (applyPolicy_good _ _ hg).feas, rfl, fun _ _ => rfl, fun _ _ h => absurd h (Nat.lt_irrefl 0)⟩

/-- the objective along the direction at abscissa 0 is the objective at the caller's parameters -/
theorem dirG_zero (pt0 : List ℝ) (parameters : PList ℝ) (xi : List ℝ) (hg : Good parameters) (hl : parameters.length ≤ xi.length) :
    dirG obj pt0 (applyPolicy .auto parameters) xi 0 = obj (matchPoint pt0 parameters) := by
  unfold dirG
  rw [matchPoint_values _ _ _ (dirPoint_zero (applyPolicy .auto parameters) xi (applyPolicy_good _ _ hg)
    (by simpa [applyPolicy] using hl)), matchPoint_applyPolicy]

/-- **`OneDimensionOptimizationTools::lineMinimization`**: the parameters it returns are the caller's
up to feasible values, the function is left at them, and the objective there is not above the objective
at the parameters the search started from (Brent's method never loses its initial guess, the abscissa 0) -/
theorem lineMinimization_spec (fuel : Nat) (fn fn' : Fn ℝ) (parameters pl : PList ℝ) (xi xi' : List ℝ) (k : Nat)
    (hg : Good parameters)
    (h : lineMinimization (Fn.iface obj D cap) fuel fn parameters xi = .ok (fn', pl, xi', k)) :
    Like parameters pl ∧ fn'.point = matchPoint fn.point pl ∧
    obj fn'.point ≤ obj (matchPoint fn.point parameters) := by
  obtain ⟨bod, bod2, v, x, hinit, hopt, hxm, hmv, rfl, rfl⟩ := lineMinimization_ok h
  have hgP : Good (applyPolicy .auto parameters) := applyPolicy_good _ _ hg
  have hdet := dirfn_det obj D cap fn.point (applyPolicy .auto parameters) xi hgP
  have hbi := brentInit_spec (DirFn.iface (Fn.iface obj D cap)) _ hdet fuel
    (lineBrent (DirFn.init fn .auto parameters xi)) bod xParam 0 hinit ⟨dirInit_inv fn parameters xi hg, xParam_ok.1⟩ xParam_ok.2
  obtain ⟨hle, -, x', hvx, hxv, hJ2⟩ := brentOptimize_spec _ _ hdet fuel _ bod bod2 v hbi hopt
  obtain ⟨hpar, hpos⟩ := brentOptimize_dirfn _ fuel bod bod2 v hopt
  obtain rfl : x' = x := Option.some.inj ((hpar ▸ hxv).symm.trans hxm)
  obtain ⟨m1, m2, m3⟩ := moveAlong_spec x' parameters pl xi xi' hg hmv
  have hpt : bod2.fn.inner.point = matchPoint fn.point (dirPoint x' (applyPolicy .auto parameters) xi) :=
    hJ2.1.point hxm hpos
  refine ⟨m1, hpt.trans (matchPoint_values _ _ _ m2).symm, ?_⟩
  have hv' : obj bod2.fn.inner.point = v := by rw [hvx, hpt]; rfl
  rw [hv', ← dirG_zero obj fn.point parameters xi hg m3]
  exact le_trans hle (min_le_left _ _)

/-! ### `lineSearch` -/

/-- what `init` of the backtracking search on a fresh `DirectionFunction` establishes: the first evaluation,
at the abscissa 0, with the step length 1 to try next -/
theorem lineNBack_init (fn : Fn ℝ) (parameters : PList ℝ) (xi : List ℝ) (slope test : ℝ) (hg : Good parameters)
    (nb : St (DirFn (Fn ℝ) ℝ) (NBack ℝ) ℝ)
    (hinit : (nbackAlgo (DirFn.iface (Fn.iface obj D cap))).init (lineNBack (DirFn.init fn .auto parameters xi) slope test) xParam
      = .ok nb) :
    NBack.Inv (DirJp fn.point (applyPolicy .auto parameters) xi) (dirG obj fn.point (applyPolicy .auto parameters) xi 0) slope nb ∧
    nb.fn.params = nb.core.params := by
  obtain ⟨sa, hdi, rfl⟩ := init_ok hinit
  change nbackDoInit _ _ xParam = .ok sa at hdi
  obtain ⟨df0, v0, hf0, rfl⟩ := nbackDoInit_ok hdi
  obtain ⟨a, b, c, d, -⟩ := dirfn_f obj D cap fn.point _ xi (applyPolicy_good _ _ hg) _ df0 _ 0 v0
    (dirInit_inv fn parameters xi hg) xParam_ok.2 hf0
  exact ⟨⟨by show (0 : ℝ) < Scalar.one; rw [ScalarReal.one_eq]; exact one_pos, ⟨⟨b, d⟩, xParam_ok.1⟩, a, rfl⟩, c⟩

/-- **`OneDimensionOptimizationTools::lineSearch`** (Newton backtracking along the direction): the
parameters it returns are the caller's up to feasible values, and the function is left at them.  (No
descent claim: the search may end on its last trial, and its acceptance test accepts an increase when
the slope it is given is positive; `BfgsMultiDimensions::doStep` checks the value itself.) -/
theorem lineSearch_spec (fuel : Nat) (fn fn' : Fn ℝ) (parameters pl : PList ℝ) (xi gradient xi' : List ℝ) (k : Nat)
    (hg : Good parameters)
    (h : lineSearch (Fn.iface obj D cap) fuel fn parameters xi gradient = .ok (fn', pl, xi', k)) :
    Like parameters pl ∧ fn'.point = matchPoint fn.point pl := by
  obtain ⟨nb, nb2, v, xmin, hinit, hopt, hxm, hmv, rfl, rfl⟩ := lineSearch_ok h
  have hdet := dirfn_det_pos obj D cap fn.point (applyPolicy .auto parameters) xi (applyPolicy_good _ _ hg)
  have h2 : DirJp fn.point (applyPolicy .auto parameters) xi nb2.fn nb2.core.params :=
    (optimize_invariant _ (fun u => DirJp fn.point (applyPolicy .auto parameters) xi u.fn u.core.params)
      (fun u u' w hu hd => nback_keepsJ _ _ hdet u u' w hu hd) (fun u hu => hu) (fun u n t hu => hu)
      (lineNBack_init obj D cap fn parameters xi _ _ hg nb hinit).1.j hopt).1
  obtain ⟨m1, m2, m3⟩ := moveAlong_spec xmin parameters pl xi xi' hg hmv
  exact ⟨m1, (h2.1.1.point hxm h2.1.2).trans (matchPoint_values _ _ _ m2).symm⟩

/-! ### conditional descent of `lineSearch` -/

/-- after a step of the backtracking search on a `DirectionFunction`, the function remembers the
optimiser's list -/
theorem nbackDoStep_dirfn_params {F : Type} (I : FunI F ℝ) (s s' : St (DirFn F ℝ) (NBack ℝ) ℝ) (v : ℝ)
    (h : nbackDoStep (DirFn.iface I) s = .ok (s', v)) : s'.fn.params = s'.core.params := by
  obtain ⟨x, fn, pl, g, t, he, rfl, -⟩ := nbackDoStep_ok h
  exact (dirfn_f_params I _ _ _ _ (eval0_ok.1 he).2).1

/-- **conditional descent of `lineSearch`**: when the slope `xi · gradient` handed to the Newton
backtracking search is that of a descent direction (`≤ 0`) and the search ends with its tolerance flag
set (a trial was accepted, or it gave up and went back to the step length 0), the objective at the
point the function is left at is not above the objective at the parameters the search started from.
(Without the flag — the search stopped by its cap of 10000 steps — it reports its last trial; for a
positive slope the acceptance test accepts an increase: see `BfgsExample` in `OptimLineOpt.lean`.) -/
theorem lineSearch_descent (fuel : Nat) (fn fn' : Fn ℝ) (parameters pl : PList ℝ) (xi gradient xi' : List ℝ) (k : Nat)
    (hg : Good parameters) (hslope : dotFrom (0 : ℝ) xi gradient ≤ 0)
    (h : lineSearch (Fn.iface obj D cap) fuel fn parameters xi gradient = .ok (fn', pl, xi', k))
    (htol : ∀ nb nb2 v,
      (nbackAlgo (DirFn.iface (Fn.iface obj D cap))).init
        (lineNBack (DirFn.init fn .auto parameters xi) (dotFrom Scalar.zero xi gradient) (lsTest Scalar.zero parameters xi)) xParam = .ok nb →
      (nbackAlgo (DirFn.iface (Fn.iface obj D cap))).optimize fuel nb = .ok (nb2, v) → nb2.core.tol = true) :
    obj fn'.point ≤ obj (matchPoint fn.point parameters) := by
  obtain ⟨nb, nb2, v, xmin, hinit, hopt, hxm, hmv, rfl, rfl⟩ := lineSearch_ok h
  have hdet := dirfn_det_pos obj D cap fn.point (applyPolicy .auto parameters) xi (applyPolicy_good _ _ hg)
  obtain ⟨-, -, m3⟩ := moveAlong_spec xmin parameters pl xi xi' hg hmv
  obtain ⟨hi, hp0⟩ := lineNBack_init obj D cap fn parameters xi _ _ hg nb hinit
  -- the function remembers the optimiser's list, so `xmin` is the abscissa the search ended on
  have hP : nb2.fn.params = nb2.core.params :=
    (optimize_invariant _ (fun u : St (DirFn (Fn ℝ) ℝ) (NBack ℝ) ℝ => u.fn.params = u.core.params) (fun u u' w _ hd => nbackDoStep_dirfn_params _ u u' w hd)
      (fun _ hu => hu) (fun _ _ _ hu => hu) hp0 hopt).1
  obtain ⟨hdesc, -, x, hvx, hxst, hJ2⟩ := nbackOptimize_spec _ _ hdet _ _ (ScalarReal.zero_eq ▸ hslope) fuel nb nb2 v hi hopt
    (htol nb nb2 v hinit hopt)
  obtain rfl : x = xmin := Option.some.inj ((hP ▸ hxst).symm.trans hxm)
  have hv : obj nb2.fn.inner.point = v := by rw [hvx, hJ2.1.1.point (hP ▸ hxst) hJ2.1.2]; rfl
  show obj nb2.fn.inner.point ≤ _
  rw [hv, ← dirG_zero obj fn.point parameters xi hg m3]
  exact hdesc.elim id le_of_eq

end Bpp.Optim
