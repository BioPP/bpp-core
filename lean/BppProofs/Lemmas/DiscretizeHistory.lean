import BppProofs.Lemmas.DiscretizeLookup
/-!
C09: validity of a discretised distribution as an invariant of every history of operations.
-/
namespace Bpp.Discretize
open Bpp

/-- the state about to be discretised -/
structure Pre (s : DD ℝ) : Prop where
  n_pos : 1 ≤ s.n
  prec_nonneg : 0 ≤ s.prec
  dom_ordered : s.dom.lo ≤ s.dom.hi

/-- a valid partition: the clauses that hold after every discretisation -/
structure Valid (s : DD ℝ) : Prop where
  n_classes : nClassesOk s = true
  probs_nonneg : probsNonneg s = true
  probs_sum_one : probsSumOne 0 s = true
  bounds : boundsMonoInDom s = true
  values : valuesStrictMono s = true
  sorted : TMap.Sorted s.prec s.dist

/-- fields that a discretisation does not touch -/
def SameCfg (s s' : DD ℝ) : Prop :=
  s'.n = s.n ∧ s'.dom = s.dom ∧ s'.prec = s.prec ∧ s'.median = s.median ∧ s'.scheme = s.scheme

theorem SameCfg.trans {s s1 s2 : DD ℝ} (h1 : SameCfg s s1) (h2 : SameCfg s1 s2) : SameCfg s s2 :=
  ⟨h2.1.trans h1.1, h2.2.1.trans h1.2.1, h2.2.2.1.trans h1.2.2.1, h2.2.2.2.1.trans h1.2.2.2.1, h2.2.2.2.2.trans h1.2.2.2.2⟩

theorem SameCfg.n {s s' : DD ℝ} (h : SameCfg s s') : s'.n = s.n := h.1
theorem SameCfg.dom {s s' : DD ℝ} (h : SameCfg s s') : s'.dom = s.dom := h.2.1

theorem Pre.of_sameCfg {s s' : DD ℝ} (hs : Pre s) (h : SameCfg s s') : Pre s' :=
  ⟨h.n ▸ hs.n_pos, h.2.2.1 ▸ hs.prec_nonneg, h.dom ▸ hs.dom_ordered⟩

theorem store_cfg {s r : DD ℝ} {bs : List ℝ} {vps : List (ℝ × ℝ)} (h : store s bs vps = .ok r) : SameCfg s r := by
  obtain ⟨m, -, rfl⟩ := store_ok h
  exact ⟨rfl, rfl, rfl, rfl, rfl⟩

theorem eqProp_partition (par : Parent ℝ) (s s' : DD ℝ) (hs : Pre s) (h : eqProp par s = .ok s') :
    nClassesOk s' = true ∧ probsNonneg s' = true ∧ probsSumOne 0 s' = true ∧ valuesStrictMono s' = true ∧
      TMap.Sorted s'.prec s'.dist := by
  have hl := eqPropRaw_lengths par s hs.n_pos
  have hn' : (s.n : ℝ) ≠ 0 := Nat.cast_ne_zero.2 (by have := hs.n_pos; omega)
  refine store_partition (eqProp_eq par s ▸ h) hs.prec_nonneg (by simp [adjust_length, hl.2]) (by have := hs.n_pos; omega) ?_ ?_
  · simp only [List.map_map, Function.comp_def, List.map_const', List.mem_replicate]
    rintro p ⟨_, rfl⟩; positivity
  · simp only [List.map_map, Function.comp_def, List.map_const', List.sum_replicate, adjust_length, hl.2, nsmul_eq_mul,
      mul_one_div_cancel hn']

theorem eqProp_valid (par : Parent ℝ) (s s' : DD ℝ) (hs : Pre s) (H : ParentOK par s.dom.lo s.dom.hi)
    (h : eqProp par s = .ok s') : Valid s' ∧ SameCfg s s' := by
  obtain ⟨a, b, c, d, e⟩ := eqProp_partition par s s' hs h
  refine ⟨⟨a, b, c, ?_, d, e⟩, store_cfg (eqProp_eq par s ▸ h)⟩
  obtain ⟨m, -, rfl⟩ := store_ok (eqProp_eq par s ▸ h)
  exact (boundsMonoInDom_iff _).2 (eqPropRaw_bounds_chain par s hs.n_pos hs.dom_ordered H)

theorem eqInt_valid (par : Parent ℝ) (s r : DD ℝ) (hs : Pre s) (H : ParentOK par s.dom.lo s.dom.hi)
    (h : eqInt par s = .ok r) : Valid r ∧ SameCfg s r := by
  obtain ⟨a, b, c, d, e, g⟩ := eqInt_partition par s r hs.n_pos hs.prec_nonneg hs.dom_ordered H.mono h
  exact ⟨⟨a, b, c, d, e, g⟩, store_cfg (eqInt_eq par s ▸ h)⟩

/-- what `discretize()` returns: the result of the equal-probability scheme (kept by
EQUAL_PROB_WHEN_POSSIBLE only when no two neighbouring bounds are equal), or of the
equal-interval scheme on a state with the same configuration (the fallback of
EQUAL_PROB_WHEN_POSSIBLE starts from the result of the equal-probability scheme) -/
theorem discretize_cases (par : Parent ℝ) (s s' : DD ℝ) (h : discretize par s = .ok s') :
    s.n ≠ 0 ∧ ((eqProp par s = .ok s' ∧ (s.scheme = 1 ∨ hasEqualNeighbours s'.allBounds = false)) ∨
      ∃ s1, SameCfg s s1 ∧ eqInt par s1 = .ok s') := by
  have same : SameCfg s s := ⟨rfl, rfl, rfl, rfl, rfl⟩
  unfold discretize at h
  split at h
  · cases h
  · refine ⟨by simpa using ‹¬ (s.n == 0) = true›, ?_⟩
    split at h
    · exact Or.inl ⟨h, Or.inl (by simpa using ‹(s.scheme == 1) = true›)⟩
    · split at h
      · exact Or.inr ⟨s, same, h⟩
      · cases he : eqProp par s with
        | error e => simp [he, bind, Except.bind] at h
        | ok s1 =>
          simp only [he, bind, Except.bind] at h
          split at h
          · exact Or.inr ⟨s1, store_cfg (eqProp_eq par s ▸ he), h⟩
          · cases h; exact Or.inl ⟨rfl, Or.inr (by simpa using ‹¬ hasEqualNeighbours s'.allBounds = true›)⟩

/-- a discretisation only writes the classes and the bounds -/
theorem discretize_cfg (par : Parent ℝ) (s s' : DD ℝ) (h : discretize par s = .ok s') : SameCfg s s' := by
  rcases (discretize_cases par s s' h).2 with ⟨h, -⟩ | ⟨s1, hc, h⟩
  · exact store_cfg (eqProp_eq par s ▸ h)
  · exact hc.trans (store_cfg (eqInt_eq par s1 ▸ h))

/-- `discretize()` with any of the three schemes: a valid partition, configuration untouched; no side condition on
the width of the classes or on the mass of the domain (`eqInt_partition`) -/
theorem discretize_valid (par : Parent ℝ) (s s' : DD ℝ) (hs : Pre s) (H : ParentOK par s.dom.lo s.dom.hi)
    (h : discretize par s = .ok s') : Valid s' ∧ SameCfg s s' := by
  rcases (discretize_cases par s s' h).2 with ⟨h, -⟩ | ⟨s1, hc, h⟩
  · exact eqProp_valid par s s' hs H h
  · obtain ⟨hv, hc'⟩ := eqInt_valid par s1 s' (hs.of_sameCfg hc) (hc.dom ▸ H) h
    exact ⟨hv, hc.trans hc'⟩

/-! ## the bounds lie in the domain, for every parent -/

theorem eqPropRaw_bounds_mem (par : Parent ℝ) (s : DD ℝ) (hn : 1 ≤ s.n) (hl : s.dom.lo ≤ s.dom.hi) :
    ∀ b ∈ (eqPropRaw par s).1, s.dom.lo ≤ b ∧ b ≤ s.dom.hi := by
  intro b hb
  by_cases h : par.P s.dom.hi = par.P s.dom.lo
  · rw [eqPropRaw_fst_of_eq par s h, uniformBounds, List.mem_map] at hb
    obtain ⟨i, hi, rfl⟩ := hb
    rw [nat_eq]
    exact gridPt_mem hn hl (Nat.cast_nonneg _) (by exact_mod_cast (by simpa using hi : i < s.n - 1) |> fun h => (by omega : i + 1 ≤ s.n))
  · rw [eqPropRaw_fst_of_ne par s h, eqPropBounds, List.mem_map] at hb
    obtain ⟨i, _, rfl⟩ := hb
    exact insideDomain_mem _ _ _ hl

/-- after `discretize()` — any scheme, any parent — the domain is what it was and every interior
bound lies in it -/
theorem discretize_bounds_in_dom (par : Parent ℝ) (s s' : DD ℝ) (hn : 1 ≤ s.n) (hl : s.dom.lo ≤ s.dom.hi)
    (h : discretize par s = .ok s') : boundsInDom s' = true := by
  have hd : s'.dom = s.dom := (discretize_cfg par s s' h).dom
  have hmem : ∀ b ∈ s'.bounds, s.dom.lo ≤ b ∧ b ≤ s.dom.hi := by
    rcases (discretize_cases par s s' h).2 with ⟨h, -⟩ | ⟨s1, hc, h⟩
    · obtain ⟨m, -, rfl⟩ := store_ok (eqProp_eq par s ▸ h)
      exact eqPropRaw_bounds_mem par s hn hl
    · obtain ⟨m, -, rfl⟩ := store_ok (eqInt_eq par s1 ▸ h)
      intro b hb
      have := gridBounds_mem (hc.n ▸ hn) (hc.dom ▸ hl) b hb
      rwa [hc.dom] at this
  simp only [boundsInDom, Bool.and_eq_true, ScalarReal.leb_iff, List.all_eq_true, hd]
  exact ⟨hl, hmem⟩

/-! ## the generic machine: histories of operations -/

/-- operations on a discretised distribution with parent `par`: class-count change, median toggle,
restriction, an accepted parameter update (new parent, possibly a new domain), re-discretisation -/
inductive Op where
  | setN (n : Nat)
  | setMedian (b : Bool)
  | restrict (c : Interval ℝ)
  | update (par : Parent ℝ) (dom : Dom ℝ)
  | rediscretize

abbrev MSt := Parent ℝ × DD ℝ

/-- the state an operation hands to `discretize` (`none`: nothing is re-discretised) -/
noncomputable def target (st : MSt) : Op → Except Err (Option MSt)
  | .setN n => .ok (if st.2.n != n then some (st.1, { st.2 with n := n }) else none)
  | .setMedian b => .ok (if st.2.median != b then some (st.1, { st.2 with median := b }) else none)
  | .restrict c =>
    match restrictDom st.2.dom c with
    | .ok (d, true) => .ok (some (st.1, { st.2 with dom := d }))
    | .ok (_, false) => .ok none
    | .error .bpp => .ok none      -- refused: the distribution is left unchanged
    | .error e => .error e
  | .update par dom => .ok (some (par, { st.2 with dom := dom }))
  | .rediscretize => .ok (some st)

noncomputable def step (st : MSt) (op : Op) : Except Err MSt := do
  match ← target st op with
  | none => return st
  | some (p, s0) => let s' ← discretize p s0; return (p, s')

noncomputable def run : MSt → List Op → Except Err MSt
  | st, [] => .ok st
  | st, op :: ops => do let st' ← step st op; run st' ops

/-- the machine is the model: its steps are the model's operations -/
theorem step_setN (st : MSt) (n : Nat) : step st (.setN n) = (setNumberOfCategories st.1 st.2 n).map (fun d => (st.1, d)) := by
  unfold step target setNumberOfCategories
  by_cases h : (st.2.n != n) = true
  · simp only [h, if_true, bind, Except.bind]; cases discretize st.1 { st.2 with n := n } <;> rfl
  · simp only [h, bind]; rfl

theorem step_setMedian (st : MSt) (b : Bool) : step st (.setMedian b) = (setMedian st.1 st.2 b).map (fun d => (st.1, d)) := by
  unfold step target setMedian
  by_cases h : (st.2.median != b) = true
  · simp only [h, if_true, bind, Except.bind]; cases discretize st.1 { st.2 with median := b } <;> rfl
  · simp only [h, bind]; rfl

theorem step_rediscretize (st : MSt) : step st .rediscretize = (discretize st.1 st.2).map (fun d => (st.1, d)) := by
  simp only [step, target, bind, Except.bind]
  cases discretize st.1 st.2 <;> rfl

/-- admissibility of an operation: class counts are positive and an update brings a parent
satisfying `H` on an ordered domain -/
def Adm (_st : MSt) (op : Op) : Prop :=
  match op with
  | .setN n => 1 ≤ n
  | .update par dom => dom.lo ≤ dom.hi ∧ ParentOK par dom.lo dom.hi
  | _ => True

def AllAdm : MSt → List Op → Prop
  | _, [] => True
  | st, op :: ops => Adm st op ∧ ∀ st', step st op = .ok st' → AllAdm st' ops

/-- the invariant -/
structure Good (st : MSt) : Prop where
  pre : Pre st.2
  parent : ParentOK st.1 st.2.dom.lo st.2.dom.hi
  valid : Valid st.2

theorem target_pre (st : MSt) (op : Op) (p : Parent ℝ) (s0 : DD ℝ) (hg : Good st) (ha : Adm st op)
    (ht : target st op = .ok (some (p, s0))) : Pre s0 ∧ ParentOK p s0.dom.lo s0.dom.hi := by
  have ok : ∀ {a b : MSt}, (Except.ok (some a) : Except Err (Option MSt)) = .ok (some b) → a = b := fun h => by
    injection h with h; injection h
  cases op with
  | setN n =>
    simp only [target] at ht
    split at ht
    · cases ok ht; exact ⟨⟨ha, hg.pre.prec_nonneg, hg.pre.dom_ordered⟩, hg.parent⟩
    · cases ht
  | setMedian b =>
    simp only [target] at ht
    split at ht
    · cases ok ht; exact ⟨⟨hg.pre.n_pos, hg.pre.prec_nonneg, hg.pre.dom_ordered⟩, hg.parent⟩
    · cases ht
  | restrict c =>
    simp only [target] at ht
    split at ht
    · rename_i d hr
      cases ok ht
      obtain ⟨-, hlo, h3, h4, -⟩ := (restrictDom_spec st.2.dom c).2.2 d true hr
      exact ⟨⟨hg.pre.n_pos, hg.pre.prec_nonneg, hlo⟩, hg.parent.restrict h3 hlo h4⟩
    all_goals cases ht
  | update par dom => cases ok ht; exact ⟨⟨hg.pre.n_pos, hg.pre.prec_nonneg, ha.1⟩, ha.2⟩
  | rediscretize => cases ok ht; exact ⟨hg.pre, hg.parent⟩

theorem step_good (st st' : MSt) (op : Op) (hg : Good st) (ha : Adm st op) (h : step st op = .ok st') : Good st' := by
  unfold step at h
  cases ht : target st op with
  | error e => simp [ht, bind, Except.bind] at h
  | ok t =>
    cases t with
    | none =>
      simp only [ht, bind, Except.bind, pure, Except.pure] at h
      cases h; exact hg
    | some ps =>
      obtain ⟨p, s0⟩ := ps
      simp only [ht, bind, Except.bind] at h
      cases hd : discretize p s0 with
      | error e => simp [hd] at h
      | ok s' =>
        simp only [hd, pure, Except.pure] at h
        cases h
        obtain ⟨hp, hH⟩ := target_pre st op p s0 hg ha ht
        obtain ⟨hv, hc⟩ := discretize_valid p s0 s' hp hH hd
        exact ⟨hp.of_sameCfg hc, hc.dom ▸ hH, hv⟩

end Bpp.Discretize
