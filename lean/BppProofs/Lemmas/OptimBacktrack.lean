import BppProofs.Lemmas.OptimGolden
/-!
Helper lemmas for C10: `NewtonBacktrackOneDimension`, over `ℝ`, for a function object whose evaluation step is
deterministic (`Det I g J`): the invariant of a step, then `init` and a whole run.
-/
set_option linter.unusedSectionVars false
namespace Bpp.Optim
open Bpp

variable {F : Type} {J : F → PList ℝ → Prop}

/-- the invariant of the backtracking search: the step length to try next is positive -/
structure NBack.Inv (J : F → PList ℝ → Prop) (fold slope : ℝ) (s : St F (NBack ℝ) ℝ) : Prop where
  alam : 0 < s.ext.alam
  j : J s.fn s.core.params
  fold : s.ext.fold = fold
  slope : s.ext.slope = slope

theorem floor_pos (t c : ℝ) (hc : 0 < c) : 0 < (if Scalar.gtb t c = true then t else c) := by
  split
  · rename_i hgt; exact lt_trans hc ((ScalarReal.gtb_iff _ _).1 hgt)
  · exact hc

theorem nbackFirst_pos (g : NBack ℝ) (f : ℝ) : 0 < nbackFirst g f := by
  unfold nbackFirst
  exact floor_pos _ _ (by rw [ScalarReal.ofRat_eq]; norm_num)

theorem nbackNext_pos (g : NBack ℝ) (f : ℝ) (h : 0 < g.alam) : 0 < nbackNext g f := by
  unfold nbackNext
  exact floor_pos _ _ (mul_pos (by rw [ScalarReal.ofRat_eq]; norm_num) h)

/-- a step of the backtracking search keeps the condition of a `Det` function, whatever the slope -/
theorem nback_keepsJ (I : FunI F ℝ) (g : ℝ → ℝ) (hd : Det I g J) (s s' : St F (NBack ℝ) ℝ) (v : ℝ)
    (hJ : J s.fn s.core.params) (h : nbackDoStep I s = .ok (s', v)) : J s'.fn s'.core.params := by
  obtain ⟨x, fn, pl, e, t, he, rfl, -⟩ := nbackDoStep_ok h
  exact (hd.eval _ _ _ _ _ _ hJ he).2

theorem nbackDoStep_spec (I : FunI F ℝ) (g : ℝ → ℝ) (hd : Det I g J) (fold slope : ℝ) (hsl : slope ≤ 0)
    (s s' : St F (NBack ℝ) ℝ) (v : ℝ) (hi : NBack.Inv J fold slope s) (h : nbackDoStep I s = .ok (s', v)) :
    NBack.Inv J fold slope s' ∧ (∃ x, v = g x ∧ value0 s'.core.params = some x) ∧
    (s'.core.tol = true → s.core.tol = false → v ≤ fold ∨ v = g 0) := by
  obtain ⟨x, fn, pl, e, t, he, rfl, hc⟩ := nbackDoStep_ok h
  obtain ⟨hv, hJ1⟩ := hd.eval _ _ _ _ _ _ hi.j he
  obtain ⟨y, hst, hgy⟩ := hd.stored _ _ _ _ _ _ hi.j he
  refine ⟨?_, ⟨y, hv.trans hgy.symm, hst⟩, ?_⟩
  · rcases hc with ⟨-, -, rfl, -⟩ | ⟨-, -, ⟨-, rfl, -⟩ | ⟨-, rfl | rfl⟩⟩
    · exact ⟨hi.alam, hJ1, hi.fold, hi.slope⟩
    · exact ⟨hi.alam, hJ1, hi.fold, hi.slope⟩
    · exact ⟨nbackFirst_pos _ _, hJ1, hi.fold, hi.slope⟩
    · exact ⟨nbackNext_pos _ _ hi.alam, hJ1, hi.fold, hi.slope⟩
  · intro ht hf
    rcases hc with ⟨-, rfl, -, -⟩ | ⟨-, -, ⟨hacc, -, -⟩ | ⟨rfl, -⟩⟩
    · exact Or.inr (by rw [hv, ScalarReal.zero_eq])
    · -- sufficient decrease
      left
      have hdec := (ScalarReal.leb_iff _ _).1 hacc
      have : s.ext.alam * Scalar.ofRat 1 10000 * slope ≤ 0 :=
        mul_nonpos_of_nonneg_of_nonpos (mul_nonneg hi.alam.le (by rw [ScalarReal.ofRat_eq]; norm_num)) hsl
      rw [hi.fold, hi.slope] at hdec
      exact hdec.trans (add_le_of_nonpos_right this)
    · exact absurd (hf ▸ ht : false = true) Bool.false_ne_true

/-- `init` of the backtracking search: one evaluation, at the parameter's starting value; the step length to
try first is 1 -/
theorem nbackInit_spec (I : FunI F ℝ) (g : ℝ → ℝ) (hd : Det I g J) (s s1 : St F (NBack ℝ) ℝ) (params : PList ℝ) (x0 : ℝ)
    (h : (nbackAlgo I).init s params = .ok s1) (hJ : J s.fn (applyPolicy s.core.policy params))
    (hx0 : value0 (applyPolicy s.core.policy params) = some x0) : NBack.Inv J (g x0) s.ext.slope s1 := by
  obtain ⟨sa, hdi, rfl⟩ := init_ok h
  obtain ⟨fn0, v0, hf0, rfl⟩ := nbackDoInit_ok hdi
  obtain ⟨hv0, hJ0⟩ := hd.direct _ _ _ _ _ hJ hx0 hf0
  exact ⟨by show (0 : ℝ) < Scalar.one; rw [ScalarReal.one_eq]; exact one_pos, hJ0, hv0, rfl⟩

/-- a run of the backtracking search down a slope `≤ 0` that ends with the tolerance flag set: the stop
condition of this optimiser never sets it, so the last step did — it accepted its trial (sufficient
decrease: not above `fold`) or gave up and went back to the step length 0 -/
theorem nbackOptimize_spec (I : FunI F ℝ) (g : ℝ → ℝ) (hd : Det I g J) (fold slope : ℝ) (hsl : slope ≤ 0) (fuel : Nat)
    (s s2 : St F (NBack ℝ) ℝ) (v : ℝ) (hi : NBack.Inv J fold slope s) (h : (nbackAlgo I).optimize fuel s = .ok (s2, v))
    (htol : s2.core.tol = true) :
    (v ≤ fold ∨ v = g 0) ∧ s2.core.cur = v ∧ ∃ x, v = g x ∧ value0 s2.core.params = some x ∧ J s2.fn s2.core.params := by
  obtain ⟨hl, hcur⟩ := optimize_ok h
  have hcnt : ∀ (u : St F (NBack ℝ) ℝ) n t, NBack.Inv J fold slope u →
      NBack.Inv J fold slope { u with core := { u.core with nbEval := n, tol := t } } :=
    fun u n t hu => ⟨hu.alam, hu.j, hu.fold, hu.slope⟩
  rcases loop_last_step_inv _ (NBack.Inv J fold slope)
      (fun u u' w hu _ hst => step_invariant _ _
        (fun a a' x ha hdo => by
          have hA := (nbackDoStep_spec I g hd _ _ hsl a a' x ha hdo).1
          exact ⟨hA.alam, hA.j, hA.fold, hA.slope⟩)
        (fun a ha => ha) hcnt hu hst)
      (fun u hu => hcnt u _ u.core.tol hu) fuel _ _ (hcnt s 1 false hi) hl with
    rfl | ⟨sb, sa, w, hib, hgb, hst, rfl⟩
  · cases htol
  · obtain ⟨u1, hd1, hc⟩ := step_cases _ sb hst
    obtain ⟨hA, ⟨x, hvx, hxst⟩, hdesc⟩ := nbackDoStep_spec I g hd _ _ hsl sb u1 w hib hd1
    rcases hc with ⟨ht1, rfl⟩ | ⟨-, rfl⟩
    · cases hcur; exact ⟨hdesc ht1 hgb.2, rfl, x, hvx, hxst, hA.j⟩
    · cases htol

end Bpp.Optim
