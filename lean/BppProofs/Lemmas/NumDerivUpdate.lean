import BppProofs.Lemmas.NumDerivSteps
/-!
C12 helper lemmas: the cross-derivative block of the three-point scheme and `updateDerivatives`
as a whole, both ways out: back at the requested point when they return; and the one exception they
let out of their probing leaves with everything restored.
-/
namespace Bpp.NumDeriv
open Bpp Bpp.Scalar

/-- a `setParameters` that only mentions names that are already displaced -/
theorem setParameters_keep (f : List ℝ → ℝ) {params B : PList ℝ} (hc : Ctx params B) (fn : Fn ℝ) (pl : PList ℝ)
    (hpl : (names pl).Nodup) {S : Name → Prop} (hD : Dev B fn.params S) (hok : fn.OK f) (hin : ∀ q ∈ pl, S q.name) :
    Dev B (fn.setParameters f pl).1.params S ∧ (fn.setParameters f pl).1.OK f := by
  obtain ⟨h1, h2, h3⟩ := setParameters_dev f hc fn pl hpl S hD hok (by
    intro b _ hn
    cases hf : find? pl b.name with
    | none => exact hn
    | some q =>
      have := find?_some hf
      exact absurd (this.2 ▸ hin q this.1) hn)
  refine ⟨?_, h3⟩
  cases he : (fn.setParameters f pl).2 with
  | none => exact h1 he
  | some e => rw [h2 (by rw [he]; simp)]; exact hD

theorem setEval_keep (f : List ℝ → ℝ) {params B : PList ℝ} (hc : Ctx params B) (fn : Fn ℝ) (q : Param ℝ) (x : ℝ)
    {S : Name → Prop} (hD : Dev B fn.params S) (hok : fn.OK f) (hq : S q.name) :
    Dev B (setEval f fn q x).1.params S ∧ (setEval f fn q x).1.OK f ∧
    (∀ q' v, (setEval f fn q x).2 = some (q', v) → q'.name = q.name) := by
  unfold setEval
  cases hsv : q.setValue x with
  | error e => exact ⟨hD, hok, fun _ _ h => by cases h⟩
  | ok q' =>
    simp only []
    have hn' := (setValue_cases q q' x hsv).1.1
    have hk := setParameters_keep f hc fn [q'] (by simp [names]) hD hok (by
      intro y hy; simp at hy; subst hy; rw [hn']; exact hq)
    rcases hr : fn.setParameters f [q'] with ⟨fn', e⟩
    rw [hr] at hk
    cases e with
    | some e => exact ⟨hk.1, hk.2, fun _ _ h => by cases h⟩
    | none =>
      refine ⟨hk.1, hk.2, ?_⟩
      intro q'' v h; injection h with h; injection h with h _; rw [← h]; exact hn'

theorem setEval_kind (f : List ℝ → ℝ) (fn : Fn ℝ) (q : Param ℝ) (x : ℝ) : (setEval f fn q x).1.kind = fn.kind := by
  unfold setEval
  split
  · rfl
  · rename_i q' _
    have := (setParameters_flags f fn [q']).1
    split <;> (rename_i h; rw [h] at this; exact this)

@[simp] theorem crossFail_snd (f : List ℝ → ℝ) (params : PList ℝ) (cl : CLoop ℝ) (fn : Fn ℝ) :
    ((crossFail f params cl fn).2 = none) = False := by
  unfold crossFail; simp

/-- invariant of the cross-derivative loops: the wrapped function is at the base point up to the two
variables of the previous pair (at the start: the variable probed last by the first loop) -/
structure CI (f : List ℝ → ℝ) (params B : PList ℝ) (w0 : W ℝ) (cl : CLoop ℝ) : Prop where
  ok : cl.w.fn.OK f
  dev : Dev B cl.w.fn.params (fun m => m = cl.l1 ∨ m = cl.l2)
  frame : Frame w0 cl.w
  f2 : cl.w.f2 = w0.f2
  has1 : has params cl.l1 = true
  has2 : has params cl.l2 = true

/-- the cross-derivative block starts from what the loop over `variables_` left -/
theorem LI.startCross {f : List ℝ → ℝ} {params B : PList ℝ} {w0 : W ℝ} {lp : Loop ℝ} {l : Name}
    (h : LI f params B w0 (slotOf .three) lp) (hl : lp.lastVar = some l) : CI f params B w0 { w := lp.w, l1 := l, l2 := l } :=
  ⟨h.ok, h.dev.mono (fun n hn => by rw [hl] at hn; injection hn with hn; exact Or.inl hn), h.frame, h.val, h.last l hl, h.last l hl⟩

/-- writing an entry of the matrix of cross derivatives keeps the invariant -/
theorem CI.setCross {f : List ℝ → ℝ} {params B : PList ℝ} {w0 : W ℝ} {cl : CLoop ℝ} (h : CI f params B w0 cl)
    (m : List (List (DVal ℝ))) : CI f params B w0 { cl with w := { cl.w with cross := m } } :=
  ⟨h.ok, h.dev, h.frame.step (f := f) (E := fun _ => True) ⟨rfl, rfl, rfl, rfl, rfl, rfl⟩ (.refl _), h.f2, h.has1, h.has2⟩


/-- a variable of the previous pair that is not one of this pair stands in the tail of the sub-list -/
theorem mem_pair_tail {l1 l2 var1 var2 n : Name} (h : n = l1 ∨ n = l2) (e1 : n ≠ var1) (e2 : n ≠ var2) :
    n ∈ (if l1 != var1 && l1 != var2 then [l1] else []) ++ (if l2 != var1 && l2 != var2 && l2 != l1 then [l2] else []) := by
  rcases h with rfl | rfl
  · simp [e1, e2]
  · by_cases c3 : n = l1
    · subst c3; simp [e1, e2]
    · simp [e1, e2, c3]

/-- the first `function_->setParameters` of a pair: `p` starts with the two variables of the pair,
followed by those of the previous pair with their base values -/
theorem crossPair_first (f : List ℝ → ℝ) {params B : PList ℝ} (hc : Ctx params B) {fn : Fn ℝ} {l1 l2 var1 var2 : Name}
    {p0a p1a : Param ℝ} {rest : PList ℝ} (hD : Dev B fn.params (fun m => m = l1 ∨ m = l2)) (hok : fn.OK f)
    (h0 : p0a.name = var1) (h1 : p1a.name = var2)
    (hnr : rest.map (·.name) = (if l1 != var1 && l1 != var2 then [l1] else []) ++
      (if l2 != var1 && l2 != var2 && l2 != l1 then [l2] else []))
    (hmem : ∀ q ∈ rest, q ∈ params) (hnd : (names (p0a :: p1a :: rest)).Nodup) :
    ((fn.setParameters f (p0a :: p1a :: rest)).2 = none →
      Dev B (fn.setParameters f (p0a :: p1a :: rest)).1.params (fun m => m = var1 ∨ m = var2)) ∧
    ((fn.setParameters f (p0a :: p1a :: rest)).2 ≠ none → (fn.setParameters f (p0a :: p1a :: rest)).1 = fn) ∧
    (fn.setParameters f (p0a :: p1a :: rest)).1.OK f := by
  refine setParameters_dev f hc fn (p0a :: p1a :: rest) hnd (fun m => m = var1 ∨ m = var2) hD hok ?_
  intro b hb hnb'
  have e0 : p0a.name ≠ b.name := by rw [h0]; exact fun e => hnb' (Or.inl e.symm)
  have e1 : p1a.name ≠ b.name := by rw [h1]; exact fun e => hnb' (Or.inr e.symm)
  rw [find?_cons_ne _ _ _ e0, find?_cons_ne _ _ _ e1]
  cases hf : find? rest b.name with
  | some q =>
    have := find?_some hf
    exact (hc.sync q (hmem q this.1) b hb this.2.symm).symm
  | none =>
    have hnr' : b.name ∉ rest.map (·.name) := find?_none hf
    rw [hnr] at hnr'
    exact fun h => hnr' (mem_pair_tail h (fun e => hnb' (Or.inl e)) (fun e => hnb' (Or.inr e)))

theorem subNamesGo_ok (l : PList ℝ) : ∀ (ns : List Name) (acc : PList ℝ), (∀ n ∈ ns, n ∈ names l) → ns.Nodup →
    (∀ n ∈ ns, n ∉ names acc) → ∃ p, subNamesGo l acc ns = .ok p := by
  intro ns
  induction ns with
  | nil => intro acc _ _ _; exact ⟨acc, rfl⟩
  | cons n ns ih =>
    intro acc hin hnd hdis
    have hnd' := List.nodup_cons.mp hnd
    unfold subNamesGo
    cases hf : find? l n with
    | none => exact absurd (hin n (List.mem_cons_self ..)) (find?_none hf)
    | some q =>
      simp only []
      have hh : has acc n = false := by
        cases hb : has acc n with
        | false => rfl
        | true => exact absurd ((has_iff acc n).mp hb) (hdis n (List.mem_cons_self ..))
      rw [hh]
      simp only [Bool.false_eq_true, if_false]
      apply ih (acc ++ [q]) (fun x hx => hin x (List.mem_cons_of_mem _ hx)) hnd'.2
      intro x hx hm
      simp only [names, List.map_append, List.map_cons, List.map_nil, List.mem_append, List.mem_singleton] at hm
      rcases hm with hm | hm
      · exact hdis x (List.mem_cons_of_mem _ hx) hm
      · rw [(find?_some hf).2] at hm; subst hm; exact hnd'.1 hx

theorem subNames_ok (l : PList ℝ) (ns : List Name) (hin : ∀ n ∈ ns, n ∈ names l) (hnd : ns.Nodup) :
    ∃ p, subNames l ns = .ok p :=
  subNamesGo_ok l ns [] hin hnd (fun _ _ h => by simp [names] at h)


/-- the sub-list of a pair exists and starts with the two variables of the pair -/
theorem crossSub_ok {params : PList ℝ} (l1 l2 var1 var2 : Name) (hne : var1 ≠ var2) (hh1 : has params var1 = true)
    (hh2 : has params var2 = true) (hl1 : has params l1 = true) (hl2 : has params l2 = true) :
    ∃ p0 p1 rest, subNames params (pairNames l1 l2 var1 var2) = .ok (p0 :: p1 :: rest) := by
  have hvars_in : ∀ n ∈ pairNames l1 l2 var1 var2, n ∈ names params := by
    unfold pairNames
    intro n hn
    simp only [List.mem_append, List.mem_cons, List.mem_nil_iff, or_false] at hn
    rcases hn with ((h | h) | hn) | hn
    · rw [h]; exact (has_iff params _).mp hh1
    · rw [h]; exact (has_iff params _).mp hh2
    · split at hn
      · simp at hn; subst hn; exact (has_iff params _).mp hl1
      · cases hn
    · split at hn
      · simp at hn; subst hn; exact (has_iff params _).mp hl2
      · cases hn
  have hvars_nd : (pairNames l1 l2 var1 var2).Nodup := by
    unfold pairNames
    by_cases c1 : (l1 != var1 && l1 != var2) = true <;> by_cases c2 : (l2 != var1 && l2 != var2 && l2 != l1) = true
    · simp only [c1, c2, if_true]
      simp only [Bool.and_eq_true, bne_iff_ne, ne_eq] at c1 c2
      simp [hne, Ne.symm c1.1, Ne.symm c1.2, Ne.symm c2.1.1, Ne.symm c2.1.2, Ne.symm c2.2]
    · simp only [c1, c2, if_true, Bool.false_eq_true, if_false]
      simp only [Bool.and_eq_true, bne_iff_ne, ne_eq] at c1
      simp [hne, Ne.symm c1.1, Ne.symm c1.2]
    · simp only [c1, c2, if_true, Bool.false_eq_true, if_false]
      simp only [Bool.and_eq_true, bne_iff_ne, ne_eq] at c2
      simp [hne, Ne.symm c2.1.1, Ne.symm c2.1.2]
    · simp only [c1, c2, Bool.false_eq_true, if_false]
      simp [hne]
  obtain ⟨p, hsub⟩ := subNames_ok params _ hvars_in hvars_nd
  have hn := (subNames_spec params _ p hsub).1
  cases p with
  | nil => simp [names] at hn
  | cons a r =>
    cases r with
    | nil => simp [names] at hn
    | cons b r' => exact ⟨a, b, r', hsub⟩

/-- what an exception that leaves the probing of `updateDerivatives` leaves behind: the wrapped
function at the base point `B` with a consistent value, its analytical derivatives switched as the
wrapper's flags say, the wrapper's configuration and value slot untouched -/
structure Restored (f : List ℝ → ℝ) (B : PList ℝ) (w0 w' : W ℝ) : Prop where
  params : w'.fn.params = B
  ok : w'.fn.OK f
  keep : Keep w0 w'
  f2 : w'.f2 = w0.f2
  en1 : w'.fn.kind ≥ 1 → w'.fn.en1 = w0.c1
  en2 : w'.fn.kind ≥ 2 → w'.fn.en2 = w0.c2

/-- the repaired `catch` of the cross-derivative block -/
theorem crossFail_restored (f : List ℝ → ℝ) {params B : PList ℝ} (hc : Ctx params B) (hfeas : Feas B)
    (hpnd : (names params).Nodup) {w0 : W ℝ} (cl : CLoop ℝ) (hfr : Frame w0 cl.w) (hslot : cl.w.f2 = w0.f2)
    (fn : Fn ℝ) {S : Name → Prop} (hD : Dev B fn.params S) (hok : fn.OK f) (hS : ∀ n, S n → has params n = true)
    (hk : fn.kind = w0.fn.kind) :
    (crossFail f params cl fn).2 = some .bpp ∧ Restored f B w0 (crossFail f params cl fn).1.w := by
  have hD' : Dev B ((fn.enable1 cl.w.c1).enable2 cl.w.c2).params S := by rw [enable2_params, enable1_params]; exact hD
  have hok' : ((fn.enable1 cl.w.c1).enable2 cl.w.c2).OK f := enable2_OK f _ _ (enable1_OK f _ _ hok)
  obtain ⟨g1, g2, g3, g4, g5⟩ := restore_all f hc hpnd _ hD' hok' hS
  have g0 := setParameters_base_ok f hc hfeas _ hD' params (fun q hq => hq) hpnd
  unfold crossFail
  simp only []
  rw [g0]
  refine ⟨rfl, g1 g0, g2, ⟨hfr.scheme, hfr.h, hfr.vars, hfr.c1, hfr.c2, hfr.cx, ?_⟩, hslot, ?_, ?_⟩
  · simp only []; rw [g3]; simpa using hk
  · intro hk1
    simp only [] at hk1 ⊢
    rw [g3] at hk1
    rw [g4, enable2_en1, enable1_en1 _ _ (by simpa using hk1), hfr.c1]
  · intro hk2
    simp only [] at hk2 ⊢
    rw [g3] at hk2
    rw [g5, enable2_en2 _ _ (by simpa using hk2), hfr.c2]

/-! The cross-derivative block, both ways out.  When a part of it returns, the invariant `CI` holds
again.  With a feasible base point and the pairs made of two distinct listed variables it raises only
through the repaired `catch`: the plain Exception, after restoration. -/

/-- one pair: the four probes keep the wrapped function at the base point up to the two variables
of the pair; a ConstraintException in any of them ends in `crossFail` -/
theorem crossPair_outcome (f : List ℝ → ℝ) {params B : PList ℝ} (hc : Ctx params B) {w0 : W ℝ} (cl : CLoop ℝ)
    (hCI : CI f params B w0 cl) (i j : Nat) (var1 var2 : Name) :
    ((crossPair f params cl i j var1 var2).2 = none → CI f params B w0 (crossPair f params cl i j var1 var2).1) ∧
    (Feas B → (names params).Nodup → var1 ≠ var2 → has params var1 = true → has params var2 = true →
      ∀ e, (crossPair f params cl i j var1 var2).2 = some e →
        e = .bpp ∧ Restored f B w0 (crossPair f params cl i j var1 var2).1.w) := by
  obtain ⟨hok, hD, hfr0, hslot, hl1, hl2⟩ := hCI
  -- along the probes: a consistent wrapped function of the same kind, at the base point up to the variables of the
  -- previous pair, then up to those of this one, which the list mentions
  have hI : PairInv f params cl var1 var2 (fun q => q.name = var1 ∨ q.name = var2) (fun b fn =>
      fn.OK f ∧ fn.kind = w0.fn.kind ∧ match b with
        | false => Dev B fn.params (fun m => m = cl.l1 ∨ m = cl.l2)
        | true => Dev B fn.params (fun m => m = var1 ∨ m = var2) ∧ has params var1 = true ∧ has params var2 = true) := by
    refine ⟨fun p0 p1 rest p0a p1a x0 x1 hsub hs0 hs1 => ?_, fun fn q x ⟨o, k, d, v1, v2⟩ hr => ?_⟩
    · obtain ⟨hn, hmem, hnd⟩ := subNames_spec params _ _ hsub
      simp only [names, pairNames, List.map_cons, List.cons_append, List.nil_append, List.cons.injEq] at hn
      obtain ⟨hn0, hn1, hnr⟩ := hn
      have hna := ((setValue_cases p0 p0a _ hs0).1.1).trans hn0
      have hnb := ((setValue_cases p1 p1a _ hs1).1.1).trans hn1
      obtain ⟨a, b, c⟩ := crossPair_first f hc hD hok hna hnb hnr (fun q hq => hmem q (by simp [hq]))
        (by simp only [names, List.map_cons] at hnd ⊢; rw [hna, hnb, ← hn0, ← hn1]; exact hnd)
      refine ⟨.inl hna, .inr hnb, c, (setParameters_flags f cl.w.fn _).1.trans hfr0.kind, ?_⟩
      cases he : (cl.w.fn.setParameters f (p0a :: p1a :: rest)).2 with
      | none =>
        exact ⟨a he, (has_iff params var1).mpr (hn0 ▸ List.mem_map_of_mem (hmem p0 (by simp))),
          (has_iff params var2).mpr (hn1 ▸ List.mem_map_of_mem (hmem p1 (by simp)))⟩
      | some e => rw [b (by rw [he]; simp)]; exact hD
    · obtain ⟨a, b, c⟩ := setEval_keep f hc fn q x d o hr
      exact ⟨⟨b, (setEval_kind f fn q x).trans k, a, v1, v2⟩, fun q' v h => by rw [c q' v h]; exact hr⟩
  have hfr := crossPair_frame f (Closed.trivial params) cl i j var1 var2
  rcases crossPair_inv f hI ⟨hok, hfr0.kind, hD⟩ i j with ⟨e, h, hno⟩ | ⟨b, fn, ⟨o, k, d⟩, h⟩ | ⟨fn, c, ⟨o, _, d, v1, v2⟩, h⟩ <;>
    rw [h] at hfr ⊢
  · -- with two distinct listed variables the sub-list exists
    refine ⟨fun h => (by cases h), fun _ _ hne hh1 hh2 _ _ => ?_⟩
    obtain ⟨p0, p1, rest, hsub⟩ := crossSub_ok cl.l1 cl.l2 var1 var2 hne hh1 hh2 hl1 hl2
    exact absurd hsub (hno p0 p1 rest)
  · -- a probe fails: `crossFail` from a wrapped function at the base point up to listed variables
    obtain ⟨S, hS, hDf⟩ : ∃ S : Name → Prop, (∀ n, S n → has params n = true) ∧ Dev B fn.params S := by
      cases b with
      | false => exact ⟨_, by rintro n (h | h) <;> (rw [h]; assumption), d⟩
      | true => exact ⟨_, by rintro n (h | h) <;> (rw [h]; first | exact d.2.1 | exact d.2.2), d.1⟩
    refine ⟨fun h => (by simp at h), fun hfeas hpnd _ _ _ e he => ?_⟩
    obtain ⟨a, b'⟩ := crossFail_restored f hc hfeas hpnd cl hfr0 hslot fn hDf o hS k
    rw [a] at he
    injection he with he
    exact ⟨he.symm, b'⟩
  · exact ⟨fun _ => ⟨o, d, hfr0.step hfr.cfg (hfr.reachS rfl), hslot, v1, v2⟩, fun _ _ _ _ _ e he => (by cases he)⟩

/-- what a row assumes about `v :: vs` from column `j`, it has about `vs` from column `j + 1` -/
theorem row_tail {var1 v : Name} {vs : List Name} {i j : Nat}
    (hne : ∀ k (hk : k < (v :: vs).length), j + k ≠ i → (v :: vs)[k] ≠ var1) :
    ∀ k (hk : k < vs.length), j + 1 + k ≠ i → vs[k] ≠ var1 := by
  intro k hk hki
  have := hne (k + 1) (by simpa using hk) (by omega)
  simpa using this

/-- a row: the pairs before a failing one keep the invariant -/
theorem crossRow_outcome (f : List ℝ → ℝ) {params B : PList ℝ} (hc : Ctx params B) {w0 : W ℝ} (i : Nat) (var1 : Name)
    (vs : List Name) (j : Nat) (cl : CLoop ℝ) (hCI : CI f params B w0 cl) :
    ((crossRow f params i var1 vs j cl).2 = none → CI f params B w0 (crossRow f params i var1 vs j cl).1) ∧
    (Feas B → (names params).Nodup → has params var1 = true →
      (∀ k (hk : k < vs.length), j + k ≠ i → vs[k] ≠ var1) → (∀ k, k < vs.length → j + k = i → cl.w.der2[i]? ≠ none) →
      ∀ e, (crossRow f params i var1 vs j cl).2 = some e →
        e = .bpp ∧ Restored f B w0 (crossRow f params i var1 vs j cl).1.w) := by
  fun_induction crossRow f params i var1 vs j cl with
  | case1 => exact ⟨fun _ => hCI, fun _ _ _ _ _ e he => (by cases he)⟩
  | case2 v vs cl hd =>
    exact ⟨fun h => (by cases h), fun _ _ _ _ hd2 => absurd hd (hd2 0 (by simp) rfl)⟩
  | case3 v vs cl d hd ih =>
    -- the diagonal: a copy of the second derivative
    obtain ⟨a, b⟩ := ih (hCI.setCross _)
    exact ⟨a, fun hfeas hpnd hh1 hne _ => b hfeas hpnd hh1 (row_tail hne) (fun k hk hki => by omega)⟩
  | case4 v vs j cl hji hh ih =>
    exact ⟨(ih hCI).1, fun hfeas hpnd hh1 hne hd2 =>
      (ih hCI).2 hfeas hpnd hh1 (row_tail hne) (fun k hk hki => hd2 (k + 1) (by simpa using hk) (by omega))⟩
  | case5 v vs j cl hji hh cl' e hp =>
    refine ⟨fun h => (by cases h), fun hfeas hpnd hh1 hne _ x hx => ?_⟩
    have hv := hne 0 (by simp) (by omega)
    have := (crossPair_outcome f hc cl hCI i j var1 v).2 hfeas hpnd (by simpa using hv.symm) hh1 (by simpa using hh)
    rw [hp] at this
    exact this x hx
  | case6 v vs j cl hji hh cl' hp ih =>
    have hCI' : CI f params B w0 cl' := by
      have := (crossPair_outcome f hc cl hCI i j var1 v).1; rw [hp] at this; exact this rfl
    refine ⟨(ih hCI').1, fun hfeas hpnd hh1 hne hd2 => (ih hCI').2 hfeas hpnd hh1 (row_tail hne) (fun k hk hki => ?_)⟩
    have := hd2 (k + 1) (by simpa using hk) (by omega)
    rw [← (crossPair_frame f (Closed.trivial params) cl i j var1 v).der2, hp] at this
    exact this

/-- the row of `v`, the `i`-th element of the duplicate-free `all`: `v` occurs nowhere else -/
theorem nodup_row {all : List Name} (hall : all.Nodup) {v : Name} {vs : List Name} {i : Nat}
    (hpre : ∃ pre, all = pre ++ v :: vs ∧ pre.length = i) :
    (∃ pre, all = pre ++ vs ∧ pre.length = i + 1) ∧ ∃ hi : i < all.length, all[i] = v ∧
      ∀ k (hk : k < all.length), 0 + k ≠ i → all[k] ≠ v := by
  obtain ⟨pre, hpre1, hpre2⟩ := hpre
  have hi : i < all.length := by rw [hpre1]; simp; omega
  have hvi : all[i] = v := by
    have : all[i]? = some v := by rw [hpre1, List.getElem?_append_right (by omega)]; simp [hpre2]
    exact (List.getElem?_eq_some_iff.mp this).2
  refine ⟨⟨pre ++ [v], by rw [hpre1]; simp, by simp [hpre2]⟩, hi, hvi, fun k hk hki e' => ?_⟩
  rw [Nat.zero_add] at hki
  exact hki ((List.Nodup.getElem_inj_iff hall (hi := hk) (hj := hi)).mp (by rw [e', hvi]))

theorem crossGo_outcome (f : List ℝ → ℝ) {params B : PList ℝ} (hc : Ctx params B) {w0 : W ℝ} (all : List Name)
    (vs : List Name) (i : Nat) (cl : CLoop ℝ) (hCI : CI f params B w0 cl) :
    ((crossGo f params all vs i cl).2 = none → CI f params B w0 (crossGo f params all vs i cl).1) ∧
    (Feas B → (names params).Nodup → all.Nodup → (∃ pre, all = pre ++ vs ∧ pre.length = i) →
      (∀ k, k < all.length → cl.w.der2[k]? ≠ none) →
      ∀ e, (crossGo f params all vs i cl).2 = some e → e = .bpp ∧ Restored f B w0 (crossGo f params all vs i cl).1.w) := by
  fun_induction crossGo f params all vs i cl with
  | case1 => exact ⟨fun _ => hCI, fun _ _ _ _ _ e he => (by cases he)⟩
  | case2 v vs i cl hh ih =>
    exact ⟨(ih hCI).1, fun hfeas hpnd hall hpre hd2 => (ih hCI).2 hfeas hpnd hall (nodup_row hall hpre).1 hd2⟩
  | case3 v vs i cl hh cl' e hp =>
    refine ⟨fun h => (by cases h), fun hfeas hpnd hall hpre hd2 x hx => ?_⟩
    obtain ⟨_, hi, _, hne⟩ := nodup_row hall hpre
    have := (crossRow_outcome f hc i v all 0 cl hCI).2 hfeas hpnd (by simpa using hh) hne (fun _ _ _ => hd2 i hi)
    rw [hp] at this
    exact this x hx
  | case4 v vs i cl hh cl' hp ih =>
    have hCI' : CI f params B w0 cl' := by
      have := (crossRow_outcome f hc i v all 0 cl hCI).1; rw [hp] at this; exact this rfl
    refine ⟨(ih hCI').1, fun hfeas hpnd hall hpre hd2 => (ih hCI').2 hfeas hpnd hall (nodup_row hall hpre).1 (fun k hk => ?_)⟩
    have := (crossRow_frame f (Closed.trivial params) i v all 0 cl).der2
    rw [hp] at this
    rw [this]; exact hd2 k hk

theorem nanAll_fn (w : W ℝ) : (nanAll w).fn = w.fn := rfl

@[simp] theorem sw2_params (s : Scheme) (fn : Fn ℝ) (b : Bool) : (sw2 s fn b).params = fn.params := by
  cases s <;> simp [sw2]
@[simp] theorem sw2_kind (s : Scheme) (fn : Fn ℝ) (b : Bool) : (sw2 s fn b).kind = fn.kind := by
  cases s <;> simp [sw2]
theorem sw2_OK (f : List ℝ → ℝ) (s : Scheme) (fn : Fn ℝ) (b : Bool) (h : fn.OK f) : (sw2 s fn b).OK f := by
  cases s
  · exact h
  · exact enable2_OK f _ _ h
  · exact enable2_OK f _ _ h

@[simp] theorem onOf_params (s : Scheme) (w : W ℝ) : (onOf s w).params = w.fn.params := by
  cases s <;> simp [onOf]
@[simp] theorem onOf_kind (s : Scheme) (w : W ℝ) : (onOf s w).kind = w.fn.kind := by
  cases s <;> simp [onOf]
theorem onOf_OK (f : List ℝ → ℝ) (s : Scheme) (w : W ℝ) (h : w.fn.OK f) : (onOf s w).OK f := by
  cases s
  · exact Wenable2_OK f _ _ (enable1_OK f _ _ h)
  · exact enable2_OK f _ _ (enable1_OK f _ _ h)
  · exact enable2_OK f _ _ (enable1_OK f _ _ h)

@[simp] theorem setSlot_fn (s : Scheme) (w : W ℝ) (v : ℝ) : (setSlot s w v).fn = w.fn := by cases s <;> rfl
@[simp] theorem slotOf_setSlot (s : Scheme) (w : W ℝ) (v : ℝ) : slotOf s (setSlot s w v) = v := by cases s <;> rfl
theorem setSlot_keep (s : Scheme) (w : W ℝ) (fn : Fn ℝ) (v : ℝ) (hk : fn.kind = w.fn.kind) :
    Keep w (setSlot s { w with fn := fn } v) := by
  cases s <;> exact ⟨rfl, rfl, rfl, rfl, rfl, rfl, hk⟩

/-- a `function_->setParameters(parameters)` when the wrapped function already holds the values of
`parameters` changes nothing -/
theorem first_set (f : List ℝ → ℝ) {params : PList ℝ} (fn : Fn ℝ) (hown : Own fn) (hok : fn.OK f)
    (hsync : Synced params fn.params) (hpnd : (names params).Nodup) :
    ((fn.setParameters f params).2 = none → (fn.setParameters f params).1.params = fn.params) ∧
    (fn.setParameters f params).1.OK f ∧ (fn.setParameters f params).1.kind = fn.kind ∧
    (fn.setParameters f params).1.en1 = fn.en1 ∧ (fn.setParameters f params).1.en2 = fn.en2 :=
  restore_all f ⟨hown.1, hown.2, hsync⟩ hpnd fn (Dev.refl fn.params (fun _ => False)) hok (fun _ h => h.elim)

/-- the computing branch after its first `function_->setParameters(parameters)`: the loop over
`variables_` starts at the base point `w.fn.params`, with its value in the scheme's slot -/
theorem update_first (s : Scheme) (f : List ℝ → ℝ) (w : W ℝ) (params : PList ℝ) (hown : Own w.fn) (hok : w.fn.OK f)
    (hsync : Synced params w.fn.params) (hpnd : (names params).Nodup) (fn1 : Fn ℝ)
    (h : (sw2 s (w.fn.enable1 false) false).setParameters f params = (fn1, none)) :
    fn1.params = w.fn.params ∧ fn1.fval = f (values w.fn.params) ∧ fn1.kind = w.fn.kind ∧
    LI f params w.fn.params (setSlot s { w with fn := fn1 } fn1.fval) (slotOf s)
      { w := setSlot s { w with fn := fn1 } fn1.fval, p := [], lastVar := none } := by
  have h0 := first_set f (sw2 s (w.fn.enable1 false) false) (by unfold Own; simp only [sw2_params, enable1_params]; exact hown)
    (sw2_OK f s _ _ (enable1_OK f _ _ hok)) (by simpa using hsync) hpnd
  rw [h] at h0
  obtain ⟨g1, g2, g3, _, _⟩ := h0
  have hp1 : fn1.params = w.fn.params := by simpa using g1 rfl
  refine ⟨hp1, by rw [← hp1]; exact g2, by simpa using g3, ?_, ?_, (fun l h => by cases h), Frame.refl _, rfl⟩
  · rw [setSlot_fn]; exact g2
  · rw [setSlot_fn]; show Dev w.fn.params fn1.params _; rw [hp1]; exact Dev.refl _ _

/-- `updateDerivatives` of any scheme, both ways out.  When it returns, the wrapped function is back
at the requested point and the scheme's slot holds the value there.  With a feasible requested point
and a well-formed selection it raises only in the three-point scheme with cross derivatives switched
on: the plain Exception "Could not compute cross derivatives at limit", with everything restored. -/
theorem updateG_outcome (s : Scheme) (f : List ℝ → ℝ) (w : W ℝ) (params : PList ℝ) (hown : Own w.fn) (hok : w.fn.OK f)
    (hsync : Synced params w.fn.params) (hpnd : (names params).Nodup) :
    ∀ r, updateG s f w params = r →
      (r.2 = none → r.1.fn.params = w.fn.params ∧ r.1.fn.OK f ∧ Keep w r.1 ∧ slotOf s r.1 = f (values w.fn.params)) ∧
      (Feas w.fn.params → w.vars.Nodup → (∀ v ∈ w.vars, v ∈ names w.fn.params) → (s ≠ .five → w.h ≠ 0) →
        ((hasCross s && w.cx) = true → w.der2.length = w.vars.length) →
        ∀ e, r.2 = some e → e = .bpp ∧ (hasCross s && w.cx) = true ∧ r.1.fn.params = w.fn.params ∧ r.1.fn.OK f ∧
          Keep w r.1 ∧ r.1.f2 = f (values w.fn.params) ∧ (r.1.fn.kind ≥ 1 → r.1.fn.en1 = w.c1) ∧
          (r.1.fn.kind ≥ 2 → r.1.fn.en2 = w.c2)) := by
  intro r hr
  have hc : Ctx params w.fn.params := ⟨hown.1, hown.2, hsync⟩
  -- a `function_->setParameters(parameters)` at the requested point is not refused when it is feasible
  have hbase : ∀ fn : Fn ℝ, fn.params = w.fn.params → Feas w.fn.params → (fn.setParameters f params).2 = none :=
    fun fn hp hfeas => setParameters_base_ok f hc hfeas fn (S := fun _ => False) (hp ▸ Dev.refl _ _) params (fun q hq => hq) hpnd
  unfold updateG at hr
  split at hr
  · -- computing branch
    split at hr
    · rename_i fn1 e1 hs1
      subst hr
      refine ⟨fun h => (by cases h), fun hfeas _ _ _ _ => ?_⟩
      have := hbase (sw2 s (w.fn.enable1 false) false) (by rw [sw2_params, enable1_params]) hfeas
      rw [hs1] at this; cases this
    · rename_i fn1 hs1
      obtain ⟨hp1, hval, hk1, hLI0⟩ := update_first s f w params hown hok hsync hpnd fn1 hs1
      have hkeep0 := setSlot_keep s w fn1 fn1.fval hk1
      simp only [] at hr
      split at hr
      · subst hr
        refine ⟨fun _ => ⟨by rw [nanAll_fn]; simpa using hp1, ?_, ?_, ?_⟩, fun _ _ _ _ _ e he => (by cases he)⟩
        · rw [nanAll_fn]; exact sw2_OK f s _ _ (enable1_OK f _ _ (by simpa using hLI0.ok))
        · exact hkeep0.trans ⟨rfl, rfl, rfl, rfl, rfl, rfl, by rw [nanAll_fn]; simp⟩
        · show slotOf s (nanAll _) = _
          cases s <;> exact hval
      · -- the loop
        obtain ⟨hloopLI, hloop⟩ := loopGo_outcome s f hc (setSlot s { w with fn := fn1 } fn1.fval).vars 0 _ hLI0
        have hlen := (loopGo_frame f (stepOf s f params) (stepOf_frame f (Closed.trivial params) s)
          (setSlot s { w with fn := fn1 } fn1.fval).vars 0
          { w := setSlot s { w with fn := fn1 } fn1.fval, p := [], lastVar := none }).2.1.2.2
        replace hloop : Feas w.fn.params → w.vars.Nodup → (∀ v ∈ w.vars, v ∈ names w.fn.params) → (s ≠ .five → w.h ≠ 0) → _ :=
          fun hfeas hvars hin hh => hloop hfeas (fun h => by rw [hkeep0.h]; exact hh h) (fun l h => by cases h)
            (by rw [hkeep0.vars]; exact hvars) (fun v hv _ => hin v (hkeep0.vars ▸ hv))
        split at hr
        · rename_i lp e hl
          subst hr
          refine ⟨fun h => (by cases h), fun hfeas hvars hin hh _ => ?_⟩
          have := hloop hfeas hvars hin hh
          rw [hl] at this; cases this
        · rename_i lp hl
          rw [hl] at hloopLI hlen
          have hLIlp := hloopLI rfl
          obtain ⟨l1, l2, l3, l4, l5⟩ := hloopLI rfl
          rw [slotOf_setSlot] at l5
          -- the end of the computing branch, from a wrapper whose wrapped function is at the base point up to `S`
          have hfin : ∀ (all : Bool) (w' : W ℝ) (S : Name → Prop), w'.fn.OK f → Dev w.fn.params w'.fn.params S →
              (lp.lastVar = none → ∀ n, ¬ S n) → (all = false → ∀ n, S n → some n = lp.lastVar) →
              (∀ n, S n → has params n = true) → Keep w w' → slotOf s w' = fn1.fval →
              finish f params lp.lastVar all w' = r →
              (r.2 = none → r.1.fn.params = w.fn.params ∧ r.1.fn.OK f ∧ Keep w r.1 ∧ slotOf s r.1 = f (values w.fn.params)) ∧
              (Feas w.fn.params → ∀ e, r.2 ≠ some e) := by
            intro all w' S a1 a2 a3 a4 a5 a6 a7 hfr
            refine ⟨fun hnone => ?_, fun hfeas e he => ?_⟩
            · obtain ⟨q1, q2, q3, q4, q5, q6⟩ := finish_spec f hc hpnd lp.lastVar all w' a1 a2 a3 a4 a5 r hfr hnone
              refine ⟨q1, q2, a6.trans q3, ?_⟩
              rw [← hval, ← a7]
              cases s
              · exact q4
              · exact q5
              · exact q6
            · rw [← hfr, finish_noexc f hc hfeas hpnd lp.lastVar all w' a2 l3] at he; cases he
          unfold afterLoop at hr
          split at hr
          · -- cross derivatives: the three-point scheme, whose slot is `f2`
            rename_i hcx
            have hs3 : s = .three := by cases s <;> first | rfl | simp [hasCross] at hcx
            subst hs3
            split at hr
            · obtain ⟨a, b⟩ := hfin true lp.w _ l1 l2 (fun h n hn => by rw [h] at hn; cases hn) (fun h => by cases h)
                (fun n hn => l3 n hn.symm) (hkeep0.trans l4.keep) l5 hr
              exact ⟨a, fun hfeas _ _ _ _ e he => absurd he (b hfeas e)⟩
            · rename_i l hlv
              obtain ⟨hcrossCI, hcross⟩ := crossGo_outcome f hc lp.w.vars lp.w.vars 0 _ (hLIlp.startCross hlv)
              split at hr
              · rename_i cl e2 hcl
                subst hr
                rw [hcl] at hcross
                refine ⟨fun h => (by cases h), fun hfeas hvars hin _ hl2 e he => ?_⟩
                have hcxw : (hasCross .three && w.cx) = true := by rw [show w.cx = lp.w.cx from l4.cx.symm]; exact hcx
                obtain ⟨a, b⟩ := hcross hfeas hpnd (by rw [l4.vars]; exact hvars) ⟨[], rfl, rfl⟩
                  (fun k hk => by
                    have : k < lp.w.der2.length := by
                      rw [hlen]; show k < w.der2.length; rw [hl2 hcxw]; rw [l4.vars] at hk; exact hk
                    rw [List.getElem?_eq_getElem this]; simp) e he
                exact ⟨a, hcxw, b.params, b.ok, hkeep0.trans b.keep, by rw [b.f2]; exact hval, b.en1, b.en2⟩
              · rename_i cl hcl
                rw [hcl] at hcrossCI
                obtain ⟨c1, c2, c3, c4, c5, c6⟩ := hcrossCI rfl
                obtain ⟨a, b⟩ := hfin true cl.w _ c1 c2 (fun h => by rw [hlv] at h; cases h) (fun h => by cases h)
                  (fun n hn => by rcases hn with h | h <;> (rw [h]; assumption)) (hkeep0.trans c3.keep) c4 hr
                exact ⟨a, fun hfeas _ _ _ _ e he => absurd he (b hfeas e)⟩
          · obtain ⟨a, b⟩ := hfin false lp.w _ l1 l2 (fun h n hn => by rw [h] at hn; cases hn) (fun _ n hn => hn)
              (fun n hn => l3 n hn.symm) (hkeep0.trans l4.keep) l5 hr
            exact ⟨a, fun hfeas _ _ _ _ e he => absurd he (b hfeas e)⟩
  · -- nothing to compute
    have h0 := first_set f (onOf s w) (by unfold Own; simp only [onOf_params]; exact hown) (onOf_OK f s w hok) (by simpa using hsync) hpnd
    split at hr
    · rename_i fn1 e1 hs1
      subst hr
      refine ⟨fun h => (by cases h), fun hfeas _ _ _ _ => ?_⟩
      have := hbase (onOf s w) (by rw [onOf_params]) hfeas
      rw [hs1] at this; cases this
    · rename_i fn1 hs1
      rw [hs1] at h0
      obtain ⟨g1, g2, g3, _, _⟩ := h0
      have hp1 : fn1.params = w.fn.params := by simpa using g1 rfl
      subst hr
      exact ⟨fun _ => ⟨by simpa using hp1, by simpa using g2, setSlot_keep s w fn1 _ (by simpa using g3),
        by rw [slotOf_setSlot, ← hp1]; exact g2⟩, fun _ _ _ _ _ e he => (by cases he)⟩

/-- `updateDerivatives` of any scheme, when it returns -/
theorem updateG_spec (s : Scheme) (f : List ℝ → ℝ) (w : W ℝ) (params : PList ℝ) (hown : Own w.fn) (hok : w.fn.OK f)
    (hsync : Synced params w.fn.params) (hpnd : (names params).Nodup) :
    ∀ r, updateG s f w params = r → r.2 = none →
      r.1.fn.params = w.fn.params ∧ r.1.fn.OK f ∧ Keep w r.1 ∧ slotOf s r.1 = f (values w.fn.params) :=
  fun r hr => (updateG_outcome s f w params hown hok hsync hpnd r hr).1

/-- with a well-formed selection `updateDerivatives` raises only in the three-point scheme with
cross derivatives switched on, and then the plain Exception "Could not compute cross derivatives at
limit" leaves with everything restored -/
theorem updateG_raise (s : Scheme) (f : List ℝ → ℝ) (w : W ℝ) (params : PList ℝ) (hown : Own w.fn) (hok : w.fn.OK f)
    (hfeas : Feas w.fn.params) (hsync : Synced params w.fn.params) (hpnd : (names params).Nodup)
    (hvars : w.vars.Nodup) (hin : ∀ v ∈ w.vars, v ∈ names w.fn.params) (hh : s ≠ .five → w.h ≠ 0)
    (hl2 : (hasCross s && w.cx) = true → w.der2.length = w.vars.length) :
    ∀ e, (updateG s f w params).2 = some e →
      e = .bpp ∧ (hasCross s && w.cx) = true ∧ (updateG s f w params).1.fn.params = w.fn.params ∧
      (updateG s f w params).1.fn.OK f ∧ Keep w (updateG s f w params).1 ∧
      (updateG s f w params).1.f2 = f (values w.fn.params) ∧
      ((updateG s f w params).1.fn.kind ≥ 1 → (updateG s f w params).1.fn.en1 = w.c1) ∧
      ((updateG s f w params).1.fn.kind ≥ 2 → (updateG s f w params).1.fn.en2 = w.c2) :=
  (updateG_outcome s f w params hown hok hsync hpnd _ rfl).2 hfeas hvars hin hh hl2

/-- the two- and five-point schemes, and the three-point scheme without cross derivatives, do not raise -/
theorem updateG_noexc (s : Scheme) (f : List ℝ → ℝ) (w : W ℝ) (params : PList ℝ) (hown : Own w.fn) (hok : w.fn.OK f)
    (hfeas : Feas w.fn.params) (hsync : Synced params w.fn.params) (hpnd : (names params).Nodup)
    (hvars : w.vars.Nodup) (hin : ∀ v ∈ w.vars, v ∈ names w.fn.params) (hh : s ≠ .five → w.h ≠ 0)
    (hcx : (hasCross s && w.cx) = false) : (updateG s f w params).2 = none := by
  cases he : (updateG s f w params).2 with
  | none => rfl
  | some e =>
    have := (updateG_raise s f w params hown hok hfeas hsync hpnd hvars hin hh (fun h => by rw [hcx] at h; cases h) e he).2.1
    rw [hcx] at this; cases this

/-- (repaired) the five-point `updateDerivatives` does not raise when the selection has no
duplicate and only names of the wrapped function -/
theorem update5_noexc (f : List ℝ → ℝ) (w : W ℝ) (params : PList ℝ) (hown : Own w.fn) (hok : w.fn.OK f)
    (hfeas : Feas w.fn.params) (hsync : Synced params w.fn.params) (hpnd : (names params).Nodup)
    (hvars : w.vars.Nodup) (hin : ∀ v ∈ w.vars, v ∈ names w.fn.params) :
    (update5 f w params).2 = none := by
  exact updateG_noexc .five f w params hown hok hfeas hsync hpnd hvars hin (fun h => absurd rfl h) rfl

end Bpp.NumDeriv
