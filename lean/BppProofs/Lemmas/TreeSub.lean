import BppProofs.Lemmas.TreeRooted
/-
Subtree, subtree-edges and leaves-under queries on a valid rooted tree: they list, each once, what belongs to
the descendants of the node (the descendants, the edges to their fathers, the descendants without son), and the
fuel `node count + 2` is never exhausted.  All three are the same loop over the sons (`sons_fold`).
-/
namespace Bpp.Graph
open AL

/-- the check "`key t` occurs in `l` once if `p t` and not at all otherwise", for a duplicate-free `l` -/
theorem all_count_spec {α : Type} {items : List α} {l : List Nat} (hnd : l.Nodup) (key : α → Nat) (p : α → Bool)
    (h : ∀ t ∈ items, key t ∈ l ↔ p t = true) : items.all (fun t => l.count (key t) == if p t then 1 else 0) = true := by
  rw [List.all_eq_true]
  intro t ht
  rw [hnd.count]
  by_cases hm : key t ∈ l
  · rw [if_pos hm, if_pos ((h t ht).1 hm)]; rfl
  · rw [if_neg hm, if_neg (fun hp => hm ((h t ht).2 hp))]; rfl

/-- `e` is the edge from the father of `x` to `x` -/
def UpEdge (g : G) (P : PTree) (x e : Nat) : Prop := ∃ p, P.par x = some p ∧ g.outE p x = some e

namespace DTree
variable {g : G} {P : PTree}

theorem outNeighbors (h : DTree g P) {n : Nat} (hn : n ∈ P.nodes) : g.outNeighbors n = some (g.outKeys n) :=
  G.outNeighbors_of_hasNode ((h.nodes n).1 hn)

theorem outKeys_nodup (h : DTree g P) (n : Nat) : (g.outKeys n).Nodup := G.nodup_of_asc (G.asc_outKeys h.cons.sorted n)

theorem upEdge_inj (h : DTree g P) {x y e : Nat} (hx : UpEdge g P x e) (hy : UpEdge g P y e) : x = y := by
  obtain ⟨p, _, hp⟩ := hx
  obtain ⟨q, _, hq⟩ := hy
  cases (G.find_of_out h.cons h.dir hp).symm.trans (G.find_of_out h.cons h.dir hq)
  rfl

/-- **the loop over the sons of `n`**: `ls` lists one item per son (`son c`), each turn `f c` appends the entries
that belong (`K x y`: the entry `x` belongs to the node `y`) to the subtree of its son; the subtrees of different
sons are disjoint, so the whole loop appends each such entry once -/
theorem sons_fold (h : DTree g P) {ι : Type} {n : Nat} (son : ι → Nat) (K : Nat → Nat → Prop)
    (hK : ∀ x y y', K x y → K x y' → y = y') (f : ι → List Nat → TRes (List Nat))
    (step : TRes (List Nat) → ι → TRes (List Nat)) (hstep : ∀ m s, step (.ok m) s = f s m) :
    ∀ (ls : List ι) (m : List Nat), (ls.map son).Nodup → (∀ c ∈ ls, P.par (son c) = some n) →
      (∀ c ∈ ls, ∀ m, ∃ l, f c m = .ok (m ++ l) ∧ l.Nodup ∧ ∀ x, x ∈ l ↔ ∃ y, IsAnc P.par (son c) y ∧ K x y) →
      ∃ l : List Nat, ls.foldl step (TRes.ok m) = TRes.ok (m ++ l) ∧ l.Nodup ∧
        ∀ x, x ∈ l ↔ ∃ c ∈ ls, ∃ y, IsAnc P.par (son c) y ∧ K x y := by
  intro ls
  induction ls with
  | nil => intro m _ _ _; exact ⟨[], by simp, List.nodup_nil, by simp⟩
  | cons c rest ih =>
    intro m hnd hpar hsub
    have hnd' := List.nodup_cons.1 hnd
    obtain ⟨l1, h1, hn1, hm1⟩ := hsub c (List.mem_cons_self ..) m
    obtain ⟨l2, h2, hn2, hm2⟩ := ih (m ++ l1) hnd'.2 (fun d hd => hpar d (List.mem_cons_of_mem _ hd))
      (fun d hd => hsub d (List.mem_cons_of_mem _ hd))
    refine ⟨l1 ++ l2, ?_, List.nodup_append.2 ⟨hn1, hn2, fun a ha b hb hab => ?_⟩, fun x => ?_⟩
    · rw [List.foldl_cons, hstep, h1, h2, List.append_assoc]
    · subst hab
      obtain ⟨y, hcy, hky⟩ := (hm1 a).1 ha
      obtain ⟨d, hd, y', hdy, hky'⟩ := (hm2 a).1 hb
      cases hK a y y' hky hky'
      exact h.wf.sons_disjoint (hpar c (List.mem_cons_self ..)) (hpar d (List.mem_cons_of_mem _ hd))
        (fun e => hnd'.1 (e ▸ List.mem_map_of_mem hd)) hcy hdy
    · rw [List.mem_append, hm1 x, hm2 x]
      exact ⟨fun hx => hx.elim (fun hx => ⟨c, List.mem_cons_self .., hx⟩)
          (fun ⟨d, hd, hx⟩ => ⟨d, List.mem_cons_of_mem _ hd, hx⟩),
        fun ⟨d, hd, hx⟩ => (List.mem_cons.1 hd).elim (fun e => .inl (e ▸ hx)) (fun hd' => .inr ⟨d, hd', hx⟩)⟩

/-- the descendants of `n` are `n` and the descendants of its sons -/
theorem anc_iff_sons (h : DTree g P) (n x : Nat) :
    IsAnc P.par n x ↔ x = n ∨ ∃ c ∈ g.outKeys n, IsAnc P.par c x :=
  ⟨fun hx => (Classical.em (x = n)).imp id (fun hxn =>
      let ⟨c, hpc, hcx⟩ := IsAnc.under_son hx hxn; ⟨c, (h.mem_outKeys n c).2 hpc, hcx⟩),
    fun hx => hx.elim (fun e => e ▸ .refl _)
      (fun ⟨c, hc, hcx⟩ => (IsAnc.of_par ((h.mem_outKeys n c).1 hc)).trans hcx)⟩

/-- `fillSubtreeMetNodes_`: the descendants of `n`, each once, `n` first -/
theorem subtreeNodes (h : DTree g P) : ∀ (fuel n : Nat) (met : List Nat), n ∈ P.nodes → g.nodes.length + 1 ≤ fuel + P.rank n →
    ∃ l, T.subtreeNodes g fuel n met = .ok (met ++ l) ∧ l.Nodup ∧ ∀ x, x ∈ l ↔ IsAnc P.par n x := by
  intro fuel
  induction fuel with
  | zero => intro n met hn hf; have := h.rank_lt hn; omega
  | succ f ih =>
    intro n met hn hf
    obtain ⟨l, h1, h2, h3⟩ := h.sons_fold (n := n) id (· = ·) (fun _ _ _ e e' => e.symm.trans e') (fun s m => T.subtreeNodes g f s m)
      (fun acc s => match acc with | .ok m => T.subtreeNodes g f s m | r => r) (fun _ _ => rfl) (g.outKeys n) (met ++ [n])
      (by rw [List.map_id]; exact h.outKeys_nodup n) (fun c hc => (h.mem_outKeys n c).1 hc)
      (fun c hc m => by
        have hm := h.wf.par_mem ((h.mem_outKeys n c).1 hc)
        obtain ⟨l, h1, h2, h3⟩ := ih c m hm.1 (by omega)
        exact ⟨l, h1, h2, fun x => (h3 x).trans ⟨fun hx => ⟨x, hx, rfl⟩, fun ⟨_, hy, e⟩ => e ▸ hy⟩⟩)
    have hmem : ∀ x, x ∈ l ↔ ∃ c ∈ g.outKeys n, IsAnc P.par c x := fun x =>
      (h3 x).trans ⟨fun ⟨c, hc, _, hy, e⟩ => ⟨c, hc, e ▸ hy⟩, fun ⟨c, hc, hy⟩ => ⟨c, hc, x, hy, rfl⟩⟩
    refine ⟨n :: l, ?_, List.nodup_cons.2 ⟨fun hnl => ?_, h2⟩, fun x => ?_⟩
    · rw [T.subtreeNodes, h.outNeighbors hn]
      exact h1.trans (by rw [List.append_assoc]; rfl)
    · obtain ⟨c, hc, hcn⟩ := (hmem n).1 hnl
      exact h.wf.son_not_anc ((h.mem_outKeys n c).1 hc) hcn
    · rw [List.mem_cons, hmem, h.anc_iff_sons]

theorem isLeafT (h : DTree g P) {n : Nat} (hn : n ∈ P.nodes) : T.isLeafT g n = some (decide (g.outKeys n = [])) := by
  obtain ⟨r, hr⟩ := (G.hasNode_iff g n).1 ((h.nodes n).1 hn)
  simp [T.isLeafT, RowQ.nbOut, G.rowOf, G.outKeys, hr, h.dir, AL.keys]

/-- `fillListOfLeaves_`: the descendants of `n` without son, each once -/
theorem leavesUnder (h : DTree g P) : ∀ (fuel n : Nat) (found : List Nat), n ∈ P.nodes → g.nodes.length + 1 ≤ fuel + P.rank n →
    ∃ l, T.leavesUnder g fuel n found = .ok (found ++ l) ∧ l.Nodup ∧ ∀ x, x ∈ l ↔ (IsAnc P.par n x ∧ g.outKeys x = []) := by
  intro fuel
  induction fuel with
  | zero => intro n found hn hf; have := h.rank_lt hn; omega
  | succ f ih =>
    intro n found hn hf
    rw [T.leavesUnder, h.outNeighbors hn, h.isLeafT hn]
    by_cases hleaf : g.outKeys n = []
    · rw [decide_eq_true hleaf]
      refine ⟨[n], rfl, by simp, fun x => ?_⟩
      rw [List.mem_singleton, h.anc_iff_sons, hleaf]
      exact ⟨fun e => ⟨.inl e, e ▸ hleaf⟩, fun hx => hx.1.elim id (fun ⟨_, hc, _⟩ => nomatch hc)⟩
    · rw [decide_eq_false hleaf]
      obtain ⟨l, h1, h2, h3⟩ := h.sons_fold (n := n) id (fun x y => x = y ∧ g.outKeys y = [])
        (fun _ _ _ e e' => e.1.symm.trans e'.1) (fun s m => T.leavesUnder g f s m)
        (fun acc s => match acc with | .ok m => T.leavesUnder g f s m | r => r) (fun _ _ => rfl) (g.outKeys n) found
        (by rw [List.map_id]; exact h.outKeys_nodup n) (fun c hc => (h.mem_outKeys n c).1 hc)
        (fun c hc m => by
          have hm := h.wf.par_mem ((h.mem_outKeys n c).1 hc)
          obtain ⟨l, h1, h2, h3⟩ := ih c m hm.1 (by omega)
          exact ⟨l, h1, h2, fun x => (h3 x).trans ⟨fun hx => ⟨x, hx.1, rfl, hx.2⟩, fun ⟨_, hy, e, hq⟩ => e ▸ ⟨hy, hq⟩⟩⟩)
      refine ⟨l, h1, h2, fun x => (h3 x).trans ?_⟩
      rw [h.anc_iff_sons]
      exact ⟨fun ⟨c, hc, _, hy, e, hq⟩ => e ▸ ⟨.inr ⟨c, hc, hy⟩, hq⟩,
        fun ⟨hx, hq⟩ => hx.elim (fun e => absurd (e ▸ hq) hleaf) (fun ⟨c, hc, hy⟩ => ⟨c, hc, x, hy, rfl, hq⟩)⟩

/-- `fillSubtreeMetEdges_`: the edges to the father of the proper descendants of `n`, each once -/
theorem subtreeEdges (h : DTree g P) : ∀ (fuel n : Nat) (met : List Nat), n ∈ P.nodes → g.nodes.length + 1 ≤ fuel + P.rank n →
    ∃ L, T.subtreeEdges g fuel n met = .ok (met ++ L) ∧ L.Nodup ∧
      ∀ e, e ∈ L ↔ ∃ x, IsAnc P.par n x ∧ x ≠ n ∧ UpEdge g P x e := by
  intro fuel
  induction fuel with
  | zero => intro n met hn hf; have := h.rank_lt hn; omega
  | succ f ih =>
    intro n met hn hf
    obtain ⟨r, hr⟩ := (G.hasNode_iff g n).1 ((h.nodes n).1 hn)
    have hasc := (h.cons.sorted.rows n r hr).1
    have hout : ∀ q, q ∈ r.out ↔ g.outE n q.1 = some q.2 := fun q => by
      rw [mem_iff_find hasc q.1 q.2, G.outE, hr]; rfl
    have hpar : ∀ q ∈ r.out, P.par q.1 = some n := fun q hq => (h.arc n q.1).1 (arc_of_out ((hout q).1 hq))
    obtain ⟨L, h1, h2, h3⟩ := h.sons_fold (n := n) (·.1) (fun e y => UpEdge g P y e) (fun _ _ _ e e' => h.upEdge_inj e e')
      (fun (q : Nat × Nat) m => match g.getNodes q.2 with
        | some (_, bottom) => T.subtreeEdges g f bottom (m ++ [q.2])
        | none => .exc)
      (fun acc q => match acc with
        | .ok m => (match g.getNodes q.2 with
                    | some (_, bottom) => T.subtreeEdges g f bottom (m ++ [q.2])
                    | none => .exc)
        | r => r) (fun _ _ => rfl) r.out met (G.nodup_of_asc hasc) hpar
      (fun q hq m => by
        obtain ⟨c, e⟩ := q
        have hce : g.outE n c = some e := (hout (c, e)).1 hq
        have hpc : P.par c = some n := hpar _ hq
        have hup : UpEdge g P c e := ⟨n, hpc, hce⟩
        have hrk := h.wf.par_rank hpc
        obtain ⟨L1, h1, hn1, hm1⟩ := ih c (m ++ [e]) (h.wf.par_mem hpc).1 (by omega)
        refine ⟨e :: L1, ?_, List.nodup_cons.2 ⟨fun he => ?_, hn1⟩, fun a => ?_⟩
        · show (match g.getNodes e with | some (_, bottom) => _ | none => _) = _
          rw [show g.getNodes e = some (n, c) from G.find_of_out h.cons h.dir hce]
          exact h1.trans (by rw [List.append_assoc]; rfl)
        · obtain ⟨x, _, hxc, hux⟩ := (hm1 e).1 he
          exact hxc (h.upEdge_inj hux hup)
        · rw [List.mem_cons, hm1]
          constructor
          · rintro (rfl | ⟨x, hcx, _, hux⟩)
            · exact ⟨c, .refl _, hup⟩
            · exact ⟨x, hcx, hux⟩
          · rintro ⟨x, hcx, hux⟩
            by_cases hxc : x = c
            · obtain ⟨p, hp, ho⟩ := hxc ▸ hux
              rw [hpc] at hp; cases hp
              rw [hce] at ho; exact .inl (Option.some.inj ho).symm
            · exact .inr ⟨x, hcx, hxc, hux⟩)
    refine ⟨L, ?_, h2, fun e => (h3 e).trans ⟨fun ⟨q, hq, x, hqx, hux⟩ => ?_, fun ⟨x, hnx, hxn, hux⟩ => ?_⟩⟩
    · rw [T.subtreeEdges, show g.outEdges n = some (AL.vals r.out) by simp [G.outEdges, G.rowOf, RowQ.outEdges, hr]]
      dsimp only [AL.vals]
      rw [List.foldl_map]
      exact h1
    · exact ⟨x, (IsAnc.of_par (hpar q hq)).trans hqx, fun e' => h.wf.son_not_anc (hpar q hq) (e' ▸ hqx), hux⟩
    · obtain ⟨c, hpc, hcx⟩ := IsAnc.under_son hnx hxn
      obtain ⟨ec, hec⟩ := h.arc_out hpc
      exact ⟨(c, ec), (hout (c, ec)).2 hec, x, hcx, hux⟩

end DTree
end Bpp.Graph
