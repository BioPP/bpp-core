import BppProofs.Lemmas.MatrixScan
/-! Helper lemmas for C04: `Store.ofFn` (an operand of a given class built entry by entry). -/
namespace Bpp.Mx
open Bpp Store

section OfFn
variable {α : Type}

theorem ofFn_kind (k : Kind) (r c : Nat) (f : Nat → Nat → α) : (Store.ofFn k r c f).kind = k := by
  cases k <;> rfl

theorem ofFn_holds (k : Kind) (r c : Nat) (f : Nat → Nat → α) : (Store.ofFn k r c f).Holds r c f := by
  -- a vector of columns is built like the vector of rows of the transposed entries
  have hrow : ∀ (r c : Nat) (f : Nat → Nat → α), (Store.ofFn .row r c f).Holds r c f := by
    intro r c f
    have hnr : (Store.ofFn .row r c f).nrows = r := by simp [Store.ofFn, nrows]
    have hnc : (Store.ofFn .row r c f).ncols = if r = 0 then 0 else c := by
      simp only [Store.ofFn, ncols]
      by_cases h : r = 0
      · subst h; simp
      · have : 0 < r := by omega
        simp [h, this]
    refine ⟨?_, ?_, ?_⟩
    · intro i hi
      have hi' : i < r := by simpa [Store.ofFn] using hi
      show _ = (Store.ofFn .row r c f).ncols
      rw [hnc]
      have : r ≠ 0 := by omega
      simp [this]
    · rw [hnr, hnc]; rfl
    · intro i j hi hj
      simp [Store.ofFn, Store.get, vget, hi, hj]
  cases k with
  | row => exact hrow r c f
  | col =>
    obtain ⟨w, d, g⟩ := hrow c r (fun j i => f i j)
    exact ⟨w, Prod.ext (congrArg Prod.snd d) (congrArg Prod.fst d), fun i j hi hj => g j i hj hi⟩
  | lin =>
    refine ⟨?_, rfl, ?_⟩
    · show (Array.ofFn _).size = r * c
      simp
    · intro i j hi hj
      obtain ⟨hlt, hd, hm⟩ := lin_index hi hj
      simp [Store.ofFn, Store.get, vget, hlt, hd, hm]

/-- an operand of any class with both dimensions positive: well formed, with exactly these dimensions -/
theorem ofFn_dims [Scalar α] (k : Kind) {r c : Nat} (hr : 0 < r) (hc : 0 < c) (f : Nat → Nat → α) :
    (Store.ofFn k r c f).WF ∧ (Store.ofFn k r c f).nrows = r ∧ (Store.ofFn k r c f).ncols = c := by
  have h := ofFn_holds k r c f
  exact ⟨h.1, (h.dims_pos hr hc).1, (h.dims_pos hr hc).2⟩

end OfFn
end Bpp.Mx
