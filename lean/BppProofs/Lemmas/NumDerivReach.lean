import BppProofs.Lemmas.NumDerivEntry
/-!
C12 helper lemmas: invariants of the wrapped function that hold whatever the wrapper does
with it (any list, duplicates or not, any precision, exceptions or not): the skeleton (names,
precisions, constraints) never changes, the cached value is the value at the current point, the
current point and every point at which `f` was evaluated satisfy the constraints.  With them, what an
entry point leaves that raises although its forwarded call was accepted (`call_raise_spec`).
-/
namespace Bpp.NumDeriv
open Bpp Bpp.Scalar

/-- the point `pt` satisfies the constraints of `ref`, coordinate by coordinate -/
def PtOK (ref : PList ℝ) (pt : List ℝ) : Prop := List.Forall₂ (fun b x => b.violates x = false) ref pt

theorem ptOK_values {l ref : PList ℝ} (hs : Skel l ref) (hf : Feas l) : PtOK ref (values l) := by
  unfold Skel at hs
  unfold PtOK values
  induction hs with
  | nil => exact List.Forall₂.nil
  | @cons a b l' B' hab _ ih =>
    rw [List.map_cons]
    refine List.Forall₂.cons ?_ (ih (fun p hp => hf p (List.mem_cons_of_mem _ hp)))
    rw [← violates_skel hab]; exact hf a (List.mem_cons_self ..)

theorem feas_of_setValue (p p' : Param ℝ) (v : ℝ) (h : p.setValue v = .ok p') (hp : p.violates p.value = false) :
    p'.violates p'.value = false := by
  obtain ⟨a, b⟩ := setValue_cases p p' v h
  rcases b with b | ⟨b1, b2⟩
  · rw [b]; exact hp
  · rw [b1, violates_skel a]; exact b2

/-- `setParameterValue`: the value is checked by `Parameter::setValue` itself -/
theorem setValueOf_gen' (l l' : PList ℝ) (n : Name) (v : ℝ) : setValueOf l n v = .ok l' →
    Skel l' l ∧ (Feas l → Feas l') := by
  fun_induction setValueOf l n v generalizing l' with
  | case1 => exact fun h => by cases h
  | case2 p r n v hn p' hp' =>
    intro h; injection h with h; subst h
    refine ⟨List.Forall₂.cons (setValue_cases p p' v hp').1 (Skel.refl r), fun hf x hx => ?_⟩
    rcases List.mem_cons.mp hx with rfl | hx
    · exact feas_of_setValue p x v hp' (hf p (List.mem_cons_self ..))
    · exact hf x (List.mem_cons_of_mem _ hx)
  | case3 => exact fun h => by cases h
  | case4 p r n v hn r' hr' ih =>
    intro h; injection h with h; subst h
    obtain ⟨a, b⟩ := ih r' hr'
    refine ⟨List.Forall₂.cons (SameSkel.rfl' p) a, fun hf x hx => ?_⟩
    rcases List.mem_cons.mp hx with rfl | hx
    · exact hf x (List.mem_cons_self ..)
    · exact b (fun y hy => hf y (List.mem_cons_of_mem _ hy)) x hx
  | case5 => exact fun h => by cases h

theorem matchLoop_mono (pl : PList ℝ) (own own' : PList ℝ) (ch0 ch : Bool) :
    matchLoop own pl ch0 = .ok (own', ch) → ch0 = true → ch = true := by
  fun_induction matchLoop own pl ch0 with
  | case1 => exact fun h h0 => by injection h with h; injection h with _ h; exact h ▸ h0
  | case2 own q qs ch0 hf ih => exact ih
  | case3 own q qs ch0 p hf hne own1 hs1 ih => exact fun h _ => ih h rfl
  | case4 => exact fun h => by cases h
  | case5 own q qs ch0 p hf hne ih => exact ih

theorem matchLoop_gen (pl : PList ℝ) (own own' : PList ℝ) (ch0 ch : Bool) :
    matchLoop own pl ch0 = .ok (own', ch) →
    Skel own' own ∧ (Feas own → Feas own') ∧ (ch = false → own' = own) := by
  fun_induction matchLoop own pl ch0 with
  | case1 =>
    intro h; injection h with h; injection h with h1 h2; subst h1 h2
    exact ⟨Skel.refl _, id, fun _ => rfl⟩
  | case2 own q qs ch0 hf ih => exact ih
  | case3 own q qs ch0 p hf hne own1 hs1 ih =>
    intro h
    obtain ⟨a, b⟩ := setValueOf_gen' own own1 q.name q.value hs1
    obtain ⟨c, d, _⟩ := ih h
    refine ⟨c.trans a, fun hf => d (b hf), fun hch => ?_⟩
    rw [matchLoop_mono qs _ _ _ _ h rfl] at hch; cases hch
  | case4 => exact fun h => by cases h
  | case5 own q qs ch0 p hf hne ih => exact ih

/-- the invariant: relative to a fixed skeleton `ref` -/
structure Inv (f : List ℝ → ℝ) (ref : PList ℝ) (fn : Fn ℝ) : Prop where
  skel : Skel fn.params ref
  ok : fn.OK f
  feas : Feas fn.params
  log : ∀ pt ∈ fn.log, PtOK ref pt

theorem Inv.fire {f : List ℝ → ℝ} {ref : PList ℝ} {fn : Fn ℝ} (hs : Skel fn.params ref) (hf : Feas fn.params)
    (hl : ∀ pt ∈ fn.log, PtOK ref pt) : Inv f ref (fn.fire f) :=
  ⟨hs, fire_OK f fn, hf, by
    intro pt hpt
    simp only [Fn.fire, List.mem_cons] at hpt
    rcases hpt with rfl | hpt
    · exact ptOK_values hs hf
    · exact hl pt hpt⟩

/-- `function_->setParameters(pl)` for any list: nothing happens, or the second loop of
`matchParametersValues` made a new list and `f` is evaluated there -/
theorem setParameters_shape (f : List ℝ → ℝ) (fn : Fn ℝ) (pl : PList ℝ) :
    (fn.setParameters f pl).1 = fn ∨
    ∃ own, matchLoop fn.params pl false = .ok (own, true) ∧ (fn.setParameters f pl).1 = ({ fn with params := own } : Fn ℝ).fire f := by
  simp only [Fn.setParameters, Fn.matchPV]
  cases hv : anyViolation fn.params pl with
  | true => left; simp
  | false =>
    simp only [Bool.false_eq_true, if_false]
    cases hm : matchLoop fn.params pl false with
    | error e => left; simp
    | ok r =>
      rcases r with ⟨own, ch⟩
      cases ch with
      | true => right; exact ⟨own, rfl, by simp⟩
      | false =>
        left
        have := (matchLoop_gen pl fn.params own false false hm).2.2 rfl
        subst this
        simp

/-- `function_->setParameters(pl)` for any list keeps the invariant, and never touches the kind of
the wrapped function -/
theorem Inv.setParameters {f : List ℝ → ℝ} {ref : PList ℝ} {fn : Fn ℝ} (h : Inv f ref fn) (pl : PList ℝ) :
    Inv f ref (fn.setParameters f pl).1 ∧ (fn.setParameters f pl).1.kind = fn.kind := by
  rcases setParameters_shape f fn pl with e | ⟨own, hm, e⟩ <;> rw [e]
  · exact ⟨h, rfl⟩
  · obtain ⟨a, b, _⟩ := matchLoop_gen pl fn.params own false true hm
    exact ⟨Inv.fire (a.trans h.skel) (b h.feas) h.log, rfl⟩


theorem Inv.enable1 {f : List ℝ → ℝ} {ref : PList ℝ} {fn : Fn ℝ} (h : Inv f ref fn) (x : Bool) : Inv f ref (fn.enable1 x) := by
  unfold Fn.enable1; split
  · exact ⟨h.skel, h.ok, h.feas, h.log⟩
  · exact h
theorem Inv.enable2 {f : List ℝ → ℝ} {ref : PList ℝ} {fn : Fn ℝ} (h : Inv f ref fn) (x : Bool) : Inv f ref (fn.enable2 x) := by
  unfold Fn.enable2; split
  · exact ⟨h.skel, h.ok, h.feas, h.log⟩
  · exact h

/-- the invariant holds for everything reachable -/
theorem Inv.reach {f : List ℝ → ℝ} {ref : PList ℝ} {a b : Fn ℝ} (h : Inv f ref a) (hr : Reach f a b) :
    Inv f ref b ∧ b.kind = a.kind := by
  induction hr with
  | refl => exact ⟨h, rfl⟩
  | setp pl _ _ ih => exact ⟨(ih.1.setParameters pl).1, (ih.1.setParameters pl).2.trans ih.2⟩
  | en1 _ x _ ih => exact ⟨ih.1.enable1 x, by rw [enable1_kind]; exact ih.2⟩
  | en2 _ x _ ih => exact ⟨ih.1.enable2 x, by rw [enable2_kind]; exact ih.2⟩

theorem update_reach (f : List ℝ → ℝ) (w : W ℝ) (params : PList ℝ) : Reach f w.fn (w.update f params).1.fn := by
  rw [update_eq]; exact (updateG_frame f (Closed.trivial params) w.scheme w).1


theorem setLoop_gen (pl : PList ℝ) (own own' : PList ℝ) : setLoop own pl = .ok own' →
    Skel own' own ∧ (Feas own → Feas own') := by
  fun_induction setLoop own pl with
  | case1 => exact fun h => by injection h with h; subst h; exact ⟨Skel.refl _, id⟩
  | case2 own q qs hh own1 hs1 ih =>
    intro h
    obtain ⟨a, b⟩ := setValueOf_gen' own own1 q.name q.value hs1
    obtain ⟨c, d⟩ := ih h
    exact ⟨c.trans a, fun hf => d (b hf)⟩
  | case3 => exact fun h => by cases h
  | case4 own q qs hh ih => exact ih

theorem allSet_gen (pl : PList ℝ) (own own' : PList ℝ) : allSet own pl = .ok own' →
    Skel own' own ∧ (Feas own → Feas own') := by
  fun_induction allSet own pl generalizing own' with
  | case1 => exact fun h => by injection h with h; subst h; exact ⟨Skel.refl _, id⟩
  | case2 => exact fun h => by cases h
  | case3 => exact fun h => by cases h
  | case4 => exact fun h => by cases h
  | case5 p r pl q hq p' hp' r' hr' ih =>
    intro h; injection h with h; subst h
    obtain ⟨a, b⟩ := ih r' hr'
    refine ⟨List.Forall₂.cons (setValue_cases p p' _ hp').1 a, fun hf x hx => ?_⟩
    rcases List.mem_cons.mp hx with rfl | hx
    · exact feas_of_setValue p x _ hp' (hf p (List.mem_cons_self ..))
    · exact b (fun y hy => hf y (List.mem_cons_of_mem _ hy)) x hx

theorem Inv.replace {f : List ℝ → ℝ} {ref : PList ℝ} {fn : Fn ℝ} (h : Inv f ref fn) (own : PList ℝ)
    (hs : Skel own fn.params) (hf : Feas fn.params → Feas own) :
    Inv f ref (({ fn with params := own } : Fn ℝ).fire f) :=
  Inv.fire (hs.trans h.skel) (hf h.feas) h.log

/-- the call an entry point forwards: nothing happens, or the wrapped function gets a list of the same
skeleton, feasible if its own was, and `f` is evaluated there -/
theorem forward_shape (f : List ℝ → ℝ) (fn : Fn ℝ) (e : Entry ℝ) :
    (fn.forward f e).1 = fn ∨ ∃ own, Skel own fn.params ∧ (Feas fn.params → Feas own) ∧
      (fn.forward f e).1 = ({ fn with params := own } : Fn ℝ).fire f := by
  have hmatch : ∀ pl, (fn.setParameters f pl).1 = fn ∨ ∃ own, Skel own fn.params ∧ (Feas fn.params → Feas own) ∧
      (fn.setParameters f pl).1 = ({ fn with params := own } : Fn ℝ).fire f := fun pl =>
    (setParameters_shape f fn pl).imp id (fun ⟨own, hm, e⟩ =>
      ⟨own, (matchLoop_gen pl fn.params own false true hm).1, (matchLoop_gen pl fn.params own false true hm).2.1, e⟩)
  cases e with
  | setParameters pl => exact hmatch pl
  | f pl => exact hmatch pl
  | matchPV pl => exact hmatch pl
  | setVals pl =>
    simp only [Fn.forward, Fn.setParametersValues]
    split
    · left; rfl
    · split
      · left; rfl
      · rename_i own hs; right; exact ⟨own, (setLoop_gen pl _ _ hs).1, (setLoop_gen pl _ _ hs).2, rfl⟩
  | setAll pl =>
    simp only [Fn.forward, Fn.setAllParametersValues]
    split
    · left; rfl
    · split
      · left; rfl
      · rename_i own hs; right; exact ⟨own, (allSet_gen pl _ _ hs).1, (allSet_gen pl _ _ hs).2, rfl⟩
  | setOne n v =>
    simp only [Fn.forward, Fn.setParameterValue]
    split
    · left; rfl
    · rename_i own hs; right; exact ⟨own, (setValueOf_gen' _ _ n v hs).1, (setValueOf_gen' _ _ n v hs).2, rfl⟩

theorem Inv.forward {f : List ℝ → ℝ} {ref : PList ℝ} {fn : Fn ℝ} (h : Inv f ref fn) (e : Entry ℝ) :
    Inv f ref (fn.forward f e).1 ∧ (fn.forward f e).1.kind = fn.kind := by
  rcases forward_shape f fn e with e1 | ⟨own, a, b, e1⟩ <;> rw [e1]
  · exact ⟨h, rfl⟩
  · exact ⟨h.replace own a b, rfl⟩

/-- any entry point, returning or raising, keeps the invariant of the wrapped function -/
theorem Inv.call {f : List ℝ → ℝ} {ref : PList ℝ} {w : W ℝ} (h : Inv f ref w.fn) (e : Entry ℝ) :
    Inv f ref (w.call f e).1.fn ∧ (w.call f e).1.fn.kind = w.fn.kind := by
  have hf := h.forward (f := f) e
  rcases call_cases f w e _ rfl with ⟨x, _, hc⟩ | ⟨_, pl, _, hc⟩ <;> rw [hc]
  · exact hf
  · obtain ⟨a, b'⟩ := hf.1.reach (update_reach f ({ w with fn := (w.fn.forward f e).1 } : W ℝ) pl)
    exact ⟨a, b'.trans hf.2⟩

theorem Inv.own {f : List ℝ → ℝ} {ref : PList ℝ} {fn : Fn ℝ} (h : Inv f ref fn) (hnd : (names ref).Nodup) (hz : Z ref) :
    Own fn := ⟨by rw [h.skel.names]; exact hnd, h.skel.Z hz⟩

/-- an entry point of the wrapper that raises although its forwarded call was accepted -/
theorem call_raise_spec (f : List ℝ → ℝ) (w : W ℝ) (e : Entry ℝ) (hown : Own w.fn) (hok : w.fn.OK f)
    (ref : PList ℝ) (hinv : Inv f ref w.fn) (he : e.Nodup)
    (hvars : w.vars.Nodup) (hin : ∀ v ∈ w.vars, v ∈ names w.fn.params) (hh : w.h ≠ 0)
    (hl2 : w.der2.length = w.vars.length)
    (hfw : (w.fn.forward f e).2.1 = none) (x : Exc) (hraise : (w.call f e).2.1 = some x) :
    x = .bpp ∧ w.scheme = .three ∧ w.cx = true ∧
    (w.call f e).1.fn.params = e.apply w.fn.params ∧
    (w.call f e).1.value = f (values (e.apply w.fn.params)) ∧
    (w.call f e).1.fn.fval = f (values (e.apply w.fn.params)) ∧
    Own (w.call f e).1.fn ∧ (w.call f e).1.fn.OK f ∧
    (w.fn.kind ≥ 1 → (w.call f e).1.fn.en1 = w.c1) ∧ (w.fn.kind ≥ 2 → (w.call f e).1.fn.en2 = w.c2) := by
  have hfi := (hinv.forward (f := f) e).1
  rcases call_cases_wf f w e hown hok he _ rfl with ⟨hx, _⟩ | ⟨_, o1, o2, o3, hpar, pl, hsy, hnd, hc⟩
  · exact absurd hfw hx
  · rw [hc] at hraise ⊢
    rw [update_eq] at hraise ⊢
    obtain ⟨a1, a2, a3, a4, a5, a6, a7, a8⟩ := updateG_raise w.scheme f { w with fn := (w.fn.forward f e).1 } pl o1 o2 hfi.feas hsy hnd
      hvars (fun v hv => by rw [hfi.skel.names, ← hinv.skel.names]; exact hin v hv) (fun _ => hh) (fun _ => hl2) x hraise
    have hs3 : w.scheme = .three := by cases h : w.scheme <;> simp [h, hasCross] at a2 ⊢
    have hk : (updateG w.scheme f { w with fn := (w.fn.forward f e).1 } pl).1.fn.kind = w.fn.kind := a5.kind.trans o3
    -- `hs3` is not rewritten into the goal: `w.scheme` also stands inside the record `{ w with fn := … }`
    have e2 : ∀ w' : W ℝ, slotOf w.scheme w' = w'.f2 := fun _ => by rw [hs3]; rfl
    refine ⟨a1, hs3, by simpa [hs3, hasCross] using a2, a3.trans hpar, ?_, ?_, ?_, a4, ?_, ?_⟩
    · rw [value_eq, a5.scheme]; exact (e2 _).trans (a6.trans (by rw [hpar]))
    · have := a4; unfold Fn.OK at this; rw [this, a3, hpar]
    · unfold Own; rw [a3]; exact o1
    · intro hk1; exact a7 (by rw [hk]; exact hk1)
    · intro hk2; exact a8 (by rw [hk]; exact hk2)

end Bpp.NumDeriv
