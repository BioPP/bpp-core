import BppModel.Graph
/-! Lemmas on `BppModel/Graph.lean` (GlobalGraph), used by C14 and C15.  `AL`: the look-up after each map operation, ascending
keys (`Asc`), two ascending maps with the same look-ups are equal (`asc_ext`).  The invariant `Consistent` is `ConsV` — the node
rows, read as the functions `outE` / `inE`, hold exactly the relations of the edge table (`ConsV.iff_related`) — with ids below
the counters and `Sorted`.  A primitive is first described by what it does to `hasNode`, `outE`, `inE` and the look-up in the
edge table (`RowsBy`, `UnlinkedIn`, `outE_linkWrite`, `Created`, `Unlinked`, `Switched`); `ConsV.link`, `.unlink`,
`.createNode`, `.eraseNode`, `.switch` then carry the invariant across, on those functions alone.  The mutators with loops
follow in `GraphLoops`. -/
set_option linter.unusedSimpArgs false
set_option linter.unusedVariables false
set_option linter.unusedSectionVars false
namespace Bpp
namespace AL
variable {β : Type}

/-! ### `find` after each map operation (no ordering hypothesis needed) -/

theorem find_insertSorted (k k' : Nat) (v : β) (l : List (Nat × β)) (h : find k l = none) :
    find k' (insertSorted k v l) = if k = k' then some v else find k' l := by
  induction l with
  | nil => simp [insertSorted, find]
  | cons p r ih =>
    obtain ⟨k1, v1⟩ := p
    simp only [find] at h
    split at h
    · simp at h
    · rename_i hne
      simp only [insertSorted]
      split
      · simp [find]
      · simp only [find]
        split
        · rename_i h1; subst h1
          have : ¬ k = k1 := fun h => hne h.symm
          simp [this]
        · exact ih h

theorem find_modify (k k' : Nat) (f : β → β) (l : List (Nat × β)) :
    find k' (modify k f l) = (find k' l).map (fun v => if k' = k then f v else v) := by
  unfold modify
  induction l with
  | nil => rfl
  | cons p r ih =>
    obtain ⟨k1, v1⟩ := p
    simp only [List.map_cons]
    by_cases h2 : k1 = k
    · subst h2
      by_cases h1 : k1 = k'
      · subst h1; simp [find]
      · simp [find, h1, Ne.symm h1, ih]
    · by_cases h1 : k1 = k'
      · subst h1; simp [find, h2]
      · simp [find, h1, h2, ih]

theorem find_insertNew (k k' : Nat) (v : β) (l : List (Nat × β)) :
    find k' (insertNew k v l) = if k = k' then some ((find k l).getD v) else find k' l := by
  unfold insertNew has
  cases h : find k l with
  | none => simp [find_insertSorted k k' v l h]
  | some w =>
    simp only [Option.isSome_some, if_true, Option.getD_some]
    split
    · rename_i h1; subst h1; exact h
    · rfl

theorem find_set (k k' : Nat) (v : β) (l : List (Nat × β)) :
    find k' (set k v l) = if k = k' then some v else find k' l := by
  unfold set has
  cases h : find k l with
  | none => simp [find_insertSorted k k' v l h]
  | some w =>
    have := find_modify k k' (fun _ => v) l
    unfold modify at this
    by_cases hk : k = k'
    · subst hk; simp [this, h]
    · simp [this, hk, Ne.symm hk]

theorem find_erase (k k' : Nat) (l : List (Nat × β)) :
    find k' (erase k l) = if k = k' then none else find k' l := by
  unfold erase
  induction l with
  | nil => simp [find]
  | cons p r ih =>
    obtain ⟨k1, v1⟩ := p
    simp only [List.filter_cons]
    by_cases h1 : k1 = k
    · subst h1
      simp only [ne_eq, not_true_eq_false, decide_false, Bool.false_eq_true, if_false, ih, find]
      by_cases h2 : k1 = k' <;> simp [h2]
    · simp only [ne_eq, h1, not_false_eq_true, decide_true, if_true, find, ih]
      by_cases h2 : k1 = k'
      · subst h2
        have : ¬ k = k1 := fun h => h1 h.symm
        simp [this]
      · simp [h2]

theorem find_erase_some {k k' : Nat} {v : β} {l : List (Nat × β)} (h : find k' (erase k l) = some v) : find k' l = some v := by
  rw [find_erase] at h; split at h
  · cases h
  · exact h

theorem find_erase_none {k k' : Nat} {l : List (Nat × β)} (h : find k' l = none) : find k' (erase k l) = none := by
  rw [find_erase]; split
  · rfl
  · exact h

theorem find_map_val {γ : Type} (k : Nat) (f : β → γ) (l : List (Nat × β)) :
    find k (l.map (fun p => (p.1, f p.2))) = (find k l).map f := by
  induction l with
  | nil => simp [find]
  | cons p r ih =>
    obtain ⟨k1, v1⟩ := p
    simp only [List.map_cons, find]
    split <;> simp [ih]

theorem mem_keys_iff (k : Nat) (l : List (Nat × β)) : k ∈ keys l ↔ (find k l).isSome := by
  unfold keys
  induction l with
  | nil => simp [find]
  | cons p r ih =>
    obtain ⟨k1, v1⟩ := p
    simp only [List.map_cons, List.mem_cons, find]
    by_cases h : k1 = k
    · simp [h]
    · have : ¬ k = k1 := fun h' => h h'.symm
      simp [h, this, ih]

theorem find_some_mem {k : Nat} {v : β} {l : List (Nat × β)} (h : find k l = some v) : (k, v) ∈ l := by
  induction l with
  | nil => simp [find] at h
  | cons p r ih =>
    obtain ⟨k1, v1⟩ := p
    simp only [find] at h
    split at h
    · rename_i h1; subst h1; simp at h; subst h; simp
    · exact List.mem_cons_of_mem _ (ih h)

/-- strictly ascending keys: the iteration order of a `std::map` -/
def Asc (l : List (Nat × β)) : Prop := List.Pairwise (· < ·) (keys l)

theorem asc_nil : Asc ([] : List (Nat × β)) := by simp [Asc, keys]

theorem keys_insertSorted (k : Nat) (v : β) (l : List (Nat × β)) :
    ∀ x, x ∈ keys (insertSorted k v l) ↔ x = k ∨ x ∈ keys l := by
  intro x
  induction l with
  | nil => simp [insertSorted, keys]
  | cons p r ih =>
    simp only [insertSorted]
    split
    · simp [keys]
    · simp only [keys, List.map_cons, List.mem_cons] at ih ⊢
      rw [ih]; exact or_left_comm

theorem asc_insertSorted (k : Nat) (v : β) (l : List (Nat × β)) (h : Asc l) (hk : find k l = none) :
    Asc (insertSorted k v l) := by
  induction l with
  | nil => simp [insertSorted, Asc, keys]
  | cons p r ih =>
    obtain ⟨k1, v1⟩ := p
    simp only [find] at hk
    split at hk
    · simp at hk
    · rename_i hne
      simp only [insertSorted]
      simp only [Asc, keys, List.map_cons, List.pairwise_cons] at h
      split
      · rename_i hlt
        simp only [Asc, keys, List.map_cons, List.pairwise_cons, List.mem_cons]
        refine ⟨?_, h.1, h.2⟩
        intro x hx
        rcases hx with hx | hx
        · omega
        · have := h.1 x hx; omega
      · rename_i hge
        have ihr := ih h.2 hk
        simp only [Asc, keys, List.map_cons, List.pairwise_cons]
        refine ⟨?_, ihr⟩
        intro x hx
        have := (keys_insertSorted k v r x).mp hx
        rcases this with hx | hx
        · subst hx; omega
        · exact h.1 x hx

theorem asc_insertNew (k : Nat) (v : β) (l : List (Nat × β)) (h : Asc l) : Asc (insertNew k v l) := by
  unfold insertNew has
  cases hf : find k l with
  | none => simpa using asc_insertSorted k v l h hf
  | some w => simpa using h

theorem keys_map_same (f : Nat × β → Nat × β) (hf : ∀ p, (f p).1 = p.1) (l : List (Nat × β)) :
    keys (l.map f) = keys l := by
  unfold keys
  induction l with
  | nil => rfl
  | cons p r ih => simp [hf, ih]

theorem keys_modify (k : Nat) (f : β → β) (l : List (Nat × β)) : keys (modify k f l) = keys l := by
  unfold modify
  apply keys_map_same
  intro p; split <;> rfl

theorem asc_modify (k : Nat) (f : β → β) (l : List (Nat × β)) (h : Asc l) : Asc (modify k f l) := by
  unfold Asc; rw [keys_modify]; exact h

theorem asc_set (k : Nat) (v : β) (l : List (Nat × β)) (h : Asc l) : Asc (set k v l) := by
  unfold set has
  cases hf : find k l with
  | none => simpa using asc_insertSorted k v l h hf
  | some w => exact asc_modify k (fun _ => v) l h

theorem asc_filter (q : Nat × β → Bool) {l : List (Nat × β)} (h : Asc l) : Asc (l.filter q) := by
  unfold Asc keys at *
  exact List.Pairwise.sublist (List.Sublist.map _ List.filter_sublist) h

theorem asc_erase (k : Nat) (l : List (Nat × β)) (h : Asc l) : Asc (erase k l) := asc_filter _ h

theorem find_eq_none_of_lt {k : Nat} {l : List (Nat × β)} (h : ∀ x ∈ keys l, k < x) : find k l = none := by
  cases hf : find k l with
  | none => rfl
  | some v =>
    have : k ∈ keys l := (mem_keys_iff k l).mpr (by simp [hf])
    have := h k this; omega

/-- two maps with ascending keys and the same look-ups are equal -/
theorem asc_ext {l₁ l₂ : List (Nat × β)} (h₁ : Asc l₁) (h₂ : Asc l₂) (h : ∀ k, find k l₁ = find k l₂) : l₁ = l₂ := by
  induction l₁ generalizing l₂ with
  | nil =>
    cases l₂ with
    | nil => rfl
    | cons p r => have := h p.1; simp [find] at this
  | cons p r ih =>
    obtain ⟨k1, v1⟩ := p
    cases l₂ with
    | nil => have := h k1; simp [find] at this
    | cons q s =>
      obtain ⟨k2, v2⟩ := q
      simp only [Asc, keys, List.map_cons, List.pairwise_cons] at h₁ h₂
      have hk : k1 = k2 := by
        rcases Nat.lt_trichotomy k1 k2 with hlt | heq | hgt
        · have e := h k1
          simp only [find, if_true] at e
          have hne : ¬ k2 = k1 := by omega
          simp only [hne, if_false] at e
          have : find k1 s = none := find_eq_none_of_lt (fun x hx => by have := h₂.1 x hx; omega)
          rw [this] at e; cases e
        · exact heq
        · have e := h k2
          simp only [find, if_true] at e
          have hne : ¬ k1 = k2 := by omega
          simp only [hne, if_false] at e
          have : find k2 r = none := find_eq_none_of_lt (fun x hx => by have := h₁.1 x hx; omega)
          rw [this] at e; cases e
      subst hk
      have hv : v1 = v2 := by have e := h k1; simpa [find] using e
      subst hv
      congr 1
      apply ih h₁.2 h₂.2
      intro k
      have e := h k
      simp only [find] at e
      by_cases hk : k1 = k
      · subst hk
        rw [find_eq_none_of_lt (fun x hx => h₁.1 x hx), find_eq_none_of_lt (fun x hx => h₂.1 x hx)]
      · simpa [hk] using e

theorem asc_tail {p : Nat × β} {l : List (Nat × β)} (h : Asc (p :: l)) : Asc l := by
  simp only [Asc, keys, List.map_cons, List.pairwise_cons] at h; exact h.2

theorem asc_head_lt {p : Nat × β} {l : List (Nat × β)} (h : Asc (p :: l)) : ∀ x ∈ keys l, p.1 < x := by
  simp only [Asc, keys, List.map_cons, List.pairwise_cons] at h; exact h.1

/-- with ascending (hence distinct) keys, membership is look-up -/
theorem mem_iff_find {l : List (Nat × β)} (h : Asc l) (k : Nat) (v : β) : (k, v) ∈ l ↔ find k l = some v := by
  constructor
  · intro hm
    induction l with
    | nil => cases hm
    | cons p r ih =>
      obtain ⟨k1, v1⟩ := p
      simp only [List.mem_cons, Prod.mk.injEq] at hm
      simp only [find]
      rcases hm with ⟨rfl, rfl⟩ | hm
      · simp
      · have hlt := asc_head_lt h k ((mem_keys_iff k r).mpr (by rw [ih (asc_tail h) hm]; rfl))
        have : ¬ k1 = k := by simp only at hlt; omega
        simp [this, ih (asc_tail h) hm]
  · exact find_some_mem

end AL

namespace Graph
open AL

theorem foldl_ind {α β : Type} (I : α → Prop) (step : α → β → α) (hs : ∀ a b, I a → I (step a b)) :
    ∀ (l : List β) (a : α), I a → I (l.foldl step a) := by
  intro l
  induction l with
  | nil => intro a h; exact h
  | cons b rest ih => intro a h; exact ih _ (hs a b h)

/-- the three redundant views as functions: node set, outgoing / incoming entries, edge table -/
structure ConsV (d : Bool) (N : Nat → Bool) (O I : Nat → Nat → Option Nat) (E : Nat → Option (Nat × Nat)) : Prop where
  /-- every edge is listed by both end points (in both directions when undirected) -/
  edge_listed : ∀ e a b, E e = some (a, b) → O a b = some e ∧ I b a = some e ∧ (d = false → O b a = some e ∧ I a b = some e)
  /-- every outgoing entry has its edge-table entry -/
  out_edge : ∀ a b e, O a b = some e → E e = some (a, b) ∨ (d = false ∧ E e = some (b, a))
  /-- every incoming entry has its edge-table entry -/
  in_edge : ∀ a b e, I b a = some e → E e = some (a, b) ∨ (d = false ∧ E e = some (b, a))
  /-- entries live in rows of existing nodes -/
  out_node : ∀ a b e, O a b = some e → N a = true
  in_node : ∀ a b e, I b a = some e → N b = true

/-- ascending keys everywhere: iteration order of the `std::map`s -/
structure Sorted (g : G) : Prop where
  nodes : Asc g.nodes
  edges : Asc g.edges
  rows : ∀ n r, find n g.nodes = some r → Asc r.out ∧ Asc r.inn

/-- **the invariant**: every edge has two existing end points and is listed in out(top) / in(bottom)
(both directions when undirected), every node-table entry has its edge-table entry, ids are
below the counters, maps are ascending -/
structure Consistent (g : G) : Prop where
  views : ConsV g.directed g.hasNode g.outE g.inE (fun e => find e g.edges)
  node_lt : ∀ n, g.hasNode n = true → n < g.nextNode
  edge_lt : ∀ e, g.hasEdge e = true → e < g.nextEdge
  sorted : Sorted g

namespace G

theorem hasNode_iff (g : G) (n : Nat) : g.hasNode n = true ↔ ∃ r, find n g.nodes = some r := by
  unfold hasNode has; cases find n g.nodes <;> simp

theorem outE_some_hasNode {g : G} {a b e : Nat} (h : g.outE a b = some e) : g.hasNode a = true := by
  unfold outE at h; unfold hasNode has
  cases hf : find a g.nodes <;> simp_all

theorem inE_some_hasNode {g : G} {a b e : Nat} (h : g.inE b a = some e) : g.hasNode b = true := by
  unfold inE at h; unfold hasNode has
  cases hf : find b g.nodes <;> simp_all

theorem find_cases {β : Type} (k : Nat) (l : List (Nat × β)) : find k l = none ∨ ∃ r, find k l = some r := by
  cases find k l <;> simp

theorem _root_.Bpp.Graph.find_none_of_has_false {β : Type} {k : Nat} {l : List (Nat × β)} (h : AL.has k l = false) :
    find k l = none := by
  unfold has at h; cases hf : find k l <;> simp_all

/-! ### node tables rewritten row by row

`linkInNodeStructure_`, `unlinkInNodeStructure_`, the exchange of `switchNodes` and the emptying of all rows
leave every key in place and rewrite the row under key `x` by some `F x`: the views of such a table are
read off once. -/

/-- `g'` holds the rows of `g`, the one of node `x` rewritten by `F x` -/
def RowsBy (F : Nat → Row → Row) (g g' : G) : Prop := ∀ x, find x g'.nodes = (find x g.nodes).map (F x)

section RowsBy
variable {F : Nat → Row → Row} {g g' : G} (h : RowsBy F g g')
include h

theorem RowsBy.hasNode (n : Nat) : g'.hasNode n = g.hasNode n := by
  simp only [G.hasNode, has, h n, Option.isSome_map]

theorem RowsBy.outE (x y : Nat) : g'.outE x y = (find x g.nodes).bind (fun r => find y (F x r).out) := by
  simp only [G.outE, h x, Option.bind_map]; rfl

theorem RowsBy.inE (x y : Nat) : g'.inE y x = (find y g.nodes).bind (fun r => find x (F y r).inn) := by
  simp only [G.inE, h y, Option.bind_map]; rfl

theorem RowsBy.rows (hF : ∀ x r, Asc r.out ∧ Asc r.inn → Asc (F x r).out ∧ Asc (F x r).inn)
    (hs : ∀ n r, find n g.nodes = some r → Asc r.out ∧ Asc r.inn) (n : Nat) (r : Row) (hr : find n g'.nodes = some r) :
    Asc r.out ∧ Asc r.inn := by
  rw [h n] at hr
  cases hf : find n g.nodes <;> rw [hf] at hr <;> cases hr
  exact hF n _ (hs n _ hf)

theorem RowsBy.sorted (hk : AL.keys g'.nodes = AL.keys g.nodes) (he : g'.edges = g.edges)
    (hF : ∀ x r, Asc r.out ∧ Asc r.inn → Asc (F x r).out ∧ Asc (F x r).inn) (hs : Sorted g) : Sorted g' :=
  ⟨by unfold Asc; rw [hk]; exact hs.nodes, by rw [he]; exact hs.edges, h.rows hF hs.rows⟩

end RowsBy

theorem row_linkInNode (a b e : Nat) (g : G) :
    RowsBy (fun x r => { out := if x = a then insertNew b e r.out else r.out,
                         inn := if x = b then insertNew a e r.inn else r.inn }) g (linkInNode a b e g) := by
  intro x
  simp only [linkInNode, find_modify, Option.map_map]
  congr 1; funext r
  simp only [Function.comp_apply]
  split <;> split <;> rfl

theorem hasNode_linkInNode (a b e n : Nat) (g : G) : (linkInNode a b e g).hasNode n = g.hasNode n :=
  (row_linkInNode a b e g).hasNode n

theorem outE_linkInNode (a b e x y : Nat) (g : G) :
    (linkInNode a b e g).outE x y =
      if x = a ∧ y = b ∧ g.hasNode a = true then some ((g.outE a b).getD e) else g.outE x y := by
  rw [(row_linkInNode a b e g).outE]
  simp only [outE, hasNode, has]
  by_cases h2 : x = a
  · subst h2
    rcases find_cases x g.nodes with hf | ⟨r, hf⟩
    · simp [hf]
    · by_cases h3 : y = b
      · subst h3; simp [hf, find_insertNew]
      · simp [hf, find_insertNew, h3, Ne.symm h3]
  · rcases find_cases x g.nodes with hf | ⟨r, hf⟩ <;> simp [hf, h2]

theorem inE_linkInNode (a b e x y : Nat) (g : G) :
    (linkInNode a b e g).inE y x =
      if y = b ∧ x = a ∧ g.hasNode b = true then some ((g.inE b a).getD e) else g.inE y x := by
  rw [(row_linkInNode a b e g).inE]
  simp only [inE, hasNode, has]
  by_cases h2 : y = b
  · subst h2
    rcases find_cases y g.nodes with hf | ⟨r, hf⟩
    · simp [hf]
    · by_cases h3 : x = a
      · subst h3; simp [hf, find_insertNew]
      · simp [hf, find_insertNew, h3, Ne.symm h3]
  · rcases find_cases y g.nodes with hf | ⟨r, hf⟩ <;> simp [hf, h2]

theorem keys_linkInNode (a b e : Nat) (g : G) : AL.keys (linkInNode a b e g).nodes = AL.keys g.nodes := by
  simp [linkInNode, keys_modify]

theorem sorted_linkInNode (a b e : Nat) (g : G) (h : Sorted g) : Sorted (linkInNode a b e g) := by
  refine (row_linkInNode a b e g).sorted (keys_linkInNode a b e g) rfl (fun x r hr => ⟨?_, ?_⟩) h <;> dsimp only <;> split
  · exact asc_insertNew _ _ _ hr.1
  · exact hr.1
  · exact asc_insertNew _ _ _ hr.2
  · exact hr.2

theorem find_linkInEdge (a b e e' : Nat) (g : G) :
    find e' (linkInEdge a b e g).edges = if e = e' then some (a, b) else find e' g.edges := by
  simp [linkInEdge, find_set]

theorem sorted_linkInEdge (a b e : Nat) (g : G) (h : Sorted g) : Sorted (linkInEdge a b e g) :=
  ⟨h.nodes, asc_set _ _ _ h.edges, h.rows⟩

theorem unlinkInNode_eq (a b : Nat) (g : G) : unlinkInNode a b g =
    match g.outE a b, g.inE b a with
    | some e, some _ => .ok e { g with nodes := modify b (fun r => { r with inn := erase a r.inn })
                                                 (modify a (fun r => { r with out := erase b r.out }) g.nodes) }
    | _, _ => .exc g := by
  unfold unlinkInNode outE inE
  cases find a g.nodes with
  | none => rfl
  | some ra =>
    dsimp only [Option.bind_some]
    cases find b ra.out with
    | none => rfl
    | some e =>
      cases find b g.nodes with
      | none => rfl
      | some rb => dsimp only [Option.bind_some]; cases find a rb.inn <;> rfl

theorem unlinkInNode_exc {a b : Nat} {g g' : G} (h : unlinkInNode a b g = .exc g') : g' = g := by
  rw [unlinkInNode_eq] at h
  split at h
  · cases h
  · injection h with h; exact h.symm

/-- what a successful `unlinkInNodeStructure_` found and did -/
structure UnlinkedIn (a b e : Nat) (g g' : G) : Prop where
  fwd : g.outE a b = some e
  bwd : (g.inE b a).isSome = true
  row : ∀ x, find x g'.nodes = (find x g.nodes).map (fun r =>
      { out := if x = a then erase b r.out else r.out, inn := if x = b then erase a r.inn else r.inn })
  keys : AL.keys g'.nodes = AL.keys g.nodes
  rest : g'.edges = g.edges ∧ g'.directed = g.directed ∧ g'.nextNode = g.nextNode ∧ g'.nextEdge = g.nextEdge
    ∧ g'.root = g.root ∧ g'.pending = g.pending

theorem unlinkInNode_ok {a b e : Nat} {g g' : G} (h : unlinkInNode a b g = .ok e g') : UnlinkedIn a b e g g' := by
  rw [unlinkInNode_eq] at h
  split at h
  · rename_i e0 _ hO hI
    injection h with h1 h2
    subst h1; subst h2
    refine ⟨hO, by rw [hI]; rfl, fun x => ?_, by simp [keys_modify], ⟨rfl, rfl, rfl, rfl, rfl, rfl⟩⟩
    simp only [find_modify, Option.map_map]
    congr 1; funext r
    simp only [Function.comp_apply]
    split <;> split <;> rfl
  · cases h

theorem unlinkInNode_succeeds {a b e e' : Nat} {g : G} (h1 : g.outE a b = some e) (h2 : g.inE b a = some e') :
    ∃ g', unlinkInNode a b g = .ok e g' := by
  rw [unlinkInNode_eq, h1, h2]; exact ⟨_, rfl⟩

theorem UnlinkedIn.hasNode {a b e : Nat} {g g' : G} (h : UnlinkedIn a b e g g') (n : Nat) : g'.hasNode n = g.hasNode n :=
  RowsBy.hasNode h.row n

theorem UnlinkedIn.outE {a b e : Nat} {g g' : G} (h : UnlinkedIn a b e g g') (x y : Nat) :
    g'.outE x y = if x = a ∧ y = b then none else g.outE x y := by
  rw [RowsBy.outE h.row, G.outE]
  by_cases h1 : x = a
  · subst h1
    rcases find_cases x g.nodes with hf | ⟨r, hf⟩
    · simp [hf]
    · by_cases h2 : y = b
      · subst h2; simp [hf, find_erase]
      · simp [hf, find_erase, h2, Ne.symm h2]
  · simp [h1]

theorem UnlinkedIn.inE {a b e : Nat} {g g' : G} (h : UnlinkedIn a b e g g') (x y : Nat) :
    g'.inE y x = if y = b ∧ x = a then none else g.inE y x := by
  rw [RowsBy.inE h.row, G.inE]
  by_cases h1 : y = b
  · subst h1
    rcases find_cases y g.nodes with hf | ⟨r, hf⟩
    · simp [hf]
    · by_cases h2 : x = a
      · subst h2; simp [hf, find_erase]
      · simp [hf, find_erase, h2, Ne.symm h2]
  · simp [h1]

theorem UnlinkedIn.sorted {a b e : Nat} {g g' : G} (h : UnlinkedIn a b e g g') (hs : Sorted g) : Sorted g' := by
  refine RowsBy.sorted h.row h.keys h.rest.1 (fun x r hr => ⟨?_, ?_⟩) hs <;> dsimp only <;> split
  · exact asc_erase _ _ hr.1
  · exact hr.1
  · exact asc_erase _ _ hr.2
  · exact hr.2

end G

/-! ### view-level preservation

In a consistent graph the node rows are determined by the edge table (`ConsV.iff_related`); what an operation
does to the rows has to be what it does to the edge table. -/

section views
variable {d : Bool} {N N' : Nat → Bool} {O I O' I' : Nat → Nat → Option Nat} {E E' : Nat → Option (Nat × Nat)}

/-- the edge table relates `a` to `b` through `e` (in either order when undirected) -/
def Related (d : Bool) (E : Nat → Option (Nat × Nat)) (a b e : Nat) : Prop :=
  E e = some (a, b) ∨ (d = false ∧ E e = some (b, a))

theorem Related.symm {a b e : Nat} (hd : d = false) (h : Related d E a b e) : Related d E b a e :=
  h.elim (fun h => Or.inr ⟨hd, h⟩) (fun h => Or.inl h.2)

theorem ConsV.iff_related : ConsV d N O I E ↔
    (∀ a b e, O a b = some e ↔ Related d E a b e) ∧ (∀ a b e, I b a = some e ↔ Related d E a b e) ∧
    (∀ a b e, Related d E a b e → N a = true ∧ N b = true) := by
  constructor
  · intro hc
    have hr : ∀ a b e, Related d E a b e → O a b = some e ∧ I b a = some e := by
      rintro a b e (h | ⟨hd, h⟩)
      · exact ⟨(hc.edge_listed e a b h).1, (hc.edge_listed e a b h).2.1⟩
      · exact (hc.edge_listed e b a h).2.2 hd
    exact ⟨fun a b e => ⟨hc.out_edge a b e, fun h => (hr a b e h).1⟩, fun a b e => ⟨hc.in_edge a b e, fun h => (hr a b e h).2⟩,
      fun a b e h => ⟨hc.out_node a b e (hr a b e h).1, hc.in_node a b e (hr a b e h).2⟩⟩
  · rintro ⟨hO, hI, hN⟩
    exact ⟨fun e a b h => ⟨(hO a b e).2 (Or.inl h), (hI a b e).2 (Or.inl h),
        fun hd => ⟨(hO b a e).2 (Or.inr ⟨hd, h⟩), (hI b a e).2 (Or.inr ⟨hd, h⟩)⟩⟩,
      fun a b e => (hO a b e).1, fun a b e => (hI a b e).1, fun a b e h => (hN a b e ((hO a b e).1 h)).1,
      fun a b e h => (hN a b e ((hI a b e).1 h)).2⟩

theorem ConsV.out_some (hc : ConsV d N O I E) {a b e : Nat} (h : O a b = some e) :
    I b a = some e ∧ (E e).isSome = true ∧ (d = false → O b a = some e ∧ I a b = some e) := by
  obtain ⟨rO, rI, _⟩ := ConsV.iff_related.1 hc
  have hr := (rO a b e).1 h
  exact ⟨(rI a b e).2 hr, by rcases hr with hr | ⟨_, hr⟩ <;> rw [hr] <;> rfl,
    fun hd => ⟨(rO b a e).2 (hr.symm hd), (rI b a e).2 (hr.symm hd)⟩⟩

theorem ConsV.in_some (hc : ConsV d N O I E) {a b e : Nat} (h : I b a = some e) : O a b = some e := by
  obtain ⟨rO, rI, _⟩ := ConsV.iff_related.1 hc
  exact (rO a b e).2 ((rI a b e).1 h)

/-- in a consistent graph an absent outgoing entry means the whole relation is absent -/
theorem ConsV.absent (hc : ConsV d N O I E) {a b : Nat} (hO : O a b = none) :
    I b a = none ∧ (d = false → O b a = none ∧ I a b = none) := by
  obtain ⟨rO, rI, _⟩ := ConsV.iff_related.1 hc
  have hno : ∀ e, ¬ Related d E a b e := fun e h => by rw [(rO a b e).2 h] at hO; cases hO
  exact ⟨Option.eq_none_iff_forall_ne_some.2 fun e h => hno e ((rI a b e).1 h), fun hd =>
    ⟨Option.eq_none_iff_forall_ne_some.2 fun e h => hno e (((rO b a e).1 h).symm hd),
     Option.eq_none_iff_forall_ne_some.2 fun e h => hno e (((rI b a e).1 h).symm hd)⟩⟩

/-- rows (`F` = outgoing, or incoming with the arguments swapped) that follow the edge table still do when the
relation a -> b is added to both under the unused edge id `e` -/
theorem related_link {F F' : Nat → Nat → Option Nat} {a b e : Nat} (rF : ∀ x y e', F x y = some e' ↔ Related d E x y e')
    (hF : F a b = none) (hFr : d = false → F b a = none) (hE : E e = none)
    (hF' : ∀ x y, F' x y = if x = a ∧ y = b then some e else if d = false ∧ x = b ∧ y = a then some e else F x y)
    (hE' : ∀ e', E' e' = if e = e' then some (a, b) else E e') (x y e' : Nat) :
    F' x y = some e' ↔ Related d E' x y e' := by
  simp only [Related] at rF ⊢
  rw [hF', hE']; grind

/-- … and when the relation a -> b (edge `e`) is removed from both -/
theorem related_unlink {F F' : Nat → Nat → Option Nat} {a b e : Nat} (rF : ∀ x y e', F x y = some e' ↔ Related d E x y e')
    (hF : F a b = some e)
    (hF' : ∀ x y, F' x y = if (x = a ∧ y = b) ∨ (d = false ∧ x = b ∧ y = a) then none else F x y)
    (hE' : ∀ e', E' e' = if e = e' then none else E e') (x y e' : Nat) :
    F' x y = some e' ↔ Related d E' x y e' := by
  have := (rF a b e).1 hF
  simp only [Related] at rF this ⊢
  rw [hF', hE']; grind

theorem ConsV.link (hc : ConsV d N O I E) (a b e : Nat) (ha : N a = true) (hb : N b = true)
    (hO : O a b = none) (hE : E e = none)
    (hN : ∀ x, N' x = N x)
    (hO' : ∀ x y, O' x y = if x = a ∧ y = b then some e else if d = false ∧ x = b ∧ y = a then some e else O x y)
    (hI' : ∀ x y, I' y x = if y = b ∧ x = a then some e else if d = false ∧ y = a ∧ x = b then some e else I y x)
    (hE' : ∀ e', E' e' = if e = e' then some (a, b) else E e') :
    ConsV d N' O' I' E' := by
  have habs := hc.absent hO
  obtain ⟨rO, rI, rN⟩ := ConsV.iff_related.1 hc
  refine ConsV.iff_related.2 ⟨related_link rO hO (fun hd => (habs.2 hd).1) hE hO' hE',
    fun x y => related_link (F := fun x y => I y x) (F' := fun x y => I' y x) (fun x y => rI x y) habs.1 (fun hd => (habs.2 hd).2) hE (fun x y => (hI' x y).trans (by simp only [and_comm])) hE' x y,
    fun x y e' h => ?_⟩
  rw [hN, hN]
  simp only [Related, hE'] at h
  split at h
  · rcases h with h | ⟨_, h⟩ <;> cases h <;> simp [ha, hb]
  · exact rN x y e' h

theorem ConsV.unlink (hc : ConsV d N O I E) (a b e : Nat) (hO : O a b = some e)
    (hN : ∀ x, N' x = N x)
    (hO' : ∀ x y, O' x y = if (x = a ∧ y = b) ∨ (d = false ∧ x = b ∧ y = a) then none else O x y)
    (hI' : ∀ x y, I' y x = if (y = b ∧ x = a) ∨ (d = false ∧ y = a ∧ x = b) then none else I y x)
    (hE' : ∀ e', E' e' = if e = e' then none else E e') :
    ConsV d N' O' I' E' := by
  obtain ⟨rO, rI, rN⟩ := ConsV.iff_related.1 hc
  refine ConsV.iff_related.2 ⟨related_unlink rO hO hO' hE',
    fun x y => related_unlink (F := fun x y => I y x) (F' := fun x y => I' y x) (fun x y => rI x y) (hc.out_some hO).1 (fun x y => (hI' x y).trans (by simp only [and_comm])) hE' x y,
    fun x y e' h => ?_⟩
  rw [hN, hN]
  simp only [Related, hE'] at h
  split at h
  · rcases h with h | ⟨_, h⟩ <;> cases h
  · exact rN x y e' h

theorem ConsV.out_none (hc : ConsV d N O I E) {n : Nat} (hn : N n = false) (y : Nat) : O n y = none := by
  cases h : O n y with
  | none => rfl
  | some e => rw [hc.out_node n y e h] at hn; cases hn

theorem ConsV.in_none (hc : ConsV d N O I E) {n : Nat} (hn : N n = false) (y : Nat) : I n y = none := by
  cases h : I n y with
  | none => rfl
  | some e => rw [hc.in_node y n e h] at hn; cases hn

theorem ConsV.congr (hc : ConsV d N O I E) (hO : ∀ x y, O' x y = O x y) (hI : ∀ x y, I' y x = I y x)
    (hout : ∀ a b e, O a b = some e → N' a = true) (hin : ∀ a b e, I b a = some e → N' b = true) : ConsV d N' O' I' E := by
  cases funext fun x => funext (hO x)
  cases funext fun x => funext fun y => hI y x
  exact ⟨hc.edge_listed, hc.out_edge, hc.in_edge, hout, hin⟩

theorem eq_of_ite_none {F F' : Nat → Nat → Option Nat} {n : Nat} (hF : ∀ y, F n y = none)
    (hF' : ∀ x y, F' x y = if x = n then none else F x y) (x y : Nat) : F' x y = F x y := by
  rw [hF']; split
  · subst x; exact (hF y).symm
  · rfl

theorem ConsV.createNode (hc : ConsV d N O I E) (n : Nat) (hn : N n = false)
    (hN : ∀ x, N' x = (decide (x = n) || N x))
    (hO' : ∀ x y, O' x y = if x = n then none else O x y)
    (hI' : ∀ x y, I' y x = if y = n then none else I y x) :
    ConsV d N' O' I' E :=
  hc.congr (eq_of_ite_none (hc.out_none hn) hO') (fun x y => eq_of_ite_none (F' := fun y x => I' y x) (hc.in_none hn) (fun y x => hI' x y) y x)
    (fun a b e h => by rw [hN, hc.out_node a b e h, Bool.or_true]) (fun a b e h => by rw [hN, hc.in_node a b e h, Bool.or_true])

/-- erasing the row of an isolated node -/
theorem ConsV.eraseNode (hc : ConsV d N O I E) (n : Nat) (hout : ∀ y, O n y = none) (hin : ∀ y, I n y = none)
    (hN : ∀ x, N' x = (!decide (x = n) && N x))
    (hO' : ∀ x y, O' x y = if x = n then none else O x y)
    (hI' : ∀ x y, I' y x = if y = n then none else I y x) :
    ConsV d N' O' I' E := by
  refine hc.congr (eq_of_ite_none hout hO') (fun x y => eq_of_ite_none (F' := fun y x => I' y x) hin (fun y x => hI' x y) y x)
    (fun a b e h => ?_) (fun a b e h => ?_)
  · have : a ≠ n := fun hh => by rw [hh, hout] at h; cases h
    simp [hN, this, hc.out_node a b e h]
  · have : b ≠ n := fun hh => by rw [hh, hin] at h; cases h
    simp [hN, this, hc.in_node a b e h]

/-- `switchNodes` on a directed graph: the relation father->son (edge e) becomes son->father -/
theorem ConsV.switch (hc : ConsV true N O I E) (f s e : Nat) (hO : O f s = some e)
    (hrec : f ≠ s → O s f = none)
    (hN : ∀ x, N' x = N x)
    (hO' : ∀ x y, O' x y = if x = s ∧ y = f then some e else if x = f ∧ y = s then none else O x y)
    (hI' : ∀ x y, I' y x = if y = f ∧ x = s then some e else if y = s ∧ x = f then none else I y x)
    (hE' : ∀ e', E' e' = if e = e' then some (s, f) else E e') :
    ConsV true N' O' I' E' := by
  -- the relation f -> s is removed, then s -> f is added under the same edge id
  have h1 := hc.unlink f s e hO (N' := N) (fun _ => rfl) (fun x y => rfl) (fun x y => rfl) (fun e' => rfl)
  refine h1.link s f e (hc.in_node f s e (hc.out_some hO).1) (hc.out_node f s e hO) ?_ (by simp) hN
    (fun x y => ?_) (fun x y => ?_) (fun e' => ?_)
  · by_cases h : f = s
    · subst h; simp
    · simp [hrec h, h]
  · simp [hO' x y]
  · simp [hI' x y]
  · rw [hE']; split <;> simp [*]

/-- rows that hold exactly the triples of a list `L`: consistent as soon as `L` and the edge table agree
(`makeDirected`, `makeUndirected` rebuild the rows from such a list) -/
theorem ConsV.of_triples {L : List (Nat × Nat × Nat)}
    (hO : ∀ x y e, O x y = some e ↔ (x, y, e) ∈ L) (hI : ∀ x y e, I y x = some e ↔ (x, y, e) ∈ L)
    (hE : ∀ e a b, E e = some (a, b) → (a, b, e) ∈ L ∧ (d = false → (b, a, e) ∈ L))
    (hL : ∀ a b e, (a, b, e) ∈ L → (E e = some (a, b) ∨ (d = false ∧ E e = some (b, a))) ∧ N a = true ∧ N b = true) :
    ConsV d N O I E := by
  have hr : ∀ a b e, (a, b, e) ∈ L ↔ Related d E a b e :=
    fun a b e => ⟨fun h => (hL a b e h).1, fun h => h.elim (fun h => (hE e a b h).1) (fun h => (hE e b a h.2).2 h.1)⟩
  exact ConsV.iff_related.2 ⟨fun a b e => (hO a b e).trans (hr a b e), fun a b e => (hI a b e).trans (hr a b e),
    fun a b e h => (hL a b e ((hr a b e).2 h)).2⟩

/-- `makeUndirected`: the node rows become the symmetric closure of the outgoing relation -/
theorem ConsV.undirect (hc : ConsV true N O I E)
    (hnr : ∀ x y e e', O x y = some e → O y x = some e' → x = y)
    (hN : ∀ x, N' x = N x)
    (hO' : ∀ x y, O' x y = (O x y).orElse (fun _ => O y x))
    (hI' : ∀ x y, I' y x = (O x y).orElse (fun _ => O y x)) :
    ConsV false N' O' I' E := by
  obtain ⟨rO, _, rN⟩ := ConsV.iff_related.1 hc
  have hE : ∀ a b e, O a b = some e ↔ E e = some (a, b) := fun a b e => by simp [rO, Related]
  -- the closure holds `e` between `x` and `y` iff the edge table relates them in one of the two orders
  have key : ∀ x y e, (O x y).orElse (fun _ => O y x) = some e ↔ Related false E x y e := by
    intro x y e
    simp only [Related, true_and, ← hE]
    cases hx : O x y with
    | none => simp
    | some e' =>
      refine ⟨Or.inl, fun h => h.elim id fun h => ?_⟩
      cases hnr x y e' e hx h; exact hx.symm.trans h
  refine ConsV.iff_related.2 ⟨fun a b e => by rw [hO', key], fun a b e => by rw [hI', key], fun a b e h => ?_⟩
  rw [hN, hN]
  exact h.elim (fun h => rN a b e (Or.inl h)) fun h => (rN b a e (Or.inl h.2)).symm

end views

namespace G
/-! ### graph-level: what each mutator does to a consistent graph -/

/-- the property holds of the state left by the operation, whether it succeeded or raised -/
def _root_.Bpp.Graph.GOut.All {α : Type} (P : G → Prop) : GOut α → Prop
  | .ok _ g => P g
  | .exc g => P g

theorem _root_.Bpp.Graph.GOut.All.state {α : Type} {P : G → Prop} {r : GOut α} (h : r.All P) : P r.state := by
  cases r <;> exact h

theorem _root_.Bpp.Graph.GOut.All.of_state {α : Type} {P : G → Prop} {r : GOut α} (h : P r.state) : r.All P := by
  cases r <;> exact h

theorem _root_.Bpp.Graph.GOut.All.mono {α : Type} {P Q : G → Prop} {r : GOut α} (h : r.All P) (hPQ : ∀ g, P g → Q g) : r.All Q :=
  .of_state (hPQ _ h.state)

theorem cons_absent {g : G} (hc : Consistent g) {a b : Nat} (hO : g.outE a b = none) :
    g.inE b a = none ∧ (g.directed = false → g.outE b a = none ∧ g.inE a b = none) :=
  hc.views.absent hO

theorem cons_out_some {g : G} (hc : Consistent g) {a b e : Nat} (h : g.outE a b = some e) :
    g.inE b a = some e ∧ g.hasEdge e = true ∧ (g.directed = false → g.outE b a = some e ∧ g.inE a b = some e) :=
  hc.views.out_some h

theorem _root_.Bpp.Graph.Consistent.of_same {g g' : G} (hc : Consistent g) (h1 : g'.directed = g.directed) (h2 : g'.nodes = g.nodes)
    (h3 : g'.edges = g.edges) (h4 : g.nextNode ≤ g'.nextNode) (h5 : g.nextEdge ≤ g'.nextEdge) : Consistent g' := by
  cases g; cases g'
  simp only at h1 h2 h3 h4 h5
  subst h1 h2 h3
  exact ⟨hc.views, fun n hn => Nat.lt_of_lt_of_le (hc.node_lt n hn) h4, fun e he => Nat.lt_of_lt_of_le (hc.edge_lt e he) h5,
    ⟨hc.sorted.nodes, hc.sorted.edges, hc.sorted.rows⟩⟩

theorem outE_linkInEdge (a b e x y : Nat) (g : G) : (linkInEdge a b e g).outE x y = g.outE x y := rfl
theorem inE_linkInEdge (a b e x y : Nat) (g : G) : (linkInEdge a b e g).inE y x = g.inE y x := rfl
theorem hasNode_linkInEdge (a b e x : Nat) (g : G) : (linkInEdge a b e g).hasNode x = g.hasNode x := rfl

section linkWrite
variable {g : G} {a b : Nat} (e : Nat) (ha : g.hasNode a = true) (hb : g.hasNode b = true)
  (hO : g.outE a b = none) (hI : g.inE b a = none) (hU : g.directed = false → g.outE b a = none ∧ g.inE a b = none)
include ha hb hO hI hU

theorem outE_linkWrite (x y : Nat) : (linkWrite a b e g).outE x y =
    if x = a ∧ y = b then some e else if g.directed = false ∧ x = b ∧ y = a then some e else g.outE x y := by
  unfold linkWrite
  cases hd : g.directed
  · have := hU hd
    simp only [outE_linkInEdge, outE_linkInNode, hasNode_linkInNode, Bool.false_eq_true, if_false]
    grind
  · simp only [outE_linkInEdge, outE_linkInNode, if_true]
    grind

theorem inE_linkWrite (x y : Nat) : (linkWrite a b e g).inE y x =
    if y = b ∧ x = a then some e else if g.directed = false ∧ y = a ∧ x = b then some e else g.inE y x := by
  unfold linkWrite
  cases hd : g.directed
  · have := hU hd
    simp only [inE_linkInEdge, inE_linkInNode, hasNode_linkInNode, Bool.false_eq_true, if_false]
    grind
  · simp only [inE_linkInEdge, inE_linkInNode, if_true]
    grind

end linkWrite

theorem hasNode_linkWrite (a b e x : Nat) (g : G) : (linkWrite a b e g).hasNode x = g.hasNode x := by
  unfold linkWrite
  cases g.directed <;> simp [hasNode_linkInEdge, hasNode_linkInNode]

theorem find_linkWrite (a b e e' : Nat) (g : G) :
    find e' (linkWrite a b e g).edges = if e = e' then some (a, b) else find e' g.edges := by
  unfold linkWrite
  rw [find_linkInEdge]
  cases g.directed <;> rfl

theorem edges_linkWrite (a b e : Nat) (g : G) : (linkWrite a b e g).edges = AL.set e (a, b) g.edges := by
  unfold linkWrite
  cases g.directed <;> simp [linkInEdge, linkInNode]

theorem linkWrite_rest (a b e : Nat) (g : G) : (linkWrite a b e g).directed = g.directed ∧
    (linkWrite a b e g).nextNode = g.nextNode ∧ (linkWrite a b e g).nextEdge = g.nextEdge ∧
    (linkWrite a b e g).root = g.root ∧ (linkWrite a b e g).pending = g.pending := by
  unfold linkWrite; cases hd : g.directed <;> simp [linkInEdge, linkInNode, hd]

theorem sorted_linkWrite (a b e : Nat) (g : G) (h : Sorted g) : Sorted (linkWrite a b e g) := by
  unfold linkWrite
  cases g.directed
  · exact sorted_linkInEdge _ _ _ _ (sorted_linkInNode _ _ _ _ (sorted_linkInNode _ _ _ _ h))
  · exact sorted_linkInEdge _ _ _ _ (sorted_linkInNode _ _ _ _ h)

/-- writing a fresh edge between two existing, unrelated nodes keeps the graph consistent -/
theorem consistent_linkWrite {g : G} (hc : Consistent g) {a b e : Nat} (ha : g.hasNode a = true) (hb : g.hasNode b = true)
    (hO : g.outE a b = none) (hE : find e g.edges = none) (hlt : e < g.nextEdge) :
    Consistent (linkWrite a b e g) := by
  have habs := cons_absent hc hO
  have r := linkWrite_rest a b e g
  refine ⟨?_, ?_, ?_, sorted_linkWrite _ _ _ _ hc.sorted⟩
  · rw [r.1]
    exact hc.views.link a b e ha hb hO hE (hasNode_linkWrite a b e · g)
      (outE_linkWrite e ha hb hO habs.1 habs.2) (fun x y => inE_linkWrite e ha hb hO habs.1 habs.2 x y)
      (fun e' => find_linkWrite a b e e' g)
  · intro n hn; rw [hasNode_linkWrite] at hn; rw [r.2.1]; exact hc.node_lt n hn
  · intro e' he'
    rw [r.2.2.1]
    simp only [hasEdge, has, find_linkWrite] at he'
    by_cases h : e = e'
    · subst h; exact hlt
    · simp only [h, if_false] at he'; exact hc.edge_lt e' he'

theorem fresh_node {g : G} (hc : Consistent g) : g.hasNode g.nextNode = false := by
  cases h : g.hasNode g.nextNode with
  | false => rfl
  | true => have := hc.node_lt _ h; omega

theorem fresh_edge {g : G} (hc : Consistent g) {e : Nat} (he : g.nextEdge ≤ e) : find e g.edges = none := by
  rcases find_cases e g.edges with hf | ⟨r, hf⟩
  · exact hf
  · have : g.hasEdge e = true := by simp [hasEdge, has, hf]
    have := hc.edge_lt _ this; omega

theorem linkRefused_false {g : G} {a b : Nat} (h : linkRefused g a b = false) :
    g.hasNode a = true ∧ g.hasNode b = true ∧ g.outE a b = none := by
  unfold linkRefused at h
  cases h1 : g.hasNode a <;> cases h2 : g.hasNode b <;> cases h3 : g.outE a b <;> simp_all

theorem consistent_bump {g : G} (hc : Consistent g) : Consistent { g with nextEdge := g.nextEdge + 1 } :=
  hc.of_same rfl rfl rfl (Nat.le_refl _) (Nat.le_succ _)

theorem link_consistent {g : G} (hc : Consistent g) (a b : Nat) : (link a b g).All Consistent := by
  unfold link
  cases hr : linkRefused g a b
  · obtain ⟨ha, hb, hO⟩ := linkRefused_false hr
    exact consistent_linkWrite (consistent_bump hc) ha hb hO (fresh_edge hc (Nat.le_refl _)) (Nat.lt_succ_self _)
  · exact hc

theorem linkE_consistent {g : G} (hc : Consistent g) (a b e : Nat) : (linkE a b e g).All Consistent := by
  unfold linkE
  cases he : g.hasEdge e
  · cases hr : linkRefused g a b
    · obtain ⟨ha, hb, hO⟩ := linkRefused_false hr
      simp only [Bool.false_eq_true, if_false, GOut.All]
      by_cases hge : e ≥ g.nextEdge
      · simp only [hge, if_true]
        exact consistent_linkWrite (g := { g with nextEdge := e + 1 })
          (hc.of_same rfl rfl rfl (Nat.le_refl _) (Nat.le_succ_of_le hge)) ha hb hO (find_none_of_has_false he) (Nat.lt_succ_self _)
      · simp only [hge, if_false]
        exact consistent_linkWrite hc ha hb hO (find_none_of_has_false he) (Nat.lt_of_not_le hge)
    · exact hc
  · exact hc

theorem find_createNode (g : G) (x : Nat) :
    find x (AL.set g.nextNode ({} : Row) g.nodes) = if g.nextNode = x then some {} else find x g.nodes :=
  find_set _ _ _ _

/-- what `createNode` did, on the views -/
structure Created (g g1 : G) : Prop where
  hasNode : ∀ x, g1.hasNode x = (decide (x = g.nextNode) || g.hasNode x)
  outE : ∀ x y, g1.outE x y = if x = g.nextNode then none else g.outE x y
  inE : ∀ x y, g1.inE y x = if y = g.nextNode then none else g.inE y x
  nodes : g1.nodes = AL.set g.nextNode {} g.nodes
  rest : g1.edges = g.edges ∧ g1.directed = g.directed ∧ g1.nextNode = g.nextNode + 1 ∧ g1.nextEdge = g.nextEdge ∧
    g1.root = g.root ∧ g1.pending = g.pending

theorem createNode_created (g : G) :
    Created g { g with nextNode := g.nextNode + 1, nodes := AL.set g.nextNode {} g.nodes } := by
  refine ⟨fun x => ?_, fun x y => ?_, fun x y => ?_, rfl, rfl, rfl, rfl, rfl, rfl, rfl⟩
  · simp only [G.hasNode, has, find_createNode]
    by_cases h : g.nextNode = x
    · subst h; simp
    · simp [h, Ne.symm h]
  · simp only [G.outE, find_createNode]
    by_cases h : g.nextNode = x
    · subst h; simp [find]
    · simp [h, Ne.symm h]
  · simp only [G.inE, find_createNode]
    by_cases h : g.nextNode = y
    · subst h; simp [find]
    · simp [h, Ne.symm h]

theorem createNode_consistent {g : G} (hc : Consistent g) : (createNode g).All Consistent := by
  have c := createNode_created g
  refine ⟨hc.views.createNode g.nextNode (fresh_node hc) c.hasNode c.outE c.inE, fun n hn' => ?_, hc.edge_lt,
    asc_set _ _ _ hc.sorted.nodes, hc.sorted.edges, fun n r hr => ?_⟩
  · rw [c.hasNode] at hn'
    show n < g.nextNode + 1
    by_cases h : n = g.nextNode
    · omega
    · have := hc.node_lt n (by simpa [h] using hn'); omega
  · rw [show _ = find n (AL.set g.nextNode ({} : Row) g.nodes) from rfl, find_createNode] at hr
    split at hr
    · cases hr; exact ⟨asc_nil, asc_nil⟩
    · exact hc.sorted.rows n r hr

theorem setRoot_consistent {g : G} (hc : Consistent g) (n : Nat) : (setRoot n g).All Consistent := by
  unfold setRoot
  split
  · exact hc.of_same rfl rfl rfl (Nat.le_refl _) (Nat.le_refl _)
  · exact hc

theorem unlinkInNode_none {g : G} {a b : Nat} (h : g.outE a b = none) : unlinkInNode a b g = .exc g := by
  rw [unlinkInNode_eq, h]

theorem unlink_none {g : G} {a b : Nat} (h : g.outE a b = none) : unlink a b g = .exc g := by
  unfold unlink; rw [unlinkInNode_none h]

/-- what a successful `unlink(a,b)` did: the relation a->b (edge e) is gone from all three views -/
structure Unlinked (a b e : Nat) (g g' : G) : Prop where
  hasNode : ∀ n, g'.hasNode n = g.hasNode n
  keys : AL.keys g'.nodes = AL.keys g.nodes
  outE : ∀ x y, g'.outE x y = if (x = a ∧ y = b) ∨ (g.directed = false ∧ x = b ∧ y = a) then none else g.outE x y
  inE : ∀ x y, g'.inE y x = if (y = b ∧ x = a) ∨ (g.directed = false ∧ y = a ∧ x = b) then none else g.inE y x
  edges : g'.edges = erase e g.edges
  rest : g'.directed = g.directed ∧ g'.nextNode = g.nextNode ∧ g'.nextEdge = g.nextEdge ∧ g'.root = g.root
  pending : g'.pending = g.pending ++ [.edges [e]]
  sorted : Sorted g → Sorted g'

theorem unlink_some {g : G} (hc : Consistent g) {a b e : Nat} (h : g.outE a b = some e) :
    ∃ g', unlink a b g = .ok [e] g' ∧ Unlinked a b e g g' := by
  obtain ⟨hI, hEd, hU⟩ := cons_out_some hc h
  obtain ⟨g1, h1⟩ := unlinkInNode_succeeds h hI
  have u1 := unlinkInNode_ok h1
  unfold unlink
  rw [h1]
  by_cases hcase : (!g.directed && decide (a ≠ b)) = true
  · -- undirected, a ≠ b: the reverse relation is removed too
    have hd : g.directed = false := by cases hd : g.directed <;> simp_all
    have hab : a ≠ b := by simpa [hd] using hcase
    obtain ⟨hO2, hI2⟩ := hU hd
    have hO2' : g1.outE b a = some e := by rw [u1.outE]; simp [hO2, hab, Ne.symm hab]
    have hI2' : g1.inE a b = some e := by rw [u1.inE]; simp [hI2, hab, Ne.symm hab]
    obtain ⟨g2, h2⟩ := unlinkInNode_succeeds hO2' hI2'
    have u2 := unlinkInNode_ok h2
    have hE2 : g2.hasEdge e = true := by rw [hasEdge, u2.rest.1, u1.rest.1]; exact hEd
    simp only [hcase, if_true, h2, unlinkInEdge, hE2]
    refine ⟨_, rfl, fun n => (u2.hasNode n).trans (u1.hasNode n), u2.keys.trans u1.keys, fun x y => ?_, fun x y => ?_,
      by simp [u2.rest.1, u1.rest.1], by simp [u2.rest, u1.rest], by simp [u2.rest, u1.rest],
      fun hs => ⟨(u2.sorted (u1.sorted hs)).nodes, asc_erase _ _ (u2.sorted (u1.sorted hs)).edges, (u2.sorted (u1.sorted hs)).rows⟩⟩
    · show g2.outE x y = _
      rw [u2.outE, u1.outE]
      by_cases h1 : x = a ∧ y = b <;> by_cases h2 : x = b ∧ y = a <;> simp [h1, h2, hd]
    · show g2.inE y x = _
      rw [u2.inE, u1.inE]
      by_cases h1 : y = b ∧ x = a <;> by_cases h2 : y = a ∧ x = b <;> simp [h1, h2, hd]
  · -- directed, or a loop: the one relation
    have hsame : ∀ x y : Nat, (g.directed = false ∧ x = b ∧ y = a) → x = a ∧ y = b := by
      rintro x y ⟨hd, rfl, rfl⟩
      have : y = x := by simpa [hd] using hcase
      exact ⟨this.symm, this⟩
    have hE1 : g1.hasEdge e = true := by rw [hasEdge, u1.rest.1]; exact hEd
    simp only [hcase, Bool.false_eq_true, if_false, unlinkInEdge, hE1, if_true]
    refine ⟨_, rfl, u1.hasNode, u1.keys, fun x y => ?_, fun x y => ?_, by simp [u1.rest.1], by simp [u1.rest], by simp [u1.rest],
      fun hs => ⟨(u1.sorted hs).nodes, asc_erase _ _ (u1.sorted hs).edges, (u1.sorted hs).rows⟩⟩
    · have : ((x = a ∧ y = b) ∨ (g.directed = false ∧ x = b ∧ y = a)) ↔ (x = a ∧ y = b) :=
        ⟨fun h => h.elim id (hsame x y), Or.inl⟩
      show g1.outE x y = _
      rw [u1.outE]; simp only [this]
    · have : ((y = b ∧ x = a) ∨ (g.directed = false ∧ y = a ∧ x = b)) ↔ (y = b ∧ x = a) :=
        ⟨fun h => h.elim id fun h => (hsame x y ⟨h.1, h.2.2, h.2.1⟩).symm, Or.inl⟩
      show g1.inE y x = _
      rw [u1.inE]; simp only [this]

theorem Unlinked.consistent {a b e : Nat} {g g' : G} (u : Unlinked a b e g g') (hc : Consistent g)
    (h : g.outE a b = some e) : Consistent g' := by
  refine ⟨?_, ?_, ?_, u.sorted hc.sorted⟩
  · rw [u.rest.1]
    exact hc.views.unlink a b e h u.hasNode u.outE u.inE (fun e' => by rw [u.edges, find_erase])
  · intro n hn; rw [u.hasNode] at hn; rw [u.rest.2.1]; exact hc.node_lt n hn
  · intro e' he'
    rw [u.rest.2.2.1]
    simp only [hasEdge, has, u.edges, find_erase] at he'
    by_cases h : e = e'
    · simp [h] at he'
    · simp only [h, if_false] at he'; exact hc.edge_lt e' he'

theorem unlink_consistent {g : G} (hc : Consistent g) (a b : Nat) : (unlink a b g).All Consistent := by
  rcases hO : g.outE a b with _ | e
  · rw [unlink_none hO]; exact hc
  · obtain ⟨g', h, u⟩ := unlink_some hc hO
    rw [h]; exact u.consistent hc hO

theorem row_switchedNodes (f s e x : Nat) (nodes : List (Nat × Row)) :
    find x (switchedNodes f s e nodes) = (find x nodes).map (fun r =>
      { out := (fun o => if x = s then AL.set f e o else o) (if x = f then erase s r.out else r.out),
        inn := (fun i => if x = f then AL.set s e i else i) (if x = s then erase f r.inn else r.inn) }) := by
  simp only [switchedNodes, find_modify, Option.map_map]
  congr 1; funext r
  by_cases h1 : x = f <;> by_cases h2 : x = s
  · subst h1 h2; simp only [Function.comp_apply, if_true]
  · subst h1; simp only [Function.comp_apply, if_true, if_neg h2]
  · subst h2; simp only [Function.comp_apply, if_true, if_neg h1]
  · simp only [Function.comp_apply, if_neg h1, if_neg h2]

theorem keys_switchedNodes (f s e : Nat) (nodes : List (Nat × Row)) : AL.keys (switchedNodes f s e nodes) = AL.keys nodes := by
  simp [switchedNodes, keys_modify]

theorem outE_switched (f s e x y : Nat) (nodes : List (Nat × Row)) :
    (find x (switchedNodes f s e nodes)).bind (fun r => find y r.out) =
      if x = s ∧ y = f ∧ (find s nodes).isSome = true then some e
      else if x = f ∧ y = s then none else (find x nodes).bind (fun r => find y r.out) := by
  rw [row_switchedNodes]
  rcases find_cases x nodes with hf | ⟨r, hf⟩
  · by_cases h1 : x = s
    · subst h1; simp [hf]
    · simp [hf, h1]
  · by_cases h1 : x = s
    · subst h1
      by_cases h2 : x = f
      · subst h2
        by_cases h3 : y = x
        · subst h3; simp [hf, find_set]
        · have : ¬ x = y := fun h => h3 h.symm
          simp [hf, find_set, find_erase, h3, this]
      · by_cases h3 : y = f
        · subst h3; simp [hf, find_set, h2]
        · have : ¬ f = y := fun h => h3 h.symm
          simp [hf, find_set, h2, h3, this]
    · by_cases h2 : x = f
      · subst h2
        by_cases h3 : y = s
        · subst h3; simp [hf, find_erase, h1]
        · have : ¬ s = y := fun h => h3 h.symm
          simp [hf, find_erase, h1, h3, this]
      · simp [hf, h1, h2]

theorem inE_switched (f s e x y : Nat) (nodes : List (Nat × Row)) :
    (find y (switchedNodes f s e nodes)).bind (fun r => find x r.inn) =
      if y = f ∧ x = s ∧ (find f nodes).isSome = true then some e
      else if y = s ∧ x = f then none else (find y nodes).bind (fun r => find x r.inn) := by
  rw [row_switchedNodes]
  rcases find_cases y nodes with hf | ⟨r, hf⟩
  · by_cases h1 : y = f
    · subst h1; simp [hf]
    · simp [hf, h1]
  · by_cases h1 : y = f
    · subst h1
      by_cases h2 : y = s
      · subst h2
        by_cases h3 : x = y
        · subst h3; simp [hf, find_set]
        · have : ¬ y = x := fun h => h3 h.symm
          simp [hf, find_set, find_erase, h3, this]
      · by_cases h3 : x = s
        · subst h3; simp [hf, find_set, h2]
        · have : ¬ s = x := fun h => h3 h.symm
          simp [hf, find_set, h2, h3, this]
    · by_cases h2 : y = s
      · subst h2
        by_cases h3 : x = f
        · subst h3; simp [hf, find_erase, h1]
        · have : ¬ f = x := fun h => h3 h.symm
          simp [hf, find_erase, h1, h3, this]
      · simp [hf, h1, h2]

theorem switchFrom_exc {g g' : G} {f s e : Nat} (h : switchFrom f s e g = .exc g') : g' = g := by
  unfold switchFrom at h
  split at h
  · injection h with h; exact h.symm
  · split at h
    · injection h with h; exact h.symm
    · cases h

theorem switchNodes_exc {g g' : G} {a b : Nat} (h : switchNodes a b g = .exc g') : g' = g := by
  unfold switchNodes at h
  split at h
  · injection h with h; exact h.symm
  · split at h
    · injection h with h; exact h.symm
    · split at h
      · exact switchFrom_exc h
      · split at h
        · exact switchFrom_exc h
        · injection h with h; exact h.symm

/-- what a successful `switchFrom f s e` found and did: the relation f -> s (edge `e`) is s -> f in all three views -/
structure Switched (f s e : Nat) (g g' : G) : Prop where
  fwd : g.outE f s = some e
  norecip : f ≠ s → g.outE s f = none
  hasNode : ∀ n, g'.hasNode n = g.hasNode n
  keys : AL.keys g'.nodes = AL.keys g.nodes
  outE : ∀ x y, g'.outE x y = if x = s ∧ y = f then some e else if x = f ∧ y = s then none else g.outE x y
  inE : ∀ x y, g'.inE y x = if y = f ∧ x = s then some e else if y = s ∧ x = f then none else g.inE y x
  edges : g'.edges = AL.set e (s, f) g.edges
  rest : g'.directed = g.directed ∧ g'.nextNode = g.nextNode ∧ g'.nextEdge = g.nextEdge ∧ g'.root = g.root ∧
    g'.pending = g.pending
  sorted : Sorted g → Sorted g'

theorem switchFrom_ok {g g' : G} {f s e : Nat} {u : Unit} (hO : g.outE f s = some e)
    (h : switchFrom f s e g = .ok u g') : Switched f s e g g' := by
  unfold switchFrom at h
  split at h; · cases h
  rename_i hin
  split at h; · cases h
  rename_i hrec
  injection h with _ h; subst h
  -- both rows are there: the one of `f` holds the entry, the one of `s` its reverse
  have hnf : (find f g.nodes).isSome = true := outE_some_hasNode hO
  have hns : (find s g.nodes).isSome = true := by
    rcases hI : g.inE s f with _ | e0
    · simp [hI] at hin
    · exact inE_some_hasNode hI
  have hrow : RowsBy _ g { g with nodes := switchedNodes f s e g.nodes, edges := AL.set e (s, f) g.edges } :=
    fun x => row_switchedNodes f s e x g.nodes
  refine ⟨hO, fun hne => ?_, hrow.hasNode, keys_switchedNodes f s e g.nodes,
    fun x y => (outE_switched f s e x y g.nodes).trans (by simp [hns]; rfl),
    fun x y => (inE_switched f s e x y g.nodes).trans (by simp [hnf]; rfl), rfl, ⟨rfl, rfl, rfl, rfl, rfl⟩,
    fun hs => ⟨?_, asc_set _ _ _ hs.edges, ?_⟩⟩
  · cases h1 : g.outE s f with
    | none => rfl
    | some e0 => simp [hne, h1] at hrec
  · simp only [switchedNodes]
    exact asc_modify _ _ _ (asc_modify _ _ _ (asc_modify _ _ _ (asc_modify _ _ _ hs.nodes)))
  · refine hrow.rows (fun x r hr => ⟨?_, ?_⟩) hs.rows <;> dsimp only <;> split <;> split
    · exact asc_set _ _ _ (asc_erase _ _ hr.1)
    · exact asc_set _ _ _ hr.1
    · exact asc_erase _ _ hr.1
    · exact hr.1
    · exact asc_set _ _ _ (asc_erase _ _ hr.2)
    · exact asc_set _ _ _ hr.2
    · exact asc_erase _ _ hr.2
    · exact hr.2

/-- a successful `switchNodes`: the graph is directed and one relation `f -> s` was turned round -/
theorem switchNodes_ok {g g' : G} {a b : Nat} {u : Unit} (h : switchNodes a b g = .ok u g') :
    g.directed = true ∧ ∃ f s e, Switched f s e g g' := by
  unfold switchNodes at h
  split at h
  · cases h
  · rename_i hd
    have hd' : g.directed = true := by simpa using hd
    split at h
    · cases h
    · split at h
      · rename_i e he; exact ⟨hd', a, b, e, switchFrom_ok he h⟩
      · split at h
        · rename_i e he; exact ⟨hd', b, a, e, switchFrom_ok he h⟩
        · cases h

theorem Switched.consistent {f s e : Nat} {g g' : G} (sw : Switched f s e g g') (hc : Consistent g)
    (hd : g.directed = true) : Consistent g' := by
  have hv := hc.views
  rw [hd] at hv
  refine ⟨?_, fun n hn => ?_, fun e' he' => ?_, sw.sorted hc.sorted⟩
  · rw [sw.rest.1, hd]
    exact hv.switch f s e sw.fwd sw.norecip sw.hasNode sw.outE sw.inE (fun e' => by rw [sw.edges, find_set])
  · rw [sw.rest.2.1]; exact hc.node_lt n ((sw.hasNode n).symm.trans hn)
  · rw [sw.rest.2.2.1]
    simp only [hasEdge, has, sw.edges, find_set] at he'
    split at he'
    · rename_i h; subst h; exact hc.edge_lt e (cons_out_some hc sw.fwd).2.1
    · exact hc.edge_lt e' he'

theorem switchFrom_consistent {g : G} (hc : Consistent g) (hd : g.directed = true) {f s e : Nat}
    (hO : g.outE f s = some e) : (switchFrom f s e g).All Consistent := by
  rcases h : switchFrom f s e g with ⟨u, g'⟩ | g'
  · exact (switchFrom_ok hO h).consistent hc hd
  · rw [switchFrom_exc h]; exact hc

theorem switchNodes_consistent {g : G} (hc : Consistent g) (a b : Nat) : (switchNodes a b g).All Consistent := by
  rcases h : switchNodes a b g with ⟨u, g'⟩ | g'
  · obtain ⟨hd, f, s, e, sw⟩ := switchNodes_ok h
    exact sw.consistent hc hd
  · rw [switchNodes_exc h]; exact hc

end G
end Graph
end Bpp
