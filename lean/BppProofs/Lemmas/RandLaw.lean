import BppModel.Generated.RandWrappers
import BppProofs.Lemmas.Rand
import Mathlib.Algebra.BigOperators.Group.List.Basic
import Mathlib.Algebra.Order.BigOperators.Group.List
import Mathlib.Tactic.FieldSimp
import Mathlib.Tactic.Positivity
/-! Lemmas for C18 over the reals.  One fact about the first running sum of non-negative summands
that passes a monotone test (`findIdx?_cumSumFrom`) gives every inverse-cdf pick its interval of draws
(`weightedIndex_law`, `multinomialState_decomp`, `dRandFrom_decomp`, `hmmState_decomp`) and a state
whenever the draw does not exceed the total; `pickFromCumSum` searches a vector it is given.  Also:
the multinomial loop as a map over its draws, the Monte-Carlo loop of the p-value in closed form
(`mcCount_eq`, `mcPValue_eq`; any scalar type) and the range of the p-value, and the soundness of the
normal form through which the convention tables are compared (`Expr.eval_norm`). -/
namespace Bpp.Rand
open Bpp

/-! `Scalar` arithmetic at ℝ is Mathlib's arithmetic -/
@[simp] theorem sadd (x y : ℝ) : @HAdd.hAdd ℝ ℝ ℝ (@instHAdd ℝ (Scalar.toAdd)) x y = x + y := rfl
@[simp] theorem ssub (x y : ℝ) : @HSub.hSub ℝ ℝ ℝ (@instHSub ℝ (Scalar.toSub)) x y = x - y := rfl
@[simp] theorem sdiv (x y : ℝ) : @HDiv.hDiv ℝ ℝ ℝ (@instHDiv ℝ (Scalar.toDiv)) x y = x / y := rfl
@[simp] theorem smul (x y : ℝ) : @HMul.hMul ℝ ℝ ℝ (@instHMul ℝ (Scalar.toMul)) x y = x * y := rfl

theorem cumSum_real (w : List ℝ) : cumSum w = cumSumFrom (0 : ℝ) w := by
  cases w with
  | nil => rfl
  | cons x xs => simp [cumSum, cumSumFrom]

theorem cumSumFrom_getLast (acc : ℝ) : ∀ (l : List ℝ) (h : cumSumFrom acc l ≠ []),
    (cumSumFrom acc l).getLast h = acc + l.sum
  | [], h => absurd rfl h
  | [y], _ => by simp [cumSumFrom]
  | y :: z :: zs, _ => by
    have := cumSumFrom_getLast (acc + y) (z :: zs) (by simp [cumSumFrom])
    simp only [cumSumFrom, sadd, List.sum_cons] at this ⊢
    rw [List.getLast_cons (by simp)]
    rw [this]; ring

theorem cumSumFrom_map_div (s : ℝ) : ∀ (l : List ℝ) (acc : ℝ),
    cumSumFrom (acc / s) (l.map (· / s)) = (cumSumFrom acc l).map (· / s)
  | [], _ => rfl
  | y :: ys, acc => by
    simp only [List.map_cons, cumSumFrom, sadd, ← add_div, cumSumFrom_map_div s ys]

theorem sum_mem_cumSumFrom (acc : ℝ) {l : List ℝ} (h : l ≠ []) : acc + l.sum ∈ cumSumFrom acc l := by
  have hne : cumSumFrom acc l ≠ [] := fun h0 => h (List.length_eq_zero_iff.mp (by rw [← cumSumFrom_length acc, h0]; rfl))
  rw [← cumSumFrom_getLast acc l hne]
  exact List.getLast_mem hne

theorem findIdx?_cumSumFrom_isSome {p : ℝ → Bool} (acc : ℝ) {l : List ℝ} (h : l ≠ []) (hp : p (acc + l.sum) = true) :
    ∃ i, i < l.length ∧ (cumSumFrom acc l).findIdx? p = some i := by
  have : ((cumSumFrom acc l).findIdx? p).isSome := by
    rw [List.findIdx?_isSome, List.any_eq_true]
    exact ⟨_, sum_mem_cumSumFrom acc h, hp⟩
  obtain ⟨i, hi⟩ := Option.isSome_iff_exists.mp this
  exact ⟨i, cumSumFrom_length acc l ▸ (List.findIdx?_eq_some_iff_findIdx_eq.mp hi).1, hi⟩

/-- The interval law behind every inverse-cdf search of this file.  For a test `p` that is monotone
in the running sum and non-negative summands `pre`, the first running sum of `pre ++ x :: post`
satisfying `p` is the one at `x` iff that sum satisfies `p` and the one before it (if any) does not. -/
theorem findIdx?_cumSumFrom {p : ℝ → Bool} (hp : ∀ a b, a ≤ b → p a = true → p b = true) (x : ℝ) (post : List ℝ) :
    ∀ (pre : List ℝ) (acc : ℝ), (∀ y ∈ pre, 0 ≤ y) →
    ((cumSumFrom acc (pre ++ x :: post)).findIdx? p = some pre.length ↔
      (pre = [] ∨ p (acc + pre.sum) = false) ∧ p (acc + pre.sum + x) = true)
  | [], acc, _ => by
    simp only [List.nil_append, cumSumFrom, sadd, List.findIdx?_cons, List.length_nil, List.sum_nil, add_zero, true_or, true_and]
    cases p (acc + x) <;> simp
  | y :: pre, acc, hpre => by
    have hpre' : ∀ z ∈ pre, 0 ≤ z := fun z hz => hpre z (List.mem_cons_of_mem _ hz)
    have hle : acc + y ≤ acc + y + pre.sum := le_add_of_nonneg_right (List.sum_nonneg hpre')
    have ih := findIdx?_cumSumFrom hp x post pre (acc + y) hpre'
    simp only [List.cons_append, cumSumFrom, sadd, List.findIdx?_cons, List.length_cons, List.sum_cons, ← add_assoc,
      reduceCtorEq, false_or]
    cases hy : p (acc + y) with
    | true =>
      have := hp _ _ hle hy
      simp [this]
    | false =>
      simp only [Bool.false_eq_true, if_false, Option.map_eq_some_iff, Nat.add_right_cancel_iff, exists_eq_right, ih]
      refine and_congr_left fun _ => ⟨?_, Or.inr⟩
      rintro (rfl | h)
      · simpa using hy
      · exact h

/-- over ℝ the weighted pick searches the running sums of the weights, scaled by their total -/
theorem weightedIndex_real {w : List ℝ} (hne : w ≠ []) (u : ℝ) :
    weightedIndex w.length w u =
      .ok (((cumSumFrom 0 w).findIdx? (fun c => decide (u < c / w.sum))).getD (w.length - 1)) := by
  have hcne : cumSumFrom (0 : ℝ) w ≠ [] := fun h0 => hne (List.length_eq_zero_iff.mp (by rw [← cumSumFrom_length (0 : ℝ), h0]; rfl))
  have hlast : (cumSumFrom (0 : ℝ) w).getLast hcne = w.sum := by rw [cumSumFrom_getLast, zero_add]
  simp only [weightedIndex, cumSum_real, normalize_ok hcne, hlast, weightedPos, searchLt_zero]
  rw [List.take_of_length_le (by simp [cumSumFrom_length]), List.findIdx?_map]
  change (match (cumSumFrom (0 : ℝ) w).findIdx? (fun c => decide (u < c / w.sum)) with | some i => _ | none => _) = _
  cases (cumSumFrom (0 : ℝ) w).findIdx? (fun c => decide (u < c / w.sum)) <;> simp [cumSumFrom_length]

theorem weightedIndex_law (pre : List ℝ) (x : ℝ) (post : List ℝ) (u : ℝ)
    (hw : ∀ y ∈ pre ++ x :: post, 0 ≤ y) (hS : 0 < (pre ++ x :: post).sum) (hu0 : 0 ≤ u) (hu1 : u < 1) :
    weightedIndex (pre ++ x :: post).length (pre ++ x :: post) u = .ok pre.length ↔
      pre.sum / (pre ++ x :: post).sum ≤ u ∧ u < (pre.sum + x) / (pre ++ x :: post).sum := by
  have hne : pre ++ x :: post ≠ [] := by simp
  set S := (pre ++ x :: post).sum
  have hmono : ∀ a b : ℝ, a ≤ b → decide (u < a / S) = true → decide (u < b / S) = true := fun a b hab h =>
    decide_eq_true ((of_decide_eq_true h).trans_le (div_le_div_of_nonneg_right hab hS.le))
  have key := findIdx?_cumSumFrom hmono x post pre 0 (fun y hy => hw y (List.mem_append_left _ hy))
  obtain ⟨i, _, hi⟩ :=
    findIdx?_cumSumFrom_isSome (p := fun c => decide (u < c / S)) 0 hne (by rw [zero_add]; exact decide_eq_true (by rwa [div_self hS.ne']))
  rw [weightedIndex_real hne, hi, Option.getD_some, Except.ok.injEq, ← Option.some_inj, ← hi, key]
  simp only [zero_add, decide_eq_false_iff_not, not_lt, decide_eq_true_eq]
  refine and_congr_left fun _ => ⟨?_, Or.inr⟩
  rintro (rfl | h)
  · simpa using hu0
  · exact h

theorem pickFromCumSum_decomp (pre : List ℝ) (x : ℝ) (post : List ℝ) (u : ℝ) :
    pickFromCumSum (pre ++ x :: post) u = .ok pre.length ↔ (∀ y ∈ pre, y < u) ∧ (post = [] ∨ u ≤ x) := by
  have hne : (pre ++ x :: post).isEmpty = false := by simp
  have hpre : (∀ y ∈ pre, Scalar.leb u y = false) ↔ ∀ y ∈ pre, y < u := by simp
  simp only [pickFromCumSum, hne, Bool.false_eq_true, if_false, searchLe_zero]
  by_cases hpost : post = []
  · -- `x` is the last entry: the loop runs over `pre` only and must find nothing
    subst hpost
    rw [List.dropLast_concat, ← hpre, ← List.findIdx?_eq_none_iff]
    cases hs : pre.findIdx? (Scalar.leb u) with
    | none => simp
    | some i => have := (List.findIdx?_eq_some_iff_findIdx_eq.mp hs).1; simp; omega
  · rw [List.dropLast_append_of_ne_nil (List.cons_ne_nil _ _), List.dropLast_cons_of_ne_nil hpost]
    have key := findIdx?_append_cons (Scalar.leb u) pre x post.dropLast
    rw [hpre, ScalarReal.leb_iff] at key
    cases hs : (pre ++ x :: post.dropLast).findIdx? (Scalar.leb u) with
    | some i => rw [hs, Option.some_inj] at key; simpa [hpost] using key
    | none =>
      have hx := List.findIdx?_eq_none_iff.mp hs x (by simp)
      rw [ScalarReal.leb_false_iff] at hx
      have := List.length_pos_iff.mpr hpost
      simp only [List.length_append, List.length_cons, Except.ok.injEq, hpost, false_or]
      exact ⟨fun h => by omega, fun h => absurd h.2 (not_le.mpr hx)⟩

theorem sumFromZero_real (l : List ℝ) : sumFromZero l = l.sum := by
  unfold sumFromZero
  have : ∀ (acc : ℝ), List.foldl (fun x1 x2 => x1 + x2) acc l = acc + l.sum := by
    induction l with
    | nil => intro acc; simp
    | cons y ys ih => intro acc; simp only [List.foldl_cons, List.sum_cons]; rw [ih]; ring
  simpa using this 0

theorem multinomialState_real (probs : List ℝ) (r : ℝ) :
    multinomialState probs r =
      ((cumSumFrom 0 probs).findIdx? (fun c => decide (r ≤ c / probs.sum))).getD probs.length := by
  have := cumSumFrom_map_div probs.sum probs 0
  rw [zero_div] at this
  simp only [multinomialState, invCdf_eq_searchLe, searchLe_zero, sumFromZero_real, ScalarReal.ofInt_eq, Int.cast_zero,
    this, List.findIdx?_map]
  change (match (cumSumFrom (0 : ℝ) probs).findIdx? (fun c => decide (r ≤ c / probs.sum)) with | some j => j | none => _) = _
  cases (cumSumFrom (0 : ℝ) probs).findIdx? (fun c => decide (r ≤ c / probs.sum)) <;> rfl

theorem multinomialState_decomp (pre : List ℝ) (x : ℝ) (post : List ℝ) (r : ℝ)
    (hw : ∀ y ∈ pre ++ x :: post, 0 ≤ y) (hS : 0 < (pre ++ x :: post).sum) :
    multinomialState (pre ++ x :: post) r = pre.length ↔
      (pre = [] ∨ pre.sum / (pre ++ x :: post).sum < r) ∧ r ≤ (pre.sum + x) / (pre ++ x :: post).sum := by
  set S := (pre ++ x :: post).sum
  have hmono : ∀ a b : ℝ, a ≤ b → decide (r ≤ a / S) = true → decide (r ≤ b / S) = true := fun a b hab h =>
    decide_eq_true ((of_decide_eq_true h).trans (div_le_div_of_nonneg_right hab hS.le))
  have key := findIdx?_cumSumFrom hmono x post pre 0 (fun y hy => hw y (List.mem_append_left _ hy))
  have hlen : (pre ++ x :: post).length ≠ pre.length := by simp
  rw [multinomialState_real, Option.getD_eq_iff, key]
  simp only [hlen, and_false, or_false, zero_add, decide_eq_false_iff_not, not_le, decide_eq_true_eq]

/-- a state is always found: the last running sum is `Σ/Σ = 1 ≥ r` -/
theorem multinomialState_lt (probs : List ℝ) (r : ℝ) (hS : 0 < probs.sum) (hr : r ≤ 1) :
    multinomialState probs r < probs.length := by
  have hne : probs ≠ [] := by intro h; subst h; simp at hS
  obtain ⟨i, hlt, hi⟩ :=
    findIdx?_cumSumFrom_isSome (p := fun c => decide (r ≤ c / probs.sum)) 0 hne
      (by rw [zero_add]; exact decide_eq_true (by rwa [div_self hS.ne']))
  rwa [multinomialState_real, hi, Option.getD_some]

section Generic
variable {α : Type} [Scalar α]

theorem multinomialState_le (probs : List α) (r : α) : multinomialState probs r ≤ probs.length := by
  unfold multinomialState
  rw [invCdf_eq_searchLe, searchLe_zero]
  cases h : (cumSumFrom (Scalar.ofInt 0) (probs.map (· / sumFromZero probs))).findIdx? (Scalar.leb r) with
  | none => exact le_refl _
  | some i =>
    have := (List.findIdx?_eq_some_iff_findIdx_eq.mp h).1
    rw [cumSumFrom_length, List.length_map] at this
    exact this.le

theorem multinomialLoop_eq (probs : List α) : ∀ (n : Nat) (draws : List α),
    multinomialLoop probs n draws =
      if n ≤ draws.length then .ok ((draws.take n).map (multinomialState probs)) else .error .starved
  | 0, _ => by simp [multinomialLoop]
  | n + 1, [] => by simp [multinomialLoop]
  | n + 1, r :: rs => by
    rw [multinomialLoop, multinomialLoop_eq probs n rs]
    simp only [List.length_cons, Nat.add_le_add_iff_right]
    by_cases h : n ≤ rs.length
    · rw [if_pos h, if_pos h]; rfl
    · rw [if_neg h, if_neg h]

theorem multinomialLoop_starved (probs : List α) : ∀ (n : Nat) (draws : List α), draws.length < n →
    multinomialLoop probs n draws = .error .starved :=
  fun n draws h => by rw [multinomialLoop_eq, if_neg (Nat.not_le.mpr h)]

theorem randMultinomial_eq (probs : List α) (n : Nat) (draws : List α) (hok : multinomialRaises probs n = false)
    (h : n ≤ draws.length) : randMultinomial probs n draws = .ok ((draws.take n).map (multinomialState probs)) := by
  simp only [randMultinomial, hok, Bool.false_eq_true, if_false, multinomialLoop_eq, if_pos h]
end Generic

theorem sum_indicator (a : Nat) : ∀ (k : Nat),
    ((List.range k).map (fun j => if a = j then 1 else 0)).sum = if a < k then 1 else 0
  | 0 => rfl
  | k + 1 => by
    rw [List.range_succ, List.map_append, List.sum_append, sum_indicator a k]
    simp only [List.map_cons, List.map_nil, List.sum_singleton]
    split_ifs <;> omega

theorem counts_sum (k : Nat) : ∀ (states : List Nat), (∀ s ∈ states, s ≤ k) → (counts k states).sum = states.length
  | [], _ => by simp [counts]
  | a :: l, h => by
    have ih := counts_sum k l (fun s hs => h s (List.mem_cons_of_mem _ hs))
    have ha : a < k + 1 := Nat.lt_succ_of_le (h a List.mem_cons_self)
    unfold counts at ih ⊢
    have : (List.range (k + 1)).map (fun j => List.count j (a :: l))
        = (List.range (k + 1)).map (fun j => List.count j l + (if a = j then 1 else 0)) := by
      apply List.map_congr_left; intro j _
      rw [List.count_cons]; simp only [beq_iff_eq]
    rw [this, List.sum_map_add, ih, sum_indicator a (k + 1), if_pos ha]
    simp

theorem dRandFrom_found (r : ℝ) (dist : List (ℝ × ℝ)) (cum : ℝ) (hne : dist ≠ [])
    (hr : r ≤ cum + (dist.map (·.2)).sum) :
    ∃ i, ∃ h : i < dist.length, (cumSumFrom cum (dist.map (·.2))).findIdx? (Scalar.leb r) = some i ∧
      dRandFrom r cum dist = dist[i].1 := by
  obtain ⟨i, h, hi⟩ :=
    findIdx?_cumSumFrom_isSome (p := Scalar.leb r) cum (l := dist.map (·.2)) (by simpa using hne) (by simpa using hr)
  rw [List.length_map] at h
  exact ⟨i, h, hi, by rw [dRandFrom_eq, hi]; simp [h]⟩

theorem dRandFrom_decomp (r : ℝ) (c p : ℝ) (post : List (ℝ × ℝ)) (pre : List (ℝ × ℝ)) (cum : ℝ)
    (hpre : ∀ y ∈ pre, 0 ≤ y.2) (hlo : pre = [] ∨ cum + (pre.map (·.2)).sum < r) (hhi : r ≤ cum + (pre.map (·.2)).sum + p) :
    dRandFrom r cum (pre ++ (c, p) :: post) = c := by
  have hmono : ∀ a b : ℝ, a ≤ b → Scalar.leb r a = true → Scalar.leb r b = true := fun a b hab h => by
    rw [ScalarReal.leb_iff] at h ⊢; exact h.trans hab
  have key := (findIdx?_cumSumFrom hmono p (post.map (·.2)) (pre.map (·.2)) cum
    (fun y hy => by obtain ⟨z, hz, rfl⟩ := List.mem_map.mp hy; exact hpre z hz)).mpr ⟨by simpa using hlo, by simpa using hhi⟩
  rw [List.length_map] at key
  rw [dRandFrom_eq, List.map_append, List.map_cons, key]
  simp

theorem countGe_le {α : Type} [Scalar α] (stat : α) (sims : List α) : countGe stat sims ≤ sims.length := by
  unfold countGe; exact List.length_filter_le _ _

theorem pvalueOfCount_range (count nb : Nat) (h : count ≤ nb) :
    0 < (pvalueOfCount count nb : ℝ) ∧ (pvalueOfCount count nb : ℝ) ≤ 1 := by
  have h1 : (0 : ℝ) < ((count + 1 : Nat) : ℝ) := Nat.cast_pos.mpr count.succ_pos
  have h2 : (0 : ℝ) < ((nb + 1 : Nat) : ℝ) := Nat.cast_pos.mpr nb.succ_pos
  simp only [pvalueOfCount, ScalarReal.ofInt_eq, sdiv, Int.cast_natCast]
  exact ⟨div_pos h1 h2, (div_le_one h2).mpr (Nat.cast_le.mpr (Nat.succ_le_succ h))⟩

section
variable {α : Type} [Scalar α]

theorem mcCount_eq (stat : α) : ∀ (n : Nat) (sims : List α) (c : Nat),
    mcCount stat n sims c = if n ≤ sims.length then .ok (c + countGe stat (sims.take n)) else .error .starved
  | 0, _, c => by simp [mcCount, countGe]
  | n + 1, [], _ => by simp [mcCount]
  | n + 1, s :: ss, c => by
    rw [mcCount, mcCount_eq stat n ss]
    simp only [List.length_cons, Nat.add_le_add_iff_right]
    split
    · simp only [List.take_succ_cons, countGe, List.filter_cons]
      by_cases hs : Scalar.geb s stat = true
      · simp only [hs, if_true, List.length_cons]; congr 1; omega
      · simp only [hs, if_false, Bool.false_eq_true]
    · rfl

/-- the loop adds at most one to `count` per iteration -/
theorem mcCount_bounds (stat : α) (n : Nat) (sims : List α) (c r : Nat) (h : mcCount stat n sims c = .ok r) :
    c ≤ r ∧ r ≤ c + n := by
  rw [mcCount_eq] at h
  split at h
  · cases h
    have := (countGe_le stat (sims.take n)).trans (List.length_take_le n sims)
    omega
  · cases h

theorem mcPValueWith_eq {op : String} {nb iters : Nat} (h : loopIterations op nb = some iters) (stat : α) (sims : List α) :
    mcPValueWith op stat nb sims =
      if iters ≤ sims.length then .ok (pvalueOfCount (countGe stat (sims.take iters)) nb) else .error .starved := by
  simp only [mcPValueWith, h, mcCount_eq, Nat.zero_add]
  by_cases hle : iters ≤ sims.length
  · rw [if_pos hle, if_pos hle]
  · rw [if_neg hle, if_neg hle]

theorem mcPValue_eq (stat : α) (nb : Nat) (sims : List α) :
    mcPValue stat nb sims = if nb ≤ sims.length then .ok (permPValue stat (sims.take nb)) else .error .starved := by
  rw [mcPValue, mcPValueWith_eq (if_pos rfl)]
  split
  · rename_i h; rw [permPValue, List.length_take, Nat.min_eq_left h]
  · rfl
end

noncomputable def Expr.eval (ρ : String → ℝ) : Expr → ℝ
  | .var n => ρ n
  | .lit n d => (n : ℝ) / (d : ℝ)
  | .sqrt e => Real.sqrt (Expr.eval ρ e)
  | .add a b => Expr.eval ρ a + Expr.eval ρ b
  | .sub a b => Expr.eval ρ a - Expr.eval ρ b
  | .mul a b => Expr.eval ρ a * Expr.eval ρ b
  | .div a b => Expr.eval ρ a / Expr.eval ρ b

theorem Expr.eval_norm (ρ : String → ℝ) (hρ : ∀ n ∈ nonnegParams, 0 ≤ ρ n) : ∀ (e : Expr), Expr.eval ρ (Expr.norm e) = Expr.eval ρ e
  | .var _ => rfl
  | .lit _ _ => rfl
  | .sqrt a => by simp only [Expr.norm, Expr.eval, Expr.eval_norm ρ hρ a]
  | .sub a b => by simp only [Expr.norm, Expr.eval, Expr.eval_norm ρ hρ a, Expr.eval_norm ρ hρ b]
  | .add a b => by
    have ha := Expr.eval_norm ρ hρ a
    have hb := Expr.eval_norm ρ hρ b
    unfold Expr.norm
    split
    · rename_i ha'
      rw [ha'] at ha
      simp only [Expr.eval] at ha ⊢
      rw [← ha, hb]; simp
    · rename_i hb' _
      rw [hb'] at hb
      simp only [Expr.eval] at hb ⊢
      rw [← hb, ha]; simp
    · rename_i x y ha' _
      rw [ha'] at ha
      split
      · rename_i hy
        simp only [Expr.eval] at ha ⊢
        rw [← ha, ← hb, ← hy]; ring
      · simp only [Expr.eval] at ha ⊢
        rw [ha, hb]
    · simp only [Expr.eval, ha, hb]
  | .mul a b => by
    have ha := Expr.eval_norm ρ hρ a
    have hb := Expr.eval_norm ρ hρ b
    unfold Expr.norm
    split
    · rename_i x y hx hy
      rw [hx] at ha; rw [hy] at hb
      simp only [Expr.eval] at ha hb ⊢
      split
      · rename_i hxy
        obtain ⟨hxy, hmem⟩ := hxy
        subst hxy
        rw [← ha, ← hb]; simp only [Expr.eval]
        exact (Real.mul_self_sqrt (hρ x hmem)).symm
      · simp only [Expr.eval]; rw [ha, hb]
    · simp only [Expr.eval, ha, hb]
  | .div a b => by
    have ha := Expr.eval_norm ρ hρ a
    have hb := Expr.eval_norm ρ hρ b
    unfold Expr.norm
    split
    · rename_i a' hb'
      rw [hb'] at hb
      simp only [Expr.eval] at hb ⊢
      rw [← hb, ha]; simp
    · rename_i y ha' hb'
      rw [ha'] at ha; rw [hb'] at hb
      simp only [Expr.eval] at ha hb ⊢
      rw [← ha, ← hb]; simp
    · simp only [Expr.eval, ha, hb]

/-- a law with real parameters in the canonical parametrisation: that of `loc + X`, `X ~ fam params` -/
structure Law where
  fam : LawFam
  params : List ℝ
  loc : ℝ

noncomputable def LawS.eval (ρ : String → ℝ) (l : LawS) : Law := ⟨l.fam, l.params.map (Expr.eval ρ), Expr.eval ρ l.loc⟩

theorem LawS.eval_norm (ρ : String → ℝ) (hρ : ∀ n ∈ nonnegParams, 0 ≤ ρ n) (l : LawS) : l.norm.eval ρ = l.eval ρ := by
  unfold LawS.norm LawS.eval
  simp only [List.map_map, Law.mk.injEq, true_and]
  refine ⟨?_, Expr.eval_norm ρ hρ l.loc⟩
  apply List.map_congr_left
  intro e _
  exact Expr.eval_norm ρ hρ e

theorem law_eq_of_norm_eq {a b : LawS} (h : a.norm = b.norm) (ρ : String → ℝ) (hρ : ∀ n ∈ nonnegParams, 0 ≤ ρ n) :
    a.eval ρ = b.eval ρ := by
  rw [← LawS.eval_norm ρ hρ a, ← LawS.eval_norm ρ hρ b, h]

theorem wrapperOk_sound {w : Wrapper} (h : wrapperOk w = true) :
    ∃ a b, stdLawS w.family w.args = some a ∧ libLawS w.name = some b ∧
      ∀ ρ : String → ℝ, (∀ n ∈ nonnegParams, 0 ≤ ρ n) → a.eval ρ = b.eval ρ := by
  unfold wrapperOk at h
  split at h
  · rename_i a b ha hb
    exact ⟨a, b, ha, hb, law_eq_of_norm_eq (of_decide_eq_true h)⟩
  · cases h

theorem randCOk_sound {ws : List Wrapper} {r : RandC} (h : randCOk ws r = true) :
    ∃ a b, randCLawS ws r = some a ∧ distLawS r.dist = some b ∧
      ∀ ρ : String → ℝ, (∀ n ∈ nonnegParams, 0 ≤ ρ n) → a.eval ρ = b.eval ρ := by
  unfold randCOk at h
  split at h
  · rename_i a b ha hb
    exact ⟨a, b, ha, hb, law_eq_of_norm_eq (of_decide_eq_true h)⟩
  · cases h

theorem wrappers_all_ok : Generated.wrappers.all wrapperOk = true := by decide +kernel
theorem randCs_all_ok : Generated.randCs.all (randCOk Generated.wrappers) = true := by decide +kernel

theorem remainders_real (u : ℝ) : ∀ (l : List ℝ) (acc : ℝ), remainders (u - acc) l = (cumSumFrom acc l).map (u - ·)
  | [], _ => rfl
  | q :: qs, acc => by
    simp only [remainders, cumSumFrom, List.map_cons, ssub, sadd, ← sub_add_eq_sub_sub, remainders_real u qs]

theorem subtractSearch_real (u : ℝ) (l : List ℝ) :
    subtractSearch u l 0 = (cumSumFrom 0 l).findIdx? (fun c => decide (u < c)) := by
  have := remainders_real u l 0
  rw [sub_zero] at this
  rw [subtractSearch_zero, this, List.findIdx?_map]
  congr 1; funext c
  rw [Bool.eq_iff_iff]; simp

theorem subtractSearch_decomp (x : ℝ) (post pre : List ℝ) (u : ℝ) (hpre : ∀ y ∈ pre, 0 ≤ y) (hu : 0 ≤ u) :
    subtractSearch u (pre ++ x :: post) 0 = some pre.length ↔ pre.sum ≤ u ∧ u < pre.sum + x := by
  have hmono : ∀ a b : ℝ, a ≤ b → decide (u < a) = true → decide (u < b) = true := fun a b hab h =>
    decide_eq_true ((of_decide_eq_true h).trans_le hab)
  rw [subtractSearch_real, findIdx?_cumSumFrom hmono x post pre 0 hpre]
  simp only [zero_add, decide_eq_false_iff_not, not_lt, decide_eq_true_eq]
  refine and_congr_left fun _ => ⟨?_, Or.inr⟩
  rintro (rfl | h)
  · simpa using hu
  · exact h

theorem subtractSearch_found {u : ℝ} {l : List ℝ} (hu : 0 ≤ u) (h : u < l.sum) :
    ∃ i, subtractSearch u l 0 = some i ∧ i < l.length := by
  have hne : l ≠ [] := by intro h0; subst h0; simp at h; linarith
  obtain ⟨i, hlt, hi⟩ :=
    findIdx?_cumSumFrom_isSome (p := fun c => decide (u < c)) 0 hne (by simpa using h)
  exact ⟨i, by rw [subtractSearch_real, hi], hlt⟩

theorem hmmState_decomp (pre : List ℝ) (x : ℝ) (post : List ℝ) (u : ℝ) (dflt : Option Nat)
    (hpre : ∀ y ∈ pre, 0 ≤ y) (hu : 0 ≤ u) (hfound : u < (pre ++ x :: post).sum) :
    hmmState (pre ++ x :: post) u dflt = .ok pre.length ↔ pre.sum ≤ u ∧ u < pre.sum + x := by
  obtain ⟨i, hi, _⟩ := subtractSearch_found hu hfound
  simp only [← subtractSearch_decomp x post pre u hpre hu, hmmState, hi, Except.ok.injEq, Option.some_inj]

theorem hmmState_defined (p : List ℝ) (u : ℝ) (hs : p.sum = 1) (hu0 : 0 ≤ u) (hu : u < 1) (dflt : Option Nat) :
    ∃ i, hmmState p u dflt = .ok i ∧ i < p.length := by
  obtain ⟨i, hi, hlt⟩ := subtractSearch_found hu0 (hs ▸ hu)
  exact ⟨i, by simp only [hmmState, hi], hlt⟩

/-- with probability rows the chain never reads the uninitialised `stb`: every state is found, and is `< n` -/
theorem hmmChain_defined {n : Nat} {rows : List (List ℝ)} (hrows : rows.length = n)
    (hrow : ∀ r ∈ rows, r.length = n ∧ r.sum = 1) : ∀ (k : Nat) (us : List ℝ) (sta : Nat),
    sta < n → k ≤ us.length → (∀ u ∈ us, 0 ≤ u ∧ u < 1) →
    ∃ l, hmmChain rows sta k us = .ok l ∧ l.length = k ∧ ∀ s ∈ l, s < n
  | 0, us, _, _, _, _ => ⟨[], by cases us <;> rfl, rfl, by simp⟩
  | k + 1, [], _, _, hk, _ => by simp at hk
  | k + 1, u :: us, sta, hsta, hk, hus => by
    have hlt : sta < rows.length := hrows ▸ hsta
    obtain ⟨hrl, hrs⟩ := hrow rows[sta] (List.getElem_mem hlt)
    obtain ⟨hu0, hu1⟩ := hus u List.mem_cons_self
    obtain ⟨stb, hstb, hlt2⟩ := hmmState_defined rows[sta] u hrs hu0 hu1 none
    obtain ⟨l, hl, hlen, hmem⟩ := hmmChain_defined hrows hrow k us stb (hrl ▸ hlt2) (Nat.le_of_succ_le_succ hk)
      (fun x hx => hus x (List.mem_cons_of_mem _ hx))
    exact ⟨stb :: l, by simp only [hmmChain, List.getElem?_eq_getElem hlt, hstb, hl], by rw [List.length_cons, hlen],
      List.forall_mem_cons.mpr ⟨hrl ▸ hlt2, hmem⟩⟩
end Bpp.Rand
