import BppProofs.Lemmas.Interval
import BppModel.Param
/-!
Helper lemmas for C01, at `ℝ`: what `getLimit` / `getAcceptedLimit` answer to a rejected request, and on a `wide`
interval which of `limit`, `limit ± TINY` is accepted (`Interval.alimit_exact`); `Parameter::setValue` (`setValueBase`,
lemmas `svb_*`) and `AutoParameter::setValue` (`setValueAuto`, lemmas `sva_*`; `auto_attempt`: which attempt the call
ends on); the guarded write that constructor and constraint setter share (`guarded`); what one call does to a store of
parameter objects (`POp.step_cases`).
-/
namespace Bpp
open ScalarReal

theorem TINY_pos : (0 : ℝ) < Constants.TINY := by
  simp only [Constants.TINY, ofRat_eq]; positivity

namespace Interval

theorem isCorrect_iff_bounds' (c : Interval ℝ) (v : ℝ) :
    c.isCorrect v = true ↔
      (if c.inclLo then c.lo.toEReal ≤ v else c.lo.toEReal < v) ∧
      (if c.inclHi then (v : EReal) ≤ c.hi.toEReal else (v : EReal) < c.hi.toEReal) :=
  (isCorrectB_iff_mem c (.fin v)).trans (mem_denote c v)

variable {c : Interval ℝ} {v l h x : ℝ}

theorem lo_le_of_isCorrect (hlo : c.lo = .fin l) (hx : c.isCorrect x = true) : l ≤ x :=
  EReal.coe_le_coe_iff.1 (le_of_ite_le_lt (hlo ▸ ((isCorrect_iff_bounds' c x).1 hx).1))

theorem le_hi_of_isCorrect (hhi : c.hi = .fin h) (hx : c.isCorrect x = true) : x ≤ h :=
  EReal.coe_le_coe_iff.1 (le_of_ite_le_lt (hhi ▸ ((isCorrect_iff_bounds' c x).1 hx).2))

theorem geV_iff (c : Interval ℝ) (v : ℝ) : c.geV (.fin v) = true ↔ (v : EReal) ≤ c.lo.toEReal :=
  Bound.geb_iff _ _

theorem getLimit_of_rejected (hrej : c.isCorrect v = false) :
    c.getLimit (.fin v) = if c.geV (.fin v) then c.lo else c.hi :=
  if_neg (Bool.eq_false_iff.1 hrej)

theorem getAcceptedLimit_of_rejected (hrej : c.isCorrect v = false) :
    c.getAcceptedLimit (.fin v) =
      if c.geV (.fin v) then (if c.inclLo then c.lo else c.lo.addS c.prec)
      else (if c.inclHi then c.hi else c.hi.subS c.prec) := by
  unfold getAcceptedLimit strictLowerBound strictUpperBound
  rw [if_neg (Bool.eq_false_iff.1 (show c.isCorrectB (.fin v) = false from hrej))]
  cases c.inclLo <;> cases c.inclHi <;> rfl

theorem not_hi_of_rejected (hrej : c.isCorrect v = false) (hg : c.geV (.fin v) = false) :
    ¬ (if c.inclHi then (v : EReal) ≤ c.hi.toEReal else (v : EReal) < c.hi.toEReal) := fun hu =>
  Bool.eq_false_iff.1 hrej ((isCorrect_iff_bounds' c v).2
    ⟨ite_le_lt_of_lt (not_le.1 fun h => Bool.eq_false_iff.1 hg ((geV_iff c v).2 h)), hu⟩)

theorem hi_le_of_rejected (hrej : c.isCorrect v = false) (hg : c.geV (.fin v) = false)
    (hhi : c.hi = .fin h) : h ≤ v :=
  not_lt.1 fun hlt => not_hi_of_rejected hrej hg (hhi ▸ ite_le_lt_of_lt (EReal.coe_lt_coe_iff.2 hlt))

theorem wide_iff (c : Interval ℝ) : c.wide = true ↔
    0 ≤ c.prec ∧ (c.lo.toEReal + ((c.prec + Constants.TINY : ℝ) : EReal)) < c.hi.toEReal := by
  simp only [wide, Bool.and_eq_true, ScalarReal.leb_iff, ScalarReal.zero_eq, Bound.ltb_iff, Bound.toEReal_addS]

theorem lt_hi_of_wide (hw : c.wide = true) (hlo : c.lo = .fin l) (hx : x ≤ l + (c.prec + Constants.TINY)) :
    (x : EReal) < c.hi.toEReal := by
  have hh := ((wide_iff c).1 hw).2
  rw [hlo, Bound.toEReal_fin, ← EReal.coe_add] at hh
  exact (EReal.coe_le_coe_iff.2 hx).trans_lt hh

theorem lo_lt_of_wide (hw : c.wide = true) (hhi : c.hi = .fin h) (hx : h - (c.prec + Constants.TINY) ≤ x) :
    c.lo.toEReal < (x : EReal) := by
  have hh := ((wide_iff c).1 hw).2
  rw [hhi, Bound.toEReal_fin] at hh
  cases hlo : c.lo with
  | negInf => exact EReal.bot_lt_coe x
  | fin l =>
    rw [hlo, Bound.toEReal_fin, ← EReal.coe_add, EReal.coe_lt_coe_iff] at hh
    exact EReal.coe_lt_coe_iff.2 ((lt_sub_iff_add_lt.2 hh).trans_le hx)
  | posInf => rw [hlo, Bound.toEReal_posInf, EReal.top_add_coe] at hh; exact absurd hh not_top_lt

theorem isCorrect_above_lo {a : ℝ} (hw : c.wide = true) (hlo : c.lo = .fin l) (h1 : 0 < a)
    (h2 : a ≤ c.prec + Constants.TINY) : c.isCorrect (l + a) = true :=
  (isCorrect_iff_bounds' c _).2
    ⟨hlo ▸ ite_le_lt_of_lt (EReal.coe_lt_coe_iff.2 (lt_add_of_pos_right l h1)),
      ite_le_lt_of_lt (lt_hi_of_wide hw hlo (add_le_add_right h2 l))⟩

theorem isCorrect_below_hi {a : ℝ} (hw : c.wide = true) (hhi : c.hi = .fin h) (h1 : 0 < a)
    (h2 : a ≤ c.prec + Constants.TINY) : c.isCorrect (h - a) = true :=
  (isCorrect_iff_bounds' c _).2
    ⟨ite_le_lt_of_lt (lo_lt_of_wide hw hhi (sub_le_sub_left h2 h)),
      hhi ▸ ite_le_lt_of_lt (EReal.coe_lt_coe_iff.2 (sub_lt_self h h1))⟩

/-- the exact answer of `getAcceptedLimit` to a rejected finite request on a wide interval, and
which of `limit`, `limit ± TINY` is accepted: on the lower side the bound itself when included,
one precision step inside when excluded (accepted iff the precision is positive; with precision 0
`bound + TINY` is); symmetrically on the upper side (where `bound + TINY` is rejected) -/
theorem alimit_exact (c : Interval ℝ) (v : ℝ) (hw : c.wide = true) (hrej : c.isCorrect v = false) :
    (c.geV (.fin v) = true ∧ ∃ l, c.lo = .fin l ∧ v ≤ l ∧
        c.getAcceptedLimit (.fin v) = .fin (if c.inclLo then l else l + c.prec) ∧
        (c.inclLo = true → c.isCorrect l = true) ∧
        (c.inclLo = false → 0 < c.prec → c.isCorrect (l + c.prec) = true) ∧
        (c.inclLo = false → c.prec = 0 → c.isCorrect l = false ∧ c.isCorrect (l + Constants.TINY) = true)) ∨
    (c.geV (.fin v) = false ∧ ∃ h, c.hi = .fin h ∧ h ≤ v ∧
        c.getAcceptedLimit (.fin v) = .fin (if c.inclHi then h else h - c.prec) ∧
        (c.inclHi = true → c.isCorrect h = true) ∧
        (c.inclHi = false → 0 < c.prec → c.isCorrect (h - c.prec) = true) ∧
        (c.inclHi = false → c.prec = 0 → c.isCorrect h = false ∧ c.isCorrect (h + Constants.TINY) = false ∧
            c.isCorrect (h - Constants.TINY) = true)) := by
  obtain ⟨hp0, hwd⟩ := (wide_iff c).1 hw
  have hT := TINY_pos
  have hpT := add_nonneg hp0 hT.le
  have hlim := getAcceptedLimit_of_rejected hrej
  cases hg : c.geV (.fin v) with
  | true =>
    have hvl := (geV_iff c v).1 hg
    rw [hg, if_pos rfl] at hlim
    refine Or.inl ⟨rfl, ?_⟩
    cases hlo : c.lo with
    | negInf => rw [hlo] at hvl; exact absurd hvl (not_le.2 (EReal.bot_lt_coe v))
    | posInf => rw [hlo, Bound.toEReal_posInf, EReal.top_add_coe] at hwd; exact absurd hwd not_top_lt
    | fin l =>
      rw [hlo] at hvl
      refine ⟨l, rfl, EReal.coe_le_coe_iff.1 hvl, by rw [hlim, hlo]; cases c.inclLo <;> rfl, fun hil => ?_,
        fun _ hpos => isCorrect_above_lo hw hlo hpos (le_add_of_nonneg_right hT.le),
        fun hil _ => ⟨?_, isCorrect_above_lo hw hlo hT (le_add_of_nonneg_left hp0)⟩⟩
      · refine (isCorrect_iff_bounds' c l).2 ⟨?_, ite_le_lt_of_lt (lt_hi_of_wide hw hlo (le_add_of_nonneg_right hpT))⟩
        rw [hil, if_pos rfl, hlo]; exact le_rfl
      · refine Bool.eq_false_iff.2 fun hl => ?_
        have := ((isCorrect_iff_bounds' c l).1 hl).1
        rw [hil, if_neg Bool.false_ne_true, hlo] at this
        exact lt_irrefl _ this
  | false =>
    rw [hg, if_neg Bool.false_ne_true] at hlim
    refine Or.inr ⟨rfl, ?_⟩
    cases hhi : c.hi with
    | posInf => exact absurd (hhi ▸ ite_le_lt_of_lt (EReal.coe_lt_top v)) (not_hi_of_rejected hrej hg)
    | negInf => rw [hhi] at hwd; exact absurd hwd (not_lt_bot)
    | fin h =>
      have above : ∀ x, h < x → c.isCorrect x = false := fun x hx =>
        Bool.eq_false_iff.2 fun hh => absurd (le_hi_of_isCorrect hhi hh) (not_le.2 hx)
      refine ⟨h, rfl, hi_le_of_rejected hrej hg hhi, by rw [hlim, hhi]; cases c.inclHi <;> rfl, fun hiu => ?_,
        fun _ hpos => isCorrect_below_hi hw hhi hpos (le_add_of_nonneg_right hT.le),
        fun hiu _ => ⟨?_, above _ (lt_add_of_pos_right h hT), isCorrect_below_hi hw hhi hT (le_add_of_nonneg_left hp0)⟩⟩
      · refine (isCorrect_iff_bounds' c h).2 ⟨ite_le_lt_of_lt (lo_lt_of_wide hw hhi (sub_le_self h hpT)), ?_⟩
        rw [hiu, if_pos rfl, hhi]; exact le_rfl
      · refine Bool.eq_false_iff.2 fun hl => ?_
        have := ((isCorrect_iff_bounds' c h).1 hl).2
        rw [hiu, if_neg Bool.false_ne_true, hhi] at this
        exact lt_irrefl _ this

/-- with both bounds included, `getAcceptedLimit` is `getLimit`: for a rejected request on a wide
interval it is the (accepted) bound on the request's side -/
theorem alimit_closed (c : Interval ℝ) (v : ℝ) (hw : c.wide = true) (hcl : c.inclLo = true ∧ c.inclHi = true)
    (hrej : c.isCorrect v = false) :
    ∃ b, c.getAcceptedLimit (.fin v) = .fin b ∧ c.getLimit (.fin v) = .fin b ∧ c.isCorrect b = true := by
  have hgl := getLimit_of_rejected hrej
  rcases alimit_exact c v hw hrej with ⟨hg, l, hlo, -, hlim, hok, -⟩ | ⟨hg, h, hhi, -, hlim, hok, -⟩
  · rw [hcl.1, if_pos rfl] at hlim
    exact ⟨l, hlim, by rw [hgl, hg, if_pos rfl, hlo], hok hcl.1⟩
  · rw [hcl.2, if_pos rfl] at hlim
    exact ⟨h, hlim, by rw [hgl, hg, if_neg Bool.false_ne_true, hhi], hok hcl.2⟩

end Interval

namespace Param

/-- C01's invariant at `ℝ`: a constraint, if present, contains the stored value -/
def Inv (p : Param ℝ) : Prop := ∀ c, p.constraint = some c → (p.value : EReal) ∈ c.denote

theorem accepts_iff (p : Param ℝ) (v : ℝ) :
    p.accepts v = true ↔ ∀ c, p.constraint = some c → (v : EReal) ∈ c.denote := by
  unfold accepts
  cases h : p.constraint with
  | none => simp
  | some c => simp [Interval.isCorrect, Interval.isCorrectB_iff_mem]

theorem invOk_iff (p : Param ℝ) : p.invOk = true ↔ p.Inv := accepts_iff p p.value

theorem accepts_eq_false_iff (p : Param ℝ) (v : ℝ) :
    p.accepts v = false ↔ ∃ c, p.constraint = some c ∧ (v : EReal) ∉ c.denote := by
  rw [Bool.eq_false_iff, Ne, accepts_iff]; push Not; rfl

variable {p p' q : Param ℝ} {v x : ℝ} {c : Interval ℝ} {e : PErr}

theorem accepts_some (hc : p.constraint = some c) (v : ℝ) :
    p.accepts v = c.isCorrect v := by
  unfold accepts; rw [hc]

theorem Inv_some (hc : p.constraint = some c) : p.Inv ↔ c.isCorrect p.value = true :=
  (invOk_iff p).symm.trans (by rw [invOk, accepts_some hc])

/-- the three ways `Parameter::setValue` can go -/
theorem svb_cases (p : Param ℝ) (v : ℝ) :
    (|v - p.value| ≤ p.precision / 2 ∧ p.setValueBase v = .ok p) ∨
    (p.precision / 2 < |v - p.value| ∧ p.accepts v = true ∧ p.setValueBase v = .ok { p with value := v }) ∨
    (p.precision / 2 < |v - p.value| ∧ p.accepts v = false ∧ p.setValueBase v = .error .constraint) := by
  unfold Param.setValueBase
  simp only [ScalarReal.gtb_iff, ScalarReal.abs_eq, ScalarReal.ofInt_eq, Int.cast_ofNat]
  by_cases h : p.precision / 2 < |v - p.value|
  · rw [if_pos h]
    cases ha : p.accepts v
    · exact Or.inr (Or.inr ⟨h, rfl, rfl⟩)
    · exact Or.inr (Or.inl ⟨h, rfl, rfl⟩)
  · rw [if_neg h]
    exact Or.inl ⟨not_lt.1 h, rfl⟩

theorem svb_ok_iff : p.setValueBase v = .ok p' ↔
    (p' = p ∧ |v - p.value| ≤ p.precision / 2) ∨
    (p' = { p with value := v } ∧ p.precision / 2 < |v - p.value| ∧ p.accepts v = true) := by
  rcases svb_cases p v with ⟨a, e⟩ | ⟨a, b, e⟩ | ⟨a, b, e⟩ <;> rw [e]
  · exact ⟨fun h => Or.inl ⟨(Except.ok.inj h).symm, a⟩,
      fun h => h.elim (fun h => h.1 ▸ rfl) fun h => absurd h.2.1 (not_lt.2 a)⟩
  · exact ⟨fun h => Or.inr ⟨(Except.ok.inj h).symm, a, b⟩,
      fun h => h.elim (fun h => absurd a (not_lt.2 h.2)) fun h => h.1 ▸ rfl⟩
  · exact ⟨fun h => (nomatch h), fun h => h.elim (fun h => absurd a (not_lt.2 h.2)) fun h => by rw [b] at h; cases h.2.2⟩

theorem svb_ok (h : p.setValueBase v = .ok p') :
    (p' = p ∧ |v - p.value| ≤ p.precision / 2) ∨
    (p' = { p with value := v } ∧ p.precision / 2 < |v - p.value| ∧ p.accepts v = true) :=
  svb_ok_iff.1 h

theorem svb_err_iff : p.setValueBase v = .error e ↔
    e = .constraint ∧ p.precision / 2 < |v - p.value| ∧ p.accepts v = false := by
  rcases svb_cases p v with ⟨a, e'⟩ | ⟨a, b, e'⟩ | ⟨a, b, e'⟩ <;> rw [e']
  · exact ⟨fun h => (nomatch h), fun h => absurd h.2.1 (not_lt.2 a)⟩
  · exact ⟨fun h => (nomatch h), fun h => by rw [b] at h; cases h.2.2⟩
  · exact ⟨fun h => ⟨(Except.error.inj h).symm, a, b⟩, fun h => h.1 ▸ rfl⟩

theorem svb_ok_or_rejected (p : Param ℝ) (x : ℝ) :
    (∃ q, p.setValueBase x = .ok q) ∨ (p.setValueBase x = .error .constraint ∧ p.accepts x = false) := by
  rcases svb_cases p x with ⟨-, e⟩ | ⟨-, -, e⟩ | ⟨-, b, e⟩
  exacts [Or.inl ⟨_, e⟩, Or.inl ⟨_, e⟩, Or.inr ⟨e, b⟩]

theorem svb_of_accepts (h : p.accepts x = true) : ∃ q, p.setValueBase x = .ok q :=
  (svb_ok_or_rejected p x).resolve_right fun hr => Bool.noConfusion (h.symm.trans hr.2)

theorem svb_near (hp : 0 ≤ p.precision) (h : p.setValueBase x = .ok q) :
    |q.value - x| ≤ p.precision / 2 := by
  rcases svb_ok h with ⟨rfl, hw⟩ | ⟨rfl, -⟩
  · rwa [abs_sub_comm]
  · rw [sub_self, abs_zero]; exact div_nonneg hp zero_le_two

theorem svb_exact (hp : p.precision = 0) (h : p.setValueBase x = .ok q) :
    q.value = x :=
  sub_eq_zero.1 (abs_nonpos_iff.1 ((svb_near hp.ge h).trans_eq (by rw [hp, zero_div])))

theorem svb_rejected (hp : p.precision = 0) (hx : x ≠ p.value) (hr : p.accepts x = false) :
    p.setValueBase x = .error .constraint := by
  rcases svb_cases p x with ⟨a, -⟩ | ⟨-, b, -⟩ | ⟨-, -, e⟩
  · rw [hp, zero_div] at a
    exact absurd (sub_eq_zero.1 (abs_nonpos_iff.1 a)) hx
  · rw [hr] at b; cases b
  · exact e

theorem svb_inv {p : Param ℝ} {v : ℝ} {p' : Param ℝ} (hi : p.Inv) (h : p.setValueBase v = .ok p') : p'.Inv := by
  rcases svb_ok h with ⟨rfl, _⟩ | ⟨rfl, _, ha⟩
  · exact hi
  · exact (accepts_iff p v).1 ha

theorem svb_fields (h : p.setValueBase v = .ok p') :
    p'.constraint = p.constraint ∧ p'.precision = p.precision ∧ p'.auto = p.auto := by
  rcases svb_ok h with ⟨rfl, _⟩ | ⟨rfl, _, _⟩ <;> exact ⟨rfl, rfl, rfl⟩

/-! ### the auto-correcting setter: the plain setter on the request, then on the accepted limit,
then `TINY` above it, then `TINY` below it, ending on the first call that goes through -/

theorem sva_of_ok (h : p.setValueBase v = .ok q) : p.setValueAuto v = .ok q := by
  unfold setValueAuto; rw [h]

section
variable {limit : ℝ} {e1 e2 : PErr}
  (h0 : p.setValueBase v = .error e) (hc : p.constraint = some c) (hlim : c.getAcceptedLimit (.fin v) = .fin limit)
include h0 hc hlim

theorem sva_limit (h1 : p.setValueBase limit = .ok q) : p.setValueAuto v = .ok q := by
  simp only [setValueAuto, h0, hc, hlim, h1]

theorem sva_limit_add (h1 : p.setValueBase limit = .error e1) (h2 : p.setValueBase (limit + Constants.TINY) = .ok q) :
    p.setValueAuto v = .ok q := by
  simp only [setValueAuto, h0, hc, hlim, h1, h2]

theorem sva_limit_sub (h1 : p.setValueBase limit = .error e1) (h2 : p.setValueBase (limit + Constants.TINY) = .error e2) :
    p.setValueAuto v = p.setValueBase (limit - Constants.TINY) := by
  simp only [setValueAuto, h0, hc, hlim, h1, h2]

end

/-- every successful auto-correcting call is the result of one successful plain call -/
theorem sva_from_svb (h : p.setValueAuto v = .ok p') :
    ∃ x, p.setValueBase x = .ok p' := by
  unfold setValueAuto at h
  split at h
  · next q h1 => exact ⟨v, by rw [h1]; exact congrArg _ (Except.ok.inj h)⟩
  · split at h
    · cases h
    · split at h
      · next limit _ =>
        split at h
        · next q h2 => exact ⟨limit, by rw [h2]; exact congrArg _ (Except.ok.inj h)⟩
        · split at h
          · next q h3 => exact ⟨_, by rw [h3]; exact congrArg _ (Except.ok.inj h)⟩
          · exact ⟨_, h⟩
      · cases h

/-- likewise for the virtual setter, whatever the dynamic type -/
theorem setValue_from_svb (h : p.setValue v = .ok p') : ∃ x, p.setValueBase x = .ok p' := by
  unfold setValue at h
  split_ifs at h
  exacts [sva_from_svb h, ⟨v, h⟩]

theorem setValue_of_auto {p : Param ℝ} (h : p.auto = true) (v : ℝ) : p.setValue v = p.setValueAuto v := by
  unfold setValue; rw [if_pos h]

theorem setValue_of_plain {p : Param ℝ} (h : p.auto = false) (v : ℝ) : p.setValue v = p.setValueBase v := by
  unfold setValue; rw [if_neg (by rw [h]; exact Bool.false_ne_true)]

theorem accepts_none {p : Param ℝ} (hc : p.constraint = none) (v : ℝ) : p.accepts v = true := by
  unfold accepts; rw [hc]

theorem sva_inv {p : Param ℝ} {v : ℝ} {p' : Param ℝ} (hi : p.Inv) (h : p.setValueAuto v = .ok p') : p'.Inv := by
  obtain ⟨x, hx⟩ := sva_from_svb h; exact svb_inv hi hx

theorem sva_fields (h : p.setValueAuto v = .ok p') :
    p'.constraint = p.constraint ∧ p'.precision = p.precision ∧ p'.auto = p.auto := by
  obtain ⟨x, hx⟩ := sva_from_svb h; exact svb_fields hx

/-- Which attempt the auto-correcting setter ends on, for a rejected request on a wide interval: the first of
`v`, `limit`, `limit + TINY`, `limit - TINY` that the plain setter lets through.  That is the accepted point next to
the bound on the request's side — the bound itself when included, else one constraint-precision step inside it, else
(precision 0) `TINY` inside it — unless the parameter's own precision window swallows an earlier, rejected attempt;
those lie at or outside the bound. -/
theorem auto_attempt (hc : p.constraint = some c) (hw : c.wide = true) (hrej : c.isCorrect v = false) :
    (c.geV (.fin v) = true ∧ ∃ l, c.lo = .fin l ∧ v ≤ l ∧ ∃ p' x, p.setValueAuto v = .ok p' ∧ p.setValueBase x = .ok p' ∧
        (x = (if c.inclLo then l else if 0 < c.prec then l + c.prec else l + Constants.TINY) ∨
          c.isCorrect x = false ∧ x ≤ l)) ∨
    (c.geV (.fin v) = false ∧ ∃ u, c.hi = .fin u ∧ u ≤ v ∧ ∃ p' x, p.setValueAuto v = .ok p' ∧ p.setValueBase x = .ok p' ∧
        (x = (if c.inclHi then u else if 0 < c.prec then u - c.prec else u - Constants.TINY) ∨
          c.isCorrect x = false ∧ u ≤ x)) := by
  have hT := TINY_pos
  have hp0 := ((Interval.wide_iff c).1 hw).1
  have hacc := accepts_some hc
  have acc : ∀ x, c.isCorrect x = true → ∃ q, p.setValueBase x = .ok q := fun x hx =>
    svb_of_accepts ((hacc x).trans hx)
  -- an attempt goes through, or it raises and the constraint rejects it
  have tr : ∀ x, (∃ q, p.setValueBase x = .ok q) ∨ (p.setValueBase x = .error .constraint ∧ c.isCorrect x = false) :=
    fun x => (svb_ok_or_rejected p x).imp_right (And.imp_right (hacc x).symm.trans)
  rcases Interval.alimit_exact c v hw hrej with ⟨hg, l, hlo, hvl, hlim, a1, a2, a3⟩ | ⟨hg, u, hhi, huv, hlim, a1, a2, a3⟩
  · refine Or.inl ⟨hg, l, hlo, hvl, ?_⟩
    rcases tr v with ⟨q, e⟩ | ⟨e, -⟩
    · exact ⟨q, v, sva_of_ok e, e, Or.inr ⟨hrej, hvl⟩⟩
    cases hil : c.inclLo with
    | true =>
      rw [hil, if_pos rfl] at hlim
      obtain ⟨q, hq⟩ := acc l (a1 hil)
      exact ⟨q, l, sva_limit e hc hlim hq, hq, Or.inl rfl⟩
    | false =>
      rw [hil, if_neg Bool.false_ne_true] at hlim
      rw [if_neg Bool.false_ne_true]
      rcases hp0.lt_or_eq with hpos | hz
      · obtain ⟨q, hq⟩ := acc _ (a2 hil hpos)
        exact ⟨q, _, sva_limit e hc hlim hq, hq, Or.inl (if_pos hpos).symm⟩
      · -- precision 0: the limit is the excluded bound, `l + TINY` is accepted
        obtain ⟨r1, r2⟩ := a3 hil hz.symm
        rw [← hz, add_zero] at hlim
        rcases tr l with ⟨q, e1⟩ | ⟨e1, -⟩
        · exact ⟨q, l, sva_limit e hc hlim e1, e1, Or.inr ⟨r1, le_rfl⟩⟩
        · obtain ⟨q, hq⟩ := acc _ r2
          exact ⟨q, _, sva_limit_add e hc hlim e1 hq, hq, Or.inl (if_neg (hz ▸ lt_irrefl _)).symm⟩
  · refine Or.inr ⟨hg, u, hhi, huv, ?_⟩
    rcases tr v with ⟨q, e⟩ | ⟨e, -⟩
    · exact ⟨q, v, sva_of_ok e, e, Or.inr ⟨hrej, huv⟩⟩
    cases hiu : c.inclHi with
    | true =>
      rw [hiu, if_pos rfl] at hlim
      obtain ⟨q, hq⟩ := acc u (a1 hiu)
      exact ⟨q, u, sva_limit e hc hlim hq, hq, Or.inl rfl⟩
    | false =>
      rw [hiu, if_neg Bool.false_ne_true] at hlim
      rw [if_neg Bool.false_ne_true]
      rcases hp0.lt_or_eq with hpos | hz
      · obtain ⟨q, hq⟩ := acc _ (a2 hiu hpos)
        exact ⟨q, _, sva_limit e hc hlim hq, hq, Or.inl (if_pos hpos).symm⟩
      · -- precision 0: `u`, then `u + TINY` (both rejected), then `u - TINY` (accepted)
        obtain ⟨r1, r2, r3⟩ := a3 hiu hz.symm
        rw [← hz, sub_zero] at hlim
        rcases tr u with ⟨q, e1⟩ | ⟨e1, -⟩
        · exact ⟨q, u, sva_limit e hc hlim e1, e1, Or.inr ⟨r1, le_rfl⟩⟩
        rcases tr (u + Constants.TINY) with ⟨q, e2⟩ | ⟨e2, -⟩
        · exact ⟨q, _, sva_limit_add e hc hlim e1 e2, e2, Or.inr ⟨r2, le_add_of_nonneg_right hT.le⟩⟩
        · obtain ⟨q, hq⟩ := acc _ r3
          exact ⟨q, _, (sva_limit_sub e hc hlim e1 e2).trans hq, hq, Or.inl (if_neg (hz ▸ lt_irrefl _)).symm⟩

theorem sva_raises {limit : ℝ} (hp : p.precision = 0) (hc : p.constraint = some c)
    (hval : c.isCorrect p.value = true) (hlim : c.getAcceptedLimit (.fin v) = .fin limit)
    (h0 : c.isCorrect v = false) (h1 : c.isCorrect limit = false)
    (h2 : c.isCorrect (limit + Constants.TINY) = false) (h3 : c.isCorrect (limit - Constants.TINY) = false) :
    p.setValueAuto v = .error .constraint := by
  have B : ∀ x, c.isCorrect x = false → p.setValueBase x = .error .constraint := fun x hx =>
    svb_rejected hp (fun e => by rw [e, hval] at hx; cases hx) ((accepts_some hc x).trans hx)
  exact (sva_limit_sub (B v h0) hc hlim (B _ h1) (B _ h2)).trans (B _ h3)

/-- the invariant only looks at value and constraint -/
theorem Inv_congr (hv : q.value = p.value) (hc : q.constraint = p.constraint) (h : p.Inv) : q.Inv := by
  intro c hq; rw [hv]; exact h c (hc ▸ hq)

theorem setPrecision_precision (p : Param ℝ) (x : ℝ) : (p.setPrecision x).precision = max x 0 := by
  unfold setPrecision
  simp only [ScalarReal.ltb_iff, ScalarReal.zero_eq]
  split_ifs with h
  · exact (max_eq_right h.le).symm
  · exact (max_eq_left (not_lt.1 h)).symm

/-- A guarded write: the object `q` is built first, and `r` is stored iff `q` accepts its own value.  The constructor
and the constraint setter are both of this form. -/
noncomputable def guarded (q r : Param ℝ) : Except PErr (Param ℝ) :=
  if q.accepts q.value then .ok r else .error .constraint

theorem guarded_ok_iff {r : Param ℝ} : guarded q r = .ok p' ↔ q.Inv ∧ p' = r := by
  unfold guarded
  rw [← invOk_iff, Param.invOk]
  cases q.accepts q.value
  · exact ⟨nofun, fun h => nomatch h.1⟩
  · exact ⟨fun h => ⟨rfl, (Except.ok.inj h).symm⟩, fun h => h.2 ▸ rfl⟩

theorem guarded_error_iff {r : Param ℝ} :
    guarded q r = .error e ↔ e = .constraint ∧ ∃ c, q.constraint = some c ∧ (q.value : EReal) ∉ c.denote := by
  unfold guarded
  rw [← accepts_eq_false_iff]
  cases q.accepts q.value
  · exact ⟨fun h => ⟨(Except.error.inj h).symm, rfl⟩, fun h => h.1 ▸ rfl⟩
  · exact ⟨nofun, fun h => nomatch h.2⟩

theorem construct_eq_guarded (v : ℝ) (c : Option (Interval ℝ)) (prec : ℝ) (a : Bool) :
    Param.construct v c prec a = guarded ⟨v, 0, c, a⟩ ⟨v, max prec 0, c, a⟩ := by
  unfold construct guarded
  simp only [ScalarReal.zero_eq]
  rw [show (Param.setPrecision ⟨v, 0, c, a⟩ prec) = ⟨v, max prec 0, c, a⟩ from
    congrArg (Param.mk v · c a) (setPrecision_precision ⟨v, 0, c, a⟩ prec)]

theorem setConstraint_eq_guarded (p : Param ℝ) (c : Option (Interval ℝ)) :
    p.setConstraint c = guarded { p with constraint := c } { p with constraint := c } := by
  unfold setConstraint guarded accepts
  cases c with
  | none => rfl
  | some c' =>
    dsimp only
    by_cases h : c'.isCorrect p.value = true
    · rw [if_pos h, if_neg (by rw [h]; decide)]
    · rw [if_neg h, if_pos (by rw [Bool.eq_false_iff.2 h]; rfl)]

theorem construct_eq {v : ℝ} {c : Option (Interval ℝ)} {prec : ℝ} {a : Bool} {p : Param ℝ}
    (h : Param.construct v c prec a = .ok p) : p = ⟨v, max prec 0, c, a⟩ ∧ p.Inv := by
  rw [construct_eq_guarded, guarded_ok_iff] at h
  exact ⟨h.2, h.2 ▸ h.1⟩

theorem setConstraint_ok {p : Param ℝ} {c : Option (Interval ℝ)} {p' : Param ℝ} (h : p.setConstraint c = .ok p') :
    p' = { p with constraint := c } ∧ p'.Inv := by
  rw [setConstraint_eq_guarded, guarded_ok_iff] at h
  exact ⟨h.2, h.2 ▸ h.1⟩

theorem nearestOk_iff (hc : p.constraint = some c) (s v w : ℝ) :
    p.nearestOk s v w = true ↔
      if c.isCorrect v then |w - v| ≤ p.precision / 2
      else if c.geV (.fin v) then
        ∃ l, c.lo = .fin l ∧ |w - v| ≤ (l - v) + (s * max c.prec Constants.TINY + p.precision / 2)
      else ∃ h, c.hi = .fin h ∧ |w - v| ≤ (v - h) + (s * max c.prec Constants.TINY + p.precision / 2) := by
  unfold nearestOk
  rw [hc]
  simp only [ScalarReal.max_eq, ScalarReal.abs_eq, ScalarReal.ofInt_eq, Int.cast_ofNat]
  split_ifs
  · exact ScalarReal.leb_iff _ _
  · cases c.lo <;> simp only [ScalarReal.leb_iff, Bool.false_eq_true, reduceCtorEq, false_and, exists_false,
      Bound.fin.injEq, exists_eq_left']
  · cases c.hi <;> simp only [ScalarReal.leb_iff, Bool.false_eq_true, reduceCtorEq, false_and, exists_false,
      Bound.fin.injEq, exists_eq_left']

/-- the executable nearest-value predicate holds for every successful auto-correcting call on a
wide interval (any slack `k ≥ 1`) -/
theorem auto_nearestOk (hc : p.constraint = some c)
    (hp : 0 ≤ p.precision) (hw : c.wide = true) (hinv : p.Inv) (h : p.setValueAuto v = .ok p')
    (k : Int) (hk : 1 ≤ k) : p.nearestOk (Scalar.ofInt k) v p'.value = true := by
  have hok : c.isCorrect p'.value = true := (Inv_some ((sva_fields h).1.trans hc)).1 (sva_inv hinv h)
  have hm1 : c.prec ≤ max c.prec Constants.TINY := le_max_left _ _
  have hm2 : Constants.TINY ≤ max c.prec Constants.TINY := le_max_right _ _
  have hm0 : 0 ≤ max c.prec Constants.TINY := TINY_pos.le.trans hm2
  have hkm : max c.prec Constants.TINY ≤ (k : ℝ) * max c.prec Constants.TINY :=
    le_mul_of_one_le_left hm0 (by exact_mod_cast hk)
  rw [nearestOk_iff hc, ScalarReal.ofInt_eq]
  cases hv : c.isCorrect v with
  | true =>
    obtain ⟨q, e⟩ := svb_of_accepts ((accepts_some hc v).trans hv)
    obtain rfl := Except.ok.inj ((sva_of_ok e).symm.trans h)
    exact svb_near hp e
  | false =>
    rw [if_neg Bool.false_ne_true]
    -- the attempt the call ends on is within one step of the bound, the value stored within the window of the attempt
    rcases auto_attempt hc hw hv with ⟨hg, l, hlo, hvl, q, x, h1, h2, hx⟩ | ⟨hg, u, hhi, huv, q, x, h1, h2, hx⟩ <;>
      obtain rfl := Except.ok.inj (h1.symm.trans h) <;> have near := abs_sub_le_iff.1 (svb_near hp h2)
    · rw [hg, if_pos rfl]
      refine ⟨l, hlo, ?_⟩
      have h3 : x ≤ l + max c.prec Constants.TINY := by
        rcases hx with rfl | ⟨-, hx⟩
        · cases c.inclLo
          · rw [if_neg Bool.false_ne_true]
            by_cases hpos : 0 < c.prec
            · rw [if_pos hpos]; exact add_le_add_right hm1 l
            · rw [if_neg hpos]; exact add_le_add_right hm2 l
          · exact le_add_of_nonneg_right hm0
        · exact hx.trans (le_add_of_nonneg_right hm0)
      rw [abs_of_nonneg (sub_nonneg.2 (hvl.trans (Interval.lo_le_of_isCorrect hlo hok)))]
      have hb := ((sub_le_iff_le_add'.1 near.1).trans (add_le_add_left h3 _)).trans_eq (add_assoc _ _ _)
      exact (sub_le_sub_right (hb.trans (add_le_add_right (add_le_add_left hkm _) _)) v).trans_eq
        (add_sub_right_comm _ _ _)
    · rw [hg, if_neg Bool.false_ne_true]
      refine ⟨u, hhi, ?_⟩
      have h3 : u - max c.prec Constants.TINY ≤ x := by
        rcases hx with rfl | ⟨-, hx⟩
        · cases c.inclHi
          · rw [if_neg Bool.false_ne_true]
            by_cases hpos : 0 < c.prec
            · rw [if_pos hpos]; exact sub_le_sub_left hm1 u
            · rw [if_neg hpos]; exact sub_le_sub_left hm2 u
          · exact sub_le_self u hm0
        · exact (sub_le_self u hm0).trans hx
      rw [abs_of_nonpos (sub_nonpos.2 ((Interval.le_hi_of_isCorrect hhi hok).trans huv)), neg_sub]
      have hb := (sub_sub _ _ _).ge.trans ((sub_le_sub_right h3 _).trans (sub_le_comm.1 near.2))
      exact (sub_le_sub_left ((sub_le_sub_left (add_le_add_left hkm _) u).trans hb) v).trans_eq
        ((sub_sub_eq_add_sub _ _ _).trans (sub_add_eq_add_sub _ _ _).symm)

/-- what the executable predicate (slack 1) means -/
theorem nearestOk_sound {w : ℝ} (hc : p.constraint = some c)
    (h : p.nearestOk (Scalar.ofInt 1) v w = true) (u : ℝ) (hu : c.isCorrect u = true) :
    |w - v| ≤ |u - v| + max c.prec Constants.TINY + p.precision / 2 := by
  have hmax : 0 ≤ max c.prec Constants.TINY := TINY_pos.le.trans (le_max_right _ _)
  rw [nearestOk_iff hc, ScalarReal.ofInt_eq, Int.cast_one, one_mul] at h
  rw [add_assoc]
  split_ifs at h
  · exact h.trans ((le_add_of_nonneg_left hmax).trans (le_add_of_nonneg_left (abs_nonneg _)))
  · -- `l - v ≤ u - v ≤ |u - v|`
    obtain ⟨l, hlo, hl⟩ := h
    exact hl.trans (add_le_add_left
      ((sub_le_sub_right (Interval.lo_le_of_isCorrect hlo hu) v).trans (le_abs_self _)) _)
  · -- `v - h ≤ v - u ≤ |u - v|`
    obtain ⟨h', hhi, hl⟩ := h
    exact hl.trans (add_le_add_left
      ((sub_le_sub_left (Interval.le_hi_of_isCorrect hhi hu) v).trans (abs_sub_comm u v ▸ le_abs_self _)) _)

end Param

namespace POp

/-- the register a call writes -/
def target {α : Type} : POp α → Nat
  | .construct k .. => k
  | .copy _ d => d
  | .toAuto _ d => d
  | .toPlain _ d => d
  | .assign _ d => d
  | .setValue k _ => k
  | .setPrecision k _ => k
  | .setConstraint k _ => k
  | .removeConstraint k => k

/-- What a call with target register `k` may return on the store `s`: `s` as it was, with an outcome
other than `done` (it raised, or named an empty register); or `done`, with one object satisfying
`G` written into `k`. -/
inductive Effect (s : PStore ℝ) (k : Nat) (G : Param ℝ → Prop) : PStore ℝ × POutcome → Prop
  | skip {o : POutcome} : o ≠ .done → Effect s k G (s, o)
  | write {p : Param ℝ} : G p → Effect s k G (s.set k p, .done)

/-- every call has such an effect on its target register; what it writes satisfies the invariant and
has a non-negative precision when the objects of the store do -/
theorem step_cases (s : PStore ℝ) (op : POp ℝ) :
    Effect s op.target (fun p' => (∀ k p, s k = some p → p.Inv ∧ 0 ≤ p.precision) → p'.Inv ∧ 0 ≤ p'.precision)
      (step s op) := by
  cases op with
  | construct k a v c prec =>
    simp only [step]
    split
    · next p h =>
      obtain ⟨rfl, hi⟩ := Param.construct_eq h
      exact .write fun _ => ⟨hi, le_max_right _ _⟩
    · exact .skip nofun
  | setValue k v =>
    simp only [step]
    split
    · next p h =>
      split
      · next p' h' =>
        obtain ⟨x, hx⟩ := Param.setValue_from_svb h'
        exact .write fun hs => ⟨Param.svb_inv (hs k p h).1 hx, (Param.svb_fields hx).2.1 ▸ (hs k p h).2⟩
      · exact .skip nofun
    · exact .skip nofun
  | setPrecision k x =>
    simp only [step]
    split
    · next p h =>
      exact .write fun hs =>
        ⟨Param.Inv_congr rfl rfl (hs k p h).1, (Param.setPrecision_precision p x).symm ▸ le_max_right _ _⟩
    · exact .skip nofun
  | setConstraint k c =>
    simp only [step]
    split
    · next p h =>
      split
      · next p' h' =>
        obtain ⟨rfl, hi⟩ := Param.setConstraint_ok h'
        exact .write fun hs => ⟨hi, (hs k p h).2⟩
      · exact .skip nofun
    · exact .skip nofun
  | removeConstraint k =>
    simp only [step]
    split
    · next p h => exact .write fun hs => ⟨fun c hc => (nomatch hc), (hs k p h).2⟩
    · exact .skip nofun
  | assign src dst =>
    simp only [step]
    split
    · next p q h _ => exact .write fun hs => ⟨Param.Inv_congr rfl rfl (hs src p h).1, (hs src p h).2⟩
    · exact .skip nofun
  -- the object written is the one read, up to its dynamic type
  | copy src dst | toAuto src dst | toPlain src dst =>
    simp only [step]
    split
    · next p h => exact .write fun hs => ⟨Param.Inv_congr rfl rfl (hs src p h).1, (hs src p h).2⟩
    · exact .skip nofun

end POp
end Bpp
