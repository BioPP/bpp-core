import BppProofs.Lemmas.LURound
/-! Helper lemmas for C05 (LU decomposition): the factorisation as an equation between Mathlib
matrices, the determinant, `solve` (`SweepInv`: one invariant for the forward and the back substitution) and its
`std::vector` overload, which is the one-column case. -/
namespace Bpp.LU
open Bpp

/-! ## bridge to Mathlib matrices, determinant -/
section Bridge
variable {m n : Nat}

/-- the Mathlib matrix with the same entries -/
def toMatrix (M : Mat ℝ m n) : Matrix (Fin m) (Fin n) ℝ := Matrix.of fun i j => M.get i j

@[simp] theorem toMatrix_apply (M : Mat ℝ m n) (i : Fin m) (j : Fin n) : toMatrix M i j = M.get i j := rfl

theorem toMatrix_matMul {k : Nat} (A : Mat ℝ m k) (B : Mat ℝ k n) :
    toMatrix (matMul A B) = toMatrix A * toMatrix B := by
  ext i j
  simp only [toMatrix_apply, matMul_get, Matrix.mul_apply]

theorem toMatrix_inj {A B : Mat ℝ m n} (h : toMatrix A = toMatrix B) : A = B :=
  Mat.ext fun i j => by have := congrFun (congrFun h i) j; simpa using this

theorem det_eq_prod (s : State ℝ n n) :
    det s = (s.pivsign : ℝ) * ∏ j : Fin n, s.lu.get j j := by
  unfold det
  simp only [Fin.cast_eq_self, ScalarReal.ofInt_eq]
  exact foldl_mul_eq_prod _ _

theorem getL_lowerTriangular (s : State ℝ n n) : (toMatrix (getL s)).IsLowerTriangular := by
  intro i j hij
  have hij' : i.val < j.val := hij
  simp only [toMatrix_apply, getL, Mat.get_ofFn]
  rw [if_neg (by omega), if_neg (by omega)]
  simp

theorem getU_upperTriangular (s : State ℝ n n) : (toMatrix (getU (Nat.le_refl n) s)).IsUpperTriangular := by
  intro i j hij
  have hij' : j.val < i.val := hij
  simp only [toMatrix_apply, getU, Mat.get_ofFn]
  rw [if_neg (by omega)]
  simp

theorem getU_diag (s : State ℝ n n) (i : Fin n) : (getU (Nat.le_refl n) s).get i i = s.lu.get i i := by
  simp [getU]

theorem det_getL (s : State ℝ n n) : (toMatrix (getL s)).det = 1 := by
  rw [Matrix.det_of_isLowerTriangular _ (getL_lowerTriangular s)]
  apply Finset.prod_eq_one
  intro i _
  simp [getL]

theorem det_getU (s : State ℝ n n) : (toMatrix (getU (Nat.le_refl n) s)).det = ∏ j : Fin n, s.lu.get j j := by
  rw [Matrix.det_of_isUpperTriangular (getU_upperTriangular s)]
  exact Finset.prod_congr rfl fun i _ => getU_diag s i

/-- for the permutation `σ` the pivot vector is the graph of: `pivsign = sign σ` and `P·A = L·U` between Mathlib matrices -/
theorem factor_matrix (h : n ≤ m) (A : Mat ℝ m n) (σ : Equiv.Perm (Fin m))
    (hσ : ∀ i : Fin m, (factor h A).piv[i.val]'i.isLt = σ i) :
    (factor h A).pivsign = ((Equiv.Perm.sign σ : ℤˣ) : ℤ) ∧
      (toMatrix A).submatrix σ id = toMatrix (getL (factor h A)) * toMatrix (getU h (factor h A)) := by
  obtain ⟨σ', h1, h2⟩ := permInv_factor h A
  -- the pivot vector determines the permutation
  obtain rfl : σ' = σ := Equiv.ext fun i => by rw [← h1 i, hσ i]
  refine ⟨h2, ?_⟩
  rw [← toMatrix_matMul]
  ext i j
  have := factor_entries h A i j
  simp only [permuteRows, Mat.get_ofFn] at this
  simp only [Matrix.submatrix_apply, id_eq, toMatrix_apply, ← h1 i]
  exact this

theorem det_factor (A : Mat ℝ n n) : det (factor (Nat.le_refl n) A) = (toMatrix A).det := by
  obtain ⟨σ, h1, _⟩ := permInv_factor (Nat.le_refl n) A
  obtain ⟨h2, h3⟩ := factor_matrix (Nat.le_refl n) A σ h1
  have hd := congrArg Matrix.det h3
  rw [Matrix.det_permute, Matrix.det_mul, det_getL, det_getU, one_mul] at hd
  rw [det_eq_prod, ← hd, h2, ← mul_assoc]
  have : (((Equiv.Perm.sign σ : ℤˣ) : ℤ) : ℝ) * (((Equiv.Perm.sign σ : ℤˣ) : ℤ) : ℝ) = 1 := by
    rcases Int.units_eq_one_or (Equiv.Perm.sign σ) with e | e <;> simp [e]
  rw [this, one_mul]

theorem pivsign_ne_zero (h : n ≤ m) (A : Mat ℝ m n) : ((factor h A).pivsign : ℝ) ≠ 0 := by
  obtain ⟨σ, _, h2⟩ := permInv_factor h A
  rw [h2]
  exact Int.cast_ne_zero.mpr (Units.ne_zero _)

end Bridge

/-! ## solve: smallest pivot, forward and back substitution -/
section Solve
variable {n nx : Nat}

theorem threshold_pos : (0 : ℝ) < (threshold : ℝ) := by
  unfold threshold
  simp only [ScalarReal.ofRat_eq, Generated.thresholdNum, Generated.thresholdDen]
  norm_num

theorem threshold_lt_one : (threshold : ℝ) < 1 := by
  unfold threshold
  simp only [ScalarReal.ofRat_eq, Generated.thresholdNum, Generated.thresholdDen]
  norm_num

theorem pos_of_not_below {d : ℝ} (hd : belowThreshold d = false) : 0 < d := by
  unfold belowThreshold at hd
  have := threshold_pos
  split at hd
  · have h' : ¬ d < threshold := by simpa using hd
    linarith [not_lt.mp h']
  · have h' : ¬ d ≤ threshold := by simpa using hd
    linarith [not_le.mp h']

theorem belowThreshold_of_lt {d : ℝ} (h : d < threshold) : belowThreshold d = true := by
  unfold belowThreshold
  split
  · simpa using h
  · simpa using le_of_lt h

theorem not_belowThreshold_of_gt {d : ℝ} (h : threshold < d) : belowThreshold d = false := by
  unfold belowThreshold
  split
  · simpa using le_of_lt h
  · simpa using h

theorem minDiag_spec (s : State ℝ n n) (hn : 0 < n) :
    (∀ i : Fin n, minDiag s rfl hn ≤ |s.lu.get i i|) ∧ ∃ i : Fin n, minDiag s rfl hn = |s.lu.get i i| := by
  unfold minDiag
  simp only [Fin.cast_eq_self, numAbs_eq, ScalarReal.ltb_iff, ← ite_and]
  refine (foldl_inv (fun (t : Nat) (d : ℝ) =>
      (∀ i : Fin n, (i.val < t ∨ i.val = 0) → d ≤ |s.lu.get i i|) ∧ ∃ i : Fin n, d = |s.lu.get i i|) n _ _ ?_ ?_).imp_left
    fun hh i => hh i (Or.inl i.isLt)
  · refine ⟨?_, ⟨⟨0, hn⟩, rfl⟩⟩
    rintro i (hi | hi)
    · omega
    · rw [show i = ⟨0, hn⟩ from Fin.ext hi]
  · rintro i0 d ⟨h1, h2⟩
    have hle : ∀ i : Fin n, (i.val < i0.val + 1 ∨ i.val = 0) → i ≠ i0 → d ≤ |s.lu.get i i| :=
      fun i hi hne => h1 i (hi.imp_left fun hlt => by have := Fin.val_ne_of_ne hne; omega)
    by_cases hc : 0 < i0.val ∧ |s.lu.get i0 i0| < d
    · rw [if_pos hc]
      refine ⟨fun i hi => ?_, ⟨i0, rfl⟩⟩
      by_cases hne : i = i0
      · rw [hne]
      · exact (le_of_lt hc.2).trans (hle i hi hne)
    · rw [if_neg hc]
      refine ⟨fun i hi => ?_, h2⟩
      by_cases hne : i = i0
      · subst hne
        by_cases h0 : 0 < i.val
        · exact not_lt.mp fun h2 => hc ⟨h0, h2⟩
        · exact h1 i (Or.inr (by omega))
      · exact hle i hi hne

/-- the columns in `P` of the system `T·C = O` have been eliminated: a row not yet handled still carries its own
entry of `C` with coefficient one, a row in `P` carries none, and every row carries the handled columns of `T·C` -/
def SweepInv {p : Nat} (T : Mat ℝ n n) (O : Mat ℝ n p) (P : Fin n → Prop) [DecidablePred P] (C : Mat ℝ n p) : Prop :=
  ∀ i j, O.get i j = (if P i then 0 else C.get i j) + ∑ l, if P l then T.get i l * C.get l j else 0

theorem sweepInv_none (T : Mat ℝ n n) (O : Mat ℝ n nx) {P : Fin n → Prop} [DecidablePred P] (hP : ∀ l, ¬ P l) :
    SweepInv T O P O :=
  fun i j => by rw [if_neg (hP i), Finset.sum_eq_zero fun l _ => if_neg (hP l), add_zero]

theorem SweepInv.matMul_eq {T : Mat ℝ n n} {O C : Mat ℝ n nx} {P : Fin n → Prop} [DecidablePred P]
    (h : SweepInv T O P C) (hP : ∀ l, P l) : matMul T C = O :=
  Mat.ext fun i j => by
    rw [h i j, if_pos (hP i), zero_add, Finset.sum_congr rfl fun l _ => if_pos (hP l)]
    rw [matMul_get]

/-- **one column of a triangular solve, the columns taken in any order**: column `k`, not handled yet, is eliminated
by dividing row `k` by the diagonal entry and subtracting `T(i,k)` times the quotient from every other row not yet
handled; the rows already handled have a zero in column `k` (that is what triangular means for the order chosen) and
stay -/
theorem SweepInv.step {T : Mat ℝ n n} {O C C' : Mat ℝ n nx} {P P' : Fin n → Prop} [DecidablePred P] [DecidablePred P']
    (h : SweepInv T O P C) {k : Fin n} (hk : ¬ P k) (hP' : ∀ l, P' l ↔ l = k ∨ P l)
    (hkk : T.get k k ≠ 0) (htri : ∀ i, P i → T.get i k = 0)
    (hC : ∀ i j, C'.get i j = if P i then C.get i j else if i = k then C.get k j / T.get k k
      else C.get i j - C.get k j / T.get k k * T.get i k) :
    SweepInv T O P' C' := by
  intro i j
  have hsplit : ∀ l, (if P' l then T.get i l * C'.get l j else 0) =
      (if l = k then T.get i k * (C.get k j / T.get k k) else 0) + (if P l then T.get i l * C.get l j else 0) := by
    intro l
    by_cases hlk : l = k
    · rw [hlk, if_pos ((hP' k).2 (Or.inl rfl)), if_pos rfl, if_neg hk, add_zero, hC k j, if_neg hk, if_pos rfl]
    · rw [if_neg hlk, zero_add]
      by_cases hl : P l
      · rw [if_pos ((hP' l).2 (Or.inr hl)), if_pos hl, hC l j, if_pos hl]
      · rw [if_neg (fun h' => ((hP' l).1 h').elim hlk hl), if_neg hl]
  simp only [hsplit, Finset.sum_add_distrib, Finset.sum_ite_eq', Finset.mem_univ, if_true]
  rw [h i j, hC i j]
  by_cases hi : P i
  · rw [if_pos hi, if_pos ((hP' i).2 (Or.inr hi)), htri i hi, zero_mul, zero_add, zero_add]
  · rw [if_neg hi, if_neg hi]
    by_cases hik : i = k
    · rw [hik, if_pos ((hP' k).2 (Or.inl rfl)), mul_div_cancel₀ _ hkk, zero_add]
    · rw [if_neg hik, if_neg (fun h' => ((hP' i).1 h').elim hik hi)]
      ring

theorem getL_entry (s : State ℝ n n) (i k : Fin n) :
    (getL s).get i k = if k.val < i.val then s.lu.get i k else if i.val = k.val then 1 else 0 := by
  simp only [getL, Mat.get_ofFn, ScalarReal.one_eq, ScalarReal.zero_eq]

theorem getU_entry (s : State ℝ n n) (i k : Fin n) :
    (getU (Nat.le_refl n) s).get i k = if i.val ≤ k.val then s.lu.get i k else 0 := by
  simp only [getU, Mat.get_ofFn, ScalarReal.zero_eq, Fin.castLE_refl]

/-- the forward sweep eliminates the columns of the unit lower factor in increasing order -/
theorem fwdStep_sweep (s : State ℝ n n) (X0 Y : Mat ℝ n nx) (k : Fin n)
    (hY : SweepInv (getL s) X0 (fun l => l.val < k.val) Y) :
    SweepInv (getL s) X0 (fun l => l.val < k.val + 1) (fwdStep s rfl Y k) := by
  have hkk : (getL s).get k k = 1 := by rw [getL_entry, if_neg (lt_irrefl _), if_pos rfl]
  refine hY.step (lt_irrefl _) (fun l => by rw [Fin.ext_iff]; omega) (hkk ▸ one_ne_zero)
    (fun i hi => by rw [getL_entry, if_neg (by omega), if_neg (by omega)]) fun i j => ?_
  rw [hkk, div_one]
  simp only [fwdStep, Mat.get_ofFn, Fin.cast_eq_self]
  by_cases hik : k.val < i.val
  · rw [if_pos hik, if_neg (by omega), if_neg (Fin.ne_of_gt hik), getL_entry, if_pos hik]
  · rw [if_neg hik]
    by_cases hik' : i = k
    · rw [hik', if_neg (lt_irrefl _), if_pos rfl]
    · rw [if_pos (by have := Fin.val_ne_of_ne hik'; omega)]

/-- the back sweep eliminates the columns of the upper factor in decreasing order -/
theorem backStep_sweep (s : State ℝ n n) (Y Z : Mat ℝ n nx) (k : Fin n) (hpiv : s.lu.get k k ≠ 0)
    (hZ : SweepInv (getU (Nat.le_refl n) s) Y (fun l => k.val + 1 ≤ l.val) Z) :
    SweepInv (getU (Nat.le_refl n) s) Y (fun l => k.val ≤ l.val) (backStep s rfl k Z) := by
  have hkk : (getU (Nat.le_refl n) s).get k k = s.lu.get k k := getU_diag s k
  refine hZ.step (by omega) (fun l => by rw [Fin.ext_iff]; omega) (hkk ▸ hpiv)
    (fun i hi => by rw [getU_entry, if_neg (by omega)]) fun i j => ?_
  rw [hkk]
  simp only [backStep, Mat.get_ofFn, Fin.cast_eq_self]
  by_cases hik : i = k
  · rw [hik, if_pos rfl, if_neg (by omega), if_pos rfl]
  · have := Fin.val_ne_of_ne hik
    rw [if_neg this, if_neg hik]
    by_cases hlt : i.val < k.val
    · rw [if_pos hlt, if_neg (by omega), getU_entry, if_pos (le_of_lt hlt)]
    · rw [if_neg hlt, if_pos (by omega)]

/-- `L·(U·X) = X0`: the forward sweep leaves `Y` with `L·Y = X0`, the back sweep `X` with `U·X = Y` -/
theorem substitute_spec (s : State ℝ n n) (hpiv : ∀ k : Fin n, s.lu.get k k ≠ 0) (X0 : Mat ℝ n nx) :
    matMul (getL s) (matMul (getU (Nat.le_refl n) s) (substitute s rfl X0)) = X0 := by
  have hf := foldl_inv (fun k Y => SweepInv (getL s) X0 (fun l => l.val < k) Y) n (fwdStep s rfl) X0
    (sweepInv_none _ _ fun l => Nat.not_lt_zero _) (fun k Y hY => fwdStep_sweep s X0 Y k hY)
  have hb := foldr_inv (fun t Z => SweepInv (getU (Nat.le_refl n) s) (Fin.foldl n (fwdStep s rfl) X0) (fun l => t ≤ l.val) Z)
    n (backStep s rfl) _ (sweepInv_none _ _ fun l => not_le.mpr l.isLt) (fun k Z hZ => backStep_sweep s _ Z k (hpiv k) hZ)
  unfold substitute
  rw [hb.matMul_eq fun l => Nat.zero_le _, hf.matMul_eq fun l => l.isLt]

/-- **when `solve` returns**: `A` is invertible, `A·X = B`, and the indicator is the smallest pivot magnitude, which
has passed the threshold and so is positive -/
theorem solve_ok (A : Mat ℝ n n) (B : Mat ℝ n nx) (d : ℝ) (X : Mat ℝ n nx)
    (hs : solve (factor (Nat.le_refl n) A) B = .ok (d, X)) :
    matMul A X = B ∧ (toMatrix A).det ≠ 0 ∧
      (∀ i : Fin n, d ≤ |(factor (Nat.le_refl n) A).lu.get i i|) ∧
      (∃ i : Fin n, d = |(factor (Nat.le_refl n) A).lu.get i i|) ∧ 0 < d := by
  obtain ⟨_, _, hn, hbt, _, hd, hX⟩ := solve_eq_ok hs
  obtain ⟨hmin, hex⟩ := minDiag_spec (factor (Nat.le_refl n) A) hn
  rw [← hd] at hmin hex hbt
  have hpos := pos_of_not_below hbt
  -- no zero pivot
  have hpiv : ∀ k : Fin n, (factor (Nat.le_refl n) A).lu.get k k ≠ 0 := fun k hk => by
    have := hmin k
    rw [hk, abs_zero] at this
    exact absurd hpos (not_lt.mpr this)
  refine ⟨?_, ?_, hmin, hex, hpos⟩
  · have hsub := substitute_spec (factor (Nat.le_refl n) A) hpiv
      (permuteCopy B rfl (factor (Nat.le_refl n) A).piv)
    rw [← hX] at hsub
    obtain ⟨σ, h1, _⟩ := permInv_factor (Nat.le_refl n) A
    have h3 := (factor_matrix (Nat.le_refl n) A σ h1).2
    -- as Mathlib matrices: (A X)(σ i, j) = B(σ i, j)
    have hm := congrArg toMatrix hsub
    rw [toMatrix_matMul, toMatrix_matMul, ← Matrix.mul_assoc, ← h3] at hm
    apply toMatrix_inj
    rw [toMatrix_matMul]
    ext i j
    have := congrFun (congrFun hm (σ.symm i)) j
    simp only [Matrix.mul_apply, Matrix.submatrix_apply, id_eq, Equiv.apply_symm_apply, toMatrix_apply,
      permuteCopy, Mat.get_ofFn, Fin.cast_eq_self, h1] at this
    simpa only [Matrix.mul_apply, toMatrix_apply] using this
  · rw [← det_factor A, det_eq_prod]
    exact mul_ne_zero (pivsign_ne_zero _ A) (Finset.prod_ne_zero_iff.mpr fun k _ => hpiv k)

end Solve

/-! ## the vector overload is the one-column instance of the matrix overload, for any scalar type -/
section Vec
variable {n : Nat}

theorem foldl_comm {σ τ : Type} (g : σ → τ) :
    ∀ (n : Nat) (f : σ → Fin n → σ) (f' : τ → Fin n → τ) (x : σ),
      (∀ y k, g (f y k) = f' (g y) k) → g (Fin.foldl n f x) = Fin.foldl n f' (g x) := by
  intro n
  induction n with
  | zero => intro f f' x _; simp
  | succ n ih =>
    intro f f' x hc
    rw [Fin.foldl_succ_last, Fin.foldl_succ_last, hc, ih _ (fun t k => f' t k.castSucc) x (fun y k => hc y k.castSucc)]

theorem foldr_comm {σ τ : Type} (g : σ → τ) :
    ∀ (n : Nat) (f : Fin n → σ → σ) (f' : Fin n → τ → τ) (x : σ),
      (∀ k y, g (f k y) = f' k (g y)) → g (Fin.foldr n f x) = Fin.foldr n f' (g x) := by
  intro n
  induction n with
  | zero => intro f f' x _; simp
  | succ n ih =>
    intro f f' x hc
    rw [Fin.foldr_succ_last, Fin.foldr_succ_last, ih _ (fun k t => f' k.castSucc t) _ (fun k y => hc k.castSucc y), hc]

@[simp] theorem colMat_get {α : Type} (v : Vector α n) (i : Fin n) (j : Fin 1) : (colMat v).get i j = v[i.val]'i.isLt := by
  simp [colMat]

theorem solveVec_as_solve {α : Type} [Scalar α] (s : State α n n) (b : Vector α n) (d : α) (x : Vector α n)
    (hs : solveVec s b = .ok (d, x)) : solve s (colMat b) = .ok (d, colMat x) := by
  obtain ⟨_, _, hn, hbt, rfl, rfl⟩ := solveVec_eq_ok hs
  rw [solve_square _ _ hn, hbt, if_neg Bool.false_ne_true, if_pos Nat.one_pos]
  congr 2
  unfold substitute
  have h0 : colMat (permuteCopyV b rfl s.piv) = permuteCopy (colMat b) rfl s.piv := by
    apply Mat.ext; intro i j; simp [permuteCopyV, permuteCopy]
  rw [← h0]
  rw [← foldl_comm colMat n (fwdStepV s rfl) (fwdStep s rfl) _ (by
    intro y k; apply Mat.ext; intro i j
    simp only [colMat_get, fwdStepV, fwdStep, Mat.get_ofFn, Vector.getElem_ofFn, Fin.cast_eq_self])]
  rw [← foldr_comm colMat n (backStepV s rfl) (backStep s rfl) _ (by
    intro k y; apply Mat.ext; intro i j
    simp only [colMat_get, backStepV, backStep, Mat.get_ofFn, Vector.getElem_ofFn, Fin.cast_eq_self])]

end Vec

end Bpp.LU
