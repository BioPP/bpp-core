import BppProofs.Lemmas.ParamListOwner
import BppProofs.Lemmas.ParamListFrame
import BppProofs.Lemmas.ParamListDelete
import BppModel.ParamListExtSpec
/-! C02: what one operation of the machine can do (`Does`), proved once against `step`; that every operation
keeps the invariant, writes only what it may, changes nothing when it is atomic and raised, and who is notified
follow from it without unfolding `step` again. -/
namespace Bpp.ParamList

theorem unchanged_of {n : Nat} {b a : State} (hl : ∀ k, a.lists k = b.lists k)
    (ho : ∀ i, i < b.heap.next → a.heap.get i = b.heap.get i) : unchanged n b a = true := by
  simp only [unchanged, sameLists, sameObjs, Bool.and_eq_true, List.all_eq_true, List.mem_range, beq_iff_eq]
  exact ⟨fun k _ => (hl k).symm, fun i hi => (ho i hi).symm⟩

theorem unchanged_refl (n : Nat) (s : State) : unchanged n s s = true :=
  unchanged_of (fun _ => rfl) (fun _ _ => rfl)

theorem isErr_ofErr {e : Option Err} (h : (Out.ofErr e).isErr = true) : e ≠ none := by
  rintro rfl; cases h

theorem isErr_stepHR (s : State) (r : HR) : (stepHR s r).2.out.isErr = r.err.isSome := by
  rw [stepHR]; cases r.err <;> rfl

theorem isErr_stepAR (s : State) (r : AR) (b : Bool) : (stepAR s r b).2.out.isErr = r.err.isSome := by
  rw [stepAR]; cases r.err <;> cases b <;> rfl

theorem GoodLR.of_sublist {h : Store} {l l' : List ObjId} (v : Valid h l) (sub : l'.Sublist l) (e : Option Err) :
    GoodLR h l { heap := h, list := l', err := e } :=
  ⟨Pres.refl h, v.sublist sub, fun nd => (names_sublist sub).nodup nd⟩

/-- only the owner's setters notify, and not when they raise -/
def Notifies (op : Op) (a : Ans) : Prop := clauseOwnerAtomic op a.out a.fired = true

theorem notifies_none (op : Op) (o : Out) : Notifies op ⟨o, none⟩ := by
  cases op <;> first | rfl | exact Bool.or_true _

/-- **What one operation can do.**  Every `step s op` has one of four shapes; each shape comes with what
the routine behind it guarantees: which objects it may write (`Frame`, always), that it keeps the invariant's
ingredients (from `Inv s`), and that it changes nothing when it is an atomic operation that raised.
Deletions, `reset`, copies and `getCommonParametersWith` are of shape `lr` by unfolding (`s.withHeap s.heap` is `s`,
`Out.ofErr none` is `.ok`).  An atomic sub-list function writes no object at all, and `stepSub` keeps the registers
when it raised: that is its field `a`.  `q` is there for `setNamespace`; nothing proved from `Does` reads `pre`. -/
inductive Does (s : State) (op : Op) : State × Ans → Prop
  /-- a query, or a call refused before it did anything -/
  | nothing (o : Out) : Does s op (s, ⟨o, none⟩)
  /-- a routine working on the list of register `k`, whose result replaces it -/
  | lr {k : Nat} {r : LR} (hd : op.dest = some k) (f : Frame s.heap r.heap (op.writes.flatMap s.lists))
      (g : Inv s → GoodLR s.heap (s.lists k) r)
      (a : op.atomic = true → r.err ≠ none → r.heap = s.heap ∧ r.list = s.lists k) : Does s op (stepLR s k r)
  /-- a sub-list function, whose result goes to register `j` unless it raised -/
  | sub {j : Nat} {r : LR} (hd : op.dest = some j) (f : Frame s.heap r.heap (op.writes.flatMap s.lists))
      (g : Inv s → GoodLR s.heap [] r) (a : op.atomic = true → op.writes = []) : Does s op (stepSub s j r)
  /-- a routine that only writes objects (and, for `setNamespace`, the owner's prefix) -/
  | heap {h' : Store} {q : Nat → String} {a : Ans} (hd : op.dest = none)
      (f : Frame s.heap h' (op.writes.flatMap s.lists)) (p : Inv s → op.keepsNames = true → Pres s.heap h')
      (ua : Inv s → op.atomic = true → a.out.isErr = true → h' = s.heap) (nt : Inv s → Notifies op a) :
      Does s op ({ s with heap := h', pre := q }, a)

/-- `hop` says that `op` is one of the four owner-level setters (for each of them it is `Iff.rfl`) -/
theorem notifies_stepAR (op : Op) (s : State) {r : AR} (b : Bool) (hf : r.err ≠ none → r.fired = none)
    (hop : ∀ o f, Notifies op ⟨o, f⟩ ↔ (!o.isErr || f == none) = true) : Notifies op (stepAR s r b).2 := by
  rw [hop, isErr_stepAR]
  cases e : r.err with
  | none => rfl
  | some x => exact beq_iff_eq.2 (hf (by rw [e]; nofun))

theorem Does.hr {s : State} {op : Op} {r : HR} (hd : op.dest = none)
    (f : Frame s.heap r.heap (op.writes.flatMap s.lists)) (p : Inv s → Pres s.heap r.heap)
    (ua : op.atomic = true → r.err ≠ none → r.heap = s.heap) : Does s op (stepHR s r) :=
  .heap hd f (fun inv _ => p inv) (fun _ ha he => ua ha (isErr_ofErr he)) (fun _ => notifies_none ..)

/-- an owner-level setter: all four are atomic, and notify nobody when they raise -/
theorem Does.ar {s : State} {op : Op} {r : AR} (b : Bool) (hd : op.dest = none)
    (f : Frame s.heap r.heap (op.writes.flatMap s.lists)) (p : Inv s → Pres s.heap r.heap)
    (ua : Inv s → r.err ≠ none → r.heap = s.heap ∧ r.fired = none)
    (hop : ∀ o f, Notifies op ⟨o, f⟩ ↔ (!o.isErr || f == none) = true) : Does s op (stepAR s r b) :=
  .heap hd f (fun inv _ => p inv)
    (fun inv _ he => (ua inv (Option.isSome_iff_ne_none.1 ((isErr_stepAR s r b).symm.trans he))).1)
    (fun inv => notifies_stepAR op s b (fun e => (ua inv e).2) hop)

theorem step_does (s : State) (op : Op) : Does s op (step s op) := by
  cases op with
  | add k p | addPtr k p =>
    simp only [step]
    split
    · exact .nothing _
    · next hp =>
      exact .lr rfl (addParameter_frame ..) (fun inv => addParameter_good p (inv.wf k) (fun _ => by simpa using hp))
        (fun _ => addParameter_err)
  | addAll k j =>
    exact .lr rfl (addParameters_frame ..) (fun inv => addParameters_good _ (inv.wf k) (inv.wf j)) nofun
  | share k j n =>
    simp only [step]
    split
    · exact .nothing _
    · next i e =>
      exact .lr rfl ((shareParameter_frame ..).toWrites (List.mem_cons_self ..))
        (fun inv => shareParameter_good (inv.wf k) (find?_valid (inv.wf j) e)) (fun _ => shareParameter_err)
  | shareAll k j =>
    exact .lr rfl (shareParameters_frame ..).toWrites₂ (fun inv => shareParameters_good _ (inv.wf k) (inv.wf j)) nofun
  | incl k j =>
    exact .lr rfl ((includeParameters_frame ..).toWrites (List.mem_cons_self ..))
      (fun inv => includeParameters_good _ (inv.wf k) (inv.wf j)) nofun
  | setParam k i p =>
    simp only [step]
    split
    · exact .nothing _
    · next hp =>
      exact .lr rfl (setParameter_frame ..) (fun inv => setParameter_good i p (inv.wf k) (fun _ => by simpa using hp))
        (fun _ => setParameter_err)
  | setValue k n v =>
    exact .hr rfl ((setParameterValue_frame ..).toWrites (List.mem_cons_self ..))
      (fun _ => setParameterValue_pres ..) (fun _ => setParameterValue_err)
  | setAllValues k j =>
    exact .hr rfl ((setAllParametersValues_frame ..).toWrites (List.mem_cons_self ..))
      (fun _ => setAllParametersValues_pres ..) (fun _ => setAllParametersValues_err)
  | setValues k j =>
    exact .hr rfl ((setParametersValues_frame ..).toWrites (List.mem_cons_self ..))
      (fun _ => setParametersValues_pres ..) (fun _ => setParametersValues_err)
  | testValues k j => simp only [step]; split <;> exact .nothing _
  | matchValues k j w =>
    refine .heap rfl ((matchParametersValues_frame ..).toWrites (List.mem_cons_self ..))
      (fun _ _ => matchParametersValues_pres ..) (fun _ _ he => matchParametersValues_err (fun c => ?_))
      (fun _ => notifies_none ..)
    rw [c] at he; cases he
  | setAllParams k j =>
    exact .hr rfl ((setAllParameters_frame ..).toWrites (List.mem_cons_self ..))
      (fun inv => setAllParameters_pres _ _ _ (inv.wf j)) nofun
  | setParams k j =>
    exact .hr rfl ((setParameters_frame ..).toWrites (List.mem_cons_self ..))
      (fun inv => setParameters_pres _ _ _ (inv.wf j)) nofun
  | matchParams k j =>
    exact .hr rfl ((matchParameters_frame ..).toWrites (List.mem_cons_self ..))
      (fun inv => matchParameters_pres _ _ _ (inv.wf j)) nofun
  | delName k n =>
    simp only [step]
    split
    · next l e =>
      exact .lr (r := ⟨s.heap, l, none⟩) rfl (Frame.refl ..)
        (fun inv => .of_sublist (inv.wf k) (deleteParameter_sublist e) _) (fun _ c => absurd rfl c)
    · exact .nothing _
  | delNames k ns must =>
    exact .lr (r := ⟨s.heap, _, _⟩) rfl (Frame.refl ..)
      (fun inv => .of_sublist (inv.wf k) (deleteParameters_sublist ..) _) nofun
  | delIdx k i =>
    simp only [step]
    split
    · next l e =>
      exact .lr (r := ⟨s.heap, l, none⟩) rfl (Frame.refl ..)
        (fun inv => .of_sublist (inv.wf k) (deleteParameterIdx_sublist e) _) (fun _ c => absurd rfl c)
    · exact .nothing _
  | delIdxs k idx =>
    exact .lr (r := ⟨s.heap, _, _⟩) rfl (Frame.refl ..)
      (fun inv => .of_sublist (inv.wf k) (deleteParametersIdx_sublist ..) _)
      (fun ha e => ⟨rfl, deleteParametersIdx_err (of_decide_eq_true ha) e⟩)
  | subNames k j ns =>
    exact .sub rfl (createSubListNames_frame ..) (fun inv => createSubListNames_good _ _ (inv.wf k) (Valid.nil _))
      (fun _ => rfl)
  | subName k j n =>
    exact .sub rfl (createSubListNames_frame ..) (fun inv => createSubListNames_good _ _ (inv.wf k) (Valid.nil _))
      (fun _ => rfl)
  | subIdxs k j idx =>
    exact .sub rfl (createSubListIdx_frame ..) (fun inv => createSubListIdx_good _ _ (inv.wf k) (Valid.nil _))
      (fun _ => rfl)
  | subIdx k j i =>
    exact .sub rfl (createSubListIdx_frame ..) (fun inv => createSubListIdx_good _ _ (inv.wf k) (Valid.nil _))
      (fun _ => rfl)
  | shareSubNames k j ns =>
    exact .sub rfl ((shareSubListNames_frame (s.lists k) ns s.heap [] nofun).toWrites (List.mem_cons_self ..))
      (fun inv => shareSubListNames_good _ _ (inv.wf k) (Valid.nil _)) nofun
  | shareSubIdxs k j idx =>
    exact .sub rfl ((shareSubListIdx_frame (s.lists k) idx s.heap [] nofun).toWrites (List.mem_cons_self ..))
      (fun inv => shareSubListIdx_good _ _ (inv.wf k) (Valid.nil _)) nofun
  | common k j m =>
    refine .lr (r := ⟨_, _, none⟩) rfl (getCommon_frame ..) (fun inv => ?_) nofun
    obtain ⟨p1, p2, _, _, p5, _⟩ := getCommon_spec (s.lists k) s.heap (s.lists j) (inv.wf j)
    exact ⟨p1, p2, fun _ => names_eq_of_map_get p5 ▸ (names_sublist List.filter_sublist).nodup (inv.names j)⟩
  | which k n => simp only [step]; split <;> exact .nothing _
  | has k n => exact .nothing _
  | names k => exact .nothing _
  | getValue k n => simp only [step]; split <;> exact .nothing _
  | size k => exact .nothing _
  | copy k j | assign k j =>
    refine .lr (r := ⟨_, _, none⟩) rfl (cloneAll_frame ..) (fun inv => ?_) nofun
    obtain ⟨p1, p2, _, _, p5, _⟩ := cloneAll_spec (s.lists k) s.heap (inv.wf k)
    exact ⟨p1, p2, fun _ => names_eq_of_map_get p5 ▸ inv.names k⟩
  | reset k =>
    exact .lr (r := ⟨s.heap, [], none⟩) rfl (Frame.refl ..)
      (fun inv => .of_sublist (inv.wf k) (List.nil_sublist _) _) nofun
  | apSetAll k j =>
    obtain ⟨a, b, c⟩ := apSetAllParametersValues_spec s.heap (s.lists k) (s.lists j)
    exact .ar _ rfl ((apSetAllParametersValues_frame ..).toWrites (List.mem_cons_self ..))
      (fun _ => apSetAllParametersValues_pres ..)
      (fun _ e => ⟨a ▸ setAllParametersValues_err (b ▸ e), c.trans (if_neg (b ▸ e))⟩) (fun _ _ => Iff.rfl)
  | apSetValue k n v =>
    exact .ar _ rfl ((apSetParameterValue_frame ..).toWrites (List.mem_cons_self ..))
      (fun inv => apSetParameterValue_pres _ _ _ _ _ (inv.wf k))
      (fun inv e => ((apSetParameterValue_spec s.heap (s.lists k) (s.pre k) n v (inv.wf k)).2.2.1 e).symm)
      (fun _ _ => Iff.rfl)
  | apSetValues k j =>
    obtain ⟨a, b, c⟩ := apSetParametersValues_spec s.heap (s.lists k) (s.lists j)
    exact .ar _ rfl ((apSetParametersValues_frame ..).toWrites (List.mem_cons_self ..))
      (fun _ => apSetParametersValues_pres ..)
      (fun _ e => ⟨a ▸ setParametersValues_err (b ▸ e), c.trans (if_neg (b ▸ e))⟩) (fun _ _ => Iff.rfl)
  | apMatch k j =>
    exact .ar _ rfl (apMatchParametersValues_frame ..).toWrites₂
      (fun inv => apMatchParametersValues_pres _ _ _ (inv.wf j))
      (fun inv e =>
        have sp := apMatchParametersValues_spec s.heap (s.lists k) (s.lists j) (inv.names j)
        ⟨apMatchParametersValues_err (inv.names j) e, (sp.2.2.2 (sp.2.1 ▸ e)).1⟩) (fun _ _ => Iff.rfl)
  | apNamespace k p =>
    exact .heap rfl ((setNamespace_frame ..).toWrites (List.mem_cons_self ..)) (fun _ c => nomatch c)
      (fun _ c => nomatch c) (fun _ => notifies_none ..)

/-- **Every operation except `setNamespace` keeps the invariant** (valid ids, every object
satisfies its constraint, names pairwise different in every list). -/
theorem inv_step {s : State} (inv : Inv s) (op : Op) (hop : op.keepsNames = true) : Inv (step s op).1 := by
  generalize step s op = x, step_does s op = d
  cases d with
  | nothing => exact inv
  | lr _ _ g => exact inv_update inv (g inv).pres _ (g inv).valid ((g inv).nodup (inv.names _))
  | sub _ _ g => exact inv_stepSub inv _ (g inv)
  | heap _ _ p => exact have i := inv_heap inv (p inv hop); ⟨i.wf, i.ok, i.names⟩

theorem frame_step (s : State) (op : Op) :
    Frame s.heap (step s op).1.heap (op.writes.flatMap s.lists) ∧
    ∀ r, op.dest ≠ some r → (step s op).1.lists r = s.lists r := by
  generalize step s op = x, step_does s op = d
  cases d with
  | nothing => exact ⟨Frame.refl .., fun _ _ => rfl⟩
  | lr hd f => exact ⟨f, fun r hr => setList_other _ _ _ _ (hd ▸ hr)⟩
  | sub hd f =>
    rw [stepSub]
    split
    · exact ⟨f, fun _ _ => rfl⟩
    · exact ⟨f, fun r hr => setList_other _ _ _ _ (hd ▸ hr)⟩
  | heap _ f => exact ⟨f, fun _ _ => rfl⟩

theorem step_atomic (n : Nat) {s : State} (inv : Inv s) (op : Op) (ha : op.atomic = true)
    (he : (step s op).2.out.isErr = true) : unchanged n s (step s op).1 = true := by
  generalize step s op = x, step_does s op = d at he ⊢
  cases d with
  | nothing => exact unchanged_refl n s
  | lr _ _ _ a =>
    obtain ⟨h1, h2⟩ := a ha (isErr_ofErr he)
    rw [stepLR, h1, h2]
    exact unchanged_of (setList_same s _) (fun _ _ => rfl)
  | sub _ f _ a =>
    rw [a ha] at f
    unfold stepSub at he ⊢
    split
    · exact unchanged_of (fun _ => rfl) (fun i hi => f.same i hi List.not_mem_nil)
    · next hn => rw [hn] at he; cases he
  | heap _ _ _ a => rw [a inv ha he]; exact unchanged_refl n s

/-- a state in which register `j` holds the clones of register `k` of `s` (`copy`, `assign`, the owner's copy): they show
the same parameters, are fresh and pairwise different; the other registers and the old objects are those of `s` -/
theorem cloned_register {s s' : State} (inv : Inv s) (k j : Nat)
    (hh : s'.heap = (cloneAll s.heap (s.lists k)).1)
    (hl : s'.lists = ((s.withHeap (cloneAll s.heap (s.lists k)).1).setList j (cloneAll s.heap (s.lists k)).2).lists) :
    (s'.lists j).map s'.heap.get = (s.lists k).map s.heap.get ∧ (∀ i ∈ s'.lists j, s.heap.next ≤ i) ∧
    (s'.lists j).Nodup ∧ (∀ r, r ≠ j → s'.lists r = s.lists r) ∧
    (∀ i, i < s.heap.next → s'.heap.get i = s.heap.get i) := by
  obtain ⟨_, _, p3, p4, p5, p6⟩ := cloneAll_spec (s.lists k) s.heap (inv.wf k)
  have ej : s'.lists j = (cloneAll s.heap (s.lists k)).2 := by rw [hl]; exact if_pos rfl
  rw [ej, hh]
  exact ⟨p5, p3, p4, fun r hr => by rw [hl]; exact if_neg hr, p6⟩

end Bpp.ParamList
