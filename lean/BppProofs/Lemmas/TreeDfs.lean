import BppProofs.Lemmas.TreeBasic
import BppProofs.Lemmas.TreeFuel
/-
The single-visit traversal `nodesAreMetOnlyOnce_` (`T.metOnce`): unfolding of its loop `metStep`
and monotonicity in the fuel.  That it succeeds and meets every node iff the graph is a rooted tree
is in `TreeDfsSound`, `TreeDfsComplete` and `TreeValid`.
-/
namespace Bpp.Graph
open AL
namespace T

/-- one neighbour in the loop of `nodesAreMetOnlyOnce_` -/
def metStep (g : G) (fuel node origin : Nat) (acc : TRes (Option (List Nat))) (nb : Nat) : TRes (Option (List Nat)) :=
  match acc with
  | .ok (some m) => if !g.directed && origin ≠ node && nb = origin then .ok (some m) else metOnce g fuel nb node m
  | r => r

theorem metOnce_succ (g : G) (fuel node origin : Nat) (met : List Nat) :
    metOnce g (fuel + 1) node origin met =
      if met.contains node then .ok none
      else match g.outNeighbors node with
        | none => .exc
        | some nbs => nbs.foldl (metStep g fuel node origin) (.ok (some (node :: met))) := rfl

/-- the relation we came through, in an undirected graph -/
def Skip (g : G) (node origin nb : Nat) : Prop := g.directed = false ∧ origin ≠ node ∧ nb = origin

instance (g : G) (node origin nb : Nat) : Decidable (Skip g node origin nb) := by unfold Skip; infer_instance

theorem skip_iff (g : G) (node origin nb : Nat) :
    (!g.directed && decide (origin ≠ node) && decide (nb = origin)) = true ↔ Skip g node origin nb := by
  unfold Skip; cases g.directed <;> simp

theorem metStep_some (g : G) (fuel node origin : Nat) (m : List Nat) (nb : Nat) :
    metStep g fuel node origin (.ok (some m)) nb = if Skip g node origin nb then .ok (some m) else metOnce g fuel nb node m := by
  unfold metStep
  by_cases h : Skip g node origin nb
  · rw [if_pos h]; simp only; rw [if_pos ((skip_iff g node origin nb).2 h)]
  · rw [if_neg h]; simp only; rw [if_neg (fun hh => h ((skip_iff g node origin nb).1 hh))]

theorem metFold_stuck (g : G) (fuel node origin : Nat) (r : TRes (Option (List Nat))) (hr : ∀ m, r ≠ .ok (some m)) (l : List Nat) :
    l.foldl (metStep g fuel node origin) r = r := by
  induction l with
  | nil => rfl
  | cons b rest ih =>
    simp only [List.foldl]
    have : metStep g fuel node origin r b = r := by
      unfold metStep
      split
      · rename_i m; exact absurd rfl (hr m)
      · rfl
    rw [this]; exact ih

/-- a loop that ends well started well -/
theorem metFold_ok {g : G} {fuel node origin : Nat} {r : TRes (Option (List Nat))} {l m' : List Nat}
    (h : l.foldl (metStep g fuel node origin) r = .ok (some m')) : ∃ m, r = .ok (some m) :=
  Classical.byContradiction fun hn => by
    rw [metFold_stuck _ _ _ _ r (fun m e => hn ⟨m, e⟩)] at h
    exact hn ⟨m', h⟩

/-! ### more fuel does not change an answer -/

theorem metOnce_le (g : G) : ∀ (fuel node origin : Nat) (met : List Nat),
    (metOnce g fuel node origin met).Le (metOnce g (fuel + 1) node origin met)
  | 0, _, _, _ => .inl rfl
  | f + 1, node, origin, met => by
    rw [metOnce_succ, metOnce_succ]
    by_cases hc : met.contains node = true
    · rw [if_pos hc, if_pos hc]; exact .inr rfl
    · rw [if_neg hc, if_neg hc]
      cases g.outNeighbors node with
      | none => exact .inr rfl
      | some nbs =>
        refine foldl_le _ _
          (fun nb o => match o with | some m => metStep g f node origin (.ok (some m)) nb | none => .ok none)
          (fun nb o => match o with | some m => metStep g (f + 1) node origin (.ok (some m)) nb | none => .ok none)
          (fun x _ => by rcases x with (_ | _) | _ | _ | _ <;> rfl) (fun x _ => by rcases x with (_ | _) | _ | _ | _ <;> rfl)
          (fun nb o => ?_) nbs _
        cases o with
        | none => exact .inr rfl
        | some m =>
          dsimp only
          rw [metStep_some, metStep_some]
          split
          · exact .inr rfl
          · exact metOnce_le g f nb node m

theorem metOnce_mono_le (g : G) (node origin : Nat) (met : List Nat) {f1 f2 : Nat} (hle : f1 ≤ f2)
    (hr : metOnce g f1 node origin met ≠ .fuel) : metOnce g f2 node origin met = metOnce g f1 node origin met :=
  mono_le (fun k => metOnce g k node origin met) (fun k => metOnce_le g k node origin met) hle hr

/-! ### the traversal never runs out of fuel -/

theorem length_le_nodes (g : G) {l : List Nat} (hn : l.Nodup) (hs : ∀ x ∈ l, g.hasNode x = true) : l.length ≤ g.nodes.length := by
  have : l ⊆ AL.keys g.nodes := fun x hx => (G.mem_keys_hasNode g x).2 (hs x hx)
  have h := List.Nodup.length_le_of_subset hn this
  simpa [AL.keys] using h

/-- the met set stays a duplicate-free list of nodes -/
def MetInv (g : G) (m : List Nat) : Prop := m.Nodup ∧ ∀ x ∈ m, g.hasNode x = true

theorem metOnce_ne_fuel (g : G) : ∀ (fuel node origin : Nat) (met : List Nat), MetInv g met →
    fuel + met.length ≥ g.nodes.length + 1 →
    metOnce g fuel node origin met ≠ .fuel ∧
    ∀ m', metOnce g fuel node origin met = .ok (some m') → MetInv g m' ∧ met.length ≤ m'.length := by
  intro fuel
  induction fuel with
  | zero =>
    intro node origin met hi hf
    have := length_le_nodes g hi.1 hi.2
    omega
  | succ f ih =>
    intro node origin met hi hf
    rw [metOnce_succ]
    split
    · exact ⟨by simp, by intro m' h; cases h⟩
    · rename_i hc
      have hnm : node ∉ met := by simpa using hc
      cases ho : g.outNeighbors node with
      | none => exact ⟨by simp, by intro m' h; cases h⟩
      | some nbs =>
        simp only
        have hnode := (G.outNeighbors_some ho).1
        have key : ∀ (l : List Nat) (m : List Nat), MetInv g m → f + m.length ≥ g.nodes.length + 1 →
            l.foldl (metStep g f node origin) (.ok (some m)) ≠ .fuel ∧
            ∀ m', l.foldl (metStep g f node origin) (.ok (some m)) = .ok (some m') → MetInv g m' ∧ m.length ≤ m'.length := by
          intro l
          induction l with
          | nil =>
            intro m hm _
            exact ⟨by simp, by intro m' h; simp at h; subst h; exact ⟨hm, Nat.le_refl _⟩⟩
          | cons b rest ihl =>
            intro m hm hfm
            simp only [List.foldl]
            rw [metStep_some]
            split
            · exact ihl m hm hfm
            · obtain ⟨h1, h2⟩ := ih b node m hm hfm
              cases hres : metOnce g f b node m with
              | ok o =>
                cases o with
                | none => rw [metFold_stuck _ _ _ _ _ (by intro m; simp)]; exact ⟨by simp, by intro m' h; cases h⟩
                | some m1 =>
                  obtain ⟨hm1, hl1⟩ := h2 m1 hres
                  obtain ⟨h3, h4⟩ := ihl m1 hm1 (by omega)
                  exact ⟨h3, fun m' h => ⟨(h4 m' h).1, by have := (h4 m' h).2; omega⟩⟩
              | exc => rw [metFold_stuck _ _ _ _ _ (by intro m; simp)]; exact ⟨by simp, by intro m' h; cases h⟩
              | fuel => exact absurd hres h1
              | ub => rw [metFold_stuck _ _ _ _ _ (by intro m; simp)]; exact ⟨by simp, by intro m' h; cases h⟩
        have hi1 : MetInv g (node :: met) := by
          refine ⟨List.nodup_cons.2 ⟨hnm, hi.1⟩, ?_⟩
          intro x hx
          rcases List.mem_cons.1 hx with h | h
          · subst h; exact hnode
          · exact hi.2 x h
        obtain ⟨h1, h2⟩ := key nbs (node :: met) hi1 (by simp; omega)
        exact ⟨h1, fun m' h => ⟨(h2 m' h).1, by have := (h2 m' h).2; simp at this; omega⟩⟩

end T
end Bpp.Graph
