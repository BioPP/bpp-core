import BppProofs.Lemmas.Hmm
/-!
Helper lemmas for C13: the break-point control flow of `BppModel/Hmm.lean` — the validity check (`breaksOkFrom`), the
forward iterator (`fwdFlags`, which tags the sites in `mkSites`), the reverse iterator (`bwdFlags`) and the two index
walks of the posterior accessors of the log-sum class (`logPostIdx` over all sites, `logPostIdx1` for one site).  The
walks that move forward share one invariant, `Ahead T i bps` (the break points not yet passed at position `i`), and
its step `Ahead.step`.
-/
namespace Bpp.Hmm
open Bpp

/-- break points as the property means them: strictly increasing positions in `1 … T-1` -/
def ValidBreaks (T : Nat) (bps : List Nat) : Prop := bps.Pairwise (· < ·) ∧ ∀ b ∈ bps, 1 ≤ b ∧ b < T

/-- the break points not yet passed at position `i`, as the forward iterator meets them: increasing, in `i … T-1` -/
def Ahead (T : Nat) : Nat → List Nat → Prop
  | _, [] => True
  | i, b :: bs => i ≤ b ∧ b < T ∧ Ahead T (b + 1) bs

theorem ahead_iff {T i : Nat} {bps : List Nat} :
    Ahead T i bps ↔ bps.Pairwise (· < ·) ∧ ∀ b ∈ bps, i ≤ b ∧ b < T := by
  induction bps generalizing i with
  | nil => exact iff_of_true trivial ⟨List.Pairwise.nil, fun b hb => absurd hb List.not_mem_nil⟩
  | cons b bs ih =>
    simp only [Ahead, ih, List.pairwise_cons, List.forall_mem_cons]
    exact ⟨fun ⟨h1, h2, h3, h4⟩ => ⟨⟨fun x hx => (h4 x hx).1, h3⟩, ⟨h1, h2⟩,
        fun x hx => ⟨le_trans h1 (Nat.le_of_lt (h4 x hx).1), (h4 x hx).2⟩⟩,
      fun ⟨⟨h1, h2⟩, ⟨h3, h4⟩, h5⟩ => ⟨h3, h4, h2, fun x hx => ⟨h1 x hx, (h5 x hx).2⟩⟩⟩

/-- the two cases of the forward iterator: position `i` is before the next break point, or it is that one -/
theorem Ahead.step {T i : Nat} {bps : List Nat} (h : Ahead T i bps) (hi : i < T) :
    (i < nextBrk T bps ∧ i ∉ bps ∧ Ahead T (i + 1) bps) ∨ ∃ bs, bps = i :: bs ∧ Ahead T (i + 1) bs := by
  cases bps with
  | nil => exact Or.inl ⟨hi, List.not_mem_nil, trivial⟩
  | cons b bs =>
    obtain ⟨h1, h2, h3⟩ := h
    rcases Nat.lt_or_eq_of_le h1 with hlt | rfl
    · refine Or.inl ⟨hlt, fun hm => ?_, hlt, h2, h3⟩
      rcases List.mem_cons.mp hm with rfl | hm
      · exact lt_irrefl _ hlt
      · exact absurd ((ahead_iff.mp h3).2 _ hm).1 (by omega)
    · exact Or.inr ⟨bs, rfl, h3⟩

/-! ### the validity check -/

theorem breaksOkFrom_iff (T : Nat) (prev : Option Nat) (bps : List Nat) :
    breaksOkFrom T prev bps = true ↔ Ahead T (match prev with | some q => q + 1 | none => 1) bps := by
  induction bps generalizing prev with
  | nil => exact iff_of_true rfl trivial
  | cons b bs ih =>
    simp only [breaksOkFrom, Bool.and_eq_true, ih (some b), Ahead, Bool.not_eq_eq_eq_not, Bool.not_true,
      Bool.or_eq_false_iff, beq_eq_false_iff_ne, ne_eq, decide_eq_false_iff_not, Nat.not_le]
    cases prev with
    | none => exact ⟨fun ⟨⟨⟨h1, h2⟩, _⟩, h3⟩ => ⟨Nat.pos_of_ne_zero h1, h2, h3⟩,
        fun ⟨h1, h2, h3⟩ => ⟨⟨⟨Nat.ne_of_gt h1, h2⟩, rfl⟩, h3⟩⟩
    | some q => exact ⟨fun ⟨⟨⟨_, h2⟩, h⟩, h3⟩ => ⟨of_decide_eq_true h, h2, h3⟩,
        fun ⟨h1, h2, h3⟩ => ⟨⟨⟨Nat.ne_of_gt (Nat.lt_of_le_of_lt (Nat.zero_le q) h1), h2⟩, decide_eq_true h1⟩, h3⟩⟩

/-! ### forward and reverse iterator -/

theorem fwdFlags_eq (T cnt i : Nat) (bps : List Nat) (hT : i + cnt = T) (h : Ahead T i bps) :
    fwdFlags T cnt i bps = (List.range' i cnt).map (fun j => decide (j ∈ bps)) := by
  induction cnt generalizing i bps with
  | zero => rfl
  | succ cnt ih =>
    rw [List.range'_succ, List.map_cons]
    rcases h.step (by omega) with ⟨hlt, hni, h'⟩ | ⟨bs, rfl, h'⟩
    · simp only [fwdFlags, hlt, if_true, ih (i + 1) bps (by omega) h', decide_eq_false hni]
    · simp only [fwdFlags, nextBrk, lt_irrefl, if_false, List.tail_cons, ih (i + 1) bs (by omega) h',
        List.mem_cons_self, decide_true]
      exact congrArg (true :: ·) (List.map_congr_left fun j hj => decide_eq_decide.mpr (by
        rw [List.mem_cons, or_iff_right (by have := (List.mem_range'_1.mp hj).1; omega)]))

theorem fwdFlags_length (T cnt i : Nat) (bps : List Nat) : (fwdFlags T cnt i bps).length = cnt := by
  induction cnt generalizing i bps with
  | zero => rfl
  | succ cnt ih => simp only [fwdFlags]; split <;> exact congrArg (· + 1) (ih _ _)

theorem mkSites_snd (es : List (Emis ℝ)) (bps : List Nat) : (mkSites es bps).map (·.2) = es :=
  List.map_snd_zip (le_of_eq (fwdFlags_length _ _ _ _).symm)

theorem mkSites_fst (es : List (Emis ℝ)) (bps : List Nat) :
    (mkSites es bps).map (·.1) = fwdFlags (es.length + 1) es.length 1 bps :=
  List.map_fst_zip (le_of_eq (fwdFlags_length _ _ _ _))

theorem mkSites_length (es : List (Emis ℝ)) (bps : List Nat) : (mkSites es bps).length = es.length := by
  rw [← List.length_map (·.2), mkSites_snd]

theorem bwdFlags_rev (cnt : Nat) (rbps : List Nat) (hs : rbps.Pairwise (· > ·)) (hb : ∀ b ∈ rbps, 1 ≤ b ∧ b ≤ cnt) :
    (bwdFlags cnt rbps).reverse = (List.range' 1 cnt).map (fun j => decide (j ∈ rbps)) := by
  induction cnt generalizing rbps with
  | zero => rfl
  | succ i ih =>
    rw [List.range'_concat, List.map_append, List.map_singleton, one_mul, Nat.add_comm 1 i]
    cases rbps with
    | nil =>
      simp only [bwdFlags, nextBrkR, Nat.zero_lt_succ, if_true, List.reverse_cons,
        ih [] List.Pairwise.nil (fun b hb => absurd hb List.not_mem_nil), List.not_mem_nil, decide_false]
    | cons b bs =>
      obtain ⟨hbs, hs'⟩ := List.pairwise_cons.mp hs
      have hb0 := hb b List.mem_cons_self
      have htl : ∀ x ∈ bs, 1 ≤ x ∧ x ≤ i := fun x hx =>
        ⟨(hb x (List.mem_cons_of_mem _ hx)).1, by have := hbs x hx; omega⟩
      by_cases hlt : b < i + 1
      · have hni : i + 1 ∉ b :: bs := fun hm => by
          rcases List.mem_cons.mp hm with h | h
          · omega
          · have := (htl _ h).2; omega
        simp only [bwdFlags, nextBrkR, hlt, if_true, List.reverse_cons, decide_eq_false hni,
          ih (b :: bs) hs (List.forall_mem_cons.mpr ⟨⟨hb0.1, by omega⟩, htl⟩)]
      · obtain rfl : b = i + 1 := by omega
        simp only [bwdFlags, nextBrkR, lt_irrefl, if_false, List.tail_cons, List.reverse_cons, ih bs hs' htl,
          List.mem_cons_self, decide_true]
        exact congrArg (· ++ [true]) (List.map_congr_left fun j hj => decide_eq_decide.mpr (by
          rw [List.mem_cons, or_iff_right (by have := (List.mem_range'_1.mp hj).2; omega)]))

/-- for valid break points the backward iterator logic resets at the same sites as the forward one -/
theorem bwd_flags_eq_fwd (es : List (Emis ℝ)) (bps : List Nat) (hv : ValidBreaks (es.length + 1) bps) :
    (bwdFlags es.length bps.reverse).reverse = (mkSites es bps).map (·.1) := by
  rw [bwdFlags_rev es.length bps.reverse (by rw [List.pairwise_reverse]; exact hv.1)
    (fun b hb => by have := hv.2 b (List.mem_reverse.mp hb); omega),
    mkSites_fst, fwdFlags_eq (es.length + 1) es.length 1 bps (by omega) (ahead_iff.mpr hv)]
  simp only [List.mem_reverse]

/-! ### the index walks of the log-sum posterior accessors -/

/-- index into `partialLogLikelihoods_` as a function of the reset flags: the number of resets so far -/
def idxOfFlags : List Bool → Nat → List Nat
  | [], _ => []
  | b :: bs, k => (if b then k + 1 else k) :: idxOfFlags bs (if b then k + 1 else k)

theorem idxOfFlags_succ (fl : List Bool) (k : Nat) : idxOfFlags fl (k + 1) = (idxOfFlags fl k).map (· + 1) := by
  induction fl generalizing k with
  | nil => rfl
  | cons b bs ih => cases b <;> exact congrArg (_ :: ·) (ih _)

theorem logPostIdx_length (T cnt i : Nat) (bps : List Nat) (idx : Nat) : (logPostIdx T cnt i bps idx).length = cnt := by
  induction cnt generalizing i bps idx with
  | zero => rfl
  | succ cnt ih => simp only [logPostIdx]; split <;> exact congrArg (· + 1) (ih _ _ _)

theorem logPostIdx_eq (T cnt i : Nat) (bps : List Nat) (idx : Nat) (hT : i + cnt = T) (h : Ahead T i bps) :
    logPostIdx T cnt i bps idx = idxOfFlags (fwdFlags T cnt i bps) idx := by
  induction cnt generalizing i bps idx with
  | zero => rfl
  | succ cnt ih =>
    rcases h.step (by omega) with ⟨hlt, _, h'⟩ | ⟨bs, rfl, h'⟩
    · simp only [logPostIdx, fwdFlags, hlt, if_true, beq_false_of_ne (Nat.ne_of_lt hlt), Bool.false_eq_true, if_false,
        idxOfFlags, ih (i + 1) bps idx (by omega) h']
    · simp only [logPostIdx, fwdFlags, nextBrk, beq_self_eq_true, lt_irrefl, if_true, if_false, List.tail_cons,
        idxOfFlags, ih (i + 1) bs (idx + 1) (by omega) h']

theorem logPostIdx_mkSites (es : List (Emis ℝ)) (bps : List Nat) (hv : ValidBreaks (es.length + 1) bps) :
    logPostIdx (es.length + 1) (es.length + 1) 0 bps 0 = 0 :: idxOfFlags ((mkSites es bps).map (·.1)) 0 := by
  have h0 : (0 == nextBrk (es.length + 1) bps) = false := by
    cases bps with
    | nil => rfl
    | cons b bs => exact beq_false_of_ne (Nat.ne_of_lt (hv.2 b List.mem_cons_self).1)
  simp only [logPostIdx, h0, Bool.false_eq_true, if_false]
  rw [logPostIdx_eq (es.length + 1) es.length 1 bps 0 (by omega) (ahead_iff.mpr hv), mkSites_fst]

/-- the single-site walk counts the break points `≤ site` -/
theorem logPostIdx1_eq (site : Nat) (bps : List Nat) (hs : bps.Pairwise (· < ·)) :
    logPostIdx1 site bps = (bps.filter (fun b => decide (b ≤ site))).length := by
  induction bps with
  | nil => rfl
  | cons b bs ih =>
    have hbs : ∀ x ∈ bs, b < x := (List.pairwise_cons.mp hs).1
    simp only [logPostIdx1]
    by_cases hb : b ≤ site
    · simp only [hb, if_true, List.filter_cons, decide_true, List.length_cons]
      rw [ih (List.pairwise_cons.mp hs).2]; omega
    · simp only [hb, if_false, List.filter_cons, decide_false]
      have : bs.filter (fun x => decide (x ≤ site)) = [] := by
        rw [List.filter_eq_nil_iff]
        intro x hx; have := hbs x hx; simp; omega
      simp [this]

/-- no break point ahead of `i + 1` is counted at `i` -/
theorem logPostIdx1_ahead {T i : Nat} {bps : List Nat} (h : Ahead T (i + 1) bps) : logPostIdx1 i bps = 0 := by
  cases bps with
  | nil => rfl
  | cons b bs => exact if_neg (Nat.not_le.mpr h.1)

/-- the all-sites walk is, at every position, where the single-site walk gets on its own -/
theorem logPostIdx_getElem? (T cnt i : Nat) (bps : List Nat) (idx : Nat) (hT : i + cnt = T) (h : Ahead T i bps)
    (k : Nat) (hk : k < cnt) : (logPostIdx T cnt i bps idx)[k]? = some (idx + logPostIdx1 (i + k) bps) := by
  induction cnt generalizing i bps idx k with
  | zero => omega
  | succ cnt ih =>
    rcases h.step (by omega) with ⟨hlt, _, h'⟩ | ⟨bs, rfl, h'⟩
    · simp only [logPostIdx, beq_false_of_ne (Nat.ne_of_lt hlt), Bool.false_eq_true, if_false]
      cases k with
      | zero => rw [List.getElem?_cons_zero, Nat.add_zero, logPostIdx1_ahead h']; rfl
      | succ k => rw [List.getElem?_cons_succ, ih (i + 1) bps idx (by omega) h' k (by omega), Nat.add_right_comm i 1 k]; rfl
    · simp only [logPostIdx, nextBrk, beq_self_eq_true, if_true, List.tail_cons, logPostIdx1, Nat.le_add_right]
      cases k with
      | zero => simp only [List.getElem?_cons_zero, Nat.add_zero, logPostIdx1_ahead h']
      | succ k =>
        rw [List.getElem?_cons_succ, ih (i + 1) bs (idx + 1) (by omega) h' k (by omega), Nat.add_right_comm i 1 k,
          Nat.add_assoc idx]; rfl

end Bpp.Hmm
