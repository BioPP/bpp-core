import BppProofs.Lemmas.ObserverWorld
/-!
Helper lemmas for `Props/C14Copy.lean`: after the notifications of *any* graph transition have
been delivered, the object of every node / edge that disappeared is in none of the four maps of
every observer (`ForgotDead`), and the executable `Obs.forgotOk` the driver evaluates says
exactly that.
-/
set_option linter.unusedSimpArgs false
set_option linter.unusedVariables false
namespace Bpp.Graph
open Bpp.AL

/-- the objects of the nodes and edges of `before` that are not in graph `g` any more are in none
of the maps of `after` -/
def ForgotDead (g : G) (before after : Obs) : Prop :=
  (∀ a n, find a before.Ng = some n → g.hasNode n = false →
      Forgotten after.gN after.Ng a ∧ Forgotten after.iN after.Ni a) ∧
  (∀ x e, find x before.Eg = some e → g.hasEdge e = false →
      Forgotten after.gE after.Eg x ∧ Forgotten after.iE after.Ei x)

/-- what notifications can do to an observer: object→id entries only disappear, and an object that
was associated in `o0` and has lost its id has lost its index too -/
structure Shrunk (o0 o : Obs) : Prop where
  ng : ∀ a n, find a o.Ng = some n → find a o0.Ng = some n
  eg : ∀ x e, find x o.Eg = some e → find x o0.Eg = some e
  ni : ∀ a, (find a o0.Ng).isSome = true → find a o.Ng = none → find a o.Ni = none
  ei : ∀ x, (find x o0.Eg).isSome = true → find x o.Eg = none → find x o.Ei = none

theorem Shrunk.refl (o : Obs) : Shrunk o o :=
  ⟨fun _ _ h => h, fun _ _ h => h, (fun a h1 h2 => by rw [h2] at h1; cases h1), (fun a h1 h2 => by rw [h2] at h1; cases h1)⟩

theorem forgetNodeIndex_Ni (o : Obs) (x a : Nat) :
    (find a o.Ni = none → find a (o.forgetNodeIndex x).Ni = none) ∧ find x (o.forgetNodeIndex x).Ni = none := by
  unfold Obs.forgetNodeIndex
  split
  · exact ⟨fun h => find_erase_none h, by simp [find_erase]⟩
  · rename_i hn; exact ⟨fun h => h, hn⟩

theorem forgetEdgeIndex_Ei (o : Obs) (x a : Nat) :
    (find a o.Ei = none → find a (o.forgetEdgeIndex x).Ei = none) ∧ find x (o.forgetEdgeIndex x).Ei = none := by
  unfold Obs.forgetEdgeIndex
  split
  · exact ⟨fun h => find_erase_none h, by simp [find_erase]⟩
  · rename_i hn; exact ⟨fun h => h, hn⟩

theorem Shrunk.deletedNode {o0 o : Obs} (h : Shrunk o0 o) (n : Nat) : Shrunk o0 (o.deletedNode n) := by
  unfold Obs.deletedNode
  split
  · split
    · rename_i x hx
      obtain ⟨_, _, hNg, hEg, _, hEi⟩ := forgetNodeIndex_same { o with gN := Vec.put o.gN n none, Ng := AL.erase x o.Ng } x
      have hf := forgetNodeIndex_Ni { o with gN := Vec.put o.gN n none, Ng := AL.erase x o.Ng } x
      refine ⟨fun a m ha => h.ng a m (find_erase_some (by rwa [hNg] at ha)), fun y e hy => h.eg y e (by rwa [hEg] at hy),
        fun a ha0 ha => ?_, fun y hy0 hy => by rw [hEi]; exact h.ei y hy0 (by rwa [hEg] at hy)⟩
      rw [hNg, find_erase] at ha
      split at ha
      · rename_i hxa; subst hxa; exact (hf x).2
      · exact (hf a).1 (h.ni a ha0 ha)
    · exact ⟨h.ng, h.eg, h.ni, h.ei⟩
  · exact h

theorem Shrunk.deletedEdge {o0 o : Obs} (h : Shrunk o0 o) (e : Nat) : Shrunk o0 (o.deletedEdge e) := by
  unfold Obs.deletedEdge
  split
  · split
    · rename_i x hx
      obtain ⟨_, _, hNg, hEg, _, hNi⟩ := forgetEdgeIndex_same { o with gE := Vec.put o.gE e none, Eg := AL.erase x o.Eg } x
      have hf := forgetEdgeIndex_Ei { o with gE := Vec.put o.gE e none, Eg := AL.erase x o.Eg } x
      refine ⟨fun a m ha => h.ng a m (by rwa [hNg] at ha), fun y e' hy => h.eg y e' (find_erase_some (by rwa [hEg] at hy)),
        fun a ha0 ha => by rw [hNi]; exact h.ni a ha0 (by rwa [hNg] at ha), fun y hy0 hy => ?_⟩
      rw [hEg, find_erase] at hy
      split at hy
      · rename_i hxy; subst hxy; exact (hf x).2
      · exact (hf y).1 (h.ei y hy0 hy)
    · exact ⟨h.ng, h.eg, h.ni, h.ei⟩
  · exact h

theorem Shrunk.notify {o0 o : Obs} (h : Shrunk o0 o) (ev : Event) : Shrunk o0 (o.notify ev) := by
  cases ev with
  | edges l =>
    simp only [Obs.notify]
    induction l generalizing o with
    | nil => exact h
    | cons e r ih => simp only [List.foldl_cons]; exact ih (h.deletedEdge e)
  | nodes l =>
    simp only [Obs.notify]
    induction l generalizing o with
    | nil => exact h
    | cons n r ih => simp only [List.foldl_cons]; exact ih (h.deletedNode n)

theorem Shrunk.notifyAll {o0 o : Obs} (h : Shrunk o0 o) (evs : List Event) : Shrunk o0 (evs.foldl Obs.notify o) := by
  induction evs generalizing o with
  | nil => exact h
  | cons ev r ih => simp only [List.foldl_cons]; exact ih (h.notify ev)

/-- an observer in order against the new graph that only shrank has forgotten everything dead -/
theorem forgotDead_of_shrunk {g' : G} {o o' : Obs} (hs : Shrunk o o') (hi : OInv g' o') : ForgotDead g' o o' := by
  constructor
  · intro a n ha hd
    have hnone : find a o'.Ng = none := by
      rcases G.find_cases a o'.Ng with h | ⟨m, h⟩
      · exact h
      · have := hs.ng a m h
        rw [ha] at this; injection this with this; subst this
        have := hi.n_live a n h
        rw [hd] at this; cases this
    exact ⟨hi.nodes.forgotten_of_none hnone, hi.nidx.forgotten_of_none (hs.ni a (by simp [ha]) hnone)⟩
  · intro x e hx hd
    have hnone : find x o'.Eg = none := by
      rcases G.find_cases x o'.Eg with h | ⟨m, h⟩
      · exact h
      · have := hs.eg x m h
        rw [hx] at this; injection this with this; subst this
        have := hi.e_live x e h
        rw [hd] at this; cases this
    exact ⟨hi.edges.forgotten_of_none hnone, hi.eidx.forgotten_of_none (hs.ei x (by simp [hx]) hnone)⟩

/-- the graph of a world in order moved to `g'` (consistent, observers told) and the notifications
were delivered: every observer has forgotten, in all its maps, what is no longer in the graph -/
theorem deliver_forgets {w : World} (hw : WInv w) {g' : G} (hn : Notified w.g g') (k : Nat) (o : Obs)
    (hk : w.getObs k = some o) :
    ∃ o', ({ w with g := g' }.deliver).getObs k = some o' ∧ ForgotDead g' o o' :=
  ⟨_, by rw [getObs_deliver, show ({ w with g := g' } : World).getObs k = w.getObs k from rfl, hk]; rfl,
    forgotDead_of_shrunk ((Shrunk.refl o).notifyAll _) (deliver_inv hw.quiet hn (hw.obs k o hk))⟩

theorem contains_some_iff (v : Vec) (a : Obj) : v.contains (some a) = false ↔ ∀ i, Vec.get v i ≠ some a := by
  constructor
  · intro h i hi
    unfold Vec.get at hi
    rcases hv : v[i]? with _ | x
    · simp [hv] at hi
    · simp [hv] at hi; subst hi
      have := List.mem_of_getElem? hv
      have : v.contains (some a) = true := by simpa using this
      rw [h] at this; cases this
  · intro h
    cases hc : v.contains (some a)
    · rfl
    · have hm : some a ∈ v := by simpa using hc
      obtain ⟨i, hi⟩ := List.getElem?_of_mem hm
      exact absurd (by simp [Vec.get, hi]) (h i)

theorem gone_iff (v : Vec) (m : List (Nat × Nat)) (a : Obj) :
    ((!(has a m)) = true ∧ (!(v.contains (some a))) = true) ↔ Forgotten v m a := by
  unfold Forgotten
  rw [← contains_some_iff]
  unfold has
  rcases G.find_cases a m with h | ⟨r, h⟩ <;> cases hc : v.contains (some a) <;> simp [h, hc]

/-- the predicate the driver evaluates (`Obs.forgotOk`) is `ForgotDead` -/
theorem forgotOk_iff (g : G) (o o' : Obs) (hn : Asc o.Ng) (he : Asc o.Eg) :
    Obs.forgotOk g o o' = true ↔ ForgotDead g o o' := by
  -- one clause of the conjunction, for the node and for the edge maps alike
  have half : ∀ (m : List (Nat × Nat)) (live : Nat → Bool) (P Q : Nat → Prop), Asc m →
      (∀ a, Q a ↔ P a) →
      ((∀ p ∈ m, live p.2 = true ∨ Q p.1) ↔ ∀ a n, find a m = some n → live n = false → P a) := by
    intro m live P Q hm hQ
    constructor
    · intro h a n ha hd
      rcases h (a, n) (find_some_mem ha) with h | h
      · rw [hd] at h; cases h
      · exact (hQ a).1 h
    · intro h p hp
      cases hd : live p.2
      · exact Or.inr ((hQ p.1).2 (h p.1 p.2 ((mem_iff_find hm p.1 p.2).mp hp) hd))
      · exact Or.inl rfl
  unfold Obs.forgotOk ForgotDead
  simp only [Bool.and_eq_true, List.all_eq_true, Bool.or_eq_true]
  exact and_congr (half _ _ _ _ hn fun a => and_congr (gone_iff _ _ a) (gone_iff _ _ a))
    (half _ _ _ _ he fun x => and_congr (gone_iff _ _ x) (gone_iff _ _ x))

end Bpp.Graph
