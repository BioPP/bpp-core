import BppProofs.Lemmas.Describe
import BppProofs.Lemmas.Number
import Mathlib.Tactic.Linarith
import Mathlib.Data.Rat.Lemmas
/-!
The law of number texts (`NumLaw`, Props/C01Describe.lean) for the `Rat` interpretation: parsing
what `renderRat?` writes gives the number back.  The recogniser is C17's (`isDecimalNumber_eq_number`), so that a
number text is accepted because it is a numeral of C17's grammar (`numText_eq_render`; the grammar and its
completeness: `Lemmas/Number.lean`).  Uses core's
`Nat.toDigits` / `Nat.ofDigitChars` theory for the digits and Mathlib for the field arithmetic.
-/
namespace Bpp.Describe

theorem D_eq (n : Nat) : D n = Nat.toDigits 10 n := by
  unfold D; rw [Nat.toString_eq_repr, Nat.toList_repr]

theorem D_ne_nil (n : Nat) : D n ≠ [] := by rw [D_eq]; exact Nat.toDigits_ne_nil

theorem D_digits (n : Nat) : ∀ c ∈ D n, isDigit c = true := by
  intro c hc; rw [D_eq] at hc
  exact Nat.isDigit_of_mem_toDigits (by decide) (by decide) hc

theorem D_value (n : Nat) : natOfDigits (D n) = n := by
  unfold natOfDigits; rw [D_eq]; exact Nat.ofDigitChars_ten_toDigits

theorem D_length_le (n k : Nat) (hk : 0 < k) (h : n < 10 ^ k) : (D n).length ≤ k := by
  have := (Nat.length_repr_le_iff (n := n) hk).2 h
  rw [D_eq, ← Nat.toList_repr, String.length_toList]; exact this

theorem digit_not_special {c : Char} (h : isDigit c = true) : (c == '.') = false ∧ (c == 'e') = false ∧ c ≠ '-' :=
  ⟨beq_false_of_ne (ne_of_true_false h (by decide)), beq_false_of_ne (ne_of_true_false h (by decide)),
    ne_of_true_false h (by decide)⟩

/-! ### the recogniser is C17's (`Bpp.Text.Number.isDecimalNumber '.' 'e'`) -/

theorem isDigit_eq (c : Char) : isDigit c = Bpp.Text.isDigit c := by
  unfold isDigit Bpp.Text.isDigit Char.isDigit
  simp [Char.le_def, UInt32.le_iff_toNat_le]

theorem isDecLoop_eq (l : List Char) (sep sci dig : Nat) :
    isDecLoop l sep sci dig = Bpp.Text.Number.decLoop '.' 'e' sep sci dig l := by
  fun_induction isDecLoop l sep sci dig <;> rw [Bpp.Text.Number.decLoop.eq_def] <;>
    simp only [*, ↓reduceIte, List.isEmpty_cons, List.isEmpty_nil, ← isDigit_eq, Bool.false_eq_true]

theorem isDecimalNumber_eq_number (l : List Char) :
    isDecimalNumber l = Bpp.Text.Number.isDecimalNumber '.' 'e' l := by
  unfold isDecimalNumber Bpp.Text.Number.isDecimalNumber Bpp.Text.isEmptyStr
  have hsp : (isSpace : Char → Bool) = Bpp.Text.isSpace := rfl
  rw [hsp]
  split_ifs
  · rfl
  · split <;> simp [isDecLoop_eq]

theorem takeWhile_digits (ds rest : List Char) (h : ∀ c ∈ ds, isDigit c = true)
    (hr : ∀ c, rest.head? = some c → isDigit c = false) :
    (ds ++ rest).takeWhile isDigit = ds ∧ (ds ++ rest).dropWhile isDigit = rest := by
  induction ds with
  | nil =>
    cases rest with
    | nil => simp
    | cons r rest => simp [hr r rfl]
  | cons d ds ih =>
    have hd := h d (by simp)
    have := ih (fun c hc => h c (by simp [hc]))
    simp [hd, this.1, this.2]

/-- a number text is the rendering of a numeral of C17's decimal grammar, without exponent -/
theorem numText_eq_render (neg : Bool) (ip fp : List Char) :
    numText neg ip fp = Bpp.Text.Number.DecParts.render '.' 'e' ⟨neg, ip, !fp.isEmpty, fp, none⟩ := by
  unfold numText Bpp.Text.Number.DecParts.render
  cases fp <;> simp

section
variable (neg : Bool) {ip fp : List Char} (hip : ip ≠ [])
  (h1 : ∀ c ∈ ip, isDigit c = true) (h2 : ∀ c ∈ fp, isDigit c = true)
include hip h1 h2

theorem isDecimalNumber_numText : isDecimalNumber (numText neg ip fp) = true := by
  have hs : Bpp.Text.Number.SaneChars '.' 'e' := by unfold Bpp.Text.Number.SaneChars; decide
  have wf : Bpp.Text.Number.DecParts.WF ⟨neg, ip, !fp.isEmpty, fp, none⟩ :=
    ⟨fun c hc => isDigit_eq c ▸ h1 c hc, fun c hc => isDigit_eq c ▸ h2 c hc, Or.inl hip,
      fun h => List.isEmpty_iff.1 (by simpa using h), trivial⟩
  rw [isDecimalNumber_eq_number, numText_eq_render]
  exact Bpp.Text.Number.isDecimalNumber_render hs _ wf

theorem strictSplit_numText : strictSplit (numText neg ip fp) = some (neg, ip, fp) := by
  obtain ⟨d, ds, rfl⟩ := List.exists_cons_of_ne_nil hip
  have hd := h1 d (by simp)
  have hne : d ≠ '-' := (digit_not_special hd).2.2
  have hdot : isDigit '.' = false := by decide
  have key : ∀ body : List Char, body = (d :: ds) ++ (if fp.isEmpty then [] else '.' :: fp) →
      (let ip' := body.takeWhile isDigit
       let rest := body.dropWhile isDigit
       if ip'.isEmpty then none else
        match rest with
        | [] => some (neg, ip', [])
        | '.' :: fp' => if !fp'.isEmpty && fp'.all isDigit then some (neg, ip', fp') else none
        | _ => none) = some (neg, d :: ds, fp) := by
    intro body hb
    by_cases hf : fp.isEmpty
    · have hfp : fp = [] := by simpa using hf
      subst hfp
      simp only [List.isEmpty_nil, if_true, List.append_nil] at hb
      have := takeWhile_digits (d :: ds) [] h1 (by simp)
      simp only [List.append_nil] at this
      rw [hb]; simp only [this.1, this.2]; simp
    · simp only [hf, Bool.false_eq_true, if_false] at hb
      have := takeWhile_digits (d :: ds) ('.' :: fp) h1 (by intro c hc; simp at hc; subst hc; exact hdot)
      have hall : fp.all isDigit = true := by simpa [List.all_eq_true] using h2
      rw [hb]; simp only [this.1, this.2]; simp [hf, hall]
  unfold strictSplit numText
  cases neg
  · simp only [Bool.false_eq_true, if_false, List.nil_append]
    split
    · next r heq => simp at heq; exact absurd heq.1 hne
    · exact key _ rfl
  · simp only [if_true, List.cons_append, List.nil_append]
    exact key _ (by simp)

theorem numText_chars :
    numText neg ip fp ≠ [] ∧ ∀ c ∈ numText neg ip fp, isDigit c = true ∨ c = '-' ∨ c = '.' := by
  unfold numText
  refine ⟨by simp [hip], ?_⟩
  intro c hc
  simp only [List.mem_append] at hc
  rcases hc with (hc | hc) | hc
  · cases neg <;> simp at hc; exact Or.inr (Or.inl hc)
  · exact Or.inl (h1 c hc)
  · by_cases hf : fp.isEmpty
    · simp [hf] at hc
    · simp only [hf, Bool.false_eq_true, if_false, List.mem_cons] at hc
      rcases hc with hc | hc
      · exact Or.inr (Or.inr hc)
      · exact Or.inl (h2 c hc)

theorem parseRat_numText (q : Rat)
    (hq : q = (if neg then -((natOfDigits ip : Rat) + (natOfDigits fp : Rat) / ((10 ^ fp.length : Nat) : Rat))
               else ((natOfDigits ip : Rat) + (natOfDigits fp : Rat) / ((10 ^ fp.length : Nat) : Rat))))
    (hd : isDouble q = true) :
    parseRat (numText neg ip fp) = .ok q ∧ numText neg ip fp ≠ [] ∧
      ∀ c ∈ numText neg ip fp, isDigit c = true ∨ c = '-' ∨ c = '.' := by
  refine ⟨?_, numText_chars neg hip h1 h2⟩
  unfold parseRat
  rw [isDecimalNumber_numText neg hip h1 h2, strictSplit_numText neg hip h1 h2]
  simp only [Bool.not_true, Bool.false_eq_true, if_false]
  rw [← hq, hd]; simp

end

theorem padLeft_spec (n : Nat) (l : List Char) (hl : l.length ≤ n) (h : ∀ c ∈ l, isDigit c = true) :
    (padLeft n l).length = n ∧ (∀ c ∈ padLeft n l, isDigit c = true) ∧ natOfDigits (padLeft n l) = natOfDigits l := by
  unfold padLeft
  refine ⟨by simp; omega, ?_, ?_⟩
  · intro c hc
    simp only [List.mem_append, List.mem_replicate] at hc
    rcases hc with ⟨_, rfl⟩ | hc
    · decide
    · exact h c hc
  · unfold natOfDigits
    rw [Nat.ofDigitChars_append, Nat.ofDigitChars_replicate_zero]; simp

/-- `renderAbs?` in terms of `numText`: all the digits `m` of `a`, the last `j` of them decimals -/
theorem renderAbs_shape (neg : Bool) (a : Rat) (ha : 0 ≤ a) (hneg : a = 0 → neg = false) (t : List Char)
    (h : renderAbs? neg a = some t) :
    ∃ j m : Nat, a * ((10 ^ j : Nat) : Rat) = (m : Rat) ∧
      ((j = 0 ∧ t = numText neg (D m) []) ∨
       (0 < j ∧ t = numText neg (D (m / 10 ^ j)) (padLeft j (D (m % 10 ^ j))))) := by
  unfold renderAbs? at h
  by_cases h0 : (a == 0) = true
  · rw [if_pos h0] at h
    obtain rfl : a = 0 := by simpa using h0
    exact ⟨0, 0, by simp, Or.inl ⟨rfl, by rw [← Option.some.inj h, hneg rfl]; rfl⟩⟩
  · rw [if_neg h0] at h
    have hpos : 0 < a := lt_of_le_of_ne ha (Ne.symm (by simpa using h0))
    by_cases h1 : (decide (a ≥ 1000000) || decide (a < 1 / 10000)) = true
    · rw [if_pos h1] at h; cases h
    · rw [if_neg h1] at h
      cases hfind : List.find? (fun j => (a * ((10 ^ j : Nat) : Rat)).den == 1) (List.range 11) with
      | none => rw [hfind] at h; cases h
      | some j =>
        rw [hfind] at h
        simp only at h
        have hden := List.find?_some hfind
        simp only [beq_iff_eq] at hden
        have hxpos : 0 < a * ((10 ^ j : Nat) : Rat) :=
          mul_pos hpos (by exact_mod_cast Nat.pos_of_ne_zero (by positivity))
        have hnum : (((a * ((10 ^ j : Nat) : Rat)).num.toNat : Nat) : Rat) = a * ((10 ^ j : Nat) : Rat) := by
          rw [← Int.cast_natCast, Int.toNat_of_nonneg (Rat.num_pos.2 hxpos).le, Rat.coe_int_num_of_den_eq_one hden]
        refine ⟨j, _, hnum.symm, ?_⟩
        by_cases hj0 : (j == 0) = true
        · rw [if_pos hj0] at h
          exact Or.inl ⟨by simpa using hj0, (Option.some.inj h).symm⟩
        · rw [if_neg hj0] at h
          refine Or.inr ⟨Nat.pos_of_ne_zero (by simpa using hj0), ?_⟩
          split at h
          · cases h
          · exact (Option.some.inj h).symm

/-- rendering then parsing, for `±a` -/
theorem renderAbs_parse (neg : Bool) (a : Rat) (ha : 0 ≤ a) (hneg : a = 0 → neg = false)
    (hd : isDouble (if neg then -a else a) = true) (t : List Char)
    (h : renderAbs? neg a = some t) :
    parseRat t = .ok (if neg then -a else a) ∧ t ≠ [] ∧ ∀ c ∈ t, isDigit c = true ∨ c = '-' ∨ c = '.' := by
  obtain ⟨j, m, hm, ⟨rfl, rfl⟩ | ⟨hj, rfl⟩⟩ := renderAbs_shape neg a ha hneg t h
  · rw [pow_zero, Nat.cast_one, mul_one] at hm
    refine parseRat_numText _ (D_ne_nil m) (D_digits m) (fp := []) (by simp) _ ?_ hd
    rw [D_value, hm]
    simp [natOfDigits]
  · have hfplt : m % 10 ^ j < 10 ^ j := Nat.mod_lt _ (by positivity)
    obtain ⟨plen, pdig, pval⟩ := padLeft_spec j (D (m % 10 ^ j)) (D_length_le _ j hj hfplt) (D_digits _)
    refine parseRat_numText _ (D_ne_nil _) (D_digits _) pdig _ ?_ hd
    rw [D_value, pval, D_value, plen]
    have hdm : ((m / 10 ^ j : Nat) : Rat) + ((m % 10 ^ j : Nat) : Rat) / ((10 ^ j : Nat) : Rat) = a := by
      have h10 : ((10 ^ j : Nat) : Rat) ≠ 0 := by exact_mod_cast (by positivity : (10 ^ j : Nat) ≠ 0)
      rw [add_div' _ _ _ h10, div_eq_iff h10, hm]
      exact_mod_cast Nat.div_add_mod' m (10 ^ j)
    rw [hdm]

/-- the law of number texts for the `Rat` instance, on the rationals that are doubles -/
theorem renderRat_parse (q : Rat) (hd : isDouble q = true) (t : List Char) (h : renderRat? q = some t) :
    parseRat t = .ok q ∧ t ≠ [] ∧ ∀ c ∈ t, isDigit c = true ∨ c = '-' ∨ c = '.' := by
  unfold renderRat? at h
  by_cases hq : q < 0
  · rw [decide_eq_true hq, if_pos hq] at h
    have := renderAbs_parse true (-q) (neg_nonneg.2 hq.le) (fun h0 => absurd (neg_eq_zero.1 h0) hq.ne)
      (by rwa [if_pos rfl, neg_neg]) t h
    rwa [if_pos rfl, neg_neg] at this
  · rw [decide_eq_false hq, if_neg hq] at h
    exact renderAbs_parse false q (not_lt.1 hq) (fun _ => rfl) hd t h

end Bpp.Describe
