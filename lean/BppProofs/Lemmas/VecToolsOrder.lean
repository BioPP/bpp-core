import BppProofs.Lemmas.VecTools
import Mathlib.Algebra.Order.Archimedean.Real.Basic
/-!
Helper lemmas for C07: comparisons as strict weak orders; extrema and their positions, `which`, sorting with the derived
comparator, `median`, `computeFdr`, `seq` (model `BppModel/VecTools.lean` read at `ℝ`).
-/
namespace Bpp.VecTools
open Bpp Bpp.ScalarReal

/-! ### extrema -/

/-- the comparisons handed to the extremum loops are strict weak orders -/
structure StrictWeak {β : Type} (better : β → β → Bool) : Prop where
  irrefl : ∀ a, better a a = false
  trans : ∀ a b c, better a b = true → better b c = true → better a c = true
  negTrans : ∀ a b c, better a b = false → better b c = false → better a c = false

theorem StrictWeak.flip {β : Type} {better : β → β → Bool} (hb : StrictWeak better) :
    StrictWeak fun a b => better b a :=
  ⟨hb.irrefl, fun a b c h1 h2 => hb.trans c b a h2 h1, fun a b c h1 h2 => hb.negTrans c b a h2 h1⟩

theorem strictWeak_of_lt {β : Type} [LinearOrder β] {better : β → β → Bool} (h : ∀ a b, better a b = true ↔ a < b) :
    StrictWeak better where
  irrefl a := Bool.eq_false_iff.mpr (mt (h a a).mp (lt_irrefl a))
  trans a b c h1 h2 := (h a c).mpr (((h a b).mp h1).trans ((h b c).mp h2))
  negTrans a b c h1 h2 := Bool.eq_false_iff.mpr fun h3 =>
    (Bool.eq_false_iff.mp h1) ((h a b).mpr (((h a c).mp h3).trans_le (not_lt.mp (mt (h b c).mpr (Bool.eq_false_iff.mp h2)))))

theorem lt_strictWeak : StrictWeak (fun (y m : ℝ) => Scalar.ltb y m) := strictWeak_of_lt ltb_iff
theorem gt_strictWeak : StrictWeak (fun (y m : ℝ) => Scalar.gtb y m) := lt_strictWeak.flip

theorem isFirstExtremum_iff {β : Type} (better : β → β → Bool) (v : List β) (pos : Nat) :
    IsFirstExtremum better v pos ↔
      ∃ m, v[pos]? = some m ∧ (∀ y ∈ v, better y m = false) ∧ (∀ y ∈ v.take pos, better m y = true) := by
  unfold IsFirstExtremum
  cases v[pos]? with
  | none => exact ⟨False.elim, fun ⟨m, h, _⟩ => nomatch h⟩
  | some m => exact ⟨fun h => ⟨m, rfl, h⟩, fun ⟨m', h, h'⟩ => Option.some.inj h ▸ h'⟩

/-- the first extremum beats everything before it and is beaten by nothing: there is one position -/
theorem isFirstExtremum_unique {β : Type} (better : β → β → Bool) (v : List β) (p q : Nat)
    (hp : IsFirstExtremum better v p) (hq : IsFirstExtremum better v q) : p = q := by
  have key : ∀ p q, IsFirstExtremum better v p → IsFirstExtremum better v q → ¬p < q := by
    intro p q hp hq hlt
    obtain ⟨m, hm, h1, -⟩ := (isFirstExtremum_iff _ v p).mp hp
    obtain ⟨m', hm', -, h2'⟩ := (isFirstExtremum_iff _ v q).mp hq
    have hbeats := h2' m (List.mem_of_getElem? ((List.getElem?_take_of_lt hlt).trans hm))
    exact Bool.false_ne_true ((h1 m' (List.mem_of_getElem? hm')).symm.trans hbeats)
  exact Nat.le_antisymm (Nat.le_of_not_lt (key q p hq hp)) (Nat.le_of_not_lt (key p q hp hq))

theorem extremum_fold_spec {β : Type} {better : β → β → Bool} (hb : StrictWeak better) (xs : List β) (x : β) :
    (xs.foldl (fun m y => if better y m then y else m) x) ∈ x :: xs ∧
    ∀ y ∈ x :: xs, better y (xs.foldl (fun m y => if better y m then y else m) x) = false := by
  induction xs generalizing x with
  | nil => exact ⟨List.mem_singleton_self x, fun y hy => List.mem_singleton.mp hy ▸ hb.irrefl x⟩
  | cons z zs ih =>
    rw [List.foldl_cons]
    obtain ⟨hm, hall⟩ := ih (if better z x then z else x)
    have hzs : ∀ y ∈ zs, better y _ = false := fun y hy => hall y (List.mem_cons_of_mem _ hy)
    have hx' := hall _ List.mem_cons_self
    -- the new candidate is `z` or `x`; what does not beat it does not beat the other either
    by_cases hz : better z x = true
    · rw [if_pos hz] at hm hx' hzs ⊢
      refine ⟨List.mem_cons_of_mem _ hm, List.forall_mem_cons.mpr ⟨?_, List.forall_mem_cons.mpr ⟨hx', hzs⟩⟩⟩
      exact Bool.eq_false_iff.mpr fun hc => Bool.eq_false_iff.mp hx' (hb.trans _ _ _ hz hc)
    · rw [if_neg hz] at hm hx' hzs ⊢
      refine ⟨?_, List.forall_mem_cons.mpr ⟨hx', List.forall_mem_cons.mpr ⟨?_, hzs⟩⟩⟩
      · rcases List.mem_cons.mp hm with h | h
        · rw [h]; exact List.mem_cons_self
        · exact List.mem_cons_of_mem _ (List.mem_cons_of_mem _ h)
      · exact hb.negTrans _ _ _ (Bool.eq_false_iff.mpr hz) hx'

theorem extremum_spec {β : Type} {better : β → β → Bool} (hb : StrictWeak better) {v : List β} {m : β}
    (h : extremum better v = .ok m) : m ∈ v ∧ ∀ y ∈ v, better y m = false := by
  cases v with
  | nil => cases h
  | cons x xs => exact Except.ok.inj h ▸ extremum_fold_spec hb xs x

/-- invariant of the `whichMax`/`whichMin` loop: `pre` is what has been read, `m = pre[pos]` is the first extremum
of `pre` -/
theorem whichLoop_spec {β : Type} {better : β → β → Bool} (hb : StrictWeak better)
    (ys pre : List β) (m : β) (pos : Nat) (hm : pre[pos]? = some m)
    (h1 : ∀ y ∈ pre, better y m = false) (h2 : ∀ y ∈ pre.take pos, better m y = true) :
    IsFirstExtremum better (pre ++ ys) (whichLoop better m pos pre.length ys) := by
  induction ys generalizing pre m pos with
  | nil => rw [isFirstExtremum_iff, List.append_nil]; exact ⟨m, hm, h1, h2⟩
  | cons y ys ih =>
    have hpos : pos < pre.length := (List.getElem?_eq_some_iff.mp hm).1
    have hlen : pre.length + 1 = (pre ++ [y]).length := by rw [List.length_append, List.length_singleton]
    rw [whichLoop, hlen, List.append_cons]
    by_cases hy : better y m = true
    · rw [if_pos hy]
      refine ih (pre ++ [y]) y pre.length List.getElem?_concat_length ?_ ?_
      · refine List.forall_mem_append.mpr ⟨fun z hz => ?_, fun z hz => List.mem_singleton.mp hz ▸ hb.irrefl y⟩
        exact Bool.eq_false_iff.mpr fun hc => Bool.eq_false_iff.mp (h1 z hz) (hb.trans _ _ _ hc hy)
      · rw [List.take_left' rfl]
        intro z hz
        exact (Bool.not_eq_false _).mp fun hc => Bool.eq_false_iff.mp (hb.negTrans _ _ _ hc (h1 z hz)) hy
    · rw [if_neg hy]
      refine ih (pre ++ [y]) m pos ?_ ?_ ?_
      · rw [List.getElem?_append_left hpos]; exact hm
      · exact List.forall_mem_append.mpr ⟨h1, fun z hz => List.mem_singleton.mp hz ▸ Bool.eq_false_iff.mpr hy⟩
      · rwa [List.take_append_of_le_length hpos.le]

theorem whichExtremum_spec {β : Type} {better : β → β → Bool} (hb : StrictWeak better) (v : List β) (p : Nat)
    (h : whichExtremum better v = .ok p) : IsFirstExtremum better v p := by
  cases v with
  | nil => cases h
  | cons x xs =>
    exact Except.ok.inj h ▸ whichLoop_spec hb xs [x] x 0 rfl
      (fun y hy => List.mem_singleton.mp hy ▸ hb.irrefl x) (fun y hy => nomatch hy)

/-! ### positions of a value, in any reading of the scalars (`==` is only ever applied, never reasoned about) -/

theorem positionsOf_eq {α : Type} [Scalar α] (x : α) (k : Nat) (l : List α) :
    positionsOf x k l = ((List.range l.length).filter (holdsAt Scalar.eqb l x)).map (· + k) := by
  induction l generalizing k with
  | nil => rfl
  | cons y ys ih =>
    rw [List.length_cons, List.range_succ_eq_map, List.filter_cons, List.filter_map]
    have hcomp : (holdsAt Scalar.eqb (y :: ys) x ∘ Nat.succ) = holdsAt Scalar.eqb ys x := rfl
    have h0 : holdsAt Scalar.eqb (y :: ys) x 0 = Scalar.eqb y x := rfl
    rw [hcomp, h0, positionsOf, ih (k + 1)]
    split <;> simp [List.map_map, Function.comp_def, Nat.add_comm, Nat.add_left_comm]

theorem isPositionsOf_positionsOf {α : Type} [Scalar α] (x : α) (l : List α) : IsPositionsOf Scalar.eqb l x (positionsOf x 0 l) := by
  rw [IsPositionsOf, positionsOf_eq]; exact List.map_id' _

/-- `whichMaxAll`/`whichMinAll`: the positions of the value `r` computes -/
theorem positionsOf_bind_spec {α : Type} [Scalar α] (r : Res α) (v : List α) (pos : List Nat)
    (h : (do if v.length = 0 then throw Err.empty
             let m ← r
             pure (positionsOf m 0 v) : Res (List Nat)) = .ok pos) :
    ∃ m, r = .ok m ∧ IsPositionsOf Scalar.eqb v m pos := by
  split at h
  · cases h
  · cases r with
    | error e => cases h
    | ok m => exact ⟨m, rfl, Except.ok.inj h ▸ isPositionsOf_positionsOf m v⟩

theorem whichMaxAll_spec {α : Type} [Scalar α] (v : List α) (pos : List Nat) (h : whichMaxAll v = .ok pos) :
    ∃ m, VecTools.max v = .ok m ∧ IsPositionsOf Scalar.eqb v m pos := positionsOf_bind_spec _ v pos h

theorem whichMinAll_spec {α : Type} [Scalar α] (v : List α) (pos : List Nat) (h : whichMinAll v = .ok pos) :
    ∃ m, VecTools.min v = .ok m ∧ IsPositionsOf Scalar.eqb v m pos := positionsOf_bind_spec _ v pos h

/-! ### sorting -/

/-- `std::sort` with a strict weak order: `mergeSort` with the derived comparator `!(b < a)` (on a key) sorts -/
theorem sortedBy_mergeSort {α β : Type} {lt : β → β → Bool} (hlt : StrictWeak lt) (key : α → β) (l : List α) :
    SortedBy lt ((l.mergeSort fun a b => leOfLt lt (key a) (key b)).map key) := by
  have hle : ∀ x y, leOfLt lt x y = true ↔ lt y x = false := fun x y => Iff.of_eq (Bool.not_eq_true' _)
  rw [SortedBy, List.pairwise_map]
  refine (List.pairwise_mergeSort (fun a b c h1 h2 => ?_) (fun a b => ?_) l).imp fun {a b} h => (hle _ _).mp h
  · exact (hle _ _).mpr (hlt.negTrans _ _ _ ((hle _ _).mp h2) ((hle _ _).mp h1))
  · rw [Bool.or_eq_true, hle, hle]
    by_cases h : lt (key b) (key a) = true
    · exact .inr (Bool.eq_false_iff.mpr fun h' => Bool.eq_false_iff.mp (hlt.irrefl _) (hlt.trans _ _ _ h h'))
    · exact .inl (Bool.eq_false_iff.mpr h)

theorem sortedBy_sortVals (v : List ℝ) : SortedBy Scalar.ltb (sortVals v) := by
  have := sortedBy_mergeSort lt_strictWeak id v
  rwa [List.map_id] at this

theorem sortVals_perm (v : List ℝ) : (sortVals v).Perm v := List.mergeSort_perm v _

theorem sortVals_pairwise_le (v : List ℝ) : (sortVals v).Pairwise (· ≤ ·) :=
  (sortedBy_sortVals v).imp fun {a b} h => (ltb_false_iff b a).mp h

/-- over a linear order the sorted permutation is unique -/
theorem sortVals_unique (v s : List ℝ) (hp : s.Perm v) (hs : s.Pairwise (· ≤ ·)) : sortVals v = s :=
  List.Perm.eq_of_pairwise (le := (· ≤ ·)) (fun _ _ _ _ h1 h2 => le_antisymm h1 h2)
    (sortVals_pairwise_le v) hs ((sortVals_perm v).trans hp.symm)

theorem filterMap_eq_map_of {α β : Type} (f : α → Option β) (g : α → β) (l : List α)
    (h : ∀ x ∈ l, f x = some (g x)) : l.filterMap f = l.map g := by
  induction l with
  | nil => rfl
  | cons a as ih =>
    rw [List.filterMap_cons, h a List.mem_cons_self, List.map_cons, ih fun x hx => h x (List.mem_cons_of_mem _ hx)]

/-- sorting the (value, position) pairs by a strict weak order on the values and projecting the
positions gives a sorting permutation -/
theorem sortIdx_spec {β : Type} {lt' : β → β → Bool} (hlt : StrictWeak lt') (v : List β) :
    IsSortingPerm lt' v ((v.zipIdx.mergeSort fun a b => leOfLt lt' a.1 b.1).map (·.2)) := by
  have hperm : (v.zipIdx.mergeSort fun a b => leOfLt lt' a.1 b.1).Perm v.zipIdx := List.mergeSort_perm _ _
  refine ⟨?_, ?_⟩
  · have := hperm.map Prod.snd
    rwa [List.zipIdx_map_snd, ← List.range_eq_range'] at this
  · -- reading `v` at the sorted positions gives back the sorted values
    rw [List.filterMap_map]
    exact (filterMap_eq_map_of _ Prod.fst _ fun x hx => List.mem_zipIdx_iff_getElem?.mp (hperm.mem_iff.mp hx)) ▸
      sortedBy_mergeSort hlt Prod.fst v.zipIdx

theorem order_spec (v : List ℝ) (idx : List Nat) (h : order v = .ok idx) : IsSortingPerm Scalar.ltb v idx := by
  unfold order at h
  split at h
  · cases h
  · exact Except.ok.inj h ▸ sortIdx_spec lt_strictWeak v

/-! ### median -/

theorem sorted_getElem_le (s : List ℝ) (hs : SortedBy Scalar.ltb s) (i j : Nat) (hj : j < s.length) (hij : i ≤ j) :
    s[i]'(by omega) ≤ s[j] := by
  rcases Nat.lt_or_eq_of_le hij with h | rfl
  · exact (ltb_false_iff _ _).mp (List.pairwise_iff_getElem.mp hs i j (by omega) hj h)
  · exact le_rfl

/-- in a sorted list, at least `j+1` elements are `≤ m` when `s[j] ≤ m` -/
theorem count_le_of_sorted (s : List ℝ) (hs : SortedBy Scalar.ltb s) (j : Nat) (hj : j < s.length) (m : ℝ)
    (hm : s[j] ≤ m) : j + 1 ≤ s.countP (fun x => !(Scalar.ltb m x)) := by
  have h1 : (s.take (j + 1)).countP (fun x => !(Scalar.ltb m x)) = (s.take (j + 1)).length := by
    rw [List.countP_eq_length]
    intro x hx
    obtain ⟨i, hi, rfl⟩ := List.mem_take_iff_getElem.mp hx
    rw [Bool.not_eq_true', ltb_false_iff]
    exact (sorted_getElem_le s hs i j hj (by omega)).trans hm
  have h2 := (List.take_sublist (j + 1) s).countP_le (p := fun x => !(Scalar.ltb m x))
  rw [h1, List.length_take] at h2
  omega

/-- in a sorted list, at least `n - j` elements are `≥ m` when `m ≤ s[j]` -/
theorem count_ge_of_sorted (s : List ℝ) (hs : SortedBy Scalar.ltb s) (j : Nat) (hj : j < s.length) (m : ℝ)
    (hm : m ≤ s[j]) : s.length - j ≤ s.countP (fun x => !(Scalar.ltb x m)) := by
  have h1 : (s.drop j).countP (fun x => !(Scalar.ltb x m)) = (s.drop j).length := by
    rw [List.countP_eq_length]
    intro x hx
    obtain ⟨i, hi, rfl⟩ := List.mem_drop_iff_getElem.mp hx
    rw [Bool.not_eq_true', ltb_false_iff]
    exact hm.trans (sorted_getElem_le s hs j (j + i) (by omega) (by omega))
  have h2 := (List.drop_sublist j s).countP_le (p := fun x => !(Scalar.ltb x m))
  rwa [h1, List.length_drop] at h2

/-- any value between the two middle elements of a sorted list is a median -/
theorem isMedian_of_sorted (s : List ℝ) (hs : SortedBy Scalar.ltb s) (i j : Nat) (hi : i < s.length) (hj : j < s.length)
    (hn1 : s.length ≤ 2 * (i + 1)) (hn2 : 2 * j ≤ s.length) (m : ℝ) (h1 : s[i] ≤ m) (h2 : m ≤ s[j]) :
    IsMedian Scalar.ltb s m :=
  ⟨hn1.trans (Nat.mul_le_mul_left 2 (count_le_of_sorted s hs i hi m h1)),
   (by omega : s.length ≤ 2 * (s.length - j)).trans (Nat.mul_le_mul_left 2 (count_ge_of_sorted s hs j hj m h2))⟩

theorem isMedian_perm {v s : List ℝ} (hp : s.Perm v) (m : ℝ) (h : IsMedian Scalar.ltb s m) : IsMedian Scalar.ltb v m := by
  unfold IsMedian at *
  rwa [← hp.countP_eq, ← hp.countP_eq, ← hp.length_eq]

theorem at?_eq_getElem {α : Type} (s : List α) (i : Nat) (h : i < s.length) : at? s i = .ok s[i] := by
  rw [at?, List.getElem?_eq_getElem h]

theorem median_eq (v : List ℝ) (hn : 2 ≤ v.length) :
    ∃ a b, (sortVals v)[v.length / 2 - 1]? = some a ∧ (sortVals v)[v.length / 2]? = some b ∧
      median v = .ok (if v.length % 2 = 0 then (a + b) / 2 else b, sortVals v) := by
  have hlen : (sortVals v).length = v.length := (sortVals_perm v).length_eq
  have hk : v.length / 2 < (sortVals v).length := by omega
  have hk1 : v.length / 2 - 1 < (sortVals v).length := by omega
  refine ⟨_, _, List.getElem?_eq_getElem hk1, List.getElem?_eq_getElem hk, ?_⟩
  rw [median, if_neg (by omega), if_neg (by omega)]
  simp only [hlen, at?_eq_getElem _ _ hk, at?_eq_getElem _ _ hk1, ofInt_eq, Int.cast_ofNat]
  split <;> rfl

theorem median_spec' (v : List ℝ) (hv : v ≠ []) :
    ∃ m s, median v = .ok (m, s) ∧ IsMedian Scalar.ltb v m ∧ s.Perm v ∧ (2 ≤ v.length → SortedBy Scalar.ltb s) := by
  by_cases hn : 2 ≤ v.length
  · obtain ⟨a, b, ha, hb, h⟩ := median_eq v hn
    have hs := sortedBy_sortVals v
    refine ⟨_, _, h, isMedian_perm (sortVals_perm v) _ ?_, sortVals_perm v, fun _ => hs⟩
    obtain ⟨hk1, ha⟩ := List.getElem?_eq_some_iff.mp ha
    obtain ⟨hk, hb⟩ := List.getElem?_eq_some_iff.mp hb
    have hab : a ≤ b := ha ▸ hb ▸ sorted_getElem_le _ hs _ _ hk (Nat.sub_le _ _)
    have hlen : (sortVals v).length = v.length := (sortVals_perm v).length_eq
    split
    · refine isMedian_of_sorted _ hs _ _ hk1 hk (by omega) (by omega) _ (ha.trans_le ?_) (le_of_le_of_eq ?_ hb.symm)
      · rw [le_div_iff₀ two_pos, mul_two]; exact add_le_add_right hab a
      · rw [div_le_iff₀ two_pos, mul_two]; exact add_le_add_left hab b
    · exact isMedian_of_sorted _ hs _ _ hk hk (by omega) (by omega) _ hb.le hb.ge
  · obtain ⟨x, rfl⟩ := List.length_eq_one_iff.mp (by have := List.length_pos_iff.mpr hv; omega : v.length = 1)
    exact ⟨x, [x], rfl, by simp [IsMedian], List.Perm.refl _, fun h => absurd h (Nat.not_succ_le_self 1)⟩

/-! ### which -/

/-- `which` is `List.findIdx?`, with ElementNotFoundException for `none` -/
theorem whichFrom_eq {β : Type} (eq : β → β → Bool) (x : β) (v : List β) (k : Nat) :
    whichFrom eq x k v = match v.findIdx? (eq · x) with | some i => .ok (i + k) | none => .error .notfound := by
  induction v generalizing k with
  | nil => rfl
  | cons y ys ih =>
    rw [whichFrom, List.findIdx?_cons]
    split
    · exact congrArg Except.ok (Nat.zero_add k).symm
    · rw [ih]
      cases ys.findIdx? (eq · x) with
      | none => rfl
      | some i => exact congrArg Except.ok (Nat.add_right_comm i 1 k).symm

theorem which_spec {β : Type} (eq : β → β → Bool) (v : List β) (x : β) (p : Nat) (h : which eq v x = .ok p) :
    (∃ y, v[p]? = some y ∧ eq y x = true) ∧ ∀ y ∈ v.take p, eq y x = false := by
  rw [which, whichFrom_eq] at h
  cases hf : v.findIdx? (eq · x) with
  | none => rw [hf] at h; cases h
  | some i =>
    rw [hf] at h
    obtain rfl : i = p := Except.ok.inj h
    obtain ⟨hi, hix, hbefore⟩ := List.findIdx?_eq_some_iff_getElem.mp hf
    refine ⟨⟨_, List.getElem?_eq_getElem hi, hix⟩, fun y hy => ?_⟩
    obtain ⟨j, hj, rfl⟩ := List.mem_take_iff_getElem.mp hy
    exact Bool.eq_false_iff.mpr (hbefore j (Nat.lt_min.mp hj).1)

theorem which_absent {β : Type} (eq : β → β → Bool) (v : List β) (x : β) (h : ∀ y ∈ v, eq y x = false) :
    which eq v x = .error .notfound := by
  rw [which, whichFrom_eq, List.findIdx?_eq_none_iff.mpr h]

/-! ### computeFdr -/

theorem setAt?_ok {β : Type} (v : List β) (i : Nat) (x : β) (h : i < v.length) : setAt? v i x = .ok (v.set i x) := by
  simp [setAt?, h]

/-- the scatter loop writes, for the entry at position `t` of the list, the value computed with
`denom (k + t)`, provided the target positions are in range and pairwise distinct -/
theorem fdrLoop_spec (n : Nat) (denom : Nat → (ℝ × Nat) → Nat) (S : List (ℝ × Nat)) (k : Nat) (out : List ℝ)
    (hr : ∀ e ∈ S, e.2 < out.length) (hnd : (S.map (·.2)).Nodup) :
    ∃ out', fdrLoop n denom k S out = .ok out' ∧ out'.length = out.length ∧
      (∀ t e, S[t]? = some e → out'[e.2]? = some (e.1 * Scalar.ofInt n / Scalar.ofInt (denom (k + t) e))) ∧
      (∀ j, j ∉ S.map (·.2) → out'[j]? = out[j]?) := by
  induction S generalizing k out with
  | nil => exact ⟨out, rfl, rfl, by simp, fun _ _ => rfl⟩
  | cons e es ih =>
    have he : e.2 < out.length := hr e (by simp)
    simp only [List.map_cons, List.nodup_cons] at hnd
    set out1 := out.set e.2 (e.1 * Scalar.ofInt n / Scalar.ofInt (denom k e)) with hout1
    obtain ⟨out', h1, h2, h3, h4⟩ := ih (k + 1) out1 (by intro e' he'; rw [hout1, List.length_set]; exact hr e' (by simp [he'])) hnd.2
    refine ⟨out', ?_, by rw [h2, hout1, List.length_set], ?_, ?_⟩
    · simp only [fdrLoop, setAt?_ok out e.2 _ he, bind, Except.bind]; exact h1
    · intro t e' ht
      cases t with
      | zero =>
        simp only [List.getElem?_cons_zero, Option.some.injEq] at ht
        subst ht
        rw [h4 e.2 hnd.1, hout1, List.getElem?_set_self he]; simp
      | succ t' =>
        simp only [List.getElem?_cons_succ] at ht
        have := h3 t' e' ht
        rw [this, show k + 1 + t' = k + (t' + 1) by omega]
    · intro j hj
      simp only [List.map_cons, List.mem_cons, not_or] at hj
      rw [h4 j hj.2, hout1, List.getElem?_set_ne (Ne.symm hj.1)]

theorem sortPValues_perm (p : List ℝ) : (sortPValues p).Perm p.zipIdx := List.mergeSort_perm _ _

theorem mem_sortPValues {p : List ℝ} {x : ℝ} {i : Nat} : (x, i) ∈ sortPValues p ↔ p[i]? = some x :=
  (sortPValues_perm p).mem_iff.trans List.mk_mem_zipIdx_iff_getElem?

theorem fdrLoop_sortPValues (p : List ℝ) (denom : Nat → (ℝ × Nat) → Nat) :
    ∃ out, fdrLoop p.length denom 0 (sortPValues p) (List.replicate p.length Scalar.zero) = .ok out ∧
      out.length = p.length ∧
      ∀ t e, (sortPValues p)[t]? = some e → out[e.2]? = some (e.1 * (p.length : ℝ) / (denom t e : ℝ)) := by
  have hperm := sortPValues_perm p
  obtain ⟨out, h1, h2, h3, -⟩ := fdrLoop_spec p.length denom (sortPValues p) 0 (List.replicate p.length Scalar.zero)
    (fun e he => by simpa using List.snd_lt_of_mem_zipIdx (hperm.mem_iff.mp he))
    ((hperm.map Prod.snd).nodup_iff.mpr (by rw [List.zipIdx_map_snd]; exact List.nodup_range'))
  exact ⟨out, h1, by rw [h2, List.length_replicate], fun t e he => by rw [h3 t e he, Nat.zero_add]; simp⟩

theorem computeFdr_spec (p : List ℝ) :
    ∃ out, computeFdr p = .ok out ∧ IsFdrVia p out ((sortPValues p).map (·.2)) := by
  obtain ⟨out, h1, h2, h3⟩ := fdrLoop_sortPValues p fun k _ => p.length - k
  have hsort := sortIdx_spec (lt' := fun x y => Scalar.ltb y x) lt_strictWeak.flip p
  refine ⟨out, h1, hsort, h2, fun k hk => ?_⟩
  rw [List.length_map] at hk
  have he := List.getElem?_eq_getElem hk
  have hp : p[(sortPValues p)[k].2]? = some (sortPValues p)[k].1 := mem_sortPValues.mp (List.getElem_mem hk)
  simp only [fdrEntryOk, List.getElem?_map, he, Option.map_some, hp, h3 k _ he]
  simp

/-- before the repair every entry is `pᵢ·n/(i+1)`: the divisor is the position in the *input* -/
theorem computeFdrOrig_spec (p : List ℝ) :
    ∃ out, computeFdrOrig p = .ok out ∧ out.length = p.length ∧
      ∀ (i : Nat) (x : ℝ), p[i]? = some x → out[i]? = some (x * (p.length : ℝ) / ((i : ℝ) + 1)) := by
  obtain ⟨out, h1, h2, h3⟩ := fdrLoop_sortPValues p fun _ e => e.2 + 1
  refine ⟨out, h1, h2, fun i x hi => ?_⟩
  obtain ⟨t, ht, het⟩ := List.getElem_of_mem (mem_sortPValues.mpr hi)
  rw [h3 t (x, i) (by rw [List.getElem?_eq_getElem ht, het]), Nat.cast_succ]

theorem count_le_of_strict_desc (D : List ℝ) (hd : D.Pairwise (fun a b => b < a)) (k : Nat) (hk : k < D.length) :
    D.countP (fun y => decide (y ≤ D[k])) = D.length - k := by
  have hget := List.pairwise_iff_getElem.mp hd
  have hbefore : ∀ j (hj : j < D.length), j < k → D[k] < D[j] := fun j hj hjk => hget j k hj hk hjk
  have hafter : ∀ j (hj : j < D.length), k ≤ j → D[j] ≤ D[k] := fun j hj hkj => by
    rcases Nat.lt_or_eq_of_le hkj with h | rfl
    · exact (hget k j hk hj h).le
    · exact le_rfl
  generalize D[k] = m at hbefore hafter
  have h1 : (D.take k).countP (fun y => decide (y ≤ m)) = 0 := by
    rw [List.countP_eq_zero]
    intro y hy
    obtain ⟨j, hj, rfl⟩ := List.mem_take_iff_getElem.mp hy
    rw [decide_eq_true_eq, not_le]
    exact hbefore j _ (Nat.lt_min.mp hj).1
  have h2 : (D.drop k).countP (fun y => decide (y ≤ m)) = (D.drop k).length := by
    rw [List.countP_eq_length]
    intro y hy
    obtain ⟨j, hj, rfl⟩ := List.mem_drop_iff_getElem.mp hy
    rw [decide_eq_true_eq]
    exact hafter (k + j) _ (Nat.le_add_right k j)
  have := List.countP_append (p := fun y => decide (y ≤ m)) (l₁ := D.take k) (l₂ := D.drop k)
  rw [List.take_append_drop, h1, h2, List.length_drop, Nat.zero_add] at this
  exact this

/-- for pairwise distinct p-values the repaired `computeFdr` is the Benjamini–Hochberg formula
`pᵢ·n / rank(pᵢ)` with `rank(pᵢ) = #{j | pⱼ ≤ pᵢ}` -/
theorem computeFdr_rank (p : List ℝ) (hnd : p.Nodup) :
    ∃ out, computeFdr p = .ok out ∧ out.length = p.length ∧
      ∀ (i : Nat) (x : ℝ), p[i]? = some x →
        out[i]? = some (x * (p.length : ℝ) / ((p.countP (fun y => decide (y ≤ x)) : Nat) : ℝ)) := by
  obtain ⟨out, hout, hlen, h3⟩ := fdrLoop_sortPValues p fun k _ => p.length - k
  refine ⟨out, hout, hlen, fun i x hi => ?_⟩
  obtain ⟨k, hk, hek⟩ := List.getElem_of_mem (mem_sortPValues.mpr hi)
  rw [h3 k (x, i) (by rw [List.getElem?_eq_getElem hk, hek])]
  -- the values in ranking order are strictly decreasing, so the rank of the `k`-th is `n - k`
  have hDp : ((sortPValues p).map (·.1)).Perm p := by
    have := (sortPValues_perm p).map Prod.fst
    rwa [List.zipIdx_map_fst] at this
  have hdesc : ((sortPValues p).map (·.1)).Pairwise (fun a b => b < a) :=
    ((sortedBy_mergeSort lt_strictWeak.flip Prod.fst p.zipIdx).and (hDp.nodup_iff.mpr hnd)).imp
      fun {a b} h => lt_of_le_of_ne ((ltb_false_iff a b).mp h.1) (Ne.symm h.2)
  have hcount := count_le_of_strict_desc _ hdesc k (by rwa [List.length_map])
  rw [List.getElem_map, hek, hDp.countP_eq, hDp.length_eq] at hcount
  rw [hcount]

/-! ### seq -/

theorem seqFill_length (step : ℝ) (n : Nat) (val : ℝ) : (seqFill step n val).length = n := by
  induction n generalizing val with
  | zero => rfl
  | succ k ih => simp [seqFill, ih]

theorem seqFill_get (step : ℝ) (n : Nat) (val : ℝ) (i : Nat) (h : i < n) :
    (seqFill step n val)[i]? = some (val + i * step) := by
  induction n generalizing val i with
  | zero => omega
  | succ k ih =>
    cases i with
    | zero => simp [seqFill]
    | succ j =>
      simp only [seqFill, List.getElem?_cons_succ]
      rw [ih (val + step) j (by omega)]; congr 1; push_cast; ring

/-- the `(size_t)` conversion of a non-negative real -/
noncomputable def truncR (x : ℝ) : Nat := ⌊x⌋₊

theorem seq_spec' (frm tt by_ : ℝ) (hby : 0 < by_) :
    ∃ l, seq truncR frm tt by_ = .ok l ∧
      l.length = ⌊(|frm - tt| + by_ / 100) / by_⌋₊ + 1 ∧
      ∀ i, i < l.length → l[i]? = some (frm + i * (if frm < tt then by_ else -by_)) := by
  unfold seq seqWith
  have : Scalar.gtb by_ Scalar.zero = true := by simp [hby]
  simp only [this, Bool.not_true, Bool.false_eq_true, if_false]
  refine ⟨_, rfl, ?_, ?_⟩
  · simp [seqFill_length, truncR]
  · intro i hi
    rw [seqFill_length] at hi
    rw [seqFill_get _ _ _ i hi]
    simp

/-- when `tt` is a whole number `k` of steps away from `frm` (in either direction), the sequence has
`k+1` elements and its last one is `tt` (the end point is included) -/
theorem seq_hits_to (frm tt by_ : ℝ) (k : Nat) (hby : 0 < by_) (habs : |frm - tt| = k * by_) :
    ∃ l, seq truncR frm tt by_ = .ok l ∧ l.length = k + 1 ∧ l[0]? = some frm ∧ l[k]? = some tt := by
  obtain ⟨l, hl, hlen, hget⟩ := seq_spec' frm tt by_ hby
  have hn : ⌊(|frm - tt| + by_ / 100) / by_⌋₊ = k := by
    rw [habs, add_div, mul_div_assoc, div_self hby.ne', mul_one, div_div, div_mul_cancel_right₀ hby.ne', add_comm,
      Nat.floor_add_natCast (by norm_num), Nat.floor_eq_zero.mpr (by norm_num), zero_add]
  rw [hn] at hlen
  refine ⟨l, hl, hlen, ?_, ?_⟩
  · rw [hget 0 (hlen ▸ k.succ_pos), Nat.cast_zero, zero_mul, add_zero]
  · rw [hget k (hlen ▸ k.lt_succ_self)]
    congr 1
    split
    · rw [← habs, abs_of_neg (sub_neg.mpr ‹frm < tt›), neg_sub, add_sub_cancel]
    · rw [mul_neg, ← habs, abs_of_nonneg (sub_nonneg.mpr (not_lt.mp ‹¬frm < tt›)), ← sub_eq_add_neg, sub_sub_cancel]
end Bpp.VecTools
