import BppProofs.Lemmas.Discretize
/-!
C09: the rescaling of the class values (`rescale`) at `ℝ`: when it is applied and what it gives.
-/
namespace Bpp.Discretize
open Bpp

/-- the rescaling condition of the repaired code -/
def Rescaled (vals : List ℝ) (mean : ℝ) : Prop := vals.sum ≠ 0 ∧ 0 < mean / vals.sum

theorem rescale_cases (vals : List ℝ) (mean ec : ℝ) :
    (Rescaled vals mean → rescale vals mean ec = vals.map (fun v => v * (mean / vals.sum / ec))) ∧
    (¬ Rescaled vals mean → rescale vals mean ec = vals) := by
  have e : rescale vals mean ec =
      if vals.sum ≠ 0 ∧ 0 < mean / vals.sum then vals.map (fun v => v * (mean / vals.sum / ec)) else vals := by
    simp only [rescale, sumL_eq, Bool.and_eq_true, Bool.not_eq_true', eqb_false_iff, ScalarReal.gtb_iff,
      ScalarReal.zero_eq]
  rw [e]
  exact ⟨fun h => if_pos h, fun h => if_neg h⟩

end Bpp.Discretize
