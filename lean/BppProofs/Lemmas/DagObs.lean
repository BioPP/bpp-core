import BppModel.DagObs
import BppProofs.Lemmas.TreeObsCopy
import BppProofs.Lemmas.Dag
/-! Helper lemmas for C15, object-level wrappers of the DAG container watched by observers
(`BppModel/DagObs.lean`).  Property theorems are in `Props/C15DagObs.lean`. -/
namespace Bpp
namespace Graph
open AL

namespace DW
open TW (WRes)

theorem liftW_g {α : Type} (dw : DW) (r : GOut α) : (dw.liftW r).2.w.g = { r.state with pending := [] } := by
  cases r <;> rfl

theorem touch_w (r : GOut Unit × DW) : (touch r).2.w = r.2.w := by
  unfold touch; split <;> rfl

theorem touch_fst (r : GOut Unit × DW) : (touch r).1 = r.1 := by
  unfold touch; split <;> rfl

theorem ofG_snd (r : GOut Unit × DW) : (ofG r).2 = r.2 := by
  unfold ofG; split <;> rfl

theorem andThen_prop {α β : Type} (P : DW → Prop) (r : GOut α × DW) (f : α → DW → GOut β × DW) (h : P r.2)
    (hf : ∀ a t, P t → P (f a t).2) : P (andThen r f).2 := by
  unfold andThen
  split
  · exact hf _ _ h
  · exact h

/-! ### the invariant of the observed DAG container -/

/-- world in order, graph directed, both cached flags sound -/
structure Inv (dw : DW) : Prop where
  winv : WInv dw.w
  dir : dw.w.g.directed = true
  sound : D.CacheSound dw.toD

theorem Inv.toD {dw : DW} (hi : Inv dw) : D.Inv dw.toD := ⟨⟨hi.winv.graph, hi.dir⟩, hi.sound⟩

theorem inv_init (hw : WInv (World.init true)) : Inv DW.init := ⟨hw, rfl, D.cacheSound_off _⟩

theorem liftW_toD {α : Type} (dw : DW) (r : GOut α) : (dw.liftW r).2.toD = (dw.toD.lift r).2 := by
  cases r with
  | ok a g' => rfl
  | exc g' => by_cases hg : g' = dw.w.g <;> simp [liftW, DW.toD, D.lift, World.graphOp, World.deliver, hg]

theorem liftW_inv {α : Type} {dw : DW} (hi : Inv dw) {s : Option (α × Spec)} {r : GOut α} (ho : G.Outcome dw.w.g s r)
    (hd : r.state.directed = true) : Inv (dw.liftW r).2 :=
  ⟨ho.winv hi.winv, by rw [liftW_g]; exact hd,
    by rw [liftW_toD]; exact (D.inv_lift dw.toD hi.toD r (by cases r <;> exact ⟨ho.1.consistent hi.winv.graph, hd⟩)).2⟩

theorem touch_inv {r : GOut Unit × DW} (hi : Inv r.2) : Inv (touch r).2 := by
  unfold touch
  split
  · exact ⟨hi.winv, hi.dir, D.cacheSound_off _⟩
  · exact hi

theorem link_inv {dw : DW} (hi : Inv dw) (a b : Nat) : Inv (dw.liftW (dw.w.g.link a b)).2 :=
  liftW_inv hi (G.link_outcome hi.winv.graph a b) ((G.dir_link dw.w.g a b).state.trans hi.dir)

theorem unlink_inv {dw : DW} (hi : Inv dw) (a b : Nat) : Inv (dw.liftW (dw.w.g.unlink a b)).2 :=
  liftW_inv hi (G.unlink_outcome hi.winv.graph a b) ((G.dir_unlink hi.winv.graph a b).state.trans hi.dir)

/-- an operation of the base observer -/
theorem ofO_inv {dw : DW} (hi : Inv dw) {r : OOut Unit} (h : r.All (World.Step dw.w)) : Inv (dw.ofO r).2 := by
  unfold ofO
  cases r with
  | ok u w' =>
    have hs := (show World.Step dw.w w' from h).2 hi.winv
    exact ⟨hs.1, hs.2.trans hi.dir, D.cacheSound_off _⟩
  | exc kd w' =>
    have hs := (show World.Step dw.w w' from h).2 hi.winv
    refine ⟨hs.1, hs.2.trans hi.dir, ?_⟩
    by_cases hg : w'.g = dw.w.g
    · have : ({ w := w', valid := decide (w'.g = dw.w.g) && dw.valid, rooted := decide (w'.g = dw.w.g) && dw.rooted } : DW).toD
          = dw.toD := by
        simp [DW.toD, hg]
      simp only
      rw [this]; exact hi.sound
    · refine ⟨fun hv => ?_, fun hv => ?_⟩ <;> simp [DW.toD, hg] at hv
  | ub => exact hi

theorem linkO_inv {dw : DW} (hi : Inv dw) (k : Nat) (a b : Obj) (x : Option Obj) : Inv (dw.link k a b x).2 :=
  ofO_inv hi (world_link_step dw.w k a b x)
theorem addFather_inv {dw : DW} (hi : Inv dw) (k : Nat) (n f : Obj) (x : Option Obj) : Inv (dw.addFather k n f x).2 := by
  unfold addFather
  cases x with
  | some x => exact linkO_inv hi k f n _
  | none =>
    simp only
    split
    · exact hi
    · exact hi
    · rw [ofG_snd]; exact touch_inv (link_inv hi _ _)

theorem addSon_inv {dw : DW} (hi : Inv dw) (k : Nat) (n s : Obj) (x : Option Obj) : Inv (dw.addSon k n s x).2 := by
  unfold addSon
  cases x with
  | some x => exact linkO_inv hi k n s _
  | none =>
    simp only
    split
    · exact hi
    · exact hi
    · rw [ofG_snd]; exact touch_inv (link_inv hi _ _)

theorem removeSonG_inv {dw : DW} (hi : Inv dw) (n s : Nat) : Inv (dw.removeSonG n s).2 := unlink_inv hi n s

theorem removeFatherG_inv {dw : DW} (hi : Inv dw) (n f : Nat) : Inv (dw.removeFatherG n f).2 := by
  have key : ∀ d1 : DW, Inv d1 → Inv (unit (d1.liftW (d1.w.g.unlink f n))).2 := fun d1 h1 => unlink_inv h1 f n
  unfold removeFatherG
  split
  · exact hi
  · apply key
    split
    · exact ⟨hi.winv, hi.dir, ⟨hi.sound.1, by intro h; cases h⟩⟩
    · exact hi

theorem removeSon_inv {dw : DW} (hi : Inv dw) (k : Nat) (n s : Obj) : Inv (dw.removeSon k n s).2 := by
  unfold removeSon
  split
  · exact hi
  · exact hi
  · rw [ofG_snd]; exact removeSonG_inv hi _ _

theorem removeFather_inv {dw : DW} (hi : Inv dw) (k : Nat) (n f : Obj) : Inv (dw.removeFather k n f).2 := by
  unfold removeFather
  split
  · exact hi
  · exact hi
  · rw [ofG_snd]; exact removeFatherG_inv hi _ _

theorem removeAll_inv {dw : DW} (hi : Inv dw) (k : Nat) (a : Obj) (fathers : Bool) : Inv (dw.removeAll k a fathers).2.2 := by
  unfold removeAll
  split
  · exact hi
  · split
    · exact hi
    · rename_i ia _
      split
      · exact hi
      · rename_i l _
        have h := foldl_ind (fun acc : GOut Unit × DW => Inv acc.2)
          (fun acc s => andThen acc (fun _ d' => if fathers then d'.removeFatherG ia s else d'.removeSonG ia s))
          (fun acc s hacc => andThen_prop Inv acc _ hacc (fun _ d' h' => by
            cases fathers
            · exact removeSonG_inv h' ia s
            · exact removeFatherG_inv h' ia s))
          l (.ok () dw.w.g, dw) hi
        simp only
        split
        · split
          · exact h
          · exact h
        · exact h

theorem isValid_toD (dw : DW) : dw.isValid.2.toD = dw.toD.isValid.2 := by
  unfold isValid DW.toD D.isValid
  simp only
  split
  · rename_i hv; simp [hv]
  · split <;> rfl

theorem isRooted_toD (dw : DW) : dw.isRooted.2.toD = dw.toD.isRooted.2 := by
  unfold isRooted DW.toD D.isRooted
  simp only
  split
  · rename_i hv; simp [hv]
  · split <;> rfl

theorem isValid_inv {dw : DW} (hi : Inv dw) : Inv dw.isValid.2 :=
  ⟨hi.winv, hi.dir, by rw [isValid_toD]; exact (D.inv_isValid _ hi.toD).2⟩

theorem isRooted_inv {dw : DW} (hi : Inv dw) : Inv dw.isRooted.2 :=
  ⟨hi.winv, hi.dir, by rw [isRooted_toD]; exact (D.inv_isRooted _ hi.toD).2⟩

/-- `rootAt` through an object either changes nothing or is the `rootAt` of the DAG container inside -/
theorem rootAt_ok {dw : DW} {k : Nat} {a : Obj} {r : WRes × DW} (h : dw.rootAt k a = .ok r) :
    r.2 = dw ∨ ∃ ia r', dw.toD.rootAt ia = .ok r' ∧
      r.2 = { w := { dw.w with g := r'.2.g }, valid := r'.2.valid, rooted := r'.2.rooted } := by
  unfold rootAt at h
  split at h
  · cases h; exact .inl rfl
  · split at h
    · cases h; exact .inl rfl
    · rename_i ia _
      split at h
      · rename_i r' hr'; cases h; exact .inr ⟨ia, r', hr', rfl⟩
      all_goals cases h

theorem rootAt_obs {dw : DW} {k : Nat} {a : Obj} {r : WRes × DW} (h : dw.rootAt k a = .ok r) : r.2.w.obs = dw.w.obs := by
  rcases rootAt_ok h with e | ⟨_, _, _, e⟩ <;> rw [e]

/-- re-rooting keeps the world in order (no hypothesis on the caches): the re-rooted graph is consistent, quiet,
and has the same node ids and edge ids -/
theorem rootAt_winv {dw : DW} (hw : WInv dw.w) (hd : dw.w.g.directed = true) {k : Nat} {a : Obj} {r : WRes × DW}
    (h : dw.rootAt k a = .ok r) : WInv r.2.w ∧ r.2.w.g.directed = true := by
  rcases rootAt_ok h with e | ⟨ia, r', hr', e⟩ <;> rw [e]
  · exact ⟨hw, hd⟩
  · obtain ⟨hG, hs, _, _⟩ := D.rootAt_shape dw.toD ⟨hw.graph, hd⟩ hw.quiet ia r' hr'
    exact ⟨winv_sameShape hw hG.1 hs, hG.2⟩

theorem rootAt_inv {dw : DW} (hi : Inv dw) {k : Nat} {a : Obj} {r : WRes × DW} (h : dw.rootAt k a = .ok r) : Inv r.2 := by
  obtain ⟨hw', hd'⟩ := rootAt_winv hi.winv hi.dir h
  refine ⟨hw', hd', ?_⟩
  rcases rootAt_ok h with e | ⟨ia, r', hr', e⟩ <;> rw [e]
  · exact hi.sound
  · exact (D.inv_rootAt dw.toD hi.toD ia r' hr').2

/-! ### observer copies: the graph and the flags are untouched -/

theorem ofObsOnly_inv {dw : DW} (hi : Inv dw) {r : OOut Unit} (h : r.All (World.ObsStep dw.w)) : Inv (dw.ofObsOnly r).2 := by
  have key : ∀ w', World.ObsStep dw.w w' → Inv ({ dw with w := w' } : DW) := by
    intro w' hs
    refine ⟨hs.2.2 hi.winv, by rw [hs.2.1]; exact hi.dir, ?_⟩
    have : ({ dw with w := w' } : DW).toD = dw.toD := by simp [DW.toD, hs.2.1]
    rw [this]; exact hi.sound
  unfold ofObsOnly
  cases r with
  | ok u w' => exact key w' h
  | exc kd w' => exact key w' h
  | ub => exact hi

theorem step_inv {dw : DW} (hi : Inv dw) (op : DWOp) : Inv (dw.step op) := by
  cases op with
  | createNode k a => exact ofO_inv hi (world_createNode_step dw.w k a)
  | link k a b x => exact linkO_inv hi k a b x
  | unlink k a b => exact ofO_inv hi (world_unlink_step dw.w k a b)
  | deleteNode k a => exact ofO_inv hi (world_deleteNode_step dw.w k a)
  | addFather k n f x => exact addFather_inv hi k n f x
  | addSon k n s x => exact addSon_inv hi k n s x
  | removeFather k n f => exact removeFather_inv hi k n f
  | removeSon k n s => exact removeSon_inv hi k n s
  | removeFathers k n => exact removeAll_inv hi k n true
  | removeSons k n => exact removeAll_inv hi k n false
  | rootAt k a =>
    simp only [step]
    rcases hr : dw.rootAt k a with r | _ | _ | _
    · exact rootAt_inv hi hr
    · exact hi
    · exact hi
    · exact hi
  | isValid => exact isValid_inv hi
  | isRooted => exact isRooted_inv hi
  | copy j k => exact ofObsOnly_inv hi (world_copy_step dw.w j k)
  | clone j k => exact ofObsOnly_inv hi (world_copy_step dw.w j k)
  | assign j k => exact ofObsOnly_inv hi (world_assign_step dw.w j k)
  | setRoot k a => exact ofO_inv hi (world_setRootObj_step dw.w k a)

theorem run_inv (ops : List DWOp) : ∀ dw : DW, Inv dw → Inv (dw.run ops) :=
  foldl_ind Inv step (fun _ op hi => step_inv hi op) ops

/-! ### what the successful calls did -/

theorem liftW_fst_ok {α : Type} (dw : DW) (r : GOut α) {a : α} {g : G} (h : (dw.liftW r).1 = .ok a g) :
    ∃ g', r = .ok a g' := by
  cases r with
  | ok a' g' =>
    simp only [liftW, World.graphOp] at h
    injection h with h1 _; subst h1; exact ⟨g', rfl⟩
  | exc g' => simp [liftW, World.graphOp] at h

theorem ofG_ok {r : GOut Unit × DW} {t : DW} (h : ofG r = (.ok, t)) : t = r.2 ∧ ∃ u g, r.1 = .ok u g := by
  unfold ofG at h
  rcases hr : r.1 with ⟨u, g⟩ | g
  · rw [hr] at h; simp only [Prod.mk.injEq, true_and] at h; exact ⟨h.symm, u, g, rfl⟩
  · rw [hr] at h; simp at h

theorem ofO_ok {dw dw' : DW} {r : OOut Unit} (h : dw.ofO r = (.ok, dw')) : ∃ u, r = .ok u dw'.w := by
  unfold ofO at h
  split at h
  · injection h with _ h; subst h; exact ⟨_, rfl⟩
  · injection h with h _; cases h
  · injection h with h _; cases h

theorem ofObsOnly_ok {dw dw' : DW} {r : OOut Unit} (h : dw.ofObsOnly r = (.ok, dw')) :
    ∃ u w', r = .ok u w' ∧ dw' = { dw with w := w' } := by
  unfold ofObsOnly at h
  split at h
  · rename_i u w'
    injection h with _ h2
    exact ⟨u, w', rfl, h2.symm⟩
  · injection h with h1 _; cases h1
  · injection h with h1 _; cases h1

/-- slot `k` holds `c`, everything else is as before -/
structure Installed (dw : DW) (k : Nat) (c : Obs) (dw' : DW) : Prop where
  slot : dw'.w.getObs k = some c
  graph : dw'.w.g = dw.w.g
  valid : dw'.valid = dw.valid
  rooted : dw'.rooted = dw.rooted
  others : ∀ i, i ≠ k → dw'.w.getObs i = dw.w.getObs i

theorem installed_setObs (dw : DW) (k : Nat) (c : Obs) (hk : k < dw.w.obs.length) :
    Installed dw k c { dw with w := dw.w.setObs k c } := by
  refine ⟨?_, rfl, rfl, rfl, ?_⟩
  · show (dw.w.setObs k c).getObs k = _
    rw [getObs_setObs _ _ _ _ hk]; simp
  · intro i hik
    show (dw.w.setObs k c).getObs i = _
    rw [getObs_setObs _ _ _ _ hk, if_neg (fun hh => hik hh.symm)]

theorem copyObs_ok {dw dw' : DW} {j k : Nat} {o : Obs} (hj : dw.w.getObs j = some o) (hk : k < dw.w.obs.length)
    (h : dw.copyObs j k = (.ok, dw')) : Installed dw k (World.copyObs o) dw' := by
  obtain ⟨u, w', hr, ht⟩ := ofObsOnly_ok h
  rw [ht, World.copy_ok hj hr]
  exact installed_setObs dw k _ hk

theorem assignObs_ok {dw dw' : DW} {j k : Nat} {o : Obs} (hj : dw.w.getObs j = some o) (hjk : j ≠ k)
    (h : dw.assignObs j k = (.ok, dw')) : Installed dw k (World.copyObs o) dw' := by
  obtain ⟨u, w', hr, ht⟩ := ofObsOnly_ok h
  obtain ⟨hw', hk⟩ := World.assign_ok hj hjk hr
  rw [ht, hw']
  exact installed_setObs dw k _ hk

end DW
end Graph
end Bpp
