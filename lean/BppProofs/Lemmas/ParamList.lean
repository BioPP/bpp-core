import Mathlib.Data.List.Nodup
import BppModel.ParamList
import BppModel.ParamListSpec
/-! C02 (ParameterList): heap and lookup lemmas, and the invariant `Inv` of the machine (valid ids, satisfied
constraints, pairwise different names).  What a routine keeps of it is said as `Pres h h'` (a later heap: nothing
freed, old names kept, constraints still satisfied) for one that only writes objects, and as `GoodLR` (the same, and
the resulting list valid with pairwise different names) for one that returns a list. -/
namespace Bpp.ParamList

@[simp, grind =] theorem get_put (h : Store) (i : ObjId) (p : Par) (j : ObjId) :
    (h.put i p).get j = if j = i then p else h.get j := rfl
@[simp, grind =] theorem next_put (h : Store) (i : ObjId) (p : Par) : (h.put i p).next = h.next := rfl
@[simp, grind =] theorem get_alloc (h : Store) (p : Par) (j : ObjId) :
    (h.alloc p).1.get j = if j = h.next then p else h.get j := rfl
@[simp, grind =] theorem next_alloc (h : Store) (p : Par) : (h.alloc p).1.next = h.next + 1 := rfl
@[simp, grind =] theorem alloc_snd (h : Store) (p : Par) : (h.alloc p).2 = h.next := rfl
@[grind =] theorem nameOf_def (h : Store) (i : ObjId) : nameOf h i = (h.get i).name := rfl

theorem store_ext {a b : Store} (h1 : ∀ i, a.get i = b.get i) (h2 : a.next = b.next) : a = b := by
  cases a; cases b
  simp only [Store.mk.injEq]
  exact ⟨funext h1, h2⟩

theorem put_get_self (h : Store) (i : ObjId) : h.put i (h.get i) = h :=
  store_ext (fun j => by rw [get_put]; split <;> simp_all) rfl

theorem par_ext {p q : Par} (h1 : p.name = q.name) (h2 : p.value = q.value) (h3 : p.con = q.con) : p = q := by
  cases p; cases q; simp_all

/-- all ids of the list have been allocated -/
def Valid (h : Store) (l : List ObjId) : Prop := ∀ i : Nat, i ∈ l → i < h.next
/-- every allocated object satisfies its own constraint -/
def HeapOk (h : Store) : Prop := ∀ i, i < h.next → (h.get i).ok = true

/-- `h'` is a later heap: more objects, old objects keep their names, `HeapOk` is kept -/
structure Pres (h h' : Store) : Prop where
  next_le : h.next ≤ h'.next
  name_eq : ∀ i, i < h.next → nameOf h' i = nameOf h i
  ok : HeapOk h → HeapOk h'

theorem Pres.refl (h : Store) : Pres h h := ⟨Nat.le_refl _, fun _ _ => rfl, id⟩
theorem Pres.trans {a b c : Store} (x : Pres a b) (y : Pres b c) : Pres a c :=
  ⟨Nat.le_trans x.next_le y.next_le,
   fun i hi => by rw [y.name_eq i (Nat.lt_of_lt_of_le hi x.next_le), x.name_eq i hi],
   fun h => y.ok (x.ok h)⟩

theorem Valid.mono {h h' : Store} {l : List ObjId} (v : Valid h l) (x : Pres h h') : Valid h' l :=
  fun i hi => Nat.lt_of_lt_of_le (v i hi) x.next_le

theorem Valid.nil (h : Store) : Valid h [] := by intro i hi; cases hi

theorem names_congr {h h' : Store} {l : List ObjId} (e : ∀ i ∈ l, nameOf h' i = nameOf h i) :
    names h' l = names h l := by
  unfold names; exact List.map_congr_left e

theorem Pres.names {h h' : Store} (x : Pres h h') {l : List ObjId} (v : Valid h l) :
    names h' l = names h l := names_congr (fun i hi => x.name_eq i (v i hi))

theorem pres_alloc (h : Store) (p : Par) (hp : HeapOk h → p.ok = true) : Pres h (h.alloc p).1 := by
  refine ⟨Nat.le_succ _, fun i hi => ?_, fun hk i hi => ?_⟩
  · rw [nameOf, nameOf, get_alloc, if_neg (Nat.ne_of_lt hi)]
  · rw [get_alloc]
    split
    · exact hp hk
    · next c => exact hk i (Nat.lt_of_le_of_ne (Nat.le_of_lt_succ hi) c)

theorem pres_clone (h : Store) {i : ObjId} (hi : i < h.next) : Pres h (h.alloc (h.get i)).1 :=
  pres_alloc h _ (fun hk => hk i hi)

theorem pres_put (h : Store) (i : ObjId) (q : Par) (hn : q.name = (h.get i).name)
    (hq : HeapOk h → i < h.next → q.ok = true) : Pres h (h.put i q) := by
  refine ⟨Nat.le_refl _, fun j _ => ?_, fun hk j hj => ?_⟩
  · rw [nameOf, nameOf, get_put]
    split
    · next c => rw [c, hn]
    · rfl
  · rw [get_put]
    split
    · next c => exact hq hk (c ▸ hj)
    · exact hk j hj

/-- the objects `ps` allocated one after the other -/
def allocAll (h : Store) : List Par → Store
  | [] => h
  | p :: ps => allocAll (h.alloc p).1 ps

theorem next_allocAll (ps : List Par) (h : Store) : (allocAll h ps).next = h.next + ps.length := by
  induction ps generalizing h with
  | nil => rfl
  | cons p ps ih => rw [allocAll, ih, next_alloc, List.length_cons]; omega

/-- the ids `h.next, …, h.next + ps.length - 1` show `ps`; nothing else changes -/
theorem get_allocAll (ps : List Par) (h : Store) (i : Nat) :
    (allocAll h ps).get i = if i < h.next then h.get i else ps[i - h.next]?.getD (h.get i) := by
  induction ps generalizing h with
  | nil => simp [allocAll]
  | cons p ps ih =>
    rw [allocAll, ih, next_alloc, get_alloc]
    rcases Nat.lt_trichotomy i h.next with c | c | c
    · rw [if_pos (Nat.lt_succ_of_lt c), if_neg (Nat.ne_of_lt c), if_pos c]
    · subst c; simp
    · have e : i - h.next = (i - (h.next + 1)) + 1 := by omega
      rw [if_neg (Nat.not_lt.2 c), if_neg (Nat.ne_of_gt c), if_neg (Nat.lt_asymm c), e, List.getElem?_cons_succ]

theorem get_allocAll_old {ps : List Par} {h : Store} {i : Nat} (hi : i < h.next) :
    (allocAll h ps).get i = h.get i := by rw [get_allocAll, if_pos hi]

theorem get_allocAll_new {ps : List Par} {h : Store} {k : Nat} (hk : k < ps.length) :
    (allocAll h ps).get (h.next + k) = ps[k] := by
  rw [get_allocAll, if_neg (by omega), Nat.add_sub_cancel_left, List.getElem?_eq_getElem hk, Option.getD_some]

theorem allocAll_block (h : Store) (ps : List Par) :
    (∀ i ∈ List.range' h.next ps.length, h.next ≤ i) ∧ (List.range' h.next ps.length).Nodup ∧
    (List.range' h.next ps.length).map (allocAll h ps).get = ps := by
  refine ⟨fun i hi => (List.mem_range'_1.1 hi).1, List.nodup_range', List.ext_getElem (by simp) (fun k h1 h2 => ?_)⟩
  rw [List.getElem_map, List.getElem_range', Nat.one_mul, get_allocAll_new h2]

theorem pres_allocAll (h : Store) (ps : List Par) (hp : HeapOk h → ∀ p ∈ ps, p.ok = true) :
    Pres h (allocAll h ps) := by
  refine ⟨by rw [next_allocAll]; omega, fun i hi => by rw [nameOf, nameOf, get_allocAll_old hi], fun hk i hi => ?_⟩
  rw [next_allocAll] at hi
  by_cases c : i < h.next
  · rw [get_allocAll_old c]; exact hk i c
  · have e : i = h.next + (i - h.next) := by omega
    rw [e, get_allocAll_new (by omega)]; exact hp hk _ (List.getElem_mem _)

/-- what `cloneAll`, `getCommonParametersWith` and `addParameters` build: a later heap and a list of
fresh, pairwise different ids showing `ps`; the old objects are untouched -/
theorem block_spec (h : Store) (ps : List Par) (hp : HeapOk h → ∀ p ∈ ps, p.ok = true) :
    Pres h (allocAll h ps) ∧ Valid (allocAll h ps) (List.range' h.next ps.length) ∧
    (∀ i ∈ List.range' h.next ps.length, h.next ≤ i) ∧ (List.range' h.next ps.length).Nodup ∧
    (List.range' h.next ps.length).map (allocAll h ps).get = ps ∧
    (∀ i : Nat, i < h.next → (allocAll h ps).get i = h.get i) :=
  have ⟨b1, b2, b3⟩ := allocAll_block h ps
  ⟨pres_allocAll h ps hp, fun i hi => by rw [next_allocAll]; exact (List.mem_range'_1.1 hi).2, b1, b2, b3,
   fun _ hi => get_allocAll_old hi⟩

/-- an equal value is never refused -/
theorem setValue_eq (p : Par) (v : Rat) : p.setValue v =
    if p.rejects v = true ∧ v ≠ p.value then .error .constraint else .ok { p with value := v } := by
  unfold Par.setValue
  by_cases hv : v = p.value
  · subst hv; rw [if_pos rfl, if_neg (fun c => c.2 rfl)]
  · rw [if_neg hv]
    by_cases hr : p.rejects v = true
    · rw [if_pos hr, if_pos ⟨hr, hv⟩]
    · rw [if_neg hr, if_neg (fun c => hr c.1)]

theorem setValue_ok {p p' : Par} {v : Rat} (e : p.setValue v = .ok p') :
    p' = { p with value := v } ∧ (p.ok = true → p'.ok = true) := by
  rw [setValue_eq] at e
  split at e
  · cases e
  · next c =>
    cases e
    refine ⟨rfl, fun hp => ?_⟩
    by_cases hv : v = p.value
    · subst hv; exact hp
    · simp only [Par.ok, Bool.not_eq_true']
      exact Bool.eq_false_iff.2 (fun hr => c ⟨hr, hv⟩)

theorem setValue_error {p : Par} {v : Rat} {e : Err} (h : p.setValue v = .error e) :
    e = .constraint ∧ p.rejects v = true ∧ v ≠ p.value := by
  rw [setValue_eq] at h
  split at h
  · next c => cases h; exact ⟨rfl, c⟩
  · cases h

theorem setValue_of_accepts {p : Par} {v : Rat} (h : p.rejects v = false) :
    p.setValue v = .ok { p with value := v } := by
  rw [setValue_eq, if_neg (fun c => by rw [h] at c; cases c.1)]

theorem setValue_self (p : Par) : p.setValue p.value = .ok p := if_pos rfl

theorem pres_put_setValue (h : Store) (i : ObjId) {p' : Par} {v : Rat}
    (e : (h.get i).setValue v = .ok p') : Pres h (h.put i p') := by
  obtain ⟨rfl, e3⟩ := setValue_ok e
  exact pres_put h i _ rfl (fun hk hi => e3 (hk i hi))

/-- whole-parameter assignment `*t = *s` when both carry the same name -/
theorem pres_put_assign (h : Store) {t s : ObjId} (hs : s < h.next) (e : nameOf h s = nameOf h t) :
    Pres h (h.put t (h.get s)) :=
  pres_put h t _ e (fun hk _ => hk s hs)

theorem hasParameter_iff (h : Store) (l : List ObjId) (n : String) :
    hasParameter h l n = true ↔ n ∈ names h l := by
  simp only [hasParameter, names, List.any_eq_true, List.mem_map, beq_iff_eq]

theorem hasParameter_false_iff (h : Store) (l : List ObjId) (n : String) :
    hasParameter h l n = false ↔ n ∉ names h l := by
  rw [← hasParameter_iff]; simp

theorem find?_some {h : Store} {l : List ObjId} {n : String} {i : ObjId} (e : find? h l n = some i) :
    i ∈ l ∧ nameOf h i = n := by
  unfold find? at e
  exact ⟨List.mem_of_find?_eq_some e, by simpa using List.find?_some e⟩

theorem find?_none {h : Store} {l : List ObjId} {n : String} :
    find? h l n = none ↔ n ∉ names h l := by
  simp [find?, names, List.find?_eq_none]

theorem find?_isSome (h : Store) (l : List ObjId) (n : String) :
    (find? h l n).isSome = hasParameter h l n := by
  unfold find? hasParameter
  induction l with
  | nil => rfl
  | cons a t ih => rw [List.find?_cons, List.any_cons]; cases nameOf h a == n <;> simp [ih]

theorem find?_congr {h h' : Store} {l : List ObjId} (e : ∀ i ∈ l, nameOf h' i = nameOf h i) (n : String) :
    find? h' l n = find? h l n := by
  unfold find?
  induction l with
  | nil => rfl
  | cons a t ih =>
    rw [List.find?_cons, List.find?_cons, e a (List.mem_cons_self ..),
      ih (fun i hi => e i (List.mem_cons_of_mem _ hi))]

theorem hasParameter_congr {h h' : Store} {l : List ObjId} (e : ∀ i ∈ l, nameOf h' i = nameOf h i)
    (n : String) : hasParameter h' l n = hasParameter h l n := by
  rw [← find?_isSome, ← find?_isSome, find?_congr e]

theorem find?_valid {h : Store} {l : List ObjId} {n : String} {i : ObjId} (v : Valid h l)
    (e : find? h l n = some i) : i < h.next := v i (find?_some e).1

theorem find?_self {h : Store} {l : List ObjId} (nd : (names h l).Nodup) {i : ObjId} (hi : i ∈ l) :
    find? h l (nameOf h i) = some i := by
  induction l with
  | nil => cases hi
  | cons a t ih =>
    simp only [names, List.map_cons, List.nodup_cons, List.mem_map, not_exists, not_and] at nd
    unfold find?
    rw [List.find?_cons]
    by_cases e : a = i
    · subst e; rw [beq_self_eq_true]
    · have hit : i ∈ t := by cases hi with
        | head => exact absurd rfl e
        | tail _ h => exact h
      have : nameOf h a ≠ nameOf h i := fun c => nd.1 i hit c.symm
      rw [beq_eq_false_iff_ne.2 this]
      exact ih nd.2 hit

/-! ## History invariants of the list functions

`GoodLR h l r`: the result `r` of a function started on heap `h` and list `l` has a later
heap, a valid list, and unique names if `l` had. -/

structure GoodLR (h : Store) (l : List ObjId) (r : LR) : Prop where
  pres : Pres h r.heap
  valid : Valid r.heap r.list
  nodup : (names h l).Nodup → (names r.heap r.list).Nodup

theorem GoodLR.refl {h : Store} {l : List ObjId} (v : Valid h l) (e : Option Err) :
    GoodLR h l { heap := h, list := l, err := e } := ⟨Pres.refl h, v, id⟩

theorem GoodLR.trans {h : Store} {l : List ObjId} {r r' : LR} (a : GoodLR h l r)
    (b : GoodLR r.heap r.list r') : GoodLR h l r' :=
  ⟨a.pres.trans b.pres, b.valid, fun nd => b.nodup (a.nodup nd)⟩

theorem setParameterValue_pres (h : Store) (l : List ObjId) (n : String) (v : Rat) :
    Pres h (setParameterValue h l n v).heap := by
  unfold setParameterValue
  split
  · exact Pres.refl h
  · split
    · next e => exact pres_put_setValue h _ e
    · exact Pres.refl h

theorem names_append (h : Store) (a b : List ObjId) : names h (a ++ b) = names h a ++ names h b := by
  simp [names]

theorem names_snoc_nodup {h : Store} {l : List ObjId} {i : ObjId} (nd : (names h l).Nodup)
    (hn : hasParameter h l (nameOf h i) = false) : (names h (l ++ [i])).Nodup := by
  rw [names_append]
  show (names h l ++ [nameOf h i]).Nodup
  rw [← List.concat_eq_append]
  exact nd.concat ((hasParameter_false_iff h l _).1 hn)

theorem addParameter_good {h : Store} {l : List ObjId} (p : Par) (v : Valid h l)
    (hp : HeapOk h → p.ok = true) : GoodLR h l (addParameter h l p) := by
  unfold addParameter
  split
  · exact GoodLR.refl v _
  · next hn =>
    have pr := pres_alloc h p hp
    refine ⟨pr, fun i hi => ?_, fun nd => ?_⟩
    · rcases List.mem_append.1 hi with hi | hi
      · exact v.mono pr i hi
      · rw [List.mem_singleton.1 hi]; exact Nat.lt_succ_self _
    · refine names_snoc_nodup (by rw [pr.names v]; exact nd) ?_
      rw [hasParameter_congr (fun i hi => pr.name_eq i (v i hi)), nameOf, alloc_snd, get_alloc, if_pos rfl]
      exact Bool.not_eq_true _ ▸ hn

theorem shareParameter_good {h : Store} {l : List ObjId} {i : ObjId} (v : Valid h l) (hi : i < h.next) :
    GoodLR h l (shareParameter h l i) := by
  unfold shareParameter
  split
  · have pr := setParameterValue_pres h l (nameOf h i) (h.get i).value
    exact ⟨pr, v.mono pr, fun nd => by rw [pr.names v]; exact nd⟩
  · next hn =>
    refine ⟨Pres.refl h, fun j hj => ?_, fun nd => names_snoc_nodup nd (Bool.not_eq_true _ ▸ hn)⟩
    rcases List.mem_append.1 hj with hj | hj
    · exact v j hj
    · rw [List.mem_singleton.1 hj]; exact hi

theorem addParameters_good {h : Store} {l : List ObjId} (src : List ObjId) (v : Valid h l)
    (vs : Valid h src) : GoodLR h l (addParameters h l src) := by
  induction src generalizing h l with
  | nil => exact GoodLR.refl v none
  | cons i rest ih =>
    unfold addParameters; dsimp only
    have g := addParameter_good (h := h) (l := l) (h.get i) v (fun hk => hk i (vs i (List.mem_cons_self ..)))
    split
    · exact ⟨g.pres, g.valid, g.nodup⟩
    · exact g.trans (ih g.valid (Valid.mono (fun j hj => vs j (List.mem_cons_of_mem _ hj)) g.pres))

theorem shareParameters_good {h : Store} {l : List ObjId} (src : List ObjId) (v : Valid h l)
    (vs : Valid h src) : GoodLR h l (shareParameters h l src) := by
  induction src generalizing h l with
  | nil => exact GoodLR.refl v none
  | cons i rest ih =>
    unfold shareParameters; dsimp only
    have g := shareParameter_good (h := h) (l := l) v (vs i (List.mem_cons_self ..))
    split
    · exact ⟨g.pres, g.valid, g.nodup⟩
    · exact g.trans (ih g.valid (Valid.mono (fun j hj => vs j (List.mem_cons_of_mem _ hj)) g.pres))

theorem includeParameters_good {h : Store} {l : List ObjId} (src : List ObjId) (v : Valid h l)
    (vs : Valid h src) : GoodLR h l (includeParameters h l src) := by
  induction src generalizing h l with
  | nil => exact GoodLR.refl v none
  | cons i rest ih =>
    unfold includeParameters; dsimp only
    have hi := vs i (List.mem_cons_self ..)
    have vr : Valid h rest := fun j hj => vs j (List.mem_cons_of_mem _ hj)
    split
    · have pr := setParameterValue_pres h l (nameOf h i) (h.get i).value
      have g : GoodLR h l { heap := (setParameterValue h l (nameOf h i) (h.get i).value).heap, list := l } :=
        ⟨pr, v.mono pr, fun nd => by rw [pr.names v]; exact nd⟩
      split
      · exact ⟨g.pres, g.valid, g.nodup⟩
      · exact g.trans (ih g.valid (vr.mono pr))
    · next hn =>
      -- same as addParameter of a clone
      have g := addParameter_good (h := h) (l := l) (h.get i) v (fun hk => hk i hi)
      have e : addParameter h l (h.get i) = { heap := (h.alloc (h.get i)).1, list := l ++ [(h.alloc (h.get i)).2] } := by
        unfold addParameter; rw [if_neg]; exact hn
      rw [e] at g
      exact g.trans (ih g.valid (vr.mono g.pres))

theorem nameElsewhere_false {h : Store} {l : List ObjId} {k : Nat} {n : String}
    (e : nameElsewhere h l k n = false) : n ∉ names h (l.eraseIdx k) := by
  unfold nameElsewhere at e
  exact (hasParameter_false_iff h (l.eraseIdx k) n).1 e

theorem nodup_set_of_not_mem_eraseIdx {α : Type} (l : List α) (k : Nat) (a : α) (hk : k < l.length)
    (nd : l.Nodup) (ha : a ∉ l.eraseIdx k) : (l.set k a).Nodup := by
  rw [List.set_eq_take_append_cons_drop, if_pos hk, List.nodup_middle, List.nodup_cons,
    ← List.eraseIdx_eq_take_drop_succ]
  exact ⟨ha, nd.sublist (List.eraseIdx_sublist ..)⟩

theorem eraseIdx_map {α β : Type} (f : α → β) (l : List α) (k : Nat) :
    (l.map f).eraseIdx k = (l.eraseIdx k).map f := by
  induction l generalizing k with
  | nil => rfl
  | cons a t ih => cases k with
    | zero => rfl
    | succ k => simp [ih]

theorem setParameter_good {h : Store} {l : List ObjId} (k : Nat) (p : Par) (v : Valid h l)
    (hp : HeapOk h → p.ok = true) : GoodLR h l (setParameter h l k p) := by
  unfold setParameter
  split
  · exact GoodLR.refl v _
  · next hk =>
    split
    · exact GoodLR.refl v _
    · next hn =>
      have pr := pres_alloc h p hp
      have hk' : k < l.length := by omega
      refine ⟨pr, ?_, ?_⟩
      · intro i hi
        rcases List.mem_or_eq_of_mem_set hi with hi | hi
        · exact Nat.lt_of_lt_of_le (v i hi) pr.next_le
        · subst hi; simp
      · intro nd
        simp only [alloc_snd, Bool.not_eq_true] at hn ⊢
        have hn' := nameElsewhere_false hn
        have e : names (h.alloc p).1 (l.set k h.next) = (names h l).set k p.name := by
          unfold names
          rw [List.map_set]
          have : nameOf (h.alloc p).1 h.next = p.name := by simp [nameOf]
          rw [this]
          congr 1
          exact List.map_congr_left (fun i hi => pr.name_eq i (v i hi))
        rw [e]
        apply nodup_set_of_not_mem_eraseIdx _ _ _ (by simpa [names] using hk') nd
        rw [show names h l = l.map (nameOf h) from rfl, eraseIdx_map]
        exact hn'

theorem applyAll_pres (src : List ObjId) (l : List ObjId) (h : Store) : Pres h (applyAll h src l).heap := by
  induction l generalizing h with
  | nil => exact Pres.refl h
  | cons i rest ih =>
    unfold applyAll
    split
    · exact Pres.refl h
    · split
      · next e => exact (pres_put_setValue h _ e).trans (ih _)
      · exact Pres.refl h

theorem setAllParametersValues_pres (h : Store) (l src : List ObjId) :
    Pres h (setAllParametersValues h l src).heap := by
  unfold setAllParametersValues
  split
  · exact Pres.refl h
  · exact applyAll_pres src l h

theorem applySome_pres (l : List ObjId) (src : List ObjId) (h : Store) : Pres h (applySome h l src).heap := by
  induction src generalizing h with
  | nil => exact Pres.refl h
  | cons i rest ih =>
    unfold applySome
    split
    · exact ih _
    · split
      · next e => exact (pres_put_setValue h _ e).trans (ih _)
      · exact Pres.refl h

theorem setParametersValues_pres (h : Store) (l src : List ObjId) :
    Pres h (setParametersValues h l src).heap := by
  unfold setParametersValues
  split
  · exact Pres.refl h
  · exact applySome_pres l src h

/-- `matchParametersValues` writes what `setParametersValues` writes: it only skips the writes of an
equal value, which `Parameter::setValue` ignores anyway -/
theorem matchSome_eq_applySome (l : List ObjId) (src : List ObjId) (h : Store) (pos : Nat) :
    (matchSome h l pos src).heap = (applySome h l src).heap ∧
    (matchSome h l pos src).err = (applySome h l src).err := by
  induction src generalizing h pos with
  | nil => exact ⟨rfl, rfl⟩
  | cons s rest ih =>
    cases e : find? h l (nameOf h s) with
    | none => simp only [matchSome, applySome, e]; exact ih _ _
    | some t =>
      simp only [matchSome, applySome, e]
      split
      · cases (h.get t).setValue (h.get s).value with
        | ok p => exact ih _ _
        | error x => exact ⟨rfl, rfl⟩
      · next hs =>
        rw [← Decidable.not_not.1 hs, setValue_self]; dsimp only; rw [put_get_self]
        exact ih _ _

theorem matchParametersValues_pres (h : Store) (l src : List ObjId) :
    Pres h (matchParametersValues h l src).heap := by
  unfold matchParametersValues
  split
  · exact Pres.refl h
  · rw [(matchSome_eq_applySome l src h 0).1]; exact applySome_pres l src h

theorem setAllParameters_pres (src : List ObjId) (l : List ObjId) (h : Store) (vs : Valid h src) :
    Pres h (setAllParameters h src l).heap := by
  induction l generalizing h with
  | nil => exact Pres.refl h
  | cons i rest ih =>
    unfold setAllParameters
    split
    · exact Pres.refl h
    · next j e =>
      have pr := pres_put_assign h (t := i) (find?_valid vs e) (find?_some e).2
      exact pr.trans (ih _ (vs.mono pr))

theorem matchParameters_pres (l : List ObjId) (src : List ObjId) (h : Store) (vs : Valid h src) :
    Pres h (matchParameters h l src).heap := by
  induction src generalizing h with
  | nil => exact Pres.refl h
  | cons s rest ih =>
    unfold matchParameters
    have hs := vs s (List.mem_cons_self ..)
    have vr : Valid h rest := fun j hj => vs j (List.mem_cons_of_mem _ hj)
    split
    · exact ih _ vr
    · next t e =>
      have pr := pres_put_assign h (t := t) hs (find?_some e).2.symm
      exact pr.trans (ih _ (vr.mono pr))

theorem Valid.sublist {h : Store} {l l' : List ObjId} (v : Valid h l) (s : l'.Sublist l) : Valid h l' :=
  fun i hi => v i (s.subset hi)

theorem names_sublist {h : Store} {l l' : List ObjId} (s : l'.Sublist l) :
    (names h l').Sublist (names h l) := s.map _

theorem deleteParameter_sublist {h : Store} {l l' : List ObjId} {n : String}
    (e : deleteParameter h l n = .ok l') : l'.Sublist l := by
  unfold deleteParameter at e
  split at e
  · cases e; exact List.eraseIdx_sublist ..
  · cases e

theorem deleteParameters_sublist (h : Store) (must : Bool) (ns : List String) (l : List ObjId) :
    (deleteParameters h must l ns).1.Sublist l := by
  induction ns generalizing l with
  | nil => exact List.Sublist.refl _
  | cons n rest ih =>
    unfold deleteParameters
    split
    · next l' e => exact (ih l').trans (deleteParameter_sublist e)
    · split
      · exact List.Sublist.refl _
      · exact ih l

theorem deleteParameterIdx_sublist {l l' : List ObjId} {k : Nat}
    (e : deleteParameterIdx l k = .ok l') : l'.Sublist l := by
  unfold deleteParameterIdx at e
  split at e
  · cases e
  · cases e; exact List.eraseIdx_sublist ..

theorem eraseDesc_sublist (idx : List Nat) (l : List ObjId) : (eraseDesc l idx).1.Sublist l := by
  induction idx generalizing l with
  | nil => exact List.Sublist.refl _
  | cons k rest ih =>
    unfold eraseDesc
    split
    · exact List.Sublist.refl _
    · exact (ih _).trans (List.eraseIdx_sublist ..)

theorem deleteParametersIdx_sublist (idx : List Nat) (l : List ObjId) :
    (deleteParametersIdx l idx).1.Sublist l := eraseDesc_sublist _ l

theorem cloneAll_eq {h : Store} {l : List ObjId} (v : Valid h l) :
    cloneAll h l = (allocAll h (l.map h.get), List.range' h.next l.length) := by
  induction l generalizing h with
  | nil => rfl
  | cons a t ih =>
    have pr := pres_clone h (v a (List.mem_cons_self ..))
    have vt : Valid h t := fun j hj => v j (List.mem_cons_of_mem _ hj)
    have e : t.map (h.alloc (h.get a)).1.get = t.map h.get :=
      List.map_congr_left (fun j hj => by rw [get_alloc, if_neg (Nat.ne_of_lt (vt j hj))])
    rw [cloneAll, ih (vt.mono pr), e, next_alloc, alloc_snd]
    rfl

theorem cloneAll_spec (l : List ObjId) (h : Store) (v : Valid h l) :
    Pres h (cloneAll h l).1 ∧ Valid (cloneAll h l).1 (cloneAll h l).2 ∧
    (∀ i ∈ (cloneAll h l).2, h.next ≤ i) ∧ (cloneAll h l).2.Nodup ∧
    (cloneAll h l).2.map (cloneAll h l).1.get = l.map h.get ∧
    (∀ i : Nat, i < h.next → (cloneAll h l).1.get i = h.get i) := by
  have b := block_spec h (l.map h.get) (fun hk p hp => by
    obtain ⟨i, hi, rfl⟩ := List.mem_map.1 hp; exact hk i (v i hi))
  rw [List.length_map] at b
  rw [cloneAll_eq v]; exact b

theorem names_eq_of_map_get {h h' : Store} {l l' : List ObjId} (e : l'.map h'.get = l.map h.get) :
    names h' l' = names h l := by
  have : (l'.map h'.get).map Par.name = (l.map h.get).map Par.name := by rw [e]
  simp only [List.map_map] at this
  exact this

theorem createSubListNames_good (l : List ObjId) (ns : List String) {h : Store} {acc : List ObjId}
    (v : Valid h l) (va : Valid h acc) : GoodLR h acc (createSubListNames h l acc ns) := by
  induction ns generalizing h acc with
  | nil => exact GoodLR.refl va none
  | cons n rest ih =>
    unfold createSubListNames
    split
    · exact GoodLR.refl va _
    · next i e =>
      dsimp only
      have g := addParameter_good (h := h) (l := acc) (h.get i) va (fun hk => hk i (find?_valid v e))
      split
      · exact ⟨g.pres, g.valid, g.nodup⟩
      · exact g.trans (ih (v.mono g.pres) g.valid)

theorem shareSubListNames_good (l : List ObjId) (ns : List String) {h : Store} {acc : List ObjId}
    (v : Valid h l) (va : Valid h acc) : GoodLR h acc (shareSubListNames h l acc ns) := by
  induction ns generalizing h acc with
  | nil => exact GoodLR.refl va none
  | cons n rest ih =>
    unfold shareSubListNames
    split
    · exact GoodLR.refl va _
    · next i e =>
      dsimp only
      have g := shareParameter_good (h := h) (l := acc) va (find?_valid v e)
      split
      · exact ⟨g.pres, g.valid, g.nodup⟩
      · exact g.trans (ih (v.mono g.pres) g.valid)

theorem getElem?_valid {h : Store} {l : List ObjId} {k : Nat} {i : ObjId} (v : Valid h l)
    (e : l[k]? = some i) : i < h.next := v i (List.mem_of_getElem? e)

theorem createSubListIdx_eq (l : List ObjId) (idx : List Nat) (h : Store) (acc : List ObjId) :
    createSubListIdx h l acc idx = addParameters h acc (idx.filterMap (l[·]?)) := by
  induction idx generalizing h acc with
  | nil => rfl
  | cons k rest ih =>
    cases e : l[k]? with
    | none => simp only [createSubListIdx, e, List.filterMap_cons]; exact ih _ _
    | some i =>
      simp only [createSubListIdx, e, List.filterMap_cons, addParameters]
      split
      · rfl
      · exact ih _ _

theorem shareSubListIdx_eq (l : List ObjId) (idx : List Nat) (h : Store) (acc : List ObjId) :
    shareSubListIdx h l acc idx = shareParameters h acc (idx.filterMap (l[·]?)) := by
  induction idx generalizing h acc with
  | nil => rfl
  | cons k rest ih =>
    cases e : l[k]? with
    | none => simp only [shareSubListIdx, e, List.filterMap_cons]; exact ih _ _
    | some i =>
      simp only [shareSubListIdx, e, List.filterMap_cons, shareParameters]
      split
      · rfl
      · exact ih _ _

theorem valid_filterMap_idx {h : Store} {l : List ObjId} (v : Valid h l) (idx : List Nat) :
    Valid h (idx.filterMap (l[·]?)) := by
  intro i hi
  obtain ⟨n, _, hn⟩ := List.mem_filterMap.1 hi
  exact getElem?_valid v hn

theorem createSubListIdx_good (l : List ObjId) (idx : List Nat) {h : Store} {acc : List ObjId}
    (v : Valid h l) (va : Valid h acc) : GoodLR h acc (createSubListIdx h l acc idx) :=
  createSubListIdx_eq l idx h acc ▸ addParameters_good _ va (valid_filterMap_idx v idx)

theorem shareSubListIdx_good (l : List ObjId) (idx : List Nat) {h : Store} {acc : List ObjId}
    (v : Valid h l) (va : Valid h acc) : GoodLR h acc (shareSubListIdx h l acc idx) :=
  shareSubListIdx_eq l idx h acc ▸ shareParameters_good _ va (valid_filterMap_idx v idx)

theorem getCommon_eq (h0 : Store) (l src : List ObjId) (h : Store) :
    getCommonParametersWith h0 l h src =
      (allocAll h ((src.filter (fun s => hasParameter h0 l (nameOf h0 s))).map h0.get),
       List.range' h.next (src.filter (fun s => hasParameter h0 l (nameOf h0 s))).length) := by
  induction src generalizing h with
  | nil => rfl
  | cons s rest ih =>
    rw [getCommonParametersWith, List.filter_cons]
    split
    · dsimp only; rw [ih, next_alloc, alloc_snd]; rfl
    · exact ih h

theorem getCommon_spec (l : List ObjId) (h : Store) (src : List ObjId) (vs : Valid h src) :
    let r := getCommonParametersWith h l h src
    Pres h r.1 ∧ Valid r.1 r.2 ∧ (∀ i ∈ r.2, h.next ≤ i) ∧ r.2.Nodup ∧
    r.2.map r.1.get = (src.filter (fun s => hasParameter h l (nameOf h s))).map h.get ∧
    (∀ i : Nat, i < h.next → r.1.get i = h.get i) := by
  have b := block_spec h ((src.filter (fun s => hasParameter h l (nameOf h s))).map h.get) (fun hk p hp => by
    obtain ⟨i, hi, rfl⟩ := List.mem_map.1 hp; exact hk i (vs i (List.mem_of_mem_filter hi)))
  rw [List.length_map] at b
  rw [getCommon_eq]; exact b

theorem apSetAllParametersValues_pres (h : Store) (l src : List ObjId) :
    Pres h (apSetAllParametersValues h l src).heap := by
  unfold apSetAllParametersValues; dsimp only
  split <;> exact setAllParametersValues_pres h l src

theorem apSetParametersValues_pres (h : Store) (l src : List ObjId) :
    Pres h (apSetParametersValues h l src).heap := by
  unfold apSetParametersValues; dsimp only
  split <;> exact setParametersValues_pres h l src

theorem apSetParameterValue_pres (h : Store) (l : List ObjId) (pre n : String) (v : Rat)
    (vl : Valid h l) : Pres h (apSetParameterValue h l pre n v).heap := by
  unfold apSetParameterValue; dsimp only
  have p1 := setParameterValue_pres h l (pre ++ n) v
  split
  · exact p1
  · have g := createSubListNames_good l [pre ++ n] (vl.mono p1) (Valid.nil _)
    split <;> exact p1.trans g.pres

theorem apMatchParametersValues_pres (h : Store) (l src : List ObjId) (vs : Valid h src) :
    Pres h (apMatchParametersValues h l src).heap := by
  unfold apMatchParametersValues; dsimp only
  have p1 := matchParametersValues_pres h l src
  split
  · exact p1
  · split
    · exact p1.trans (shareSubListIdx_good src _ (vs.mono p1) (Valid.nil _)).pres
    · exact p1

theorem setList_self (s : State) (j : Nat) (l : List ObjId) : (s.setList j l).lists j = l := if_pos rfl

theorem setList_other (s : State) (k r : Nat) (l : List ObjId) (h : some k ≠ some r) :
    (s.setList k l).lists r = s.lists r :=
  if_neg (fun c : r = k => h (c ▸ rfl))

theorem setList_same (s : State) (k : Nat) : ∀ r, (s.setList k (s.lists k)).lists r = s.lists r := by
  intro r; rw [State.setList]; dsimp only; split
  · next e => rw [e]
  · rfl

/-- the invariant of every reachable machine state -/
structure Inv (s : State) : Prop where
  wf : ∀ k, Valid s.heap (s.lists k)
  ok : HeapOk s.heap
  names : ∀ k, (names s.heap (s.lists k)).Nodup

theorem inv_init : Inv State.init :=
  ⟨fun _ => Valid.nil _, fun i hi => by simp [State.init, Store.empty] at hi, fun _ => List.nodup_nil⟩

theorem inv_update {s : State} (inv : Inv s) {h' : Store} (pr : Pres s.heap h') (k : Nat) {l' : List ObjId}
    (v : Valid h' l') (nd : (names h' l').Nodup) : Inv ((s.withHeap h').setList k l') := by
  refine ⟨fun j => ?_, pr.ok inv.ok, fun j => ?_⟩
  · simp only [State.setList, State.withHeap]
    split
    · exact v
    · exact (inv.wf j).mono pr
  · simp only [State.setList, State.withHeap]
    split
    · exact nd
    · rw [pr.names (inv.wf j)]; exact inv.names j

theorem inv_heap {s : State} (inv : Inv s) {h' : Store} (pr : Pres s.heap h') : Inv (s.withHeap h') :=
  ⟨fun j => (inv.wf j).mono pr, pr.ok inv.ok, fun j => by
    simp only [State.withHeap]; rw [pr.names (inv.wf j)]; exact inv.names j⟩

theorem inv_stepSub {s : State} (inv : Inv s) (j : Nat) {r : LR} (g : GoodLR s.heap [] r) :
    Inv (stepSub s j r).1 := by
  unfold stepSub
  split
  · exact inv_heap inv g.pres
  · exact inv_update inv g.pres j g.valid (g.nodup List.nodup_nil)

end Bpp.ParamList
