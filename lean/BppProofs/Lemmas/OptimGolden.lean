import BppProofs.Lemmas.OptimBracket
import BppModel.OptimOneDim
/-!
Helper lemmas for C10: `GoldenSectionSearch`.  What a probe and a step do (for every scalar type and every
function object), then, over `ℝ`, for a function object whose evaluation step is deterministic
(`Det I g J`): the invariant of the search, and the interval it works on.
-/
set_option linter.unusedSectionVars false
namespace Bpp.Optim
open Bpp

variable {F : Type} {J : F → PList ℝ → Prop}

theorem ntAbs_real (x : ℝ) : ntAbs x = |x| := by
  unfold ntAbs
  by_cases h : x < 0
  · rw [if_pos ((ScalarReal.ltb_iff _ _).2 (ScalarReal.zero_eq ▸ h)), abs_of_neg h]
  · rw [if_neg (fun c => h (ScalarReal.zero_eq ▸ (ScalarReal.ltb_iff _ _).1 c)), abs_of_nonneg (not_lt.1 h)]

theorem evalOwn_spec {τ : Type} (I : FunI F ℝ) (g : ℝ → ℝ) (hd : Det I g J) (s s' : St F τ ℝ) (x v : ℝ)
    (h : evalOwn I s x = .ok (s', v)) (hJ : J s.fn s.core.params) :
    v = g x ∧ J s'.fn s'.core.params ∧ s'.ext = s.ext ∧ (∃ y, value0 s'.core.params = some y ∧ g y = g x) ∧
    s'.core = { s.core with params := s'.core.params } := by
  obtain ⟨fn, pl, he, rfl⟩ := evalOwn_ok h
  obtain ⟨hv, hJ1⟩ := hd.eval _ _ _ _ _ _ hJ he
  exact ⟨hv, hJ1, rfl, hd.stored _ _ _ _ _ _ hJ he, rfl⟩

/-- the invariant of the golden section search: the two inner values are evaluations, and the lower
of them is below `m` -/
structure Gss.Inv (g : ℝ → ℝ) (J : F → PList ℝ → Prop) (m : ℝ) (s : St F (Gss ℝ) ℝ) : Prop where
  f1 : s.ext.f1 = g s.ext.x1
  f2 : s.ext.f2 = g s.ext.x2
  j : J s.fn s.core.params
  m : min s.ext.f1 s.ext.f2 ≤ m

theorem Gss.Inv.congr {g : ℝ → ℝ} {m : ℝ} {s t : St F (Gss ℝ) ℝ} (h : Gss.Inv g J m s)
    (he : t.ext = s.ext) (hf : t.fn = s.fn) (hp : t.core.params = s.core.params) : Gss.Inv g J m t :=
  ⟨by rw [he]; exact h.f1, by rw [he]; exact h.f2, by rw [hf, hp]; exact h.j, by rw [he]; exact h.m⟩

theorem gssDoStep_spec (I : FunI F ℝ) (g : ℝ → ℝ) (hd : Det I g J) (m : ℝ) (s s' : St F (Gss ℝ) ℝ) (v : ℝ)
    (hi : Gss.Inv g J m s) (h : gssDoStep I s = .ok (s', v)) :
    Gss.Inv g J m s' ∧ s'.ext.xinf = s.ext.xinf ∧ s'.ext.xsup = s.ext.xsup := by
  obtain ⟨e, x, pl, fn, c, t, hs, hf, hg, rfl⟩ := gssDoStep_ok h
  obtain ⟨hv, hJ⟩ := hd.eval _ _ _ _ _ _ hi.j (eval0_ok.2 ⟨hs, hf⟩)
  rcases hg with ⟨hlt, rfl, rfl⟩ | ⟨hlt, rfl, rfl⟩
  · have hlt := (ScalarReal.ltb_iff _ _).1 hlt
    exact ⟨⟨hi.f2, hv, hJ, (min_le_left _ _).trans (min_eq_right hlt.le ▸ hi.m)⟩, rfl, rfl⟩
  · have hge : s.ext.f1 ≤ s.ext.f2 := not_lt.1 (fun c => Bool.false_ne_true (hlt ▸ (ScalarReal.ltb_iff _ _).2 c))
    exact ⟨⟨hv, hi.f1, hJ, (min_le_right _ _).trans (min_eq_left hge ▸ hi.m)⟩, rfl, rfl⟩

theorem gssDoInit_spec (I : FunI F ℝ) (g : ℝ → ℝ) (hd : Det I g J) (fuel : Nat) (s s1 : St F (Gss ℝ) ℝ)
    (params : PList ℝ) (h : gssDoInit I fuel s params = .ok s1) (hJ : J s.fn s.core.params) :
    Gss.Inv g J (min (g s.ext.xinf) (g s.ext.xsup)) s1 ∧ s1.ext.xinf = s.ext.xinf ∧ s1.ext.xsup = s.ext.xsup ∧
    s1.core.nbEvalMax = s.core.nbEvalMax := by
  unfold gssDoInit at h
  split at h
  · cases h
  · cases hb : bracketMinimum I fuel s.ext.xinf s.ext.xsup s.fn s.core.params with
    | error e => rw [hb] at h; cases h
    | ok r =>
      obtain ⟨fnb, k⟩ := r
      rw [hb] at h
      simp only [] at h
      have ho := outward_spec I g hd fuel s.ext.xinf s.ext.xsup s.fn s.core.params hJ
      rw [hb] at ho
      obtain ⟨hk, -, pl', hJb⟩ := ho
      -- the inner point that is not new is the middle point of the bracket
      generalize hxx : (if Scalar.gtb (ntAbs (k.c.x - k.b.x)) (ntAbs (k.b.x - k.a.x)) = true
        then (k.b.x, k.b.x + goldC * (k.c.x - k.b.x)) else (k.b.x - goldC * (k.b.x - k.a.x), k.b.x)) = xx at h
      have hb12 : xx.1 = k.b.x ∨ xx.2 = k.b.x := by rw [← hxx]; split; exact Or.inl rfl; exact Or.inr rfl
      split at h
      · cases h
      · rename_i sa f1 he1
        split at h
        · cases h
        · rename_i sb f2 he2
          cases h
          obtain ⟨fn1, pl1, hq1, rfl⟩ := evalOwn_ok he1
          obtain ⟨fn2, pl2, hq2, rfl⟩ := evalOwn_ok he2
          obtain ⟨hv1, hJ1⟩ := hd.eval _ _ _ _ _ _ (hd.mix _ _ _ _ hJ hJb) hq1
          obtain ⟨hv2, hJ2⟩ := hd.eval _ _ _ _ _ _ hJ1 hq2
          refine ⟨⟨hv1, hv2, hJ2, ?_⟩, rfl, rfl, rfl⟩
          show min f1 f2 ≤ _
          rcases hb12 with e | e
          · exact (min_le_left _ _).trans (by rw [hv1, e, ← hk.b]; exact hk.bm)
          · exact (min_le_right _ _).trans (by rw [hv2, e, ← hk.b]; exact hk.bm)

/-- `GoldenSectionSearch::optimize` from a state that satisfies the invariant: the value returned
is the lower of the two inner values, an evaluation at the parameter the optimiser reports -/
theorem gssOptimize_spec (I : FunI F ℝ) (g : ℝ → ℝ) (hd : Det I g J) (fuel : Nat) (m : ℝ) (s s2 : St F (Gss ℝ) ℝ) (v : ℝ)
    (hi : Gss.Inv g J m s) (h : gssOptimize I fuel s = .ok (s2, v)) :
    v ≤ m ∧ s2.core.cur = v ∧ ∃ x, v = g x ∧ value0 s2.core.params = some x ∧ J s2.fn s2.core.params := by
  obtain ⟨sL, w, sE, ho, he, rfl⟩ := gssOptimize_ok h
  obtain ⟨hL, -⟩ := optimize_invariant (gssAlgo I fuel) (Gss.Inv g J m)
    (fun u u' w hu hdo => (gssDoStep_spec I g hd m u u' w hu hdo).1.congr rfl rfl rfl)
    (fun u hu => by show Gss.Inv g J m (gssStop u).1; rw [gssStop_fst]; exact hu.congr rfl rfl rfl)
    (fun u n t hu => hu.congr rfl rfl rfl) hi ho
  obtain ⟨hv, hJ2, -, ⟨y, hst, hgy⟩, -⟩ := evalOwn_spec I g hd _ _ _ _ he hL.j
  refine ⟨?_, rfl, y, hv.trans hgy.symm, hst, hJ2⟩
  rw [hv]
  by_cases hlt : sL.ext.f1 < sL.ext.f2
  · rw [if_pos ((ScalarReal.ltb_iff _ _).2 hlt), ← hL.f1]
    exact (min_eq_left hlt.le ▸ hL.m)
  · rw [if_neg (fun c => hlt ((ScalarReal.ltb_iff _ _).1 c)), ← hL.f2]
    exact (min_eq_right (not_lt.1 hlt) ▸ hL.m)

/-- `AbstractOptimizer::init` for the golden section search -/
theorem gssInit_spec (I : FunI F ℝ) (g : ℝ → ℝ) (hd : Det I g J) (fuel : Nat) (s s1 : St F (Gss ℝ) ℝ)
    (params : PList ℝ) (h : (gssAlgo I fuel).init s params = .ok s1)
    (hJ : J s.fn (applyPolicy s.core.policy params)) :
    Gss.Inv g J (min (g s.ext.xinf) (g s.ext.xsup)) s1 ∧ s1.core.initialized = true := by
  obtain ⟨sa, hdi, rfl⟩ := init_ok h
  exact ⟨(gssDoInit_spec I g hd fuel _ _ _ hdi hJ).1.congr rfl rfl rfl, rfl⟩

/-! ### the interval -/

/-- a combination of two distinct reals with positive weights adding up to 1 lies strictly between them -/
theorem combo_between {R C a b : ℝ} (hR : 0 < R) (hC : 0 < C) (h1 : R + C = 1) :
    (a < b → a < R * a + C * b ∧ R * a + C * b < b) ∧ (b < a → b < R * a + C * b ∧ R * a + C * b < a) := by
  obtain rfl : R = 1 - C := eq_sub_of_add_eq h1
  have e1 : (1 - C) * a + C * b = a + C * (b - a) := by ring
  have e2 : (1 - C) * a + C * b = b - (1 - C) * (b - a) := by ring
  constructor
  · intro h
    exact ⟨e1 ▸ lt_add_of_pos_right a (mul_pos hC (sub_pos.2 h)), e2 ▸ sub_lt_self b (mul_pos hR (sub_pos.2 h))⟩
  · intro h
    exact ⟨e2 ▸ lt_sub_iff_add_lt.2 (add_lt_of_neg_right b (mul_neg_of_pos_of_neg hR (sub_neg.2 h))),
      e1 ▸ add_lt_of_neg_right a (mul_neg_of_pos_of_neg hC (sub_neg.2 h))⟩

/-- a strictly monotone quadruple with its first point dropped: the span shrinks and stays within the old one -/
theorem quadruple_shrink {a b c d : ℝ} (h : (a < b ∧ b < c ∧ c < d) ∨ (d < c ∧ c < b ∧ b < a)) :
    |d - b| < |d - a| ∧ min a d ≤ min b d ∧ max b d ≤ max a d := by
  rcases h with ⟨h1, h2, h3⟩ | ⟨h1, h2, h3⟩
  · have hbd := h2.trans h3
    have had := h1.trans hbd
    rw [abs_of_pos (sub_pos.2 hbd), abs_of_pos (sub_pos.2 had), min_eq_left had.le, min_eq_left hbd.le,
      max_eq_right hbd.le, max_eq_right had.le]
    exact ⟨sub_lt_sub_left h1 d, h1.le, le_refl _⟩
  · have hdb := h1.trans h2
    have hda := hdb.trans h3
    rw [abs_of_neg (sub_neg.2 hdb), abs_of_neg (sub_neg.2 hda), min_eq_right hda.le, min_eq_right hdb.le,
      max_eq_left hdb.le, max_eq_left hda.le]
    exact ⟨neg_lt_neg (sub_lt_sub_left h3 d), le_refl _, h3.le⟩

theorem sqrt5_bounds : (2 : ℝ) < Real.sqrt 5 ∧ Real.sqrt 5 < 3 := by
  constructor
  · rw [Real.lt_sqrt (by norm_num)]; norm_num
  · rw [Real.sqrt_lt' (by norm_num)]; norm_num

theorem gold_facts : (0 : ℝ) < goldC ∧ (0 : ℝ) < goldR ∧ (goldR : ℝ) + goldC = 1 := by
  obtain ⟨h2, h3⟩ := sqrt5_bounds
  have hR : (goldR : ℝ) = (Real.sqrt 5 - 1) / 2 := by
    unfold goldR phi
    rw [ScalarReal.one_eq, ScalarReal.ofInt_eq, ScalarReal.ofInt_eq]
    norm_num
    ring
  have hC : (goldC : ℝ) = 1 - goldR := by unfold goldC; rw [ScalarReal.one_eq]
  refine ⟨?_, hR ▸ half_pos (sub_pos.2 (one_lt_two.trans h2)), by rw [hC]; exact add_sub_cancel _ _⟩
  rw [hC, hR]
  linarith

/-- the four abscissae are strictly ordered (in either direction) -/
def Gss.Ordered (g : Gss ℝ) : Prop :=
  (g.x0 < g.x1 ∧ g.x1 < g.x2 ∧ g.x2 < g.x3) ∨ (g.x3 < g.x2 ∧ g.x2 < g.x1 ∧ g.x1 < g.x0)

/-- a step drops an end point of the ordered quadruple and puts a golden section point strictly between
the inner point and the end point that are kept -/
theorem gssDoStep_interval (I : FunI F ℝ) (s s' : St F (Gss ℝ) ℝ) (v : ℝ) (ho : s.ext.Ordered)
    (h : gssDoStep I s = .ok (s', v)) :
    s'.ext.Ordered ∧ |s'.ext.x3 - s'.ext.x0| < |s.ext.x3 - s.ext.x0| ∧
    min s.ext.x0 s.ext.x3 ≤ min s'.ext.x0 s'.ext.x3 ∧ max s'.ext.x0 s'.ext.x3 ≤ max s.ext.x0 s.ext.x3 := by
  obtain ⟨hC0, hR0, hRC⟩ := gold_facts
  have hcb := fun a b : ℝ => combo_between (a := a) (b := b) hR0 hC0 hRC
  obtain ⟨e, x, pl, fn, c, t, -, -, hg, rfl⟩ := gssDoStep_ok h
  rcases hg with ⟨-, rfl, rfl⟩ | ⟨-, rfl, rfl⟩
  · refine ⟨?_, quadruple_shrink ho⟩
    rcases ho with ⟨-, h12, h23⟩ | ⟨h32, h21, -⟩
    · exact Or.inl ⟨h12, (hcb _ _).1 h23⟩
    · obtain ⟨p, q⟩ := (hcb _ _).2 h32
      exact Or.inr ⟨p, q, h21⟩
  · obtain ⟨q1, q2, q3⟩ := quadruple_shrink (a := s.ext.x3) (b := s.ext.x2) (c := s.ext.x1) (d := s.ext.x0) (Or.symm ho)
    refine ⟨?_, by rw [abs_sub_comm, abs_sub_comm s.ext.x3]; exact q1, by rw [min_comm, min_comm s.ext.x0]; exact q2,
      by rw [max_comm, max_comm s.ext.x0]; exact q3⟩
    rcases ho with ⟨h01, h12, -⟩ | ⟨-, h21, h10⟩
    · obtain ⟨p, q⟩ := (hcb _ _).2 h01
      exact Or.inl ⟨p, q, h12⟩
    · exact Or.inr ⟨h21, (hcb _ _).1 h10⟩

end Bpp.Optim
