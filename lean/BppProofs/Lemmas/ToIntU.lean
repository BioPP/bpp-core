import BppModel.Text.ToIntU
import BppProofs.Lemmas.NumberToInt
import BppProofs.Lemmas.TextU
/-!
Helper lemmas for `Props/C16ToInt.lean`: the UB-aware `TextTools::toInt` (`BppModel/Text/ToIntU.lean`,
every `long long` operation checked, the scaling loop on fuel) against C17's transcription on
naturals (`Number.toInt`).  On a text `isDecimalInteger` accepts, every character the mantissa loop
reads is a digit and the mantissa stays in `[0, 2^31 + 1]`; what follows the mark (after an optional
`+`) is made of digits and the exponent stays in `[0, 11]`; the scaling loop needs at most 11 rounds.
No hypothesis on the exponent mark is needed: `intLoop` tests `c == sci` before `isDigit c`, exactly
as the mantissa loop does, and rejects a second mark.
-/
namespace Bpp.Text.U
open Bpp.Text Bpp.Text.Number

theorem charMinus0_digit {c : Char} (h : isDigit c = true) :
    charMinus0 c = (digitVal c : Int) ∧ digitVal c ≤ 9 := by
  have := (isDigit_iff c).mp h
  unfold charMinus0 digitVal
  constructor
  · split <;> omega
  · omega

theorem llRes_ok {v : Int} (h1 : llMin ≤ v) (h2 : v ≤ llMax) : llRes v = .ok v := by
  unfold llRes; rw [if_pos ⟨h1, h2⟩]

theorem llRes_mul10 {n : Nat} (hn : n ≤ toIntLim + 1) :
    llRes ((n : Int) * 10) = .ok ((n * 10 : Nat) : Int) := by
  unfold toIntLim at hn
  exact llRes_ok (by unfold llMin; omega) (by unfold llMax; omega)

theorem llRes_addDigit {n : Nat} (hn : n ≤ toIntLim + 1) {c : Char} (hc : isDigit c = true) :
    llRes (((n * 10 : Nat) : Int) + charMinus0 c) = .ok ((n * 10 + digitVal c : Nat) : Int) := by
  obtain ⟨h1, h2⟩ := charMinus0_digit hc
  unfold toIntLim at hn
  rw [h1, ← Int.natCast_add]
  exact llRes_ok (by unfold llMin; omega) (by unfold llMax; omega)

theorem sat_natCast (K k : Nat) :
    (if (k : Int) > (K : Int) then ((K + 1 : Nat) : Int) else (k : Int))
      = ((if k > K then K + 1 else k : Nat) : Int) := by
  have h : (k : Int) > (K : Int) ↔ k > K := Int.ofNat_lt
  by_cases hk : k > K
  · rw [if_pos (h.mpr hk), if_pos hk]
  · rw [if_neg (mt h.mp hk), if_neg hk]

theorem satLim_natCast (k : Nat) :
    satLim (k : Int) = ((if k > toIntLim then toIntLim + 1 else k : Nat) : Int) :=
  sat_natCast toIntLim k

/-- the exponent loop on digits: no overflow, the natural-number loop's value, at most 11 -/
theorem expU_digits (ds : Str) (hds : AllDigits ds) (e : Nat) (he : e ≤ 11) :
    expU true (e : Int) ds = .ok ((satExp e ds : Nat) : Int) ∧ satExp e ds ≤ 11 := by
  induction ds generalizing e with
  | nil => exact ⟨rfl, he⟩
  | cons c r ih =>
    have hn : e ≤ toIntLim + 1 := Nat.le_trans he (by decide)
    have a3 : (if true && decide (((e * 10 + digitVal c : Nat) : Int) > 10) then (11 : Int)
        else ((e * 10 + digitVal c : Nat) : Int))
        = (((if e * 10 + digitVal c > 10 then 11 else e * 10 + digitVal c) : Nat) : Int) := by
      simp only [Bool.true_and, decide_eq_true_eq]
      exact sat_natCast 10 _
    unfold expU satExp
    rw [llRes_mul10 hn, bind_ok, llRes_addDigit hn (hds c (by simp)), bind_ok, a3]
    exact ih (fun x hx => hds x (by simp [hx])) _ (by split <;> omega)

/-- the scaling loop: `e ≤ fuel` rounds suffice, no overflow, the natural-number loop's value -/
theorem scaleU_ok (fuel e n : Nat) (he : e ≤ fuel) (hb : e ≤ toIntLim + 1) (hn : n ≤ toIntLim + 1) :
    scaleU fuel (e : Int) (n : Int) = .ok ((satMul e n : Nat) : Int) := by
  induction fuel generalizing e n with
  | zero =>
    obtain rfl : e = 0 := by omega
    rfl
  | succ f ih =>
    unfold scaleU
    cases e with
    | zero => rfl
    | succ e =>
      unfold satMul
      by_cases hm : n = 0
      · subst hm; simp
      · have c1 : (decide (((e + 1 : Nat) : Int) > 0) && ((n : Int) != 0)) = true := by
          simp; omega
        have a2 : llRes (((e + 1 : Nat) : Int) - 1) = .ok ((e : Nat) : Int) := by
          rw [Int.natCast_add, Int.natCast_one, Int.add_sub_cancel]
          unfold toIntLim at hb
          exact llRes_ok (by unfold llMin; omega) (by unfold llMax; omega)
        rw [c1, if_pos rfl, llRes_mul10 hn, bind_ok, a2, bind_ok, satLim_natCast,
          if_neg (show ¬ (n == 0) = true by simpa using hm)]
        exact ih e _ (by omega) (by omega) (by split <;> omega)

/-- what is left after the mantissa loop of an accepted text: nothing, or the mark, an optional
`+` and digits -/
def RestOk (rest : Str) : Prop := rest = [] ∨ ∃ c r, rest = c :: r ∧ AllDigits (skipPlus r)

/-- the mantissa loop on an accepted text: no overflow, the natural-number loop's value, and what is
left is nothing or the mark, an optional `+` and digits -/
theorem mantU_ok (sci : Char) (l : Str) (dig n : Nat) (h : intLoop sci 0 dig l = true)
    (hn : n ≤ toIntLim + 1) :
    mantU sci (n : Int) l = .ok (((satMant sci n l).1 : Int), (satMant sci n l).2) ∧
    (satMant sci n l).1 ≤ toIntLim + 1 ∧ RestOk (satMant sci n l).2 := by
  induction l generalizing dig n with
  | nil => exact ⟨rfl, hn, Or.inl rfl⟩
  | cons c rest ih =>
    cases hcs : c == sci
    · rw [intLoop_cons_ne hcs (Nat.zero_le 1), Bool.and_eq_true] at h
      unfold mantU satMant
      rw [hcs, if_neg Bool.false_ne_true, if_neg Bool.false_ne_true, llRes_mul10 hn, bind_ok,
        llRes_addDigit hn h.1, bind_ok, satLim_natCast]
      exact ih _ _ h.2 (by split <;> omega)
    · unfold mantU satMant
      rw [if_pos hcs, if_pos hcs]
      rw [eq_of_beq hcs, intLoop_sci, Bool.and_eq_true] at h
      have hd := intExpOk_skipPlus h.2
      exact ⟨rfl, hn, Or.inr ⟨c, rest, rfl, fun x hx => ((Bool.and_eq_true _ _).mp (hd x hx)).2⟩⟩

/-- `toInt` after the mantissa loop (:235-252): the exponent and the scaling -/
def tailU (sat : Bool) (m : Int) : Str → R Int
  | [] => pure m
  | _ :: r => do
    let e ← expU sat 0 (skipPlus r)
    scaleU scaleFuel e m

/-- `toInt` after the scaling: the range test and the conversion (:253-255) -/
def finalU (neg : Bool) (m : Int) : R Int :=
  if (if neg then decide (m > toIntLimI) else decide (m ≥ toIntLimI)) then .error .bpp
  else .ok (if neg then -m else m)

theorem toIntUG_eq (sat : Bool) (sci : Char) (s : Str) :
    toIntUG sat sci s =
      if !isDecimalInteger sci s then .error .bpp
      else (mantU sci 0 (if (s.head? == some '-') then s.drop 1 else s)) >>= fun mr =>
        tailU sat mr.1 mr.2 >>= fun m => finalU (s.head? == some '-') m := by
  unfold toIntUG
  split
  · rfl
  · dsimp only
    generalize mantU sci 0 (if (s.head? == some '-') = true then s.drop 1 else s) = x
    cases x with
    | error e => rfl
    | ok mr =>
      obtain ⟨m, rest⟩ := mr
      cases rest with
      | nil => rfl
      | cons c r =>
        simp only [bind_ok, tailU]
        cases expU sat 0 (skipPlus r) <;> rfl

/-- exponent and scaling of an accepted text -/
theorem tailU_ok (n : Nat) (hn : n ≤ toIntLim + 1) (rest : Str) (hr : RestOk rest) :
    tailU true (n : Int) rest = .ok ((scaleByExp n rest : Nat) : Int) := by
  rcases hr with rfl | ⟨c, r, rfl, hd⟩
  · rfl
  · obtain ⟨h1, h2⟩ := expU_digits _ hd 0 (by omega)
    simp only [tailU, scaleByExp]
    rw [Int.natCast_zero] at h1
    rw [h1, bind_ok]
    exact scaleU_ok scaleFuel _ n (by unfold scaleFuel; omega) (by unfold toIntLim; omega) hn

/-- the body of an accepted text (after the sign) is accepted by the loop -/
theorem body_accepted (sci : Char) (s : Str) (h : isDecimalInteger sci s = true) :
    intLoop sci 0 0 (if (s.head? == some '-') then s.drop 1 else s) = true := by
  unfold isDecimalInteger at h
  split at h
  · cases h
  · split at h
    · simpa using h
    · rename_i hne
      have : (s.head? == some '-') = false := by
        cases s with
        | nil => rfl
        | cons c r => exact beq_false_of_ne fun e => hne r (by rw [Option.some.inj e])
      simpa [this] using h

theorem finalU_nat (neg : Bool) (n : Nat) : finalU neg (n : Int) = lift (finalN neg n) := by
  have h1 : decide ((n : Int) > toIntLimI) = decide (n > toIntLim) :=
    decide_eq_decide.mpr (Int.ofNat_lt (n := toIntLim) (m := n))
  have h2 : decide ((n : Int) ≥ toIntLimI) = decide (n ≥ toIntLim) :=
    decide_eq_decide.mpr (Int.ofNat_le (m := toIntLim) (n := n))
  unfold finalU finalN
  rw [h1, h2]
  cases neg
  · cases decide (n ≥ toIntLim) <;> rfl
  · cases decide (n > toIntLim) <;> rfl

theorem safe_lift {α : Type} (o : Option α) : safe (lift o) = true := by
  cases o <;> rfl

end Bpp.Text.U
