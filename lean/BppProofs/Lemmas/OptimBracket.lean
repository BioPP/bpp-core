import BppProofs.Lemmas.OptimSteps
/-!
Helper lemmas for C10: the two bracketing routines, over `ℝ`.  Each is walked once, for whatever the
evaluation step `parameters[0].setValue(x); function.f(parameters)` guarantees (`EvalStep I Q J V`): for a
function object whose step returns a value that depends on `x` only (`Det I g J`) this gives what the
routines compute, for a `Safe` one (OptimPolicy) that the function stays fine however they end.
-/
set_option linter.unusedSectionVars false
namespace Bpp.Optim
open Bpp

variable {F : Type} {J : F → PList ℝ → Prop}

/-- the evaluation step of the one-dimensional routines, `parameters[0].setValue(x);
function.f(parameters)`, computes `g x`, as long as function and list satisfy `J` (which it keeps):
for the objective of the harness and a one-element list `J` says which coordinate is being moved and
that the other coordinates are what they were (`objective_det`) -/
structure Det (I : FunI F ℝ) (g : ℝ → ℝ) (J : F → PList ℝ → Prop) : Prop where
  eval : ∀ fn pl x fn' pl' v, J fn pl → eval0 I fn pl x = .ok (fn', pl', v) → v = g x ∧ J fn' pl'
  /-- `J` is a condition on the function and a condition on the list -/
  mix : ∀ fn pl fn' pl', J fn pl → J fn' pl' → J fn' pl
  /-- the list after the step holds `x` — or, when the parameter is an auto-correcting one with a
  constraint that refuses `x`, the corrected abscissa `y`, at which `g` has the same value —, and
  evaluating the function at a list that holds `y` (`function.f(parameters)` without a `setValue`)
  gives `g y` -/
  stored : ∀ fn pl x fn' pl' v, J fn pl → eval0 I fn pl x = .ok (fn', pl', v) → ∃ y, value0 pl' = some y ∧ g y = g x
  direct : ∀ fn pl x fn' v, J fn pl → value0 pl = some x → I.f fn pl = .ok (fn', v) → v = g x ∧ J fn' pl
  /-- a `setValue` without evaluation keeps `J`, and the list then holds the (corrected) value -/
  setJ : ∀ fn pl x pl', J fn pl → setValueAt pl 0 x = .ok pl' → J fn pl' ∧ ∃ y, value0 pl' = some y ∧ g y = g x

/-- the evaluation step is a `setValue` followed by `f`: what it computes (`eval`, `stored`) follows from what
the two do (`setJ`, `direct`) -/
theorem Det.of_set_direct {I : FunI F ℝ} {g : ℝ → ℝ}
    (mix : ∀ fn pl fn' pl', J fn pl → J fn' pl' → J fn' pl)
    (direct : ∀ fn pl x fn' v, J fn pl → value0 pl = some x → I.f fn pl = .ok (fn', v) → v = g x ∧ J fn' pl)
    (setJ : ∀ fn pl x pl', J fn pl → setValueAt pl 0 x = .ok pl' → J fn pl' ∧ ∃ y, value0 pl' = some y ∧ g y = g x) :
    Det I g J := by
  refine ⟨fun fn pl x fn' pl' v hJ h => ?_, mix, fun fn pl x fn' pl' v hJ h => ?_, direct, setJ⟩
  · obtain ⟨hs, hf⟩ := eval0_ok.1 h
    obtain ⟨hJ', y, hy, hg⟩ := setJ fn pl x pl' hJ hs
    obtain ⟨hv, hJ''⟩ := direct fn pl' y fn' v hJ' hy hf
    exact ⟨hv.trans hg, hJ''⟩
  · exact (setJ fn pl x pl' hJ (eval0_ok.1 h).1).2

/-- what the bracketing routines ask of the evaluation step: under the condition `J` on function and list,
which it keeps, the value it returns is related to the abscissa by `V`; when it raises, the function the
exception carries satisfies `Q`.  A `Det` function gives `V x v := v = g x` and says nothing of exceptions
(`Det.evalStep`); a `Safe` one gives `Q` and says nothing of values (`Safe.evalStep`). -/
def EvalStep (I : FunI F ℝ) (Q : F → Prop) (J : F → PList ℝ → Prop) (V : ℝ → ℝ → Prop) : Prop :=
  ∀ fn pl x, J fn pl → ROk Q (fun r => V x r.2.2 ∧ J r.1 r.2.1) (eval0 I fn pl x)

theorem Det.evalStep {I : FunI F ℝ} {g : ℝ → ℝ} (hd : Det I g J) : EvalStep I (fun _ => True) J (fun x v => v = g x) := by
  intro fn pl x hJ
  cases h : eval0 I fn pl x with
  | error e => trivial
  | ok r => exact hd.eval _ _ _ _ _ _ hJ h

/-- a recorded point: the value is one the evaluation step may return at the abscissa -/
def BPt.Ok (V : ℝ → ℝ → Prop) (p : BPt ℝ) : Prop := V p.x p.f

theorem nonFinite_real (x : ℝ) : nonFinite x = false := by
  unfold nonFinite
  have e1 : Scalar.eqb x x = true := (ScalarReal.eqb_iff _ _).2 rfl
  by_cases h : x = 0
  · have e2 : Scalar.eqb x Scalar.zero = true := (ScalarReal.eqb_iff _ _).2 (by rw [ScalarReal.zero_eq]; exact h)
    rw [e1, e2]; rfl
  · have e3 : Scalar.eqb (x + x) x = false := by
      rw [Bool.eq_false_iff]; intro c
      exact h (by have := (ScalarReal.eqb_iff _ _).1 c; linarith)
    rw [e1, e3]; simp

theorem shrinkB_real (I : FunI F ℝ) (fuel : Nat) (fn : F) (pl : PList ℝ) (b : BPt ℝ) :
    shrinkB I (fuel + 1) fn pl b = .ok (fn, pl, b) := by
  rw [shrinkB]; simp [nonFinite_real]

variable {I : FunI F ℝ} {Q : F → Prop} {V : ℝ → ℝ → Prop}

/-! ### inward -/

theorem inwardScan_run (he : EvalStep I Q J V) (jump : ℝ) :
    ∀ (n : Nat) (fn : F) (pl : PList ℝ) (curr : ℝ) (best : BPt ℝ), J fn pl → best.Ok V →
      ROk Q (fun r => r.2.2.Ok V ∧ r.2.2.f ≤ best.f ∧ J r.1 r.2.1) (inwardScan I jump n fn pl curr best) := by
  intro n
  induction n with
  | zero => intro fn pl curr best hJ hb; rw [inwardScan]; exact ⟨hb, le_refl _, hJ⟩
  | succ n ih =>
    intro fn pl curr best hJ hb
    rw [inwardScan]
    refine (he _ _ _ hJ).elim (fun _ h => h) fun ⟨fn1, pl1, v⟩ ⟨hv, hJ1⟩ => ?_
    dsimp only
    by_cases hlt : v < best.f
    · rw [if_pos ((ScalarReal.ltb_iff _ _).2 hlt)]
      exact (ih _ _ _ _ hJ1 (show BPt.Ok V ⟨curr + jump, v⟩ from hv)).elim (fun _ h => h)
        fun _ h => ⟨h.1, h.2.1.trans hlt.le, h.2.2⟩
    · rw [if_neg (fun c => hlt ((ScalarReal.ltb_iff _ _).1 c))]
      exact ih _ _ _ _ hJ1 hb

/-- the inward routine: the ends are the given abscissae, the three points are evaluations, and a value the
evaluation step returned at the middle abscissa (the one recorded, when the step is deterministic) is the lowest -/
theorem inward_run (he : EvalStep I Q J V) (hQ : ∀ fn pl, J fn pl → Q fn) (fuel : Nat) (a b : ℝ) (n : Nat)
    (fn : F) (pl : PList ℝ) (hJ : J fn pl) :
    ROk Q (fun r => r.2.a.x = a ∧ r.2.c.x = b ∧ r.2.a.Ok V ∧ r.2.b.Ok V ∧ r.2.c.Ok V ∧
      (∃ w, V r.2.b.x w ∧ w ≤ r.2.a.f ∧ w ≤ r.2.c.f) ∧ ∃ pl', J r.1 pl') (inwardBracketMinimum I fuel a b n fn pl) := by
  unfold inwardBracketMinimum
  refine (he _ _ _ hJ).elim (fun _ h => h) fun ⟨fn1, pl1, fa⟩ ⟨hfa, hJ1⟩ => ?_
  dsimp only
  refine (he _ _ _ hJ1).elim (fun _ h => h) fun ⟨fn2, pl2, fb⟩ ⟨hfb, hJ2⟩ => ?_
  dsimp only
  cases fuel with
  | zero => rw [shrinkB]; exact hQ _ _ hJ2
  | succ fuel =>
    rw [shrinkB_real]
    dsimp only
    have hbest0 : BPt.Ok V (if Scalar.ltb fa fb = true then (⟨a, fa⟩ : BPt ℝ) else ⟨b, fb⟩) := by
      split
      · exact hfa
      · exact hfb
    have hmin : (if Scalar.ltb fa fb = true then (⟨a, fa⟩ : BPt ℝ) else ⟨b, fb⟩).f ≤ fa ∧
                (if Scalar.ltb fa fb = true then (⟨a, fa⟩ : BPt ℝ) else ⟨b, fb⟩).f ≤ fb := by
      by_cases hlt : fa < fb
      · rw [if_pos ((ScalarReal.ltb_iff _ _).2 hlt)]; exact ⟨le_refl _, hlt.le⟩
      · rw [if_neg (fun c => hlt ((ScalarReal.ltb_iff _ _).1 c))]; exact ⟨not_lt.1 hlt, le_refl _⟩
    refine (inwardScan_run he _ n _ _ a _ hJ2 hbest0).elim (fun _ h => h) fun ⟨fn4, pl4, best⟩ hs => ?_
    dsimp only
    refine (he _ _ _ hs.2.2).elim (fun _ h => h) fun ⟨fn5, pl5, fbest⟩ ⟨hfbest, hJ5⟩ => ?_
    exact ⟨rfl, rfl, hfa, hfbest, hfb, ⟨best.f, hs.1, hs.2.1.trans hmin.1, hs.2.1.trans hmin.2⟩, _, hJ5⟩

/-! ### outward -/

/-- the loop invariant of `bracketMinimum`: the three recorded points are evaluations and the
middle one is not above the first -/
structure Bracket.Inv (V : ℝ → ℝ → Prop) (m : ℝ) (k : Bracket ℝ) : Prop where
  a : k.a.Ok V
  b : k.b.Ok V
  c : k.c.Ok V
  ba : k.b.f ≤ k.a.f
  bm : k.b.f ≤ m

theorem outwardBody_run (he : EvalStep I Q J V) (m : ℝ) (fn : F) (pl : PList ℝ)
    (k : Bracket ℝ) (hJ : J fn pl) (hk : k.Inv V m) (hguard : k.c.f < k.b.f) :
    ROk Q (fun r => J r.1 r.2.1 ∧ match r.2.2 with
      | .ret k' => k'.Inv V m ∧ k'.b.f ≤ k'.c.f
      | .next k' => k'.Inv V m) (outwardBody I fn pl k) := by
  unfold outwardBody
  dsimp only
  -- "eliminate oldest point and continue" with a new evaluation
  have nxt : ∀ {x fu : ℝ}, V x fu → Bracket.Inv V m ⟨k.b, k.c, ⟨x, fu⟩⟩ :=
    fun h => ⟨hk.b, hk.c, h, hguard.le, hguard.le.trans hk.bm⟩
  split
  · -- the parabolic abscissa lies between b and c
    refine (he _ _ _ hJ).elim (fun _ h => h) fun ⟨fn1, pl1, fu⟩ ⟨hfu, hJ1⟩ => ?_
    dsimp only
    split
    · rename_i hlt
      have hlt := (ScalarReal.ltb_iff _ _).1 hlt
      exact ⟨hJ1, ⟨hk.b, hfu, hk.c, (hlt.trans hguard).le, (hlt.trans hguard).le.trans hk.bm⟩, hlt.le⟩
    · split
      · rename_i _ hgt
        exact ⟨hJ1, ⟨hk.a, hk.b, hfu, hk.ba, hk.bm⟩, ((ScalarReal.gtb_iff _ _).1 hgt).le⟩
      · exact (he _ _ _ hJ1).elim (fun _ h => h) fun ⟨fn2, pl2, fm⟩ ⟨hfm, hJ2⟩ => ⟨hJ2, nxt hfm⟩
  · split
    · -- between c and the limit
      refine (he _ _ _ hJ).elim (fun _ h => h) fun ⟨fn1, pl1, fu⟩ ⟨hfu, hJ1⟩ => ?_
      dsimp only
      split
      · rename_i hlt
        have hlt := (ScalarReal.ltb_iff _ _).1 hlt
        exact (he _ _ _ hJ1).elim (fun _ h => h) fun ⟨fn2, pl2, fm⟩ ⟨hfm, hJ2⟩ =>
          ⟨hJ2, hk.c, hfu, hfm, hlt.le, (hlt.trans hguard).le.trans hk.bm⟩
      · exact ⟨hJ1, nxt hfu⟩
    · split
      · exact (he _ _ _ hJ).elim (fun _ h => h) fun ⟨fn1, pl1, fu⟩ ⟨hfu, hJ1⟩ => ⟨hJ1, nxt hfu⟩
      · exact (he _ _ _ hJ).elim (fun _ h => h) fun ⟨fn1, pl1, fu⟩ ⟨hfu, hJ1⟩ => ⟨hJ1, nxt hfu⟩

theorem outwardLoop_run (he : EvalStep I Q J V) (hQ : ∀ fn pl, J fn pl → Q fn) (m : ℝ) :
    ∀ (fuel : Nat) (fn : F) (pl : PList ℝ) (k : Bracket ℝ), J fn pl → k.Inv V m →
      ROk Q (fun r => r.2.Inv V m ∧ r.2.b.f ≤ r.2.c.f ∧ ∃ pl', J r.1 pl') (outwardLoop I fuel fn pl k) := by
  intro fuel
  induction fuel with
  | zero => intro fn pl k hJ _; rw [outwardLoop]; exact hQ _ _ hJ
  | succ fuel ih =>
    intro fn pl k hJ hk
    rw [outwardLoop]
    by_cases hg : k.c.f < k.b.f
    · rw [if_pos ((ScalarReal.gtb_iff _ _).2 hg)]
      refine (outwardBody_run he m fn pl k hJ hk hg).elim (fun _ h => h) fun ⟨fn1, pl1, p⟩ hs => ?_
      cases p with
      | ret k1 => exact ⟨hs.2.1, hs.2.2, _, hs.1⟩
      | next k1 => exact ih _ _ _ hs.1 hs.2
    · rw [if_neg (fun c => hg ((ScalarReal.gtb_iff _ _).1 c))]
      exact ⟨hk, not_lt.1 hg, _, hJ⟩

/-- the outward routine: the invariant holds of the triple it returns, with the values `fa`, `fb` the evaluation
step returned at the two starting abscissae as bound, and the middle point is not above the last -/
theorem outward_run (he : EvalStep I Q J V) (hQ : ∀ fn pl, J fn pl → Q fn) (fuel : Nat) (a b : ℝ)
    (fn : F) (pl : PList ℝ) (hJ : J fn pl) :
    ROk Q (fun r => (∃ fa fb, V a fa ∧ V b fb ∧ r.2.Inv V (min fa fb)) ∧ r.2.b.f ≤ r.2.c.f ∧ ∃ pl', J r.1 pl')
      (bracketMinimum I fuel a b fn pl) := by
  unfold bracketMinimum
  refine (he _ _ _ hJ).elim (fun _ h => h) fun ⟨fn1, pl1, fa⟩ ⟨hfa, hJ1⟩ => ?_
  dsimp only
  refine (he _ _ _ hJ1).elim (fun _ h => h) fun ⟨fn2, pl2, fb⟩ ⟨hfb, hJ2⟩ => ?_
  dsimp only
  cases fuel with
  | zero => rw [shrinkB]; exact hQ _ _ hJ2
  | succ fuel =>
    rw [shrinkB_real]
    dsimp only
    generalize hpp : (if Scalar.gtb (⟨b, fb⟩ : BPt ℝ).f fa = true then ((⟨b, fb⟩ : BPt ℝ), (⟨a, fa⟩ : BPt ℝ))
        else (⟨a, fa⟩, ⟨b, fb⟩)) = pp
    have hp : pp.1.Ok V ∧ pp.2.Ok V ∧ pp.2.f ≤ pp.1.f ∧ pp.2.f ≤ min fa fb := by
      rw [← hpp]
      by_cases hsw : fa < fb
      · rw [if_pos ((ScalarReal.gtb_iff _ _).2 hsw)]
        exact ⟨hfb, hfa, hsw.le, le_min (le_refl _) hsw.le⟩
      · rw [if_neg (fun c => hsw ((ScalarReal.gtb_iff _ _).1 c))]
        exact ⟨hfa, hfb, not_lt.1 hsw, le_min (not_lt.1 hsw) (le_refl _)⟩
    refine (he _ _ _ hJ2).elim (fun _ h => h) fun ⟨fn4, pl4, fc⟩ ⟨hfc, hJ4⟩ => ?_
    dsimp only
    exact (outwardLoop_run he hQ _ (fuel + 1) _ _ ⟨pp.1, pp.2, ⟨_, fc⟩⟩ hJ4 ⟨hp.1, hp.2.1, hfc, hp.2.2.1, hp.2.2.2⟩).elim
      (fun _ h => h) fun _ h => ⟨⟨fa, fb, hfa, hfb, h.1⟩, h.2⟩

/-! ### for a deterministic function -/

theorem inward_spec (I : FunI F ℝ) (g : ℝ → ℝ) (hd : Det I g J) (fuel : Nat) (a b : ℝ) (n : Nat)
    (fn : F) (pl : PList ℝ) (hJ : J fn pl) :
    ROk (fun _ => True) (fun r => r.2.a.x = a ∧ r.2.c.x = b ∧ r.2.a.f = g r.2.a.x ∧ r.2.b.f = g r.2.b.x ∧
      r.2.c.f = g r.2.c.x ∧ r.2.b.f ≤ r.2.a.f ∧ r.2.b.f ≤ r.2.c.f ∧ ∃ pl', J r.1 pl') (inwardBracketMinimum I fuel a b n fn pl) :=
  (inward_run hd.evalStep (fun _ _ _ => trivial) fuel a b n fn pl hJ).elim (fun _ _ => trivial)
    fun _ ⟨h1, h2, h3, h4, h5, ⟨_, hw, h6, h7⟩, h8⟩ => ⟨h1, h2, h3, h4, h5, (h4.trans hw.symm) ▸ h6, (h4.trans hw.symm) ▸ h7, h8⟩

theorem outward_spec (I : FunI F ℝ) (g : ℝ → ℝ) (hd : Det I g J) (fuel : Nat) (a b : ℝ)
    (fn : F) (pl : PList ℝ) (hJ : J fn pl) :
    ROk (fun _ => True) (fun r => r.2.Inv (fun x v => v = g x) (min (g a) (g b)) ∧ r.2.b.f ≤ r.2.c.f ∧ ∃ pl', J r.1 pl')
      (bracketMinimum I fuel a b fn pl) :=
  (outward_run hd.evalStep (fun _ _ _ => trivial) fuel a b fn pl hJ).elim (fun _ _ => trivial)
    fun _ ⟨⟨_, _, ha, hb, hk⟩, h2⟩ => ⟨ha ▸ hb ▸ hk, h2⟩

end Bpp.Optim
