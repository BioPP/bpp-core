/-
Rooted trees given by a parent function (`PTree`): ancestors, descendants, re-rooting at a son of the
root.  Pure theory, independent of the graph model; used by the C15 proofs.
-/
namespace Bpp.Graph

/-- `a` is an ancestor of `n` (a node is an ancestor of itself) for the parent function `par` -/
inductive IsAnc (par : Nat → Option Nat) : Nat → Nat → Prop
  | refl (n : Nat) : IsAnc par n n
  | step {a n p : Nat} : par n = some p → IsAnc par a p → IsAnc par a n

namespace IsAnc
variable {par : Nat → Option Nat}

theorem trans {a b c : Nat} (h1 : IsAnc par a b) (h2 : IsAnc par b c) : IsAnc par a c := by
  induction h2 with
  | refl => exact h1
  | step hp _ ih => exact .step hp ih

theorem of_par {n p : Nat} (h : par n = some p) : IsAnc par p n := .step h (.refl p)

/-- the ancestors of a node are linearly ordered -/
theorem linear {a b n : Nat} (h1 : IsAnc par a n) (h2 : IsAnc par b n) : IsAnc par a b ∨ IsAnc par b a := by
  induction h1 with
  | refl => exact .inr h2
  | step hp h1' ih =>
    cases h2 with
    | refl => exact .inl (.step hp h1')
    | step hp' h2' =>
      rw [hp] at hp'; cases hp'
      exact ih h2'

/-- a proper descendant is under a son -/
theorem under_son {n x : Nat} (h : IsAnc par n x) (hne : x ≠ n) : ∃ c, par c = some n ∧ IsAnc par c x := by
  induction h with
  | refl => exact absurd rfl hne
  | @step x p hp h' ih =>
    by_cases hpn : p = n
    · subst hpn; exact ⟨x, hp, .refl x⟩
    · obtain ⟨c, hc, hcx⟩ := ih hpn
      exact ⟨c, hc, .step hp hcx⟩

theorem cases_son {c n x : Nat} (hc : par c = some n) (h : IsAnc par x c) : x = c ∨ IsAnc par x n := by
  cases h with
  | refl => exact .inl rfl
  | step hp h' => rw [hc] at hp; cases hp; exact .inr h'

/-- a parent function that agrees with `par` on the proper descendants of `a` has the same ancestor
relation below `a` -/
theorem congr {par' : Nat → Option Nat} {a n : Nat} (h : IsAnc par a n)
    (hagree : ∀ x, IsAnc par a x → x ≠ a → par' x = par x) : IsAnc par' a n := by
  induction h with
  | refl => exact .refl _
  | @step x p hp h' ih =>
    by_cases hxa : x = a
    · subst hxa; exact .refl _
    · exact .step (by rw [hagree x (.step hp h') hxa]; exact hp) ih

end IsAnc

/-- a rooted tree on the nodes `nodes`: `par` is defined exactly on the nodes other than the root,
and `rank` is the depth -/
structure PTree where
  root : Nat
  nodes : List Nat
  par : Nat → Option Nat
  rank : Nat → Nat

namespace PTree

structure WF (P : PTree) : Prop where
  root_mem : P.root ∈ P.nodes
  par_root : P.par P.root = none
  rank_root : P.rank P.root = 0
  par_some : ∀ n ∈ P.nodes, n ≠ P.root → ∃ p, P.par n = some p ∧ p ∈ P.nodes ∧ P.rank n = P.rank p + 1
  par_out : ∀ n, n ∉ P.nodes → P.par n = none

variable {P : PTree}

theorem WF.par_mem (h : P.WF) {n p : Nat} (hp : P.par n = some p) : n ∈ P.nodes ∧ n ≠ P.root ∧ p ∈ P.nodes ∧ P.rank n = P.rank p + 1 := by
  have hn : n ∈ P.nodes := by
    refine Classical.byContradiction fun hn => ?_
    rw [h.par_out n hn] at hp; cases hp
  have hr : n ≠ P.root := by
    intro hr; subst hr; rw [h.par_root] at hp; cases hp
  obtain ⟨p', hp', hm, hk⟩ := h.par_some n hn hr
  rw [hp] at hp'; cases hp'
  exact ⟨hn, hr, hm, hk⟩

theorem WF.par_rank (h : P.WF) {n p : Nat} (hp : P.par n = some p) : P.rank n = P.rank p + 1 := (h.par_mem hp).2.2.2

theorem WF.anc_rank (h : P.WF) {a n : Nat} (ha : IsAnc P.par a n) : P.rank a ≤ P.rank n := by
  induction ha with
  | refl => exact Nat.le_refl _
  | step hp _ ih => rw [h.par_rank hp]; exact Nat.le_succ_of_le ih

theorem WF.anc_mem (h : P.WF) {a n : Nat} (ha : IsAnc P.par a n) (hn : n ∈ P.nodes) : a ∈ P.nodes := by
  induction ha with
  | refl => exact hn
  | step hp _ ih => exact ih (h.par_mem hp).2.2.1

/-- a son is not an ancestor of its father -/
theorem WF.son_not_anc (h : P.WF) {c n : Nat} (hc : P.par c = some n) : ¬ IsAnc P.par c n := by
  intro ha
  have hle := h.anc_rank ha
  rw [h.par_rank hc] at hle
  exact Nat.not_succ_le_self _ hle

theorem WF.par_ne_self (h : P.WF) {n p : Nat} (hp : P.par n = some p) : p ≠ n := by
  rintro rfl; exact h.son_not_anc hp (.refl _)

theorem WF.no_two_cycle (h : P.WF) {a b : Nat} (h1 : P.par a = some b) (h2 : P.par b = some a) : False :=
  h.son_not_anc h1 (.of_par h2)

/-- the subtrees of two different sons are disjoint -/
theorem WF.sons_disjoint (h : P.WF) {c1 c2 n x : Nat} (h1 : P.par c1 = some n) (h2 : P.par c2 = some n) (hne : c1 ≠ c2)
    (hx1 : IsAnc P.par c1 x) : ¬ IsAnc P.par c2 x := by
  intro hx2
  rcases IsAnc.linear hx1 hx2 with hl | hl
  · rcases IsAnc.cases_son h2 hl with he | hl'
    · exact hne he
    · exact h.son_not_anc h1 hl'
  · rcases IsAnc.cases_son h1 hl with he | hl'
    · exact hne he.symm
    · exact h.son_not_anc h2 hl'

/-- every node descends from the root -/
theorem WF.anc_root (h : P.WF) : ∀ (k n : Nat), P.rank n = k → n ∈ P.nodes → IsAnc P.par P.root n := by
  intro k
  induction k with
  | zero =>
    intro n hk hn
    by_cases hr : n = P.root
    · subst hr; exact .refl _
    · obtain ⟨p, _, _, hrk⟩ := h.par_some n hn hr
      rw [hk] at hrk; cases hrk
  | succ k ih =>
    intro n hk hn
    by_cases hr : n = P.root
    · subst hr; exact .refl _
    · obtain ⟨p, hp, hm, hrk⟩ := h.par_some n hn hr
      exact .step hp (ih p (Nat.succ.inj (hrk.symm.trans hk)) hm)

theorem WF.root_anc (h : P.WF) {n : Nat} (hn : n ∈ P.nodes) : IsAnc P.par P.root n := h.anc_root _ n rfl hn

/-- only the root is an ancestor of the root -/
theorem WF.anc_of_root (h : P.WF) {a : Nat} (ha : IsAnc P.par a P.root) : a = P.root := by
  cases ha with
  | refl => rfl
  | step hp _ => rw [h.par_root] at hp; cases hp

/-- every step up lowers the rank: an ancestor whose rank is not lower is the node itself -/
theorem WF.anc_eq_of_rank (h : P.WF) {a n : Nat} (ha : IsAnc P.par a n) (hr : P.rank n ≤ P.rank a) : a = n := by
  cases ha with
  | refl => rfl
  | step hp ha' =>
    have hle := Nat.le_trans hr (h.anc_rank ha')
    rw [h.par_rank hp] at hle
    exact absurd hle (Nat.not_succ_le_self _)

theorem WF.anc_antisymm (h : P.WF) {a n : Nat} (h1 : IsAnc P.par a n) (h2 : IsAnc P.par n a) : a = n :=
  h.anc_eq_of_rank h1 (h.anc_rank h2)

/-! ### re-rooting at a son of the root -/

open Classical in
/-- the same tree seen from `c`, a son of the root: the relation root - c is turned round -/
noncomputable def reroot (P : PTree) (c : Nat) : PTree :=
  { root := c
    nodes := P.nodes
    par := fun v => if v = P.root then some c else if v = c then none else P.par v
    rank := fun v => if IsAnc P.par c v then P.rank v - 1 else P.rank v + 1 }

theorem reroot_par (c v : Nat) :
    (P.reroot c).par v = if v = P.root then some c else if v = c then none else P.par v := rfl

open Classical in
theorem reroot_rank (c v : Nat) :
    (P.reroot c).rank v = if IsAnc P.par c v then P.rank v - 1 else P.rank v + 1 := rfl

theorem reroot_par_other (c v : Nat) (h1 : v ≠ P.root) (h2 : v ≠ c) : (P.reroot c).par v = P.par v := by
  rw [reroot_par, if_neg h1, if_neg h2]

theorem reroot_par_root (c : Nat) : (P.reroot c).par P.root = some c := by
  rw [reroot_par, if_pos rfl]

theorem reroot_par_new (h : P.WF) {c : Nat} (hc : P.par c = some P.root) : (P.reroot c).par c = none := by
  rw [reroot_par, if_neg (h.par_mem hc).2.1, if_pos rfl]

open Classical in
theorem reroot_wf (h : P.WF) {c : Nat} (hc : P.par c = some P.root) : (P.reroot c).WF := by
  have hcm := h.par_mem hc
  have hrank_c : P.rank c = 1 := by rw [hcm.2.2.2, h.rank_root]
  have hroot : ¬ IsAnc P.par c P.root := h.son_not_anc hc
  have hrank_c' : (P.reroot c).rank c = 0 := by rw [reroot_rank, if_pos (.refl c), hrank_c]
  refine ⟨hcm.1, reroot_par_new h hc, hrank_c', ?_, ?_⟩
  · intro n hn hnc
    by_cases hnr : n = P.root
    · subst hnr
      refine ⟨c, reroot_par_root c, hcm.1, ?_⟩
      rw [hrank_c', reroot_rank, if_neg hroot, h.rank_root]
    · obtain ⟨p, hp, hpm, hrk⟩ := h.par_some n hn hnr
      refine ⟨p, (reroot_par_other c n hnr hnc).trans hp, hpm, ?_⟩
      rw [reroot_rank, reroot_rank]
      by_cases hd : IsAnc P.par c n
      · -- a proper descendant of `c`: so is its father, or the father is `c`
        have hdp : IsAnc P.par c p := by
          cases hd with
          | refl => exact absurd rfl hnc
          | step hp' hd' => rw [hp] at hp'; cases hp'; exact hd'
        have hle : 1 ≤ P.rank p := hrank_c ▸ h.anc_rank hdp
        rw [if_pos hd, if_pos hdp, hrk, Nat.add_sub_cancel, Nat.sub_add_cancel hle]
      · rw [if_neg hd, if_neg (fun hdp => hd (.step hp hdp)), hrk]
  · intro n hn
    rw [reroot_par_other c n (fun e => hn (e ▸ h.root_mem)) (fun e => hn (e ▸ hcm.1))]
    exact h.par_out n hn

/-- father-and-son pairs, whichever way round: unchanged by re-rooting -/
def ULinked (P : PTree) (a b : Nat) : Prop := P.par a = some b ∨ P.par b = some a

theorem reroot_ulinked (h : P.WF) {c : Nat} (hc : P.par c = some P.root) (a b : Nat) :
    (P.reroot c).ULinked a b ↔ P.ULinked a b := by
  have := h.par_root
  unfold ULinked
  rw [reroot_par, reroot_par]
  grind

end PTree
end Bpp.Graph
