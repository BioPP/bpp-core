import BppProofs.Lemmas.TreeDfsSound
import BppProofs.Lemmas.TreeDfsComplete
/-
`isTree` decides "the graph is a rooted tree spanning all nodes from the root" (`IsTreeFrom`).
-/
namespace Bpp.Graph
open AL

/-- the graph is a tree spanning all its nodes from its root: there is a parent function, defined
on the nodes other than the root, strictly decreasing a depth towards the root, whose father-son
pairs are exactly the relations of the graph (either way round when the graph is undirected) -/
def IsTreeFrom (g : G) : Prop := ∃ P : PTree, P.WF ∧ Matches g P ∧ P.root = g.root

namespace T

theorem isTree_unfold (g : G) : isTree g =
    match metOnce g (g.nodes.length + 2) g.root g.root [] with
    | .ok none => .ok false
    | .ok (some met) => .ok ((AL.keys g.nodes).all (fun n => met.contains n))
    | .exc => .exc
    | .fuel => .fuel
    | .ub => .ub := rfl

theorem isTree_sound {g : G} (hc : Consistent g) (h : isTree g = .ok true) : IsTreeFrom g := by
  rw [isTree_unfold] at h
  cases hm : metOnce g (g.nodes.length + 2) g.root g.root [] with
  | exc => rw [hm] at h; cases h
  | fuel => rw [hm] at h; cases h
  | ub => rw [hm] at h; cases h
  | ok o =>
    cases o with
    | none => rw [hm] at h; cases h
    | some met =>
      rw [hm] at h
      simp only [TRes.ok.injEq, List.all_eq_true] at h
      have hall : ∀ n, g.hasNode n = true → n ∈ met := by
        intro n hn
        have := h n ((G.mem_keys_hasNode g n).2 hn)
        simpa using this
      obtain ⟨vis, par, rank, hr⟩ := metOnce_sound g _ _ _ _ _ hm
      have hvis : ∀ n, g.hasNode n = true → n ∈ vis := by
        intro n hn
        rcases (hr.mem n).1 (hall n hn) with h | h
        · exact h
        · cases h
      refine ⟨{ root := g.root, nodes := AL.keys g.nodes, par := fun x => if g.hasNode x then par x else none, rank := rank }, ?_, ?_, rfl⟩
      · refine ⟨?_, ?_, hr.rank_start, ?_, ?_⟩
        · exact (G.mem_keys_hasNode g _).2 (hr.node _ hr.start)
        · simp [hr.node _ hr.start, hr.par_start]
        · intro n hn hne
          have hnn := (G.mem_keys_hasNode g n).1 hn
          obtain ⟨p, hp, hpp, hrk, _⟩ := hr.up n (hvis n hnn) hne
          exact ⟨p, by simp [hnn, hpp], (G.mem_keys_hasNode g p).2 (hr.node p hp), hrk⟩
        · intro n hn
          have : g.hasNode n = false := by
            cases hh : g.hasNode n with
            | false => rfl
            | true => exact absurd ((G.mem_keys_hasNode g n).2 hh) hn
          simp [this]
      · refine ⟨fun n => G.mem_keys_hasNode g n, ?_⟩
        intro a b
        simp only
        constructor
        · intro hab
          have hn := G.arc_nodes hc hab
          rcases hr.closed a (hvis a hn.1) b hab with ⟨_, hpb⟩ | ⟨hd, hh⟩
          · exact .inl (by simp [hn.2, hpb])
          · rcases hh with ⟨_, hne, _⟩ | ⟨_, hpa⟩
            · exact absurd rfl hne
            · exact .inr ⟨hd, by simp [hn.1, hpa]⟩
        · rintro (hpb | ⟨hd, hpa⟩)
          · by_cases hb : g.hasNode b = true
            · simp only [hb, if_true] at hpb
              have hbr : b ≠ g.root := by intro e; rw [e, hr.par_start] at hpb; cases hpb
              obtain ⟨p, _, hpp, _, ha⟩ := hr.up b (hvis b hb) hbr
              rw [hpb] at hpp; cases hpp; exact ha
            · simp [hb] at hpb
          · by_cases ha : g.hasNode a = true
            · simp only [ha, if_true] at hpa
              have har : a ≠ g.root := by intro e; rw [e, hr.par_start] at hpa; cases hpa
              obtain ⟨p, _, hpp, _, hab⟩ := hr.up a (hvis a ha) har
              rw [hpa] at hpp; cases hpp
              exact G.arc_symm hc hd hab
            · simp [ha] at hpa

theorem isTree_complete {g : G} (hc : Consistent g) (h : IsTreeFrom g) : isTree g = .ok true := by
  obtain ⟨P, hw, hm, hroot⟩ := h
  rw [isTree_unfold]
  have hnf := (metOnce_ne_fuel g (g.nodes.length + 2) g.root g.root [] ⟨List.nodup_nil, by simp⟩ (by simp)).1
  have hrm : g.root ∈ P.nodes := hroot ▸ hw.root_mem
  obtain ⟨m', h1, h2⟩ := metOnce_complete hc hw hm (g.nodes.length + 2) g.root g.root [] hrm
    (fun _ => .inl ⟨hroot.symm, rfl⟩) (by simp) hnf
  rw [h1]
  simp only [TRes.ok.injEq, List.all_eq_true]
  intro n hn
  have hnn : n ∈ P.nodes := (hm.nodes n).2 ((G.mem_keys_hasNode g n).1 hn)
  have : n ∈ m' := (h2 n).2 (.inr (hroot ▸ hw.root_anc hnn))
  simpa using this

theorem isTree_iff {g : G} (hc : Consistent g) : isTree g = .ok true ↔ IsTreeFrom g :=
  ⟨isTree_sound hc, isTree_complete hc⟩

/-! ### on a consistent graph whose root is a node the traversal raises nothing -/

theorem metOnce_no_exc {g : G} (hc : Consistent g) : ∀ (fuel node origin : Nat) (met : List Nat),
    g.hasNode node = true → metOnce g fuel node origin met ≠ .exc ∧ metOnce g fuel node origin met ≠ .ub := by
  intro fuel
  induction fuel with
  | zero => intro node origin met _; simp [metOnce]
  | succ f ih =>
    intro node origin met hn
    rw [metOnce_succ]
    split
    · simp
    · rw [G.outNeighbors_of_hasNode hn]
      simp only
      have key : ∀ (l : List Nat) (acc : TRes (Option (List Nat))), (∀ b ∈ l, Arc g node b) → (acc ≠ .exc ∧ acc ≠ .ub) →
          l.foldl (metStep g f node origin) acc ≠ .exc ∧ l.foldl (metStep g f node origin) acc ≠ .ub := by
        intro l
        induction l with
        | nil => intro acc _ h; exact h
        | cons b rest ihl =>
          intro acc harc h
          refine ihl _ (fun c hc => harc c (List.mem_cons_of_mem _ hc)) ?_
          rcases acc with (_ | m) | _ | _ | _
          · exact ⟨nofun, nofun⟩
          · rw [metStep_some]
            split
            · exact ⟨nofun, nofun⟩
            · exact ih b node m (G.arc_nodes hc (harc b (List.mem_cons_self ..))).2
          · exact absurd rfl h.1
          · exact ⟨nofun, nofun⟩
          · exact absurd rfl h.2
      exact key _ _ (fun b hb => G.mem_outKeys.1 hb) ⟨nofun, nofun⟩

/-- `isTree` answers (true or false) whenever the root is a node; it raises only when it is not -/
theorem isTree_total {g : G} (hc : Consistent g) (hr : g.hasNode g.root = true) : ∃ b, isTree g = .ok b := by
  rw [isTree_unfold]
  have h1 := (metOnce_ne_fuel g (g.nodes.length + 2) g.root g.root [] ⟨List.nodup_nil, by simp⟩ (by simp)).1
  have h2 := metOnce_no_exc hc (g.nodes.length + 2) g.root g.root [] hr
  cases hm : metOnce g (g.nodes.length + 2) g.root g.root [] with
  | ok o => cases o <;> exact ⟨_, rfl⟩
  | exc => exact absurd hm h2.1
  | fuel => exact absurd hm h1
  | ub => exact absurd hm h2.2

theorem isTree_root_absent {g : G} (hr : g.hasNode g.root = false) : isTree g = .exc := by
  rw [isTree_unfold, metOnce_succ]
  have : g.outNeighbors g.root = none := by rw [G.outNeighbors_eq]; simp [hr]
  simp [this]

/-- the answer of `isTree` does not depend on the fuel once it is at least the node count + 2
(in fact + 1): the fuelled model is the unbounded recursion -/
theorem isTree_fuel_suffices (g : G) (f : Nat) (hf : g.nodes.length + 2 ≤ f) :
    metOnce g f g.root g.root [] = metOnce g (g.nodes.length + 2) g.root g.root [] :=
  metOnce_mono_le g g.root g.root [] hf
    (metOnce_ne_fuel g (g.nodes.length + 2) g.root g.root [] ⟨List.nodup_nil, by simp⟩ (by simp)).1

end T
end Bpp.Graph
