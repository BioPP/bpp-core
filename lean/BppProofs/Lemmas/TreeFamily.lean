import BppProofs.Lemmas.TreeRefCheck
/-
Sons and branches of a node of a valid rooted tree against the reference read off the edge table:
`getSons` / `getBranches` list, in matching order, the children of the node and the edges to them.
-/
namespace Bpp.Graph
open AL

namespace DTree
variable {g : G} {P : PTree}

theorem mem_children (h : DTree g P) (n c : Nat) : c ∈ (refRaw g).children n ↔ P.par c = some n := by
  rw [Ref.children, List.mem_map]
  constructor
  · rintro ⟨⟨c', a, e⟩, hm, rfl⟩
    obtain ⟨hu, ha⟩ := List.mem_filter.1 hm
    cases beq_iff_eq.1 ha
    exact (h.arc a c').1 (arc_of_out ((h.mem_up c' a e).1 hu))
  · intro hp
    obtain ⟨e, ho⟩ := h.arc_out hp
    exact ⟨(c, n, e), List.mem_filter.2 ⟨(h.mem_up c n e).2 ho, beq_self_eq_true n⟩, rfl⟩

theorem mem_branches (h : DTree g P) (n e : Nat) : e ∈ (refRaw g).branches n ↔ ∃ c, g.outE n c = some e := by
  rw [Ref.branches, List.mem_map]
  constructor
  · rintro ⟨⟨c', a, e'⟩, hm, rfl⟩
    obtain ⟨hu, ha⟩ := List.mem_filter.1 hm
    cases beq_iff_eq.1 ha
    exact ⟨c', (h.mem_up c' a e').1 hu⟩
  · rintro ⟨c, ho⟩
    exact ⟨(c, n, e), List.mem_filter.2 ⟨(h.mem_up c n e).2 ho, beq_self_eq_true n⟩, rfl⟩

theorem children_nodup (h : DTree g P) (n : Nat) : ((refRaw g).children n).Nodup :=
  (List.filter_sublist.map _).nodup h.up_children_nodup

theorem branches_nodup (h : DTree g P) (n : Nat) : ((refRaw g).branches n).Nodup := by
  refine (List.filter_sublist.map _).nodup ?_
  rw [refRaw, List.map_map]
  exact G.nodup_of_asc h.cons.sorted.edges

/-- `getSons`: the children of the reference, up to order -/
theorem sons_perm (h : DTree g P) (n : Nat) : (g.outKeys n).Perm ((refRaw g).children n) := by
  rw [List.perm_ext_iff_of_nodup (G.nodup_of_asc (G.asc_outKeys h.cons.sorted n)) (h.children_nodup n)]
  intro c
  rw [h.mem_outKeys, h.mem_children]

theorem outEdges_of_row {n : Nat} {r : Row} (hr : find n g.nodes = some r) : g.outEdges n = some (AL.vals r.out) := by
  simp [G.outEdges, G.rowOf, RowQ.outEdges, hr]

theorem outKeys_of_row {n : Nat} {r : Row} (hr : find n g.nodes = some r) : g.outKeys n = AL.keys r.out := by
  simp [G.outKeys, hr]

/-- `getBranches`: the edges to the children, up to order; and in the order of `getSons` each
branch is the edge to the son at the same place -/
theorem branches_spec (h : DTree g P) {n : Nat} (hn : g.hasNode n = true) :
    ∃ row : List (Nat × Nat), g.outNeighbors n = some (row.map (·.1)) ∧ g.outEdges n = some (row.map (·.2)) ∧
      (row.map (·.2)).Perm ((refRaw g).branches n) ∧ ∀ q ∈ row, (refRaw g).edgeUp q.1 = some q.2 := by
  obtain ⟨r, hr⟩ := (G.hasNode_iff g n).1 hn
  have hasc := (h.cons.sorted.rows n r hr).1
  have hout : ∀ q, q ∈ r.out ↔ g.outE n q.1 = some q.2 := by
    intro q
    rw [mem_iff_find hasc q.1 q.2]
    simp [G.outE, hr]
  refine ⟨r.out, ?_, outEdges_of_row hr, ?_, ?_⟩
  · rw [G.outNeighbors_of_hasNode hn, outKeys_of_row hr]; rfl
  · have hnd : (r.out.map (·.2)).Nodup := by
      rw [List.nodup_iff_pairwise_ne]
      have hp : List.Pairwise (fun p q : Nat × Nat => p.1 < q.1) r.out := by
        have := hasc; unfold Asc AL.keys at this; exact List.pairwise_map.1 this
      refine List.Pairwise.map _ ?_ (List.Pairwise.and_mem.1 hp)
      rintro ⟨c1, e1⟩ ⟨c2, e2⟩ ⟨hm1, hm2, hlt⟩ he
      simp only at hlt he
      subst he
      have o1 := (hout (c1, e1)).1 hm1
      have o2 := (hout (c2, e1)).1 hm2
      have f1 := G.find_of_out h.cons h.dir o1
      have f2 := G.find_of_out h.cons h.dir o2
      rw [f1] at f2; cases f2; omega
    rw [List.perm_ext_iff_of_nodup hnd (h.branches_nodup n)]
    intro e
    rw [h.mem_branches]
    simp only [List.mem_map]
    constructor
    · rintro ⟨q, hq, rfl⟩; exact ⟨q.1, (hout q).1 hq⟩
    · rintro ⟨c, ho⟩; exact ⟨(c, e), (hout (c, e)).2 ho, rfl⟩
  · intro q hq
    have ho := (hout q).1 hq
    have hpc : P.par q.1 = some n := (h.arc n q.1).1 (arc_of_out ho)
    have hqn : g.hasNode q.1 = true := (G.arc_nodes h.cons (arc_of_out ho)).2
    rw [h.ref_edgeUp hqn]
    unfold T.edgeToFather
    rw [h.father hqn, hpc]
    exact ho

end DTree
end Bpp.Graph
